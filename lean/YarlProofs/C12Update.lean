/-
  C12Update.lean — the exact description of `MultiDict.update` as multidict 6.2 computes it (`mdUpdate`): an independent
  specification (`mdUpdateSpec`), the closed form of the first loop (`R7.loop1_items`, `R7.used_le_iff`), the second
  loop on its result (`R7.dt_kept_sublist`, `R7.dt_iff`), and the characterisation (`StaleFree`) of the inputs on which
  implementation and specification agree.  The clauses of property C12 about `mdUpdate` (C12.lean) rest on it.

  * `mdUpdateSpec old arg` (filters / maps over the pairs numbered by `ranked`): the r-th old pair of an updated key
    `k` gets the r-th new value of `k` in place, or is deleted if there is none; other pairs stay; the r-th new pair of
    `k` is appended, in argument order, if there is no r-th old pair of `k`.
  * `C12_mdUpdate_eq_spec_iff : mdUpdate old arg = mdUpdateSpec old arg ↔ StaleFree old arg` for ALL lists.
    `StaleFree` (decidable): for every *surplus* old pair (key `k` updated, rank ≥ number of new values of `k`) at
    position `j`, the first `j - (number of surplus pairs before j)` old pairs already contain all the overwritten
    pairs of `k`.  That difference is the running index of multidict's second loop, which lags behind after
    deletions; the recorded position it is compared with is the one just after the last overwritten pair of `k`.
  * when it fails (`C12_mdUpdate_first_stale`, `C12_mdUpdateSpec_sublist`): the first failing surplus pair survives
    unchanged at its place; the specified result is always a subsequence of the actual one.
  * the property clauses follow from the specification (`C12_spec_keeps_others`, `C12_spec_sets_keys`,
    `C12_spec_pairs_of_key`, `C12_spec_shape`, `C12_spec_in_place`).
  * easy sufficient conditions: `C12_staleFree_of_no_surplus`, `…_of_old_unrepeated`, `…_of_nodup`, `…_single_key`,
    `…_of_one_surplus_key`, `…_of_surplus_late`.
  Namespace `R7` is this file's helper layer (`ranked` in structural form, the two halves `kept` / `app` of the
  specification, the result `repl ++ app` of the first loop, the counter `nk`); the general facts about lists of pairs
  read by key are in MdLemmas.lean.
-/
import YarlModel
import YarlProofs.Lemmas.MdLemmas
namespace Yarl
open Yarl.MdLemmas

universe u
variable {V : Type u}

/-- `update([])` is a no-op -/
theorem C12_update_nil (old : List (Str × V)) : mdUpdate old [] = old := by
  simp [mdUpdate]

/-! ### the specification -/

/-- every pair together with its *rank*: the number of earlier pairs with the same key
    (`[a=1, b=2, a=3]` ↦ `[(0, a=1), (0, b=2), (1, a=3)]`) -/
def ranked (l : List (Str × V)) : List (Nat × Str × V) :=
  l.zipIdx.map (fun (p, i) => ((valsOf p.1 (l.take i)).length, p))

/-- **What `MultiDict(old).update(arg)` is meant to do.**  The `r`-th old pair of a key `k` that occurs in `arg`
    becomes `k = (r-th value of k in arg)`, in place, or disappears when `arg` has no `r`-th value for `k`; pairs
    whose key does not occur in `arg` stay; the `r`-th pair of `arg` for key `k` is appended (in argument order) when
    `old` has no `r`-th pair for `k`. -/
def mdUpdateSpec (old arg : List (Str × V)) : List (Str × V) :=
  (ranked old).filterMap (fun (r, k, v) =>
      if k ∈ keysOf arg then ((valsOf k arg)[r]?).map (fun w => (k, w)) else some (k, v))
    ++ ((ranked arg).filter (fun (r, k, _) => (valsOf k old).length ≤ r)).map (·.2)

/-- an old pair (with its rank) is *surplus* w.r.t. `arg`: its key is updated, and `arg` has no value for its rank —
    the specification deletes exactly these pairs -/
def isSurplus (arg : List (Str × V)) (x : Nat × Str × V) : Bool :=
  x.2.1 ∈ keysOf arg && decide ((valsOf x.2.1 arg).length ≤ x.1)

/-- number of surplus pairs among the first `j` pairs of `old` -/
def surplusBefore (old arg : List (Str × V)) (j : Nat) : Nat :=
  (((ranked old).take j).filter (isSurplus arg)).length

/-- the check for position `j` of `old`: if the pair there is surplus (key `k`), then the first
    `j - surplusBefore j` pairs of `old` already contain as many pairs of key `k` as `arg` has values for `k`
    (i.e. all the pairs of `k` that were overwritten) -/
def staleFreeAt (old arg : List (Str × V)) (j : Nat) : Bool :=
  match (ranked old)[j]? with
  | some x => !isSurplus arg x ||
      decide ((valsOf x.2.1 arg).length ≤ (valsOf x.2.1 (old.take (j - surplusBefore old arg j))).length)
  | none => true

/-- **The exact condition under which multidict 6.2 implements the specification** (`C12_mdUpdate_eq_spec_iff`).
    multidict's second loop deletes a surplus pair of key `k` when its *running* index — the number of pairs kept so
    far, `j - surplusBefore j` — has reached the position just after the last overwritten pair of `k`. -/
def StaleFree (old arg : List (Str × V)) : Prop := ∀ j, j < old.length → staleFreeAt old arg j = true

instance (old arg : List (Str × V)) : Decidable (StaleFree old arg) := Nat.decidableBallLT _ _

namespace R7

/-! ### `ranked` -/

/-- structural form of `ranked`, relative to the pairs `pre` already seen -/
def rankedFrom : List (Str × V) → List (Str × V) → List (Nat × Str × V)
  | _, [] => []
  | pre, p :: t => ((valsOf p.1 pre).length, p) :: rankedFrom (pre ++ [p]) t

theorem rankedFrom_zipIdx : ∀ (l pre : List (Str × V)),
    (l.zipIdx pre.length).map (fun (p, i) => ((valsOf p.1 ((pre ++ l).take i)).length, p)) = rankedFrom pre l := by
  intro l
  induction l with
  | nil => intro pre; rfl
  | cons p t ih =>
    intro pre
    have := ih (pre ++ [p])
    rw [List.length_append, List.length_singleton, ← List.append_cons] at this
    rw [List.zipIdx_cons, List.map_cons, rankedFrom, this]
    simp

theorem ranked_eq (l : List (Str × V)) : ranked l = rankedFrom [] l := by
  simpa [ranked] using rankedFrom_zipIdx l []

theorem rankedFrom_append : ∀ (a pre b : List (Str × V)),
    rankedFrom pre (a ++ b) = rankedFrom pre a ++ rankedFrom (pre ++ a) b := by
  intro a
  induction a with
  | nil => intro pre b; simp [rankedFrom]
  | cons p t ih => intro pre b; simp [rankedFrom, ih]

theorem ranked_nil : ranked ([] : List (Str × V)) = [] := rfl

theorem ranked_append (a b : List (Str × V)) : ranked (a ++ b) = ranked a ++ rankedFrom a b := by
  rw [ranked_eq, ranked_eq, rankedFrom_append, List.nil_append]

theorem ranked_snoc (a : List (Str × V)) (p : Str × V) :
    ranked (a ++ [p]) = ranked a ++ [((valsOf p.1 a).length, p)] := by
  rw [ranked_append]; rfl

theorem rankedFrom_cons (pre : List (Str × V)) (p : Str × V) (t : List (Str × V)) :
    rankedFrom pre (p :: t) = ((valsOf p.1 pre).length, p) :: rankedFrom (pre ++ [p]) t := rfl

theorem rankedFrom_map_snd : ∀ (l pre : List (Str × V)), (rankedFrom pre l).map (·.2) = l := by
  intro l
  induction l with
  | nil => intro pre; rfl
  | cons p t ih => intro pre; simp [rankedFrom, ih]

theorem ranked_map_snd (l : List (Str × V)) : (ranked l).map (·.2) = l := by
  rw [ranked_eq, rankedFrom_map_snd]

theorem ranked_filter_sublist (p : Nat × Str × V → Bool) (l : List (Str × V)) :
    (((ranked l).filter p).map (·.2)).Sublist l := by
  conv => rhs; rw [← ranked_map_snd l]
  exact List.filter_sublist.map _

theorem rankedFrom_length (l pre : List (Str × V)) : (rankedFrom pre l).length = l.length := by
  have := congrArg List.length (rankedFrom_map_snd l pre)
  simpa using this

theorem ranked_length (l : List (Str × V)) : (ranked l).length = l.length := by
  rw [ranked_eq, rankedFrom_length]

/-- the pairs of key `k` carry the ranks 0, 1, 2, … in order -/
theorem rankedFrom_filter_key (k : Str) : ∀ (l pre : List (Str × V)),
    (rankedFrom pre l).filter (fun x => x.2.1 = k) =
      ((valsOf k l).zipIdx (valsOf k pre).length).map (fun (v, i) => (i, k, v)) := by
  intro l
  induction l with
  | nil => intro pre; rfl
  | cons p t ih =>
    intro pre
    obtain ⟨k', v⟩ := p
    rw [rankedFrom_cons]
    by_cases hk : k' = k
    · subst hk
      rw [List.filter_cons_of_pos (by simp), ih, valsOf_snoc_self, valsOf_cons_self, List.zipIdx_cons]
      simp
    · have hk2 : k ≠ k' := fun e => hk e.symm
      rw [List.filter_cons_of_neg (by simpa using hk), ih, valsOf_snoc_other _ _ _ _ hk2,
        valsOf_cons_other _ _ _ _ hk2]

theorem ranked_filter_key (k : Str) (l : List (Str × V)) :
    (ranked l).filter (fun x => x.2.1 = k) = (valsOf k l).zipIdx.map (fun (v, i) => (i, k, v)) := by
  rw [ranked_eq, rankedFrom_filter_key]; rfl

/-! ### the two halves of the specification -/

/-- what the specification writes at the place of an old pair that is not deleted -/
def written (arg : List (Str × V)) (x : Nat × Str × V) : Str × V :=
  match (valsOf x.2.1 arg)[x.1]? with
  | some w => (x.2.1, w)
  | none => x.2

theorem written_key (arg : List (Str × V)) (x : Nat × Str × V) : (written arg x).1 = x.2.1 := by
  unfold written; split <;> rfl

/-- the old pairs after the first loop of multidict: overwritten in place, nothing deleted yet -/
def repl (old arg : List (Str × V)) : List (Str × V) := (ranked old).map (written arg)

/-- the old pairs according to the specification: overwritten in place, surplus pairs deleted -/
def kept (old arg : List (Str × V)) : List (Str × V) :=
  ((ranked old).filter (fun x => !isSurplus arg x)).map (written arg)

/-- the pairs the specification appends: the `r`-th pair of `arg` for key `k` when `old` has no `r`-th pair of `k` -/
def app (old arg : List (Str × V)) : List (Str × V) :=
  ((ranked arg).filter (fun x => decide ((valsOf x.2.1 old).length ≤ x.1))).map (·.2)

theorem filterMap_eq_filter_map {α β : Type _} (f : α → Option β) (p : α → Bool) (g : α → β)
    (h : ∀ x, f x = if p x then some (g x) else none) : ∀ l : List α, l.filterMap f = (l.filter p).map g := by
  intro l
  induction l with
  | nil => rfl
  | cons a t ih =>
    rw [List.filterMap_cons, h a]
    by_cases hp : p a = true
    · simp [hp, ih]
    · simp [hp, ih]

theorem spec_eq (old arg : List (Str × V)) : mdUpdateSpec old arg = kept old arg ++ app old arg := by
  unfold mdUpdateSpec kept app
  congr 1
  apply filterMap_eq_filter_map
  intro x
  obtain ⟨r, k, v⟩ := x
  simp only [isSurplus, written]
  by_cases hk : k ∈ keysOf arg
  · by_cases hr : (valsOf k arg).length ≤ r
    · simp [hk, hr]
    · have hlt : r < (valsOf k arg).length := by omega
      simp [hk, hr, List.getElem?_eq_getElem hlt]
  · have := valsOf_nil_of_not_mem k arg hk
    simp [hk, this]

/-- the values of key `k` in the image of a list of ranked pairs under a map that keeps the keys -/
theorem valsOf_map_ranked (f : Nat × Str × V → Str × V) (hf : ∀ x, (f x).1 = x.2.1) (k : Str)
    (X : List (Nat × Str × V)) : valsOf k (X.map f) = ((X.filter (fun x => x.2.1 = k)).map f).map (·.2) := by
  unfold valsOf
  rw [List.filter_map]
  congr 2
  apply List.filter_congr
  intro x _
  simp [hf]

/-- among the ranked pairs that satisfy `P`, those of key `k`: select by key first, then by `P` -/
theorem ranked_filter_filter_key (k : Str) (l : List (Str × V)) (P : Nat × Str × V → Bool) :
    ((ranked l).filter P).filter (fun x => x.2.1 = k) =
      ((valsOf k l).zipIdx.filter (fun q => P (q.2, k, q.1))).map (fun (v, i) => (i, k, v)) := by
  rw [List.filter_filter]
  simp only [Bool.and_comm]
  rw [← List.filter_filter, ranked_filter_key, List.filter_map]
  rfl

theorem written_snd (arg : List (Str × V)) (k : Str) (q : V × Nat) :
    (written arg (q.2, k, q.1)).2 = ((valsOf k arg)[q.2]?).getD q.1 := by
  simp only [written]
  split <;> simp_all

theorem zip_getD (w : List V) : ∀ (l : List V) (n : Nat),
    (l.zipIdx n).map (fun (q : V × Nat) => (w[q.2]?).getD q.1) =
      (w.drop n).take l.length ++ l.drop (w.length - n) := by
  intro l
  induction l with
  | nil => intro n; simp
  | cons v t ih =>
    intro n
    rw [List.zipIdx_cons, List.map_cons, ih]
    by_cases hn : n < w.length
    · have h1 : w.length - n = (w.length - (n + 1)) + 1 := by omega
      rw [List.getElem?_eq_getElem hn, h1, List.drop_succ_cons, List.length_cons, List.drop_eq_getElem_cons hn,
        List.take_succ_cons]
      rfl
    · have hle : w.length ≤ n := by omega
      have hle1 := Nat.le_succ_of_le hle
      rw [List.getElem?_eq_none hle, Nat.sub_eq_zero_of_le hle, Nat.sub_eq_zero_of_le hle1,
        List.drop_of_length_le hle, List.drop_of_length_le hle1]
      simp

theorem zip_getD_lt (w : List V) : ∀ (l : List V) (n : Nat),
    ((l.zipIdx n).filter (fun (q : V × Nat) => !decide (w.length ≤ q.2))).map
        (fun (q : V × Nat) => (w[q.2]?).getD q.1) =
      (w.drop n).take l.length := by
  intro l
  induction l with
  | nil => intro n; simp
  | cons v t ih =>
    intro n
    rw [List.zipIdx_cons]
    by_cases hn : n < w.length
    · rw [List.filter_cons_of_pos (by simpa using hn), List.map_cons, ih, List.getElem?_eq_getElem hn,
        List.length_cons, List.drop_eq_getElem_cons hn, List.take_succ_cons]
      rfl
    · have hle : w.length ≤ n := by omega
      rw [List.filter_cons_of_neg (by simpa using hn), ih, List.drop_of_length_le hle,
        List.drop_of_length_le (Nat.le_succ_of_le hle)]
      simp

theorem zip_ge (m : Nat) : ∀ (l : List V) (n : Nat),
    ((l.zipIdx n).filter (fun (q : V × Nat) => decide (m ≤ q.2))).map (·.1) = l.drop (m - n) := by
  intro l
  induction l with
  | nil => intro n; simp
  | cons v t ih =>
    intro n
    rw [List.zipIdx_cons]
    by_cases hn : m ≤ n
    · rw [List.filter_cons_of_pos (by simpa using hn), List.map_cons, ih, Nat.sub_eq_zero_of_le hn,
        Nat.sub_eq_zero_of_le (Nat.le_succ_of_le hn)]
      rfl
    · have h1 : m - n = (m - (n + 1)) + 1 := by omega
      rw [List.filter_cons_of_neg (by simpa using hn), ih, h1, List.drop_succ_cons]

/-- per key, `repl`: the new values as far as there are old pairs, then the old values that were not overwritten -/
theorem valsOf_repl (old arg : List (Str × V)) (k : Str) :
    valsOf k (repl old arg) = (valsOf k arg).take (valsOf k old).length ++ (valsOf k old).drop (valsOf k arg).length := by
  have := zip_getD (valsOf k arg) (valsOf k old) 0
  simp only [List.drop_zero, Nat.sub_zero] at this
  rw [← this, repl, valsOf_map_ranked (written arg) (written_key arg), ranked_filter_key]
  simp only [List.map_map]
  apply List.map_congr_left
  intro q _
  simp only [Function.comp, written_snd]

theorem isSurplus_iff (arg : List (Str × V)) (r : Nat) (x : Str × V) :
    isSurplus arg (r, x) = true ↔ x.1 ∈ keysOf arg ∧ (valsOf x.1 arg).length ≤ r := by
  simp [isSurplus]

/-- per key, `kept`, for an updated key: the new values as far as there are old pairs -/
theorem valsOf_kept (old arg : List (Str × V)) (k : Str) (hk : k ∈ keysOf arg) :
    valsOf k (kept old arg) = (valsOf k arg).take (valsOf k old).length := by
  have := zip_getD_lt (valsOf k arg) (valsOf k old) 0
  simp only [List.drop_zero] at this
  rw [← this, kept, valsOf_map_ranked (written arg) (written_key arg), ranked_filter_filter_key, List.map_map, List.map_map]
  congr 1
  · funext q
    simp only [Function.comp, written_snd]
  · apply List.filter_congr
    intro q _
    simp [isSurplus, hk]

/-- per key, `kept`, for a key that is not updated: the old values -/
theorem filter_kept_other (old arg : List (Str × V)) (f : Str → Bool) (hf : ∀ k ∈ keysOf arg, f k = false) :
    (kept old arg).filter (fun p => f p.1) = old.filter (fun p => f p.1) := by
  conv => rhs; rw [← ranked_map_snd old, List.filter_map]
  rw [kept, List.filter_map, List.filter_filter]
  -- a pair that `f` selects is not updated: it is not surplus, and `written` leaves it as it is
  have hkey : ∀ x : Nat × Str × V, f x.2.1 = true → x.2.1 ∉ keysOf arg := by
    intro x hfx hm
    rw [hf _ hm] at hfx
    exact Bool.false_ne_true hfx
  have e : (ranked old).filter (fun x => ((fun p : Str × V => f p.1) ∘ written arg) x && !isSurplus arg x) =
      (ranked old).filter ((fun p : Str × V => f p.1) ∘ (·.2)) := by
    apply List.filter_congr
    intro x _
    simp only [Function.comp, written_key]
    cases hfx : f x.2.1 with
    | false => rfl
    | true => simp [isSurplus, hkey x hfx]
  rw [e]
  apply List.map_congr_left
  intro x hx
  simp [written, valsOf_nil_of_not_mem _ arg (hkey x (List.mem_filter.mp hx).2)]

/-- per key, the appended pairs: the new values beyond the number of old pairs -/
theorem valsOf_app (old arg : List (Str × V)) (k : Str) :
    valsOf k (app old arg) = (valsOf k arg).drop (valsOf k old).length := by
  have := zip_ge (valsOf k old).length (valsOf k arg) 0
  simp only [Nat.sub_zero] at this
  rw [← this, app]
  rw [valsOf_map_ranked (·.2) (fun _ => rfl), ranked_filter_filter_key, List.map_map, List.map_map]
  rfl

/-- every appended pair has an updated key -/
theorem app_keys (old arg : List (Str × V)) : ∀ p ∈ app old arg, p.1 ∈ keysOf arg := by
  intro p hp
  exact List.mem_map_of_mem (f := (·.1)) ((ranked_filter_sublist _ arg).subset hp)

theorem app_snoc (old done : List (Str × V)) (k : Str) (v : V) :
    app old (done ++ [(k, v)]) =
      app old done ++ (if (valsOf k old).length ≤ (valsOf k done).length then [(k, v)] else []) := by
  simp only [app]
  rw [ranked_snoc, List.filter_append, List.map_append]
  congr 1
  by_cases h : (valsOf k old).length ≤ (valsOf k done).length
  · simp [h]
  · simp [h]

/-! ### the first loop of multidict, exactly -/

theorem loop_append : ∀ (a : List (Str × V)) (items : List (Str × V)) (used : List (Str × Nat)) (b : List (Str × V)),
    mdUpdateLoop items used (a ++ b) =
      mdUpdateLoop (mdUpdateLoop items used a).1 (mdUpdateLoop items used a).2 b := by
  intro a
  induction a with
  | nil => intro items used b; simp [mdUpdateLoop]
  | cons hd t ih =>
    intro items used b
    obtain ⟨k, v⟩ := hd
    simp only [List.cons_append, mdUpdateLoop]
    split <;> exact ih _ _ _

theorem keysOf_snoc (l : List (Str × V)) (k : Str) (v : V) : keysOf (l ++ [(k, v)]) = keysOf l ++ [k] := by
  simp [keysOf]

/-- the key sequence after the first loop: the old keys, then the keys of the appended pairs -/
theorem loop1_keys (old : List (Str × V)) : ∀ done : List (Str × V),
    keysOf (mdUpdateLoop old [] done).1 = keysOf old ++ keysOf (app old done) := by
  apply snoc_induction
  · simp [mdUpdateLoop, app, ranked, keysOf]
  · intro done x ih
    obtain ⟨k, v⟩ := x
    -- the values of the pairs of key `k` that are not yet overwritten
    have hv : valsOf k ((mdUpdateLoop old [] done).1.drop ((usedGet (mdUpdateLoop old [] done).2 k).getD 0)) =
        (valsOf k old).drop (valsOf k done).length := (loop_vals done old [] k).2
    rw [loop_append, app_snoc, keysOf_append, ← List.append_assoc, ← ih]
    generalize mdUpdateLoop old [] done = L at hv ⊢
    obtain ⟨items', p, heq, a, c, b, h1, h2, _, h4, h5⟩ := loop_cons L.1 L.2 k v []
    rw [heq]
    simp only [mdUpdateLoop]
    rcases h4 with ⟨hc, hb⟩ | ⟨v0, hc, hs⟩
    · -- none is left: `(k, v)` is appended
      subst hc hb
      rw [List.append_nil] at h1
      have hle : (valsOf k old).length ≤ (valsOf k done).length := by
        rw [← List.drop_eq_nil_iff, ← hv, h1, valsOf, filter_nil_of_forall_ne h5]
        rfl
      rw [if_pos hle, h2, h1]
      simp [keysOf]
    · -- `(k, v0)` is the first of them: it is overwritten
      subst hc
      have hlt : ¬ (valsOf k old).length ≤ (valsOf k done).length := by
        intro hle
        rw [List.drop_of_length_le hle, h1, List.drop_append_of_le_length hs, valsOf_append, valsOf_cons_self] at hv
        simp at hv
      rw [if_neg hlt, h2, h1]
      simp [keysOf]

theorem keysOf_map_written (arg : List (Str × V)) (X : List (Nat × Str × V)) :
    keysOf (X.map (written arg)) = keysOf (X.map (·.2)) := by
  simp only [keysOf, List.map_map]
  apply List.map_congr_left
  intro x _
  exact written_key arg x

theorem keysOf_repl (old arg : List (Str × V)) : keysOf (repl old arg) = keysOf old := by
  rw [repl, keysOf_map_written, ranked_map_snd]

theorem loop1_vals (old arg : List (Str × V)) (k : Str) :
    valsOf k (mdUpdateLoop old [] arg).1 = valsOf k arg ++ (valsOf k old).drop (valsOf k arg).length := by
  obtain ⟨h1, h2⟩ := loop_vals arg old [] k
  rw [← List.take_append_drop (pos (mdUpdateLoop old [] arg).2 k) (mdUpdateLoop old [] arg).1, valsOf_append, h1, h2]
  rfl

/-- **the first loop**: the old pairs overwritten in place, followed by the appended pairs -/
theorem loop1_items (old arg : List (Str × V)) : (mdUpdateLoop old [] arg).1 = repl old arg ++ app old arg := by
  apply ext_keys_vals
  · rw [loop1_keys, keysOf_append, keysOf_repl]
  · intro k
    rw [loop1_vals, valsOf_append, valsOf_repl, valsOf_app]
    by_cases h : (valsOf k arg).length ≤ (valsOf k old).length
    · rw [List.take_of_length_le h, List.drop_of_length_le h, List.append_nil]
    · rw [List.drop_of_length_le (l := valsOf k old) (by omega), List.append_nil, List.append_nil,
        List.take_append_drop]

/-! ### the positions recorded by the first loop -/

theorem used_inv : ∀ (arg items : List (Str × V)) (used : List (Str × Nat)),
    (∀ k p, usedGet used k = some p → 1 ≤ p ∧ (keysOf items)[p - 1]? = some k) →
    ∀ k p, usedGet (mdUpdateLoop items used arg).2 k = some p →
      1 ≤ p ∧ (keysOf (mdUpdateLoop items used arg).1)[p - 1]? = some k := by
  intro arg
  induction arg with
  | nil => intro items used h; simpa [mdUpdateLoop] using h
  | cons hd rest ih =>
    intro items used h
    obtain ⟨k0, v⟩ := hd
    obtain ⟨items', p0, heq, hsh⟩ := loop_cons items used k0 v rest
    rw [heq]
    apply ih
    intro k p hp
    by_cases hk : k = k0
    · subst hk
      rw [usedGet_set_self] at hp
      simp only [Option.some.injEq] at hp
      obtain ⟨a, c, b, _, h2, h3, _, _⟩ := hsh
      subst hp h3 h2
      simp [keysOf]
    · rw [usedGet_set_other _ _ _ _ hk] at hp
      obtain ⟨h1, h2⟩ := h k p hp
      obtain ⟨ext, hext⟩ := hsh.keys
      refine ⟨h1, ?_⟩
      rw [hext, List.getElem?_append_left]
      · exact h2
      · exact (List.getElem?_eq_some_iff.mp h2).1

/-- a recorded position belongs to an updated key, and the pairs before it contain exactly the new values of that key -/
theorem used_vals (old arg : List (Str × V)) (k : Str) (p : Nat)
    (hp : usedGet (mdUpdateLoop old [] arg).2 k = some p) :
    k ∈ keysOf arg ∧ valsOf k ((mdUpdateLoop old [] arg).1.take p) = valsOf k arg := by
  refine ⟨Decidable.byContradiction fun hk => ?_, (loop_vals_start old arg k p hp).1⟩
  rw [(loop_used arg old [] k).2 hk, usedGet_nil] at hp
  cases hp

theorem repl_length (old arg : List (Str × V)) : (repl old arg).length = old.length := by
  simp [repl, ranked_length]

/-- in the old part of the list the first loop changes no key -/
theorem loop1_vlen_take (old arg : List (Str × V)) (k : Str) (i : Nat) (hi : i ≤ old.length) :
    (valsOf k ((mdUpdateLoop old [] arg).1.take i)).length = (valsOf k (old.take i)).length := by
  rw [loop1_items, List.take_append_of_le_length (by rw [repl_length]; exact hi)]
  apply vlen_keys
  have h := keysOf_repl old arg
  simp only [keysOf] at h ⊢
  rw [List.map_take, List.map_take, h]

/-- **the recorded position of an updated key** `k`, in terms of `old` and `arg` only: it is at most `i` iff the first
    `i` old pairs contain (at least) as many pairs of `k` as `arg` has values for `k` -/
theorem used_le_iff (old arg : List (Str × V)) (k : Str) (p : Nat)
    (hp : usedGet (mdUpdateLoop old [] arg).2 k = some p) (i : Nat) (hi : i ≤ old.length) :
    p ≤ i ↔ (valsOf k arg).length ≤ (valsOf k (old.take i)).length := by
  obtain ⟨_, hv⟩ := used_vals old arg k p hp
  -- the recorded position is just behind a pair of key `k`
  obtain ⟨h1, h2⟩ := used_inv arg old [] (by intro k p h; simp [usedGet] at h) k p hp
  simp only [keysOf, List.getElem?_map, Option.map_eq_some_iff] at h2
  obtain ⟨x, hv2, hx⟩ := h2
  have hx : x = (k, x.2) := by rw [← hx]
  obtain ⟨q, rfl⟩ : ∃ q, p = q + 1 := ⟨p - 1, by omega⟩
  rw [Nat.add_sub_cancel] at hv2
  rw [← loop1_vlen_take old arg k i hi, ← hv]
  constructor
  · exact vlen_take_mono k _
  · intro hle
    refine Decidable.byContradiction fun hlt => ?_
    have hm := vlen_take_mono k (mdUpdateLoop old [] arg).1 (show i ≤ q by omega)
    rw [List.take_add_one, hv2, Option.toList_some, hx, valsOf_snoc_self, List.length_append,
      List.length_singleton] at hle
    omega

/-! ### the second loop of multidict on the result of the first -/

/-- a statement about all splits `l = a ++ y :: b` of a list seen behind a prefix `pre`: split off the head of `l` -/
theorem forall_split_cons {α : Type _} (pre : List α) (x : α) (t : List α) (Q : List α → α → Prop) :
    (∀ a y b, x :: t = a ++ y :: b → Q (pre ++ a) y) ↔
      (Q pre x ∧ ∀ a y b, t = a ++ y :: b → Q (pre ++ [x] ++ a) y) := by
  constructor
  · intro h
    refine ⟨by simpa using h [] x t rfl, fun a y b e => ?_⟩
    rw [← List.append_cons]
    exact h (x :: a) y b (by rw [e]; rfl)
  · intro ⟨h1, h2⟩ a y b e
    cases a with
    | nil =>
      simp only [List.nil_append, List.cons.injEq] at e
      rw [← e.1, List.append_nil]; exact h1
    | cons a0 a' =>
      simp only [List.cons_append, List.cons.injEq] at e
      rw [← e.1, List.append_cons]; exact h2 a' y b e.2

/-- number of pairs of the prefix `q` of `old` that the specification keeps -/
def nk (arg q : List (Str × V)) : Nat := ((ranked q).filter (fun y => !isSurplus arg y)).length

theorem nk_le (arg q : List (Str × V)) : nk arg q ≤ q.length := by
  unfold nk
  have := List.length_filter_le (fun y => !isSurplus arg y) (ranked q)
  rw [ranked_length] at this
  exact this

theorem nk_le_old (arg : List (Str × V)) {old a c : List (Str × V)} (hold : old = a ++ c) : nk arg a ≤ old.length := by
  have := nk_le arg a
  rw [hold, List.length_append]
  omega

theorem nk_snoc (arg q : List (Str × V)) (x : Str × V) :
    nk arg (q ++ [x]) = nk arg q + (if isSurplus arg ((valsOf x.1 q).length, x) then 0 else 1) := by
  unfold nk
  rw [ranked_snoc, List.filter_append, List.length_append]
  by_cases h : isSurplus arg ((valsOf x.1 q).length, x) = true
  · simp [h]
  · simp [h]

section second
variable (old arg : List (Str × V)) (used : List (Str × Nat))
variable (H1 : ∀ a x b, old = a ++ x :: b →
  (isSurplus arg ((valsOf x.1 a).length, x) = true ↔ ∃ p, usedGet used x.1 = some p ∧ p ≤ a.length))
-- all that is used of the table `used`: which pairs of `old` lie at or behind the recorded position of their key
-- (`H1`, = the surplus ones), and where a recorded position lies, in terms of `old` and `arg` (`H2`, = `used_le_iff`)
variable (H2 : ∀ k p, usedGet used k = some p → ∀ i, i ≤ old.length →
  (p ≤ i ↔ (valsOf k arg).length ≤ (valsOf k (old.take i)).length))

include H1 in
/-- pairs that the specification keeps are never deleted by the second loop -/
theorem dt_kept_sublist (post : List (Str × V)) : ∀ (l pre : List (Str × V)), old = pre ++ (l ++ post) → ∀ i, i ≤ pre.length →
    (((rankedFrom pre l).filter (fun y => !isSurplus arg y)).map (written arg)).Sublist
      (mdDropTails used ((rankedFrom pre l).map (written arg)) i) := by
  intro l
  induction l with
  | nil => intro pre _ i _; simp [rankedFrom, mdDropTails]
  | cons x t ih =>
    intro pre hold i hi
    have hold' : old = (pre ++ [x]) ++ (t ++ post) := by rw [hold]; simp
    rw [rankedFrom_cons, List.map_cons]
    have hF : written arg ((valsOf x.1 pre).length, x) = (x.1, (written arg ((valsOf x.1 pre).length, x)).2) :=
      Prod.ext (written_key arg _) rfl
    rw [hF]
    rcases dt_cases used x.1 _ _ i with ⟨he, _⟩ | ⟨he, p, hp, hle⟩
    · rw [he]
      by_cases hs : isSurplus arg ((valsOf x.1 pre).length, x) = true
      · rw [List.filter_cons_of_neg (by simp [hs])]
        exact (ih _ hold' (i + 1) (by simp; omega)).cons _
      · rw [List.filter_cons_of_pos (by simpa using hs), List.map_cons, ← hF]
        exact (ih _ hold' (i + 1) (by simp; omega)).cons_cons _
    · rw [he]
      have hs : isSurplus arg ((valsOf x.1 pre).length, x) = true :=
        (H1 pre x (t ++ post) hold).2 ⟨p, hp, by omega⟩
      rw [List.filter_cons_of_neg (by simp [hs])]
      exact ih _ hold' i (by simp; omega)

include H1 H2 in
/-- the second loop deletes exactly the surplus pairs iff every surplus pair is met with a running index (`nk`, the
    number of pairs kept so far) that has reached the recorded position of its key; by `H2` that is a count of the
    pairs of that key among the first `nk` old pairs, which is how `StaleFree` says it -/
theorem dt_iff (post : List (Str × V)) : ∀ (l pre : List (Str × V)), old = pre ++ (l ++ post) →
    (mdDropTails used ((rankedFrom pre l).map (written arg)) (nk arg pre) =
        ((rankedFrom pre l).filter (fun y => !isSurplus arg y)).map (written arg) ↔
      ∀ a x b, l = a ++ x :: b → isSurplus arg ((valsOf x.1 (pre ++ a)).length, x) = true →
        (valsOf x.1 arg).length ≤ (valsOf x.1 (old.take (nk arg (pre ++ a)))).length) := by
  intro l
  induction l with
  | nil =>
    intro pre _
    simp [rankedFrom, mdDropTails]
  | cons x t ih =>
    intro pre hold
    have hold' : old = (pre ++ [x]) ++ (t ++ post) := by rw [hold]; simp
    rw [forall_split_cons pre x t (fun q y => isSurplus arg ((valsOf y.1 q).length, y) = true →
        (valsOf y.1 arg).length ≤ (valsOf y.1 (old.take (nk arg q))).length), ← ih _ hold',
      rankedFrom_cons, List.map_cons]
    have hF : written arg ((valsOf x.1 pre).length, x) = (x.1, (written arg ((valsOf x.1 pre).length, x)).2) :=
      Prod.ext (written_key arg _) rfl
    by_cases hs : isSurplus arg ((valsOf x.1 pre).length, x) = true
    · obtain ⟨p, hp, _⟩ := (H1 pre x (t ++ post) hold).1 hs
      have hrun := H2 x.1 p hp (nk arg pre) (nk_le_old arg hold)
      rw [List.filter_cons_of_neg (by simp [hs]), nk_snoc, if_pos hs, Nat.add_zero, hF]
      by_cases hle : p ≤ nk arg pre
      · rw [dt_cons_del _ _ _ _ _ _ hp hle]
        exact ⟨fun h => ⟨fun _ => hrun.1 hle, h⟩, fun h => h.2⟩
      · rw [dt_cons_keep _ _ _ _ _ _ hp (by omega)]
        constructor
        · intro h
          -- `x` is kept, and so are all the pairs behind it that the specification keeps: one pair too many
          have h1 := (dt_kept_sublist old arg used H1 post t (pre ++ [x]) hold' (nk arg pre + 1)
            (by have := nk_le arg pre; simp; omega)).length_le
          rw [← h, List.length_cons] at h1
          omega
        · intro h
          exact absurd (hrun.2 (h.1 hs)) hle
    · rw [List.filter_cons_of_pos (by simpa using hs), List.map_cons, nk_snoc, if_neg hs, hF]
      rcases dt_cases used x.1 _ ((rankedFrom (pre ++ [x]) t).map (written arg)) (nk arg pre) with
        ⟨he, _⟩ | ⟨_, p, hp, hle⟩
      · rw [he, List.cons.injEq]
        exact ⟨fun h => ⟨fun h' => absurd h' hs, h.2⟩, fun h => ⟨rfl, h.2⟩⟩
      · exact absurd ((H1 pre x _ hold).2 ⟨p, hp, by have := nk_le arg pre; omega⟩) hs

end second

/-- the classification of the old positions used by `dt_iff` holds for the tables computed by the first loop -/
theorem H1_holds (old arg : List (Str × V)) : ∀ a x b, old = a ++ x :: b →
    (isSurplus arg ((valsOf x.1 a).length, x) = true ↔
      ∃ p, usedGet (mdUpdateLoop old [] arg).2 x.1 = some p ∧ p ≤ a.length) := by
  intro a x b hold
  have hlen : a.length ≤ old.length := by rw [hold]; simp
  have htake : old.take a.length = a := by rw [hold]; simp
  rw [isSurplus_iff]
  constructor
  · intro ⟨hk, hr⟩
    obtain ⟨p, hp⟩ := (loop_used arg old [] x.1).1 hk
    refine ⟨p, hp, ?_⟩
    rw [used_le_iff old arg x.1 p hp a.length hlen, htake]
    exact hr
  · intro ⟨p, hp, hle⟩
    rw [used_le_iff old arg x.1 p hp a.length hlen, htake] at hle
    exact ⟨(used_vals old arg x.1 p hp).1, hle⟩

/-- the appended pairs are never deleted -/
theorem dt_app (old arg : List (Str × V)) (i : Nat) (hi : i ≤ old.length) :
    mdDropTails (mdUpdateLoop old [] arg).2 (app old arg) i = app old arg := by
  apply dt_id
  intro t ht p hp
  refine Decidable.byContradiction fun hlt => ?_
  obtain ⟨_, hv⟩ := used_vals old arg _ p hp
  have hm := vlen_take_mono (app old arg)[t].1 (mdUpdateLoop old [] arg).1 (show p ≤ old.length + t by omega)
  rw [hv, loop1_items, ← repl_length old arg, List.take_length_add_append, valsOf_append, List.length_append,
    vlen_keys _ _ _ (keysOf_repl old arg)] at hm
  have hcount := vlen_split_lt ((app old arg).take t) (app old arg)[t] ((app old arg).drop (t + 1))
  rw [List.getElem_cons_drop, List.take_append_drop, valsOf_app, List.length_drop] at hcount
  omega

theorem spec_nil (old : List (Str × V)) : mdUpdateSpec old [] = old := by
  simp [mdUpdateSpec, keysOf, ranked_nil, ranked_map_snd]

/-- `mdUpdate` as the second loop applied to the old part, followed by the appended pairs -/
theorem mdUpdate_decomp (old arg : List (Str × V)) (h : arg ≠ []) :
    mdUpdate old arg = mdDropTails (mdUpdateLoop old [] arg).2 (repl old arg) 0 ++ app old arg := by
  rw [mdUpdate_eq old arg h, loop1_items, dt_append, Nat.zero_add, dt_app]
  have := (dt_sublist (mdUpdateLoop old [] arg).2 (repl old arg) 0).length_le
  rw [repl_length] at this
  exact this

theorem ranked_split (a : List (Str × V)) (x : Str × V) (b : List (Str × V)) :
    ranked (a ++ x :: b) = ranked a ++ ((valsOf x.1 a).length, x) :: rankedFrom (a ++ [x]) b := by
  rw [ranked_append, rankedFrom_cons]

theorem ranked_getElem?_split {old a b : List (Str × V)} {x : Str × V} (hold : old = a ++ x :: b) :
    (ranked old)[a.length]? = some ((valsOf x.1 a).length, x) := by
  rw [hold, ranked_split, List.getElem?_append_right (by rw [ranked_length]; exact Nat.le_refl _), ranked_length]
  simp

/-- the number of surplus pairs in a prefix, and the number of kept ones -/
theorem surplusBefore_prefix (old arg a c : List (Str × V)) (hold : old = a ++ c) :
    surplusBefore old arg a.length + nk arg a = a.length := by
  have htake : (ranked old).take a.length = ranked a := by
    rw [hold, ranked_append, ← ranked_length a, List.take_left']
    rfl
  unfold surplusBefore nk
  rw [htake]
  have := filter_length_add (isSurplus arg) (ranked a)
  rw [ranked_length] at this
  omega

/-- `staleFreeAt` at the position of a split of `old` -/
theorem staleFreeAt_split (old arg : List (Str × V)) (a : List (Str × V)) (x : Str × V) (b : List (Str × V))
    (hold : old = a ++ x :: b) :
    staleFreeAt old arg a.length =
      (!isSurplus arg ((valsOf x.1 a).length, x) ||
        decide ((valsOf x.1 arg).length ≤ (valsOf x.1 (old.take (nk arg a))).length)) := by
  have hS : a.length - surplusBefore old arg a.length = nk arg a := by
    have := surplusBefore_prefix old arg a (x :: b) hold
    omega
  unfold staleFreeAt
  rw [ranked_getElem?_split hold]
  simp only [hS]

/-- `StaleFree`, with the positions given by splits of `old` -/
theorem staleFree_iff_split (old arg : List (Str × V)) :
    StaleFree old arg ↔ ∀ a x b, old = a ++ x :: b → isSurplus arg ((valsOf x.1 a).length, x) = true →
      (valsOf x.1 arg).length ≤ (valsOf x.1 (old.take (nk arg a))).length := by
  constructor
  · intro h a x b hold hs
    have := h a.length (by rw [hold]; simp)
    rw [staleFreeAt_split old arg a x b hold, hs] at this
    simpa using this
  · intro h j hj
    have hold : old = old.take j ++ old[j] :: old.drop (j + 1) := by
      rw [List.getElem_cons_drop, List.take_append_drop]
    have hl : (old.take j).length = j := by rw [List.length_take]; omega
    rw [← hl, staleFreeAt_split old arg _ _ _ hold]
    cases hs : isSurplus arg ((valsOf old[j].1 (old.take j)).length, old[j]) with
    | false => rfl
    | true => simpa using h _ _ _ hold hs

theorem nk_append_ge (arg a1 a2 : List (Str × V)) : nk arg a1 ≤ nk arg (a1 ++ a2) := by
  unfold nk
  rw [ranked_append, List.filter_append, List.length_append]
  omega

/-- a prefix without surplus pairs, in split form -/
def Clean (arg l : List (Str × V)) : Prop :=
  ∀ a' y b', l = a' ++ y :: b' → isSurplus arg ((valsOf y.1 a').length, y) = false

theorem nk_of_clean (arg : List (Str × V)) : ∀ l : List (Str × V), Clean arg l → nk arg l = l.length := by
  apply snoc_induction
  · intro _; rfl
  · intro l y ih hc
    have hc' : Clean arg l := by
      intro a' z b' e
      exact hc a' z (b' ++ [y]) (by rw [e]; simp)
    have hy := hc l y [] rfl
    rw [nk_snoc, ih hc', hy]
    simp

theorem exists_prefix_count (k : Str) : ∀ (l : List (Str × V)) (n : Nat), n ≤ (valsOf k l).length →
    ∃ a1 a2, l = a1 ++ a2 ∧ (valsOf k a1).length = n := by
  intro l
  induction l with
  | nil =>
    intro n hn
    exact ⟨[], [], rfl, (Nat.le_zero.mp hn).symm⟩
  | cons y t ih =>
    intro n hn
    cases n with
    | zero => exact ⟨[], y :: t, rfl, rfl⟩
    | succ n =>
      obtain ⟨k', v⟩ := y
      by_cases hk : k = k'
      · subst hk
        rw [valsOf_cons_self, List.length_cons] at hn
        obtain ⟨a1, a2, rfl, h2⟩ := ih n (by omega)
        exact ⟨(k, v) :: a1, a2, rfl, by rw [valsOf_cons_self, List.length_cons, h2]⟩
      · rw [valsOf_cons_other _ _ _ _ hk] at hn
        obtain ⟨a1, a2, rfl, h2⟩ := ih (n + 1) hn
        exact ⟨(k', v) :: a1, a2, rfl, by rw [valsOf_cons_other _ _ _ _ hk, h2]⟩

theorem key_mem_of_ranked {l : List (Str × V)} {x : Nat × Str × V} (hx : x ∈ ranked l) : x.2.1 ∈ keysOf l := by
  rw [← ranked_map_snd l]
  exact List.mem_map_of_mem (f := (·.1)) (List.mem_map_of_mem (f := (·.2)) hx)

/-- a prefix of `old` without surplus pairs is overwritten in place and nothing of it is deleted -/
theorem update_clean_prefix (a c arg : List (Str × V)) (hc : Clean arg a) (hn : arg ≠ []) :
    ∃ tail, mdUpdate (a ++ c) arg = (ranked a).map (written arg) ++ tail := by
  have hd := (dt_iff (a ++ c) arg _ (H1_holds (a ++ c) arg) (used_le_iff (a ++ c) arg) c a [] rfl).2
    (fun a' x b' e hs => by
      rw [List.nil_append, hc a' x b' e] at hs
      cases hs)
  have hf : (ranked a).filter (fun y => !isSurplus arg y) = ranked a :=
    List.filter_eq_self.mpr (List.length_filter_eq_length_iff.mp (by
      have := nk_of_clean arg a hc
      rwa [nk, ← ranked_length a] at this))
  rw [← ranked_eq, hf] at hd
  rw [mdUpdate_decomp _ arg hn, repl, ranked_append, List.map_append, dt_append, List.append_assoc]
  exact ⟨_, congrArg (· ++ _) hd⟩

end R7

open R7

/-! ### the characterisation -/

/-- **multidict 6.2's `update` implements the specification exactly on the `StaleFree` inputs.** -/
theorem C12_mdUpdate_eq_spec_iff (old arg : List (Str × V)) :
    mdUpdate old arg = mdUpdateSpec old arg ↔ StaleFree old arg := by
  by_cases hn : arg = []
  · subst hn
    rw [C12_update_nil, spec_nil]
    refine ⟨fun _ => ?_, fun _ => rfl⟩
    rw [staleFree_iff_split]
    intro a x b _ hs
    simp [isSurplus, keysOf] at hs
  · rw [mdUpdate_decomp old arg hn, spec_eq, List.append_cancel_right_eq, staleFree_iff_split]
    have := dt_iff old arg _ (H1_holds old arg) (used_le_iff old arg) [] old [] (by simp)
    rw [← ranked_eq] at this
    exact this

theorem C12_mdUpdate_eq_spec (old arg : List (Str × V)) (h : StaleFree old arg) :
    mdUpdate old arg = mdUpdateSpec old arg :=
  (C12_mdUpdate_eq_spec_iff old arg).2 h

theorem C12_mdUpdate_ne_spec_of_stale (old arg : List (Str × V)) (h : ¬ StaleFree old arg) :
    mdUpdate old arg ≠ mdUpdateSpec old arg :=
  fun e => h ((C12_mdUpdate_eq_spec_iff old arg).1 e)

/-- in every case the specified result is contained in the actual one, in order: the implementation never loses or
    misplaces a pair, it can only fail to delete surplus old pairs -/
theorem C12_mdUpdateSpec_sublist (old arg : List (Str × V)) : (mdUpdateSpec old arg).Sublist (mdUpdate old arg) := by
  by_cases hn : arg = []
  · subst hn
    rw [C12_update_nil, spec_nil]
    exact List.Sublist.refl _
  · rw [mdUpdate_decomp old arg hn, spec_eq]
    have := dt_kept_sublist old arg (mdUpdateLoop old [] arg).2 (H1_holds old arg) [] old [] (by simp) 0 (Nat.le_refl _)
    rw [← ranked_eq] at this
    exact List.Sublist.append this (List.Sublist.refl _)

/-- **What goes wrong, exactly, when the input is not `StaleFree`** (F-C12-multidict-tail).  Let `x` be the FIRST old
    pair that fails the check (`old = a ++ x :: b`).  Then `x` is a surplus pair — a pair of an updated key beyond the
    number of new values for that key — and it SURVIVES, unchanged and at its place: up to it the result is as
    specified (`a.length - surplusBefore …` pairs, the kept ones among `a`), then comes the stale `x`. -/
theorem C12_mdUpdate_first_stale (old arg a : List (Str × V)) (x : Str × V) (b : List (Str × V))
    (hold : old = a ++ x :: b) (hpre : ∀ j, j < a.length → staleFreeAt old arg j = true)
    (hbad : staleFreeAt old arg a.length = false) :
    isSurplus arg ((valsOf x.1 a).length, x) = true ∧
    ∃ tail, mdUpdate old arg =
      (mdUpdateSpec old arg).take (a.length - surplusBefore old arg a.length) ++ x :: tail := by
  obtain ⟨hs, hlt⟩ : isSurplus arg ((valsOf x.1 a).length, x) = true ∧
      (valsOf x.1 (old.take (nk arg a))).length < (valsOf x.1 arg).length := by
    simpa [hbad] using (staleFreeAt_split old arg a x b hold).symm
  refine ⟨hs, ?_⟩
  obtain ⟨hk, hr⟩ := (isSurplus_iff arg _ x).1 hs
  obtain ⟨p, hp⟩ := (loop_used arg old [] x.1).1 hk
  have hrun : ¬ p ≤ nk arg a := by
    intro hle
    have := (used_le_iff old arg x.1 p hp _ (nk_le_old arg hold)).1 hle
    omega
  have hS : a.length - surplusBefore old arg a.length = nk arg a := by
    have := surplusBefore_prefix old arg a (x :: b) hold
    omega
  have hFx : written arg ((valsOf x.1 a).length, x) = (x.1, x.2) := by
    simp only [written]
    rw [List.getElem?_eq_none hr]
  -- the part before `x` is as specified
  have hfirst : mdDropTails (mdUpdateLoop old [] arg).2 ((ranked a).map (written arg)) 0 =
      ((ranked a).filter (fun y => !isSurplus arg y)).map (written arg) := by
    rw [ranked_eq]
    refine (dt_iff old arg _ (H1_holds old arg) (used_le_iff old arg) (x :: b) a [] (by simp [hold])).2 ?_
    intro a' y b' ha hsy
    simp only [List.nil_append] at hsy ⊢
    have hold' : old = a' ++ y :: (b' ++ x :: b) := by rw [hold, ha]; simp
    have := hpre a'.length (by rw [ha]; simp)
    rw [staleFreeAt_split old arg a' y _ hold', hsy] at this
    simpa using this
  have hlen : (((ranked a).filter (fun y => !isSurplus arg y)).map (written arg)).length = nk arg a := by
    simp [nk]
  have hsp : ranked old = ranked a ++ ((valsOf x.1 a).length, x) :: rankedFrom (a ++ [x]) b := by
    rw [hold, ranked_split]
  constructor
  -- both lists split at `x`; the second loop keeps `x` (`dt_cons_keep`), the specification drops it; `tail` is what
  -- is left behind `x` at the end
  rw [mdUpdate_decomp old arg (keysOf_ne_nil hk), spec_eq, hS, kept, repl, hsp, List.filter_append,
    List.filter_cons_of_neg (by simp [hs]), List.map_append, List.map_append, List.map_cons, hFx, dt_append, hfirst,
    Nat.zero_add, hlen, dt_cons_keep _ _ _ _ _ _ hp (by omega), List.append_assoc, List.append_assoc,
    List.take_left' hlen]
  rfl

/-! ### the property clauses, as consequences of the specification -/

/-- "keeps every other pair in order" -/
theorem C12_spec_keeps_others (old arg : List (Str × V)) :
    (mdUpdateSpec old arg).filter (fun p => !(keysOf arg).contains p.1) =
      old.filter (fun p => !(keysOf arg).contains p.1) := by
  rw [spec_eq, List.filter_append,
    filter_kept_other old arg (fun k => !(keysOf arg).contains k) (by intro k hk; simpa using hk)]
  have : (app old arg).filter (fun p => !(keysOf arg).contains p.1) = [] := by
    rw [List.filter_eq_nil_iff]
    intro p hp
    simpa using app_keys old arg p hp
  rw [this, List.append_nil]

/-- "replaces all pairs whose key occurs in q": for an updated key the values in the result are exactly the values
    the argument gives for that key, in the argument's order — no old value of that key is left -/
theorem C12_spec_sets_keys (old arg : List (Str × V)) (k : Str) (hk : k ∈ keysOf arg) :
    ((mdUpdateSpec old arg).filter (fun p => p.1 = k)).map (·.2) = (arg.filter (fun p => p.1 = k)).map (·.2) := by
  show valsOf k (mdUpdateSpec old arg) = valsOf k arg
  rw [spec_eq, valsOf_append, valsOf_kept old arg k hk, valsOf_app, List.take_append_drop]

/-- … as pairs: the result's pairs for an updated key are exactly the argument's pairs for that key, in order -/
theorem C12_spec_pairs_of_key (old arg : List (Str × V)) (k : Str) (hk : k ∈ keysOf arg) :
    (mdUpdateSpec old arg).filter (fun p => p.1 = k) = arg.filter (fun p => p.1 = k) := by
  rw [filter_key_eq k (mdUpdateSpec old arg), C12_spec_sets_keys old arg k hk, ← filter_key_eq]

/-- positions, in general: the result is a body whose key sequence is a subsequence of the old key sequence (surplus
    pairs deleted, every other pair kept or overwritten in place), followed by a subsequence of the argument -/
theorem C12_spec_shape (old arg : List (Str × V)) :
    ∃ body appended, mdUpdateSpec old arg = body ++ appended ∧ (keysOf body).Sublist (keysOf old) ∧
      appended.Sublist arg := by
  refine ⟨kept old arg, app old arg, spec_eq old arg, ?_, ranked_filter_sublist _ arg⟩
  rw [kept, keysOf_map_written]
  exact (ranked_filter_sublist _ old).map _

/-- positions: when no updated key has more old pairs than new values, nothing is deleted: every old pair is kept or
    overwritten in place, so the old key sequence is a prefix of the result's -/
theorem C12_spec_in_place (old arg : List (Str × V))
    (h : ∀ k ∈ keysOf arg, (valsOf k old).length ≤ (valsOf k arg).length) :
    ∃ body appended, mdUpdateSpec old arg = body ++ appended ∧ keysOf body = keysOf old ∧ appended.Sublist arg := by
  have e : kept old arg = repl old arg := by
    rw [kept, repl]
    congr 1
    rw [List.filter_eq_self]
    intro y hy
    cases hs : isSurplus arg y with
    | false => rfl
    | true =>
      exfalso
      obtain ⟨r, x⟩ := y
      obtain ⟨hk, hr⟩ := (isSurplus_iff arg r x).1 hs
      have hm : (r, x) ∈ (ranked old).filter (fun z => z.2.1 = x.1) := by
        rw [List.mem_filter]; exact ⟨hy, by simp⟩
      rw [ranked_filter_key, List.mem_map] at hm
      obtain ⟨q, hq, hqe⟩ := hm
      have := List.mem_zipIdx hq
      simp only [Prod.mk.injEq] at hqe
      have := h x.1 hk
      omega
  exact ⟨repl old arg, app old arg, by rw [spec_eq, e], keysOf_repl old arg, ranked_filter_sublist _ arg⟩

/-! ### sufficient conditions for `StaleFree` that cover ordinary use -/

/-- a general criterion: every surplus pair of a key `k` is preceded by a prefix of `old` (of some length `t`) that
    contains no surplus pair and already contains as many pairs of `k` as `arg` has values for `k` (i.e. all the
    overwritten pairs of `k`): "the surplus pairs come late" -/
theorem C12_staleFree_of_surplus_late_split (old arg : List (Str × V))
    (h : ∀ a x b, old = a ++ x :: b → isSurplus arg ((valsOf x.1 a).length, x) = true →
      ∃ t, t ≤ a.length ∧ surplusBefore old arg t = 0 ∧
        (valsOf x.1 arg).length ≤ (valsOf x.1 (old.take t)).length) :
    StaleFree old arg := by
  rw [staleFree_iff_split]
  intro a x b hold hs
  obtain ⟨t, ht, hsb, hv⟩ := h a x b hold hs
  have hold' : old = a.take t ++ (a.drop t ++ x :: b) := by
    rw [← List.append_assoc, List.take_append_drop]; exact hold
  have hlen : (a.take t).length = t := by rw [List.length_take]; omega
  have h1 := surplusBefore_prefix old arg (a.take t) _ hold'
  rw [hlen, hsb] at h1
  have h2 := nk_append_ge arg (a.take t) (a.drop t)
  rw [List.take_append_drop] at h2
  exact Nat.le_trans hv (vlen_take_mono x.1 old (by omega))

/-- the same with positions instead of splits (decidable hypothesis) -/
theorem C12_staleFree_of_surplus_late (old arg : List (Str × V))
    (h : ∀ j, j < old.length → ∀ x ∈ (ranked old)[j]?, isSurplus arg x = true →
      ∃ t, t ≤ j ∧ surplusBefore old arg t = 0 ∧
        (valsOf x.2.1 arg).length ≤ (valsOf x.2.1 (old.take t)).length) :
    StaleFree old arg := by
  apply C12_staleFree_of_surplus_late_split
  intro a x b hold hs
  exact h a.length (by rw [hold]; simp) _ (ranked_getElem?_split hold) hs

/-- no updated key has more old pairs than new values: nothing has to be deleted -/
theorem C12_staleFree_of_no_surplus (old arg : List (Str × V))
    (h : ∀ k ∈ keysOf arg, (valsOf k old).length ≤ (valsOf k arg).length) : StaleFree old arg := by
  rw [staleFree_iff_split]
  intro a x b hold hs
  exfalso
  obtain ⟨hk, hr⟩ := (isSurplus_iff arg _ x).1 hs
  have h1 := vlen_split_lt a x b
  rw [← hold] at h1
  have := h x.1 hk
  omega

/-- no key of the argument is repeated in the old list (the usual situation for a query string) -/
theorem C12_staleFree_of_old_unrepeated (old arg : List (Str × V))
    (h : ∀ k ∈ keysOf arg, (valsOf k old).length ≤ 1) : StaleFree old arg := by
  apply C12_staleFree_of_no_surplus
  intro k hk
  have h1 := h k hk
  have h2 : 0 < (valsOf k arg).length := List.length_pos_iff.mpr (valsOf_ne_nil_of_mem k arg hk)
  omega

/-- in particular: the old list has no repeated key at all -/
theorem C12_staleFree_of_nodup (old arg : List (Str × V)) (h : (keysOf old).Nodup) : StaleFree old arg := by
  apply C12_staleFree_of_old_unrepeated
  intro k _
  have := List.nodup_iff_count.mp h k
  rw [vlen_eq_count]
  exact this

/-- at most ONE updated key (`k0`) has more old pairs than new values -/
theorem C12_staleFree_of_one_surplus_key (old arg : List (Str × V)) (k0 : Str)
    (h : ∀ k ∈ keysOf arg, k ≠ k0 → (valsOf k old).length ≤ (valsOf k arg).length) : StaleFree old arg := by
  apply C12_staleFree_of_surplus_late_split
  intro a x b hold hs
  obtain ⟨hk, hr⟩ := (isSurplus_iff arg _ x).1 hs
  have hx : x.1 = k0 := by
    refine Decidable.byContradiction fun hx => ?_
    have h1 := vlen_split_lt a x b
    rw [← hold] at h1
    have := h x.1 hk hx
    omega
  obtain ⟨a1, a2, ha, hcnt⟩ := exists_prefix_count x.1 a (valsOf x.1 arg).length hr
  have hold' : old = a1 ++ (a2 ++ x :: b) := by rw [hold, ha]; simp
  have hclean : Clean arg a1 := by
    intro a' y b' e
    refine Bool.eq_false_iff.mpr fun hsy => ?_
    obtain ⟨hky, hry⟩ := (isSurplus_iff arg _ y).1 hsy
    have h1 := vlen_split_lt a' y b'
    rw [← e] at h1
    by_cases hy : y.1 = k0
    · rw [hy, ← hx] at h1 hry
      omega
    · have h2 := h y.1 hky hy
      have h3 := congrArg (fun l => (valsOf y.1 l).length) hold'
      simp only [valsOf_append, List.length_append] at h3
      omega
  have hnk := nk_of_clean arg a1 hclean
  have hsb := surplusBefore_prefix old arg a1 _ hold'
  refine ⟨a1.length, by rw [ha]; simp, by omega, ?_⟩
  have : old.take a1.length = a1 := by rw [hold']; simp
  rw [this, hcnt]
  exact Nat.le_refl _

/-- the argument has a single key (e.g. `update_query(a=…)`, `update_query([("a", 1), ("a", 2)])`) -/
theorem C12_staleFree_single_key (old arg : List (Str × V)) (k : Str) (h : ∀ k' ∈ keysOf arg, k' = k) :
    StaleFree old arg :=
  C12_staleFree_of_one_surplus_key old arg k (fun k' hk' hne => absurd (h k' hk') hne)

/-- the empty argument -/
theorem C12_staleFree_nil (old : List (Str × V)) : StaleFree old [] :=
  C12_staleFree_of_no_surplus old [] (by intro k hk; simp [keysOf] at hk)

/-- an empty old list -/
theorem C12_staleFree_old_nil (arg : List (Str × V)) : StaleFree [] arg := by
  intro j hj; simp at hj


/-- keys that do not occur in `old` are simply appended -/
theorem R7.update_disjoint (old arg : List (Str × V)) (h : ∀ k ∈ keysOf arg, k ∉ keysOf old) :
    mdUpdate old arg = old ++ arg := by
  have hv : ∀ k ∈ keysOf arg, valsOf k old = [] := fun k hk => valsOf_nil_of_not_mem k old (h k hk)
  rw [C12_mdUpdate_eq_spec old arg (C12_staleFree_of_no_surplus old arg fun k hk => by simp [hv k hk]), spec_eq,
    kept, app]
  congr 1
  · conv => rhs; rw [← ranked_map_snd old]
    rw [List.filter_eq_self.mpr fun x hx => by
      have : x.2.1 ∉ keysOf arg := fun hm => h _ hm (key_mem_of_ranked hx)
      simp [isSurplus, this]]
    apply List.map_congr_left
    intro x hx
    have : x.2.1 ∉ keysOf arg := fun hm => h _ hm (key_mem_of_ranked hx)
    simp [written, valsOf_nil_of_not_mem _ arg this]
  · conv => rhs; rw [← ranked_map_snd arg]
    rw [List.filter_eq_self.mpr fun x hx => by simp [hv _ (key_mem_of_ranked hx)]]

end Yarl
