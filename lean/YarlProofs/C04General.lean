/-
  C04General.lean — property C04 ("already-canonical URLs are left untouched") for the WHOLE canonical
  grammar: with or without a scheme, with or without an authority.
-/
import YarlModel
import YarlProofs.C03Reach
namespace Yarl
open ReachFix FixLemmas

/-- the authority component of a canonical string: empty, or `[user[:password]@]host[:port]` as the
    library writes it (`authText`) -/
inductive CanonNetloc (e : Env) (scheme netloc : Str) : Prop
  | empty : netloc = [] → CanonNetloc e scheme netloc
  | auth (user pw : Option Str) (host : Str) (port : Option Nat) :
      netloc = authText user pw host port → UserInfoOK e.b user pw → HostFix e.o host →
      PortOK scheme port → CanonNetloc e scheme netloc

/-- "Already canonical", component-wise, for the five components of a URL string.

    * scheme: empty, or a non-empty lower-case string of scheme characters (`SchemeOK'`);
    * authority: empty, or `[user[:password]@]host[:port]` with user / password canonical for the REQUOTER, a
      host `_encode_host` maps to itself (`hostFix_basic`, `hostFix_ipv4`, `hostFix_ipv6`), a port ≤ 65535
      that is not the scheme's default (`CanonNetloc`);
    * path / query / fragment: canonical text of their requoters (`Canon`: only characters legal literally
      there, upper-case escapes only of characters that must be escaped there or are the component's
      protected delimiters: `C04_policy`, `C04_policy_protected`);
    * under an authority: the path is empty or rooted, has no dot segment, and is not empty in front of a
      query or fragment (`str` writes "/" there);
    * KNOWN EXCLUSION 1 (`first_segment`): with neither scheme nor authority, the text before the first ':'
      of the path must not read as a scheme (implied by "no ':' in the first segment",
      `C07_first_segment_suffices`; needed: `C04_general_first_segment_needed`);
    * KNOWN EXCLUSION 2 (`authority_scheme`): a scheme in `uses_authority` ("http", "file", …) without an
      authority needs an empty or rooted path (`unsplit_result` writes "scheme://" in front; needed:
      `C04_general_authority_scheme_needed`).

    Every clause is needed: section "every clause of `CanonString` is needed" below. -/
structure CanonString (e : Env) (scheme netloc path query fragment : Str) : Prop where
  schemeOK : SchemeOK' scheme
  netlocOK : CanonNetloc e scheme netloc
  pathC : Canon (Gen.PATH_REQUOTER.tab e.b) path
  queryC : Canon (Gen.QUERY_REQUOTER.tab e.b) query
  fragmentC : Canon (Gen.FRAGMENT_REQUOTER.tab e.b) fragment
  rooted : netloc ≠ [] → (path = [] ∨ path.head? = some 47)
  nodots : netloc ≠ [] → NoDotSegments path
  nonempty : netloc ≠ [] → path = [] → query = [] ∧ fragment = []
  first_segment : scheme = [] → netloc = [] → 58 ∈ path →
    (path.takeWhile (· ≠ 58) = [] ∨ (path.takeWhile (· ≠ 58)).all (fun c => mem c Gen.schemeChars) = false)
  authority_scheme : scheme ≠ [] → Gen.usesAuthority.contains scheme = true → netloc = [] →
    (path = [] ∨ path.head? = some 47)

/-- the string with these five components: `unsplit_result` (YarlModel/Parse.lean); shape by shape it is
    `path?query#fragment` (`canonText_relative`), `scheme:path…` (`canonText_scheme_path`),
    `scheme://path…` (`canonText_scheme_empty_authority`), `//authority/path…` (`canonText_network_path`),
    `scheme://authority/path…` (`canonText_compose`) -/
def canonText (scheme netloc path query fragment : Str) : Str :=
  unsplitResult scheme netloc path query fragment

/-- the link to C03Reach: the record with these components and an empty cache satisfies the hypotheses of
    `C03_fixed_point_of_canon` -/
theorem canonString_c03 (e : Env) (scheme netloc path query fragment : Str)
    (h : CanonString e scheme netloc path query fragment) :
    CanonUrl e.b (fromParts scheme netloc path query fragment) ∧
    NetlocCanon e (fromParts scheme netloc path query fragment) ∧ SchemeOK' scheme ∧
    C03Guards (fromParts scheme netloc path query fragment) := by
  refine ⟨⟨h.pathC, h.queryC, h.fragmentC, h.nodots, h.rooted⟩, ?_, h.schemeOK, ⟨h.first_segment, h.authority_scheme⟩⟩
  cases h.netlocOK with
  | empty hn => exact .empty hn rfl
  | auth user pw host port hn hu hh hp => exact .auth user pw host port hn hu hh hp.range (Or.inl rfl)

/-- a canonical authority is a `NetFix` text whose cached port is not the default one -/
theorem CanonNetloc.netFix {e : Env} {scheme N : Str} (h : CanonNetloc e scheme N) :
    ∃ pre, NetFix e scheme N pre ∧ ∀ p, pre.bind (·.explicitPort) = some p → some p ≠ defaultPort scheme := by
  cases h with
  | empty hn =>
    subst hn
    exact ⟨none, netFix_nil e scheme, fun _ h => nomatch h⟩
  | auth user pw host port hn hu hh hp =>
    subst hn
    exact ⟨_, netFix_authText e scheme hu hh hp.range, hp.notDefault⟩

/-- The whole grammar: a canonical string is parsed into exactly its five components, and printing
    the parsed URL gives back the very string — `str(URL(s)) == s` -/
theorem C04_identity_general (e : Env) (scheme netloc path query fragment : Str)
    (h : CanonString e scheme netloc path query fragment) :
    ∃ u, encodeUrl e (canonText scheme netloc path query fragment) = .ok u ∧
      str e u = .ok (canonText scheme netloc path query fragment) ∧
      u.scheme = scheme ∧ u.netloc = netloc ∧ u.path = path ∧ u.query = query ∧ u.fragment = fragment := by
  obtain ⟨pre, hN, hport⟩ := h.netlocOK.netFix
  obtain ⟨henc, hstr⟩ := identity_netFix e scheme netloc path query fragment pre h.schemeOK hN hport h.pathC h.queryC
    h.fragmentC h.rooted h.nodots h.nonempty h.first_segment h.authority_scheme
  exact ⟨_, henc, hstr, rfl, rfl, rfl, rfl, rfl⟩

/-! ## the text of a canonical string, shape by shape -/

/-- no scheme, no authority, path not starting with "//": `path[?query][#fragment]` -/
theorem canonText_relative (path query fragment : Str) (h2 : path.take 2 ≠ [47, 47]) :
    canonText [] [] path query fragment = path ++ qPart query ++ fPart fragment := by
  have hm : UnsplitLemmas.marker [] [] path = false := by simp [UnsplitLemmas.marker, h2]
  rw [canonText, unsplit_closed _ _ _ _ _ (by simp [hm]), hm]
  rfl

/-- a scheme that does not use an authority, no authority, path not starting with "//":
    `scheme:path[?query][#fragment]` -/
theorem canonText_scheme_path (scheme path query fragment : Str) (hs : scheme ≠ [])
    (hu : Gen.usesAuthority.contains scheme = false) (h2 : path.take 2 ≠ [47, 47]) :
    canonText scheme [] path query fragment = scheme ++ [58] ++ path ++ qPart query ++ fPart fragment := by
  have hu' : scheme ∉ Gen.usesAuthority := by simpa using hu
  have hm : UnsplitLemmas.marker scheme [] path = false := by simp [UnsplitLemmas.marker, hu', h2]
  rw [canonText, unsplit_closed _ _ _ _ _ (by simp [hm]), hm]
  simp [UnsplitLemmas.schemeStr, isEmpty_false hs]

/-- a scheme that uses an authority, the authority empty, the path empty or rooted:
    `scheme://path[?query][#fragment]` (as in "file:///etc/passwd") -/
theorem canonText_scheme_empty_authority (scheme path query fragment : Str) (hs : scheme ≠ [])
    (hu : Gen.usesAuthority.contains scheme = true) (hr : path = [] ∨ path.head? = some 47) :
    canonText scheme [] path query fragment = composeUrl scheme [] path query fragment := by
  have hu' : scheme ∈ Gen.usesAuthority := by simpa using hu
  rw [canonText, unsplit_closed _ _ _ _ _ fun _ => hr]
  simp [UnsplitLemmas.schemeStr, UnsplitLemmas.marker, composeUrl, isEmpty_false hs, hu']

/-- no scheme, a non-empty authority, the path empty or rooted: `//authority path[?query][#fragment]` -/
theorem canonText_network_path (netloc path query fragment : Str) (hn : netloc ≠ [])
    (hr : path = [] ∨ path.head? = some 47) :
    canonText [] netloc path query fragment = [47, 47] ++ netloc ++ path ++ qPart query ++ fPart fragment := by
  rw [canonText, unsplit_closed _ _ _ _ _ fun _ => hr]
  simp [UnsplitLemmas.schemeStr, UnsplitLemmas.marker, isEmpty_false hn]

/-- a scheme and a non-empty authority: the `composeUrl` of C04.lean -/
theorem canonText_compose (scheme netloc path query fragment : Str) (hs : scheme ≠ []) (hn : netloc ≠ [])
    (hr : path = [] ∨ path.head? = some 47) :
    canonText scheme netloc path query fragment = composeUrl scheme netloc path query fragment :=
  unsplit_compose scheme netloc path query fragment hs hn (rooted_of_rootedP hr)

/-! ## corollaries with friendly hypotheses -/

namespace IdGen

theorem portOK_none (scheme : Str) : PortOK scheme none :=
  ⟨fun _ hp => (nomatch hp), fun _ hp => (nomatch hp)⟩

/-- a plain lower-case host alone is a canonical authority -/
theorem canonNetloc_basic (e : Env) (scheme : Str) {h : Str} (hh : HostBasic h) : CanonNetloc e scheme h :=
  .auth none none h none (authText_host h (hostBasic_no_colon hh)).symm (userInfoOK_none e.b) (hostFix_basic e.o hh)
    (portOK_none scheme)

end IdGen
open IdGen

/-- the relative shapes satisfy `CanonString` (exact form of the first-segment guard) -/
theorem canonString_relative (e : Env) (path query fragment : Str)
    (hp : Canon (Gen.PATH_REQUOTER.tab e.b) path) (hq : Canon (Gen.QUERY_REQUOTER.tab e.b) query)
    (hf : Canon (Gen.FRAGMENT_REQUOTER.tab e.b) fragment)
    (hc : 58 ∈ path → (path.takeWhile (· ≠ 58) = [] ∨
      (path.takeWhile (· ≠ 58)).all (fun c => mem c Gen.schemeChars) = false)) :
    CanonString e [] [] path query fragment :=
  ⟨Or.inl rfl, .empty rfl, hp, hq, hf, fun h => absurd rfl h, fun h => absurd rfl h, fun h => absurd rfl h,
    fun _ _ hm => hc hm, fun h => absurd rfl h⟩

/-- RELATIVE references `path[?query][#fragment]` ("/a/b?q#f", "a/b", "?q", "#f", ""): components canonical
    for their requoters, the path not starting with "//" (that would read as an authority) and without ':'
    in its first segment (that would read as a scheme) -/
theorem C04_identity_relative (e : Env) (path query fragment : Str)
    (hp : Canon (Gen.PATH_REQUOTER.tab e.b) path) (hq : Canon (Gen.QUERY_REQUOTER.tab e.b) query)
    (hf : Canon (Gen.FRAGMENT_REQUOTER.tab e.b) fragment)
    (h2 : path.take 2 ≠ [47, 47]) (hc : 58 ∉ path.takeWhile (· ≠ 47)) :
    ∃ u, encodeUrl e (path ++ qPart query ++ fPart fragment) = .ok u ∧
      str e u = .ok (path ++ qPart query ++ fPart fragment) ∧
      u.scheme = [] ∧ u.netloc = [] ∧ u.path = path ∧ u.query = query ∧ u.fragment = fragment := by
  have h := C04_identity_general e [] [] path query fragment
    (canonString_relative e path query fragment hp hq hf (C07_first_segment_suffices path hc))
  rw [canonText_relative path query fragment h2] at h
  exact h

/-- `scheme:path` shapes satisfy `CanonString` -/
theorem canonString_scheme_path (e : Env) (scheme path query fragment : Str) (hs : SchemeOK scheme)
    (hp : Canon (Gen.PATH_REQUOTER.tab e.b) path) (hq : Canon (Gen.QUERY_REQUOTER.tab e.b) query)
    (hf : Canon (Gen.FRAGMENT_REQUOTER.tab e.b) fragment)
    (hu : Gen.usesAuthority.contains scheme = true → (path = [] ∨ path.head? = some 47)) :
    CanonString e scheme [] path query fragment :=
  ⟨Or.inr hs, .empty rfl, hp, hq, hf, fun h => absurd rfl h, fun h => absurd rfl h, fun h => absurd rfl h,
    fun h => absurd h hs.1, fun _ h _ => hu h⟩

/-- SCHEME + PATH, no authority, for a scheme outside `uses_authority` ("mailto:x@y", "x:/p", "urn:a:b",
    "data:…"): `scheme:path[?query][#fragment]`; the path (rootless, rooted or empty) must not start with "//" -/
theorem C04_identity_scheme_only_path (e : Env) (scheme path query fragment : Str) (hs : SchemeOK scheme)
    (hu : Gen.usesAuthority.contains scheme = false)
    (hp : Canon (Gen.PATH_REQUOTER.tab e.b) path) (hq : Canon (Gen.QUERY_REQUOTER.tab e.b) query)
    (hf : Canon (Gen.FRAGMENT_REQUOTER.tab e.b) fragment) (h2 : path.take 2 ≠ [47, 47]) :
    ∃ u, encodeUrl e (scheme ++ [58] ++ path ++ qPart query ++ fPart fragment) = .ok u ∧
      str e u = .ok (scheme ++ [58] ++ path ++ qPart query ++ fPart fragment) ∧
      u.scheme = scheme ∧ u.netloc = [] ∧ u.path = path ∧ u.query = query ∧ u.fragment = fragment := by
  have h := C04_identity_general e scheme [] path query fragment
    (canonString_scheme_path e scheme path query fragment hs hp hq hf (fun h => by rw [hu] at h; cases h))
  rw [canonText_scheme_path scheme path query fragment hs.1 hu h2] at h
  exact h

/-- SCHEME + EMPTY AUTHORITY + rooted-or-empty PATH for a scheme in `uses_authority` ("file:///etc/x",
    "http://", "http:///p?q"): `scheme://path[?query][#fragment]`.  (The single-slash spelling "file:/etc/x" is
    NOT a fixed point: `C04_authority_scheme_single_slash_not_fixed`.) -/
theorem C04_identity_scheme_empty_authority (e : Env) (scheme path query fragment : Str) (hs : SchemeOK scheme)
    (hu : Gen.usesAuthority.contains scheme = true) (hr : path = [] ∨ path.head? = some 47)
    (hp : Canon (Gen.PATH_REQUOTER.tab e.b) path) (hq : Canon (Gen.QUERY_REQUOTER.tab e.b) query)
    (hf : Canon (Gen.FRAGMENT_REQUOTER.tab e.b) fragment) :
    ∃ u, encodeUrl e (composeUrl scheme [] path query fragment) = .ok u ∧
      str e u = .ok (composeUrl scheme [] path query fragment) ∧
      u.scheme = scheme ∧ u.netloc = [] ∧ u.path = path ∧ u.query = query ∧ u.fragment = fragment := by
  have h := C04_identity_general e scheme [] path query fragment
    (canonString_scheme_path e scheme path query fragment hs hp hq hf (fun _ => hr))
  rw [canonText_scheme_empty_authority scheme path query fragment hs.1 hu hr] at h
  exact h

/-- an authority `[user[:password]@]host[:port]` with the component conditions of C04.lean satisfies
    `CanonString`, with or without a scheme -/
theorem canonString_authority (e : Env) (scheme : Str) (user pw : Option Str) (h : Str) (port : Option Nat)
    (path query fragment : Str) (hs : SchemeOK' scheme) (hu : UserInfoOK e.b user pw) (hh : HostFix e.o h)
    (hp : PortOK scheme port) (hc : CompOK e.b path query fragment) :
    CanonString e scheme (authText user pw h port) path query fragment := by
  have hne : authText user pw h port ≠ [] := NetlocLemmas.makeNetloc_ne_nil id user pw hh.ok.1 port
  exact ⟨hs, .auth user pw h port rfl hu hh hp, hc.pathC, hc.queryC, hc.fragmentC,
    fun _ => rootedOrEmpty_of_rooted hc.rooted, fun _ => noDotSegments_of_compOK hc, fun _ => hc.nonempty,
    fun _ h2 => absurd h2 hne, fun _ _ h3 => absurd h3 hne⟩

/-- NETWORK-PATH references `//host/path[?query][#fragment]` (no scheme) for a plain lower-case host -/
theorem C04_identity_network_path (e : Env) (host path query fragment : Str) (hh : HostBasic host)
    (hc : CompOK e.b path query fragment) :
    ∃ u, encodeUrl e ([47, 47] ++ host ++ path ++ qPart query ++ fPart fragment) = .ok u ∧
      str e u = .ok ([47, 47] ++ host ++ path ++ qPart query ++ fPart fragment) ∧
      u.scheme = [] ∧ u.netloc = host ∧ u.path = path ∧ u.query = query ∧ u.fragment = fragment := by
  have h := C04_identity_general e [] _ path query fragment
    (canonString_authority e [] none none host none path query fragment (Or.inl rfl) (userInfoOK_none _)
      (hostFix_basic e.o hh) (portOK_none _) hc)
  rw [authText_host host (hostBasic_no_colon hh)] at h
  rw [canonText_network_path host path query fragment hh.1 (rootedOrEmpty_of_rooted hc.rooted)] at h
  exact h

/-- … and for any authority `[user[:password]@]host[:port]` (no scheme, so no default port) -/
theorem C04_identity_network_path_authority (e : Env) (user pw : Option Str) (h : Str) (port : Option Nat)
    (path query fragment : Str) (hu : UserInfoOK e.b user pw) (hh : HostFix e.o h)
    (hp : ∀ p, port = some p → p ≤ 65535) (hc : CompOK e.b path query fragment) :
    ∃ u, encodeUrl e ([47, 47] ++ authText user pw h port ++ path ++ qPart query ++ fPart fragment) = .ok u ∧
      str e u = .ok ([47, 47] ++ authText user pw h port ++ path ++ qPart query ++ fPart fragment) ∧
      u.scheme = [] ∧ u.netloc = authText user pw h port ∧ u.path = path ∧ u.query = query ∧
      u.fragment = fragment := by
  have h' := C04_identity_general e [] _ path query fragment
    (canonString_authority e [] user pw h port path query fragment (Or.inl rfl) hu hh
      ⟨hp, fun p _ => by rw [show defaultPort [] = none from rfl]; exact fun h => nomatch h⟩ hc)
  rw [canonText_network_path (authText user pw h port) path query fragment (NetlocLemmas.makeNetloc_ne_nil id user pw hh.ok.1 port)
    (rootedOrEmpty_of_rooted hc.rooted)] at h'
  exact h'

/-- `C04_identity_authority` of C04.lean is an instance of the general theorem -/
theorem C04_identity_authority_of_general (e : Env) (scheme : Str) (user pw : Option Str) (h : Str)
    (port : Option Nat) (path query fragment : Str) (hs : SchemeOK scheme) (hu : UserInfoOK e.b user pw)
    (hh : HostFix e.o h) (hp : PortOK scheme port) (hc : CompOK e.b path query fragment) :
    ∃ u, encodeUrl e (composeUrl scheme (authText user pw h port) path query fragment) = .ok u ∧
      str e u = .ok (composeUrl scheme (authText user pw h port) path query fragment) ∧
      u.scheme = scheme ∧ u.netloc = authText user pw h port ∧ u.path = path ∧ u.query = query ∧
      u.fragment = fragment := by
  have h' := C04_identity_general e scheme _ path query fragment
    (canonString_authority e scheme user pw h port path query fragment (Or.inr hs) hu hh hp hc)
  rw [canonText_compose scheme (authText user pw h port) path query fragment hs.1
    (NetlocLemmas.makeNetloc_ne_nil id user pw hh.ok.1 port) (rootedOrEmpty_of_rooted hc.rooted)] at h'
  exact h'

/-! ## the round trip as one function; a Boolean checker for the component clauses -/

/-- `str(URL(s))` -/
def C04_roundTrip (e : Env) (s : Str) : R Str := encodeUrl e s >>= str e

theorem IdGen.roundTrip_iff {e : Env} {s t : Str} :
    C04_roundTrip e s = .ok t ↔ ∃ u, encodeUrl e s = .ok u ∧ str e u = .ok t := by
  unfold C04_roundTrip
  cases encodeUrl e s with
  | error err => exact ⟨fun h => (nomatch h), fun ⟨_, h, _⟩ => (nomatch h)⟩
  | ok u => exact ⟨fun h => ⟨u, rfl, h⟩, fun ⟨_, h, h'⟩ => by cases h; exact h'⟩

theorem IdGen.roundTrip_at {e : Env} {t s : Str} {P : Url → Prop} (hs : t = s)
    (h : ∃ u, encodeUrl e t = .ok u ∧ str e u = .ok t ∧ P u) : C04_roundTrip e s = .ok s :=
  roundTrip_iff.2 (at_text_fst hs h)

/-- C04 in one line: the round trip of a canonical string is that string -/
theorem C04_roundTrip_general (e : Env) (scheme netloc path query fragment : Str)
    (h : CanonString e scheme netloc path query fragment) :
    C04_roundTrip e (canonText scheme netloc path query fragment) =
      .ok (canonText scheme netloc path query fragment) :=
  let ⟨u, h1, h2, _⟩ := C04_identity_general e scheme netloc path query fragment h
  roundTrip_iff.2 ⟨u, h1, h2⟩

/-- the eight component clauses of `CanonString` (all but `schemeOK` and `netlocOK`), in the order of the
    structure, as Booleans (`isCanon` is the sound checker of `Canon`) -/
def C04_canonClauses (b : Backend) (scheme netloc path query fragment : Str) : List Bool :=
  [isCanon (Gen.PATH_REQUOTER.tab b) path, isCanon (Gen.QUERY_REQUOTER.tab b) query,
   isCanon (Gen.FRAGMENT_REQUOTER.tab b) fragment,
   decide (netloc ≠ [] → (path = [] ∨ path.head? = some 47)),
   decide (netloc ≠ [] → NoDotSegments path),
   decide (netloc ≠ [] → path = [] → query = [] ∧ fragment = []),
   decide (scheme = [] → netloc = [] → 58 ∈ path →
     (path.takeWhile (· ≠ 58) = [] ∨ (path.takeWhile (· ≠ 58)).all (fun c => mem c Gen.schemeChars) = false)),
   decide (scheme ≠ [] → Gen.usesAuthority.contains scheme = true → netloc = [] →
     (path = [] ∨ path.head? = some 47))]

/-- exactly clause `i` (0 path, 1 query, 2 fragment, 3 rooted, 4 nodots, 5 nonempty, 6 first_segment,
    7 authority_scheme) fails -/
def C04_OnlyClauseFails (i : Nat) (b : Backend) (scheme netloc path query fragment : Str) : Prop :=
  C04_canonClauses b scheme netloc path query fragment = (List.range 8).map (fun j => decide (j ≠ i))

instance (i : Nat) (b : Backend) (scheme netloc path query fragment : Str) :
    Decidable (C04_OnlyClauseFails i b scheme netloc path query fragment) := by
  unfold C04_OnlyClauseFails; infer_instance

/-- a canonical scheme, a canonical authority and the eight checks give `CanonString` -/
theorem canonString_of_clauses (e : Env) (scheme netloc path query fragment : Str) (hs : SchemeOK' scheme)
    (hn : CanonNetloc e scheme netloc)
    (h : C04_canonClauses e.b scheme netloc path query fragment = List.replicate 8 true) :
    CanonString e scheme netloc path query fragment := by
  unfold C04_canonClauses at h
  simp only [List.replicate, List.cons.injEq, decide_eq_true_eq, and_true] at h
  obtain ⟨h0, h1, h2, h3, h4, h5, h6, h7⟩ := h
  exact ⟨hs, hn, isCanon_sound _ _ h0, isCanon_sound _ _ h1, isCanon_sound _ _ h2, h3, h4, h5, h6, h7⟩

namespace IdGen

/-- text that a generated requoter changes is not canonical for it -/
theorem not_canon_of_run_ne (b : Backend) (a : QArgs) (ha : a ∈ Gen.allQuoters) (hreq : a.requote = true) (s : Str)
    (h : a.run b s ≠ s) : ¬ Canon (a.tab b) s :=
  fun hc => h (run_fixed b a ha hreq hc)

end IdGen

/-! ## every clause of `CanonString` is needed

  For each clause: components violating that clause only, and a string that the round trip changes. -/

/-- `PortOK.notDefault`: "http://h:80/" comes back as "http://h/" -/
theorem C04_general_default_port_needed (b : Backend) :
    SchemeOK' "http".toStr ∧ UserInfoOK b none none ∧ HostFix Oracles.empty "h".toStr ∧
    (∀ p, some 80 = some p → p ≤ 65535) ∧ ¬ PortOK "http".toStr (some 80) ∧
    C04_canonClauses b "http".toStr (authText none none "h".toStr (some 80)) "/".toStr [] [] = List.replicate 8 true ∧
    canonText "http".toStr (authText none none "h".toStr (some 80)) "/".toStr [] [] = "http://h:80/".toStr ∧
    C04_roundTrip ⟨b, Oracles.empty⟩ "http://h:80/".toStr = .ok "http://h/".toStr := by
  refine ⟨by decide, userInfoOK_none b, hostFix_basic _ (by decide), fun p hp => by cases hp; decide, ?_,
    by cases b <;> decide +kernel, by decide +kernel, by cases b <;> decide +kernel⟩
  intro h
  exact h.notDefault 80 rfl (by decide)

/-- `nodots`: "http://h/a/../b" comes back as "http://h/b" -/
theorem C04_general_dot_segment_needed (b : Backend) :
    SchemeOK' "http".toStr ∧ CanonNetloc ⟨b, Oracles.empty⟩ "http".toStr "h".toStr ∧
    C04_OnlyClauseFails 4 b "http".toStr "h".toStr "/a/../b".toStr [] [] ∧
    canonText "http".toStr "h".toStr "/a/../b".toStr [] [] = "http://h/a/../b".toStr ∧
    C04_roundTrip ⟨b, Oracles.empty⟩ "http://h/a/../b".toStr = .ok "http://h/b".toStr :=
  ⟨by decide, canonNetloc_basic _ _ (by decide), by cases b <;> decide +kernel, by decide +kernel,
    by cases b <;> decide +kernel⟩

/-- `nonempty`: "http://h?q" comes back as "http://h/?q" (also without a scheme: "//h?q" ↦ "//h/?q") -/
theorem C04_general_empty_path_needed (b : Backend) :
    SchemeOK' "http".toStr ∧ CanonNetloc ⟨b, Oracles.empty⟩ "http".toStr "h".toStr ∧
    C04_OnlyClauseFails 5 b "http".toStr "h".toStr [] "q".toStr [] ∧
    canonText "http".toStr "h".toStr [] "q".toStr [] = "http://h?q".toStr ∧
    C04_roundTrip ⟨b, Oracles.empty⟩ "http://h?q".toStr = .ok "http://h/?q".toStr ∧
    C04_roundTrip ⟨b, Oracles.empty⟩ "//h?q".toStr = .ok "//h/?q".toStr ∧
    C04_roundTrip ⟨b, Oracles.empty⟩ "//h#f".toStr = .ok "//h/#f".toStr :=
  ⟨by decide, canonNetloc_basic _ _ (by decide), by cases b <;> decide +kernel, by decide +kernel,
    by cases b <;> decide +kernel,
    by cases b <;> decide +kernel, by cases b <;> decide +kernel⟩

/-- `schemeOK`: an upper-case scheme is lowered -/
theorem C04_general_scheme_needed (b : Backend) :
    ¬ SchemeOK' "HTTP".toStr ∧ CanonNetloc ⟨b, Oracles.empty⟩ "HTTP".toStr "h".toStr ∧
    C04_canonClauses b "HTTP".toStr "h".toStr "/".toStr [] [] = List.replicate 8 true ∧
    canonText "HTTP".toStr "h".toStr "/".toStr [] [] = "HTTP://h/".toStr ∧
    C04_roundTrip ⟨b, Oracles.empty⟩ "HTTP://h/".toStr = .ok "http://h/".toStr ∧
    C04_roundTrip ⟨b, Oracles.empty⟩ "Mailto:x".toStr = .ok "mailto:x".toStr :=
  ⟨by decide, canonNetloc_basic _ _ (by decide), by cases b <;> decide +kernel, by decide +kernel,
    by cases b <;> decide +kernel,
    by cases b <;> decide +kernel⟩

/-- `HostFix`: an upper-case host is lowered -/
theorem C04_general_host_needed (b : Backend) :
    SchemeOK' "http".toStr ∧ ¬ HostFix Oracles.empty "H".toStr ∧
    C04_canonClauses b "http".toStr "H".toStr "/".toStr [] [] = List.replicate 8 true ∧
    canonText "http".toStr "H".toStr "/".toStr [] [] = "http://H/".toStr ∧
    C04_roundTrip ⟨b, Oracles.empty⟩ "http://H/".toStr = .ok "http://h/".toStr ∧
    C04_roundTrip ⟨b, Oracles.empty⟩ "//H/".toStr = .ok "//h/".toStr := by
  refine ⟨by decide, ?_, by cases b <;> decide +kernel, by decide +kernel,
    by cases b <;> decide +kernel,
    by cases b <;> decide +kernel⟩
  intro h
  have := h.enc
  revert this
  decide +kernel

/-- `pathC` / `queryC` / `fragmentC`: the superfluous escape "%41" is decoded, the lower-case escape "%c3%a9"
    is upper-cased, in every component -/
theorem C04_general_escape_needed (b : Backend) :
    (¬ Canon (Gen.PATH_REQUOTER.tab b) "/%41".toStr ∧ C04_OnlyClauseFails 0 b [] [] "/%41".toStr [] [] ∧
      canonText [] [] "/%41".toStr [] [] = "/%41".toStr ∧
      C04_roundTrip ⟨b, Oracles.empty⟩ "/%41".toStr = .ok "/A".toStr) ∧
    (¬ Canon (Gen.PATH_REQUOTER.tab b) "/%c3%a9".toStr ∧ C04_OnlyClauseFails 0 b [] [] "/%c3%a9".toStr [] [] ∧
      canonText [] [] "/%c3%a9".toStr [] [] = "/%c3%a9".toStr ∧
      C04_roundTrip ⟨b, Oracles.empty⟩ "/%c3%a9".toStr = .ok "/%C3%A9".toStr) ∧
    (¬ Canon (Gen.QUERY_REQUOTER.tab b) "a=%41".toStr ∧ C04_OnlyClauseFails 1 b [] [] [] "a=%41".toStr [] ∧
      C04_roundTrip ⟨b, Oracles.empty⟩ "?a=%41".toStr = .ok "?a=A".toStr ∧
      C04_roundTrip ⟨b, Oracles.empty⟩ "?a=%2b".toStr = .ok "?a=%2B".toStr) ∧
    (¬ Canon (Gen.FRAGMENT_REQUOTER.tab b) "%41".toStr ∧ C04_OnlyClauseFails 2 b [] [] [] [] "%41".toStr ∧
      C04_roundTrip ⟨b, Oracles.empty⟩ "#%41".toStr = .ok "#A".toStr ∧
      C04_roundTrip ⟨b, Oracles.empty⟩ "#%c3%a9".toStr = .ok "#%C3%A9".toStr) := by
  refine ⟨⟨not_canon_of_run_ne b _ pr_mem rfl _ (by cases b <;> decide +kernel),
    by cases b <;> decide +kernel,
    by decide +kernel, by cases b <;> decide +kernel⟩,
    ⟨not_canon_of_run_ne b _ pr_mem rfl _ (by cases b <;> decide +kernel),
      by cases b <;> decide +kernel,
      by decide +kernel, by cases b <;> decide +kernel⟩,
    ⟨not_canon_of_run_ne b _ qr_mem rfl _ (by cases b <;> decide +kernel),
      by cases b <;> decide +kernel,
      by cases b <;> decide +kernel, by cases b <;> decide +kernel⟩,
    ⟨not_canon_of_run_ne b _ fr_mem rfl _ (by cases b <;> decide +kernel),
      by cases b <;> decide +kernel,
      by cases b <;> decide +kernel, by cases b <;> decide +kernel⟩⟩

/-- `first_segment` (known exclusion 1): the relative path "A:b" is canonical path text, but the string "A:b" reads
    as scheme "A" and comes back as "a:b"; the string "a:b" is a fixed point, but as scheme "a" + path "b" -/
theorem C04_general_first_segment_needed (b : Backend) :
    C04_OnlyClauseFails 6 b [] [] "A:b".toStr [] [] ∧ canonText [] [] "A:b".toStr [] [] = "A:b".toStr ∧
    C04_roundTrip ⟨b, Oracles.empty⟩ "A:b".toStr = .ok "a:b".toStr ∧
    C04_OnlyClauseFails 6 b [] [] "a:b".toStr [] [] ∧ canonText [] [] "a:b".toStr [] [] = "a:b".toStr ∧
    (encodeUrl ⟨b, Oracles.empty⟩ "a:b".toStr).map (fun u => (u.scheme, u.path)) = .ok ("a".toStr, "b".toStr) := by
  cases b <;> decide +kernel

/-- `authority_scheme` (known exclusion 2): for a scheme in `uses_authority` a rootless path is written behind
    "scheme:///" and so gains a "/"; the string "file:a/b" itself comes back as "file:///a/b" -/
theorem C04_general_authority_scheme_needed (b : Backend) :
    SchemeOK' "file".toStr ∧ C04_OnlyClauseFails 7 b "file".toStr [] "a/b".toStr [] [] ∧
    canonText "file".toStr [] "a/b".toStr [] [] = "file:///a/b".toStr ∧
    (encodeUrl ⟨b, Oracles.empty⟩ "file:///a/b".toStr).map (·.path) = .ok "/a/b".toStr ∧
    C04_roundTrip ⟨b, Oracles.empty⟩ "file:a/b".toStr = .ok "file:///a/b".toStr := by
  cases b <;> decide +kernel

/-- … and the single-slash spelling `scheme:/path` of a scheme in `uses_authority` is not a fixed point either:
    "file:/p" comes back as "file:///p" (the canonical spelling is `canonText "file" "" "/p" = "file:///p"`,
    covered by `C04_identity_scheme_empty_authority`) -/
theorem C04_authority_scheme_single_slash_not_fixed (b : Backend) :
    C04_roundTrip ⟨b, Oracles.empty⟩ "file:/p".toStr = .ok "file:///p".toStr ∧
    C04_roundTrip ⟨b, Oracles.empty⟩ "http:/p".toStr = .ok "http:///p".toStr ∧
    canonText "file".toStr [] "/p".toStr [] [] = "file:///p".toStr ∧
    C04_roundTrip ⟨b, Oracles.empty⟩ "file:///p".toStr = .ok "file:///p".toStr := by
  cases b <;> decide +kernel

/-- `rooted`: under an authority a rootless path is written behind a "/" ("http://h/a"), and without a scheme
    `unsplit_result` drops the authority altogether (":a", see `C07_partsOK_rooted_counterexample`) -/
theorem C04_general_rooted_needed (b : Backend) :
    C04_OnlyClauseFails 3 b "http".toStr "h".toStr "a".toStr [] [] ∧
    canonText "http".toStr "h".toStr "a".toStr [] [] = "http://h/a".toStr ∧
    (encodeUrl ⟨b, Oracles.empty⟩ "http://h/a".toStr).map (·.path) = .ok "/a".toStr ∧
    C04_OnlyClauseFails 3 b [] "h".toStr "a".toStr [] [] ∧
    canonText [] "h".toStr "a".toStr [] [] = ":a".toStr := by
  cases b <;> decide +kernel

/-- the hypothesis "the path does not start with //" of the friendly corollaries `C04_identity_relative` and
    `C04_identity_scheme_only_path`: such a path is canonical (`CanonString` holds, the general theorem applies
    and writes "////X"), but the plain concatenation "//X" reads as an authority and comes back as "//x" -/
theorem C04_double_slash_path (b : Backend) :
    CanonString ⟨b, Oracles.empty⟩ [] [] "//X".toStr [] [] ∧ canonText [] [] "//X".toStr [] [] = "////X".toStr ∧
    C04_roundTrip ⟨b, Oracles.empty⟩ "////X".toStr = .ok "////X".toStr ∧
    C04_roundTrip ⟨b, Oracles.empty⟩ "//X".toStr = .ok "//x".toStr ∧
    canonText "x".toStr [] "//p".toStr [] [] = "x:////p".toStr ∧
    C04_roundTrip ⟨b, Oracles.empty⟩ "x://p".toStr = .ok "x://p".toStr ∧
    (encodeUrl ⟨b, Oracles.empty⟩ "x://p".toStr).map (fun u => (u.netloc, u.path)) = .ok ("p".toStr, []) := by
  refine ⟨canonString_of_clauses _ _ _ _ _ _ (by decide) (.empty rfl) (by cases b <;> decide +kernel),
    by decide +kernel, by cases b <;> decide +kernel, by cases b <;> decide +kernel,
    by decide +kernel,
    by cases b <;> decide +kernel, by cases b <;> decide +kernel⟩

/-! ## non-vacuity: concrete canonical strings of every shape (both backends) -/

namespace IdGen

/-- "/a%20b/c?x=1&y=%26#f" -/
theorem ex_relative (b : Backend) :
    CanonString ⟨b, Oracles.empty⟩ [] [] "/a%20b/c".toStr "x=1&y=%26".toStr "f".toStr :=
  canonString_of_clauses _ _ _ _ _ _ (by decide) (.empty rfl) (by cases b <;> decide +kernel)

/-- "mailto:user@example.com" -/
theorem ex_mailto (b : Backend) :
    CanonString ⟨b, Oracles.empty⟩ "mailto".toStr [] "user@example.com".toStr [] [] :=
  canonString_of_clauses _ _ _ _ _ _ (by decide) (.empty rfl) (by cases b <;> decide +kernel)

/-- "//example.com/p" -/
theorem ex_network (b : Backend) :
    CanonString ⟨b, Oracles.empty⟩ [] "example.com".toStr "/p".toStr [] [] :=
  canonString_of_clauses _ _ _ _ _ _ (by decide) (canonNetloc_basic _ _ (by decide)) (by cases b <;> decide +kernel)

/-- "http://u:p%40w@[2001:db8::1]:8080/a/b?q#f" -/
theorem ex_full (b : Backend) :
    CanonString ⟨b, Oracles.empty⟩ "http".toStr "u:p%40w@[2001:db8::1]:8080".toStr "/a/b".toStr "q".toStr "f".toStr :=
  canonString_of_clauses _ _ _ _ _ _ (by decide)
    (.auth (some "u".toStr) (some "p%40w".toStr) (ipv6ToStr [0x2001, 0xdb8, 0, 0, 0, 0, 0, 1]) (some 8080)
      (by str_lits; decide +kernel)
      (userInfoOK_some (by decide) (by cases b <;> decide +kernel) (by cases b <;> decide +kernel))
      (hostFix_ipv6 _ _ (by decide) (by decide))
      (portOK_some (by decide) (by decide)))
    (by str_lits; cases b <;> decide +kernel)

/-- "?q" -/
theorem ex_query (b : Backend) : CanonString ⟨b, Oracles.empty⟩ [] [] [] "q".toStr [] :=
  canonString_of_clauses _ _ _ _ _ _ (by decide) (.empty rfl) (by cases b <;> decide +kernel)

/-- "" -/
theorem ex_empty (b : Backend) : CanonString ⟨b, Oracles.empty⟩ [] [] [] [] [] :=
  canonString_of_clauses _ _ _ _ _ _ (by decide) (.empty rfl) (by cases b <;> decide +kernel)

end IdGen

example : canonText [] [] "/a%20b/c".toStr "x=1&y=%26".toStr "f".toStr = "/a%20b/c?x=1&y=%26#f".toStr := by str_lits; decide +kernel
example : canonText "mailto".toStr [] "user@example.com".toStr [] [] = "mailto:user@example.com".toStr := by str_lits; decide +kernel
example : canonText [] "example.com".toStr "/p".toStr [] [] = "//example.com/p".toStr := by str_lits; decide +kernel
example : canonText "http".toStr "u:p%40w@[2001:db8::1]:8080".toStr "/a/b".toStr "q".toStr "f".toStr =
    "http://u:p%40w@[2001:db8::1]:8080/a/b?q#f".toStr := by str_lits; decide +kernel
example : canonText [] [] [] "q".toStr [] = "?q".toStr := by str_lits; decide +kernel
example : canonText [] [] [] [] [] = [] := by str_lits; decide +kernel

/-- the identity, instantiated: each of the six strings is parsed into exactly its components and printed back -/
theorem C04_general_examples (b : Backend) :
    (∃ u, encodeUrl ⟨b, Oracles.empty⟩ "/a%20b/c?x=1&y=%26#f".toStr = .ok u ∧
      str ⟨b, Oracles.empty⟩ u = .ok "/a%20b/c?x=1&y=%26#f".toStr ∧ u.scheme = [] ∧ u.netloc = [] ∧
      u.path = "/a%20b/c".toStr ∧ u.query = "x=1&y=%26".toStr ∧ u.fragment = "f".toStr) ∧
    (∃ u, encodeUrl ⟨b, Oracles.empty⟩ "mailto:user@example.com".toStr = .ok u ∧
      str ⟨b, Oracles.empty⟩ u = .ok "mailto:user@example.com".toStr ∧ u.scheme = "mailto".toStr ∧ u.netloc = [] ∧
      u.path = "user@example.com".toStr ∧ u.query = [] ∧ u.fragment = []) ∧
    (∃ u, encodeUrl ⟨b, Oracles.empty⟩ "//example.com/p".toStr = .ok u ∧
      str ⟨b, Oracles.empty⟩ u = .ok "//example.com/p".toStr ∧ u.scheme = [] ∧ u.netloc = "example.com".toStr ∧
      u.path = "/p".toStr ∧ u.query = [] ∧ u.fragment = []) ∧
    (∃ u, encodeUrl ⟨b, Oracles.empty⟩ "http://u:p%40w@[2001:db8::1]:8080/a/b?q#f".toStr = .ok u ∧
      str ⟨b, Oracles.empty⟩ u = .ok "http://u:p%40w@[2001:db8::1]:8080/a/b?q#f".toStr ∧ u.scheme = "http".toStr ∧
      u.netloc = "u:p%40w@[2001:db8::1]:8080".toStr ∧ u.path = "/a/b".toStr ∧ u.query = "q".toStr ∧
      u.fragment = "f".toStr) ∧
    (∃ u, encodeUrl ⟨b, Oracles.empty⟩ "?q".toStr = .ok u ∧ str ⟨b, Oracles.empty⟩ u = .ok "?q".toStr ∧
      u.scheme = [] ∧ u.netloc = [] ∧ u.path = [] ∧ u.query = "q".toStr ∧ u.fragment = []) ∧
    (∃ u, encodeUrl ⟨b, Oracles.empty⟩ [] = .ok u ∧ str ⟨b, Oracles.empty⟩ u = .ok [] ∧
      u.scheme = [] ∧ u.netloc = [] ∧ u.path = [] ∧ u.query = [] ∧ u.fragment = []) :=
  ⟨at_text (by str_lits; decide +kernel) (C04_identity_general _ _ _ _ _ _ (ex_relative b)),
   at_text (by str_lits; decide +kernel) (C04_identity_general _ _ _ _ _ _ (ex_mailto b)),
   at_text (by str_lits; decide +kernel) (C04_identity_general _ _ _ _ _ _ (ex_network b)),
   at_text (by str_lits; decide +kernel) (C04_identity_general _ _ _ _ _ _ (ex_full b)),
   at_text (by decide +kernel) (C04_identity_general _ _ _ _ _ _ (ex_query b)),
   at_text (by decide +kernel) (C04_identity_general _ _ _ _ _ _ (ex_empty b))⟩

/-- the friendly corollaries are not vacuous either -/
example (b : Backend) : ∃ u, encodeUrl ⟨b, Oracles.empty⟩ "a.b/c%2Fd;x?k=v+w#frag/?".toStr = .ok u ∧
    str ⟨b, Oracles.empty⟩ u = .ok "a.b/c%2Fd;x?k=v+w#frag/?".toStr ∧ u.scheme = [] ∧ u.netloc = [] ∧
    u.path = "a.b/c%2Fd;x".toStr ∧ u.query = "k=v+w".toStr ∧ u.fragment = "frag/?".toStr :=
  at_text (by str_lits; decide +kernel)
    (C04_identity_relative _ _ _ _
      (isCanon_sound _ _ (by cases b <;> decide +kernel)) (isCanon_sound _ _ (by cases b <;> decide +kernel))
      (isCanon_sound _ _ (by cases b <;> decide +kernel)) (by decide) (by decide))

example (b : Backend) : ∃ u, encodeUrl ⟨b, Oracles.empty⟩ "x:/p/../q?z".toStr = .ok u ∧
    str ⟨b, Oracles.empty⟩ u = .ok "x:/p/../q?z".toStr ∧ u.scheme = "x".toStr ∧ u.netloc = [] ∧
    u.path = "/p/../q".toStr ∧ u.query = "z".toStr ∧ u.fragment = [] :=
  at_text (by decide +kernel)
    (C04_identity_scheme_only_path _ _ _ _ _ (by decide)
      (by decide) (isCanon_sound _ _ (by cases b <;> decide +kernel))
      (isCanon_sound _ _ (by cases b <;> decide +kernel)) (isCanon_sound _ _ (by cases b <;> decide +kernel))
      (by decide))

example (b : Backend) : ∃ u, encodeUrl ⟨b, Oracles.empty⟩ "file:///etc/passwd".toStr = .ok u ∧
    str ⟨b, Oracles.empty⟩ u = .ok "file:///etc/passwd".toStr ∧ u.scheme = "file".toStr ∧ u.netloc = [] ∧
    u.path = "/etc/passwd".toStr ∧ u.query = [] ∧ u.fragment = [] :=
  at_text (by str_lits; decide +kernel)
    (C04_identity_scheme_empty_authority _ _ _ _ _ (by decide)
      (by decide) (by decide) (isCanon_sound _ _ (by cases b <;> decide +kernel))
      (isCanon_sound _ _ (by cases b <;> decide +kernel)) (isCanon_sound _ _ (by cases b <;> decide +kernel)))

example (b : Backend) : ∃ u, encodeUrl ⟨b, Oracles.empty⟩ "//cdn.example.org/lib.js?v=2".toStr = .ok u ∧
    str ⟨b, Oracles.empty⟩ u = .ok "//cdn.example.org/lib.js?v=2".toStr ∧ u.scheme = [] ∧
    u.netloc = "cdn.example.org".toStr ∧ u.path = "/lib.js".toStr ∧ u.query = "v=2".toStr ∧ u.fragment = [] :=
  at_text (by str_lits; decide +kernel)
    (C04_identity_network_path _ _ _ _ _
      (by decide) (compOKB_sound (by cases b <;> decide +kernel)))

end Yarl
