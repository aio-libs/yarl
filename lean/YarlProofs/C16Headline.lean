import YarlProofs.C16
import YarlProofs.C16Host
import YarlProofs.C07
/-!
# C16 — Hosts are stored in one canonical form and hostile hosts are rejected   (audit layer)

Continued in C16HeadlineMore.lean (theorems that need modules which import this file): the IDN (non-ASCII) case under the
stated IDNA assumption (`C16_headline_idn_*`), the zone id (`C16_headline_zone_*`), RFC 5952 (`C16_headline_ipv6_is_rfc5952`,
`_double_colon`, `_groups`), brackets in `str()` (`C16_headline_str_brackets_*`), `build(authority=…)`
(`C16_headline_build_authority_host`, `C16_headline_validation_fails_for_build_authority`,
`C16_headline_nfkc_rejects_build_authority`).  Continued further in C16HeadlineMore3.lean (headline theorems over
C16More2.lean: the IPv6 text for every address and embedded IPv4, idempotence for every validated host and the agreement of
the four routes, `with_host` / `build(encoded=True)` and the NFKC clause, the bracket case of the NFKC screen — GAPS 1, 4,
5, 6, 8).  The GAPS block at the end of THIS file is the one that is kept up to date.

Property statement (verbatim):

> The encoded host is always lower-case ASCII (an IPv6 zone id is kept verbatim): registered names are
> IDNA-encoded, IPv4 literals are kept, and valid IPv6 literals are compressed and always bracketed in
> str(), host_subcomponent and host_port_subcomponent; encoding is idempotent and the decoded host
> re-encodes to the same raw host. build() and with_host() reject hosts containing characters outside the
> RFC 3986 reg-name grammar, and any authority containing a non-ASCII character whose NFKC form contains
> '/', '?', '#', '@' or ':' is rejected.

Reading guide.  `encodeHost o h v` is `_encode_host(h, validate_host=v)`; the constructor calls it with
`v = false`, `build(host=…)` / `with_host` with `v = true`.  `o` holds the oracle answers for `idna`,
`unicodedata` and `str.isdigit()` on non-ASCII text (everything about non-ASCII hosts is relative to
them).  `partition 37 h` splits at the first '%' (zone separator); `ipv4ToStr` / `ipv6ToStr` are hand
models of `ipaddress.….compressed`; `notRegName` is the `NOT_REG_NAME` regex; `unbracket r` strips the
brackets of an IP literal (the stored raw host), `bracket` puts them back.  58 = ':', 91/93 = '[' ']'.
Continued further in C16HeadlineMore4.lean (headline theorems for the proof modules added after the last refresh:
C16Mapped.lean and the statements repaired after fix 3fbf5b4; the GAPS block below cites them).
-/
namespace Yarl
open Yarl.HostLemmas NetlocLemmas
open StrTotal (zonePart)
open ParseLemmas (splitUrl_eq splitUrlNF)

/-! ## Sentence 1 — the canonical form -/

/-- "The encoded host is always lower-case ASCII (an IPv6 zone id is kept verbatim)" -/
theorem C16_headline_lower_ascii (o : Oracles) (h : Str) (v : Bool) (r : Str)
    -- no zone id: the zone is copied verbatim, upper case included (that is the parenthesis of the clause)
    (h37 : 37 ∉ h)
    -- ASCII input, or validation on.  A NON-ASCII host through the constructor (`v = false`) is whatever
    -- the IDNA oracle answers: proved lower-case ASCII reg-name text UNDER the assumption that the answer is sane
    -- (`C16_headline_idn_lower_ascii`, C16HeadlineMore.lean), false for a hostile package
    -- (`C16_headline_lower_ascii_fails_for_hostile_idna`, ibid.; GAPS 1)
    (hav : isAscii h = true ∨ v = true)
    -- since fix 3fbf5b4 an IDNA answer that spells an IP literal is canonicalised as one, ITS zone id copied verbatim:
    -- "no zone id" has to be asked of the IDNA answer of a non-ASCII host as well (a reg-name answer has none)
    (h37a : isAscii h = false → ∀ a, idnaEncode o h = .ok a → 37 ∉ a) : encodeHost o h v = .ok r → isLowerAscii r :=
  C16_result_lower_ascii o h v r h37 h37a hav

/-- … with validation on the result is ASCII for ANY input, zone included -/
theorem C16_headline_validated_ascii (o : Oracles) (h r : Str) :
    encodeHost o h true = .ok r → ∀ c ∈ r, c < 128 :=
  C16_validated_ascii o h r

/-- "registered names are IDNA-encoded": an ASCII name is lower-cased (IDNA of an ASCII LDH name), a
    non-ASCII name is what `_idna_encode` returns (and, with validation, must pass the reg-name screen) -/
theorem C16_headline_regname (o : Oracles) (h : Str) (r : Str)
    (hip : parseIP (partition 37 h).1 = none) :      -- not an IP literal
    (isAscii h = true → ∀ v, encodeHost o h v = .ok r → r = lower h ∧ isLowerAscii r) ∧
    -- since fix 3fbf5b4: an IDNA answer `a` holding a ':' is not returned as such; it is accepted only as an IP literal
    -- (result = its canonical text `ipRes a`, zone screened).  Every reg-name answer takes the first alternative.
    (isAscii h = false → encodeHost o h true = .ok r → ∃ a, idnaEncode o h = .ok a ∧
      ((mem 58 a = false ∧ r = a ∧ notRegName r = false) ∨
       (mem 58 a = true ∧ ipRes a = some r ∧ zoneBad a true = false))) :=
  ⟨fun ha v => C16_ascii_regname o h v r ha hip, fun hna => C16_idna_validated o h r hna hip⟩

/-- "IPv4 literals are kept" (the parser rejects leading zeros, so the canonical text is the input) -/
theorem C16_headline_ipv4_kept (o : Oracles) (s : Str) (v : Bool) (o4 : List Nat) :
    parseIPv4 s = some o4 → 37 ∉ s → encodeHost o s v = .ok s :=
  C16_ipv4_kept o s v o4

/-- "valid IPv6 literals are compressed and always bracketed": the result is '[' compressed-text [%zone] ']',
    the zone verbatim; and the compressed text re-parses to the same address -/
theorem C16_headline_ipv6 (o : Oracles) (s : Str) (v : Bool) (h8 : List Nat) (r : Str) :
    parseIPv4 (partition 37 s).1 = none → parseIPv6 (partition 37 s).1 = some h8 →
    encodeHost o s v = .ok r →
    r = [91] ++ ipv6ToStr h8 ++ (if (partition 37 s).2.1 then [37] ++ (partition 37 s).2.2 else []) ++ [93] ∧
    parseIPv6 (ipv6ToStr h8) = some h8 ∧
    (∀ c ∈ ipv6ToStr h8, c = 58 ∨ isDigitC c = true ∨ (97 ≤ c ∧ c ≤ 102)) :=
  fun h4 h6 he => ⟨(C16_ipv6_bracketed o s v h8 r h4 h6 he).2.2, C16_ipv6_reparse _ h8 h6, C16_ipv6_text_lower h8⟩

/-- "… always bracketed in … host_subcomponent and host_port_subcomponent": a raw host containing ':' is
    written in brackets, any other is not (host_port_subcomponent first strips trailing dots) -/
theorem C16_headline_bracketed_subcomponents (e : Env) (u : Url) (raw : Str) (hraw : rawHost e u = .ok (some raw)) :
    hostSubcomponent e u = .ok (some (if mem 58 raw then [91] ++ raw ++ [93] else raw)) ∧
    (∀ r, hostPortSubcomponent e u = .ok (some r) →
      ∃ suffix, r = (if mem 58 (if raw.getLast? = some 46 then rstripC 46 raw else raw)
        then [91] ++ (if raw.getLast? = some 46 then rstripC 46 raw else raw) ++ [93]
        else (if raw.getLast? = some 46 then rstripC 46 raw else raw)) ++ suffix) :=
  ⟨C16_bracket_iff_colon e u raw hraw, fun r => C16_bracket_host_port e u raw r hraw⟩

/-- "encoding is idempotent": encoding the stored raw host again gives the same result
    -- Appendix E: C16_ascii_host ↦ C16_headline_lower_ascii + this theorem (`encodeHost r v = .ok r`
    --   became `encodeHost (unbracket r) v = .ok r`: a bracketed result is stored without brackets) -/
theorem C16_headline_idempotent (o : Oracles) (h r : Str) (v : Bool)
    (ha : isAscii h = true)      -- non-ASCII: `C16_headline_idn_idempotent` (C16HeadlineMore.lean), under the assumption
                                 -- that the IDNA answer is sane (no round trip is needed for idempotence; GAPS 1)
    -- validation on, or no '[' in the host, or an IPv6 literal: `C16_headline_idempotent_fails_for`
    (hbr : v = true ∨ 91 ∉ h ∨ ∃ h8, parseIP (partition 37 h).1 = some (.v6 h8)) :
    encodeHost o h v = .ok r → encodeHost o (unbracket r) v = .ok r :=
  C16_encode_idempotent o h r v ha hbr

/-- validation off and a '[' in a host that is no IPv6 literal (`build(authority="[a[b]")`): the result is
    kept, but `unbracket` is not the inverse of the stored form -/
theorem C16_headline_idempotent_fails_for (o : Oracles) :
    encodeHost o "a[b".toStr false = .ok "a[b".toStr ∧
    encodeHost o (unbracket "a[b".toStr) false = .ok "[".toStr ∧
    encodeHost o "a[b".toStr false ≠ encodeHost o (unbracket "a[b".toStr) false :=
  let r := C16_encode_not_idempotent_bracket o; ⟨r.1, r.2.1, r.2.2.1⟩

/-- "the decoded host re-encodes to the same raw host" — IP literals: `URL.host` IS the raw host -/
theorem C16_headline_host_reencodes_ip (e : Env) (u : Url) (raw : Str)
    (hasc : isAscii raw = true) :  -- a non-ASCII zone id needs an `isdigit` oracle entry: `C16_host_ipv6_oracle_miss`
    rawHost e u = .ok (some raw) →
    ((∃ o4, parseIPv4 raw = some o4) ∨
     (∃ h8, parseIPv6 (partition 37 raw).1 = some h8 ∧ raw = ipv6ToStr h8 ++ zonePart raw)) →
    host e u = .ok (some raw) ∧ encodeHost e.o raw false = .ok (bracket raw) :=
  C16_host_reencodes_ip_ascii e u raw hasc

/-- … registered names: `URL.host` is the IDNA decoding `h` of `raw`, and `h` re-encodes to `raw` PROVIDED the
    oracle's answers round-trip (an assumption about the `idna` package, minimal form).  `raw` is "not IP-looking" for
    `URL.host` when its last character is no digit OR — since fix 60dbf1e — it contains "xn--" (120 110 45 45): a
    digit-ending raw host with an A-label IS decoded now (before the fix it was returned undecoded).  The same under the
    packaged assumption `IdnaRoundTripAt`: `C16_headline_idn_host_reencodes` (C16HeadlineMore.lean). -/
theorem C16_headline_host_reencodes_regname (e : Env) (u : Url) (raw h : Str) :
    rawHost e u = .ok (some raw) → isAscii raw = true → 58 ∉ raw →
    ((∀ l, raw.getLast? = some l → isDigitC l = false) ∨ hasSub [120, 110, 45, 45] raw = true) →
    host e u = .ok (some h) →
    -- ASSUMED of the decoder when it answers ASCII: it only changes case (…and see `C16_host_regname_zone_case`)
    (isAscii h = true → lower h = raw ∧
      ((∀ l, raw.getLast? = some l → isDigitC l = false) ∨ parseIPv4 (partition 37 raw).1 = none ∨ h = raw)) →
    -- ASSUMED of the encoder for a non-ASCII answer: encode (decode raw) = raw, on the IDNA branch
    (isAscii h = false → idnaEncode e.o h = .ok raw ∧
      (looksIP e.o h = .ok false ∨ (looksIP e.o h = .ok true ∧ parseIP (partition 37 h).1 = none))) →
    idnaDecode e.o raw = .ok h ∧ encodeHost e.o h false = .ok raw :=
  C16_host_reencodes_regname e u raw h

/-! ## Sentence 2 — rejection -/

/-- "build() and with_host() reject hosts containing characters outside the RFC 3986 reg-name grammar":
    both succeed only if `_encode_host(host, validate_host=True)` does; an accepted host is an IP literal or
    passes `NOT_REG_NAME`, whose alphabet is exactly RFC `unreserved / sub-delims` without upper case, plus
    `%hh` with lower-case hex digits
    -- Appendix E: C16_build_regname ↦ this theorem (`RegName r` is `notRegName r = false` + the two
    --   characterisations; `¬looksIP h` became the disjunct "is an IP literal") -/
theorem C16_headline_validation (e : Env) :
    (∀ (a : BuildArgs) (u : Url), a.encoded = false → a.authority = [] → a.host ≠ [] →
      build e a = .ok u → ∃ eh, encodeHost e.o a.host true = .ok eh) ∧
    (∀ (u u' : Url) (h : Str), withHost e u h = .ok u' → ∃ eh, encodeHost e.o h true = .ok eh) ∧
    (∀ (h r : Str), encodeHost e.o h true = .ok r →
      (∃ ip, parseIP (partition 37 h).1 = some ip) ∨ notRegName r = false ∨
      -- since fix 3fbf5b4: … or the IDNA answer of a non-ASCII host is an IP literal (canonicalised as one)
      (isAscii h = false ∧ ∃ a ip, idnaEncode e.o h = .ok a ∧ parseIP (partition 37 a).1 = some ip)) ∧
    (∀ s, notRegName s = false → ∀ c ∈ s, c = 37 ∨ mem c Gen.regNameChars = true) ∧
    (∀ c, mem c Gen.regNameChars = true ↔
      (c < 128 ∧ (Rfc.unreserved c = true ∨ Rfc.subDelims c = true) ∧ ¬(65 ≤ c ∧ c ≤ 90))) ∧
    (∀ a b, notRegName (a ++ 37 :: b) = false →
      ∃ x y t, b = x :: y :: t ∧ isLowerHexDigit x = true ∧ isLowerHexDigit y = true) :=
  ⟨fun a u h1 h2 h3 => C16_build_validates e a u h1 h2 h3, fun u u' h => C16_withHost_validates e u u' h,
   fun h r => C16_validated_general e.o h r, C16_notRegName_spec, C16_regNameChars_rfc, C16_notRegName_pct⟩

/-- consequence, for ANY accepted `host=` argument (IP literal with zone and IDNA output included): none of
    '@' '/' '?' '#' ' ' occurs, and ':' '[' ']' occur only for an IP literal -/
theorem C16_headline_never_injects (o : Oracles) (h r : Str) (he : encodeHost o h true = .ok r) :
    64 ∉ r ∧ 47 ∉ r ∧ 63 ∉ r ∧ 35 ∉ r ∧ 32 ∉ r ∧
    ((∃ c ∈ r, c = 58 ∨ c = 91 ∨ c = 93) → (∃ ip, parseIP (partition 37 h).1 = some ip) ∨
      -- since fix 3fbf5b4: … or the IDNA answer of a non-ASCII host is an IP literal
      (isAscii h = false ∧ ∃ a ip, idnaEncode o h = .ok a ∧ parseIP (partition 37 a).1 = some ip)) :=
  let a := C16_validated_never_injects o h r he; let b := C16_validated_chars o h r he
  ⟨a.1, a.2.1, a.2.2.1, a.2.2.2, b.1, b.2⟩

/-- "any authority containing a non-ASCII character whose NFKC form contains '/', '?', '#', '@' or ':' is
    rejected" — at the level of the constructor (NEW here; `C16_nfkc_rejects` is the `_check_netloc` level).
    `A` is the RFC authority of the cleaned input; `nn` the oracle's NFKC of `A` without "@:#?[]".  Since library fix
    27f84d3 `_check_netloc` also removes '[' ']' before normalising and rejects an NFKC form containing '[' or ']'
    (U+FF3B / U+FF3D normalise to them) — the statement below has the seven characters, the property text names five
    (GAPS 8; the bracket case by itself: `C16_headline_nfkc_rejects_brackets`, C16HeadlineMore3.lean).
    Since fix c2c2803 `build(authority=…)` runs the same screen: `C16_headline_nfkc_rejects_build_authority`
    (C16HeadlineMore.lean). -/
theorem C16_headline_nfkc_rejects (e : Env) (s nn : Str) :
    let A := (Rfc.appendixB Gen.schemeChars (cleanUrl s)).authority
    isAscii A = false →
    e.o.nfkc (A.filter (fun c => c ≠ 64 ∧ c ≠ 58 ∧ c ≠ 35 ∧ c ≠ 63 ∧ c ≠ 91 ∧ c ≠ 93)) = some nn →
    nn ≠ A.filter (fun c => c ≠ 64 ∧ c ≠ 58 ∧ c ≠ 35 ∧ c ≠ 63 ∧ c ≠ 91 ∧ c ≠ 93) →
    (∃ c ∈ nn, c = 47 ∨ c = 63 ∨ c = 35 ∨ c = 64 ∨ c = 58 ∨ c = 91 ∨ c = 93) →
    splitUrl e.o s = .error .valueError ∧ encodeUrl e s = .error .valueError ∧
    preEncodedUrl e s = .error .valueError := by
  intro A ha hn hne hc
  have hs : splitUrl e.o s = .error .valueError := by
    rw [splitUrl_eq]; unfold splitUrlNF
    simp only
    rcases checkBrackets_cases A with hb | hb
    · have hA : A.isEmpty = false := by
        cases hA : A with
        | nil => rw [hA] at ha; exact absurd ha (by decide)
        | cons a b => rfl
      rw [show checkBrackets (Rfc.appendixB Gen.schemeChars (cleanUrl s)).authority = .ok () from hb]
      simp only [show (Rfc.appendixB Gen.schemeChars (cleanUrl s)).authority = A from rfl, hA, ha,
        Bool.not_false, Bool.and_self, if_true, C16_nfkc_rejects e.o A nn hn hne hc]
    · rw [show checkBrackets (Rfc.appendixB Gen.schemeChars (cleanUrl s)).authority = .error .valueError from hb]
  refine ⟨hs, ?_, ?_⟩
  · unfold encodeUrl; rw [hs]; rfl
  · unfold preEncodedUrl; rw [hs]; rfl

/-! ## non-vacuity -/
example : isAscii "EXAMPLE.com".toStr = true ∧ parseIP (partition 37 "EXAMPLE.com".toStr).1 = none := by str_lits; decide +kernel
example : ipv6ToStr [0x2001, 0xdb8, 0, 0, 1, 0, 0, 1] = "2001:db8::1:0:0:1".toStr := by str_lits; decide +kernel
-- "http://ex℀mple.com/" with NFKC("℀") = "a/c"
example : (Rfc.appendixB Gen.schemeChars (cleanUrl ("http://x".toStr ++ [0x2100] ++ "y/".toStr))).authority =
    "x".toStr ++ [0x2100] ++ "y".toStr := by str_lits; decide +kernel

/-
GAPS:   (theorems named `C16_headline_…` that are not in this file are in C16HeadlineMore.lean or, where it says so, in
         C16HeadlineMore3.lean / C16HeadlineMore4.lean.  Fix 3fbf5b4 changed the model of `_encode_host` and the
         STATEMENTS of several theorems cited below: item 9 lists them; items 1, 2, 5, 6 describe them as they are NOW.)
 1. PARTLY CLOSED by C16_idn_encoded_ascii_lower, C16_idn_ctor, C16_idn_build, C16_idn_withHost, C16_idn_encode_idempotent,
    C16_idn_host_decoded, C16_idn_host_reencodes (C16Idn.lean), see C16_headline_idn_lower_ascii, _idn_constructor,
    _idn_validated, _idn_idempotent, _idn_host_decoded, _idn_host_reencodes.  Proved for a NON-ASCII host that is no IP
    literal, the CONSTRUCTOR (validation off) included: IF the answers of the `idna` package / the lower-cased answer of
    the stdlib fallback for that host are non-empty and pass the library's own NOT_REG_NAME screen (`IdnaSaneAt`, written
    out as two hypotheses in C16_headline_idn_lower_ascii) THEN the stored host is that answer, is lower-case ASCII
    reg-name text and is a fixed point of `_encode_host`; with validation on (build / with_host) only non-emptiness of the
    answer is assumed; and IF the answers round-trip (`IdnaRoundTripAt`) THEN the decoded host re-encodes to the raw host.
    CHANGED by the repair after fix 3fbf5b4 (item 9): C16_idn_build / C16_idn_withHost / C16_headline_idn_validated now
    conclude a DISJUNCTION — the IDNA answer `r` passed the reg-name screen and IS the result (and a non-empty `r` is a
    fixed point), OR the answer `x` holds a ':' (`mem 58 x = true`), is an IP literal whose zone passes the screen
    (`zoneBad x true = false`) and the result is its canonical text (`ipRes x = some r`: an IPv4 literal with zone, or
    the compressed bracketed IPv6 form); see also C16_headline_idn_validated_two_ways (C16HeadlineMore4.lean).  The
    statements under `IdnaSaneAt` are unchanged — a sane answer is reg-name text, holds no ':', and the new `if` is not
    taken (C16_mapped_regname_unchanged, see C16_headline_mapped_regname_unchanged) — but they are SILENT about the
    hosts of the re-entered branch: such a host FAILS `IdnaSaneAt` (its answer, e.g. "1:0:0:0:0:0:0:2", is not reg-name
    text: C16_headline_mapped_outside_idna_sane); those hosts are covered by item 9.
    The assumptions are satisfiable with the answers of the real code (C16_idn_sane_satisfiable) and each is needed
    (C16_headline_lower_ascii_fails_for_hostile_idna, C16_headline_idn_host_reencodes_fails_for_no_roundtrip,
    C16_idn_needs_* in C16Idn.lean).
    STILL OPEN: `idna.encode/decode`, `unicodedata.normalize`, `str.isdigit`, `str.lower` on non-ASCII text are ORACLES
    (inputs of the model); that the real `idna` package / stdlib codec satisfy `IdnaSaneAt` / `IdnaRoundTripAt` is a
    property of third-party code — NOT proved, trusted base (probed only: header of C16Idn.lean lists answers that are
    not reg-name text, e.g. "ü%zz" ↦ "xn--%zz-goa", and a host whose answer no decoder accepts).  The URL-level statement
    C16_headline_idn_constructor covers only inputs `scheme://h/path#fragment` with the IDN host alone in the authority
    (no userinfo, no port).
    SHARPENED by C16_validation_only_rejects, C16_encode_idempotent_every_host, C16_host_text_three_routes,
    C16_host_text_build_authority_route (C16More2.lean), see C16_headline_validation_only_rejects,
    C16_headline_idempotent_every_host, C16_headline_host_three_routes, C16_headline_host_build_authority_route
    (C16HeadlineMore3.lean).  Proved WITHOUT any assumption on the IDNA answers, from the ONE hypothesis that the host text
    `h` passes `_encode_host(h, validate_host=True)` with result `r` (for a non-ASCII `h` this says that the oracle's
    answer passed the reg-name screen — or, since fix 3fbf5b4, that the answer holds a ':' and is the text of an IP
    literal whose zone passed the screen, `r` being its canonical form: C16_headline_idn_validated_two_ways — a
    hypothesis about that answer, not an assumption about the package): the
    non-validating call returns the same `r` (validation only rejects, never changes the answer); re-encoding the stored
    raw host gives `r` again, validating or not, for EVERY host kind; and with_host on any receiver, build(host=), the
    constructor on ANY input whose authority has the host part `h` (userinfo, port, brackets, any path / query /
    fragment) and build(authority=) with that host part all store the SAME raw host `unbracket r` — this lifts the
    URL-level IDN statement beyond `scheme://h/path#fragment`.  Extra hypothesis: `r ≠ ""` (excludes an IDNA oracle
    answering "" for a non-ASCII host; automatic for a non-empty ASCII host).  A host that only the NON-validating routes
    accept (constructor, build(authority=)) still needs `IdnaSaneAt` / the ASCII hypotheses above
    (C16_headline_lower_ascii_fails_for_hostile_idna, C16_headline_idempotent_fails_for).  The oracle / third-party part
    of this item is unchanged: STILL OPEN, trusted base.
 2. CLOSED by C16_zone_kept_verbatim, C16_zone_kept_verbatim', C16_zone_kept_verbatim_ipv4, C16_zone_char_accepted,
    C16_notRegName_iff, C16_zone_ipv4_not_literal (C16More.lean), see C16_headline_zone_kept_verbatim,
    _zone_validated_chars, _zone_ipv4, C16_headline_notRegName_iff, C16_headline_ipv4_kept_fails_for_zone_without_digit.
    Proved: for `addr%zone` with an IPv6 `addr`, `_encode_host` returns EXACTLY '[' compressed(addr) '%' zone ']' with
    the zone byte for byte — with validation OFF for any zone text whatever (nothing is checked, by design: so no
    lower-case/ASCII statement can hold there, the parenthesis of the clause), with validation ON iff the lower-cased
    zone passes the reg-name screen (characters let through: '%', ASCII unreserved / sub-delims, letters of either
    case).  An IPv4 text with a zone is kept verbatim when it contains ':' or ends in a digit; otherwise it is NOT an IP
    literal for yarl and is lower-cased like a registered name (`URL("http://1.2.3.4%ETH/").raw_host == "1.2.3.4%eth"`).
    NOTE (fix 3fbf5b4, item 9): these theorems are about a host that IS an IP literal as it stands.  For a non-ASCII
    host whose IDNA ANSWER is an IPv6 text with a zone, the zone of the ANSWER is copied verbatim and screened when
    validating (C16_mapped_ipv6_zone, see C16_headline_mapped_ipv6_zone, C16HeadlineMore4.lean).  The general
    (non-headline) form C16_zone_validated_general (C16.lean) was repaired: its non-ASCII alternative now reads "the
    result is the IDNA answer, which passed the screen, OR the answer holds a ':' and the result is `ipRes` of it, its
    own zone screened".
 3. CLOSED by C16_str_brackets_ipv6, C16_str_brackets_build_host, C16_str_brackets_build_authority,
    C16_str_brackets_with_host, C16_strShows_infix, C16_subcomponents_bracket_ipv6 (C16More.lean), see
    C16_headline_str_brackets_constructor, _build_host, _build_authority, _with_host, C16_headline_subcomponents_bracket_ipv6
    — WITH the corners where the clause is FALSE in the library: C16_headline_str_brackets_fails_for_second_bracket
    (`str(URL("http://[x::1%z[]/")) == "http://x::1%z[/"` although raw_host is "::1%z"),
    C16_headline_str_brackets_fails_for_build_authority_second_bracket (`build(authority="[[b:c]")` prints "http://[b:c"),
    C16_headline_str_brackets_with_host_fails_for_rootless_path (no scheme + rootless path: `str()` drops the authority).
    Proved: a raw host `h` containing ':' stands in `str()` as "[h]" right after "//" and the userinfo, followed by the
    port unless it is the scheme default — for the constructor and build(authority=) when the host part of the authority
    has at most one '[' and the IDNA encoder introduces none of `: @ [ ]` (that follows from `IdnaSane`:
    C16_headline_str_brackets_idna_hypothesis; needed: C16_headline_str_brackets_fails_for_idna_colon, a hypothetical
    encoder), for build(host=) unconditionally, for with_host when the receiver has a scheme or an empty-or-rooted path.
    host_subcomponent / host_port_subcomponent bracket unconditionally (C16_headline_bracketed_subcomponents).
 4. PARTLY CLOSED by C16_ipv6_is_rfc5952, C16_ipv6_double_colon, C16_ipv6_groups, C16_ipv6_no_mixed_notation (C16More.lean
    + Lemmas/V6More.lean), see C16_headline_ipv6_is_rfc5952, _ipv6_double_colon, _ipv6_groups,
    C16_headline_ipv6_rfc5952_fails_for_ipv4_mapped.  Proved: `ipv6ToStr` equals the independent RFC 5952 §4 specification
    `Rfc5952.format` (lower-case hex groups without leading zeros; the FIRST LONGEST run of ≥ 2 zero groups replaced by
    "::", which occurs exactly once then and not at all otherwise; the run is maximal), and parse∘print = id
    (C16_headline_ipv6).  RFC 5952 §5 (mixed notation for IPv4-mapped addresses) is NOT applied, as in CPython.
    FURTHER by C16_ipv6_text_every_address, C16_ipv4_text_parses, C16_ipv6_embedded_ipv4_parse,
    C16_ipv4_mapped_canonical, C16_ipv4_compatible_canonical (C16More2.lean), see C16_headline_ipv6_text_every_address,
    C16_headline_ipv4_text_parses, C16_headline_ipv6_embedded_ipv4, C16_headline_ipv4_mapped_canonical,
    C16_headline_ipv4_compatible_canonical (C16HeadlineMore3.lean).  Proved, about the MODEL: for EVERY value of the eight
    16-bit groups, in one statement, the §4 clauses above plus: the only other character is ':', no '.', '%', '[', ']',
    '/' in the text, the model's parser reads the text back to the same groups (the printer is injective, the text a
    fixed point); every dotted quad with octets ≤ 255 is an IPv4 literal for the model's parser; an IPv6 text whose last
    part is a dotted quad ("::"-forms with groups in canonical lower-case hex, and full forms) denotes the address with
    the last two groups `a·256+b`, `c·256+d`; `::ffff:a.b.c.d` is stored as `[::ffff:X:Y]` and `::a.b.c.d` as `[::]` /
    `[::Y]` / `[::X:Y]` for ALL `a.b.c.d` (validation on or off; the dotted quad never survives).
    STILL OPEN: `ipv6ToStr` / `parseIPv6` / `parseIPv4` are hand models of CPython's `ipaddress` (3.12), validated by the
    differential harness only — the new theorems say what the MODEL does with embedded IPv4, not that CPython does the
    same; embedded-IPv4 "::"-forms whose hex groups are NOT written in canonical lower case are covered only through
    `parseIPv6_lower` / C16_headline_ipv6_groups (no single statement); scope ids beyond '%zone' as in the model.
 5. CLOSED (by stating exactly what holds) by C16_build_authority_host, C16_build_authority_accepts_more (C16More.lean), see
    C16_headline_build_authority_host, C16_headline_validation_fails_for_build_authority.  "build() and with_host()
    reject …" is stated as "success ⇒ `_encode_host(…, True)` succeeded ⇒ result is an IP literal or in the reg-name
    language" (C16_headline_validation) for build(host=) and with_host.  CHANGED by the repair after fix 3fbf5b4 (item
    9): the third clause of C16_headline_validation (C16_validated_general) has a THIRD alternative now — the host is an
    IP literal, OR the result passes `NOT_REG_NAME`, OR the host is non-ASCII and its IDNA answer is the text of an IP
    literal (which is then stored in canonical form); C16_headline_never_injects (C16_validated_chars) likewise: ':' '['
    ']' occur only for an IP-literal host OR a non-ASCII host whose IDNA answer is one.  The readable form, with the
    shape of the result in each case and for ANY oracle, is C16_headline_validated_host_invariant
    (C16HeadlineMore4.lean, from C16_mapped_validated_invariant): reg-name text, or canonical IPv4 [%zone], or bracketed
    compressed IPv6 [%zone], every zone screened, made from the host itself or from the IDNA answer (holding a ':') of a
    non-ASCII host.  An IDNA answer with a ':' that is NO IP literal is rejected by validation (second alternative of
    C16_headline_idn_validated_two_ways excluded, first needs no ':').  For `build(authority=…)` the host is encoded
    with validation OFF (by design in yarl): the clause is FALSE there (`authority="EX^ample{}.com"` is stored as
    "ex^ample{}.com"); what holds instead — scheme lowered, NFKC screen for a non-ASCII authority, `split_netloc`, then
    `_encode_host(host, False)` with its four cases — is C16_headline_build_authority_host.  CHANGED (item 9): there
    are FIVE cases now; the fifth — a non-ASCII host whose IDNA answer `x` holds a ':' — says that `x` went through
    `_encode_host` again: the result is the bracketed compressed form when `x` is an IPv6 text, or `x` itself, or the
    ASCII-lower-cased `x` (no screen on this route: a hostile answer "a:81" is stored as it is, C16_idn_needs_no_colon).
    `encoded=True`: CLOSED for build by C16_build_encoded_skips_host_processing (C16More2.lean), see
    C16_headline_build_encoded_skips_host_processing (C16HeadlineMore3.lean): `build(…, encoded=True)` stores the
    `authority` argument — or `host[:port]` around the `host` argument — verbatim, scheme as given, no cache, and does not
    consult the IDNA / `nfkc` oracles at all; so the clause is FALSE there too, by contract (hypotheses: `encoded = true`,
    the call succeeded; the netloc with `user=` / `password=` is `C07_encBuildNetloc`, C07Encoded.lean, not restated).
    STILL OPEN: the `encoded=True` CONSTRUCTOR stores the host text as `split_url` cut it out, without `_encode_host`; no
    C16 theorem says so (the NFKC screen does run there: C16_headline_nfkc_rejects covers `preEncodedUrl`).
 6. PARTLY CLOSED by C16_build_authority_nfkc_screen, C16_build_authority_now_rejected, C16_build_ascii_ignores_nfkc
    (C16More.lean), see C16_headline_nfkc_rejects_build_authority, _nfkc_rejects_build_authority_instances,
    C16_headline_build_ascii_ignores_nfkc.  NFKC clause: proved relative to the `nfkc` oracle answer; `cleanUrl`/Appendix-B
    authority is the text that is checked.  The clause now holds for the constructor (both modes) AND, since fix c2c2803,
    for `build(authority=…)`, which calls `_check_netloc` on a non-ASCII authority like the parser (before the fix
    `build(scheme='http', authority='a＠evil.com')` gave a URL with host 'evil.com'; now ValueError).
    The screened characters are those of the current `_check_netloc` (GAPS 8): "@:#?[]" are removed before normalising,
    and an NFKC form containing one of "/?#@:[]" is rejected.
    FURTHER by C16_with_host_needs_no_nfkc_screen, C16_with_host_nfkc_clause_depends_on_idna,
    C16_build_encoded_skips_host_processing (C16More2.lean), see C16_headline_with_host_needs_no_nfkc_screen,
    C16_headline_nfkc_rejects_fails_for_with_host_hypothetical_idna, C16_headline_build_encoded_skips_host_processing
    (C16HeadlineMore3.lean).  `with_host` does not call `_check_netloc` (it validates instead).  Proved at URL level:
    whatever the argument and whatever the oracles answer, if `with_host` returns a URL, the raw host it stores consists of
    characters of the validated `_encode_host` result, has none of '@' '/' '?' '#' ' ' and has ':' '[' ']' only for an
    IP-literal argument — or, as C16_headline_with_host_needs_no_nfkc_screen reads since the repair after fix 3fbf5b4
    (item 9), for a non-ASCII argument whose IDNA answer is the text of an IP literal (stored in canonical form, so the
    ':' are those of a compressed IPv6 literal).  That is NOT the clause as written: "is rejected" is FALSE on this
    route for a hypothetical `idna` package that answers reg-name text for "a／b" (U+FF0F) — `with_host` then stores that
    answer while the constructor rejects the same host — and holds with the answers of the real code on that input only
    because the stdlib answer "a/b" fails the reg-name screen (evaluated, both backends).
    `build(host=)` is in the same position as `with_host`
    (validation, no `_check_netloc`; C16_headline_never_injects at `_encode_host` level, C16_headline_host_three_routes
    (2) for the stored raw host) — no theorem phrased with NFKC.  `build(encoded=True)` is not screened: the authority is
    stored verbatim (item 5).
    STILL OPEN: the property text says "any authority" and the routes with_host / build(host=) / build(encoded=True) do
    not satisfy the clause as written; everything is relative to the `nfkc` / IDNA oracle answers.
 7. Idempotence at URL level ("URL(str(u)).raw_host == u.raw_host") is C03; not restated here.
 8. (new) The NFKC screen and the brackets.  Since library fix 27f84d3 `_check_netloc` (model: `checkNetloc`,
    YarlModel/Parse.lean) removes '[' and ']' as well as '@' ':' '#' '?' from the netloc before normalising and rejects
    an NFKC form that contains '[' or ']' as well as '/' '?' '#' '@' ':' (U+FF3B ［ / U+FF3D ］ normalise to the
    brackets).  C16_nfkc_rejects (C16.lean), C16_headline_nfkc_rejects and C16_headline_nfkc_rejects_build_authority are
    stated with the seven characters; the bracket case by itself is C16_headline_nfkc_rejects_brackets, and the inputs
    of the fix are C16_headline_nfkc_rejects_fullwidth_brackets (C16HeadlineMore3.lean; hypotheses: the oracle answers
    "a[b" / "a]b" for "a［b" / "a］b", as `unicodedata` does — oracle, trusted base).  The property text (quoted verbatim
    in the headers) still lists five characters: the library rejects MORE than the text says, nothing less.
    Only the REJECTING direction is stated as a theorem; when the screen accepts is read off the definition of
    `checkNetloc` (C16_headline_build_authority_host records `checkNetloc … = .ok ()` for an accepted non-ASCII authority).
 9. NEW.  Fix 3fbf5b4 ("canonicalize an IP-literal that only appears after IDNA mapping"; e.g. fullwidth digits,
    "[１:0:0:0:0:0:0:2]" ↦ "[1::2]").  `_encode_host`, after `host = _idna_encode(host)` for a non-ASCII host that is no
    IP literal, now does `if ":" in host: return _encode_host(host, validate_host)`.
    THE MODEL: `encodeHost` (YarlModel/Host.lean) hands an IDNA answer holding a ':' to `encodeHostA`, a COPY of
    `encodeHost` whose non-ASCII branch is ValueError — not a recursive call.  The copy IS `_encode_host` on ASCII text
    (C16_mapped_reentry_ascii) and `_idna_encode` answers ASCII text by construction (`….decode("ascii")`); but the
    model's oracle is NOT constrained to ASCII answers, and on a non-ASCII answer holding a ':' that is no IP literal
    the model says ValueError where the real code would ask IDNA again (C16_mapped_reentry_nonascii; see
    C16_headline_mapped_reentry, C16HeadlineMore4.lean) — unreachable with the real `_idna_encode`, trusted as such.
    THE REPAIR changed the STATEMENTS of existing theorems (all rebuilt; doc comments updated in place):
    (a) a new ALTERNATIVE "… or the IDNA answer `a` holds a ':' (`mem 58 a = true`), is the text of an IP literal, and
        the result is its canonical form (`ipRes a = some r`, `zoneBad a true = false`)": C16_idna_validated,
        C16_validated_general, C16_zone_validated_general, C16_validated_chars (C16.lean); C16_idn_validated_sane,
        C16_idn_build, C16_idn_withHost (C16Idn.lean; the common part is the new C16_idn_validated_result);
        C16_build_authority_host (C16More.lean: a fifth case), C16_with_host_needs_no_nfkc_screen (C16More2.lean); and
        the headline theorems C16_headline_regname (second clause), C16_headline_validation (third clause),
        C16_headline_never_injects, C16_headline_idn_validated, C16_headline_build_authority_host,
        C16_headline_with_host_needs_no_nfkc_screen;
    (b) a new HYPOTHESIS: C16_result_lower_ascii / C16_headline_lower_ascii take `h37a : isAscii h = false → ∀ a,
        idnaEncode o h = .ok a → 37 ∉ a` ("the IDNA answer of a non-ASCII host holds no '%' either": an answer that
        spells an IP literal with a zone is canonicalised and ITS zone copied verbatim) — NEEDED:
        C16_headline_lower_ascii_fails_for_mapped_zone (C16HeadlineMore4.lean: hypothetical answer "::1%ETH" ↦
        "[::1%ETH]", validation on); Idn.encodeHost_idn (C16Idn.lean) takes `h58 : mem 58 a = false`,
        Idn.encodeHost_idn_inv takes `hc : ∀ a, idnaEncode o h = .ok a → mem 58 a = false` (the pre-fix forms, for an
        answer without ':'; also the new C16_idna_validated_no_colon, C16.lean).
    PROVED about the re-entered branch (C16Mapped.lean, see C16HeadlineMore4.lean), for a non-ASCII host that is no IP
    literal as it stands, whose last character the `str.isdigit` oracle knows (`looksIP o host = .ok b`), with IDNA
    answer `a`: if `a` is the text of an IPv6 address WITHOUT zone, `_encode_host` returns "[" compressed "]" with and
    without validation, a fixed point on the stored raw host, which parses to the same address (C16_mapped_ipv6,
    C16_mapped_ipv6_fixed_point, C16_mapped_ipv6_canonical, see C16_headline_mapped_ipv6_canonical); WITH a zone, the
    zone of the answer is copied verbatim inside the brackets, ValueError iff validation is on and the lower-cased zone
    fails the screen (C16_mapped_ipv6_zone, see C16_headline_mapped_ipv6_zone) — so the zone / '%' case IS covered for
    IPv6; an answer without ':' (every reg-name answer) takes the pre-fix path (C16_mapped_regname_unchanged,
    C16_mapped_no_colon_unchanged, see C16_headline_mapped_regname_unchanged).
    For ANY host and ANY oracle (nothing assumed of the IDNA answers): the validated result is reg-name text or
    canonical IPv4 [%zone] or bracketed compressed IPv6 [%zone], every zone screened, made from the host or from its
    IDNA answer (C16_mapped_validated_invariant, see C16_headline_validated_host_invariant;
    C16_headline_idn_validated_two_ways); it is ASCII, holds none of '@' '/' '?' '#' ' ', is a fixed point, and the
    non-validating call returns the same (C16_mapped_validated_fixed_point, see C16_headline_validated_fixed_point).
    Without validation the result for a host without '%' is ASCII IF the IDNA answers are ASCII — a hypothesis on the
    oracle (C16_mapped_result_ascii, see C16_headline_result_ascii_unvalidated).  The input of the fix is evaluated at
    `_encode_host`, constructor (both backends) and `with_host` level with a sample oracle holding the answers of the
    real code (C16_mapped_example, _example_url, _example_with_host, see C16_headline_mapped_example).
    STILL OPEN / TRUSTED:
    (i) the IP-literal result of the re-entered branch is characterised EXACTLY only for an IPv6 answer (with or without
        zone); for an answer that is IPv4 text followed by a zone holding the ':' ("1.2.3.4%a:b") only the shape of
        C16_headline_validated_host_invariant (validation on) is stated; an IPv4 answer WITHOUT ':' (e.g. fullwidth
        digits in a dotted quad) is not re-entered at all — it is returned as the IDNA answer, and no theorem says that
        it is the canonical IPv4 spelling;
    (ii) validation OFF (constructor, `build(authority=)`) with an answer that holds a ':' but is NO IP literal: the
        re-entry lower-cases and STORES it (fifth case of C16_headline_build_authority_host; the hypothetical answer
        "a:81" injects a port: C16_idn_needs_no_colon, C16Idn.lean) — unchanged by the fix, excluded by `IdnaSaneAt`
        only (the header of C16Idn.lean lists real answers of this kind, "[ü:x]" ↦ "xn--:x-wka");
    (iii) `IdnaSaneAt` is FALSE for the host of the fix (C16_headline_mapped_outside_idna_sane) and, by the same
        argument — an answer holding a ':' is not reg-name text, `notRegName_false_no_colon` —, for every host of the
        re-entered branch (no general theorem stated): the theorems of item 1 that assume `IdnaSaneAt`, and the run-time
        check of the oracle table against `IdnaAnswerSane` (header of C16Idn.lean: answers outside the assumption only
        limit the domain of the per-host theorems), say nothing about such hosts; that the real `idna` package maps
        fullwidth digits as the sample oracle `C16_mapped_oracle` says is an ORACLE fact, trusted base;
    (iv) no general URL-LEVEL theorem is specific to the re-entered branch (only the computed example); the general
        URL-level theorems whose hypothesis is "passes validation" (C16_headline_host_three_routes,
        C16_headline_host_build_authority_route) do apply to it;
    (v) "the decoded host re-encodes to the same raw host" for such a URL is the IP-literal case
        (C16_headline_host_reencodes_ip: `URL.host` is the raw host "1::2"), not the original fullwidth text — which is
        NOT recovered, by design.
-/
end Yarl
