import YarlProofs.C16Headline
import YarlProofs.C16More
import YarlProofs.C16Idn
/-!
# C16 — Hosts are stored in one canonical form and hostile hosts are rejected   (audit layer, continued)

Companion of `C16Headline.lean`: the headline theorems that need `C16More.lean` (+ `Lemmas/V6More.lean`) and
`C16Idn.lean`, modules which import `C16Headline.lean` (C16More) or were written after it (C16Idn), so that the
headline file itself cannot import them.  Only C16HeadlineMore3.lean (the next companion: headline theorems over
C16More2.lean) imports this file.

Property statement (verbatim):

> The encoded host is always lower-case ASCII (an IPv6 zone id is kept verbatim): registered names are
> IDNA-encoded, IPv4 literals are kept, and valid IPv6 literals are compressed and always bracketed in
> str(), host_subcomponent and host_port_subcomponent; encoding is idempotent and the decoded host
> re-encodes to the same raw host. build() and with_host() reject hosts containing characters outside the
> RFC 3986 reg-name grammar, and any authority containing a non-ASCII character whose NFKC form contains
> '/', '?', '#', '@' or ':' is rejected.

Reading guide (in addition to the one of `C16Headline.lean`).
* IDNA is an ORACLE of the model (`o.idnaEnc` = the `idna` package, `o.idnaEncStd` = the stdlib codec fallback,
  `o.idnaDec`/`idnaDecStd` the decoders; `idnaEncode o h` = `_idna_encode(h)`, `idnaDecode o a` = `_idna_decode(a)`).
  `IdnaAnswerSane a` (C16Idn.lean): `a ≠ [] ∧ notRegName a = false` — the answer is non-empty and passes the library's
  own `NOT_REG_NAME` screen.  `IdnaSaneAt o h`: the package's answer for `h` is sane, and the fallback's answer is sane
  after the `.lower()` the library applies (written out as `henc` / `hstd` in `C16_headline_idn_lower_ascii`).
  `IdnaRoundTripAt o a`: whatever the decoders return for `a` encodes back to `a` (an ASCII decoding is `a` itself; a
  non-ASCII decoding `d` satisfies `idnaEncode o d = .ok a` and is no IP literal in front of a '%').  These predicates
  are the TRUSTED-BASE assumption about the third-party package; they are satisfiable (`C16_idn_sane_satisfiable`,
  a two-entry table with the answers of the real code) and every clause is needed (`C16_idn_needs_*`, C16Idn.lean).
* `Rfc5952.format` (Lemmas/V6More.lean) is an independent specification of the RFC 5952 §4 text form: `field x` = the
  lower-case hex digits of a 16-bit group without leading zeros; `fields l` = the groups joined by single colons;
  `longest l` = the length of the longest run of zero groups; `firstAt n l` = the first position where a run of at
  least `n` zero groups starts; `format l` = `fields l` if `longest l < 2`, else the first longest run replaced by
  "::"; `countDC s` = the number of (possibly overlapping) occurrences of "::" in `s`.
* In the `str()` theorems: `V6More.schemePart sc` = `sc ++ ":"` (empty for an empty scheme); `V6More.shownPort sc ep` =
  `":" ++ port` unless `ep` is `none` or the default port of `sc`; `V6More.portStr ep` = `":" ++ port` or empty;
  `V6More.tailPart path query fragment` = everything `str()` writes after the authority (the path, rooted if not
  empty, `?query`, `#fragment`); `C07_strPath u` = the stored path, or "/" for an empty path under an authority when
  a query or fragment follows; `userPrefix ru rp` = the stored userinfo with its '@' (empty without userinfo);
  `l₁ <:+: l₂` = `l₁` is a contiguous piece of `l₂`.
* `rebracket b h1` = `"[" ++ h1 ++ "]"` if `b` and `h1` has no '[' , else `h1`; `zonePart h0` = `"%" ++ zone` of `h0` or
  empty; `lowerAny e s` = `s.lower()` (an oracle call for a non-ASCII `s`); `C16_keptPort sc port` = `port` unless it is
  the default port of `sc`; `checkNetloc` = `_check_netloc` (the NFKC screen: since library fix 27f84d3 it removes
  `@ : # ? [ ]` from the netloc before normalising and rejects an NFKC form containing one of `/ ? # @ : [ ]` — two
  characters more than the property text lists; C16Headline GAPS 8).
  37 = '%', 47 = '/', 58 = ':', 64 = '@', 91/93 = '[' ']'.
-/

namespace Yarl
open HostLemmas NetlocLemmas MiscLemmas FixLemmas HumanLemmas
open StrTotal (zonePart rebracket)
open Rfc5952

/-! ## Sentence 1 — the canonical form -/

/-! ### "The encoded host is always lower-case ASCII", "registered names are IDNA-encoded" — NON-ASCII hosts
    (C16Headline GAPS 1) -/

/-- "The encoded host is always lower-case ASCII … registered names are IDNA-encoded" for a NON-ASCII host, the
    CONSTRUCTOR included (`v = false`) — closes C16Headline GAPS 1 RELATIVE TO the stated assumption on the IDNA
    answers for this one host (`henc`, `hstd` together are `IdnaSaneAt o h`): an accepted host IS the answer of
    `_idna_encode`, and it is non-empty lower-case ASCII reg-name text — no upper-case letter, no character ≥ 128,
    no blank or control character, none of `/ ? # : @ [ ]`. -/
theorem C16_headline_idn_lower_ascii (o : Oracles) (h r : Str) (v : Bool)
    (hna : isAscii h = false)                       -- the IDN case (ASCII hosts: C16_headline_lower_ascii)
    (hip : parseIP (partition 37 h).1 = none)       -- guard: no IP literal in front of a '%' (those: C16_headline_ipv6 / _zone_*)
    (henc : ∀ a, o.idnaEnc h = some (some a) → a ≠ [] ∧ notRegName a = false)
                                                    -- ASSUMED of the `idna` package (trusted base): its answer is
                                                    -- non-empty reg-name text; false for a hostile package:
                                                    -- `C16_headline_lower_ascii_fails_for_hostile_idna`
    (hstd : ∀ a, o.idnaEnc h = some none → o.idnaEncStd h = some (some a) →
      lower a ≠ [] ∧ notRegName (lower a) = false) :  -- ASSUMED of the stdlib-codec fallback, after `.lower()`
    encodeHost o h v = .ok r →
    idnaEncode o h = .ok r ∧ r ≠ [] ∧ notRegName r = false ∧ isLowerAscii r ∧ isAscii r = true ∧ lower r = r ∧
    (∀ c ∈ r, 33 ≤ c ∧ c ≠ 47 ∧ c ≠ 63 ∧ c ≠ 35 ∧ c ≠ 58 ∧ c ≠ 64 ∧ c ≠ 91 ∧ c ≠ 93) := by
  intro he
  obtain ⟨h1, h2, h3, h4, h5, h6⟩ := C16_idn_encoded_ascii_lower o h r v hna hip
    ⟨fun a ha => ⟨(henc a ha).1, (henc a ha).2⟩, fun a ha hb => ⟨(hstd a ha hb).1, (hstd a ha hb).2⟩⟩ he
  exact ⟨h1, h2.nonempty, h2.regName, h3, h4, h5, h6⟩

/-- the assumption is NEEDED (hypothetical oracle: an `idna` package answering "XN--A" for every non-ASCII host; the
    library does not lower-case the PACKAGE's answer, only the fallback's): the constructor route stores "XN--A" for
    the host "é" — not lower case — and `_encode_host` is not idempotent on it.  (Further hostile answers — with ':',
    '@', '/', empty, "a%zz" — and what they do to C03 / C09: `C16_idn_needs_no_colon`, `_no_at`, `_no_slash`,
    `_nonempty`, `_regname` in C16Idn.lean.) -/
theorem C16_headline_lower_ascii_fails_for_hostile_idna :
    let e : Env := { b := .c, o := C16_idn_hostile "XN--A".toStr }
    ¬ IdnaSaneAt e.o [233] ∧
    encodeHost e.o [233] false = .ok "XN--A".toStr ∧ ¬ isLowerAscii "XN--A".toStr ∧
    encodeHost e.o "XN--A".toStr false = .ok "xn--a".toStr ∧
    (encodeUrl e C16_idn_input).bind (rawHost e) = .ok (some "XN--A".toStr) ∧
    (encodeUrl e C16_idn_input).bind (str e) = .ok "http://XN--A/p".toStr ∧
    (encodeUrl e "http://XN--A/p".toStr).map (·.netloc) = .ok "xn--a".toStr :=
  C16_idn_needs_lower

/-- … at the level of the constructor: `URL("scheme://h/path#fragment")` for an IDN host `h` is accepted exactly when
    `_idna_encode` answers, and the stored netloc and `raw_host` ARE the answer.  `ValidScheme sc`: non-empty,
    scheme characters only, lower case; `IdnHostInput o h`: `h` is non-ASCII, has none of `/ ? # TAB LF CR [ ] : @`,
    passes the NFKC screen `_check_netloc`, the `str.isdigit` oracle knows its last character, and it is no IP literal
    in front of a '%'; `Clean s`: no TAB / LF / CR; `fragTail rf` = `"#" ++ rf` or empty; `preHost a` = the cache entry
    "raw host `a`, nothing else". -/
theorem C16_headline_idn_constructor (e : Env) (sc h rp rf : Str)
    (vs : ValidScheme sc)                           -- guard: the family of inputs `scheme://h/path#fragment`
    (hi : IdnHostInput e.o h)                       -- guard: a non-ASCII host standing alone in the authority
    (hs : IdnaSaneAt e.o h)                         -- ASSUMED of the IDNA answers for `h` (trusted base, see above)
    (h35 : 35 ∉ rp) (h63 : 63 ∉ rp)                 -- guard: `rp` is a path (no '#', no '?')
    (hc1 : Clean rp) (hc2 : Clean rf) :             -- guard: nothing `cleanUrl` would strip
    (∀ u, encodeUrl e (sc ++ 58 :: 47 :: 47 :: (h ++ (47 :: rp ++ fragTail rf))) = .ok u →
      ∃ a, idnaEncode e.o h = .ok a ∧ IdnaAnswerSane a ∧ u.netloc = a ∧ rawHost e u = .ok (some a) ∧
        u.pre = some (preHost a) ∧ u.scheme = sc) ∧
    (∀ a, idnaEncode e.o h = .ok a →
      ∃ u, encodeUrl e (sc ++ 58 :: 47 :: 47 :: (h ++ (47 :: rp ++ fragTail rf))) = .ok u) :=
  C16_idn_ctor e sc h rp rf vs hi hs h35 h63 hc1 hc2

/-- … `build(host=h)` and `with_host(h)` with a non-ASCII `h` (validation ON): NOTHING is assumed about the package
    except — for the last conjunct — that its answer is not empty: success means the IDNA answer `r` passed the
    reg-name screen, and a non-empty `r` is then a fixed point of `_encode_host`, with and without validation.
    Since fix 3fbf5b4 there is a second way to succeed: the answer `x` holds a ':' and is an IP literal with a screened
    zone; the result is then its canonical text (`ipRes x`: the compressed bracketed form for IPv6). -/
theorem C16_headline_idn_validated (e : Env) (h : Str)
    (hna : isAscii h = false)                       -- the IDN case
    (hip : parseIP (partition 37 h).1 = none) :     -- guard: no IP literal in front of a '%'
    (∀ (a : BuildArgs) (u : Url), a.encoded = false → a.authority = [] → a.host = h → build e a = .ok u →
      ∃ r, encodeHost e.o h true = .ok r ∧
        ((idnaEncode e.o h = .ok r ∧ notRegName r = false ∧ (r ≠ [] → ∀ v, encodeHost e.o r v = .ok r)) ∨
         (∃ x, idnaEncode e.o h = .ok x ∧ mem 58 x = true ∧ ipRes x = some r ∧ zoneBad x true = false))) ∧
    (∀ (u u' : Url), withHost e u h = .ok u' →
      ∃ r, encodeHost e.o h true = .ok r ∧
        ((idnaEncode e.o h = .ok r ∧ notRegName r = false ∧ (r ≠ [] → ∀ v, encodeHost e.o r v = .ok r)) ∨
         (∃ x, idnaEncode e.o h = .ok x ∧ mem 58 x = true ∧ ipRes x = some r ∧ zoneBad x true = false))) := by
  constructor
  · intro a u henc hauth hh hb
    subst hh
    obtain ⟨r, h1, ⟨h2, h3, h4⟩ | hx⟩ := C16_idn_build e a u henc hauth hna hip hb
    · exact ⟨r, h1, Or.inl ⟨h2, h3, fun hne => (h4 hne).2.2⟩⟩
    · exact ⟨r, h1, Or.inr hx⟩
  · intro u u' hw
    obtain ⟨r, h1, ⟨h2, h3, h4⟩ | hx⟩ := C16_idn_withHost e u u' h hna hip hw
    · exact ⟨r, h1, Or.inl ⟨h2, h3, fun hne => (h4 hne).2.2⟩⟩
    · exact ⟨r, h1, Or.inr hx⟩

/-- "encoding is idempotent", IDN case — `C16_headline_idempotent` without its `isAscii h` hypothesis (closes the
    idempotence part of C16Headline GAPS 1 relative to `IdnaSaneAt`): the stored answer is ASCII, so encoding it again
    (with or without validation, `v'`) takes the ASCII fast path and never asks IDNA again. -/
theorem C16_headline_idn_idempotent (o : Oracles) (h r : Str) (v v' : Bool)
    (hna : isAscii h = false)                       -- the IDN case (ASCII hosts: C16_headline_idempotent)
    (hip : parseIP (partition 37 h).1 = none)       -- guard: no IP literal in front of a '%'
    (hs : IdnaSaneAt o h) :                         -- ASSUMED of the IDNA answers for `h` (trusted base)
    encodeHost o h v = .ok r → encodeHost o (unbracket r) v' = .ok r :=
  C16_idn_encode_idempotent o h r v v' hna hip hs

/-- what `URL.host` returns for a raw host that is a sane IDNA answer `a`: the IDNA decoding of `a` — also, since fix
    60dbf1e, when `a` ends in a digit but contains "xn--" (before the fix such a host was returned undecoded); only a
    digit-ending `a` WITHOUT "xn--" is returned as it is ("IP addresses are never IDNA encoded"). -/
theorem C16_headline_idn_host_decoded (e : Env) (u : Url) (a : Str) (hraw : rawHost e u = .ok (some a))
    (hs : IdnaAnswerSane a) :                       -- the stored host is non-empty reg-name text (see `C16_headline_idn_lower_ascii`)
    (((∀ l, a.getLast? = some l → isDigitC l = false) ∨ hasSub [120, 110, 45, 45] a = true) →
      host e u = (idnaDecode e.o a).map some ∧
      (∀ d, e.o.idnaDec a = some (some d) → host e u = .ok (some d))) ∧
    ((∃ l, a.getLast? = some l ∧ isDigitC l = true) → hasSub [120, 110, 45, 45] a = false →
      host e u = .ok (some a)) :=
  C16_idn_host_decoded e u a hraw hs

/-- "the decoded host re-encodes to the same raw host", IDN case (closes that part of C16Headline GAPS 1 relative to the
    round-trip assumption): whatever `URL.host` returns encodes back to the raw host `a`. -/
theorem C16_headline_idn_host_reencodes (e : Env) (u : Url) (a d : Str) (hraw : rawHost e u = .ok (some a))
    (hs : IdnaAnswerSane a)                         -- the stored host is non-empty reg-name text
    (hrt : IdnaRoundTripAt e.o a)                   -- ASSUMED of the decoders/encoder (trusted base): decode then encode
                                                    -- gives `a` back; needed: `…_fails_for_no_roundtrip`
    (hdig : isAscii d = false → ∃ b, looksIP e.o d = .ok b) :
                                                    -- model artefact: the `str.isdigit` oracle knows the last character of `d`
    host e u = .ok (some d) → encodeHost e.o d false = .ok a :=
  C16_idn_host_reencodes e u a d hraw hs hrt hdig

/-- the round-trip assumption is NEEDED (hypothetical oracle, sane but not round-tripping: "é" ↦ "xn--9ca",
    "xn--9ca" decodes to "ë", "ë" ↦ "xn--cda"): `URL("http://é/p").host` is "ë", which encodes to another raw host. -/
theorem C16_headline_idn_host_reencodes_fails_for_no_roundtrip :
    let o : Oracles := { C16_idn_hostile [] with
      idnaEnc := fun s => if s = [233] then some (some "xn--9ca".toStr) else some (some "xn--cda".toStr),
      idnaDec := fun s => if s = "xn--9ca".toStr then some (some [235]) else none }
    let e : Env := { b := .c, o := o }
    IdnaSane o ∧ ¬ IdnaRoundTripAt o "xn--9ca".toStr ∧
    (encodeUrl e C16_idn_input).bind (rawHost e) = .ok (some "xn--9ca".toStr) ∧
    (encodeUrl e C16_idn_input).bind (host e) = .ok (some [235]) ∧
    encodeHost o [235] false = .ok "xn--cda".toStr :=
  C16_idn_needs_roundtrip

/-! ### "(an IPv6 zone id is kept verbatim)" (C16Headline GAPS 2) -/

/-- "(an IPv6 zone id is kept verbatim)" — an EXACT equation for `_encode_host` on `addr%zone`, validation off or on
    (closes C16Headline GAPS 2): the zone is copied byte for byte (any case, any character: with validation OFF nothing
    at all is checked, not even ']' '/' '@'); with validation ON the call fails iff the lower-cased zone fails the
    reg-name screen. -/
theorem C16_headline_zone_kept_verbatim (o : Oracles) (host : Str) (v : Bool) (h8 : List Nat)
    (h6 : parseIPv6 (partition 37 host).1 = some h8)      -- the text before the first '%' is an IPv6 literal
    (hsep : (partition 37 host).2.1 = true) :             -- there is a '%' (a zone id)
    encodeHost o host v =
      if v = true ∧ notRegName (lower (partition 37 host).2.2) = true then .error .valueError
      else .ok ([91] ++ ipv6ToStr h8 ++ [37] ++ (partition 37 host).2.2 ++ [93]) :=
  C16_zone_kept_verbatim o host v h8 h6 hsep

/-- … for a host written as `addr ++ "%" ++ zone`, with the characters validation lets through: '%' and the ASCII
    `unreserved / sub-delims` characters of RFC 3986, letters of EITHER case (everything else — `: / ? # [ ] @`, space,
    controls, `" < > \ ^ \` { | }`, DEL, every non-ASCII character — is rejected by build(host=) / with_host) -/
theorem C16_headline_zone_validated_chars (o : Oracles) (addr z : Str) (v : Bool) (h8 : List Nat) (r : Str)
    (h6 : parseIPv6 addr = some h8)                       -- `addr` is an IPv6 literal
    (h37 : 37 ∉ addr) :                                   -- model artefact: the first '%' is the zone separator
    encodeHost o (addr ++ [37] ++ z) v = .ok r → r = [91] ++ ipv6ToStr h8 ++ [37] ++ z ++ [93] ∧
      (v = true → notRegName (lower z) = false ∧
        ∀ c ∈ z, c = 37 ∨ (c < 128 ∧ (Rfc.unreserved c = true ∨ Rfc.subDelims c = true))) :=
  C16_zone_kept_verbatim' o addr z v h8 r h6 h37

/-- the `NOT_REG_NAME` screen, EXACTLY (an `iff`; `C16_headline_validation` has the two implications only), and the
    single characters of a zone id it lets through after the lower-casing -/
theorem C16_headline_notRegName_iff (s : Str) (c : Nat) :
    (notRegName s = false ↔
      ((∀ a b, s = a ++ 37 :: b → ∃ x y t, b = x :: y :: t ∧ isLowerHexDigit x = true ∧ isLowerHexDigit y = true) ∧
       ∀ c ∈ s, c = 37 ∨ mem c Gen.regNameChars = true)) ∧
    ((c = 37 ∨ mem (lowerC c) Gen.regNameChars = true) ↔
      (c = 37 ∨ (c < 128 ∧ (Rfc.unreserved c = true ∨ Rfc.subDelims c = true)))) :=
  ⟨C16_notRegName_iff s, C16_zone_char_accepted c⟩

/-- "IPv4 literals are kept" WITH a zone id (`C16_headline_ipv4_kept` has `37 ∉ s`): `a.b.c.d%zone` is treated as an IP
    literal only when the host "looks like an IP" (contains ':' or ends in a digit); then it is returned unchanged, zone
    verbatim, and with validation the zone is screened as for IPv6 -/
theorem C16_headline_zone_ipv4 (o : Oracles) (host : Str) (v : Bool) (o4 : List Nat)
    (h4 : parseIPv4 (partition 37 host).1 = some o4)      -- the text before the first '%' is an IPv4 literal
    (hsep : (partition 37 host).2.1 = true)               -- there is a '%'
    (hl : 58 ∈ host ∨ ∃ l, host.getLast? = some l ∧ isDigitC l = true) :
                                                          -- guard: yarl's IP heuristic fires; without it:
                                                          -- `C16_headline_ipv4_kept_fails_for_zone_without_digit`
    encodeHost o host v =
      if v = true ∧ notRegName (lower (partition 37 host).2.2) = true then .error .valueError else .ok host :=
  C16_zone_kept_verbatim_ipv4 o host v o4 h4 hsep hl

/-- the corner (guard `hl` above, and `37 ∉ s` of `C16_headline_ipv4_kept`): an IPv4 text with a zone that neither
    contains ':' nor ends in a digit is NOT an IP literal for yarl — the constructor lower-cases it like a registered
    name, zone included, and build(host=) / with_host reject it ("%et" is no `%hh` escape); with a digit-ending zone it
    is kept verbatim.  Python: `URL("http://1.2.3.4%ETH/").raw_host == "1.2.3.4%eth"`. -/
theorem C16_headline_ipv4_kept_fails_for_zone_without_digit (o : Oracles) :
    encodeHost o "1.2.3.4%ETH".toStr false = .ok "1.2.3.4%eth".toStr ∧
    encodeHost o "1.2.3.4%ETH".toStr true = .error .valueError ∧
    encodeHost o "1.2.3.4%ETH0".toStr false = .ok "1.2.3.4%ETH0".toStr ∧
    encodeHost o "1.2.3.4%ETH0".toStr true = .ok "1.2.3.4%ETH0".toStr :=
  C16_zone_ipv4_not_literal o

/-! ### "valid IPv6 literals are compressed" (C16Headline GAPS 4) -/

/-- "compressed": the text `_encode_host` writes for an IPv6 address (`ipv6ToStr`, the hand model of CPython's
    `IPv6Address.compressed`) IS the RFC 5952 §4 recommended form, as specified independently by `Rfc5952.format`
    (written out: the groups in lower-case hex without leading zeros, joined by ':', the FIRST LONGEST run of at least
    two zero groups replaced by "::"); "::" occurs at most once — exactly once iff two adjacent groups are zero
    (closes C16Headline GAPS 4 as far as the MODEL of `.compressed` goes). -/
theorem C16_headline_ipv6_is_rfc5952 (h8 : List Nat)
    (hx : ∀ x ∈ h8, x < 65536) :                          -- the groups are 16-bit (what `parseIPv6` returns)
    ipv6ToStr h8 = Rfc5952.format h8 ∧
    Rfc5952.format h8 =
      (if longest h8 < 2 then fields h8
       else fields (h8.take (firstAt (longest h8) h8)) ++ [58, 58] ++
            fields (h8.drop (firstAt (longest h8) h8 + longest h8))) ∧
    countDC (ipv6ToStr h8) = (if longest h8 < 2 then 0 else 1) := by
  have h := C16_ipv6_is_rfc5952 h8 hx
  refine ⟨h, rfl, ?_⟩
  rw [h]; exact V6More.countDC_format h8

/-- … RFC 5952 §4 clause by clause, WITHOUT reference to `format`.  With `n` the length of the longest run of zero
    groups and `i` the first position where a run of that length starts:
    `n < 2`: the groups are joined by single colons, "::" does not occur;
    `2 ≤ n`: groups `i … i+n-1` are zero, they are replaced by "::", which occurs EXACTLY once (overlapping occurrences
      counted), and the replaced run cannot be extended on either side (§4.2.1 "as much as possible");
    no run of zero groups anywhere is longer than `n`, and no run of length `n` starts before `i` (§4.2.3);
    if any two adjacent groups are zero, "::" is used (§4.2.2 conversely: a single zero group is not shortened). -/
theorem C16_headline_ipv6_double_colon (h8 : List Nat)
    (hx : ∀ x ∈ h8, x < 65536) :                          -- the groups are 16-bit
    let n := longest h8
    let i := firstAt n h8
    (n < 2 → ipv6ToStr h8 = fields h8 ∧ countDC (ipv6ToStr h8) = 0) ∧
    (2 ≤ n → h8 = h8.take i ++ List.replicate n 0 ++ h8.drop (i + n) ∧
      ipv6ToStr h8 = fields (h8.take i) ++ [58, 58] ++ fields (h8.drop (i + n)) ∧
      countDC (ipv6ToStr h8) = 1 ∧
      (h8.drop (i + n)).head? ≠ some 0 ∧ (h8.take i).getLast? ≠ some 0) ∧
    (∀ a b m, h8 = a ++ List.replicate m 0 ++ b → m ≤ n ∧ (m = n → i ≤ a.length)) ∧
    (∀ a b, h8 = a ++ [0, 0] ++ b → countDC (ipv6ToStr h8) = 1) ∧
    countDC (ipv6ToStr h8) ≤ 1 :=
  C16_ipv6_double_colon h8 hx

/-- … each group (§4.1, §4.3): lower-case hex, one to four digits, no leading zero (a zero group is "0"), and it
    denotes the group's value -/
theorem C16_headline_ipv6_groups (x : Nat)
    (hx : x < 65536) :                                    -- a 16-bit group
    hexLower x = Rfc5952.field x ∧
    (∀ c ∈ hexLower x, isDigitC c = true ∨ (97 ≤ c ∧ c ≤ 102)) ∧
    1 ≤ (hexLower x).length ∧ (hexLower x).length ≤ 4 ∧
    ((hexLower x).head? = some 48 → hexLower x = [48] ∧ x = 0) ∧
    parseHextet (hexLower x) = some x :=
  C16_ipv6_groups x hx

/-- NOT RFC 5952 §5: CPython's `.compressed` does not use the mixed notation recommended for IPv4-mapped addresses —
    `::ffff:192.0.2.1` (accepted on input) is stored as `::ffff:c000:201` -/
theorem C16_headline_ipv6_rfc5952_fails_for_ipv4_mapped :
    parseIPv6 "::ffff:192.0.2.1".toStr = some [0, 0, 0, 0, 0, 0xffff, 0xc000, 0x0201] ∧
    ipv6ToStr [0, 0, 0, 0, 0, 0xffff, 0xc000, 0x0201] = "::ffff:c000:201".toStr :=
  C16_ipv6_no_mixed_notation

/-! ### "… always bracketed in str()" (C16Headline GAPS 3) -/

/-- "always bracketed in str()" — the CONSTRUCTOR (closes C16Headline GAPS 3 for `URL(s)`, with the corner below).
    `URL(s)` succeeded, `p` is the parse of `s`; a raw host `h` containing ':' stands in `str()` as `[h]`, right after
    "//" and the stored userinfo, followed by the port unless that is the scheme default; in particular "[h]" is a
    contiguous piece of `str()`. -/
theorem C16_headline_str_brackets_constructor (e : Env) (s : Str)
    (hs : PyStr s)                                        -- model artefact: code points ≤ 0x10FFFF
    (u : Url) (p : Parts) (h r : Str)
    (hu : encodeUrl e s = .ok u) (hp : splitUrl e.o s = .ok p)
    (hone : 91 ∉ (partition 91 (rpartition 64 p.netloc).2.2).2.2)
                                                          -- guard: at most one '[' in the host part of the authority;
                                                          -- without it: `C16_headline_str_brackets_fails_for_second_bracket`
    (hidna : ∀ h0 x, isAscii h0 = false → idnaEncode e.o h0 = .ok x →
      ∀ c, (c = 58 ∨ c = 64 ∨ c = 91 ∨ c = 93) → c ∈ x → c ∈ h0)
                                                          -- ASSUMED of the IDNA encoder: it introduces none of `: @ [ ]`
                                                          -- (follows from `IdnaSane`: `…_str_brackets_idna_hypothesis`);
                                                          -- without it: `C16_headline_str_brackets_fails_for_idna_colon`
    (hraw : rawHost e u = .ok (some h)) (h58 : 58 ∈ h)    -- "valid IPv6 literals": the raw host has a ':'
    (hr : str e u = .ok r) :
    (∃ ru rp ep, rawUser e u = .ok ru ∧ rawPassword e u = .ok rp ∧ explicitPort e u = .ok ep ∧
      u.netloc = userPrefix ru rp ++ [91] ++ h ++ [93] ++ V6More.portStr ep ∧
      r = V6More.schemePart u.scheme ++ [47, 47] ++ userPrefix ru rp ++ [91] ++ h ++ [93] ++
          V6More.shownPort u.scheme ep ++ V6More.tailPart (C07_strPath u) u.query u.fragment) ∧
    [91] ++ h ++ [93] <:+: r :=
  let t := C16_str_brackets_ipv6 e s hs u p h r hu hp hone hidna hraw h58 hr
  ⟨t.1, C16_strShows_infix t.2⟩

/-- THE CONSTRUCTOR STATEMENT IS FALSE WITHOUT "at most one '[' in the host part" (guard `hone`; real behaviour of
    the library, both backends).  `u = URL("http://[x::1%z[]/")` is accepted (the bracket check only looks for a ':'
    between the first '[' and the next ']'); `u.raw_host == "::1%z"` (a valid IPv6 literal with zone),
    `u.host_subcomponent == "[::1%z]"`, but `str(u) == "http://x::1%z[/"`: no "[::1%z]", not even a ']'. -/
theorem C16_headline_str_brackets_fails_for_second_bracket (b : Backend) :
    let e : Env := { b := b, o := Oracles.empty }
    ∃ u, encodeUrl e "http://[x::1%z[]/".toStr = .ok u ∧
      rawHost e u = .ok (some "::1%z".toStr) ∧ 58 ∈ "::1%z".toStr ∧
      parseIPv6 (partition 37 "::1%z".toStr).1 = some [0, 0, 0, 0, 0, 0, 0, 1] ∧
      hostSubcomponent e u = .ok (some "[::1%z]".toStr) ∧
      str e u = .ok "http://x::1%z[/".toStr ∧ 93 ∉ "http://x::1%z[/".toStr ∧
      -- the hypothesis `hone` that fails:
      91 ∈ (partition 91 (rpartition 64 "[x::1%z[]".toStr).2.2).2.2 :=
  C16_str_brackets_fails_for b

/-- the IDNA hypothesis `hidna` is needed (a HYPOTHETICAL encoder answering "a:b" for a host without ':'; for the
    constructor the NFKC screen excludes the real cases): a raw host with ':' that `str()` does not bracket -/
theorem C16_headline_str_brackets_fails_for_idna_colon :
    let e : Env := { b := .py, o := V6More.colonOracle }
    let u := encodeUrl e ("http://".toStr ++ [233] ++ "/".toStr)
    u.bind (rawHost e) = .ok (some "a:b".toStr) ∧ u.bind (str e) = .ok "http://a:b/".toStr :=
  C16_str_brackets_needs_idna

/-- the hypothesis `hidna` of the `str()` theorems is no new assumption: it follows from the ONE assumption on the IDNA
    answers (`IdnaSane o`: every answer for a non-ASCII host is sane, i.e. non-empty reg-name text), because reg-name
    text contains none of `: @ [ ]` -/
theorem C16_headline_str_brackets_idna_hypothesis (o : Oracles)
    (hs : IdnaSane o) :                                   -- ASSUMED of the IDNA answers (trusted base)
    ∀ h0 x, isAscii h0 = false → idnaEncode o h0 = .ok x →
      ∀ c, (c = 58 ∨ c = 64 ∨ c = 91 ∨ c = 93) → c ∈ x → c ∈ h0 := by
  intro h0 x hna hx c hc hcx
  have hsa := Idn.idnaEncode_sane (hs h0 hna) hx
  have : hostChar c = false := by rcases hc with rfl | rfl | rfl | rfl <;> decide
  exact absurd hcx (Idn.sane_no hsa this)

/-- "always bracketed in str()" — `build(host=…)`: a raw host containing ':' is an IPv6 literal that passed
    validation, and `str()` is `[scheme ":"] "//" X "[" h "]" [":" port] tail`, `X` empty or a userinfo ending in '@',
    the port shown unless it is the scheme default (no further hypothesis) -/
theorem C16_headline_str_brackets_build_host (e : Env) (a : BuildArgs) (u : Url) (h r : Str)
    (hb : build e a = .ok u)
    (henc : a.encoded = false)                            -- guard: encoded=True stores the host as given
    (hauth : a.authority = [])                            -- the `host=` route (authority=: next theorem but one)
    (hraw : rawHost e u = .ok (some h)) (h58 : 58 ∈ h) (hs : str e u = .ok r) :
    encodeHost e.o a.host true = .ok ([91] ++ h ++ [93]) ∧
    (∃ X ep, (X = [] ∨ ∃ ui, X = ui ++ [64]) ∧ explicitPort e u = .ok ep ∧
      r = V6More.schemePart u.scheme ++ [47, 47] ++ X ++ [91] ++ h ++ [93] ++ V6More.shownPort u.scheme ep ++
          V6More.tailPart (C07_strPath u) u.query u.fragment) ∧
    [91] ++ h ++ [93] <:+: r :=
  let t := C16_str_brackets_build_host e a u h r hb henc hauth hraw h58 hs
  ⟨t.1, t.2, C16_strShows_infix t.2⟩

/-- "always bracketed in str()" — `with_host`: the new host, when its raw form contains ':', is an IPv6 literal that
    passed validation, and `str()` of the result shows it in brackets right after "//" and the userinfo -/
theorem C16_headline_str_brackets_with_host (e : Env) (u u' : Url) (h0 h r : Str) (hw : withHost e u h0 = .ok u')
    (hraw : rawHost e u' = .ok (some h)) (h58 : 58 ∈ h)
    (hpath : u.scheme ≠ [] ∨ u.path = [] ∨ u.path.head? = some 47)
                                                          -- guard: a scheme, or an empty-or-rooted path; without it:
                                                          -- `C16_headline_str_brackets_with_host_fails_for_rootless_path`
    (hs : str e u' = .ok r) :
    encodeHost e.o h0 true = .ok ([91] ++ h ++ [93]) ∧
    (∃ X ep, (X = [] ∨ ∃ ui, X = ui ++ [64]) ∧ explicitPort e u' = .ok ep ∧
      r = V6More.schemePart u'.scheme ++ [47, 47] ++ X ++ [91] ++ h ++ [93] ++ V6More.shownPort u'.scheme ep ++
          V6More.tailPart (C07_strPath u') u'.query u'.fragment) ∧
    [91] ++ h ++ [93] <:+: r :=
  let t := C16_str_brackets_with_host e u u' h0 h r hw hraw h58 hpath hs
  ⟨t.1, t.2, C16_strShows_infix t.2⟩

/-- the path guard of `C16_headline_str_brackets_with_host` is needed: on a URL without scheme whose path is rootless
    (only `build(encoded=True)` makes one) `str()` drops the whole authority.
    Python: `str(URL.build(host="h", path="a", encoded=True).with_host("::1")) == ":a"` -/
theorem C16_headline_str_brackets_with_host_fails_for_rootless_path (b : Backend) :
    let e : Env := { b := b, o := Oracles.empty }
    let u' := (build e { host := "h".toStr, path := "a".toStr, encoded := true }).bind (fun u => withHost e u "::1".toStr)
    u'.bind (rawHost e) = .ok (some "::1".toStr) ∧ u'.bind (str e) = .ok ":a".toStr :=
  C16_str_brackets_with_host_needs_path b

/-- "always bracketed in str()" — `build(authority=A)`: under the same two hypotheses as for the constructor (the host
    part of `A`, the text after the last '@', has at most one '['; the IDNA encoder introduces none of `: @ [ ]`) a raw
    host containing ':' is shown in brackets by `str()` -/
theorem C16_headline_str_brackets_build_authority (e : Env) (a : BuildArgs) (u : Url) (h r : Str)
    (hb : build e a = .ok u)
    (henc : a.encoded = false)                            -- guard: encoded=True stores the authority as given
    (hauth : a.authority ≠ [])                            -- the `authority=` route
    (hone : 91 ∉ (partition 91 (rpartition 64 a.authority).2.2).2.2)
                                                          -- guard: at most one '[' in the host part; without it:
                                                          -- `C16_headline_str_brackets_fails_for_build_authority_second_bracket`
    (hidna : ∀ h0 x, isAscii h0 = false → idnaEncode e.o h0 = .ok x →
      ∀ c, (c = 58 ∨ c = 64 ∨ c = 91 ∨ c = 93) → c ∈ x → c ∈ h0)
                                                          -- ASSUMED of the IDNA encoder, as for the constructor
    (hraw : rawHost e u = .ok (some h)) (h58 : 58 ∈ h) (hs : str e u = .ok r) :
    (∃ X ep, (X = [] ∨ ∃ ui, X = ui ++ [64]) ∧ explicitPort e u = .ok ep ∧
      r = V6More.schemePart u.scheme ++ [47, 47] ++ X ++ [91] ++ h ++ [93] ++ V6More.shownPort u.scheme ep ++
          V6More.tailPart (C07_strPath u) u.query u.fragment) ∧
    [91] ++ h ++ [93] <:+: r :=
  let t := C16_str_brackets_build_authority e a u h r hb henc hauth hone hidna hraw h58 hs
  ⟨t, C16_strShows_infix t⟩

/-- the same corner for `build(authority=…)` (guard `hone`; both backends): `URL.build(scheme="http",
    authority="[[b:c]")` has `raw_host == "b:c"` and `str() == "http://[b:c"` — no closing bracket -/
theorem C16_headline_str_brackets_fails_for_build_authority_second_bracket (b : Backend) :
    let e : Env := { b := b, o := Oracles.empty }
    ∃ u, build e { scheme := "http".toStr, authority := "[[b:c]".toStr } = .ok u ∧
      rawHost e u = .ok (some "b:c".toStr) ∧ str e u = .ok "http://[b:c".toStr ∧ 93 ∉ "http://[b:c".toStr ∧
      91 ∈ (partition 91 (rpartition 64 "[[b:c]".toStr).2.2).2.2 :=
  C16_str_brackets_build_authority_fails_for b

/-- "… host_subcomponent and host_port_subcomponent" specialised to a raw host with ':' (from
    `C16_headline_bracketed_subcomponents`; unlike `str()` these two accessors bracket UNCONDITIONALLY, also in the
    corners above; in a raw host with ':' a trailing '.' can only come from a zone id) -/
theorem C16_headline_subcomponents_bracket_ipv6 (e : Env) (u : Url) (h : Str)
    (hraw : rawHost e u = .ok (some h)) (h58 : 58 ∈ h) :
    hostSubcomponent e u = .ok (some ([91] ++ h ++ [93])) ∧
    (h.getLast? ≠ some 46 → ∀ r, hostPortSubcomponent e u = .ok (some r) → ∃ suffix, r = [91] ++ h ++ [93] ++ suffix) :=
  C16_subcomponents_bracket_ipv6 e u h hraw h58

/-! ## Sentence 2 — rejection -/

/-! ### "build() … reject hosts containing characters outside the RFC 3986 reg-name grammar" — `build(authority=…)`
    (C16Headline GAPS 5) -/

/-- WHAT IS GUARANTEED for `build(authority=A)` (closes C16Headline GAPS 5 by stating exactly what holds — the clause
    itself is FALSE on this route, next theorem).  The scheme is lowered first (`sc`, fix e21485a); a non-ASCII `A`
    passed the NFKC screen `_check_netloc`, as in the parser (fix c2c2803); then the authority is split by
    `split_netloc`; its host `h0` goes through `_encode_host(h0, validate_host=False)`, whose result `h1` is
    (1) `[` compressed IPv6 text `%zone` `]` when `h0` (before '%') is an IPv6 literal,
    (2) `h0` itself when it is an IPv4 literal (zone kept),
    (3) the ASCII-lower-cased `h0` when `h0` is ASCII, WHATEVER its characters (no reg-name screen),
    (4) the answer of the IDNA encoder otherwise (no reg-name screen) — unless
    (5) (since fix 3fbf5b4) that answer `x` holds a ':': then `x` goes through `_encode_host` again, i.e. (1)–(3) for `x`;
    the stored netloc is `[userinfo@]` + `h1` (re-bracketed if the input host was bracketed) + `[:port]`, the port being
    dropped when it is the default of the lowered scheme. -/
theorem C16_headline_build_authority_host (e : Env) (a : BuildArgs) (u : Url) (hb : build e a = .ok u)
    (henc : a.encoded = false)                            -- guard: encoded=True skips everything
    (hauth : a.authority ≠ []) :                          -- the `authority=` route
    ∃ sc np h1 X, lowerAny e a.scheme = .ok sc ∧ u.scheme = sc ∧
      (isAscii a.authority = false → checkNetloc e.o a.authority = .ok ()) ∧
      splitNetloc e.o a.authority = .ok np ∧
      (match np.host with | some h0 => encodeHost e.o h0 false | none => .ok []) = .ok h1 ∧
      (X = [] ∨ ∃ ui, X = ui ++ [64]) ∧
      u.netloc = X ++ rebracket (mem 91 (rpartition 64 a.authority).2.2) h1 ++
        V6More.portStr (C16_keptPort sc np.port) ∧
      (∀ h0, np.host = some h0 →
        (∃ h8, parseIP (partition 37 h0).1 = some (.v6 h8) ∧ h1 = [91] ++ (ipv6ToStr h8 ++ zonePart h0) ++ [93]) ∨
        h1 = h0 ∨ (isAscii h0 = true ∧ h1 = lower h0) ∨ (isAscii h0 = false ∧ idnaEncode e.o h0 = .ok h1) ∨
        (isAscii h0 = false ∧ ∃ x, idnaEncode e.o h0 = .ok x ∧ mem 58 x = true ∧
          ((∃ h8, parseIP (partition 37 x).1 = some (.v6 h8) ∧ h1 = [91] ++ (ipv6ToStr h8 ++ zonePart x) ++ [93]) ∨
            h1 = x ∨ (isAscii x = true ∧ h1 = lower x)))) :=
  C16_build_authority_host e a u hb henc hauth

/-- "build() … reject hosts containing characters outside the RFC 3986 reg-name grammar" is FALSE for
    `build(authority=…)` (by design in yarl: the authority route encodes the host with validation OFF): `EX^ample{}.com`
    is not in the reg-name grammar ('^', '{', '}'); as `authority` it is lower-cased, stored and printed, as `host` it
    raises, and `with_host` rejects it too. -/
theorem C16_headline_validation_fails_for_build_authority (e : Env) :
    (build e { scheme := "http".toStr, authority := "EX^ample{}.com".toStr }).map (·.netloc) = .ok "ex^ample{}.com".toStr ∧
    ((build e { scheme := "http".toStr, authority := "EX^ample{}.com".toStr }).bind (str e)) =
      .ok "http://ex^ample{}.com".toStr ∧
    build e { scheme := "http".toStr, host := "EX^ample{}.com".toStr } = .error .valueError ∧
    (∀ u, withHost e u "EX^ample{}.com".toStr ≠ .ok u) :=
  C16_build_authority_accepts_more e

/-! ### "any authority containing a non-ASCII character whose NFKC form contains '/', '?', '#', '@' or ':' is
    rejected" — `build(authority=…)` (C16Headline GAPS 6; fix c2c2803) -/

/-- the NFKC clause for `build(authority=A)` — SCREENED since fix c2c2803, exactly as `C16_headline_nfkc_rejects` states
    for the constructor: a non-ASCII `A` whose NFKC form (`nn`, the oracle's answer for `A` without "@:#?[]") contains one
    of "/?#@:[]" (the brackets since library fix 27f84d3: U+FF3B / U+FF3D normalise to them; the property text names the
    first five only) never yields a URL; and the error is `ValueError` as soon as the steps in front of the screen pass (a
    `port` of the wrong type is a `TypeError`, a `query` argument may raise its own error, lowering a non-ASCII scheme
    is an oracle call). -/
theorem C16_headline_nfkc_rejects_build_authority (e : Env) (a : BuildArgs) (nn : Str)
    (henc : a.encoded = false) :                          -- guard: encoded=True skips everything
    isAscii a.authority = false →
    e.o.nfkc (a.authority.filter (fun c => c ≠ 64 ∧ c ≠ 58 ∧ c ≠ 35 ∧ c ≠ 63 ∧ c ≠ 91 ∧ c ≠ 93)) = some nn →
    nn ≠ a.authority.filter (fun c => c ≠ 64 ∧ c ≠ 58 ∧ c ≠ 35 ∧ c ≠ 63 ∧ c ≠ 91 ∧ c ≠ 93) →
    (∃ c ∈ nn, c = 47 ∨ c = 63 ∨ c = 35 ∨ c = 64 ∨ c = 58 ∨ c = 91 ∨ c = 93) →
    (∀ u, build e a ≠ .ok u) ∧
    (a.portKind = 0 → (qargTruthy a.query = true → ∃ o, getStrQuery e.b a.query = .ok o) →
      (∃ sc, lowerAny e a.scheme = .ok sc) → build e a = .error .valueError) :=
  C16_build_authority_nfkc_screen e a nn henc

/-- … the two instances that were ACCEPTED before fix c2c2803 (`V6More.nfkcDemo` is a concrete `nfkc` oracle: U+2100 ℀ ↦
    "a/c", U+FF20 ＠ ↦ "@", every other character unchanged): `URL.build(scheme="http", authority="ex℀mple.com")` and
    `authority="a＠evil.com"` now raise ValueError — they used to store a netloc with '/', resp. the host "evil.com" —
    exactly as the constructor does for the same authority; both backends -/
theorem C16_headline_nfkc_rejects_build_authority_instances : ∀ b : Backend,
    build ⟨b, V6More.nfkcDemo⟩ { scheme := "http".toStr, authority := "ex".toStr ++ [0x2100] ++ "mple.com".toStr } =
      .error .valueError ∧
    build ⟨b, V6More.nfkcDemo⟩ { scheme := "http".toStr, authority := [97, 0xFF20] ++ "evil.com".toStr } =
      .error .valueError ∧
    encodeUrl ⟨b, V6More.nfkcDemo⟩ ("http://ex".toStr ++ [0x2100] ++ "mple.com".toStr) = .error .valueError ∧
    encodeUrl ⟨b, V6More.nfkcDemo⟩ ("http://a".toStr ++ [0xFF20] ++ "evil.com".toStr) = .error .valueError :=
  C16_build_authority_now_rejected

/-- … and for an ASCII authority `build` does not look at the `nfkc` oracle at all (the screen only runs on a
    non-ASCII one, as in `_check_netloc`) -/
theorem C16_headline_build_ascii_ignores_nfkc (e : Env) (a : BuildArgs) (f : Str → Option Str)
    (ha : isAscii a.authority = true) :                   -- the ASCII case
    build { e with o := { e.o with nfkc := f } } a = build e a :=
  C16_build_ascii_ignores_nfkc e a f ha

/-! ## non-vacuity -/
-- the IDNA assumption is satisfiable with the answers of the real code ("bücher" ↦ "xn--bcher-kva"; the package refuses
-- "ü_X.EXAMPLE" and the stdlib fallback answers "xn--_x-wka.EXAMPLE", lower-cased by the library)
example : IdnaSane C16_idn_sampleOracle ∧
    idnaEncode C16_idn_sampleOracle C16_idn_buecher = .ok "xn--bcher-kva".toStr ∧
    IdnaRoundTripAt C16_idn_sampleOracle "xn--bcher-kva".toStr :=
  ⟨C16_idn_sane_satisfiable.1, C16_idn_sane_satisfiable.2.1, C16_idn_sane_satisfiable.2.2.2.2.2.2⟩
-- zone: hypotheses of `C16_headline_zone_kept_verbatim` on an upper-case zone
example : parseIPv6 (partition 37 "FE80::1%Eth0".toStr).1 = some [0xfe80, 0, 0, 0, 0, 0, 0, 1] ∧
    (partition 37 "FE80::1%Eth0".toStr).2.1 = true ∧
    encodeHost Oracles.empty "FE80::1%Eth0".toStr true = .ok "[fe80::1%Eth0]".toStr := by
  str_lits; decide +kernel
-- RFC 5952: the standard example (first of two equally long runs is taken)
example : ipv6ToStr [0x2001, 0xdb8, 0, 0, 1, 0, 0, 1] = "2001:db8::1:0:0:1".toStr ∧
    longest [0x2001, 0xdb8, 0, 0, 1, 0, 0, 1] = 2 ∧ firstAt 2 [0x2001, 0xdb8, 0, 0, 1, 0, 0, 1] = 2 := by str_lits; decide +kernel
-- str(): all hypotheses of `C16_headline_str_brackets_constructor` hold on a URL with userinfo, zone and default port
example : ∃ u p, encodeUrl ⟨.py, Oracles.empty⟩ "http://u:p@[2001:DB8:0:0:1:0:0:1%Eth0]:80/p?q#f".toStr = .ok u ∧
    splitUrl Oracles.empty "http://u:p@[2001:DB8:0:0:1:0:0:1%Eth0]:80/p?q#f".toStr = .ok p ∧
    91 ∉ (partition 91 (rpartition 64 p.netloc).2.2).2.2 ∧
    rawHost ⟨.py, Oracles.empty⟩ u = .ok (some "2001:db8::1:0:0:1%Eth0".toStr) ∧
    str ⟨.py, Oracles.empty⟩ u = .ok "http://u:p@[2001:db8::1:0:0:1%Eth0]/p?q#f".toStr := by
  str_lits; exact ParseLemmas.OkAnd.exists₂ (by decide +kernel)

end Yarl
