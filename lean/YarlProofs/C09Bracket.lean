/-
  C09Bracket.lean — the part of C09 ("eager and lazy component computation agree; pickling is lossless") that
  concerns bracketed hosts which are not IPv6 addresses (IPvFuture "[v1.a:b]", "[g::1]", "[a:b]",
  "[1.2.3.4%a:b]"; vocabulary in Lemmas/BrHost.lean, C03Bracket.lean).

  ANSWER to "are these hosts inside `GoodAuthority`?": YES — `GoodHost` asks of an ASCII host text only that it
  contains no '[' (`C09_good_host_ascii`), and `BracketTextIn T` gives both.  Nothing else of `BracketTextIn` is used:
  not the bracket check, not "no IPv6 literal", not the letter case (so even the inputs of
  `C03_bracket_upper_v_counterexample`, whose string form cannot be parsed again, pickle losslessly).
-/
import YarlModel
import YarlProofs.C03Bracket
import YarlProofs.C09Headline
namespace Yarl
open ReachFix FixLemmas NetShape NetlocLemmas HostLemmas BrHost EagerLemmas

/-- the guard of `C09_eager_eq_lazy` holds for ANY Python-string input whose host text (as `split_netloc` cuts it
    out) is a bracketed non-IPv6 text in any letter case — whatever userinfo, port, path, query, fragment -/
theorem C09_bracket_good_authority (e : Env) (s : Str) (pt : Parts) (np : NetlocParts) (T : Str)
    (hs : PyStr s) (h1 : splitUrl e.o s = .ok pt) (h2 : splitNetloc e.o pt.netloc = .ok np)
    (hhost : np.host = some T) (hk : BracketTextIn T) : GoodAuthority e s := by
  refine C09_good_authority_of e s pt np h1 h2
    ⟨(WfLemmas.splitNetloc_pyStr e.o pt.netloc (WfLemmas.splitUrl_pyStr e.o s hs pt h1).1 np h2).1, ?_⟩
  rw [hhost]
  exact C09_good_host_ascii e.o T (isAscii_of_text hk.chars) (bracketText_hostOK hk).2.2.1

/-- eager = lazy and lossless pickling for the constructor on such input: the four cached entries are what the
    lazy route derives from the stored netloc, and EVERY netloc-dependent accessor of the restored URL agrees -/
theorem C09_bracket_pickle_lossless (e : Env) (s : Str) (u : Url) (pt : Parts) (np : NetlocParts) (T : Str)
    (hs : PyStr s) (hu : encodeUrl e s = .ok u)
    (h1 : splitUrl e.o s = .ok pt) (h2 : splitNetloc e.o pt.netloc = .ok np) -- names the split of the input
    (hhost : np.host = some T) (hk : BracketTextIn T) :
    (∀ p, u.pre = some p → lazyNet e (pickleTwin u) = .ok p) ∧
    net e (pickleTwin u) = net e u ∧ str e (pickleTwin u) = str e u ∧ host e (pickleTwin u) = host e u ∧
    hostSubcomponent e (pickleTwin u) = hostSubcomponent e u ∧
    hostPortSubcomponent e (pickleTwin u) = hostPortSubcomponent e u ∧ port e (pickleTwin u) = port e u ∧
    isDefaultPort e (pickleTwin u) = isDefaultPort e u ∧ authority e (pickleTwin u) = authority e u ∧
    user e (pickleTwin u) = user e u ∧ password e (pickleTwin u) = password e u ∧
    humanRepr e (pickleTwin u) = humanRepr e u ∧
    rawUser e (pickleTwin u) = rawUser e u ∧ rawPassword e (pickleTwin u) = rawPassword e u ∧
    rawHost e (pickleTwin u) = rawHost e u ∧ explicitPort e (pickleTwin u) = explicitPort e u ∧
    (pickleTwin u).beq u = true ∧ eqKey (pickleTwin u) = eqKey u := by
  have hg := C09_bracket_good_authority e s pt np T hs h1 h2 hhost hk
  have hnet := (C09_pickle_lossless e s u hu hg).1
  obtain ⟨a1, a2, a3, a4, a5, a6, a7, a8, a9, a10, a11, a12, a13, a14⟩ :=
    C09_accessors_of_parts_net e u (pickleTwin u) rfl rfl rfl rfl rfl hnet
  exact ⟨fun p hp => C09_eager_eq_lazy e s u p hu hp hg, hnet, a1, a2, a3, a4, a5, a6, a7, a8, a9, a10, a11, a12,
    a13, a14, (C09_twin_parts u).2.2.1, rfl⟩

/-- the same for the canonical strings of C03_bracket_fixed_point / C03_bracket_default_port, with the values
    written out: for `s = scheme://[user[:password]@][t][:port]path…` (ANY port ≤ 65535, default or not) the
    constructor caches `raw_host = t`, the port, user and password, and the restored URL derives exactly these
    from the stored netloc `[user[:password]@][t][:port]` -/
theorem C09_bracket_eager_eq_lazy (e : Env) (scheme : Str) (user pw : Option Str) (t : Str) (port : Option Nat)
    (path query fragment : Str) (hs : SchemeOK' scheme) (hu : UserInfoOK e.b user pw) (hh : HostFixB e.o t)
    (hp : ∀ p, port = some p → p ≤ 65535) (hc : CompOK e.b path query fragment) :
    ∃ u, encodeUrl e (canonText scheme (authTextB user pw t port) path query fragment) = .ok u ∧
      u.netloc = authTextB user pw t port ∧ u.pre = some (preOf user pw t port) ∧
      lazyNet e (pickleTwin u) = .ok (preOf user pw t port) ∧ net e (pickleTwin u) = net e u ∧
      rawHost e (pickleTwin u) = .ok (some t) ∧ rawHost e u = .ok (some t) ∧
      str e (pickleTwin u) = str e u ∧ hostSubcomponent e (pickleTwin u) = hostSubcomponent e u ∧
      hostPortSubcomponent e (pickleTwin u) = hostPortSubcomponent e u := by
  have henc := encode_canonTextB e scheme user pw t port path query fragment hs hu hh hp hc
  refine ⟨_, henc, rfl, rfl, ?_⟩
  generalize hu' : Url.mk scheme (authTextB user pw t port) path query fragment (some (preOf user pw t port)) = u
  have e2 : (pickleTwin u).netloc = authTextB user pw t port := by rw [← hu']; rfl
  have hN : net e u = .ok (preOf user pw t port) := by rw [← hu']; rfl
  have hlazy : net e (pickleTwin u) = .ok (preOf user pw t port) :=
    net_of_reads (pickleTwin u) e2 (userOK_of hu) (EagerLemmas.reads_bracketed t hh.ok.2.1 hh.ok.2.2.2) hh.ok.1 hp (Or.inl rfl)
  have hnet : net e (pickleTwin u) = net e u := by rw [hlazy, hN]
  obtain ⟨a1, _, a3, a4, _⟩ := C09_accessors_of_parts_net e u (pickleTwin u) rfl rfl rfl rfl rfl hnet
  exact ⟨hlazy, hnet, (accessors_authB e _ user pw t port hlazy).1, (accessors_authB e _ user pw t port hN).1,
    a1, a3, a4⟩

/-! ## non-vacuity -/

private def ePy : Env := ⟨.py, Oracles.empty⟩

/-- the far-from-canonical sample input (userinfo, port, upper-case IPvFuture literal): what the constructor returns
    and how its text splits -/
theorem bracket_sample_facts :
    encodeUrl ⟨.py, Oracles.empty⟩ "HTTP://Us%65r@[V1.A:B]:8080/a/../b?x y#f g".toStr =
      .ok (urlOf "http".toStr "User@[v1.a:b]:8080".toStr "/b".toStr "x+y".toStr "f%20g".toStr
        (preOf (some "User".toStr) none "v1.a:b".toStr (some 8080))) ∧
    splitUrl Oracles.empty "HTTP://Us%65r@[V1.A:B]:8080/a/../b?x y#f g".toStr =
      .ok ⟨"http".toStr, "Us%65r@[V1.A:B]:8080".toStr, "/a/../b".toStr, "x y".toStr, "f g".toStr⟩ ∧
    splitNetloc Oracles.empty "Us%65r@[V1.A:B]:8080".toStr =
      .ok ⟨some "Us%65r".toStr, none, some "V1.A:B".toStr, some 8080⟩ ∧
    PyStr "HTTP://Us%65r@[V1.A:B]:8080/a/../b?x y#f g".toStr ∧ BracketTextIn "V1.A:B".toStr :=
  have h : (_ ∧ _ ∧ _ ∧ _) := by str_lits; decide +kernel
  ⟨h.1, h.2.1, h.2.2.1, h.2.2.2, bracketTextInB_sound (by str_lits; decide +kernel)⟩

-- far-from-canonical input, userinfo and port; and the input whose STRING FORM cannot be parsed again
example : ∃ u, encodeUrl ePy "HTTP://Us%65r@[V1.A:B]:8080/a/../b?x y#f g".toStr = .ok u ∧
    net ePy (pickleTwin u) = net ePy u ∧ str ePy (pickleTwin u) = str ePy u := by
  obtain ⟨hu, h1, h2, hs, hk⟩ := bracket_sample_facts
  obtain ⟨_, h2, h3, _⟩ := C09_bracket_pickle_lossless ePy _ _ _ _ _ hs hu h1 h2 rfl hk
  exact ⟨_, hu, h2, h3⟩

example : GoodAuthority ePy "http://[V:b]/".toStr :=
  C09_bracket_good_authority ePy _ ⟨"http".toStr, "[V:b]".toStr, [47], [], []⟩
    ⟨none, none, some "V:b".toStr, none⟩ "V:b".toStr (by decide) (by str_lits; decide +kernel) (by str_lits; decide +kernel) rfl
    (bracketTextInB_sound (by str_lits; decide +kernel))

-- the default-port case "https://[v1.a]:443/": cached raw_host "v1.a", the restored URL reads "v1.a" as well
example : ∃ u, encodeUrl ePy "https://[v1.a]:443/".toStr = .ok u ∧ u.netloc = "[v1.a]:443".toStr ∧
    rawHost ePy (pickleTwin u) = .ok (some "v1.a".toStr) ∧ rawHost ePy u = .ok (some "v1.a".toStr) ∧
    str ePy (pickleTwin u) = str ePy u := by
  obtain ⟨u, h1, h2, _, _, _, h6, h7, h8, _⟩ :=
    C09_bracket_eager_eq_lazy ePy "https".toStr none none "v1.a".toStr (some 443) [47] [] [] (Or.inr (by decide))
      (userInfoOK_none _) (C03_bracket_hostFixB _ (bracketTextB_sound (by str_lits; decide +kernel)))
      (fun p hp => by cases hp; decide) (compOKB_sound (by str_lits; decide +kernel))
  have hc : canonText "https".toStr (authTextB none none "v1.a".toStr (some 443)) [47] [] [] =
      "https://[v1.a]:443/".toStr := by str_lits; decide +kernel
  rw [hc] at h1
  exact ⟨u, h1, by rw [h2]; str_lits; decide +kernel, h6, h7, h8⟩

end Yarl
