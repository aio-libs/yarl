import YarlProofs.C01Headline
import YarlProofs.C01HeadlineMore
import YarlProofs.C01HeadlineMore3
import YarlProofs.C01More
/-!
  C01HeadlineMore4.lean — AUDIT LAYER for property C01, third continuation of C01Headline.lean: headline theorems for
  the proof module added after the last refresh, C01More.lean (which imports C01HeadlineMore.lean and C16Mapped.lean).
  This file is a leaf, nobody imports it.  The GAPS block of C01Headline.lean cites the theorems of this file.

  C01 | Canonical output is well-formed ASCII in every component |
  "For every text accepted by the URL constructor in auto-encoding mode, or supplied to any builder or
  modifier (build, with_*, /, joinpath, join, the query operations), the resulting URL's string form is
  pure ASCII, every '%' in it starts an escape of two uppercase hex digits, and its user, password, path,
  query and fragment contain only the characters RFC 3986 allows for that component. Consequently
  bytes(url) never fails and raw spaces, control characters, quotes, '<>\^`{|}', non-ASCII characters and
  lone surrogates never appear outside the host."

  What is here (numbers = GAPS items of C01Headline.lean).
    * GAPS 7 (the oracle hypotheses `HostOracleAscii` / `HostOracleNoAt`): DISCHARGED on the validating routes
      (`with_host`, `build(host=)`, hence every one of the 19 operations: the model screens the IDNA answer with
      `NOT_REG_NAME`, and since fix 3fbf5b4 an answer holding a ':' is re-entered into `_encode_host` and must spell an
      IP literal); REPLACED BY A LOCAL hypothesis — about the single IDNA answer for the host name of that very input,
      vacuous for an ASCII host — on the two non-validating routes (constructor, `build(authority=)`), which are shown
      to need it (hostile-oracle witnesses); the closure theorems of GAPS 1 and 3 restated with the local hypothesis.
    * GAPS 6 (the '%' clause and the host): ONE whole-string theorem — `str(u) = pre ++ hostText ++ suf`, and OUTSIDE
      the `host[:port]` text every '%' starts an upper-case escape, every character is ASCII, none is a raw space /
      control / quote / `<>\^`{|}`; no `ZoneAscii`, no "no '%' in the host" guard.
    * GAPS 8 (`ReachS` versus `Reach`): `BuildNetPy` can NOT be dropped (a model-only code point; counterexample);
      the statement for the API closure without the model-only `UOp.joinRef`.

  Vocabulary added by C01More.lean (`ReachS`, `ZoneAscii`, `HostOracleAscii`, `HostOracleNoAt`, `AsciiNet`,
  `UserinfoOK`, `hostinfo`, `BuildNetPy`: header of C01HeadlineMore.lean).
   * `IdnaLocalAscii o hi` — on the `host[:port]` text `hi` of ONE authority: IF its host name `(hostPort hi).1` is not
     ASCII (only then is it sent to IDNA) and `_idna_encode` answers `y`, then `y` is ASCII.  Vacuous for an ASCII host.
   * `IdnaLocalNoAt o hi` — the same with "`y` contains no '@'".
   * `idnaEncode o h` — `_idna_encode(h)`: `idna.encode(h, uts46=True)`, falling back to the stdlib codec, lower-cased.
   * `HostLemmas.ipRes h = some r` — `h` looks like an IP address (has a ':' or ends in a digit), parses as one, and `r`
     is its canonical text (IPv6 bracketed and compressed, zone id appended verbatim).
   * `notRegName r` — the library's `NOT_REG_NAME` screen finds a forbidden character in `r`.
   * `R11.NF c` — `c` is a visible ASCII character other than `"<>\^`{|}`: 32 < c < 127 and none of those nine.
   * `R11.hostileAscii` / `R11.hostileAt` — two HOSTILE oracle tables (NFKC the identity): `idna.encode` answers 'é'
     for every host / `idna.encode` raises and the stdlib codec answers '<@b' for every host.
   * `C16_mapped_oracle`, `C16_mapped_host` (C16Mapped.lean) — the table and the host "１:0:0:0:0:0:0:2" (fullwidth one)
     of fix 3fbf5b4, whose IDNA answer is "1:0:0:0:0:0:0:2".
   * `WellEscaped s` — every '%' of `s` is followed by two upper-case hex digits.
-/
namespace Yarl
open StrAscii OutLangLemmas QsLemmas WfLemmas EntryLemmas NetlocLemmas R11

/-! ## GAPS 7 — the oracle hypotheses: not needed where the host is validated -/

/-- GAPS 7, host level: a VALIDATED `_encode_host` (`with_host`, `build(host=)`) returns ASCII text without '@'
    WHATEVER the oracles answer, and the result is the IP literal the host text spells, or reg-name text, or — since
    fix 3fbf5b4 — the IP literal that the IDNA answer of a non-ASCII host spells (an answer holding a ':' is re-entered
    into `_encode_host`, not stored as it is).  No oracle hypothesis.  Cites C01_encode_host_validated_no_oracle
    (C01More.lean). -/
theorem C01_headline_validated_host_no_oracle (o : Oracles) (h r : Str) :
    encodeHost o h true = .ok r →                     -- `_encode_host(h, validate_host=True)` returns `r`
    (∀ c ∈ r, c < 128 ∧ c ≠ 64) ∧
    (HostLemmas.ipRes h = some r ∨ notRegName r = false ∨
      (isAscii h = false ∧ ∃ a, idnaEncode o h = .ok a ∧ mem 58 a = true ∧ HostLemmas.ipRes a = some r)) :=
  C01_encode_host_validated_no_oracle o h r

/-- the third shape is needed (fix 3fbf5b4): the host "１:0:0:0:0:0:0:2" (fullwidth digit one) is accepted under
    validation as "[1::2]" — neither the IP literal of the host text itself nor reg-name text.
    Cites C01_encode_host_validated_third_shape_needed. -/
theorem C01_headline_validated_host_third_shape_needed :
    encodeHost C16_mapped_oracle C16_mapped_host true = .ok "[1::2]".toStr ∧
    HostLemmas.ipRes C16_mapped_host = none ∧ notRegName "[1::2]".toStr = true ∧
    (∀ c ∈ "[1::2]".toStr, c < 128 ∧ c ≠ 64) :=
  C01_encode_host_validated_third_shape_needed

/-- GAPS 7, ALL 19 operations (`with_host` included): one step keeps "the stored authority and cache are ASCII" and
    the userinfo invariant WITHOUT `HostOracleAscii` / `HostOracleNoAt`.  Cites C01_applyOp_no_oracle (its `with_host`
    instance is C01_with_host_no_oracle). -/
theorem C01_headline_every_operation_no_oracle (e : Env) (u v : Url) (op : UOp)
    (ha : op.ArgsPy e.b) :                            -- the text arguments are Python strings
    applyOp e u op = .ok v →
    -- a `UOp.joinRef` reference must satisfy the invariant itself (MODEL ARTEFACT; `join` of reachable URLs needs nothing)
    (AsciiNet u → (∀ ref, op = .joinRef ref → AsciiNet ref) → AsciiNet v) ∧
    (UserinfoOK e.b u → (∀ ref, op = .joinRef ref → UserinfoOK e.b ref) → UserinfoOK e.b v) :=
  C01_applyOp_no_oracle e u v op ha

/-- GAPS 7, `build(host=…)` without `authority=`: the result has an ASCII authority and satisfies the userinfo
    invariant — no oracle hypothesis, no condition on the host text (it is validated).
    Cites C01_build_host_no_oracle. -/
theorem C01_headline_build_host_no_oracle (e : Env) (a : BuildArgs) (u : Url)
    (henc : a.encoded = false)                        -- auto-encoding mode
    (hn : BuildNetPy a)                               -- user=, password=, authority= are Python strings (GAPS 8)
    (hauth : a.authority = []) :                      -- no `authority=`
    build e a = .ok u → AsciiNet u ∧ UserinfoOK e.b u :=
  C01_build_host_no_oracle e a u henc hn hauth

/-! ## GAPS 7 — the two non-validating routes: a LOCAL hypothesis, and it is needed -/

/-- GAPS 7, the CONSTRUCTOR: `HostOracleAscii` / `HostOracleNoAt` replaced by their LOCAL forms, about the IDNA answer
    for the host name of THIS input only (nothing when that host name is ASCII).
    Cites C01_encodeUrl_local_oracle. -/
theorem C01_headline_constructor_local_oracle (e : Env) (s : Str) (u : Url)
    (hs : PyStr s) :                                  -- a Python string
    encodeUrl e s = .ok u →
    -- the zone-id condition of GAPS 1(a) and the local ASCII condition, on the `host[:port]` text of the input
    ((∀ p, splitUrl e.o s = .ok p → ZoneAscii (hostinfo p.netloc) ∧ IdnaLocalAscii e.o (hostinfo p.netloc)) →
      AsciiNet u) ∧
    ((∀ p, splitUrl e.o s = .ok p → IdnaLocalNoAt e.o (hostinfo p.netloc)) → UserinfoOK e.b u) :=
  C01_encodeUrl_local_oracle e s u hs

/-- GAPS 7, `build(authority=…)`: the same LOCAL hypotheses on the `authority=` text.
    Cites C01_build_local_oracle. -/
theorem C01_headline_build_authority_local_oracle (e : Env) (a : BuildArgs) (u : Url)
    (henc : a.encoded = false)                        -- auto-encoding mode
    (hn : BuildNetPy a) :                             -- user=, password=, authority= are Python strings (GAPS 8)
    build e a = .ok u →
    (ZoneAscii (hostinfo a.authority) → IdnaLocalAscii e.o (hostinfo a.authority) → AsciiNet u) ∧
    (IdnaLocalNoAt e.o (hostinfo a.authority) → UserinfoOK e.b u) :=
  C01_build_local_oracle e a u henc hn

/-- the global hypotheses imply the local ones (so the theorems below subsume those of C01HeadlineMore.lean), and the
    local ones hold of EVERY oracle table for an ASCII host.  Cites C01_local_oracle_of_global. -/
theorem C01_headline_local_oracle_of_global (o : Oracles) (hi : Str) :
    (HostOracleAscii o → IdnaLocalAscii o hi) ∧ (HostOracleNoAt o → IdnaLocalNoAt o hi) ∧
    (isAscii (hostPort hi).1 = true → IdnaLocalAscii o hi ∧ IdnaLocalNoAt o hi) :=
  ⟨(C01_local_oracle_of_global o hi).1, (C01_local_oracle_of_global o hi).2,
   fun h => ⟨fun h' => absurd (h.symm.trans h') (by decide), fun h' => absurd (h.symm.trans h') (by decide)⟩⟩

/-- GAPS 1 with the LOCAL oracle condition: "the resulting URL's string form is pure ASCII … bytes(url) never fails" —
    the stored authority (and cache) of every reachable URL is ASCII and, for an ASCII scheme, `str` is ASCII.
    `HostOracleAscii` is replaced by `IdnaLocalAscii` on the constructor / `build(authority=)` inputs; every other
    step needs nothing.  Cites C01_reachable_netloc_ascii_local, C01_str_ascii_reachable_local. -/
theorem C01_headline_str_ascii_reachable_local_oracle (e : Env) (Sc : Str → Prop) (J : Url → Prop) (u : Url)
    (hJ : ∀ x, J x → AsciiNet x)                      -- `UOp.joinRef` references (MODEL ARTEFACT) are ASCII
    -- reachable, the constructor / build(authority=) inputs satisfying `ZoneAscii` (F-C01-nonascii-zone) and the
    -- LOCAL oracle condition
    (hreach : ReachS (fun hi => ZoneAscii hi ∧ IdnaLocalAscii e.o hi) Sc J e u) :
    AsciiNet u ∧
    (∀ r, (∀ c ∈ u.scheme, c < 128) →                 -- the scheme is ASCII (F-C01-scheme)
      str e u = .ok r → (∀ c ∈ r, c < 128) ∧ r.all (fun c => decide (c < 128)) = true) :=
  ⟨C01_reachable_netloc_ascii_local e Sc J u hJ hreach,
   fun r hsc hstr => C01_str_ascii_reachable_local e Sc J u r hJ hreach hsc hstr⟩

/-- GAPS 3 with the LOCAL oracle condition: "its user, password … contain only the characters RFC 3986 allows" — raw
    user / raw password of every reachable URL: userinfo literals other than ':' or '%', every '%' an upper-case escape,
    all ASCII.  Cites C01_userinfo_chars_reachable_local (and C01_reachable_userinfo_ok_local). -/
theorem C01_headline_userinfo_chars_reachable_local_oracle (e : Env) (Z Sc : Str → Prop) (J : Url → Prop) (u : Url)
    (x : Str)
    (hJ : ∀ y, J y → UserinfoOK e.b y)                -- `UOp.joinRef` references (MODEL ARTEFACT)
    (hreach : ReachS (fun hi => Z hi ∧ IdnaLocalNoAt e.o hi) Sc J e u) :   -- reachable, LOCAL oracle condition
    UserinfoOK e.b u ∧
    ((rawUser e u = .ok (some x) ∨ rawPassword e u = .ok (some x)) →
      (∀ c ∈ x, (Rfc.userinfoLit c = true ∧ c ≠ 58) ∨ c = 37) ∧ WellEscaped x ∧ (∀ c ∈ x, c < 128)) :=
  ⟨C01_reachable_userinfo_ok_local e Z Sc J u hJ hreach,
   C01_userinfo_chars_reachable_local e Z Sc J u x hJ hreach⟩

/-- the constructor NEEDS the (local) ASCII hypothesis: with a HOSTILE table whose `idna.encode` answers 'é',
    `URL('http://é/')` stores the authority 'é' and renders as 'http://é/' — every other hypothesis holds.
    Cites C01_constructor_needs_oracle_ascii. -/
theorem C01_headline_constructor_needs_oracle_ascii :
    let e : Env := ⟨.py, hostileAscii⟩
    let s : Str := "http://".toStr ++ [233] ++ "/".toStr
    PyStr s ∧ HostOracleNoAt e.o ∧ ¬ HostOracleAscii e.o ∧
    (∀ p, splitUrl e.o s = .ok p → ZoneAscii (hostinfo p.netloc) ∧ ¬ IdnaLocalAscii e.o (hostinfo p.netloc)) ∧
    ∃ u, encodeUrl e s = .ok u ∧ Reach e u ∧ u.netloc = [233] ∧ (∀ c ∈ u.scheme, c < 128) ∧ str e u = .ok s ∧
      ¬ (∀ c ∈ s, c < 128) :=
  C01_constructor_needs_oracle_ascii

/-- `build(authority=)` needs it as well: `URL.build(scheme='http', authority='é')` with the same table stores 'é'.
    Cites C01_build_authority_needs_oracle_ascii. -/
theorem C01_headline_build_authority_needs_oracle_ascii :
    let e : Env := ⟨.py, hostileAscii⟩
    let a : BuildArgs := { scheme := "http".toStr, authority := [233] }
    BuildNetPy a ∧ ZoneAscii (hostinfo a.authority) ∧ ¬ IdnaLocalAscii e.o (hostinfo a.authority) ∧
    ∃ u, build e a = .ok u ∧ Reach e u ∧ u.netloc = [233] ∧ str e u = .ok ("http://".toStr ++ [233]) :=
  C01_build_authority_needs_oracle_ascii

/-- the constructor NEEDS the (local) no-'@' hypothesis: with a HOSTILE table whose IDNA answer for 'a＠b' is '<@b' and
    whose NFKC does not map '＠' to '@' (with the real NFKC the input is rejected by the NFKC screen),
    `URL('http://a＠b/')` stores the authority '<@b'; a lazily parsed copy answers raw_user '<' — not an RFC 3986
    userinfo character.  Cites C01_constructor_needs_oracle_no_at. -/
theorem C01_headline_constructor_needs_oracle_no_at :
    let e : Env := ⟨.py, hostileAt⟩
    let s : Str := "http://".toStr ++ [97, 0xFF20, 98] ++ "/".toStr
    PyStr s ∧ HostOracleAscii e.o ∧ ¬ HostOracleNoAt e.o ∧
    ∃ u, encodeUrl e s = .ok u ∧ Reach e (pickleTwin u) ∧ u.netloc = "<@b".toStr ∧
      rawUser e (pickleTwin u) = .ok (some "<".toStr) ∧ ¬ (Rfc.userinfoLit 60 = true ∨ 60 = 37) ∧
      ¬ UserinfoOK e.b u :=
  C01_constructor_needs_oracle_no_at

/-- … and the VALIDATING routes do not: with the same two hostile tables `with_host('é')`, `build(host='é')`,
    `with_host('a＠b')`, `build(host='a＠b')` all raise ValueError.
    Cites C01_hostile_oracle_screened_on_validating_routes. -/
theorem C01_headline_hostile_oracle_screened_on_validating_routes :
    (∀ u, encodeUrl ⟨.py, hostileAscii⟩ "http://h/".toStr = .ok u →
      withHost ⟨.py, hostileAscii⟩ u [233] = .error .valueError) ∧
    build ⟨.py, hostileAscii⟩ { scheme := "http".toStr, host := [233] } = .error .valueError ∧
    (∀ u, encodeUrl ⟨.py, hostileAt⟩ "http://h/".toStr = .ok u →
      withHost ⟨.py, hostileAt⟩ u [97, 0xFF20, 98] = .error .valueError) ∧
    build ⟨.py, hostileAt⟩ { scheme := "http".toStr, host := [97, 0xFF20, 98] } = .error .valueError :=
  C01_hostile_oracle_screened_on_validating_routes

/-! ## GAPS 6 — "every '%' in it starts an escape …", "… never appear outside the host": the whole string form -/

/-- GAPS 6, ONE whole-string theorem for every reachable URL: `str(u) = pre ++ hostText ++ suf` with `hostText` the
    `host[:port]` text of the authority `N` that `str` renders (`N` is the stored authority, or the re-made one when the
    explicit port is the scheme's default and dropped, or nothing; `hostText` contains every character of `raw_host`),
    and OUTSIDE `hostText`: every '%' starts an escape of two upper-case hex digits, every character is ASCII, none is a
    raw space, control character, quote, `<>\^`{|}` or DEL — `pre` under the corresponding condition on the stored
    scheme (F-C01-scheme), `suf` unconditionally.  NO `ZoneAscii`, NO "no '%' in the host" guard: KNOWN FINDINGS
    F-C01-host-percent and F-C01-nonascii-zone are confined to `hostText`.  Cites C01_str_outside_host. -/
theorem C01_headline_str_outside_host (e : Env) (Z Sc : Str → Prop) (J : Url → Prop) (u : Url) (r : Str)
    (hJ : ∀ x, J x → UserinfoOK e.b x)                -- `UOp.joinRef` references (MODEL ARTEFACT)
    -- reachable; `Z` arbitrary; oracle hypothesis: only the LOCAL `IdnaLocalNoAt` on constructor / build(authority=) inputs
    (hreach : ReachS (fun hi => Z hi ∧ IdnaLocalNoAt e.o hi) Sc J e u)
    (hstr : str e u = .ok r) :                        -- `r = str(u)`
    ∃ pre hostText suf, r = pre ++ hostText ++ suf ∧
      (∃ N, hostText = hostinfo N ∧ (∃ a, pre ++ hostText = a ++ N) ∧
        (N = [] ∨ N = u.netloc ∨ ∃ p hs, explicitPort e u = .ok (some p) ∧ some p = defaultPort u.scheme ∧
          hostSubcomponent e u = .ok hs ∧ hostinfo N = hs.getD []) ∧
        (N ≠ [] → ∀ x, rawHost e u = .ok (some x) → ∀ c ∈ x, c ∈ hostText)) ∧
      (37 ∉ u.scheme → WellEscaped pre) ∧ WellEscaped suf ∧
      ((∀ c ∈ u.scheme, c < 128) → ∀ c ∈ pre, c < 128) ∧ (∀ c ∈ suf, c < 128) ∧
      ((∀ c ∈ u.scheme, NF c) → ∀ c ∈ pre, NF c) ∧ (∀ c ∈ suf, NF c) :=
  C01_str_outside_host e Z Sc J u r hJ hreach hstr

/-- GAPS 6 in positions: in `r = pre ++ hostText ++ suf` a '%' at an index that is NOT inside `hostText` is followed
    by two upper-case hex digits (inside `r`).  Cites C01_percent_outside_host_positions. -/
theorem C01_headline_percent_outside_host_positions (pre hostText suf : Str)
    (h1 : WellEscaped pre) (h2 : WellEscaped suf)     -- as the previous theorem gives
    (i : Nat) (hi : (pre ++ hostText ++ suf)[i]? = some 37)              -- a '%' at index `i`
    (hout : i < pre.length ∨ pre.length + hostText.length ≤ i) :         -- … outside the host text
    ∃ a b, (pre ++ hostText ++ suf)[i+1]? = some a ∧ (pre ++ hostText ++ suf)[i+2]? = some b ∧
      isUpperHexDigit a = true ∧ isUpperHexDigit b = true :=
  C01_percent_outside_host_positions pre hostText suf h1 h2 i hi hout

/-! ## GAPS 8 — `ReachS` versus `Reach` -/

/-- GAPS 8: `BuildNetPy` can NOT be discharged — a MODEL ARTEFACT.  With the model-only code point 0x110000 as `user=`
    the C backend's quoter passes it through: `build(scheme='http', user=…, host='h')` is `Reach`, stores the authority
    '\u{110000}@h' and renders non-ASCII although every other hypothesis holds; it is not `ReachS`.  The Python backend
    drops the code point.  No Python `str` contains such a code point.
    Cites C01_reach_build_nonpython_user_counterexample. -/
theorem C01_headline_build_net_py_needed :
    let e : Env := ⟨.c, Oracles.empty⟩
    let a : BuildArgs := { scheme := "http".toStr, host := "h".toStr, user := some [0x110000] }
    ¬ BuildNetPy a ∧ HostOracleAscii e.o ∧ HostOracleNoAt e.o ∧
    (∃ u, build e a = .ok u ∧ Reach e u ∧ u.netloc = [0x110000, 64, 104] ∧ (∀ c ∈ u.scheme, c < 128) ∧
      str e u = .ok ("http://".toStr ++ [0x110000] ++ "@h".toStr) ∧ ¬ AsciiNet u ∧
      ¬ ReachS ZoneAscii (fun _ => True) AsciiNet e u) ∧
    build ⟨.py, Oracles.empty⟩ a = .ok (fromParts "http".toStr "h".toStr [] [] []) :=
  C01_reach_build_nonpython_user_counterexample

/-- GAPS 8, the statement for the API closure: the constructor, `build` (Python strings), the 18 operations other than
    the model-only `UOp.joinRef`, and `join` of two reachable URLs — no condition on schemes, none on zone ids, only
    the LOCAL oracle condition.  Every such URL is `Reach`, and the property's last sentence holds of its string form
    OUTSIDE the host text (the part before the host under the condition on the stored scheme: F-C01-scheme).
    Cites C01_api_outside_host. -/
theorem C01_headline_api_outside_host (e : Env) (u : Url) (r : Str)
    (hreach : ReachS (fun hi => True ∧ IdnaLocalNoAt e.o hi) (fun _ => True) (fun _ => False) e u)
    (hstr : str e u = .ok r) :                        -- `r = str(u)`
    Reach e u ∧
    ∃ pre hostText suf, r = pre ++ hostText ++ suf ∧
      (∃ N, hostText = hostinfo N ∧ (∃ a, pre ++ hostText = a ++ N) ∧
        (N = [] ∨ N = u.netloc ∨ ∃ p hs, explicitPort e u = .ok (some p) ∧ some p = defaultPort u.scheme ∧
          hostSubcomponent e u = .ok hs ∧ hostinfo N = hs.getD []) ∧
        (N ≠ [] → ∀ x, rawHost e u = .ok (some x) → ∀ c ∈ x, c ∈ hostText)) ∧
      (37 ∉ u.scheme → WellEscaped pre) ∧ WellEscaped suf ∧
      ((∀ c ∈ u.scheme, c < 128) → ∀ c ∈ pre, c < 128) ∧ (∀ c ∈ suf, c < 128) ∧
      ((∀ c ∈ u.scheme, NF c) → ∀ c ∈ pre, NF c) ∧ (∀ c ∈ suf, NF c) :=
  C01_api_outside_host e u r hreach hstr

/-! ## non-vacuity -/
section checks
/-- `C01_headline_api_outside_host` applies to `URL('HTTP://us er:p%2fw@[FE80::1%eth0]:80/a b?x=1#f')` (user, password,
    an IPv6 literal with a zone id — a '%' that is NOT an escape — and the default port): it is in the API closure, its
    string form is computed, and the theorem yields a cut of it -/
example : str demoEnv zU = .ok "http://us%20er:p%2Fw@[fe80::1%eth0]/a%20b?x=1#f".toStr ∧
    ∃ pre hostText suf, "http://us%20er:p%2Fw@[fe80::1%eth0]/a%20b?x=1#f".toStr = pre ++ hostText ++ suf ∧
      WellEscaped pre ∧ WellEscaped suf := by
  have hs := z_str
  obtain ⟨_, pre, H, suf, h1, _, h2, h3, _⟩ := C01_headline_api_outside_host demoEnv zU _ z_reach hs
  exact ⟨hs, pre, H, suf, h1, h2 (by decide), h3⟩

/-- the local oracle conditions are met by every ASCII input, whatever the oracle table -/
example (o : Oracles) : IdnaLocalAscii o "example.com:8080".toStr ∧ IdnaLocalNoAt o "[fe80::1%eth0]:80".toStr :=
  ⟨((C01_headline_local_oracle_of_global o "example.com:8080".toStr).2.2 (by str_lits; decide +kernel)).1,
   ((C01_headline_local_oracle_of_global o "[fe80::1%eth0]:80".toStr).2.2 (by str_lits; decide +kernel)).2⟩
end checks

end Yarl
