/-
  C08 source audit obligations: facts the table translator extracts from
  /repo's `_url.py` on every run (harness/extract_tables.py, `slot_writers`,
  `slot_writes_only_fresh`).  They tie the model's premise "an existing object's
  parts never change" to the source: every assignment to a URL slot, outside
  `__setstate__`, targets an object created by `object.__new__(URL)` in the same
  function.
-/
import YarlModel
namespace Yarl

theorem C08_slot_writes_only_fresh : Gen.slotWritesOnlyFresh = true := by decide +kernel

end Yarl
