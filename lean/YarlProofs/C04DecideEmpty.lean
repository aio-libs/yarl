/-
  C04DecideEmpty.lean — property C04: the EMPTY HOST and the EMPTY USER.

  * THE EMPTY HOST with a port or userinfo — authority `[user[:password]@][:port]` (":80", "u@", "u:p@:80"; `authTextE`).
    What the model does, exactly: for a scheme in `scheme_requires_host` (http, https, ws, wss, ftp) the constructor
    raises ValueError (`C04_empty_host_requires_host`: "http://:80/"); for every other scheme, and without a scheme,
    the authority is stored verbatim with `raw_host = ""`, there is no default port to drop, and the canonical string
    is a fixed point (`C04_identity_empty_host`, `C04_identity_empty_host_text`: "x://:80/", "//:80/", "//u@:80/p?q").
    A host-less authority WITHOUT port and userinfo (":" alone) vanishes: "//:/" ↦ "/" (`C04_empty_host_examples`).
  * THE EMPTY USER — ":pw@h" (no user, a password) is covered by `UserInfoOK none (some pw)` and is a fixed point
    (`C04_identity_empty_user_password`); a bare "@h" is NEVER a fixed point: the '@' is dropped, "@h" ↦ "h"
    (`C04_empty_user_dropped`), for every supported host, port and canonical path / query / fragment.
-/
import YarlModel
import YarlProofs.C04Bracket
namespace Yarl
namespace R8
open ReachFix FixLemmas NetShape HostLemmas NetlocLemmas BrHost ParseLemmas

theorem bracket_nil : bracket [] = [] := rfl

/-- an authority without host: `[user[:password]@][:port]` -/
def authTextE (user pw : Option Str) (port : Option Nat) : Str := authText user pw [] port

/-- the text: the userinfo prefix `make_netloc` writes, then `:port` -/
theorem authTextE_eq (user pw : Option Str) (port : Option Nat) :
    authTextE user pw port = userPrefix user pw ++ hostPortStr [] port := by
  unfold authTextE; rw [authText_eq]; rfl

/-- the authority block of `encode_url` returns a host-less authority unchanged (for a scheme that does not
    require a host) -/
theorem netBlock_authTextE (e : Env) (scheme : Str) {user pw : Option Str} {port : Option Nat}
    (hreq : Gen.schemeRequiresHost.contains scheme = false)
    (hu : UserInfoOK e.b user pw) (hp : ∀ p, port = some p → p ≤ 65535) (hne : authTextE user pw port ≠ []) :
    netBlock e scheme (authTextE user pw port) =
      .ok (authTextE user pw port, some (preOf user pw [] port)) := by
  have h91 : mem 91 (rpartition 64 (authW user pw [] port)).2.2 = false :=
    ParseLemmas.mem_rpartition_snd_snd_false (mem_false_iff.mpr (fun hm =>
      (authW_no_bracket port (userInfoOK_no_bracket hu).1 (userInfoOK_no_bracket hu).2
        (fun _ hc => (List.not_mem_nil hc).elim) 91 hm).1 rfl))
  have hho : EagerLemmas.hostOr scheme none = .ok [] := by
    simp only [EagerLemmas.hostOr, hreq, Bool.false_eq_true, if_false]
    rfl
  exact netBlock_authW (W := []) e scheme hu hne
    (netloc_roundtrip_empty_host e.o id user pw port (userOK_of hu) hp) hho (EagerLemmas.encodeHost_nil e.o)
    (by rw [h91]; rfl)


theorem checkBrackets_authTextE {b : Backend} {user pw : Option Str} (port : Option Nat)
    (hu : UserInfoOK b user pw) : checkBrackets (authTextE user pw port) = .ok () :=
  have hall := authText_no_bracket port hu List.not_mem_nil List.not_mem_nil List.not_mem_nil
  checkBrackets_plain (mem_false_iff.mpr (fun hm => (hall 91 hm).1 rfl)) (mem_false_iff.mpr (fun hm => (hall 93 hm).2 rfl))

/-- a host-less authority is a `NetFix` text for a scheme that does not require a host -/
theorem netFix_authTextE (e : Env) (scheme : Str) {user pw : Option Str} {port : Option Nat}
    (hreq : Gen.schemeRequiresHost.contains scheme = false) (hu : UserInfoOK e.b user pw)
    (hp : ∀ p, port = some p → p ≤ 65535) (hne : authTextE user pw port ≠ []) :
    NetFix e scheme (authTextE user pw port) (some (preOf user pw [] port)) :=
  ⟨authText_chars_of port hu (fun _ hc => (List.not_mem_nil hc).elim), checkBrackets_authTextE port hu,
    netBlock_authTextE e scheme hreq hu hp hne⟩

/-- the empty-host identity with the stored URL written out (`raw_host` is "", the port is cached) -/
theorem identity_empty_host_url (e : Env) (scheme : Str) (user pw : Option Str) (port : Option Nat)
    (path query fragment : Str) (hs : SchemeOK' scheme) (hreq : Gen.schemeRequiresHost.contains scheme = false)
    (hu : UserInfoOK e.b user pw) (hp : ∀ p, port = some p → p ≤ 65535)
    (hne : authTextE user pw port ≠ []) (hc : CompOK e.b path query fragment) :
    encodeUrl e (unsplitResult scheme (authTextE user pw port) path query fragment) =
      .ok ⟨scheme, authTextE user pw port, path, query, fragment, some (preOf user pw [] port)⟩ ∧
    str e ⟨scheme, authTextE user pw port, path, query, fragment, some (preOf user pw [] port)⟩ =
      .ok (unsplitResult scheme (authTextE user pw port) path query fragment) :=
  -- a scheme that does not require a host has no default port
  identity_auth e scheme _ path query fragment _ hs hne (netFix_authTextE e scheme hreq hu hp hne)
    (fun p _ h => nomatch h.trans (defaultPort_none_of_not_requires hreq)) hc

end R8

open FixLemmas NetlocLemmas

open R8 ReachFix FixLemmas NetShape HostLemmas NetlocLemmas IdGen in
/-- THE EMPTY HOST.  An authority without a host, `[user[:password]@][:port]` (":80", "u@", "u:p@:80"),
    is accepted by the constructor exactly for the schemes outside `scheme_requires_host` (for http, https, ws, wss, ftp it
    raises ValueError: `C04_empty_host_requires_host`); such a scheme has no default port, and a canonical string with such
    an authority is parsed into exactly its five components and printed back unchanged. -/
theorem C04_identity_empty_host (e : Env) (scheme : Str) (user pw : Option Str) (port : Option Nat)
    (path query fragment : Str)
    (hs : SchemeOK' scheme) (hreq : Gen.schemeRequiresHost.contains scheme = false)
    (hu : UserInfoOK e.b user pw) (hp : ∀ p, port = some p → p ≤ 65535)
    (hne : authTextE user pw port ≠ []) (hc : CompOK e.b path query fragment) :
    ∃ u, encodeUrl e (canonText scheme (authTextE user pw port) path query fragment) = .ok u ∧
      str e u = .ok (canonText scheme (authTextE user pw port) path query fragment) ∧
      u.scheme = scheme ∧ u.netloc = authTextE user pw port ∧ u.path = path ∧ u.query = query ∧
      u.fragment = fragment := by
  obtain ⟨h1, h2⟩ := identity_empty_host_url e scheme user pw port path query fragment hs hreq hu hp hne hc
  exact ⟨_, h1, h2, rfl, rfl, rfl, rfl, rfl⟩


namespace R8
open ReachFix FixLemmas NetShape HostLemmas NetlocLemmas IdGen ParseLemmas

theorem checkBrackets_at (A : Str) : checkBrackets (64 :: A) = checkBrackets A := by
  unfold checkBrackets
  have h1 : mem 91 (64 :: A) = mem 91 A := by simp [mem]
  have h2 : mem 93 (64 :: A) = mem 93 A := by simp [mem]
  have h3 : (partition 91 (64 :: A)).2.2 = (partition 91 A).2.2 := by simp [partition]
  simp only [h1, h2, h3]

/-- the authority text `host[:port]` without userinfo -/
theorem authText_nn (h : Str) (port : Option Nat) : authText none none h port = hostPortStr (bracket h) port := by
  unfold authText; rw [makeNetloc_eq]

/-- `split_netloc` reads "@host[:port]" as host and port, without a user -/
theorem splitNetloc_at (o : Oracles) {h : Str} {port : Option Nat} (hh : HostOK h) (hp : ∀ p, port = some p → p ≤ 65535) :
    splitNetloc o (64 :: authText none none h port) =
      .ok { user := none, password := none, host := some h, port := port } := by
  have h64 : 64 ∉ authText none none h port := by rw [authText_nn]; exact notMem_hostPortStr port hh.2.1
  rw [NetlocLemmas.splitNetloc_eq]
  have hus := userSplit_at [] (authText none none h port) h64
  simp only [List.nil_append] at hus
  rw [hus]
  simp only [partition]
  rw [authText_nn, finish_hostPortStr o _ _ h port hh.2.2.1 hh.2.2.2 hp, orNone_of_ne_nil hh.1]
  rfl

/-- the authority block drops an empty user: "@host[:port]" is stored as "host[:port]" -/
theorem netBlock_at (e : Env) (scheme : Str) {h : Str} {port : Option Nat}
    (hh : HostFix e.o h) (hp : ∀ p, port = some p → p ≤ 65535) :
    netBlock e scheme (64 :: authText none none h port) =
      .ok (authText none none h port, some (preOf none none h port)) := by
  have h64 : 64 ∉ authText none none h port := by rw [authText_nn]; exact notMem_hostPortStr port hh.ok.2.1
  -- the text after the '@' is the authority without it, which the block stores unchanged
  have hinfo : (rpartition 64 (64 :: authText none none h port)).2.2 = (rpartition 64 (authText none none h port)).2.2 := by
    have := rpartition_found 64 [] (authText none none h port) h64
    simp only [List.nil_append] at this
    rw [this, rpartition_not_mem h64]
  have hb := netBlock_authority e scheme (userInfoOK_none e.b) hh hp (port := port)
  rw [netBlock_of (n0 := authText none none h port) (makeNetloc_ne_nil id none none hh.ok.1 port)
    (netloc_roundtrip e.o id none none h port (userOK_of (userInfoOK_none e.b)) hh.ok hp) rfl hh.enc] at hb
  rw [netBlock_of (List.cons_ne_nil _ _) (splitNetloc_at e.o hh.ok hp) rfl hh.enc, hinfo]
  exact hb

end R8

open R8 ReachFix FixLemmas NetShape HostLemmas NetlocLemmas IdGen in
/-- THE EMPTY USER "@host".  A userinfo that consists of the '@' alone is DROPPED: the string with authority
    "@host[:port]" is stored with authority "host[:port]" (no user, `raw_user` is None) and printed without the '@' —
    never a fixed point, for every supported host, port and canonical path / query / fragment. -/
theorem C04_empty_user_dropped (e : Env) (scheme h : Str) (port : Option Nat) (path query fragment : Str)
    (hs : SchemeOK' scheme) (hh : HostFix e.o h) (hp : PortOK scheme port) (hc : CompOK e.b path query fragment) :
    ∃ u, encodeUrl e (canonText scheme (64 :: authText none none h port) path query fragment) = .ok u ∧
      str e u = .ok (canonText scheme (authText none none h port) path query fragment) ∧
      u.scheme = scheme ∧ u.netloc = authText none none h port ∧ u.path = path ∧ u.query = query ∧
      u.fragment = fragment ∧ rawUser e u = .ok none ∧
      canonText scheme (authText none none h port) path query fragment ≠
        canonText scheme (64 :: authText none none h port) path query fragment := by
  have hu := userInfoOK_none e.b
  have hr := rootedOrEmpty_of_rooted hc.rooted
  have hnd := noDotSegments_of_compOK hc
  have hA := authText_chars (port := port) hu hh
  have hne : authText none none h port ≠ [] := makeNetloc_ne_nil id none none hh.ok.1 port
  have hok := partsOK_build e.b scheme (64 :: authText none none h port) path query fragment hs
    (by
      intro c hc
      rcases List.mem_cons.1 hc with rfl | hc
      · decide
      · exact hA c hc)
    (by rw [checkBrackets_at]; exact checkBrackets_authText port hu hh)
    hc.pathC hc.queryC hc.fragmentC (fun _ => hr) (fun _ _ => hr) (fun _ h2 => by cases h2)
  have henc := encode_unsplit e scheme _ path query fragment _ hok (netBlock_at e scheme hh hp.range)
    hc.pathC hc.queryC hc.fragmentC (fun _ => hnd)
  unfold canonText
  refine ⟨_, henc, ?_, rfl, rfl, rfl, rfl, rfl, rfl, ?_⟩
  · exact str_unsplit e _ port rfl hp.notDefault (fun _ => hc.nonempty)
  · intro heq
    have hl := congrArg List.length heq
    rw [unsplit_closed _ _ _ _ _ (fun _ => hr), unsplit_closed _ _ _ _ _ (fun _ => hr)] at hl
    simp [UnsplitLemmas.marker, isEmpty_false hne] at hl


open R8 ReachFix FixLemmas NetShape HostLemmas NetlocLemmas IdGen in
/-- the empty-host identity, written out as text: `scheme://[user[:password]@][:port]path[?query][#fragment]` for a
    non-empty scheme outside `scheme_requires_host`, and the network-path reference `//[user[:password]@][:port]path…` -/
theorem C04_identity_empty_host_text (e : Env) (scheme : Str) (user pw : Option Str) (port : Option Nat)
    (path query fragment : Str) (hu : UserInfoOK e.b user pw) (hp : ∀ p, port = some p → p ≤ 65535)
    (hne : authTextE user pw port ≠ []) (hc : CompOK e.b path query fragment) :
    (SchemeOK scheme → Gen.schemeRequiresHost.contains scheme = false →
      ∃ u, encodeUrl e (composeUrl scheme (authTextE user pw port) path query fragment) = .ok u ∧
        str e u = .ok (composeUrl scheme (authTextE user pw port) path query fragment) ∧
        u.netloc = authTextE user pw port ∧ rawHost e u = .ok (some []) ∧ explicitPort e u = .ok port) ∧
    (∃ u, encodeUrl e ([47, 47] ++ authTextE user pw port ++ path ++ qPart query ++ fPart fragment) = .ok u ∧
        str e u = .ok ([47, 47] ++ authTextE user pw port ++ path ++ qPart query ++ fPart fragment) ∧
        u.netloc = authTextE user pw port ∧ rawHost e u = .ok (some []) ∧ explicitPort e u = .ok port) := by
  have hr := rootedOrEmpty_of_rooted hc.rooted
  have key : ∀ scheme, SchemeOK' scheme → Gen.schemeRequiresHost.contains scheme = false →
      ∃ u, encodeUrl e (canonText scheme (authTextE user pw port) path query fragment) = .ok u ∧
        str e u = .ok (canonText scheme (authTextE user pw port) path query fragment) ∧
        u.netloc = authTextE user pw port ∧ rawHost e u = .ok (some []) ∧ explicitPort e u = .ok port := by
    intro scheme hs hreq
    obtain ⟨h1, h2⟩ := identity_empty_host_url e scheme user pw port path query fragment hs hreq hu hp hne hc
    exact ⟨_, h1, h2, rfl, rfl, rfl⟩
  constructor
  · intro hs hreq
    have := key scheme (Or.inr hs) hreq
    rwa [canonText_compose scheme _ path query fragment hs.1 hne hr] at this
  · have := key [] (Or.inl rfl) (by decide)
    rwa [canonText_network_path _ path query fragment hne hr] at this

open R8 ReachFix FixLemmas NetShape HostLemmas NetlocLemmas IdGen in
/-- … and for a scheme that requires a host (http, https, ws, wss, ftp) the constructor REJECTS the host-less
    authority: `URL("http://:80/")` raises ValueError ("Invalid URL: host is required for absolute urls") -/
theorem C04_empty_host_requires_host (e : Env) (scheme : Str) (user pw : Option Str) (port : Option Nat)
    (path query fragment : Str) (hs : SchemeOK' scheme) (hreq : Gen.schemeRequiresHost.contains scheme = true)
    (hu : UserInfoOK e.b user pw) (hp : ∀ p, port = some p → p ≤ 65535)
    (hne : authTextE user pw port ≠ []) (hc : CompOK e.b path query fragment) :
    encodeUrl e (canonText scheme (authTextE user pw port) path query fragment) = .error .valueError := by
  unfold canonText
  have hr := rootedOrEmpty_of_rooted hc.rooted
  have hsplit := C07_split_unsplit e.o _ (partsOK_build e.b scheme (authTextE user pw port) path query fragment hs
    (authText_chars_of (h := []) port hu (fun c hc => nomatch hc)) (checkBrackets_authTextE port hu) hc.pathC hc.queryC
    hc.fragmentC (fun _ => hr) (fun _ _ => hr) (fun _ h2 => absurd h2 hne))
  rw [encodeUrl_eq, hsplit]
  simp only [bind, Except.bind]
  have hsp : splitNetloc e.o (authTextE user pw port) = .ok { user := user, password := pw, host := none, port := port } :=
    netloc_roundtrip_empty_host e.o id user pw port (userOK_of hu) hp
  rw [netBlock_closed e scheme _ hne, hsp]
  simp only [bind, Except.bind, EagerLemmas.hostOr, hreq, if_true]

/-- the schemes concerned: `scheme_requires_host` is exactly the set of schemes with a default port -/
theorem C04_requires_host_iff_default_port :
    (∀ kv ∈ Gen.defaultPorts, Gen.schemeRequiresHost.contains kv.1 = true) ∧
    (∀ sc ∈ Gen.schemeRequiresHost, defaultPort sc ≠ none) ∧
    (∀ scheme, Gen.schemeRequiresHost.contains scheme = false → defaultPort scheme = none) :=
  ⟨by decide, by decide, fun _ h => NetlocLemmas.defaultPort_none_of_not_requires h⟩

/-- the empty host on concrete strings (Python-level input), both backends: fixed points "x://:80/", "//:80/",
    "//u@:80/p?q", "x://u:p@:80", "//u@/"; ValueError for "http://:80/" and "ftp://u@/"; and the host-less authority
    that is a ':' alone VANISHES — "//:/" ↦ "/", "x://:/" ↦ "x:/" -/
theorem C04_empty_host_examples (b : Backend) :
    C04_roundTrip ⟨b, Oracles.empty⟩ "x://:80/".toStr = .ok "x://:80/".toStr ∧
    C04_roundTrip ⟨b, Oracles.empty⟩ "//:80/".toStr = .ok "//:80/".toStr ∧
    C04_roundTrip ⟨b, Oracles.empty⟩ "//u@:80/p?q".toStr = .ok "//u@:80/p?q".toStr ∧
    C04_roundTrip ⟨b, Oracles.empty⟩ "x://u:p@:80".toStr = .ok "x://u:p@:80".toStr ∧
    C04_roundTrip ⟨b, Oracles.empty⟩ "//u@/".toStr = .ok "//u@/".toStr ∧
    encodeUrl ⟨b, Oracles.empty⟩ "http://:80/".toStr = .error .valueError ∧
    encodeUrl ⟨b, Oracles.empty⟩ "ftp://u@/".toStr = .error .valueError ∧
    C04_roundTrip ⟨b, Oracles.empty⟩ "//:/".toStr = .ok "/".toStr ∧
    C04_roundTrip ⟨b, Oracles.empty⟩ "x://:/".toStr = .ok "x:/".toStr := by
  cases b <;> decide +kernel

-- the general theorems apply to these strings (non-vacuity)
example (b : Backend) : ∃ u, encodeUrl ⟨b, Oracles.empty⟩ "x://u:p%40w@:8080/a?q#f".toStr = .ok u ∧
    str ⟨b, Oracles.empty⟩ u = .ok "x://u:p%40w@:8080/a?q#f".toStr :=
  at_text_fst (by str_lits; decide +kernel)
    ((C04_identity_empty_host_text ⟨b, Oracles.empty⟩ "x".toStr (some "u".toStr)
      (some "p%40w".toStr) (some 8080) "/a".toStr "q".toStr "f".toStr
      (userInfoOK_some (by decide) (by cases b <;> decide +kernel) (by cases b <;> decide +kernel))
      (fun p hp => by cases hp; decide) (by decide +kernel) (compOKB_sound (by cases b <;> decide +kernel))).1
      (by decide +kernel) (by decide +kernel))

example (b : Backend) : encodeUrl ⟨b, Oracles.empty⟩ "https://:8443/".toStr = .error .valueError := by
  have := C04_empty_host_requires_host ⟨b, Oracles.empty⟩ "https".toStr none none (some 8443) "/".toStr [] []
    (by decide +kernel) (by decide +kernel) (userInfoOK_none _) (fun p hp => by cases hp; decide) (by decide +kernel)
    (compOKB_sound (by cases b <;> decide +kernel))
  have hc : canonText "https".toStr (R8.authTextE none none (some 8443)) "/".toStr [] [] = "https://:8443/".toStr := by
    decide +kernel
  rwa [hc] at this

/-! ## the empty user -/

open R8 ReachFix FixLemmas NetShape HostLemmas NetlocLemmas IdGen in
/-- ":password@host" (NO user, a password): `UserInfoOK none (some w)` holds for every REQUOTER-canonical
    password `w`, so this is an instance of the authority identity — the string is a fixed point, the URL has
    `raw_user = None` and `raw_password = w`.  (Also for `w = ""`: ":@h".) -/
theorem C04_identity_empty_user_password (e : Env) (scheme w h : Str) (port : Option Nat) (path query fragment : Str)
    (hw : Canon (Gen.REQUOTER.tab e.b) w) (hh : HostFix e.o h) (hc : CompOK e.b path query fragment) :
    authText none (some w) h port = 58 :: w ++ 64 :: hostPortStr (bracket h) port ∧
    (SchemeOK scheme → PortOK scheme port →
      ∃ u, encodeUrl e (composeUrl scheme (58 :: w ++ 64 :: hostPortStr (bracket h) port) path query fragment) = .ok u ∧
        str e u = .ok (composeUrl scheme (58 :: w ++ 64 :: hostPortStr (bracket h) port) path query fragment) ∧
        rawUser e u = .ok none ∧ rawPassword e u = .ok (some w)) ∧
    ((∀ p, port = some p → p ≤ 65535) →
      ∃ u, encodeUrl e ([47, 47] ++ (58 :: w ++ 64 :: hostPortStr (bracket h) port) ++ path ++ qPart query ++
          fPart fragment) = .ok u ∧
        str e u = .ok ([47, 47] ++ (58 :: w ++ 64 :: hostPortStr (bracket h) port) ++ path ++ qPart query ++
          fPart fragment) ∧
        rawUser e u = .ok none ∧ rawPassword e u = .ok (some w)) := by
  have hu : UserInfoOK e.b none (some w) := ⟨fun s h => (by cases h), fun s h => (by cases h; exact hw)⟩
  have htext : authText none (some w) h port = 58 :: w ++ 64 :: hostPortStr (bracket h) port := by
    unfold authText; rw [makeNetloc_eq]; rfl
  have hne : authText none (some w) h port ≠ [] := makeNetloc_ne_nil id none (some w) hh.ok.1 port
  have hr := rootedOrEmpty_of_rooted hc.rooted
  have key : ∀ scheme, SchemeOK' scheme → PortOK scheme port →
      ∃ u, encodeUrl e (canonText scheme (authText none (some w) h port) path query fragment) = .ok u ∧
        str e u = .ok (canonText scheme (authText none (some w) h port) path query fragment) ∧
        rawUser e u = .ok none ∧ rawPassword e u = .ok (some w) := by
    intro scheme hs hp
    obtain ⟨h1, h2⟩ := identity_auth e scheme _ path query fragment _ hs hne
      (netFix_authText e scheme hu hh hp.range) hp.notDefault hc
    exact ⟨_, h1, h2, rfl, rfl⟩
  refine ⟨htext, ?_, ?_⟩
  · intro hs hp
    have := key scheme (Or.inr hs) hp
    rwa [canonText_compose scheme _ path query fragment hs.1 hne hr, htext] at this
  · intro hp
    have := key [] (Or.inl rfl)
      ⟨hp, fun p _ => by rw [show defaultPort [] = none from rfl]; exact fun h => nomatch h⟩
    rwa [canonText_network_path _ path query fragment hne hr, htext] at this

/-- the empty user on concrete strings (Python-level input), both backends: ":pw@h" and ":@h" are fixed points,
    "@h" loses its '@' (also in front of a port, of a bracketed host, and without a scheme), "u@h" and "u:@h" stay -/
theorem C04_empty_user_examples (b : Backend) :
    C04_roundTrip ⟨b, Oracles.empty⟩ "http://:pw@h/".toStr = .ok "http://:pw@h/".toStr ∧
    C04_roundTrip ⟨b, Oracles.empty⟩ "//:pw@h".toStr = .ok "//:pw@h".toStr ∧
    C04_roundTrip ⟨b, Oracles.empty⟩ "http://:@h/".toStr = .ok "http://:@h/".toStr ∧
    C04_roundTrip ⟨b, Oracles.empty⟩ "http://@h/".toStr = .ok "http://h/".toStr ∧
    C04_roundTrip ⟨b, Oracles.empty⟩ "//@h".toStr = .ok "//h".toStr ∧
    C04_roundTrip ⟨b, Oracles.empty⟩ "http://@h:8080/p?q".toStr = .ok "http://h:8080/p?q".toStr ∧
    C04_roundTrip ⟨b, Oracles.empty⟩ "http://@[::1]/".toStr = .ok "http://[::1]/".toStr ∧
    C04_roundTrip ⟨b, Oracles.empty⟩ "http://u@h/".toStr = .ok "http://u@h/".toStr ∧
    C04_roundTrip ⟨b, Oracles.empty⟩ "http://u:@h/".toStr = .ok "http://u:@h/".toStr := by
  str_lits; cases b <;> decide +kernel

-- non-vacuity of the two general theorems
example (b : Backend) : C04_roundTrip ⟨b, Oracles.empty⟩ "http://@example.com:8080/p?q".toStr =
    .ok "http://example.com:8080/p?q".toStr := by
  obtain ⟨u, h1, h2, _⟩ := C04_empty_user_dropped ⟨b, Oracles.empty⟩ "http".toStr "example.com".toStr (some 8080)
    "/p".toStr "q".toStr [] (by str_lits; decide +kernel) (hostFix_basic _ (by str_lits; decide +kernel))
    (portOK_some (by decide) (by decide))
    (compOKB_sound (by str_lits; cases b <;> decide +kernel))
  have hc1 : canonText "http".toStr (64 :: authText none none "example.com".toStr (some 8080)) "/p".toStr "q".toStr [] =
      "http://@example.com:8080/p?q".toStr := by str_lits; decide +kernel
  have hc2 : canonText "http".toStr (authText none none "example.com".toStr (some 8080)) "/p".toStr "q".toStr [] =
      "http://example.com:8080/p?q".toStr := by str_lits; decide +kernel
  rw [hc1] at h1
  rw [hc2] at h2
  unfold C04_roundTrip; rw [h1]; exact h2

example (b : Backend) : ∃ u, encodeUrl ⟨b, Oracles.empty⟩ "https://:s3cr%3At@example.com/".toStr = .ok u ∧
    str ⟨b, Oracles.empty⟩ u = .ok "https://:s3cr%3At@example.com/".toStr ∧
    rawUser ⟨b, Oracles.empty⟩ u = .ok none ∧ rawPassword ⟨b, Oracles.empty⟩ u = .ok (some "s3cr%3At".toStr) :=
  at_text (by str_lits; decide +kernel)
    ((C04_identity_empty_user_password ⟨b, Oracles.empty⟩ "https".toStr "s3cr%3At".toStr
      "example.com".toStr none "/".toStr [] [] (isCanon_sound _ _ (by cases b <;> decide +kernel))
      (hostFix_basic _ (by decide +kernel)) (compOKB_sound (by cases b <;> decide +kernel))).2.1 (by decide +kernel)
      (IdGen.portOK_none _))

end Yarl
