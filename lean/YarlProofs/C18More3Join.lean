import YarlProofs.C18More2
import YarlProofs.C14
import YarlProofs.C07Recompose
/-!
# C18More3Join — C18 (`URL(u.human_repr()) == u`) for the results of `join` (closes C18Headline GAPS 2(e) "WHAT REMAINS: join")

`HumanMore.Stores` / `HumanReach.StoresOK` say that a URL object stores the encodings of decoded components;
`C18_roundtrip_storesOK` derives the round trip from `StoresOK`.  `join` was the one operation without a
`Stores` theorem.  Here (model: `join` in YarlModel/Url.lean; companion file with the computed examples:
C18More3JoinB.lean):

1. `C18_stores_join_absolute` — `base.join(ref)` for an ABSOLUTE reference with `StoresOK`, `base` ANY URL: `StoresOK`
   with the reference's decoded components (the result is `ref`, or `ref` rebuilt by `from_parts`: same five parts).
2. `C18_stores_join_relative` — a RELATIVE reference `R12c.RelStores e ref rp kvs' f'` (no scheme, no authority, the
   path is `PATH_QUOTER(rp)` for ANY decoded text `rp`, the query the text of the pairs `kvs'`, the fragment that of
   `f'`), a base with `StoresOK e base user pw H port p kvs f` and a scheme with relative resolution:
   `StoresOK e (join e base ref) user pw H port (joinTail p rp) (if rp ≠ [] ∨ kvs' ≠ [] then kvs' else kvs) f'`.
   `R12c.joinTail p rp` is RFC 3986 §5.2.2 computed on the DECODED paths (`C18_joinTail_rfc`: it is the path of
   `Rfc.resolve`; spelled out in `C18_joinTail_empty` / `_rooted` / `_rootless`): `join` commutes with decoding
   (`R12c.target_enc`, `R12c.joinPath_enc`).  No corner fails: the normaliser's guard ("only when the text has a '.'")
   is sound and idempotent (`R12c.joinTail_eq`, `R12c.joinTail_good`).  `C18_join_relative_passthrough` (base scheme
   without relative resolution: the reference comes back, a relative URL), `C18_join_relative_empty_path` (the stored
   path of the result is "" iff the reference path is "" and the base's stored path is "").
3. `C18_roundtrip_join` — the round trip for all three kinds of reference (NFKC proviso as everywhere in C18).
4. `C18_stores_join_netpath` — a network-path reference `//host/path` (`R12c.NetRefOK`): the result takes the base's
   scheme and stores the reference's decoded components; `C18_join_netpath_passthrough`.
5. `RelStores` is ESTABLISHED by the public API: `C18_relstores_build` (`URL.build(path=rp, query=[…], fragment=f)`,
   any `rp`), `C18_relstores_constructor` (`URL(s)` for `s = str(ref)`, under the EXACT condition that the text before
   the first ':' of the encoded path is not read as a scheme) and `C18_relstores_constructor_first_segment` (no ':' in
   the first segment of the decoded path).
6. `R12c.HumanReachJ` = `HumanReachC` + modifiers + the three `join` steps; `C18_reachJ_stores`, `C18_roundtrip_reachJ`.
7. Computed examples and non-vacuity instances: C18More3JoinB.lean.

NOT covered (remains open for C18 2(e)): a relative reference that does NOT store encodings of decoded components
(e.g. `URL("a%2Fb")`, `encoded=True`), a relative reference made by the constructor from a spelling other than the
canonical one (`URL("x y")` — the spelled-constructor analysis of C18More2.lean is for absolute URLs only), a base without
`StoresOK`; the NFKC proviso (F-C18-nfkc-userinfo) stays a hypothesis.
-/
namespace Yarl
open HumanLemmas HumanFull HumanMore QueryUrl QsLemmas NetlocLemmas PathAlg PathLemmas PathMore HumanReach JoinLemmas
  FixLemmas UnsplitLemmas

namespace R12c

/-! ## the decoded reference and the decoded join path -/

/-- a RELATIVE reference that stores the encodings of decoded components: no scheme, no authority, the path is the
    encoding of the decoded text `rp` (ANY shape: empty, rooted, rootless, with dot segments), the query that of the
    pairs `kvs`, the fragment that of `f` -/
structure RelStores (e : Env) (r : Url) (rp : Str) (kvs : List (Str × Str)) (f : Str) : Prop where
  scheme : r.scheme = []
  netloc : r.netloc = []
  path : r.path = q e Gen.PATH_QUOTER rp
  query : r.query = qtext e.b kvs
  fragment : r.fragment = if f.isEmpty then f else q e Gen.FRAGMENT_QUOTER f
  hp : PyStr rp
  hn : NoSurrogate rp
  hg : GoodPairs kvs
  hf : PyStr f
  hfn : NoSurrogate f

/-- a NETWORK-PATH reference (`//host/path…`: no scheme, but an authority) that stores the encodings of decoded
    components, with the side conditions of `StoresOK` except the scheme -/
structure NetRefOK (e : Env) (r : Url) (user pw : Option Str) (H : Str) (port : Option Nat)
    (p : Str) (kvs : List (Str × Str)) (f : Str) : Prop where
  scheme : r.scheme = []
  st : Stores e r user pw H port p kvs f
  hk : ∃ h D, HostKind e h H D
  hport : ∀ x, port = some x → x ≤ 65535
  hu : UText user
  hune : ∀ s, user = some s → s ≠ []
  hw : UText pw
  hp : PyStr (47 :: p)
  hn : NoSurrogate (47 :: p)
  hnorm : normalizePath (47 :: p) = 47 :: p
  hg : GoodPairs kvs
  hf : PyStr f
  hfn : NoSurrogate f

/-- a text up to and including its last '/' ("" when there is none) -/
def upTo (x : Str) : Str := (x.reverse.dropWhile (· ≠ 47)).reverse

/-- RFC 3986 §5.2.2 on DECODED texts, before dot-segment removal: a rooted reference path as it is, else the base
    path `"/" ++ p` up to and including its last '/', followed by the reference path -/
def joinTarget (p rp : Str) : Str := if rp.head? = some 47 then rp else upTo (47 :: p) ++ rp

/-- the DECODED path of `base.join(ref)` without its leading "/": the base's for an empty reference path; else the
    target, dot segments removed if it has a '.' -/
def joinTail (p rp : Str) : Str :=
  if rp = [] then p
  else ((if 46 ∈ joinTarget p rp then normalizePath (joinTarget p rp) else joinTarget p rp)).drop 1

theorem upTo_sub (x : Str) : ∀ c ∈ upTo x, c ∈ x := by
  intro c hc
  unfold upTo at hc
  exact List.mem_reverse.1 ((List.dropWhile_sublist _).subset (List.mem_reverse.1 hc))

theorem upTo_rooted' (p : Str) : upTo (47 :: p) = 47 :: upTo p := JoinLemmas.upTo_rooted p

theorem joinTarget_rooted (p rp : Str) : ∃ t, joinTarget p rp = 47 :: t := by
  unfold joinTarget
  split
  · rename_i h
    cases rp with
    | nil => cases h
    | cons c r =>
      simp only [List.head?_cons, Option.some.injEq] at h
      exact ⟨r, by rw [h]⟩
  · exact ⟨upTo p ++ rp, by rw [upTo_rooted']; rfl⟩

theorem joinTarget_mem (p rp : Str) : ∀ c ∈ joinTarget p rp, c ∈ 47 :: p ∨ c ∈ rp := by
  intro c hc
  unfold joinTarget at hc
  split at hc
  · exact Or.inr hc
  · rcases List.mem_append.mp hc with h | h
    · exact Or.inl (upTo_sub _ c h)
    · exact Or.inr h

/-- the guard "only when the text contains '.'" is sound: `joinTail` is the normal form of the target -/
theorem joinTail_eq (p rp : Str) (hne : rp ≠ []) :
    47 :: joinTail p rp = normalizePath (joinTarget p rp) := by
  unfold joinTail
  rw [if_neg hne]
  obtain ⟨t, ht⟩ := joinTarget_rooted p rp
  split
  · rw [ht]; rfl
  · rename_i h
    rw [C15_dot_guard_sound _ h, ht]; rfl

section sep
variable {f : Nat → Str} (hf : SepMap f)
include hf

theorem head_flatMap (s : Str) : (s.flatMap f).head? = some 47 ↔ s.head? = some 47 := by
  cases s with
  | nil => simp
  | cons c r =>
    by_cases hc : c = 47
    · subst hc; simp [hf.slash]
    · simp only [List.flatMap_cons, List.head?_cons, Option.some.injEq, hc, iff_false]
      have h1 := sep_ne_nil hf c
      have h2 := sep_no47 hf c hc
      obtain ⟨y, ys, hy⟩ := List.exists_cons_of_ne_nil h1
      rw [hy] at h2 ⊢
      simp only [List.cons_append, List.head?_cons, Option.some.injEq]
      rintro rfl
      exact h2 List.mem_cons_self

theorem slash_mem_flatMap (s : Str) : 47 ∈ s.flatMap f ↔ 47 ∈ s := by
  constructor
  · intro h
    obtain ⟨c, hc, h47⟩ := List.mem_flatMap.mp h
    by_cases h1 : c = 47
    · exact h1 ▸ hc
    · exact absurd h47 (sep_no47 hf c h1)
  · intro h
    exact List.mem_flatMap.mpr ⟨47, h, by rw [hf.slash]; simp⟩

/-- "up to and including the last '/'" commutes with a `SepMap` -/
theorem upTo_flatMap (x : Str) : upTo (x.flatMap f) = (upTo x).flatMap f := by
  by_cases h : 47 ∈ x
  · -- split at the LAST '/'
    have hr : 47 ∈ x.reverse := List.mem_reverse.2 h
    obtain ⟨a, b, hab, ha⟩ := List.eq_append_cons_of_mem hr
    have hx : x = b.reverse ++ 47 :: a.reverse := by
      have := congrArg List.reverse hab
      simpa using this
    have ha' : 47 ∉ a.reverse := fun hm => ha (List.mem_reverse.1 hm)
    have hfx : x.flatMap f = b.reverse.flatMap f ++ 47 :: a.reverse.flatMap f := by
      rw [hx, List.flatMap_append, List.flatMap_cons, hf.slash]; rfl
    unfold upTo
    rw [hfx, upToLastSlash _ _ (fun hm => ha' ((slash_mem_flatMap hf _).1 hm)), hx, upToLastSlash _ _ ha',
      List.flatMap_append, List.flatMap_cons, hf.slash]
    rfl
  · unfold upTo
    rw [dropWhile_rev_none _ h, dropWhile_rev_none _ (fun hm => h ((slash_mem_flatMap hf x).1 hm))]
    rfl

end sep

theorem good_cons47 {s : Str} (hs : PyStr s) (hn : NoSurrogate s) : PyStr (47 :: s) ∧ NoSurrogate (47 :: s) :=
  good_cons_slash ⟨hs, hn⟩

theorem joinTarget_good {p rp : Str} (hp : PyStr (47 :: p)) (hn : NoSurrogate (47 :: p)) (hrp : PyStr rp)
    (hrn : NoSurrogate rp) : PyStr (joinTarget p rp) ∧ NoSurrogate (joinTarget p rp) := by
  apply good_of_mem
  intro c hc
  rcases joinTarget_mem p rp c hc with h | h
  · exact ⟨hp c h, hn c h⟩
  · exact ⟨hrp c h, hrn c h⟩

/-- the decoded join path is a Python string without lone surrogates and free of dot segments -/
theorem joinTail_good {p rp : Str} (hp : PyStr (47 :: p)) (hn : NoSurrogate (47 :: p)) (hrp : PyStr rp)
    (hrn : NoSurrogate rp) (hnorm : normalizePath (47 :: p) = 47 :: p) :
    PyStr (47 :: joinTail p rp) ∧ NoSurrogate (47 :: joinTail p rp) ∧
      normalizePath (47 :: joinTail p rp) = 47 :: joinTail p rp := by
  by_cases hne : rp = []
  · have : joinTail p rp = p := by unfold joinTail; rw [if_pos hne]
    rw [this]; exact ⟨hp, hn, hnorm⟩
  · rw [joinTail_eq p rp hne]
    obtain ⟨t, ht⟩ := joinTarget_rooted p rp
    obtain ⟨g1, g2⟩ := joinTarget_good hp hn hrp hrn
    rw [ht] at g1 g2 ⊢
    exact ⟨(good_normalizePath g1 g2).1, (good_normalizePath g1 g2).2, C15_idem t⟩

section core
variable (e : Env) (base : Url) (user pw : Option Str) (H : Str) (port : Option Nat)
  (p : Str) (kvs : List (Str × Str)) (f : Str) (st : Stores e base user pw H port p kvs f) (hH : H ≠ [])
  (hp : PyStr (47 :: p)) (hn : NoSurrogate (47 :: p))
include st hH hp hn

/-- the target path of §5.2.2 computed on the STORED (encoded) paths is the encoding of the target computed on the
    DECODED paths -/
theorem target_enc (ref : Url) (rp : Str) (hrp : PyStr rp) (hrn : NoSurrogate rp)
    (hpath : ref.path = q e Gen.PATH_QUOTER rp) : target base ref = HumanReach.pathEnc e (joinTarget p rp) := by
  have hf := sepMap_wq e.b
  have hnl := netloc_ne e base user pw H port p kvs f st hH
  rw [q_path_flatMap e rp hrp hrn] at hpath
  unfold target joinTarget
  rw [hpath]
  by_cases hh : rp.head? = some 47
  · rw [if_pos ((head_flatMap hf rp).2 hh), if_pos hh]
  · rw [if_neg (fun h => hh ((head_flatMap hf rp).1 h)), if_neg hh]
    unfold Rfc.merge
    rcases path_shape e base user pw H port p kvs f st hp hn with hs | ⟨hs, rfl⟩
    · have hb : (p5 base).path = HumanReach.pathEnc e (47 :: p) := by
        show base.path = _
        rw [hs]; simp [HumanReach.pathEnc, List.flatMap_cons, hf.slash]
      have hne : (p5 base).path.isEmpty = false := by rw [hb]; simp [HumanReach.pathEnc, List.flatMap_cons, hf.slash]
      simp only [hne, Bool.and_false, Bool.false_eq_true, if_false]
      show upTo (p5 base).path ++ _ = _
      rw [hb, upTo_flatMap hf]
      simp only [HumanReach.pathEnc, List.flatMap_append]
    · have h1 : (p5 base).path = [] := hs
      have h2 : (p5 base).authority.isEmpty = false := hnl
      simp only [h1, h2, List.isEmpty_nil, Bool.not_false, Bool.and_self, if_true]
      show _ = HumanReach.pathEnc e ([47] ++ _)
      simp [HumanReach.pathEnc, hf.slash]

/-- the path of the relative branch of `join`, for a non-empty decoded reference path: the ENCODING of the decoded
    join path -/
theorem joinPath_enc (ref : Url) (rp : Str) (hrp : PyStr rp) (hrn : NoSurrogate rp) (hne : rp ≠ [])
    (hpath : ref.path = q e Gen.PATH_QUOTER rp) :
    joinPath base ref = q e Gen.PATH_QUOTER (47 :: joinTail p rp) := by
  have hf := sepMap_wq e.b
  have hb : base.netloc = [] ∨ base.path = [] ∨ base.path.head? = some 47 := by
    rcases path_shape e base user pw H port p kvs f st hp hn with hs | ⟨hs, _⟩
    · exact Or.inr (Or.inr (by rw [hs]; rfl))
    · exact Or.inr (Or.inl hs)
  have hrne : ref.path ≠ [] := by
    rw [hpath, q_path_flatMap e rp hrp hrn]
    exact fun h => hne ((flatMap_eq_nil hf rp).1 h)
  rw [joinPath_normalize base ref hb hrne, ← JoinLemmas.guard_eq, target_enc e base user pw H port p kvs f st hH hp hn ref rp hrp hrn hpath,
    joinTail_eq p rp hne]
  obtain ⟨t, ht⟩ := joinTarget_rooted p rp
  obtain ⟨g1, g2⟩ := joinTarget_good hp hn hrp hrn
  rw [ht] at g1 g2 ⊢
  show (if mem 46 (HumanReach.pathEnc e (47 :: t)) = true then _ else _) = _
  unfold HumanReach.pathEnc
  rw [← q_path_flatMap e _ g1 g2]
  exact stored_path e t g1 g2

end core

theorem qtext_nil_iff (b : Backend) (kvs : List (Str × Str)) : qtext b kvs = [] ↔ kvs = [] := by
  constructor
  · intro h
    by_cases hk : kvs = []
    · exact hk
    · exact absurd h (qtext_ne_nil b kvs hk)
  · rintro rfl; rfl

theorem relPath_nil_iff {e : Env} {r : Url} {rp : Str} {kvs : List (Str × Str)} {f : Str}
    (rs : RelStores e r rp kvs f) : r.path = [] ↔ rp = [] := by
  rw [rs.path, q_path_flatMap e rp rs.hp rs.hn]
  exact flatMap_eq_nil (sepMap_wq e.b) rp

section core2
variable (e : Env) (base : Url) (user pw : Option Str) (H : Str) (port : Option Nat)
  (p : Str) (kvs : List (Str × Str)) (f : Str) (st : Stores e base user pw H port p kvs f) (hH : H ≠ [])
  (hp : PyStr (47 :: p)) (hn : NoSurrogate (47 :: p))
include st hH hp hn

/-- `base.join(ref)` for a relative reference storing decoded components: which decoded components the result stores -/
theorem stores_join_rel (ref : Url) (rp : Str) (kvs' : List (Str × Str)) (f' : Str)
    (rs : RelStores e ref rp kvs' f') (hrel : Gen.usesRelative.contains base.scheme = true) :
    (join e base ref).scheme = base.scheme ∧
    Stores e (join e base ref) user pw H port (joinTail p rp) (if rp ≠ [] ∨ kvs' ≠ [] then kvs' else kvs) f' := by
  rw [join_rel e base ref hrel (Or.inl rs.scheme)]
  simp only [rs.netloc, List.isEmpty_nil, Bool.not_true, Bool.false_eq_true, if_false]
  refine ⟨rfl, ⟨st.netloc, fun pr h => (by cases h), ?_, ?_, rs.fragment⟩⟩
  · by_cases hne : rp = []
    · have hrp : ref.path = [] := (relPath_nil_iff rs).2 hne
      have hj : joinPath base ref = base.path := by unfold joinPath; simp [hrp]
      have ht : joinTail p rp = p := by unfold joinTail; rw [if_pos hne]
      show joinPath base ref = _ ∨ (joinPath base ref = [] ∧ _)
      rw [hj, ht]
      exact st.path
    · exact Or.inl (joinPath_enc e base user pw H port p kvs f st hH hp hn ref rp rs.hp rs.hn hne rs.path)
  · show (if (!ref.path.isEmpty || !ref.query.isEmpty) = true then ref.query else base.query) = _
    by_cases h1 : rp = []
    · have hrp : ref.path = [] := (relPath_nil_iff rs).2 h1
      by_cases h2 : kvs' = []
      · have hq : ref.query = [] := by rw [rs.query]; exact (qtext_nil_iff e.b kvs').2 h2
        rw [if_neg (by simp [hrp, hq]), if_neg (by simp [h1, h2])]
        exact st.query
      · have hq : ref.query ≠ [] := by rw [rs.query]; exact fun h => h2 ((qtext_nil_iff e.b kvs').1 h)
        rw [if_pos (by simp [hq]), if_pos (Or.inr h2)]
        exact rs.query
    · have hrp : ref.path ≠ [] := fun h => h1 ((relPath_nil_iff rs).1 h)
      rw [if_pos (by simp [hrp]), if_pos (Or.inl h1)]
      exact rs.query

end core2

end R12c

open R12c

/-! ## (1) an ABSOLUTE reference -/

/-- `base.join(ref)` for an absolute reference `ref` that stores the encodings of decoded components (`StoresOK`), `base`
    ANY URL object: the result stores the same decoded components; it IS `ref` when the schemes differ or the scheme has
    no relative resolution, else `ref` rebuilt by `from_parts` (same five parts, cache pre-fill dropped). -/
theorem C18_stores_join_absolute (e : Env) (base ref : Url) (user pw : Option Str) (H : Str) (port : Option Nat)
    (p : Str) (kvs : List (Str × Str)) (f : Str) (ok : StoresOK e ref user pw H port p kvs f) :
    StoresOK e (join e base ref) user pw H port p kvs f ∧
    (join e base ref).parts = ref.parts ∧
    ((ref.scheme ≠ base.scheme ∨ Gen.usesRelative.contains ref.scheme = false) → join e base ref = ref) ∧
    (ref.scheme = base.scheme → Gen.usesRelative.contains ref.scheme = true →
      join e base ref = fromParts ref.scheme ref.netloc ref.path ref.query ref.fragment) := by
  have hne : ref.scheme.isEmpty = false := isEmpty_false ok.vs.ne
  have hs : (if (!ref.scheme.isEmpty) = true then ref.scheme else base.scheme) = ref.scheme := by simp [hne]
  have hnl : ref.netloc.isEmpty = false := netloc_ne e ref user pw H port p kvs f ok.st ok.okH.1
  have hpass : (ref.scheme ≠ base.scheme ∨ Gen.usesRelative.contains ref.scheme = false) → join e base ref = ref := by
    intro h
    apply C14_passthrough
    rcases h with h | h
    · exact Or.inl ⟨by simp [hne], h⟩
    · right; rw [hs, h]; simp
  have hsame : ref.scheme = base.scheme → Gen.usesRelative.contains ref.scheme = true →
      join e base ref = fromParts ref.scheme ref.netloc ref.path ref.query ref.fragment := by
    intro h1 h2
    have ha : Gen.usesAuthority.contains ref.scheme = true := C14_relative_subset_authority _ (by simpa using h2)
    simp only [join, hs, h2, ha, hnl]
    simp [h1]
  by_cases hc : ref.scheme ≠ base.scheme ∨ Gen.usesRelative.contains ref.scheme = false
  · rw [hpass hc]
    exact ⟨ok, rfl, fun _ => rfl, fun h1 h2 => by
      rcases hc with hc | hc
      · exact absurd h1 hc
      · rw [h2] at hc; cases hc⟩
  · have h1 : ref.scheme = base.scheme := Classical.not_not.mp (not_or.mp hc).1
    have h2 : Gen.usesRelative.contains ref.scheme = true := (Bool.not_eq_false _).mp (not_or.mp hc).2
    rw [hsame h1 h2]
    have st' : Stores e (fromParts ref.scheme ref.netloc ref.path ref.query ref.fragment) user pw H port p kvs f :=
      ⟨ok.st.netloc, fun pr h => (by cases h), ok.st.path, ok.st.query, ok.st.fragment⟩
    exact ⟨⟨st', ok.vs, ok.hk, ok.hport, ok.hu, ok.hune, ok.hw, ok.hp, ok.hn, ok.hnorm, ok.hg, ok.hf, ok.hfn⟩, rfl,
      fun h => absurd h hc, fun _ _ => rfl⟩

/-! ## (2) a RELATIVE reference -/

/-- `base.join(ref)` for a base that stores decoded components (`StoresOK`), a scheme with relative resolution, and a
    RELATIVE reference storing the encodings of the decoded path `rp` (any shape), pairs `kvs'`, fragment `f'`:
    the result stores the authority of the base, the merged and normalised DECODED path `joinTail p rp`, the query of the
    reference unless the reference has neither path nor query, and the fragment of the reference. -/
theorem C18_stores_join_relative (e : Env) (base ref : Url) (user pw : Option Str) (H : Str) (port : Option Nat)
    (p : Str) (kvs : List (Str × Str)) (f : Str) (ok : StoresOK e base user pw H port p kvs f)
    (rp : Str) (kvs' : List (Str × Str)) (f' : Str) (rs : RelStores e ref rp kvs' f')
    (hrel : Gen.usesRelative.contains base.scheme = true) :
    StoresOK e (join e base ref) user pw H port (joinTail p rp) (if rp ≠ [] ∨ kvs' ≠ [] then kvs' else kvs) f' := by
  obtain ⟨hsc, st'⟩ := stores_join_rel e base user pw H port p kvs f ok.st ok.okH.1 ok.hp ok.hn ref rp kvs' f' rs hrel
  obtain ⟨g1, g2, g3⟩ := joinTail_good ok.hp ok.hn rs.hp rs.hn ok.hnorm
  exact { ok with
    st := st', vs := hsc ▸ ok.vs, hp := g1, hn := g2, hnorm := g3
    hg := by split; exact rs.hg; exact ok.hg
    hf := rs.hf, hfn := rs.hfn }

/-- … and when the base scheme has NO relative resolution, `join` returns the reference itself (a relative URL:
    no `StoresOK`, outside C18) -/
theorem C18_join_relative_passthrough (e : Env) (base ref : Url) (rp : Str) (kvs' : List (Str × Str)) (f' : Str)
    (rs : RelStores e ref rp kvs' f') (hrel : Gen.usesRelative.contains base.scheme = false) :
    join e base ref = ref := by
  apply C14_passthrough
  right
  simp only [rs.scheme, List.isEmpty_nil, Bool.not_true, Bool.false_eq_true, if_false, hrel]
  simp

/-- the empty-path corners: the result's stored path is "" only when the reference path is "" and the base's is -/
theorem C18_join_relative_empty_path (e : Env) (base ref : Url) (user pw : Option Str) (H : Str) (port : Option Nat)
    (p : Str) (kvs : List (Str × Str)) (f : Str) (ok : StoresOK e base user pw H port p kvs f)
    (rp : Str) (kvs' : List (Str × Str)) (f' : Str) (rs : RelStores e ref rp kvs' f')
    (hrel : Gen.usesRelative.contains base.scheme = true) :
    ((join e base ref).path = [] ↔ (rp = [] ∧ base.path = [])) ∧ (rp = [] → (join e base ref).path = base.path) := by
  have hj := join_rel e base ref hrel (Or.inl rs.scheme)
  simp only [rs.netloc, List.isEmpty_nil, Bool.not_true, Bool.false_eq_true, if_false] at hj
  have hpj : (join e base ref).path = joinPath base ref := by rw [hj]; rfl
  rw [hpj]
  have h0 : rp = [] → joinPath base ref = base.path := by
    intro hne
    have hrp : ref.path = [] := (relPath_nil_iff rs).2 hne
    unfold joinPath; simp [hrp]
  refine ⟨⟨fun h => ?_, fun ⟨h1, h2⟩ => by rw [h0 h1, h2]⟩, h0⟩
  by_cases hne : rp = []
  · exact ⟨hne, by rw [← h0 hne]; exact h⟩
  · rw [joinPath_enc e base user pw H port p kvs f ok.st ok.okH.1 ok.hp ok.hn ref rp rs.hp rs.hn hne rs.path,
      q_path_cons_slash e _ (joinTail_good ok.hp ok.hn rs.hp rs.hn ok.hnorm).1] at h
    cases h


/-! ## the decoded join path, spelled out -/

theorem C18_joinTail_empty (p : Str) : joinTail p [] = p := rfl

/-- a rooted reference path replaces the base path: its normal form -/
theorem C18_joinTail_rooted (p r : Str) : joinTail p (47 :: r) = normTail r := by
  have h := joinTail_eq p (47 :: r) (by simp)
  have ht : joinTarget p (47 :: r) = 47 :: r := by unfold joinTarget; simp
  rw [ht, normalizePath_rooted] at h
  exact List.cons.inj h |>.2

/-- a rootless reference path is appended to the base path `"/" ++ p` cut after its last '/', then normalised -/
theorem C18_joinTail_rootless (p rp : Str) (hne : rp ≠ []) (hh : rp.head? ≠ some 47) :
    joinTail p rp = normTail (upTo p ++ rp) := by
  have h := joinTail_eq p rp hne
  have ht : joinTarget p rp = 47 :: (upTo p ++ rp) := by
    unfold joinTarget; rw [if_neg hh, upTo_rooted']; rfl
  rw [ht, normalizePath_rooted] at h
  exact List.cons.inj h |>.2

/-- the decoded join path IS the path of RFC 3986 §5.2.2 reference resolution (`Rfc.resolve`, the independent spec of
    C14) applied to the DECODED base path `"/" ++ p` and the DECODED reference path: `join` commutes with decoding -/
theorem C18_joinTail_rfc (sc A Q F Q' F' : Str) (p rp : Str) (hne : rp ≠ []) :
    (Rfc.resolve ⟨sc, A, 47 :: p, Q, F⟩ ⟨[], [], rp, Q', F'⟩).path = 47 :: joinTail p rp := by
  rw [joinTail_eq p rp hne]
  obtain ⟨t, ht⟩ := joinTarget_rooted p rp
  have hrs : (if ([] : Str) = sc then [] else ([] : Str)) = [] := by split <;> rfl
  have hre : rp.isEmpty = false := isEmpty_false hne
  unfold Rfc.resolve
  simp only [hrs, List.isEmpty_nil, Bool.not_true, Bool.false_eq_true, if_false, hre]
  by_cases hh : rp.head? = some 47
  · have : joinTarget p rp = rp := by unfold joinTarget; rw [if_pos hh]
    simp only [hh, if_true]
    rw [this] at ht ⊢
    rw [ht, C15_rfc]
  · have : joinTarget p rp = upTo (47 :: p) ++ rp := by unfold joinTarget; rw [if_neg hh]
    simp only [hh, if_false]
    have hm : Rfc.merge ⟨sc, A, 47 :: p, Q, F⟩ rp = upTo (47 :: p) ++ rp := by
      unfold Rfc.merge upTo
      simp
    rw [hm, ← this, ht, C15_rfc]

/-! ## (4) a NETWORK-PATH reference `//host/path` -/

/-- `base.join(ref)` for a reference without a scheme but WITH an authority, storing decoded components with a host of
    one of the kinds of `HostKind`: the result is `from_parts(base.scheme, ref.netloc, ref.path, ref.query,
    ref.fragment)` and satisfies `StoresOK` with the reference's decoded components under the base's scheme. -/
theorem C18_stores_join_netpath (e : Env) (base ref : Url) (user pw : Option Str) (H : Str) (port : Option Nat)
    (p : Str) (kvs : List (Str × Str)) (f : Str)
    (vsb : ValidScheme base.scheme) (hrel : Gen.usesRelative.contains base.scheme = true)
    (nr : NetRefOK e ref user pw H port p kvs f) :
    join e base ref = fromParts base.scheme ref.netloc ref.path ref.query ref.fragment ∧
    StoresOK e (join e base ref) user pw H port p kvs f := by
  obtain ⟨h, D, hk'⟩ := nr.hk
  have hnl : ref.netloc.isEmpty = false := netloc_ne e ref user pw H port p kvs f nr.st hk'.rt.okH.1
  have hj : join e base ref = fromParts base.scheme ref.netloc ref.path ref.query ref.fragment := by
    rw [join_rel e base ref hrel (Or.inl nr.scheme)]
    simp [hnl]
  rw [hj]
  exact ⟨rfl, ⟨⟨nr.st.netloc, fun pr h => (by cases h), nr.st.path, nr.st.query, nr.st.fragment⟩, vsb, ⟨h, D, hk'⟩,
    nr.hport, nr.hu, nr.hune, nr.hw, nr.hp, nr.hn, nr.hnorm, nr.hg, nr.hf, nr.hfn⟩⟩

/-- … and when the base scheme has no relative resolution the network-path reference comes back as it is -/
theorem C18_join_netpath_passthrough (e : Env) (base ref : Url) (hsch : ref.scheme = [])
    (hrel : Gen.usesRelative.contains base.scheme = false) : join e base ref = ref := by
  apply C14_passthrough
  right
  simp only [hsch, List.isEmpty_nil, Bool.not_true, Bool.false_eq_true, if_false, hrel]
  simp

/-! ## (3) the round trip -/

/-- `URL(j.human_repr()) == j` for `j = base.join(ref)`: `ref` absolute and storing decoded components (`base` ANY
    URL), or `base` storing decoded components under a scheme with relative resolution and `ref` a relative reference
    or a network-path reference storing decoded components — under the NFKC proviso (F-C18-nfkc-userinfo). -/
theorem C18_roundtrip_join (e : Env) (base ref : Url)
    (h : (∃ user pw H port p kvs f, StoresOK e ref user pw H port p kvs f) ∨
      ((∃ user pw H port p kvs f, StoresOK e base user pw H port p kvs f) ∧
        Gen.usesRelative.contains base.scheme = true ∧
        ((∃ rp kvs' f', RelStores e ref rp kvs' f') ∨
          (∃ user pw H port p kvs f, NetRefOK e ref user pw H port p kvs f)))) :
    ∀ hr, humanRepr e (join e base ref) = .ok hr →
      (isAscii (Rfc.appendixB Gen.schemeChars hr).authority = false →
        checkNetloc e.o (Rfc.appendixB Gen.schemeChars hr).authority = .ok ()) →
      ∃ v, encodeUrl e hr = .ok v ∧ Url.beq v (join e base ref) = true := by
  rcases h with ⟨user, pw, H, port, p, kvs, f, ok⟩ |
    ⟨⟨user, pw, H, port, p, kvs, f, ok⟩, hrel, ⟨rp, kvs', f', rs⟩ | ⟨user', pw', H', port', p', kvs', f', nr⟩⟩
  · exact C18_roundtrip_storesOK e _ user pw H port p kvs f
      (C18_stores_join_absolute e base ref user pw H port p kvs f ok).1
  · exact C18_roundtrip_storesOK e _ user pw H port _ _ f'
      (C18_stores_join_relative e base ref user pw H port p kvs f ok rp kvs' f' rs hrel)
  · exact C18_roundtrip_storesOK e _ user' pw' H' port' p' kvs' f'
      (C18_stores_join_netpath e base ref user' pw' H' port' p' kvs' f' ok.vs hrel nr).2

/-! ## (6) closure: chains of modifiers AND `join` -/

namespace R12c

/-- `HumanReachC` (build / constructor + any finite chain of the sixteen modifiers with decoded arguments) extended by
    `join`: with a relative reference storing decoded components (base scheme with relative resolution), with a
    network-path reference storing decoded components, or with an absolute reference that is itself reachable (base ANY
    URL) -/
inductive HumanReachJ (e : Env) : Url → Prop
  | reachC (u : Url) : HumanReachC e u → HumanReachJ e u
  | step (u : Url) (op : HOp) (v : Url) : HumanReachJ e u → op.Ok e → applyOp e u op.toUOp = .ok v → HumanReachJ e v
  | joinRel (base ref : Url) (rp : Str) (kvs : List (Str × Str)) (f : Str) :
      HumanReachJ e base → Gen.usesRelative.contains base.scheme = true → RelStores e ref rp kvs f →
      HumanReachJ e (join e base ref)
  | joinNet (base ref : Url) (user pw : Option Str) (H : Str) (port : Option Nat) (p : Str) (kvs : List (Str × Str))
      (f : Str) : HumanReachJ e base → Gen.usesRelative.contains base.scheme = true →
      NetRefOK e ref user pw H port p kvs f → HumanReachJ e (join e base ref)
  | joinAbs (base ref : Url) : HumanReachJ e ref → HumanReachJ e (join e base ref)

end R12c

theorem C18_reachJ_stores (e : Env) (u : Url) (hr : HumanReachJ e u) :
    ∃ user pw H port p kvs f, StoresOK e u user pw H port p kvs f := by
  induction hr with
  | reachC u h => exact C18_reachC_stores e u h
  | step u op v _ hop h ih =>
    obtain ⟨user, pw, H, port, p, kvs, f, ok⟩ := ih
    exact step_stores e u user pw H port p kvs f ok op hop v h
  | joinRel base ref rp kvs' f' _ hrel rs ih =>
    obtain ⟨user, pw, H, port, p, kvs, f, ok⟩ := ih
    exact ⟨_, _, _, _, _, _, _, C18_stores_join_relative e base ref user pw H port p kvs f ok rp kvs' f' rs hrel⟩
  | joinNet base ref user' pw' H' port' p' kvs' f' _ hrel nr ih =>
    obtain ⟨user, pw, H, port, p, kvs, f, ok⟩ := ih
    exact ⟨_, _, _, _, _, _, _, (C18_stores_join_netpath e base ref user' pw' H' port' p' kvs' f' ok.vs hrel nr).2⟩
  | joinAbs base ref _ ih =>
    obtain ⟨user, pw, H, port, p, kvs, f, ok⟩ := ih
    exact ⟨_, _, _, _, _, _, _, (C18_stores_join_absolute e base ref user pw H port p kvs f ok).1⟩

/-- `URL(u.human_repr()) == u` for every URL obtained from `build` / the constructor by any finite chain of modifiers
    with decoded arguments AND `join` steps (NFKC proviso) -/
theorem C18_roundtrip_reachJ (e : Env) (u : Url) (hr : HumanReachJ e u) :
    ∀ t, humanRepr e u = .ok t →
      (isAscii (Rfc.appendixB Gen.schemeChars t).authority = false →
        checkNetloc e.o (Rfc.appendixB Gen.schemeChars t).authority = .ok ()) →
      ∃ v, encodeUrl e t = .ok v ∧ Url.beq v u = true := by
  obtain ⟨user, pw, H, port, p, kvs, f, ok⟩ := C18_reachJ_stores e u hr
  exact C18_roundtrip_storesOK e u user pw H port p kvs f ok

namespace R12c

/-! ## (5) `RelStores` is established by the public API -/

theorem colon_wq (b : Backend) (c : Nat) (h : 58 ∈ wq (Gen.PATH_QUOTER.tab b) c) : c = 58 := by
  unfold wq at h
  split at h
  · rename_i hg
    have hqs : (Gen.PATH_QUOTER.tab b).qs = false := by rw [tab_qs]; rfl
    unfold cWriteOut at h
    rw [if_neg (by simp [hqs])] at h
    split at h
    · simp only [List.mem_singleton] at h; exact h.symm
    · unfold writeUtf8 at h
      rw [List.mem_flatMap] at h
      obtain ⟨bb, hb, hy⟩ := h
      rcases pct_chars bb (OutLangLemmas.utf8_lt256 c bb hb) 58 hy with h | h
      · omega
      · exact absurd h (by decide)
  · simp at h

theorem takeWhile_flatMap {f : Nat → Str} (hf : SepMap f) (x : Str) :
    (x.flatMap f).takeWhile (· ≠ 47) = (x.takeWhile (· ≠ 47)).flatMap f := by
  induction x with
  | nil => rfl
  | cons c x ih =>
    by_cases hc : c = 47
    · subst hc; simp [hf.slash]
    · have ha : ∀ y ∈ f c, (decide (y ≠ 47)) = true := by
        intro y hy
        have : y ≠ 47 := fun e => sep_no47 hf c hc (e ▸ hy)
        simpa using this
      rw [List.flatMap_cons, List.takeWhile_append_of_pos ha, ih]
      simp [hc]

theorem first_segment_enc (e : Env) (rp : Str) (hp : PyStr rp) (hn : NoSurrogate rp)
    (hseg : 58 ∉ rp.takeWhile (· ≠ 47)) : 58 ∉ (q e Gen.PATH_QUOTER rp).takeWhile (· ≠ 47) := by
  rw [q_path_flatMap e rp hp hn, takeWhile_flatMap (sepMap_wq e.b)]
  intro h
  obtain ⟨c, hc, h58⟩ := List.mem_flatMap.mp h
  exact hseg (colon_wq e.b c h58 ▸ hc)

/-- the reference as a five-tuple -/
def relParts (e : Env) (rp : Str) (kvs : List (Str × Str)) (f : Str) : Parts :=
  { scheme := [], netloc := [], path := q e Gen.PATH_QUOTER rp, query := qtext e.b kvs, fragment := fragText e f }

theorem relParts_ok (e : Env) (rp : Str) (kvs : List (Str × Str)) (f : Str) (hp : PyStr rp)
    (hg : GoodPairs kvs) (hf : PyStr f)
    (hseg : 58 ∈ q e Gen.PATH_QUOTER rp → ((q e Gen.PATH_QUOTER rp).takeWhile (· ≠ 58) = [] ∨
      ((q e Gen.PATH_QUOTER rp).takeWhile (· ≠ 58)).all (fun c => mem c Gen.schemeChars) = false)) :
    PartsOK (relParts e rp kvs f) := by
  have cp := canon_path_chars (C04_partner_canon e.b rp hp).2.1
  have cq := canon_query_chars (canon_qtext e.b kvs hg)
  have cf : ∀ c ∈ fragText e f, 33 ≤ c := by
    unfold fragText
    split
    · rename_i h; rw [List.isEmpty_iff.mp h]; intro c hc; cases hc
    · exact canon_fragment_chars (C04_partner_canon e.b f hf).2.2.2.2
  exact {
    scheme_ok := Or.inl rfl
    netloc_ok := fun c hc => by cases hc
    brackets_ok := rfl
    path_ok := fun c hc => (cp c hc).2
    query_ok := fun h => (cq 35 h).2 rfl
    path_rooted_under_authority := fun h => absurd rfl h
    path_rooted_under_authority_scheme := fun h => absurd rfl h
    rootless_first_segment := fun _ _ => hseg
    clean_lead := fun _ _ c hc => by
      have := (cp c (List.mem_of_mem_head? hc)).1
      omega
    clean_netloc := fun c hc => by cases hc
    clean_path := fun c hc => by have := (cp c hc).1; omega
    clean_query := fun c hc => by have := (cq c hc).1; omega
    clean_fragment := fun c hc => by have := cf c hc; omega }

/-- `URL(s)` for the text `s = str(ref)` of a relative reference made of the encodings of decoded components -/
theorem ctor_rel (e : Env) (rp : Str) (kvs : List (Str × Str)) (f : Str) (hp : PyStr rp)
    (hg : GoodPairs kvs) (hf : PyStr f)
    (hseg : 58 ∈ q e Gen.PATH_QUOTER rp → ((q e Gen.PATH_QUOTER rp).takeWhile (· ≠ 58) = [] ∨
      ((q e Gen.PATH_QUOTER rp).takeWhile (· ≠ 58)).all (fun c => mem c Gen.schemeChars) = false)) :
    encodeUrl e (unsplitResult [] [] (q e Gen.PATH_QUOTER rp) (qtext e.b kvs) (fragText e f)) =
      .ok (fromParts [] [] (q e Gen.PATH_QUOTER rp) (qtext e.b kvs) (fragText e f)) := by
  have hsplit : splitUrl e.o (unsplitResult [] [] (q e Gen.PATH_QUOTER rp) (qtext e.b kvs) (fragText e f)) =
      .ok (relParts e rp kvs f) :=
    C07_split_unsplit e.o (relParts e rp kvs f) (relParts_ok e rp kvs f hp hg hf hseg)
  rw [encodeUrl_of e _ _ [] none hsplit (netBlock_nil e _)]
  have h1 : encPath e [] (q e Gen.PATH_QUOTER rp) = q e Gen.PATH_QUOTER rp := by
    unfold encPath
    split
    · rfl
    · have hq : q e Gen.PATH_REQUOTER (q e Gen.PATH_QUOTER rp) = q e Gen.PATH_QUOTER rp :=
        run_fixed e.b _ pr_mem rfl (C04_partner_canon e.b rp hp).2.1
      simp [hq]
  have h3 : encFragment e (fragText e f) = fragText e f := by
    apply encFragment_fixed
    unfold fragText
    split
    · rename_i h; rw [List.isEmpty_iff.mp h]; exact .nil
    · exact (C04_partner_canon e.b f hf).2.2.2.2
  simp only [finishUrl, relParts, h1, encQuery_fixed e (canon_qtext e.b kvs hg), h3]
  rfl

end R12c

/-- `URL.build(path=rp, query=[(k, v), …], fragment=f)` WITHOUT scheme and host, for ANY decoded path text `rp` (empty,
    rooted, rootless, with dot segments — they are NOT removed without an authority): a relative reference that stores
    the encodings of the decoded components -/
theorem C18_relstores_build (e : Env) (rp : Str) (kvs : List (Str × Str)) (f : Str) (hp : PyStr rp) (hn : NoSurrogate rp)
    (hg : GoodPairs kvs) (hf : PyStr f) (hfn : NoSurrogate f) :
    ∃ r, build e { path := rp, query := .pairs (strItems kvs), fragment := f } = .ok r ∧ RelStores e r rp kvs f := by
  -- the stages of `build` without scheme and authority
  have hcheck : C07_buildArgCheck ⟨[], [], none, none, [], none, 0, rp, .pairs (strItems kvs), [], f, false⟩ = none := by
    unfold C07_buildArgCheck
    simp
  have hqs : C07_buildQueryString e ⟨[], [], none, none, [], none, 0, rp, .pairs (strItems kvs), [], f, false⟩ =
      .ok (qtext e.b kvs) := by
    unfold C07_buildQueryString
    cases kvs with
    | nil => rfl
    | cons kv r =>
      rw [if_pos (by simp [qargTruthy, strItems]), getStrQuery_strItems]
      rfl
  have hpath : buildPath e [] rp = .ok (q e Gen.PATH_QUOTER rp) := by
    unfold buildPath buildPath0
    cases rp with
    | nil => simp [q_nil]; rfl
    | cons c r => simp; rfl
  refine ⟨_, build_of rfl hcheck hqs rfl (buildNetloc_none rfl rfl) hpath, rfl, rfl, rfl, ?_, rfl, hp, hn, hg, hf, hfn⟩
  show buildQuery e _ (qtext e.b kvs) = qtext e.b kvs
  unfold buildQuery
  cases kvs with
  | nil => rfl
  | cons kv r => simp [qargTruthy, strItems]

/-- the constructor on the TEXT of such a reference — `s = str(ref)`: `PATH_QUOTER(rp) [? k=v&…] [# fragment]` (with
    `//` in front of a path that starts with "//") — gives the same reference back, PROVIDED the text before the first
    ':' of the encoded path, if there is a ':', is empty or contains a non-scheme character (otherwise it is read as a
    scheme: the last two conjuncts of `C18_relstores_constructor_instance`, C18More3JoinB.lean) -/
theorem C18_relstores_constructor (e : Env) (rp : Str) (kvs : List (Str × Str)) (f : Str) (hp : PyStr rp)
    (hn : NoSurrogate rp) (hg : GoodPairs kvs) (hf : PyStr f) (hfn : NoSurrogate f)
    (hseg : 58 ∈ q e Gen.PATH_QUOTER rp → ((q e Gen.PATH_QUOTER rp).takeWhile (· ≠ 58) = [] ∨
      ((q e Gen.PATH_QUOTER rp).takeWhile (· ≠ 58)).all (fun c => mem c Gen.schemeChars) = false)) :
    ∃ r, encodeUrl e (unsplitResult [] [] (q e Gen.PATH_QUOTER rp) (qtext e.b kvs) (fragText e f)) = .ok r ∧
      r = fromParts [] [] (q e Gen.PATH_QUOTER rp) (qtext e.b kvs) (fragText e f) ∧ RelStores e r rp kvs f :=
  ⟨_, ctor_rel e rp kvs f hp hg hf hseg, rfl, ⟨rfl, rfl, rfl, rfl, rfl, hp, hn, hg, hf, hfn⟩⟩

/-- … in particular when the FIRST SEGMENT of the decoded path has no ':' -/
theorem C18_relstores_constructor_first_segment (e : Env) (rp : Str) (kvs : List (Str × Str)) (f : Str) (hp : PyStr rp)
    (hn : NoSurrogate rp) (hg : GoodPairs kvs) (hf : PyStr f) (hfn : NoSurrogate f)
    (hseg : 58 ∉ rp.takeWhile (· ≠ 47)) :
    ∃ r, encodeUrl e (unsplitResult [] [] (q e Gen.PATH_QUOTER rp) (qtext e.b kvs) (fragText e f)) = .ok r ∧
      r = fromParts [] [] (q e Gen.PATH_QUOTER rp) (qtext e.b kvs) (fragText e f) ∧ RelStores e r rp kvs f :=
  C18_relstores_constructor e rp kvs f hp hn hg hf hfn
    (C07_first_segment_suffices _ (first_segment_enc e rp hp hn hseg))

end Yarl
