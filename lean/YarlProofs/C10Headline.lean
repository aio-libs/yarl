import YarlProofs.C10
import YarlProofs.C08Multi
/-!
  C10Headline.lean — AUDIT LAYER for property C10.

  C10 | Equality, hashing and ordering are coherent |
  "Two URLs are equal exactly when their scheme, authority, path (an empty path under an authority counting as '/'),
  query and fragment are equal; equal URLs have equal hashes, and equality is reflexive, symmetric, transitive and never
  holds against non-URL objects. The ordering operators form a total preorder consistent with equality: for any two URLs
  exactly one of a < b, a == b, a > b holds."

  Vocabulary (YarlModel/Url.lean).  `eqKey u` = the 5-tuple `(scheme, netloc, path-or-"/", query, fragment)` that `__eq__`
  compares, `__hash__` hashes and `_sort_key` orders; `a.beq b` = `eqKey a = eqKey b` = `a == b`;
  `a.lt b` = Python's tuple `<` on the keys (`ltParts`, string `<` = `ltStr`: code-point lexicographic, prefix first);
  `a.le b` = `a.lt b || eqKey a = eqKey b`; `a.gt b` = `b.lt a`; `a.ge b` = `b.le a` (the last three are DEFINITIONS of the
  model: Python evaluates `<=`, `>`, `>=` on the key tuples, for which these identities hold).
  Cache machine (YarlModel/CacheMulti.lean, C08Multi.lean; used only in C10_headline_hash_and_comparisons_after_any_history):
  `run (yarlMSem e hf) pol ⟨caps, gen⟩ [] ops` = the outputs of the operation sequence `ops` (constructors, accessors
  `.read`, `.hash h`, `.cmp c h1 h2`, pickling, modifiers, cache clear / configure) on the machine with the per-object
  `_cache` memo dicts and the LRU caches, `hf` = Python's hash of a 5-tuple of strings (any function), `pol` / `caps` /
  `gen` = eviction policies and capacities; `valOf (specHandles (yarlMSem e hf) [] ops) h` = the five stored strings of
  the URL that handle `h` denotes after `ops` in the cache-free specification (`none`: no such object);
  `cmpUrl c a b` = `a.beq b`, `!a.beq b`, `a.lt b`, `a.le b`, `a.gt b`, `a.ge b` for `c` = eq, ne, lt, le, gt, ge.
  Continued in C10HeadlineMore3.lean (GAPS 1: the operators against ARBITRARY Python objects, model-level over
  YarlModel/Dyn.lean — C10Dyn.lean; GAPS 4, 5: an independent specification of Python's tuple / str comparison and the
  remaining order laws — C10Order.lean; GAPS 2 across the two constructor modes — C10ReachE.lean).
-/
namespace Yarl

/-! ## Sentence 1a — "Two URLs are equal exactly when their scheme, authority, path (an empty path under an authority
    counting as '/'), query and fragment are equal" -/

/-- the sentence, component by component (47 = '/') -/
theorem C10_headline_equal_iff_components (a b : Url) :
    a.beq b = true ↔
      a.scheme = b.scheme ∧ a.netloc = b.netloc ∧
      (if a.path.isEmpty && !a.netloc.isEmpty then [47] else a.path) =
        (if b.path.isEmpty && !b.netloc.isEmpty then [47] else b.path) ∧
      a.query = b.query ∧ a.fragment = b.fragment :=
  C10_eq_components a b

/-! ## Sentence 1b — "equal URLs have equal hashes" -/

/-- "equal URLs have equal hashes": for ANY hash function applied to the key tuple (Python's `hash` of a tuple of strings
    is one; the per-process salt does not matter) -/
theorem C10_headline_equal_urls_equal_hashes (hash : Parts → Nat) (a b : Url) :
    a.beq b = true → hash (eqKey a) = hash (eqKey b) :=
  C10_hash_coherent hash a b

section CacheMachine
open Yarl.Cache (Policy)
open Yarl.MultiCache Yarl.MultiInst

/-- NEW (partly closes GAPS 3 and 4; proved in C08Multi.lean): "equal URLs have equal hashes" also with the MEMOISED
    hash and `_sort_key`.  In the cache machine — where `__hash__` stores its result under `_cache["hash"]` and the
    ordering methods read the memoised property `_sort_key` — after ANY operation history `ops`, with any cache
    capacities and eviction policies, `hash(url)` answers `hf (eqKey u)` and `url1 <op> url2` answers
    `cmpUrl op u1 u2` for the URLs `u`, `u1`, `u2` the handles denote: both are functions of the five stored strings
    through `eqKey`; a stale or foreign memo entry can never be observed. -/
theorem C10_headline_hash_and_comparisons_after_any_history (e : Env) (hf : Parts → Int)
    (pol : YCache → Policy (YKey e)) (caps : YCache → Nat → Option Nat) (gen : YCache → Nat)
    (ops : List (Op YCache (YKey e) YMod)) (c : CmpOp) (h1 h2 : Nat) :
    (run (yarlMSem e hf) pol { caps := caps, gen := gen } [] (ops ++ [.hash h1])).getLast? =
      some (match valOf (specHandles (yarlMSem e hf) [] ops) h1 with
            | some p => .value (.hash (hf (eqKey (Url.ofParts p))))
            | none => .dead) ∧
    (run (yarlMSem e hf) pol { caps := caps, gen := gen } [] (ops ++ [.cmp c h1 h2])).getLast? =
      some (match valOf (specHandles (yarlMSem e hf) [] ops) h1, valOf (specHandles (yarlMSem e hf) [] ops) h2 with
            | some p1, some p2 => .value (.cmp (cmpUrl c (Url.ofParts p1) (Url.ofParts p2)))
            | _, _ => .dead) :=
  C08_multi_yarl_hash_cmp e hf pol caps gen ops c h1 h2

/-- … where the six comparison answers of the machine are these functions of the two keys (by definition of `cmpUrl`,
    `Url.lt`, `Url.le`, `Url.gt`, `Url.ge`; `ltParts` = tuple `<`) -/
theorem C10_headline_comparisons_from_sort_keys (a b : Url) :
    cmpUrl .eq a b = decide (eqKey a = eqKey b) ∧ cmpUrl .ne a b = !decide (eqKey a = eqKey b) ∧
    cmpUrl .lt a b = ltParts (eqKey a) (eqKey b) ∧
    cmpUrl .le a b = (ltParts (eqKey a) (eqKey b) || decide (eqKey a = eqKey b)) ∧
    cmpUrl .gt a b = ltParts (eqKey b) (eqKey a) ∧
    cmpUrl .ge a b = (ltParts (eqKey b) (eqKey a) || decide (eqKey b = eqKey a)) :=
  C08_multi_yarl_cmp_of_sort_key a b

end CacheMachine

/-! ## Sentence 1c — "and equality is reflexive, symmetric, transitive and never holds against non-URL objects" -/

/-- "equality is reflexive, symmetric, transitive" ("never holds against non-URL objects": GAPS 1, C10HeadlineMore3.lean) -/
theorem C10_headline_equality_is_equivalence :
    (∀ a : Url, a.beq a = true) ∧ (∀ a b : Url, a.beq b = true → b.beq a = true) ∧
    (∀ a b c : Url, a.beq b = true → b.beq c = true → a.beq c = true) :=
  C10_equivalence
-- Appendix E: C10_equiv ↦ C10_equivalence (the three laws spelled out instead of `Equivalence Url.beq`, since `beq` is
--             Bool-valued) + C10_hash_coherent (`hashKey a` became `hash (eqKey a)` for an arbitrary `hash`).

/-! ## Sentence 2a — "The ordering operators form a total preorder consistent with equality" -/

/-- "a total preorder": `<=` is total and transitive (hence reflexive); "consistent with equality": `<=` both ways is
    exactly `==`, `<` is `<=` without `==`, `<=` is "not >", and equal URLs are interchangeable on either side of `<`;
    `>` / `>=` are the converses. -/
theorem C10_headline_total_preorder :
    (∀ a b : Url, a.le b = true ∨ b.le a = true) ∧
    (∀ a b c : Url, a.le b = true → b.le c = true → a.le c = true) ∧
    (∀ a b : Url, a.le b = true → b.le a = true → a.beq b = true) ∧
    (∀ a b : Url, a.le b = true ↔ (a.lt b = true ∨ a.beq b = true)) ∧
    (∀ a b : Url, a.lt b = true ↔ (a.le b = true ∧ a.beq b = false)) ∧
    (∀ a b : Url, a.le b = true ↔ b.lt a = false) ∧
    (∀ a a' b : Url, a.beq a' = true → a.lt b = a'.lt b ∧ b.lt a = b.lt a') ∧
    (∀ a b : Url, a.ge b = b.le a ∧ a.gt b = b.lt a) :=
  ⟨C10_le_total, C10_le_trans, C10_le_antisymm, C10_le_iff, C10_lt_iff_le_not_eq, C10_le_iff_not_gt,
    C10_lt_respects_eq, C10_ge_gt⟩

/-- the strict part: `<` is irreflexive, asymmetric and transitive -/
theorem C10_headline_strict_order :
    (∀ a : Url, a.lt a = false) ∧ (∀ a b : Url, a.lt b = true → b.lt a = false) ∧
    (∀ a b c : Url, a.lt b = true → b.lt c = true → a.lt c = true) :=
  ⟨C10_lt_irrefl, C10_lt_asymm, C10_lt_trans⟩

/-! ## Sentence 2b — "for any two URLs exactly one of a < b, a == b, a > b holds" -/

/-- "exactly one of a < b, a == b, a > b holds" (`a > b` is `b.lt a`) -/
theorem C10_headline_trichotomy (a b : Url) :
    (a.lt b = true ∧ a.beq b = false ∧ a.gt b = false) ∨
    (a.lt b = false ∧ a.beq b = true ∧ a.gt b = false) ∨
    (a.lt b = false ∧ a.beq b = false ∧ a.gt b = true) :=
  C10_trichotomy a b
-- Appendix E: C10_trichotomy ↦ C10_trichotomy (same name, same content; Bool-valued).

/-! ## the near-collision the property text mentions (fixed finding 5e0ab50), as a regression check -/

/-- URL('http://h') == URL('http://h/'), neither is `<` the other; without an authority '' and '/' differ and '' < '/' -/
theorem C10_headline_empty_path_vs_slash :
    (fromParts "http".toStr "h".toStr [] [] []).beq (fromParts "http".toStr "h".toStr [47] [] []) = true ∧
    (fromParts "http".toStr "h".toStr [] [] []).lt (fromParts "http".toStr "h".toStr [47] [] []) = false ∧
    (fromParts "http".toStr "h".toStr [47] [] []).lt (fromParts "http".toStr "h".toStr [] [] []) = false ∧
    (fromParts [] [] [] [] []).beq (fromParts [] [] [47] [] []) = false ∧
    (fromParts [] [] [] [] []).lt (fromParts [] [] [47] [] []) = true := by str_lits; decide +kernel

/-- NEW (GAPS 6, as a counterexample): equal URLs need not print equally — URL('http://h') == URL('http://h/') (first
    conjunct of the previous theorem) but str gives "http://h" and "http://h/" (same root as F-C07-empty-path; both
    strings parse back to equal URLs). -/
theorem C10_headline_equal_urls_may_differ_in_str :
    let e : Env := ⟨.py, Oracles.empty⟩
    (fromParts "http".toStr "h".toStr [] [] []).beq (fromParts "http".toStr "h".toStr [47] [] []) = true ∧
    str e (fromParts "http".toStr "h".toStr [] [] []) = .ok "http://h".toStr ∧
    str e (fromParts "http".toStr "h".toStr [47] [] []) = .ok "http://h/".toStr := by
  refine ⟨by str_lits; decide +kernel, by str_lits; decide +kernel, by str_lits; decide +kernel⟩

/-
GAPS:
 1. CLOSED, MODEL-LEVEL, by C10_eq_non_url, C10_eq_iff_url, C10_ne_eq_not, C10_eq_non_url_instances, C10_order_non_url,
    C10_order_answers_iff_url, C10_dyn_agrees_on_urls, C10_dyn_reflected_consistent, C10_dyn_equality_is_equivalence,
    C10_dyn_trichotomy, C10_dyn_le_iff (C10Dyn.lean, over YarlModel/Dyn.lean), see C10_headline_never_equal_to_non_url,
    C10_headline_equal_iff_url_with_equal_key, C10_headline_never_equal_instances, C10_headline_ordering_against_non_url_raises,
    C10_headline_operators_are_model_relations, C10_headline_operator_equality_is_equivalence, C10_headline_operator_trichotomy,
    C10_headline_operator_le_is_lt_or_eq (C10HeadlineMore3.lean).  (Was: "never holds against non-URL objects": NOT MODELLED.)
    Proved: the source's `if type(other) is not URL: return NotImplemented` (in `__eq__` and the four ordering methods) together
    with the interpreter's fallback (reflected method of the other operand, then identity for `==` / `!=`, TypeError for the
    ordering operators) is transcribed as `dynEq` / `dynNe` / `dynLt` … over the object universe `PyObj`; `u == o` is False and
    `u != o` True for EVERY `o` that is not a URL (str — also `str(u)` —, str subclass, the key 5-tuple, the 5-tuple /
    SplitResult of the parts, None, bool / int / float, bytes, tuple / list / dict — also containing the URL —, `object()`);
    `u == o` holds iff `o` is a URL with the same key tuple; `u < o`, `<=`, `>`, `>=` raise TypeError for every non-URL `o`, answer
    exactly for URLs, and TypeError is the only error; on two URLs the operators ARE `beq` / `lt` / `le` / `gt` / `ge`, so every
    theorem of this file transfers (equivalence and trichotomy spelled out for the operators).
    MODEL-LEVEL means: Dyn.lean is a hand transcription of Python-level dispatch; it is tied to CPython / the library only by
    the run-time probe table (the `example` rows at the end of C10Dyn.lean, compared with the real library, both quoter backends,
    on every run), NOT by proof.  ASSUMPTION (stated in Dyn.lean, no theorem): `.other` objects and str subclasses do not
    override the REFLECTED comparison methods; an object whose `__eq__` answers True to everything (`unittest.mock.ANY`)
    compares equal to a URL through the interpreter's fallback — outside `PyObj`, and no library can prevent it.  Object kinds
    without a tag in `PyObj` (instances of a subclass of URL, sets / frozensets, user classes with comparison overrides) are not
    covered.
 2. Equality is on the STORED strings.  No theorem relates `==` to semantic identity: an explicit default port
    ("http://a:80/" vs "http://a/", see C03_default_port_counterexample), different spellings of an IPv6 host, or
    percent-encoding variants that survived `encoded=True` compare unequal; the property text does not ask for more,
    but "authority … equal" means the netloc TEXT, not (user, password, host, port).
    SHARPENED by C10_reachE_equality_is_on_stored_text (C10ReachE.lean), see C10_headline_equality_is_on_stored_text_across_modes
    (C10HeadlineMore3.lean): a witness over `ReachE` (the closure of ALL entry points, `encoded=True` included) —
    `URL('http://h/a b') != URL('http://h/a b', encoded=True)` while `URL('http://h/a%20b') == URL('http://h/a%20b', encoded=True)`
    although only the first record carries pre-computed cache entries.  C10ReachE.lean records that nothing has to be lifted:
    every C10 law here is about ARBITRARY `Url` records without hypothesis, hence holds of every reachable URL, `encoded=True`
    ones included (the one-line corollaries over `ReachE` are not stated).
 3. PARTLY CLOSED by C08_multi_yarl_hash_cmp (C08Multi.lean), see C10_headline_hash_and_comparisons_after_any_history:
    the memoisation of the hash in `_cache["hash"]` is now modelled (YarlModel/CacheMulti.lean) and proved harmless —
    after any history `hash(url)` is `hf (eqKey u)`.  Also, MODEL-LEVEL (Dyn.lean, see item 1 for what that means), by
    C10_dyn_hash_total, C10_dyn_hash_coherent, C10_dyn_hash_collides_with_key_tuple, C10_dyn_hash_eq_errors (C10Dyn.lean), see
    C10_headline_operator_equal_implies_equal_hash, C10_headline_hash_converse_fails_for_key_tuple (C10HeadlineMore3.lean):
    `hash(u)` never raises and is `hf (keyTuple u)` for an arbitrary object hash `hf`; `u == o` implies `hash(u) == hash(o)`
    for every object `o`; the converse is FALSE over all objects (`hash(u)` equals the hash of the key 5-tuple, which is not
    `==` to `u`), as Python allows.  Remains open, as before: the model has no hash function; the
    theorem is "any function of the key tuple agrees on equal URLs".  That `__hash__` uses exactly this tuple (incl.
    the "/" substitution) is by construction of `eqKey` / `keyTuple` from the source, not checked by a generated table.
 4. PARTLY CLOSED by C08_multi_yarl_hash_cmp / C08_multi_yarl_cmp_of_sort_key (C08Multi.lean), see
    C10_headline_hash_and_comparisons_after_any_history, C10_headline_comparisons_from_sort_keys: `_sort_key` as a
    memoised `cached_property` is now an entry of the cache machine, and the comparisons answer `cmpUrl` of the stored
    parts after any history.  The part "`<=`, `>`, `>=` are definitions in the model …: the identities `t1 <= t2 ↔ t1 < t2 ∨
    t1 = t2` for Python tuples of str are assumed, not proved (no model of Python tuple comparison other than `ltParts`)" is
    CLOSED by C10_order_eq_pyTuple, C10_ltParts_eq_pyTupleLt, C10_pyTupleLe_iff, C10_pyTupleGt_Ge (C10Order.lean), see
    C10_headline_operators_are_python_tuple_comparisons, C10_headline_python_tuple_identities (C10HeadlineMore3.lean): there
    is now an INDEPENDENT specification of Python's rich comparison of sequences (`PySpec.seqCmp`, written from the language
    reference §6.10.1 "Value comparisons"), instantiated for str (code points) and for tuples of str, with all FOUR ordering
    operators transcribed separately; `Url.lt` / `le` / `gt` / `ge` are proved equal to `pyTupleLt` / `Le` / `Gt` / `Ge` of the two
    `_sort_key` tuples (`==` / `!=` to (in)equality of the tuples), and the three identities are theorems about the
    specification for tuples of ANY length.  The order laws missing from this file (`==` implies `<=` and `>=`, `<=` reflexive,
    `>` / `>=` in iff form, mixed `<` / `<=` transitivity): C10_order_laws, C10_eq_le_ge, C10_le_refl, C10_lt_le_trans, see
    C10_headline_order_laws, C10_headline_equal_implies_le_ge_and_mixed_transitivity.
    STILL OPEN: `PySpec.seqCmp` is a hand transcription of the language reference, not tied to CPython by a generated fact (at run
    time only the three URL-against-URL ordering rows of the probe table of C10Dyn.lean, ASCII texts, exercise it).  `_sort_key` is the same tuple as `eqKey` in the source (by inspection of `_url.py`; `sortKey u` is DEFINED as the list
    of the five strings of `eqKey u`), not tied to the model by a generated fact.
 5. PARTLY CLOSED by C10_pyStr_order (C10Order.lean), see C10_headline_string_order_is_code_point_order (C10HeadlineMore3.lean):
    the model's string order `ltStr` IS the independent specification's `<` on code-point sequences (`PySpec.pyStrCmp .lt`; a
    code point is a `Nat`, so lone surrogates and non-BMP characters are ordered by their number), and `<=` / `>` / `>=` on str
    satisfy the same three identities.  STILL OPEN, as before: Python compares str by code point as well (language reference) —
    no generated fact ties this to the implementation (the ordering rows of the probe table of C10Dyn.lean use ASCII texts only).
 6. CLOSED (as a counterexample) by C10_headline_equal_urls_may_differ_in_str (here; also
    C07_headline_recompose_fails_for_empty_path_indistinguishable, C07HeadlineMore.lean, for constructor results).
    Interaction with other properties (not C10's text, but commonly expected): `a == b → str(a) == str(b)` is false
    for '' vs '/' under an authority without query and fragment ("http://h" vs "http://h/"; F-C07-empty-path).
-/

end Yarl
