import YarlProofs.C04Headline
import YarlProofs.C04Bracket
/-!
  C04HeadlineMore.lean — AUDIT LAYER for property C04, continuation of C04Headline.lean (the theorems here need
  C04Bracket.lean, which imports C04Headline.lean; this file is a leaf, nobody imports it).

  C04 | Already-canonical URLs are left untouched |
  "For every string that is already canonical - lower-case scheme and host, no default port, no dot segments
  under an authority, only characters that are legal literally in each component, and upper-case escapes only
  for characters that must be escaped there (or, for that component's reserved delimiters, may be) -
  str(URL(s)) == s. The library neither over-encodes nor over-decodes, as documented ('Already encoded URL is
  not changed')."

  What is here: GAPS 1 of C04Headline.lean, the part "bracketed non-IPv6 hosts" — IPvFuture "[v1.a:b]" and other
  bracketed text with ':' that is no IPv6 address ("[g::1]", "[a:b]", "[1.2.3.4%a:b]").  Since fix c17f18a the
  constructor keeps the brackets of such a host; `HostFix` does not cover them (`HostFix.notV` excludes a host with ':'
  that starts with 'v', and `_encode_host` does not ADD brackets here: `encode_url` puts them back).

  Vocabulary (Lemmas/BrHost.lean, C03Bracket.lean, C04Bracket.lean; `C04_roundTrip`, `canonText`, `Canon`, `CanonNetloc`,
  `UserInfoOK`, `PortOK`, `CompOK`, `composeUrl`: as in C04Headline.lean).
  `bracketCheck t`   — the check `split_url` applies to the text between '[' and ']': a text starting with a lower-case
                       'v' must match `v<hex>+.<char>+`, any other text must contain ':'.
  `BracketText t`    — visible ASCII with none of `/ ? # @ [ ]` (`textChar`; ':' and '%' allowed), no upper-case letter,
                       `bracketCheck t`, and the text before an optional `%zone` is no IPv6 literal
                       (spelled out in C03_headline_bracketed_host_text_spec, C03Headline.lean).
  `HostFixB o t`     — "lower-case … host" for this family: `HostOK t`, authority characters, `bracketCheck t`, and
                       `_encode_host(t) = t`; `BracketText t` suffices (`C03_bracket_hostFixB`).
  `authTextB user pw t port` — the text `[user[:password]@][t][:port]`, host ALWAYS in brackets.
  `CanonNetlocB e scheme netloc` — `CanonNetloc e scheme netloc`, or `netloc = authTextB user pw t port` with
                       `UserInfoOK`, `HostFixB e.o t` and `PortOK scheme port` (spelled out in the first theorem).
-/
namespace Yarl
open FixLemmas NetShape HostLemmas NetlocLemmas BrHost

/-! ## Sentence 1 — "For every string that is already canonical - … - str(URL(s)) == s." — bracketed non-IPv6 hosts -/

/-- `CanonNetlocB`, written out (inductive of C04Bracket.lean) -/
theorem C04_headline_canon_netloc_bracketed_spec (e : Env) (scheme netloc : Str) :
    CanonNetlocB e scheme netloc ↔ CanonNetloc e scheme netloc ∨ ∃ user pw t port,
      netloc = authTextB user pw t port ∧ UserInfoOK e.b user pw ∧ HostFixB e.o t ∧ PortOK scheme port := by
  constructor
  · intro h
    cases h with
    | plain h => exact Or.inl h
    | brk user pw t port h1 h2 h3 h4 => exact Or.inr ⟨user, pw, t, port, h1, h2, h3, h4⟩
  · rintro (h | ⟨user, pw, t, port, h1, h2, h3, h4⟩)
    · exact .plain h
    · exact .brk user pw t port h1 h2 h3 h4

/-- The sentence, for the string written from five components, with the authority clause EXTENDED by the bracketed
    non-IPv6 hosts (`CanonNetlocB`); every other hypothesis is the one of C04_headline_canonical_string_unchanged,
    unchanged.  A canonical string, now also one whose host is a bracketed non-IPv6 text, is parsed into exactly its
    five components, and printing the parsed URL gives back the very string.
    Cites C04_identity_generalB, C04_roundTrip_generalB (C04Bracket.lean). -/
theorem C04_headline_canonical_string_unchanged_bracketed_host (e : Env) (scheme netloc path query fragment : Str)
    (h_scheme : SchemeOK' scheme)                         -- "lower-case scheme"
    -- "lower-case … host", "no default port" (+ canonical userinfo), bracketed non-IPv6 hosts included
    -- (needed: C04_headline_bracketed_fails_for_upper_case, …_fails_for_default_port; F-C04-colon-password)
    (h_netloc : CanonNetlocB e scheme netloc)
    (h_path : Canon (Gen.PATH_REQUOTER.tab e.b) path)     -- "only characters that are legal literally …"
    (h_query : Canon (Gen.QUERY_REQUOTER.tab e.b) query)
    (h_fragment : Canon (Gen.FRAGMENT_REQUOTER.tab e.b) fragment)
    (h_nodots : netloc ≠ [] → NoDotSegments path)         -- "no dot segments under an authority"
    (h_rooted : netloc ≠ [] → (path = [] ∨ path.head? = some 47))   -- well-formedness of the 5-tuple
    (h_nonempty : netloc ≠ [] → path = [] → query = [] ∧ fragment = [])   -- KNOWN FINDING F-C04-empty-path
    (h_first_segment : scheme = [] → netloc = [] → 58 ∈ path →           -- well-formedness of the 5-tuple
      (path.takeWhile (· ≠ 58) = [] ∨ (path.takeWhile (· ≠ 58)).all (fun c => mem c Gen.schemeChars) = false))
    (h_authority_scheme : scheme ≠ [] → Gen.usesAuthority.contains scheme = true → netloc = [] →   -- F-C03-rootless
      (path = [] ∨ path.head? = some 47)) :
    C04_roundTrip e (canonText scheme netloc path query fragment) = .ok (canonText scheme netloc path query fragment) ∧
    ∃ u, encodeUrl e (canonText scheme netloc path query fragment) = .ok u ∧
      str e u = .ok (canonText scheme netloc path query fragment) ∧
      u.scheme = scheme ∧ u.netloc = netloc ∧ u.path = path ∧ u.query = query ∧ u.fragment = fragment := by
  have h : CanonStringB e scheme netloc path query fragment :=
    ⟨h_scheme, h_netloc, h_path, h_query, h_fragment, h_rooted, h_nodots, h_nonempty, h_first_segment,
      h_authority_scheme⟩
  exact ⟨C04_roundTrip_generalB e scheme netloc path query fragment h,
    C04_identity_generalB e scheme netloc path query fragment h⟩

/-- "For every string": C04_headline_every_canonical_string with the extended authority clause (`CanonStringB` =
    `CanonString` with `CanonNetlocB`; the ten fields are the ten hypotheses of the previous theorem).
    Cites C04_bracket_every_canonical_string. -/
theorem C04_headline_every_canonical_string_bracketed_host (e : Env) (s : Str) (p : Parts)
    (h_parse : splitUrl e.o s = .ok p)
    (h_canon : CanonStringB e p.scheme p.netloc p.path p.query p.fragment)
    (h_clean : cleanUrl s = s)        -- no leading C0/space, no TAB/CR/LF
    (h_lower : (splitScheme s).1 = [] ∨ lower (s.takeWhile (· ≠ 58)) = s.takeWhile (· ≠ 58))  -- scheme WRITTEN lower-case
    (h_recomp : Recomposable s) :     -- F-C04-empty-delims, F-C04-empty-authority, F-C04-single-slash
    C04_roundTrip e s = .ok s :=
  C04_bracket_every_canonical_string e s p h_parse h_canon h_clean h_lower h_recomp

/-- The identity for a string with a bracketed non-IPv6 host, written out as text — the counterpart of
    C04_headline_canonical_authority_unchanged for `HostFixB` hosts: `scheme://[user[:password]@][t][:port]path[?query]
    [#fragment]` (`composeUrl`) and the network-path reference `//[user[:password]@][t][:port]path…` are parsed into
    exactly these components and printed back unchanged, for ANY user / password satisfying `UserInfoOK`, ANY non-default
    port ≤ 65535, ANY canonical path / query / fragment (`CompOK`).  Cites C04_bracket_identity. -/
theorem C04_headline_canonical_bracketed_authority_unchanged (e : Env) (scheme : Str) (user pw : Option Str) (t : Str)
    (port : Option Nat) (path query fragment : Str)
    (hu : UserInfoOK e.b user pw)                  -- canonical userinfo; no literal ':' in the password: F-C04-colon-password
    (hh : HostFixB e.o t)                          -- "lower-case … host": bracketed non-IPv6 text, lower case;
                                                   -- `BracketText t` suffices (upper case is lowered:
                                                   -- C04_headline_bracketed_fails_for_upper_case)
    (hc : CompOK e.b path query fragment) :        -- as in C04_headline_canonical_authority_unchanged
    (SchemeOK scheme →                             -- "lower-case scheme" (non-empty)
      PortOK scheme port →                         -- "no default port" (and ≤ 65535); default:
                                                   -- C04_headline_bracketed_fails_for_default_port
      ∃ u, encodeUrl e (composeUrl scheme (authTextB user pw t port) path query fragment) = .ok u ∧
        str e u = .ok (composeUrl scheme (authTextB user pw t port) path query fragment) ∧
        u.scheme = scheme ∧ u.netloc = authTextB user pw t port ∧ u.path = path ∧ u.query = query ∧
        u.fragment = fragment) ∧
    ((∀ p, port = some p → p ≤ 65535) →            -- no scheme, so no default port
      ∃ u, encodeUrl e ([47, 47] ++ authTextB user pw t port ++ path ++ qPart query ++ fPart fragment) = .ok u ∧
        str e u = .ok ([47, 47] ++ authTextB user pw t port ++ path ++ qPart query ++ fPart fragment) ∧
        u.scheme = [] ∧ u.netloc = authTextB user pw t port ∧ u.path = path ∧ u.query = query ∧
        u.fragment = fragment) :=
  C04_bracket_identity e scheme user pw t port path query fragment hu hh hc

/-- which texts are such hosts: `BracketText t` gives `HostFixB o t` for every oracle (the text is ASCII, no oracle is
    consulted); the two families — an IPvFuture text `v<hex>+.<char>+`, and a text with ':' that does not start with 'v'
    and is no IPv6 literal — in lower-case `textChar` text.  Cites C03_bracket_hostFixB, C03_bracket_families. -/
theorem C04_headline_bracketed_host_families (o : Oracles) :
    (∀ t : Str, BracketText t → HostFixB o t) ∧
    (∀ t : Str, (∀ c ∈ t, textChar c = true) → (∀ c ∈ t, ¬ (65 ≤ c ∧ c ≤ 90)) → ipvFutureOk t = true →
      BracketText t) ∧
    (∀ t : Str, (∀ c ∈ t, textChar c = true) → (∀ c ∈ t, ¬ (65 ≤ c ∧ c ≤ 90)) → 58 ∈ t → t.head? ≠ some 118 →
      (∀ h8, parseIP (partition 37 t).1 ≠ some (.v6 h8)) → BracketText t) :=
  ⟨fun _ h => C03_bracket_hostFixB o h, C03_bracket_families.2.1, C03_bracket_families.2.2⟩

/-! ### the two clauses that are needed -/

/-- "lower-case … host" is needed: an upper-case bracketed host is lowered — "http://[V1.A:B]/" ↦ "http://[v1.a:b]/"
    (the result is a fixed point).  Cites C04_bracket_fails_for_upper_case. -/
theorem C04_headline_bracketed_fails_for_upper_case (b : Backend) :
    C04_roundTrip ⟨b, Oracles.empty⟩ "http://[V1.A:B]/".toStr = .ok "http://[v1.a:b]/".toStr ∧
    C04_roundTrip ⟨b, Oracles.empty⟩ "http://[v1.a:b]/".toStr = .ok "http://[v1.a:b]/".toStr :=
  C04_bracket_fails_for_upper_case b

/-- "no default port" is needed: "https://[v1.a:b]:443/" ↦ "https://[v1.a:b]/", and WITHOUT a ':' in the host even the
    BRACKETS go: "https://[v1.a]:443/" ↦ "https://v1.a/" (`str` rebuilds the authority from `host_subcomponent`, which
    brackets a host only when it contains ':'; C03_headline_bracketed_host_default_port, C03Headline.lean).
    Cites C04_bracket_fails_for_default_port. -/
theorem C04_headline_bracketed_fails_for_default_port (b : Backend) :
    C04_roundTrip ⟨b, Oracles.empty⟩ "https://[v1.a:b]:443/".toStr = .ok "https://[v1.a:b]/".toStr ∧
    C04_roundTrip ⟨b, Oracles.empty⟩ "https://[v1.a]:443/".toStr = .ok "https://v1.a/".toStr :=
  C04_bracket_fails_for_default_port b

/-! ## non-vacuity -/

-- userinfo, IPvFuture host with ':', non-default port, path, query, fragment — through the headline theorem
example (b : Backend) : C04_roundTrip ⟨b, Oracles.empty⟩ "http://u:p%40w@[v1.a:b]:8080/a/b?q#f".toStr =
    .ok "http://u:p%40w@[v1.a:b]:8080/a/b?q#f".toStr :=
  IdGen.roundTrip_at (by str_lits; decide +kernel)
    ((C04_headline_canonical_bracketed_authority_unchanged ⟨b, Oracles.empty⟩ "http".toStr
      (some "u".toStr) (some "p%40w".toStr) "v1.a:b".toStr (some 8080) "/a/b".toStr "q".toStr "f".toStr
      (userInfoOK_some (by decide) (by cases b <;> decide +kernel) (by cases b <;> decide +kernel))
      ((C04_headline_bracketed_host_families _).1 _ (bracketTextB_sound (by decide +kernel)))
      (compOKB_sound (by cases b <;> decide +kernel))).1 (by decide)
      (portOK_some (by decide) (by decide)))

-- an IPvFuture host WITHOUT ':', "[g::1]" as a network-path reference, an IPv4 literal with a ':' in the zone id
example (b : Backend) : C04_roundTrip ⟨b, Oracles.empty⟩ "http://[v1.a]/".toStr = .ok "http://[v1.a]/".toStr ∧
    C04_roundTrip ⟨b, Oracles.empty⟩ "//[g::1]/p".toStr = .ok "//[g::1]/p".toStr ∧
    C04_roundTrip ⟨b, Oracles.empty⟩ "http://[1.2.3.4%a:b]/".toStr = .ok "http://[1.2.3.4%a:b]/".toStr := by
  str_lits; cases b <;> decide +kernel

example : BracketText "v1.a".toStr ∧ BracketText "g::1".toStr ∧ BracketText "1.2.3.4%a:b".toStr :=
  ⟨bracketTextB_sound (by decide +kernel), bracketTextB_sound (by decide +kernel),
   bracketTextB_sound (by decide +kernel)⟩

end Yarl
