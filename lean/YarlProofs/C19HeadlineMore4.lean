import YarlProofs.C19Headline
import YarlProofs.C19HeadlineMore3
import YarlProofs.C19DynBuild
/-!
  C19HeadlineMore4.lean — AUDIT LAYER for property C19, third file (after C19Headline.lean and C19HeadlineMore3.lean):
  headline theorems for the proof module added after the last refresh, C19DynBuild.lean, over the new MODEL file
  YarlModel/DynBuild.lean.  This file is a leaf, nobody imports it.  The GAPS block of C19Headline.lean cites the
  theorems of this file.

  C19 | Failures are reported only as ValueError/TypeError; nothing crashes |
  "Given arguments of the documented types, every public entry point either returns or raises ValueError
  (malformed value, including IDNA errors) or TypeError (wrong type); it never leaks IndexError, KeyError,
  AttributeError, RecursionError, AssertionError or any other exception type, and an object that build() or
  a modifier returned can always be turned into a string. If memory allocation fails inside the compiled
  quoter the call raises MemoryError, nothing is corrupted and later calls return correct results."

  What is here (all MODEL-LEVEL, as PART A of C19HeadlineMore3.lean: statements about the hand transcription
  YarlModel/DynBuild.lean of `URL.build`'s body over the universe `PyObj`; tied to CPython only by the probe table).
  GAPS 1 of C19Headline.lean listed as STILL OPEN: wrong-typed keyword arguments of `URL.build(…)`, the `names` of
  `without_query_params`, the `encoded` / `keep_query` / `keep_fragment` flags.  C19DynBuild.lean treats all three:
   * with keyword objects OF THE DOCUMENTED TYPES `URL.build` IS the typed `build` (the property's own premise), so the
     typed theorems transfer: only ValueError / TypeError (or an oracle request), never a non-URL object;
   * with ARBITRARY keyword objects "returns a URL or raises ValueError / TypeError" is FALSE — the NEGATIVE result
     C19_headline_dyn_build_kinds_FAILS: AttributeError leaks (scheme / authority / host objects without `.lower` /
     `.isascii` / `.isdigit`) and objects with non-str parts are RETURNED (bytes scheme, falsy non-str path /
     query_string / fragment, anything hashable with `encoded=True`); not a violation of C19, whose text starts "Given
     arguments of the documented types".  The strongest true statements are given instead: the kind bound, the exact
     condition for AttributeError, the leaking calls for every environment;
   * the argument checks of `build` and their order (which check stops the call, as iffs), the conflict checks as one
     iff, the sources of every ValueError;
   * `without_query_params(*names)`: the only failure is the TypeError of an unhashable name;
   * the flags act through `bool(o)` and cannot raise.

  Vocabulary added by YarlModel/DynBuild.lean and C19DynBuild.lean (`PyObj`, `Dyn.truthy`, `Dyn.hashable`,
  `Dyn.strLike`, `PathOut` with `.ok` / `.error` / `.garbage k`, `dynWithPath` …: see C19HeadlineMore3.lean).
  `DynB.BuildKw`       — the keyword arguments of one call `URL.build(**kw)`: every field an `Option PyObj`, `none` =
                         keyword not passed.  `BuildKw.resolve` fills in the defaults of the signature and gives
  `DynB.BuildObjs`     — the eleven argument OBJECTS scheme, authority, user, password, host, port, path, query,
                         query_string, fragment, encoded.
  `DynB.dynBuildObjs e o`, `DynB.dynBuild e kw` — `URL.build(…)` on these objects; outcome `PathOut`:
                         `.ok url`, `.error err`, `.garbage 0` (a URL object is RETURNED one of whose five stored parts
                         is not a `str`), `.garbage 1` (five `str` parts, but the netloc embeds `format(obj)` of a
                         non-str user / password / host).
  `DynB.isStr o` (`isinstance(o, str)`), `DynB.isNoneObj o`, `DynB.isBytes o`, `DynB.portInt o` (`type(o) is int`,
                         its value), `DynB.strOr o` (the text of a str, else "").
  `BuildObjs.Typed o`  — every keyword holds an object of its documented type: str for scheme / authority / host / path /
                         query_string / fragment, str or None for user / password, int (not bool) or None for port;
                         `query` and `encoded` unconstrained.  `DynB.args o` — the typed `BuildArgs` these coerce to.
  `DynB.preStop o`     — the first of the argument checks (statements 1–5 of `build`) that fires, as a `Stop`:
                         mixAuthority, portType, portRange, portNoHost, twoQueries, noneArg; `Stop.err` its exception.
  `DynB.queryStage e o` — statement 6, `get_str_query(query)` for a truthy `query`.
  `DynB.authorityObjErr o` / `DynB.hostObjErr o` — what a non-str truthy `authority` / `host` object raises.
  `BuildObjs.conflict o` — the call is stopped by one of the three CONFLICT checks (mixAuthority, portNoHost, twoQueries).
  `DynB.dynWithoutQueryParams e u names`, `DynB.dynWithPathFlags` / `dynWithNameFlags` / `dynWithSuffixFlags` /
  `dynJoinpathFlag` — the entry points with `names` / the flags as arbitrary objects.
-/
namespace Yarl
open Yarl.Dyn Yarl.DynB Yarl.ErrLemmas

/-! ## Sentence 1 — "Given arguments of the documented types, every public entry point either returns or raises
    ValueError … or TypeError" — `URL.build(**kwargs)` at the level of Python objects -/

/-- MODEL-LEVEL.  "Given arguments of the documented types": when every keyword object has its documented type,
    `URL.build` on the objects IS the typed `build` on the coerced arguments; hence a failure is a ValueError, a
    TypeError or an oracle request — never another exception — and no non-URL object is returned.  This is the bridge
    that carries every typed C19 theorem about `build` (C19_headline_kinds_constructors, C19_headline_str_total_build …)
    to the Python-level call.  Cites C19_dynBuild_typed, C19_dynBuild_typed_errors (C19DynBuild.lean). -/
theorem C19_headline_dyn_build_documented_types (e : Env) (o : BuildObjs)
    (h : o.Typed) :                                       -- "arguments of the documented types"
    dynBuildObjs e o = ofR (build e (args o)) ∧
    (∀ err, dynBuildObjs e o = .error err → Allowed err) ∧
    (∀ k, dynBuildObjs e o ≠ .garbage k) :=
  ⟨C19_dynBuild_typed e o h, C19_dynBuild_typed_errors e o h⟩

/-- MODEL-LEVEL.  The same in keyword form: a typed argument record passed keyword by keyword, with ANY object as
    `query=` (the typed `QArg` it dispatches to is `dynQuery query`).  Hypothesis: the typed record's port is a plain
    int (`portKind = 0`; the tags for a bool / non-int port exist only in the typed model).
    Cites C19_dynBuild_ofArgs (C19DynBuild.lean). -/
theorem C19_headline_dyn_build_keyword_form (e : Env) (a : BuildArgs) (query : PyObj)
    (h0 : a.portKind = 0) :                               -- the port, if given, is an `int`
    dynBuild e (BuildKw.ofArgs a query) = ofR (build e { a with query := dynQuery query }) :=
  C19_dynBuild_ofArgs e a h0 query

/-- NEGATIVE RESULT, MODEL-LEVEL (each witness is also a row of the probe table: the real library, both quoter
    backends).  "For ALL keyword objects the outcome of `URL.build` is a URL, ValueError or TypeError" is FALSE.
    Not a violation of C19 ("Given arguments of the documented types"), but the sentence "it never leaks …
    AttributeError" does not extend to wrong-typed `build` arguments.  Cites C19_dynBuild_errors_FAILS. -/
theorem C19_headline_dyn_build_kinds_FAILS :
    ¬ ∀ (e : Env) (k : BuildKw), (∃ u, dynBuild e k = .ok u) ∨ dynBuild e k = .error .valueError ∨
        dynBuild e k = .error .typeError :=
  C19_dynBuild_errors_FAILS

/-- MODEL-LEVEL.  The kind bound that IS true for ARBITRARY keyword objects: a failure is a ValueError, a TypeError,
    an oracle request of the typed `build` — or an AttributeError; a returned non-model object is garbage 0 / 1.
    (No IndexError, KeyError, … in the model of `build`.)  Cites C19_dynBuild_error_kinds (C19DynBuild.lean). -/
theorem C19_headline_dyn_build_kinds (e : Env) (o : BuildObjs) :
    (∀ err, dynBuildObjs e o = .error err → Allowed err ∨ err = .attributeError) ∧
    (∀ k, dynBuildObjs e o = .garbage k → k = 0 ∨ k = 1) :=
  C19_dynBuild_error_kinds e o

/-- MODEL-LEVEL.  EXACTLY when `URL.build` raises AttributeError: no argument check fires, `get_str_query` succeeds,
    `encoded` is falsy, and either `scheme` is neither str nor bytes (no `.lower`), or — `scheme.lower()` having
    succeeded — a truthy `authority` is neither str nor bytes (no `.isascii`), or (authority falsy) a truthy hashable
    `host` is a bytes / tuple / SplitResult; with the two object-level tables this refers to.
    Cites C19_dynBuild_attributeError_iff, C19_dynBuild_objErr_table (C19DynBuild.lean). -/
theorem C19_headline_dyn_build_attribute_error_iff (e : Env) (o : BuildObjs) :
    (dynBuildObjs e o = .error .attributeError ↔
      preStop o = none ∧ (∃ qs, queryStage e o = .ok qs) ∧ truthy o.encoded = false ∧
      ((isStr o.scheme = false ∧ isBytes o.scheme = false) ∨
       ((∃ l, lowerAny e (strOr o.scheme) = .ok l) ∧
        ((truthy o.authority = true ∧ isStr o.authority = false ∧ authorityObjErr o.authority = .attributeError) ∨
         (truthy o.authority = false ∧ truthy o.host = true ∧ isStr o.host = false ∧
            hostObjErr o.host = .attributeError))))) ∧
    (∀ x, authorityObjErr x = .attributeError ↔ isBytes x = false) ∧
    (∀ x, hostObjErr x = .attributeError ↔
      hashable x = true ∧ (isBytes x = true ∨ (∃ xs, x = .tuple xs) ∨ (∃ ps, x = .splitResult ps))) :=
  ⟨C19_dynBuild_attributeError_iff e o, C19_dynBuild_objErr_table.1, C19_dynBuild_objErr_table.2.2⟩

/-- MODEL-LEVEL, for EVERY environment.  The leaking calls with ONE wrong-typed keyword:
    `URL.build(scheme=x)`, x not a str / bytes / None (e.g. 1) → AttributeError;
    `URL.build(authority=x)`, x truthy, not a str / bytes (e.g. 1) → AttributeError;
    `URL.build(host=x)`, x a truthy hashable bytes / tuple / SplitResult (e.g. b"x", ("a",)) → AttributeError;
    `URL.build(scheme=b"x")` RETURNS a URL whose `_scheme` is bytes;
    `URL.build(path=x)` / `(query_string=x)` / `(fragment=x)`, x falsy and not a str / None (0, False, b"", (), [], {})
    RETURNS a URL whose `_path` / `_query` / `_fragment` is `x`;
    with `encoded=True`: EVERY hashable non-str non-None scheme / path / query_string / fragment is stored as it is
    (an unhashable one is the `lru_cache`'s TypeError).
    Cites C19_dynBuild_attributeError_leaks, C19_dynBuild_garbage_leaks, C19_dynBuild_encoded_leaks. -/
theorem C19_headline_dyn_build_fails_for_wrong_typed_keyword (e : Env) (x : PyObj) :
    (isStr x = false → isBytes x = false → isNoneObj x = false →
      dynBuild e { scheme := some x } = .error .attributeError) ∧
    (truthy x = true → isStr x = false → isBytes x = false →
      dynBuild e { authority := some x } = .error .attributeError) ∧
    (truthy x = true → isStr x = false → hostObjErr x = .attributeError →
      dynBuild e { host := some x } = .error .attributeError) ∧
    (∀ b, dynBuild e { scheme := some (.bytes b) } = .garbage 0) ∧
    (truthy x = false → isStr x = false → isNoneObj x = false →
      dynBuild e { path := some x } = .garbage 0 ∧ dynBuild e { queryString := some x } = .garbage 0 ∧
      dynBuild e { fragment := some x } = .garbage 0) ∧
    (isStr x = false → isNoneObj x = false →
      let out : PathOut := if hashable x then .garbage 0 else .error .typeError
      dynBuild e { scheme := some x, encoded := some (.bool true) } = out ∧
      dynBuild e { path := some x, encoded := some (.bool true) } = out ∧
      dynBuild e { queryString := some x, encoded := some (.bool true) } = out ∧
      dynBuild e { fragment := some x, encoded := some (.bool true) } = out) :=
  ⟨(C19_dynBuild_attributeError_leaks e x).1, (C19_dynBuild_attributeError_leaks e x).2.1,
   (C19_dynBuild_attributeError_leaks e x).2.2, (C19_dynBuild_garbage_leaks e x).1, (C19_dynBuild_garbage_leaks e x).2,
   fun h1 h3 => C19_dynBuild_encoded_leaks e x h1 h3⟩

/-- MODEL-LEVEL, concrete calls (all in the probe table), for every environment: AttributeError for
    `URL.build(scheme=1)`, `(authority=1)`, `(host=b"x")`, `(host=("a",))`; a URL with a non-str part for
    `(scheme=b"x")`, `(path=0)`, `(query_string=[])`, `(fragment=())` and, with `encoded=True`, for `(scheme=1)`,
    `(authority=1)`, `(host=1)`, `(path=object())`; a netloc with `format(obj)` inside for `(host="h", user=1,
    encoded=True)` (= URL("//1@h")), `(host="h", password=0, encoded=True)`, `(host=1, port=81, encoded=True)`; and wrong
    types that are SILENTLY ignored: `URL.build(user=1) == URL("")`, `URL.build(host=0) == URL("")`,
    `URL.build(host="h", user=0) == URL("//h")`.  Cites C19_dynBuild_leak_instances (C19DynBuild.lean). -/
theorem C19_headline_dyn_build_leak_instances (e : Env) :
    dynBuild e { scheme := some (.int 1) } = .error .attributeError ∧
    dynBuild e { authority := some (.int 1) } = .error .attributeError ∧
    dynBuild e { host := some (.bytes [120]) } = .error .attributeError ∧
    dynBuild e { host := some (.tuple [.str [97]]) } = .error .attributeError ∧
    dynBuild e { scheme := some (.bytes [120]) } = .garbage 0 ∧
    dynBuild e { path := some (.int 0) } = .garbage 0 ∧
    dynBuild e { queryString := some (.list []) } = .garbage 0 ∧
    dynBuild e { fragment := some (.tuple []) } = .garbage 0 ∧
    dynBuild e { scheme := some (.int 1), encoded := some (.bool true) } = .garbage 0 ∧
    dynBuild e { authority := some (.int 1), encoded := some (.bool true) } = .garbage 0 ∧
    dynBuild e { host := some (.int 1), encoded := some (.bool true) } = .garbage 0 ∧
    dynBuild e { path := some (.other 0), encoded := some (.bool true) } = .garbage 0 ∧
    dynBuild e { host := some (.str [104]), user := some (.int 1), encoded := some (.bool true) } = .garbage 1 ∧
    dynBuild e { host := some (.str [104]), password := some (.int 0), encoded := some (.bool true) } = .garbage 1 ∧
    dynBuild e { host := some (.int 1), port := some (.int 81), encoded := some (.bool true) } = .garbage 1 ∧
    dynBuild e { user := some (.int 1) } = .ok (fromParts [] [] [] [] []) ∧
    dynBuild e { host := some (.int 0) } = .ok (fromParts [] [] [] [] []) ∧
    dynBuild e { host := some (.str [104]), user := some (.int 0) } = .ok (fromParts [] [104] [] [] []) :=
  C19_dynBuild_leak_instances e

/-! ## Sentence 1 — "ValueError (malformed value …) or TypeError (wrong type)" — the argument checks of `build` -/

/-- MODEL-LEVEL.  Which check stops `URL.build`, on arbitrary objects — statements 1–5 of `build` in source order, each
    with the negation of the earlier ones — and that a stopped call raises the exception of that check whatever the
    other arguments are:
    1. `authority and (user or password or host or port is not None)` → ValueError;  2. `port` neither None nor an int
    (a bool is not) → TypeError, an int outside 0..65535 → ValueError;  3. `port is not None and not host` → ValueError
    (1. and 3. since library fix 7970b83: a port of 0 IS a given port; before, both tested the truthiness of `port`);
    4. `query and
    query_string` → ValueError;  5. a None among scheme / authority / host / path / query_string / fragment → TypeError.
    Cites C19_dynBuild_stop, C19_dynBuild_checks (C19DynBuild.lean). -/
theorem C19_headline_dyn_build_argument_checks (e : Env) (o : BuildObjs) :
    (∀ s, preStop o = some s → dynBuildObjs e o = .error s.err) ∧
    (preStop o = some .mixAuthority ↔
      truthy o.authority = true ∧
        (truthy o.user = true ∨ truthy o.password = true ∨ truthy o.host = true ∨ isNoneObj o.port = false)) ∧
    (preStop o = some .portType ↔
      mixAuthority o = false ∧ isNoneObj o.port = false ∧ (portInt o.port).isNone = true) ∧
    (preStop o = some .portRange ↔ mixAuthority o = false ∧ ∃ i, o.port = .int i ∧ ¬(0 ≤ i ∧ i ≤ 65535)) ∧
    (preStop o = some .portNoHost ↔
      (∃ i, o.port = .int i ∧ 0 ≤ i ∧ i ≤ 65535) ∧ truthy o.host = false ∧ truthy o.authority = false) ∧
    (preStop o = some .twoQueries ↔
      truthy o.query = true ∧ truthy o.queryString = true ∧
        mixAuthority o = false ∧ portStop o.port = none ∧ portNoHost o = false) ∧
    (preStop o = some .noneArg ↔
      noneArg o = true ∧ mixAuthority o = false ∧ portStop o.port = none ∧ portNoHost o = false ∧
        twoQueries o = false) ∧
    (preStop o = none ↔
      mixAuthority o = false ∧ portStop o.port = none ∧ portNoHost o = false ∧ twoQueries o = false ∧
        noneArg o = false) :=
  ⟨fun s h => C19_dynBuild_stop e o s h, C19_dynBuild_checks o⟩

/-- MODEL-LEVEL.  The three argument CONFLICTS as one iff (only truthiness matters — for `port`, since library fix 7970b83,
    only whether it is None: `isNoneObj o.port = false`, `0 ≤ i`), a conflict is always a ValueError;
    conversely every ValueError of `URL.build` is a conflict, the port range check, or a value-level ValueError of
    `get_str_query` / of the typed `build` on (a prefix of) the coerced arguments.  `build` has NO "scheme requires a
    host" check.  Cites C19_dynBuild_conflict_iff, C19_dynBuild_valueError_sources (C19DynBuild.lean). -/
theorem C19_headline_dyn_build_conflicts (e : Env) (o : BuildObjs) :
    (o.conflict ↔
      (truthy o.authority = true ∧
        (truthy o.user = true ∨ truthy o.password = true ∨ truthy o.host = true ∨ isNoneObj o.port = false)) ∨
      ((∃ i, o.port = .int i ∧ 0 ≤ i ∧ i ≤ 65535) ∧ truthy o.host = false ∧ truthy o.authority = false) ∨
      (truthy o.query = true ∧ truthy o.queryString = true ∧
        mixAuthority o = false ∧ portStop o.port = none ∧ portNoHost o = false)) ∧
    (o.conflict → dynBuildObjs e o = .error .valueError) ∧
    (dynBuildObjs e o = .error .valueError →
      o.conflict ∨ preStop o = some .portRange ∨
        (preStop o = none ∧
          (getStrQuery e.b (dynQuery o.query) = .error .valueError ∨ ∃ a, build e a = .error .valueError))) :=
  ⟨(C19_dynBuild_conflict_iff e o).1, (C19_dynBuild_conflict_iff e o).2, C19_dynBuild_valueError_sources e o⟩

/-- MODEL-LEVEL, the ORDER of the checks on concrete calls: the TypeError of a None argument comes after the conflict
    checks and the port check.  Cites C19_dynBuild_none_order (C19DynBuild.lean). -/
theorem C19_headline_dyn_build_check_order_instances (e : Env) :
    dynBuild e { scheme := some .none } = .error .typeError ∧
    dynBuild e { scheme := some .none, authority := some (.str [97]), host := some (.str [104]) } = .error .valueError ∧
    dynBuild e { fragment := some .none, port := some (.int (-5)) } = .error .valueError ∧
    dynBuild e { query := some (.str [97]), queryString := some .none } = .error .typeError ∧
    dynBuild e { query := some (.str [97]), queryString := some (.str [98]), scheme := some .none } =
      .error .valueError :=
  C19_dynBuild_none_order e

/-! ## Sentence 1 — `without_query_params(*names)` and the bool flags, on arbitrary objects -/

/-- MODEL-LEVEL.  `u.without_query_params(*names)` on ARBITRARY name objects: with str (subclass) names it is the typed
    function; the ONLY failure is TypeError, raised iff some name is unhashable (`set(names)`), whatever the URL and
    the other names are; hashable non-str names (None, ints, bytes, tuples, URLs, objects) are silently ignored.
    Cites C19_dynWithoutQueryParams (C19DynBuild.lean). -/
theorem C19_headline_dyn_without_query_params (e : Env) (u : Url) (names : List PyObj) :
    (∀ strs, names.map strLike = strs.map some →
      dynWithoutQueryParams e u names = withoutQueryParams e u strs) ∧
    (∀ err, dynWithoutQueryParams e u names = .error err ↔ err = .typeError ∧ ∃ n ∈ names, hashable n = false) ∧
    (names.all hashable = true →
      dynWithoutQueryParams e u names = withoutQueryParams e u (names.filterMap strLike) ∧
      dynWithoutQueryParams e u names = dynWithoutQueryParams e u (names.filter isStr)) :=
  C19_dynWithoutQueryParams e u names

/-- MODEL-LEVEL.  `encoded=`, `keep_query=`, `keep_fragment=` given as ARBITRARY objects are only tested by the code:
    they act as `bool(o)` — the entry point is the one of Dyn.lean at `truthy o` — so no exception can come from a
    flag; with_name / with_suffix with arbitrary flag objects still raise only ValueError / TypeError (or an oracle
    request), TypeError exactly for a non-str name / suffix.  (For with_path / joinpath the statements about a
    non-str FIRST argument are those of C19HeadlineMore3.lean, unchanged by the flags.)
    Cites C19_dyn_flags (C19DynBuild.lean). -/
theorem C19_headline_dyn_flags (e : Env) (u : Url) :
    (∀ p enc kq kf, dynWithPathFlags e u p enc kq kf = dynWithPath e u p (truthy enc) (truthy kq) (truthy kf)) ∧
    (∀ n kq kf, dynWithNameFlags e u n kq kf = dynWithName e u n (truthy kq) (truthy kf)) ∧
    (∀ n kq kf, dynWithSuffixFlags e u n kq kf = dynWithSuffix e u n (truthy kq) (truthy kf)) ∧
    (∀ xs enc, dynJoinpathFlag e u xs enc = dynJoinpath e u xs (truthy enc)) ∧
    (∀ n kq kf err, dynWithNameFlags e u n kq kf = .error err → Allowed err) ∧
    (∀ n kq kf err, dynWithSuffixFlags e u n kq kf = .error err → Allowed err) ∧
    (∀ n kq kf, dynWithNameFlags e u n kq kf = .error .typeError ↔ strLike n = none) ∧
    (∀ n kq kf, dynWithSuffixFlags e u n kq kf = .error .typeError ↔ strLike n = none) :=
  have h := C19_dyn_flags e u
  ⟨h.1, h.2.1, h.2.2.1, h.2.2.2.1, h.2.2.2.2.2.2.2.2.1, h.2.2.2.2.2.2.2.2.2.1, h.2.2.2.2.2.2.2.2.2.2.1,
   h.2.2.2.2.2.2.2.2.2.2.2⟩

end Yarl
