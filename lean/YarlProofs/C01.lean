/-
  C01.lean — property C01: canonical output is well-formed ASCII in every component.
-/
import YarlModel
import YarlProofs.Lemmas.WfLemmas
import YarlProofs.Lemmas.TailLang
import YarlProofs.Lemmas.JoinShape
import YarlProofs.Lemmas.Basics
namespace Yarl

open OutLangLemmas QsLemmas WfLemmas

/-! ### quoter level -/

/-- every generated quoter, on both backends, for every Python string, produces a string of its
    output language -/
theorem C01_quote_outLang (b : Backend) (a : QArgs) (ha : a ∈ Gen.allQuoters) (s : Str) (hs : PyStr s) :
    OutLang (a.tab b) (a.run b s) := by
  rw [run_eq_cOut a ha b s hs]
  exact cOut_outLang _ (gen_tab_wf a ha b) _

theorem C01_quote_ascii (b : Backend) (a : QArgs) (ha : a ∈ Gen.allQuoters) (s : Str) (hs : PyStr s) :
    ∀ c ∈ a.run b s, c < 128 :=
  outLang_ascii _ (gen_tab_wf a ha b) (C01_quote_outLang b a ha s hs)

theorem C01_quote_wellEscaped (b : Backend) (a : QArgs) (ha : a ∈ Gen.allQuoters) (s : Str) (hs : PyStr s) :
    WellEscaped (a.run b s) :=
  outLang_wellEscaped _ (C01_quote_outLang b a ha s hs)

namespace WfLemmas

/-- inclusion of the literal sets of two generated configurations (checked below 128) -/
def SafeSub (a a' : QArgs) : Prop :=
  ∀ b : Backend, (∀ c, c < 128 → (a.tab b).safe c = true → (a'.tab b).safe c = true) ∧
    ((a.tab b).qs = true → (a'.tab b).qs = true)

/-- the literal set of a configuration is determined by `safe`, `prot` and `qs` (not by `requote`), and grows
    with `prot` -/
theorem safeSub_of_prot {a a' : QArgs} (hs : a.safe = a'.safe) (hq : a.qs = a'.qs)
    (hp : ∀ c ∈ a.prot, c ∈ a'.prot) : SafeSub a a' := by
  have hp' : ∀ c, mem c a.prot = true → mem c a'.prot = true :=
    fun c h => mem_iff.mpr (hp c (mem_iff.mp h))
  intro b
  cases b
  · refine ⟨fun c _ h => ?_, fun h => hq.symm.trans h⟩
    have h : mem c (GenTabs.pySafeStr a) = true := h
    show mem c (GenTabs.pySafeStr a') = true
    unfold GenTabs.pySafeStr at h ⊢
    rw [GenTabs.mem_append, Bool.or_eq_true] at h ⊢
    rw [← hs, ← hq]
    exact h.imp id (hp' c)
  · refine ⟨fun c _ h => ?_, fun h => hq.symm.trans h⟩
    have h : (decide (c < 128) && GenTabs.cSafeFn a c) = true := h
    show (decide (c < 128) && GenTabs.cSafeFn a' c) = true
    unfold GenTabs.cSafeFn at h ⊢
    rw [Bool.and_eq_true, Bool.or_eq_true] at h ⊢
    rw [← hs, ← hq]
    exact ⟨h.1, h.2.imp id (hp' c)⟩

theorem sub_path : SafeSub Gen.PATH_QUOTER Gen.PATH_REQUOTER := safeSub_of_prot rfl rfl (fun _ h => h)
theorem sub_fragment : SafeSub Gen.FRAGMENT_QUOTER Gen.FRAGMENT_REQUOTER := safeSub_of_prot rfl rfl (fun _ h => h)
theorem sub_query : SafeSub Gen.QUERY_QUOTER Gen.QUERY_REQUOTER := safeSub_of_prot rfl rfl (fun _ h => h)
theorem sub_query_part : SafeSub Gen.QUERY_PART_QUOTER Gen.QUERY_REQUOTER := safeSub_of_prot rfl rfl (by decide)

/-- a property of the literal characters of a configuration only has to be checked on the two texts the tables are
    made from -/
theorem safe_forall (P : Nat → Prop) (a : QArgs)
    (h : (∀ c ∈ GenTabs.pySafeStr a, P c) ∧
      (∀ c ∈ Gen.allowedC ++ (if a.qs then [] else Gen.qsC) ++ a.safe ++ a.prot, P c))
    (b : Backend) {c : Nat} (hc : (a.tab b).safe c = true) : P c := by
  cases b
  · exact h.1 c (mem_iff.mp hc)
  · have hc : (decide (c < 128) && GenTabs.cSafeFn a c) = true := hc
    refine h.2 c ?_
    unfold GenTabs.cSafeFn at hc
    simp only [Bool.and_eq_true, Bool.or_eq_true, mem_iff, Bool.not_eq_true'] at hc
    simp only [List.mem_append]
    rcases hc.2 with ((h1 | ⟨hq, h2⟩) | h3) | h4
    · exact .inl (.inl (.inl h1))
    · rw [hq]; exact .inl (.inl (.inr h2))
    · exact .inl (.inr h3)
    · exact .inr h4

end WfLemmas

/-- the literal characters of each generated quoter are literal characters of its RFC 3986
    component (by computation on the generated tables) -/
theorem C01_component_sets_rfc : ∀ b : Backend, ∀ c : Nat,
    (((Gen.QUOTER.tab b).safe c = true ∨ (Gen.REQUOTER.tab b).safe c = true) → Rfc.userinfoLit c = true ∧ c ≠ 58) ∧
    (((Gen.PATH_QUOTER.tab b).safe c = true ∨ (Gen.PATH_REQUOTER.tab b).safe c = true) → Rfc.pathLit c = true) ∧
    (((Gen.QUERY_QUOTER.tab b).safe c = true ∨ (Gen.QUERY_REQUOTER.tab b).safe c = true ∨
      (Gen.QUERY_PART_QUOTER.tab b).safe c = true ∨
      (Gen.FRAGMENT_QUOTER.tab b).safe c = true ∨ (Gen.FRAGMENT_REQUOTER.tab b).safe c = true) →
        Rfc.queryLit c = true) := by
  intro b c
  have hU := safe_forall (fun c => Rfc.userinfoLit c = true ∧ c ≠ 58)
  have hP := safe_forall (fun c => Rfc.pathLit c = true)
  have hQ := safe_forall (fun c => Rfc.queryLit c = true)
  refine ⟨?_, ?_, ?_⟩
  · rintro (h | h)
    · exact hU Gen.QUOTER (by decide +kernel) b h
    · exact hU Gen.REQUOTER (by decide +kernel) b h
  · rintro (h | h)
    · exact hP Gen.PATH_QUOTER (by decide +kernel) b h
    · exact hP Gen.PATH_REQUOTER (by decide +kernel) b h
  · rintro (h | h | h | h | h)
    · exact hQ Gen.QUERY_QUOTER (by decide +kernel) b h
    · exact hQ Gen.QUERY_REQUOTER (by decide +kernel) b h
    · exact hQ Gen.QUERY_PART_QUOTER (by decide +kernel) b h
    · exact hQ Gen.FRAGMENT_QUOTER (by decide +kernel) b h
    · exact hQ Gen.FRAGMENT_REQUOTER (by decide +kernel) b h

namespace WfLemmas

theorem upperHex_unreserved {c : Nat} (h : isUpperHexDigit c = true) : Rfc.unreserved c = true := by
  unfold isUpperHexDigit at h
  simp only [Bool.or_eq_true, Bool.and_eq_true, decide_eq_true_eq] at h
  unfold Rfc.unreserved Rfc.isAlpha Rfc.isDigit
  simp only [Bool.or_eq_true, Bool.and_eq_true, decide_eq_true_eq]
  omega

theorem upperHex_userinfoLit {c : Nat} (h : isUpperHexDigit c = true) : Rfc.userinfoLit c = true := by
  unfold Rfc.userinfoLit; rw [upperHex_unreserved h]; rfl

theorem upperHex_pathLit {c : Nat} (h : isUpperHexDigit c = true) : Rfc.pathLit c = true := by
  unfold Rfc.pathLit Rfc.pcharLit; rw [upperHex_unreserved h]; rfl

theorem upperHex_queryLit {c : Nat} (h : isUpperHexDigit c = true) : Rfc.queryLit c = true := by
  unfold Rfc.queryLit Rfc.pcharLit; rw [upperHex_unreserved h]; rfl

/-- the characters of a text of the output language of a table: literals of the table, '%', the hex
    digits of an escape, and '+' in a query-string table -/
theorem outLang_chars {t : QTab} {L : Nat → Prop}
    (hsafe : ∀ c, t.safe c = true → L c) (hhex : ∀ c, isUpperHexDigit c = true → L c)
    (hplus : t.qs = true → L 43) {s : Str} (h : OutLang t s) : ∀ c ∈ s, L c ∨ c = 37 := by
  intro c hc
  rcases outLang_allowed _ h c hc with h | h | h | h
  · exact Or.inl (hsafe c h)
  · exact Or.inr h
  · exact Or.inl (hhex c h)
  · rw [h.2]; exact Or.inl (hplus h.1)

theorem upperHex_ne58 {c : Nat} (h : isUpperHexDigit c = true) : c ≠ 58 := by
  rintro rfl; exact absurd h (by decide)

/-- the nine generated tables, each with the RFC 3986 literal class of its component (user and password:
    additionally never a literal ':') -/
inductive CompTab : QArgs → (Nat → Prop) → Prop
  | quoter : CompTab Gen.QUOTER (fun c => Rfc.userinfoLit c = true ∧ c ≠ 58)
  | requoter : CompTab Gen.REQUOTER (fun c => Rfc.userinfoLit c = true ∧ c ≠ 58)
  | pathQuoter : CompTab Gen.PATH_QUOTER (fun c => Rfc.pathLit c = true)
  | pathRequoter : CompTab Gen.PATH_REQUOTER (fun c => Rfc.pathLit c = true)
  | queryQuoter : CompTab Gen.QUERY_QUOTER (fun c => Rfc.queryLit c = true)
  | queryRequoter : CompTab Gen.QUERY_REQUOTER (fun c => Rfc.queryLit c = true)
  | queryPart : CompTab Gen.QUERY_PART_QUOTER (fun c => Rfc.queryLit c = true)
  | fragmentQuoter : CompTab Gen.FRAGMENT_QUOTER (fun c => Rfc.queryLit c = true)
  | fragmentRequoter : CompTab Gen.FRAGMENT_REQUOTER (fun c => Rfc.queryLit c = true)

/-- every character of a text of the output language of a table is RFC-legal in the table's component: a literal of
    the component, '%', or a hex digit of an escape (hex digits are themselves literals) -/
theorem outLang_chars_rfc {a : QArgs} {L : Nat → Prop} (hc : CompTab a L) (b : Backend) {s : Str}
    (h : OutLang (a.tab b) s) : ∀ c ∈ s, L c ∨ c = 37 := by
  have k := C01_component_sets_rfc b
  have hexU : ∀ c, isUpperHexDigit c = true → Rfc.userinfoLit c = true ∧ c ≠ 58 :=
    fun c h => ⟨upperHex_userinfoLit h, upperHex_ne58 h⟩
  have noqs := GenTabs.userinfo_not_qs b
  cases hc with
  | quoter => exact outLang_chars (fun c h => (k c).1 (.inl h)) hexU (fun h => absurd h noqs.1) h
  | requoter => exact outLang_chars (fun c h => (k c).1 (.inr h)) hexU (fun h => absurd h noqs.2) h
  | pathQuoter =>
    exact outLang_chars (fun c h => (k c).2.1 (.inl h)) (fun _ => upperHex_pathLit) (fun _ => by decide) h
  | pathRequoter =>
    exact outLang_chars (fun c h => (k c).2.1 (.inr h)) (fun _ => upperHex_pathLit) (fun _ => by decide) h
  | queryQuoter =>
    exact outLang_chars (fun c h => (k c).2.2 (.inl h)) (fun _ => upperHex_queryLit) (fun _ => by decide) h
  | queryRequoter =>
    exact outLang_chars (fun c h => (k c).2.2 (.inr (.inl h))) (fun _ => upperHex_queryLit)
      (fun _ => by decide) h
  | queryPart =>
    exact outLang_chars (fun c h => (k c).2.2 (.inr (.inr (.inl h)))) (fun _ => upperHex_queryLit)
      (fun _ => by decide) h
  | fragmentQuoter =>
    exact outLang_chars (fun c h => (k c).2.2 (.inr (.inr (.inr (.inl h)))))
      (fun _ => upperHex_queryLit) (fun _ => by decide) h
  | fragmentRequoter =>
    exact outLang_chars (fun c h => (k c).2.2 (.inr (.inr (.inr (.inr h)))))
      (fun _ => upperHex_queryLit) (fun _ => by decide) h

end WfLemmas

theorem C01_quote_chars_rfc_path (b : Backend) (s : Str) (hs : PyStr s) :
    ∀ c ∈ Gen.PATH_REQUOTER.run b s, Rfc.pathLit c = true ∨ c = 37 :=
  outLang_chars_rfc .pathRequoter b (C01_quote_outLang b _ mem_PATH_REQUOTER s hs)

theorem C01_quote_chars_rfc_path_quoter (b : Backend) (s : Str) (hs : PyStr s) :
    ∀ c ∈ Gen.PATH_QUOTER.run b s, Rfc.pathLit c = true ∨ c = 37 :=
  outLang_chars_rfc .pathQuoter b (C01_quote_outLang b _ mem_PATH_QUOTER s hs)

theorem C01_quote_chars_rfc_userinfo (b : Backend) (s : Str) (hs : PyStr s) :
    ∀ c ∈ Gen.REQUOTER.run b s, (Rfc.userinfoLit c = true ∧ c ≠ 58) ∨ c = 37 :=
  outLang_chars_rfc .requoter b (C01_quote_outLang b _ mem_REQUOTER s hs)

theorem C01_quote_chars_rfc_userinfo_quoter (b : Backend) (s : Str) (hs : PyStr s) :
    ∀ c ∈ Gen.QUOTER.run b s, (Rfc.userinfoLit c = true ∧ c ≠ 58) ∨ c = 37 :=
  outLang_chars_rfc .quoter b (C01_quote_outLang b _ mem_QUOTER s hs)

theorem C01_quote_chars_rfc_query (b : Backend) (s : Str) (hs : PyStr s) :
    ∀ c ∈ Gen.QUERY_REQUOTER.run b s, Rfc.queryLit c = true ∨ c = 37 :=
  outLang_chars_rfc .queryRequoter b (C01_quote_outLang b _ mem_QUERY_REQUOTER s hs)

theorem C01_quote_chars_rfc_query_quoter (b : Backend) (s : Str) (hs : PyStr s) :
    ∀ c ∈ Gen.QUERY_QUOTER.run b s, Rfc.queryLit c = true ∨ c = 37 :=
  outLang_chars_rfc .queryQuoter b (C01_quote_outLang b _ mem_QUERY_QUOTER s hs)

theorem C01_quote_chars_rfc_query_part (b : Backend) (s : Str) (hs : PyStr s) :
    ∀ c ∈ Gen.QUERY_PART_QUOTER.run b s, Rfc.queryLit c = true ∨ c = 37 :=
  outLang_chars_rfc .queryPart b (C01_quote_outLang b _ mem_QUERY_PART_QUOTER s hs)

theorem C01_quote_chars_rfc_fragment (b : Backend) (s : Str) (hs : PyStr s) :
    ∀ c ∈ Gen.FRAGMENT_REQUOTER.run b s, Rfc.queryLit c = true ∨ c = 37 :=
  outLang_chars_rfc .fragmentRequoter b (C01_quote_outLang b _ mem_FRAGMENT_REQUOTER s hs)

theorem C01_quote_chars_rfc_fragment_quoter (b : Backend) (s : Str) (hs : PyStr s) :
    ∀ c ∈ Gen.FRAGMENT_QUOTER.run b s, Rfc.queryLit c = true ∨ c = 37 :=
  outLang_chars_rfc .fragmentQuoter b (C01_quote_outLang b _ mem_FRAGMENT_QUOTER s hs)

/-! ### URL level -/

/-- the invariant: each stored component is in the output language of its REQUOTER table -/
structure WFUrl (b : Backend) (u : Url) : Prop where
  path : OutLang (Gen.PATH_REQUOTER.tab b) u.path
  query : OutLang (Gen.QUERY_REQUOTER.tab b) u.query
  fragment : OutLang (Gen.FRAGMENT_REQUOTER.tab b) u.fragment

namespace WfLemmas

theorem outLang_sub {a a' : QArgs} (ha : a ∈ Gen.allQuoters) (h : SafeSub a a') (b : Backend) {s : Str} :
    OutLang (a.tab b) s → OutLang (a'.tab b) s :=
  outLang_mono (safe_sub_of_lt (gen_tab_wf a ha b) (h b).1) (h b).2

theorem q_path_requoter (e : Env) (s : Str) (hs : PyStr s) :
    OutLang (Gen.PATH_REQUOTER.tab e.b) (q e Gen.PATH_REQUOTER s) :=
  C01_quote_outLang e.b _ mem_PATH_REQUOTER s hs

theorem q_path_quoter (e : Env) (s : Str) (hs : PyStr s) :
    OutLang (Gen.PATH_REQUOTER.tab e.b) (q e Gen.PATH_QUOTER s) :=
  outLang_sub mem_PATH_QUOTER sub_path e.b (C01_quote_outLang e.b _ mem_PATH_QUOTER s hs)

theorem q_query_requoter (e : Env) (s : Str) (hs : PyStr s) :
    OutLang (Gen.QUERY_REQUOTER.tab e.b) (q e Gen.QUERY_REQUOTER s) :=
  C01_quote_outLang e.b _ mem_QUERY_REQUOTER s hs

theorem q_query_quoter (b : Backend) (s : Str) (hs : PyStr s) :
    OutLang (Gen.QUERY_REQUOTER.tab b) (Gen.QUERY_QUOTER.run b s) :=
  outLang_sub mem_QUERY_QUOTER sub_query b (C01_quote_outLang b _ mem_QUERY_QUOTER s hs)

theorem q_query_part (b : Backend) (s : Str) (hs : PyStr s) :
    OutLang (Gen.QUERY_REQUOTER.tab b) (Gen.QUERY_PART_QUOTER.run b s) :=
  outLang_sub mem_QUERY_PART_QUOTER sub_query_part b (C01_quote_outLang b _ mem_QUERY_PART_QUOTER s hs)

theorem q_fragment_requoter (e : Env) (s : Str) (hs : PyStr s) :
    OutLang (Gen.FRAGMENT_REQUOTER.tab e.b) (q e Gen.FRAGMENT_REQUOTER s) :=
  C01_quote_outLang e.b _ mem_FRAGMENT_REQUOTER s hs

theorem q_fragment_quoter (e : Env) (s : Str) (hs : PyStr s) :
    OutLang (Gen.FRAGMENT_REQUOTER.tab e.b) (q e Gen.FRAGMENT_QUOTER s) :=
  outLang_sub mem_FRAGMENT_QUOTER sub_fragment e.b (C01_quote_outLang e.b _ mem_FRAGMENT_QUOTER s hs)

/-- a component that is quoted unless it is empty -/
theorem outLang_unless_empty {t : QTab} {s r : Str} (h : OutLang t r) :
    OutLang t (if s.isEmpty = true then s else r) := by
  split
  · rename_i hemp; rw [isEmpty_eq_nil hemp]; exact OutLang.nil
  · exact h

theorem outLang_pyStr {a : QArgs} (ha : a ∈ Gen.allQuoters) (b : Backend) {s : Str}
    (h : OutLang (a.tab b) s) : PyStr s :=
  (pyStr_of_ascii _ (outLang_ascii _ (gen_tab_wf a ha b) h)).1

end WfLemmas

/-- the output languages of the three REQUOTER tables: what `WFUrl` is made of -/
theorem wfLang (e : Env) : TailLang e (OutLang (Gen.PATH_REQUOTER.tab e.b)) (OutLang (Gen.QUERY_REQUOTER.tab e.b))
    (OutLang (Gen.FRAGMENT_REQUOTER.tab e.b)) where
  path := outLang_segLang fun d hd => by
    rcases hd with rfl | rfl
    · exact ⟨GenTabs.path_safe47 e.b, by decide, by decide⟩
    · exact ⟨GenTabs.path_safe46 e.b, by decide, by decide⟩
  ptail := outLang_tail (GenTabs.path_hex_safe e.b)
  query := ⟨.nil, outLang_append _⟩
  q38 := outLang_singleton (GenTabs.query_safe38 e.b) (by decide)
  q61 := outLang_singleton (GenTabs.query_safe61 e.b) (by decide)
  fnil := .nil
  qpy := outLang_pyStr mem_QUERY_REQUOTER e.b
  pquote := q_path_quoter e
  qquote := q_query_quoter e.b
  qpart := q_query_part e.b
  fquote := q_fragment_quoter e

theorem WFUrl.tail {b : Backend} {u : Url} (h : WFUrl b u) : Tail (OutLang (Gen.PATH_REQUOTER.tab b))
    (OutLang (Gen.QUERY_REQUOTER.tab b)) (OutLang (Gen.FRAGMENT_REQUOTER.tab b)) u :=
  ⟨h.path, h.query, h.fragment⟩

theorem Tail.wf {b : Backend} {u : Url} (h : Tail (OutLang (Gen.PATH_REQUOTER.tab b))
    (OutLang (Gen.QUERY_REQUOTER.tab b)) (OutLang (Gen.FRAGMENT_REQUOTER.tab b)) u) : WFUrl b u :=
  ⟨h.path, h.query, h.fragment⟩

/-- the auto-encoding constructor produces a well-formed URL -/
theorem C01_encodeUrl_wf (e : Env) (s : Str) (hs : PyStr s) (u : Url) :
    encodeUrl e s = .ok u → WFUrl e.b u := by
  intro h
  obtain ⟨p, netloc, hp, hpath, hquery, hfrag, _⟩ := encodeUrl_shape e s u h
  obtain ⟨_, h2, h3, h4⟩ := splitUrl_pyStr e.o s hs p hp
  constructor
  · rw [hpath]
    refine outLang_unless_empty ?_
    split
    · exact (wfLang e).path.of_normalizePath sep47 (q_path_requoter e _ h2)
    · exact q_path_requoter e _ h2
  · rw [hquery]; exact outLang_unless_empty (q_query_requoter e _ h3)
  · rw [hfrag]; exact outLang_unless_empty (q_fragment_requoter e _ h4)

namespace WfLemmas

/-- `requoteOpt` answers with the empty text or with REQUOTER output -/
theorem requoteOpt_closed {P : Str → Prop} (e : Env) (x : Option Str) (hnil : P [])
    (hq : ∀ s, x = some s → P (q e Gen.REQUOTER s)) : ∀ y, requoteOpt e x = some y → P y := by
  intro y hy
  cases x with
  | none => cases hy
  | some s =>
    simp only [requoteOpt, Option.map_some, Option.some.injEq] at hy
    subst hy
    split
    · rename_i hemp; rw [isEmpty_eq_nil hemp]; exact hnil
    · exact hq s rfl

theorem requoteOpt_outLang (e : Env) (x : Option Str) (hx : ∀ s, x = some s → PyStr s) :
    ∀ y, requoteOpt e x = some y → OutLang (Gen.REQUOTER.tab e.b) y :=
  requoteOpt_closed e x OutLang.nil (fun s h => C01_quote_outLang e.b _ mem_REQUOTER s (hx s h))

end WfLemmas

/-- the user and password cached by the constructor are in the output language of REQUOTER -/
theorem C01_encodeUrl_userinfo_wf (e : Env) (s : Str) (hs : PyStr s) (u : Url) (p : NetPre) :
    encodeUrl e s = .ok u → u.pre = some p →
    (∀ x, p.rawUser = some x → OutLang (Gen.REQUOTER.tab e.b) x) ∧
    (∀ x, p.rawPassword = some x → OutLang (Gen.REQUOTER.tab e.b) x) := by
  intro h hpre
  obtain ⟨pp, netloc, hp, _, _, _, hpr⟩ := encodeUrl_shape e s u h
  obtain ⟨h1, _, _, _⟩ := splitUrl_pyStr e.o s hs pp hp
  obtain ⟨np, hnp, hu, hw⟩ := hpr p hpre
  obtain ⟨k1, k2⟩ := splitNetloc_pyStr e.o pp.netloc h1 np hnp
  rw [hu, hw]
  exact ⟨fun x hx => requoteOpt_outLang e _ k1 x (orNoneBind_some.mp hx).1, requoteOpt_outLang e _ k2⟩

/-- since commit 2fdb38c (`(REQUOTER(username) or None)`) the user cached by the constructor is never the
    empty string — no hypothesis on the input needed -/
theorem C01_encodeUrl_user_nonempty (e : Env) (s : Str) (u : Url) (p : NetPre) :
    encodeUrl e s = .ok u → u.pre = some p → p.rawUser ≠ some [] := by
  intro h hpre
  obtain ⟨pp, netloc, _, _, _, _, hpr⟩ := encodeUrl_shape e s u h
  obtain ⟨np, _, hu, _⟩ := hpr p hpre
  rw [hu]
  exact orNoneBind_ne_nil

/-! ### modifiers -/

theorem C01_withPath_wf (e : Env) (u : Url) (hu : WFUrl e.b u) (path : Str) (hp : PyStr path)
    (keepQuery keepFragment : Bool) : WFUrl e.b (withPath e u path false keepQuery keepFragment) :=
  ((wfLang e).tail_withPath hu.tail hp keepQuery keepFragment).wf

theorem C01_withFragment_wf (e : Env) (u : Url) (hu : WFUrl e.b u) (f : Option Str)
    (hf : ∀ s, f = some s → PyStr s) : WFUrl e.b (withFragment e u f) :=
  ((wfLang e).tail_withFragment hu.tail hf).wf

/-! #### query modifiers -/

theorem C01_withQuery_wf (e : Env) (u : Url) (hu : WFUrl e.b u) (a : QArg) (ha : QArgPy a) (v : Url) :
    withQuery e u a = .ok v → WFUrl e.b v :=
  fun h => ((wfLang e).tail_withQuery hu.tail ha h).wf

theorem C01_extendQuery_wf (e : Env) (u : Url) (hu : WFUrl e.b u) (a : QArg) (ha : QArgPy a) (v : Url) :
    extendQuery e u a = .ok v → WFUrl e.b v :=
  fun h => ((wfLang e).tail_extendQuery hu.tail ha h).wf

theorem C01_updateQuery_wf (e : Env) (u : Url) (hu : WFUrl e.b u) (a : QArg) (ha : QArgPy a) (v : Url) :
    updateQuery e u a = .ok v → WFUrl e.b v :=
  fun h => ((wfLang e).tail_updateQuery hu.tail ha h).wf

/-- (extra) `without_query_params` goes through `with_query` -/
theorem C01_withoutQueryParams_wf (e : Env) (u : Url) (hu : WFUrl e.b u) (names : List Str) (v : Url) :
    withoutQueryParams e u names = .ok v → WFUrl e.b v :=
  fun h => ((wfLang e).tail_withoutQueryParams hu.tail h).wf

/-! #### path modifiers -/

theorem C01_withName_wf (e : Env) (u : Url) (hu : WFUrl e.b u) (nm : Str) (hnm : PyStr nm)
    (keepQuery keepFragment : Bool) (v : Url) :
    withName e u nm keepQuery keepFragment = .ok v → WFUrl e.b v :=
  fun h => ((wfLang e).tail_withName hu.tail hnm h).wf

theorem C01_withSuffix_wf (e : Env) (u : Url) (hu : WFUrl e.b u) (sfx : Str) (hsfx : PyStr sfx)
    (keepQuery keepFragment : Bool) (v : Url) :
    withSuffix e u sfx keepQuery keepFragment = .ok v → WFUrl e.b v :=
  fun h => ((wfLang e).tail_withSuffix hu.tail hsfx h).wf

theorem C01_makeChild_wf (e : Env) (u : Url) (hu : WFUrl e.b u) (paths : List Str)
    (hp : ∀ p ∈ paths, PyStr p) (v : Url) :
    makeChild e u paths false = .ok v → WFUrl e.b v :=
  fun h => ((wfLang e).tail_makeChild hu.tail (enc := false) (fun p hm => q_path_quoter e p (hp p hm)) h).wf

theorem C01_parent_wf (b : Backend) (u : Url) (hu : WFUrl b u) : WFUrl b (parent u) :=
  ((wfLang ⟨b, Oracles.empty⟩).tail_parent hu.tail).wf

theorem C01_relative_wf (b : Backend) (u : Url) (hu : WFUrl b u) (v : Url) :
    relative u = .ok v → WFUrl b v := by
  intro h
  obtain ⟨_, rfl⟩ := ModShape.relative_ok h
  exact ⟨hu.path, hu.query, hu.fragment⟩

theorem C01_join_wf (e : Env) (base ref : Url) (hb : WFUrl e.b base) (hr : WFUrl e.b ref) :
    WFUrl e.b (join e base ref) :=
  ((wfLang e).tail_join hb.tail hr.tail).wf

/-! ### build -/

/-- `URL.build(..., encoded=False)` produces a well-formed URL (only the texts that end up in
    path, query and fragment matter) -/
theorem C01_build_wf (e : Env) (a : BuildArgs) (u : Url) (henc : a.encoded = false)
    (hpy : PyStr a.path ∧ PyStr a.queryString ∧ PyStr a.fragment ∧ QArgPy a.query) :
    build e a = .ok u → WFUrl e.b u :=
  fun h => ((wfLang e).tail_build henc hpy h).wf

/-! ### rendering -/

namespace WfLemmas
def Ascii (s : Str) : Prop := ∀ c ∈ s, c < 128
instance (s : Str) : Decidable (Ascii s) := by unfold Ascii; infer_instance
end WfLemmas

/-- ASCII: if the stored parts are ASCII the rendered string is -/
theorem C01_unsplit_ascii (scheme netloc path query fragment : Str)
    (h : (∀ c ∈ scheme, c < 128) ∧ (∀ c ∈ netloc, c < 128) ∧ (∀ c ∈ path, c < 128) ∧
      (∀ c ∈ query, c < 128) ∧ (∀ c ∈ fragment, c < 128)) :
    ∀ c ∈ unsplitResult scheme netloc path query fragment, c < 128 := by
  obtain ⟨h1, h2, h3, h4, h5⟩ := h
  exact unsplit_glue (glue_chars (· < 128)) (by decide) (by decide) (by decide) (by decide) h1 h2 h3 h4 h5

/-- what `WFUrl` means for the three stored components -/
theorem C01_wf_components (b : Backend) (u : Url) (hu : WFUrl b u) :
    ((∀ c ∈ u.path, c < 128) ∧ WellEscaped u.path ∧ (∀ c ∈ u.path, Rfc.pathLit c = true ∨ c = 37)) ∧
    ((∀ c ∈ u.query, c < 128) ∧ WellEscaped u.query ∧ (∀ c ∈ u.query, Rfc.queryLit c = true ∨ c = 37)) ∧
    ((∀ c ∈ u.fragment, c < 128) ∧ WellEscaped u.fragment ∧
      (∀ c ∈ u.fragment, Rfc.queryLit c = true ∨ c = 37)) := by
  have w1 := gen_tab_wf _ mem_PATH_REQUOTER b
  have w2 := gen_tab_wf _ mem_QUERY_REQUOTER b
  have w3 := gen_tab_wf _ mem_FRAGMENT_REQUOTER b
  exact ⟨⟨outLang_ascii _ w1 hu.path, outLang_wellEscaped _ hu.path, outLang_chars_rfc .pathRequoter b hu.path⟩,
    ⟨outLang_ascii _ w2 hu.query, outLang_wellEscaped _ hu.query, outLang_chars_rfc .queryRequoter b hu.query⟩,
    ⟨outLang_ascii _ w3 hu.fragment, outLang_wellEscaped _ hu.fragment,
      outLang_chars_rfc .fragmentRequoter b hu.fragment⟩⟩

/-! ### non-vacuity -/

namespace WfLemmas
/-- userinfo with an escape and a space, a path with a space, a dot segment, an encoded '/' in
    lower case, a query with a space, an encoded and a literal '+', a fragment with a space and
    non-ASCII / non-BMP characters -/
def sampleUrl : Str :=
  "http://u%7e:p w@example.com/a b/../c%2fd?x=1 2&y=%2b+#f g".toStr ++ [233, 0x1F600]

def sampleEnv (b : Backend) : Env := ⟨b, Oracles.empty⟩

theorem sampleUrl_py : PyStr sampleUrl := by simp only [sampleUrl]; str_lits; decide +kernel

theorem sampleUrl_ok (b : Backend) : (encodeUrl (sampleEnv b) sampleUrl).toBool = true := by
  simp only [sampleUrl]; str_lits
  cases b <;> decide +kernel

def sampleArg : QArg :=
  .mapping [("k é".toStr ++ [233], .many [.str "a&b=c".toStr, .int (-5), .float "1.5".toStr 0]),
            ("x".toStr, .one (.str [0x1F600, 43, 32]))]

theorem sampleArg_py : QArgPy sampleArg := by
  intro p hp
  simp only [List.mem_cons, List.not_mem_nil, or_false] at hp
  rcases hp with rfl | rfl
  · refine ⟨by decide, ?_⟩
    intro v hv
    simp only [List.mem_cons, List.not_mem_nil, or_false] at hv
    rcases hv with rfl | rfl | rfl
    · show PyStr _; decide
    · trivial
    · show PyStr _; decide
  · exact ⟨by decide, by show PyStr _; decide⟩
end WfLemmas

example : PyStr sampleUrl := sampleUrl_py

/-- the constructor accepts the sample on both backends and the result is well-formed -/
example (b : Backend) : ∃ u, encodeUrl (sampleEnv b) sampleUrl = .ok u ∧ WFUrl b u ∧
    (∀ c ∈ u.path ++ u.query ++ u.fragment, c < 128) := by
  cases h : encodeUrl (sampleEnv b) sampleUrl with
  | error err => have := sampleUrl_ok b; rw [h] at this; cases this
  | ok u =>
    have hw := C01_encodeUrl_wf (sampleEnv b) sampleUrl sampleUrl_py u h
    have hc := C01_wf_components b u hw
    refine ⟨u, rfl, hw, ?_⟩
    intro c hc'
    simp only [List.mem_append] at hc'
    rcases hc' with (h1 | h1) | h1
    · exact hc.1.1 c h1
    · exact hc.2.1.1 c h1
    · exact hc.2.2.1 c h1

/-- … and stays well-formed under a chain of modifiers with non-trivial arguments -/
example (b : Backend) (u v w : Url) (hu : encodeUrl (sampleEnv b) sampleUrl = .ok u)
    (hv : withQuery (sampleEnv b) (withPath (sampleEnv b) u "/p q/./%zz".toStr false false false) sampleArg = .ok v)
    (hw : makeChild (sampleEnv b) v ["a b".toStr, [233, 47, 46, 46]] false = .ok w) :
    WFUrl b (parent (withFragment (sampleEnv b) w (some [35, 32, 0x10FFFF]))) :=
  C01_parent_wf b _ (C01_withFragment_wf (sampleEnv b) w
    (C01_makeChild_wf (sampleEnv b) v
      (C01_withQuery_wf (sampleEnv b) _
        (C01_withPath_wf (sampleEnv b) u (C01_encodeUrl_wf (sampleEnv b) sampleUrl sampleUrl_py u hu) _
          (by decide +kernel) false false) sampleArg sampleArg_py v hv)
      _ (by decide) w hw) _ (by intro s hs; cases hs; decide))

/-- the hypotheses of that chain are satisfiable -/
example (b : Backend) :
    ((do
      let u ← encodeUrl (sampleEnv b) sampleUrl
      let v ← withQuery (sampleEnv b) (withPath (sampleEnv b) u "/p q/./%zz".toStr false false false) sampleArg
      makeChild (sampleEnv b) v ["a b".toStr, [233, 47, 46, 46]] false) : R Url).toBool = true := by
  simp only [sampleUrl, sampleArg]; str_lits
  cases b <;> decide +kernel

example (b : Backend) : OutLang (Gen.PATH_REQUOTER.tab b) (Gen.PATH_REQUOTER.run b [37, 50, 102, 32, 233, 37]) :=
  C01_quote_outLang b _ (by decide) _ (by decide)

end Yarl
