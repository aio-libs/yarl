/-
  C03Reach.lean — property C03 ("the canonical string is a fixed point of parsing") for every URL reachable
  through the auto-encoding API.  In the order of the file:

  * the invariant `CanonUrl` (components canonical for their REQUOTER; under an authority the path is rooted and
    free of dot segments) holds of every reachable URL (`ReachC`, `C03_reachable_canon`);
  * what `str` writes (`strNet`, `str_authW`, `strNet_eq_iff`) and the second pass on it as a record, namespace `R1`
    (`R1.Anat`: the text, its split, the authority block on it; `R1.Anat.fixed`), `ReachFix.reparse_ctor`;
  * constructor results with a plain host or an authority of known parts: `C03_reparse_basic_gen`, `C03_reparse_basic`,
    `C03_reparse_authority`;
  * a stored authority `authW` around a written host (`Stored`, on `HostW` of Lemmas/HostW.lean), the second pass
    under it (`Stored.pass`, `Stored.fixed`) and the fixed point for any invariant of the authority
    (`fixed_point_gen`); for `NetlocCanon`: `C03_fixed_point_eq`, `C03_fixed_point_of_canon`,
    `C03_reachable_fixed_point`, corollaries, the counterexamples that show each hypothesis necessary, worked examples;
  * `NetlocCanon` along operation sequences: `UOp.NetArgs`, `ReachFix.applyOp_net_inv` (one argument for every
    invariant of the stored authority), `C03_applyOp_netlocCanon`, `C03_op_sequence_fixed_point`.
-/
import YarlModel
import YarlProofs.Lemmas.ReachFix
import YarlProofs.Lemmas.BuildShape
import YarlProofs.Lemmas.HostW
namespace Yarl
open ReachFix FixLemmas

/-! ## the invariant over all operation sequences -/

/-- as `UOp.ArgsPy`, but the reference handed to `join` must itself satisfy the invariant (it is
    returned unchanged when its scheme differs; `UOp.ArgsPy` only asks `WFUrl`, which allows
    superfluous escapes such as "%41": `C03_joinRef_wf_not_enough`) -/
def UOp.ArgsCanon (b : Backend) : UOp → Prop
  | .joinRef ref => CanonUrl b ref
  | op => op.ArgsPy b

theorem UOp.ArgsCanon.toPy {b : Backend} {op : UOp} (h : op.ArgsCanon b) : op.ArgsPy b := by
  cases op <;> first | exact h | exact CanonUrl.wf h

/-- URLs obtainable through the auto-encoding API (`Reach` with the `join` side condition
    strengthened from `WFUrl` to `CanonUrl`) -/
inductive ReachC (e : Env) : Url → Prop
  | ctor (s : Str) (u : Url) : PyStr s → encodeUrl e s = .ok u → ReachC e u
  | build (a : BuildArgs) (u : Url) : a.encoded = false → BuildArgsPy a → build e a = .ok u → ReachC e u
  | op (u : Url) (op : UOp) (v : Url) : ReachC e u → op.ArgsCanon e.b → applyOp e u op = .ok v → ReachC e v
  | join (u r : Url) : ReachC e u → ReachC e r → ReachC e (join e u r)

theorem ReachC.toReach {e : Env} {u : Url} (h : ReachC e u) : Reach e u := by
  induction h with
  | ctor s u hs h => exact Reach.ctor s u hs h
  | build a u henc hpy h => exact Reach.build a u henc hpy h
  | op u op v _ ha h ih => exact Reach.op u op v ih ha.toPy h
  | join u r _ _ ihu ihr => exact Reach.join u r ihu ihr

theorem C03_encodeUrl_canon (e : Env) (s : Str) (hs : PyStr s) (u : Url) :
    encodeUrl e s = .ok u → CanonUrl e.b u := encodeUrl_canon e s hs u

theorem C03_build_canon (e : Env) (a : BuildArgs) (u : Url) (henc : a.encoded = false) (hpy : BuildArgsPy a) :
    build e a = .ok u → CanonUrl e.b u := build_canon e a u henc hpy

theorem C03_join_canon (e : Env) (base ref : Url) (hb : CanonUrl e.b base) (hr : CanonUrl e.b ref) :
    CanonUrl e.b (join e base ref) :=
  canonUrl_iff.mpr ⟨(canonLang e).tail_join (canonUrl_iff.mp hb).1 (canonUrl_iff.mp hr).1,
    R14.inv_join e base ref (canonUrl_iff.mp hb).2 (canonUrl_iff.mp hr).2⟩

theorem C03_applyOp_canon (e : Env) (u : Url) (hu : CanonUrl e.b u) (op : UOp) (ha : op.ArgsCanon e.b) (v : Url) :
    applyOp e u op = .ok v → CanonUrl e.b v := by
  intro h
  have href : ∀ ref, op = .joinRef ref → CanonUrl e.b ref := by
    intro ref hr
    subst hr
    exact ha
  exact canonUrl_iff.mpr
    ⟨applyOp_tail (canonLang e) (canonUrl_iff.mp hu).1 op ha.toPy (fun ref hr => (canonUrl_iff.mp (href ref hr)).1) h,
      R14.inv_applyOp e u (canonUrl_iff.mp hu).2 op ha.toPy (fun ref hr => (canonUrl_iff.mp (href ref hr)).2) v h⟩

theorem C03_reachable_canon (e : Env) (u : Url) : ReachC e u → CanonUrl e.b u := by
  intro h
  induction h with
  | ctor s u hs h => exact encodeUrl_canon e s hs u h
  | build a u henc hpy h => exact build_canon e a u henc hpy h
  | op u op v _ ha h ih => exact C03_applyOp_canon e u ih op ha v h
  | join u r _ _ ihu ihr => exact C03_join_canon e u r ihu ihr

/-- the strengthening of the `join` side condition is necessary: `Reach` lets `join` return a
    well-formed (`WFUrl`) reference with the superfluous escape "%41" unchanged -/
theorem C03_joinRef_wf_not_enough (b : Backend) :
    ∃ u, Reach ⟨b, Oracles.empty⟩ u ∧ ¬ CanonUrl b u := by
  have hbase : encodeUrl ⟨b, Oracles.empty⟩ "http://h/".toStr =
      .ok (urlOf "http".toStr "h".toStr [47] [] [] (preHost "h".toStr)) := by
    cases b <;> decide +kernel
  have hj : join ⟨b, Oracles.empty⟩ (urlOf "http".toStr "h".toStr [47] [] [] (preHost "h".toStr))
      (fromParts "x".toStr [] "%41".toStr [] []) = fromParts "x".toStr [] "%41".toStr [] [] := by
    cases b <;> decide +kernel
  refine ⟨fromParts "x".toStr [] "%41".toStr [] [], ?_, ?_⟩
  · have hwf : WFUrl b (fromParts "x".toStr [] "%41".toStr [] []) := by
      refine ⟨?_, OutLang.nil, OutLang.nil⟩
      exact OutLang.esc (t := Gen.PATH_REQUOTER.tab b) 65 [] (by decide) OutLang.nil
    have := Reach.op _ (.joinRef (fromParts "x".toStr [] "%41".toStr [] [])) _
      (Reach.ctor _ _ (by decide) hbase) hwf rfl
    rw [hj] at this
    exact this
  · intro hc
    have h1 := run_fixed b _ pr_mem rfl hc.path
    have h2 : Gen.PATH_REQUOTER.run b "%41".toStr ≠ "%41".toStr := by cases b <;> decide +kernel
    exact h2 h1

/-! ### operation sequences as lists -/

theorem C03_applyOps_reachC (e : Env) (ops : List UOp) : ∀ (u v : Url), ReachC e u →
    (∀ op ∈ ops, op.ArgsCanon e.b) → applyOps e u ops = .ok v → ReachC e v :=
  applyOps_closed (fun u op w hu ha hw => ReachC.op u op w hu ha hw) ops

/-- the constructor followed by ANY finite sequence of auto-encoding operations -/
theorem C03_op_sequence_canon (e : Env) (s : Str) (ops : List UOp) (u v : Url) :
    PyStr s → (∀ op ∈ ops, op.ArgsCanon e.b) → encodeUrl e s = .ok u → applyOps e u ops = .ok v →
    CanonUrl e.b v :=
  fun hs ha hu hv => C03_reachable_canon e v (C03_applyOps_reachC e ops u v (ReachC.ctor s u hs hu) ha hv)

/-! ## a URL satisfying the invariant is a fixed point -/

/-- the stored authority is one the library itself writes: empty, or `[user[:password]@]host[:port]`
    (`authText`) with user / password canonical for the REQUOTER (`UserInfoOK`), a host that
    `_encode_host` returns and maps to itself (`HostFix`: `hostFix_basic`, `hostFix_ipv4`,
    `hostFix_ipv6`), a port in range — and the netloc cache, when filled, agrees with it
    (`C01_str_ascii_inconsistent_cache_counterexample`: a record whose cache disagrees with its
    netloc renders the cache) -/
inductive NetlocCanon (e : Env) (u : Url) : Prop
  | empty : u.netloc = [] → u.pre = none → NetlocCanon e u
  | auth (user pw : Option Str) (host : Str) (port : Option Nat) :
      u.netloc = authText user pw host port → UserInfoOK e.b user pw → HostFix e.o host →
      (∀ p, port = some p → p ≤ 65535) →
      (u.pre = none ∨ u.pre = some (preOf user pw host port)) → NetlocCanon e u

/-- the known exclusions -/
structure C03Guards (u : Url) : Prop where
  /-- with neither scheme nor authority, the text before the first ':' of the path must not read as
      a scheme (`C03_colon_first_segment_counterexample`: "a%3Ab" is stored as "a:b", which parses
      as scheme "a"); implied by "no ':' in the first segment" (`C07_first_segment_suffices`) -/
  first_segment : u.scheme = [] → u.netloc = [] → 58 ∈ u.path →
    (u.path.takeWhile (· ≠ 58) = [] ∨ (u.path.takeWhile (· ≠ 58)).all (fun c => mem c Gen.schemeChars) = false)
  /-- a scheme in `uses_authority` without an authority needs an empty or rooted path
      (`C07_unsplit_rootless_counterexample`: "file:a/b" is written "file:///a/b") -/
  authority_scheme : u.scheme ≠ [] → Gen.usesAuthority.contains u.scheme = true → u.netloc = [] →
    (u.path = [] ∨ u.path.head? = some 47)

instance (u : Url) : Decidable (C03Guards u) :=
  decidable_of_iff
    ((u.scheme = [] → u.netloc = [] → 58 ∈ u.path →
        (u.path.takeWhile (· ≠ 58) = [] ∨ (u.path.takeWhile (· ≠ 58)).all (fun c => mem c Gen.schemeChars) = false)) ∧
     (u.scheme ≠ [] → Gen.usesAuthority.contains u.scheme = true → u.netloc = [] →
        (u.path = [] ∨ u.path.head? = some 47)))
    ⟨fun ⟨a, b⟩ => ⟨a, b⟩, fun ⟨a, b⟩ => ⟨a, b⟩⟩

/-- with an authority the path `str` writes is the `strPath` of C03.lean -/
theorem C03_strPath_eq (u : Url) (hn : u.netloc ≠ []) : C07_strPath u = strPath u := by
  unfold C07_strPath strPath strPathOf
  simp [hn]

/-- the scheme of a constructor result is always RFC-valid (or empty): `split_url` only cuts off a scheme that is -/
theorem C03_encodeUrl_scheme (e : Env) (s : Str) (u : Url) (hs : PyStr s) (hu : encodeUrl e s = .ok u) :
    SchemeOK' u.scheme := by
  obtain ⟨p, netloc, pre, hp, hn0, rfl⟩ := encodeUrl_inv e s u hu
  exact (splitUrl_facts e.o s p hs hp).1

/-- the authority `str` writes for the stored `authW user pw W port` with raw host `h`: the stored text, unless the
    explicit port is the scheme's default — then it is rebuilt from `host_subcomponent` (`bracket h`) without the port -/
def strNet (scheme : Str) (user pw : Option Str) (W h : Str) (port : Option Nat) : Str :=
  match port with
  | some p => if some p = defaultPort scheme then authW user pw (bracket h) none else authW user pw W (some p)
  | none => authW user pw W none

namespace ReachFix
open NetlocLemmas

/-- the cache entries of a URL whose stored authority is `authText …` -/
theorem net_auth (e : Env) (u : Url) (user pw : Option Str) (host : Str) (port : Option Nat)
    (hnet : u.netloc = authText user pw host port) (hu : UserInfoOK e.b user pw) (hh : HostFix e.o host)
    (hp : ∀ p, port = some p → p ≤ 65535) (hpre : u.pre = none ∨ u.pre = some (preOf user pw host port)) :
    net e u = .ok (preOf user pw host port) :=
  net_of_reads u hnet (userOK_of hu) (HostW.fix hh).reads hh.ok.1 hp hpre

theorem net_empty (e : Env) (u : Url) (hn : u.netloc = []) (hpre : u.pre = none) :
    net e u = .ok { rawHost := none, explicitPort := none, rawUser := none, rawPassword := none } := by
  unfold net lazyNet
  rw [hpre, hn]
  rfl

/-- an explicit default port is not written: `str` rebuilds the authority from the cache without it -/
theorem str_default_port (e : Env) (u : Url) (user pw : Option Str) (host : Str) (p : Nat)
    (hN : net e u = .ok (preOf user pw host (some p))) (hd : some p = defaultPort u.scheme) :
    str e u = .ok (unsplitResult u.scheme (authText user pw host none) (C07_strPath u) u.query u.fragment) := by
  obtain ⟨hru, hrp, _, hep, hhs⟩ := AuthMod.acc_of_net e u _ hN
  unfold str
  rw [hep]
  simp only [bind, Except.bind]
  rw [if_pos hd]
  simp only [hhs, hru, hrp, pure, Except.pure]
  rw [makeNetloc_qf (q e Gen.QUOTER) id]
  rfl

/-- what `str` writes is again an authority text, around `W` or around `bracket h`, with the port `strPort` -/
theorem strNet_eq (scheme : Str) (user pw : Option Str) (W h : Str) (port : Option Nat) :
    ∃ W', (W' = W ∨ W' = bracket h) ∧ strNet scheme user pw W h port = authW user pw W' (strPort scheme port) := by
  cases port with
  | none => exact ⟨W, .inl rfl, rfl⟩
  | some p =>
    by_cases hd : some p = defaultPort scheme
    · exact ⟨bracket h, .inr rfl, by simp [strNet, strPort, hd]⟩
    · exact ⟨W, .inl rfl, by simp [strNet, strPort, hd]⟩

theorem strNet_other {scheme : Str} (user pw : Option Str) (W h : Str) {port : Option Nat}
    (hnd : ∀ p, port = some p → some p ≠ defaultPort scheme) :
    strNet scheme user pw W h port = authW user pw W port := by
  cases port with
  | none => rfl
  | some p => exact if_neg (hnd p rfl)

/-- around `bracket h` it is `authText` with the port `str` writes -/
theorem strNet_bracket (scheme : Str) (user pw : Option Str) (h : Str) (port : Option Nat) :
    strNet scheme user pw (bracket h) h port = authText user pw h (strPort scheme port) := by
  cases port with
  | none => rfl
  | some p =>
    by_cases hd : some p = defaultPort scheme
    · simp [strNet, strPort, hd, authText_eq_authW]
    · simp [strNet, strPort, hd, authText_eq_authW]

/-- `str` of a URL with authority `authW user pw W port` whose cache, pre-filled or derived, holds `raw_host = h` -/
theorem str_authW (e : Env) (u : Url) (user pw : Option Str) (W h : Str) (port : Option Nat)
    (hnet : u.netloc = authW user pw W port) (hN : net e u = .ok (preOf user pw h port)) :
    str e u = .ok (unsplitResult u.scheme (strNet u.scheme user pw W h port) (C07_strPath u) u.query u.fragment) := by
  have hep := (AuthMod.acc_of_net e u _ hN).2.2.2.1
  cases port with
  | none =>
    rw [C07_str_recompose e u none hep (by intro p hp; cases hp)]
    simp only [strNet, C07_strPath, hnet]
  | some p =>
    by_cases hd : some p = defaultPort u.scheme
    · rw [str_default_port e u user pw h p hN hd]
      simp only [strNet, hd, if_true]
      rfl
    · rw [C07_str_recompose e u (some p) hep (by intro p' hp'; cases hp'; exact hd)]
      simp only [strNet, hd, if_false, C07_strPath, hnet]

/-- the authority `str` writes is the stored one exactly when no explicit default port is stored: dropping the port
    makes the text shorter, whichever way the host was written -/
theorem strNet_eq_iff {o : Oracles} (scheme : Str) (user pw : Option Str) {W h : Str} (port : Option Nat)
    (w : HostW o W h) :
    strNet scheme user pw W h port = authW user pw W port ↔ ∀ p, port = some p → some p ≠ defaultPort scheme := by
  refine ⟨fun heq p hp hd => ?_, strNet_other user pw W h⟩
  subst hp
  have h1 : strNet scheme user pw W h (some p) = authW user pw (bracket h) none := if_pos hd
  rw [h1, authW_eq, authW_eq] at heq
  have h2 := congrArg List.length (List.append_cancel_left heq)
  have hl : (bracket h).length ≤ W.length := by
    rcases w.shape with ⟨rfl, h58⟩ | ⟨rfl, _⟩
    · rw [bracket_of_no_colon h58]
      exact Nat.le_refl _
    · unfold bracket
      split
      · exact Nat.le_refl _
      · simp only [List.length_append, List.length_cons, List.length_nil]
        omega
  simp only [hostPortStr, List.length_append, List.length_cons] at h2
  omega

/-- `C07_strPath` changes the path only when it is empty under an authority in front of a query or fragment, and then
    to "/": a second application finds a non-empty path -/
theorem strPath_idem (u u' : Url) (hp : u'.path = C07_strPath u) (hn : u'.netloc.isEmpty = u.netloc.isEmpty)
    (hq : u'.query = u.query) (hf : u'.fragment = u.fragment) : C07_strPath u' = C07_strPath u := by
  by_cases hfire : (u.path.isEmpty && !u.netloc.isEmpty && (!u.query.isEmpty || !u.fragment.isEmpty)) = true
  · -- `str` wrote "/" for `u`, so the new path is "/" and whichever branch is taken for `u'` gives "/"
    have h1 : C07_strPath u = [47] := if_pos hfire
    rw [h1] at hp ⊢
    unfold C07_strPath
    rw [hp]
    exact ite_self _
  · -- `str` kept the path of `u`, and the condition reads the same on `u'`
    have h1 : C07_strPath u = u.path := if_neg hfire
    rw [h1] at hp ⊢
    unfold C07_strPath
    rw [hp, hn, hq, hf, if_neg hfire]

theorem strPath_canon (b : Backend) (u : Url) (hc : CanonUrl b u) :
    Canon (Gen.PATH_REQUOTER.tab b) (C07_strPath u) ∧ (u.netloc ≠ [] → NoDotSegments (C07_strPath u)) ∧
      (u.netloc ≠ [] → RootedP (C07_strPath u)) := by
  unfold C07_strPath
  split
  · exact ⟨canon_singleton (path_lit47 b), fun _ => by decide, fun _ => rootedP_cons []⟩
  · exact ⟨hc.path, hc.nodots, hc.rooted⟩

theorem strPath_of_no_netloc (u : Url) (hn : u.netloc = []) : C07_strPath u = u.path := by
  unfold C07_strPath
  simp [hn]

/-- `str` without an authority -/
theorem str_empty (e : Env) (u : Url) (hn : u.netloc = []) (hpre : u.pre = none) :
    str e u = .ok (unsplitResult u.scheme [] u.path u.query u.fragment) := by
  have hep : explicitPort e u = .ok none := (AuthMod.acc_of_net e u _ (net_empty e u hn hpre)).2.2.2.1
  have hstr := C07_str_recompose e u none hep (by intro p hp; cases hp)
  have hpath : (if (u.path.isEmpty && !u.netloc.isEmpty && (!u.query.isEmpty || !u.fragment.isEmpty)) = true
      then [47] else u.path) = u.path := strPath_of_no_netloc u hn
  rw [hpath, hn] at hstr
  exact hstr

/-- without an authority the two guards are what `PartsOK` asks beyond canonical components -/
theorem partsOK_empty (b : Backend) (u : Url) (hc : CanonUrl b u) (hs : SchemeOK' u.scheme) (hg : C03Guards u)
    (hn : u.netloc = []) :
    PartsOK { scheme := u.scheme, netloc := [], path := u.path, query := u.query, fragment := u.fragment } :=
  partsOK_build b u.scheme [] u.path u.query u.fragment hs (fun c hc => by simp at hc) rfl
    hc.path hc.query hc.fragment (fun h => absurd rfl h) (fun h1 h2 => hg.authority_scheme h1 h2 hn)
    (fun h1 _ h3 => hg.first_segment h1 hn h3)

/-- the `==` key sees the path `str` writes as the stored path: `C07_strPath` changes the path only when it is empty
    under an authority, to "/", and the key normalises exactly that case in the same way -/
theorem eqKey_path_strPath (u : Url) (n : Str) (hn : n.isEmpty = u.netloc.isEmpty) :
    (if (C07_strPath u).isEmpty && !n.isEmpty then [47] else C07_strPath u) =
      (if u.path.isEmpty && !u.netloc.isEmpty then [47] else u.path) := by
  rw [hn]
  by_cases hfire : (u.path.isEmpty && !u.netloc.isEmpty && (!u.query.isEmpty || !u.fragment.isEmpty)) = true
  · -- `str` wrote "/": the path was empty under an authority, where the key reads "/" too
    have h1 : C07_strPath u = [47] := if_pos hfire
    rw [h1, if_pos (Bool.and_eq_true_iff.mp hfire).1]
    exact ite_self _
  · -- `str` kept the path
    have h1 : C07_strPath u = u.path := if_neg hfire
    rw [h1]

end ReachFix

namespace R1

/-! ### the anatomy of the second pass -/

/-- the second pass on `u`, generic in the authority text `N` that `str` writes and the cache `pre'` the
    authority block of `encode_url` computes from it -/
structure Anat (e : Env) (u : Url) (N : Str) (pre' : Option NetPre) : Prop where
  str_eq : str e u = .ok (unsplitResult u.scheme N (C07_strPath u) u.query u.fragment)
  partsOK : PartsOK { scheme := u.scheme, netloc := N, path := C07_strPath u, query := u.query, fragment := u.fragment }
  block : netBlock e u.scheme N = .ok (N, pre')
  emp : N = [] ↔ u.netloc = []

theorem Anat.split {e : Env} {u : Url} {N : Str} {pre' : Option NetPre} (h : Anat e u N pre') :
    splitUrl e.o (unsplitResult u.scheme N (C07_strPath u) u.query u.fragment) =
      .ok { scheme := u.scheme, netloc := N, path := C07_strPath u, query := u.query, fragment := u.fragment } :=
  C07_split_unsplit e.o
    { scheme := u.scheme, netloc := N, path := C07_strPath u, query := u.query, fragment := u.fragment } h.partsOK

theorem strPath_fixed (e : Env) (u : Url) (hc : CanonUrl e.b u) (N : Str) (hemp : N = [] ↔ u.netloc = []) :
    encPath e N (C07_strPath u) = C07_strPath u := by
  obtain ⟨hPc, hPd, hPr⟩ := strPath_canon e.b u hc
  exact encPath_fixed' e N _ hPc (fun hn => hPd (fun h => hn (hemp.2 h)))

theorem Anat.encode {e : Env} {u : Url} {N : Str} {pre' : Option NetPre} (h : Anat e u N pre')
    (hc : CanonUrl e.b u) :
    encodeUrl e (unsplitResult u.scheme N (C07_strPath u) u.query u.fragment) =
      .ok { scheme := u.scheme, netloc := N, path := C07_strPath u, query := u.query, fragment := u.fragment,
            pre := pre' } := by
  rw [encodeUrl_of e _ _ N pre' h.split h.block]
  simp only [finishUrl, encQuery_fixed e hc.query, encFragment_fixed e hc.fragment, strPath_fixed e u hc N h.emp]

/-- no authority -/
theorem anat_empty (e : Env) (u : Url) (hc : CanonUrl e.b u) (hs : SchemeOK' u.scheme) (hg : C03Guards u)
    (hn : u.netloc = []) (hpre : u.pre = none) : Anat e u [] none := by
  have hsp : C07_strPath u = u.path := strPath_of_no_netloc u hn
  refine ⟨?_, ?_, netBlock_nil e u.scheme, by simp [hn]⟩
  · rw [hsp]; exact str_empty e u hn hpre
  · rw [hsp]; exact partsOK_empty e.b u hc hs hg hn

/-- what the anatomy alone gives: the record parsed from `str u` prints the same text and keeps the invariant -/
theorem Anat.fixed {e : Env} {u : Url} {N : Str} {P' : NetPre} (a : Anat e u N (some P')) (hc : CanonUrl e.b u)
    (hport : ∀ p, P'.explicitPort = some p → some p ≠ defaultPort u.scheme) :
    str e (Url.mk u.scheme N (C07_strPath u) u.query u.fragment (some P')) =
      .ok (unsplitResult u.scheme N (C07_strPath u) u.query u.fragment) ∧
    CanonUrl e.b (Url.mk u.scheme N (C07_strPath u) u.query u.fragment (some P')) := by
  obtain ⟨hPc, hPd, hPr⟩ := strPath_canon e.b u hc
  have hne : N ≠ [] → u.netloc ≠ [] := fun h0 hu => h0 (a.emp.2 hu)
  refine ⟨?_, hPc, hc.query, hc.fragment, fun h0 => hPd (hne h0), fun h0 => hPr (hne h0)⟩
  have hemp : N.isEmpty = u.netloc.isEmpty := by
    by_cases hN : N = []
    · rw [hN, a.emp.1 hN]
    · rw [isEmpty_false hN, isEmpty_false (hne hN)]
  rw [C07_str_recompose e (Url.mk u.scheme N (C07_strPath u) u.query u.fragment (some P')) P'.explicitPort rfl hport]
  -- the path written is `C07_strPath` of the new record, which is that of `u`
  exact congrArg (fun p => Except.ok (unsplitResult u.scheme N p u.query u.fragment))
    (strPath_idem u (Url.mk u.scheme N (C07_strPath u) u.query u.fragment (some P')) rfl hemp rfl rfl)

end R1

namespace ReachFix
open R1

/-- the second pass on a result of the constructor whose authority block maps the stored authority to itself: a
    constructor result satisfies the invariant and has a valid scheme, and `str` writes the stored authority when the
    explicit port is not the default one -/
theorem reparse_ctor (e : Env) (s : Str) (u : Url) (hs : PyStr s) (h : encodeUrl e s = .ok u) (hne : u.netloc ≠ [])
    (port : Option Nat) (hep : explicitPort e u = .ok port)
    (hport : ∀ p, port = some p → some p ≠ defaultPort u.scheme) (pre' : NetPre)
    (hN : NetFix e u.scheme u.netloc (some pre'))
    (hport' : ∀ p, pre'.explicitPort = some p → some p ≠ defaultPort u.scheme) :
    ∃ u', (str e u >>= encodeUrl e) = .ok u' ∧ str e u' = str e u ∧
      u'.scheme = u.scheme ∧ u'.netloc = u.netloc ∧ u'.path = strPath u ∧
      u'.query = u.query ∧ u'.fragment = u.fragment ∧ u'.pre = some pre' ∧
      eqKey u' = eqKey u ∧ rawPath u' = rawPath u := by
  have hc := encodeUrl_canon e s hs u h
  obtain ⟨hPc, _, hPr⟩ := strPath_canon e.b u hc
  have hstr := C07_str_recompose e u port hep hport
  have a : Anat e u u.netloc (some pre') :=
    ⟨hstr, partsOK_build e.b u.scheme u.netloc (C07_strPath u) u.query u.fragment (C03_encodeUrl_scheme e s u hs h)
      hN.chars hN.brackets hPc hc.query hc.fragment (fun _ => hPr hne) (fun _ _ => hPr hne)
      (fun _ h2 => absurd h2 hne), hN.block, Iff.rfl⟩
  have hraw : ∀ w : Url, rawPath w = (eqKey w).path := by
    intro w
    unfold rawPath eqKey
    cases w.path.isEmpty <;> cases w.netloc.isEmpty <;> rfl
  have hkey : eqKey (Url.mk u.scheme u.netloc (C07_strPath u) u.query u.fragment (some pre')) = eqKey u := by
    unfold eqKey
    simp only
    rw [eqKey_path_strPath u _ rfl]
  refine ⟨_, ?_, (a.fixed hc hport').1.trans hstr.symm, rfl, rfl, C03_strPath_eq u hne, rfl, rfl, rfl, hkey, ?_⟩
  · rw [hstr]
    -- `exact` against the unreduced bind makes the unifier unfold `encodeUrl`
    simp only [bind, Except.bind]
    exact a.encode hc
  · rw [hraw, hraw, hkey]

end ReachFix

/-! ### the first family: constructor results with a plain host, or with an authority of known parts -/

/-- Re-parsing the string of a `Basic` URL made by `encode_url` succeeds, gives the same string
    again, the same scheme, netloc, query and fragment, and the path as `str` wrote it (`strPath u`); the two URLs
    are equal (`==`) and have the same `raw_path`.

    `u'.path = u.path` is FALSE when the stored path is empty and a query or fragment is present
    (`C03_empty_path_counterexample`): `str` inserts "/", which the second parse stores.  `C03_reparse_basic`
    below concludes `u'.path = u.path` under the hypothesis that excludes exactly this case.  `PyStr s` ("the list
    is a Python string") is needed by the quoter lemmas. -/
theorem C03_reparse_basic_gen (e : Env) (s : Str) (u : Url) (hs : PyStr s) :
    encodeUrl e s = .ok u → Basic u →
    ∃ u', (do let t ← str e u; encodeUrl e t) = .ok u' ∧ str e u' = str e u ∧
      u'.scheme = u.scheme ∧ u'.netloc = u.netloc ∧ u'.path = strPath u ∧
      u'.query = u.query ∧ u'.fragment = u.fragment ∧ eqKey u' = eqKey u ∧ rawPath u' = rawPath u := by
  intro h hb
  obtain ⟨hsch, hhost⟩ := hb
  have h58 : 58 ∉ u.netloc := mem_false_iff.mp (hostBasic_notMem hhost (by decide))
  have hep : explicitPort e u = .ok none := by
    obtain ⟨pp, netloc, pre, _, hn0, rfl⟩ := encodeUrl_inv e s u h
    obtain ⟨pr, rfl, hpr⟩ := netBlock_no_colon e pp.scheme pp.netloc netloc pre hn0 hhost.1 h58
    exact congrArg Except.ok hpr
  obtain ⟨u', h1, h2, h3, h4, h5, h6, h7, _, h9, h10⟩ := reparse_ctor e s u hs h hhost.1 none hep
    (fun p hp => by cases hp) (preHost u.netloc)
    ⟨hostBasic_auth hhost,
      checkBrackets_plain (hostBasic_notMem hhost (by decide)) (hostBasic_notMem hhost (by decide)),
      netBlock_basic e u.scheme hhost⟩ (fun x hx => by cases hx)
  exact ⟨u', h1, h2, h3, h4, h5, h6, h7, h9, h10⟩

/-- the stored path itself comes back when it is non-empty or no query and no fragment follow -/
theorem C03_reparse_basic (e : Env) (s : Str) (u : Url) (hs : PyStr s)
    (hpath : u.path ≠ [] ∨ (u.query = [] ∧ u.fragment = [])) :
    encodeUrl e s = .ok u → Basic u →
    ∃ u', (do let t ← str e u; encodeUrl e t) = .ok u' ∧ str e u' = str e u ∧
      u'.scheme = u.scheme ∧ u'.netloc = u.netloc ∧ u'.path = u.path ∧
      u'.query = u.query ∧ u'.fragment = u.fragment := by
  intro h hb
  obtain ⟨u', h1, h2, h3, h4, h5, h6, h7, _, _⟩ := C03_reparse_basic_gen e s u hs h hb
  refine ⟨u', h1, h2, h3, h4, ?_, h6, h7⟩
  rw [h5]
  unfold strPath strPathOf
  rcases hpath with hp | ⟨hq, hf⟩
  · simp [hp]
  · simp [hq, hf]

/-- extension: the same for any stored authority `[user[:password]@]host[:port]` whose parts are as
    `encode_url` leaves them (user / password canonical for the REQUOTER, host a fixed point of
    `_encode_host`, see `hostFix_basic`, `hostFix_ipv4`, `hostFix_ipv6`) and whose explicit port is not
    the scheme's default port (`C03_default_port_counterexample` shows that this is necessary) -/
theorem C03_reparse_authority (e : Env) (s : Str) (u : Url) (hs : PyStr s)
    (user pw : Option Str) (host : Str) (port : Option Nat) :
    encodeUrl e s = .ok u → u.scheme ≠ [] → u.netloc = authText user pw host port →
    explicitPort e u = .ok port → UserInfoOK e.b user pw → HostFix e.o host → PortOK u.scheme port →
    ∃ u', (do let t ← str e u; encodeUrl e t) = .ok u' ∧ str e u' = str e u ∧
      u'.scheme = u.scheme ∧ u'.netloc = u.netloc ∧ u'.path = strPath u ∧
      u'.query = u.query ∧ u'.fragment = u.fragment ∧ u'.pre = some (preOf user pw host port) ∧
      eqKey u' = eqKey u ∧ rawPath u' = rawPath u := by
  intro h _ hnet hep hu hh hp
  have hne : u.netloc ≠ [] := by
    rw [hnet]; exact NetlocLemmas.makeNetloc_ne_nil id user pw hh.ok.1 port
  exact reparse_ctor e s u hs h hne port hep hp.notDefault (preOf user pw host port)
    (hnet ▸ netFix_authText e u.scheme hu hh hp.range) hp.notDefault

-- C03_reparse_authority: userinfo with a superfluous escape, an uncompressed upper-case IPv6 literal, a port,
-- a dot segment
private def e1 : Env := ⟨.py, Oracles.empty⟩
private def s1 : Str := "HTTP://Us%65r:p%40w@[2001:DB8:0:0:0:0:0:1]:8080/a/../b?x#y".toStr
private def u1 : Url :=
  urlOf "http".toStr "User:p%40w@[2001:db8::1]:8080".toStr "/b".toStr "x".toStr "y".toStr
    (preOf (some "User".toStr) (some "p%40w".toStr) "2001:db8::1".toStr (some 8080))

example : ∃ u', (str e1 u1 >>= encodeUrl e1) = .ok u' ∧ str e1 u' = str e1 u1 ∧ u'.netloc = u1.netloc := by
  obtain ⟨u', h1, h2, _, h4, _⟩ := C03_reparse_authority e1 s1 u1
    (by unfold s1; str_lits; decide +kernel) (some "User".toStr) (some "p%40w".toStr)
    (ipv6ToStr [0x2001, 0xdb8, 0, 0, 0, 0, 0, 1]) (some 8080)
    (by unfold e1 s1 u1; str_lits; decide +kernel) (by decide +kernel) (by unfold u1; str_lits; decide +kernel)
    (by decide +kernel)
    ⟨fun s h => (by cases h; exact ⟨by decide +kernel, isCanon_sound _ _ (by decide +kernel)⟩),
     fun s h => (by cases h; exact isCanon_sound _ _ (by decide +kernel))⟩
    (hostFix_ipv6 _ _ (by decide +kernel) (by decide +kernel))
    ⟨fun p hp => (by cases hp; decide +kernel), fun p hp => (by cases hp; decide +kernel)⟩
  exact ⟨u', h1, h2, h4⟩

/-! ### the stored authority, and the second pass under it -/

/-- no explicit default port is stored -/
def NoDefaultPort (e : Env) (u : Url) : Prop :=
  ∀ p, explicitPort e u = .ok (some p) → some p ≠ defaultPort u.scheme

theorem noDefaultPort_iff {e : Env} {u : Url} {port : Option Nat} (h : explicitPort e u = .ok port) :
    NoDefaultPort e u ↔ ∀ p, port = some p → some p ≠ defaultPort u.scheme := by
  unfold NoDefaultPort
  rw [h]
  constructor
  · intro h p hp; exact h p (by rw [hp])
  · intro h p hp
    simp only [Except.ok.injEq] at hp
    exact h p hp

theorem noDefaultPort_empty (e : Env) (u : Url) (hn : u.netloc = []) (hpre : u.pre = none) : NoDefaultPort e u := by
  have hep : explicitPort e u = .ok none := (AuthMod.acc_of_net e u _ (net_empty e u hn hpre)).2.2.2.1
  exact (noDefaultPort_iff hep).2 (fun p hp => by cases hp)

/-- the stored authority of `u` is `[user[:pw]@]W[:port]` as the library writes it; the cache, when filled, agrees -/
structure Stored (e : Env) (u : Url) (user pw : Option Str) (W h : Str) (port : Option Nat) : Prop where
  netloc : u.netloc = authW user pw W port
  userinfo : UserInfoOK e.b user pw
  host : HostW e.o W h
  range : ∀ p, port = some p → p ≤ 65535
  cache : u.pre = none ∨ u.pre = some (preOf user pw h port)

section
variable {e : Env} {u : Url} {user pw : Option Str} {W h : Str} {port : Option Nat}
open R1

theorem Stored.net (s : Stored e u user pw W h port) : net e u = .ok (preOf user pw h port) :=
  net_of_reads u s.netloc (userOK_of s.userinfo) s.host.reads s.host.ok.1 s.range s.cache

theorem Stored.ne (s : Stored e u user pw W h port) : u.netloc ≠ [] := by
  rw [s.netloc]
  exact authW_ne_nil user pw s.host.ne_nil port

/-- `NetlocCanon`, read: no authority, or a stored authority around a `HostFix` host -/
theorem netlocCanon_iff : NetlocCanon e u ↔ (u.netloc = [] ∧ u.pre = none) ∨
    ∃ user pw h port, HostFix e.o h ∧ Stored e u user pw (bracket h) h port := by
  constructor
  · intro hn
    cases hn with
    | empty h1 h2 => exact .inl ⟨h1, h2⟩
    | auth user pw host port h1 h2 h3 h4 h5 => exact .inr ⟨user, pw, host, port, h3, h1, h2, .fix h3, h4, h5⟩
  · intro hn
    rcases hn with ⟨h1, h2⟩ | ⟨user, pw, h, port, hh, s⟩
    · exact .empty h1 h2
    · exact .auth user pw h port s.netloc s.userinfo hh s.range s.cache

/-- the second pass under a stored authority: `str` writes the authority `strNet …` — around `W` or, a default port
    dropped, around `bracket h`, with the port `strPort`; the authority block maps that text to itself with the cache
    `raw_host = h`; the text is the stored one exactly when no explicit default port is stored -/
theorem Stored.pass (s : Stored e u user pw W h port) (hc : CanonUrl e.b u) (hs : SchemeOK' u.scheme) :
    Anat e u (strNet u.scheme user pw W h port) (some (preOf user pw h (strPort u.scheme port))) ∧
    (∃ W', (W' = W ∨ W' = bracket h) ∧ HostW e.o W' h ∧
      strNet u.scheme user pw W h port = authW user pw W' (strPort u.scheme port)) ∧
    (strNet u.scheme user pw W h port = u.netloc ↔ ∀ p, port = some p → some p ≠ defaultPort u.scheme) := by
  obtain ⟨W', hW', heq⟩ := strNet_eq u.scheme user pw W h port
  have w' : HostW e.o W' h := by
    rcases hW' with rfl | rfl
    · exact s.host
    · exact s.host.sub
  have hr := strPort_range u.scheme port s.range
  have hne' := authW_ne_nil user pw w'.ne_nil (strPort u.scheme port)
  obtain ⟨hPc, _, hPr⟩ := strPath_canon e.b u hc
  have nf := hostW_netFix u.scheme s.userinfo w' hr
  refine ⟨⟨str_authW e u user pw W h port s.netloc s.net, ?_, ?_, by simp [s.ne, heq, hne']⟩, ⟨W', hW', w', heq⟩, ?_⟩
  · rw [heq]
    exact partsOK_build e.b u.scheme _ (C07_strPath u) u.query u.fragment hs nf.chars nf.brackets hPc hc.query
      hc.fragment (fun _ => hPr s.ne) (fun _ _ => hPr s.ne) (fun _ h2 => absurd h2 hne')
  · rw [heq]
    exact nf.block
  · rw [s.netloc]
    exact strNet_eq_iff u.scheme user pw port s.host

/-- the fixed point under a stored authority, with the parsed record written out: it is stored again, around `W` or
    around `bracket h` -/
theorem Stored.fixed (s : Stored e u user pw W h port) (hc : CanonUrl e.b u) (hs : SchemeOK' u.scheme) :
    let N := strNet u.scheme user pw W h port
    let u' := Url.mk u.scheme N (C07_strPath u) u.query u.fragment (some (preOf user pw h (strPort u.scheme port)))
    str e u = .ok (unsplitResult u.scheme N (C07_strPath u) u.query u.fragment) ∧
    encodeUrl e (unsplitResult u.scheme N (C07_strPath u) u.query u.fragment) = .ok u' ∧
    str e u' = .ok (unsplitResult u.scheme N (C07_strPath u) u.query u.fragment) ∧ CanonUrl e.b u' ∧
    (∃ W', (W' = W ∨ W' = bracket h) ∧ Stored e u' user pw W' h (strPort u.scheme port)) ∧
    (N = u.netloc ↔ NoDefaultPort e u) ∧ (eqKey u' = eqKey u ↔ NoDefaultPort e u) ∧
    Yarl.port e u' = Yarl.port e u := by
  intro N u'
  obtain ⟨a, ⟨W', hW', w', heq⟩, hiff⟩ := s.pass hc hs
  obtain ⟨hstr', hcanon'⟩ := a.fixed hc (strPort_notDefault u.scheme port)
  have hN := s.net
  have hnl := hiff.trans (noDefaultPort_iff (AuthMod.acc_of_net e u _ hN).2.2.2.1).symm
  have st' : Stored e u' user pw W' h (strPort u.scheme port) :=
    ⟨heq, s.userinfo, w', strPort_range u.scheme port s.range, .inr rfl⟩
  have hkey : eqKey u' = eqKey u ↔ N = u.netloc := by
    refine ⟨fun hk => congrArg Parts.netloc hk, fun hk => ?_⟩
    unfold eqKey
    simp only [u']
    rw [eqKey_path_strPath u _ (by rw [isEmpty_false st'.ne, isEmpty_false s.ne]), hk]
  refine ⟨a.str_eq, a.encode hc, hstr', hcanon', ⟨W', hW', st'⟩, hnl, hkey.trans hnl, ?_⟩
  unfold Yarl.port explicitPort
  rw [hN]
  show (Except.ok (strPort u.scheme port) >>= fun p => _) = (Except.ok port >>= fun p => _)
  cases port with
  | none => rfl
  | some p =>
    by_cases hd : some p = defaultPort u.scheme
    · simp only [strPort, hd, if_true, bind, Except.bind, pure, Except.pure]
      rfl
    · simp only [strPort, hd, if_false]
      rfl

/-- … and without an authority: the parsed URL is `u` itself -/
theorem fixed_empty (hc : CanonUrl e.b u) (hs : SchemeOK' u.scheme) (hg : C03Guards u) (hn : u.netloc = [])
    (hpre : u.pre = none) :
    str e u = .ok (unsplitResult u.scheme [] u.path u.query u.fragment) ∧
    encodeUrl e (unsplitResult u.scheme [] u.path u.query u.fragment) = .ok u ∧ NoDefaultPort e u := by
  have henc := (anat_empty e u hc hs hg hn hpre).encode hc
  rw [strPath_of_no_netloc u hn] at henc
  have hu : (Url.mk u.scheme [] u.path u.query u.fragment none) = u := by
    cases u
    simp_all
  exact ⟨str_empty e u hn hpre, hu ▸ henc, noDefaultPort_empty e u hn hpre⟩

/-- the fixed point for any invariant `Inv` of the stored authority that passes from a stored authority to the
    stored authority of the parsed record (around `W` or around `bracket h`): `NetlocCanon`, `NetlocCanonB` -/
theorem fixed_point_gen (Inv : Url → Prop) (hc : CanonUrl e.b u) (hs : SchemeOK' u.scheme) (hg : C03Guards u)
    (hi : Inv u)
    (hcases : (u.netloc = [] ∧ u.pre = none) ∨ ∃ user pw W h port, Stored e u user pw W h port ∧
      ∀ u' W', (W' = W ∨ W' = bracket h) → Stored e u' user pw W' h (strPort u.scheme port) → Inv u') :
    ∃ s u', str e u = .ok s ∧ encodeUrl e s = .ok u' ∧ str e u' = .ok s ∧ u'.scheme = u.scheme ∧
      u'.path = C07_strPath u ∧ u'.query = u.query ∧ u'.fragment = u.fragment ∧
      (u'.netloc = u.netloc ↔ NoDefaultPort e u) ∧ (eqKey u' = eqKey u ↔ NoDefaultPort e u) ∧
      (Url.beq u' u = true ↔ NoDefaultPort e u) ∧
      Yarl.port e u' = Yarl.port e u ∧ rawHost e u' = rawHost e u ∧ rawUser e u' = rawUser e u ∧
      rawPassword e u' = rawPassword e u ∧ CanonUrl e.b u' ∧ Inv u' := by
  rcases hcases with ⟨hn, hpre⟩ | ⟨user, pw, W, h, port, st, hinv⟩
  · obtain ⟨hstr, henc, hnd⟩ := fixed_empty hc hs hg hn hpre
    have hbeq : Url.beq u u = true := by
      unfold Url.beq
      exact decide_eq_true rfl
    exact ⟨_, u, hstr, henc, hstr, rfl, (strPath_of_no_netloc u hn).symm, rfl, rfl, ⟨fun _ => hnd, fun _ => rfl⟩,
      ⟨fun _ => hnd, fun _ => rfl⟩, ⟨fun _ => hnd, fun _ => hbeq⟩, rfl, rfl, rfl, rfl, hc, hi⟩
  · obtain ⟨f1, f2, f3, f4, ⟨W', hW', st'⟩, f6, f7, f8⟩ := st.fixed hc hs
    have hN := st.net
    refine ⟨_, _, f1, f2, f3, rfl, rfl, rfl, rfl, f6, f7, ?_, f8, ?_, ?_, ?_, f4, hinv _ W' hW' st'⟩
    · unfold Url.beq
      rw [decide_eq_true_iff]
      exact f7
    · unfold rawHost
      rw [hN]
      rfl
    · unfold rawUser
      rw [hN]
      rfl
    · unfold rawPassword
      rw [hN]
      rfl

end

/-- `C03_fixed_point_of_canon` below, with the equality clause: the re-parsed URL has the same stored netloc, and is
    `==` to `u` (`eqKey`; the stored path may differ, `C03_empty_path_counterexample`, but `==` does not see
    that), EXACTLY when no explicit default port is stored (`C03_default_port_counterexample`) -/
theorem C03_fixed_point_eq (e : Env) (u : Url) (hc : CanonUrl e.b u) (hnet : NetlocCanon e u)
    (hs : SchemeOK' u.scheme) (hguards : C03Guards u) :
    ∃ s u', str e u = .ok s ∧ encodeUrl e s = .ok u' ∧ str e u' = .ok s ∧ u'.scheme = u.scheme ∧
      u'.path = C07_strPath u ∧ u'.query = u.query ∧ u'.fragment = u.fragment ∧
      (u'.netloc = u.netloc ↔ NoDefaultPort e u) ∧ (eqKey u' = eqKey u ↔ NoDefaultPort e u) ∧
      (Url.beq u' u = true ↔ NoDefaultPort e u) ∧
      port e u' = port e u ∧ rawHost e u' = rawHost e u ∧ rawUser e u' = rawUser e u ∧
      rawPassword e u' = rawPassword e u ∧ CanonUrl e.b u' ∧ NetlocCanon e u' :=
  fixed_point_gen (NetlocCanon e) hc hs hguards hnet <| (netlocCanon_iff.1 hnet).imp_right
    fun ⟨user, pw, h, port, hh, st⟩ => ⟨user, pw, _, h, port, st, fun _ W' hW' st' =>
      netlocCanon_iff.2 (.inr ⟨user, pw, h, _, hh, (hW'.elim id id : W' = bracket h) ▸ st'⟩)⟩

/-- A URL that satisfies the invariant, whose stored authority is one the library writes
    (`NetlocCanon`), whose scheme is RFC-valid (`SchemeOK'`), outside the two known exclusions
    (`C03Guards`), is a fixed point: `str` succeeds, parsing the string succeeds, the parsed URL renders
    to the same string, has the same scheme, query, fragment, the path as `str` wrote it, the same
    port / host / user / password, the same netloc unless an explicit default port was dropped — and it
    satisfies the invariant and `NetlocCanon` again.

    No TAB / CR / LF / leading-blank hypothesis is needed: canonical text contains none.  The clause
    "scheme empty ∧ netloc non-empty ∧ rootless path" (`C07_partsOK_rooted_counterexample`) is excluded by
    `CanonUrl.rooted`.

    The path clause is `u'.path = C07_strPath u`, not `strPath u` of C03.lean: the two agree under an authority
    (`C03_strPath_eq`); without one `str` inserts no "/", so `u'.path = strPath u` is false there
    (`C03_strPath_no_authority_counterexample`). -/
theorem C03_fixed_point_of_canon (e : Env) (u : Url) (hc : CanonUrl e.b u) (hnet : NetlocCanon e u)
    (hs : SchemeOK' u.scheme) (hguards : C03Guards u) :
    ∃ s u', str e u = .ok s ∧ encodeUrl e s = .ok u' ∧ str e u' = .ok s ∧ u'.scheme = u.scheme ∧
      u'.path = C07_strPath u ∧ u'.query = u.query ∧ u'.fragment = u.fragment ∧
      ((∀ p, explicitPort e u = .ok (some p) → some p ≠ defaultPort u.scheme) → u'.netloc = u.netloc) ∧
      port e u' = port e u ∧ rawHost e u' = rawHost e u ∧ rawUser e u' = rawUser e u ∧
      rawPassword e u' = rawPassword e u ∧ CanonUrl e.b u' ∧ NetlocCanon e u' :=
  let ⟨s, u', h1, h2, h3, h4, h5, h6, h7, h8, _, _, h11⟩ := C03_fixed_point_eq e u hc hnet hs hguards
  ⟨s, u', h1, h2, h3, h4, h5, h6, h7, h8.2, h11⟩

/-- every URL reachable through the auto-encoding API whose stored authority is one the
    library writes, with an RFC-valid scheme and outside the two known exclusions, is a fixed point -/
theorem C03_reachable_fixed_point (e : Env) (u : Url) : ReachC e u → NetlocCanon e u → SchemeOK' u.scheme →
    C03Guards u →
    ∃ s u', str e u = .ok s ∧ encodeUrl e s = .ok u' ∧ str e u' = .ok s ∧ u'.scheme = u.scheme ∧
      u'.path = C07_strPath u ∧ u'.query = u.query ∧ u'.fragment = u.fragment ∧
      ((∀ p, explicitPort e u = .ok (some p) → some p ≠ defaultPort u.scheme) → u'.netloc = u.netloc) ∧
      port e u' = port e u ∧ rawHost e u' = rawHost e u ∧ rawUser e u' = rawUser e u ∧
      rawPassword e u' = rawPassword e u ∧ CanonUrl e.b u' ∧ NetlocCanon e u' :=
  fun hr hn hs hg => C03_fixed_point_of_canon e u (C03_reachable_canon e u hr) hn hs hg

/-! ### corollaries -/

/-- under an authority the path clause holds with `strPath u` of C03.lean -/
theorem C03_fixed_point_path_authority (e : Env) (u : Url) (hc : CanonUrl e.b u) (hnet : NetlocCanon e u)
    (hs : SchemeOK' u.scheme) (hguards : C03Guards u) (hne : u.netloc ≠ []) :
    ∃ s u', str e u = .ok s ∧ encodeUrl e s = .ok u' ∧ str e u' = .ok s ∧ u'.path = strPath u := by
  obtain ⟨s, u', h1, h2, h3, _, h5, _⟩ := C03_fixed_point_of_canon e u hc hnet hs hguards
  exact ⟨s, u', h1, h2, h3, by rw [h5, C03_strPath_eq u hne]⟩

/-- … and the stored path itself comes back unless it is empty in front of a query or fragment under an
    authority (`C03_empty_path_counterexample`) -/
theorem C03_fixed_point_same_path (e : Env) (u : Url) (hc : CanonUrl e.b u) (hnet : NetlocCanon e u)
    (hs : SchemeOK' u.scheme) (hguards : C03Guards u)
    (hpath : u.path ≠ [] ∨ u.netloc = [] ∨ (u.query = [] ∧ u.fragment = [])) :
    ∃ s u', str e u = .ok s ∧ encodeUrl e s = .ok u' ∧ str e u' = .ok s ∧ u'.path = u.path := by
  obtain ⟨s, u', h1, h2, h3, _, h5, _⟩ := C03_fixed_point_of_canon e u hc hnet hs hguards
  refine ⟨s, u', h1, h2, h3, ?_⟩
  rw [h5]
  unfold C07_strPath
  rcases hpath with h | h | ⟨hq, hf⟩
  · simp [h]
  · simp [h]
  · simp [hq, hf]

/-- the simple form of the first guard: no ':' in the first segment of a path written first -/
theorem C03_guards_of_no_colon (u : Url)
    (h1 : u.scheme = [] → u.netloc = [] → 58 ∉ u.path.takeWhile (· ≠ 47))
    (h2 : u.scheme ≠ [] → Gen.usesAuthority.contains u.scheme = true → u.netloc = [] →
      (u.path = [] ∨ u.path.head? = some 47)) : C03Guards u :=
  ⟨fun hs hn hm => C07_first_segment_suffices u.path (h1 hs hn) hm, h2⟩

/-- a URL with a scheme and an authority needs no guard -/
theorem C03_guards_of_authority (u : Url) (hs : u.scheme ≠ []) (hn : u.netloc ≠ []) : C03Guards u :=
  ⟨fun h _ _ => absurd h hs, fun _ _ h => absurd h hn⟩

/-! ### the hypotheses are necessary (true facts about the model, by computation) -/

namespace ReachFix

/-- `CanonUrl`, decided -/
def canonUrlB (b : Backend) (u : Url) : Bool :=
  isCanon (Gen.PATH_REQUOTER.tab b) u.path && isCanon (Gen.QUERY_REQUOTER.tab b) u.query &&
    isCanon (Gen.FRAGMENT_REQUOTER.tab b) u.fragment && decide (u.netloc ≠ [] → NoDotSegments u.path) &&
    decide (u.netloc ≠ [] → RootedP u.path)

theorem canonUrlB_sound {b : Backend} {u : Url} (h : canonUrlB b u = true) : CanonUrl b u := by
  unfold canonUrlB at h
  simp only [Bool.and_eq_true, decide_eq_true_eq] at h
  obtain ⟨⟨⟨⟨h1, h2⟩, h3⟩, h4⟩, h5⟩ := h
  exact ⟨isCanon_sound _ _ h1, isCanon_sound _ _ h2, isCanon_sound _ _ h3, h4, h5⟩

end ReachFix

/-- the guard `authority_scheme` is needed, also for reachable URLs: `build(scheme="file", path="a/b")`
    satisfies every other hypothesis, but its string "file:///a/b" parses to the path "/a/b" -/
theorem C03_guard_authority_scheme_needed (b : Backend) :
    let e : Env := ⟨b, Oracles.empty⟩
    let u : Url := fromParts "file".toStr [] "a/b".toStr [] []
    ReachC e u ∧ CanonUrl b u ∧ NetlocCanon e u ∧ SchemeOK' u.scheme ∧
      (u.scheme = [] → u.netloc = [] → 58 ∈ u.path → False) ∧ ¬ C03Guards u ∧
      str e u = .ok "file:///a/b".toStr ∧
      (encodeUrl e "file:///a/b".toStr).map (·.path) = .ok "/a/b".toStr ∧ C07_strPath u = "a/b".toStr := by
  refine ⟨?_, canonUrlB_sound (by cases b <;> decide +kernel), NetlocCanon.empty rfl rfl, by decide +kernel,
    (fun h => by cases h), by decide +kernel, by cases b <;> decide +kernel, by cases b <;> decide +kernel, by decide +kernel⟩
  exact ReachC.build { scheme := "file".toStr, path := "a/b".toStr } _ rfl
    ⟨by decide +kernel, by decide +kernel, by decide +kernel, trivial⟩ (by cases b <;> decide +kernel)

/-- the guard `first_segment` is needed, also for reachable URLs: `URL("a%3Ab")` stores the path "a:b"
    (':' is literal in paths) and satisfies every other hypothesis, but "a:b" parses as scheme "a" -/
theorem C03_guard_first_segment_needed (b : Backend) :
    let e : Env := ⟨b, Oracles.empty⟩
    let u : Url := fromParts [] [] "a:b".toStr [] []
    ReachC e u ∧ CanonUrl b u ∧ NetlocCanon e u ∧ SchemeOK' u.scheme ∧ ¬ C03Guards u ∧
      str e u = .ok "a:b".toStr ∧
      (encodeUrl e "a:b".toStr).map (fun w => (w.scheme, w.path)) = .ok ("a".toStr, "b".toStr) := by
  refine ⟨?_, canonUrlB_sound (by cases b <;> decide +kernel), NetlocCanon.empty rfl rfl, by decide +kernel,
    by decide +kernel, by cases b <;> decide +kernel, by cases b <;> decide +kernel⟩
  exact ReachC.ctor "a%3Ab".toStr _ (by decide +kernel) (by cases b <;> decide +kernel)

/-- the path clause `u'.path = strPath u` fails without an authority: `URL("?q")` has the empty
    path, its string is "?q" (no "/" is inserted), the parsed path is empty — but `strPath u = "/"` -/
theorem C03_strPath_no_authority_counterexample (b : Backend) :
    let e : Env := ⟨b, Oracles.empty⟩
    let u : Url := fromParts [] [] [] "q".toStr []
    ReachC e u ∧ NetlocCanon e u ∧ SchemeOK' u.scheme ∧ C03Guards u ∧ str e u = .ok "?q".toStr ∧
      encodeUrl e "?q".toStr = .ok u ∧ strPath u = [47] ∧ C07_strPath u = [] := by
  refine ⟨?_, NetlocCanon.empty rfl rfl, by decide +kernel, by decide +kernel, by cases b <;> decide +kernel,
    by cases b <;> decide +kernel, by decide +kernel, by decide +kernel⟩
  exact ReachC.ctor "?q".toStr _ (by decide +kernel) (by cases b <;> decide +kernel)

/-- the cache-consistency clause of `NetlocCanon` is needed for arbitrary records (no API call produces
    such a record): the cache says "port 80" for a stored netloc "h", `str` trusts the cache -/
theorem C03_inconsistent_cache_counterexample (b : Backend) :
    let e : Env := ⟨b, Oracles.empty⟩
    let u : Url := { scheme := "http".toStr, netloc := "h".toStr, path := [47], query := [], fragment := [],
                     pre := some { rawHost := some "x".toStr, explicitPort := some 80, rawUser := none,
                                   rawPassword := none } }
    CanonUrl b u ∧ SchemeOK' u.scheme ∧ C03Guards u ∧ str e u = .ok "http://x/".toStr := by
  exact ⟨canonUrlB_sound (by cases b <;> decide +kernel), by decide +kernel, by decide +kernel, by cases b <;> decide +kernel⟩

/-! ### worked examples: the hypotheses hold of concrete reachable URLs -/

namespace ReachFix

/-- constructor (upper-case scheme and host, explicit non-default port, dot segment), then `with_path`
    (space, a lower-case escape that is kept as text, a dot segment), `with_query`, `/` with two
    segments, `extend_query`, `with_fragment` -/
def chainOps : List UOp :=
  [.withPath "/p q/%7e/./x".toStr false false, .withQuery (.str "k=v w&a=%41".toStr),
   .child ["c d".toStr, "e".toStr], .extendQuery (.str "z=1 2".toStr), .withFragment (some "fr ag".toStr)]

def chainStart : Str := "HTTP://Example.COM:8080/a/./b?x=1#f".toStr

def chainEnd : Url :=
  fromParts "http".toStr "example.com:8080".toStr "/p%20q/%257e/x/c%20d/e".toStr "z=1+2".toStr "fr%20ag".toStr

theorem chain_args (b : Backend) : ∀ op ∈ chainOps, op.ArgsCanon b := by
  intro op hop
  simp only [chainOps, List.mem_cons, List.not_mem_nil, or_false] at hop
  rcases hop with rfl | rfl | rfl | rfl | rfl
  · show PyStr _; decide +kernel
  · show PyStr _; decide +kernel
  · intro p hp
    simp only [List.mem_cons, List.not_mem_nil, or_false] at hp
    rcases hp with rfl | rfl <;> decide +kernel
  · show PyStr _; decide +kernel
  · intro x hx; cases hx; decide +kernel

theorem chain_run (b : Backend) :
    (encodeUrl ⟨b, Oracles.empty⟩ chainStart >>= fun u => applyOps ⟨b, Oracles.empty⟩ u chainOps) = .ok chainEnd := by
  unfold chainStart chainOps chainEnd; str_lits; cases b <;> decide +kernel

theorem chain_reach (b : Backend) : ReachC ⟨b, Oracles.empty⟩ chainEnd := by
  have h := chain_run b
  obtain ⟨u, hu, hv⟩ := bind_ok h
  exact C03_applyOps_reachC _ chainOps u chainEnd (ReachC.ctor chainStart u (by decide +kernel) hu) (chain_args b) hv

theorem chain_netloc (b : Backend) : NetlocCanon ⟨b, Oracles.empty⟩ chainEnd :=
  NetlocCanon.auth none none "example.com".toStr (some 8080) (by decide +kernel) (userInfoOK_none b)
    (hostFix_basic _ (by decide +kernel)) (fun p hp => by cases hp; decide +kernel) (Or.inl rfl)

end ReachFix

/-- the URL obtained by constructor + with_path + with_query + `/` + extend_query + with_fragment is
    reachable and satisfies every hypothesis of `C03_reachable_fixed_point` (both backends) -/
example (b : Backend) : ReachC ⟨b, Oracles.empty⟩ chainEnd ∧ NetlocCanon ⟨b, Oracles.empty⟩ chainEnd ∧
    SchemeOK' chainEnd.scheme ∧ C03Guards chainEnd :=
  ⟨chain_reach b, chain_netloc b, by decide +kernel, by decide +kernel⟩

/-- … so it is a fixed point; the string is the expected one -/
example (b : Backend) : ∃ u', str ⟨b, Oracles.empty⟩ chainEnd =
      .ok "http://example.com:8080/p%20q/%257e/x/c%20d/e?z=1+2#fr%20ag".toStr ∧
    encodeUrl ⟨b, Oracles.empty⟩ "http://example.com:8080/p%20q/%257e/x/c%20d/e?z=1+2#fr%20ag".toStr = .ok u' ∧
    str ⟨b, Oracles.empty⟩ u' = .ok "http://example.com:8080/p%20q/%257e/x/c%20d/e?z=1+2#fr%20ag".toStr ∧
    u'.netloc = chainEnd.netloc ∧ u'.path = chainEnd.path := by
  obtain ⟨s, u', h1, h2, h3, _, h5, _, _, h8, _⟩ :=
    C03_reachable_fixed_point _ chainEnd (chain_reach b) (chain_netloc b) (by decide +kernel) (by decide +kernel)
  have hs : str ⟨b, Oracles.empty⟩ chainEnd =
      .ok "http://example.com:8080/p%20q/%257e/x/c%20d/e?z=1+2#fr%20ag".toStr := by
    unfold chainEnd; str_lits; cases b <;> decide +kernel
  rw [Except.ok.inj (h1.symm.trans hs)] at h2 h3
  have hep : explicitPort ⟨b, Oracles.empty⟩ chainEnd = .ok (some 8080) := by cases b <;> decide +kernel
  refine ⟨u', hs, h2, h3, h8 ?_, by rw [h5]; decide +kernel⟩
  intro p hp
  rw [hep] at hp
  cases hp
  decide +kernel

/-- the default-port branch of `str` (the netloc is rebuilt without the port): hypotheses hold, the netloc
    of the parsed URL differs, port / host agree -/
example (b : Backend) :
    let u : Url := fromParts "https".toStr "u%40:p@example.org:443".toStr "/x".toStr [] []
    CanonUrl b u ∧ NetlocCanon ⟨b, Oracles.empty⟩ u ∧ SchemeOK' u.scheme ∧ C03Guards u ∧
      str ⟨b, Oracles.empty⟩ u = .ok "https://u%40:p@example.org/x".toStr :=
  ⟨canonUrlB_sound (by cases b <;> decide +kernel),
   NetlocCanon.auth (some "u%40".toStr) (some "p".toStr) "example.org".toStr (some 443) (by decide +kernel)
     ⟨fun s h => (by cases h; exact ⟨by decide +kernel, isCanon_sound _ _ (by cases b <;> decide +kernel)⟩),
      fun s h => (by cases h; exact isCanon_sound _ _ (by cases b <;> decide +kernel))⟩
     (hostFix_basic _ (by decide +kernel)) (fun p hp => by cases hp; decide +kernel) (Or.inl rfl),
   by decide +kernel, by decide +kernel, by str_lits; cases b <;> decide +kernel⟩

/-- relative URLs (no scheme, no authority) and scheme-only URLs are covered -/
example (b : Backend) :
    let u : Url := fromParts [] [] "a_b:c/../d%20e".toStr "q=%26".toStr "f".toStr
    let v : Url := fromParts "mailto".toStr [] "x@y.z".toStr [] []
    CanonUrl b u ∧ NetlocCanon ⟨b, Oracles.empty⟩ u ∧ SchemeOK' u.scheme ∧ C03Guards u ∧
    CanonUrl b v ∧ NetlocCanon ⟨b, Oracles.empty⟩ v ∧ SchemeOK' v.scheme ∧ C03Guards v :=
  ⟨canonUrlB_sound (by cases b <;> decide +kernel), NetlocCanon.empty rfl rfl, by decide +kernel, by decide +kernel,
   canonUrlB_sound (by cases b <;> decide +kernel), NetlocCanon.empty rfl rfl, by decide +kernel, by decide +kernel⟩

/-! ## `NetlocCanon` along operation sequences

  `NetlocCanon` only has to be checked where an authority is first written: every operation keeps it
  (`with_host` under the side condition that `_encode_host` returns a host it maps to itself). -/

/-- side conditions on the arguments that reach the authority: the host given to `with_host` is encoded
    to a fixed point of `_encode_host` (`hostFix_basic`, `hostFix_ipv4`, `hostFix_ipv6`); a reference given to
    `join` carries an authority the library writes -/
def UOp.NetArgs (e : Env) : UOp → Prop
  | .withHost s => ∀ eh, encodeHost e.o s true = .ok eh → ∃ host, eh = bracket host ∧ HostFix e.o host
  | .joinRef ref => NetlocCanon e ref
  | _ => True

namespace ReachFix
open NetlocLemmas WfLemmas

/-- `v` has the netloc of `u` and an empty or the same netloc cache -/
def Keeps (u v : Url) : Prop := v.netloc = u.netloc ∧ (v.pre = none ∨ v.pre = u.pre)

theorem keeps_refl (u : Url) : Keeps u u := ⟨rfl, Or.inr rfl⟩
theorem keeps_fromParts (u : Url) (s p q f : Str) : Keeps u (fromParts s u.netloc p q f) := ⟨rfl, Or.inl rfl⟩

/-- what was known of the cache of `u` is known of the cache of `v` -/
theorem keeps_pre {u v : Url} (hk : Keeps u v) {x : Option NetPre} (h : u.pre = none ∨ u.pre = x) :
    v.pre = none ∨ v.pre = x := by
  rcases hk.2 with hp | hp
  · exact Or.inl hp
  · rw [hp]; exact h

theorem netlocCanon_of_keeps {e : Env} {u v : Url} (h : NetlocCanon e u) (hk : Keeps u v) : NetlocCanon e v := by
  cases h with
  | empty h1 h2 => exact NetlocCanon.empty (hk.1.trans h1) ((keeps_pre hk (Or.inl h2)).elim id id)
  | auth user pw host port h1 h2 h3 h4 h5 =>
    exact NetlocCanon.auth user pw host port (hk.1.trans h1) h2 h3 h4 (keeps_pre hk h5)

/-- `make_netloc` (no encoding) of canonical pieces around the host text `hb` is the authority written from a
    `UserInfoOK` pair: a user "" is no user -/
theorem makeNetloc_written (e : Env) (user pw : Option Str) (hb : Str) (port : Option Nat)
    (hu : ∀ x, user = some x → Canon (Gen.REQUOTER.tab e.b) x) (hw : ∀ x, pw = some x → Canon (Gen.REQUOTER.tab e.b) x) :
    ∃ user', makeNetloc (Yarl.q e Gen.QUOTER) user pw (some hb) port false =
        makeNetloc id user' pw (some hb) port false ∧ UserInfoOK e.b user' pw := by
  rw [makeNetloc_qf (Yarl.q e Gen.QUOTER) id]
  cases user with
  | none => exact ⟨none, rfl, ⟨fun s h => (by cases h), hw⟩⟩
  | some x =>
    by_cases hx : x = []
    · subst hx
      refine ⟨none, ?_, ⟨fun s h => (by cases h), hw⟩⟩
      rw [makeNetloc_eq, makeNetloc_eq]
      cases pw <;> simp
    · exact ⟨some x, rfl, ⟨fun s h => (by cases h; exact ⟨hx, hu x rfl⟩), hw⟩⟩

theorem netlocCanon_authText (e : Env) (s p q f : Str) (user pw : Option Str) (host : Str) (port : Option Nat)
    (hu : ∀ x, user = some x → Canon (Gen.REQUOTER.tab e.b) x) (hw : ∀ x, pw = some x → Canon (Gen.REQUOTER.tab e.b) x)
    (hh : HostFix e.o host) (hp : ∀ x, port = some x → x ≤ 65535) :
    NetlocCanon e (fromParts s (makeNetloc (Yarl.q e Gen.QUOTER) user pw (some (bracket host)) port false) p q f) := by
  obtain ⟨user', heq, hui⟩ := makeNetloc_written e user pw (bracket host) port hu hw
  exact NetlocCanon.auth user' pw host port heq hui hh hp (Or.inl rfl)

theorem q_quoter_canon (e : Env) (s : Str) (hs : PyStr s) : Canon (Gen.REQUOTER.tab e.b) (Yarl.q e Gen.QUOTER s) :=
  (C04_partner_canon e.b s hs).1

theorem quoted_canon (e : Env) (x : Option Str) (hx : ∀ s, x = some s → PyStr s) :
    ∀ s, x.map (Yarl.q e Gen.QUOTER) = some s → Canon (Gen.REQUOTER.tab e.b) s := by
  intro s hs
  cases x with
  | none => cases hs
  | some y =>
    simp only [Option.map_some, Option.some.injEq] at hs
    subst hs
    exact q_quoter_canon e y (hx y rfl)

/-- `join` returns the reference, or writes the reference's or the base's authority under a fresh cache -/
theorem join_keeps (e : Env) (base ref : Url) : Keeps ref (join e base ref) ∨ Keeps base (join e base ref) := by
  rcases join_cases e base ref with h | ⟨_, _, h⟩ | ⟨_, h⟩ <;> rw [h]
  · exact .inl (keeps_refl ref)
  · exact .inl (keeps_fromParts ref _ _ _ _)
  · exact .inr (keeps_fromParts base _ _ _ _)

theorem join_netlocCanon (e : Env) (base ref : Url) (hb : NetlocCanon e base) (hr : NetlocCanon e ref) :
    NetlocCanon e (join e base ref) :=
  (join_keeps e base ref).elim (netlocCanon_of_keeps hr) (netlocCanon_of_keeps hb)

/-- One argument for every invariant `N` of the stored authority: `N` survives an operation as soon as it
    survives a fresh cache (`hkeeps`), holds without an authority (`hempty`), holds of the authority the modifiers
    write around a host with `H` (`hwrite`), and lets the accessors be read off (`hread`). -/
theorem applyOp_net_inv {e : Env} {N : Url → Prop} {H : Str → Prop}
    (hkeeps : ∀ {u v : Url}, N u → Keeps u v → N v)
    (hempty : ∀ v : Url, v.netloc = [] → v.pre = none → N v)
    (hwrite : ∀ (s p q f : Str) (user pw : Option Str) (host : Str) (port : Option Nat),
      (∀ x, user = some x → Canon (Gen.REQUOTER.tab e.b) x) → (∀ x, pw = some x → Canon (Gen.REQUOTER.tab e.b) x) →
      H host → (∀ x, port = some x → x ≤ 65535) →
      N (fromParts s (makeNetloc (Yarl.q e Gen.QUOTER) user pw (some (bracket host)) port false) p q f))
    (hread : ∀ u : Url, N u → u.netloc ≠ [] → ∃ user pw host port, UserInfoOK e.b user pw ∧ H host ∧
      (∀ p, port = some p → p ≤ 65535) ∧ net e u = .ok (preOf user pw host port))
    (u : Url) (hn : N u) (op : UOp) (ha : op.ArgsPy e.b)
    (hx : match op with
      | .withHost s => ∀ eh, encodeHost e.o s true = .ok eh → ∃ host, eh = bracket host ∧ H host
      | .joinRef ref => N ref
      | _ => True)
    (v : Url) (h : applyOp e u op = .ok v) : N v := by
  -- the five authority operations re-make the authority from the components `net e u`, which `hread` knows
  cases op with
  | relative =>
    simp only [applyOp] at h
    unfold relative at h
    split at h
    · cases h
    · cases h; exact hempty _ rfl rfl
  | joinRef ref => cases h; exact (join_keeps e u ref).elim (hkeeps hx) (hkeeps hn)
  | origin =>
    obtain ⟨hne, _, ⟨_, N', hN', rfl⟩ | ⟨_, ⟨rfl, _⟩ | rfl⟩⟩ := AuthMod.origin_ok h
    · obtain ⟨user, pw, host, port, _, h3, h4, hN⟩ := hread u hn hne
      obtain rfl := Except.ok.inj (hN'.symm.trans hN)
      exact hwrite _ _ _ _ none none host port (fun x hx => by cases hx) (fun x hx => by cases hx) h3 h4
    · exact hn
    · exact hkeeps hn (keeps_fromParts u _ _ _ _)
  | withPort p k =>
    obtain ⟨hne, _, hb, N', hN', rfl⟩ := AuthMod.withPort_ok h
    obtain ⟨user, pw, host, port, h2, h3, _, hN⟩ := hread u hn hne
    obtain rfl := Except.ok.inj (hN'.symm.trans hN)
    exact hwrite _ _ _ _ user pw host _ (fun x hx => (h2.user x hx).2) h2.pw h3 (EncTrue.portBad_range hb)
  | withHost s =>
    obtain ⟨hne, _, eh, N', heh, hN', rfl⟩ := AuthMod.withHost_ok h
    obtain ⟨user, pw, host, port, h2, _, h4, hN⟩ := hread u hn hne
    obtain rfl := Except.ok.inj (hN'.symm.trans hN)
    obtain ⟨host', rfl, hh'⟩ := hx eh heh
    exact hwrite _ _ _ _ user pw host' port (fun x hx => (h2.user x hx).2) h2.pw hh' h4
  | withUser s =>
    obtain ⟨hne, N', hN', rfl⟩ := AuthMod.withUser_ok h
    obtain ⟨user, pw, host, port, h2, h3, h4, hN⟩ := hread u hn hne
    obtain rfl := Except.ok.inj (hN'.symm.trans hN)
    cases s with
    | none => exact hwrite _ _ _ _ none none host port (fun x hx => by cases hx) (fun x hx => by cases hx) h3 h4
    | some x => exact hwrite _ _ _ _ (some (Yarl.q e Gen.QUOTER x)) pw host port (quoted_canon e (some x) ha) h2.pw h3 h4
  | withPassword s =>
    obtain ⟨hne, N', hN', rfl⟩ := AuthMod.withPassword_ok h
    obtain ⟨user, pw, host, port, h2, h3, h4, hN⟩ := hread u hn hne
    obtain rfl := Except.ok.inj (hN'.symm.trans hN)
    exact hwrite _ _ _ _ user (s.map (Yarl.q e Gen.QUOTER)) host port (fun x hx => (h2.user x hx).2)
      (quoted_canon e s ha) h3 h4
  | _ => exact hkeeps hn ((applyOp_step h).netloc rfl)

end ReachFix

theorem C03_applyOp_netlocCanon (e : Env) (u : Url) (hn : NetlocCanon e u) (op : UOp) (ha : op.ArgsPy e.b)
    (hx : op.NetArgs e) (v : Url) : applyOp e u op = .ok v → NetlocCanon e v := by
  refine applyOp_net_inv (H := HostFix e.o) netlocCanon_of_keeps (fun v h1 h2 => NetlocCanon.empty h1 h2)
    (netlocCanon_authText e) ?_ u hn op ha (by cases op <;> exact hx) v
  intro u hn hne
  cases hn with
  | empty h1 _ => exact absurd h1 hne
  | auth user pw host port h1 h2 h3 h4 h5 =>
    exact ⟨user, pw, host, port, h2, h3, h4, net_auth e u user pw host port h1 h2 h3 h4 h5⟩

theorem C03_join_netlocCanon (e : Env) (base ref : Url) (hb : NetlocCanon e base) (hr : NetlocCanon e ref) :
    NetlocCanon e (join e base ref) := join_netlocCanon e base ref hb hr

theorem C03_applyOps_netlocCanon (e : Env) (ops : List UOp) : ∀ (u v : Url), NetlocCanon e u →
    (∀ op ∈ ops, op.ArgsPy e.b ∧ op.NetArgs e) → applyOps e u ops = .ok v → NetlocCanon e v :=
  applyOps_closed (fun u op w hu ha hw => C03_applyOp_netlocCanon e u hu op ha.1 ha.2 w hw) ops

/-- the constructor followed by ANY finite sequence of auto-encoding operations.  If the
    constructor's result carries an authority the library writes (`NetlocCanon`, checked once), the
    arguments are Python strings, `join` references satisfy the invariants and `with_host` arguments
    encode to fixed points of `_encode_host`, then the final URL — provided its scheme is RFC-valid and it
    is outside the two known exclusions — is a fixed point of `str` ∘ `encode_url` -/
theorem C03_op_sequence_fixed_point (e : Env) (s : Str) (ops : List UOp) (u v : Url) :
    PyStr s → encodeUrl e s = .ok u → NetlocCanon e u →
    (∀ op ∈ ops, op.ArgsCanon e.b ∧ op.NetArgs e) → applyOps e u ops = .ok v →
    SchemeOK' v.scheme → C03Guards v →
    ∃ t v', str e v = .ok t ∧ encodeUrl e t = .ok v' ∧ str e v' = .ok t ∧ v'.scheme = v.scheme ∧
      v'.path = C07_strPath v ∧ v'.query = v.query ∧ v'.fragment = v.fragment ∧
      ((∀ p, explicitPort e v = .ok (some p) → some p ≠ defaultPort v.scheme) → v'.netloc = v.netloc) ∧
      port e v' = port e v ∧ rawHost e v' = rawHost e v ∧ rawUser e v' = rawUser e v ∧
      rawPassword e v' = rawPassword e v ∧ CanonUrl e.b v' ∧ NetlocCanon e v' := by
  intro hs hu hn ha hv hsch hg
  have hr := C03_applyOps_reachC e ops u v (ReachC.ctor s u hs hu) (fun op hop => (ha op hop).1) hv
  have hnv := C03_applyOps_netlocCanon e ops u v hn (fun op hop => ⟨(ha op hop).1.toPy, (ha op hop).2⟩) hv
  exact C03_reachable_fixed_point e v hr hnv hsch hg

namespace ReachFix

/-- a chain that also rewrites the authority: user with a space, password with ':', a new host in upper case,
    a new port, then path / query / fragment operations -/
def netOps : List UOp :=
  [.withUser (some "us er".toStr), .withPassword (some "p:w".toStr), .withHost "Example.ORG".toStr,
   .withPort (some 8443) 0, .withPath "/p q".toStr false false, .extendQuery (.str "z=1 2".toStr),
   .child ["c".toStr], .withFragment (some "f".toStr)]

theorem netOps_args (b : Backend) : ∀ op ∈ netOps, op.ArgsCanon b ∧ op.NetArgs ⟨b, Oracles.empty⟩ := by
  intro op hop
  simp only [netOps, List.mem_cons, List.not_mem_nil, or_false] at hop
  rcases hop with rfl | rfl | rfl | rfl | rfl | rfl | rfl | rfl
  · exact ⟨by intro x hx; cases hx; decide +kernel, trivial⟩
  · exact ⟨by intro x hx; cases hx; decide +kernel, trivial⟩
  · refine ⟨by show PyStr _; decide +kernel, ?_⟩
    intro eh heh
    have : encodeHost Oracles.empty "Example.ORG".toStr true = .ok "example.org".toStr := by decide +kernel
    rw [this] at heh
    cases heh
    exact ⟨"example.org".toStr, by decide +kernel, hostFix_basic _ (by decide +kernel)⟩
  · exact ⟨trivial, trivial⟩
  · exact ⟨by show PyStr _; decide +kernel, trivial⟩
  · exact ⟨by show PyStr _; decide +kernel, trivial⟩
  · refine ⟨?_, trivial⟩
    intro p hp
    simp only [List.mem_cons, List.not_mem_nil, or_false] at hp
    subst hp; decide +kernel
  · exact ⟨by intro x hx; cases hx; decide +kernel, trivial⟩

theorem netOps_run (b : Backend) :
    (applyOps ⟨b, Oracles.empty⟩ (urlOf "http".toStr "h".toStr [47] [] [] (preHost "h".toStr)) netOps).map
      (fun v => (v.scheme, v.netloc, v.path, v.query, v.fragment)) =
    .ok ("http".toStr, "us%20er:p%3Aw@example.org:8443".toStr, "/p%20q/c".toStr, [], "f".toStr) := by
  unfold netOps; str_lits; cases b <;> decide +kernel

end ReachFix

/-- `C03_op_sequence_fixed_point` applies to a chain that rewrites user, password, host and port -/
example (b : Backend) (v : Url)
    (hv : applyOps ⟨b, Oracles.empty⟩ (urlOf "http".toStr "h".toStr [47] [] [] (preHost "h".toStr)) netOps = .ok v) :
    ∃ t v', str ⟨b, Oracles.empty⟩ v = .ok t ∧ encodeUrl ⟨b, Oracles.empty⟩ t = .ok v' ∧
      str ⟨b, Oracles.empty⟩ v' = .ok t := by
  have hrun := netOps_run b
  rw [hv] at hrun
  simp only [Except.map, Except.ok.injEq, Prod.mk.injEq] at hrun
  obtain ⟨h1, h2, _⟩ := hrun
  obtain ⟨t, v', a, b', c, _⟩ := C03_op_sequence_fixed_point ⟨b, Oracles.empty⟩ "http://h/".toStr netOps _ v
    (by decide +kernel) (by cases b <;> decide +kernel)
    (NetlocCanon.auth none none "h".toStr none (by decide +kernel) (userInfoOK_none b) (hostFix_basic _ (by decide +kernel))
      (fun p hp => by cases hp) (Or.inr rfl))
    (netOps_args b) hv (by rw [h1]; decide +kernel)
    (C03_guards_of_authority v (by rw [h1]; decide +kernel) (by rw [h2]; decide +kernel))
  exact ⟨t, v', a, b', c⟩

end Yarl
