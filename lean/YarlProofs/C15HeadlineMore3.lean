import YarlProofs.C15Headline
import YarlProofs.C15Encoded
import YarlProofs.C15More2
/-!
  C15HeadlineMore3.lean — AUDIT LAYER for property C15, continuation of C15Headline.lean (the theorems here need
  C15Encoded.lean and C15More2.lean; C15More2.lean imports C15Headline.lean, so the headline file itself cannot cite
  it; this file is a leaf, nobody imports it).

  C15 | Dot segments are removed exactly when an authority is present |
  "Whenever a URL has an authority, its path - however produced (constructor, build, with_path, /, joinpath, join) and
  whether the dots were literal or written %2E - contains no '.' or '..' segment and equals RFC 3986 5.2.4
  remove_dot_segments applied to the rooted path that was supplied or merged, never climbing above the root and keeping
  a trailing slash when the last segment was a dot segment. URLs without an authority keep their dot segments verbatim,
  and normalisation is idempotent."

  What is here.
  * GAPS 6 of C15Headline.lean (join OUTSIDE the hypotheses of `C15_headline_rfc_join` / `_rfc_join_url`): the excluded
    situations are exactly two (`C15_headline_rfc_join_excluded_cases`); for a base WITHOUT authority the stored path is
    `normalize_path` of the §5.2.3 target, and §5.2.4 of the target is that path with ONE '/' in front exactly when
    `C14_deviates` holds — so "equals remove_dot_segments" is FALSE there in general
    (`C15_headline_rfc_join_no_authority`, `_fails_for_no_authority_escape`); for a base WITH an authority and a
    ROOTLESS path (only `build(…, encoded=True)`) the stored path is given exactly and differs from the RFC
    (`C15_headline_rfc_join_authority_rootless_base`, `_fails_for_authority_rootless_base`).
  * GAPS 5 (the `encoded=True` entry points, in general): constructor / build / with_path store the supplied path
    verbatim and never normalise — "no dot segment" holds IFF the supplied path has none
    (`C15_headline_encoded_constructor`, `_build`, `_with_path`, `C15_headline_entry_fails_for_encoded_true_general`);
    `joinpath(…, encoded=True)` is `joinpath(…)` with the identity in place of the quoter, SAME normalisation rule
    (`C15_headline_encoded_joinpath`).
  * GAPS 4 (URLs OUTSIDE `ReachC`: a receiver / operand that carries dot segments under an authority, obtainable only
    through `encoded=True`), operation by operation, as equivalences "the result has no dot segment ⇔ …":
    `C15_headline_derived_path_kept`, `_derived_joinpath_iff` (+ `_exact`), `_derived_name_suffix_parent_iff`
    (+ `_derived_parent`, `_derived_with_name_suffix`), `_derived_join_iff`, `_derived_join_ref`,
    `_derived_join_ref_verbatim`; computed witnesses on both backends.

  Vocabulary (C15Encoded.lean, C15More2.lean, C14More.lean, Lemmas/PathAlg.lean, C14.lean; `NoDotSegments`, `base`,
  `root`, `childSegs`, `dot`, `dotdot`: C15Headline.lean).
  `fixRoot p`        — `p` if empty or starting with '/', else "/" ++ p.
  `NoDots L`         — no element of the segment list `L` is "." or "..".
  `C15_childText e encoded` — the per-argument text of `_make_child`: the argument itself with `encoded=True`,
                       `PATH_QUOTER(argument)` without.
  `C15_childSegsF f paths`  — the new segments: every `f p` split at '/', all arguments but the last without a trailing
                       empty piece.   `C15_anyDotF f paths` — some `f p` contains a '.' (`needs_normalize`).
  `childOf u X nn`   — `_make_child` after the argument loop: merge `base u ++ X`, root it under an authority, and (under an
                       authority, iff `nn`) run `normalize_path_segments` over the WHOLE list; query / fragment cleared.
  `target base ref`  — the RFC 3986 §5.2.2 / §5.2.3 path before remove_dot_segments (`ref.path` if rooted, else `merge`).
  `joinPath base ref`— the path `join` computes in its relative branch (C14.lean).
  `C14_merged bp rp` — §5.2.3 merge without authority: `bp` up to and including its last '/', then `rp`.
  `C14_deviates bp rp` — decidable: `rp` non-empty and rootless, `bp` rootless, and in the '/'-segments of the merged path
                       — after the leading dot segments and the first other segment — some ".." meets depth 0
                       (Python transcription in the header of C14More.lean).
  `C07_encBuildNetloc a` — the netloc `build(encoded=True)` stores: `authority`, or `[user[:password]@]host[:port]`, verbatim.
  47 = '/', 46 = '.'.
-/
namespace Yarl
open PathLemmas PathAlg WfLemmas EntryLemmas DotMore JoinLemmas

/-! ## Sentence 1, second half — "equals RFC 3986 5.2.4 remove_dot_segments applied to the … merged" path: join OUTSIDE
    the hypotheses of `C15_headline_rfc_join` (C15Headline GAPS 6) -/

/-- the hypotheses `hb` (base without authority, or base path empty / rooted) and `ht` (target rooted or free of '.') of
    `C15_headline_rfc_join` fail in EXACTLY two situations: (a) a rootless non-empty base path NEXT TO an authority (only
    `build(…, encoded=True)` / hand-made parts make one), (b) no authority, base path empty or rootless, reference path
    rootless, and a '.' in the merged path.  Closes the "which inputs are left out" part of GAPS 6.
    Cites C15_rfc_join_excluded_cases. -/
theorem C15_headline_rfc_join_excluded_cases (base ref : Url) :
    ¬ ((base.netloc = [] ∨ base.path = [] ∨ base.path.head? = some 47) ∧
        ((∃ q, target base ref = 47 :: q) ∨ 46 ∉ target base ref)) ↔
      ((base.netloc ≠ [] ∧ base.path ≠ [] ∧ base.path.head? ≠ some 47) ∨
       (base.netloc = [] ∧ base.path.head? ≠ some 47 ∧ ref.path.head? ≠ some 47 ∧ 46 ∈ target base ref)) :=
  C15_rfc_join_excluded_cases base ref

/-- case (b) — and EVERY base without authority — at the level of the path `join` computes: it is `normalize_path` of
    the §5.2.3 target (the stack algorithm, on a possibly RELATIVE path), has no dot segment, and §5.2.4 of the target is
    that path with ONE '/' in front exactly when `C14_deviates base.path ref.path`; the two are equal IFF it is false.
    (Outside the scope of the property's first sentence — no authority — but inside "or merged".)
    Cites C15_rfc_join_no_authority. -/
theorem C15_headline_rfc_join_path_no_authority (base ref : Url)
    (hnet : base.netloc = [])           -- the base has NO authority
    (hp : ref.path ≠ []) :              -- guard: an empty reference path keeps the base path
    joinPath base ref = normalizePath (target base ref) ∧
    NoDotSegments (joinPath base ref) ∧
    Rfc.removeDotSegments (target base ref)
      = (if C14_deviates base.path ref.path then [47] else []) ++ joinPath base ref ∧
    (joinPath base ref = Rfc.removeDotSegments (target base ref) ↔ C14_deviates base.path ref.path = false) :=
  C15_rfc_join_no_authority base ref hnet hp

/-- … the same at the level of the URL `base.join(ref)`.  Cites C15_rfc_join_url_no_authority. -/
theorem C15_headline_rfc_join_no_authority (e : Env) (base ref : Url)
    (hrel : Gen.usesRelative.contains base.scheme = true)   -- guard: otherwise join returns `ref` itself
    (hsch : ref.scheme = [] ∨ ref.scheme = base.scheme)     -- guard: the reference is relative to this base
    (hnet : base.netloc = [])                                -- the base has NO authority
    (hrn : ref.netloc = [])                                  -- guard: a reference with its own authority is taken as it is
    (hp : ref.path ≠ []) :                                   -- guard: an empty reference path keeps the base path
    (join e base ref).netloc = [] ∧
    (join e base ref).path = normalizePath (target base ref) ∧
    NoDotSegments (join e base ref).path ∧
    Rfc.removeDotSegments (target base ref)
      = (if C14_deviates base.path ref.path then [47] else []) ++ (join e base ref).path ∧
    ((join e base ref).path = Rfc.removeDotSegments (target base ref) ↔ C14_deviates base.path ref.path = false) :=
  C15_rfc_join_url_no_authority e base ref hrel hsch hnet hrn hp

/-- "equals RFC 3986 5.2.4 remove_dot_segments applied to the … merged" path is FALSE for join on a base without
    authority when a ".." pops the first output segment: `URL("x/y").join(URL("../../c"))` has the path "c", where
    §5.2.4 of the merged path "x/../../c" is "/c" (the known C14 deviation, `C14_join_rfc_iff`).
    Cites C15_rfc_join_url_no_authority. -/
theorem C15_headline_rfc_join_fails_for_no_authority_escape (e : Env) :
    let base := fromParts [] [] "x/y".toStr [] []
    let ref := fromParts [] [] "../../c".toStr [] []
    C14_deviates base.path ref.path = true ∧
    (join e base ref).path ≠ Rfc.removeDotSegments (target base ref) ∧
    Rfc.removeDotSegments (target base ref) = 47 :: (join e base ref).path := by
  intro base ref
  have hd : C14_deviates base.path ref.path = true := by str_lits; decide +kernel
  obtain ⟨_, _, _, h3, h4⟩ :=
    C15_rfc_join_url_no_authority e base ref (by decide +kernel) (Or.inl rfl) rfl rfl (by decide +kernel)
  refine ⟨hd, fun h => ?_, ?_⟩
  · have := h4.1 h
    rw [hd] at this
    cases this
  · rw [h3, hd]
    rfl

/-- case (a): a base WITH an authority and a ROOTLESS non-empty path `c :: rest` (`URL.build(host=…, path="x/y",
    encoded=True)`), relative-path reference.  `raw_parts` treats the first character of the path as if it were the root
    slash.  If the base path ends with '/', the merged path is `base.path ++ ref.path` — which IS the §5.2.3 merge — and
    is normalised as a RELATIVE path; otherwise the code merges "//" ++ (`rest` up to and including its last '/') ++
    `ref.path` and the stored path is §5.2.4 of THAT rooted text, whereas the RFC merges (`c :: rest` up to its last
    '/') ++ `ref.path` (third conjunct).  Cites C15_rfc_join_authority_rootless_base. -/
theorem C15_headline_rfc_join_authority_rootless_base (base ref : Url) (c : Nat) (rest : Str)
    (hn : base.netloc ≠ [])             -- "whenever a URL has an authority"
    (hbp : base.path = c :: rest) (hc : c ≠ 47)   -- the base path is non-empty and ROOTLESS (case (a))
    (hp : ref.path ≠ [])                -- guard: an empty reference path keeps the base path
    (hr : ref.path.head? ≠ some 47) :   -- guard: the reference path is rootless (a rooted one: not covered, GAPS 6)
    joinPath base ref =
      (if base.path.getLast? = some 47 then normalizePath (base.path ++ ref.path)
       else Rfc.removeDotSegments (47 :: 47 :: (rest.reverse.dropWhile (· ≠ 47)).reverse ++ ref.path)) ∧
    (base.path.getLast? = some 47 → target base ref = base.path ++ ref.path) ∧
    target base ref = ((c :: rest).reverse.dropWhile (· ≠ 47)).reverse ++ ref.path :=
  C15_rfc_join_authority_rootless_base base ref c rest hn hbp hc hp hr

/-- … case (a), witnesses where the stored path is NOT §5.2.4 of the §5.2.3 target although the base has an authority
    (Python: `b = URL.build(scheme="http", host="h", path="x/y", encoded=True)`; `b.join(URL("c"))` has path "///c" where
    RFC 3986 gives "x/c"; `b2 = …path="x/y/"…`; `b2.join(URL("../c"))` has "x/c" as the RFC says,
    `b2.join(URL("../../c"))` has "c" where the RFC gives "/c").  Cites C15_rfc_join_authority_rootless_base_instances. -/
theorem C15_headline_rfc_join_fails_for_authority_rootless_base (e : Env) :
    let b := fromParts "http".toStr "h".toStr "x/y".toStr [] []
    let b2 := fromParts "http".toStr "h".toStr "x/y/".toStr [] []
    let r (p : String) := fromParts [] [] p.toStr [] []
    (join e b (r "c")).path = "///c".toStr ∧ Rfc.removeDotSegments (target b (r "c")) = "x/c".toStr ∧
    (join e b2 (r "../c")).path = "x/c".toStr ∧ Rfc.removeDotSegments (target b2 (r "../c")) = "x/c".toStr ∧
    (join e b2 (r "../../c")).path = "c".toStr ∧ Rfc.removeDotSegments (target b2 (r "../../c")) = "/c".toStr :=
  C15_rfc_join_authority_rootless_base_instances e

/-! ## Sentence 1, first half — "however produced": the `encoded=True` entry points (C15Headline GAPS 5) -/

/-- `URL(s, encoded=True)`: the stored path IS the Appendix-B path of the cleaned input, never normalised — with or
    without authority; "no dot segment" holds IFF the input's path has none.  Cites C15_encoded_constructor_iff. -/
theorem C15_headline_encoded_constructor (e : Env) (s : Str) (u : Url)
    (h : preEncodedUrl e s = .ok u) :   -- the encoded=True constructor succeeded
    u.path = (Rfc.appendixB Gen.schemeChars (cleanUrl s)).path ∧
    (NoDotSegments u.path ↔ NoDotSegments (Rfc.appendixB Gen.schemeChars (cleanUrl s)).path) :=
  C15_encoded_constructor_iff e s u h

/-- `URL.build(path=p, encoded=True)`: the stored path IS `p` (not even required to be rooted), the netloc is the
    authority / host arguments verbatim; "no dot segment" holds IFF `p` has none.  Cites C15_encoded_build_iff. -/
theorem C15_headline_encoded_build (e : Env) (a : BuildArgs) (u : Url)
    (ha : a.encoded = true)             -- the encoded=True route
    (h : build e a = .ok u) :
    u.path = a.path ∧ u.netloc = C07_encBuildNetloc a ∧ (NoDotSegments u.path ↔ NoDotSegments a.path) :=
  C15_encoded_build_iff e a u ha h

/-- `with_path(p, encoded=True)`: the stored path is `p`, rooted with '/' when non-empty and rootless, never normalised —
    whatever the receiver; "no dot segment" holds IFF `p` has none.  Cites C15_encoded_with_path_iff. -/
theorem C15_headline_encoded_with_path (e : Env) (u : Url) (p : Str) (kq kf : Bool) :
    (withPath e u p true kq kf).path = fixRoot p ∧ (withPath e u p true kq kf).netloc = u.netloc ∧
    (NoDotSegments (withPath e u p true kq kf).path ↔ NoDotSegments p) :=
  C15_encoded_with_path_iff e u p kq kf

/-- hence the clause "whenever a URL has an authority, its path — however produced — contains no '.' or '..' segment" is
    FALSE for `with_path(…, encoded=True)` and `build(…, encoded=True)` on EVERY rooted argument that has a dot segment
    (general form of the computed witness `C15_headline_entry_fails_for_encoded_true`; the exemption is by design and the
    property text does not mention it).  Cites C15_encoded_keeps_dot_segments. -/
theorem C15_headline_entry_fails_for_encoded_true_general (e : Env) (u : Url) (p : Str) (kq kf : Bool)
    (hp : ¬ NoDotSegments (47 :: p)) :  -- the rooted argument "/" ++ p has a dot segment
    ¬ NoDotSegments (withPath e u (47 :: p) true kq kf).path ∧
    (∀ a v, a.encoded = true → a.path = 47 :: p → build e a = .ok v → ¬ NoDotSegments v.path) :=
  C15_encoded_keeps_dot_segments e u p kq kf hp

/-- `/`, `joinpath(*ps)` and `joinpath(*ps, encoded=True)` are ONE function of the per-argument text
    (`C15_childText e encoded`: PATH_QUOTER of the argument, resp. the argument itself): ValueError iff an argument
    starts with '/', otherwise `childOf` — whose stored path is the plain '/'-join of old and new segments when the
    receiver has no authority or no argument text contains a '.', and otherwise the WHOLE merged segment list
    normalised.  So `encoded=True` does NOT switch normalisation off for joinpath; it only replaces the quoter by the
    identity.  Cites C15_make_child_any_mode, C15_childOf_path. -/
theorem C15_headline_encoded_joinpath (e : Env) (u : Url) (paths : List Str) (encoded : Bool) :
    let X := C15_childSegsF (C15_childText e encoded) paths
    let nn := C15_anyDotF (C15_childText e encoded) paths
    makeChild e u paths encoded =
      (if paths.any (fun p => p.head? = some 47) then .error .valueError else .ok (childOf u X nn)) ∧
    (childOf u X nn).scheme = u.scheme ∧ (childOf u X nn).netloc = u.netloc ∧
    (childOf u X nn).query = [] ∧ (childOf u X nn).fragment = [] ∧
    (childOf u X nn).path =
      (if u.netloc = [] ∨ nn = false then joinC 47 (root u.netloc (base u ++ X))
       else fixRoot (joinC 47 (normalizePathSegments (root u.netloc (base u ++ X))))) :=
  ⟨C15_make_child_any_mode e u paths encoded, C15_childOf_path u _ _⟩

/-- the `encoded=True` entry points on `u = URL('http://U:P@H:080/a/../b?x y#é', encoded=True)` (both backends; Python:
    `u.with_path('/p/./q', encoded=True)` → "/p/./q", `…('p/../q', encoded=True)` → "/p/../q", `…('', encoded=True)` → "";
    the same arguments WITHOUT encoded=True → "/p/q", "/q"; `u.joinpath('/c', encoded=True)` raises;
    `u.joinpath('%2E%2E', encoded=True)` → "/a/../b/%2E%2E" (nothing is decoded, no '.', nothing normalised);
    `u.joinpath('%2E%2E', 'x.y', encoded=True)` → "/b/%2E%2E/x.y" (the literal '.' normalises the whole path, old ".."
    included).  Cites C15_encoded_entry_points_instance. -/
theorem C15_headline_encoded_entry_points_instance (b : Backend) :
    let e : Env := ⟨b, Oracles.empty⟩
    let u := fromParts "http".toStr "U:P@H:080".toStr "/a/../b".toStr "x y".toStr [233]
    (withPath e u "/p/./q".toStr true false false).path = "/p/./q".toStr ∧
    (withPath e u "p/../q".toStr true false false).path = "/p/../q".toStr ∧
    (withPath e u [] true false false).path = [] ∧
    (withPath e u "/p/./q".toStr false false false).path = "/p/q".toStr ∧
    (withPath e u "p/../q".toStr false false false).path = "/q".toStr ∧
    makeChild e u ["/c".toStr] true = .error .valueError ∧
    (makeChild e u ["%2E%2E".toStr] true).map (·.path) = .ok "/a/../b/%2E%2E".toStr ∧
    (makeChild e u ["%2E%2E".toStr, "x.y".toStr] true).map (·.path) = .ok "/b/%2E%2E/x.y".toStr :=
  C15_encoded_entry_points_instance b

/-! ## Sentence 1, first half — URLs OUTSIDE `ReachC`: what every operation does to a URL that carries dot segments
    under an authority (C15Headline GAPS 4) -/

/-- the scheme / authority / query / fragment modifiers and `relative()` copy the stored path — for ANY receiver (no
    `CanonUrl`, no `ReachC`): the result has a dot segment iff the receiver had one.
    Cites C15_derived_path_kept. -/
theorem C15_headline_derived_path_kept (e : Env) (u : Url) :
    (∀ x v, withScheme e u x = .ok v → v.path = u.path) ∧
    (∀ x v, withUser e u x = .ok v → v.path = u.path) ∧
    (∀ x v, withPassword e u x = .ok v → v.path = u.path) ∧
    (∀ x v, withHost e u x = .ok v → v.path = u.path) ∧
    (∀ x k v, withPort e u x k = .ok v → v.path = u.path) ∧
    (∀ a v, withQuery e u a = .ok v → v.path = u.path) ∧
    (∀ a v, extendQuery e u a = .ok v → v.path = u.path) ∧
    (∀ a v, updateQuery e u a = .ok v → v.path = u.path) ∧
    (∀ ns v, withoutQueryParams e u ns = .ok v → v.path = u.path) ∧
    (∀ f, (withFragment e u f).path = u.path) ∧
    (∀ v, relative u = .ok v → v.path = u.path) :=
  C15_derived_path_kept e u

/-- `/` and `joinpath` in EITHER mode on a URL with an authority and ANY stored path (this removes the guard
    `NoDotSegments u.path` of `C15_headline_entry_joinpath` by saying exactly what happens without it): the result has no
    dot segment IFF some argument text contains a '.' (then the WHOLE merged path is normalised, old dot segments
    included) or the receiver's path had none.  So `/ "x"` on `URL("http://h/a/../b", encoded=True)` does NOT
    re-establish the invariant, `/ "x.y"` does.  Cites C15_joinpath_dots_iff. -/
theorem C15_headline_derived_joinpath_iff (e : Env) (u v : Url) (paths : List Str) (encoded : Bool)
    (hn : u.netloc ≠ [])                -- "whenever a URL has an authority"
    (h : makeChild e u paths encoded = .ok v) :
    NoDotSegments v.path ↔
      (C15_anyDotF (C15_childText e encoded) paths = true ∨ NoDotSegments u.path) :=
  C15_joinpath_dots_iff e u v paths encoded hn h

/-- … with the stored path written out: (a) a '.' in some argument text: the normalised merged list, no dot segment;
    (b) none: the plain '/'-join, every old segment other than a trailing empty one still there, old dot segments
    included.  Cites C15_derived_make_child. -/
theorem C15_headline_derived_joinpath_exact (e : Env) (u v : Url) (paths : List Str) (encoded : Bool)
    (hn : u.netloc ≠ [])                -- "whenever a URL has an authority"
    (h : makeChild e u paths encoded = .ok v) :
    let f := C15_childText e encoded
    let X := C15_childSegsF f paths
    (C15_anyDotF f paths = true →
      v.path = fixRoot (joinC 47 (normalizePathSegments (root u.netloc (base u ++ X)))) ∧ NoDotSegments v.path) ∧
    (C15_anyDotF f paths = false →
      v.path = joinC 47 (root u.netloc (base u ++ X)) ∧
      (∀ s ∈ base u, s ∈ splitOn 47 v.path) ∧
      (¬ NoDotSegments u.path → ¬ NoDotSegments v.path)) :=
  C15_derived_make_child e u v paths encoded hn h

/-- … both directions at a witness (both backends): `u = URL("http://h/a/../b", encoded=True)`; `u / "c"` is
    "/a/../b/c" (dots stay), `u / "c.d"` is "/b/c.d", `u.joinpath("c", encoded=True)` is "/a/../b/c",
    `u.joinpath("c.d", encoded=True)` is "/b/c.d".  Cites C15_joinpath_dots_iff_instances. -/
theorem C15_headline_derived_joinpath_instances (b : Backend) :
    let e : Env := ⟨b, Oracles.empty⟩
    let u := fromParts "http".toStr "h".toStr "/a/../b".toStr [] []
    (makeChild e u ["c".toStr] false).map (·.path) = .ok "/a/../b/c".toStr ∧
    (makeChild e u ["c.d".toStr] false).map (·.path) = .ok "/b/c.d".toStr ∧
    (makeChild e u ["c".toStr] true).map (·.path) = .ok "/a/../b/c".toStr ∧
    (makeChild e u ["c.d".toStr] true).map (·.path) = .ok "/b/c.d".toStr ∧
    C15_anyDotF (C15_childText e false) ["c".toStr] = false ∧
    C15_anyDotF (C15_childText e false) ["c.d".toStr] = true :=
  C15_joinpath_dots_iff_instances b

/-- `with_name(n)`, `with_suffix(s)` and `parent` on a URL with an authority and a rooted path: nothing is normalised, all
    '/'-segments but the last are kept, the last one is replaced by a name that is never "." / ".." (resp. dropped).  So
    the result has no dot segment IFF no segment of `u.path` other than the LAST is one.
    Cites C15_with_name_suffix_parent_dots_iff. -/
theorem C15_headline_derived_name_suffix_parent_iff (e : Env) (u : Url) (r : Str) (kq kf : Bool)
    (hn : u.netloc ≠ [])                -- "whenever a URL has an authority"
    (hp : u.path = 47 :: r) :           -- guard: the stored path is rooted (a rootless one next to an authority: not covered)
    (∀ nm v, PyStr nm →                 -- model artefact: the argument is a Python str
      withName e u nm kq kf = .ok v →
      (NoDotSegments v.path ↔ NoDots (splitOn 47 u.path).dropLast)) ∧
    (∀ sfx v, PyStr sfx →               -- model artefact
      withSuffix e u sfx kq kf = .ok v →
      (NoDotSegments v.path ↔ NoDots (splitOn 47 u.path).dropLast)) ∧
    (r ≠ [] →                           -- guard: the path is not "/" (then `parent` is the URL without query / fragment)
      (NoDotSegments (parent u).path ↔ NoDots (splitOn 47 u.path).dropLast)) :=
  C15_with_name_suffix_parent_dots_iff e u r kq kf hn hp

/-- … `parent`, the stored path written out: the segments without the last one, verbatim.
    Cites C15_derived_parent. -/
theorem C15_headline_derived_parent (u : Url) (r : Str)
    (hn : u.netloc ≠ [])                -- "whenever a URL has an authority"
    (hp : u.path = 47 :: r)             -- guard: rooted path
    (hr : r ≠ []) :                     -- guard: not "/"
    (parent u).path = joinC 47 ([] :: (splitOn 47 r).dropLast) ∧
    (parent u).netloc = u.netloc ∧ (parent u).scheme = u.scheme ∧
    splitOn 47 (parent u).path = (splitOn 47 u.path).dropLast :=
  C15_derived_parent u r hn hp hr

/-- … `with_name` / `with_suffix`, the segments written out: all but the last verbatim, the last replaced by a
    slash-free name.  Cites C15_derived_with_name_suffix. -/
theorem C15_headline_derived_with_name_suffix (e : Env) (u v : Url) (r : Str) (kq kf : Bool)
    (hn : u.netloc ≠ [])                -- "whenever a URL has an authority"
    (hp : u.path = 47 :: r) :           -- guard: rooted path
    (∀ nm, PyStr nm → withName e u nm kq kf = .ok v →
      splitOn 47 v.path = (splitOn 47 u.path).dropLast ++ [q e Gen.PATH_QUOTER nm] ∧ v.netloc = u.netloc) ∧
    (∀ sfx, PyStr sfx → withSuffix e u sfx kq kf = .ok v →
      ∃ n', 47 ∉ n' ∧ splitOn 47 v.path = (splitOn 47 u.path).dropLast ++ [n'] ∧ v.netloc = u.netloc) :=
  C15_derived_with_name_suffix e u v r kq kf hn hp

/-- … witnesses (both backends; Python: `URL("http://h/a/..", encoded=True).with_name("n")` → "/a/n" (clean),
    `URL("http://h/a/../b", encoded=True).with_name("n")` → "/a/../n", `.with_suffix(".x")` → "/a/../b.x", `.parent` →
    "/a/..", `URL("http://h/a/./b", encoded=True).parent.parent` → "/a").
    Cites C15_with_name_suffix_parent_instances. -/
theorem C15_headline_derived_name_suffix_parent_instances (b : Backend) :
    let e : Env := ⟨b, Oracles.empty⟩
    let u1 := fromParts "http".toStr "h".toStr "/a/..".toStr [] []
    let u2 := fromParts "http".toStr "h".toStr "/a/../b".toStr [] []
    let u3 := fromParts "http".toStr "h".toStr "/a/./b".toStr [] []
    (withName e u1 "n".toStr false false).map (·.path) = .ok "/a/n".toStr ∧
    (withName e u2 "n".toStr false false).map (·.path) = .ok "/a/../n".toStr ∧
    (withSuffix e u2 ".x".toStr false false).map (·.path) = .ok "/a/../b.x".toStr ∧
    (parent u2).path = "/a/..".toStr ∧ (parent (parent u3)).path = "/a".toStr :=
  C15_with_name_suffix_parent_instances b

/-- `base.join(ref)` in the merge branch, ANY base path (this removes the guard `NoDotSegments base.path` of
    `C15_headline_entry_join`): the result has no dot segment IFF the reference path is non-empty (the merged path is
    normalised) or the base path had none (an empty reference path copies the base path).  So `u.join(URL("x"))`
    re-establishes the invariant, `u.join(URL("?q"))` and `u.join(URL("#f"))` do not.
    Cites C15_join_base_dots_iff. -/
theorem C15_headline_derived_join_iff (e : Env) (base ref : Url)
    (hsch : ref.scheme = [] ∨ ref.scheme = base.scheme)     -- guard: the reference is relative to this base
    (hrel : Gen.usesRelative.contains base.scheme = true)   -- guard: otherwise join returns `ref` itself
    (hauth : ref.netloc = [] ∨ Gen.usesAuthority.contains base.scheme = false) :
                                                            -- guard: the reference brings no authority of its own
    NoDotSegments (join e base ref).path ↔ (ref.path ≠ [] ∨ NoDotSegments base.path) :=
  C15_join_base_dots_iff e base ref hsch hrel hauth

/-- `join` with a reference that carries its OWN authority: the result has the reference's authority and path as they
    are — it has no dot segment IFF the reference has none (general form of `C15_headline_entry_join_fails_for`; this is
    why `C15_headline_entry_join` needs `NoDotSegments ref.path`).  Cites C15_join_ref_dots_iff. -/
theorem C15_headline_derived_join_ref (e : Env) (base ref : Url)
    (hsch : ref.scheme = [] ∨ ref.scheme = base.scheme)     -- guard: the reference is relative to this base
    (hrel : Gen.usesRelative.contains base.scheme = true)   -- guard: otherwise join returns `ref` itself
    (hn : ref.netloc ≠ []) :                                 -- the reference has an authority
    (join e base ref).netloc = ref.netloc ∧
    (NoDotSegments (join e base ref).path ↔ NoDotSegments ref.path) :=
  C15_join_ref_dots_iff e base ref hsch hrel hn

/-- `join` outside the merge branch takes the reference as it is: another scheme, or a scheme outside `uses_relative`,
    gives `ref` itself; a reference with its own authority gives `ref`'s authority and path.
    Cites C15_derived_join_ref_verbatim. -/
theorem C15_headline_derived_join_ref_verbatim (e : Env) (base ref : Url) :
    ((ref.scheme ≠ [] ∧ ref.scheme ≠ base.scheme) → join e base ref = ref) ∧
    ((ref.scheme = [] ∨ ref.scheme = base.scheme) → Gen.usesRelative.contains base.scheme = false →
      join e base ref = ref) ∧
    ((ref.scheme = [] ∨ ref.scheme = base.scheme) → Gen.usesRelative.contains base.scheme = true →
      ref.netloc ≠ [] → Gen.usesAuthority.contains base.scheme = true →
      (join e base ref).path = ref.path ∧ (join e base ref).netloc = ref.netloc) :=
  C15_derived_join_ref_verbatim e base ref

/-- … witnesses: `u = URL("http://h/a/../b", encoded=True)`; `u.join(URL("x"))` → "/x" (clean), `u.join(URL("?q"))` →
    "/a/../b", `URL("http://h/p").join(URL("//g/a/../b", encoded=True))` → "/a/../b" under the authority "g".
    Cites C15_join_dots_instances. -/
theorem C15_headline_derived_join_instances (e : Env) :
    let u := fromParts "http".toStr "h".toStr "/a/../b".toStr [] []
    (join e u (fromParts [] [] "x".toStr [] [])).path = "/x".toStr ∧
    (join e u (fromParts [] [] [] "q".toStr [])).path = "/a/../b".toStr ∧
    (join e (fromParts "http".toStr "h".toStr "/p".toStr [] []) (fromParts [] "g".toStr "/a/../b".toStr [] [])).path
      = "/a/../b".toStr ∧
    (join e (fromParts "http".toStr "h".toStr "/p".toStr [] []) (fromParts [] "g".toStr "/a/../b".toStr [] [])).netloc
      = "g".toStr :=
  C15_join_dots_instances e

/-- every modifier on ONE URL with an authority AND dot segments, `u = URL('http://U:P@H:080/a/../b?x y#é',
    encoded=True)` (both backends; Python: `u.with_query('k=v')`, `u.with_fragment(None)`, `u / 'c'`, `u / 'c.d'`,
    `u.joinpath('c.d', encoded=True)`, `u.joinpath('c', encoded=True)`, `u.parent`, `u.with_name('n')`,
    `u.with_suffix('.x')`, `u.join(URL('z'))`, `u.join(URL('?q'))`, `u.with_user('n')`): paths "/a/../b", "/a/../b",
    "/a/../b/c", "/b/c.d", "/b/c.d", "/a/../b/c", "/a/..", "/a/../n", "/a/../b.x", "/z", "/a/../b", "/a/../b".
    Cites C15_derived_from_encoded_instance. -/
theorem C15_headline_derived_from_encoded_instance (b : Backend) :
    let e : Env := ⟨b, Oracles.empty⟩
    let u := fromParts "http".toStr "U:P@H:080".toStr "/a/../b".toStr "x y".toStr [233]
    preEncodedUrl e ("http://U:P@H:080/a/../b?x y#".toStr ++ [233]) = .ok u ∧
    (withQuery e u (.str "k=v".toStr)).map (·.path) = .ok "/a/../b".toStr ∧
    (withFragment e u none).path = "/a/../b".toStr ∧
    (makeChild e u ["c".toStr] false).map (·.path) = .ok "/a/../b/c".toStr ∧
    (makeChild e u ["c.d".toStr] false).map (·.path) = .ok "/b/c.d".toStr ∧
    (makeChild e u ["c.d".toStr] true).map (·.path) = .ok "/b/c.d".toStr ∧
    (makeChild e u ["c".toStr] true).map (·.path) = .ok "/a/../b/c".toStr ∧
    (parent u).path = "/a/..".toStr ∧
    (withName e u "n".toStr false false).map (·.path) = .ok "/a/../n".toStr ∧
    (withSuffix e u ".x".toStr false false).map (·.path) = .ok "/a/../b.x".toStr ∧
    (join e u (fromParts [] [] "z".toStr [] [])).path = "/z".toStr ∧
    (join e u (fromParts [] [] [] "q".toStr [])).path = "/a/../b".toStr ∧
    (withUser e u (some "n".toStr)).map (·.path) = .ok "/a/../b".toStr :=
  C15_derived_from_encoded_instance b

/-! ## non-vacuity -/

-- `C15_headline_rfc_join_no_authority` on a base without authority where the RFC and yarl AGREE (no escape) …
example (e : Env) :
    (join e (fromParts [] [] "x/y/z".toStr [] []) (fromParts [] [] "../c".toStr [] [])).path
      = Rfc.removeDotSegments (target (fromParts [] [] "x/y/z".toStr [] []) (fromParts [] [] "../c".toStr [] [])) :=
  (C15_headline_rfc_join_no_authority e _ _ (by decide +kernel) (Or.inl rfl) rfl rfl (by decide +kernel)).2.2.2.2.2 (by decide +kernel)
-- … and the two values of the deciding condition
example : C14_deviates "x/y".toStr "../../c".toStr = true ∧ C14_deviates "x/y/z".toStr "../c".toStr = false := by str_lits; decide +kernel

-- `C15_headline_rfc_join_authority_rootless_base`: the hypotheses are satisfiable (`URL.build(scheme="http", host="h",
-- path="x/y", encoded=True)` joined with `URL("c")`), and the theorem gives the stored path
example : joinPath (fromParts "http".toStr "h".toStr "x/y".toStr [] []) (fromParts [] [] "c".toStr [] [])
    = Rfc.removeDotSegments "///c".toStr := by
  have h := (C15_headline_rfc_join_authority_rootless_base (fromParts "http".toStr "h".toStr "x/y".toStr [] [])
    (fromParts [] [] "c".toStr [] []) 120 "/y".toStr (by decide +kernel) rfl (by decide +kernel) (by decide +kernel) (by decide +kernel)).1
  rw [h]
  decide +kernel

-- `C15_headline_encoded_with_path`: the equivalence at a witness (any receiver)
example (e : Env) (u : Url) : ¬ NoDotSegments (withPath e u "a/../b".toStr true false false).path :=
  fun h => absurd ((C15_headline_encoded_with_path e u _ false false).2.2.1 h) (by decide +kernel)

-- `C15_headline_derived_joinpath_iff` through the theorem: `URL("http://h/a/../b", encoded=True) / "c"` keeps its dots
example : ∀ v, makeChild ⟨.py, Oracles.empty⟩ (fromParts "http".toStr "h".toStr "/a/../b".toStr [] []) ["c".toStr] false
    = .ok v → ¬ NoDotSegments v.path := by
  intro v hv h
  rcases (C15_headline_derived_joinpath_iff ⟨.py, Oracles.empty⟩ _ v _ false (by decide +kernel) hv).1 h with h1 | h1
  · exact absurd h1 (by decide +kernel)
  · exact absurd h1 (by decide +kernel)

end Yarl
