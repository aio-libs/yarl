import YarlProofs.C08
import YarlProofs.C08Audit
import YarlProofs.C08Yarl
import YarlProofs.C08Multi
import YarlProofs.C08Bridge
/-!
  C08Headline.lean — AUDIT LAYER for property C08.

  C08 | URL values are immutable and results do not depend on history |
  "A URL never changes after creation: no sequence of property reads, method calls, comparisons, hashing, pickling or
  cache reconfiguration alters the observable state of any existing URL or of any argument passed in. The outcome
  (value or exception) of every API call is a function of its arguments only - not of which calls preceded it, the
  fill state or configured size of the internal caches, or whether an equal URL was created before."

  Vocabulary (YarlModel/Cache.lean).  A `World` = heap of objects (`parts` + per-object `memo` dict) + the table of the
  `lru_cache` in front of a constructor (any capacity `cap`: `none` unbounded, `some 0` disabled; any eviction `Policy`).
  Programs are lists of `Op`: `.new k` (cached constructor call), `.read h name` (accessor on handle `h`), `.twin h`
  (pickle / copy / deepcopy), `.clear`, `.configure cap`.  `run sem pol w hs ops` = the outputs of the implementation
  (cache hits return SHARED objects, reads fill memos, constructors pre-fill them); `specRun sem shs ops` = the outputs
  of the cache-free specification where a handle IS its value.  `Sem` packs the pure semantics (`construct`, `derive`,
  `prefill`); `yarlSem e` instantiates it with `encode_url` / the accessors of YarlModel/Url.lean (`acc e u name`) on the
  keys `GoodKey e` = input strings inside the guard `GoodAuthority` of property C09.

  The file has two halves: first the single-cache machine above (theorems `C08_headline_*`), then — after a second
  vocabulary block — the machine with SEVERAL caches, derivations (modifiers), `hash` and comparisons of
  YarlModel/CacheMulti.lean (theorems `C08_headline_multi_*`, proofs in C08Multi.lean), which closes GAPS 1, 2, 6.
  Continued in C08HeadlineMore3.lean (GAPS 7: the end-to-end bridge to the monolithic model for EVERY derivation incl. `join` /
  `.fn f`; GAPS 4: raising constructors are never cached; proofs in C08Bridge.lean).
-/
namespace Yarl
open Yarl.Cache Yarl.CacheLemmas Yarl.CacheInst
variable {Key Parts Val : Type} [DecidableEq Key]

/-! ## Sentence 1 — "A URL never changes after creation: no sequence of property reads, method calls, comparisons,
    hashing, pickling or cache reconfiguration alters the observable state of any existing URL or of any argument
    passed in." -/

/-- "A URL never changes after creation: no sequence of property reads, … pickling or cache reconfiguration alters …
    any existing URL": after ANY program the object with id `id` is still there with the same parts — for every
    semantics, policy and world, no hypothesis. -/
theorem C08_headline_parts_never_change (sem : Sem Key Parts Val) (pol : Policy Key) (w : World Key Parts Val)
    (hs : List (Option Nat)) (ops : List (Op Key Parts)) (id : Nat) (o : Obj Parts Val) :
    w.heap[id]? = some o →
    ∃ o', (runWorld sem pol w hs ops).1.heap[id]? = some o' ∧ o'.parts = o.parts :=
  C08_frame_run sem pol w hs ops id o
-- Appendix E: C08_frame ↦ C08_frame (one step), C08_frame_run (used here), C08_frame_from_creation (from the `.new` that
--             allocated the object).  `partsAtCreation ops i` became "the parts the object has when it first exists".

/-- "… the observable state of any existing URL": what an accessor returns through a live handle is the same before and
    after any program (specification level; by the refinement theorem below also at implementation level). -/
theorem C08_headline_observable_state_stable (sem : Sem Key Parts Val) (shs : List (Option Parts))
    (ops : List (Op Key Parts)) (h : Nat) (name : String) (hl : h < shs.length) :
    specRead sem (specHandles sem shs ops) h name = specRead sem shs h name :=
  C08_read_stable sem shs ops h name hl

/-- the link to the SOURCE: in `_url.py` every assignment to a URL slot, outside `__setstate__`, targets an object made by
    `object.__new__(URL)` in the same function (extracted from /repo on every run by harness/extract_tables.py). -/
theorem C08_headline_source_audit : Gen.slotWritesOnlyFresh = true := C08_slot_writes_only_fresh

/-! ## Sentence 2 — "The outcome (value or exception) of every API call is a function of its arguments only - not of
    which calls preceded it, the fill state or configured size of the internal caches, or whether an equal URL was
    created before." -/

/-- The sentence for an abstract semantics: for every program, capacity and eviction policy the implementation's outputs
    are those of the cache-free specification. -/
theorem C08_headline_history_independent (sem : Sem Key Parts Val) (pol : Policy Key)
    -- what a constructor pre-computes is what the accessor would compute — property C09; needed: C08_prefill_needed
    (hp : PrefillOK sem)
    (cap : Option Nat) (ops : List (Op Key Parts)) :
    run sem pol { heap := [], table := [], cap := cap } [] ops = specRun sem [] ops :=
  C08_history_independent sem pol hp cap ops
-- Appendix E: C08_history_independent ↦ C08_history_independent (same name).  `outputs (run World.init ops) =
--             ops.map (pureOut ∘ resolve)` became `run … = specRun sem [] ops`; the hypothesis `PrefillOK` is new.

/-- "a function of its arguments only": a read after ANY history returns `derive p name` for the value `p` of its handle -/
theorem C08_headline_read_function_of_arguments (sem : Sem Key Parts Val) (pol : Policy Key) (hp : PrefillOK sem)
    (cap : Option Nat) (ops : List (Op Key Parts)) (h : Nat) (name : String) :
    (run sem pol { heap := [], table := [], cap := cap } [] (ops ++ [.read h name])).getLast? =
      some (match (specHandles sem [] ops)[h]? with
            | some (some p) => .value (some (sem.derive p name))
            | _ => .value none) :=
  C08_read_is_function_of_parts_last sem pol hp cap ops h name

/-- "not of … the fill state or configured size of the internal caches": two runs that differ only in initial capacity,
    eviction policy and interleaved cache_clear() / cache_configure() agree on every other output. -/
theorem C08_headline_cache_configuration_unobservable (sem : Sem Key Parts Val) (pol pol' : Policy Key)
    (hp : PrefillOK sem) (cap cap' : Option Nat) (ops ops' : List (Op Key Parts))
    (hsame : ops.filter (fun o => !isCacheOp o) = ops'.filter (fun o => !isCacheOp o)) :
    nonCacheOuts ops (run sem pol { heap := [], table := [], cap := cap } [] ops) =
      nonCacheOuts ops' (run sem pol' { heap := [], table := [], cap := cap' } [] ops') :=
  C08_cache_config_irrelevant sem pol pol' hp cap cap' ops ops' hsame

/-! ### the same for the REAL constructor and accessors -/

/-- yarl's cached auto-encoding constructor + memo: `PrefillOK` is discharged (by C09_eager_eq_lazy), for keys inside
    the C09 guard; and for `URL(s, encoded=True)` (no prefill) for ALL strings. -/
theorem C08_headline_yarl_history_independent (e : Env) (cap : Option Nat) :
    (∀ (pol : Policy (GoodKey e)) (ops : List (Op (GoodKey e) Url)),
      run (yarlSem e) pol { cap := cap } [] ops = specRun (yarlSem e) [] ops) ∧
    (∀ (pol : Policy Str) (ops : List (Op Str Url)),
      run (yarlSemEncoded e) pol { cap := cap } [] ops = specRun (yarlSemEncoded e) [] ops) :=
  ⟨fun pol ops => C08_yarl_history_independent e pol cap ops,
   fun pol ops => C08_yarl_encoded_history_independent e pol cap ops⟩

/-- NEW (two-line instance): EVERY cached constructor that pre-fills nothing — `from_parts`, `build_pre_encoded_url`, i.e.
    the producers behind build() and all modifiers, whatever they compute (`construct`) and whatever the accessors are
    (`derive`) — is history independent; `PrefillOK` is vacuous for it. -/
theorem C08_headline_no_prefill_constructors (construct : Key → Option Parts) (derive : Parts → String → Val)
    (pol : Policy Key) (cap : Option Nat) (ops : List (Op Key Parts)) :
    let sem : Sem Key Parts Val := { construct := construct, derive := derive, prefill := fun _ _ => [] }
    run sem pol { heap := [], table := [], cap := cap } [] ops = specRun sem [] ops := by
  intro sem
  exact C08_history_independent sem pol (fun k p _ nv hnv => by cases hnv) cap ops

/-- "not of which calls preceded it … or whether an equal URL was created before": `URL(s)`, then ANY history (other
    constructions of the same or an equal URL, reads, copies, clears), then accessor `name` — through the first handle or
    through a copy made at any later point — returns the model's accessor on the constructor's own result. -/
theorem C08_headline_yarl_read_after_any_history (e : Env) (pol : Policy (GoodKey e)) (cap : Option Nat)
    (k : GoodKey e)   -- `k.2 : GoodAuthority e k.1`; outside the guard FALSE: C08_headline_fails_for_* below
    (u : Url) (hu : encodeUrl e k.1 = .ok u) (ops ops' : List (Op (GoodKey e) Url)) (name : String) :
    (run (yarlSem e) pol { cap := cap } [] (.new k :: ops ++ [.read 0 name])).getLast? =
      some (.value (some (acc e u name))) ∧
    (run (yarlSem e) pol { cap := cap } []
      ((.new k :: ops) ++ .twin 0 :: ops' ++ [.read (specHandles (yarlSem e) [] (.new k :: ops)).length name])).getLast? =
      some (.value (some (acc e u name))) :=
  ⟨C08_yarl_read_after_any_history e pol cap k u hu ops name,
   C08_yarl_twin_read_after_any_history e pol cap k u hu ops ops' name⟩

/-- KNOWN FINDING F-C09-bracket seen from C08: for "http://[[::1]/" the original answers raw_host "::" from the pre-filled
    memo, its copy computes "::1" — two equal URLs, two answers (the specification says "::1" for both). -/
theorem C08_headline_fails_for_malformed_brackets :
    run (yarlSemAll envPy) lruPol { cap := some 128 } []
        [.new "http://[[::1]/".toStr, .twin 0, .read 0 "raw_host", .read 1 "raw_host"] =
      [.handle (some badParts), .handle (some badParts),
       .value (some (.ostr (.ok (some "::".toStr)))), .value (some (.ostr (.ok (some "::1".toStr))))] ∧
    specRun (yarlSemAll envPy) []
        [.new "http://[[::1]/".toStr, .twin 0, .read 0 "raw_host", .read 1 "raw_host"] =
      [.handle (some badParts), .handle (some badParts),
       .value (some (.ostr (.ok (some "::1".toStr)))), .value (some (.ostr (.ok (some "::1".toStr))))] :=
  C08_yarl_guard_needed_observable

/-- KNOWN FINDING F-C09-empty-authority seen from C08: for "//@" the original answers raw_host "", its copy `None`. -/
theorem C08_headline_fails_for_empty_authority :
    run (yarlSemAll envPy) lruPol { cap := some 128 } []
        [.new "//@".toStr, .twin 0, .read 0 "raw_host", .read 1 "raw_host"] =
      [.handle (some { scheme := [], netloc := [], path := [], query := [], fragment := [] }),
       .handle (some { scheme := [], netloc := [], path := [], query := [], fragment := [] }),
       .value (some (.ostr (.ok (some [])))), .value (some (.ostr (.ok none)))] :=
  C08_yarl_guard_needed_empty

end Yarl

/-! # The machine with SEVERAL caches, derivations, hashing and comparisons (closes GAPS 1, 2, 6)

  Vocabulary (YarlModel/CacheMulti.lean, namespace `Yarl.MultiCache`; proofs in C08Multi.lean).  The `World` now has ONE
  heap of objects and, for every cache `i : I` and every GENERATION `g` of that cache, a table, a capacity `caps i g` and the
  current binding `gen i` of the module global (`cache_configure` REBINDS: it starts generation `gen i + 1`; old tables stay).
  `Op`s: `.new k` (a cached call; `cacheOf k` says through which cache), `.read h name`, `.hash h` (memoised under
  `_cache["hash"]`), `.cmp c h1 h2` (`c` one of `==`, `!=`, `<`, `<=`, `>`, `>=`), `.twin h` (pickle / copy),
  `.mod h m args` (a DERIVATION = modifier `m` on handle `h` with further URL handles `args`: it raises, returns one of
  its argument OBJECTS, or obtains its result through a cached constructor call, so equal results may be SHARED objects;
  `cached_property` derivations memoise the result object in the source object), `.clear i`, `.configure i cap`.
  `Out`: `.handle (.ok parts)` / `.handle (.error exc)` (a new URL or the exception raised), `.value v`, `.dead` (the
  operation named a handle that denotes no object), `.unit`.  `specRun` / `specStep` / `specHandles` = the cache-free
  specification in which a handle IS its value (`valOf shs h` = the value of handle `h`, `valsOf` of a list of handles);
  `sem.modVal m p ps` = the value or exception of derivation `m` on values `p`, `ps`.
  `yarlMSem e hf` (C08Multi.lean) is the instantiation with the REAL model: objects are the five stored strings `Parts`
  (`Url.ofParts p` = the `Url` with these parts and nothing pre-computed, `Url.parts u` = its five strings); caches
  `YCache` = encodeUrl | preEncodedUrl | buildPreEncoded | fromParts | uncached (`from_parts_uncached` and the non-encoded
  `URL.build`: the cache whose capacity is 0 in reality — the theorems hold for every capacity); keys `YKey e` =
  `.url k` (`URL(s)`, `k : GoodKey e` inside the C09 guard) | `.encoded s` (`URL(s, encoded=True)`) | `.build a`
  (`URL.build(**a)`) | `.parts p` (`from_parts`) | `.partsUncached p`; derivations `YMod` = with_scheme, with_user,
  with_password, with_host, with_port, with_path, with_query, extend_query, update_query, without_query_params,
  with_fragment, with_name, with_suffix, `/` / joinpath (`makeChild`), parent, origin, relative, join (one URL argument),
  and `.fn f` (any further function of the URL that ends in `from_parts`); `yapply e m u args` = what the model's modifier
  computes; accessors = the 34 names of `acc` plus `_sort_key`; `hash p = hf (eqKey (Url.ofParts p))` for an ARBITRARY
  `hf` (Python's process-dependent tuple hash), `eqKey` = the 5-tuple `__eq__` / `__hash__` / ordering use;
  `cmpUrl c a b` = the model's `==` … `>=`.
-/
namespace Yarl
open Yarl.Cache (Val acc GoodKey Policy Obj)
open Yarl.MultiCache Yarl.MultiInst

/-! ## Sentence 1 (several caches) — "no sequence of property reads, method calls, comparisons, hashing, pickling or cache
    reconfiguration alters the observable state of any existing URL or of any argument passed in." -/

/-- "no sequence of property reads, METHOD CALLS, COMPARISONS, HASHING, pickling or cache reconfiguration alters … any
    existing URL or … any argument passed in": after ANY program of the multi-cache machine — constructions through any
    cache, reads, `hash`, the six comparisons, copies, DERIVATIONS (modifiers, with further URL objects as arguments),
    per-cache clears and rebinding configures — the object with id `id` (be it the receiver, an argument of a derivation
    or of a comparison, or any other URL) is still there with the same parts.  Every semantics, policy, world; no
    hypothesis.  Closes GAPS 1 (first half) and the URL-argument part of GAPS 3. -/
theorem C08_headline_multi_parts_never_change {I Key Mod Err Parts Val : Type} [DecidableEq I] [DecidableEq Key]
    (sem : MultiCache.Sem I Key Mod Err Parts Val) (pol : I → Policy Key) (w : MultiCache.World I Key Parts Val)
    (hs : List (Option Nat)) (ops : List (MultiCache.Op I Key Mod)) (id : Nat) (o : Obj Parts Val) :
    w.heap[id]? = some o →
    ∃ o', (MultiCache.runWorld sem pol w hs ops).1.heap[id]? = some o' ∧ o'.parts = o.parts :=
  C08_multi_frame_run sem pol w hs ops id o

/-- "… the observable state of any existing URL" incl. `hash`, comparisons (closes GAPS 6: the composition "`__eq__` /
    `__hash__` / ordering read only the parts, and parts never change" as a theorem): what `hash(h1)`, `h1 <op> h2` and
    every accessor on `h1` output for LIVE handles is the same before and after ANY further program `ops`
    (specification level; by the refinement theorems below also what the implementation outputs). -/
theorem C08_headline_multi_observable_state_stable {I Key Mod Err Parts Val : Type} [DecidableEq I] [DecidableEq Key]
    (sem : MultiCache.Sem I Key Mod Err Parts Val) (shs : List (Option Parts)) (ops : List (MultiCache.Op I Key Mod))
    (c : CmpOp) (h1 h2 : Nat)
    (hl1 : h1 < shs.length) (hl2 : h2 < shs.length) :   -- the handles exist already (before `ops`)
    (MultiCache.specStep sem (MultiCache.specHandles sem shs ops) (.hash h1)).2 = (MultiCache.specStep sem shs (.hash h1)).2 ∧
    (MultiCache.specStep sem (MultiCache.specHandles sem shs ops) (.cmp c h1 h2)).2
      = (MultiCache.specStep sem shs (.cmp c h1 h2)).2 ∧
    ∀ name, (MultiCache.specStep sem (MultiCache.specHandles sem shs ops) (.read h1 name)).2
      = (MultiCache.specStep sem shs (.read h1 name)).2 :=
  C08_multi_hash_cmp_stable sem shs ops c h1 h2 hl1 hl2

/-! ## Sentence 2 (several caches) — "The outcome (value or exception) of every API call is a function of its arguments
    only - not of which calls preceded it, the fill state or configured size of the internal caches, or whether an equal
    URL was created before." -/

/-- The sentence for an abstract multi-cache semantics: for every program, every family of capacities (per cache and
    generation; 0 and unbounded included), every family of eviction policies and every initial binding of the globals,
    the implementation's outputs — exceptions included, as `.handle (.error exc)` — are those of the cache-free
    specification. -/
theorem C08_headline_multi_history_independent {I Key Mod Err Parts Val : Type} [DecidableEq I] [DecidableEq Key]
    (sem : MultiCache.Sem I Key Mod Err Parts Val)
    -- `∀ k p, construct k = .ok p → ∀ nv ∈ prefill k p, nv.2 = attr p nv.1`: what a constructor pre-computes is what the
    -- accessor (or `hash`) would compute — property C09; needed: C08_multi_prefill_needed (C08Multi.lean)
    (hp : MultiCache.PrefillOK sem)
    -- two derivations memoised under the same property name are the same function (in yarl: "parent" and "_origin", one
    -- derivation each); needed: C08_multi_memo_names_needed (C08Multi.lean)
    (hn : MemoNamesOK sem)
    (pol : I → Policy Key) (caps : I → Nat → Option Nat) (gen : I → Nat) (ops : List (MultiCache.Op I Key Mod)) :
    MultiCache.run sem pol { caps := caps, gen := gen } [] ops = MultiCache.specRun sem [] ops :=
  C08_multi_history_independent hp hn pol caps gen ops

/-- ALL FOUR shared-object constructors of `_url.py` instantiated with the REAL model (closes GAPS 2, first part, and GAPS 1):
    `encode_url` (keys inside the C09 guard), `pre_encoded_url`, `URL.build` / `build_pre_encoded_url`, `from_parts`, and
    `from_parts_uncached`; every modifier of the model as a derivation (`join` with its URL argument; `parent` / `_origin`
    memoised in the source object); `hash`; the six comparisons; the 34 accessors + `_sort_key`; pickling; per-cache clear and
    rebinding configure: for every operation sequence, all capacities, policies and initial bindings, the outputs are those
    of the cache-free specification.  Both side conditions of the abstract theorem are DISCHARGED (`yarl_prefillOK` by
    C09_eager_eq_lazy, `yarl_memoNamesOK`). -/
theorem C08_headline_multi_yarl_history_independent (e : Env)
    (hf : Parts → Int)   -- Python's hash of the 5-tuple: any function
    (pol : YCache → Policy (YKey e)) (caps : YCache → Nat → Option Nat) (gen : YCache → Nat)
    (ops : List (MultiCache.Op YCache (YKey e) YMod)) :   -- `.url k` keys carry `k.2 : GoodAuthority e k.1` (C09 guard, GAPS 5)
    MultiCache.run (yarlMSem e hf) pol { caps := caps, gen := gen } [] ops = MultiCache.specRun (yarlMSem e hf) [] ops :=
  C08_multi_yarl_history_independent e hf pol caps gen ops

/-- "a function of its arguments only" for METHOD CALLS: a derivation after ANY history outputs exactly what the model's
    modifier `yapply e m` computes from the VALUES of its receiver and URL arguments (their five parts) — the new URL's
    parts or the exception; `.dead` only if a handle denotes no object (its creation raised / out of range). -/
theorem C08_headline_multi_yarl_modifier_function_of_arguments (e : Env) (hf : Parts → Int) (pol : YCache → Policy (YKey e))
    (caps : YCache → Nat → Option Nat) (gen : YCache → Nat) (ops : List (MultiCache.Op YCache (YKey e) YMod))
    (h : Nat) (m : YMod) (args : List Nat) :
    (MultiCache.run (yarlMSem e hf) pol { caps := caps, gen := gen } [] (ops ++ [.mod h m args])).getLast? =
      some (match valOf (MultiCache.specHandles (yarlMSem e hf) [] ops) h,
                  valsOf (MultiCache.specHandles (yarlMSem e hf) [] ops) args with
            | some p, some ps => .handle ((yapply e m (Url.ofParts p) (ps.map Url.ofParts)).map Url.parts)
            | _, _ => .dead) := by
  rw [C08_multi_mod_reads_only_parts (yarl_prefillOK e hf) (yarl_memoNamesOK e hf)]
  generalize valOf (MultiCache.specHandles (yarlMSem e hf) [] ops) h = x
  generalize valsOf (MultiCache.specHandles (yarlMSem e hf) [] ops) args = y
  cases x <;> cases y <;> simp only [C08_multi_yarl_modVal]

/-- "a function of its arguments only" for HASHING and COMPARISONS (closes GAPS 6 for the implementation): `hash(url)` —
    whether answered from `_cache["hash"]` (possibly filled through another handle of a shared object) or computed — and
    `url1 <op> url2` after ANY history are functions of the five parts: `hf (eqKey …)` resp. the model's comparison. -/
theorem C08_headline_multi_yarl_hash_and_comparisons (e : Env) (hf : Parts → Int) (pol : YCache → Policy (YKey e))
    (caps : YCache → Nat → Option Nat) (gen : YCache → Nat) (ops : List (MultiCache.Op YCache (YKey e) YMod))
    (c : CmpOp) (h1 h2 : Nat) :
    (MultiCache.run (yarlMSem e hf) pol { caps := caps, gen := gen } [] (ops ++ [.hash h1])).getLast? =
      some (match valOf (MultiCache.specHandles (yarlMSem e hf) [] ops) h1 with
            | some p => .value (.hash (hf (eqKey (Url.ofParts p))))
            | none => .dead) ∧
    (MultiCache.run (yarlMSem e hf) pol { caps := caps, gen := gen } [] (ops ++ [.cmp c h1 h2])).getLast? =
      some (match valOf (MultiCache.specHandles (yarlMSem e hf) [] ops) h1,
                  valOf (MultiCache.specHandles (yarlMSem e hf) [] ops) h2 with
            | some p1, some p2 => .value (.cmp (cmpUrl c (Url.ofParts p1) (Url.ofParts p2)))
            | _, _ => .dead) :=
  C08_multi_yarl_hash_cmp e hf pol caps gen ops c h1 h2

/-- END TO END against the monolithic model ("not of which calls preceded it … or whether an equal URL was created
    before", for modifier results): `u = URL(s)`, ANY history, `d = u.<modifier>(…)`, ANY history, accessor `name` on `d`:
    the answer is the accessor on the five parts (`pickleTwin r` = `r` without pre-computed entries) of what the model's
    modifier computes from `u` itself — whether `d` came out of the `from_parts` cache (shared with other derivations that
    produced equal parts), was freshly built, is `u` itself, or was found in `u`'s `parent` / `_origin` memo. -/
theorem C08_headline_multi_yarl_modifier_then_read (e : Env) (hf : Parts → Int) (pol : YCache → Policy (YKey e))
    (caps : YCache → Nat → Option Nat) (gen : YCache → Nat)
    (k : GoodKey e)                             -- C09 guard (GAPS 5)
    (u : Url) (hu : encodeUrl e k.1 = .ok u)    -- `URL(s)` succeeds with model value `u`
    (ops ops' : List (MultiCache.Op YCache (YKey e) YMod)) (m : YMod)
    (hm : ∀ f, m ≠ .fn f)                       -- a named modifier of the model (for an arbitrary `.fn f` see GAPS 7)
    (r : Url) (hr : yapply e m u [] = .ok r)    -- the modifier (no URL argument) succeeds on `u` with model value `r`
    (name : String) (hname : name ≠ sortKeyName) :   -- an accessor of `acc` (the `_sort_key` read is the `if` branch of C08_multi_yarl_mod_read)
    (MultiCache.run (yarlMSem e hf) pol { caps := caps, gen := gen } []
        ((.new (.url k) :: ops) ++ .mod 0 m [] :: ops' ++
          [.read (MultiCache.specHandles (yarlMSem e hf) [] (.new (.url k) :: ops)).length name])).getLast? =
      some (.value (.acc (acc e (pickleTwin r) name))) :=
  C08_multi_yarl_mod_read_model e hf pol caps gen k u hu ops ops' m hm r hr name hname

/-- "not of … the fill state or configured size of the internal caches" for the real multi-cache model: two runs that
    differ only in the capacities, the eviction policies, the initial bindings and interleaved per-cache
    `clear` / `configure` operations agree on every other output. -/
theorem C08_headline_multi_yarl_cache_configuration_unobservable (e : Env) (hf : Parts → Int)
    (pol pol' : YCache → Policy (YKey e)) (caps caps' : YCache → Nat → Option Nat) (gen gen' : YCache → Nat)
    (ops ops' : List (MultiCache.Op YCache (YKey e) YMod))
    (hsame : ops.filter (fun o => !MultiCache.isCacheOp o) = ops'.filter (fun o => !MultiCache.isCacheOp o)) :   -- same non-cache operations
    MultiCache.nonCacheOuts ops (MultiCache.run (yarlMSem e hf) pol { caps := caps, gen := gen } [] ops) =
      MultiCache.nonCacheOuts ops' (MultiCache.run (yarlMSem e hf) pol' { caps := caps', gen := gen' } [] ops') :=
  C08_multi_yarl_cache_config_irrelevant e hf pol pol' caps caps' gen gen' ops ops' hsame

/-- The three CONFIGURABLE string caches `_encode_host`, `_idna_encode`, `_idna_decode` — the only ones
    `cache_clear()` / `cache_configure()` touch (closes GAPS 2, second part): `strSem o` has `Parts` = the result string,
    no accessors, no prefill, no derivations; under ANY sequence of calls, per-cache clears and rebinding configures (any
    sizes, any policy) the outputs are the specification's, and a call after any history returns what the uncached
    function computes (value or exception). -/
theorem C08_headline_multi_string_caches (o : Oracles) (pol : SCache → Cache.Policy SKey)
    (caps : SCache → Nat → Option Nat) (gen : SCache → Nat) (ops : List (MultiCache.Op SCache SKey Empty))
    (h : Str) (v : Bool) (s : Str) :
    MultiCache.run (strSem o) pol { caps := caps, gen := gen } [] ops = MultiCache.specRun (strSem o) [] ops ∧
    (MultiCache.run (strSem o) pol { caps := caps, gen := gen } [] (ops ++ [.new (.host h v)])).getLast? =
      some (.handle (encodeHost o h v)) ∧
    (MultiCache.run (strSem o) pol { caps := caps, gen := gen } [] (ops ++ [.new (.idnaEnc s)])).getLast? =
      some (.handle (idnaEncode o s)) ∧
    (MultiCache.run (strSem o) pol { caps := caps, gen := gen } [] (ops ++ [.new (.idnaDec s)])).getLast? =
      some (.handle (idnaDecode o s)) :=
  ⟨C08_multi_strcaches_history_independent o pol caps gen ops,
   C08_multi_encode_host_history_independent o pol caps gen ops h v s⟩

/-- The PURE-VALUE caches (`split_netloc`, `make_netloc`, … — closes GAPS 2, last sentence: "unobservable by purity; no
    theorem says so"): ANY function `f` behind an `lru_cache` (`pureSem f`: one cache, values without accessors) returns,
    after ANY history of calls / clears / rebindings, under any capacity and policy, what `f` computes (value or
    exception); instance `split_netloc`. -/
theorem C08_headline_multi_pure_value_caches {K V Err : Type} [DecidableEq K] (f : K → Except Err V)
    (pol : Unit → Cache.Policy K) (caps : Unit → Nat → Option Nat) (gen : Unit → Nat)
    (ops : List (MultiCache.Op Unit K Empty)) (k : K) (o : Oracles) (ops' : List (MultiCache.Op Unit Str Empty))
    (pol' : Unit → Cache.Policy Str) (s : Str) :
    MultiCache.run (pureSem f) pol { caps := caps, gen := gen } [] ops = MultiCache.specRun (pureSem f) [] ops ∧
    (MultiCache.run (pureSem f) pol { caps := caps, gen := gen } [] (ops ++ [.new k])).getLast? = some (.handle (f k)) ∧
    (MultiCache.run (pureSem (splitNetloc o)) pol' { caps := caps, gen := gen } [] (ops' ++ [.new s])).getLast? =
      some (.handle (splitNetloc o s)) :=
  ⟨(C08_multi_pure_cache_history_independent f pol caps gen ops k).1,
   (C08_multi_pure_cache_history_independent f pol caps gen ops k).2,
   C08_multi_split_netloc_history_independent o pol' caps gen ops' s⟩

/-
GAPS:
 1. PARTLY CLOSED by C08_multi_frame_run, C08_multi_yarl_history_independent, C08_multi_yarl_hash_cmp, C08_multi_mod_reads_only_parts +
    C08_multi_yarl_modVal (C08Multi.lean, machine YarlModel/CacheMulti.lean), see C08_headline_multi_parts_never_change,
    C08_headline_multi_yarl_history_independent, C08_headline_multi_yarl_modifier_function_of_arguments,
    C08_headline_multi_yarl_hash_and_comparisons.  The multi-cache machine HAS the operations the five-operation machine lacked:
    `.mod h m args` (every modifier of the model: with_*, the query modifiers, `/` / joinpath, parent, origin, relative, join),
    `.cmp` (`==`, `!=`, `<`, `<=`, `>`, `>=`), `.hash` (memoised under `_cache["hash"]`); `str()` was and is the accessor read
    `.read h "str"`.  Proved: none of them changes the parts of any existing object (receiver or argument), and the output of
    each after any history is the model's pure function of the values of its handles.
    STILL OPEN: (a) the link to the SOURCE is still the single audit fact `Gen.slotWritesOnlyFresh`, and the `__setstate__`
    exemption of that audit is not modelled; (b) WHICH argument object a method returns (`yself`), which modifiers go through
    `from_parts` vs `from_parts_uncached` (`ycached`) and which are `cached_property`s (`ymemo`) are definitions written by
    hand in C08Multi.lean, not extracted from `_url.py` (they influence only sharing, which no `Out` observes: object identity
    `is` is not an observation of the machine); (c) API methods that are neither in `YMod` nor among the 34 accessor names
    (e.g. `is_absolute()`, `__bool__`, `__repr__`, `__bytes__`) have no operation.
 2. CLOSED by C08_multi_yarl_history_independent, C08_multi_strcaches_history_independent, C08_multi_encode_host_history_independent,
    C08_multi_pure_cache_history_independent, C08_multi_split_netloc_history_independent (C08Multi.lean), see
    C08_headline_multi_yarl_history_independent, C08_headline_multi_string_caches, C08_headline_multi_pure_value_caches.  The concrete
    `Sem` `yarlMSem` is written down: `encode_url` (keys inside `GoodAuthority`), `pre_encoded_url`, `build_pre_encoded_url` / `URL.build`
    (the model's `build`), `from_parts`, `from_parts_uncached`, each with its own table, capacity, policy and generation, one
    shared heap, accessors `acc`; the three configurable string caches (`strSem`: `_encode_host`, `_idna_encode`, `_idna_decode`
    with the model's `encodeHost` / `idnaEncode` / `idnaDecode`) with per-cache clear and REBINDING configure; and any pure function
    behind an lru_cache (`pureSem f`; instance `split_netloc`; `make_netloc` is covered by the generic `f`, no named instance).
    C08_headline_no_prefill_constructors stays as the abstract single-cache statement.
 3. PARTLY CLOSED by C08_multi_frame_run (C08Multi.lean), see C08_headline_multi_parts_never_change: URL-valued arguments (the
    argument of `join`, the other operand of a comparison — handles in `args` / `h2`) are heap objects of the multi-cache machine
    and keep their parts under every program.  STILL OPEN as before: non-URL arguments are immutable `Str` / lists in the model, so
    nothing is stated; for the one mutable argument kind of the real API (a query mapping / MultiDict) see C12 ("the argument
    is never mutated").
 4. CLOSED (model-level) by C08_multi_history_independent (C08Multi.lean), see C08_headline_multi_history_independent /
    C08_headline_multi_yarl_history_independent, and by C08_bridge_failed_ctor_world_unchanged, C08_bridge_raising_op_no_effect,
    C08_bridge_failed_ctor_never_cached, C08_bridge_failed_ctor_same_error (C08Bridge.lean), see
    C08_headline_raising_call_leaves_world_unchanged, C08_headline_failed_constructor_never_cached,
    C08_headline_failed_constructor_same_error, C08_headline_yarl_failed_constructor_never_cached (C08HeadlineMore3.lean).
    Proved: in the multi-cache machine a raising call or derivation outputs `.handle (.error exc)` WITH the exception, so
    "(value or exception)" is compared exactly (the single-cache machine collapses every constructor exception to
    `Out.handle none`); and what was "by construction, not a theorem" is now proved about the machine: a constructor call whose
    `construct k` raises — indeed ANY operation that outputs an exception — returns the world as it was (heap, every table of every
    cache and generation, derivation memo, capacities, bindings); after ANY program from the empty world no table of any cache or
    generation holds an entry for a raising key; EVERY occurrence of `.new k` in any program outputs the same `.handle (.error x)`;
    instance for `yarlMSem` stated on the model's constructors (`ymodel e key = .error x`).  Hypotheses: NONE for the sequential
    statements (any semantics, capacities, policies, initial bindings; `PrefillOK` / `MemoNamesOK` not needed); the thread variant
    C08_bridge_failed_ctor_never_cached_threads (see C20_headline_multi_raising_key_never_cached, C20HeadlineMore3.lean) goes through
    the coherence invariant and needs `PrefillOK`, `MemoNamesOK` and a coherent initial world.  What stays TRUSTED, not proved: these
    are theorems about the MODEL's `call` (look-up, else `construct`, store only on `.ok`); that CPython's `functools.lru_cache`
    stores nothing when the wrapped function raises is a fact about CPython which the machine transcribes.
 5. Outside the C09 guard the sentence is FALSE (two `_fails_for_` theorems = F-C09-bracket, F-C09-empty-authority); the
    exact boundary is `GoodAuthority` — see C09Headline for which input families are proved to lie inside it.  (Unchanged in
    the multi-cache machine: its `encode_url` keys `.url k` are the same `GoodKey e`.  The bridge theorems of item 7 inherit the
    guard: their side condition `PreOK` is derived for `URL(s)` results from `k.2 : GoodAuthority e k.1`, C08_bridge_preOK.)
 6. CLOSED by C08_multi_hash_cmp_stable, C08_multi_yarl_hash_cmp (C08Multi.lean), see C08_headline_multi_observable_state_stable,
    C08_headline_multi_yarl_hash_and_comparisons.  `hash` and the six comparisons are operations whose outputs are proved to be
    functions of the five parts (through `eqKey`), before and after any history.  Observable state is now "what the 34 accessors
    in `Acc`, `_sort_key`, `hash` and the six comparisons return".
 7. PARTLY CLOSED (closed for the named modifiers and `join` on constructor results; for `.fn f` only under the hypothesis
    `PreBlind`, item 9; for handles not created by a constructor call only relative to a hypothesis, item 10) — under the two
    side conditions named below — by C08_bridge_mod_output, C08_bridge_mod_then_read,
    C08_bridge_mod_then_sort_key, C08_bridge_ctor_mod_read, C08_bridge_join_then_read, C08_bridge_valOf_new,
    C08_bridge_pre_irrelevant, C08_bridge_pre_irrelevant_unconditional, C08_bridge_args_pre_irrelevant,
    C08_bridge_modifier_reads_only_parts, C08_bridge_preOK, C08_bridge_preBlind_instances, C08_bridge_preBlind_chain (C08Bridge.lean),
    see C08_headline_bridge_modifier_function_of_model_values, C08_headline_bridge_any_modifier_then_read,
    C08_headline_bridge_any_modifier_then_sort_key, C08_headline_bridge_constructor_modifier_read, C08_headline_bridge_join_then_read,
    C08_headline_bridge_constructor_handle_denotes_model_value, C08_headline_bridge_pre_field_irrelevant,
    C08_headline_bridge_pre_field_irrelevant_unconditional, C08_headline_bridge_modifier_reads_only_parts,
    C08_headline_bridge_preOK_sources, C08_headline_bridge_preBlind_sufficient, C08_headline_bridge_preBlind_chain
    (C08HeadlineMore3.lean).  (Was: the bridge C08_headline_multi_yarl_modifier_then_read only for the NAMED modifiers without URL
    argument applied to a `URL(s)` result; `join` and `.fn f` only at the level of the five parts.)
    Proved: the `pre` field of the monolithic value is irrelevant, up to the five parts of the result / the exception, to every
    derivation (`join` with its URL argument and `.fn f` included); a derivation after any history outputs `(yapply e m u us).map
    parts` for monolithic values `u`, `us` of its handles; ctor → any history → derivation → any history → accessor (or
    `_sort_key`) answers the accessor on the model's result, for the result of ANY constructor (`URL(s)` inside the C09 guard,
    `URL(s, encoded=True)`, `URL.build`, `from_parts`); `a.join(b)` for any two constructor results answers the accessor on the
    model's `join e ua ub` of the two monolithic values, no side condition left.
    Hypotheses: (i) `PreOK e u` on the RECEIVER (`net` of the five parts = `net` of the monolithic value; property C09) — DISCHARGED
    for every constructor result (`.url k` through the C09 guard), every value with `pre = none` and every result of a named
    modifier on `PreOK` values (C08_bridge_preOK); needed: C08_bridge_pre_relevant_without_preOK, see
    C08_headline_bridge_fails_without_preOK (not needed for the modifiers other than with_user / with_password / with_host /
    with_port / origin, nor for URL ARGUMENTS).  (ii) `m.PreBlind e`: `True` for every named modifier and `join`; for `.fn f` the
    condition `PreBlind e f` on `f` — see item 9.  The accessor answer is stated on `pickleTwin r` (the result without pre-computed
    entries); it is the accessor on the monolithic result `r` itself when `PreOK e r` (second conjunct of
    C08_bridge_mod_then_read; always so for a named modifier on a `PreOK` receiver and `PreOK` URL arguments —
    C08_bridge_join_then_read is stated on `join e ua ub` itself —; for `.fn f` only if `f` is also `PreStable`).
 8. NEW.  `hf` (Python's tuple hash) is an arbitrary but FIXED function per run: hash randomisation between processes
    (pickling to another process) is outside the machine.  Threads: see C20.
 9. NEW (side condition introduced by the closure of item 7).  For an ARBITRARY `.fn f` the bridge to the monolithic model is
    FALSE: C08_bridge_fn_needs_preBlind, see C08_headline_bridge_fails_for_pre_inspecting_fn — `preSpy`, which raises iff the
    `pre` field of its argument is present, raises on the monolithic value of `URL("http://user@example.com:8080/p")` but
    returns the URL in the cache machine after any history (the machine applies `f` to `Url.ofParts` of the object's five
    parts; in Python a method sees the object, not the model's `pre` field, so the disagreement is an artefact of the monolithic
    record, not a library behaviour).  `PreBlind e f` is DISCHARGED only for: a named modifier with fixed URL arguments, a
    function of the five parts and `net`, `f >>= g` of such (with `PreStable f`), and chains `ychain e ms` of named modifiers
    WITHOUT URL arguments (C08_bridge_preBlind_instances, C08_bridge_preBlind_chain).  For any other `f` it is an undischarged
    hypothesis.  (The history-independence statements of items 1, 2 hold for every `f` without it: they compare the machine with
    the cache-free specification over the five parts, not with the monolithic model.)
 10. NEW.  The general bridge theorems (C08_bridge_mod_output / _mod_then_read / _mod_then_sort_key) take "handle `h` denotes the
    monolithic value `u`" (`valOf … h = some u.parts`, `valsOf … args = some (us.map parts)`) as HYPOTHESES.  They are
    discharged for handles created by a constructor call `.new key` anywhere in the program (C08_bridge_valOf_new), which gives
    the end-to-end instances ctor → derivation → read and ctor, ctor → `join` → read.  For a handle that was itself created by a
    derivation or by pickling no `C08_` theorem identifies its value with the monolithic result (it can be assembled from
    C08_bridge_mod_output and C08_headline_multi_yarl_history_independent, but is not stated), and there is no whole-program
    simulation theorem between the cache machine and an interpreter of the monolithic model.
-/

end Yarl
