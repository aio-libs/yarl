import YarlProofs.C05
import YarlProofs.Lemmas.WfLemmas
import YarlProofs.C19Quoter
import YarlProofs.C01Reach
/-!
  C05Headline.lean — AUDIT LAYER for property C05.

  C05 | Pure-Python and compiled quoters are interchangeable |
  "For every quoter and unquoter configuration the library uses and every input string, the pure-Python and the
  compiled implementation return identical results (or raise the same exception type), including for outputs that
  cross the compiled implementation's 8 KiB buffer-growth boundaries. Every URL-level result is therefore
  independent of whether the C extension is available (YARL_NO_EXTENSIONS)."

  Vocabulary.  `Backend` = `.py | .c`; `a.run b s` runs the generated configuration `a` (a `QArgs` from
  `Gen.allQuoters`, a `UArgs` from `Gen.allUnquoters`) on backend `b`.  The model functions for the two backends are
  transcriptions of `_quoting_py.py` and `_quoting_c.pyx` (YarlModel/Quote.lean, Unquote.lean).  An `Env` is a
  backend plus the oracles (`o`), so "independent of the C extension" reads `f ⟨.py, o⟩ … = f ⟨.c, o⟩ …`.
  `PyStr s`: every code point ≤ 0x10FFFF (lone surrogates allowed).  `DecLemmas.QArgPy a`: the texts inside a query
  argument are Python strings.
  `QuoteW.quoteCW n t faults s` (YarlModel/QuoteW.lean): `_Quoter._do_quote_or_skip` of `_quoting_c.pyx` transcribed
  statement by statement with every output character going through `Writer.writeChar` (`_write_char`) on a buffer of
  `n` bytes (static first, grown by `n` through PyMem_Malloc / PyMem_Realloc); `faults k = true` means the k-th
  growth request of the call is refused (→ MemoryError); the result is (outcome, final writer state).
  `QuoteW.unquoteCW n u faults s`: `_Unquoter._do_unquote` with its two inner `_Quoter` calls run through `quoteCW`.
  `a.tabC` = the table of configuration `a` on the compiled backend (`a.run .c s` is `quoteC a.tabC s` by definition);
  `cOut t x` = the characters the compiled loop writes for input `x`, `cChanged t x` = its final `changed` flag,
  `allSafe t x` = the fast path "every character is safe" (YarlModel/Quote.lean); `stripSurr` drops lone surrogates.

  Continued in C05HeadlineMore3.lean (URLs made through ALL entry points incl. `encoded=True`: GAPS 4; TypeError at the
  type gates of the URL methods, model level: GAPS 1).
-/
namespace Yarl

/-! ## Sentence 1a — "For every quoter and unquoter configuration the library uses and every input string, the
    pure-Python and the compiled implementation return identical results (or raise the same exception type)" -/

/-- "For every quoter … configuration the library uses and every input string, … identical results" -/
theorem C05_headline_quoters_agree (a : QArgs) (ha : a ∈ Gen.allQuoters) (s : Str)
    (hs : PyStr s) :   -- the model's `Str` also has non-Python code points; lone surrogates ARE covered (fix ff515b9)
    a.run .py s = a.run .c s :=
  C05_quote a ha s hs
-- Appendix E: C05_quote ↦ C05_quote (same name, same statement; `quote b q s` is now `q.run b s`).

/-- "For every … unquoter configuration … and every input string, … identical results" — holds for ANY unquoter
    keyword arguments and ANY list of code points. -/
theorem C05_headline_unquoters_agree (a : UArgs) (s : Str) : a.run .py s = a.run .c s :=
  C05_unquote_any a s
-- Appendix E: C05_unquote ↦ C05_unquote / C05_unquote_any (the hypotheses `u ∈ Gen.allUnquoters`, `PyStr s` turned
--             out to be unnecessary).

/-! ## Sentence 1b — "including for outputs that cross the compiled implementation's 8 KiB buffer-growth boundaries" -/

/-- "… outputs that cross the … 8 KiB buffer-growth boundaries": the compiled `Writer` (static buffer of `bufSize`
    bytes, grown by `bufSize` on the heap), when no allocation fails, returns exactly the bytes written, for every
    positive buffer size and in particular for the generated one, which is 8192. -/
theorem C05_headline_buffer_growth_invisible (cs : List Nat) :
    (∀ n, 0 < n → (Writer.run n (fun _ => false) cs).1 = .ok cs) ∧
    (Writer.run Gen.bufSize (fun _ => false) cs).1 = .ok cs ∧ Gen.bufSize = 8192 :=
  ⟨fun n hn => C05_writer n hn cs, C05_writer_gen cs, by decide +kernel⟩
-- Appendix E: C05_writer ↦ C05_writer (the fault oracle is `fun _ => false` = "no allocation fails"; the planned text
--             had `fun _ => true` with the opposite polarity; result is the first component of `Writer.run`).

/-- "… outputs that cross the … 8 KiB buffer-growth boundaries" for the compiled QUOTER ITSELF (closes GAPS 2): the
    interleaved loop of `_do_quote`, writing character by character through its writer, (1) IS `Writer.run` applied to
    the batch output `cOut` followed by the `changed` test, with literally the final writer state of `Writer.run` (fast
    path: no writer at all) — the statement "combining `QArgs.run .c` with `Writer.run`" GAPS 2 missed; (2) without a
    refused allocation returns what the pure-Python quoter returns, for EVERY buffer size `n` — so for outputs crossing
    any number of `k·n` boundaries — and (3) in particular at the generated size 8192.
    Cites C19_quoteCW_refines_run, C05_quoteCW_backend_any, C05_quoteCW_backend (C19Quoter.lean). -/
theorem C05_headline_buffer_growth_quoter_through_writer (a : QArgs) (ha : a ∈ Gen.allQuoters) (faults : Nat → Bool)
    (s : Str) (hs : PyStr s) :   -- model artefact, as in `C05_headline_quoters_agree`
    (∀ n,
      (allSafe a.tabC (stripSurr s) = true → QuoteW.quoteCW n a.tabC faults s = (.ok (stripSurr s), Writer.init n)) ∧
      (allSafe a.tabC (stripSurr s) = false →
        QuoteW.quoteCW n a.tabC faults s =
          ((Writer.run n faults (cOut a.tabC (stripSurr s))).1.map
              (fun d => if cChanged a.tabC (stripSurr s) then d else stripSurr s),
           (Writer.run n faults (cOut a.tabC (stripSurr s))).2))) ∧
    (∀ n, (∀ i, faults i = false) →     -- no allocation fails
      (QuoteW.quoteCW n a.tabC faults s).1 = .ok (a.run .py s)) ∧
    ((∀ i, faults i = false) → (QuoteW.quoteCW Gen.bufSize a.tabC faults s).1 = .ok (a.run .py s)) ∧
    Gen.bufSize = 8192 :=
  ⟨fun n => C19_quoteCW_refines_run n a.tabC faults s, fun n hf => C05_quoteCW_backend_any n a ha faults s hs hf,
   fun hf => C05_quoteCW_backend a ha faults s hs hf, by decide +kernel⟩

/-- the same for the compiled UNQUOTER (its only writer activity is two inner `_Quoter` calls per decoded character,
    each writing at most 12 characters — less than the static buffer): at the real buffer size it returns what the
    pure-Python unquoter returns under ANY allocation-fault pattern.  Cites C05_unquoteCW_backend (C19Quoter.lean). -/
theorem C05_headline_buffer_growth_unquoter_through_writer (a : UArgs) (ha : a ∈ Gen.allUnquoters)
    (faults : Nat → Bool) (s : Str) :
    QuoteW.unquoteCW Gen.bufSize (a.tab .c) faults s = .ok (a.run .py s) :=
  C05_unquoteCW_backend a ha faults s

/-! ## Sentence 1c — "(or raise the same exception type)" -/

/-- "(or raise the same exception type)" — what the model can say (GAPS 1, partly): the pure-Python quoter model is
    total; the compiled quoter through its writer returns the pure-Python result or raises MemoryError, nothing else;
    MemoryError exactly when the call leaves the fast path and a growth request its output length needs is refused
    (request `k` is needed iff the output has more than `(k+1)·8192` characters); never when the output fits the
    static buffer.  So the ONLY divergence is an out-of-memory condition of the compiled side (property C19).
    Cites C05_quoteCW_backend_fault, C19_quoteCW_fault_iff (C19Quoter.lean). -/
theorem C05_headline_exceptions_quoter (a : QArgs) (ha : a ∈ Gen.allQuoters) (faults : Nat → Bool) (s : Str)
    (hs : PyStr s) :   -- model artefact
    ((QuoteW.quoteCW Gen.bufSize a.tabC faults s).1 = .ok (a.run .py s) ∨
      (QuoteW.quoteCW Gen.bufSize a.tabC faults s).1 = .error .memoryError) ∧
    ((QuoteW.quoteCW Gen.bufSize a.tabC faults s).1 = .error .memoryError ↔
      allSafe a.tabC (stripSurr s) = false ∧
      ∃ k, (k + 1) * Gen.bufSize < (cOut a.tabC (stripSurr s)).length ∧ faults k = true) ∧
    ((cOut a.tabC (stripSurr s)).length ≤ Gen.bufSize →
      (QuoteW.quoteCW Gen.bufSize a.tabC faults s).1 = .ok (a.run .py s)) :=
  ⟨(C05_quoteCW_backend_fault a ha faults s hs).1, C19_quoteCW_fault_iff Gen.bufSize (by decide +kernel) a.tabC faults s,
   (C05_quoteCW_backend_fault a ha faults s hs).2⟩

/-! ## Sentence 2 — "Every URL-level result is therefore independent of whether the C extension is available" -/

/-- constructors: `URL(s)` (auto-encoding) and `URL.build(...)` (both modes) -/
theorem C05_headline_constructors_backend (o : Oracles) :
    (∀ s, PyStr s → encodeUrl ⟨.py, o⟩ s = encodeUrl ⟨.c, o⟩ s) ∧
    (∀ s, preEncodedUrl ⟨.py, o⟩ s = preEncodedUrl ⟨.c, o⟩ s) ∧
    (∀ a, DecLemmas.BuildArgsPy a → build ⟨.py, o⟩ a = build ⟨.c, o⟩ a) :=
  ⟨fun s hs => C05_encodeUrl_backend o s hs, fun _ => rfl, fun a ha => C05_build_backend o a ha⟩

/-- accessors and renderings: no hypothesis on the URL record at all -/
theorem C05_headline_accessors_backend (o : Oracles) (u : Url) :
    str ⟨.py, o⟩ u = str ⟨.c, o⟩ u ∧ humanRepr ⟨.py, o⟩ u = humanRepr ⟨.c, o⟩ u ∧
    authority ⟨.py, o⟩ u = authority ⟨.c, o⟩ u ∧
    user ⟨.py, o⟩ u = user ⟨.c, o⟩ u ∧ password ⟨.py, o⟩ u = password ⟨.c, o⟩ u ∧
    pathDecoded ⟨.py, o⟩ u = pathDecoded ⟨.c, o⟩ u ∧ pathSafe ⟨.py, o⟩ u = pathSafe ⟨.c, o⟩ u ∧
    queryString ⟨.py, o⟩ u = queryString ⟨.c, o⟩ u ∧ fragmentDecoded ⟨.py, o⟩ u = fragmentDecoded ⟨.c, o⟩ u ∧
    partsDecoded ⟨.py, o⟩ u = partsDecoded ⟨.c, o⟩ u ∧ name ⟨.py, o⟩ u = name ⟨.c, o⟩ u ∧
    suffix ⟨.py, o⟩ u = suffix ⟨.c, o⟩ u ∧ suffixes ⟨.py, o⟩ u = suffixes ⟨.c, o⟩ u ∧
    pathQs ⟨.py, o⟩ u = pathQs ⟨.c, o⟩ u ∧
    -- these never call a quoter (they read `e.o` only): true by unfolding
    host ⟨.py, o⟩ u = host ⟨.c, o⟩ u ∧ port ⟨.py, o⟩ u = port ⟨.c, o⟩ u ∧
    rawHost ⟨.py, o⟩ u = rawHost ⟨.c, o⟩ u ∧ rawUser ⟨.py, o⟩ u = rawUser ⟨.c, o⟩ u ∧
    rawPassword ⟨.py, o⟩ u = rawPassword ⟨.c, o⟩ u ∧ explicitPort ⟨.py, o⟩ u = explicitPort ⟨.c, o⟩ u := by
  obtain ⟨a1, a2, a3, a4, a5, a6, a7, a8, a9⟩ := C05_accessors_backend' o u
  exact ⟨C05_str_backend o u, C05_human_repr_backend o u, C05_authority_backend o u,
    (C05_userinfo_backend o u).1, (C05_userinfo_backend o u).2, a1, a2, a3, a4, a5, a6, a7, a8, a9,
    rfl, rfl, rfl, rfl, rfl, rfl⟩

/-- modifiers that existing theorems cover (text arguments are Python strings) -/
theorem C05_headline_modifiers_backend (o : Oracles) (u : Url) :
    (∀ p enc kq kf, PyStr p → withPath ⟨.py, o⟩ u p enc kq kf = withPath ⟨.c, o⟩ u p enc kq kf) ∧
    (∀ f, (∀ t, f = some t → PyStr t) → withFragment ⟨.py, o⟩ u f = withFragment ⟨.c, o⟩ u f) ∧
    (∀ n kq kf, PyStr n → withName ⟨.py, o⟩ u n kq kf = withName ⟨.c, o⟩ u n kq kf) ∧
    (∀ x kq kf, PyStr x → withSuffix ⟨.py, o⟩ u x kq kf = withSuffix ⟨.c, o⟩ u x kq kf) ∧
    (∀ ps enc, (∀ p ∈ ps, PyStr p) → makeChild ⟨.py, o⟩ u ps enc = makeChild ⟨.c, o⟩ u ps enc) ∧
    (∀ x, (∀ t, x = some t → PyStr t) → withUser ⟨.py, o⟩ u x = withUser ⟨.c, o⟩ u x) ∧
    (∀ x, (∀ t, x = some t → PyStr t) → withPassword ⟨.py, o⟩ u x = withPassword ⟨.c, o⟩ u x) ∧
    (∀ h, withHost ⟨.py, o⟩ u h = withHost ⟨.c, o⟩ u h) ∧
    (∀ p k, withPort ⟨.py, o⟩ u p k = withPort ⟨.c, o⟩ u p k) ∧
    (∀ a, DecLemmas.QArgPy a → withQuery ⟨.py, o⟩ u a = withQuery ⟨.c, o⟩ u a) ∧
    (∀ a, DecLemmas.QArgPy a → extendQuery ⟨.py, o⟩ u a = extendQuery ⟨.c, o⟩ u a) ∧
    origin ⟨.py, o⟩ u = origin ⟨.c, o⟩ u :=
  ⟨fun p enc kq kf hp => C05_with_path_backend o u p hp enc kq kf,
   fun f hf => C05_with_fragment_backend o u f hf,
   fun n kq kf hn => C05_with_name_backend o u n hn kq kf,
   fun x kq kf hx => C05_with_suffix_backend o u x hx kq kf,
   fun ps enc hp => C05_make_child_backend o u ps hp enc,
   fun x hx => C05_with_user_backend o u x hx, fun x hx => C05_with_password_backend o u x hx,
   fun h => (C05_with_host_port_backend o u h none 0).1, fun p k => (C05_with_host_port_backend o u [] p k).2,
   fun a ha => C05_with_query_backend_any o u a ha, fun a ha => C05_extend_query_backend o u a ha,
   C05_origin_backend o u⟩

/-! ### NEW — the entry points C05.lean did not cover (small gaps closed here) -/

namespace HeadA
open DecLemmas

theorem map_some_inj {x y : R Str} (h : x.map some = y.map some) : x = y := by
  cases x <;> cases y <;> simp_all [Except.map]

theorem iter_backend (items : List (Str × QItem)) (h : ∀ p ∈ items, PyStr p.1 ∧ DecLemmas.QItemPy p.2) :
    strQueryFromIterable .py items = strQueryFromIterable .c items := by
  cases items with
  | nil => rfl
  | cons x t => exact map_some_inj (by simpa [getStrQuery] using getStrQuery_backend (.pairs (x :: t)) h)

theorem seq_backend (items : List (Str × QItem)) (h : ∀ p ∈ items, PyStr p.1 ∧ DecLemmas.QItemPy p.2) :
    strQueryFromSeqIterable .py items = strQueryFromSeqIterable .c items := by
  cases items with
  | nil => rfl
  | cons x t => exact map_some_inj (by simpa [getStrQuery] using getStrQuery_backend (.mapping (x :: t)) h)

theorem strItems_py (ps : List (Str × Str)) (h : ∀ p ∈ ps, PyStr p.1 ∧ PyStr p.2) :
    ∀ p ∈ strItems ps, PyStr p.1 ∧ DecLemmas.QItemPy p.2 := by
  intro x hx
  simp only [strItems, List.mem_map] at hx
  obtain ⟨p, hp, rfl⟩ := hx
  exact ⟨(h p hp).1, (h p hp).2⟩

theorem md_py (u : Url) (hq : PyStr u.query) (new : List (Str × QItem))
    (hn : ∀ p ∈ new, PyStr p.1 ∧ DecLemmas.QItemPy p.2) :
    ∀ p ∈ mdUpdate (strItems (queryPairs u)) new, PyStr p.1 ∧ DecLemmas.QItemPy p.2 := by
  intro x hx
  rcases MdLemmas.mem_mdUpdate_cases _ _ x hx with h | h
  · exact strItems_py _ (WfLemmas.parseQsl_pyStr _ hq) x h
  · exact hn x h
end HeadA

/-- NEW: `update_query`, `without_query_params` (stored query a Python string — true of every `WFUrl`),
    `with_scheme`, `join` (which never quotes), and the env-free `parent`, `relative` need no statement. -/
theorem C05_headline_remaining_modifiers_backend (o : Oracles) (u : Url) (hq : PyStr u.query) :
    (∀ a, DecLemmas.QArgPy a → updateQuery ⟨.py, o⟩ u a = updateQuery ⟨.c, o⟩ u a) ∧
    (∀ ns, withoutQueryParams ⟨.py, o⟩ u ns = withoutQueryParams ⟨.c, o⟩ u ns) ∧
    (∀ s, withScheme ⟨.py, o⟩ u s = withScheme ⟨.c, o⟩ u s) ∧
    (∀ r, join ⟨.py, o⟩ u r = join ⟨.c, o⟩ u r) := by
  refine ⟨?_, ?_, fun _ => rfl, fun _ => rfl⟩
  · intro a ha
    unfold updateQuery
    cases a with
    | str s =>
      simp only
      split
      · rfl
      · rw [HeadA.iter_backend _ (HeadA.md_py u hq _ (HeadA.strItems_py _ (WfLemmas.parseQsl_pyStr s ha)))]
    | mapping items =>
      simp only
      split
      · rfl
      · rw [HeadA.seq_backend _ (HeadA.md_py u hq _ ha)]
    | pairs items =>
      simp only
      split
      · rfl
      · rw [HeadA.iter_backend _ (HeadA.md_py u hq _ ha)]
    | none => rfl
    | bytes e => rfl
    | other => rfl
    | noArgs => rfl
  · intro ns
    unfold withoutQueryParams
    simp only
    split
    · rfl
    · exact C05_with_query_backend_any o u _ (HeadA.strItems_py _ (fun p hp =>
        WfLemmas.parseQsl_pyStr _ hq p (List.mem_filter.mp hp).1))

/-- the same for every URL the auto-encoding API produces (closes GAPS 4): the hypothesis `PyStr u.query` of
    `C05_headline_remaining_modifiers_backend` follows from reachability (`Reach`, C01Reach.lean: constructor, build,
    the 19 operations, join — on EITHER backend `b`), because the stored query of a reachable URL is QUERY_REQUOTER
    output.  NEW composition with C01_reachable_wf (C01Reach.lean) and WfLemmas.outLang_pyStr. -/
theorem C05_headline_remaining_modifiers_backend_reachable (b : Backend) (o : Oracles) (u : Url)
    (hreach : Reach ⟨b, o⟩ u) :
    (∀ a, DecLemmas.QArgPy a → updateQuery ⟨.py, o⟩ u a = updateQuery ⟨.c, o⟩ u a) ∧
    (∀ ns, withoutQueryParams ⟨.py, o⟩ u ns = withoutQueryParams ⟨.c, o⟩ u ns) ∧
    (∀ s, withScheme ⟨.py, o⟩ u s = withScheme ⟨.c, o⟩ u s) ∧
    (∀ r, join ⟨.py, o⟩ u r = join ⟨.c, o⟩ u r) :=
  C05_headline_remaining_modifiers_backend o u
    (WfLemmas.outLang_pyStr (by decide : Gen.QUERY_REQUOTER ∈ Gen.allQuoters) b (C01_reachable_wf ⟨b, o⟩ u hreach).query)

/-! ## non-vacuity -/

example : Gen.PATH_REQUOTER.run .py DecLemmas.sampleText = Gen.PATH_REQUOTER.run .c DecLemmas.sampleText :=
  C05_headline_quoters_agree _ (by decide +kernel) _ (by decide +kernel)

/-- 6000 spaces quote to 18000 characters (two growths: the malloc at 8192, the realloc at 16384): with no refused
    allocation the compiled quoter through its writer returns the pure-Python result … -/
example : (QuoteW.quoteCW Gen.bufSize Gen.PATH_QUOTER.tabC (fun _ => false) (List.replicate 6000 32)).1 =
    .ok (Gen.PATH_QUOTER.run .py (List.replicate 6000 32)) :=
  (C05_headline_buffer_growth_quoter_through_writer _ (by decide +kernel) _ _
    (by intro c hc; rw [List.eq_of_mem_replicate hc]; decide)).2.2.1 (fun _ => rfl)

/-- … and with the realloc (request 1) refused it raises MemoryError, by the "iff" of `C05_headline_exceptions_quoter` -/
example : (QuoteW.quoteCW Gen.bufSize Gen.PATH_QUOTER.tabC (fun i => i == 1) (List.replicate 6000 32)).1 =
    .error .memoryError :=
  (C05_headline_exceptions_quoter Gen.PATH_QUOTER (by decide +kernel) _ _
    (by intro c hc; rw [List.eq_of_mem_replicate hc]; decide)).2.1.mpr
    ⟨(exSpaces 5999).1, 1, by rw [(exSpaces 5999).2]; decide, rfl⟩

/-
GAPS:
 1. PARTLY CLOSED by C05_quoteCW_backend_fault, C19_quoteCW_fault_iff (C19Quoter.lean), see
    C05_headline_exceptions_quoter (and C05_headline_buffer_growth_unquoter_through_writer for the unquoter, which
    cannot fail).  Proved: the compiled quoter executed through its writer returns the pure-Python result or raises
    MemoryError, and MemoryError exactly when a growth request that the output length needs is refused; the
    pure-Python model never raises.  STILL OPEN: the quoter / unquoter models `a.run` are TOTAL functions on lists of
    code points; the other exception of the real implementations (TypeError for a non-str argument) is outside
    `a.run` and `quoteCW`, so no theorem compares it across the two backends.
    (Added at the More3 refresh — sharpened at URL level, MODEL level only: YarlModel/Dyn.lean now transcribes the type
    gates of the URL methods on an arbitrary Python object, and C19_dyn_type_errors (C19Dyn.lean) gives the exact
    TypeError condition as a property of the object alone; see C05_headline_type_gates_backend (C05HeadlineMore3.lean):
    with_scheme / with_user / with_password / with_host / with_port / with_fragment / with_name / with_suffix / join / `/`
    reject an object with TypeError on the pure-Python backend exactly when they do on the compiled one.  The dynamic
    layer is tied to CPython by a run-time probe table (run on both quoter backends), not by proof.  On arguments of
    the documented types the dynamic entry points ARE the typed functions (C19_dyn_agrees_on_typed, by `rfl`), so the
    URL-level theorems of this file apply to them.  NOT covered by a backend comparison: the constructor gate, the
    query methods (YarlModel/Dyn.lean, `keyStr`, models `quoter(key)` — TypeError for a non-str key, `None` passed
    through — by ONE function for both backends, by construction; the C12Dyn.lean theorems about it hold for every
    `e` but state no backend comparison), `with_path` / `joinpath` (no type gate), and — unchanged — the quoters' own
    TypeError.)
 2. CLOSED by C19_quoteCW_refines_run, C05_quoteCW_backend_any, C05_quoteCW_backend, C05_unquoteCW_backend
    (C19Quoter.lean, over the new model file YarlModel/QuoteW.lean), see
    C05_headline_buffer_growth_quoter_through_writer, C05_headline_buffer_growth_unquoter_through_writer.  Proved: the
    compiled quoter transcribed statement by statement THROUGH `Writer.writeChar` equals `Writer.run` on the batch
    output (slow path) and, when no allocation is refused, returns `a.run .py s` for every generated configuration,
    every Python string and EVERY buffer size (hence across any number of 8192-byte boundaries; instance with an
    18000-character output in the non-vacuity block).  What remains by construction: `QuoteW.quoteCW` is itself a
    transcription of `_quoting_c.pyx` (trusted like the other model files); `a.run .c` is still the batch function
    `quoteC`, related to `quoteCW` by these theorems.
 3. URL level — now covered: constructors (both), build, every accessor of YarlModel/Url.lean, str, human_repr, all
    modifiers incl. update_query / without_query_params / with_scheme / join (last four NEW here).  Still without a
    backend theorem: the cached layer (YarlModel/Cache.lean — C08/C20 treat it for an arbitrary pure semantics, hence
    for either backend), comparison / hashing (env-free, trivially equal), and `QArg` kinds with non-Python
    texts (excluded by `QArgPy`).
 4. CLOSED, see C05_headline_remaining_modifiers_backend_reachable (NEW composition with C01_reachable_wf,
    C01Reach.lean): for every URL reachable through the auto-encoding API (on either backend) `PyStr u.query` holds,
    so update_query / without_query_params / with_scheme / join agree on the two backends without further
    hypothesis.  (Records made with `encoded=True` are outside `Reach`; for them the hypothesis `PyStr u.query` of
    C05_headline_remaining_modifiers_backend stays.)
    That remainder is now CLOSED by C01_reachE_components_python (C01ReachE.lean, over ReachE.lean), see
    C05_headline_remaining_modifiers_backend_all_entry_points (C05HeadlineMore3.lean).  Proved: for every URL in
    `ReachE` — the closure of ALL entry points of the model: `URL(s)`, `URL(s, encoded=True)`, `URL.build` in both modes,
    the operations, `with_path(…, encoded=True)`, `joinpath(…, encoded=True)`, `join`; made on either backend —
    `PyStr u.query` holds, so update_query / without_query_params / with_scheme / join agree on the two backends without
    a hypothesis on the record.  Hypotheses: those built into `ReachE` — every text handed to an entry point is a
    Python string (`PyStr`, `BuildAllPy`, `UOp.ArgsPy`), query arguments satisfy `QArgPy`.  Not an entry point of
    `ReachE`: the model artefact `UOp.joinRef` with an arbitrary record (a `join` reference must itself be `ReachE`),
    and records that no entry point produces (e.g. unpickled from a tampered state): for those the hypothesis stays.
 5. The oracles (`o`: IDNA, NFKC, isprintable, …) are shared by both sides by construction: "independent of the C
    extension" is proved for equal oracle answers, which is right because none of them lives in the C extension.
-/

end Yarl
