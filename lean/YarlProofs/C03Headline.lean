import YarlProofs.C03
import YarlProofs.C03Reach
import YarlProofs.C03Netloc
import YarlProofs.C03Idn
import YarlProofs.C03Bracket
/-!
  C03Headline.lean — AUDIT LAYER for property C03.

  C03 | The canonical string is a fixed point of parsing |
  "For every URL the library produces from valid input (RFC-valid scheme, syntactically valid host), parsing
  str(url) again yields a URL with an identical string form and identical scheme, user, password, host, port,
  path, query and fragment. Normalisation is therefore idempotent: a second pass of encoding, decoding, case
  folding, default-port dropping, IDNA or dot-segment removal changes nothing."

  Vocabulary (C03Reach.lean, Lemmas/ReachFix.lean, Lemmas/FixLemmas.lean):
  `ReachC e u`   — "every URL the library produces": `Reach` of C01 (constructor, build(encoded=False), the 19
                   operations, join) where a `join` reference must satisfy `CanonUrl`.
  `NetlocCanon e u` — "syntactically valid host", STORED side: the stored netloc is empty (and no cache), or is
                   `[user[:password]@]host[:port]` with REQUOTER-canonical non-empty user / password
                   (`UserInfoOK`), a host that `_encode_host` maps to itself (`HostFix`: every lower-case
                   host text without ':' — reg-names, also digit-ending or dot-ending ones, IPv4 —, IPv6
                   with or without zone id, sane A-labels: C03_headline_stored_host_families), port ≤ 65535, and
                   a consistent cache.  It is DERIVED from the input for the constructor, `build` and
                   `with_host` (C03_headline_valid_host_constructor / _build / _with_host below).
  `HostTextOK h`, `AuthInput o n`, `BuildNetOK e a`, `ReachV e u` (Lemmas/NetShape.lean, C03Netloc.lean) —
                   "syntactically valid host", INPUT side: spelled out in C03_headline_valid_host_text_spec and in
                   the doc comments of the theorems that use them.
  `IdnaAnswerSane a`, `IdnaSaneAt o h`, `IdnHostInput o h` (C16Idn.lean) — the ASSUMPTION about the third-party
                   `idna` package (an oracle of the model) under which the IDN statements hold, see the section
                   "IDN hosts" below.
  `SchemeOK' sc` — "RFC-valid scheme": empty, or non-empty lower-case `Gen.schemeChars` (a leading digit is allowed,
                   as in `split_url`).
  `C03Guards u`  — the two recorded exclusions F-C03-colon and F-C03-rootless.
  `BracketTextIn`, `BracketText`, `HostFixB`, `authTextB`, `NetlocCanonB`, `AuthInputB`, `UOp.NetArgsB`
                   (Lemmas/BrHost.lean, C03Bracket.lean) — the same vocabulary for bracketed hosts that are NOT IPv6
                   addresses (IPvFuture "[v1.a:b]", "[g::1]", "[a:b]"), see the section "bracketed hosts …" below.

  Continued in C03HeadlineMore3.lean (sentence 2 mechanism by mechanism: GAPS 5; `encoded=True` / all entry points: GAPS 6).
  Continued in C03HeadlineMore5.lean (C03Encoded.lean, added later: `encoded=True` on already-canonical TEXT, hypothesis
  on the input string — GAPS 6).
-/
namespace Yarl
open ReachFix FixLemmas NetShape NetlocLemmas HostLemmas HumanLemmas BrHost

/-! ## Sentence 1a — "For every URL the library produces from valid input (RFC-valid scheme, syntactically valid
    host), parsing str(url) again yields a URL with an identical string form" -/

/-- "… parsing str(url) again yields a URL with an identical string form" -/
theorem C03_headline_identical_string_form (e : Env) (u : Url)
    (hreach : ReachC e u)             -- join references canonical: C03_joinRef_wf_not_enough
    (hnet : NetlocCanon e u)          -- valid host; excludes F-C03-bracket, F-C03-empty-authority (…_fails_for_* below)
                                      -- and inconsistent records (C03_inconsistent_cache_counterexample);
                                      -- derived from the INPUT in C03_headline_valid_host_constructor / _build
    (hscheme : SchemeOK' u.scheme)    -- "RFC-valid scheme" of the property text
    (hguards : C03Guards u) :         -- F-C03-colon (C03_guard_first_segment_needed), F-C03-rootless
                                      -- (C03_guard_authority_scheme_needed)
    ∃ s u', str e u = .ok s ∧ encodeUrl e s = .ok u' ∧ str e u' = .ok s := by
  obtain ⟨s, u', h1, h2, h3, _⟩ := C03_reachable_fixed_point e u hreach hnet hscheme hguards
  exact ⟨s, u', h1, h2, h3⟩
-- Appendix E: C03_reachable ↦ C03_reachable_fixed_point (used here).  `Valid u` became the three hypotheses
--             `NetlocCanon e u`, `SchemeOK' u.scheme`, `C03Guards u`.
-- Appendix E: C03_fixed_point ↦ for arbitrary records C03_fixed_point_of_canon (hypothesis `CanonUrl e.b u` instead
--             of `encodeUrl s = .ok u`; C03_encodeUrl_canon supplies it), and for direct constructor results also
--             C03_reparse_basic_gen / C03_reparse_authority (C03Reach.lean).  `components u' = components u` is FALSE as
--             planned (stored path: C03_empty_path_counterexample; netloc / explicit port:
--             C03_default_port_counterexample); what holds instead is the next theorem.

/-! ## Sentence 1b — "… and identical scheme, user, password, host, port, path, query and fragment." -/

/-- "… identical scheme, user, password, host, port, path, query and fragment": raw and decoded user, password and
    host, the EFFECTIVE port (`port`, which falls back to the scheme default), query and fragment are identical;
    the path is the path `str` wrote (`C07_strPath u`: "/" for an empty path before '?'/'#' under an authority). -/
theorem C03_headline_identical_components (e : Env) (u : Url) (hreach : ReachC e u) (hnet : NetlocCanon e u)
    (hscheme : SchemeOK' u.scheme) (hguards : C03Guards u) :
    ∃ s u', str e u = .ok s ∧ encodeUrl e s = .ok u' ∧ u'.scheme = u.scheme ∧
      rawUser e u' = rawUser e u ∧ user e u' = user e u ∧
      rawPassword e u' = rawPassword e u ∧ password e u' = password e u ∧
      rawHost e u' = rawHost e u ∧ host e u' = host e u ∧ port e u' = port e u ∧
      u'.path = C07_strPath u ∧ u'.query = u.query ∧ u'.fragment = u.fragment := by
  obtain ⟨s, u', h1, h2, _, h4, h5, h6, h7, _, h9, h10, h11, h12, _⟩ :=
    C03_reachable_fixed_point e u hreach hnet hscheme hguards
  refine ⟨s, u', h1, h2, h4, h11, ?_, h12, ?_, h10, ?_, h9, h5, h6, h7⟩
  · unfold user; rw [h11]
  · unfold password; rw [h12]
  · unfold host; rw [h10]

/-- "identical … path": the STORED path is identical unless it is empty in front of a query or fragment under an
    authority — -/
theorem C03_headline_identical_stored_path (e : Env) (u : Url) (hreach : ReachC e u) (hnet : NetlocCanon e u)
    (hscheme : SchemeOK' u.scheme) (hguards : C03Guards u)
    (hpath : u.path ≠ [] ∨ u.netloc = [] ∨ (u.query = [] ∧ u.fragment = [])) : -- C03_headline_identical_stored_path_fails_for
    ∃ s u', str e u = .ok s ∧ encodeUrl e s = .ok u' ∧ str e u' = .ok s ∧ u'.path = u.path :=
  C03_fixed_point_same_path e u (C03_reachable_canon e u hreach) hnet hscheme hguards hpath

/-- — in which case it is FALSE: URL('http://a?b') stores "", str writes "http://a/?b", the re-parse stores "/"
    (the two are `==` and have the same raw_path, but raw_parts differ).  No C03 entry in KNOWN_FINDINGS (equality
    holds); the related F-C07-empty-path (property C07: raw_path is '/' where str() writes nothing) cites this theorem. -/
theorem C03_headline_identical_stored_path_fails_for :
    let e : Env := ⟨.py, Oracles.empty⟩
    ∃ u u', encodeUrl e "http://a?b".toStr = .ok u ∧ Basic u ∧ u.path = [] ∧
      str e u = .ok "http://a/?b".toStr ∧ encodeUrl e "http://a/?b".toStr = .ok u' ∧ u'.path = [47] ∧
      rawParts u = [[47]] ∧ rawParts u' = [[47], []] :=
  C03_empty_path_counterexample

/-- "identical … port": the stored netloc (hence `explicit_port`) is identical when no explicit DEFAULT port was
    written — -/
theorem C03_headline_identical_netloc (e : Env) (u : Url) (hreach : ReachC e u) (hnet : NetlocCanon e u)
    (hscheme : SchemeOK' u.scheme) (hguards : C03Guards u)
    (hport : ∀ p, explicitPort e u = .ok (some p) → some p ≠ defaultPort u.scheme) : -- …_fails_for_default_port
    ∃ s u', str e u = .ok s ∧ encodeUrl e s = .ok u' ∧ u'.netloc = u.netloc := by
  obtain ⟨s, u', h1, h2, _, _, _, _, _, h8, _⟩ := C03_reachable_fixed_point e u hreach hnet hscheme hguards
  exact ⟨s, u', h1, h2, h8 hport⟩

/-- — otherwise FALSE: URL('http://a:80/') keeps ":80" in the netloc, str drops it, and URL(str(u)) != u with
    explicit_port None instead of 80 (recorded as FINDING in C03.lean; `port` itself is 80 on both). -/
theorem C03_headline_identical_netloc_fails_for_default_port :
    let e : Env := ⟨.py, Oracles.empty⟩
    ∃ u u', encodeUrl e "http://a:80/".toStr = .ok u ∧ u.netloc = "a:80".toStr ∧
      str e u = .ok "http://a/".toStr ∧ encodeUrl e "http://a/".toStr = .ok u' ∧ u'.netloc = "a".toStr ∧
      str e u' = str e u ∧ Url.beq u' u = false ∧
      explicitPort e u = .ok (some 80) ∧ explicitPort e u' = .ok none :=
  C03_default_port_counterexample

/-- "parsing str(url) again yields a URL … identical" read as `URL(str(u)) == u` (closes GAPS 7): for EVERY
    reachable URL the re-parsed URL has the same stored netloc, the same `==`/hash key (`eqKey`: scheme, netloc,
    path with "" ~ "/" under an authority, query, fragment) and is `==` (`Url.beq`) EXACTLY when no explicit
    default port is stored (`NoDefaultPort e u`, C03Netloc.lean, is literally the condition written out below;
    the `←` direction is C03_headline_identical_netloc, the `→` direction generalises
    C03_headline_identical_netloc_fails_for_default_port).  Proved from C03_fixed_point_eq (C03Netloc.lean). -/
theorem C03_headline_equal_iff_no_default_port (e : Env) (u : Url)
    (hreach : ReachC e u)             -- join references canonical: C03_joinRef_wf_not_enough
    (hnet : NetlocCanon e u)          -- valid host (derived from the input: C03_headline_valid_host_* below)
    (hscheme : SchemeOK' u.scheme)    -- "RFC-valid scheme" of the property text
    (hguards : C03Guards u) :         -- F-C03-colon, F-C03-rootless
    ∃ s u', str e u = .ok s ∧ encodeUrl e s = .ok u' ∧ str e u' = .ok s ∧
      (u'.netloc = u.netloc ↔ ∀ p, explicitPort e u = .ok (some p) → some p ≠ defaultPort u.scheme) ∧
      (eqKey u' = eqKey u ↔ ∀ p, explicitPort e u = .ok (some p) → some p ≠ defaultPort u.scheme) ∧
      (Url.beq u' u = true ↔ ∀ p, explicitPort e u = .ok (some p) → some p ≠ defaultPort u.scheme) := by
  obtain ⟨s, u', h1, h2, h3, _, _, _, _, h8, h9, h10, _⟩ :=
    C03_fixed_point_eq e u (C03_reachable_canon e u hreach) hnet hscheme hguards
  exact ⟨s, u', h1, h2, h3, h8, h9, h10⟩

/-! ### the guards are needed — the four KNOWN FINDINGS of C03 -/

/-- F-C03-colon: URL('a%3Ab') is reachable, stores "a:b", and "a:b" re-parses with scheme "a" -/
theorem C03_headline_fails_for_colon_in_first_segment (b : Backend) :
    let e : Env := ⟨b, Oracles.empty⟩
    let u : Url := fromParts [] [] "a:b".toStr [] []
    ReachC e u ∧ CanonUrl b u ∧ NetlocCanon e u ∧ SchemeOK' u.scheme ∧ ¬ C03Guards u ∧
      str e u = .ok "a:b".toStr ∧
      (encodeUrl e "a:b".toStr).map (fun w => (w.scheme, w.path)) = .ok ("a".toStr, "b".toStr) :=
  C03_guard_first_segment_needed b

/-- F-C03-rootless: build(scheme="file", path="a/b") renders as "file:///a/b", which re-parses as path "/a/b" -/
theorem C03_headline_fails_for_rootless_path_authority_scheme (b : Backend) :
    let e : Env := ⟨b, Oracles.empty⟩
    let u : Url := fromParts "file".toStr [] "a/b".toStr [] []
    ReachC e u ∧ CanonUrl b u ∧ NetlocCanon e u ∧ SchemeOK' u.scheme ∧
      (u.scheme = [] → u.netloc = [] → 58 ∈ u.path → False) ∧ ¬ C03Guards u ∧
      str e u = .ok "file:///a/b".toStr ∧
      (encodeUrl e "file:///a/b".toStr).map (·.path) = .ok "/a/b".toStr ∧ C07_strPath u = "a/b".toStr :=
  C03_guard_authority_scheme_needed b

/-- F-C03-bracket (NEW as a theorem): URL('http://[[::1]/') is accepted, renders as "http://[::1/", which is rejected -/
theorem C03_headline_fails_for_malformed_brackets :
    let e : Env := ⟨.py, Oracles.empty⟩
    ∃ u, encodeUrl e "http://[[::1]/".toStr = .ok u ∧ u.netloc = "[::1".toStr ∧
      str e u = .ok "http://[::1/".toStr ∧ encodeUrl e "http://[::1/".toStr = .error .valueError :=
  ⟨{ scheme := "http".toStr, netloc := "[::1".toStr, path := [47], query := [], fragment := [],
     pre := some { rawHost := some "::".toStr, explicitPort := none, rawUser := none, rawPassword := none } },
   by decide +kernel, rfl, by decide +kernel, by decide +kernel⟩

/-- F-C03-empty-authority (NEW as a theorem): URL('svn://@/a') has host '' but URL(str(u)).host is None -/
theorem C03_headline_fails_for_empty_authority :
    let e : Env := ⟨.py, Oracles.empty⟩
    ∃ u u', encodeUrl e "svn://@/a".toStr = .ok u ∧ u.netloc = [] ∧ str e u = .ok "svn:///a".toStr ∧
      encodeUrl e "svn:///a".toStr = .ok u' ∧ rawHost e u = .ok (some []) ∧ rawHost e u' = .ok none :=
  ⟨{ scheme := "svn".toStr, netloc := [], path := "/a".toStr, query := [], fragment := [],
     pre := some { rawHost := some [], explicitPort := none, rawUser := none, rawPassword := none } },
   fromParts "svn".toStr [] "/a".toStr [] [],
   by decide +kernel, rfl, by decide +kernel, by decide +kernel, rfl, by decide +kernel⟩

/-! ## Sentence 2 — "Normalisation is therefore idempotent: a second pass of encoding, decoding, case folding,
    default-port dropping, IDNA or dot-segment removal changes nothing." -/

/-- "a second pass … changes nothing": with `u' = URL(str(u))`, `URL(str(u'))` is `u'` itself (same record,
    cache included), and `u'` again satisfies every invariant, so the statement iterates. -/
theorem C03_headline_idempotent (e : Env) (u : Url) (hreach : ReachC e u) (hnet : NetlocCanon e u)
    (hscheme : SchemeOK' u.scheme) (hguards : C03Guards u) :
    ∃ u', (str e u >>= encodeUrl e) = .ok u' ∧ (str e u' >>= encodeUrl e) = .ok u' ∧
      CanonUrl e.b u' ∧ NetlocCanon e u' := by
  obtain ⟨s, u', h1, h2, h3, _, _, _, _, _, _, _, _, _, h13, h14⟩ :=
    C03_reachable_fixed_point e u hreach hnet hscheme hguards
  refine ⟨u', ?_, ?_, h13, h14⟩
  · rw [h1]; exact h2
  · rw [h3]; exact h2

/-! ## "every URL the library produces from valid input": the guards checked on the INPUT side -/

/-- End to end: constructor + any finite sequence of operations.  `NetlocCanon` is asked of the constructor result
    once; `UOp.ArgsCanon` = arguments are Python strings (join references `CanonUrl`); `UOp.NetArgs` = a with_host
    argument encodes to a `HostFix` host, a join reference is `NetlocCanon`. -/
theorem C03_headline_op_sequence (e : Env) (s : Str) (ops : List UOp) (u v : Url) :
    PyStr s → encodeUrl e s = .ok u → NetlocCanon e u →
    (∀ op ∈ ops, op.ArgsCanon e.b ∧ op.NetArgs e) → applyOps e u ops = .ok v →
    SchemeOK' v.scheme → C03Guards v →
    ∃ t v', str e v = .ok t ∧ encodeUrl e t = .ok v' ∧ str e v' = .ok t ∧ v'.scheme = v.scheme ∧
      v'.path = C07_strPath v ∧ v'.query = v.query ∧ v'.fragment = v.fragment ∧
      port e v' = port e v ∧ rawHost e v' = rawHost e v ∧ rawUser e v' = rawUser e v ∧
      rawPassword e v' = rawPassword e v := by
  intro h1 h2 h3 h4 h5 h6 h7
  obtain ⟨t, v', a1, a2, a3, a4, a5, a6, a7, _, a9, a10, a11, a12, _⟩ :=
    C03_op_sequence_fixed_point e s ops u v h1 h2 h3 h4 h5 h6 h7
  exact ⟨t, v', a1, a2, a3, a4, a5, a6, a7, a9, a10, a11, a12⟩

/-! ### "valid input … syntactically valid host" as a condition on the INPUT (closes GAPS 1, 2 ASCII part)

  C03Netloc.lean derives `NetlocCanon` from the input text.  Vocabulary:
  `HostTextOK h`  — a supported ASCII host text as it stands in the input, in ANY letter case (spelled out in the
                    next theorem);
  `AuthInput o n` — the input authority `n` is empty, or `split_netloc` accepts it, it names a host with
                    `HostTextOK`, and a host that is no IPv6 literal is not written in brackets (written out in
                    C03_headline_valid_host_constructor);
  `BuildNetOK e a` — the arguments of `build`: `authority=` a Python string with `AuthInput`; `user=` /
                    `password=` Python strings; `host=` ASCII (it is validated by `build` itself);
  `ReachV e u`    — `ReachC` with the entry points restricted to such inputs: constructor on a Python string whose
                    authority has `AuthInput`; `build(encoded=False)` with `BuildArgsPy` and `BuildNetOK`; the 19
                    operations with `UOp.ArgsCanon` and `UOp.NetArgs`; `join` of two such URLs. -/

/-- `HostTextOK h`, written out: `h` is non-empty; WITHOUT ':' it is visible ASCII with none of `/ ? # @ [ ]`
    (reg-names in any case, also ending in a digit or a dot, IPv4 literals; '%' is allowed — the constructor does
    not validate); WITH ':' the part before the first '%' is an IPv6 literal in any spelling `ipaddress` accepts
    and the zone id after it is visible ASCII with none of `/ ? # @ [ ]`. -/
theorem C03_headline_valid_host_text_spec (h : Str) :
    HostTextOK h ↔
      h ≠ [] ∧
      (58 ∉ h → ∀ c ∈ h, 33 ≤ c ∧ c < 128 ∧ c ≠ 47 ∧ c ≠ 63 ∧ c ≠ 35 ∧ c ≠ 64 ∧ c ≠ 91 ∧ c ≠ 93) ∧
      (58 ∈ h → ∃ h8, parseIPv6 (partition 37 h).1 = some h8 ∧
         ∀ c ∈ (partition 37 h).2.2, 33 ≤ c ∧ c < 128 ∧ c ≠ 47 ∧ c ≠ 63 ∧ c ≠ 35 ∧ c ≠ 64 ∧ c ≠ 91 ∧ c ≠ 93) := by
  have tc : ∀ c : Nat, textChar c = true ↔
      (33 ≤ c ∧ c < 128 ∧ c ≠ 47 ∧ c ≠ 63 ∧ c ≠ 35 ∧ c ≠ 64 ∧ c ≠ 91 ∧ c ≠ 93) := by
    intro c
    unfold textChar
    simp
    omega
  constructor
  · intro hk
    refine ⟨hk.ne, fun h58 c hc => (tc c).1 (nameChar_text (hk.name h58 c hc)), fun h58 => ?_⟩
    obtain ⟨h8, h6, hz⟩ := hk.ipv6 h58
    exact ⟨h8, h6, fun c hc => (tc c).1 (hz c hc)⟩
  · rintro ⟨hne, hn, h6⟩
    refine ⟨hne, fun h58 c hc => ?_, fun h58 => ?_⟩
    · have h1 := (tc c).2 (hn h58 c hc)
      have hc58 : c ≠ 58 := fun h => h58 (h ▸ hc)
      unfold nameChar
      simp [h1, hc58]
    · obtain ⟨h8, h6', hz⟩ := h6 h58
      exact ⟨h8, h6', fun c hc => (tc c).2 (hz c hc)⟩

/-- the host kinds of GAPS 2 on the INPUT side (`nameChar` = visible ASCII, none of `/ ? # @ [ ] :`;
    `textChar` = the same with ':' allowed): reg-name in any case (incl. ending in a digit: "h1", "example.com1",
    "1.2.3.4.5"), trailing dot, IPv4 literal, IPv6 literal in any accepted spelling, IPv6 literal with zone id.
    NOT covered HERE: IPvFuture / other bracketed non-IPv6 text (section "bracketed hosts that are NOT IPv6
    addresses" below), non-ASCII hosts (section "IDN hosts"). -/
theorem C03_headline_valid_host_kinds :
    (∀ h : Str, h ≠ [] → (∀ c ∈ h, nameChar c = true) → HostTextOK h) ∧
    (∀ h : Str, (∀ c ∈ h, nameChar c = true) → HostTextOK (h ++ [46])) ∧
    (∀ (h : Str) (o4 : List Nat), parseIPv4 h = some o4 → HostTextOK h) ∧
    (∀ (h : Str) (h8 : List Nat), 37 ∉ h → parseIPv6 h = some h8 → HostTextOK h) ∧
    (∀ (a z : Str) (h8 : List Nat), 37 ∉ a → parseIPv6 a = some h8 → (∀ c ∈ z, textChar c = true) →
      HostTextOK (a ++ 37 :: z)) :=
  ⟨fun _ hne hch => C03_host_regname hne hch, fun _ hch => C03_host_trailing_dot hch,
   fun _ _ h4 => C03_host_ipv4 h4, fun _ _ h37 h6 => C03_host_ipv6 h37 h6,
   fun _ _ _ h37 h6 hz => C03_host_ipv6_zone h37 h6 hz⟩

/-- the host families of GAPS 2 on the STORED side: `HostFix o h` (= `_encode_host(h)` is `h` again, in brackets
    when it contains ':') holds for EVERY non-empty lower-case host text without ':' (`hostChar` = visible ASCII, no
    upper-case letter, none of `/ ? # : @ [ ]` — this subsumes hostFix_basic, whose clause "does not end in a
    digit" is not needed, hostFix_ipv4 and the trailing dot), for the compressed text of an IPv6 address with a
    zone id, and for every sane A-label text (`IdnaAnswerSane a`: non-empty and `NOT_REG_NAME` finds nothing; no
    assumption about the `idna` package is needed for THIS clause, the text is ASCII).
    IPv6 without zone: hostFix_ipv6 (Lemmas/FixLemmas.lean), as before. -/
theorem C03_headline_stored_host_families (o : Oracles) :
    (∀ h : Str, h ≠ [] → (∀ c ∈ h, hostChar c = true) → HostFix o h) ∧
    (∀ h : Str, (∀ c ∈ h, hostChar c = true) → HostFix o (h ++ [46])) ∧
    (∀ (h8 : List Nat) (z : Str), h8.length = 8 → (∀ x ∈ h8, x < 65536) → (∀ c ∈ z, textChar c = true) →
      HostFix o (ipv6ToStr h8 ++ 37 :: z)) ∧
    (∀ a : Str, IdnaAnswerSane a → HostFix o a) :=
  ⟨fun _ hne hch => C03_hostFix_lower o hne hch, fun _ hch => C03_hostFix_trailing_dot o hch,
   fun h8 z hl hx hz => C03_hostFix_ipv6_zone o h8 hl hx z hz, fun a ha => C03_idn_hostFix_answer o a ha⟩

/-- the link between the two sides: what `_encode_host` returns for a supported input host text (validation off:
    constructor, `build(authority=)`), and for ANY accepted non-empty ASCII argument with validation on
    (`build(host=)`, `with_host`), is the bracketed form of a `HostFix` host -/
theorem C03_headline_encode_host_valid (o : Oracles) (h0 r : Str) :
    (HostTextOK h0 → encodeHost o h0 false = .ok r → ∃ h, r = bracket h ∧ HostFix o h ∧ (58 ∈ h ↔ 58 ∈ h0)) ∧
    (isAscii h0 = true → h0 ≠ [] → encodeHost o h0 true = .ok r → ∃ h, r = bracket h ∧ HostFix o h) :=
  ⟨fun hk he => C03_encodeHost_hostFix o hk he, fun ha hne he => C03_encodeHost_hostFix_validated o ha hne he⟩

/-- GAPS 1, constructor: for a Python string `s` that `split_url` splits into `pt`, whose authority is empty, or is
    accepted by `split_netloc` and names a supported host text `h0` (`AuthInput e.o pt.netloc`, written out),
    the constructor result has a valid stored authority AND an RFC-valid (or empty) scheme — the scheme needs no
    hypothesis, `split_url` only cuts off a valid one.  User and password need no hypothesis either (sub-strings
    of the Python string `s`). -/
theorem C03_headline_valid_host_constructor (e : Env) (s : Str) (u : Url) (pt : Parts)
    (hs : PyStr s)                            -- "valid input": a Python string (no code point > 0x10FFFF)
    (hu : encodeUrl e s = .ok u)              -- the constructor accepts it
    (hpt : splitUrl e.o s = .ok pt)           -- names the input authority `pt.netloc`
    (ha : pt.netloc = [] ∨ ∃ np h0, splitNetloc e.o pt.netloc = .ok np ∧ np.host = some h0 ∧ HostTextOK h0 ∧
      (58 ∉ h0 → 91 ∉ (rpartition 64 pt.netloc).2.2)) : -- supported host; the bracket clause excludes members of
                                              -- F-C03-bracket: C03_headline_valid_host_fails_for_bracketed_ipv4
    NetlocCanon e u ∧ SchemeOK' u.scheme :=
  ⟨C03_encodeUrl_netlocCanon e s u pt hs hu hpt ha, C03_encodeUrl_scheme e s u hs hu⟩

/-- GAPS 1, `build(encoded=False)`: with `BuildNetOK e a` (`authority=` a Python string with `AuthInput`, `user=` /
    `password=` Python strings, `host=` ASCII — ANY accepted ASCII host, `build` validates it) the result has a
    valid stored authority and never stores an explicit default port -/
theorem C03_headline_valid_host_build (e : Env) (a : BuildArgs) (u : Url)
    (henc : a.encoded = false)                -- the auto-encoding entry point (encoded=True: GAPS 6)
    (hok : BuildNetOK e a)                    -- "valid input" for the authority arguments, see above
    (hb : build e a = .ok u) :                -- build accepts
    NetlocCanon e u ∧ ∀ p, explicitPort e u = .ok (some p) → some p ≠ defaultPort u.scheme :=
  ⟨C03_build_netlocCanon e a u henc hok hb, C03_build_noDefaultPort e a u henc hok hb⟩

/-- GAPS 1, `with_host`: EVERY non-empty ASCII argument satisfies the side condition `UOp.NetArgs` of
    C03_headline_op_sequence (written out: whatever `_encode_host(s, validate_host=True)` returns is the bracketed
    form of a `HostFix` host) -/
theorem C03_headline_valid_host_with_host (e : Env) (s : Str)
    (ha : isAscii s = true)                   -- non-ASCII arguments: C03_headline_idna_with_host
    (hne : s ≠ []) :                          -- with_host('') is rejected by the library anyway
    ∀ eh, encodeHost e.o s true = .ok eh → ∃ host, eh = bracket host ∧ HostFix e.o host :=
  C03_withHost_netArgs e s ha hne

/-- "For every URL the library produces [with the constructor] from valid input … parsing str(url) again yields a
    URL with an identical string form and identical scheme, user, password, host, port, path, query and fragment",
    hypotheses on the INPUT TEXT only, plus the two recorded exclusions on the result.  Includes `==`: equal
    exactly when no explicit default port is stored. -/
theorem C03_headline_constructor_fixed_point (e : Env) (s : Str) (u : Url) (pt : Parts)
    (hs : PyStr s) (hu : encodeUrl e s = .ok u) (hpt : splitUrl e.o s = .ok pt) -- as in …_valid_host_constructor
    (ha : AuthInput e.o pt.netloc)            -- written out in C03_headline_valid_host_constructor
    (hg : C03Guards u) :                      -- F-C03-colon, F-C03-rootless (…_fails_for_colon_in_first_segment,
                                              -- …_fails_for_rootless_path_authority_scheme)
    ∃ t u', str e u = .ok t ∧ encodeUrl e t = .ok u' ∧ str e u' = .ok t ∧ u'.scheme = u.scheme ∧
      u'.path = C07_strPath u ∧ u'.query = u.query ∧ u'.fragment = u.fragment ∧
      (u'.netloc = u.netloc ↔ ∀ p, explicitPort e u = .ok (some p) → some p ≠ defaultPort u.scheme) ∧
      (eqKey u' = eqKey u ↔ ∀ p, explicitPort e u = .ok (some p) → some p ≠ defaultPort u.scheme) ∧
      (Url.beq u' u = true ↔ ∀ p, explicitPort e u = .ok (some p) → some p ≠ defaultPort u.scheme) ∧
      port e u' = port e u ∧ rawHost e u' = rawHost e u ∧ rawUser e u' = rawUser e u ∧
      rawPassword e u' = rawPassword e u ∧ CanonUrl e.b u' ∧ NetlocCanon e u' :=
  C03_constructor_fixed_point e s u pt hs hu hpt ha hg

/-- … [with `build(encoded=False)`]: `BuildArgsPy a` (path / query / fragment are Python strings), `BuildNetOK e a`,
    and a `scheme=` of scheme characters IN ANY CASE (`SchemeChars`: every character is in `Gen.schemeChars`; the
    empty scheme included) — since fix e21485a `build` stores the scheme lower-case (`u.scheme = lower a.scheme`),
    so the scheme hypothesis is on the ARGUMENT.  Here `URL(str(u)) == u` holds unconditionally (`build` never
    stores a default port). -/
theorem C03_headline_build_fixed_point (e : Env) (a : BuildArgs) (u : Url)
    (henc : a.encoded = false)                -- the auto-encoding entry point (encoded=True: GAPS 6)
    (hpy : BuildArgsPy a)                     -- "valid input": Python strings
    (hok : BuildNetOK e a)                    -- "syntactically valid host" on the arguments
    (hsch : ∀ c ∈ a.scheme, mem c Gen.schemeChars = true) -- "RFC-valid scheme", any letter case
    (hb : build e a = .ok u)
    (hg : C03Guards u) :                      -- F-C03-colon, F-C03-rootless
    ∃ t u', str e u = .ok t ∧ encodeUrl e t = .ok u' ∧ str e u' = .ok t ∧ u'.scheme = u.scheme ∧
      u'.path = C07_strPath u ∧ u'.query = u.query ∧ u'.fragment = u.fragment ∧
      u'.netloc = u.netloc ∧ eqKey u' = eqKey u ∧ Url.beq u' u = true ∧
      port e u' = port e u ∧ rawHost e u' = rawHost e u ∧ rawUser e u' = rawUser e u ∧
      rawPassword e u' = rawPassword e u ∧ CanonUrl e.b u' ∧ NetlocCanon e u' ∧ u.scheme = lower a.scheme :=
  C03_build_fixed_point e a u henc hpy hok hsch hb hg

/-- "For every URL the library produces from valid input (RFC-valid scheme, syntactically valid host) …": every
    URL reachable from valid input (`ReachV`, see the vocabulary above) -/
theorem C03_headline_reachable_from_valid_input (e : Env) (u : Url)
    (hr : ReachV e u)                         -- produced from valid input (no hypothesis on the stored authority)
    (hs : SchemeOK' u.scheme)                 -- "RFC-valid scheme" (automatic for constructor results and for build
                                              -- with `SchemeChars`; asked of `u` because with_scheme / join also write it)
    (hg : C03Guards u) :                      -- F-C03-colon, F-C03-rootless
    ∃ t u', str e u = .ok t ∧ encodeUrl e t = .ok u' ∧ str e u' = .ok t ∧ u'.scheme = u.scheme ∧
      u'.path = C07_strPath u ∧ u'.query = u.query ∧ u'.fragment = u.fragment ∧
      (u'.netloc = u.netloc ↔ ∀ p, explicitPort e u = .ok (some p) → some p ≠ defaultPort u.scheme) ∧
      (eqKey u' = eqKey u ↔ ∀ p, explicitPort e u = .ok (some p) → some p ≠ defaultPort u.scheme) ∧
      (Url.beq u' u = true ↔ ∀ p, explicitPort e u = .ok (some p) → some p ≠ defaultPort u.scheme) ∧
      port e u' = port e u ∧ rawHost e u' = rawHost e u ∧ rawUser e u' = rawUser e u ∧
      rawPassword e u' = rawPassword e u ∧ CanonUrl e.b u' ∧ NetlocCanon e u' :=
  C03_fixed_point_eq e u (C03_reachable_canon e u (C03_reachV_reachC e u hr)) (C03_reachV_netlocCanon e u hr) hs hg

/-- End to end with input-side hypotheses only: C03_headline_op_sequence without `NetlocCanon e u` -/
theorem C03_headline_op_sequence_from_valid_input (e : Env) (s : Str) (pt : Parts) (ops : List UOp) (u v : Url)
    (hs : PyStr s) (hu : encodeUrl e s = .ok u) (hpt : splitUrl e.o s = .ok pt)
    (ha : AuthInput e.o pt.netloc)            -- written out in C03_headline_valid_host_constructor
    (hops : ∀ op ∈ ops, op.ArgsCanon e.b ∧ op.NetArgs e) -- arguments Python strings / join references canonical;
                                              -- with_host: automatic for ASCII (…_valid_host_with_host)
    (hv : applyOps e u ops = .ok v)
    (hsch : SchemeOK' v.scheme)               -- "RFC-valid scheme"
    (hg : C03Guards v) :                      -- F-C03-colon, F-C03-rootless
    ∃ t v', str e v = .ok t ∧ encodeUrl e t = .ok v' ∧ str e v' = .ok t ∧ v'.scheme = v.scheme ∧
      v'.path = C07_strPath v ∧ v'.query = v.query ∧ v'.fragment = v.fragment ∧
      (Url.beq v' v = true ↔ ∀ p, explicitPort e v = .ok (some p) → some p ≠ defaultPort v.scheme) ∧
      port e v' = port e v ∧ rawHost e v' = rawHost e v ∧ rawUser e v' = rawUser e v ∧
      rawPassword e v' = rawPassword e v := by
  obtain ⟨t, v', a1, a2, a3, a4, a5, a6, a7, _, _, a10, a11, a12, a13, a14, _⟩ :=
    C03_headline_reachable_from_valid_input e v
      (C03_applyOps_reachV e ops u v (ReachV.ctor s u pt hs hu hpt ha) hops hv) hsch hg
  exact ⟨t, v', a1, a2, a3, a4, a5, a6, a7, a10, a11, a12, a13, a14⟩

/-- the bracket clause of `AuthInput` is needed — a further member of F-C03-bracket: URL('http://[a:b]@[1.2.3.4]/')
    is accepted (the bracket check of `split_url` sees "[a:b]" in the userinfo), the host "1.2.3.4" is a supported
    host text but keeps its brackets, and the string form is REJECTED when read again -/
theorem C03_headline_valid_host_fails_for_bracketed_ipv4 :
    let e : Env := ⟨.py, Oracles.empty⟩
    ∃ u np, encodeUrl e "http://[a:b]@[1.2.3.4]/".toStr = .ok u ∧
      splitNetloc e.o "[a:b]@[1.2.3.4]".toStr = .ok np ∧ np.host = some "1.2.3.4".toStr ∧
      HostTextOK "1.2.3.4".toStr ∧ 91 ∈ (rpartition 64 "[a:b]@[1.2.3.4]".toStr).2.2 ∧
      u.netloc = "%5Ba:b%5D@[1.2.3.4]".toStr ∧ str e u = .ok "http://%5Ba:b%5D@[1.2.3.4]/".toStr ∧
      encodeUrl e "http://%5Ba:b%5D@[1.2.3.4]/".toStr = .error .valueError :=
  C03_bracketed_ipv4_counterexample

/-- "none of `[ ]` in the host text" is needed — a further member of F-C03-bracket: URL('http://[a:b@h]/') is
    accepted, the host is "h]", the string form "http://%5Ba:b@h]/" is REJECTED when read again -/
theorem C03_headline_valid_host_fails_for_bracket_in_host :
    let e : Env := ⟨.py, Oracles.empty⟩
    ∃ u np, encodeUrl e "http://[a:b@h]/".toStr = .ok u ∧
      splitNetloc e.o "[a:b@h]".toStr = .ok np ∧ np.host = some "h]".toStr ∧
      u.netloc = "%5Ba:b@h]".toStr ∧ str e u = .ok "http://%5Ba:b@h]/".toStr ∧
      encodeUrl e "http://%5Ba:b@h]/".toStr = .error .valueError :=
  C03_bracket_in_host_counterexample

/-! ### bracketed hosts that are NOT IPv6 addresses — IPvFuture "[v1.a:b]", text with ':' such as "[g::1]", "[a:b]",
    "[1.2.3.4%a:b]" (closes GAPS 2, last open part; theorems of C03Bracket.lean + Lemmas/BrHost.lean)

  Since fix c17f18a the constructor (and `build(authority=)`) keeps the brackets of such a host.  `HostFix` /
  `HostTextOK` / `AuthInput` do not cover them; the parallel vocabulary is:
  `bracketCheck t`   — the check `split_url` applies to the text between '[' and ']': a text starting with a
                       LOWER-CASE 'v' must match `v<hex>+.<char>+` (`ipvFutureOk`), any other text must contain ':';
  `BracketTextIn t`  — INPUT side, any letter case (spelled out in C03_headline_bracketed_host_text_spec);
  `BracketText t`    — STORED side: `BracketTextIn t` and no upper-case letter;
  `HostFixB o t`     — abstract form (counterpart of `HostFix`): `HostOK t`, authority characters, `bracketCheck t`,
                       and `_encode_host(t) = t` (WITHOUT brackets: `encode_url` puts them back);
  `authTextB user pw t port` — the text `[user[:password]@][t][:port]`, host ALWAYS in brackets (`authText` brackets
                       a host only when it contains ':');
  `hostPortSubB scheme t port` — `host_port_subcomponent`: trailing dots stripped, brackets only around a text with
                       ':', the port unless absent or default;
  `NetlocCanonB e u` — "syntactically valid host", STORED side, extended: `NetlocCanon e u`, or the stored authority is
                       an `authTextB` with `UserInfoOK`, `HostFixB`, port ≤ 65535 and a consistent cache;
  `AuthInputB o n`   — "syntactically valid host", INPUT side, extended (spelled out in
                       C03_headline_bracketed_auth_input_spec);
  `UOp.NetArgsB e`   — `UOp.NetArgs e` where a `join` reference may be `NetlocCanonB`. -/

/-- `BracketTextIn T` / `BracketText t`, written out: visible ASCII with none of `/ ? # @ [ ]` (`textChar`; ':' and
    '%' ARE allowed); the bracket check of `split_url` passes; the text before an optional `%zone` is no IPv6 literal
    (that is what separates this family from the IPv6 one: C03_headline_bracketed_conditions_needed); STORED side:
    additionally no upper-case letter.  `bracketCheck` by definition. -/
theorem C03_headline_bracketed_host_text_spec (t : Str) :
    (BracketTextIn t ↔
      (∀ c ∈ t, textChar c = true) ∧ bracketCheck t = true ∧
      ∀ h8, parseIP (partition 37 t).1 ≠ some (.v6 h8)) ∧
    (BracketText t ↔ BracketTextIn t ∧ ∀ c ∈ t, ¬ (65 ≤ c ∧ c ≤ 90)) ∧
    bracketCheck t = (if t.take 1 = [118] then ipvFutureOk t else mem 58 t) :=
  ⟨⟨fun h => ⟨h.chars, h.check, h.notV6⟩, fun h => ⟨h.1, h.2.1, h.2.2⟩⟩,
   ⟨fun h => ⟨h.toBracketTextIn, h.lower⟩, fun h => ⟨h.1, h.2⟩⟩, rfl⟩

/-- the two families of stored texts, and the link to the abstract form: an IPvFuture text `v<hex>+.<char>+` (never
    an IP literal, so the clause "no IPv6 literal" is automatic for it), and a text with ':' that does not start with
    'v' and is no IPv6 literal, both lower-case `textChar` text, satisfy `BracketText`; and `BracketText t` gives
    `HostFixB o t` for EVERY oracle (the oracles are never consulted: the text is ASCII).
    Cites C03_bracket_families, C03_bracket_hostFixB. -/
theorem C03_headline_bracketed_host_families (o : Oracles) :
    (∀ r : Str, parseIP (partition 37 (118 :: r)).1 = none) ∧
    (∀ t : Str, (∀ c ∈ t, textChar c = true) → (∀ c ∈ t, ¬ (65 ≤ c ∧ c ≤ 90)) → ipvFutureOk t = true →
      BracketText t) ∧
    (∀ t : Str, (∀ c ∈ t, textChar c = true) → (∀ c ∈ t, ¬ (65 ≤ c ∧ c ≤ 90)) → 58 ∈ t → t.head? ≠ some 118 →
      (∀ h8, parseIP (partition 37 t).1 ≠ some (.v6 h8)) → BracketText t) ∧
    (∀ t : Str, BracketText t → HostFixB o t) :=
  ⟨C03_bracket_families.1, C03_bracket_families.2.1, C03_bracket_families.2.2, fun _ h => C03_bracket_hostFixB o h⟩

/-- "parsing str(url) again yields a URL with an identical string form and identical scheme, user, password, host,
    port, path, query and fragment" for the string `s = scheme://[user[:password]@][t][:port]path[?query][#fragment]`
    (or `//[…` without a scheme; `canonText` = the string with these five components) around a bracketed non-IPv6
    text `t`, NO default port written: the constructor stores the authority WITH the brackets and exactly the five
    components; `raw_host = t`, `explicit_port`, `raw_user`, `raw_password` are as written; `host_subcomponent` is `[t]`
    when ':' ∈ t but the BARE `t` when not (`bracket t`); `host_port_subcomponent` is `hostPortSubB`; `str` prints `s`;
    parsing `s` again gives the SAME URL (record equality, cache included).  Cites C03_bracket_fixed_point. -/
theorem C03_headline_bracketed_host_fixed_point (e : Env) (scheme : Str) (user pw : Option Str) (t : Str)
    (port : Option Nat) (path query fragment : Str)
    (hs : SchemeOK' scheme)                       -- "RFC-valid scheme": empty, or non-empty lower-case scheme characters
    (hu : UserInfoOK e.b user pw)                 -- ANY canonical userinfo
    (hh : HostFixB e.o t)                         -- "syntactically valid host": `BracketText t` suffices (families above)
    (hp : PortOK scheme port)                     -- ANY port ≤ 65535 that is not the scheme default
                                                  -- (default port: C03_headline_bracketed_host_default_port)
    (hc : CompOK e.b path query fragment) :       -- ANY canonical path / query / fragment
    ∃ u, encodeUrl e (canonText scheme (authTextB user pw t port) path query fragment) = .ok u ∧
      u.scheme = scheme ∧ u.netloc = authTextB user pw t port ∧ u.path = path ∧ u.query = query ∧
      u.fragment = fragment ∧
      rawHost e u = .ok (some t) ∧ explicitPort e u = .ok port ∧ rawUser e u = .ok user ∧
      rawPassword e u = .ok pw ∧ hostSubcomponent e u = .ok (some (bracket t)) ∧
      hostPortSubcomponent e u = .ok (some (hostPortSubB scheme t port)) ∧
      str e u = .ok (canonText scheme (authTextB user pw t port) path query fragment) ∧
      (str e u >>= encodeUrl e) = .ok u :=
  C03_bracket_fixed_point e scheme user pw t port path query fragment hs hu hh hp hc

/-- "a second pass of … default-port dropping … changes nothing" for such a host — with a DEVIATION the module
    reports: `URL('https://[v1.a]:443/')` still stores "[v1.a]:443", but `str` rebuilds the authority from
    `host_subcomponent` and prints `[user[:password]@]` + `bracket t` — WITHOUT brackets when `t` has no ':'
    ("https://v1.a/": `[v1.a]:443` LOSES ITS BRACKETS when the default port is dropped), with them otherwise
    ("https://[v1.a:b]/").  The printed string IS a fixed point of parsing; `raw_host`, user, password and the
    effective `port` are preserved; the re-parsed URL has no explicit port, a different netloc, and is not `==` (as for
    every explicit default port: C03_headline_identical_netloc_fails_for_default_port).  Without ':' the re-parsed URL
    has an ordinary reg-name host (`NetlocCanon`, no bracket in the netloc): the IPvFuture literal silently became a
    reg-name.  (Not in KNOWN_FINDINGS; same root as GAPS 3.)  Cites C03_bracket_default_port. -/
theorem C03_headline_bracketed_host_default_port (e : Env) (scheme : Str) (user pw : Option Str) (t : Str) (p : Nat)
    (path query fragment : Str)
    (hs : SchemeOK' scheme) (hu : UserInfoOK e.b user pw) (hh : HostFixB e.o t)   -- as above
    (hd : some p = defaultPort scheme)            -- the explicit port IS the scheme default
    (hc : CompOK e.b path query fragment) :       -- as above
    ∃ u u', encodeUrl e (canonText scheme (authTextB user pw t (some p)) path query fragment) = .ok u ∧
      u.netloc = authTextB user pw t (some p) ∧
      str e u = .ok (canonText scheme (authText user pw t none) path query fragment) ∧
      encodeUrl e (canonText scheme (authText user pw t none) path query fragment) = .ok u' ∧
      str e u' = .ok (canonText scheme (authText user pw t none) path query fragment) ∧
      u'.scheme = scheme ∧ u'.netloc = authText user pw t none ∧ u'.path = path ∧ u'.query = query ∧
      u'.fragment = fragment ∧
      (58 ∈ t → u'.netloc = authTextB user pw t none) ∧
      (58 ∉ t → 91 ∉ u'.netloc ∧ NetlocCanon e u') ∧ NetlocCanonB e u' ∧
      rawHost e u = .ok (some t) ∧ rawHost e u' = .ok (some t) ∧
      explicitPort e u = .ok (some p) ∧ explicitPort e u' = .ok none ∧
      port e u = .ok (some p) ∧ port e u' = .ok (some p) ∧
      rawUser e u' = rawUser e u ∧ rawPassword e u' = rawPassword e u ∧
      u'.netloc ≠ u.netloc ∧ Url.beq u' u = false :=
  C03_bracket_default_port e scheme user pw t p path query fragment hs hu hh hd hc

/-- the two cases computed: 'https://[v1.a]:443/' prints "https://v1.a/" (brackets lost, `raw_host` kept, re-parsed
    netloc "v1.a"); 'https://[v1.a:b]:443/' prints "https://[v1.a:b]/" (':' inside: brackets kept).  `C04_roundTrip`
    = str(URL(s)).  (Evaluated; the general statement is the previous theorem.) -/
theorem C03_headline_bracketed_host_default_port_examples (b : Backend) :
    C04_roundTrip ⟨b, Oracles.empty⟩ "https://[v1.a]:443/".toStr = .ok "https://v1.a/".toStr ∧
    C04_roundTrip ⟨b, Oracles.empty⟩ "https://v1.a/".toStr = .ok "https://v1.a/".toStr ∧
    C04_roundTrip ⟨b, Oracles.empty⟩ "https://[v1.a:b]:443/".toStr = .ok "https://[v1.a:b]/".toStr ∧
    C04_roundTrip ⟨b, Oracles.empty⟩ "https://[v1.a:b]/".toStr = .ok "https://[v1.a:b]/".toStr := by
  str_lits; cases b <;> decide +kernel

/-- "For every URL the library produces from valid input (RFC-valid scheme, syntactically valid host), parsing
    str(url) again yields a URL with an identical string form and identical scheme, user, password, host, port, path,
    query and fragment" with `NetlocCanonB` as the "syntactically valid host" clause: C03_headline_identical_string_form,
    C03_headline_identical_components and C03_headline_equal_iff_no_default_port hold verbatim for the bracketed
    non-IPv6 hosts as well.  `URL(str(u)) == u` again holds exactly when no explicit default port is stored
    (`NoDefaultPort e u`, C03Netloc.lean, is literally `∀ p, explicitPort e u = .ok (some p) → some p ≠ defaultPort
    u.scheme`).  Cites C03_fixed_point_of_canonB, C03_bracket_identical_components. -/
theorem C03_headline_fixed_point_valid_or_bracketed_host (e : Env) (u : Url)
    (hreach : ReachC e u)             -- join references canonical: C03_joinRef_wf_not_enough
    (hnet : NetlocCanonB e u)         -- valid host, bracketed non-IPv6 hosts included; derived from the INPUT in
                                      -- C03_headline_bracketed_constructor_fixed_point / _build_fixed_point
    (hscheme : SchemeOK' u.scheme)    -- "RFC-valid scheme" of the property text
    (hguards : C03Guards u) :         -- F-C03-colon, F-C03-rootless (vacuous under an authority)
    (∃ s u', str e u = .ok s ∧ encodeUrl e s = .ok u' ∧ str e u' = .ok s ∧ u'.scheme = u.scheme ∧
      u'.path = C07_strPath u ∧ u'.query = u.query ∧ u'.fragment = u.fragment ∧
      (u'.netloc = u.netloc ↔ ∀ p, explicitPort e u = .ok (some p) → some p ≠ defaultPort u.scheme) ∧
      (eqKey u' = eqKey u ↔ ∀ p, explicitPort e u = .ok (some p) → some p ≠ defaultPort u.scheme) ∧
      (Url.beq u' u = true ↔ ∀ p, explicitPort e u = .ok (some p) → some p ≠ defaultPort u.scheme) ∧
      port e u' = port e u ∧ rawHost e u' = rawHost e u ∧ rawUser e u' = rawUser e u ∧
      rawPassword e u' = rawPassword e u ∧ CanonUrl e.b u' ∧ NetlocCanonB e u') ∧
    (∃ s u', str e u = .ok s ∧ encodeUrl e s = .ok u' ∧ str e u' = .ok s ∧ u'.scheme = u.scheme ∧
      rawUser e u' = rawUser e u ∧ user e u' = user e u ∧
      rawPassword e u' = rawPassword e u ∧ password e u' = password e u ∧
      rawHost e u' = rawHost e u ∧ host e u' = host e u ∧ port e u' = port e u ∧
      u'.path = C07_strPath u ∧ u'.query = u.query ∧ u'.fragment = u.fragment) :=
  ⟨C03_fixed_point_of_canonB e u (C03_reachable_canon e u hreach) hnet hscheme hguards,
   C03_bracket_identical_components e u (C03_reachable_canon e u hreach) hnet hscheme hguards⟩

/-- `NetlocCanonB` and `AuthInputB`, written out (inductive / definition of C03Bracket.lean).  `AuthInputB o n`:
    `AuthInput o n` (C03_headline_valid_host_constructor), or `split_netloc` accepts the authority, the host part was
    written in brackets, and the text `T` between them is a bracketed non-IPv6 text IN ANY LETTER CASE whose lower-cased
    form still passes the bracket check (automatic unless `T` starts with an upper-case 'V': second conjunct; needed:
    C03_headline_bracketed_fails_for_upper_case_v). -/
theorem C03_headline_bracketed_auth_input_spec (e : Env) (u : Url) (o : Oracles) (n : Str) :
    (NetlocCanonB e u ↔ NetlocCanon e u ∨ ∃ user pw t port, u.netloc = authTextB user pw t port ∧
      UserInfoOK e.b user pw ∧ HostFixB e.o t ∧ (∀ p, port = some p → p ≤ 65535) ∧
      (u.pre = none ∨ u.pre = some (preOf user pw t port))) ∧
    (AuthInputB o n ↔ AuthInput o n ∨ ∃ np T, splitNetloc o n = .ok np ∧ np.host = some T ∧
      91 ∈ (rpartition 64 n).2.2 ∧ BracketTextIn T ∧ bracketCheck (lower T) = true) ∧
    (∀ T : Str, T.head? ≠ some 86 → bracketCheck T = true → bracketCheck (lower T) = true) := by
  refine ⟨⟨fun h => ?_, fun h => ?_⟩, Iff.rfl, fun T hV h => C03_bracket_check_lower hV h⟩
  · cases h with
    | plain h => exact Or.inl h
    | brk user pw t port h1 h2 h3 h4 h5 => exact Or.inr ⟨user, pw, t, port, h1, h2, h3, h4, h5⟩
  · rcases h with h | ⟨user, pw, t, port, h1, h2, h3, h4, h5⟩
    · exact .plain h
    · exact .brk user pw t port h1 h2 h3 h4 h5

/-- "For every URL the library produces [with the constructor] from valid input …", hypotheses on the INPUT TEXT only
    (extends C03_headline_constructor_fixed_point to `AuthInputB`): the constructor on a Python string whose authority
    names a supported ASCII host OR a bracketed non-IPv6 text in any letter case stores a valid authority
    (`NetlocCanonB`; for the bracketed case `[user[:pw]@][t][:port]` with `t` the lower-cased `T`, or `T` itself for an
    IPv4 literal with a zone id containing ':'), and `str` of the result is a fixed point of parsing, with `==` exactly
    when no explicit default port is stored.
    Cites C03_bracket_encodeUrl_netlocCanonB, C03_bracket_encodeUrl_shape, C03_bracket_constructor_fixed_point. -/
theorem C03_headline_bracketed_constructor_fixed_point (e : Env) (s : Str) (u : Url) (pt : Parts)
    (hs : PyStr s) (hu : encodeUrl e s = .ok u) (hpt : splitUrl e.o s = .ok pt) -- as in …_valid_host_constructor
    (ha : AuthInputB e.o pt.netloc)           -- written out in C03_headline_bracketed_auth_input_spec
    (hg : C03Guards u) :                      -- F-C03-colon, F-C03-rootless (vacuous under an authority)
    NetlocCanonB e u ∧
    (∀ np T, splitNetloc e.o pt.netloc = .ok np → np.host = some T → 91 ∈ (rpartition 64 pt.netloc).2.2 →
      BracketTextIn T → bracketCheck (lower T) = true →
      ∃ user pw t, u.netloc = authTextB user pw t np.port ∧ UserInfoOK e.b user pw ∧ HostFixB e.o t ∧
        (t = lower T ∨ t = T) ∧ u.pre = some (preOf user pw t np.port) ∧ (∀ p, np.port = some p → p ≤ 65535)) ∧
    ∃ t u', str e u = .ok t ∧ encodeUrl e t = .ok u' ∧ str e u' = .ok t ∧ u'.scheme = u.scheme ∧
      u'.path = C07_strPath u ∧ u'.query = u.query ∧ u'.fragment = u.fragment ∧
      (u'.netloc = u.netloc ↔ ∀ p, explicitPort e u = .ok (some p) → some p ≠ defaultPort u.scheme) ∧
      (eqKey u' = eqKey u ↔ ∀ p, explicitPort e u = .ok (some p) → some p ≠ defaultPort u.scheme) ∧
      (Url.beq u' u = true ↔ ∀ p, explicitPort e u = .ok (some p) → some p ≠ defaultPort u.scheme) ∧
      port e u' = port e u ∧ rawHost e u' = rawHost e u ∧ rawUser e u' = rawUser e u ∧
      rawPassword e u' = rawPassword e u ∧ CanonUrl e.b u' ∧ NetlocCanonB e u' :=
  ⟨C03_bracket_encodeUrl_netlocCanonB e s u pt hs hu hpt ha,
   fun np T hsp hhost hwrap hk hlow => C03_bracket_encodeUrl_shape e s u pt np T hs hu hpt hsp hhost hwrap hk hlow,
   C03_bracket_constructor_fixed_point e s u pt hs hu hpt ha hg⟩

/-- … [with `build(encoded=False, authority=…)`] on an authority naming a bracketed non-IPv6 host (`build(host=…)`
    validates its argument and never yields such a host): a valid stored authority, the scheme lowered, no default
    port stored, and the fixed point with `URL(str(u)) == u` unconditionally.
    Cites C03_bracket_build_netlocCanonB, C03_bracket_build_fixed_point. -/
theorem C03_headline_bracketed_build_fixed_point (e : Env) (a : BuildArgs) (u : Url) (np : NetlocParts) (T : Str)
    (henc : a.encoded = false)                -- the auto-encoding entry point (encoded=True: GAPS 6)
    (hpy : BuildArgsPy a) (hapy : PyStr a.authority)   -- "valid input": Python strings
    (hsp : splitNetloc e.o a.authority = .ok np) (hhost : np.host = some T)  -- names the host text `T` of `authority=`
    (hwrap : 91 ∈ (rpartition 64 a.authority).2.2)     -- it was written in brackets
    (hk : BracketTextIn T)                    -- a bracketed non-IPv6 text, any letter case
    (hlow : bracketCheck (lower T) = true)    -- needed: C03_headline_bracketed_fails_for_upper_case_v
    (hsch : SchemeChars a.scheme)             -- "RFC-valid scheme", any letter case
    (hb : build e a = .ok u)
    (hg : C03Guards u) :                      -- F-C03-colon, F-C03-rootless
    (NetlocCanonB e u ∧ (∀ p, explicitPort e u = .ok (some p) → some p ≠ defaultPort u.scheme) ∧
      lowerAny e a.scheme = .ok u.scheme) ∧
    ∃ t u', str e u = .ok t ∧ encodeUrl e t = .ok u' ∧ str e u' = .ok t ∧ u'.scheme = u.scheme ∧
      u'.path = C07_strPath u ∧ u'.query = u.query ∧ u'.fragment = u.fragment ∧
      u'.netloc = u.netloc ∧ eqKey u' = eqKey u ∧ Url.beq u' u = true ∧
      port e u' = port e u ∧ rawHost e u' = rawHost e u ∧ rawUser e u' = rawUser e u ∧
      rawPassword e u' = rawPassword e u ∧ CanonUrl e.b u' ∧ NetlocCanonB e u' ∧ u.scheme = lower a.scheme :=
  ⟨C03_bracket_build_netlocCanonB e a u np T henc hapy hsp hhost hwrap hk hlow hb,
   C03_bracket_build_fixed_point e a u np T henc hpy hapy hsp hhost hwrap hk hlow hsch hb hg⟩

/-- END TO END with input-side hypotheses only (extends C03_headline_op_sequence_from_valid_input): the constructor on
    a Python string whose authority satisfies `AuthInputB`, followed by ANY finite sequence of the 19 operations; every
    operation keeps `NetlocCanonB`.  Cites C03_applyOp_netlocCanonB, C03_bracket_op_sequence_fixed_point. -/
theorem C03_headline_bracketed_op_sequence (e : Env) (s : Str) (pt : Parts) (ops : List UOp) (u v : Url)
    (hs : PyStr s) (hu : encodeUrl e s = .ok u) (hpt : splitUrl e.o s = .ok pt)
    (ha : AuthInputB e.o pt.netloc)           -- written out in C03_headline_bracketed_auth_input_spec
    (hops : ∀ op ∈ ops, op.ArgsCanon e.b ∧ op.NetArgsB e) -- arguments Python strings / join references canonical with
                                              -- `NetlocCanonB`; with_host: automatic for ASCII (…_valid_host_with_host)
    (hv : applyOps e u ops = .ok v)
    (hsch : SchemeOK' v.scheme)               -- "RFC-valid scheme"
    (hg : C03Guards v) :                      -- F-C03-colon, F-C03-rootless
    (∀ (w : Url) (op : UOp) (w' : Url), NetlocCanonB e w → op.ArgsPy e.b → op.NetArgsB e →
      applyOp e w op = .ok w' → NetlocCanonB e w') ∧
    ∃ t v', str e v = .ok t ∧ encodeUrl e t = .ok v' ∧ str e v' = .ok t ∧ v'.scheme = v.scheme ∧
      v'.path = C07_strPath v ∧ v'.query = v.query ∧ v'.fragment = v.fragment ∧
      (v'.netloc = v.netloc ↔ ∀ p, explicitPort e v = .ok (some p) → some p ≠ defaultPort v.scheme) ∧
      (eqKey v' = eqKey v ↔ ∀ p, explicitPort e v = .ok (some p) → some p ≠ defaultPort v.scheme) ∧
      (Url.beq v' v = true ↔ ∀ p, explicitPort e v = .ok (some p) → some p ≠ defaultPort v.scheme) ∧
      port e v' = port e v ∧ rawHost e v' = rawHost e v ∧ rawUser e v' = rawUser e v ∧
      rawPassword e v' = rawPassword e v ∧ CanonUrl e.b v' ∧ NetlocCanonB e v' :=
  ⟨fun w op w' hn ha hx h => C03_applyOp_netlocCanonB e w hn op ha hx w' h,
   C03_bracket_op_sequence_fixed_point e s pt ops u v hs hu hpt ha hops hv hsch hg⟩

/-- what the authority-writing modifiers do to a bracketed host (reported by the module, same mechanism as the
    default-port case): `with_port`, `with_user` (likewise `with_password`, and `origin()` when a userinfo is present)
    rebuild the authority from `host_subcomponent`.  WITHOUT a ':' the brackets are dropped —
    URL('http://[v1.a]/p').with_port(81) is 'http://v1.a:81/p' — with a ':' they are kept.  Both results are valid
    stored authorities (previous theorem), `raw_host` is kept.  Cites C03_bracket_modifiers_drop_brackets. -/
theorem C03_headline_bracketed_modifiers_drop_brackets :
    let e : Env := ⟨.py, Oracles.empty⟩
    (encodeUrl e "http://[v1.a]/p".toStr >>= fun u => applyOp e u (.withPort (some 81) 0)).map (·.netloc)
      = .ok "v1.a:81".toStr ∧
    (encodeUrl e "http://[v1.a]/p".toStr >>= fun u => applyOp e u (.withUser (some "x".toStr))).map (·.netloc)
      = .ok "x@v1.a".toStr ∧
    (encodeUrl e "http://[v1.a:b]/p".toStr >>= fun u => applyOp e u (.withPort (some 81) 0)).map (·.netloc)
      = .ok "[v1.a:b]:81".toStr ∧
    (encodeUrl e "http://[v1.a:b]/p".toStr >>= fun u => applyOp e u (.withUser (some "x".toStr))).map (·.netloc)
      = .ok "x@[v1.a:b]".toStr :=
  C03_bracket_modifiers_drop_brackets

/-- `bracketCheck (lower T)` in `AuthInputB` is needed — a FURTHER MEMBER of F-C03-bracket: the IPvFuture test of
    `split_url` looks for a LOWER-CASE 'v' only, but the host is lower-cased afterwards.  URL('http://[V:b]/') is
    accepted (the text has a ':'), stores "[v:b]", prints "http://[v:b]/" — and that string is REJECTED when read again
    ("IPvFuture address is invalid").  Python: `URL(str(URL('http://[V:b]/')))` raises ValueError; also '[V1:a]',
    '[Vx.a:b]'.  Cites C03_bracket_upper_v_counterexample. -/
theorem C03_headline_bracketed_fails_for_upper_case_v :
    let e : Env := ⟨.py, Oracles.empty⟩
    ∃ u, encodeUrl e "http://[V:b]/".toStr = .ok u ∧ u.netloc = "[v:b]".toStr ∧
      str e u = .ok "http://[v:b]/".toStr ∧ encodeUrl e "http://[v:b]/".toStr = .error .valueError ∧
      BracketTextIn "V:b".toStr ∧ bracketCheck (lower "V:b".toStr) = false :=
  C03_bracket_upper_v_counterexample

/-- which clauses of `BracketText` are needed.  LOWER CASE is needed for the identity `str(URL(s)) = s`, NOT for the
    fixed point: URL('http://[V1.A:B]/') stores "[v1.a:b]" and prints "http://[v1.a:b]/", a fixed point (covered by
    `AuthInputB`).  "NOT an IPv6 literal": "[0:0:0:0:0:0:0:1]" satisfies every other clause but is stored compressed,
    "[::1]" (a `HostFix` host).  The excluded characters: '/' (likewise '?', '#') ends the authority and the
    constructor raises; a second ']' ends the host early ("[a:]b]" is stored "[a:]"); TAB (likewise CR, LF) is removed
    by `split_url`; '@' and '[' inside are the recorded members of F-C03-bracket above.
    Cites C03_bracket_upper_case_lowered, C03_bracket_not_v6_needed, C03_bracket_chars_needed. -/
theorem C03_headline_bracketed_conditions_needed :
    let e : Env := ⟨.py, Oracles.empty⟩
    (∃ u, encodeUrl e "http://[V1.A:B]/".toStr = .ok u ∧ u.netloc = "[v1.a:b]".toStr ∧
      str e u = .ok "http://[v1.a:b]/".toStr ∧ encodeUrl e "http://[v1.a:b]/".toStr = .ok u ∧
      BracketTextIn "V1.A:B".toStr ∧ ¬ BracketText "V1.A:B".toStr ∧ BracketText "v1.a:b".toStr) ∧
    ((∀ c ∈ "0:0:0:0:0:0:0:1".toStr, textChar c = true) ∧ bracketCheck "0:0:0:0:0:0:0:1".toStr = true ∧
      ¬ BracketText "0:0:0:0:0:0:0:1".toStr ∧
      (encodeUrl e "http://[0:0:0:0:0:0:0:1]/".toStr).map (·.netloc) = .ok "[::1]".toStr) ∧
    (encodeUrl e "http://[a:/b]/".toStr = .error .valueError ∧
      encodeUrl e "http://[a:?b]/".toStr = .error .valueError ∧
      encodeUrl e "http://[a:#b]/".toStr = .error .valueError ∧
      (encodeUrl e "http://[a:]b]/".toStr).bind (str e) = .ok "http://[a:]/".toStr ∧
      (encodeUrl e ("http://[a:".toStr ++ [9] ++ "b]/".toStr)).bind (str e) = .ok "http://[a:b]/".toStr) :=
  ⟨C03_bracket_upper_case_lowered, C03_bracket_not_v6_needed, C03_bracket_chars_needed⟩

/-- NOT covered (stays in GAPS 2): the bound "visible" (33 ≤ c) of `textChar` is not sharp — a SPACE inside the
    brackets is outside `BracketText`, yet "http://[a: b]/" is a fixed point in the model and in the library; there is no
    theorem for it.  Cites C03_bracket_space_not_covered. -/
theorem C03_headline_bracketed_space_not_covered :
    let e : Env := ⟨.py, Oracles.empty⟩
    ¬ BracketText "a: b".toStr ∧
    (encodeUrl e "http://[a: b]/".toStr).bind (str e) = .ok "http://[a: b]/".toStr :=
  C03_bracket_space_not_covered

/-! ### IDN hosts (GAPS 2 / 5, "IDNA") — under a stated ASSUMPTION about the `idna` package

  IDNA is an oracle of the model (the answers of the third-party `idna` package and of the stdlib codec are inputs).
  `IdnaAnswerSane a` — `a` is non-empty and the library's own `NOT_REG_NAME` screen finds nothing in it (lower-case
  RFC 3986 reg-name text); `IdnaSaneAt o h` — every answer of the oracle for the host `h` is sane (the fallback
  codec's answer after the `.lower()` the library applies).  This is TRUSTED BASE (C16Idn.lean), not proved. -/

/-- "a second pass of … case folding … IDNA … changes nothing", constructor on `scheme://h/path#fragment` with a
    non-ASCII host `h` (`IdnHostInput`: non-ASCII, none of `/ ? # TAB LF CR [ ] : @`, passes the NFKC check, the
    isdigit oracle knows it, no IP literal before a '%'; so NO userinfo, NO port, and NO query in this shape): `u`
    stores the A-label `a`, and `URL(str(u))` has the same string form, scheme, netloc, path, query, fragment, raw
    host and `==` key.  The second parse does not reach IDNA (a sane answer is ASCII). -/
theorem C03_headline_idna_constructor_fixed_point (e : Env) (sc h rp rf : Str)
    (hsc : SchemeOK sc)                       -- "RFC-valid scheme": non-empty lower-case scheme characters
    (hi : IdnHostInput e.o h)                 -- the shape of the input host, see above
    (hs : IdnaSaneAt e.o h)                   -- ASSUMPTION about the idna package (needed: …_idna_fails_for_insane_answer)
    (h35 : 35 ∉ rp) (h63 : 63 ∉ rp)           -- `rp` is the path text after the first '/': no '#', no '?'
    (hc1 : Clean rp) (hc2 : Clean rf)         -- no TAB / LF / CR (split_url would strip them)
    (hpy : PyStr (sc ++ 58 :: 47 :: 47 :: (h ++ (47 :: rp ++ fragTail rf)))) -- a Python string
    (u : Url) :
    encodeUrl e (sc ++ 58 :: 47 :: 47 :: (h ++ (47 :: rp ++ fragTail rf))) = .ok u →
    ∃ a t u', idnaEncode e.o h = .ok a ∧ IdnaAnswerSane a ∧ u.netloc = a ∧ rawHost e u = .ok (some a) ∧
      str e u = .ok t ∧ encodeUrl e t = .ok u' ∧ str e u' = .ok t ∧ u'.scheme = u.scheme ∧
      u'.netloc = u.netloc ∧ u'.path = C07_strPath u ∧ u'.query = u.query ∧ u'.fragment = u.fragment ∧
      rawHost e u' = .ok (some a) ∧ eqKey u' = eqKey u ∧ CanonUrl e.b u' ∧ NetlocCanon e u' :=
  C03_idn_ctor_fixed_point e sc h rp rf hsc hi hs h35 h63 hc1 hc2 hpy u

/-- ANY authority the library writes around a sane A-label host — userinfo and port included — is a valid stored
    authority (so every theorem with the hypothesis `NetlocCanon e u` applies to it); no assumption about the
    package, only about the stored text `a` -/
theorem C03_headline_idna_valid_host (e : Env) (u : Url) (user pw : Option Str) (a : Str) (port : Option Nat)
    (hnet : u.netloc = authText user pw a port)   -- the stored authority is [user[:pw]@]a[:port]
    (hu : UserInfoOK e.b user pw)                 -- user non-empty, user / password REQUOTER-canonical
    (ha : IdnaAnswerSane a)                       -- the stored host is sane A-label text
    (hp : ∀ p, port = some p → p ≤ 65535)         -- port in range
    (hpre : u.pre = none ∨ u.pre = some (preOf user pw a port)) : -- cache empty or consistent
    NetlocCanon e u :=
  C03_idn_netlocCanon e u user pw a port hnet hu ha hp hpre

/-- `with_host(h)` with a non-ASCII `h` satisfies the side condition `UOp.NetArgs` of C03_headline_op_sequence
    (written out).  Validation is on, so the library checks the reg-name screen itself; all that is assumed of the
    package is a NON-EMPTY answer. -/
theorem C03_headline_idna_with_host (e : Env) (h : Str)
    (hna : isAscii h = false)                     -- the IDN case (ASCII: C03_headline_valid_host_with_host)
    (hip : parseIP (partition 37 h).1 = none)     -- not an IP literal followed by a non-ASCII zone id
    (hne : ∀ r, idnaEncode e.o h = .ok r → r ≠ []) : -- ASSUMPTION about the idna package: no empty answer
    ∀ eh, encodeHost e.o h true = .ok eh → ∃ host, eh = bracket host ∧ HostFix e.o host :=
  C03_idn_withHost_netArgs e h hna hip hne

/-- the assumption is needed at URL level: with an `idna` package that answered "XN--A" (upper case) or "a/b" for
    the input host of `C16_idn_input` ("http://é/p", C16Idn.lean) the constructor's result is NOT a fixed
    point — re-parsing `str(u)` changes the netloc, resp. host and path.  (Hypothetical packages, not a finding.) -/
theorem C03_headline_idna_fails_for_insane_answer :
    (let e : Env := { b := .c, o := C16_idn_hostile "XN--A".toStr }
     (encodeUrl e C16_idn_input).map (·.netloc) = .ok "XN--A".toStr ∧
     (encodeUrl e C16_idn_input).bind (str e) = .ok "http://XN--A/p".toStr ∧
     (encodeUrl e "http://XN--A/p".toStr).map (·.netloc) = .ok "xn--a".toStr) ∧
    (let e : Env := { b := .c, o := C16_idn_hostile "a/b".toStr }
     (encodeUrl e C16_idn_input).map (fun u => (u.netloc, u.path)) = .ok ("a/b".toStr, "/p".toStr) ∧
     (encodeUrl e C16_idn_input).bind (str e) = .ok "http://a/b/p".toStr ∧
     (encodeUrl e "http://a/b/p".toStr).map (fun u => (u.netloc, u.path)) = .ok ("a".toStr, "/b/p".toStr)) :=
  C03_idn_needs_sane

/-
GAPS:
 1. CLOSED (for the ASCII host kinds of item 2) by C03_encodeUrl_netlocCanon, C03_encodeUrl_scheme (C03Reach.lean),
    C03_build_netlocCanon, C03_withHost_netArgs, C03_constructor_fixed_point, C03_build_fixed_point,
    C03_reachV_netlocCanon, C03_applyOps_reachV (C03Netloc.lean), see
    C03_headline_valid_host_constructor / _valid_host_build / _valid_host_with_host,
    C03_headline_constructor_fixed_point, C03_headline_build_fixed_point,
    C03_headline_reachable_from_valid_input, C03_headline_op_sequence_from_valid_input.  `NetlocCanon e u` is now
    DERIVED from the input: for the constructor from "`s` is a Python string, `split_url` gives `pt`, `pt.netloc`
    is empty or `split_netloc` accepts it and names a host text with `HostTextOK` that is not wrongly bracketed"
    (the scheme and the userinfo need no hypothesis); for `build(encoded=False)` from `BuildNetOK` (any accepted
    ASCII `host=`); for `with_host` from "non-empty ASCII argument"; modifiers carry it as before.  The fixed-point
    theorems are restated with these input-side hypotheses only (plus `C03Guards` and, where with_scheme / join may
    have written the scheme, `SchemeOK'` of the result).
    What remains a hypothesis: `split_url` / `split_netloc` succeeding on the concrete input (`hpt`, first clause
    of `AuthInput`; discharged by `decide` per input; C03 has no theorem over GENERATED text, as C04 has with
    `composeUrl` / `canonText`);
    for the operation `joinRef` the side condition is still `NetlocCanon e ref` on the stored reference (a
    reference that is itself `ReachV` is covered by `ReachV.join`); hosts outside `HostTextOK` (item 2: bracketed
    non-IPv6 hosts have their own input-side theorems, C03_headline_bracketed_constructor_fixed_point /
    _build_fixed_point / _op_sequence, with `AuthInputB` in place of `AuthInput`).
    The bracket side conditions of `AuthInput` are needed: C03_headline_valid_host_fails_for_bracketed_ipv4,
    C03_headline_valid_host_fails_for_bracket_in_host (further members of F-C03-bracket).
 2. CLOSED for ASCII hosts (IDN: only under the assumption of item 8) by C03_host_* / C03_hostFix_* /
    C03_encodeHost_hostFix(_validated) (C03Netloc.lean) and
    C03_idn_hostFix_answer (C03Idn.lean), see C03_headline_valid_host_text_spec, C03_headline_valid_host_kinds,
    C03_headline_stored_host_families, C03_headline_encode_host_valid.  Now covered, in ANY letter case on the
    input side: reg-names incl. those ending in a digit ("h1", "1.2.3.4.5") or in a dot, IPv4, IPv6 in any accepted
    spelling, IPv6 with a zone id; on the stored side every non-empty lower-case host text without ':' and every
    sane A-label text satisfy `HostFix`.
    IDN hosts: proved ONLY under the assumption `IdnaSaneAt` about the `idna` package (item 8), and at input level
    only for the constructor on the shape `scheme://h/path#fragment` (no userinfo, no port, no query:
    C03_headline_idna_constructor_fixed_point) and for `with_host` (C03_headline_idna_with_host); for other shapes
    the reader must exhibit the stored authority (C03_headline_idna_valid_host).  There is NO theorem for
    `build(host=<IDN>)` (`BuildNetOK` asks an ASCII host) and IDN inputs are not entry points of `ReachV`.
    IPvFuture / bracketed non-IPv6 text — CLOSED by C03_bracket_fixed_point, C03_bracket_default_port,
    C03_fixed_point_of_canonB, C03_bracket_identical_components, C03_bracket_constructor_fixed_point,
    C03_bracket_build_fixed_point, C03_applyOp_netlocCanonB, C03_bracket_op_sequence_fixed_point, C03_bracket_families,
    C03_bracket_hostFixB (C03Bracket.lean, Lemmas/BrHost.lean), see C03_headline_bracketed_host_text_spec,
    C03_headline_bracketed_host_families, C03_headline_bracketed_host_fixed_point,
    C03_headline_bracketed_host_default_port (+ …_default_port_examples),
    C03_headline_fixed_point_valid_or_bracketed_host, C03_headline_bracketed_auth_input_spec,
    C03_headline_bracketed_constructor_fixed_point, C03_headline_bracketed_build_fixed_point,
    C03_headline_bracketed_op_sequence.  Such hosts are still not `HostTextOK` / `HostFix`; they have their own
    vocabulary (`BracketTextIn` on the input side, any letter case; `BracketText` / `HostFixB` on the stored side;
    `NetlocCanonB` = `NetlocCanon` or a bracketed authority; `AuthInputB`), and every fixed-point statement of this file
    that takes `NetlocCanon e u` holds verbatim with `NetlocCanonB e u`, from the input text for the constructor and
    `build(authority=)`, and through any sequence of the 19 operations.  DEVIATIONS the module reports:
    (i) `[v1.a]:443` LOSES ITS BRACKETS when the default port is dropped: `str` rebuilds the authority from
    `host_subcomponent`, which brackets a host only when it contains ':' — 'https://[v1.a]:443/' prints "https://v1.a/"
    (a fixed point, `raw_host` kept, but the IPvFuture literal has silently become a reg-name; with a ':' inside,
    "[v1.a:b]", the brackets stay); the same happens under with_user / with_password / with_port / origin
    (C03_headline_bracketed_modifiers_drop_brackets).  Not in KNOWN_FINDINGS.
    (ii) a FURTHER MEMBER of F-C03-bracket: the bracket check looks for a lower-case 'v' only but the host is lowered
    afterwards, so URL('http://[V:b]/') prints "http://[v:b]/", which is REJECTED when read again
    (C03_headline_bracketed_fails_for_upper_case_v); hence the clause `bracketCheck (lower T)` of `AuthInputB`
    (automatic unless the text starts with 'V').  The other clauses are needed too: C03_headline_bracketed_conditions_needed.
    STILL OPEN for this family: a SPACE inside the brackets ("[a: b]" is a fixed point in model and library but outside
    `BracketText`: C03_headline_bracketed_space_not_covered); `ReachV` itself was not extended (the end-to-end statement
    for bracketed hosts is C03_headline_bracketed_op_sequence: constructor + operations; for `build(authority=)` +
    operations the reader composes the `NetlocCanonB` of C03_headline_bracketed_build_fixed_point, the preservation
    clause of C03_headline_bracketed_op_sequence and C03_headline_fixed_point_valid_or_bracketed_host; a `join`
    reference carries `NetlocCanonB` as a hypothesis on the stored reference, `UOp.NetArgsB`);
    `build(host=…)` / `with_host` validate their argument and never yield such a host (nothing to prove).
 3. "identical … port" holds for `port` (effective port).  For `explicit_port` / the stored netloc / `==` it is
    FALSE when an explicit default port was written (C03_headline_identical_netloc_fails_for_default_port).  This
    is recorded as FINDING in C03.lean but is NOT in KNOWN_FINDINGS.jsonl.
    (Added: the exact condition is now a theorem, C03_headline_equal_iff_no_default_port; KNOWN_FINDINGS has the
    same root under property C07, F-C07-default-port — witness URL('http://a:80/p') —, still no C03 entry.)
 4. "identical … path" for the STORED path is false for "" in front of '?'/'#' under an authority
    (C03_headline_identical_stored_path_fails_for); `raw_path` and `==` agree, `raw_parts` do not.
 5. CLOSED (within the limits of item 9) by C03_mech_case_folding, C03_mech_requote, C03_mech_requote_stored,
    C03_mech_requote_both_backends, C03_mech_dot_segments (+ C03_mech_dot_segments_stored), C03_mech_host,
    C03_mech_host_idna, C03_mech_default_port, C03_mech_second_pass_identity (+ _reachable, _from_valid_input),
    C03_mech_bracketed_host (C03Mech.lean; every theorem instantiated on concrete URLs, both backends, in
    C03MechChecks.lean), see C03_headline_mech_case_folding, C03_headline_mech_requote, C03_headline_mech_requote_stored,
    C03_headline_mech_dot_segments, C03_headline_mech_host, C03_headline_mech_host_idna, C03_headline_mech_default_port,
    C03_headline_second_pass_identity, C03_headline_second_pass_identity_from_valid_input,
    C03_headline_mech_bracketed_host (C03HeadlineMore3.lean).  Proved: there is now ONE THEOREM PER MECHANISM named in
    sentence 2, each about the SECOND pass (`s = str(u)`, `pt = split_url(s)`, `np = split_netloc(pt.netloc)`) and each
    saying that this mechanism of `encode_url` returns the piece it is handed: CASE FOLDING — scheme piece = stored
    scheme, lower-case; host piece = stored raw_host, ASCII, address part lower-case, whole host lower-case unless it is
    an IP literal with a `%zone`; ENCODING / DECODING — PATH_/QUERY_/FRAGMENT_REQUOTER and REQUOTER (user, password:
    `REQUOTER(user) or None`) return their pieces, the pieces are the stored components, on the stored record and for
    both backends; DOT-SEGMENT REMOVAL — under an authority the stored path has no dot segment and is a fixed point of
    `normalize_path` AND of RFC 3986 §5.2.4 (`Rfc.removeDotSegments`), and the guarded call
    `if netloc and "." in path` returns the path piece; HOST / IDNA — `_encode_host(raw_host)` is `raw_host` (bracketed
    iff it contains ':') for EVERY oracle, i.e. the second pass never consults IDNA; for an IDN input (constructor,
    shape of item 2, under the assumption of item 8) the stored A-label is ASCII and `_encode_host` of it is itself even
    with `Oracles.empty`; DEFAULT-PORT DROPPING — the authority piece never carries the default port, the second pass
    stores it unchanged, the stored netloc changes in that pass exactly when an explicit default port is stored
    (`NoDefaultPort`; then explicit_port becomes None, port stays: item 3), and nothing changes afterwards; COMBINED —
    `encode_url(str(u))` stores exactly the five split pieces, `netBlock` / `encPath` / `encQuery` / `encFragment` each
    map their piece to itself (domain `NetlocCanonB`).  Hypotheses: those of C03_headline_identical_string_form
    (`ReachC` — the cited theorems need only `CanonUrl e.b u` —, `NetlocCanon` resp. `NetlocCanonB`, `SchemeOK'`,
    `C03Guards`); C03_headline_second_pass_identity_from_valid_input has input-side hypotheses only (`ReachV`).
    Two corners where a naive reading of sentence 2 is FALSE, both inside the domain, neither a defect:
    "the stored host is lower-case" fails for an upper-case zone id, URL('http://[FE80::1%Eth0]/p') keeps 'Eth0'
    (C03_headline_mech_case_folding_fails_for_zone_id, cites C03_mech_case_folding_zone_counterexample);
    "`normalize_path(path) = path`" fails WITHOUT an authority, URL('a/./b') keeps its dot segment in both passes
    (C03_headline_mech_dot_segments_fails_without_authority, cites C03_mech_dot_segments_no_authority); in both cases the
    second pass is still the identity.
    Still true from before: idempotence as "URL(str(u')) = u'" is C03_headline_idempotent; the input-side theorems take
    the host in any letter case (`HostTextOK`) and `build` a scheme in any case (C03_headline_build_fixed_point,
    `u.scheme = lower a.scheme`); `build` never stores a default port (C03_headline_valid_host_build); for a bracketed
    non-IPv6 host the dropped default port also drops the brackets of a host without ':' — the printed string is still
    a fixed point (C03_headline_bracketed_host_default_port, item 2 (i); restated as the last clause of
    C03_headline_mech_bracketed_host).
 6. PARTLY CLOSED (constructor on canonical text: CLOSED on the input side, see FURTHER CLOSED below) by
    C03_mech_encoded_true_fixed_point, C03_mech_encoded_true_noncanonical_counterexample (C03Mech.lean)
    and reachE_of_record (ReachE.lean: `ReachE` = the closure of ALL entry points of the model, the four `encoded=True`
    ones included), see C03_headline_encoded_true_fixed_point, C03_headline_all_entry_points_fixed_point,
    C03_headline_encoded_true_fails_for_noncanonical (C03HeadlineMore3.lean).  `encoded=True` entry points are still
    outside `ReachC` / `ReachV`.  Proved: (i) for `s = str(u)` with `u` in the C03 domain (`CanonUrl`, `NetlocCanonB`,
    `SchemeOK'`, `C03Guards`), `URL(s, encoded=True)` stores the same five parts as `URL(s)` (it is `URL(s)` without the
    pre-filled cache), is `==` to it, prints `s`, and `s` is a fixed point of both constructors; (ii) the fixed-point
    theorem itself (C03_fixed_point_of_canonB) needs no reachability, so it holds for a URL made through ANY entry point
    whose STORED RECORD satisfies the four hypotheses.  For `encoded=True` objects the property text is FALSE without
    that: URL('http://EXAMPLE.com/a/../b c', encoded=True) is a `ReachE` URL, prints its text verbatim, and
    URL(str(v)) prints 'http://example.com/b%20c' (C03_headline_encoded_true_fails_for_noncanonical; not a defect,
    `encoded=True` is the caller's promise).  WAS STILL OPEN: the four hypotheses are hypotheses on the stored record,
    and `ReachE` cannot supply them (every cache-free record of Python strings is in `ReachE`: reachE_of_record); there
    was NO input-side characterisation of the `encoded=True` texts that give a canonical record.
    FURTHER CLOSED — for the CONSTRUCTOR `URL(s, encoded=True)` only — by C03_encoded_true_on_canonical,
    C03_canonical_text_ascii, C03_encoded_true_same_parts, C03_encoded_true_canonical_iff (+ _of_domainB),
    C03_same_parts_not_canonical, C03_prints_not_canonical, C03_canonical_text_well_escaped_fails_for_zone_id
    (C03Encoded.lean), see C03_headline_encoded_true_on_canonical_text, …_in_domain, …_every_accessor,
    C03_headline_canonical_text_ascii, C03_headline_canonical_text_well_escaped_fails_for_zone_id,
    C03_headline_encoded_true_same_parts, C03_headline_encoded_true_canonical_iff,
    C03_headline_same_parts_fails_to_give_canonical, C03_headline_prints_fails_to_give_canonical
    (C03HeadlineMore5.lean).  Proved, with the hypothesis on the INPUT STRING: for EVERY `s` with `canonicalB s = true`
    (the computable checker of C04Decide.lean — a hand-written reading of "already canonical", C04Headline.lean
    GAPS 7; both backends, every oracle assignment, no other hypothesis) `URL(s, encoded=True)` and `URL(s)` succeed,
    store the same five parts (the Appendix-B components of `s`), are `==`, both print `s`, `s` is a fixed point of
    both constructors from either object, the `encoded=True` record satisfies the four hypotheses (`CanonUrl`,
    `NetlocCanonB`, `SchemeOK'`, `C03Guards`: every C03 theorem about such records applies), its lazily derived
    authority cache is the pre-filled one and all 53 accessors agree; such an `s` is ASCII and component-wise well
    escaped (the whole string when the `host[:port]` text has no '%' — guard NEEDED: a zone id,
    'http://[fe80::1%eth0]:8080/p', F-C01-host-percent).  CONVERSE, under the HYPOTHESIS `C04_Domain e.o s p`
    (C04Headline.lean GAPS 8: Python string, `split_url` succeeds, authority empty or of a supported ASCII host kind in
    any spelling, no IPv4 literal with a zone id; `C04_domainB s = true` suffices): `canonicalB s` IFF the two
    constructors store the same five parts AND the `encoded=True` object prints `s`.  Neither conjunct alone suffices
    (PROVED FALSE): "same parts" holds for 'http://h:80/', 'HTTP://h/', 'http://h/a?', ' http://h/', 'http://h?q',
    none canonical; "prints `s`" holds for 'http://EXAMPLE.com/a/../b c'.  "Same parts" alone still gives
    indistinguishable objects and canonical components (C03_headline_encoded_true_same_parts).
    STILL OPEN: (a) this is NOT a characterisation of "the `encoded=True` texts that give a canonical RECORD": by the
    five witnesses a non-canonical text can give a canonical record (`URL('HTTP://h/', encoded=True)` IS
    `URL('http://h/', encoded=True)`: computed `example` at the end of C03HeadlineMore5.lean); the iff characterises `canonicalB s`, i.e. record canonical AND printed back as `s`.  (b) The
    converse is proved inside `C04_Domain` only (non-ASCII / IDN authorities, host-less authorities, IPv4 with a zone
    id, a space in the host are outside; C04Headline.lean GAPS 5 lists fixed points the checker rejects there).
    (c) Still NO C03 theorem of its own for `build(encoded=True)`, `with_path(…, encoded=True)`,
    `joinpath(…, encoded=True)` and no `ReachEX` instance for C03 — for those the reader must establish `CanonUrl` /
    `NetlocCanonB` of the result (decidable per record: `canonUrlB_sound`, as in C03MechChecks.lean); for the path
    clause alone there is now the closure C15_headline_reachE_no_dot_segments (C15HeadlineMore5.lean: no dot segment
    and empty-or-rooted under an authority, over all entry points with per-entry side conditions), which gives two of
    the five clauses of `CanonUrl` (`nodots`, `rooted`), not the whole of it.
 7. CLOSED by C03_fixed_point_eq (C03Netloc.lean), see C03_headline_equal_iff_no_default_port (and the `==`
    clauses of C03_headline_constructor_fixed_point, _build_fixed_point, _reachable_from_valid_input,
    _op_sequence_from_valid_input).  For every reachable URL with the hypotheses of C03_headline_identical_string_form,
    `URL(str(u)) == u` (`Url.beq`, `eqKey`) and "same stored netloc" hold IF AND ONLY IF no explicit default port
    is stored; after `build(encoded=False)` unconditionally.
 8. (new) TRUSTED BASE of the IDN statements: `IdnaSaneAt e.o h` ("every answer of the `idna` package / of the
    lower-cased stdlib-codec fallback for the host `h` is non-empty lower-case reg-name text") is an ASSUMPTION about
    a third-party package, stated in C16Idn.lean, not proved and not checked by the differential harness (C16Idn.lean
    says the check is decidable per run but not implemented).  Without it the fixed point fails
    (C03_headline_idna_fails_for_insane_answer — hypothetical answers, not observed).  For `with_host` only "the
    answer is non-empty" is assumed (the library validates the rest itself).
    (Added at the More3 refresh: the sentence "not checked by the differential harness" is out of date — per DESIGN.md
    the harness now tests every answer the real `idna` package / stdlib codec gives during a run against `IdnaSaneAt` /
    `IdnaRoundTripAt` and records counts and violations in the evidence (harness/core.py `check_oracle_assumption`,
    `coverage.oracle_assumptions_checked`).  That is a per-run check, not a proof; it found non-sane stdlib-fallback
    answers for hosts such as 'a／b' that yarl rejects — such hosts are outside the per-host hypothesis `IdnaSaneAt e.o h`.
    The doc comment of C16Idn.lean still says "not implemented".  C03_headline_mech_host_idna (C03HeadlineMore3.lean)
    rests on the same assumption.)
 9. NEW (limits of the per-mechanism theorems of item 5 and of item 6, as stated by C03Mech.lean).
    (a) The per-mechanism theorems (case folding, requoting, dot segments, host, default port) are proved for
    `NetlocCanon`; for a bracketed non-IPv6 authority there is C03_headline_mech_bracketed_host (host text, case, port,
    shape of the authority piece) and the combined C03_headline_second_pass_identity (`NetlocCanonB`), but no separate
    per-requoter statement for its userinfo.
    (b) IDNA: the per-mechanism statement for an IDN INPUT exists only for the constructor on the shape
    `scheme://h/path#fragment` and only under `IdnaSaneAt` (item 8); for every other way an A-label gets stored the
    statement is C03_headline_mech_host applied to a record with `NetlocCanon` (C03_headline_idna_valid_host).
    (c) "decoding" is covered as the decoding half of the REQUOTERS (decode superfluous escapes, re-encode); the
    DECODED accessors (`path`, `query_string`, `user`, … — the unquoters) are not normalisation passes and no C03 theorem
    speaks about them (property C06).
    (d) C03_headline_second_pass_identity_from_valid_input states only "the re-parsed URL stores the five split pieces";
    the stage-by-stage clauses (`netBlock`, `encPath`, …) are stated with `ReachC` + `NetlocCanonB` only (the reader
    composes C03_reachV_reachC / C03_reachV_netlocCanon, as the cited theorem does).
    (e) All per-mechanism theorems inherit `C03Guards` and `SchemeOK'` (they go through `str` and `split_url` of the
    printed string); only C03_headline_mech_requote_stored and the first clause of C03_headline_mech_dot_segments are
    about the stored record alone.
-/

end Yarl
