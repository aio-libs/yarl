import YarlProofs.C01HeadlineMore
import YarlProofs.C16Mapped
/-!
  C01More.lean — property C01, the GAPS items 6, 7, 8 of C01Headline.lean.

  C01 | Canonical output is well-formed ASCII in every component.

  ITEM 7 (the oracle hypotheses `HostOracleAscii` / `HostOracleNoAt`).  The model screens every IDNA answer with
  `notRegName` on the VALIDATING routes (`with_host`, `build(host=)`), so there the hypotheses are DISCHARGED:
  `C01_encode_host_validated_no_oracle`, `C01_with_host_no_oracle`, `C01_build_host_no_oracle`,
  `C01_applyOp_no_oracle` (all 19 operations).  (Since fix 3fbf5b4 an IDNA answer holding a ':' is not screened as a
  reg-name but re-entered into `_encode_host` (`encodeHostA`); accepted under validation it spells an IP literal with a
  screened zone — `colon_answer_chars`, on top of `parseIPv6_chars` — so the discharge goes through unchanged; only the
  shape clause of `C01_encode_host_validated_no_oracle` gained a disjunct.)  The two routes that call `_encode_host(…, validate_host=False)` — the
  constructor and `build(authority=)` — still need a hypothesis, but only a LOCAL one, about the single IDNA answer for the
  host text of that very input (`IdnaLocalAscii`, `IdnaLocalNoAt`; vacuous for an ASCII host):
  `C01_encodeUrl_local_oracle`, `C01_build_local_oracle`; closure forms `C01_reachable_netloc_ascii_local`,
  `C01_reachable_userinfo_ok_local`, `C01_str_ascii_reachable_local`.  Hostile-oracle counterexamples for exactly these
  two routes: `C01_constructor_needs_oracle_ascii`, `C01_build_authority_needs_oracle_ascii`,
  `C01_constructor_needs_oracle_no_at` (and the same tables are harmless on the validating routes:
  `C01_hostile_oracle_screened_on_validating_routes`).
  Technique: `tame cg o` is the oracle table `o` with every IDNA ENCODING answer outside the class `cg` replaced by
  "UnicodeError".  A run against `o` that meets the local conditions is, step for step, a run against `tame cg o`
  (`reachS_tame`), and `tame cg o` satisfies the global oracle hypothesis — so every `ReachS` theorem of C01Str.lean applies.

  ITEM 6 (the '%' clause and the host).  ONE whole-string theorem, `C01_str_outside_host`: for a reachable URL
  `str u = pre ++ hostText ++ suf` with `hostText` the `host[:port]` text of the rendered authority, and OUTSIDE it —
  in `pre` and `suf` — every '%' starts an escape of two upper-case hex digits, every character is ASCII, none is a raw
  space / control / quote / `<>\^`{|}`.  No `ZoneAscii` side condition (the zone id lives inside `hostText`), no guard
  "no '%' in the host".  Positional form: `C01_percent_outside_host_positions`.

  ITEM 8 (ReachS versus Reach).  `BuildNetPy` can NOT be discharged: `C01_reach_build_nonpython_user_counterexample`
  (a model artefact of the C backend: a code point above 0x10FFFF passes through the quoter unchanged).  `J` cannot be
  discharged either (C01_netloc_ascii_fails_for_foreign_join_ref).  What can: `Z` (for everything outside the host) and
  the oracle hypotheses (above); `Sc` is a condition on the RESULT scheme.  `C01_api_outside_host` is the resulting
  statement for the API closure `ReachS ⊤ ⊤ ⊥` (constructor, build, the 18 real operations, join).
-/
namespace Yarl
open StrAscii OutLangLemmas QsLemmas WfLemmas EntryLemmas NetlocLemmas
namespace R11

/-! ## the tamed oracle table -/

/-- a class of characters IDNA answers may consist of: contains ASCII other than '@', closed under "un-lowering" -/
structure GoodC (cg : Nat → Bool) : Prop where
  lower : ∀ c, cg (lowerC c) = true → cg c = true
  base : ∀ c, c < 128 → c ≠ 64 → cg c = true

def cgAscii (c : Nat) : Bool := decide (c < 128)
def cgNoAt (c : Nat) : Bool := decide (c ≠ 64)
def cgBoth (c : Nat) : Bool := decide (c < 128) && decide (c ≠ 64)

theorem lowerC_cases (c : Nat) : lowerC c = c ∨ (c < 128 ∧ lowerC c ≠ 64 ∧ c ≠ 64) := by
  unfold lowerC; split <;> omega

theorem goodC_ascii : GoodC cgAscii :=
  ⟨fun c h => by
    simp only [cgAscii, decide_eq_true_eq] at h ⊢
    rcases lowerC_cases c with hl | hl
    · rw [hl] at h; exact h
    · exact hl.1, fun c h _ => by simpa [cgAscii] using h⟩
theorem goodC_noAt : GoodC cgNoAt :=
  ⟨fun c h => by
    simp only [cgNoAt, decide_eq_true_eq] at h ⊢
    rcases lowerC_cases c with hl | hl
    · rw [hl] at h; exact h
    · exact hl.2.2, fun c _ h => by simpa [cgNoAt] using h⟩
theorem goodC_both : GoodC cgBoth :=
  ⟨fun c h => by
    simp only [cgBoth, Bool.and_eq_true, decide_eq_true_eq] at h ⊢
    rcases lowerC_cases c with hl | hl
    · rw [hl] at h; exact h
    · exact ⟨hl.1, hl.2.2⟩, fun c h1 h2 => by simp [cgBoth, h1, h2]⟩

def goodB (cg : Nat → Bool) (r : Str) : Bool := r.all cg
theorem goodB_iff {cg : Nat → Bool} {r : Str} : goodB cg r = true ↔ ∀ c ∈ r, cg c = true := by
  simp [goodB, List.all_eq_true]

/-- the oracle table with every IDNA ENCODING answer that has a character outside `cg` replaced by "UnicodeError" -/
def tame (cg : Nat → Bool) (o : Oracles) : Oracles :=
  { o with idnaEnc := fun x => (o.idnaEnc x).map (fun a => a.filter (goodB cg)),
           idnaEncStd := fun x => (o.idnaEncStd x).map (fun a => a.filter (goodB cg)) }
def tameE (cg : Nat → Bool) (e : Env) : Env := ⟨e.b, tame cg e.o⟩

theorem tame_answers (cg : Nat → Bool) (o : Oracles) (h r : Str)
    (hr : (tame cg o).idnaEnc h = some (some r) ∨ (tame cg o).idnaEncStd h = some (some r)) : goodB cg r = true := by
  have key : ∀ (x : Option (Option Str)), x.map (fun a => a.filter (goodB cg)) = some (some r) → goodB cg r = true := by
    intro x hx
    obtain ⟨a, _, ha⟩ := Option.map_eq_some_iff.mp hx
    exact (Option.filter_eq_some_iff.mp ha).2
  exact hr.elim (key _) (key _)

theorem tame_ascii_ok (o : Oracles) : HostOracleAscii (tame cgAscii o) :=
  fun h r hr c hc => by simpa [cgAscii] using goodB_iff.mp (tame_answers _ o h r hr) c hc
theorem tame_noAt_ok (o : Oracles) : HostOracleNoAt (tame cgNoAt o) :=
  fun h r hr hc => by simpa [cgNoAt] using goodB_iff.mp (tame_answers _ o h r hr) 64 hc
theorem tame_both_ok (o : Oracles) : HostOracleAscii (tame cgBoth o) ∧ HostOracleNoAt (tame cgBoth o) :=
  ⟨fun h r hr c hc => by
      have := goodB_iff.mp (tame_answers _ o h r hr) c hc
      simp only [cgBoth, Bool.and_eq_true, decide_eq_true_eq] at this; exact this.1,
   fun h r hr hc => by
      have := goodB_iff.mp (tame_answers _ o h r hr) 64 hc
      simp [cgBoth] at this⟩

theorem notRegName_good {y : Str} (h : notRegName y = false) : ∀ c ∈ y, c < 128 ∧ c ≠ 64 :=
  fun c hc => regName_char (HostLemmas.notRegName_spec _ h c hc)

/-- a text with a ':' that the VALIDATED re-entry (fix 3fbf5b4) accepts spells an IP literal with a screened zone:
    the text itself and the result are ASCII without '@' -/
theorem colon_answer_chars {o : Oracles} {a r : Str} (hc : mem 58 a = true) (h : encodeHostA o a true = .ok r) :
    HostLemmas.ipRes a = some r ∧ HostLemmas.zoneBad a true = false ∧
    (∀ c ∈ a, c < 128 ∧ c ≠ 64) ∧ (∀ c ∈ r, c < 128 ∧ c ≠ 64) := by
  obtain ⟨hip, hz⟩ := HostLemmas.encodeHostA_colon_validated hc h
  have hzone : (partition 37 a).2.1 = true → ∀ c ∈ (partition 37 a).2.2, c < 128 ∧ c ≠ 64 := by
    intro hsep c hc
    have := HostLemmas.zone_chars (HostLemmas.zoneBad_true_false hz hsep) c hc
    exact ⟨this.1, this.2.1⟩
  refine ⟨hip, hz, ?_, ipRes_validated_chars (fun c h1 h2 => ⟨h1, h2⟩) hip hz⟩
  have hraw : ∀ c ∈ (partition 37 a).1, c < 128 ∧ c ≠ 64 := by
    cases hp : parseIP (partition 37 a).1 with
    | none => rw [HostLemmas.ipRes_eq_none.2 hp] at hip; cases hip
    | some ip => exact HostLemmas.parseIP_chars hp
  intro c hc
  rw [partition_join 37 a] at hc
  rcases List.mem_append.1 hc with hc | hc
  · exact hraw c hc
  · split at hc
    · rename_i hsep
      rcases List.mem_cons.1 hc with rfl | hc
      · omega
      · exact hzone hsep c hc
    · cases hc

/-- the reg-name branch of a VALIDATED `_encode_host` returns reg-name text — or (since fix 3fbf5b4) the IP literal
    that the IDNA answer of a non-ASCII host spells -/
theorem regPath_validated {o : Oracles} {h r : Str} (he : HostLemmas.regPath o h true = .ok r) :
    (notRegName r = false ∧ (isAscii h = false → idnaEncode o h = .ok r)) ∨
    (isAscii h = false ∧ ∃ a, idnaEncode o h = .ok a ∧ mem 58 a = true ∧
      HostLemmas.ipRes a = some r ∧ HostLemmas.zoneBad a true = false) := by
  cases ha : isAscii h with
  | true =>
    left
    obtain ⟨_, hn⟩ := (HostLemmas.regPath_ok_of_ascii ha).1 he
    exact ⟨hn rfl, fun hna => by cases hna⟩
  | false =>
    obtain ⟨a, hi, ⟨_, rfl, hn⟩ | ⟨h58, hr, hz⟩⟩ := HostLemmas.regPath_idn_validated ha he
    · exact Or.inl ⟨hn, fun _ => hi⟩
    · exact Or.inr ⟨rfl, a, hi, h58, hr, hz⟩

/-- … in either case ASCII text without '@' -/
theorem regPath_validated_chars {o : Oracles} {h r : Str} (he : HostLemmas.regPath o h true = .ok r) :
    ∀ c ∈ r, c < 128 ∧ c ≠ 64 := by
  rcases regPath_validated he with ⟨hn, _⟩ | ⟨_, a, _, _, hip, hz⟩
  · exact notRegName_good hn
  · exact ipRes_validated_chars (fun c h1 h2 => ⟨h1, h2⟩) hip hz

/-- ITEM 7, host level: a VALIDATED `_encode_host` (`with_host`, `build(host=)`) returns ASCII text without '@'
    whatever the oracles answer -/
theorem encodeHost_validated_chars {o : Oracles} {h r : Str} (he : encodeHost o h true = .ok r) :
    ∀ c ∈ r, c < 128 ∧ c ≠ 64 := by
  rcases HostLemmas.encodeHost_casesV he with ⟨hip, hz⟩ | ⟨_, hreg⟩
  · exact ipRes_validated_chars (fun c h1 h2 => ⟨h1, h2⟩) hip hz
  · exact regPath_validated_chars hreg

/-- the constructor hands `_encode_host` exactly the host text `split_netloc` reads ("" where there is none and the
    scheme allows that) -/
theorem splitNetloc_hostOr {o : Oracles} {sc n : Str} {np : NetlocParts} {h0 : Str} (hsp : splitNetloc o n = .ok np)
    (h : EagerLemmas.hostOr sc np.host = .ok h0) : h0 = (hostPort (hostinfo n)).1 := by
  have h3 : np.host = orNone (hostPort (hostinfo n)).1 := (splitNetloc_shape o n np hsp).2.2
  cases hx : np.host with
  | some x =>
    rw [hx] at h h3
    cases h
    exact (EagerLemmas.orNone_some h3.symm).1
  | none =>
    rw [hx] at h h3
    rw [EagerLemmas.hostOr_none h]
    cases hX : (hostPort (hostinfo n)).1 with
    | nil => rfl
    | cons a t =>
      rw [hX] at h3
      cases h3

/-- side condition on the `host[:port]` text `hi` of an authority given to the constructor / `build(authority=)`: IF
    the host name in it is not ASCII (so it is sent to IDNA) and the oracle answers, every character of the answer is in
    the class `cg` -/
def IdnaLocalOK (cg : Nat → Bool) (o : Oracles) (hi : Str) : Prop :=
  isAscii (hostPort hi).1 = false → ∀ y, idnaEncode o (hostPort hi).1 = .ok y → ∀ c ∈ y, cg c = true

theorem go_tame (cg : Nat → Bool) (e : Env) (enc : Bool) (l : List Str) :
    ∀ (last : Bool) (parsed : List Str) (nn : Bool),
    makeChild.go (tameE cg e) enc l last parsed nn = makeChild.go e enc l last parsed nn := by
  induction l with
  | nil => intro _ _ _; rfl
  | cons p rest ih =>
    intro last parsed nn
    unfold makeChild.go
    split
    · rfl
    · exact ih _ _ _

/-- every operation other than `with_host` never looks at the IDNA encoders -/
theorem applyOp_tame (cg : Nat → Bool) (e : Env) (u : Url) (op : UOp) (h : ∀ s, op ≠ .withHost s) :
    applyOp (tameE cg e) u op = applyOp e u op := by
  cases op with
  | withHost s => exact absurd rfl (h s)
  | child paths =>
    show makeChild (tameE cg e) u paths false = makeChild e u paths false
    unfold makeChild
    rw [go_tame]
  | _ => rfl

section
variable {cg : Nat → Bool} (hg : GoodC cg)
include hg

theorem goodB_lower {r : Str} (h : goodB cg (lower r) = true) : goodB cg r = true := by
  rw [goodB_iff] at h ⊢
  intro c hc
  exact hg.lower c (h (lowerC c) (by simp only [lower, List.mem_map]; exact ⟨c, hc, rfl⟩))
theorem goodB_of_base {r : Str} (h : ∀ c ∈ r, c < 128 ∧ c ≠ 64) : goodB cg r = true :=
  goodB_iff.mpr fun c hc => hg.base c (h c hc).1 (h c hc).2
/-- a good IDNA answer survives the taming -/
theorem idnaEncode_tame {o : Oracles} {x y : Str} (h : idnaEncode o x = .ok y) (hy : goodB cg y = true) :
    idnaEncode (tame cg o) x = .ok y := by
  rcases Idn.idnaEncode_cases h with h1 | ⟨h1, r, h2, rfl⟩
  · simp [idnaEncode, tame, h1, Option.filter, hy, ask, bind, Except.bind, pure, Except.pure]
  · simp [idnaEncode, tame, h1, h2, Option.filter, goodB_lower hg hy, ask, bind, Except.bind, pure, Except.pure]

/-- `_encode_host` run against the tamed table gives the same answer, when the host is validated, or ASCII, or its
    IDNA answer is good -/
theorem encodeHost_tame {o : Oracles} {h r : Str} {v : Bool} (he : encodeHost o h v = .ok r)
    (hc : v = true ∨ isAscii h = true ∨ ∀ y, idnaEncode o h = .ok y → goodB cg y = true) :
    encodeHost (tame cg o) h v = .ok r := by
  rw [HostLemmas.encodeHost_ok_iff] at he ⊢
  -- `looksIP` never asks the IDNA encoders: it is the same function on the tamed table
  rcases he with he | ⟨hn, hreg⟩
  · exact Or.inl he
  · refine Or.inr ⟨hn, ?_⟩
    cases ha : isAscii h with
    | true => exact (HostLemmas.regPath_ok_of_ascii ha).2 ((HostLemmas.regPath_ok_of_ascii ha).1 hreg)
    | false =>
      rw [HostLemmas.regPath_idn _ v ha] at hreg ⊢
      obtain ⟨y, hi, hreg⟩ := bind_ok hreg
      have hy : goodB cg y = true := by
        rcases hc with hv | hasc | hloc
        · subst hv
          cases h58 : mem 58 y with
          | true =>
            -- fix 3fbf5b4: the answer is re-entered; accepted under validation, it spells an IP literal
            rw [h58] at hreg
            exact goodB_of_base hg (colon_answer_chars h58 hreg).2.2.1
          | false =>
            rw [h58, if_neg Bool.false_ne_true] at hreg
            obtain ⟨hn, _⟩ := ite_err_ok hreg
            exact goodB_of_base hg (notRegName_good (by simpa using hn))
        · rw [ha] at hasc
          cases hasc
        · exact hloc y hi
      rw [idnaEncode_tame hg hi hy]
      -- the re-entry `encodeHostA` never asks the IDNA encoders either
      exact hreg

/-- … in particular on the host name of an authority that meets the local condition -/
theorem encodeHost_tame_local {o : Oracles} {hi r : Str} {v : Bool} (hloc : IdnaLocalOK cg o hi)
    (he : encodeHost o (hostPort hi).1 v = .ok r) : encodeHost (tame cg o) (hostPort hi).1 v = .ok r := by
  refine encodeHost_tame hg he ?_
  by_cases ha : isAscii (hostPort hi).1 = true
  · exact Or.inr (Or.inl ha)
  · exact Or.inr (Or.inr (fun y hy => goodB_iff.mpr (hloc (by simpa using ha) y hy)))

theorem withHost_tame (e : Env) (u : Url) (s : Str) : Le (withHost e u s) (withHost (tameE cg e) u s) := by
  unfold withHost
  refine Le.ite _ (fun _ => Le.refl _) (fun _ => Le.ite _ (fun _ => Le.refl _) (fun _ => ?_))
  exact Le.bind (fun v h => encodeHost_tame hg h (Or.inl rfl)) (fun a _ => Le.refl _)


theorem authBlock_tame (e : Env) (p : Parts) (hloc : IdnaLocalOK cg e.o (hostinfo p.netloc)) :
    Le (EagerLemmas.authBlock e p) (EagerLemmas.authBlock (tameE cg e) p) := by
  by_cases hne : p.netloc = []
  · unfold EagerLemmas.authBlock
    rw [if_pos (by rw [hne]; rfl), if_pos (by rw [hne]; rfl)]
    exact Le.refl _
  · rw [EagerLemmas.authBlock_eq e p hne, EagerLemmas.authBlock_eq (tameE cg e) p hne]
    refine Le.bind (Le.refl _) (fun np hnp => Le.bind (Le.refl _) (fun h0 hh0 => Le.bind ?_ (fun h1 _ => Le.refl _)))
    intro v hv
    have := splitNetloc_hostOr hnp hh0
    subst this
    exact encodeHost_tame_local hg hloc hv

theorem encodeUrl_tame (e : Env) (s : Str)
    (hloc : ∀ p, splitUrl e.o s = .ok p → IdnaLocalOK cg e.o (hostinfo p.netloc)) :
    Le (encodeUrl e s) (encodeUrl (tameE cg e) s) := by
  rw [EagerLemmas.encodeUrl_eq, EagerLemmas.encodeUrl_eq]
  refine Le.bind (Le.refl _) (fun p hp => ?_)
  exact Le.bind (authBlock_tame hg e p (hloc p hp)) (fun a _ => Le.refl _)

theorem buildNetloc_tame (e : Env) (sc : Str) (a : BuildArgs) (hloc : IdnaLocalOK cg e.o (hostinfo a.authority)) :
    Le (buildNetloc e sc a) (buildNetloc (tameE cg e) sc a) := by
  by_cases hauth : a.authority = []
  · by_cases hh : a.host = []
    · rw [buildNetloc_none hauth hh, buildNetloc_none hauth hh]
      exact Le.refl _
    · rw [buildNetloc_host hauth hh, buildNetloc_host hauth hh]
      exact Le.bind (fun v hv => encodeHost_tame hg hv (Or.inl rfl)) (fun h1 _ => Le.refl _)
  · rw [buildNetloc_authority_eq hauth, buildNetloc_authority_eq hauth]
    refine Le.bind (Le.refl _) (fun _ _ => Le.bind (Le.refl _) (fun np hnp => Le.bind ?_ (fun h1 _ => Le.refl _)))
    cases hh : np.host with
    | none => exact Le.refl _
    | some x =>
      intro v hv
      have hx : x = (hostPort (hostinfo a.authority)).1 := by
        have := (splitNetloc_shape e.o a.authority np hnp).2.2
        rw [hh] at this
        exact (EagerLemmas.orNone_some this.symm).1
      subst hx
      exact encodeHost_tame_local hg hloc hv

/-- only the authority step of `build` consults the IDNA oracles -/
theorem build_tame (e : Env) (a : BuildArgs) (hloc : IdnaLocalOK cg e.o (hostinfo a.authority)) :
    Le (build e a) (build (tameE cg e) a) := by
  rw [build_eq, build_eq]
  cases C07_buildArgCheck a with
  | some err => exact Le.refl _
  | none =>
    show Le (buildBody e a) (buildBody (tameE cg e) a)
    unfold buildBody
    refine Le.bind (Le.refl _) (fun qs _ => Le.ite _ (fun _ => Le.refl _) (fun _ => ?_))
    refine Le.bind (Le.refl _) (fun sc _ => ?_)
    exact Le.bind (buildNetloc_tame hg e sc a hloc) (fun n _ => Le.refl _)

/-- one step against the tamed table -/
theorem applyOp_le (e : Env) (u v : Url) (op : UOp) (h : applyOp e u op = .ok v) :
    applyOp (tameE cg e) u op = .ok v := by
  by_cases hw : ∃ s, op = .withHost s
  · obtain ⟨s, rfl⟩ := hw
    exact withHost_tame hg e u s v h
  · rw [applyOp_tame cg e u op (fun s hs => hw ⟨s, hs⟩)]; exact h

/-- THE TRANSFER: a history that meets the local IDNA conditions is, step for step, a history against the tamed
    oracle table -/
theorem reachS_tame {Z Sc : Str → Prop} {J : Url → Prop} {e : Env} {u : Url}
    (h : ReachS (fun hi => Z hi ∧ IdnaLocalOK cg e.o hi) Sc J e u) : ReachS Z Sc J (tameE cg e) u := by
  induction h with
  | ctor s u hs hz h =>
    exact ReachS.ctor s u hs (fun p hp => (hz p hp).1) (encodeUrl_tame hg e s (fun p hp => (hz p hp).2) u h)
  | build a u henc hpy hn hz hsc h =>
    exact ReachS.build a u henc hpy hn hz.1 hsc (build_tame hg e a hz.2 u h)
  | op u op v _ ha hside h ih => exact ReachS.op u op v ih ha hside (applyOp_le hg e u v op h)
  | join u r _ _ ihu ihr => exact ReachS.join u r ihu ihr

end


/-! ### whole-string decomposition -/

/-- `unsplit_result` cut at the authority: (text before, the authority if it is rendered else "", text after) -/
def unsplitParts (scheme netloc path query fragment : Str) : Str × Str × Str :=
  (scheme ++ (unsplitSep scheme netloc path).1, (unsplitSep scheme netloc path).2.1,
    (unsplitSep scheme netloc path).2.2 ++ path ++ UnsplitLemmas.tailStr query fragment)

theorem unsplit_eq_parts (scheme netloc path query fragment : Str) :
    unsplitResult scheme netloc path query fragment =
      (unsplitParts scheme netloc path query fragment).1 ++ (unsplitParts scheme netloc path query fragment).2.1 ++
        (unsplitParts scheme netloc path query fragment).2.2 := by
  rw [unsplit_eq]; simp only [unsplitParts, List.append_assoc]

theorem unsplitParts_mid (scheme netloc path query fragment : Str) :
    (unsplitParts scheme netloc path query fragment).2.1 = netloc ∨
    (unsplitParts scheme netloc path query fragment).2.1 = [] :=
  unsplitSep_mid scheme netloc path

theorem unsplitParts_glue {P : Str → Prop} (hP : Glue P) (scheme netloc path query fragment : Str)
    (k58 : P [58]) (k47 : P [47]) (k63 : P [63]) (k35 : P [35])
    (h3 : P path) (h4 : P query) (h5 : P fragment) :
    (P scheme → P (unsplitParts scheme netloc path query fragment).1) ∧
      P (unsplitParts scheme netloc path query fragment).2.2 := by
  obtain ⟨ha, hb⟩ := unsplitSep_glue hP k58 k47 scheme netloc path
  exact ⟨fun h1 => hP.app h1 ha, hP.app (hP.app hb h3) (tailStr_glue hP k63 k35 h4 h5)⟩

/-- what `str` renders: `unsplit_result` of the stored parts with the authority text `N`, which is the stored one or —
    when the explicit port is the scheme's default — `make_netloc(raw_user, raw_password, host_subcomponent, None)`;
    in both cases what `split_netloc` reads as user / password of `N` is REQUOTER output, and the host accessor is made
    of characters of its `host[:port]` text -/
theorem str_rendered (e : Env) (u : Url) (r : Str) (ho : HostOracleNoAt e.o) (hu : UserinfoOK e.b u)
    (h : str e u = .ok r) :
    ∃ N path, r = unsplitResult u.scheme N path u.query u.fragment ∧ (path = u.path ∨ path = [47]) ∧
      (∀ x, (userSplit N).1 = some x → UiText e.b x) ∧ (∀ x, (userSplit N).2.1 = some x → UiText e.b x) ∧
      (∀ x, rawHost e u = .ok (some x) → ∀ c ∈ x, c ∈ hostinfo N) ∧
      (N = u.netloc ∨ ∃ p hs, explicitPort e u = .ok (some p) ∧ some p = defaultPort u.scheme ∧
        hostSubcomponent e u = .ok hs ∧ hostinfo N = hs.getD []) := by
  have hI := (inv_uiSpec_iff e ho u).mpr hu
  obtain ⟨N, path, hr, hpath, hN⟩ := str_ok h
  refine ⟨N, path, hr, hpath.imp id And.right, ?_⟩
  rcases hN with rfl | ⟨p, hsub, ru, rp, hep, hdef, hh1, hru, hrp, rfl⟩
  · exact ⟨hu.user, hu.password, fun x hx => hI.rawHost_ok hx x rfl, Or.inl rfl⟩
  · cases hsub with
    | none =>
      have hrh : ∀ x, rawHost e u = .ok (some x) → False := by
        intro x hx
        unfold hostSubcomponent at hh1
        rw [hx] at hh1
        cases hh1
      exact ⟨fun x hx => by simp [makeNetloc, userSplit, mem] at hx,
        fun x hx => by simp [makeNetloc, userSplit, mem] at hx, fun x hx => (hrh x hx).elim,
        Or.inr ⟨p, none, hep, hdef, hh1, by simp [makeNetloc, hostinfo, userSplit, mem]⟩⟩
    | some hb =>
      have hhb : ∀ c ∈ hb, c ≠ 64 := hI.hostSub_ok hh1 hb rfl
      have hU : ∀ x, ru = some x → UiText e.b x := hI.rawUser_ok hru
      have hP : ∀ x, rp = some x → UiText e.b x := hI.rawPassword_ok hrp
      have hPN := (uiSpec e ho).mk' (q e Gen.QUOTER) ru rp hb none hU hP hhb
      rw [makeNetloc_qf (q e Gen.QUOTER) id] at hPN ⊢
      obtain ⟨U', hsplit, _, _⟩ := userSplit_makeNetloc ru rp hb none
        (fun x hx => (uiText_chars (hU x hx) 58 ·|>.1 rfl)) (fun hm => hhb 64 hm rfl)
      have hhi : hostinfo (makeNetloc id ru rp (some hb) none false) = hb := by
        unfold hostinfo; rw [hsplit]; rfl
      refine ⟨hPN.1, hPN.2, ?_, Or.inr ⟨p, some hb, hep, hdef, hh1, hhi⟩⟩
      intro x hx c hc
      rw [hhi]
      obtain ⟨rh, hrh, hsome⟩ := hostSub_ok hh1
      rw [hx] at hrh
      cases hrh
      cases hsome
      show c ∈ (if mem 58 x = true then [91] ++ x ++ [93] else x)
      split
      · simp [hc]
      · exact hc



/-- "not a raw space, control character, double quote, '<>\^`{|}', nor ≥ 127" -/
def NF (c : Nat) : Prop := 32 < c ∧ c < 127 ∧ c ∉ [34, 60, 62, 92, 94, 96, 123, 124, 125]

theorem str_decomp_of_inv (e : Env) (u : Url) (r : Str) (ho : HostOracleNoAt e.o) (hu : UserinfoOK e.b u)
    (h : str e u = .ok r) :
    ∃ N pre suf, r = pre ++ hostinfo N ++ suf ∧ (∃ a, pre ++ hostinfo N = a ++ N) ∧
      (N = [] ∨ N = u.netloc ∨ ∃ p hs, explicitPort e u = .ok (some p) ∧ some p = defaultPort u.scheme ∧
        hostSubcomponent e u = .ok hs ∧ hostinfo N = hs.getD []) ∧
      (N ≠ [] → ∀ x, rawHost e u = .ok (some x) → ∀ c ∈ x, c ∈ hostinfo N) ∧
      ∀ P : Str → Prop, Glue P → P [58] → P [47] → P [63] → P [35] → P [64] →
        P u.path → P u.query → P u.fragment → (∀ x, UiText e.b x → P x) → (P u.scheme → P pre) ∧ P suf := by
  obtain ⟨N, path, hr, hpath, hU, hPw, hrh, hN⟩ := str_rendered e u r ho hu h
  have hmid := unsplitParts_mid u.scheme N path u.query u.fragment
  refine ⟨(unsplitParts u.scheme N path u.query u.fragment).2.1,
    (unsplitParts u.scheme N path u.query u.fragment).1 ++ userinfoAt (unsplitParts u.scheme N path u.query u.fragment).2.1,
    (unsplitParts u.scheme N path u.query u.fragment).2.2, ?_, ?_, ?_, ?_, ?_⟩
  · rw [hr, unsplit_eq_parts]
    conv => lhs; rw [netloc_eq_userinfoAt_hostinfo (unsplitParts u.scheme N path u.query u.fragment).2.1]
    simp
  · refine ⟨(unsplitParts u.scheme N path u.query u.fragment).1, ?_⟩
    conv => rhs; rw [netloc_eq_userinfoAt_hostinfo (unsplitParts u.scheme N path u.query u.fragment).2.1]
    simp
  · rcases hmid with hm | hm
    · rw [hm]; exact Or.inr hN
    · exact Or.inl hm
  · intro hne
    rcases hmid with hm | hm
    · rw [hm]; exact hrh
    · exact absurd hm hne
  · intro P hP k58 k47 k63 k35 k64 h3 h4 h5 hui
    have hp : P path := by
      rcases hpath with rfl | rfl
      · exact h3
      · exact k47
    obtain ⟨ha, hb⟩ := unsplitParts_glue hP u.scheme N path u.query u.fragment k58 k47 k63 k35 hp h4 h5
    refine ⟨fun h1 => hP.app (ha h1) ?_, hb⟩
    rcases hmid with hm | hm
    · rw [hm]; exact userinfoAt_glue hP k58 k64 N (fun x hx => hui x (hU x hx)) (fun x hx => hui x (hPw x hx))
    · rw [hm]; exact hP.nil

/-- positions: a '%' of `pre ++ H ++ suf` that is not inside `H` starts an upper-case escape -/
theorem pct_outside (pre H suf : Str) (h1 : WellEscaped pre) (h2 : WellEscaped suf) (i : Nat)
    (hi : (pre ++ H ++ suf)[i]? = some 37) (hout : i < pre.length ∨ pre.length + H.length ≤ i) :
    ∃ a b, (pre ++ H ++ suf)[i+1]? = some a ∧ (pre ++ H ++ suf)[i+2]? = some b ∧
      isUpperHexDigit a = true ∧ isUpperHexDigit b = true := by
  rcases hout with hlt | hge
  · rw [List.append_assoc, List.getElem?_append_left hlt] at hi
    obtain ⟨a, b, ha, hb, hh⟩ := wellEscaped_at h1 i hi
    obtain ⟨l1, _⟩ := List.getElem?_eq_some_iff.mp ha
    obtain ⟨l2, _⟩ := List.getElem?_eq_some_iff.mp hb
    refine ⟨a, b, ?_, ?_, hh⟩
    · rw [List.append_assoc, List.getElem?_append_left l1]; exact ha
    · rw [List.append_assoc, List.getElem?_append_left l2]; exact hb
  · have hlen : (pre ++ H).length ≤ i := by simp; omega
    rw [List.getElem?_append_right hlen] at hi
    obtain ⟨a, b, ha, hb, hh⟩ := wellEscaped_at h2 _ hi
    refine ⟨a, b, ?_, ?_, hh⟩
    · rw [List.getElem?_append_right (by omega)]
      have : i + 1 - (pre ++ H).length = i - (pre ++ H).length + 1 := by omega
      rw [this]; exact ha
    · rw [List.getElem?_append_right (by omega)]
      have : i + 2 - (pre ++ H).length = i - (pre ++ H).length + 2 := by omega
      rw [this]; exact hb

end R11

open R11

/-! ## ITEM 7 — the oracle hypotheses -/

/-- local form of `HostOracleAscii`, on the `host[:port]` text `hi` of ONE authority handed to the constructor or to
    `build(authority=)`: IF its host name is not ASCII (only then is it sent to IDNA) and the oracle answers, the answer
    is ASCII.  Vacuous for an ASCII host name. -/
def IdnaLocalAscii (o : Oracles) (hi : Str) : Prop :=
  isAscii (hostPort hi).1 = false → ∀ y, idnaEncode o (hostPort hi).1 = .ok y → ∀ c ∈ y, c < 128

/-- local form of `HostOracleNoAt`: the IDNA answer for the host name of THIS authority contains no '@' -/
def IdnaLocalNoAt (o : Oracles) (hi : Str) : Prop :=
  isAscii (hostPort hi).1 = false → ∀ y, idnaEncode o (hostPort hi).1 = .ok y → 64 ∉ y

namespace R11
theorem localAscii_iff (o : Oracles) (hi : Str) : IdnaLocalAscii o hi ↔ IdnaLocalOK cgAscii o hi := by
  unfold IdnaLocalAscii IdnaLocalOK cgAscii
  simp only [decide_eq_true_eq]
theorem localNoAt_iff (o : Oracles) (hi : Str) : IdnaLocalNoAt o hi ↔ IdnaLocalOK cgNoAt o hi := by
  unfold IdnaLocalNoAt IdnaLocalOK cgNoAt
  simp only [decide_eq_true_eq]
  constructor
  · intro h ha y hy c hc e64; exact h ha y hy (e64 ▸ hc)
  · intro h ha y hy hm; exact h ha y hy 64 hm rfl
theorem localBoth_iff (o : Oracles) (hi : Str) :
    (IdnaLocalAscii o hi ∧ IdnaLocalNoAt o hi) ↔ IdnaLocalOK cgBoth o hi := by
  unfold IdnaLocalAscii IdnaLocalNoAt IdnaLocalOK cgBoth
  simp only [Bool.and_eq_true, decide_eq_true_eq]
  constructor
  · intro h ha y hy c hc; exact ⟨h.1 ha y hy c hc, fun e64 => h.2 ha y hy (e64 ▸ hc)⟩
  · intro h; exact ⟨fun ha y hy c hc => (h ha y hy c hc).1, fun ha y hy hm => (h ha y hy 64 hm).2 rfl⟩

end R11

/-- ITEM 7, host level.  A VALIDATED `_encode_host` (`with_host`, `build(host=)`) returns ASCII text without '@' —
    an IP literal (whose zone id passed the reg-name screen) or reg-name text — WHATEVER the oracles answer: the model
    screens the IDNA answer itself with `NOT_REG_NAME` (fix "validate after IDNA").  No oracle hypothesis.
    Since fix 3fbf5b4 ("canonicalize an IP-literal that only appears after IDNA mapping") there is a third shape: the
    IDNA answer `a` of a non-ASCII host holds a ':' and the result is the IP literal `a` spells (bracketed, compressed;
    zone screened) — `C01_encode_host_validated_third_shape_needed` shows the two-shape statement is now false. -/
theorem C01_encode_host_validated_no_oracle (o : Oracles) (h r : Str) :
    encodeHost o h true = .ok r →
    (∀ c ∈ r, c < 128 ∧ c ≠ 64) ∧
    (HostLemmas.ipRes h = some r ∨ notRegName r = false ∨
      (isAscii h = false ∧ ∃ a, idnaEncode o h = .ok a ∧ mem 58 a = true ∧ HostLemmas.ipRes a = some r)) := by
  intro he
  refine ⟨encodeHost_validated_chars he, ?_⟩
  rcases HostLemmas.encodeHost_casesV he with ⟨hip, _⟩ | ⟨_, hreg⟩
  · exact Or.inl hip
  · rcases regPath_validated hreg with ⟨hn, _⟩ | ⟨hna, a, hi, h58, hip, _⟩
    · exact Or.inr (Or.inl hn)
    · exact Or.inr (Or.inr ⟨hna, a, hi, h58, hip⟩)

/-- the third disjunct above is needed: the host of fix 3fbf5b4, "１:0:0:0:0:0:0:2" (fullwidth digit one), is accepted
    under validation as "[1::2]" — neither the IP literal of the host text itself nor reg-name text -/
theorem C01_encode_host_validated_third_shape_needed :
    encodeHost C16_mapped_oracle C16_mapped_host true = .ok "[1::2]".toStr ∧
    HostLemmas.ipRes C16_mapped_host = none ∧ notRegName "[1::2]".toStr = true ∧
    (∀ c ∈ "[1::2]".toStr, c < 128 ∧ c ≠ 64) := by
  refine ⟨C16_mapped_example.2.2.2.2.1, by decide +kernel, by decide +kernel, by decide⟩

/-- ITEM 7, `with_host`: both authority invariants of C01Str.lean are kept WITHOUT `HostOracleAscii` /
    `HostOracleNoAt` (compare C01_with_host_netloc_ascii) -/
theorem C01_with_host_no_oracle (e : Env) (u v : Url) (s : Str) :
    withHost e u s = .ok v → (AsciiNet u → AsciiNet v) ∧ (UserinfoOK e.b u → UserinfoOK e.b v) := by
  intro h
  have h' := withHost_tame goodC_both e u s v h
  obtain ⟨ho1, ho2⟩ := tame_both_ok e.o
  refine ⟨fun hu => C01_with_host_netloc_ascii (tameE cgBoth e) u v s ho1 hu h', fun hu => ?_⟩
  exact (inv_uiSpec_iff (tameE cgBoth e) ho2 v).mp
    (withHost_inv ((inv_uiSpec_iff (tameE cgBoth e) ho2 u).mpr hu) s h')

/-- ITEM 7, ALL 19 operations: one step keeps both invariants without any oracle hypothesis (compare
    C01_applyOp_netloc_ascii); a `UOp.joinRef` reference must satisfy them (model artefact) -/
theorem C01_applyOp_no_oracle (e : Env) (u v : Url) (op : UOp) (ha : op.ArgsPy e.b) :
    applyOp e u op = .ok v →
    (AsciiNet u → (∀ ref, op = .joinRef ref → AsciiNet ref) → AsciiNet v) ∧
    (UserinfoOK e.b u → (∀ ref, op = .joinRef ref → UserinfoOK e.b ref) → UserinfoOK e.b v) := by
  intro h
  have h' := applyOp_le goodC_both e u v op h
  obtain ⟨ho1, ho2⟩ := tame_both_ok e.o
  refine ⟨fun hu hj => C01_applyOp_netloc_ascii (tameE cgBoth e) u v op ho1 hu ha hj h', fun hu hj => ?_⟩
  exact (inv_uiSpec_iff (tameE cgBoth e) ho2 v).mp
    (applyOp_inv (uiSpec (tameE cgBoth e) ho2) ((inv_uiSpec_iff (tameE cgBoth e) ho2 u).mpr hu) op ha
      (fun ref hr => (inv_uiSpec_iff (tameE cgBoth e) ho2 ref).mpr (hj ref hr)) h')

/-- ITEM 7, `build(host=…)` (no `authority=`): the result satisfies both invariants, no oracle hypothesis, no
    condition on the host text (it is validated) -/
theorem C01_build_host_no_oracle (e : Env) (a : BuildArgs) (u : Url) (henc : a.encoded = false) (hn : BuildNetPy a)
    (hauth : a.authority = []) : build e a = .ok u → AsciiNet u ∧ UserinfoOK e.b u := by
  intro h
  have hloc : IdnaLocalOK cgBoth e.o (hostinfo a.authority) := by
    intro hna; rw [hauth] at hna; exact absurd hna (by decide)
  have h' := build_tame goodC_both e a hloc u h
  obtain ⟨ho1, ho2⟩ := tame_both_ok e.o
  refine ⟨C01_build_netloc_ascii (tameE cgBoth e) a u ho1 henc hn (by rw [hauth]; intro c hc; cases hc) h', ?_⟩
  exact (inv_uiSpec_iff (tameE cgBoth e) ho2 u).mp
    (build_inv (uiSpec (tameE cgBoth e) ho2) a u henc hn.1 hn.2.1 hn.2.2
      (fun c hc e64 => hostinfo_noAt a.authority (e64 ▸ zoneOf_sub hc)) h').1

/-- ITEM 7, the CONSTRUCTOR — one of the two routes that still need an oracle hypothesis, but only the LOCAL one: about
    the IDNA answer for the host name of THIS input (nothing when that host name is ASCII) -/
theorem C01_encodeUrl_local_oracle (e : Env) (s : Str) (u : Url) (hs : PyStr s) :
    encodeUrl e s = .ok u →
    ((∀ p, splitUrl e.o s = .ok p → ZoneAscii (hostinfo p.netloc) ∧ IdnaLocalAscii e.o (hostinfo p.netloc)) →
      AsciiNet u) ∧
    ((∀ p, splitUrl e.o s = .ok p → IdnaLocalNoAt e.o (hostinfo p.netloc)) → UserinfoOK e.b u) := by
  intro h
  constructor
  · intro hz
    have h' := encodeUrl_tame goodC_ascii e s (fun p hp => (localAscii_iff _ _).mp (hz p hp).2) u h
    exact C01_encodeUrl_netloc_ascii (tameE cgAscii e) s u (tame_ascii_ok _) hs (fun p hp => (hz p hp).1) h'
  · intro hz
    have h' := encodeUrl_tame goodC_noAt e s (fun p hp => (localNoAt_iff _ _).mp (hz p hp)) u h
    have ho := tame_noAt_ok e.o
    exact (inv_uiSpec_iff (tameE cgNoAt e) ho u).mp (encodeUrl_inv (uiSpec (tameE cgNoAt e) ho) s hs u
      (fun p _ c hc e64 => hostinfo_noAt p.netloc (e64 ▸ zoneOf_sub hc)) h')

/-- ITEM 7, `build(authority=…)` — the other route: same LOCAL hypothesis on the `authority=` text.  (With
    `authority = []` the hypotheses hold trivially: C01_build_host_no_oracle.) -/
theorem C01_build_local_oracle (e : Env) (a : BuildArgs) (u : Url) (henc : a.encoded = false) (hn : BuildNetPy a) :
    build e a = .ok u →
    (ZoneAscii (hostinfo a.authority) → IdnaLocalAscii e.o (hostinfo a.authority) → AsciiNet u) ∧
    (IdnaLocalNoAt e.o (hostinfo a.authority) → UserinfoOK e.b u) := by
  intro h
  constructor
  · intro hz hl
    have h' := build_tame goodC_ascii e a ((localAscii_iff _ _).mp hl) u h
    exact C01_build_netloc_ascii (tameE cgAscii e) a u (tame_ascii_ok _) henc hn hz h'
  · intro hl
    have h' := build_tame goodC_noAt e a ((localNoAt_iff _ _).mp hl) u h
    have ho := tame_noAt_ok e.o
    exact (inv_uiSpec_iff (tameE cgNoAt e) ho u).mp
      (build_inv (uiSpec (tameE cgNoAt e) ho) a u henc hn.1 hn.2.1 hn.2.2
        (fun c hc e64 => hostinfo_noAt a.authority (e64 ▸ zoneOf_sub hc)) h').1

/-- the global hypotheses imply the local ones: the theorems below subsume those of C01Str.lean -/
theorem C01_local_oracle_of_global (o : Oracles) (hi : Str) :
    (HostOracleAscii o → IdnaLocalAscii o hi) ∧ (HostOracleNoAt o → IdnaLocalNoAt o hi) := by
  constructor
  · intro ho _ y hy
    exact idnaEncode_chars (C := fun c => c < 128) (fun c h => (HostLemmas.lowerC_lt h).1) ho _ y hy
  · intro ho _ y hy hm
    exact idnaEncode_chars (C := fun c => c ≠ 64)
      (fun c h e64 => h ((HostLemmas.lowerC_eq_iff c 64 (by omega)).mp e64))
      (fun h r hr c hc e64 => ho h r hr (e64 ▸ hc)) _ y hy 64 hm rfl

/-- ITEM 7, closure form of item 1: the stored authority (and the pre-filled cache) of every reachable URL is ASCII —
    `HostOracleAscii` replaced by the LOCAL condition on the constructor / `build(authority=)` inputs (`Z` of `ReachS`).
    Every other step (with_host, build(host=), …) needs nothing. -/
theorem C01_reachable_netloc_ascii_local (e : Env) (Sc : Str → Prop) (J : Url → Prop) (u : Url)
    (hJ : ∀ r, J r → AsciiNet r) :
    ReachS (fun hi => ZoneAscii hi ∧ IdnaLocalAscii e.o hi) Sc J e u → AsciiNet u := by
  intro h
  have h1 : ReachS (fun hi => ZoneAscii hi ∧ IdnaLocalOK cgAscii e.o hi) Sc J e u :=
    h.mono (fun x hx => ⟨hx.1, (localAscii_iff _ _).mp hx.2⟩) (fun _ h => h) (fun _ h => h)
  exact C01_reachable_netloc_ascii (tameE cgAscii e) Sc J u (tame_ascii_ok _) hJ (reachS_tame goodC_ascii h1)

/-- ITEM 7, closure form of items 3–4: the userinfo invariant along `ReachS` with the LOCAL form of `HostOracleNoAt` -/
theorem C01_reachable_userinfo_ok_local (e : Env) (Z Sc : Str → Prop) (J : Url → Prop) (u : Url)
    (hJ : ∀ x, J x → UserinfoOK e.b x) :
    ReachS (fun hi => Z hi ∧ IdnaLocalNoAt e.o hi) Sc J e u → UserinfoOK e.b u := by
  intro h
  have h1 : ReachS (fun hi => Z hi ∧ IdnaLocalOK cgNoAt e.o hi) Sc J e u :=
    h.mono (fun x hx => ⟨hx.1, (localNoAt_iff _ _).mp hx.2⟩) (fun _ h => h) (fun _ h => h)
  exact C01_reachable_userinfo_ok (tameE cgNoAt e) Z Sc J u (tame_noAt_ok _) hJ (reachS_tame goodC_noAt h1)

/-- ITEM 7 ∘ item 2: "the string form is pure ASCII", "bytes(url) never fails" with the local oracle condition -/
theorem C01_str_ascii_reachable_local (e : Env) (Sc : Str → Prop) (J : Url → Prop) (u : Url) (r : Str)
    (hJ : ∀ x, J x → AsciiNet x)
    (hreach : ReachS (fun hi => ZoneAscii hi ∧ IdnaLocalAscii e.o hi) Sc J e u)
    (hscheme : ∀ c ∈ u.scheme, c < 128) (hstr : str e u = .ok r) :
    (∀ c ∈ r, c < 128) ∧ r.all (fun c => decide (c < 128)) = true := by
  have := C01_str_ascii_of_asciiNet e u r (C01_reachable_wf e u hreach.toReach) hscheme
    (C01_reachable_netloc_ascii_local e Sc J u hJ hreach) hstr
  exact ⟨this, by simpa using this⟩

/-- ITEM 7 ∘ item 3: raw_user / raw_password of every reachable URL with the local oracle condition -/
theorem C01_userinfo_chars_reachable_local (e : Env) (Z Sc : Str → Prop) (J : Url → Prop) (u : Url) (x : Str)
    (hJ : ∀ y, J y → UserinfoOK e.b y) (hreach : ReachS (fun hi => Z hi ∧ IdnaLocalNoAt e.o hi) Sc J e u) :
    (rawUser e u = .ok (some x) ∨ rawPassword e u = .ok (some x)) →
    (∀ c ∈ x, (Rfc.userinfoLit c = true ∧ c ≠ 58) ∨ c = 37) ∧ WellEscaped x ∧ (∀ c ∈ x, c < 128) := by
  intro hx
  exact userinfo_chars_of_inv ((inv_uiSpec_iff (tameE cgNoAt e) (tame_noAt_ok _) u).mpr
    (C01_reachable_userinfo_ok_local e Z Sc J u hJ hreach)) hx

/-! ### which routes still need an oracle hypothesis: hostile-oracle witnesses -/

namespace R11
/-- a hostile table: `idna.encode` answers 'é' (NOT ASCII) for every host; NFKC is the identity -/
def hostileAscii : Oracles :=
  { Oracles.empty with nfkc := fun s => some s, isDigitU := fun _ => some false, idnaEnc := fun _ => some (some [233]) }
/-- a hostile table: `idna.encode` raises, the stdlib codec answers '<@b' (ASCII, but with an '@') for every host; NFKC
    is the identity (so the '＠' → '@' screen does not fire: the table is NOT consistent with the real NFKC) -/
def hostileAt : Oracles :=
  { Oracles.empty with nfkc := fun s => some s, isDigitU := fun _ => some false, idnaEnc := fun _ => some none,
                       idnaEncStd := fun _ => some (some "<@b".toStr) }
end R11

/-- ROUTE 1 needs `HostOracleAscii` (its local form): with a table whose `idna.encode` answers 'é',
    `URL('http://é/')` stores the authority 'é' and renders as 'http://é/' — every other hypothesis of
    C01_headline_str_ascii_reachable holds (Python string, no zone id, ASCII scheme), and `HostOracleNoAt` holds too. -/
theorem C01_constructor_needs_oracle_ascii :
    let e : Env := ⟨.py, hostileAscii⟩
    let s : Str := "http://".toStr ++ [233] ++ "/".toStr
    PyStr s ∧ HostOracleNoAt e.o ∧ ¬ HostOracleAscii e.o ∧
    (∀ p, splitUrl e.o s = .ok p → ZoneAscii (hostinfo p.netloc) ∧ ¬ IdnaLocalAscii e.o (hostinfo p.netloc)) ∧
    ∃ u, encodeUrl e s = .ok u ∧ Reach e u ∧ u.netloc = [233] ∧ (∀ c ∈ u.scheme, c < 128) ∧ str e u = .ok s ∧
      ¬ (∀ c ∈ s, c < 128) := by
  intro e s
  have hu : encodeUrl e s = .ok
      { scheme := "http".toStr, netloc := [233], path := "/".toStr, query := [], fragment := [],
        pre := some { rawHost := some [233], explicitPort := none, rawUser := none, rawPassword := none } } := by
    decide +kernel
  have hsp : splitUrl e.o s = .ok { scheme := "http".toStr, netloc := [233], path := "/".toStr, query := [], fragment := [] } := by
    decide +kernel
  refine ⟨by decide, ?_, ?_, ?_, _, hu, Reach.ctor s _ (by decide) hu, rfl, by decide, by decide +kernel, ?_⟩
  · intro h r hr hm
    rcases hr with hr | hr
    · obtain rfl : [233] = r := Option.some.inj (Option.some.inj hr)
      exact absurd hm (by decide)
    · cases hr
  · intro h
    exact absurd (h [] [233] (Or.inl rfl) 233 (by decide)) (by decide)
  · intro p hp
    rw [hsp] at hp; cases hp
    refine ⟨by decide, ?_⟩
    intro h
    exact absurd (h (by decide) [233] (by decide +kernel) 233 (by decide)) (by decide)
  · intro h
    exact absurd (h 233 (by decide)) (by decide)

/-- ROUTE 2 needs it as well: `URL.build(scheme='http', authority='é')` with the same table stores 'é' -/
theorem C01_build_authority_needs_oracle_ascii :
    let e : Env := ⟨.py, hostileAscii⟩
    let a : BuildArgs := { scheme := "http".toStr, authority := [233] }
    BuildNetPy a ∧ ZoneAscii (hostinfo a.authority) ∧ ¬ IdnaLocalAscii e.o (hostinfo a.authority) ∧
    ∃ u, build e a = .ok u ∧ Reach e u ∧ u.netloc = [233] ∧ str e u = .ok ("http://".toStr ++ [233]) := by
  intro e a
  have hu : build e a = .ok (fromParts "http".toStr [233] [] [] []) := by decide +kernel
  refine ⟨⟨nofun, nofun, by decide⟩, by decide, ?_, _, hu,
    Reach.build a _ rfl ⟨by decide, by decide, by decide, trivial⟩ hu, rfl, by decide +kernel⟩
  intro h
  exact absurd (h (by decide) [233] (by decide +kernel) 233 (by decide)) (by decide)

/-- … and the VALIDATING routes do not: with the same two hostile tables `with_host('é')`, `build(host='é')`,
    `with_host('a＠b')`, `build(host='a＠b')` all raise ValueError — the answer is screened by `NOT_REG_NAME` -/
theorem C01_hostile_oracle_screened_on_validating_routes :
    (∀ u, encodeUrl ⟨.py, hostileAscii⟩ "http://h/".toStr = .ok u →
      withHost ⟨.py, hostileAscii⟩ u [233] = .error .valueError) ∧
    build ⟨.py, hostileAscii⟩ { scheme := "http".toStr, host := [233] } = .error .valueError ∧
    (∀ u, encodeUrl ⟨.py, hostileAt⟩ "http://h/".toStr = .ok u →
      withHost ⟨.py, hostileAt⟩ u [97, 0xFF20, 98] = .error .valueError) ∧
    build ⟨.py, hostileAt⟩ { scheme := "http".toStr, host := [97, 0xFF20, 98] } = .error .valueError := by
  have h1 : (encodeUrl ⟨.py, hostileAscii⟩ "http://h/".toStr).bind (fun u => withHost ⟨.py, hostileAscii⟩ u [233]) =
      .error .valueError := by decide +kernel
  have h2 : (encodeUrl ⟨.py, hostileAt⟩ "http://h/".toStr).bind (fun u => withHost ⟨.py, hostileAt⟩ u [97, 0xFF20, 98]) =
      .error .valueError := by decide +kernel
  refine ⟨fun u hu => by rw [hu] at h1; exact h1, by decide +kernel, fun u hu => by rw [hu] at h2; exact h2,
    by decide +kernel⟩

/-- ROUTE 1 needs `HostOracleNoAt` (its local form): with a table whose IDNA answer for 'a＠b' is '<@b' (and whose NFKC
    does not map '＠' to '@' — with the real NFKC the input is rejected, C01_idna_answer_with_at_now_rejected),
    `URL('http://a＠b/')` stores the authority '<@b'; a copy of it (lazily parsed) answers raw_user '<' — not an RFC 3986
    userinfo character.  `HostOracleAscii` holds of this table.  (`build(authority=)`: C01_idna_answer_with_at_hypothetical.) -/
theorem C01_constructor_needs_oracle_no_at :
    let e : Env := ⟨.py, hostileAt⟩
    let s : Str := "http://".toStr ++ [97, 0xFF20, 98] ++ "/".toStr
    PyStr s ∧ HostOracleAscii e.o ∧ ¬ HostOracleNoAt e.o ∧
    ∃ u, encodeUrl e s = .ok u ∧ Reach e (pickleTwin u) ∧ u.netloc = "<@b".toStr ∧
      rawUser e (pickleTwin u) = .ok (some "<".toStr) ∧ ¬ (Rfc.userinfoLit 60 = true ∨ 60 = 37) ∧
      ¬ UserinfoOK e.b u := by
  intro e s
  have hu : encodeUrl e s = .ok
      { scheme := "http".toStr, netloc := "<@b".toStr, path := "/".toStr, query := [], fragment := [],
        pre := some { rawHost := some "<@b".toStr, explicitPort := none, rawUser := none, rawPassword := none } } := by
    decide +kernel
  refine ⟨by decide, ?_, ?_, _, hu, Reach.op _ .copy _ (Reach.ctor s _ (by decide) hu) trivial rfl, rfl,
    by decide +kernel, by decide, ?_⟩
  · intro h r hr c hc
    rcases hr with hr | hr
    · cases Option.some.inj hr
    · obtain rfl : "<@b".toStr = r := Option.some.inj (Option.some.inj hr)
      revert c; decide
  · intro h
    exact absurd (h [] "<@b".toStr (Or.inr rfl)) (by decide)
  · intro h
    have := h.user "<".toStr (by decide +kernel)
    have h2 := (C01_uiText_chars .py _ this).1 60 (by decide)
    revert h2; decide

/-! ## ITEM 6 — the whole string form, outside the host -/

/-- ITEM 6, from the invariant.  The string form of a record whose stored authority satisfies `UserinfoOK` and whose
    path / query / fragment are well-formed is `pre ++ hostText ++ suf`, where `hostText` is the `host[:port]` text
    (`hostinfo N`: what follows the last '@') of the authority `N` that `str` renders — `N` ends where `suf` begins
    (`pre ++ hostText = a ++ N`) and is the stored authority, or `make_netloc(raw_user, raw_password,
    host_subcomponent, None)` when the explicit port is the scheme's default and is dropped, or nothing when no
    authority is rendered) and contains every character of `raw_host`; and OUTSIDE `hostText`:
     * every '%' starts an escape of two upper-case hex digits (`WellEscaped pre`, `WellEscaped suf`),
     * every character is ASCII,
     * no character is a raw space, control character, double quote, `<>\^`{|}` or DEL (`NF`),
    `pre` under the corresponding condition on the scheme (F-C01-scheme), `suf` unconditionally.
    No condition on the host: zone ids (verbatim) and lower-case host escapes live inside `hostText`. -/
theorem C01_str_outside_host_of_inv (e : Env) (u : Url) (r : Str) (ho : HostOracleNoAt e.o)
    (hu : UserinfoOK e.b u) (hw : WFUrl e.b u) (hstr : str e u = .ok r) :
    ∃ pre hostText suf, r = pre ++ hostText ++ suf ∧
      (∃ N, hostText = hostinfo N ∧ (∃ a, pre ++ hostText = a ++ N) ∧
        (N = [] ∨ N = u.netloc ∨ ∃ p hs, explicitPort e u = .ok (some p) ∧ some p = defaultPort u.scheme ∧
          hostSubcomponent e u = .ok hs ∧ hostinfo N = hs.getD []) ∧
        (N ≠ [] → ∀ x, rawHost e u = .ok (some x) → ∀ c ∈ x, c ∈ hostText)) ∧
      (37 ∉ u.scheme → WellEscaped pre) ∧ WellEscaped suf ∧
      ((∀ c ∈ u.scheme, c < 128) → ∀ c ∈ pre, c < 128) ∧ (∀ c ∈ suf, c < 128) ∧
      ((∀ c ∈ u.scheme, NF c) → ∀ c ∈ pre, NF c) ∧ (∀ c ∈ suf, NF c) := by
  obtain ⟨N, pre, suf, hr, hcut, hN, hrh, hP⟩ := str_decomp_of_inv e u r ho hu hstr
  obtain ⟨⟨a1, w1, l1⟩, ⟨a2, w2, l2⟩, ⟨a3, w3, l3⟩⟩ := C01_wf_components e.b u hw
  have nfq : ∀ c, Rfc.queryLit c = true ∨ c = 37 → NF c := fun c h => HeadA.lit_not_forbidden c h
  obtain ⟨p1, p2⟩ := hP WellEscaped glue_wellEscaped (wellEscaped_of_no_pct (by decide))
    (wellEscaped_of_no_pct (by decide)) (wellEscaped_of_no_pct (by decide)) (wellEscaped_of_no_pct (by decide))
    (wellEscaped_of_no_pct (by decide)) w1 w2 w3 (fun x hx => uiText_wellEscaped hx)
  obtain ⟨q1, q2⟩ := hP (fun s => ∀ c ∈ s, c < 128) (glue_chars _) (by decide) (by decide) (by decide) (by decide)
    (by decide) a1 a2 a3 (fun x hx => (C01_uiText_chars e.b x hx).2.2)
  obtain ⟨n1, n2⟩ := hP (fun s => ∀ c ∈ s, NF c) (glue_chars _) (by unfold NF; decide) (by unfold NF; decide)
    (by unfold NF; decide) (by unfold NF; decide) (by unfold NF; decide)
    (fun c hc => nfq c ((l1 c hc).imp HeadA.pathLit_queryLit id)) (fun c hc => nfq c (l2 c hc))
    (fun c hc => nfq c (l3 c hc))
    (fun x hx c hc => nfq c (((C01_uiText_chars e.b x hx).1 c hc).imp (fun h => HeadA.userinfoLit_queryLit h.1) id))
  exact ⟨pre, hostinfo N, suf, hr, ⟨N, rfl, hcut, hN, hrh⟩, fun hs => p1 (wellEscaped_of_no_pct hs), p2, q1, q2, n1, n2⟩

/-- ITEM 6, ONE whole-string theorem for every reachable URL.  `Z` arbitrary — NO `ZoneAscii` side condition, NO guard
    "no '%' in the host" (compare C01_str_well_escaped, C01_str_ascii_reachable): KNOWN FINDINGS F-C01-host-percent and
    F-C01-nonascii-zone are confined to `hostText`.  Oracle hypothesis: only the LOCAL `IdnaLocalNoAt` on the
    constructor / `build(authority=)` inputs.  `UOp.joinRef` references must satisfy `UserinfoOK` (model artefact). -/
theorem C01_str_outside_host (e : Env) (Z Sc : Str → Prop) (J : Url → Prop) (u : Url) (r : Str)
    (hJ : ∀ x, J x → UserinfoOK e.b x)
    (hreach : ReachS (fun hi => Z hi ∧ IdnaLocalNoAt e.o hi) Sc J e u) (hstr : str e u = .ok r) :
    ∃ pre hostText suf, r = pre ++ hostText ++ suf ∧
      (∃ N, hostText = hostinfo N ∧ (∃ a, pre ++ hostText = a ++ N) ∧
        (N = [] ∨ N = u.netloc ∨ ∃ p hs, explicitPort e u = .ok (some p) ∧ some p = defaultPort u.scheme ∧
          hostSubcomponent e u = .ok hs ∧ hostinfo N = hs.getD []) ∧
        (N ≠ [] → ∀ x, rawHost e u = .ok (some x) → ∀ c ∈ x, c ∈ hostText)) ∧
      (37 ∉ u.scheme → WellEscaped pre) ∧ WellEscaped suf ∧
      ((∀ c ∈ u.scheme, c < 128) → ∀ c ∈ pre, c < 128) ∧ (∀ c ∈ suf, c < 128) ∧
      ((∀ c ∈ u.scheme, NF c) → ∀ c ∈ pre, NF c) ∧ (∀ c ∈ suf, NF c) :=
  C01_str_outside_host_of_inv (tameE cgNoAt e) u r (tame_noAt_ok _)
    (C01_reachable_userinfo_ok_local e Z Sc J u hJ hreach) (C01_reachable_wf e u hreach.toReach) hstr

/-- ITEM 6 in positions: in the string form `r = pre ++ hostText ++ suf` of the previous theorem, a '%' at an index
    that is NOT inside `hostText` is followed by two upper-case hex digits (inside `r`) -/
theorem C01_percent_outside_host_positions (pre hostText suf : Str) (h1 : WellEscaped pre) (h2 : WellEscaped suf)
    (i : Nat) (hi : (pre ++ hostText ++ suf)[i]? = some 37)
    (hout : i < pre.length ∨ pre.length + hostText.length ≤ i) :
    ∃ a b, (pre ++ hostText ++ suf)[i+1]? = some a ∧ (pre ++ hostText ++ suf)[i+2]? = some b ∧
      isUpperHexDigit a = true ∧ isUpperHexDigit b = true :=
  pct_outside pre hostText suf h1 h2 i hi hout

/-! ## ITEM 8 — `ReachS` versus `Reach` -/

/-- ITEM 8: `BuildNetPy` can NOT be discharged — a MODEL ARTEFACT, not a library behaviour.  `Reach.build` asks
    Python strings of path / query / fragment only; with the model-only code point 0x110000 as `user=` the C backend's
    quoter passes it through unchanged, so `build(scheme='http', user=…, host='h')` is `Reach`, stores the authority
    '\u{110000}@h' and renders non-ASCII; the oracle hypotheses hold (empty table), there is no zone id, no `join`, an ASCII
    scheme.  The URL is not `ReachS` (with `J` = the invariant).  The Python backend drops the code point instead.  No
    Python `str` contains such a code point: the theorems over `ReachS` lose nothing the library can do. -/
theorem C01_reach_build_nonpython_user_counterexample :
    let e : Env := ⟨.c, Oracles.empty⟩
    let a : BuildArgs := { scheme := "http".toStr, host := "h".toStr, user := some [0x110000] }
    ¬ BuildNetPy a ∧ HostOracleAscii e.o ∧ HostOracleNoAt e.o ∧
    (∃ u, build e a = .ok u ∧ Reach e u ∧ u.netloc = [0x110000, 64, 104] ∧ (∀ c ∈ u.scheme, c < 128) ∧
      str e u = .ok ("http://".toStr ++ [0x110000] ++ "@h".toStr) ∧ ¬ AsciiNet u ∧
      ¬ ReachS ZoneAscii (fun _ => True) AsciiNet e u) ∧
    build ⟨.py, Oracles.empty⟩ a = .ok (fromParts "http".toStr "h".toStr [] [] []) := by
  intro e a
  have hu : build e a = .ok (fromParts "http".toStr [0x110000, 64, 104] [] [] []) := by decide +kernel
  have hna : ¬ AsciiNet (fromParts "http".toStr [0x110000, 64, 104] [] [] []) :=
    fun h => absurd (h.1 0x110000 (by decide)) (by decide)
  refine ⟨fun h => absurd (h.1 _ rfl 0x110000 (by decide)) (by decide), C01_oracle_empty_ok.1, C01_oracle_empty_ok.2,
    ⟨_, hu, Reach.build a _ rfl ⟨by decide, by decide, by decide, trivial⟩ hu, rfl, by decide, by decide +kernel, hna, ?_⟩,
    by decide +kernel⟩
  intro hr
  exact hna (C01_reachable_netloc_ascii e _ _ _ C01_oracle_empty_ok.1 (fun _ h => h) hr)

/-- ITEM 8, what remains of the side conditions for the API closure.  `ReachS (Z) (fun _ => True) (fun _ => False)`:
    the constructor, `build` (Python strings), the 18 operations other than the model-only `UOp.joinRef`, and `join` of
    two reachable URLs; no condition on schemes, none on zone ids; `Z` only carries the LOCAL oracle condition.  Every
    such URL is `Reach`, and for its string form the property's last sentence holds: OUTSIDE the host text every '%'
    starts an upper-case escape, every character is ASCII and none is a raw space / control / quote / `<>\^`{|}` — the
    part before the host under the corresponding condition on the stored scheme (KNOWN FINDING F-C01-scheme; automatic
    for constructor results: C01_headline_no_raw_forbidden_chars_scheme). -/
theorem C01_api_outside_host (e : Env) (u : Url) (r : Str)
    (hreach : ReachS (fun hi => True ∧ IdnaLocalNoAt e.o hi) (fun _ => True) (fun _ => False) e u)
    (hstr : str e u = .ok r) :
    Reach e u ∧
    ∃ pre hostText suf, r = pre ++ hostText ++ suf ∧
      (∃ N, hostText = hostinfo N ∧ (∃ a, pre ++ hostText = a ++ N) ∧
        (N = [] ∨ N = u.netloc ∨ ∃ p hs, explicitPort e u = .ok (some p) ∧ some p = defaultPort u.scheme ∧
          hostSubcomponent e u = .ok hs ∧ hostinfo N = hs.getD []) ∧
        (N ≠ [] → ∀ x, rawHost e u = .ok (some x) → ∀ c ∈ x, c ∈ hostText)) ∧
      (37 ∉ u.scheme → WellEscaped pre) ∧ WellEscaped suf ∧
      ((∀ c ∈ u.scheme, c < 128) → ∀ c ∈ pre, c < 128) ∧ (∀ c ∈ suf, c < 128) ∧
      ((∀ c ∈ u.scheme, NF c) → ∀ c ∈ pre, NF c) ∧ (∀ c ∈ suf, NF c) :=
  ⟨hreach.toReach, C01_str_outside_host e (fun _ => True) (fun _ => True) (fun _ => False) u r (fun _ h => h.elim)
    hreach hstr⟩

/-! ## non-vacuity -/

namespace R11
/-- URL('HTTP://us er:p%2fw@[FE80::1%eth0]:80/a b?x=1#f'): user, password, an IPv6 literal with a zone id (a '%' that is
    NOT an escape), the default port (dropped by `str`: the authority is re-made) -/
def zUrl : Str := "HTTP://us er:p%2fw@[FE80::1%eth0]:80/a b?x=1#f".toStr
def zU : Url :=
  { scheme := "http".toStr, netloc := "us%20er:p%2Fw@[fe80::1%eth0]:80".toStr, path := "/a%20b".toStr,
    query := "x=1".toStr, fragment := "f".toStr,
    pre := some { rawHost := some "fe80::1%eth0".toStr, explicitPort := some 80, rawUser := some "us%20er".toStr,
                  rawPassword := some "p%2Fw".toStr } }
theorem z_ctor : encodeUrl demoEnv zUrl = .ok zU := by simp only [zUrl, zU]; str_lits; decide +kernel
theorem z_reach : ReachS (fun hi => True ∧ IdnaLocalNoAt demoEnv.o hi) (fun _ => True) (fun _ => False) demoEnv zU := by
  refine ReachS.ctor zUrl zU (by simp only [zUrl]; str_lits; decide +kernel) ?_ z_ctor
  intro p hp
  have : splitUrl demoEnv.o zUrl = .ok ⟨"http".toStr, "us er:p%2fw@[FE80::1%eth0]:80".toStr, "/a b".toStr, "x=1".toStr,
      "f".toStr⟩ := by simp only [zUrl]; str_lits; decide +kernel
  rw [this] at hp; cases hp
  exact ⟨trivial, fun h => absurd h (by str_lits; decide +kernel)⟩
theorem z_str : str demoEnv zU = .ok "http://us%20er:p%2Fw@[fe80::1%eth0]/a%20b?x=1#f".toStr := by
  simp only [zU]; str_lits; decide +kernel
end R11

/-- the whole-string theorem applies to it; its string form is NOT `WellEscaped` as a whole (the zone id), so the old
    guarded theorem (C01_str_well_escaped) says nothing — the new one confines the defect to the host text -/
example : str demoEnv zU = .ok "http://us%20er:p%2Fw@[fe80::1%eth0]/a%20b?x=1#f".toStr ∧
    ¬ WellEscaped "http://us%20er:p%2Fw@[fe80::1%eth0]/a%20b?x=1#f".toStr ∧
    ∃ pre hostText suf, "http://us%20er:p%2Fw@[fe80::1%eth0]/a%20b?x=1#f".toStr = pre ++ hostText ++ suf ∧
      WellEscaped pre ∧ WellEscaped suf ∧ (∀ c ∈ pre, c < 128 ∧ NF c) ∧ (∀ c ∈ suf, c < 128 ∧ NF c) := by
  have hs := z_str
  obtain ⟨_, pre, H, suf, h1, _, h2, h3, h4, h5, h6, h7⟩ := C01_api_outside_host demoEnv zU _ z_reach hs
  refine ⟨hs, ?_, pre, H, suf, h1, h2 (by decide), h3,
    fun c hc => ⟨h4 (by decide) c hc, h6 (by unfold NF; decide) c hc⟩, fun c hc => ⟨h5 c hc, h7 c hc⟩⟩
  have : "http://us%20er:p%2Fw@[fe80::1%eth0]/a%20b?x=1#f".toStr =
      [104, 116, 116, 112, 58, 47, 47, 117, 115, 37, 50, 48, 101, 114, 58, 112, 37, 50, 70, 119, 64, 91, 102, 101, 56, 48,
       58, 58, 49, 37, 101, 116, 104, 48, 93, 47, 97, 37, 50, 48, 98, 63, 120, 61, 49, 35, 102] := by
    str_lits; decide +kernel
  rw [this]; simp [WellEscaped, isUpperHexDigit]

/-- the concrete cut of that string form: 'http://us%20er:p%2Fw@' ++ '[fe80::1%eth0]' ++ '/a%20b?x=1#f' -/
example : unsplitParts zU.scheme "us%20er:p%2Fw@[fe80::1%eth0]".toStr zU.path zU.query zU.fragment =
      ("http://".toStr, "us%20er:p%2Fw@[fe80::1%eth0]".toStr, "/a%20b?x=1#f".toStr) ∧
    userinfoAt "us%20er:p%2Fw@[fe80::1%eth0]".toStr = "us%20er:p%2Fw@".toStr ∧
    hostinfo "us%20er:p%2Fw@[fe80::1%eth0]".toStr = "[fe80::1%eth0]".toStr := by decide +kernel

/-- the local oracle conditions are met by every ASCII input, whatever the oracle table -/
example (o : Oracles) : IdnaLocalAscii o "example.com:8080".toStr ∧ IdnaLocalNoAt o "[fe80::1%eth0]:80".toStr :=
  ⟨fun h => absurd h (by decide +kernel), fun h => absurd h (by decide +kernel)⟩

/-- `with_host` on a constructor result against the HOSTILE table `hostileAscii`, IDN argument included: both
    invariants survive (here: the call is rejected; with an ASCII argument it succeeds) — C01_with_host_no_oracle needs no
    oracle hypothesis, while `HostOracleAscii` is false of this table -/
example (u v : Url) (hu : encodeUrl ⟨.py, hostileAscii⟩ "http://h/".toStr = .ok u)
    (hv : withHost ⟨.py, hostileAscii⟩ u "EXAMPLE.com".toStr = .ok v) : AsciiNet v :=
  (C01_with_host_no_oracle _ u v _ hv).1
    ((C01_encodeUrl_local_oracle ⟨.py, hostileAscii⟩ _ u (by decide) hu).1 (fun p hp => by
      have : splitUrl hostileAscii "http://h/".toStr = .ok ⟨"http".toStr, "h".toStr, "/".toStr, [], []⟩ := by
        decide +kernel
      have hp' : splitUrl hostileAscii "http://h/".toStr = .ok p := hp
      rw [this] at hp'; cases hp'
      exact ⟨by decide, fun h => absurd h (by decide +kernel)⟩))

end Yarl
