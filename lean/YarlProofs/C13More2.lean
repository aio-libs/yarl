/-
  C13More2.lean — C13 ("path operations compose like a path algebra"):
   * `joinpath(a, b) = u / pjoin(a, b)` — the `//` family characterised;
   * associativity `joinpath(a, b) = (u / a) / b`: a directly checkable guard ("no climb"), the two failing families,
     and the exactness of `hroot` (for every first argument some second argument separates the two forms);
   * name and parent parts of `u / s` when `_make_child` normalises an old path WITH dot segments;
   * `u / o` against `u.joinpath(o)` at the level of Python dispatch (YarlModel/Dyn.lean);
   * the same exactness at the level of values, with ONE separating argument (`C13_sepArg`) for both failing families
     (`C13_joinpath_assoc_hroot_necessary`, `C13_joinpath_assoc_iff`), and its non-vacuity.
  `R4c` holds the segment-list helpers (normalising a list that ends in an ordinary segment, the climbing argument
  `C13_climbArg`), `R4` the two forms of `joinpath(a, b)` when the first step loses the root (`first_step_stack`,
  `second_step`) and the helpers of `C13_sepArg`.
-/
import YarlProofs.C13HeadlineMore
import YarlProofs.Lemmas.DotMore
import YarlProofs.C19Dyn
import YarlModel
namespace Yarl
open Yarl.PathLemmas Yarl.PathAlg PathMore

namespace R4c

/-- the last segment of a '/'-split is empty only for the empty text and for a text ending in '/' -/
theorem splitOn_last_nil (s : Str) (h : (splitOn 47 s).getLast? = some []) : s = [] ∨ s.getLast? = some 47 := by
  induction s with
  | nil => left; rfl
  | cons c x ih =>
    right
    by_cases hc : c = 47
    · subst hc
      simp only [splitOn, ↓reduceIte] at h
      obtain ⟨p, ps, e⟩ := List.exists_cons_of_ne_nil (splitOn_ne_nil 47 x)
      rw [e, List.getLast?_cons_cons, ← e] at h
      rcases ih h with rfl | h'
      · rfl
      · cases x with
        | nil => rfl
        | cons d y => rw [List.getLast?_cons_cons]; exact h'
    · obtain ⟨p, ps, e⟩ := List.exists_cons_of_ne_nil (splitOn_ne_nil 47 x)
      rw [splitOn_cons_ne 47 c x hc e] at h
      cases ps with
      | nil => simp at h
      | cons p' ps' =>
        rw [List.getLast?_cons_cons] at h
        have h2 : (splitOn 47 x).getLast? = some [] := by rw [e, List.getLast?_cons_cons]; exact h
        rcases ih h2 with rfl | h'
        · simp [splitOn] at e
        · cases x with
          | nil => simp at h'
          | cons d y => rw [List.getLast?_cons_cons]; exact h'

theorem mem46_append (x y : Str) : mem 46 (x ++ y) = (mem 46 x || mem 46 y) := by
  simp only [Yarl.mem_eq]
  simp

theorem mem46_nil : mem 46 [] = false := by rw [Yarl.mem_eq]; simp

/-- the quoted text of a non-empty Python string whose LAST character is neither '/' nor a lone surrogate has a
    non-empty last segment -/
theorem q_last_seg (e : Env) (a' : Str) (c : Nat) (ha : PyStr (a' ++ [c])) (hc47 : c ≠ 47)
    (hcs : isSurrogate c = false) :
    (splitOn 47 (q e Gen.PATH_QUOTER (a' ++ [c]))).getLast? ≠ some [] := by
  intro h
  have ha' : PyStr a' := fun x hx => ha x (List.mem_append_left _ hx)
  have hc : PyStr [c] := fun x hx => ha x (List.mem_append_right _ hx)
  have hq := q_path_append e a' [c] ha' hc
  have hne : q e Gen.PATH_QUOTER [c] ≠ [] :=
    q_path_ne_nil e [c] hc (by intro x hx; simp at hx; subst hx; exact hcs) (by simp)
  have h47 : 47 ∉ q e Gen.PATH_QUOTER [c] :=
    q_path_avoid e [c] hc 47 (Or.inr rfl) (by simpa using fun h => hc47 h.symm)
  rcases splitOn_last_nil _ h with h0 | h0
  · rw [hq] at h0
    exact hne (List.append_eq_nil_iff.1 h0).2
  · rw [hq, List.getLast?_append] at h0
    obtain ⟨x, hx⟩ : ∃ x, (q e Gen.PATH_QUOTER [c]).getLast? = some x := by
      cases hg : (q e Gen.PATH_QUOTER [c]).getLast? with
      | none => exact absurd (List.getLast?_eq_none_iff.1 hg) hne
      | some x => exact ⟨x, rfl⟩
    rw [hx] at h0
    simp only [Option.some_or, Option.some.injEq] at h0
    subst h0
    exact h47 (List.mem_of_getLast? hx)

end R4c

open R4c

/-! ## `joinpath(a, b)` is `u / pjoin(a, b)` -/

/-- the text whose single `/`-child is `joinpath(a, b)`: `a` and `b` joined by ONE '/', unless `a` is empty or
    already ends with '/' -/
def C13_pjoin (a b : Str) : Str :=
  if a = [] then b else if a.getLast? = some 47 then a ++ b else a ++ 47 :: b

/-- the segments and the "needs normalising" flag of `joinpath(a, b)` are those of `u / pjoin(a, b)`.
    `hlast`: the last character of `a` is not a lone surrogate (the quoter drops those, see
    `C13_joinpath_two_eq_truediv_fails_for_surrogate`). -/
theorem C13_pjoin_segments (e : Env) (a b : Str) (ha : PyStr a) (hb : PyStr b)
    (hlast : ∀ c, a.getLast? = some c → isSurrogate c = false) :
    stripTrail (splitOn 47 (q e Gen.PATH_QUOTER a)) ++ splitOn 47 (q e Gen.PATH_QUOTER b)
      = splitOn 47 (q e Gen.PATH_QUOTER (C13_pjoin a b)) ∧
    (mem 46 (q e Gen.PATH_QUOTER b) || mem 46 (q e Gen.PATH_QUOTER a))
      = mem 46 (q e Gen.PATH_QUOTER (C13_pjoin a b)) := by
  unfold C13_pjoin
  rcases List.eq_nil_or_concat a with rfl | ⟨a', c, hac⟩
  · simp [q_path_nil, splitOn, stripTrail, mem46_nil]
  · have hac' : a = a' ++ [c] := by simpa using hac
    subst hac'
    have hane : a' ++ [c] ≠ [] := by simp
    have ha' : PyStr a' := fun x hx => ha x (List.mem_append_left _ hx)
    rw [if_neg hane, List.getLast?_concat]
    by_cases hc : c = 47
    · subst hc
      rw [if_pos rfl]
      have e1 : q e Gen.PATH_QUOTER (a' ++ [47]) = q e Gen.PATH_QUOTER a' ++ 47 :: [] := by
        rw [q_path_append e _ _ ha' (by decide), q_path_slash]
      have e2 : q e Gen.PATH_QUOTER (a' ++ [47] ++ b) = q e Gen.PATH_QUOTER a' ++ 47 :: q e Gen.PATH_QUOTER b := by
        rw [List.append_assoc]; exact q_slash e a' b ha' hb
      rw [e1, e2, splitOn_append 47, splitOn_append 47]
      constructor
      · simp [splitOn, stripTrail_concat_nil]
      · simp only [Yarl.mem_eq]
        simp [Bool.or_comm]
    · rw [if_neg (by simpa using hc)]
      have e2 := q_slash e (a' ++ [c]) b ha hb
      have hl := q_last_seg e a' c ha hc (hlast c (by simp))
      have hst : stripTrail (splitOn 47 (q e Gen.PATH_QUOTER (a' ++ [c])))
          = splitOn 47 (q e Gen.PATH_QUOTER (a' ++ [c])) := by simp [stripTrail, hl]
      rw [e2, splitOn_append 47, hst]
      refine ⟨rfl, ?_⟩
      simp only [Yarl.mem_eq]
      simp [Bool.or_comm]

theorem C13_pjoin_head (a b : Str) (ha0 : a.head? ≠ some 47) (hb0 : b.head? ≠ some 47) :
    (C13_pjoin a b).head? ≠ some 47 := by
  unfold C13_pjoin
  cases a with
  | nil => simpa using hb0
  | cons c r => rw [if_neg (by simp)]; split <;> simpa using ha0

/-- GENERAL LAW (values and errors): `u.joinpath(a, b)` is `u / pjoin(a, b)`.  If `a` starts with '/' both sides
    raise ValueError. -/
theorem C13_joinpath_two_eq_truediv_gen (e : Env) (u : Url) (a b : Str) (ha : PyStr a) (hb : PyStr b)
    (hlast : ∀ c, a.getLast? = some c → isSurrogate c = false)
    (hb0 : b.head? ≠ some 47) :
    makeChild e u [a, b] false = makeChild e u [C13_pjoin a b] false := by
  by_cases ha0 : a.head? = some 47
  · have hp : (C13_pjoin a b).head? = some 47 := by
      unfold C13_pjoin
      cases a with
      | nil => simp at ha0
      | cons c r => rw [if_neg (by simp)]; split <;> simpa using ha0
    rw [makeChild_err e u [a, b] false ⟨a, by simp, ha0⟩, makeChild_err e u [_] false ⟨_, by simp, hp⟩]
  · obtain ⟨h1, h2⟩ := C13_pjoin_segments e a b ha hb hlast
    rw [makeChild_two e u a b ha0 hb0, makeChild_one e u _ (C13_pjoin_head a b ha0 hb0), h1, h2]

/-- with the simpler guard: no lone surrogate anywhere in `a` -/
theorem C13_joinpath_two_eq_truediv (e : Env) (u : Url) (a b : Str) (ha : PyStr a) (hb : PyStr b)
    (hsur : NoSurrogate a)
    -- joinpath raises ValueError for an argument starting with '/', `/` on the joined text would not
    (hb0 : b.head? ≠ some 47) :
    makeChild e u [a, b] false = makeChild e u [C13_pjoin a b] false :=
  C13_joinpath_two_eq_truediv_gen e u a b ha hb (fun c hc => hsur c (List.mem_of_getLast? hc)) hb0

/-- an empty first argument contributes nothing: `u.joinpath("", b)` is `u / b` -/
theorem C13_joinpath_empty_first (e : Env) (u : Url) (b : Str) (hb : PyStr b) (hb0 : b.head? ≠ some 47) :
    makeChild e u [[], b] false = makeChild e u [b] false :=
  C13_joinpath_two_eq_truediv_gen e u [] b (by decide) hb (by simp) hb0

/-- `a` ending in '/': `u.joinpath(a, b)` is `u / (a + b)` — the trailing empty segment of the non-last
    argument is dropped, which is exactly what concatenation does -/
theorem C13_joinpath_slash_terminated (e : Env) (u : Url) (a b : Str) (ha : PyStr a) (hb : PyStr b)
    (hsl : a.getLast? = some 47) (hb0 : b.head? ≠ some 47) :
    makeChild e u [a, b] false = makeChild e u [a ++ b] false := by
  have h := C13_joinpath_two_eq_truediv_gen e u a b ha hb
    (fun c hc => by rw [hsl] at hc; cases hc; decide) hb0
  have hane : a ≠ [] := by intro h0; rw [h0] at hsl; simp at hsl
  rwa [C13_pjoin, if_neg hane, if_pos hsl] at h

/-- `a` non-empty, not ending in '/' (nor in a lone surrogate): `u.joinpath(a, b)` is `u / (a + "/" + b)`,
    as values, errors included (strengthens `C13_truediv_slash`) -/
theorem C13_joinpath_plain (e : Env) (u : Url) (a b : Str) (ha : PyStr a) (hb : PyStr b)
    (hane : a ≠ []) (hsl : a.getLast? ≠ some 47) (hlast : ∀ c, a.getLast? = some c → isSurrogate c = false)
    (hb0 : b.head? ≠ some 47) :
    makeChild e u [a, b] false = makeChild e u [a ++ 47 :: b] false := by
  have h := C13_joinpath_two_eq_truediv_gen e u a b ha hb hlast hb0
  rwa [C13_pjoin, if_neg hane, if_neg hsl] at h

/-- the known counterexample explained: `u / (a + "//" + b)` is `u.joinpath(a + "//", b)` — not
    `u.joinpath(a + "/", b)`, which is `u / (a + "/" + b)`: exactly ONE trailing empty segment of a non-last
    argument is dropped.  Computed instance: `C13_truediv_double_slash_counterexample` (C13More.lean). -/
theorem C13_truediv_double_slash_explained (e : Env) (u : Url) (a b : Str) (ha : PyStr a) (hb : PyStr b)
    (hb0 : b.head? ≠ some 47) :
    makeChild e u [a ++ 47 :: 47 :: b] false = makeChild e u [a ++ [47, 47], b] false ∧
    makeChild e u [a ++ 47 :: b] false = makeChild e u [a ++ [47], b] false := by
  have h47 : PyStr [47, 47] := by decide
  have h47' : PyStr [47] := by decide
  constructor
  · rw [C13_joinpath_slash_terminated e u (a ++ [47, 47]) b (pyStr_append ha h47) hb
      (by rw [show a ++ [47, 47] = (a ++ [47]) ++ [47] by simp, List.getLast?_concat]) hb0]
    simp
  · rw [C13_joinpath_slash_terminated e u (a ++ [47]) b (pyStr_append ha h47') hb
      (by rw [List.getLast?_concat]) hb0]
    simp

/-- the computed instance: `URL("http://h") / "x//b"` is `http://h/x//b`, `joinpath("x/", "b")` is
    `http://h/x/b` -/
theorem C13_truediv_double_slash_instance (e : Env) :
    let u := fromParts "http".toStr "h".toStr [] [] []
    makeChild e u ["x//b".toStr] false = .ok (fromParts "http".toStr "h".toStr "/x//b".toStr [] []) ∧
    makeChild e u ["x/".toStr, "b".toStr] false = .ok (fromParts "http".toStr "h".toStr "/x/b".toStr [] []) ∧
    (splitOn 47 (q e Gen.PATH_QUOTER "x/".toStr)).getLast? = some [] :=
  C13_truediv_double_slash_counterexample e

/-- the surrogate guard is needed: a lone surrogate at the END of `a` is dropped by the quoter, so
    `URL("http://h/k").joinpath("\ud800", "x")` is `http://h/k/x`, while `URL("http://h/k") / "\ud800/x"` is
    `http://h/k//x` -/
theorem C13_joinpath_two_eq_truediv_fails_for_surrogate (e : Env) :
    let u := fromParts "http".toStr "h".toStr "/k".toStr [] []
    let a : Str := [0xD800]
    let b : Str := "x".toStr
    PyStr a ∧ PyStr b ∧ b.head? ≠ some 47 ∧ C13_pjoin a b = [0xD800, 47, 120] ∧
    makeChild e u [a, b] false = .ok (fromParts "http".toStr "h".toStr "/k/x".toStr [] []) ∧
    makeChild e u [C13_pjoin a b] false = .ok (fromParts "http".toStr "h".toStr "/k//x".toStr [] []) := by
  intro u a b
  have q1 : q e Gen.PATH_QUOTER a = [] := q_path_of_run e (fun b => by cases b <;> decide +kernel)
  have q2 : q e Gen.PATH_QUOTER b = b := q_path_of_run e (fun b => by cases b <;> decide +kernel)
  have q3 : q e Gen.PATH_QUOTER [0xD800, 47, 120] = [47, 120] :=
    q_path_of_run e (fun b => by cases b <;> decide +kernel)
  have hp : C13_pjoin a b = [0xD800, 47, 120] := by decide
  refine ⟨by decide, by decide, by decide, hp, ?_, ?_⟩
  · rw [makeChild_two e u _ _ (by decide) (by decide), q1, q2]
    exact congrArg Except.ok (by decide)
  · rw [hp, makeChild_one e u _ (by decide), q3]
    exact congrArg Except.ok (by decide)

/-! non-vacuity of the `pjoin` laws: all three branches of `C13_pjoin`, both backends, values and the error case -/
example : ∀ b : Backend,
    let e : Env := ⟨b, Oracles.empty⟩
    let u := fromParts "http".toStr "h".toStr "/k/".toStr [] []
    C13_pjoin "x y".toStr "b.c".toStr = "x y/b.c".toStr ∧
    makeChild e u ["x y".toStr, "b.c".toStr] false = .ok (fromParts "http".toStr "h".toStr "/k/x%20y/b.c".toStr [] []) ∧
    makeChild e u ["x y/b.c".toStr] false = .ok (fromParts "http".toStr "h".toStr "/k/x%20y/b.c".toStr [] []) ∧
    C13_pjoin "x//".toStr "b".toStr = "x//b".toStr ∧
    makeChild e u ["x//".toStr, "b".toStr] false = .ok (fromParts "http".toStr "h".toStr "/k/x//b".toStr [] []) ∧
    makeChild e u ["x//b".toStr] false = .ok (fromParts "http".toStr "h".toStr "/k/x//b".toStr [] []) ∧
    C13_pjoin [] "b".toStr = "b".toStr ∧
    makeChild e u [[], "b".toStr] false = .ok (fromParts "http".toStr "h".toStr "/k/b".toStr [] []) ∧
    C13_pjoin "/x".toStr "b".toStr = "/x/b".toStr ∧
    makeChild e u ["/x".toStr, "b".toStr] false = .error .valueError ∧
    makeChild e u ["/x/b".toStr] false = .error .valueError := by
  str_lits; intro b; cases b <;> decide +kernel

/-! ## associativity `u.joinpath(a, b) = (u / a) / b` -/

namespace R4c

/-- without a climb the root's empty segment stays at the bottom of the stack, with something on it -/
theorem root_kept_of_noclimb (u : Url) (Q : Str) (hn : u.netloc ≠ []) (hm : 46 ∈ Q)
    (hc : DotMore.climbs 0 (root u.netloc (base u ++ splitOn 47 Q)).tail = false) :
    ∃ K', K' ≠ [] ∧ normalizePathSegments (root u.netloc (base u ++ splitOn 47 Q)) = [] :: K' := by
  obtain ⟨R, hR0, hR⟩ := childRoot_shape u Q hn hm
  rw [hR] at hc ⊢
  exact ⟨normalizePathSegments R, DotMore.normalizePathSegments_ne_nil R hR0,
    DotMore.normalizePathSegments_root_noclimb R hR0 hc⟩

end R4c

/-- a directly checkable guard, weaker than "no '..' segment" (`C13_joinpath_assoc_no_dotdot`) and stronger
    than `hroot` of `C13_joinpath_assoc`: after the root's empty segment, no ".." of the first step's segment list
    meets an empty stack (`DotMore.climbs 0`: depth counter, '.' ignored, ".." at depth 0 = climb) -/
theorem C13_joinpath_assoc_noclimb (e : Env) (u : Url) (a b : Str) (v1 v2 w : Url)
    (hc : u.netloc ≠ [] → 46 ∈ q e Gen.PATH_QUOTER a → DotMore.climbs 0 (childSegments e u a).tail = false) :
    makeChild e u [a, b] false = .ok w → makeChild e u [a] false = .ok v1 →
    makeChild e v1 [b] false = .ok v2 → w = v2 :=
  C13_joinpath_assoc e u a b v1 v2 w (fun hn hm => root_kept_of_noclimb u _ hn hm (hc hn hm))

/-- "no '..' segment" (the guard of `C13_joinpath_assoc_no_dotdot` / `C13_headline_joinpath_assoc`) implies
    "no climb" -/
theorem C13_noclimb_of_no_dotdot (e : Env) (u : Url) (a : Str)
    (hdd : u.netloc ≠ [] → dotdot ∉ splitOn 47 u.path ∧ dotdot ∉ splitOn 47 (q e Gen.PATH_QUOTER a)) :
    u.netloc ≠ [] → 46 ∈ q e Gen.PATH_QUOTER a → DotMore.climbs 0 (childSegments e u a).tail = false := by
  intro hn _
  apply PathLemmas.climbs_false_of_no_dotdot
  intro h
  have h' : dotdot ∈ childSegments e u a := List.mem_of_mem_tail h
  rcases mem_root h' with h0 | h0
  · simp [dotdot] at h0
  · rcases List.mem_append.1 h0 with h1 | h1
    · exact (hdd hn).1 (mem_base h1)
    · exact (hdd hn).2 h1

/-- … and is strictly stronger: `URL("http://h/k") / "x/../y"` has a ".." segment but does not climb -/
theorem C13_noclimb_weaker_than_no_dotdot (e : Env) :
    let u := fromParts "http".toStr "h".toStr "/k".toStr [] []
    let a := "x/../y".toStr
    u.netloc ≠ [] ∧ 46 ∈ q e Gen.PATH_QUOTER a ∧ dotdot ∈ splitOn 47 (q e Gen.PATH_QUOTER a) ∧
    childSegments e u a = [[], "k".toStr, "x".toStr, "..".toStr, "y".toStr] ∧
    DotMore.climbs 0 (childSegments e u a).tail = false := by
  intro u a
  have q1 : q e Gen.PATH_QUOTER a = a := q_path_of_run e (fun b => by cases b <;> decide +kernel)
  unfold childSegments
  rw [q1]
  decide

/-- without an authority associativity ALWAYS holds (nothing is normalised) -/
theorem C13_joinpath_assoc_no_authority (e : Env) (u : Url) (a b : Str) (v1 v2 w : Url) (hn : u.netloc = []) :
    makeChild e u [a, b] false = .ok w → makeChild e u [a] false = .ok v1 →
    makeChild e v1 [b] false = .ok v2 → w = v2 :=
  C13_joinpath_assoc_nodots e u a b v1 v2 w (fun h => absurd hn h)

/-- with an authority and no '.' in the quoted FIRST argument it always holds (whatever `b` is) -/
theorem C13_joinpath_assoc_first_without_dot (e : Env) (u : Url) (a b : Str) (v1 v2 w : Url)
    (hd : 46 ∉ q e Gen.PATH_QUOTER a) :
    makeChild e u [a, b] false = .ok w → makeChild e u [a] false = .ok v1 →
    makeChild e v1 [b] false = .ok v2 → w = v2 :=
  C13_joinpath_assoc_nodots e u a b v1 v2 w (fun _ => hd)

namespace R4c

theorem fixRoot_unrooted (k : Str) (K : List Str) (hk : k ≠ []) (h47 : 47 ∉ k) :
    fixRoot (joinC 47 (k :: K)) = joinC 47 ([] :: k :: K) := by
  obtain ⟨c, k', rfl⟩ := List.exists_cons_of_ne_nil hk
  have hc : c ≠ 47 := fun h => h47 (h ▸ List.mem_cons_self)
  simp [joinC_cons, fixRoot, hc]

end R4c

namespace R4

/-- what the first step leaves when `hroot` fails, in terms of its stack `T` (the normalised segment list without a
    trailing empty segment): `T` is empty or starts with a non-empty segment, the first step's result has `T` (rooted)
    as its old segments, and the one-call form normalises `T ++ SB` -/
theorem first_step_stack (u : Url) (qa : Str) (SB T : List Str) (hn' : u.netloc.isEmpty = false)
    (hdot : 46 ∈ qa)
    (hnot : ¬ ∃ K', K' ≠ [] ∧ normalizePathSegments (root u.netloc (base u ++ splitOn 47 qa)) = [] :: K')
    (hSB0 : SB ≠ [])
    (hT : stripTrail (normalizePathSegments (root u.netloc (base u ++ splitOn 47 qa))) = T) :
    NoDots T ∧ Segs T ∧
    (childOf u (splitOn 47 qa) true).scheme = u.scheme ∧ (childOf u (splitOn 47 qa) true).netloc = u.netloc ∧
    ((T = [] ∧ base (childOf u (splitOn 47 qa) true) = []) ∨
      (∃ k P, T = k :: P ∧ k ≠ [] ∧ base (childOf u (splitOn 47 qa) true) = [] :: T)) ∧
    childOf u (stripTrail (splitOn 47 qa) ++ SB) true = fromParts u.scheme u.netloc
      (fixRoot (joinC 47 (normalizePathSegments (T ++ SB)))) [] [] := by
  subst hT
  obtain ⟨hTd, hN1s, hs1, hn1, hb, hW⟩ := joinpath_two_forms u qa SB hn' hdot hSB0
  refine ⟨hTd, segs_stripTrail hN1s, hs1, hn1, ?_, hW⟩
  -- the stack the first step leaves: empty, or starting with a non-empty segment
  have hN1ne := DotMore.normalizePathSegments_ne_nil _
    (root_ne_nil u.netloc (List.append_ne_nil_of_right_ne_nil (base u) (splitOn_ne_nil 47 qa)))
  obtain ⟨k, K, hkK⟩ := List.exists_cons_of_ne_nil hN1ne
  rw [hkK] at hb hnot ⊢
  by_cases hk : k = []
  · subst hk
    have hK : K = [] := Classical.byContradiction fun hK => hnot ⟨K, hK, rfl⟩
    subst hK
    exact Or.inl ⟨rfl, hb⟩
  · right
    obtain ⟨P, hP⟩ : ∃ P, stripTrail (k :: K) = k :: P := by
      cases K with
      | nil => exact ⟨[], by simp [stripTrail, hk]⟩
      | cons k2 K2 => exact ⟨_, stripTrail_cons _ _ (by simp)⟩
    refine ⟨k, P, hP, hk, ?_⟩
    rw [hb, List.head?_cons, if_neg (by simpa using hk), stripTrail_cons _ _ (by simp)]

/-- … and the second step then runs on `"" :: (T ++ SB)`, which does not continue with an empty segment: the two
    forms differ exactly by the root's empty segment under the stack -/
theorem second_step (u : Url) (qa : Str) (SB T : List Str) (hn' : u.netloc.isEmpty = false)
    (hdot : 46 ∈ qa)
    (hnot : ¬ ∃ K', K' ≠ [] ∧ normalizePathSegments (root u.netloc (base u ++ splitOn 47 qa)) = [] :: K')
    (hSBh : SB.head? ≠ some []) (hSB0 : SB ≠ [])
    (hT : stripTrail (normalizePathSegments (root u.netloc (base u ++ splitOn 47 qa))) = T) :
    root u.netloc (base (childOf u (splitOn 47 qa) true) ++ SB) = [] :: (T ++ SB) ∧
    (T ++ SB).head? ≠ some [] ∧
    childOf (childOf u (splitOn 47 qa) true) SB true = fromParts u.scheme u.netloc
      (fixRoot (joinC 47 (normalizePathSegments ([] :: (T ++ SB))))) [] [] := by
  obtain ⟨_, _, hs1, hn1, hT', _⟩ := first_step_stack u qa SB T hn' hdot hnot hSB0 hT
  obtain ⟨b0, SB', rfl⟩ := List.exists_cons_of_ne_nil hSB0
  have hb0 : b0 ≠ [] := by simpa using hSBh
  have hM2 : root u.netloc (base (childOf u (splitOn 47 qa) true) ++ b0 :: SB') = [] :: (T ++ b0 :: SB') ∧
      (T ++ b0 :: SB').head? ≠ some [] := by
    rcases hT' with ⟨hT0, hb⟩ | ⟨k, P, hP, hk, hb⟩
    · rw [hT0, hb]
      exact ⟨by simp [root, hn', hb0], by simpa using hb0⟩
    · rw [hb, List.cons_append, root_of_head, hP]
      exact ⟨rfl, by simpa using hk⟩
  refine ⟨hM2.1, hM2.2, ?_⟩
  rw [childOf_true _ _ (by rw [hn1]; exact hn'), hs1, hn1, hM2.1]

end R4

/-- the first failing family, in general: whenever the first step consumes the root and lands on the bare
    authority (`normalize_path_segments` of its segment list is `[""]`: a = "..", "../", "x/../.." on `http://h`,
    "../.." on `http://h/k`, …), `b = ".//x"` separates the two forms: the one-call form gives path "/x", the
    two-step form "//x".  No hypothesis on the old path. -/
theorem C13_joinpath_assoc_fails_when_root_consumed_strong (e : Env) (u : Url) (a : Str)
    (hn : u.netloc ≠ []) (hdot : 46 ∈ q e Gen.PATH_QUOTER a)
    (hN : normalizePathSegments (childSegments e u a) = [[]])
    (ha0 : a.head? ≠ some 47) :
    let v1 := fromParts u.scheme u.netloc [] [] []
    makeChild e u [a] false = .ok v1 ∧
    makeChild e u [a, ".//x".toStr] false = .ok (fromParts u.scheme u.netloc "/x".toStr [] []) ∧
    makeChild e v1 [".//x".toStr] false = .ok (fromParts u.scheme u.netloc "//x".toStr [] []) := by
  intro v1
  have hn' : u.netloc.isEmpty = false := by simpa using hn
  have q2 : q e Gen.PATH_QUOTER ".//x".toStr = ".//x".toStr :=
    q_path_of_run e (fun b => by cases b <;> decide +kernel)
  have hma : mem 46 (q e Gen.PATH_QUOTER a) = true := mem_iff.2 hdot
  have hSB : splitOn 47 ".//x".toStr = [[46], [], [120]] := by decide
  unfold childSegments at hN
  have hnot : ¬ ∃ K', K' ≠ [] ∧
      normalizePathSegments (root u.netloc (base u ++ splitOn 47 (q e Gen.PATH_QUOTER a))) = [] :: K' := by
    rintro ⟨K', hK, h⟩
    rw [hN] at h
    exact hK (List.cons.inj h).2.symm
  obtain ⟨_, _, _, _, _, hW⟩ := R4.first_step_stack u _ [[46], [], [120]] _ hn' hdot hnot (by simp) (by rw [hN])
  obtain ⟨_, _, hV⟩ := R4.second_step u _ [[46], [], [120]] _ hn' hdot hnot (by decide) (by simp) (by rw [hN])
  have hv : childOf u (splitOn 47 (q e Gen.PATH_QUOTER a)) true = v1 := by
    rw [childOf_true u _ hn', hN]
    rfl
  refine ⟨by rw [makeChild_one e u a ha0, hma, hv], ?_, ?_⟩
  · rw [makeChild_two e u a _ ha0 (by decide), q2, hSB, hma, Bool.or_true, hW]
    have : fixRoot (joinC 47 (normalizePathSegments (stripTrail [[]] ++ [[46], [], [120]]))) = "/x".toStr := by
      decide
    rw [this]
  · rw [makeChild_one e v1 _ (by decide), q2, hSB, show mem 46 ".//x".toStr = true by decide, ← hv, hV]
    have : fixRoot (joinC 47 (normalizePathSegments ([] :: (stripTrail [[]] ++ [[46], [], [120]])))) = "//x".toStr := by
      decide
    rw [this]

/-- the same for a given first result `v1`, as the paths of the two results -/
theorem C13_joinpath_assoc_fails_when_root_consumed (e : Env) (u : Url) (a : Str) (v1 : Url)
    (hn : u.netloc ≠ [])
    (hdot : 46 ∈ q e Gen.PATH_QUOTER a)
    (hN : normalizePathSegments (childSegments e u a) = [[]])      -- e.g. a = "..", "../", "x/../.." on http://h
    (h1 : makeChild e u [a] false = .ok v1) :
    v1 = fromParts u.scheme u.netloc [] [] [] ∧
    (makeChild e u [a, ".//x".toStr] false).map (·.path) = .ok "/x".toStr ∧
    (makeChild e v1 [".//x".toStr] false).map (·.path) = .ok "//x".toStr := by
  have ha0 : a.head? ≠ some 47 := makeChild_head e u a [] v1 h1
  obtain ⟨h1', h2, h3⟩ := C13_joinpath_assoc_fails_when_root_consumed_strong e u a hn hdot hN ha0
  rw [h1] at h1'
  cases h1'
  exact ⟨rfl, by rw [h2]; rfl, by rw [h3]; rfl⟩

/-- hence, under the hypotheses of that family, associativity is FALSE for `b = ".//x"` -/
theorem C13_joinpath_assoc_false_when_root_consumed (e : Env) (u : Url) (a : Str)
    (hn : u.netloc ≠ []) (hdot : 46 ∈ q e Gen.PATH_QUOTER a)
    (hN : normalizePathSegments (childSegments e u a) = [[]]) (ha0 : a.head? ≠ some 47) :
    ∃ b v1 v2 w, PyStr b ∧ NoSurrogate b ∧ makeChild e u [a, b] false = .ok w ∧
      makeChild e u [a] false = .ok v1 ∧ makeChild e v1 [b] false = .ok v2 ∧ w ≠ v2 := by
  obtain ⟨h1, h2, h3⟩ := C13_joinpath_assoc_fails_when_root_consumed_strong e u a hn hdot hN ha0
  refine ⟨".//x".toStr, _, _, _, by decide, by decide, h2, h1, h3, ?_⟩
  intro h
  have : "/x".toStr = "//x".toStr := congrArg Url.path h
  revert this
  decide

/-- the second argument that separates the two forms when the first step has LOST the root's empty segment and
    left `d` segments: `"../" * d + "/x"` (d = 1: "..//x") -/
def C13_climbArg (d : Nat) : Str := (List.replicate d [46, 46, 47]).flatten ++ [47, 120]

namespace R4c

theorem climbArg_succ (d : Nat) : C13_climbArg (d + 1) = [46, 46] ++ 47 :: C13_climbArg d := by
  simp [C13_climbArg, List.replicate_succ]

theorem climbArg_chars (d : Nat) : ∀ c ∈ C13_climbArg d, c = 46 ∨ c = 47 ∨ c = 120 := by
  intro c hc
  simp only [C13_climbArg, List.mem_append, List.mem_flatten, List.mem_replicate] at hc
  rcases hc with ⟨l, ⟨_, rfl⟩, hc⟩ | hc
  · simp at hc; rcases hc with rfl | rfl <;> simp
  · simp at hc; rcases hc with rfl | rfl <;> simp

theorem climbArg_pyStr (d : Nat) : PyStr (C13_climbArg d) := by
  intro c hc
  rcases climbArg_chars d c hc with rfl | rfl | rfl <;> decide

theorem climbArg_noSurr (d : Nat) : NoSurrogate (C13_climbArg d) := by
  intro c hc
  rcases climbArg_chars d c hc with rfl | rfl | rfl <;> decide

theorem climbArg_split (d : Nat) : splitOn 47 (C13_climbArg d) = List.replicate d dotdot ++ [[], [120]] := by
  induction d with
  | zero => decide
  | succ d ih =>
    rw [climbArg_succ, splitOn_append 47, ih, List.replicate_succ]
    rfl

theorem climbArg_q (e : Env) (d : Nat) : q e Gen.PATH_QUOTER (C13_climbArg d) = C13_climbArg d := by
  have hx : q e Gen.PATH_QUOTER [47, 120] = [47, 120] := q_path_of_run e (fun b => by cases b <;> decide +kernel)
  have hd : ∀ c ∈ (List.replicate d [46, 46, 47]).flatten, c = 46 ∨ c = 47 := by
    intro c hc
    simp only [List.mem_flatten, List.mem_replicate] at hc
    obtain ⟨l, ⟨_, rfl⟩, hc⟩ := hc
    simp at hc; rcases hc with rfl | rfl <;> simp
  have hp : PyStr (List.replicate d [46, 46, 47]).flatten := by
    intro c hc; rcases hd c hc with rfl | rfl <;> decide
  unfold C13_climbArg
  rw [q_path_append e _ _ hp (by decide), q_path_fixed e _ hd, hx]

theorem climbArg_mem46 (d : Nat) : mem 46 (C13_climbArg (d + 1)) = true := by
  rw [Yarl.mem_eq, climbArg_succ]; simp

theorem climbArg_head (d : Nat) : (C13_climbArg (d + 1)).head? ≠ some 47 := by
  rw [climbArg_succ]; simp

/-- `A.length` pops remove exactly `A` from the top of the stack -/
theorem normLoop_pops (n : Nat) : ∀ (acc Y : List Str),
    normLoop acc (List.replicate n dotdot ++ Y) = normLoop (acc.drop n) Y := by
  induction n with
  | zero => intro acc Y; simp
  | succ n ih =>
    intro acc Y
    rw [List.replicate_succ, List.cons_append, normLoop_cons, step_dotdot, ih]
    cases acc <;> simp

theorem trail_climb (d : Nat) : trail (List.replicate d dotdot ++ [[], [120]]) = [] := by
  rw [trail_append _ _ (by simp)]; decide

/-- a stack of `P` without dot segments, then `P.length` pops, then "", "x" -/
theorem norm_climb (P : List Str) (hP : NoDots P) :
    normalizePathSegments (P ++ (List.replicate P.length dotdot ++ [[], [120]])) = [[], [120]] := by
  rw [norm_append _ _ (by simp), normLoop_noDots [] P hP, trail_climb]
  have hd : P.reverse.drop P.length = [] := by simp
  simp only [List.reverse_nil, List.nil_append, List.append_nil]
  rw [normLoop_pops, hd]; decide

theorem norm_climb_rooted (P : List Str) (hP : NoDots P) :
    normalizePathSegments ([] :: P ++ (List.replicate P.length dotdot ++ [[], [120]])) = [[], [], [120]] := by
  have hP' : NoDots ([] :: P) := by
    intro x hx
    rcases List.mem_cons.1 hx with rfl | hx
    · exact ⟨by decide, by decide⟩
    · exact hP x hx
  rw [norm_append _ _ (by simp), normLoop_noDots [] _ hP', trail_climb]
  have hd : (P.reverse ++ [[]]).drop P.length = [[]] := by simp
  simp only [List.reverse_nil, List.nil_append, List.append_nil, List.reverse_cons]
  rw [normLoop_pops, hd]; decide

end R4c

/-- the OTHER failing family, in general: the first step climbs above the root and then adds segments, so
    that `normalize_path_segments` of its segment list starts with a NON-empty segment (a = "../../y" on
    `http://h/k` gives `["y"]`).  With `d` the number of segments left (a trailing empty one not counted) and
    `b = "../" * d + "/x"`, the one-call form gives path "/x", the two-step form "//x". -/
theorem C13_joinpath_assoc_fails_when_root_lost (e : Env) (u : Url) (a : Str) (k : Str) (K : List Str)
    (hn : u.netloc ≠ []) (hdot : 46 ∈ q e Gen.PATH_QUOTER a)
    (hN : normalizePathSegments (childSegments e u a) = k :: K) (hk : k ≠ [])
    (ha0 : a.head? ≠ some 47) :
    let v1 := fromParts u.scheme u.netloc (47 :: joinC 47 (k :: K)) [] []
    let b := C13_climbArg (stripTrail (k :: K)).length
    makeChild e u [a] false = .ok v1 ∧
    makeChild e u [a, b] false = .ok (fromParts u.scheme u.netloc "/x".toStr [] []) ∧
    makeChild e v1 [b] false = .ok (fromParts u.scheme u.netloc "//x".toStr [] []) := by
  intro v1 b
  have hn' : u.netloc.isEmpty = false := by simpa using hn
  have hma : mem 46 (q e Gen.PATH_QUOTER a) = true := mem_iff.2 hdot
  unfold childSegments at hN
  have hnot : ¬ ∃ K', K' ≠ [] ∧
      normalizePathSegments (root u.netloc (base u ++ splitOn 47 (q e Gen.PATH_QUOTER a))) = [] :: K' := by
    rintro ⟨K', _, h⟩
    rw [hN] at h
    exact hk (List.cons.inj h).1
  have hSB : splitOn 47 b
      = List.replicate (stripTrail (k :: K)).length dotdot ++ [[], [120]] := R4c.climbArg_split _
  -- the stack the first step leaves has at least one element
  obtain ⟨P', hP⟩ : ∃ P', stripTrail (k :: K) = k :: P' := by
    cases K with
    | nil => exact ⟨[], by simp [stripTrail, hk]⟩
    | cons k2 K2 => exact ⟨_, stripTrail_cons _ _ (by simp)⟩
  have hb : b = C13_climbArg (P'.length + 1) := by
    show C13_climbArg _ = _
    rw [hP]
    rfl
  have hb0 : b.head? ≠ some 47 := by rw [hb]; exact R4c.climbArg_head _
  have hqb : q e Gen.PATH_QUOTER b = b := R4c.climbArg_q e _
  have hmb : mem 46 b = true := by rw [hb]; exact R4c.climbArg_mem46 _
  obtain ⟨hTd, _, _, _, _, hW⟩ := R4.first_step_stack u _ (splitOn 47 b) _ hn' hdot hnot
    (splitOn_ne_nil _ _) (by rw [hN])
  obtain ⟨_, _, hV⟩ := R4.second_step u _ (splitOn 47 b) _ hn' hdot hnot
    (by rw [hSB, hP]; simp [List.replicate_succ, dotdot]) (splitOn_ne_nil _ _) (by rw [hN])
  have hKs : Segs (k :: K) :=
    hN ▸ normalizePathSegments_no_sep _ (segs_root _ (segs_append (segs_base u) (segs_splitOn _)))
  have hv : childOf u (splitOn 47 (q e Gen.PATH_QUOTER a)) true = v1 := by
    rw [childOf_true u _ hn', hN, R4c.fixRoot_unrooted k K hk (hKs k (by simp)),
      DotMore.joinC_root_cons _ (by simp)]
  refine ⟨by rw [makeChild_one e u a ha0, hma, hv], ?_, ?_⟩
  · rw [makeChild_two e u a _ ha0 hb0, hqb, hmb, Bool.true_or, hW, hSB, R4c.norm_climb _ hTd]
    rfl
  · rw [makeChild_one e v1 _ hb0, hqb, hmb, ← hv, hV, ← List.cons_append, hSB, R4c.norm_climb_rooted _ hTd]
    rfl

/-- the computed witness of that family: `URL("http://h/k").joinpath("../../y", "..//x")` is `http://h/x`,
    `(URL("http://h/k") / "../../y") / "..//x"` is `http://h//x`; there `hroot` fails (the normalised segment list
    is `["y"]`) and the first step climbs -/
theorem C13_joinpath_assoc_root_lost_counterexample (e : Env) :
    let u := fromParts "http".toStr "h".toStr "/k".toStr [] []
    let v1 := fromParts "http".toStr "h".toStr "/y".toStr [] []
    makeChild e u ["../../y".toStr, "..//x".toStr] false = .ok (fromParts "http".toStr "h".toStr "/x".toStr [] []) ∧
    makeChild e u ["../../y".toStr] false = .ok v1 ∧
    makeChild e v1 ["..//x".toStr] false = .ok (fromParts "http".toStr "h".toStr "//x".toStr [] []) ∧
    normalizePathSegments (childSegments e u "../../y".toStr) = ["y".toStr] ∧
    (¬ ∃ K', K' ≠ [] ∧ normalizePathSegments (childSegments e u "../../y".toStr) = [] :: K') ∧
    DotMore.climbs 0 (childSegments e u "../../y".toStr).tail = true ∧
    C13_climbArg 1 = "..//x".toStr := by
  intro u v1
  have q1 : q e Gen.PATH_QUOTER "../../y".toStr = "../../y".toStr :=
    q_path_of_run e (fun b => by cases b <;> decide +kernel)
  have q2 : q e Gen.PATH_QUOTER "..//x".toStr = "..//x".toStr :=
    q_path_of_run e (fun b => by cases b <;> decide +kernel)
  have hN : normalizePathSegments (childSegments e u "../../y".toStr) = ["y".toStr] := by
    unfold childSegments; rw [q1]; decide
  refine ⟨?_, ?_, ?_, hN, ?_, ?_, by decide⟩
  · rw [makeChild_two e u _ _ (by decide) (by decide), q1, q2]
    exact congrArg Except.ok (by decide)
  · rw [makeChild_one e u _ (by decide), q1]
    exact congrArg Except.ok (by decide)
  · rw [makeChild_one e v1 _ (by decide), q2]
    exact congrArg Except.ok (by decide)
  · rintro ⟨K', _, h⟩
    rw [hN] at h
    exact absurd (List.cons.inj h).1 (by decide)
  · unfold childSegments; rw [q1]; decide

/-- `hroot` is EXACT: for a fixed URL with an authority and a fixed first argument with a '.', associativity
    holds for every second argument if and only if the first step's normalised segment list keeps the root's
    empty segment in front of something (`hroot` of `C13_joinpath_assoc`) -/
theorem C13_joinpath_assoc_iff_hroot (e : Env) (u : Url) (a : Str)
    (hn : u.netloc ≠ []) (hdot : 46 ∈ q e Gen.PATH_QUOTER a) (ha0 : a.head? ≠ some 47) :
    (∀ b v1 v2 w, PyStr b → NoSurrogate b → makeChild e u [a, b] false = .ok w →
        makeChild e u [a] false = .ok v1 → makeChild e v1 [b] false = .ok v2 → w = v2) ↔
    ∃ K', K' ≠ [] ∧ normalizePathSegments (childSegments e u a) = [] :: K' := by
  constructor
  · intro hall
    obtain ⟨R, hR0, (hR : childSegments e u a = [] :: R)⟩ := childRoot_shape u _ hn hdot
    have hne : normalizePathSegments (childSegments e u a) ≠ [] :=
      DotMore.normalizePathSegments_ne_nil _ (by rw [hR]; simp)
    obtain ⟨k, K, hN⟩ := List.exists_cons_of_ne_nil hne
    have hpath : "/x".toStr ≠ "//x".toStr := by decide
    by_cases hk : k = []
    · subst hk
      by_cases hK : K = []
      · subst hK
        obtain ⟨h1, h2, h3⟩ := C13_joinpath_assoc_fails_when_root_consumed_strong e u a hn hdot hN ha0
        exact absurd (congrArg Url.path (hall _ _ _ _ (by decide) (by decide) h2 h1 h3)) hpath
      · exact ⟨K, hK, hN⟩
    · obtain ⟨h1, h2, h3⟩ := C13_joinpath_assoc_fails_when_root_lost e u a k K hn hdot hN hk ha0
      exact absurd (congrArg Url.path (hall _ _ _ _ (climbArg_pyStr _) (climbArg_noSurr _) h2 h1 h3)) hpath
  · intro hroot b v1 v2 w _ _
    exact C13_joinpath_assoc e u a b v1 v2 w (fun _ _ => hroot)

/-! ## name and parent parts of `u / s` when `_make_child` normalises the OLD path too -/

/-- a segment stack without the root's empty first segment -/
def C13_dropRootSeg (l : List Str) : List Str :=
  match l with
  | [] :: t => t
  | l => l

namespace R4c

/-- `fixRoot` on a joined segment list: the root's empty segment in front of the list without one -/
theorem fixRoot_joinC_drop (N : List Str) (hS : Segs N) :
    fixRoot (joinC 47 N) = joinC 47 ([] :: C13_dropRootSeg N) := by
  rw [fixRoot_joinC N hS]
  cases N with
  | nil => rfl
  | cons a K => cases a <;> rfl

theorem mem_dropRoot {L : List Str} {p : Str} (h : p ∈ C13_dropRootSeg L) : p ∈ L := by
  cases L with
  | nil => exact h
  | cons a K =>
    cases a with
    | nil => exact List.mem_cons_of_mem _ h
    | cons c a' => exact h

theorem dropRoot_snoc (A : List Str) (l : Str) (hl : l ≠ []) :
    C13_dropRootSeg (A ++ [l]) = C13_dropRootSeg A ++ [l] := by
  cases A with
  | nil =>
    cases l with
    | nil => exact absurd rfl hl
    | cons c l' => rfl
  | cons a A' =>
    cases a with
    | nil => rfl
    | cons c a' => rfl

/-- the parts of a URL whose path is the join of `"" :: T` (the empty path for `T = []`) -/
theorem rawParts_rootSegs (v : Url) (T : List Str) (hn : T = [] → v.netloc ≠ []) (hS : Segs T)
    (hp : v.path = joinC 47 ([] :: T)) : rawParts v = [47] :: T := by
  cases T with
  | nil => exact rawParts_empty_auth v (hn rfl) hp
  | cons t T' => exact rawParts_joinC_rooted v _ (by simp) hS hp

/-- a path `fixRoot ("/".join(N))` has the parts "/" followed by `N` without a leading empty segment -/
theorem parts_of_fixRoot (v : Url) (N : List Str) (hn : C13_dropRootSeg N = [] → v.netloc ≠ []) (hS : Segs N)
    (hp : v.path = fixRoot (joinC 47 N)) : rawParts v = [47] :: C13_dropRootSeg N :=
  rawParts_rootSegs v _ hn (fun p hp' => hS p (mem_dropRoot hp')) (hp.trans (fixRoot_joinC_drop N hS))

/-- the parts of a URL whose path is the re-rooted join of a stack `T` followed by a non-empty name -/
theorem parts_of_stack (v : Url) (T : List Str) (nm : Str) (hnm : nm ≠ []) (hS : Segs (T ++ [nm]))
    (hp : v.path = fixRoot (joinC 47 (T ++ [nm]))) : rawParts v = [47] :: (C13_dropRootSeg T ++ [nm]) := by
  rw [← dropRoot_snoc T nm hnm]
  refine parts_of_fixRoot v _ (fun h => ?_) hS hp
  rw [dropRoot_snoc T nm hnm] at h
  simp at h

/-- normalising a segment list that ends with a non-dot segment: the final stack, then that segment -/
theorem norm_snoc (X : List Str) (t : Str) (h1 : t ≠ dot) (h2 : t ≠ dotdot) :
    normalizePathSegments (X ++ [t]) = normLoop [] X ++ [t] := by
  have ht : trail [t] = [] := by
    have := trail_concat [] t
    rw [List.nil_append] at this
    rw [this]; simp [h1, h2]
  rw [norm_append _ _ (by simp), normLoop_single, ht]
  simp [step, h1, h2]

theorem segs_normLoop (X : List Str) (h : Segs X) : Segs (normLoop [] X) := by
  intro p hp
  rcases normLoop_mem [] X p hp with h' | ⟨h', _⟩
  · simp at h'
  · exact h p h'

end R4c

/-- the parts of `u / s` under an authority when nothing is normalised: "/", the old segments (root's empty segment
    dropped), the new segment -/
theorem rawParts_child_auth (u : Url) (Q : Str) (hn' : u.netloc.isEmpty = false) (hq47 : 47 ∉ Q) (hqne : Q ≠ []) :
    rawParts (childOf u [Q] false) = ([47] :: C13_dropRootSeg (root u.netloc (base u))) ++ [Q] := by
  by_cases hb : base u = []
  · rw [hb]
    have : root u.netloc ([] : List Str) = [] := by simp [root]
    rw [this]
    refine rawParts_joinC_rooted _ [Q] (by simp) (segs_single hq47) ?_
    rw [childOf_false, hb]
    simp [root, hn', hqne, fromParts]
  · obtain ⟨R, hR⟩ := root_head u.netloc (base u) hn' hb
    rw [hR]
    have hRs : Segs R := fun p hp => segs_root u.netloc (segs_base u) p (hR ▸ List.mem_cons_of_mem _ hp)
    refine rawParts_joinC_rooted _ (R ++ [Q]) (by simp) (segs_append hRs (segs_single hq47)) ?_
    rw [childOf_false, root_append _ _ _ hb, hR]; rfl

/-- the name half, with NO hypothesis on the old path (dot segments, rootless next to an authority — anything):
    `u / s` has raw name `quote(s)` -/
theorem C13_child_name_only (e : Env) (u : Url) (s : Str) (v : Url)
    (hs : PyStr s) (hsur : NoSurrogate s) (h47 : 47 ∉ s) (hne : s ≠ [])
    (hdot : q e Gen.PATH_QUOTER s ≠ dot ∧ q e Gen.PATH_QUOTER s ≠ dotdot) :
    makeChild e u [s] false = .ok v →
    rawName v = .ok (q e Gen.PATH_QUOTER s) ∧
    -- under an authority with a '.' in the quoted segment the old path is normalised: the parent parts are
    -- those of the NORMALISED old path (`normLoop [] X`: the final stack of `normalize_path_segments`, bottom first)
    (u.netloc ≠ [] → 46 ∈ q e Gen.PATH_QUOTER s →
      (rawParts v).dropLast = [47] :: C13_dropRootSeg (normLoop [] (root u.netloc (base u)))) := by
  intro h
  have hs0 : s.head? ≠ some 47 := fun hc => h47 (List.mem_of_head? hc)
  have hq47 := C13_path_quoter_no_slash e s hs h47
  have hqne := C13_path_quoter_nonempty e s hs hsur hne
  rw [makeChild_one e u s hs0, PathLemmas.splitOn_of_not_mem 47 _ hq47] at h
  by_cases hn : u.netloc = []
  · have hv : v = childOf u [q e Gen.PATH_QUOTER s] false := by
      cases h; simp [childOf, hn]
    subst hv
    have hp := childOf_single u _ hq47 (fun _ _ => hqne) (fun h' => absurd hn h')
    exact ⟨rawName_append _ _ _ hp (fun h' => absurd (by simpa [childOf, fromParts] using hn) h'),
      fun h' => absurd hn h'⟩
  · have hn' : u.netloc.isEmpty = false := by simpa using hn
    -- the segment list handed on: `Xr ++ [quote(s)]`, `Xr` rooted
    obtain ⟨Xr, hM, hXs, hXh, hXd⟩ : ∃ Xr, root u.netloc (base u ++ [q e Gen.PATH_QUOTER s]) = Xr ++ [q e Gen.PATH_QUOTER s] ∧
        Segs Xr ∧ (∃ R, Xr = [] :: R) ∧
        C13_dropRootSeg (normLoop [] Xr) = C13_dropRootSeg (normLoop [] (root u.netloc (base u))) := by
      by_cases hb : base u = []
      · refine ⟨[[]], ?_, by intro p hp; simp at hp; subst hp; simp, ⟨[], rfl⟩, ?_⟩
        · rw [hb]; simp [root, hn', hqne]
        · rw [hb]; simp [root]; decide
      · refine ⟨root u.netloc (base u), root_append _ _ _ hb, segs_root _ (segs_base u),
          root_head _ _ hn' hb, rfl⟩
    obtain ⟨R, hR⟩ := hXh
    have hvn : ∀ nn, (childOf u [q e Gen.PATH_QUOTER s] nn).netloc ≠ [] := by
      intro nn; rw [DotMore.childOf_netloc]; exact hn
    cases hm : mem 46 (q e Gen.PATH_QUOTER s) with
    | false =>
      rw [hm] at h; cases h
      refine ⟨rawName_append _ _ _ (rawParts_child_auth u _ hn' hq47 hqne) (fun _ => by simp), fun _ h46 => ?_⟩
      rw [Yarl.mem_eq] at hm
      simp at hm
      exact absurd h46 hm
    | true =>
      rw [hm] at h; cases h
      have hN := norm_snoc Xr (q e Gen.PATH_QUOTER s) hdot.1 hdot.2
      have hp : rawParts (childOf u [q e Gen.PATH_QUOTER s] true)
          = ([47] :: C13_dropRootSeg (normLoop [] Xr)) ++ [q e Gen.PATH_QUOTER s] := by
        refine parts_of_stack _ (normLoop [] Xr) _ hqne
          (segs_append (segs_normLoop Xr hXs) (segs_single hq47)) ?_
        rw [childOf_true u _ hn', hM, hN]; rfl
      refine ⟨rawName_append _ _ _ hp (fun _ => by simp), fun _ _ => ?_⟩
      rw [hp, List.dropLast_concat, hXd]

/-- name and parent parts of `u / s` for ANY old path.  The name is `quote(s)`.  The parent parts are the old
    parts without a trailing empty segment when nothing is normalised (no authority, or no '.' in `quote(s)`;
    then — and only then — a rootless path next to an authority must be excluded), and the parts of the
    NORMALISED old path when `_make_child` normalises (authority and a '.' in `quote(s)`, e.g. "c.txt"). -/
theorem C13_child_name_any_old_path (e : Env) (u : Url) (s : Str) (v : Url)
    (hs : PyStr s) (hsur : NoSurrogate s) (h47 : 47 ∉ s) (hne : s ≠ [])
    (hdot : q e Gen.PATH_QUOTER s ≠ dot ∧ q e Gen.PATH_QUOTER s ≠ dotdot) :
    makeChild e u [s] false = .ok v →
    rawName v = .ok (q e Gen.PATH_QUOTER s) ∧
    ((u.netloc = [] ∨ 46 ∉ q e Gen.PATH_QUOTER s) →
      (u.netloc ≠ [] → (u.path = [] ∨ u.path.head? = some 47)) →
      (rawParts v).dropLast = (let ps := rawParts u; if ps.getLast? = some [] then ps.dropLast else ps)) ∧
    (u.netloc ≠ [] → 46 ∈ q e Gen.PATH_QUOTER s →
      (rawParts v).dropLast = [47] :: C13_dropRootSeg (normLoop [] (root u.netloc (base u)))) := by
  intro h
  obtain ⟨h1, h3⟩ := C13_child_name_only e u s v hs hsur h47 hne hdot h
  refine ⟨h1, ?_, h3⟩
  intro hc hpath
  have hs0 : s.head? ≠ some 47 := makeChild_head e u s [] v h
  have hq47 := C13_path_quoter_no_slash e s hs h47
  have hqne := C13_path_quoter_nonempty e s hs hsur hne
  rw [makeChild_one e u s hs0, PathLemmas.splitOn_of_not_mem 47 _ hq47] at h
  have hv : v = childOf u [q e Gen.PATH_QUOTER s] false := by
    rcases hc with hn | hd
    · cases h; simp [childOf, hn]
    · have hm : mem 46 (q e Gen.PATH_QUOTER s) = false := by
        rw [Yarl.mem_eq]; simpa using hd
      rw [hm] at h; cases h; rfl
  subst hv
  rw [childOf_single u _ hq47 (fun _ _ => hqne) hpath]
  simp [stripTrail]

/-- when the old path has no dot segments the two descriptions of the parent parts agree (so
    `C13_headline_child_name` is the special case): the final stack of a dot-free rooted list is the list -/
theorem C13_child_parent_parts_agree (u : Url) (hn : u.netloc ≠ [])
    (hold : NoDots (splitOn 47 u.path)) (hpath : u.path = [] ∨ u.path.head? = some 47) :
    [47] :: C13_dropRootSeg (normLoop [] (root u.netloc (base u)))
      = (let ps := rawParts u; if ps.getLast? = some [] then ps.dropLast else ps) := by
  have hnd : NoDots (root u.netloc (base u)) := by
    intro x hx
    rcases mem_root hx with rfl | hx
    · exact ⟨by decide, by decide⟩
    · exact hold x (mem_base hx)
  rw [normLoop_noDots [] _ hnd]
  have hn' : u.netloc.isEmpty = false := by simpa using hn
  show _ = stripTrail (rawParts u)
  cases hpe : u.path with
  | nil =>
    have hb : base u = [] := by simp [base, hpe]
    rw [hb, rawParts_empty_auth u hn hpe]
    simp [root, stripTrail, C13_dropRootSeg]
  | cons c rest =>
    have hc : c = 47 := by
      rcases hpath with h | h
      · simp [hpe] at h
      · simpa [hpe] using h
    subst hc
    have hS := splitOn_ne_nil 47 rest
    have hr := rawParts_of_rooted u rest hpe
    have hb : base u = [] :: stripTrail (splitOn 47 rest) := by
      simp only [base, hpe, List.isEmpty_cons, Bool.false_eq_true, ↓reduceIte, splitOn]
      exact stripTrail_cons _ _ hS
    rw [hr, hb, root_of_head, stripTrail_cons _ _ hS]
    simp [C13_dropRootSeg]

/-- computed witnesses: `URL("http://h/a/../b", encoded=True) / "c.txt"` has parts ("/", "b", "c.txt") and name
    "c.txt", whereas `/ "c"` (nothing normalised) has parts ("/", "a", "..", "b", "c"); a climbing old path
    `http://h/a/../..` gives ("/", "c.txt"), and `http://h/..//z` gives ("/", "z", "c.txt") -/
theorem C13_child_name_dotted_old_path_instances : ∀ b : Backend,
    let e : Env := ⟨b, Oracles.empty⟩
    let u := fromParts "http".toStr "h".toStr "/a/../b".toStr [] []
    let parts := fun (r : R Url) => (r.map rawParts).toOption
    parts (makeChild e u ["c.txt".toStr] false) = some ["/".toStr, "b".toStr, "c.txt".toStr] ∧
    ((makeChild e u ["c.txt".toStr] false).bind rawName).toOption = some "c.txt".toStr ∧
    [47] :: C13_dropRootSeg (normLoop [] (root u.netloc (base u))) = ["/".toStr, "b".toStr] ∧
    parts (makeChild e u ["c".toStr] false)
      = some ["/".toStr, "a".toStr, "..".toStr, "b".toStr, "c".toStr] ∧
    parts (makeChild e (fromParts "http".toStr "h".toStr "/a/../..".toStr [] []) ["c.txt".toStr] false)
      = some ["/".toStr, "c.txt".toStr] ∧
    parts (makeChild e (fromParts "http".toStr "h".toStr "/..//z".toStr [] []) ["c.txt".toStr] false)
      = some ["/".toStr, "z".toStr, "c.txt".toStr] ∧
    (q e Gen.PATH_QUOTER "c.txt".toStr ≠ dot ∧ q e Gen.PATH_QUOTER "c.txt".toStr ≠ dotdot ∧
      46 ∈ q e Gen.PATH_QUOTER "c.txt".toStr) := by
  str_lits; intro b; cases b <;> decide +kernel

/-! ## `u / o` against `u.joinpath(o)` at the level of Python dispatch -/

/-- "u / s equals u.joinpath(s)" for an ARBITRARY Python object: for a `str` (or an instance of a plain `str`
    subclass) both are `_make_child((s,))` — equal as values and as errors; for anything else `/` raises TypeError
    (`__truediv__` returns NotImplemented) while `joinpath`, which has no type check, raises whatever the loop of
    `_make_child` raises on that object (`childArgErr false o`, table: `C19_dyn_childArgErr_table`) -/
theorem C13_truediv_eq_joinpath_dyn (e : Env) (u : Url) (o : PyObj) :
    (∀ s, Dyn.strLike o = some s →
      dynTruediv e u o = dynJoinpath e u [o] false ∧ dynTruediv e u o = makeChild e u [s] false) ∧
    (Dyn.strLike o = none →
      dynTruediv e u o = .error .typeError ∧ dynJoinpath e u [o] false = .error (childArgErr false o)) := by
  constructor
  · intro s hs
    have h1 : dynTruediv e u o = makeChild e u [s] false := by simp [dynTruediv, hs]
    have h2 : dynJoinpath e u [o] false = makeChild e u [s] false :=
      C19_dyn_joinpath_strs e u [o] [s] false (by simp [hs])
    exact ⟨h1.trans h2.symm, h1⟩
  · intro hs
    refine ⟨by simp [dynTruediv, hs], ?_⟩
    have := C19_dyn_joinpath_nonstr e u [o] false [] o (by simp [childScan, hs])
    simpa using this

/-- hence: both ALWAYS agree on a str argument; on a non-str argument both raise, and raise the SAME exception
    exactly when the `_make_child` loop raises TypeError on the object -/
theorem C13_truediv_joinpath_dyn_agree_iff (e : Env) (u : Url) (o : PyObj) :
    dynTruediv e u o = dynJoinpath e u [o] false ↔
      (Dyn.strLike o ≠ none ∨ childArgErr false o = .typeError) := by
  obtain ⟨h1, h2⟩ := C13_truediv_eq_joinpath_dyn e u o
  cases hs : Dyn.strLike o with
  | some s => simp [(h1 s hs).1]
  | none =>
    obtain ⟨ha, hb⟩ := h2 hs
    rw [ha, hb]
    constructor
    · intro h; right; cases h' : childArgErr false o <;> simp_all
    · rintro (h | h)
      · exact absurd rfl h
      · rw [h]

/-- the counterexample: `URL("http://h") / ["/"]` raises TypeError, `URL("http://h").joinpath(["/"])` raises
    ValueError ("Appending path '/' starting from slash is forbidden": `["/"][0] == "/"`) — for every URL -/
theorem C13_truediv_joinpath_dyn_differ (e : Env) (u : Url) :
    let o := PyObj.list [.str [47]]
    Dyn.strLike o = none ∧ dynTruediv e u o = .error .typeError ∧
    dynJoinpath e u [o] false = .error .valueError ∧ childArgErr false o = .valueError := by
  intro o
  have hc : childArgErr false o = .valueError := by decide
  obtain ⟨ha, hb⟩ := (C13_truediv_eq_joinpath_dyn e u o).2 rfl
  exact ⟨rfl, ha, by rw [hb, hc], hc⟩

/-- … and where they agree on a non-str: `None`, an int, bytes, a URL, `object()`, an empty list — TypeError both -/
theorem C13_truediv_joinpath_dyn_same_typeError (e : Env) (u : Url) (o : PyObj)
    (ho : o = .none ∨ (∃ i, o = .int i) ∨ (∃ b, o = .bytes b) ∨ (∃ w, o = .url w) ∨ (∃ t, o = .other t) ∨
      o = .list []) :
    dynTruediv e u o = .error .typeError ∧ dynJoinpath e u [o] false = .error .typeError := by
  have ht := C19_dyn_childArgErr_table false
  simp only at ht
  obtain ⟨t1, _, t3, _, t5, t6, t7, _, t9, _⟩ := ht
  have hs : Dyn.strLike o = none := by
    rcases ho with rfl | ⟨i, rfl⟩ | ⟨b, rfl⟩ | ⟨w, rfl⟩ | ⟨t, rfl⟩ | rfl <;> rfl
  obtain ⟨ha, hb⟩ := (C13_truediv_eq_joinpath_dyn e u o).2 hs
  refine ⟨ha, ?_⟩
  rw [hb]
  rcases ho with rfl | ⟨i, rfl⟩ | ⟨b, rfl⟩ | ⟨w, rfl⟩ | ⟨t, rfl⟩ | rfl
  · rw [t1]
  · rw [t3]
  · rw [t5]
  · rw [t6]
  · rw [t7]
  · rw [t9]; rfl

/-! ## non-vacuity of the associativity statements -/

/-- the hypotheses of the root-consumed family hold for a = "..", "../", "x/../.." on `http://h` and for "../.." on
    `http://h/k`, on both backends -/
example : ∀ b : Backend,
    let e : Env := ⟨b, Oracles.empty⟩
    let u := fromParts "http".toStr "h".toStr [] [] []
    let uk := fromParts "http".toStr "h".toStr "/k".toStr [] []
    (46 ∈ q e Gen.PATH_QUOTER "..".toStr ∧ normalizePathSegments (childSegments e u "..".toStr) = [[]]) ∧
    (46 ∈ q e Gen.PATH_QUOTER "../".toStr ∧ normalizePathSegments (childSegments e u "../".toStr) = [[]]) ∧
    (46 ∈ q e Gen.PATH_QUOTER "x/../..".toStr ∧
      normalizePathSegments (childSegments e u "x/../..".toStr) = [[]]) ∧
    (46 ∈ q e Gen.PATH_QUOTER "../..".toStr ∧ normalizePathSegments (childSegments e uk "../..".toStr) = [[]]) := by
  str_lits; intro b; cases b <;> decide +kernel

/-- `hc` of `C13_joinpath_assoc_noclimb` holds although a ".." occurs: `http://h/k` joined with "x/../y" then "z" -/
example : ∀ b : Backend,
    let e : Env := ⟨b, Oracles.empty⟩
    let u := fromParts "http".toStr "h".toStr "/k".toStr [] []
    DotMore.climbs 0 (childSegments e u "x/../y".toStr).tail = false ∧
    makeChild e u ["x/../y".toStr, "z".toStr] false = .ok (fromParts "http".toStr "h".toStr "/k/y/z".toStr [] []) ∧
    makeChild e u ["x/../y".toStr] false = .ok (fromParts "http".toStr "h".toStr "/k/y".toStr [] []) ∧
    makeChild e (fromParts "http".toStr "h".toStr "/k/y".toStr [] []) ["z".toStr] false
      = .ok (fromParts "http".toStr "h".toStr "/k/y/z".toStr [] []) := by
  str_lits; intro b; cases b <;> decide +kernel

/-- the root-lost family with two segments left: `http://h/k` with a = "../../y/z" needs b = "../..//x" -/
example : ∀ b : Backend,
    let e : Env := ⟨b, Oracles.empty⟩
    let u := fromParts "http".toStr "h".toStr "/k".toStr [] []
    normalizePathSegments (childSegments e u "../../y/z".toStr) = ["y".toStr, "z".toStr] ∧
    C13_climbArg 2 = "../..//x".toStr ∧
    makeChild e u ["../../y/z".toStr, "../..//x".toStr] false
      = .ok (fromParts "http".toStr "h".toStr "/x".toStr [] []) ∧
    makeChild e (fromParts "http".toStr "h".toStr "/y/z".toStr [] []) ["../..//x".toStr] false
      = .ok (fromParts "http".toStr "h".toStr "//x".toStr [] []) := by
  str_lits; intro b; cases b <;> decide +kernel


/-! ## the same exactness at the level of VALUES, with ONE separating argument for both failing families

`C13_joinpath_assoc_iff_hroot` above quantifies over successful results; here the two calls are compared as values of
`R Url` (so a `b` starting with '/' — ValueError on both sides — is included), and the separating argument is the
single family `b = "./" + "../" * n + "/x"` (`C13_sepArg n`), `n` = number of segments the first step leaves. -/

/-- the separating second argument: "./" ++ "../" * n ++ "/x" -/
def C13_sepArg (n : Nat) : Str := [46, 47] ++ (List.replicate n [46, 46, 47]).flatten ++ [47, 120]

namespace R4

theorem sepArg_eq (n : Nat) : C13_sepArg n = [46] ++ 47 :: C13_climbArg n := by
  simp [C13_sepArg, C13_climbArg]

theorem sepArg_pyStr (n : Nat) : PyStr (C13_sepArg n) := by
  rw [sepArg_eq]
  exact pyStr_append (by decide) (pyStr_append (x := [47]) (by decide) (climbArg_pyStr n))

theorem q_sepArg (e : Env) (n : Nat) : q e Gen.PATH_QUOTER (C13_sepArg n) = C13_sepArg n := by
  have h2 : ([46] ++ 47 :: C13_climbArg n : Str) = [46, 47] ++ C13_climbArg n := rfl
  rw [sepArg_eq, h2, q_path_append e _ _ (by decide) (climbArg_pyStr n), q_path_fixed e [46, 47] (by decide),
    climbArg_q]

theorem splitOn_sepArg (n : Nat) :
    splitOn 47 (C13_sepArg n) = dot :: (List.replicate n dotdot ++ [[], [120]]) := by
  rw [sepArg_eq, splitOn_append 47, climbArg_split]
  rfl

theorem mem46_sepArg (n : Nat) : mem 46 (C13_sepArg n) = true := by
  rw [mem_eq]; simp [C13_sepArg]

/-- normalising `T ++ (segments of sepArg |T|)` on top of a stack bottom `B` (B = [] or [[]]) -/
theorem norm_sep (B T : List Str) (hB : NoDots B) (hT : NoDots T) :
    normalizePathSegments (B ++ T ++ (dot :: (List.replicate T.length dotdot ++ [[], [120]])))
      = B ++ [[], [120]] := by
  rw [norm_append _ _ (by simp), normLoop_noDots [] _ (noDots_append hB hT)]
  have htr : trail (dot :: (List.replicate T.length dotdot ++ [[], [120]])) = [] := by
    have : dot :: (List.replicate T.length dotdot ++ [[], [120]])
        = (dot :: (List.replicate T.length dotdot ++ [[]])) ++ [[120]] := by simp
    rw [this, trail_concat]
    simp [dot, dotdot]
  rw [htr, normLoop_cons, step_dot, normLoop_pops]
  simp only [List.reverse_append, List.reverse_reverse, List.append_nil]
  have hdrop : (T.reverse ++ B.reverse).drop T.length = B.reverse := by
    rw [List.drop_append_of_le_length (by simp)]
    simp
  rw [hdrop]
  have h2 : NoDots ([[], [120]] : List Str) := by unfold NoDots; decide
  rw [normLoop_noDots _ _ h2]
  simp

/-- the two segment-level computations behind `C13_joinpath_assoc_hroot_necessary` -/
theorem sep_aux (u : Url) (qa : Str) (SA N1 : List Str) (n : Nat) (hn' : u.netloc.isEmpty = false)
    (hdot : 46 ∈ qa) (hSA : SA = splitOn 47 qa)
    (hN1 : N1 = normalizePathSegments (root u.netloc (base u ++ SA)))
    (hnot : ¬ ∃ K', K' ≠ [] ∧ N1 = [] :: K') (hnl : n = (stripTrail N1).length) :
    (childOf u (stripTrail SA ++ splitOn 47 (C13_sepArg n)) true).path = "/x".toStr ∧
    (childOf (childOf u SA true) (splitOn 47 (C13_sepArg n)) true).path = "//x".toStr := by
  subst hSA hN1
  obtain ⟨hTd, _, _, _, _, hW⟩ := first_step_stack u qa (splitOn 47 (C13_sepArg n)) _ hn' hdot hnot
    (splitOn_ne_nil _ _) rfl
  obtain ⟨_, _, hV⟩ := second_step u qa (splitOn 47 (C13_sepArg n)) _ hn' hdot hnot
    (by rw [splitOn_sepArg]; simp [dot]) (splitOn_ne_nil _ _) rfl
  constructor
  · rw [hW, splitOn_sepArg, hnl]
    have h := norm_sep [] _ (by unfold NoDots; simp) hTd
    simp only [List.nil_append] at h
    rw [h]
    rfl
  · rw [hV, splitOn_sepArg, hnl]
    have h := norm_sep [[]] _ (by unfold NoDots; simp [dot, dotdot]) hTd
    simp only [List.cons_append, List.nil_append] at h
    rw [h]
    rfl

end R4

/-- NECESSITY of `hroot` (the guard of `C13_joinpath_assoc`): under an authority, when the first step normalises
    (a '.' in the quoted `a`) and does NOT leave "the root's empty segment followed by something", there IS a second
    argument that separates the two forms — `b = "./" + "../" * n + "/x"` with `n` the number of segments the first step
    leaves (without a trailing empty one): the one-call form gives the path "/x", the two-step form "//x". -/
theorem C13_joinpath_assoc_hroot_necessary (e : Env) (u : Url) (a : Str) (v1 : Url)
    (hn : u.netloc ≠ []) (ha0 : a.head? ≠ some 47)
    (hdot : 46 ∈ q e Gen.PATH_QUOTER a)
    (hnot : ¬ ∃ K', K' ≠ [] ∧ normalizePathSegments (childSegments e u a) = [] :: K')
    (h1 : makeChild e u [a] false = .ok v1) :
    let n := (stripTrail (normalizePathSegments (childSegments e u a))).length
    (makeChild e u [a, C13_sepArg n] false).map (·.path) = .ok "/x".toStr ∧
    (makeChild e v1 [C13_sepArg n] false).map (·.path) = .ok "//x".toStr := by
  intro n
  have hn' : u.netloc.isEmpty = false := by simpa using hn
  have hma : mem 46 (q e Gen.PATH_QUOTER a) = true := mem_iff.2 hdot
  have hb0 : (C13_sepArg n).head? ≠ some 47 := by simp [C13_sepArg]
  rw [makeChild_one e u a ha0, hma] at h1
  cases h1
  obtain ⟨h1, h2⟩ := R4.sep_aux u (q e Gen.PATH_QUOTER a) _ _ n hn' hdot rfl rfl hnot rfl
  constructor
  · rw [makeChild_two e u a _ ha0 hb0, R4.q_sepArg, R4.mem46_sepArg, Bool.true_or]
    simp only [Except.map, h1]
  · rw [makeChild_one e _ _ hb0, R4.q_sepArg, R4.mem46_sepArg]
    simp only [Except.map, h2]

/-- THE IFF for `u.joinpath(a, b) = (u / a) / b` as a condition on `u`, `a` alone: under an authority, with a '.' in the
    quoted `a` (otherwise the two forms always agree: `C13_joinpath_assoc_nodots`), the two forms agree FOR EVERY `b`
    (as values, the ValueError for a `b` starting with '/' included) if and only if normalising the first step leaves
    the root's empty segment at the bottom followed by at least one more segment (`hroot` of `C13_joinpath_assoc`). -/
theorem C13_joinpath_assoc_iff (e : Env) (u : Url) (a : Str) (v1 : Url)
    (hn : u.netloc ≠ []) (hdot : 46 ∈ q e Gen.PATH_QUOTER a)
    (h1 : makeChild e u [a] false = .ok v1) :
    (∀ b, makeChild e u [a, b] false = makeChild e v1 [b] false) ↔
      ∃ K', K' ≠ [] ∧ normalizePathSegments (childSegments e u a) = [] :: K' := by
  have ha0 : a.head? ≠ some 47 := makeChild_head e u a [] v1 h1
  constructor
  · intro hall
    apply Classical.byContradiction
    intro hnot
    obtain ⟨h2, h3⟩ := C13_joinpath_assoc_hroot_necessary e u a v1 hn ha0 hdot hnot h1
    rw [hall, h3] at h2
    have := Except.ok.inj h2
    revert this
    decide
  · intro hroot b
    by_cases hb0 : b.head? = some 47
    · rw [makeChild_err e u [a, b] false ⟨b, by simp, hb0⟩, makeChild_err e v1 [b] false ⟨b, by simp, hb0⟩]
    · have hw := makeChild_two e u a b ha0 hb0
      have h2 := makeChild_one e v1 b hb0
      rw [hw, h2]
      exact congrArg Except.ok (C13_joinpath_assoc e u a b v1 _ _ (fun _ _ => hroot) hw h1 h2)

/-! ### non-vacuity of `C13_joinpath_assoc_iff` / `C13_joinpath_assoc_hroot_necessary` -/
section nonvacuity
private def eN : Env := { b := .py, o := Oracles.empty }
private def uH : Url := fromParts "http".toStr "h".toStr [] [] []
private def uK : Url := fromParts "http".toStr "h".toStr "/k".toStr [] []

example : C13_sepArg 0 = ".//x".toStr ∧ C13_sepArg 2 = "./../..//x".toStr := by decide
-- the guard HOLDS: http://h/k, a = "x/../y" (a ".." that stays below the root) — the two forms agree for every b
example : ∃ K', K' ≠ [] ∧ normalizePathSegments (childSegments eN uK "x/../y".toStr) = [] :: K' :=
  ⟨["k".toStr, "y".toStr], by decide, by decide +kernel⟩
example : 46 ∈ q eN Gen.PATH_QUOTER "x/../y".toStr := by
  str_lits; decide +kernel
-- the guard FAILS: http://h, a = ".." (first step lands on the bare authority, n = 0, b = ".//x") …
example : normalizePathSegments (childSegments eN uH "..".toStr) = [[]] := by
  simp only [uH]; str_lits; decide +kernel
example : (makeChild eN uH ["..".toStr, C13_sepArg 0] false).map (·.path) = .ok "/x".toStr ∧
    ((makeChild eN uH ["..".toStr] false).bind (fun v => makeChild eN v [C13_sepArg 0] false)).map (·.path)
      = .ok "//x".toStr := by
  simp only [uH]; str_lits; decide +kernel
-- … and http://h/k, a = "../../y" (the first step leaves ["y"], no root segment, n = 1, b = "./..//x"):
-- Python: URL("http://h/k").joinpath("../../y", "./..//x") == URL("http://h/x"),
--         (URL("http://h/k") / "../../y") / "./..//x" == URL("http://h//x")
example : normalizePathSegments (childSegments eN uK "../../y".toStr) = ["y".toStr] := by
  simp only [uK]; str_lits; decide +kernel
example : (makeChild eN uK ["../../y".toStr, C13_sepArg 1] false).map (·.path) = .ok "/x".toStr ∧
    ((makeChild eN uK ["../../y".toStr] false).bind (fun v => makeChild eN v [C13_sepArg 1] false)).map (·.path)
      = .ok "//x".toStr := by
  simp only [uK]; str_lits; decide +kernel
end nonvacuity

end Yarl
