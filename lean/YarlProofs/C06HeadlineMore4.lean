import YarlProofs.C06Headline
import YarlProofs.C06HeadlineMore
import YarlProofs.C06HeadlineMore3
import YarlProofs.C06More3
/-!
  C06HeadlineMore4.lean — AUDIT LAYER for property C06, fourth file (after C06Headline.lean, C06HeadlineMore.lean and
  C06HeadlineMore3.lean): headline theorems for the proof module added after the last refresh, C06More3.lean.  This file
  is a leaf, nobody imports it.  The GAPS block of C06Headline.lean cites the theorems of this file.

  C06 | Decoded views are faithful and supplied values read back unchanged |
  "Each decoded accessor (user, password, path, path_safe, parts, name, suffix, query, query_string, fragment) equals
  the UTF-8 percent-decoding of the corresponding raw component, with malformed or undecodable escapes kept verbatim,
  '+' meaning space only in queries, and path_safe keeping %2F and %25. Any text supplied as a decoded value through
  build(), with_user, with_password, with_path, with_name, with_fragment, with_query, / or joinpath reads back
  unchanged from the matching accessor (lone surrogates, and dot segments under an authority, excepted)."

  What is here (numbers = GAPS items of C06Headline.lean):
    * GAPS 6 ("Remains open: with_suffix (not in the property's list)"): the text supplied to `with_suffix(x)` read back
      at the DECODED level, for ANY old URL on which the call succeeds and every accepted `x` without lone surrogates —
      through `name` (always: old decoded name without the old decoded suffix, then `x`), through `suffix` (closed form;
      `v.suffix == x` IF AND ONLY IF `x` is "." + a non-empty dot-free text, or "" on a stem without suffix), through
      `suffixes` (under "no escaped '.' in the raw stem" — needed), idempotence, and exactly when the call succeeds;
      with the failing cases as theorems (".tar.gz", ".a.", "" on "a.tar.gz", an escaped dot "%2E" in the old name);
    * GAPS 12: the hypotheses `HostTextOK` / `hwrap` of the `build(authority=A)` theorems are DECIDABLE — a Bool check on
      the text `A` alone, oracle-free — and the read-back theorems restated with Bool-checkable hypotheses only.

  Vocabulary added by C06More3.lean.
  `PathMore.sfx n` / `PathMore.sfxs n` (C13More.lean) = the library's `suffix` / `suffixes` as functions of a name (the
  text from the LAST '.', unless that '.' is the first or last character; the dotted pieces after the leading dots,
  none for a name ending in '.'); `rawSuffix_eq` / `rawSuffixes_eq` tie them to the raw accessors.
  `HumanReach.stem n` = `n` without `sfx n` (`n[: len(n) - len(suffix)]`).  `dn.take (dn.length - ds.length)` with
  `dn = u.name`, `ds = u.suffix` = "the rest of the decoded name": `u.name[: len(u.name) - len(u.suffix)]`.
  `R12a.NoEscapedDot e s` = decoding the dot-free pieces of the raw text `s` creates no '.' (no "%2E" in `s`).
  `R12a.dotted x` = the dotted pieces of `x` (`sfxs` of a dot-free stem followed by `x`; none when `x` ends in '.').
  `R12a.urlH p` = the record `URL("http://h" + p, encoded=True)`.
  `R12a.hostTextOkB h` = the Bool form of `HostTextOK h`; `R12a.authHost A` / `authUser A` / `authPassword A` /
  `authPortText A` / `authPort A` = host text, user, password, port text and (for an ASCII port text) port of the
  authority text `A`, computed WITHOUT oracle the way `split_netloc` cuts it; `R12a.authWrapB A` = a host text without
  ':' is not written in brackets; `R12a.authOkB A` = `hostTextOkB (authHost A) && authWrapB A`.
-/
namespace Yarl
open R12a PathMore HumanReach PathAlg PathLemmas NetShape NetlocLemmas

/-! ## Sentence 2 — "Any text supplied as a decoded value … reads back unchanged from the matching accessor":
    `with_suffix` (GAPS 6; not in the property's list of modifiers) -/

/-- GAPS 6, `with_suffix(x)` read back through `name` and `parts`: for EVERY old URL on which the call succeeds, with
    `dn = u.name`, `ds = u.suffix`: `dn` ends with `ds`, the new `name` is `dn` without `ds` followed by `x` UNCHANGED,
    all other decoded parts, scheme and authority are kept, query / fragment kept or dropped as the flags say.  `ds` is
    the decoding of the RAW suffix (for the raw name "a%2Eb": "", not ".b" —
    `C06_headline_with_suffix_escaped_dot_examples`).  Cites C06_with_suffix_name_readback (C06More3.lean). -/
theorem C06_headline_with_suffix_name_readback (e : Env) (u : Url) (x : Str) (kq kf : Bool) (v : Url)
    (hx : PyStr x)                                   -- model artefact: `x` is a Python string
    (hsur : NoSurrogate x)                           -- "lone surrogates … excepted"
    (h : withSuffix e u x kq kf = .ok v) :           -- the call succeeds (exactly when: `…_with_suffix_total`)
    ∃ dn ds, name e u = .ok dn ∧ suffix e u = .ok ds ∧
      dn = dn.take (dn.length - ds.length) ++ ds ∧
      name e v = .ok (dn.take (dn.length - ds.length) ++ x) ∧
      (partsDecoded e v).dropLast = (partsDecoded e u).dropLast ∧
      partsDecoded e v = (partsDecoded e u).dropLast ++ [dn.take (dn.length - ds.length) ++ x] ∧
      v.scheme = u.scheme ∧ v.netloc = u.netloc ∧
      v.query = (if kq then u.query else []) ∧ v.fragment = (if kf then u.fragment else []) ∧
      queryString e v = (if kq then queryString e u else []) ∧
      fragmentDecoded e v = (if kf then fragmentDecoded e u else []) :=
  C06_with_suffix_name_readback e u x kq kf v hx hsur h

/-- GAPS 6, `with_suffix(x)` read back through `suffix`, CLOSED FORM: for `x ≠ ""` the new `suffix` is the suffix
    function of the new decoded name — explicitly the last dotted piece of `x`, "" when `x` ends in '.' — whatever the
    old name; for `x == ""` it is the decoding of the RAW suffix of the RAW stem, which is the suffix of the decoded
    stem when the raw stem has no escaped '.' (true when the decoded stem has no '.' at all, or the raw name is the
    canonical quoting of a text without lone surrogates).  Cites C06_with_suffix_suffix_closed_form. -/
theorem C06_headline_with_suffix_suffix_closed_form (e : Env) (u : Url) (x : Str) (kq kf : Bool) (v : Url)
    (hx : PyStr x) (hsur : NoSurrogate x)            -- a Python string without lone surrogates
    (h : withSuffix e u x kq kf = .ok v) :           -- the call succeeds
    ∃ n dn ds, rawName u = .ok n ∧ name e u = .ok dn ∧ suffix e u = .ok ds ∧
      dn.take (dn.length - ds.length) = uq e Gen.UNQUOTER (stem n) ∧ dn.take (dn.length - ds.length) ≠ [] ∧
      name e v = .ok (dn.take (dn.length - ds.length) ++ x) ∧
      (x ≠ [] → suffix e v = .ok (sfx (dn.take (dn.length - ds.length) ++ x))) ∧
      (∀ a t, x = a ++ 46 :: t → 46 ∉ t → suffix e v = .ok (if t = [] then [] else 46 :: t)) ∧
      (x = [] → suffix e v = .ok (uq e Gen.UNQUOTER (sfx (stem n)))) ∧
      (NoEscapedDot e (stem n) → suffix e v = .ok (sfx (dn.take (dn.length - ds.length) ++ x))) ∧
      (46 ∉ dn.take (dn.length - ds.length) → NoEscapedDot e (stem n)) ∧
      ((∃ d, PyStr d ∧ NoSurrogate d ∧ n = q e Gen.PATH_QUOTER d) → NoEscapedDot e (stem n)) :=
  C06_with_suffix_suffix_closed_form e u x kq kf v hx hsur h

/-- GAPS 6, "reads back unchanged from the matching accessor" for `with_suffix` / `suffix`, EXACTLY:
    `u.with_suffix(x).suffix == x` IF AND ONLY IF `x` is "." followed by a NON-EMPTY DOT-FREE text, or `x` is "" and the
    old raw stem has no suffix of its own.  Cites C06_with_suffix_suffix_readback_iff. -/
theorem C06_headline_with_suffix_suffix_readback_iff (e : Env) (u : Url) (x : Str) (kq kf : Bool) (v : Url)
    (hx : PyStr x) (hsur : NoSurrogate x)            -- a Python string without lone surrogates
    (h : withSuffix e u x kq kf = .ok v) :           -- the call succeeds
    ∃ n dn ds, rawName u = .ok n ∧ name e u = .ok dn ∧ suffix e u = .ok ds ∧
      (suffix e v = .ok x ↔ ((∃ y, x = 46 :: y ∧ y ≠ [] ∧ 46 ∉ y) ∨ (x = [] ∧ sfx (stem n) = []))) ∧
      (NoEscapedDot e (stem n) → (sfx (stem n) = [] ↔ sfx (dn.take (dn.length - ds.length)) = [])) :=
  C06_with_suffix_suffix_readback_iff e u x kq kf v hx hsur h

/-- "reads back unchanged" through `suffix` is FALSE outside that form: `URL("http://h/a.b").with_suffix(".tar.gz")`
    has suffix ".gz"; `.with_suffix(".a.")` has suffix ""; `URL("http://h/a.tar.gz").with_suffix("")` has suffix
    ".tar".  (`with_suffix` is not in the property's list; not in KNOWN_FINDINGS.jsonl.)
    Cites C06_with_suffix_suffix_readback_counterexamples. -/
theorem C06_headline_with_suffix_suffix_readback_fails_for : ∀ b : Backend,
    let e : Env := ⟨b, Oracles.empty⟩
    (withSuffix e (urlH "/a.b") ".tar.gz".toStr false false = .ok (urlH "/a.tar.gz") ∧
      suffix e (urlH "/a.tar.gz") = .ok ".gz".toStr) ∧
    (withSuffix e (urlH "/a.b") ".a.".toStr false false = .ok (urlH "/a.a.") ∧ suffix e (urlH "/a.a.") = .ok []) ∧
    (withSuffix e (urlH "/a.tar.gz") [] false false = .ok (urlH "/a.tar") ∧
      suffix e (urlH "/a.tar") = .ok ".tar".toStr) :=
  C06_with_suffix_suffix_readback_counterexamples

/-- GAPS 6, `with_suffix(x)` read back through `suffixes`: when the raw stem has no escaped '.', the new `suffixes` is
    the suffixes function of the new decoded name, for every accepted `x`; when the decoded stem has no '.' at all and
    `x ≠ ""` it is simply the dotted pieces of `x`.  Cites C06_with_suffix_suffixes_readback. -/
theorem C06_headline_with_suffix_suffixes_readback (e : Env) (u : Url) (x : Str) (kq kf : Bool) (v : Url)
    (hx : PyStr x) (hsur : NoSurrogate x)            -- a Python string without lone surrogates
    (h : withSuffix e u x kq kf = .ok v) :           -- the call succeeds
    ∃ n dn ds, rawName u = .ok n ∧ name e u = .ok dn ∧ suffix e u = .ok ds ∧
      dn.take (dn.length - ds.length) = uq e Gen.UNQUOTER (stem n) ∧
      -- side condition "no escaped '.' in the raw stem": NEEDED, next theorem
      (NoEscapedDot e (stem n) → suffixes e v = .ok (sfxs (dn.take (dn.length - ds.length) ++ x))) ∧
      (46 ∉ dn.take (dn.length - ds.length) → x ≠ [] → suffixes e v = .ok (dotted x)) ∧
      (46 ∉ dn.take (dn.length - ds.length) → NoEscapedDot e (stem n)) ∧
      ((∃ d, PyStr d ∧ NoSurrogate d ∧ n = q e Gen.PATH_QUOTER d) → NoEscapedDot e (stem n)) :=
  C06_with_suffix_suffixes_readback e u x kq kf v hx hsur h

/-- the side condition cannot be dropped: `URL("http://h/a%2Eb.c", encoded=True).with_suffix(".d")` is
    "http://h/a%2Eb.d" with `suffixes == (".d",)`, while the suffixes function on the decoded stem "a.b" + ".d" gives
    (".b", ".d").  Cites C06_with_suffix_suffixes_escaped_dot_counterexample. -/
theorem C06_headline_with_suffix_suffixes_fails_for_escaped_dot : ∀ b : Backend,
    let e : Env := ⟨b, Oracles.empty⟩
    withSuffix e (urlH "/a%2Eb.c") ".d".toStr false false = .ok (urlH "/a%2Eb.d") ∧
    suffixes e (urlH "/a%2Eb.d") = .ok [".d".toStr] ∧
    sfxs ("a.b".toStr ++ ".d".toStr) = [".b".toStr, ".d".toStr] ∧ ¬ NoEscapedDot e (stem "a%2Eb.c".toStr) :=
  C06_with_suffix_suffixes_escaped_dot_counterexample

/-- the subtlety behind the side condition, computed on both backends: an old raw name with an ESCAPED dot.
    `URL("http://h/a%2Eb", encoded=True)` has `name == "a.b"` but `suffix == ""` (the raw name has no raw suffix);
    `.with_suffix(".c")` is "http://h/a%2Eb.c" with name "a.b.c", suffix ".c", suffixes (".c",) although the suffixes
    function on "a.b.c" gives (".b", ".c").  And on `URL("http://h/a%2Eb.c", encoded=True)`: `.with_suffix("")` has
    suffix "" while the suffix of the decoded stem "a.b" is ".b"; `URL("http://h/%2E.a", encoded=True).with_suffix("")`
    succeeds with decoded name ".".  Cites C06_with_suffix_escaped_dot_example,
    C06_with_suffix_empty_escaped_dot_example. -/
theorem C06_headline_with_suffix_escaped_dot_examples : ∀ b : Backend,
    let e : Env := ⟨b, Oracles.empty⟩
    (name e (urlH "/a%2Eb") = .ok "a.b".toStr ∧ suffix e (urlH "/a%2Eb") = .ok [] ∧ sfx "a.b".toStr = ".b".toStr ∧
      withSuffix e (urlH "/a%2Eb") ".c".toStr false false = .ok (urlH "/a%2Eb.c") ∧
      name e (urlH "/a%2Eb.c") = .ok "a.b.c".toStr ∧ suffix e (urlH "/a%2Eb.c") = .ok ".c".toStr ∧
      suffixes e (urlH "/a%2Eb.c") = .ok [".c".toStr] ∧
      sfxs "a.b.c".toStr = [".b".toStr, ".c".toStr] ∧ ¬ NoEscapedDot e (stem "a%2Eb".toStr)) ∧
    (withSuffix e (urlH "/a%2Eb.c") [] false false = .ok (urlH "/a%2Eb") ∧ suffix e (urlH "/a%2Eb") = .ok [] ∧
      sfx ("a.b".toStr ++ []) = ".b".toStr) ∧
    (withSuffix e (urlH "/%2E.a") [] false false = .ok (urlH "/%2E") ∧ name e (urlH "/%2E") = .ok dot) :=
  fun b => ⟨C06_with_suffix_escaped_dot_example b,
    ⟨(C06_with_suffix_empty_escaped_dot_example b).1.2.2.1, (C06_with_suffix_empty_escaped_dot_example b).1.2.2.2.1,
     (C06_with_suffix_empty_escaped_dot_example b).1.2.2.2.2⟩,
    (C06_with_suffix_empty_escaped_dot_example b).2.2⟩

/-- GAPS 6, idempotence at the decoded level: for `x = "." + y`, `y` non-empty and dot-free, the second
    `with_suffix(x)` succeeds and changes nothing but — by its own keep flags — dropping query and fragment; `suffix`
    reads back `x` after either call; with both keep flags on the result IS the same URL.
    Cites C06_with_suffix_idempotent. -/
theorem C06_headline_with_suffix_idempotent (e : Env) (u : Url) (x : Str) (kq kf : Bool) (v : Url)
    (hx : PyStr x) (hsur : NoSurrogate x)            -- a Python string without lone surrogates
    (h : withSuffix e u x kq kf = .ok v)             -- the first call succeeds
    (y : Str) (hxy : x = 46 :: y) (hy0 : y ≠ []) (hdot : 46 ∉ y)      -- `x` is "." + a non-empty dot-free text
    (kq2 kf2 : Bool) :                               -- the keep flags of the second call
    ∃ w, withSuffix e v x kq2 kf2 = .ok w ∧
      w.scheme = v.scheme ∧ w.netloc = v.netloc ∧ w.path = v.path ∧
      w.query = (if kq2 then v.query else []) ∧ w.fragment = (if kf2 then v.fragment else []) ∧
      name e w = name e v ∧ partsDecoded e w = partsDecoded e v ∧
      suffix e v = .ok x ∧ suffix e w = .ok x ∧ suffixes e w = suffixes e v ∧
      (kq2 = true → kf2 = true → w = v) :=
  C06_with_suffix_idempotent e u x kq kf v hx hsur h y hxy hy0 hdot kq2 kf2

/-- idempotence is FALSE outside that form: `URL("http://h/a").with_suffix(".tar.gz")` twice is
    "http://h/a.tar.tar.gz"; `URL("http://h/a.tar.gz").with_suffix("")` twice is "http://h/a"; `.with_suffix(".b.")`
    twice on "http://h/a" is "http://h/a.b..b.".  Cites C06_with_suffix_not_idempotent_examples. -/
theorem C06_headline_with_suffix_idempotent_fails_for : ∀ b : Backend,
    let e : Env := ⟨b, Oracles.empty⟩
    (withSuffix e (urlH "/a") ".tar.gz".toStr false false = .ok (urlH "/a.tar.gz") ∧
      withSuffix e (urlH "/a.tar.gz") ".tar.gz".toStr false false = .ok (urlH "/a.tar.tar.gz")) ∧
    (withSuffix e (urlH "/a.tar.gz") [] false false = .ok (urlH "/a.tar") ∧
      withSuffix e (urlH "/a.tar") [] false false = .ok (urlH "/a")) ∧
    (withSuffix e (urlH "/a") ".b.".toStr false false = .ok (urlH "/a.b.") ∧
      withSuffix e (urlH "/a.b.") ".b.".toStr false false = .ok (urlH "/a.b..b.")) :=
  C06_with_suffix_not_idempotent_examples

/-- GAPS 6, when the call succeeds at all: for an ACCEPTED `x` ("" or "." + a non-empty text, no '/', no lone
    surrogate) on a URL with a non-empty raw name, `with_suffix(x)` succeeds unless `x == ""` and the raw stem is "."
    or ".." — the raw names ".", "..", "..t", "...t" (`t` non-empty, dot-free) — where it raises ValueError.
    Cites C06_with_suffix_total. -/
theorem C06_headline_with_suffix_total (e : Env) (u : Url) (x : Str) (kq kf : Bool) (n : Str)
    (hn : rawName u = .ok n) (hne : n ≠ [])                     -- the old raw name is not empty
    (hx : PyStr x) (hsur : NoSurrogate x)                       -- a Python string without lone surrogates
    (hacc : x = [] ∨ ∃ y, x = 46 :: y ∧ y ≠ [])                 -- "" or starts with '.', not "." itself
    (h47 : 47 ∉ x) :                                            -- no '/'
    ((∃ v, withSuffix e u x kq kf = .ok v) ↔ ¬ (x = [] ∧ (stem n = dot ∨ stem n = dotdot))) ∧
    ((x = [] ∧ (stem n = dot ∨ stem n = dotdot)) → withSuffix e u x kq kf = .error .valueError) ∧
    (stem n = dot ↔ n = dot ∨ ∃ t, t ≠ [] ∧ 46 ∉ t ∧ n = 46 :: 46 :: t) ∧
    (stem n = dotdot ↔ n = dotdot ∨ ∃ t, t ≠ [] ∧ 46 ∉ t ∧ n = 46 :: 46 :: 46 :: t) :=
  C06_with_suffix_total e u x kq kf n hn hne hx hsur hacc h47

/-- the four name shapes on which `with_suffix("")` raises, computed: `URL("http://h/..a", encoded=True)` (new name
    "."), `…/...a` (".."), `…/.`, `…/..`; a non-empty suffix is accepted there (`…/..` + ".x" is "http://h/...x").
    Cites C06_with_suffix_total_examples. -/
theorem C06_headline_with_suffix_total_examples : ∀ b : Backend,
    let e : Env := ⟨b, Oracles.empty⟩
    withSuffix e (urlH "/..a") [] false false = .error .valueError ∧
    withSuffix e (urlH "/...a") [] false false = .error .valueError ∧
    withSuffix e (urlH "/.") [] false false = .error .valueError ∧
    withSuffix e (urlH "/..") [] false false = .error .valueError ∧
    withSuffix e (urlH "/..") ".x".toStr false false = .ok (urlH "/...x") ∧
    stem "..a".toStr = dot ∧ stem "...a".toStr = dotdot :=
  C06_with_suffix_total_examples

/-! ## Sentence 2 — `build(authority=A)`: the hypotheses on `A` as a Bool check on the text (GAPS 12) -/

/-- GAPS 12 ("carry `HostTextOK h0` and the bracket condition `hwrap` as hypotheses"): both are DECIDABLE from the
    text.  `HostTextOK h0` IS the Bool `hostTextOkB h0`; the bracket condition IS `authWrapB A`; and for every `A`
    that `split_netloc` accepts (any oracle) the single check `authOkB A` is exactly the conjunction of the two
    hypotheses of the `build(authority=)` theorems.  Cites C06_hostTextOK_decidable. -/
theorem C06_headline_hostTextOK_decidable (h0 A : Str) :
    (hostTextOkB h0 = true ↔ HostTextOK h0) ∧
    (authWrapB A = true ↔ (58 ∉ authHost A → 91 ∉ (rpartition 64 A).2.2)) ∧
    (∀ o np, splitNetloc o A = .ok np →
      (authOkB A = true ↔ ∃ h0, np.host = some h0 ∧ HostTextOK h0 ∧ (58 ∉ h0 → 91 ∉ (rpartition 64 A).2.2))) :=
  C06_hostTextOK_decidable h0 A

/-- GAPS 12 / GAPS 3, `build(authority=A)` (encoded=False) with ONLY Bool-checkable hypotheses on `A`: `A` is a Python
    string and `authOkB A`.  Then `split_netloc(A)` HAS succeeded, its host / user / password are the oracle-free
    `authHost A` / `authUser A` / `authPassword A` (its port `authPort A` when the port text is ASCII), and all
    conclusions of `C06_headline_build_authority_readback` hold: raw_user / raw_password are QUOTER of the userinfo
    texts, `user` / `password` read them back verbatim (lone surrogates dropped), raw_host, explicit_port, port.
    Cites C06_build_authority_readback_checked. -/
theorem C06_headline_build_authority_readback_checked (e : Env) (a : BuildArgs) (v : Url)
    (h : build e a = .ok v)                          -- the call succeeds
    (henc : a.encoded = false)                       -- auto-encoding mode
    (hpy : PyStr a.authority)                        -- model artefact (decidable)
    (hok : authOkB a.authority = true) :             -- THE CHECK on the text: supported ASCII host text, brackets
                                                     -- only around an IPv6 literal (`by decide` for a concrete `A`)
    ∃ np sc r, splitNetloc e.o a.authority = .ok np ∧
      np.host = some (authHost a.authority) ∧ np.user = authUser a.authority ∧
      np.password = authPassword a.authority ∧
      (isAscii (authPortText a.authority) = true → np.port = authPort a.authority) ∧
      lowerAny e a.scheme = .ok sc ∧ v.scheme = sc ∧ encodeHost e.o (authHost a.authority) false = .ok r ∧ r ≠ [] ∧
      rawUser e v = .ok ((np.user.map (q e Gen.QUOTER)).bind orNone) ∧
      rawPassword e v = .ok (np.password.map (q e Gen.QUOTER)) ∧
      user e v = .ok ((np.user.map stripSurr).bind orNone) ∧
      password e v = .ok (np.password.map stripSurr) ∧
      ((∀ s, np.user = some s → NoSurrogate s) → user e v = .ok np.user) ∧
      ((∀ s, np.password = some s → NoSurrogate s) → password e v = .ok np.password) ∧
      rawHost e v = .ok (some (unbracket r)) ∧
      explicitPort e v = .ok (strPort sc np.port) ∧
      port e v = .ok (np.port.orElse fun _ => defaultPort sc) :=
  C06_build_authority_readback_checked e a v h henc hpy hok

/-- GAPS 12 / GAPS 3, the host of `build(authority=A)` under the same check, `h0 = authHost A` computed from the text:
    (i) a name → `raw_host` is `h0` lower-cased (and `host`, under the IDNA oracle hypothesis of GAPS 10); (ii) an IPv4
    literal → unchanged; (iii) an IPv6 literal [+ zone] → canonical text without brackets.
    Cites C06_build_authority_host_readback_checked. -/
theorem C06_headline_build_authority_host_readback_checked (e : Env) (a : BuildArgs) (v : Url)
    (h : build e a = .ok v)                          -- the call succeeds
    (henc : a.encoded = false)                       -- auto-encoding mode
    (hpy : PyStr a.authority)                        -- model artefact (decidable)
    (hok : authOkB a.authority = true) :             -- THE CHECK on the text
    let h0 := authHost a.authority
    ((parseIP (partition 37 h0).1 = none ∨ (58 ∉ h0 ∧ ∀ l, h0.getLast? = some l → isDigitC l = false)) →
      rawHost e v = .ok (some (lower h0)) ∧
      -- ORACLE HYPOTHESIS (GAPS 10): the IDNA decoder maps the lower-cased name to itself, where it is consulted
      ((((∀ l, (lower h0).getLast? = some l → isDigitC l = false) ∨ hasSub [120, 110, 45, 45] (lower h0) = true) →
          e.o.idnaDec (lower h0) = some (some (lower h0))) →
        host e v = .ok (some (lower h0)))) ∧
    (∀ o4, parseIPv4 h0 = some o4 → rawHost e v = .ok (some h0) ∧ host e v = .ok (some h0)) ∧
    (∀ h8, parseIPv6 (partition 37 h0).1 = some h8 →
      rawHost e v = .ok (some (ipv6ToStr h8 ++ (if (partition 37 h0).2.1 then [37] ++ (partition 37 h0).2.2 else []))) ∧
      host e v = .ok (some (ipv6ToStr h8 ++ (if (partition 37 h0).2.1 then [37] ++ (partition 37 h0).2.2 else [])))) :=
  C06_build_authority_host_readback_checked e a v h henc hpy hok

/-! ## non-vacuity -/
section checks
private def e4 : Env := { b := .py, o := Oracles.empty }
private def uT4 : Url := fromParts "http".toStr "h".toStr "/d/b%20c.tar.gz".toStr "k=v".toStr "f".toStr
private def xT4 : Str := [46, 116, 32, 233]      -- ".t é"

/-- the `with_suffix` theorems: accepted argument with a space and a non-ASCII character, a successful call on a URL
    with directory, multi-suffix name, query and fragment -/
example : PyStr xT4 ∧ NoSurrogate xT4 ∧ xT4 = 46 :: [116, 32, 233] ∧ 46 ∉ [116, 32, 233] ∧
    withSuffix e4 uT4 xT4 true false
      = .ok (fromParts "http".toStr "h".toStr "/d/b%20c.tar.t%20%C3%A9".toStr "k=v".toStr []) := by
  unfold uT4; str_lits
  exact ⟨by decide +kernel, by decide +kernel, by decide +kernel, by decide +kernel, by decide +kernel⟩

/-- `C06_headline_build_authority_readback_checked`: the hypotheses on the text hold for
    "us er:p%40w@Host-1.Example:8042" and for an IPv6 literal with zone; they FAIL for an IPvFuture literal, a name in
    brackets and an authority without host -/
example : PyStr "us er:p%40w@Host-1.Example:8042".toStr ∧ authOkB "us er:p%40w@Host-1.Example:8042".toStr = true ∧
    authOkB "[FE80::1%Eth0]:8443".toStr = true ∧ authOkB "[v1.x]".toStr = false ∧
    authOkB "[example.com]".toStr = false ∧ authOkB "user@:80".toStr = false := by
  str_lits; decide +kernel
end checks

end Yarl
