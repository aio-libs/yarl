import YarlProofs.C10Headline
import YarlProofs.C10Dyn
import YarlProofs.C10Order
import YarlProofs.C10ReachE
/-!
  C10HeadlineMore3.lean — AUDIT LAYER for property C10, continuation of C10Headline.lean (the theorems here need
  C10Dyn.lean / YarlModel/Dyn.lean, C10Order.lean and C10ReachE.lean / ReachE.lean, which C10Headline.lean does not
  import; this file is a leaf, nobody imports it).

  C10 | Equality, hashing and ordering are coherent |
  "Two URLs are equal exactly when their scheme, authority, path (an empty path under an authority counting as '/'),
  query and fragment are equal; equal URLs have equal hashes, and equality is reflexive, symmetric, transitive and never
  holds against non-URL objects. The ordering operators form a total preorder consistent with equality: for any two URLs
  exactly one of a < b, a == b, a > b holds."

  What is here:
   * GAPS 1 of C10Headline.lean ("never holds against non-URL objects": was NOT MODELLED) — the OPERATORS `==`, `!=`,
     `<`, `<=`, `>`, `>=` and `hash()` with an ARBITRARY Python object on the right, MODEL-LEVEL: YarlModel/Dyn.lean is a
     Lean transcription of `if type(other) is not URL: return NotImplemented` + the interpreter's fallback (reflected
     method, then identity for `==` / `!=`, TypeError for the ordering operators) over the object universe `PyObj`; it is
     tied to CPython / the library ONLY by the run-time probe table (the `example` rows at the end of C10Dyn.lean, compared
     with the real library on every run), not by proof.  (C10Dyn.lean)
   * GAPS 4 / 5 (the identities `t1 <= t2 ↔ t1 < t2 ∨ t1 = t2`, `>` / `>=` as converses for Python tuples of str were
     ASSUMED; string order not tied to anything) — an INDEPENDENT specification of Python's sequence comparison
     (`PySpec.seqCmp`, written from the language reference §6.10.1), all four ordering operators transcribed separately,
     the model's `Url.lt` / `le` / `gt` / `ge` proved equal to them on the `_sort_key` tuples, the identities proved for
     tuples of any length, `ltStr` proved to be the specification's `<` on code-point sequences.  (C10Order.lean)
   * the order laws of sentence 2 that C10Headline.lean did not state (`==` implies `<=` and `>=`, `<=` reflexive, `>` /
     `>=` in iff form, mixed transitivity).  (C10Order.lean)
   * GAPS 2 (equality is on the STORED strings) across the two constructor modes, one witness over `ReachE`, the
     closure of ALL entry points incl. `encoded=True`.  (C10ReachE.lean — which records that there is NOTHING TO LIFT:
     every C10 law is about arbitrary `Url` records without hypothesis, hence holds of every reachable URL.)

  Vocabulary (YarlModel/Dyn.lean; `eqKey`, `beq`, `lt`, `le`, `gt`, `ge`, `ltParts`, `ltStr`: C10Headline.lean).
  `PyObj`            — the Python objects the dynamic layer distinguishes: `.none`, `.bool`, `.int`, `.float`, `.str`,
                       `.strSub` (instance of a plain str subclass), `.bytes`, `.tuple`, `.list`, `.dict`, `.url u`,
                       `.splitResult` (urllib's 5-field namedtuple), `.other tag` (`object()`-like: a class that
                       overrides no comparison / hash method).  ASSUMPTION of Dyn.lean: `.other` and `.strSub` objects
                       do not override the REFLECTED comparison methods (an object like `unittest.mock.ANY`, whose
                       `__eq__` answers True to everything, compares equal to a URL — it has no tag in `PyObj`).
  `dynEq u o`, `dynNe u o` : Bool — `u == o`, `u != o` as the interpreter evaluates them (`URL.__eq__`, reflected
                       `__eq__`, identity).  `dynLt` / `dynLe` / `dynGt` / `dynGe u o : R Bool` = `dynCmp 0/1/2/3 u o` —
                       `u < o` … (`.error .typeError` when both methods answer NotImplemented).
  `keyTuple u`       — the Python tuple `(scheme, netloc, path or "/", query, fragment)` as a `PyObj`;
  `dynHash hf o`     — `hash(o)` for an arbitrary hash function `hf` on objects (`.error .typeError` = unhashable);
  `dynHashEq hf u o` — `hash(u) == hash(o)`; `hashable o` — `hash(o)` does not raise.
  `PySpec.seqCmp elem op xs ys` — Python's rich comparison of two sequences (first unequal pair decides, else the
                       lengths); `PySpec.pyStrCmp op s t` = on str (code points), `pyTupleLt` / `pyTupleLe` / `pyTupleGt` /
                       `pyTupleGe x y` = `<`, `<=`, `>`, `>=` on tuples of str; `sortKey u` = `URL._sort_key` as the list
                       of the five strings of `eqKey u`; `keyList p` = the five strings of a `Parts`.
  `ReachE e u`       — `u` is obtainable through the public entry points, `encoded=True` included (ReachE.lean).
-/
namespace Yarl
open Yarl.Dyn

/-! ## Sentence 1c — "equality is reflexive, symmetric, transitive and never holds against non-URL objects" — the
    operators with an arbitrary object on the right (GAPS 1; MODEL-LEVEL: Dyn.lean) -/

/-- "never holds against non-URL objects": for EVERY object `o` of `PyObj` that is not a URL — str, str subclass, tuple,
    SplitResult, None, numbers, bytes, containers, `object()` — `u == o` is False and `u != o` is True.
    Cites C10_eq_non_url. -/
theorem C10_headline_never_equal_to_non_url (u : Url) (o : PyObj)
    (h : ∀ v, o ≠ .url v) :                              -- `o` is not a URL object
    dynEq u o = false ∧ dynNe u o = true :=
  C10_eq_non_url u o h

/-- sentence 1a and "never holds against non-URL objects" in one: `u == o` holds EXACTLY when `o` is a URL whose key
    tuple equals `u`'s (component by component: C10_headline_equal_iff_components); and `!=` is the negation of `==`
    for every object.  Cites C10_eq_iff_url, C10_ne_eq_not. -/
theorem C10_headline_equal_iff_url_with_equal_key (u : Url) (o : PyObj) :
    (dynEq u o = true ↔ ∃ v, o = .url v ∧ u.beq v = true) ∧ dynNe u o = !dynEq u o :=
  ⟨C10_eq_iff_url u o, C10_ne_eq_not u o⟩

/-- the instances the property has in mind: a URL is not equal to its own text `str(u)`, to any other string or str
    subclass instance, to its key 5-tuple, to the 5-tuple / SplitResult of its stored parts, to None, nor to a tuple /
    list / dict that contains the URL itself.  Cites C10_eq_non_url_instances. -/
theorem C10_headline_never_equal_instances (e : Env) (u : Url) :
    (∀ s, str e u = .ok s → dynEq u (.str s) = false ∧ dynNe u (.str s) = true) ∧
    (∀ s, dynEq u (.str s) = false ∧ dynEq u (.strSub s) = false) ∧
    dynEq u (keyTuple u) = false ∧
    dynEq u (.tuple [.str u.scheme, .str u.netloc, .str u.path, .str u.query, .str u.fragment]) = false ∧
    dynEq u (.splitResult [u.scheme, u.netloc, u.path, u.query, u.fragment]) = false ∧
    dynEq u .none = false ∧ dynEq u (.tuple [.url u]) = false ∧ dynEq u (.list [.url u]) = false ∧
    dynEq u (.dict [(.url u, .url u)]) = false :=
  C10_eq_non_url_instances e u

/-- "equality is reflexive, symmetric, transitive", for the OPERATOR `==` over all objects: the three laws on URL
    operands, and `==` can hold only against a URL.  Cites C10_dyn_equality_is_equivalence. -/
theorem C10_headline_operator_equality_is_equivalence :
    (∀ u : Url, dynEq u (.url u) = true) ∧
    (∀ u v : Url, dynEq u (.url v) = true → dynEq v (.url u) = true) ∧
    (∀ u v w : Url, dynEq u (.url v) = true → dynEq v (.url w) = true → dynEq u (.url w) = true) ∧
    (∀ (u : Url) (o : PyObj), dynEq u o = true → ∃ v, o = .url v) :=
  C10_dyn_equality_is_equivalence

/-- on two URLs the six operators ARE the typed relations of C10Headline.lean (so every theorem there is a theorem about
    `==`, `!=`, `<`, `<=`, `>`, `>=`), and the reflected methods — which the interpreter never consults for two URLs —
    would give the same answers (`op` = 0, 1, 2, 3 for `<`, `<=`, `>`, `>=`).
    Cites C10_dyn_agrees_on_urls, C10_dyn_reflected_consistent. -/
theorem C10_headline_operators_are_model_relations (u v : Url) :
    (dynEq u (.url v) = u.beq v ∧ dynNe u (.url v) = !u.beq v ∧
     dynLt u (.url v) = .ok (u.lt v) ∧ dynLe u (.url v) = .ok (u.le v) ∧
     dynGt u (.url v) = .ok (u.gt v) ∧ dynGe u (.url v) = .ok (u.ge v)) ∧
    reflEq (.url v) u = urlEqMethod u (.url v) ∧
    (∀ op, op ≤ 3 → reflCmp op (.url v) u = urlCmpMethod op u (.url v)) :=
  ⟨C10_dyn_agrees_on_urls u v, (C10_dyn_reflected_consistent u v).1, (C10_dyn_reflected_consistent u v).2⟩

/-! ## Sentence 1b — "equal URLs have equal hashes" — `hash()` as the interpreter evaluates it (MODEL-LEVEL) -/

/-- `hash(u)` never raises and is `hf` of the key 5-tuple, for an ARBITRARY object hash `hf`; and "equal URLs have equal
    hashes" for the operators: whatever object `o` is, `u == o` implies that `hash(u) == hash(o)` evaluates to True.
    Cites C10_dyn_hash_total, C10_dyn_hash_coherent. -/
theorem C10_headline_operator_equal_implies_equal_hash (hf : PyObj → Int) (u : Url) (o : PyObj) :
    dynHash hf (.url u) = .ok (hf (keyTuple u)) ∧
    (dynEq u o = true → dynHashEq hf u o = .ok true) :=
  ⟨C10_dyn_hash_total hf u, C10_dyn_hash_coherent hf u o⟩

/-- the CONVERSE of "equal URLs have equal hashes" is FALSE over all objects, as it may be: `hash(u)` IS the hash of the
    key 5-tuple, an object that is not equal to `u`; and `hash(u) == hash(o)` can raise only "unhashable type"
    (TypeError), only because of `o`.  Cites C10_dyn_hash_collides_with_key_tuple, C10_dyn_hash_eq_errors. -/
theorem C10_headline_hash_converse_fails_for_key_tuple (hf : PyObj → Int) (u : Url) :
    (dynHashEq hf u (keyTuple u) = .ok true ∧ dynEq u (keyTuple u) = false) ∧
    (∀ (o : PyObj) (err : PyErr), dynHashEq hf u o = .error err → err = .typeError ∧ hashable o = false) :=
  ⟨C10_dyn_hash_collides_with_key_tuple hf u, fun o err h => C10_dyn_hash_eq_errors hf u o err h⟩

/-! ## Sentence 2 — "The ordering operators form a total preorder consistent with equality: for any two URLs exactly one
    of a < b, a == b, a > b holds." — the operators with an arbitrary object on the right (MODEL-LEVEL) -/

/-- the ordering operators against a non-URL object (`url < 1`, `url <= "x"`, `url > None`, `url >= (1,)` …) raise
    TypeError; an ordering comparison ANSWERS exactly when the right operand is a URL, and TypeError is the only error
    (`op` = 0, 1, 2, 3 for `<`, `<=`, `>`, `>=`; any other number behaves like `>=`).
    Cites C10_order_non_url, C10_order_answers_iff_url. -/
theorem C10_headline_ordering_against_non_url_raises (u : Url) (o : PyObj) :
    ((∀ v, o ≠ .url v) →                                 -- `o` is not a URL object
      dynLt u o = .error .typeError ∧ dynLe u o = .error .typeError ∧
      dynGt u o = .error .typeError ∧ dynGe u o = .error .typeError) ∧
    (∀ op, ((∃ b, dynCmp op u o = .ok b) ↔ ∃ v, o = .url v) ∧
      (∀ err, dynCmp op u o = .error err → err = .typeError)) :=
  ⟨fun h => C10_order_non_url u o h, fun op => C10_order_answers_iff_url u o op⟩

/-- "for any two URLs exactly one of a < b, a == b, a > b holds", for the operators: if the right operand is a URL,
    exactly one of the three holds (and `<`, `>` answer); if it is not, NONE holds (`==` is False, `<` and `>` raise
    TypeError).  Cites C10_dyn_trichotomy. -/
theorem C10_headline_operator_trichotomy (u : Url) (o : PyObj) :
    (∃ v, o = .url v ∧
      ((dynLt u o = .ok true ∧ dynEq u o = false ∧ dynGt u o = .ok false) ∨
       (dynLt u o = .ok false ∧ dynEq u o = true ∧ dynGt u o = .ok false) ∨
       (dynLt u o = .ok false ∧ dynEq u o = false ∧ dynGt u o = .ok true))) ∨
    ((∀ v, o ≠ .url v) ∧ dynLt u o = .error .typeError ∧ dynEq u o = false ∧ dynGt u o = .error .typeError) :=
  C10_dyn_trichotomy u o

/-- "consistent with equality", for the operators on URL operands: `<=` is `<` or `==`; `>=`, `>` are the converses.
    Cites C10_dyn_le_iff. -/
theorem C10_headline_operator_le_is_lt_or_eq (u v : Url) :
    (dynLe u (.url v) = .ok true ↔ (dynLt u (.url v) = .ok true ∨ dynEq u (.url v) = true)) ∧
    dynGe u (.url v) = dynLe v (.url u) ∧ dynGt u (.url v) = dynLt v (.url u) :=
  C10_dyn_le_iff u v

/-! ## Sentence 2a — "The ordering operators form a total preorder consistent with equality" — the laws C10Headline.lean
    did not state -/

/-- every law of the sentence in one place, for ALL URLs, no hypothesis: `<=` total; `<` is `<=` without `==`; `>` / `>=`
    are the converses of `<` / `<=`; `<` and `<=` transitive; `==` implies `<=` and `>=`; `<=` antisymmetric up to `==`;
    `<=` both ways is exactly `==`; `<=` reflexive.  (New with respect to C10_headline_total_preorder: conjuncts 3, 4 in
    iff form, 7, 9, 10.)  Cites C10_order_laws. -/
theorem C10_headline_order_laws :
    (∀ a b : Url, a.le b = true ∨ b.le a = true) ∧
    (∀ a b : Url, a.lt b = true ↔ (a.le b = true ∧ ¬ a.beq b = true)) ∧
    (∀ a b : Url, a.gt b = true ↔ b.lt a = true) ∧
    (∀ a b : Url, a.ge b = true ↔ b.le a = true) ∧
    (∀ a b c : Url, a.lt b = true → b.lt c = true → a.lt c = true) ∧
    (∀ a b c : Url, a.le b = true → b.le c = true → a.le c = true) ∧
    (∀ a b : Url, a.beq b = true → (a.le b = true ∧ a.ge b = true)) ∧
    (∀ a b : Url, a.le b = true → b.le a = true → a.beq b = true) ∧
    (∀ a b : Url, a.beq b = true ↔ (a.le b = true ∧ a.ge b = true)) ∧
    (∀ a : Url, a.le a = true) :=
  C10_order_laws

/-- "consistent with equality": `a == b` implies `a <= b` and `a >= b` and excludes `<`, `>`, `!=`; and the mixed
    transitivity laws (`<` then `<=`, `<=` then `<`) that sorting relies on.  Cites C10_eq_le_ge, C10_lt_le_trans. -/
theorem C10_headline_equal_implies_le_ge_and_mixed_transitivity :
    (∀ a b : Url, a.beq b = true →
      a.le b = true ∧ a.ge b = true ∧ a.lt b = false ∧ a.gt b = false ∧ (!a.beq b) = false) ∧
    (∀ a b c : Url, (a.lt b = true → b.le c = true → a.lt c = true) ∧ (a.le b = true → b.lt c = true → a.lt c = true)) :=
  ⟨C10_eq_le_ge, C10_lt_le_trans⟩

/-! ## Sentence 2 — the ordering operators against an INDEPENDENT specification of Python's tuple / str comparison
    (GAPS 4, 5) -/

/-- ALL SIX comparison operators of `URL` are Python's comparisons of the two `_sort_key` tuples, each of `<`, `<=`, `>`,
    `>=` against its OWN transcription in the specification `PySpec.seqCmp`; `==` / `!=` are (in)equality of the tuples.
    So the model's DEFINITIONS `le := lt || key-equality`, `gt a b := lt b a`, `ge a b := le b a` are theorems about
    `_sort_key <= …`, `>`, `>=` (GAPS 4).  The last conjunct: the model's tuple `<` (`ltParts`) on any two 5-tuples.
    Cites C10_order_eq_pyTuple, C10_ltParts_eq_pyTupleLt. -/
theorem C10_headline_operators_are_python_tuple_comparisons (a b : Url) :
    (a.lt b = pyTupleLt (sortKey a) (sortKey b) ∧
     a.le b = pyTupleLe (sortKey a) (sortKey b) ∧
     a.gt b = pyTupleGt (sortKey a) (sortKey b) ∧
     a.ge b = pyTupleGe (sortKey a) (sortKey b) ∧
     a.beq b = decide (sortKey a = sortKey b) ∧
     (!a.beq b) = decide (sortKey a ≠ sortKey b)) ∧
    (∀ p q : Parts, ltParts p q = pyTupleLt (keyList p) (keyList q)) :=
  ⟨C10_order_eq_pyTuple a b, C10_ltParts_eq_pyTupleLt⟩

/-- the identities GAPS 4 listed as ASSUMED, as theorems about the specification, for Python tuples of str of ANY
    lengths: `t1 <= t2 ↔ t1 < t2 ∨ t1 = t2`, `t1 > t2 ↔ t2 < t1`, `t1 >= t2 ↔ t2 <= t1`.
    Cites C10_pyTupleLe_iff, C10_pyTupleGt_Ge. -/
theorem C10_headline_python_tuple_identities (x y : List Str) :
    (pyTupleLe x y = true ↔ (pyTupleLt x y = true ∨ x = y)) ∧
    pyTupleGt x y = pyTupleLt y x ∧ pyTupleGe x y = pyTupleLe y x :=
  ⟨C10_pyTupleLe_iff x y, (C10_pyTupleGt_Ge x y).1, (C10_pyTupleGt_Ge x y).2⟩

/-- GAPS 5: the model's string order `ltStr` IS the specification's `<` on code-point sequences (a code point is a
    `Nat`: lone surrogates and non-BMP characters are ordered by their number), and the same three identities hold one
    level down, for str.  Cites C10_pyStr_order. -/
theorem C10_headline_string_order_is_code_point_order (s t : Str) :
    PySpec.pyStrCmp .lt s t = ltStr s t ∧
    (PySpec.pyStrCmp .le s t = true ↔ (PySpec.pyStrCmp .lt s t = true ∨ s = t)) ∧
    PySpec.pyStrCmp .gt s t = PySpec.pyStrCmp .lt t s ∧ PySpec.pyStrCmp .ge s t = PySpec.pyStrCmp .le t s :=
  C10_pyStr_order s t

/-! ## Sentence 1a — "Two URLs are equal exactly when their scheme, authority, path …, query and fragment are equal" —
    across the two constructor modes (GAPS 2) -/

/-- equality is on the STORED text, also across `encoded=False` / `encoded=True`:
    `URL('http://h/a b') != URL('http://h/a b', encoded=True)` ("/a%20b" vs "/a b" stored; the `encoded=True` one is the
    smaller, ' ' < '%'), while `URL('http://h/a%20b') == URL('http://h/a%20b', encoded=True)` although the two records
    differ (only the first carries pre-computed cache entries).  All four URLs are in `ReachE`, the closure of ALL entry
    points; the C10 laws need no reachability hypothesis at all.  Cites C10_reachE_equality_is_on_stored_text. -/
theorem C10_headline_equality_is_on_stored_text_across_modes :
    let e : Env := ⟨.py, Oracles.empty⟩
    ∃ a b c d, encodeUrl e "http://h/a b".toStr = .ok a ∧ preEncodedUrl e "http://h/a b".toStr = .ok b ∧
      encodeUrl e "http://h/a%20b".toStr = .ok c ∧ preEncodedUrl e "http://h/a%20b".toStr = .ok d ∧
      ReachE e a ∧ ReachE e b ∧ ReachE e c ∧ ReachE e d ∧
      a.beq b = false ∧ b.lt a = true ∧ a.lt b = false ∧
      c.beq d = true ∧ c ≠ d ∧ a.beq c = true :=
  C10_reachE_equality_is_on_stored_text

/-! ## non-vacuity -/

-- a URL against its own text, through the headline theorem; the hypothesis "not a URL" is satisfiable
example : dynEq (fromParts "http".toStr "h".toStr [47] [] []) (.str "http://h/".toStr) = false ∧
    dynNe (fromParts "http".toStr "h".toStr [47] [] []) (.str "http://h/".toStr) = true :=
  C10_headline_never_equal_to_non_url _ _ (by intro v h; cases h)

-- `==` holds against a URL that is equal without being identical ('' vs '/' under an authority) …
example : dynEq (fromParts "http".toStr "h".toStr [] [] []) (.url (fromParts "http".toStr "h".toStr [47] [] [])) = true := by
  decide +kernel
-- … and then the hashes agree, for any `hf`, through the headline theorem
example (hf : PyObj → Int) :
    dynHashEq hf (fromParts "http".toStr "h".toStr [] [] []) (.url (fromParts "http".toStr "h".toStr [47] [] [])) = .ok true :=
  (C10_headline_operator_equal_implies_equal_hash hf _ _).2 (by decide +kernel)

-- `url < 1` raises TypeError; an unhashable right operand makes `hash(u) == hash(o)` raise
example : dynLt (fromParts "http".toStr "h".toStr [] [] []) (.int 1) = .error .typeError :=
  ((C10_headline_ordering_against_non_url_raises _ _).1 (by intro v h; cases h)).1
example : dynHashEq (fun _ => 0) (fromParts [] [] [] [] []) (.list []) = .error .typeError := by rfl

-- the specification computes what Python computes: URL('http://h') vs URL('http://h/') have equal `_sort_key`s, so
-- `<=` and `>=` hold both ways and neither `<` nor `>`; ("a",) < ("a", ""); a non-BMP code point after a BMP one
example : let a := fromParts "http".toStr "h".toStr [] [] []
    let b := fromParts "http".toStr "h".toStr [47] [] []
    sortKey a = sortKey b ∧ pyTupleLe (sortKey a) (sortKey b) = true ∧ pyTupleGe (sortKey a) (sortKey b) = true ∧
    pyTupleLt (sortKey a) (sortKey b) = false ∧ pyTupleGt (sortKey a) (sortKey b) = false := by decide +kernel
example : pyTupleLt ["a".toStr] ["a".toStr, []] = true ∧ PySpec.pyStrCmp .lt [0xFFFF] [0x10000] = true ∧
    PySpec.pyStrCmp .gt [0xD800] [0x61] = true := by decide +kernel

end Yarl
