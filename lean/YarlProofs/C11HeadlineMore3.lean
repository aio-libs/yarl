import YarlProofs.C11Headline
import YarlProofs.C11HeadlineMore
import YarlProofs.C11Encoded
import YarlProofs.C11ReachE
/-!
  C11HeadlineMore3.lean — AUDIT LAYER for property C11, continuation of C11Headline.lean / C11HeadlineMore.lean (the
  theorems here need C11Encoded.lean and C11ReachE.lean, which import C11Headline.lean through C11Ctor.lean; this file is
  a leaf, nobody imports it).

  C11 | Every modifier changes only its own component |
  "with_scheme, with_user, with_password, with_host, with_port, with_fragment and the query operations return a URL in
  which the targeted component reads back as the canonicalised argument and every other raw component - including IPv6
  brackets, an explicit port and an empty-vs-absent password - is unchanged (with_user(None) also drops the password, as
  documented). with_path, with_name, with_suffix, /, joinpath and parent keep scheme and authority and clear query and
  fragment unless keep_query/keep_fragment is given; origin() keeps only scheme, host and port and relative() only path,
  query and fragment."

  What is here: GAPS 2 of C11Headline.lean — authorities that are NOT the `make_netloc` text (`Written`) and do not
  satisfy the invariant `NetlocCanon`: `URL(s, encoded=True)`, `URL.build(authority=…, encoded=True)` and
  `URL.build(host=…, encoded=True)` store the authority VERBATIM ("user@:80", ":pw@h", "U:P@H:080", "[::1]x:80" …).
   * part A (C11Encoded.lean): sentence 1 for the authority modifiers and `origin()` on a URL WITHOUT pre-filled cache
     whose stored authority is ANY non-empty text that `split_netloc` accepts: what the raw accessors read, the EXACT
     stored result of each modifier, the frame "every other raw component reads the same as on `u`" — which holds with
     exactly TWO exceptions, both proved FALSE by witnesses: (E1) host text with '[' but no ':', (E2) nothing left to
     write; and what happens when `split_netloc` REJECTS the stored text.
   * part B (C11ReachE.lean): the same over `ReachE`, the closure of ALL entry points of the model, `encoded=True`
     included (ReachE.lean), cache or not; and the hypothesis-free frame on the five stored parts for every modifier in
     every `encoded` mode.
  The frame theorems here are RELATIVE ("reads as on `u`"), not in terms of a `Written` quadruple: the stored TEXT of the
  authority may change (port text "080" is re-written "80", junk around brackets is dropped …) while no accessor does.

  Vocabulary (C11Encoded.lean, ReachE.lean; `net`, `pickleTwin`, `GoodAuthority`: C11HeadlineMore.lean).
  `np : NetlocParts`     — the answer of `split_netloc` on the stored authority: `np.user`, `np.password`, `np.host`,
                           `np.port`; `np.host.getD []` is the host text ("" when absent), WITHOUT the brackets of a
                           bracketed host.
  `bracket h`            — `h` in brackets iff it contains ':' (`host_subcomponent`).
  `UserOK U`             — `U` is absent, or non-empty without ':'.
  `EncTrue.portBad p`    — `p` is an int outside 0..65535 (the range check of `with_port`).
  (E1)                   — `91 ∈ np.host.getD [] ∧ 58 ∉ np.host.getD []`: the host text contains '[' but no ':'.
  (E2)                   — no user, no password, empty host text, no port: the rebuilt authority is the EMPTY string.
  `ReachE e u`           — `u` is obtainable through ANY entry point: `URL(s)`, `URL(s, encoded=True)`, `URL.build` in
                           both modes, the 18 operations with Python-string arguments, `with_path(…, encoded=True)`,
                           `joinpath(…, encoded=True)`, `join` of two such URLs.  By `reachE_of_record` EVERY cache-less
                           record of five Python strings is in `ReachE`: a theorem over `ReachE` is a theorem about
                           arbitrary stored text.
-/
namespace Yarl
open StrAscii WfLemmas EntryLemmas R6 NetlocLemmas EncTrue EagerLemmas

/-! ## Part A — Sentence 1 ("… the targeted component reads back as the canonicalised argument and every other raw
    component … is unchanged") on a cache-less URL whose stored authority is ARBITRARY accepted text (GAPS 2) -/

/-- GAPS 2: what "raw component" MEANS on such a URL.  The raw accessors are the fields of the `split_netloc` answer
    (`raw_host` is `np.host or ""`, `host_subcomponent` brackets it iff it contains ':'), which is the
    `Rfc.authoritySplit` reading of the text; the answer always has: user absent or non-empty without ':', host text
    without '@' and either without ']' or without ':' and '[', port ≤ 65535.
    Cites C11_arbitrary_authority_accessors. -/
theorem C11_headline_arbitrary_authority_accessors (e : Env) (u : Url) (np : NetlocParts)
    (hpre : u.pre = none)                            -- no pre-filled cache (true of every `encoded=True` result)
    (hn : u.netloc ≠ [])                             -- there is an authority
    (hs : splitNetloc e.o u.netloc = .ok np) :       -- `split_netloc` accepts it; else: …_split_fails below
    rawUser e u = .ok np.user ∧ rawPassword e u = .ok np.password ∧
    rawHost e u = .ok (some (np.host.getD [])) ∧ explicitPort e u = .ok np.port ∧
    hostSubcomponent e u = .ok (some (bracket (np.host.getD []))) ∧
    np.user = (Rfc.authoritySplit u.netloc).user.bind orNone ∧
    np.password = (Rfc.authoritySplit u.netloc).password ∧
    np.host.getD [] = (Rfc.authoritySplit u.netloc).host ∧
    UserOK np.user ∧ 64 ∉ np.host.getD [] ∧
    (93 ∉ np.host.getD [] ∨ (58 ∉ np.host.getD [] ∧ 91 ∉ np.host.getD [])) ∧
    (∀ p, np.port = some p → p ≤ 65535) :=
  C11_arbitrary_authority_accessors e u np hpre hn hs

/-- GAPS 2: the EXACT stored result of every authority modifier on such a URL — each one re-makes the authority with
    `make_netloc(…, encode=False)` from `np.user`, `np.password`, the bracketed-iff-':' host text and `np.port`, with the
    targeted component replaced by the quoted / encoded argument; scheme, path, query, fragment are copied.  `origin()`
    re-makes the authority only when the text contains '@', otherwise it keeps the text VERBATIM.  Includes the error
    cases of `with_host` / `with_port` / `origin`.  No condition on the host text.
    Cites C11_arbitrary_authority_modifiers. -/
theorem C11_headline_arbitrary_authority_exact_results (e : Env) (u : Url) (np : NetlocParts)
    (hpre : u.pre = none) (hn : u.netloc ≠ []) (hs : splitNetloc e.o u.netloc = .ok np) :   -- as above
    let Q := q e Gen.QUOTER
    let hb := bracket (np.host.getD [])
    (∀ s, withUser e u (some s) =
      .ok (fromParts u.scheme (makeNetloc Q (some (Q s)) np.password (some hb) np.port false) u.path u.query u.fragment)) ∧
    (withUser e u none =
      .ok (fromParts u.scheme (makeNetloc Q none none (some hb) np.port false) u.path u.query u.fragment)) ∧
    (∀ pw, withPassword e u pw =
      .ok (fromParts u.scheme (makeNetloc Q np.user (pw.map Q) (some hb) np.port false) u.path u.query u.fragment)) ∧
    (∀ hs, withHost e u hs =
      if hs = [] then .error .valueError
      else (encodeHost e.o hs true).map (fun eh =>
        fromParts u.scheme (makeNetloc Q np.user np.password (some eh) np.port false) u.path u.query u.fragment)) ∧
    (∀ (p : Option Int) (kind : Nat), withPort e u p kind =
      if kind ≠ 0 then .error .typeError
      else if portBad p then .error .valueError
      else .ok (fromParts u.scheme (makeNetloc Q np.user np.password (some hb) (p.map Int.toNat) false)
                  u.path u.query u.fragment)) ∧
    (origin e u =
      if u.scheme = [] then .error .valueError
      else if 64 ∈ u.netloc then .ok (fromParts u.scheme (makeNetloc Q none none (some hb) np.port false) [] [] [])
      else if u.path = [] ∧ u.query = [] ∧ u.fragment = [] then .ok u
      else .ok (fromParts u.scheme u.netloc [] [] [])) :=
  C11_arbitrary_authority_modifiers e u np hpre hn hs

/-- GAPS 2, "with_user … reads back as the canonicalised argument and every other raw component - including IPv6
    brackets, an explicit port and an empty-vs-absent password - is unchanged" on an arbitrary accepted authority: the
    user reads back as the QUOTER output; `raw_password`, `raw_host`, `explicit_port`, `host_subcomponent`, scheme,
    path, query, fragment read exactly as on `u`.  Cites C11_arbitrary_authority_frame_with_user. -/
theorem C11_headline_arbitrary_authority_with_user (e : Env) (u : Url) (np : NetlocParts)
    (hpre : u.pre = none) (hn : u.netloc ≠ []) (hs : splitNetloc e.o u.netloc = .ok np)   -- as above
    -- not (E1): with '[' but no ':' in the host text the clause is FALSE, `…_fails_for_bracket_in_host` below
    (hgood : ¬ (91 ∈ np.host.getD [] ∧ 58 ∉ np.host.getD []))
    (s : Str) (hpy : PyStr s)                        -- a Python string: the quoter output has no ':'
    (hq : q e Gen.QUOTER s ≠ []) :                   -- `with_user("")` DROPS the user (GAPS 3)
    ∃ v, withUser e u (some s) = .ok v ∧ rawUser e v = .ok (some (q e Gen.QUOTER s)) ∧
      rawPassword e v = rawPassword e u ∧ rawHost e v = rawHost e u ∧ explicitPort e v = explicitPort e u ∧
      hostSubcomponent e v = hostSubcomponent e u ∧
      v.scheme = u.scheme ∧ v.path = u.path ∧ v.query = u.query ∧ v.fragment = u.fragment ∧ v.pre = none :=
  C11_arbitrary_authority_frame_with_user e u np hpre hn hs hgood s hpy hq

/-- GAPS 2, "(with_user(None) also drops the password, as documented)": user AND password read `None`; the explicit port
    reads as on `u`; `raw_host` / `host_subcomponent` read as on `u` UNLESS the host text is empty and there is no port
    — (E2): the rebuilt authority is EMPTY and both read `None` (was ""), `…_fails_for_nothing_left` below.
    Cites C11_arbitrary_authority_frame_with_user_none. -/
theorem C11_headline_arbitrary_authority_with_user_none (e : Env) (u : Url) (np : NetlocParts)
    (hpre : u.pre = none) (hn : u.netloc ≠ []) (hs : splitNetloc e.o u.netloc = .ok np)   -- as above
    (hgood : ¬ (91 ∈ np.host.getD [] ∧ 58 ∉ np.host.getD [])) :                           -- not (E1)
    ∃ v, withUser e u none = .ok v ∧ rawUser e v = .ok none ∧ rawPassword e v = .ok none ∧
      explicitPort e v = explicitPort e u ∧
      (rawHost e v = if np.host.getD [] = [] ∧ np.port = none then .ok none else rawHost e u) ∧
      (hostSubcomponent e v = if np.host.getD [] = [] ∧ np.port = none then .ok none else hostSubcomponent e u) ∧
      (v.netloc = [] ↔ np.host.getD [] = [] ∧ np.port = none) ∧
      v.scheme = u.scheme ∧ v.path = u.path ∧ v.query = u.query ∧ v.fragment = u.fragment ∧ v.pre = none :=
  C11_arbitrary_authority_frame_with_user_none e u np hpre hn hs hgood

/-- GAPS 2, "with_password …" (`pw = none` is `with_password(None)`): the password reads back as the QUOTER output
    (`some ""` for the empty password, distinct from absent); `raw_user`, `explicit_port` read as on `u`; `raw_host` /
    `host_subcomponent` too unless NOTHING is left to write (E2).  Cites C11_arbitrary_authority_frame_with_password. -/
theorem C11_headline_arbitrary_authority_with_password (e : Env) (u : Url) (np : NetlocParts)
    (hpre : u.pre = none) (hn : u.netloc ≠ []) (hs : splitNetloc e.o u.netloc = .ok np)   -- as above
    (hgood : ¬ (91 ∈ np.host.getD [] ∧ 58 ∉ np.host.getD [])) (pw : Option Str) :         -- not (E1)
    let nothing := np.user = none ∧ pw = none ∧ np.host.getD [] = [] ∧ np.port = none     -- (E2)
    ∃ v, withPassword e u pw = .ok v ∧ rawPassword e v = .ok (pw.map (q e Gen.QUOTER)) ∧
      rawUser e v = rawUser e u ∧ explicitPort e v = explicitPort e u ∧
      (rawHost e v = if nothing then .ok none else rawHost e u) ∧
      (hostSubcomponent e v = if nothing then .ok none else hostSubcomponent e u) ∧
      (v.netloc = [] ↔ nothing) ∧
      v.scheme = u.scheme ∧ v.path = u.path ∧ v.query = u.query ∧ v.fragment = u.fragment ∧ v.pre = none :=
  C11_arbitrary_authority_frame_with_password e u np hpre hn hs hgood pw

/-- GAPS 2, "with_port …" (`p = none` is `with_port(None)`): the explicit port reads back; `raw_user`, `raw_password`
    (empty vs absent) read as on `u`; `raw_host` / `host_subcomponent` too unless nothing is left to write (E2).
    Cites C11_arbitrary_authority_frame_with_port. -/
theorem C11_headline_arbitrary_authority_with_port (e : Env) (u : Url) (np : NetlocParts)
    (hpre : u.pre = none) (hn : u.netloc ≠ []) (hs : splitNetloc e.o u.netloc = .ok np)   -- as above
    (hgood : ¬ (91 ∈ np.host.getD [] ∧ 58 ∉ np.host.getD []))                             -- not (E1)
    (p : Option Int) (hr : ∀ i, p = some i → 0 ≤ i ∧ i ≤ 65535) :   -- other values are rejected (C17; exact: …_exact_results)
    let nothing := np.user = none ∧ np.password = none ∧ np.host.getD [] = [] ∧ p = none  -- (E2)
    ∃ v, withPort e u p 0 = .ok v ∧ explicitPort e v = .ok (p.map Int.toNat) ∧
      rawUser e v = rawUser e u ∧ rawPassword e v = rawPassword e u ∧
      (rawHost e v = if nothing then .ok none else rawHost e u) ∧
      (hostSubcomponent e v = if nothing then .ok none else hostSubcomponent e u) ∧
      (v.netloc = [] ↔ nothing) ∧
      v.scheme = u.scheme ∧ v.path = u.path ∧ v.query = u.query ∧ v.fragment = u.fragment ∧ v.pre = none :=
  C11_arbitrary_authority_frame_with_port e u np hpre hn hs hgood p hr

/-- GAPS 2, "with_host … reads back as the canonicalised argument": `raw_host` reads `unbracket eh`, `host_subcomponent`
    reads `eh` (`eh = _encode_host(argument)`), and `raw_user`, `raw_password`, `explicit_port` read as on `u`.  NO
    condition on the old host text (it is discarded), so neither (E1) nor (E2) arises.
    Cites C11_arbitrary_authority_frame_with_host. -/
theorem C11_headline_arbitrary_authority_with_host (e : Env) (u : Url) (np : NetlocParts)
    (hpre : u.pre = none) (hn : u.netloc ≠ []) (hs : splitNetloc e.o u.netloc = .ok np)   -- as above
    (hst eh : Str) (hne : hst ≠ [])                  -- `with_host("")` is rejected
    (henc : encodeHost e.o hst true = .ok eh)        -- `eh` = the canonicalisation (C16)
    (heh : eh ≠ []) :                                -- excludes an IDNA oracle answering "" (GAPS 4)
    ∃ v, withHost e u hst = .ok v ∧ rawHost e v = .ok (some (unbracket eh)) ∧
      hostSubcomponent e v = .ok (some eh) ∧
      rawUser e v = rawUser e u ∧ rawPassword e v = rawPassword e u ∧ explicitPort e v = explicitPort e u ∧
      v.scheme = u.scheme ∧ v.path = u.path ∧ v.query = u.query ∧ v.fragment = u.fragment ∧ v.pre = none :=
  C11_arbitrary_authority_frame_with_host e u np hpre hn hs hst eh hne henc heh

/-! ## Part A — Sentence 3 ("origin() keeps only scheme, host and port") on an arbitrary accepted authority -/

/-- GAPS 2, `origin()`: user and password read `None`, the explicit port reads as on `u`, path / query / fragment are
    empty, `raw_host` / `host_subcomponent` read as on `u` — unless the authority contains '@' and is left with nothing
    to write (E2: "http://@", "http://u:p@").  An authority without '@' is kept VERBATIM and needs no condition on the
    host text.  Cites C11_arbitrary_authority_frame_origin. -/
theorem C11_headline_arbitrary_authority_origin (e : Env) (u : Url) (np : NetlocParts)
    (hpre : u.pre = none) (hn : u.netloc ≠ []) (hs : splitNetloc e.o u.netloc = .ok np)   -- as above
    (hsc : u.scheme ≠ [])                            -- `origin()` without scheme raises ValueError
    (hgood : 64 ∈ u.netloc → ¬ (91 ∈ np.host.getD [] ∧ 58 ∉ np.host.getD [])) :   -- not (E1), asked only with an '@'
    let nothing := 64 ∈ u.netloc ∧ np.host.getD [] = [] ∧ np.port = none          -- (E2)
    ∃ v, origin e u = .ok v ∧ rawUser e v = .ok none ∧ rawPassword e v = .ok none ∧
      explicitPort e v = explicitPort e u ∧
      (rawHost e v = if nothing then .ok none else rawHost e u) ∧
      (hostSubcomponent e v = if nothing then .ok none else hostSubcomponent e u) ∧
      (64 ∉ u.netloc → v.netloc = u.netloc) ∧
      v.scheme = u.scheme ∧ v.path = [] ∧ v.query = [] ∧ v.fragment = [] :=
  C11_arbitrary_authority_frame_origin e u np hpre hn hs hsc hgood

/-! ## Part A — the two exceptions are real, the stored text may change, and rejected authorities -/

/-- the hypothesis "not (E1)" is NEEDED — "every other raw component is unchanged" is FALSE for a host text with '[' but
    no ':': `u = URL.build(scheme='http', authority='[a[b]', path='/p', encoded=True)` has `raw_host == 'a[b'`;
    `u.with_user('u')` stores "u@a[b" and its `raw_host` is 'b' — with_user CHANGED THE HOST.  The same through the
    constructor: `URL('http://[v1.a[b]/p', encoded=True)`.  (Py backend, empty oracle table.)
    Cites C11_arbitrary_authority_frame_fails_for_bracket_in_host. -/
theorem C11_headline_arbitrary_authority_fails_for_bracket_in_host :
    let e0 : Env := { b := .py, o := Oracles.empty }
    let u := fromParts "http".toStr "[a[b]".toStr "/p".toStr [] []
    splitNetloc e0.o u.netloc = .ok { user := none, password := none, host := some "a[b".toStr, port := none } ∧
    rawHost e0 u = .ok (some "a[b".toStr) ∧
    (withUser e0 u (some "u".toStr)).map (·.netloc) = .ok "u@a[b".toStr ∧
    (withUser e0 u (some "u".toStr)).bind (rawHost e0) = .ok (some "b".toStr) ∧
    (∃ w, preEncodedUrl e0 "http://[v1.a[b]/p".toStr = .ok w ∧ rawHost e0 w = .ok (some "v1.a[b".toStr) ∧
      (withUser e0 w (some "u".toStr)).bind (rawHost e0) = .ok (some "b".toStr)) :=
  C11_arbitrary_authority_frame_fails_for_bracket_in_host

/-- the exception (E2) is REAL — "every other raw component is unchanged" is FALSE when nothing is left to write:
    `URL('http://@/p', encoded=True)` has `raw_host == ""`; `.with_port(None)`, `.with_user(None)`,
    `.with_password(None)` store the EMPTY authority, `raw_host is None` and `str()` is "http:///p".  Same for ":" .
    Cites C11_arbitrary_authority_frame_fails_for_nothing_left. -/
theorem C11_headline_arbitrary_authority_fails_for_nothing_left :
    let e0 : Env := { b := .py, o := Oracles.empty }
    let u := fromParts "http".toStr "@".toStr "/p".toStr [] []
    splitNetloc e0.o u.netloc = .ok { user := none, password := none, host := none, port := none } ∧
    rawHost e0 u = .ok (some []) ∧
    (withPort e0 u none 0).map (·.netloc) = .ok [] ∧ (withPort e0 u none 0).bind (rawHost e0) = .ok none ∧
    (withUser e0 u none).bind (rawHost e0) = .ok none ∧ (withPassword e0 u none).bind (rawHost e0) = .ok none ∧
    (withPort e0 u none 0).bind (str e0) = .ok "http:///p".toStr ∧
    (withUser e0 (fromParts "http".toStr ":".toStr "/p".toStr [] []) none).bind (rawHost e0) = .ok none :=
  C11_arbitrary_authority_frame_fails_for_nothing_left

/-- "unchanged" is about what the ACCESSORS read, not about the stored TEXT: on `encoded=True` authorities the modifiers
    silently normalise the text without changing any accessor — "user@:80" (empty host) and ":pw@h" (empty user before a
    password) are kept; junk around brackets ("[::1]x:80", "y[::1]") is dropped; brackets around a host without ':'
    ("[v1.x]:81") are DROPPED (`raw_host` unchanged); "a@b@h" keeps the user "a@b"; `origin()` keeps "[::1]x:080"
    verbatim but re-writes "u@[::1]x:080" to "[::1]:80".  Cites C11_arbitrary_authority_text_normalisations. -/
theorem C11_headline_arbitrary_authority_text_normalised :
    let e0 : Env := { b := .py, o := Oracles.empty }
    let mk := fun (n : String) => fromParts "http".toStr n.toStr "/p".toStr [] []
    (withUser e0 (mk "user@:80") (some "n".toStr)).map (·.netloc) = .ok "n@:80".toStr ∧
    (withHost e0 (mk "user@:80") "g".toStr).map (·.netloc) = .ok "user@g:80".toStr ∧
    (withPort e0 (mk "user@:80") none 0).map (·.netloc) = .ok "user@".toStr ∧
    (withUser e0 (mk ":pw@h") (some "n".toStr)).map (·.netloc) = .ok "n:pw@h".toStr ∧
    (withPort e0 (mk ":pw@h") (some 81) 0).map (·.netloc) = .ok ":pw@h:81".toStr ∧
    (withPassword e0 (mk "[::1]x:80") (some "q".toStr)).map (·.netloc) = .ok ":q@[::1]:80".toStr ∧
    (withPort e0 (mk "y[::1]") (some 81) 0).map (·.netloc) = .ok "[::1]:81".toStr ∧
    (withUser e0 (mk "[v1.x]:81") (some "u".toStr)).map (·.netloc) = .ok "u@v1.x:81".toStr ∧
    (withUser e0 (mk "[v1.x]:81") (some "u".toStr)).bind (rawHost e0) = rawHost e0 (mk "[v1.x]:81") ∧
    (withPort e0 (mk "a@b@h") (some 1) 0).map (·.netloc) = .ok "a@b@h:1".toStr ∧
    (origin e0 (mk "[::1]x:080")).map (·.netloc) = .ok "[::1]x:080".toStr ∧
    (origin e0 (mk "u@[::1]x:080")).map (·.netloc) = .ok "[::1]:80".toStr :=
  C11_arbitrary_authority_text_normalisations

/-- GAPS 2, the remaining case: `split_netloc` REJECTS the stored authority (port text "99999", "x" — e.g. through
    `encoded=True`).  Then on a cache-less URL `with_user` (any argument), `with_password` and `str()` fail with
    that error `err` (ValueError, or an oracle miss for a non-ASCII port text); `with_host` / `with_port` fail (with the
    error of their own argument check if that comes first, else `err`); `origin()` fails with `err` when the authority
    contains '@' — and otherwise SUCCEEDS, copying the unparsable authority verbatim (its `str()` then fails).
    Cites C11_arbitrary_authority_split_fails. -/
theorem C11_headline_arbitrary_authority_split_fails (e : Env) (u : Url) (err : PyErr)
    (hpre : u.pre = none)                                -- no pre-filled cache
    (hs : splitNetloc e.o u.netloc = .error err) :       -- `split_netloc` rejects the stored authority
    u.netloc ≠ [] ∧ (err = .valueError ∨ ∃ f a, err = .oracleMiss f a) ∧
    (∀ x, withUser e u x = .error err) ∧
    (∀ pw, withPassword e u pw = .error err) ∧
    (∀ hst, withHost e u hst =
      if hst = [] then .error .valueError
      else match encodeHost e.o hst true with
        | .error err' => .error err'
        | .ok _ => .error err) ∧
    (∀ (p : Option Int) (kind : Nat), withPort e u p kind =
      if kind ≠ 0 then .error .typeError else if portBad p then .error .valueError else .error err) ∧
    (origin e u =
      if u.scheme = [] then .error .valueError
      else if 64 ∈ u.netloc then .error err
      else if u.path = [] ∧ u.query = [] ∧ u.fragment = [] then .ok u
      else .ok (fromParts u.scheme u.netloc [] [] [])) ∧
    str e u = .error err ∧
    (∀ v, origin e u = .ok v → str e v = .error err) :=
  C11_arbitrary_authority_split_fails e u err hpre hs

/-! ## Part B — all three sentences over `ReachE`, the closure of ALL entry points incl. `encoded=True` -/

/-- `ReachE` really is "arbitrary stored text": EVERY cache-less record whose five components are Python strings is in
    `ReachE` (`URL.build(scheme=, authority=, path=, query_string=, fragment=, encoded=True)` stores its arguments
    verbatim).  So the hypotheses of the theorems below can only be discharged from the inputs.
    Cites reachE_of_record (ReachE.lean). -/
theorem C11_headline_reachE_contains_every_record (e : Env) (s n p q f : Str)
    (hs : PyStr s) (hn : PyStr n) (hp : PyStr p) (hq : PyStr q) (hf : PyStr f) :   -- five Python strings
    ReachE e (fromParts s n p q f) :=
  reachE_of_record e s n p q f hs hn hp hq hf

/-- Sentences 1–3, THE FRAME ON THE FIVE STORED PARTS, for every `ReachE` URL (in fact for every record: `hr` is not
    used) and EVERY modifier in every mode (`with_path` / `joinpath` with `encoded` either way): the stored parts the
    modifier does not own are copied verbatim, or cleared where the API says so.  NO hypothesis.  For the four authority
    modifiers this says only "scheme, path, query, fragment unchanged" — the sub-components of the authority are
    `C11_headline_reachE_authority_frame`.  Cites C11_reachE_frame. -/
theorem C11_headline_reachE_frame (e : Env) (u : Url) (hr : ReachE e u) :
    -- with_scheme: everything but the scheme
    (∀ s v, withScheme e u s = .ok v →
      v.netloc = u.netloc ∧ v.path = u.path ∧ v.query = u.query ∧ v.fragment = u.fragment) ∧
    -- with_user / with_password / with_host / with_port: everything but the authority
    (∀ x v, withUser e u x = .ok v → v.scheme = u.scheme ∧ v.path = u.path ∧ v.query = u.query ∧ v.fragment = u.fragment) ∧
    (∀ x v, withPassword e u x = .ok v →
      v.scheme = u.scheme ∧ v.path = u.path ∧ v.query = u.query ∧ v.fragment = u.fragment) ∧
    (∀ x v, withHost e u x = .ok v → v.scheme = u.scheme ∧ v.path = u.path ∧ v.query = u.query ∧ v.fragment = u.fragment) ∧
    (∀ p k v, withPort e u p k = .ok v →
      v.scheme = u.scheme ∧ v.path = u.path ∧ v.query = u.query ∧ v.fragment = u.fragment) ∧
    -- with_path, `encoded` either way: scheme and authority; query / fragment kept or cleared as asked
    (∀ p enc kq kf, (withPath e u p enc kq kf).scheme = u.scheme ∧ (withPath e u p enc kq kf).netloc = u.netloc ∧
      (withPath e u p enc kq kf).query = (if kq then u.query else []) ∧
      (withPath e u p enc kq kf).fragment = (if kf then u.fragment else [])) ∧
    -- the four query operations: everything but the query
    (∀ a v, withQuery e u a = .ok v →
      v.scheme = u.scheme ∧ v.netloc = u.netloc ∧ v.path = u.path ∧ v.fragment = u.fragment) ∧
    (∀ a v, extendQuery e u a = .ok v →
      v.scheme = u.scheme ∧ v.netloc = u.netloc ∧ v.path = u.path ∧ v.fragment = u.fragment) ∧
    (∀ a v, updateQuery e u a = .ok v →
      v.scheme = u.scheme ∧ v.netloc = u.netloc ∧ v.path = u.path ∧ v.fragment = u.fragment) ∧
    (∀ ns v, withoutQueryParams e u ns = .ok v →
      v.scheme = u.scheme ∧ v.netloc = u.netloc ∧ v.path = u.path ∧ v.fragment = u.fragment) ∧
    -- with_fragment: everything but the fragment
    (∀ f, (withFragment e u f).scheme = u.scheme ∧ (withFragment e u f).netloc = u.netloc ∧
      (withFragment e u f).path = u.path ∧ (withFragment e u f).query = u.query) ∧
    -- with_name / with_suffix: scheme and authority; query / fragment kept or cleared as asked
    (∀ nm kq kf v, withName e u nm kq kf = .ok v → v.scheme = u.scheme ∧ v.netloc = u.netloc ∧
      v.query = (if kq then u.query else []) ∧ v.fragment = (if kf then u.fragment else [])) ∧
    (∀ sfx kq kf v, withSuffix e u sfx kq kf = .ok v → v.scheme = u.scheme ∧ v.netloc = u.netloc ∧
      v.query = (if kq then u.query else []) ∧ v.fragment = (if kf then u.fragment else [])) ∧
    -- `/`, joinpath, `encoded` either way; parent: scheme and authority kept, query and fragment cleared
    (∀ paths enc v, makeChild e u paths enc = .ok v →
      v.scheme = u.scheme ∧ v.netloc = u.netloc ∧ v.query = [] ∧ v.fragment = []) ∧
    ((parent u).scheme = u.scheme ∧ (parent u).netloc = u.netloc ∧ (parent u).query = [] ∧ (parent u).fragment = []) ∧
    -- origin(): the scheme (host / port inside the authority: part A); relative(): path, query, fragment
    (∀ v, origin e u = .ok v → v.scheme = u.scheme ∧ v.path = [] ∧ v.query = [] ∧ v.fragment = []) ∧
    (∀ v, relative u = .ok v →
      v.scheme = [] ∧ v.netloc = [] ∧ v.path = u.path ∧ v.query = u.query ∧ v.fragment = u.fragment) :=
  C11_reachE_frame e u hr

/-- the only `ReachE` URLs WITH a pre-filled cache are direct results of the auto-encoding constructor; when the inputs
    of those had `GoodAuthority` (the C09 guard; C11Headline GAPS 8) the cache agrees with what the lazy path reads
    from the stored authority.  For a cache-less URL (every `encoded=True` result, every modifier result) the
    hypothesis `hg` is vacuous.  Cites C11_reachE_cache_agrees. -/
theorem C11_headline_reachE_cache_agrees (e : Env) (u : Url)
    (hr : ReachE e u)                                -- obtainable through any entry point
    (hg : ∀ s, PyStr s → encodeUrl e s = .ok u → GoodAuthority e s) :   -- IF `u = URL(s)`, `s` is inside the C09 guard
    net e (pickleTwin u) = net e u :=
  C11_reachE_cache_agrees e u hr hg

/-- GAPS 2 over the whole closure — Sentence 1 for the SUB-COMPONENTS OF THE AUTHORITY on every `ReachE` URL (cache or
    not) with a non-empty stored authority that `split_netloc` accepts, host text not of shape (E1):
      * `with_user(s)`: user reads back the QUOTER output; password, host, port as on `u`;
      * `with_user(None)`: user and password read None; port as on `u`; host as on `u` unless nothing is left (E2);
      * `with_password(pw)`: password reads back; user, port as on `u`; host as on `u` unless nothing is left (E2);
      * `with_port(p)`: port reads back; user, password as on `u`; host as on `u` unless nothing is left (E2);
      * `with_host(h)`: `host_subcomponent` reads back the encoded argument; user, password, port as on `u`.
    (`origin()` is NOT in this theorem: part A covers it for cache-less URLs only.)
    Cites C11_reachE_authority_frame. -/
theorem C11_headline_reachE_authority_frame (e : Env) (u : Url) (np : NetlocParts)
    (hr : ReachE e u)                                -- obtainable through any entry point
    (hg : ∀ s, PyStr s → encodeUrl e s = .ok u → GoodAuthority e s)   -- IF `u = URL(s)`, `s` is inside the C09 guard
    (hn : u.netloc ≠ [])                             -- there is an authority
    (hs : splitNetloc e.o u.netloc = .ok np)         -- `split_netloc` accepts it; else `…_reachE_split_fails`
    -- not (E1); with it the clause is FALSE inside `ReachE`: `C11_headline_reachE_authority_frame_fails_for`
    (hgood : ¬ (91 ∈ np.host.getD [] ∧ 58 ∉ np.host.getD [])) :
    (∀ s, PyStr s → q e Gen.QUOTER s ≠ [] →          -- guards as in `C11_headline_with_user`
      ∃ v, withUser e u (some s) = .ok v ∧ rawUser e v = .ok (some (q e Gen.QUOTER s)) ∧
        rawPassword e v = rawPassword e u ∧ rawHost e v = rawHost e u ∧ explicitPort e v = explicitPort e u) ∧
    (∃ v, withUser e u none = .ok v ∧ rawUser e v = .ok none ∧ rawPassword e v = .ok none ∧
      explicitPort e v = explicitPort e u ∧
      (rawHost e v = if np.host.getD [] = [] ∧ np.port = none then .ok none else rawHost e u)) ∧
    (∀ pw, ∃ v, withPassword e u pw = .ok v ∧ rawPassword e v = .ok (pw.map (q e Gen.QUOTER)) ∧
      rawUser e v = rawUser e u ∧ explicitPort e v = explicitPort e u ∧
      (rawHost e v = if np.user = none ∧ pw = none ∧ np.host.getD [] = [] ∧ np.port = none then .ok none
                     else rawHost e u)) ∧
    (∀ p : Option Int, (∀ i, p = some i → 0 ≤ i ∧ i ≤ 65535) →      -- guard as in `C11_headline_with_port`
      ∃ v, withPort e u p 0 = .ok v ∧ explicitPort e v = .ok (p.map Int.toNat) ∧
        rawUser e v = rawUser e u ∧ rawPassword e v = rawPassword e u ∧
        (rawHost e v = if np.user = none ∧ np.password = none ∧ np.host.getD [] = [] ∧ p = none then .ok none
                       else rawHost e u)) ∧
    (∀ hst eh, hst ≠ [] → encodeHost e.o hst true = .ok eh → eh ≠ [] →   -- guards as in `C11_headline_with_host`
      ∃ v, withHost e u hst = .ok v ∧ hostSubcomponent e v = .ok (some eh) ∧
        rawUser e v = rawUser e u ∧ rawPassword e v = rawPassword e u ∧ explicitPort e v = explicitPort e u) :=
  C11_reachE_authority_frame e u np hr hg hn hs hgood

/-- the authority frame FAILS inside `ReachE` in the two excluded corners, both reached here through `encoded=True` (that
    the auto-encoding entry points never store such an authority is a remark of C11ReachE.lean, not a theorem): (E1) `u = URL.build(scheme='http', authority='[a[b]', path='/p', encoded=True)`: `u.raw_host == 'a[b'` but
    `u.with_user('u').raw_host == 'b'`; (E2) `w = URL('http://@/p', encoded=True)`: `w.raw_host == ''` but
    `w.with_port(None).raw_host is None`.  All four URLs are in `ReachE`.  So "every other raw component is unchanged"
    is FALSE as stated over all entry points.  Cites C11_reachE_authority_frame_fails_for. -/
theorem C11_headline_reachE_authority_frame_fails_for :
    let e0 : Env := { b := .py, o := Oracles.empty }
    (∃ u, build e0 { scheme := "http".toStr, authority := "[a[b]".toStr, path := "/p".toStr, encoded := true } = .ok u ∧
      ReachE e0 u ∧ u.pre = none ∧
      splitNetloc e0.o u.netloc = .ok { user := none, password := none, host := some "a[b".toStr, port := none } ∧
      rawHost e0 u = .ok (some "a[b".toStr) ∧
      ∃ v, withUser e0 u (some "u".toStr) = .ok v ∧ ReachE e0 v ∧ v.netloc = "u@a[b".toStr ∧
        rawHost e0 v = .ok (some "b".toStr)) ∧
    (∃ w, preEncodedUrl e0 "http://@/p".toStr = .ok w ∧ ReachE e0 w ∧ w.pre = none ∧
      splitNetloc e0.o w.netloc = .ok { user := none, password := none, host := none, port := none } ∧
      rawHost e0 w = .ok (some []) ∧
      ∃ v, withPort e0 w none 0 = .ok v ∧ ReachE e0 v ∧ v.netloc = [] ∧ rawHost e0 v = .ok none) :=
  C11_reachE_authority_frame_fails_for

/-- a `ReachE` URL (necessarily cache-less here) whose stored authority `split_netloc` REJECTS: `with_user`,
    `with_password` and `str()` fail with that error, `with_host` / `with_port` fail (some error), `origin()` fails when
    the authority contains '@' and otherwise may succeed with a result that cannot be printed.
    Cites C11_reachE_split_fails. -/
theorem C11_headline_reachE_split_fails (e : Env) (u : Url) (err : PyErr)
    (hr : ReachE e u)                                -- obtainable through any entry point
    (hpre : u.pre = none)                            -- no pre-filled cache
    (hs : splitNetloc e.o u.netloc = .error err) :   -- `split_netloc` rejects the stored authority
    u.netloc ≠ [] ∧ (∀ x, withUser e u x = .error err) ∧ (∀ pw, withPassword e u pw = .error err) ∧
    (∀ hst, ∃ err', withHost e u hst = .error err') ∧ (∀ p k, ∃ err', withPort e u p k = .error err') ∧
    str e u = .error err ∧ (64 ∈ u.netloc → ∃ err', origin e u = .error err') ∧
    (∀ v, origin e u = .ok v → str e v = .error err) :=
  C11_reachE_split_fails e u err hr hpre hs

/-! ## non-vacuity -/

section checks
private def eE : Env := { b := .py, o := Oracles.empty }
private def uE : Url := fromParts "http".toStr "U:P@H:080".toStr "/a/../b".toStr "x y".toStr []

-- `URL('http://U:P@H:080/a/../b?x y', encoded=True)`: in `ReachE`, hypotheses of the `ReachE` frame hold, and its first
-- clause on `with_user('n w')` (through C11_reachE_authority_frame_instance)
example : preEncodedUrl eE "http://U:P@H:080/a/../b?x y".toStr = .ok uE ∧ ReachE eE uE ∧
    (∀ s, PyStr s → encodeUrl eE s = .ok uE → GoodAuthority eE s) ∧ uE.netloc ≠ [] ∧
    splitNetloc eE.o uE.netloc =
      .ok { user := some "U".toStr, password := some "P".toStr, host := some "H".toStr, port := some 80 } ∧
    (∃ v, withUser eE uE (some "n w".toStr) = .ok v ∧ v.netloc = "n%20w:P@H:80".toStr ∧
      rawUser eE v = .ok (some "n%20w".toStr) ∧ rawPassword eE v = rawPassword eE uE ∧ rawHost eE v = rawHost eE uE ∧
      explicitPort eE v = explicitPort eE uE) :=
  C11_reachE_authority_frame_instance

-- the hypotheses of the part-A theorems on the same URL, and on four odd authorities
example : uE.pre = none ∧ uE.netloc ≠ [] ∧ ¬ (91 ∈ "H".toStr ∧ 58 ∉ "H".toStr) ∧ PyStr "n w".toStr ∧
    q eE Gen.QUOTER "n w".toStr ≠ [] := by
  decide +kernel
example : (["user@:80", ":pw@h", "[::1]x:80", "U:P@H:080", "[v1.x]:81", "a@b@h"].all fun n =>
    match splitNetloc eE.o (String.toStr n) with
    | .ok np => decide (¬ (91 ∈ np.host.getD [] ∧ 58 ∉ np.host.getD []))
    | .error _ => false) = true := by decide +kernel

-- a rejected port text: the hypothesis of `C11_headline_arbitrary_authority_split_fails`
example : splitNetloc eE.o "h:99999".toStr = .error .valueError := by decide +kernel
end checks

end Yarl
