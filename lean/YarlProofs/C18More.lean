/-
  C18More.lean — C18 (`human_repr()` is readable and round-trips): the families, the URL-level readability
  statement and the minimality of the `unsafe` lists that C18Headline.lean lists as GAPS 2, 5 and 6.
  (Helper lemmas: Lemmas/HumanStores.lean, Lemmas/HumanMore.lean, Lemmas/HumanReach.lean; non-vacuity checks:
  C18MoreChecks.lean.)

  GAP 2 — `URL(u.human_repr()) == u` for the families not covered by `C18_roundtrip_full`
  (all under the NFKC proviso when the shown authority is not ASCII):
    * `C18_roundtrip_stored`          : any URL object (constructor, build, modifier) that stores the
                                        encodings of decoded components (`HumanMore.Stores`)
    * `C18_roundtrip_build_general`   : `URL.build` with any user / password, EMPTY or rooted path, any query argument
    * `C18_roundtrip_empty_path`, `C18_roundtrip_host_only` : (a) `build(host=…)` without a path
    * `C18_roundtrip_empty_user`, `C18_roundtrip_empty_password` : (b)
    * `C18_roundtrip_query_mapping`, `C18_roundtrip_query_mapping_str_int` : (c) query given as a mapping
    * `C18_roundtrip_query_string`    : (c) `build(query_string=…)` / `build(query="k=v&…")` in key=value form
    * `C18_roundtrip_query_string_fails` : FINDING — a query string that is not in that form does NOT round-trip
    * `C18_roundtrip_constructor`, `C18_roundtrip_constructor_canonical` : (d) constructor-made URLs
    * `C18_roundtrip_constructor_fails` : FINDING — `URL("http://example.com/a%2Fb")` etc. do not round-trip
    * `C18_roundtrip_with_fragment`, `C18_roundtrip_with_query`, `C18_roundtrip_with_user`,
      `C18_roundtrip_truediv`         : (e) URLs made by modifiers
    * `C18_roundtrip_upper_scheme_now_holds` : (f) `build` lower-cases the scheme (fix e21485a): "HTTP" round-trips
    * `C18_roundtrip_upper_scheme`    : (f) `build(SC, …)` IS `build(SC.lower(), …)` and round-trips, for any case of `SC`
  GAP 5 — `C18_printable_shown_url` : every occurrence of a printable non-ASCII character of the decoded
    components is a literal occurrence in `human_repr()` (count equation)
  GAP 6 — `C18_unsafe_char_needed` (+ `C18_unsafe_char_needed_decoded`: ';' in keys / values and '=' in values only
    keep the RAW query string the same) : every generated escape is needed, EXCEPT three:
    `C18_unsafe_char_not_needed`, `C18_roundtrip_relaxed` (FINDING: '@' in the user, ':' and '@' in the password
    are escaped although yarl's parser reads them back correctly when left literal)
-/
import YarlProofs.Lemmas.HumanReach
import YarlProofs.Lemmas.BuildFix
namespace Yarl

open HumanLemmas HumanFull HumanMore HumanRelax HumanStores HumanReach QueryUrl QsLemmas NetlocLemmas

/-! ## GAP 2 — any URL object that stores encodings, and the general `build` theorem -/

/-- (`HumanMore.roundtrip_stored` for a host of one of the kinds `HostKind`.)  `URL(u.human_repr()) == u` for EVERY URL
    object `u` — made by the constructor, by `build` or by a modifier — that stores the encodings of decoded
    components `user pw H port p kvs f` (`HumanMore.Stores`:
    netloc = `[QUOTER(user)[:QUOTER(pw)]@]H[:port]`, path = PATH_QUOTER("/" ++ p) or empty with p = "",
    query = `k=v&…` of the QUERY_PART_QUOTER, fragment = FRAGMENT_QUOTER(f); the cache pre-fill of
    `encode_url`, if present, agrees), with a valid scheme, a host of one of the kinds of `HostKind`, a decoded
    path without dot segments — under the NFKC proviso when the shown authority is not ASCII. -/
theorem C18_roundtrip_stored (e : Env) (u : Url) (user pw : Option Str) (h H D : Str) (port : Option Nat)
    (p : Str) (kvs : List (Str × Str)) (f : Str)
    (vs : ValidScheme u.scheme) (hk : HostKind e h H D) (hport : ∀ x, port = some x → x ≤ 65535)
    (hu : UText user) (hune : ∀ s, user = some s → s ≠ []) (hw : UText pw)
    (hp : PyStr (47 :: p)) (hn : NoSurrogate (47 :: p)) (hnorm : normalizePath (47 :: p) = 47 :: p)
    (hg : GoodPairs kvs) (hf : PyStr f) (hfn : NoSurrogate f)
    (st : Stores e u user pw H port p kvs f) :
    ∀ hr, humanRepr e u = .ok hr →
      (isAscii (Rfc.appendixB Gen.schemeChars hr).authority = false →
        checkNetloc e.o (Rfc.appendixB Gen.schemeChars hr).authority = .ok ()) →
      ∃ v, encodeUrl e hr = .ok v ∧ Url.beq v u = true := by
  intro hr hh hnf
  obtain ⟨v, h1, h2, _⟩ := roundtrip_stored e u user pw h H D port p kvs f vs hk.rt hport hu hune hw hp hn hnorm
    hg hf hfn st hr hh hnf
  exact ⟨v, h1, h2⟩

/-- `URL.build(scheme, user, password, host, port, path, query | query_string, fragment)` in general:
    ANY user and password (a user "" is dropped), an EMPTY or rooted path, a query argument of any kind
    that renders to the text of the pairs `kvs` (`hq1`), or a query string that QUERY_QUOTER maps to it
    (`hq2`) — `URL(u.human_repr()) == u` (NFKC proviso). -/
theorem C18_roundtrip_build_general (e : Env) (sc : Str) (user pw : Option Str) (h H D : Str)
    (port : Option Nat) (path : Str) (qa : QArg) (qs : Str) (kvs : List (Str × Str)) (f : Str)
    (vs : ValidScheme sc) (hk : HostKind e h H D) (hport : ∀ x, port = some x → x ≤ 65535)
    (hu : UText user) (hw : UText pw)
    (hpath : path = [] ∨ ∃ p, path = 47 :: p ∧ PyStr (47 :: p) ∧ NoSurrogate (47 :: p))
    (hg : GoodPairs kvs)
    (hq1 : qargTruthy qa = true → qs = [] ∧ getStrQuery e.b qa = .ok (some (qtext e.b kvs)))
    (hq2 : qargTruthy qa = false → qtext e.b kvs = if qs.isEmpty then qs else q e Gen.QUERY_QUOTER qs)
    (hf : PyStr f) (hfn : NoSurrogate f) :
    ∃ u, build e { scheme := sc, user := user, password := pw, host := h, port := port.map Int.ofNat,
                   path := path, query := qa, queryString := qs, fragment := f } = .ok u ∧
      ∀ hr, humanRepr e u = .ok hr →
        (isAscii (Rfc.appendixB Gen.schemeChars hr).authority = false →
          checkNetloc e.o (Rfc.appendixB Gen.schemeChars hr).authority = .ok ()) →
        ∃ v, encodeUrl e hr = .ok v ∧ Url.beq v u = true := by
  obtain ⟨u, hb, _, _, _, _, hr⟩ := roundtrip_build e sc user pw h H D port path qa qs kvs f vs hk.rt hport hu hw
    hpath hg hq1 hq2 hf hfn
  refine ⟨u, hb, fun t hh hnf => ?_⟩
  obtain ⟨v, h1, h2, _⟩ := hr t hh hnf
  exact ⟨v, h1, h2⟩

/-! ## (a) EMPTY path with an authority -/

/-- (a) `URL.build(scheme=…, [user, password,] host=…, [port,] [query=pairs,] [fragment=…])` WITHOUT a path:
    the URL stores the empty path, `human_repr()` shows "/" (before '?' / '#' too), `URL(…)` of it stores
    "/" — and `==` holds, because `==` compares an empty path under an authority as "/". -/
theorem C18_roundtrip_empty_path (e : Env) (sc : Str) (user pw : Option Str) (h H D : Str)
    (port : Option Nat) (kvs : List (Str × Str)) (f : Str)
    (vs : ValidScheme sc) (hk : HostKind e h H D) (hport : ∀ x, port = some x → x ≤ 65535)
    (hu : UText user) (hw : UText pw) (hg : GoodPairs kvs) (hf : PyStr f) (hfn : NoSurrogate f) :
    ∃ u, build e { scheme := sc, user := user, password := pw, host := h, port := port.map Int.ofNat,
                   query := .pairs (strItems kvs), fragment := f } = .ok u ∧ u.path = [] ∧
      ∀ hr, humanRepr e u = .ok hr →
        (isAscii (Rfc.appendixB Gen.schemeChars hr).authority = false →
          checkNetloc e.o (Rfc.appendixB Gen.schemeChars hr).authority = .ok ()) →
        ∃ v, encodeUrl e hr = .ok v ∧ Url.beq v u = true ∧ v.path = [47] := by
  obtain ⟨u, hb, _, hpth, _, _, hr⟩ := roundtrip_build e sc user pw h H D port [] (.pairs (strItems kvs)) [] kvs f
    vs hk.rt hport hu hw (Or.inl rfl) hg (queryArgOf_hq1 (queryArgOf_pairs e.b kvs))
    (queryArgOf_hq2 (queryArgOf_pairs e.b kvs)) hf hfn
  refine ⟨u, hb, hpth, fun t hh hnf => ?_⟩
  obtain ⟨v, h1, h2, _, h4⟩ := hr t hh hnf
  exact ⟨v, h1, h2, by rw [h4]; exact PathAlg.q_path_slash e⟩

/-- (a), the three shapes spelled out: `build(scheme, host)` alone, with a query, with a fragment -/
theorem C18_roundtrip_host_only (e : Env) (sc h H D : Str) (vs : ValidScheme sc) (hk : HostKind e h H D) :
    ∃ u, build e { scheme := sc, host := h } = .ok u ∧
      ∀ hr, humanRepr e u = .ok hr →
        (isAscii (Rfc.appendixB Gen.schemeChars hr).authority = false →
          checkNetloc e.o (Rfc.appendixB Gen.schemeChars hr).authority = .ok ()) →
        ∃ v, encodeUrl e hr = .ok v ∧ Url.beq v u = true := by
  have hut : UText none := by intro s hs; cases hs
  obtain ⟨u, hb, _, _, _, _, hr⟩ := roundtrip_build e sc none none h H D none [] .none [] [] [] vs hk.rt
    (by intro x hx; cases hx) hut hut (Or.inl rfl) (by intro p hp; cases hp) (by intro ht; cases ht)
    (fun _ => rfl) (by decide) (by decide)
  refine ⟨u, hb, fun t hh hnf => ?_⟩
  obtain ⟨v, h1, h2, _⟩ := hr t hh hnf
  exact ⟨v, h1, h2⟩

/-! ## (b) a user given as "", an empty password -/

/-- (b) a user given as "" (next to a password or not) is dropped by `build`: the URL is the one built
    without a user — and round-trips -/
theorem C18_roundtrip_empty_user (e : Env) (sc : Str) (pw : Option Str) (h H D : Str)
    (port : Option Nat) (p : Str) (kvs : List (Str × Str)) (f : Str)
    (vs : ValidScheme sc) (hk : HostKind e h H D) (hport : ∀ x, port = some x → x ≤ 65535)
    (hw : UText pw) (hp : PyStr (47 :: p)) (hn : NoSurrogate (47 :: p)) (hg : GoodPairs kvs)
    (hf : PyStr f) (hfn : NoSurrogate f) :
    ∃ u, build e (fullArgs sc (some []) pw h port p kvs f) = .ok u ∧
      build e (fullArgs sc none pw h port p kvs f) = .ok u ∧ rawUser e u = .ok none ∧
      ∀ hr, humanRepr e u = .ok hr →
        (isAscii (Rfc.appendixB Gen.schemeChars hr).authority = false →
          checkNetloc e.o (Rfc.appendixB Gen.schemeChars hr).authority = .ok ()) →
        ∃ v, encodeUrl e hr = .ok v ∧ Url.beq v u = true := by
  have hu : UText (some ([] : Str)) := by intro s hs; cases hs; exact ⟨by decide, by decide⟩
  have hut : UText none := by intro s hs; cases hs
  have hpath : (47 :: p) = [] ∨ ∃ p', (47 :: p) = 47 :: p' ∧ PyStr (47 :: p') ∧ NoSurrogate (47 :: p') :=
    Or.inr ⟨p, rfl, hp, hn⟩
  obtain ⟨u, hb, _, _, _, st, hr⟩ := roundtrip_build e sc (some []) pw h H D port (47 :: p)
    (.pairs (strItems kvs)) [] kvs f vs hk.rt hport hu hw hpath hg (queryArgOf_hq1 (queryArgOf_pairs e.b kvs))
    (queryArgOf_hq2 (queryArgOf_pairs e.b kvs)) hf hfn
  have hb0 := build_core e sc sc (vs.lowerAny_eq e) none pw h H port (47 :: p) (.pairs (strItems kvs)) [] (qtext e.b kvs) f
    hk.rt.hne hk.rt.okH.1 hk.rt.build hport hpath (queryArgOf_hq1 (queryArgOf_pairs e.b kvs))
    (queryArgOf_hq2 (queryArgOf_pairs e.b kvs))
  have hb1 := build_core e sc sc (vs.lowerAny_eq e) (some []) pw h H port (47 :: p) (.pairs (strItems kvs)) [] (qtext e.b kvs) f
    hk.rt.hne hk.rt.okH.1 hk.rt.build hport hpath (queryArgOf_hq1 (queryArgOf_pairs e.b kvs))
    (queryArgOf_hq2 (queryArgOf_pairs e.b kvs))
  have hsame : build e (fullArgs sc none pw h port p kvs f) = build e (fullArgs sc (some []) pw h port p kvs f) := by
    unfold fullArgs
    rw [hb0, hb1, authText_dropEmpty e (some []) _ H _]; rfl
  have hnet := st.net (by intro s hs; cases hs) hk.rt.okH (effPort_range hport)
  refine ⟨u, hb, hsame ▸ hb, by unfold rawUser; rw [hnet]; rfl, fun t hh hnf => ?_⟩
  obtain ⟨v, h1, h2, _⟩ := hr t hh hnf
  exact ⟨v, h1, h2⟩

/-- (b) an EMPTY password (`password=""`): stored as `user:@host`, shown as `user:@host`, read back as the
    empty password — not as "no password" -/
theorem C18_roundtrip_empty_password (e : Env) (sc : Str) (user : Option Str) (h H D : Str)
    (port : Option Nat) (p : Str) (kvs : List (Str × Str)) (f : Str)
    (vs : ValidScheme sc) (hk : HostKind e h H D) (hport : ∀ x, port = some x → x ≤ 65535)
    (hu : UText user) (hp : PyStr (47 :: p)) (hn : NoSurrogate (47 :: p)) (hg : GoodPairs kvs)
    (hf : PyStr f) (hfn : NoSurrogate f) :
    ∃ u, build e (fullArgs sc user (some []) h port p kvs f) = .ok u ∧ rawPassword e u = .ok (some []) ∧
      ∀ hr, humanRepr e u = .ok hr →
        (isAscii (Rfc.appendixB Gen.schemeChars hr).authority = false →
          checkNetloc e.o (Rfc.appendixB Gen.schemeChars hr).authority = .ok ()) →
        ∃ v, encodeUrl e hr = .ok v ∧ Url.beq v u = true ∧ rawPassword e v = .ok (some []) := by
  have hw : UText (some ([] : Str)) := by intro s hs; cases hs; exact ⟨by decide, by decide⟩
  have hpath : (47 :: p) = [] ∨ ∃ p', (47 :: p) = 47 :: p' ∧ PyStr (47 :: p') ∧ NoSurrogate (47 :: p') :=
    Or.inr ⟨p, rfl, hp, hn⟩
  obtain ⟨u, hb, _, _, _, st, hr⟩ := roundtrip_build e sc user (some []) h H D port (47 :: p)
    (.pairs (strItems kvs)) [] kvs f vs hk.rt hport hu hw hpath hg (queryArgOf_hq1 (queryArgOf_pairs e.b kvs))
    (queryArgOf_hq2 (queryArgOf_pairs e.b kvs)) hf hfn
  have hnet := st.net (userOK_quoted e _ (dropEmpty_utext hu) (dropEmpty_ne user)) hk.rt.okH (effPort_range hport)
  refine ⟨u, hb, by unfold rawPassword; rw [hnet]; simp [q_nil, Except.map], fun t hh hnf => ?_⟩
  obtain ⟨v, h1, h2, h3, _⟩ := hr t hh hnf
  refine ⟨v, h1, h2, ?_⟩
  unfold rawPassword net
  rw [h3]
  simp [preOf, q_nil, Except.map, pure, Except.pure]

/-! ## (c) the query given as a mapping, or as a string -/

/-- (c) the query given as a MAPPING (dict / MultiDict / kwargs) whose values are str, int or float, or
    lists / tuples of them: `expandItems items = some kvs` says what pairs it denotes (ints by `str()`,
    a list value one pair per element) -/
theorem C18_roundtrip_query_mapping (e : Env) (sc : Str) (user pw : Option Str) (h H D : Str)
    (port : Option Nat) (path : Str) (items : List (Str × QItem)) (kvs : List (Str × Str)) (f : Str)
    (vs : ValidScheme sc) (hk : HostKind e h H D) (hport : ∀ x, port = some x → x ≤ 65535)
    (hu : UText user) (hw : UText pw)
    (hpath : path = [] ∨ ∃ p, path = 47 :: p ∧ PyStr (47 :: p) ∧ NoSurrogate (47 :: p))
    (hitems : expandItems items = some kvs) (hg : GoodPairs kvs) (hf : PyStr f) (hfn : NoSurrogate f) :
    ∃ u, build e { scheme := sc, user := user, password := pw, host := h, port := port.map Int.ofNat,
                   path := path, query := .mapping items, fragment := f } = .ok u ∧
      u.query = qtext e.b kvs ∧
      ∀ hr, humanRepr e u = .ok hr →
        (isAscii (Rfc.appendixB Gen.schemeChars hr).authority = false →
          checkNetloc e.o (Rfc.appendixB Gen.schemeChars hr).authority = .ok ()) →
        ∃ v, encodeUrl e hr = .ok v ∧ Url.beq v u = true := by
  obtain ⟨u, hb, _, _, hq, _, hr⟩ := roundtrip_build e sc user pw h H D port path (.mapping items) [] kvs f
    vs hk.rt hport hu hw hpath hg (queryArgOf_hq1 (queryArgOf_mapping e.b items kvs hitems))
    (queryArgOf_hq2 (queryArgOf_mapping e.b items kvs hitems)) hf hfn
  refine ⟨u, hb, hq, fun t hh hnf => ?_⟩
  obtain ⟨v, h1, h2, _⟩ := hr t hh hnf
  exact ⟨v, h1, h2⟩

/-- (c) the query given as a STRING — `build(query_string=s)` — in `k1=v1&k2=v2…` form whose keys and
    values contain none of the characters QUERY_QUOTER protects ('=', '+', '&', ';': `QueryPlain`):
    it is the URL of `build(query=pairs)`, and round-trips.  (Outside this form the round trip FAILS:
    `C18_roundtrip_query_string_fails`.) -/
theorem C18_roundtrip_query_string (e : Env) (sc : Str) (user pw : Option Str) (h H D : Str)
    (port : Option Nat) (path : Str) (kvs : List (Str × Str)) (f : Str)
    (vs : ValidScheme sc) (hk : HostKind e h H D) (hport : ∀ x, port = some x → x ≤ 65535)
    (hu : UText user) (hw : UText pw)
    (hpath : path = [] ∨ ∃ p, path = 47 :: p ∧ PyStr (47 :: p) ∧ NoSurrogate (47 :: p))
    (hg : GoodPairs kvs) (hplain : ∀ p ∈ kvs, QueryPlain p.1 ∧ QueryPlain p.2)
    (hf : PyStr f) (hfn : NoSurrogate f) :
    ∃ u, build e { scheme := sc, user := user, password := pw, host := h, port := port.map Int.ofNat,
                   path := path, queryString := rawQuery kvs, fragment := f } = .ok u ∧
      build e { scheme := sc, user := user, password := pw, host := h, port := port.map Int.ofNat,
                path := path, query := .str (rawQuery kvs), fragment := f } = .ok u ∧
      build e { scheme := sc, user := user, password := pw, host := h, port := port.map Int.ofNat,
                path := path, query := .pairs (strItems kvs), fragment := f } = .ok u ∧
      ∀ hr, humanRepr e u = .ok hr →
        (isAscii (Rfc.appendixB Gen.schemeChars hr).authority = false →
          checkNetloc e.o (Rfc.appendixB Gen.schemeChars hr).authority = .ok ()) →
        ∃ v, encodeUrl e hr = .ok v ∧ Url.beq v u = true := by
  obtain ⟨u, hb, _, _, _, _, hr⟩ := roundtrip_build e sc user pw h H D port path .none (rawQuery kvs) kvs f
    vs hk.rt hport hu hw hpath hg (by intro ht; cases ht) (fun _ => rawQuery_hq2 e kvs hg hplain) hf hfn
  have hb0 := build_core e sc sc (vs.lowerAny_eq e) user pw h H port path .none (rawQuery kvs) (qtext e.b kvs) f
    hk.rt.hne hk.rt.okH.1 hk.rt.build hport hpath (by intro ht; cases ht) (fun _ => rawQuery_hq2 e kvs hg hplain)
  have hb1 := build_core e sc sc (vs.lowerAny_eq e) user pw h H port path (.str (rawQuery kvs)) [] (qtext e.b kvs) f
    hk.rt.hne hk.rt.okH.1 hk.rt.build hport hpath (queryArgOf_hq1 (queryArgOf_str e kvs hg hplain))
    (queryArgOf_hq2 (queryArgOf_str e kvs hg hplain))
  have hb2 := build_core e sc sc (vs.lowerAny_eq e) user pw h H port path (.pairs (strItems kvs)) [] (qtext e.b kvs) f
    hk.rt.hne hk.rt.okH.1 hk.rt.build hport hpath (queryArgOf_hq1 (queryArgOf_pairs e.b kvs))
    (queryArgOf_hq2 (queryArgOf_pairs e.b kvs))
  rw [hb0] at hb
  refine ⟨u, hb ▸ hb0, hb ▸ hb1, hb ▸ hb2, fun t hh hnf => ?_⟩
  obtain ⟨v, h1, h2, _⟩ := hr t hh hnf
  exact ⟨v, h1, h2⟩

/-- (c) … in particular a mapping `{k: v, …}` whose values are str or int: an int is shown by `str()`; only the
    keys and the str values have to be Python strings without lone surrogates -/
theorem C18_roundtrip_query_mapping_str_int (e : Env) (sc : Str) (user pw : Option Str) (h H D : Str)
    (port : Option Nat) (path : Str) (l : List (Str × (Str ⊕ Int))) (f : Str)
    (vs : ValidScheme sc) (hk : HostKind e h H D) (hport : ∀ x, port = some x → x ≤ 65535)
    (hu : UText user) (hw : UText pw)
    (hpath : path = [] ∨ ∃ p, path = 47 :: p ∧ PyStr (47 :: p) ∧ NoSurrogate (47 :: p))
    (hl : ∀ kv ∈ l, GoodText kv.1 ∧ ∀ s, kv.2 = .inl s → GoodText s) (hf : PyStr f) (hfn : NoSurrogate f) :
    ∃ u, build e { scheme := sc, user := user, password := pw, host := h, port := port.map Int.ofNat,
                   path := path, query := .mapping (siItems l), fragment := f } = .ok u ∧
      u.query = qtext e.b (siPairs l) ∧
      ∀ hr, humanRepr e u = .ok hr →
        (isAscii (Rfc.appendixB Gen.schemeChars hr).authority = false →
          checkNetloc e.o (Rfc.appendixB Gen.schemeChars hr).authority = .ok ()) →
        ∃ v, encodeUrl e hr = .ok v ∧ Url.beq v u = true :=
  C18_roundtrip_query_mapping e sc user pw h H D port path (siItems l) (siPairs l) f vs hk hport hu hw hpath
    (expand_si l) (siPairs_good l hl) hf hfn

/-! ## (d) URLs made by the CONSTRUCTOR -/

set_option linter.unusedVariables false in
/-- (d) a URL object `u` made by the constructor (`encodeUrl e s = .ok u`) — or in any other way — whose
    accessors say that it stores the encodings of decoded components: `raw_user == QUOTER(user)`,
    `raw_password == QUOTER(password)`, `raw_host == H`, `explicit_port == port`, the netloc is
    `[raw_user[:raw_password]@]host[:port]`, `raw_path == PATH_QUOTER("/" ++ p)` (or is empty),
    `raw_query_string` is the `k=v&…` text of the QUERY_PART_QUOTER, `raw_fragment == FRAGMENT_QUOTER(f)`.
    These are the component conditions "decode, then encode, gives back what is stored" (`user = UNQUOTER(raw_user)`
    etc.); they FAIL for e.g. `URL("http://example.com/a%2Fb")` — and so does the round trip:
    `C18_roundtrip_constructor_fails`. -/
theorem C18_roundtrip_constructor (e : Env) (s : Str) (u : Url) (hctor : encodeUrl e s = .ok u)
    (user pw : Option Str) (h H D : Str) (port : Option Nat) (p : Str) (kvs : List (Str × Str)) (f : Str)
    (vs : ValidScheme u.scheme) (hk : HostKind e h H D) (hport : ∀ x, port = some x → x ≤ 65535)
    (hu : UText user) (hune : ∀ s, user = some s → s ≠ []) (hw : UText pw)
    (hp : PyStr (47 :: p)) (hn : NoSurrogate (47 :: p)) (hnorm : normalizePath (47 :: p) = 47 :: p)
    (hg : GoodPairs kvs) (hf : PyStr f) (hfn : NoSurrogate f)
    (hU : rawUser e u = .ok (user.map (q e Gen.QUOTER))) (hP : rawPassword e u = .ok (pw.map (q e Gen.QUOTER)))
    (hH : rawHost e u = .ok (some H)) (hE : explicitPort e u = .ok port)
    (hnl : u.netloc = authText (user.map (q e Gen.QUOTER)) (pw.map (q e Gen.QUOTER)) H port)
    (hpath : u.path = q e Gen.PATH_QUOTER (47 :: p) ∨ (u.path = [] ∧ p = []))
    (hquery : u.query = qtext e.b kvs) (hfrag : u.fragment = fragText e f) :
    ∀ hr, humanRepr e u = .ok hr →
      (isAscii (Rfc.appendixB Gen.schemeChars hr).authority = false →
        checkNetloc e.o (Rfc.appendixB Gen.schemeChars hr).authority = .ok ()) →
      ∃ v, encodeUrl e hr = .ok v ∧ Url.beq v u = true :=
  C18_roundtrip_stored e u user pw h H D port p kvs f vs hk hport hu hune hw hp hn hnorm hg hf hfn
    (stores_of_accessors e u user pw H port p kvs f hU hP hH hE hnl hpath hquery hfrag)

/-- (d) non-vacuity in general: for EVERY tuple of decoded components the constructor, applied to the string
    scheme "://" authority path "?" query "#" fragment made of their encodings, gives such a URL — and it
    round-trips: `URL(URL(s).human_repr()) == URL(s)` -/
theorem C18_roundtrip_constructor_canonical (e : Env) (sc : Str) (user pw : Option Str) (h H D : Str)
    (port : Option Nat) (p : Str) (kvs : List (Str × Str)) (f : Str)
    (vs : ValidScheme sc) (hk : HostKind e h H D) (hport : ∀ x, port = some x → x ≤ 65535)
    (hu : UText user) (hune : ∀ s, user = some s → s ≠ []) (hw : UText pw)
    (hp : PyStr (47 :: p)) (hn : NoSurrogate (47 :: p)) (hnorm : normalizePath (47 :: p) = 47 :: p)
    (hg : GoodPairs kvs) (hf : PyStr f) (hfn : NoSurrogate f) :
    ∃ u, encodeUrl e (composeUrl sc (authText (user.map (q e Gen.QUOTER)) (pw.map (q e Gen.QUOTER)) H port)
        (q e Gen.PATH_QUOTER (47 :: p)) (qtext e.b kvs) (fragText e f)) = .ok u ∧
      u.pre = some (preOf (user.map (q e Gen.QUOTER)) (pw.map (q e Gen.QUOTER)) H port) ∧
      ∀ hr, humanRepr e u = .ok hr →
        (isAscii (Rfc.appendixB Gen.schemeChars hr).authority = false →
          checkNetloc e.o (Rfc.appendixB Gen.schemeChars hr).authority = .ok ()) →
        ∃ v, encodeUrl e hr = .ok v ∧ Url.beq v u = true ∧ v = u := by
  refine ⟨_, ctor_encoded e sc user pw H port p kvs f vs hk.fix hport hu hune hw hp hn hnorm hg hf, rfl, ?_⟩
  intro hr hh hnf
  obtain ⟨v, h1, h2, h3, h4⟩ := roundtrip_stored e _ user pw h H D port p kvs f vs hk.rt hport hu hune hw hp hn
    hnorm hg hf hfn (stores_ctor e sc user pw H port p kvs f) hr hh hnf
  refine ⟨v, h1, h2, ?_⟩
  exact url_eq_of v _ h2 h4 h3

/-! ## (e) URLs made by MODIFIERS on such URLs -/

/-- (e) `u.with_fragment(f')` (`None` is "") -/
theorem C18_roundtrip_with_fragment (e : Env) (u : Url) (user pw : Option Str) (h H D : Str)
    (port : Option Nat) (p : Str) (kvs : List (Str × Str)) (f : Str) (f' : Option Str)
    (vs : ValidScheme u.scheme) (hk : HostKind e h H D) (hport : ∀ x, port = some x → x ≤ 65535)
    (hu : UText user) (hune : ∀ s, user = some s → s ≠ []) (hw : UText pw)
    (hp : PyStr (47 :: p)) (hn : NoSurrogate (47 :: p)) (hnorm : normalizePath (47 :: p) = 47 :: p)
    (hg : GoodPairs kvs) (hf' : UText f')
    (st : Stores e u user pw H port p kvs f) :
    ∀ hr, humanRepr e (withFragment e u f') = .ok hr →
      (isAscii (Rfc.appendixB Gen.schemeChars hr).authority = false →
        checkNetloc e.o (Rfc.appendixB Gen.schemeChars hr).authority = .ok ()) →
      ∃ v, encodeUrl e hr = .ok v ∧ Url.beq v (withFragment e u f') = true := by
  obtain ⟨hsc, st'⟩ := stores_withFragment e u user pw H port p kvs f st f'
  exact C18_roundtrip_stored e _ user pw h H D port p kvs (f'.getD []) (hsc ▸ vs) hk hport hu hune hw hp hn hnorm
    hg (utext_getD hf').1 (utext_getD hf').2 st'

/-- (e) `u.with_query(a)` for a query argument `a` (pairs, mapping, …) that renders to the text of the pairs
    `kvs'` — e.g. `.pairs (strItems kvs')` (`getStrQuery_strItems`) or a mapping (`getStrQuery_mapping`) -/
theorem C18_roundtrip_with_query (e : Env) (u : Url) (user pw : Option Str) (h H D : Str)
    (port : Option Nat) (p : Str) (kvs : List (Str × Str)) (f : Str) (a : QArg) (kvs' : List (Str × Str))
    (vs : ValidScheme u.scheme) (hk : HostKind e h H D) (hport : ∀ x, port = some x → x ≤ 65535)
    (hu : UText user) (hune : ∀ s, user = some s → s ≠ []) (hw : UText pw)
    (hp : PyStr (47 :: p)) (hn : NoSurrogate (47 :: p)) (hnorm : normalizePath (47 :: p) = 47 :: p)
    (hf : PyStr f) (hfn : NoSurrogate f)
    (ha : getStrQuery e.b a = .ok (some (qtext e.b kvs'))) (hg' : GoodPairs kvs')
    (st : Stores e u user pw H port p kvs f) :
    ∃ w, withQuery e u a = .ok w ∧ w.query = qtext e.b kvs' ∧
      ∀ hr, humanRepr e w = .ok hr →
        (isAscii (Rfc.appendixB Gen.schemeChars hr).authority = false →
          checkNetloc e.o (Rfc.appendixB Gen.schemeChars hr).authority = .ok ()) →
        ∃ v, encodeUrl e hr = .ok v ∧ Url.beq v w = true := by
  obtain ⟨w, hw1, hw2, st'⟩ := stores_withQuery e u user pw H port p kvs f st a kvs' ha
  exact ⟨w, hw1, st'.query, C18_roundtrip_stored e w user pw h H D port p kvs' f (hw2 ▸ vs) hk hport hu hune hw hp hn
    hnorm hg' hf hfn st'⟩

/-- (e) `u.with_user(usr')`: the new user is encoded, password / host / port are kept (`with_user(None)`
    removes user and password; `with_user("")` leaves no user) -/
theorem C18_roundtrip_with_user (e : Env) (u : Url) (user pw : Option Str) (h H D : Str)
    (port : Option Nat) (p : Str) (kvs : List (Str × Str)) (f : Str) (usr' : Option Str)
    (vs : ValidScheme u.scheme) (hk : HostKind e h H D) (hport : ∀ x, port = some x → x ≤ 65535)
    (hu : UText user) (hune : ∀ s, user = some s → s ≠ []) (hw : UText pw) (hu' : UText usr')
    (hp : PyStr (47 :: p)) (hn : NoSurrogate (47 :: p)) (hnorm : normalizePath (47 :: p) = 47 :: p)
    (hg : GoodPairs kvs) (hf : PyStr f) (hfn : NoSurrogate f)
    (st : Stores e u user pw H port p kvs f) :
    ∃ w, withUser e u usr' = .ok w ∧
      ∀ hr, humanRepr e w = .ok hr →
        (isAscii (Rfc.appendixB Gen.schemeChars hr).authority = false →
          checkNetloc e.o (Rfc.appendixB Gen.schemeChars hr).authority = .ok ()) →
        ∃ v, encodeUrl e hr = .ok v ∧ Url.beq v w = true := by
  obtain ⟨w, hw1, hw2, st'⟩ := stores_withUser e u user pw H port p kvs f st usr' hu hune hk.rt.okH hport
  exact ⟨w, hw1, C18_roundtrip_stored e w _ _ h H D port p kvs f (hw2 ▸ vs) hk hport (dropEmpty_utext hu')
    (dropEmpty_ne usr') (utext_ite hw _) hp hn hnorm hg hf hfn st'⟩

/-- (e) `u / s` (`__truediv__` / `joinpath` with one argument: `_make_child((s,))`) for a text `s` that does not
    start with "/" and has no '.', on a URL with a non-empty stored path without dot segments: the child's
    path is the encoding of the decoded path `"/" ++ childTail p s`; query and fragment are dropped -/
theorem C18_roundtrip_truediv (e : Env) (u : Url) (user pw : Option Str) (h H D : Str)
    (port : Option Nat) (p : Str) (kvs : List (Str × Str)) (f : Str) (s : Str)
    (vs : ValidScheme u.scheme) (hk : HostKind e h H D) (hport : ∀ x, port = some x → x ≤ 65535)
    (hu : UText user) (hune : ∀ s, user = some s → s ≠ []) (hw : UText pw)
    (hp : PyStr (47 :: p)) (hn : NoSurrogate (47 :: p)) (hnd : FixLemmas.NoDotSegs (47 :: p))
    (hs : PyStr s) (hsn : NoSurrogate s) (hs0 : s.head? ≠ some 47) (hdot : 46 ∉ s)
    (st : Stores e u user pw H port p kvs f) (hpath : u.path = q e Gen.PATH_QUOTER (47 :: p)) :
    ∃ w, makeChild e u [s] false = .ok w ∧ w.path = q e Gen.PATH_QUOTER (47 :: childTail p s) ∧
      ∀ hr, humanRepr e w = .ok hr →
        (isAscii (Rfc.appendixB Gen.schemeChars hr).authority = false →
          checkNetloc e.o (Rfc.appendixB Gen.schemeChars hr).authority = .ok ()) →
        ∃ v, encodeUrl e hr = .ok v ∧ Url.beq v w = true := by
  have hH := hk.rt.okH.1
  have hnorm := FixLemmas.normalizePath_noDotSegs hnd
  have hg1 : ∀ a ∈ [s], PyStr a ∧ NoSurrogate a := List.forall_mem_singleton.mpr ⟨hs, hsn⟩
  -- `u / s` is `joinpath` with one argument; without '.' in `s` its decoded path is `"/" ++ childTail p s`
  obtain ⟨w, hw1, hw2, hw3, st'⟩ := stores_joinpath e u user pw H port p kvs f st hH hp hn [s] (by simp) hg1
    (List.forall_mem_singleton.mpr hs0) hnorm
  obtain ⟨g1, g2, g3⟩ := joinpath_good e u user pw H port p kvs f st hp hn hnorm [s] (by simp) hg1
  have hpD : pathD u p = 47 :: p := by
    unfold pathD
    rw [hpath, q_path_cons_slash e p hp]
    rfl
  rw [hpD, joinPathD_one p s hdot] at st' g1 g2 g3 hw3
  refine ⟨w, hw1, ?_, C18_roundtrip_stored e w user pw h H D port (childTail p s) [] [] (hw2 ▸ vs) hk hport hu hune hw
    g1 g2 g3 nofun (by decide) (by decide) st'⟩
  rw [hw3]
  exact (q_path_flatMap e _ g1 g2).symm

/-! ## (f) an upper-case scheme -/

/-- (f) `build` stores the scheme lower-case, as `URL(…)` does (fix e21485a): for a scheme `SC` in ANY case the URL built
    with `SC` IS the URL built with `SC.lower()` — also for `scheme="HTTP", port=80`, whose port is dropped for both: the
    default port is that of the lowered scheme — and it round-trips: `URL(u.human_repr()) == u`. -/
theorem C18_roundtrip_upper_scheme (e : Env) (SC : Str) (user pw : Option Str) (h H D : Str)
    (port : Option Nat) (p : Str) (kvs : List (Str × Str)) (f : Str)
    (hSC : SchemeText SC) (hk : HostKind e h H D) (hport : ∀ x, port = some x → x ≤ 65535)
    (hu : UText user) (hune : ∀ s, user = some s → s ≠ []) (hw : UText pw)
    (hp : PyStr (47 :: p)) (hn : NoSurrogate (47 :: p)) (hg : GoodPairs kvs)
    (hf : PyStr f) (hfn : NoSurrogate f) :
    ∃ u, build e (fullArgs SC user pw h port p kvs f) = .ok u ∧
      build e (fullArgs (lower SC) user pw h port p kvs f) = .ok u ∧ u.scheme = lower SC ∧
      ∀ hr, humanRepr e u = .ok hr →
        (isAscii (Rfc.appendixB Gen.schemeChars hr).authority = false →
          checkNetloc e.o (Rfc.appendixB Gen.schemeChars hr).authority = .ok ()) →
        ∃ v, encodeUrl e hr = .ok v ∧ Url.beq v u = true := by
  have vs := validScheme_lower hSC
  have hsame : build e (fullArgs SC user pw h port p kvs f) = build e (fullArgs (lower SC) user pw h port p kvs f) :=
    build_scheme_congr e (fullArgs SC user pw h port p kvs f) SC (lower SC) rfl
      (by rw [lowerAny_schemeText e hSC, vs.lowerAny_eq e])
  obtain ⟨u, hb, hr⟩ := C18_roundtrip_full e (lower SC) user pw h H D port p kvs f vs hk hport hu hune hw hp hn
    hg hf hfn
  have hb' : build e (fullArgs (lower SC) user pw h port p kvs f) = .ok u := hb
  refine ⟨u, hsame ▸ hb', hb', ?_, hr⟩
  have := build_full e (lower SC) (lower SC) (vs.lowerAny_eq e) user pw h H port p kvs f hk.rt.hne hk.rt.okH.1
    hk.rt.build hport hp hn
  have hb'' : build e (fullArgs (lower SC) user pw h port p kvs f) = _ := this
  rw [hb'] at hb''
  rw [Except.ok.inj hb'']
  rfl

/-! ## GAP 5 — readability at URL level -/

/-- URL-LEVEL READABILITY.  For `u = URL.build(…)` of the full family: every printable non-ASCII character `c`
    (`isprintable`: oracle `isPrintableU c = some true`, `c ≥ 128`) that occurs in the decoded user, password,
    path (`"/" ++ normTail p`: the dot-segment-free path the URL has), a query key or value, or the fragment,
    occurs LITERALLY in `u.human_repr()` — and EVERY occurrence does: the number of literal occurrences of
    `c` in `human_repr()` is the number of its occurrences in those decoded components plus those in the shown
    host `D`.  So no occurrence of `c` is replaced by "%" and two hex digits (an escape is ASCII text and
    contributes no occurrence; piece by piece: `C18_human_repr_shape` + `C18_headline_minimal_escaping`). -/
theorem C18_printable_shown_url (e : Env) (sc : Str) (user pw : Option Str) (h H D : Str)
    (port : Option Nat) (p : Str) (kvs : List (Str × Str)) (f : Str)
    (vs : ValidScheme sc) (hk : HostKind e h H D) (hport : ∀ x, port = some x → x ≤ 65535)
    (hu : UText user) (hune : ∀ s, user = some s → s ≠ []) (hw : UText pw)
    (hp : PyStr (47 :: p)) (hn : NoSurrogate (47 :: p)) (hg : GoodPairs kvs)
    (hf : PyStr f) (hfn : NoSurrogate f) :
    ∃ u, build e (fullArgs sc user pw h port p kvs f) = .ok u ∧ pathDecoded e u = 47 :: normTail p ∧
      ∀ hr, humanRepr e u = .ok hr → ∀ c, 128 ≤ c → e.o.isPrintableU c = some true →
        hr.count c = occ c user + occ c pw + D.count c + (47 :: normTail p).count c + occPairs c kvs +
          f.count c ∧
        ((∃ s, user = some s ∧ c ∈ s) ∨ (∃ s, pw = some s ∧ c ∈ s) ∨ c ∈ normTail p ∨
          (∃ kv ∈ kvs, c ∈ kv.1 ∨ c ∈ kv.2) ∨ c ∈ f → c ∈ hr) := by
  obtain ⟨hb, hs⟩ := C18_human_repr_shape e sc user pw h H D port p kvs f vs hk.rt hport hu hune hw hp hn
    hg hf hfn
  have hgp := good_normalizePath hp hn
  refine ⟨_, hb, pathDecoded_of e _ (normTail p) rfl hgp.1 hgp.2, ?_⟩
  intro hr hh c hc hpr
  obtain ⟨usr, pw', rp, qparts, rf, hq, rfl⟩ := hs hr hh
  have hcount := count_human_form e sc user pw D (effPort sc port) (normTail p) kvs f usr pw' rp qparts rf vs hu
    hw hgp.1 hg hf hq c hc hpr
  refine ⟨hcount, fun hocc => ?_⟩
  apply List.count_pos_iff.mp
  rw [hcount]
  rcases hocc with ⟨s, rfl, hm⟩ | ⟨s, rfl, hm⟩ | hm | ⟨kv, hkv, hm⟩ | hm
  · have : 0 < occ c (some s) := List.count_pos_iff.mpr hm
    omega
  · have : 0 < occ c (some s) := List.count_pos_iff.mpr hm
    omega
  · have : 0 < (47 :: normTail p).count c := List.count_pos_iff.mpr (by simp [hm])
    omega
  · have := occPairs_pos c kvs kv hkv hm
    omega
  · have : 0 < f.count c := List.count_pos_iff.mpr hm
    omega

namespace HumanMore

/-- a demonstration oracle: NFKC and IDNA leave everything alone, every non-ASCII character is printable
    except U+200B (zero width space) -/
def demo : Oracles :=
  { Oracles.empty with
    nfkc := fun s => some s,
    isPrintableU := fun c => some (c != 0x200B),
    isDigitU := fun _ => some false,
    idnaDec := fun s => some (some s),
    idnaEnc := fun s => some (some s) }

/-- build → human_repr → URL(…): the five stored parts, the human form, the five parts of `URL(human)` (or its
    error), and `URL(human) == u` -/
def trip (e : Env) (a : BuildArgs) : R (Parts × Str × R (Parts × Bool)) := do
  let u ← build e a
  let hr ← humanRepr e u
  pure (u.parts, hr, do let v ← encodeUrl e hr; pure (v.parts, v.beq u))

/-- the same for a URL made by the constructor from the string `s` -/
def tripCtor (e : Env) (s : Str) : R (Parts × Str × R (Parts × Bool)) := do
  let u ← encodeUrl e s
  let hr ← humanRepr e u
  pure (u.parts, hr, do let v ← encodeUrl e hr; pure (v.parts, v.beq u))

end HumanMore

/-- FINDING (c): a query STRING that is not in `key=value` form without reserved characters does NOT
    round-trip.  `URL.build(scheme="http", host="example.com", path="/p", query_string="a")` stores the query
    `a`; `human_repr()` is `http://example.com/p?a=` (it prints the parsed pairs, `a` ↦ ("a", "")), and
    `URL("http://example.com/p?a=")` has the query `a=` ≠ `a`.  Likewise `query_string="a=b=c"`:
    `human_repr()` is `…/p?a=b%3Dc`, re-parsed query `a=b%3Dc` ≠ `a=b=c`.  Both backends. -/
theorem C18_roundtrip_query_string_fails : ∀ b : Backend,
    trip ⟨b, demo⟩ { scheme := "http".toStr, host := "example.com".toStr, path := "/p".toStr, queryString := "a".toStr } =
      .ok (⟨"http".toStr, "example.com".toStr, "/p".toStr, "a".toStr, []⟩, "http://example.com/p?a=".toStr,
        .ok (⟨"http".toStr, "example.com".toStr, "/p".toStr, "a=".toStr, []⟩, false)) ∧
    trip ⟨b, demo⟩ { scheme := "http".toStr, host := "example.com".toStr, path := "/p".toStr, queryString := "a=b=c".toStr } =
      .ok (⟨"http".toStr, "example.com".toStr, "/p".toStr, "a=b=c".toStr, []⟩,
        "http://example.com/p?a=b%3Dc".toStr,
        .ok (⟨"http".toStr, "example.com".toStr, "/p".toStr, "a=b%3Dc".toStr, []⟩, false)) ∧
    trip ⟨b, demo⟩ { scheme := "http".toStr, host := "example.com".toStr, path := "/p".toStr, query := .str "a".toStr } =
      .ok (⟨"http".toStr, "example.com".toStr, "/p".toStr, "a".toStr, []⟩, "http://example.com/p?a=".toStr,
        .ok (⟨"http".toStr, "example.com".toStr, "/p".toStr, "a=".toStr, []⟩, false)) := by
  str_lits; intro b; cases b <;> refine ⟨?_, ?_, ?_⟩ <;> decide +kernel

/-- `URL.build` stores its `scheme` argument lower-case, as the constructor does (fix e21485a), so a URL built with an
    upper-case scheme round-trips: `URL.build(scheme="HTTP", host="example.com", path="/p")` stores the scheme `http`,
    `human_repr()` is `http://example.com/p`, and `URL(…)` of it is `==` the URL.  Both backends.  (So `ValidScheme` —
    lower case — is not a needed hypothesis of the round-trip theorems for `build`: `C18_roundtrip_upper_scheme`.) -/
theorem C18_roundtrip_upper_scheme_now_holds : ∀ b : Backend,
    trip ⟨b, demo⟩ { scheme := "HTTP".toStr, host := "example.com".toStr, path := "/p".toStr } =
      .ok (⟨"http".toStr, "example.com".toStr, "/p".toStr, [], []⟩, "http://example.com/p".toStr,
        .ok (⟨"http".toStr, "example.com".toStr, "/p".toStr, [], []⟩, true)) ∧
    -- … also with the default port of the lowered scheme, which is dropped at build time
    trip ⟨b, demo⟩ { scheme := "HTTP".toStr, host := "example.com".toStr, port := some 80, path := "/p".toStr } =
      .ok (⟨"http".toStr, "example.com".toStr, "/p".toStr, [], []⟩, "http://example.com/p".toStr,
        .ok (⟨"http".toStr, "example.com".toStr, "/p".toStr, [], []⟩, true)) := by
  str_lits; intro b; cases b <;> exact ⟨by decide +kernel, by decide +kernel⟩

/-- FINDING (d): a constructor-made URL whose stored path has an ESCAPED reserved character does not satisfy
    the component conditions and does not round-trip: `URL("http://example.com/a%2Fb")` stores `/a%2Fb`,
    `human_repr()` is `http://example.com/a/b` (the decoded path), `URL(…)` of it has the path `/a/b`.
    Likewise `URL("http://example.com/?a=b;c=d")` (`;` is kept literal by the constructor, shown as `%3B`)
    and `URL("http://example.com/%FF")` (not UTF-8: shown as `%25FF`).  Both backends.  These URLs are not
    "built from decoded components". -/
theorem C18_roundtrip_constructor_fails : ∀ b : Backend,
    tripCtor ⟨b, demo⟩ "http://example.com/a%2Fb".toStr =
      .ok (⟨"http".toStr, "example.com".toStr, "/a%2Fb".toStr, [], []⟩, "http://example.com/a/b".toStr,
        .ok (⟨"http".toStr, "example.com".toStr, "/a/b".toStr, [], []⟩, false)) ∧
    tripCtor ⟨b, demo⟩ "http://example.com/?a=b;c=d".toStr =
      .ok (⟨"http".toStr, "example.com".toStr, "/".toStr, "a=b;c=d".toStr, []⟩,
        "http://example.com/?a=b%3Bc%3Dd".toStr,
        .ok (⟨"http".toStr, "example.com".toStr, "/".toStr, "a=b%3Bc%3Dd".toStr, []⟩, false)) ∧
    tripCtor ⟨b, demo⟩ "http://example.com/%FF".toStr =
      .ok (⟨"http".toStr, "example.com".toStr, "/%FF".toStr, [], []⟩, "http://example.com/%25FF".toStr,
        .ok (⟨"http".toStr, "example.com".toStr, "/%25FF".toStr, [], []⟩, false)) := by
  str_lits; intro b; cases b <;> refine ⟨?_, ?_, ?_⟩ <;> decide +kernel

/-! ## GAP 6 — minimality of the `unsafe` lists -/

namespace HumanMore

/-- the generated lists with `c` NOT escaped in position `comp` -/
def without (comp : String) (c : Nat) : String → Str :=
  fun key => if key == comp then (humanUnsafeOf key).filter (· != c) else humanUnsafeOf key

/-- the witness for position `comp` and character `c`: the text "a", c, "b" in that position of
    `URL.build(scheme="http", host="example.com", path="/p", …)` (user "u" next to a password) -/
def witness (comp : String) (c : Nat) : BuildArgs :=
  let t : Str := [97, c, 98]
  let base : BuildArgs := { scheme := "http".toStr, host := "example.com".toStr, path := "/p".toStr }
  if comp == "user" then { base with user := some t }
  else if comp == "password" then { base with user := some [117], password := some t }
  else if comp == "path" then { base with path := 47 :: t }
  else if comp == "k" then { base with query := .pairs (strItems [(t, [118])]) }
  else if comp == "v" then { base with query := .pairs (strItems [([107], t)]) }
  else { base with fragment := t }

/-- `some true`: leaving `c` literal in position `comp` of the witness gives a text that `URL(…)` rejects
    or reads as a different URL; `some false`: the round trip still holds; `none`: build / human_repr fail -/
def changesParse (b : Backend) (comp : String) (c : Nat) : Option Bool :=
  let e : Env := ⟨b, demo⟩
  match (do let u ← build e (witness comp c); let hr ← humanReprU (without comp c) e u; pure (u, hr) : R (Url × Str)) with
  | .error _ => none
  | .ok (u, hr) =>
    match encodeUrl e hr with
    | .error _ => some true
    | .ok v => some (!(v.beq u))

def unsafePairs : List (String × Nat) := Gen.humanUnsafe.flatMap (fun p => p.2.map (fun c => (p.1, c)))

/-- FINDING: the positions where the escape is NOT needed by yarl's own parser -/
def notNeeded : List (String × Nat) := [("user", 64), ("password", 58), ("password", 64)]


/-- the relaxed lists: the generated lists WITHOUT the three escapes that are not needed -/
def relaxed : String → Str :=
  fun key => (humanUnsafeOf key).filter (fun c => !notNeeded.contains (key, c))

end HumanMore

namespace HumanMore

theorem relaxed_same : SameElsewhere relaxed := by constructor <;> decide +kernel

/-- a sublist of a list that satisfies `HumanCond` satisfies it too, so the relaxed lists are compatible with the
    (re)quoter pair because the generated ones are -/
theorem relaxed_lists : AuthLists (relaxed "user") (relaxed "password") where
  compatU := fun b => compat_of_cond Gen.REQUOTER Gen.QUOTER (by decide) (by decide) rfl b
    (C18_gen_conditions b).2.2.2.2.1 ((C18_gen_conditions b).1.mono fun c hc => (List.mem_filter.mp hc).1)
  compatP := fun b => compat_of_cond Gen.REQUOTER Gen.QUOTER (by decide) (by decide) rfl b
    (C18_gen_conditions b).2.2.2.2.1 ((C18_gen_conditions b).2.1.mono fun c hc => (List.mem_filter.mp hc).1)
  avoidU := by decide +kernel
  avoidP := by decide +kernel

end HumanMore

/-- MINIMALITY.  For every position `comp` and every character `c` of its generated `unsafe` list
    (`Gen.humanUnsafe`) — except the three of `notNeeded` — NOT escaping `c` changes the parse: for the URL
    `URL.build(scheme="http", host="example.com", path="/p", <comp>="a" + c + "b")` (user "u" next to the
    password), the text `human_repr()` would give with `c` left literal in that position is rejected by
    `URL(…)` or read as a DIFFERENT URL.  Both backends, by computation over the generated lists. -/
theorem C18_unsafe_char_needed : ∀ b : Backend, ∀ p ∈ unsafePairs,
    p ∉ notNeeded → changesParse b p.1 p.2 = some true := by
  intro b; cases b <;> decide +kernel

namespace HumanMore

/-- the decoded view of a URL: `user`, `password`, `host`, `explicit_port`, `path`, the query pairs, `fragment` -/
structure DecodedView where
  user : Option Str
  password : Option Str
  host : Option Str
  port : Option Nat
  path : Str
  query : List (Str × Str)
  fragment : Str
  deriving DecidableEq, Repr

def decodedView (e : Env) (u : Url) : R DecodedView := do
  pure ⟨← user e u, ← password e u, ← host e u, ← explicitPort e u, pathDecoded e u, queryPairs u,
    fragmentDecoded e u⟩

/-- as `changesParse`, comparing the DECODED views instead of `==` -/
def changesDecoded (b : Backend) (comp : String) (c : Nat) : Option Bool :=
  let e : Env := ⟨b, demo⟩
  match (do let u ← build e (witness comp c); let hr ← humanReprU (without comp c) e u; pure (u, hr) : R (Url × Str)) with
  | .error _ => none
  | .ok (u, hr) =>
    match encodeUrl e hr with
    | .error _ => some true
    | .ok v =>
      match decodedView e v, decodedView e u with
      | .ok a, .ok b => some (decide (a ≠ b))
      | _, _ => none

/-- the escapes that only keep the RAW query string (and hence `==`) the same -/
def rawOnly : List (String × Nat) := [("k", 59), ("v", 59), ("v", 61)]

end HumanMore

/-- NUANCE of `C18_unsafe_char_needed`: for ';' in a query key or value and '=' in a query value the text with
    the character left literal re-parses to a URL with the SAME decoded view (same `.query` pairs: `parse_qsl`
    splits at '&' only and at the first '=') but a different raw query string (`k=a;b` instead of `k=a%3Bb`:
    the requoter keeps ';' and '=' as they are), so `==` is False.  For every other needed escape the decoded
    view itself changes (or `URL(…)` raises). -/
theorem C18_unsafe_char_needed_decoded : ∀ b : Backend, ∀ p ∈ unsafePairs, p ∉ notNeeded →
    changesDecoded b p.1 p.2 = some (!rawOnly.contains p) := by
  intro b; cases b <;> decide +kernel

/-- FINDING (over-escaping).  Three escapes are NOT needed by yarl's own parser: '@' in the user, and ':' and
    '@' in the password.  `split_netloc` cuts the userinfo at the LAST '@' and the password at the FIRST ':',
    and the constructor re-quotes a literal '@' / ':' of user and password to `%40` / `%3A`.  For the witness
    URLs the text with the character left literal re-parses to an EQUAL URL, e.g.
    `URL("http://a@b@example.com/p") == URL.build(scheme="http", user="a@b", host="example.com", path="/p")`,
    `URL("http://u:a:b@example.com/p")` has password "a:b".  (RFC 3986 does not allow a literal '@' in
    userinfo, and allows ':' in the password; other parsers cut at the FIRST '@'.)  So the sentence "Only characters
    that would change the parse in their position … are escaped" holds for yarl's parser with these three
    exceptions; the universal statement is `C18_roundtrip_relaxed`. -/
theorem C18_unsafe_char_not_needed : ∀ b : Backend, ∀ p ∈ notNeeded,
    p ∈ unsafePairs ∧ changesParse b p.1 p.2 = some false := by
  intro b; cases b <;> decide +kernel

/-- what the relaxed lists are: userinfo `#/:?[]` for the user, `#/?[]` for the password (the generated lists
    without '@', resp. without ':' and '@'), everything else as generated -/
theorem C18_relaxed_lists :
    relaxed "user" = "#/:?[]".toStr ∧ relaxed "password" = "#/?[]".toStr ∧
    relaxed "path" = humanUnsafeOf "path" ∧ relaxed "k" = humanUnsafeOf "k" ∧
    relaxed "v" = humanUnsafeOf "v" ∧ relaxed "fragment" = humanUnsafeOf "fragment" := by decide +kernel

/-- FINDING, universal form: with '@' left LITERAL in the user and ':' and '@' left literal in the password
    (`humanReprU relaxed`: `human_repr()` computed with the relaxed lists), the round trip STILL holds for the
    whole family of `C18_roundtrip_full` — every user, password, host kind, port, path, query, fragment —
    under the same NFKC proviso.  So for these three (position, character) pairs NO witness exists: escaping
    them is not required by yarl's parser, contrary to "Only characters that would change the parse in their
    position … are escaped". -/
theorem C18_roundtrip_relaxed (e : Env) (sc : Str) (user pw : Option Str) (h H D : Str)
    (port : Option Nat) (p : Str) (kvs : List (Str × Str)) (f : Str)
    (vs : ValidScheme sc) (hk : HostKind e h H D) (hport : ∀ x, port = some x → x ≤ 65535)
    (hu : UText user) (hune : ∀ s, user = some s → s ≠ []) (hw : UText pw)
    (hp : PyStr (47 :: p)) (hn : NoSurrogate (47 :: p)) (hg : GoodPairs kvs)
    (hf : PyStr f) (hfn : NoSurrogate f) :
    ∃ u, build e (fullArgs sc user pw h port p kvs f) = .ok u ∧
      ∀ hr, humanReprU relaxed e u = .ok hr →
        (isAscii (Rfc.appendixB Gen.schemeChars hr).authority = false →
          checkNetloc e.o (Rfc.appendixB Gen.schemeChars hr).authority = .ok ()) →
        ∃ v, encodeUrl e hr = .ok v ∧ Url.beq v u = true := by
  have hgp := good_normalizePath hp hn
  refine ⟨_, build_full e sc sc (vs.lowerAny_eq e) user pw h H port p kvs f hk.rt.hne hk.rt.okH.1 hk.rt.build hport hp hn,
    fun hr hh hnf => ?_⟩
  obtain ⟨v, h1, h2, _⟩ := roundtrip' relaxed relaxed_same relaxed_lists e _ user pw h H D (effPort sc port) (normTail p)
    kvs f vs hk.rt (effPort_range hport) hu hune hw hgp.1 hgp.2 (normTail_normal p) hg hf hfn
    (builtFull_stores e sc user pw H _ _ kvs f) hr hh hnf
  exact ⟨v, h1, h2⟩


end Yarl
