import YarlProofs.C08Headline
import YarlProofs.C08Bridge
/-!
  C08HeadlineMore3.lean — AUDIT LAYER for property C08, continuation of C08Headline.lean (the theorems here need
  C08Bridge.lean, which C08Headline.lean does not import; this file is a leaf, nobody imports it).

  C08 | URL values are immutable and results do not depend on history |
  "A URL never changes after creation: no sequence of property reads, method calls, comparisons, hashing, pickling or
  cache reconfiguration alters the observable state of any existing URL or of any argument passed in. The outcome
  (value or exception) of every API call is a function of its arguments only - not of which calls preceded it, the
  fill state or configured size of the internal caches, or whether an equal URL was created before."

  What is here (all about the multi-cache machine of YarlModel/CacheMulti.lean, second half of C08Headline.lean):
   * GAPS 7 of C08Headline.lean — the end-to-end bridge between the cache machine (objects = five stored strings + memo)
     and the MONOLITHIC model (a `Url` record WITH its `pre` field = the cache entries `encode_url` pre-computes), which
     C08_headline_multi_yarl_modifier_then_read had only for named modifiers without URL argument on a `URL(s)` result:
     now for EVERY derivation — `join` with its URL argument, `.fn f` — on the result of ANY constructor.  Two side
     conditions appear: `PreOK e u` on the receiver (discharged for every constructor result and every named-modifier
     result; it is property C09) and `m.PreBlind e` (trivially true for the named modifiers and `join`; for `.fn f` a
     real condition on `f`, discharged for chains of named modifiers and for functions of the five parts and `net`;
     FALSE for a function that inspects the `pre` field).  Both are shown to be NEEDED.
   * GAPS 4 of C08Headline.lean — "a constructor that raises is not cached: by construction, not a theorem": now theorems
     about the machine (a raising call returns the world as it was; no table of any cache or generation ever holds an
     entry for a raising key; every repetition of the call raises the same error), for ANY semantics, no side condition.
     These are statements about the MODEL's `call`; that CPython's `functools.lru_cache` does not cache exceptions stays
     a fact about CPython the model transcribes.

  Vocabulary (C08Bridge.lean; machine vocabulary: second block of C08Headline.lean).
  `PreOK e u`        — `net e (pickleTwin u) = net e u`: the pre-filled entries of the monolithic value `u` are what the
                       lazy path derives from the five parts (property C09; holds when `u.pre = none`).
  `m.readsNet`       — `m` is one of with_user, with_password, with_host, with_port, origin (the modifiers that read the
                       netloc-derived, possibly pre-filled, entries).
  `PreBlind e f`     — `f` cannot tell a `PreOK` value from its five parts: `(f (pickleTwin u)).map parts = (f u).map parts`;
  `PreStable e f`    — results of `f` on `PreOK` values are `PreOK`;
  `m.PreBlind e`     — `PreBlind e f` for `m = .fn f`, `True` for every other derivation.
  `ymodel e key`     — the monolithic model value of a constructor key: `encodeUrl` (`.url k`, k inside the C09 guard),
                       `preEncodedUrl` (`.encoded s`), `build` (`.build a`), `Url.ofParts p` (`.parts` / `.partsUncached`).
  `ychain e ms`      — the chain `u.m₁().m₂()…` of named modifiers WITHOUT URL arguments, as one function.
  `preSpy`           — a function that raises iff its argument's `pre` field is present (no method of `URL` does this).
  `NoEntry w k`      — no table of `w` — any cache, any generation, discarded ones included — has an entry for key `k`.
-/
namespace Yarl
open Yarl.MultiCache Yarl.MultiInst Yarl.CacheInst
open Yarl.Cache (Val acc GoodKey Policy Obj)

/-! ## Sentence 2 — "The outcome (value or exception) of every API call is a function of its arguments only" — METHOD CALLS
    against the monolithic model: the `pre` field is irrelevant (GAPS 7, first half) -/

/-- the `pre` field (the cache entries `encode_url` pre-computes) of the monolithic value is irrelevant to the result of
    EVERY derivation, up to the five parts, whenever it holds what the lazy path would compute: replacing it by any other
    such value `p` — in particular by `none` — changes neither the result's parts nor the exception.
    Cites C08_bridge_pre_irrelevant. -/
theorem C08_headline_bridge_pre_field_irrelevant (e : Env) (m : YMod) (u : Url) (p : Option NetPre) (args : List Url)
    (hb : m.PreBlind e)                                  -- `True` unless `m = .fn f`; then `PreBlind e f`
    (hu : PreOK e u)                                     -- the pre-filled entries of `u` are the C09 ones
    (hp : PreOK e { u with pre := p }) :                 -- … and so are the replacement entries `p`
    (yapply e m { u with pre := p } args).map Url.parts = (yapply e m u args).map Url.parts :=
  C08_bridge_pre_irrelevant e m hb u p args hu hp

/-- … UNCONDITIONALLY (any `p` whatsoever, no `PreOK`) for the named modifiers other than with_user, with_password,
    with_host, with_port, origin; and the `pre` fields of URL-valued ARGUMENTS (the reference of `join`) are irrelevant
    unconditionally for every derivation.  Cites C08_bridge_pre_irrelevant_unconditional, C08_bridge_args_pre_irrelevant. -/
theorem C08_headline_bridge_pre_field_irrelevant_unconditional (e : Env) (m : YMod) (u : Url) (args args' : List Url) :
    ((∀ f, m ≠ .fn f) →                                  -- a named modifier
     m.readsNet = false →                                -- that does not read the netloc-derived entries
      ∀ p : Option NetPre, (yapply e m { u with pre := p } args).map Url.parts = (yapply e m u args).map Url.parts) ∧
    (args.map Url.parts = args'.map Url.parts →          -- the URL arguments have the same five parts
      (yapply e m u args).map Url.parts = (yapply e m u args').map Url.parts) :=
  ⟨fun hm hn p => C08_bridge_pre_irrelevant_unconditional e m hm hn u p args,
   fun ha => C08_bridge_args_pre_irrelevant e m u args args' ha⟩

/-- the general form, "a function of its arguments only" for the monolithic model: a derivation is a function of the
    five parts of its receiver and of its URL arguments.  Cites C08_bridge_modifier_reads_only_parts. -/
theorem C08_headline_bridge_modifier_reads_only_parts (e : Env) (m : YMod) (u u' : Url) (args args' : List Url)
    (hb : m.PreBlind e)                                  -- `True` unless `m = .fn f`
    (hp : u.parts = u'.parts)                            -- same five parts of the receivers
    (ha : args.map Url.parts = args'.map Url.parts)      -- … and of the URL arguments
    (hu : PreOK e u) (hu' : PreOK e u') :                -- C09 for both receivers
    (yapply e m u args).map Url.parts = (yapply e m u' args').map Url.parts :=
  C08_bridge_modifier_reads_only_parts e m hb u u' args args' hp ha hu hu'

/-- where the side condition `PreOK` comes from: EVERY monolithic constructor result has it — `URL(s)` for keys inside
    the C09 guard (by C09_pickle_lossless), `URL(s, encoded=True)`, `URL.build`, `from_parts` (no pre-fill) —, every
    value without pre-filled entries has it, and every result of a NAMED modifier applied to such values has it.
    Cites C08_bridge_preOK. -/
theorem C08_headline_bridge_preOK_sources (e : Env) :
    (∀ (key : YKey e) (u : Url), ymodel e key = .ok u → PreOK e u) ∧
    (∀ u : Url, u.pre = none → PreOK e u) ∧
    (∀ (m : YMod), (∀ f, m ≠ .fn f) → ∀ (u : Url) (args : List Url), PreOK e u → (∀ x ∈ args, PreOK e x) →
      ∀ r, yapply e m u args = .ok r → PreOK e r) :=
  C08_bridge_preOK e

/-- which `.fn f` satisfy the side condition `PreBlind`: every named modifier with any fixed URL arguments (and it is
    `PreStable` when those arguments are `PreOK`), every function of the five parts and `net`, and — closure under
    sequencing — `f >>= g` for `PreBlind` + `PreStable` `f` and `PreBlind` `g`.  Cites C08_bridge_preBlind_instances. -/
theorem C08_headline_bridge_preBlind_sufficient (e : Env) :
    (∀ (m : YMod), (∀ f, m ≠ .fn f) → ∀ args : List Url,
      PreBlind e (fun u => yapply e m u args) ∧ ((∀ x ∈ args, PreOK e x) → PreStable e (fun u => yapply e m u args))) ∧
    (∀ g : Parts → R NetPre → R Url, PreBlind e (fun u => g u.parts (net e u))) ∧
    (∀ f g : Url → R Url, PreBlind e f → PreStable e f → PreBlind e g → PreBlind e (fun u => f u >>= g)) ∧
    (∀ f g : Url → R Url, PreStable e f → PreStable e g → PreStable e (fun u => f u >>= g)) :=
  C08_bridge_preBlind_instances e

/-- … in particular every CHAIN `u.m₁().m₂()…` of named modifiers without URL arguments, taken as ONE derivation
    `.fn (ychain e ms)`.  Cites C08_bridge_preBlind_chain. -/
theorem C08_headline_bridge_preBlind_chain (e : Env) (ms : List YMod)
    (hms : ∀ m ∈ ms, ∀ f, m ≠ .fn f) :                   -- every link is a named modifier
    PreBlind e (ychain e ms) ∧ PreStable e (ychain e ms) :=
  C08_bridge_preBlind_chain e ms hms

/-! ## Sentence 2 — "… not of which calls preceded it, the fill state or configured size of the internal caches, or whether an
    equal URL was created before" — the end-to-end bridge for EVERY derivation (GAPS 7, second half) -/

/-- the handle a constructor call creates denotes (the five parts of) the monolithic model's value, whatever came before
    (`ops1`) and whatever comes after (`ops2`).  Cites C08_bridge_valOf_new. -/
theorem C08_headline_bridge_constructor_handle_denotes_model_value (e : Env) (hf : Parts → Int)
    (ops1 ops2 : List (Op YCache (YKey e) YMod)) (key : YKey e) (u : Url)
    (hk : ymodel e key = .ok u) :                        -- the model's constructor succeeds with monolithic value `u`
    valOf (specHandles (yarlMSem e hf) [] (ops1 ++ .new key :: ops2)) (specHandles (yarlMSem e hf) [] ops1).length
      = some u.parts :=
  C08_bridge_valOf_new e hf ops1 ops2 key u hk

/-- "a function of its arguments only", against the MONOLITHIC values: a derivation (ANY modifier: named, `join` with
    its URL argument handle, `.fn f`) after ANY history outputs what the model's modifier computes from monolithic
    values `u`, `us` of its handles — pre-filled entries and all —: the five parts of the result, or the exception.
    Cites C08_bridge_mod_output. -/
theorem C08_headline_bridge_modifier_function_of_model_values (e : Env) (hf : Parts → Int)
    (pol : YCache → Policy (YKey e)) (caps : YCache → Nat → Option Nat) (gen : YCache → Nat)
    (ops : List (Op YCache (YKey e) YMod)) (h : Nat) (m : YMod) (args : List Nat) (u : Url) (us : List Url)
    (hb : m.PreBlind e)                                  -- `True` unless `m = .fn f`; needed: C08_headline_bridge_fails_for_pre_inspecting_fn
    (hp : valOf (specHandles (yarlMSem e hf) [] ops) h = some u.parts)                 -- handle `h` denotes `u`
    (hps : valsOf (specHandles (yarlMSem e hf) [] ops) args = some (us.map Url.parts)) -- handles `args` denote `us`
    (hu : PreOK e u) :                                   -- C09 for the receiver; needed: C08_headline_bridge_fails_without_preOK
    (run (yarlMSem e hf) pol { caps := caps, gen := gen } [] (ops ++ [.mod h m args])).getLast? =
      some (.handle ((yapply e m u us).map Url.parts)) :=
  C08_bridge_mod_output e hf pol caps gen ops h m args hb u us hp hps hu

/-- END TO END for EVERY derivation (drops `hm` and `args = []` of C08_headline_multi_yarl_modifier_then_read): handles
    `h`, `args` denote the monolithic values `u`, `us`; ANY history `ops`; `d = u.<m>(*us)`; ANY history `ops'`; accessor
    `name` on `d`: the answer is the accessor on the five parts of what the MODEL's modifier computes from the monolithic
    values themselves — and on the monolithic result `r` itself when `r` is `PreOK` (always for a named modifier on
    `PreOK` arguments: C08_headline_bridge_preOK_sources).  Cites C08_bridge_mod_then_read. -/
theorem C08_headline_bridge_any_modifier_then_read (e : Env) (hf : Parts → Int) (pol : YCache → Policy (YKey e))
    (caps : YCache → Nat → Option Nat) (gen : YCache → Nat) (ops ops' : List (Op YCache (YKey e) YMod))
    (h : Nat) (m : YMod) (args : List Nat) (u : Url) (us : List Url)
    (hb : m.PreBlind e)                                  -- `True` unless `m = .fn f`
    (hp : valOf (specHandles (yarlMSem e hf) [] ops) h = some u.parts)                 -- handle `h` denotes `u`
    (hps : valsOf (specHandles (yarlMSem e hf) [] ops) args = some (us.map Url.parts)) -- handles `args` denote `us`
    (hu : PreOK e u)                                     -- C09 for the receiver
    (r : Url) (hr : yapply e m u us = .ok r)             -- the model's modifier succeeds on the monolithic values
    (name : String) (hname : name ≠ sortKeyName) :       -- an accessor of `acc` (`_sort_key`: next theorem)
    (run (yarlMSem e hf) pol { caps := caps, gen := gen } []
        (ops ++ .mod h m args :: ops' ++ [.read (specHandles (yarlMSem e hf) [] ops).length name])).getLast? =
      some (.value (.acc (acc e (pickleTwin r) name))) ∧
    (PreOK e r → acc e (pickleTwin r) name = acc e r name) :=
  C08_bridge_mod_then_read e hf pol caps gen ops ops' h m args hb u us hp hps hu r hr name hname

/-- the same for the memoised `_sort_key` property of the derived URL (the read excluded above): it is the key tuple
    `eqKey r` of the monolithic result.  Cites C08_bridge_mod_then_sort_key. -/
theorem C08_headline_bridge_any_modifier_then_sort_key (e : Env) (hf : Parts → Int) (pol : YCache → Policy (YKey e))
    (caps : YCache → Nat → Option Nat) (gen : YCache → Nat) (ops ops' : List (Op YCache (YKey e) YMod))
    (h : Nat) (m : YMod) (args : List Nat) (u : Url) (us : List Url)
    (hb : m.PreBlind e)                                  -- `True` unless `m = .fn f`
    (hp : valOf (specHandles (yarlMSem e hf) [] ops) h = some u.parts)                 -- handle `h` denotes `u`
    (hps : valsOf (specHandles (yarlMSem e hf) [] ops) args = some (us.map Url.parts)) -- handles `args` denote `us`
    (hu : PreOK e u)                                     -- C09 for the receiver
    (r : Url) (hr : yapply e m u us = .ok r) :           -- the model's modifier succeeds on the monolithic values
    (run (yarlMSem e hf) pol { caps := caps, gen := gen } []
        (ops ++ .mod h m args :: ops' ++ [.read (specHandles (yarlMSem e hf) [] ops).length sortKeyName])).getLast? =
      some (.value (.key (eqKey r))) :=
  C08_bridge_mod_then_sort_key e hf pol caps gen ops ops' h m args hb u us hp hps hu r hr

/-- the instance that generalises C08_headline_multi_yarl_modifier_then_read: the receiver comes from ANY constructor
    (`URL(s)` inside the C09 guard, `URL(s, encoded=True)`, `URL.build`, `from_parts`), ANY history, `d = u.<m>()` for ANY
    derivation incl. `.fn f`, ANY history, accessor `name` on `d`.  `PreOK` is discharged.
    Cites C08_bridge_ctor_mod_read. -/
theorem C08_headline_bridge_constructor_modifier_read (e : Env) (hf : Parts → Int) (pol : YCache → Policy (YKey e))
    (caps : YCache → Nat → Option Nat) (gen : YCache → Nat)
    (key : YKey e) (u : Url) (hk : ymodel e key = .ok u) -- the constructor succeeds with monolithic value `u` (`.url k`: C09 guard)
    (ops ops' : List (Op YCache (YKey e) YMod)) (m : YMod)
    (hb : m.PreBlind e)                                  -- `True` unless `m = .fn f`; for a chain: C08_headline_bridge_preBlind_chain
    (r : Url) (hr : yapply e m u [] = .ok r)             -- the modifier (no URL argument) succeeds on `u`
    (name : String) (hname : name ≠ sortKeyName) :       -- an accessor of `acc`
    (run (yarlMSem e hf) pol { caps := caps, gen := gen } []
        ((.new key :: ops) ++ .mod 0 m [] :: ops' ++
          [.read (specHandles (yarlMSem e hf) [] (.new key :: ops)).length name])).getLast? =
      some (.value (.acc (acc e (pickleTwin r) name))) :=
  C08_bridge_ctor_mod_read e hf pol caps gen key u hk ops ops' m hb r hr name hname

/-- `join`, end to end: `a = <ctor 1>`, `b = <ctor 2>` (any two constructors, e.g. two `URL(s)` inside the C09 guard whose
    monolithic values both carry pre-filled entries), ANY history, `d = a.join(b)`, ANY history, accessor `name` on `d`:
    the answer is the model's accessor on the model's `join e ua ub` of the two MONOLITHIC values — whether `d` is the
    object `b` itself, came out of the `from_parts` cache or was freshly built.  No side condition left.
    Cites C08_bridge_join_then_read. -/
theorem C08_headline_bridge_join_then_read (e : Env) (hf : Parts → Int) (pol : YCache → Policy (YKey e))
    (caps : YCache → Nat → Option Nat) (gen : YCache → Nat)
    (ka kb : YKey e) (ua ub : Url)
    (ha : ymodel e ka = .ok ua) (hb : ymodel e kb = .ok ub) -- both constructors succeed (`.url k`: C09 guard)
    (ops ops' : List (Op YCache (YKey e) YMod)) (name : String) (hname : name ≠ sortKeyName) :
    (run (yarlMSem e hf) pol { caps := caps, gen := gen } []
        ((.new ka :: .new kb :: ops) ++ .mod 0 .join [1] :: ops' ++
          [.read (specHandles (yarlMSem e hf) [] (.new ka :: .new kb :: ops)).length name])).getLast? =
      some (.value (.acc (acc e (join e ua ub) name))) :=
  C08_bridge_join_then_read e hf pol caps gen ka kb ua ub ha hb ops ops' name hname

/-! ### the two side conditions are needed -/

/-- WITHOUT `PreOK` the `pre` field IS relevant (so "`yapply m (u with pre := p) = yapply m u` for ALL `p`" is false for
    the five `readsNet` modifiers): a record whose `pre` claims a password the netloc "h" does not have gives "a:x@h"
    under `with_user("a")`, its five parts alone give "a@h".  No constructor of the model produces such a record
    (C08_headline_bridge_preOK_sources).  Cites C08_bridge_pre_relevant_without_preOK. -/
theorem C08_headline_bridge_fails_without_preOK :
    let u : Url := fromParts "http".toStr "h".toStr [] [] []
    let p : Option NetPre := some ⟨some "h".toStr, none, none, some "x".toStr⟩
    ¬ PreOK envPy { u with pre := p } ∧
    (yapply envPy (.withUser (some "a".toStr)) { u with pre := p } []).map Url.parts
      = .ok ⟨"http".toStr, "a:x@h".toStr, [], [], []⟩ ∧
    (yapply envPy (.withUser (some "a".toStr)) u []).map Url.parts = .ok ⟨"http".toStr, "a@h".toStr, [], [], []⟩ :=
  C08_bridge_pre_relevant_without_preOK

/-- for an ARBITRARY `.fn f` the bridge is FALSE (hence the side condition `PreBlind`): `preSpy` raises on the monolithic
    value of `URL("http://user@example.com:8080/p")` (which carries pre-filled entries — correct ones, `PreOK`), while in
    the cache machine — as in Python, where a method sees the object, not the model's `pre` field — it returns the URL,
    after any history.  Cites C08_bridge_fn_needs_preBlind. -/
theorem C08_headline_bridge_fails_for_pre_inspecting_fn :
    ¬ PreBlind envC preSpy ∧
    ∃ u, encodeUrl envC YarlRun.k1.1 = .ok u ∧ PreOK envC u ∧ yapply envC (.fn preSpy) u [] = .error .valueError ∧
      ∀ (hf : Parts → Int) (pol : YCache → Policy (YKey envC)) (caps : YCache → Nat → Option Nat) (gen : YCache → Nat)
        (ops : List (Op YCache (YKey envC) YMod)),
        (run (yarlMSem envC hf) pol { caps := caps, gen := gen } []
          ((.new (.url YarlRun.k1) :: ops) ++ [.mod 0 (.fn preSpy) []])).getLast? = some (.handle (.ok u.parts)) :=
  C08_bridge_fn_needs_preBlind

/-! ## Sentence 2 — "The outcome (value OR EXCEPTION) of every API call is a function of its arguments only … not of … the
    fill state … of the internal caches" — raising constructors are never cached (GAPS 4) -/

section Failed
variable {I K M E P V : Type} [DecidableEq I] [DecidableEq K]
open Yarl.Cache (lookup)

/-- "exceptions are not cached", one step, ANY world (coherent or not), any semantics, capacities and policies: a
    constructor call `k` whose `construct k` raises returns the world AS IT WAS (heap, EVERY table of every cache and
    generation, derivation memo, capacities, bindings of the globals) and, if no table holds `k`, outputs the exception
    and appends a dead handle; more generally WHATEVER operation outputs an exception — a constructor call or a
    derivation — returns the world as it was.
    Cites C08_bridge_failed_ctor_world_unchanged, C08_bridge_raising_op_no_effect. -/
theorem C08_headline_raising_call_leaves_world_unchanged (sem : Sem I K M E P V) (pol : I → Policy K)
    (w : World I K P V) (hs : List (Option Nat)) :
    (∀ (k : K) (x : E), sem.construct k = .error x →    -- the constructor raises `x` on key `k`
      (step sem pol w hs (.new k)).1 = w ∧
      (NoEntry w k → step sem pol w hs (.new k) = (w, hs ++ [none], .handle (.error x)))) ∧
    (∀ (op : Op I K M) (x : E), (step sem pol w hs op).2.2 = .handle (.error x) →   -- operation `op` outputs exception `x`
      (step sem pol w hs op).1 = w) :=
  ⟨fun k x hk => C08_bridge_failed_ctor_world_unchanged sem pol w hs k x hk,
   fun op x h => C08_bridge_raising_op_no_effect sem pol w hs op x h⟩

/-- … hence NO table ever holds an entry for a raising key: after ANY program from the empty world (any capacities,
    policies, initial bindings; NO side condition on the semantics) every table of every cache and every generation has
    no entry for `k`, so every look-up of `k` misses.  Cites C08_bridge_failed_ctor_never_cached. -/
theorem C08_headline_failed_constructor_never_cached (sem : Sem I K M E P V) (pol : I → Policy K)
    (caps : I → Nat → Option Nat) (gen : I → Nat) (k : K) (x : E)
    (hk : sem.construct k = .error x)                    -- the constructor raises `x` on key `k`
    (ops : List (Op I K M)) :
    NoEntry (runWorld sem pol { caps := caps, gen := gen } [] ops).1 k ∧
    ∀ i g, lookup ((runWorld sem pol { caps := caps, gen := gen } [] ops).1.tables i g) k = none :=
  C08_bridge_failed_ctor_never_cached sem pol caps gen k x hk ops

/-- … and calling it again after ANY history raises the SAME error: EVERY occurrence of `.new k` in ANY program outputs
    `.handle (.error x)` — the first call, a repeated call, a call after clears / rebindings / other calls.  No side
    condition on the semantics (`PrefillOK` / `MemoNamesOK` are not needed).  Cites C08_bridge_failed_ctor_same_error. -/
theorem C08_headline_failed_constructor_same_error (sem : Sem I K M E P V) (pol : I → Policy K)
    (caps : I → Nat → Option Nat) (gen : I → Nat) (k : K) (x : E)
    (hk : sem.construct k = .error x)                    -- the constructor raises `x` on key `k`
    (ops : List (Op I K M)) :
    (∀ n : Nat, ops[n]? = some (Op.new k) →
      (run sem pol ({ caps := caps, gen := gen } : World I K P V) [] ops)[n]? = some (Out.handle (.error x))) ∧
    (run sem pol ({ caps := caps, gen := gen } : World I K P V) [] (ops ++ [.new k])).getLast? = some (.handle (.error x)) ∧
    (run sem pol ({ caps := caps, gen := gen } : World I K P V) [] (.new k :: ops ++ [.new k])).head? = some (.handle (.error x)) ∧
    (run sem pol ({ caps := caps, gen := gen } : World I K P V) [] (.new k :: ops ++ [.new k])).getLast? = some (.handle (.error x)) :=
  C08_bridge_failed_ctor_same_error sem pol caps gen k x hk ops

end Failed

/-- the same for the REAL model: if the MODEL's constructor (`encodeUrl` / `preEncodedUrl` / `build`) raises `x` on `key`,
    then in the machine `yarlMSem` no table ever holds `key`, and `key` called after ANY history raises `x`.
    Cites C08_bridge_failed_ctor_never_cached, C08_bridge_failed_ctor_same_error (with `construct = (ymodel …).map parts`). -/
theorem C08_headline_yarl_failed_constructor_never_cached (e : Env) (hf : Parts → Int) (pol : YCache → Policy (YKey e))
    (caps : YCache → Nat → Option Nat) (gen : YCache → Nat) (key : YKey e) (x : PyErr)
    (hk : ymodel e key = .error x)                       -- the model's constructor raises `x`
    (ops : List (Op YCache (YKey e) YMod)) :
    NoEntry (runWorld (yarlMSem e hf) pol { caps := caps, gen := gen } [] ops).1 key ∧
    (run (yarlMSem e hf) pol { caps := caps, gen := gen } [] (ops ++ [.new key])).getLast? = some (.handle (.error x)) := by
  have hk' : (yarlMSem e hf).construct key = .error x := by rw [R3.construct_eq_ymodel, hk]; rfl
  exact ⟨(C08_bridge_failed_ctor_never_cached (yarlMSem e hf) pol caps gen key x hk' ops).1,
    (C08_bridge_failed_ctor_same_error (yarlMSem e hf) pol caps gen key x hk' ops).2.1⟩

/-! ## non-vacuity -/

section Checks
open Yarl.YarlRun Yarl.MultiRun Yarl.R3.Checks

-- `a = URL("http://user@example.com:8080/p")` (monolithic value WITH pre-filled entries), `b = URL("../q?x=1", encoded=True)`,
-- any history, `a.join(b)`, any history, `str()`: through the headline theorem, and the value it names
example (pol : YCache → Policy (YKey envC)) (caps : YCache → Nat → Option Nat) (gen : YCache → Nat)
    (ops ops' : List (Op YCache (YKey envC) YMod)) :
    (run (yarlMSem envC hf0) pol { caps := caps, gen := gen } []
        ((.new (.url k1) :: .new (.encoded "../q?x=1".toStr) :: ops) ++ .mod 0 .join [1] :: ops' ++
          [.read (specHandles (yarlMSem envC hf0) [] (.new (.url k1) :: .new (.encoded "../q?x=1".toStr) :: ops)).length
            "str"])).getLast? =
      some (.value (.acc (acc envC (join envC ua ub) "str"))) :=
  C08_headline_bridge_join_then_read envC hf0 pol caps gen _ _ ua ub ha hb ops ops' "str" (by str_lits; decide +kernel)
example : ua.pre ≠ none ∧
    acc envC (join envC ua ub) "str" = .str (.ok "http://user@example.com:8080/q?x=1".toStr) := by str_lits; decide +kernel

-- `.fn f` with `f` the chain `a.with_user("bob").parent`: the side condition through the headline theorem
example : PreBlind envC (ychain envC chain1) ∧ PreStable envC (ychain envC chain1) :=
  C08_headline_bridge_preBlind_chain envC chain1 (by
    intro m hm f hf
    simp only [chain1, List.mem_cons, List.not_mem_nil, or_false] at hm
    rcases hm with rfl | rfl <;> cases hf)

-- a raising constructor of the real model: `URL.build(port=True)` (TypeError), first call, any history, again
example : ymodel envC badBuild = .error .typeError := by decide +kernel
example (pol : YCache → Policy (YKey envC)) (caps : YCache → Nat → Option Nat) (gen : YCache → Nat)
    (ops : List (Op YCache (YKey envC) YMod)) :
    (run (yarlMSem envC hf0) pol { caps := caps, gen := gen } [] ((.new badBuild :: ops) ++ [.new badBuild])).getLast? =
      some (.handle (.error .typeError)) :=
  (C08_headline_yarl_failed_constructor_never_cached envC hf0 pol caps gen badBuild .typeError (by decide +kernel)
    (.new badBuild :: ops)).2

end Checks

end Yarl
