/-
  C04Idn.lean — property C04 ("str(URL(s)) == s for canonical s"), A-label / IDN hosts (xn--…).

  An A-label host is ASCII text, so `URL(s)` never reaches IDNA for it: the identity holds for EVERY text
  that satisfies `IdnaAnswerSane` (non-empty, lower-case reg-name text — C16Idn.lean), whether or not it ends
  in a digit, with NO assumption about the `idna` package.  The package only enters in
  `C04_idn_identity_of_host`: "the answer `_idna_encode` gives for a non-ASCII host is such a text"
  (`IdnaSaneAt`, the assumption of C16Idn.lean).
-/
import YarlProofs.C16Idn
namespace Yarl
open Idn HostLemmas NetlocLemmas FixLemmas

/-- GENERAL: `scheme://[user[:password]@]a[:port]path[?query][#fragment]` with a sane A-label host `a` is
    parsed into exactly these components and printed back unchanged -/
theorem C04_idn_identity_general (e : Env) (scheme : Str) (user pw : Option Str) (a : Str) (port : Option Nat)
    (path query fragment : Str) (hs : SchemeOK scheme) (hu : UserInfoOK e.b user pw) (ha : IdnaAnswerSane a)
    (hp : PortOK scheme port) (hc : CompOK e.b path query fragment) :
    ∃ u, encodeUrl e (composeUrl scheme (authText user pw a port) path query fragment) = .ok u ∧
      str e u = .ok (composeUrl scheme (authText user pw a port) path query fragment) ∧
      u.scheme = scheme ∧ u.netloc = authText user pw a port ∧ u.path = path ∧ u.query = query ∧
      u.fragment = fragment :=
  C04_identity_authority_of_general e scheme user pw a port path query fragment hs hu (hostFix_sane e.o ha) hp hc

/-- … network-path references `//[user[:password]@]a[:port]path…` (no scheme) -/
theorem C04_idn_identity_network_path (e : Env) (user pw : Option Str) (a : Str) (port : Option Nat)
    (path query fragment : Str) (hu : UserInfoOK e.b user pw) (ha : IdnaAnswerSane a)
    (hp : ∀ p, port = some p → p ≤ 65535) (hc : CompOK e.b path query fragment) :
    ∃ u, encodeUrl e ([47, 47] ++ authText user pw a port ++ path ++ qPart query ++ fPart fragment) = .ok u ∧
      str e u = .ok ([47, 47] ++ authText user pw a port ++ path ++ qPart query ++ fPart fragment) ∧
      u.scheme = [] ∧ u.netloc = authText user pw a port ∧ u.path = path ∧ u.query = query ∧
      u.fragment = fragment :=
  C04_identity_network_path_authority e user pw a port path query fragment hu (hostFix_sane e.o ha) hp hc

/-- the instance asked for: `"http://" ++ answer ++ "/path"` -/
theorem C04_idn_identity (e : Env) (answer : Str) (ha : IdnaAnswerSane answer) :
    ∃ u, encodeUrl e ("http://".toStr ++ answer ++ "/path".toStr) = .ok u ∧
      str e u = .ok ("http://".toStr ++ answer ++ "/path".toStr) ∧
      u.scheme = "http".toStr ∧ u.netloc = answer ∧ u.path = "/path".toStr ∧ u.query = [] ∧ u.fragment = [] := by
  have h := C04_idn_identity_general e "http".toStr none none answer none "/path".toStr [] [] (by decide)
    (userInfoOK_none _) ha (IdGen.portOK_none _) (compOKB_sound (by cases e.b <;> decide +kernel))
  rw [authText_host answer (sane_no ha (by decide))] at h
  have hc : composeUrl "http".toStr answer "/path".toStr [] [] = "http://".toStr ++ answer ++ "/path".toStr := by
    simp [composeUrl, qPart, fPart, String.toStr]
  rw [hc] at h
  exact h

/-- … and for what the library itself produced: the answer of `_idna_encode` for a non-ASCII host `h`,
    under the assumption about the package -/
theorem C04_idn_identity_of_host (e : Env) (h answer : Str) (hs : IdnaSaneAt e.o h)
    (he : idnaEncode e.o h = .ok answer) :
    ∃ u, encodeUrl e ("http://".toStr ++ answer ++ "/path".toStr) = .ok u ∧
      str e u = .ok ("http://".toStr ++ answer ++ "/path".toStr) ∧
      u.scheme = "http".toStr ∧ u.netloc = answer ∧ u.path = "/path".toStr ∧ u.query = [] ∧ u.fragment = [] :=
  C04_idn_identity e answer (idnaEncode_sane hs he)

/-- the host clause of `CanonString` for a sane A-label authority -/
theorem C04_idn_canonString (e : Env) (scheme : Str) (user pw : Option Str) (a : Str) (port : Option Nat)
    (path query fragment : Str) (hs : SchemeOK' scheme) (hu : UserInfoOK e.b user pw) (ha : IdnaAnswerSane a)
    (hp : PortOK scheme port) (hc : CompOK e.b path query fragment) :
    CanonString e scheme (authText user pw a port) path query fragment :=
  canonString_authority e scheme user pw a port path query fragment hs hu (hostFix_sane e.o ha) hp hc

/-- the assumption cannot be dropped for the library's own output: with an `idna` package that answers
    "XN--A" the constructor stores that, and `str(URL("http://XN--A/p"))` is "http://xn--a/p" -/
theorem C04_idn_needs_lower :
    let e : Env := { b := .c, o := C16_idn_hostile "XN--A".toStr }
    (encodeUrl e C16_idn_input).bind (str e) = .ok "http://XN--A/p".toStr ∧
    (encodeUrl e "http://XN--A/p".toStr).bind (str e) = .ok "http://xn--a/p".toStr :=
  ⟨by decide +kernel, by decide +kernel⟩

/-! ### non-vacuity -/
example : IdnaAnswerSane "xn--bcher-kva".toStr ∧ IdnaAnswerSane "xn--bcher-kva.h1".toStr := by str_lits; decide +kernel
example (b : Backend) : ∃ u, encodeUrl ⟨b, Oracles.empty⟩ "http://xn--bcher-kva.h1/path".toStr = .ok u ∧
    str ⟨b, Oracles.empty⟩ u = .ok "http://xn--bcher-kva.h1/path".toStr :=
  at_text_fst (by str_lits; decide +kernel)
    (C04_idn_identity ⟨b, Oracles.empty⟩ "xn--bcher-kva.h1".toStr (by str_lits; decide +kernel))
example (b : Backend) : UserInfoOK b (some "u".toStr) (some "p".toStr) ∧ PortOK "https".toStr (some 8443) ∧
    CompOK b "/a/b".toStr "k=v".toStr "f".toStr :=
  ⟨userInfoOK_some (by decide) (by cases b <;> decide +kernel) (by cases b <;> decide +kernel),
   (portOK_some (by decide) (by decide)),
   compOKB_sound (by str_lits; cases b <;> decide +kernel)⟩

end Yarl
