import YarlProofs.C12Headline
import YarlProofs.C12HeadlineMore3
import YarlProofs.C12Spec
/-!
  C12HeadlineMore4.lean — AUDIT LAYER for property C12, continuation of C12Headline.lean / C12HeadlineMore3.lean (the
  theorems here need C12Spec.lean; this file is a leaf, nobody imports it).

  C12 | Query operations implement multi-dict algebra exactly |
  "with_query(q) yields exactly the pairs of q in order (a list/tuple value in a mapping expands to repeated keys; ints
  and floats are rendered by str()); extend_query appends q's pairs after the existing ones; update_query replaces all
  pairs whose key occurs in q and keeps every other pair in order; without_query_params removes exactly the named keys.
  None clears the query (with_query, update_query) or is a no-op (extend_query); bool, None values, NaN/inf and bytes
  are rejected with TypeError/ValueError; the argument is never mutated."

  What is here (C12Spec.lean) — GAPS 5 and 8 of C12Headline.lean.
   * an INDEPENDENT, non-iterative specification `mdUpdateSpec` of what `MultiDict(old).update(arg)` is meant to do
     (written by hand from the documented behaviour — a NEW TRUSTED DEFINITION, spelled out below by `rfl`), which
     satisfies the two update_query clauses of the property literally and WITHOUT any guard;
   * the EXACT characterisation of the inputs on which the transcription `mdUpdate` of multidict 6.2's `update()` agrees
     with it: `mdUpdate old arg = mdUpdateSpec old arg ↔ StaleFree old arg`, for all lists.  `StaleFree` is a decidable
     predicate on the two lists (a NEW definition whose reading must be trusted; spelled out below);
   * what happens when `StaleFree` fails (F-C12-multidict-tail, now characterised exactly instead of by one witness):
     the first offending surplus old pair survives at its place; the specified result is always a subsequence of the
     actual one; the extra pairs are old values of updated keys beyond the number of new values;
   * sufficient conditions for `StaleFree` that cover ordinary use (among them the guard `htail` of
     C12_headline_update_replaces);
   * the URL-level forms for a pair sequence, a single-valued mapping, a string and a list-valued mapping, for
     `Reach` and for `ReachE`.
  NOT here: a proof link between `mdUpdate` and multidict's source (there is none: GAPS 8 stays open in that respect);
  `mdUpdateSpec` is tied to multidict's DOCUMENTATION only by reading.

  Vocabulary added by C12Spec.lean.
  `valsOf k l`            — (MdLemmas.lean) the values of key `k` in the pair list `l`, in order (`md.getall(k)`).
  `ranked l`              — every pair of `l` with its RANK = the number of earlier pairs of `l` with the same key
                            (`[a=1, b=2, a=3]` ↦ `[(0, a=1), (0, b=2), (1, a=3)]`).
  `mdUpdateSpec old arg`  — the specified result of `MultiDict(old).update(arg)`: the r-th old pair of a key `k` that
                            occurs in `arg` becomes `k = (r-th value of k in arg)` IN PLACE, or is deleted when `arg` has
                            no r-th value for `k`; pairs of other keys stay; the r-th pair of `arg` for `k` is appended, in
                            argument order, when `old` has no r-th pair for `k`.
  `isSurplus arg (r, k, v)` — the old pair `k=v` of rank `r` is SURPLUS: `k` occurs in `arg` and `arg` has at most `r` values
                            for `k` (the specification deletes exactly these pairs).
  `surplusBefore old arg j` — the number of surplus pairs among the first `j` pairs of `old`.
  `staleFreeAt old arg j` — the check for position `j` of `old`: if the pair there is surplus (key `k`), the first
                            `j - surplusBefore old arg j` pairs of `old` already contain as many pairs of `k` as `arg` has
                            values for `k`.  (That difference is the running index of multidict's second loop, which lags
                            behind after deletions.)
  `StaleFree old arg`     — `staleFreeAt old arg j` for every position `j` of `old`; decidable.
  `R7.nk arg a`           — the number of NON-surplus pairs of the list `a` (ranks taken in `a`).
  `mdUpdate`, `keysOf`, `strItems`, `queryPairs`, `expandItems`, `SingleValued`, `GoodPairs`, `GoodText`, `Reach`, `ReachE`,
  `NoSurrogate`           — as in C12Headline.lean / C12HeadlineMore3.lean.
-/
namespace Yarl
open QsLemmas MdLemmas QueryUrl QsMore R7

universe u
variable {V : Type u}

/-! ## the specification and the condition, spelled out (both are TRUSTED definitions) -/

/-- what `ranked` and `mdUpdateSpec` are (definitions of C12Spec.lean, by `rfl`): the body maps / drops the old pairs by
    rank, the tail appends the argument's pairs whose rank is not below the number of old pairs of their key -/
theorem C12_headline_update_spec_def (old arg : List (Str × V)) :
    (∀ l : List (Str × V), ranked l = l.zipIdx.map (fun (p, i) => ((valsOf p.1 (l.take i)).length, p))) ∧
    mdUpdateSpec old arg =
      (ranked old).filterMap (fun (r, k, v) =>
          if k ∈ keysOf arg then ((valsOf k arg)[r]?).map (fun w => (k, w)) else some (k, v))
        ++ ((ranked arg).filter (fun (r, k, _) => (valsOf k old).length ≤ r)).map (·.2) :=
  ⟨fun _ => rfl, rfl⟩

/-- the specification on three worked inputs (a = [97], b = [98], c = [99]): overwrite in place and append the extra new
    value; delete the surplus old pairs; append new keys in argument order -/
theorem C12_headline_update_spec_examples :
    mdUpdateSpec [([97], 1), ([98], 2), ([97], 3)] [([97], 7), ([97], 8)] = [([97], 7), ([98], 2), ([97], 8)] ∧
    mdUpdateSpec [([97], 1), ([98], 2), ([97], 3), ([97], 4)] [([97], 7)] = [([97], 7), ([98], 2)] ∧
    mdUpdateSpec [([97], 1), ([98], 2)] [([99], 5), ([97], 7), ([97], 8), ([99], 6)] =
      [([97], 7), ([98], 2), ([99], 5), ([97], 8), ([99], 6)] := by
  decide +kernel

/-- what `StaleFree` says, with the positions given by splits of `old` (Cites R7.staleFree_iff_split, R7.isSurplus_iff):
    whenever `old = a ++ x :: b` and `x` (key `k`) is surplus — `k` is updated and `a` already holds as many pairs of `k`
    as `arg` has values for `k` — then the first `nk` pairs of `old`, `nk` = the number of NON-surplus pairs of `a`, already
    contain that many pairs of `k` -/
theorem C12_headline_staleFree_def (old arg : List (Str × V)) :
    (StaleFree old arg ↔ ∀ a x b, old = a ++ x :: b →
      x.1 ∈ keysOf arg → (valsOf x.1 arg).length ≤ (valsOf x.1 a).length →      -- `x` is a surplus pair
      (valsOf x.1 arg).length ≤ (valsOf x.1 (old.take (nk arg a))).length) ∧
    (∀ a : List (Str × V), nk arg a = ((ranked a).filter (fun y => !isSurplus arg y)).length) ∧
    (∀ (r : Nat) (x : Str × V), isSurplus arg (r, x) = true ↔ x.1 ∈ keysOf arg ∧ (valsOf x.1 arg).length ≤ r) := by
  refine ⟨?_, fun _ => rfl, isSurplus_iff arg⟩
  rw [staleFree_iff_split]
  constructor
  · intro h a x b hold hk hr
    exact h a x b hold ((isSurplus_iff arg _ x).2 ⟨hk, hr⟩)
  · intro h a x b hold hs
    obtain ⟨hk, hr⟩ := (isSurplus_iff arg _ x).1 hs
    exact h a x b hold hk hr

/-! ## GAPS 5 / 8 — multidict's `update()` against the specification -/

/-- GAPS 5, 8: the transcription `mdUpdate` of multidict 6.2's `update()` returns the SPECIFIED list exactly on the
    `StaleFree` inputs — for ALL lists, no other hypothesis.  Cites C12_mdUpdate_eq_spec_iff. -/
theorem C12_headline_multidict_update_is_spec_iff (old arg : List (Str × V)) :
    mdUpdate old arg = mdUpdateSpec old arg ↔ StaleFree old arg :=
  C12_mdUpdate_eq_spec_iff old arg

/-- "update_query replaces all pairs whose key occurs in q and keeps every other pair in order" — the SPECIFICATION
    satisfies both clauses literally, with NO guard: the pairs of the other keys are the old ones in order; for an updated
    key the pairs of the result are exactly the argument's pairs for that key, in order.
    Cites C12_spec_keeps_others, C12_spec_sets_keys, C12_spec_pairs_of_key. -/
theorem C12_headline_spec_satisfies_update_clauses (old arg : List (Str × V)) :
    (mdUpdateSpec old arg).filter (fun p => !(keysOf arg).contains p.1) =
      old.filter (fun p => !(keysOf arg).contains p.1) ∧
    (∀ k ∈ keysOf arg,
      ((mdUpdateSpec old arg).filter (fun p => p.1 = k)).map (·.2) = (arg.filter (fun p => p.1 = k)).map (·.2) ∧
      (mdUpdateSpec old arg).filter (fun p => p.1 = k) = arg.filter (fun p => p.1 = k)) :=
  ⟨C12_spec_keeps_others old arg,
   fun k hk => ⟨C12_spec_sets_keys old arg k hk, C12_spec_pairs_of_key old arg k hk⟩⟩

/-- "… in order" — POSITIONS in the specified result: a body whose key sequence is a subsequence of the old key sequence
    (surplus pairs deleted, every other pair kept or overwritten in place) followed by a subsequence of the argument; and
    when no updated key has more old pairs than new values nothing is deleted: the old key sequence is kept as is.
    Cites C12_spec_shape, C12_spec_in_place. -/
theorem C12_headline_spec_positions (old arg : List (Str × V)) :
    (∃ body appended, mdUpdateSpec old arg = body ++ appended ∧ (keysOf body).Sublist (keysOf old) ∧
      appended.Sublist arg) ∧
    ((∀ k ∈ keysOf arg, (valsOf k old).length ≤ (valsOf k arg).length) →      -- no surplus pair at all
      ∃ body appended, mdUpdateSpec old arg = body ++ appended ∧ keysOf body = keysOf old ∧ appended.Sublist arg) :=
  ⟨C12_spec_shape old arg, C12_spec_in_place old arg⟩

/-- GAPS 5, in EVERY case (no guard): the specified result is contained in the actual one, in order — multidict never
    loses or misplaces a pair, it can only FAIL TO DELETE; and per key the actual values are the specified ones followed
    by stale old values `S` of that key (a subsequence of the old values beyond the number of new ones), none for a key
    that is not updated.  Cites C12_mdUpdateSpec_sublist, C12_mdUpdate_extra_pairs. -/
theorem C12_headline_update_differs_only_by_stale_pairs (old arg : List (Str × V)) (k : Str) :
    (mdUpdateSpec old arg).Sublist (mdUpdate old arg) ∧
    ∃ S, ((mdUpdate old arg).filter (fun p => p.1 = k)).map (·.2) =
        ((mdUpdateSpec old arg).filter (fun p => p.1 = k)).map (·.2) ++ S ∧
      S.Sublist (((old.filter (fun p => p.1 = k)).map (·.2)).drop (arg.filter (fun p => p.1 = k)).length) ∧
      (k ∉ keysOf arg → S = []) :=
  ⟨C12_mdUpdateSpec_sublist old arg, C12_mdUpdate_extra_pairs old arg k⟩

/-- KNOWN FINDING F-C12-multidict-tail, characterised: what goes wrong when the input is NOT `StaleFree`.  Let `x` be the
    FIRST old pair whose check fails (`old = a ++ x :: b`).  Then `x` is a surplus pair and it SURVIVES unchanged at its
    place: the result is the specified one up to there (`a.length - surplusBefore …` pairs), then the stale `x`; and
    the result is not the specified one.  Cites C12_mdUpdate_first_stale, C12_mdUpdate_ne_spec_of_stale. -/
theorem C12_headline_update_first_stale_pair (old arg a : List (Str × V)) (x : Str × V) (b : List (Str × V))
    (hold : old = a ++ x :: b)
    (hpre : ∀ j, j < a.length → staleFreeAt old arg j = true)   -- every earlier position passes the check
    (hbad : staleFreeAt old arg a.length = false) :             -- position of `x` fails it
    isSurplus arg ((valsOf x.1 a).length, x) = true ∧
    (∃ tail, mdUpdate old arg =
      (mdUpdateSpec old arg).take (a.length - surplusBefore old arg a.length) ++ x :: tail) ∧
    mdUpdate old arg ≠ mdUpdateSpec old arg := by
  obtain ⟨h1, h2⟩ := C12_mdUpdate_first_stale old arg a x b hold hpre hbad
  refine ⟨h1, h2, C12_mdUpdate_ne_spec_of_stale old arg (fun h => ?_)⟩
  have := h a.length (by rw [hold]; simp)
  rw [hbad] at this
  exact Bool.false_ne_true this

/-- the witness of F-C12-multidict-tail through the new notions: `a=1&a=2&b=3&b=4` updated with `a=9&b=8` is NOT
    `StaleFree`; specified `a=9&b=8`, actual `a=9&b=8&b=4`.  The same old pairs in the order `a=1&b=3&a=2&b=4` ARE
    `StaleFree` (both keys have a surplus pair, but the surplus pairs come late) and give `a=9&b=8`; with a kept pair `c=5`
    between `b=3` and `b=4` the input is `StaleFree` again.  (Computed.) -/
theorem C12_headline_staleFree_examples :
    (¬ StaleFree [([97], 1), ([97], 2), ([98], 3), ([98], 4)] [([97], 9), ([98], 8)] ∧
      mdUpdateSpec [([97], 1), ([97], 2), ([98], 3), ([98], 4)] [([97], 9), ([98], 8)] = [([97], 9), ([98], 8)] ∧
      mdUpdate [([97], 1), ([97], 2), ([98], 3), ([98], 4)] [([97], 9), ([98], 8)] =
        [([97], 9), ([98], 8), ([98], 4)]) ∧
    (StaleFree [([97], 1), ([98], 3), ([97], 2), ([98], 4)] [([97], 9), ([98], 8)] ∧
      mdUpdate [([97], 1), ([98], 3), ([97], 2), ([98], 4)] [([97], 9), ([98], 8)] = [([97], 9), ([98], 8)]) ∧
    StaleFree [([97], 1), ([97], 2), ([98], 3), ([99], 5), ([98], 4)] [([97], 9), ([98], 8)] ∧
    ¬ StaleFree [([97], 1), ([97], 2), ([97], 0), ([98], 3), ([99], 5), ([98], 4)] [([97], 9), ([98], 8)] := by
  decide +kernel

/-! ## sufficient conditions for `StaleFree` (ordinary use) -/

/-- `StaleFree old arg` holds when: no updated key has more old pairs than new values; no key of the argument is repeated
    in the old list; the old list has no repeated key at all; at most ONE updated key (`k0`) has more old pairs than new
    values (this is the guard `htail` of C12_headline_update_replaces, for the key `k0`); the argument has a single key;
    the argument or the old list is empty.
    Cites C12_staleFree_of_no_surplus, _of_old_unrepeated, _of_nodup, _of_one_surplus_key, _single_key, _nil, _old_nil. -/
theorem C12_headline_staleFree_sufficient (old arg : List (Str × V)) (k0 : Str) :
    ((∀ k ∈ keysOf arg, (valsOf k old).length ≤ (valsOf k arg).length) → StaleFree old arg) ∧
    ((∀ k ∈ keysOf arg, (valsOf k old).length ≤ 1) → StaleFree old arg) ∧
    ((keysOf old).Nodup → StaleFree old arg) ∧
    ((∀ k ∈ keysOf arg, k ≠ k0 → (valsOf k old).length ≤ (valsOf k arg).length) → StaleFree old arg) ∧
    ((∀ k' ∈ keysOf arg, k' = k0) → StaleFree old arg) ∧
    StaleFree old [] ∧ StaleFree ([] : List (Str × V)) arg :=
  ⟨C12_staleFree_of_no_surplus old arg, C12_staleFree_of_old_unrepeated old arg, C12_staleFree_of_nodup old arg,
   C12_staleFree_of_one_surplus_key old arg k0, C12_staleFree_single_key old arg k0, C12_staleFree_nil old,
   C12_staleFree_old_nil arg⟩

/-- the general criterion "the surplus pairs come late": every surplus pair of a key `k` at position `j` is preceded by a
    prefix of `old` (length `t ≤ j`) that contains no surplus pair and already contains as many pairs of `k` as `arg` has
    values for `k`.  (Sufficient, not necessary.)  Cites C12_staleFree_of_surplus_late. -/
theorem C12_headline_staleFree_of_surplus_late (old arg : List (Str × V))
    (h : ∀ j, j < old.length → ∀ x ∈ (ranked old)[j]?, isSurplus arg x = true →
      ∃ t, t ≤ j ∧ surplusBefore old arg t = 0 ∧
        (valsOf x.2.1 arg).length ≤ (valsOf x.2.1 (old.take t)).length) :
    StaleFree old arg :=
  C12_staleFree_of_surplus_late old arg h

/-! ## `update_query` on a URL -/

/-- "update_query replaces all pairs whose key occurs in q and keeps every other pair in order" — pair SEQUENCE, single-
    valued MAPPING and STRING argument: the call succeeds; the resulting pairs are the SPECIFIED ones iff the input is
    `StaleFree`; and then both clauses hold literally (every updated key has exactly the argument's pairs, no guard per
    key).  Cites C12_url_update_query_spec, C12_url_update_query_spec_mapping, C12_url_update_query_spec_str. -/
theorem C12_headline_update_query_spec (e : Env) (u : Url) (items : List (Str × QItem)) (ps : List (Str × Str)) (s : Str)
    (hold : GoodPairs (queryPairs u)) :   -- old pairs are re-rendered (lone surrogate lost); true for reachable URLs
    (SingleValued items → expandItems items = some ps → GoodPairs ps → ps ≠ [] →
      (∃ v, updateQuery e u (.pairs items) = .ok v ∧
        (queryPairs v = mdUpdateSpec (queryPairs u) ps ↔ StaleFree (queryPairs u) ps) ∧
        (StaleFree (queryPairs u) ps →      -- excludes exactly multidict's stale duplicates (F-C12-multidict-tail)
          queryPairs v = mdUpdateSpec (queryPairs u) ps ∧
          (queryPairs v).filter (fun p => !(keysOf ps).contains p.1) =
            (queryPairs u).filter (fun p => !(keysOf ps).contains p.1) ∧
          ∀ k ∈ keysOf ps, (queryPairs v).filter (fun p => p.1 = k) = ps.filter (fun p => p.1 = k))) ∧
      (∃ v, updateQuery e u (.mapping items) = .ok v ∧
        (queryPairs v = mdUpdateSpec (queryPairs u) ps ↔ StaleFree (queryPairs u) ps) ∧
        (StaleFree (queryPairs u) ps →
          queryPairs v = mdUpdateSpec (queryPairs u) ps ∧
          (queryPairs v).filter (fun p => !(keysOf ps).contains p.1) =
            (queryPairs u).filter (fun p => !(keysOf ps).contains p.1) ∧
          ∀ k ∈ keysOf ps, (queryPairs v).filter (fun p => p.1 = k) = ps.filter (fun p => p.1 = k)))) ∧
    (GoodText s → s ≠ [] →                 -- the string is read by `parse_qsl` ('%XY' is an escape), like the old query
      ∃ v, updateQuery e u (.str s) = .ok v ∧
        (queryPairs v = mdUpdateSpec (queryPairs u) (parseQsl s) ↔ StaleFree (queryPairs u) (parseQsl s)) ∧
        (StaleFree (queryPairs u) (parseQsl s) →
          queryPairs v = mdUpdateSpec (queryPairs u) (parseQsl s) ∧
          (queryPairs v).filter (fun p => !(keysOf (parseQsl s)).contains p.1) =
            (queryPairs u).filter (fun p => !(keysOf (parseQsl s)).contains p.1) ∧
          ∀ k ∈ keysOf (parseQsl s),
            (queryPairs v).filter (fun p => p.1 = k) = (parseQsl s).filter (fun p => p.1 = k))) :=
  ⟨fun hs hden hg hne => ⟨C12_url_update_query_spec e u items ps hs hden hg hold hne,
      C12_url_update_query_spec_mapping e u items ps hs hden hg hold hne⟩,
   fun hs hne => C12_url_update_query_spec_str e u s hs hold hne⟩

/-- update_query with a MAPPING whose values may be lists / tuples: multidict acts on the SLOTS (a list value is ONE
    slot), so specification and condition are those of the slot lists; under `StaleFree` of the slot lists the resulting
    pairs are the expansion of the SPECIFIED slot list.  (One direction only: no iff is proved here.)
    Cites C12_url_update_query_spec_lists. -/
theorem C12_headline_update_query_spec_lists (e : Env) (u : Url) (items : List (Str × QItem)) (ps : List (Str × Str))
    (hden : expandItems items = some ps)   -- the mapping denotes pairs (no rejected value)
    (hg : GoodPairs ps)                    -- no lone surrogate in the argument (C06)
    (hold : GoodPairs (queryPairs u))      -- nor in the old query (re-rendered)
    (hne : items ≠ [])                     -- an empty mapping is a no-op (different code path)
    (hsf : StaleFree (strItems (queryPairs u)) items) :   -- on SLOTS: old pairs as single-valued slots vs the mapping's slots
    ∃ v ps', updateQuery e u (.mapping items) = .ok v ∧ queryPairs v = ps' ∧
      expandItems (mdUpdateSpec (strItems (queryPairs u)) items) = some ps' :=
  C12_url_update_query_spec_lists e u items ps hden hg hold hne hsf

/-- for URLs obtained through the auto-encoding API (`Reach`) the hypothesis on the old query is discharged: under
    `StaleFree`, update_query with a pair sequence / single-valued mapping yields exactly the specified pairs.
    Cites C12_reach_update_query_spec. -/
theorem C12_headline_update_query_spec_reachable (e : Env) (u : Url)
    (hr : Reach e u)                       -- obtained through the auto-encoding API
    (items : List (Str × QItem)) (ps : List (Str × Str)) (hs : SingleValued items)
    (hden : expandItems items = some ps) (hg : GoodPairs ps) (hne : ps ≠ [])
    (hsf : StaleFree (queryPairs u) ps) :  -- excludes exactly multidict's stale duplicates
    (∃ v, updateQuery e u (.pairs items) = .ok v ∧ queryPairs v = mdUpdateSpec (queryPairs u) ps) ∧
    (∃ v, updateQuery e u (.mapping items) = .ok v ∧ queryPairs v = mdUpdateSpec (queryPairs u) ps) :=
  C12_reach_update_query_spec e u hr items ps hs hden hg hne hsf

/-- … and over `ReachE` (ALL entry points incl. `encoded=True`) under the one hypothesis of C12HeadlineMore3.lean, no lone
    surrogate in the stored query: the iff with the specification and the literal clauses, for a pair sequence.
    Cites C12_reachE_good_pairs (C12ReachE.lean), C12_url_update_query_spec. -/
theorem C12_headline_reachE_update_query_spec (e : Env) (u : Url)
    (hr : ReachE e u)                      -- obtainable through any entry point
    (hq : NoSurrogate u.query)             -- no lone surrogate in the stored query (needed: …_reachE_fails_for_surrogate)
    (items : List (Str × QItem)) (ps : List (Str × Str)) (hs : SingleValued items)
    (hden : expandItems items = some ps) (hg : GoodPairs ps) (hne : ps ≠ []) :
    ∃ v, updateQuery e u (.pairs items) = .ok v ∧
      (queryPairs v = mdUpdateSpec (queryPairs u) ps ↔ StaleFree (queryPairs u) ps) ∧
      (StaleFree (queryPairs u) ps →
        queryPairs v = mdUpdateSpec (queryPairs u) ps ∧
        (queryPairs v).filter (fun p => !(keysOf ps).contains p.1) =
          (queryPairs u).filter (fun p => !(keysOf ps).contains p.1) ∧
        ∀ k ∈ keysOf ps, (queryPairs v).filter (fun p => p.1 = k) = ps.filter (fun p => p.1 = k)) :=
  C12_url_update_query_spec e u items ps hs hden hg (C12_reachE_good_pairs e u hr hq).2 hne

/-- KNOWN FINDING F-C12-multidict-tail at URL level, through the specification: `?a=1&a=2&b=3&b=4` updated with
    `[("a", 9), ("b", 8)]` succeeds, the specified pairs are `a=9&b=8`, and the result is NOT the specified one (the input
    is not `StaleFree`); `?a=1&b=3&a=2&b=4` (same pairs, other order) IS `StaleFree` and gives exactly `a=9&b=8`.
    Cites C12_url_update_query_spec. -/
theorem C12_headline_update_query_spec_fails_for_stale_duplicate (e : Env) :
    (∃ v, updateQuery e R7.staleUrl (.pairs R7.newItems) = .ok v ∧
      queryPairs v ≠ mdUpdateSpec (queryPairs R7.staleUrl) R7.newPs ∧
      mdUpdateSpec (queryPairs R7.staleUrl) R7.newPs = [([97], [57]), ([98], [56])] ∧
      ¬ StaleFree (queryPairs R7.staleUrl) R7.newPs) ∧
    (∃ v, updateQuery e R7.okUrl (.pairs R7.newItems) = .ok v ∧ queryPairs v = [([97], [57]), ([98], [56])] ∧
      StaleFree (queryPairs R7.okUrl) R7.newPs) := by
  constructor
  · obtain ⟨v, h1, h2, _⟩ := C12_url_update_query_spec e R7.staleUrl R7.newItems R7.newPs (by decide +kernel)
      (by decide +kernel) (by decide +kernel) (by decide +kernel) (by decide +kernel)
    exact ⟨v, h1, fun h => absurd (h2.1 h) (by decide +kernel), by decide +kernel, by decide +kernel⟩
  · obtain ⟨v, h1, _, h3⟩ := C12_url_update_query_spec e R7.okUrl R7.newItems R7.newPs (by decide +kernel)
      (by decide +kernel) (by decide +kernel) (by decide +kernel) (by decide +kernel)
    refine ⟨v, h1, ?_, by decide +kernel⟩
    rw [(h3 (by decide +kernel)).1]
    decide +kernel

end Yarl
