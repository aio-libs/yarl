/-
  ReachE.lean — reachability through ALL entry points of the model, `encoded=True` included.

  The reachability relations used so far (`Reach` C01Reach.lean, `ReachC` C03Reach.lean, `ReachS` Lemmas/StrAscii.lean)
  contain only the AUTO-ENCODING entry points.  The model has four places where the caller can switch the encoding off:

      URL(s, encoded=True)              = `preEncodedUrl e s`
      URL.build(..., encoded=True)      = `build e a` with `a.encoded = true`
      with_path(p, encoded=True)        = `withPath e u p true kq kf`
      joinpath(*paths, encoded=True)    = `makeChild e u paths true`

  (no other modifier of the model has an `encoded` flag).  This file defines

    * `ReachE e u`          — the closure of ALL entry points: both constructor modes, both `build` modes, the 18 operations
                              of `UOp` other than the model artefact `UOp.joinRef` (with_scheme/user/password/host/port/
                              path/query/fragment/name/suffix, extend_query, update_query, without_query_params, `/` +
                              joinpath, parent, origin, relative, copy — all with Python-string arguments), the two
                              `encoded=True` modifiers, and `join` of two `ReachE` URLs;
    * `ReachEX A Z Sc e u`  — the same closure with SIDE CONDITIONS ON THE INPUTS made explicit:
                                `A`  on every text handed over with `encoded=True` (the string of `URL(s, encoded=True)`,
                                     every text argument of `build(encoded=True)`, the path of `with_path(…, encoded=True)`,
                                     every path of `joinpath(…, encoded=True)`),
                                `Z`  on the `host[:port]` text given to the auto-encoding constructor / `build(authority=)`
                                     (as in `ReachS`, Lemmas/StrAscii.lean),
                                `Sc` on the scheme handed to `with_scheme` / `build(scheme=, encoded=False)` (as in `ReachS`);
                              `ReachE e u ↔ ReachEX ⊤ ⊤ ⊤ e u` (`reachE_iff_reachEX`), `ReachEX.mono`;
                              restricted to the auto-encoding constructors it is `ReachS Z Sc ⊥` with all `build` texts
                              Python strings;
    * `ReachEN N e u`       — the same closure with a side condition `N` on the RESULT of every entry point (both
                              constructor modes, `build`); `ReachEN.toReachE`, `ReachE.toReachEN`;

  and proves the invariants the property files C01ReachE / C10ReachE / C11ReachE / C12ReachE / C19ReachE read off:

    * `reachE_of_record`    — EVERY record without cache whose five components are Python strings is in `ReachE`
                              (`URL.build(scheme=, authority=, path=, query_string=, fragment=, encoded=True)` stores its
                              arguments verbatim): a theorem over `ReachE` is a theorem about arbitrary stored text, and a
                              hypothesis on a `ReachE` URL can only be discharged from its inputs (`ReachEX`, `ReachEN`);
    * `reachE_cacheOK`      — a `ReachE` URL has no pre-filled cache or is itself a result of the auto-encoding constructor
                              (`R6.applyOp_pre`: one operation returns a cache-free record or its argument);
    * `reachEX_tail`        — for any class `C` of code points that contains ASCII and lies within the Python range
                              (`R6.CClass`): if every `encoded=True` text is made of `C`, path, query and fragment of the
                              URL are made of `C` (instances `cclass_py`: Python strings — unconditional; `cclass_ascii`;
                              `cclass_good`: no lone surrogates);
    * `reachEX_asciiNet`    — the stored authority (and pre-filled cache) is ASCII when the `encoded=True` texts and the
                              zone ids are, and the IDNA oracle answers ASCII (lifts `C01_reachable_netloc_ascii`);
    * `reachEX_scheme`      — the stored scheme lies in a `SchemeClass` (lifts `reachS_scheme`).
-/
import YarlProofs.C01HeadlineMore
import YarlProofs.C11Encoded
import YarlProofs.C11Ctor
import YarlProofs.C07Encoded
import YarlProofs.C15Encoded
import YarlProofs.C12More
import YarlProofs.Lemmas.JoinShape
namespace Yarl
open StrAscii OutLangLemmas QsLemmas WfLemmas EntryLemmas

/-! ## the closure -/

/-- every text of a `build` call is a Python string -/
def BuildAllPy (a : BuildArgs) : Prop :=
  PyStr a.scheme ∧ PyStr a.authority ∧ (∀ x, a.user = some x → PyStr x) ∧ (∀ x, a.password = some x → PyStr x) ∧
  PyStr a.host ∧ PyStr a.path ∧ PyStr a.queryString ∧ PyStr a.fragment ∧ QArgPy a.query

/-- the texts that `build(encoded=True)` stores verbatim (a `query=` argument is rendered by the query quoter even with
    `encoded=True`, so it is not among them) -/
def BuildEncIn (A : Str → Prop) (a : BuildArgs) : Prop :=
  A a.scheme ∧ A a.authority ∧ (∀ x, a.user = some x → A x) ∧ (∀ x, a.password = some x → A x) ∧
  A a.host ∧ A a.path ∧ A a.queryString ∧ A a.fragment

/-- `UOp.joinRef ref` (join with an ARBITRARY record as reference) is a model artefact, not an entry point of the
    library; `join` of two reachable URLs is a separate constructor of the closure -/
def UOp.notJoinRef : UOp → Prop
  | .joinRef _ => False
  | _ => True

/-- URLs obtainable through ALL entry points of the model -/
inductive ReachE (e : Env) : Url → Prop
  | ctor (s : Str) (u : Url) : PyStr s → encodeUrl e s = .ok u → ReachE e u
  | ctorEnc (s : Str) (u : Url) : PyStr s → preEncodedUrl e s = .ok u → ReachE e u
  | build (a : BuildArgs) (u : Url) : BuildAllPy a → build e a = .ok u → ReachE e u
  | op (u : Url) (op : UOp) (v : Url) : ReachE e u → op.ArgsPy e.b → op.notJoinRef → applyOp e u op = .ok v → ReachE e v
  | withPathEnc (u : Url) (p : Str) (kq kf : Bool) : ReachE e u → PyStr p → ReachE e (withPath e u p true kq kf)
  | childEnc (u : Url) (paths : List Str) (v : Url) : ReachE e u → (∀ p ∈ paths, PyStr p) →
      makeChild e u paths true = .ok v → ReachE e v
  | join (u r : Url) : ReachE e u → ReachE e r → ReachE e (join e u r)

/-- `ReachE` with side conditions on the inputs: `A` on every `encoded=True` text, `Z` on the `host[:port]` text of an
    auto-encoded authority, `Sc` on auto-encoded scheme arguments -/
inductive ReachEX (A Z Sc : Str → Prop) (e : Env) : Url → Prop
  | ctor (s : Str) (u : Url) : PyStr s → (∀ p, splitUrl e.o s = .ok p → Z (hostinfo p.netloc)) →
      encodeUrl e s = .ok u → ReachEX A Z Sc e u
  | ctorEnc (s : Str) (u : Url) : PyStr s → A s → preEncodedUrl e s = .ok u → ReachEX A Z Sc e u
  | build (a : BuildArgs) (u : Url) : a.encoded = false → BuildAllPy a → Z (hostinfo a.authority) → Sc a.scheme →
      build e a = .ok u → ReachEX A Z Sc e u
  | buildEnc (a : BuildArgs) (u : Url) : a.encoded = true → BuildAllPy a → BuildEncIn A a →
      build e a = .ok u → ReachEX A Z Sc e u
  | op (u : Url) (op : UOp) (v : Url) : ReachEX A Z Sc e u → op.ArgsPy e.b → op.notJoinRef →
      OpSide Sc (fun _ => True) op → applyOp e u op = .ok v → ReachEX A Z Sc e v
  | withPathEnc (u : Url) (p : Str) (kq kf : Bool) : ReachEX A Z Sc e u → PyStr p → A p →
      ReachEX A Z Sc e (withPath e u p true kq kf)
  | childEnc (u : Url) (paths : List Str) (v : Url) : ReachEX A Z Sc e u → (∀ p ∈ paths, PyStr p ∧ A p) →
      makeChild e u paths true = .ok v → ReachEX A Z Sc e v
  | join (u r : Url) : ReachEX A Z Sc e u → ReachEX A Z Sc e r → ReachEX A Z Sc e (join e u r)

namespace R6

theorem opSide_top (op : UOp) : OpSide (fun _ => True) (fun _ => True) op := by
  cases op <;> trivial

end R6
open R6

theorem ReachEX.toReachE {A Z Sc : Str → Prop} {e : Env} {u : Url} (h : ReachEX A Z Sc e u) : ReachE e u := by
  induction h with
  | ctor s u hs _ h => exact ReachE.ctor s u hs h
  | ctorEnc s u hs _ h => exact ReachE.ctorEnc s u hs h
  | build a u _ hpy _ _ h => exact ReachE.build a u hpy h
  | buildEnc a u _ hpy _ h => exact ReachE.build a u hpy h
  | op u op v _ ha hj _ h ih => exact ReachE.op u op v ih ha hj h
  | withPathEnc u p kq kf _ hp _ ih => exact ReachE.withPathEnc u p kq kf ih hp
  | childEnc u paths v _ hp h ih => exact ReachE.childEnc u paths v ih (fun p hm => (hp p hm).1) h
  | join u r _ _ ihu ihr => exact ReachE.join u r ihu ihr

theorem ReachE.toReachEX {e : Env} {u : Url} (h : ReachE e u) :
    ReachEX (fun _ => True) (fun _ => True) (fun _ => True) e u := by
  induction h with
  | ctor s u hs h => exact ReachEX.ctor s u hs (fun _ _ => trivial) h
  | ctorEnc s u hs h => exact ReachEX.ctorEnc s u hs trivial h
  | build a u hpy h =>
    cases henc : a.encoded with
    | false => exact ReachEX.build a u henc hpy trivial trivial h
    | true =>
      exact ReachEX.buildEnc a u henc hpy
        ⟨trivial, trivial, fun _ _ => trivial, fun _ _ => trivial, trivial, trivial, trivial, trivial⟩ h
  | op u op v _ ha hj h ih => exact ReachEX.op u op v ih ha hj (opSide_top op) h
  | withPathEnc u p kq kf _ hp ih => exact ReachEX.withPathEnc u p kq kf ih hp trivial
  | childEnc u paths v _ hp h ih => exact ReachEX.childEnc u paths v ih (fun p hm => ⟨hp p hm, trivial⟩) h
  | join u r _ _ ihu ihr => exact ReachEX.join u r ihu ihr

/-- `ReachE` is `ReachEX` without side conditions -/
theorem reachE_iff_reachEX (e : Env) (u : Url) :
    ReachE e u ↔ ReachEX (fun _ => True) (fun _ => True) (fun _ => True) e u :=
  ⟨ReachE.toReachEX, ReachEX.toReachE⟩

theorem ReachEX.mono {A A' Z Z' Sc Sc' : Str → Prop} {e : Env} (hA : ∀ x, A x → A' x) (hZ : ∀ x, Z x → Z' x)
    (hS : ∀ x, Sc x → Sc' x) {u : Url} (h : ReachEX A Z Sc e u) : ReachEX A' Z' Sc' e u := by
  induction h with
  | ctor s u hs hz h => exact ReachEX.ctor s u hs (fun p hp => hZ _ (hz p hp)) h
  | ctorEnc s u hs ha h => exact ReachEX.ctorEnc s u hs (hA _ ha) h
  | build a u henc hpy hz hsc h => exact ReachEX.build a u henc hpy (hZ _ hz) (hS _ hsc) h
  | buildEnc a u henc hpy ha h =>
    obtain ⟨a1, a2, a3, a4, a5, a6, a7, a8⟩ := ha
    exact ReachEX.buildEnc a u henc hpy
      ⟨hA _ a1, hA _ a2, fun x hx => hA _ (a3 x hx), fun x hx => hA _ (a4 x hx), hA _ a5, hA _ a6, hA _ a7, hA _ a8⟩ h
  | op u op v _ ha hj hside h ih =>
    refine ReachEX.op u op v ih ha hj ?_ h
    cases op <;> first | exact hS _ hside | trivial
  | withPathEnc u p kq kf _ hp ha ih => exact ReachEX.withPathEnc u p kq kf ih hp (hA _ ha)
  | childEnc u paths v _ hp h ih => exact ReachEX.childEnc u paths v ih (fun p hm => ⟨(hp p hm).1, hA _ (hp p hm).2⟩) h
  | join u r _ _ ihu ihr => exact ReachEX.join u r ihu ihr

/-- `ReachE` with a side condition `N` on the RESULT of every entry point (both constructor modes, both `build` modes);
    the modifiers and `join` are unrestricted.  Used for statements of the form "if every entry-point result of the
    history had `N`, so has the URL" (C19ReachE: printability). -/
inductive ReachEN (N : Url → Prop) (e : Env) : Url → Prop
  | ctor (s : Str) (u : Url) : PyStr s → encodeUrl e s = .ok u → N u → ReachEN N e u
  | ctorEnc (s : Str) (u : Url) : PyStr s → preEncodedUrl e s = .ok u → N u → ReachEN N e u
  | build (a : BuildArgs) (u : Url) : BuildAllPy a → build e a = .ok u → N u → ReachEN N e u
  | op (u : Url) (op : UOp) (v : Url) : ReachEN N e u → op.ArgsPy e.b → op.notJoinRef → applyOp e u op = .ok v →
      ReachEN N e v
  | withPathEnc (u : Url) (p : Str) (kq kf : Bool) : ReachEN N e u → PyStr p → ReachEN N e (withPath e u p true kq kf)
  | childEnc (u : Url) (paths : List Str) (v : Url) : ReachEN N e u → (∀ p ∈ paths, PyStr p) →
      makeChild e u paths true = .ok v → ReachEN N e v
  | join (u r : Url) : ReachEN N e u → ReachEN N e r → ReachEN N e (join e u r)

theorem ReachEN.toReachE {N : Url → Prop} {e : Env} {u : Url} (h : ReachEN N e u) : ReachE e u := by
  induction h with
  | ctor s u hs h _ => exact ReachE.ctor s u hs h
  | ctorEnc s u hs h _ => exact ReachE.ctorEnc s u hs h
  | build a u hpy h _ => exact ReachE.build a u hpy h
  | op u op v _ ha hj h ih => exact ReachE.op u op v ih ha hj h
  | withPathEnc u p kq kf _ hp ih => exact ReachE.withPathEnc u p kq kf ih hp
  | childEnc u paths v _ hp h ih => exact ReachE.childEnc u paths v ih hp h
  | join u r _ _ ihu ihr => exact ReachE.join u r ihu ihr

theorem ReachE.toReachEN {e : Env} {u : Url} (h : ReachE e u) : ReachEN (fun _ => True) e u := by
  induction h with
  | ctor s u hs h => exact ReachEN.ctor s u hs h trivial
  | ctorEnc s u hs h => exact ReachEN.ctorEnc s u hs h trivial
  | build a u hpy h => exact ReachEN.build a u hpy h trivial
  | op u op v _ ha hj h ih => exact ReachEN.op u op v ih ha hj h
  | withPathEnc u p kq kf _ hp ih => exact ReachEN.withPathEnc u p kq kf ih hp
  | childEnc u paths v _ hp h ih => exact ReachEN.childEnc u paths v ih hp h
  | join u r _ _ ihu ihr => exact ReachEN.join u r ihu ihr

/-! ## every stored record is reachable; the cache -/

namespace R6
theorem build_record (e : Env) (s n p q f : Str) :
    build e { scheme := s, authority := n, path := p, queryString := q, fragment := f, encoded := true } =
      .ok (fromParts s n p q f) := by
  rw [build_eq]
  cases n <;> rfl

/-- `URL(s, encoded=True)` stores the parts of the split, without cache -/
theorem preEncodedUrl_ok {e : Env} {s : Str} {u : Url} (h : preEncodedUrl e s = .ok u) :
    ∃ p, splitUrl e.o s = .ok p ∧ u = Url.ofParts p := by
  obtain ⟨p, hp, h⟩ := bind_ok h
  cases h
  exact ⟨p, hp, rfl⟩

end R6

/-- `URL.build(scheme=s, authority=n, path=p, query_string=q, fragment=f, encoded=True)` stores its arguments verbatim
    (side condition `A` on the five texts) -/
theorem reachEX_of_record (A Z Sc : Str → Prop) (e : Env) (s n p q f : Str) (hs : PyStr s) (hn : PyStr n) (hp : PyStr p)
    (hq : PyStr q) (hf : PyStr f) (k1 : A s) (k2 : A n) (k3 : A p) (k4 : A q) (k5 : A f) (k0 : A []) :
    ReachEX A Z Sc e (fromParts s n p q f) :=
  ReachEX.buildEnc { scheme := s, authority := n, path := p, queryString := q, fragment := f, encoded := true } _ rfl
    ⟨hs, hn, nofun, nofun, pyStr_nil, hp, hq, hf, trivial⟩
    ⟨k1, k2, nofun, nofun, k0, k3, k4, k5⟩ (R6.build_record e s n p q f)

/-- EVERY record without cache whose five components are Python strings is reachable:
    `URL.build(scheme=s, authority=n, path=p, query_string=q, fragment=f, encoded=True)` stores its arguments verbatim.
    So `ReachE` constrains the stored text of a cache-free URL in NO way beyond "Python strings": a statement over
    `ReachE` that needs more must take it from the inputs (`ReachEX`). -/
theorem reachE_of_record (e : Env) (s n p q f : Str) (hs : PyStr s) (hn : PyStr n) (hp : PyStr p) (hq : PyStr q)
    (hf : PyStr f) : ReachE e (fromParts s n p q f) :=
  (reachEX_of_record (fun _ => True) (fun _ => True) (fun _ => True) e s n p q f hs hn hp hq hf trivial trivial trivial
    trivial trivial trivial).toReachE

/-- `_make_child` returns a record without cache -/
theorem R6.makeChild_pre_none {e : Env} {u v : Url} {paths : List Str} {enc : Bool} (h : makeChild e u paths enc = .ok v) :
    v.pre = none := by
  obtain ⟨p, rfl⟩ := ModShape.makeChild_frame h
  rfl

/-- one operation returns a record without cache, or the URL it was applied to -/
theorem R6.applyOp_pre (e : Env) (u v : Url) (op : UOp) (hj : op.notJoinRef) (h : applyOp e u op = .ok v) :
    v.pre = none ∨ v = u := by
  refine applyOp_cache (fun r hr => ?_) h
  subst hr
  exact hj

/-- a reachable URL has no pre-filled cache, or it is itself a result of the auto-encoding constructor
    (`CacheOK`, C01Headline.lean) -/
theorem reachE_cacheOK (e : Env) (u : Url) (h : ReachE e u) : CacheOK e u := by
  induction h with
  | ctor s u hs h => exact Or.inr ⟨s, hs, h⟩
  | ctorEnc s u hs h => exact Or.inl ((C09_no_prefill e).1 s u h)
  | build a u hpy h => exact Or.inl ((C09_no_prefill e).2.1 a u h)
  | op u op v _ ha hj h ih =>
    rcases R6.applyOp_pre e u v op hj h with h | rfl
    · exact Or.inl h
    · exact ih
  | withPathEnc u p kq kf _ hp ih => exact Or.inl rfl
  | childEnc u paths v _ hp h ih => exact Or.inl (R6.makeChild_pre_none h)
  | join u r _ _ ihu ihr =>
    rcases (C09_modifiers_no_prefill e u).2.2.2.2.2.2.2.2.2.2.2.2.2.2 r with h | h
    · exact Or.inl (HeadA.tw h)
    · exact h.symm ▸ ihr

/-! ## the tail invariant: path, query, fragment -/

namespace R6

/-- a class of code points that contains ASCII and lies within the Python range -/
structure CClass (C : Nat → Prop) : Prop where
  ascii : ∀ c, c < 128 → C c
  py : ∀ c, C c → c ≤ 0x10FFFF

/-- every code point of the text is in the class -/
def In (C : Nat → Prop) (s : Str) : Prop := ∀ c ∈ s, C c

variable {C : Nat → Prop}

theorem in_of_sub {a b : Str} (h : ∀ c ∈ a, c ∈ b) (hb : In C b) : In C a := fun c hc => hb c (h c hc)
theorem in_of_sublist {a b : Str} (h : a.Sublist b) (hb : In C b) : In C a := fun c hc => hb c (h.subset hc)
theorem in_of_ascii (hC : CClass C) {s : Str} (h : ∀ c ∈ s, c < 128) : In C s := fun c hc => hC.ascii c (h c hc)
theorem in_outLang (hC : CClass C) {a : QArgs} (ha : a ∈ Gen.allQuoters) (b : Backend) {s : Str}
    (h : OutLang (a.tab b) s) : In C s :=
  in_of_ascii hC (outLang_ascii _ (gen_tab_wf a ha b) h)

/-- the texts over a class of code points, for all three components -/
theorem inLang (hC : CClass C) (e : Env) : TailLang e (In C) (In C) (In C) where
  path := forall_segLang fun d hd => hC.ascii d (by
    rcases hd with rfl | rfl
    · decide
    · decide)
  ptail := fun h c hc => h c (List.mem_cons_of_mem _ hc)
  query := glue_chars C
  q38 := List.forall_mem_singleton.mpr (hC.ascii 38 (by decide))
  q61 := List.forall_mem_singleton.mpr (hC.ascii 61 (by decide))
  fnil := nofun
  qpy := fun h c hc => hC.py c (h c hc)
  pquote := fun s hs => in_outLang hC mem_PATH_REQUOTER e.b (q_path_quoter e s hs)
  qquote := fun s hs => in_outLang hC mem_QUERY_REQUOTER e.b (q_query_quoter e.b s hs)
  qpart := fun s hs => in_outLang hC mem_QUERY_REQUOTER e.b (q_query_part e.b s hs)
  fquote := fun s hs => in_outLang hC mem_FRAGMENT_REQUOTER e.b (q_fragment_quoter e s hs)

/-- path, query and fragment are made of code points of the class -/
structure TailIn (C : Nat → Prop) (u : Url) : Prop where
  path : In C u.path
  query : In C u.query
  fragment : In C u.fragment

theorem tailIn_of_wf (hC : CClass C) {b : Backend} {u : Url} (h : WFUrl b u) : TailIn C u :=
  ⟨in_outLang hC mem_PATH_REQUOTER b h.path, in_outLang hC mem_QUERY_REQUOTER b h.query,
    in_outLang hC mem_FRAGMENT_REQUOTER b h.fragment⟩

theorem TailIn.tail {u : Url} (h : TailIn C u) : Tail (In C) (In C) (In C) u := ⟨h.path, h.query, h.fragment⟩

theorem tailIn_of_tail {u : Url} (h : Tail (In C) (In C) (In C) u) : TailIn C u := ⟨h.path, h.query, h.fragment⟩

theorem tail_applyOp (hC : CClass C) (e : Env) (u : Url) (hu : TailIn C u) (op : UOp) (ha : op.ArgsPy e.b)
    (hj : op.notJoinRef) (v : Url) (h : applyOp e u op = .ok v) : TailIn C v := by
  refine tailIn_of_tail (applyOp_tail (inLang hC e) hu.tail op ha ?_ h)
  intro ref hr
  subst hr
  exact absurd hj id

end R6
open R6

/-- TAIL INVARIANT.  Let `C` be a class of code points that contains ASCII and lies within the Python range.  If every
    (Python-string) text handed over with `encoded=True` is made of `C`, then path, query and fragment of the URL are
    made of `C`. -/
theorem reachEX_tail {C : Nat → Prop} (hC : CClass C) {A Z Sc : Str → Prop} (hA : ∀ x, PyStr x → A x → In C x)
    {e : Env} {u : Url} (h : ReachEX A Z Sc e u) : TailIn C u := by
  induction h with
  | ctor s u hs _ h => exact tailIn_of_wf hC (C01_encodeUrl_wf e s hs u h)
  | ctorEnc s u hs ha h =>
    obtain ⟨p, hp, rfl⟩ := preEncodedUrl_ok h
    obtain ⟨_, h2, h3, h4⟩ := splitUrl_sublist e.o s p hp
    have ha := hA s hs ha
    exact ⟨in_of_sublist h2 ha, in_of_sublist h3 ha, in_of_sublist h4 ha⟩
  | build a u henc hpy _ _ h =>
    exact tailIn_of_wf hC (C01_build_wf e a u henc hpy.2.2.2.2.2 h)
  | buildEnc a u henc hpy ha h =>
    obtain ⟨_, _, _, _, _, p6, p7, p8, p9⟩ := hpy
    obtain ⟨_, _, _, _, _, a6, a7, a8⟩ := ha
    obtain ⟨_, _, _, b4, b5, _, _, b8, b9⟩ := C07_build_encoded_verbatim e a u henc h
    refine ⟨b4 ▸ hA _ p6 a6, ?_, b5 ▸ hA _ p8 a8⟩
    cases hq : qargTruthy a.query with
    | false => rw [b8 hq]; exact hA _ p7 a7
    | true =>
      obtain ⟨_, r, hr, hu⟩ := b9 hq
      rw [hu]
      exact (inLang hC e).of_getStrQuery a.query p9 r hr
  | op u op v _ ha hj _ h ih => exact tail_applyOp hC e u ih op ha hj v h
  | withPathEnc u p kq kf _ hp ha ih => exact tailIn_of_tail ((inLang hC e).tail_withPathEnc ih.tail (hA p hp ha) kq kf)
  | childEnc u paths v _ hp h ih =>
    exact tailIn_of_tail ((inLang hC e).tail_makeChild ih.tail (enc := true) (fun p hm => hA p (hp p hm).1 (hp p hm).2) h)
  | join u r _ _ ihu ihr => exact tailIn_of_tail ((inLang hC e).tail_join ihu.tail ihr.tail)

/-- the three classes used by the property files -/
theorem cclass_py : CClass (fun c => c ≤ 0x10FFFF) := ⟨fun c h => by omega, fun c h => h⟩
theorem cclass_ascii : CClass (fun c => c < 128) := ⟨fun c h => h, fun c h => by omega⟩
theorem cclass_good : CClass QsLemmas.Scalar :=
  ⟨fun c h => QsLemmas.scalar_of c (by omega) (Or.inl (by omega)), fun c h => h.1⟩


/-! ## authority and scheme -/

namespace R6
theorem asciiNet_of_pre_none {u : Url} (hn : NetlocAscii u) (hp : u.pre = none) : AsciiNet u :=
  ⟨hn, fun p h => by rw [hp] at h; cases h⟩

theorem encBuildNetloc_ascii (a : BuildArgs) (ha : BuildEncIn Ascii a) : Ascii (C07_encBuildNetloc a) := by
  obtain ⟨_, a2, a3, a4, a5, _⟩ := ha
  unfold C07_encBuildNetloc
  split
  · exact a2
  · split
    · exact makeNetloc_forall (fun c => c < 128) (by decide) (by decide)
        (fun c hc => by simp [isDigitC] at hc; omega) id a.user a.password a.host _ a3 a4 a5
    · intro c hc; cases hc
end R6
open R6

/-- AUTHORITY INVARIANT (ASCII).  If every `encoded=True` text is ASCII, the zone ids handed to the auto-encoding
    constructor / `build(authority=)` are ASCII and the IDNA oracle answers ASCII, then the stored authority (and the
    cache entries the constructor pre-filled) are ASCII.  No condition on schemes. -/
theorem reachEX_asciiNet (e : Env) (ho : HostOracleAscii e.o) {Sc : Str → Prop} {u : Url}
    (h : ReachEX Ascii ZoneAscii Sc e u) : AsciiNet u := by
  induction h with
  | ctor s u hs hz h => exact C01_encodeUrl_netloc_ascii e s u ho hs hz h
  | ctorEnc s u hs ha h =>
    obtain ⟨p, hp, rfl⟩ := preEncodedUrl_ok h
    exact asciiNet_of_pre_none (fun c hc => ha c ((splitUrl_sublist e.o s p hp).1.subset hc)) rfl
  | build a u henc hpy hz _ h =>
    exact C01_build_netloc_ascii e a u ho henc ⟨hpy.2.2.1, hpy.2.2.2.1, hpy.2.1⟩ hz h
  | buildEnc a u henc hpy ha h =>
    obtain ⟨_, _, b3, _, _, b6, _⟩ := C07_build_encoded_verbatim e a u henc h
    exact asciiNet_of_pre_none (b3 ▸ encBuildNetloc_ascii a ha : Ascii u.netloc) b6
  | op u op v _ ha hj _ h ih =>
    refine C01_applyOp_netloc_ascii e u v op ho ih ha ?_ h
    intro ref hop; subst hop; exact absurd hj id
  | withPathEnc u p kq kf _ _ _ ih => exact asciiNet_of_pre_none ih.1 rfl
  | childEnc u paths v _ _ h ih =>
    exact asciiNet_of_pre_none ((C11_make_child_frame e u v paths true h).2.1 ▸ ih.1 : Ascii v.netloc)
      (makeChild_pre_none h)
  | join u r _ _ ihu ihr =>
    exact (inv_asciiSpec_iff e ho _).mp (join_inv ((inv_asciiSpec_iff e ho u).mpr ihu) ((inv_asciiSpec_iff e ho r).mpr ihr))

/-- SCHEME INVARIANT.  For a class `P` of scheme characters (ASCII, closed under lower-casing, containing
    `scheme_chars`): if every `encoded=True` text and every `with_scheme` / `build(scheme=)` argument is made of `P`,
    the stored scheme is. -/
theorem reachEX_scheme {P : Nat → Prop} (hP : SchemeClass P) {Z : Str → Prop} {e : Env} {u : Url}
    (h : ReachEX (SchemeIn P) Z (SchemeIn P) e u) : SchemeIn P u.scheme := by
  induction h with
  | ctor s u hs _ h => exact encodeUrl_scheme_in hP s u h
  | ctorEnc s u hs ha h =>
    obtain ⟨p, hp, rfl⟩ := preEncodedUrl_ok h
    exact splitUrl_scheme_in hP e.o s p hp
  | build a u henc hpy hz hsc h =>
    exact reachS_scheme hP (fun _ hs => hs) (J := fun _ => False) nofun
      (ReachS.build a u henc hpy.2.2.2.2.2 ⟨hpy.2.2.1, hpy.2.2.2.1, hpy.2.1⟩ hz hsc h)
  | buildEnc a u henc hpy ha h =>
    obtain ⟨_, b2, _⟩ := C07_build_encoded_verbatim e a u henc h
    rw [b2]; exact ha.1
  | op u op v _ ha hj hside h ih =>
    refine applyOp_schemeIn hP op ?_ ?_ ih h
    · intro s hs
      subst hs
      exact hside
    · intro r hr
      subst hr
      exact absurd hj id
  | withPathEnc u p kq kf _ _ _ ih => exact ih
  | childEnc u paths v _ _ h ih => exact (C11_make_child_frame e u v paths true h).1 ▸ ih
  | join u r _ _ ihu ihr =>
    rcases join_scheme (e := e) u r with hj | hj
    · exact hj ▸ ihu
    · exact hj ▸ ihr


end Yarl
