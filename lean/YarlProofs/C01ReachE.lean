/-
  C01ReachE.lean — property C01 ("canonical output is well-formed ASCII in every component") over `ReachE`, the closure
  of ALL entry points, `encoded=True` included (ReachE.lean).  Closes C01Headline GAPS 5.

  C01 is FALSE over `ReachE` (`encoded=True` stores text verbatim: `C01_reachE_str_ascii_fails_for_encoded`, one witness
  per `encoded=True` entry point).  What is true, and proved here:

   * `C01_reachE_components_python`   UNCONDITIONALLY path, query and fragment of a `ReachE` URL are Python strings
                                      (code points ≤ 0x10FFFF) — the model's `Str` has no other guarantee to lose;
   * `C01_reachE_components_ascii`    if every text handed over with `encoded=True` was ASCII, path / query / fragment
                                      are ASCII (whatever else happened: no condition on schemes, authorities, oracles);
   * `C01_reachE_str_ascii`           SUFFICIENCY, all hypotheses on the INPUTS: every `encoded=True` text ASCII, plus the
                                      two side conditions the auto-encoding API needs already (`ZoneAscii`:
                                      F-C01-nonascii-zone, `ArgsAsciiScheme`: F-C01-scheme) and the IDNA oracle answering
                                      ASCII — then `str(url)` is ASCII and `bytes(url)` succeeds;
   * `C01_reachE_str_ascii_stored`    NECESSITY, on the STORED text, for every URL whatsoever: if `str(url)` is ASCII then
                                      the stored scheme, path, query and fragment are ASCII; with an ASCII authority
                                      this is an equivalence (`C01_reachE_str_ascii_iff_stored`);
   * `C01_reachE_with_path_encoded_iff`  for the LAST step the equivalence is on the argument itself:
                                      `str(u.with_path(p, encoded=True))` ASCII  ⇒  `p` ASCII;
   * `C01_reachE_ascii_history_not_necessary`  the converse of the sufficiency theorem over whole HISTORIES is false: a later
                                      step may overwrite the non-ASCII text (`URL('/é', encoded=True).with_path('/a')`),
                                      so "ASCII iff every `encoded=True` argument in the history was ASCII" holds only
                                      from right to left;
   * `C01_reachE_str_ascii_instance`  non-vacuity — and the OTHER clauses of C01 ("every '%' starts an escape", "only the
                                      characters RFC 3986 allows") are lost with `encoded=True` even for ASCII inputs:
                                      the string form 'http://H/a%zz/b c/../d/e f' is ASCII and not well-escaped.
-/
import YarlProofs.ReachE
namespace Yarl
open StrAscii OutLangLemmas QsLemmas WfLemmas EntryLemmas R6

namespace R6

/-- scheme, path, query and fragment are written verbatim by `unsplit_result` -/
theorem unsplit_ascii_rev (scheme netloc path query fragment : Str)
    (h : Ascii (unsplitResult scheme netloc path query fragment)) :
    Ascii scheme ∧ Ascii path ∧ Ascii query ∧ Ascii fragment := by
  have k : ∀ {x : Str}, (∀ c ∈ x, c ∈ unsplitResult scheme netloc path query fragment) → Ascii x :=
    fun hx c hc => h c (hx c hc)
  exact ⟨k fun c hc => mem_unsplit netloc (.inl hc), k fun c hc => mem_unsplit netloc (.inr (.inl hc)),
    k fun c hc => mem_unsplit netloc (.inr (.inr (.inl hc))), k fun c hc => mem_unsplit netloc (.inr (.inr (.inr hc)))⟩

end R6

/-! ## what holds without any hypothesis -/

/-- UNCONDITIONALLY: path, query and fragment of a `ReachE` URL are Python strings -/
theorem C01_reachE_components_python (e : Env) (u : Url) (h : ReachE e u) :
    PyStr u.path ∧ PyStr u.query ∧ PyStr u.fragment := by
  have := reachEX_tail cclass_py (fun x hx _ => hx) h.toReachEX
  exact ⟨this.path, this.query, this.fragment⟩

/-- NECESSITY on the stored text, for EVERY URL (no reachability needed): `str()` writes scheme, path, query and fragment
    verbatim, so an ASCII string form means ASCII stored scheme, path, query and fragment -/
theorem C01_reachE_str_ascii_stored (e : Env) (u : Url) (r : Str) (h : str e u = .ok r) (hr : ∀ c ∈ r, c < 128) :
    (∀ c ∈ u.scheme, c < 128) ∧ (∀ c ∈ u.path, c < 128) ∧ (∀ c ∈ u.query, c < 128) ∧ (∀ c ∈ u.fragment, c < 128) := by
  obtain ⟨N, path, rfl, hpath, _⟩ := str_ok h
  obtain ⟨h1, h2, h3, h4⟩ := unsplit_ascii_rev _ _ _ _ _ hr
  refine ⟨h1, ?_, h3, h4⟩
  rcases hpath with rfl | ⟨h0, _⟩
  · exact h2
  · rw [h0]; intro c hc; cases hc

/-- … and for a URL whose stored authority (and pre-filled cache) is ASCII this is an EQUIVALENCE:
    `str(url)` is ASCII iff the stored scheme, path, query and fragment are -/
theorem C01_reachE_str_ascii_iff_stored (e : Env) (u : Url) (r : Str) (hn : AsciiNet u) (h : str e u = .ok r) :
    (∀ c ∈ r, c < 128) ↔
      ((∀ c ∈ u.scheme, c < 128) ∧ (∀ c ∈ u.path, c < 128) ∧ (∀ c ∈ u.query, c < 128) ∧ (∀ c ∈ u.fragment, c < 128)) :=
  ⟨C01_reachE_str_ascii_stored e u r h,
   fun ⟨h1, h2, h3, h4⟩ => str_ascii_of_net h2 h3 h4 h1 hn.1 (net_ascii_of_asciiNet e u hn) h⟩

/-! ## sufficiency: hypotheses on the inputs only -/

/-- If every text handed over with `encoded=True` was ASCII, then path, query and fragment are ASCII — whatever the
    schemes, authorities and oracle answers (`Z`, `Sc` arbitrary). -/
theorem C01_reachE_components_ascii (e : Env) (Z Sc : Str → Prop) (u : Url) (h : ReachEX Ascii Z Sc e u) :
    (∀ c ∈ u.path, c < 128) ∧ (∀ c ∈ u.query, c < 128) ∧ (∀ c ∈ u.fragment, c < 128) := by
  have := reachEX_tail cclass_ascii (A := Ascii) (fun x _ hx => hx) h
  exact ⟨this.path, this.query, this.fragment⟩

/-- the stored authority, under the side conditions of C01Str.lean (ASCII zone ids, IDNA oracle answers ASCII) -/
theorem C01_reachE_netloc_ascii (e : Env) (Sc : Str → Prop) (u : Url) (ho : HostOracleAscii e.o)
    (h : ReachEX Ascii ZoneAscii Sc e u) : (∀ c ∈ u.netloc, c < 128) ∧ ∀ p, u.pre = some p → NetAscii p :=
  reachEX_asciiNet e ho h

/-- the stored scheme: ASCII when the `with_scheme` / `build(scheme=)` arguments and the `encoded=True` texts are -/
theorem C01_reachE_scheme_ascii (e : Env) (Z : Str → Prop) (u : Url) (h : ReachEX Ascii Z ArgsAsciiScheme e u) :
    ∀ c ∈ u.scheme, c < 128 :=
  reachEX_scheme schemeClass_ascii (ReachEX.mono (fun _ h => h) (fun _ h => h) (fun _ h => h) h)

/-- SUFFICIENCY (C01 over ALL entry points, every hypothesis on the INPUTS): if
      * every text handed over with `encoded=True` is ASCII                                  [`Ascii`],
      * zone ids given to the auto-encoding constructor / `build(authority=)` are ASCII       [`ZoneAscii`, F-C01-nonascii-zone],
      * `with_scheme` / `build(scheme=)` arguments are ASCII                                  [`ArgsAsciiScheme`, F-C01-scheme],
      * the IDNA oracle answers ASCII                                                         [`HostOracleAscii`],
    then the string form is pure ASCII and `bytes(url)` — `str(url).encode("ascii")` — succeeds. -/
theorem C01_reachE_str_ascii (e : Env) (u : Url) (r : Str) (ho : HostOracleAscii e.o)
    (h : ReachEX Ascii ZoneAscii ArgsAsciiScheme e u) (hs : str e u = .ok r) :
    (∀ c ∈ r, c < 128) ∧ r.all (fun c => decide (c < 128)) = true := by
  have hn := reachEX_asciiNet e ho h
  obtain ⟨h2, h3, h4⟩ := C01_reachE_components_ascii e _ _ u h
  have := (C01_reachE_str_ascii_iff_stored e u r hn hs).mpr ⟨C01_reachE_scheme_ascii e _ u h, h2, h3, h4⟩
  exact ⟨this, by simpa using this⟩

/-! ## the last step: `with_path(p, encoded=True)` -/

/-- for the step itself the equivalence is on the ARGUMENT: if `str(u.with_path(p, encoded=True))` is ASCII then `p` is;
    conversely (u with ASCII scheme, authority and — when kept — query / fragment) an ASCII `p` gives an ASCII string -/
theorem C01_reachE_with_path_encoded_iff (e : Env) (u : Url) (p : Str) (kq kf : Bool) (r : Str)
    (hs : ∀ c ∈ u.scheme, c < 128) (hn : AsciiNet u) (hq : ∀ c ∈ u.query, c < 128) (hf : ∀ c ∈ u.fragment, c < 128)
    (h : str e (withPath e u p true kq kf) = .ok r) :
    (∀ c ∈ r, c < 128) ↔ (∀ c ∈ p, c < 128) := by
  have hn' : AsciiNet (withPath e u p true kq kf) := asciiNet_of_pre_none hn.1 rfl
  rw [C01_reachE_str_ascii_iff_stored e _ r hn' h]
  have hpath : (∀ c ∈ (withPath e u p true kq kf).path, c < 128) ↔ (∀ c ∈ p, c < 128) := by
    simp only [withPath, fromParts, Bool.not_true, Bool.false_eq_true, if_false]
    split
    · exact Iff.rfl
    · exact Iff.rfl
    · constructor
      · exact fun h c hc => h c (List.mem_cons_of_mem _ hc)
      · intro h c hc
        rcases List.mem_cons.mp hc with rfl | hc
        · decide
        · exact h c hc
  constructor
  · exact fun h => hpath.mp h.2.1
  · intro hp
    refine ⟨hs, hpath.mpr hp, ?_, ?_⟩
    · show ∀ c ∈ (if kq = true then u.query else []), c < 128
      split
      · exact hq
      · intro c hc; cases hc
    · show ∀ c ∈ (if kf = true then u.fragment else []), c < 128
      split
      · exact hf
      · intro c hc; cases hc

/-! ## counterexamples -/

section witnesses
private def e0 : Env := ⟨.py, Oracles.empty⟩

/-- C01 is FALSE over `ReachE`: each of the four `encoded=True` entry points stores a non-ASCII text verbatim and
    prints it.  Python:  str(URL('/é', encoded=True)) == '/é';  str(URL.build(path='/é', encoded=True)) == '/é';
    str(URL('http://h/').with_path('/é', encoded=True)) == 'http://h/é';
    str(URL('http://h/').joinpath('é', encoded=True)) == 'http://h/é'  — and `bytes()` of each raises
    UnicodeEncodeError.  All four URLs are in `ReachE`. -/
theorem C01_reachE_str_ascii_fails_for_encoded :
    let hU : Url := { scheme := "http".toStr, netloc := "h".toStr, path := "/".toStr, query := [], fragment := [],
                      pre := some { rawHost := some "h".toStr, explicitPort := none, rawUser := none, rawPassword := none } }
    (∃ u, preEncodedUrl e0 [47, 233] = .ok u ∧ ReachE e0 u ∧ str e0 u = .ok [47, 233]) ∧
    (∃ u, build e0 { path := [47, 233], encoded := true } = .ok u ∧ ReachE e0 u ∧ str e0 u = .ok [47, 233]) ∧
    (encodeUrl e0 "http://h/".toStr = .ok hU ∧ ReachE e0 (withPath e0 hU [47, 233] true false false) ∧
      str e0 (withPath e0 hU [47, 233] true false false) = .ok ("http://h/".toStr ++ [233])) ∧
    (∃ v, makeChild e0 hU [[233]] true = .ok v ∧ ReachE e0 v ∧ str e0 v = .ok ("http://h/".toStr ++ [233])) ∧
    ¬ (∀ c ∈ ([47, 233] : Str), c < 128) := by
  intro hU
  have hctor : encodeUrl e0 "http://h/".toStr = .ok hU := by str_lits; decide +kernel
  have hr : ReachE e0 hU := ReachE.ctor _ _ (by decide) hctor
  refine ⟨⟨fromParts [] [] [47, 233] [] [], by str_lits; decide +kernel, ?_, by str_lits; decide +kernel⟩,
    ⟨fromParts [] [] [47, 233] [] [], by str_lits; decide +kernel, ?_, by str_lits; decide +kernel⟩,
    ⟨hctor, ReachE.withPathEnc _ _ _ _ hr (by decide), by str_lits; decide +kernel⟩,
    ⟨fromParts "http".toStr "h".toStr [47, 233] [] [], by str_lits; decide +kernel, ?_, by str_lits; decide +kernel⟩, by decide⟩
  · exact ReachE.ctorEnc [47, 233] _ (by decide) (by str_lits; decide +kernel)
  · exact reachE_of_record e0 [] [] [47, 233] [] [] (by decide) (by decide) (by decide) (by decide) (by decide)
  · exact ReachE.childEnc hU [[233]] _ hr (by decide) (by str_lits; decide +kernel)

/-- the side condition `Ascii` of the sufficiency theorem excludes exactly these inputs -/
example : ¬ Ascii [47, 233] := by decide

/-- NO CONVERSE over histories: `URL('/é', encoded=True).with_path('/a')` has the ASCII string form '/a' although an
    `encoded=True` argument of its history was not ASCII — a later step overwrote it.  So "ASCII iff every `encoded=True`
    argument in the history was ASCII" holds from right to left only (`C01_reachE_str_ascii`); the sharp two-sided
    statements are about the STORED text (`C01_reachE_str_ascii_iff_stored`) and about the last step
    (`C01_reachE_with_path_encoded_iff`). -/
theorem C01_reachE_ascii_history_not_necessary :
    ∃ u v, preEncodedUrl e0 [47, 233] = .ok u ∧ ReachE e0 u ∧ str e0 u = .ok [47, 233] ∧
      applyOp e0 u (.withPath "/a".toStr false false) = .ok v ∧ ReachE e0 v ∧ str e0 v = .ok "/a".toStr ∧
      (∀ c ∈ "/a".toStr, c < 128) := by
  have hu : preEncodedUrl e0 [47, 233] = .ok (fromParts [] [] [47, 233] [] []) := by str_lits; decide +kernel
  have hr : ReachE e0 (fromParts [] [] [47, 233] [] []) := ReachE.ctorEnc _ _ (by decide) hu
  have hv : applyOp e0 (fromParts [] [] [47, 233] [] []) (.withPath "/a".toStr false false) =
      .ok (fromParts [] [] "/a".toStr [] []) := by str_lits; decide +kernel
  exact ⟨_, _, hu, hr, by str_lits; decide +kernel, hv, ReachE.op _ (.withPath "/a".toStr false false) _ hr (by show PyStr _; decide) trivial hv, by str_lits; decide +kernel,
    by decide⟩

/-- non-vacuity of the sufficiency theorem: a derivation that really uses `URL(s, encoded=True)`,
    `with_path(…, encoded=True)` and `joinpath(…, encoded=True)` with ASCII — but NOT canonical — texts ("%zz", a raw
    space, a dot segment), under the side conditions; `str()` omits the default port 80 and is ASCII, though not
    well-escaped (the other clauses of C01 are lost with `encoded=True` whatever the inputs) -/
theorem C01_reachE_str_ascii_instance :
    ∃ u r, ReachEX Ascii ZoneAscii ArgsAsciiScheme e0 u ∧ str e0 u = .ok r ∧
      r = "http://H/a%zz/b c/../d/e f".toStr ∧ (∀ c ∈ r, c < 128) ∧ ¬ WellEscaped r := by
  have h0 : preEncodedUrl e0 "http://H:80/x".toStr = .ok (fromParts "http".toStr "H:80".toStr "/x".toStr [] []) := by
    str_lits; decide +kernel
  have r0 : ReachEX Ascii ZoneAscii ArgsAsciiScheme e0 _ := ReachEX.ctorEnc _ _ (by decide) (by decide) h0
  have r1 := ReachEX.withPathEnc _ "/a%zz/b c/../d".toStr false false r0 (by decide) (by decide)
  have h2 : makeChild e0 (withPath e0 (fromParts "http".toStr "H:80".toStr "/x".toStr [] []) "/a%zz/b c/../d".toStr
      true false false) ["e f".toStr] true = .ok (fromParts "http".toStr "H:80".toStr "/a%zz/b c/../d/e f".toStr [] []) := by
    str_lits; decide +kernel
  have r2 := ReachEX.childEnc _ _ _ r1 (by decide) h2
  refine ⟨_, _, r2, by str_lits; decide +kernel, rfl, by str_lits; decide +kernel, ?_⟩
  intro h
  have : "http://H/a%zz/b c/../d/e f".toStr = [104, 116, 116, 112, 58, 47, 47, 72, 47, 97, 37, 122, 122, 47, 98, 32, 99,
      47, 46, 46, 47, 100, 47, 101, 32, 102] := by str_lits; decide +kernel
  rw [this] at h
  simp [WellEscaped] at h
  revert h; decide

end witnesses

end Yarl
