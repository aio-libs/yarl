import YarlProofs.C16Headline
import YarlProofs.C16HeadlineMore
import YarlProofs.C16More2
/-!
  C16HeadlineMore3.lean — AUDIT LAYER for property C16, continuation of C16Headline.lean / C16HeadlineMore.lean (the
  theorems here need C16More2.lean, written after those files; this file is a leaf, nobody imports it).

  C16 | Hosts are stored in one canonical form and hostile hosts are rejected |
  "The encoded host is always lower-case ASCII (an IPv6 zone id is kept verbatim): registered names are IDNA-encoded, IPv4
  literals are kept, and valid IPv6 literals are compressed and always bracketed in str(), host_subcomponent and
  host_port_subcomponent; encoding is idempotent and the decoded host re-encodes to the same raw host. build() and
  with_host() reject hosts containing characters outside the RFC 3986 reg-name grammar, and any authority containing a
  non-ASCII character whose NFKC form contains '/', '?', '#', '@' or ':' is rejected."

  What is here.
  * GAPS 4 of C16Headline.lean ("compressed"; embedded IPv4): everything RFC 5952 §4 asks of the printed text, for EVERY
    value of the eight groups, in one statement (`C16_headline_ipv6_text_every_address`); every dotted quad is an IPv4
    literal for the model's parser (`C16_headline_ipv4_text_parses`); IPv6 texts ending in a dotted quad in general
    (`C16_headline_ipv6_embedded_ipv4`), IPv4-mapped `::ffff:a.b.c.d` and IPv4-compatible `::a.b.c.d` for ALL `a.b.c.d`
    (`C16_headline_ipv4_mapped_canonical`, `C16_headline_ipv4_compatible_canonical`).  All about the MODEL of `ipaddress`.
  * GAPS 1 ("encoding is idempotent"; one raw host whatever the route): validation only rejects
    (`C16_headline_validation_only_rejects`); idempotence for EVERY host kind from the one hypothesis "`h` passes
    validation", no IDNA assumption (`C16_headline_idempotent_every_host`); with_host / build(host=) / the constructor /
    build(authority=) store the SAME raw host for such a host text, for any shape of the rest of the URL
    (`C16_headline_host_three_routes`, `C16_headline_host_build_authority_route`).
  * GAPS 5 / 6 (the routes without `_check_netloc`; `encoded=True`): what `with_host` guarantees instead of the NFKC screen
    (`C16_headline_with_host_needs_no_nfkc_screen`), and that the clause AS WRITTEN ("is rejected") depends on the IDNA
    oracle there (`C16_headline_nfkc_rejects_fails_for_with_host_hypothetical_idna`); `build(encoded=True)` skips
    everything (`C16_headline_build_encoded_skips_host_processing`).
  * The NFKC screen and the brackets (library fix 27f84d3): `_check_netloc` removes `@ : # ? [ ]` before normalising and
    rejects when the NFKC form contains one of `/ ? # @ : [ ]` — the property text lists only the first five.  The
    bracket case by itself: `C16_headline_nfkc_rejects_brackets` (`_check_netloc` level),
    `C16_headline_nfkc_rejects_fullwidth_brackets` (constructor, both modes, and build(authority=), on the inputs
    "http://a［b/" and "http://a］b/", U+FF3B / U+FF3D).

  Vocabulary (in addition to the reading guides of C16Headline.lean / C16HeadlineMore.lean): `hexLower x` = the lower-case
  hex digits of `x` without leading zeros; `parseHextet` reads one group; `parseIPv4` / `parseIPv6` / `ipv4ToStr` /
  `ipv6ToStr` are the hand models of `ipaddress`; `unbracket r` = `r` without the brackets of an IPv6 literal (the stored
  raw host); `V6More.portStr port` = `":" ++ port` or empty.  46 = '.', 37 = '%', 47 = '/', 58 = ':', 91 / 93 = '[' ']',
  64 = '@', 63 = '?', 35 = '#', 32 = ' '.
-/

namespace Yarl
open HostLemmas NetlocLemmas MiscLemmas FixLemmas HumanLemmas
open StrTotal (zonePart rebracket)
open Rfc5952

/-! ## Sentence 1 — "valid IPv6 literals are compressed" (C16Headline GAPS 4) -/

/-- "compressed" — for EVERY value of the eight 16-bit groups (no reference to an input text), everything RFC 5952 §4 asks
    of the printed text `t = ipv6ToStr h8`, in one statement:
    (i)   every group is written in lower-case hex, 1–4 digits, without leading zeros (a zero group is "0"), and the only
          other character of `t` is ':';
    (ii)  with `n` = the length of the longest run of zero groups and `i` = the first position where such a run starts:
          if `n ≥ 2` exactly that run — the LONGEST, the FIRST on ties — is replaced by "::", which then occurs exactly
          once, and the replaced run cannot be extended on either side;
    (iii) if `n < 2` (no two adjacent zero groups: a single zero group is NOT compressed) `t` is the eight groups joined
          by single colons and "::" does not occur;
    (iv)  the model's parser reads `t` back to the same eight groups, so the printer is injective;
    (v)   `t` contains no '.', '%', '[', ']', '/' — and `t` is a fixed point: printing what was parsed from `t` gives `t`.
    (`ipv6ToStr` / `parseIPv6` are hand models of CPython's `ipaddress`: GAPS 4, STILL OPEN part.)
    Cites C16_ipv6_text_every_address. -/
theorem C16_headline_ipv6_text_every_address (h8 : List Nat)
    (hl : h8.length = 8) (hx : ∀ x ∈ h8, x < 65536) :       -- an arbitrary 128-bit value as eight 16-bit groups
    let n := longest h8
    let i := firstAt n h8
    -- (i)
    (∀ x ∈ h8, hexLower x = Rfc5952.field x ∧ 1 ≤ (hexLower x).length ∧ (hexLower x).length ≤ 4 ∧
      ((hexLower x).head? = some 48 → hexLower x = [48] ∧ x = 0) ∧ parseHextet (hexLower x) = some x) ∧
    (∀ c ∈ ipv6ToStr h8, c = 58 ∨ isDigitC c = true ∨ (97 ≤ c ∧ c ≤ 102)) ∧
    -- (ii)
    (2 ≤ n → h8 = h8.take i ++ List.replicate n 0 ++ h8.drop (i + n) ∧
      ipv6ToStr h8 = fields (h8.take i) ++ [58, 58] ++ fields (h8.drop (i + n)) ∧
      countDC (ipv6ToStr h8) = 1 ∧
      (h8.drop (i + n)).head? ≠ some 0 ∧ (h8.take i).getLast? ≠ some 0) ∧
    (∀ a b m, h8 = a ++ List.replicate m 0 ++ b → m ≤ n ∧ (m = n → i ≤ a.length)) ∧
    -- (iii)
    (n < 2 → ipv6ToStr h8 = fields h8 ∧ countDC (ipv6ToStr h8) = 0) ∧
    ((∀ a b, h8 ≠ a ++ [0, 0] ++ b) → n < 2) ∧
    -- (iv)
    parseIPv6 (ipv6ToStr h8) = some h8 ∧
    (∀ h8', h8'.length = 8 → (∀ x ∈ h8', x < 65536) → ipv6ToStr h8' = ipv6ToStr h8 → h8' = h8) ∧
    -- (v)
    (46 ∉ ipv6ToStr h8 ∧ 37 ∉ ipv6ToStr h8 ∧ 91 ∉ ipv6ToStr h8 ∧ 93 ∉ ipv6ToStr h8 ∧ 47 ∉ ipv6ToStr h8) ∧
    (∀ h, parseIPv6 (ipv6ToStr h8) = some h → ipv6ToStr h = ipv6ToStr h8) :=
  C16_ipv6_text_every_address h8 hl hx

/-- "IPv4 literals are kept" — every dotted quad `a.b.c.d` with octets ≤ 255 (printed in decimal, no leading zeros) IS an
    IPv4 literal for the model of `ipaddress`; so the theorems stated for a text `v4` with
    `parseIPv4 v4 = some [a, b, c, d]` hold for ALL `a.b.c.d`.  Cites C16_ipv4_text_parses. -/
theorem C16_headline_ipv4_text_parses (a b c d : Nat)
    (ha : a ≤ 255) (hb : b ≤ 255) (hc : c ≤ 255) (hd : d ≤ 255) :   -- four octets
    parseIPv4 (ipv4ToStr [a, b, c, d]) = some [a, b, c, d] :=
  C16_ipv4_text_parses a b c d ha hb hc hd

/-- EMBEDDED IPv4, general form of the model's parser (CPython `_ip_int_from_string`): an IPv6 text whose LAST part is a
    dotted quad `a.b.c.d` denotes the address whose last two groups are `a·256+b` and `c·256+d`.
    (1) "::"-forms `A₁:…:Aₖ::B₁:…:Bₘ:a.b.c.d` (`A`, `B` possibly empty, `k + m ≤ 4`; the groups written in canonical
        lower-case hex); (2) full forms `A₁:…:A₆:a.b.c.d`.  Cites C16_ipv6_embedded_ipv4_parse. -/
theorem C16_headline_ipv6_embedded_ipv4 (v4 : Str) (a b c d : Nat)
    (h4 : parseIPv4 v4 = some [a, b, c, d]) :               -- `v4` is the dotted quad `a.b.c.d`
    (∀ A B : List Nat, A.length + B.length ≤ 4 → (∀ x ∈ A, x < 65536) → (∀ x ∈ B, x < 65536) →
      parseIPv6 (joinC 58 ((if A = [] then [[]] else A.map hexLower) ++ [] :: B.map hexLower ++ [v4])) =
        some (A ++ List.replicate (6 - (A.length + B.length)) 0 ++ (B ++ [a * 256 + b, c * 256 + d]))) ∧
    (∀ A : List Nat, A.length = 6 → (∀ x ∈ A, x < 65536) →
      parseIPv6 (joinC 58 (A.map hexLower ++ [v4])) = some (A ++ [a * 256 + b, c * 256 + d])) :=
  C16_ipv6_embedded_ipv4_parse v4 a b c d h4

/-- IPv4-MAPPED addresses `::ffff:a.b.c.d`, for ALL `a.b.c.d` (general form of the single instance
    `C16_headline_ipv6_rfc5952_fails_for_ipv4_mapped`): the text is an IPv6 literal denoting
    `0:0:0:0:0:ffff:(a·256+b):(c·256+d)`; `_encode_host` (validation on or off) canonicalises it to `[::ffff:X:Y]` with
    `X`, `Y` the two groups in lower-case hex without leading zeros — the dotted quad does NOT survive (RFC 5952 §5's
    mixed notation is not used, as in CPython); the canonical text denotes the same address and is a fixed point of
    `_encode_host`.  Cites C16_ipv4_mapped_canonical. -/
theorem C16_headline_ipv4_mapped_canonical (o : Oracles) (v4 : Str) (a b c d : Nat) (v : Bool)
    (h4 : parseIPv4 v4 = some [a, b, c, d]) :               -- `v4` is the dotted quad `a.b.c.d` (all of them: `…_ipv4_text_parses`)
    let X := hexLower (a * 256 + b)
    let Y := hexLower (c * 256 + d)
    parseIPv6 ("::ffff:".toStr ++ v4) = some [0, 0, 0, 0, 0, 0xffff, a * 256 + b, c * 256 + d] ∧
    encodeHost o ("::ffff:".toStr ++ v4) v = .ok ("[::ffff:".toStr ++ X ++ [58] ++ Y ++ [93]) ∧
    46 ∉ "[::ffff:".toStr ++ X ++ [58] ++ Y ++ [93] ∧
    parseIPv6 ("::ffff:".toStr ++ X ++ [58] ++ Y) = some [0, 0, 0, 0, 0, 0xffff, a * 256 + b, c * 256 + d] ∧
    encodeHost o ("::ffff:".toStr ++ X ++ [58] ++ Y) v = .ok ("[::ffff:".toStr ++ X ++ [58] ++ Y ++ [93]) :=
  C16_ipv4_mapped_canonical o v4 a b c d v h4

/-- IPv4-COMPATIBLE addresses `::a.b.c.d`, for ALL `a.b.c.d`: the address is `0:0:0:0:0:0:(a·256+b):(c·256+d)`, and the
    canonical text depends on which of the two groups are zero — the "::" swallows them: `::0.0.0.0` ↦ `[::]`,
    `::0.0.c.d` ↦ `[::Y]`, otherwise `[::X:Y]` (so `::0.0.0.1` is stored as `[::1]`, the loopback address).
    Cites C16_ipv4_compatible_canonical. -/
theorem C16_headline_ipv4_compatible_canonical (o : Oracles) (v4 : Str) (a b c d : Nat) (v : Bool)
    (h4 : parseIPv4 v4 = some [a, b, c, d]) :               -- `v4` is the dotted quad `a.b.c.d`
    parseIPv6 ("::".toStr ++ v4) = some [0, 0, 0, 0, 0, 0, a * 256 + b, c * 256 + d] ∧
    encodeHost o ("::".toStr ++ v4) v =
      .ok ([91] ++ (if a * 256 + b = 0 then (if c * 256 + d = 0 then "::".toStr else "::".toStr ++ hexLower (c * 256 + d))
                    else "::".toStr ++ hexLower (a * 256 + b) ++ [58] ++ hexLower (c * 256 + d)) ++ [93]) :=
  C16_ipv4_compatible_canonical o v4 a b c d v h4

/-! ## Sentence 1 — "encoding is idempotent"; one raw host whatever the route (C16Headline GAPS 1) -/

/-- VALIDATION ONLY REJECTS, it never changes the answer: whenever `_encode_host(h, validate_host=True)` (build(host=),
    with_host) accepts `h`, `_encode_host(h, validate_host=False)` (the constructor, build(authority=)) returns the SAME
    text; conversely, when the non-validating call returns `r`, the validating call returns `r` or raises ValueError
    (never another text, never another error).  Every host kind — reg-name, IDN (whatever the oracle answers), IPv4,
    IPv6, with or without zone.  Cites C16_validation_only_rejects. -/
theorem C16_headline_validation_only_rejects (o : Oracles) (h r : Str) :
    (encodeHost o h true = .ok r → encodeHost o h false = .ok r) ∧
    (encodeHost o h false = .ok r → encodeHost o h true = .ok r ∨ encodeHost o h true = .error .valueError) :=
  C16_validation_only_rejects o h r

/-- "encoding is idempotent" for EVERY host kind in ONE statement, with ONE hypothesis and no assumption on the IDNA
    oracle: if `_encode_host(h, validate_host=True)` accepts `h` — ASCII or not, reg-name, IDN, IPv4, IPv6, with or
    without zone — with the result `r`, then encoding the stored raw host (`unbracket r`) again gives `r`, with validation
    on AND off, and the non-validating call on `h` gives `r` too.  (`C16_headline_idempotent` needs `isAscii h` and a
    three-way disjunction, `C16_headline_idn_idempotent` the assumption `IdnaSaneAt`; with validation ON neither is
    needed, because the validation itself checks what those hypotheses provide.  For a host that only the NON-validating
    routes accept the hypotheses ARE needed: `C16_headline_idempotent_fails_for`,
    `C16_headline_lower_ascii_fails_for_hostile_idna`.)  Cites C16_encode_idempotent_every_host. -/
theorem C16_headline_idempotent_every_host (o : Oracles) (h r : Str) (v' : Bool)
    (he : encodeHost o h true = .ok r) :                    -- the one hypothesis: `h` passes build(host=) / with_host
    encodeHost o (unbracket r) v' = .ok r ∧ encodeHost o h false = .ok r :=
  C16_encode_idempotent_every_host o h r v' he

/-- THE THREE ROUTES AGREE on the stored host.  Let `h0` be a host text that passes validation,
    `_encode_host(h0, validate_host=True) = eh`.  Then (1) `u.with_host(h0)`, on ANY receiver `u`, (2)
    `URL.build(host=h0, …)` and (3) the constructor `URL(s)`, for ANY `s` whose authority has the host part `h0` (as
    `split_netloc` cuts it out: `[user[:password]@]h0[:port]`, or `[h0]` in brackets) — although it encodes the host
    WITHOUT validation — all store the raw host `unbracket eh`; and (4) that raw host is a fixed point: encoding it again,
    validating or not, gives `eh`.  For a non-ASCII `h0` this lifts the URL-level IDN statement
    (`C16_headline_idn_constructor`: `scheme://h/path#fragment` only) to any shape of the rest of the URL — under the
    hypothesis that the IDNA answer for `h0` passes the reg-name screen (that is what `hv` says then), still relative to
    the oracle.  In (1) and (2) the conclusion is about whatever `raw_host` returns (the lazily parsed netloc of the new
    URL); in (3) `raw_host` is the cache entry the constructor pre-fills.  Cites C16_host_text_three_routes. -/
theorem C16_headline_host_three_routes (e : Env) (h0 eh : Str)
    (hv : encodeHost e.o h0 true = .ok eh)                  -- `h0` passes validation (what build(host=) / with_host demand)
    (hne0 : eh ≠ []) :                                      -- excludes an IDNA oracle answering "" for a non-ASCII host
                                                            -- (automatic for ASCII `h0 ≠ ""`)
    (∀ u u', withHost e u h0 = .ok u' → ∀ x, rawHost e u' = .ok x → x = some (unbracket eh)) ∧
    (∀ a u, a.encoded = false → a.authority = [] → a.host = h0 → h0 ≠ [] → build e a = .ok u →
      ∀ x, rawHost e u = .ok x → x = some (unbracket eh)) ∧
    (∀ s u p np, encodeUrl e s = .ok u → splitUrl e.o s = .ok p → splitNetloc e.o p.netloc = .ok np →
      np.host = some h0 → rawHost e u = .ok (some (unbracket eh))) ∧
    (∀ v', encodeHost e.o (unbracket eh) v' = .ok eh) :=
  C16_host_text_three_routes e h0 eh hv hne0

/-- … and the FOURTH route, `URL.build(authority=A, …)` (host encoded WITHOUT validation, like the constructor): when the
    host part `h0` of `A` passes validation, the raw host stored is again `unbracket eh`.  (When it does NOT pass
    validation this route still accepts it — `C16_headline_validation_fails_for_build_authority` — and nothing ties it to
    the other routes, which reject.)  Cites C16_host_text_build_authority_route. -/
theorem C16_headline_host_build_authority_route (e : Env) (a : BuildArgs) (u : Url) (np : NetlocParts) (h0 eh : Str)
    (hbu : build e a = .ok u)
    (henc : a.encoded = false)                              -- guard: encoded=True skips everything
    (hauth : a.authority ≠ [])                              -- the `authority=` route
    (hsn : splitNetloc e.o a.authority = .ok np) (hh : np.host = some h0)   -- `h0` is the host part of the authority
    (hv : encodeHost e.o h0 true = .ok eh)                  -- … and passes validation
    (hne0 : eh ≠ []) :                                      -- excludes an IDNA oracle answering ""
    ∀ x, rawHost e u = .ok x → x = some (unbracket eh) :=
  C16_host_text_build_authority_route e a u np h0 eh hbu henc hauth hsn hh hv hne0

/-! ## Sentence 2 — rejection: the routes without `_check_netloc`, and `encoded=True` (C16Headline GAPS 5, 6) -/

/-- "any authority containing a non-ASCII character whose NFKC form contains '/', '?', '#', '@' or ':' is rejected" —
    `with_host` does NOT run the NFKC screen `_check_netloc`, and does not need to: WHATEVER the argument `h0` (ASCII or
    not, whatever its NFKC form, whatever the IDNA oracle answers), if `u.with_host(h0)` returns a URL then the raw host
    it stores consists of characters of the validated `_encode_host` result, contains none of '/', '?', '#', '@', ' ',
    and contains ':' '[' ']' only when `h0` is an IP literal (or, since fix 3fbf5b4, the IDNA answer of a non-ASCII `h0`
    is one — it is then stored in canonical form); so no part of the host can be re-read as userinfo, port,
    path, query or fragment.  This is NOT the clause as written ("is rejected"): next theorem.
    Cites C16_with_host_needs_no_nfkc_screen. -/
theorem C16_headline_with_host_needs_no_nfkc_screen (e : Env) (u u' : Url) (h0 : Str)
    (hw : withHost e u h0 = .ok u') :                       -- `u.with_host(h0)` returned a URL
    ∃ eh, encodeHost e.o h0 true = .ok eh ∧
      ∀ x, rawHost e u' = .ok (some x) →
        (∀ c ∈ x, c ∈ eh) ∧
        64 ∉ x ∧ 47 ∉ x ∧ 63 ∉ x ∧ 35 ∉ x ∧ 32 ∉ x ∧
        ((∃ c ∈ x, c = 58 ∨ c = 91 ∨ c = 93) → (∃ ip, parseIP (partition 37 h0).1 = some ip) ∨
          (isAscii h0 = false ∧ ∃ a ip, idnaEncode e.o h0 = .ok a ∧ parseIP (partition 37 a).1 = some ip)) :=
  C16_with_host_needs_no_nfkc_screen e u u' h0 hw

/-- the NFKC clause AS WRITTEN ("is rejected") is an accident of the IDNA oracle on the `with_host` route, not a guarantee
    of the library (both backends): with the answers the real code gives for the host "a／b" (U+FF0F FULLWIDTH SOLIDUS,
    NFKC "/": the `idna` package refuses it, the stdlib codec — which applies NFKC — answers "a/b") `with_host` raises
    ValueError, because the answer fails the reg-name screen; with a HYPOTHETICAL package that answers reg-name text
    ("xn--ab-x") `with_host` stores that answer although the NFKC form of the argument contains '/', while the
    constructor rejects the same host through `_check_netloc`.  Cites C16_with_host_nfkc_clause_depends_on_idna. -/
theorem C16_headline_nfkc_rejects_fails_for_with_host_hypothetical_idna : ∀ b : Backend,
    let fw : Str := [97, 0xFF0F, 98]                       -- "a／b"
    let real : Oracles := { Oracles.empty with
      nfkc := fun s => some (s.map fun c => if c = 0xFF0F then 47 else c),
      idnaEnc := fun _ => some none, idnaEncStd := fun _ => some (some "a/b".toStr), isDigitU := fun _ => some false }
    let hypo : Oracles := { real with idnaEnc := fun _ => some (some "xn--ab-x".toStr) }
    let base : BuildArgs := { scheme := "http".toStr, host := "example.com".toStr, path := "/p".toStr }
    ((build ⟨b, real⟩ base).bind (fun u => withHost ⟨b, real⟩ u fw)) = .error .valueError ∧
    ((build ⟨b, hypo⟩ base).bind (fun u => withHost ⟨b, hypo⟩ u fw)).map (·.netloc) = .ok "xn--ab-x".toStr ∧
    encodeUrl ⟨b, hypo⟩ ("http://".toStr ++ fw ++ "/p".toStr) = .error .valueError :=
  C16_with_host_nfkc_clause_depends_on_idna

/-- `build(encoded=True)` skips EVERYTHING of C16 (C16Headline GAPS 5 / 6, formerly "no theorem"): the stored netloc is
    the `authority` argument verbatim — or `host[:port]` around the `host` argument verbatim (the form with userinfo is
    `C07_encBuildNetloc`, C07Encoded.lean) — with no lower-casing, no IDNA, no IPv6 compression, no reg-name screen and no
    NFKC screen; the scheme is stored as given, no cache is pre-filled, and the `nfkc` / IDNA oracles are not consulted at
    all (last conjunct).  So both clauses of sentence 2 are FALSE for `build(…, encoded=True)`, by contract.
    Cites C16_build_encoded_skips_host_processing. -/
theorem C16_headline_build_encoded_skips_host_processing (e : Env) (a : BuildArgs) (u : Url)
    (henc : a.encoded = true)                               -- the encoded=True route
    (hb : build e a = .ok u) :
    (a.authority ≠ [] → u.netloc = a.authority) ∧
    (a.authority = [] → a.host ≠ [] → a.user = none → a.password = none →
      ∃ port, u.netloc = a.host ++ V6More.portStr port) ∧
    (a.authority = [] → a.host = [] → u.netloc = []) ∧
    u.scheme = a.scheme ∧ u.pre = none ∧
    (∀ o' : Oracles, build ⟨e.b, o'⟩ a = build e a) :=
  C16_build_encoded_skips_host_processing e a u henc hb

/-! ### the NFKC screen and the brackets (library fix 27f84d3) -/

/-- the bracket case of `_check_netloc` by itself (the property text lists '/', '?', '#', '@', ':' only; since fix 27f84d3
    the screen also removes '[' ']' before normalising and rejects them in the NFKC form — U+FF3B ［ / U+FF3D ］
    normalise to '[' / ']'): a netloc whose NFKC form (`nn`, the oracle's answer for the netloc without `@ : # ? [ ]`)
    differs from the text it was computed from and contains '[' or ']' is rejected.  The constructor- and
    build(authority=)-level statements `C16_headline_nfkc_rejects`, `C16_headline_nfkc_rejects_build_authority` already
    include the two characters.  Cites C16_nfkc_rejects. -/
theorem C16_headline_nfkc_rejects_brackets (o : Oracles) (netloc nn : Str) :
    o.nfkc (netloc.filter (fun c => c ≠ 64 ∧ c ≠ 58 ∧ c ≠ 35 ∧ c ≠ 63 ∧ c ≠ 91 ∧ c ≠ 93)) = some nn →
                                                            -- the oracle's NFKC answer
    nn ≠ netloc.filter (fun c => c ≠ 64 ∧ c ≠ 58 ∧ c ≠ 35 ∧ c ≠ 63 ∧ c ≠ 91 ∧ c ≠ 93) →
                                                            -- normalisation changed something
    (91 ∈ nn ∨ 93 ∈ nn) →                                   -- the NFKC form contains '[' or ']'
    checkNetloc o netloc = .error .valueError :=
  fun h1 h2 h3 => C16_nfkc_rejects o netloc nn h1 h2
    (h3.elim (fun h => ⟨91, h, by decide⟩) (fun h => ⟨93, h, by decide⟩))

/-- … on the inputs of fix 27f84d3, for any oracle that answers as `unicodedata.normalize("NFKC", …)` does on them
    ("a［b" ↦ "a[b", "a］b" ↦ "a]b"): `URL("http://a［b/")` and `URL("http://a］b/")` raise ValueError — in `split_url`, so
    with `encoded=True` too — and `URL.build(scheme="http", authority="a［b")` never yields a URL.
    Cites C16_headline_nfkc_rejects (over C16_nfkc_rejects), C16_headline_nfkc_rejects_build_authority (over
    C16_build_authority_nfkc_screen). -/
theorem C16_headline_nfkc_rejects_fullwidth_brackets (e : Env)
    (hL : e.o.nfkc [97, 0xFF3B, 98] = some "a[b".toStr)      -- ASSUMED of the oracle: NFKC(U+FF3B) = '[' (true of unicodedata)
    (hR : e.o.nfkc [97, 0xFF3D, 98] = some "a]b".toStr) :    -- ASSUMED of the oracle: NFKC(U+FF3D) = ']'
    let sL := "http://a".toStr ++ [0xFF3B] ++ "b/".toStr
    let sR := "http://a".toStr ++ [0xFF3D] ++ "b/".toStr
    (splitUrl e.o sL = .error .valueError ∧ encodeUrl e sL = .error .valueError ∧
      preEncodedUrl e sL = .error .valueError) ∧
    (splitUrl e.o sR = .error .valueError ∧ encodeUrl e sR = .error .valueError ∧
      preEncodedUrl e sR = .error .valueError) ∧
    (∀ u, build e { scheme := "http".toStr, authority := [97, 0xFF3B, 98] } ≠ .ok u) := by
  intro sL sR
  have hfL : ([97, 0xFF3B, 98] : Str).filter (fun c => c ≠ 64 ∧ c ≠ 58 ∧ c ≠ 35 ∧ c ≠ 63 ∧ c ≠ 91 ∧ c ≠ 93)
      = [97, 0xFF3B, 98] := by decide
  have hfR : ([97, 0xFF3D, 98] : Str).filter (fun c => c ≠ 64 ∧ c ≠ 58 ∧ c ≠ 35 ∧ c ≠ 63 ∧ c ≠ 91 ∧ c ≠ 93)
      = [97, 0xFF3D, 98] := by decide
  refine ⟨?_, ?_, ?_⟩
  · have hA : (Rfc.appendixB Gen.schemeChars (cleanUrl sL)).authority = [97, 0xFF3B, 98] := by str_lits; decide +kernel
    have h := C16_headline_nfkc_rejects e sL "a[b".toStr
    simp only [hA, hfL] at h
    exact h (by decide) hL (by decide) ⟨91, by decide, by decide⟩
  · have hA : (Rfc.appendixB Gen.schemeChars (cleanUrl sR)).authority = [97, 0xFF3D, 98] := by str_lits; decide +kernel
    have h := C16_headline_nfkc_rejects e sR "a]b".toStr
    simp only [hA, hfR] at h
    exact h (by decide) hR (by decide) ⟨93, by decide, by decide⟩
  · have h := C16_headline_nfkc_rejects_build_authority e
      { scheme := "http".toStr, authority := [97, 0xFF3B, 98] } "a[b".toStr rfl
    simp only [hfL] at h
    exact (h (by decide) hL (by decide) ⟨91, by decide, by decide⟩).1

/-! ## non-vacuity -/

-- IPv4-mapped / IPv4-compatible / NAT64 through the headline theorems
example : parseIPv4 "192.0.2.1".toStr = some [192, 0, 2, 1] := by str_lits; decide +kernel
example (o : Oracles) : encodeHost o "::ffff:192.0.2.1".toStr true = .ok "[::ffff:c000:201]".toStr := by
  have h := (C16_headline_ipv4_mapped_canonical o "192.0.2.1".toStr 192 0 2 1 true (by decide +kernel)).2.1
  have e1 : "::ffff:".toStr ++ "192.0.2.1".toStr = "::ffff:192.0.2.1".toStr := by str_lits; decide +kernel
  have e2 : "[::ffff:".toStr ++ hexLower (192 * 256 + 0) ++ [58] ++ hexLower (2 * 256 + 1) ++ [93] =
      "[::ffff:c000:201]".toStr := by str_lits; decide +kernel
  rw [e1, e2] at h
  exact h
example (o : Oracles) : encodeHost o "::0.0.0.1".toStr false = .ok "[::1]".toStr :=
  (C16_headline_ipv4_compatible_canonical o "0.0.0.1".toStr 0 0 0 1 false (by decide +kernel)).2
-- the one hypothesis of `C16_headline_idempotent_every_host` / `C16_headline_host_three_routes`, on the four host kinds
example : encodeHost Oracles.empty "EXAMPLE.com".toStr true = .ok "example.com".toStr ∧
    encodeHost Oracles.empty "FE80::1%Eth0".toStr true = .ok "[fe80::1%Eth0]".toStr ∧
    unbracket "[fe80::1%Eth0]".toStr = "fe80::1%Eth0".toStr ∧
    encodeHost Oracles.empty "192.0.2.1".toStr true = .ok "192.0.2.1".toStr ∧
    encodeHost C16_idn_sampleOracle C16_idn_buecher true = .ok "xn--bcher-kva".toStr := by
  str_lits; decide +kernel
-- the oracle hypotheses of `C16_headline_nfkc_rejects_fullwidth_brackets` are satisfiable (a concrete `nfkc` oracle mapping
-- the two fullwidth brackets, everything else unchanged), and the theorem applies to it
example : ∀ b : Backend,
    let o : Oracles := { Oracles.empty with
      nfkc := fun s => some (s.map fun c => if c = 0xFF3B then 91 else if c = 0xFF3D then 93 else c) }
    encodeUrl ⟨b, o⟩ ("http://a".toStr ++ [0xFF3B] ++ "b/".toStr) = .error .valueError :=
  fun b => (C16_headline_nfkc_rejects_fullwidth_brackets ⟨b, _⟩ rfl rfl).1.2.1

end Yarl
