import YarlProofs.C06
import YarlProofs.C06Spec
import YarlProofs.C12Readback
import YarlProofs.C12Url
import YarlProofs.C12More
import YarlProofs.C06More
/-!
  C06Headline.lean — AUDIT LAYER for property C06.

  C06 | Decoded views are faithful and supplied values read back unchanged |
  "Each decoded accessor (user, password, path, path_safe, parts, name, suffix, query, query_string, fragment) equals
  the UTF-8 percent-decoding of the corresponding raw component, with malformed or undecodable escapes kept verbatim,
  '+' meaning space only in queries, and path_safe keeping %2F and %25. Any text supplied as a decoded value through
  build(), with_user, with_password, with_path, with_name, with_fragment, with_query, / or joinpath reads back
  unchanged from the matching accessor (lone surrogates, and dot segments under an authority, excepted)."

  Continued in C06HeadlineMore.lean (theorems that need modules which import this file): C11Ctor.lean imports this
  file, so the with_user / with_password read-back on constructor results and on URLs with the invariant `NetlocCanon`
  (GAPS 4) is stated there as `C06_headline_with_user_password_readback_…`.  Also there (C06Decode.lean was added after
  this file): GAPS 2 — the accessors / unquoters equal the INDEPENDENT textbook specification `Rfc.pctUtf8Decode`
  (`C06_headline_unquoter_is_pct_utf8_decoding`, `…_unquoter_keep_sets`, `…_accessors_are_pct_utf8_decodings`,
  `…_query_string_path_safe_decode_utf8`, `…_malformed_undecodable_verbatim_in_context`, `…_keep_and_plus_in_context`).
  Continued further in C06HeadlineMore3.lean (C06More2.lean + Lemmas/Readback2.lean, C06Encoded.lean, added after both
  files): `build(authority=)`, a str `query=`, `with_user("")`, URLs without authority, joinpath through `path`, the
  `/` / joinpath read-backs on reachable URLs, the IDNA oracle of `host` (GAPS 3, 4, 6, 9, 10), and sentence 1a for
  `encoded=True` URLs.

  Vocabulary.  `DecodeSpec b tab s` (C06Spec.lean) is the NON-incremental specification of percent-decoding: tokenize
  `s` into escapes `%XY` / plain characters, group maximal runs of escapes, decode each run as UTF-8 left to right
  (`decodeRun`: complete character → the character, or its escape when the table says it must stay encoded
  (`uqEmit`); undecodable / truncated → copied verbatim), plain characters through `uqPlain` ('+' → ' ' for query
  tables).  `GoodText t` = `PyStr t ∧ NoSurrogate t`; `GoodPairs ps` = all keys and values `GoodText`.
  `NoDots l` (PathLemmas) = no element of the segment list `l` is "." or ".."; `splitOn 47 t` = `t.split("/")`;
  `stripTrail l` (PathAlg) = `l` without ONE trailing empty segment; `rawParts u` = the segments `raw_parts` shows;
  `PathMore.argSegs e true ps` (C13More.lean) = the segments of the `joinpath` arguments AS GIVEN: each argument split at
  '/', the trailing empty segment of a non-last argument dropped.  `plusToSpace s` = `s.replace("+", " ")`.
  `strItems ps` = a sequence of (str, str) pairs as a `query=` argument; `expandItems items = some ps` = the argument
  `items` denotes the pairs `ps` (list values expand to repeated keys, ints by `str()`); `SingleValued items` = no list
  values.  `QsSpec.cut 38 [] s` (C12More.lean) = `s` cut at every '&'; `pctDecodeQs` (Defs.lean) = '+' → space byte,
  well-formed `%XY` → byte, everything else its UTF-8 bytes (a malformed '%' stays '%'); `decodeReplace` =
  `bytes.decode("utf-8", "replace")`.
  Continued further in C06HeadlineMore4.lean (headline theorems for the proof modules added after the last refresh:
  C06More3.lean; the GAPS block below cites them).
-/
namespace Yarl
open Yarl.DecLemmas Yarl.Readback QsLemmas QueryUrl

/-! ## Sentence 1a — "Each decoded accessor (user, password, path, path_safe, parts, name, suffix, query, query_string,
    fragment) equals the UTF-8 percent-decoding of the corresponding raw component" -/

/-- "Each decoded accessor (user, password, path, path_safe, parts, name, … query_string, fragment) equals the … decoding
    of the corresponding raw component" — no hypothesis on the URL record.  (`suffix`, `suffixes`: next theorem;
    `query`: `C06_headline_query_accessor…` below.) -/
theorem C06_headline_accessors_are_decodings (e : Env) (u : Url) :
    user e u = (rawUser e u).map (Option.map (DecodeSpec e.b (Gen.UNQUOTER.tab e.b))) ∧
    password e u = (rawPassword e u).map (Option.map (DecodeSpec e.b (Gen.UNQUOTER.tab e.b))) ∧
    pathDecoded e u = (if u.path.isEmpty then (if u.netloc.isEmpty then [] else [47])
                       else DecodeSpec e.b (Gen.PATH_UNQUOTER.tab e.b) u.path) ∧
    pathSafe e u = (if u.path.isEmpty then (if u.netloc.isEmpty then [] else [47])
                    else DecodeSpec e.b (Gen.PATH_SAFE_UNQUOTER.tab e.b) u.path) ∧
    partsDecoded e u = (rawParts u).map (DecodeSpec e.b (Gen.UNQUOTER.tab e.b)) ∧
    name e u = (rawName u).map (DecodeSpec e.b (Gen.UNQUOTER.tab e.b)) ∧
    queryString e u = (if u.query.isEmpty then [] else DecodeSpec e.b (Gen.QS_UNQUOTER.tab e.b) u.query) ∧
    fragmentDecoded e u = (if u.fragment.isEmpty then [] else DecodeSpec e.b (Gen.UNQUOTER.tab e.b) u.fragment) := by
  obtain ⟨h1, h2, h3, h4, h5, h6, h7, h8⟩ := C06_accessor_spec e u
  exact ⟨h7, h8, h3, h4, h5, h6, h2, h1⟩

/-- NEW (C06_accessor_spec omitted them): "suffix" and `suffixes` -/
theorem C06_headline_suffix_is_decoding (e : Env) (u : Url) :
    suffix e u = (rawSuffix u).map (DecodeSpec e.b (Gen.UNQUOTER.tab e.b)) ∧
    suffixes e u = (rawSuffixes u).map (List.map (DecodeSpec e.b (Gen.UNQUOTER.tab e.b))) := by
  have h : uq e Gen.UNQUOTER = DecodeSpec e.b (Gen.UNQUOTER.tab e.b) := funext (C06_run_spec Gen.UNQUOTER e.b)
  constructor
  · unfold suffix; rw [h]; cases rawSuffix u <;> rfl
  · unfold suffixes; rw [h]; cases rawSuffixes u <;> rfl

/-- "the UTF-8 percent-decoding": `DecodeSpec` is what EVERY unquoter on BOTH backends computes, for every input — -/
theorem C06_headline_unquoter_meets_spec (a : UArgs) (b : Backend) (s : Str) :
    a.run b s = DecodeSpec b (a.tab b) s :=
  C06_run_spec a b s
-- Appendix E: C06_unquote_spec ↦ C06_unquote_spec (machine level, `uqLoop`) and C06_run_spec (configuration level,
--             used here); `u ∈ Gen.allUnquoters` is no longer needed.

/-- — and it IS UTF-8 percent-decoding: whenever the bytes `pctDecode s` are the UTF-8 encoding of a text `t`, the
    accessors' unquoters return `t` (so for canonical components the accessor is literally the decoded text). -/
theorem C06_headline_decoding_is_utf8 (b : Backend) (s t : Str) (hs : PyStr s) (hsn : NoSurrogate s)
    (ht : PyStr t) (htn : NoSurrogate t) (h : pctDecode s = utf8s t) :
    Gen.UNQUOTER.run b s = t ∧ Gen.PATH_UNQUOTER.run b s = t :=
  C06_decodes_utf8 b s t hs hsn ht htn h

/-- "query" (the MultiDict accessor): NOT `DecodeSpec` but `urllib.parse.parse_qsl` (`parseQsl`: split at '&', first
    '=', '+' → ' ', stdlib `unquote` with errors='replace').  By definition — (what that IS in terms of UTF-8
    percent-decoding: C06_headline_query_accessor_is_form_decoding below) -/
theorem C06_headline_query_accessor (u : Url) : queryPairs u = parseQsl u.query := rfl

/-- — and for it the clause "undecodable escapes kept verbatim" is FALSE: KNOWN FINDING F-C06-query-replace,
    URL('http://h/?a=%FF').query['a'] == '�' (while query_string keeps "%FF"). -/
theorem C06_headline_query_accessor_fails_for_undecodable (e : Env) :
    let u := fromParts "http".toStr "h".toStr "/".toStr "a=%FF".toStr []
    queryPairs u = [("a".toStr, [0xFFFD])] ∧ queryString e u = "a=%FF".toStr := by
  refine ⟨by decide +kernel, ?_⟩
  rw [(C06_accessor_wiring e _).2.1]
  generalize e.b = b
  cases b <;> decide +kernel

/-- closes GAPS 1: "query … equals the UTF-8 percent-decoding of the corresponding raw component", for an ARBITRARY raw
    query: cut the raw query at every '&', drop the empty pieces, key = the text before the first '=' of a piece,
    value = the text after it ("" without '='), and each of the two is form-decoded — '+' → space, `%XY` → byte, a
    malformed '%' kept (`pctDecodeQs`), the bytes then decoded as UTF-8 with U+FFFD for every undecodable part
    (`decodeReplace`; this replacement instead of "kept verbatim" is F-C06-query-replace, previous theorem).
    The right-hand side is written without the model's `parseQsl` / `stdUnquote` / `splitOn` / `partition`. -/
theorem C06_headline_query_accessor_is_form_decoding (u : Url)
    -- guard: the raw query is a Python string without lone surrogates; true for every URL made through the auto-encoding
    -- API (second part); needed: C06_headline_query_accessor_is_form_decoding_fails_for_raw_surrogate
    (hq : GoodText u.query) :
    queryPairs u = ((QsSpec.cut 38 [] u.query).filter (fun p => p ≠ [])).map (fun p =>
      (decodeReplace (pctDecodeQs (p.takeWhile (· ≠ 61))),
       decodeReplace (pctDecodeQs ((p.dropWhile (· ≠ 61)).drop 1)))) :=
  C06_query_accessor_spec_url u hq

/-- — and the guard holds for every URL obtainable through the auto-encoding API (`Reach`, C01Reach.lean: constructor,
    build(encoded=False), every modifier with Python-string arguments, join): its stored query is ASCII. -/
theorem C06_headline_query_accessor_is_form_decoding_reachable (e : Env) (u : Url) (hr : Reach e u) :
    queryPairs u = ((QsSpec.cut 38 [] u.query).filter (fun p => p ≠ [])).map (fun p =>
      (decodeReplace (pctDecodeQs (p.takeWhile (· ≠ 61))),
       decodeReplace (pctDecodeQs ((p.dropWhile (· ≠ 61)).drop 1)))) :=
  C06_query_accessor_spec_reach e u hr

/-- — the guard is needed: a lone surrogate in a raw query (possible with `encoded=True` only) is kept by `parse_qsl`
    (it never reaches the UTF-8 decoder) but has no UTF-8 bytes: raw query "\ud800=1" (model artefact of `utf8`, not a
    library defect). -/
theorem C06_headline_query_accessor_is_form_decoding_fails_for_raw_surrogate :
    parseQsl [0xD800, 61, 49] = [([0xD800], [49])] ∧
    ((QsSpec.cut 38 [] [0xD800, 61, 49]).filter (fun p => p ≠ [])).map (fun p =>
      (decodeReplace (pctDecodeQs (p.takeWhile (· ≠ 61))),
       decodeReplace (pctDecodeQs ((p.dropWhile (· ≠ 61)).drop 1)))) = [([], [49])] :=
  C06_query_accessor_spec_needs_no_surrogate

/-! ## Sentence 1b — "with malformed or undecodable escapes kept verbatim" -/

/-- "malformed … escapes kept verbatim": a '%' that starts no escape is a plain character — -/
theorem C06_headline_malformed_verbatim (b : Backend) (u : UTab) (c : Nat) (r : Str)
    (h : c ≠ 37 ∨ ¬ StartsEscape (c :: r)) :
    DecodeSpec b u (c :: r) = uqPlain u c ++ DecodeSpec b u r :=
  C06_spec_plain b u c r h

/-- "undecodable escapes kept verbatim": inside a run of escapes, an escape whose byte can start no UTF-8 sequence is
    copied as written; a run that is a proper prefix of a sequence is copied as written; pending escapes that the next
    escape cannot continue are copied as a whole and decoding restarts at that escape. -/
theorem C06_headline_undecodable_verbatim (b : Backend) (u : UTab) :
    (∀ (e : Nat × Str) tl, decodeBuf [e.1] = .invalid → decodeRun b u (e :: tl) = e.2 ++ decodeRun b u tl) ∧
    (∀ c, c ≤ 0x10FFFF → isSurrogate c = false → ∀ k, k < (utf8 c).length → ∀ es : List (Nat × Str),
      runBytes es = (utf8 c).take k → decodeRun b u es = runText es) ∧
    (∀ (ps : List (Nat × Str)), ps ≠ [] →
      (∀ n, n < ps.length → decodeBuf ((runBytes ps).take (n + 1)) = .incomplete) →
      ∀ (e : Nat × Str) tl, decodeBuf (runBytes ps ++ [e.1]) = .invalid →
      decodeRun b u (ps ++ e :: tl) = runText ps ++ decodeRun b u (e :: tl)) :=
  ⟨fun e tl h => C06_spec_invalid_verbatim b u e tl h,
   fun c hc hs k hk es hes => C06_spec_truncated_verbatim b u c hc hs k hk es hes,
   fun ps hne hp e tl h => C06_spec_abandon b u ps hne hp e tl h⟩

/-! ## Sentence 1c — "'+' meaning space only in queries" -/

/-- "'+' meaning space only in queries" -/
theorem C06_headline_plus_only_in_queries (b : Backend) (r : Str) :
    DecodeSpec b (Gen.QS_UNQUOTER.tab b) (43 :: r) = 32 :: DecodeSpec b (Gen.QS_UNQUOTER.tab b) r ∧
    DecodeSpec b (Gen.UNQUOTER.tab b) (43 :: r) = 43 :: DecodeSpec b (Gen.UNQUOTER.tab b) r ∧
    DecodeSpec b (Gen.PATH_UNQUOTER.tab b) (43 :: r) = 43 :: DecodeSpec b (Gen.PATH_UNQUOTER.tab b) r ∧
    DecodeSpec b (Gen.PATH_SAFE_UNQUOTER.tab b) (43 :: r) = 43 :: DecodeSpec b (Gen.PATH_SAFE_UNQUOTER.tab b) r :=
  C06_spec_plus_accessors b r

/-! ## Sentence 1d — "and path_safe keeping %2F and %25" -/

/-- "path_safe keeping %2F and %25": at any position of the raw path (whatever is pending), in either hex case as
    written (output upper case); the plain `path` accessor decodes both. -/
theorem C06_headline_path_safe_keeps (b : Backend) (v : Nat) (hv : v = 0x2F ∨ v = 0x25) :
    (∀ txt (tl : List (Nat × Str)), decodeRun b (Gen.PATH_SAFE_UNQUOTER.tab b) ((v, txt) :: tl) =
      pct v ++ decodeRun b (Gen.PATH_SAFE_UNQUOTER.tab b) tl) ∧
    (∀ (pend : List Nat) (ptxt r : Str), (pend = [] → ptxt = []) →
      uqLoop b (Gen.PATH_SAFE_UNQUOTER.tab b) pend ptxt (pct v ++ r) =
        ptxt ++ pct v ++ uqLoop b (Gen.PATH_SAFE_UNQUOTER.tab b) [] [] r) ∧
    (Gen.PATH_UNQUOTER.run b "%2F".toStr = "/".toStr ∧ Gen.PATH_UNQUOTER.run b "%25".toStr = "%".toStr) :=
  ⟨fun txt tl => C06_spec_path_safe_keeps b v hv txt tl,
   fun pend ptxt r hinv => C06_path_safe_keeps b v hv pend ptxt r hinv, C06_path_decodes_2F_25 b⟩

/-! ## Sentence 2 — "Any text supplied as a decoded value through build(), with_user, with_password, with_path, with_name,
    with_fragment, with_query, / or joinpath reads back unchanged from the matching accessor (lone surrogates, and dot
    segments under an authority, excepted)."

    Common guards: `PyStr t` (model artefact), `NoSurrogate t` ("lone surrogates … excepted"). -/

/-- quoter level, all pairings: QUOTER→UNQUOTER (user, password), PATH_QUOTER→PATH_UNQUOTER (path), PATH_QUOTER→UNQUOTER
    (name, parts), FRAGMENT_QUOTER→UNQUOTER (fragment), QUERY_PART_QUOTER→parse_qsl piece (query key / value);
    path_safe returns the text with '%' as "%25". -/
theorem C06_headline_readback_quoter_level (b : Backend) (t : Str) (ht : PyStr t) (hn : NoSurrogate t) :
    Gen.UNQUOTER.run b (Gen.QUOTER.run b t) = t ∧ Gen.PATH_UNQUOTER.run b (Gen.PATH_QUOTER.run b t) = t ∧
    Gen.UNQUOTER.run b (Gen.PATH_QUOTER.run b t) = t ∧ Gen.UNQUOTER.run b (Gen.FRAGMENT_QUOTER.run b t) = t ∧
    stdUnquote (plusToSpace (Gen.QUERY_PART_QUOTER.run b t)) = t ∧
    Gen.PATH_SAFE_UNQUOTER.run b (Gen.PATH_QUOTER.run b t) = t.flatMap (fun c => if c = 37 then pct 37 else [c]) :=
  ⟨C06_readback_user b t ht hn, C06_readback_path b t ht hn, C06_readback_name b t ht hn,
   C06_readback_fragment b t ht hn, C12_part_readback b t ht hn, C06_path_safe_readback b t ht hn⟩
-- Appendix E: C06_readback ↦ C06_readback_user / _path / _name / _fragment (one per pairing, gathered above).

/-- "build()" — path and fragment (a path with '.' inside segments under an authority:
    C06_headline_build_path_readback_dots; user / password / host / query / query_string: the theorems after it) -/
theorem C06_headline_build_readback (e : Env) (a : BuildArgs) (v : Url) (h : build e a = .ok v)
    (henc : a.encoded = false) :
    (PyStr a.fragment → NoSurrogate a.fragment → fragmentDecoded e v = a.fragment) ∧
    (PyStr a.path → NoSurrogate a.path → a.path ≠ [] →
      -- "dot segments under an authority excepted": no '.' at all in the quoted path, or no authority
      (v.netloc = [] ∨ 46 ∉ Gen.PATH_QUOTER.run e.b a.path) → pathDecoded e v = a.path) :=
  ⟨fun hf hn => C06_build_fragment_readback e a v h henc hf hn,
   fun hp hn hne hdot => C06_build_path_readback e a v h henc hp hn hne hdot⟩

section BuildMoreHeadline
open PathLemmas

/-- closes GAPS 5 for build(): "build()" — `build(path=t)` for a non-empty `t` reads back unchanged from `.path` also
    when `t` has '.' INSIDE segments under an authority ("/a.b/..c/d.txt"); only dot SEGMENTS ("." / "..") are
    excluded, exactly the property's exception.  (A rootless `path=` under an authority is rejected by the library,
    so `h` excludes it.) -/
theorem C06_headline_build_path_readback_dots (e : Env) (a : BuildArgs) (v : Url) (h : build e a = .ok v)
    (henc : a.encoded = false)                                 -- auto-encoding mode (decoded values)
    (hp : PyStr a.path)                                        -- model artefact
    (hn : NoSurrogate a.path)                                  -- "lone surrogates … excepted"
    (hne : a.path ≠ [])                                        -- the empty path reads back "" or "/" (C06_headline_accessors_are_decodings)
    (hdot : v.netloc = [] ∨ NoDots (splitOn 47 a.path)) :     -- "dot segments under an authority excepted"
    pathDecoded e v = a.path :=
  C06_build_path_readback_nodots e a v h henc hp hn hne hdot

/-- closes GAPS 3 (user, password): "build()" — `build(user=s, password=p, host=…)`: `.user` is `s` for a non-empty
    `s` (whatever the password), `None` for an absent or EMPTY user (also when a password is given: authority
    ":pw@host"); `.password` is `p` for EVERY `p` including "", `None` when absent. -/
theorem C06_headline_build_user_password_readback (e : Env) (a : BuildArgs) (v : Url) (h : build e a = .ok v)
    (henc : a.encoded = false)      -- auto-encoding mode (decoded values)
    (hauth : a.authority = [])      -- `authority=` takes a raw authority text, not decoded values (and excludes user= / host=)
    (hhost : a.host ≠ []) :         -- without `host=` no authority is stored: user= / password= are silently dropped
    (∀ s, a.user = some s → PyStr s → NoSurrogate s → s ≠ [] → user e v = .ok (some s)) ∧
    ((a.user = none ∨ a.user = some []) → user e v = .ok none) ∧
    (∀ p, a.password = some p → (∀ s, a.user = some s → PyStr s) → PyStr p → NoSurrogate p →
      password e v = .ok (some p)) ∧
    (a.password = none → (∀ s, a.user = some s → PyStr s) → password e v = .ok none) :=
  ⟨fun s hus hs hn h0 => C06_build_user_readback e a v h henc hauth hhost s hus hs hn h0,
   fun hus => C06_build_user_none e a v h henc hauth hhost hus,
   fun p hpw hu hp hn => C06_build_password_readback e a v h henc hauth hhost hu p hpw hp hn,
   fun hpw hu => C06_build_password_none e a v h henc hauth hhost hu hpw⟩

/-- closes GAPS 3 (host; `host` is not in the property's list of accessors): "build()" — `build(host=x)`:
    (i) an ASCII registered name reads back LOWER-CASED from `raw_host`, and from `host` when the IDNA decoder (an
        oracle in the model; `URL.host` calls it unless the raw host ends in a digit and has no "xn--") maps that
        ASCII lower-case name to itself;
    (ii) an IPv4 literal reads back unchanged from both;
    (iii) an IPv6 literal (any spelling, optional "%zone") reads back as its canonical lower-case text, the zone id
        verbatim, without brackets, from both. -/
theorem C06_headline_build_host_readback (e : Env) (a : BuildArgs) (v : Url) (h : build e a = .ok v)
    (henc : a.encoded = false)      -- auto-encoding mode
    (hauth : a.authority = []) :    -- `authority=` takes a raw authority text
    (a.host ≠ [] → isAscii a.host = true →
      -- the text is not an IP literal (those are (ii), (iii)):
      (parseIP (partition 37 a.host).1 = none ∨ (58 ∉ a.host ∧ ∀ l, a.host.getLast? = some l → isDigitC l = false)) →
      rawHost e v = .ok (some (lower a.host)) ∧
      -- oracle hypothesis, needed only when `URL.host` calls the IDNA decoder:
      ((((∀ l, (lower a.host).getLast? = some l → isDigitC l = false) ∨
          hasSub [120, 110, 45, 45] (lower a.host) = true) →
        e.o.idnaDec (lower a.host) = some (some (lower a.host))) →
       host e v = .ok (some (lower a.host)))) ∧
    (∀ o4, parseIPv4 a.host = some o4 → rawHost e v = .ok (some a.host) ∧ host e v = .ok (some a.host)) ∧
    (∀ h8, parseIPv4 (partition 37 a.host).1 = none → parseIPv6 (partition 37 a.host).1 = some h8 →
      rawHost e v = .ok (some (ipv6ToStr h8 ++
        (if (partition 37 a.host).2.1 then [37] ++ (partition 37 a.host).2.2 else []))) ∧
      host e v = .ok (some (ipv6ToStr h8 ++
        (if (partition 37 a.host).2.1 then [37] ++ (partition 37 a.host).2.2 else [])))) :=
  ⟨fun hhost hasc hnip => C06_build_host_readback_lower e a v h henc hauth hhost hasc hnip,
   fun o4 h4 => C06_build_host_readback_ipv4 e a v h henc hauth o4 h4,
   fun h8 h4 h6 => C06_build_host_readback_ipv6 e a v h henc hauth h8 h4 h6⟩

/-- closes GAPS 3 (query=): "build()" — `build(query=…)` with a non-empty sequence of string pairs, a sequence of
    (key, value) items without list values, or a mapping (list values expand to repeated keys, ints by `str()`):
    `url.query` yields exactly the pairs the argument denotes, in order — in BOTH `encoded=` modes (a non-string
    `query=` is always rendered by the library) and whatever the other arguments are. -/
theorem C06_headline_build_query_readback (e : Env) (a : BuildArgs) (v : Url) (h : build e a = .ok v) :
    (∀ ps : List (Str × Str), a.query = .pairs (strItems ps) → ps ≠ [] →
      (∀ p ∈ ps, PyStr p.1 ∧ NoSurrogate p.1 ∧ PyStr p.2 ∧ NoSurrogate p.2) → queryPairs v = ps) ∧
    (∀ items ps, a.query = .pairs items → items ≠ [] → SingleValued items → expandItems items = some ps →
      GoodPairs ps → queryPairs v = ps) ∧
    (∀ items ps, a.query = .mapping items → items ≠ [] → expandItems items = some ps →
      GoodPairs ps → queryPairs v = ps) :=
  ⟨fun ps hq hne hps => C06_build_query_readback e a v h ps hq hne hps,
   fun items ps hq hne hs hx hg => (C06_build_query_readback_pairs e a v h items ps hq hne hs hx hg).1,
   fun items ps hq hne hx hg => (C06_build_query_readback_mapping e a v h items ps hq hne hx hg).1⟩

/-- closes GAPS 3 (query_string=): "build()" — `build(query_string=s)` (no truthy `query=`): the stored raw query is
    `QUERY_QUOTER(s)`, `url.query` is `parse_qsl` of that, and `url.query_string` is `s` WITH EVERY '+' REPLACED BY A
    SPACE — so it reads back unchanged exactly for the texts without '+' (a query STRING is not a decoded value:
    '+' in it already means space; next theorem). -/
theorem C06_headline_build_query_string_readback (e : Env) (a : BuildArgs) (v : Url) (h : build e a = .ok v)
    (henc : a.encoded = false)                -- auto-encoding mode
    (hq : qargTruthy a.query = false)         -- `query=` and `query_string=` together are rejected
    (hs : PyStr a.queryString)                -- model artefact
    (hn : NoSurrogate a.queryString) :        -- "lone surrogates … excepted"
    v.query = q e Gen.QUERY_QUOTER a.queryString ∧
    queryPairs v = parseQsl (q e Gen.QUERY_QUOTER a.queryString) ∧
    queryString e v = plusToSpace a.queryString ∧
    (43 ∉ a.queryString → queryString e v = a.queryString) :=
  ⟨(C06_build_query_string_readback e a v h henc hq hs hn).1, (C06_build_query_string_readback e a v h henc hq hs hn).2.1,
   (C06_build_query_string_readback e a v h henc hq hs hn).2.2,
   fun h43 => C06_build_query_string_readback_noplus e a v h henc hq hs hn h43⟩

/-- — "reads back unchanged" is FALSE for `query_string=` texts with '+':
    `URL.build(host="h", query_string="a+b").query_string == "a b"` on both backends (the raw query is "a+b").
    NOT in KNOWN_FINDINGS.jsonl: `query_string=` takes a query STRING, in which (as for `with_query(str)`, GAPS 7) '+'
    already means space ('%' does NOT start an escape here: it is quoted and reads back), so it is arguably not "a
    decoded value"; if it is read as one, this is a deviation — see GAPS 3. -/
theorem C06_headline_build_query_string_readback_fails_for_plus (b : Backend) :
    ∃ v, build ⟨b, Oracles.empty⟩ { host := "h".toStr, queryString := "a+b".toStr } = .ok v ∧
      v.query = "a+b".toStr ∧ queryString ⟨b, Oracles.empty⟩ v = "a b".toStr ∧
      queryString ⟨b, Oracles.empty⟩ v ≠ "a+b".toStr :=
  C06_build_query_string_plus_counterexample b

end BuildMoreHeadline

/-- "with_user", "with_password" — for a URL whose stored netloc is `make_netloc(user, pw, host, port)` with a
    well-shaped user (`UserOK`: non-empty, no ':') and host (`HostOK`: non-empty, no '@' '[' ']'); an empty `s` for
    with_user is excluded (`make_netloc` writes no "@" for an empty user without password, so it reads back as None).
    For constructor results (pre-filled cache) and URLs with the invariant `NetlocCanon`:
    `C06_headline_with_user_password_readback_constructor` / `…_invariant` / `…_from_input` (C06HeadlineMore.lean, GAPS 4). -/
theorem C06_headline_with_user_password_readback (e : Env) (qf : Str → Str) (usr pw : Option Str) (h : Str)
    (port : Option Nat) (scheme path query fragment : Str) (s : Str)
    (hu : UserOK usr) (hh : HostOK h) (hp : ∀ p, port = some p → p ≤ 65535) (hs : PyStr s) (hn : NoSurrogate s) :
    let u := fromParts scheme (makeNetloc qf usr pw (some (bracket h)) port false) path query fragment
    (s ≠ [] → ∃ v, withUser e u (some s) = .ok v ∧ user e v = .ok (some s)) ∧
    (∃ v, withPassword e u (some s) = .ok v ∧ password e v = .ok (some s)) :=
  ⟨fun h0 => C06_with_user_readback e qf usr pw h port scheme path query fragment s hu hh hp hs hn h0,
   C06_with_password_readback e qf usr pw h port scheme path query fragment s hu hh hp hs hn⟩

/-- "with_path" (first version; superseded by C06_headline_with_path_readback_general below, which allows '.' inside
    segments, rootless and empty texts, and keep_query / keep_fragment) -/
theorem C06_headline_with_path_readback (e : Env) (u : Url) (t : Str) (ht : PyStr t) (hn : NoSurrogate t)
    (hnet : u.netloc = [] ∨ 46 ∉ Gen.PATH_QUOTER.run e.b t)  -- "dot segments under an authority excepted" (any '.' excluded)
    (hroot : t.head? = some 47) :                              -- a rootless non-empty path gets a '/' prepended
                                                               -- (C06_headline_with_path_readback_fails_for_rootless)
    pathDecoded e (withPath e u t false false false) = t :=
  C06_with_path_readback e u t ht hn hnet hroot

section PathMoreHeadline
open PathLemmas PathAlg

/-- closes GAPS 5: "with_path" — `with_path(t, keep_query=kq, keep_fragment=kf)` for a Python string `t` without lone
    surrogates and — under an authority — without dot SEGMENTS ('.' inside a segment is fine: "/a.b/c.txt"; the
    library roots the text first and then normalises, so nothing else changes): `.path` is `t` when `t` is rooted,
    `"/" + t` when `t` is ROOTLESS and non-empty (the library prepends the slash, with or without an authority), and
    the empty text reads back as "" without and "/" with an authority; query and fragment are kept or cleared as asked. -/
theorem C06_headline_with_path_readback_general (e : Env) (u : Url) (t : Str) (kq kf : Bool)
    (ht : PyStr t)                                             -- model artefact
    (hn : NoSurrogate t)                                       -- "lone surrogates … excepted"
    (hnd : u.netloc = [] ∨ NoDots (splitOn 47 t)) :            -- "dot segments under an authority excepted"
    pathDecoded e (withPath e u t false kq kf) =
      (if t = [] then (if u.netloc = [] then [] else [47]) else if t.head? = some 47 then t else 47 :: t) ∧
    (withPath e u t false kq kf).query = (if kq then u.query else []) ∧
    (withPath e u t false kq kf).fragment = (if kf then u.fragment else []) :=
  C06_with_path_readback_nodots e u t kq kf ht hn hnd

/-- — so "reads back unchanged" is FALSE for a rootless non-empty text: the library accepts it and stores it ROOTED,
    `URL("http://h").with_path("a.b/c").path == "/a.b/c"` (also without an authority:
    `URL("x:").with_path("a").path == "/a"`); the exact read-back is `"/" + t`.  NOT in
    KNOWN_FINDINGS.jsonl (the first theorem excluded the case by its guard `hroot`); by the letter of the property
    ("reads back unchanged", exceptions: lone surrogates, dot segments) it is a deviation — see GAPS 5. -/
theorem C06_headline_with_path_readback_fails_for_rootless (e : Env) (u : Url) (t : Str) (kq kf : Bool)
    (ht : PyStr t) (hn : NoSurrogate t)                        -- as above
    (hnd : u.netloc = [] ∨ NoDots (splitOn 47 t))              -- as above
    (h0 : t ≠ []) (hr : t.head? ≠ some 47) :                   -- the case: `t` is non-empty and rootless
    pathDecoded e (withPath e u t false kq kf) = 47 :: t ∧ pathDecoded e (withPath e u t false kq kf) ≠ t :=
  C06_with_path_readback_rootless e u t kq kf ht hn hnd h0 hr

end PathMoreHeadline

/-- "with_name" ('/' in a name is rejected by the library), "with_fragment" (and `None` clears it) -/
theorem C06_headline_with_name_fragment_readback (e : Env) (u : Url) (t : Str) (ht : PyStr t) (hn : NoSurrogate t) :
    (47 ∉ t → ∀ v, withName e u t false false = .ok v → name e v = .ok t) ∧
    fragmentDecoded e (withFragment e u (some t)) = t ∧ fragmentDecoded e (withFragment e u none) = [] :=
  ⟨fun h v => C06_with_name_readback e u t ht hn h v, C06_with_fragment_readback e u t ht hn,
   C06_with_fragment_none e u⟩

/-- closes GAPS 7 (first half): "with_name" — `with_name(t, keep_query=kq, keep_fragment=kf)` for ANY flags: whenever
    the library accepts `t` (it rejects a `t` containing '/', "." and ".."), `.name` is `t`, and query / fragment are
    kept or cleared as asked (seen through `query_string`, `query` and `fragment`). -/
theorem C06_headline_with_name_readback_keep (e : Env) (u : Url) (t : Str) (kq kf : Bool) (v : Url)
    (ht : PyStr t)                  -- model artefact
    (hn : NoSurrogate t) :          -- "lone surrogates … excepted"
    withName e u t kq kf = .ok v → name e v = .ok t ∧
      queryString e v = (if kq then queryString e u else []) ∧ queryPairs v = (if kq then queryPairs u else []) ∧
      fragmentDecoded e v = (if kf then fragmentDecoded e u else []) :=
  C06_with_name_readback_keep e u t kq kf v ht hn

/-- "with_query" — a sequence of string pairs, and a mapping (list values expand to repeated keys, ints by str()):
    `url.query` yields exactly the supplied pairs, in order. -/
theorem C06_headline_with_query_readback (e : Env) (u : Url) :
    (∀ ps : List (Str × Str), (∀ p ∈ ps, PyStr p.1 ∧ NoSurrogate p.1 ∧ PyStr p.2 ∧ NoSurrogate p.2) → ps ≠ [] →
      ∃ v, withQuery e u (.pairs (strItems ps)) = .ok v ∧ queryPairs v = ps) ∧
    (∀ items ps, expandItems items = some ps → GoodPairs ps →
      ∃ v, withQuery e u (.mapping items) = .ok v ∧ queryPairs v = ps) := by
  refine ⟨fun ps h hne => ?_, fun items ps h1 h2 => ?_⟩
  · obtain ⟨v, h1, h2, _⟩ := C12_with_query_pairs e u ps h hne; exact ⟨v, h1, h2⟩
  · obtain ⟨v, h3, h4, _⟩ := C12_url_with_query_mapping' e u items ps h1 h2; exact ⟨v, h3, h4⟩
-- Appendix E: C06_query_readback ↦ C12_query_readback (`strQueryOfPairs ps` became `strQueryFromIterable b (strItems ps)`,
--             which is fallible in the model), lifted to URLs by C12_with_query_pairs / C12_url_with_query_mapping'.

/-- "/ or joinpath" — ONE plain segment: non-empty, no '/', no '.' at all; the base path rooted under an authority -/
theorem C06_headline_child_readback (e : Env) (u : Url) (s : Str) (v : Url)
    (hs : PyStr s) (hsur : NoSurrogate s) (h47 : 47 ∉ s) (h46 : 46 ∉ s) (hne : s ≠ [])
    (hpath : u.netloc ≠ [] → (u.path = [] ∨ u.path.head? = some 47)) :
    makeChild e u [s] false = .ok v → name e v = .ok s :=
  C06_child_name_readback e u s v hs hsur h47 h46 hne hpath

section ChildMoreHeadline
open PathLemmas PathAlg

/-- closes GAPS 6 (segments with '.'): "/ or joinpath" — ONE segment that may contain '.' (only "." and ".." themselves
    are excluded: the property's exception), read through `name`. -/
theorem C06_headline_child_readback_dots (e : Env) (u : Url) (s : Str) (v : Url)
    (hs : PyStr s)                                                     -- model artefact
    (hsur : NoSurrogate s)                                             -- "lone surrogates … excepted"
    (h47 : 47 ∉ s) (hne : s ≠ [])                                      -- ONE non-empty segment (texts with '/': next theorem)
    (hdot : s ≠ dot ∧ s ≠ dotdot)                                      -- "dot segments … excepted"
    (hold : u.netloc ≠ [] → NoDots (splitOn 47 u.path))                -- the OLD path has no dot segment under an authority, and
    (hpath : u.netloc ≠ [] → (u.path = [] ∨ u.path.head? = some 47)) : -- is empty or rooted there (both: GAPS 9)
    makeChild e u [s] false = .ok v → name e v = .ok s :=
  C06_child_name_readback_dots e u s v hs hsur h47 hne hdot hold hpath

/-- closes GAPS 6 (texts with '/', read-back through `parts` and `path`): "/ or joinpath" — `u / s` (`u.joinpath(s)`)
    for a text `s` that may contain '/' and '.', no dot SEGMENT under an authority: the segments of `s` read back at
    the end of `parts` (after the old decoded parts without one trailing empty part), its last segment through `name`,
    and `path` is the old decoded path without ONE trailing slash, then "/" and `s` (for an empty old path: `s`
    itself without, "/" + `s` with an authority). -/
theorem C06_headline_child_slash_readback (e : Env) (u : Url) (s : Str) (v : Url)
    (hs : PyStr s) (hsur : NoSurrogate s)                              -- model artefact; "lone surrogates … excepted"
    (hnd : u.netloc ≠ [] → NoDots (splitOn 47 u.path) ∧ NoDots (splitOn 47 s))  -- "dot segments under an authority excepted" (old path: GAPS 9)
    (hq : u.netloc ≠ [] → u.path = [] → s ≠ [])                        -- "http://h" / "" is excluded (the result path would be "/")
    (hpath : u.netloc ≠ [] → (u.path = [] ∨ u.path.head? = some 47)) : -- old path empty or rooted under an authority (GAPS 9)
    makeChild e u [s] false = .ok v →
      partsDecoded e v = (stripTrail (rawParts u)).map (uq e Gen.UNQUOTER) ++ splitOn 47 s ∧
      name e v = .ok ((splitOn 47 s).getLast?.getD []) ∧
      pathDecoded e v =
        (if u.path = [] then (if u.netloc = [] then s else 47 :: s)
         else (if u.path.getLast? = some 47 then (pathDecoded e u).dropLast else pathDecoded e u) ++ 47 :: s) :=
  C06_child_slash_readback e u s v hs hsur hnd hq hpath

/-- closes GAPS 6 (several arguments): "joinpath" — `u.joinpath(a₁, …, aₙ)` for Python strings without lone surrogates
    and — under an authority — without dot segments: the decoded `parts` are the old decoded parts (without a trailing
    empty one) followed by the segments of the arguments AS GIVEN (`PathMore.argSegs e true ps`: each argument split at
    '/', the trailing empty segment of a non-last one dropped); `name` is the last of them.  (Whenever the library
    accepts the call: an argument starting with '/' is rejected.) -/
theorem C06_headline_joinpath_readback (e : Env) (u : Url) (ps : List Str) (v : Url)
    (hne : ps ≠ [])                                                    -- at least one argument
    (hps : ∀ p ∈ ps, PyStr p ∧ NoSurrogate p)                          -- model artefact; "lone surrogates … excepted"
    (hnd : u.netloc ≠ [] → NoDots (splitOn 47 u.path) ∧ ∀ p ∈ ps, NoDots (splitOn 47 p))  -- "dot segments under an authority excepted" (old path: GAPS 9)
    (hq : u.netloc ≠ [] → u.path = [] → ∃ p ∈ ps, p ≠ [])              -- not all arguments empty on an empty path under an authority
    (hpath : u.netloc ≠ [] → (u.path = [] ∨ u.path.head? = some 47)) : -- old path empty or rooted under an authority (GAPS 9)
    makeChild e u ps false = .ok v →
      partsDecoded e v = (stripTrail (rawParts u)).map (uq e Gen.UNQUOTER) ++ PathMore.argSegs e true ps ∧
      name e v = .ok ((PathMore.argSegs e true ps).getLast?.getD []) :=
  C06_joinpath_parts_readback e u ps v hne hps hnd hq hpath

end ChildMoreHeadline

/-
GAPS:
 1. CLOSED by C06_query_accessor_spec / _spec_url / _spec_reach (C12More.lean), see
    C06_headline_query_accessor_is_form_decoding, …_reachable, …_fails_for_raw_surrogate.  For every raw query that is a
    Python string without lone surrogates (in particular the query of every URL reachable through the auto-encoding
    API) `url.query` is: cut at '&', drop empty pieces, split at the first '=', '+' → space, `%XY` → byte, malformed '%'
    kept, UTF-8 decoding with U+FFFD replacement.  For undecodable escapes the clause "kept verbatim" stays false
    (F-C06-query-replace, C06_headline_query_accessor_fails_for_undecodable).
 2. CLOSED by C06_unquoter_is_pctUtf8, C06_decodeSpec_is_pctUtf8, C06_unquoter_keep_sets,
    C06_unquoter_is_pctUtf8_of_table, C06_accessors_are_pctUtf8_decodings, C06_qs_decodes_utf8,
    C06_path_safe_decodes_utf8, C06_query_string_path_safe_decode_utf8, C06_pct_malformed_examples,
    C06_unquoter_keep_examples, C06_utf8Head_textbook, C06_spec_hex_agrees (C06Decode.lean + Lemmas/DecMore.lean; the
    headline theorems are in the companion file C06HeadlineMore.lean, next to GAPS 4), see
    C06_headline_spec_is_textbook, C06_headline_unquoter_is_pct_utf8_decoding, C06_headline_unquoter_keep_sets,
    C06_headline_accessors_are_pct_utf8_decodings, C06_headline_query_string_path_safe_decode_utf8 (+
    …_fails_for_kept_escape), C06_headline_malformed_undecodable_verbatim_in_context (+
    C06_headline_malformed_verbatim_side_conditions_needed, C06_headline_malformed_plus_append_in_context),
    C06_headline_keep_and_plus_in_context.  "equals the UTF-8 percent-decoding" is now proved against an INDEPENDENT
    specification, `Rfc.pctUtf8Decode keep plusIsSpace` (≈ 40 lines, no reference to the unquoter state machine,
    `decodeBuf` or `DecodeSpec`; it uses the model's UTF-8 encoder `utf8` only): the four generated unquoters, `DecodeSpec`
    of their tables, and every string-valued decoded accessor (user, password, path, path_safe, parts, name, suffix,
    suffixes, query_string, fragment) EQUAL it for EVERY input on both backends, with the `keep` set and '+' flag of each
    table explicit and COMPUTED from the generated tables (UNQUOTER, PATH_UNQUOTER: nothing kept; PATH_SAFE_UNQUOTER:
    '/' '%'; QS_UNQUOTER: '+' '=' '&' ';' and '+' = space) — this is the statement of "which characters `uqEmit` keeps
    encoded" that was missing; the valid-UTF-8 corollary now also holds for QS_UNQUOTER (query_string) and
    PATH_SAFE_UNQUOTER (path_safe), under the guard "no escape of a kept character" (needed; that is what keeping means).
    "malformed or undecodable escapes kept verbatim" is proved IN CONTEXT (any text before and after) for `%zz`, `%4`, a
    trailing `%`, `%FF`, truncated `%E2%82`, overlong `%C0%AF`, surrogate `%ED%A0%80`.  DEVIATIONS the module reports:
    the `%4` / `%E2%82` examples need a side condition on WHAT FOLLOWS (`%4` must not be followed by a hex digit — `%41`
    is 'A'; `%E2%82` must not be followed by the escape of a continuation byte — `%E2%82%AC` is '€'); a KEPT escape is
    RE-QUOTED, not copied: `%2f` reads back `%2F` from path_safe, `%3d` as `%3D` from query_string ("keeping %2F and %25"
    holds up to hex case).  The specification was also run against /repo's `_quoting_py._Unquoter` and
    `_quoting_c._Unquoter` (4714 strings x 4 configurations, no mismatch: C06Decode.lean header).
    WHAT REMAINS: `Rfc.pctUtf8Decode` is itself a specification written for this project (short, independent, with
    `C06_headline_spec_is_textbook` as its sanity theorem) — there is no external formal UTF-8 / RFC 3986 decoder to
    compare with; the `query` accessor is `parse_qsl` (errors='replace'), not this decoder (GAPS 1, F-C06-query-replace).
    ADDED (C06_encoded_accessors, C06_build_encoded_accessors, C06Encoded.lean; see
    C06_headline_encoded_true_accessors_are_decodings, C06_headline_build_encoded_true_accessors_are_decodings,
    C06HeadlineMore3.lean): the same statement composed with C07's "encoded=True … verbatim" — for `URL(s, encoded=True)`
    the string-valued decoded accessors are `Rfc.pctUtf8Decode` of the Appendix B components of the cleaned input (user /
    password: of the RFC split of its authority) VERBATIM, for `build(…, encoded=True)` of the ARGUMENTS verbatim (a truthy
    `query=` first rendered by `get_str_query`).  Corollaries only (the theorem above has no hypothesis on the URL); user /
    password raise when the port text of the stored authority is no port.  `C06_encoded_str` (same module: `str()` of such
    URLs) is C07's clause, not restated for C06.
 3. PARTLY CLOSED by C06_build_user_readback / _user_none / _password_readback / _password_none,
    C06_build_host_readback_lower / _ipv4 / _ipv6, C06_build_query_readback / _pairs / _mapping,
    C06_build_query_string_readback / _noplus / _plus_counterexample (C06More.lean), see
    C06_headline_build_user_password_readback, C06_headline_build_host_readback, C06_headline_build_query_readback,
    C06_headline_build_query_string_readback, C06_headline_build_query_string_readback_fails_for_plus; and NOW ALSO by
    C06_build_authority_readback, C06_build_authority_host_name / _host_ipv4 / _host_ipv6,
    C06_build_authority_written_readback, C06_build_authority_not_percent_decoded, C06_build_query_str_readback,
    C06_build_query_str_single (C06More2.lean + Lemmas/Readback2.lean), see C06_headline_build_authority_readback,
    C06_headline_build_authority_host_readback, C06_headline_build_authority_written_readback,
    C06_headline_build_authority_readback_fails_for_percent_escapes, C06_headline_build_query_str_readback
    (C06HeadlineMore3.lean).
    Proved, for `build(encoded=False)` without `authority=` and with `host=`: user (non-empty) and password (any, ""
    included) read back, absent / empty user and absent password read `None`; an ASCII registered name reads back
    lower-cased from raw_host (and from host under an oracle hypothesis, GAPS 10), IPv4 literals unchanged, IPv6
    literals canonical without brackets; `query=` pairs / mapping read back from `url.query` in both `encoded=` modes;
    `query_string=s` reads back from `query_string` as `s` with '+' replaced by ' ' (unchanged iff no '+').
    NOW ALSO proved: `build(authority=A)` (encoded=False).  Hypotheses: `A` is a Python string, `split_netloc(A)`
    succeeds with a host text `h0` that is `HostTextOK` (a supported ASCII host text: a name / IPv4 text of visible
    ASCII without `/ ? # @ [ ] :`, or an IPv6 literal with optional zone id), a host that is no IPv6 literal not being
    written in brackets.  Then raw_user / raw_password are QUOTER of the userinfo texts of `A` (an empty user `None`);
    `user` / `password` read back those texts VERBATIM (lone surrogates dropped) — the userinfo of `authority=` is
    treated as DECODED text, '%' is stored "%25" (GAPS 11); raw_host is the name lower-cased / the IPv4 literal
    unchanged / the IPv6 literal canonical without brackets, and so is `host` (for a name: under the oracle hypothesis
    of GAPS 10); explicit_port is the port of `A`, or `None` when that is the default port of the lower-cased scheme;
    `port` is the integer.  In "reads back unchanged" form: for `A = make_netloc(U, P, H, port)` written without
    encoding (`UserOK U`, `HostOK H`, `HostTextOK H`, port ≤ 65535, no lone surrogates) `user` is `U`, `password` is `P`.
    `build(query=s)` for a non-empty STRING `s`, BOTH `encoded=` modes: the stored query is QUERY_QUOTER(s), `url.query`
    is the '&'-pieces of `s` (empty ones dropped) cut at the first '=', '+' read as space, NOTHING else decoded ('%' is
    literal), `query_string` is `s` with '+' → ' '; one "k=w" text without '&' '+' (no '=' in `k`) reads back as (k, w).
    A query STRING is not a sequence of decoded values ('&' '=' '+' are syntax), as for `query_string=`.
    STILL OPEN: `build(authority=…)` whose host text is outside `HostTextOK` (IDN / non-ASCII, IPvFuture or another
    bracketed non-IPv6 text, a name in brackets) or is missing (`np.host = None`); non-ASCII `host=` (IDNA:
    C16, no read-back statement); whether the '+' behaviour of `query_string=` / a str `query=` is a deviation from the
    property (false by the letter, not in KNOWN_FINDINGS); `build(…, encoded=True)`: no read-back claim is made or
    intended (the arguments are raw texts there; what the accessors return: GAPS 2, ADDED).
 4. PARTLY CLOSED by C06_cached_with_user_readback / _with_password_readback, C06_ctor_with_user_readback /
    _with_password_readback, C06_netlocCanon_user_password_readback (C11Ctor.lean — that file IMPORTS this one, so the
    headline theorems are in the companion file C06HeadlineMore.lean), see
    C06_headline_with_user_password_readback_cached, …_constructor, …_invariant, …_from_input (C06HeadlineMore.lean).
    Proved: with_user (non-empty text) and with_password (any text, "" included) read back on every URL with a
    non-empty authority that satisfies the invariant `NetlocCanon` (C03Reach.lean: "syntactically valid host"; kept by
    every operation with Python-string / valid-host arguments, C03_applyOp_netlocCanon; established by the constructor
    from the input text for the supported ASCII host kinds: …_from_input), and on constructor results — pre-filled
    cache included — under `GoodAuthority` (cache agrees with the stored authority) and `Written` (the stored authority
    is `make_netloc` text).  `NetlocCanon` / `GoodAuthority` are hypotheses there, not consequences of reachability
    alone (F-C03-bracket, F-C03-empty-authority violate them; IDN and IPvFuture hosts are outside `AuthInput`).
    The former remainder (with_user("") / with_password on a URL without host) is NOW CLOSED by
    C06_with_user_empty_written, C06_cached_with_user_empty, C06_ctor_with_user_empty,
    C06_netlocCanon_with_user_empty, C06_with_user_password_no_authority, C06_no_host_iff_no_authority (C06More2.lean),
    see C06_headline_with_user_empty_written, …_with_user_empty_cached_constructor, …_with_user_empty_invariant,
    C06_headline_with_user_password_no_authority (C06HeadlineMore3.lean).  Proved, under the SAME hypotheses as the
    read-back (record without cache with `make_netloc` authority; `Written` + cache agreement or constructor result
    under `GoodAuthority`; `NetlocCanon` + non-empty authority): with_user("") removes the user and KEEPS the password
    (authority ":pw@host"), `user` of the result is `None`, raw / decoded password, raw_host, explicit_port and the
    other parts are unchanged, and it equals with_user(None) iff there is no password — so "reads back unchanged" is
    FALSE for the text "" (it reads `None`; same observation as C11_headline_with_user_fails_for_empty; not in
    KNOWN_FINDINGS, the property text has no such exception).  On EVERY record with an empty stored authority
    with_user / with_password return ValueError for every argument (nothing to read back); "without host" (`raw_host` /
    `host` is `None`) = "empty stored authority" is proved for records WITHOUT pre-filled cache only.
    STILL OPEN: `NetlocCanon` / `GoodAuthority` / `Written` stay hypotheses (as above).
 5. CLOSED by C06_with_path_readback_nodots / _rootless / _rooted and C06_build_path_readback_nodots (C06More.lean), see
    C06_headline_with_path_readback_general, C06_headline_with_path_readback_fails_for_rootless,
    C06_headline_build_path_readback_dots.  with_path (any keep_query / keep_fragment) and build(path=) read back every
    text without dot SEGMENTS under an authority ('.' inside segments allowed; no restriction without an authority);
    with_path of the empty text reads "" / "/"; with_path of a ROOTLESS non-empty text reads back as "/" + text — "reads
    back unchanged" is false there (since recorded as KNOWN FINDING F-C06-path-rooted, which also names the empty text
    under an authority reading "/"; the doc comment of C06_headline_with_path_readback_fails_for_rootless still says "NOT
    in KNOWN_FINDINGS.jsonl").  What texts WITH dot segments under an authority read back
    as is the property's exception (C15).
 6. PARTLY CLOSED by C06_child_name_readback_dots, C06_child_slash_readback, C06_joinpath_parts_readback
    (C06More.lean), see C06_headline_child_readback_dots, C06_headline_child_slash_readback,
    C06_headline_joinpath_readback.  Proved: one segment with '.' through `name`; one text with '/' and '.' through
    `parts`, `name` AND `path`; several arguments through `parts` and `name`.  NOW ALSO, by C06_joinpath_path_readback
    (C06More2.lean), see C06_headline_joinpath_path_readback (C06HeadlineMore3.lean): several arguments through `path` —
    `u.joinpath(a₁, …, aₙ)` is the SAME URL as `u.joinpath("a₁/…/aₙ")` (a trailing '/' of a non-last argument not
    doubled) and `path` is the old decoded path without ONE trailing slash, "/" and that text; same hypotheses as the
    `parts` theorem.  Remains open: with_suffix (not in the property's list); the side conditions on the OLD path are
    GAPS 9 (discharged for reachable URLs).
    FURTHER: the remainder "with_suffix" is NOW CLOSED by C06_with_suffix_name_readback,
    C06_with_suffix_suffix_closed_form, C06_with_suffix_suffix_readback_iff, C06_with_suffix_suffixes_readback,
    C06_with_suffix_idempotent, C06_with_suffix_total (+ the computed C06_with_suffix_escaped_dot_example,
    …_empty_escaped_dot_example, …_suffixes_escaped_dot_counterexample, …_suffix_readback_counterexamples,
    …_not_idempotent_examples, …_total_examples; C06More3.lean), see C06_headline_with_suffix_name_readback,
    …_suffix_closed_form, …_suffix_readback_iff (+ …_suffix_readback_fails_for), …_suffixes_readback (+
    …_suffixes_fails_for_escaped_dot), C06_headline_with_suffix_escaped_dot_examples, …_idempotent (+
    …_idempotent_fails_for), …_total (+ …_total_examples) (C06HeadlineMore4.lean).  Proved, for ANY old URL (no side
    condition on it) and every `x` that is a Python string without lone surrogates, GIVEN that `with_suffix(x)`
    succeeds: `name` of the result is `u.name` without `u.suffix` followed by `x` unchanged, all other decoded parts,
    scheme and authority kept, query / fragment kept or dropped by the flags; `suffix` of the result in closed form (the
    last dotted piece of `x`, "" when `x` ends in '.'); `suffix == x` IF AND ONLY IF `x` is "." + a non-empty dot-free
    text, or "" on a raw stem without suffix — so "reads back unchanged" through `suffix` is FALSE for ".tar.gz"
    (".gz"), ".a." ("") and "" on "a.tar.gz" (".tar"); `suffixes` of the result is the suffixes function of the new
    decoded name UNDER the side condition `NoEscapedDot` (no "%2E" in the raw stem; implied by "the raw name is the
    canonical quoting of a text" — names written by the auto-encoding API — and by "no '.' in the decoded stem"); the
    side condition is NEEDED (`URL("http://h/a%2Eb.c", encoded=True).with_suffix(".d").suffixes == (".d",)`);
    idempotence for `x` = "." + non-empty dot-free text, FALSE otherwise (instances); and the call (accepted `x`,
    non-empty raw name) succeeds unless `x == ""` on a raw stem "." / "..", where it raises ValueError.
    CAVEAT: `u.suffix` is the decoding of the RAW suffix, not the suffix of the decoded name (raw name "a%2Eb": name
    "a.b", suffix ""); all statements are about that accessor.  `with_suffix` is not in the property's list, so none of
    the FALSE clauses is a deviation from the property text; none is in KNOWN_FINDINGS.jsonl.
 7. PARTLY CLOSED by C06_with_name_readback_keep (C06More.lean), see C06_headline_with_name_readback_keep: with_name for
    ANY `keep_query` / `keep_fragment`.  Unchanged: with_query: `.str` arguments (a whole query string, where '+'
    and '%XY' are NOT decoded values) are rightly outside; float / bool / None values are C12.
 8. path_safe read-back (`…flatMap (%→%25)`) and all read-backs are at quoter level or first-hop accessor level; no
    theorem chains two modifiers (e.g. with_user then with_path keeps `user`): that is property C11.
 9. NEW.  The `/` / joinpath theorems (C06_headline_child_readback, …_dots, …_slash_readback, …_joinpath_readback) assume
    of the OLD URL, under an authority, that its stored path has no dot segment (`hold` / first half of `hnd`) and is
    empty or rooted (`hpath`).  CLOSED for URLs reachable through the auto-encoding API by C06_reachable_old_path_ok,
    C06_reach_child_readback, C06_reach_child_slash_readback, C06_reach_joinpath_readback (C06More2.lean: the
    composition with C15_headline_reachable), see C06_headline_reachable_old_path_ok,
    C06_headline_child_readback_reachable, C06_headline_joinpath_readback_reachable (C06HeadlineMore3.lean).  Proved:
    for every `ReachC e u` (constructor on a Python string, build(encoded=False), every modifier with Python-string
    arguments, join) both side conditions hold, so the read-backs through `name` / `parts` / `path` hold with
    conditions on the ARGUMENTS only (Python strings without lone surrogates, no dot segment under an authority, not
    all empty on an empty path under an authority).  STILL OPEN: URLs made with `encoded=True` (constructor, build,
    with_path / joinpath(encoded=True)) are outside `ReachC`; for them the side conditions are genuine restrictions
    (a `build(path="x/../y", host=…, encoded=True)` result stores a rootless path with a dot segment under an
    authority: C07_build_encoded_instance, C07Encoded.lean) and no read-back theorem covers them.
10. C06_headline_build_host_readback (i), decoded `host`: the hypothesis that the IDNA decoder maps an ASCII
    lower-case name to itself is an assumption about the oracle (the `idna` package) with no discharging theorem; it is
    not needed for raw_host, for names ending in a digit without "xn--", or for IP literals.
    SHARPENED (not closed) by C06_host_oracle_use, C06_build_host_readback_no_oracle, C06_build_host_readback_iff_oracle,
    C06_build_host_readback_fails_for_oracle (C06More2.lean), see C06_headline_host_oracle_use,
    C06_headline_build_host_readback_no_oracle, …_iff_oracle, …_fails_for_oracle (C06HeadlineMore3.lean).  Proved: for an
    ASCII raw host `URL.host` consults NO oracle exactly when the raw host ends in a digit and has no "xn--", or has a
    ':'; for those names (`build(host=x)`, `x` ASCII, not an IP literal, ending in a digit, no "xn--" in any case) the
    read-back of the lower-cased name through `host` holds with NO oracle hypothesis; for EVERY other ASCII name `host`
    is whatever `_idna_decode` answers ("example.com" included), and the read-back holds IF AND ONLY IF the answer is
    the name itself — the hypothesis cannot be dropped.  For names WITH "xn--" it is FALSE in the library's real
    behaviour: `URL.build(host="XN--Bcher-KVA.de").host == "bücher.de"` (witness with the real `idna` answer in the
    oracle table; `host` is not in the property's list of accessors, raw_host reads the lower-cased A-label).
    STILL OPEN: for names without "xn--" not ending in a digit the hypothesis remains an unproved assumption about the
    `idna` package (it is not composed here with the oracle assumptions `IdnaSaneAt` / `IdnaRoundTripAt` of
    C16Idn.lean); the same hypothesis is carried by C06_headline_build_authority_host_readback (i).
11. NEW.  `build(authority=A)` QUOTES the userinfo of `A` as decoded text: a '%' in it is stored "%25", so
    `URL.build(scheme="http", authority="us%41er:p%40w@h1:80")` has `user == "us%41er"` (not "usAer"), `password ==
    "p%40w"`, `explicit_port is None` (80 is the default), `port == 80`, while the constructor on the same text REQUOTES
    (`URL("http://us%41er:p%40w@h1:80").user == "usAer"`): C06_headline_build_authority_readback_fails_for_percent_escapes.
    Under the reading "the userinfo of `authority=` is a decoded value" the property holds (GAPS 3); under the reading
    "`authority=` is a raw authority, parsed like the constructor's" the escapes are double-encoded.  The property text
    does not say which; NOT in KNOWN_FINDINGS.jsonl.  Also: explicit_port does not read back a port equal to the
    scheme's default (`None`; `port` does) — `explicit_port` / `port` are not in the property's list of accessors.
12. NEW.  The `build(authority=)` theorems carry `HostTextOK h0` and the bracket condition `hwrap` as hypotheses on the
    host text of `A` (supported ASCII host kinds, as `AuthInput` in GAPS 4); nothing is proved about user / password
    of `build(authority=A)` for an IDN / non-ASCII / IPvFuture host (the proof goes through the shape of the stored
    authority, which Lemmas/Readback2.lean establishes for these host kinds only).
    SHARPENED (not closed) by C06_hostTextOK_decidable, C06_build_authority_readback_checked,
    C06_build_authority_host_readback_checked (C06More3.lean), see C06_headline_hostTextOK_decidable,
    C06_headline_build_authority_readback_checked, C06_headline_build_authority_host_readback_checked
    (C06HeadlineMore4.lean).  Proved: `HostTextOK h0` is decidable (it IS the Bool `R12a.hostTextOkB h0`), `hwrap` IS
    `R12a.authWrapB A`, and for every `A` accepted by `split_netloc` the single oracle-free check `R12a.authOkB A` on
    the TEXT is exactly the two hypotheses; the read-back theorems of GAPS 3 are restated with hypotheses `PyStr A` and
    `authOkB A = true` only (both closed by `decide` for a concrete `A`: five instances in C06More3.lean), the success
    of `split_netloc(A)` now being a conclusion, with host / user / password given as oracle-free functions of `A` (the
    port too when the port text is ASCII).  The check REJECTS "[v1.x]", "[example.com]", an IDN name, "user@:80".
    STILL OPEN: unchanged in substance — nothing is proved about `build(authority=A)` for a host text outside
    `HostTextOK` (IDN / non-ASCII, IPvFuture, a name in brackets, no host); the decoded `host` of a name still carries
    the oracle hypothesis of GAPS 10.
13. NEW (with C06More3.lean, `with_suffix`).  The statements of GAPS 6 FURTHER are relative to hand-written functions
    whose reading is trusted: `PathMore.sfx` / `PathMore.sfxs` (C13More.lean; tied to `raw_suffix` / `raw_suffixes` by
    `rawSuffix_eq` / `rawSuffixes_eq`, and `suffix` / `suffixes` are their element-wise decodings:
    C06_headline_suffix_is_decoding), `HumanReach.stem` (name minus `sfx`), `R12a.NoEscapedDot` (a Prop, decidable,
    unfolded in C06More3.lean: every '.'-piece of the raw text decodes to a text without '.'), `R12a.dotted`.  The
    hypothesis "the call succeeds" is characterised only for an accepted `x` on a non-empty raw name
    (C06_headline_with_suffix_total); on an empty name or a rejected `x` the call raises (`withSuffix_checks`,
    C13More.lean; no C06 headline).  `x` with lone surrogates: no statement (the property's exception).
14. NEW (with C06More3.lean, `build(authority=)`).  `R12a.authHost` / `authUser` / `authPassword` / `authPortText` /
    `authPort` / `authWrapB` / `authOkB` are hand-written oracle-free re-statements of how `split_netloc` cuts the text;
    their agreement with `splitNetloc` is PROVED for every successful split (`R12a.splitNetloc_parts`,
    `R12a.splitNetloc_port` — the port only for an ASCII port text; a non-ASCII digit port goes through the `int()`
    oracle) and is part of the conclusion of C06_headline_build_authority_readback_checked, so only their reading in
    the vocabulary section of C06HeadlineMore4.lean is trusted.
-/

end Yarl
