import YarlProofs.C19
import YarlProofs.C19Str
import YarlProofs.C19Ctor
import YarlProofs.C19Writer
import YarlProofs.C19Quoter
/-!
# C19 — Failures are reported only as ValueError/TypeError; nothing crashes   (audit layer)

Property statement (verbatim):

> Given arguments of the documented types, every public entry point either returns or raises ValueError
> (malformed value, including IDNA errors) or TypeError (wrong type); it never leaks IndexError, KeyError,
> AttributeError, RecursionError, AssertionError or any other exception type, and an object that build() or
> a modifier returned can always be turned into a string. If memory allocation fails inside the compiled
> quoter the call raises MemoryError, nothing is corrupted and later calls return correct results.

Reading guide.  Every fallible entry point of the model returns `R α = Except PyErr α`; `PyErr` has the
constructors valueError, typeError, indexError, keyError, attributeError, unicodeError, memoryError and
`oracleMiss f a` — the last is a MODEL ARTEFACT ("the driver has no table entry for the external function
`f` on `a`": idna, unicodedata, str.isdigit …), never a Python exception.  `Allowed err` :=
valueError ∨ typeError ∨ oracleMiss.  `StrOK e u` := `str(u)` returns.  `withPath`, `withFragment`, `parent`,
`join` and the path/query/fragment accessors are TOTAL functions in the model (no `R`): nothing to prove.
`Writer.run n faults cs` (YarlModel/Writer.lean) is one quoting call at the level of the C `Writer`:
static buffer of `n` bytes, `faults i` = "the i-th malloc/realloc fails".  `QuoteW.quoteCW` (YarlModel/QuoteW.lean,
C19Quoter.lean) is the compiled quoter's own loop written through that writer (see the section on it below).

Fixes followed since this file was first written (they touch which errors `build()` raises, not the statements):
c2c2803 — `build(authority=…)` runs the NFKC screen on a non-ASCII authority, as the parser does (ValueError, or a
question to the `unicodedata` oracle); e21485a — `build` lower-cases the scheme (a non-ASCII scheme asks the
`str.lower` oracle).  Known finding of this property: F-C19-encoded-str (`C19_headline_str_total_fails_for_encoded`,
`…_fails_for_encoded_authority`, `C19_headline_str_total_encoded_iff`).

Continued in C19HeadlineMore3.lean (PART A, MODEL-LEVEL: the Python-level type gates over YarlModel/Dyn.lean — wrong-typed
arguments raise TypeError, the entry points without a type gate — GAPS 1; PART B: exception discipline and printability
over `ReachE`, the closure of ALL entry points incl. encoded=True — GAPS 4).
Continued further in C19HeadlineMore4.lean (MODEL-LEVEL, over YarlModel/DynBuild.lean: `URL.build` on arbitrary keyword
objects — the typed bridge, the NEGATIVE result for wrong-typed keywords, the argument checks —, `without_query_params`
with arbitrary names, the bool flags as arbitrary objects — GAPS 1, 8).
-/
namespace Yarl
open ErrLemmas NetlocLemmas StrTotal EagerLemmas

/-! ## Sentence 1, first half — only ValueError / TypeError
    -- Appendix E: C19_kinds (c : ApiCall) ↦ the four theorems of this section (there is no `ApiCall`
    --   datatype: one conjunct per entry point); the conclusion gained the disjunct `oracleMiss`. -/

/-- constructors (both modes) and build.  `build`: ValueError (conflicting arguments, port out of range, a relative path
    under an authority, an authority that does not split, host errors incl. IDNA, and — fix c2c2803 — the NFKC screen of
    a non-ASCII `authority=`), TypeError (port of a wrong type, query values), or a question to an oracle (idna,
    unicodedata, and — fix e21485a, `scheme.lower()` — `str.lower` of a non-ASCII scheme) -/
theorem C19_headline_kinds_constructors (e : Env) (err : PyErr) :
    (∀ s, encodeUrl e s = .error err → err = .valueError ∨ ∃ f a, err = .oracleMiss f a) ∧
    (∀ s, preEncodedUrl e s = .error err → err = .valueError ∨ ∃ f a, err = .oracleMiss f a) ∧
    (∀ a, build e a = .error err → Allowed err) :=
  ⟨fun s => C19_encodeUrl e s err, fun s => C19_preEncodedUrl e s err, fun a => C19_build e a err⟩

/-- every modifier that can fail: netloc/path modifiers raise only ValueError (or ask the oracle), query
    modifiers only TypeError/ValueError, with_port either -/
theorem C19_headline_kinds_modifiers (e : Env) (u : Url) (err : PyErr) :
    (∀ s, withScheme e u s = .error err → VO err) ∧
    (∀ usr, withUser e u usr = .error err → VO err) ∧
    (∀ pw, withPassword e u pw = .error err → VO err) ∧
    (∀ h, withHost e u h = .error err → VO err) ∧
    (∀ p kind, withPort e u p kind = .error err → Allowed err) ∧
    (∀ a, withQuery e u a = .error err → TV err) ∧
    (∀ a, extendQuery e u a = .error err → TV err) ∧
    (∀ a, updateQuery e u a = .error err → TV err) ∧
    (∀ names, withoutQueryParams e u names = .error err → TV err) ∧
    (∀ nm kq kf, withName e u nm kq kf = .error err → VO err) ∧
    (∀ sfx kq kf, withSuffix e u sfx kq kf = .error err → VO err) ∧
    (∀ paths encoded, makeChild e u paths encoded = .error err → VO err) ∧
    (origin e u = .error err → VO err) ∧
    (relative u = .error err → err = .valueError) :=
  let s := C19_modifiers_sharp e u err
  ⟨s.1, s.2.1, s.2.2.1, s.2.2.2.1, (C19_modifiers e u err).2.2.2.2.1, s.2.2.2.2.1, s.2.2.2.2.2.1,
   s.2.2.2.2.2.2.1, s.2.2.2.2.2.2.2.1, s.2.2.2.2.2.2.2.2.1, s.2.2.2.2.2.2.2.2.2.1, s.2.2.2.2.2.2.2.2.2.2.1,
   s.2.2.2.2.2.2.2.2.2.2.2.1, s.2.2.2.2.2.2.2.2.2.2.2.2⟩

/-- the accessors that can fail (everything derived from the authority, `str`, `human_repr`): ValueError only
    — and they fail only for URLs whose stored authority does not split (encoded=True garbage-in, see below) -/
theorem C19_headline_kinds_accessors (e : Env) (u : Url) (err : PyErr) :
    (str e u = .error err ∨ host e u = .error err ∨ hostSubcomponent e u = .error err ∨
      hostPortSubcomponent e u = .error err ∨ port e u = .error err ∨ isDefaultPort e u = .error err ∨
      authority e u = .error err ∨ user e u = .error err ∨ password e u = .error err ∨
      humanRepr e u = .error err ∨
      rawUser e u = .error err ∨ rawPassword e u = .error err ∨ rawHost e u = .error err ∨
      explicitPort e u = .error err) → err = .valueError ∨ ∃ f a, err = .oracleMiss f a := by
  intro h
  have key := C19_accessors e u err
  have key2 := C19_net_fields e u err
  rcases h with h | h | h | h | h | h | h | h | h | h | h
  all_goals first
    | exact key2 h
    | (apply key; simp [h])

/-- "it never leaks IndexError, KeyError, AttributeError … or any other exception type": an allowed error is
    none of the crash kinds; and the two places where the code indexes a tuple (`parts[-1]`) cannot fail -/
theorem C19_headline_no_crash (e : Env) (u : Url) :
    (∀ err, Allowed err → err ≠ .indexError ∧ err ≠ .keyError ∧ err ≠ .attributeError ∧
      err ≠ .unicodeError ∧ err ≠ .memoryError) ∧
    rawParts u ≠ [] ∧ (∃ n, rawName u = .ok n) ∧ (∀ nm kq kf, ∃ v, withRawName u nm kq kf = .ok v) ∧
    (∃ n, name e u = .ok n) ∧ (∃ s, rawSuffix u = .ok s) ∧ (∃ s, suffix e u = .ok s) ∧
    (∃ l, rawSuffixes u = .ok l) ∧ (∃ l, suffixes e u = .ok l) :=
  ⟨C19_allowed_not_crash, C19_rawParts_ne_nil u, C19_rawName_total u, fun nm kq kf => C19_withRawName_total u nm kq kf,
   C19_name_suffix_total e u⟩

/-! ## Sentence 1, second half — results can be turned into a string
    -- Appendix E: C19_str_total (c : BuilderCall) ↦ the theorems of this section -/

/-- "an object that build() … returned can always be turned into a string" — `host=` route, no condition on
    user / password / port texts -/
theorem C19_headline_str_total_build (e : Env) (a : BuildArgs) (u : Url)
    -- encoded=True is outside the guarantee (caller vouches for the text): KNOWN FINDING F-C19-encoded-str,
    -- `C19_headline_str_total_fails_for_encoded`; exact condition: `C19_headline_str_total_encoded_iff`
    (henc : a.encoded = false)
    (hauth : a.authority = []) :                -- the `host=` route (the other route: next theorem)
    build e a = .ok u → StrOK e u :=
  C19_build_str_total e a u henc hauth

/-- … `authority=` route: total for an all-ASCII argument; for a non-ASCII host it needs the IDNA answer to
    introduce none of ':' '@' ']' (ASSUMED of the `idna` package) -/
theorem C19_headline_str_total_build_authority (e : Env) (a : BuildArgs) (u : Url)
    (henc : a.encoded = false)                  -- guard: F-C19-encoded-str (`C19_headline_str_total_fails_for_encoded_authority`)
    (hauth : a.authority ≠ []) :                -- the `authority=` route
    (isAscii a.authority = true → build e a = .ok u → StrOK e u) ∧
    ((∀ np h0, splitNetloc e.o a.authority = .ok np → np.host = some h0 → isAscii h0 = false →
        ∀ r, idnaEncode e.o h0 = .ok r → ∀ c, (c = 58 ∨ c = 64 ∨ c = 93) → c ∈ r → c ∈ h0) →
      build e a = .ok u → StrOK e u) :=
  ⟨fun h => C19_build_authority_ascii_arg_total e a u henc hauth h,
   fun h => C19_build_authority_bracketed_str_total e a u henc hauth h⟩

/-- KNOWN FINDING F-C19-encoded-str: `build(host="a:b", encoded=True)` and `URL("http://h:x/", encoded=True)` are
    accepted and cannot be printed (documented garbage-in — but the property text has no such exemption; the error is
    a ValueError).  This is what the guard `henc : a.encoded = false` of the two theorems above excludes. -/
theorem C19_headline_str_total_fails_for_encoded (e : Env) :
    (∃ u, build e { scheme := "http".toStr, host := "a:b".toStr, encoded := true } = .ok u ∧
      str e u = .error .valueError) ∧
    (∃ u, preEncodedUrl e "http://h:x/".toStr = .ok u ∧ u.netloc = "h:x".toStr ∧ str e u = .error .valueError) :=
  ⟨C19_build_encoded_counterexample e, C19_preencoded_counterexample e⟩

/-- KNOWN FINDING F-C19-encoded-str, the witness of the finding record: `URL.build(scheme="http",
    authority="h:99999", encoded=True)` is accepted — with encoded=True nothing is validated, the authority is stored
    verbatim — and `str()` of the result raises ValueError (port out of range), for every backend and oracle table. -/
theorem C19_headline_str_total_fails_for_encoded_authority (e : Env) :
    ∃ u, build e { scheme := "http".toStr, authority := "h:99999".toStr, encoded := true } = .ok u ∧
      u.netloc = "h:99999".toStr ∧ str e u = .error .valueError := by
  str_lits; exact ⟨_, rfl, rfl, rfl⟩

/-- F-C19-encoded-str, EXACT form (narrows GAPS 4): an object returned by `build()` — encoded=True or not — or by
    `URL(s, encoded=True)` can be turned into a string IF AND ONLY IF its stored authority splits (`split_netloc`
    accepts it: the port text after the last '@' is empty or a number ≤ 65535 …).  With encoded=False this always holds
    (`C19_headline_str_total_build`, `…_build_authority`); with encoded=True it is the caller's responsibility.
    Cites `C19_twin_str_total_iff`, `C09_no_prefill` (these producers pre-fill no cache), `C19_preencoded_str_total_iff`. -/
theorem C19_headline_str_total_encoded_iff (e : Env) (u : Url)
    (hmade : (∃ a, build e a = .ok u) ∨ (∃ s, preEncodedUrl e s = .ok u)) :  -- `u` is a build() / URL(s, encoded=True) result
    StrOK e u ↔ ∃ r, splitNetloc e.o u.netloc = .ok r := by
  have hpre : u.pre = none := by
    rcases hmade with ⟨a, h⟩ | ⟨s, h⟩
    · exact (C09_no_prefill e).2.1 a u h
    · exact (C09_no_prefill e).1 s u h
  have := C19_twin_str_total_iff e u
  rwa [C09_twin_of_pre_none u hpre] at this

/-- the side condition `u.pre = none` of `C19_headline_str_total_modifiers` holds for every producer except the
    auto-encoding constructor: `URL(s, encoded=True)`, `build()`, and every modifier result (`pickleTwin v = v` says
    `v.pre = none`; with_fragment / extend_query may hand back `u` itself, `join` its argument).
    Cites `C09_no_prefill`, `C09_modifiers_no_prefill` (C09.lean). -/
theorem C19_headline_str_total_cache_free (e : Env) (u : Url) :
    (∀ s v, preEncodedUrl e s = .ok v → v.pre = none) ∧ (∀ a v, build e a = .ok v → v.pre = none) ∧
    (∀ x v, withUser e u x = .ok v → pickleTwin v = v) ∧ (∀ x v, withPassword e u x = .ok v → pickleTwin v = v) ∧
    (∀ x v, withHost e u x = .ok v → pickleTwin v = v) ∧ (∀ x k v, withPort e u x k = .ok v → pickleTwin v = v) ∧
    (∀ x v, withScheme e u x = .ok v → pickleTwin v = v) ∧
    (∀ p enc kq kf, pickleTwin (withPath e u p enc kq kf) = withPath e u p enc kq kf) ∧
    (∀ a v, withQuery e u a = .ok v → pickleTwin v = v) ∧ (∀ a v, updateQuery e u a = .ok v → pickleTwin v = v) ∧
    (∀ a v, extendQuery e u a = .ok v → pickleTwin v = v ∨ v = u) ∧
    (∀ f, pickleTwin (withFragment e u f) = withFragment e u f ∨ withFragment e u f = u) ∧
    (∀ n kq kf v, withName e u n kq kf = .ok v → pickleTwin v = v) ∧
    (∀ x kq kf v, withSuffix e u x kq kf = .ok v → pickleTwin v = v) ∧
    (∀ ps enc v, makeChild e u ps enc = .ok v → pickleTwin v = v) ∧
    (∀ v, relative u = .ok v → pickleTwin v = v) ∧
    (∀ r, pickleTwin (join e u r) = join e u r ∨ join e u r = r) :=
  ⟨(C09_no_prefill e).1, (C09_no_prefill e).2.1, C09_modifiers_no_prefill e u⟩

/-- "… or a modifier returned": from a printable URL without pre-filled cache (every build / modifier / join /
    unpickle result) every modifier result is printable again — so printability is an invariant -/
theorem C19_headline_str_total_modifiers (e : Env) (u : Url) (hpre : u.pre = none) (hstr : StrOK e u) :
    (∀ usr v, withUser e u usr = .ok v → StrOK e v) ∧
    (∀ pw v, withPassword e u pw = .ok v → StrOK e v) ∧
    (∀ port kind v, withPort e u port kind = .ok v → StrOK e v) ∧
    (∀ h v, withHost e u h = .ok v → StrOK e v) ∧
    (∀ s v, withScheme e u s = .ok v → StrOK e v) ∧
    (∀ p enc kq kf, StrOK e (withPath e u p enc kq kf)) ∧
    (∀ a v, withQuery e u a = .ok v → StrOK e v) ∧
    (∀ a v, extendQuery e u a = .ok v → StrOK e v) ∧
    (∀ a v, updateQuery e u a = .ok v → StrOK e v) ∧
    (∀ names v, withoutQueryParams e u names = .ok v → StrOK e v) ∧
    (∀ f, StrOK e (withFragment e u f)) ∧
    (∀ nm kq kf v, withName e u nm kq kf = .ok v → StrOK e v) ∧
    (∀ sfx kq kf v, withSuffix e u sfx kq kf = .ok v → StrOK e v) ∧
    (∀ paths enc v, makeChild e u paths enc = .ok v → StrOK e v) ∧
    StrOK e (parent u) ∧
    (∀ v, relative u = .ok v → StrOK e v) :=
  C19_modifier_str_total_of_strOK e u hpre hstr

/-- the auto-encoding constructor's own result always prints (no hypothesis at all); its modifier results print
    when the input authority is `GoodAuthority` (C09's guard: the IDNA answer introduces no delimiter) -/
theorem C19_headline_str_total_constructor (e : Env) (s : Str) (u : Url) (h : encodeUrl e s = .ok u) :
    StrOK e u ∧
    (GoodAuthority e s → LazyOK e u ∧ HostShape e u ∧
      (∀ b r : Url, LazyOK e b → LazyOK e r → StrOK e (join e b r)) ∧
      (∀ v, origin e u = .ok v → StrOK e v)) :=
  ⟨C19_constructor_str_total e s u h, fun hg =>
    let r := C19_constructor_then_modifiers e s u h hg
    ⟨r.1, r.2.1, fun b rr hb hr => C19_join_str_total e b rr hb hr,
     fun v hv => C19_origin_str_total e u v r.1 r.2.1 hv⟩⟩

/-- … the pickled / copied constructor result prints, and prints the same text (under `GoodAuthority`); and WITHOUT
    `GoodAuthority` the four modifiers that REBUILD the netloc from the cache (with_user, with_password, with_port,
    with_host) still give printable results when every IDNA answer has the shape of a host text (no '@', no ']' next
    to a ':' — ASSUMED of the `idna` package).  Cites `C19_twin_str_total`, `C19_constructor_rebuilders` (C19Ctor.lean). -/
theorem C19_headline_str_total_constructor_twin_rebuilders (e : Env) (s : Str) (u : Url)
    (h : encodeUrl e s = .ok u) :                   -- `u = URL(s)`
    (GoodAuthority e s →                            -- C09's guard; needed: `C19_headline_str_total_constructor_fails_for_hostile_idna`
      StrOK e (pickleTwin u) ∧ str e (pickleTwin u) = str e u) ∧
    ((∀ x r, idnaEncode e.o x = .ok r → HostShapeStr r) →   -- ASSUMED of the IDNA oracle
      (∀ usr v, withUser e u usr = .ok v → StrOK e v) ∧
      (∀ pw v, withPassword e u pw = .ok v → StrOK e v) ∧
      (∀ port kind v, withPort e u port kind = .ok v → StrOK e v) ∧
      (∀ h v, withHost e u h = .ok v → StrOK e v)) :=
  ⟨fun hg => C19_twin_str_total e s u h hg, fun hidna => C19_constructor_rebuilders e s u hidna h⟩

/-- `GoodAuthority` cannot be dropped in `C19_headline_str_total_constructor` (model corner, only with a HOSTILE IDNA
    oracle; no real IDNA encoder answers a ':'): with an `idna` table that answers "a:x" for "é", `URL("http://é/")`
    prints `http://a:x/` from its cache, but its pickle twin and the result of `with_fragment("f")` raise ValueError
    in `str()`.  Cites `C19_twin_needs_good_authority` (C19Ctor.lean). -/
theorem C19_headline_str_total_constructor_fails_for_hostile_idna :
    let e : Env := { b := .c, o := C19_hostileIdna }
    let s := "http://".toStr ++ [233] ++ "/".toStr
    (encodeUrl e s).bind (str e) = .ok "http://a:x/".toStr ∧
    (encodeUrl e s).bind (fun u => str e (pickleTwin u)) = .error .valueError ∧
    (encodeUrl e s).bind (fun u => str e (withFragment e u (some "f".toStr))) = .error .valueError ∧
    ¬ GoodAuthority e s :=
  C19_twin_needs_good_authority

/-! ## Sentence 2 — allocation failure in the compiled quoter (Writer.lean)
    -- Appendix E: C19_writer_faults ↦ Writer.C19_writer_faults; C19_writer_release ↦ Writer.C19_writer_release
    --   (`frees = heapAllocsLive` became `live = [] ∧ freed.Nodup ∧ freed.length ≤ 1`, `staticNeverFreed` is
    --   `staticFreed = false`). -/

/-- "If memory allocation fails inside the compiled quoter the call raises MemoryError, nothing is corrupted":
    for EVERY buffer size n > 0, fault pattern and output `cs`, the call returns exactly `cs` or raises
    MemoryError (never a truncated result); afterwards no heap block is live, none was freed twice, the
    static buffer was never freed; no write goes past the capacity; an output that fits the static buffer
    cannot fail -/
theorem C19_headline_writer (n : Nat) (hn : 0 < n) (faults : Nat → Bool) (cs : List Nat) :
    ((Writer.run n faults cs).1 = .ok cs ∨ (Writer.run n faults cs).1 = .error .memoryError) ∧
    ((Writer.run n faults cs).2.live = [] ∧ (Writer.run n faults cs).2.freed.Nodup ∧
      (Writer.run n faults cs).2.staticFreed = false ∧ (Writer.run n faults cs).2.freed.length ≤ 1) ∧
    (let w := (Writer.writeAll n faults (Writer.init n) cs).1; w.data.length ≤ w.size) ∧
    (cs.length ≤ n → (Writer.run n faults cs).1 = .ok cs) ∧
    0 < Gen.bufSize :=
  ⟨Writer.C19_writer_faults n hn faults cs, Writer.C19_writer_release n hn faults cs,
   Writer.C19_writer_capacity n hn faults cs, Writer.C19_writer_small_never_fails n faults cs,
   Writer.C19_writer_bufsize_pos⟩

/-- "and later calls return correct results": a call without faults returns its output whatever happened in an
    earlier call.  NOTE: this is true BY CONSTRUCTION of the model — `run` starts every call from
    `Writer.init` and takes no state from the previous call (the real static buffer's CONTENTS are never read
    before being written; that is the assumption) -/
theorem C19_headline_writer_later_calls (n : Nat) (hn : 0 < n) (f1 : Nat → Bool) (cs1 cs2 : List Nat) :
    (Writer.run n (fun _ => false) cs2).1 = .ok cs2 :=
  Writer.C19_writer_after_failure n hn f1 cs1 cs2

/-! ### the compiled quoter itself, written THROUGH the writer (closes GAPS 5 (b); C19Quoter.lean, YarlModel/QuoteW.lean)

    `QuoteW.quoteCW n t faults s` is `_Quoter._do_quote_or_skip` transcribed statement by statement with every
    output character going through `_write_char` of the writer above (static buffer of `n` bytes, growth by `n`
    through malloc then realloc, `faults i` = "the i-th growth request is refused"); its value is the pair
    (what the call returns / raises, final writer state).  `quoteC t s` / `QArgs.run .c` is the batch model of the
    compiled quoter used by every other property; `cOut t v` is the text it writes for the surrogate-free input
    `v = stripSurr s`, `allSafe t v` the fast-path test (nothing to quote: no writer is touched), `cChanged` the
    final `writer.changed` flag.  `QuoteW.session n t faults k ss` runs the calls `ss` one after the other on ONE
    process-wide fault oracle (each call consumes the requests it makes; `k` requests were made before);
    `QuoteW.reqs rs` is the number of requests a list of finished calls made. -/

/-- REFINEMENT: on the slow path the interleaved loop of `_do_quote` IS `Writer.run` applied to the batch output
    `cOut` (then the `changed` test), and the final writer state is literally that of `Writer.run` — so
    `C19_headline_writer` above is a statement about the compiled quoter; on the fast path no writer is used.
    Every buffer size, table, fault pattern, input.  Cites `C19_quoteCW_refines_run`. -/
theorem C19_headline_memory_quoter_refines_writer (n : Nat) (t : QTab) (faults : Nat → Bool) (s : Str) :
    (allSafe t (stripSurr s) = true → QuoteW.quoteCW n t faults s = (.ok (stripSurr s), Writer.init n)) ∧
    (allSafe t (stripSurr s) = false →
      QuoteW.quoteCW n t faults s =
        ((Writer.run n faults (cOut t (stripSurr s))).1.map
            (fun d => if cChanged t (stripSurr s) then d else stripSurr s),
         (Writer.run n faults (cOut t (stripSurr s))).2)) :=
  C19_quoteCW_refines_run n t faults s

/-- "If memory allocation fails inside the compiled quoter the call raises MemoryError, nothing is corrupted" — for
    the compiled quoter ITSELF, at the real buffer size (`Gen.bufSize`, extracted from the `.pyx`), every `_Quoter`
    keyword configuration `a`, every fault pattern, every input: the call returns what `QArgs.run .c` returns or
    raises MemoryError; MemoryError EXACTLY when the call takes the slow path and a growth request that the output
    length needs is refused (request `k` is needed iff the output has more than `(k+1)·BUF_SIZE` characters: "every
    single allocation-failure point"); no fault ⇒ the result; an output that fits the static buffer cannot fail;
    leak-free on every path (no heap block live, none freed twice, the static buffer never freed).
    Cites `C19_headline_quoter_memory` (C19Quoter.lean; same statement). -/
theorem C19_headline_memory_quoter (a : QArgs) (faults : Nat → Bool) (s : Str) :
    let r := QuoteW.quoteCW Gen.bufSize a.tabC faults s
    (r.1 = .ok (a.run .c s) ∨ r.1 = .error .memoryError) ∧
    (r.1 = .error .memoryError ↔
      allSafe a.tabC (stripSurr s) = false ∧
      ∃ k, (k + 1) * Gen.bufSize < (cOut a.tabC (stripSurr s)).length ∧ faults k = true) ∧
    ((∀ i, faults i = false) → r.1 = .ok (a.run .c s)) ∧
    ((cOut a.tabC (stripSurr s)).length ≤ Gen.bufSize → r.1 = .ok (a.run .c s)) ∧
    (r.2.live = [] ∧ r.2.freed.Nodup ∧ r.2.staticFreed = false ∧ r.2.freed.length ≤ 1) :=
  C19_headline_quoter_memory a faults s

/-- … which request was refused: after a MemoryError the final writer state has made `k = w.allocs` successful
    requests, request `k` was the refused one and all earlier ones were granted; exactly `(k+1)·n` characters had
    been written (the buffer was full); the buffer is still the static one iff `k = 0` (the refused request was the
    malloc).  Cites `C19_quoteCW_fault_index`. -/
theorem C19_headline_memory_fault_index (n : Nat) (t : QTab) (faults : Nat → Bool) (s : Str)
    (hn : 0 < n)                                                    -- guard: the static buffer has at least one byte
    (h : (QuoteW.quoteCW n t faults s).1 = .error .memoryError) :   -- the call raised MemoryError
    let w := (QuoteW.quoteCW n t faults s).2
    faults w.allocs = true ∧ (∀ j, j < w.allocs → faults j = false) ∧
    w.data.length = (w.allocs + 1) * n ∧ (w.allocs + 1) * n < (cOut t (stripSurr s)).length ∧
    (w.buf = .static ↔ w.allocs = 0) :=
  C19_quoteCW_fault_index n hn t faults s h

/-- "and later calls return correct results" — for SEQUENCES of calls of the compiled quoter on one process-wide fault
    oracle (narrows GAPS 5 (c)): every call of a session returns the batch result or raises MemoryError and ends
    leak-free; and whatever happened in the calls `ss1` (any number of MemoryErrors), if no request made AFTER them
    is refused, all later calls `ss2` return exactly the batch results.  (Still by construction: each call starts
    with `_init_writer`; the session only threads the fault oracle.)  Cites `C19_quoteCW_session_sound`,
    `C19_quoteCW_later_calls`. -/
theorem C19_headline_memory_later_calls (n : Nat) (t : QTab) (faults : Nat → Bool) (ss1 ss2 : List Str)
    (hn : 0 < n) :                                  -- guard: the static buffer has at least one byte (`0 < Gen.bufSize`)
    ((QuoteW.session n t faults 0 (ss1 ++ ss2)).length = (ss1 ++ ss2).length ∧
      ∀ p ∈ List.zip (ss1 ++ ss2) (QuoteW.session n t faults 0 (ss1 ++ ss2)),
        (p.2.1 = .ok (quoteC t p.1) ∨ p.2.1 = .error .memoryError) ∧
        p.2.2.live = [] ∧ p.2.2.freed.Nodup ∧ p.2.2.staticFreed = false ∧ p.2.2.freed.length ≤ 1) ∧
    ((∀ i, QuoteW.reqs (QuoteW.session n t faults 0 ss1) ≤ i → faults i = false) →
      (QuoteW.session n t faults 0 (ss1 ++ ss2)).map (·.1) =
        (QuoteW.session n t faults 0 ss1).map (·.1) ++ ss2.map (fun s => .ok (quoteC t s))) :=
  ⟨C19_quoteCW_session_sound n hn t faults 0 (ss1 ++ ss2), C19_quoteCW_later_calls n t faults ss1 ss2⟩

/-- the compiled UNQUOTER (`QuoteW.unquoteCW`: `_Unquoter._do_unquote`; its own output is a Python list, its only
    writer activity are two inner `_Quoter` calls on a one-character string): an inner call writes at most 12
    characters, so at the real buffer size NO fault pattern can make it fail — it returns the batch result
    `unquoteC`; for an arbitrary buffer size: the batch result or MemoryError.
    Cites `C19_unquoteCW_never_fails`, `C19_unquoteCW_fault`. -/
theorem C19_headline_memory_unquoter (faults : Nat → Bool) (s : Str) :
    (∀ u : UTab, QuoteW.unquoteCW Gen.bufSize u faults s = .ok (unquoteC u s)) ∧
    (∀ (n : Nat) (u : UTab), QuoteW.unquoteCW n u faults s = .ok (unquoteC u s) ∨
      QuoteW.unquoteCW n u faults s = .error .memoryError) :=
  ⟨fun u => C19_unquoteCW_never_fails Gen.bufSize (by decide) u faults s,
   fun n u => C19_unquoteCW_fault n u faults s⟩

/-! ## non-vacuity -/
example : (Writer.run 2 (fun i => i == 1) [1, 2, 3, 4, 5]).1 = .error .memoryError ∧
    (Writer.run 2 (fun i => i == 1) [1, 2, 3, 4, 5]).2.freed = [0] ∧
    (Writer.run 2 (fun i => i == 1) [1, 2, 3, 4]).1 = .ok [1, 2, 3, 4] := by decide +kernel
example (e : Env) : build e { host := "h".toStr, portKind := 1 } = .error .typeError := by str_lits; rfl
example (e : Env) : encodeUrl e "http://[::1/a".toStr = .error .valueError := by str_lits; rfl
-- fix e21485a: `build` stores the scheme lower-case; a non-ASCII scheme asks the `str.lower` oracle
example (e : Env) : (build e { scheme := "HTTP".toStr, host := "h".toStr }).map (·.scheme) = .ok "http".toStr := by str_lits; rfl
example (b : Backend) : ∃ f a, build ⟨b, Oracles.empty⟩ { scheme := [233], host := "h".toStr } = .error (.oracleMiss f a) := by
  str_lits; exact ⟨_, _, rfl⟩
-- fix c2c2803: `build(authority="a／b")` (U+FF0F) is NFKC-screened: ValueError when the table says it normalises to
-- "a/b", a question to the oracle when the table is empty
example (b : Backend) : build ⟨b, { Oracles.empty with nfkc := fun _ => some "a/b".toStr }⟩
    { scheme := "http".toStr, authority := [97, 0xFF0F, 98] } = .error .valueError := by str_lits; rfl
example (b : Backend) : ∃ f a, build ⟨b, Oracles.empty⟩ { scheme := "http".toStr, authority := [97, 0xFF0F, 98] } =
    .error (.oracleMiss f a) := by str_lits; exact ⟨_, _, rfl⟩
-- the compiled quoter through its writer: "a b" quotes to "a%20b" (5 characters); with a 2-byte buffer it needs the
-- requests 0 and 1; refusing request 1 gives MemoryError, refusing nothing gives the batch result
example : (QuoteW.quoteCW 2 Gen.PATH_QUOTER.tabC (fun i => i == 1) "a b".toStr).1 = .error .memoryError ∧
    (QuoteW.quoteCW 2 Gen.PATH_QUOTER.tabC (fun _ => false) "a b".toStr).1 = .ok "a%20b".toStr ∧
    quoteC Gen.PATH_QUOTER.tabC "a b".toStr = "a%20b".toStr := by str_lits; decide +kernel

/-
GAPS:
 1. "Given arguments of the documented types": the TYPED model's argument types ARE the documented types (Str,
    Option Str, Option Int + `kind` tag, QArg with `.other`/`.bytes`); in it wrong-type arguments exist only where
    the model has a tag for them (port: bool / non-int; query: bytes / other / bool, None, other VALUES).
    TypeError for a non-str scheme/user/host/fragment/name/suffix, a non-URL `join` argument, non-str query KEYS —
    PARTLY CLOSED, MODEL-LEVEL, by C19_dyn_errors_allowed, C19_dyn_kw_errors_allowed, C19_dyn_type_errors,
    C19_dyn_new_type_errors, C19_dyn_type_error_instances, C19_dyn_agrees_on_typed, C19_dyn_str_subclass (C19Dyn.lean,
    over YarlModel/Dyn.lean), see C19_headline_dyn_kinds_gated, C19_headline_dyn_kinds_kwargs,
    C19_headline_dyn_type_errors, C19_headline_dyn_constructor_type_errors, C19_headline_dyn_type_error_instances,
    C19_headline_dyn_agrees_on_typed (C19HeadlineMore3.lean).  Proved, about the Lean transcription `dyn…` of the
    `isinstance` / `type(x) is …` tests at the head of the entry points, over the universe `PyObj` (none, bool, int, float,
    str, str subclass, bytes, tuple, list, dict, URL, SplitResult, `object()`-like): the constructor, with_scheme,
    with_user, with_password, with_host, with_port, with_fragment, with_name, with_suffix, join, `/`, with_query /
    extend_query / update_query (positional and keyword form; non-str KEYS and wrong-typed values included) and the
    ordering operators, handed ANY such object, return or raise ValueError / TypeError (or ask the oracle of the typed
    function) — never anything else; EXACTLY which objects get the TypeError (an `iff` per entry point, for every
    receiver, so the type check comes first); on str / None / int / URL arguments the dynamic entry point IS the typed
    function (definitional), so the typed theorems of this file transfer.  "MODEL-LEVEL" means: YarlModel/Dyn.lean is a
    hand transcription of Python-level dispatch; it is tied to CPython ONLY by the run-time probe table (the
    `example … := by decide +kernel` rows at the end of C19Dyn.lean / C12Dyn.lean / C10Dyn.lean, recorded outcomes of the
    real library on two receivers), NOT by proof — see item 6.
    FALSE outside the documented types for the two entry points WITHOUT a type gate (model-level, each witness also a
    probe row): `joinpath` on non-str arguments raises KeyError / AttributeError
    (C19_headline_dyn_kinds_fails_for_joinpath_nonstr, from C19_dyn_joinpath_leaks), `with_path` on non-str arguments
    RETURNS garbage objects or raises KeyError (C19_headline_dyn_kinds_fails_for_with_path_nonstr, from
    C19_dyn_with_path_leaks) — not a violation of C19, whose text starts "Given arguments of the documented types"; the
    strongest true statements are proved instead: C19_headline_dyn_joinpath (str arguments: the typed `_make_child`;
    else the error of the first offending element; kind bound Allowed ∨ KeyError ∨ AttributeError),
    C19_headline_dyn_joinpath_element_table, C19_headline_dyn_with_path_nonstr (never a URL of the model: TypeError,
    KeyError or garbage), C19_headline_dyn_with_path_table (from C19_dyn_joinpath_strs / _nonstr / _errors,
    C19_dyn_childArgErr_table, C19_dyn_with_path_nonstr, C19_dyn_with_path_table).
    WAS STILL OPEN (no dynamic entry point in Dyn.lean, no theorem): wrong-typed keyword arguments of `URL.build(…)`
    (scheme / user / password / host / path / query_string / fragment / authority that are not str; only `port` and
    `query` have tags in the typed model), the `names` of `without_query_params`, the `encoded` / `keep_query` /
    `keep_fragment` flags.  These three — PARTLY CLOSED, MODEL-LEVEL, with a NEGATIVE result, by C19_dynBuild_typed,
    C19_dynBuild_ofArgs, C19_dynBuild_typed_errors, C19_dynBuild_error_kinds, C19_dynBuild_attributeError_iff,
    C19_dynBuild_objErr_table, C19_dynBuild_attributeError_leaks, C19_dynBuild_garbage_leaks,
    C19_dynBuild_encoded_leaks, C19_dynBuild_leak_instances, C19_dynBuild_errors_FAILS, C19_dynBuild_stop,
    C19_dynBuild_checks, C19_dynBuild_conflict_iff, C19_dynBuild_valueError_sources, C19_dynBuild_none_order,
    C19_dynWithoutQueryParams, C19_dyn_flags (C19DynBuild.lean, over the new model file YarlModel/DynBuild.lean), see
    C19_headline_dyn_build_documented_types, C19_headline_dyn_build_keyword_form, C19_headline_dyn_build_kinds_FAILS,
    C19_headline_dyn_build_kinds, C19_headline_dyn_build_attribute_error_iff,
    C19_headline_dyn_build_fails_for_wrong_typed_keyword, C19_headline_dyn_build_leak_instances,
    C19_headline_dyn_build_argument_checks, C19_headline_dyn_build_conflicts,
    C19_headline_dyn_build_check_order_instances, C19_headline_dyn_without_query_params, C19_headline_dyn_flags
    (C19HeadlineMore4.lean).  Proved, about the Lean transcription `dynBuild` of the body of `URL.build` over `PyObj`
    keyword objects (every keyword optional, defaults of the signature):
    (i) UNDER THE HYPOTHESIS `BuildObjs.Typed` (every keyword object has its documented type: str for scheme /
    authority / host / path / query_string / fragment, str or None for user / password, int-not-bool or None for port;
    `query` and `encoded` arbitrary) `URL.build` IS the typed `build` on the coerced arguments, so a failure is
    ValueError / TypeError (or an oracle request) and no non-URL object is returned — the typed theorems transfer;
    (ii) WITHOUT that hypothesis the clause is FALSE: C19_headline_dyn_build_kinds_FAILS (¬ ∀ kwargs: URL ∨ ValueError
    ∨ TypeError).  `URL.build(scheme=1)`, `(authority=1)`, `(host=b"x")`, `(host=("a",))` raise AttributeError;
    `URL.build(scheme=b"x")`, `(path=0)`, `(query_string=[])`, `(fragment=())` and — with `encoded=True` — ANY hashable
    non-str scheme / path / query_string / fragment RETURN a URL object with a non-str part (`garbage 0`), a non-str
    user / password / host with `encoded=True` is `format()`ted into the netloc (`garbage 1`); a wrong-typed falsy
    `user` / `host` is silently ignored.  Like joinpath / with_path above this is outside "arguments of the documented
    types", hence not a violation of C19 and NOT a finding; the strongest true statements are proved instead: the
    kind bound Allowed ∨ AttributeError and garbage ∈ {0, 1} (no IndexError / KeyError from `build`), the EXACT
    condition for AttributeError (an iff), the leaking one-keyword calls for every environment;
    (iii) the argument checks of `build` in source order as iffs on arbitrary objects (conflict authority-vs-parts,
    port type, port range, port without host, query with query_string, a None argument), each raising its exception
    whatever the other arguments are; the three conflicts as one iff, always ValueError; every ValueError is a
    conflict, the port range or value-level; `build` has no "scheme requires a host" check.  UPDATED after library fix
    7970b83 (the two port-related conflict checks of `URL.build` now test `port is not None` instead of the truthiness of
    `port`): in C19_headline_dyn_build_argument_checks / _conflicts the "a port is given" disjunct of the
    authority-vs-parts conflict reads `isNoneObj o.port = false` (was `truthy o.port = true`) and "port without host"
    reads `∃ i, o.port = .int i ∧ 0 ≤ i ∧ i ≤ 65535` (was `0 < i`) — `URL.build(port=0)` and
    `URL.build(authority='a', port=0)` are ValueErrors now, like every other given port; the typed `build`
    (YarlModel/Url.lean), YarlModel/DynBuild.lean and C19_dynBuild_checks / C19_dynBuild_conflict_iff were changed
    accordingly, so for the conflict iff it is no longer true that "only truthiness matters" (for `port`, being None
    or not matters);
    (iv) `without_query_params(*names)`: the only failure is TypeError ⇔ some name is unhashable, hashable non-str names
    are ignored, str names give the typed function;
    (v) the flags act through `bool(o)` (the entry point of Dyn.lean at `truthy o`), no exception comes from a flag.
    "MODEL-LEVEL" as above: item 8.
    STILL OPEN (no dynamic entry point, no theorem): pickling / `__setstate__`, `bytes()`, `cache_configure` /
    `cache_clear` / `cache_info` arguments (`==` / `!=` with a non-URL are total in Dyn.lean — they
    return a bool — and belong to C10: C10Dyn.lean);
    objects outside `PyObj` (classes overriding `__str__`, `__eq__`, `__getitem__`, `__bool__`, `__hash__`, `__int__`,
    `__format__` …, Mapping types other than dict); what a `garbage` object does when it is USED afterwards
    (`str(URL.build(path=0))` etc.) is not modelled: `PathOut.garbage k` ends the model's account.
 2. `oracleMiss` is a third outcome in every kinds-theorem.  It stands for "the model was not told what
    idna / unicodedata / str.isdigit / str.lower return"; that those library calls raise only
    UnicodeError ⊂ ValueError (idna.IDNAError is a UnicodeError) — "including IDNA errors" — is an ASSUMPTION
    encoded in `idnaEncode`/`idnaDecode` (an oracle answer `none` is turned into valueError).
 3. RecursionError, AssertionError, "any other exception type": PyErr has no such constructors; the model's
    functions are total Lean functions, so the claim is "the model never produces them" by typing, not a
    statement about Python.  The only modelled crash sites are the two tuple indexings (`parts[-1]`), proved
    unreachable; `human_quote` on a lone surrogate (UnicodeEncodeError, a ValueError) is modelled as
    valueError.  Accessors on a URL with an unsplittable stored authority (encoded=True) raise ValueError —
    allowed, but arguably a "leak" at accessor time rather than at construction.  (Restated for every URL of the
    closure of all entry points incl. encoded=True: C19_headline_reachE_kinds, C19HeadlineMore3.lean, from
    C19_reachE_errors, C19ReachE.lean — a corollary of the kinds theorems above, which hold for ALL records.)
    With wrong-typed arguments KeyError / AttributeError DO leak from `joinpath` / `with_path` (model-level): item 1;
    AttributeError DOES leak from `URL.build` with wrong-typed scheme / authority / host objects (model-level,
    C19_headline_dyn_build_kinds_FAILS, C19_headline_dyn_build_attribute_error_iff, C19HeadlineMore4.lean): item 1 (ii).
 4. PARTLY CLOSED (narrowed) by C19_twin_str_total_iff + C09_no_prefill + C19_preencoded_str_total_iff (C19Ctor.lean,
    C09.lean), see C19_headline_str_total_encoded_iff: a result of build() (any `encoded`) or of URL(s, encoded=True)
    prints IF AND ONLY IF its stored authority splits.  The side condition `u.pre = none` of
    C19_headline_str_total_modifiers is discharged for every producer but the auto-encoding constructor
    (C19_headline_str_total_cache_free).  WHAT REMAINS, unchanged: "an object that build() or a modifier returned can
    always be turned into a string" is proved for build(encoded=False) [host route unconditionally; authority route:
    ASCII unconditionally, non-ASCII under an assumption on the IDNA answer], every modifier on a printable
    cache-free URL, the constructor, join, origin.  It is FALSE for encoded=True — KNOWN FINDING F-C19-encoded-str
    (C19_headline_str_total_fails_for_encoded, C19_headline_str_total_fails_for_encoded_authority: the witness
    `build(scheme="http", authority="h:99999", encoded=True)`) — documented garbage-in, not excluded by the property
    text; an unprintable encoded=True object is outside the modifier theorem (its hypothesis `StrOK e u` fails).  In the
    model with_path / joinpath with encoded=True keep the stored authority and are covered by
    C19_headline_str_total_modifiers for every `enc`, so the finding arises only from an authority stored unvalidated
    by build(encoded=True) / URL(s, encoded=True).  Modifiers applied DIRECTLY to
    a constructor result with a pre-filled cache need `GoodAuthority` (`C19_constructor_then_modifiers`; needed:
    C19_headline_str_total_constructor_fails_for_hostile_idna, only with a hostile IDNA oracle) — except
    with_user / with_password / with_port / with_host, which need only an assumption on the IDNA answers
    (C19_headline_str_total_constructor_twin_rebuilders, which also gives the pickle twin under `GoodAuthority`).
    "turned into a string" is `str()`; `bytes(url)`/`repr` are not modelled (C01 gives ASCII-ness).
    FURTHER NARROWED by C19_reachE_str_total_iff, C19_reachE_str_total_iff_cache_free, C19_reachE_printable_entry_iff,
    C19_reachE_printable_ctor, C19_reachE_printable_step, C19_reachE_printable, C19_reachE_str_total_fails_for_encoded,
    C19_reachE_printable_instance (C19ReachE.lean, over `ReachE` = the closure of ALL entry points of the model incl.
    URL(s, encoded=True), build(encoded=True), with_path(encoded=True), joinpath(encoded=True), join; ReachE.lean), see
    C19_headline_reachE_str_total_iff, C19_headline_reachE_printable_entry, C19_headline_reachE_printable_step,
    C19_headline_reachE_str_total, C19_headline_reachE_str_total_fails_for_encoded,
    C19_headline_reachE_str_total_instance (C19HeadlineMore3.lean).  Proved: (i) the `iff` above holds on the WHOLE
    closure — a `ReachE` URL prints IFF it is itself a result of the auto-encoding constructor or its stored authority
    splits; (ii) printability is INHERITED: if every ENTRY-POINT result (URL(s), URL(s, encoded=True), build in both
    modes) in the history of a `ReachE` URL is `Printable` (= its authority splits + the cache shape the four
    authority-rebuilding modifiers need; for the cache-free producers exactly "it prints" = "its stored authority
    splits"; for URL(s) implied by `GoodAuthority`), then the URL is `Printable` and prints — through every modifier in
    every `encoded` mode and `join`.  So what was said above about with_path / joinpath with encoded=True is now a
    THEOREM: F-C19-encoded-str arises ONLY from an authority stored unvalidated by build(encoded=True) /
    URL(s, encoded=True) (or from URL(s) under a hostile IDNA oracle), never from a modifier.  The clause itself stays
    FALSE for encoded=True (witnesses inside `ReachE`: C19_headline_reachE_str_total_fails_for_encoded — the
    unprintability is inherited by `.with_path('/p', encoded=True)`).  Hypotheses / limits: `ReachE` asks every text
    argument to be a Python string and excludes the model artefact `UOp.joinRef`; the per-entry-point condition
    `Printable` is a HYPOTHESIS (`ReachEN (Printable e)`), discharged from the inputs only for build(encoded=False)
    [C19_headline_str_total_build, …_build_authority + C19_headline_reachE_printable_entry] and for URL(s) under
    `GoodAuthority`; the witnesses and the non-vacuity instance are computed with the Python backend and empty oracle
    tables.
 5. MEMORY CLAUSE — what is MODELLED: YarlModel/Writer.lean, a state machine for `_write_char` /
    `_release_writer` with an arbitrary fault oracle; proved for every buffer size: result is all-or-
    MemoryError, no leak / double free / free of the static buffer, no overflow, small outputs never fail.
    (b) CLOSED by C19_quoteCW_refines_run and C19_headline_quoter_memory (C19Quoter.lean, over YarlModel/QuoteW.lean),
    see C19_headline_memory_quoter_refines_writer, C19_headline_memory_quoter, C19_headline_memory_fault_index:
    the compiled quoter's loop, transcribed with every output character going through the writer, equals
    `Writer.run` on the batch output `cOut`; hence for every `_Quoter` configuration, input and fault pattern at the
    real buffer size the call returns what `QArgs.run .c` returns or raises MemoryError — MemoryError exactly when a
    needed growth request is refused — and ends leak-free.  The compiled unquoter (inner quoter calls through the
    writer) cannot fail at the real buffer size: C19_headline_memory_unquoter.
    (a) PARTLY CLOSED: the transcription now covers `_do_quote_or_skip` / `_do_quote` / `_write` / `_write_pct` /
    `_write_utf8` / `_do_unquote` statement by statement (QuoteW.lean), and it is PROVED equal to the batch models
    `quoteC` / `unquoteC` that all other properties use when no request is refused (C19_quoteCW_no_fault,
    C19_unquoteCW_no_fault, C19Quoter.lean); that the `.pyx` source IS this transcription remains a
    hand-transcription ASSUMPTION (only `BUF_SIZE` is extracted from the source: `Gen.bufSize`).
    (c) PARTLY CLOSED by C19_quoteCW_session_sound, C19_quoteCW_later_calls, see C19_headline_memory_later_calls:
    sequences of calls on ONE process-wide fault oracle — after any number of MemoryErrors, if no request made after them
    is refused, every later call returns the batch result.  Still true by construction in one respect: each call
    re-initialises the writer (`_init_writer`); the shared static buffer's stale contents and the GIL-protected
    reuse are outside the model.
    STILL ASSUMED / not modelled: (d) PyMem_Malloc / PyUnicode_DecodeASCII failure paths other than buffer growth
    (e.g. allocation of the result string, of the `_Unquoter`'s output list) are not modelled; (e) the pure-Python
    backend has no such clause.
 6. NEW (trusted base of item 1, C19HeadlineMore3.lean PART A).  YarlModel/Dyn.lean is a MODEL of Python-level dynamic
    dispatch, written by hand from `yarl/_url.py` / `yarl/_query.py`; every `C19_headline_dyn_*` theorem is a statement
    about that model.  Its reading conventions are ASSUMPTIONS (header of Dyn.lean): `.strSub` is a PLAIN str subclass
    (nothing overridden), `.dict` a builtin dict, `.splitResult` a 5-field SplitResult of str, `.other` an
    `object()`-like truthy instance without any special method, `mdPair` the C implementation of multidict 6.2 (the
    pure-Python multidict raises TypeError where the model says ValueError for a pair of the wrong length).  The model is
    compared with the real library only on the finite probe table (rows at the end of C19Dyn.lean, outcomes recorded by
    a probe script on the receivers URL("http://h/p?a=1#f") and URL("/a"), evaluated in the model with the C backend
    and empty oracle tables); agreement on all other objects / receivers is NOT proved.  `PathOut.garbage k` is the
    model's name for "the call RETURNED an object the model has no value for".
 7. NEW (side conditions of item 4's `ReachE` theorems).  `ReachE` / `ReachEN` are closures over the entry points OF THE
    MODEL (18 operations of `UOp`, the two encoded=True modifiers, `join`); `reachE_of_record` (ReachE.lean) shows that
    EVERY cache-free record of five Python strings is in `ReachE`, so a statement over `ReachE` without a side condition
    is a statement about arbitrary stored text — which is why C19_headline_reachE_str_total needs the hypothesis on the
    entry-point results and C19_headline_reachE_kinds does not use `ReachE` at all.
 8. NEW (trusted base of item 1 (i)–(v), C19HeadlineMore4.lean).  YarlModel/DynBuild.lean is, like Dyn.lean (item 6), a
    hand transcription — of the BODY of `URL.build` statement by statement (eight stages, the first failing statement
    decides the exception), of `set(names)` in `without_query_params`, and of the flag tests — and every
    `C19_headline_dyn_build_*` / `…_dyn_without_query_params` / `…_dyn_flags` theorem is a statement about that model.
    Value-level work is delegated to the typed `build`; when a wrong-typed object makes a later statement fail, the
    errors of the earlier statements are taken from `build` on a PREFIX of the coerced arguments (`firstErr`,
    `netArgs`) — a modelling device to be read.  Its ASSUMPTIONS (header of DynBuild.lean), on top of those of item 6:
    `bool(o)` / `hash(o)` behave as `Dyn.truthy` / `Dyn.hashable` say (`.other` objects truthy and hashable, a tuple
    hashable iff its elements are); an `lru_cache` key does not distinguish 0 / False / 0.0 nor "x" / S("x"), and the
    outcome alphabet (URL text / exception kind / garbage kind) does not either; which AttributeError / TypeError a
    non-str `authority` / `host` object raises is given by the tables `authorityObjErr` / `hostObjErr` (read off the
    library's behaviour, not derived from a model of `str` methods).  The model is compared with the real library on a
    finite probe table only: statically, the `example … := by decide +kernel` rows at the end of C19DynBuild.lean
    (every keyword × {None, 0, 1, True, b"x", "", "x", [], object()} and more shapes, alone, next to a host, with
    `encoded=True`; the conflict combinations; the order of the checks; without_query_params; the flags — outcomes
    recorded from the real library, identical on both quoter backends, evaluated in the model with the C backend and
    empty oracle tables, `Dyn.pe`), and at run time by the dynamic layer (`run_dynbuild_probe`, harness/extras.py: the
    878-row table is evaluated by the Lean model and by the installed library on both backends on every run, any
    disagreement is a failure of class dyn-dispatch; if the probe script itself cannot be run only a note is recorded).
    Agreement on all other objects / argument combinations is NOT proved.  The hypothesis `BuildObjs.Typed` of item 1 (i)
    is the model's reading of "arguments of the documented types" for `build` (a bool is NOT accepted as a port although
    `bool` is a subclass of `int`: statement 2 of `build` raises TypeError for it, probe rows).
-/
end Yarl
