import YarlProofs.C01Reach
import YarlProofs.C09
/-!
  C01Headline.lean — AUDIT LAYER for property C01.

  C01 | Canonical output is well-formed ASCII in every component |
  "For every text accepted by the URL constructor in auto-encoding mode, or supplied to any builder or
  modifier (build, with_*, /, joinpath, join, the query operations), the resulting URL's string form is
  pure ASCII, every '%' in it starts an escape of two uppercase hex digits, and its user, password, path,
  query and fragment contain only the characters RFC 3986 allows for that component. Consequently
  bytes(url) never fails and raw spaces, control characters, quotes, '<>\^`{|}', non-ASCII characters and
  lone surrogates never appear outside the host."

  Every theorem below restates one clause in full and is proved from the theorems of C01.lean /
  C01Reach.lean (and C09.lean for the cache bookkeeping).  Read the `GAPS:` block at the end.

  Continued in C01HeadlineMore.lean (theorems that need modules which import this file): C01Str.lean imports
  this file, so the headline theorems that rest on it — the stored authority of a reachable URL is ASCII, the
  whole string form is ASCII / well-escaped, user and password of EVERY reachable URL — are stated there as
  `C01_headline_…`; the GAPS block below cites them.  Continued again in C01HeadlineMore3.lean (C01 over the closure
  of ALL entry points, `encoded=True` included: C01ReachE.lean, GAPS 5).
  Continued further in C01HeadlineMore4.lean (headline theorems for the proof modules added after the last refresh:
  C01More.lean; the GAPS block below cites them).
-/
namespace Yarl
open OutLangLemmas QsLemmas WfLemmas EntryLemmas

/-! ## Clause 0 — the domain: "every text accepted by the URL constructor in auto-encoding mode, or supplied
    to any builder or modifier (build, with_*, /, joinpath, join, the query operations)"

  `Reach e u` (C01Reach.lean) is the inductive closure of: `encodeUrl e s` (s a Python string),
  `build e a` with `encoded = false`, one step `applyOp e u op` for any of the 19 operations of `UOp`
  (with_scheme/user/password/host/port/path/query/fragment/name/suffix, extend_query, update_query,
  without_query_params, `/`+joinpath, parent, origin, relative, join, copy) whose text arguments are
  Python strings (`UOp.ArgsPy`: code points ≤ 0x10FFFF; lone surrogates ALLOWED), and `join` of two
  reachable URLs.  `WFUrl b u` says path / query / fragment are in the output language of their REQUOTER
  table (safe literals, '+' in the query, upper-case `%XY`). -/

/-- "For every text accepted by the URL constructor in auto-encoding mode, or supplied to any builder or
    modifier …" — the invariant all later clauses are read off. -/
theorem C01_headline_every_entry_point (e : Env) (u : Url) :
    Reach e u →
    OutLang (Gen.PATH_REQUOTER.tab e.b) u.path ∧ OutLang (Gen.QUERY_REQUOTER.tab e.b) u.query ∧
    OutLang (Gen.FRAGMENT_REQUOTER.tab e.b) u.fragment :=
  fun h => ⟨(C01_reachable_wf e u h).path, (C01_reachable_wf e u h).query, (C01_reachable_wf e u h).fragment⟩
-- Appendix E: C01_reachable_wf ↦ C01_reachable_wf (same name; `ops : List UOp` became the inductive `Reach`,
--             the list form is C01_op_sequence_wf).
-- Appendix E: C01_quote_outLang ↦ C01_quote_outLang (same name; hypothesis `PyStr s` added because the
--             model's `Str` also contains non-Python code points > 0x10FFFF).

/-- cache bookkeeping (a model artefact: `Url.pre` is the netloc cache `encode_url` pre-fills): the URL has
    no pre-filled cache, or it is itself a constructor result (whose cache is made of pieces of its netloc) -/
def CacheOK (e : Env) (u : Url) : Prop := u.pre = none ∨ ∃ s, PyStr s ∧ encodeUrl e s = .ok u

namespace HeadA
theorem tw {v : Url} (hv : pickleTwin v = v) : v.pre = none := (congrArg Url.pre hv).symm
end HeadA

/-- every API step keeps `CacheOK` (a `join` reference must itself be `CacheOK`: `UOp.joinRef` accepts ANY
    well-formed record as reference, and `join` may hand the reference back unchanged) -/
theorem C01_headline_cache_ok_step (e : Env) (u v : Url) (op : UOp) (ih : CacheOK e u)
    (href : ∀ ref, op = .joinRef ref → CacheOK e ref) (h : applyOp e u op = .ok v) : CacheOK e v := by
  by_cases hj : ∃ ref, op = .joinRef ref
  · obtain ⟨ref, rfl⟩ := hj
    cases h
    rcases join_cases e u ref with h | ⟨_, _, h⟩ | ⟨_, h⟩
    · rw [h]
      exact href ref rfl
    · rw [h]
      exact Or.inl rfl
    · rw [h]
      exact Or.inl rfl
  · rcases applyOp_cache (fun r hr => hj ⟨r, hr⟩) h with h | rfl
    · exact Or.inl h
    · exact ih

/-! ## Clause 1 — "the resulting URL's string form is pure ASCII" -/

/-- "the resulting URL's string form is pure ASCII" -/
theorem C01_headline_str_ascii (e : Env) (u : Url) (r : Str)
    (hreach : Reach e u)
    -- bookkeeping guard, see `CacheOK`; without it: C01_str_ascii_inconsistent_cache_counterexample
    (hcache : CacheOK e u)
    -- excludes a non-ASCII scheme: KNOWN FINDING F-C01-scheme (`C01_headline_str_ascii_fails_for` below)
    (hscheme : ∀ c ∈ u.scheme, c < 128)
    -- excludes a non-ASCII stored netloc.  Over plain `Reach` this guard cannot be dropped: KNOWN FINDING
    -- F-C01-nonascii-zone (`C01_headline_str_ascii_fails_for_nonascii_zone_id` below).  It is DERIVED from
    -- reachability under explicit side conditions in C01HeadlineMore.lean (`C01_headline_netloc_ascii`; the
    -- guard-free string-form theorem is `C01_headline_str_ascii_reachable` there), see GAPS 1
    (hnetloc : ∀ c ∈ u.netloc, c < 128) :
    str e u = .ok r → ∀ c ∈ r, c < 128 := by
  rcases hcache with hpre | ⟨s, hs, hu⟩
  · exact C01_str_ascii e u r hpre (C01_reachable_wf e u hreach) hscheme hnetloc
  · exact C01_str_ascii_encodeUrl e s u r hs hu hscheme hnetloc
-- Appendix E: C01_str_ascii ↦ C01_str_ascii (u.pre = none) + C01_str_ascii_encodeUrl (constructor results), joined
--             here.  `HostAscii u`, `SchemeAscii u` became `hnetloc`, `hscheme`; `hnetloc` is STRONGER than the
--             planned `HostAscii` (it also assumes the user/password part of the stored netloc ASCII).

/-- the scheme guard is needed — F-C01-scheme: `URL('http://h').with_scheme('é')` renders as 'é://h' -/
theorem C01_headline_str_ascii_fails_for :
    let e : Env := ⟨.py, { Oracles.empty with lowerU := fun s => some s }⟩
    ∃ u v, encodeUrl e "http://h".toStr = .ok u ∧ Reach e u ∧ withScheme e u [233] = .ok v ∧ Reach e v ∧
      str e v = .ok ([233] ++ "://h".toStr) := by
  intro e
  have hu : encodeUrl e "http://h".toStr = .ok
      { scheme := "http".toStr, netloc := "h".toStr, path := [], query := [], fragment := [],
        pre := some { rawHost := some "h".toStr, explicitPort := none, rawUser := none, rawPassword := none } } := by
    str_lits; decide +kernel
  have hr := Reach.ctor (e := e) _ _ (by decide) hu
  exact ⟨_, fromParts [233] "h".toStr [] [] [], hu, hr, by str_lits; decide +kernel,
    Reach.op _ (.withScheme [233]) _ hr (by show PyStr _; decide) (by str_lits; decide +kernel), by str_lits; decide +kernel⟩

/-- the netloc guard is needed over plain `Reach` — KNOWN FINDING F-C01-nonascii-zone: the constructor copies the
    zone id of an IP literal verbatim, so `URL('http://[fe80::1%é]/')` stores the authority '[fe80::1%é]', its
    string form is the input itself ('http://[fe80::1%é]/', not ASCII) and `bytes(url)` raises UnicodeEncodeError
    (same for `URL.build(authority='[fe80::1%é]')`).  Every OTHER guard of `C01_headline_str_ascii` holds for this
    URL.  The oracle table is empty except for an identity NFKC answer: no IDNA answer is involved.
    (Restates C01_netloc_ascii_fails_for_zone_id of C01Str.lean, which cannot be imported here; proved by
    computation.) -/
theorem C01_headline_str_ascii_fails_for_nonascii_zone_id :
    let e : Env := ⟨.py, { Oracles.empty with nfkc := fun s => some s }⟩
    let s : Str := "http://[fe80::1%".toStr ++ [233] ++ "]/".toStr
    PyStr s ∧
    ∃ u, encodeUrl e s = .ok u ∧ Reach e u ∧ CacheOK e u ∧ (∀ c ∈ u.scheme, c < 128) ∧
      u.netloc = "[fe80::1%".toStr ++ [233] ++ "]".toStr ∧ ¬ (∀ c ∈ u.netloc, c < 128) ∧
      str e u = .ok s ∧ ¬ (∀ c ∈ s, c < 128) := by
  intro e s
  have hu : encodeUrl e s = .ok
      { scheme := "http".toStr, netloc := "[fe80::1%".toStr ++ [233] ++ "]".toStr, path := "/".toStr, query := [],
        fragment := [],
        pre := some { rawHost := some ("fe80::1%".toStr ++ [233]), explicitPort := none, rawUser := none,
                      rawPassword := none } } := by
    str_lits; decide +kernel
  have hs : PyStr s := by decide +kernel
  refine ⟨hs, _, hu, Reach.ctor s _ hs hu, Or.inr ⟨s, hs, hu⟩, by decide, rfl, ?_, ?_, ?_⟩
  · intro h
    exact absurd (h 233 (by decide)) (by decide)
  · str_lits; decide +kernel
  · intro h
    exact absurd (h 233 (by decide)) (by decide)

/-! ## Clause 2 — "every '%' in it starts an escape of two uppercase hex digits" -/

/-- "every '%' in it starts an escape of two uppercase hex digits" — for the three components the library
    quotes itself (user / password: clause 3; the WHOLE string form, for a host without '%':
    `C01_headline_percent_escapes_whole_string` in C01HeadlineMore.lean, GAPS 2) -/
theorem C01_headline_percent_escapes (e : Env) (u : Url) :
    Reach e u → WellEscaped u.path ∧ WellEscaped u.query ∧ WellEscaped u.fragment :=
  fun h => ⟨(C01_reachable_components e u h).1.2.1, (C01_reachable_components e u h).2.1.2.1,
    (C01_reachable_components e u h).2.2.2.1⟩

/-- KNOWN FINDING F-C01-host-percent, first witness: the whole-string form of the clause is FALSE when the host
    carries an IPv6 zone id (kept verbatim, C16): str(URL('http://[fe80::1%eth0]/')) contains '%et'.  (The property
    text confines only its last sentence to "outside the host"; every '%' outside the host IS checked.)  This is why
    `C01_headline_percent_escapes_whole_string` (C01HeadlineMore.lean) carries the guard "no '%' in the
    `host[:port]` text". -/
theorem C01_headline_percent_escapes_fails_for_zone_id :
    let e : Env := ⟨.py, Oracles.empty⟩
    ∃ u r, encodeUrl e "http://[fe80::1%eth0]/".toStr = .ok u ∧ Reach e u ∧ str e u = .ok r ∧
      r = "http://[fe80::1%eth0]/".toStr ∧ ¬ WellEscaped r := by
  intro e
  have hu : (encodeUrl e "http://[fe80::1%eth0]/".toStr).toBool = true := by str_lits; decide +kernel
  cases h : encodeUrl e "http://[fe80::1%eth0]/".toStr with
  | error err => rw [h] at hu; cases hu
  | ok u =>
    have hs : (do let u ← encodeUrl e "http://[fe80::1%eth0]/".toStr; str e u) = .ok "http://[fe80::1%eth0]/".toStr := by
      str_lits; decide +kernel
    rw [h] at hs
    exact ⟨u, _, rfl, Reach.ctor _ u (by decide) h, hs, rfl, by
      have : "http://[fe80::1%eth0]/".toStr =
          [104, 116, 116, 112, 58, 47, 47, 91, 102, 101, 56, 48, 58, 58, 49, 37, 101, 116, 104, 48, 93, 47] := by
        str_lits; decide +kernel
      rw [this]; simp [WellEscaped, isUpperHexDigit]⟩

/-- KNOWN FINDING F-C01-host-percent, second witness: the host is stored LOWER-CASE, including the hex digits of
    its escapes (as property C16 requires): str(URL('http://a%3Ab/')) = 'http://a%3ab/', so the '%' of the string
    form is followed by '3a', not by two UPPER-case hex digits.  Same guard as above. -/
theorem C01_headline_percent_escapes_fails_for_lowercased_host_escape :
    let e : Env := ⟨.py, Oracles.empty⟩
    ∃ u r, encodeUrl e "http://a%3Ab/".toStr = .ok u ∧ Reach e u ∧ u.netloc = "a%3ab".toStr ∧ str e u = .ok r ∧
      r = "http://a%3ab/".toStr ∧ ¬ WellEscaped r := by
  intro e
  have hu : encodeUrl e "http://a%3Ab/".toStr = .ok
      { scheme := "http".toStr, netloc := "a%3ab".toStr, path := "/".toStr, query := [], fragment := [],
        pre := some { rawHost := some "a%3ab".toStr, explicitPort := none, rawUser := none, rawPassword := none } } := by
    str_lits; decide +kernel
  refine ⟨_, _, hu, Reach.ctor _ _ (by decide) hu, rfl, by str_lits; decide +kernel, rfl, ?_⟩
  have : "http://a%3ab/".toStr = [104, 116, 116, 112, 58, 47, 47, 97, 37, 51, 97, 98, 47] := by decide
  rw [this]; simp [WellEscaped, isUpperHexDigit]

/-! ## Clause 3 — "its user, password, path, query and fragment contain only the characters RFC 3986 allows
    for that component" -/

/-- "… path, query and fragment contain only the characters RFC 3986 allows for that component"
    (`Rfc.pathLit` = pchar literals and '/', `Rfc.queryLit` = pchar literals, '/', '?'; 37 = '%') -/
theorem C01_headline_component_chars (e : Env) (u : Url) :
    Reach e u →
    (∀ c ∈ u.path, Rfc.pathLit c = true ∨ c = 37) ∧ (∀ c ∈ u.query, Rfc.queryLit c = true ∨ c = 37) ∧
    (∀ c ∈ u.fragment, Rfc.queryLit c = true ∨ c = 37) :=
  fun h => ⟨(C01_reachable_components e u h).1.2.2, (C01_reachable_components e u h).2.1.2.2,
    (C01_reachable_components e u h).2.2.2.2⟩

/-- "its user, password … contain only the characters RFC 3986 allows" — ONLY for the user / password the
    auto-encoding constructor caches (`u.pre = some p`); additionally never a literal ':' (58) and every '%'
    well-formed.  For the accessors of EVERY reachable URL (lazily parsed ones included), with_user / with_password
    and build see `C01_headline_userinfo_chars_reachable`, `…_with_user_with_password`, `…_build` in
    C01HeadlineMore.lean (GAPS 3). -/
theorem C01_headline_userinfo_chars_constructor (e : Env) (s : Str) (hs : PyStr s) (u : Url) (p : NetPre) (x : Str) :
    encodeUrl e s = .ok u → u.pre = some p → (p.rawUser = some x ∨ p.rawPassword = some x) →
    (∀ c ∈ x, (Rfc.userinfoLit c = true ∧ c ≠ 58) ∨ c = 37) ∧ WellEscaped x ∧ (∀ c ∈ x, c < 128) := by
  intro hu hpre hx
  have hw := gen_tab_wf _ mem_REQUOTER e.b
  have hol : OutLang (Gen.REQUOTER.tab e.b) x := by
    rcases hx with hx | hx
    · exact (C01_encodeUrl_userinfo_wf e s hs u p hu hpre).1 x hx
    · exact (C01_encodeUrl_userinfo_wf e s hs u p hu hpre).2 x hx
  refine ⟨?_, outLang_wellEscaped _ hol, outLang_ascii _ hw hol⟩
  intro c hc
  rcases outLang_allowed _ hol c hc with h | h | h | h
  · exact Or.inl ((C01_component_sets_rfc e.b c).1 (Or.inr h))
  · exact Or.inr h
  · exact Or.inl ⟨upperHex_userinfoLit h, by
      intro h58; subst h58; exact absurd h (by decide)⟩
  · exact absurd h.1 (by cases e.b <;> decide)

/-! ## Clause 4 — "Consequently bytes(url) never fails" -/

/-- "bytes(url) never fails": `URL.__bytes__` is `str(self).encode("ascii")`, which fails exactly when some code
    point is ≥ 128 — so this IS clause 1 (same guards, same gaps); restated for the reader's checklist.  Without the
    `hcache` / `hnetloc` guards: `C01_headline_bytes_never_fails_reachable` (C01HeadlineMore.lean). -/
theorem C01_headline_bytes_never_fails (e : Env) (u : Url) (r : Str) (hreach : Reach e u) (hcache : CacheOK e u)
    (hscheme : ∀ c ∈ u.scheme, c < 128) (hnetloc : ∀ c ∈ u.netloc, c < 128) (hstr : str e u = .ok r) :
    r.all (fun c => decide (c < 128)) = true := by
  simpa using C01_headline_str_ascii e u r hreach hcache hscheme hnetloc hstr

/-! ## Clause 5 — "raw spaces, control characters, quotes, '<>\^`{|}', non-ASCII characters and lone surrogates
    never appear outside the host" -/

namespace HeadA
/-- NEW (small gap closed here): an RFC literal or '%' is printable ASCII and none of `" < > \ ^ \` { | }` -/
theorem lit_not_forbidden (c : Nat) (h : Rfc.queryLit c = true ∨ c = 37) :
    32 < c ∧ c < 127 ∧ c ∉ [34, 60, 62, 92, 94, 96, 123, 124, 125] := by
  rcases h with h | rfl
  · simp only [Rfc.queryLit, Rfc.pcharLit, Rfc.unreserved, Rfc.subDelims, Rfc.isAlpha, Rfc.isDigit,
      Bool.or_eq_true, Bool.and_eq_true, decide_eq_true_eq] at h
    simp only [List.mem_cons, List.not_mem_nil, or_false]
    omega
  · decide
theorem pathLit_queryLit {c : Nat} (h : Rfc.pathLit c = true) : Rfc.queryLit c = true := by
  simp only [Rfc.pathLit, Rfc.queryLit, Bool.or_eq_true] at h ⊢; exact Or.inl h
end HeadA

/-- "raw spaces (32), control characters (< 32, 127), quotes (34), '<>\^`{|}' (60 62 92 94 96 123 124 125),
    non-ASCII characters and lone surrogates (≥ 128) never appear" in path, query and fragment.
    NEW proof (the project had only the positive form, clause 3).  The apostrophe (39) is an RFC 3986 sub-delim
    and DOES appear literally; "quotes" is read as the double quote. -/
theorem C01_headline_no_raw_forbidden_chars (e : Env) (u : Url) :
    Reach e u → ∀ c ∈ u.path ++ u.query ++ u.fragment,
      32 < c ∧ c < 127 ∧ c ∉ [34, 60, 62, 92, 94, 96, 123, 124, 125] := by
  intro h c hc
  obtain ⟨h1, h2, h3⟩ := C01_headline_component_chars e u h
  simp only [List.mem_append] at hc
  rcases hc with (hc | hc) | hc
  · exact HeadA.lit_not_forbidden c ((h1 c hc).imp HeadA.pathLit_queryLit id)
  · exact HeadA.lit_not_forbidden c (h2 c hc)
  · exact HeadA.lit_not_forbidden c (h3 c hc)

/-! ## non-vacuity -/

/-- the 18-operation sample sequence of C01Reach.lean is reachable, so all clauses apply to its result -/
example (b : Backend) (u v : Url) (hu : encodeUrl (sampleEnv b) sampleUrl = .ok u)
    (hv : applyOps (sampleEnv b) u sampleOps = .ok v) :
    WellEscaped v.path ∧ ∀ c ∈ v.path ++ v.query ++ v.fragment, 32 < c ∧ c < 127 ∧ c ∉ [34, 60, 62, 92, 94, 96, 123, 124, 125] :=
  have hr := C01_applyOps_reach (sampleEnv b) sampleOps u v (Reach.ctor _ u sampleUrl_py hu) (sampleOps_py b) hv
  ⟨(C01_headline_percent_escapes _ v hr).1, C01_headline_no_raw_forbidden_chars _ v hr⟩

/-
GAPS:
 1. CLOSED by C01_reachable_netloc_ascii, C01_str_ascii_reachable, C01_bytes_never_fails_reachable (C01Str.lean), see
    C01_headline_netloc_ascii, C01_headline_str_ascii_reachable, C01_headline_bytes_never_fails_reachable and the
    input-level forms C01_headline_str_ascii_inputs_only, C01_headline_str_ascii_op_sequence (C01HeadlineMore.lean;
    per entry point: C01_headline_netloc_ascii_entry, C01_headline_netloc_ascii_step).  Proved: the stored netloc
    (and the pre-filled cache) of every URL reachable through the constructor, build(), the 19 operations and `join`
    is ASCII, hence — for an ASCII scheme — `str` is ASCII and `bytes` succeeds; the `hcache` and `hnetloc` guards of
    C01_headline_str_ascii / C01_headline_bytes_never_fails are gone.  The statement this item called "missing"
    (`Reach e u → (oracle answers ASCII) → ∀ c ∈ u.netloc, c < 128`) is FALSE as written; the proved one is over
    `ReachS` (= `Reach` + side conditions, explained in the header of C01HeadlineMore.lean) and has these hypotheses:
      (a) `ZoneAscii` on the `host[:port]` text given to the constructor / build(authority=): what follows its first
          '%' is ASCII.  Without it FALSE — KNOWN FINDING F-C01-nonascii-zone
          (C01_headline_str_ascii_fails_for_nonascii_zone_id here, C01_headline_netloc_ascii_fails_for_nonascii_zone_id);
      (b) `HostOracleAscii`: the IDNA oracle answers ASCII — an assumption on the codecs, see GAPS 7;
      (c) a reference handed to the model operation `UOp.joinRef` has an ASCII authority and cache.  Without it FALSE,
          a MODEL ARTEFACT (C01_headline_netloc_ascii_fails_for_foreign_join_ref); `join` of two reachable URLs
          needs nothing;
      (d) build(user=, password=, authority=) are Python strings (`BuildNetPy`; see GAPS 8);
      (e) for `str` / `bytes`: the scheme is ASCII — KNOWN FINDING F-C01-scheme (C01_headline_str_ascii_fails_for,
          C01_headline_str_ascii_fails_for_build_scheme); automatic for constructor results
          (C01_headline_scheme_ascii_constructor) and under ASCII with_scheme / build(scheme=) arguments
          (C01_headline_scheme_ascii_reachable).
    FURTHER (hypothesis (b) weakened) by C01_reachable_netloc_ascii_local, C01_str_ascii_reachable_local (C01More.lean),
    see C01_headline_str_ascii_reachable_local_oracle (C01HeadlineMore4.lean): `HostOracleAscii` is replaced by the
    LOCAL `IdnaLocalAscii` on the `host[:port]` text of the constructor / build(authority=) inputs only (vacuous for an
    ASCII host name); with_host, build(host=) and every other step need no oracle hypothesis — see item 7.
 2. CLOSED by C01_str_well_escaped (C01Str.lean), see C01_headline_percent_escapes_whole_string
    (C01HeadlineMore.lean).  Proved: for every `ReachS`-reachable URL whose scheme contains no '%' and whose
    `host[:port]` text (`hostinfo u.netloc`, what follows the last '@' of the stored netloc) contains no '%',
    `str e u = .ok r → WellEscaped r` — every '%' of the WHOLE string form starts `%XY`, X Y upper-case hex.
    Hypotheses: `HostOracleNoAt` (no IDNA answer contains '@', GAPS 7); `UOp.joinRef` references satisfy `UserinfoOK`
    (model artefact); the scheme guard is automatic for constructor results and under '%'-free ASCII with_scheme /
    build(scheme=) arguments (C01_headline_scheme_ascii_constructor, C01_headline_scheme_ascii_reachable).  Without the
    host guard the clause is FALSE — KNOWN FINDING F-C01-host-percent, both witnesses here:
    C01_headline_percent_escapes_fails_for_zone_id ('%eth0') and
    C01_headline_percent_escapes_fails_for_lowercased_host_escape ('http://a%3ab/').  What the host guard means in
    accessor terms: GAPS 6.
    FURTHER by C01_str_outside_host (C01More.lean), see C01_headline_str_outside_host (C01HeadlineMore4.lean): a
    whole-string statement WITHOUT the host guard — the string form is `pre ++ hostText ++ suf` and every '%' outside
    the `host[:port]` text starts an upper-case escape (`pre`: when the scheme has no '%'); F-C01-host-percent is
    confined to `hostText` — see item 6.
 3. CLOSED by C01_userinfo_chars_reachable, C01_userinfo_chars_modifiers, C01_build_userinfo_chars,
    C01_with_user_reads_back, C01_with_password_reads_back (C01Str.lean), see C01_headline_userinfo_chars_reachable
    (raw_user / raw_password of EVERY `ReachS`-reachable URL, cached or lazily parsed),
    C01_headline_userinfo_chars_with_user_with_password, C01_headline_userinfo_chars_build,
    C01_headline_with_user_with_password_read_back (C01HeadlineMore.lean).  Proved: every character of the raw user /
    raw password is an RFC 3986 userinfo literal other than ':' or is '%', every '%' starts `%XY` upper-case, all
    ASCII; with_user(s) reads back as exactly QUOTER(s) without the `UserOK`/`HostOK` hypotheses of C11.  Hypotheses:
    `HostOracleNoAt` (GAPS 7; why: C01_headline_userinfo_fails_for_idna_answer_with_at), `UserinfoOK` of
    `UOp.joinRef` references (model artefact), Python-string arguments.
    FURTHER by C01_reachable_userinfo_ok_local, C01_userinfo_chars_reachable_local (C01More.lean), see
    C01_headline_userinfo_chars_reachable_local_oracle (C01HeadlineMore4.lean): `HostOracleNoAt` is replaced by the
    LOCAL `IdnaLocalNoAt` on the constructor / build(authority=) inputs — see item 7.
 4. CLOSED, as far as it is true, see C01_headline_no_raw_forbidden_chars_userinfo (user and password of every
    `ReachS`-reachable URL: no space, control character, '"<>\^`{|}', literal ':', nothing ≥ 127; from
    C01_userinfo_chars_reachable) and C01_headline_no_raw_forbidden_chars_scheme (the scheme: unconditionally for
    constructor results; for every reachable URL when the with_scheme / build(scheme=) arguments are printable ASCII
    without '"%<>\^`{|}'; NEW instance of `reachS_scheme`, Lemmas/StrAscii.lean), both in C01HeadlineMore.lean.
    Otherwise the clause is FALSE for the scheme: with_scheme and build (which lower-cases its argument since fix
    e21485a, but does not screen it) store any text — KNOWN FINDING F-C01-scheme (C01_headline_str_ascii_fails_for,
    C01_headline_str_ascii_fails_for_build_scheme).
 5. Domain.  `Reach` / `ReachS` cover the auto-encoding entry points only; `encoded=True` (constructor, build, with_path,
    joinpath) is read as outside C01 by its wording ("in auto-encoding mode" — said of the constructor only; for build /
    with_path / joinpath this is an INTERPRETATION).  What becomes of C01 under the other reading is now
    CLOSED by C01_reachE_str_ascii_fails_for_encoded, C01_reachE_components_python, C01_reachE_components_ascii,
    C01_reachE_netloc_ascii, C01_reachE_str_ascii, C01_reachE_str_ascii_stored, C01_reachE_str_ascii_iff_stored,
    C01_reachE_with_path_encoded_iff, C01_reachE_ascii_history_not_necessary, C01_reachE_str_ascii_instance
    (C01ReachE.lean, over `ReachE` / `ReachEX` of ReachE.lean: the closure of BOTH constructor modes, BOTH build modes,
    the 18 operations other than `UOp.joinRef`, with_path(encoded=True), joinpath(encoded=True) and join), see
    C01_headline_all_entry_points_domain, C01_headline_all_entry_points_any_record,
    C01_headline_str_ascii_fails_for_encoded_true, C01_headline_all_entry_points_components_python,
    C01_headline_all_entry_points_components_ascii, C01_headline_all_entry_points_netloc_ascii,
    C01_headline_all_entry_points_str_ascii, C01_headline_str_ascii_iff_stored_text_ascii,
    C01_headline_with_path_encoded_str_ascii_iff_argument_ascii, C01_headline_encoded_ascii_history_not_necessary,
    C01_headline_percent_escapes_fails_for_encoded_true (C01HeadlineMore3.lean).  Proved:
      (a) over all entry points clause 1 ("pure ASCII", "bytes(url) never fails") is FALSE — one witness per
          `encoded=True` entry point (`URL('/é', encoded=True)`, `build(path='/é', encoded=True)`,
          `with_path('/é', encoded=True)`, `joinpath('é', encoded=True)`); every cache-free record of five Python
          strings is obtainable through `build(encoded=True)`; unconditionally only "path / query / fragment are Python
          strings" survives.  By design (`encoded=True` is documented as the caller's responsibility; same root as
          KNOWN FINDING F-C19-encoded-str); NOT recorded as a C01 finding because of the reading above;
      (b) clause 1 is TRUE over all entry points when every text handed over with `encoded=True` is ASCII — plus the
          hypotheses the auto-encoding API needs already: `ZoneAscii` (item 1a), `HostOracleAscii` (items 1b, 7),
          ASCII with_scheme / build(scheme=) arguments (item 1e).  Path / query / fragment alone need only the first;
      (c) for ANY URL: `str` ASCII ⇒ stored scheme, path, query, fragment ASCII; ⇔ when the stored authority and cache are
          ASCII (`AsciiNet`); for a last step with_path(p, encoded=True): ⇔ `p` ASCII.  No converse of (b) over whole
          histories (a later step may overwrite the text: C01_headline_encoded_ascii_history_not_necessary);
      (d) clauses 2–4 ("every '%' starts an escape", "only the characters RFC 3986 allows", "no raw spaces …") are LOST
          with `encoded=True` even for ASCII texts (C01_headline_percent_escapes_fails_for_encoded_true:
          'http://H/a%zz/b c/../d/e f'); WAS: no sufficient condition on the `encoded=True` texts is stated for them.
          NOW, for the CONSTRUCTOR `URL(s, encoded=True)` only: `canonicalB s` (the checker of C04Decide.lean) is a
          sufficient condition, decidable on the raw text — then the object prints `s`, `s` is ASCII, its path / query /
          fragment are well escaped and of legal characters, its scheme has no '%', and the WHOLE string is well escaped
          when the `host[:port]` text has no '%' (the guard of item 6; needed: 'http://[fe80::1%eth0]:8080/p') —
          C03_encoded_true_on_canonical, C03_canonical_text_ascii, C03_canonical_text_well_escaped_fails_for_zone_id
          (C03Encoded.lean, which cites C01_str_ascii_of_asciiNet, C01_wf_components, C01_str_well_escaped), see
          C03_headline_encoded_true_on_canonical_text, C03_headline_canonical_text_ascii,
          C03_headline_canonical_text_well_escaped_fails_for_zone_id (C03HeadlineMore5.lean; no C01 companion file was
          added).  Far from necessary (`URL('HTTP://h/', encoded=True)` is the very record of the canonical 'http://h/'
          although 'HTTP://h/' is not canonical: computed `example` at the end of C03HeadlineMore5.lean), and still NO sufficient condition for `build` / `with_path` / `joinpath` with `encoded=True` nor over whole
          histories.
    STILL OPEN in this item: `UOp.joinRef` (model artefact, not in `ReachE`) takes any `WFUrl` record as reference;
    `CacheOK` must be assumed of it (C01_headline_cache_ok_step) — harmless for API-made references.  `ReachE` asks
    Python strings of ALL `build` texts (`BuildAllPy`, cf. item 8) and has no `UOp.joinRef`; the `query=` argument of
    build(encoded=True) is not among the texts (b) constrains, and need not be (it is rendered by the query quoter even then).
 6. NEW (side condition of item 2).  The guard `37 ∉ hostinfo u.netloc` of C01_headline_percent_escapes_whole_string is
    about the STORED authority text.  C01_headline_host_percent_guard_meaning (from C01_raw_host_no_pct,
    C01_hostinfo_no_pct_of_written) gives: for a reachable URL the guard implies "raw_host contains no '%'"; for a
    record of the `Written` shape (what the authority modifiers write) "the host contains no '%'" implies the guard.
    NOT proved: for an ARBITRARY reachable URL (e.g. a constructor result), "raw_host contains no '%'" implies the
    guard.
    SUPERSEDED (the implication itself stays unproved, it is no longer needed) by C01_str_outside_host,
    C01_str_outside_host_of_inv, C01_percent_outside_host_positions (C01More.lean), see C01_headline_str_outside_host,
    C01_headline_percent_outside_host_positions (C01HeadlineMore4.lean).  Proved, for every `ReachS`-reachable URL with
    NO condition on the host and NO `ZoneAscii`: `str e u = .ok r` gives a cut `r = pre ++ hostText ++ suf` where
    `hostText = hostinfo N` is the `host[:port]` text of the authority `N` that `str` renders (`N` ends where `suf`
    begins; `N` is empty, or the stored authority, or — explicit port = the scheme's default, dropped — the re-made one)
    and contains every character of `raw_host`; OUTSIDE `hostText`: `suf` is `WellEscaped`, ASCII and free of raw
    space / control / quote / `<>\^`{|}` / DEL unconditionally, `pre` under the corresponding condition on the stored
    scheme (no '%' / ASCII / visible non-forbidden characters: F-C01-scheme).  So the property's "… never appear
    outside the host" is proved as stated for the part after the host, and for the part before it up to F-C01-scheme;
    F-C01-host-percent and F-C01-nonascii-zone live inside `hostText`.  Hypotheses: the LOCAL `IdnaLocalNoAt` on the
    constructor / build(authority=) inputs (item 7), `UserinfoOK` of `UOp.joinRef` references (model artefact).
    NOTE: `hostText` is `host[:port]` (what follows the last '@'), so the PORT digits and the brackets of an IP literal
    are inside it; nothing is stated about the inside of `hostText` here (raw_host: C16 / C17).
 7. NEW (hypotheses of items 1–4 without a discharging theorem).  `HostOracleAscii o` (every answer of
    `idna.encode(…, uts46=True)` / the stdlib "idna" codec is ASCII) and `HostOracleNoAt o` (no answer contains '@') are
    ASSUMPTIONS on the oracle table.  Both hold for `Oracles.empty` (C01_headline_side_conditions_met: every run on
    ASCII hosts).  For CPython's codecs the first holds because both return `bytes.decode("ascii")`; the second follows
    from "IDNA maps through NFKC first and the constructor / build(authority=) reject an NFKC form with '@'"
    (C01_headline_idna_answer_with_at_now_rejected shows the real answers for 'a＠b' are rejected since fix c2c2803) —
    neither argument is inside the model, which does not tie the `nfkc` table to the IDNA tables.
    MODEL UPDATE (fixes 27f84d3, 3fbf5b4; the sentences above remain true): the NFKC screen of the constructor /
    build(authority=) (`checkNetloc`, YarlModel/Parse.lean) now rejects an NFKC form with '[' or ']' as well as '@'
    ':' '/' '?' '#'; and an IDNA answer that holds a ':' is no longer stored as it is: `encodeHost` re-enters
    `_encode_host` on it (`encodeHostA`, C16Mapped.lean: it must spell an IP literal and is stored in canonical
    bracketed form, e.g. "[１:0:0:0:0:0:0:2]" ↦ "[1::2]"; non-ASCII text that is no IP literal is a ValueError there).
    PARTLY CLOSED by C01_encode_host_validated_no_oracle, C01_encode_host_validated_third_shape_needed,
    C01_with_host_no_oracle, C01_applyOp_no_oracle, C01_build_host_no_oracle, C01_encodeUrl_local_oracle,
    C01_build_local_oracle, C01_local_oracle_of_global, C01_reachable_netloc_ascii_local,
    C01_reachable_userinfo_ok_local, C01_str_ascii_reachable_local, C01_userinfo_chars_reachable_local,
    C01_constructor_needs_oracle_ascii, C01_build_authority_needs_oracle_ascii, C01_constructor_needs_oracle_no_at,
    C01_hostile_oracle_screened_on_validating_routes (C01More.lean), see C01_headline_validated_host_no_oracle,
    C01_headline_validated_host_third_shape_needed, C01_headline_every_operation_no_oracle,
    C01_headline_build_host_no_oracle, C01_headline_constructor_local_oracle,
    C01_headline_build_authority_local_oracle, C01_headline_local_oracle_of_global,
    C01_headline_str_ascii_reachable_local_oracle, C01_headline_userinfo_chars_reachable_local_oracle,
    C01_headline_constructor_needs_oracle_ascii, C01_headline_build_authority_needs_oracle_ascii,
    C01_headline_constructor_needs_oracle_no_at, C01_headline_hostile_oracle_screened_on_validating_routes
    (C01HeadlineMore4.lean).  Proved: (i) DISCHARGED on the validating routes — a validated `_encode_host` (with_host,
    build(host=)) returns ASCII text without '@' WHATEVER the oracle tables answer (the IDNA answer is screened by
    NOT_REG_NAME, or — holding a ':' — must spell an IP literal with a screened zone), so every one of the 19
    operations and build(host=) keep "authority and cache ASCII" and the userinfo invariant with NO oracle hypothesis;
    (ii) on the two NON-validating routes (constructor, build(authority=)) the global hypotheses are replaced by LOCAL
    ones, `IdnaLocalAscii` / `IdnaLocalNoAt`: IF the host name of THIS input is not ASCII and `_idna_encode` answers,
    the answer is ASCII / has no '@' — vacuous for an ASCII host name, implied by the global hypotheses; items 1–3 and 6
    are restated with them; (iii) these two routes NEED them IN THE MODEL: hostile tables (answer 'é'; answer '<@b'
    with an NFKC table that is the identity, i.e. NOT consistent with the real NFKC) make `URL('http://é/')` /
    `build(authority='é')` store 'é' and `URL('http://a＠b/')` answer raw_user '<'; the same tables are rejected on
    the validating routes.
    STILL OPEN: for a NON-ASCII host name given to the constructor / build(authority=) the local hypotheses remain
    ASSUMPTIONS about the `idna` package / stdlib codec (true of CPython by the two arguments above, not inside the
    model; not composed with `IdnaSaneAt` / `IdnaRoundTripAt` of C16Idn.lean); the witnesses of (iii) are about
    hypothetical oracle tables, not about library behaviour.
 8. NEW (domain of C01HeadlineMore.lean).  Its theorems are over `ReachS`, not `Reach`: besides the three named side
    conditions, `ReachS.build` requires user=, password= and authority= to be Python strings (`BuildNetPy`), which
    `Reach.build` forgot (it asks this of path, query, fragment only).  Harmless — every Python `str` qualifies — but
    it means items 1–4 say nothing about a `Reach.build` step whose authority texts contain code points > 0x10FFFF
    (which exist only in the model's `Str`).
    SHARPENED by C01_reach_build_nonpython_user_counterexample, C01_api_outside_host (C01More.lean), see
    C01_headline_build_net_py_needed, C01_headline_api_outside_host (C01HeadlineMore4.lean).  Proved: `BuildNetPy` can
    NOT be dropped — with the model-only code point 0x110000 as `user=` the C backend's quoter passes it through, the
    result is `Reach`, stores a non-ASCII authority and is not `ReachS` (the Python backend drops the code point); a
    MODEL ARTEFACT, no Python `str` contains such a code point.  Likewise `J` cannot be dropped (item 1c).  For the API
    closure `ReachS (True ∧ IdnaLocalNoAt) ⊤ ⊥` (constructor, build with Python strings, the 18 operations other than
    `UOp.joinRef`, join of two reachable URLs; no condition on schemes or zone ids) every URL is `Reach` and the
    whole-string statement of item 6 holds.
 9. NEW (with C01More.lean).  Trusted readings introduced by items 6–8 FURTHER: `IdnaLocalAscii` / `IdnaLocalNoAt`
    (Prop-valued, about `idnaEncode o (hostPort hi).1`, i.e. `_idna_encode` of the host name cut from the `host[:port]`
    text — lower-cased answer of `idna.encode(…, uts46=True)` or of the stdlib fallback); `R11.NF` (visible ASCII other
    than the nine characters "<>\^`{|}); `HostLemmas.ipRes`.  The cut `pre ++ hostText ++ suf` of item 6 is
    EXISTENTIALLY quantified: the theorem ties `hostText` to the rendered authority (`hostText = hostinfo N`,
    `pre ++ hostText = a ++ N`) but does not give `pre` / `suf` as functions of the URL (C01More.lean and C01Str.lean have them:
    `R11.unsplitParts`, `StrAscii.userinfoAt`; one computed instance in its non-vacuity section).  The proofs replace the
    oracle table by a "tamed" one (`R11.tame`: every IDNA answer outside a character class becomes UnicodeError) and
    show the run unchanged (`R11.reachS_tame`); that is internal to the proofs, nothing to trust.
-/

end Yarl
