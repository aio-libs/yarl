import YarlProofs.C02Headline
import YarlProofs.C02HeadlineMore4
import YarlProofs.C02Surr
/-!
  C02HeadlineMore6.lean — AUDIT LAYER for property C02, continuation of C02Headline.lean / C02HeadlineMore4.lean:
  headline theorems for the proof module added after the last refresh, C02Surr.lean (over C02More3.lean).  This file is
  a leaf, nobody imports it.  It closes the LAST PARAGRAPH of GAPS item 5 of C02Headline.lean ("STILL OPEN / not
  stated: the WHOLE-URL statement `URL(s) == URL(stripSurr s)` is not stated; the header of C02More3.lean says (no
  theorem) that it is false for the authority's HOST … and for `cleanUrl` … nothing is proved about a lone surrogate in
  the host").

  C02 | Canonicalisation never changes what a URL means |
  "Auto-encoding preserves every decoded value: percent-decoding the canonical user, password, each path
  segment, each query key and value, and the fragment yields exactly the bytes obtained by percent-decoding
  (as UTF-8) the text that was supplied. Delimiter status is preserved too: an encoded '/' inside a path
  segment and encoded '&', '=', '+', ';' inside a query stay encoded, literal ones stay literal, so the number
  and boundaries of path segments and query pairs never change."

  What is here (GAPS 5 of C02Headline.lean, last paragraph).  Items 1–4 of the GAPS block hold for every Python string
  when "the text that was supplied" is read as `stripSurr` of the supplied COMPONENT (C02HeadlineMore4.lean); this file
  states when that reading can be made on the WHOLE supplied text.
   * THE WHOLE-URL THEOREM `C02_headline_surr_whole_url`: `URL(stripSurr s)` and `URL(s)` are the SAME computation (same
     error, or the same `Url` value) for every Python string whose lone surrogates are placed as `C02_SurrPlaced` says
     (six conditions: lead, scheme, slashes, host, bracket, screen); `C02_headline_surr_whole_url_split` is the
     `split_url` half, `C02_headline_surr_whole_url_parts` the statement "same error class, or URLs with the same five
     stored parts, equal as values".
   * `C02_headline_surr_placed_def`: the six conditions spelled out (by `Iff` from the structure's fields, to be read).
   * `C02_headline_surr_whole_url_no_authority`, `C02_headline_surr_whole_url_clean_authority`: the two corollaries with
     fewer conditions (no authority: three; an authority without any lone surrogate: three);
     `C02_headline_surr_screen_of_nfkc_id`: the `screen` condition is automatic for an oracle table that reports every
     string as NFKC-normal.
   * EVERY CONDITION IS NEEDED, one computed counterexample each, both backends:
     `C02_headline_surr_whole_url_fails_for_host`, `…_fails_for_leading`, `…_fails_for_scheme`,
     `…_fails_for_between_slashes`, `…_fails_for_bracket`, `…_fails_for_missing_screen` (the last one a fact about the
     MODEL's oracle parameter, not about Python).
   * `C02_headline_surr_whole_url_holds_after_percent`: a lone surrogate inside an escape is NOT a counterexample to the
     whole-URL statement (it is one to the comparison with the ORIGINAL text,
     C02_headline_surr_fails_for_original_text, C02HeadlineMore4.lean).
   * `C02_headline_surr_whole_url_instance`, `C02_headline_surr_whole_url_no_authority_instance`: non-vacuity.

  Vocabulary (C02Surr.lean; the rest as in C02Headline.lean / C02HeadlineMore4.lean).
  `stripSurr s`            — `s` without its lone surrogates (code points 0xD800–0xDFFF); `NoSurrogate s` — it has none.
  `encodeUrl e s`          — the auto-encoding constructor `URL(s)` on environment `e` (backend + oracle table).
  `C02_netlocText s`       — the authority text `split_url` reads from `s` ("" when there is no "//").
  `C02_SurrPlaced o s`     — the six placement conditions (structure; fields `lead`, `scheme`, `slashes`, `host`, `bracket`,
                             `screen`), see `C02_headline_surr_placed_def`.
  `SurrUrl.SchemeClean t`  — if the text before the first ':' of `t` becomes a scheme once its lone surrogates are dropped,
                             it had none.
  `SurrUrl.screen o n`     — the `_check_netloc` call of `split_url` with its guard (non-empty, non-ASCII authority only).
  `SurrUrl.stripParts p`   — the five split parts with the lone surrogates of netloc, path, query, fragment dropped.
  `SurrUrl.five r`         — the five stored parts (scheme, netloc, path, query, fragment) of an outcome.
  `SurrUrl.eE b` / `eS b`  — environment on backend `b` with the EMPTY oracle table / with the table that answers NFKC by
                             the identity (R11.C02, C02More3.lean).
  `SurrUrl.sHost` … `sGoodNoAuth` — the witness strings; their Python spelling is in each doc comment.
  `C02_EscSurrFree s`      — no lone surrogate within the two characters after a '%' (C02More3.lean).
  47 = '/', 58 = ':', 64 = '@', 91 = '[', 93 = ']'.
-/
namespace Yarl
open OutLangLemmas QsLemmas WfLemmas TokLemmas NetlocLemmas FixLemmas R11.C02
open SurrUrl

/-! ## GAPS 5, last paragraph — the whole-URL statement -/

/-- "percent-decoding the canonical … yields exactly the bytes obtained by percent-decoding the text that was supplied",
    read on `stripSurr` of the WHOLE supplied text: for a Python string whose lone surrogates are placed as
    `C02_SurrPlaced` says, the auto-encoding constructor computes THE SAME RESULT for `s` and for `s` without its lone
    surrogates — the same error, or the same `Url` value (all five stored parts AND the pre-filled netloc cache).  No
    `C02_EscSurrFree` guard.  Cites C02_surr_whole_url. -/
theorem C02_headline_surr_whole_url (e : Env) (s : Str) (hs : PyStr s) (h : C02_SurrPlaced e.o s) :
    encodeUrl e (stripSurr s) = encodeUrl e s :=
  C02_surr_whole_url e s hs h

/-- the `split_url` half: it commutes with dropping the lone surrogates — same error, or the same scheme and the other
    four parts with their lone surrogates dropped.  Cites C02_surr_splitUrl. -/
theorem C02_headline_surr_whole_url_split (o : Oracles) (s : Str) (h : C02_SurrPlaced o s) :
    splitUrl o (stripSurr s) = (splitUrl o s).map SurrUrl.stripParts :=
  C02_surr_splitUrl o s h

/-- the whole-URL statement in the terms of the GAPS item (`URL(s) == URL(stripSurr s)`): same error class, or URLs with
    the same five stored parts, equal as values (hence under `==`).  Cites C02_surr_whole_url_parts. -/
theorem C02_headline_surr_whole_url_parts (e : Env) (s : Str) (hs : PyStr s) (h : C02_SurrPlaced e.o s) :
    (∀ er, encodeUrl e s = .error er → encodeUrl e (stripSurr s) = .error er) ∧
    (∀ u, encodeUrl e s = .ok u → ∃ u', encodeUrl e (stripSurr s) = .ok u' ∧ u'.scheme = u.scheme ∧
      u'.netloc = u.netloc ∧ u'.path = u.path ∧ u'.query = u.query ∧ u'.fragment = u.fragment ∧ u' = u) :=
  C02_surr_whole_url_parts e s hs h

/-- the six placement conditions SPELLED OUT (to be read): WHERE the lone surrogates of `s` may sit — anywhere in path,
    query, fragment, user, password, but
    `lead`: not so that the leading C0-control / space run of `s` continues behind them (`lstrip` stops at a surrogate);
    `scheme`: not inside a scheme;  `slashes`: not between / before the two slashes that introduce the authority;
    `host`: not in the host / port text (everything after the last '@' of the authority);
    `bracket`: not between the first '[' and the next ']' of the authority;
    `screen`: the `_check_netloc` NFKC screen (an ORACLE in the model) answers the same with and without them. -/
theorem C02_headline_surr_placed_def (o : Oracles) (s : Str) :
    C02_SurrPlaced o s ↔
      (lstripSet Gen.stripSet (stripSurr (lstripSet Gen.stripSet s)) = stripSurr (lstripSet Gen.stripSet s) ∧
       SurrUrl.SchemeClean (cleanUrl s) ∧
       ((stripSurr (splitScheme (cleanUrl s)).2).take 2 = [47, 47] → (splitScheme (cleanUrl s)).2.take 2 = [47, 47]) ∧
       NoSurrogate (rpartition 64 (C02_netlocText s)).2.2 ∧
       NoSurrogate (partition 93 (partition 91 (C02_netlocText s)).2.2).1 ∧
       SurrUrl.screen o (stripSurr (C02_netlocText s)) = SurrUrl.screen o (C02_netlocText s)) :=
  ⟨fun h => ⟨h.lead, h.scheme, h.slashes, h.host, h.bracket, h.screen⟩,
   fun ⟨h1, h2, h3, h4, h5, h6⟩ => ⟨h1, h2, h3, h4, h5, h6⟩⟩

/-- the `screen` condition is automatic for an oracle table that reports every string as NFKC-normal.
    Cites C02_surr_screen_of_nfkc_id. -/
theorem C02_headline_surr_screen_of_nfkc_id (o : Oracles) (h : ∀ x, o.nfkc x = some x) (n m : Str) :
    SurrUrl.screen o n = SurrUrl.screen o m :=
  C02_surr_screen_of_nfkc_id o h n m

/-- the whole-URL statement for a URL WITHOUT authority: only the three placement conditions on the text before the path
    remain (leading run, scheme, no "//" appearing).  Cites C02_surr_whole_url_no_authority. -/
theorem C02_headline_surr_whole_url_no_authority (e : Env) (s : Str) (hs : PyStr s)
    (hlead : lstripSet Gen.stripSet (stripSurr (lstripSet Gen.stripSet s)) = stripSurr (lstripSet Gen.stripSet s))
    (hscheme : SurrUrl.SchemeClean (cleanUrl s))
    (hsl : (stripSurr (splitScheme (cleanUrl s)).2).take 2 ≠ [47, 47]) :
    encodeUrl e (stripSurr s) = encodeUrl e s :=
  C02_surr_whole_url_no_authority e s hs hlead hscheme hsl

/-- the whole-URL statement with an authority that has NO lone surrogate at all (e.g. an ASCII one): the lone surrogates
    may sit anywhere in path, query and fragment.  Cites C02_surr_whole_url_clean_authority. -/
theorem C02_headline_surr_whole_url_clean_authority (e : Env) (s : Str) (hs : PyStr s)
    (hlead : lstripSet Gen.stripSet (stripSurr (lstripSet Gen.stripSet s)) = stripSurr (lstripSet Gen.stripSet s))
    (hscheme : SurrUrl.SchemeClean (cleanUrl s))
    (hsl : (stripSurr (splitScheme (cleanUrl s)).2).take 2 = [47, 47] → (splitScheme (cleanUrl s)).2.take 2 = [47, 47])
    (hn : NoSurrogate (C02_netlocText s)) :
    encodeUrl e (stripSurr s) = encodeUrl e s :=
  C02_surr_whole_url_clean_authority e s hs hlead hscheme hsl hn

/-! ## every placement condition is needed — computed counterexamples, both backends -/

/-- HOST ("nothing is proved about a lone surrogate in the host"): `URL("http://h\ud800/")` is not accepted by the model
    (the non-ASCII host goes to the Unicode oracles, here with the table that knows NFKC only), `URL("http://h/")` is;
    `host` fails.  Cites C02_surr_whole_url_fails_in_host. -/
theorem C02_headline_surr_whole_url_fails_for_host (b : Backend) :
    (∀ u, encodeUrl (eS b) sHost ≠ .ok u) ∧
    five (encodeUrl (eS b) (stripSurr sHost)) = .ok ("http".toStr, "h".toStr, "/".toStr, [], []) ∧
    ¬ NoSurrogate (rpartition 64 (C02_netlocText sHost)).2.2 :=
  C02_surr_whole_url_fails_in_host b

/-- LEADING characters ("`cleanUrl`: leading C0 / space stripping stops at a surrogate"): `URL(" \ud800 http://h")` is
    the relative URL with path "%20http://h"; `URL("  http://h")` is `http://h`; `lead` fails.
    Cites C02_surr_whole_url_fails_leading. -/
theorem C02_headline_surr_whole_url_fails_for_leading (b : Backend) :
    five (encodeUrl (eE b) sLead) = .ok ([], [], "%20http://h".toStr, [], []) ∧
    five (encodeUrl (eE b) (stripSurr sLead)) = .ok ("http".toStr, "h".toStr, [], [], []) ∧
    lstripSet Gen.stripSet (stripSurr (lstripSet Gen.stripSet sLead)) ≠ stripSurr (lstripSet Gen.stripSet sLead) :=
  C02_surr_whole_url_fails_leading b

/-- SCHEME: `URL("ht\ud800tp://h")` has no scheme (path "http://h"), `URL("http://h")` has; `scheme` fails.
    Cites C02_surr_whole_url_fails_in_scheme. -/
theorem C02_headline_surr_whole_url_fails_for_scheme (b : Backend) :
    five (encodeUrl (eE b) sScheme) = .ok ([], [], "http://h".toStr, [], []) ∧
    five (encodeUrl (eE b) (stripSurr sScheme)) = .ok ("http".toStr, "h".toStr, [], [], []) ∧
    ¬ SurrUrl.SchemeClean (cleanUrl sScheme) :=
  C02_surr_whole_url_fails_in_scheme b

/-- SLASHES: `URL("/\ud800/h")` is the PATH "//h" (no authority), `URL("//h")` is the authority "h"; `slashes` fails.
    (The two print alike: `str()` of both is "//h".)  Cites C02_surr_whole_url_fails_between_slashes. -/
theorem C02_headline_surr_whole_url_fails_for_between_slashes (b : Backend) :
    five (encodeUrl (eE b) sSlash) = .ok ([], [], "//h".toStr, [], []) ∧
    five (encodeUrl (eE b) (stripSurr sSlash)) = .ok ([], "h".toStr, [], [], []) ∧
    ¬ ((stripSurr (splitScheme (cleanUrl sSlash)).2).take 2 = [47, 47] →
        (splitScheme (cleanUrl sSlash)).2.take 2 = [47, 47]) :=
  C02_surr_whole_url_fails_between_slashes b

/-- BRACKET: a lone surrogate in the USERINFO is not always harmless: `URL("http://a[\ud800v1.x]b@h/")` raises ValueError
    (the IP-literal check reads the text after the first '[' of the whole authority: "\ud800v1.x" is no IPvFuture),
    `URL("http://a[v1.x]b@h/")` is accepted (user "a%5Bv1.x%5Db"); `host` holds, `bracket` fails.
    Cites C02_surr_whole_url_fails_in_bracket. -/
theorem C02_headline_surr_whole_url_fails_for_bracket (b : Backend) :
    encodeUrl (eE b) sBracket = .error .valueError ∧
    five (encodeUrl (eE b) (stripSurr sBracket)) = .ok ("http".toStr, "a%5Bv1.x%5Db@h".toStr, "/".toStr, [], []) ∧
    NoSurrogate (rpartition 64 (C02_netlocText sBracket)).2.2 ∧
    ¬ NoSurrogate (partition 93 (partition 91 (C02_netlocText sBracket)).2.2).1 :=
  C02_surr_whole_url_fails_in_bracket b

/-- SCREEN (a fact about the MODEL's oracle parameter, not about Python): with the empty oracle table the lone surrogate
    in the user of `URL("http://\ud800@h/")` makes the authority non-ASCII, `_check_netloc` asks for NFKC and the table
    has no answer; without the surrogate the authority is ASCII and NFKC is never asked.  With a table that answers
    (`eS`) both are `http://h/`.  Cites C02_surr_whole_url_fails_without_screen. -/
theorem C02_headline_surr_whole_url_fails_for_missing_screen (b : Backend) :
    encodeUrl (eE b) sScreen = .error (.oracleMiss "nfkc" ([0xD800] ++ "h".toStr)) ∧
    five (encodeUrl (eE b) (stripSurr sScreen)) = .ok ("http".toStr, "h".toStr, "/".toStr, [], []) ∧
    five (encodeUrl (eS b) sScreen) = .ok ("http".toStr, "h".toStr, "/".toStr, [], []) :=
  C02_surr_whole_url_fails_without_screen b

/-- AFTER '%': NOT a counterexample to the whole-URL statement — a lone surrogate inside an escape satisfies
    `C02_SurrPlaced`, and `URL("http://u%\ud80041@h/%\ud80041?%\ud80041#%\ud80041")` = `URL(stripSurr s)` =
    `http://uA@h/A?A#A`.  What fails there (and is why the component theorems carry `C02_EscSurrFree`) is the comparison
    with the ORIGINAL text: its path percent-decodes to "/%41", the stored one to "/A".
    Cites C02_surr_whole_url_holds_after_percent. -/
theorem C02_headline_surr_whole_url_holds_after_percent (b : Backend) :
    C02_SurrPlaced (eS b).o sPct ∧
    encodeUrl (eS b) (stripSurr sPct) = encodeUrl (eS b) sPct ∧
    five (encodeUrl (eS b) sPct) = .ok ("http".toStr, "uA@h".toStr, "/A".toStr, "A".toStr, "A".toStr) ∧
    ¬ C02_EscSurrFree sPct ∧
    pctDecode ("/%".toStr ++ [0xD800] ++ "41".toStr) = "/%41".toStr ∧ pctDecode "/A".toStr = "/A".toStr :=
  C02_surr_whole_url_holds_after_percent b

/-! ## non-vacuity -/

/-- lone surrogates in user, password, path, query and fragment of ONE URL with authority and port,
    `URL("http://u\ud800:p\udfff@h:80/a\ud800/b?k\ud800=v#f\ud800")`: all hypotheses of the whole-URL theorem hold, and
    both computations give `http://u:p@h:80/a/b?k=v#f`.  Cites C02_surr_whole_url_instance. -/
theorem C02_headline_surr_whole_url_instance (b : Backend) :
    PyStr sGood ∧ C02_SurrPlaced (eS b).o sGood ∧ ¬ NoSurrogate sGood ∧
    encodeUrl (eS b) (stripSurr sGood) = encodeUrl (eS b) sGood ∧
    five (encodeUrl (eS b) sGood) = .ok ("http".toStr, "u:p@h:80".toStr, "/a/b".toStr, "k=v".toStr, "f".toStr) :=
  C02_surr_whole_url_instance b

/-- no authority, EMPTY oracle table, leading C0 / space characters, `URL(" \t mailto:a\ud800b?s\ud800=1#\ud800")`: the
    hypotheses of `C02_headline_surr_whole_url_no_authority` hold.  Cites C02_surr_whole_url_no_authority_instance. -/
theorem C02_headline_surr_whole_url_no_authority_instance (b : Backend) :
    encodeUrl (eE b) (stripSurr sGoodNoAuth) = encodeUrl (eE b) sGoodNoAuth ∧
    five (encodeUrl (eE b) sGoodNoAuth) = .ok ("mailto".toStr, [], "ab".toStr, "s=1".toStr, []) :=
  C02_surr_whole_url_no_authority_instance b

end Yarl
