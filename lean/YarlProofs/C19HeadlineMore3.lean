import YarlProofs.C19Headline
import YarlProofs.C19Dyn
import YarlProofs.C19ReachE
/-!
  C19HeadlineMore3.lean — AUDIT LAYER for property C19, continuation of C19Headline.lean (the theorems here need
  C19Dyn.lean and C19ReachE.lean, written after C19Headline.lean; this file is a leaf, nobody imports it).

  C19 | Failures are reported only as ValueError/TypeError; nothing crashes |
  "Given arguments of the documented types, every public entry point either returns or raises ValueError
  (malformed value, including IDNA errors) or TypeError (wrong type); it never leaks IndexError, KeyError,
  AttributeError, RecursionError, AssertionError or any other exception type, and an object that build() or
  a modifier returned can always be turned into a string. If memory allocation fails inside the compiled
  quoter the call raises MemoryError, nothing is corrupted and later calls return correct results."

  What is here.
  * PART A (GAPS 1 of C19Headline.lean, "TypeError (wrong type)") — MODEL-LEVEL statements over YarlModel/Dyn.lean, the
    Lean transcription of the `isinstance` / `type(x) is …` tests at the head of the public entry points over a small
    universe `PyObj` of Python objects.  Dyn.lean is a MODEL of Python-level dispatch; it is tied to CPython ONLY by a
    run-time probe table (the `example … := by decide +kernel` rows at the end of C19Dyn.lean compare the model with
    recorded outcomes of the real library), NOT by proof.  Cites C19Dyn.lean: the type-gated entry points raise only
    ValueError / TypeError on ANY object; exactly which objects get the TypeError; on arguments of the documented types
    the dynamic entry point IS the typed function (so every typed C19 theorem transfers); the two entry points WITHOUT a
    type gate, `joinpath` and `with_path`, for which "never anything else" is FALSE on non-str arguments (KeyError,
    AttributeError, returned garbage objects — outside "arguments of the documented types", so not a violation of C19).
  * PART B (GAPS 4, "an object that build() or a modifier returned can always be turned into a string") — over `ReachE`
    (ReachE.lean), the closure of ALL entry points of the model, `encoded=True` included.  Cites C19ReachE.lean: the
    exception discipline on every `ReachE` URL; a `ReachE` URL prints IFF it is a result of the auto-encoding constructor
    or its stored authority splits; printability is INHERITED through every modifier in every `encoded` mode and `join`,
    so F-C19-encoded-str arises only from an entry-point result; the witnesses of the finding inside `ReachE`.

  Vocabulary.
  `PyObj`            — none, bool, int, float, str, strSub (instance of a plain `str` subclass), bytes, tuple, list, dict,
                       url, splitResult, other (an `object()`-like instance).  `Dyn.strLike o = some s` — `isinstance(o,
                       str)` with content `s`; `Dyn.isNone`, `Dyn.isInt` (`type(o) is int`, a bool is not), `Dyn.isUrl`,
                       `Dyn.isSplit`; `Dyn.truthy`, `Dyn.hashable`, `Dyn.eqSlash x` (`x == "/"`), `Dyn.isZeroKey`.
  `dynNew e o enc`   — `URL(o, encoded=enc)`; `dynWithScheme e u o` … `dynWithSuffix`, `dynJoin`, `dynTruediv` (`u / o`),
                       `dynWithQuery` / `dynExtendQuery` / `dynUpdateQuery` (one positional argument), `…Kw` (keyword
                       form), `dynCmp op u o` (`<`, `<=`, `>`, `>=`), `dynJoinpath e u xs enc`, `dynWithPath e u o enc kq kf`
                       (its outcomes `PathOut`: `.ok url`, `.error err`, `.garbage 0` — a URL object is RETURNED whose
                       `_path` is the non-str argument itself —, `.garbage 1` — a URL whose path is `"/" + format(arg)`).
  `Dyn.childArgErr enc o` — what one non-str element `o` raises inside the loop of `_make_child`;
                       `Dyn.childScan` — the str elements of `reversed(paths)` met before the first non-str one, and that one.
  `ReachE e u`       — `u` is obtained through the entry points of the model: `URL(s)`, `URL(s, encoded=True)`, `build`
                       in both modes, the 18 operations of `UOp` other than the model artefact `joinRef` (`applyOp`),
                       `with_path(…, encoded=True)`, `joinpath(…, encoded=True)`, `join` of two `ReachE` URLs — all text
                       arguments Python strings.  `ReachEN N e u` — the same with the side condition `N` on the RESULT
                       of every entry point (constructor in both modes, `build`) of the history.
  `Splits e u`       — `split_netloc` accepts the stored authority.  `Printable e u` := `LazyOK e u ∧ HostShape e u`
                       (C19Str.lean): the stored authority splits and the (pre-filled or computed) cache has the shape
                       the four authority-rebuilding modifiers need.
-/
namespace Yarl
open ErrLemmas NetlocLemmas StrTotal EagerLemmas
open Yarl.Dyn StrAscii WfLemmas R6

/-! # PART A — "TypeError (wrong type)": the Python-level type gates (MODEL-LEVEL, YarlModel/Dyn.lean; GAPS 1) -/

/-! ## Sentence 1 — "every public entry point either returns or raises ValueError … or TypeError (wrong type); it never
    leaks … any other exception type" for the TYPE-GATED entry points, on ANY object -/

/-- MODEL-LEVEL.  Every entry point that has a type gate in `yarl/_url.py` — the constructor, with_scheme, with_user,
    with_password, with_host, with_port, with_fragment, with_name, with_suffix, join, `/`, with_query, extend_query,
    update_query (one positional argument), `<` `<=` `>` `>=` — handed ANY object `o` of the universe `PyObj`: a failure is
    a ValueError, a TypeError, or an oracle request of the typed function it delegates to — never anything else.
    Cites C19_dyn_errors_allowed. -/
theorem C19_headline_dyn_kinds_gated (e : Env) (u : Url) (o : PyObj) (err : PyErr) :
    (∀ enc, dynNew e o enc = .error err → Allowed err) ∧
    (dynWithScheme e u o = .error err → Allowed err) ∧
    (dynWithUser e u o = .error err → Allowed err) ∧
    (dynWithPassword e u o = .error err → Allowed err) ∧
    (dynWithHost e u o = .error err → Allowed err) ∧
    (dynWithPort e u o = .error err → Allowed err) ∧
    (dynWithFragment e u o = .error err → err = .typeError) ∧
    (∀ kq kf, dynWithName e u o kq kf = .error err → Allowed err) ∧
    (∀ kq kf, dynWithSuffix e u o kq kf = .error err → Allowed err) ∧
    (dynJoin e u o = .error err → err = .typeError) ∧
    (dynTruediv e u o = .error err → Allowed err) ∧
    (dynWithQuery e u o = .error err → err = .typeError ∨ err = .valueError) ∧
    (dynExtendQuery e u o = .error err → err = .typeError ∨ err = .valueError) ∧
    (dynUpdateQuery e u o = .error err → err = .typeError ∨ err = .valueError) ∧
    (∀ op, dynCmp op u o = .error err → err = .typeError) :=
  C19_dyn_errors_allowed e u o err

/-- MODEL-LEVEL.  … the keyword forms `with_query(**kw)`, `extend_query(**kw)`, `update_query(**kw)` (kwargs have str
    keys by construction; the values are ANY objects): TypeError or ValueError only; a call without any argument is the
    arity ValueError.  Cites C19_dyn_kw_errors_allowed. -/
theorem C19_headline_dyn_kinds_kwargs (e : Env) (u : Url) (kw : List (Str × PyObj)) (err : PyErr) :
    (dynWithQueryKw e u kw = .error err → err = .typeError ∨ err = .valueError) ∧
    (dynExtendQueryKw e u kw = .error err → err = .typeError ∨ err = .valueError) ∧
    (dynUpdateQueryKw e u kw = .error err → err = .typeError ∨ err = .valueError) ∧
    dynWithQueryKw e u [] = .error .valueError ∧ dynExtendQueryKw e u [] = .error .valueError ∧
    dynUpdateQueryKw e u [] = .error .valueError :=
  C19_dyn_kw_errors_allowed e u kw err

/-! ## "TypeError (wrong type)" — EXACTLY which objects are rejected, and that the type check comes first -/

/-- MODEL-LEVEL.  Which objects each type-gated modifier / operator rejects with TypeError — for EVERY receiver `u`, so
    the type check precedes every value check (a wrong type on a relative URL is a TypeError, not the "relative URL"
    ValueError): with_scheme, with_host, with_name, with_suffix, `/` want `isinstance(o, str)`; with_user, with_password,
    with_fragment also take `None`; with_port wants `None` or `type(o) is int` (a bool IS rejected); join and the
    ordering operators want a URL.  Cites C19_dyn_type_errors. -/
theorem C19_headline_dyn_type_errors (e : Env) (u : Url) (o : PyObj) :
    (dynWithScheme e u o = .error .typeError ↔ strLike o = none) ∧
    (dynWithUser e u o = .error .typeError ↔ strLike o = none ∧ isNone o = false) ∧
    (dynWithPassword e u o = .error .typeError ↔ strLike o = none ∧ isNone o = false) ∧
    (dynWithHost e u o = .error .typeError ↔ strLike o = none) ∧
    (dynWithPort e u o = .error .typeError ↔ isNone o = false ∧ isInt o = false) ∧
    (dynWithFragment e u o = .error .typeError ↔ strLike o = none ∧ isNone o = false) ∧
    (∀ kq kf, dynWithName e u o kq kf = .error .typeError ↔ strLike o = none) ∧
    (∀ kq kf, dynWithSuffix e u o kq kf = .error .typeError ↔ strLike o = none) ∧
    (dynJoin e u o = .error .typeError ↔ isUrl o = false) ∧
    (dynTruediv e u o = .error .typeError ↔ strLike o = none) ∧
    (∀ op, dynCmp op u o = .error .typeError ↔ isUrl o = false) :=
  C19_dyn_type_errors e u o

/-- MODEL-LEVEL.  The constructor `URL(o, encoded=enc)`: TypeError exactly for objects that are neither a str (or
    subclass), nor a URL, nor a SplitResult; a URL is returned as it is, whatever `encoded` says; a SplitResult is a
    ValueError unless `encoded=True`, and then its five fields are stored verbatim.
    Cites C19_dyn_new_type_errors. -/
theorem C19_headline_dyn_constructor_type_errors (e : Env) (o : PyObj) (enc : Bool)
    (hwf : ∀ parts, o = .splitResult parts → parts.length = 5) :   -- a SplitResult has its five fields
    (dynNew e o enc = .error .typeError ↔ strLike o = none ∧ isUrl o = false ∧ isSplit o = false) ∧
    (∀ v, o = .url v → dynNew e o enc = .ok v) ∧
    (isSplit o = true → (enc = false → dynNew e o enc = .error .valueError) ∧
      (enc = true → ∃ v, dynNew e o enc = .ok v ∧ o = .splitResult [v.scheme, v.netloc, v.path, v.query, v.fragment])) :=
  C19_dyn_new_type_errors e o enc hwf

/-- MODEL-LEVEL, readable instances of the two theorems above: `with_port(True)`, `with_port(1.0)`, `with_port("1")`,
    `with_scheme(None)`, `with_host(None)`, `with_scheme(b"…")`, `with_user(1)`, `with_password(b"…")`,
    `with_fragment(1)`, `join("x")`, `join(None)`, `join(SplitResult)`, `u / 1`, `u / URL`, `URL(b"…")`, `URL(None)`,
    `URL(tuple)` raise TypeError, for every receiver.  Cites C19_dyn_type_error_instances. -/
theorem C19_headline_dyn_type_error_instances (e : Env) (u : Url) :
    (∀ b, dynWithPort e u (.bool b) = .error .typeError) ∧
    (∀ t k, dynWithPort e u (.float t k) = .error .typeError) ∧
    (∀ s, dynWithPort e u (.str s) = .error .typeError) ∧
    dynWithScheme e u .none = .error .typeError ∧ dynWithHost e u .none = .error .typeError ∧
    (∀ b, dynWithScheme e u (.bytes b) = .error .typeError) ∧
    (∀ i, dynWithUser e u (.int i) = .error .typeError) ∧ (∀ b, dynWithPassword e u (.bytes b) = .error .typeError) ∧
    (∀ i, dynWithFragment e u (.int i) = .error .typeError) ∧
    (∀ s, dynJoin e u (.str s) = .error .typeError) ∧ dynJoin e u .none = .error .typeError ∧
    (∀ ps, dynJoin e u (.splitResult ps) = .error .typeError) ∧
    (∀ i, dynTruediv e u (.int i) = .error .typeError) ∧ (∀ v, dynTruediv e u (.url v) = .error .typeError) ∧
    (∀ enc b, dynNew e (.bytes b) enc = .error .typeError) ∧ (∀ enc, dynNew e .none enc = .error .typeError) ∧
    (∀ enc xs, dynNew e (.tuple xs) enc = .error .typeError) :=
  C19_dyn_type_error_instances e u

/-! ## "Given arguments of the documented types" — there the dynamic entry point IS the typed function -/

/-- MODEL-LEVEL BRIDGE: on arguments of the documented types (str, None where allowed, int for the port, URL for join)
    every dynamic entry point IS the typed function of YarlModel/Url.lean that all other C19 theorems are about
    (definitional equations), so the typed theorems of C19Headline.lean transfer; a str SUBCLASS instance is accepted
    everywhere a str is, with the same result (`isinstance`, not `type(x) is str`) — except by with_port and join,
    which reject it like any non-int / non-URL.  Cites C19_dyn_agrees_on_typed, C19_dyn_str_subclass. -/
theorem C19_headline_dyn_agrees_on_typed (e : Env) (u : Url) (s : Str) :
    ((∀ enc, dynNew e (.str s) enc = if enc then preEncodedUrl e s else encodeUrl e s) ∧
      dynWithScheme e u (.str s) = withScheme e u s ∧
      dynWithUser e u (.str s) = withUser e u (some s) ∧ dynWithUser e u .none = withUser e u none ∧
      dynWithPassword e u (.str s) = withPassword e u (some s) ∧ dynWithPassword e u .none = withPassword e u none ∧
      dynWithHost e u (.str s) = withHost e u s ∧
      (∀ i, dynWithPort e u (.int i) = withPort e u (some i) 0) ∧ dynWithPort e u .none = withPort e u none 0 ∧
      dynWithFragment e u (.str s) = .ok (withFragment e u (some s)) ∧
      dynWithFragment e u .none = .ok (withFragment e u none) ∧
      (∀ kq kf, dynWithName e u (.str s) kq kf = withName e u s kq kf) ∧
      (∀ kq kf, dynWithSuffix e u (.str s) kq kf = withSuffix e u s kq kf) ∧
      (∀ v, dynJoin e u (.url v) = .ok (join e u v)) ∧
      dynTruediv e u (.str s) = makeChild e u [s] false ∧
      (∀ enc kq kf, dynWithPath e u (.str s) enc kq kf = .ok (withPath e u s enc kq kf))) ∧
    ((∀ enc, dynNew e (.strSub s) enc = dynNew e (.str s) enc) ∧
      dynWithScheme e u (.strSub s) = dynWithScheme e u (.str s) ∧
      dynWithUser e u (.strSub s) = dynWithUser e u (.str s) ∧
      dynWithPassword e u (.strSub s) = dynWithPassword e u (.str s) ∧
      dynWithHost e u (.strSub s) = dynWithHost e u (.str s) ∧
      dynWithFragment e u (.strSub s) = dynWithFragment e u (.str s) ∧
      (∀ kq kf, dynWithName e u (.strSub s) kq kf = dynWithName e u (.str s) kq kf) ∧
      (∀ kq kf, dynWithSuffix e u (.strSub s) kq kf = dynWithSuffix e u (.str s) kq kf) ∧
      dynTruediv e u (.strSub s) = dynTruediv e u (.str s) ∧
      (∀ enc kq kf, dynWithPath e u (.strSub s) enc kq kf = dynWithPath e u (.str s) enc kq kf) ∧
      dynWithQuery e u (.strSub s) = dynWithQuery e u (.str s) ∧
      dynExtendQuery e u (.strSub s) = dynExtendQuery e u (.str s) ∧
      dynUpdateQuery e u (.strSub s) = dynUpdateQuery e u (.str s) ∧
      (dynWithPort e u (.strSub s) = .error .typeError ∧ dynJoin e u (.strSub s) = .error .typeError)) :=
  ⟨C19_dyn_agrees_on_typed e u s, C19_dyn_str_subclass e u s⟩

/-! ## The two entry points WITHOUT a type gate: `joinpath` and `with_path` — "never anything else" is FALSE there on
    non-str arguments (outside "arguments of the documented types"); the strongest true statements -/

/-- MODEL-LEVEL.  `joinpath(*xs, encoded=enc)`: with str (subclass) arguments only it IS the typed `_make_child`; with a
    non-str argument the outcome is the error of the first offending element of `reversed(xs)` — the leading-slash
    ValueError of a str met before it, else that element's own error `childArgErr`; and the kind bound that IS true on
    arbitrary objects: ValueError, TypeError, oracle request — or KeyError / AttributeError.
    Cites C19_dyn_joinpath_strs, C19_dyn_joinpath_nonstr, C19_dyn_joinpath_errors. -/
theorem C19_headline_dyn_joinpath (e : Env) (u : Url) (xs : List PyObj) (enc : Bool) :
    (∀ strs : List Str, xs.map strLike = strs.map some →           -- every argument is a str (subclass)
      dynJoinpath e u xs enc = makeChild e u strs enc) ∧
    (∀ (pre : List Str) (o : PyObj), childScan xs.reverse = (pre, some o) →   -- `o`: first non-str of `reversed(xs)`
      dynJoinpath e u xs enc =
        .error (if pre.any (fun s => s.head? = some 47) then .valueError else childArgErr enc o)) ∧
    (∀ err, dynJoinpath e u xs enc = .error err → Allowed err ∨ err = .keyError ∨ err = .attributeError) :=
  ⟨fun strs h => C19_dyn_joinpath_strs e u xs strs enc h,
   fun pre o h => C19_dyn_joinpath_nonstr e u xs enc pre o h,
   fun err h => C19_dyn_joinpath_errors e u xs enc err h⟩

/-- MODEL-LEVEL, complete table of what ONE non-str element raises inside `_make_child` (`generic` = AttributeError
    with `encoded=True` — `path.split` —, TypeError otherwise — PATH_QUOTER).  Cites C19_dyn_childArgErr_table. -/
theorem C19_headline_dyn_joinpath_element_table (enc : Bool) :
    let generic : PyErr := if enc then .attributeError else .typeError
    childArgErr enc .none = .typeError ∧ (∀ b, childArgErr enc (.bool b) = .typeError) ∧
    (∀ i, childArgErr enc (.int i) = .typeError) ∧ (∀ t k, childArgErr enc (.float t k) = .typeError) ∧
    (∀ b, childArgErr enc (.bytes b) = .typeError) ∧ (∀ v, childArgErr enc (.url v) = .typeError) ∧
    (∀ t, childArgErr enc (.other t) = .typeError) ∧
    childArgErr enc (.tuple []) = generic ∧ childArgErr enc (.list []) = generic ∧
    childArgErr enc (.dict []) = generic ∧
    (∀ x xs, childArgErr enc (.tuple (x :: xs)) = if eqSlash x then .valueError else generic) ∧
    (∀ x xs, childArgErr enc (.list (x :: xs)) = if eqSlash x then .valueError else generic) ∧
    (∀ p ps, childArgErr enc (.splitResult (p :: ps)) = if p = [47] then .valueError else generic) ∧
    (∀ kv items, childArgErr enc (.dict (kv :: items)) =
      match (kv :: items).find? (fun kv => isZeroKey kv.1) with
      | none => .keyError
      | some kv => if eqSlash kv.2 then .valueError else generic) :=
  C19_dyn_childArgErr_table enc

/-- COUNTEREXAMPLE, MODEL-LEVEL (each row is also a probe row of the real library): "it never leaks … KeyError,
    AttributeError" FAILS for `joinpath` on non-str arguments, for every receiver: `u.joinpath({1: 2})` raises
    KeyError in both modes; `u.joinpath((), encoded=True)`, `u.joinpath([], encoded=True)`,
    `u.joinpath(SplitResult("h", …), encoded=True)` raise AttributeError.  NOT a violation of C19 (its text starts "Given
    arguments of the documented types"); it shows that the restriction to documented types is NEEDED for `joinpath`.
    Cites C19_dyn_joinpath_leaks. -/
theorem C19_headline_dyn_kinds_fails_for_joinpath_nonstr (e : Env) (u : Url) :
    (∀ enc, dynJoinpath e u [.dict [(.int 1, .int 2)]] enc = .error .keyError) ∧
    dynJoinpath e u [.tuple []] true = .error .attributeError ∧
    dynJoinpath e u [.list []] true = .error .attributeError ∧
    (∀ ps, dynJoinpath e u [.splitResult ([104] :: ps)] true = .error .attributeError) ∧
    ¬ Allowed .keyError ∧ ¬ Allowed .attributeError :=
  C19_dyn_joinpath_leaks e u

/-- MODEL-LEVEL.  `with_path(o, encoded=enc, …)` on a non-str `o` NEVER produces a URL of the model: the call raises
    TypeError or KeyError, or RETURNS a garbage object (`.garbage 0`: a URL whose `_path` is `o` itself; `.garbage 1`: a
    URL whose path is `"/" + format(o)`).  Cites C19_dyn_with_path_nonstr. -/
theorem C19_headline_dyn_with_path_nonstr (e : Env) (u : Url) (o : PyObj) (enc kq kf : Bool)
    (h : strLike o = none) :                        -- `o` is not a str (subclass)
    (∀ v, dynWithPath e u o enc kq kf ≠ .ok v) ∧
    (∀ err, dynWithPath e u o enc kq kf = .error err → err = .typeError ∨ err = .keyError) ∧
    (∀ k, dynWithPath e u o enc kq kf = .garbage k → k = 0 ∨ k = 1) :=
  C19_dyn_with_path_nonstr e u o enc kq kf h

/-- MODEL-LEVEL, complete outcome table of `with_path` on non-str objects.  With `encoded=False` everything goes through
    PATH_QUOTER, which rejects non-str with TypeError — except `None` on a URL without authority, which is RETURNED
    stored as the path.  With `encoded=True` the argument only meets `if path and path[0] != "/"` and the hashing of
    `from_parts`.  Cites C19_dyn_with_path_table. -/
theorem C19_headline_dyn_with_path_table (e : Env) (u : Url) (kq kf : Bool) :
    dynWithPath e u .none false kq kf = (if u.netloc.isEmpty then .garbage 0 else .error .typeError) ∧
    (∀ o, strLike o = none → isNone o = false → dynWithPath e u o false kq kf = .error .typeError) ∧
    dynWithPath e u .none true kq kf = .garbage 0 ∧
    dynWithPath e u (.bool false) true kq kf = .garbage 0 ∧ dynWithPath e u (.bool true) true kq kf = .error .typeError ∧
    dynWithPath e u (.int 0) true kq kf = .garbage 0 ∧
    (∀ i, i ≠ 0 → dynWithPath e u (.int i) true kq kf = .error .typeError) ∧
    (∀ t k, dynWithPath e u (.float t k) true kq kf =
      if k = 0 ∧ floatZeroTxt t = true then .garbage 0 else .error .typeError) ∧
    dynWithPath e u (.bytes []) true kq kf = .garbage 0 ∧
    (∀ c b, dynWithPath e u (.bytes (c :: b)) true kq kf = .garbage 1) ∧
    dynWithPath e u (.tuple []) true kq kf = .garbage 0 ∧
    dynWithPath e u (.list []) true kq kf = .error .typeError ∧
    dynWithPath e u (.dict []) true kq kf = .error .typeError ∧
    (∀ x xs, dynWithPath e u (.tuple (x :: xs)) true kq kf =
      if eqSlash x then (if hashable (.tuple (x :: xs)) then .garbage 0 else .error .typeError) else .garbage 1) ∧
    (∀ x xs, dynWithPath e u (.list (x :: xs)) true kq kf = if eqSlash x then .error .typeError else .garbage 1) ∧
    (∀ p ps, dynWithPath e u (.splitResult (p :: ps)) true kq kf = if p = [47] then .garbage 0 else .garbage 1) ∧
    (∀ kv items, dynWithPath e u (.dict (kv :: items)) true kq kf =
      match (kv :: items).find? (fun kv => isZeroKey kv.1) with
      | none => .error .keyError
      | some kv => if eqSlash kv.2 then .error .typeError else .garbage 1) ∧
    (∀ v, dynWithPath e u (.url v) true kq kf = if v.truthy then .error .typeError else .garbage 0) ∧
    (∀ t, dynWithPath e u (.other t) true kq kf = .error .typeError) :=
  C19_dyn_with_path_table e u kq kf

/-- COUNTEREXAMPLE, MODEL-LEVEL (each row is also a probe row of the real library): "either returns or raises
    ValueError … or TypeError" FAILS for `with_path` on non-str arguments, for every receiver: `URL("/a").with_path(None)`
    RETURNS a URL whose `_path` is None; `u.with_path(None / 0 / (), encoded=True)` return a URL whose `_path` is that
    object; `u.with_path(b"x", encoded=True)` returns the URL with path `/b'x'`; `u.with_path({1: 2}, encoded=True)` raises
    KeyError.  NOT a violation of C19 ("Given arguments of the documented types"); the restriction is NEEDED for `with_path`.
    Cites C19_dyn_with_path_leaks. -/
theorem C19_headline_dyn_kinds_fails_for_with_path_nonstr (e : Env) (u : Url) (kq kf : Bool) :
    (u.netloc = [] → dynWithPath e u .none false kq kf = .garbage 0) ∧
    dynWithPath e u .none true kq kf = .garbage 0 ∧
    dynWithPath e u (.int 0) true kq kf = .garbage 0 ∧
    dynWithPath e u (.tuple []) true kq kf = .garbage 0 ∧
    dynWithPath e u (.bytes [120]) true kq kf = .garbage 1 ∧
    dynWithPath e u (.dict [(.int 1, .int 2)]) true kq kf = .error .keyError :=
  C19_dyn_with_path_leaks e u kq kf

/-! # PART B — "an object that build() or a modifier returned can always be turned into a string", over the closure of
    ALL entry points incl. `encoded=True` (`ReachE`, ReachE.lean; GAPS 4) -/

/-! ## Sentence 1, first half over `ReachE` — only ValueError / TypeError -/

/-- the exception discipline restated for the whole closure: the three constructors / builders, and on a `ReachE` URL
    every operation of `UOp` (`applyOp`), `joinpath(…, encoded=True)` and every accessor raise only ValueError /
    TypeError (or ask the oracle); `raw_name`, `name`, `suffix`, `suffixes` are total.  A COROLLARY of
    `C19_headline_kinds_constructors` / `_modifiers` / `_accessors`, which hold for ALL records — the hypothesis `ReachE`
    is not used by the proof.  Cites C19_reachE_errors. -/
theorem C19_headline_reachE_kinds (e : Env) (err : PyErr) :
    (∀ s, encodeUrl e s = .error err → Allowed err) ∧
    (∀ s, preEncodedUrl e s = .error err → Allowed err) ∧
    (∀ a, build e a = .error err → Allowed err) ∧
    ∀ u, ReachE e u →                                -- obtained through the entry points, `encoded=True` included
      (∀ op, applyOp e u op = .error err → Allowed err) ∧
      (∀ paths, makeChild e u paths true = .error err → Allowed err) ∧
      ((str e u = .error err ∨ host e u = .error err ∨ hostSubcomponent e u = .error err ∨
        hostPortSubcomponent e u = .error err ∨ port e u = .error err ∨ isDefaultPort e u = .error err ∨
        authority e u = .error err ∨ user e u = .error err ∨ password e u = .error err ∨
        humanRepr e u = .error err ∨ rawUser e u = .error err ∨ rawPassword e u = .error err ∨
        rawHost e u = .error err ∨ explicitPort e u = .error err) → Allowed err) ∧
      (∃ n, rawName u = .ok n) ∧ (∃ n, name e u = .ok n) ∧ (∃ s, suffix e u = .ok s) ∧ (∃ l, suffixes e u = .ok l) :=
  C19_reachE_errors e err

/-! ## Sentence 1, second half over `ReachE` — which URLs can be turned into a string -/

/-- F-C19-encoded-str, EXACT form over the WHOLE closure (lifts `C19_headline_str_total_encoded_iff` from the two
    `encoded=True` producers to every `ReachE` URL): a `ReachE` URL can be turned into a string IF AND ONLY IF it is
    itself a result of the auto-encoding constructor `URL(s)` (those always print) or its stored authority splits; for a
    URL without pre-filled cache (every result but the constructor's own): iff its stored authority splits.
    Cites C19_reachE_str_total_iff, C19_reachE_str_total_iff_cache_free. -/
theorem C19_headline_reachE_str_total_iff (e : Env) (u : Url) :
    (ReachE e u →                                    -- obtained through the entry points, `encoded=True` included
      (StrOK e u ↔ ((∃ s, PyStr s ∧ encodeUrl e s = .ok u) ∨ Splits e u))) ∧
    (u.pre = none →                                  -- no pre-filled cache (`C19_headline_str_total_cache_free`)
      (StrOK e u ↔ Splits e u)) :=
  ⟨fun hr => C19_reachE_str_total_iff e u hr, fun hpre => C19_reachE_str_total_iff_cache_free e u hpre⟩

/-- the invariant `Printable` at the ENTRY POINTS: for the producers that fill no cache — `URL(s, encoded=True)` and
    `build(…)` in both modes — `Printable` is exactly "prints", which is exactly "the stored authority splits"; for the
    auto-encoding constructor `URL(s)` it follows from `GoodAuthority e s` (C09's guard: the IDNA answer introduces no
    delimiter; needed only against a hostile IDNA oracle: `C19_headline_str_total_constructor_fails_for_hostile_idna`).
    Cites C19_reachE_printable_entry_iff, C19_reachE_printable_ctor. -/
theorem C19_headline_reachE_printable_entry (e : Env) (u : Url) :
    (((∃ a, build e a = .ok u) ∨ (∃ s, preEncodedUrl e s = .ok u)) →   -- `u` is a build() / URL(s, encoded=True) result
      (Printable e u ↔ StrOK e u) ∧ (StrOK e u ↔ Splits e u)) ∧
    (∀ s, encodeUrl e s = .ok u →                    -- `u = URL(s)`
      GoodAuthority e s →                            -- C09's guard
      Printable e u) :=
  ⟨fun hmade => C19_reachE_printable_entry_iff e u hmade, fun s h hg => C19_reachE_printable_ctor e s u h hg⟩

/-- "… or a modifier returned": ONE operation of `UOp` (every modifier with `encoded=False`, parent, origin, relative,
    copy) keeps `Printable`.  Cites C19_reachE_printable_step. -/
theorem C19_headline_reachE_printable_step (e : Env) (u v : Url) (op : UOp)
    (hu : Printable e u)                             -- the receiver's authority splits, cache shape fine
    (hj : op.notJoinRef)                             -- not the model artefact `joinRef` (join: next theorem)
    (h : applyOp e u op = .ok v) :                   -- the operation returned `v`
    Printable e v :=
  C19_reachE_printable_step e u v op hu hj h

/-- "an object that build() or a modifier returned can always be turned into a string" over the closure of ALL entry
    points, as far as it is TRUE: if EVERY ENTRY-POINT RESULT in the history of a `ReachE` URL is `Printable`
    (`ReachEN (Printable e)`; see `C19_headline_reachE_printable_entry` for what that means per entry point), the URL is
    `Printable` and prints — through every modifier in every `encoded` mode (`with_path(…, encoded=True)` and
    `joinpath(…, encoded=True)` included) and `join`.  Contrapositive: an unprintable `ReachE` URL has an unprintable
    entry-point result in its history — F-C19-encoded-str arises ONLY from an authority stored unvalidated by
    `build(encoded=True)` / `URL(s, encoded=True)` (or from `URL(s)` under a hostile IDNA oracle).
    Cites C19_reachE_printable. -/
theorem C19_headline_reachE_str_total (e : Env) (u : Url)
    (h : ReachEN (Printable e) e u) :                -- `ReachE`, every entry-point result of the history `Printable`
    Printable e u ∧ StrOK e u :=
  C19_reachE_printable e u h

/-- KNOWN FINDING F-C19-encoded-str, inside `ReachE` (Python backend, empty oracle tables): `URL('http://h:x/',
    encoded=True)` and `URL.build(scheme='http', authority='h:99999', encoded=True)` are `ReachE` URLs whose stored
    authority does not split and whose `str()` raises ValueError; the unprintability is INHERITED by a modifier result
    that keeps the authority (`.with_path('/p', encoded=True)`: still `ReachE`, still unprintable), while `with_host('g')`
    — which must parse the old authority — raises ValueError.  So the hypothesis on the entry-point results in
    `C19_headline_reachE_str_total` is NEEDED.  Cites C19_reachE_str_total_fails_for_encoded. -/
theorem C19_headline_reachE_str_total_fails_for_encoded :
    let e0 : Env := ⟨.py, Oracles.empty⟩
    (∃ u, preEncodedUrl e0 "http://h:x/".toStr = .ok u ∧ ReachE e0 u ∧ ¬ Splits e0 u ∧ str e0 u = .error .valueError ∧
      ReachE e0 (withPath e0 u "/p".toStr true false false) ∧
      str e0 (withPath e0 u "/p".toStr true false false) = .error .valueError ∧
      withHost e0 u "g".toStr = .error .valueError) ∧
    (∃ u, build e0 { scheme := "http".toStr, authority := "h:99999".toStr, encoded := true } = .ok u ∧ ReachE e0 u ∧
      ¬ Splits e0 u ∧ str e0 u = .error .valueError) :=
  C19_reachE_str_total_fails_for_encoded

/-- NON-VACUITY of `C19_headline_reachE_str_total` (Python backend, empty oracle tables): a history that uses
    `URL("http://U:P@H:080/x", encoded=True)` (a NON-canonical but splittable authority), `with_path("/a%zz",
    encoded=True)`, `joinpath("b c", encoded=True)`, `with_user(None)` (which re-writes the port text "080" as "80") and
    `with_user("n")` satisfies `ReachEN (Printable e0)`, and `str()` of the result is `http://n@H/a%zz/b c` (the default
    port omitted).  Cites C19_reachE_printable_instance. -/
theorem C19_headline_reachE_str_total_instance :
    let e0 : Env := ⟨.py, Oracles.empty⟩
    ∃ u r, ReachEN (Printable e0) e0 u ∧ str e0 u = .ok r ∧ r = "http://n@H/a%zz/b c".toStr :=
  C19_reachE_printable_instance

/-! ## non-vacuity -/

-- PART A: the hypotheses of the joinpath theorem on concrete argument lists; a well-formed SplitResult; a non-str object
example : childScan [PyObj.str [97], .int 1, .str [47, 98]].reverse = ([[47, 98]], some (.int 1)) ∧
    [PyObj.strSub [120], .str [121]].map strLike = [[120], [121]].map some ∧
    strLike (.bytes [47, 120]) = none ∧ isNone (.bytes [47, 120]) = false :=
  ⟨by rfl, by decide, by decide, by decide⟩
-- … and through the headline theorem: `u.joinpath("a", 1, "/b")` is the leading-slash ValueError of "/b" (met first in
-- `reversed(…)`), `u.joinpath("/a", 1, "b")` the TypeError of the int
example (e : Env) (u : Url) :
    dynJoinpath e u [.str [97], .int 1, .str [47, 98]] false = .error .valueError ∧
    dynJoinpath e u [.str [47, 97], .int 1, .str [98]] false = .error .typeError :=
  ⟨(C19_headline_dyn_joinpath e u _ false).2.1 [[47, 98]] (.int 1) (by rfl),
   (C19_headline_dyn_joinpath e u _ false).2.1 [[98]] (.int 1) (by rfl)⟩
-- PART B: the printable history of C19_headline_reachE_str_total_instance prints, through the headline theorem
example : ∃ u, ReachE ⟨.py, Oracles.empty⟩ u ∧ StrOK ⟨.py, Oracles.empty⟩ u := by
  obtain ⟨u, _, h, _⟩ := C19_headline_reachE_str_total_instance
  exact ⟨u, h.toReachE, (C19_headline_reachE_str_total _ u h).2⟩

end Yarl
