import YarlProofs.C05Headline
import YarlProofs.C01ReachE
import YarlProofs.C19Dyn
/-!
  C05HeadlineMore3.lean — AUDIT LAYER for property C05, continuation of C05Headline.lean (the theorems here need
  ReachE.lean / C01ReachE.lean and C19Dyn.lean, which are newer than C05Headline.lean; this file is a leaf, nobody
  imports it).

  C05 | Pure-Python and compiled quoters are interchangeable |
  "For every quoter and unquoter configuration the library uses and every input string, the pure-Python and the
  compiled implementation return identical results (or raise the same exception type), including for outputs that
  cross the compiled implementation's 8 KiB buffer-growth boundaries. Every URL-level result is therefore
  independent of whether the C extension is available (YARL_NO_EXTENSIONS)."

  What is here:
   * GAPS 4 of C05Headline.lean, the remainder "records made with `encoded=True` are outside `Reach`; for them the
     hypothesis `PyStr u.query` … stays": discharged for EVERY URL made through ANY entry point of the model, the four
     `encoded=True` ones included (`ReachE`, ReachE.lean), because path, query and fragment of such a URL are Python
     strings unconditionally (`C01_reachE_components_python`).
   * GAPS 1 ("or raise the same exception type"), URL level only, MODEL level only: for the type-gated entry points of
     `yarl/_url.py` as transcribed in YarlModel/Dyn.lean (Python-level dynamic dispatch on an arbitrary object), the set
     of objects rejected with TypeError is the same on the two backends.  (The quoters' own TypeError for a non-str
     argument stays outside `a.run` / `quoteCW`: GAPS 1 of C05Headline.lean.)

  Vocabulary (new here).
  `ReachE e u`  — the closure of ALL entry points of the model (ReachE.lean): `URL(s)` and `URL(s, encoded=True)`,
                  `URL.build` in both modes, the 18 operations of `UOp` other than the model artefact `joinRef` with
                  Python-string arguments, `with_path(…, encoded=True)`, `joinpath(…, encoded=True)`, and `join` of two
                  such URLs.  The relation is indexed by the environment, hence by the backend `b` the URL was made on.
  `PyObj`, `dynWithScheme e u x`, … (YarlModel/Dyn.lean) — an arbitrary Python object and the entry points with their
                  `isinstance` / `type(...) is` gates in front of the typed functions of YarlModel/Url.lean.  This layer
                  is tied to CPython only by a run-time probe table (run on both quoter backends), not by proof.
-/
namespace Yarl
open Dyn

/-! ## Sentence 2 — "Every URL-level result is therefore independent of whether the C extension is available" — URLs
    made through ANY entry point, `encoded=True` included (GAPS 4, remainder) -/

/-- `update_query`, `without_query_params`, `with_scheme`, `join` agree on the two backends for EVERY URL obtainable
    through all entry points of the model (`ReachE`, made on EITHER backend `b`) — `URL(s, encoded=True)`,
    `URL.build(…, encoded=True)`, `with_path(…, encoded=True)`, `joinpath(…, encoded=True)` included — without a
    hypothesis on the stored query: the hypothesis `PyStr u.query` of C05_headline_remaining_modifiers_backend follows
    from `ReachE` (every text handed to an entry point is a Python string, and no operation leaves that class).
    All other URL-level statements of C05Headline.lean (constructors, accessors, the other modifiers) have no
    hypothesis on the URL record at all, so with this theorem every one of them holds on `ReachE`.
    Cites C05_headline_remaining_modifiers_backend (C05Headline.lean), C01_reachE_components_python (C01ReachE.lean). -/
theorem C05_headline_remaining_modifiers_backend_all_entry_points (b : Backend) (o : Oracles) (u : Url)
    (hreach : ReachE ⟨b, o⟩ u) :      -- made through any entry point, on either backend; arguments are Python strings
    (∀ a, DecLemmas.QArgPy a → updateQuery ⟨.py, o⟩ u a = updateQuery ⟨.c, o⟩ u a) ∧
    (∀ ns, withoutQueryParams ⟨.py, o⟩ u ns = withoutQueryParams ⟨.c, o⟩ u ns) ∧
    (∀ s, withScheme ⟨.py, o⟩ u s = withScheme ⟨.c, o⟩ u s) ∧
    (∀ r, join ⟨.py, o⟩ u r = join ⟨.c, o⟩ u r) :=
  C05_headline_remaining_modifiers_backend o u (C01_reachE_components_python ⟨b, o⟩ u hreach).2.1

/-! ## Sentence 1c — "(or raise the same exception type)" — TypeError at the type gates of the URL methods, MODEL level -/

/-- "(or raise the same exception type)", URL level, TypeError: for each type-gated entry point of the dynamic layer
    (YarlModel/Dyn.lean — with_scheme, with_user, with_password, with_host, with_port, with_fragment, with_name,
    with_suffix, join, `/`) and EVERY object `x` and receiver `u`, the call is rejected with TypeError on the pure-Python
    backend exactly when it is on the compiled backend: the condition is a property of the object alone
    (`C19_dyn_type_errors`: `isinstance(x, str)` / `None` / `type(x) is int` / `type(x) is URL`), checked before any
    quoter runs.  MODEL-LEVEL: about the Lean transcription of the gates, tied to CPython by the probe table of
    C19Dyn.lean (run on both quoter backends), not by proof.  NOT covered: the constructor (`C19_dyn_new_type_errors`
    has the same form, under a well-formedness hypothesis on SplitResult objects), the three query methods (C12Dyn.lean:
    `C12_dyn_rejects` / `C12_dyn_non_str_keys` hold for every `e`, no backend comparison is stated), `with_path` /
    `joinpath` (no type gate: C19_dyn_with_path_leaks, C19_dyn_joinpath_leaks), and the quoters' own TypeError.
    The comparison operators take no environment at all.  Cites C19_dyn_type_errors (C19Dyn.lean). -/
theorem C05_headline_type_gates_backend (o : Oracles) (u : Url) (x : PyObj) :
    (dynWithScheme ⟨.py, o⟩ u x = .error .typeError ↔ dynWithScheme ⟨.c, o⟩ u x = .error .typeError) ∧
    (dynWithUser ⟨.py, o⟩ u x = .error .typeError ↔ dynWithUser ⟨.c, o⟩ u x = .error .typeError) ∧
    (dynWithPassword ⟨.py, o⟩ u x = .error .typeError ↔ dynWithPassword ⟨.c, o⟩ u x = .error .typeError) ∧
    (dynWithHost ⟨.py, o⟩ u x = .error .typeError ↔ dynWithHost ⟨.c, o⟩ u x = .error .typeError) ∧
    (dynWithPort ⟨.py, o⟩ u x = .error .typeError ↔ dynWithPort ⟨.c, o⟩ u x = .error .typeError) ∧
    (dynWithFragment ⟨.py, o⟩ u x = .error .typeError ↔ dynWithFragment ⟨.c, o⟩ u x = .error .typeError) ∧
    (∀ kq kf, dynWithName ⟨.py, o⟩ u x kq kf = .error .typeError ↔ dynWithName ⟨.c, o⟩ u x kq kf = .error .typeError) ∧
    (∀ kq kf, dynWithSuffix ⟨.py, o⟩ u x kq kf = .error .typeError ↔
      dynWithSuffix ⟨.c, o⟩ u x kq kf = .error .typeError) ∧
    (dynJoin ⟨.py, o⟩ u x = .error .typeError ↔ dynJoin ⟨.c, o⟩ u x = .error .typeError) ∧
    (dynTruediv ⟨.py, o⟩ u x = .error .typeError ↔ dynTruediv ⟨.c, o⟩ u x = .error .typeError) := by
  obtain ⟨p1, p2, p3, p4, p5, p6, p7, p8, p9, p10, _⟩ := C19_dyn_type_errors ⟨.py, o⟩ u x
  obtain ⟨c1, c2, c3, c4, c5, c6, c7, c8, c9, c10, _⟩ := C19_dyn_type_errors ⟨.c, o⟩ u x
  exact ⟨p1.trans c1.symm, p2.trans c2.symm, p3.trans c3.symm, p4.trans c4.symm, p5.trans c5.symm, p6.trans c6.symm,
    fun kq kf => (p7 kq kf).trans (c7 kq kf).symm, fun kq kf => (p8 kq kf).trans (c8 kq kf).symm,
    p9.trans c9.symm, p10.trans c10.symm⟩

/-! ## non-vacuity -/

-- `URL('/p?a=é', encoded=True)` stores the raw non-ASCII query (outside `Reach`: the text is no QUERY_REQUOTER
-- output); it is in `ReachE`, and `update_query` / `without_query_params` agree on the two backends for it
example : ReachE ⟨.py, Oracles.empty⟩ (fromParts [] [] "/p".toStr [97, 61, 233] []) :=
  ReachE.ctorEnc [47, 112, 63, 97, 61, 233] _ (by decide +kernel) (by decide +kernel)

example (a : QArg) (ha : DecLemmas.QArgPy a) :
    updateQuery ⟨.py, Oracles.empty⟩ (fromParts [] [] "/p".toStr [97, 61, 233] []) a =
      updateQuery ⟨.c, Oracles.empty⟩ (fromParts [] [] "/p".toStr [97, 61, 233] []) a :=
  (C05_headline_remaining_modifiers_backend_all_entry_points .py Oracles.empty _
    (ReachE.ctorEnc [47, 112, 63, 97, 61, 233] _ (by decide +kernel) (by decide +kernel))).1 a ha

-- `with_port(True)`: a bool is an int, yet rejected with TypeError — on the compiled backend because on the pure-Python one
example (o : Oracles) (u : Url) : dynWithPort ⟨.c, o⟩ u (.bool true) = .error .typeError :=
  (C05_headline_type_gates_backend o u (.bool true)).2.2.2.2.1.mp
    ((C19_dyn_type_error_instances ⟨.py, o⟩ u).1 true)

end Yarl
