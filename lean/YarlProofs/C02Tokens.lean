/-
  C02Tokens.lean — property C02 in its positional form: a token-by-token relation between
  the input and the output of a quoter, from which "delimiter boundaries never change"
  follows (not only their number, which is `C02_literal_count` in C02.lean).
  `TokLemmas.delim_positions`, `TokLemmas.gen_split` and `TokLemmas.gen_partition` stand here and not in
  Lemmas/TokLemmas.lean: the last two need `run_eq_cOut` (C12Readback.lean), which sits above that file.
-/
import YarlModel
import YarlProofs.Lemmas.TokLemmas
import YarlProofs.C02
namespace Yarl

open OutLangLemmas QsLemmas WfLemmas TokLemmas

/-! ### the token relation -/

set_option linter.unusedVariables false in
/-- Requoting: the byte tokens of the output are, one by one, the byte tokens of the input
    rewritten as `TokRel` allows.  The binders `hs`, `hn` are not used (code points outside the Python
    range and lone surrogates contribute no byte on either side): proofs cite `TokLemmas.all2_cOut`. -/
theorem C02_tokens (t : QTab) (h : t.WF) (hreq : t.requote = true) (s : Str) (hs : PyStr s)
    (hn : NoSurrogate s) : All2 (TokRel t) (btoks s) (btoks (cOut t s)) := by
  exact all2_cOut t h hreq s

set_option linter.unusedVariables false in
/-- Non-requoting: every input byte becomes a literal (if safe) or its own escape; nothing is
    decoded (the input tokens are the UTF-8 bytes, '%' included).  The binders `hs`, `hn` are not used: proofs cite
    `TokLemmas.all2_cOut_nr`. -/
theorem C02_tokens_nr (t : QTab) (h : t.WF) (hnr : t.requote = false) (s : Str) (hs : PyStr s)
    (hn : NoSurrogate s) : All2 (TokRelNR t) ((utf8s s).map .lit) (btoks (cOut t s)) := by
  exact all2_cOut_nr t h hnr s

/-- every generated requoter, on both backends -/
theorem C02_tokens_gen (b : Backend) (a : QArgs) (ha : a ∈ Gen.allQuoters) (hreq : a.requote = true)
    (s : Str) (hs : PyStr s) (hn : NoSurrogate s) :
    All2 (TokRel (a.tab b)) (btoks s) (btoks (a.run b s)) := by
  rw [run_eq_cOut a ha b s hs, stripSurr_id s hn]
  exact all2_cOut _ (gen_tab_wf a ha b) (by rw [tab_requote, hreq]) s

/-- … without `NoSurrogate`: lone surrogates are dropped first -/
theorem C02_tokens_gen' (b : Backend) (a : QArgs) (ha : a ∈ Gen.allQuoters) (hreq : a.requote = true)
    (s : Str) (hs : PyStr s) :
    All2 (TokRel (a.tab b)) (btoks (stripSurr s)) (btoks (a.run b s)) := by
  rw [run_eq_cOut a ha b s hs]
  exact all2_cOut _ (gen_tab_wf a ha b) (by rw [tab_requote, hreq]) _

/-- every generated non-requoting quoter, on both backends -/
theorem C02_tokens_nr_gen (b : Backend) (a : QArgs) (ha : a ∈ Gen.allQuoters) (hnr : a.requote = false)
    (s : Str) (hs : PyStr s) :
    All2 (TokRelNR (a.tab b)) ((utf8s s).map .lit) (btoks (a.run b s)) := by
  rw [run_eq_cOut a ha b s hs, ← utf8s_stripSurr s]
  exact all2_cOut_nr _ (gen_tab_wf a ha b) (by rw [tab_requote, hnr]) _

/-- the token relation preserves the decoded byte except for the form-space: a related pair
    stands for the same byte, or is a literal space written as a literal '+' by a qs table -/
theorem TokRel_val {t : QTab} {x y : BTok} (hr : TokRel t x y) :
    y.val = x.val ∨ (t.qs = true ∧ x = .lit 32 ∧ y = .lit 43) := by
  cases x <;> cases y <;> simp only [TokRel] at hr
  · exact Or.inl hr.1
  · exact Or.inl hr.1
  · exact Or.inl hr.1
  · rcases hr with hr | ⟨h1, rfl, rfl⟩
    · exact Or.inl hr.1
    · exact Or.inr ⟨h1, rfl, rfl⟩

/-! ### delimiter status and position -/

namespace TokLemmas
/-- a protected character that is neither the form-space nor the form-plus sits, literal or escaped, at the same
    token positions before and after requoting -/
theorem delim_positions {t : QTab} (h : t.WF) (hreq : t.requote = true) {d : Nat} (hd : t.prot d = true)
    (hq : t.qs = true → d ≠ 32 ∧ d ≠ 43) (s : Str) :
    (btoks (cOut t s)).map (fun k => decide (k = .lit d)) = (btoks s).map (fun k => decide (k = .lit d)) ∧
    (btoks (cOut t s)).map (fun k => decide (k = .esc d)) = (btoks s).map (fun k => decide (k = .esc d)) :=
  ⟨map_btoks_cOut t h hreq s _ _ fun x => ((tokrel_delim h hd hq (tokRel_tokOut t x)).1).symm,
    map_btoks_cOut t h hreq s _ _ fun x => ((tokrel_delim h hd hq (tokRel_tokOut t x)).2).symm⟩
end TokLemmas

set_option linter.unusedVariables false in
/-- Delimiter status and POSITION.  For a protected character `d` the i-th token of the output
    is the literal `d` iff the i-th token of the input is, and it is the escape of `d` iff the
    input's is.  The side condition excludes, for form (qs) tables, '+' (see
    `C02_plus_positions_qs`) and also ' ' (see `C02_delimiter_positions_needs_ne32`; no
    generated table protects the space). -/
theorem C02_delimiter_positions (t : QTab) (h : t.WF) (hreq : t.requote = true) (d : Nat)
    (hd : t.prot d = true) (hd' : ¬ (t.qs = true ∧ (d = 43 ∨ d = 32))) (s : Str) (hs : PyStr s)
    (hn : NoSurrogate s) :
    (btoks (cOut t s)).map (fun k => decide (k = .lit d)) = (btoks s).map (fun k => decide (k = .lit d)) ∧
    (btoks (cOut t s)).map (fun k => decide (k = .esc d)) = (btoks s).map (fun k => decide (k = .esc d)) := by
  exact delim_positions h hreq hd (fun hqs => ⟨fun e => hd' ⟨hqs, Or.inr e⟩, fun e => hd' ⟨hqs, Or.inl e⟩⟩) s

/-- the side condition `¬ (t.qs = true ∧ d = 43)` alone suffices when the form table does not keep the space literal
    (`gen_space_unsafe`: true of every generated table) -/
theorem C02_delimiter_positions' (t : QTab) (h : t.WF) (hreq : t.requote = true) (d : Nat)
    (hd : t.prot d = true) (hd' : ¬ (t.qs = true ∧ d = 43)) (hsp : t.qs = true → t.safe 32 = false)
    (s : Str) (hs : PyStr s) (hn : NoSurrogate s) :
    (btoks (cOut t s)).map (fun k => decide (k = .lit d)) = (btoks s).map (fun k => decide (k = .lit d)) ∧
    (btoks (cOut t s)).map (fun k => decide (k = .esc d)) = (btoks s).map (fun k => decide (k = .esc d)) := by
  refine C02_delimiter_positions t h hreq d hd ?_ s hs hn
  rintro ⟨hqs, e | e⟩
  · exact hd' ⟨hqs, e⟩
  · subst e
    have := h.prot_safe 32 hd
    rw [hsp hqs] at this
    cases this

set_option linter.unusedVariables false in
/-- the same, index by index -/
theorem C02_delimiter_at (t : QTab) (h : t.WF) (hreq : t.requote = true) (d : Nat)
    (hd : t.prot d = true) (hd' : ¬ (t.qs = true ∧ (d = 43 ∨ d = 32))) (s : Str) (hs : PyStr s)
    (hn : NoSurrogate s) (i : Nat) :
    ((btoks (cOut t s))[i]? = some (.lit d) ↔ (btoks s)[i]? = some (.lit d)) ∧
    ((btoks (cOut t s))[i]? = some (.esc d) ↔ (btoks s)[i]? = some (.esc d)) := by
  have hq : t.qs = true → d ≠ 32 ∧ d ≠ 43 :=
    fun hqs => ⟨fun e => hd' ⟨hqs, Or.inr e⟩, fun e => hd' ⟨hqs, Or.inl e⟩⟩
  rw [btoks_cOut t h hreq s, List.getElem?_map]
  cases (btoks s)[i]? with
  | none => simp
  | some x =>
    obtain ⟨k1, k2⟩ := tokrel_delim h hd hq (tokRel_tokOut t x)
    simp only [Option.map_some, Option.some.injEq]
    exact ⟨(decide_eq_decide.1 k1).symm, (decide_eq_decide.1 k2).symm⟩

/-- the token lists have the same length: quoting neither merges nor splits byte tokens -/
theorem C02_token_count (t : QTab) (h : t.WF) (hreq : t.requote = true) (s : Str) :
    (btoks (cOut t s)).length = (btoks s).length := by
  rw [btoks_cOut t h hreq s, List.length_map]

set_option linter.unusedVariables false in
/-- '+' in a form table, stated precisely: the i-th output token is the literal '+' iff the
    i-th input token is the literal '+' or the literal space; it is the escape %2B iff the
    input's is -/
theorem C02_plus_positions_qs (t : QTab) (h : t.WF) (hreq : t.requote = true) (hqs : t.qs = true)
    (hp : t.prot 43 = true) (s : Str) (hs : PyStr s) (hn : NoSurrogate s) :
    (btoks (cOut t s)).map (fun k => decide (k = .lit 43)) =
      (btoks s).map (fun k => decide (k = .lit 43 ∨ k = .lit 32)) ∧
    (btoks (cOut t s)).map (fun k => decide (k = .esc 43)) =
      (btoks s).map (fun k => decide (k = .esc 43)) := by
  exact ⟨map_btoks_cOut t h hreq s _ _ fun x => ((tokrel_plus h hqs hp (tokRel_tokOut t x)).1).symm,
    map_btoks_cOut t h hreq s _ _ fun x => ((tokrel_plus h hqs hp (tokRel_tokOut t x)).2).symm⟩

namespace TokLemmas
/-- a form table that (unwisely) protects the space -/
def spaceProtTab : QTab :=
  { safe := fun c => c == 32, prot := fun c => c == 32, qs := true, requote := true }

theorem spaceProtTab_wf : spaceProtTab.WF where
  safe_ascii := fun c hc => by
    have : c = 32 := by simpa [spaceProtTab] using hc
    omega
  prot_safe := fun c hc => hc
  pct_unsafe := by decide
end TokLemmas

/-- With the side condition `¬ (t.qs = true ∧ d = 43)` only, the statement is false:
    a well-formed form table may protect the space, and the form rule "space → '+'" fires
    before the tables are consulted, so the literal space at position 0 is no longer one. -/
theorem C02_delimiter_positions_needs_ne32 :
    spaceProtTab.WF ∧ spaceProtTab.requote = true ∧ spaceProtTab.prot 32 = true ∧
    ¬ (spaceProtTab.qs = true ∧ 32 = 43) ∧ PyStr [32] ∧ NoSurrogate [32] ∧
    (btoks (cOut spaceProtTab [32])).map (fun k => decide (k = .lit 32)) = [false] ∧
    (btoks [32]).map (fun k => decide (k = .lit 32)) = [true] :=
  ⟨spaceProtTab_wf, rfl, rfl, by decide, by decide, by decide, by decide +kernel, by decide +kernel⟩

/-! ### splitting at a literal delimiter commutes with quoting -/

/-- abstract form (any table, requoting or not): for a protected, non-hex delimiter `d`
    (not ' ' or '+' for form tables) the j-th `d`-separated piece of the output is the quoted
    j-th piece of the input.  Quoting is not character-wise because of the two-character
    look-ahead after '%', but an escape never spans `d` since `d` is no hex digit. -/
theorem C02_split_commutes_tab (t : QTab) (h : t.WF) (d : Nat) (hd : t.prot d = true)
    (hhex : isHexC d = false) (hqs : t.qs = true → d ≠ 32 ∧ d ≠ 43) (s : Str) :
    splitOn d (cOut t s) = (splitOn d s).map (cOut t) :=
  splitOn_cOut t h ⟨hd, hhex, hqs⟩ s

/-- … and the split at the first occurrence of `d` -/
theorem C02_partition_commutes_tab (t : QTab) (h : t.WF) (d : Nat) (hd : t.prot d = true)
    (hhex : isHexC d = false) (hqs : t.qs = true → d ≠ 32 ∧ d ≠ 43) (s : Str) :
    partition d (cOut t s) =
      (cOut t (partition d s).1, (partition d s).2.1, cOut t (partition d s).2.2) :=
  partition_cOut t h ⟨hd, hhex, hqs⟩ s

namespace TokLemmas

theorem gen_split (a : QArgs) (ha : a ∈ Gen.allQuoters) (b : Backend) {d : Nat} (k : Tracked (a.tab b) d)
    (s : Str) (hs : PyStr s) :
    splitOn d (a.run b s) = (splitOn d s).map (a.run b) := by
  have hwf := gen_tab_wf a ha b
  rw [run_eq_cOut a ha b s hs, splitOn_cOut _ hwf k, splitOn_stripSurr (isSurrogate_of_lt (k.lt hwf)), List.map_map]
  apply List.map_congr_left
  intro p hp
  rw [run_eq_cOut a ha b p (DecLemmas.pyStr_of_subset (PathLemmas.splitOn_sub d s p hp) hs)]
  rfl

theorem gen_partition (a : QArgs) (ha : a ∈ Gen.allQuoters) (b : Backend) {d : Nat} (k : Tracked (a.tab b) d)
    (s : Str) (hs : PyStr s) :
    partition d (a.run b s) =
      (a.run b (partition d s).1, (partition d s).2.1, a.run b (partition d s).2.2) := by
  have hwf := gen_tab_wf a ha b
  rw [run_eq_cOut a ha b s hs, partition_cOut _ hwf k, partition_stripSurr (isSurrogate_of_lt (k.lt hwf)),
    run_eq_cOut a ha b _ (DecLemmas.pyStr_of_subset (partition_fst_sub d s) hs),
    run_eq_cOut a ha b _ (DecLemmas.pyStr_of_subset (partition_snd_sub d s) hs)]

end TokLemmas

set_option linter.unusedVariables false in
/-- paths: the j-th segment of the requoted path is the requoted j-th segment -/
theorem C02_split_commutes (b : Backend) (s : Str) (hs : PyStr s) (hn : NoSurrogate s) :
    splitOn 47 (Gen.PATH_REQUOTER.run b s) = (splitOn 47 s).map (Gen.PATH_REQUOTER.run b) :=
  gen_split _ mem_PATH_REQUOTER b ((gen_tracked b).1 47 (.inl rfl)).2 s hs

set_option linter.unusedVariables false in
/-- queries: the j-th '&'-separated pair of the requoted query is the requoted j-th pair -/
theorem C02_split_commutes_query (b : Backend) (s : Str) (hs : PyStr s) (hn : NoSurrogate s) :
    splitOn 38 (Gen.QUERY_REQUOTER.run b s) = (splitOn 38 s).map (Gen.QUERY_REQUOTER.run b) :=
  gen_split _ mem_QUERY_REQUOTER b ((gen_tracked b).2 38 (.inl rfl)).2 s hs

set_option linter.unusedVariables false in
/-- queries, the alternative pair separator ';' -/
theorem C02_split_commutes_query_semi (b : Backend) (s : Str) (hs : PyStr s) (hn : NoSurrogate s) :
    splitOn 59 (Gen.QUERY_REQUOTER.run b s) = (splitOn 59 s).map (Gen.QUERY_REQUOTER.run b) :=
  gen_split _ mem_QUERY_REQUOTER b ((gen_tracked b).2 59 (.inr (.inr rfl))).2 s hs

set_option linter.unusedVariables false in
/-- within a pair: the split at the first '=' commutes with requoting (key ↦ requoted key,
    value ↦ requoted value, and "no '=' at all" is preserved) -/
theorem C02_pair_split_commutes (b : Backend) (p : Str) (hp : PyStr p) (hn : NoSurrogate p) :
    partition 61 (Gen.QUERY_REQUOTER.run b p) =
      (Gen.QUERY_REQUOTER.run b (partition 61 p).1, (partition 61 p).2.1,
        Gen.QUERY_REQUOTER.run b (partition 61 p).2.2) :=
  gen_partition _ mem_QUERY_REQUOTER b ((gen_tracked b).2 61 (.inr (.inl rfl))).2 p hp

/-! ### the generated requoters: positions of their delimiters -/

/-- paths: '/' and '+' keep status and position -/
theorem C02_gen_path_delimiter_positions (b : Backend) (d : Nat) (hd : d = 47 ∨ d = 43) (s : Str)
    (hs : PyStr s) (hn : NoSurrogate s) :
    (btoks (Gen.PATH_REQUOTER.run b s)).map (fun k => decide (k = .lit d)) =
      (btoks s).map (fun k => decide (k = .lit d)) ∧
    (btoks (Gen.PATH_REQUOTER.run b s)).map (fun k => decide (k = .esc d)) =
      (btoks s).map (fun k => decide (k = .esc d)) := by
  have k := ((gen_tracked b).1 d hd).2
  rw [run_eq_cOut _ mem_PATH_REQUOTER b s hs, stripSurr_id s hn]
  exact delim_positions (gen_tab_wf _ mem_PATH_REQUOTER b) (tab_requote _ b) k.prot k.noqs s

/-- queries: '&', '=', ';' keep status and position -/
theorem C02_gen_query_delimiter_positions (b : Backend) (d : Nat) (hd : d = 38 ∨ d = 61 ∨ d = 59)
    (s : Str) (hs : PyStr s) (hn : NoSurrogate s) :
    (btoks (Gen.QUERY_REQUOTER.run b s)).map (fun k => decide (k = .lit d)) =
      (btoks s).map (fun k => decide (k = .lit d)) ∧
    (btoks (Gen.QUERY_REQUOTER.run b s)).map (fun k => decide (k = .esc d)) =
      (btoks s).map (fun k => decide (k = .esc d)) := by
  have k := ((gen_tracked b).2 d hd).2
  rw [run_eq_cOut _ mem_QUERY_REQUOTER b s hs, stripSurr_id s hn]
  exact delim_positions (gen_tab_wf _ mem_QUERY_REQUOTER b) (tab_requote _ b) k.prot k.noqs s

/-- queries: '+' — literal '+' of the output are exactly the literal '+' and literal spaces of
    the input, position by position; %2B stays %2B -/
theorem C02_gen_query_plus_positions (b : Backend) (s : Str) (hs : PyStr s) (hn : NoSurrogate s) :
    (btoks (Gen.QUERY_REQUOTER.run b s)).map (fun k => decide (k = .lit 43)) =
      (btoks s).map (fun k => decide (k = .lit 43 ∨ k = .lit 32)) ∧
    (btoks (Gen.QUERY_REQUOTER.run b s)).map (fun k => decide (k = .esc 43)) =
      (btoks s).map (fun k => decide (k = .esc 43)) := by
  rw [run_eq_cOut _ mem_QUERY_REQUOTER b s hs, stripSurr_id s hn]
  exact C02_plus_positions_qs _ (gen_tab_wf _ mem_QUERY_REQUOTER b) (tab_requote _ b) (tab_qs _ b)
    (gen_query_plus b).requoter_prot s hs hn

/-! ### the relation determines the output: `TokRel` is the graph of a function -/

/-- functional form of `C02_tokens`: the output tokens are the input tokens mapped one by one -/
theorem C02_tokens_map (t : QTab) (h : t.WF) (hreq : t.requote = true) (s : Str) :
    btoks (cOut t s) = (btoks s).map (tokOut t) :=
  btoks_cOut t h hreq s

/-! ### non-vacuity and concrete behaviour (`samplePath`, `sampleQuery` are defined in C02.lean) -/

namespace TokLemmas
/-- `%41%7e%2f/%2F%c3%A9` : escapes of unreserved characters, of the delimiter in both hex
    cases, and of the two UTF-8 bytes of 'é' -/
def sampleEsc : Str := [37, 52, 49, 37, 55, 101, 37, 50, 102, 47, 37, 50, 70, 37, 99, 51, 37, 65, 57]
/-- `x%3dy=%3D=z` : one pair whose key contains an escaped '=' and whose value contains both -/
def samplePair : Str := [120, 37, 51, 100, 121, 61, 37, 51, 68, 61, 122]
end TokLemmas

example : PyStr samplePath ∧ NoSurrogate samplePath ∧ PyStr sampleEsc ∧ NoSurrogate sampleEsc ∧
    PyStr samplePair ∧ NoSurrogate samplePair := by decide +kernel

/-- `a/b%2fc%2Fd+e%2b é%zz%` : literal and escaped '/', '+' (lower- and upper-case hex), a
    space, a non-ASCII character, a malformed escape and a trailing '%' -/
example : btoks samplePath =
    [.lit 97, .lit 47, .lit 98, .esc 47, .lit 99, .esc 47, .lit 100, .lit 43, .lit 101, .esc 43,
     .lit 32, .lit 195, .lit 169, .lit 37, .lit 122, .lit 122, .lit 37] := by decide +kernel

example (b : Backend) : btoks (Gen.PATH_REQUOTER.run b samplePath) =
    [.lit 97, .lit 47, .lit 98, .esc 47, .lit 99, .esc 47, .lit 100, .lit 43, .lit 101, .esc 43,
     .esc 32, .esc 195, .esc 169, .esc 37, .lit 122, .lit 122, .esc 37] := by
  cases b <;> decide +kernel

/-- the theorem on this input, and a direct check of the relation by computation -/
example (b : Backend) : All2 (TokRel (Gen.PATH_REQUOTER.tab b)) (btoks samplePath)
    (btoks (Gen.PATH_REQUOTER.run b samplePath)) :=
  C02_tokens_gen b _ (by decide +kernel) (by decide +kernel) samplePath (by decide +kernel) (by decide +kernel)

example : All2 (TokRel (Gen.PATH_REQUOTER.tab .c)) (btoks samplePath)
    (btoks (cOut (Gen.PATH_REQUOTER.tab .c) samplePath)) := by decide +kernel

/-- unreserved escapes are decoded, the delimiter's escapes are not (only their hex case is
    normalised), non-ASCII escapes stay -/
example : btoks sampleEsc = [.esc 65, .esc 126, .esc 47, .lit 47, .esc 47, .esc 195, .esc 169] := by
  decide +kernel

example (b : Backend) : Gen.PATH_REQUOTER.run b sampleEsc =
    [65, 126, 37, 50, 70, 47, 37, 50, 70, 37, 67, 51, 37, 65, 57] ∧
    btoks (Gen.PATH_REQUOTER.run b sampleEsc) =
      [.lit 65, .lit 126, .esc 47, .lit 47, .esc 47, .esc 195, .esc 169] := by
  cases b <;> decide +kernel

/-- `k=v&x%26y=%3d+%2B;é 😀` through the query requoter: '&', '=', ';', '+' literal and escaped;
    the literal space becomes a literal '+' -/
example : btoks sampleQuery =
    [.lit 107, .lit 61, .lit 118, .lit 38, .lit 120, .esc 38, .lit 121, .lit 61, .esc 61, .lit 43,
     .esc 43, .lit 59, .lit 195, .lit 169, .lit 32, .lit 240, .lit 159, .lit 152, .lit 128] := by
  decide +kernel

example (b : Backend) : btoks (Gen.QUERY_REQUOTER.run b sampleQuery) =
    [.lit 107, .lit 61, .lit 118, .lit 38, .lit 120, .esc 38, .lit 121, .lit 61, .esc 61, .lit 43,
     .esc 43, .lit 59, .esc 195, .esc 169, .lit 43, .esc 240, .esc 159, .esc 152, .esc 128] := by
  cases b <;> decide +kernel

/-- the non-requoting QUERY_PART_QUOTER on the same text: every delimiter and every '%' is
    escaped, nothing is decoded (25 byte tokens for 25 UTF-8 bytes) -/
example (b : Backend) : btoks (Gen.QUERY_PART_QUOTER.run b sampleQuery) =
    [.lit 107, .esc 61, .lit 118, .esc 38, .lit 120, .esc 37, .lit 50, .lit 54, .lit 121, .esc 61,
     .esc 37, .lit 51, .lit 100, .esc 43, .esc 37, .lit 50, .lit 66, .esc 59, .esc 195, .esc 169,
     .lit 43, .esc 240, .esc 159, .esc 152, .esc 128] := by
  cases b <;> decide +kernel

example (b : Backend) : All2 (TokRelNR (Gen.QUERY_PART_QUOTER.tab b)) ((utf8s sampleQuery).map .lit)
    (btoks (Gen.QUERY_PART_QUOTER.run b sampleQuery)) :=
  C02_tokens_nr_gen b _ (by decide +kernel) (by decide +kernel) sampleQuery (by decide +kernel)

/-- what the relation forbids for the path table: un-escaping or escaping a '/', leaving an
    unreserved escape, leaving a space; and what it demands -/
example (b : Backend) :
    ¬ TokRel (Gen.PATH_REQUOTER.tab b) (.esc 47) (.lit 47) ∧
    ¬ TokRel (Gen.PATH_REQUOTER.tab b) (.lit 47) (.esc 47) ∧
    ¬ TokRel (Gen.PATH_REQUOTER.tab b) (.esc 65) (.esc 65) ∧
    ¬ TokRel (Gen.PATH_REQUOTER.tab b) (.lit 32) (.lit 32) ∧
    ¬ TokRel (Gen.PATH_REQUOTER.tab b) (.lit 97) (.lit 98) ∧
    TokRel (Gen.PATH_REQUOTER.tab b) (.esc 47) (.esc 47) ∧
    TokRel (Gen.PATH_REQUOTER.tab b) (.esc 65) (.lit 65) ∧
    TokRel (Gen.PATH_REQUOTER.tab b) (.lit 37) (.esc 37) ∧
    TokRel (Gen.QUERY_REQUOTER.tab b) (.lit 32) (.lit 43) ∧
    ¬ TokRel (Gen.QUERY_REQUOTER.tab b) (.esc 43) (.lit 43) := by
  cases b <;> decide +kernel

/-- positions: literal '/' sits at token 1 only, its escapes at tokens 3 and 5, before and after -/
example (b : Backend) :
    (btoks (Gen.PATH_REQUOTER.run b samplePath)).map (fun k => decide (k = .lit 47)) =
      [false, true, false, false, false, false, false, false, false, false, false, false, false,
       false, false, false, false] ∧
    (btoks (Gen.PATH_REQUOTER.run b samplePath)).map (fun k => decide (k = .esc 47)) =
      [false, false, false, true, false, true, false, false, false, false, false, false, false,
       false, false, false, false] := by
  rw [(C02_gen_path_delimiter_positions b 47 (Or.inl rfl) samplePath (by decide +kernel) (by decide +kernel)).1,
    (C02_gen_path_delimiter_positions b 47 (Or.inl rfl) samplePath (by decide +kernel) (by decide +kernel)).2]
  decide +kernel

/-- splitting: two segments, each the requoted input segment (the second contains two escaped
    slashes and the malformed escape) -/
example (b : Backend) : splitOn 47 (Gen.PATH_REQUOTER.run b samplePath) =
    [[97], [98, 37, 50, 70, 99, 37, 50, 70, 100, 43, 101, 37, 50, 66, 37, 50, 48, 37, 67, 51, 37, 65, 57,
      37, 50, 53, 122, 122, 37, 50, 53]] := by
  rw [C02_split_commutes b samplePath (by decide +kernel) (by decide +kernel)]
  cases b <;> decide +kernel

example (b : Backend) : (splitOn 38 (Gen.QUERY_REQUOTER.run b sampleQuery)).length = 2 ∧
    splitOn 38 (Gen.QUERY_REQUOTER.run b sampleQuery) =
      [Gen.QUERY_REQUOTER.run b [107, 61, 118],
       Gen.QUERY_REQUOTER.run b [120, 37, 50, 54, 121, 61, 37, 51, 100, 43, 37, 50, 66, 59, 233, 32, 0x1F600]] := by
  rw [C02_split_commutes_query b sampleQuery (by decide +kernel) (by decide +kernel)]
  have e : splitOn 38 sampleQuery = [[107, 61, 118],
      [120, 37, 50, 54, 121, 61, 37, 51, 100, 43, 37, 50, 66, 59, 233, 32, 0x1F600]] := by decide +kernel
  rw [e]
  exact ⟨rfl, rfl⟩

/-- `x%3dy=%3D=z` : the key is `x%3dy` ↦ `x%3Dy`, the value `%3D=z` keeps its literal '=' -/
example (b : Backend) : partition 61 (Gen.QUERY_REQUOTER.run b samplePair) =
    ([120, 37, 51, 68, 121], true, [37, 51, 68, 61, 122]) := by
  rw [C02_pair_split_commutes b samplePair (by decide +kernel) (by decide +kernel)]
  cases b <;> decide +kernel

/-- the generated requoting tables satisfy the hypotheses of the abstract theorems -/
example (b : Backend) : (Gen.PATH_REQUOTER.tab b).WF ∧ (Gen.PATH_REQUOTER.tab b).requote = true ∧
    (Gen.PATH_REQUOTER.tab b).prot 47 = true ∧ (Gen.PATH_REQUOTER.tab b).prot 43 = true ∧
    (Gen.PATH_REQUOTER.tab b).qs = false ∧ isHexC 47 = false :=
  ⟨gen_tab_wf _ mem_PATH_REQUOTER b, tab_requote _ b, ((gen_tracked b).1 47 (.inl rfl)).2.prot,
    ((gen_tracked b).1 43 (.inr rfl)).2.prot, tab_qs _ b, by decide⟩

end Yarl
