/-
  C13UpToEq.lean — C13 GAPS item 5, the versions of (b)/(c) up to `==`: the composition laws of
  `joinpath` / `/` up to Python `==` (`Url.beq`: under an authority the empty path counts as "/").
    * `C13_joinpath_assoc_beq_iff`   — two arguments, either `encoded` mode: EXACT condition (`C13_beqStep`)
    * `C13_joinpath_assoc_stored_iff`— the stored-value iff, in either `encoded` mode (`C13_storedStep`)
    * `C13_beqStep_iff`              — the `==` condition is the stored one plus ONE clause (one-call list normalises to [""])
    * `C13_beq_stored_difference`    — `==` but stored differently: ONLY "" vs "/" under an authority
    * `C13_truediv_chain_beq`        — `(u / a) / b == u.joinpath(a, b)` iff the same condition
    * `C13_joinpath_nary_beq`        — n arguments, guard `C13_beqGuard` (the step condition at every peeling step);
      `C13_beqGuard_of_no_dotdot`: implied by the guard of `C13_joinpath_nary`
    * computed witnesses both ways, both backends, both `encoded` modes.
-/
import YarlProofs.C13More3
import YarlProofs.C10
namespace Yarl
open Yarl.PathLemmas Yarl.PathAlg PathMore R12b
open DotMore (climbs)
namespace JoinpathEq

theorem beq_fromParts (sc n p p' : Str) (hn : n.isEmpty = false) :
    (fromParts sc n p [] []).beq (fromParts sc n p' [] []) = true ↔
      (p = p' ∨ (p = [] ∧ p' = [47]) ∨ (p = [47] ∧ p' = [])) := by
  simp only [Url.beq, eqKey, fromParts, hn, decide_eq_true_eq, Parts.mk.injEq, true_and, and_true, Bool.not_false,
    Bool.and_true]
  cases p <;> cases p' <;> simp
  all_goals grind

theorem beq_refl' (a : Url) : a.beq a = true := by simp [Url.beq]
theorem beq_of_eq {a b : Url} (h : a = b) : a.beq b = true := by subst h; exact beq_refl' a
theorem beq_trans' {a b c : Url} (h1 : a.beq b = true) (h2 : b.beq c = true) : a.beq c = true := by
  simp only [Url.beq, decide_eq_true_eq] at *; rw [h1, h2]

/-- the segment-level computation, up to `==`: the stored condition of `R12b.fixed_core`, or the one-call list
    normalises to the single empty segment (stored paths "" and "/") -/
theorem fixed_core_beq (u : Url) (qa : Str) (SB : List Str) (nnB : Bool) (hn' : u.netloc.isEmpty = false)
    (hdot : 46 ∈ qa)
    (hnot : ¬ ∃ K', K' ≠ [] ∧ normalizePathSegments (root u.netloc (base u ++ splitOn 47 qa)) = [] :: K')
    (hSB0 : SB ≠ []) (hSBs : Segs SB)
    (hSBh : SB.head? ≠ some [] ∨ (SB = [[]] ∧ nnB = false))
    (hnnB : nnB = false → NoDots SB) :
    (childOf u (stripTrail (splitOn 47 qa) ++ SB) true).beq (childOf (childOf u (splitOn 47 qa) true) SB nnB) = true ↔
      ((nnB = false ∨
       climbs (stripTrail (normalizePathSegments (root u.netloc (base u ++ splitOn 47 qa)))).length SB = true ∨
       (normalizePathSegments
          (stripTrail (normalizePathSegments (root u.netloc (base u ++ splitOn 47 qa))) ++ SB)).head? ≠ some []) ∨
       normalizePathSegments
          (stripTrail (normalizePathSegments (root u.netloc (base u ++ splitOn 47 qa))) ++ SB) = [[]]) := by
  have hstored := fixed_core u qa SB nnB hn' hdot hnot hSB0 hSBs hSBh hnnB
  generalize hTdef : stripTrail (normalizePathSegments (root u.netloc (base u ++ splitOn 47 qa))) = T at hstored ⊢
  by_cases hc : (nnB = false ∨ climbs T.length SB = true ∨ (normalizePathSegments (T ++ SB)).head? ≠ some [])
  · exact iff_of_true (beq_of_eq (hstored.2 hc)) (Or.inl hc)
  -- the stored condition fails: second step normalises, no climb, the normalised list begins with ""
  obtain ⟨hTd, hTs, hs1, hn1, hT, hW⟩ := R4.first_step_stack u qa SB T hn' hdot hnot hSB0 hTdef
  rw [hW]
  simp only [not_or, Bool.not_eq_false, Bool.not_eq_true, Decidable.not_not] at hc
  obtain ⟨hnn, hcl0, hhead⟩ := hc
  subst hnn
  have hSBh' : SB.head? ≠ some [] := by
    rcases hSBh with h | h
    · exact h
    · exact absurd h.2 (by simp)
  obtain ⟨hM2, _, _⟩ := R4.second_step u qa SB T hn' hdot hnot hSBh' hSB0 hTdef
  have hcl : climbs 0 (T ++ SB) = climbs (T).length SB := by
    rw [climbs_noDots _ _ hTd, Nat.zero_add]
  have hZ0 : T ++ SB ≠ [] := List.append_ne_nil_of_right_ne_nil T hSB0
  rw [childOf_true _ _ (by rw [hn1]; exact hn'), hs1, hn1, hM2, beq_fromParts _ _ _ _ hn',
    DotMore.normalizePathSegments_root_noclimb _ hZ0 (by rw [hcl]; exact hcl0)]
  have hNZ0 := DotMore.normalizePathSegments_ne_nil _ hZ0
  rw [DotMore.joinC_root_cons _ hNZ0, DotMore.fixRoot_cons]
  obtain ⟨k', K'', hNZ⟩ := List.exists_cons_of_ne_nil hNZ0
  rw [hNZ] at hhead ⊢
  have hk' : k' = [] := by simpa using hhead
  subst hk'
  cases K'' with
  | nil => exact iff_of_true (Or.inr (Or.inl ⟨by decide, by decide⟩)) (Or.inr rfl)
  | cons k2 K3 =>
    refine iff_of_false ?_ ?_
    · rw [fixRoot_rooted _ (by simp), DotMore.joinC_root_cons _ (by simp)]
      simp
    · simp
      exact hcl0


end JoinpathEq

/-! ## vocabulary (`C13_left`, `C13_hroot`, `C13_storedStep`, `C13_first`: C13More3.lean) -/

/-- two outcomes are the same up to Python `==`: the same error, or two URLs with `a == b` (`Url.beq`: under an
    authority the empty path counts as "/") -/
def C13_resBeq (x y : R Url) : Bool :=
  match x, y with
  | .ok a, .ok b => a.beq b
  | .error e1, .error e2 => decide (e1 = e2)
  | _, _ => false

/-- the condition under which peeling the FIRST argument `a` off `u.joinpath(a, rest…)` changes nothing up to `==`.
    The first six clauses are the stored-value condition (`C13_joinpath_assoc_pair_iff`), the LAST one is new: the
    one-call segment list normalises to the single empty segment (stored paths "" and "/"). -/
def C13_beqStep (e : Env) (enc : Bool) (u : Url) (a : Str) (rest : List Str) : Prop :=
  u.netloc = [] ∨ 46 ∉ argText e enc a ∨ C13_hroot e enc u a ∨
  argDots e enc rest = false ∨
  climbs (C13_left e enc u a).length (argSegs e enc rest) = true ∨
  (normalizePathSegments (C13_left e enc u a ++ argSegs e enc rest)).head? ≠ some [] ∨
  normalizePathSegments (C13_left e enc u a ++ argSegs e enc rest) = [[]]

/-- the step condition at every peeling step of the iterated form -/
def C13_beqGuard (e : Env) (enc : Bool) : List Str → Url → Prop
  | a :: b :: r, u => C13_beqStep e enc u a (b :: r) ∧ C13_beqGuard e enc (b :: r) (C13_first e enc u a)
  | _, _ => True

namespace JoinpathEq

theorem resBeq_of_eq {x y : R Url} (h : x = y) : C13_resBeq x y = true := by
  subst h
  cases x with
  | ok a => exact beq_refl' a
  | error er => simp [C13_resBeq]

theorem resBeq_trans {x y z : R Url} (h1 : C13_resBeq x y = true) (h2 : C13_resBeq y z = true) :
    C13_resBeq x z = true := by
  cases x <;> cases y <;> cases z <;> simp [C13_resBeq] at h1 h2 ⊢
  · rw [h1, h2]
  · exact beq_trans' h1 h2

theorem resBeq_ok (a b : Url) : C13_resBeq (.ok a) (.ok b) = a.beq b := rfl

/-- one peeling step up to `==`: the stored condition (`R12b.step_stored`) or the one extra clause -/
theorem step_beq (e : Env) (enc : Bool) (u : Url) (a b : Str) (r : List Str)
    (hh : ∀ p ∈ a :: b :: r, p.head? ≠ some 47)
    (hq : ∀ p ∈ b :: r, (argText e enc p).head? ≠ some 47) :
    C13_resBeq (makeChild e u (a :: b :: r) enc) (makeChild e (C13_first e enc u a) (b :: r) enc) = true ↔
      C13_beqStep e enc u a (b :: r) := by
  by_cases hs : C13_storedStep e enc u a (b :: r)
  · refine iff_of_true (resBeq_of_eq ((step_stored e enc u a b r hh hq).2 hs)) ?_
    unfold C13_beqStep
    unfold C13_storedStep at hs
    simp only [← or_assoc] at hs ⊢
    exact Or.inl hs
  · -- the stored condition fails: authority, a '.' in `a`, `hroot` fails
    have hn' : u.netloc ≠ [] := fun h => hs (Or.inl h)
    have hm : 46 ∈ argText e enc a := Classical.not_not.1 fun h => hs (Or.inr (Or.inl h))
    have hroot : ¬ C13_hroot e enc u a := fun h => hs (Or.inr (Or.inr (Or.inl h)))
    have hn : u.netloc.isEmpty = false := by simpa using hn'
    have hSBh : (argSegs e enc (b :: r)).head? ≠ some [] ∨
        (argSegs e enc (b :: r) = [[]] ∧ argDots e enc (b :: r) = false) := by
      rcases argSegs_head e enc (b :: r) (by simp) hq with h | h
      · exact Or.inl h
      · exact Or.inr ⟨h, argDots_of_single_nil e enc _ h⟩
    have hb := fixed_core_beq u (argText e enc a) (argSegs e enc (b :: r)) (argDots e enc (b :: r)) hn hm hroot
      (argSegs_ne_nil e enc _ (by simp)) (segs_argSegs e enc _) hSBh (argDots_false e enc _)
    unfold C13_first
    rw [makeChild_cons e u a b r enc hh,
      makeChild_n e _ (b :: r) enc (fun p hp => hh p (List.mem_cons_of_mem _ hp)), resBeq_ok,
      mem_iff.2 hm, Bool.or_true, hb]
    unfold C13_beqStep C13_left
    simp only [hn', hm, hroot, not_true_eq_false, false_or, or_assoc]

theorem first_netloc (e : Env) (enc : Bool) (u : Url) (a : Str) : (C13_first e enc u a).netloc = u.netloc := by
  unfold C13_first childOf
  split <;> rfl

end JoinpathEq
open JoinpathEq

/-! ## (b) two arguments, the EXACT condition up to `==` (either `encoded` mode) -/

/-- `u.joinpath(a, b) == u.joinpath(a).joinpath(b)` (Python `==`, errors compared as errors) IF AND ONLY IF
    `C13_beqStep`: no authority, or no '.' in the text of `a`, or `hroot`, or no '.' in the text of `b`, or `b` climbs
    above what the first step left, or the one-call list does not normalise to something beginning with an empty
    segment, or it normalises to EXACTLY the single empty segment.  Either `encoded` mode.  Hypotheses: the first step
    succeeds; `b` and its text do not start with '/' (for `b` starting with '/' both raise ValueError). -/
theorem C13_joinpath_assoc_beq_iff (e : Env) (enc : Bool) (u : Url) (a b : Str) (v1 : Url)
    (h1 : makeChild e u [a] enc = .ok v1)
    (hb0 : b.head? ≠ some 47) (hqb0 : (argText e enc b).head? ≠ some 47) :
    C13_resBeq (makeChild e u [a, b] enc) (makeChild e v1 [b] enc) = true ↔ C13_beqStep e enc u a [b] := by
  have ha0 : a.head? ≠ some 47 := heads_of_ok e u [a] enc v1 h1 a (by simp)
  rw [makeChild_single e u a enc ha0] at h1
  cases h1
  exact step_beq e enc u a b [] (by simp [ha0, hb0]) (by simpa using hqb0)

/-- the same for STORED values, now in either `encoded` mode (`C13_joinpath_assoc_pair_iff` is `encoded=False`) -/
theorem C13_joinpath_assoc_stored_iff (e : Env) (enc : Bool) (u : Url) (a b : Str) (v1 : Url)
    (h1 : makeChild e u [a] enc = .ok v1)
    (hb0 : b.head? ≠ some 47) (hqb0 : (argText e enc b).head? ≠ some 47) :
    makeChild e u [a, b] enc = makeChild e v1 [b] enc ↔ C13_storedStep e enc u a [b] := by
  have ha0 : a.head? ≠ some 47 := heads_of_ok e u [a] enc v1 h1 a (by simp)
  rw [makeChild_single e u a enc ha0] at h1
  cases h1
  exact step_stored e enc u a b [] (by simp [ha0, hb0]) (by simpa using hqb0)

/-- the two conditions differ by exactly one clause -/
theorem C13_beqStep_iff (e : Env) (enc : Bool) (u : Url) (a : Str) (rest : List Str) :
    C13_beqStep e enc u a rest ↔
      (C13_storedStep e enc u a rest ∨
        normalizePathSegments (C13_left e enc u a ++ argSegs e enc rest) = [[]]) := by
  unfold C13_beqStep C13_storedStep
  simp only [or_assoc]

/-- when the two forms are `==` but stored differently, the difference is ONLY "" vs "/" under an authority -/
theorem C13_beq_stored_difference (a b : Url) (h : a.beq b = true) (hp : a.path ≠ b.path) :
    a.netloc ≠ [] ∧ a.netloc = b.netloc ∧ ((a.path = [] ∧ b.path = [47]) ∨ (a.path = [47] ∧ b.path = [])) := by
  simp only [Url.beq, eqKey, decide_eq_true_eq, Parts.mk.injEq] at h
  obtain ⟨_, hn, hpp, _, _⟩ := h
  rw [← hn] at hpp
  cases hn0 : a.netloc with
  | nil =>
    rw [hn0] at hpp
    simp at hpp
    exact absurd hpp hp
  | cons c n =>
    rw [hn0] at hpp
    refine ⟨by simp, by rw [← hn, hn0], ?_⟩
    cases ha : a.path <;> cases hb : b.path <;> simp [ha, hb] at hpp hp ⊢
    · exact ⟨hpp.1.symm, hpp.2⟩
    · exact hpp
    · exact absurd hpp.2 (hp hpp.1)

/-! ## (d) the `/` chain -/

/-- `(u / a) / b == u.joinpath(a, b)` (Python `==`) IF AND ONLY IF `C13_beqStep` — `/` is `joinpath` with one argument,
    `encoded=False` -/
theorem C13_truediv_chain_beq (e : Env) (u : Url) (a b : Str)
    (ha0 : a.head? ≠ some 47) (hb0 : b.head? ≠ some 47) (hqb0 : (q e Gen.PATH_QUOTER b).head? ≠ some 47) :
    C13_resBeq (makeChild e u [a] false >>= fun v => makeChild e v [b] false) (makeChild e u [a, b] false) = true ↔
      C13_beqStep e false u a [b] := by
  rw [makeChild_single e u a false ha0]
  show C13_resBeq (makeChild e (C13_first e false u a) [b] false) _ = true ↔ _
  rw [← step_beq e false u a b [] (by simp [ha0, hb0]) (by simpa [argText] using hqb0)]
  simp only [C13_resBeq, Url.beq]
  cases makeChild e (C13_first e false u a) [b] false <;> cases makeChild e u [a, b] false <;>
    simp [eq_comm]

/-! ## (a) n arguments -/

/-- `u.joinpath(a₁, …, aₙ) == u.joinpath(a₁).joinpath(a₂)…joinpath(aₙ)` (Python `==`; n ≥ 1, either `encoded` mode) when
    the step condition `C13_beqStep` holds at every peeling step (`C13_beqGuard`).  Hypothesis `hq`: the TEXT of an
    argument that does not start with '/' does not start with '/' either (trivial for `encoded=True`; for
    `encoded=False` true for every string without lone surrogates, `q_path_head`). -/
theorem C13_joinpath_nary_beq (e : Env) (enc : Bool) : ∀ (ps : List Str) (u : Url), ps ≠ [] →
    (∀ p ∈ ps, p.head? ≠ some 47 → (argText e enc p).head? ≠ some 47) →
    C13_beqGuard e enc ps u →
    C13_resBeq (makeChild e u ps enc) (ps.foldlM (fun v a => makeChild e v [a] enc) u) = true := by
  intro ps u hne hq hg
  refine nary_of_step e enc (fun x y => C13_resBeq x y = true) (fun x => resBeq_of_eq rfl) resBeq_trans
    (fun ps u => (∀ p ∈ ps, p.head? ≠ some 47 → (argText e enc p).head? ≠ some 47) ∧ C13_beqGuard e enc ps u)
    ?_ ?_ ps u hne ⟨hq, hg⟩
  · intro u a b r hG hh
    exact (step_beq e enc u a b r hh
      (fun p hp => hG.1 p (List.mem_cons_of_mem _ hp) (hh p (List.mem_cons_of_mem _ hp)))).2 hG.2.1
  · intro u a b r hG
    exact ⟨fun p hp => hG.1 p (List.mem_cons_of_mem _ hp), hG.2.2⟩

/-- the guard is WEAKER than the stored-value guard of `C13_joinpath_nary` (no ".." segment in the old path or in any
    argument but the last, under an authority) -/
theorem C13_beqGuard_of_no_dotdot (e : Env) (enc : Bool) : ∀ (ps : List Str) (u : Url),
    (u.netloc ≠ [] → dotdot ∉ splitOn 47 u.path ∧ ∀ a ∈ ps.dropLast, dotdot ∉ splitOn 47 (argText e enc a)) →
    C13_beqGuard e enc ps u := by
  intro ps
  induction ps with
  | nil => intro u _; trivial
  | cons a ps ih =>
    intro u hdd
    cases ps with
    | nil => trivial
    | cons b r =>
      have hda : (a :: b :: r).dropLast = a :: (b :: r).dropLast := by simp
      rw [hda] at hdd
      refine ⟨?_, ih _ ?_⟩
      · by_cases hn : u.netloc = []
        · exact Or.inl hn
        · by_cases hm : 46 ∈ argText e enc a
          · exact Or.inr (Or.inr (Or.inl
              (childRoot_norm_keeps_root u _ hn hm (hdd hn).1 ((hdd hn).2 a (by simp)))))
          · exact Or.inr (Or.inl hm)
      · intro hn1
        rw [first_netloc] at hn1
        obtain ⟨h1, h2⟩ := hdd hn1
        exact ⟨child_guard u _ hn1 h1 (h2 a (by simp)), fun x hx => h2 x (List.mem_cons_of_mem _ hx)⟩


/-! ## (c) computed witnesses, both backends, both `encoded` modes -/

/-- POSITIVE: the "stored only" counterexample of GAPS item 5 — `URL("http://h").joinpath("..", ".")` is `http://h`,
    `(URL("http://h") / "..") / "."` is `http://h/` — is equal under `==`; the guard holds by its LAST clause only (the
    stored condition fails: the stored values differ); the guard of `C13_joinpath_nary` fails (".." argument) -/
theorem C13_joinpath_beq_stored_only_instance : ∀ (bk : Backend) (enc : Bool),
    let e : Env := ⟨bk, Oracles.empty⟩
    let u := fromParts "http".toStr "h".toStr [] [] []
    let ps := ["..".toStr, ".".toStr]
    makeChild e u ps enc = .ok u ∧
    ps.foldlM (fun v a => makeChild e v [a] enc) u = .ok (fromParts "http".toStr "h".toStr "/".toStr [] []) ∧
    makeChild e u ps enc ≠ ps.foldlM (fun v a => makeChild e v [a] enc) u ∧
    C13_resBeq (makeChild e u ps enc) (ps.foldlM (fun v a => makeChild e v [a] enc) u) = true ∧
    normalizePathSegments (C13_left e enc u "..".toStr ++ argSegs e enc [".".toStr]) = [[]] ∧
    C13_beqGuard e enc ps u ∧ ¬ C13_storedStep e enc u "..".toStr [".".toStr] ∧
    dotdot ∈ splitOn 47 (argText e enc "..".toStr) := by
  intro bk enc e u ps
  -- everything that can be computed, in one evaluation per backend and mode
  have hev : makeChild e u ps enc = .ok u ∧
      ps.foldlM (fun v a => makeChild e v [a] enc) u = .ok (fromParts "http".toStr "h".toStr "/".toStr [] []) ∧
      makeChild e u ["..".toStr] enc = .ok u ∧
      normalizePathSegments (C13_left e enc u "..".toStr ++ argSegs e enc [".".toStr]) = [[]] ∧
      dotdot ∈ splitOn 47 (argText e enc "..".toStr) ∧ (argText e enc ".".toStr).head? ≠ some 47 := by
    simp only [e, u, ps]; str_lits; cases bk <;> cases enc <;> decide +kernel
  obtain ⟨h1, h2, hv, h5, h8, hq⟩ := hev
  have h3 : makeChild e u ps enc ≠ ps.foldlM (fun v a => makeChild e v [a] enc) u := by
    rw [h1, h2]; decide
  refine ⟨h1, h2, h3, by rw [h1, h2]; decide, h5,
    ⟨Or.inr (Or.inr (Or.inr (Or.inr (Or.inr (Or.inr h5))))), trivial⟩, ?_, h8⟩
  intro hs
  apply h3
  have := (C13_joinpath_assoc_stored_iff e enc u "..".toStr ".".toStr u hv (by decide) hq).2 hs
  rw [this]
  simp only [ps, List.foldlM_cons, List.foldlM_nil]
  rw [hv]
  exact (bind_pure_R _).symm

/-- NEGATIVE: `URL("http://h").joinpath("..", ".//x")` is `http://h/x`, `(URL("http://h") / "..") / ".//x"` is
    `http://h//x`: different under `==` too; `C13_beqStep` fails (by the iff) -/
theorem C13_joinpath_beq_fails_for_double_slash : ∀ (bk : Backend) (enc : Bool),
    let e : Env := ⟨bk, Oracles.empty⟩
    let u := fromParts "http".toStr "h".toStr [] [] []
    makeChild e u ["..".toStr, ".//x".toStr] enc = .ok (fromParts "http".toStr "h".toStr "/x".toStr [] []) ∧
    makeChild e u ["..".toStr] enc = .ok u ∧
    makeChild e u [".//x".toStr] enc = .ok (fromParts "http".toStr "h".toStr "//x".toStr [] []) ∧
    C13_resBeq (makeChild e u ["..".toStr, ".//x".toStr] enc) (makeChild e u [".//x".toStr] enc) = false ∧
    ¬ C13_beqStep e enc u "..".toStr [".//x".toStr] := by
  intro bk enc e u
  have hev : (makeChild e u ["..".toStr, ".//x".toStr] enc = .ok (fromParts "http".toStr "h".toStr "/x".toStr [] []) ∧
      makeChild e u ["..".toStr] enc = .ok u ∧
      makeChild e u [".//x".toStr] enc = .ok (fromParts "http".toStr "h".toStr "//x".toStr [] []) ∧
      C13_resBeq (makeChild e u ["..".toStr, ".//x".toStr] enc) (makeChild e u [".//x".toStr] enc) = false) ∧
      (argText e enc ".//x".toStr).head? ≠ some 47 := by
    simp only [e, u]; str_lits; cases bk <;> cases enc <;> decide +kernel
  obtain ⟨⟨h1, hv, h2, h4⟩, hq⟩ := hev
  refine ⟨h1, hv, h2, h4, ?_⟩
  intro hs
  have := (C13_joinpath_assoc_beq_iff e enc u "..".toStr ".//x".toStr u hv (by decide) hq).2 hs
  rw [h4] at this
  cases this

/-- NEGATIVE, n = 3: `URL("http://h").joinpath("..", ".//x", "y")` is `http://h/x/y`, the iterated form is
    `http://h//x/y`: different under `==` -/
theorem C13_joinpath_nary_beq_fails_for_double_slash : ∀ (bk : Backend) (enc : Bool),
    let e : Env := ⟨bk, Oracles.empty⟩
    let u := fromParts "http".toStr "h".toStr [] [] []
    let ps := ["..".toStr, ".//x".toStr, "y".toStr]
    makeChild e u ps enc = .ok (fromParts "http".toStr "h".toStr "/x/y".toStr [] []) ∧
    ps.foldlM (fun v a => makeChild e v [a] enc) u = .ok (fromParts "http".toStr "h".toStr "//x/y".toStr [] []) ∧
    C13_resBeq (makeChild e u ps enc) (ps.foldlM (fun v a => makeChild e v [a] enc) u) = false := by
  str_lits; intro bk enc; cases bk <;> cases enc <;> decide +kernel

/-- POSITIVE, n = 3, non-vacuity of `C13_joinpath_nary_beq` outside every stored-value guard:
    `URL("http://h").joinpath("x", "../..", ".")` is `http://h`, the iterated form `http://h/` -/
theorem C13_joinpath_nary_beq_instance : ∀ (bk : Backend) (enc : Bool),
    let e : Env := ⟨bk, Oracles.empty⟩
    let u := fromParts "http".toStr "h".toStr [] [] []
    let ps := ["x".toStr, "../..".toStr, ".".toStr]
    (∀ p ∈ ps, p.head? ≠ some 47 → (argText e enc p).head? ≠ some 47) ∧
    C13_beqGuard e enc ps u ∧
    makeChild e u ps enc = .ok u ∧
    ps.foldlM (fun v a => makeChild e v [a] enc) u = .ok (fromParts "http".toStr "h".toStr "/".toStr [] []) ∧
    C13_resBeq (makeChild e u ps enc) (ps.foldlM (fun v a => makeChild e v [a] enc) u) = true := by
  intro bk enc e u ps
  have hev : (∀ p ∈ ps, p.head? ≠ some 47 → (argText e enc p).head? ≠ some 47) ∧
      makeChild e u ps enc = .ok u ∧
      ps.foldlM (fun v a => makeChild e v [a] enc) u = .ok (fromParts "http".toStr "h".toStr "/".toStr [] []) ∧
      46 ∉ argText e enc "x".toStr ∧
      normalizePathSegments (C13_left e enc (C13_first e enc u "x".toStr) "../..".toStr ++
        argSegs e enc [".".toStr]) = [[]] := by
    simp only [e, u, ps]; str_lits; cases bk <;> cases enc <;> decide +kernel
  obtain ⟨hq, h1, h2, hc, hN⟩ := hev
  have hg : C13_beqGuard e enc ps u :=
    ⟨Or.inr (Or.inl hc), Or.inr (Or.inr (Or.inr (Or.inr (Or.inr (Or.inr hN))))), trivial⟩
  exact ⟨hq, hg, h1, h2, C13_joinpath_nary_beq e enc ps u (by simp [ps]) hq hg⟩

/-! ## non-vacuity of the hypothesis sets -/

-- `C13_joinpath_assoc_beq_iff` / `C13_joinpath_assoc_stored_iff` / `C13_truediv_chain_beq`: the hypotheses hold for
-- u = http://h, a = "..", b = "." (used in `C13_joinpath_beq_stored_only_instance`); `C13_truediv_chain_beq` there:
example : ∀ bk : Backend,
    let e : Env := ⟨bk, Oracles.empty⟩
    let u := fromParts "http".toStr "h".toStr [] [] []
    C13_resBeq (makeChild e u ["..".toStr] false >>= fun v => makeChild e v [".".toStr] false)
      (makeChild e u ["..".toStr, ".".toStr] false) = true := by
  intro bk e u
  refine (C13_truediv_chain_beq e u _ _ (by decide) (by decide) ?_).2
    (Or.inr (Or.inr (Or.inr (Or.inr (Or.inr (Or.inr ?_))))))
  · cases bk <;> decide +kernel
  · cases bk <;> decide +kernel

-- `C13_beq_stored_difference`: http://h vs http://h/
example : let a := fromParts "http".toStr "h".toStr [] [] []
    let b := fromParts "http".toStr "h".toStr "/".toStr [] []
    a.beq b = true ∧ a.path ≠ b.path := by decide

-- `C13_beqGuard_of_no_dotdot`: the hypothesis holds for http://h/k and ["a.b", "c", ".."]
example : let u := fromParts "http".toStr "h".toStr "/k".toStr [] []
    u.netloc ≠ [] ∧ dotdot ∉ splitOn 47 u.path ∧
      ∀ a ∈ ["a.b".toStr, "c".toStr, "..".toStr].dropLast, dotdot ∉ splitOn 47 (argText ⟨.c, Oracles.empty⟩ true a) := by
  str_lits; decide +kernel

end Yarl
