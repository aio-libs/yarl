import YarlProofs.C13Headline
import YarlProofs.C13HeadlineMore4
import YarlProofs.C13SlashParent
import YarlProofs.C13UpToEq
/-!
# C13 — Path operations compose like a path algebra   (audit layer, sixth part)

Continuation of `C13Headline.lean` / `C13HeadlineMore.lean` / `C13HeadlineMore3.lean` / `C13HeadlineMore4.lean`: headline
theorems for the two proof modules added after the last refresh, `C13SlashParent.lean` and `C13UpToEq.lean` (both over
`C13More3.lean`).  This file is a leaf, nobody imports it.  It covers the last paragraph of GAPS item 4 of
`C13Headline.lean` (the no-dot-segment guard of `(u / "a/b").parent == u / "a"`) and, in GAPS item 5, the versions of
(b)/(c) up to `==`, the fixed-pair condition in either `encoded` mode and n ≥ 3 arguments (a guard up to `==`; still
sufficient only).

Property statement (verbatim):

> raw_parts re-compose to raw_path, name is the last part and suffix/suffixes are the tail of name.
> u / s equals u.joinpath(s), has name s (for s not a dot segment) and parent parts equal to u's parts
> without a trailing empty segment; joinpath(a, b), joinpath(a).joinpath(b) and u / 'a/b' are equal;
> with_name(n) has name n and the same parent; with_suffix(x) replaces only the suffix and leaves the
> rest of the (decoded) name and all other segments exactly as they were, never re-encoding them.

What is here (numbers: GAPS items of `C13Headline.lean`).
 * GAPS 4, last line — `(u / "a/b").parent == u / "a"` under an authority, `a` and `b` plain segments.  `_make_child`
   normalises exactly when the argument text contains a '.', so the two sides are normalised INDEPENDENTLY:
   `C13_headline_child_slash_parent_iff` — equal as STORED values whenever `a` has a '.' or `b` has none, WHATEVER the old
   path; for an empty-or-rooted old path equal IF AND ONLY IF ('.' in `a`, or no '.' in `b`, or no dot segment in the old
   path): the guard is needed only for "'.' in `b`, none in `a`", and there it is exact.
   `C13_headline_child_slash_parent_unguarded` (the corollary without guard), `…_iff_encoded` (`encoded=True`),
   `…_iff_closed_forms` (either mode, on the argument texts, with the closed forms of both sides),
   `…_no_authority` / `…_no_authority_encoded` / `…_no_authority_either_mode` (without an authority nothing is ever
   normalised: the law holds for ANY old path and dot-segment arguments), and the computed
   `…_fails_for_dotted_old_path` (the guard is needed), `…_holds_on_dotted_old_path`, `…_no_authority_instances`.
 * GAPS 5 — the composition laws of `joinpath` / `/` up to Python `==` (`Url.beq`: under an authority the empty path counts
   as "/"), either `encoded` mode:
   `C13_headline_joinpath_assoc_beq_iff` — `u.joinpath(a, b) == u.joinpath(a).joinpath(b)` IF AND ONLY IF `C13_beqStep`;
   `C13_headline_joinpath_assoc_stored_iff` — the STORED-value iff in either mode (`C13_storedStep`; item 5 (c) was
   `encoded=False` only); `C13_headline_beqStep_def` — both conditions spelled out, `C13_headline_beqStep_iff` — they differ
   by exactly ONE clause; `C13_headline_beq_stored_difference` — `==` but stored differently happens ONLY as "" vs "/" under
   an authority; `C13_headline_truediv_chain_beq` — `(u / a) / b == u.joinpath(a, b)` iff the same condition;
   `C13_headline_joinpath_nary_beq` — n arguments under `C13_beqGuard` (the step condition at every peeling step),
   `C13_headline_beqGuard_of_no_dotdot` — implied by the guard of `C13_headline_joinpath_nary`; computed witnesses both
   ways, both backends, both modes: `C13_headline_joinpath_beq_stored_only_instance`,
   `C13_headline_joinpath_beq_fails_for_double_slash`, `C13_headline_joinpath_nary_beq_fails_for_double_slash`,
   `C13_headline_joinpath_nary_beq_instance`.
   The clause of the property as stated (no guard) stays FALSE also up to `==` (the two `…_fails_for_double_slash`).

Vocabulary (C13SlashParent.lean, C13UpToEq.lean; the rest as in `C13Headline.lean` / `C13HeadlineMore4.lean`).
`makeChild e u ps enc`   — `u.joinpath(*ps, encoded=enc)`; `u / s` is `makeChild e u [s] false`; `parent` is `URL.parent`.
`argText e enc a`        — the text `_make_child` works on: `a` itself for `encoded=True`, `q e Gen.PATH_QUOTER a` otherwise.
`argSegs e enc ps` / `argDots e enc ps` — the segment list of all arguments / "some argument text contains a '.'".
`childOf u X nn`         — `u` with the segments `X` appended (one trailing empty segment of the old path dropped), normalised
                           iff `nn` and `u` has an authority; query and fragment dropped (C13More3.lean).
`SlashParent.Plain x`    — a plain segment: no '/', not empty, not "." and not "..".
`SlashParent.oldStack u` — the final stack of `normalize_path_segments` on the OLD segments, root's empty segment dropped.
`NoDots (splitOn 47 p)`  — no "." / ".." segment in the path `p`;  `dot` = ".", `dotdot` = "..".
`Url.beq a b`            — Python `a == b` (`eqKey`: under an authority the empty path counts as "/").
`C13_resBeq x y`         — two outcomes are the same up to `==`: the same error, or two URLs with `a == b`.
`C13_left e enc u a`     — the segments the first step `u.joinpath(a)` leaves when it normalises (trailing empty one dropped).
`C13_hroot e enc u a`    — normalising the first step keeps the root's empty segment, followed by something.
`C13_beqStep` / `C13_storedStep e enc u a rest` — the condition under which peeling the first argument `a` off
                           `u.joinpath(a, rest…)` changes nothing up to `==` / as stored (`C13_headline_beqStep_def`).
`C13_first e enc u a`    — the first step's result;  `C13_beqGuard e enc ps u` — `C13_beqStep` at every peeling step.
`DotMore.climbs n S`     — the segment list `S` pops more than `n` segments.
46 = '.', 47 = '/'.
-/
set_option linter.unusedVariables false
namespace Yarl
open Yarl.PathLemmas Yarl.PathAlg PathMore R12b
open DotMore (climbs)
open SlashParent JoinpathEq

/-! ## GAPS 4, last line — `(u / "a/b").parent == u / "a"` without the no-dot-segment guard -/

/-- "`u / s` … has parent parts equal to u's parts", for `s = a + "/" + b`: `(u / (a + "/" + b)).parent == u / a`,
    `encoded=False`, URL with an authority, `a` and `b` plain non-empty segments (Python strings without lone surrogates,
    no '/', neither "." nor ".."):
    * EQUAL AS STORED VALUES whenever `a` contains a '.' or `b` contains none — whatever the old path;
    * for an old path that is empty or rooted: equal IF AND ONLY IF `a` contains a '.', or `b` contains no '.', or the
      old path has no dot segment.
    So the guard of `C13_headline_child_slash_parent` is needed ONLY for "'.' in `b` and none in `a`" (then only the left
    side is normalised), and there it is exact.  Cites C13_child_slash_parent_iff. -/
theorem C13_headline_child_slash_parent_iff (e : Env) (u : Url) (a b : Str) (w v : Url)
    (hn : u.netloc ≠ [])
    (ha : PyStr a) (has : NoSurrogate a) (ha47 : 47 ∉ a) (ha0 : a ≠ []) (had : a ≠ dot ∧ a ≠ dotdot)
    (hb : PyStr b) (hbs : NoSurrogate b) (hb47 : 47 ∉ b) (hb0 : b ≠ []) (hbd : b ≠ dot ∧ b ≠ dotdot) :
    makeChild e u [a ++ 47 :: b] false = .ok w → makeChild e u [a] false = .ok v →
    ((46 ∈ a ∨ 46 ∉ b) → parent w = v) ∧
    ((u.path = [] ∨ u.path.head? = some 47) →
      (parent w = v ↔ (46 ∈ a ∨ 46 ∉ b ∨ NoDots (splitOn 47 u.path)))) :=
  C13_child_slash_parent_iff e u a b w v hn ha has ha47 ha0 had hb hbs hb47 hb0 hbd

/-- the corollary: with a '.' in `a`, or none in `b`, the law holds WITHOUT any guard on the old path.
    Cites C13_child_slash_parent_unguarded. -/
theorem C13_headline_child_slash_parent_unguarded (e : Env) (u : Url) (a b : Str) (w v : Url)
    (hn : u.netloc ≠ [])
    (ha : PyStr a) (has : NoSurrogate a) (ha47 : 47 ∉ a) (ha0 : a ≠ []) (had : a ≠ dot ∧ a ≠ dotdot)
    (hb : PyStr b) (hbs : NoSurrogate b) (hb47 : 47 ∉ b) (hb0 : b ≠ []) (hbd : b ≠ dot ∧ b ≠ dotdot)
    (hdots : 46 ∈ a ∨ 46 ∉ b) :
    makeChild e u [a ++ 47 :: b] false = .ok w → makeChild e u [a] false = .ok v → parent w = v :=
  C13_child_slash_parent_unguarded e u a b w v hn ha has ha47 ha0 had hb hbs hb47 hb0 hbd hdots

/-- the `encoded=True` variant: the same statement on the raw arguments (no `PyStr` / surrogate hypotheses).
    Cites C13_child_slash_parent_iff_encoded. -/
theorem C13_headline_child_slash_parent_iff_encoded (e : Env) (u : Url) (a b : Str) (w v : Url)
    (hn : u.netloc ≠ [])
    (ha47 : 47 ∉ a) (ha0 : a ≠ []) (had : a ≠ dot ∧ a ≠ dotdot)
    (hb47 : 47 ∉ b) (hb0 : b ≠ []) (hbd : b ≠ dot ∧ b ≠ dotdot) :
    makeChild e u [a ++ 47 :: b] true = .ok w → makeChild e u [a] true = .ok v →
    ((46 ∈ a ∨ 46 ∉ b) → parent w = v) ∧
    ((u.path = [] ∨ u.path.head? = some 47) →
      (parent w = v ↔ (46 ∈ a ∨ 46 ∉ b ∨ NoDots (splitOn 47 u.path)))) :=
  C13_child_slash_parent_iff_encoded e u a b w v hn ha47 ha0 had hb47 hb0 hbd

/-- GENERAL form with the CLOSED FORMS of both sides, either `encoded` mode, stated on the argument TEXTS `A`, `B`
    (`argText`), both plain segments; authority; ANY old path for the closed forms.  With `S` the final stack of
    `normalize_path_segments` on the OLD segments (root's empty segment dropped):
    `(u / "a/b").parent` has the path "/" + S + "/" + A when '.' occurs in `A` or `B`, and is the un-normalised `u / a`
    otherwise; `u / a` has that path when '.' occurs in `A`, and is un-normalised otherwise; hence the two clauses of
    `C13_headline_child_slash_parent_iff`.  Cites C13_child_slash_parent_iff_gen. -/
theorem C13_headline_child_slash_parent_iff_closed_forms (e : Env) (enc : Bool) (u : Url) (a b : Str) (w v : Url)
    (hn : u.netloc ≠ [])
    (hAB : argText e enc (a ++ 47 :: b) = argText e enc a ++ 47 :: argText e enc b)
    (hA : Plain (argText e enc a)) (hB : Plain (argText e enc b)) :
    makeChild e u [a ++ 47 :: b] enc = .ok w → makeChild e u [a] enc = .ok v →
    let A := argText e enc a
    let B := argText e enc b
    let N := fromParts u.scheme u.netloc (joinC 47 ([] :: oldStack u) ++ 47 :: A) [] []
    parent w = (if 46 ∈ A ∨ 46 ∈ B then N else childOf u [A] false) ∧
    v = (if 46 ∈ A then N else childOf u [A] false) ∧
    ((46 ∈ A ∨ 46 ∉ B) → parent w = v) ∧
    ((u.path = [] ∨ u.path.head? = some 47) →
      (parent w = v ↔ (46 ∈ A ∨ 46 ∉ B ∨ NoDots (splitOn 47 u.path)))) :=
  C13_child_slash_parent_iff_gen e enc u a b w v hn hAB hA hB

/-- WITHOUT an authority, `encoded=False`, `a` / `b` Python strings, `b` one non-empty segment, `a` without lone
    surrogates and non-empty (`a` may contain '/' and dot segments, `b` may be "." or ".."), ANY old path: the law holds
    UNCONDITIONALLY — dot segments anywhere are kept verbatim on both sides.  (The hypotheses on `a` exclude the corner
    `C13_headline_child_slash_parent_fails_for_surrogate`.)  Cites C13_child_slash_parent_no_authority. -/
theorem C13_headline_child_slash_parent_no_authority (e : Env) (u : Url) (a b : Str) (w v : Url)
    (hn : u.netloc = [])
    (ha : PyStr a) (has : NoSurrogate a) (ha0 : a ≠ [])
    (hb : PyStr b) (hbs : NoSurrogate b) (hb47 : 47 ∉ b) (hb0 : b ≠ []) :
    makeChild e u [a ++ 47 :: b] false = .ok w → makeChild e u [a] false = .ok v → parent w = v :=
  C13_child_slash_parent_no_authority e u a b w v hn ha has ha0 hb hbs hb47 hb0

/-- WITHOUT an authority, `encoded=True`: NO guard at all besides "`b` is one non-empty segment".
    Cites C13_child_slash_parent_no_authority_encoded. -/
theorem C13_headline_child_slash_parent_no_authority_encoded (e : Env) (u : Url) (a b : Str) (w v : Url)
    (hn : u.netloc = []) (hb47 : 47 ∉ b) (hb0 : b ≠ []) :
    makeChild e u [a ++ 47 :: b] true = .ok w → makeChild e u [a] true = .ok v → parent w = v :=
  C13_child_slash_parent_no_authority_encoded e u a b w v hn hb47 hb0

/-- WITHOUT an authority, either mode, on the argument texts; `hcorner` (EMPTY URL reference with an empty argument text)
    is the only exception.  Cites C13_child_slash_parent_no_authority_gen. -/
theorem C13_headline_child_slash_parent_no_authority_either_mode (e : Env) (enc : Bool) (u : Url) (a b : Str) (w v : Url)
    (hn : u.netloc = [])
    (hAB : argText e enc (a ++ 47 :: b) = argText e enc a ++ 47 :: argText e enc b)
    (hB47 : 47 ∉ argText e enc b) (hB0 : argText e enc b ≠ [])
    (hcorner : u.path = [] → argText e enc a ≠ []) :
    makeChild e u [a ++ 47 :: b] enc = .ok w → makeChild e u [a] enc = .ok v → parent w = v :=
  C13_child_slash_parent_no_authority_gen e enc u a b w v hn hAB hB47 hB0 hcorner

/-- THE GUARD IS NEEDED for "'.' in `b`, none in `a`" (both backends): with `u = URL("http://h/a/../b", encoded=True)`,
    `(u / "x/y.t")` is `http://h/b/x/y.t`, its parent `http://h/b/x`, but `u / "x"` is `http://h/a/../b/x` — different
    stored values and different as Python `==` (`eqKey`).  Same with `encoded=True`.  The condition of
    `C13_headline_child_slash_parent_iff` fails.  Cites C13_child_slash_parent_fails_for_dotted_old_path. -/
theorem C13_headline_child_slash_parent_fails_for_dotted_old_path : ∀ bk : Backend,
    let e : Env := ⟨bk, Oracles.empty⟩
    let u := fromParts "http".toStr "h".toStr "/a/../b".toStr [] []
    let U := fun (p : String) => fromParts "http".toStr "h".toStr p.toStr [] []
    makeChild e u ["x/y.t".toStr] false = .ok (U "/b/x/y.t") ∧
    makeChild e u ["x/y.t".toStr] true = .ok (U "/b/x/y.t") ∧
    parent (U "/b/x/y.t") = U "/b/x" ∧
    makeChild e u ["x".toStr] false = .ok (U "/a/../b/x") ∧
    makeChild e u ["x".toStr] true = .ok (U "/a/../b/x") ∧
    U "/b/x" ≠ U "/a/../b/x" ∧ eqKey (U "/b/x") ≠ eqKey (U "/a/../b/x") ∧
    ¬ (46 ∈ "x".toStr ∨ 46 ∉ "y.t".toStr ∨ NoDots (splitOn 47 u.path)) :=
  C13_child_slash_parent_fails_for_dotted_old_path

/-- the other three dot patterns on the SAME dotted old path: the law HOLDS — '.' in both ("x.t/y.t": `http://h/b/x.t`),
    '.' in `a` only ("x.t/y"), no '.' at all ("x/y": nothing normalised, `http://h/a/../b/x`); both backends, both modes.
    Cites C13_child_slash_parent_holds_on_dotted_old_path. -/
theorem C13_headline_child_slash_parent_holds_on_dotted_old_path : ∀ bk : Backend, ∀ enc : Bool,
    let e : Env := ⟨bk, Oracles.empty⟩
    let u := fromParts "http".toStr "h".toStr "/a/../b".toStr [] []
    let U := fun (p : String) => fromParts "http".toStr "h".toStr p.toStr [] []
    (makeChild e u ["x.t/y.t".toStr] enc).map parent = .ok (U "/b/x.t") ∧
    (makeChild e u ["x.t/y".toStr] enc).map parent = .ok (U "/b/x.t") ∧
    makeChild e u ["x.t".toStr] enc = .ok (U "/b/x.t") ∧
    (makeChild e u ["x/y".toStr] enc).map parent = .ok (U "/a/../b/x") ∧
    makeChild e u ["x".toStr] enc = .ok (U "/a/../b/x") :=
  C13_child_slash_parent_holds_on_dotted_old_path

/-- WITHOUT an authority nothing is normalised: `(URL("/a/../b", encoded=True) / "x/y.t").parent` and
    `URL("/a/../b", encoded=True) / "x"` are both `/a/../b/x`; even with dot-segment ARGUMENTS:
    `(URL("/a/../b") / "../..").parent` is `URL("/a/../b") / ".."` = `/a/../b/..`.
    Cites C13_child_slash_parent_no_authority_instances. -/
theorem C13_headline_child_slash_parent_no_authority_instances : ∀ bk : Backend, ∀ enc : Bool,
    let e : Env := ⟨bk, Oracles.empty⟩
    let u := fromParts [] [] "/a/../b".toStr [] []
    let P := fun (p : String) => fromParts [] [] p.toStr [] []
    (makeChild e u ["x/y.t".toStr] enc).map parent = .ok (P "/a/../b/x") ∧
    makeChild e u ["x".toStr] enc = .ok (P "/a/../b/x") ∧
    (makeChild e u ["../..".toStr] enc).map parent = .ok (P "/a/../b/..") ∧
    makeChild e u ["..".toStr] enc = .ok (P "/a/../b/..") :=
  C13_child_slash_parent_no_authority_instances

/-! ## GAPS 5 — "joinpath(a, b), joinpath(a).joinpath(b) … are equal" up to Python `==` -/

/-- "joinpath(a, b), joinpath(a).joinpath(b) … are equal", up to Python `==` (errors compared as errors), either
    `encoded` mode: `u.joinpath(a, b) == u.joinpath(a).joinpath(b)` IF AND ONLY IF `C13_beqStep`: no authority, or no '.'
    in the text of `a`, or `hroot`, or no '.' in the text of `b`, or `b` climbs above what the first step left, or the
    one-call list does not normalise to something beginning with an empty segment, or it normalises to EXACTLY the
    single empty segment.  Hypotheses: the first step succeeds; `b` and its text do not start with '/' (for `b` starting
    with '/' both raise ValueError).  Cites C13_joinpath_assoc_beq_iff. -/
theorem C13_headline_joinpath_assoc_beq_iff (e : Env) (enc : Bool) (u : Url) (a b : Str) (v1 : Url)
    (h1 : makeChild e u [a] enc = .ok v1)
    (hb0 : b.head? ≠ some 47) (hqb0 : (argText e enc b).head? ≠ some 47) :
    C13_resBeq (makeChild e u [a, b] enc) (makeChild e v1 [b] enc) = true ↔ C13_beqStep e enc u a [b] :=
  C13_joinpath_assoc_beq_iff e enc u a b v1 h1 hb0 hqb0

/-- the same for STORED values, in either `encoded` mode (`C13_headline_joinpath_assoc_pair_iff` is `encoded=False`):
    closes "the fixed-pair condition (c) is `encoded=False` only".  Cites C13_joinpath_assoc_stored_iff. -/
theorem C13_headline_joinpath_assoc_stored_iff (e : Env) (enc : Bool) (u : Url) (a b : Str) (v1 : Url)
    (h1 : makeChild e u [a] enc = .ok v1)
    (hb0 : b.head? ≠ some 47) (hqb0 : (argText e enc b).head? ≠ some 47) :
    makeChild e u [a, b] enc = makeChild e v1 [b] enc ↔ C13_storedStep e enc u a [b] :=
  C13_joinpath_assoc_stored_iff e enc u a b v1 h1 hb0 hqb0

/-- the two step conditions, `hroot`, and the outcome comparison SPELLED OUT (definitional unfoldings, to be read). -/
theorem C13_headline_beqStep_def (e : Env) (enc : Bool) (u : Url) (a : Str) (rest : List Str) :
    (C13_beqStep e enc u a rest ↔
      (u.netloc = [] ∨ 46 ∉ argText e enc a ∨ C13_hroot e enc u a ∨
       argDots e enc rest = false ∨
       climbs (C13_left e enc u a).length (argSegs e enc rest) = true ∨
       (normalizePathSegments (C13_left e enc u a ++ argSegs e enc rest)).head? ≠ some [] ∨
       normalizePathSegments (C13_left e enc u a ++ argSegs e enc rest) = [[]])) ∧
    (C13_storedStep e enc u a rest ↔
      (u.netloc = [] ∨ 46 ∉ argText e enc a ∨ C13_hroot e enc u a ∨
       argDots e enc rest = false ∨
       climbs (C13_left e enc u a).length (argSegs e enc rest) = true ∨
       (normalizePathSegments (C13_left e enc u a ++ argSegs e enc rest)).head? ≠ some [])) ∧
    (C13_hroot e enc u a ↔
      ∃ K', K' ≠ [] ∧ normalizePathSegments (root u.netloc (base u ++ splitOn 47 (argText e enc a))) = [] :: K') ∧
    C13_left e enc u a
      = stripTrail (normalizePathSegments (root u.netloc (base u ++ splitOn 47 (argText e enc a)))) ∧
    C13_first e enc u a = childOf u (splitOn 47 (argText e enc a)) (mem 46 (argText e enc a)) ∧
    (∀ x y : Url, C13_resBeq (.ok x) (.ok y) = x.beq y) :=
  ⟨Iff.rfl, Iff.rfl, Iff.rfl, rfl, rfl, fun _ _ => rfl⟩

/-- the `==` condition is the stored one plus exactly ONE clause: the one-call segment list normalises to the single
    empty segment (stored paths "" and "/").  Cites C13_beqStep_iff. -/
theorem C13_headline_beqStep_iff (e : Env) (enc : Bool) (u : Url) (a : Str) (rest : List Str) :
    C13_beqStep e enc u a rest ↔
      (C13_storedStep e enc u a rest ∨
        normalizePathSegments (C13_left e enc u a ++ argSegs e enc rest) = [[]]) :=
  C13_beqStep_iff e enc u a rest

/-- when two URLs are `==` but stored differently, the difference is ONLY "" vs "/" under an authority.
    Cites C13_beq_stored_difference. -/
theorem C13_headline_beq_stored_difference (a b : Url) (h : a.beq b = true) (hp : a.path ≠ b.path) :
    a.netloc ≠ [] ∧ a.netloc = b.netloc ∧ ((a.path = [] ∧ b.path = [47]) ∨ (a.path = [47] ∧ b.path = [])) :=
  C13_beq_stored_difference a b h hp

/-- the `/` chain: `(u / a) / b == u.joinpath(a, b)` (Python `==`) IF AND ONLY IF `C13_beqStep` — `/` is `joinpath` with
    one argument, `encoded=False`.  Cites C13_truediv_chain_beq. -/
theorem C13_headline_truediv_chain_beq (e : Env) (u : Url) (a b : Str)
    (ha0 : a.head? ≠ some 47) (hb0 : b.head? ≠ some 47) (hqb0 : (q e Gen.PATH_QUOTER b).head? ≠ some 47) :
    C13_resBeq (makeChild e u [a] false >>= fun v => makeChild e v [b] false) (makeChild e u [a, b] false) = true ↔
      C13_beqStep e false u a [b] :=
  C13_truediv_chain_beq e u a b ha0 hb0 hqb0

/-- n arguments: `u.joinpath(a₁, …, aₙ) == u.joinpath(a₁).joinpath(a₂)…joinpath(aₙ)` (Python `==`; n ≥ 1, either
    `encoded` mode) when the step condition `C13_beqStep` holds at every peeling step (`C13_beqGuard`) — SUFFICIENT, not
    shown necessary.  Hypothesis `hq`: the TEXT of an argument that does not start with '/' does not start with '/'
    either (trivial for `encoded=True`; for `encoded=False` true for every string without lone surrogates).
    Cites C13_joinpath_nary_beq. -/
theorem C13_headline_joinpath_nary_beq (e : Env) (enc : Bool) : ∀ (ps : List Str) (u : Url), ps ≠ [] →
    (∀ p ∈ ps, p.head? ≠ some 47 → (argText e enc p).head? ≠ some 47) →
    C13_beqGuard e enc ps u →
    C13_resBeq (makeChild e u ps enc) (ps.foldlM (fun v a => makeChild e v [a] enc) u) = true :=
  C13_joinpath_nary_beq e enc

/-- the guard `C13_beqGuard` is implied by the stored-value guard of `C13_headline_joinpath_nary` (no ".." segment in the
    old path or in any argument but the last, under an authority).  Cites C13_beqGuard_of_no_dotdot. -/
theorem C13_headline_beqGuard_of_no_dotdot (e : Env) (enc : Bool) : ∀ (ps : List Str) (u : Url),
    (u.netloc ≠ [] → dotdot ∉ splitOn 47 u.path ∧ ∀ a ∈ ps.dropLast, dotdot ∉ splitOn 47 (argText e enc a)) →
    C13_beqGuard e enc ps u :=
  C13_beqGuard_of_no_dotdot e enc

/-! ## computed witnesses, both backends, both `encoded` modes -/

/-- POSITIVE: the "stored only" counterexample of GAPS 5 — `URL("http://h").joinpath("..", ".")` is `http://h`,
    `(URL("http://h") / "..") / "."` is `http://h/` — is equal under `==`; the guard holds by its LAST clause only (the
    stored condition fails: the stored values differ); the guard of `C13_headline_joinpath_nary` fails (".." argument).
    Cites C13_joinpath_beq_stored_only_instance. -/
theorem C13_headline_joinpath_beq_stored_only_instance : ∀ (bk : Backend) (enc : Bool),
    let e : Env := ⟨bk, Oracles.empty⟩
    let u := fromParts "http".toStr "h".toStr [] [] []
    let ps := ["..".toStr, ".".toStr]
    makeChild e u ps enc = .ok u ∧
    ps.foldlM (fun v a => makeChild e v [a] enc) u = .ok (fromParts "http".toStr "h".toStr "/".toStr [] []) ∧
    makeChild e u ps enc ≠ ps.foldlM (fun v a => makeChild e v [a] enc) u ∧
    C13_resBeq (makeChild e u ps enc) (ps.foldlM (fun v a => makeChild e v [a] enc) u) = true ∧
    normalizePathSegments (C13_left e enc u "..".toStr ++ argSegs e enc [".".toStr]) = [[]] ∧
    C13_beqGuard e enc ps u ∧ ¬ C13_storedStep e enc u "..".toStr [".".toStr] ∧
    dotdot ∈ splitOn 47 (argText e enc "..".toStr) :=
  C13_joinpath_beq_stored_only_instance

/-- NEGATIVE — the clause "joinpath(a, b), joinpath(a).joinpath(b) … are equal" is FALSE also up to `==`:
    `URL("http://h").joinpath("..", ".//x")` is `http://h/x`, `(URL("http://h") / "..") / ".//x"` is `http://h//x`;
    `C13_beqStep` fails (by the iff).  Cites C13_joinpath_beq_fails_for_double_slash. -/
theorem C13_headline_joinpath_beq_fails_for_double_slash : ∀ (bk : Backend) (enc : Bool),
    let e : Env := ⟨bk, Oracles.empty⟩
    let u := fromParts "http".toStr "h".toStr [] [] []
    makeChild e u ["..".toStr, ".//x".toStr] enc = .ok (fromParts "http".toStr "h".toStr "/x".toStr [] []) ∧
    makeChild e u ["..".toStr] enc = .ok u ∧
    makeChild e u [".//x".toStr] enc = .ok (fromParts "http".toStr "h".toStr "//x".toStr [] []) ∧
    C13_resBeq (makeChild e u ["..".toStr, ".//x".toStr] enc) (makeChild e u [".//x".toStr] enc) = false ∧
    ¬ C13_beqStep e enc u "..".toStr [".//x".toStr] :=
  C13_joinpath_beq_fails_for_double_slash

/-- NEGATIVE, n = 3: `URL("http://h").joinpath("..", ".//x", "y")` is `http://h/x/y`, the iterated form is
    `http://h//x/y`: different under `==`.  Cites C13_joinpath_nary_beq_fails_for_double_slash. -/
theorem C13_headline_joinpath_nary_beq_fails_for_double_slash : ∀ (bk : Backend) (enc : Bool),
    let e : Env := ⟨bk, Oracles.empty⟩
    let u := fromParts "http".toStr "h".toStr [] [] []
    let ps := ["..".toStr, ".//x".toStr, "y".toStr]
    makeChild e u ps enc = .ok (fromParts "http".toStr "h".toStr "/x/y".toStr [] []) ∧
    ps.foldlM (fun v a => makeChild e v [a] enc) u = .ok (fromParts "http".toStr "h".toStr "//x/y".toStr [] []) ∧
    C13_resBeq (makeChild e u ps enc) (ps.foldlM (fun v a => makeChild e v [a] enc) u) = false :=
  C13_joinpath_nary_beq_fails_for_double_slash

/-- POSITIVE, n = 3, non-vacuity of `C13_headline_joinpath_nary_beq` outside every stored-value guard:
    `URL("http://h").joinpath("x", "../..", ".")` is `http://h`, the iterated form `http://h/`.
    Cites C13_joinpath_nary_beq_instance. -/
theorem C13_headline_joinpath_nary_beq_instance : ∀ (bk : Backend) (enc : Bool),
    let e : Env := ⟨bk, Oracles.empty⟩
    let u := fromParts "http".toStr "h".toStr [] [] []
    let ps := ["x".toStr, "../..".toStr, ".".toStr]
    (∀ p ∈ ps, p.head? ≠ some 47 → (argText e enc p).head? ≠ some 47) ∧
    C13_beqGuard e enc ps u ∧
    makeChild e u ps enc = .ok u ∧
    ps.foldlM (fun v a => makeChild e v [a] enc) u = .ok (fromParts "http".toStr "h".toStr "/".toStr [] []) ∧
    C13_resBeq (makeChild e u ps enc) (ps.foldlM (fun v a => makeChild e v [a] enc) u) = true :=
  C13_joinpath_nary_beq_instance

end Yarl
