import YarlProofs.C16More
import YarlProofs.C16Idn
import YarlProofs.Lemmas.HumanFull
/-!
# C16 — every address, embedded IPv4; validation only rejects, one idempotence theorem, the routes agree; the NFKC
# clause on the routes without `_check_netloc`

The namespace `R5` holds here the helpers of these three parts: printing and parsing dotted quads inside IPv6 texts,
"validation only rejects" on `hostBranch`, and the host text the routes write.

RFC 5952 / embedded IPv4:
* `C16_ipv6_text_every_address` — for EVERY value of the eight 16-bit groups, in one statement: lower-case hex groups
  without leading zeros; the LONGEST run of ≥ 2 zero groups, the FIRST on ties, and only that one, replaced by "::";
  a single zero group is never compressed; the model's parser reads the text back to the same groups (so the printer
  is injective and the text a fixed point); no '.', '%', '[', ']', '/' in the text.
* `C16_ipv4_text_parses` — every `a.b.c.d` (octets ≤ 255) IS an IPv4 literal for the parser;
  `C16_ipv6_embedded_ipv4_parse` — an IPv6 text whose last part is a dotted quad, "::"-forms and full forms, in general;
  `C16_ipv4_mapped_canonical` — `::ffff:a.b.c.d` ↦ `[::ffff:X:Y]` for ALL a.b.c.d (parse, `_encode_host`, fixed point);
  `C16_ipv4_compatible_canonical` — `::a.b.c.d` ↦ `[::]` / `[::Y]` / `[::X:Y]`.
Idempotence in one theorem; the routes agree:
* `C16_validation_only_rejects` — validate_host=True never changes the answer, it only rejects (ValueError);
* `C16_encode_idempotent_every_host` — ONE hypothesis (`h` passes validation), every host kind, ASCII or not, no IDNA
  assumption: re-encoding the stored raw host gives the same result, with validation on and off;
* `C16_host_text_three_routes` — with_host / build(host=) / the constructor store the SAME raw host for the same host
  text, for any shape of the rest of the URL (this also lifts the IDN statement beyond `scheme://h/path#fragment`);
  `C16_host_text_build_authority_route` — so does build(authority=) when the host part passes validation.
The NFKC clause on the routes without `_check_netloc`:
* `C16_with_host_needs_no_nfkc_screen` — what `with_host` guarantees at URL level instead of the NFKC screen;
  `C16_with_host_nfkc_clause_depends_on_idna` — "is rejected" holds with the real IDNA answers, fails for a hypothetical
  package (evaluated); `C16_build_encoded_skips_host_processing` — `encoded=True` stores the text verbatim, no oracle.
Trusted: `ipv6ToStr` / `parseIPv6` are hand models of CPython's `ipaddress` (differential harness only); the IDNA /
NFKC answers are oracles.
-/

namespace Yarl
namespace R5
open HostLemmas NetlocLemmas Rfc5952

/-! ## embedded IPv4 (dotted quad as the last part of an IPv6 text) -/

theorem parseIPv4_dot {v4 : Str} {o4 : List Nat} (h : parseIPv4 v4 = some o4) : 46 ∈ v4 := by
  have hl := (parseIPv4_inv h).1
  apply Classical.byContradiction
  intro hno
  rw [PathLemmas.splitOn_of_not_mem 46 v4 hno] at hl
  simp at hl

/-- the parts of an IPv6 text whose last part is a dotted quad: the quad is replaced by two hex groups -/
theorem parseIPv6_join_v4 (pre : List Str) (v4 : Str) (a b c d : Nat)
    (hp : ∀ p ∈ pre, ∀ c ∈ p, isLowerHexC c) (hlen : 2 ≤ pre.length)
    (h4 : parseIPv4 v4 = some [a, b, c, d]) :
    parseIPv6 (joinC 58 (pre ++ [v4])) = v6core (pre ++ [hexLower (a * 256 + b), hexLower (c * 256 + d)]) := by
  have hno : ∀ k, (k = 47 ∨ k = 58) → ∀ p ∈ pre ++ [v4], k ∉ p := by
    intro k hk p hpp hkp
    rcases List.mem_append.mp hpp with h | h
    · exact not_lowerHex_of (by omega) (hp p h k hkp)
    · simp at h
      subst h
      refine parseIPv4_not_mem h4 ?_ hkp
      rcases hk with rfl | rfl <;> decide
  have hexp : v6expand (pre ++ [v4]) = some (pre ++ [hexLower (a * 256 + b), hexLower (c * 256 + d)]) := by
    unfold v6expand
    have : mem 46 v4 = true := mem_iff.mpr (parseIPv4_dot h4)
    simp [this, h4]
  rw [parseIPv6_joinC _ hno (by simp; omega), hexp]

theorem octets_le {v4 : Str} {a b c d : Nat} (h4 : parseIPv4 v4 = some [a, b, c, d]) :
    a ≤ 255 ∧ b ≤ 255 ∧ c ≤ 255 ∧ d ≤ 255 := by
  have := (C16_ipv4_canonical v4 _ h4).2.2
  exact ⟨this a (by simp), this b (by simp), this c (by simp), this d (by simp)⟩

/-- general form: `P::Q:a.b.c.d` / `P::a.b.c.d` — a "::" form whose last part is a dotted quad -/
theorem parseIPv6_skip_v4 (Q : List Str) (A B : List Nat) (v4 : Str) (a b c d : Nat)
    (hQ : Q = B.map hexLower)
    (hlen : A.length + B.length ≤ 4) (hA : ∀ x ∈ A, x < 65536) (hB : ∀ x ∈ B, x < 65536)
    (h4 : parseIPv4 v4 = some [a, b, c, d]) :
    parseIPv6 (joinC 58 (side A ++ [] :: Q ++ [v4])) =
      some (A ++ List.replicate (6 - (A.length + B.length)) 0 ++ (B ++ [a * 256 + b, c * 256 + d])) := by
  obtain ⟨ha, hb, hc, hd⟩ := octets_le h4
  have hpre : ∀ p ∈ side A ++ [] :: Q, ∀ c ∈ p, isLowerHexC c := by
    intro p hp c hc
    simp only [List.mem_append, List.mem_cons] at hp
    rcases hp with hp | rfl | hp
    · exact side_hex A p hp c hc
    · simp at hc
    · rw [hQ] at hp; exact all_lowerHex_map B p hp c hc
  have hl2 : 2 ≤ (side A ++ [] :: Q).length := by
    have := side_pos A
    simp; omega
  have e0 : side A ++ [] :: Q ++ [v4] = (side A ++ [] :: Q) ++ [v4] := by simp
  rw [e0, parseIPv6_join_v4 _ v4 a b c d hpre hl2 h4]
  have e1 : side A ++ [] :: Q ++ [hexLower (a * 256 + b), hexLower (c * 256 + d)] =
      side A ++ [] :: side (B ++ [a * 256 + b, c * 256 + d]) := by
    rcases side_spec (B ++ [a * 256 + b, c * 256 + d]) with ⟨h, _⟩ | ⟨_, h⟩
    · simp at h
    · rw [hQ, h]
      simp
  rw [e1, v6core_sides A (B ++ [a * 256 + b, c * 256 + d]) (by simp; omega) hA
    (by intro x hx; simp at hx; rcases hx with hx | rfl | rfl
        · exact hB x hx
        · omega
        · omega)]
  have : 8 - (A.length + (B ++ [a * 256 + b, c * 256 + d]).length) = 6 - (A.length + B.length) := by
    simp; omega
  rw [this]

theorem zerosAt2 (x y : Nat) : zerosAt [x, y] = if x = 0 then (if y = 0 then 2 else 1) else 0 := by
  by_cases hx : x = 0
  · subst hx
    by_cases hy : y = 0
    · subst hy; rfl
    · rw [HostLemmas.zerosAt_cons_zero, HostLemmas.zerosAt_cons_ne _ hy]; simp [hy]
  · rw [HostLemmas.zerosAt_cons_ne _ hx]; simp [hx]

theorem zerosAt1 (y : Nat) : zerosAt [y] = if y = 0 then 1 else 0 := by
  by_cases hy : y = 0
  · subst hy; rfl
  · rw [HostLemmas.zerosAt_cons_ne _ hy]; simp [hy]

theorem longest_mapped (x y : Nat) : longest [0, 0, 0, 0, 0, 65535, x, y] = 5 ∧
    firstAt 5 [0, 0, 0, 0, 0, 65535, x, y] = 0 := by
  have e : ∀ l, zerosAt (0 :: l) = zerosAt l + 1 := HostLemmas.zerosAt_cons_zero
  have h0 : ∀ l, zerosAt (65535 :: l) = 0 := fun l => HostLemmas.zerosAt_cons_ne l (by decide)
  constructor
  · -- the five leading zeros are the longest run: the only other run lies in `[x, y]` and has at most two fields;
    -- `longest` is a maximum over the eight start positions, each computed by `zerosAt`
    simp only [longest, e, h0, zerosAt2, zerosAt1]
    repeat' split
    all_goals omega
  · simp [firstAt, e, h0]

theorem field_ffff : field 65535 = "ffff".toStr := by decide

/-- the text printed for an IPv4-mapped address -/
theorem ipv6ToStr_mapped (x y : Nat) (hx : x < 65536) (hy : y < 65536) :
    ipv6ToStr [0, 0, 0, 0, 0, 65535, x, y] = "::ffff:".toStr ++ hexLower x ++ [58] ++ hexLower y := by
  have hb : ∀ z ∈ [0, 0, 0, 0, 0, 65535, x, y], z < 65536 := by
    intro z hz; simp at hz; rcases hz with rfl | rfl | rfl | rfl <;> omega
  rw [V6More.ipv6ToStr_eq_format _ hb]
  obtain ⟨hl, hf⟩ := longest_mapped x y
  unfold format
  rw [hl, hf]
  simp only [show ¬ (5 < 2) by omega, if_false, List.take_zero, fields, List.drop_succ_cons, List.drop_zero,
    field_ffff, V6More.field_eq_hexLower hx, V6More.field_eq_hexLower hy]
  show ([] : Str) ++ [58, 58] ++ ([102, 102, 102, 102] ++ 58 :: (field x ++ 58 :: field y)) =
    [58, 58, 102, 102, 102, 102, 58] ++ field x ++ [58] ++ field y
  simp

theorem longest_compat (x y : Nat) : longest [0, 0, 0, 0, 0, 0, x, y] = 6 + zerosAt [x, y] ∧
    firstAt (6 + zerosAt [x, y]) [0, 0, 0, 0, 0, 0, x, y] = 0 := by
  have e : ∀ l, zerosAt (0 :: l) = zerosAt l + 1 := HostLemmas.zerosAt_cons_zero
  have hz : zerosAt [0, 0, 0, 0, 0, 0, x, y] = 6 + zerosAt [x, y] := by simp only [e]; omega
  constructor
  · -- the run that starts the address is the longest: six zeros and whatever zeros `[x, y]` begins with; every later
    -- start position sees a shorter piece of the same run, or a run inside `[x, y]`
    simp only [longest, e, zerosAt2, zerosAt1]
    repeat' split
    all_goals omega
  · simp [firstAt, hz]

/-- the text printed for an IPv4-compatible address `::a.b.c.d` -/
theorem ipv6ToStr_compat (x y : Nat) (hx : x < 65536) (hy : y < 65536) :
    ipv6ToStr [0, 0, 0, 0, 0, 0, x, y] =
      if x = 0 then (if y = 0 then [58, 58] else [58, 58] ++ hexLower y)
      else [58, 58] ++ hexLower x ++ [58] ++ hexLower y := by
  have hb : ∀ z ∈ [0, 0, 0, 0, 0, 0, x, y], z < 65536 := by
    intro z hz; simp at hz; rcases hz with rfl | rfl | rfl <;> omega
  rw [V6More.ipv6ToStr_eq_format _ hb]
  obtain ⟨hl, hf⟩ := longest_compat x y
  unfold format
  rw [hl, hf, zerosAt2]
  by_cases h0 : x = 0
  · by_cases h1 : y = 0
    · subst h0 h1; rfl
    · subst h0
      simp only [if_true, h1, if_false, show ¬ (6 + 1 < 2) by omega, List.take_zero, fields, Nat.zero_add,
        List.drop_succ_cons, List.drop_zero, V6More.field_eq_hexLower hy]
      rfl
  · simp only [h0, if_false, show ¬ (6 + 0 < 2) by omega, List.take_zero, fields, Nat.zero_add, Nat.add_zero,
      List.drop_succ_cons, List.drop_zero, V6More.field_eq_hexLower hy, V6More.field_eq_hexLower hx]
    simp

theorem natToStr_no {n k : Nat} (hk : k < 48 ∨ 57 < k) : k ∉ natToStr n := fun hm => by
  have := Decimal.isDigitC_iff.1 ((Decimal.natToStr_digits n).2 k hm)
  omega

/-- every `a.b.c.d` with octets ≤ 255, printed in decimal, is an IPv4 literal for the model's parser -/
theorem parseIPv4_print (a b c d : Nat) (ha : a ≤ 255) (hb : b ≤ 255) (hc : c ≤ 255) (hd : d ≤ 255) :
    parseIPv4 (ipv4ToStr [a, b, c, d]) = some [a, b, c, d] := by
  have hsplit : splitOn 46 (ipv4ToStr [a, b, c, d]) = [natToStr a, natToStr b, natToStr c, natToStr d] :=
    PathLemmas.splitOn_joinC (c := 46) _ (by simp) (fun p hp => by
      obtain ⟨n, -, rfl⟩ := List.mem_map.1 hp
      exact natToStr_no (by omega))
  have h47 : mem 47 (ipv4ToStr [a, b, c, d]) = false := by
    rw [mem_false_iff]
    intro hm
    rcases mem_joinC hm with h | ⟨p, hp, hcp⟩
    · omega
    · obtain ⟨n, -, rfl⟩ := List.mem_map.1 hp
      exact natToStr_no (by omega) hcp
  have hne : (ipv4ToStr [a, b, c, d]).isEmpty = false := by
    unfold ipv4ToStr
    simp only [List.map_cons, PathLemmas.joinC_cons]
    cases hn : natToStr a with
    | nil => exact absurd hn (Decimal.natToStr_digits a).1
    | cons x xs => rfl
  unfold parseIPv4
  rw [h47, hne, hsplit]
  simp [parseOctet_natToStr ha, parseOctet_natToStr hb, parseOctet_natToStr hc, parseOctet_natToStr hd]

theorem v4_no37 {v4 : Str} {o4 : List Nat} (h : parseIPv4 v4 = some o4) : 37 ∉ v4 :=
  parseIPv4_not_mem h (by decide)

end R5

open HostLemmas NetlocLemmas Rfc5952 R5 MiscLemmas

/-! ## the IPv6 text, for EVERY address; embedded IPv4 -/

/-- "valid IPv6 literals are compressed" — for EVERY value of the eight 16-bit groups (no reference to an input text),
    everything RFC 5952 §4 asks of the printed text `t = ipv6ToStr h8`, in one statement:
    (i)   every group is written in lower-case hex, 1–4 digits, without leading zeros (a zero group is "0"), and the only
          other character of `t` is ':';
    (ii)  with `n` = the length of the longest run of zero groups and `i` = the first position where such a run starts:
          if `n ≥ 2` exactly that run — the LONGEST, the FIRST on ties — is replaced by "::", which then occurs exactly
          once, and the replaced run cannot be extended on either side;
    (iii) if `n < 2` (no two adjacent zero groups: a single zero group is NOT compressed) `t` is the eight groups joined
          by single colons and "::" does not occur;
    (iv)  the model's parser reads `t` back to the same eight groups, so the printer is injective;
    (v)   `t` contains no '.', '%', '[' , ']', '/' — and `t` is a fixed point: printing what was parsed from `t` gives `t`. -/
theorem C16_ipv6_text_every_address (h8 : List Nat)
    (hl : h8.length = 8) (hx : ∀ x ∈ h8, x < 65536) :       -- an arbitrary 128-bit value as eight 16-bit groups
    let n := longest h8
    let i := firstAt n h8
    -- (i)
    (∀ x ∈ h8, hexLower x = Rfc5952.field x ∧ 1 ≤ (hexLower x).length ∧ (hexLower x).length ≤ 4 ∧
      ((hexLower x).head? = some 48 → hexLower x = [48] ∧ x = 0) ∧ parseHextet (hexLower x) = some x) ∧
    (∀ c ∈ ipv6ToStr h8, c = 58 ∨ isDigitC c = true ∨ (97 ≤ c ∧ c ≤ 102)) ∧
    -- (ii)
    (2 ≤ n → h8 = h8.take i ++ List.replicate n 0 ++ h8.drop (i + n) ∧
      ipv6ToStr h8 = fields (h8.take i) ++ [58, 58] ++ fields (h8.drop (i + n)) ∧
      countDC (ipv6ToStr h8) = 1 ∧
      (h8.drop (i + n)).head? ≠ some 0 ∧ (h8.take i).getLast? ≠ some 0) ∧
    (∀ a b m, h8 = a ++ List.replicate m 0 ++ b → m ≤ n ∧ (m = n → i ≤ a.length)) ∧
    -- (iii)
    (n < 2 → ipv6ToStr h8 = fields h8 ∧ countDC (ipv6ToStr h8) = 0) ∧
    ((∀ a b, h8 ≠ a ++ [0, 0] ++ b) → n < 2) ∧
    -- (iv)
    parseIPv6 (ipv6ToStr h8) = some h8 ∧
    (∀ h8', h8'.length = 8 → (∀ x ∈ h8', x < 65536) → ipv6ToStr h8' = ipv6ToStr h8 → h8' = h8) ∧
    -- (v)
    (46 ∉ ipv6ToStr h8 ∧ 37 ∉ ipv6ToStr h8 ∧ 91 ∉ ipv6ToStr h8 ∧ 93 ∉ ipv6ToStr h8 ∧ 47 ∉ ipv6ToStr h8) ∧
    (∀ h, parseIPv6 (ipv6ToStr h8) = some h → ipv6ToStr h = ipv6ToStr h8) := by
  intro n i
  have hdc := C16_ipv6_double_colon h8 hx
  have hrt := C16_ipv6_roundtrip h8 hl hx
  have hch := C16_ipv6_text_lower h8
  have hno : ∀ k, k ≠ 58 → isDigitC k = false → ¬ (97 ≤ k ∧ k ≤ 102) → k ∉ ipv6ToStr h8 := by
    intro k h1 h2 h3 hm
    rcases hch k hm with h | h | h
    · exact h1 h
    · rw [h2] at h; cases h
    · exact h3 h
  refine ⟨fun x hxm => ?_, hch, hdc.2.1, hdc.2.2.1, hdc.1, ?_, hrt, ?_, ?_, ?_⟩
  · have := C16_ipv6_groups x (hx x hxm)
    exact ⟨this.1, this.2.2.1, this.2.2.2.1, this.2.2.2.2.1, this.2.2.2.2.2⟩
  · intro hnone
    apply Classical.byContradiction
    intro hn
    have hn2 : 2 ≤ n := by omega
    obtain ⟨hdec, _⟩ := hdc.2.1 hn2
    have hr : List.replicate n 0 = [0, 0] ++ List.replicate (n - 2) 0 := by
      have : n = (n - 2) + 1 + 1 := by omega
      rw [this, List.replicate_succ, List.replicate_succ]; simp
    exact hnone (h8.take i) (List.replicate (n - 2) 0 ++ h8.drop (i + n)) (by
      have := hdec; rw [hr] at this; simpa using this)
  · intro h8' hl' hx' he
    have h1 := C16_ipv6_roundtrip h8' hl' hx'
    rw [he, hrt] at h1
    exact (Option.some.inj h1).symm
  · exact ⟨hno 46 (by decide) (by decide) (by omega), hno 37 (by decide) (by decide) (by omega),
      hno 91 (by decide) (by decide) (by omega), hno 93 (by decide) (by decide) (by omega),
      hno 47 (by decide) (by decide) (by omega)⟩
  · intro h hh
    rw [hrt] at hh
    rw [← Option.some.inj hh]

/-- every dotted quad `a.b.c.d` with octets ≤ 255 (printed in decimal, no leading zeros) IS an IPv4 literal for the
    model of `ipaddress` — so the theorems below, stated for a text `v4` with `parseIPv4 v4 = some [a, b, c, d]`, hold for
    ALL `a.b.c.d`; and conversely such a text is that print (`C16_ipv4_canonical`) -/
theorem C16_ipv4_text_parses (a b c d : Nat) (ha : a ≤ 255) (hb : b ≤ 255) (hc : c ≤ 255) (hd : d ≤ 255) :
    parseIPv4 (ipv4ToStr [a, b, c, d]) = some [a, b, c, d] :=
  parseIPv4_print a b c d ha hb hc hd

/-- EMBEDDED IPv4, general form of the parser (CPython `_ip_int_from_string`): an IPv6 text whose LAST part is a dotted
    quad `a.b.c.d` denotes the address whose last two groups are `a·256+b` and `c·256+d`.
    (1) "::"-forms `A₁:…:Aₖ::B₁:…:Bₘ:a.b.c.d` (`A`, `B` possibly empty, `k + m ≤ 4`; the groups written in canonical
        lower-case hex — other spellings: `parseIPv6_lower`, `C16_ipv6_groups`);
    (2) full forms `A₁:…:A₆:a.b.c.d`. -/
theorem C16_ipv6_embedded_ipv4_parse (v4 : Str) (a b c d : Nat)
    (h4 : parseIPv4 v4 = some [a, b, c, d]) :               -- `v4` is the dotted quad `a.b.c.d`
    (∀ A B : List Nat, A.length + B.length ≤ 4 → (∀ x ∈ A, x < 65536) → (∀ x ∈ B, x < 65536) →
      parseIPv6 (joinC 58 ((if A = [] then [[]] else A.map hexLower) ++ [] :: B.map hexLower ++ [v4])) =
        some (A ++ List.replicate (6 - (A.length + B.length)) 0 ++ (B ++ [a * 256 + b, c * 256 + d]))) ∧
    (∀ A : List Nat, A.length = 6 → (∀ x ∈ A, x < 65536) →
      parseIPv6 (joinC 58 (A.map hexLower ++ [v4])) = some (A ++ [a * 256 + b, c * 256 + d])) := by
  obtain ⟨ha, hb, hc, hd⟩ := octets_le h4
  constructor
  · intro A B hlen hA hB
    exact parseIPv6_skip_v4 _ A B v4 a b c d rfl hlen hA hB h4
  · intro A hl hA
    rw [parseIPv6_join_v4 _ v4 a b c d (all_lowerHex_map A) (by simp; omega) h4]
    have e : A.map hexLower ++ [hexLower (a * 256 + b), hexLower (c * 256 + d)] =
        (A ++ [a * 256 + b, c * 256 + d]).map hexLower := by simp
    rw [e]
    exact v6core_full _ (by simp; omega) (by
      intro x hx; simp at hx; rcases hx with hx | rfl | rfl
      · exact hA x hx
      · omega
      · omega)

/-- IPv4-MAPPED addresses `::ffff:a.b.c.d`, for ALL `a.b.c.d`: the text is an IPv6 literal denoting
    `0:0:0:0:0:ffff:(a·256+b):(c·256+d)`; `_encode_host` (validation on or off) canonicalises it to
    `[::ffff:X:Y]` with `X`, `Y` the two groups in lower-case hex without leading zeros — the dotted quad does NOT survive
    (RFC 5952 §5's mixed notation is not used, as in CPython; instance: `C16_ipv6_no_mixed_notation`); the canonical text
    denotes the same address and is a fixed point of `_encode_host`. -/
theorem C16_ipv4_mapped_canonical (o : Oracles) (v4 : Str) (a b c d : Nat) (v : Bool)
    (h4 : parseIPv4 v4 = some [a, b, c, d]) :               -- `v4` is the dotted quad `a.b.c.d` (all of them: `C16_ipv4_text_parses`)
    let X := hexLower (a * 256 + b)
    let Y := hexLower (c * 256 + d)
    parseIPv6 ("::ffff:".toStr ++ v4) = some [0, 0, 0, 0, 0, 0xffff, a * 256 + b, c * 256 + d] ∧
    encodeHost o ("::ffff:".toStr ++ v4) v = .ok ("[::ffff:".toStr ++ X ++ [58] ++ Y ++ [93]) ∧
    46 ∉ "[::ffff:".toStr ++ X ++ [58] ++ Y ++ [93] ∧
    parseIPv6 ("::ffff:".toStr ++ X ++ [58] ++ Y) = some [0, 0, 0, 0, 0, 0xffff, a * 256 + b, c * 256 + d] ∧
    encodeHost o ("::ffff:".toStr ++ X ++ [58] ++ Y) v = .ok ("[::ffff:".toStr ++ X ++ [58] ++ Y ++ [93]) := by
  obtain ⟨ha, hb, hc, hd⟩ := octets_le h4
  have hx : a * 256 + b < 65536 := by omega
  have hy : c * 256 + d < 65536 := by clear hx; omega
  have hb8 : ∀ z ∈ [0, 0, 0, 0, 0, 65535, a * 256 + b, c * 256 + d], z < 65536 := by
    intro z hz; simp at hz; omega
  intro X Y
  have hparse : parseIPv6 ("::ffff:".toStr ++ v4) = some [0, 0, 0, 0, 0, 0xffff, a * 256 + b, c * 256 + d] := by
    have hq : ["ffff".toStr] = [65535].map hexLower := by
      simp only [List.map_cons, List.map_nil, V6More.field_eq_hexLower (show 65535 < 65536 by omega), field_ffff]
    have := parseIPv6_skip_v4 ["ffff".toStr] [] [65535] v4 a b c d hq (by simp) (by simp) (by simp) h4
    exact this
  have htxt := ipv6ToStr_mapped _ _ hx hy
  have hrt := C16_ipv6_roundtrip _ (by simp) hb8
  rw [htxt] at hrt
  have h37a : 37 ∉ "::ffff:".toStr ++ v4 := by
    intro hm
    rcases List.mem_append.mp hm with h | h
    · revert h; decide
    · exact v4_no37 h4 h
  obtain ⟨n37, n46⟩ := C16_ipv6_text_no_pct_dot [0, 0, 0, 0, 0, 65535, a * 256 + b, c * 256 + d]
  rw [htxt] at n37 n46
  have e1 := encodeHost_of_v6_plain o v hparse h37a
  have e2 := encodeHost_of_v6_plain o v hrt n37
  rw [htxt] at e1 e2
  have hbr : "[::ffff:".toStr ++ X ++ [58] ++ Y ++ [93] = [91] ++ ("::ffff:".toStr ++ X ++ [58] ++ Y) ++ [93] := by
    show [91, 58, 58, 102, 102, 102, 102, 58] ++ X ++ [58] ++ Y ++ [93] =
      [91] ++ ([58, 58, 102, 102, 102, 102, 58] ++ X ++ [58] ++ Y) ++ [93]
    simp
  rw [hbr]
  refine ⟨hparse, e1, ?_, hrt, e2⟩
  intro hm
  rcases List.mem_append.1 hm with h | h
  · rcases List.mem_append.1 h with h | h
    · simp at h
    · exact n46 h
  · simp at h

/-- IPv4-COMPATIBLE addresses `::a.b.c.d`, for ALL `a.b.c.d`: the address is `0:0:0:0:0:0:(a·256+b):(c·256+d)`, and the
    canonical text depends on which of the two groups are zero — the "::" swallows them: `::0.0.0.0` ↦ `[::]`,
    `::0.0.c.d` ↦ `[::Y]`, otherwise `[::X:Y]` (so `::0.0.0.1` is stored as `[::1]`, the loopback address). -/
theorem C16_ipv4_compatible_canonical (o : Oracles) (v4 : Str) (a b c d : Nat) (v : Bool)
    (h4 : parseIPv4 v4 = some [a, b, c, d]) :               -- `v4` is the dotted quad `a.b.c.d`
    parseIPv6 ("::".toStr ++ v4) = some [0, 0, 0, 0, 0, 0, a * 256 + b, c * 256 + d] ∧
    encodeHost o ("::".toStr ++ v4) v =
      .ok ([91] ++ (if a * 256 + b = 0 then (if c * 256 + d = 0 then "::".toStr else "::".toStr ++ hexLower (c * 256 + d))
                    else "::".toStr ++ hexLower (a * 256 + b) ++ [58] ++ hexLower (c * 256 + d)) ++ [93]) := by
  obtain ⟨ha, hb, hc, hd⟩ := octets_le h4
  have hx : a * 256 + b < 65536 := by omega
  have hy : c * 256 + d < 65536 := by clear hx; omega
  have hparse : parseIPv6 ("::".toStr ++ v4) = some [0, 0, 0, 0, 0, 0, a * 256 + b, c * 256 + d] := by
    have := parseIPv6_skip_v4 [] [] [] v4 a b c d rfl (by simp) (by simp) (by simp) h4
    exact this
  have h37a : 37 ∉ "::".toStr ++ v4 := by
    intro hm
    rcases List.mem_append.mp hm with h | h
    · revert h; decide
    · exact v4_no37 h4 h
  refine ⟨hparse, ?_⟩
  rw [encodeHost_of_v6_plain o v hparse h37a, ipv6ToStr_compat _ _ hx hy]
  rfl

/-! ### non-vacuity / instances (IPv4-mapped, IPv4-compatible, NAT64 prefix, leading zeros rejected) -/
example : parseIPv4 "192.0.2.1".toStr = some [192, 0, 2, 1] := by str_lits; decide +kernel
example (o : Oracles) : encodeHost o "::ffff:192.0.2.1".toStr true = .ok "[::ffff:c000:201]".toStr := by
  have h := (C16_ipv4_mapped_canonical o "192.0.2.1".toStr 192 0 2 1 true (by decide +kernel)).2.1
  have e1 : "::ffff:".toStr ++ "192.0.2.1".toStr = "::ffff:192.0.2.1".toStr := by str_lits; decide +kernel
  have e2 : "[::ffff:".toStr ++ hexLower (192 * 256 + 0) ++ [58] ++ hexLower (2 * 256 + 1) ++ [93] =
      "[::ffff:c000:201]".toStr := by str_lits; decide +kernel
  rw [e1, e2] at h
  exact h
example (o : Oracles) : encodeHost o "::0.0.0.1".toStr false = .ok "[::1]".toStr :=
  (C16_ipv4_compatible_canonical o "0.0.0.1".toStr 0 0 0 1 false (by decide +kernel)).2
-- the general parser statement on the NAT64 well-known prefix `64:ff9b::192.0.2.33`
example : parseIPv6 "64:ff9b::192.0.2.33".toStr = some [0x64, 0xff9b, 0, 0, 0, 0, 0xc000, 0x221] := by
  have := (C16_ipv6_embedded_ipv4_parse "192.0.2.33".toStr 192 0 2 33 (by decide +kernel)).1 [0x64, 0xff9b] []
    (by simp) (by intro x hx; simp at hx; rcases hx with rfl | rfl <;> omega) (by simp)
  -- the text is the one the theorem speaks of, and the groups are the ones it gives
  refine (congrArg parseIPv6 ?_).trans (this.trans ?_) <;> decide +kernel
-- an octet with a leading zero, or > 255, is no dotted quad for CPython ≥ 3.9.5, hence no IPv6 literal either:
-- such a host is lower-cased as a registered name by the constructor and rejected by build(host=) / with_host
example : parseIPv6 "::ffff:192.0.02.1".toStr = none ∧ parseIPv6 "::ffff:192.0.2.256".toStr = none ∧
    encodeHost Oracles.empty "::ffff:192.0.02.1".toStr false = .ok "::ffff:192.0.02.1".toStr ∧
    encodeHost Oracles.empty "::ffff:192.0.02.1".toStr true = .error .valueError := by
  str_lits; decide +kernel

/-! ## validation only rejects; idempotence for EVERY host kind; the three routes agree -/

namespace R5
open StrTotal (rebracket)

theorem regPathA_false_true {h r : Str} (hr : regPathA h false = .ok r) :
    regPathA h true = .ok r ∨ regPathA h true = .error .valueError := by
  obtain ⟨ha, rfl, _⟩ := regPathA_ok hr
  simp only [regPathA, ha, if_true, Bool.true_and]
  split
  · exact Or.inr rfl
  · exact Or.inl rfl

/-- with validation on the IP branch only gains its zone screen: the answer stays, or becomes a ValueError, when the
    reg-name branch does no more than that -/
theorem hostBranch_false_true {o : Oracles} {h r : Str} {regT regF : R Str}
    (hreg : regF = .ok r → regT = .ok r ∨ regT = .error .valueError) (he : hostBranch o h false regF = .ok r) :
    hostBranch o h true regT = .ok r ∨ hostBranch o h true regT = .error .valueError := by
  rcases hostBranch_ok_iff.1 he with ⟨hl, hr, -⟩ | ⟨hn, hr⟩
  · rw [hostBranch_ip true regT hl hr]
    cases zoneBad h true
    · exact Or.inl rfl
    · exact Or.inr rfl
  · rw [hostBranch_noIp true regT hn]
    exact hreg hr

theorem encodeHostA_false_true {o : Oracles} {h r : Str} (he : encodeHostA o h false = .ok r) :
    encodeHostA o h true = .ok r ∨ encodeHostA o h true = .error .valueError :=
  hostBranch_false_true regPathA_false_true he

/-- (the validating call is not simply `if notRegName r then ValueError else r`: an IDNA answer that
    is re-entered as an IP literal is screened differently — by its zone — so only the disjunction is kept) -/
theorem regPath_false_true {o : Oracles} {h r : Str} (hr : regPath o h false = .ok r) :
    regPath o h true = .ok r ∨ regPath o h true = .error .valueError := by
  cases ha : isAscii h with
  | true =>
    obtain ⟨rfl, -⟩ := (regPath_ok_of_ascii ha).1 hr
    rw [regPath_of_ascii o true ha]
    cases notRegName (lower h)
    · exact Or.inl rfl
    · exact Or.inr rfl
  | false =>
    rw [regPath_idn o _ ha] at hr ⊢
    obtain ⟨a, hi, hr⟩ := bind_ok hr
    rw [hi]
    show (if mem 58 a = true then _ else _) = _ ∨ (if mem 58 a = true then _ else _) = _
    split at hr
    · rw [if_pos ‹_›]
      exact encodeHostA_false_true hr
    · rw [if_neg ‹_›]
      cases (ite_err_ok hr).2
      cases notRegName r
      · exact Or.inl rfl
      · exact Or.inr rfl

theorem unbracket_bracket' {r : Str} (h91 : 91 ∉ r) : unbracket (bracket r) = r := by
  unfold unbracket bracket
  by_cases h58 : mem 58 r = true
  · have : mem 91 ([91] ++ r ++ [93]) = true := mem_iff.mpr (by simp)
    simp only [h58, if_true, this]
    simp
  · simp only [h58, Bool.false_eq_true, if_false, mem_false_iff.mpr h91]

/-- the host text the constructor / `build(authority=)` write for a host that passes validation -/
theorem hostTxt_rebracket_validated {eh b : Str} (bk : Bool) (hb : eh = bracket b) (h64 : 64 ∉ b) (h91 : 91 ∉ b)
    (h93 : 93 ∉ b) : EagerLemmas.HostTxt (rebracket bk eh) b := by
  by_cases h58 : 58 ∈ b
  · have he : eh = [91] ++ b ++ [93] := by rw [hb]; simp [bracket, mem_iff.mpr h58]
    have hm : mem 91 eh = true := mem_iff.mpr (by rw [he]; simp)
    have : rebracket bk eh = eh := by simp [rebracket, hm]
    rw [this, he]
    exact Or.inl ⟨rfl, h93, h64⟩
  · have he : eh = b := by
      rw [hb]; unfold bracket; rw [if_neg (by rw [mem_iff]; exact h58)]
    rw [he]
    cases bk with
    | true =>
      have : rebracket true b = [91] ++ b ++ [93] := by simp [rebracket, mem_false_iff.mpr h91]
      rw [this]; exact Or.inl ⟨rfl, h93, h64⟩
    | false =>
      have : rebracket false b = b := by simp [rebracket]
      rw [this]; exact Or.inr ⟨rfl, h58, h91, h64⟩

end R5

open StrTotal (rebracket) in
/-- VALIDATION ONLY REJECTS, it never changes the answer: whenever `_encode_host(h, validate_host=True)` (build(host=),
    with_host) accepts `h`, `_encode_host(h, validate_host=False)` (the constructor, build(authority=)) returns the SAME
    text; conversely, when the non-validating call returns `r`, the validating call returns `r` or raises ValueError
    (never another text, never another error).  Every host kind — reg-name, IDN (whatever the oracle answers), IPv4,
    IPv6, with or without zone. -/
theorem C16_validation_only_rejects (o : Oracles) (h r : Str) :
    (encodeHost o h true = .ok r → encodeHost o h false = .ok r) ∧
    (encodeHost o h false = .ok r → encodeHost o h true = .ok r ∨ encodeHost o h true = .error .valueError) :=
  ⟨encodeHost_mono, hostBranch_false_true regPath_false_true⟩

/-- "encoding is idempotent" for EVERY host kind in ONE statement, with ONE hypothesis and no assumption on the IDNA
    oracle: if `_encode_host(h, validate_host=True)` accepts `h` — ASCII or not, reg-name, IDN, IPv4, IPv6, with or
    without zone — with the result `r`, then encoding the stored raw host (`unbracket r`: `r` without the brackets of an
    IPv6 literal) again gives `r`, with validation on AND off.  (`C16_headline_idempotent` needs `isAscii h` and a
    three-way disjunction, `C16_headline_idn_idempotent` the assumption `IdnaSaneAt`; with validation ON neither is
    needed, because the validation itself checks what those hypotheses provide.  For validation OFF the hypotheses ARE
    needed: `C16_headline_idempotent_fails_for`, `C16_headline_lower_ascii_fails_for_hostile_idna`.) -/
theorem C16_encode_idempotent_every_host (o : Oracles) (h r : Str) (v' : Bool)
    (he : encodeHost o h true = .ok r) :                    -- the one hypothesis: `h` passes build(host=) / with_host
    encodeHost o (unbracket r) v' = .ok r ∧ encodeHost o h false = .ok r := by
  refine ⟨?_, (C16_validation_only_rejects o h r).1 he⟩
  -- the IP branch, for ANY text `h` (the host itself, or — fix 3fbf5b4 — the IDNA answer that spells an IP literal)
  have keyIP : ∀ h : Str, encodeHost o h true = .ok r → ipRes h = some r → zoneBad h true = false →
      encodeHost o (unbracket r) true = .ok r :=
    fun h he hres hz => ipBranch_idem o true he hres fun _ hp => ipv4_zone_no91 hp hz
  have key : encodeHost o (unbracket r) true = .ok r := by
    by_cases ha : isAscii h = true
    · exact C16_encode_idempotent o h r true ha (Or.inl rfl) he
    · have hna : isAscii h = false := by simpa using ha
      rcases encodeHost_casesV he with ⟨hres, hz⟩ | ⟨hwhy, hreg⟩
      · -- the IP branch (an IP literal in front of a non-ASCII zone cannot pass, but no case analysis is needed)
        exact keyIP h he hres hz
      · obtain ⟨a, hi, ⟨_, rfl, hnr'⟩ | ⟨h58, hres, hz⟩⟩ := regPath_idn_validated hna hreg
        · -- the IDNA branch: the answer passed the reg-name screen
          rw [unbracket_of_no91 (notRegName_no91 hnr')]
          by_cases hne : r = []
          · subst hne; exact V6More.encodeHost_nil o true
          · exact Idn.encodeHost_sane o ⟨hne, hnr'⟩ true
        · -- (fix 3fbf5b4) the answer holds a ':' and spells an IP literal: the IP branch, on the answer
          exact keyIP a (encodeHost_ip (looksIP_of_colon o (mem_iff.mp h58)) hres hz) hres hz
  cases v' with
  | true => exact key
  | false => exact (C16_validation_only_rejects o _ r).1 key

open StrTotal (rebracket) in
open V6More FixLemmas in
/-- THE THREE ROUTES AGREE on the stored host.  Let `h0` be a host text that passes validation,
    `_encode_host(h0, validate_host=True) = eh`.  Then
    (1) `u.with_host(h0)`, on ANY receiver `u`, stores the raw host `unbracket eh` (`eh` without the brackets of an IPv6
        literal);
    (2) `URL.build(host=h0, …)` stores the raw host `unbracket eh`;
    (3) the constructor `URL(s)`, for ANY `s` whose authority has the host part `h0` (as `split_netloc` cuts it out:
        `[user[:password]@]h0[:port]`, or `[h0]` in brackets), stores the raw host `unbracket eh` — although it encodes
        the host WITHOUT validation;
    and (4) that raw host is a fixed point: encoding it again, validating or not, gives `eh`.
    In (1) and (2) the conclusion is about whatever `raw_host` returns (the lazily parsed netloc of the new URL: its
    userinfo is the receiver's / the quoted `user=` and is not constrained here); in (3) `raw_host` is the cache entry the
    constructor pre-fills. -/
theorem C16_host_text_three_routes (e : Env) (h0 eh : Str)
    (hv : encodeHost e.o h0 true = .ok eh)                  -- `h0` passes validation (what build(host=) / with_host demand)
    (hne0 : eh ≠ []) :                                      -- excludes an IDNA oracle answering "" for a non-ASCII host
                                                            -- (automatic for ASCII `h0 ≠ ""`; as in `C11_headline_with_host`)
    (∀ u u', withHost e u h0 = .ok u' → ∀ x, rawHost e u' = .ok x → x = some (unbracket eh)) ∧
    (∀ a u, a.encoded = false → a.authority = [] → a.host = h0 → h0 ≠ [] → build e a = .ok u →
      ∀ x, rawHost e u = .ok x → x = some (unbracket eh)) ∧
    (∀ s u p np, encodeUrl e s = .ok u → splitUrl e.o s = .ok p → splitNetloc e.o p.netloc = .ok np →
      np.host = some h0 → rawHost e u = .ok (some (unbracket eh))) ∧
    (∀ v', encodeHost e.o (unbracket eh) v' = .ok eh) := by
  obtain ⟨b, hb, h64, h91, h93⟩ := encoded_host_plain e.o h0 eh hv
  have hun : unbracket eh = b := by rw [hb]; exact unbracket_bracket' h91
  have hf : encodeHost e.o h0 false = .ok eh := (C16_validation_only_rejects e.o h0 eh).1 hv
  refine ⟨?_, ?_, ?_, fun v' => (C16_encode_idempotent_every_host e.o h0 eh v' hv).1⟩
  · intro u u' hw x hx
    obtain ⟨eh', port, X, heh, hX, hpre, hnl, _⟩ := withHost_written hw
    rw [hv] at heh; cases heh
    have hne : u'.netloc ≠ [] := by
      rw [hnl]; intro h0
      simp only [List.append_eq_nil_iff] at h0
      exact hne0 h0.1.2
    rw [hun]
    exact (rawHost_reads_of_ok e u' (hb ▸ hostText_bracket h64 h91 h93).reads port X hX hpre hnl hx).2.1 hne
  · intro a u henc hauth hhost hh0 hbu x hx
    subst hhost
    obtain ⟨hpre, ⟨h0, _⟩ | ⟨eh', port, X, heh, hX, hnl⟩⟩ := build_host_written henc hauth hbu
    · exact absurd h0 hh0
    rw [hv] at heh; cases heh
    have hne : u.netloc ≠ [] := by
      rw [hnl]; intro h0
      simp only [List.append_eq_nil_iff] at h0
      exact hne0 h0.1.2
    rw [hun]
    exact (rawHost_reads_of_ok e u (hb ▸ hostText_bracket h64 h91 h93).reads port X hX hpre hnl hx).2.1 hne
  · intro s u p np hu hp hsn hh
    have hn0 : p.netloc ≠ [] := by
      intro h0
      rw [h0] at hsn
      have : splitNetloc e.o [] = .ok { user := none, password := none, host := none, port := none } := by rfl
      rw [this] at hsn; cases hsn; cases hh
    obtain ⟨np', host1, netloc, pre, hsplit, rfl, hsome, _, hfill⟩ := ctor_authority hu hp hn0
    rw [hsn] at hsplit; cases hsplit
    have h1 := hsome h0 hh
    rw [hf] at h1; cases h1
    obtain ⟨ru, rp, hpre, _⟩ := hfill b (hostTxt_rebracket_validated _ hb h64 h91 h93)
    rw [hun]
    unfold rawHost net finishUrl
    rw [hpre]; rfl

open StrTotal (rebracket) in
open V6More FixLemmas in
/-- … and the FOURTH route, `URL.build(authority=A, …)` (host encoded WITHOUT validation, like the constructor): when the
    host part `h0` of `A` (as `split_netloc` cuts it out) passes validation, the raw host stored is again `unbracket eh`.
    (When it does NOT pass validation this route still accepts it — `C16_headline_validation_fails_for_build_authority` —
    and stores the lower-cased / IDNA text; then nothing ties it to the other routes, which reject.) -/
theorem C16_host_text_build_authority_route (e : Env) (a : BuildArgs) (u : Url) (np : NetlocParts) (h0 eh : Str)
    (hbu : build e a = .ok u)
    (henc : a.encoded = false)                              -- guard: encoded=True skips everything
    (hauth : a.authority ≠ [])                              -- the `authority=` route
    (hsn : splitNetloc e.o a.authority = .ok np) (hh : np.host = some h0)   -- `h0` is the host part of the authority
    (hv : encodeHost e.o h0 true = .ok eh)                  -- … and passes validation
    (hne0 : eh ≠ []) :                                      -- excludes an IDNA oracle answering ""
    ∀ x, rawHost e u = .ok x → x = some (unbracket eh) := by
  intro x hx
  obtain ⟨b, hb, h64, h91, h93⟩ := encoded_host_plain e.o h0 eh hv
  have hun : unbracket eh = b := by rw [hb]; exact unbracket_bracket' h91
  have hf : encodeHost e.o h0 false = .ok eh := (C16_validation_only_rejects e.o h0 eh).1 hv
  obtain ⟨_, _, _, _, _, _, _, _, hpre⟩ := build_false_ok henc hbu
  obtain ⟨sc', np', h1, X, _, _, _, hnp', hh1, hX, hnl, _⟩ := C16_build_authority_host e a u hbu henc hauth
  rw [hsn] at hnp'; cases hnp'
  rw [hh] at hh1
  simp only at hh1
  rw [hf] at hh1; cases hh1
  have hw := hostTxt_rebracket_validated (mem 91 (rpartition 64 a.authority).2.2) hb h64 h91 h93
  have hne : u.netloc ≠ [] := by
    rw [hnl]; intro hz
    simp only [List.append_eq_nil_iff] at hz
    have : rebracket (mem 91 (rpartition 64 a.authority).2.2) eh = [] := hz.1.2
    unfold rebracket at this
    split at this
    · simp at this
    · exact hne0 this
  rw [hun]
  exact (rawHost_reads_of_ok e u hw.reads _ X hX hpre hnl hx).2.1 hne

/-! ## the NFKC clause and `with_host`; `encoded=True` -/

open StrTotal (rebracket) in
open V6More FixLemmas in
/-- "any authority containing a non-ASCII character whose NFKC form contains '/', '?', '#', '@' or ':' is rejected" —
    `with_host` does NOT run the NFKC screen `_check_netloc`, and does not need to: WHATEVER the argument `h0` (ASCII or
    not, whatever its NFKC form, whatever the IDNA oracle answers), if `u.with_host(h0)` returns a URL then the raw host
    it stores contains none of '/', '?', '#', '@', ' ', and contains ':' '[' ']' only when `h0` is an IP literal (then
    the raw host is the compressed IPv6 text with its zone); so no part of the host can be re-read as userinfo, port,
    path, query or fragment.  (For a non-ASCII `h0` the stored host is the IDNA answer, which passed `NOT_REG_NAME` —
    or the canonical text of the IP literal which that answer spells (re-entry, fix 3fbf5b4): the second alternative of the
    last conjunct.) -/
theorem C16_with_host_needs_no_nfkc_screen (e : Env) (u u' : Url) (h0 : Str) (hw : withHost e u h0 = .ok u') :
    ∃ eh, encodeHost e.o h0 true = .ok eh ∧
      ∀ x, rawHost e u' = .ok (some x) →
        (∀ c ∈ x, c ∈ eh) ∧
        64 ∉ x ∧ 47 ∉ x ∧ 63 ∉ x ∧ 35 ∉ x ∧ 32 ∉ x ∧
        ((∃ c ∈ x, c = 58 ∨ c = 91 ∨ c = 93) → (∃ ip, parseIP (partition 37 h0).1 = some ip) ∨
          (isAscii h0 = false ∧ ∃ a ip, idnaEncode e.o h0 = .ok a ∧ parseIP (partition 37 a).1 = some ip)) := by
  obtain ⟨eh, port, X, heh, hX, hpre, hnl, _⟩ := withHost_written hw
  refine ⟨eh, heh, ?_⟩
  intro x hx
  obtain ⟨b, hb, h64, h91, h93⟩ := encoded_host_plain e.o h0 eh heh
  have hxb : x = b := by
    by_cases hne : u'.netloc = []
    · rw [rawHost_nil e u' hpre hne] at hx; cases hx
    · exact Option.some.inj
        ((rawHost_reads_of_ok e u' (hb ▸ hostText_bracket h64 h91 h93).reads port X hX hpre hnl hx).2.1 hne)
  subst hxb
  have hsub : ∀ c ∈ x, c ∈ eh := by
    intro c hc
    rw [hb]; unfold bracket
    split
    · simp [hc]
    · exact hc
  obtain ⟨a1, a2, a3, a4, a5, a6⟩ := C16_headline_never_injects e.o h0 eh heh
  refine ⟨hsub, h64, fun h => a2 (hsub _ h), fun h => a3 (hsub _ h), fun h => a4 (hsub _ h),
    fun h => a5 (hsub _ h), ?_⟩
  rintro ⟨c, hc, hcc⟩
  exact a6 ⟨c, hsub c hc, hcc⟩

/-- … and the clause AS WRITTEN ("is rejected") is an accident of the IDNA oracle on this route, not a guarantee of the
    library: with the answers the real code gives for the host "a／b" (U+FF0F FULLWIDTH SOLIDUS, NFKC "/": the `idna`
    package refuses it, the stdlib codec — which applies NFKC — answers "a/b") `with_host` raises ValueError, because the
    answer fails the reg-name screen; with a HYPOTHETICAL package that answers reg-name text ("xn--ab-x") `with_host`
    stores that answer although the NFKC form of the argument contains '/', while the constructor rejects the same host
    through `_check_netloc`.  Both backends. -/
theorem C16_with_host_nfkc_clause_depends_on_idna : ∀ b : Backend,
    let fw : Str := [97, 0xFF0F, 98]                       -- "a／b"
    let real : Oracles := { Oracles.empty with
      nfkc := fun s => some (s.map fun c => if c = 0xFF0F then 47 else c),
      idnaEnc := fun _ => some none, idnaEncStd := fun _ => some (some "a/b".toStr), isDigitU := fun _ => some false }
    let hypo : Oracles := { real with idnaEnc := fun _ => some (some "xn--ab-x".toStr) }
    let base : BuildArgs := { scheme := "http".toStr, host := "example.com".toStr, path := "/p".toStr }
    ((build ⟨b, real⟩ base).bind (fun u => withHost ⟨b, real⟩ u fw)) = .error .valueError ∧
    ((build ⟨b, hypo⟩ base).bind (fun u => withHost ⟨b, hypo⟩ u fw)).map (·.netloc) = .ok "xn--ab-x".toStr ∧
    encodeUrl ⟨b, hypo⟩ ("http://".toStr ++ fw ++ "/p".toStr) = .error .valueError := by
  str_lits; intro b; cases b <;> decide +kernel

/-- `build(encoded=True)` skips EVERYTHING of C16: the stored netloc is the
    `authority` argument verbatim — or `host[:port]` / `[user[:password]@]host[:port]` around the `host` argument
    verbatim — with no lower-casing, no IDNA, no IPv6 compression, no reg-name screen and no NFKC screen; the `nfkc`
    and IDNA oracles are not consulted at all. -/
theorem C16_build_encoded_skips_host_processing (e : Env) (a : BuildArgs) (u : Url) (henc : a.encoded = true)
    (hb : build e a = .ok u) :
    (a.authority ≠ [] → u.netloc = a.authority) ∧
    (a.authority = [] → a.host ≠ [] → a.user = none → a.password = none →
      ∃ port, u.netloc = a.host ++ V6More.portStr port) ∧
    (a.authority = [] → a.host = [] → u.netloc = []) ∧
    u.scheme = a.scheme ∧ u.pre = none ∧
    (∀ o' : Oracles, build ⟨e.b, o'⟩ a = build e a) := by
  have horacle : ∀ o' : Oracles, build ⟨e.b, o'⟩ a = build e a := by
    intro o'
    rw [build_eq, build_eq]
    cases C07_buildArgCheck a with
    | some err => rfl
    | none =>
      -- with `encoded=True` the body takes its first branch, which consults no oracle: the two sides are one term
      show buildBody ⟨e.b, o'⟩ a = buildBody e a
      unfold buildBody
      rw [henc]
      rfl
  obtain ⟨qs, _, _, rfl⟩ := build_true_ok henc hb
  refine ⟨?_, ?_, ?_, rfl, rfl, horacle⟩
  · intro hA
    have : a.authority.isEmpty = false := by
      cases hq : a.authority with
      | nil => exact absurd hq hA
      | cons _ _ => rfl
    simp [buildPreEncoded, fromParts, this]
  · intro hA hH hU hP
    have hh : a.host.isEmpty = false := by
      cases hq : a.host with
      | nil => exact absurd hq hH
      | cons _ _ => rfl
    simp only [buildPreEncoded, fromParts, hA, hh, hU, hP, List.isEmpty_nil, Bool.not_true, Bool.false_eq_true,
      if_false, Bool.not_false, if_true, Option.isNone_none, Bool.and_self]
    split
    · exact ⟨none, by simp [V6More.portStr]⟩
    · rename_i pt _
      exact ⟨some pt, by simp [V6More.portStr]⟩
  · intro hA hH
    simp [buildPreEncoded, fromParts, hA, hH]

/-! ### non-vacuity -/
-- the one hypothesis of `C16_encode_idempotent_every_host` / `C16_host_text_three_routes`, on the four host kinds
example : encodeHost Oracles.empty "EXAMPLE.com".toStr true = .ok "example.com".toStr ∧
    encodeHost Oracles.empty "FE80::1%Eth0".toStr true = .ok "[fe80::1%Eth0]".toStr ∧
    unbracket "[fe80::1%Eth0]".toStr = "fe80::1%Eth0".toStr ∧
    encodeHost Oracles.empty "192.0.2.1".toStr true = .ok "192.0.2.1".toStr ∧
    encodeHost C16_idn_sampleOracle C16_idn_buecher true = .ok "xn--bcher-kva".toStr := by
  str_lits; decide +kernel
-- the four routes on one host text (an IPv6 literal with zone, upper case, uncompressed), evaluated
example : ∀ b : Backend,
    let e : Env := ⟨b, Oracles.empty⟩
    (encodeUrl e "http://u:p@[FE80:0:0:0:0:0:0:1%Eth0]:8080/x".toStr).bind (rawHost e) = .ok (some "fe80::1%Eth0".toStr) ∧
    (build e { scheme := "http".toStr, host := "FE80:0:0:0:0:0:0:1%Eth0".toStr }).bind (rawHost e) =
      .ok (some "fe80::1%Eth0".toStr) ∧
    ((build e { scheme := "http".toStr, host := "x".toStr }).bind
      (fun u => withHost e u "FE80:0:0:0:0:0:0:1%Eth0".toStr)).bind (rawHost e) = .ok (some "fe80::1%Eth0".toStr) ∧
    (build e { scheme := "http".toStr, authority := "u:p@[FE80:0:0:0:0:0:0:1%Eth0]:8080".toStr }).bind (rawHost e) =
      .ok (some "fe80::1%Eth0".toStr) := by
  str_lits; intro b; cases b <;> decide +kernel
-- `encoded=True`: the authority "a＠evil.com" (U+FF20) and an upper-case, uncompressed IPv6 host are stored verbatim
example : ∀ b : Backend,
    (build ⟨b, V6More.nfkcDemo⟩
      { scheme := "http".toStr, encoded := true, authority := ([97, 0xFF20] ++ "evil.com".toStr) }).map (·.netloc) =
        .ok ([97, 0xFF20] ++ "evil.com".toStr) ∧
    (build ⟨b, Oracles.empty⟩
      { scheme := "HTTP".toStr, encoded := true, port := some 8080, host := "[FE80:0:0:0:0:0:0:1]".toStr }).map
        (fun u => (u.scheme, u.netloc)) = .ok ("HTTP".toStr, "[FE80:0:0:0:0:0:0:1]:8080".toStr) := by
  str_lits; intro b; cases b <;> decide +kernel

end Yarl
