import YarlProofs.C17Headline
import YarlProofs.C17HeadlineMore
import YarlProofs.C07Encoded
import YarlProofs.C06Encoded
import YarlProofs.C11Encoded
import YarlProofs.C11ReachE
/-!
  C17HeadlineMore3.lean — AUDIT LAYER for property C17, continuation of C17Headline.lean / C17HeadlineMore.lean (the
  theorems here need the `encoded=True` family C07Encoded.lean, C06Encoded.lean, C11Encoded.lean and C11ReachE.lean,
  written after those files; this file is a leaf, nobody imports it).

  C17 | Port semantics: explicit vs default, zero vs absent |
  "explicit_port is the integer value of the port written in the URL, which must lie in 0-65535
  (non-numeric or out-of-range ports are rejected with ValueError); port falls back to the scheme default
  (http/ws 80, https/wss 443, ftp 21) only when none is written, and port 0 is distinct from absent.
  str(), host_port_subcomponent and is_default_port() omit or report the port as default exactly when it is
  absent or equals the scheme default; with_port(p) sets any valid p, clears on None, and rejects bools,
  non-integers and out-of-range values."

  What is here: GAPS 6 of C17Headline.lean ("with_port on authorities not in `Written` form (encoded=True oddities): only
  the rejection half") and the `encoded=True` remarks of GAPS 3 / 4.  No module named C17… was added; the facts are
  C17-relevant theorems of the `encoded=True` family:
  * explicit_port / is_default_port() on a URL without pre-filled cache whose stored authority is ARBITRARY text that
    `split_netloc` accepts, and on the results of `URL(s, encoded=True)` / `build(encoded=True)` in general
    (C11Encoded.lean, C07Encoded.lean, C07More.lean);
  * what `build(…, encoded=True)` does with `port=`: the argument checks are those of `encoded=False`, the port is dropped
    iff it is the default of the scheme AS GIVEN (not lower-cased), the host text is not bracketed (C07Encoded.lean);
  * `with_port` on ARBITRARY stored authority text: its exact result, the read-back of explicit_port with the two
    exceptional shapes (E1), (E2) spelled out, what happens when `split_netloc` rejects the stored text; the same over
    `ReachE`, the closure of all entry points incl. `encoded=True` (C11Encoded.lean, C11ReachE.lean);
  * str() of an `encoded=True` URL omits exactly a written port equal to the scheme default (C06Encoded.lean).

  Vocabulary.  `np : NetlocParts` — the answer of `split_netloc` on the stored authority (user, password, host text
  without brackets, port).  `CtorMods.portText n` (C17Ctor.lean) — the port text of the authority `n` as `split_netloc`
  cuts it.  `EncTrue.portBad p` — `p` is an int outside 0..65535.  `C07_portOf o t` (Lemmas/NetlocLemmas.lean) — the
  port text `t` read as a port: "" = no port, else Python `int(t)`, which must lie in 0..65535 (ValueError otherwise).
  `Rfc.authoritySplit n` — the independent reading of an authority text (C07).  `C07_encBuildNetloc a` / `C07_encBuildPort a`
  (C07Encoded.lean) — the authority / the port `build(encoded=True)` writes.  `C07_shownNetloc`, `C07_strPath`
  (C07More.lean) — the authority / path `str()` shows.  (E1): the host text contains '[' but no ':' (authority "[a[b]");
  (E2): nothing is left to write (no user, no password, empty host, no port).  `ReachE`: ReachE.lean.
-/
namespace Yarl
open NetlocLemmas HeadB EagerLemmas NetShape CtorMods EncTrue

/-! ## Sentence 1 — "explicit_port is the integer value of the port written in the URL, which must lie in 0-65535" on
    stored authorities that are ARBITRARY text (`encoded=True`) -/

/-- explicit_port and is_default_port() of a URL WITHOUT pre-filled cache (every `URL(s, encoded=True)` / `build` /
    modifier result) whose non-empty stored authority is ANY text that `split_netloc` accepts (answer `np`) — no
    `Written`, no `NetlocCanon`: explicit_port is `np.port`, which is `None` when the authority has no port text and
    otherwise Python's `int()` of the port text, in 0–65535 ("h:080" is 80); is_default_port() reports "absent or equal
    to the scheme default".  Cites C11_arbitrary_authority_accessors (C11Encoded.lean), CtorMods.splitNetloc_port_text
    (C17Ctor.lean), C17_headline_is_default_port. -/
theorem C17_headline_arbitrary_authority_explicit_port (e : Env) (u : Url) (np : NetlocParts)
    (hpre : u.pre = none)                           -- no pre-filled cache
    (hn : u.netloc ≠ [])                            -- there is an authority
    (hs : splitNetloc e.o u.netloc = .ok np) :      -- `split_netloc` accepts the stored text
    explicitPort e u = .ok np.port ∧ (∀ p, np.port = some p → p ≤ 65535) ∧
    (portText u.netloc = [] → np.port = none) ∧
    (portText u.netloc ≠ [] → ∃ p : Int, pyInt e.o (portText u.netloc) = .ok (some p) ∧ 0 ≤ p ∧ p ≤ 65535 ∧
      np.port = some p.toNat) ∧
    isDefaultPort e u = .ok (match np.port with
      | none => !u.netloc.isEmpty
      | some p => decide (some p = defaultPort u.scheme)) :=
  let a := C11_arbitrary_authority_accessors e u np hpre hn hs
  ⟨a.2.2.2.1, a.2.2.2.2.2.2.2.2.2.2.2, (splitNetloc_port_text e.o u.netloc np hs).1,
   (splitNetloc_port_text e.o u.netloc np hs).2, C17_headline_is_default_port e u np.port a.2.2.2.1⟩

/-- … and on EVERY result of the two `encoded=True` entry points, accepted port text or not: explicit_port is
    `C07_portOf` of the port text of the stored authority (as the independent `Rfc.authoritySplit` cuts it) — `None` for an
    empty port text, the integer when `int()` gives one in 0–65535, and it RAISES (ValueError) otherwise: with
    `encoded=True` a bad port text is not rejected at construction but at the first accessor (known finding
    F-C19-encoded-str).  Cites C07_preencoded_accessors (C07More.lean), C07_build_encoded_accessors,
    C07_build_encoded_verbatim (C07Encoded.lean). -/
theorem C17_headline_encoded_explicit_port (e : Env) (u : Url) :
    (∀ s, preEncodedUrl e s = .ok u →               -- `u = URL(s, encoded=True)`
      explicitPort e u = C07_portOf e.o (Rfc.authoritySplit u.netloc).port) ∧
    (∀ a, a.encoded = true → build e a = .ok u →    -- `u = URL.build(…, encoded=True)`
      explicitPort e u = C07_portOf e.o (Rfc.authoritySplit u.netloc).port) := by
  refine ⟨fun s h => ?_, fun a ha h => ?_⟩
  · have r := C07_preencoded_accessors e s u h
    rw [r.2.1]; exact r.2.2.2.2.2.2.1
  · rw [(C07_build_encoded_verbatim e a u ha h).2.2.1]
    exact (C07_build_encoded_accessors e a u ha h).2.1

/-! ## `URL.build(…, port=…, encoded=True)` (GAPS 3 "with encoded=True nothing is checked at build time", GAPS 4) -/

/-- what `build(encoded=True)` does with the port — SHARPENS "nothing is checked": the ARGUMENT checks are those of
    `encoded=False` (`C07_buildArgCheck`, tested before `encoded` is looked at: `port=` of a wrong type, out of range,
    mixed with `authority=`, without `host=` still raise — `C17_headline_build_port_rejects` holds for every `a`); what is
    NOT checked is the authority TEXT.  A successful call stores the scheme AS GIVEN (not lower-cased) and the authority
    `C07_encBuildNetloc a`: `authority=` verbatim (port text and all); else for a non-empty `host=` the text
    `userinfo ++ host ++ [":" port]` with the host VERBATIM (no brackets) and the port DROPPED iff it is the default
    port of the scheme AS GIVEN — so `build(scheme="HTTP", host="h", port=80, encoded=True)` KEEPS ":80" while
    `encoded=False` drops it (`C17_headline_build_port`).
    Cites C07_build_encoded_raises, C07_build_encoded_verbatim, C07_encBuildNetloc_shape. -/
theorem C17_headline_encoded_build_port (e : Env) (a : BuildArgs)
    (ha : a.encoded = true) :                       -- `URL.build(…, encoded=True)`
    (∀ err, C07_buildArgCheck a = some err → build e a = .error err) ∧   -- the argument checks of both modes
    (∀ u, build e a = .ok u →
      C07_buildArgCheck a = none ∧ u.scheme = a.scheme ∧ u.netloc = C07_encBuildNetloc a ∧ u.pre = none) ∧
    (a.authority ≠ [] → C07_encBuildNetloc a = a.authority) ∧
    (a.authority = [] → a.host = [] → C07_encBuildNetloc a = []) ∧
    (a.authority = [] → a.host ≠ [] →
      C07_encBuildNetloc a =
        (match a.user, a.password with
          | none, none => []
          | _, some pw => a.user.getD [] ++ [58] ++ pw ++ [64]
          | some us, none => if us = [] then [] else us ++ [64]) ++
        a.host ++
        (match C07_encBuildPort a with
          | none => []
          | some p => [58] ++ natToStr p)) ∧
    (C07_encBuildPort a =
      match a.port with
      | none => none
      | some p => if some p.toNat = defaultPort a.scheme then none else some p.toNat) :=
  ⟨(C07_build_encoded_raises e a ha).1,
   fun u h => let v := C07_build_encoded_verbatim e a u ha h; ⟨v.1, v.2.1, v.2.2.1, v.2.2.2.2.2.1⟩,
   (C07_encBuildNetloc_shape a).1, (C07_encBuildNetloc_shape a).2.1, (C07_encBuildNetloc_shape a).2.2.1,
   (C07_encBuildNetloc_shape a).2.2.2⟩

/-! ## Sentence 2 — "with_port(p) sets any valid p, clears on None, and rejects bools, non-integers and out-of-range
    values" on ARBITRARY stored authority text (GAPS 6) -/

/-- GAPS 6.  `with_port` on a URL without pre-filled cache whose non-empty stored authority is ANY text that
    `split_netloc` accepts (answer `np`).  (i) The EXACT result for EVERY argument: TypeError for a bool / non-int
    (`kind ≠ 0`), ValueError for an int outside 0..65535, otherwise the URL whose authority is RE-MADE by
    `make_netloc(…, encode=False)` from `np.user`, `np.password`, the host text (in brackets iff it contains ':') and the
    new port — scheme, path, query, fragment copied.  (ii) Reading back, when the host text is not of the exceptional
    shape (E1) "contains '[' but no ':'": explicit_port of the result is the new port (`None` clears), raw_user /
    raw_password read as before, raw_host / host_subcomponent too unless nothing is left to write (E2), in which case the
    stored authority is EMPTY and raw_host reads `None`.  (E1) is needed: see the computed `example` at the end
    (`with_port(81)` on the authority "[a[b]" stores "a[b:81", whose explicit_port is `None`).
    Cites C11_arbitrary_authority_modifiers, C11_arbitrary_authority_frame_with_port (C11Encoded.lean). -/
theorem C17_headline_with_port_arbitrary_authority (e : Env) (u : Url) (np : NetlocParts)
    (hpre : u.pre = none)                           -- no pre-filled cache
    (hn : u.netloc ≠ [])                            -- there is an authority
    (hs : splitNetloc e.o u.netloc = .ok np) :      -- `split_netloc` accepts the stored text
    (∀ (p : Option Int) (kind : Nat), withPort e u p kind =
      if kind ≠ 0 then .error .typeError
      else if portBad p then .error .valueError
      else .ok (fromParts u.scheme
                  (makeNetloc (q e Gen.QUOTER) np.user np.password (some (bracket (np.host.getD []))) (p.map Int.toNat) false)
                  u.path u.query u.fragment)) ∧
    (¬ (91 ∈ np.host.getD [] ∧ 58 ∉ np.host.getD []) →         -- not the shape (E1)
      ∀ p : Option Int, (∀ i, p = some i → 0 ≤ i ∧ i ≤ 65535) →   -- a valid port, or None
        let nothing := np.user = none ∧ np.password = none ∧ np.host.getD [] = [] ∧ p = none   -- (E2)
        ∃ v, withPort e u p 0 = .ok v ∧ explicitPort e v = .ok (p.map Int.toNat) ∧
          rawUser e v = rawUser e u ∧ rawPassword e v = rawPassword e u ∧
          (rawHost e v = if nothing then .ok none else rawHost e u) ∧
          (hostSubcomponent e v = if nothing then .ok none else hostSubcomponent e u) ∧
          (v.netloc = [] ↔ nothing) ∧
          v.scheme = u.scheme ∧ v.path = u.path ∧ v.query = u.query ∧ v.fragment = u.fragment ∧ v.pre = none) :=
  ⟨(C11_arbitrary_authority_modifiers e u np hpre hn hs).2.2.2.2.1,
   fun hgood p hr => C11_arbitrary_authority_frame_with_port e u np hpre hn hs hgood p hr⟩

/-- … and when `split_netloc` REJECTS the stored authority of a cache-free URL (port text "99999", "x": only possible
    after `encoded=True`; the error `err` is ValueError, or an oracle request for a non-ASCII port text): `with_port`
    fails for EVERY argument — TypeError / ValueError for a bad argument as always, else `err` — and `str()` raises `err`.
    Cites C11_arbitrary_authority_split_fails (C11Encoded.lean). -/
theorem C17_headline_with_port_split_fails (e : Env) (u : Url) (err : PyErr)
    (hpre : u.pre = none)                           -- no pre-filled cache
    (hs : splitNetloc e.o u.netloc = .error err) :  -- `split_netloc` rejects the stored text
    u.netloc ≠ [] ∧ (err = .valueError ∨ ∃ f a, err = .oracleMiss f a) ∧
    (∀ (p : Option Int) (kind : Nat), withPort e u p kind =
      if kind ≠ 0 then .error .typeError else if portBad p then .error .valueError else .error err) ∧
    str e u = .error err :=
  let r := C11_arbitrary_authority_split_fails e u err hpre hs
  ⟨r.1, r.2.1, r.2.2.2.2.2.1, r.2.2.2.2.2.2.2.1⟩

/-- GAPS 6 over the closure of ALL entry points, `encoded=True` included (`ReachE`): on a `ReachE` URL (its cache, if any,
    agreeing with the stored text: `hg`, from `GoodAuthority` of a constructor input) with a non-empty stored authority
    that `split_netloc` accepts and whose host text is not of shape (E1), `with_port(p)` for every valid `p` / `None`
    succeeds and explicit_port reads back, user and password read as before, the host too unless nothing is left (E2);
    and when `split_netloc` rejects the stored authority of a cache-free `ReachE` URL, `with_port` fails whatever the
    argument and the URL cannot be printed.  Cites C11_reachE_authority_frame, C11_reachE_split_fails (C11ReachE.lean). -/
theorem C17_headline_reachE_with_port (e : Env) (u : Url)
    (hr : ReachE e u) :                             -- obtained through the entry points, `encoded=True` included
    (∀ np, (∀ s, PyStr s → encodeUrl e s = .ok u → GoodAuthority e s) →   -- C09's guard, for a constructor result only
      u.netloc ≠ [] → splitNetloc e.o u.netloc = .ok np →              -- the stored authority splits
      ¬ (91 ∈ np.host.getD [] ∧ 58 ∉ np.host.getD []) →                 -- not the shape (E1)
      ∀ p : Option Int, (∀ i, p = some i → 0 ≤ i ∧ i ≤ 65535) →
        ∃ v, withPort e u p 0 = .ok v ∧ explicitPort e v = .ok (p.map Int.toNat) ∧
          rawUser e v = rawUser e u ∧ rawPassword e v = rawPassword e u ∧
          (rawHost e v = if np.user = none ∧ np.password = none ∧ np.host.getD [] = [] ∧ p = none then .ok none
                         else rawHost e u)) ∧
    (∀ err, u.pre = none → splitNetloc e.o u.netloc = .error err →    -- the stored authority does not split
      (∀ p k, ∃ err', withPort e u p k = .error err') ∧ str e u = .error err) :=
  ⟨fun np hg hn hs hgood => (C11_reachE_authority_frame e u np hr hg hn hs hgood).2.2.2.1,
   fun err hpre hs => let r := C11_reachE_split_fails e u err hr hpre hs; ⟨r.2.2.2.2.1, r.2.2.2.2.2.1⟩⟩

/-! ## Sentence 2 — "str() … omit[s] … the port … exactly when it is absent or equals the scheme default" on
    `encoded=True` URLs -/

/-- str() of a result of `URL(s, encoded=True)` / `build(encoded=True)`: no cache is pre-filled; when explicit_port
    returns `ep`, str() shows the stored scheme / path / query / fragment through `unsplit_result` and the stored
    authority VERBATIM — unless a port equal to the scheme default is written, in which case the authority is re-made
    from raw_user, raw_password and host_subcomponent WITHOUT the port ("U:P@H:080" under "http" prints "U:P@H"); when
    explicit_port raises (bad port text), str() raises the same error.  Cites C06_encoded_str (C06Encoded.lean). -/
theorem C17_headline_encoded_str_omits_default (e : Env) (u : Url)
    (hu : (∃ s, preEncodedUrl e s = .ok u) ∨ (∃ a, a.encoded = true ∧ build e a = .ok u)) :  -- an `encoded=True` result
    u.pre = none ∧
    (∀ ep, explicitPort e u = .ok ep →
      ∃ ru rp hs, rawUser e u = .ok ru ∧ rawPassword e u = .ok rp ∧ hostSubcomponent e u = .ok hs ∧
        str e u = .ok (unsplitResult u.scheme (C07_shownNetloc e u ep ru rp hs) (C07_strPath u) u.query u.fragment) ∧
        ((∀ p, ep = some p → some p ≠ defaultPort u.scheme) → C07_shownNetloc e u ep ru rp hs = u.netloc)) ∧
    (∀ err, explicitPort e u = .error err → str e u = .error err) :=
  C06_encoded_str e u hu

/-! ## witnesses (Python backend, empty oracle tables; each is a call of the real library named in the cited modules) -/

/-- `build(…, encoded=True)` and the port: `build(scheme="HTTP", host="h::1", port=80, user="a b", password="", …,
    encoded=True)` stores the authority `a b:@h::1:80` (scheme upper-case, so 80 is not its default and STAYS; host not
    bracketed) and explicit_port of it RAISES ValueError (the port text is ":1:80"); `build(scheme="http", host="h",
    port=80, …, encoded=True)` drops the default port; `build(scheme="http", authority="U@H:080", …, encoded=True)`
    stores the port text "080" verbatim; `port=` without `host=`, `port=70000`, `port=True` still raise
    (ValueError, ValueError, TypeError) with `encoded=True`.
    Cites C07_build_encoded_instance, C07_build_encoded_instances, C07_build_encoded_conflicts. -/
theorem C17_headline_encoded_build_port_instances :
    let e0 : Env := { b := .py, o := Oracles.empty }
    let a : BuildArgs := {
      scheme := "HTTP".toStr, host := "h::1".toStr, port := some 80, user := some "a b".toStr,
      password := some [], path := "x/../y".toStr,
      query := .mapping [("k".toStr, .one (.str "v w".toStr))], fragment := "f g".toStr, encoded := true }
    build e0 a = .ok (fromParts "HTTP".toStr "a b:@h::1:80".toStr "x/../y".toStr "k=v+w".toStr "f g".toStr) ∧
    (build e0 a).bind (explicitPort e0) = .error .valueError ∧
    build e0 { scheme := "http".toStr, host := "h".toStr, port := some 80, path := "x".toStr,
               queryString := "a b".toStr, encoded := true } =
      .ok (fromParts "http".toStr "h".toStr "x".toStr "a b".toStr []) ∧
    build e0 { scheme := "http".toStr, authority := "U@H:080".toStr, path := "x".toStr,
               query := .str "a b=c".toStr, encoded := true } =
      .ok (fromParts "http".toStr "U@H:080".toStr "x".toStr "a+b=c".toStr []) ∧
    build e0 { port := some 80, encoded := true } = .error .valueError ∧
    build e0 { host := "h".toStr, port := some 70000, encoded := true } = .error .valueError ∧
    build e0 { host := "h".toStr, portKind := 1, encoded := true } = .error .typeError :=
  ⟨C07_build_encoded_instance.1, C07_build_encoded_instance.2.1, C07_build_encoded_instances.1,
   C07_build_encoded_instances.2.1, C07_build_encoded_conflicts.2.2.1, C07_build_encoded_conflicts.2.2.2.1,
   C07_build_encoded_conflicts.2.2.2.2.1⟩

/-- `with_port` on odd stored authorities (records `http://<authority>/p` as `encoded=True` stores them): the text is
    silently normalised — "user@:80".with_port(None) stores "user@", ":pw@h".with_port(81) stores ":pw@h:81",
    "y[::1]".with_port(81) stores "[::1]:81" (junk dropped), "a@b@h".with_port(1) stores "a@b@h:1"; (E2)
    `URL("http://@/p", encoded=True)` has raw_host "" and `.with_port(None)` stores the EMPTY authority, raw_host `None`,
    str() "http:///p"; and on `URL("http://h:99999/p", encoded=True)` `split_netloc` fails, `with_port(81)` and `str()`
    raise ValueError.  Cites C11_arbitrary_authority_text_normalisations,
    C11_arbitrary_authority_frame_fails_for_nothing_left, C11_arbitrary_authority_split_fails_instance. -/
theorem C17_headline_with_port_arbitrary_authority_instances :
    let e0 : Env := { b := .py, o := Oracles.empty }
    let mk := fun (n : String) => fromParts "http".toStr n.toStr "/p".toStr [] []
    (withPort e0 (mk "user@:80") none 0).map (·.netloc) = .ok "user@".toStr ∧
    (withPort e0 (mk ":pw@h") (some 81) 0).map (·.netloc) = .ok ":pw@h:81".toStr ∧
    (withPort e0 (mk "y[::1]") (some 81) 0).map (·.netloc) = .ok "[::1]:81".toStr ∧
    (withPort e0 (mk "a@b@h") (some 1) 0).map (·.netloc) = .ok "a@b@h:1".toStr ∧
    (splitNetloc e0.o (mk "@").netloc = .ok { user := none, password := none, host := none, port := none } ∧
      rawHost e0 (mk "@") = .ok (some []) ∧
      (withPort e0 (mk "@") none 0).map (·.netloc) = .ok [] ∧ (withPort e0 (mk "@") none 0).bind (rawHost e0) = .ok none ∧
      (withPort e0 (mk "@") none 0).bind (str e0) = .ok "http:///p".toStr) ∧
    (preEncodedUrl e0 "http://h:99999/p".toStr = .ok (mk "h:99999") ∧
      splitNetloc e0.o (mk "h:99999").netloc = .error .valueError ∧
      withPort e0 (mk "h:99999") (some 81) 0 = .error .valueError ∧ str e0 (mk "h:99999") = .error .valueError) :=
  let t := C11_arbitrary_authority_text_normalisations
  let n := C11_arbitrary_authority_frame_fails_for_nothing_left
  let f := C11_arbitrary_authority_split_fails_instance
  ⟨t.2.2.1, t.2.2.2.2.1, t.2.2.2.2.2.2.1, t.2.2.2.2.2.2.2.2.2.1,
   ⟨n.1, n.2.1, n.2.2.1, n.2.2.2.1, n.2.2.2.2.2.2.1⟩,
   ⟨f.1, f.2.1, f.2.2.2.2.2.2.1, f.2.2.2.2.2.2.2.1⟩⟩

/-! ## non-vacuity -/
section checks
private def e1 : Env := { b := .py, o := Oracles.empty }
-- the hypotheses of C17_headline_arbitrary_authority_explicit_port / _with_port_arbitrary_authority on the NON-canonical
-- authority "U:P@H:080" (as `URL("http://U:P@H:080/x", encoded=True)` stores it); explicit_port is 80, the default
private def u1 : Url := fromParts "http".toStr "U:P@H:080".toStr "/x".toStr [] []
example : preEncodedUrl e1 "http://U:P@H:080/x".toStr = .ok u1 ∧ u1.pre = none ∧ u1.netloc ≠ [] ∧
    splitNetloc e1.o u1.netloc =
      .ok { user := some "U".toStr, password := some "P".toStr, host := some "H".toStr, port := some 80 } ∧
    portText u1.netloc = "080".toStr ∧ ¬ (91 ∈ "H".toStr ∧ 58 ∉ "H".toStr) := by
  unfold u1; str_lits; decide +kernel
example : explicitPort e1 u1 = .ok (some 80) ∧ isDefaultPort e1 u1 = .ok true :=
  let r := C17_headline_arbitrary_authority_explicit_port e1 u1
    { user := some "U".toStr, password := some "P".toStr, host := some "H".toStr, port := some 80 } rfl (by decide +kernel)
    (by decide +kernel)
  ⟨r.1, r.2.2.2.2⟩
-- (E1) is NEEDED in C17_headline_with_port_arbitrary_authority (ii) — computed in the MODEL, not a theorem of a cited
-- module: on `URL.build(scheme="http", authority="[a[b]", path="/p", encoded=True)` (raw_host "a[b", no port)
-- `with_port(81)` succeeds and stores "a[b:81", whose explicit_port reads None and whose raw_host reads "b:81"
example :
    let u := fromParts "http".toStr "[a[b]".toStr "/p".toStr [] []
    build e1 { scheme := "http".toStr, authority := "[a[b]".toStr, path := "/p".toStr, encoded := true } = .ok u ∧
    splitNetloc e1.o u.netloc = .ok { user := none, password := none, host := some "a[b".toStr, port := none } ∧
    (withPort e1 u (some 81) 0).map (·.netloc) = .ok "a[b:81".toStr ∧
    (withPort e1 u (some 81) 0).bind (explicitPort e1) = .ok none ∧
    (withPort e1 u (some 81) 0).bind (rawHost e1) = .ok (some "b:81".toStr) := by
  str_lits; refine ⟨?_, ?_, ?_, ?_, ?_⟩ <;> decide +kernel
end checks

end Yarl
