/-
  C20Multi.lean — "URLs and caches are safe to share between threads", for the machine with SEVERAL caches,
  derivations, hashing, comparisons and REBINDING `cache_configure` (YarlModel/CacheMulti.lean).

  Closes C20Headline GAPS 2 (derivations are operations of the thread model; the product of several
  independent lru_caches is modelled) and 5 (clear / configure act per cache; configure rebinds the global:
  a thread that fetched the old wrapper completes its call on the old, discarded table).

  The per-thread invariant (`PendOK`, `ThreadOK`, `TCoherent`) and the step lemma `tstep_threadOK` are in
  Lemmas/MultiCacheLemmas.lean.
-/
import YarlModel
import YarlModel.CacheMulti
import YarlProofs.Lemmas.CacheLemmas
import YarlProofs.Lemmas.MultiCacheLemmas
import YarlProofs.C08Multi
namespace Yarl.MultiCache
open Yarl.Cache (Obj Policy lookup memoGet setMemo insertTable)
open Yarl.CacheLemmas

variable {I Key Mod Err Parts Val : Type} [DecidableEq I] [DecidableEq Key]

/-- one atomic step of any thread preserves the invariant; the other threads' records are untouched, the heap
    only grows (`HeapExt`: existing objects keep their ids and parts) and memos, tables of every generation and
    derivation memos only ever hold correct entries (`WOK`) -/
theorem C20_multi_tstep_coherent {sem : Sem I Key Mod Err Parts Val} (hp : PrefillOK sem) (hn : MemoNamesOK sem)
    (pol : I → Policy Key) (w : World I Key Parts Val) (ts : List (Thread I Key Mod Err Parts Val))
    (spool : List (Option Parts)) (progs : List (List (Op I Key Mod))) (i : Nat)
    (t : Thread I Key Mod Err Parts Val) (hc : TCoherent sem w ts spool progs) (hi : ts[i]? = some t) :
    TCoherent sem (tstep sem pol w t).1 (ts.set i (tstep sem pol w t).2) spool progs ∧
    HeapExt w.heap (tstep sem pol w t).1.heap ∧
    (∀ j, j ≠ i → (ts.set i (tstep sem pol w t).2)[j]? = ts[j]?) := by
  obtain ⟨hw, hl, hth⟩ := hc
  have hil : i < ts.length := getElem?_lt hi
  obtain ⟨p, hpi⟩ : ∃ p, progs[i]? = some p := ⟨progs[i]'(hl ▸ hil), List.getElem?_eq_getElem _⟩
  obtain ⟨hw', he, hto⟩ := tstep_threadOK hp hn pol w spool p t hw (hth i t p hi hpi)
  refine ⟨⟨hw', by rw [List.length_set]; exact hl, ?_⟩, he, fun j hj => List.getElem?_set_ne (Ne.symm hj)⟩
  intro j t' p' hj hpj
  by_cases hji : j = i
  · subst hji
    rw [List.getElem?_set_self hil] at hj
    cases hj
    rw [hpi] at hpj; cases hpj
    exact hto
  · rw [List.getElem?_set_ne (Ne.symm hji)] at hj
    exact threadOK_ext he (hth j t' p' hj hpj)

/-- every schedule preserves the invariant -/
theorem runSched_coherent {sem : Sem I Key Mod Err Parts Val} (hp : PrefillOK sem) (hn : MemoNamesOK sem)
    (pol : I → Policy Key) (w : World I Key Parts Val) (ts : List (Thread I Key Mod Err Parts Val))
    (spool : List (Option Parts)) (progs : List (List (Op I Key Mod))) (sched : List Nat)
    (hc : TCoherent sem w ts spool progs) :
    TCoherent sem (runSched sem pol w ts sched).1 (runSched sem pol w ts sched).2 spool progs := by
  induction sched generalizing w ts with
  | nil => exact hc
  | cons i sched ih =>
    simp only [runSched]
    cases hi : ts[i]? with
    | none => exact ih w ts hc
    | some t => exact ih _ _ (C20_multi_tstep_coherent hp hn pol w ts spool progs i t hc hi).1

set_option linter.unusedSectionVars false in
/-- the initial threaded world: all threads share a coherent pool -/
theorem C20_multi_init_coherent (sem : Sem I Key Mod Err Parts Val) (w0 : World I Key Parts Val)
    (pool : List (Option Nat)) (spool : List (Option Parts)) (hc : Coherent sem w0 pool spool)
    (progs : List (List (Op I Key Mod))) :
    TCoherent sem w0 (progs.map (fun p => ({ prog := p, hs := pool } : Thread I Key Mod Err Parts Val))) spool progs := by
  obtain ⟨hw, hh⟩ := hc
  refine ⟨hw, by simp, ?_⟩
  intro i t p hi hpi
  rw [List.getElem?_map, hpi] at hi
  simp only [Option.map_some, Option.some.injEq] at hi
  subst hi
  exact ⟨[], rfl, hh, rfl, trivial⟩

/-- under every schedule each thread has completed a prefix `done` of its program, and its outputs are the
    specification's outputs of `done`: the schedule theorems below read this off -/
theorem runSched_done {sem : Sem I Key Mod Err Parts Val} (hp : PrefillOK sem) (hn : MemoNamesOK sem)
    (pol : I → Policy Key) (w0 : World I Key Parts Val) (pool : List (Option Nat)) (spool : List (Option Parts))
    (hc : Coherent sem w0 pool spool) (progs : List (List (Op I Key Mod))) (sched : List Nat)
    (i : Nat) (t : Thread I Key Mod Err Parts Val)
    (hi : (runSched sem pol w0 (progs.map (fun p => ({ prog := p, hs := pool } : Thread I Key Mod Err Parts Val)))
            sched).2[i]? = some t) :
    ∃ p done, progs[i]? = some p ∧ p = done ++ t.prog ∧ t.outs = specRun sem spool done := by
  obtain ⟨_, hl, hth⟩ :=
    runSched_coherent hp hn pol w0 _ spool progs sched (C20_multi_init_coherent sem w0 pool spool hc progs)
  obtain ⟨p, hpi⟩ : ∃ p, progs[i]? = some p := ⟨progs[i]'(hl ▸ getElem?_lt hi), List.getElem?_eq_getElem _⟩
  obtain ⟨done, hpd, _, ho, _⟩ := hth i t p hi hpi
  exact ⟨p, done, hpi, hpd, ho⟩

/-- for every schedule (any length, any order, threads may starve) of threads doing cached calls on any
    of the caches, derivations, reads, hashing, comparisons, copies, per-cache clears and rebinding configures,
    every thread's outputs are a prefix of its sequential cache-free outputs, and equal to them once its program
    is finished (the premise `t.pend = .idle` is superfluous: `C20_multi_any_schedule_finished`) -/
theorem C20_multi_any_schedule {sem : Sem I Key Mod Err Parts Val} (hp : PrefillOK sem) (hn : MemoNamesOK sem)
    (pol : I → Policy Key) (w0 : World I Key Parts Val) (pool : List (Option Nat)) (spool : List (Option Parts))
    (hc : Coherent sem w0 pool spool) (progs : List (List (Op I Key Mod))) (sched : List Nat) :
    let ts0 := progs.map (fun p => ({ prog := p, hs := pool } : Thread I Key Mod Err Parts Val))
    let r := runSched sem pol w0 ts0 sched
    ∀ (i : Nat) (t : Thread I Key Mod Err Parts Val), r.2[i]? = some t →
      ∃ p, progs[i]? = some p ∧ t.outs <+: specRun sem spool p ∧
        (t.prog = [] ∧ t.pend = .idle → t.outs = specRun sem spool p) := by
  intro ts0 r i t hi
  obtain ⟨p, done, hpi, hpd, ho⟩ := runSched_done hp hn pol w0 pool spool hc progs sched i t hi
  refine ⟨p, hpi, ?_, fun ⟨hnil, _⟩ => ?_⟩
  · rw [hpd, specRun_append, ho]
    exact List.prefix_append _ _
  · rw [ho, hpd, hnil, List.append_nil]

/-- a thread with an empty program is idle: a finished program needs no side condition on `pend` -/
theorem C20_multi_any_schedule_finished {sem : Sem I Key Mod Err Parts Val} (hp : PrefillOK sem) (hn : MemoNamesOK sem)
    (pol : I → Policy Key) (w0 : World I Key Parts Val) (pool : List (Option Nat)) (spool : List (Option Parts))
    (hc : Coherent sem w0 pool spool) (progs : List (List (Op I Key Mod))) (sched : List Nat)
    (i : Nat) (t : Thread I Key Mod Err Parts Val)
    (hi : (runSched sem pol w0 (progs.map (fun p => ({ prog := p, hs := pool } : Thread I Key Mod Err Parts Val)))
            sched).2[i]? = some t) (hfin : t.prog = []) :
    ∃ p, progs[i]? = some p ∧ t.outs = specRun sem spool p := by
  obtain ⟨p, done, hpi, hpd, ho⟩ := runSched_done hp hn pol w0 pool spool hc progs sched i t hi
  exact ⟨p, hpi, by rw [ho, hpd, hfin, List.append_nil]⟩

/-- threads starting from an empty world (any capacities, any initial bindings) and an empty pool -/
theorem C20_multi_any_schedule_fresh {sem : Sem I Key Mod Err Parts Val} (hp : PrefillOK sem) (hn : MemoNamesOK sem)
    (pol : I → Policy Key) (caps : I → Nat → Option Nat) (gen : I → Nat)
    (progs : List (List (Op I Key Mod))) (sched : List Nat) :
    let ts0 := progs.map (fun p => ({ prog := p, hs := [] } : Thread I Key Mod Err Parts Val))
    let r := runSched sem pol { caps := caps, gen := gen } ts0 sched
    ∀ (i : Nat) (t : Thread I Key Mod Err Parts Val), r.2[i]? = some t →
      ∃ p, progs[i]? = some p ∧ t.outs <+: specRun sem [] p ∧
        (t.prog = [] ∧ t.pend = .idle → t.outs = specRun sem [] p) :=
  C20_multi_any_schedule hp hn pol _ [] [] (C08_multi_init_coherent sem caps gen) progs sched

/-- threads started on the world and the handles an arbitrary sequential prologue `pre` left behind -/
theorem C20_multi_any_schedule_after {sem : Sem I Key Mod Err Parts Val} (hp : PrefillOK sem) (hn : MemoNamesOK sem)
    (pol : I → Policy Key) (caps : I → Nat → Option Nat) (gen : I → Nat) (pre : List (Op I Key Mod))
    (progs : List (List (Op I Key Mod))) (sched : List Nat) :
    let w := runWorld sem pol { caps := caps, gen := gen } [] pre
    let spool := specHandles sem [] pre
    let ts0 := progs.map (fun p => ({ prog := p, hs := w.2 } : Thread I Key Mod Err Parts Val))
    let r := runSched sem pol w.1 ts0 sched
    ∀ (i : Nat) (t : Thread I Key Mod Err Parts Val), r.2[i]? = some t →
      ∃ p, progs[i]? = some p ∧ t.outs <+: specRun sem spool p ∧
        (t.prog = [] ∧ t.pend = .idle → t.outs = specRun sem spool p) :=
  C20_multi_any_schedule hp hn pol _ _ _
    (C08_multi_runWorld_coherent hp hn pol _ [] [] (C08_multi_init_coherent sem caps gen) pre) progs sched

/-- "a pending call stores into a DISCARDED table without effect": if the cache has been rebound since the
    thread fetched its wrapper (generation `g` is no longer the current one), the store step changes no table that
    the current bindings of the globals reach, and no binding -/
theorem C20_multi_stale_store_invisible (sem : Sem I Key Mod Err Parts Val) (pol : I → Policy Key)
    (w : World I Key Parts Val) (t : Thread I Key Mod Err Parts Val) (k : Key) (g : Nat) (r : Except Err Parts)
    (slot : Option (Nat × String)) (ht : t.pend = .computed k g r slot) (hg : g ≠ w.gen (sem.cacheOf k)) :
    (tstep sem pol w t).1.gen = w.gen ∧ (tstep sem pol w t).1.caps = w.caps ∧
    ∀ i, (tstep sem pol w t).1.tables i (w.gen i) = w.tables i (w.gen i) := by
  unfold tstep
  rw [ht]
  cases r with
  | error e => exact ⟨rfl, rfl, fun _ => rfl⟩
  | ok p =>
    refine ⟨rfl, rfl, fun i => ?_⟩
    show updTable w.tables (sem.cacheOf k) g _ i (w.gen i) = _
    unfold updTable
    split
    · rename_i h
      obtain ⟨h1, h2⟩ := h
      subst h1
      exact absurd h2.symm hg
    · rfl

set_option linter.unusedSectionVars false in
/-- … while a thread that fetches the global AFTER the rebinding uses the new, initially empty table -/
theorem C20_multi_rebinding_fresh_table (w : World I Key Parts Val) (i : I) (c : Option Nat) :
    (reconfigure w i c).tables i ((reconfigure w i c).gen i) = [] ∧
    (reconfigure w i c).caps i ((reconfigure w i c).gen i) = c ∧
    (∀ j, j ≠ i → (reconfigure w i c).gen j = w.gen j ∧
      (reconfigure w i c).tables j ((reconfigure w i c).gen j) = w.tables j (w.gen j)) ∧
    (reconfigure w i c).heap = w.heap := by
  refine ⟨?_, ?_, ?_, rfl⟩
  · simp [reconfigure, updTable]
  · simp [reconfigure]
  · intro j hj
    simp [reconfigure, updTable, hj]

end Yarl.MultiCache

/-! ## the REAL model -/
namespace Yarl
open Yarl.Cache (Policy)
open Yarl.MultiCache Yarl.MultiInst

/-- for yarl: threads sharing URL objects and ALL the constructor caches (`encode_url`, `pre_encoded_url`,
    `build_pre_encoded_url`, `from_parts`; `from_parts_uncached`), doing constructions, DERIVATIONS (every modifier
    of the model, `join` included; `parent` / `_origin` memoised in the shared source object), accessor reads,
    `hash`, comparisons, copies, per-cache clears and rebinding configures, started on ANY coherent world and pool
    of shared handles, under EVERY schedule: each thread's outputs are a prefix of — and, once it has finished,
    equal to — what its program yields alone against the cache-free specification -/
theorem C20_multi_yarl_any_schedule (e : Env) (hf : Parts → Int) (pol : YCache → Policy (YKey e))
    (w0 : World YCache (YKey e) Parts MVal) (pool : List (Option Nat)) (spool : List (Option Parts))
    (hc : Coherent (yarlMSem e hf) w0 pool spool) (progs : List (List (Op YCache (YKey e) YMod))) (sched : List Nat) :
    let ts0 := progs.map (fun p => ({ prog := p, hs := pool } : Thread YCache (YKey e) YMod PyErr Parts MVal))
    let r := runSched (yarlMSem e hf) pol w0 ts0 sched
    ∀ (i : Nat) (t : Thread YCache (YKey e) YMod PyErr Parts MVal), r.2[i]? = some t →
      ∃ p, progs[i]? = some p ∧ t.outs <+: specRun (yarlMSem e hf) spool p ∧
        (t.prog = [] ∧ t.pend = .idle → t.outs = specRun (yarlMSem e hf) spool p) :=
  C20_multi_any_schedule (yarl_prefillOK e hf) (yarl_memoNamesOK e hf) pol w0 pool spool hc progs sched

theorem C20_multi_yarl_any_schedule_finished (e : Env) (hf : Parts → Int) (pol : YCache → Policy (YKey e))
    (w0 : World YCache (YKey e) Parts MVal) (pool : List (Option Nat)) (spool : List (Option Parts))
    (hc : Coherent (yarlMSem e hf) w0 pool spool) (progs : List (List (Op YCache (YKey e) YMod))) (sched : List Nat)
    (i : Nat) (t : Thread YCache (YKey e) YMod PyErr Parts MVal)
    (hi : (runSched (yarlMSem e hf) pol w0
            (progs.map (fun p => ({ prog := p, hs := pool } : Thread YCache (YKey e) YMod PyErr Parts MVal))) sched).2[i]?
          = some t) (hfin : t.prog = []) :
    ∃ p, progs[i]? = some p ∧ t.outs = specRun (yarlMSem e hf) spool p :=
  C20_multi_any_schedule_finished (yarl_prefillOK e hf) (yarl_memoNamesOK e hf) pol w0 pool spool hc progs sched i t hi hfin

/-- from the empty world (any capacities, any initial bindings) -/
theorem C20_multi_yarl_any_schedule_fresh (e : Env) (hf : Parts → Int) (pol : YCache → Policy (YKey e))
    (caps : YCache → Nat → Option Nat) (gen : YCache → Nat) (progs : List (List (Op YCache (YKey e) YMod)))
    (sched : List Nat) :
    let ts0 := progs.map (fun p => ({ prog := p, hs := [] } : Thread YCache (YKey e) YMod PyErr Parts MVal))
    let r := runSched (yarlMSem e hf) pol { caps := caps, gen := gen } ts0 sched
    ∀ (i : Nat) (t : Thread YCache (YKey e) YMod PyErr Parts MVal), r.2[i]? = some t →
      ∃ p, progs[i]? = some p ∧ t.outs <+: specRun (yarlMSem e hf) [] p ∧
        (t.prog = [] ∧ t.pend = .idle → t.outs = specRun (yarlMSem e hf) [] p) :=
  C20_multi_any_schedule_fresh (yarl_prefillOK e hf) (yarl_memoNamesOK e hf) pol caps gen progs sched

/-- threads started on the URLs an arbitrary sequential prologue `pre` created (and derived, hashed, memoised …) -/
theorem C20_multi_yarl_any_schedule_after (e : Env) (hf : Parts → Int) (pol : YCache → Policy (YKey e))
    (caps : YCache → Nat → Option Nat) (gen : YCache → Nat) (pre : List (Op YCache (YKey e) YMod))
    (progs : List (List (Op YCache (YKey e) YMod))) (sched : List Nat) :
    let w := runWorld (yarlMSem e hf) pol { caps := caps, gen := gen } [] pre
    let spool := specHandles (yarlMSem e hf) [] pre
    let ts0 := progs.map (fun p => ({ prog := p, hs := w.2 } : Thread YCache (YKey e) YMod PyErr Parts MVal))
    let r := runSched (yarlMSem e hf) pol w.1 ts0 sched
    ∀ (i : Nat) (t : Thread YCache (YKey e) YMod PyErr Parts MVal), r.2[i]? = some t →
      ∃ p, progs[i]? = some p ∧ t.outs <+: specRun (yarlMSem e hf) spool p ∧
        (t.prog = [] ∧ t.pend = .idle → t.outs = specRun (yarlMSem e hf) spool p) :=
  C20_multi_any_schedule_after (yarl_prefillOK e hf) (yarl_memoNamesOK e hf) pol caps gen pre progs sched

/-- one atomic step keeps the invariant: every memo entry, every table entry of every generation and every
    derivation-memo entry is correct at all times (no torn or foreign value is ever visible), existing objects
    keep their ids and parts, other threads' records are untouched -/
theorem C20_multi_yarl_tstep_coherent (e : Env) (hf : Parts → Int) (pol : YCache → Policy (YKey e))
    (w : World YCache (YKey e) Parts MVal) (ts : List (Thread YCache (YKey e) YMod PyErr Parts MVal))
    (spool : List (Option Parts)) (progs : List (List (Op YCache (YKey e) YMod))) (i : Nat)
    (t : Thread YCache (YKey e) YMod PyErr Parts MVal) (hc : TCoherent (yarlMSem e hf) w ts spool progs)
    (hi : ts[i]? = some t) :
    TCoherent (yarlMSem e hf) (tstep (yarlMSem e hf) pol w t).1 (ts.set i (tstep (yarlMSem e hf) pol w t).2) spool progs ∧
    Yarl.CacheLemmas.HeapExt w.heap (tstep (yarlMSem e hf) pol w t).1.heap ∧
    (∀ j, j ≠ i → (ts.set i (tstep (yarlMSem e hf) pol w t).2)[j]? = ts[j]?) :=
  C20_multi_tstep_coherent (yarl_prefillOK e hf) (yarl_memoNamesOK e hf) pol w ts spool progs i t hc hi

/-- the three configurable string caches under threads: calls, `cache_clear()` and REBINDING
    `cache_configure()` (per cache) interleaved in every possible way — a thread that fetched the old wrapper
    completes its call on the old table — every call returns what the uncached function computes -/
theorem C20_multi_strcaches_any_schedule (o : Oracles) (pol : SCache → Policy SKey)
    (caps : SCache → Nat → Option Nat) (gen : SCache → Nat) (progs : List (List (Op SCache SKey Empty)))
    (sched : List Nat) :
    let ts0 := progs.map (fun p => ({ prog := p, hs := [] } : Thread SCache SKey Empty PyErr Str Unit))
    let r := runSched (strSem o) pol { caps := caps, gen := gen } ts0 sched
    ∀ (i : Nat) (t : Thread SCache SKey Empty PyErr Str Unit), r.2[i]? = some t →
      ∃ p, progs[i]? = some p ∧ t.outs <+: specRun (strSem o) [] p ∧
        (t.prog = [] ∧ t.pend = .idle → t.outs = specRun (strSem o) [] p) :=
  C20_multi_any_schedule_fresh (str_prefillOK o) (str_memoNamesOK o) pol caps gen progs sched

/-- what the sequential specification of a string-cache program is: the list of the uncached results -/
theorem C20_multi_strcaches_spec (o : Oracles) (shs : List (Option Str)) (k : SKey) :
    (specStep (strSem o) shs (.new k)).2 = .handle (match k with
      | .host h v => encodeHost o h v
      | .idnaEnc s => idnaEncode o s
      | .idnaDec s => idnaDecode o s) := by
  cases k <;> rfl

end Yarl

/-! ## non-vacuity: real races -/
namespace Yarl.MultiCache.Tiny
open Yarl.Cache (Policy)

def T (p : List (Op Bool (Bool × Nat) Nat)) (hs : List (Option Nat)) : Thread Bool (Bool × Nat) Nat Unit Nat Nat :=
  { prog := p, hs := hs }

def progA : List (Op Bool (Bool × Nat) Nat) := [.new (true, 9), .hash 0]
def progB : List (Op Bool (Bool × Nat) Nat) := [.configure true (some 4), .new (true, 9), .hash 1]

/-- REBINDING: thread 0 fetches the `from_parts`-like wrapper (generation 0), thread 1 rebinds the cache, thread 0
    misses and stores into the DISCARDED table of generation 0, thread 1 misses the new table and creates its own
    object: two objects for one key, one in each generation's table — and sequential outputs -/
example : ((runSched sem lru (w0 (some 4)) [T progA [], T progB []] [0, 1, 0, 0, 1, 1, 1, 0, 1, 0, 1]).2.map
    (fun t => (t.hs, t.outs))) =
    [([some 0], specRun sem [] progA), ([some 1], specRun sem [] progB)] := by decide +kernel
example : (runSched sem lru (w0 (some 4)) [T progA [], T progB []] [0, 1, 0, 0, 1, 1, 1, 0, 1, 0, 1]).1.tables true 0 =
    [((true, 9), 0)] := by decide +kernel
example : (runSched sem lru (w0 (some 4)) [T progA [], T progB []] [0, 1, 0, 0, 1, 1, 1, 0, 1, 0, 1]).1.tables true 1 =
    [((true, 9), 1)] := by decide +kernel

/-- STALE HIT: the pool already holds object 0 for key (true, 9) in generation 0.  Thread 0 fetches the old
    wrapper, thread 1 rebinds, thread 0 HITS the old table (object 0), thread 1 misses the new one (object 1);
    thread 1 then reads the memoised derivation 7 twice — one object (2) -/
def poolW : World Bool (Bool × Nat) Nat Nat × List (Option Nat) := runWorld sem lru (w0 (some 4)) [] [.new (true, 9)]
def progC : List (Op Bool (Bool × Nat) Nat) := [.configure true (some 4), .new (true, 9), .mod 1 7 [], .mod 1 7 []]

example : ((runSched sem lru poolW.1 [T progA poolW.2, T progC poolW.2]
    [0, 1, 0, 1, 1, 1, 0, 0, 1, 1, 1, 1, 1, 1, 1, 1, 1]).2.map (fun t => (t.hs, t.prog.length))) =
    [([some 0, some 0], 0), ([some 0, some 1, some 2, some 2], 0)] := by decide +kernel
example : ((runSched sem lru poolW.1 [T progA poolW.2, T progC poolW.2]
    [0, 1, 0, 1, 1, 1, 0, 0, 1, 1, 1, 1, 1, 1, 1, 1, 1]).2.map (·.outs)) =
    [specRun sem (specHandles sem [] [.new (true, 9)]) progA, specRun sem (specHandles sem [] [.new (true, 9)]) progC] := by
  decide +kernel


/-- two threads racing on the SAME memoised derivation of a shared object: both miss the derivation memo, both run
    the body, both miss the `from_parts` table, both allocate: two result objects, both correct -/
example : ((runSched sem lru poolW.1 [T [.mod 0 7 []] poolW.2, T [.mod 0 7 []] poolW.2]
    [0, 1, 0, 1, 0, 1, 0, 1, 0, 1, 0, 1]).2.map (fun t => (t.hs, t.outs))) =
    [([some 0, some 1], [.handle (.ok 16)]), ([some 0, some 2], [.handle (.ok 16)])] := by decide +kernel
/-- … or, scheduled so that the second `from_parts` call hits the first one's object, ONE result object, stored
    in the derivation memo twice -/
example : ((runSched sem lru poolW.1 [T [.mod 0 7 []] poolW.2, T [.mod 0 7 []] poolW.2]
    [0, 0, 0, 1, 1, 0, 0, 1, 0, 1, 0, 1, 1, 1]).2.map (fun t => (t.hs, t.outs))) =
    [([some 0, some 1], [.handle (.ok 16)]), ([some 0, some 1], [.handle (.ok 16)])] := by decide +kernel
example : (runSched sem lru poolW.1 [T [.mod 0 7 []] poolW.2, T [.mod 0 7 []] poolW.2]
    [0, 0, 0, 1, 1, 0, 0, 1, 0, 1, 0, 1, 1, 1]).1.dmemo = [((0, "plus7"), 1), ((0, "plus7"), 1)] := by decide +kernel

/-- a starved thread has produced a strict prefix -/
example : ((runSched sem lru (w0 (some 4)) [T progA [], T progB []] [0, 1, 0, 0, 1]).2.map (·.outs)) =
    [[.handle (.ok 9)], [.unit]] := by decide +kernel

/-- with a wrong prefill threads DO see route-dependent answers: the copy answers differently -/
example : ((runSched badPrefill lru (w0 none) [T [.new (false, 1), .read 0 "x"] [], T [.new (false, 1), .twin 0, .read 1 "x"] []]
    [0, 0, 0, 0, 1, 1, 1, 1, 1, 1]).2.map (·.outs)) =
    [[.handle (.ok 1), .value 99], [.handle (.ok 1), .handle (.ok 1), .value 2]] := by decide +kernel

end Yarl.MultiCache.Tiny

namespace Yarl.MultiRun
open Yarl Yarl.MultiCache Yarl.MultiInst Yarl.CacheInst Yarl.YarlRun

/-- threads on the REAL model, sharing `u = URL("http://user@example.com:8080/p")` (created by a prologue):
    threads 0 and 1 derive `a = u.with_path("/x y")` (thread 1's `from_parts` call hits thread 0's object), read
    `str(a)` (both miss the shared memo, both compute, both store), hash `u` (double store into
    `u._cache["hash"]`), take `a.parent` (thread 1 finds thread 0's object in `a`'s derivation memo although
    thread 2 has meanwhile rebound and cleared `from_parts`); thread 0 finally compares -/
def poolY : World YCache (YKey envC) Parts MVal × List (Option Nat) :=
  runWorld (yarlMSem envC hf0) (fun _ => lruPol) wA [] [.new (.url k1)]

def spoolY : List (Option Parts) := specHandles (yarlMSem envC hf0) [] [.new (.url k1)]

def progY0 : List (Op YCache (YKey envC) YMod) :=
  [.mod 0 (.withPath pathX false false false) [], .read 1 "str", .hash 0, .mod 1 .parent [], .cmp .lt 2 1]
def progY1 : List (Op YCache (YKey envC) YMod) :=
  [.mod 0 (.withPath pathX false false false) [], .read 1 "str", .hash 0, .mod 1 .parent []]
def progY2 : List (Op YCache (YKey envC) YMod) := [.configure .fromParts (some 1), .clear .fromParts]

def TY (p : List (Op YCache (YKey envC) YMod)) : Thread YCache (YKey envC) YMod PyErr Parts MVal :=
  { prog := p, hs := poolY.2 }

def schedY : List Nat := [0, 0, 0, 1, 1, 0, 1, 0, 1, 2, 0, 1, 0, 1, 0, 0, 2, 0, 0, 0, 2, 1, 1, 1, 1, 1, 0]

example : ((runSched (yarlMSem envC hf0) (fun _ => lruPol) poolY.1 [TY progY0, TY progY1, TY progY2] schedY).2.map
    (fun t => (t.hs, t.prog.length))) =
    [([some 0, some 1, some 2], 0), ([some 0, some 1, some 2], 0), ([some 0], 0)] := by
  unfold TY poolY; k1_lits; decide +kernel
example : ((runSched (yarlMSem envC hf0) (fun _ => lruPol) poolY.1 [TY progY0, TY progY1, TY progY2] schedY).1.heap.map
    (fun o => o.memo.map (·.1))) =
    [["hash", "hash", "raw_host", "explicit_port", "raw_user", "raw_password"], ["str", "str"], []] := by
  unfold TY poolY; k1_lits; decide +kernel
example : (runSched (yarlMSem envC hf0) (fun _ => lruPol) poolY.1 [TY progY0, TY progY1, TY progY2] schedY).1.dmemo =
    [((1, "parent"), 2)] := by
  unfold TY poolY; k1_lits; decide +kernel
example : ((runSched (yarlMSem envC hf0) (fun _ => lruPol) poolY.1 [TY progY0, TY progY1, TY progY2] schedY).2.map (·.outs)) =
    [specRun (yarlMSem envC hf0) spoolY progY0, specRun (yarlMSem envC hf0) spoolY progY1,
     specRun (yarlMSem envC hf0) spoolY progY2] := by
  unfold TY poolY spoolY; k1_lits; decide +kernel

/-- the pool is coherent, so the theorem applies to these threads under EVERY schedule -/
example (sched : List Nat) (i : Nat) (t : Thread YCache (YKey envC) YMod PyErr Parts MVal)
    (hi : (runSched (yarlMSem envC hf0) (fun _ => lruPol) poolY.1
            ([progY0, progY1, progY2].map (fun p => ({ prog := p, hs := poolY.2 } : Thread YCache (YKey envC) YMod PyErr Parts MVal)))
            sched).2[i]? = some t) (hfin : t.prog = []) :
    ∃ p, [progY0, progY1, progY2][i]? = some p ∧ t.outs = specRun (yarlMSem envC hf0) spoolY p :=
  C20_multi_yarl_any_schedule_finished envC hf0 _ poolY.1 poolY.2 spoolY
    (C08_multi_runWorld_coherent (yarl_prefillOK envC hf0) (yarl_memoNamesOK envC hf0) _ _ [] []
      (C08_multi_init_coherent _ _ _) [.new (.url k1)]) _ sched i t hi hfin

/-- the string caches: two threads call `_encode_host("EXAMPLE.com", False)`, a third rebinds the cache between
    the first thread's fetch and its store -/
example : ((runSched (strSem envC.o) (fun _ => lruPol) { caps := fun _ _ => some 2 }
      [{ prog := [.new (.host "EXAMPLE.com".toStr false)], hs := [] },
       { prog := [.new (.host "EXAMPLE.com".toStr false)], hs := [] },
       { prog := [.configure .encodeHost (some 0), .clear .idnaEncode], hs := [] }]
      [0, 2, 0, 0, 1, 1, 1, 2, 2]).2.map (fun t => (t.hs, t.outs))) =
    [([some 0], [.handle (.ok "example.com".toStr)]), ([some 1], [.handle (.ok "example.com".toStr)]),
     ([], [.unit, .unit])] := by str_lits; decide +kernel

end Yarl.MultiRun
