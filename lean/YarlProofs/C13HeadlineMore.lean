import YarlProofs.C13Headline
import YarlProofs.C13More
/-!
# C13 — Path operations compose like a path algebra   (audit layer, continued)

Continuation of `C13Headline.lean`: the theorems that need `C13More.lean` (which imports `C13Headline.lean`, so
that file cannot import it).

Property statement (verbatim):

> raw_parts re-compose to raw_path, name is the last part and suffix/suffixes are the tail of name.
> u / s equals u.joinpath(s), has name s (for s not a dot segment) and parent parts equal to u's parts
> without a trailing empty segment; joinpath(a, b), joinpath(a).joinpath(b) and u / 'a/b' are equal;
> with_name(n) has name n and the same parent; with_suffix(x) replaces only the suffix and leaves the
> rest of the (decoded) name and all other segments exactly as they were, never re-encoding them.

Reading guide (in addition to the one of `C13Headline.lean`).  `partsDecoded`, `name`, `suffix`, `suffixes` are the
DECODED accessors (`parts`, `name`, `suffix`, `suffixes` of yarl); `uq e Gen.UNQUOTER` is the plain unquoter,
`q e Gen.PATH_QUOTER` the path quoter.  `parent u` is the URL operation `u.parent`; `eqKey` is the tuple Python's
`==` compares; `pickleTwin u` is `u` without the constructor's netloc cache (all five stored parts kept).
Definitions of C13More.lean / Lemmas/PathAlg.lean used in statements:
 * `stripTrail l`      — `l` without ONE trailing empty segment (`l[:-1] if l[-1] == "" else l`);
 * `argText e enc p`   — the text of one joinpath argument as it enters the path: `p` itself for `encoded=True`,
                         `PATH_QUOTER(p)` otherwise;
 * `argSegs e enc ps`  — the segments contributed by the argument list `ps`: every `argText` split at '/', the
                         trailing empty segment of every NON-LAST argument dropped;
 * `dropSlash p`       — `p[:-1] if p.endswith("/") else p`;
 * `sfx n`             — `raw_suffix` as a function of the raw name `n`: the text from the last '.' on, unless
                         nothing precedes or nothing follows that '.' (then "").
`NoDots l` — no element of `l` is "." or ".."; `dot`, `dotdot` are those two texts; 46 = '.', 47 = '/'.
-/
namespace Yarl
open Yarl.PathLemmas Yarl.PathAlg PathMore

/-! ## Sentence 1 — accessors, decoded level; suffix vs suffixes -/

/-- GAPS 1: the decoded accessors ARE the raw accessors decoded element-wise with the plain `UNQUOTER` (which is the
    specification decoder `DecodeSpec` of C06Spec.lean on both backends) — so every raw statement of
    `C13Headline.lean` has a decoded reading.  Cites `C13_decoded_accessors` (C13More.lean). -/
theorem C13_headline_decoded_accessors (e : Env) (u : Url) :
    partsDecoded e u = (rawParts u).map (uq e Gen.UNQUOTER) ∧
    name e u = (rawName u).map (uq e Gen.UNQUOTER) ∧
    suffix e u = (rawSuffix u).map (uq e Gen.UNQUOTER) ∧
    suffixes e u = (rawSuffixes u).map (List.map (uq e Gen.UNQUOTER)) ∧
    uq e Gen.UNQUOTER = DecodeSpec e.b (Gen.UNQUOTER.tab e.b) :=
  C13_decoded_accessors e u

/-- GAPS 7: "suffix/suffixes are the tail of name" — each of `raw_suffixes` is '.' followed by a dot-free piece; when
    there are any, `raw_suffix` is the LAST of them; when there are none, `raw_suffix` is empty unless the name starts
    with ".." (`C13_headline_suffix_last_of_suffixes_fails_for_dotdot_name`); their concatenation is a tail of the
    name.  Any URL.  Cites `C13_suffixes_spec`. -/
theorem C13_headline_suffixes_spec (u : Url) (n s : Str) (ss : List Str)
    (hn : rawName u = .ok n) (hs : rawSuffix u = .ok s) (hss : rawSuffixes u = .ok ss) :   -- the three read-outs
    (∀ x ∈ ss, x.head? = some 46 ∧ 46 ∉ x.drop 1) ∧
    (ss ≠ [] → ss.getLast? = some s) ∧
    (ss = [] → (∀ r, n ≠ 46 :: 46 :: r) → s = []) ∧
    (∃ stem, n = stem ++ ss.flatten) :=
  C13_suffixes_spec u n s ss hn hs hss

/-- "suffix is the last of suffixes, or '' when there are none" is FALSE for a name that starts with "..":
    `URL("http://h/..a").suffix == ".a"` but `.suffixes == ()` (as `pathlib` does; the property text does not say
    so).  Cites `C13_suffix_not_last_of_suffixes_counterexample`. -/
theorem C13_headline_suffix_last_of_suffixes_fails_for_dotdot_name :
    let u := fromParts "http".toStr "h".toStr "/..a".toStr [] []
    rawName u = .ok "..a".toStr ∧ rawSuffix u = .ok ".a".toStr ∧ rawSuffixes u = .ok [] :=
  C13_suffix_not_last_of_suffixes_counterexample

/-- GAPS 7 on the DECODED accessors: every decoded suffix begins with '.', and `suffix` is the last of `suffixes`
    (or "" when there are none).  Cites `C13_suffix_last_decoded`. -/
theorem C13_headline_suffix_last_decoded (e : Env) (u : Url) (n : Str) (hn : rawName u = .ok n)
    (h2 : ∀ r, n ≠ 46 :: 46 :: r) :    -- the name does not start with ".." (counterexample above)
    ∃ s ss, suffix e u = .ok s ∧ suffixes e u = .ok ss ∧ s = ss.getLast?.getD [] ∧
      ∀ x ∈ ss, x.head? = some 46 :=
  C13_suffix_last_decoded e u n hn h2

/-! ## Sentence 2 — children -/

/-- GAPS 1: "u / s … has name s (for s not a dot segment) and parent parts equal to u's parts without a trailing
    empty segment" on the DECODED accessors; "not a dot segment" is stated on `s` itself (the quoter neither makes
    nor destroys a dot segment).  Cites `C13_child_name_decoded`. -/
theorem C13_headline_child_name_decoded (e : Env) (u : Url) (s : Str) (v : Url)
    (hs : PyStr s)                         -- a Python string
    (hsur : NoSurrogate s)                 -- a lone surrogate is dropped by the quoter:
                                           -- `C13_headline_child_name_fails_for_surrogate`
    (h47 : 47 ∉ s) (hne : s ≠ [])          -- ONE non-empty segment (with '/': `C13_headline_child_slash`)
    (hdot : s ≠ dot ∧ s ≠ dotdot)          -- "s not a dot segment"
    (hold : u.netloc ≠ [] → NoDots (splitOn 47 u.path))   -- the old path has no dot segments (C15 for library-made
                                           -- URLs; an encoded=True path "/a/../b" would be normalised by this call)
    (hpath : u.netloc ≠ [] → (u.path = [] ∨ u.path.head? = some 47)) :   -- no rootless path next to an authority
    makeChild e u [s] false = .ok v → name e v = .ok s ∧
      (partsDecoded e v).dropLast =
        (if (rawParts u).getLast? = some [] then (partsDecoded e u).dropLast else partsDecoded e u) :=
  C13_child_name_decoded e u s v hs hsur h47 hne hdot hold hpath

/-- GAPS 2 ("not covered: s containing '/' (name = last segment of s)"): `u / s` for a Python string `s` that may
    CONTAIN '/'.  Quoting commutes with splitting at '/': the new raw parts are the quoted segments of `s`, the name
    is the (quoted) last segment of `s`, the parent parts are the old parts without a trailing empty one followed by
    the other segments; decoded, the segments of `s` read back unchanged and the decoded name is the last segment
    of `s`.  Cites `C13_child_slash`. -/
theorem C13_headline_child_slash (e : Env) (u : Url) (s : Str) (v : Url)
    (hs : PyStr s) (hsur : NoSurrogate s)  -- Python string without lone surrogates (as above)
    -- under an authority neither the old path nor `s` has a dot segment (otherwise the call normalises: C15)
    (hnd : u.netloc ≠ [] → NoDots (splitOn 47 u.path) ∧ NoDots (splitOn 47 s))
    -- `URL("http://h") / ""` is `URL("http://h")` itself: parts ("/",), not ("/", "")
    (hq : u.netloc ≠ [] → u.path = [] → s ≠ [])
    (hpath : u.netloc ≠ [] → (u.path = [] ∨ u.path.head? = some 47)) :   -- no rootless path next to an authority
    makeChild e u [s] false = .ok v →
      rawParts v = stripTrail (rawParts u) ++ (splitOn 47 s).map (q e Gen.PATH_QUOTER) ∧
      rawName v = .ok (q e Gen.PATH_QUOTER ((splitOn 47 s).getLast?.getD [])) ∧
      (rawParts v).dropLast = stripTrail (rawParts u) ++ ((splitOn 47 s).dropLast).map (q e Gen.PATH_QUOTER) ∧
      partsDecoded e v = (stripTrail (rawParts u)).map (uq e Gen.UNQUOTER) ++ splitOn 47 s ∧
      name e v = .ok ((splitOn 47 s).getLast?.getD []) :=
  fun h => (C13_child_slash e u s v hs hsur hnd hq hpath h).2

/-- GAPS 2 ("not covered: … the `encoded=True` variant of joinpath"), general form: `u.joinpath(*ps, encoded=enc)`,
    any number of arguments, either mode, when nothing is normalised: the parts are the old parts without a trailing
    empty one followed by the argument segments `argSegs`; the name is the last of them, the parent parts all the
    others.  Cites `C13_joinpath_parts`. -/
theorem C13_headline_joinpath_parts (e : Env) (u : Url) (ps : List Str) (enc : Bool) (v : Url)
    (hne : ps ≠ [])                        -- at least one argument
    -- no argument text starts with '/' (such a call raises ValueError; always true of a successful `encoded=True`
    -- call, and of Python strings without lone surrogates)
    (hT : ∀ p ∈ ps, (argText e enc p).head? ≠ some 47)
    -- under an authority: no dot segment in the old path or in any argument (otherwise the call normalises: C15)
    (hnd : u.netloc ≠ [] → NoDots (splitOn 47 u.path) ∧ ∀ p ∈ ps, NoDots (splitOn 47 (argText e enc p)))
    -- on the bare authority `http://h` the arguments are not all empty (`URL("http://h") / ""` is the URL itself)
    (hq : u.netloc ≠ [] → u.path = [] → argSegs e enc ps ≠ [[]])
    (hpath : u.netloc ≠ [] → (u.path = [] ∨ u.path.head? = some 47)) :   -- no rootless path next to an authority
    makeChild e u ps enc = .ok v →
      rawParts v = stripTrail (rawParts u) ++ argSegs e enc ps ∧
      rawName v = .ok ((argSegs e enc ps).getLast?.getD []) ∧
      (rawParts v).dropLast = stripTrail (rawParts u) ++ (argSegs e enc ps).dropLast :=
  fun h => (C13_joinpath_parts e u ps enc v hne hT hnd hq hpath h).2

/-- GAPS 2, the `encoded=True` variant: nothing is quoted; the name is the last segment of the LAST argument,
    verbatim.  Cites `C13_joinpath_encoded_name`. -/
theorem C13_headline_joinpath_encoded_name (e : Env) (u : Url) (init : List Str) (l : Str) (v : Url)
    -- under an authority: no dot segment in the old path or in any argument
    (hnd : u.netloc ≠ [] → NoDots (splitOn 47 u.path) ∧ ∀ p ∈ init ++ [l], NoDots (splitOn 47 p))
    -- `URL("http://h").joinpath("", "", encoded=True)` stays `URL("http://h")`
    (hq : u.netloc ≠ [] → u.path = [] → ∃ p ∈ init ++ [l], p ≠ [])
    (hpath : u.netloc ≠ [] → (u.path = [] ∨ u.path.head? = some 47)) :   -- no rootless path next to an authority
    makeChild e u (init ++ [l]) true = .ok v →
      rawName v = .ok ((splitOn 47 l).getLast?.getD []) ∧
      rawParts v = stripTrail (rawParts u) ++ argSegs e true (init ++ [l]) ∧
      (rawParts v).dropLast = stripTrail (rawParts u) ++ (argSegs e true (init ++ [l])).dropLast :=
  C13_joinpath_encoded_name e u init l v hnd hq hpath

/-- GAPS 4 ("`(u / s).parent == u` up to trailing slash is only stated on parts"): `(u / s).parent` IS `u` without
    query and fragment and without ONE trailing slash of its path — all stored parts, exactly.  The root without an authority keeps its
    slash (`URL("/name").parent` is `URL("/")`, fix 264b96e): for
    `u = URL("/")`, `(u / "t").parent` is `URL("/")` itself.  Cites `C13_child_parent`. -/
theorem C13_headline_child_parent (e : Env) (u : Url) (s : Str) (v : Url)
    (hs : PyStr s) (hsur : NoSurrogate s) (h47 : 47 ∉ s) (hne : s ≠ [])   -- one plain segment, as in
    (hdot : s ≠ dot ∧ s ≠ dotdot)                                         -- `C13_headline_child_name_decoded`
    (hold : u.netloc ≠ [] → NoDots (splitOn 47 u.path))
    (hpath : u.netloc ≠ [] → (u.path = [] ∨ u.path.head? = some 47)) :
    makeChild e u [s] false = .ok v →
      parent v = fromParts u.scheme u.netloc
        (if u.netloc = [] ∧ u.path = [47] then [47] else dropSlash u.path) [] [] :=
  C13_child_parent e u s v hs hsur h47 hne hdot hold hpath

/-- the `URL("/")` instance, as fix 264b96e intends: `(URL("/") / s).parent` is `URL("/")` itself.
    Cites `C13_child_parent_root`. -/
theorem C13_headline_child_parent_root (e : Env) (s : Str) (v : Url)
    (hs : PyStr s) (hsur : NoSurrogate s) (h47 : 47 ∉ s) (hne : s ≠ []) (hdot : s ≠ dot ∧ s ≠ dotdot) :
    makeChild e (fromParts [] [] [47] [] []) [s] false = .ok v → parent v = fromParts [] [] [47] [] [] :=
  C13_child_parent_root e s v hs hsur h47 hne hdot

/-- GAPS 4: `(u / "a/b").parent` is `u / "a"` (`b` one plain non-empty segment; nothing normalised).
    Cites `C13_child_slash_parent`. -/
theorem C13_headline_child_slash_parent (e : Env) (u : Url) (a b : Str) (w v : Url)
    (ha : PyStr a) (hb : PyStr b) (hbs : NoSurrogate b) (hb47 : 47 ∉ b) (hb0 : b ≠ [])   -- `b`: one plain segment
    -- under an authority: no dot segment in the old path, in the quoted `a`, and `b` is none
    (hnd : u.netloc ≠ [] → NoDots (splitOn 47 u.path) ∧ NoDots (splitOn 47 (q e Gen.PATH_QUOTER a)) ∧
      b ≠ dot ∧ b ≠ dotdot)
    -- on the EMPTY URL reference the quoted `a` is not empty (implied by `NoSurrogate a`; needed:
    -- `C13_headline_child_slash_parent_fails_for_surrogate`)
    (hcorner : u.netloc = [] → u.path = [] → q e Gen.PATH_QUOTER a ≠ []) :
    makeChild e u [a ++ 47 :: b] false = .ok w → makeChild e u [a] false = .ok v → parent w = v :=
  C13_child_slash_parent e u a b w v ha hb hbs hb47 hb0 hnd hcorner

/-- the corner `hcorner` excludes: on the empty URL reference an `a` made of a lone surrogate
    is dropped by the quoter, `u / "a/b"` is "/b" — whose parent is "/" (fix 264b96e) — while `u / "a"` is "".
    Cites `C13_child_slash_parent_surrogate_corner`. -/
theorem C13_headline_child_slash_parent_fails_for_surrogate : ∀ b : Backend,
    let u := fromParts [] [] [] [] []
    makeChild ⟨b, Oracles.empty⟩ u [[0xD800] ++ "/b".toStr] false = .ok (fromParts [] [] "/b".toStr [] []) ∧
    makeChild ⟨b, Oracles.empty⟩ u [[0xD800]] false = .ok u ∧
    parent (fromParts [] [] "/b".toStr [] []) = fromParts [] [] "/".toStr [] [] ∧
    fromParts [] [] "/".toStr [] [] ≠ u ∧ q ⟨b, Oracles.empty⟩ Gen.PATH_QUOTER [0xD800] = [] :=
  C13_child_slash_parent_surrogate_corner

/-! ## Sentence 3 — composition -/

/-- GAPS 5 ("two arguments only (no n-ary statement)"): `u.joinpath(a₁, …, aₙ)` (n ≥ 1, either `encoded` mode) is
    `u.joinpath(a₁).joinpath(a₂)…joinpath(aₙ)` — as VALUES, errors included.  Cites `C13_joinpath_nary`. -/
theorem C13_headline_joinpath_nary (e : Env) (enc : Bool) (ps : List Str) (u : Url)
    (hne : ps ≠ [])                        -- at least one argument
    -- under an authority, no ".." segment in the old path or in any argument but the last: otherwise an argument may
    -- climb above the root and the forms differ — `C13_headline_joinpath_assoc_fails_for`
    (hdd : u.netloc ≠ [] →
      dotdot ∉ splitOn 47 u.path ∧ ∀ a ∈ ps.dropLast, dotdot ∉ splitOn 47 (argText e enc a)) :
    makeChild e u ps enc = ps.foldlM (fun v a => makeChild e v [a] enc) u :=
  C13_joinpath_nary e enc ps u hne hdd

/-- GAPS 5 ("the failing case `u / "x//b"` has no counterexample theorem"): the guard `hlast` of
    `C13_headline_truediv_slash` is needed — `URL("http://h") / "x//b"` is `http://h/x//b`, but
    `URL("http://h").joinpath("x/", "b")` is `http://h/x/b` (the trailing empty segment of a non-last ARGUMENT is
    dropped, an empty segment INSIDE one argument is kept).  Cites `C13_truediv_double_slash_counterexample`. -/
theorem C13_headline_truediv_slash_fails_for_double_slash (e : Env) :
    let u := fromParts "http".toStr "h".toStr [] [] []
    makeChild e u ["x//b".toStr] false = .ok (fromParts "http".toStr "h".toStr "/x//b".toStr [] []) ∧
    makeChild e u ["x/".toStr, "b".toStr] false = .ok (fromParts "http".toStr "h".toStr "/x/b".toStr [] []) ∧
    (splitOn 47 (q e Gen.PATH_QUOTER "x/".toStr)).getLast? = some [] :=
  C13_truediv_double_slash_counterexample e

/-! ## Sentence 4 — with_name, with_suffix -/

/-- GAPS 1: "with_name(n) has name n and the same parent" on the DECODED accessors, any `keep_query` /
    `keep_fragment`.  Cites `C13_with_name_decoded`. -/
theorem C13_headline_with_name_decoded (e : Env) (u : Url) (nm : Str) (kq kf : Bool) (v : Url)
    (hnm : PyStr nm)                       -- a Python string
    (hsur : NoSurrogate nm) :              -- lone surrogates are dropped by the quoter and do not read back
    withName e u nm kq kf = .ok v → name e v = .ok nm ∧
      (partsDecoded e v).dropLast = (if u.netloc ≠ [] ∧ (rawParts u).length = 1 then partsDecoded e u
                                     else (partsDecoded e u).dropLast) ∧
      v.query = (if kq then u.query else []) ∧ v.fragment = (if kf then u.fragment else []) :=
  C13_with_name_decoded e u nm kq kf v hnm hsur

/-- GAPS 4 ("`parent` (the URL operation) of the result equals `parent u` is not stated"): "with_name(n) has … the
    same parent" as Python `==` (`eqKey`), for EVERY path without an authority and for an empty or rooted path under
    one; and as equality of all five stored parts unless, under an authority, the path is empty or has a single
    segment (there `http://h` and `http://h/` are `==` but stored differently).  No corner
    hypothesis is needed on the one-segment rooted paths "/" and "/t" without an authority
    (`C13_headline_with_name_parent_root_instances`).  Cites `C13_with_name_parent`. -/
theorem C13_headline_with_name_parent (e : Env) (u : Url) (nm : Str) (kq kf : Bool) (v : Url)
    (hnm : PyStr nm)                                                     -- a Python string
    (hpath : u.netloc ≠ [] → (u.path = [] ∨ u.path.head? = some 47)) :  -- no rootless path next to an authority
    withName e u nm kq kf = .ok v →
      eqKey (parent v) = eqKey (parent u) ∧
      ((u.path ≠ [] ∨ u.netloc = []) → (u.netloc ≠ [] → ∀ t, u.path = 47 :: t → 47 ∈ t) →
        pickleTwin (parent v) = pickleTwin (parent u)) :=
  C13_with_name_parent e u nm kq kf v hnm hpath

/-- the one-segment rooted paths agree (fix 264b96e): `URL("/").with_name("a")` is `URL("/a")`, whose parent is
    `URL("/")` = `URL("/").parent`; `URL("/t").with_name("")` is `URL("/")`, and `URL("/t").parent` is `URL("/")` too.
    Cites `C13_with_name_parent_now_agrees`. -/
theorem C13_headline_with_name_parent_root_instances (e : Env) :
    let r := fromParts [] [] "/".toStr [] []
    let t := fromParts [] [] "/t".toStr [] []
    let a := fromParts [] [] "/a".toStr [] []
    withName e r "a".toStr false false = .ok a ∧ parent a = r ∧ parent r = r ∧
    withName e t [] false false = .ok r ∧ parent t = r ∧
    eqKey (parent a) = eqKey (parent r) ∧ eqKey (parent r) = eqKey (parent t) :=
  C13_with_name_parent_now_agrees e

/-- GAPS 3 ("NOT proved: that `suffix` of the result IS x"): for `x = "." ++ y` with `y` non-empty and without '.',
    the `raw_suffix` of `with_suffix(x)` IS `quote(x)` and the decoded `suffix` IS `x`.
    Cites `C13_with_suffix_suffix`. -/
theorem C13_headline_with_suffix_suffix (e : Env) (u : Url) (x : Str) (kq kf : Bool) (v : Url)
    (hx : PyStr x) (hsur : NoSurrogate x)  -- Python string without lone surrogates (they do not read back)
    (hne : x ≠ [])                         -- `with_suffix("")` REMOVES the suffix: general form below
    (hdot : 46 ∉ x.drop 1) :               -- one '.' only: `C13_headline_with_suffix_suffix_fails_for_multi_dot`
    withSuffix e u x kq kf = .ok v →
    rawSuffix v = .ok (q e Gen.PATH_QUOTER x) ∧ suffix e v = .ok x :=
  C13_with_suffix_suffix e u x kq kf v hx hsur hne hdot

/-- GAPS 3, general form (any accepted `x`): the `raw_suffix` of the result is the LAST dotted piece of `quote(x)`
    (empty when `quote(x)` ends with '.'); for `x = ""` it is the suffix of the old stem (`"a.tar.gz"` → `"a.tar"`,
    suffix ".tar").  `n`, `old` are the old raw name and raw suffix.  Cites `C13_with_suffix_suffix_general`. -/
theorem C13_headline_with_suffix_suffix_general (e : Env) (u : Url) (x : Str) (kq kf : Bool) (v : Url) (n old : Str)
    (hx : PyStr x) (hn : rawName u = .ok n) (ho : rawSuffix u = .ok old) :
    withSuffix e u x kq kf = .ok v →
    (x = [] → rawSuffix v = .ok (sfx (n.take (n.length - old.length)))) ∧
    (x ≠ [] → ∃ a t, q e Gen.PATH_QUOTER x = a ++ 46 :: t ∧ 46 ∉ t ∧
       rawSuffix v = .ok (if t = [] then [] else 46 :: t)) :=
  C13_with_suffix_suffix_general e u x kq kf v n old hx hn ho

/-- "the suffix of with_suffix(x) is x" is FALSE for an `x` with two dots: `URL("http://h/a.b").with_suffix(".tar.gz")`
    is `http://h/a.tar.gz`, whose suffix is ".gz" (suffixes: ".tar", ".gz").
    Cites `C13_with_suffix_multi_dot_example`. -/
theorem C13_headline_with_suffix_suffix_fails_for_multi_dot : ∀ b : Backend,
    let u := fromParts "http".toStr "h".toStr "/a.b".toStr [] []
    let v := fromParts "http".toStr "h".toStr "/a.tar.gz".toStr [] []
    withSuffix ⟨b, Oracles.empty⟩ u ".tar.gz".toStr false false = .ok v ∧ rawSuffix v = .ok ".gz".toStr ∧
      rawSuffixes v = .ok [".tar".toStr, ".gz".toStr] :=
  C13_with_suffix_multi_dot_example

/-- GAPS 3 / 1, the decoded level of "replaces only the suffix and leaves the rest of the (decoded) name and all other
    segments exactly as they were": with `dstem` the decoding of the raw stem (old raw name minus old raw suffix),
    the old name is `dstem ++ suffix`, the new name is `dstem ++ x`, and all other decoded parts are the same.
    Cites `C13_with_suffix_decoded`. -/
theorem C13_headline_with_suffix_decoded (e : Env) (u : Url) (x : Str) (kq kf : Bool) (v : Url) (n old : Str)
    (hx : PyStr x) (hsur : NoSurrogate x)  -- Python string without lone surrogates
    (hn : rawName u = .ok n) (ho : rawSuffix u = .ok old) :   -- the old raw name and raw suffix
    withSuffix e u x kq kf = .ok v →
    let dstem := uq e Gen.UNQUOTER (n.take (n.length - old.length))
    name e u = .ok (dstem ++ uq e Gen.UNQUOTER old) ∧ suffix e u = .ok (uq e Gen.UNQUOTER old) ∧
    name e v = .ok (dstem ++ x) ∧ (partsDecoded e v).dropLast = (partsDecoded e u).dropLast :=
  C13_with_suffix_decoded e u x kq kf v n old hx hsur hn ho

/-! ## non-vacuity -/
section checks
private def o1 : Oracles := Oracles.empty
private def uA : Url := fromParts "http".toStr "h".toStr "/a/".toStr "k=v".toStr "f".toStr
private def uB : Url := fromParts "http".toStr "h".toStr "/a/b.tar.gz".toStr "k=v".toStr []
private def sA : Str := [98, 32, 233, 47, 100, 46, 101, 47, 0x1F600]   -- "b é/d.e/😀"

/-- `C13_headline_child_slash`: hypotheses hold and the call succeeds on a text with '/', ' ', non-ASCII and a '.'
    that is not a dot segment -/
example : PyStr sA ∧ NoSurrogate sA ∧ NoDots (splitOn 47 uA.path) ∧ NoDots (splitOn 47 sA) ∧
    (uA.netloc ≠ [] → (uA.path = [] ∨ uA.path.head? = some 47)) := by
  simp only [uA, NoDots]; str_lits; decide +kernel
example : ∀ b : Backend, makeChild ⟨b, o1⟩ uA [sA] false =
    .ok (fromParts "http".toStr "h".toStr "/a/b%20%C3%A9/d.e/%F0%9F%98%80".toStr [] []) := by
  simp only [uA]; str_lits; intro b; cases b <;> decide +kernel
/-- `C13_headline_child_parent`: `(http://h/a/ / "c.txt").parent` is `http://h/a` -/
example : PyStr "c.txt".toStr ∧ NoSurrogate "c.txt".toStr ∧ 47 ∉ "c.txt".toStr ∧ "c.txt".toStr ≠ dot ∧
    "c.txt".toStr ≠ dotdot ∧ dropSlash uA.path = "/a".toStr := by
  simp only [uA]; str_lits; decide +kernel
/-- `C13_headline_with_suffix_suffix` -/
example : PyStr ".t x".toStr ∧ NoSurrogate ".t x".toStr ∧ ".t x".toStr ≠ [] ∧ 46 ∉ (".t x".toStr).drop 1 := by decide
example : ∀ b : Backend, withSuffix ⟨b, o1⟩ uB ".t x".toStr true false =
    .ok (fromParts "http".toStr "h".toStr "/a/b.tar.t%20x".toStr "k=v".toStr []) := by
  simp only [uB]; str_lits; intro b; cases b <;> decide +kernel
/-- `C13_headline_suffixes_spec` -/
example : rawName uB = .ok "b.tar.gz".toStr ∧ rawSuffix uB = .ok ".gz".toStr ∧
    rawSuffixes uB = .ok [".tar".toStr, ".gz".toStr] := by
  simp only [uB]; str_lits; decide +kernel
/-- fix 264b96e, computed: `URL("/t").parent` is `URL("/")` -/
example : parent (fromParts [] [] "/t".toStr [] []) = fromParts [] [] "/".toStr [] [] := by decide
end checks

end Yarl
