/-
  C13More3b.lean — C13: the exact `suffix` / `suffixes` / `stem` algebra on the RAW name, for EVERY name (several dots,
  leading dots, trailing dots, all dots, empty):
   (S1) name = stem ++ suffix, always;
   (S2) the closed form of every name (leading dots, a dot-free piece, dotted pieces), `suffixes` and `suffix` in
        terms of it; `name = head ++ suffixes.flatten` with the exact side condition;
   (S3) `suffix` = last of `suffixes` — exact iff;
   (S4) `with_suffix(suffix) = id`, `with_suffix("") = id` when there is no suffix;
   (S5) idempotence of `with_suffix(x)` — exact iff;  (S6) `with_suffix(x).with_suffix(y) = with_suffix(y)`;
   (S7) the stem of the result is the old stem — exact iff ("replaces only the suffix").
  All at the level of stored (raw) values, for URLs with and without an authority; arguments are Python strings.
  `R12b` holds `_with_raw_name` through its parts (`wrnParts`) and the helpers of (S4)–(S7).
-/
import YarlProofs.C13More2
import YarlProofs.Lemmas.HumanReach
namespace Yarl
open Yarl.PathLemmas Yarl.PathAlg PathMore

/-- the raw name without its raw suffix (`raw_name[: len(raw_name) - len(raw_suffix)]`: what `with_suffix` keeps) -/
def C13_rawStem (n : Str) : Str := n.take (n.length - (sfx n).length)

/-- "`qx` is ONE dotted piece": a '.', then a non-empty text without '.' -/
def C13_dottedPiece (qx : Str) : Prop := ∃ t, qx = 46 :: t ∧ t ≠ [] ∧ 46 ∉ t

/-- it is the `stem` of Lemmas/HumanReach.lean (used by C18Reach for the decoded `with_suffix`) -/
theorem C13_rawStem_eq_stem : C13_rawStem = HumanReach.stem := rfl

instance (qx : Str) : Decidable (C13_dottedPiece qx) :=
  match qx with
  | [] => isFalse (by rintro ⟨t, h, _⟩; cases h)
  | c :: t =>
    if h : c = 46 ∧ t ≠ [] ∧ 46 ∉ t then isTrue ⟨t, by rw [h.1], h.2.1, h.2.2⟩
    else isFalse (by
      rintro ⟨t', h1, h2, h3⟩
      cases h1
      exact h ⟨rfl, h2, h3⟩)

namespace R12b

/-! ### string level -/

theorem rawStem_append (n : Str) : C13_rawStem n ++ sfx n = n := stem_append_sfx n

theorem rawStem_self_iff (n : Str) : C13_rawStem n = n ↔ sfx n = [] := by
  constructor
  · intro h
    have := rawStem_append n
    rw [h] at this
    exact List.append_right_eq_self.1 this
  · intro h
    have := rawStem_append n
    rw [h, List.append_nil] at this
    exact this

/-- the stem of a name split at its LAST '.' -/
theorem rawStem_last (a t : Str) (ht : 46 ∉ t) :
    C13_rawStem (a ++ 46 :: t) = if a ≠ [] ∧ t ≠ [] then a else a ++ 46 :: t := by
  have h := rawStem_append (a ++ 46 :: t)
  rw [sfx_last a t ht] at h
  split
  · rename_i hc
    rw [if_pos hc] at h
    exact List.append_cancel_right h
  · rename_i hc
    rw [if_neg hc, List.append_nil] at h
    exact h

theorem rawStem_ne_nil (n : Str) (hn : n ≠ []) : C13_rawStem n ≠ [] := stem_ne_nil n hn

/-- a text `46 :: r` split at its last '.' is a single dotted piece iff nothing precedes that '.' and something
    follows it -/
theorem dottedPiece_last (a t : Str) (ht : 46 ∉ t) (hh : (a ++ 46 :: t).head? = some 46) :
    C13_dottedPiece (a ++ 46 :: t) ↔ a = [] ∧ t ≠ [] := by
  constructor
  · rintro ⟨t', h1, h2, h3⟩
    cases a with
    | nil =>
      simp only [List.nil_append, List.cons.injEq, true_and] at h1
      subst h1
      exact ⟨rfl, h2⟩
    | cons c a' =>
      exfalso
      simp only [List.cons_append, List.cons.injEq] at h1
      apply h3
      rw [← h1.2]
      simp
  · rintro ⟨rfl, ht0⟩
    exact ⟨t, rfl, ht0, ht⟩

/-- appending `qx` (empty, or starting with '.') to a non-empty stem `S` gives a name whose stem is `S` again
    EXACTLY when `qx` is empty and `S` has no suffix of its own, or `qx` is one dotted piece -/
theorem stemStable_iff (S qx : Str) (hS : S ≠ []) (hq : qx = [] ∨ qx.head? = some 46) :
    C13_rawStem (S ++ qx) = S ↔ (qx = [] ∧ sfx S = []) ∨ C13_dottedPiece qx := by
  rcases hq with rfl | hq
  · rw [List.append_nil, rawStem_self_iff]
    constructor
    · intro h; exact Or.inl ⟨rfl, h⟩
    · rintro (⟨_, h⟩ | ⟨t, h, _⟩)
      · exact h
      · cases h
  · have hm : 46 ∈ qx := List.mem_of_head? hq
    have hq0 : qx ≠ [] := by rintro rfl; simp at hm
    obtain ⟨a, t, rfl, ht⟩ := exists_last 46 qx hm
    rw [dottedPiece_last a t ht hq, ← List.append_assoc, rawStem_last (S ++ a) t ht]
    have hSa : S ++ a ≠ [] := by simp [hS]
    by_cases ht0 : t = []
    · rw [if_neg (fun h => h.2 ht0)]
      constructor
      · intro h
        have := congrArg List.length h
        simp at this
      · rintro (⟨h, _⟩ | ⟨_, h⟩)
        · simp at h
        · exact absurd ht0 h
    · rw [if_pos ⟨hSa, ht0⟩]
      constructor
      · intro h
        exact Or.inr ⟨List.append_right_eq_self.1 h, ht0⟩
      · rintro (⟨h, _⟩ | ⟨h, _⟩)
        · simp at h
        · rw [h, List.append_nil]

/-- the suffix of `S ++ qx` for a dotted piece `qx` is `qx` -/
theorem sfx_append_piece (S qx : Str) (hS : S ≠ []) (hq : C13_dottedPiece qx) : sfx (S ++ qx) = qx := by
  obtain ⟨t, rfl, ht0, ht⟩ := hq
  rw [sfx_last S t ht, if_pos ⟨hS, ht0⟩]

end R12b

open R12b

/-! ## (S1) name = stem ++ suffix -/

/-- (S1) for EVERY URL: `raw_name = stem + raw_suffix`, where the stem is what `with_suffix` keeps; the stem of a
    non-empty name is non-empty -/
theorem C13_name_eq_stem_suffix (u : Url) (n s : Str) (hn : rawName u = .ok n) (hs : rawSuffix u = .ok s) :
    n = C13_rawStem n ++ s ∧ s = sfx n ∧ (n ≠ [] → C13_rawStem n ≠ []) ∧ (s = [] ↔ C13_rawStem n = n) := by
  rw [rawSuffix_eq, hn] at hs
  cases hs
  exact ⟨(rawStem_append n).symm, rfl, rawStem_ne_nil n, (rawStem_self_iff n).symm⟩

/-- the stem in closed form: the name split at its LAST '.' is `a ++ "." ++ t`; the stem is `a` when both `a` and `t`
    are non-empty, and the whole name otherwise (a name without '.', ".bashrc", "a.", ".", "..") -/
theorem C13_rawStem_closed (n : Str) :
    (46 ∉ n → C13_rawStem n = n ∧ sfx n = []) ∧
    (∀ a t, n = a ++ 46 :: t → 46 ∉ t →
      C13_rawStem n = (if a ≠ [] ∧ t ≠ [] then a else n) ∧ sfx n = (if a ≠ [] ∧ t ≠ [] then 46 :: t else [])) := by
  constructor
  · intro h
    exact ⟨(rawStem_self_iff n).2 (sfx_no_dot n h), sfx_no_dot n h⟩
  · intro a t hn ht
    subst hn
    exact ⟨rawStem_last a t ht, sfx_last a t ht⟩

/-! ## (S2) every name in closed form; `suffixes` concatenates to the tail -/

/-- (S2) EVERY name is `d` leading dots, then a dot-free piece `p`, then dotted pieces `ps` (`p` is empty only for a name
    that is all dots, or empty).  In these terms:
    * `suffixes` is `()` for a name ending in '.', and `("." + x for x in ps)` otherwise;
    * a name ends in '.' iff its last dotted piece is empty ("a.", "a.b.") or it is all dots;
    * hence `name = (leading dots + p) + "".join(suffixes)` for every name NOT ending in '.', and for a name ending in '.'
      it holds only when the name is all dots;
    * `suffix` is "." + the last dotted piece when that piece is non-empty; without dotted pieces it is "." + p for
      a name with TWO OR MORE leading dots ("..a": the `C13_headline_suffix_last_of_suffixes_fails_for_dotdot_name`
      corner) and "" otherwise. -/
theorem C13_name_closed_form (n : Str) : ∃ (d : Nat) (p : Str) (ps : List Str),
    n = List.replicate d 46 ++ p ++ (ps.map (fun s => 46 :: s)).flatten ∧
    46 ∉ p ∧ (∀ x ∈ ps, 46 ∉ x) ∧ (p = [] → ps = []) ∧
    sfxs n = (if n.getLast? = some 46 then [] else ps.map (fun s => 46 :: s)) ∧
    (n.getLast? = some 46 ↔ (ps.getLast? = some [] ∨ (ps = [] ∧ p = [] ∧ d ≠ 0))) ∧
    (n.getLast? ≠ some 46 → n = (List.replicate d 46 ++ p) ++ (sfxs n).flatten) ∧
    (ps = [] → sfx n = if 2 ≤ d ∧ p ≠ [] then 46 :: p else []) ∧
    (∀ ps' l, ps = ps' ++ [l] → sfx n = if l = [] then [] else 46 :: l) := by
  obtain ⟨d, p, ps, hn, hp, hps, hp0, e⟩ := name_decomp n
  obtain ⟨s1, s2⟩ := sfx_decomp n d p ps hn hp hps hp0
  have hsf : sfxs n = (if n.getLast? = some 46 then [] else ps.map (fun s => 46 :: s)) := by
    unfold sfxs; rw [e]; rfl
  have hend : n.getLast? = some 46 ↔ (ps.getLast? = some [] ∨ (ps = [] ∧ p = [] ∧ d ≠ 0)) := by
    rcases List.eq_nil_or_concat ps with rfl | ⟨ps', l, rfl⟩
    · simp only [List.map_nil, List.flatten_nil, List.append_nil] at hn
      by_cases hpe : p = []
      · subst hpe
        rw [List.append_nil] at hn
        cases d with
        | zero => rw [hn]; simp
        | succ d' => rw [hn, List.replicate_succ' (n := d')]; simp
      · constructor
        · intro h; exact absurd (hn ▸ h) (getLast_form d p hpe hp)
        · rintro (h | ⟨_, h, _⟩)
          · simp at h
          · exact absurd h hpe
    · have hps' : ps'.concat l = ps' ++ [l] := by simp
      rw [hps'] at hn hps ⊢
      rw [flatten_map_snoc, ← List.append_assoc] at hn
      have hl : 46 ∉ l := hps l (by simp)
      rw [List.getLast?_concat]
      constructor
      · intro h
        left
        by_cases hl0 : l = []
        · rw [hl0]
        · exfalso
          rw [hn, show ∀ X : Str, X ++ 46 :: l = (X ++ [46]) ++ l from fun X => by simp,
            List.getLast?_append] at h
          cases hll : l.getLast? with
          | none => exact hl0 (List.getLast?_eq_none_iff.1 hll)
          | some c =>
            rw [hll] at h
            simp only [Option.some_or, Option.some.injEq] at h
            subst h
            exact hl (List.mem_of_getLast? hll)
      · rintro (h | ⟨h, _⟩)
        · have hl0 : l = [] := Option.some.inj h
          rw [hn, hl0]
          simp
        · simp at h
  refine ⟨d, p, ps, hn, hp, hps, hp0, hsf, hend, ?_, s1, s2⟩
  intro h
  rw [hsf, if_neg h]
  exact hn

/-- (S2) at the level of the accessors: for every URL whose raw name does not end in '.', the raw name is its head (the
    leading dots and the first dot-free piece) followed by the concatenation of `raw_suffixes`; for a raw name ending in
    '.' `raw_suffixes` is `()` -/
theorem C13_suffixes_tail_closed (u : Url) (n : Str) (ss : List Str)
    (hn : rawName u = .ok n) (hss : rawSuffixes u = .ok ss) :
    (n.getLast? = some 46 → ss = []) ∧
    (n.getLast? ≠ some 46 → ∃ (d : Nat) (p : Str), 46 ∉ p ∧ (n ≠ [] → p ≠ []) ∧
      n = (List.replicate d 46 ++ p) ++ ss.flatten ∧ ∀ x ∈ ss, x.head? = some 46 ∧ 46 ∉ x.drop 1) := by
  rw [rawSuffixes_eq, hn] at hss
  cases hss
  obtain ⟨d, p, ps, hdec, hp, hps, hp0, hsf, hend, hcat, _, _⟩ := C13_name_closed_form n
  constructor
  · intro h; rw [hsf, if_pos h]
  · intro h
    refine ⟨d, p, hp, ?_, hcat h, sfxs_head n⟩
    intro hne hpe
    have hps0 := hp0 hpe
    subst hpe; subst hps0
    simp only [List.append_nil, List.map_nil, List.flatten_nil] at hdec
    cases d with
    | zero => exact hne hdec
    | succ d' =>
      apply h
      rw [hdec, List.replicate_succ' (n := d')]; simp

/-- (S2) the side condition is needed: for names ending in '.' that are not all dots the tail is NOT the
    concatenation of `suffixes` — `URL("http://h/a.b.")` has name "a.b.", suffix "", suffixes () -/
theorem C13_suffixes_tail_fails_for_trailing_dot :
    let u := fromParts "http".toStr "h".toStr "/a.b.".toStr [] []
    rawName u = .ok "a.b.".toStr ∧ rawSuffix u = .ok [] ∧ rawSuffixes u = .ok [] ∧
    C13_rawStem "a.b.".toStr = "a.b.".toStr := by
  str_lits; decide +kernel

/-! ## (S3) `suffix` is the last of `suffixes` — exactly when -/

/-- (S3) string level: `suffix` is the last of `suffixes` ("" when there are none) IF AND ONLY IF the name is not
    "two or more dots followed by a non-empty dot-free piece" ("..a", "...tar"); for such a name `suffixes` is `()`
    and `suffix` is "." + the piece -/
theorem C13_sfx_last_iff (n : Str) :
    sfx n = (sfxs n).getLast?.getD [] ↔
      ¬ ∃ (k : Nat) (p : Str), n = List.replicate (k + 2) 46 ++ p ∧ p ≠ [] ∧ 46 ∉ p :=
  sfx_last_iff n

/-- (S3) for every URL: `raw_suffix` is the last of `raw_suffixes` (or "" when there are none) iff the raw name is not
    of the form "..", more dots, a non-empty dot-free piece; the same for the decoded accessors
    (both are decoded element-wise, "" decodes to "") -/
theorem C13_suffix_last_iff (e : Env) (u : Url) (n s : Str) (ss : List Str)
    (hn : rawName u = .ok n) (hs : rawSuffix u = .ok s) (hss : rawSuffixes u = .ok ss) :
    (s = ss.getLast?.getD [] ↔ ¬ ∃ (k : Nat) (p : Str), n = List.replicate (k + 2) 46 ++ p ∧ p ≠ [] ∧ 46 ∉ p) ∧
    ((¬ ∃ (k : Nat) (p : Str), n = List.replicate (k + 2) 46 ++ p ∧ p ≠ [] ∧ 46 ∉ p) →
      ∃ s' ss', suffix e u = .ok s' ∧ suffixes e u = .ok ss' ∧ s' = ss'.getLast?.getD []) := by
  rw [rawSuffix_eq, hn] at hs
  rw [rawSuffixes_eq, hn] at hss
  cases hs; cases hss
  refine ⟨C13_sfx_last_iff n, fun h => ?_⟩
  obtain ⟨_, _, h3, h4, _⟩ := C13_decoded_accessors e u
  rw [h3, h4, rawSuffix_eq, rawSuffixes_eq, hn]
  refine ⟨_, _, rfl, rfl, ?_⟩
  rw [(C13_sfx_last_iff n).2 h, List.getLast?_map]
  cases (sfxs n).getLast? with
  | none => exact uq_nil e _
  | some l => rfl


/-! ## `_with_raw_name` and `with_suffix` in closed form -/

namespace R12b

/-- the list of parts `_with_raw_name(nm)` joins -/
def wrnParts (u : Url) (nm : Str) : R (List Str) :=
  (if !u.netloc.isEmpty then
      let ps := if (rawParts u).length = 1 then rawParts u ++ [nm] else (rawParts u).dropLast ++ [nm]
      pure ([] :: ps.drop 1)
    else
      match rawParts u with
      | [] => .error .indexError
      | _ =>
        let ps := (rawParts u).dropLast ++ [nm]
        pure (match ps with
          | [47] :: r => [] :: r
          | ps => ps) : R (List Str))

theorem withRawName_def (u : Url) (nm : Str) (kq kf : Bool) :
    withRawName u nm kq kf = (wrnParts u nm).map (fun p =>
      fromParts u.scheme u.netloc (joinC 47 p) (if kq then u.query else []) (if kf then u.fragment else [])) := by
  have h : withRawName u nm kq kf = (wrnParts u nm >>= fun p => pure
      (fromParts u.scheme u.netloc (joinC 47 p) (if kq then u.query else []) (if kf then u.fragment else []))) := rfl
  rw [h]
  cases wrnParts u nm <;> rfl

theorem wrnParts_total (u : Url) (nm : Str) : ∃ p, wrnParts u nm = .ok p := by
  unfold wrnParts
  split
  · exact ⟨_, rfl⟩
  · split
    · rename_i h; exact absurd h (C13_raw_parts_nonempty u)
    · exact ⟨_, rfl⟩

/-- the path written by `_with_raw_name` does not depend on the keep flags -/
theorem withRawName_flags (u : Url) (nm : Str) (kq kf kq2 kf2 : Bool) (v : Url)
    (h : withRawName u nm kq kf = .ok v) :
    v = fromParts u.scheme u.netloc v.path (if kq then u.query else []) (if kf then u.fragment else []) ∧
    withRawName u nm kq2 kf2 = .ok (fromParts u.scheme u.netloc v.path
      (if kq2 then u.query else []) (if kf2 then u.fragment else [])) := by
  rw [withRawName_eq] at h
  cases h
  exact ⟨rfl, withRawName_eq u nm kq2 kf2⟩

/-- the parts `_with_raw_name` builds depend on the URL only through `raw_parts` and the authority -/
theorem wrnParts_congr (u v : Url) (nm : Str) (hn : v.netloc = u.netloc) (hp : rawParts v = rawParts u) :
    wrnParts v nm = wrnParts u nm := by
  unfold wrnParts
  rw [hn, hp]

/-- replacing the name twice is replacing it once (the keep flags compose) -/
theorem withRawName_twice (u : Url) (m nm : Str) (kq kf kq' kf' : Bool) (v : Url) (hm : 47 ∉ m)
    (h : withRawName u m kq kf = .ok v) :
    withRawName v nm kq' kf' = withRawName u nm (kq && kq') (kf && kf') := by
  rw [withRawName_closed u m kq kf hm] at h
  cases h
  rw [withRawName_eq, withRawName_eq, keptSegs_withRawName u m hm]
  cases kq <;> cases kq' <;> cases kf <;> cases kf' <;> rfl

theorem rawName_congr (a b : Url) (h1 : a.netloc = b.netloc) (h2 : a.path = b.path) : rawName a = rawName b := by
  unfold rawName rawParts
  rw [h1, h2]

/-- replacing the name by itself gives the URL back (up to the keep flags and the cache), for a path that is empty or
    rooted under an authority -/
theorem withRawName_self (u : Url) (n : Str) (kq kf : Bool) (hn : rawName u = .ok n) (hn0 : n ≠ [])
    (hpath : u.netloc ≠ [] → (u.path = [] ∨ u.path.head? = some 47)) :
    withRawName u n kq kf = .ok (fromParts u.scheme u.netloc u.path
      (if kq then u.query else []) (if kf then u.fragment else [])) := by
  have hname := rawName_of_rooted u hpath
  rw [hn] at hname
  have hn' : n = (splitOn 47 u.path).getLast?.getD [] := Except.ok.inj hname
  -- the name is the last segment, and the path is not empty since the name is not
  have hl : (splitOn 47 u.path).getLast? = some n := by
    rw [hn', List.getLast?_eq_some_getLast (splitOn_ne_nil 47 u.path)]
    rfl
  have hp : u.path ≠ [] := by
    intro h0
    rw [h0] at hn'
    exact hn0 hn'
  rw [withRawName_closed u n kq kf (rawName_no_slash u n hn), keptSegs_of_rooted u hpath, if_neg (fun h => hp h.1),
    dropLast_snoc_getLast _ _ hl, joinC_splitOn]

/-- `with_suffix(x)` in closed form -/
theorem withSuffix_eq (e : Env) (u : Url) (x : Str) (kq kf : Bool) (n : Str) (hn : rawName u = .ok n) :
    withSuffix e u x kq kf =
      if ((x ≠ [] ∧ x.head? ≠ some 46) ∨ x = [46]) ∨ n = [] ∨ 47 ∈ x ∨
          C13_rawStem n ++ q e Gen.PATH_QUOTER x = dot ∨ C13_rawStem n ++ q e Gen.PATH_QUOTER x = dotdot
      then .error .valueError
      else withRawName u (C13_rawStem n ++ q e Gen.PATH_QUOTER x) kq kf :=
  withSuffix_closed e u x kq kf n hn

theorem sfx_sub (n : Str) : ∀ c ∈ sfx n, c ∈ n := by
  obtain ⟨k, _, hk⟩ := sfx_is_drop n
  rw [hk]
  exact fun _ hc => List.mem_of_mem_drop hc

theorem rawStem_sub (n : Str) : ∀ c ∈ C13_rawStem n, c ∈ n := fun c hc => List.mem_of_mem_take hc

end R12b


open R12b

/-- `u` with the same five stored parts except query / fragment dropped unless kept -/
def C13_keep (u : Url) (kq kf : Bool) : Url :=
  fromParts u.scheme u.netloc u.path (if kq then u.query else []) (if kf then u.fragment else [])

/-- "`with_suffix(x)` keeps the stem of the name `n`": `x` is "" and the stem has no suffix of its own, or `quote(x)` is
    ONE dotted piece ('.' then a non-empty text without '.') -/
def C13_stemKeeping (e : Env) (n x : Str) : Prop :=
  (x = [] ∧ sfx (C13_rawStem n) = []) ∨ C13_dottedPiece (q e Gen.PATH_QUOTER x)

/-- for a Python string `x = "." + y` the quoted text is one dotted piece iff `y` has no '.' and is not dropped
    entirely by the quoter; without lone surrogates: iff `y` is non-empty without '.'.  HERE `NoSurrogate` is needed:
    `quote(".\ud800")` is "." (`C13_with_suffix_idem_fails_for_surrogate`). -/
theorem C13_dottedPiece_quote (e : Env) (y : Str) (hy : PyStr y) :
    (C13_dottedPiece (q e Gen.PATH_QUOTER (46 :: y)) ↔ (46 ∉ y ∧ q e Gen.PATH_QUOTER y ≠ [])) ∧
    (NoSurrogate y → (C13_dottedPiece (q e Gen.PATH_QUOTER (46 :: y)) ↔ (46 ∉ y ∧ y ≠ []))) := by
  have hq := q_path_cons_fix e y hy (.inl rfl)
  have h1 : C13_dottedPiece (q e Gen.PATH_QUOTER (46 :: y)) ↔ (46 ∉ y ∧ q e Gen.PATH_QUOTER y ≠ []) := by
    rw [hq]
    constructor
    · rintro ⟨t, ht, ht0, ht46⟩
      cases ht
      refine ⟨fun hm => ht46 ?_, ht0⟩
      obtain ⟨a, b, rfl⟩ := List.append_of_mem hm
      have ha : PyStr a := fun c hc => hy c (List.mem_append_left _ hc)
      have hb : PyStr (46 :: b) := fun c hc => hy c (List.mem_append_right _ hc)
      rw [q_path_append e a _ ha hb, q_path_cons_fix e b (pyStr_cons hb) (.inl rfl)]
      simp
    · rintro ⟨h46, h0⟩
      exact ⟨_, rfl, h0, C13_path_quoter_no_dot e y hy h46⟩
  refine ⟨h1, fun hs => ?_⟩
  rw [h1]
  constructor
  · rintro ⟨h46, h0⟩
    refine ⟨h46, ?_⟩
    rintro rfl
    exact h0 (q_path_nil e)
  · rintro ⟨h46, h0⟩
    exact ⟨h46, C13_path_quoter_nonempty e y hy hs h0⟩

/-! ## (S4) `with_suffix(suffix) = id`; `with_suffix("") = id` when there is no suffix -/

/-- (S4) `with_suffix(x)` with `quote(x)` = the raw suffix of `u` (non-empty) gives `u` back — same scheme, authority
    and path; query / fragment as the keep flags say.  For a path that is empty or rooted under an authority (a
    rootless path next to an authority is re-rooted by `_with_raw_name`).  `NoSurrogate x` is needed: a leading lone
    surrogate is dropped by the quoter but fails the "must start with '.'" check. -/
theorem C13_with_suffix_own_suffix (e : Env) (u : Url) (x : Str) (kq kf : Bool) (n : Str)
    (hn : rawName u = .ok n) (hx : PyStr x) (hxs : NoSurrogate x)
    (hq : q e Gen.PATH_QUOTER x = sfx n)                 -- `x` quotes to the raw suffix
    (hs : sfx n ≠ [])                                    -- the name has a suffix
    (hpath : u.netloc ≠ [] → (u.path = [] ∨ u.path.head? = some 47)) :
    withSuffix e u x kq kf = .ok (C13_keep u kq kf) := by
  obtain ⟨a, t, rfl, ht, ha, ht0⟩ := (sfx_ne_nil_iff n).1 hs
  have hsf : sfx (a ++ 46 :: t) = 46 :: t := by rw [sfx_last a t ht, if_pos ⟨ha, ht0⟩]
  have hn0 : a ++ 46 :: t ≠ [] := by simp
  have hname : C13_rawStem (a ++ 46 :: t) ++ q e Gen.PATH_QUOTER x = a ++ 46 :: t := by
    rw [hq]; exact rawStem_append _
  rw [withSuffix_eq e u x kq kf _ hn, hname, if_neg]
  · exact withRawName_self u _ kq kf hn hn0 hpath
  · rintro ((⟨hx0, hh⟩ | h) | h | h | h | h)
    · exact hh ((q_path_head_iff e x hx hxs (.inl rfl)).1 (by rw [hq, hsf]; rfl))
    · rw [h, q_path_fixed e [46] (by decide), hsf] at hq
      exact ht0 (List.cons.inj hq).2.symm
    · exact hn0 h
    · have h1 := (q_path_mem_iff e x hx (.inr rfl)).2 h
      rw [hq] at h1
      exact rawName_no_slash u _ hn (sfx_sub _ 47 h1)
    · have := congrArg List.length h
      have h1 : 0 < a.length := List.length_pos_iff.2 ha
      simp only [List.length_append, List.length_cons, dot, List.length_nil] at this
      omega
    · have := congrArg List.length h
      have h1 : 0 < a.length := List.length_pos_iff.2 ha
      have h2 : 0 < t.length := List.length_pos_iff.2 ht0
      simp only [List.length_append, List.length_cons, dotdot, List.length_nil] at this
      omega

/-- (S4) the hypothesis "empty or rooted under an authority" is needed: for the hand-made
    `URL.build(scheme="http", host="h", path="x/a.b", encoded=True)` (rootless path next to an authority; `raw_parts`
    has lost the 'x') `with_suffix(".b")` gives the path "//a.b", not the URL back -/
theorem C13_with_suffix_own_suffix_fails_for_rootless : ∀ b : Backend,
    let e : Env := ⟨b, Oracles.empty⟩
    let u := fromParts "http".toStr "h".toStr "x/a.b".toStr [] []
    rawName u = .ok "a.b".toStr ∧ q e Gen.PATH_QUOTER ".b".toStr = sfx "a.b".toStr ∧
    withSuffix e u ".b".toStr false false = .ok (fromParts "http".toStr "h".toStr "//a.b".toStr [] []) := by
  str_lits; intro b; cases b <;> decide +kernel

/-- (S4) `with_suffix(u.suffix)` — the DECODED suffix — gives `u` back when the raw suffix is what the quoter writes
    for some Python string `y` without lone surrogates (then `u.suffix == y`) -/
theorem C13_with_suffix_suffix_id (e : Env) (u : Url) (y : Str) (kq kf : Bool) (n : Str)
    (hn : rawName u = .ok n) (hy : PyStr y) (hys : NoSurrogate y)
    (hq : sfx n = q e Gen.PATH_QUOTER y)                 -- the raw suffix is the quoted `y`
    (hs : sfx n ≠ [])
    (hpath : u.netloc ≠ [] → (u.path = [] ∨ u.path.head? = some 47)) :
    suffix e u = .ok y ∧ withSuffix e u y kq kf = .ok (C13_keep u kq kf) := by
  refine ⟨?_, C13_with_suffix_own_suffix e u y kq kf n hn hy hys hq.symm hs hpath⟩
  unfold suffix
  rw [rawSuffix_eq, hn]
  show Except.ok (uq e Gen.UNQUOTER (sfx n)) = _
  rw [hq, uq_q e y hy hys]

/-- (S4) `with_suffix(u.suffix) = u` is FALSE in general: `URL("http://h/a.b%2Fc")` has suffix ".b/c" (the escaped '/'
    is decoded), and `with_suffix(".b/c")` raises ValueError ("Slash in name is not allowed") -/
theorem C13_with_suffix_suffix_fails_for_escaped_slash : ∀ b : Backend,
    let e : Env := ⟨b, Oracles.empty⟩
    let u := fromParts "http".toStr "h".toStr "/a.b%2Fc".toStr [] []
    rawSuffix u = .ok ".b%2Fc".toStr ∧ suffix e u = .ok ".b/c".toStr ∧
    withSuffix e u ".b/c".toStr false false = .error .valueError := by
  str_lits; intro b; cases b <;> decide +kernel

/-- (S4) `with_suffix("")` on a name WITHOUT a suffix: the URL itself (up to the keep flags) — unless the name is
    "", "." or "..", where `with_suffix` raises ValueError -/
theorem C13_with_suffix_empty_id (e : Env) (u : Url) (kq kf : Bool) (n : Str)
    (hn : rawName u = .ok n) (hs : sfx n = [])           -- the name has no suffix
    (hpath : u.netloc ≠ [] → (u.path = [] ∨ u.path.head? = some 47)) :
    ((n ≠ [] ∧ n ≠ dot ∧ n ≠ dotdot) → withSuffix e u [] kq kf = .ok (C13_keep u kq kf)) ∧
    ((n = [] ∨ n = dot ∨ n = dotdot) → withSuffix e u [] kq kf = .error .valueError) := by
  have hname : C13_rawStem n ++ q e Gen.PATH_QUOTER [] = n := by
    rw [q_path_nil, List.append_nil]; exact (rawStem_self_iff n).2 hs
  rw [withSuffix_eq e u [] kq kf n hn, hname]
  constructor
  · rintro ⟨h0, h1, h2⟩
    rw [if_neg]
    · exact withRawName_self u n kq kf hn h0 hpath
    · rintro ((⟨h, _⟩ | h) | h | h | h | h)
      · exact h rfl
      · cases h
      · exact h0 h
      · simp at h
      · exact h1 h
      · exact h2 h
  · rintro (h | h | h)
    · rw [if_pos (Or.inr (Or.inl h))]
    · rw [if_pos (Or.inr (Or.inr (Or.inr (Or.inl h))))]
    · rw [if_pos (Or.inr (Or.inr (Or.inr (Or.inr h))))]

/-! ## (S5)–(S7) a second `with_suffix`: idempotence, absorption, the stem -/

/-- what a successful `with_suffix(x)` did: the new name is `stem ++ quote(x)`; the argument passed the checks -/
theorem C13_with_suffix_name (e : Env) (u : Url) (x : Str) (kq kf : Bool) (v : Url) (n : Str)
    (hx : PyStr x) (hn : rawName u = .ok n) (h : withSuffix e u x kq kf = .ok v) :
    rawName v = .ok (C13_rawStem n ++ q e Gen.PATH_QUOTER x) ∧
    withRawName u (C13_rawStem n ++ q e Gen.PATH_QUOTER x) kq kf = .ok v ∧
    n ≠ [] ∧ C13_rawStem n ≠ [] ∧ 47 ∉ x ∧ (x = [] ∨ ∃ y, x = 46 :: y ∧ y ≠ []) ∧
    (q e Gen.PATH_QUOTER x = [] ∨ (q e Gen.PATH_QUOTER x).head? = some 46) ∧
    C13_rawStem n ++ q e Gen.PATH_QUOTER x ≠ dot ∧ C13_rawStem n ++ q e Gen.PATH_QUOTER x ≠ dotdot ∧
    47 ∉ C13_rawStem n ++ q e Gen.PATH_QUOTER x := by
  have ho : rawSuffix u = .ok (sfx n) := by rw [rawSuffix_eq, hn]; rfl
  obtain ⟨_, hname, _, _⟩ := C13_with_suffix_raw_py e u x kq kf v n _ hx hn ho h
  obtain ⟨hhead, h46, hn0, h47⟩ := withSuffix_checks e u x kq kf v n hn h
  rw [withSuffix_eq e u x kq kf n hn] at h
  split at h
  · cases h
  · rename_i hc
    have hshape : x = [] ∨ ∃ y, x = 46 :: y ∧ y ≠ [] := by
      cases x with
      | nil => exact Or.inl rfl
      | cons c y =>
        right
        have := hhead (by simp)
        simp at this
        subst this
        exact ⟨y, rfl, fun hy => h46 (by rw [hy])⟩
    refine ⟨hname, h, hn0, rawStem_ne_nil n hn0, h47, hshape, ?_, fun hd => hc (Or.inr (Or.inr (Or.inr (Or.inl hd)))),
      fun hd => hc (Or.inr (Or.inr (Or.inr (Or.inr hd)))), ?_⟩
    · rcases hshape with rfl | ⟨y, rfl, _⟩
      · exact Or.inl (q_path_nil e)
      · right; rw [q_path_cons_fix e y (pyStr_cons hx) (.inl rfl)]; rfl
    · intro hm
      rcases List.mem_append.1 hm with hm | hm
      · exact rawName_no_slash u n hn (rawStem_sub n 47 hm)
      · exact C13_path_quoter_no_slash e x hx h47 hm

/-- (S7) "replaces only the suffix": after a successful `with_suffix(x)` the stem of the new name is the OLD stem
    IF AND ONLY IF `x` keeps the stem — `x` is "" and the old stem has no suffix of its own ("a.tar.gz" → "a.tar",
    whose stem is "a": NOT kept), or `quote(x)` is ONE dotted piece (".tar.gz" is not: the new stem is "a.tar");
    and then the new raw suffix is `quote(x)` -/
theorem C13_with_suffix_stem_iff (e : Env) (u : Url) (x : Str) (kq kf : Bool) (v : Url) (n m : Str)
    (hx : PyStr x) (hn : rawName u = .ok n) (h : withSuffix e u x kq kf = .ok v) (hm : rawName v = .ok m) :
    (C13_rawStem m = C13_rawStem n ↔ C13_stemKeeping e n x) ∧
    (C13_dottedPiece (q e Gen.PATH_QUOTER x) → sfx m = q e Gen.PATH_QUOTER x) := by
  obtain ⟨hname, _, hn0, hS, _, hshape, hq, _⟩ := C13_with_suffix_name e u x kq kf v n hx hn h
  rw [hname] at hm
  cases hm
  have hx0 : q e Gen.PATH_QUOTER x = [] ↔ x = [] := by
    constructor
    · intro h0
      rcases hshape with rfl | ⟨y, rfl, _⟩
      · rfl
      · rw [q_path_cons_fix e y (pyStr_cons hx) (.inl rfl)] at h0; cases h0
    · rintro rfl; exact q_path_nil e
  constructor
  · rw [stemStable_iff _ _ hS hq]
    unfold C13_stemKeeping
    rw [hx0]
  · intro hp
    exact sfx_append_piece _ _ hS hp

/-- (S5) IDEMPOTENCE, exactly: after a successful `v = u.with_suffix(x)`, `v.with_suffix(x)` is `v` again (same scheme,
    authority, path; query / fragment by the keep flags) IF AND ONLY IF `x` keeps the stem (`C13_stemKeeping`).
    Any URL (with or without an authority, any old path). -/
theorem C13_with_suffix_idem_iff (e : Env) (u : Url) (x : Str) (kq kf kq' kf' : Bool) (v : Url) (n : Str)
    (hx : PyStr x) (hn : rawName u = .ok n) (h : withSuffix e u x kq kf = .ok v) :
    withSuffix e v x kq' kf' = .ok (C13_keep v kq' kf') ↔ C13_stemKeeping e n x := by
  obtain ⟨hname, hw, hn0, hS, h47, hshape, hq, hd1, hd2, hm47⟩ := C13_with_suffix_name e u x kq kf v n hx hn h
  obtain ⟨hst, _⟩ := C13_with_suffix_stem_iff e u x kq kf v n _ hx hn h hname
  rw [← hst]
  constructor
  · intro h2
    obtain ⟨hname2, _⟩ := C13_with_suffix_name e v x kq' kf' _ _ hx hname h2
    have : rawName (C13_keep v kq' kf') = rawName v := rawName_congr _ _ rfl rfl
    rw [this, hname] at hname2
    exact List.append_cancel_right (Except.ok.inj hname2).symm
  · intro hs
    rw [withSuffix_eq e v x kq' kf' _ hname, hs, if_neg]
    · rw [withRawName_twice u _ _ kq kf kq' kf' v hm47 hw]
      obtain ⟨hv, h2⟩ := withRawName_flags u _ kq kf (kq && kq') (kf && kf') v hw
      rw [h2]
      unfold C13_keep
      rw [hv]
      cases kq <;> cases kq' <;> cases kf <;> cases kf' <;> rfl
    · rintro ((⟨hx0, hh⟩ | h') | h' | h' | h' | h')
      · rcases hshape with rfl | ⟨y, rfl, _⟩
        · exact hx0 rfl
        · exact hh rfl
      · rcases hshape with rfl | ⟨y, hy, hy0⟩
        · cases h'
        · rw [hy] at h'; exact hy0 (List.cons.inj h').2
      · have := List.append_eq_nil_iff.1 h'
        exact hS this.1
      · exact h47 h'
      · exact hd1 h'
      · exact hd2 h'

/-- (S6) ABSORPTION, exactly: after a successful `v = u.with_suffix(x)`, a further `with_suffix(y)` on `v` is
    `with_suffix(y)` on `u` — for EVERY `y`, as VALUES (errors included), with the keep flags composed — IF AND ONLY IF
    `x` keeps the stem.  In particular `with_suffix(x).with_suffix(y) = with_suffix(y)` when `quote(x)` is a single
    dotted piece. -/
theorem C13_with_suffix_absorb_iff (e : Env) (u : Url) (x : Str) (kq kf : Bool) (v : Url) (n : Str)
    (hx : PyStr x) (hn : rawName u = .ok n) (h : withSuffix e u x kq kf = .ok v) :
    (∀ (y : Str) (kq' kf' : Bool), withSuffix e v y kq' kf' = withSuffix e u y (kq && kq') (kf && kf')) ↔
      C13_stemKeeping e n x := by
  obtain ⟨hname, hw, hn0, hS, h47, hshape, hq, hd1, hd2, hm47⟩ := C13_with_suffix_name e u x kq kf v n hx hn h
  obtain ⟨hst, _⟩ := C13_with_suffix_stem_iff e u x kq kf v n _ hx hn h hname
  constructor
  · intro hall
    rw [← C13_with_suffix_idem_iff e u x kq kf true true v n hx hn h, hall x true true]
    have hb : ∀ b : Bool, (b && true) = b := fun b => by cases b <;> rfl
    rw [hb, hb, h]
    obtain ⟨hv, _⟩ := withRawName_flags u _ kq kf kq kf v hw
    have hpre : v.pre = none := by rw [hv]; rfl
    have : C13_keep v true true = v := by
      cases v
      simp_all [C13_keep, fromParts]
    rw [this]
  · intro hk y kq' kf'
    have hs := hst.2 hk
    have hm0 : C13_rawStem n ++ q e Gen.PATH_QUOTER x ≠ [] := fun h0 => hS (List.append_eq_nil_iff.1 h0).1
    rw [withSuffix_eq e v y kq' kf' _ hname, withSuffix_eq e u y _ _ n hn, hs]
    by_cases hc : ((y ≠ [] ∧ y.head? ≠ some 46) ∨ y = [46]) ∨ 47 ∈ y ∨
        C13_rawStem n ++ q e Gen.PATH_QUOTER y = dot ∨ C13_rawStem n ++ q e Gen.PATH_QUOTER y = dotdot
    · rw [if_pos, if_pos]
      · rcases hc with hc | hc
        · exact Or.inl hc
        · exact Or.inr (Or.inr hc)
      · rcases hc with hc | hc
        · exact Or.inl hc
        · exact Or.inr (Or.inr hc)
    · rw [if_neg, if_neg]
      · exact withRawName_twice u _ _ kq kf kq' kf' v hm47 hw
      · rintro (h' | h' | h')
        · exact hc (Or.inl h')
        · exact hn0 h'
        · exact hc (Or.inr h')
      · rintro (h' | h' | h')
        · exact hc (Or.inl h')
        · exact hm0 h'
        · exact hc (Or.inr h')

/-- (S6) the instance `with_suffix(x).with_suffix(y) = with_suffix(y)` for `x = "." + x'` with `x'` non-empty,
    without '.' and without lone surrogates (both keep flags on in the first step) -/
theorem C13_with_suffix_then_with_suffix (e : Env) (u : Url) (x' y : Str) (kq' kf' : Bool) (v : Url)
    (hx : PyStr x') (hxs : NoSurrogate x') (hx0 : x' ≠ []) (hx46 : 46 ∉ x')
    (h : withSuffix e u (46 :: x') true true = .ok v) :
    withSuffix e v y kq' kf' = withSuffix e u y kq' kf' := by
  obtain ⟨n, hn⟩ := C13_raw_name_total u
  have hpx : PyStr (46 :: x') := by
    intro c hc
    rcases List.mem_cons.1 hc with rfl | hc
    · decide
    · exact hx c hc
  have := (C13_with_suffix_absorb_iff e u _ true true v n hpx hn h).2
    (Or.inr (((C13_dottedPiece_quote e x' hx).2 hxs).2 ⟨hx46, hx0⟩)) y kq' kf'
  simpa using this


/-- `C13_stemKeeping` on the ARGUMENT, for a Python string without lone surrogates: `x` is "" (and the old stem has no
    suffix) or `x` is "." + a non-empty text without '.'.  Without `NoSurrogate` only: … or `x = "." + y` with `y`
    without '.' and not dropped entirely by the quoter (`C13_dottedPiece_quote`). -/
theorem C13_stemKeeping_iff (e : Env) (n x : Str) (hx : PyStr x) (hxs : NoSurrogate x)
    (hshape : x = [] ∨ x.head? = some 46) :              -- the first check of `with_suffix`
    C13_stemKeeping e n x ↔
      ((x = [] ∧ sfx (C13_rawStem n) = []) ∨ ∃ y, x = 46 :: y ∧ y ≠ [] ∧ 46 ∉ y) := by
  unfold C13_stemKeeping
  rcases hshape with rfl | hh
  · rw [q_path_nil]
    constructor
    · rintro (h | ⟨t, h, _⟩)
      · exact Or.inl h
      · cases h
    · rintro (h | ⟨y, h, _⟩)
      · exact Or.inl h
      · cases h
  · obtain ⟨y, rfl⟩ : ∃ y, x = 46 :: y := by
      cases x with
      | nil => cases hh
      | cons c y => simp at hh; exact ⟨y, by rw [hh]⟩
    rw [((C13_dottedPiece_quote e y (pyStr_cons hx)).2 (noSurr_cons hxs))]
    constructor
    · rintro (⟨h, _⟩ | ⟨h1, h2⟩)
      · cases h
      · exact Or.inr ⟨y, rfl, h2, h1⟩
    · rintro (⟨h, _⟩ | ⟨y', h, h1, h2⟩)
      · cases h
      · cases h; exact Or.inr ⟨h2, h1⟩

/-- (S5)/(S6)/(S7) counterexamples, computed on both backends (Python-level input):
    * `URL("http://h/a.b").with_suffix(".tar.gz")` is `…/a.tar.gz`; `.with_suffix(".tar.gz")` AGAIN is `…/a.tar.tar.gz`
      (not idempotent; the stem became "a.tar"); and `.with_suffix(".x")` after it is `…/a.tar.x`, whereas
      `URL("http://h/a.b").with_suffix(".x")` is `…/a.x` (no absorption);
    * `URL("http://h/a.tar.gz").with_suffix("")` is `…/a.tar`, and `.with_suffix("")` again is `…/a`. -/
theorem C13_with_suffix_idem_fails_for_multi_dot : ∀ b : Backend,
    let e : Env := ⟨b, Oracles.empty⟩
    let U := fun (p : String) => fromParts "http".toStr "h".toStr p.toStr [] []
    withSuffix e (U "/a.b") ".tar.gz".toStr false false = .ok (U "/a.tar.gz") ∧
    withSuffix e (U "/a.tar.gz") ".tar.gz".toStr false false = .ok (U "/a.tar.tar.gz") ∧
    withSuffix e (U "/a.tar.gz") ".x".toStr false false = .ok (U "/a.tar.x") ∧
    withSuffix e (U "/a.b") ".x".toStr false false = .ok (U "/a.x") ∧
    ¬ C13_dottedPiece (q e Gen.PATH_QUOTER ".tar.gz".toStr) ∧
    C13_rawStem "a.tar.gz".toStr = "a.tar".toStr ∧ C13_rawStem "a.b".toStr = "a".toStr ∧
    withSuffix e (U "/a.tar.gz") [] false false = .ok (U "/a.tar") ∧
    withSuffix e (U "/a.tar") [] false false = .ok (U "/a") ∧
    sfx (C13_rawStem "a.tar.gz".toStr) = ".tar".toStr := by
  dsimp only; str_lits; intro b; cases b <;> decide +kernel

/-- WHERE `NoSurrogate` IS NEEDED: a lone surrogate is dropped by the quoter, so ".\ud800" passes the checks of
    `with_suffix` (it is not "."), quotes to "." and is NOT a dotted piece: `URL("http://h/a.b").with_suffix(".\ud800")`
    is `…/a.`, and the same call again gives `…/a..` — not idempotent although the argument is "." + a text without
    '.'.  Also `with_suffix("\ud800.b")` raises ValueError although its quoted text ".b" is the suffix of "a.b"
    (the guard `NoSurrogate x` of `C13_with_suffix_own_suffix`). -/
theorem C13_with_suffix_idem_fails_for_surrogate : ∀ b : Backend,
    let e : Env := ⟨b, Oracles.empty⟩
    let U := fun (p : String) => fromParts "http".toStr "h".toStr p.toStr [] []
    let x : Str := [46, 0xD800]
    PyStr x ∧ 46 ∉ x.drop 1 ∧ q e Gen.PATH_QUOTER x = ".".toStr ∧
    withSuffix e (U "/a.b") x false false = .ok (U "/a.") ∧
    withSuffix e (U "/a.") x false false = .ok (U "/a..") ∧
    q e Gen.PATH_QUOTER [0xD800, 46, 98] = ".b".toStr ∧
    withSuffix e (U "/a.b") [0xD800, 46, 98] false false = .error .valueError := by
  dsimp only; str_lits; intro b; cases b <;> decide +kernel

/-! ## non-vacuity (both backends) -/
section checks
private def eB (b : Backend) : Env := { b := b, o := Oracles.empty }
private def uT : Url := fromParts "http".toStr "h".toStr "/d/a.tar.gz".toStr "k=v".toStr "f".toStr
private def uR : Url := fromParts [] [] "x/.bashrc".toStr [] []

/-- (S1)/(S2)/(S3) on names with several dots, leading dots, trailing dots, all dots, and the empty name -/
example : C13_rawStem "a.tar.gz".toStr = "a.tar".toStr ∧ sfx "a.tar.gz".toStr = ".gz".toStr ∧
    sfxs "a.tar.gz".toStr = [".tar".toStr, ".gz".toStr] ∧
    C13_rawStem ".bashrc".toStr = ".bashrc".toStr ∧ sfx ".bashrc".toStr = [] ∧ sfxs ".bashrc".toStr = [] ∧
    C13_rawStem "..a".toStr = ".".toStr ∧ sfx "..a".toStr = ".a".toStr ∧ sfxs "..a".toStr = [] ∧
    C13_rawStem "..a.b".toStr = "..a".toStr ∧ sfx "..a.b".toStr = ".b".toStr ∧ sfxs "..a.b".toStr = [".b".toStr] ∧
    C13_rawStem "a.".toStr = "a.".toStr ∧ sfx "a.".toStr = [] ∧ sfxs "a.".toStr = [] ∧
    C13_rawStem "...".toStr = "...".toStr ∧ sfx "...".toStr = [] ∧ sfxs "...".toStr = [] ∧
    C13_rawStem [] = [] ∧ sfx [] = [] ∧ sfxs [] = [] ∧
    sfxs "a..b".toStr = [".".toStr, ".b".toStr] ∧ sfx "a..b".toStr = ".b".toStr := by
  str_lits; decide +kernel

/-- the accessors of the model on the same URL: `C13_name_eq_stem_suffix`, `C13_suffixes_tail_closed`,
    `C13_suffix_last_iff` have their hypotheses met -/
example : rawName uT = .ok "a.tar.gz".toStr ∧ rawSuffix uT = .ok ".gz".toStr ∧
    rawSuffixes uT = .ok [".tar".toStr, ".gz".toStr] := by
  simp only [uT]; str_lits; decide +kernel

/-- `C13_sfx_last_iff`: the excluded form is inhabited ("..a" = 2 dots + "a") and so is its complement -/
example : (∃ (k : Nat) (p : Str), "..a".toStr = List.replicate (k + 2) 46 ++ p ∧ p ≠ [] ∧ 46 ∉ p) ∧
    sfx "..a".toStr ≠ (sfxs "..a".toStr).getLast?.getD [] ∧
    sfx "..a.b".toStr = (sfxs "..a.b".toStr).getLast?.getD [] :=
  ⟨⟨0, "a".toStr, by decide +kernel⟩, by decide +kernel⟩

/-- `C13_with_suffix_own_suffix` / `C13_with_suffix_suffix_id`: the hypotheses hold for `http://h/d/a.tar.gz?k=v#f` and
    x = ".gz", and the result (through the theorem) is the URL itself with the query kept, the fragment dropped -/
example : ∀ b : Backend, withSuffix (eB b) uT ".gz".toStr true false
    = .ok (fromParts "http".toStr "h".toStr "/d/a.tar.gz".toStr "k=v".toStr []) := fun b =>
  C13_with_suffix_own_suffix (eB b) uT ".gz".toStr true false "a.tar.gz".toStr (by decide +kernel) (by decide +kernel)
    (by decide +kernel) (by cases b <;> decide +kernel) (by decide +kernel) (by decide +kernel)

/-- `C13_with_suffix_empty_id`: a relative URL whose name ".bashrc" has no suffix; and the error half on "." -/
example : ∀ b : Backend, withSuffix (eB b) uR [] false false = .ok uR ∧
    withSuffix (eB b) (fromParts [] [] "x/.".toStr [] []) [] false false = .error .valueError := fun b =>
  ⟨(C13_with_suffix_empty_id (eB b) uR false false ".bashrc".toStr (by decide +kernel) (by decide +kernel)
    (by decide +kernel)).1 (by decide +kernel),
   (C13_with_suffix_empty_id (eB b) (fromParts [] [] "x/.".toStr [] []) false false ".".toStr
    (by decide +kernel) (by decide +kernel) (by decide +kernel)).2 (Or.inr (Or.inl rfl))⟩

/-- `C13_with_suffix_idem_iff` / `C13_with_suffix_absorb_iff` / `C13_with_suffix_stem_iff` / `C13_with_suffix_name`:
    the first call succeeds, and the condition HOLDS for x = ".t x" (one dotted piece after quoting: ".t%20x") and
    for "" on "a.gz", FAILS for ".tar.gz" and for "" on "a.tar.gz" -/
example : ∀ b : Backend, withSuffix (eB b) uT ".t x".toStr true true
      = .ok (fromParts "http".toStr "h".toStr "/d/a.tar.t%20x".toStr "k=v".toStr "f".toStr) ∧
    C13_stemKeeping (eB b) "a.tar.gz".toStr ".t x".toStr ∧
    ¬ C13_stemKeeping (eB b) "a.tar.gz".toStr ".tar.gz".toStr ∧
    ¬ C13_stemKeeping (eB b) "a.tar.gz".toStr [] ∧ C13_stemKeeping (eB b) "a.gz".toStr [] := by
  simp only [uT]; str_lits
  intro b
  refine ⟨by cases b <;> decide +kernel, ?_, ?_, ?_, ?_⟩
  · exact Or.inr (by cases b <;> decide +kernel)
  · rintro (⟨h, _⟩ | h)
    · cases h
    · revert h; cases b <;> decide +kernel
  · rintro (⟨_, h⟩ | h)
    · revert h; decide +kernel
    · revert h; cases b <;> decide +kernel
  · exact Or.inl ⟨rfl, by decide⟩

/-- `C13_with_suffix_then_with_suffix` / `C13_stemKeeping_iff` / `C13_dottedPiece_quote`: hypotheses hold for
    x' = "t x" -/
example : PyStr "t x".toStr ∧ NoSurrogate "t x".toStr ∧ "t x".toStr ≠ [] ∧ 46 ∉ "t x".toStr ∧
    PyStr ".t x".toStr ∧ NoSurrogate ".t x".toStr ∧ (".t x".toStr).head? = some 46 := by
  str_lits; decide +kernel
end checks

end Yarl
