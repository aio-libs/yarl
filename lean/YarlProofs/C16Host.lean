/-
  C16Host.lean — property C16, last clause: "… encoding is idempotent and the decoded host re-encodes
  to the same raw host".

  * `URL.host` of an IP literal is the raw host, and `_encode_host` of it is the stored form
    (`URL.host`: `raw[-1].isdigit() and "xn--" not in raw or ":" in raw` — a digit-ending raw host
    that contains "xn--" IS decoded (commit 60dbf1e); an IPv4 text has no 'x', an IPv6 text has ':');
  * `URL.host` of a registered name is its IDNA decoding, and (with the IDNA round trip stated as a
    hypothesis on the oracle's answers) it re-encodes to the raw host;
  * `_encode_host` is idempotent on ASCII hosts (through `unbracket`), with the exact corner where it
    is not: validation off and a '[' in a host that is no IPv6 literal.

  The namespace `MiscLemmas` holds here the helpers of these theorems that other properties use too: `looksIP_false`,
  the two closed forms of the `host` accessor (`host_of_ip_looking`, `host_of_regname`), `parseIP_none_of`, and what
  `unbracket` does (`unbracket_of_no91`, `unbracket_of_head`).
-/
import YarlModel
import YarlProofs.C16
import YarlProofs.C11
import YarlProofs.Lemmas.StrTotal
import YarlProofs.Lemmas.SubLemmas

namespace Yarl
open HostLemmas NetlocLemmas
open StrTotal (zonePart)

namespace MiscLemmas

theorem mem58_of {s : Str} (h : 58 ∈ s) : mem 58 s = true := mem_iff.mpr h

/-- an ASCII host without ':' whose last character is no digit does not look like an IP literal -/
theorem looksIP_false (o : Oracles) {s : Str} (ha : isAscii s = true) (h58 : 58 ∉ s)
    (hnd : ∀ l, s.getLast? = some l → isDigitC l = false) : looksIP o s = .ok false := by
  rw [looksIP_of_ascii o ha, mem_false_iff.mpr h58]
  cases hl : s.getLast? with
  | none => rfl
  | some l => simp [hnd l hl]

theorem not_mem_91_lower {s : Str} (h : 91 ∉ s) : 91 ∉ lower s := fun hm =>
  h ((HostLemmas.mem_lower 91 (by omega) s).1 hm)

theorem notRegName_no91 {s : Str} (h : notRegName s = false) : 91 ∉ s := by
  intro hm
  rcases notRegName_spec s h 91 hm with h | h
  · omega
  · revert h; decide

theorem unbracket_of_no91 {r : Str} (h : 91 ∉ r) : unbracket r = r := by
  simp [unbracket, mem_false_iff.mpr h]

theorem unbracket_of_head {r : Str} (h : r.head? = some 91) : unbracket r = (r.drop 1).dropLast := by
  have : mem 91 r = true := by
    apply mem_iff.mpr
    cases r with
    | nil => cases h
    | cons x xs => simp at h; subst h; simp
  simp [unbracket, this]

/-- `host` of a raw host that is IP-looking (ends in a digit and has no "xn--", or has a ':') is the
    raw host itself -/
theorem host_of_ip_looking (e : Env) (u : Url) (raw : Str) (hraw : rawHost e u = .ok (some raw))
    (h : (∃ l, raw.getLast? = some l ∧ isDigitC l = true ∧ hasSub [120, 110, 45, 45] raw = false) ∨
         (58 ∈ raw ∧ ∀ l, raw.getLast? = some l → ∃ b, isDigitChar e.o l = .ok b)) :
    host e u = .ok (some raw) := by
  unfold host
  rw [hraw]
  simp only [bind, Except.bind]
  rcases h with ⟨l, hl, hd, hx⟩ | ⟨h58, hor⟩
  · rw [hl]
    have : l < 128 := by simp [isDigitC] at hd; omega
    simp only [isDigitChar, this, ↓reduceIte, pure, Except.pure, hd, hx, Bool.not_false, Bool.and_self,
      Bool.true_or]
  · cases hl : raw.getLast? with
    | none =>
      rw [List.getLast?_eq_none_iff] at hl
      subst hl; simp at h58
    | some l =>
      obtain ⟨b, hb⟩ := hor l hl
      simp only [hb, mem58_of h58, Bool.or_true, ↓reduceIte, pure, Except.pure]

/-- `host` of an ASCII raw host that is not IP-looking (no ':', and the last character is no digit or
    "xn--" occurs) is its IDNA decoding -/
theorem host_of_regname (e : Env) (u : Url) (raw : Str) (hraw : rawHost e u = .ok (some raw))
    (hasc : isAscii raw = true) (h58 : 58 ∉ raw)
    (hnd : (∀ l, raw.getLast? = some l → isDigitC l = false) ∨ hasSub [120, 110, 45, 45] raw = true) :
    host e u = (idnaDecode e.o raw).map some := by
  unfold host
  rw [hraw]
  simp only [bind, Except.bind]
  cases hl : raw.getLast? with
  | none =>
    simp only [pure, Except.pure, mem_false_iff.mpr h58, Bool.or_self, Bool.false_eq_true, ↓reduceIte,
      Bool.false_and]
    cases idnaDecode e.o raw <;> rfl
  | some l =>
    have hlt : l < 128 := by
      have := List.mem_of_getLast? hl
      rw [isAscii_iff] at hasc
      exact hasc l this
    have hc : (isDigitC l && !hasSub [120, 110, 45, 45] raw) = false := by
      rcases hnd with hnd | hx
      · rw [hnd l hl]; rfl
      · rw [hx]; simp
    simp only [isDigitChar, hlt, ↓reduceIte, hc, pure, Except.pure, mem_false_iff.mpr h58, Bool.or_self,
      Bool.false_eq_true]
    cases idnaDecode e.o raw <;> rfl

/-- no ':' and no IPv4 text before '%': no IP literal -/
theorem parseIP_none_of {s : Str} (h58 : 58 ∉ s) (h4 : parseIPv4 (partition 37 s).1 = none) :
    parseIP (partition 37 s).1 = none := by
  refine parseIP_eq_none.2 ⟨h4, ?_⟩
  cases h6 : parseIPv6 (partition 37 s).1 with
  | none => rfl
  | some h8 => exact absurd (partition_fst_sub 37 s 58 (parseIPv6_colon h6)) h58

/-- a URL whose cache holds the given raw host (as the constructor leaves it) -/
def urlWithRawHost (raw : Str) : Url :=
  { scheme := "http".toStr, netloc := "x".toStr, path := [], query := [], fragment := [],
    pre := some { rawHost := some raw, explicitPort := none, rawUser := none, rawPassword := none } }

end MiscLemmas
open MiscLemmas

/-! ### IP literals: the decoded host IS the raw host, and it re-encodes to the stored form -/

/-- `raw` is what `_encode_host` produced for an IPv4 literal, or for an IPv6 literal (canonical text,
    zone kept): then `URL.host` is `raw` itself and encoding it again gives the stored (bracketed) form.
    (`URL.host` returns `raw` undecoded because an IPv4 text — digits and dots — ends in a digit and
    cannot contain "xn--", and an IPv6 text contains ':' whatever its zone id is.)

    Hypothesis `hor` (IPv6 case only, model artefact): `URL.host` evaluates `raw[-1].isdigit()`
    BEFORE `":" in raw`; for a zone id ending in a non-ASCII character the model asks the `isDigitU`
    oracle, which must have an entry (`C16_host_ipv6_oracle_miss` is the counterexample without it).
    For an ASCII `raw` it holds automatically (`C16_host_reencodes_ip_ascii`). -/
theorem C16_host_reencodes_ip (e : Env) (u : Url) (raw : Str) : rawHost e u = .ok (some raw) →
    ((∃ o4, parseIPv4 raw = some o4) ∨
     (∃ h8, parseIPv6 (partition 37 raw).1 = some h8 ∧ raw = ipv6ToStr h8 ++ zonePart raw)) →
    (∀ l, raw.getLast? = some l → 128 ≤ l → ∃ b, e.o.isDigitU l = some b) →
    host e u = .ok (some raw) ∧ encodeHost e.o raw false = .ok (bracket raw) := by
  intro hraw hip hor
  rcases hip with ⟨o4, h4⟩ | ⟨h8, h6, hcanon⟩
  · -- IPv4: digits and dots only, ends in a digit
    obtain ⟨hs, hl4, _⟩ := C16_ipv4_canonical raw o4 h4
    have hch := parseIPv4_chars h4
    have h58 : 58 ∉ raw := parseIPv4_not_mem h4 (by decide)
    have h37 : 37 ∉ raw := parseIPv4_not_mem h4 (by decide)
    have hxn : hasSub [120, 110, 45, 45] raw = false := SubLemmas.xn_not_in_digits_dots hch
    obtain ⟨l, hl, hd⟩ := ipv4_last_digit h4
    have hlast : ∃ l, raw.getLast? = some l ∧ isDigitC l = true ∧ hasSub [120, 110, 45, 45] raw = false :=
      ⟨l, hl, hd, hxn⟩
    refine ⟨host_of_ip_looking e u raw hraw (Or.inl hlast), ?_⟩
    have : bracket raw = raw := by simp [bracket, mem_false_iff.mpr h58]
    rw [this]
    exact C16_ipv4_kept e.o raw false o4 h4 h37
  · -- IPv6
    have hcolon : 58 ∈ raw := partition_fst_sub 37 raw 58 (parseIPv6_colon h6)
    have hhost : host e u = .ok (some raw) := by
      apply host_of_ip_looking e u raw hraw
      right
      refine ⟨hcolon, fun l hl => ?_⟩
      unfold isDigitChar
      by_cases hlt : l < 128
      · simp only [hlt, ↓reduceIte]; exact ⟨_, rfl⟩
      · obtain ⟨b, hb⟩ := hor l hl (by omega)
        simp only [hlt, ↓reduceIte, hb]; exact ⟨b, rfl⟩
    refine ⟨hhost, ?_⟩
    have hb : bracket raw = [91] ++ ipv6ToStr h8 ++ zonePart raw ++ [93] := by
      unfold bracket
      rw [if_pos (mem58_of hcolon)]
      conv => lhs; rw [hcanon]
      simp
    rw [encodeHost_of_v6 e.o false h6, zoneBad_false, hb]
    rfl

/-- for an ASCII raw host no oracle hypothesis is needed -/
theorem C16_host_reencodes_ip_ascii (e : Env) (u : Url) (raw : Str) (hasc : isAscii raw = true) :
    rawHost e u = .ok (some raw) →
    ((∃ o4, parseIPv4 raw = some o4) ∨
     (∃ h8, parseIPv6 (partition 37 raw).1 = some h8 ∧ raw = ipv6ToStr h8 ++ zonePart raw)) →
    host e u = .ok (some raw) ∧ encodeHost e.o raw false = .ok (bracket raw) := by
  intro hraw hip
  refine C16_host_reencodes_ip e u raw hraw hip ?_
  intro l hl hge
  have := List.mem_of_getLast? hl
  rw [isAscii_iff] at hasc
  have := hasc l this
  omega

/-- COUNTEREXAMPLE to the statement without the oracle hypothesis (a model artefact, not a yarl bug:
    `str.isdigit()` never fails): a zone id ending in 'é' and an empty `isDigitU` table -/
theorem C16_host_ipv6_oracle_miss :
    let e : Env := { b := .py, o := Oracles.empty }
    let raw := "::1%".toStr ++ [233]
    let u : Url := urlWithRawHost raw
    rawHost e u = .ok (some raw) ∧
    parseIPv6 (partition 37 raw).1 = some [0, 0, 0, 0, 0, 0, 0, 1] ∧
    raw = ipv6ToStr [0, 0, 0, 0, 0, 0, 0, 1] ++ zonePart raw ∧
    host e u = .error (.oracleMiss "isDigitU" [233]) ∧
    encodeHost e.o raw false = .ok (bracket raw) := by
  str_lits; intro e raw u; decide +kernel

/-! ### registered names: the decoded host is the IDNA decoding, and it re-encodes to the raw host -/

/-- `raw` is an ASCII host that is not IP-looking for `URL.host` (no ':', and the last character is no
    digit OR "xn--" occurs in it, commit 60dbf1e): then
    `URL.host` is `_idna_decode(raw)`, and the decoded host `h` re-encodes to `raw` under the IDNA
    round-trip hypotheses, stated on the oracle's answers and minimal:
    * if `h` is ASCII (the decoder returned an ASCII name): `lower h = raw`
      (in particular `h = raw` for a lower-case `raw`); for a digit-ending `raw` with "xn--"
      `_encode_host` finds `h` IP-looking, so additionally the text before '%' is no IPv4 literal, or
      `h = raw` (witness without it: `raw = "1.2.3.4%xn--5"` decoded by the oracle to `"1.2.3.4%XN--5"`
      is an IPv4 literal whose zone is kept verbatim, `C16_host_regname_zone_case`);
    * if `h` is not ASCII: the encoder answers `raw` for it, and `_encode_host` takes the IDNA branch for
      `h` — `h` does not look like an IP literal, or it does (it ends in a Unicode digit) but the text
      before '%' is no IP literal.
    That `raw` is lower case is not needed (it follows in the ASCII case and is irrelevant otherwise). -/
theorem C16_host_reencodes_regname (e : Env) (u : Url) (raw h : Str) : rawHost e u = .ok (some raw) →
    isAscii raw = true → 58 ∉ raw →
    ((∀ l, raw.getLast? = some l → isDigitC l = false) ∨ hasSub [120, 110, 45, 45] raw = true) →
    host e u = .ok (some h) →
    (isAscii h = true → lower h = raw ∧
      ((∀ l, raw.getLast? = some l → isDigitC l = false) ∨ parseIPv4 (partition 37 raw).1 = none ∨ h = raw)) →
    (isAscii h = false → idnaEncode e.o h = .ok raw ∧
      (looksIP e.o h = .ok false ∨ (looksIP e.o h = .ok true ∧ parseIP (partition 37 h).1 = none))) →
    idnaDecode e.o raw = .ok h ∧ encodeHost e.o h false = .ok raw := by
  intro hraw hasc h58 hnd hhost hA hN
  have hdec : idnaDecode e.o raw = .ok h := by
    rw [host_of_regname e u raw hraw hasc h58 hnd] at hhost
    cases hd : idnaDecode e.o raw with
    | error er => rw [hd] at hhost; cases hhost
    | ok x => rw [hd] at hhost; cases hhost; rfl
  refine ⟨hdec, ?_⟩
  cases ha : isAscii h with
  | true =>
    obtain ⟨hl, hwhy⟩ := hA ha
    -- the host does not take the IP branch (lower-casing changes neither what it looks like nor what it parses as),
    -- or it is `raw` itself
    suffices hn : NoIp e.o h ∨ h = raw by
      rcases hn with hn | rfl
      · rw [encodeHost_noIp false hn, regPath_ok_of_ascii ha]
        exact ⟨hl.symm, nofun⟩
      · exact encodeHost_self e.o false hasc hl (notV6_of_no_colon h58) nofun
    rcases hwhy with hnd0 | h4 | heq
    · refine Or.inl ⟨false, ?_, nofun⟩
      rw [← looksIP_lower e.o ha, hl]
      exact looksIP_false e.o hasc h58 hnd0
    · exact Or.inl (noIp_of_ascii e.o ha (by rw [← C16_parseIP_lower, hl]; exact parseIP_none_of h58 h4))
    · exact Or.inr heq
  | false =>
    obtain ⟨henc, hwhy⟩ := hN ha
    have hn : NoIp e.o h := by
      rcases hwhy with hl | ⟨hl, hp⟩
      · exact ⟨false, hl, nofun⟩
      · exact noIp_of_parse hl hp
    -- `raw` holds no ':' (hypothesis), so the IDNA answer is returned as such (no re-entry, fix 3fbf5b4)
    rw [encodeHost_noIp false hn, regPath_idn_no_colon e.o false ha henc (mem_false_iff.mpr h58)]
    rfl

/-- COUNTEREXAMPLE to the ASCII clause with only `lower h = raw` once digit-ending raw hosts with "xn--"
    are allowed: an oracle that decodes `1.2.3.4%xn--5` to `1.2.3.4%XN--5` (an IPv4 literal with a zone,
    kept verbatim by `_encode_host`).  Not a yarl defect: no real IDNA decoder changes case like that. -/
theorem C16_host_regname_zone_case :
    let raw := "1.2.3.4%xn--5".toStr
    let h := "1.2.3.4%XN--5".toStr
    let e : Env := { b := .py, o := { Oracles.empty with idnaDec := fun s => if s = raw then some (some h) else none } }
    let u : Url := urlWithRawHost raw
    rawHost e u = .ok (some raw) ∧ isAscii raw = true ∧ 58 ∉ raw ∧ hasSub [120, 110, 45, 45] raw = true ∧
    host e u = .ok (some h) ∧ isAscii h = true ∧ lower h = raw ∧
    encodeHost e.o h false = .ok h ∧ h ≠ raw := by
  str_lits; intro raw h e u; decide +kernel

/-- the pure-ASCII case: a lower-case ASCII name that the IDNA decoder maps to itself.  No other
    hypothesis is needed: the host is the raw host and it re-encodes to itself.
    The hypothesis on the last character ("no digit, or `raw` contains xn--") is not used:
    `C16_host_reencodes_ascii_total` is the statement without it. -/
theorem C16_host_reencodes_ascii (e : Env) (u : Url) (raw : Str) : rawHost e u = .ok (some raw) →
    isAscii raw = true → lower raw = raw → 58 ∉ raw →
    ((∀ l, raw.getLast? = some l → isDigitC l = false) ∨ hasSub [120, 110, 45, 45] raw = true) →
    e.o.idnaDec raw = some (some raw) →
    host e u = .ok (some raw) ∧ encodeHost e.o raw false = .ok raw := by
  intro hraw hasc hlow h58 hnd hdec
  have hd : idnaDecode e.o raw = .ok raw := by
    simp only [idnaDecode, hasc, Bool.not_true, Bool.false_eq_true, ↓reduceIte, hdec, ask, bind, Except.bind]
    rfl
  have hhost : host e u = .ok (some raw) := by
    rw [host_of_regname e u raw hraw hasc h58 hnd, hd]; rfl
  exact ⟨hhost, (C16_host_reencodes_regname e u raw raw hraw hasc h58 hnd hhost
    (fun _ => ⟨hlow, Or.inr (Or.inr rfl)⟩)
    (fun hna => by rw [hasc] at hna; cases hna)).2⟩

/-- a host that is neither "not digit-ending" nor an A-label ends in a digit and holds no "xn--" -/
theorem digit_ending_of_not {s : Str}
    (hx : ¬ ((∀ l, s.getLast? = some l → isDigitC l = false) ∨ hasSub [120, 110, 45, 45] s = true)) :
    ∃ l, s.getLast? = some l ∧ isDigitC l = true ∧ hasSub [120, 110, 45, 45] s = false := by
  have hx1 : ¬ ∀ l, s.getLast? = some l → isDigitC l = false := fun h => hx (Or.inl h)
  have hx2 : hasSub [120, 110, 45, 45] s = false := by
    cases hh : hasSub [120, 110, 45, 45] s with
    | false => rfl
    | true => exact absurd (Or.inr hh) hx
  cases hl : s.getLast? with
  | none => exact absurd (fun l h => by rw [hl] at h; cases h) hx1
  | some l =>
    refine ⟨l, rfl, ?_, hx2⟩
    cases hd : isDigitC l with
    | true => rfl
    | false =>
      exfalso; apply hx1
      intro l' hl'
      rw [hl] at hl'
      cases hl'; exact hd

/-- … whatever the last character is: a digit-ending `raw` without "xn--" is returned undecoded, any
    other is decoded to itself; either way it is a fixed point of `_encode_host` (reg-name or IPv4) -/
theorem C16_host_reencodes_ascii_total (e : Env) (u : Url) (raw : Str) : rawHost e u = .ok (some raw) →
    isAscii raw = true → lower raw = raw → 58 ∉ raw →
    e.o.idnaDec raw = some (some raw) →
    host e u = .ok (some raw) ∧ encodeHost e.o raw false = .ok raw := by
  intro hraw hasc hlow h58 hdec
  refine ⟨?_, encodeHost_self e.o false hasc hlow (notV6_of_no_colon h58) nofun⟩
  by_cases hx : (∀ l, raw.getLast? = some l → isDigitC l = false) ∨ hasSub [120, 110, 45, 45] raw = true
  · exact (C16_host_reencodes_ascii e u raw hraw hasc hlow h58 hx hdec).1
  · exact host_of_ip_looking e u raw hraw (Or.inl (digit_ending_of_not hx))

/-! ### idempotence of `_encode_host` on ASCII hosts -/

/-- an IPv4 literal with a screened zone holds no '[' -/
theorem ipv4_zone_no91 {r : Str} {o4 : List Nat} (hp : parseIP (partition 37 r).1 = some (.v4 o4))
    (hz : zoneBad r true = false) : 91 ∉ r := by
  intro hm
  have hch := parseIPv4_chars (parseIP_some_v4.1 hp)
  rw [partition_join 37 r] at hm
  rcases List.mem_append.1 hm with hm | hm
  · rcases hch 91 hm with h | h
    · omega
    · simp [isDigitC] at h
  · cases hsep : (partition 37 r).2.1 with
    | false => rw [hsep] at hm; simp at hm
    | true =>
      rw [hsep] at hm
      simp only [↓reduceIte, List.mem_cons] at hm
      rcases hm with h | hm
      · omega
      · have := zone_chars (zoneBad_true_false hz hsep) 91 hm
        omega

/-- the IP branch is idempotent through `unbracket`: an IPv6 result re-parses to the same address; an IPv4 literal is
    its own result, and must hold no '[' for `unbracket` to leave it alone -/
theorem ipBranch_idem (o : Oracles) {t r : Str} (v : Bool) (he : encodeHost o t v = .ok r) (hres : ipRes t = some r)
    (h91 : ∀ o4, parseIP (partition 37 t).1 = some (.v4 o4) → 91 ∉ t) : encodeHost o (unbracket r) v = .ok r := by
  cases hp : parseIP (partition 37 t).1 with
  | none =>
    rw [ipRes_eq_none.2 hp] at hres
    cases hres
  | some ip =>
    cases ip with
    | v4 o4 =>
      obtain rfl : t = r := Option.some.inj ((ipRes_of_v4 hp).symm.trans hres)
      rw [unbracket_of_no91 (h91 o4 hp)]
      exact he
    | v6 h8 =>
      have h6 := parseIP_some_v6.1 hp
      have h4 := parseIPv4_none_of_parseIPv6 h6
      rw [unbracket_of_head (C16_ipv6_bracketed o t v h8 r h4 h6 he).1]
      exact C16_ipv6_idem o t v h8 r h4 h6 he

/-- `_encode_host` is idempotent on ASCII hosts: encoding the stored raw host (`unbracket r`) again gives
    the same result.  IPv6 literals (zone kept verbatim, already screened when validation is on), IPv4
    literals, registered names.

    Hypothesis `hbr`: validation is on, or the host has no '[', or it is an IPv6 literal.  Without it
    the statement is false (`C16_encode_not_idempotent_bracket`): with validation off a '[' survives in
    a reg-name / IPv4+zone result and `unbracket` (which strips the first and last character of any
    text containing '[') then mangles it.  An upper-case zone under validation is no counterexample: the zone is
    copied verbatim and screened case-insensitively both times. -/
theorem C16_encode_idempotent (o : Oracles) (h r : Str) (v : Bool) (ha : isAscii h = true)
    (hbr : v = true ∨ 91 ∉ h ∨ ∃ h8, parseIP (partition 37 h).1 = some (.v6 h8)) :
    encodeHost o h v = .ok r → encodeHost o (unbracket r) v = .ok r := by
  intro he
  rcases encodeHost_ok_iff.1 he with ⟨_, hres, hz⟩ | ⟨hn, hreg⟩
  · -- the IP branch
    refine ipBranch_idem o v he hres fun o4 hp => ?_
    rcases hbr with hv | h91 | ⟨h8, h6⟩
    · subst hv
      exact ipv4_zone_no91 hp hz
    · exact h91
    · rw [hp] at h6
      cases h6
  · -- the reg-name branch: r = lower h
    obtain ⟨hrl, hv⟩ := (regPath_ok_of_ascii ha).1 hreg
    have h91 : 91 ∉ r := by
      rcases hbr with hv' | h91 | ⟨h8, h6⟩
      · exact notRegName_no91 (hv hv')
      · rw [hrl]; exact not_mem_91_lower h91
      · exfalso
        obtain ⟨b, hl, hb⟩ := hn
        rw [looksIP_of_colon o (partition_fst_sub 37 h 58 (parseIPv6_colon (parseIP_some_v6.1 h6)))] at hl
        cases hl
        rw [ipRes_eq_none.1 (hb rfl)] at h6
        cases h6
    rw [unbracket_of_no91 h91]
    exact regPath_idem o v ha hn hreg

/-- with validation on, no side condition at all -/
theorem C16_encode_idempotent_validated (o : Oracles) (h r : Str) (ha : isAscii h = true) :
    encodeHost o h true = .ok r → encodeHost o (unbracket r) true = .ok r :=
  C16_encode_idempotent o h r true ha (Or.inl rfl)

/-- without `unbracket`: a result that is not a bracketed IPv6 literal is a fixed point -/
theorem C16_encode_fixed_point (o : Oracles) (h r : Str) (v : Bool) (ha : isAscii h = true)
    (hno : ∀ h8, parseIP (partition 37 h).1 ≠ some (.v6 h8)) :
    encodeHost o h v = .ok r → encodeHost o r v = .ok r := by
  intro he
  rcases encodeHost_ok_iff.1 he with ⟨_, hres, _⟩ | ⟨hn, hreg⟩
  · cases hp : parseIP (partition 37 h).1 with
    | none =>
      rw [ipRes_eq_none.2 hp] at hres
      cases hres
    | some ip =>
      cases ip with
      | v4 o4 =>
        obtain rfl : h = r := Option.some.inj ((ipRes_of_v4 hp).symm.trans hres)
        exact he
      | v6 h8 => exact absurd hp (hno h8)
  · exact regPath_idem o v ha hn hreg

/-- COUNTEREXAMPLE to idempotence through `unbracket` without `hbr`: validation off, a '[' in a
    reg-name ("a[b" is the host `split_netloc` cuts out of `build(authority="[a[b]")`) and in the zone of
    an IPv4 literal.  The result itself is a fixed point (`C16_encode_fixed_point`); it is `unbracket`
    that is not an inverse of the stored form here. -/
theorem C16_encode_not_idempotent_bracket (o : Oracles) :
    encodeHost o "a[b".toStr false = .ok "a[b".toStr ∧
    encodeHost o (unbracket "a[b".toStr) false = .ok "[".toStr ∧
    encodeHost o "a[b".toStr false ≠ encodeHost o (unbracket "a[b".toStr) false ∧
    encodeHost o "1.2.3.4%[5".toStr false = .ok "1.2.3.4%[5".toStr ∧
    encodeHost o (unbracket "1.2.3.4%[5".toStr) false = .ok ".2.3.4%[".toStr := by
  refine ⟨rfl, rfl, ?_, rfl, rfl⟩
  intro h
  have h1 : encodeHost o "a[b".toStr false = .ok "a[b".toStr := rfl
  have h2 : encodeHost o (unbracket "a[b".toStr) false = .ok "[".toStr := rfl
  rw [h1, h2] at h
  exact absurd (Except.ok.inj h) (by decide)

/-! ### non-vacuity -/

section checks
private def e0 : Env := { b := .py, o := Oracles.empty }
private def mk (h : String) : Url := urlWithRawHost h.toStr

-- the IP hypotheses: IPv4, IPv6 with and without zone (canonical text)
example : parseIPv4 "10.0.0.255".toStr = some [10, 0, 0, 255] := by str_lits; decide +kernel
example : parseIPv6 (partition 37 "fe80::1%Eth0".toStr).1 = some [0xfe80, 0, 0, 0, 0, 0, 0, 1] ∧
    "fe80::1%Eth0".toStr = ipv6ToStr [0xfe80, 0, 0, 0, 0, 0, 0, 1] ++ zonePart "fe80::1%Eth0".toStr := by
  str_lits; decide +kernel
example : host e0 (mk "fe80::1%Eth0") = .ok (some "fe80::1%Eth0".toStr) ∧
    encodeHost e0.o "fe80::1%Eth0".toStr false = .ok "[fe80::1%Eth0]".toStr ∧
    bracket "fe80::1%Eth0".toStr = "[fe80::1%Eth0]".toStr := by str_lits; decide +kernel
example : host e0 (mk "10.0.0.255") = .ok (some "10.0.0.255".toStr) ∧
    encodeHost e0.o "10.0.0.255".toStr false = .ok (bracket "10.0.0.255".toStr) := by str_lits; decide +kernel
-- a non-canonical IPv6 text is excluded by the canonicity conjunct (it re-encodes to something else)
example : "0:0::1".toStr ≠ ipv6ToStr [0, 0, 0, 0, 0, 0, 0, 1] ++ zonePart "0:0::1".toStr := by str_lits; decide +kernel

-- the reg-name hypotheses, ASCII: an oracle that decodes "example.com" to itself
private def oA : Oracles := { Oracles.empty with idnaDec := fun s => some (some s) }
example : isAscii "example.com".toStr = true ∧ lower "example.com".toStr = "example.com".toStr ∧
    58 ∉ "example.com".toStr ∧ (∀ l, "example.com".toStr.getLast? = some l → isDigitC l = false) ∧
    oA.idnaDec "example.com".toStr = some (some "example.com".toStr) := by
  refine ⟨by decide +kernel, by decide +kernel, by decide +kernel, ?_, by decide +kernel⟩
  intro l hl; cases hl; decide
-- the second disjunct: a digit-ending A-label host ("xn--bcher-kva.h1") is decoded
private def oC : Oracles :=
  { Oracles.empty with
    idnaDec := fun s => if s = "xn--bcher-kva.h1".toStr then some (some ("b".toStr ++ [252] ++ "cher.h1".toStr)) else none,
    idnaEnc := fun s => if s = "b".toStr ++ [252] ++ "cher.h1".toStr then some (some "xn--bcher-kva.h1".toStr) else none }
example : isAscii "xn--bcher-kva.h1".toStr = true ∧ 58 ∉ "xn--bcher-kva.h1".toStr ∧
    "xn--bcher-kva.h1".toStr.getLast? = some 49 ∧ isDigitC 49 = true ∧
    hasSub [120, 110, 45, 45] "xn--bcher-kva.h1".toStr = true ∧
    host { b := .py, o := oC } (mk "xn--bcher-kva.h1") = .ok (some ("b".toStr ++ [252] ++ "cher.h1".toStr)) ∧
    isAscii ("b".toStr ++ [252] ++ "cher.h1".toStr) = false ∧
    idnaEncode oC ("b".toStr ++ [252] ++ "cher.h1".toStr) = .ok "xn--bcher-kva.h1".toStr ∧
    looksIP oC ("b".toStr ++ [252] ++ "cher.h1".toStr) = .ok true ∧
    parseIP (partition 37 ("b".toStr ++ [252] ++ "cher.h1".toStr)).1 = none ∧
    encodeHost oC ("b".toStr ++ [252] ++ "cher.h1".toStr) false = .ok "xn--bcher-kva.h1".toStr := by
  str_lits; decide +kernel
-- an IPv4 text contains no "xn--"
example : hasSub [120, 110, 45, 45] "10.0.0.255".toStr = false := by str_lits; decide +kernel
example : host { b := .py, o := oA } (mk "example.com") = .ok (some "example.com".toStr) ∧
    encodeHost oA "example.com".toStr false = .ok "example.com".toStr := by str_lits; decide +kernel
-- non-ASCII: "xn--bcher-kva.de" <-> "bücher.de"
private def oB : Oracles :=
  { Oracles.empty with
    idnaDec := fun s => if s = "xn--bcher-kva.de".toStr then some (some ("b".toStr ++ [252] ++ "cher.de".toStr)) else none,
    idnaEnc := fun s => if s = "b".toStr ++ [252] ++ "cher.de".toStr then some (some "xn--bcher-kva.de".toStr) else none }
example : host { b := .py, o := oB } (mk "xn--bcher-kva.de") = .ok (some ("b".toStr ++ [252] ++ "cher.de".toStr)) ∧
    isAscii ("b".toStr ++ [252] ++ "cher.de".toStr) = false ∧
    idnaEncode oB ("b".toStr ++ [252] ++ "cher.de".toStr) = .ok "xn--bcher-kva.de".toStr ∧
    looksIP oB ("b".toStr ++ [252] ++ "cher.de".toStr) = .ok false ∧
    encodeHost oB ("b".toStr ++ [252] ++ "cher.de".toStr) false = .ok "xn--bcher-kva.de".toStr := by str_lits; decide +kernel

-- idempotence: every branch, validation on and off
example : encodeHost e0.o "FE80:0:0::1%Eth0".toStr true = .ok "[fe80::1%Eth0]".toStr ∧
    unbracket "[fe80::1%Eth0]".toStr = "fe80::1%Eth0".toStr ∧
    encodeHost e0.o "fe80::1%Eth0".toStr true = .ok "[fe80::1%Eth0]".toStr := by str_lits; decide +kernel
example : encodeHost e0.o "1.2.3.4%Ab5".toStr true = .ok "1.2.3.4%Ab5".toStr ∧
    unbracket "1.2.3.4%Ab5".toStr = "1.2.3.4%Ab5".toStr := by str_lits; decide +kernel
example : encodeHost e0.o "ExAmple.COM".toStr true = .ok "example.com".toStr ∧
    encodeHost e0.o (unbracket "example.com".toStr) true = .ok "example.com".toStr := by str_lits; decide +kernel
-- '[' in the zone of an IPv6 literal, validation off: inside `hbr` (third disjunct)
example : encodeHost e0.o "::1%[x".toStr false = .ok "[::1%[x]".toStr ∧
    encodeHost e0.o (unbracket "[::1%[x]".toStr) false = .ok "[::1%[x]".toStr := by str_lits; decide +kernel
end checks

end Yarl
