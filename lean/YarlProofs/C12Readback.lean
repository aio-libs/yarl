/-
  C12Readback.lean — the text side of the query properties C06 and C12, as far as it needs no decoding theorem:
  a rendered key or value contains no delimiter (`C12_part_no_delims`), the rendered pair `pairText`, `parse_qsl`
  piece by piece (`qslPiece`, `parseQsl_eq`, `parseQsl_append'`) and the characters it can yield (`parseQsl_mem`).
  The read-back itself is in C12ReadbackPairs.lean.  Namespace `QsLemmas` continues here from Lemmas/QsLemmas.lean.
-/
import YarlModel
import YarlProofs.Lemmas.QsLemmas
import YarlProofs.Lemmas.OutLang
namespace Yarl

open QsLemmas

/-- what is used of the generated QUERY_PART_QUOTER, on both backends (by computation on the generated tables) -/
theorem gen_query_part_quoter_ok : ∀ b : Backend,
    let q := Gen.QUERY_PART_QUOTER.tab b
    q.WF ∧ q.requote = false ∧ q.qs = true ∧ q.safe 43 = false ∧ q.safe 32 = false ∧
      q.safe 38 = false ∧ q.safe 61 = false := by
  intro b
  refine ⟨gen_tab_wf _ mem_QUERY_PART_QUOTER b, ?_⟩
  cases b <;> decide +kernel

/-- the quoted text contains neither '&' nor '=' so the pair structure survives -/
theorem C12_part_no_delims (b : Backend) (t : Str) (ht : PyStr t) :
    38 ∉ Gen.QUERY_PART_QUOTER.run b t ∧ 61 ∉ Gen.QUERY_PART_QUOTER.run b t := by
  obtain ⟨hwf, _, _, _, _, h38, h61⟩ := gen_query_part_quoter_ok b
  rw [run_eq_cOut _ mem_QUERY_PART_QUOTER b t ht]
  have hall := outLang_allowed _
    (cOut_outLang _ hwf (stripSurr t))
  -- neither is safe for this quoter, `%`, an upper-case hex digit or `+`
  constructor
  · intro hm
    simpa [h38, isUpperHexDigit] using hall 38 hm
  · intro hm
    simpa [h61, isUpperHexDigit] using hall 61 hm

namespace QsLemmas

/-- `f"{quoter(k)}={quoter(v)}"` -/
def pairText (b : Backend) (p : Str × Str) : Str :=
  Gen.QUERY_PART_QUOTER.run b p.1 ++ [61] ++ Gen.QUERY_PART_QUOTER.run b p.2

/-- the per-piece function of `parse_qsl` -/
def qslPiece (nv : Str) : Option (Str × Str) :=
  if nv.isEmpty then none
  else
    let (n, v) := splitFirstEq nv
    some (stdUnquote (plusToSpace n), stdUnquote (plusToSpace (v.getD [])))

theorem parseQsl_eq (qs : Str) :
    parseQsl qs = if qs.isEmpty then [] else (splitOn 38 qs).filterMap qslPiece := rfl

/-! `parse_qsl` invents no character: what it yields is a character of the text or a scalar value put out by the
    replacing UTF-8 decoder (a space, U+FFFD, a decoded character) -/

theorem stdUnquoteAux_mem : ∀ (fuel : Nat) (s : Str), ∀ c ∈ stdUnquoteAux fuel s, c ∈ s ∨ Scalar c := by
  intro fuel s
  fun_induction stdUnquoteAux fuel s <;> intro c hc
  · cases hc
  · cases hc
  · rename_i ih
    rcases List.mem_append.mp hc with h | h
    · exact Or.inr (dr_good _ _ c h)
    · exact (ih c h).imp_left fun hx => (List.dropWhile_sublist _).subset hx
  · rename_i ih
    rcases List.mem_cons.mp hc with rfl | h
    · exact Or.inl List.mem_cons_self
    · exact (ih c h).imp_left (List.mem_cons_of_mem _)

theorem stdUnquote_pts_mem (s : Str) : ∀ c ∈ stdUnquote (plusToSpace s), c ∈ s ∨ Scalar c := by
  intro c hc
  have : c ∈ plusToSpace s ∨ Scalar c := by
    unfold stdUnquote at hc
    split at hc
    · exact Or.inl hc
    · exact stdUnquoteAux_mem _ _ c hc
  refine this.elim (fun hm => ?_) Or.inr
  obtain ⟨x, hx, rfl⟩ := List.mem_map.mp hm
  split
  · exact Or.inr (scalar_of 32 (by omega) (by omega))
  · exact Or.inl hx

theorem parseQsl_mem (q : Str) : ∀ p ∈ parseQsl q, (∀ c ∈ p.1, c ∈ q ∨ Scalar c) ∧ (∀ c ∈ p.2, c ∈ q ∨ Scalar c) := by
  intro p hp
  rw [parseQsl_eq] at hp
  split at hp
  · cases hp
  · obtain ⟨nv, hnv, hpiece⟩ := List.mem_filterMap.mp hp
    have hsub : ∀ c ∈ nv, c ∈ q := PathLemmas.splitOn_sub 38 q nv hnv
    unfold qslPiece at hpiece
    split at hpiece
    · cases hpiece
    · simp only [splitFirstEq, ParseLemmas.partition_eq, Option.some.injEq] at hpiece
      subst hpiece
      refine ⟨fun c hc => (stdUnquote_pts_mem _ c hc).imp_left fun hx => hsub c ((List.takeWhile_sublist _).subset hx),
        fun c hc => (stdUnquote_pts_mem _ c hc).imp_left fun hx => ?_⟩
      split at hx
      · exact hsub c ((List.dropWhile_sublist _).subset ((List.drop_sublist _ _).subset hx))
      · cases hx

theorem pairText_no_amp (b : Backend) (p : Str × Str) (h1 : PyStr p.1) (h2 : PyStr p.2) :
    38 ∉ pairText b p := by
  have a := (C12_part_no_delims b p.1 h1).1
  have c := (C12_part_no_delims b p.2 h2).1
  simp only [pairText, List.mem_append, List.mem_singleton]
  rintro ((h | h) | h)
  · exact a h
  · exact absurd h (by decide)
  · exact c h

theorem mapM_strItems (b : Backend) (f : Str × QItem → R Str)
    (hf : ∀ k v, f (k, .one (.str v)) = .ok (pairText b (k, v))) (ps : List (Str × Str)) :
    (strItems ps).mapM f = .ok (ps.map (pairText b)) := by
  induction ps with
  | nil => rfl
  | cons p rest ih =>
    simp only [strItems] at ih ⊢
    rw [List.map_cons, List.mapM_cons, ih, hf]
    rfl

theorem strQuery_strItems (b : Backend) (ps : List (Str × Str)) :
    strQueryFromIterable b (strItems ps) = .ok (joinC 38 (ps.map (pairText b))) := by
  unfold strQueryFromIterable
  rw [mapM_strItems b _ (fun k v => rfl)]
  rfl

end QsLemmas

/-- parse_qsl distributes over '&'-concatenation (basis of extend_query);
    holds for empty `a` or `b` as well -/
theorem parseQsl_append' (a b : Str) : parseQsl (a ++ [38] ++ b) = parseQsl a ++ parseQsl b := by
  have hemp : ∀ s : Str, parseQsl s = (splitOn 38 s).filterMap qslPiece := by
    intro s
    rw [parseQsl_eq]
    cases s with
    | nil => rfl
    | cons _ _ => rfl
  rw [hemp, hemp a, hemp b, List.append_assoc, List.singleton_append, PathLemmas.splitOn_append,
    List.filterMap_append]

-- `ha`, `hb` are not needed (`parseQsl_append'`)
set_option linter.unusedVariables false in
theorem parseQsl_append (a b : Str) (ha : a ≠ []) (hb : b ≠ []) :
    parseQsl (a ++ [38] ++ b) = parseQsl a ++ parseQsl b :=
  parseQsl_append' a b

/-! ### non-vacuity: concrete inputs with every delimiter, '%', '#', space, non-ASCII and
    non-BMP characters satisfy the hypotheses -/

namespace QsLemmas
/-- `a&b=c +;%#é€😀` -/
def sampleKey : Str := [97, 38, 98, 61, 99, 32, 43, 59, 37, 35, 233, 0x20AC, 0x1F600]
/-- `%2B+ %zz=&` followed by U+10FFFF and U+D7FF / U+E000 (the neighbours of the surrogate block) -/
def sampleVal : Str := [37, 50, 66, 43, 32, 37, 122, 122, 61, 38, 0x10FFFF, 0xD7FF, 0xE000]
def samplePairs : List (Str × Str) := [(sampleKey, sampleVal), ([], []), (sampleVal, []), ([], sampleKey)]
end QsLemmas

example : PyStr sampleKey ∧ NoSurrogate sampleKey ∧ PyStr sampleVal ∧ NoSurrogate sampleVal := by
  decide +kernel

example : ∀ p ∈ samplePairs, PyStr p.1 ∧ NoSurrogate p.1 ∧ PyStr p.2 ∧ NoSurrogate p.2 := by
  decide +kernel

end Yarl
