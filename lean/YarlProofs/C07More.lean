import YarlProofs.C07Headline
import YarlProofs.C02Headline
import YarlProofs.C15
import YarlProofs.Lemmas.Basics
/-!
  C07More.lean — DEFINES the specification `Rfc.Authority` / `Rfc.authoritySplit` (an independent reading of the
  authority with `takeWhile` / `dropWhile` only; fixed definitions, kept here next to `C07_netloc`, which proves
  `split_netloc` equal to it) and states, in that vocabulary: the accessors of `URL(s, encoded=True)`
  (`C07_preencoded_accessors`), text around the brackets of an IP literal (`C07_text_after_bracket_ignored`), `raw_path`
  against the path `str` writes and the recomposition through the accessors (`C07_raw_path_vs_str`,
  `C07_recompose_accessors`, `C07_shownNetloc`), the auto-encoding constructor in one statement
  (`C07_encodeUrl_components`, `C07_storedHost`, `C07_cachedRawHost`), and three C02 statements at URL level (userinfo,
  segments, query pairs; `C02_pairView`).  Namespace `CtorShape`: the helpers of these theorems.
-/
namespace Yarl

/-! ## `Rfc.authoritySplit`: the independent reading of "user, password, host and port are the split of the authority
    at its last '@', the first ':' of the userinfo, and the ':' after the host or closing ']'" .
    Only `takeWhile` / `dropWhile` / `reverse`. -/
namespace Rfc

structure Authority where
  /-- text before the first ':' of the userinfo; `none` when the authority has no '@' -/
  user : Option Str
  /-- text after the first ':' of the userinfo; `none` when the userinfo has no ':' -/
  password : Option Str
  /-- host text (without the brackets of an IP literal) -/
  host : Str
  /-- port TEXT (what follows the ':' after the host or closing ']'); empty when there is none -/
  port : Str
  deriving Repr, DecidableEq

/-- what follows the last '@' (everything without one) -/
def hostinfoOf (a : Str) : Str := (a.reverse.takeWhile (· ≠ 64)).reverse
/-- what precedes the last '@' -/
def userinfoOf (a : Str) : Str := ((a.reverse.dropWhile (· ≠ 64)).drop 1).reverse

def authoritySplit (a : Str) : Authority :=
  let hi := hostinfoOf a
  let ui := userinfoOf a
  let b := (hi.dropWhile (· ≠ 91)).drop 1                 -- after the first '['
  { user := if 64 ∈ a then some (ui.takeWhile (· ≠ 58)) else none,
    password := if 64 ∈ a ∧ 58 ∈ ui then some ((ui.dropWhile (· ≠ 58)).drop 1) else none,
    host := if 91 ∈ hi then b.takeWhile (· ≠ 93) else hi.takeWhile (· ≠ 58),
    port := if 91 ∈ hi then ((((b.dropWhile (· ≠ 93)).drop 1).dropWhile (· ≠ 58)).drop 1)
            else (hi.dropWhile (· ≠ 58)).drop 1 }

end Rfc

namespace CtorShape
open ParseLemmas WfLemmas

theorem hostinfo_of_split {ui hi : Str} (h : 64 ∉ hi) :
    Rfc.hostinfoOf (ui ++ [64] ++ hi) = hi ∧ Rfc.userinfoOf (ui ++ [64] ++ hi) = ui := by
  unfold Rfc.hostinfoOf Rfc.userinfoOf
  have hr : (64 : Nat) ∉ hi.reverse := by simpa using h
  have e : (ui ++ [64] ++ hi).reverse = hi.reverse ++ 64 :: ui.reverse := by simp
  rw [e, (span_first hr _).1, (span_first hr _).2]
  simp

theorem hostinfo_no_at {n : Str} (h : 64 ∉ n) : Rfc.hostinfoOf n = n := by
  unfold Rfc.hostinfoOf
  have hr : (64 : Nat) ∉ n.reverse := by simpa using h
  rw [takeWhile_ne_of_not_mem hr]; simp

theorem userTriple_spec (n : Str) :
    userTriple n = ((Rfc.authoritySplit n).user, (Rfc.authoritySplit n).password, Rfc.hostinfoOf n) := by
  by_cases h64 : 64 ∈ n
  · obtain ⟨e, hni⟩ := rpartition_mem h64
    obtain ⟨e1, e2⟩ := hostinfo_of_split (ui := (rpartition 64 n).1) hni
    rw [← e] at e1 e2
    unfold userTriple Rfc.authoritySplit
    simp only [e1, e2, mem_eq, h64, decide_true, Bool.not_true, Bool.false_eq_true, ↓reduceIte, partition_eq,
      true_and]
    by_cases h58 : 58 ∈ (rpartition 64 n).1 <;> simp [h58]
  · unfold userTriple Rfc.authoritySplit
    simp [mem_eq, h64, hostinfo_no_at h64]

theorem hostPort_spec (n : Str) :
    hostPort (Rfc.hostinfoOf n) = ((Rfc.authoritySplit n).host, (Rfc.authoritySplit n).port) := by
  unfold hostPort Rfc.authoritySplit
  by_cases h91 : 91 ∈ Rfc.hostinfoOf n <;> simp [mem_eq, h91, partition_eq]

end CtorShape
open ParseLemmas WfLemmas CtorShape

/-- `split_netloc` IS the RFC reading of the authority: user (`or None`), password, host (`or None`) are the
    `Rfc.authoritySplit` components, the port is the port text through `int()` and the range check (`C07_portOf`; when that
    succeeds and when it fails: `NetlocLemmas.portOf_ok_iff`, `portOf_total`).  This is the `C07_netloc` of Appendix E. -/
theorem C07_netloc (o : Oracles) (n : Str) :
    splitNetloc o n =
      (C07_portOf o (Rfc.authoritySplit n).port).map (fun pt =>
        { user := (Rfc.authoritySplit n).user.bind orNone, password := (Rfc.authoritySplit n).password,
          host := orNone (Rfc.authoritySplit n).host, port := pt }) := by
  rw [NetlocLemmas.splitNetloc_eq, NetlocLemmas.finish_eq, ← userTriple_eq, ← hostPort_eq, userTriple_spec, hostPort_spec]

/-! ## `encoded=True`: the accessors are the RFC components verbatim -/

namespace CtorShape

theorem lazyNet_spec (e : Env) (u : Url) :
    lazyNet e u = (C07_portOf e.o (Rfc.authoritySplit u.netloc).port).map (fun pt =>
      { rawHost := if u.netloc = [] then none else some (Rfc.authoritySplit u.netloc).host,
        explicitPort := pt,
        rawUser := (Rfc.authoritySplit u.netloc).user.bind orNone,
        rawPassword := (Rfc.authoritySplit u.netloc).password }) := by
  rw [NetlocLemmas.lazyNet_eq, C07_netloc]
  cases C07_portOf e.o (Rfc.authoritySplit u.netloc).port with
  | error err => rfl
  | ok pt =>
    simp only [Except.map, Except.ok.injEq, NetPre.mk.injEq, and_true]
    cases hn : u.netloc with
    | nil => simp [Rfc.authoritySplit, Rfc.hostinfoOf, orNone]
    | cons c r =>
      cases hh : (Rfc.authoritySplit (c :: r)).host <;> simp [orNone]

/-- without a pre-filled cache the four authority accessors read the stored authority through `split_netloc`: the
    `Rfc.authoritySplit` components, all four raising when the port text is no port -/
theorem accessors_of_lazy (e : Env) (u : Url) (hpre : u.pre = none) :
    explicitPort e u = C07_portOf e.o (Rfc.authoritySplit u.netloc).port ∧
    rawUser e u = (C07_portOf e.o (Rfc.authoritySplit u.netloc).port).map
      (fun _ => (Rfc.authoritySplit u.netloc).user.bind orNone) ∧
    rawPassword e u = (C07_portOf e.o (Rfc.authoritySplit u.netloc).port).map
      (fun _ => (Rfc.authoritySplit u.netloc).password) ∧
    rawHost e u = (C07_portOf e.o (Rfc.authoritySplit u.netloc).port).map
      (fun _ => if u.netloc = [] then none else some (Rfc.authoritySplit u.netloc).host) := by
  have hnet : net e u = lazyNet e u := by unfold net; rw [hpre]
  unfold explicitPort rawUser rawPassword rawHost
  rw [hnet, lazyNet_spec]
  cases C07_portOf e.o (Rfc.authoritySplit u.netloc).port <;> exact ⟨rfl, rfl, rfl, rfl⟩

end CtorShape

/-- For `URL(s, encoded=True)`: the five stored parts are the Appendix B parts, and
    `raw_user` / `raw_password` / `raw_host` / `explicit_port` are the `Rfc.authoritySplit` components of the Appendix B
    authority VERBATIM, with exactly these adjustments:
     * the port text goes through `int()` and the 0..65535 check (`C07_portOf`); ALL FOUR accessors raise when that fails
       (they share `_cache_netloc`), so each accessor is `C07_portOf … |>.map (fun _ => component)`;
     * an empty user text reads as `None` (`username or None`): "http://@h" and "http://:pw@h" have `raw_user is None`;
     * `raw_host` is the host text itself — "" (not `None`) for a missing host under a non-empty authority ("http://:80",
       "http://u@"), `None` only when there is no authority;
     * `raw_path` is "/" for an empty path under an authority (otherwise the path verbatim). -/
theorem C07_preencoded_accessors (e : Env) (s : Str) (u : Url) (h : preEncodedUrl e s = .ok u) :
    let B := Rfc.appendixB Gen.schemeChars (cleanUrl s)
    let A := Rfc.authoritySplit B.authority
    u.scheme = B.scheme ∧ u.netloc = B.authority ∧ u.path = B.path ∧ u.query = B.query ∧ u.fragment = B.fragment ∧
    rawPath u = (if B.path = [] ∧ B.authority ≠ [] then [47] else B.path) ∧
    explicitPort e u = C07_portOf e.o A.port ∧
    rawUser e u = (C07_portOf e.o A.port).map (fun _ => A.user.bind orNone) ∧
    rawPassword e u = (C07_portOf e.o A.port).map (fun _ => A.password) ∧
    rawHost e u = (C07_portOf e.o A.port).map (fun _ => if B.authority = [] then none else some A.host) := by
  obtain ⟨h1, h2⟩ := C07_preencoded_verbatim e s u h
  intro B A
  have hB : toParts5 u.parts = B := h1
  have e2 : u.netloc = B.authority := congrArg Rfc.Parts5.authority hB
  have e3 : u.path = B.path := congrArg Rfc.Parts5.path hB
  have hacc := accessors_of_lazy e u h2
  rw [e2] at hacc
  refine ⟨congrArg Rfc.Parts5.scheme hB, e2, e3, congrArg Rfc.Parts5.query hB, congrArg Rfc.Parts5.fragment hB, ?_, hacc⟩
  unfold rawPath
  rw [e2, e3]
  cases B.path <;> cases B.authority <;> simp

/-! ## Text between the closing ']' and the ':' (and text before the '[') is silently ignored.
    This is the F-C03-bracket / F-C09-bracket family of DESIGN.md ("malformed brackets that `split_url` accepts"):
    see `C03_headline_fails_for_malformed_brackets` (C03Headline.lean) for the member "[[::1]". -/

namespace CtorShape

/-- host text and port text as functions of the text after the last '@' -/
def hostOfHi (hi : Str) : Str :=
  if 91 ∈ hi then ((hi.dropWhile (· ≠ 91)).drop 1).takeWhile (· ≠ 93) else hi.takeWhile (· ≠ 58)
def portOfHi (hi : Str) : Str :=
  if 91 ∈ hi then ((((((hi.dropWhile (· ≠ 91)).drop 1).dropWhile (· ≠ 93)).drop 1).dropWhile (· ≠ 58)).drop 1)
  else (hi.dropWhile (· ≠ 58)).drop 1

theorem userinfo_no_at {n : Str} (h : 64 ∉ n) : Rfc.userinfoOf n = [] := by
  unfold Rfc.userinfoOf
  have hr : (64 : Nat) ∉ n.reverse := by simpa using h
  rw [dropWhile_ne_of_not_mem hr]; rfl

/-- an authority is `pre ++ hi` with `pre` empty or ending in the last '@': the text after the last '@' is `hi`, the
    userinfo is `pre` without its '@' -/
theorem authoritySplit_pre (pre hi : Str) (hpre : pre = [] ∨ ∃ ui, pre = ui ++ [64]) (h : 64 ∉ hi) :
    Rfc.hostinfoOf (pre ++ hi) = hi ∧ Rfc.userinfoOf (pre ++ hi) = pre.dropLast ∧ (64 ∈ pre ++ hi ↔ pre ≠ []) := by
  rcases hpre with rfl | ⟨ui, rfl⟩
  · exact ⟨hostinfo_no_at h, userinfo_no_at h, by simp [h]⟩
  · obtain ⟨a1, a2⟩ := hostinfo_of_split (ui := ui) h
    exact ⟨a1, by simpa using a2, by simp⟩

/-- the RFC split of `pre ++ hi`, where `pre` is empty or a userinfo with its '@' and `hi` has no '@' -/
theorem authoritySplit_of_pre (pre hi : Str) (hpre : pre = [] ∨ ∃ ui, pre = ui ++ [64]) (h : 64 ∉ hi) :
    Rfc.authoritySplit (pre ++ hi) =
      { user := if pre ≠ [] then some (pre.dropLast.takeWhile (· ≠ 58)) else none,
        password := if pre ≠ [] ∧ 58 ∈ pre.dropLast then some ((pre.dropLast.dropWhile (· ≠ 58)).drop 1) else none,
        host := hostOfHi hi, port := portOfHi hi } := by
  obtain ⟨b1, b2, b3⟩ := authoritySplit_pre pre hi hpre h
  have e : Rfc.authoritySplit (pre ++ hi) =
      { user := if 64 ∈ pre ++ hi then some ((Rfc.userinfoOf (pre ++ hi)).takeWhile (· ≠ 58)) else none,
        password := if 64 ∈ pre ++ hi ∧ 58 ∈ Rfc.userinfoOf (pre ++ hi) then
            some (((Rfc.userinfoOf (pre ++ hi)).dropWhile (· ≠ 58)).drop 1) else none,
        host := hostOfHi (Rfc.hostinfoOf (pre ++ hi)), port := portOfHi (Rfc.hostinfoOf (pre ++ hi)) } := rfl
  rw [e, b1, b2]
  simp only [b3]

theorem bracket_host_port (j1 h j2 rest : Str) (hj1 : 91 ∉ j1) (hh : 93 ∉ h) (hj2 : 58 ∉ j2)
    (hrest : rest = [] ∨ ∃ t, rest = 58 :: t) :
    hostOfHi (j1 ++ 91 :: (h ++ 93 :: (j2 ++ rest))) = h ∧
    portOfHi (j1 ++ 91 :: (h ++ 93 :: (j2 ++ rest))) = rest.drop 1 := by
  have hm : 91 ∈ j1 ++ 91 :: (h ++ 93 :: (j2 ++ rest)) := by simp
  unfold hostOfHi portOfHi
  rcases hrest with rfl | ⟨t, rfl⟩
  · rw [List.append_nil] at hm ⊢
    simp only [hm, ↓reduceIte, (span_first hj1 _).2, List.drop_succ_cons, List.drop_zero, (span_first hh _).1,
      (span_first hh _).2, true_and, dropWhile_ne_of_not_mem hj2, List.drop_nil]
  · simp only [hm, ↓reduceIte, (span_first hj1 _).2, List.drop_succ_cons, List.drop_zero, (span_first hh _).1,
      (span_first hh _).2, true_and, (span_first hj2 _).2]

end CtorShape

/-- In an authority `pre ++ j1 ++ "[" ++ h ++ "]" ++ j2 ++ rest` — `pre` empty or the userinfo with its '@',
    `rest` empty or ":port" — the host is `h` and the port text is that of `rest`: the text `j2` between the closing ']' and
    the ':' AND the text `j1` between the '@' and the '[' are silently dropped; `split_netloc` cannot tell the authority
    from `pre ++ "[" ++ h ++ "]" ++ rest`.  (`j1` may even contain ':'.) -/
theorem C07_text_after_bracket_ignored (o : Oracles) (pre j1 h j2 rest : Str)
    (hpre : pre = [] ∨ ∃ ui, pre = ui ++ [64]) (hat : 64 ∉ j1 ++ h ++ j2 ++ rest)
    (hj1 : 91 ∉ j1) (hh : 93 ∉ h) (hj2 : 58 ∉ j2) (hrest : rest = [] ∨ ∃ t, rest = 58 :: t) :
    (Rfc.authoritySplit (pre ++ j1 ++ [91] ++ h ++ [93] ++ j2 ++ rest)).host = h ∧
    (Rfc.authoritySplit (pre ++ j1 ++ [91] ++ h ++ [93] ++ j2 ++ rest)).port = rest.drop 1 ∧
    Rfc.authoritySplit (pre ++ j1 ++ [91] ++ h ++ [93] ++ j2 ++ rest) =
      Rfc.authoritySplit (pre ++ [91] ++ h ++ [93] ++ rest) ∧
    splitNetloc o (pre ++ j1 ++ [91] ++ h ++ [93] ++ j2 ++ rest) = splitNetloc o (pre ++ [91] ++ h ++ [93] ++ rest) := by
  have e1 : pre ++ j1 ++ [91] ++ h ++ [93] ++ j2 ++ rest = pre ++ (j1 ++ 91 :: (h ++ 93 :: (j2 ++ rest))) := by simp
  have e2 : pre ++ [91] ++ h ++ [93] ++ rest = pre ++ ([] ++ 91 :: (h ++ 93 :: ([] ++ rest))) := by simp
  simp only [List.mem_append, not_or] at hat
  obtain ⟨⟨⟨hat1, hat2⟩, hat3⟩, hat4⟩ := hat
  have a1 : 64 ∉ j1 ++ 91 :: (h ++ 93 :: (j2 ++ rest)) := by simp [hat1, hat2, hat3, hat4]
  have a2 : 64 ∉ ([] : Str) ++ 91 :: (h ++ 93 :: ([] ++ rest)) := by simp [hat2, hat4]
  obtain ⟨d1, d2⟩ := bracket_host_port j1 h j2 rest hj1 hh hj2 hrest
  obtain ⟨d3, d4⟩ := bracket_host_port [] h [] rest (by simp) hh (by simp) hrest
  -- both authorities split into the same userinfo, the host `h` and the port text of `rest`
  have k1 := authoritySplit_of_pre pre _ hpre a1
  have k2 := authoritySplit_of_pre pre _ hpre a2
  rw [d1, d2] at k1
  rw [d3, d4] at k2
  rw [e1, e2]
  exact ⟨by rw [k1], by rw [k1], k1.trans k2.symm, by rw [C07_netloc, C07_netloc, k1, k2]⟩

/-- the two concrete members: "[::1]x:80" and "x[::1]" parse like "[::1]:80" and "[::1]" -/
theorem C07_text_after_bracket_ignored_instance (o : Oracles) :
    splitNetloc o "[::1]x:80".toStr = .ok { user := none, password := none, host := some "::1".toStr, port := some 80 } ∧
    splitNetloc o "x[::1]".toStr = .ok { user := none, password := none, host := some "::1".toStr, port := none } ∧
    splitNetloc o "u@a:b[::1]x]y:80".toStr =
      .ok { user := some "u".toStr, password := none, host := some "::1".toStr, port := some 80 } :=
  ⟨splitNetloc_ok_of_empty (by str_lits; decide +kernel) o, splitNetloc_ok_of_empty (by str_lits; decide +kernel) o,
   splitNetloc_ok_of_empty (by str_lits; decide +kernel) o⟩

attribute [local instance] ParseLemmas.decExistsOk

/-- … and at URL level: both constructors accept 'http://[::1]x:8080/' (the bracket check only looks between the
    brackets); the auto-encoding constructor rebuilds the authority without the junk, `encoded=True` keeps it in
    `raw_authority` / `str` while `raw_host` ignores it.  Likewise 'http://x[::1]/'. -/
theorem C07_text_after_bracket_ignored_url :
    let e : Env := ⟨.py, Oracles.empty⟩
    (∃ u, encodeUrl e "http://[::1]x:8080/".toStr = .ok u ∧ u.netloc = "[::1]:8080".toStr ∧
      rawHost e u = .ok (some "::1".toStr) ∧ explicitPort e u = .ok (some 8080) ∧
      str e u = .ok "http://[::1]:8080/".toStr) ∧
    (∃ u, preEncodedUrl e "http://[::1]x:8080/".toStr = .ok u ∧ u.netloc = "[::1]x:8080".toStr ∧
      rawHost e u = .ok (some "::1".toStr) ∧ explicitPort e u = .ok (some 8080) ∧
      str e u = .ok "http://[::1]x:8080/".toStr) ∧
    (∃ u, encodeUrl e "http://x[::1]/".toStr = .ok u ∧ u.netloc = "[::1]".toStr ∧
      rawHost e u = .ok (some "::1".toStr) ∧ str e u = .ok "http://[::1]/".toStr) := by
  str_lits; decide +kernel

-- non-vacuity of the general theorem: pre = "u@", j1 = "a:b", h = "::1", j2 = "x]y", rest = ":80"
example (o : Oracles) := C07_text_after_bracket_ignored o "u@".toStr "a:b".toStr "::1".toStr "x]y".toStr ":80".toStr
  (Or.inr ⟨"u".toStr, rfl⟩) (by decide) (by decide) (by decide) (by decide) (Or.inr ⟨"80".toStr, rfl⟩)

/-! ## `raw_path` against the path `str` writes; the re-composition in terms of the accessors -/

/-- `raw_path` equals the path `str(url)` writes (`C07_strPath`) EXCEPT for an empty stored path under an
    authority with neither query nor fragment: there `raw_path` is "/" while `str` writes no path at all. -/
theorem C07_raw_path_vs_str (u : Url) :
    (¬ (u.path = [] ∧ u.netloc ≠ [] ∧ u.query = [] ∧ u.fragment = []) → rawPath u = C07_strPath u) ∧
    ((u.path = [] ∧ u.netloc ≠ [] ∧ u.query = [] ∧ u.fragment = []) → rawPath u = [47] ∧ C07_strPath u = []) ∧
    (rawPath u = C07_strPath u ↔ ¬ (u.path = [] ∧ u.netloc ≠ [] ∧ u.query = [] ∧ u.fragment = [])) := by
  unfold rawPath C07_strPath
  cases u.path <;> cases u.netloc <;> cases u.query <;> cases u.fragment <;> simp

/-- the exceptional case is real and is NOT visible through the accessors: URL("http://a") and URL("http://a/") agree on
    `raw_path` ("/"), on every other raw accessor, and compare equal, but their strings differ.  So no function of the
    accessors alone re-composes to `str(url)`; the re-composition below uses `C07_strPath`, which reads the stored path. -/
theorem C07_raw_path_vs_str_instance :
    let e : Env := ⟨.py, Oracles.empty⟩
    ∃ u v, encodeUrl e "http://a".toStr = .ok u ∧ encodeUrl e "http://a/".toStr = .ok v ∧
      rawPath u = [47] ∧ rawPath v = [47] ∧ u.scheme = v.scheme ∧ u.netloc = v.netloc ∧ u.query = v.query ∧
      u.fragment = v.fragment ∧ net e u = net e v ∧ u.beq v = true ∧
      C07_strPath u = [] ∧ C07_strPath v = [47] ∧
      str e u = .ok "http://a".toStr ∧ str e v = .ok "http://a/".toStr :=
  ⟨{ scheme := "http".toStr, netloc := "a".toStr, path := [], query := [], fragment := [],
      pre := some { rawHost := some "a".toStr, explicitPort := none, rawUser := none, rawPassword := none } },
   { scheme := "http".toStr, netloc := "a".toStr, path := [47], query := [], fragment := [],
      pre := some { rawHost := some "a".toStr, explicitPort := none, rawUser := none, rawPassword := none } },
   by decide +kernel, by decide +kernel, rfl, rfl, rfl, rfl, rfl, rfl, rfl, by decide, rfl, rfl,
   by decide +kernel, by decide +kernel⟩

/-- the authority `str(url)` shows: `raw_authority`, unless an explicit port equal to the scheme default is written,
    in which case it is re-made from `raw_user`, `raw_password` and `host_subcomponent` without the port
    (`make_netloc(raw_user, raw_password, host_subcomponent, None)`) -/
def C07_shownNetloc (e : Env) (u : Url) (ep : Option Nat) (ru rp hs : Option Str) : Str :=
  match ep with
  | some p => if some p = defaultPort u.scheme then makeNetloc (q e Gen.QUOTER) ru rp hs none false else u.netloc
  | none => u.netloc

/-- `make_netloc` without port and without encoding is "userinfo@" in front of the host:
    user, ":" password when there is a password, "@" when that text is non-empty -/
theorem C07_makeNetloc_noport (qf : Str → Str) (ru rp : Option Str) (h : Str) :
    makeNetloc qf ru rp (some h) none false =
      (match ru, rp with
       | none, none => h
       | _, some pw => (ru.getD []) ++ [58] ++ pw ++ [64] ++ h
       | some us, none => if us.isEmpty then h else us ++ [64] ++ h) := by
  unfold makeNetloc
  cases ru with
  | none => cases rp <;> simp
  | some us =>
    cases rp with
    | none => cases us <;> simp
    | some pw => cases us <;> simp

/-- The precise form of "the raw accessors re-compose to str(url)", default-port case INCLUDED.
    Whenever `explicit_port` can be read, so can `raw_user`, `raw_password`, `host_subcomponent`, and
    `str(url) = unsplit_result(scheme, netloc-as-shown, path-as-written, raw_query_string, raw_fragment)`;
    when it cannot (invalid port text in a lazily parsed authority) `str(url)` raises the same error. -/
theorem C07_recompose_accessors (e : Env) (u : Url) :
    (∀ ep, explicitPort e u = .ok ep →
      ∃ ru rp hs, rawUser e u = .ok ru ∧ rawPassword e u = .ok rp ∧ hostSubcomponent e u = .ok hs ∧
        str e u = .ok (unsplitResult u.scheme (C07_shownNetloc e u ep ru rp hs) (C07_strPath u) u.query u.fragment)) ∧
    (∀ err, explicitPort e u = .error err → str e u = .error err) := by
  unfold str explicitPort hostSubcomponent rawUser rawPassword rawHost C07_shownNetloc C07_strPath
  cases hn : net e u with
  | error err =>
    refine ⟨fun ep h => (by cases h), fun err' h => ?_⟩
    simp only [Except.map] at h
    cases h
    rfl
  | ok n =>
    refine ⟨fun ep h => ?_, fun err' h => (by cases h)⟩
    simp only [Except.map, Except.ok.injEq] at h
    subst h
    refine ⟨n.rawUser, n.rawPassword, n.rawHost.map (fun raw => if mem 58 raw then [91] ++ raw ++ [93] else raw),
      rfl, rfl, rfl, ?_⟩
    obtain ⟨rh, ep, ru, rp⟩ := n
    cases ep with
    | none => rfl
    | some p =>
      simp only [Except.map, bind, Except.bind, pure, Except.pure]
      by_cases hd : some p = defaultPort u.scheme
      · rw [if_pos hd, if_pos hd]
      · rw [if_neg hd, if_neg hd]

/-- corollary: away from the default port this is `C07_headline_raw_accessors_recompose`; AT the default port the shown
    authority differs from `raw_authority` — URL('http://u@a:80/') shows "u@a" -/
theorem C07_recompose_accessors_instance :
    let e : Env := ⟨.py, Oracles.empty⟩
    ∃ u, encodeUrl e "http://u@a:80/".toStr = .ok u ∧ u.netloc = "u@a:80".toStr ∧ explicitPort e u = .ok (some 80) ∧
      rawUser e u = .ok (some "u".toStr) ∧ rawPassword e u = .ok none ∧ hostSubcomponent e u = .ok (some "a".toStr) ∧
      C07_shownNetloc e u (some 80) (some "u".toStr) none (some "a".toStr) = "u@a".toStr ∧
      str e u = .ok "http://u@a/".toStr := by
  str_lits; decide +kernel

/-! ## The auto-encoding constructor in RFC vocabulary -/

/-- the host as `encode_url` writes it into the authority: `host1 = _encode_host(host, validate_host=False)`;
    a bracketed input host that did not come back as an IP literal keeps its brackets -/
def C07_storedHost (n host1 : Str) : Str :=
  if mem 91 (Rfc.hostinfoOf n) && !mem 91 host1 then [91] ++ host1 ++ [93] else host1
/-- … and as it caches it for `raw_host`: without the brackets -/
def C07_cachedRawHost (host : Str) : Str := if mem 91 host then (host.drop 1).dropLast else host

namespace CtorShape

theorem q_nil (e : Env) (a : QArgs) : q e a [] = [] := a.run_nil e.b

theorem rpartition_hostinfo (n : Str) : (rpartition 64 n).2.2 = Rfc.hostinfoOf n := by
  by_cases h64 : 64 ∈ n
  · obtain ⟨e, hni⟩ := rpartition_mem h64
    have := (hostinfo_of_split (ui := (rpartition 64 n).1) hni).1
    rw [← e] at this
    exact this.symm
  · rw [rpartition_not_mem h64, hostinfo_no_at h64]

theorem requoteOpt_eq (e : Env) (x : Option Str) : requoteOpt e x = x.map (q e Gen.REQUOTER) := by
  cases x with
  | none => rfl
  | some s =>
    cases s with
    | nil => simp [requoteOpt, q_nil e _]
    | cons c r => rfl

/-- the three requoted components: an empty one is stored as it is, and the requoters keep "" -/
theorem encPath_eq (e : Env) (n p : Str) :
    FixLemmas.encPath e n p =
      if !n.isEmpty && mem 46 (q e Gen.PATH_REQUOTER p) then normalizePath (q e Gen.PATH_REQUOTER p)
      else q e Gen.PATH_REQUOTER p := by
  cases p with
  | nil => simp [FixLemmas.encPath, q_nil e _, mem]
  | cons c r => rfl

theorem encQuery_eq (e : Env) (x : Str) : FixLemmas.encQuery e x = q e Gen.QUERY_REQUOTER x := by
  cases x with
  | nil => exact (q_nil e _).symm
  | cons c r => rfl

theorem encFragment_eq (e : Env) (x : Str) : FixLemmas.encFragment e x = q e Gen.FRAGMENT_REQUOTER x := by
  cases x with
  | nil => exact (q_nil e _).symm
  | cons c r => rfl

/-- `hostOr` hands `_encode_host` the host `split_netloc` read, or "" when there is none and the scheme allows it -/
theorem hostOr_ok {scheme : Str} {host : Option Str} {h0 : Str} (h : EagerLemmas.hostOr scheme host = .ok h0) :
    h0 = host.getD [] ∧ (host = none → Gen.schemeRequiresHost.contains scheme = false) := by
  cases host with
  | some x =>
    cases h
    exact ⟨rfl, nofun⟩
  | none =>
    simp only [EagerLemmas.hostOr] at h
    cases hc : Gen.schemeRequiresHost.contains scheme with
    | true =>
      rw [hc, if_pos rfl] at h
      cases h
    | false =>
      rw [hc, if_neg (by simp)] at h
      cases h
      exact ⟨rfl, fun _ => rfl⟩

/-- the vocabulary of the closed form of the authority block (`FixLemmas.netBlock_ok`) in the terms of this file -/
theorem cachedUser_eq (e : Env) (x : Option Str) : cachedUser e x = (x.map (q e Gen.REQUOTER)).bind orNone := by
  unfold cachedUser
  rw [requoteOpt_eq]
  rfl

theorem storedHost_eq (n host1 : Str) :
    C07_storedHost n host1 = StrTotal.rebracket (mem 91 (rpartition 64 n).2.2) host1 := by
  unfold C07_storedHost StrTotal.rebracket
  rw [rpartition_hostinfo]

end CtorShape

/-- The components of `URL(s)` (auto-encoding constructor) in ONE statement.  With `p` = the Appendix B
    decomposition of the cleaned input and `A` = the RFC split of its authority:
     * scheme = Appendix B scheme (lower-cased there);
     * path = PATH_REQUOTER(path), dot-segments removed iff the STORED authority is non-empty and the requoted path
       contains a '.';  query = QUERY_REQUOTER(query);  fragment = FRAGMENT_REQUOTER(fragment);
     * no authority in the input: none stored, nothing cached;
     * otherwise `split_netloc` succeeded (port text is empty or an integer in 0..65535 = `pt`), a missing host is only
       allowed for schemes that do not require one, `_encode_host(host)` succeeded with `host1`, and the cache holds
       raw_host = `host1` without brackets, explicit_port = `pt`, raw_user = REQUOTER(user) (`None` if empty before or
       after requoting), raw_password = REQUOTER(password); the stored authority is `make_netloc` of exactly these. -/
theorem C07_encodeUrl_components (e : Env) (s : Str) (u : Url) (h : encodeUrl e s = .ok u) :
    ∃ p : Parts, splitUrl e.o s = .ok p ∧ toParts5 p = Rfc.appendixB Gen.schemeChars (cleanUrl s) ∧
      u.scheme = p.scheme ∧
      u.path = (if !u.netloc.isEmpty && mem 46 (q e Gen.PATH_REQUOTER p.path)
                then normalizePath (q e Gen.PATH_REQUOTER p.path) else q e Gen.PATH_REQUOTER p.path) ∧
      u.query = q e Gen.QUERY_REQUOTER p.query ∧
      u.fragment = q e Gen.FRAGMENT_REQUOTER p.fragment ∧
      (p.netloc = [] → u.netloc = [] ∧ u.pre = none) ∧
      (p.netloc ≠ [] →
        let A := Rfc.authoritySplit p.netloc
        ∃ (pt : Option Nat) (host1 : Str), C07_portOf e.o A.port = .ok pt ∧
          splitNetloc e.o p.netloc =
            .ok { user := A.user.bind orNone, password := A.password, host := orNone A.host, port := pt } ∧
          (A.host = [] → Gen.schemeRequiresHost.contains p.scheme = false) ∧
          encodeHost e.o A.host false = .ok host1 ∧
          let ru := ((A.user.bind orNone).map (q e Gen.REQUOTER)).bind orNone
          let rp := A.password.map (q e Gen.REQUOTER)
          u.pre = some { rawHost := some (C07_cachedRawHost (C07_storedHost p.netloc host1)), explicitPort := pt,
                         rawUser := ru, rawPassword := rp } ∧
          u.netloc = makeNetloc (q e Gen.QUOTER) ru rp (some (C07_storedHost p.netloc host1)) pt false) := by
  obtain ⟨p, netloc, pre, hp, hnb, rfl⟩ := FixLemmas.encodeUrl_inv e s u h
  refine ⟨p, hp, C07_split e.o s p hp, rfl, encPath_eq e netloc p.path, encQuery_eq e p.query,
    encFragment_eq e p.fragment, fun hn => ?_, fun hn => ?_⟩
  · rw [hn, FixLemmas.netBlock_nil] at hnb
    cases hnb
    exact ⟨rfl, rfl⟩
  · intro A
    obtain ⟨np, host0, host1, hsn, hho, henc, hnl, hpre⟩ := FixLemmas.netBlock_ok hn hnb
    rw [C07_netloc] at hsn
    obtain ⟨pt, hpt, rfl⟩ := map_ok hsn
    obtain ⟨rfl, hreq⟩ := hostOr_ok hho
    rw [orNone_getD] at henc
    rw [cachedUser_eq, requoteOpt_eq, ← storedHost_eq] at hnl hpre
    exact ⟨pt, host1, hpt, by rw [C07_netloc, hpt]; rfl, fun hA => hreq (orNone_eq_none.mpr hA), henc, hpre, hnl⟩

/-! ## C02: user and password of a constructed URL keep their decoded bytes -/

namespace CtorShape
open OutLangLemmas QsLemmas TokLemmas

theorem userinfoOf_sublist (n : Str) : (Rfc.userinfoOf n).Sublist n := by
  unfold Rfc.userinfoOf
  have h1 : ((n.reverse.dropWhile (· ≠ 64)).drop 1).Sublist n.reverse :=
    (List.drop_sublist _ _).trans (List.dropWhile_sublist _)
  have := List.reverse_sublist.2 h1
  rwa [List.reverse_reverse] at this

theorem authoritySplit_user_sublist {n x : Str} (h : (Rfc.authoritySplit n).user = some x) : x.Sublist n := by
  unfold Rfc.authoritySplit at h
  simp only at h
  split at h
  · cases h
    exact (List.takeWhile_sublist _).trans (userinfoOf_sublist n)
  · cases h

theorem authoritySplit_password_sublist {n x : Str} (h : (Rfc.authoritySplit n).password = some x) :
    x.Sublist n := by
  unfold Rfc.authoritySplit at h
  simp only at h
  split at h
  · cases h
    exact ((List.drop_sublist _ _).trans (List.dropWhile_sublist _)).trans (userinfoOf_sublist n)
  · cases h

/-- REQUOTER never turns a non-empty text without lone surrogates into the empty text -/
theorem requoter_ne_nil_noSurr (e : Env) {x : Str} (hx : x ≠ []) (hs : PyStr x) (hn : NoSurrogate x) :
    q e Gen.REQUOTER x ≠ [] := by
  cases x with
  | nil => exact absurd rfl hx
  | cons c r => exact EagerLemmas.requoter_ne_nil e _ hs ⟨c, List.mem_cons_self, hn c List.mem_cons_self⟩

theorem authoritySplit_nil : Rfc.authoritySplit [] = { user := none, password := none, host := [], port := [] } := by
  decide

/-- what `raw_user` / `raw_password` of a constructed URL are: the requoted user (`None` when absent or empty, before or
    after requoting) and the requoted password of `split_netloc` of the supplied authority -/
theorem raw_userinfo (e : Env) (s : Str) (u : Url) (h : encodeUrl e s = .ok u) :
    ∃ (p : Parts) (np : NetlocParts), splitUrl e.o s = .ok p ∧
      splitNetloc e.o p.netloc = .ok np ∧
      np.user = (Rfc.authoritySplit p.netloc).user.bind orNone ∧
      np.password = (Rfc.authoritySplit p.netloc).password ∧
      rawUser e u = .ok ((np.user.map (q e Gen.REQUOTER)).bind orNone) ∧
      rawPassword e u = .ok (np.password.map (q e Gen.REQUOTER)) := by
  obtain ⟨p, hp, _, _, _, _, _, hnil, hcons⟩ := C07_encodeUrl_components e s u h
  by_cases hnl : p.netloc = []
  · obtain ⟨hu, hpre⟩ := hnil hnl
    obtain ⟨_, hU, hP, _⟩ := accessors_of_lazy e u hpre
    rw [hu, authoritySplit_nil] at hU hP
    refine ⟨p, ⟨none, none, none, none⟩, hp, ?_⟩
    rw [hnl, authoritySplit_nil]
    exact ⟨rfl, rfl, rfl, hU, hP⟩
  · obtain ⟨pt, host1, _, hsn, _, _, hpre, _⟩ := hcons hnl
    have hnet : net e u = .ok
        { rawHost := some (C07_cachedRawHost (C07_storedHost p.netloc host1)), explicitPort := pt,
          rawUser := (Option.map (q e Gen.REQUOTER) ((Rfc.authoritySplit p.netloc).user.bind orNone)).bind orNone,
          rawPassword := Option.map (q e Gen.REQUOTER) (Rfc.authoritySplit p.netloc).password } := by
      unfold net; rw [hpre]; rfl
    exact ⟨p, _, hp, hsn, rfl, rfl, by unfold rawUser; rw [hnet]; rfl, by unfold rawPassword; rw [hnet]; rfl⟩

end CtorShape

/-- For the auto-encoding constructor: `raw_user` and `raw_password` exist exactly when the supplied
    authority has a (non-empty) user / a password, and percent-decode to the same bytes as the supplied user / password
    (the user and password of `split_netloc` = of the RFC split of the Appendix B authority). -/
theorem C02_encodeUrl_userinfo_decode (e : Env) (s : Str) (hs : PyStr s) (hn : NoSurrogate s) (u : Url)
    (h : encodeUrl e s = .ok u) :
    ∃ (p : Parts) (np : NetlocParts) (ru rp : Option Str), splitUrl e.o s = .ok p ∧
      splitNetloc e.o p.netloc = .ok np ∧
      np.user = (Rfc.authoritySplit p.netloc).user.bind orNone ∧
      np.password = (Rfc.authoritySplit p.netloc).password ∧
      rawUser e u = .ok ru ∧ rawPassword e u = .ok rp ∧
      ru.map pctDecode = np.user.map pctDecode ∧
      rp.map pctDecode = np.password.map pctDecode := by
  obtain ⟨p, np, hp, hsn, hU, hP, hru, hrp⟩ := raw_userinfo e s u h
  obtain ⟨s1, _, _, _⟩ := splitUrl_sublist e.o s p hp
  refine ⟨p, np, _, _, hp, hsn, hU, hP, hru, hrp, ?_, ?_⟩
  · rw [hU]
    cases hA : (Rfc.authoritySplit p.netloc).user with
    | none => rfl
    | some x =>
      have hsub := (authoritySplit_user_sublist hA).trans s1
      cases x with
      | nil => rfl
      | cons c r =>
        have hne := requoter_ne_nil_noSurr e (x := c :: r) (by simp) (pyStr_of_sublist hsub hs) (noSurr_of_sublist hsub hn)
        show (orNone (q e Gen.REQUOTER (c :: r))).map pctDecode = some (pctDecode (c :: r))
        rw [orNone_of_ne_nil hne]
        exact congrArg some (C02_gen_decode_REQUOTER e.b _ (pyStr_of_sublist hsub hs) (noSurr_of_sublist hsub hn))
  · rw [hP]
    cases hA : (Rfc.authoritySplit p.netloc).password with
    | none => rfl
    | some x =>
      have hsub := (authoritySplit_password_sublist hA).trans s1
      simp only [Option.map_some]
      congr 1
      exact C02_gen_decode_REQUOTER e.b _ (pyStr_of_sublist hsub hs) (noSurr_of_sublist hsub hn)

/-! ## C02: per segment / per pair, at URL level -/

namespace CtorShape
open PathLemmas

theorem pctDecode_dot : pctDecode [46] = [46] ∧ pctDecode [46, 46] = [46, 46] := by
  constructor
  · rw [pctDecode_cons_ne (by decide), pctDecode_nil]; decide
  · rw [pctDecode_cons_ne (by decide), pctDecode_cons_ne (by decide), pctDecode_nil]; decide

/-- a path text `P` without lone surrogates, requoted and stored as `up` under the constructor's dot guard (`nl` the
    stored authority): without an authority, or when no segment decodes to a dot segment, the stored segments are the
    requoted segments one for one and decode alike -/
theorem segments_core (e : Env) (P up nl : Str) (hP : PyStr P) (hn : NoSurrogate P)
    (hup : up = (if !nl.isEmpty && mem 46 (q e Gen.PATH_REQUOTER P)
      then normalizePath (q e Gen.PATH_REQUOTER P) else q e Gen.PATH_REQUOTER P))
    (hnd : nl = [] ∨ ∀ sg ∈ splitOn 47 P, pctDecode sg ≠ [46] ∧ pctDecode sg ≠ [46, 46]) :
    splitOn 47 up = (splitOn 47 P).map (q e Gen.PATH_REQUOTER) ∧
    (splitOn 47 up).map pctDecode = (splitOn 47 P).map pctDecode := by
  have hsplit : splitOn 47 (q e Gen.PATH_REQUOTER P) = (splitOn 47 P).map (q e Gen.PATH_REQUOTER) :=
    C02_split_commutes e.b P hP hn
  have hseg : ∀ sg ∈ splitOn 47 P, pctDecode (q e Gen.PATH_REQUOTER sg) = pctDecode sg := by
    intro sg hsg
    have hsub := PathLemmas.splitOn_sub 47 P sg hsg
    exact C02_gen_decode_PATH_REQUOTER e.b sg (DecLemmas.pyStr_of_subset hsub hP) (noSurr_of_subset hsub hn)
  have hu : up = q e Gen.PATH_REQUOTER P := by
    rw [hup]
    split
    · rename_i hc
      simp only [Bool.and_eq_true, Bool.not_eq_true', List.isEmpty_eq_false_iff] at hc
      rcases hnd with hnl | hnd
      · exact absurd hnl hc.1
      · -- a requoted segment is no dot segment: it decodes to what the supplied one decodes to
        apply normalizePath_noDots
        rw [hsplit]
        intro sg hsg
        obtain ⟨sg0, hsg0, rfl⟩ := List.mem_map.1 hsg
        have hd := hseg sg0 hsg0
        have := hnd sg0 hsg0
        constructor
        · intro he
          rw [he] at hd
          exact this.1 (hd.symm.trans pctDecode_dot.1)
        · intro he
          rw [he] at hd
          exact this.2 (hd.symm.trans pctDecode_dot.2)
    · rfl
  rw [hu, hsplit, List.map_map]
  exact ⟨rfl, List.map_congr_left hseg⟩

end CtorShape

/-- the decoded view of one '&'-piece of a query: (form-decoded key, "has an '='", form-decoded value), the split being at
    the first '=' -/
def C02_pairView (p : Str) : List Nat × Bool × List Nat :=
  (pctDecodeQs (partition 61 p).1, (partition 61 p).2.1, pctDecodeQs (partition 61 p).2.2)

/-- Paths.  For a constructed URL whose supplied path has no dot segment — no '/'-segment that
    percent-decodes to "." or ".." ("%2E%2e" counts: the requoter decodes it) — or that has no authority (no dot-segment
    removal then): the '/'-segments of the stored path are the requoted segments of the supplied path, one for one;
    so there are equally many, and the i-th stored segment percent-decodes to what the i-th supplied one decodes to. -/
theorem C02_encodeUrl_segments (e : Env) (s : Str) (hs : PyStr s) (hn : NoSurrogate s) (u : Url)
    (h : encodeUrl e s = .ok u) :
    ∃ p : Parts, splitUrl e.o s = .ok p ∧
      ((u.netloc = [] ∨ ∀ sg ∈ splitOn 47 p.path, pctDecode sg ≠ [46] ∧ pctDecode sg ≠ [46, 46]) →
        splitOn 47 u.path = (splitOn 47 p.path).map (q e Gen.PATH_REQUOTER) ∧
        (splitOn 47 u.path).length = (splitOn 47 p.path).length ∧
        (splitOn 47 u.path).map pctDecode = (splitOn 47 p.path).map pctDecode ∧
        ∀ i : Nat, ((splitOn 47 u.path)[i]?).map pctDecode = ((splitOn 47 p.path)[i]?).map pctDecode) := by
  obtain ⟨p, hp, _, _, hpath, _⟩ := C07_encodeUrl_components e s u h
  obtain ⟨_, h2, _, _⟩ := splitUrl_pyStr e.o s hs p hp
  obtain ⟨_, s2, _, _⟩ := splitUrl_sublist e.o s p hp
  refine ⟨p, hp, fun hnd => ?_⟩
  obtain ⟨h1, hdec⟩ := CtorShape.segments_core e p.path u.path u.netloc h2 (noSurr_of_sublist s2 hn) hpath hnd
  refine ⟨h1, by rw [h1]; simp, hdec, fun i => ?_⟩
  rw [← List.getElem?_map, ← List.getElem?_map, hdec]

/-- the hypothesis is needed, and must be about DECODED segments: 'http://a/b/../c' and 'http://a/b/%2E%2e/c' supply four
    segments, the stored path "/c" has two -/
theorem C02_encodeUrl_segments_needs_no_dots :
    let e : Env := ⟨.py, Oracles.empty⟩
    (encodeUrl e "http://a/b/../c".toStr).map (·.path) = .ok "/c".toStr ∧
    (encodeUrl e "http://a/b/%2E%2e/c".toStr).map (·.path) = .ok "/c".toStr ∧
    (splitOn 47 "/b/../c".toStr).length = 4 ∧ (splitOn 47 "/b/%2E%2e/c".toStr).length = 4 ∧
    (splitOn 47 "/c".toStr).length = 2 := by
  refine ⟨by str_lits; decide +kernel, by str_lits; decide +kernel, by decide, by decide, by decide⟩

/-- Queries (no side condition: nothing is removed from a query).  The '&'-pieces of the stored query
    are the requoted '&'-pieces of the supplied query, one for one; inside the i-th piece the split at the first '=' gives
    a key and a value that form-decode to what the supplied i-th key and value decode to, and "has no '='" is kept. -/
theorem C02_encodeUrl_pairs (e : Env) (s : Str) (hs : PyStr s) (hn : NoSurrogate s) (u : Url)
    (h : encodeUrl e s = .ok u) :
    ∃ p : Parts, splitUrl e.o s = .ok p ∧
      splitOn 38 u.query = (splitOn 38 p.query).map (q e Gen.QUERY_REQUOTER) ∧
      (splitOn 38 u.query).length = (splitOn 38 p.query).length ∧
      (splitOn 38 u.query).map C02_pairView = (splitOn 38 p.query).map C02_pairView ∧
      ∀ i : Nat, ((splitOn 38 u.query)[i]?).map C02_pairView = ((splitOn 38 p.query)[i]?).map C02_pairView := by
  obtain ⟨p, hp, _, _, _, hquery, _⟩ := C07_encodeUrl_components e s u h
  obtain ⟨_, _, h3, _⟩ := splitUrl_pyStr e.o s hs p hp
  obtain ⟨_, _, s3, _⟩ := splitUrl_sublist e.o s p hp
  have n3 := noSurr_of_sublist s3 hn
  have hsplit : splitOn 38 (q e Gen.QUERY_REQUOTER p.query) = (splitOn 38 p.query).map (q e Gen.QUERY_REQUOTER) :=
    C02_split_commutes_query e.b p.query h3 n3
  have hview : (splitOn 38 (q e Gen.QUERY_REQUOTER p.query)).map C02_pairView =
      (splitOn 38 p.query).map C02_pairView :=
    C02_headline_decoded_query_keys_values e.b p.query h3 n3
  rw [hquery]
  refine ⟨p, hp, hsplit, by rw [hsplit]; simp, hview, fun i => ?_⟩
  rw [← List.getElem?_map, ← List.getElem?_map, hview]

/-! ## non-vacuity -/

namespace CtorShape
/-- `HtTp://u%41%2f:p%40@[::1]x:8080/b.c/%2e%2e%2e/d?k=v&x%26y=%3d+%2B#f g` (mixed-case scheme, userinfo with escapes, IPv6
    literal with junk after the bracket, dots in the path but no dot SEGMENT, query with encoded delimiters) -/
def sampleUrl : Str :=
  "HtTp://u%41%2f:p%40@[::1]x:8080/b.c/%2e%2e%2e/d?k=v&x%26y=%3d+%2B#f g".toStr
def sampleEnv : Env := ⟨.py, Oracles.empty⟩
end CtorShape

-- hypotheses of C07_encodeUrl_components / C02_encodeUrl_userinfo_decode / C02_encodeUrl_segments / C02_encodeUrl_pairs
example : PyStr sampleUrl ∧ NoSurrogate sampleUrl := by unfold sampleUrl; str_lits; decide +kernel
example : ∃ u, encodeUrl sampleEnv sampleUrl = .ok u ∧ u.netloc = "uA%2F:p%40@[::1]:8080".toStr ∧
    u.path = "/b.c/.../d".toStr ∧ u.query = "k=v&x%26y=%3D+%2B".toStr ∧ u.fragment = "f%20g".toStr ∧
    u.pre = some { rawHost := some "::1".toStr, explicitPort := some 8080, rawUser := some "uA%2F".toStr,
                   rawPassword := some "p%40".toStr } := by
  unfold sampleUrl; str_lits; decide +kernel
-- the dot-segment hypothesis of C02_encodeUrl_segments holds for it although the path contains '.' under an authority
example : ∃ p, splitUrl sampleEnv.o sampleUrl = .ok p ∧ p.path = "/b.c/%2e%2e%2e/d".toStr ∧
    ∀ sg ∈ splitOn 47 p.path, pctDecode sg ≠ [46] ∧ pctDecode sg ≠ [46, 46] := by
  unfold sampleUrl; str_lits; decide +kernel
-- C07_preencoded_accessors: a port text that is no valid port — the constructor succeeds, all four accessors raise
example : ∃ u, preEncodedUrl sampleEnv "http://u@h:99999/".toStr = .ok u ∧
    C07_portOf sampleEnv.o (Rfc.authoritySplit u.netloc).port = .error .valueError ∧
    rawUser sampleEnv u = .error .valueError ∧ rawHost sampleEnv u = .error .valueError := by
  str_lits; decide +kernel
-- … the `or None` adjustment of the user and the "" (not None) host
example : ∃ u, preEncodedUrl sampleEnv "http://:pw@:80".toStr = .ok u ∧
    Rfc.authoritySplit u.netloc = { user := some [], password := some "pw".toStr, host := [], port := "80".toStr } ∧
    rawUser sampleEnv u = .ok none ∧ rawPassword sampleEnv u = .ok (some "pw".toStr) ∧
    rawHost sampleEnv u = .ok (some []) ∧ explicitPort sampleEnv u = .ok (some 80) ∧ rawPath u = [47] := by
  str_lits; decide +kernel
-- C07_netloc on the sample of C07Headline
example : Rfc.authoritySplit "u:p:w@x@[::1]:8080".toStr =
    { user := some "u".toStr, password := some "p:w@x".toStr, host := "::1".toStr, port := "8080".toStr } := by
  str_lits; decide +kernel
-- C07_recompose_accessors, error side: str raises what explicit_port raises
example : ∃ u, preEncodedUrl sampleEnv "http://h:99999/".toStr = .ok u ∧
    explicitPort sampleEnv u = .error .valueError ∧ str sampleEnv u = .error .valueError := by
  str_lits; decide +kernel

end Yarl
