/-
  C19ReachE.lean — property C19 (exception discipline; an object that was returned can be printed) over `ReachE`, the
  closure of ALL entry points, `encoded=True` included (ReachE.lean).  Closes C19Headline GAPS 4 as far as it is true.

  1. ERRORS.  `C19_reachE_errors`: every entry point, and on every `ReachE` URL every operation (`applyOp` for the 19
     operations of `UOp`, `joinpath(…, encoded=True)`) and every accessor, returns a value or raises only ValueError /
     TypeError (`Allowed`; `oracleMiss` is the model asking the harness, not an exception).  The underlying lemmas
     (`encodeUrl_errs`, `build_errs`, `withScheme_errs`, …, C19.lean) are quantified over ALL records; this is their
     corollary.  `with_path`, `with_fragment`, `parent`, `join` are total.

  2. WHICH `ReachE` URLS PRINT.  `C19_reachE_str_total_iff`: a `ReachE` URL can be turned into a string IF AND ONLY IF it
     is itself a result of the auto-encoding constructor or its stored authority splits (`split_netloc` accepts it).

  3. PRINTABILITY IS INHERITED.  `C19_reachE_printable`: let `Printable e u` := the stored authority splits and the
     (pre-filled or computed) cache has the shape the authority-rebuilding modifiers need.  If EVERY ENTRY-POINT RESULT of
     the history is `Printable`, the URL is, and it prints — through every modifier in every `encoded` mode and `join`.
     `Printable` of an entry-point result is
        * for `URL(s, encoded=True)`, `build(...)` in both modes (no cache): EXACTLY "it prints" = "its stored authority
          splits"                                                             (`C19_reachE_printable_entry_iff`);
          automatic for `build(host=…, encoded=False)` and `build(authority=ASCII…, encoded=False)` (C19Str.lean);
        * for `URL(s)`: implied by `GoodAuthority e s` (C09; needed only against a hostile IDNA oracle:
          `C19_twin_needs_good_authority`)                                     (`C19_reachE_printable_ctor`).
     So an unprintable `ReachE` URL has an unprintable entry-point result in its history — F-C19-encoded-str arises ONLY
     from an authority stored unvalidated by `build(encoded=True)` / `URL(s, encoded=True)` (or a hostile oracle);
     `with_path(…, encoded=True)` and `joinpath(…, encoded=True)` never create it.
  4. `C19_reachE_str_total_fails_for_encoded`: the witnesses, in `ReachE`.
-/
import YarlProofs.ReachE
import YarlProofs.C19Ctor
namespace Yarl
open StrAscii WfLemmas R6 StrTotal ErrLemmas

/-! ## 1. errors -/

namespace R6
theorem applyOp_errs (e : Env) (u : Url) (op : UOp) : Errs Allowed (applyOp e u op) := by
  cases op with
  | withScheme s => exact withScheme_errs e u s
  | withUser s => exact withUser_errs e u s
  | withPassword s => exact withPassword_errs e u s
  | withHost s => exact withHost_errs e u s
  | withPort p k => exact withPort_errs e u p k
  | withQuery a => exact withQuery_errs e u a
  | extendQuery a => exact extendQuery_errs e u a
  | updateQuery a => exact updateQuery_errs e u a
  | withoutQueryParams ns => exact withoutQueryParams_errs e u ns
  | withName s kq kf => exact withName_errs e u s kq kf
  | withSuffix s kq kf => exact withSuffix_errs e u s kq kf
  | child paths => exact makeChild_errs e u paths false
  | origin => exact origin_errs e u
  | relative => exact relative_errs u
  | _ => exact Errs.pure _
end R6

/-- EXCEPTION DISCIPLINE over all entry points: the three constructors / builders, and on a `ReachE` URL every operation
    in every `encoded` mode and every accessor, raise only ValueError / TypeError (or ask the oracle).
    (Corollary of theorems that hold for ALL records; `hr` is not used by the proof.) -/
theorem C19_reachE_errors (e : Env) (err : PyErr) :
    (∀ s, encodeUrl e s = .error err → Allowed err) ∧
    (∀ s, preEncodedUrl e s = .error err → Allowed err) ∧
    (∀ a, build e a = .error err → Allowed err) ∧
    ∀ u, ReachE e u →
      (∀ op, applyOp e u op = .error err → Allowed err) ∧
      (∀ paths, makeChild e u paths true = .error err → Allowed err) ∧
      ((str e u = .error err ∨ host e u = .error err ∨ hostSubcomponent e u = .error err ∨
        hostPortSubcomponent e u = .error err ∨ port e u = .error err ∨ isDefaultPort e u = .error err ∨
        authority e u = .error err ∨ user e u = .error err ∨ password e u = .error err ∨
        humanRepr e u = .error err ∨ rawUser e u = .error err ∨ rawPassword e u = .error err ∨
        rawHost e u = .error err ∨ explicitPort e u = .error err) → Allowed err) ∧
      (∃ n, rawName u = .ok n) ∧ (∃ n, name e u = .ok n) ∧ (∃ s, suffix e u = .ok s) ∧ (∃ l, suffixes e u = .ok l) := by
  refine ⟨fun s => (encodeUrl_errs e s).elim, fun s => (preEncodedUrl_errs e s).elim, fun a => (build_errs e a).elim,
    fun u _ => ⟨fun op => (applyOp_errs e u op).elim, fun paths => (makeChild_errs e u paths true).elim, ?_,
      C19_rawName_total u, (C19_name_suffix_total e u).1, (C19_name_suffix_total e u).2.2.1,
      (C19_name_suffix_total e u).2.2.2.2⟩⟩
  rintro (h | h | h | h | h | h | h | h | h | h | h | h | h | h)
  · exact (str_errs e u).elim h
  · exact (host_errs e u).elim h
  · exact (hostSubcomponent_errs e u).elim h
  · exact (hostPortSubcomponent_errs e u).elim h
  · exact (port_errs e u).elim h
  · exact (isDefaultPort_errs e u).elim h
  · exact (authority_errs e u).elim h
  · exact (user_errs e u).elim h
  · exact (password_errs e u).elim h
  · exact (humanRepr_errs e u).elim h
  · exact (rawUser_errs e u).elim h
  · exact (rawPassword_errs e u).elim h
  · exact (rawHost_errs e u).elim h
  · exact (explicitPort_errs e u).elim h

/-! ## 2. which `ReachE` URLs print -/

/-- EXACT characterisation: a `ReachE` URL prints iff it is a result of the auto-encoding constructor (those always
    print: `C19_constructor_str_total`) or its stored authority splits.  Lifts `C19_preencoded_str_total_iff` /
    `C19_headline_str_total_encoded_iff` from the two `encoded=True` producers to the whole closure. -/
theorem C19_reachE_str_total_iff (e : Env) (u : Url) (hr : ReachE e u) :
    StrOK e u ↔ ((∃ s, PyStr s ∧ encodeUrl e s = .ok u) ∨ Splits e u) := by
  constructor
  · intro hs
    rcases reachE_cacheOK e u hr with hpre | hc
    · right
      have h1 := (C19_str_total_iff_net e u).1 hs
      exact (lazyOK_iff e u).1 (C19_lazyOK_of_net e u hpre h1)
    · exact Or.inl hc
  · rintro (⟨s, _, hs⟩ | h)
    · exact C19_constructor_str_total e s u hs
    · exact strOK_of_splits e u h

/-- … in particular for a `ReachE` URL that is not itself a constructor result: it prints iff its authority splits -/
theorem C19_reachE_str_total_iff_cache_free (e : Env) (u : Url) (hpre : u.pre = none) : StrOK e u ↔ Splits e u :=
  MiscLemmas.strOK_iff_splits e u hpre

/-! ## 3. printability is inherited -/

/-- the invariant: the stored authority splits and the cache (pre-filled or computed) has the shape the four
    authority-rebuilding modifiers need -/
def Printable (e : Env) (u : Url) : Prop := LazyOK e u ∧ HostShape e u

theorem Printable.strOK {e : Env} {u : Url} (h : Printable e u) : StrOK e u := strOK_of_same_netloc e u u h.1 rfl

namespace R6
theorem printable_of_pre_none {e : Env} {v : Url} (hp : v.pre = none) (hs : StrOK e v) : Printable e v :=
  ⟨C19_lazyOK_of_net e v hp ((C19_str_total_iff_net e v).1 hs), C19_hostShape_of_lazy e v hp⟩
end R6

/-- for the entry points that fill no cache — `URL(s, encoded=True)` and `build` in both modes — `Printable` is exactly
    "prints", which is exactly "the stored authority splits" -/
theorem C19_reachE_printable_entry_iff (e : Env) (u : Url)
    (hmade : (∃ a, build e a = .ok u) ∨ (∃ s, preEncodedUrl e s = .ok u)) :
    (Printable e u ↔ StrOK e u) ∧ (StrOK e u ↔ Splits e u) := by
  have hpre : u.pre = none := by
    rcases hmade with ⟨a, h⟩ | ⟨s, h⟩
    · exact (C09_no_prefill e).2.1 a u h
    · exact (C09_no_prefill e).1 s u h
  exact ⟨⟨Printable.strOK, printable_of_pre_none hpre⟩, C19_reachE_str_total_iff_cache_free e u hpre⟩

/-- for the auto-encoding constructor `Printable` follows from `GoodAuthority` (C09's guard) -/
theorem C19_reachE_printable_ctor (e : Env) (s : Str) (u : Url) (h : encodeUrl e s = .ok u) (hg : GoodAuthority e s) :
    Printable e u :=
  ⟨C19_constructor_lazyOK e s u h hg, C19_constructor_hostShape e s u h hg⟩

/-- one operation keeps the invariant -/
theorem C19_reachE_printable_step (e : Env) (u v : Url) (op : UOp) (hu : Printable e u) (hj : op.notJoinRef)
    (h : applyOp e u op = .ok v) : Printable e v := by
  rcases applyOp_pre e u v op hj h with hp | rfl
  · refine printable_of_pre_none hp ?_
    obtain ⟨c1, c2, c3, c4, c5, c6, c7, c8, c9, c10, c11, c12, c13, c14, c15, c16⟩ := C19_modifier_str_total e u hu.1 hu.2
    cases op with
    | withScheme s => exact c5 s v h
    | withUser s => exact c1 s v h
    | withPassword s => exact c2 s v h
    | withHost s => exact c4 s v h
    | withPort p k => exact c3 p k v h
    | withPath s kq kf => cases h; exact c6 s false kq kf
    | withQuery a => exact c7 a v h
    | extendQuery a => exact c8 a v h
    | updateQuery a => exact c9 a v h
    | withoutQueryParams ns => exact c10 ns v h
    | withFragment f => cases h; exact c11 f
    | withName s kq kf => exact c12 s kq kf v h
    | withSuffix s kq kf => exact c13 s kq kf v h
    | child paths => exact c14 paths false v h
    | parent => cases h; exact c15
    | origin => exact C19_origin_str_total e u v hu.1 hu.2 h
    | relative => exact c16 v h
    | joinRef ref => exact absurd hj id
    | copy => cases h; exact strOK_of_same_netloc e u _ hu.1 rfl
  · exact hu

/-- if every entry-point result in the history of a `ReachE` URL is `Printable`, so is the URL, and it prints.
    The modifiers — `with_path(…, encoded=True)` and `joinpath(…, encoded=True)` included — and `join` never make an
    unprintable URL out of printable ones. -/
theorem C19_reachE_printable (e : Env) (u : Url) (h : ReachEN (Printable e) e u) : Printable e u ∧ StrOK e u := by
  have key : Printable e u := by
    induction h with
    | ctor s u _ _ hn => exact hn
    | ctorEnc s u _ _ hn => exact hn
    | build a u _ _ hn => exact hn
    | op u op v _ _ hj h ih => exact C19_reachE_printable_step e u v op ih hj h
    | withPathEnc u p kq kf _ _ ih =>
      exact printable_of_pre_none rfl ((C19_modifier_str_total e u ih.1 ih.2).2.2.2.2.2.1 p true kq kf)
    | childEnc u paths v _ _ h ih =>
      have hp : v.pre = none := HeadA.tw ((C09_modifiers_no_prefill e u).2.2.2.2.2.2.2.2.2.2.2.2.1 paths true v h)
      exact printable_of_pre_none hp
        ((C19_modifier_str_total e u ih.1 ih.2).2.2.2.2.2.2.2.2.2.2.2.2.2.1 paths true v h)
    | join u r _ _ ihu ihr =>
      rcases (C09_modifiers_no_prefill e u).2.2.2.2.2.2.2.2.2.2.2.2.2.2 r with hp | hp
      · exact printable_of_pre_none (HeadA.tw hp) (C19_join_str_total e u r ihu.1 ihr.1)
      · rw [hp]; exact ihr
  exact ⟨key, key.strOK⟩

/-! ## 4. the finding, in `ReachE` -/

section witnesses
private def e0 : Env := ⟨.py, Oracles.empty⟩

/-- F-C19-encoded-str over `ReachE`: `URL('http://h:x/', encoded=True)` and
    `URL.build(scheme='http', authority='h:99999', encoded=True)` are in `ReachE`, their stored authority does not split,
    `str()` raises ValueError; and the unprintability is INHERITED by modifier results that keep the authority
    (`.with_path('/p', encoded=True)`: still in `ReachE`, still unprintable) while `with_host` — which must parse the old
    authority — refuses. -/
theorem C19_reachE_str_total_fails_for_encoded :
    (∃ u, preEncodedUrl e0 "http://h:x/".toStr = .ok u ∧ ReachE e0 u ∧ ¬ Splits e0 u ∧ str e0 u = .error .valueError ∧
      ReachE e0 (withPath e0 u "/p".toStr true false false) ∧
      str e0 (withPath e0 u "/p".toStr true false false) = .error .valueError ∧
      withHost e0 u "g".toStr = .error .valueError) ∧
    (∃ u, build e0 { scheme := "http".toStr, authority := "h:99999".toStr, encoded := true } = .ok u ∧ ReachE e0 u ∧
      ¬ Splits e0 u ∧ str e0 u = .error .valueError) := by
  have h1 : preEncodedUrl e0 "http://h:x/".toStr = .ok (fromParts "http".toStr "h:x".toStr "/".toStr [] []) := by
    str_lits; decide +kernel
  have r1 : ReachE e0 (fromParts "http".toStr "h:x".toStr "/".toStr [] []) := ReachE.ctorEnc _ _ (by decide) h1
  have ns : ∀ n : Str, splitNetloc e0.o n = .error .valueError →
      ∀ s p q f, ¬ Splits e0 (fromParts s n p q f) := by
    intro n hn s p q f ⟨r, hr⟩
    have : splitNetloc e0.o n = .ok r := hr
    rw [hn] at this; cases this
  refine ⟨⟨_, h1, r1, ns _ (by str_lits; decide +kernel) _ _ _ _, by str_lits; decide +kernel,
    ReachE.withPathEnc _ _ _ _ r1 (by decide), by str_lits; decide +kernel, by str_lits; decide +kernel⟩,
    ⟨fromParts "http".toStr "h:99999".toStr [] [] [], by str_lits; decide +kernel, ?_, ns _ (by str_lits; decide +kernel) _ _ _ _,
      by str_lits; decide +kernel⟩⟩
  exact reachE_of_record e0 _ _ _ _ _ (by decide) (by decide) (by decide) (by decide) (by decide)

/-- non-vacuity of `C19_reachE_printable`: a history that uses `URL(s, encoded=True)` with a NON-canonical but splittable
    authority ("U:P@H:080"), `with_path(…, encoded=True)`, `joinpath(…, encoded=True)`, `with_user(None)` (which
    re-writes the port text "080" as "80") and `with_user('n')`; `str()` omits the default port -/
theorem C19_reachE_printable_instance :
    ∃ u r, ReachEN (Printable e0) e0 u ∧ str e0 u = .ok r ∧ r = "http://n@H/a%zz/b c".toStr := by
  have h0 : preEncodedUrl e0 "http://U:P@H:080/x".toStr = .ok (fromParts "http".toStr "U:P@H:080".toStr "/x".toStr [] []) := by
    str_lits; decide +kernel
  have p0 : Printable e0 (fromParts "http".toStr "U:P@H:080".toStr "/x".toStr [] []) :=
    printable_of_pre_none rfl ((C19_reachE_str_total_iff_cache_free e0 _ rfl).2 ⟨{ user := some "U".toStr, password := some "P".toStr, host := some "H".toStr, port := some 80 },
      by str_lits; decide +kernel⟩)
  have r0 : ReachEN (Printable e0) e0 _ := ReachEN.ctorEnc _ _ (by decide) h0 p0
  have r1 := ReachEN.withPathEnc _ "/a%zz".toStr false false r0 (by decide)
  have h2 : makeChild e0 (withPath e0 (fromParts "http".toStr "U:P@H:080".toStr "/x".toStr [] []) "/a%zz".toStr
      true false false) ["b c".toStr] true = .ok (fromParts "http".toStr "U:P@H:080".toStr "/a%zz/b c".toStr [] []) := by
    str_lits; decide +kernel
  have r2 := ReachEN.childEnc _ _ _ r1 (by decide) h2
  have h3 : applyOp e0 (fromParts "http".toStr "U:P@H:080".toStr "/a%zz/b c".toStr [] []) (.withUser none) =
      .ok (fromParts "http".toStr "H:80".toStr "/a%zz/b c".toStr [] []) := by str_lits; decide +kernel
  have r3 := ReachEN.op _ (.withUser none) _ r2 (by intro x hx; cases hx) trivial h3
  have h4 : applyOp e0 (fromParts "http".toStr "H:80".toStr "/a%zz/b c".toStr [] []) (.withUser (some "n".toStr)) =
      .ok (fromParts "http".toStr "n@H:80".toStr "/a%zz/b c".toStr [] []) := by str_lits; decide +kernel
  have r4 := ReachEN.op _ (.withUser (some "n".toStr)) _ r3 (by intro x hx; cases hx; decide) trivial h4
  exact ⟨_, _, r4, by str_lits; decide +kernel, rfl⟩

end witnesses

end Yarl
