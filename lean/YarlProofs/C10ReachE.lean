/-
  C10ReachE.lean — property C10 (equality, hash, ordering) over `ReachE`, the closure of ALL entry points,
  `encoded=True` included (ReachE.lean).

  NOTHING TO LIFT.  Every C10 law is already a theorem about ARBITRARY records `a b c : Url` with no hypothesis at all:
    `C10_eq_components`, `C10_equivalence`, `C10_hash_coherent`, `C10_trichotomy`, `C10_le_iff`, `C10_ge_gt`,
    `C10_lt_trans`, `C10_le_total`, `C10_le_trans`, `C10_le_antisymm`, `C10_lt_respects_eq`, `C10_route_independent`,
    `C10_lt_irrefl`, `C10_lt_asymm`, `C10_lt_iff_le_not_eq`, `C10_le_iff_not_gt` (C10.lean) and the cache-machine
    theorems of C10Headline.lean.  Equality, hash and order are functions of `eqKey` = the five stored strings, so they
    hold of URLs made with `encoded=True` exactly as of all others; the one-line corollaries over `ReachE` are not stated.

  The only thing this file records is what C10's "same URL" MEANS across the two modes (it is equality of STORED text, so
  the same input text gives DIFFERENT URLs under the two modes unless it is already canonical), as one witness.
-/
import YarlProofs.ReachE
import YarlProofs.C10
namespace Yarl

/-- equality is on the stored text: `URL('http://h/a b') != URL('http://h/a b', encoded=True)` ("/a%20b" vs "/a b" stored),
    while `URL('http://h/a%20b') == URL('http://h/a%20b', encoded=True)` — although only the first carries a pre-filled
    cache.  All four URLs are in `ReachE`; exactly one of `<`, `==`, `>` holds of the first two (`C10_trichotomy`, which
    needs no hypothesis): the `encoded=True` one is the smaller (' ' < '%'). -/
theorem C10_reachE_equality_is_on_stored_text :
    let e : Env := ⟨.py, Oracles.empty⟩
    ∃ a b c d, encodeUrl e "http://h/a b".toStr = .ok a ∧ preEncodedUrl e "http://h/a b".toStr = .ok b ∧
      encodeUrl e "http://h/a%20b".toStr = .ok c ∧ preEncodedUrl e "http://h/a%20b".toStr = .ok d ∧
      ReachE e a ∧ ReachE e b ∧ ReachE e c ∧ ReachE e d ∧
      a.beq b = false ∧ b.lt a = true ∧ a.lt b = false ∧
      c.beq d = true ∧ c ≠ d ∧ a.beq c = true := by
  intro e
  have ha : encodeUrl e "http://h/a b".toStr = .ok
      { scheme := "http".toStr, netloc := "h".toStr, path := "/a%20b".toStr, query := [], fragment := [],
        pre := some { rawHost := some "h".toStr, explicitPort := none, rawUser := none, rawPassword := none } } := by
    str_lits; decide +kernel
  have hb : preEncodedUrl e "http://h/a b".toStr = .ok (fromParts "http".toStr "h".toStr "/a b".toStr [] []) := by
    str_lits; decide +kernel
  have hc : encodeUrl e "http://h/a%20b".toStr = .ok
      { scheme := "http".toStr, netloc := "h".toStr, path := "/a%20b".toStr, query := [], fragment := [],
        pre := some { rawHost := some "h".toStr, explicitPort := none, rawUser := none, rawPassword := none } } := by
    str_lits; decide +kernel
  have hd : preEncodedUrl e "http://h/a%20b".toStr = .ok (fromParts "http".toStr "h".toStr "/a%20b".toStr [] []) := by
    str_lits; decide +kernel
  exact ⟨_, _, _, _, ha, hb, hc, hd, ReachE.ctor _ _ (by str_lits; decide +kernel) ha, ReachE.ctorEnc _ _ (by str_lits; decide +kernel) hb,
    ReachE.ctor _ _ (by str_lits; decide +kernel) hc, ReachE.ctorEnc _ _ (by str_lits; decide +kernel) hd,
    by str_lits; decide +kernel, by str_lits; decide +kernel, by str_lits; decide +kernel, by str_lits; decide +kernel, by str_lits; decide +kernel, by str_lits; decide +kernel⟩

end Yarl
