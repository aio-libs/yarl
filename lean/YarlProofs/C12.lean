/-
  C12.lean — query operations implement the multi-dict algebra (list algebra and argument gate).
  The clauses about `mdUpdate` that need a hypothesis are read off its exact description (C12Update.lean).
-/
import YarlModel
import YarlProofs.C12Update
namespace Yarl
open Yarl.MdLemmas R7

universe u
variable {V : Type u}

/-- MultiDict.update keeps every pair whose key is not updated, in order -/
theorem C12_update_keeps_others (old new : List (Str × V)) :
    (mdUpdate old new).filter (fun p => !(keysOf new).contains p.1) =
      old.filter (fun p => !(keysOf new).contains p.1) := by
  by_cases hn : new = []
  · subst hn; rw [C12_update_nil]
  · rw [mdUpdate_eq old new hn]
    have h1 := dt_keep_unused (V := V) (mdUpdateLoop old [] new).2 (fun x => !(keysOf new).contains x)
      (by
        intro x hx
        have hx' : x ∉ keysOf new := by simpa using hx
        rw [(loop_used new old [] x).2 hx']; rfl)
      (mdUpdateLoop old [] new).1 0
    have h2 := loop_filter_other (fun x => !(keysOf new).contains x) new old []
      (by intro k hk; simpa using hk)
    exact h1.trans h2

/-- **"For every updated key the values in the result are the new values" is false without a guard** (multidict 6.2.0, both the C and the Python
    implementation, and hence `URL.update_query`): the "drop tails" loop compares the *running* index, which lags behind
    after deletions, with positions recorded *before* any deletion.  `?a=1&a=2&b=3&b=4` updated with `a=9&b=8` gives
    `a=9&b=8&b=4`: the stale `b=4` survives. -/
theorem C12_update_sets_keys_counterexample :
    mdUpdate [([97], 1), ([97], 2), ([98], 3), ([98], 4)] [([97], 9), ([98], 8)] = [([97], 9), ([98], 8), ([98], 4)] := by
  decide +kernel

theorem C12_update_sets_keys_false :
    ¬ ∀ (old new : List (Str × Nat)) (k : Str), k ∈ keysOf new →
      ((mdUpdate old new).filter (fun p => p.1 = k)).map (·.2) = (new.filter (fun p => p.1 = k)).map (·.2) := by
  intro h
  have := h [([97], 1), ([97], 2), ([98], 3), ([98], 4)] [([97], 9), ([98], 8)] [98] (by decide +kernel)
  revert this
  decide +kernel

/-- strongest unconditional variant: for every updated key the values in the result are the new values for that key,
    in order, followed by a sublist of the old values that were not overwritten (old values number
    `#new values` onwards) -/
theorem C12_update_sets_keys_split (old new : List (Str × V)) (k : Str) : k ∈ keysOf new →
    ∃ S, ((mdUpdate old new).filter (fun p => p.1 = k)).map (·.2) = (new.filter (fun p => p.1 = k)).map (·.2) ++ S ∧
      S.Sublist (((old.filter (fun p => p.1 = k)).map (·.2)).drop (new.filter (fun p => p.1 = k)).length) := by
  intro hk
  obtain ⟨S, h1, h2⟩ := update_vals_split old new k hk
  refine ⟨S, h1, ?_⟩
  simpa [valsOf] using h2

/-- in particular the new values are a prefix -/
theorem C12_update_sets_keys_prefix (old new : List (Str × V)) (k : Str) : k ∈ keysOf new →
    (new.filter (fun p => p.1 = k)).map (·.2) <+: ((mdUpdate old new).filter (fun p => p.1 = k)).map (·.2) := by
  intro hk
  obtain ⟨S, h1, _⟩ := C12_update_sets_keys_split old new k hk
  exact ⟨S, h1.symm⟩

/-- … and if `k` has at least as many new values as old ones, nothing of the old survives -/
theorem C12_update_sets_keys_of_le (old new : List (Str × V)) (k : Str) : k ∈ keysOf new →
    (old.filter (fun p => p.1 = k)).length ≤ (new.filter (fun p => p.1 = k)).length →
    ((mdUpdate old new).filter (fun p => p.1 = k)).map (·.2) = (new.filter (fun p => p.1 = k)).map (·.2) := by
  intro hk hle
  obtain ⟨S, h1, h2⟩ := C12_update_sets_keys_split old new k hk
  rw [List.drop_of_length_le (by simpa using hle)] at h2
  rw [h1, List.sublist_nil.mp h2, List.append_nil]

/-- "Replaces all pairs whose key occurs in q", with the hypothesis that makes it true: every *other* updated key has at most as many
    old entries as new ones (so it has no tail to delete; e.g. it occurs at most once in the old query, or `k` is the
    only updated key).  Then for `k` the values in the result, in order, are exactly the new values, in order. -/
theorem C12_update_sets_keys (old new : List (Str × V)) (k : Str) : k ∈ keysOf new →
    (∀ k' ∈ keysOf new, k' ≠ k → (old.filter (fun p => p.1 = k')).length ≤ (new.filter (fun p => p.1 = k')).length) →
    ((mdUpdate old new).filter (fun p => p.1 = k)).map (·.2) = (new.filter (fun p => p.1 = k)).map (·.2) := by
  intro hk hH
  -- at most one updated key (`k`) has more old pairs than new values
  rw [C12_mdUpdate_eq_spec old new (C12_staleFree_of_one_surplus_key old new k fun k' hk' hne => by
    simpa [valsOf] using hH k' hk' hne)]
  exact C12_spec_sets_keys old new k hk

/-- single-key updates are exact -/
theorem C12_update_sets_keys_single (old new : List (Str × V)) (k : Str) : k ∈ keysOf new →
    (∀ k' ∈ keysOf new, k' = k) →
    ((mdUpdate old new).filter (fun p => p.1 = k)).map (·.2) = (new.filter (fun p => p.1 = k)).map (·.2) :=
  fun hk h1 => C12_update_sets_keys old new k hk (fun k' hk' hne => absurd (h1 k' hk') hne)

/-- updates of a query without repeated keys are exact -/
theorem C12_update_sets_keys_nodup (old new : List (Str × V)) (k : Str) : k ∈ keysOf new →
    (keysOf old).Nodup →
    ((mdUpdate old new).filter (fun p => p.1 = k)).map (·.2) = (new.filter (fun p => p.1 = k)).map (·.2) := by
  intro hk hnd
  rw [C12_mdUpdate_eq_spec old new (C12_staleFree_of_nodup old new hnd)]
  exact C12_spec_sets_keys old new k hk

/-! ### positions -/

/-- **"An updated key keeps the position of its first occurrence" is false without a guard**, for the same reason: a deleted tail entry of
    another updated key in front of `k` moves `k` to the left. `?a=1&a=2&b=3` updated with `a=9&b=8` is `a=9&b=8`. -/
theorem C12_update_first_position_false :
    ¬ ∀ (old new : List (Str × Nat)) (k : Str) (i : Nat), k ∈ keysOf new → (old.map (·.1)).idxOf k = i →
      i < old.length → ((mdUpdate old new).map (·.1))[i]? = some k := by
  intro h
  have := h [([97], 1), ([97], 2), ([98], 3)] [([97], 9), ([98], 8)] [98] 2 (by decide +kernel) (by decide +kernel) (by decide +kernel)
  revert this
  decide +kernel

/-- strongest unconditional variant: if `(k, v0)` is the first entry of the updated key `k` in the old list, the
    result has the first entry of key `k` carrying the first new value of `k`, and the keys in front of it are a
    sublist of the keys that were in front of it before (values updated, some stale duplicates of other updated
    keys deleted) -/
theorem C12_update_first_position_split (A B : List (Str × V)) (k : Str) (v0 : V) (new : List (Str × V)) :
    k ∈ keysOf new → k ∉ keysOf A →
    ∃ A' v1 B', mdUpdate (A ++ (k, v0) :: B) new = A' ++ (k, v1) :: B' ∧ (keysOf A').Sublist (keysOf A) ∧
      ((new.filter (fun p => p.1 = k)).map (·.2)).head? = some v1 := by
  intro hk hA
  obtain ⟨w, ws, hw⟩ := List.exists_cons_of_ne_nil (valsOf_ne_nil_of_mem k new hk)
  have hr : valsOf k A = [] := valsOf_nil_of_not_mem k A hA
  -- the first pair of `k` is overwritten with the first new value …
  have hF : written new ((valsOf k A).length, k, v0) = (k, w) := by
    simp [written, hr, hw]
  -- … and it is not surplus, so its recorded position lies behind it
  obtain ⟨p, hp⟩ := (loop_used new (A ++ (k, v0) :: B) [] k).1 hk
  have hlt : ¬ p ≤ A.length := fun hle => by
    have := (H1_holds (A ++ (k, v0) :: B) new A (k, v0) B rfl).2 ⟨p, hp, hle⟩
    simp [isSurplus, hr, hw] at this
  have hsub := dt_sublist (mdUpdateLoop (A ++ (k, v0) :: B) [] new).2 ((ranked A).map (written new)) 0
  have hlen := hsub.length_le
  rw [List.length_map, ranked_length] at hlen
  have heq := mdUpdate_decomp (A ++ (k, v0) :: B) new (keysOf_ne_nil hk)
  rw [repl, ranked_split, List.map_append, List.map_cons, hF, dt_append,
    dt_cons_keep _ _ _ _ _ _ hp (by omega), List.append_assoc, List.cons_append] at heq
  refine ⟨_, w, _, heq, ?_, by show (valsOf k new).head? = _; rw [hw]; rfl⟩
  have := hsub.map (·.1)
  rwa [← keysOf, ← keysOf, keysOf_map_written, ranked_map_snd] at this

/-- what holds of the position unconditionally: the updated key `k` first occurs at a position `j ≤ i` -/
theorem C12_update_first_position_le (old new : List (Str × V)) (k : Str) (i : Nat) :
    k ∈ keysOf new → (old.map (·.1)).idxOf k = i → i < old.length →
    ∃ j, j ≤ i ∧ ((mdUpdate old new).map (·.1))[j]? = some k ∧ ((mdUpdate old new).map (·.1)).idxOf k = j := by
  intro hk hi hlt
  obtain ⟨A, v0, B, rfl, hA', hAi⟩ := split_at_first_key old k i hi hlt
  obtain ⟨A', v1, B', hmd, hsub, _⟩ := C12_update_first_position_split A B k v0 new hk hA'
  have hk' : k ∉ keysOf A' := fun hm => hA' (hsub.subset hm)
  refine ⟨A'.length, ?_, ?_, ?_⟩
  · have := hsub.length_le
    simp only [keysOf, List.length_map] at this
    omega
  · rw [hmd]; simp
  · rw [hmd]
    have := idxOf_of_split k (keysOf A') (keysOf B') hk'
    simpa [keysOf] using this

/-- The position clause with the hypothesis that makes it true: no updated key occurs twice in front of the first
    occurrence of `k` (then nothing in front of it is deleted). -/
theorem C12_update_first_position (old new : List (Str × V)) (k : Str) (i : Nat) :
    k ∈ keysOf new → (old.map (·.1)).idxOf k = i → i < old.length →
    (((old.take i).map (·.1)).filter (fun x => (keysOf new).contains x)).Nodup →
    ((mdUpdate old new).map (·.1))[i]? = some k ∧ ((mdUpdate old new).map (·.1)).idxOf k = i ∧
      ((mdUpdate old new).take i).map (·.1) = (old.take i).map (·.1) := by
  intro hk hi hlt hnd
  obtain ⟨A, v0, B, rfl, hA', rfl⟩ := split_at_first_key old k i hi hlt
  rw [List.take_left' rfl] at hnd ⊢
  -- every pair of `A ++ [(k, v0)]` with an updated key is the first of its key: none is surplus
  have hclean : Clean new (A ++ [(k, v0)]) := by
    intro a' y b' e
    refine Bool.eq_false_iff.mpr fun hs => ?_
    obtain ⟨hy, hr⟩ := (isSurplus_iff new _ y).1 hs
    have h0 : valsOf y.1 a' = [] := by
      apply valsOf_nil_of_not_mem
      rcases List.eq_nil_or_concat b' with rfl | ⟨b'', z, rfl⟩
      · obtain ⟨rfl, h2⟩ := List.append_inj' e rfl
        cases h2
        exact hA'
      · rw [List.concat_eq_append, ← List.cons_append, ← List.append_assoc] at e
        obtain ⟨rfl, _⟩ := List.append_inj' e rfl
        rw [List.map_append, List.filter_append, List.map_cons,
          List.filter_cons_of_pos (by simpa using hy)] at hnd
        exact fun hm => (List.nodup_append.mp hnd).2.2 _ (List.mem_filter.mpr ⟨hm, by simpa using hy⟩) _
          List.mem_cons_self rfl
    rw [h0] at hr
    exact valsOf_ne_nil_of_mem _ new hy (List.length_eq_zero_iff.mp (Nat.le_zero.mp hr))
  obtain ⟨tail, ht⟩ := update_clean_prefix (A ++ [(k, v0)]) B new hclean (keysOf_ne_nil hk)
  have hkeys : (mdUpdate (A ++ (k, v0) :: B) new).map (·.1) = keysOf A ++ k :: keysOf tail := by
    rw [List.append_cons, ht]
    show keysOf _ = _
    rw [keysOf_append, keysOf_map_written, ranked_map_snd, keysOf_snoc, List.append_assoc]
    rfl
  rw [List.map_take, hkeys]
  exact ⟨by simp [keysOf], by simpa [keysOf] using idxOf_of_split k (keysOf A) (keysOf tail) hA',
    by simp [keysOf]⟩

/-- a brand-new key is appended after all old pairs -/
theorem C12_update_new_key_appended (old : List (Str × V)) (k : Str) (v : V) :
    k ∉ keysOf old → mdUpdate old [(k, v)] = old ++ [(k, v)] := by
  intro hk
  apply update_disjoint
  intro k' hk'
  cases List.mem_singleton.mp hk'
  exact hk

/-! ### the argument gate -/

theorem C12_query_var_gate (v : QVal) :
    (queryVar v = .error .typeError ↔ (v = .bool ∨ v = .none ∨ v = .other)) ∧
    (queryVar v = .error .valueError ↔ ∃ t k, v = .float t k ∧ k ≠ 0) ∧
    (∀ n, queryVar (.int n) = .ok (intToStr n)) ∧ (∀ s, queryVar (.str s) = .ok s) := by
  refine ⟨?_, ?_, fun _ => rfl, fun _ => rfl⟩
  · cases v <;> simp [queryVar]
    rename_i t k
    split <;> simp
  · cases v <;> simp [queryVar]
    rename_i t k
    constructor
    · intro h; exact ⟨t, k, ⟨rfl, rfl⟩, h⟩
    · rintro ⟨_, _, ⟨rfl, rfl⟩, h⟩; exact h

theorem C12_with_query_none (e : Env) (u : Url) :
    withQuery e u .none = .ok (fromParts u.scheme u.netloc u.path [] u.fragment) := rfl

theorem C12_update_query_none (e : Env) (u : Url) :
    updateQuery e u .none = .ok (fromParts u.scheme u.netloc u.path [] u.fragment) := rfl

theorem C12_extend_query_none (e : Env) (u : Url) : extendQuery e u .none = .ok u := rfl

theorem C12_bytes_rejected (e : Env) (u : Url) :
    withQuery e u (.bytes false) = .error .typeError ∧ extendQuery e u (.bytes false) = .error .typeError ∧
    updateQuery e u (.bytes false) = .error .typeError := ⟨rfl, rfl, rfl⟩

theorem C12_with_query_error_kinds (e : Env) (u : Url) (a : QArg) (err : PyErr) :
    withQuery e u a = .error err → err = .typeError ∨ err = .valueError := by
  intro h
  exact getStrQuery_error e.b a err (error_of_errOf (errOf_withQuery e u a) h)

theorem C12_extend_query_error_kinds (e : Env) (u : Url) (a : QArg) (err : PyErr) :
    extendQuery e u a = .error err → err = .typeError ∨ err = .valueError := by
  intro h
  exact getStrQuery_error e.b a err (error_of_errOf (errOf_extendQuery e u a) h)

theorem C12_update_query_error_kinds (e : Env) (u : Url) (a : QArg) (err : PyErr) :
    updateQuery e u a = .error err → err = .typeError ∨ err = .valueError := by
  intro h
  unfold updateQuery at h
  have h' := error_of_errOf (errOf_bind_pure _ _) h
  cases a with
  | none => cases h'
  | str s =>
    simp only at h'
    split at h'
    · cases h'
    · exact iter_error _ _ _ h'
  | mapping items =>
    simp only at h'
    split at h'
    · cases h'
    · exact seq_error _ _ _ h'
  | pairs items =>
    simp only at h'
    split at h'
    · cases h'
    · exact iter_error _ _ _ h'
  | bytes empty =>
    simp only at h'
    split at h'
    · cases h'
    · cases h'; exact Or.inl rfl
  | other => cases h'; exact Or.inl rfl
  | noArgs => cases h'; exact Or.inr rfl

theorem C12_pairs_list_value_rejected (b : Backend) (k : Str) (vs : List QVal) (rest : List (Str × QItem)) :
    strQueryFromIterable b ((k, .many vs) :: rest) = .error .typeError := by
  unfold strQueryFromIterable
  rw [List.mapM_cons]
  rfl

theorem C12_extend_query_string (e : Env) (u : Url) (a : QArg) (nq : Str) :
    getStrQuery e.b a = .ok (some nq) → nq ≠ [] → u.query ≠ [] →
    ∃ v, extendQuery e u a = .ok v ∧
      v.query = (if u.query.getLast? = some 38 then u.query ++ nq else u.query ++ [38] ++ nq) ∧
      v.scheme = u.scheme ∧ v.netloc = u.netloc ∧ v.path = u.path ∧ v.fragment = u.fragment := by
  intro hg hnq hq
  have h1 : nq.isEmpty = false := by cases nq <;> simp_all
  have h2 : u.query.isEmpty = false := by cases hu : u.query <;> simp_all
  unfold extendQuery
  rw [hg]
  simp only [bind, Except.bind, h1, h2, pure, Except.pure]
  exact ⟨_, rfl, by simp [fromParts], rfl, rfl, rfl, rfl⟩

theorem C12_without_query_params_filter (e : Env) (u : Url) (names : List Str) :
    (∀ n ∈ names, ¬ (queryPairs u).any (·.1 = n)) → withoutQueryParams e u names = .ok u := by
  intro h
  unfold withoutQueryParams
  simp only [List.filter_eq_nil_iff.mpr h, List.isEmpty_nil, ↓reduceIte]
  rfl

theorem C12_without_query_params_removes (e : Env) (u : Url) (names : List Str) :
    withoutQueryParams e u names =
      (if (names.filter (fun n => (queryPairs u).any (·.1 = n))).isEmpty then .ok u
       else withQuery e u (.pairs (strItems ((queryPairs u).filter (fun p => !names.contains p.1))))) := by
  unfold withoutQueryParams
  simp only
  split
  · rfl
  · congr 3
    apply List.filter_congr
    intro p hp
    congr 1
    rw [Bool.eq_iff_iff]
    simp only [List.contains_iff_mem, List.mem_filter, List.any_eq_true, decide_eq_true_eq]
    constructor
    · exact fun h => h.1
    · exact fun h => ⟨h, p, hp, rfl⟩

/-! ### mappings: the first rejected value decides -/

/-- a rejected value anywhere in a mapping rejects the whole call, with the error of the first offending value
    (values in iteration order, list/tuple slots expanded) -/
theorem C12_with_query_mapping_first_error (e : Env) (u : Url) (items : List (Str × QItem)) (err : PyErr) :
    firstErr (flatVals items) = some err → withQuery e u (.mapping items) = .error err := by
  intro h
  exact eq_error ((errOf_withQuery e u _).trans ((errOf_getStrQuery_mapping e.b items).trans h))

/-- if every value of a mapping is accepted by `query_var`, `with_query` succeeds -/
theorem C12_with_query_mapping_ok (e : Env) (u : Url) (items : List (Str × QItem)) :
    (∀ p ∈ items, ∀ v ∈ itemVals p.2, ∃ s, queryVar v = .ok s) → ∃ v, withQuery e u (.mapping items) = .ok v := by
  intro h
  have hn : firstErr (flatVals items) = none := (firstErr_none_iff _).mpr fun v hv => by
    obtain ⟨p, hp, hv⟩ := List.mem_flatMap.mp hv
    exact h p hp v hv
  exact eq_ok ((errOf_withQuery e u _).trans ((errOf_getStrQuery_mapping e.b items).trans hn))

/-- … and if some value is rejected, it fails with TypeError or ValueError -/
theorem C12_with_query_mapping_rejects (e : Env) (u : Url) (items : List (Str × QItem)) :
    (∃ p ∈ items, ∃ v ∈ itemVals p.2, ∃ er, queryVar v = .error er) →
    ∃ err, withQuery e u (.mapping items) = .error err ∧ (err = .typeError ∨ err = .valueError) := by
  intro ⟨p, hp, v, hv, er, hq⟩
  cases hfe : firstErr (flatVals items) with
  | none =>
    rw [firstErr_none_iff] at hfe
    obtain ⟨s, hs⟩ := hfe v (List.mem_flatMap.mpr ⟨p, hp, hv⟩)
    rw [hq] at hs; cases hs
  | some err =>
    have := C12_with_query_mapping_first_error e u items err hfe
    exact ⟨err, this, C12_with_query_error_kinds e u _ err this⟩

/-! ### bridges: what `update_query` hands to the string builders -/

theorem C12_update_query_pairs (e : Env) (u : Url) (items : List (Str × QItem)) : items ≠ [] →
    updateQuery e u (.pairs items) =
      (strQueryFromIterable e.b (mdUpdate (strItems (queryPairs u)) items)).map
        (fun q => fromParts u.scheme u.netloc u.path q u.fragment) := by
  intro h
  simp only [updateQuery, List.isEmpty_iff, h, ↓reduceIte]
  cases strQueryFromIterable e.b (mdUpdate (strItems (queryPairs u)) items) <;> rfl

theorem C12_update_query_mapping (e : Env) (u : Url) (items : List (Str × QItem)) : items ≠ [] →
    updateQuery e u (.mapping items) =
      (strQueryFromSeqIterable e.b (mdUpdate (strItems (queryPairs u)) items)).map
        (fun q => fromParts u.scheme u.netloc u.path q u.fragment) := by
  intro h
  simp only [updateQuery, List.isEmpty_iff, h, ↓reduceIte]
  cases strQueryFromSeqIterable e.b (mdUpdate (strItems (queryPairs u)) items) <;> rfl

theorem C12_update_query_str (e : Env) (u : Url) (s : Str) : s ≠ [] →
    updateQuery e u (.str s) =
      (strQueryFromIterable e.b (mdUpdate (strItems (queryPairs u)) (strItems (parseQsl s)))).map
        (fun q => fromParts u.scheme u.netloc u.path q u.fragment) := by
  intro h
  simp only [updateQuery, List.isEmpty_iff, h, ↓reduceIte]
  cases strQueryFromIterable e.b (mdUpdate (strItems (queryPairs u)) (strItems (parseQsl s))) <;> rfl

/-- empty arguments leave the query alone -/
theorem C12_update_query_empty (e : Env) (u : Url) :
    updateQuery e u (.str []) = .ok (fromParts u.scheme u.netloc u.path u.query u.fragment) ∧
    updateQuery e u (.pairs []) = .ok (fromParts u.scheme u.netloc u.path u.query u.fragment) ∧
    updateQuery e u (.mapping []) = .ok (fromParts u.scheme u.netloc u.path u.query u.fragment) ∧
    updateQuery e u (.bytes true) = .ok (fromParts u.scheme u.netloc u.path u.query u.fragment) := ⟨rfl, rfl, rfl, rfl⟩

/-! ### non-vacuity checks and worked examples (a = [97], b = [98], c = [99]) -/

example : mdUpdate [([97], 1), ([98], 2), ([97], 3)] [([97], 9)] = [([97], 9), ([98], 2)] := by decide +kernel
example : mdUpdate [([97], 1), ([98], 2), ([97], 3)] [([97], 8), ([97], 9), ([97], 7)] =
    [([97], 8), ([98], 2), ([97], 9), ([97], 7)] := by decide +kernel
example : mdUpdate [([97], 1), ([98], 2)] [([99], 3), ([97], 4)] = [([97], 4), ([98], 2), ([99], 3)] := by decide +kernel
-- the stale survivor (hypothesis of `C12_update_sets_keys` fails for k = b: key a has 2 old entries, 1 new)
example : mdUpdate [([97], 1), ([97], 2), ([98], 3), ([98], 4)] [([97], 9), ([98], 8)] =
    [([97], 9), ([98], 8), ([98], 4)] := by decide +kernel
-- the hypotheses of `C12_update_sets_keys` are satisfiable with repeated keys: k = a on the old list a=1, a=2, c=3, b=4
-- (the other updated key b has one old entry and one new)
example : [97] ∈ keysOf [(([97] : Str), 9), ([98], 8)] ∧
    (∀ k' ∈ keysOf [(([97] : Str), 9), ([98], 8)], k' ≠ [97] →
      ([(([97] : Str), 1), ([97], 2), ([99], 3), ([98], 4)].filter (fun p => p.1 = k')).length ≤
      ([(([97] : Str), 9), ([98], 8)].filter (fun p => p.1 = k')).length) := by decide +kernel
-- hypotheses of `C12_update_first_position` on a non-trivial input (k = b at index 2, c and a in front)
example : ([(([99] : Str), 0), ([97], 1), ([98], 2), ([97], 3)].map (·.1)).idxOf [98] = 2 ∧
    ((([(([99] : Str), 0), ([97], 1), ([98], 2), ([97], 3)].take 2).map (·.1)).filter
      (fun x => (keysOf [(([97] : Str), 9), ([98], 8)]).contains x)).Nodup := by decide +kernel
example : mdUpdate [([99], 0), ([97], 1), ([98], 2), ([97], 3)] [([97], 9), ([98], 8)] =
    [([99], 0), ([97], 9), ([98], 8)] := by decide +kernel
-- the gate
example : queryVar (.float [110, 97, 110] 2) = .error .valueError ∧ queryVar .bool = .error .typeError ∧
    queryVar (.int (-12)) = .ok [45, 49, 50] := ⟨rfl, rfl, congrArg Except.ok (by decide +kernel)⟩
example : firstErr (flatVals [([97], .one (.int 1)), ([98], .many [.str [120], .float [105, 110, 102] 1, .bool])]) =
    some .valueError := by decide +kernel

end Yarl
