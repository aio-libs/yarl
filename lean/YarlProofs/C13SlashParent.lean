/-
  C13SlashParent.lean — C13Headline.lean GAPS item 4, last paragraph: the no-dot-segment guard of
  `(u / "a/b").parent == u / "a"` made exact.  `_make_child` normalises (authority only) exactly when the argument text contains a '.', so
  the two sides `(u / "a/b").parent` and `u / "a"` are normalised or not INDEPENDENTLY:
     '.' in a            : both sides normalised   — equal, whatever the old path;
     no '.' in a, b      : neither side normalised — equal, whatever the old path;
     '.' in b, none in a : only the left side      — equal IFF the old path has no dot segment.
  Equality is equality of STORED values (`Url` structurally), hence also `Url.beq` / Python `==` and `str()`.
-/
import YarlProofs.C13More3
import YarlProofs.C13HeadlineMore4
set_option linter.unusedVariables false
namespace Yarl
open Yarl.PathLemmas Yarl.PathAlg PathMore R12b

namespace SlashParent

/-- a plain segment: no '/', not empty, not "." and not ".." -/
def Plain (x : Str) : Prop := 47 ∉ x ∧ x ≠ [] ∧ x ≠ dot ∧ x ≠ dotdot

/-- the final stack of the OLD segments, root's empty segment dropped -/
def oldStack (u : Url) : List Str := C13_dropRootSeg (normLoop [] (root u.netloc (base u)))

theorem normLoop_snoc (X : List Str) (t : Str) (h1 : t ≠ dot) (h2 : t ≠ dotdot) :
    normLoop [] (X ++ [t]) = normLoop [] X ++ [t] := by
  have h := R4c.norm_snoc X t h1 h2
  rw [normalizePathSegments_eq_G] at h
  unfold G at h
  have ht : trail (X ++ [t]) = [] := by rw [trail_concat]; simp [h1, h2]
  rw [ht, List.append_nil] at h
  exact h

theorem stack_snoc (u : Url) (qa : Str) (hn : u.netloc ≠ []) (ha : Plain qa) :
    C13_dropRootSeg (normLoop [] (root u.netloc (base u ++ [qa]))) = oldStack u ++ [qa] := by
  obtain ⟨Xr, hM, hXrs, hXd⟩ := childRoot_snoc u [] qa hn ha.2.1 (by intro p hp; simp at hp)
  rw [List.nil_append] at hM
  rw [List.append_nil] at hXd
  rw [hM, normLoop_snoc Xr qa ha.2.2.1 ha.2.2.2, R4c.dropRoot_snoc _ _ ha.2.1, hXd]
  rfl

/-- LEFT side, normalised: `parent` of `childOf u [qa, qb] true` -/
theorem left_norm (u : Url) (qa qb : Str) (hn : u.netloc ≠ []) (ha : Plain qa) (hb : Plain qb) :
    parent (childOf u [qa, qb] true)
      = fromParts u.scheme u.netloc (joinC 47 ([] :: oldStack u) ++ 47 :: qa) [] [] := by
  have hS : Segs ([qa] ++ [qb]) := by
    intro p hp; simp at hp; rcases hp with rfl | rfl
    · exact ha.1
    · exact hb.1
  have h := parent_norm u [qa] qb hn hS hb.2.1 hb.2.2.1 hb.2.2.2
  rw [stack_snoc u qa hn ha, ← List.cons_append, PathLemmas.joinC_snoc 47 _ _ (by simp)] at h
  exact h

/-- RIGHT side, normalised -/
theorem right_norm (u : Url) (qa : Str) (hn : u.netloc ≠ []) (ha : Plain qa) :
    childOf u [qa] true = fromParts u.scheme u.netloc (joinC 47 ([] :: oldStack u) ++ 47 :: qa) [] [] := by
  have hn' : u.netloc.isEmpty = false := by simpa using hn
  have hS : Segs ([] ++ [qa]) := by intro p hp; simp at hp; subst hp; exact ha.1
  obtain ⟨_, hp⟩ := childOf_norm_last u [] qa hn hS ha.2.1 ha.2.2.1 ha.2.2.2
  rw [List.nil_append] at hp
  rw [List.append_nil, PathLemmas.joinC_snoc 47 _ _ (by simp)] at hp
  have : childOf u [qa] true = fromParts u.scheme u.netloc (childOf u [qa] true).path [] [] := by
    rw [childOf_true u _ hn']; rfl
  rw [this, hp]; rfl

/-- RIGHT side, not normalised, old path empty or rooted: the old path without its trailing slash, "/", `qa` -/
theorem right_plain (u : Url) (qa : Str) (hn : u.netloc ≠ []) (ha0 : qa ≠ [])
    (hpath : u.path = [] ∨ u.path.head? = some 47) :
    childOf u [qa] false = fromParts u.scheme u.netloc (dropSlash u.path ++ 47 :: qa) [] [] := by
  have hn' : u.netloc.isEmpty = false := by simpa using hn
  rw [childOf_false]
  congr 1
  rw [← joinC_base]
  by_cases hb : base u = []
  · rw [hb]
    obtain ⟨c, r, rfl⟩ := List.exists_cons_of_ne_nil ha0
    simp [root, hn', joinC, joinSep]
  · rw [root_append _ _ _ hb, root_base u (fun _ => hpath), PathLemmas.joinC_snoc 47 _ _ hb]

/-- CORE: the two sides on `childOf`, `nW` / `nV` the "needs normalising" flags of the two calls -/
theorem core (u : Url) (qa qb : Str) (nW nV : Bool) (hn : u.netloc ≠ []) (ha : Plain qa) (hb : Plain qb)
    (hW : nW = true ↔ (46 ∈ qa ∨ 46 ∈ qb)) (hV : nV = true ↔ 46 ∈ qa) :
    ((46 ∈ qa ∨ 46 ∉ qb) → parent (childOf u [qa, qb] nW) = childOf u [qa] nV) ∧
    ((u.path = [] ∨ u.path.head? = some 47) →
      (parent (childOf u [qa, qb] nW) = childOf u [qa] nV ↔ (46 ∈ qa ∨ 46 ∉ qb ∨ NoDots (base u)))) := by
  have hS : Segs ([qa] ++ [qb]) := by
    intro p hp; simp at hp; rcases hp with rfl | rfl
    · exact ha.1
    · exact hb.1
  have hpl : parent (childOf u [qa, qb] false) = childOf u [qa] false :=
    left_plain u [qa] qb hS hb.2.1 (fun h => absurd h hn)
  by_cases h1 : 46 ∈ qa
  · have e1 : nW = true := hW.2 (Or.inl h1)
    have e2 : nV = true := hV.2 h1
    have heq : parent (childOf u [qa, qb] nW) = childOf u [qa] nV := by
      rw [e1, e2, left_norm u qa qb hn ha hb, right_norm u qa hn ha]
    exact ⟨fun _ => heq, fun _ => ⟨fun _ => Or.inl h1, fun _ => heq⟩⟩
  · have e2 : nV = false := by
      cases hv : nV with
      | false => rfl
      | true => exact absurd (hV.1 hv) h1
    by_cases h2 : 46 ∈ qb
    · have e1 : nW = true := hW.2 (Or.inr h2)
      refine ⟨fun h => by rcases h with h | h; exact absurd h h1; exact absurd h2 h, fun hpath => ?_⟩
      rw [e1, e2, left_norm u qa qb hn ha hb, right_plain u qa hn ha.2.1 hpath]
      have hst := stack_path_iff u hpath
      constructor
      · intro h
        have hp := congrArg Url.path h
        exact Or.inr (Or.inr (hst.1 (List.append_cancel_right hp)))
      · rintro (h | h | h)
        · exact absurd h h1
        · exact absurd h2 h
        · show fromParts _ _ (joinC 47 ([] :: oldStack u) ++ _) _ _ = _
          unfold oldStack
          rw [hst.2 h]
    · have e1 : nW = false := by
        cases hw : nW with
        | false => rfl
        | true => rcases hW.1 hw with h | h; exact absurd h h1; exact absurd h h2
      have heq : parent (childOf u [qa, qb] nW) = childOf u [qa] nV := by rw [e1, e2]; exact hpl
      exact ⟨fun _ => heq, fun _ => ⟨fun _ => Or.inr (Or.inl h2), fun _ => heq⟩⟩

theorem noDots_base_iff (u : Url) : NoDots (base u) ↔ NoDots (splitOn 47 u.path) := by
  constructor
  · intro h s hs
    by_cases hp : u.path = []
    · rw [hp] at hs
      have : s = [] := by simpa [splitOn] using hs
      subst this; exact ⟨by decide, by decide⟩
    · have hp' : u.path.isEmpty = false := by simpa using hp
      have hb : base u = stripTrail (splitOn 47 u.path) := by simp [base, hp']
      rw [hb] at h
      unfold stripTrail at h
      split at h
      · rename_i hl
        by_cases hm : s ∈ (splitOn 47 u.path).dropLast
        · exact h s hm
        · have hne := splitOn_ne_nil 47 u.path
          have h3 := List.dropLast_concat_getLast hne
          have h2 := List.getLast?_eq_some_getLast hne
          rw [hl] at h2
          rw [← h3] at hs
          rcases List.mem_append.1 hs with h4 | h4
          · exact absurd h4 hm
          · simp at h4
            rw [h4, ← Option.some.inj h2]
            exact ⟨by decide, by decide⟩
      · exact h s hs
  · intro h s hs
    exact h s (mem_base hs)

/-- the one-argument call as `childOf` -/
theorem makeChild_single (e : Env) (u : Url) (p : Str) (enc : Bool) (v : Url)
    (h : makeChild e u [p] enc = .ok v) :
    v = childOf u (splitOn 47 (argText e enc p)) (mem 46 (argText e enc p)) := by
  rw [(makeChild_ok.1 h).2]; simp [argSegs, argDots]

theorem mem46_append (A B : Str) : (mem 46 (A ++ 47 :: B) = true) ↔ (46 ∈ A ∨ 46 ∈ B) := by
  rw [mem_iff]; simp

theorem plain_q (e : Env) (s : Str) (hs : PyStr s) (hsur : NoSurrogate s) (h47 : 47 ∉ s) (h0 : s ≠ [])
    (hd : s ≠ dot ∧ s ≠ dotdot) : Plain (q e Gen.PATH_QUOTER s) := by
  obtain ⟨d1, d2⟩ := q_path_eq_dot_iff e s hs hsur
  exact ⟨C13_path_quoter_no_slash e s hs h47, C13_path_quoter_nonempty e s hs hsur h0,
    fun hc => hd.1 (d1.1 hc), fun hc => hd.2 (d2.1 hc)⟩

end SlashParent

open SlashParent

/-! ## (b) closed forms, and the general (either `encoded` mode) equivalence -/

/-- (b)+(a), GENERAL form, either `encoded` mode, stated on the argument TEXTS `A`, `B` (`argText`: the argument itself
    for `encoded=True`, its quoted form otherwise), both plain segments; authority; ANY old path for the closed forms.
    With `S` the final stack of `normalize_path_segments` on the OLD segments (root's empty segment dropped):
    * `(u / "a/b").parent` has the path "/" + S + "/" + A when '.' occurs in `A` or `B`, and is `childOf u [A] false`
      (the un-normalised `u / a`) otherwise;
    * `u / a` has the path "/" + S + "/" + A when '.' occurs in `A`, and is `childOf u [A] false` otherwise;
    * hence the two are EQUAL whenever '.' occurs in `A` or does not occur in `B` — NO hypothesis on the old path;
    * and for an old path that is empty or rooted they are equal IF AND ONLY IF
      '.' ∈ A, or '.' ∉ B, or the old path has no dot segment. -/
theorem C13_child_slash_parent_iff_gen (e : Env) (enc : Bool) (u : Url) (a b : Str) (w v : Url)
    (hn : u.netloc ≠ [])
    (hAB : argText e enc (a ++ 47 :: b) = argText e enc a ++ 47 :: argText e enc b)
    (hA : Plain (argText e enc a)) (hB : Plain (argText e enc b)) :
    makeChild e u [a ++ 47 :: b] enc = .ok w → makeChild e u [a] enc = .ok v →
    let A := argText e enc a
    let B := argText e enc b
    let N := fromParts u.scheme u.netloc (joinC 47 ([] :: oldStack u) ++ 47 :: A) [] []
    parent w = (if 46 ∈ A ∨ 46 ∈ B then N else childOf u [A] false) ∧
    v = (if 46 ∈ A then N else childOf u [A] false) ∧
    ((46 ∈ A ∨ 46 ∉ B) → parent w = v) ∧
    ((u.path = [] ∨ u.path.head? = some 47) →
      (parent w = v ↔ (46 ∈ A ∨ 46 ∉ B ∨ NoDots (splitOn 47 u.path)))) := by
  intro h1 h2 A B N
  have hw := makeChild_single e u _ enc w h1
  have hv := makeChild_single e u _ enc v h2
  rw [hAB, splitOn_append 47, PathLemmas.splitOn_of_not_mem 47 _ hA.1, PathLemmas.splitOn_of_not_mem 47 _ hB.1] at hw
  rw [PathLemmas.splitOn_of_not_mem 47 _ hA.1] at hv
  have hW := mem46_append A B
  have hV := @mem_iff 46 A
  obtain ⟨c1, c2⟩ := core u A B _ _ hn hA hB hW hV
  have hS : Segs ([A] ++ [B]) := by
    intro p hp; simp at hp; rcases hp with rfl | rfl
    · exact hA.1
    · exact hB.1
  refine ⟨?_, ?_, ?_, ?_⟩
  · rw [hw]
    by_cases hc : 46 ∈ A ∨ 46 ∈ B
    · rw [if_pos hc, hW.2 hc]; exact left_norm u A B hn hA hB
    · rw [if_neg hc]
      have : mem 46 (A ++ 47 :: B) = false := by
        cases hm : mem 46 (A ++ 47 :: B) with
        | false => rfl
        | true => exact absurd (hW.1 hm) hc
      rw [this]
      exact left_plain u [A] B hS hB.2.1 (fun h => absurd h hn)
  · rw [hv]
    by_cases hc : 46 ∈ A
    · rw [if_pos hc, hV.2 hc]; exact right_norm u A hn hA
    · rw [if_neg hc]
      have : mem 46 A = false := by
        cases hm : mem 46 A with
        | false => rfl
        | true => exact absurd (hV.1 hm) hc
      rw [this]
  · intro hc; rw [hw, hv]; exact c1 hc
  · intro hpath; rw [hw, hv, ← noDots_base_iff]; exact c2 hpath

/-! ## (a) auto-encoding mode, stated on the Python strings `a`, `b` -/

/-- (a) `(u / (a + "/" + b)).parent == u / a`, `encoded=False`, URL with an authority, `a` and `b` plain non-empty
    segments (Python strings without lone surrogates, no '/', neither "." nor ".."):
    * the two are EQUAL AS STORED VALUES whenever `a` contains a '.' or `b` contains none — whatever the old path
      (dot segments, rootless next to the authority: anything);
    * for an old path that is empty or rooted they are equal IF AND ONLY IF
      `a` contains a '.', or `b` contains no '.', or the old path has no dot segment.
    So the guard "no dot segment in the old path" of `C13_headline_child_slash_parent` is needed ONLY for
    "'.' in `b` and none in `a`" (then only the left side is normalised), and there it is exact. -/
theorem C13_child_slash_parent_iff (e : Env) (u : Url) (a b : Str) (w v : Url)
    (hn : u.netloc ≠ [])
    (ha : PyStr a) (has : NoSurrogate a) (ha47 : 47 ∉ a) (ha0 : a ≠ []) (had : a ≠ dot ∧ a ≠ dotdot)
    (hb : PyStr b) (hbs : NoSurrogate b) (hb47 : 47 ∉ b) (hb0 : b ≠ []) (hbd : b ≠ dot ∧ b ≠ dotdot) :
    makeChild e u [a ++ 47 :: b] false = .ok w → makeChild e u [a] false = .ok v →
    ((46 ∈ a ∨ 46 ∉ b) → parent w = v) ∧
    ((u.path = [] ∨ u.path.head? = some 47) →
      (parent w = v ↔ (46 ∈ a ∨ 46 ∉ b ∨ NoDots (splitOn 47 u.path)))) := by
  intro h1 h2
  have hAB : argText e false (a ++ 47 :: b) = argText e false a ++ 47 :: argText e false b :=
    q_slash e a b ha hb
  obtain ⟨_, _, c1, c2⟩ := C13_child_slash_parent_iff_gen e false u a b w v hn hAB
    (plain_q e a ha has ha47 ha0 had) (plain_q e b hb hbs hb47 hb0 hbd) h1 h2
  have da : 46 ∈ argText e false a ↔ 46 ∈ a := q_path_mem_iff e a ha (.inl rfl)
  have db : 46 ∈ argText e false b ↔ 46 ∈ b := q_path_mem_iff e b hb (.inl rfl)
  rw [da, db] at c1 c2
  exact ⟨c1, c2⟩

/-- (a) corollary: with a '.' in `a`, or none in `b`, the law holds WITHOUT any guard on the old path -/
theorem C13_child_slash_parent_unguarded (e : Env) (u : Url) (a b : Str) (w v : Url)
    (hn : u.netloc ≠ [])
    (ha : PyStr a) (has : NoSurrogate a) (ha47 : 47 ∉ a) (ha0 : a ≠ []) (had : a ≠ dot ∧ a ≠ dotdot)
    (hb : PyStr b) (hbs : NoSurrogate b) (hb47 : 47 ∉ b) (hb0 : b ≠ []) (hbd : b ≠ dot ∧ b ≠ dotdot)
    (hdots : 46 ∈ a ∨ 46 ∉ b) :
    makeChild e u [a ++ 47 :: b] false = .ok w → makeChild e u [a] false = .ok v → parent w = v :=
  fun h1 h2 => (C13_child_slash_parent_iff e u a b w v hn ha has ha47 ha0 had hb hbs hb47 hb0 hbd h1 h2).1 hdots

/-- (a) the `encoded=True` variant (comes for free): the same statement on the raw arguments -/
theorem C13_child_slash_parent_iff_encoded (e : Env) (u : Url) (a b : Str) (w v : Url)
    (hn : u.netloc ≠ [])
    (ha47 : 47 ∉ a) (ha0 : a ≠ []) (had : a ≠ dot ∧ a ≠ dotdot)
    (hb47 : 47 ∉ b) (hb0 : b ≠ []) (hbd : b ≠ dot ∧ b ≠ dotdot) :
    makeChild e u [a ++ 47 :: b] true = .ok w → makeChild e u [a] true = .ok v →
    ((46 ∈ a ∨ 46 ∉ b) → parent w = v) ∧
    ((u.path = [] ∨ u.path.head? = some 47) →
      (parent w = v ↔ (46 ∈ a ∨ 46 ∉ b ∨ NoDots (splitOn 47 u.path)))) := by
  intro h1 h2
  obtain ⟨_, _, c1, c2⟩ := C13_child_slash_parent_iff_gen e true u a b w v hn rfl
    ⟨ha47, ha0, had.1, had.2⟩ ⟨hb47, hb0, hbd.1, hbd.2⟩ h1 h2
  exact ⟨c1, c2⟩

/-! ## (d) no authority: nothing is ever normalised -/

/-- (d) GENERAL form without an authority, either `encoded` mode: `a` ANY text (it may contain '/' and dot segments),
    `b` one non-empty segment (dots allowed: "." and ".." too), ANY old path (rootless, dot segments, …):
    `(u / (a + "/" + b)).parent` IS `u / a` — except on the EMPTY URL reference with an empty argument text
    (`hcorner`; `C13_headline_child_slash_parent_fails_for_surrogate` is the witness that it is needed). -/
theorem C13_child_slash_parent_no_authority_gen (e : Env) (enc : Bool) (u : Url) (a b : Str) (w v : Url)
    (hn : u.netloc = [])
    (hAB : argText e enc (a ++ 47 :: b) = argText e enc a ++ 47 :: argText e enc b)
    (hB47 : 47 ∉ argText e enc b) (hB0 : argText e enc b ≠ [])
    (hcorner : u.path = [] → argText e enc a ≠ []) :
    makeChild e u [a ++ 47 :: b] enc = .ok w → makeChild e u [a] enc = .ok v → parent w = v := by
  intro h1 h2
  have hw := makeChild_single e u _ enc w h1
  have hv := makeChild_single e u _ enc v h2
  rw [hAB, splitOn_append 47, PathLemmas.splitOn_of_not_mem 47 _ hB47] at hw
  have f : ∀ X nn, childOf u X nn = childOf u X false := by
    intro X nn; simp [childOf, hn]
  rw [hw, hv, f _ (mem 46 _), f _ (mem 46 (argText e enc a))]
  apply left_plain u _ _ (segs_append (segs_splitOn _) (segs_single hB47)) hB0
  intro _ hc
  rcases List.append_eq_cons_iff.1 hc with ⟨h3, h4⟩ | ⟨x, h3, h4⟩
  · have hA : argText e enc a = [] := by
      have := joinC_splitOn (c := 47) (argText e enc a)
      rw [h4] at this
      rw [← this]; rfl
    exact hcorner ((base_eq_nil_iff u).1 h3) hA
  · have : splitOn 47 (argText e enc a) = [] := (List.append_eq_nil_iff.1 h4.symm).2
    exact splitOn_ne_nil 47 _ this

/-- (d) `encoded=False`, no authority, `a` / `b` Python strings, `b` one non-empty segment, `a` without lone surrogates
    and non-empty (this implies the corner guard): the law holds UNCONDITIONALLY — dot segments anywhere are kept
    verbatim on both sides -/
theorem C13_child_slash_parent_no_authority (e : Env) (u : Url) (a b : Str) (w v : Url)
    (hn : u.netloc = [])
    (ha : PyStr a) (has : NoSurrogate a) (ha0 : a ≠ [])
    (hb : PyStr b) (hbs : NoSurrogate b) (hb47 : 47 ∉ b) (hb0 : b ≠ []) :
    makeChild e u [a ++ 47 :: b] false = .ok w → makeChild e u [a] false = .ok v → parent w = v :=
  C13_child_slash_parent_no_authority_gen e false u a b w v hn (q_slash e a b ha hb)
    (C13_path_quoter_no_slash e b hb hb47) (C13_path_quoter_nonempty e b hb hbs hb0)
    (fun _ => C13_path_quoter_nonempty e a ha has ha0)

/-- (d) `encoded=True`, no authority: NO guard at all besides "`b` is one non-empty segment" (an empty `a` makes the
    first call raise: the argument "/b" starts with '/') -/
theorem C13_child_slash_parent_no_authority_encoded (e : Env) (u : Url) (a b : Str) (w v : Url)
    (hn : u.netloc = []) (hb47 : 47 ∉ b) (hb0 : b ≠ []) :
    makeChild e u [a ++ 47 :: b] true = .ok w → makeChild e u [a] true = .ok v → parent w = v := by
  intro h1 h2
  have hh := heads_of_ok e u _ true w h1 (a ++ 47 :: b) (by simp)
  have ha0 : a ≠ [] := by rintro rfl; exact hh rfl
  exact C13_child_slash_parent_no_authority_gen e true u a b w v hn rfl hb47 hb0 (fun _ => ha0) h1 h2

/-! ## (c) computed instances, both backends (Python-level inputs) -/

section instances
private def eC (b : Backend) : Env := { b := b, o := Oracles.empty }
/-- `URL("http://h/a/../b", encoded=True)`: an authority and dot segments in the (rooted) old path -/
private def uD : Url := fromParts "http".toStr "h".toStr "/a/../b".toStr [] []
/-- `URL("http://h/k/")` -/
private def uK : Url := fromParts "http".toStr "h".toStr "/k/".toStr [] []
/-- `URL("/a/../b", encoded=True)`: NO authority -/
private def uR : Url := fromParts [] [] "/a/../b".toStr [] []
private def H (p : String) : Url := fromParts "http".toStr "h".toStr p.toStr [] []

/-- (c) the guard is NEEDED for "'.' in `b`, none in `a`": with `u = URL("http://h/a/../b", encoded=True)`,
    `(u / "x/y.t")` is `http://h/b/x/y.t`, its parent `http://h/b/x`, but `u / "x"` is `http://h/a/../b/x` —
    different stored values, different `str()`, and different as Python `==` (`eqKey`).  Same with `encoded=True`.
    The condition of `C13_child_slash_parent_iff` fails: no '.' in "x", a '.' in "y.t", a ".." segment in the old path. -/
theorem C13_child_slash_parent_fails_for_dotted_old_path : ∀ bk : Backend,
    let e : Env := ⟨bk, Oracles.empty⟩
    let u := fromParts "http".toStr "h".toStr "/a/../b".toStr [] []
    let U := fun (p : String) => fromParts "http".toStr "h".toStr p.toStr [] []
    makeChild e u ["x/y.t".toStr] false = .ok (U "/b/x/y.t") ∧
    makeChild e u ["x/y.t".toStr] true = .ok (U "/b/x/y.t") ∧
    parent (U "/b/x/y.t") = U "/b/x" ∧
    makeChild e u ["x".toStr] false = .ok (U "/a/../b/x") ∧
    makeChild e u ["x".toStr] true = .ok (U "/a/../b/x") ∧
    U "/b/x" ≠ U "/a/../b/x" ∧ eqKey (U "/b/x") ≠ eqKey (U "/a/../b/x") ∧
    ¬ (46 ∈ "x".toStr ∨ 46 ∉ "y.t".toStr ∨ NoDots (splitOn 47 u.path)) := by
  dsimp only; str_lits; intro bk; cases bk <;> (unfold NoDots; decide +kernel)

/-- (c) the other three dot patterns on the SAME dotted old path: the law HOLDS (no guard on the old path needed) —
    '.' in both ("x.t/y.t": both sides normalised, `http://h/b/x.t`), '.' in `a` only ("x.t/y": `http://h/b/x.t`),
    no '.' at all ("x/y": nothing normalised, `http://h/a/../b/x`); both `encoded` modes -/
theorem C13_child_slash_parent_holds_on_dotted_old_path : ∀ bk : Backend, ∀ enc : Bool,
    let e : Env := ⟨bk, Oracles.empty⟩
    let u := fromParts "http".toStr "h".toStr "/a/../b".toStr [] []
    let U := fun (p : String) => fromParts "http".toStr "h".toStr p.toStr [] []
    (makeChild e u ["x.t/y.t".toStr] enc).map parent = .ok (U "/b/x.t") ∧
    (makeChild e u ["x.t/y".toStr] enc).map parent = .ok (U "/b/x.t") ∧
    makeChild e u ["x.t".toStr] enc = .ok (U "/b/x.t") ∧
    (makeChild e u ["x/y".toStr] enc).map parent = .ok (U "/a/../b/x") ∧
    makeChild e u ["x".toStr] enc = .ok (U "/a/../b/x") := by
  dsimp only; str_lits; intro bk enc; cases bk <;> cases enc <;> decide +kernel

/-- (c)/(d) WITHOUT an authority nothing is normalised: `(URL("/a/../b", encoded=True) / "x/y.t").parent` and
    `URL("/a/../b", encoded=True) / "x"` are both `/a/../b/x`; even with dot-segment ARGUMENTS:
    `(URL("/a/../b") / "../..").parent` is `URL("/a/../b") / ".."` = `/a/../b/..` -/
theorem C13_child_slash_parent_no_authority_instances : ∀ bk : Backend, ∀ enc : Bool,
    let e : Env := ⟨bk, Oracles.empty⟩
    let u := fromParts [] [] "/a/../b".toStr [] []
    let P := fun (p : String) => fromParts [] [] p.toStr [] []
    (makeChild e u ["x/y.t".toStr] enc).map parent = .ok (P "/a/../b/x") ∧
    makeChild e u ["x".toStr] enc = .ok (P "/a/../b/x") ∧
    (makeChild e u ["../..".toStr] enc).map parent = .ok (P "/a/../b/..") ∧
    makeChild e u ["..".toStr] enc = .ok (P "/a/../b/..") := by
  dsimp only; str_lits; intro bk enc; cases bk <;> cases enc <;> decide +kernel

/-! ### non-vacuity of every hypothesis set, THROUGH the theorems -/

/-- hypotheses of `C13_child_slash_parent_iff` on the dotted old path, a = "x y" (quoted to "x%20y"), b = "y.t":
    the theorem says the law FAILS there; with a = "x.t" it says the law holds -/
example : ∀ bk : Backend, ∀ w v : Url,
    makeChild (eC bk) uD ["x y/y.t".toStr] false = .ok w → makeChild (eC bk) uD ["x y".toStr] false = .ok v →
    parent w ≠ v := by
  intro bk w v h1 h2 heq
  have h := (C13_child_slash_parent_iff (eC bk) uD "x y".toStr "y.t".toStr w v (by decide)
    (by decide) (by decide) (by decide) (by decide) (by decide) (by decide) (by decide) (by decide) (by decide)
    (by decide) h1 h2).2 (Or.inr (by decide))
  have hc : ¬ (46 ∈ "x y".toStr ∨ 46 ∉ "y.t".toStr ∨ NoDots (splitOn 47 uD.path)) := by
    unfold NoDots; decide +kernel
  exact hc (h.1 heq)
example : ∀ bk : Backend,
    (makeChild (eC bk) uD ["x y/y.t".toStr] false).isOk = true ∧ (makeChild (eC bk) uD ["x y".toStr] false).isOk = true := by
  simp only [uD]; str_lits; intro bk; cases bk <;> decide +kernel

example : ∀ bk : Backend, ∀ w v : Url,
    makeChild (eC bk) uD ["x.t/y.t".toStr] false = .ok w → makeChild (eC bk) uD ["x.t".toStr] false = .ok v →
    parent w = v := fun bk w v =>
  C13_child_slash_parent_unguarded (eC bk) uD "x.t".toStr "y.t".toStr w v (by decide)
    (by decide) (by decide) (by decide) (by decide) (by decide) (by decide) (by decide) (by decide) (by decide)
    (by decide) (Or.inl (by decide))

/-- the third disjunct: `URL("http://h/k/")` has no dot segment, a = "x", b = "y.t": the law holds, via the iff -/
example : ∀ bk : Backend, ∀ w v : Url,
    makeChild (eC bk) uK ["x/y.t".toStr] false = .ok w → makeChild (eC bk) uK ["x".toStr] false = .ok v →
    parent w = v := fun bk w v h1 h2 =>
  ((C13_child_slash_parent_iff (eC bk) uK "x".toStr "y.t".toStr w v (by decide)
    (by decide) (by decide) (by decide) (by decide) (by decide) (by decide) (by decide) (by decide) (by decide)
    (by decide) h1 h2).2 (Or.inr (by decide))).2 (Or.inr (Or.inr (by unfold NoDots; decide +kernel)))
example : ∀ bk : Backend,
    makeChild (eC bk) uK ["x/y.t".toStr] false = .ok (H "/k/x/y.t") ∧
    makeChild (eC bk) uK ["x".toStr] false = .ok (H "/k/x") ∧ parent (H "/k/x/y.t") = H "/k/x" := by
  simp only [uK, H]; str_lits; intro bk; cases bk <;> decide +kernel

/-- `C13_child_slash_parent_iff_encoded` on the dotted old path -/
example : ∀ bk : Backend, ∀ w v : Url,
    makeChild (eC bk) uD ["x%20y/y.t".toStr] true = .ok w → makeChild (eC bk) uD ["x%20y".toStr] true = .ok v →
    parent w ≠ v := by
  intro bk w v h1 h2 heq
  have h := (C13_child_slash_parent_iff_encoded (eC bk) uD "x%20y".toStr "y.t".toStr w v (by decide)
    (by decide) (by decide) (by decide) (by decide) (by decide) (by decide) h1 h2).2 (Or.inr (by decide))
  have hc : ¬ (46 ∈ "x%20y".toStr ∨ 46 ∉ "y.t".toStr ∨ NoDots (splitOn 47 uD.path)) := by
    unfold NoDots; decide +kernel
  exact hc (h.1 heq)
example : ∀ bk : Backend,
    (makeChild (eC bk) uD ["x%20y/y.t".toStr] true).isOk = true ∧ (makeChild (eC bk) uD ["x%20y".toStr] true).isOk = true := by
  simp only [uD]; str_lits; intro bk; cases bk <;> decide +kernel

/-- `C13_child_slash_parent_iff_gen`: its hypotheses for `encoded=False`, a = "x y", b = "y.t" -/
example : ∀ bk : Backend,
    uD.netloc ≠ [] ∧
    argText (eC bk) false ("x y".toStr ++ 47 :: "y.t".toStr)
      = argText (eC bk) false "x y".toStr ++ 47 :: argText (eC bk) false "y.t".toStr ∧
    argText (eC bk) false "x y".toStr = "x%20y".toStr ∧
    oldStack uD = ["b".toStr] := by
  simp only [uD]; str_lits; intro bk; cases bk <;> decide +kernel
example : ∀ bk : Backend, Plain (argText (eC bk) false "x y".toStr) ∧ Plain (argText (eC bk) false "y.t".toStr) := by
  intro bk; cases bk <;> (unfold Plain; decide +kernel)

/-- the no-authority theorems: dotted old path, dot-segment arguments -/
example : ∀ bk : Backend, ∀ w v : Url,
    makeChild (eC bk) uR ["../..".toStr] false = .ok w → makeChild (eC bk) uR ["..".toStr] false = .ok v →
    parent w = v := fun bk w v =>
  C13_child_slash_parent_no_authority (eC bk) uR "..".toStr "..".toStr w v rfl
    (by decide) (by decide) (by decide) (by decide) (by decide) (by decide) (by decide)
example : ∀ bk : Backend, ∀ w v : Url,
    makeChild (eC bk) uR ["x/./..".toStr] true = .ok w → makeChild (eC bk) uR ["x/.".toStr] true = .ok v →
    parent w = v := fun bk w v =>
  C13_child_slash_parent_no_authority_encoded (eC bk) uR "x/.".toStr "..".toStr w v rfl (by decide) (by decide)
example : ∀ bk : Backend,
    (makeChild (eC bk) uR ["x/./..".toStr] true).isOk = true ∧ (makeChild (eC bk) uR ["x/.".toStr] true).isOk = true := by
  simp only [uR]; str_lits; intro bk; cases bk <;> decide +kernel
end instances

end Yarl
