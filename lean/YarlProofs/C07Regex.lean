import YarlProofs.Lemmas.Regex
import YarlModel.Rfc
import YarlModel.Generated
import YarlProofs.C07More

/-
  C07Regex.lean — the two specifications `Rfc.appendixB` (YarlModel/Rfc.lean) and `Rfc.authoritySplit` (C07More.lean)
  against regular expressions quoted as TEXT and run by a generic matcher.  Namespace `R10`: the capture functions the
  statements mention (`fragCaps` … `schemeCaps`, `P1` … `PQ`) and the helpers.

  The generic regular-expression engine is Lemmas/Regex.lean (imports only `Str`): AST `Re` with capture groups, the
  continuation-passing BACKTRACKING matcher `matchK` (greedy `?` `*` `+`, ordered `|`), `regexGroups r s` =
  `re.match(r, s).groups()` (anchored at the start only), and `parseRe`, a parser for the concrete syntax.

  Appendix B.
   * `appendixBText` is the TEXT `^(([^:/?#]+):)?(//([^/?#]*))?([^?#]*)(\?([^#]*))?(#(.*))?` of the RFC;
     `C07_appendixBRe_is_text : parseRe appendixBText = some appendixBRe`.
   * `C07_appendixB_is_regex (s)` — for EVERY text: `Rfc.appendixB Gen.schemeChars s` = ($2 lower-cased, $4, $5, $7, $9)
     of that expression, undefined read as empty, PROVIDED `$2` is undefined or made of `scheme_chars`; otherwise (this
     is urllib's / yarl's deviation from the regular expression, stated exactly) = the same groups of the expression WITHOUT
     its first group `(([^:/?#]+):)?`, i.e. "no scheme", applied to the whole text.  `C07_appendixB_is_regex_gen` is the
     same for any character table without `/ ? #`.  `C07_regex_scheme_group` says what `$2` is.
   * `C07_appendixB_regex_recompose (s)` — "undefined" vs "empty": RFC 3986 §5.3 recomposition of the groups (delimiter
     written iff the group is DEFINED) gives back the text, for every text.
  Authority.
   * `C07_authoritySplit_is_regex (a)` — for EVERY text: `Rfc.authoritySplit a` = the split by `((.*)@)?(.*)` (LAST
     '@': greedy `.*`, real backtracking), `([^:]*)(:(.*))?` on the userinfo (FIRST ':') and `hostPortText` on the rest
     (bracketed literal, else FIRST ':'); each expression parsed from its text.
   * `C07_authoritySplit_rfc_grammar` — on every authority generated by the RFC 3986 §3.2 grammar
     `[ userinfo "@" ] host [ ":" port ]` the result is the grammatical decomposition (so FIRST = LAST = only ':' there).

  Semantics notes.  `.` is "any code point" (POSIX / `re.S`); Python's default `.` excludes '\n', which `cleanUrl` has
  removed anyway.  Groups under a quantifier keep their last value (Perl / Python); an iteration of `*` must consume
  (ECMAScript; Python differs only for starred expressions that can match the empty text — none occurs here).
-/

namespace Yarl
open Yarl.Regex

/-! ## The regular expression of RFC 3986 Appendix B, literally -/

/-- the TEXT of the regular expression of RFC 3986 Appendix B -/
def appendixBText : String := "^(([^:/?#]+):)?(//([^/?#]*))?([^?#]*)(\\?([^#]*))?(#(.*))?"

/-- `(([^:/?#]+):)?` -/
def schemeRe : Re := .opt (.group 1 (.seq (.group 2 (.plus (.set true [58, 47, 63, 35]))) (.chr 58)))
/-- `(//([^/?#]*))?` -/
def authRe : Re := .opt (.group 3 (.seq (.chr 47) (.seq (.chr 47) (.group 4 (.star (.set true [47, 63, 35]))))))
/-- `([^?#]*)` -/
def pathRe : Re := .group 5 (.star (.set true [63, 35]))
/-- `(\?([^#]*))?` -/
def queryRe : Re := .opt (.group 6 (.seq (.chr 63) (.group 7 (.star (.set true [35])))))
/-- `(#(.*))?` -/
def fragRe : Re := .opt (.group 8 (.seq (.chr 35) (.group 9 (.star .any))))

/-- the Appendix B expression WITHOUT its first group `(([^:/?#]+):)?`; the groups keep their numbers 3..9 -/
def appendixBTailRe : Re := .seq authRe (.seq pathRe (.seq queryRe fragRe))
/-- the Appendix B expression -/
def appendixBRe : Re := .seq schemeRe appendixBTailRe

namespace R10

theorem matchK_chr (ch : Nat) (s : Str) (c : Caps) (k : K) :
    matchK (.chr ch) s c k = match s with
      | x :: r => if x = ch then k r c else none
      | [] => none := by
  unfold Re.chr
  cases s with
  | nil => simp only [matchK]
  | cons x r => simp [matchK, inSet]

/-- `(…[class]*)` in front of a continuation that accepts the longest run -/
theorem group_star_greedy {a : Re} {p : Nat → Bool} (h : isCls a = some p) (n : Nat) (s : Str) (c : Caps) (k : K)
    (r : Caps) (hk : k (s.dropWhile p) ((n, s.takeWhile p) :: c) = some r) :
    matchK (.group n (.star a)) s c k = some r := by
  rw [matchK]
  apply star_cls_greedy h
  simp only [consumed_dropWhile]
  exact hk

/-- `(…[class]+)` in front of a continuation that rejects every text starting inside the class -/
theorem group_plus_stop {a : Re} {p : Nat → Bool} (h : isCls a = some p) (n : Nat) (s : Str) (c : Caps) (k : K)
    (hk : ∀ x r c', p x = true → k (x :: r) c' = none) :
    matchK (.group n (.plus a)) s c k = match s with
      | x :: t => if p x then k (t.dropWhile p) ((n, x :: t.takeWhile p) :: c) else none
      | [] => none := by
  rw [matchK, matchK_plus, matchK, matchK_cls h]
  cases s with
  | nil => rfl
  | cons x t =>
    simp only
    split
    · rw [star_cls_stop h]
      · simp only [consumed_cons_dropWhile]
      · intro y r hy; exact hk y r _ hy
    · rfl

/-! ### the captures the Appendix B expression computes, stage by stage -/

abbrev k0 : K := fun _ c => some c

def P1 : Nat → Bool := inSet true [58, 47, 63, 35]
def P3 : Nat → Bool := inSet true [47, 63, 35]
def P2 : Nat → Bool := inSet true [63, 35]
def PQ : Nat → Bool := inSet true [35]

def fragCaps (s : Str) (c : Caps) : Caps :=
  match s with
  | 35 :: r => (8, s) :: (9, r) :: c
  | _ => c

def queryCaps (s : Str) (c : Caps) : Caps :=
  match s with
  | 63 :: r => fragCaps (r.dropWhile PQ) ((6, 63 :: r.takeWhile PQ) :: (7, r.takeWhile PQ) :: c)
  | _ => fragCaps s c

def pathCaps (s : Str) (c : Caps) : Caps := queryCaps (s.dropWhile P2) ((5, s.takeWhile P2) :: c)

def authCaps (s : Str) (c : Caps) : Caps :=
  match s with
  | 47 :: 47 :: r => pathCaps (r.dropWhile P3) ((3, 47 :: 47 :: r.takeWhile P3) :: (4, r.takeWhile P3) :: c)
  | _ => pathCaps s c

def schemeCaps (s : Str) (c : Caps) : Caps :=
  match s.takeWhile P1, s.dropWhile P1 with
  | x :: pre, 58 :: rest => authCaps rest ((1, x :: pre ++ [58]) :: (2, x :: pre) :: c)
  | _, _ => authCaps s c

theorem fragCaps_ne {x : Nat} (hx : x ≠ 35) (r : Str) (c : Caps) : fragCaps (x :: r) c = c := by
  unfold fragCaps
  split
  · rename_i h; injection h with h1 h2; exact absurd h1 hx
  · rfl

theorem frag_eval (s : Str) (c : Caps) : matchK fragRe s c k0 = some (fragCaps s c) := by
  unfold fragRe
  rw [matchK, matchK, matchK, matchK_chr]
  match s with
  | [] => rfl
  | x :: r =>
    by_cases hx : x = 35
    · subst hx
      simp only [↓reduceIte]
      rw [group_star_greedy (a := .any) (p := fun _ => true) rfl 9 r c _ ((8, 35 :: r) :: (9, r) :: c)]
      · rfl
      · simp [QsLemmas.dropWhile_all, QsLemmas.takeWhile_all, consumed_nil]
    · simp only [hx, ↓reduceIte, Option.orElse, fragCaps_ne hx]

theorem queryCaps_ne {x : Nat} (hx : x ≠ 63) (r : Str) (c : Caps) : queryCaps (x :: r) c = fragCaps (x :: r) c := by
  unfold queryCaps
  split
  · rename_i h; injection h with h1 h2; exact absurd h1 hx
  · rfl

theorem kfrag : (fun s' c' => matchK fragRe s' c' k0) = fun s' c' => some (fragCaps s' c') := by
  funext s' c'; exact frag_eval s' c'

theorem query_eval (s : Str) (c : Caps) : matchK (.seq queryRe fragRe) s c k0 = some (queryCaps s c) := by
  rw [matchK, kfrag]
  unfold queryRe
  rw [matchK, matchK, matchK, matchK_chr]
  match s with
  | [] => rfl
  | x :: r =>
    by_cases hx : x = 63
    · subst hx
      simp only [↓reduceIte]
      rw [group_star_greedy (a := .set true [35]) (p := PQ) rfl 7 r c _ (queryCaps (63 :: r) c)]
      · rfl
      · simp only [consumed_cons_dropWhile]; rfl
    · simp only [hx, ↓reduceIte, Option.orElse, queryCaps_ne hx]

theorem kquery : (fun s' c' => matchK (.seq queryRe fragRe) s' c' k0) = fun s' c' => some (queryCaps s' c') := by
  funext s' c'; exact query_eval s' c'

theorem path_eval (s : Str) (c : Caps) :
    matchK (.seq pathRe (.seq queryRe fragRe)) s c k0 = some (pathCaps s c) := by
  rw [matchK, kquery]
  unfold pathRe
  rw [group_star_greedy (a := .set true [63, 35]) (p := P2) rfl 5 s c _ (pathCaps s c)]
  rfl

theorem kpath : (fun s' c' => matchK (.seq pathRe (.seq queryRe fragRe)) s' c' k0) =
    fun s' c' => some (pathCaps s' c') := by
  funext s' c'; exact path_eval s' c'

theorem authCaps_ne1 {x : Nat} (hx : x ≠ 47) (r : Str) (c : Caps) : authCaps (x :: r) c = pathCaps (x :: r) c := by
  unfold authCaps
  split
  · rename_i h; injection h with h1 h2; exact absurd h1 hx
  · rfl

theorem authCaps_ne2 {x : Nat} (hx : x ≠ 47) (r : Str) (c : Caps) :
    authCaps (47 :: x :: r) c = pathCaps (47 :: x :: r) c := by
  unfold authCaps
  split
  · rename_i h; injection h with h1 h2; injection h2 with h3 h4; exact absurd h3 hx
  · rfl

theorem consumed_append (pre s s' : Str) (h : s'.length ≤ s.length) :
    consumed (pre ++ s) s' = pre ++ consumed s s' := by
  unfold consumed
  rw [List.length_append, show pre.length + s.length - s'.length = pre.length + (s.length - s'.length) by omega,
    List.take_length_add_append]

theorem consumed_pre_dropWhile (pre : Str) (p : Nat → Bool) (s : Str) :
    consumed (pre ++ s) (s.dropWhile p) = pre ++ s.takeWhile p := by
  rw [consumed_append _ _ _ (List.dropWhile_sublist p).length_le, consumed_dropWhile]

theorem tail_eval (s : Str) (c : Caps) : matchK appendixBTailRe s c k0 = some (authCaps s c) := by
  unfold appendixBTailRe
  rw [matchK, kpath]
  unfold authRe
  rw [matchK, matchK, matchK, matchK_chr]
  match s with
  | [] => rfl
  | x :: s1 =>
    by_cases hx : x = 47
    · subst hx
      simp only [↓reduceIte]
      rw [matchK, matchK_chr]
      match s1 with
      | [] => rfl
      | y :: r =>
        by_cases hy : y = 47
        · subst hy
          simp only [↓reduceIte]
          rw [group_star_greedy (a := .set true [47, 63, 35]) (p := P3) rfl 4 r c _ (authCaps (47 :: 47 :: r) c)]
          · rfl
          · have := consumed_pre_dropWhile [47, 47] P3 r
            simp only [List.cons_append, List.nil_append] at this
            simp only [this]
            rfl
        · simp only [hy, ↓reduceIte, Option.orElse, authCaps_ne2 hy]
    · simp only [hx, ↓reduceIte, Option.orElse, authCaps_ne1 hx]

theorem ktail : (fun s' c' => matchK appendixBTailRe s' c' k0) = fun s' c' => some (authCaps s' c') := by
  funext s' c'; exact tail_eval s' c'

theorem P1_ne_colon {x : Nat} (h : P1 x = true) : x ≠ 58 := by
  intro e; subst e; exact absurd h (by decide)

theorem consumed_split (pre rest : Str) : consumed (pre ++ rest) rest = pre := by
  rw [consumed_append _ _ _ (Nat.le_refl _), consumed_self, List.append_nil]

theorem schemeCaps_cons_in {x : Nat} (hx : P1 x = true) (t : Str) (c : Caps) :
    schemeCaps (x :: t) c = match t.dropWhile P1 with
      | 58 :: rest => authCaps rest ((1, x :: t.takeWhile P1 ++ [58]) :: (2, x :: t.takeWhile P1) :: c)
      | _ => authCaps (x :: t) c := by
  unfold schemeCaps
  simp only [List.takeWhile_cons, hx, ↓reduceIte, List.dropWhile_cons]
  split
  · rename_i h1 h2; rw [h2]; injection h1 with h3 h4; subst h3 h4; rfl
  · rename_i h1
    split
    · rename_i rest h2; exact absurd h2 (h1 _ _ _ rfl)
    · rfl

theorem schemeCaps_cons_out {x : Nat} (hx : ¬ P1 x = true) (t : Str) (c : Caps) :
    schemeCaps (x :: t) c = authCaps (x :: t) c := by
  unfold schemeCaps
  simp only [List.takeWhile_cons, hx, ↓reduceIte, List.dropWhile_cons, Bool.false_eq_true]

theorem full_eval (s : Str) (c : Caps) : matchK appendixBRe s c k0 = some (schemeCaps s c) := by
  unfold appendixBRe
  rw [matchK, ktail]
  unfold schemeRe
  rw [matchK, matchK, matchK]
  rw [group_plus_stop (a := .set true [58, 47, 63, 35]) (p := P1) rfl]
  · match s with
    | [] => rfl
    | x :: t =>
      by_cases hx : P1 x = true
      · simp only [hx, ↓reduceIte, matchK_chr, schemeCaps_cons_in hx]
        have hsplit := List.takeWhile_append_dropWhile (p := P1) (l := t)
        generalize t.dropWhile P1 = d at hsplit ⊢
        generalize t.takeWhile P1 = w at hsplit ⊢
        subst hsplit
        match d with
        | [] => rfl
        | y :: r =>
          by_cases h58 : y = 58
          · subst h58
            simp only [↓reduceIte, Option.orElse]
            have : consumed (x :: (w ++ 58 :: r)) r = x :: w ++ [58] := by
              have := consumed_split (x :: w ++ [58]) r
              simpa using this
            rw [this]
          · simp only [h58, ↓reduceIte, Option.orElse]
            split
            · rename_i rest h2; injection h2 with h3 h4; exact absurd h3 h58
            · rfl
      · simp only [hx, ↓reduceIte, Option.orElse, schemeCaps_cons_out hx, Bool.false_eq_true]
  · intro x r c' hx
    rw [matchK_chr]
    simp only [P1_ne_colon hx, ↓reduceIte]

/-- the body of `Rfc.appendixB` after the scheme scan -/
def tailOf (scheme r1 : Str) : Rfc.Parts5 :=
  let (authority, r2) :=
    match r1 with
    | 47 :: 47 :: r => (r.takeWhile (fun c => !Rfc.isDelim3 c), r.dropWhile (fun c => !Rfc.isDelim3 c))
    | _ => ([], r1)
  let path := r2.takeWhile (fun c => !Rfc.isDelim2 c)
  let r3 := r2.dropWhile (fun c => !Rfc.isDelim2 c)
  let (query, r4) :=
    match r3 with
    | 63 :: r => (r.takeWhile (· ≠ 35), r.dropWhile (· ≠ 35))
    | _ => ([], r3)
  let fragment := match r4 with
    | 35 :: r => r
    | _ => []
  { scheme := scheme, authority := authority, path := path, query := query, fragment := fragment }

theorem appendixB_tailOf (chars s : Str) :
    Rfc.appendixB chars s = tailOf (Rfc.schemeOf chars s).1 (Rfc.schemeOf chars s).2 := rfl

theorem P3_eq : P3 = fun c => !Rfc.isDelim3 c := by
  funext c; simp [P3, inSet, Rfc.isDelim3, Bool.and_assoc]
theorem P2_eq : P2 = fun c => !Rfc.isDelim2 c := by
  funext c; simp [P2, inSet, Rfc.isDelim2]
theorem PQ_eq : PQ = fun c => decide (c ≠ 35) := by
  funext c; simp [PQ, inSet]

/-- `$9`: defined iff the text starts with '#' -/
def fragOpt (s : Str) : Option Str :=
  match s with
  | 35 :: r => some r
  | _ => none
/-- `$7`: defined iff the text starts with '?' -/
def queryOpt (s : Str) : Option Str :=
  match s with
  | 63 :: r => some (r.takeWhile PQ)
  | _ => none
def queryRest (s : Str) : Str :=
  match s with
  | 63 :: r => r.dropWhile PQ
  | _ => s
/-- `$4`: defined iff the text starts with "//" -/
def authOpt (r1 : Str) : Option Str :=
  match r1 with
  | 47 :: 47 :: r => some (r.takeWhile P3)
  | _ => none
/-- the part of the text the path scan starts at -/
def afterAuth (r1 : Str) : Str :=
  match r1 with
  | 47 :: 47 :: r => r.dropWhile P3
  | _ => r1

def authStage (r1 : Str) : Str × Str :=
  match r1 with
  | 47 :: 47 :: r => (r.takeWhile P3, r.dropWhile P3)
  | _ => ([], r1)
def queryStage (r3 : Str) : Str × Str :=
  match r3 with
  | 63 :: r => (r.takeWhile PQ, r.dropWhile PQ)
  | _ => ([], r3)
def fragStage (r4 : Str) : Str :=
  match r4 with
  | 35 :: r => r
  | _ => []

theorem tailOf_staged (sch r1 : Str) :
    tailOf sch r1 =
      { scheme := sch, authority := (authStage r1).1, path := (authStage r1).2.takeWhile P2,
        query := (queryStage ((authStage r1).2.dropWhile P2)).1,
        fragment := fragStage (queryStage ((authStage r1).2.dropWhile P2)).2 } := by
  unfold tailOf
  rw [← P3_eq, ← P2_eq, ← PQ_eq]
  rfl

theorem stage1 (r1 : Str) : (authOpt r1).getD [] = (authStage r1).1 ∧ afterAuth r1 = (authStage r1).2 := by
  unfold authStage afterAuth authOpt
  split <;> simp

theorem stage2 (r3 : Str) : (queryOpt r3).getD [] = (queryStage r3).1 ∧ queryRest r3 = (queryStage r3).2 := by
  unfold queryStage queryOpt queryRest
  split <;> simp

theorem stage3 (r4 : Str) : (fragOpt r4).getD [] = fragStage r4 := by
  unfold fragStage fragOpt
  split <;> simp

/-- all nine groups of the expression without its scheme group, at once -/
theorem authCaps_groups (r1 : Str) (c : Caps) (hc : ∀ i, 3 ≤ i → c.lookup i = none) :
    groupsOf 9 (authCaps r1 c) =
      [c.lookup 1, c.lookup 2, (authOpt r1).map (47 :: 47 :: ·), authOpt r1, some ((afterAuth r1).takeWhile P2),
       (queryOpt ((afterAuth r1).dropWhile P2)).map (63 :: ·), queryOpt ((afterAuth r1).dropWhile P2),
       (fragOpt (queryRest ((afterAuth r1).dropWhile P2))).map (35 :: ·),
       fragOpt (queryRest ((afterAuth r1).dropWhile P2))] := by
  have h3 := hc 3 (by omega)
  have h4 := hc 4 (by omega)
  have h5 := hc 5 (by omega)
  have h6 := hc 6 (by omega)
  have h7 := hc 7 (by omega)
  have h8 := hc 8 (by omega)
  have h9 := hc 9 (by omega)
  -- every capture function is a pattern match on the head of its text: eight cases, in each the captures are a
  -- literal association list in front of `c`
  unfold authCaps authOpt afterAuth pathCaps queryCaps queryOpt queryRest fragCaps fragOpt
  split <;> split <;> split <;> simp [groupsOf, List.range, List.range.loop, List.lookup, *]

/-! ### the scheme group -/

/-- `$2` and what follows `$1`: the text is `w ++ ":" ++ rest` with `w` non-empty and free of `: / ? #` -/
def schemeSplit (s : Str) : Option (Str × Str) :=
  match s.takeWhile P1, s.dropWhile P1 with
  | x :: pre, 58 :: rest => some (x :: pre, rest)
  | _, _ => none

theorem schemeSplit_some {s w rest : Str} (h : schemeSplit s = some (w, rest)) :
    s = w ++ 58 :: rest ∧ w ≠ [] ∧ ∀ x ∈ w, P1 x = true := by
  unfold schemeSplit at h
  have hs := List.takeWhile_append_dropWhile (p := P1) (l := s)
  have ha := ParseLemmas.mem_takeWhile_imp P1 s
  split at h
  · rename_i x pre rest' h1 h2
    injection h with h; injection h with h3 h4
    subst h3 h4
    rw [h1, h2] at hs
    rw [h1] at ha
    exact ⟨hs.symm, by simp, ha⟩
  · exact absurd h (by simp)

theorem schemeSplit_intro {w rest : Str} (hw : w ≠ []) (hp : ∀ x ∈ w, P1 x = true) :
    schemeSplit (w ++ 58 :: rest) = some (w, rest) := by
  unfold schemeSplit
  have hb : ParseLemmas.HeadP (fun x => P1 x = false) (58 :: rest) := ParseLemmas.headP_cons _ (by decide)
  rw [ParseLemmas.takeWhile_stop P1 w _ hp hb, ParseLemmas.dropWhile_stop P1 w _ hp hb]
  cases w with
  | nil => exact absurd rfl hw
  | cons x pre => rfl

theorem schemeCaps_eq (s : Str) (c : Caps) :
    schemeCaps s c = match schemeSplit s with
      | some (w, rest) => authCaps rest ((1, w ++ [58]) :: (2, w) :: c)
      | none => authCaps s c := by
  unfold schemeCaps schemeSplit
  split <;> rfl

theorem P1_of_chars {chars : Str} (h47 : 47 ∉ chars) (h63 : 63 ∉ chars) (h35 : 35 ∉ chars) {x : Nat}
    (hx : chars.contains x = true) (h58 : x ≠ 58) : P1 x = true := by
  have hm : x ∈ chars := by simpa using hx
  have : x ≠ 47 := fun e => h47 (e ▸ hm)
  have : x ≠ 63 := fun e => h63 (e ▸ hm)
  have : x ≠ 35 := fun e => h35 (e ▸ hm)
  simp [P1, inSet, *]

/-- `Rfc.schemeOf` in terms of the regular expression's `$2` -/
theorem schemeOf_regex (chars : Str) (h47 : 47 ∉ chars) (h63 : 63 ∉ chars) (h35 : 35 ∉ chars) (s : Str) :
    Rfc.schemeOf chars s = match schemeSplit s with
      | some (w, rest) => if w.all (fun c => chars.contains c) then (lower w, rest) else ([], s)
      | none => ([], s) := by
  cases hsp : schemeSplit s with
  | some wr =>
    obtain ⟨w, rest⟩ := wr
    obtain ⟨hs, hw, hp⟩ := schemeSplit_some hsp
    have h58 : 58 ∉ w := fun hm => absurd (hp 58 hm) (by decide)
    unfold Rfc.schemeOf
    simp only [hs, (ParseLemmas.span_first h58 _).1, (ParseLemmas.span_first h58 _).2]
    have : w.isEmpty = false := by cases w <;> simp_all
    simp [this]
  | none =>
    simp only
    unfold Rfc.schemeOf
    simp only
    split
    · rename_i rest hd
      split
      · rename_i hacc
        exfalso
        simp only [Bool.and_eq_true, Bool.not_eq_true', List.all_eq_true] at hacc
        have hs := List.takeWhile_append_dropWhile (p := fun x => decide (x ≠ 58)) (l := s)
        rw [hd] at hs
        have hne : s.takeWhile (fun x => decide (x ≠ 58)) ≠ [] := by
          intro e; rw [e] at hacc; simp at hacc
        have hp : ∀ x ∈ s.takeWhile (fun x => decide (x ≠ 58)), P1 x = true := by
          intro x hx
          have h1 := ParseLemmas.mem_takeWhile_imp _ s x hx
          exact P1_of_chars h47 h63 h35 (hacc.2 x hx) (by simpa using h1)
        have := schemeSplit_intro (rest := rest) hne hp
        rw [hs, hsp] at this
        exact absurd this (by simp)
      · rfl
    · rfl

theorem lookup_auth2 (r1 : Str) (c : Caps) (hc : ∀ i, 3 ≤ i → c.lookup i = none) :
    (authCaps r1 c).lookup 2 = c.lookup 2 :=
  congrArg (fun l => l.getD 1 none) (authCaps_groups r1 c hc)

/-- the captures of the scheme group do not touch the groups 3 to 9 -/
theorem caps12 (a b : Str) (i : Nat) (hi : 3 ≤ i) : List.lookup i [(1, a), (2, b)] = none := by
  have h1 : (i == 1) = false := by simp; omega
  have h2 : (i == 2) = false := by simp; omega
  simp [List.lookup, h1, h2]

/-- `$2` is the scheme candidate -/
theorem schemeCaps_lookup2 (s : Str) : (schemeCaps s []).lookup 2 = (schemeSplit s).map Prod.fst := by
  rw [schemeCaps_eq]
  cases schemeSplit s with
  | none => exact lookup_auth2 s [] (fun _ _ => rfl)
  | some wr => exact lookup_auth2 _ _ (caps12 _ _)

end R10
open R10

/-! ## The statements -/

/-- group `i` (1-based) of a `regexGroups` result; `none` = undefined (did not take part) or no match -/
def grp (g : Option (List (Option Str))) (i : Nat) : Option Str :=
  match g with
  | some l => l.getD (i - 1) none
  | none => none

/-- RFC 3986 Appendix B: "scheme = $2, authority = $4, path = $5, query = $7, fragment = $9", an undefined component
    read as the empty string (`Rfc.Parts5` does not distinguish them; see `C07_appendixB_regex_recompose` for what the
    distinction means) and the scheme folded to lower case (§3.1: schemes are case-insensitive, canonical form is
    lower case) -/
def regexParts5 (g : Option (List (Option Str))) : Rfc.Parts5 :=
  { scheme := lower ((grp g 2).getD []), authority := (grp g 4).getD [], path := (grp g 5).getD [],
    query := (grp g 7).getD [], fragment := (grp g 9).getD [] }

/-- the scheme test of yarl / urllib: `$2` is undefined or consists of `scheme_chars` only -/
def schemeAccepted (chars : Str) : Option Str → Bool
  | none => true
  | some w => w.all (fun c => chars.contains c)

theorem C07_regex_match (s : Str) : regexMatch appendixBRe s = some (schemeCaps s []) := full_eval s []
theorem C07_regex_tail_match (s : Str) : regexMatch appendixBTailRe s = some (authCaps s []) := tail_eval s []

theorem C07_regex_groups_eq (s : Str) : regexGroups appendixBRe s = some (groupsOf 9 (schemeCaps s [])) := by
  unfold regexGroups; rw [C07_regex_match]; rfl
theorem C07_regex_tail_groups_eq (s : Str) : regexGroups appendixBTailRe s = some (groupsOf 9 (authCaps s [])) := by
  unfold regexGroups; rw [C07_regex_tail_match]; rfl

namespace R10
theorem grp2 (c : Caps) : grp (some (groupsOf 9 c)) 2 = c.lookup 2 := rfl

theorem parts_of_caps (r1 : Str) (c : Caps) (hc : ∀ i, 3 ≤ i → c.lookup i = none) :
    regexParts5 (some (groupsOf 9 (authCaps r1 c))) = tailOf (lower ((c.lookup 2).getD [])) r1 := by
  rw [authCaps_groups r1 c hc, tailOf_staged, ← (stage1 r1).1, ← (stage1 r1).2, ← (stage2 _).1, ← (stage2 _).2, ← stage3]
  rfl
end R10

/-- **Appendix B faithfulness, any scheme-character table.**  `Rfc.appendixB chars` IS the regular expression of RFC 3986
    Appendix B, run by the generic backtracking matcher, except for the scheme test: when `$2` is undefined or made of
    `chars` only, the five components are `$2` (lower-cased), `$4`, `$5`, `$7`, `$9` of the Appendix B expression; when
    `$2` contains a character outside `chars`, the text is treated as having NO scheme: the components are those of the
    Appendix B expression without its first group `(([^:/?#]+):)?` applied to the whole text.
    Hypotheses: the table contains none of `/ ? #` (otherwise `a/b:c` would get the scheme `a/b`). -/
theorem C07_appendixB_is_regex_gen (chars : Str) (h47 : 47 ∉ chars) (h63 : 63 ∉ chars) (h35 : 35 ∉ chars) (s : Str) :
    Rfc.appendixB chars s =
      if schemeAccepted chars (grp (regexGroups appendixBRe s) 2) then regexParts5 (regexGroups appendixBRe s)
      else regexParts5 (regexGroups appendixBTailRe s) := by
  rw [appendixB_tailOf, schemeOf_regex chars h47 h63 h35, C07_regex_groups_eq, C07_regex_tail_groups_eq, grp2,
    schemeCaps_lookup2, schemeCaps_eq]
  cases hsp : schemeSplit s with
  | none =>
    simp only [Option.map_none, schemeAccepted, ↓reduceIte]
    rw [parts_of_caps s [] (fun _ _ => rfl)]
    rfl
  | some wr =>
    obtain ⟨w, rest⟩ := wr
    simp only [Option.map_some, schemeAccepted]
    by_cases hacc : w.all (fun c => chars.contains c) = true
    · simp only [hacc, ↓reduceIte]
      rw [parts_of_caps rest _ (caps12 _ _)]
      rfl
    · simp only [hacc, ↓reduceIte, Bool.false_eq_true]
      rw [parts_of_caps s [] (fun _ _ => rfl)]
      rfl

/-- **Appendix B faithfulness** for the table yarl uses (`urllib.parse.scheme_chars`, regenerated from the Python
    sources; that it contains none of `/ ? #` is checked by computation). -/
theorem C07_appendixB_is_regex (s : Str) :
    Rfc.appendixB Gen.schemeChars s =
      if schemeAccepted Gen.schemeChars (grp (regexGroups appendixBRe s) 2) then
        regexParts5 (regexGroups appendixBRe s)
      else regexParts5 (regexGroups appendixBTailRe s) :=
  C07_appendixB_is_regex_gen Gen.schemeChars (by decide) (by decide) (by decide) s

/-! ### the expression is the RFC's text -/

/-- the AST above IS the text of RFC 3986 Appendix B, parsed (groups numbered by their opening parenthesis) -/
theorem C07_appendixBRe_is_text : parseRe appendixBText = some appendixBRe := by decide +kernel
/-- … and the "no scheme" expression is that text without its first group, the groups keeping their numbers 3..9 -/
theorem C07_appendixBTailRe_is_text :
    parseReFrom 3 "(//([^/?#]*))?([^?#]*)(\\?([^#]*))?(#(.*))?" = some appendixBTailRe := by decide +kernel
theorem C07_appendixBRe_wellNumbered : appendixBRe.wellNumbered = true ∧ appendixBRe.ngroups = 9 := by decide +kernel
theorem C07_appendixBRe_split : appendixBRe = .seq schemeRe appendixBTailRe := rfl

/-! ### the two halves of `C07_appendixB_is_regex`, and `$2` characterised -/

/-- `$2 = w` iff the text is `w ++ ":" ++ rest` with `w` non-empty and free of `: / ? #` (no backtracking can change
    that: the `+` is greedy and what follows must be ':') -/
theorem C07_regex_scheme_group (s w : Str) :
    grp (regexGroups appendixBRe s) 2 = some w ↔
      ∃ rest, s = w ++ 58 :: rest ∧ w ≠ [] ∧ ∀ x ∈ w, x ≠ 58 ∧ x ≠ 47 ∧ x ≠ 63 ∧ x ≠ 35 := by
  rw [C07_regex_groups_eq, grp2, schemeCaps_lookup2]
  have hP : ∀ x, P1 x = true ↔ (x ≠ 58 ∧ x ≠ 47 ∧ x ≠ 63 ∧ x ≠ 35) := by
    intro x; simp [P1, inSet]
  constructor
  · intro h
    obtain ⟨⟨w', rest⟩, hsp, rfl⟩ := Option.map_eq_some_iff.1 h
    obtain ⟨hs, hw, hp⟩ := schemeSplit_some hsp
    exact ⟨rest, hs, hw, fun x hx => (hP x).1 (hp x hx)⟩
  · rintro ⟨rest, rfl, hw, hp⟩
    rw [schemeSplit_intro hw (fun x hx => (hP x).2 (hp x hx))]
    rfl

/-- the scheme is accepted (`$2` undefined, or all of it scheme characters): the model is the Appendix B expression -/
theorem C07_appendixB_is_regex_accepted (s : Str)
    (h : schemeAccepted Gen.schemeChars (grp (regexGroups appendixBRe s) 2) = true) :
    Rfc.appendixB Gen.schemeChars s = regexParts5 (regexGroups appendixBRe s) := by
  rw [C07_appendixB_is_regex, if_pos h]

/-- `$2` has a character outside `scheme_chars`: NO scheme, the whole text is decomposed by the rest of the expression -/
theorem C07_appendixB_is_regex_rejected (s : Str)
    (h : schemeAccepted Gen.schemeChars (grp (regexGroups appendixBRe s) 2) = false) :
    Rfc.appendixB Gen.schemeChars s = regexParts5 (regexGroups appendixBTailRe s) ∧
    (Rfc.appendixB Gen.schemeChars s).scheme = [] := by
  have e : Rfc.appendixB Gen.schemeChars s = regexParts5 (regexGroups appendixBTailRe s) := by
    rw [C07_appendixB_is_regex, if_neg (by simp [h])]
  refine ⟨e, ?_⟩
  rw [e, C07_regex_tail_groups_eq]
  unfold regexParts5
  rw [grp2, lookup_auth2 _ _ (fun _ _ => rfl)]
  rfl

/-- when `$2` is undefined the two expressions agree anyway (so the `if` of `C07_appendixB_is_regex` only matters for a
    defined `$2` with a non-scheme character) -/
theorem C07_regex_no_scheme_same (s : Str) (h : grp (regexGroups appendixBRe s) 2 = none) :
    regexParts5 (regexGroups appendixBRe s) = regexParts5 (regexGroups appendixBTailRe s) := by
  rw [C07_regex_groups_eq, grp2, schemeCaps_lookup2, Option.map_eq_none_iff] at h
  rw [C07_regex_groups_eq, C07_regex_tail_groups_eq, schemeCaps_eq, h]

/-! ### "undefined" versus "empty": the groups re-compose to the text (RFC 3986 §5.3) -/

/-- a delimiter and a component, written only when the component is DEFINED -/
def optPre (d : Str) : Option Str → Str
  | some t => d ++ t
  | none => []

/-- RFC 3986 §5.3 component recomposition from the Appendix B groups: "if defined(scheme) then append scheme and ':'",
    "if defined(authority) then append "//" and authority", "append path", "if defined(query) then append '?' and
    query", "if defined(fragment) then append '#' and fragment" -/
def recomposeGroups (g : Option (List (Option Str))) : Str :=
  (match grp g 2 with | some w => w ++ [58] | none => []) ++ optPre [47, 47] (grp g 4) ++ (grp g 5).getD [] ++
    optPre [63] (grp g 7) ++ optPre [35] (grp g 9)

namespace R10

theorem dropWhile_nil_or_cons (p : Nat → Bool) (s : Str) :
    s.dropWhile p = [] ∨ ∃ x r, s.dropWhile p = x :: r ∧ p x = false := by
  cases h : s.dropWhile p with
  | nil => exact Or.inl rfl
  | cons x r => exact Or.inr ⟨x, r, rfl, ParseLemmas.headP_dropWhile p s x (by rw [h]; rfl)⟩

theorem frag_recompose (r4 : Str) (h : r4 = [] ∨ ∃ x r, r4 = x :: r ∧ PQ x = false) :
    optPre [35] (fragOpt r4) = r4 := by
  rcases h with rfl | ⟨x, r, rfl, hx⟩
  · rfl
  · have : x = 35 := by simpa [PQ, inSet] using hx
    subst this; rfl

theorem query_frag_recompose (r3 : Str) (h : r3 = [] ∨ ∃ x r, r3 = x :: r ∧ P2 x = false) :
    optPre [63] (queryOpt r3) ++ optPre [35] (fragOpt (queryRest r3)) = r3 := by
  rcases h with rfl | ⟨x, r, rfl, hx⟩
  · rfl
  · have : x = 63 ∨ x = 35 := by
      have : ¬ (x ≠ 63 ∧ x ≠ 35) := by simpa [P2, inSet] using hx
      omega
    rcases this with rfl | rfl
    · show 63 :: r.takeWhile PQ ++ optPre [35] (fragOpt (r.dropWhile PQ)) = 63 :: r
      rw [frag_recompose _ (dropWhile_nil_or_cons PQ r)]
      simp [List.takeWhile_append_dropWhile]
    · rfl

theorem tail_recompose (r1 : Str) :
    optPre [47, 47] (authOpt r1) ++ (afterAuth r1).takeWhile P2 ++
      optPre [63] (queryOpt ((afterAuth r1).dropWhile P2)) ++
      optPre [35] (fragOpt (queryRest ((afterAuth r1).dropWhile P2))) = r1 := by
  rw [List.append_assoc, query_frag_recompose _ (dropWhile_nil_or_cons P2 _), List.append_assoc,
    List.takeWhile_append_dropWhile]
  unfold authOpt afterAuth
  split
  · simp [optPre, List.takeWhile_append_dropWhile]
  · rfl

theorem tail_groups_recompose (r1 : Str) (c : Caps) (hc : ∀ i, 3 ≤ i → c.lookup i = none) :
    recomposeGroups (some (groupsOf 9 (authCaps r1 c))) =
      (match c.lookup 2 with | some w => w ++ [58] | none => []) ++ r1 := by
  rw [authCaps_groups r1 c hc]
  have := tail_recompose r1
  simp only [List.append_assoc] at this
  simp only [recomposeGroups, grp, List.getD, List.getElem?_cons_succ, List.getElem?_cons_zero, Option.getD_some,
    List.append_assoc, this]

end R10

/-- **the "defined / undefined" status of the groups is exactly what RFC 3986 §5.3 needs**: for EVERY text, the
    recomposition of the Appendix B groups (delimiters written for the defined groups only) is the text itself.  So a
    component is undefined iff its delimiter is absent (`?` ↦ `$7 = some ""`, nothing ↦ `$7 = none`), which is the
    information `Rfc.Parts5` (and yarl) drops: F-C04-empty-delims. -/
theorem C07_appendixB_regex_recompose (s : Str) : recomposeGroups (regexGroups appendixBRe s) = s := by
  rw [C07_regex_groups_eq, schemeCaps_eq]
  cases hsp : schemeSplit s with
  | none => exact tail_groups_recompose s [] (fun _ _ => rfl)
  | some wr =>
    obtain ⟨w, rest⟩ := wr
    simp only
    rw [tail_groups_recompose rest _ (caps12 _ _), (schemeSplit_some hsp).1]
    simp [List.lookup]

/-- the same for the expression without the scheme group -/
theorem C07_appendixB_regex_tail_recompose (s : Str) : recomposeGroups (regexGroups appendixBTailRe s) = s := by
  rw [C07_regex_tail_groups_eq]
  exact tail_groups_recompose s [] (fun _ _ => rfl)

/-! ### non-vacuity: the generic matcher on the RFC's own example and on odd texts (all by kernel computation;
    the right-hand sides agree with CPython's `re.match(appendixBText, s, re.S).groups()`) -/

/-- helper for the examples: groups as readable texts -/
def rxGroups (l : List (Option String)) : Option (List (Option Str)) := some (l.map (·.map String.toStr))

-- RFC 3986 Appendix B: "http://www.ics.uci.edu/pub/ietf/uri/#Related" ↦ $1 = http:  $2 = http  $3 = //www.ics.uci.edu
--   $4 = www.ics.uci.edu  $5 = /pub/ietf/uri/  $6 = <undefined>  $7 = <undefined>  $8 = #Related  $9 = Related
example : regexGroups appendixBRe "http://www.ics.uci.edu/pub/ietf/uri/#Related".toStr =
    rxGroups [some "http:", some "http", some "//www.ics.uci.edu", some "www.ics.uci.edu", some "/pub/ietf/uri/", none, none,
      some "#Related", some "Related"] := by str_lits; decide +kernel
-- … and through the TEXT of the expression
example : (parseRe appendixBText).bind (regexGroups · "http://www.ics.uci.edu/pub/ietf/uri/#Related".toStr) =
    rxGroups [some "http:", some "http", some "//www.ics.uci.edu", some "www.ics.uci.edu", some "/pub/ietf/uri/", none, none,
      some "#Related", some "Related"] := by
  rw [C07_appendixBRe_is_text]; str_lits; decide +kernel
example : regexGroups appendixBRe "".toStr = rxGroups [none, none, none, none, some "", none, none, none, none] := by
  decide +kernel
example : regexGroups appendixBRe ":".toStr = rxGroups [none, none, none, none, some ":", none, none, none, none] := by
  decide +kernel
example : regexGroups appendixBRe "//".toStr =
    rxGroups [none, none, some "//", some "", some "", none, none, none, none] := by decide +kernel
example : regexGroups appendixBRe "a:b:c".toStr =
    rxGroups [some "a:", some "a", none, none, some "b:c", none, none, none, none] := by decide +kernel
example : regexGroups appendixBRe "?#".toStr =
    rxGroups [none, none, none, none, some "", some "?", some "", some "#", some ""] := by decide +kernel
example : regexGroups appendixBRe "x://@:?#".toStr =
    rxGroups [some "x:", some "x", some "//@:", some "@:", some "", some "?", some "", some "#", some ""] := by
  decide +kernel
-- the greedy `+` must give one character back?  No: `[^:/?#]+` stops in front of '/', what follows is not ':' and no
-- shorter run helps: `$2` is undefined although the text contains "b:".
example : regexGroups appendixBRe "a/b:c".toStr =
    rxGroups [none, none, none, none, some "a/b:c", none, none, none, none] := by decide +kernel
-- the two branches of `C07_appendixB_is_regex`: accepted scheme (mixed case, folded) …
example : schemeAccepted Gen.schemeChars (grp (regexGroups appendixBRe "HtTp://h/p?q#f".toStr) 2) = true ∧
    regexParts5 (regexGroups appendixBRe "HtTp://h/p?q#f".toStr) =
      { scheme := "http".toStr, authority := "h".toStr, path := "/p".toStr, query := "q".toStr,
        fragment := "f".toStr } := by str_lits; decide +kernel
-- … and `$2 = "a_b"` with '_' outside `scheme_chars`: the regular expression says scheme "a_b", path "c/d"; yarl /
-- urllib (and `Rfc.appendixB`) say no scheme, path "a_b:c/d" = the expression without its first group
example : schemeAccepted Gen.schemeChars (grp (regexGroups appendixBRe "a_b:c/d?e".toStr) 2) = false ∧
    regexParts5 (regexGroups appendixBRe "a_b:c/d?e".toStr) =
      { scheme := "a_b".toStr, authority := [], path := "c/d".toStr, query := "e".toStr, fragment := [] } ∧
    regexParts5 (regexGroups appendixBTailRe "a_b:c/d?e".toStr) =
      { scheme := [], authority := [], path := "a_b:c/d".toStr, query := "e".toStr, fragment := [] } ∧
    Rfc.appendixB Gen.schemeChars "a_b:c/d?e".toStr =
      { scheme := [], authority := [], path := "a_b:c/d".toStr, query := "e".toStr, fragment := [] } := by
  decide +kernel
-- the generic engine on expressions that DO backtrack (alternation, nested groups, a star that must give back)
example : (parseRe "(a|ab)(c|bcd)(d*)").bind (regexGroups · "abcd".toStr) = rxGroups [some "a", some "bcd", some ""] := by
  decide +kernel
example : (parseRe "(.*)@(.*)").bind (regexGroups · "a@b@c".toStr) = rxGroups [some "a@b", some "c"] := by
  decide +kernel
example : (parseRe "([ab]*)b").bind (regexGroups · "abab".toStr) = rxGroups [some "aba"] := by decide +kernel
example : (parseRe "(a+)+b").bind (regexGroups · "aaaa".toStr) = none := by decide +kernel
example : (parseRe "((a)|b)*").bind (regexGroups · "ab".toStr) = rxGroups [some "b", some "a"] := by
  decide +kernel

/-! ## The authority: `[ userinfo "@" ] host [ ":" port ]` (RFC 3986 §3.2) -/

/-- "the LAST '@' ends the userinfo": `(.*)@` is greedy.  `$2` = userinfo (undefined without '@'), `$3` = the rest -/
def atText : String := "((.*)@)?(.*)"
/-- "the FIRST ':'": `$1` = the text before it, `$3` = the text after it (undefined without ':') -/
def colonText : String := "([^:]*)(:(.*))?"
/-- host and port of the text after the '@'.  First alternative, taken iff there is a '[': host `$1` = what is between
    the first '[' and the next ']' (or the end), port `$4` = what follows the first ':' after that ']'.  Second
    alternative (no '['): host `$5` = the text before the first ':', port `$7` = what follows it. -/
def hostPortText : String := "[^\\[]*\\[([^\\]]*)(\\][^:]*(:(.*))?)?|([^:]*)(:(.*))?"

/-- `([^:]*)(:(.*))?` with arbitrary group numbers -/
def colonLike (n1 n2 n3 : Nat) : Re :=
  .seq (.group n1 (.star (.set true [58]))) (.opt (.group n2 (.seq (.chr 58) (.group n3 (.star .any)))))

def atRe : Re := .seq (.opt (.group 1 (.seq (.group 2 (.star .any)) (.chr 64)))) (.group 3 (.star .any))
def colonRe : Re := colonLike 1 2 3
def bracketRe : Re :=
  .seq (.star (.set true [91])) (.seq (.chr 91) (.seq (.group 1 (.star (.set true [93])))
    (.opt (.group 2 (.seq (.chr 93) (.seq (.star (.set true [58]))
      (.opt (.group 3 (.seq (.chr 58) (.group 4 (.star .any)))))))))))
def hostPortRe : Re := .alt bracketRe (colonLike 5 6 7)

theorem C07_atRe_is_text : parseRe atText = some atRe := by decide +kernel
theorem C07_colonRe_is_text : parseRe colonText = some colonRe := by decide +kernel
theorem C07_hostPortRe_is_text : parseRe hostPortText = some hostPortRe := by decide +kernel

/-- the authority split by regular expressions: `atText` on the authority, `colonText` on its `$2` (userinfo),
    `hostPortText` on its `$3` -/
def authorityByRegex (a : Str) : Rfc.Authority :=
  let g := regexGroups atRe a
  let gh := regexGroups hostPortRe ((grp g 3).getD [])
  { user := (grp g 2).bind (fun ui => grp (regexGroups colonRe ui) 1),
    password := (grp g 2).bind (fun ui => grp (regexGroups colonRe ui) 3),
    host := ((grp gh 1).orElse (fun _ => grp gh 5)).getD [],
    port := ((grp gh 4).orElse (fun _ => grp gh 7)).getD [] }

namespace R10

theorem inSet_ne (d : Nat) : inSet true [d] = fun c => decide (c ≠ d) := by
  funext c; simp [inSet]

theorem dropWhile_ne_nil_or_cons (c : Nat) (s : Str) :
    (c ∉ s ∧ s.dropWhile (· ≠ c) = []) ∨ (c ∈ s ∧ ∃ r, s.dropWhile (· ≠ c) = c :: r) :=
  (ParseLemmas.dropWhile_ne_cases c s).imp_right fun h => ⟨h.1, _, h.2⟩

/-- the captures of `(d(.*))?` -/
def delimCaps (n m d : Nat) (f : Str → Caps → Caps) (s : Str) (c : Caps) : Caps :=
  match s with
  | x :: r => if x = d then f [] ((n, s) :: (m, r) :: c) else f s c
  | [] => f [] c

/-- `(d(.*))?` in front of a continuation that always succeeds -/
theorem opt_delim_any (n m d : Nat) (s : Str) (c : Caps) (k : K) (f : Str → Caps → Caps)
    (hk : ∀ s c, k s c = some (f s c)) :
    matchK (.opt (.group n (.seq (.chr d) (.group m (.star .any))))) s c k = some (delimCaps n m d f s c) := by
  rw [matchK, matchK, matchK, matchK_chr]
  match s with
  | [] => simp [Option.orElse, hk, delimCaps]
  | x :: r =>
    by_cases hx : x = d
    · subst hx
      simp only [↓reduceIte, delimCaps]
      rw [group_star_greedy (a := .any) (p := fun _ => true) rfl m r c _ (f [] ((n, x :: r) :: (m, r) :: c))]
      · rfl
      · simp [QsLemmas.dropWhile_all, QsLemmas.takeWhile_all, consumed_nil, hk]
    · simp only [hx, ↓reduceIte, Option.orElse, hk, delimCaps]

/-- the captures of `([^:]*)(:(.*))?` -/
def colonCaps (n1 n2 n3 : Nat) (s : Str) (c : Caps) : Caps :=
  delimCaps n2 n3 58 (fun _ c => c) (s.dropWhile (· ≠ 58)) ((n1, s.takeWhile (· ≠ 58)) :: c)

theorem colonLike_eval (n1 n2 n3 : Nat) (s : Str) (c : Caps) :
    matchK (colonLike n1 n2 n3) s c k0 = some (colonCaps n1 n2 n3 s c) := by
  unfold colonLike
  rw [matchK]
  rw [group_star_greedy (a := .set true [58]) (p := inSet true [58]) rfl n1 s c _ (colonCaps n1 n2 n3 s c)]
  rw [opt_delim_any n2 n3 58 _ _ k0 (fun _ c => c) (fun _ _ => rfl), inSet_ne]
  rfl

theorem colonCaps_lookup1 (n1 n2 n3 : Nat) (h2 : n1 ≠ n2) (h3 : n1 ≠ n3) (s : Str) (c : Caps) :
    (colonCaps n1 n2 n3 s c).lookup n1 = some (s.takeWhile (· ≠ 58)) := by
  have e2 : (n1 == n2) = false := by simpa using h2
  have e3 : (n1 == n3) = false := by simpa using h3
  unfold colonCaps delimCaps
  split
  · split <;> simp [List.lookup_cons, e2, e3]
  · simp

theorem colonCaps_lookup3 (n1 n2 n3 : Nat) (h1 : n3 ≠ n1) (h2 : n3 ≠ n2) (s : Str) (c : Caps)
    (hc : c.lookup n3 = none) :
    (colonCaps n1 n2 n3 s c).lookup n3 = if 58 ∈ s then some ((s.dropWhile (· ≠ 58)).drop 1) else none := by
  have e1 : (n3 == n1) = false := by simpa using h1
  have e2 : (n3 == n2) = false := by simpa using h2
  unfold colonCaps delimCaps
  rcases dropWhile_ne_nil_or_cons 58 s with ⟨hm, hd⟩ | ⟨hm, r, hd⟩
  · rw [hd]; simp [List.lookup_cons, e1, hc, hm]
  · rw [hd]; simp [List.lookup_cons, e2, hm]

/-- other groups are not touched -/
theorem colonCaps_lookup_other (n1 n2 n3 i : Nat) (h1 : i ≠ n1) (h2 : i ≠ n2) (h3 : i ≠ n3) (s : Str) (c : Caps) :
    (colonCaps n1 n2 n3 s c).lookup i = c.lookup i := by
  have e1 : (i == n1) = false := by simpa using h1
  have e2 : (i == n2) = false := by simpa using h2
  have e3 : (i == n3) = false := by simpa using h3
  unfold colonCaps delimCaps
  split
  · split <;> simp [List.lookup_cons, e1, e2, e3]
  · simp [List.lookup_cons, e1]

theorem exists_last_split {d : Nat} {t : Str} (h : d ∈ t) : ∃ u r, t = u ++ d :: r ∧ d ∉ r :=
  ⟨_, _, by simpa using (ParseLemmas.rpartition_mem h).1, (ParseLemmas.rpartition_mem h).2⟩

/-- `.*` in front of a literal `d` and a continuation that then always succeeds: the LAST `d` is taken -/
theorem star_any_last (d : Nat) (s0 : Str) (F : Str → Str → Caps → Caps) (c : Caps) (k : K)
    (hk : ∀ s' c', k s' c' = match s' with
      | x :: r => if x = d then some (F (consumed s0 s') r c') else none
      | [] => none)
    (pre t : Str) (hs : s0 = pre ++ t) :
    (d ∉ t → starSpec (fun _ => true) k c t = none) ∧
    (∀ u r, t = u ++ d :: r → d ∉ r → starSpec (fun _ => true) k c t = some (F (pre ++ u) r c)) := by
  induction t generalizing pre with
  | nil =>
    refine ⟨fun _ => by simp [starSpec, hk], fun u r e _ => ?_⟩
    exact absurd e (by simp)
  | cons x t ih =>
    obtain ⟨ih1, ih2⟩ := ih (pre ++ [x]) (by rw [hs]; simp)
    simp only [starSpec, ↓reduceIte]
    constructor
    · intro hd
      have hx : x ≠ d := fun e => hd (by simp [e])
      have ht : d ∉ t := fun m => hd (by simp [m])
      rw [ih1 ht, hk]
      simp [Option.orElse, hx]
    · intro u r e hr
      cases u with
      | nil =>
        simp only [List.nil_append] at e
        injection e with e1 e2
        subst e1 e2
        rw [ih1 hr, hk]
        have : consumed s0 (x :: t) = pre := by rw [hs]; exact consumed_split pre (x :: t)
        simp [Option.orElse, this]
      | cons y u' =>
        simp only [List.cons_append] at e
        injection e with e1 e2
        subst e1
        rw [ih2 u' r e2 hr]
        simp [Option.orElse]

/-- the captures of `((.*)@)?(.*)` -/
theorem at_eval (a : Str) :
    (64 ∉ a → regexMatch atRe a = some [(3, a)]) ∧
    (∀ u r, a = u ++ 64 :: r → 64 ∉ r → regexMatch atRe a = some [(3, r), (1, u ++ [64]), (2, u)]) := by
  have hK3 : (fun s' c' => matchK (.group 3 (.star .any)) s' c' k0) = fun s' c' => some ((3, s') :: c') := by
    funext s' c'
    rw [group_star_greedy (a := .any) (p := fun _ => true) rfl 3 s' c' _ ((3, s') :: c')]
    simp [QsLemmas.takeWhile_all]
  unfold regexMatch atRe
  rw [matchK, hK3, matchK, matchK, matchK, matchK, star_cls_spec (a := .any) (p := fun _ => true) rfl]
  have key := star_any_last 64 a (fun u r c => (3, r) :: (1, consumed a r) :: (2, u) :: c) []
    (fun s1 c1 => matchK (.chr 64) s1 ((2, consumed a s1) :: c1)
      (fun s' c' => some ((3, s') :: (1, consumed a s') :: c')))
    (by
      intro s' c'
      rw [matchK_chr]) [] a rfl
  constructor
  · intro h
    rw [key.1 h]; rfl
  · intro u r e hr
    rw [key.2 u r e hr]
    have : consumed a r = u ++ [64] := by
      rw [e]
      have := consumed_split (u ++ [64]) r
      simpa using this
    simp [Option.orElse, this]

/-- `(\][^:]*(:(.*))?)?` -/
def opt2Re : Re :=
  .opt (.group 2 (.seq (.chr 93) (.seq (.star (.set true [58])) (.opt (.group 3 (.seq (.chr 58) (.group 4 (.star .any))))))))

def opt2Caps (s : Str) (c : Caps) : Caps :=
  match s with
  | x :: t => if x = 93 then delimCaps 3 4 58 (fun s3 c3 => (2, consumed s s3) :: c3) (t.dropWhile (· ≠ 58)) c else c
  | [] => c

theorem opt2_eval (s : Str) (c : Caps) : matchK opt2Re s c k0 = some (opt2Caps s c) := by
  unfold opt2Re
  rw [matchK, matchK, matchK, matchK_chr]
  match s with
  | [] => rfl
  | x :: t =>
    by_cases hx : x = 93
    · subst hx
      simp only [↓reduceIte, opt2Caps]
      rw [matchK]
      rw [star_cls_greedy (a := .set true [58]) (p := inSet true [58]) rfl t c _
        (delimCaps 3 4 58 (fun s3 c3 => (2, consumed (93 :: t) s3) :: c3) (t.dropWhile (· ≠ 58)) c)]
      · rfl
      · rw [opt_delim_any 3 4 58 _ _ _ (fun s3 c3 => (2, consumed (93 :: t) s3) :: c3) (fun _ _ => rfl), inSet_ne]
    · simp only [hx, ↓reduceIte, Option.orElse, opt2Caps]

theorem opt2_lookup_other (i : Nat) (h2 : i ≠ 2) (h3 : i ≠ 3) (h4 : i ≠ 4) (s : Str) (c : Caps) :
    (opt2Caps s c).lookup i = c.lookup i := by
  have e2 : (i == 2) = false := by simpa using h2
  have e3 : (i == 3) = false := by simpa using h3
  have e4 : (i == 4) = false := by simpa using h4
  unfold opt2Caps delimCaps
  split
  · split
    · split
      · split <;> simp [List.lookup_cons, e2, e3, e4]
      · simp [List.lookup_cons, e2]
    · rfl
  · rfl

theorem opt2_lookup4 (s : Str) (c : Caps) (h4 : c.lookup 4 = none)
    (hs : s = [] ∨ ∃ t, s = 93 :: t) :
    ((opt2Caps s c).lookup 4).getD [] = (((s.drop 1).dropWhile (· ≠ 58)).drop 1) := by
  rcases hs with rfl | ⟨t, rfl⟩
  · simp [opt2Caps, h4]
  · simp only [opt2Caps, ↓reduceIte, List.drop_succ_cons, List.drop_zero, delimCaps]
    rcases dropWhile_ne_nil_or_cons 58 t with ⟨hm, hd⟩ | ⟨hm, r, hd⟩
    · rw [hd]; simp [List.lookup_cons, h4]
    · rw [hd]; simp [List.lookup_cons]

/-- the captures of `hostPortText`, with a '[' in the text … -/
theorem hostPort_eval_bracket (hi b : Str) (hb : hi.dropWhile (· ≠ 91) = 91 :: b) :
    regexMatch hostPortRe hi = some (opt2Caps (b.dropWhile (· ≠ 93)) [(1, b.takeWhile (· ≠ 93))]) := by
  unfold regexMatch hostPortRe bracketRe
  rw [matchK, matchK]
  rw [star_cls_stop (a := .set true [91]) (p := inSet true [91]) rfl]
  · rw [inSet_ne, hb, matchK, matchK_chr]
    simp only [↓reduceIte]
    rw [matchK]
    rw [group_star_greedy (a := .set true [93]) (p := inSet true [93]) rfl 1 b [] _
      (opt2Caps (b.dropWhile (· ≠ 93)) [(1, b.takeWhile (· ≠ 93))])]
    · rfl
    · rw [inSet_ne]; exact opt2_eval _ _
  · intro x r hx
    have : x ≠ 91 := by simpa [inSet] using hx
    rw [matchK, matchK_chr]
    simp [this]

/-- … and without -/
theorem hostPort_eval_plain (hi : Str) (hb : hi.dropWhile (· ≠ 91) = []) :
    regexMatch hostPortRe hi = some (colonCaps 5 6 7 hi []) := by
  unfold regexMatch hostPortRe bracketRe
  rw [matchK, matchK]
  rw [star_cls_stop (a := .set true [91]) (p := inSet true [91]) rfl]
  · rw [inSet_ne, hb, matchK, matchK_chr]
    simp only [Option.orElse]
    exact colonLike_eval 5 6 7 hi []
  · intro x r hx
    have : x ≠ 91 := by simpa [inSet] using hx
    rw [matchK, matchK_chr]
    simp [this]

theorem hostPort_host_port (hi : Str) :
    ((grp (regexGroups hostPortRe hi) 1).orElse (fun _ => grp (regexGroups hostPortRe hi) 5)).getD [] =
      (if 91 ∈ hi then ((hi.dropWhile (· ≠ 91)).drop 1).takeWhile (· ≠ 93) else hi.takeWhile (· ≠ 58)) ∧
    ((grp (regexGroups hostPortRe hi) 4).orElse (fun _ => grp (regexGroups hostPortRe hi) 7)).getD [] =
      (if 91 ∈ hi then (((((hi.dropWhile (· ≠ 91)).drop 1).dropWhile (· ≠ 93)).drop 1).dropWhile (· ≠ 58)).drop 1
       else (hi.dropWhile (· ≠ 58)).drop 1) := by
  have g1 : ∀ c : Caps, grp (some (groupsOf 7 c)) 1 = c.lookup 1 := fun _ => rfl
  have g4 : ∀ c : Caps, grp (some (groupsOf 7 c)) 4 = c.lookup 4 := fun _ => rfl
  have g5 : ∀ c : Caps, grp (some (groupsOf 7 c)) 5 = c.lookup 5 := fun _ => rfl
  have g7 : ∀ c : Caps, grp (some (groupsOf 7 c)) 7 = c.lookup 7 := fun _ => rfl
  rcases dropWhile_ne_nil_or_cons 91 hi with ⟨hm, hd⟩ | ⟨hm, b, hd⟩
  · have e : regexGroups hostPortRe hi = some (groupsOf 7 (colonCaps 5 6 7 hi [])) := by
      unfold regexGroups; rw [hostPort_eval_plain hi hd]; rfl
    rw [e, g1, g4, g5, g7, colonCaps_lookup_other 5 6 7 1 (by decide) (by decide) (by decide),
      colonCaps_lookup_other 5 6 7 4 (by decide) (by decide) (by decide),
      colonCaps_lookup1 5 6 7 (by decide) (by decide), colonCaps_lookup3 5 6 7 (by decide) (by decide) _ _ rfl]
    have hp : (if 58 ∈ hi then some ((hi.dropWhile (· ≠ 58)).drop 1) else none).getD [] =
        (hi.dropWhile (· ≠ 58)).drop 1 := by
      rcases dropWhile_ne_nil_or_cons 58 hi with ⟨hm8, hd8⟩ | ⟨hm8, r, hd8⟩
      · rw [if_neg hm8, hd8]; rfl
      · rw [if_pos hm8]; rfl
    simp only [hm, ↓reduceIte, List.lookup, Option.orElse, Option.getD_some, true_and]
    exact hp
  · have e : regexGroups hostPortRe hi =
        some (groupsOf 7 (opt2Caps (b.dropWhile (· ≠ 93)) [(1, b.takeWhile (· ≠ 93))])) := by
      unfold regexGroups; rw [hostPort_eval_bracket hi b hd]; rfl
    have hs : b.dropWhile (· ≠ 93) = [] ∨ ∃ t, b.dropWhile (· ≠ 93) = 93 :: t :=
      (dropWhile_ne_nil_or_cons 93 b).imp And.right And.right
    have h4 := opt2_lookup4 (b.dropWhile (· ≠ 93)) [(1, b.takeWhile (· ≠ 93))] rfl hs
    rw [e, g1, g4, g5, g7, opt2_lookup_other 1 (by decide) (by decide) (by decide),
      opt2_lookup_other 7 (by decide) (by decide) (by decide)]
    simp only [hm, ↓reduceIte, hd, List.drop_succ_cons, List.drop_zero]
    constructor
    · rfl
    · rw [← h4]
      cases (opt2Caps (b.dropWhile (· ≠ 93)) [(1, b.takeWhile (· ≠ 93))]).lookup 4 <;> rfl

theorem colon_groups (u : Str) :
    grp (regexGroups colonRe u) 1 = some (u.takeWhile (· ≠ 58)) ∧
    grp (regexGroups colonRe u) 3 = if 58 ∈ u then some ((u.dropWhile (· ≠ 58)).drop 1) else none := by
  have e : regexGroups colonRe u = some (groupsOf 3 (colonCaps 1 2 3 u [])) := by
    unfold regexGroups regexMatch colonRe; rw [colonLike_eval]; rfl
  have g1 : ∀ c : Caps, grp (some (groupsOf 3 c)) 1 = c.lookup 1 := fun _ => rfl
  have g3 : ∀ c : Caps, grp (some (groupsOf 3 c)) 3 = c.lookup 3 := fun _ => rfl
  rw [e, g1, g3, colonCaps_lookup1 1 2 3 (by decide) (by decide),
    colonCaps_lookup3 1 2 3 (by decide) (by decide) _ _ rfl]
  exact ⟨rfl, rfl⟩

theorem at_groups (a : Str) :
    grp (regexGroups atRe a) 2 = (if 64 ∈ a then some (Rfc.userinfoOf a) else none) ∧
    grp (regexGroups atRe a) 3 = some (Rfc.hostinfoOf a) := by
  by_cases h : 64 ∈ a
  · obtain ⟨u, r, e, hr⟩ := exists_last_split h
    have hm := (at_eval a).2 u r e hr
    have e2 : regexGroups atRe a = some (groupsOf 3 [(3, r), (1, u ++ [64]), (2, u)]) := by
      unfold regexGroups; rw [hm]; rfl
    obtain ⟨a1, a2⟩ := CtorShape.hostinfo_of_split (ui := u) hr
    have e' : a = u ++ [64] ++ r := by rw [e]; simp
    rw [← e'] at a1 a2
    rw [e2, a1, a2, if_pos h]
    exact ⟨rfl, rfl⟩
  · have hm := (at_eval a).1 h
    have e2 : regexGroups atRe a = some (groupsOf 3 [(3, a)]) := by
      unfold regexGroups; rw [hm]; rfl
    rw [e2, CtorShape.hostinfo_no_at h, if_neg h]
    exact ⟨rfl, rfl⟩

end R10

/-- **the authority split IS the regular-expression split, for EVERY text** (malformed authorities included):
    userinfo = `$2` of `((.*)@)?(.*)` (greedy `.*`: the LAST '@'), user / password = `$1` / `$3` of `([^:]*)(:(.*))?` on
    it (the FIRST ':'), host / port = the groups of `hostPortText` on `$3` (bracketed literal first, otherwise the FIRST
    ':').  Each expression is parsed from its text (`C07_atRe_is_text`, …) and run by the generic backtracking matcher. -/
theorem C07_authoritySplit_is_regex (a : Str) : Rfc.authoritySplit a = authorityByRegex a := by
  unfold authorityByRegex Rfc.authoritySplit
  simp only
  obtain ⟨a2, a3⟩ := at_groups a
  rw [a2, a3]
  simp only [Option.getD_some]
  obtain ⟨h1, h2⟩ := hostPort_host_port (Rfc.hostinfoOf a)
  rw [h1, h2]
  by_cases h : 64 ∈ a
  · simp only [h, ↓reduceIte, true_and, Option.bind_some, (colon_groups _).1, (colon_groups _).2]
  · simp only [h, ↓reduceIte, false_and, Option.bind_none]

/-! ### … and on every authority the RFC 3986 grammar generates, it is THE grammatical decomposition -/

/-- §3.2.2 `reg-name = *( unreserved / pct-encoded / sub-delims )`; `IPv4address` is a special case -/
def isRegNameText (h : Str) : Bool := h.all (fun c => Rfc.unreserved c || Rfc.subDelims c || c == 37)
/-- §3.2.2 what stands between the brackets of an `IP-literal` (`IPv6address` / `IPvFuture`; a superset:
    unreserved / sub-delims / ":") -/
def isIpLiteralBody (l : Str) : Bool := l.all (fun c => Rfc.unreserved c || Rfc.subDelims c || c == 58)
/-- §3.2.3 `port = *DIGIT` -/
def isPortText (p : Str) : Bool := p.all Rfc.isDigit

/-- `authority = [ userinfo "@" ] host [ ":" port ]`, `host = IP-literal / IPv4address / reg-name`,
    `IP-literal = "[" … "]"`: the text of an authority with the given grammatical parts -/
def uiPrefix : Option Str → Str
  | some u => u ++ [64]
  | none => []
def authorityText (ui : Option Str) (bracketed : Bool) (h : Str) (p : Option Str) : Str :=
  uiPrefix ui ++ (if bracketed then 91 :: h ++ [93] else h) ++ optPre [58] p

namespace R10

theorem regname_no {h : Str} (hh : isRegNameText h = true) : 64 ∉ h ∧ 58 ∉ h ∧ 91 ∉ h := by
  refine ⟨?_, ?_, ?_⟩ <;> intro hm <;> have := List.all_eq_true.1 hh _ hm <;> exact absurd this (by decide)

theorem literal_no {h : Str} (hh : isIpLiteralBody h = true) : 64 ∉ h ∧ 93 ∉ h ∧ 91 ∉ h := by
  refine ⟨?_, ?_, ?_⟩ <;> intro hm <;> have := List.all_eq_true.1 hh _ hm <;> exact absurd this (by decide)

theorem port_no {p : Str} (hp : isPortText p = true) : 64 ∉ p ∧ 58 ∉ p ∧ 91 ∉ p := by
  refine ⟨?_, ?_, ?_⟩ <;> intro hm <;> have := List.all_eq_true.1 hp _ hm <;> exact absurd this (by decide)

end R10

/-- for EVERY authority the RFC 3986 §3.2 grammar generates — userinfo `ui` (if any), host `h` (a bracketed literal or a
    reg-name / IPv4 address), port `p` (if any) — `Rfc.authoritySplit` returns exactly these parts (the userinfo cut at
    its first ':').  In particular the grammatical decomposition is unique, and on grammatical authorities "LAST '@'" =
    "the only '@'" and "FIRST ':' after the host" = "the only ':' outside the brackets" (a reg-name / IPv4 address has
    no ':' and a port is digits), so FIRST and LAST ':' coincide there.  No hypothesis on the userinfo is needed (RFC:
    `*( unreserved / pct-encoded / sub-delims / ":" )`): the LAST '@' is taken, whatever precedes it. -/
theorem C07_authoritySplit_rfc_grammar (ui : Option Str) (bracketed : Bool) (h : Str) (p : Option Str)
    (hh : if bracketed then isIpLiteralBody h = true else isRegNameText h = true)
    (hp : ∀ t, p = some t → isPortText t = true) :
    Rfc.authoritySplit (authorityText ui bracketed h p) =
      { user := ui.map (fun u => u.takeWhile (· ≠ 58)),
        password := ui.bind (fun u => if 58 ∈ u then some ((u.dropWhile (· ≠ 58)).drop 1) else none),
        host := h, port := p.getD [] } := by
  -- the text after the '@'
  have hrest : optPre [58] p = [] ∨ ∃ t, optPre [58] p = 58 :: t := by
    cases p with
    | none => left; rfl
    | some t => right; exact ⟨t, rfl⟩
  have hp64 : 64 ∉ optPre [58] p := by
    cases p with
    | none => simp [optPre]
    | some t => simp [optPre, (port_no (hp t rfl)).1]
  have hdrop : (optPre [58] p).drop 1 = p.getD [] := by cases p <;> rfl
  obtain ⟨hi, hhi, h64, hhost, hport⟩ : ∃ hi, hi = (if bracketed then 91 :: h ++ [93] else h) ++ optPre [58] p ∧
      64 ∉ hi ∧ CtorShape.hostOfHi hi = h ∧ CtorShape.portOfHi hi = p.getD [] := by
    refine ⟨_, rfl, ?_, ?_⟩
    · cases bracketed
      · simp only [Bool.false_eq_true, ↓reduceIte] at hh ⊢
        simp [(regname_no hh).1, hp64]
      · simp only [↓reduceIte] at hh ⊢
        simp [(literal_no hh).1, hp64]
    · cases bracketed
      · simp only [Bool.false_eq_true, ↓reduceIte] at hh ⊢
        obtain ⟨_, h58, h91⟩ := regname_no hh
        have hm : 91 ∉ h ++ optPre [58] p := by
          cases p with
          | none => simpa [optPre] using h91
          | some t => simp [optPre, h91, (port_no (hp t rfl)).2.2]
        unfold CtorShape.hostOfHi CtorShape.portOfHi
        simp only [hm, ↓reduceIte]
        rcases hrest with e | ⟨t, e⟩
        · rw [e, List.append_nil, ParseLemmas.takeWhile_ne_of_not_mem h58, ← hdrop, e]
          rw [ParseLemmas.dropWhile_ne_of_not_mem h58]
          exact ⟨rfl, rfl⟩
        · rw [← hdrop, e, (ParseLemmas.span_first h58 _).1, (ParseLemmas.span_first h58 _).2]
          exact ⟨rfl, rfl⟩
      · simp only [↓reduceIte] at hh ⊢
        obtain ⟨_, h93, _⟩ := literal_no hh
        have := CtorShape.bracket_host_port [] h [] (optPre [58] p) (by simp) h93 (by simp) hrest
        simpa [hdrop] using this
  have htext : authorityText ui bracketed h p = uiPrefix ui ++ hi := by
    rw [hhi]; unfold authorityText; simp
  have hpre : uiPrefix ui = [] ∨ ∃ u, uiPrefix ui = u ++ [64] := by
    cases ui with
    | none => exact Or.inl rfl
    | some u => exact Or.inr ⟨u, rfl⟩
  rw [htext, CtorShape.authoritySplit_of_pre _ hi hpre h64, hhost, hport]
  cases ui with
  | none => rfl
  | some u => simp [uiPrefix]

/-! ### non-vacuity for the authority -/

def rxAuth (user password : Option String) (host port : String) : Rfc.Authority :=
  { user := user.map String.toStr, password := password.map String.toStr, host := host.toStr, port := port.toStr }

example : authorityByRegex "u:p@[::1]:80".toStr = rxAuth (some "u") (some "p") "::1" "80" := by str_lits; decide +kernel
example : authorityByRegex "www.ics.uci.edu".toStr = rxAuth none none "www.ics.uci.edu" "" := by
  str_lits; decide +kernel
-- several '@' and ':' : LAST '@', FIRST ':' of the userinfo, FIRST ':' of the rest
example : authorityByRegex "a@b:c@d:e@f:1:2".toStr = rxAuth (some "a@b") (some "c@d:e") "f" "1:2" := by
  str_lits; decide +kernel
-- malformed bracket texts (the F-C03-bracket family): text around the brackets is dropped, a missing ']' is tolerated
example : authorityByRegex "x[::1]y:80".toStr = rxAuth none none "::1" "80" := by decide +kernel
example : authorityByRegex "[::1".toStr = rxAuth none none "::1" "" := by decide +kernel
example : authorityByRegex "".toStr = rxAuth none none "" "" := by decide +kernel
example : authorityByRegex "@".toStr = rxAuth (some "") none "" "" := by decide +kernel
example : authorityByRegex ":@:".toStr = rxAuth (some "") (some "") "" "" := by decide +kernel
example : Rfc.authoritySplit "a@b:c@d:e@f:1:2".toStr = rxAuth (some "a@b") (some "c@d:e") "f" "1:2" := by
  str_lits; decide +kernel
-- `C07_authoritySplit_rfc_grammar`: its hypotheses hold for "user:pw@[v1.fe80::a+en1]:8080" and "u@example.com:80"
example : isIpLiteralBody "v1.fe80::a+en1".toStr = true ∧ isPortText "8080".toStr = true ∧
    authorityText (some "user:pw".toStr) true "v1.fe80::a+en1".toStr (some "8080".toStr) =
      "user:pw@[v1.fe80::a+en1]:8080".toStr := by str_lits; decide +kernel
example : isRegNameText "example.com".toStr = true ∧ isPortText "80".toStr = true ∧
    authorityText (some "u".toStr) false "example.com".toStr (some "80".toStr) = "u@example.com:80".toStr := by
  str_lits; decide +kernel
-- the hypotheses matter: a "reg-name" containing ':' is not split as given
example : isRegNameText "a:b".toStr = false ∧
    (Rfc.authoritySplit (authorityText none false "a:b".toStr none)).host ≠ "a:b".toStr := by decide +kernel

/-! ## End to end: the library's parser against the regular expressions -/

/-- `split_url(s)`, whenever it succeeds, returns the Appendix B groups (`$2` lower-cased, `$4`, `$5`, `$7`, `$9`,
    undefined read as empty) of the cleaned input — of the expression without its scheme group when `$2` has a
    character outside `scheme_chars` (C07_split composed with C07_appendixB_is_regex) -/
theorem C07_split_url_is_regex (o : Oracles) (s : Str) (p : Parts) (h : splitUrl o s = .ok p) :
    toParts5 p =
      if schemeAccepted Gen.schemeChars (grp (regexGroups appendixBRe (cleanUrl s)) 2) then
        regexParts5 (regexGroups appendixBRe (cleanUrl s))
      else regexParts5 (regexGroups appendixBTailRe (cleanUrl s)) := by
  rw [C07_split o s p h, C07_appendixB_is_regex]

/-- `split_netloc(n)` is the regular-expression split of the authority (user and host through `or None`, the port text
    through `int()` and the range check: C07_netloc composed with C07_authoritySplit_is_regex) -/
theorem C07_split_netloc_is_regex (o : Oracles) (n : Str) :
    splitNetloc o n =
      (C07_portOf o (authorityByRegex n).port).map (fun pt =>
        { user := (authorityByRegex n).user.bind orNone, password := (authorityByRegex n).password,
          host := orNone (authorityByRegex n).host, port := pt }) := by
  rw [C07_netloc, C07_authoritySplit_is_regex]

example : splitUrl Oracles.empty " \tHtTp://u:p@[::1]:80/a?b#c?d".toStr =
    .ok { scheme := "http".toStr, netloc := "u:p@[::1]:80".toStr, path := "/a".toStr,
          query := "b".toStr, fragment := "c?d".toStr } := by str_lits; decide +kernel
example : regexGroups appendixBRe (cleanUrl " \tHtTp://u:p@[::1]:80/a?b#c?d".toStr) =
    rxGroups [some "HtTp:", some "HtTp", some "//u:p@[::1]:80", some "u:p@[::1]:80", some "/a", some "?b", some "b",
      some "#c?d", some "c?d"] := by str_lits; decide +kernel

end Yarl
