import YarlProofs.C15
import YarlProofs.C15Entry
import YarlProofs.C14
import YarlProofs.C03Reach
import YarlProofs.C15More
/-!
# C15 — Dot segments are removed exactly when an authority is present   (audit layer)

Property statement (verbatim):

> Whenever a URL has an authority, its path - however produced (constructor, build, with_path, /,
> joinpath, join) and whether the dots were literal or written %2E - contains no '.' or '..' segment and
> equals RFC 3986 5.2.4 remove_dot_segments applied to the rooted path that was supplied or merged, never
> climbing above the root and keeping a trailing slash when the last segment was a dot segment. URLs
> without an authority keep their dot segments verbatim, and normalisation is idempotent.

Reading guide.  `NoDotSegments p`: no segment of the '/'-split of `p` is "." or "..".  `normalizePath` /
`normalizePathSegments` are `yarl._path.normalize_path(_segments)` (a stack algorithm);
`Rfc.removeDotSegments` is an independent transcription of §5.2.4.  47 = '/', 46 = '.', 37 = '%'.
`pctDecode` is `urllib.parse.unquote_to_bytes` ("%2E"/"%2e" ↦ the byte '.'); `dot` = ".", `dotdot` = "..".
`PyStr s`: every code point of `s` is ≤ 0x10FFFF (true of every Python `str`; a model artefact, `Str` is `List Nat`).
`CanonUrl b u` (Lemmas/ReachFix.lean): path / query / fragment of `u` are canonical text of their REQUOTER and,
under an authority, the path has no dot segment and is empty or rooted; every `ReachC` URL has it
(`C03_reachable_canon`).

Updated after C15More.lean (+ Lemmas/DotMore.lean), which closes GAPS 1, 2, 3, and after fixes 7cae68c (with_path
roots the argument BEFORE normalising) and 264b96e (parent of '/name' is '/'; it does not touch any statement here).
Continued in C15HeadlineMore3.lean (headline theorems over C15Encoded.lean and C15More2.lean, which imports this file:
the `encoded=True` entry points in general, URLs derived from one that carries dot segments under an authority, and join
outside the hypotheses of `C15_headline_rfc_join` — GAPS 4, 5, 6).  Continued in C15HeadlineMore5.lean (C15ReachE.lean,
added later: the closure theorem over histories WITH `encoded=True` steps — GAPS 4, 5, 7, 8).  The GAPS block at the end
of THIS file is the one that is kept up to date.
-/
namespace Yarl
open PathLemmas PathAlg WfLemmas EntryLemmas DotMore

/-! ## Sentence 1, first half — no dot segment, per entry point
    -- Appendix E: C15_entry (e : Entry) ↦ the six theorems of this section (there is no `Entry` datatype;
    --   one theorem per entry point, C15Entry.lean). -/

/-- constructor (auto-encoding) -/
theorem C15_headline_entry_constructor (e : Env) (s : Str) (u : Url) :
    encodeUrl e s = .ok u → u.netloc ≠ [] → NoDotSegments u.path :=
  C15_entry_encodeUrl e s u

/-- build (encoded=False; with encoded=True nothing is normalised, by contract) -/
theorem C15_headline_entry_build (e : Env) (a : BuildArgs) (u : Url) :
    a.encoded = false → build e a = .ok u → u.netloc ≠ [] → NoDotSegments u.path :=
  C15_entry_build e a u

/-- with_path (encoded=False) -/
theorem C15_headline_entry_with_path (e : Env) (u : Url) (path : Str) (kq kf : Bool) :
    u.netloc ≠ [] → NoDotSegments (withPath e u path false kq kf).path :=
  C15_entry_withPath e u path kq kf

/-- / and joinpath (encoded=False) -/
theorem C15_headline_entry_joinpath (e : Env) (u : Url) (paths : List Str) (v : Url) :
    makeChild e u paths false = .ok v → v.netloc ≠ [] →
    -- the receiver's own path is clean (true for every URL made by the entry points above; an
    -- encoded=True receiver with dots and dot-free new segments is not normalised)
    NoDotSegments u.path →
    NoDotSegments v.path :=
  C15_entry_makeChild e u paths v

/-- join -/
theorem C15_headline_entry_join (e : Env) (base ref : Url) :
    (join e base ref).netloc ≠ [] → NoDotSegments base.path →
    -- a reference with its own authority is taken as it is: `C15_headline_entry_join_fails_for`
    NoDotSegments ref.path →
    NoDotSegments (join e base ref).path :=
  C15_entry_join e base ref

/-- all entry points at once (composition with C03Reach, NEW here): every URL reachable from the
    auto-encoding constructor / build(encoded=False) through modifiers with Python-string arguments and join
    (`ReachC`) that has an authority has a path without dot segments, empty or rooted -/
theorem C15_headline_reachable (e : Env) (u : Url) (h : ReachC e u) (hn : u.netloc ≠ []) :
    NoDotSegments u.path ∧ (u.path = [] ∨ u.path.head? = some 47) :=
  ⟨(C03_reachable_canon e u h).nodots hn, (C03_reachable_canon e u h).rooted hn⟩

theorem C15_headline_entry_join_fails_for (e : Env) :
    let base := fromParts "http".toStr "h".toStr "/x".toStr [] []
    let ref := fromParts "http".toStr "g".toStr "/a/../b".toStr [] []   -- made with encoded=True
    NoDotSegments base.path ∧ (join e base ref).netloc ≠ [] ∧ ¬ NoDotSegments (join e base ref).path :=
  C15_entry_join_ref_counterexample e

/-- "whether the dots were literal or written %2E": two computed instances on both backends (the general
    statements follow: `C15_headline_escaped_dots_constructor` … `_quoter_segments`) -/
theorem C15_headline_escaped_dots (b : Backend) :
    (encodeUrl ⟨b, Oracles.empty⟩ "http://h/a/%2E%2E/b".toStr).map (·.path) = .ok "/b".toStr ∧
    (encodeUrl ⟨b, Oracles.empty⟩ "http://h/%2e/x".toStr).map (·.path) = .ok "/x".toStr :=
  C15_escaped_dots_normalised b

/-- "whether the dots were literal or written %2E", IN GENERAL — constructor (closes GAPS 1, auto-encoding half):
    under an authority NO segment of the stored path percent-decodes to "." or ".." — not "%2E", not ".%2e", …
    (the requoter has decoded every escape of an unreserved character before `normalize_path` ran). -/
theorem C15_headline_escaped_dots_constructor (e : Env) (s : Str)
    (hs : PyStr s)                      -- model artefact: code points ≤ 0x10FFFF, true of every Python str
    (u : Url) :
    encodeUrl e s = .ok u → u.netloc ≠ [] →
    ∀ seg ∈ splitOn 47 u.path, pctDecode seg ≠ dot ∧ pctDecode seg ≠ dotdot :=
  C15_no_encoded_dot_segments e s hs u

/-- … the same with the twelve spellings of a dot segment over '.', "%2E", "%2e" written out -/
theorem C15_headline_escaped_dots_constructor_spellings (e : Env) (s : Str)
    (hs : PyStr s)                      -- model artefact, as above
    (u : Url) :
    encodeUrl e s = .ok u → u.netloc ≠ [] →
    ∀ seg ∈ splitOn 47 u.path,
      seg ∉ ([".", "%2E", "%2e", "..", ".%2E", ".%2e", "%2E.", "%2e.", "%2E%2E", "%2E%2e", "%2e%2E", "%2e%2e"].map
              String.toStr : List Str) :=
  C15_no_encoded_dot_spellings e s hs u

/-- … for every URL reachable through the auto-encoding API (constructor, build(encoded=False), all modifiers
    with Python-string arguments, `/`, joinpath, join: `ReachC`, C03Reach.lean — see GAPS 4 for what `ReachC`
    leaves out) -/
theorem C15_headline_escaped_dots_reachable (e : Env) (u : Url) (h : ReachC e u) (hn : u.netloc ≠ []) :
    ∀ seg ∈ splitOn 47 u.path, pctDecode seg ≠ dot ∧ pctDecode seg ≠ dotdot :=
  C15_no_encoded_dot_segments_reachable e u h hn

/-- … per entry point: build(encoded=False) -/
theorem C15_headline_escaped_dots_build (e : Env) (a : BuildArgs) (u : Url)
    (henc : a.encoded = false)          -- guard: encoded=True stores the text as given (GAPS 5)
    (hpy : BuildArgsPy a) :             -- model artefact: path / query_string / fragment / query are Python strs
    build e a = .ok u → u.netloc ≠ [] →
    ∀ seg ∈ splitOn 47 u.path, pctDecode seg ≠ dot ∧ pctDecode seg ≠ dotdot :=
  C15_no_encoded_dot_segments_build e a u henc hpy

/-- … with_path(encoded=False) -/
theorem C15_headline_escaped_dots_with_path (e : Env) (u : Url)
    (hu : CanonUrl e.b u)               -- guard: the receiver is in canonical form (every `ReachC` URL is; GAPS 4)
    (path : Str)
    (hp : PyStr path)                   -- model artefact
    (kq kf : Bool) : u.netloc ≠ [] →
    ∀ seg ∈ splitOn 47 (withPath e u path false kq kf).path, pctDecode seg ≠ dot ∧ pctDecode seg ≠ dotdot :=
  C15_no_encoded_dot_segments_with_path e u hu path hp kq kf

/-- … `/` and joinpath(encoded=False) -/
theorem C15_headline_escaped_dots_joinpath (e : Env) (u : Url)
    (hu : CanonUrl e.b u)               -- guard: the receiver is in canonical form (every `ReachC` URL is; GAPS 4)
    (paths : List Str)
    (hp : ∀ p ∈ paths, PyStr p)         -- model artefact
    (v : Url) : makeChild e u paths false = .ok v → v.netloc ≠ [] →
    ∀ seg ∈ splitOn 47 v.path, pctDecode seg ≠ dot ∧ pctDecode seg ≠ dotdot :=
  C15_no_encoded_dot_segments_make_child e u hu paths hp v

/-- what the NON-requoting PATH_QUOTER (build, with_path, `/`, joinpath) does with a supplied "%2E" (closes
    GAPS 1, QUOTER half): it works character by character and a '%' ALWAYS becomes "%25", whatever follows — so
    "%2E" is stored as "%252E", which decodes to the literal text "%2E", not to a dot … -/
theorem C15_headline_escaped_dots_quoter (e : Env) (a b : Str)
    (ha : PyStr a) (hb : PyStr b) :     -- model artefact
    q e Gen.PATH_QUOTER (a ++ 37 :: b) = q e Gen.PATH_QUOTER a ++ "%25".toStr ++ q e Gen.PATH_QUOTER b ∧
    q e Gen.PATH_QUOTER "%2E".toStr = "%252E".toStr ∧
    pctDecode (q e Gen.PATH_QUOTER "%2E".toStr) = "%2E".toStr ∧
    q e Gen.PATH_QUOTER "%2e%2E".toStr = "%252e%252E".toStr ∧
    pctDecode (q e Gen.PATH_QUOTER "%2e%2E".toStr) = "%2e%2E".toStr :=
  ⟨C15_quoter_escapes_percent e a b ha hb, C15_quoter_dot_escape_is_literal e⟩

/-- … and, segment by segment: every '/'-segment of the quoted text is the quoted form of ONE supplied segment,
    decodes to that segment's own UTF-8 bytes, and decodes to "." / ".." ONLY IF the supplied segment (lone
    surrogates aside, which every quoter drops: `stripSurr`) was literally "." / ".." — and those literal ones are
    removed under an authority (section above). -/
theorem C15_headline_escaped_dots_quoter_segments (e : Env) (s : Str)
    (hs : PyStr s) :                    -- model artefact
    ∀ seg' ∈ splitOn 47 (q e Gen.PATH_QUOTER s), ∃ seg ∈ splitOn 47 s,
      seg' = q e Gen.PATH_QUOTER seg ∧ pctDecode seg' = utf8s seg ∧
      (pctDecode seg' = dot → stripSurr seg = dot) ∧ (pctDecode seg' = dotdot → stripSurr seg = dotdot) :=
  C15_quoter_segment_decodes_to_dot e s hs

/-- the encoded=True exemption, made visible (GAPS 5; both backends): under the authority "h",
    `with_path("/a/../b", encoded=True)`, `build(path="/a/../b", encoded=True)` and `URL("http://h/a/../b",
    encoded=True)` (`preEncodedUrl`) store "/a/../b" with its dot segments, whereas `joinpath("../a", encoded=True)` on "/x" DOES normalise (stores "/a": `_make_child` tests
    `"." in path` whatever `encoded` is). -/
theorem C15_headline_entry_fails_for_encoded_true (b : Backend) :
    let e : Env := ⟨b, Oracles.empty⟩
    let u := fromParts "http".toStr "h".toStr "/x".toStr [] []
    (withPath e u "/a/../b".toStr true false false).path = "/a/../b".toStr ∧
    (build e { scheme := "http".toStr, host := "h".toStr, path := "/a/../b".toStr, encoded := true }).map
      (fun v => (v.netloc, v.path)) = .ok ("h".toStr, "/a/../b".toStr) ∧
    (preEncodedUrl e "http://h/a/../b".toStr).map (fun v => (v.netloc, v.path)) = .ok ("h".toStr, "/a/../b".toStr) ∧
    ¬ NoDotSegments "/a/../b".toStr ∧
    (makeChild e u ["../a".toStr] true).map (·.path) = .ok "/a".toStr := by
  str_lits
  cases b <;> decide +kernel

/-! ## Sentence 1, second half — the RFC algorithm -/

/-- "equals RFC 3986 5.2.4 remove_dot_segments applied to the rooted path"
    -- Appendix E: C15_rfc ↦ C15_rfc (the hypothesis `p.head? = some 47` is the explicit `47 :: p`) -/
theorem C15_headline_rfc (p : Str) : normalizePath (47 :: p) = Rfc.removeDotSegments (47 :: p) :=
  C15_rfc p

/-- … for the constructor: the stored path IS remove_dot_segments of the requoted Appendix-B path, which is
    empty or rooted under an authority -/
theorem C15_headline_rfc_constructor (e : Env) (s : Str) (u : Url) :
    encodeUrl e s = .ok u → u.netloc ≠ [] →
    ∃ p, splitUrl e.o s = .ok p ∧ (p.path = [] ∨ ∃ r, p.path = 47 :: r) ∧
      u.path = (if p.path.isEmpty then [] else Rfc.removeDotSegments (q e Gen.PATH_REQUOTER p.path)) ∧
      (u.path = [] ∨ ∃ r, u.path = 47 :: r) :=
  C15_entry_encodeUrl_rfc e s u

/-- … for with_path (exact since fix 7cae68c, which roots the argument BEFORE `normalize_path` runs): with `p` the
    quoted argument, the stored path is empty for an empty `p` and otherwise IS remove_dot_segments of the rooted
    argument (`rooted p`: `p` if it starts with '/', "/" ++ p if not).  Shape-by-shape form and the former
    counterexamples: `C15_with_path_rfc`, `C15_with_path_rfc_now_exact` (C15More.lean). -/
theorem C15_headline_rfc_with_path (e : Env) (u : Url) (path : Str) (kq kf : Bool) :
    u.netloc ≠ [] →
    (withPath e u path false kq kf).path =
      if q e Gen.PATH_QUOTER path = [] then [] else Rfc.removeDotSegments (rooted (q e Gen.PATH_QUOTER path)) :=
  C15_entry_withPath_rfc e u path kq kf

/-- … with_path, the instances that were counterexamples before fix 7cae68c and are exact now (both backends):
    `URL("http://h/x").with_path(".//a")` stores "//a" (was "/a"), `.with_path("a/..//b")` stores "//b" (was "/b")
    like the constructor on "http://h/a/..//b", `.with_path("..")` stores "/" (was ""). -/
theorem C15_headline_rfc_with_path_fixed_instances (b : Backend) :
    let e : Env := ⟨b, Oracles.empty⟩
    let u := fromParts "http".toStr "h".toStr "/x".toStr [] []
    (withPath e u ".//a".toStr false false false).path = "//a".toStr ∧
      Rfc.removeDotSegments "/.//a".toStr = "//a".toStr ∧
    (withPath e u "a/..//b".toStr false false false).path = "//b".toStr ∧
      Rfc.removeDotSegments "/a/..//b".toStr = "//b".toStr ∧
      (encodeUrl e "http://h/a/..//b".toStr).map (·.path) = .ok "//b".toStr ∧
    (withPath e u "..".toStr false false false).path = "/".toStr ∧
      Rfc.removeDotSegments "/..".toStr = "/".toStr :=
  C15_with_path_rfc_now_exact b

/-- … for build(encoded=False) (closes GAPS 2, build): under an authority the quoted `path` argument is empty or
    rooted (build rejects anything else), and the stored path IS remove_dot_segments of it -/
theorem C15_headline_rfc_build (e : Env) (a : BuildArgs) (u : Url) :
    a.encoded = false →                 -- guard: encoded=True stores the text as given (GAPS 5)
    build e a = .ok u → u.netloc ≠ [] →
    (q e Gen.PATH_QUOTER a.path = [] ∨ ∃ r, q e Gen.PATH_QUOTER a.path = 47 :: r) ∧
    u.path = Rfc.removeDotSegments (q e Gen.PATH_QUOTER a.path) :=
  C15_build_rfc e a u

/-- … for `/` and joinpath(encoded=False) (closes GAPS 2, `/` + joinpath — WITH its exact deviation).
    `M` is the segment list of the merged path: `base u` = the receiver's '/'-segments without a trailing empty one
    ([] for an empty path); `childSegs e paths` = the new segments (each quoted argument split at '/', all arguments
    but the last without a trailing empty segment); `root u.netloc L` = `L` with the root's empty first segment put in
    front (when `L` is non-empty and does not start with one).  `J = "/".join(M)` is the merged path, empty or rooted;
    `R` is §5.2.4 applied to it.  `climbs 0 L` = "walking `L` with a depth counter (".." pops, "." stays, anything
    else pushes), some ".." meets depth 0"; `anyDot e paths` = some quoted argument contains a '.'.
    The stored path IS `R` — except, and ONLY when a ".." climbs above the root, that `R = "/"` is stored as the
    empty path and `R = "//" ++ t` as `"/" ++ t`: the stack algorithm pops the root's empty segment like any other
    (known finding F-C15-root-consumed: `C15_headline_rfc_joinpath_fails_for_root_consumed`). -/
theorem C15_headline_rfc_joinpath (e : Env) (u : Url) (paths : List Str) (v : Url) :
    makeChild e u paths false = .ok v → u.netloc ≠ [] →
    NoDotSegments u.path →              -- guard: the receiver's own path is clean (every `ReachC` URL; GAPS 4)
    let M := root u.netloc (base u ++ childSegs e paths)
    let R := Rfc.removeDotSegments (joinC 47 M)
    (joinC 47 M = [] ∨ ∃ r, joinC 47 M = 47 :: r) ∧
    (v.path = R ∨
      (climbs 0 M.tail = true ∧ anyDot e paths = true ∧
        ((R = [47] ∧ v.path = []) ∨ ∃ t, R = 47 :: 47 :: t ∧ v.path = 47 :: t))) :=
  C15_make_child_rfc e u paths v

/-- … `/` and joinpath: EXACT agreement with §5.2.4 when no ".." climbs above the root … -/
theorem C15_headline_rfc_joinpath_noclimb (e : Env) (u : Url) (paths : List Str) (v : Url)
    (h : makeChild e u paths false = .ok v) (hn : u.netloc ≠ [])
    (hu : NoDotSegments u.path)         -- guard: the receiver's own path is clean (every `ReachC` URL; GAPS 4)
    (hc : climbs 0 (root u.netloc (base u ++ childSegs e paths)).tail = false) :
                                        -- known finding F-C15-root-consumed: no ".." climbs above the root
    v.path = Rfc.removeDotSegments (joinC 47 (root u.netloc (base u ++ childSegs e paths))) :=
  C15_make_child_rfc_noclimb e u paths v h hn hu hc

/-- … and whenever the RFC result is neither "/" nor starts with "//" -/
theorem C15_headline_rfc_joinpath_generic (e : Env) (u : Url) (paths : List Str) (v : Url)
    (h : makeChild e u paths false = .ok v) (hn : u.netloc ≠ [])
    (hu : NoDotSegments u.path)         -- guard: the receiver's own path is clean (every `ReachC` URL; GAPS 4)
    (h1 : Rfc.removeDotSegments (joinC 47 (root u.netloc (base u ++ childSegs e paths))) ≠ [47])
                                        -- known finding F-C15-root-consumed: RFC result "/" may be stored as ""
    (h2 : ∀ t, Rfc.removeDotSegments (joinC 47 (root u.netloc (base u ++ childSegs e paths))) ≠ 47 :: 47 :: t) :
                                        -- known finding F-C15-root-consumed: RFC result "//t" may be stored as "/t"
    v.path = Rfc.removeDotSegments (joinC 47 (root u.netloc (base u ++ childSegs e paths))) :=
  C15_make_child_rfc_generic e u paths v h hn hu h1 h2

/-- KNOWN FINDING F-C15-root-consumed (the guards `hc` / `h1`, `h2` above are needed; both backends):
    `URL("http://h/x") / "../..//a"` stores "/a", where the merged path is "/x/../..//a", §5.2.4 gives "//a" and the
    constructor on "http://h/x/../..//a" stores "//a" — the ".." that climbs above the root consumes the root's
    empty segment, so the empty segment that follows becomes the root; and `URL("http://h") / ".."` stores ""
    where §5.2.4 of "/.." is "/" (harmless: raw_path shows "/").  Repairing it changes the result pinned by
    tests/test_url.py::test_joinpath_backtrack_to_base. -/
theorem C15_headline_rfc_joinpath_fails_for_root_consumed (b : Backend) :
    let e : Env := ⟨b, Oracles.empty⟩
    let u := fromParts "http".toStr "h".toStr "/x".toStr [] []
    let u0 := fromParts "http".toStr "h".toStr [] [] []
    (makeChild e u ["../..//a".toStr] false).map (·.path) = .ok "/a".toStr ∧
      joinC 47 (root u.netloc (base u ++ childSegs e ["../..//a".toStr])) = "/x/../..//a".toStr ∧
      Rfc.removeDotSegments "/x/../..//a".toStr = "//a".toStr ∧
      (encodeUrl e "http://h/x/../..//a".toStr).map (·.path) = .ok "//a".toStr ∧
    (makeChild e u0 ["..".toStr] false).map (·.path) = .ok [] ∧
      Rfc.removeDotSegments "/..".toStr = "/".toStr :=
  C15_make_child_rfc_counterexamples b

/-- … for join ("or merged"): the path of the relative branch is remove_dot_segments of the §5.2.3 target path,
    whenever that is rooted or free of '.' (C14: `JoinLemmas.joinPath_rfc`) -/
theorem C15_headline_rfc_join (base ref : Url)
    (hb : base.netloc = [] ∨ base.path = [] ∨ base.path.head? = some 47) (hp : ref.path ≠ [])
    (ht : (∃ q, JoinLemmas.target base ref = 47 :: q) ∨ 46 ∉ JoinLemmas.target base ref) :
    JoinLemmas.joinPath base ref = Rfc.removeDotSegments (JoinLemmas.target base ref) :=
  JoinLemmas.joinPath_rfc base ref hb hp ht

/-- … join, at the level of the URL (closes GAPS 2, join as an entry point): a relative reference with a non-empty
    path against a base with an authority and an empty-or-rooted path keeps the base's authority, the §5.2.3 target
    path is rooted, and the result's path IS remove_dot_segments of it -/
theorem C15_headline_rfc_join_url (e : Env) (base ref : Url)
    (hrel : Gen.usesRelative.contains base.scheme = true)   -- guard: otherwise join returns `ref` itself
    (hsch : ref.scheme = [] ∨ ref.scheme = base.scheme)     -- guard: the reference is relative to this base
    (hn : base.netloc ≠ [])                                  -- "whenever a URL has an authority"
    (hb : base.path = [] ∨ base.path.head? = some 47)        -- guard: base path empty or rooted (every `ReachC` URL)
    (hrn : ref.netloc = [])                                  -- guard: a reference with its own authority is taken as it is
    (hp : ref.path ≠ []) :                                   -- guard: an empty reference path keeps the base path
    (join e base ref).netloc = base.netloc ∧
    (∃ r, JoinLemmas.target base ref = 47 :: r) ∧
    (join e base ref).path = Rfc.removeDotSegments (JoinLemmas.target base ref) :=
  C15_join_rfc e base ref hrel hsch hn hb hrn hp

/-- "never climbing above the root" -/
theorem C15_headline_rooted (p : Str) : ∃ q, normalizePath (47 :: p) = 47 :: q :=
  C15_rooted p

/-- "keeping a trailing slash when the last segment was a dot segment" -/
theorem C15_headline_trailing_slash (p : Str) :
    (splitOn 47 p).getLast? = some dot ∨ (splitOn 47 p).getLast? = some dotdot →
      (normalizePath (47 :: p)).getLast? = some 47 :=
  C15_trailing_slash p

/-! ## Sentence 2 -/

/-- "URLs without an authority keep their dot segments verbatim" — constructor: only requoted -/
theorem C15_headline_no_authority_verbatim (e : Env) (s : Str) (u : Url) :
    encodeUrl e s = .ok u → u.netloc = [] →
    ∃ p, splitUrl e.o s = .ok p ∧
      u.path = (if p.path.isEmpty then p.path else q e Gen.PATH_REQUOTER p.path) :=
  C15_no_authority_verbatim e s u

/-- … with_path (NEW here): without an authority the new path is the quoted argument, rooted, nothing removed -/
theorem C15_headline_no_authority_verbatim_with_path (e : Env) (u : Url) (path : Str) (kq kf : Bool)
    (hn : u.netloc = []) :
    (withPath e u path false kq kf).path = q e Gen.PATH_QUOTER path ∨
    (withPath e u path false kq kf).path = 47 :: q e Gen.PATH_QUOTER path := by
  simp only [withPath, hn, fromParts]
  split <;> simp_all

/-- … build(encoded=False) (closes GAPS 3, build): without an authority the stored path IS the quoted `path`
    argument, nothing removed; and its '/'-segments are the quoted segments of the argument, one for one
    (PATH_QUOTER keeps '.' and '/' as they are and turns "%2E" into "%252E": `C15_headline_escaped_dots_quoter`) -/
theorem C15_headline_no_authority_verbatim_build (e : Env) (a : BuildArgs) (u : Url) :
    a.encoded = false →                 -- guard: with encoded=True the argument is stored unquoted (also verbatim)
    build e a = .ok u → u.netloc = [] →
    u.path = q e Gen.PATH_QUOTER a.path ∧
    (PyStr a.path →                     -- model artefact
      splitOn 47 u.path = (splitOn 47 a.path).map (q e Gen.PATH_QUOTER)) :=
  fun henc h hn => ⟨C15_build_no_authority_verbatim e a u henc h hn,
    fun hpy => C15_build_no_authority_segments e a u hpy henc h hn⟩

/-- … `/` and joinpath(encoded=False) (closes GAPS 3, `/` + joinpath): on a URL without authority the result has no
    authority and its path is the plain '/'-join of the receiver's segments (`base u`: without a trailing empty one)
    and the new segments (`childSegs e paths`: the quoted arguments split at '/'); splitting it gives these
    segments back, so every "." and ".." of either operand is still there -/
theorem C15_headline_no_authority_verbatim_joinpath (e : Env) (u : Url) (paths : List Str) (v : Url) :
    makeChild e u paths false = .ok v → u.netloc = [] →
    v.netloc = [] ∧ v.path = joinC 47 (base u ++ childSegs e paths) ∧
    (base u ++ childSegs e paths ≠ [] → splitOn 47 v.path = base u ++ childSegs e paths) ∧
    (∀ seg, seg ∈ base u ∨ seg ∈ childSegs e paths → seg ∈ splitOn 47 v.path) :=
  C15_make_child_no_authority_verbatim e u paths v

/-- "URLs without an authority keep their dot segments verbatim" is FALSE for join, by design (RFC 3986 §5.2 removes
    dot segments when resolving, with or without authority; general form: `C15_entry_join_merge`, C15Entry.lean):
    `URL("x/y").join(URL("../z/./w"))` has no authority and the path "z/w". -/
theorem C15_headline_no_authority_verbatim_fails_for_join (e : Env) :
    let base := fromParts [] [] "x/y".toStr [] []
    let ref := fromParts [] [] "../z/./w".toStr [] []
    (join e base ref).netloc = [] ∧ (join e base ref).path = "z/w".toStr ∧ ¬ NoDotSegments ref.path := by
  simp only [join]; decide +kernel

/-- "and normalisation is idempotent" -/
theorem C15_headline_idempotent (p : Str) (segs : List Str) :
    normalizePath (normalizePath (47 :: p)) = normalizePath (47 :: p) ∧
    normalizePathSegments (normalizePathSegments segs) = normalizePathSegments segs :=
  ⟨C15_idem p, C15_segments_idem segs⟩

/-- the `"." in path` fast-path guard of all callers is sound: a path without '.' is returned unchanged -/
theorem C15_headline_dot_guard (p : Str) : 46 ∉ p → normalizePath p = p :=
  C15_dot_guard_sound p

/-! ## non-vacuity -/
example : ¬ NoDotSegments "a/.././b".toStr := by str_lits; decide +kernel
example : NoDotSegments "/a/.b/c../...".toStr := by str_lits; decide +kernel
example : normalizePath "/a/b/../c/./d/..".toStr = "/a/c/".toStr := by str_lits; decide +kernel
example : (withPath ⟨.py, Oracles.empty⟩ (fromParts [] [] [] [] []) "../a/./b".toStr false false false).path
    = "/../a/./b".toStr := by decide +kernel

/-
GAPS:
 1. CLOSED by C15_no_encoded_dot_segments (+ _reachable, _build, _with_path, _make_child), C15_no_encoded_dot_spellings,
    C15_quoter_escapes_percent, C15_quoter_dot_escape_is_literal, C15_quoter_segment_decodes_to_dot (C15More.lean),
    see C15_headline_escaped_dots_constructor, _constructor_spellings, _reachable, _build, _with_path, _joinpath,
    C15_headline_escaped_dots_quoter, _quoter_segments.  Proved: under an authority no '/'-segment of the stored
    path percent-decodes (`pctDecode` = unquote_to_bytes) to "." or ".." — for the constructor, build(encoded=False),
    with_path / `/` / joinpath (encoded=False) and every `ReachC` URL; and the non-requoting PATH_QUOTER turns every
    '%' into "%25" ("%2E" is stored as "%252E"), each quoted segment decoding to "." / ".." only if the supplied
    segment was literally one.  Side conditions: `PyStr` of the arguments (model artefact, true of every Python
    str); for with_path / joinpath the receiver must satisfy `CanonUrl`, which is discharged for `ReachC` URLs
    only (C03_reachable_canon) — same limit as item 4.
 2. CLOSED by C15_build_rfc, C15_make_child_rfc (+ _noclimb, _generic, _counterexamples), C15_join_rfc,
    C15_with_path_rfc_now_exact (C15More.lean), see C15_headline_rfc_build, C15_headline_rfc_joinpath (+ _noclimb,
    _generic), C15_headline_rfc_join_url, C15_headline_rfc_with_path_fixed_instances — EXCEPT for the known finding
    F-C15-root-consumed (C15_headline_rfc_joinpath_fails_for_root_consumed), which is not a gap of the proof but a
    deviation of the library.  "equals RFC 3986 5.2.4 remove_dot_segments applied to the rooted path that was
    supplied or merged" is now proved for: the algorithm on rooted input (C15_headline_rfc), the constructor, build
    (the quoted argument is empty or rooted, else rejected), with_path (C15_headline_rfc_with_path — EXACT since fix
    7cae68c: the argument is rooted first, "/" + path for a rootless one, and normalize_path runs on the rooted path;
    the old code normalised a rootless argument as a RELATIVE path and rooted it afterwards: with_path("a/..//b")
    stored "/b", now "//b"), join (path level C15_headline_rfc_join, URL level C15_headline_rfc_join_url), and `/` +
    joinpath with its EXACT deviation: the stored path is remove_dot_segments of the merged rooted path unless a ".."
    climbs above the root AND the RFC result is "/" (stored "") or "//t" (stored "/t").  That deviation remains in
    the library (pinned by tests/test_url.py::test_joinpath_backtrack_to_base).
 3. CLOSED by C15_build_no_authority_verbatim, C15_build_no_authority_segments, C15_make_child_no_authority_verbatim
    (C15More.lean), see C15_headline_no_authority_verbatim_build, C15_headline_no_authority_verbatim_joinpath.
    "URLs without an authority keep their dot segments verbatim" is now proved for the constructor, with_path, build
    and `/` + joinpath (all encoded=False; stored path = quoted argument resp. plain '/'-join of old and new
    segments).  It is FALSE for join, by design (RFC 5.2 removes dot segments when resolving, with or
    without authority: `C15_entry_join_merge`; witness C15_headline_no_authority_verbatim_fails_for_join), which
    the property text does not exclude.
 4. PARTLY CLOSED by C15_derived_path_kept, C15_derived_make_child, C15_derived_parent, C15_derived_with_name_suffix,
    C15_derived_join_ref_verbatim (C15Encoded.lean), C15_joinpath_dots_iff, C15_with_name_suffix_parent_dots_iff,
    C15_join_base_dots_iff, C15_join_ref_dots_iff (C15More2.lean), see C15_headline_derived_path_kept,
    C15_headline_derived_joinpath_iff (+ _exact, _instances), C15_headline_derived_name_suffix_parent_iff (+ _derived_parent,
    _derived_with_name_suffix, _instances), C15_headline_derived_join_iff, C15_headline_derived_join_ref,
    C15_headline_derived_join_ref_verbatim, C15_headline_derived_join_instances, C15_headline_derived_from_encoded_instance
    (C15HeadlineMore3.lean).
    The item was: joinpath / join need the receiver's / operands' paths to be dot-free already; for reachable URLs this
    is C15_headline_reachable (via C03Reach's CanonUrl invariant), whose `ReachC` restricts modifier arguments to
    `op.ArgsCanon` (see C03Reach.lean) — URLs outside `ReachC` (encoded=True anywhere in the history) were not covered.
    Proved now, for ANY receiver `u` with an authority (no `ReachC`, no `CanonUrl`, whatever its stored path — a dot
    segment under an authority can only come from `encoded=True`), operation by operation, as EQUIVALENCES
    "the result has no dot segment ⇔ …":
      scheme / user / password / host / port / query / fragment modifiers, relative(): path copied, ⇔ `u.path` had none;
      `/`, joinpath (encoded=False AND encoded=True): ⇔ some argument text contains '.' (then the whole merged path is
        normalised) OR `u.path` had none;
      with_name, with_suffix, parent: ⇔ no dot segment among all segments BUT THE LAST of `u.path`
        (hypotheses: `u.path` rooted; name / suffix arguments `PyStr`; for parent the path is not "/");
      join, merge branch (reference without authority, same or no scheme, scheme in uses_relative): ⇔ `ref.path ≠ ""` OR
        `base.path` had none; join with a reference that has its own authority: ⇔ `ref.path` has none; another scheme /
        a scheme outside uses_relative: the result IS `ref`;
      with_path(encoded=False) and the auto-encoding constructor / build(encoded=False) need nothing of the receiver
        (C15_headline_entry_with_path, _entry_constructor, _entry_build: always clean).
    So the first clause of the property is FALSE outside `ReachC` in exactly the situations the right-hand sides describe
    (witnesses: C15_headline_derived_joinpath_instances, _derived_name_suffix_parent_instances, _derived_join_instances).
    WAS STILL OPEN: these are per-operation statements; there is no closure theorem over histories that contain
    `encoded=True` steps (no C15 invariant over `ReachE`, ReachE.lean — there cannot be an unconditional one).
    CLOSED (the closure theorem; first clause of the property only) by C15_reachE_no_dot_segments, C15_reachE_inv,
    C15_ReachE.toReachEX / .toReachE, C15_ctorEnc_inv_iff, C15_buildEnc_inv_iff, C15_withPathEnc_inv_iff,
    C15_joinpathEnc_inv, C15_reachE_ctorEnc_condition_needed, C15_reachE_buildEnc_condition_needed,
    C15_reachE_withPathEnc_condition_needed, C15_reachE_rootless_build_needed, C15_reachEX_no_dot_segments_false,
    C15_reachE_joinpathEnc_instances, C15_reachE_example (C15ReachE.lean), see C15_headline_reachE_no_dot_segments,
    C15_headline_reachE_invariant, C15_headline_reachE_side_conditions_def, C15_headline_reachE_side_conditions_exact,
    C15_headline_reachE_is_subclosure, C15_headline_reachE_conditions_needed,
    C15_headline_reachE_rootless_build_needed, C15_headline_reachEX_closure_fails_for_rootless_build,
    C15_headline_reachE_joinpath_encoded_instances, C15_headline_reachE_example (C15HeadlineMore5.lean).  Proved: every
    URL of the inductive closure `C15_ReachE A Z Sc e` — `ReachEX A Z Sc e` (ALL entry points of the model: both
    constructor modes, both `build` modes, the 18 operations other than `UOp.joinRef` with Python-string arguments,
    with_path(…, encoded=True), joinpath(…, encoded=True), `join` of two members; `A`, `Z`, `Sc` arbitrary) with ONE
    extra premise on each `encoded=True` entry point that stores its text verbatim — has, when it has an authority, a
    path without "." / ".." segments that is empty or starts with '/'.  The side conditions (decidable on the arguments;
    no backend, no oracle; spelled out in C15_headline_reachE_side_conditions_def):
      `URL(s, encoded=True)`           `C15_CtorEncOK s`: if the Appendix-B authority of the cleaned `s` is non-empty, its
                                       Appendix-B path has no dot segment;
      `URL.build(…, encoded=True)`     `C15_BuildEncOK a`: if `authority=` or `host=` is non-empty, `path=` has no dot segment
                                       AND is empty or starts with '/';
      `u.with_path(p, encoded=True)`   `C15_WithPathEncOK u p`: if `u` has an authority, `p` has no dot segment;
      `u.joinpath(*ps, encoded=True)`  NOTHING.
    Each condition is EQUIVALENT to "the invariant `C15_Inv` (no dot segment ∧ empty-or-rooted, under an authority)
    holds right after this call", so none can be weakened entry by entry; each is NEEDED (one Python-level witness per
    condition, both backends).  PROVED FALSE: the closure statement in the form first asked for — "if every text handed
    over with `encoded=True` is free of dot segments, every `ReachEX` URL with an authority is" —
    (C15_headline_reachEX_closure_fails_for_rootless_build): `URL.build(scheme='http', host='h', path='x/',
    encoded=True).join(URL('../x../y')).with_name('n')` has the path "/../n" under "h" although no `encoded=True` text has
    a dot segment; hence the "empty or rooted" half of `C15_BuildEncOK` (C15ReachE.lean reports the three calls as
    confirmed on the library, pure-Python backend; that is outside Lean and not a probe row).  Not a defect
    (`encoded=True` is the caller's promise), NOT in KNOWN_FINDINGS.jsonl.
    STILL OPEN in this item: the closure theorem is the FIRST clause only ("contains no '.' or '..' segment", plus
    rootedness); nothing over `C15_ReachE` about "equals remove_dot_segments of the supplied or merged path" nor about
    the "%2E" clause (with `encoded=True` a "%2E%2E" segment is stored as it is and is not a dot segment for
    `NoDotSegments`: C15_headline_reachE_joinpath_encoded_instances; items 1, 5).  The side conditions are SUFFICIENT for
    the final URL, exact only step by step: a history that violates one and repairs it later (`with_path(p)` after a
    dirty `URL(s, encoded=True)`) is outside `C15_ReachE` although its result is clean — for such histories the
    per-operation equivalences above remain the tool.  `UOp.joinRef` (model artefact) is not in the closure.  For a
    receiver WITH dot segments the second clause ("equals remove_dot_segments of the merged path") is not compared with
    §5.2.4: C15_headline_rfc_joinpath keeps its guard `NoDotSegments u.path`, and C15_headline_derived_joinpath_exact
    gives the stored path only in terms of `normalize_path_segments`.  with_name / with_suffix / parent on a ROOTLESS
    path next to an authority (only `build(path="x/y", encoded=True)`) are not covered.  The "%2E" statements of item 1
    for with_path / joinpath still need `CanonUrl` of the receiver (`ReachC` URLs only).
 5. CLOSED (by stating exactly what holds — the clause itself is FALSE on these entry points, by design) by
    C15_encoded_entry_points, C15_encoded_keeps_dot_segments, C15_make_child_any_mode, C15_encoded_make_child,
    C15_childOf_path (C15Encoded.lean), C15_encoded_constructor_iff, C15_encoded_build_iff, C15_encoded_with_path_iff
    (C15More2.lean), see C15_headline_encoded_constructor, C15_headline_encoded_build, C15_headline_encoded_with_path,
    C15_headline_entry_fails_for_encoded_true_general, C15_headline_encoded_joinpath,
    C15_headline_encoded_entry_points_instance (C15HeadlineMore3.lean); computed witnesses as before:
    C15_headline_entry_fails_for_encoded_true.  Proved, in general: `URL(s, encoded=True)` stores the Appendix-B path of
    the cleaned `s`, `build(path=p, encoded=True)` stores `p` (not even required to be rooted), `with_path(p,
    encoded=True)` stores `p` rooted with '/' when non-empty and rootless — all three NEVER normalise, with or without
    authority, so the result has no dot segment IFF the supplied path has none, and every rooted argument with a dot
    segment is a counterexample to "however produced … contains no '.' or '..' segment".  `/` + joinpath with
    encoded=True are the SAME function as without, with the identity in place of PATH_QUOTER: they DO normalise the
    whole merged path (under an authority) when an argument contains a literal '.' ("%2E" is not decoded and does not
    count) — the earlier text of this item listed joinpath among the skipping entry points, which was wrong.
    Hypotheses: none beyond success of the call.  Remaining (not a proof gap): the property text ("however produced")
    does not mention the exemption.
    EXTENDED by C15_ctorEnc_inv_iff, C15_buildEnc_inv_iff, C15_withPathEnc_inv_iff, C15_joinpathEnc_inv,
    C15_ctorEncOK_of_canonicalB (C15ReachE.lean) and C03_encoded_true_on_canonical (C03Encoded.lean), see
    C15_headline_reachE_side_conditions_exact, C15_headline_encoded_true_canonical_text_admissible
    (C15HeadlineMore5.lean).  The "IFF the supplied path has none" of this item is restated with rootedness and with the
    authority test on the ARGUMENTS (the invariant `C15_Inv` of the result ⇔ the side condition of item 4 on the call),
    for `build` including "path= is empty or rooted"; `joinpath(…, encoded=True)` keeps `C15_Inv` for ANY arguments.
    POSITIVE corner: every text the checker `canonicalB` (C04Decide.lean) accepts satisfies `C15_CtorEncOK`, and
    `URL(s, encoded=True)` then prints `s` and has no dot segment and a rooted-or-empty path under its authority (on such
    text it is the auto-encoding constructor: C03Headline.lean GAPS 6).
 6. PARTLY CLOSED by C15_rfc_join_excluded_cases, C15_rfc_join_no_authority, C15_rfc_join_url_no_authority,
    C15_rfc_join_authority_rootless_base, C15_rfc_join_authority_rootless_base_instances (C15More2.lean, over
    C14More.lean), see C15_headline_rfc_join_excluded_cases, C15_headline_rfc_join_path_no_authority,
    C15_headline_rfc_join_no_authority, C15_headline_rfc_join_fails_for_no_authority_escape,
    C15_headline_rfc_join_authority_rootless_base, C15_headline_rfc_join_fails_for_authority_rootless_base
    (C15HeadlineMore3.lean) — all but the two sub-cases named at the end.  Proved: the hypotheses of
    C15_headline_rfc_join fail in EXACTLY two situations.  (b) base WITHOUT authority, base path empty or rootless,
    reference path rootless, a '.' in the merged path — and more generally for EVERY base without authority (hypotheses at
    URL level: scheme in uses_relative, reference relative to the base and without authority, `ref.path ≠ ""`): the stored
    path is `normalize_path` of the §5.2.3 target, has no dot segment, and §5.2.4 of the target is that path with ONE '/'
    in front exactly when the decidable condition `C14_deviates base.path ref.path` holds (a ".." pops the first
    output segment); equal IFF it is false.  So "equals remove_dot_segments of the merged path" is FALSE there in general
    (`URL("x/y").join(URL("../../c"))` has "c", the RFC "/c") — outside the first sentence's scope (no authority), a
    deviation of the library already recorded under C14.  (a) base WITH an authority and a ROOTLESS non-empty path
    (only `build(…, encoded=True)` / hand-made parts), rootless reference path: the stored path is given exactly —
    `normalize_path(base.path + ref.path)` when the base path ends in '/', else §5.2.4 of "//" + (base.path[1:] up to its
    last '/') + ref.path — and differs from the RFC (`b.join(URL("c"))` has "///c", the RFC "x/c").
    Under an authority with an empty-or-rooted base path — the scope of the property — the target is always rooted
    (second conjunct of C15_headline_rfc_join_url).  C15_headline_rfc_join_url also needs `ref.netloc = []`: a
    reference with its own authority is taken as it is (C15_headline_entry_join_fails_for; in general
    C15_headline_derived_join_ref).
    Inside case (a) (reachable only through `build(…, encoded=True)`): with a base path ending in '/' the RFC's path is
    `join`'s with one '/' in front exactly when `C14_pathEscapes (base.path ++ ref.path)`, and a ROOTED reference path
    against such a base is RFC-exact (C14Rootless.lean: C14_rootless_base_relative_ref_vs_rfc_slash,
    C14_rootless_base_rooted_ref; see C14HeadlineMore6.lean).
 7. (new) Side conditions introduced by the theorems of items 4–6 that no theorem discharges: `PyStr` of the
    with_name / with_suffix arguments (model artefact); `u.path = "/" ++ r` for with_name / with_suffix / parent and
    `r ≠ ""` for parent; for join the case split on `ref.scheme`, `uses_relative`, `ref.netloc` is exhaustive
    (C15_headline_derived_join_iff + _derived_join_ref + _derived_join_ref_verbatim; `uses_relative ⊆ uses_netloc` is
    C14_relative_subset_authority, a computed fact about the generated tables).  The witnesses named "instances" are
    evaluated in the model on both backends; that CPython agrees is the differential harness, not a proof.
    PARTLY CLOSED by C15_reachE_inv (C15ReachE.lean), see C15_headline_reachE_invariant (C15HeadlineMore5.lean): over the
    closure `C15_ReachE` of item 4 the side condition "`u.path` is rooted (or empty) under an authority" of the
    with_name / with_suffix / parent equivalences is DISCHARGED (second half of `C15_Inv`); `PyStr` of the arguments is a
    premise of the closure (`op.ArgsPy`), `r ≠ ""` for parent stays.
 8. NEW (trusted definitions and side conditions introduced by the closure of item 4, C15ReachE.lean).
    (a) `C15_ReachE` is an INDUCTIVE definition to be read (eight constructors: ctor, ctorEnc, build, buildEnc, op,
    withPathEnc, childEnc, join); that it is `ReachEX` plus three premises is PROVED in one direction only
    (`C15_ReachE.toReachEX`: every member is a `ReachEX` member with the same classes) — the converse "a `ReachEX` URL
    whose `encoded=True` calls satisfy the conditions is a member" is true by reading the constructors side by side,
    not a theorem.  `ReachEX` / `ReachE` themselves are closures over the entry points OF THE MODEL (ReachE.lean;
    C19Headline.lean GAPS 7).  (b) `C15_CtorEncOK` is stated through `Rfc.appendixB Gen.schemeChars (cleanUrl s)`
    (C07Headline.lean GAPS 6), not through the library's parser; they agree whenever `split_url` succeeds
    (C07_preencoded_accessors, used in the proof of C15_ctorEnc_inv_iff).  (c) `C15_BuildEncOK` tests `authority=` /
    `host=` for NON-EMPTINESS of the argument texts; that this is "the stored authority is non-empty" is
    R14.encBuildNetloc_ne_nil (C15ReachE.lean).  (d) The premises `A` (class of every `encoded=True` text, also imposed
    on the scheme / host texts of `build`), `Z`, `Sc` are inherited from `ReachEX` and play no role for C15 — take
    `fun _ => True`, as C15_headline_reachE_example does.  (e) The Python-level witnesses are evaluated in the model
    with `Oracles.empty` on both backends; C15ReachE.lean's remark "confirmed on the library (pure-Python backend)" for
    the rootless-build history is a manual check, not part of the evidence run.
-/
end Yarl
