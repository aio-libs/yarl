import YarlProofs.C15Headline
import YarlProofs.C15HeadlineMore3
import YarlProofs.C15ReachE
import YarlProofs.C03Encoded
/-!
  C15HeadlineMore5.lean — AUDIT LAYER for property C15, continuation of C15Headline.lean / C15HeadlineMore3.lean: headline
  theorems for the proof module added after the last refresh, C15ReachE.lean (over ReachE.lean, C15More2.lean,
  C04Decide.lean), and for the C15 clause of C03Encoded.lean.  This file is a leaf, nobody imports it.  The GAPS block of
  C15Headline.lean (items 4, 5, 7, 8) cites the theorems of this file; so does C07Headline.lean GAPS 8.

  C15 | Dot segments are removed exactly when an authority is present |
  "Whenever a URL has an authority, its path - however produced (constructor, build, with_path, /, joinpath, join) and
  whether the dots were literal or written %2E - contains no '.' or '..' segment and equals RFC 3986 5.2.4
  remove_dot_segments applied to the rooted path that was supplied or merged, never climbing above the root and keeping
  a trailing slash when the last segment was a dot segment. URLs without an authority keep their dot segments verbatim,
  and normalisation is idempotent."

  What is here (GAPS 4 of C15Headline.lean: "there is no closure theorem over histories that contain `encoded=True`
  steps … there cannot be an unconditional one").
   * THE CLOSURE THEOREM `C15_headline_reachE_no_dot_segments`: first clause of the property ("whenever a URL has an
     authority, its path — however produced — contains no '.' or '..' segment"), plus "the path is empty or rooted", for
     every URL of the closure `C15_ReachE` — ALL entry points of the model, `encoded=True` included, with ONE decidable
     side condition on each `encoded=True` entry point that stores its text verbatim (three: constructor, build,
     with_path; `joinpath(…, encoded=True)` needs none).
   * `C15_headline_reachE_side_conditions_def`: the three side conditions and the invariant, spelled out (by `Iff.rfl`).
   * `C15_headline_reachE_side_conditions_exact`: each side condition is EQUIVALENT to "the invariant holds right after
     this call" — they cannot be weakened; `joinpath(…, encoded=True)` keeps the invariant unconditionally.
   * `C15_headline_reachE_is_subclosure`: `C15_ReachE` is `ReachEX` / `ReachE` (ReachE.lean) with the side conditions added.
   * `C15_headline_reachE_conditions_needed`: one Python-level witness per side condition, both backends.
   * `C15_headline_reachEX_closure_fails_for_rootless_build`: the statement in the form first asked for — "if no text
     handed over with `encoded=True` has a dot segment, no `ReachEX` URL with an authority has one" — is FALSE; the
     witness history (`build(path='x/', encoded=True)`, `join`, `with_name`) and why "rooted" must be part of the
     condition on `build`.
   * `C15_headline_encoded_true_canonical_text_admissible`: canonical text (`canonicalB`, C04Decide.lean) satisfies the
     constructor's side condition, and there `URL(s, encoded=True)` has no dot segment under its authority.
   * `C15_headline_reachE_example`: a history with three `encoded=True` steps inside the closure (non-vacuity).

  Vocabulary (C15ReachE.lean; the rest as in C15Headline.lean / C15HeadlineMore3.lean).
  `C15_Inv u`            — THE INVARIANT: `u.netloc ≠ [] → NoDotSegments u.path ∧ (u.path = [] ∨ u.path starts with '/')`.
  `C15_CtorEncOK s`      — side condition of `URL(s, encoded=True)`: if the Appendix-B authority of the cleaned `s` is
                           non-empty, its Appendix-B path has no dot segment.
  `C15_BuildEncOK a`     — side condition of `URL.build(…, encoded=True)`: if `authority=` or `host=` is non-empty, `path=`
                           has no dot segment AND is empty or starts with '/'.
  `C15_WithPathEncOK u p`— side condition of `u.with_path(p, encoded=True)`: if `u` has an authority, `p` has no dot segment.
  `C15_ReachE A Z Sc e u`— the inductive closure: `ReachEX A Z Sc e` (ReachE.lean; `A` = class imposed on every text handed
                           over with `encoded=True`, `Z` on the `host[:port]` text of auto-encoding inputs, `Sc` on scheme
                           arguments — all three may be `fun _ => True`) with the three conditions above as extra premises
                           of the constructors `ctorEnc`, `buildEnc`, `withPathEnc`.  Its operations are the 18 of `UOp`
                           other than `joinRef` with Python-string arguments (`op.ArgsPy`), `with_path(…, encoded=True)`,
                           `joinpath(…, encoded=True)`, and `join` of two closure members.
  `makeChild e u paths true` — `u.joinpath(*paths, encoded=True)`;  `withPath e u p true kq kf` — `u.with_path(p, encoded=True, …)`.
  47 = '/'.
-/
namespace Yarl
open PathLemmas PathAlg WfLemmas EntryLemmas DotMore ReachFix StrAscii

/-! ## GAPS 4 — the closure theorem over histories WITH `encoded=True` steps -/

/-- "Whenever a URL has an authority, its path — HOWEVER PRODUCED — contains no '.' or '..' segment", over ALL entry points
    of the model.  Every URL obtained through any sequence of: both constructor modes, both `build` modes, the 18
    operations with Python-string arguments, `with_path(…, encoded=True)`, `joinpath(…, encoded=True)`, `join` of two such
    URLs — in which every `URL(s, encoded=True)` satisfies `C15_CtorEncOK s`, every `build(…, encoded=True)` satisfies
    `C15_BuildEncOK a`, every `u.with_path(p, encoded=True)` satisfies `C15_WithPathEncOK u p`, and
    `joinpath(…, encoded=True)` NOTHING — has, under an authority, a path without dot segments that is empty or starts
    with '/'.  The classes `A`, `Z`, `Sc` are arbitrary (take `fun _ => True`).  Cites C15_reachE_no_dot_segments. -/
theorem C15_headline_reachE_no_dot_segments {A Z Sc : Str → Prop} {e : Env} {u : Url}
    (h : C15_ReachE A Z Sc e u)          -- produced through any entry points, side conditions on the three verbatim ones
    (hn : u.netloc ≠ []) :               -- "whenever a URL has an authority"
    NoDotSegments u.path ∧ (u.path = [] ∨ u.path.head? = some 47) :=
  C15_reachE_no_dot_segments h hn

/-- the three side conditions and the invariant, SPELLED OUT (definitional unfoldings, to be read): what a caller of an
    `encoded=True` entry point has to guarantee for the closure theorem to apply.  All four are decidable on the
    arguments (instances in C15ReachE.lean); no backend, no oracle. -/
theorem C15_headline_reachE_side_conditions_def (s : Str) (a : BuildArgs) (u : Url) (p : Str) :
    (C15_Inv u ↔ (u.netloc ≠ [] → NoDotSegments u.path ∧ (u.path = [] ∨ u.path.head? = some 47))) ∧
    (C15_CtorEncOK s ↔
      ((Rfc.appendixB Gen.schemeChars (cleanUrl s)).authority ≠ [] →
        NoDotSegments (Rfc.appendixB Gen.schemeChars (cleanUrl s)).path)) ∧
    (C15_BuildEncOK a ↔
      ((a.authority ≠ [] ∨ a.host ≠ []) → NoDotSegments a.path ∧ (a.path = [] ∨ a.path.head? = some 47))) ∧
    (C15_WithPathEncOK u p ↔ (u.netloc ≠ [] → NoDotSegments p)) :=
  ⟨Iff.rfl, Iff.rfl, Iff.rfl, Iff.rfl⟩

/-- EXACTNESS: each side condition is EQUIVALENT to "the invariant holds right after this call" — for any successful
    `URL(s, encoded=True)`, any successful `build(…, encoded=True)`, any `u.with_path(p, encoded=True)` (whatever `u`
    carried) — so none can be weakened; and `u.joinpath(*ps, encoded=True)` keeps the invariant for ANY arguments.
    Cites C15_ctorEnc_inv_iff, C15_buildEnc_inv_iff, C15_withPathEnc_inv_iff, C15_joinpathEnc_inv. -/
theorem C15_headline_reachE_side_conditions_exact (e : Env) :
    (∀ s u, preEncodedUrl e s = .ok u → (C15_Inv u ↔ C15_CtorEncOK s)) ∧
    (∀ a u, a.encoded = true → build e a = .ok u → (C15_Inv u ↔ C15_BuildEncOK a)) ∧
    (∀ u p kq kf, C15_Inv (withPath e u p true kq kf) ↔ C15_WithPathEncOK u p) ∧
    (∀ u v paths, C15_Inv u → makeChild e u paths true = .ok v → C15_Inv v) :=
  ⟨C15_ctorEnc_inv_iff e, C15_buildEnc_inv_iff e, C15_withPathEnc_inv_iff e, C15_joinpathEnc_inv e⟩

/-- the invariant itself along every history (the closure theorem before "whenever a URL has an authority" is applied);
    its second half is the hypothesis `hrooted` of C07_headline_recompose_by_the_letter.  Cites C15_reachE_inv. -/
theorem C15_headline_reachE_invariant {A Z Sc : Str → Prop} {e : Env} {u : Url} (h : C15_ReachE A Z Sc e u) :
    C15_Inv u :=
  C15_reachE_inv h

/-- `C15_ReachE` is a SUB-closure of `ReachEX` (same classes) and of `ReachE` (ReachE.lean): nothing was added to the
    entry points, only the three side conditions.  So every theorem over `ReachE` / `ReachEX` (C01, C06, C11, C12, C19 …)
    applies to its members.  Cites C15_ReachE.toReachEX, C15_ReachE.toReachE. -/
theorem C15_headline_reachE_is_subclosure {A Z Sc : Str → Prop} {e : Env} {u : Url} (h : C15_ReachE A Z Sc e u) :
    ReachEX A Z Sc e u ∧ ReachE e u :=
  ⟨h.toReachEX, h.toReachE⟩

/-! ## every side condition is needed -/

/-- one Python-level witness per side condition, both backends, each a `ReachE` URL with an authority AND a dot segment
    whose side condition fails:
    `URL('http://h/a/../b', encoded=True)`;  `URL.build(scheme='http', host='h', path='/a/./b', encoded=True)`;
    `URL('http://h/').with_path('/a/../b', encoded=True)`.
    Cites C15_reachE_ctorEnc_condition_needed, C15_reachE_buildEnc_condition_needed,
    C15_reachE_withPathEnc_condition_needed. -/
theorem C15_headline_reachE_conditions_needed (b : Backend) :
    (let e : Env := ⟨b, Oracles.empty⟩
     let u := fromParts "http".toStr "h".toStr "/a/../b".toStr [] []
     preEncodedUrl e "http://h/a/../b".toStr = .ok u ∧ ReachE e u ∧ u.netloc ≠ [] ∧ ¬ NoDotSegments u.path ∧
     ¬ C15_CtorEncOK "http://h/a/../b".toStr) ∧
    (let e : Env := ⟨b, Oracles.empty⟩
     let a : BuildArgs := { scheme := "http".toStr, host := "h".toStr, path := "/a/./b".toStr, encoded := true }
     let u := fromParts "http".toStr "h".toStr "/a/./b".toStr [] []
     build e a = .ok u ∧ ReachE e u ∧ u.netloc ≠ [] ∧ ¬ NoDotSegments u.path ∧ ¬ C15_BuildEncOK a) ∧
    (let e : Env := ⟨b, Oracles.empty⟩
     ∃ u0, encodeUrl e "http://h/".toStr = .ok u0 ∧
       let v := withPath e u0 "/a/../b".toStr true false false
       ReachE e v ∧ v.netloc ≠ [] ∧ v.path = "/a/../b".toStr ∧ ¬ NoDotSegments v.path ∧
       ¬ C15_WithPathEncOK u0 "/a/../b".toStr) :=
  ⟨C15_reachE_ctorEnc_condition_needed b, C15_reachE_buildEnc_condition_needed b,
   C15_reachE_withPathEnc_condition_needed b⟩

/-- THE SECOND CLAUSE of `C15_BuildEncOK` ("empty or rooted") is needed although a rootless path without dot segments
    violates nothing by itself.  The history

        b = URL.build(scheme='http', host='h', path='x/', encoded=True)       # path "x/", no dot segment anywhere
        j = b.join(URL('../x../y'))                                            # path "x../y"  (still none)
        w = j.with_name('n')                                                   # path "/../n"  — a ".." under "h"

    is inside `ReachEX` with the class "no dot segment in any `encoded=True` text" (as a path, and as the path of a URL
    string), every `encoded=True` text in it ('http', 'h', 'x/', '') is free of dot segments, and the result has a ".."
    under the authority "h": `raw_parts` reads a stored path under an authority from its SECOND character on, and `join`
    normalises a rootless base path + reference as a RELATIVE path.  C15ReachE.lean reports the three calls as checked
    against the library (pure-Python backend): URL('http://h/x/'), URL('http://h/x../y'), URL('http://h/../n') — that
    check is outside Lean.  Not a defect (`encoded=True` is the caller's promise; a rootless path next to an authority
    is storable only through `build(encoded=True)`).  Cites C15_reachE_rootless_build_needed. -/
theorem C15_headline_reachE_rootless_build_needed (b : Backend) :
    let e : Env := ⟨b, Oracles.empty⟩
    let a : BuildArgs := { scheme := "http".toStr, host := "h".toStr, path := "x/".toStr, encoded := true }
    let u0 := fromParts "http".toStr "h".toStr "x/".toStr [] []
    let r := fromParts [] [] "../x../y".toStr [] []
    let j := fromParts "http".toStr "h".toStr "x../y".toStr [] []
    let w := fromParts "http".toStr "h".toStr "/../n".toStr [] []
    build e a = .ok u0 ∧ encodeUrl e "../x../y".toStr = .ok r ∧ join e u0 r = j ∧
    withName e j "n".toStr false false = .ok w ∧
    NoDotSegments u0.path ∧ r.netloc = [] ∧ NoDotSegments j.path ∧ w.netloc ≠ [] ∧ ¬ NoDotSegments w.path ∧
    ReachEX (fun x => C15_CtorEncOK x ∧ NoDotSegments x) (fun _ => True) (fun _ => True) e w ∧
    ¬ C15_BuildEncOK a :=
  C15_reachE_rootless_build_needed b

/-- … hence the closure statement in the form first asked for — over `ReachEX` with the single class "every text handed
    over with `encoded=True` is free of dot segments" — is FALSE.  This is why the closure `C15_ReachE` has its own
    per-entry conditions (the class `A` of `ReachEX` is also imposed on the scheme / host texts of `build` and cannot say
    "rooted").  Cites C15_reachEX_no_dot_segments_false. -/
theorem C15_headline_reachEX_closure_fails_for_rootless_build :
    ¬ ∀ (e : Env) (u : Url),
        ReachEX (fun x => C15_CtorEncOK x ∧ NoDotSegments x) (fun _ => True) (fun _ => True) e u →
        u.netloc ≠ [] → NoDotSegments u.path :=
  C15_reachEX_no_dot_segments_false

/-- why `joinpath(…, encoded=True)` needs no condition, on instances (both backends): it normalises exactly when an
    argument could carry a dot segment — `URL('http://h/a').joinpath('../b', encoded=True)` has "/b",
    `.joinpath('./b', '..', 'c', encoded=True)` has "/a/c"; '%2E%2E' is not a dot segment and stays ("/a/%2E%2E": the
    "%2E" clause of the property does NOT hold for `encoded=True` arguments, C15Headline.lean GAPS 1 / 5).
    Cites C15_reachE_joinpathEnc_instances. -/
theorem C15_headline_reachE_joinpath_encoded_instances (b : Backend) :
    let e : Env := ⟨b, Oracles.empty⟩
    let u := fromParts "http".toStr "h".toStr "/a".toStr [] []
    (makeChild e u ["../b".toStr] true).map (·.path) = .ok "/b".toStr ∧
    (makeChild e u ["./b".toStr, "..".toStr, "c".toStr] true).map (·.path) = .ok "/a/c".toStr ∧
    (makeChild e u ["%2E%2E".toStr] true).map (·.path) = .ok "/a/%2E%2E".toStr ∧ NoDotSegments "/a/%2E%2E".toStr :=
  C15_reachE_joinpathEnc_instances b

/-! ## canonical text is admissible (GAPS 5) -/

/-- GAPS 5, the positive corner of `URL(s, encoded=True)`: every string the checker `canonicalB` (C04Decide.lean) accepts
    satisfies the constructor's side condition, and `URL(s, encoded=True)` then exists, prints `s`, and under its
    authority has a path without dot segments that is empty or rooted (on such text `encoded=True` IS the auto-encoding
    constructor: C03_headline_encoded_true_on_canonical_text, C03HeadlineMore5.lean).
    Cites C15_ctorEncOK_of_canonicalB, C03_encoded_true_on_canonical. -/
theorem C15_headline_encoded_true_canonical_text_admissible (e : Env) (s : Str) (h : canonicalB s = true) :
    C15_CtorEncOK s ∧
    ∃ v, preEncodedUrl e s = .ok v ∧ str e v = .ok s ∧
      (v.netloc ≠ [] → NoDotSegments v.path ∧ (v.path = [] ∨ v.path.head? = some 47)) := by
  refine ⟨C15_ctorEncOK_of_canonicalB s h, ?_⟩
  obtain ⟨v, u, a1, _, _, _, _, _, _, _, _, _, _, _, _, _, a15, _, _, _, _, _, a21, _⟩ :=
    C03_encoded_true_on_canonical e s h
  exact ⟨v, a1, a15, a21⟩

/-! ## non-vacuity -/

/-- a history with THREE `encoded=True` steps inside the closure, both backends:
    `URL('http://h/a/b', encoded=True).with_path('/c d', encoded=True).joinpath('../e', encoded=True) / 'f'`, then
    `.with_name('g')` and `.join(URL('../x../y'))` — every side condition holds (decided on the inputs); the result
    'http://h/x../y' is in the closure with all three classes trivial, has an authority, and the closure theorem gives
    "no dot segment".  Cites C15_reachE_example. -/
theorem C15_headline_reachE_example (b : Backend) :
    let e : Env := ⟨b, Oracles.empty⟩
    let w := fromParts "http".toStr "h".toStr "/x../y".toStr [] []
    C15_ReachE (fun _ => True) (fun _ => True) (fun _ => True) e w ∧ w.netloc ≠ [] ∧ NoDotSegments w.path := by
  intro e w
  obtain ⟨h1, h2⟩ := C15_reachE_example b
  exact ⟨h1, h2, (C15_headline_reachE_no_dot_segments h1 h2).1⟩

example : C15_CtorEncOK "http://h/a/b".toStr ∧ ¬ C15_CtorEncOK "http://h/a/../b".toStr ∧
    C15_CtorEncOK "a/../b".toStr := by decide +kernel

end Yarl
