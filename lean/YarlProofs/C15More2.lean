import YarlProofs.C14More
import YarlProofs.C15Headline
import YarlProofs.C15Encoded
/-!
# C15 — dot segments: `join` outside the scope of `C15_headline_rfc_join`, and the `encoded=True` family as IFFs
  (the general forms of the `encoded=True` statements are in C15Encoded.lean; here they are exact equivalences).
  Namespace `R4` holds this file's iff forms of the `NoDotSegments` lemmas.

## `join`.  `C15_headline_rfc_join` compares the path of `join`'s relative branch with §5.2.4 of the §5.2.3 target path
under `hb` (base without authority, or base path empty / rooted) and `ht` (target rooted or free of '.').
`C15_rfc_join_excluded_cases`: what is excluded is EXACTLY
 (a) a base WITH an authority and a ROOTLESS non-empty path (only `build(…, encoded=True)` / hand-made parts), or
 (b) a base WITHOUT authority, base path empty or rootless, reference path rootless, and a '.' in the merged path.
In (b) (`C15_rfc_join_no_authority`) the stored path is `normalize_path(target)`, has no dot segment, and §5.2.4 of the
target is that path with ONE '/' in front exactly when `C14_deviates base.path ref.path` (C14More.lean) — equal iff not.
In (a) (`C15_rfc_join_authority_rootless_base`) `raw_parts` eats the first character of the base path: if the base path
ends in '/', the merged path is base.path + ref.path (= §5.2.3) and is normalised as a RELATIVE path (as in (b));
otherwise the code merges "//" + (base.path[1:] up to its last '/') + ref.path and the stored path is §5.2.4 of THAT.

## `encoded=True`.  For a URL `u` with an authority, whatever its stored path (dot segments can only come from
`encoded=True`):  "has no dot segment afterwards" ⇔ …
 * `with_path(p, encoded=True)`: ⇔ `p` has none;  `build(path=p, encoded=True)`: ⇔ `p` has none;
   `URL(s, encoded=True)`: ⇔ the Appendix-B path of `s` has none                                   (never normalised);
 * `u / …`, `u.joinpath(…)` (either `encoded`): ⇔ some argument text contains '.'  OR  `u.path` had none already;
 * `with_name`, `with_suffix`, `parent`: ⇔ no dot segment among all segments BUT THE LAST of `u.path`;
 * `base.join(ref)` (merge branch): ⇔ `ref.path ≠ ""`  OR  `base.path` had none;
 * scheme / authority / query / fragment modifiers: ⇔ `u.path` had none (path copied: `C15_derived_path_kept`).
-/
namespace Yarl
open PathLemmas PathAlg WfLemmas EntryLemmas DotMore JoinLemmas

namespace R4

theorem noDotSegments_cons_slash_iff (p : Str) : NoDotSegments (47 :: p) ↔ NoDotSegments p :=
  ⟨fun h s hs => h s (by simp [splitOn, hs]), noDotSegments_cons_slash⟩

theorem noDotSegments_fixRoot_iff (p : Str) : NoDotSegments (fixRoot p) ↔ NoDotSegments p := by
  unfold fixRoot
  split
  · rfl
  · rfl
  · exact noDotSegments_cons_slash_iff p

theorem noDotSegments_joinC_iff (M : List Str) (hM : M ≠ []) (hs : Segs M) : NoDotSegments (joinC 47 M) ↔ NoDots M := by
  rw [noDotSegments_iff_noDots, splitOn_joinC M hM hs]

/-- a path whose last '/'-segment is not a dot segment has none iff the segments before the last have none -/
theorem noDotSegments_of_last (p n : Str) (L : List Str) (h : splitOn 47 p = L ++ [n]) (hn : n ≠ dot ∧ n ≠ dotdot) :
    NoDotSegments p ↔ NoDots L := by
  rw [noDotSegments_iff_noDots, h]
  exact ⟨fun x s hs => x s (List.mem_append_left _ hs), fun x => noDots_append x (List.forall_mem_singleton.2 hn)⟩

/-- segments of a rooted path, all but the last -/
theorem noDots_rooted_dropLast (r : Str) :
    NoDots (splitOn 47 (47 :: r)).dropLast ↔ NoDots (splitOn 47 r).dropLast := by
  have hsp : splitOn 47 (47 :: r) = [] :: splitOn 47 r := by simp [splitOn]
  rw [hsp, List.dropLast_cons_of_ne_nil (splitOn_ne_nil 47 r)]
  refine ⟨fun h s hs => h s (List.mem_cons_of_mem _ hs), fun h s hs => ?_⟩
  rcases List.mem_cons.1 hs with rfl | hs
  · simp [dot, dotdot]
  · exact h s hs

end R4

/-! ## join outside the hypotheses of `C15_headline_rfc_join` -/

/-- the hypotheses `hb`, `ht` of `C15_headline_rfc_join` fail in EXACTLY two situations -/
theorem C15_rfc_join_excluded_cases (base ref : Url) :
    ¬ ((base.netloc = [] ∨ base.path = [] ∨ base.path.head? = some 47) ∧
        ((∃ q, target base ref = 47 :: q) ∨ 46 ∉ target base ref)) ↔
      -- (a) rootless non-empty base path NEXT TO an authority
      ((base.netloc ≠ [] ∧ base.path ≠ [] ∧ base.path.head? ≠ some 47) ∨
      -- (b) no authority, base path empty or rootless, reference path rootless, a '.' in the merged path
       (base.netloc = [] ∧ base.path.head? ≠ some 47 ∧ ref.path.head? ≠ some 47 ∧ 46 ∈ target base ref)) := by
  constructor
  · intro h
    by_cases hb : base.netloc = [] ∨ base.path = [] ∨ base.path.head? = some 47
    · have ht1 : ¬ ∃ q, target base ref = 47 :: q := fun x => h ⟨hb, Or.inl x⟩
      have hbp : base.path.head? ≠ some 47 := fun hbp => ht1 (target_rooted base ref (Or.inr (Or.inl hbp)))
      refine Or.inr ⟨?_, hbp, fun hr => ht1 (target_rooted base ref (Or.inr (Or.inr hr))),
        Decidable.not_not.1 fun hm => h ⟨hb, Or.inr hm⟩⟩
      rcases hb with hb | hb | hb
      · exact hb
      · exact Decidable.not_not.1 fun hn => ht1 (target_rooted base ref (Or.inl ⟨hb, hn⟩))
      · exact absurd hb hbp
    · exact Or.inl ((not_or.1 hb).imp id not_or.1)
  · rintro (⟨h1, h2, h3⟩ | ⟨hn, hbp, hr, hm⟩) ⟨hb, ht⟩
    · exact not_or.2 ⟨h1, not_or.2 ⟨h2, h3⟩⟩ hb
    · rcases ht with ⟨q, hq⟩ | ht
      · have hT := R4.target_eq_merged base ref hr (.inl hn)
        exact R4.merged_rootless base.path ref.path hbp hr (by rw [← hT, hq]; rfl)
      · exact ht hm

/-- case (b) and, more generally, EVERY base without authority: the path of the relative branch is
    `normalize_path` of the §5.2.3 target, has no dot segment, and §5.2.4 of the target is that path with one '/' in front
    exactly when `C14_deviates base.path ref.path`; the two are equal iff it is false. -/
theorem C15_rfc_join_no_authority (base ref : Url) (hnet : base.netloc = []) (hp : ref.path ≠ []) :
    joinPath base ref = normalizePath (target base ref) ∧
    NoDotSegments (joinPath base ref) ∧
    Rfc.removeDotSegments (target base ref)
      = (if C14_deviates base.path ref.path then [47] else []) ++ joinPath base ref ∧
    (joinPath base ref = Rfc.removeDotSegments (target base ref) ↔ C14_deviates base.path ref.path = false) := by
  have h1 : joinPath base ref = normalizePath (target base ref) := by
    rw [joinPath_normalize base ref (Or.inl hnet) hp]
  have h3 := R4.joinPath_vs_rds base ref hnet hp
  refine ⟨h1, by rw [h1]; exact noDotSegments_normalizePath _, h3, ?_⟩
  rw [h3]
  cases C14_deviates base.path ref.path
  · simp
  · simp only [if_true, Bool.true_eq_false, iff_false]
    exact fun e => List.cons_ne_self _ _ e.symm

/-- … at the level of the URL: `base.join(ref)` for a base without authority and a relative-path reference -/
theorem C15_rfc_join_url_no_authority (e : Env) (base ref : Url)
    (hrel : Gen.usesRelative.contains base.scheme = true)
    (hsch : ref.scheme = [] ∨ ref.scheme = base.scheme)
    (hnet : base.netloc = []) (hrn : ref.netloc = []) (hp : ref.path ≠ []) :
    (join e base ref).netloc = [] ∧
    (join e base ref).path = normalizePath (target base ref) ∧
    NoDotSegments (join e base ref).path ∧
    Rfc.removeDotSegments (target base ref)
      = (if C14_deviates base.path ref.path then [47] else []) ++ (join e base ref).path ∧
    ((join e base ref).path = Rfc.removeDotSegments (target base ref) ↔ C14_deviates base.path ref.path = false) := by
  have hj : (join e base ref).path = joinPath base ref ∧ (join e base ref).netloc = [] := by
    rw [join_rel e base ref hrel hsch]
    simp [hrn, fromParts, hnet]
  rw [hj.1]
  exact ⟨hj.2, C15_rfc_join_no_authority base ref hnet hp⟩

/-- case (a): a base WITH an authority and a ROOTLESS non-empty path `c :: rest` (`URL.build(host=…, path="x/y",
    encoded=True)`), relative-path reference.  `raw_parts` treats the first character of the path as if it were the
    root slash.  If the base path ends with '/', the merged path is `base.path ++ ref.path` — which IS §5.2.3 `merge` —
    normalised as a relative path; otherwise it is "//" ++ (`rest` up to and including its last '/') ++ `ref.path`, and
    the stored path is §5.2.4 of that rooted text (the RFC merges (`c :: rest` up to its last '/') ++ `ref.path`). -/
theorem C15_rfc_join_authority_rootless_base (base ref : Url) (c : Nat) (rest : Str)
    (hn : base.netloc ≠ []) (hbp : base.path = c :: rest) (hc : c ≠ 47)
    (hp : ref.path ≠ []) (hr : ref.path.head? ≠ some 47) :
    joinPath base ref =
      (if base.path.getLast? = some 47 then normalizePath (base.path ++ ref.path)
       else Rfc.removeDotSegments (47 :: 47 :: (rest.reverse.dropWhile (· ≠ 47)).reverse ++ ref.path)) ∧
    (base.path.getLast? = some 47 → target base ref = base.path ++ ref.path) ∧
    target base ref = ((c :: rest).reverse.dropWhile (· ≠ 47)).reverse ++ ref.path := by
  have hp' : ref.path.isEmpty = false := by simpa using hp
  have hT : target base ref = ((c :: rest).reverse.dropWhile (· ≠ 47)).reverse ++ ref.path := by
    rw [R4.target_eq_merged base ref hr (.inr (by rw [hbp]; exact List.cons_ne_nil _ _)), hbp]
    rfl
  refine ⟨?_, ?_, hT⟩
  · have hbe : base.path.isEmpty = false := by simp [hbp]
    have hbh : base.path.head? ≠ some 47 := by simp [hbp, hc]
    simp only [joinPath, hp', hr, hbe, hbh, Bool.not_false, Bool.false_eq_true, if_true, if_false]
    split
    · exact JoinLemmas.guard_eq _
    · have hraw : rawParts base = [47] :: splitOn 47 rest := by simp [rawParts, hn, hbp]
      rw [hraw, List.dropLast_cons_of_ne_nil (splitOn_ne_nil 47 rest), List.cons_append, joinC_cons,
        flatC_eq_joinC 47 _ (by simp), joinC_dropLast]
      exact guard_rds _
  · intro hl
    obtain ⟨init, hi⟩ := List.getLast?_eq_some_iff.1 hl
    rw [hT, ← hbp, hi, upToLastSlash init [] (by simp)]

/-- case (a), witnesses (Python: `b = URL.build(scheme="http", host="h", path="x/y", encoded=True)`;
    `b.join(URL("c"))` has path "///c" where RFC 3986 gives "x/c"; `b2 = …path="x/y/"…`; `b2.join(URL("../c"))` has path
    "x/c" as the RFC says, `b2.join(URL("../../c"))` has "c" where the RFC gives "/c") -/
theorem C15_rfc_join_authority_rootless_base_instances (e : Env) :
    let b := fromParts "http".toStr "h".toStr "x/y".toStr [] []
    let b2 := fromParts "http".toStr "h".toStr "x/y/".toStr [] []
    let r (p : String) := fromParts [] [] p.toStr [] []
    (join e b (r "c")).path = "///c".toStr ∧ Rfc.removeDotSegments (target b (r "c")) = "x/c".toStr ∧
    (join e b2 (r "../c")).path = "x/c".toStr ∧ Rfc.removeDotSegments (target b2 (r "../c")) = "x/c".toStr ∧
    (join e b2 (r "../../c")).path = "c".toStr ∧ Rfc.removeDotSegments (target b2 (r "../../c")) = "/c".toStr := by
  simp only [join]; decide +kernel

/-! ## the `encoded=True` entry points, as equivalences -/

/-- `with_path(p, encoded=True)`: the stored path is `p`, rooted when non-empty and rootless — NEVER normalised, with or
    without authority; it has no dot segment iff `p` has none -/
theorem C15_encoded_with_path_iff (e : Env) (u : Url) (p : Str) (kq kf : Bool) :
    (withPath e u p true kq kf).path = fixRoot p ∧ (withPath e u p true kq kf).netloc = u.netloc ∧
    (NoDotSegments (withPath e u p true kq kf).path ↔ NoDotSegments p) := by
  obtain ⟨h1, h2, _⟩ := (C15_encoded_entry_points e).2.2.1 u p kq kf
  exact ⟨h1, h2, by rw [h1]; exact R4.noDotSegments_fixRoot_iff p⟩

/-- `URL.build(path=p, encoded=True)`: the stored path IS `p` -/
theorem C15_encoded_build_iff (e : Env) (a : BuildArgs) (u : Url) (ha : a.encoded = true) (h : build e a = .ok u) :
    u.path = a.path ∧ u.netloc = C07_encBuildNetloc a ∧ (NoDotSegments u.path ↔ NoDotSegments a.path) := by
  obtain ⟨h1, h2⟩ := (C15_encoded_entry_points e).2.1 a u ha h
  exact ⟨h1, h2, by rw [h1]⟩

/-- `URL(s, encoded=True)`: the stored path IS the Appendix-B path of (the cleaned) `s` -/
theorem C15_encoded_constructor_iff (e : Env) (s : Str) (u : Url) (h : preEncodedUrl e s = .ok u) :
    u.path = (Rfc.appendixB Gen.schemeChars (cleanUrl s)).path ∧
    (NoDotSegments u.path ↔ NoDotSegments (Rfc.appendixB Gen.schemeChars (cleanUrl s)).path) := by
  have h1 := (C15_encoded_entry_points e).1 s u h
  exact ⟨h1, by rw [h1]⟩

/-- `/` and `joinpath` in EITHER mode (`encoded=True` only replaces the quoter by the identity), on a URL with an
    authority and ANY stored path: the result has no dot segment iff some argument text contains a '.' (then the WHOLE
    merged path is normalised) or the receiver's path had none.  So `/ "x"` on `URL("http://h/a/../b", encoded=True)`
    does NOT re-establish the invariant, `/ "x.y"` does. -/
theorem C15_joinpath_dots_iff (e : Env) (u v : Url) (paths : List Str) (encoded : Bool)
    (hn : u.netloc ≠ []) (h : makeChild e u paths encoded = .ok v) :
    NoDotSegments v.path ↔
      (C15_anyDotF (C15_childText e encoded) paths = true ∨ NoDotSegments u.path) := by
  have hvn : v.netloc ≠ [] := (C11_make_child_frame e u v paths encoded h).2.1.symm ▸ hn
  have hA : C15_anyDotF (C15_childText e encoded) paths = PathMore.argDots e encoded paths := by
    rw [EncTrue.childText_eq]
    rfl
  refine ⟨fun hv => ?_, fun hd => noDotSegments_makeChild h hvn (hA ▸ hd)⟩
  cases hd : C15_anyDotF (C15_childText e encoded) paths
  · -- nothing is normalised: the old dot segments are still there
    have hkeep := ((C15_derived_make_child e u v paths encoded hn h).2 hd).2.2
    exact Or.inr (Classical.byContradiction fun hu => hkeep hu hv)
  · exact Or.inl rfl

/-- the two directions at a witness (both backends): `u = URL("http://h/a/../b", encoded=True)`;
    `u / "c"` is "/a/../b/c" (dots stay), `u / "c.d"` is "/b/c.d", `u.joinpath("c", encoded=True)` is "/a/../b/c",
    `u.joinpath("c.d", encoded=True)` is "/b/c.d" -/
theorem C15_joinpath_dots_iff_instances (b : Backend) :
    let e : Env := ⟨b, Oracles.empty⟩
    let u := fromParts "http".toStr "h".toStr "/a/../b".toStr [] []
    (makeChild e u ["c".toStr] false).map (·.path) = .ok "/a/../b/c".toStr ∧
    (makeChild e u ["c.d".toStr] false).map (·.path) = .ok "/b/c.d".toStr ∧
    (makeChild e u ["c".toStr] true).map (·.path) = .ok "/a/../b/c".toStr ∧
    (makeChild e u ["c.d".toStr] true).map (·.path) = .ok "/b/c.d".toStr ∧
    C15_anyDotF (C15_childText e false) ["c".toStr] = false ∧
    C15_anyDotF (C15_childText e false) ["c.d".toStr] = true := by
  str_lits
  cases b <;> decide +kernel

/-- `with_name(n)`, `with_suffix(s)` and `parent` on a URL with an authority and a rooted path: nothing is normalised,
    all '/'-segments but the last are kept, the last one is replaced by a name that is never "." / ".." (resp. dropped).
    So the result has no dot segment IFF no segment of `u.path` other than the LAST is one:
    `URL("http://h/a/..", encoded=True).with_name("n")` is clean ("/a/n"), `URL("http://h/a/../b", …).with_name("n")`
    is not ("/a/../n"). -/
theorem C15_with_name_suffix_parent_dots_iff (e : Env) (u : Url) (r : Str) (kq kf : Bool) (hn : u.netloc ≠ [])
    (hp : u.path = 47 :: r) :
    (∀ nm v, PyStr nm → withName e u nm kq kf = .ok v →
      (NoDotSegments v.path ↔ NoDots (splitOn 47 u.path).dropLast)) ∧
    (∀ sfx v, PyStr sfx → withSuffix e u sfx kq kf = .ok v →
      (NoDotSegments v.path ↔ NoDots (splitOn 47 u.path).dropLast)) ∧
    (r ≠ [] → (NoDotSegments (parent u).path ↔ NoDots (splitOn 47 u.path).dropLast)) := by
  refine ⟨?_, ?_, ?_⟩
  · intro nm v hpy h
    obtain ⟨h1, _⟩ := (C15_derived_with_name_suffix e u v r kq kf hn hp).1 nm hpy h
    exact R4.noDotSegments_of_last _ _ _ h1 ⟨(ModShape.withName_ok h).2.1, (ModShape.withName_ok h).2.2.1⟩
  · intro sfx v hpy h
    obtain ⟨nm, h47, hd1, hd2, h⟩ := ModShape.withSuffix_name hpy h
    obtain ⟨_, _, h1⟩ := C15_derived_with_raw_name u v r nm kq kf hn hp h47 h
    exact R4.noDotSegments_of_last _ _ _ h1 ⟨hd1, hd2⟩
  · intro hr
    obtain ⟨_, _, _, h1⟩ := C15_derived_parent u r hn hp hr
    rw [noDotSegments_iff_noDots, h1]

/-- witnesses (both backends; Python: `URL("http://h/a/..", encoded=True).with_name("n")` → "/a/n",
    `URL("http://h/a/../b", encoded=True).with_name("n")` → "/a/../n", `.with_suffix(".x")` → "/a/../b.x",
    `.parent` → "/a/..", `URL("http://h/a/./b", encoded=True).parent.parent` → "/a") -/
theorem C15_with_name_suffix_parent_instances (b : Backend) :
    let e : Env := ⟨b, Oracles.empty⟩
    let u1 := fromParts "http".toStr "h".toStr "/a/..".toStr [] []
    let u2 := fromParts "http".toStr "h".toStr "/a/../b".toStr [] []
    let u3 := fromParts "http".toStr "h".toStr "/a/./b".toStr [] []
    (withName e u1 "n".toStr false false).map (·.path) = .ok "/a/n".toStr ∧
    (withName e u2 "n".toStr false false).map (·.path) = .ok "/a/../n".toStr ∧
    (withSuffix e u2 ".x".toStr false false).map (·.path) = .ok "/a/../b.x".toStr ∧
    (parent u2).path = "/a/..".toStr ∧ (parent (parent u3)).path = "/a".toStr := by
  str_lits
  cases b <;> decide +kernel

/-- `base.join(ref)` in the merge branch (reference without authority, same or no scheme, scheme in `uses_relative`),
    ANY base path: the result has no dot segment iff the reference path is non-empty (the merged path is normalised) or
    the base path had none (an empty reference path copies the base path).  So `u.join(URL("x"))` re-establishes the
    invariant, `u.join(URL("?q"))` and `u.join(URL("#f"))` do not. -/
theorem C15_join_base_dots_iff (e : Env) (base ref : Url)
    (hsch : ref.scheme = [] ∨ ref.scheme = base.scheme)
    (hrel : Gen.usesRelative.contains base.scheme = true)
    (hauth : ref.netloc = [] ∨ Gen.usesAuthority.contains base.scheme = false) :
    NoDotSegments (join e base ref).path ↔ (ref.path ≠ [] ∨ NoDotSegments base.path) := by
  obtain ⟨h1, h2⟩ := C15_derived_join e base ref hsch hrel hauth
  by_cases hp : ref.path = []
  · rw [(h2 hp).1]
    simp [hp]
  · simp only [ne_eq, hp, not_false_eq_true, true_or, iff_true]
    exact h1 hp

/-- `join` with a reference that carries its OWN authority (or another scheme): the reference's path is taken as it
    is — its dot segments stay (a reference made with `encoded=True`) -/
theorem C15_join_ref_dots_iff (e : Env) (base ref : Url)
    (hsch : ref.scheme = [] ∨ ref.scheme = base.scheme)
    (hrel : Gen.usesRelative.contains base.scheme = true) (hn : ref.netloc ≠ []) :
    (join e base ref).netloc = ref.netloc ∧
    (NoDotSegments (join e base ref).path ↔ NoDotSegments ref.path) := by
  have ha : Gen.usesAuthority.contains base.scheme = true :=
    C14_relative_subset_authority _ (by simpa using hrel)
  obtain ⟨h1, h2⟩ := (C15_derived_join_ref_verbatim e base ref).2.2 hsch hrel hn ha
  exact ⟨h2, by rw [h1]⟩

/-- witnesses: `u = URL("http://h/a/../b", encoded=True)`; `u.join(URL("x"))` → "/x" (clean), `u.join(URL("?q"))` →
    "/a/../b", `URL("http://h/p").join(URL("//g/a/../b", encoded=True))` → "/a/../b" under the authority "g" -/
theorem C15_join_dots_instances (e : Env) :
    let u := fromParts "http".toStr "h".toStr "/a/../b".toStr [] []
    (join e u (fromParts [] [] "x".toStr [] [])).path = "/x".toStr ∧
    (join e u (fromParts [] [] [] "q".toStr [])).path = "/a/../b".toStr ∧
    (join e (fromParts "http".toStr "h".toStr "/p".toStr [] []) (fromParts [] "g".toStr "/a/../b".toStr [] [])).path
      = "/a/../b".toStr ∧
    (join e (fromParts "http".toStr "h".toStr "/p".toStr [] []) (fromParts [] "g".toStr "/a/../b".toStr [] [])).netloc
      = "g".toStr := by
  simp only [join]; decide +kernel

/-! ## non-vacuity -/
example : C14_deviates "x/y".toStr "../../c".toStr = true ∧ C14_deviates "x/y/z".toStr "../c".toStr = false := by str_lits; decide +kernel
example (e : Env) :
    (join e (fromParts [] [] "x/y/z".toStr [] []) (fromParts [] [] "../c".toStr [] [])).path
      = Rfc.removeDotSegments (target (fromParts [] [] "x/y/z".toStr [] []) (fromParts [] [] "../c".toStr [] [])) :=
  (C15_rfc_join_url_no_authority e _ _ (by decide +kernel) (Or.inl rfl) rfl rfl (by decide +kernel)).2.2.2.2.2 (by decide +kernel)

/-- `C15_rfc_join_authority_rootless_base`: the hypotheses are satisfiable (`URL.build(scheme="http", host="h",
    path="x/y", encoded=True)` joined with `URL("c")`), and the theorem gives the stored path -/
example : joinPath (fromParts "http".toStr "h".toStr "x/y".toStr [] []) (fromParts [] [] "c".toStr [] [])
    = Rfc.removeDotSegments "///c".toStr := by
  rw [(C15_rfc_join_authority_rootless_base (fromParts "http".toStr "h".toStr "x/y".toStr [] [])
    (fromParts [] [] "c".toStr [] []) 120 "/y".toStr ?_ rfl ?_ ?_ ?_).1]
  all_goals decide +kernel
/-- `C15_encoded_build_iff` / `C15_encoded_with_path_iff`: a successful `build(…, encoded=True)` under an authority with
    dot segments is `C15_headline_entry_fails_for_encoded_true`; here the equivalence at a witness -/
example (e : Env) (u : Url) : ¬ NoDotSegments (withPath e u "a/../b".toStr true false false).path :=
  fun h => absurd ((C15_encoded_with_path_iff e u _ false false).2.2.1 h) (by decide +kernel)

end Yarl
