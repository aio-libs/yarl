/-
  C19Quoter.lean — the compiled quoter written through the buffer writer
  (`YarlModel/QuoteW.lean`) refines the batch model `quoteC` (`YarlModel/Quote.lean`)
  and inherits the writer theorems of `Lemmas/WriterLemmas.lean` / `C19Writer.lean`: `Sim` relates a step of the
  interleaved loop to `writeAll` on its output, `quoteCW_fast` / `quoteCW_slow` reduce a call to `Writer.run`, and the
  C19 / C05 statements follow; the unquoter's inner quoter calls are `uqLoopW_spec`.
-/
import YarlModel.QuoteW
import YarlProofs.Lemmas.QuoteEquiv
import YarlProofs.Lemmas.WriterLemmas
import YarlProofs.C19Writer
import YarlProofs.C05

namespace Yarl.QuoteW
open Yarl Yarl.Writer Yarl.WriterLemmas

/-! ## simulation: a step of the interleaved loop is `writeAll` on its output -/

/-- `r` is the outcome of writing `out` from `w`, contributing `ch` to the `changed` flag -/
structure Sim (n : Nat) (f : Nat → Bool) (w : W) (out : Str) (ch : Bool) (r : Res) : Prop where
  wr : writeAll n f w.st out = (r.st, r.isOk)
  chg : ∀ w', r = .ok w' → w'.changed = (w.changed || ch)

theorem Sim.congr {n f w out out' ch ch' r} (h : Sim n f w out ch r) (ho : out' = out) (hc : ch' = ch) :
    Sim n f w out' ch' r := by subst ho; subst hc; exact h

theorem Sim.pure (n f) (w : W) : Sim n f w [] false (.ok w) :=
  ⟨rfl, fun w' h => by cases h; simp⟩

theorem Sim.bind {n f w o1 c1 r1 o2 c2} {k : W → Res} (h1 : Sim n f w o1 c1 r1)
    (h2 : ∀ w1, r1 = .ok w1 → Sim n f w1 o2 c2 (k w1)) :
    Sim n f w (o1 ++ o2) (c1 || c2) (r1.bind k) := by
  cases r1 with
  | error w1 =>
    refine ⟨?_, ?_⟩
    · rw [writeAll_append, h1.wr]; simp [Res.isOk, Except.bind, Res.st]
    · intro w' h; simp [Except.bind] at h
  | ok w1 =>
    have h2' := h2 w1 rfl
    have hc := h1.chg w1 rfl
    refine ⟨?_, ?_⟩
    · rw [writeAll_append, h1.wr]
      simp only [Res.isOk, Res.st, if_true]
      exact h2'.wr
    · intro w' h
      have := h2'.chg w' h
      rw [this, hc, Bool.or_assoc]

theorem sim_writeChar (n f) (w : W) (c : Nat) (ch : Bool) :
    Sim n f w [c] ch (writeChar n f w c ch) := by
  unfold QuoteW.writeChar
  cases h : Writer.writeChar n f w.st c with
  | none => exact ⟨by simp [writeAll, h, Res.st, Res.isOk], fun w' h' => by cases h'⟩
  | some st' => exact ⟨by simp [writeAll, h, Res.st, Res.isOk], fun w' h' => by cases h'; rfl⟩

theorem sim_writePct (n f) (w : W) (b : Nat) (ch : Bool) :
    Sim n f w (pct b) ch (writePct n f w b ch) := by
  unfold writePct
  refine Sim.congr (Sim.bind (sim_writeChar n f w 37 ch) fun w1 _ =>
    Sim.bind (sim_writeChar n f w1 _ ch) fun w2 _ => sim_writeChar n f w2 _ ch) ?_ ?_
  · rfl
  · cases ch <;> rfl

theorem sim_writeUtf8 (n f) (w : W) (c : Nat) :
    Sim n f w (Yarl.writeUtf8 c) (!(utf8 c).isEmpty) (QuoteW.writeUtf8 n f w c) := by
  unfold QuoteW.writeUtf8 Yarl.writeUtf8 utf8 isSurrogate
  simp only [Bool.and_eq_true, decide_eq_true_eq]
  split
  · exact Sim.congr (sim_writePct n f w c true) (by simp) (by simp)
  split
  · exact Sim.congr (Sim.bind (sim_writePct n f w _ true) fun w1 _ => sim_writePct n f w1 _ true)
      (by simp) (by simp)
  split
  · exact Sim.pure n f w
  split
  · exact Sim.congr (Sim.bind (sim_writePct n f w _ true) fun w1 _ =>
      Sim.bind (sim_writePct n f w1 _ true) fun w2 _ => sim_writePct n f w2 _ true) (by simp) (by simp)
  -- the last test is written `c > 0x10FFFF` in the writer and `c ≤ 0x10FFFF` in `utf8`
  by_cases h : c > 0x10FFFF
  · rw [if_pos h, if_neg (by omega)]
    exact Sim.pure n f w
  · rw [if_neg h, if_pos (by omega)]
    exact Sim.congr (Sim.bind (sim_writePct n f w _ true) fun w1 _ =>
      Sim.bind (sim_writePct n f w1 _ true) fun w2 _ =>
      Sim.bind (sim_writePct n f w2 _ true) fun w3 _ => sim_writePct n f w3 _ true) (by simp) (by simp)

theorem sim_write (n f) (t : QTab) (w : W) (c : Nat) :
    Sim n f w (cWriteOut t c) (cWriteChanged t c) (write n f t w c) := by
  unfold write cWriteOut cWriteChanged
  split
  · exact sim_writeChar n f w 43 true
  · split
    · exact sim_writeChar n f w c false
    · exact sim_writeUtf8 n f w c

/-- the interleaved loop, from ANY intermediate writer state, is `writeAll` on the batch
    output `cOut`, and raises `changed` exactly by `cChanged` -/
theorem sim_doQuote (n f) (t : QTab) (w : W) (s : Str) :
    Sim n f w (cOut t s) (cChanged t s) (doQuote n f t w s) := by
  fun_induction doQuote n f t w s with
  | case1 w => rw [cOut, cChanged]; exact Sim.pure n f w
  | case2 w c rest hc v d1 d2 rest' he hp ih =>
    obtain ⟨rfl, hr⟩ := hc
    rw [QuoteEquiv.cOut_esc t hr he, QuoteEquiv.cChanged_esc t hr he]
    refine Sim.bind (Sim.congr (sim_writePct n f w v true) ?_ ?_) fun w1 _ => ih w1
    · rw [cEscOut, if_pos hp]
    · rw [cEscChanged, if_pos hp]
  | case3 w c rest hc v d1 d2 rest' he hp hs ih =>
    obtain ⟨rfl, hr⟩ := hc
    rw [QuoteEquiv.cOut_esc t hr he, QuoteEquiv.cChanged_esc t hr he]
    refine Sim.bind (Sim.congr (sim_writeChar n f w v true) ?_ ?_) fun w1 _ => ih w1
    · rw [cEscOut, if_neg hp, if_pos hs]
    · rw [cEscChanged, if_neg hp, if_pos hs]
  | case4 w c rest hc v d1 d2 rest' he hp hs ih =>
    obtain ⟨rfl, hr⟩ := hc
    rw [QuoteEquiv.cOut_esc t hr he, QuoteEquiv.cChanged_esc t hr he]
    refine Sim.bind (Sim.congr (sim_writePct n f w v _) ?_ ?_) fun w1 _ => ih w1
    · rw [cEscOut, if_neg hp, if_neg hs]
    · rw [cEscChanged, if_neg hp, if_neg hs]
  | case5 w c rest hc he ih =>
    obtain ⟨rfl, hr⟩ := hc
    rw [QuoteEquiv.cOut_noesc t hr he, QuoteEquiv.cChanged_noesc t hr he]
    exact Sim.bind (sim_write n f t w 37) fun w1 _ => ih w1
  | case6 w c rest hc ih =>
    rw [QuoteEquiv.cOut_plain t hc, QuoteEquiv.cChanged_plain t hc]
    exact Sim.bind (sim_write n f t w c) fun w1 _ => ih w1

/-! ## the whole call -/

/-- fast path: nothing is written, no writer exists -/
theorem quoteCW_fast (n : Nat) (t : QTab) (f : Nat → Bool) (s : Str) (h : allSafe t (stripSurr s) = true) :
    quoteCW n t f s = (.ok (stripSurr s), Writer.init n) := by
  simp [quoteCW, h]

/-- slow path: the call IS `Writer.run` on the batch output `cOut`, followed by the
    `if not writer.changed: return val` test -/
theorem quoteCW_slow (n : Nat) (t : QTab) (f : Nat → Bool) (s : Str) (h : allSafe t (stripSurr s) = false) :
    quoteCW n t f s =
      ((Writer.run n f (cOut t (stripSurr s))).1.map
          (fun d => if cChanged t (stripSurr s) then d else stripSurr s),
       (Writer.run n f (cOut t (stripSurr s))).2) := by
  have hsim := sim_doQuote n f t (initW n) (stripSurr s)
  have hwr : writeAll n f (init n) (cOut t (stripSurr s)) = _ := hsim.wr
  simp only [quoteCW, h, Bool.false_eq_true, if_false]
  rw [run_fst, run_snd, hwr]
  cases hr : doQuote n f t (initW n) (stripSurr s) with
  | error w => simp [Res.st, Res.isOk, Except.map]
  | ok w =>
    have hc : w.changed = cChanged t (stripSurr s) := by
      rw [hsim.chg w hr]; simp [initW]
    simp [Res.st, Res.isOk, Except.map, hc]

/-- the batch function on the slow path -/
theorem quoteC_slow (t : QTab) (s : Str) (h : allSafe t (stripSurr s) = false) :
    quoteC t s = if cChanged t (stripSurr s) then cOut t (stripSurr s) else stripSurr s := by
  simp [quoteC, h]

theorem quoteC_fast (t : QTab) (s : Str) (h : allSafe t (stripSurr s) = true) :
    quoteC t s = stripSurr s := by
  simp [quoteC, h]

/-! ## a call consults only the oracle answers it asks for -/

/-- a call depends on the oracle only through the answers to the `requests` it made -/
theorem quoteCW_congr (n : Nat) (t : QTab) (f g : Nat → Bool) (s : Str)
    (h : ∀ i, i < requests (quoteCW n t f s) → f i = g i) : quoteCW n t g s = quoteCW n t f s := by
  cases ha : allSafe t (stripSurr s) with
  | true => rw [quoteCW_fast n t g s ha, quoteCW_fast n t f s ha]
  | false =>
    rw [quoteCW_slow n t f s ha] at h
    rw [quoteCW_slow n t g s ha, quoteCW_slow n t f s ha]
    rw [run_congr n f g _ (fun i hi => h i ?_)]
    simp only [requests, run_fst, run_snd, (release_fields _).1]
    unfold used at hi
    cases hb : (writeAll n f (init n) (cOut t (stripSurr s))).2 with
    | true => rw [hb] at hi; simpa [Except.map] using hi
    | false => rw [hb] at hi; simpa [Except.map] using hi

/-! ## sessions -/

/-- total number of allocation requests made by a list of calls -/
def reqs (rs : List (Except PyErr Str × St)) : Nat := (rs.map requests).sum

theorem session_append (n : Nat) (t : QTab) (f : Nat → Bool) (k : Nat) (ss1 ss2 : List Str) :
    session n t f k (ss1 ++ ss2) =
      session n t f k ss1 ++ session n t f (k + reqs (session n t f k ss1)) ss2 := by
  induction ss1 generalizing k with
  | nil => simp [session, reqs]
  | cons s ss ih =>
    simp only [List.cons_append, session, reqs, List.map_cons, List.sum_cons]
    rw [ih]
    simp [reqs, Nat.add_assoc]

theorem session_length (n : Nat) (t : QTab) (f : Nat → Bool) (k : Nat) (ss : List Str) :
    (session n t f k ss).length = ss.length := by
  induction ss generalizing k with
  | nil => rfl
  | cons s ss ih => simp [session, ih]

/-! ## the unquoter: its inner quoter calls -/

theorem ite_length_le {α} {c : Prop} [Decidable c] {a b : List α} {n : Nat} (ha : a.length ≤ n) (hb : b.length ≤ n) :
    (if c then a else b).length ≤ n := by
  split <;> assumption

theorem utf8_length_le (c : Nat) : (utf8 c).length ≤ 4 := by
  unfold utf8
  repeat' apply ite_length_le
  all_goals simp

theorem writeUtf8_length (c : Nat) : (Yarl.writeUtf8 c).length = 3 * (utf8 c).length := by
  unfold Yarl.writeUtf8
  induction utf8 c with
  | nil => rfl
  | cons b bs ih =>
    simp only [List.flatMap_cons, List.length_append, ih, pct, List.length_cons, List.length_nil]; omega

theorem cWriteOut_length (t : QTab) (c : Nat) : (cWriteOut t c).length ≤ 12 := by
  unfold cWriteOut
  split
  · simp
  · split
    · simp
    · have := utf8_length_le c
      rw [writeUtf8_length]; omega

/-- what a `_Quoter` writes for a one-character string is at most 12 characters (`%XX` × 4) -/
theorem cOut_single_length (t : QTab) (ch : Nat) : (cOut t (stripSurr [ch])).length ≤ 12 := by
  have h0 : cOut t [] = [] := by rw [cOut]
  unfold stripSurr
  rw [List.filter_cons]
  split
  · simp only [List.filter_nil]
    by_cases hc : ch = 37 ∧ t.requote = true
    · obtain ⟨rfl, hr⟩ := hc
      rw [QuoteEquiv.cOut_noesc t hr (by rfl), h0, List.append_nil]
      exact cWriteOut_length t 37
    · rw [QuoteEquiv.cOut_plain t hc, h0, List.append_nil]
      exact cWriteOut_length t ch
  · simp [h0]

theorem pre_ok (p x : Str) : pre p (.ok x) = .ok (p ++ x) := rfl
theorem pre_error (p : Str) (e : PyErr) : pre p (.error e) = .error e := rfl

theorem pre_spec {Q : Prop} {p x : Str} {r : Except PyErr Str}
    (h : r = .ok x ∨ (Q ∧ r = .error .memoryError)) :
    pre p r = .ok (p ++ x) ∨ (Q ∧ pre p r = .error .memoryError) := by
  rcases h with rfl | ⟨hq, rfl⟩
  · exact Or.inl rfl
  · exact Or.inr ⟨hq, rfl⟩

theorem emit_spec {Q : Prop} {E : Except PyErr Str × Nat} {e0 x : Str} {L : Nat → Except PyErr Str}
    (hE : E.1 = .ok e0 ∨ (Q ∧ E.1 = .error .memoryError))
    (hL : ∀ k', L k' = .ok x ∨ (Q ∧ L k' = .error .memoryError)) :
    (match E with
      | (.ok e, k') => pre e (L k')
      | (.error err, _) => .error err) = .ok (e0 ++ x) ∨
    (Q ∧ (match E with
      | (.ok e, k') => pre e (L k')
      | (.error err, _) => .error err) = .error .memoryError) := by
  obtain ⟨r, k'⟩ := E
  cases r with
  | ok e =>
    rcases hE with h | ⟨_, h⟩
    · cases h
      exact pre_spec (hL k')
    · cases h
  | error err =>
    rcases hE with h | ⟨hq, h⟩
    · cases h
    · cases h
      exact Or.inr ⟨hq, rfl⟩

section
/- `H`: what the inner quoter calls return; `Q` says whether MemoryError is possible -/
variable (n : Nat) (f : Nat → Bool) (Q : Prop)
  (H : ∀ (t : QTab) (k ch : Nat), (quoteCW n t (shift f k) [ch]).1 = .ok (quoteC t [ch]) ∨
    (Q ∧ (quoteCW n t (shift f k) [ch]).1 = .error .memoryError))
include H

theorem uqEmitW_spec (u : UTab) (k ch : Nat) :
    (uqEmitW n f u k ch).1 = .ok (uqEmit .c u ch) ∨ (Q ∧ (uqEmitW n f u k ch).1 = .error .memoryError) := by
  unfold uqEmitW uqEmit quote
  split
  · exact H u.qsQuoter k ch
  · split
    · exact H u.quoter k ch
    · exact Or.inl rfl

theorem uqLoopW_spec (u : UTab) (k : Nat) (pend : List Nat) (ptxt s : Str) :
    uqLoopW n f u k pend ptxt s = .ok (uqLoop .c u pend ptxt s) ∨
      (Q ∧ uqLoopW n f u k pend ptxt s = .error .memoryError) := by
  fun_induction uqLoopW n f u k pend ptxt s with
  | case1 k pend ptxt => left; rw [uqLoop]
  | case2 k pend ptxt rest v d1 d2 rest' h hd ih =>
    rw [Readback.uqLoop_esc _ _ _ _ h, hd]
    exact ih
  | case3 k pend ptxt rest v d1 d2 rest' h ch hd e k' he ih =>
    rw [Readback.uqLoop_esc _ _ _ _ h, hd]
    have hE := uqEmitW_spec n f Q H u k ch
    rw [he] at hE
    rcases hE with h1 | ⟨_, h1⟩
    · cases h1
      exact pre_spec ih
    · cases h1
  | case4 k pend ptxt rest v d1 d2 rest' h ch hd err k' he =>
    have hE := uqEmitW_spec n f Q H u k ch
    rw [he] at hE
    rcases hE with h1 | ⟨hq, h1⟩
    · cases h1
    · exact Or.inr ⟨hq, h1⟩
  | case5 k pend ptxt rest v d1 d2 rest' h hd ih3 ih2 ih1 =>
    rw [Readback.uqLoop_esc _ _ _ _ h, hd]
    simp only
    apply pre_spec
    cases hd1 : decodeBuf [v] with
    | incomplete => exact ih3
    | char ch => exact emit_spec (uqEmitW_spec n f Q H u k ch) ih2
    | invalid => exact pre_spec ih1
  | case6 k pend ptxt rest h ih =>
    rw [Readback.uqLoop_lit _ _ _ _ (Or.inr h)]
    exact pre_spec ih
  | case7 k pend ptxt c rest h ih =>
    rw [Readback.uqLoop_lit _ _ _ _ (Or.inl h)]
    exact pre_spec ih

theorem unquoteCW_spec (u : UTab) (s : Str) :
    unquoteCW n u f s = .ok (unquoteC u s) ∨ (Q ∧ unquoteCW n u f s = .error .memoryError) := by
  unfold unquoteCW unquoteC
  rcases uqLoopW_spec n f Q H u 0 [] [] s with h | ⟨hq, h⟩
  · rw [h]; exact Or.inl rfl
  · rw [h]; exact Or.inr ⟨hq, rfl⟩

end

/-! ## a family of long inputs (for non-vacuity at the real buffer size) -/

theorem stripSurr_spaces (k : Nat) : stripSurr (List.replicate k 32) = List.replicate k 32 := by
  induction k with
  | zero => rfl
  | succ k ih =>
    rw [List.replicate_succ]
    unfold stripSurr at ih ⊢
    rw [List.filter_cons, ih]
    simp [isSurrogate]

theorem allSafe_spaces (t : QTab) (hs : t.safe 32 = false) (k : Nat) :
    allSafe t (List.replicate (k + 1) 32) = false := by
  simp [allSafe, List.replicate_succ, hs]

theorem cOut_spaces_length (t : QTab) (hs : t.safe 32 = false) (hq : t.qs = false) (k : Nat) :
    (cOut t (List.replicate k 32)).length = 3 * k := by
  induction k with
  | zero => rw [List.replicate_zero, cOut]; rfl
  | succ k ih =>
    rw [List.replicate_succ, QuoteEquiv.cOut_plain t (by simp), List.length_append, ih]
    simp [cWriteOut, hs, hq, Yarl.writeUtf8, utf8, pct]
    omega

end Yarl.QuoteW

namespace Yarl
open Yarl.QuoteW Yarl.Writer Yarl.WriterLemmas

/-! # C19 / C05 — the compiled quoter through its writer -/

/-- REFINEMENT (C19 GAPS 5(b), C05 GAPS 2): on the slow path the interleaved loop of `_do_quote` is
    `Writer.run` applied to the batch output `cOut`, then the `changed` test; the final writer state
    (heap bookkeeping) is literally that of `Writer.run`.  On the fast path no writer is used. -/
theorem C19_quoteCW_refines_run (n : Nat) (t : QTab) (faults : Nat → Bool) (s : Str) :
    (allSafe t (stripSurr s) = true → quoteCW n t faults s = (.ok (stripSurr s), Writer.init n)) ∧
    (allSafe t (stripSurr s) = false →
      quoteCW n t faults s =
        ((Writer.run n faults (cOut t (stripSurr s))).1.map
            (fun d => if cChanged t (stripSurr s) then d else stripSurr s),
         (Writer.run n faults (cOut t (stripSurr s))).2)) :=
  ⟨quoteCW_fast n t faults s, quoteCW_slow n t faults s⟩

/-- without allocation failures the interleaved loop equals the batch function — for EVERY buffer
    size, hence for outputs crossing any number of `k·8192` boundaries, and with the `changed`
    flag maintained inside `_write_char` (growth path included) -/
theorem C19_quoteCW_no_fault (n : Nat) (t : QTab) (faults : Nat → Bool) (s : Str)
    (hf : ∀ i, faults i = false) : (quoteCW n t faults s).1 = .ok (quoteC t s) := by
  have : faults = fun _ => false := funext hf
  subst this
  cases h : allSafe t (stripSurr s) with
  | true => rw [quoteCW_fast n t _ s h, quoteC_fast t s h]
  | false =>
    rw [quoteCW_slow n t _ s h, quoteC_slow t s h, run_ok]
    simp only [Except.map]

/-- with arbitrary failures: the batch result or MemoryError, never anything else; and an output
    that fits the static buffer cannot fail -/
theorem C19_quoteCW_fault (n : Nat) (t : QTab) (faults : Nat → Bool) (s : Str) :
    ((quoteCW n t faults s).1 = .ok (quoteC t s) ∨ (quoteCW n t faults s).1 = .error .memoryError) ∧
    ((cOut t (stripSurr s)).length ≤ n → (quoteCW n t faults s).1 = .ok (quoteC t s)) := by
  cases h : allSafe t (stripSurr s) with
  | true =>
    rw [quoteCW_fast n t _ s h, quoteC_fast t s h]
    exact ⟨Or.inl rfl, fun _ => rfl⟩
  | false =>
    rw [quoteCW_slow n t _ s h, quoteC_slow t s h]
    refine ⟨?_, fun hl => ?_⟩
    · rcases run_dichotomy n faults (cOut t (stripSurr s)) with h1 | h1
      · left; rw [h1]; simp only [Except.map]
      · right; rw [h1]; rfl
    · rw [C19_writer_small_never_fails n faults _ hl]
      simp only [Except.map]

/-- MemoryError exactly when the call takes the slow path and a growth request that the output
    length needs is refused.  Request `k` (0-based: `k = 0` is the `PyMem_Malloc` leaving the static
    buffer, `k ≥ 1` the `k`-th `PyMem_Realloc` — see `C19_writer_growth_kind`) is needed iff the
    output has more than `(k+1)·n` characters. -/
theorem C19_quoteCW_fault_iff (n : Nat) (hn : 0 < n) (t : QTab) (faults : Nat → Bool) (s : Str) :
    (quoteCW n t faults s).1 = .error .memoryError ↔
      allSafe t (stripSurr s) = false ∧
      ∃ k, (k + 1) * n < (cOut t (stripSurr s)).length ∧ faults k = true := by
  cases h : allSafe t (stripSurr s) with
  | true => rw [quoteCW_fast n t _ s h]; simp
  | false =>
    rw [quoteCW_slow n t _ s h]
    simp only [true_and]
    rw [← run_error_iff hn faults]
    cases (Writer.run n faults (cOut t (stripSurr s))).1 with
    | ok d => simp [Except.map]
    | error e => simp [Except.map]

theorem C19_quoteCW_ok_iff (n : Nat) (hn : 0 < n) (t : QTab) (faults : Nat → Bool) (s : Str) :
    (quoteCW n t faults s).1 = .ok (quoteC t s) ↔
      (allSafe t (stripSurr s) = true ∨
       ∀ k, (k + 1) * n < (cOut t (stripSurr s)).length → faults k = false) := by
  have hiff := C19_quoteCW_fault_iff n hn t faults s
  constructor
  · intro hok
    cases h : allSafe t (stripSurr s) with
    | true => exact Or.inl rfl
    | false =>
      right
      intro k hk
      cases hfk : faults k with
      | false => rfl
      | true =>
        have := hiff.mpr ⟨h, k, hk, hfk⟩
        rw [this] at hok; cases hok
  · intro hcond
    rcases (C19_quoteCW_fault n t faults s).1 with h1 | h1
    · exact h1
    · obtain ⟨ha, k, hk, hfk⟩ := hiff.mp h1
      rcases hcond with h2 | h2
      · rw [ha] at h2; cases h2
      · rw [h2 k hk] at hfk; cases hfk

/-- which request was refused: after a MemoryError the final writer state has made `k` successful
    requests, request `k` was the refused one and all earlier ones were granted; exactly
    `(k+1)·n` characters had been written (the buffer was full); the buffer is still the static one
    iff `k = 0` (the refused request was the malloc) -/
theorem C19_quoteCW_fault_index (n : Nat) (hn : 0 < n) (t : QTab) (faults : Nat → Bool) (s : Str)
    (h : (quoteCW n t faults s).1 = .error .memoryError) :
    let w := (quoteCW n t faults s).2
    faults w.allocs = true ∧ (∀ j, j < w.allocs → faults j = false) ∧
    w.data.length = (w.allocs + 1) * n ∧ (w.allocs + 1) * n < (cOut t (stripSurr s)).length ∧
    (w.buf = .static ↔ w.allocs = 0) := by
  intro w
  obtain ⟨ha, hk⟩ := (C19_quoteCW_fault_iff n hn t faults s).mp h
  -- the final state is the released state in which `writeAll` stopped, and it stopped by failing
  have hw : w = release (writeAll n faults (init n) (cOut t (stripSurr s))).1 :=
    congrArg Prod.snd (quoteCW_slow n t faults s ha)
  have hfail := (writeAll_fail_iff hn faults (cOut t (stripSurr s)) (init n) (reach_init n faults)).mpr
    (by simpa [init] using hk)
  obtain ⟨h1, h2, h3⟩ := writeAll_fail_state n faults _ _ hfail
  obtain ⟨k, d, hr, -, hg⟩ := reach_run hn faults (cOut t (stripSurr s))
  simp only [hr, grown_data, grown_size, grown_allocs] at h1 h2 h3
  have h3' : d.length < (cOut t (stripSurr s)).length := by simpa [init] using h3
  rw [hw, hr, release_grown]
  refine ⟨h2, hg, h1, h1 ▸ h3', ?_⟩
  cases k <;> simp [grown]

/-- on EVERY path (fast, normal, MemoryError) the final state is leak-free: no heap block live,
    none freed twice, the static buffer never freed — what C19Writer proves for `Writer.run` -/
theorem C19_quoteCW_release (n : Nat) (hn : 0 < n) (t : QTab) (faults : Nat → Bool) (s : Str) :
    (quoteCW n t faults s).2.live = [] ∧ (quoteCW n t faults s).2.freed.Nodup ∧
    (quoteCW n t faults s).2.staticFreed = false ∧ (quoteCW n t faults s).2.freed.length ≤ 1 := by
  cases h : allSafe t (stripSurr s) with
  | true => rw [quoteCW_fast n t _ s h]; simp [init]
  | false => rw [quoteCW_slow n t _ s h]; exact C19_writer_release n hn faults _

/-! ## later calls -/

set_option linter.unusedVariables false in
/-- `C19_quoteCW_no_fault` with the earlier call as unused binders: in the model a call takes no state from an
    earlier one (`_init_writer` runs first), so there is nothing to prove about the failed call.  The statement with
    content — one process-wide oracle threaded through the calls — is `C19_quoteCW_later_calls` -/
theorem C19_quoteCW_after_failure (n : Nat) (t : QTab) (f1 : Nat → Bool) (s1 : Str)
    (h1 : (quoteCW n t f1 s1).1 = .error .memoryError) (faults : Nat → Bool) (s' : Str)
    (hf : ∀ i, faults i = false) : (quoteCW n t faults s').1 = .ok (quoteC t s') :=
  C19_quoteCW_no_fault n t faults s' hf

/-- every call of a session (one process-wide fault oracle, each call consuming the requests it
    makes) returns the batch result or raises MemoryError, and ends leak-free -/
theorem C19_quoteCW_session_sound (n : Nat) (hn : 0 < n) (t : QTab) (faults : Nat → Bool) (k : Nat)
    (ss : List Str) :
    (session n t faults k ss).length = ss.length ∧
    ∀ p ∈ List.zip ss (session n t faults k ss),
      (p.2.1 = .ok (quoteC t p.1) ∨ p.2.1 = .error .memoryError) ∧
      p.2.2.live = [] ∧ p.2.2.freed.Nodup ∧ p.2.2.staticFreed = false ∧ p.2.2.freed.length ≤ 1 := by
  refine ⟨session_length n t faults k ss, ?_⟩
  induction ss generalizing k with
  | nil => intro p hp; simp [session] at hp
  | cons s ss ih =>
    intro p hp
    simp only [session, List.zip_cons_cons, List.mem_cons] at hp
    rcases hp with rfl | hp
    · exact ⟨(C19_quoteCW_fault n t _ s).1, C19_quoteCW_release n hn t _ s⟩
    · exact ih _ p hp

/-- once the oracle refuses nothing from request `k` on, every call starting at or after `k` is correct -/
theorem C19_quoteCW_session_no_fault (n : Nat) (t : QTab) (faults : Nat → Bool) (k : Nat) (ss : List Str)
    (hf : ∀ i, k ≤ i → faults i = false) :
    (session n t faults k ss).map (·.1) = ss.map (fun s => .ok (quoteC t s)) := by
  induction ss generalizing k with
  | nil => rfl
  | cons s ss ih =>
    simp only [session, List.map_cons]
    rw [C19_quoteCW_no_fault n t (shift faults k) s (fun i => hf (k + i) (Nat.le_add_right k i))]
    rw [ih _ (fun i hi => hf i (by omega))]

/-- "… and later calls return correct results": whatever happened in the calls `ss1` (any number of
    MemoryErrors), if no request made AFTER them is refused, all later calls `ss2` return exactly
    the batch results -/
theorem C19_quoteCW_later_calls (n : Nat) (t : QTab) (faults : Nat → Bool) (ss1 ss2 : List Str)
    (hf : ∀ i, reqs (session n t faults 0 ss1) ≤ i → faults i = false) :
    (session n t faults 0 (ss1 ++ ss2)).map (·.1) =
      (session n t faults 0 ss1).map (·.1) ++ ss2.map (fun s => .ok (quoteC t s)) := by
  rw [session_append, List.map_append, Nat.zero_add,
    C19_quoteCW_session_no_fault n t faults _ ss2 hf]

/-! ## C05: both backends, the compiled one through its writer -/

/-- for every generated quoter configuration and every buffer size: the compiled quoter, executed
    character by character through its writer with no allocation failure, returns what the
    pure-Python quoter returns -/
theorem C05_quoteCW_backend_any (n : Nat) (a : QArgs) (ha : a ∈ Gen.allQuoters) (faults : Nat → Bool)
    (s : Str) (hs : PyStr s) (hf : ∀ i, faults i = false) :
    (quoteCW n a.tabC faults s).1 = .ok (a.run .py s) := by
  rw [C19_quoteCW_no_fault n a.tabC faults s hf, C05_quote a ha s hs]
  rfl

/-- the same at the buffer size extracted from the `.pyx` -/
theorem C05_quoteCW_backend (a : QArgs) (ha : a ∈ Gen.allQuoters) (faults : Nat → Bool)
    (s : Str) (hs : PyStr s) (hf : ∀ i, faults i = false) :
    (quoteCW Gen.bufSize a.tabC faults s).1 = .ok (a.run .py s) :=
  C05_quoteCW_backend_any Gen.bufSize a ha faults s hs hf

/-- with allocation failures: the pure-Python result or MemoryError; and never MemoryError when the
    quoted text has at most `BUF_SIZE` characters -/
theorem C05_quoteCW_backend_fault (a : QArgs) (ha : a ∈ Gen.allQuoters) (faults : Nat → Bool)
    (s : Str) (hs : PyStr s) :
    ((quoteCW Gen.bufSize a.tabC faults s).1 = .ok (a.run .py s) ∨
      (quoteCW Gen.bufSize a.tabC faults s).1 = .error .memoryError) ∧
    ((cOut a.tabC (stripSurr s)).length ≤ Gen.bufSize →
      (quoteCW Gen.bufSize a.tabC faults s).1 = .ok (a.run .py s)) := by
  have e : a.run .py s = quoteC a.tabC s := by rw [C05_quote a ha s hs]; rfl
  rw [e]
  exact C19_quoteCW_fault Gen.bufSize a.tabC faults s

/-- a call consults the oracle only at the indices of the requests it makes (`requests` = granted
    ones + the refused one): two oracles agreeing there give the same result AND the same final
    state.  This is what justifies threading one oracle through `session` by `shift`. -/
theorem C19_quoteCW_oracle_prefix (n : Nat) (t : QTab) (f g : Nat → Bool) (s : Str)
    (h : ∀ i, i < requests (quoteCW n t f s) → f i = g i) : quoteCW n t g s = quoteCW n t f s :=
  quoteCW_congr n t f g s h

/-- the memory clause for the compiled quoter itself, at the real buffer size, for every `_Quoter`
    keyword configuration `a` — generated or not — every fault pattern, every input:
    the call returns what `QArgs.run .c` returns or raises MemoryError; MemoryError exactly when a
    needed growth request is refused; no fault ⇒ the result; leak-free on every path -/
theorem C19_headline_quoter_memory (a : QArgs) (faults : Nat → Bool) (s : Str) :
    let r := quoteCW Gen.bufSize a.tabC faults s
    (r.1 = .ok (a.run .c s) ∨ r.1 = .error .memoryError) ∧
    (r.1 = .error .memoryError ↔
      allSafe a.tabC (stripSurr s) = false ∧
      ∃ k, (k + 1) * Gen.bufSize < (cOut a.tabC (stripSurr s)).length ∧ faults k = true) ∧
    ((∀ i, faults i = false) → r.1 = .ok (a.run .c s)) ∧
    ((cOut a.tabC (stripSurr s)).length ≤ Gen.bufSize → r.1 = .ok (a.run .c s)) ∧
    (r.2.live = [] ∧ r.2.freed.Nodup ∧ r.2.staticFreed = false ∧ r.2.freed.length ≤ 1) := by
  intro r
  have e : a.run .c s = quoteC a.tabC s := rfl
  rw [e]
  exact ⟨(C19_quoteCW_fault _ _ faults s).1, C19_quoteCW_fault_iff _ (by decide) _ faults s,
    C19_quoteCW_no_fault _ _ faults s, (C19_quoteCW_fault _ _ faults s).2,
    C19_quoteCW_release _ (by decide) _ faults s⟩

/-! ## the compiled unquoter (its only writer activity: two inner `_Quoter` calls per decoded character) -/

/-- without allocation failures `_do_unquote` with its inner quoter calls run through the writer
    is the batch model `unquoteC` -/
theorem C19_unquoteCW_no_fault (n : Nat) (u : UTab) (faults : Nat → Bool) (s : Str)
    (hf : ∀ i, faults i = false) : unquoteCW n u faults s = .ok (unquoteC u s) :=
  (unquoteCW_spec n faults False
    (fun t k ch => Or.inl (C19_quoteCW_no_fault n t (shift faults k) [ch] (fun i => hf (k + i)))) u s).resolve_right
    And.left

/-- with arbitrary failures: the batch result or MemoryError -/
theorem C19_unquoteCW_fault (n : Nat) (u : UTab) (faults : Nat → Bool) (s : Str) :
    unquoteCW n u faults s = .ok (unquoteC u s) ∨ unquoteCW n u faults s = .error .memoryError :=
  (unquoteCW_spec n faults True
    (fun t k ch => (C19_quoteCW_fault n t (shift faults k) [ch]).1.imp_right (And.intro trivial)) u s).imp_right
    And.right

/-- an inner quoter call writes at most 12 characters, so with a static buffer of at least 12
    bytes the unquoter never requests memory through the writer: NO fault pattern can make it fail -/
theorem C19_unquoteCW_never_fails (n : Nat) (hn : 12 ≤ n) (u : UTab) (faults : Nat → Bool) (s : Str) :
    unquoteCW n u faults s = .ok (unquoteC u s) :=
  (unquoteCW_spec n faults False
    (fun t k ch => Or.inl ((C19_quoteCW_fault n t (shift faults k) [ch]).2
      (Nat.le_trans (cOut_single_length t ch) hn))) u s).resolve_right And.left

/-- every generated unquoter configuration at the real buffer size, any fault pattern: the compiled
    unquoter (inner quoters through the writer) returns what the pure-Python unquoter returns -/
theorem C05_unquoteCW_backend (a : UArgs) (ha : a ∈ Gen.allUnquoters) (faults : Nat → Bool) (s : Str) :
    unquoteCW Gen.bufSize (a.tab .c) faults s = .ok (a.run .py s) := by
  rw [C19_unquoteCW_never_fails Gen.bufSize (by decide) (a.tab .c) faults s, C05_unquote a ha s]
  rfl

/-! ## non-vacuity -/

section Examples

/-- `Except` has no `DecidableEq` in core; needed only for the `decide` checks below -/
local instance instDecEqExceptQuoteW {ε α : Type} [DecidableEq ε] [DecidableEq α] : DecidableEq (Except ε α)
  | .ok a, .ok b => if h : a = b then isTrue (by rw [h]) else isFalse (by intro h'; cases h'; exact h rfl)
  | .error a, .error b => if h : a = b then isTrue (by rw [h]) else isFalse (by intro h'; cases h'; exact h rfl)
  | .ok _, .error _ => isFalse (by intro h; cases h)
  | .error _, .ok _ => isFalse (by intro h; cases h)

/-- `"a b%2fc é"` through `PATH_REQUOTER` gives 18 characters: with a 4-byte buffer that is the
    malloc and three reallocs (requests 0..3) -/
def exT : QTab := Gen.PATH_REQUOTER.tabC
def exS : Str := "a b%2fc é".toStr

-- no fault: four growth steps, the batch result, only the last block freed
example : (quoteCW 4 exT (fun _ => false) exS).1 = .ok (quoteC exT exS) ∧
    quoteC exT exS = "a%20b%2Fc%20%C3%A9".toStr ∧
    (quoteCW 4 exT (fun _ => false) exS).2.allocs = 4 ∧
    (quoteCW 4 exT (fun _ => false) exS).2.freed = [3] ∧
    (quoteCW 4 exT (fun _ => false) exS).2.live = [] := by str_lits; decide +kernel
-- fault at the first growth (the malloc): MemoryError, still the static buffer, nothing to free
example : (quoteCW 4 exT (fun i => i == 0) exS).1 = .error .memoryError ∧
    (quoteCW 4 exT (fun i => i == 0) exS).2.buf = .static ∧
    (quoteCW 4 exT (fun i => i == 0) exS).2.freed = [] ∧
    (quoteCW 4 exT (fun i => i == 0) exS).2.data.length = 4 := by decide +kernel
-- fault at the second growth (the first realloc): MemoryError, the malloc'ed block freed once
example : (quoteCW 4 exT (fun i => i == 1) exS).1 = .error .memoryError ∧
    (quoteCW 4 exT (fun i => i == 1) exS).2.allocs = 1 ∧
    (quoteCW 4 exT (fun i => i == 1) exS).2.freed = [0] ∧
    (quoteCW 4 exT (fun i => i == 1) exS).2.live = [] ∧
    (quoteCW 4 exT (fun i => i == 1) exS).2.data.length = 8 := by decide +kernel
-- a fault at a request the output does not need (index 4) is harmless
example : (quoteCW 4 exT (fun i => i == 4) exS).1 = .ok (quoteC exT exS) := by decide +kernel
-- the same facts from the theorems
example : (quoteCW 4 exT (fun i => i == 1) exS).1 = .error .memoryError :=
  (C19_quoteCW_fault_iff 4 (by decide) exT _ exS).mpr ⟨by decide +kernel, 1, by decide +kernel, rfl⟩
-- fast path: a long all-safe input never touches the writer, whatever the oracle says
example : (quoteCW 2 exT (fun _ => true) "abcdefgh".toStr).1 = .ok "abcdefgh".toStr := by str_lits; decide +kernel
-- the `changed` flag on the GROWTH path: with a 2-byte buffer `"ab%41"` writes `a`, `b` (unchanged)
-- and then the decoded `A` — the only write carrying `changed = True` — exactly when the buffer must
-- grow.  Losing the flag there would return the input `"ab%41"`.
example : (quoteCW 2 Gen.REQUOTER.tabC (fun _ => false) "ab%41".toStr).1 = .ok "abA".toStr ∧
    (quoteCW 2 Gen.REQUOTER.tabC (fun _ => false) "ab%41".toStr).2.allocs = 1 := by str_lits; decide +kernel
-- … and the flag stays unset when nothing changes although the buffer grew three times
example : (quoteCW 2 Gen.REQUOTER.tabC (fun _ => false) "ab%2Fcd".toStr).1 = .ok "ab%2Fcd".toStr ∧
    (quoteCW 2 Gen.REQUOTER.tabC (fun _ => false) "ab%2Fcd".toStr).2.allocs = 3 := by str_lits; decide +kernel
-- a session on one oracle: the first call hits the refused request 1, the second call (requests 2, 3, …)
-- is correct
example : (session 4 exT (fun i => i == 1) 0 [exS, exS]).map (·.1) =
    [.error .memoryError, .ok (quoteC exT exS)] := by decide +kernel
example : (session 4 exT (fun i => i == 1) 0 [exS] ++ []).map requests = [2] := by decide +kernel

-- `C19_quoteCW_later_calls` applied: the failed first call used requests 0 and 1; nothing later is refused
example : (session 4 exT (fun i => i == 1) 0 ([exS] ++ [exS, "x y".toStr])).map (·.1) =
    (session 4 exT (fun i => i == 1) 0 [exS]).map (·.1) ++
      [exS, "x y".toStr].map (fun s => .ok (quoteC exT s)) :=
  C19_quoteCW_later_calls 4 exT _ [exS] _ (by
    have h2 : reqs (session 4 exT (fun i => i == 1) 0 [exS]) = 2 := by str_lits; decide +kernel
    rw [h2]
    intro i hi
    have : i ≠ 1 := by omega
    simpa using this)

/-! at the REAL buffer size (8192), by the theorems: 3000 spaces quote to 9000 characters
    (one growth: the malloc), 6000 spaces to 18000 (malloc + one realloc) -/

theorem exSpaces (k : Nat) :
    allSafe Gen.PATH_QUOTER.tabC (stripSurr (List.replicate (k + 1) 32)) = false ∧
    (cOut Gen.PATH_QUOTER.tabC (stripSurr (List.replicate (k + 1) 32))).length = 3 * (k + 1) := by
  rw [stripSurr_spaces]
  exact ⟨allSafe_spaces _ (by decide) k, cOut_spaces_length _ (by decide) (by decide) (k + 1)⟩

-- malloc refused: MemoryError
example : (quoteCW Gen.bufSize Gen.PATH_QUOTER.tabC (fun i => i == 0) (List.replicate 3000 32)).1 =
    .error .memoryError :=
  (C19_quoteCW_fault_iff _ (by decide) _ _ _).mpr ⟨(exSpaces 2999).1, 0, by rw [(exSpaces 2999).2]; decide, rfl⟩
-- first realloc refused but 9000 ≤ 2·8192: not needed, the result is the batch result
example : (quoteCW Gen.bufSize Gen.PATH_QUOTER.tabC (fun i => i == 1) (List.replicate 3000 32)).1 =
    .ok (quoteC Gen.PATH_QUOTER.tabC (List.replicate 3000 32)) :=
  (C19_quoteCW_ok_iff _ (by decide) _ _ _).mpr (Or.inr (fun k hk => by
    rw [(exSpaces 2999).2] at hk
    have : k = 0 := by simp only [Gen.bufSize] at hk; omega
    subst this; rfl))
-- 18000 > 2·8192: now the first realloc is needed, and refused
example : (quoteCW Gen.bufSize Gen.PATH_QUOTER.tabC (fun i => i == 1) (List.replicate 6000 32)).1 =
    .error .memoryError :=
  (C19_quoteCW_fault_iff _ (by decide) _ _ _).mpr ⟨(exSpaces 5999).1, 1, by rw [(exSpaces 5999).2]; decide, rfl⟩
-- no fault: equal to the pure-Python quoter although the output crosses 8192 and 16384
example : (quoteCW Gen.bufSize Gen.PATH_QUOTER.tabC (fun _ => false) (List.replicate 6000 32)).1 =
    .ok (Gen.PATH_QUOTER.run .py (List.replicate 6000 32)) :=
  C05_quoteCW_backend _ (by decide) _ _ (by intro c hc; rw [List.eq_of_mem_replicate hc]; decide) (fun _ => rfl)

/-! the unquoter: `%2F` and `%25` are re-quoted by the inner `_Quoter` (3 characters each) -/
def exU : UTab := Gen.PATH_SAFE_UNQUOTER.tab .c
example : unquoteCW 2 exU (fun _ => false) "a%2Fb%25%C3%A9".toStr = .ok (unquoteC exU "a%2Fb%25%C3%A9".toStr) ∧
    unquoteC exU "a%2Fb%25%C3%A9".toStr = "a%2Fb%25é".toStr := by str_lits; decide +kernel
-- with a 2-byte buffer the inner call must grow: its malloc is refused
example : unquoteCW 2 exU (fun i => i == 0) "a%2Fb%25%C3%A9".toStr = .error .memoryError := by str_lits; decide +kernel
-- the second inner call's malloc (request 1 of the process) is refused
example : unquoteCW 2 exU (fun i => i == 1) "a%2Fb%25%C3%A9".toStr = .error .memoryError := by str_lits; decide +kernel
-- with a buffer of ≥ 12 bytes no fault pattern matters
example : unquoteCW 12 exU (fun _ => true) "a%2Fb%25%C3%A9".toStr = .ok "a%2Fb%25é".toStr := by str_lits; decide +kernel

end Examples

end Yarl
