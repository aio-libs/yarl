/-
  C17Build.lean — property C17 (port semantics) for the `build` route and for constructor results.

  * `build(host=…, port=…)` (no `authority=`, not `encoded=True`) drops a port equal to the scheme
    default, keeps every other port in range (0 included), and `port` falls back to the default;
  * which error `build` raises for a bad `port=` (exact precedence with the authority check);
  * an explicit port of a constructor result (pre-filled cache or not) is in range.
-/
import YarlModel
import YarlProofs.C17
import YarlProofs.C11
import YarlProofs.C19Str
import YarlProofs.Lemmas.BuildShape
import YarlProofs.Lemmas.BuildFix
import YarlProofs.Lemmas.EagerLemmas
import YarlProofs.C09
namespace Yarl
open NetlocLemmas StrTotal

namespace MiscLemmas

/-- the stored scheme of `build(encoded=False)` for an ASCII `scheme=`: lower case -/
theorem build_scheme_ascii (e : Env) (a : BuildArgs) (u : Url) (henc : a.encoded = false)
    (hasc : isAscii a.scheme = true) (h : build e a = .ok u) : u.scheme = lower a.scheme := by
  obtain ⟨_, _, _, hsc, _⟩ := build_false_ok henc h
  exact BuildFix.lowerAny_ok_ascii hasc hsc

/-- a validated host is `bracket r` for an `r` without '@' '[' ']' (the empty answer of an IDNA oracle included) -/
theorem encoded_host_plain (o : Oracles) (hs eh : Str) (h : encodeHost o hs true = .ok eh) :
    ∃ r, eh = bracket r ∧ 64 ∉ r ∧ 91 ∉ r ∧ 93 ∉ r := by
  by_cases hne : eh = []
  · exact ⟨[], by rw [hne]; rfl, by simp, by simp, by simp⟩
  · obtain ⟨hwf, hok⟩ := C11_encoded_host_wellformed o hs eh hne h
    exact ⟨unbracket eh, hwf.symm, hok.2.1, hok.2.2.1, hok.2.2.2⟩

theorem explicitPort_of_split (e : Env) (u : Url) (np : NetlocParts) (hpre : u.pre = none)
    (h : splitNetloc e.o u.netloc = .ok np) : explicitPort e u = .ok np.port := by
  unfold explicitPort
  rw [net_of_no_cache hpre, lazyNet_eq, h]
  rfl

end MiscLemmas
open MiscLemmas

/-! ### `build(host=…, port=…)` -/

/-- the explicit port of `build(host=…, port=…)`: a port equal to the default of the LOWERED scheme `sc`
    (fix e21485a: `build(scheme="HTTP", port=80)` drops the port) is dropped, any other port in range
    (0 included) is kept; `port` falls back to that default.  Stated for every `sc` the lowering step
    returns, so nothing is lost for a non-ASCII scheme; `C17_build_port_ascii` is the ASCII instance.
    NOTE: the hypothesis "the encoded host is non-empty" of the request is not needed (an IDNA oracle
    answering "" gives the netloc ":port" / "", whose port reads back the same). -/
theorem C17_build_port (e : Env) (a : BuildArgs) (u : Url) (henc : a.encoded = false) (hauth : a.authority = [])
    (hhost : a.host ≠ []) (sc : Str) (hsc : lowerAny e a.scheme = .ok sc) : build e a = .ok u →
    explicitPort e u = .ok (match a.port with
      | none => none
      | some p => if some p.toNat = defaultPort sc then none else some p.toNat) ∧
    port e u = .ok (match (match a.port with
        | none => none
        | some p => if some p.toNat = defaultPort sc then none else some p.toNat) with
      | some p => some p
      | none => defaultPort sc) := by
  intro hb
  obtain ⟨_, hs, _, hsc', hnl, _, _, _, hpre⟩ := build_false_ok henc hb
  obtain rfl : u.scheme = sc := Except.ok.inj (hsc'.symm.trans hsc)
  have hexp : explicitPort e u = .ok (match a.port with
      | none => none
      | some p => if some p.toNat = defaultPort u.scheme then none else some p.toNat) := by
    rw [buildNetloc_host hauth hhost] at hnl
    obtain ⟨eh, heh, hnl⟩ := bind_ok hnl
    obtain ⟨r, rfl, h64, h91, h93⟩ := encoded_host_plain e.o a.host eh heh
    -- the port reads back whatever the userinfo text is
    obtain ⟨np, hsp, hport, _⟩ := splitNetloc_written_any e.o (q e Gen.QUOTER) a.user a.password
      (strPort u.scheme (a.port.map Int.toNat)) true (notMem_bracket h64 (by decide) (by decide))
      (hostPort_plain r h91 h93) (fun ds => hostPort_port r ds h91 h93)
      (strPort_range _ _ (argCheck_port hs))
    rw [Except.ok.inj hnl] at hsp
    rw [explicitPort_of_split e u np hpre hsp, hport]
    cases a.port <;> rfl
  refine ⟨hexp, ?_⟩
  rw [C17_port_fallback e u _ hexp]
  generalize (match a.port with
      | none => none
      | some p => if some p.toNat = defaultPort u.scheme then none else some p.toNat) = X
  cases X <;> rfl

/-- the ASCII instance: the default port is that of `lower a.scheme` -/
theorem C17_build_port_ascii (e : Env) (a : BuildArgs) (u : Url) (henc : a.encoded = false)
    (hauth : a.authority = []) (hhost : a.host ≠ []) (hasc : isAscii a.scheme = true) : build e a = .ok u →
    explicitPort e u = .ok (match a.port with
      | none => none
      | some p => if some p.toNat = defaultPort (lower a.scheme) then none else some p.toNat) ∧
    port e u = .ok (match (match a.port with
        | none => none
        | some p => if some p.toNat = defaultPort (lower a.scheme) then none else some p.toNat) with
      | some p => some p
      | none => defaultPort (lower a.scheme)) :=
  C17_build_port e a u henc hauth hhost _ (BuildFix.lowerAny_ascii e a.scheme hasc)

/-- the same in closed form: `port` is the port given, else the default of the lowered scheme -/
theorem C17_build_port_value (e : Env) (a : BuildArgs) (u : Url) (henc : a.encoded = false) (hauth : a.authority = [])
    (hhost : a.host ≠ []) (sc : Str) (hsc : lowerAny e a.scheme = .ok sc) : build e a = .ok u →
    port e u = .ok (match a.port with
      | none => defaultPort sc
      | some p => some p.toNat) := by
  intro hb
  rw [(C17_build_port e a u henc hauth hhost sc hsc hb).2]
  cases a.port with
  | none => rfl
  | some p =>
    by_cases hd : some p.toNat = defaultPort sc
    · simp only [if_pos hd]
      rw [hd]
    · simp only [if_neg hd]

/-- `build` succeeded, so the lowering step did: the two statements above always apply -/
theorem C17_build_lowered (e : Env) (a : BuildArgs) (u : Url) (henc : a.encoded = false) :
    build e a = .ok u → ∃ sc, lowerAny e a.scheme = .ok sc ∧ u.scheme = sc := by
  intro hb
  obtain ⟨_, _, _, hsc, _⟩ := build_false_ok henc hb
  exact ⟨_, hsc, rfl⟩

/-- a port given to `build` that survives is in range -/
theorem C17_build_port_range (e : Env) (a : BuildArgs) (u : Url) (henc : a.encoded = false) :
    build e a = .ok u → ∀ p, explicitPort e u = .ok (some p) → p ≤ 65535 := by
  intro hb p hp
  obtain ⟨_, _, _, _, _, _, _, _, hpre⟩ := build_false_ok henc hb
  exact C17_explicit_port_range e u p hpre hp

/-! ### rejected `port=` arguments -/

/-- which error a bad `port=` raises.  EXACT PRECEDENCE: the authority-conflict check comes first (it
    tests `port is not None`: ANY given port counts there), then the type check, then the range check:
    * a bool / non-int port: `ValueError` if `authority=` is given as well, else `TypeError`;
    * an int out of range: `ValueError` in every case (with
      `authority=` the conflict check already raises `ValueError`) — the hypothesis "no authority
      conflict" of the request is not needed. -/
theorem C17_build_port_rejects (e : Env) (a : BuildArgs) :
    (a.portKind ≠ 0 →
      (a.authority = [] → build e a = .error .typeError) ∧
      (a.authority ≠ [] → build e a = .error .valueError) ∧
      (build e a = .error .typeError ∨ build e a = .error .valueError)) ∧
    (∀ p, a.portKind = 0 → a.port = some p → (p < 0 ∨ 65535 < p) → build e a = .error .valueError) := by
  rcases a with ⟨scheme, authority, user, password, host, port, portKind, path, query, queryString, fragment, encoded⟩
  constructor
  · intro hk
    simp only at hk
    have h1 : authority = [] → build e ⟨scheme, authority, user, password, host, port, portKind, path, query,
        queryString, fragment, encoded⟩ = .error .typeError := by
      intro ha
      subst ha
      apply build_of_check
      unfold C07_buildArgCheck
      simp [hk]
    have h2 : authority ≠ [] → build e ⟨scheme, authority, user, password, host, port, portKind, path, query,
        queryString, fragment, encoded⟩ = .error .valueError := by
      intro ha
      have hne : authority.isEmpty = false := isEmpty_false ha
      cases portKind with
      | zero => exact absurd rfl hk
      | succ n =>
        apply build_of_check
        unfold C07_buildArgCheck
        simp [hne]
    refine ⟨h1, h2, ?_⟩
    by_cases ha : authority = []
    · exact Or.inl (h1 ha)
    · exact Or.inr (h2 ha)
  · intro p hk hp hr
    simp only at hk hp
    subst hk hp
    have hnr : ¬ (0 ≤ p ∧ p ≤ 65535) := by omega
    apply build_of_check
    unfold C07_buildArgCheck
    by_cases ha : authority = []
    · subst ha
      simp [hnr]
    · have hne : authority.isEmpty = false := isEmpty_false ha
      simp [hne]

/-! ### constructor results -/

/-- an explicit port of a URL the auto-encoding constructor returned is in range — also when it is
    served from the pre-filled cache: the cached port is the one `split_netloc` read from the input -/
theorem C17_constructor_port (e : Env) (s : Str) (u : Url) : encodeUrl e s = .ok u →
    ∀ p, explicitPort e u = .ok (some p) → p ≤ 65535 := by
  intro h p hp
  obtain ⟨pt, nl, pre, _, hab, rfl⟩ := EagerLemmas.encodeUrl_ok h
  rcases EagerLemmas.authBlock_ok hab with ⟨_, _, rfl⟩ | ⟨_, np, _, _, hsp, _, _, _, rfl⟩
  · exact C17_explicit_port_range e _ p rfl hp
  · exact splitNetloc_port_range e.o pt.netloc np p hsp (Except.ok.inj hp)

/-- the same for `encoded=True` and for everything else without a pre-filled cache -/
theorem C17_preencoded_port (e : Env) (s : Str) (u : Url) : preEncodedUrl e s = .ok u →
    ∀ p, explicitPort e u = .ok (some p) → p ≤ 65535 := by
  intro h p hp
  exact C17_explicit_port_range e u p ((C09_no_prefill e).1 s u h) hp

/-! ### non-vacuity -/

section checks
private def eC : Env := { b := .c, o := Oracles.empty }

-- a non-default port is kept, the default one is dropped, 0 is kept and distinct from "no port"
example : (build eC { scheme := "http".toStr, host := "::1".toStr, user := some "u".toStr, port := some 8080 }).bind
    (fun u => (explicitPort eC u).map (fun p => (u.netloc, p))) = .ok ("u@[::1]:8080".toStr, some 8080) := by str_lits; decide +kernel
example : (build eC { scheme := "http".toStr, host := "Example.COM".toStr, port := some 80 }).bind
    (fun u => do pure (u.netloc, ← explicitPort eC u, ← port eC u)) = .ok ("example.com".toStr, none, some 80) := by str_lits; decide +kernel
example : (build eC { scheme := "http".toStr, host := "h".toStr, port := some 0 }).bind
    (fun u => do pure (u.netloc, ← explicitPort eC u, ← port eC u)) = .ok ("h:0".toStr, some 0, some 0) := by decide +kernel
example : (build eC { scheme := "http".toStr, host := "h".toStr }).bind
    (fun u => do pure (u.netloc, ← explicitPort eC u, ← port eC u)) = .ok ("h".toStr, none, some 80) := by decide +kernel
-- the default port is that of the LOWERED scheme (fix e21485a)
example : (build eC { scheme := "HTTP".toStr, host := "h".toStr, port := some 80 }).bind
    (fun u => do pure (u.scheme, u.netloc, ← explicitPort eC u, ← port eC u)) =
    .ok ("http".toStr, "h".toStr, none, some 80) := by decide +kernel
example : (build eC { scheme := "foo".toStr, host := "h".toStr }).bind
    (fun u => do pure (u.netloc, ← explicitPort eC u, ← port eC u)) = .ok ("h".toStr, none, none) := by decide +kernel
example : (build eC { scheme := "https".toStr, host := "h".toStr, port := some 65535 }).bind
    (fun u => do pure (u.netloc, ← explicitPort eC u, ← port eC u)) = .ok ("h:65535".toStr, some 65535, some 65535) := by str_lits; decide +kernel
-- rejections, with the precedence of `C17_build_port_rejects`
example : build eC { host := "h".toStr, port := some 65536 } = .error .valueError := by decide +kernel
example : build eC { host := "h".toStr, port := some (-1) } = .error .valueError := by decide +kernel
example : build eC { host := "h".toStr, port := some 80, portKind := 1 } = .error .typeError := by decide +kernel
example : build eC { authority := "h".toStr, portKind := 2 } = .error .valueError := by decide +kernel
example : build eC { authority := "h".toStr, port := some 70000 } = .error .valueError := by decide +kernel
-- constructor: a port from the cache
example : (encodeUrl eC "http://Us:pw@h:65535/".toStr).bind (explicitPort eC) = .ok (some 65535) := by str_lits; decide +kernel
example : encodeUrl eC "http://h:65536/".toStr = .error .valueError := by str_lits; decide +kernel
end checks

end Yarl
