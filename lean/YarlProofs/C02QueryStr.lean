/-
  C02QueryStr.lean — properties C02 (auto-encoding preserves decoded values and delimiter status) and C12 (query
  algebra) for the STRING-argument forms of the query modifiers.

  Observed on the real library (and reproduced by the model, last section):
     with_query("a=1%2B2")     stores  a=1%252B2      the string is TEXT: '%' is data; '+' '&' '=' ';' stay literal
     extend_query("a=1%2B2")   appends a=1%252B2      (same)
     update_query("a=1%2B2")   stores  a=1%2B2        the string is PARSED (parse_qsl), every key / value re-quoted
     update_query("s=a%3Bb;c") stores  s=a%3Bb%3Bc    ';' is no separator; a literal ';' / '=' in a value gets encoded
     update_query("bad=%FF")   stores  bad=%EF%BF%BD  errors='replace' (F-C02-query-replace / F-C06-query-replace)
     update_query on ?a=%FF    rewrites that OLD pair too.

  (3) the '%' operator: the model has NO separate operation — Python's `URL.__mod__` is the one line
      `return self.update_query(query)`; the dynamic entry point is `dynUpdateQuery` (C12_qstr_mod_is_update_query).
-/
import YarlModel
import YarlProofs.C02More
import YarlProofs.C02More3
import YarlProofs.C12More
import YarlProofs.C12Spec
namespace Yarl
open QsLemmas MdLemmas QueryUrl WfLemmas TokLemmas QsMore MeanMore QsSpec OutLangLemmas PathAlg PathLemmas

namespace R15

/-- a non-empty string without lone surrogates never quotes to "" -/
theorem qq_ne_nil (b : Backend) (s : Str) (hs : GoodText s) (hne : s ≠ []) : Gen.QUERY_QUOTER.run b s ≠ [] := by
  intro h
  have := C02_gen_decode_QUERY_QUOTER b s hs.1
  rw [h, pctDecodeQs_nil] at this
  cases s with
  | nil => exact hne rfl
  | cons c r =>
    have hc := utf8_length_pos (p2s c) (pts_pyStr hs.1 _ (by simp [plusToSpace, p2s]))
      (pts_noSurr hs.2 _ (by simp [plusToSpace, p2s]))
    have h2 : utf8s (plusToSpace (c :: r)) = utf8 (p2s c) ++ utf8s (plusToSpace r) := by
      simp [plusToSpace, utf8s, p2s]
    rw [h2] at this
    cases hu : utf8 (p2s c) with
    | nil => rw [hu] at hc; simp at hc
    | cons y ys => rw [hu] at this; simp at this

end R15
open R15

/-! ## 1. `with_query(str)` / `extend_query(str)`: the string is TEXT -/

/-- the exact stored text of `with_query(<str>)` — for EVERY string: the query is `QUERY_QUOTER(s)`; nothing else moves -/
theorem C02_qstr_with_query_stored (e : Env) (u : Url) (s : Str) :
    withQuery e u (.str s) = .ok (fromParts u.scheme u.netloc u.path (q e Gen.QUERY_QUOTER s) u.fragment) :=
  withQuery_of e u _ _ (getStr e.b s)

/-- the exact stored text of `extend_query(<str>)` — for EVERY string: nothing happens when the string quotes to "";
    otherwise the quoted string is appended to the old query, after an "&" unless the old query is empty or already ends
    in "&" -/
theorem C02_qstr_extend_query_stored (e : Env) (u : Url) (s : Str) :
    extendQuery e u (.str s) = .ok
      (if q e Gen.QUERY_QUOTER s = [] then u
       else fromParts u.scheme u.netloc u.path
        (if u.query = [] then q e Gen.QUERY_QUOTER s
         else if u.query.getLast? = some 38 then u.query ++ q e Gen.QUERY_QUOTER s
         else u.query ++ [38] ++ q e Gen.QUERY_QUOTER s) u.fragment) := by
  by_cases h0 : q e Gen.QUERY_QUOTER s = []
  · rw [if_pos h0]
    exact extendQuery_nil e u _ ((show Gen.QUERY_QUOTER.run e.b s = [] from h0) ▸ getStr e.b s)
  · rw [if_neg h0, extendQuery_of e u _ _ (getStr e.b s) h0]
    by_cases hq : u.query = []
    · simp [hq, q]
    · have : u.query.isEmpty = false := by cases hu : u.query <;> simp_all
      simp [hq, this, q]

/-- … in the usual case (old query non-empty and not ending in '&', a non-empty string without lone surrogates):
    old ++ "&" ++ QUERY_QUOTER(s) -/
theorem C02_qstr_extend_query_stored_amp (e : Env) (u : Url) (s : Str) (hs : GoodText s) (hne : s ≠ [])
    (hq : u.query ≠ []) (hl : u.query.getLast? ≠ some 38) :
    extendQuery e u (.str s) = .ok
      (fromParts u.scheme u.netloc u.path (u.query ++ [38] ++ q e Gen.QUERY_QUOTER s) u.fragment) := by
  have h0 : q e Gen.QUERY_QUOTER s ≠ [] := qq_ne_nil e.b s hs hne
  rw [C02_qstr_extend_query_stored, if_neg h0, if_neg hq, if_neg hl]

/-- C02 for `with_query(<str>)` in FORM-decoding terms, for every Python string (lone surrogates: they contribute no byte on
    either side): the stored query has exactly as many '&'-pieces as the supplied TEXT, and piece by piece — split at the
    first '=' — the form-decoded key, "has an '='", and the form-decoded value of the stored piece are the UTF-8 bytes of
    the key text, "has an '='", the UTF-8 bytes of the value text of the supplied piece, a supplied '+' read as a space.
    There is NO percent-decoding of the supplied text ('%' is data: the right-hand sides are `utf8s`, not `pctDecode`). -/
theorem C02_qstr_with_query_form_decoding (e : Env) (u : Url) (s : Str) (hs : PyStr s) :
    ∃ v, withQuery e u (.str s) = .ok v ∧ v.query = q e Gen.QUERY_QUOTER s ∧
      (splitOn 38 v.query).length = (splitOn 38 s).length ∧
      (splitOn 38 v.query).map (fun P =>
          (pctDecodeQs (partition 61 P).1, (partition 61 P).2.1, pctDecodeQs (partition 61 P).2.2)) =
        (splitOn 38 s).map (fun T =>
          (utf8s (plusToSpace (partition 61 T).1), (partition 61 T).2.1, utf8s (plusToSpace (partition 61 T).2.2))) ∧
      pctDecodeQs v.query = utf8s (plusToSpace s) := by
  obtain ⟨f1, f2, f3⟩ := qq_facts e.b s hs
  refine ⟨_, C02_qstr_with_query_stored e u s, rfl, ?_, f2, f3⟩
  show (splitOn 38 (Gen.QUERY_QUOTER.run e.b s)).length = _
  rw [f1]; simp

/-- … the same for `extend_query(<str>)`: the OLD '&'-pieces are kept byte for byte (`stripTrail`: without the empty piece
    after a trailing '&'), followed by one piece per '&'-piece of the supplied TEXT with exactly its bytes -/
theorem C02_qstr_extend_query_form_decoding (e : Env) (u : Url) (s : Str) (hs : GoodText s) (hne : s ≠ []) :
    ∃ v, extendQuery e u (.str s) = .ok v ∧
      splitOn 38 v.query = stripTrail (splitOn 38 u.query) ++ (splitOn 38 s).map (q e Gen.QUERY_QUOTER) ∧
      ((splitOn 38 s).map (q e Gen.QUERY_QUOTER)).map (fun P =>
          (pctDecodeQs (partition 61 P).1, (partition 61 P).2.1, pctDecodeQs (partition 61 P).2.2)) =
        (splitOn 38 s).map (fun T =>
          (utf8s (plusToSpace (partition 61 T).1), (partition 61 T).2.1, utf8s (plusToSpace (partition 61 T).2.2))) ∧
      v.scheme = u.scheme ∧ v.netloc = u.netloc ∧ v.path = u.path ∧ v.fragment = u.fragment := by
  obtain ⟨v, h1, _, h3, h4⟩ := C02_extend_query_string e u s hs.1
  obtain ⟨h5, h6⟩ := h3 (qq_ne_nil e.b s hs hne)
  exact ⟨v, h1, h5, h6, h4⟩

/-- … and through the library's own reader: the pairs of the result are the LITERAL pairs of the text (`parseQslLit`,
    C12More.lean: split at '&', drop empty pieces, split at the first '=', '+' → ' ', no percent-decoding).
    Cites C12_with_query_str_pairs / C12_extend_query_str_pairs. -/
theorem C12_qstr_with_extend_pairs (e : Env) (u : Url) (s : Str) (hs : GoodText s) :
    (∃ v, withQuery e u (.str s) = .ok v ∧ queryPairs v = parseQslLit s) ∧
    (∃ v, extendQuery e u (.str s) = .ok v ∧ queryPairs v = queryPairs u ++ parseQslLit s) := by
  obtain ⟨v, h1, h2, _⟩ := C12_with_query_str_pairs e u s hs
  exact ⟨⟨v, h1, h2⟩, C12_extend_query_str_pairs e u s hs⟩

/-- "literal '&', '=', ';' stay literal" for the TEXT forms: cutting the stored text at any of the three commutes with
    the quoter — the stored text has a literal delimiter exactly where the supplied text has one -/
theorem C02_qstr_literal_delims_split (b : Backend) (s : Str) (hs : PyStr s) (d : Nat)
    (hd : d = 38 ∨ d = 61 ∨ d = 59) :
    splitOn d (Gen.QUERY_QUOTER.run b s) = (splitOn d s).map (Gen.QUERY_QUOTER.run b) := by
  exact gen_split _ mem_QUERY_QUOTER b ((gen_tracked b).2 d hd).1 s hs

/-- "literal '&', '=', ';', '+' stay literal", POSITIONAL form: token by token (`btoks`: one token per stored byte, an
    escape %XY being one token) the stored text has the literal delimiter `d` exactly where the UTF-8 bytes of the
    supplied text have the byte `d` — for '+' : where they have '+' or a space (a supplied space is stored as '+';
    both mean a space) — and NO escape of a delimiter (%26 %3D %3B %2B) is ever written: a supplied "%26" is the data
    '%', '2', '6' and is stored "%2526". -/
theorem C02_qstr_literal_delims_positions (b : Backend) (s : Str) (hs : PyStr s) :
    (∀ d, d = 38 ∨ d = 61 ∨ d = 59 →
      (btoks (Gen.QUERY_QUOTER.run b s)).map (fun k => decide (k = .lit d)) = (utf8s s).map (fun x => decide (x = d))) ∧
    (btoks (Gen.QUERY_QUOTER.run b s)).map (fun k => decide (k = .lit 43)) =
      (utf8s s).map (fun x => decide (x = 43 ∨ x = 32)) ∧
    (∀ d, d = 38 ∨ d = 61 ∨ d = 59 ∨ d = 43 → BTok.esc d ∉ btoks (Gen.QUERY_QUOTER.run b s)) ∧
    (btoks (Gen.QUERY_QUOTER.run b s)).length = (utf8s s).length := by
  obtain ⟨hlen, _, hdelim, hplus, _, hesc, _⟩ := C02_form_quoter_tokens b s hs
  exact ⟨hdelim, hplus, fun d hd => hesc d (by rcases hd with h | h | h | h <;> simp [h]), hlen⟩

/-! ## 2. `update_query(str)`: the string is PARSED (`parse_qsl`), then every key and value is re-quoted -/

namespace R15

/-- the non-empty '&'-pieces of a string — the pieces `parse_qsl` turns into pairs -/
def pieces (s : Str) : List Str := (splitOn 38 s).filter (fun p => p ≠ [])

/-- key text / value text of a piece: before / after its first '=' (value "" without '=') -/
def keyText (p : Str) : Str := (partition 61 p).1
def valText (p : Str) : Str := (partition 61 p).2.2

/-- `bs` is well-formed UTF-8: the encoding of a Python string without lone surrogates -/
def ValidUtf8 (bs : List Nat) : Prop := ∃ t : Str, GoodText t ∧ utf8s t = bs

/-- every escape of the key and of the value of every piece of `s` decodes: the form-decoded bytes are well-formed UTF-8 -/
def EscapesValid (s : Str) : Prop :=
  ∀ p ∈ pieces s, ValidUtf8 (pctDecodeQs (keyText p)) ∧ ValidUtf8 (pctDecodeQs (valText p))

theorem formDecode_good (x : Str) : GoodText (formDecode x) :=
  (goodText_iff _).mpr (dr_good _ _)

end R15

/-- what `parse_qsl` makes of a string without lone surrogates: one pair per NON-EMPTY '&'-piece (';' is not a
    separator), split at the FIRST '=', key and value form-decoded ('+' → space, %XY → byte, then UTF-8 with U+FFFD for
    every undecodable part).  From C06_query_accessor_spec (C12More.lean), with `partition` for the split. -/
theorem C12_qstr_parse_pieces (s : Str) (hs : GoodText s) :
    parseQsl s = (pieces s).map (fun p => (formDecode (keyText p), formDecode (valText p))) := by
  rw [parseQsl_eq_qslWith, qslWith_congr _ formDecode s hs (fun x hx => stdUnquote_pts x hx.1 hx.2)]
  unfold qslWith pieces
  rw [filterMap_nonempty (fun p => (formDecode (splitFirstEq p).1, formDecode ((splitFirstEq p).2.getD [])))]
  apply List.map_congr_left
  intro p _
  unfold splitFirstEq keyText valText
  by_cases h61 : 61 ∈ p
  · have : (partition 61 p).2.1 = true := by rw [ParseLemmas.partition_eq]; simp [h61]
    simp [this]
  · rw [partition_notFound _ _ h61]; rfl

/-- the exact hypothesis under which form-decoding loses nothing: the UTF-8 bytes of the decoded text are the
    form-decoded bytes of `x` IF AND ONLY IF those bytes are well-formed UTF-8 -/
theorem C02_qstr_formDecode_exact_iff (x : Str) :
    utf8s (formDecode x) = pctDecodeQs x ↔ ValidUtf8 (pctDecodeQs x) := by
  constructor
  · intro h; exact ⟨formDecode x, formDecode_good x, h⟩
  · rintro ⟨t, ht, h⟩
    unfold formDecode
    rw [← h, decodeReplace_utf8s t ht.1 ht.2]

/-- the exact result of `update_query(<non-empty str>)`: the stored query is one "&"-joined piece
    `QUERY_PART_QUOTER(key) = QUERY_PART_QUOTER(value)` per pair of `MultiDict(old pairs).update(parse_qsl(s))`
    (`mdUpdate`, property C12: C12Url.lean / C12More.lean / C12Spec.lean) — NO hypothesis for the stored text; the result
    reads back as exactly those pairs when the old pairs and the string have no lone surrogates. -/
theorem C12_qstr_update_query_exact (e : Env) (u : Url) (s : Str) (hne : s ≠ []) :
    ∃ v, updateQuery e u (.str s) = .ok v ∧
      v.query = joinC 38 ((mdUpdate (queryPairs u) (parseQsl s)).map
        (fun p => q e Gen.QUERY_PART_QUOTER p.1 ++ [61] ++ q e Gen.QUERY_PART_QUOTER p.2)) ∧
      (GoodText s → GoodPairs (queryPairs u) → queryPairs v = mdUpdate (queryPairs u) (parseQsl s)) ∧
      v.scheme = u.scheme ∧ v.netloc = u.netloc ∧ v.path = u.path ∧ v.fragment = u.fragment := by
  rw [updateQuery_str_stored e u s hne]
  refine ⟨_, rfl, rfl, ?_, rfl, rfl, rfl, rfl⟩
  intro hs hgu
  exact parse_qtext e.b _ (mdUpdate_good _ _ hgu (parseQsl_good s hs))

/-- `update_query("")` changes nothing -/
theorem C12_qstr_update_query_empty (e : Env) (u : Url) :
    updateQuery e u (.str []) = .ok (fromParts u.scheme u.netloc u.path u.query u.fragment) := rfl

/-- the pairs `update_query(<str>)` adds, against the supplied TEXT: as many as the string has non-empty '&'-pieces, and —
    when every escape decodes (`EscapesValid`) — key by key and value by value with exactly the form-decoded bytes of the
    piece's key text / value text.  (Escapes ARE escapes here and '+' is a space; compare `C02_qstr_with_query_form_decoding`,
    where '%' is data.) -/
theorem C02_qstr_parse_bytes (s : Str) (hs : GoodText s) :
    (parseQsl s).length = (pieces s).length ∧
    (EscapesValid s →
      (parseQsl s).map (fun p => (utf8s p.1, utf8s p.2)) =
        (pieces s).map (fun p => (pctDecodeQs (keyText p), pctDecodeQs (valText p)))) := by
  rw [C12_qstr_parse_pieces s hs]
  refine ⟨by simp, ?_⟩
  intro hv
  rw [List.map_map]
  apply List.map_congr_left
  intro p hp
  obtain ⟨h1, h2⟩ := hv p hp
  simp only [Function.comp, (C02_qstr_formDecode_exact_iff _).mpr h1, (C02_qstr_formDecode_exact_iff _).mpr h2]

/-- … and the hypothesis is EXACT: the bytes agree for every piece iff every escape decodes -/
theorem C02_qstr_parse_bytes_iff (s : Str) (hs : GoodText s) :
    (parseQsl s).map (fun p => (utf8s p.1, utf8s p.2)) =
        (pieces s).map (fun p => (pctDecodeQs (keyText p), pctDecodeQs (valText p))) ↔ EscapesValid s := by
  refine ⟨?_, (C02_qstr_parse_bytes s hs).2⟩
  rw [C12_qstr_parse_pieces s hs, List.map_map]
  intro h p hp
  have := List.map_inj_left.mp h p hp
  simp only [Function.comp, Prod.mk.injEq] at this
  exact ⟨(C02_qstr_formDecode_exact_iff _).mp this.1, (C02_qstr_formDecode_exact_iff _).mp this.2⟩

/-- C02 for `update_query(<str>)`, the half that HOLDS — decoded values and pair boundaries are preserved.
    With `R` = `MultiDict(old pairs).update(parse_qsl(s))`:
    * the stored query has exactly one '&'-piece per pair of `R`, and that piece is
      `QUERY_PART_QUOTER(key) = QUERY_PART_QUOTER(value)` — the stored value TEXT is the re-quoted DECODED value;
    * split at its first '=', each stored piece form-decodes to exactly (UTF-8 bytes of the key, has '=', UTF-8 bytes of the
      value) of its pair;
    * every pair of `parse_qsl(s)` is in `R`, every other pair of `R` is an old pair;
    * `parse_qsl(s)` has one pair per non-empty '&'-piece of `s`, with the form-decoded bytes of that piece's key / value
      text when every escape decodes (the exact condition: `C02_qstr_parse_bytes_iff`; otherwise
      `C02_qstr_update_undecodable_*`).
    Hypotheses: no lone surrogates in `s` and in the old pairs (the old pairs are re-rendered; true of every reachable URL,
    C12_constructor_goodpairs); `parse_qsl(s)` non-empty.  Cites C02_update_query_string (C02More.lean). -/
theorem C02_qstr_update_preserves_values (e : Env) (u : Url) (s : Str) (hs : GoodText s)
    (hgu : GoodPairs (queryPairs u)) (hne : parseQsl s ≠ []) :
    ∃ v, updateQuery e u (.str s) = .ok v ∧
      let R := mdUpdate (queryPairs u) (parseQsl s)
      splitOn 38 v.query =
        R.map (fun p => q e Gen.QUERY_PART_QUOTER p.1 ++ [61] ++ q e Gen.QUERY_PART_QUOTER p.2) ∧
      (splitOn 38 v.query).length = R.length ∧
      (splitOn 38 v.query).map (fun P =>
          (pctDecodeQs (partition 61 P).1, (partition 61 P).2.1, pctDecodeQs (partition 61 P).2.2)) =
        R.map (fun p => (utf8s p.1, true, utf8s p.2)) ∧
      queryPairs v = R ∧
      (∀ p ∈ parseQsl s, p ∈ R) ∧ (∀ p ∈ R, p ∈ queryPairs u ∨ p ∈ parseQsl s) ∧
      (parseQsl s).length = (pieces s).length ∧
      (EscapesValid s →
        (parseQsl s).map (fun p => (utf8s p.1, utf8s p.2)) =
          (pieces s).map (fun p => (pctDecodeQs (keyText p), pctDecodeQs (valText p)))) ∧
      v.scheme = u.scheme ∧ v.netloc = u.netloc ∧ v.path = u.path ∧ v.fragment = u.fragment := by
  obtain ⟨v, h1, h2, ⟨h3, h4, h5⟩, h6, h7, h8⟩ := C02_update_query_string e u s hs hgu hne
  have hs0 : s ≠ [] := by rintro rfl; exact hne rfl
  obtain ⟨v', h1', _, hp, _⟩ := C12_qstr_update_query_exact e u s hs0
  have hv : v' = v := by rw [h1] at h1'; injection h1' with h; exact h.symm
  subst hv
  obtain ⟨b1, b2⟩ := C02_qstr_parse_bytes s hs
  exact ⟨v', h1, h3, h4, h5, hp hs hgu, h6, h7, b1, b2, h8⟩

/-- C02 for `update_query(<str>)`, the half that FAILS in general form: whatever the string, NO literal ';' is stored and
    every stored '&'-piece has EXACTLY ONE literal '=' — so a literal ';' of the supplied string, and every literal '='
    after the first one of a piece, is stored ENCODED (%3B / %3D), and a piece without '=' GAINS one. -/
theorem C02_qstr_update_delims_reencoded (e : Env) (u : Url) (s : Str) (hs : GoodText s)
    (hgu : GoodPairs (queryPairs u)) (hne : parseQsl s ≠ []) :
    ∃ v, updateQuery e u (.str s) = .ok v ∧
      59 ∉ v.query ∧ (∀ P ∈ splitOn 38 v.query, P.count 61 = 1 ∧ 38 ∉ P) := by
  obtain ⟨v, h1, h3, _, _, h5, _⟩ := C02_qstr_update_preserves_values e u s hs hgu hne
  have hRg := mdUpdate_good _ _ hgu (parseQsl_good s hs)
  have hpieces : ∀ P ∈ splitOn 38 v.query, P.count 61 = 1 ∧ 38 ∉ P ∧ 59 ∉ P := by
    intro P hP
    rw [h3] at hP
    obtain ⟨p, hp, rfl⟩ := List.mem_map.mp hP
    obtain ⟨a1, a2, a3⟩ := qpq_no_delims e.b p.1 (hRg p hp).1.1
    obtain ⟨c1, c2, c3⟩ := qpq_no_delims e.b p.2 (hRg p hp).2.1
    -- a character other than '=' that neither written half contains is not in the written pair
    have hno : ∀ d, d ≠ 61 → d ∉ Gen.QUERY_PART_QUOTER.run e.b p.1 → d ∉ Gen.QUERY_PART_QUOTER.run e.b p.2 →
        d ∉ pairText e.b p := by
      intro d hd h1 h2 hm
      simp only [pairText, List.mem_append, List.mem_singleton] at hm
      rcases hm with (h | h) | h
      · exact h1 h
      · exact hd h
      · exact h2 h
    refine ⟨?_, hno 38 (by decide) a1 c1, hno 59 (by decide) a3 c3⟩
    simp only [q, List.count_append, List.count_eq_zero.mpr a2, List.count_eq_zero.mpr c2]
    rfl
  refine ⟨v, h1, ?_, fun P hP => ⟨(hpieces P hP).1, (hpieces P hP).2.1⟩⟩
  intro hm
  rw [← PathLemmas.joinC_splitOn (c := 38) v.query] at hm
  rcases HostLemmas.mem_joinC hm with h | ⟨P, hP, h⟩
  · exact absurd h (by decide)
  · exact (hpieces P hP).2.2 h

/-! ### the other case: an escape that is NOT valid UTF-8 (F-C02-query-replace / F-C06-query-replace) -/

/-- byte level, the exact counter-statement: a byte that occurs in NO well-formed UTF-8 sequence (C0, C1, F5..FF — e.g.
    the FF of "%FF") decodes to ONE U+FFFD, whatever surrounds it (the bytes before it — well-formed or not — and after it
    are decoded as if it were not there) … -/
theorem C02_qstr_update_undecodable_byte (a r : List Nat) (b0 : Nat)
    (hb : (0xC0 ≤ b0 ∧ b0 < 0xC2) ∨ 0xF5 ≤ b0) :
    decodeReplace (a ++ b0 :: r) = decodeReplace a ++ 0xFFFD :: decodeReplace r := by
  have hc : isCont b0 = false := by
    unfold isCont
    rcases hb with h | h <;> simp <;> omega
  rw [dr_append a (b0 :: r) (fun b r' h => by cases h; exact hc)]
  congr 1
  show decodeReplaceAux (r.length + 1 + 1) (b0 :: r) = 0xFFFD :: decodeReplaceAux (r.length + 1) r
  rcases hb with h | h
  · have h1 : ¬ b0 < 0x80 := by omega
    have h2 : b0 < 0xC2 := h.2
    simp only [decodeReplaceAux, h1, h2, if_false, if_true]
  · have h1 : ¬ b0 < 0x80 := by omega
    have h2 : ¬ b0 < 0xC2 := by omega
    have h3 : ¬ b0 < 0xE0 := by omega
    have h4 : ¬ b0 < 0xF0 := by omega
    have h5 : ¬ b0 < 0xF5 := by omega
    simp only [decodeReplaceAux, h1, h2, h3, h4, h5, if_false]

/-- … and U+FFFD is the bytes EF BF BD, stored "%EF%BF%BD" by the re-quoting step (both backends) -/
theorem C02_qstr_update_replacement_stored (b : Backend) :
    utf8 0xFFFD = [0xEF, 0xBF, 0xBD] ∧ Gen.QUERY_PART_QUOTER.run b [0xFFFD] = "%EF%BF%BD".toStr := by
  constructor
  · decide
  · cases b <;> decide +kernel

namespace R15
theorem pdq_plain (t r : Str) (h37 : 37 ∉ t) (h43 : 43 ∉ t) : pctDecodeQs (t ++ r) = utf8s t ++ pctDecodeQs r := by
  induction t with
  | nil => simp [utf8s]
  | cons c t ih =>
    have hc1 : c ≠ 37 := fun e => h37 (by simp [e])
    have hc2 : c ≠ 43 := fun e => h43 (by simp [e])
    rw [List.cons_append, pctDecodeQs_cons_ne hc1 hc2, ih (fun e => h37 (by simp [e])) (fun e => h43 (by simp [e])),
      QuoteEquiv.utf8s_cons, List.append_assoc]

end R15

/-- text level: a key or value text `t ++ "%XY" ++ y` (`t` without '%' and '+') whose escape is such a byte: the
    form-decoded BYTES contain XY, the decoded TEXT has U+FFFD there, whose bytes are EF BF BD — `update_query` stores
    the latter: the decoded value is NOT preserved. -/
theorem C02_qstr_update_undecodable_escape (t y : Str) (b0 : Nat) (ht : GoodText t) (h37 : 37 ∉ t) (h43 : 43 ∉ t)
    (hb : (0xC0 ≤ b0 ∧ b0 < 0xC2) ∨ (0xF5 ≤ b0 ∧ b0 < 256)) :
    pctDecodeQs (t ++ pct b0 ++ y) = utf8s t ++ b0 :: pctDecodeQs y ∧
    formDecode (t ++ pct b0 ++ y) = t ++ 0xFFFD :: formDecode y ∧
    utf8s (formDecode (t ++ pct b0 ++ y)) = utf8s t ++ [0xEF, 0xBF, 0xBD] ++ utf8s (formDecode y) ∧
    utf8s (formDecode (t ++ pct b0 ++ y)) ≠ pctDecodeQs (t ++ pct b0 ++ y) := by
  have hlt : b0 < 256 := by rcases hb with h | h <;> omega
  have hb' : (0xC0 ≤ b0 ∧ b0 < 0xC2) ∨ 0xF5 ≤ b0 := by rcases hb with h | h; exact Or.inl h; exact Or.inr h.1
  have e1 : pctDecodeQs (t ++ pct b0 ++ y) = utf8s t ++ b0 :: pctDecodeQs y := by
    rw [List.append_assoc, pdq_plain t _ h37 h43, pctDecodeQs_pct hlt]
  have e2 : formDecode (t ++ pct b0 ++ y) = t ++ 0xFFFD :: formDecode y := by
    unfold formDecode
    rw [e1, C02_qstr_update_undecodable_byte _ _ b0 hb', decodeReplace_utf8s t ht.1 ht.2]
  have e3 : utf8s (formDecode (t ++ pct b0 ++ y)) = utf8s t ++ [0xEF, 0xBF, 0xBD] ++ utf8s (formDecode y) := by
    rw [e2]
    have : utf8 0xFFFD = [0xEF, 0xBF, 0xBD] := by decide
    simp [utf8s, this]
  refine ⟨e1, e2, e3, ?_⟩
  rw [e3, e1, List.append_assoc]
  intro h
  have := List.append_cancel_left h
  simp only [List.cons_append, List.cons.injEq] at this
  omega

/-- … the same as the negative half of `C02_qstr_formDecode_exact_iff` -/
theorem C02_qstr_update_undecodable_not_valid (x : Str) (h : ¬ ValidUtf8 (pctDecodeQs x)) :
    utf8s (formDecode x) ≠ pctDecodeQs x := fun e => h ((C02_qstr_formDecode_exact_iff x).mp e)

/-! ### the six observed calls, both backends (the proofs run `cases e.b`) -/

namespace R15

theorem upd_inst (e : Env) (u : Url) (s lit : Str) (hne : s ≠ [])
    (h : ∀ b, qtext b (mdUpdate (parseQsl u.query) (parseQsl s)) = lit) :
    updateQuery e u (.str s) = .ok (fromParts u.scheme u.netloc u.path lit u.fragment) := by
  rw [updateQuery_str_stored e u s hne, show queryPairs u = parseQsl u.query from rfl, h]

theorem with_inst (e : Env) (u : Url) (s lit : Str) (h : ∀ b, Gen.QUERY_QUOTER.run b s = lit) :
    withQuery e u (.str s) = .ok (fromParts u.scheme u.netloc u.path lit u.fragment) := by
  rw [C02_qstr_with_query_stored, q, h]

/-- the base URL of the examples: http://h/?<query> -/
def ex (query : String) : Url := fromParts "http".toStr "h".toStr "/".toStr query.toStr []

end R15

/-- `URL("http://h/").with_query("a=1%2B2")` is http://h/?a=1%252B2 and reads back ("a", "1%2B2") -/
theorem C02_qstr_instance_with_query (e : Env) :
    withQuery e (ex "") (.str "a=1%2B2".toStr) = .ok (ex "a=1%252B2") ∧
    queryPairs (ex "a=1%252B2") = [("a".toStr, "1%2B2".toStr)] :=
  ⟨with_inst e (ex "") _ _ (fun b => by cases b <;> decide +kernel), by decide +kernel⟩

/-- `URL("http://h/?x=0").extend_query("a=1%2B2")` is http://h/?x=0&a=1%252B2 -/
theorem C02_qstr_instance_extend_query (e : Env) :
    extendQuery e (ex "x=0") (.str "a=1%2B2".toStr) = .ok (ex "x=0&a=1%252B2") ∧
    queryPairs (ex "x=0&a=1%252B2") = [("x".toStr, "0".toStr), ("a".toStr, "1%2B2".toStr)] := by
  refine ⟨?_, by decide +kernel⟩
  rw [C02_qstr_extend_query_stored_amp e (ex "x=0") _ (by decide) (by decide) (by decide) (by decide)]
  have : ∀ b, Gen.QUERY_QUOTER.run b "a=1%2B2".toStr = "a=1%252B2".toStr := fun b => by cases b <;> decide +kernel
  rw [q, this]
  rfl

/-- `URL("http://h/").update_query("a=1%2B2")` is http://h/?a=1%2B2 and reads back ("a", "1+2") -/
theorem C02_qstr_instance_update_query (e : Env) :
    updateQuery e (ex "") (.str "a=1%2B2".toStr) = .ok (ex "a=1%2B2") ∧
    queryPairs (ex "a=1%2B2") = [("a".toStr, "1+2".toStr)] :=
  ⟨upd_inst e (ex "") _ _ (by decide) (fun b => by cases b <;> decide +kernel), by decide +kernel⟩

/-- `URL("http://h/").update_query("s=a%3Bb;c")` is http://h/?s=a%3Bb%3Bc: ';' is not a separator (ONE pair), the
    literal ';' comes out encoded; the value "a;b;c" is what both texts decode to -/
theorem C02_qstr_instance_update_query_semicolon (e : Env) :
    updateQuery e (ex "") (.str "s=a%3Bb;c".toStr) = .ok (ex "s=a%3Bb%3Bc") ∧
    parseQsl "s=a%3Bb;c".toStr = [("s".toStr, "a;b;c".toStr)] ∧
    queryPairs (ex "s=a%3Bb%3Bc") = [("s".toStr, "a;b;c".toStr)] :=
  ⟨upd_inst e (ex "") _ _ (by decide) (fun b => by cases b <;> decide +kernel), by decide +kernel, by decide +kernel⟩

/-- `URL("http://h/").update_query("bad=%FF")` is http://h/?bad=%EF%BF%BD (F-C02-query-replace): the supplied value
    decodes to the byte FF, the stored one to EF BF BD -/
theorem C02_qstr_instance_update_query_replace (e : Env) :
    updateQuery e (ex "") (.str "bad=%FF".toStr) = .ok (ex "bad=%EF%BF%BD") ∧
    pctDecodeQs "%FF".toStr = [0xFF] ∧ pctDecodeQs "%EF%BF%BD".toStr = [0xEF, 0xBF, 0xBD] ∧
    ¬ EscapesValid "bad=%FF".toStr := by
  refine ⟨upd_inst e (ex "") _ _ (by decide) (fun b => by cases b <;> decide +kernel), by decide +kernel,
    by decide +kernel, ?_⟩
  intro h
  have hp : "bad=%FF".toStr ∈ pieces "bad=%FF".toStr := by decide +kernel
  have h2 := (h _ hp).2
  have h3 : valText "bad=%FF".toStr = [] ++ pct 0xFF ++ [] := by decide +kernel
  rw [h3] at h2
  exact (C02_qstr_update_undecodable_escape [] [] 0xFF goodText_nil (by simp) (by simp) (by omega)).2.2.2
    ((C02_qstr_formDecode_exact_iff _).mpr h2)

/-- `URL("http://h/?a=%FF").update_query("b=1")` is http://h/?a=%EF%BF%BD&b=1: the OLD pair is rewritten too
    (every pair is re-rendered from its DECODED value) -/
theorem C02_qstr_instance_update_query_rewrites_old (e : Env) :
    updateQuery e (ex "a=%FF") (.str "b=1".toStr) = .ok (ex "a=%EF%BF%BD&b=1") ∧
    GoodPairs (queryPairs (ex "a=%FF")) :=
  ⟨upd_inst e (ex "a=%FF") _ _ (by decide) (fun b => by cases b <;> decide +kernel), by decide +kernel⟩

/-- C02 for `update_query(<str>)`, the half that FAILS — "literal delimiters stay literal" is FALSE for '=' and ';' inside
    a value (both backends), while the decoded values and the pairs are the same; `with_query` on the same strings keeps
    them literal:
    * `update_query("a=x=y")` stores "a=x%3Dy" (two literal '=' supplied, one stored; value "x=y" either way);
    * `update_query("s=a;b")` stores "s=a%3Bb" (the literal ';' is gone; value "a;b" either way);
    * `update_query("a")` stores "a=" (a literal '=' APPEARS: parse_qsl gives ("a", "")) — `with_query("a")` stores "a";
    * `update_query("a=1&&b=2")` stores "a=1&b=2" (the empty '&'-piece is dropped; the PAIRS are the same two).
    General form: `C02_qstr_update_delims_reencoded` (never a literal ';', exactly one literal '=' per stored piece). -/
theorem C02_qstr_update_literal_delims_fail (e : Env) :
    (updateQuery e (ex "") (.str "a=x=y".toStr) = .ok (ex "a=x%3Dy") ∧
      "a=x=y".toStr.count 61 = 2 ∧ "a=x%3Dy".toStr.count 61 = 1 ∧
      parseQsl "a=x=y".toStr = [("a".toStr, "x=y".toStr)] ∧ queryPairs (ex "a=x%3Dy") = [("a".toStr, "x=y".toStr)] ∧
      withQuery e (ex "") (.str "a=x=y".toStr) = .ok (ex "a=x=y")) ∧
    (updateQuery e (ex "") (.str "s=a;b".toStr) = .ok (ex "s=a%3Bb") ∧
      59 ∈ "s=a;b".toStr ∧ 59 ∉ "s=a%3Bb".toStr ∧
      parseQsl "s=a;b".toStr = [("s".toStr, "a;b".toStr)] ∧ queryPairs (ex "s=a%3Bb") = [("s".toStr, "a;b".toStr)] ∧
      withQuery e (ex "") (.str "s=a;b".toStr) = .ok (ex "s=a;b")) ∧
    (updateQuery e (ex "") (.str "a".toStr) = .ok (ex "a=") ∧
      withQuery e (ex "") (.str "a".toStr) = .ok (ex "a")) ∧
    (updateQuery e (ex "") (.str "a=1&&b=2".toStr) = .ok (ex "a=1&b=2") ∧
      withQuery e (ex "") (.str "a=1&&b=2".toStr) = .ok (ex "a=1&&b=2") ∧
      queryPairs (ex "a=1&b=2") = queryPairs (ex "a=1&&b=2")) := by
  refine ⟨⟨?_, by decide, by decide, by decide +kernel, by decide +kernel, ?_⟩,
    ⟨?_, by decide, by decide, by decide +kernel, by decide +kernel, ?_⟩, ⟨?_, ?_⟩, ⟨?_, ?_, by decide +kernel⟩⟩
  · exact upd_inst e (ex "") _ _ (by decide) (fun b => by cases b <;> decide +kernel)
  · exact with_inst e (ex "") _ _ (fun b => by cases b <;> decide +kernel)
  · exact upd_inst e (ex "") _ _ (by decide) (fun b => by cases b <;> decide +kernel)
  · exact with_inst e (ex "") _ _ (fun b => by cases b <;> decide +kernel)
  · exact upd_inst e (ex "") _ _ (by decide) (fun b => by cases b <;> decide +kernel)
  · exact with_inst e (ex "") _ _ (fun b => by cases b <;> decide +kernel)
  · exact upd_inst e (ex "") _ _ (by decide) (fun b => by cases b <;> decide +kernel)
  · exact with_inst e (ex "") _ _ (fun b => by cases b <;> decide +kernel)

/-! ### the query algebra (C12) for the string form -/

/-- C12 for `update_query(<str>)`: the argument's pairs are `parse_qsl(s)`; the result's pairs are
    `MultiDict(old).update(parse_qsl(s))`; every pair whose key does not occur in `parse_qsl(s)` is kept, in order; and
    the result is the SPECIFIED replacement (`mdUpdateSpec`, C12Spec.lean) exactly when the multidict stale-duplicate
    condition `StaleFree` holds (F-C12-multidict-tail otherwise).  Cites C12_url_update_query_str (C12Url.lean),
    C12_url_update_keeps_others_str (C12More.lean), C12_url_update_query_spec_str (C12Spec.lean). -/
theorem C12_qstr_update_query_algebra (e : Env) (u : Url) (s : Str) (hs : GoodText s)
    (hold : GoodPairs (queryPairs u)) (hne : s ≠ []) :
    ∃ v, updateQuery e u (.str s) = .ok v ∧
      queryPairs v = mdUpdate (queryPairs u) (parseQsl s) ∧
      (queryPairs v).filter (fun p => !(keysOf (parseQsl s)).contains p.1) =
        (queryPairs u).filter (fun p => !(keysOf (parseQsl s)).contains p.1) ∧
      (queryPairs v = mdUpdateSpec (queryPairs u) (parseQsl s) ↔ StaleFree (queryPairs u) (parseQsl s)) ∧
      (StaleFree (queryPairs u) (parseQsl s) →
        ∀ k ∈ keysOf (parseQsl s),
          (queryPairs v).filter (fun p => p.1 = k) = (parseQsl s).filter (fun p => p.1 = k)) := by
  obtain ⟨v, h1, h2⟩ := C12_url_update_query_str e u s hs hold hne
  obtain ⟨v1, g1, g2⟩ := C12_url_update_keeps_others_str e u s hs hold hne
  obtain ⟨v2, k1, k2, k3⟩ := C12_url_update_query_spec_str e u s hs hold hne
  have e1 : v1 = v := by rw [h1] at g1; injection g1 with h; exact h.symm
  have e2 : v2 = v := by rw [h1] at k1; injection k1 with h; exact h.symm
  subst e1; subst e2
  exact ⟨_, h1, h2, g2, k2, fun hsf => (k3 hsf).2.2⟩

/-- the three string forms side by side (C12): with_query REPLACES the pairs by the LITERAL pairs of the text, extend_query
    APPENDS them, update_query UPDATES with the PARSED pairs; the two readings of the text agree when it has no '%'
    (C12_parseQslLit_no_pct) -/
theorem C12_qstr_three_forms (e : Env) (u : Url) (s : Str) (hs : GoodText s) (hold : GoodPairs (queryPairs u))
    (hne : s ≠ []) :
    (∃ v, withQuery e u (.str s) = .ok v ∧ queryPairs v = parseQslLit s) ∧
    (∃ v, extendQuery e u (.str s) = .ok v ∧ queryPairs v = queryPairs u ++ parseQslLit s) ∧
    (∃ v, updateQuery e u (.str s) = .ok v ∧ queryPairs v = mdUpdate (queryPairs u) (parseQsl s)) ∧
    (37 ∉ s → parseQslLit s = parseQsl s) :=
  ⟨(C12_qstr_with_extend_pairs e u s hs).1, (C12_qstr_with_extend_pairs e u s hs).2,
   C12_url_update_query_str e u s hs hold hne, C12_parseQslLit_no_pct s⟩

/-! ## 3. the '%' operator

The model has no separate operation for `URL.__mod__`: in the library it is the single line
`return self.update_query(query)`, so `url % "a=1"` IS `url.update_query("a=1")`.  The untyped entry point the model has
for the positional form (`dynUpdateQuery`, YarlModel/Dyn.lean) is the typed `updateQuery` on a `str`: -/
theorem C12_qstr_mod_is_update_query (e : Env) (u : Url) (s : Str) :
    dynUpdateQuery e u (.str s) = updateQuery e u (.str s) ∧
    dynUpdateQuery e u (.strSub s) = updateQuery e u (.str s) := by
  cases s <;> exact ⟨rfl, rfl⟩

/-! ## non-vacuity -/

namespace R15
/-- "k%C3%A9=%E2%82%AC+x&a=1%2B2": valid escapes (é, €), a '+', an escaped '+' -/
def sampleStr : Str := "k%C3%A9=%E2%82%AC+x&a=1%2B2;z&&n".toStr
/-- text with non-ASCII characters, '%', '+', ';', a space -/
def sampleText : Str := "k%C3=1+2;3 4&&n".toStr ++ [233, 0x20AC, 0x1F600]
end R15

example : GoodText sampleStr ∧ sampleStr ≠ [] ∧ parseQsl sampleStr ≠ [] := by unfold sampleStr; str_lits; decide +kernel
example : GoodText sampleText ∧ sampleText ≠ [] := by decide +kernel
example : parseQsl sampleStr =
    [([107, 233], [0x20AC, 32, 120]), ("a".toStr, "1+2;z".toStr), ("n".toStr, [])] := by unfold sampleStr; str_lits; decide +kernel
example : parseQslLit sampleStr =
    [("k%C3%A9".toStr, "%E2%82%AC x".toStr), ("a".toStr, "1%2B2;z".toStr), ("n".toStr, [])] := by unfold sampleStr; str_lits; decide +kernel
example : pieces sampleStr = ["k%C3%A9=%E2%82%AC+x".toStr, "a=1%2B2;z".toStr, "n".toStr] := by unfold sampleStr; str_lits; decide +kernel
example : EscapesValid sampleStr :=
  (C02_qstr_parse_bytes_iff sampleStr (by unfold sampleStr; str_lits; decide +kernel)).mp (by unfold sampleStr; str_lits; decide +kernel)
example : GoodPairs (queryPairs (ex "a=%FF&b=x+y")) ∧ (ex "x=0").query ≠ [] ∧
    (ex "x=0").query.getLast? ≠ some 38 := by decide +kernel
example : StaleFree (queryPairs (ex "a=1&b=2")) (parseQsl sampleStr) :=
  C12_staleFree_of_nodup _ _ (by decide +kernel)
example : 59 ∈ sampleStr ∧ 37 ∉ "a=1&b=2".toStr := by unfold sampleStr; str_lits; decide +kernel
example : GoodText "k".toStr ∧ 37 ∉ "k".toStr ∧ 43 ∉ "k".toStr ∧ ((0xF5 : Nat) ≤ 0xFF ∧ 0xFF < 256) := by decide
example : ¬ ValidUtf8 (pctDecodeQs "%FF".toStr) := fun h =>
  (C02_qstr_update_undecodable_escape [] [] 0xFF goodText_nil (by simp) (by simp) (by omega)).2.2.2
    ((C02_qstr_formDecode_exact_iff _).mpr h)

end Yarl
