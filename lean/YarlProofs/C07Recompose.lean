/-
  C07Recompose.lean — `split_url` and `unsplit_result` are mutually inverse on well-formed parts
  (C07, last clause: "the raw accessors re-compose to str(url)"; basis of C03).
-/
import YarlModel
import YarlProofs.Lemmas.ParseLemmas
import YarlProofs.C07
import YarlProofs.Lemmas.UnsplitLemmas
namespace Yarl
open Yarl.ParseLemmas Yarl.UnsplitLemmas

-- closed instances are evaluated once, by the kernel; of low priority, so that an instance written for a particular
-- function (`checkBrackets` below) is always preferred
attribute [local instance low] ParseLemmas.decEqResult

/-- the explicit, decidable side condition under which five parts survive unsplit → split -/
structure PartsOK (p : Parts) : Prop where
  /-- a scheme is made of scheme characters and is already lower-case -/
  scheme_ok : p.scheme = [] ∨ (p.scheme.all (fun c => mem c Gen.schemeChars) = true ∧ lower p.scheme = p.scheme)
  /-- no '/', '?', '#' in the authority; ASCII (so that the NFKC oracle is not consulted) -/
  netloc_ok : ∀ c ∈ p.netloc, c ≠ 47 ∧ c ≠ 63 ∧ c ≠ 35 ∧ c < 128
  brackets_ok : checkBrackets p.netloc = .ok ()
  path_ok : ∀ c ∈ p.path, c ≠ 63 ∧ c ≠ 35
  query_ok : 35 ∉ p.query
  path_rooted_under_authority : p.netloc ≠ [] → (p.path = [] ∨ p.path.head? = some 47)
  /-- an authority-using scheme without authority writes "scheme:///path" for a rootless path (F-C03-rootless) -/
  path_rooted_under_authority_scheme :
    p.scheme ≠ [] → Gen.usesAuthority.contains p.scheme = true → (p.path = [] ∨ p.path.head? = some 47)
  /-- exact condition: with neither scheme nor authority, the text before the first ':' of the path is
      empty or contains a non-scheme character (otherwise it would be read as a scheme) -/
  rootless_first_segment : p.scheme = [] → p.netloc = [] → 58 ∈ p.path →
    (p.path.takeWhile (· ≠ 58) = [] ∨ (p.path.takeWhile (· ≠ 58)).all (fun c => mem c Gen.schemeChars) = false)
  /-- the leading character of what is written is not a C0 control or space: only a path written first can offend -/
  clean_lead : p.scheme = [] → p.netloc = [] → ∀ c, p.path.head? = some c → 32 < c
  /-- no TAB / CR / LF anywhere (in the scheme this follows from `scheme_ok`) -/
  clean_netloc : ∀ c ∈ p.netloc, c ≠ 9 ∧ c ≠ 10 ∧ c ≠ 13
  clean_path : ∀ c ∈ p.path, c ≠ 9 ∧ c ≠ 10 ∧ c ≠ 13
  clean_query : ∀ c ∈ p.query, c ≠ 9 ∧ c ≠ 10 ∧ c ≠ 13
  clean_fragment : ∀ c ∈ p.fragment, c ≠ 9 ∧ c ≠ 10 ∧ c ≠ 13

namespace UnsplitLemmas

instance (n : Str) : Decidable (checkBrackets n = .ok ()) :=
  match h : checkBrackets n with
  | .ok () => isTrue rfl
  | .error e => isFalse (by intro h'; cases h')

end UnsplitLemmas

/-- the thirteen clauses of `PartsOK`, in the order of the structure, as booleans -/
def C07_partsOKClauses (p : Parts) : List Bool :=
  [ decide (p.scheme = [] ∨ (p.scheme.all (fun c => mem c Gen.schemeChars) = true ∧ lower p.scheme = p.scheme)),
    decide (∀ c ∈ p.netloc, c ≠ 47 ∧ c ≠ 63 ∧ c ≠ 35 ∧ c < 128),
    decide (checkBrackets p.netloc = .ok ()),
    decide (∀ c ∈ p.path, c ≠ 63 ∧ c ≠ 35),
    decide (35 ∉ p.query),
    decide (p.netloc ≠ [] → (p.path = [] ∨ p.path.head? = some 47)),
    decide (p.scheme ≠ [] → Gen.usesAuthority.contains p.scheme = true → (p.path = [] ∨ p.path.head? = some 47)),
    decide (p.scheme = [] → p.netloc = [] → 58 ∈ p.path →
      (p.path.takeWhile (· ≠ 58) = [] ∨ (p.path.takeWhile (· ≠ 58)).all (fun c => mem c Gen.schemeChars) = false)),
    decide (p.scheme = [] → p.netloc = [] → ∀ c ∈ p.path.head?, 32 < c),
    decide (∀ c ∈ p.netloc, c ≠ 9 ∧ c ≠ 10 ∧ c ≠ 13),
    decide (∀ c ∈ p.path, c ≠ 9 ∧ c ≠ 10 ∧ c ≠ 13),
    decide (∀ c ∈ p.query, c ≠ 9 ∧ c ≠ 10 ∧ c ≠ 13),
    decide (∀ c ∈ p.fragment, c ≠ 9 ∧ c ≠ 10 ∧ c ≠ 13) ]

theorem C07_partsOK_iff_clauses (p : Parts) : PartsOK p ↔ C07_partsOKClauses p = List.replicate 13 true := by
  simp only [C07_partsOKClauses, List.replicate, List.cons.injEq, decide_eq_true_eq, and_true]
  constructor
  · intro h
    exact ⟨h.1, h.2, h.3, h.4, h.5, h.6, h.7, h.8, fun a b c hc => h.9 a b c (by simpa using hc), h.10, h.11, h.12, h.13⟩
  · intro ⟨h1, h2, h3, h4, h5, h6, h7, h8, h9, h10, h11, h12, h13⟩
    exact ⟨h1, h2, h3, h4, h5, h6, h7, h8, fun a b c hc => h9 a b c (by simpa using hc), h10, h11, h12, h13⟩

instance (p : Parts) : Decidable (PartsOK p) :=
  decidable_of_iff _ (C07_partsOK_iff_clauses p).symm

example : PartsOK { scheme := "http".toStr, netloc := "u:p@[::1]:80".toStr, path := "/a:b//c".toStr,
                    query := "x?y".toStr, fragment := "f#g?".toStr } := by str_lits; decide +kernel

namespace UnsplitLemmas

/-- `PartsOK` without the ASCII requirement on the authority (the NFKC check is then a separate hypothesis) -/
structure PartsOKg (p : Parts) : Prop where
  scheme_ok : p.scheme = [] ∨ (p.scheme.all (fun c => mem c Gen.schemeChars) = true ∧ lower p.scheme = p.scheme)
  netloc_ok : ∀ c ∈ p.netloc, c ≠ 47 ∧ c ≠ 63 ∧ c ≠ 35
  brackets_ok : checkBrackets p.netloc = .ok ()
  path_ok : ∀ c ∈ p.path, c ≠ 63 ∧ c ≠ 35
  query_ok : 35 ∉ p.query
  path_rooted_under_authority : p.netloc ≠ [] → (p.path = [] ∨ p.path.head? = some 47)
  path_rooted_under_authority_scheme :
    p.scheme ≠ [] → Gen.usesAuthority.contains p.scheme = true → (p.path = [] ∨ p.path.head? = some 47)
  rootless_first_segment : p.scheme = [] → p.netloc = [] → 58 ∈ p.path →
    (p.path.takeWhile (· ≠ 58) = [] ∨ (p.path.takeWhile (· ≠ 58)).all (fun c => mem c Gen.schemeChars) = false)
  clean_lead : p.scheme = [] → p.netloc = [] → ∀ c, p.path.head? = some c → 32 < c
  clean_netloc : ∀ c ∈ p.netloc, c ≠ 9 ∧ c ≠ 10 ∧ c ≠ 13
  clean_path : ∀ c ∈ p.path, c ≠ 9 ∧ c ≠ 10 ∧ c ≠ 13
  clean_query : ∀ c ∈ p.query, c ≠ 9 ∧ c ≠ 10 ∧ c ≠ 13
  clean_fragment : ∀ c ∈ p.fragment, c ≠ 9 ∧ c ≠ 10 ∧ c ≠ 13

theorem _root_.Yarl.PartsOK.toG {p : Parts} (h : PartsOK p) : PartsOKg p :=
  { h with netloc_ok := fun c hc => ⟨(h.netloc_ok c hc).1, (h.netloc_ok c hc).2.1, (h.netloc_ok c hc).2.2.1⟩ }

theorem marker_cases {sc n pa : Str} (hm : marker sc n pa = true) :
    n ≠ [] ∨ (sc ≠ [] ∧ Gen.usesAuthority.contains sc = true) ∨ pa.take 2 = [47, 47] :=
  (marker_true_iff sc n pa).1 hm

theorem marker_false {sc n pa : Str} (hm : ¬ marker sc n pa = true) :
    n = [] ∧ pa.take 2 ≠ [47, 47] ∧ ¬ (sc ≠ [] ∧ Gen.usesAuthority.contains sc = true) := by
  rw [marker_true_iff, not_or, not_or, Decidable.not_not] at hm
  exact ⟨hm.1, hm.2.2, hm.2.1⟩

theorem partsOK_rooted {p : Parts} (h : PartsOKg p) :
    marker p.scheme p.netloc p.path = true → RootedOrEmpty p.path := by
  intro hm
  rcases marker_cases hm with hn | ⟨hs, hu⟩ | h2
  · exact h.path_rooted_under_authority hn
  · exact h.path_rooted_under_authority_scheme hs hu
  · exact rooted_of_take2 h2

/-- the string `unsplit_result` writes for well-formed parts -/
def written (p : Parts) : Str :=
  schemeStr p.scheme ++ ((if marker p.scheme p.netloc p.path then 47 :: 47 :: p.netloc else []) ++
    (p.path ++ tailStr p.query p.fragment))

theorem unsplit_written {p : Parts} (h : PartsOKg p) :
    unsplitResult p.scheme p.netloc p.path p.query p.fragment = written p := by
  rw [unsplit_shape, unsplitHead_eq _ _ _ (partsOK_rooted h)]
  unfold written
  simp only [List.append_assoc]

theorem scheme_facts {p : Parts} (h : PartsOKg p) (hs : p.scheme ≠ []) :
    p.scheme.all (fun c => mem c Gen.schemeChars) = true ∧ lower p.scheme = p.scheme ∧
      ∀ c ∈ p.scheme, c ∈ Gen.schemeChars := by
  rcases h.scheme_ok with e | ⟨ha, hl⟩
  · exact absurd e hs
  · refine ⟨ha, hl, ?_⟩
    intro c hc
    have := List.all_eq_true.1 ha c hc
    simpa [mem_eq] using this

theorem headP_rooted {pa : Str} (h : RootedOrEmpty pa) : HeadP (fun x => x = 47) pa := by
  rcases h with h | h
  · subst h; exact headP_nil _
  · intro x hx; rw [h] at hx; cases hx; rfl

/-- reading `written p` back, the scheme stage: the scheme and what follows it -/
theorem schemeOf_written {p : Parts} (h : PartsOKg p) :
    Rfc.schemeOf Gen.schemeChars (written p) =
      (p.scheme, (if marker p.scheme p.netloc p.path then 47 :: 47 :: p.netloc else []) ++
        (p.path ++ tailStr p.query p.fragment)) := by
  unfold written
  by_cases hs : p.scheme = []
  · rw [hs]
    simp only [schemeStr, List.isEmpty_nil, ↓reduceIte, List.nil_append]
    by_cases hm : marker [] p.netloc p.path = true
    · rw [if_pos hm]
      exact schemeOf_none_of_bad _ 47 (by simp) (by decide)
    · rw [if_neg hm, List.nil_append]
      have hn := (marker_false hm).1
      exact schemeOf_none_path _ _ _ (h.rootless_first_segment hs hn)
  · obtain ⟨ha, hl, _⟩ := scheme_facts h hs
    have : p.scheme.isEmpty = false := by cases hp : p.scheme <;> simp_all
    simp only [schemeStr, this, Bool.false_eq_true, ↓reduceIte, List.append_assoc, List.singleton_append]
    exact UnsplitLemmas.schemeOf_compose _ _ hs ha hl

theorem appendixB_written {p : Parts} (h : PartsOKg p) :
    Rfc.appendixB Gen.schemeChars (written p) =
      { scheme := p.scheme, authority := p.netloc, path := p.path, query := p.query, fragment := p.fragment } := by
  have hT := tailStr_head p.query p.fragment
  have h1 := schemeOf_written h
  -- the authority stage
  have h2 : authOf ((if marker p.scheme p.netloc p.path then 47 :: 47 :: p.netloc else []) ++
        (p.path ++ tailStr p.query p.fragment)) = (p.netloc, p.path ++ tailStr p.query p.fragment) := by
    by_cases hm : marker p.scheme p.netloc p.path = true
    · rw [if_pos hm]
      apply authOf_compose
      · intro c hc
        exact h.netloc_ok c hc
      · apply headP_append
        · exact headP_mono (fun x hx => Or.inl hx) (headP_rooted (partsOK_rooted h hm))
        · exact headP_mono (fun x hx => Or.inr hx) hT
    · rw [if_neg hm, List.nil_append]
      obtain ⟨hn, h2, _⟩ := marker_false hm
      rw [hn]
      apply authOf_none
      intro e
      exact h2 (take2_append (headP_mono (fun x hx => by omega) hT) e)
  -- path, query, fragment
  have h3 := tailOf_compose p.path p.query p.fragment h.path_ok h.query_ok
  rw [appendixB_eq, h1]
  simp only [h2, h3]

theorem written_clean {p : Parts} (h : PartsOKg p) : cleanUrl (written p) = written p := by
  have hT := tailStr_head p.query p.fragment
  apply cleanUrl_id
  · unfold written
    by_cases hs : p.scheme = []
    · rw [hs]
      simp only [schemeStr, List.isEmpty_nil, ↓reduceIte, List.nil_append]
      by_cases hm : marker [] p.netloc p.path = true
      · rw [if_pos hm]; exact headP_cons _ (by omega)
      · rw [if_neg hm, List.nil_append]
        have hn := (marker_false hm).1
        apply headP_append
        · exact h.clean_lead hs hn
        · exact headP_mono (fun x hx => by omega) hT
    · obtain ⟨_, _, hc⟩ := scheme_facts h hs
      cases hp : p.scheme with
      | nil => exact absurd hp hs
      | cons a t =>
        have : 32 < a := schemeChars_gt32 a (hc a (by rw [hp]; simp))
        simp only [schemeStr, List.isEmpty_cons, Bool.false_eq_true, ↓reduceIte, List.cons_append]
        exact headP_cons _ this
  · intro c hc
    unfold written at hc
    rcases List.mem_append.1 hc with hc | hc
    · unfold schemeStr at hc
      split at hc
      · simp at hc
      · rcases List.mem_append.1 hc with hc | hc
        · have hs : p.scheme ≠ [] := by intro e; rw [e] at hc; simp at hc
          have := schemeChars_gt32 c ((scheme_facts h hs).2.2 c hc)
          omega
        · simp at hc; omega
    · rcases List.mem_append.1 hc with hc | hc
      · split at hc
        · simp only [List.mem_cons] at hc
          rcases hc with rfl | rfl | hc
          · omega
          · omega
          · exact h.clean_netloc c hc
        · simp at hc
      · rcases List.mem_append.1 hc with hc | hc
        · exact h.clean_path c hc
        · unfold tailStr at hc
          rcases List.mem_append.1 hc with hc | hc
          · split at hc
            · rcases List.mem_cons.1 hc with rfl | hc
              · omega
              · exact h.clean_query c hc
            · simp at hc
          · split at hc
            · rcases List.mem_cons.1 hc with rfl | hc
              · omega
              · exact h.clean_fragment c hc
            · simp at hc

end UnsplitLemmas

/-- general form: any oracle, a non-ASCII authority allowed provided its NFKC check passes -/
theorem UnsplitLemmas.split_unsplit_gen (o : Oracles) (p : Parts) (h : PartsOKg p)
    (hn : (!p.netloc.isEmpty && !isAscii p.netloc) = true → checkNetloc o p.netloc = .ok ()) :
    splitUrl o (unsplitResult p.scheme p.netloc p.path p.query p.fragment) = .ok p := by
  rw [unsplit_written h, splitUrl_eq]
  unfold splitUrlNF
  rw [written_clean h, appendixB_written h]
  simp only [h.brackets_ok]
  by_cases hc : (!p.netloc.isEmpty && !isAscii p.netloc) = true
  · rw [if_pos hc, hn hc]
  · rw [if_neg hc]; rfl

/-- on well-formed parts, `split_url ∘ unsplit_result` is the identity (no normalisation remains:
    the one lossy rendering, F-C03-rootless, is excluded by `path_rooted_under_authority_scheme`) -/
theorem C07_split_unsplit (o : Oracles) (p : Parts) (h : PartsOK p) :
    splitUrl o (unsplitResult p.scheme p.netloc p.path p.query p.fragment) = .ok p := by
  apply split_unsplit_gen o p h.toG
  intro hc
  have hasc : isAscii p.netloc = true := isAscii_iff.mpr fun c hc => (h.netloc_ok c hc).2.2.2
  rw [hasc] at hc
  simp at hc

/-- five parts from ASCII literals -/
def C07_mkParts (a b c d e : String) : Parts :=
  { scheme := a.toStr, netloc := b.toStr, path := c.toStr, query := d.toStr, fragment := e.toStr }

/-- `split_url (unsplit_result parts)` -/
def C07_resplit (o : Oracles) (p : Parts) : R Parts :=
  splitUrl o (unsplitResult p.scheme p.netloc p.path p.query p.fragment)

/-! ### the other direction -/

/-- `t` with its scheme (if one is recognised) lower-cased -/
def C07_lowerScheme (t : Str) : Str :=
  if (splitScheme t).1 = [] then t else (splitScheme t).1 ++ 58 :: (splitScheme t).2

/-- the cleaned input after its scheme and ':' (the whole cleaned input when no scheme is recognised) -/
def C07_afterScheme (s : Str) : Str := (splitScheme (cleanUrl s)).2

/-- the inputs whose parse loses nothing that `unsplit_result` would need.  Each clause excludes one way of
    dropping (or inventing) characters; see the `C07_recomposable_*_counterexample` theorems. -/
structure Recomposable (s : Str) : Prop where
  /-- a '?' delimiter with an empty query is not written back ("a?" → "a") -/
  query_delim : 63 ∈ (cleanUrl s).takeWhile (· ≠ 35) → (Rfc.appendixB Gen.schemeChars (cleanUrl s)).query ≠ []
  /-- a '#' delimiter with an empty fragment is not written back ("a#" → "a") -/
  fragment_delim : 35 ∈ cleanUrl s → (Rfc.appendixB Gen.schemeChars (cleanUrl s)).fragment ≠ []
  /-- an authority marker "//" with an empty authority is written back only for a scheme in `uses_authority`
      or when the path itself starts with "//"  ("x://" → "x:", "x:///p" → "x:/p", "///p" → "/p", "//" → "") -/
  authority_marker : (C07_afterScheme s).take 2 = [47, 47] →
    (Rfc.appendixB Gen.schemeChars (cleanUrl s)).authority = [] →
    ((Rfc.appendixB Gen.schemeChars (cleanUrl s)).scheme ≠ [] ∧
        Gen.usesAuthority.contains (Rfc.appendixB Gen.schemeChars (cleanUrl s)).scheme = true) ∨
      (Rfc.appendixB Gen.schemeChars (cleanUrl s)).path.take 2 = [47, 47]
  /-- a scheme in `uses_authority` always gets "//" (and a rootless path a "/") written
      ("http:" → "http://", "http:a" and "http:/a" → "http:///a") -/
  authority_scheme : (Rfc.appendixB Gen.schemeChars (cleanUrl s)).scheme ≠ [] →
    Gen.usesAuthority.contains (Rfc.appendixB Gen.schemeChars (cleanUrl s)).scheme = true →
    (C07_afterScheme s).take 2 = [47, 47]

instance (s : Str) : Decidable (Recomposable s) :=
  decidable_of_iff
    ((63 ∈ (cleanUrl s).takeWhile (· ≠ 35) → (Rfc.appendixB Gen.schemeChars (cleanUrl s)).query ≠ []) ∧
     (35 ∈ cleanUrl s → (Rfc.appendixB Gen.schemeChars (cleanUrl s)).fragment ≠ []) ∧
     ((C07_afterScheme s).take 2 = [47, 47] →
        (Rfc.appendixB Gen.schemeChars (cleanUrl s)).authority = [] →
        ((Rfc.appendixB Gen.schemeChars (cleanUrl s)).scheme ≠ [] ∧
            Gen.usesAuthority.contains (Rfc.appendixB Gen.schemeChars (cleanUrl s)).scheme = true) ∨
          (Rfc.appendixB Gen.schemeChars (cleanUrl s)).path.take 2 = [47, 47]) ∧
     ((Rfc.appendixB Gen.schemeChars (cleanUrl s)).scheme ≠ [] →
        Gen.usesAuthority.contains (Rfc.appendixB Gen.schemeChars (cleanUrl s)).scheme = true →
        (C07_afterScheme s).take 2 = [47, 47]))
    ⟨fun ⟨a, b, c, d⟩ => ⟨a, b, c, d⟩, fun ⟨a, b, c, d⟩ => ⟨a, b, c, d⟩⟩

namespace UnsplitLemmas

/-! ### what `unsplit_result` writes from well-formed parts is `Recomposable`, clean, and has its scheme in lower case -/

/-- everything `unsplit_result` writes in front of the query: no '?', no '#' -/
theorem written_head_chars {p : Parts} (h : PartsOKg p) :
    ∀ c ∈ schemeStr p.scheme ++ ((if marker p.scheme p.netloc p.path then 47 :: 47 :: p.netloc else []) ++ p.path),
      c ≠ 63 ∧ c ≠ 35 := by
  intro c hc
  rcases List.mem_append.1 hc with hc | hc
  · unfold schemeStr at hc
    split at hc
    · cases hc
    · rename_i hne
      have hs : p.scheme ≠ [] := by intro e; rw [e] at hne; simp at hne
      rcases List.mem_append.1 hc with hc | hc
      · have := C07_schemeChars_no_delims c ((scheme_facts h hs).2.2 c hc)
        exact ⟨this.2.2.1, this.2.2.2⟩
      · simp at hc; omega
  · rcases List.mem_append.1 hc with hc | hc
    · split at hc
      · simp only [List.mem_cons] at hc
        rcases hc with rfl | rfl | hc
        · omega
        · omega
        · exact ⟨(h.netloc_ok c hc).2.1, (h.netloc_ok c hc).2.2⟩
      · cases hc
    · exact h.path_ok c hc

theorem recomposable_written {p : Parts} (h : PartsOKg p) : Recomposable (written p) := by
  have hcl := written_clean h
  have hB := appendixB_written h
  have hS := schemeOf_written h
  have hhead := written_head_chars h
  have hw : written p = (schemeStr p.scheme ++ ((if marker p.scheme p.netloc p.path then 47 :: 47 :: p.netloc else []) ++
      p.path)) ++ tailStr p.query p.fragment := by
    unfold written; simp only [List.append_assoc]
  refine ⟨?_, ?_, ?_, ?_⟩
  · -- query_delim
    rw [hcl, hB]
    intro h63 hq
    simp only at hq
    rw [hw, hq] at h63
    have hstop : HeadP (fun x => (fun c => decide (c ≠ 35)) x = false) (tailStr [] p.fragment) := by
      unfold tailStr
      cases p.fragment <;> intro x hx <;> simp at hx ⊢
      exact hx.symm
    rw [takeWhile_stop (fun c => decide (c ≠ 35)) _ _ (fun c hc => by simpa using (hhead c hc).2) hstop] at h63
    exact (hhead 63 h63).1 rfl
  · -- fragment_delim
    rw [hcl, hB]
    intro h35 hf
    simp only at hf
    rw [hw, hf] at h35
    rcases List.mem_append.1 h35 with h35 | h35
    · exact (hhead 35 h35).2 rfl
    · unfold tailStr at h35
      simp only [List.isEmpty_nil, Bool.not_true, Bool.false_eq_true, if_false, List.append_nil] at h35
      split at h35
      · rcases List.mem_cons.1 h35 with h' | h'
        · omega
        · exact h.query_ok h'
      · cases h35
  · -- authority_marker
    unfold C07_afterScheme
    rw [hcl, hB, splitScheme_eq, hS]
    simp only
    intro h2 hn
    by_cases hm : marker p.scheme p.netloc p.path = true
    · rcases marker_cases hm with hne | hsu | h2'
      · exact absurd hn hne
      · exact Or.inl hsu
      · exact Or.inr h2'
    · rw [if_neg hm, List.nil_append] at h2
      right
      exact take2_append (headP_mono (fun x hx => by omega) (tailStr_head p.query p.fragment)) h2
  · -- authority_scheme
    unfold C07_afterScheme
    rw [hcl, hB, splitScheme_eq, hS]
    simp only
    intro hs hu
    have hm : marker p.scheme p.netloc p.path = true := by
      unfold marker
      rw [isEmpty_false hs, hu]
      simp
    rw [if_pos hm]
    rfl

/-- the scheme of what `unsplit_result` writes is written in lower case -/
theorem lower_written {p : Parts} (h : PartsOKg p) :
    (splitScheme (written p)).1 = [] ∨
      lower ((written p).takeWhile (· ≠ 58)) = (written p).takeWhile (· ≠ 58) := by
  by_cases hs : p.scheme = []
  · left
    rw [splitScheme_eq, schemeOf_written h]
    exact hs
  · right
    obtain ⟨_, hl, hc⟩ := scheme_facts h hs
    have htw : (written p).takeWhile (· ≠ 58) = p.scheme := by
      unfold written schemeStr
      rw [isEmpty_false hs]
      simp only [Bool.false_eq_true, if_false, List.append_assoc]
      apply takeWhile_stop
      · intro x hx
        have := (C07_schemeChars_no_delims x (hc x hx)).1
        simpa using this
      · exact headP_cons _ (by simp)
    rw [htw, hl]

end UnsplitLemmas

/-- the other direction: what `unsplit_result` writes from the parsed parts is the cleaned input with its scheme
    lower-cased, for every input that parses and is `Recomposable` -/
theorem C07_unsplit_split (o : Oracles) (s : Str) (p : Parts) : splitUrl o s = .ok p → Recomposable s →
    unsplitResult p.scheme p.netloc p.path p.query p.fragment = C07_lowerScheme (cleanUrl s) := by
  intro hp hr
  show unsplitResult (toParts5 p).scheme (toParts5 p).authority (toParts5 p).path (toParts5 p).query
    (toParts5 p).fragment = _
  rw [C07_split o s p hp]
  obtain ⟨hq, hf, hm, hs⟩ := hr
  unfold C07_afterScheme at hm hs
  rw [splitScheme_eq] at hm hs
  unfold C07_lowerScheme
  rw [splitScheme_eq]
  exact recompose_core (cleanUrl s) hq hf hm hs

/-- when the input is already clean and its scheme lower-case, the parts re-compose to the input itself -/
theorem C07_unsplit_split_id (o : Oracles) (s : Str) (p : Parts) : splitUrl o s = .ok p → Recomposable s →
    cleanUrl s = s →
    (splitScheme s).1 = [] ∨ lower (s.takeWhile (· ≠ 58)) = s.takeWhile (· ≠ 58) →
    unsplitResult p.scheme p.netloc p.path p.query p.fragment = s := by
  intro hp hr hc hl
  rw [C07_unsplit_split o s p hp hr, hc]
  unfold C07_lowerScheme
  split
  · rfl
  · rename_i hne
    rcases hl with hl | hl
    · exact absurd hl hne
    · rw [splitScheme_eq] at hne ⊢
      rcases schemeOf_decomp s with ⟨a, _⟩ | ⟨pre, _, hall, hcs, hpl⟩
      · exact absurd a hne
      · have htw : s.takeWhile (· ≠ 58) = pre := by
          conv => lhs; rw [hcs]
          apply takeWhile_stop
          · intro x hx
            have := (C07_schemeChars_no_delims x (hall x hx)).1
            simpa using this
          · exact headP_cons _ (by simp)
        rw [htw] at hl
        rw [hpl, hl]
        exact hcs.symm

/-! ### parsed parts are well-formed: C03 at the level of parts -/

namespace UnsplitLemmas

theorem splitUrl_ok_brackets (o : Oracles) (s : Str) (p : Parts) (h : splitUrl o s = .ok p) :
    checkBrackets p.netloc = .ok () ∧
      ((!p.netloc.isEmpty && !isAscii p.netloc) = true → checkNetloc o p.netloc = .ok ()) := by
  rw [splitUrl_eq] at h; unfold splitUrlNF at h
  simp only at h
  split at h
  · cases h
  · rename_i hb
    split at h
    · cases h
    · rename_i hn
      cases h
      refine ⟨hb, ?_⟩
      intro hc
      rw [if_pos hc] at hn
      exact hn

/-- everything `PartsOKg` asks holds of parsed parts, except that an authority-using scheme may come without "//" -/
theorem parsed_partsOKg (o : Oracles) (s : Str) (p : Parts) (hp : splitUrl o s = .ok p)
    (hs : p.scheme ≠ [] → Gen.usesAuthority.contains p.scheme = true → (p.path = [] ∨ p.path.head? = some 47)) :
    PartsOKg p := by
  have hbr := (splitUrl_ok_brackets o s p hp).1
  have hB := C07_split o s p hp
  have hhead := cleanUrl_head s
  have htab := cleanUrl_no_tab s
  generalize cleanUrl s = c at hB hhead htab
  rw [appendixB_eq] at hB
  obtain ⟨ps, pn, pp, pq, pf⟩ := p
  simp only [toParts5, Rfc.Parts5.mk.injEq] at hB
  obtain ⟨e1, e2, e3, e4, e5⟩ := hB
  simp only at hs hbr ⊢
  have hsok := schemeOf_scheme_ok c
  have hsnil := schemeOf_nil_imp c
  have hrest := schemeOf_rest_of_nil c
  obtain ⟨P, hcP, _, hnP⟩ := stages_prefix c
  have had := authOf_decomp (Rfc.schemeOf Gen.schemeChars c).2
  have htm := tailOf_mem (authOf (Rfc.schemeOf Gen.schemeChars c).2).2
  have htr := tailOf_path_rooted (authOf (Rfc.schemeOf Gen.schemeChars c).2).2
  have htp := tailOf_path_prefix (authOf (Rfc.schemeOf Gen.schemeChars c).2).2
  rw [← e1] at hsok hsnil hrest
  rw [← e2] at had hnP
  rw [← e3] at htm htr htp
  rw [← e4, ← e5] at htm
  clear e1 e2 e3 e4 e5
  generalize (Rfc.schemeOf Gen.schemeChars c).2 = r1 at *
  generalize (authOf r1).2 = r2 at *
  -- every part lies in the cleaned input
  have hr2c : ∀ x ∈ r2, x ∈ c := fun x hx => hcP ▸ List.mem_append_right P hx
  -- without a scheme: the marker was read (then the path is rooted or empty) or the path starts the input
  have hnoscheme : ps = [] → RootedOrEmpty pp ∨ ∃ X, c = pp ++ X := by
    intro hsc
    rcases had with ⟨_, _, c', _⟩ | ⟨_, _, b⟩
    · exact Or.inl (htr c')
    · rw [b, hrest hsc] at htp
      exact Or.inr htp
  refine ⟨hsok, ?_, hbr, ?_, ?_, ?_, hs, ?_, ?_, ?_, ?_, ?_, ?_⟩
  · intro x hx
    rcases had with ⟨_, _, _, d⟩ | ⟨_, b, _⟩
    · exact d x hx
    · rw [b] at hx; simp at hx
  · intro x hx; exact (htm.1 x hx).2
  · intro hm; exact (htm.2.1 35 hm).2 rfl
  · intro hn
    rcases had with ⟨_, _, c', _⟩ | ⟨_, b, _⟩
    · exact htr c'
    · exact absurd b hn
  · -- rootless_first_segment
    intro hsc _ h58
    simp only at hsc h58
    rcases hnoscheme hsc with hroot | ⟨X, hX⟩
    · right
      rw [List.all_eq_false]
      refine ⟨47, ?_, by decide⟩
      rcases hroot with e | e
      · rw [e] at h58; simp at h58
      · cases pp with
        | nil => simp at e
        | cons a t => simp at e; subst e; simp
    · have := hsnil hsc (by rw [hX]; exact List.mem_append_left _ h58)
      rw [hX, takeWhile_of_mem_left _ h58] at this
      exact this
  · -- clean_lead
    intro hsc _ x hx
    simp only at hsc hx
    rcases hnoscheme hsc with hroot | ⟨X, hX⟩
    · rcases hroot with e | e
      · rw [e] at hx; simp at hx
      · rw [e] at hx; cases hx; omega
    · apply hhead x
      rw [hX]
      cases pp with
      | nil => simp at hx
      | cons a t => simpa using hx
  · intro x hx; exact htab x (hcP ▸ List.mem_append_left _ (hnP x hx))
  · intro x hx; exact htab x (hr2c x (htm.1 x hx).1)
  · intro x hx; exact htab x (hr2c x (htm.2.1 x hx).1)
  · intro x hx; exact htab x (hr2c x (htm.2.2 x hx))

end UnsplitLemmas

/-- C03 at the level of parts: writing the parts of ANY successfully parsed input and parsing again gives the same
    parts (same oracle; a non-ASCII authority is allowed) — unless the scheme is in `uses_authority` and the input
    had a rootless non-empty path without "//" ("http:a", F-C03-rootless) -/
theorem C07_reparse_of_parsed (o : Oracles) (s : Str) (p : Parts) : splitUrl o s = .ok p →
    (p.scheme ≠ [] → Gen.usesAuthority.contains p.scheme = true → (p.path = [] ∨ p.path.head? = some 47)) →
    splitUrl o (unsplitResult p.scheme p.netloc p.path p.query p.fragment) = .ok p := by
  intro hp hs
  exact split_unsplit_gen o p (parsed_partsOKg o s p hp hs) (splitUrl_ok_brackets o s p hp).2

/-- parsed parts with an ASCII authority satisfy `PartsOK` (under the same proviso) -/
theorem C07_parsed_partsOK (o : Oracles) (s : Str) (p : Parts) : splitUrl o s = .ok p →
    isAscii p.netloc = true →
    (p.scheme ≠ [] → Gen.usesAuthority.contains p.scheme = true → (p.path = [] ∨ p.path.head? = some 47)) →
    PartsOK p := by
  intro hp ha hs
  have g := parsed_partsOKg o s p hp hs
  exact { g with netloc_ok := fun c hc =>
    ⟨(g.netloc_ok c hc).1, (g.netloc_ok c hc).2.1, (g.netloc_ok c hc).2.2, isAscii_iff.mp ha c hc⟩ }

/-- the proviso is needed: "http:a" parses, but its parts are written "http:///a" and come back with path "/a" -/
theorem C07_reparse_of_parsed_counterexample :
    ∀ o, splitUrl o "http:a".toStr = .ok (C07_mkParts "http" "" "a" "" "") ∧
      C07_resplit o (C07_mkParts "http" "" "a" "" "") = .ok (C07_mkParts "http" "" "/a" "" "") :=
  fun o => ⟨splitUrl_ok_of_empty (by decide +kernel) o, splitUrl_ok_of_empty (by decide +kernel) o⟩

/-! ### URL level -/

/-- the path `str` writes: "/" is inserted for an empty path before a query/fragment under an authority -/
def C07_strPath (u : Url) : Str :=
  if u.path.isEmpty && !u.netloc.isEmpty && (!u.query.isEmpty || !u.fragment.isEmpty) then [47] else u.path

/-- `str` of a URL whose explicit port is not the scheme default is exactly the re-composition of its stored parts -/
theorem C07_str_recompose (e : Env) (u : Url) (ep : Option Nat) : explicitPort e u = .ok ep →
    (∀ p, ep = some p → some p ≠ defaultPort u.scheme) →
    str e u = .ok (unsplitResult u.scheme u.netloc
      (if u.path.isEmpty && !u.netloc.isEmpty && (!u.query.isEmpty || !u.fragment.isEmpty) then [47] else u.path)
      u.query u.fragment) := by
  intro hep hnd
  unfold str
  rw [hep]
  simp only [bind, Except.bind]
  cases ep with
  | none => rfl
  | some p =>
    have := hnd p rfl
    simp only [this, ↓reduceIte]
    rfl

/-- re-parsing `str u` gives back the stored parts (with the '/' normalisation of the path) -/
theorem C07_reparse_parts (e : Env) (u : Url) (ep : Option Nat) :
    PartsOK { scheme := u.scheme, netloc := u.netloc, path := C07_strPath u, query := u.query, fragment := u.fragment } →
    explicitPort e u = .ok ep → (∀ p, ep = some p → some p ≠ defaultPort u.scheme) →
    ∃ s, str e u = .ok s ∧
      splitUrl e.o s = .ok { scheme := u.scheme, netloc := u.netloc, path := C07_strPath u, query := u.query,
                             fragment := u.fragment } := by
  intro hok hep hnd
  exact ⟨_, C07_str_recompose e u ep hep hnd,
    C07_split_unsplit e.o
      { scheme := u.scheme, netloc := u.netloc, path := C07_strPath u, query := u.query, fragment := u.fragment } hok⟩

/-! ### every clause of `PartsOK` is needed: for each clause, parts violating that clause only, and not surviving -/

/-- exactly clause number `i` (from 0, in the order of the structure) fails -/
def C07_OnlyClauseFails (i : Nat) (p : Parts) : Prop := C07_partsOKClauses p = (List.range 13).map (fun j => decide (j ≠ i))

instance (i : Nat) (p : Parts) : Decidable (C07_OnlyClauseFails i p) := by unfold C07_OnlyClauseFails; infer_instance

/-- `path_rooted_under_authority_scheme` (F-C03-rootless): "file:a/b" renders as "file:///a/b" — the path gains a leading '/' -/
theorem C07_unsplit_rootless_counterexample :
    unsplitResult "file".toStr [] "a/b".toStr [] [] = "file:///a/b".toStr ∧
    C07_OnlyClauseFails 6 (C07_mkParts "file" "" "a/b" "" "") ∧
    ∀ o, C07_resplit o (C07_mkParts "file" "" "a/b" "" "") = .ok (C07_mkParts "file" "" "/a/b" "" "") :=
  ⟨by decide +kernel, by decide +kernel, splitUrl_ok_of_empty (by decide +kernel)⟩

/-- scheme_ok: an upper-case scheme comes back lower-case; a non-scheme character makes the scheme part of the path -/
theorem C07_partsOK_scheme_counterexample :
    (C07_OnlyClauseFails 0 (C07_mkParts "HTTP" "h" "/" "" "") ∧
      ∀ o, C07_resplit o (C07_mkParts "HTTP" "h" "/" "" "") = .ok (C07_mkParts "http" "h" "/" "" "")) ∧
    (C07_OnlyClauseFails 0 (C07_mkParts "a_b" "" "x" "" "") ∧
      ∀ o, C07_resplit o (C07_mkParts "a_b" "" "x" "" "") = .ok (C07_mkParts "" "" "a_b:x" "" "")) :=
  ⟨⟨by decide +kernel, splitUrl_ok_of_empty (by decide +kernel)⟩,
   ⟨by decide +kernel, splitUrl_ok_of_empty (by decide +kernel)⟩⟩

/-- netloc_ok: a delimiter ends the authority early; a non-ASCII authority consults the NFKC oracle -/
theorem C07_partsOK_netloc_counterexample :
    (C07_OnlyClauseFails 1 (C07_mkParts "" "a/b" "" "" "") ∧
      ∀ o, C07_resplit o (C07_mkParts "" "a/b" "" "" "") = .ok (C07_mkParts "" "a" "/b" "" "")) ∧
    (C07_OnlyClauseFails 1 (C07_mkParts "" "a?b" "" "" "") ∧
      ∀ o, C07_resplit o (C07_mkParts "" "a?b" "" "" "") = .ok (C07_mkParts "" "a" "" "b" "")) ∧
    (C07_OnlyClauseFails 1 (C07_mkParts "" "a#b" "" "" "") ∧
      ∀ o, C07_resplit o (C07_mkParts "" "a#b" "" "" "") = .ok (C07_mkParts "" "a" "" "" "b")) ∧
    (C07_OnlyClauseFails 1 { scheme := [], netloc := [233], path := [], query := [], fragment := [] } ∧
      C07_resplit Oracles.empty { scheme := [], netloc := [233], path := [], query := [], fragment := [] } =
        .error (.oracleMiss "nfkc" [233])) :=
  ⟨⟨by decide +kernel, splitUrl_ok_of_empty (by decide +kernel)⟩,
   ⟨by decide +kernel, splitUrl_ok_of_empty (by decide +kernel)⟩,
   ⟨by decide +kernel, splitUrl_ok_of_empty (by decide +kernel)⟩,
   ⟨by decide +kernel, rfl⟩⟩

/-- `brackets_ok`: the bracket check of `split_url` rejects what was written -/
theorem C07_partsOK_brackets_counterexample :
    C07_OnlyClauseFails 2 (C07_mkParts "" "[" "" "" "") ∧ ∀ o, C07_resplit o (C07_mkParts "" "[" "" "" "") = .error .valueError :=
  ⟨by decide +kernel, fun _ => rfl⟩

/-- `path_ok`: a '?' or '#' in the path starts the query or the fragment -/
theorem C07_partsOK_path_counterexample :
    (C07_OnlyClauseFails 3 (C07_mkParts "" "" "a?b" "" "") ∧
      ∀ o, C07_resplit o (C07_mkParts "" "" "a?b" "" "") = .ok (C07_mkParts "" "" "a" "b" "")) ∧
    (C07_OnlyClauseFails 3 (C07_mkParts "" "" "a#b" "" "") ∧
      ∀ o, C07_resplit o (C07_mkParts "" "" "a#b" "" "") = .ok (C07_mkParts "" "" "a" "" "b")) :=
  ⟨⟨by decide +kernel, splitUrl_ok_of_empty (by decide +kernel)⟩,
   ⟨by decide +kernel, splitUrl_ok_of_empty (by decide +kernel)⟩⟩

/-- `query_ok`: a '#' in the query starts the fragment -/
theorem C07_partsOK_query_counterexample :
    C07_OnlyClauseFails 4 (C07_mkParts "" "" "" "a#b" "") ∧
      ∀ o, C07_resplit o (C07_mkParts "" "" "" "a#b" "") = .ok (C07_mkParts "" "" "" "a" "b") :=
  ⟨by decide +kernel, splitUrl_ok_of_empty (by decide +kernel)⟩

/-- path_rooted_under_authority.  NOTE the first case: with an empty scheme `unsplit_result("", "h", "a", "", "")`
    is ":a" — the authority is dropped and a ':' invented (urllib's `urlunsplit` writes "//h/a") -/
theorem C07_partsOK_rooted_counterexample :
    (C07_OnlyClauseFails 5 (C07_mkParts "" "h" "a" "" "") ∧
      unsplitResult [] "h".toStr "a".toStr [] [] = ":a".toStr ∧
      ∀ o, C07_resplit o (C07_mkParts "" "h" "a" "" "") = .ok (C07_mkParts "" "" ":a" "" "")) ∧
    (C07_OnlyClauseFails 5 (C07_mkParts "x" "h" "a" "" "") ∧
      ∀ o, C07_resplit o (C07_mkParts "x" "h" "a" "" "") = .ok (C07_mkParts "x" "h" "/a" "" "")) :=
  ⟨⟨by decide +kernel, by decide +kernel, splitUrl_ok_of_empty (by decide +kernel)⟩,
   ⟨by decide +kernel, splitUrl_ok_of_empty (by decide +kernel)⟩⟩

/-- `rootless_first_segment`: scheme characters before the first ':' of a path written first are read as a scheme -/
theorem C07_partsOK_first_segment_counterexample :
    C07_OnlyClauseFails 7 (C07_mkParts "" "" "a:b" "" "") ∧
      ∀ o, C07_resplit o (C07_mkParts "" "" "a:b" "" "") = .ok (C07_mkParts "a" "" "b" "" "") :=
  ⟨by decide +kernel, splitUrl_ok_of_empty (by decide +kernel)⟩

/-- `clean_lead`: a leading blank of a path written first is stripped -/
theorem C07_partsOK_lead_counterexample :
    C07_OnlyClauseFails 8 (C07_mkParts "" "" " a" "" "") ∧
      ∀ o, C07_resplit o (C07_mkParts "" "" " a" "" "") = .ok (C07_mkParts "" "" "a" "" "") :=
  ⟨by decide +kernel, splitUrl_ok_of_empty (by decide +kernel)⟩

/-- `clean_netloc`, `clean_path`, `clean_query`, `clean_fragment`: a TAB is removed wherever it stands -/
theorem C07_partsOK_tab_counterexample :
    (C07_OnlyClauseFails 9 (C07_mkParts "" "a\tb" "" "" "") ∧
      ∀ o, C07_resplit o (C07_mkParts "" "a\tb" "" "" "") = .ok (C07_mkParts "" "ab" "" "" "")) ∧
    (C07_OnlyClauseFails 10 (C07_mkParts "" "" "a\tb" "" "") ∧
      ∀ o, C07_resplit o (C07_mkParts "" "" "a\tb" "" "") = .ok (C07_mkParts "" "" "ab" "" "")) ∧
    (C07_OnlyClauseFails 11 (C07_mkParts "" "" "" "a\tb" "") ∧
      ∀ o, C07_resplit o (C07_mkParts "" "" "" "a\tb" "") = .ok (C07_mkParts "" "" "" "ab" "")) ∧
    (C07_OnlyClauseFails 12 (C07_mkParts "" "" "" "" "a\tb") ∧
      ∀ o, C07_resplit o (C07_mkParts "" "" "" "" "a\tb") = .ok (C07_mkParts "" "" "" "" "ab")) :=
  ⟨⟨by decide +kernel, splitUrl_ok_of_empty (by decide +kernel)⟩,
   ⟨by decide +kernel, splitUrl_ok_of_empty (by decide +kernel)⟩,
   ⟨by decide +kernel, splitUrl_ok_of_empty (by decide +kernel)⟩,
   ⟨by decide +kernel, splitUrl_ok_of_empty (by decide +kernel)⟩⟩

/-- no clause about a path starting with "//" without authority is needed: `unsplit_result` writes the marker for such
    a path and the parts survive -/
theorem C07_double_slash_path_survives :
    PartsOK (C07_mkParts "" "" "//x" "" "") ∧ PartsOK (C07_mkParts "x" "" "//x" "" "") ∧ PartsOK (C07_mkParts "http" "" "//x" "" "") ∧
    unsplitResult [] [] "//x".toStr [] [] = "////x".toStr := by decide +kernel

/-- the simpler condition "no ':' in the first rootless segment" implies the exact clause `rootless_first_segment` -/
theorem C07_first_segment_suffices (pa : Str) (h : 58 ∉ pa.takeWhile (· ≠ 47)) : 58 ∈ pa →
    (pa.takeWhile (· ≠ 58) = [] ∨ (pa.takeWhile (· ≠ 58)).all (fun c => mem c Gen.schemeChars) = false) := by
  intro hm
  right
  rw [List.all_eq_false]
  refine ⟨47, ?_, by decide⟩
  -- the first ':' lies after the first '/'
  have hsplit := List.takeWhile_append_dropWhile (p := (· ≠ 47)) (l := pa)
  rcases dropWhile_ne_cases 47 pa with ⟨_, hd⟩ | ⟨_, hd⟩
  · rw [hd, List.append_nil] at hsplit
    rw [hsplit] at h
    exact absurd hm h
  · rw [hd] at hsplit
    rw [← hsplit]
    have ha : ∀ c ∈ pa.takeWhile (· ≠ 47), (decide (c ≠ 58)) = true := by
      intro c hc
      have : c ≠ 58 := fun e => h (e ▸ hc)
      simpa using this
    rw [List.takeWhile_append_of_pos ha]
    simp

/-! ### every clause of `Recomposable` is needed -/

/-- the four clauses of `Recomposable` as booleans -/
def C07_recomposableClauses (s : Str) : List Bool :=
  [ decide (63 ∈ (cleanUrl s).takeWhile (· ≠ 35) → (Rfc.appendixB Gen.schemeChars (cleanUrl s)).query ≠ []),
    decide (35 ∈ cleanUrl s → (Rfc.appendixB Gen.schemeChars (cleanUrl s)).fragment ≠ []),
    decide ((C07_afterScheme s).take 2 = [47, 47] →
        (Rfc.appendixB Gen.schemeChars (cleanUrl s)).authority = [] →
        ((Rfc.appendixB Gen.schemeChars (cleanUrl s)).scheme ≠ [] ∧
            Gen.usesAuthority.contains (Rfc.appendixB Gen.schemeChars (cleanUrl s)).scheme = true) ∨
          (Rfc.appendixB Gen.schemeChars (cleanUrl s)).path.take 2 = [47, 47]),
    decide ((Rfc.appendixB Gen.schemeChars (cleanUrl s)).scheme ≠ [] →
        Gen.usesAuthority.contains (Rfc.appendixB Gen.schemeChars (cleanUrl s)).scheme = true →
        (C07_afterScheme s).take 2 = [47, 47]) ]

/-- parse, then write -/
def C07_reunsplit (o : Oracles) (s : Str) : R Str :=
  (splitUrl o s).map (fun p => unsplitResult p.scheme p.netloc p.path p.query p.fragment)

theorem UnsplitLemmas.reunsplit_of_empty {s t : Str} (h : C07_reunsplit Oracles.empty s = .ok t) (o : Oracles) :
    C07_reunsplit o s = .ok t := by
  unfold C07_reunsplit at h ⊢
  cases hp : splitUrl Oracles.empty s with
  | error e => rw [hp] at h; cases h
  | ok p => rw [hp] at h; rw [splitUrl_ok_of_empty hp o]; exact h

/-- query_delim: "a?" is written back as "a" -/
theorem C07_recomposable_query_counterexample :
    C07_recomposableClauses "a?".toStr = [false, true, true, true] ∧ ∀ o, C07_reunsplit o "a?".toStr = .ok "a".toStr :=
  ⟨by decide +kernel, reunsplit_of_empty (by decide +kernel)⟩

/-- fragment_delim: "a#" is written back as "a" -/
theorem C07_recomposable_fragment_counterexample :
    C07_recomposableClauses "a#".toStr = [true, false, true, true] ∧ ∀ o, C07_reunsplit o "a#".toStr = .ok "a".toStr :=
  ⟨by decide +kernel, reunsplit_of_empty (by decide +kernel)⟩

/-- authority_marker: an empty authority's "//" is dropped for a scheme outside `uses_authority` or no scheme -/
theorem C07_recomposable_marker_counterexample :
    (C07_recomposableClauses "x://".toStr = [true, true, false, true] ∧ ∀ o, C07_reunsplit o "x://".toStr = .ok "x:".toStr) ∧
    (C07_recomposableClauses "x:///p".toStr = [true, true, false, true] ∧ ∀ o, C07_reunsplit o "x:///p".toStr = .ok "x:/p".toStr) ∧
    (C07_recomposableClauses "//".toStr = [true, true, false, true] ∧ ∀ o, C07_reunsplit o "//".toStr = .ok []) ∧
    (C07_recomposableClauses "///p".toStr = [true, true, false, true] ∧ ∀ o, C07_reunsplit o "///p".toStr = .ok "/p".toStr) ∧
    (C07_recomposableClauses "//?q".toStr = [true, true, false, true] ∧ ∀ o, C07_reunsplit o "//?q".toStr = .ok "?q".toStr) :=
  ⟨⟨by decide +kernel, reunsplit_of_empty (by decide +kernel)⟩,
   ⟨by decide +kernel, reunsplit_of_empty (by decide +kernel)⟩,
   ⟨by decide +kernel, reunsplit_of_empty (by decide +kernel)⟩,
   ⟨by decide +kernel, reunsplit_of_empty (by decide +kernel)⟩,
   ⟨by decide +kernel, reunsplit_of_empty (by decide +kernel)⟩⟩

/-- authority_scheme: a scheme in `uses_authority` gets "//" (and "/") invented -/
theorem C07_recomposable_scheme_counterexample :
    (C07_recomposableClauses "http:".toStr = [true, true, true, false] ∧ ∀ o, C07_reunsplit o "http:".toStr = .ok "http://".toStr) ∧
    (C07_recomposableClauses "http:a".toStr = [true, true, true, false] ∧ ∀ o, C07_reunsplit o "http:a".toStr = .ok "http:///a".toStr) ∧
    (C07_recomposableClauses "http:/a".toStr = [true, true, true, false] ∧ ∀ o, C07_reunsplit o "http:/a".toStr = .ok "http:///a".toStr) :=
  ⟨⟨by decide +kernel, reunsplit_of_empty (by decide +kernel)⟩,
   ⟨by decide +kernel, reunsplit_of_empty (by decide +kernel)⟩,
   ⟨by decide +kernel, reunsplit_of_empty (by decide +kernel)⟩⟩

/-- "////p" (empty authority, path "//p") and "x:////p" do re-compose: the last disjunct of `authority_marker` -/
example : Recomposable "////p".toStr ∧ Recomposable "x:////p".toStr ∧ Recomposable "http:///p".toStr := by decide +kernel

/-! ### non-vacuity -/

-- C07_split_unsplit: userinfo + IPv6 literal + port, ':' and "//" inside the path, '?' in the query, '#' and '?' in the fragment
example : PartsOK (C07_mkParts "http" "u:p@[::1]:80" "/a:b//c" "x?y" "f#g?") := by decide +kernel
example : ∀ o, C07_resplit o (C07_mkParts "http" "u:p@[::1]:80" "/a:b//c" "x?y" "f#g?") =
    .ok (C07_mkParts "http" "u:p@[::1]:80" "/a:b//c" "x?y" "f#g?") := splitUrl_ok_of_empty (by decide +kernel)
-- no scheme, no authority, a ':' in the first segment after a non-scheme character; empty query, fragment only
example : PartsOK (C07_mkParts "" "" "a_b:c/d" "" ":f") := by decide +kernel
-- authority-using scheme, empty authority, rooted path: "file:///a"
example : PartsOK (C07_mkParts "file" "" "/a" "" "") ∧
    unsplitResult "file".toStr [] "/a".toStr [] [] = "file:///a".toStr := by decide +kernel
-- scheme outside uses_authority with a rootless path: "mailto:a@b"
example : PartsOK (C07_mkParts "mailto" "" "a@b" "q" "") := by decide +kernel
-- C07_unsplit_split: leading blank + TAB, mixed-case scheme
example : Recomposable " \tHtTp://u:p@[::1]:80/a?b#c?d".toStr := by str_lits; decide +kernel
example : ∀ o, C07_reunsplit o " \tHtTp://u:p@[::1]:80/a?b#c?d".toStr = .ok "http://u:p@[::1]:80/a?b#c?d".toStr := reunsplit_of_empty (by str_lits; decide +kernel)
example : C07_lowerScheme (cleanUrl " \tHtTp://u:p@[::1]:80/a?b#c?d".toStr) = "http://u:p@[::1]:80/a?b#c?d".toStr := by str_lits; decide +kernel
example : Recomposable "a_b:c/d?e".toStr ∧ Recomposable "mailto:a@b".toStr ∧ Recomposable "//h?q#f".toStr ∧
    Recomposable "".toStr := by decide +kernel

-- C07_str_recompose / C07_reparse_parts: explicit non-default port, empty path before a query (the '/' is inserted)
example : explicitPort { b := .py, o := Oracles.empty } (Url.ofParts (C07_mkParts "http" "h:8080" "" "q" "")) =
    .ok (some 8080) := by decide +kernel
example : ∀ p, some 8080 = some p → some p ≠ defaultPort (Url.ofParts (C07_mkParts "http" "h:8080" "" "q" "")).scheme := by
  decide
example : str { b := .py, o := Oracles.empty } (Url.ofParts (C07_mkParts "http" "h:8080" "" "q" "")) =
    .ok "http://h:8080/?q".toStr := by decide +kernel
example : C07_strPath (Url.ofParts (C07_mkParts "http" "h:8080" "" "q" "")) = "/".toStr ∧
    PartsOK (C07_mkParts "http" "h:8080" "/" "q" "") := by decide +kernel
-- C07_reparse_of_parsed: hypotheses hold for a parsed input with an authority-using scheme
example : splitUrl Oracles.empty "HTTP://h/a?b".toStr = .ok (C07_mkParts "http" "h" "/a" "b" "") := by decide +kernel

end Yarl
