/-
  C19Ctor.lean — property C19 ("an object that build() or a modifier returned can always be turned
  into a string") extended to the two constructors, and its combination with C09 (pickle twin).

  * the auto-encoding constructor: the result always prints — `net` is the pre-filled cache when the
    input had an authority, and `lazyNet` of the empty netloc otherwise;
  * `encoded=True`: printable iff the stored authority splits (documented garbage-in);
  * constructor results under `GoodAuthority`: `LazyOK` and `HostShape` both hold, so every modifier
    result prints (no extra IDNA hypothesis is needed: `GoodAuthority` already carries it);
  * the pickle twin of such a URL prints, and prints the same text.
-/
import YarlModel
import YarlProofs.C19Str
import YarlProofs.C09
namespace Yarl
open NetlocLemmas StrTotal EagerLemmas

namespace MiscLemmas

/-- `encode_url` pre-fills the cache whenever it stores a non-empty netloc; with an empty input
    authority it stores the empty netloc and no cache -/
theorem authBlock_pre (e : Env) (pt : Parts) (netloc : Str) (pre : Option NetPre)
    (h : authBlock e pt = .ok (netloc, pre)) : (pre = none ∧ netloc = [] ∧ pt.netloc = []) ∨ ∃ p, pre = some p := by
  unfold authBlock at h
  split at h
  · rename_i hemp
    cases h
    left
    refine ⟨rfl, rfl, ?_⟩
    cases hn : pt.netloc with
    | nil => rfl
    | cons _ _ => rw [hn] at hemp; cases hemp
  · right
    obtain ⟨np, _, h⟩ := bind_ok h
    obtain ⟨host0, _, h⟩ := bind_ok h
    obtain ⟨host1, _, h⟩ := bind_ok h
    rw [eagerOut_eq] at h
    cases h; exact ⟨_, rfl⟩

/-- the result of the auto-encoding constructor: cache pre-filled, or empty netloc and no cache -/
theorem encodeUrl_pre (e : Env) (s : Str) (u : Url) (h : encodeUrl e s = .ok u) :
    (u.pre = none ∧ u.netloc = []) ∨ ∃ p, u.pre = some p := by
  rw [encodeUrl_eq] at h
  obtain ⟨pt, _, h⟩ := bind_ok h
  obtain ⟨⟨netloc, pre⟩, hab, h⟩ := bind_ok h
  cases h
  rcases authBlock_pre e pt netloc pre hab with ⟨h1, h2, _⟩ | ⟨p, hp⟩
  · exact Or.inl ⟨h1, h2⟩
  · exact Or.inr ⟨p, hp⟩

theorem preEncodedUrl_pre (e : Env) (s : Str) (u : Url) (h : preEncodedUrl e s = .ok u) : u.pre = none := by
  unfold preEncodedUrl at h
  obtain ⟨p, _, h⟩ := bind_ok h
  cases h
  rfl

/-- without a pre-filled cache, printing is splitting the stored authority -/
theorem strOK_iff_splits (e : Env) (u : Url) (hpre : u.pre = none) : StrOK e u ↔ Splits e u := by
  rw [strOK_iff, hpre]
  exact ⟨fun h => h.elim (fun ⟨_, h⟩ => nomatch h) id, .inr⟩

end MiscLemmas
open MiscLemmas

/-! ### the auto-encoding constructor -/

/-- what `net` is for a constructor result -/
theorem C19_constructor_net (e : Env) (s : Str) (u : Url) : encodeUrl e s = .ok u →
    (∃ p, u.pre = some p ∧ net e u = .ok p) ∨ (u.pre = none ∧ u.netloc = [] ∧ net e u = lazyNet e u) := by
  intro h
  rcases encodeUrl_pre e s u h with ⟨hpre, hn⟩ | ⟨p, hp⟩
  · right
    refine ⟨hpre, hn, ?_⟩
    unfold net; rw [hpre]
  · left
    refine ⟨p, hp, ?_⟩
    unfold net; rw [hp]; rfl

/-- a parsed URL always prints: `net` is the pre-filled cache when there is an authority, and
    `lazyNet` of an empty netloc otherwise.  No hypothesis on the input or on the oracles. -/
theorem C19_constructor_str_total (e : Env) (s : Str) (u : Url) : encodeUrl e s = .ok u → StrOK e u := by
  intro h
  rcases encodeUrl_pre e s u h with ⟨_, hn⟩ | hp
  · exact strOK_of_empty_netloc e u hn
  · exact (strOK_iff e u).2 (.inl hp)

/-! ### the `encoded=True` constructor -/

/-- `URL(s, encoded=True)`: the five parts are stored verbatim, no cache is filled; the result is
    printable iff the stored authority splits (documented garbage-in) -/
theorem C19_preencoded_str_total_iff (e : Env) (s : Str) (u : Url) : preEncodedUrl e s = .ok u →
    (StrOK e u ↔ ∃ r, splitNetloc e.o u.netloc = .ok r) := by
  intro h
  exact strOK_iff_splits e u (preEncodedUrl_pre e s u h)

/-- … and it is not always printable: a port text that is no number is stored as it is -/
theorem C19_preencoded_counterexample (e : Env) :
    ∃ u, preEncodedUrl e "http://h:x/".toStr = .ok u ∧ u.netloc = "h:x".toStr ∧ str e u = .error .valueError := by
  str_lits; exact ⟨_, rfl, rfl, rfl⟩

/-! ### constructor results under `GoodAuthority`: every modifier result prints -/

/-- the stored netloc of a constructor result splits again when the input authority is good (C09) -/
theorem C19_constructor_lazyOK (e : Env) (s : Str) (u : Url) :
    encodeUrl e s = .ok u → GoodAuthority e s → LazyOK e u := by
  intro h hg
  rcases encodeUrl_pre e s u h with ⟨_, hn⟩ | ⟨p, hp⟩
  · rw [lazyOK_iff]
    unfold Splits
    rw [hn]
    exact ⟨_, rfl⟩
  · exact ⟨p, C09_eager_eq_lazy e s u p h hp hg⟩

/-- … and the cached raw host / port have the shape the netloc-rebuilding modifiers need.  Under
    `GoodAuthority` this needs NO further IDNA hypothesis (unlike `C19_hostShape_encodeUrl`): the cache
    equals what `split_netloc` reads from the stored netloc, and that always has the shape. -/
theorem C19_constructor_hostShape (e : Env) (s : Str) (u : Url) :
    encodeUrl e s = .ok u → GoodAuthority e s → HostShape e u := by
  intro h hg
  have hnet : net e (pickleTwin u) = net e u := (C09_pickle_lossless e s u h hg).1
  intro p hp
  rw [← hnet] at hp
  exact C19_hostShape_of_lazy e (pickleTwin u) rfl p hp

/-- assembly of `C19_modifier_str_total` for constructor results: under `GoodAuthority` the URL
    itself prints, its stored netloc splits (`LazyOK`), the cache has the shape (`HostShape`), and
    every modifier result prints -/
theorem C19_constructor_then_modifiers (e : Env) (s : Str) (u : Url) :
    encodeUrl e s = .ok u → GoodAuthority e s →
    LazyOK e u ∧ HostShape e u ∧ StrOK e u ∧
    ((∀ usr v, withUser e u usr = .ok v → StrOK e v) ∧
    (∀ pw v, withPassword e u pw = .ok v → StrOK e v) ∧
    (∀ port kind v, withPort e u port kind = .ok v → StrOK e v) ∧
    (∀ h v, withHost e u h = .ok v → StrOK e v) ∧
    (∀ s v, withScheme e u s = .ok v → StrOK e v) ∧
    (∀ p enc kq kf, StrOK e (withPath e u p enc kq kf)) ∧
    (∀ a v, withQuery e u a = .ok v → StrOK e v) ∧
    (∀ a v, extendQuery e u a = .ok v → StrOK e v) ∧
    (∀ a v, updateQuery e u a = .ok v → StrOK e v) ∧
    (∀ names v, withoutQueryParams e u names = .ok v → StrOK e v) ∧
    (∀ f, StrOK e (withFragment e u f)) ∧
    (∀ nm kq kf v, withName e u nm kq kf = .ok v → StrOK e v) ∧
    (∀ sfx kq kf v, withSuffix e u sfx kq kf = .ok v → StrOK e v) ∧
    (∀ paths enc v, makeChild e u paths enc = .ok v → StrOK e v) ∧
    StrOK e (parent u) ∧
    (∀ v, relative u = .ok v → StrOK e v)) := by
  intro h hg
  have hl := C19_constructor_lazyOK e s u h hg
  have hs := C19_constructor_hostShape e s u h hg
  exact ⟨hl, hs, C19_constructor_str_total e s u h, C19_modifier_str_total e u hl hs⟩

/-- the same without `GoodAuthority` for the four modifiers that REBUILD the netloc (they only read the
    cache): here the IDNA hypothesis of `C19_hostShape_encodeUrl` is what is needed -/
theorem C19_constructor_rebuilders (e : Env) (s : Str) (u : Url)
    (hidna : ∀ x r, idnaEncode e.o x = .ok r → HostShapeStr r) : encodeUrl e s = .ok u →
    (∀ usr v, withUser e u usr = .ok v → StrOK e v) ∧
    (∀ pw v, withPassword e u pw = .ok v → StrOK e v) ∧
    (∀ port kind v, withPort e u port kind = .ok v → StrOK e v) ∧
    (∀ h v, withHost e u h = .ok v → StrOK e v) := by
  intro h
  have hs := C19_hostShape_encodeUrl e s u hidna h
  exact ⟨fun usr v hv => C19_withUser_str_total e u v usr hs hv,
   fun pw v hv => C19_withPassword_str_total e u v pw hs hv,
   fun port kind v hv => C19_withPort_str_total e u v port kind hs hv,
   fun h v hv => C19_withHost_str_total e u v h hs hv⟩

/-! ### the pickle twin -/

/-- the pickled / copied constructor result prints, and prints the same text -/
theorem C19_twin_str_total (e : Env) (s : Str) (u : Url) : encodeUrl e s = .ok u → GoodAuthority e s →
    StrOK e (pickleTwin u) ∧ str e (pickleTwin u) = str e u := by
  intro h hg
  have heq : str e (pickleTwin u) = str e u := (C09_pickle_lossless e s u h hg).2.1
  obtain ⟨t, ht⟩ := C19_constructor_str_total e s u h
  exact ⟨⟨t, by rw [heq, ht]⟩, heq⟩

/-- in general the twin prints iff the stored netloc splits (for the URL itself the cache hides this) -/
theorem C19_twin_str_total_iff (e : Env) (u : Url) :
    StrOK e (pickleTwin u) ↔ ∃ r, splitNetloc e.o u.netloc = .ok r :=
  strOK_iff_splits e (pickleTwin u) rfl

/-- an IDNA table that answers "a:x" (no real one does) -/
def C19_hostileIdna : Oracles :=
  { Oracles.empty with nfkc := fun s => some s, idnaEnc := fun _ => some (some "a:x".toStr),
                       isDigitU := fun _ => some false }

/-- `GoodAuthority` is needed in `C19_twin_str_total` (and in `C19_constructor_lazyOK`): with an IDNA
    oracle that answers "a:x" the constructor result prints (from its cache) but its pickle twin
    does not, and neither does the result of a netloc-keeping modifier.  `GoodHost` excludes exactly this:
    the IDNA answer introduces a ':'. -/
theorem C19_twin_needs_good_authority :
    let e : Env := { b := .c, o := C19_hostileIdna }
    let s := "http://".toStr ++ [233] ++ "/".toStr
    (encodeUrl e s).bind (str e) = .ok "http://a:x/".toStr ∧
    (encodeUrl e s).bind (fun u => str e (pickleTwin u)) = .error .valueError ∧
    (encodeUrl e s).bind (fun u => str e (withFragment e u (some "f".toStr))) = .error .valueError ∧
    ¬ GoodAuthority e s := by
  refine ⟨by str_lits; decide +kernel, by str_lits; decide +kernel, by str_lits; decide +kernel, ?_⟩
  intro hg
  have := hg { scheme := "http".toStr, netloc := [233], path := "/".toStr, query := [], fragment := [] }
    { user := none, password := none, host := some [233], port := none } rfl rfl
  rcases this.2 with ⟨_, h⟩ | ⟨h8, h⟩
  · have := (h (by decide) "a:x".toStr rfl).2 58 (Or.inl rfl) (by decide)
    simp at this
  · have : parseIP (partition 37 [233]).1 = none := by decide
    rw [this] at h; cases h

/-! ### non-vacuity -/

section checks
-- (evaluation of the quoters needs the compiled backend's fast path: the Python byte loop is a
-- well-founded recursion; the theorems above hold for both backends)
private def eC : Env := { b := .c, o := Oracles.empty }

private def s0 : Str := "HTTP://Us:p.w@[FE80::1%eth0]:8080/a/../b?k=v#f".toStr

-- the constructor accepts it, fills the cache, and the result prints
example : (encodeUrl eC s0).map (·.netloc) = .ok "Us:p.w@[fe80::1%eth0]:8080".toStr := by unfold s0; str_lits; decide +kernel
example : (encodeUrl eC s0).map (·.pre) = .ok (some
    { rawHost := some "fe80::1%eth0".toStr, explicitPort := some 8080,
      rawUser := some "Us".toStr, rawPassword := some "p.w".toStr }) := by unfold s0; str_lits; decide +kernel
example : (encodeUrl eC s0).bind (str eC) = .ok "http://Us:p.w@[fe80::1%eth0]:8080/b?k=v#f".toStr := by unfold s0; str_lits; decide +kernel
-- … so does its twin, to the same text
example : (encodeUrl eC s0).bind (fun u => str eC (pickleTwin u))
    = .ok "http://Us:p.w@[fe80::1%eth0]:8080/b?k=v#f".toStr := by unfold s0; str_lits; decide +kernel
-- no authority: no cache, empty netloc
example : (encodeUrl eC "mailto:a@b".toStr).map (fun u => (u.pre, u.netloc)) = .ok (none, []) := by str_lits; decide +kernel
example : (encodeUrl eC "mailto:a@b".toStr).bind (str eC) = .ok "mailto:a@b".toStr := by str_lits; decide +kernel
-- modifiers on a constructor result
example : (encodeUrl eC s0).bind (fun u => (withPort eC u (some 81) 0).bind (str eC))
    = .ok "http://Us:p.w@[fe80::1%eth0]:81/b?k=v#f".toStr := by unfold s0; str_lits; decide +kernel
example : (encodeUrl eC s0).bind (fun u => str eC (withPath eC u "/x".toStr false false false))
    = .ok "http://Us:p.w@[fe80::1%eth0]:8080/x".toStr := by unfold s0; str_lits; decide +kernel
-- `encoded=True`: both directions of the iff are inhabited
example : (preEncodedUrl eC "http://h:81/p".toStr).bind (str eC) = .ok "http://h:81/p".toStr := by str_lits; decide +kernel
example : (preEncodedUrl eC "http://h:x/p".toStr).bind (str eC) = .error .valueError := by str_lits; decide +kernel
example : splitNetloc eC.o "h:x".toStr = .error .valueError := by str_lits; decide +kernel

-- `GoodAuthority` holds for the sample input: mixed-case user, password, IPv6 + zone, port
example : GoodAuthority eC s0 :=
  C09_good_authority_of eC _
    { scheme := "http".toStr, netloc := "Us:p.w@[FE80::1%eth0]:8080".toStr, path := "/a/../b".toStr,
      query := "k=v".toStr, fragment := "f".toStr }
    { user := some "Us".toStr, password := some "p.w".toStr, host := some "FE80::1%eth0".toStr, port := some 8080 }
    (by unfold s0; str_lits; decide +kernel) (by str_lits; decide +kernel)
    ⟨(by intro s hs; cases hs; decide),
     C09_good_host_ipv6 _ _ [0xfe80, 0, 0, 0, 0, 0, 0, 1] (by decide +kernel) (by decide) (by decide)⟩

-- the remaining C09 finding "[[::1]" is outside `GoodAuthority`, but its twin still prints (the stored
-- netloc splits; it is the cached HOST that differs), cf. `C19_twin_str_total_iff`
example : (encodeUrl eC "http://[[::1]/".toStr).bind (fun u => str eC (pickleTwin u)) = .ok "http://[::1/".toStr ∧
    (encodeUrl eC "http://[[::1]/".toStr).bind (str eC) = .ok "http://[::1/".toStr := by str_lits; decide +kernel
end checks

end Yarl
