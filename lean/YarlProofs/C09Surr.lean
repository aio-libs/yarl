import YarlProofs.C09More
import YarlProofs.C09HeadlineMore4
/-!
# C09 — GAPS 7 of C09Headline.lean closed: class (A) `NormalisesToEmpty` for EVERY authority text

`C09_normalises_to_empty_ascii` (C09More.lean) characterises class (A) — "the authority normalises to empty",
F-C09-empty-authority — among the non-empty authority texts WITHOUT lone surrogates: "@", ":", "@:".  Here the
characterisation for every text (lone surrogates allowed, no hypothesis at all — not even `PyStr`):

  `NormalisesToEmpty n  ↔  n = "" ∨ n = ":" ∨ ∃ σ of lone surrogates only (possibly empty), n = σ@ ∨ n = σ@:`

Decided by the definition: a PASSWORD (even an empty one or one of surrogates only: "σ:τ@", "σ:@") takes the text out
of the class (the ':' inside the userinfo makes `password` non-None, which is written back as ":"); so does any port
text ("@:0") and any '[' after the last '@'; a '[' BEFORE the last '@' is a written user ("[@").  The empty text "" IS
in the class as the predicate is defined (it is excluded from the disagreement only because an input without authority
text caches nothing — `C09_eager_ne_lazy_iff` has the hypothesis `u.pre = some p`).

Also: the quoter drops a user of lone surrogates only on BOTH backends (`C09_requote_surrogates_nil`), and the
evaluated disagreement for "foo://\udc80@/x" on the PURE-PYTHON backend (`C09_surrogate_user_empty_host_py`), in the
form of the compiled-backend theorem `C09_surrogate_user_empty_host_counterexample`.
-/
namespace Yarl
open EagerLemmas NetlocLemmas

/-- a string of lone surrogates only (possibly empty) -/
def SurrOnly (σ : Str) : Prop := ∀ c ∈ σ, isSurrogate c = true

instance (σ : Str) : Decidable (SurrOnly σ) := by unfold SurrOnly; infer_instance

namespace EmptyAuth

theorem surr_no58 {σ : Str} (h : SurrOnly σ) : 58 ∉ σ := fun h58 => by
  have := h 58 h58
  revert this; decide

/-- members of the form σ ++ "@" ++ hi, hi ∈ {"", ":"} -/
theorem member (σ hi : Str) (hσ : SurrOnly σ) (hhi : hi = [] ∨ hi = [58]) : NormalisesToEmpty (σ ++ 64 :: hi) := by
  have h64 : 64 ∉ hi := by rcases hhi with rfl | rfl <;> decide
  rw [nte_iff, userSplit_at σ hi h64, partition_notFound 58 σ (surr_no58 hσ)]
  simp only [Bool.false_eq_true, if_false]
  refine ⟨?_, ?_, any_real_false.mpr hσ, trivial, ?_⟩ <;> rcases hhi with rfl | rfl <;> decide

end EmptyAuth
open EmptyAuth

/-! ## (a) the class in closed form, every text -/

/-- GAPS 7: class (A) for EVERY authority text `n` (no hypothesis; in particular every Python string, lone surrogates
    allowed): the empty text, ":", and `σ@`, `σ@:` with σ a (possibly empty) string of lone surrogates only.  NOT
    members: a password of any kind ("σ:τ@", "σ:@", ":@"), a port text ("@:0"), a written user, a non-empty host. -/
theorem C09_normalises_to_empty_iff (n : Str) :
    NormalisesToEmpty n ↔
      (n = [] ∨ n = ":".toStr ∨ ∃ σ, SurrOnly σ ∧ (n = σ ++ "@".toStr ∨ n = σ ++ "@:".toStr)) := by
  constructor
  · exact shape
  · rintro (h | h | ⟨σ, hσ, h | h⟩)
    · subst h; decide
    · subst h; decide
    · subst h; exact member σ [] hσ (Or.inl rfl)
    · subst h; exact member σ [58] hσ (Or.inr rfl)

/-- the same for the NON-EMPTY texts (an input with an empty authority text caches nothing, so only these matter for
    the disagreement `C09_eager_ne_lazy_iff`); `C09_normalises_to_empty_ascii` is the case σ = "" -/
theorem C09_normalises_to_empty_iff_nonempty (n : Str) (hne : n ≠ []) :
    NormalisesToEmpty n ↔ (n = ":".toStr ∨ ∃ σ, SurrOnly σ ∧ (n = σ ++ "@".toStr ∨ n = σ ++ "@:".toStr)) := by
  rw [C09_normalises_to_empty_iff]
  constructor
  · rintro (h | h)
    · exact absurd h hne
    · exact h
  · exact Or.inr

/-- consistency with `C09_normalises_to_empty_ascii`: without lone surrogates σ is empty -/
theorem C09_normalises_to_empty_nosurr (n : Str) (hns : NoSurrogate n) :
    NormalisesToEmpty n ↔ (n = [] ∨ n = ":".toStr ∨ n = "@".toStr ∨ n = "@:".toStr) := by
  rw [C09_normalises_to_empty_iff]
  constructor
  · rintro (h | h | ⟨σ, hσ, h⟩)
    · exact Or.inl h
    · exact Or.inr (Or.inl h)
    · have hnil : σ = [] := by
        cases σ with
        | nil => rfl
        | cons c t =>
          have h1 : isSurrogate c = true := hσ c (by simp)
          have h2 : isSurrogate c = false := hns c (by rcases h with h | h <;> rw [h] <;> simp)
          rw [h1] at h2; cases h2
      subst hnil
      rcases h with h | h
      · exact Or.inr (Or.inr (Or.inl h))
      · exact Or.inr (Or.inr (Or.inr h))
  · rintro (h | h | h | h)
    · exact Or.inl h
    · exact Or.inr (Or.inl h)
    · exact Or.inr (Or.inr ⟨[], ⟨(fun c hc => nomatch hc), Or.inl h⟩⟩)
    · exact Or.inr (Or.inr ⟨[], ⟨(fun c hc => nomatch hc), Or.inr h⟩⟩)

/-- a password of ANY kind takes the text out of the class — also the empty one (":@", "σ:@") and one made of lone
    surrogates only ("σ:τ@"): for arbitrary σ, τ and any text `hi` after the last '@'.  (Port text, written user,
    non-empty host, '[' : computed examples in `C09_normalises_to_empty_computed_non_members`; in general by the iff.) -/
theorem C09_normalises_to_empty_non_members (σ τ hi : Str) (h64 : 64 ∉ hi) :
    ¬ NormalisesToEmpty (σ ++ 58 :: τ ++ 64 :: hi) := by
  intro h
  rw [nte_iff] at h
  have h4 := h.2.2.2.1
  have : σ ++ 58 :: τ ++ 64 :: hi = (σ ++ 58 :: τ) ++ 64 :: hi := by simp
  rw [this, userSplit_at _ hi h64] at h4
  simp only at h4
  have hf : (partition 58 (σ ++ 58 :: τ)).2.1 = true := by
    rw [ParseLemmas.partition_eq]; simp
  rw [hf] at h4
  cases h4

/-! ## (b) computed members and non-members (the class is a predicate on TEXT: no backend appears) -/

theorem C09_normalises_to_empty_members :
    NormalisesToEmpty ([0xDC80] ++ "@".toStr) ∧ NormalisesToEmpty ([0xDC80, 0xD800] ++ "@:".toStr) ∧
    NormalisesToEmpty ":".toStr ∧ NormalisesToEmpty "@".toStr ∧ NormalisesToEmpty "@:".toStr ∧
    NormalisesToEmpty [] := by decide +kernel

theorem C09_normalises_to_empty_computed_non_members :
    ¬ NormalisesToEmpty ([0xDC80] ++ ":@".toStr) ∧ ¬ NormalisesToEmpty ([0xDC80] ++ "@h".toStr) ∧
    ¬ NormalisesToEmpty "a@".toStr ∧ ¬ NormalisesToEmpty "@:0".toStr ∧ ¬ NormalisesToEmpty "[@".toStr ∧
    ¬ NormalisesToEmpty ([0xDC80] ++ ":".toStr ++ [0xDC81] ++ "@".toStr) ∧ ¬ NormalisesToEmpty ":@".toStr ∧
    ¬ NormalisesToEmpty "@[".toStr ∧ ¬ NormalisesToEmpty ([0xDC80] ++ "@@".toStr) := by decide +kernel

/-- the same members through the closed form (the witnesses σ) -/
example : SurrOnly [0xDC80] ∧ SurrOnly [0xDC80, 0xD800] ∧ SurrOnly [] ∧ ¬ SurrOnly "a".toStr := by decide +kernel
example : NormalisesToEmpty ([0xDC80, 0xD800] ++ "@:".toStr) :=
  (C09_normalises_to_empty_iff _).mpr (Or.inr (Or.inr ⟨[0xDC80, 0xD800], by decide +kernel, Or.inr rfl⟩))
/-- non-vacuity of `C09_normalises_to_empty_iff_nonempty`, `…_nosurr`, `…_non_members` -/
example : ([0xDC80] ++ "@".toStr : Str) ≠ [] := by decide +kernel
example : NoSurrogate "@:".toStr := by decide +kernel
example : ¬ NormalisesToEmpty ([0xDC80] ++ 58 :: [0xDC81] ++ 64 :: []) :=
  C09_normalises_to_empty_non_members [0xDC80] [0xDC81] [] (by decide +kernel)

/-! ## (c) the quoter on a user of lone surrogates only, both backends; evaluated disagreement, pure-Python backend -/

/-- a user made of lone surrogates only requotes to "" — EVERY environment, in particular both quoter backends
    (the class is stated on text through `userWritten`; this is the quoter fact that ties it to `encode_url`) -/
theorem C09_requote_surrogates_nil (e : Env) (σ : Str) (hpy : PyStr σ) (hσ : SurrOnly σ) :
    q e Gen.REQUOTER σ = [] := (quoter_eq_nil_iff mem_REQUOTER e σ hpy).mpr hσ

/-- … spelled out per backend -/
theorem C09_requote_surrogates_nil_backends (o : Oracles) (σ : Str) (hpy : PyStr σ) (hσ : SurrOnly σ) :
    q { b := .py, o := o } Gen.REQUOTER σ = [] ∧ q { b := .c, o := o } Gen.REQUOTER σ = [] :=
  ⟨C09_requote_surrogates_nil _ σ hpy hσ, C09_requote_surrogates_nil _ σ hpy hσ⟩

/-- `PyStr` is automatic: a lone surrogate is a code point -/
theorem C09_surrOnly_pyStr (σ : Str) (hσ : SurrOnly σ) : PyStr σ := by
  intro c hc
  have := hσ c hc
  unfold isSurrogate at this
  simp only [Bool.and_eq_true, decide_eq_true_eq] at this
  omega

/-- so: no side condition at all -/
theorem C09_requote_surrogates_nil' (e : Env) (σ : Str) (hσ : SurrOnly σ) : q e Gen.REQUOTER σ = [] :=
  C09_requote_surrogates_nil e σ (C09_surrOnly_pyStr σ hσ) hσ

example : q envPy Gen.REQUOTER [0xDC80, 0xD800] = [] ∧ q envC Gen.REQUOTER [0xDC80, 0xD800] = [] :=
  ⟨C09_requote_surrogates_nil' _ _ (by decide +kernel), C09_requote_surrogates_nil' _ _ (by decide +kernel)⟩

/-- pure-Python backend, NFKC oracle = identity (needed for any non-ASCII authority): `envC` with the other quoter -/
def envPyN : Env := { b := .py, o := { Oracles.empty with nfkc := fun s => some s } }

/-- GAPS 7 "STILL OPEN": the evaluated disagreement for "foo://\udc80@/x" on the PURE-PYTHON backend, same form as
    `C09_surrogate_user_empty_host_counterexample` (compiled backend): the stored netloc is empty, eager
    `raw_host = ""`, the restored URL reads `None`; the input is outside the guard. -/
theorem C09_surrogate_user_empty_host_py :
    eagerLazy envPyN ("foo://".toStr ++ [0xDC80] ++ "@/x".toStr) = .ok ([],
      some { rawHost := some [], explicitPort := none, rawUser := none, rawPassword := none },
      .ok { rawHost := none, explicitPort := none, rawUser := none, rawPassword := none }) ∧
    ¬ GoodAuthority envPyN ("foo://".toStr ++ [0xDC80] ++ "@/x".toStr) := by
  have h : eagerLazy envPyN ("foo://".toStr ++ [0xDC80] ++ "@/x".toStr) = .ok ([],
      some { rawHost := some [], explicitPort := none, rawUser := none, rawPassword := none },
      .ok { rawHost := none, explicitPort := none, rawUser := none, rawPassword := none }) := by decide +kernel
  exact ⟨h, C09_guard_excludes _ _ _ _ _ h (by decide +kernel)⟩

/-- the other computed members of (b), on BOTH backends: "σ@:" with two surrogates disagrees the same way -/
theorem C09_surrogate_user_empty_host_both_backends :
    ∀ e ∈ [envPyN, envC], ∀ s ∈ ["foo://".toStr ++ [0xDC80] ++ "@/x".toStr,
                                  "foo://".toStr ++ [0xDC80, 0xD800] ++ "@:/x".toStr],
      eagerLazy e s = .ok ([],
        some { rawHost := some [], explicitPort := none, rawUser := none, rawPassword := none },
        .ok { rawHost := none, explicitPort := none, rawUser := none, rawPassword := none }) := by
  decide +kernel

/-- … and the computed NON-members agree on both backends: an (empty) password behind a surrogate user, a non-empty
    host behind a surrogate user -/
theorem C09_surrogate_non_members_agree_both_backends :
    ∀ e ∈ [envPyN, envC],
      eagerLazy e ("foo://".toStr ++ [0xDC80] ++ ":@/x".toStr) = .ok (":@".toStr,
        some { rawHost := some [], explicitPort := none, rawUser := none, rawPassword := some [] },
        .ok { rawHost := some [], explicitPort := none, rawUser := none, rawPassword := some [] }) ∧
      eagerLazy e ("foo://".toStr ++ [0xDC80] ++ "@h/x".toStr) = .ok ("h".toStr,
        some { rawHost := some "h".toStr, explicitPort := none, rawUser := none, rawPassword := none },
        .ok { rawHost := some "h".toStr, explicitPort := none, rawUser := none, rawPassword := none }) := by
  decide +kernel

end Yarl
