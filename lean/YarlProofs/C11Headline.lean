import YarlProofs.Lemmas.HeadlineAux
import YarlProofs.Lemmas.DecLemmas
import YarlProofs.C11
import YarlProofs.C17
import YarlProofs.C09
/-!
# C11 — Every modifier changes only its own component   (audit layer)

Continued in C11HeadlineMore.lean (theorems that need modules which import this file): the authority modifiers
on URLs WITH a pre-filled cache, on constructor / `build` results and on every URL satisfying the invariant
`NetlocCanon` (C11Ctor.lean, C03Netloc.lean).
Continued in C11HeadlineMore3.lean (GAPS 2: the authority modifiers and `origin()` on URLs whose stored authority is
ARBITRARY text — `encoded=True` — and all of C11 over `ReachE`, the closure of all entry points; C11Encoded.lean,
C11ReachE.lean).

Property statement (verbatim):

> with_scheme, with_user, with_password, with_host, with_port, with_fragment and the query operations
> return a URL in which the targeted component reads back as the canonicalised argument and every other
> raw component - including IPv6 brackets, an explicit port and an empty-vs-absent password - is
> unchanged (with_user(None) also drops the password, as documented). with_path, with_name, with_suffix,
> /, joinpath and parent keep scheme and authority and clear query and fragment unless
> keep_query/keep_fragment is given; origin() keeps only scheme, host and port and relative() only path,
> query and fragment.

Reading guide.  `Written qf u user pw h port` (Lemmas/HeadlineAux.lean) says: `u` has no pre-filled
constructor cache and its stored authority is the text `make_netloc` writes for `(user, pw, h, port)`,
with `h` in brackets iff it contains ':' (so `h = "::1"` is the IPv6 case, `pw = some []` the
empty-password case, `port = some 0` the zero-port case).  `rawUser`, `rawPassword`, `rawHost`,
`explicitPort` are the raw accessors; `q e Gen.QUOTER` is the userinfo quoter.
Continued further in C11HeadlineMore4.lean (headline theorems for the proof modules added after the last refresh:
C11More.lean; the GAPS block below cites them).
-/
namespace Yarl
open NetlocLemmas HeadB

/-! ## Sentence 1 — the component modifiers -/

/-- "with_scheme … the targeted component reads back as the canonicalised argument [lower-cased] and
    every other raw component is unchanged".  (The authority is the same stored text, so all four
    authority components are unchanged.)  No guard. -/
theorem C11_headline_with_scheme (e : Env) (u v : Url) (s : Str) (hv : withScheme e u s = .ok v) :
    lowerAny e s = .ok v.scheme ∧ (isAscii s = true → v.scheme = lower s) ∧
    v.netloc = u.netloc ∧ v.path = u.path ∧ v.query = u.query ∧ v.fragment = u.fragment :=
  C11_with_scheme e u v s hv

/-- "with_user … reads back as the canonicalised argument and every other raw component - including
    IPv6 brackets, an explicit port and an empty-vs-absent password - is unchanged". -/
theorem C11_headline_with_user (e : Env) (qf : Str → Str) (u : Url) (user pw : Option Str) (h : Str)
    (port : Option Nat) (s : Str)
    (w : Written qf u user pw h port)
    -- `s` is a Python string (code points ≤ 0x10FFFF): then the quoter output has no ':' (`quoter_no_colon`)
    (hs : PyStr s)
    -- excludes `with_user("")` and a user made of lone surrogates only, which quote to "": the user is
    -- then DROPPED, not set to "" — see `C11_headline_with_user_fails_for_empty`
    (hq1 : q e Gen.QUOTER s ≠ []) :
    ∃ v, withUser e u (some s) = .ok v ∧ rawUser e v = .ok (some (q e Gen.QUOTER s)) ∧
         rawPassword e v = .ok pw ∧ rawHost e v = .ok (some h) ∧ explicitPort e v = .ok port ∧
         v.scheme = u.scheme ∧ v.path = u.path ∧ v.query = u.query ∧ v.fragment = u.fragment := by
  rw [w.eq]
  exact C11_with_user e qf user pw h port _ _ _ _ s w.user w.host w.port hq1 (DecLemmas.quoter_no_colon e.b s hs)

private def e0 : Env := { b := .py, o := Oracles.empty }
private def u0 : Url :=
  fromParts "http".toStr (makeNetloc id (some "me".toStr) (some "pw".toStr) (some (bracket "::1".toStr)) (some 8080) false)
    "/p".toStr "k=v".toStr "f".toStr

/-- the guard `hq1` is needed: `with_user("")` does not store an empty user, it removes the user and
    keeps the password (`http://me:pw@[::1]:8080` ↦ `http://:pw@[::1]:8080`, user reads back `None`) -/
theorem C11_headline_with_user_fails_for_empty :
    (withUser e0 u0 (some [])).map (·.netloc) = .ok ":pw@[::1]:8080".toStr ∧
    (withUser e0 u0 (some [])).bind (rawUser e0) = .ok none := by
  decide +kernel

/-- "(with_user(None) also drops the password, as documented)"; host (brackets) and port are kept -/
theorem C11_headline_with_user_none (e : Env) (qf : Str → Str) (u : Url) (user pw : Option Str) (h : Str)
    (port : Option Nat) (w : Written qf u user pw h port) :
    ∃ v, withUser e u none = .ok v ∧ rawUser e v = .ok none ∧ rawPassword e v = .ok none ∧
         rawHost e v = .ok (some h) ∧ explicitPort e v = .ok port ∧
         v.scheme = u.scheme ∧ v.path = u.path ∧ v.query = u.query ∧ v.fragment = u.fragment := by
  rw [w.eq]
  exact C11_with_user_none e qf user pw h port _ _ _ _ w.user w.host w.port

/-- "with_password …": `np = some p` sets `QUOTER p` — `some []` for the empty password, which is
    distinct from `none` — and `np = none` clears it; user, host, port, other parts unchanged.  No guard. -/
theorem C11_headline_with_password (e : Env) (qf : Str → Str) (u : Url) (user pw : Option Str) (h : Str)
    (port : Option Nat) (np : Option Str) (w : Written qf u user pw h port) :
    ∃ v, withPassword e u np = .ok v ∧ rawPassword e v = .ok (np.map (q e Gen.QUOTER)) ∧
         rawUser e v = .ok user ∧ rawHost e v = .ok (some h) ∧ explicitPort e v = .ok port ∧
         v.scheme = u.scheme ∧ v.path = u.path ∧ v.query = u.query ∧ v.fragment = u.fragment := by
  rw [w.eq]
  exact C11_with_password e qf user pw h port _ _ _ _ np w.user w.host w.port

/-- "with_host … reads back as the canonicalised argument": `eh = _encode_host(hs)` is the
    canonicalisation (C16), stored without the brackets of an IP literal (`unbracket`). -/
theorem C11_headline_with_host (e : Env) (qf : Str → Str) (u : Url) (user pw : Option Str) (h : Str)
    (port : Option Nat) (hs eh : Str) (w : Written qf u user pw h port)
    -- `with_host("")` is rejected (`C11_with_host_rejects`)
    (hs_ne : hs ≠ [])
    (henc : encodeHost e.o hs true = .ok eh)
    -- excludes an IDNA oracle answering "" for a non-empty non-ASCII host (cannot happen with the real
    -- `idna` package); no other condition since the zone-id fix (`C11_with_host_zone_rejected`)
    (heh : eh ≠ []) :
    ∃ v, withHost e u hs = .ok v ∧ rawHost e v = .ok (some (unbracket eh)) ∧
         rawUser e v = .ok user ∧ rawPassword e v = .ok pw ∧ explicitPort e v = .ok port ∧
         v.scheme = u.scheme ∧ v.path = u.path ∧ v.query = u.query ∧ v.fragment = u.fragment := by
  rw [w.eq]
  exact C11_with_host_validated e qf user pw h port _ _ _ _ hs eh w.user w.host w.port hs_ne henc heh

/-- `with_host("")` and `with_host` on a URL without authority raise ValueError -/
theorem C11_headline_with_host_rejects (e : Env) (u : Url) (hs : Str) :
    (u.netloc = [] → withHost e u hs = .error .valueError) ∧
    (hs = [] → withHost e u hs = .error .valueError) :=
  C11_with_host_rejects e u hs

/-- "with_port …": `np = some p` (0 ≤ p ≤ 65535, 0 included) sets the port, `np = none` clears it; user,
    password (empty vs absent), host (brackets) and the other parts are unchanged.
    -- Appendix E: C11_with_port ↦ this theorem (= C17_with_port_sets + C17_with_port_clears);
    --   `NetlocWF u` became `Written qf u user pw h port`. -/
theorem C11_headline_with_port (e : Env) (qf : Str → Str) (u : Url) (user pw : Option Str) (h : Str)
    (port0 : Option Nat) (np : Option Int) (w : Written qf u user pw h port0)
    -- out-of-range ints, bools and non-ints are rejected: C17 (`C17_with_port_rejects`)
    (hnp : ∀ p, np = some p → 0 ≤ p ∧ p ≤ 65535) :
    ∃ v, withPort e u np 0 = .ok v ∧ explicitPort e v = .ok (np.map Int.toNat) ∧
         rawUser e v = .ok user ∧ rawPassword e v = .ok pw ∧ rawHost e v = .ok (some h) ∧
         v.scheme = u.scheme ∧ v.path = u.path ∧ v.query = u.query ∧ v.fragment = u.fragment := by
  rw [w.eq]
  cases np with
  | none => exact C17_with_port_clears e qf user pw h port0 _ _ _ _ w.user w.host w.port
  | some p => exact C17_with_port_sets e qf user pw h port0 _ _ _ _ p w.user w.host w.port (hnp p rfl)

/-- "with_fragment …": the fragment is the `FRAGMENT_QUOTER` output (`None` ↦ ""), nothing else changes -/
theorem C11_headline_with_fragment (e : Env) (u : Url) (f : Option Str) :
    (withFragment e u f).scheme = u.scheme ∧ (withFragment e u f).netloc = u.netloc ∧
    (withFragment e u f).path = u.path ∧ (withFragment e u f).query = u.query ∧
    (withFragment e u f).fragment = (match f with | none => [] | some s => q e Gen.FRAGMENT_QUOTER s) :=
  C11_with_fragment e u f

/-- "the query operations … every other raw component is unchanged" (what the query BECOMES is C12:
    `C12_headline_*`) -/
theorem C11_headline_query_ops (e : Env) (u v : Url) (a : QArg) (names : List Str) :
    (withQuery e u a = .ok v ∨ extendQuery e u a = .ok v ∨ updateQuery e u a = .ok v ∨
      withoutQueryParams e u names = .ok v) →
    v.scheme = u.scheme ∧ v.netloc = u.netloc ∧ v.path = u.path ∧ v.fragment = u.fragment := by
  rintro (hv | hv | hv | hv)
  · exact C11_with_query_frame e u v a hv
  · exact C11_extend_query_frame e u v a hv
  · exact C11_update_query_frame e u v a hv
  · -- `without_query_params` is `with_query` of the filtered pairs, or the URL itself
    unfold withoutQueryParams at hv
    simp only at hv
    split at hv
    · cases hv; exact ⟨rfl, rfl, rfl, rfl⟩
    · exact C11_with_query_frame e u v _ hv

/-! ## Sentence 2 — the path modifiers -/

/-- "with_path … keep[s] scheme and authority and clear[s] query and fragment unless
    keep_query/keep_fragment is given" -/
theorem C11_headline_with_path (e : Env) (u : Url) (p : Str) (encoded keepQuery keepFragment : Bool) :
    (withPath e u p encoded keepQuery keepFragment).scheme = u.scheme ∧
    (withPath e u p encoded keepQuery keepFragment).netloc = u.netloc ∧
    (withPath e u p encoded keepQuery keepFragment).query = (if keepQuery then u.query else []) ∧
    (withPath e u p encoded keepQuery keepFragment).fragment = (if keepFragment then u.fragment else []) :=
  C11_with_path_frame e u p encoded keepQuery keepFragment

/-- "with_name, with_suffix …" the same -/
theorem C11_headline_with_name_suffix (e : Env) (u v : Url) (x : Str) (keepQuery keepFragment : Bool)
    (hv : withName e u x keepQuery keepFragment = .ok v ∨ withSuffix e u x keepQuery keepFragment = .ok v) :
    v.scheme = u.scheme ∧ v.netloc = u.netloc ∧
    v.query = (if keepQuery then u.query else []) ∧ v.fragment = (if keepFragment then u.fragment else []) := by
  rcases hv with hv | hv
  · exact C11_with_name_frame e u v x keepQuery keepFragment hv
  · exact C11_with_suffix_frame e u v x keepQuery keepFragment hv

/-- "/, joinpath …" (`u / s` is `makeChild e u [s] false`, `u.joinpath(*ps, encoded=b)` is
    `makeChild e u ps b`; these two have no keep flags) -/
theorem C11_headline_joinpath (e : Env) (u v : Url) (paths : List Str) (encoded : Bool)
    (hv : makeChild e u paths encoded = .ok v) :
    v.scheme = u.scheme ∧ v.netloc = u.netloc ∧ v.query = [] ∧ v.fragment = [] :=
  C11_make_child_frame e u v paths encoded hv

/-- "… and parent" -/
theorem C11_headline_parent (u : Url) :
    (parent u).scheme = u.scheme ∧ (parent u).netloc = u.netloc ∧
    (parent u).query = [] ∧ (parent u).fragment = [] :=
  C11_parent_frame u

/-! ## Sentence 3 — origin and relative -/

/-- "origin() keeps only scheme, host and port" -/
theorem C11_headline_origin (e : Env) (qf : Str → Str) (u : Url) (user pw : Option Str) (h : Str)
    (port : Option Nat) (w : Written qf u user pw h port)
    -- `origin()` of a URL without scheme raises ValueError (`C11_origin_frame`)
    (hsch : u.scheme ≠ []) :
    ∃ v, origin e u = .ok v ∧ v.scheme = u.scheme ∧ rawHost e v = .ok (some h) ∧ explicitPort e v = .ok port ∧
      rawUser e v = .ok none ∧ rawPassword e v = .ok none ∧ 64 ∉ v.netloc ∧
      v.path = [] ∧ v.query = [] ∧ v.fragment = [] := by
  have h0 := C11_origin e qf user pw h port u.scheme u.path u.query u.fragment w.user w.host w.port hsch
  rw [← w.eq] at h0
  exact ⟨_, h0.1, rfl, h0.2.2.2.2.1, h0.2.2.2.2.2, h0.2.2.1, h0.2.2.2.1, h0.2.1, rfl, rfl, rfl⟩

/-- `origin()` for ANY url: needs an authority and a scheme; a result has the scheme and empty
    path, query and fragment -/
theorem C11_headline_origin_any (e : Env) (u : Url) :
    (u.netloc = [] → origin e u = .error .valueError) ∧
    (u.scheme = [] → origin e u = .error .valueError) ∧
    (∀ v, origin e u = .ok v → v.scheme = u.scheme ∧ v.path = [] ∧ v.query = [] ∧ v.fragment = []) :=
  C11_origin_frame e u

/-- "relative() [keeps] only path, query and fragment" (and raises ValueError without an authority) -/
theorem C11_headline_relative (u : Url) :
    (u.netloc = [] → relative u = .error .valueError) ∧
    (u.netloc ≠ [] → relative u = .ok (fromParts [] [] u.path u.query u.fragment)) ∧
    (∀ v, relative u = .ok v →
      v.scheme = [] ∧ v.netloc = [] ∧ v.path = u.path ∧ v.query = u.query ∧ v.fragment = u.fragment) :=
  C11_relative u

/-! ## non-vacuity: IPv6 brackets, explicit port, empty password -/
example : Written id u0 (some "me".toStr) (some "pw".toStr) "::1".toStr (some 8080) :=
  ⟨rfl, rfl, by decide +kernel, by decide +kernel, by decide +kernel⟩
example : (withPassword e0 u0 (some [])).map (·.netloc) = .ok "me:@[::1]:8080".toStr := by decide +kernel
example : (withPort e0 u0 (some 0) 0).map (·.netloc) = .ok "me:pw@[::1]:0".toStr := by decide +kernel
example : PyStr "a b".toStr ∧ q e0 Gen.QUOTER "a b".toStr ≠ [] := by decide +kernel

/-
GAPS:
 1. CLOSED by C11_netlocCanon_view / C11_cached_* / C11_netlocCanon_modifiers (C11Ctor.lean) with
    C03_encodeUrl_netlocCanon / C03_build_netlocCanon / C03_applyOp_netlocCanon (C03Netloc.lean, C03Reach.lean),
    see (all in C11HeadlineMore.lean) C11_headline_cache_agrees, C11_headline_cached_modifiers,
    C11_headline_written_of_invariant, C11_headline_invariant_of_ctor / _of_build / _kept,
    C11_headline_invariant_modifiers, C11_headline_ctor_modifiers, C11_headline_build_modifiers.
    Proved: (a) for a URL WITH a pre-filled cache that agrees with the stored text
    (`net e (pickleTwin u) = net e u`: holds for a constructor result under the C09 guard `GoodAuthority`, and for
    every URL with `NetlocCanon`) and whose cache-less twin is `Written`, with_user / with_user(None) /
    with_password / with_host / with_port / origin satisfy exactly the statements of this file, about `u` itself;
    (b) `NetlocCanon e u` with a non-empty authority IMPLIES `Written id (pickleTwin u) user pw h port`, the four
    components being the raw accessors of `u`; (c) `NetlocCanon` holds for `URL(s)` (Python string `s` whose
    authority names a supported ASCII host: `AuthInput`) and for `build(encoded=False)` (`BuildNetOK`), and is
    kept by every operation and by join; hence (d) sentence 1 and origin() hold end to end for such constructor /
    build results and everything derived from them.  What remains open is item 8.
 2. Authorities NOT in that form (accepted verbatim by `encoded=True` / `build(authority=…, encoded=True)`,
    e.g. an empty host "user@:80", an empty user in front of a password ":pw@h", upper-case or
    non-canonical text).
    CLOSED — with the clause proved FALSE in two corners — by C11_arbitrary_authority_accessors, _modifiers,
    _rebuilt_net, _frame_with_user, _frame_with_user_none, _frame_with_password, _frame_with_port, _frame_with_host,
    _frame_origin, _split_fails (+ witnesses _frame_fails_for_bracket_in_host, _frame_fails_for_nothing_left,
    _text_normalisations, _running_example, _split_fails_instance; C11Encoded.lean) and C11_reachE_frame,
    C11_reachE_cache_agrees, C11_reachE_authority_frame, C11_reachE_authority_frame_fails_for, C11_reachE_split_fails
    (C11ReachE.lean, over `ReachE` = the closure of ALL entry points incl. `encoded=True`, ReachE.lean), see (all in
    C11HeadlineMore3.lean) C11_headline_arbitrary_authority_accessors, _exact_results, _with_user, _with_user_none,
    _with_password, _with_port, _with_host, _origin, _fails_for_bracket_in_host, _fails_for_nothing_left,
    _text_normalised, _split_fails, C11_headline_reachE_contains_every_record, C11_headline_reachE_frame,
    C11_headline_reachE_cache_agrees, C11_headline_reachE_authority_frame, C11_headline_reachE_authority_frame_fails_for,
    C11_headline_reachE_split_fails.
    Proved: for a URL WITHOUT pre-filled cache whose non-empty stored authority is ANY text `split_netloc` accepts
    (answer `np`): (a) the raw accessors are the fields of `np`; (b) the EXACT stored result of with_user /
    with_user(None) / with_password / with_host / with_port / origin() (error cases included); (c) the frame in RELATIVE
    form — the targeted component reads back as the quoted / encoded argument and every other authority accessor
    (raw_user, raw_password, raw_host, explicit_port, host_subcomponent) reads THE SAME AS ON `u`, scheme / path / query /
    fragment are copied — under the hypothesis "not (E1)" and with the exception (E2) written into the conclusions;
    (d) if `split_netloc` REJECTS the stored text (port text "99999"), every authority modifier and `str()` fail, except
    `origin()` on an authority without '@', which succeeds with an unprintable result.  Over `ReachE` (cache or not):
    the frame on the five stored parts for EVERY modifier in every `encoded` mode with no hypothesis at all
    (C11_headline_reachE_frame), and (c) for with_user / with_user(None) / with_password / with_port / with_host
    (C11_headline_reachE_authority_frame).
    Hypotheses: `u.pre = none` (C11Encoded.lean) resp. `ReachE e u` plus "IF `u` is a constructor result `URL(s)`, `s`
    is inside the C09 guard `GoodAuthority`" (C11ReachE.lean; vacuous for cache-less URLs); `u.netloc ≠ []`;
    `split_netloc` accepts the stored text; not (E1); for with_user the guards of item 3, for with_host those of item 4.
    FALSE (witness theorems; both corners are reached through `encoded=True` and lie inside `ReachE`):
    (E1) host text with '[' but no ':' — `URL.build(scheme='http', authority='[a[b]', path='/p', encoded=True)` has
    raw_host 'a[b', after `.with_user('u')` raw_host is 'b' (C11_headline_arbitrary_authority_fails_for_bracket_in_host,
    C11_headline_reachE_authority_frame_fails_for); (E2) nothing left to write — `URL('http://@/p', encoded=True)` has
    raw_host '', after `.with_port(None)` / `.with_user(None)` / `.with_password(None)` the authority is EMPTY and
    raw_host is None (C11_headline_arbitrary_authority_fails_for_nothing_left).  Also NOT kept: the stored TEXT of the
    authority (port text "080" → "80", junk around brackets dropped, brackets around a host without ':' dropped, no
    lower-casing) — only the accessors are (C11_headline_arbitrary_authority_text_normalised).  What remains: item 9.
 3. with_user: the argument is assumed a Python string with a non-empty quoted form; with_user("") is
    shown to DROP the user (C11_headline_with_user_fails_for_empty) — the property text does not say so.
    CLOSED by C11_quoter_empty_iff, C11_with_user_empty, C11_with_user_empty_invariant, C11_with_user_empty_instance,
    C11_authority_modifiers_need_authority, C11_dyn_authority_modifiers_need_authority, C11_relative_instances
    (C11More.lean), see C11_headline_with_user_empty, C11_headline_with_user_empty_instance,
    C11_headline_authority_modifiers_need_authority, C11_headline_dyn_authority_modifiers_need_authority
    (C11HeadlineMore4.lean).  Proved: for a Python string `x` the quoted form is "" IFF every character of `x` is a lone
    surrogate (in particular `x = ""`); on a `Written` URL `with_user(x)` with quoted form "" DROPS the user, KEEPS the
    password, host (brackets), port and the other four parts; the stored authority is `make_netloc(None, pw, host,
    port)`, the result is `Written` and satisfies sentence 1 again (`C11_AuthorityModifiersOK`); it differs from
    `with_user(None)` iff there is a password.  The same conjunct is part of `C11_AuthorityModifiersOK` for URLs with a
    consistent cache / with `NetlocCanon` / with given components (item 8), and `NetlocCanon` is kept.  On a URL WITHOUT
    authority with_user / with_password / with_host / with_port / origin() raise ValueError unconditionally (with_port:
    TypeError first for a non-int argument).  The property text still does not SAY that "" drops the user (an
    observation about the text, not a defect).  MODEL-LEVEL only: the statement for arguments of any Python type
    (`dynWith…` of YarlModel/Dyn.lean, a hand transcription; see item 10).
 4. with_host: "reads back as the canonicalised argument" is relative to `encodeHost` (C16 says what that
    is); the case "IDNA oracle returns the empty string" (`eh = []`) is excluded, not analysed.
    CLOSED by C11_hostSet_of_enc, C11_with_host_name, C11_with_host_ipv4, C11_with_host_ipv6, C11_with_host_ipv6_zone,
    C11_with_host_ipv4_zone, C11_with_host_rejects_char, C11_with_host_answer_nonempty, C11_with_host_empty_answer,
    C11_with_host_instances, C11_with_host_empty_answer_instance (C11More.lean), see
    C11_headline_with_host_argument_kinds, C11_headline_with_host_stored_text, C11_headline_with_host_rejects_char,
    C11_headline_with_host_answer_nonempty, C11_headline_with_host_empty_answer (C11HeadlineMore4.lean).  Proved, on a
    `Written` URL, in terms of the argument TEXT: an ASCII non-IP name is stored lower-cased, or rejected (ValueError)
    iff the reg-name screen `notRegName (lower hs)` fires; an IPv4 literal is kept; an IPv6 literal (written WITHOUT
    brackets) is stored `[compressed]` and `raw_host` reads `compressed`; with a zone id the zone is copied verbatim, or
    the call is rejected iff the zone fails the screen; every ASCII non-IP argument with a character outside the
    reg-name alphabet (each of `: / ? # [ ] @` and the space among them) is rejected — so "a:b" and a BRACKETED "[::1]"
    are rejected.  The guard `eh ≠ ""` holds for every ASCII argument, and for a non-ASCII one under the ASSUMPTION
    `IdnaSaneAt`.  The excluded case is analysed as HYPOTHETICAL (an `idna` answer ""; not observed — the real codecs
    raise): `with_host` then succeeds with an EMPTY host, `raw_host` reads "" — or `None` with an EMPTY authority when
    there is no user, password or port.  STILL relative to `encodeHost` for NON-ASCII arguments (the IDNA answer is an
    oracle value).
 5. PARTLY CLOSED by C11_cached_with_scheme / C11_ctor_with_scheme (C11Ctor.lean), see
    C11_headline_with_scheme_accessors, C11_headline_ctor_with_scheme_accessors (C11HeadlineMore.lean).
    Proved: with_scheme leaves raw_user, raw_password, raw_host, explicit_port, host_subcomponent, user, password
    and host unchanged (as `R` values) also on a URL with a pre-filled cache, provided the cache agrees with the
    stored text (constructor result under `GoodAuthority`; any URL with `NetlocCanon`).  Remains open: for a
    non-ASCII scheme the lower-casing is an oracle call (`lowerAny`); only the ASCII case is pinned to `lower s`.
 6. Query operations: only the frame (other four parts unchanged) is here; "reads back as the
    canonicalised argument" is C12.  with_fragment/with_path: that the new component is the QUOTER
    output is stated; that it "reads back" decoded is C06.
    CLOSED by C11_with_query_reads_back, C11_extend_query_reads_back, C11_update_query_reads_back,
    C11_without_query_params_reads_back, C11_with_fragment_reads_back, C11_with_path_reads_back (C11More.lean — it
    imports C12Headline.lean and C06Headline.lean), see C11_headline_with_query_reads_back,
    C11_headline_extend_query_reads_back, C11_headline_update_and_without_read_back,
    C11_headline_with_fragment_and_path_read_back (C11HeadlineMore4.lean).  Proved: frame AND read-back in one
    statement — the result's pairs are the argument's pairs (with_query), old pairs ++ argument's (extend_query),
    `mdUpdate` of the old pairs (update_query) resp. the old pairs without the named keys, AND `C11_QueryFrame` (stored
    path and fragment, scheme and stored authority text kept, the 12 authority accessors as on the cache-less twin of
    `u`); with_fragment reads back DECODED as the argument, with_path (auto-encoding) as the argument made absolute.
    Hypotheses are those of C12 / C06: `GoodPairs` / `GoodText` / `NoSurrogate` of the argument (lone surrogates are
    dropped by the quoter), `GoodPairs (queryPairs u)` for update_query / without_query_params, for with_path on a URL
    with authority no "." / ".." segment; "replaces all pairs" of update_query is only as good as `mdUpdate`
    (F-C12-multidict-tail, C12Headline.lean GAPS 5).
 7. with_path/with_name/with_suffix//, joinpath, parent: "keep authority" is equality of the stored netloc
    text; no statement for the `encoded=True` variants beyond with_path and makeChild (with_name /
    with_suffix have no encoded flag in the model).  (Restated, unchanged in content, for every URL of `ReachE` and
    both `encoded` modes of with_path / joinpath in C11_reachE_frame, C11ReachE.lean; see C11_headline_reachE_frame,
    C11HeadlineMore3.lean.)
    CLOSED by C11_path_modifiers_keep_authority (C11More.lean), see C11_headline_path_modifiers_keep_authority,
    C11_headline_frames_def (C11HeadlineMore4.lean).  Proved, with NO hypothesis: with_path (both `encoded`), with_name,
    with_suffix, `/` and joinpath (both `encoded`), parent satisfy `C11_PathFrame` — scheme and stored authority text
    equal, the result is `u` itself or has no cache, the 12 authority-derived accessors read as on the cache-less twin
    of `u` and hence as on `u` WHEN `u`'s cache agrees with its text, query / fragment cleared unless kept.  The
    remark "with_name / with_suffix have no encoded flag in the model" is moot: the library has none either (signature
    quoted in C11More.lean from yarl/_url.py; read, not proved).  The cache-agreement condition is item 10 (c).
 8. (new) Side conditions of the theorems that close 1.  `AuthInput` / `BuildNetOK` cover ASCII hosts of the
    supported kinds only (name / IPv4 text of visible ASCII without `/ ? # @ [ ] :`, IPv6 literal with optional
    zone id, not a bracketed non-IPv6 host).  For an IDN host `NetlocCanon` of the constructor result is
    C03_idn_netlocCanon_ctor (C03Idn.lean: one URL shape `scheme://host/path#fragment`, under the assumption
    `IdnaSaneAt` on the answers of the `idna` package); IPvFuture literals ("[v1.x]"), bracketed IPv4 and an
    empty host ("foo://user@:80") have no derivation of `NetlocCanon` — for them only route (a) of item 1 is
    available, with `Written` checked on the concrete result.  `GoodAuthority` (route (a) for constructor results)
    is derived from input conditions by C11_ctor_good_authority (ASCII host text without '[') and
    C09_good_authority_of; it is not a theorem for every accepted input.  `C11_headline_invariant_kept` asks
    `op.NetArgs`: a with_host argument must encode to a fixed point of `_encode_host` (proved for every non-empty
    ASCII argument, C03_withHost_netArgs, and for IDN arguments under `IdnaSaneAt`, C03_idn_withHost_netArgs).
    (Since C11ReachE.lean there is a third route for the shapes without a derivation of `NetlocCanon` — IPvFuture,
    bracketed IPv4, empty host: the RELATIVE frame C11_headline_reachE_authority_frame (C11HeadlineMore3.lean) needs
    neither `NetlocCanon` nor `Written`, only — for a constructor result — `GoodAuthority` of the input, that
    `split_netloc` accepts the stored authority, and "not (E1)"; it does not include origin().)
    PARTLY CLOSED by C11_modifiers_of_components, C11_modifiers_of_written, C11_modifiers_of_cached_written,
    C11_modifiers_of_invariant, C11_ctor_modifiers_of_cached_host, C11_bracket_modifiers, C11_bracket_ctor_modifiers,
    C11_bracket_instances, C11_idn_ctor_modifiers, C11_empty_host_ctor_in_scope, C11_empty_host_instances
    (C11More.lean), C11_cached_arbitrary_authority (C11Encoded.lean), see C11_headline_modifiers_of_components,
    C11_headline_ctor_modifiers_of_cached_host, C11_headline_bracket_ctor_modifiers, C11_headline_bracket_instances,
    C11_headline_idn_ctor_modifiers, C11_headline_empty_host_ctor_in_scope,
    C11_headline_cached_arbitrary_authority_with_user_none, C11_headline_empty_host_instances (C11HeadlineMore4.lean).
    Proved: (a) THE GENERAL THEOREM — if `net e u` (the cache when filled, else the lazy parse) is `(user, pw, h, port)`
    with `UserOK user`, `HostOK h` (non-empty, no '@' '[' ']'), port ≤ 65535 and a non-empty authority, sentence 1 holds
    for all five authority modifiers whatever the stored TEXT is — no `Written`, no `GoodAuthority`, no `AuthInput`;
    (b) for `u = URL(s)` from the cached raw host alone (`HostOK rh`); (c) IPvFuture / bracketed non-IPv6 hosts from the
    input (`BracketTextIn T`, host part written in brackets, lower-cased text passes the bracket check); (d) IDN hosts
    of ANY URL shape under `IdnaSaneAt`; (e) the empty host ("foo://user@:80/") through the relative frames with the
    exception (E2).  DEVIATION kept on record (computed): `URL("foo://user@/").with_user(None)` is `URL("foo:/")` —
    `raw_host` "" becomes `None`.  NEGATIVE about the stored TEXT (computed; the clause is about RAW components and
    holds): after an authority modifier the brackets of an IPvFuture literal without ':' are gone —
    "http://[v1.x]:8080/" ↦ "http://v1.x:81/".  STILL OPEN: `op.NetArgs` / `NetlocCanon` side conditions of the older
    theorems are unchanged; a host text with '[' inside (`¬ HostOK`) is F-C11-bracket / (E1), item 10.
 9. NEW.  Side conditions of the theorems that close 2, discharged by no theorem.  (a) `hs`: that `split_netloc` accepts
    the stored authority is a hypothesis on the concrete text (decidable; the rejected case is
    C11_headline_arbitrary_authority_split_fails); (b) "not (E1)" and the (E2) branch are conditions on the `split_netloc`
    answer `np`, not on the input of the entry point — there is no theorem "inputs of such-and-such form never give
    (E1)/(E2)" beyond the remark (C11ReachE.lean, not proved) that the auto-encoding entry points never store such an
    authority; (c) `hg` of the `ReachE` theorems (`GoodAuthority` for constructor results with a cache) is the open part
    of item 8; (d) origin() on an arbitrary authority is proved for cache-less URLs only
    (C11_headline_arbitrary_authority_origin), it is not part of C11_headline_reachE_authority_frame; for with_host the
    `ReachE` theorem states `host_subcomponent` = the encoded argument, `raw_host = unbracket eh` only in the cache-less
    theorem; (e) the frames are RELATIVE ("reads as on `u`") — what the components ARE is (a) of item 2, i.e. the
    `Rfc.authoritySplit` reading of the text (C07), not a `Written` quadruple; (f) `ReachE` contains EVERY cache-less
    record of five Python strings (C11_headline_reachE_contains_every_record), so `hr : ReachE e u` carries no
    information about the stored authority (C11_reachE_frame does not use it); URLs WITH a hand-made inconsistent cache
    are outside `ReachE` and remain uncovered (C03_inconsistent_cache_counterexample).
10.  NEW.  What C11More.lean adds to the trusted reading, and KNOWN FINDING F-C11-bracket.  (a)
    `C11_AuthorityModifiersOK`, `C11_HostSet`, `C11_SameAuthority`, `C11_KeepsAuthority`, `C11_QueryFrame`,
    `C11_PathFrame` are `Prop`-valued abbreviations whose reading must be trusted; they are spelled out by `Iff.rfl` in
    C11_headline_frames_def and C11_headline_authority_modifiers_ok_def.  (b)
    C11_headline_dyn_authority_modifiers_need_authority is MODEL-LEVEL: `dynWithUser` … of YarlModel/Dyn.lean are a hand
    transcription of the `isinstance` gates, tied to CPython by probe rows only (as C12Headline.lean GAPS 10 (a)).  (c)
    `C11_KeepsAuthority e u v` gives "the authority accessors of `v` read as on `u`" only under `net e (pickleTwin u) =
    net e u` (the cache of `u` agrees with its stored text; trivial for cache-less `u`).  For a constructor result with
    an ASCII host text this holds IF AND ONLY IF `AgreeB` of the authority text of the input
    (C11_headline_ctor_cache_agrees_iff, citing C09_eager_lazy_iff, C09More.lean; consequence:
    C11_headline_ctor_modifiers_keep_authority_accessors); for non-ASCII hosts only the sufficient C09 guard under
    `IdnaSaneAt` is available.  (d) KNOWN FINDING F-C11-bracket (KNOWN_FINDINGS, status known; it was NOT listed in this
    block before): where (c) fails through malformed brackets, a query / path / fragment modifier "changes the host".
    Evaluated in the model on the recorded witness (C11_headline_query_frame_fails_for_malformed_brackets):
    `URL('http://[0:0:0:0:0:0[:0:0]/a').raw_host` is the pre-computed ':0:0:0:0:0[:0:', `.with_query('k=v').raw_host` is
    ':0:0'; the authority text is in class (B) `MalformedBrackets` of C09More.lean.  So "every other raw component is
    unchanged" is FALSE for the query operations / with_fragment / path modifiers on such a constructor result — same
    root as F-C03-bracket / F-C09-bracket, not repaired in the library.  (The OTHER way to brackets — NFKC of U+FF3B /
    U+FF3D — is closed by library fix 27f84d3, followed in the model: `checkNetloc` screens '[' ']' and such input is
    rejected, C16_headline_nfkc_rejects_brackets, C16_headline_nfkc_rejects_fullwidth_brackets, C16HeadlineMore3.lean;
    the ASCII witness above is unaffected by that fix.)  (e) `hH : HostOK h` of the general theorem excludes the empty
    host and a host text containing '[' ']' '@'; for those only the relative frames (item 2 / item 8 (e)) are available,
    with (E1) / (E2).  (f) The Python-level instance theorems are computed on the pure-Python backend without oracle
    (`C11_ePy`) resp. a hostile `idna` table (`C11_eHostile`); they are examples, not general statements.
-/
end Yarl
