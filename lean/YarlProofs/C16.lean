/-
  C16 — "Hosts are stored in one canonical form and hostile hosts are rejected".
-/
import YarlModel
import YarlProofs.Lemmas.HostLemmas
import YarlProofs.Lemmas.BuildShape
import YarlProofs.Lemmas.BuildFix
import YarlProofs.Lemmas.AuthMod
namespace Yarl
open Yarl.HostLemmas
open Yarl.ParseLemmas (partition_eq)

def isLowerAscii (s : Str) : Prop := ∀ c ∈ s, c < 128 ∧ ¬ (65 ≤ c ∧ c ≤ 90)

/-! ### registered names -/

theorem C16_lower_isLowerAscii (h : Str) (ha : isAscii h = true) : isLowerAscii (lower h) := by
  intro c hc
  simp only [lower, List.mem_map] at hc
  obtain ⟨x, hx, rfl⟩ := hc
  rw [isAscii_iff] at ha
  exact lowerC_lt (ha x hx)

/-- ASCII host that is not an IP literal: the result is the lower-cased input, and it is lower-case ASCII -/
theorem C16_ascii_regname (o : Oracles) (h : Str) (v : Bool) (r : Str) (ha : isAscii h = true)
    (hip : parseIP (partition 37 h).1 = none) :
    encodeHost o h v = .ok r → r = lower h ∧ isLowerAscii r := by
  intro he
  obtain ⟨rfl, _⟩ := (regPath_ok_of_ascii ha).1 (encodeHost_ok_reg o h v r hip he)
  exact ⟨rfl, C16_lower_isLowerAscii h ha⟩

/-- lower-casing cannot turn a non-IP into an IP literal -/
theorem C16_parseIP_lower (h : Str) : parseIP (partition 37 (lower h)).1 = parseIP (partition 37 h).1 := by
  rw [partition_fst_lower 37 (by omega), parseIP_lower]

/-- … and encoding it again changes nothing (idempotence on the reg-name path) -/
theorem C16_ascii_regname_idem (o : Oracles) (h : Str) (v : Bool) (r : Str) (ha : isAscii h = true)
    (hip : parseIP (partition 37 h).1 = none) :
    encodeHost o h v = .ok r → encodeHost o r v = .ok r := by
  intro he
  have hn := noIp_of_ascii o ha hip
  rw [encodeHost_noIp v hn] at he
  exact regPath_idem o v ha hn he

/-- with validation, an accepted ASCII reg-name passes the `NOT_REG_NAME` screen -/
theorem C16_validated_regname (o : Oracles) (h r : Str) (ha : isAscii h = true)
    (hip : parseIP (partition 37 h).1 = none) :
    encodeHost o h true = .ok r → notRegName r = false := by
  intro he
  exact ((regPath_ok_of_ascii ha).1 (encodeHost_ok_reg o h true r hip he)).2 rfl

theorem C16_notRegName_spec (s : Str) :
    notRegName s = false → ∀ c ∈ s, c = 37 ∨ mem c Gen.regNameChars = true :=
  notRegName_spec s

/-- every `%` in an accepted name starts a `%hh` escape with two lower-case hex digits -/
theorem C16_notRegName_pct (a b : Str) :
    notRegName (a ++ 37 :: b) = false → ∃ x y t, b = x :: y :: t ∧ isLowerHexDigit x = true ∧ isLowerHexDigit y = true := by
  induction a with
  | nil =>
    intro h
    match b, h with
    | [], h => simp [notRegName] at h
    | [x], h => simp [notRegName] at h
    | x :: y :: t, h =>
      simp only [List.nil_append, notRegName, Bool.or_eq_false_iff, Bool.not_eq_false', Bool.and_eq_true] at h
      exact ⟨x, y, t, rfl, h.1.1, h.1.2⟩
  | cons x xs ih =>
    intro h
    exact ih (notRegName_cons_false h).2

/-- the generated table is exactly the RFC 3986 `unreserved / sub-delims` classes without upper case -/
theorem C16_regNameChars_rfc : ∀ c, mem c Gen.regNameChars = true ↔
    (c < 128 ∧ (Rfc.unreserved c = true ∨ Rfc.subDelims c = true) ∧ ¬(65 ≤ c ∧ c ≤ 90)) := by
  intro c
  by_cases hc : c < 128
  · rw [regNameChars_small c hc]; simp [hc]
  · constructor
    · intro h
      rw [mem_eq] at h
      exact absurd (regNameChars_lt c (by simpa using h)) hc
    · intro h; exact absurd h.1 hc

/-- what a character that passes the reg-name screen cannot be -/
theorem regNameChar_clean {k : Nat} (hk : k = 37 ∨ mem k Gen.regNameChars = true) :
    k < 128 ∧ k ≠ 64 ∧ k ≠ 47 ∧ k ≠ 63 ∧ k ≠ 35 ∧ k ≠ 58 ∧ k ≠ 91 ∧ k ≠ 93 ∧ k ≠ 32 := by
  rcases hk with rfl | hk
  · omega
  · refine ⟨((C16_regNameChars_rfc k).1 hk).1, ?_, ?_, ?_, ?_, ?_, ?_, ?_, ?_⟩ <;>
      (intro e; subst e; revert hk; decide)

/-- a validated ASCII reg-name holds none of the delimiters `/ ? # @ : [ ]` and no space -/
theorem C16_validated_no_delims (o : Oracles) (h r : Str) (ha : isAscii h = true)
    (hip : parseIP (partition 37 h).1 = none) : encodeHost o h true = .ok r →
    47 ∉ r ∧ 63 ∉ r ∧ 35 ∉ r ∧ 64 ∉ r ∧ 58 ∉ r ∧ 91 ∉ r ∧ 93 ∉ r ∧ 32 ∉ r := by
  intro he
  have key := fun k hk => regNameChar_clean (notRegName_spec r (C16_validated_regname o h r ha hip he) k hk)
  exact ⟨fun m => (key 47 m).2.2.1 rfl, fun m => (key 63 m).2.2.2.1 rfl, fun m => (key 35 m).2.2.2.2.1 rfl,
    fun m => (key 64 m).2.1 rfl, fun m => (key 58 m).2.2.2.2.2.1 rfl, fun m => (key 91 m).2.2.2.2.2.2.1 rfl,
    fun m => (key 93 m).2.2.2.2.2.2.2.1 rfl, fun m => (key 32 m).2.2.2.2.2.2.2.2 rfl⟩

/-- a non-ASCII host is validated AFTER IDNA encoding (whatever the IDNA oracle returns).  An answer that holds a
    ':' is not returned as such: it goes through `_encode_host` again (fix 3fbf5b4) and is accepted only as an IP
    literal (canonical text `ipRes a`, zone screened). -/
theorem C16_idna_validated (o : Oracles) (h r : Str) (hna : isAscii h = false)
    (hip : parseIP (partition 37 h).1 = none) :
    encodeHost o h true = .ok r → ∃ a, idnaEncode o h = .ok a ∧
      ((mem 58 a = false ∧ r = a ∧ notRegName r = false) ∨
       (mem 58 a = true ∧ ipRes a = some r ∧ zoneBad a true = false)) := by
  intro he
  exact regPath_idn_validated hna (encodeHost_ok_reg o h true r hip he)

/-- `C16_idna_validated` for an IDNA answer without ':' (every reg-name answer): the result is the answer, screened -/
theorem C16_idna_validated_no_colon (o : Oracles) (h r : Str) (hna : isAscii h = false)
    (hip : parseIP (partition 37 h).1 = none) (hc : ∀ a, idnaEncode o h = .ok a → mem 58 a = false) :
    encodeHost o h true = .ok r → idnaEncode o h = .ok r ∧ notRegName r = false := by
  intro he
  obtain ⟨a, hi, ⟨_, rfl, hn⟩ | ⟨h58, _⟩⟩ := C16_idna_validated o h r hna hip he
  · exact ⟨hi, hn⟩
  · rw [hc a hi] at h58; cases h58

/-- whatever the host, a validated result either is an IP literal, or passes the reg-name screen, or is the
    IP literal that the IDNA answer of a non-ASCII host spells (re-entry, fix 3fbf5b4) -/
theorem C16_validated_general (o : Oracles) (h r : Str) :
    encodeHost o h true = .ok r → (∃ ip, parseIP (partition 37 h).1 = some ip) ∨ notRegName r = false ∨
      (isAscii h = false ∧ ∃ a ip, idnaEncode o h = .ok a ∧ parseIP (partition 37 a).1 = some ip) := by
  intro he
  cases hip : parseIP (partition 37 h).1 with
  | some ip => exact Or.inl ⟨ip, rfl⟩
  | none =>
    right
    cases ha : isAscii h with
    | true => exact Or.inl (C16_validated_regname o h r ha hip he)
    | false =>
      obtain ⟨a, hi, ⟨_, _, hn⟩ | ⟨_, hr, _⟩⟩ := C16_idna_validated o h r ha hip he
      · exact Or.inl hn
      · right
        refine ⟨rfl, a, ?_⟩
        cases hp : parseIP (partition 37 a).1 with
        | some ip => exact ⟨ip, hi, rfl⟩
        | none =>
          rw [ipRes_eq_none.2 hp] at hr
          cases hr

/-! ### IPv4 literals -/

/-- IPv4 literals are kept verbatim (the parser rejects leading zeros, so the canonical text is the input) -/
theorem C16_ipv4_canonical (s : Str) (o4 : List Nat) :
    parseIPv4 s = some o4 → ipv4ToStr o4 = s ∧ o4.length = 4 ∧ ∀ x ∈ o4, x ≤ 255 :=
  parseIPv4_canonical

/-- an IPv4 literal ends in a digit -/
theorem ipv4_last_digit {s : Str} {o4 : List Nat} (h : parseIPv4 s = some o4) :
    ∃ l, s.getLast? = some l ∧ isDigitC l = true := by
  obtain ⟨hs, hl, _⟩ := C16_ipv4_canonical s o4 h
  match o4, hl with
  | [a, b, c, d], _ =>
    refine ⟨48 + d % 10, ?_, by simp [isDigitC]; omega⟩
    rw [← hs]
    simp only [ipv4ToStr, List.map_cons, List.map_nil, PathLemmas.joinC_cons, flatC_cons, flatC_nil, List.append_nil]
    have := Decimal.natToStr_getLast d
    simp only [← List.append_assoc, ← List.cons_append]
    rw [List.getLast?_append]
    have h2 : (46 :: natToStr d).getLast? = some (48 + d % 10) := by
      rw [← this]
      generalize natToStr d = nd at this
      cases nd with
      | nil => simp at this
      | cons x xs => simp [List.getLast?_cons_cons]
    rw [h2]; rfl

theorem C16_ipv4_kept (o : Oracles) (s : Str) (v : Bool) (o4 : List Nat) :
    parseIPv4 s = some o4 → 37 ∉ s → encodeHost o s v = .ok s := by
  intro h h37
  have hp := partition_notFound 37 s h37
  have hr : ipRes s = some s := ipRes_of_v4 (parseIP_some_v4.2 (by rw [hp]; exact h))
  obtain ⟨l, hlast, hd⟩ := ipv4_last_digit h
  exact encodeHost_ip (HostLemmas.looksIP_of_digit o hlast hd) hr (zoneBad_of_no_sep v (by rw [hp]))

/-! ### IPv6 literals -/

theorem C16_parseIPv6_shape (s : Str) (h8 : List Nat) :
    parseIPv6 s = some h8 → h8.length = 8 ∧ ∀ x ∈ h8, x < 65536 :=
  parseIPv6_shape

theorem C16_ipv6_text_lower (h8 : List Nat) :
    ∀ c ∈ ipv6ToStr h8, c = 58 ∨ isDigitC c = true ∨ (97 ≤ c ∧ c ≤ 102) := by
  intro c hc
  rw [ipv6ToStr_closed] at hc
  rcases mem_joinC hc with h | ⟨p, hp, hcp⟩
  · exact Or.inl h
  · refine Or.inr ?_
    split at hp
    · exact all_lowerHex_map h8 p hp c hcp
    · exact sides_hex _ _ p hp c hcp

/-- IPv6 results are bracketed, lower-case hex, and keep the zone verbatim -/
theorem C16_ipv6_bracketed (o : Oracles) (s : Str) (v : Bool) (h8 : List Nat) (r : Str) :
    parseIPv4 (partition 37 s).1 = none → parseIPv6 (partition 37 s).1 = some h8 →
    encodeHost o s v = .ok r → r.head? = some 91 ∧ r.getLast? = some 93 ∧
      r = [91] ++ ipv6ToStr h8 ++ (if (partition 37 s).2.1 then [37] ++ (partition 37 s).2.2 else []) ++ [93] := by
  intro _ h6 he
  rw [encodeHost_of_v6 o v h6] at he
  obtain rfl := Except.ok.inj (ite_err_ok he).2
  exact ⟨by simp, by rw [List.getLast?_append]; rfl, rfl⟩

/-! ### str-level -/

/-- a stored host containing ':' is always written in brackets -/
theorem C16_bracket_iff_colon (e : Env) (u : Url) (raw : Str) : rawHost e u = .ok (some raw) →
    hostSubcomponent e u = .ok (some (if mem 58 raw then [91] ++ raw ++ [93] else raw)) := by
  intro h
  simp [hostSubcomponent, h, bind, Except.bind, pure, Except.pure]

/-- the same holds for `host_port_subcomponent`: the host part is bracketed exactly when it contains ':' -/
theorem C16_bracket_host_port (e : Env) (u : Url) (raw r : Str) : rawHost e u = .ok (some raw) →
    hostPortSubcomponent e u = .ok (some r) →
    ∃ suffix, r = (if mem 58 (if raw.getLast? = some 46 then rstripC 46 raw else raw)
        then [91] ++ (if raw.getLast? = some 46 then rstripC 46 raw else raw) ++ [93]
        else (if raw.getLast? = some 46 then rstripC 46 raw else raw)) ++ suffix := by
  intro h hr
  simp only [hostPortSubcomponent, h, bind, Except.bind] at hr
  cases hp : explicitPort e u with
  | error er => rw [hp] at hr; cases hr
  | ok port =>
    rw [hp] at hr
    simp only at hr
    cases port with
    | none =>
      simp only [pure, Except.pure, Except.ok.injEq, Option.some.injEq] at hr
      exact ⟨[], by simp [← hr]⟩
    | some pt =>
      simp only at hr
      split at hr
      · simp only [pure, Except.pure, Except.ok.injEq, Option.some.injEq] at hr
        exact ⟨[], by simp [← hr]⟩
      · simp only [pure, Except.pure, Except.ok.injEq, Option.some.injEq] at hr
        exact ⟨[58] ++ natToStr pt, by simp [← hr]⟩

/-- `with_host()` validates: it succeeds only if `_encode_host(host, validate_host=True)` does -/
theorem C16_withHost_validates (e : Env) (u u' : Url) (h : Str) :
    withHost e u h = .ok u' → ∃ eh, encodeHost e.o h true = .ok eh := by
  intro hw
  obtain ⟨_, _, eh, _, heh, _⟩ := AuthMod.withHost_ok hw
  exact ⟨eh, heh⟩

/-! ### NFKC screen -/

/-- a non-ASCII authority whose NFKC form (of the text with @ : # ? [ ] removed) contains a delimiter is rejected;
    the brackets '[' ']' count as delimiters too (U+FF3B / U+FF3D, fix 27f84d3) -/
theorem C16_nfkc_rejects (o : Oracles) (netloc nn : Str) :
    o.nfkc (netloc.filter (fun c => c ≠ 64 ∧ c ≠ 58 ∧ c ≠ 35 ∧ c ≠ 63 ∧ c ≠ 91 ∧ c ≠ 93)) = some nn →
    nn ≠ netloc.filter (fun c => c ≠ 64 ∧ c ≠ 58 ∧ c ≠ 35 ∧ c ≠ 63 ∧ c ≠ 91 ∧ c ≠ 93) →
    (∃ c ∈ nn, c = 47 ∨ c = 63 ∨ c = 35 ∨ c = 64 ∨ c = 58 ∨ c = 91 ∨ c = 93) → checkNetloc o netloc = .error .valueError := by
  intro h1 h2 h3
  unfold checkNetloc
  simp only [h1, ask, bind, Except.bind]
  rw [if_neg (fun e => h2 e.symm)]
  have : nn.any (fun c => decide (c = 47 ∨ c = 63 ∨ c = 35 ∨ c = 64 ∨ c = 58 ∨ c = 91 ∨ c = 93)) = true := by
    rw [List.any_eq_true]
    obtain ⟨c, hc, hd⟩ := h3
    exact ⟨c, hc, by simpa using hd⟩
  rw [if_pos this]

/-! ### the text round trip of IPv6 compression -/

/-- re-parsing the compressed text gives the same address -/
theorem C16_ipv6_roundtrip (h8 : List Nat) (hl : h8.length = 8) (hx : ∀ x ∈ h8, x < 65536) :
    parseIPv6 (ipv6ToStr h8) = some h8 := by
  rw [ipv6ToStr_closed]
  split
  · rw [parseIPv6_join _ (all_lowerHex_map h8) (by simp; omega), v6core_full h8 hl hx]
  · rename_i h2
    obtain ⟨hle, hdec⟩ := HostLemmas.chosen_run h8
    generalize Rfc5952.firstAt (Rfc5952.longest h8) h8 = i at hle hdec ⊢
    generalize Rfc5952.longest h8 = n at hle hdec h2 ⊢
    have l3 : 3 ≤ (side (h8.take i) ++ [] :: side (h8.drop (i + n))).length := by
      have := side_pos (h8.take i)
      have := side_pos (h8.drop (i + n))
      simp
      omega
    rw [parseIPv6_join _ (sides_hex _ _) l3, v6core_sides _ _ (by simp; omega)
      (fun x h => hx x (List.mem_of_mem_take h)) (fun x h => hx x (List.mem_of_mem_drop h))]
    have : 8 - ((h8.take i).length + (h8.drop (i + n)).length) = n := by
      simp
      omega
    rw [this, ← hdec]

/-- the canonical text of an address that was parsed re-parses to the same address -/
theorem C16_ipv6_reparse (s : Str) (h8 : List Nat) : parseIPv6 s = some h8 →
    parseIPv6 (ipv6ToStr h8) = some h8 := by
  intro h
  obtain ⟨hl, hx⟩ := parseIPv6_shape h
  exact C16_ipv6_roundtrip h8 hl hx

theorem C16_ipv6_text_no_pct_dot (h8 : List Nat) : 37 ∉ ipv6ToStr h8 ∧ 46 ∉ ipv6ToStr h8 := by
  constructor <;> intro h <;> have := C16_ipv6_text_lower h8 _ h <;> simp [isDigitC] at this

/-- hence encoding is idempotent on IPv6 literals: feeding the stored raw host (the result without its
    brackets, zone included) back into `_encode_host` gives the same result -/
theorem C16_ipv6_idem (o : Oracles) (s : Str) (v : Bool) (h8 : List Nat) (r : Str) :
    parseIPv4 (partition 37 s).1 = none → parseIPv6 (partition 37 s).1 = some h8 →
    encodeHost o s v = .ok r → encodeHost o ((r.drop 1).dropLast) v = .ok r := by
  intro h4 h6 he
  obtain ⟨_, _, hr⟩ := C16_ipv6_bracketed o s v h8 r h4 h6 he
  obtain ⟨hl, hx⟩ := parseIPv6_shape h6
  have hraw : (r.drop 1).dropLast =
      ipv6ToStr h8 ++ (if (partition 37 s).2.1 then [37] ++ (partition 37 s).2.2 else []) := by
    rw [hr]; simp
  have hpart : partition 37 ((r.drop 1).dropLast) =
      (ipv6ToStr h8, (partition 37 s).2.1, if (partition 37 s).2.1 then (partition 37 s).2.2 else []) := by
    rw [hraw]
    exact partition_zone _ _ _ (C16_ipv6_text_no_pct_dot h8).1
  -- the zone, copied verbatim, passes the screen the second time as it did the first
  have hz0 : zoneBad s v = false := by
    rw [encodeHost_of_v6 o v h6] at he
    exact Bool.eq_false_iff.2 (ite_err_ok he).1
  have hz : zoneBad ((r.drop 1).dropLast) v = false := by
    unfold zoneBad at hz0 ⊢
    rw [hpart]
    cases hsep : (partition 37 s).2.1 with
    | false => simp
    | true => simpa [hsep] using hz0
  rw [encodeHost_of_v6 o v (by rw [hpart]; exact C16_ipv6_roundtrip h8 hl hx), hz]
  unfold StrTotal.zonePart
  rw [hpart]
  conv => rhs; rw [hr]
  cases (partition 37 s).2.1 <;> simp

/-! ### the two branches of an accepted host, and their characters -/

namespace HostLemmas

/-- what a zone that passed the screen can contain -/
theorem zone_chars {z : Str} (h : notRegName (lower z) = false) :
    ∀ c ∈ z, c < 128 ∧ c ≠ 64 ∧ c ≠ 47 ∧ c ≠ 63 ∧ c ≠ 35 ∧ c ≠ 58 ∧ c ≠ 91 ∧ c ≠ 93 ∧ c ≠ 32 := by
  intro c hc
  have hm : lowerC c ∈ lower z := by simp only [lower, List.mem_map]; exact ⟨c, hc, rfl⟩
  have := regNameChar_clean (notRegName_spec _ h _ hm)
  revert this
  unfold lowerC
  split <;> omega

/-- the alphabet of a canonical address: brackets, ':' '.', lower-case hex -/
def IpChar (c : Nat) : Prop := c = 91 ∨ c = 93 ∨ c = 58 ∨ c = 46 ∨ isDigitC c = true ∨ (97 ≤ c ∧ c ≤ 102)

theorem IpChar.lt {c : Nat} (h : IpChar c) : c < 128 ∧ ¬ (65 ≤ c ∧ c ≤ 90) ∧ c ≠ 64 ∧ c ≠ 47 ∧ c ≠ 63 ∧ c ≠ 35 ∧ c ≠ 32 := by
  unfold IpChar isDigitC at h
  simp only [Bool.and_eq_true, decide_eq_true_eq] at h
  omega

/-- the characters of the IP-branch text: the address alphabet, `%`, and the zone -/
theorem ipRes_chars {t r : Str} (hr : ipRes t = some r) :
    ∀ c ∈ r, IpChar c ∨ c = 37 ∨ ((partition 37 t).2.1 = true ∧ c ∈ (partition 37 t).2.2) := by
  intro c hc
  cases hp : parseIP (partition 37 t).1 with
  | none =>
    rw [ipRes_eq_none.2 hp] at hr
    cases hr
  | some ip =>
    cases ip with
    | v4 o4 =>
      obtain rfl := Option.some.inj ((ipRes_of_v4 hp).symm.trans hr)
      rw [partition_join 37 t] at hc
      rcases List.mem_append.1 hc with hc | hc
      · rcases parseIPv4_chars (parseIP_some_v4.1 hp) c hc with h | h
        · exact Or.inl (Or.inr (Or.inr (Or.inr (Or.inl h))))
        · exact Or.inl (Or.inr (Or.inr (Or.inr (Or.inr (Or.inl h)))))
      · exact Or.inr (mem_zonePart hc)
    | v6 g =>
      obtain rfl := Option.some.inj ((ipRes_of_v6 hp).symm.trans hr)
      simp only [List.mem_append, List.mem_singleton] at hc
      rcases hc with ((hc | hc) | hc) | hc
      · exact Or.inl (Or.inl hc)
      · rcases C16_ipv6_text_lower g c hc with h | h | h
        · exact Or.inl (Or.inr (Or.inr (Or.inl h)))
        · exact Or.inl (Or.inr (Or.inr (Or.inr (Or.inr (Or.inl h)))))
        · exact Or.inl (Or.inr (Or.inr (Or.inr (Or.inr (Or.inr h)))))
      · exact Or.inr (mem_zonePart hc)
      · exact Or.inl (Or.inr (Or.inl hc))

end HostLemmas

/-! ### the headline: results are lower-case ASCII -/

theorem C16_regNameChars_lower {c : Nat} (h : c = 37 ∨ mem c Gen.regNameChars = true) :
    c < 128 ∧ ¬ (65 ≤ c ∧ c ≤ 90) := by
  rcases h with rfl | h
  · omega
  · have := (C16_regNameChars_rfc c).1 h
    exact ⟨this.1, this.2.2⟩

/-- the canonical text of an IP literal without a zone separator is lower-case ASCII -/
theorem C16_ipRes_lower_ascii (h r : Str) (h37 : 37 ∉ h) (hip : ipRes h = some r) : isLowerAscii r := by
  intro c hc
  rcases ipRes_chars hip c hc with h | rfl | ⟨hsep, _⟩
  · exact ⟨h.lt.1, h.lt.2.1⟩
  · omega
  · rw [partition_notFound 37 h h37] at hsep
    cases hsep

/-- a host without a zone separator: the encoded host is lower-case ASCII whenever the input is ASCII
    (reg-name, IPv4 or IPv6) or validation is on (then also for IDNA output, whatever the oracle returns —
    provided that the IDNA answer carries no zone separator either (`h37a`): an answer that spells an IP literal
    with a zone is canonicalised as one (re-entry, fix 3fbf5b4) and its zone is copied verbatim) -/
theorem C16_result_lower_ascii (o : Oracles) (h : Str) (v : Bool) (r : Str) (h37 : 37 ∉ h)
    (h37a : isAscii h = false → ∀ a, idnaEncode o h = .ok a → 37 ∉ a)
    (hav : isAscii h = true ∨ v = true) : encodeHost o h v = .ok r → isLowerAscii r := by
  intro he
  rcases encodeHost_cases he with hip | hreg
  · exact C16_ipRes_lower_ascii h r h37 hip
  · cases ha : isAscii h with
    | true =>
      obtain ⟨rfl, _⟩ := (regPath_ok_of_ascii ha).1 hreg
      exact C16_lower_isLowerAscii h ha
    | false =>
      have hv : v = true := by
        rcases hav with ha' | hv
        · rw [ha] at ha'; cases ha'
        · exact hv
      subst hv
      obtain ⟨a, hi, ⟨_, rfl, hn⟩ | ⟨_, hr, _⟩⟩ := regPath_idn_validated ha hreg
      · intro c hc
        exact C16_regNameChars_lower (notRegName_spec _ hn c hc)
      · exact C16_ipRes_lower_ascii a r (h37a ha a hi) hr

/-! ### the zone id of an IP literal is validated -/

/-- a validated ASCII host whose part before `%` is an IP literal never carries a zone id with a character
    outside the reg-name grammar.  (For a NON-ASCII host the statement is false: see
    `C16_zone_validated_needs_ascii`.) -/
theorem C16_zone_validated (o : Oracles) (h r : Str) (ha : isAscii h = true) : encodeHost o h true = .ok r →
    (∃ ip, parseIP (partition 37 h).1 = some ip) → (partition 37 h).2.1 = true →
    notRegName (lower (partition 37 h).2.2) = false := by
  intro he _ hsep
  rcases validated_cases he with ⟨_, hz⟩ | ⟨hn, hr⟩ | ⟨hna, _⟩
  · exact zoneBad_true_false hz hsep
  · -- the host went down the reg-name path: the whole lower-cased host passed the screen, hence its suffix
    rw [hr ha, partition_sep_decomp 37 h hsep] at hn
    have : lower ((partition 37 h).1 ++ 37 :: (partition 37 h).2.2) =
        (lower (partition 37 h).1 ++ [37]) ++ lower (partition 37 h).2.2 := by
      simp [lower, lowerC]
    rw [this] at hn
    exact notRegName_append_false hn
  · rw [ha] at hna; cases hna

/-- without the ASCII hypothesis: either the zone is clean, or the host is non-ASCII, did not "look like an IP"
    (no ':' and the last character is not a digit) and the result is the IDNA encoding, which passed the screen
    (or the IP literal spelled by an IDNA answer that holds a ':', its own zone screened: re-entry, fix 3fbf5b4) -/
theorem C16_zone_validated_general (o : Oracles) (h r : Str) : encodeHost o h true = .ok r →
    (∃ ip, parseIP (partition 37 h).1 = some ip) → (partition 37 h).2.1 = true →
    notRegName (lower (partition 37 h).2.2) = false ∨
      (isAscii h = false ∧ looksIP o h = .ok false ∧ ∃ a, idnaEncode o h = .ok a ∧
        ((r = a ∧ notRegName r = false) ∨ (mem 58 a = true ∧ ipRes a = some r ∧ zoneBad a true = false))) := by
  intro he hip hsep
  cases ha : isAscii h with
  | true => exact Or.inl (C16_zone_validated o h r ha he hip hsep)
  | false =>
    rcases encodeHost_casesV he with ⟨_, hz⟩ | ⟨hno, hreg⟩
    · exact Or.inl (zoneBad_true_false hz hsep)
    · right
      have hl : looksIP o h = .ok false := by
        rcases hno with hno | hno
        · obtain ⟨ip, hip⟩ := hip
          rw [ipRes_eq_none, hip] at hno
          cases hno
        · exact hno
      refine ⟨rfl, hl, ?_⟩
      obtain ⟨a, hi, ⟨_, rfl, hn⟩ | ⟨h58, hr, hz⟩⟩ := regPath_idn_validated ha hreg
      · exact ⟨r, hi, Or.inl ⟨rfl, hn⟩⟩
      · exact ⟨a, hi, Or.inr ⟨h58, hr, hz⟩⟩

/-- the oracle answers of CPython 3.12 for the host `"1.2.3.4%aaé"`: `idna.encode(…, uts46=True)` raises
    (`%` is not allowed), the stdlib codec gives `1.2.3.xn--4%aa-epa`, and `"é".isdigit()` is `False` -/
def zoneOracle : Oracles :=
  { Oracles.empty with
    isDigitU := fun _ => some false
    idnaEnc := fun _ => some none
    idnaEncStd := fun _ => some (some "1.2.3.xn--4%aa-epa".toStr) }

/-- `C16_zone_validated` is false without `isAscii h`: `"1.2.3.4%aaé"` does not end in a digit and has no ':',
    so it is IDNA-encoded as a registered name although `1.2.3.4` is an IP literal and the zone `aaé`
    fails the reg-name screen.  (The result is a plain reg-name: nothing is injected.) -/
theorem C16_zone_validated_needs_ascii :
    let h : Str := "1.2.3.4%aa".toStr ++ [233]
    encodeHost zoneOracle h true = .ok "1.2.3.xn--4%aa-epa".toStr ∧
    parseIP (partition 37 h).1 = some (.v4 [1, 2, 3, 4]) ∧ (partition 37 h).2.1 = true ∧
    notRegName (lower (partition 37 h).2.2) = true := by
  refine ⟨by rfl, by decide +kernel⟩

/-- the IP-branch text with a screened zone holds only ASCII and none of '@' '/' '?' '#' ' ' -/
theorem ipRes_clean {t r : Str} (hip : ipRes t = some r) (hz : zoneBad t true = false) :
    ∀ c ∈ r, c < 128 ∧ c ≠ 64 ∧ c ≠ 47 ∧ c ≠ 63 ∧ c ≠ 35 ∧ c ≠ 32 := by
  intro c hc
  rcases ipRes_chars hip c hc with h | rfl | ⟨hsep, hkz⟩
  · have := h.lt
    omega
  · omega
  · have := zone_chars (zoneBad_true_false hz hsep) c hkz
    omega

/-- … and so does every accepted validated host, whichever branch produced it -/
theorem validated_clean {o : Oracles} {h r : Str} (he : encodeHost o h true = .ok r) :
    ∀ c ∈ r, c < 128 ∧ c ≠ 64 ∧ c ≠ 47 ∧ c ≠ 63 ∧ c ≠ 35 ∧ c ≠ 32 := by
  intro c hc
  rcases validated_cases' he with ⟨t, hip, hz⟩ | hn
  · exact ipRes_clean hip hz c hc
  · have := regNameChar_clean (notRegName_spec r hn c hc)
    omega

/-- an accepted `host=` argument (validation on) never yields a result containing '@', '/', '?', '#'
    — the four characters that change how the authority is parsed — for ANY input -/
theorem C16_validated_never_injects (o : Oracles) (h r : Str) : encodeHost o h true = .ok r →
    64 ∉ r ∧ 47 ∉ r ∧ 63 ∉ r ∧ 35 ∉ r := by
  intro he
  have key := validated_clean he
  exact ⟨fun m => (key 64 m).2.1 rfl, fun m => (key 47 m).2.2.1 rfl, fun m => (key 63 m).2.2.2.1 rfl,
    fun m => (key 35 m).2.2.2.2.1 rfl⟩

/-- an accepted `host=` argument (validation on) always yields an ASCII result, for ANY input
    (the zone id of an IP literal included) -/
theorem C16_validated_ascii (o : Oracles) (h r : Str) : encodeHost o h true = .ok r → ∀ c ∈ r, c < 128 :=
  fun he c hc => (validated_clean he c hc).1

theorem ipRes_some_parse {t r : Str} (hip : ipRes t = some r) : ∃ ip, parseIP (partition 37 t).1 = some ip := by
  cases hp : parseIP (partition 37 t).1 with
  | some ip => exact ⟨ip, rfl⟩
  | none =>
    rw [ipRes_eq_none.2 hp] at hip
    cases hip

/-- with validation on, the only characters of a result outside `reg-name` are the brackets and colons of an
    IPv6 literal; in particular no space, and '[' , ']' , ':' only in the IP branch (of the host, or of the
    IDNA answer of a non-ASCII host: re-entry, fix 3fbf5b4) -/
theorem C16_validated_chars (o : Oracles) (h r : Str) : encodeHost o h true = .ok r →
    32 ∉ r ∧ ((∃ c ∈ r, c = 58 ∨ c = 91 ∨ c = 93) → (∃ ip, parseIP (partition 37 h).1 = some ip) ∨
      (isAscii h = false ∧ ∃ a ip, idnaEncode o h = .ok a ∧ parseIP (partition 37 a).1 = some ip)) := by
  intro he
  refine ⟨fun m => (validated_clean he 32 m).2.2.2.2.2 rfl, ?_⟩
  rcases validated_cases he with ⟨hip, _⟩ | ⟨hn, _⟩ | ⟨hna, a, hi, _, hip, _⟩
  · exact fun _ => Or.inl (ipRes_some_parse hip)
  · rintro ⟨c, hc, hcc⟩
    have := regNameChar_clean (notRegName_spec r hn c hc)
    omega
  · obtain ⟨ip, hp⟩ := ipRes_some_parse hip
    exact fun _ => Or.inr ⟨hna, a, ip, hi, hp⟩

/-- `build()` validates the `host=` argument: it succeeds only if `_encode_host(host, validate_host=True)` does -/
theorem C16_build_validates (e : Env) (a : BuildArgs) (u : Url) (henc : a.encoded = false)
    (hauth : a.authority = []) (hhost : a.host ≠ []) :
    build e a = .ok u → ∃ eh, encodeHost e.o a.host true = .ok eh := by
  intro h
  obtain ⟨_, _, _, _, hnl, _⟩ := build_false_ok henc h
  rw [buildNetloc_host hauth hhost] at hnl
  obtain ⟨eh, heh, _⟩ := bind_ok hnl
  exact ⟨eh, heh⟩

/-! ### concrete checks -/

attribute [local instance] ParseLemmas.decEqResult

example : encodeHost Oracles.empty "EXAMPLE.com".toStr true = .ok "example.com".toStr := by str_lits; decide +kernel
example : encodeHost Oracles.empty "2001:DB8:0:0:0:0:0:1".toStr true = .ok "[2001:db8::1]".toStr := by str_lits; decide +kernel
example : encodeHost Oracles.empty "fe80::1%eth0".toStr true = .ok "[fe80::1%eth0]".toStr := by str_lits; decide +kernel
-- the zone id is kept verbatim (not lower-cased)
example : encodeHost Oracles.empty "FE80::1%Eth0".toStr true = .ok "[fe80::1%Eth0]".toStr := by str_lits; decide +kernel
example : encodeHost Oracles.empty "::FFFF:1.2.3.4".toStr true = .ok "[::ffff:102:304]".toStr := by str_lits; decide +kernel
example : encodeHost Oracles.empty "a/b".toStr true = .error .valueError := by str_lits; decide +kernel
example : encodeHost Oracles.empty "a/b".toStr false = .ok "a/b".toStr := by str_lits; decide +kernel
example : encodeHost Oracles.empty "a%2Fb".toStr true = .ok "a%2fb".toStr := by str_lits; decide +kernel   -- lower-cased before the check
example : encodeHost Oracles.empty "a%zzb".toStr true = .error .valueError := by str_lits; decide +kernel
example : encodeHost Oracles.empty "a%2fb".toStr true = .ok "a%2fb".toStr := by str_lits; decide +kernel
example : encodeHost Oracles.empty "1.2.3.4".toStr true = .ok "1.2.3.4".toStr := by str_lits; decide +kernel
example : parseIPv4 "1.2.3.4".toStr = some [1, 2, 3, 4] := by str_lits; decide +kernel
example : parseIPv4 "01.2.3.4".toStr = none := by str_lits; decide +kernel
example : parseIPv4 "256.2.3.4".toStr = none := by str_lits; decide +kernel
-- "01.2.3.4" ends with a digit, is not an IP literal, and is kept as a registered name
example : encodeHost Oracles.empty "01.2.3.4".toStr true = .ok "01.2.3.4".toStr := by str_lits; decide +kernel
-- the zone id of an IP literal is validated (and only with validation on)
example : encodeHost Oracles.empty "1.2.3.4%@evil.com:80".toStr true = .error .valueError := by str_lits; decide +kernel
example : encodeHost Oracles.empty "1.2.3.4%@evil.com:80".toStr false = .ok "1.2.3.4%@evil.com:80".toStr := by str_lits; decide +kernel
example : encodeHost Oracles.empty "fe80::1%eth/0".toStr true = .error .valueError := by str_lits; decide +kernel
example : encodeHost Oracles.empty "fe80::1%eth0?x".toStr true = .error .valueError := by str_lits; decide +kernel
example : encodeHost Oracles.empty "1.2.3.4%eth0".toStr true = .ok "1.2.3.4%eth0".toStr := by str_lits; decide +kernel
-- `C16_zone_validated` is not vacuous
example : isAscii "fe80::1%Eth0".toStr = true ∧
    encodeHost Oracles.empty "fe80::1%Eth0".toStr true = .ok "[fe80::1%Eth0]".toStr ∧
    (∃ ip, parseIP (partition 37 "fe80::1%Eth0".toStr).1 = some ip) ∧ (partition 37 "fe80::1%Eth0".toStr).2.1 = true :=
  ⟨by decide +kernel, by decide +kernel, ⟨.v6 [0xfe80, 0, 0, 0, 0, 0, 0, 1], by decide +kernel⟩, by decide +kernel⟩
-- hypotheses of the main theorems are satisfiable
example : isAscii "EXAMPLE.com".toStr = true ∧ parseIP (partition 37 "EXAMPLE.com".toStr).1 = none := by str_lits; decide +kernel
example : parseIPv4 (partition 37 "fe80::1%eth0".toStr).1 = none ∧
    parseIPv6 (partition 37 "fe80::1%eth0".toStr).1 = some [0xfe80, 0, 0, 0, 0, 0, 0, 1] ∧
    (partition 37 "fe80::1%eth0".toStr).2 = (true, "eth0".toStr) := by str_lits; decide +kernel
example : parseIPv6 (ipv6ToStr [0x2001, 0xdb8, 0, 0, 1, 0, 0, 1]) = some [0x2001, 0xdb8, 0, 0, 1, 0, 0, 1] := by decide +kernel
example : ipv6ToStr [0x2001, 0xdb8, 0, 0, 1, 0, 0, 1] = "2001:db8::1:0:0:1".toStr := by str_lits; decide +kernel
example : ipv6ToStr [0, 0, 0, 0, 0, 0, 0, 0] = "::".toStr := by str_lits; decide +kernel
example : ipv6ToStr [1, 0, 2, 3, 4, 5, 6, 7] = "1:0:2:3:4:5:6:7".toStr := by str_lits; decide +kernel   -- a single zero is not compressed
example : checkNetloc { Oracles.empty with nfkc := fun _ => some "a/b".toStr } [0x2100] = .error .valueError := by str_lits; decide +kernel
example : notRegName "a b".toStr = true ∧ notRegName "a%zz".toStr = true ∧ notRegName "a-b.c_d~e".toStr = false := by str_lits; decide +kernel

end Yarl
