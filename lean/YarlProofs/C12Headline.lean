import YarlProofs.C12
import YarlProofs.C12Readback
import YarlProofs.C12Url
import YarlProofs.C12More
import YarlProofs.Lemmas.StrLit
/-!
# C12 — Query operations implement multi-dict algebra exactly   (audit layer)

Property statement (verbatim):

> with_query(q) yields exactly the pairs of q in order (a list/tuple value in a mapping expands to
> repeated keys; ints and floats are rendered by str()); extend_query appends q's pairs after the
> existing ones; update_query replaces all pairs whose key occurs in q and keeps every other pair in
> order; without_query_params removes exactly the named keys. None clears the query (with_query,
> update_query) or is a no-op (extend_query); bool, None values, NaN/inf and bytes are rejected with
> TypeError/ValueError; the argument is never mutated.

Reading guide.  `queryPairs v` is `url.query` as a list of (key, value) pairs (stdlib `parse_qsl` of the
stored text).  An argument is a `QArg`: `.mapping items` (dict / MultiDict / kwargs), `.pairs items`
(sequence of 2-tuples), `.str`, `.none`, `.bytes`, `.other`.  `expandItems items = some ps` says "the
argument denotes the pairs `ps`": a `.many` slot expands to repeated keys, `.int n` is `str(n)`
(`intToStr`), `.float txt 0` is the text Python prints, and it is `none` iff `query_var` rejects a value.
`SingleValued items`: no slot is a list/tuple.  `GoodPairs ps` / `GoodText t`: Python strings without
lone surrogates (a lone surrogate cannot be UTF-8 encoded; the quoter drops it: C06).
From C12More.lean: `parseQslLit s` = the pairs a whole query STRING denotes when it is an ARGUMENT of with_query /
extend_query (spelled out in `C12_headline_str_argument_pairs_def`); `QsMore.slotErr` / `QsMore.pairsFirstErr` = the error a
slot / the first offending slot of a pair SEQUENCE raises (spelled out in `C12_headline_rejected_value_kinds_pairs`);
`Reach e u` (C01Reach.lean) = `u` is obtainable through the auto-encoding API: `URL(s)` on a Python string, `URL.build(...,
encoded=False)`, any of the modifiers (`with_path` with `encoded=False`) with Python-string arguments, `join`, copies.
Continued in C12HeadlineMore3.lean (GAPS 9: the clauses over `ReachE`, the closure of ALL entry points incl. `encoded=True`,
C12ReachE.lean; tail of GAPS 6: non-str keys, wrong-typed values and arguments in every container — MODEL-LEVEL, over the
dynamic-dispatch model YarlModel/Dyn.lean, C12Dyn.lean).
Continued further in C12HeadlineMore4.lean (headline theorems for the proof modules added after the last refresh:
C12Spec.lean; the GAPS block below cites them).
Continued in C12HeadlineMore5.lean (C02QueryStr.lean, added later: the STRING forms of with_query / extend_query /
update_query and the `%` operator — GAPS 2, 5, 7, 10 (c), 12).
-/
namespace Yarl
open QsLemmas MdLemmas QueryUrl QsMore

/-! ## with_query -/

/-- "with_query(q) yields exactly the pairs of q in order (a list/tuple value in a mapping expands to
    repeated keys; ints and floats are rendered by str())" — mapping argument -/
theorem C12_headline_with_query_mapping (e : Env) (u : Url) (items : List (Str × QItem)) (ps : List (Str × Str))
    (hden : expandItems items = some ps)
    -- excludes lone surrogates in keys/values, which the quoter drops (known finding, C06 "lone surrogates excepted")
    (hg : GoodPairs ps) :
    ∃ v, withQuery e u (.mapping items) = .ok v ∧ queryPairs v = ps ∧
      v.scheme = u.scheme ∧ v.netloc = u.netloc ∧ v.path = u.path ∧ v.fragment = u.fragment :=
  C12_url_with_query_mapping' e u items ps hden hg

/-- the same for a sequence of (key, value) tuples -/
theorem C12_headline_with_query_pairs (e : Env) (u : Url) (items : List (Str × QItem)) (ps : List (Str × Str))
    -- in a SEQUENCE a list/tuple value is rejected with TypeError (`C12_pairs_list_value_rejected`)
    (hs : SingleValued items)
    (hden : expandItems items = some ps) (hg : GoodPairs ps) :
    ∃ v, withQuery e u (.pairs items) = .ok v ∧ queryPairs v = ps ∧
      v.scheme = u.scheme ∧ v.netloc = u.netloc ∧ v.path = u.path ∧ v.fragment = u.fragment :=
  C12_url_with_query_pairs' e u items ps hs hden hg

/-- what `parseQslLit` is (definition of C12More.lean, by `rfl`): split the text on '&', drop empty pieces, split each
    piece at its first '=' (no '=': the value is ""), turn '+' into ' ' in key and value — and NO percent-decoding -/
theorem C12_headline_str_argument_pairs_def (s : Str) :
    parseQslLit s = (splitOn 38 s).filterMap (fun nv =>
      if nv.isEmpty then none
      else some (plusToSpace (splitFirstEq nv).1, plusToSpace ((splitFirstEq nv).2.getD []))) := rfl

/-- "with_query(q) yields exactly the pairs of q in order" — STRING argument (closes GAPS 2): `with_query("a=1&b=2")` has
    exactly the LITERAL pairs of the string (`parseQslLit`: '+' is a space, '%' is data — the text is quoted, not requoted),
    which are the `parse_qsl` pairs of the string when it contains no '%'; the other components are kept -/
theorem C12_headline_with_query_str (e : Env) (u : Url) (s : Str)
    -- excludes lone surrogates in the text, which the quoter drops (C06 "lone surrogates excepted":
    -- `C12_headline_with_query_str_fails_for_lone_surrogate`)
    (hs : GoodText s) :
    ∃ v, withQuery e u (.str s) = .ok v ∧ queryPairs v = parseQslLit s ∧
      (37 ∉ s → queryPairs v = parseQsl s) ∧   -- with a '%' FALSE: `C12_headline_with_query_str_fails_for_percent`
      v.scheme = u.scheme ∧ v.netloc = u.netloc ∧ v.path = u.path ∧ v.fragment = u.fragment := by
  obtain ⟨v, h1, h2, h3⟩ := C12_with_query_str_pairs e u s hs
  exact ⟨v, h1, h2, fun h => by rw [h2, C12_parseQslLit_no_pct s h], h3⟩

/-- the side condition `37 ∉ s` of the `parse_qsl` clause above is needed — see the OBSERVATION
    `C12_headline_observation_str_argument_pct` below: a '%XY' in a STRING argument is DATA for `with_query` /
    `extend_query` (`"a=%41"` is stored as `a=%2541` and reads back as `("a", "%41")`) but an ESCAPE for `update_query`
    (the string goes through `parse_qsl` first: `("a", "A")`).  So "the pairs of q" of a string are not the `parse_qsl`
    pairs for with_query / extend_query: the lemma GAPS 2 asked for, `parseQsl (QUERY_QUOTER s) = parseQsl s`, is false
    (`parseQslLit s ≠ parseQsl s` here).  This refutes that LEMMA, not a clause of C12.  `u` = `http://h/`, `s` = "a=%41".
    Cites C12_str_argument_pct_differs. -/
theorem C12_headline_with_query_str_fails_for_percent (e : Env) :
    let u := fromParts [104, 116, 116, 112] [104] [47] [] []
    let s : Str := [97, 61, 37, 52, 49]
    GoodText s ∧
    (∃ v, withQuery e u (.str s) = .ok v ∧ queryPairs v = [([97], [37, 52, 49])]) ∧
    (∃ v, extendQuery e u (.str s) = .ok v ∧ queryPairs v = [([97], [37, 52, 49])]) ∧
    (∃ v, updateQuery e u (.str s) = .ok v ∧ queryPairs v = [([97], [65])]) ∧
    parseQslLit s ≠ parseQsl s :=
  C12_str_argument_pct_differs e

/-- OBSERVATION (NOT a violated clause of C12; not in KNOWN_FINDINGS): a STRING argument with `%41` reads back as `%41`
    through with_query / extend_query but as `A` through update_query.  On `u` = `http://h/` with the argument "a=%41":
    `with_query("a=%41").query` and `extend_query("a=%41").query` are `[("a", "%41")]` — the string is quoted as DATA, the
    stored raw query is "a=%2541" — whereas `update_query("a=%41").query` is `[("a", "A")]` — there the string is first
    read by `parse_qsl`, which treats `%41` as an ESCAPE.  The property text speaks of "the pairs of q" and does not say
    how a string argument denotes pairs; each of the three methods satisfies its clause for ITS reading of the string
    (C12_headline_with_query_str / C12_headline_extend_query_str with `parseQslLit`; C12_headline_update_keeps_others_mapping_str /
    …_replaces_mapping_str with `parse_qsl`), so no clause is violated — what is observed is that the two readings differ
    as soon as the string contains a percent escape (they agree when it contains no '%': C12_parseQslLit_no_pct).
    Cites C12_str_argument_pct_differs (C12More.lean). -/
theorem C12_headline_observation_str_argument_pct (e : Env) :
    let u := fromParts "http".toStr "h".toStr "/".toStr [] []
    let s : Str := "a=%41".toStr
    (∃ v, withQuery e u (.str s) = .ok v ∧ queryPairs v = [("a".toStr, "%41".toStr)]) ∧
    (∃ v, extendQuery e u (.str s) = .ok v ∧ queryPairs v = [("a".toStr, "%41".toStr)]) ∧
    (∃ v, updateQuery e u (.str s) = .ok v ∧ queryPairs v = [("a".toStr, "A".toStr)]) ∧
    parseQslLit s = [("a".toStr, "%41".toStr)] ∧ parseQsl s = [("a".toStr, "A".toStr)] :=
  ⟨(C12_str_argument_pct_differs e).2.1, (C12_str_argument_pct_differs e).2.2.1,
   (C12_str_argument_pct_differs e).2.2.2.1, by decide +kernel, by decide +kernel⟩

/-- the `GoodText` guard is needed (C06 "lone surrogates excepted"): `with_query("\ud800=1")` reads back `("", "1")` while
    the literal pairs of the string are `("\ud800", "1")` -/
theorem C12_headline_with_query_str_fails_for_lone_surrogate (e : Env) (u : Url) :
    ∃ v, withQuery e u (.str [0xD800, 61, 49]) = .ok v ∧ queryPairs v = [([], [49])] ∧
      parseQslLit [0xD800, 61, 49] = [([0xD800], [49])] := by
  have hb : ∀ b : Backend, parseQsl (Gen.QUERY_QUOTER.run b [0xD800, 61, 49]) = [([], [49])] := by
    intro b; cases b <;> decide +kernel
  exact ⟨_, withQuery_of e u _ _ (QsMore.getStrQuery_str e.b _), hb e.b, by decide +kernel⟩

/-! ## extend_query -/

/-- "extend_query appends q's pairs after the existing ones" — no hypothesis on the old query -/
theorem C12_headline_extend_query (e : Env) (u : Url) (items : List (Str × QItem)) (ps : List (Str × Str))
    (hden : expandItems items = some ps) (hg : GoodPairs ps) :
    (∃ v, extendQuery e u (.mapping items) = .ok v ∧ queryPairs v = queryPairs u ++ ps) ∧
    (SingleValued items →
      ∃ v, extendQuery e u (.pairs items) = .ok v ∧ queryPairs v = queryPairs u ++ ps) := by
  -- -- Appendix E: C12_extend ↦ this theorem (C12_url_extend_query, C12_url_extend_query_pairs)
  by_cases hne : ps = []
  · subst hne
    refine ⟨⟨u, C12_url_extend_query_no_pairs e u items hden, by simp⟩, fun hs => ?_⟩
    -- a pair sequence that denotes no pair is the empty sequence
    cases items with
    | nil =>
      obtain ⟨v, hv, hq⟩ := (C12_url_none_and_empty e u).2.2.2.2.2.2.2.1
      exact ⟨v, hv, by simpa using hq⟩
    | cons p rest =>
      obtain ⟨k, it⟩ := p
      cases it with
      | one v => simp only [expandItems] at hden; split at hden <;> simp_all
      | many vs => exact absurd (hs _ (List.mem_cons_self ..)) (by simp [QItem.isOne])
  · exact ⟨C12_url_extend_query e u items ps hden hg hne,
      fun hs => C12_url_extend_query_pairs e u items ps hs hden hg hne⟩

/-- "extend_query appends q's pairs after the existing ones" — STRING argument (closes GAPS 2): the LITERAL pairs of the
    string (`parseQslLit`, see above) are appended, whatever the old query text is; they are the `parse_qsl` pairs when
    the string contains no '%' -/
theorem C12_headline_extend_query_str (e : Env) (u : Url) (s : Str)
    (hs : GoodText s) :   -- no lone surrogate in the argument (dropped by the quoter, C06)
    ∃ v, extendQuery e u (.str s) = .ok v ∧ queryPairs v = queryPairs u ++ parseQslLit s ∧
      (37 ∉ s → queryPairs v = queryPairs u ++ parseQsl s) := by   -- with '%': `C12_headline_with_query_str_fails_for_percent`
  obtain ⟨v, h1, h2⟩ := C12_extend_query_str_pairs e u s hs
  exact ⟨v, h1, h2, fun h => by rw [h2, C12_parseQslLit_no_pct s h]⟩

/-! ## update_query -/

/-- `update_query(q)` is `MultiDict(url.query).update(q)` (multidict 6.2, modelled by `mdUpdate`), for a
    pair sequence, a mapping with single values and a string argument -/
theorem C12_headline_update_is_multidict_update (e : Env) (u : Url) (items : List (Str × QItem))
    (ps : List (Str × Str)) (s : Str)
    -- the OLD pairs are re-rendered too: a lone surrogate in the old query (possible with encoded=True
    -- only) is lost — `C12_url_update_query_needs_good_old`
    (hold : GoodPairs (queryPairs u)) :
    (SingleValued items → expandItems items = some ps → GoodPairs ps → ps ≠ [] →
      (∃ v, updateQuery e u (.pairs items) = .ok v ∧ queryPairs v = mdUpdate (queryPairs u) ps) ∧
      (∃ v, updateQuery e u (.mapping items) = .ok v ∧ queryPairs v = mdUpdate (queryPairs u) ps)) ∧
    (GoodText s → s ≠ [] →
      ∃ v, updateQuery e u (.str s) = .ok v ∧ queryPairs v = mdUpdate (queryPairs u) (parseQsl s)) :=
  ⟨fun hs hden hg hne => ⟨C12_url_update_query e u items ps hs hden hg hold hne,
      C12_url_update_query_mapping e u items ps hs hden hg hold hne⟩,
   fun hs hne => C12_url_update_query_str e u s hs hold hne⟩

/-- "update_query … keeps every other pair in order" — true without further guard
    -- Appendix E: C12_update_keeps ↦ this theorem (C12_url_update_keeps_others; list level C12_update_keeps_others) -/
theorem C12_headline_update_keeps_others (e : Env) (u : Url) (items : List (Str × QItem)) (ps : List (Str × Str))
    (hs : SingleValued items) (hden : expandItems items = some ps) (hg : GoodPairs ps)
    (hold : GoodPairs (queryPairs u)) (hne : ps ≠ []) :
    ∃ v, updateQuery e u (.pairs items) = .ok v ∧
      (queryPairs v).filter (fun p => !(keysOf ps).contains p.1) =
        (queryPairs u).filter (fun p => !(keysOf ps).contains p.1) :=
  C12_url_update_keeps_others e u items ps hs hden hg hold hne

/-- "update_query replaces all pairs whose key occurs in q" — GUARDED: for an updated key `k` the values
    in the result are exactly the new values of `k`, in order, PROVIDED every other updated key has at
    most as many old entries as new ones.
    -- Appendix E: C12_update_sets ↦ false as stated (`C12_update_sets_keys_false`); this is its `_partial` -/
theorem C12_headline_update_replaces (e : Env) (u : Url) (items : List (Str × QItem)) (ps : List (Str × Str))
    (k : Str) (hs : SingleValued items) (hden : expandItems items = some ps) (hg : GoodPairs ps)
    (hold : GoodPairs (queryPairs u)) (hk : k ∈ keysOf ps)
    -- excludes the stale-duplicate case of multidict's update() (F-C12-multidict-tail): `C12_headline_update_replaces_fails_for`
    (htail : ∀ k' ∈ keysOf ps, k' ≠ k →
      ((queryPairs u).filter (fun p => p.1 = k')).length ≤ (ps.filter (fun p => p.1 = k')).length) :
    ∃ v, updateQuery e u (.pairs items) = .ok v ∧
      ((queryPairs v).filter (fun p => p.1 = k)).map (·.2) = (ps.filter (fun p => p.1 = k)).map (·.2) :=
  C12_url_update_sets_keys e u items ps k hs hden hg hold hk htail

/-- … and WITHOUT the guard: the new values come first, followed by a sublist of the old values that were
    not overwritten (this is all that is true in general) -/
theorem C12_headline_update_replaces_unguarded (e : Env) (u : Url) (items : List (Str × QItem))
    (ps : List (Str × Str)) (k : Str) (hs : SingleValued items) (hden : expandItems items = some ps)
    (hg : GoodPairs ps) (hold : GoodPairs (queryPairs u)) (hk : k ∈ keysOf ps) :
    ∃ v, updateQuery e u (.pairs items) = .ok v ∧
      ∃ S, ((queryPairs v).filter (fun p => p.1 = k)).map (·.2) = (ps.filter (fun p => p.1 = k)).map (·.2) ++ S ∧
        S.Sublist ((((queryPairs u).filter (fun p => p.1 = k)).map (·.2)).drop (ps.filter (fun p => p.1 = k)).length) :=
  C12_url_update_sets_keys_split e u items ps k hs hden hg hold hk

/-- KNOWN FINDING F-C12-multidict-tail (multidict 6.2 `update()`, C and Python implementation): `?a=1&a=2&b=3&b=4` updated with
    `a=9&b=8` gives `a=9&b=8&b=4` — the stale `b=4` survives; so "replaces all pairs" is false as stated -/
theorem C12_headline_update_replaces_fails_for :
    mdUpdate [([97], 1), ([97], 2), ([98], 3), ([98], 4)] [([97], 9), ([98], 8)] = [([97], 9), ([98], 8), ([98], 4)] ∧
    ¬ ∀ (old new : List (Str × Nat)) (k : Str), k ∈ keysOf new →
      ((mdUpdate old new).filter (fun p => p.1 = k)).map (·.2) = (new.filter (fun p => p.1 = k)).map (·.2) :=
  ⟨C12_update_sets_keys_counterexample, C12_update_sets_keys_false⟩

/-- "keeps every other pair in order" for a MAPPING with single values and for a STRING argument (closes the last sentence
    of GAPS 4: the composition of C12_headline_update_is_multidict_update with the list-level clause, written down) -/
theorem C12_headline_update_keeps_others_mapping_str (e : Env) (u : Url) (items : List (Str × QItem))
    (ps : List (Str × Str)) (s : Str)
    (hold : GoodPairs (queryPairs u)) :   -- old pairs are re-rendered (lone surrogate lost); true for reachable URLs: C12_headline_reachable_good_pairs
    (SingleValued items → expandItems items = some ps → GoodPairs ps → ps ≠ [] →
      ∃ v, updateQuery e u (.mapping items) = .ok v ∧
        (queryPairs v).filter (fun p => !(keysOf ps).contains p.1) =
          (queryPairs u).filter (fun p => !(keysOf ps).contains p.1)) ∧
    (GoodText s → s ≠ [] →
      ∃ v, updateQuery e u (.str s) = .ok v ∧
        (queryPairs v).filter (fun p => !(keysOf (parseQsl s)).contains p.1) =
          (queryPairs u).filter (fun p => !(keysOf (parseQsl s)).contains p.1)) :=
  ⟨fun hs hden hg hne => C12_url_update_keeps_others_mapping e u items ps hs hden hg hold hne,
   fun hs hne => C12_url_update_keeps_others_str e u s hs hold hne⟩

/-- "replaces all pairs whose key occurs in q" for a MAPPING with single values and for a STRING argument (read by
    `parse_qsl`): GUARDED form (no other updated key has more old entries than new ones — F-C12-multidict-tail) and the
    unguarded "new values first, then a sublist of the not overwritten old values" form, as for pair sequences -/
theorem C12_headline_update_replaces_mapping_str (e : Env) (u : Url) (items : List (Str × QItem))
    (ps : List (Str × Str)) (s : Str) (k : Str)
    (hold : GoodPairs (queryPairs u)) :   -- as above
    (SingleValued items → expandItems items = some ps → GoodPairs ps → k ∈ keysOf ps →
      ∃ v, updateQuery e u (.mapping items) = .ok v ∧
        ((∀ k' ∈ keysOf ps, k' ≠ k →   -- excludes multidict's stale duplicate, F-C12-multidict-tail
            ((queryPairs u).filter (fun p => p.1 = k')).length ≤ (ps.filter (fun p => p.1 = k')).length) →
          ((queryPairs v).filter (fun p => p.1 = k)).map (·.2) = (ps.filter (fun p => p.1 = k)).map (·.2)) ∧
        ∃ S, ((queryPairs v).filter (fun p => p.1 = k)).map (·.2) = (ps.filter (fun p => p.1 = k)).map (·.2) ++ S ∧
          S.Sublist ((((queryPairs u).filter (fun p => p.1 = k)).map (·.2)).drop (ps.filter (fun p => p.1 = k)).length)) ∧
    (GoodText s → k ∈ keysOf (parseQsl s) →
      ∃ v, updateQuery e u (.str s) = .ok v ∧
        ((∀ k' ∈ keysOf (parseQsl s), k' ≠ k →   -- F-C12-multidict-tail
            ((queryPairs u).filter (fun p => p.1 = k')).length ≤ ((parseQsl s).filter (fun p => p.1 = k')).length) →
          ((queryPairs v).filter (fun p => p.1 = k)).map (·.2) = ((parseQsl s).filter (fun p => p.1 = k)).map (·.2)) ∧
        ∃ S, ((queryPairs v).filter (fun p => p.1 = k)).map (·.2) =
            ((parseQsl s).filter (fun p => p.1 = k)).map (·.2) ++ S ∧
          S.Sublist ((((queryPairs u).filter (fun p => p.1 = k)).map (·.2)).drop
            ((parseQsl s).filter (fun p => p.1 = k)).length)) :=
  ⟨fun hs hden hg hk => C12_url_update_sets_keys_mapping e u items ps k hs hden hg hold hk,
   fun hs hk => C12_url_update_sets_keys_str e u s k hs hold hk⟩

/-! ### update_query with a MAPPING whose values may be lists / tuples (closes GAPS 4) -/

/-- `update_query(mapping)` with list/tuple values SUCCEEDS whenever the mapping denotes pairs, and the result is the
    expansion of the SLOT-level update: `strItems old` = the old pairs as single-valued slots, `mdUpdate` acts on slots
    (a list value is ONE slot), the updated slot list is then expanded.  (It is NOT `mdUpdate` on the expanded pairs:
    C12_url_update_query_lists_differ.)  No hypothesis on the result. -/
theorem C12_headline_update_mapping_lists (e : Env) (u : Url) (items : List (Str × QItem)) (ps : List (Str × Str))
    (hden : expandItems items = some ps)   -- the mapping denotes pairs (no rejected value)
    (hg : GoodPairs ps)                    -- no lone surrogate in the argument (C06)
    (hold : GoodPairs (queryPairs u))      -- nor in the old query (re-rendered); true for reachable URLs
    (hne : items ≠ []) :                   -- an empty mapping is a different code path (no-op), see C12_url_none_and_empty
    ∃ v ps', updateQuery e u (.mapping items) = .ok v ∧ queryPairs v = ps' ∧
      expandItems (mdUpdate (strItems (queryPairs u)) items) = some ps' :=
  C12_url_update_query_lists e u items ps hden hg hold hne

/-- "update_query … keeps every other pair in order", mapping with list/tuple values: the pairs whose key is not a key OF
    THE MAPPING are unchanged.  (A key mapped to the empty list IS a key of the mapping: its pairs are removed —
    `C12_headline_update_empty_list_removes`.) -/
theorem C12_headline_update_mapping_lists_keeps_others (e : Env) (u : Url) (items : List (Str × QItem))
    (ps : List (Str × Str))
    (hden : expandItems items = some ps) (hg : GoodPairs ps) (hold : GoodPairs (queryPairs u)) (hne : items ≠ []) :   -- as above
    ∃ v, updateQuery e u (.mapping items) = .ok v ∧
      (queryPairs v).filter (fun p => !(keysOf items).contains p.1) =
        (queryPairs u).filter (fun p => !(keysOf items).contains p.1) :=
  C12_url_update_lists_keeps_others e u items ps hden hg hold hne

/-- "update_query replaces all pairs whose key occurs in q", mapping with list/tuple values — GUARDED as
    C12_headline_update_replaces: the pairs of `k` in the result are exactly the pairs the mapping denotes for `k`, in order -/
theorem C12_headline_update_mapping_lists_replaces (e : Env) (u : Url) (items : List (Str × QItem))
    (ps : List (Str × Str)) (k : Str)
    (hden : expandItems items = some ps) (hg : GoodPairs ps) (hold : GoodPairs (queryPairs u))   -- as above
    (hk : k ∈ keysOf items)
    -- every OTHER key of the mapping has at most as many old pairs as it has slots in the mapping (for a `dict`: occurs at
    -- most once in the old query); excludes F-C12-multidict-tail: `C12_headline_update_mapping_lists_replaces_fails_for_stale_duplicate`
    (htail : ∀ k' ∈ keysOf items, k' ≠ k →
      ((queryPairs u).filter (fun p => p.1 = k')).length ≤ (items.filter (fun p => p.1 = k')).length) :
    ∃ v, updateQuery e u (.mapping items) = .ok v ∧
      (queryPairs v).filter (fun p => p.1 = k) = ps.filter (fun p => p.1 = k) :=
  C12_url_update_lists_sets_keys e u items ps k hden hg hold hk htail

/-- … and WITHOUT the guard: the denoted pairs of `k` come first (stale old pairs of `k` may follow) -/
theorem C12_headline_update_mapping_lists_replaces_unguarded (e : Env) (u : Url) (items : List (Str × QItem))
    (ps : List (Str × Str)) (k : Str)
    (hden : expandItems items = some ps) (hg : GoodPairs ps) (hold : GoodPairs (queryPairs u)) (hk : k ∈ keysOf items) :
    ∃ v, updateQuery e u (.mapping items) = .ok v ∧
      ps.filter (fun p => p.1 = k) <+: (queryPairs v).filter (fun p => p.1 = k) :=
  C12_url_update_lists_sets_keys_prefix e u items ps k hden hg hold hk

/-- KNOWN FINDING F-C12-multidict-tail with list values: `?a=1&a=2&b=3&b=4` updated with `{"a": [9], "b": [8]}` reads
    `a=9&b=8&b=4` — the guard `htail` is needed -/
theorem C12_headline_update_mapping_lists_replaces_fails_for_stale_duplicate (e : Env) :
    let u := fromParts [] [] [] [97, 61, 49, 38, 97, 61, 50, 38, 98, 61, 51, 38, 98, 61, 52] []
    ∃ v, updateQuery e u (.mapping [([97], .many [.int 9]), ([98], .many [.int 8])]) = .ok v ∧
      queryPairs v = [([97], [57]), ([98], [56]), ([98], [52])] :=
  C12_url_update_lists_sets_keys_needs_guard e

/-- `update_query({"c": []})` on `?a=1&c=2&c=3` removes every pair of key "c" (the empty list is a slot that denotes no pair) -/
theorem C12_headline_update_empty_list_removes (e : Env) :
    let u := fromParts [] [] [] [97, 61, 49, 38, 99, 61, 50, 38, 99, 61, 51] []
    ∃ v, updateQuery e u (.mapping [([99], .many [])]) = .ok v ∧ queryPairs v = [([97], [49])] :=
  C12_update_query_empty_list_removes e

/-! ### the guard `GoodPairs (queryPairs u)` holds for every URL obtained through the auto-encoding API (closes GAPS 7) -/

/-- the stored query of a reachable URL (`Reach`, see the reading guide) is ASCII text, so the pairs read from it are Python
    strings without lone surrogates: this discharges the hypothesis `hold` of every theorem of this file -/
theorem C12_headline_reachable_good_pairs (e : Env) (u : Url)
    (hr : Reach e u) :   -- excludes `encoded=True` constructions (where `?\ud800=1` is possible: `surrUrl`)
    GoodPairs (queryPairs u) :=
  C12_constructor_goodpairs e u hr

/-- instance: C12_headline_update_is_multidict_update for reachable URLs, without a hypothesis on the old query -/
theorem C12_headline_update_is_multidict_update_reachable (e : Env) (u : Url) (hr : Reach e u)
    (items : List (Str × QItem)) (ps : List (Str × Str)) (s : Str) :
    (SingleValued items → expandItems items = some ps → GoodPairs ps → ps ≠ [] →
      (∃ v, updateQuery e u (.pairs items) = .ok v ∧ queryPairs v = mdUpdate (queryPairs u) ps) ∧
      (∃ v, updateQuery e u (.mapping items) = .ok v ∧ queryPairs v = mdUpdate (queryPairs u) ps)) ∧
    (GoodText s → s ≠ [] →
      ∃ v, updateQuery e u (.str s) = .ok v ∧ queryPairs v = mdUpdate (queryPairs u) (parseQsl s)) :=
  C12_reach_update_is_multidict_update e u hr items ps s

/-! ## without_query_params -/

/-- "without_query_params removes exactly the named keys" (and keeps the others in order) -/
theorem C12_headline_without_query_params (e : Env) (u : Url) (names : List Str)
    -- the kept pairs are re-rendered: see `C12_headline_without_query_params_fails_for`
    (hold : GoodPairs (queryPairs u)) :
    ∃ v, withoutQueryParams e u names = .ok v ∧
      queryPairs v = (queryPairs u).filter (fun p => !names.contains p.1) :=
  C12_url_without_query_params e u names hold

/-- the guard is needed: `?\ud800=1&b=2` (encoded=True only) without "b" reads back `("", "1")` -/
theorem C12_headline_without_query_params_fails_for (e : Env) :
    ∃ v, withoutQueryParams e surrUrl [[98]] = .ok v ∧ queryPairs v = [([], [49])] ∧
      (queryPairs surrUrl).filter (fun p => ![[98]].contains p.1) = [([0xD800], [49])] :=
  C12_url_without_query_params_needs_good_old e

/-- instance: "without_query_params removes exactly the named keys" for reachable URLs (closes GAPS 7 for this clause): no
    hypothesis on the old query -/
theorem C12_headline_without_query_params_reachable (e : Env) (u : Url)
    (hr : Reach e u)   -- obtained through the auto-encoding API (see the reading guide)
    (names : List Str) :
    ∃ v, withoutQueryParams e u names = .ok v ∧
      queryPairs v = (queryPairs u).filter (fun p => !names.contains p.1) :=
  C12_reach_without_query_params e u hr names

/-! ## None, rejected values -/

/-- "None clears the query (with_query, update_query) or is a no-op (extend_query)" -/
theorem C12_headline_none (e : Env) (u : Url) :
    withQuery e u .none = .ok (fromParts u.scheme u.netloc u.path [] u.fragment) ∧
    updateQuery e u .none = .ok (fromParts u.scheme u.netloc u.path [] u.fragment) ∧
    extendQuery e u .none = .ok u :=
  ⟨C12_with_query_none e u, C12_update_query_none e u, C12_extend_query_none e u⟩

/-- "bool, None values, NaN/inf … are rejected with TypeError/ValueError": the per-value gate `query_var` -/
theorem C12_headline_value_gate (v : QVal) :
    (queryVar v = .error .typeError ↔ (v = .bool ∨ v = .none ∨ v = .other)) ∧
    (queryVar v = .error .valueError ↔ ∃ t k, v = .float t k ∧ k ≠ 0) ∧
    (∀ n, queryVar (.int n) = .ok (intToStr n)) ∧ (∀ s, queryVar (.str s) = .ok s) :=
  C12_query_var_gate v

/-- … a rejected value anywhere in a mapping (list slots included) rejects the whole `with_query` AND
    `extend_query` call with the error of the first offending value; in a sequence a list value is a TypeError. -/
theorem C12_headline_rejects_values (e : Env) (u : Url) (items : List (Str × QItem)) (err : PyErr)
    (h : firstErr (flatVals items) = some err) :
    withQuery e u (.mapping items) = .error err ∧ extendQuery e u (.mapping items) = .error err :=
  ⟨C12_with_query_mapping_first_error e u items err h,
    eq_error ((errOf_extendQuery e u _).trans ((errOf_getStrQuery_mapping e.b items).trans h))⟩

/-- the per-slot gate of a pair SEQUENCE (`QsMore.slotErr`, C12More.lean): bool / None / any other type → TypeError,
    NaN / ±inf → ValueError, a nested list/tuple → TypeError (whatever it contains); str, int and finite float are
    accepted.  `QsMore.pairsFirstErr items` is `slotErr` of the first slot that has one. -/
theorem C12_headline_rejected_value_kinds_pairs :
    slotErr (.one .bool) = some .typeError ∧ slotErr (.one .none) = some .typeError ∧
    slotErr (.one .other) = some .typeError ∧
    (∀ t k, k ≠ 0 → slotErr (.one (.float t k)) = some .valueError) ∧
    (∀ vs, slotErr (.many vs) = some .typeError) ∧
    (∀ s, slotErr (.one (.str s)) = none) ∧ (∀ n, slotErr (.one (.int n)) = none) ∧
    (∀ t, slotErr (.one (.float t 0)) = none) :=
  C12_slotErr_kinds

/-- "bool, None values, NaN/inf … are rejected" — pair SEQUENCE argument, all three methods (closes GAPS 6, first part):
    `with_query` and `extend_query` raise the error of the first offending pair; `update_query` FAILS too — it renders the
    UPDATED multidict, so it raises the error of the first offending pair in THAT order, always the error of one of the
    offending pairs of the argument (they can differ: `C12_headline_update_query_error_order`) -/
theorem C12_headline_rejects_values_pairs (e : Env) (u : Url) (items : List (Str × QItem)) (err : PyErr)
    (h : pairsFirstErr items = some err) :   -- some slot is rejected; `err` is the error of the first such slot
    withQuery e u (.pairs items) = .error err ∧ extendQuery e u (.pairs items) = .error err ∧
    ∃ err', updateQuery e u (.pairs items) = .error err' ∧
      pairsFirstErr (mdUpdate (strItems (queryPairs u)) items) = some err' ∧
      ∃ p ∈ items, slotErr p.2 = some err' :=
  C12_pairs_bad_value_rejected e u items err h

/-- … `update_query` with a MAPPING argument (list/tuple values allowed; closes GAPS 6, second part): a rejected value
    anywhere in the mapping makes the call FAIL, with the error of one of the offending values (the first one in the order
    of the updated multidict) -/
theorem C12_headline_update_query_rejects_values_mapping (e : Env) (u : Url) (items : List (Str × QItem)) (err : PyErr)
    (h : firstErr (flatVals items) = some err) :   -- some value (list slots included) is rejected by `query_var`
    ∃ err', updateQuery e u (.mapping items) = .error err' ∧
      firstErr (flatVals (mdUpdate (strItems (queryPairs u)) items)) = some err' ∧
      ∃ v ∈ flatVals items, queryVar v = .error err' :=
  C12_update_query_mapping_bad_value_rejected e u items err h

/-- … so when all offending values are of ONE kind, `update_query` raises exactly that kind (sequence and mapping) -/
theorem C12_headline_update_query_rejects_same_kind (e : Env) (u : Url) (items : List (Str × QItem)) (err : PyErr) :
    ((∃ p ∈ items, slotErr p.2 = some err) → (∀ p ∈ items, slotErr p.2 = none ∨ slotErr p.2 = some err) →
      updateQuery e u (.pairs items) = .error err) ∧
    ((∃ v ∈ flatVals items, queryVar v = .error err) → (∀ v ∈ flatVals items, ∀ e', queryVar v = .error e' → e' = err) →
      updateQuery e u (.mapping items) = .error err) :=
  ⟨C12_update_query_pairs_bad_kind e u items err, C12_update_query_mapping_bad_kind e u items err⟩

/-- the order effect (why `update_query` gets "one of the offending values", not "the first"): on `?b=1&a=2`,
    `[("a", True), ("b", float("nan"))]` is rejected with TypeError by with_query (first offending pair: the bool) but
    with ValueError by update_query (the updated multidict is `b=nan, a=True`).  Both are within "TypeError/ValueError". -/
theorem C12_headline_update_query_error_order (e : Env) :
    let u := fromParts [] [] [] [98, 61, 49, 38, 97, 61, 50] []
    let items : List (Str × QItem) := [([97], .one .bool), ([98], .one (.float [110, 97, 110] 2))]
    withQuery e u (.pairs items) = .error .typeError ∧ updateQuery e u (.pairs items) = .error .valueError :=
  C12_update_query_error_order e

/-- "… and bytes are rejected" (TypeError), and whatever fails fails with TypeError or ValueError only -/
theorem C12_headline_rejects_bytes (e : Env) (u : Url) (a : QArg) (err : PyErr) :
    (withQuery e u (.bytes false) = .error .typeError ∧ extendQuery e u (.bytes false) = .error .typeError ∧
      updateQuery e u (.bytes false) = .error .typeError) ∧
    ((withQuery e u a = .error err ∨ extendQuery e u a = .error err ∨ updateQuery e u a = .error err) →
      err = .typeError ∨ err = .valueError) :=
  ⟨C12_bytes_rejected e u, fun h => h.elim (C12_with_query_error_kinds e u a err)
    (fun h => h.elim (C12_extend_query_error_kinds e u a err) (C12_update_query_error_kinds e u a err))⟩

/-! ## non-vacuity -/
example : expandItems sampleItems = some samplePs ∧ GoodPairs samplePs := by decide +kernel
example : firstErr (flatVals [([97], .one (.int 1)), ([98], .many [.str [120], .float [105, 110, 102] 1, .bool])]) =
    some .valueError := by decide +kernel

/-
GAPS:
 1. "the argument is never mutated": NOT expressible in the model (arguments are immutable Lean values);
    no theorem.  Covered only by the differential/mutation harness (C08 treats URL immutability, not
    argument immutability).
 2. CLOSED by C12_with_query_str_pairs, C12_extend_query_str_pairs, C12_parseQslLit_no_pct, C12_str_argument_pct_differs
    (C12More.lean), see C12_headline_with_query_str, C12_headline_extend_query_str, C12_headline_str_argument_pairs_def,
    C12_headline_with_query_str_fails_for_percent, C12_headline_observation_str_argument_pct.  For every string without lone surrogates `with_query(s)` has exactly, and
    `extend_query(s)` appends exactly, the LITERAL pairs of `s` (split on '&' and the first '=', '+' → ' ', '%' is data); these
    are the `parse_qsl` pairs whenever `s` contains no '%'.  The lemma this item asked for, `parseQsl (QUERY_QUOTER s)
    = parseQsl s`, is FALSE for strings with percent escapes (proved instead: `= parseQslLit s`, C12_parseQsl_quote) — so for a
    string argument with_query / extend_query ("%41" is the text "%41") and update_query ("%41" is "A") read the string
    differently.  This is recorded as an OBSERVATION, not as a violated clause of C12 (the property text does not say how a
    string argument denotes "the pairs of q"; each method satisfies its clause for its own reading) and not as a
    KNOWN_FINDINGS entry: C12_headline_observation_str_argument_pct, citing C12_str_argument_pct_differs — a string
    argument with `%41` reads back as `%41` through with_query / extend_query but as `A` through update_query.  (Also in
    C12More.lean, not restated here: `URL.build(query_string=…)` /
    `build(query=…)` — C12_build_query_string_pairs, C12_build_query_pairs.)
    EXTENDED (the two readings side by side, and what the PARSED reading is) by C12_qstr_three_forms,
    C12_qstr_with_extend_pairs, C12_qstr_parse_pieces, C12_qstr_update_query_exact, C12_qstr_update_query_empty,
    C12_qstr_mod_is_update_query (C02QueryStr.lean), see C12_headline_qstr_three_forms,
    C12_headline_qstr_with_extend_pairs, C12_headline_qstr_parse_pieces, C12_headline_qstr_update_query_exact,
    C12_headline_qstr_mod_is_update_query (C12HeadlineMore5.lean).  Proved, for a string `s` without lone surrogates
    (`GoodText s`): with_query(s) has the pairs `parseQslLit s`, extend_query(s) the old pairs followed by them (nothing
    needed of the URL), update_query(s) the pairs `MultiDict(old).update(parse_qsl(s))` (hypotheses `GoodPairs
    (queryPairs u)`, `s ≠ ""`; `update_query("")` changes nothing), and `parseQslLit s = parse_qsl(s)` when `s` has no
    '%'; `parse_qsl(s)` is one pair per NON-EMPTY '&'-piece, split at the first '=', key and value form-decoded with
    errors='replace' (';' is not a separator); the stored TEXT of update_query(<non-empty str>) is given for EVERY
    string with no hypothesis.  The observation of this item is unchanged; what the parsed reading does to the BYTES of
    an undecodable escape is KNOWN FINDING F-C02-query-replace (property C02: C02Headline.lean GAPS 8), and what it does
    to literal '=' / ';' inside a value is C02Headline.lean GAPS 6 — neither is a violated clause of C12 (the pairs are
    as stated).
 3. "floats are rendered by str()": `str(float)` is an INPUT of the model (`QVal.float txt kind`); only the
    finite/NaN/inf classification is modelled.  Ints: `intToStr` is proved nowhere to equal Python's
    `str(int)` beyond its definition (sign + decimal digits).
 4. CLOSED by C12_url_update_query_lists, C12_url_update_lists_keeps_others, C12_url_update_lists_sets_keys,
    C12_url_update_lists_sets_keys_prefix, C12_url_update_lists_sets_keys_needs_guard, C12_url_update_keeps_others_mapping,
    C12_url_update_sets_keys_mapping, C12_url_update_keeps_others_str, C12_url_update_sets_keys_str (C12More.lean), see
    C12_headline_update_mapping_lists, …_lists_keeps_others, …_lists_replaces, …_lists_replaces_unguarded,
    …_lists_replaces_fails_for_stale_duplicate, C12_headline_update_empty_list_removes, C12_headline_update_keeps_others_mapping_str,
    C12_headline_update_replaces_mapping_str.  update_query with a mapping containing list/tuple values succeeds whenever the
    mapping denotes pairs (no hypothesis on the result any more), "keeps every other pair" holds for the keys not IN THE MAPPING,
    "replaces" holds under the same no-stale-duplicate guard as for sequences (prefix form without it); and the two clauses are
    now stated at URL level for `.mapping` (single values) and `.str` too.
 5. "replaces all pairs whose key occurs in q" is FALSE in general (multidict stale duplicate); proved
    only under the no-tail guard, plus the unguarded prefix/sublist description.  (= F-C12-multidict-tail; now also for
    list-valued mappings, `.mapping` and `.str` arguments.)
    SHARPENED (the clause stays FALSE as stated: KNOWN FINDING F-C12-multidict-tail) by C12_mdUpdate_eq_spec_iff,
    C12_mdUpdate_ne_spec_of_stale, C12_mdUpdate_first_stale, C12_mdUpdateSpec_sublist, C12_mdUpdate_extra_pairs,
    C12_spec_keeps_others, C12_spec_sets_keys, C12_spec_pairs_of_key, C12_spec_shape, C12_spec_in_place,
    C12_staleFree_of_no_surplus, _of_old_unrepeated, _of_nodup, _of_one_surplus_key, _single_key, _of_surplus_late,
    C12_url_update_query_spec, _spec_mapping, _spec_str, _spec_lists, C12_reach_update_query_spec (C12Spec.lean), see
    C12_headline_multidict_update_is_spec_iff, C12_headline_spec_satisfies_update_clauses, C12_headline_spec_positions,
    C12_headline_update_differs_only_by_stale_pairs, C12_headline_update_first_stale_pair,
    C12_headline_staleFree_examples, C12_headline_staleFree_sufficient, C12_headline_staleFree_of_surplus_late,
    C12_headline_update_query_spec, _update_query_spec_lists, _update_query_spec_reachable,
    C12_headline_reachE_update_query_spec, C12_headline_update_query_spec_fails_for_stale_duplicate
    (C12HeadlineMore4.lean).  The failure is now characterised EXACTLY, not by one witness plus a sufficient guard:
    for ALL lists `mdUpdate old arg = mdUpdateSpec old arg ↔ StaleFree old arg`, where `mdUpdateSpec` is a hand-written
    specification that satisfies "replaces all pairs whose key occurs in q" and "keeps every other pair in order"
    literally and without guard, and `StaleFree` is a decidable condition on the two lists (both NEW TRUSTED
    definitions: item 11).  At URL level (pair sequence, single-valued mapping, string; hypotheses as before:
    `GoodPairs` of the argument and of the old query, non-empty argument) the resulting pairs are the specified ones
    IFF `StaleFree (queryPairs u) ps`, and then every updated key has exactly the argument's pairs.  When `StaleFree`
    fails: the first old pair failing the check is a surplus pair (of an updated key, beyond the number of new values)
    and survives at its place; in every case the specified result is a subsequence of the actual one and per key the
    actual values are the specified ones followed by stale old values.  The old guard `htail` ("every OTHER updated
    key has at most as many old pairs as new ones") is one of the proved sufficient conditions for `StaleFree`
    (`_of_one_surplus_key`).  For list-valued mappings only the direction `StaleFree` (of the SLOT lists) ⟹ specified is
    stated at URL level.
    RESTATED for the STRING form in one theorem by C12_qstr_update_query_algebra (C02QueryStr.lean; it cites
    C12_url_update_query_str, C12_url_update_keeps_others_str, C12_url_update_query_spec_str), see
    C12_headline_qstr_update_query_algebra, C12_headline_qstr_update_query_algebra_reachable (C12HeadlineMore5.lean): for
    update_query(<str>) (hypotheses `GoodText s`, `s ≠ ""`, `GoodPairs (queryPairs u)` — the last one discharged for
    `Reach` URLs and for `ReachE` URLs with `NoSurrogate u.query`) the result's pairs are `mdUpdate (queryPairs u)
    (parse_qsl(s))`, every pair whose key is not in `parse_qsl(s)` is kept in order WITHOUT guard, and the result is
    `mdUpdateSpec …` IFF `StaleFree (queryPairs u) (parse_qsl(s))` (then every updated key has exactly the argument's
    pairs).  Nothing new about F-C12-multidict-tail itself.
 6. PARTLY CLOSED by C12_pairs_bad_value_rejected, C12_update_query_mapping_bad_value_rejected, C12_update_query_pairs_bad_kind,
    C12_update_query_mapping_bad_kind, C12_slotErr_kinds (C12More.lean), see C12_headline_rejects_values_pairs,
    C12_headline_update_query_rejects_values_mapping, C12_headline_update_query_rejects_same_kind,
    C12_headline_rejected_value_kinds_pairs, C12_headline_update_query_error_order.  "The call FAILS" is now proved for a pair
    SEQUENCE with a bad value (all three methods) and for update_query with a mapping; with_query / extend_query raise the
    error of the FIRST offending value, update_query the error of ONE of the offending values (the first in the order of the
    updated multidict; exactly determined when all offending values are of one kind).  The former open tail ("`bool` etc. as
    KEYS, and non-str keys, are not modelled (keys are `Str`)") is CLOSED AT MODEL LEVEL ONLY by C12_dyn_value_gate,
    C12_dyn_rejects, C12_dyn_bad_value_kinds, C12_dyn_rejects_in_list_value, C12_dyn_argument_gate, C12_dyn_bytes_argument,
    C12_dyn_key_of_pair, C12_dyn_update_query_non_str_key, C12_dyn_update_query_sequence, C12_dyn_non_str_keys,
    C12_dyn_none_key_differs, C12_dyn_empty_value_hides_key, C12_dyn_unpack (C12Dyn.lean), see C12_headline_dyn_value_gate,
    _dyn_bad_value_kinds, _dyn_rejects_values, _dyn_rejects_in_list_value, _dyn_argument_gate, _dyn_bytes_argument,
    _dyn_bytes_argument_fails_for_empty, _dyn_key_of_pair, _dyn_non_str_keys, _dyn_update_query_non_str_key,
    _dyn_update_query_sequence, _dyn_none_key_differs, _dyn_empty_value_hides_key, _dyn_unpack (C12HeadlineMore3.lean).
    These theorems are about `dynWithQuery` / `dynExtendQuery` / `dynUpdateQuery` (+ keyword forms) of YarlModel/Dyn.lean: a
    hand transcription of the type dispatch of `get_str_query` / `query_var` / `URL.update_query` / (C implementation of)
    multidict 6.2 `MultiDict.update` over the object universe `PyObj`, tied to CPython ONLY by the run-time probe table at the
    end of C12Dyn.lean, not by proof.  Proved there (model-level): a bool / None / bytes / dict / URL / object value
    (TypeError) or NaN / inf (ValueError) is rejected by all three methods in EVERY container — dict, list of 2-tuples, tuple
    of 2-lists, kwargs — with_query / extend_query with exactly the error of the first bad value (entries before it fine),
    update_query with TypeError or ValueError (exactly that error when the other entries are fine); bad values inside a
    list / tuple value; KEYS: a str subclass key is the str; for with_query / extend_query every key type other than
    str / None is a TypeError when the pair is rendered; for update_query EVERY non-str key (None included) is a TypeError
    from `MultiDict.update`, and a sequence is validated element by element (not iterable → TypeError, length ≠ 2 →
    ValueError, key → TypeError), the first offending element deciding; a truthy bytes / int / float / bool / URL / object
    ARGUMENT is a TypeError.  FALSE / not rejected (model-level, each with a probe row from the real library):
    "bytes are rejected" fails for the EMPTY bytes argument — `with_query(b"")` clears the query, `extend_query(b"")` /
    `update_query(b"")` keep it — and likewise every FALSY non-query argument (`0`, `False`, `0.0`, `URL("")`) is treated
    like "" (C12_headline_dyn_bytes_argument_fails_for_empty, C12_headline_dyn_argument_gate); the KEY `None` is accepted
    by with_query / extend_query as the text "None" but rejected by update_query (C12_headline_dyn_none_key_differs; an
    observation — the property text speaks of None VALUES); a non-str key whose value is an EMPTY list / tuple is not
    noticed by with_query / extend_query (C12_headline_dyn_empty_value_hides_key).  STILL OPEN: item 10 (a).
    FURTHER (cross-reference, MODEL-LEVEL, not imported here): `without_query_params(*names)` with ARBITRARY name
    objects is treated in C19DynBuild.lean over YarlModel/DynBuild.lean — C19_dynWithoutQueryParams, see
    C19_headline_dyn_without_query_params (C19HeadlineMore4.lean): str (subclass) names give the typed function of this
    file; the only failure is TypeError, iff some name is unhashable; hashable non-str names are silently ignored.
    Trusted base: C19Headline.lean GAPS 8 (DynBuild.lean is a hand transcription, tied to CPython by its probe table).
 7. CLOSED by C12_constructor_goodpairs, C12_reach_without_query_params, C12_reach_update_is_multidict_update (C12More.lean,
    via C01_reachable_wf), see C12_headline_reachable_good_pairs, C12_headline_without_query_params_reachable,
    C12_headline_update_is_multidict_update_reachable.  `GoodPairs (queryPairs u)` holds for every URL in `Reach e` (constructor
    on a Python string, build(encoded=False), every auto-encoding modifier, join, copies), so the hypothesis `hold` of every
    theorem above is discharged for them (the remaining `_reach_` instances — keeps_others, replaces, lists — are in
    C12More.lean: C12_reach_update_keeps_others, C12_reach_update_replaces, C12_reach_update_lists).
    ADDED: the string-form algebra theorem of item 5 is stated with `hold` discharged for `Reach`
    (C12_headline_qstr_update_query_algebra_reachable, C12HeadlineMore5.lean; a composition with
    C12_constructor_goodpairs).
 8. `mdUpdate` is a hand model of multidict 6.2 `_update_items` (checked by the differential harness); there
    is no proof link to multidict's source.  kwargs-vs-positional conflicts (`.noArgs`, both given) are
    modelled only as `.noArgs → ValueError`.  (C12Dyn.lean adds, model-level: the keyword forms `f(k=v, …)` as
    `dynQueryKw` — a mapping with str keys, no keyword at all = `.noArgs` — covered by C12_headline_dyn_rejects_values; and
    `Dyn.mdPair`, a hand model of the per-element validation of the C implementation of `MultiDict.update`, with the same
    status as `mdUpdate`.  "Both positional and keyword arguments given" is still not modelled.)
    PARTLY CLOSED by C12_mdUpdate_eq_spec_iff, C12_mdUpdateSpec_sublist, C12_mdUpdate_extra_pairs (C12Spec.lean), see
    C12_headline_multidict_update_is_spec_iff, C12_headline_update_differs_only_by_stale_pairs,
    C12_headline_update_spec_def, C12_headline_update_spec_examples (C12HeadlineMore4.lean).  Proved: the iterative
    transcription `mdUpdate` (two loops with a `used` table) is tied to a NON-ITERATIVE specification `mdUpdateSpec`
    (rank-wise overwrite in place / delete surplus / append the rest): equal exactly on the `StaleFree` inputs, and in
    every case the specified list is a subsequence of `mdUpdate`'s.  So WHAT `mdUpdate` computes is now known in closed
    form, relative to the reading of `mdUpdateSpec` / `StaleFree` (item 11).  STILL OPEN: there is no proof link from
    `mdUpdate` (or from `mdUpdateSpec`) to multidict's source or documentation — `mdUpdate` is checked against the real
    library by the differential harness only; the kwargs-vs-positional remark above is unchanged.
 9. `Reach` does not contain URLs made or modified with `encoded=True` (`URL(s, encoded=True)`, `build(encoded=True)`,
    `with_path(…, encoded=True)`); for those no theorem of THIS file discharges `hold` (and for `URL(s, encoded=True)` it can
    fail: `surrUrl`).
    CLOSED by C12_reachE_good_pairs, C12_reachE_query_no_surrogate, C12_reachE_good_pairs_of_inputs,
    C12_reachE_with_and_extend_query, C12_reachE_without_query_params, C12_reachE_update_is_multidict_update,
    C12_reachE_update_keeps_others, C12_reachE_update_replaces, C12_reachE_update_lists, C12_reachE_query_accessor_spec,
    C12_reachE_fails_for_surrogate (C12ReachE.lean, over `ReachE` = the closure of ALL entry points incl. `encoded=True`,
    ReachE.lean), see C12_headline_reachE_good_pairs, _reachE_good_pairs_of_inputs, _reachE_with_and_extend_query,
    _reachE_without_query_params, _reachE_update_is_multidict_update, _reachE_update_keeps_others, _reachE_update_replaces,
    _reachE_update_lists, _reachE_query_accessor_spec, _reachE_fails_for_surrogate (C12HeadlineMore3.lean).
    Proved: with_query / extend_query (mapping, pair sequence) need NOTHING of the URL; without_query_params and
    update_query (is-multidict-update for sequence / single-valued mapping / string, keeps-others and replaces for a pair
    sequence, keeps-others / replaces / prefix for list-valued mappings) hold for every `ReachE` URL under ONE hypothesis.
    Hypothesis: `NoSurrogate u.query` — no lone surrogate in the stored query; it follows from the INPUTS when no text
    handed over with `encoded=True` contained a lone surrogate (`ReachEX NoSurrogate Z Sc e u`,
    C12_headline_reachE_good_pairs_of_inputs) and it is NEEDED: `URL('?\ud800=1&b=2', encoded=True)` is in `ReachE` and
    there "keeps every other pair" / "removes exactly the named keys" are FALSE (C12_headline_reachE_fails_for_surrogate; =
    C06 "lone surrogates excepted").  The F-C12-multidict-tail guard of item 5 is unchanged.
10. NEW.  Side conditions introduced by the theorems that close 9 and the tail of 6.  (a) Everything cited from C12Dyn.lean
    is MODEL-LEVEL: YarlModel/Dyn.lean is a transcription, its ASSUMPTIONS (header of Dyn.lean) are not proved — `.strSub`
    is a PLAIN str subclass (no overridden `__str__` / `__iter__` / …); a `dict` stands for every Mapping type (MultiDict
    etc. have no tag); `.other` is an `object()`-like instance; objects with `__int__` (Fraction, Decimal, numpy ints) and
    bytearray / memoryview have no tag; `Dyn.mdPair` models the C implementation of multidict 6.2 (the pure-Python one
    raises TypeError instead of ValueError for an element of the wrong length: observed, not modelled); the probe table
    checks finitely many rows on `URL("http://h/p?a=1#f")` only.  (b) `NoSurrogate u.query` is a hypothesis on the stored
    text; from the inputs it is derived only in the form "ALL `encoded=True` texts on the way to `u` are free of lone
    surrogates" (sufficient, not necessary).  (c) Over `ReachE` the STRING-argument clauses of update_query for
    keeps-others / replaces and the single-valued-mapping forms of keeps-others / replaces are not restated (they follow
    from C12_headline_update_keeps_others_mapping_str / _replaces_mapping_str with `hold` from
    C12_headline_reachE_good_pairs); with_query / extend_query with a string argument need no hypothesis on `u` at all
    (C12_headline_with_query_str, C12_headline_extend_query_str).
    PARTLY CLOSED: the STRING-argument clauses of update_query (is-multidict-update, keeps-others, specified-iff-StaleFree,
    replaces under `StaleFree`) ARE now restated over `ReachE` with the one hypothesis `NoSurrogate u.query`
    (C12_headline_qstr_update_query_algebra_reachable, C12HeadlineMore5.lean; a composition with C12_reachE_good_pairs);
    the single-valued-mapping forms over `ReachE` are still not restated.
11.  NEW.  Trusted definitions and side conditions introduced by the theorems that sharpen 5 and partly close 8
    (C12Spec.lean).  (a) `mdUpdateSpec` (with `ranked`) is a hand-written SPECIFICATION of what
    `MultiDict(old).update(arg)` is meant to do; that it is the intended behaviour of multidict is a matter of READING
    (spelled out by `rfl` and on three inputs: C12_headline_update_spec_def, C12_headline_update_spec_examples); what is
    PROVED about it is that it satisfies the two update_query clauses of C12 without guard and where it sits
    (C12_headline_spec_satisfies_update_clauses, C12_headline_spec_positions).  In particular its POSITIONAL choices
    (overwrite in place by rank; appended pairs in argument order) are part of the definition, not derived from the
    property text, which only says "in order" for the pairs that are kept.  (b) `StaleFree` (with `isSurplus`,
    `surplusBefore`, `staleFreeAt`) is a `Prop`-valued, decidable predicate whose reading must be trusted; an equivalent
    split form is proved (C12_headline_staleFree_def) and four inputs are computed (C12_headline_staleFree_examples).
    It speaks about POSITIONS in the old list (it is not a per-key count condition): the same multiset of old pairs can
    be `StaleFree` in one order and not in another (`a=1&b=3&a=2&b=4` is, `a=1&a=2&b=3&b=4` is not).  (c) At URL level
    the iff is stated for a pair sequence, a single-valued mapping and a string (hypotheses `SingleValued items`,
    `GoodPairs ps`, `GoodPairs (queryPairs u)`, `ps ≠ []` resp. `GoodText s`, `s ≠ []`); for a mapping with list/tuple
    values only the implication from `StaleFree (strItems (queryPairs u)) items` — a condition on SLOTS, not on the
    expanded pairs — is stated (C12_headline_update_query_spec_lists); over `ReachE` only the pair-sequence form is
    restated (C12_headline_reachE_update_query_spec, hypothesis `NoSurrogate u.query` as in 9).  (d) All this is about
    the model function `mdUpdate`: that the REAL multidict 6.2 fails exactly on the non-`StaleFree` inputs is not proved
    (item 8); the differential harness compares `mdUpdate` with the library on the inputs it generates, and whether
    those include non-`StaleFree` inputs other than the known witness was not examined for this item.
12. NEW (with C02QueryStr.lean).  The `%` operator (`URL.__mod__`).  The model has NO separate operation for it: in the
    library it is the single line `return self.update_query(query)` — a READING of the source, not a theorem and not a
    generated fact — so every update_query statement of this file is taken to be the statement for `url % q`.  What is
    proved is only that the model's untyped positional entry point `dynUpdateQuery` (YarlModel/Dyn.lean, a hand
    transcription: item 10 (a)) on a `str` / plain `str` subclass IS the typed `updateQuery` on that string
    (C12_qstr_mod_is_update_query, see C12_headline_qstr_mod_is_update_query, C12HeadlineMore5.lean).  Whether the
    differential harness exercises `%` separately from `update_query` was not examined for this item.  Trusted
    definitions used by the string-form statements: `R15.pieces`, `R15.keyText`, `R15.valText` (C02QueryStr.lean; spelled
    out in C02_headline_qstr_vocabulary_def, C02HeadlineMore5.lean), `formDecode`, `parseQslLit` (item 2).
-/
end Yarl
