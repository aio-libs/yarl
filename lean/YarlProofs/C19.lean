/-
  C19.lean — failures are reported only as ValueError / TypeError; the model has a third kind, `.oracleMiss`, which
  is the driver asking the harness for a table entry and no Python exception (`Allowed`).

  The first half, `namespace ErrLemmas`, is the walk: one `…_errs` lemma per model function (`unfold f; errs`),
  registered as a `Leaf` instance where a later walk meets the function.  The second half states the property from
  them, for `Allowed` and for the sharper `VO` / `TV`, and totality (`Q := Never`) where no failure is possible.
-/
import YarlModel
import YarlProofs.C07
import YarlProofs.Lemmas.ErrLemmas
import YarlProofs.Lemmas.HostLemmas
import YarlProofs.Lemmas.PathAlg
namespace Yarl
open Yarl.ErrLemmas

namespace ErrLemmas

variable {Q : PyErr → Prop}

instance splitUrl_errs [Sub VO Q] : Leaf Q (splitUrl o s) := ⟨by
  rcases C07_split_total o s with ⟨p, h⟩ | h | ⟨f, a, h⟩ <;> rw [h]
  · trivial
  · exact vo_value
  · exact vo_oracle f a⟩

theorem splitNetloc_errs [Sub VO Q] (o : Oracles) (s : Str) : Errs Q (splitNetloc o s) := by
  rcases C07_netloc_total o s with ⟨p, h⟩ | h | ⟨f, a, h⟩ <;> rw [h]
  · trivial
  · exact vo_value
  · exact vo_oracle f a

instance [Sub VO Q] : Leaf Q (splitNetloc o s) := ⟨splitNetloc_errs o s⟩

/-- the NFKC screen (`_check_netloc`): a ValueError or an oracle request; `build(authority=…)` runs it too -/
instance checkNetloc_errs [Sub VO Q] : Leaf Q (checkNetloc o s) := ⟨by unfold checkNetloc; errs⟩

instance isDigitChar_errs [Sub VO Q] : Leaf Q (isDigitChar o c) := ⟨by unfold isDigitChar; errs⟩

instance idnaEncode_errs [Sub VO Q] : Leaf Q (idnaEncode o h) := ⟨by unfold idnaEncode; errs⟩

instance idnaDecode_errs [Sub VO Q] : Leaf Q (idnaDecode o h) := ⟨by unfold idnaDecode; errs⟩

/-- the IP branch returns an `R Str` (the zone id is validated): it is `pure _` or a ValueError -/
theorem ipBranch_errs [Sub VO Q] {b v : Bool} {host : Str} {r : R Str}
    (h : (if b = true then HostLemmas.ipResV host v else none) = some r) : Errs Q r := by
  rw [HostLemmas.ipResV_eq] at h
  split at h
  · obtain ⟨r0, _, rfl⟩ := Option.map_eq_some_iff.1 h
    split
    · exact Errs.error vo_value
    · exact Errs.ok _
  · cases h

/-- the re-entry on the ASCII text an IDNA mapping produced: same error kinds -/
instance encodeHostA_errs [Sub VO Q] : Leaf Q (encodeHostA o h v) := ⟨by
  unfold encodeHostA; errs
  exact ipBranch_errs ‹_›⟩

theorem encodeHost_errs [Sub VO Q] (o : Oracles) (h : Str) (v : Bool) : Errs Q (encodeHost o h v) := by
  unfold encodeHost; errs
  exact ipBranch_errs ‹_›

instance [Sub VO Q] : Leaf Q (encodeHost o h v) := ⟨encodeHost_errs o h v⟩

theorem encodeUrl_errs [Sub VO Q] (e : Env) (s : Str) : Errs Q (encodeUrl e s) := by
  unfold encodeUrl; errs

theorem preEncodedUrl_errs [Sub VO Q] (e : Env) (s : Str) : Errs Q (preEncodedUrl e s) := by
  unfold preEncodedUrl; errs

theorem lazyNet_errs [Sub VO Q] (e : Env) (u : Url) : Errs Q (lazyNet e u) := by
  unfold lazyNet; errs

theorem net_errs [Sub VO Q] (e : Env) (u : Url) : Errs Q (net e u) := by
  unfold net; split
  · exact Errs.pure _
  · exact lazyNet_errs e u

theorem rawUser_errs [Sub VO Q] (e : Env) (u : Url) : Errs Q (rawUser e u) := Errs.map (net_errs e u)
theorem rawPassword_errs [Sub VO Q] (e : Env) (u : Url) : Errs Q (rawPassword e u) := Errs.map (net_errs e u)
theorem rawHost_errs [Sub VO Q] (e : Env) (u : Url) : Errs Q (rawHost e u) := Errs.map (net_errs e u)
theorem explicitPort_errs [Sub VO Q] (e : Env) (u : Url) : Errs Q (explicitPort e u) := Errs.map (net_errs e u)

instance [Sub VO Q] : Leaf Q (rawUser e u) := ⟨rawUser_errs e u⟩
instance [Sub VO Q] : Leaf Q (rawPassword e u) := ⟨rawPassword_errs e u⟩
instance [Sub VO Q] : Leaf Q (rawHost e u) := ⟨rawHost_errs e u⟩
instance [Sub VO Q] : Leaf Q (explicitPort e u) := ⟨explicitPort_errs e u⟩

theorem user_errs [Sub VO Q] (e : Env) (u : Url) : Errs Q (user e u) := by unfold user; errs
theorem password_errs [Sub VO Q] (e : Env) (u : Url) : Errs Q (password e u) := by unfold password; errs
theorem host_errs [Sub VO Q] (e : Env) (u : Url) : Errs Q (host e u) := by unfold host; errs
theorem hostSubcomponent_errs [Sub VO Q] (e : Env) (u : Url) : Errs Q (hostSubcomponent e u) := by
  unfold hostSubcomponent; errs
theorem hostPortSubcomponent_errs [Sub VO Q] (e : Env) (u : Url) : Errs Q (hostPortSubcomponent e u) := by
  unfold hostPortSubcomponent; errs
theorem port_errs [Sub VO Q] (e : Env) (u : Url) : Errs Q (port e u) := by unfold port; errs
theorem isDefaultPort_errs [Sub VO Q] (e : Env) (u : Url) : Errs Q (isDefaultPort e u) := by
  unfold isDefaultPort; errs

instance [Sub VO Q] : Leaf Q (user e u) := ⟨user_errs e u⟩
instance [Sub VO Q] : Leaf Q (password e u) := ⟨password_errs e u⟩
instance [Sub VO Q] : Leaf Q (host e u) := ⟨host_errs e u⟩
instance [Sub VO Q] : Leaf Q (hostSubcomponent e u) := ⟨hostSubcomponent_errs e u⟩
instance [Sub VO Q] : Leaf Q (port e u) := ⟨port_errs e u⟩

theorem authority_errs [Sub VO Q] (e : Env) (u : Url) : Errs Q (authority e u) := by unfold authority; errs
theorem str_errs [Sub VO Q] (e : Env) (u : Url) : Errs Q (str e u) := by unfold str; errs

instance isPrintableChar_errs [Sub VO Q] : Leaf Q (isPrintableChar o c) := ⟨by unfold isPrintableChar; errs⟩

instance humanQuote_errs [Sub VO Q] : Leaf Q (humanQuote o s u) := ⟨by unfold humanQuote; errs⟩

instance humanQuoteOpt_errs [Sub VO Q] : Leaf Q (humanQuoteOpt o s u) := ⟨by unfold humanQuoteOpt; errs⟩

theorem humanRepr_errs [Sub VO Q] (e : Env) (u : Url) : Errs Q (humanRepr e u) := by unfold humanRepr; errs

/-! ### query -/

instance queryVar_errs [Sub TV Q] : Leaf Q (queryVar v) := ⟨by unfold queryVar; errs⟩
instance pairStr_errs [Sub TV Q] : Leaf Q (pairStr b k v) := ⟨by unfold pairStr; errs⟩
instance strQueryFromSeqIterable_errs [Sub TV Q] : Leaf Q (strQueryFromSeqIterable b l) :=
  ⟨by unfold strQueryFromSeqIterable; errs⟩
instance strQueryFromIterable_errs [Sub TV Q] : Leaf Q (strQueryFromIterable b l) :=
  ⟨by unfold strQueryFromIterable; errs⟩
theorem getStrQuery_errs [Sub TV Q] (b : Backend) (a : QArg) : Errs Q (getStrQuery b a) := by
  unfold getStrQuery; errs
instance [Sub TV Q] : Leaf Q (getStrQuery b a) := ⟨getStrQuery_errs b a⟩

/-! ### build and the modifiers -/

instance lowerAny_errs [Sub VO Q] : Leaf Q (lowerAny e s) := ⟨by unfold lowerAny; errs⟩

theorem build_errs [Sub VO Q] [Sub TV Q] (e : Env) (a : BuildArgs) : Errs Q (build e a) := by
  unfold build; errs

theorem withScheme_errs [Sub VO Q] (e : Env) (u : Url) (s : Str) : Errs Q (withScheme e u s) := by
  unfold withScheme; errs
theorem withUser_errs [Sub VO Q] (e : Env) (u : Url) (s : Option Str) : Errs Q (withUser e u s) := by
  unfold withUser; errs
theorem withPassword_errs [Sub VO Q] (e : Env) (u : Url) (s : Option Str) : Errs Q (withPassword e u s) := by
  unfold withPassword; errs
theorem withHost_errs [Sub VO Q] (e : Env) (u : Url) (s : Str) : Errs Q (withHost e u s) := by
  unfold withHost; errs
theorem withPort_errs [Sub VO Q] [Sub TV Q] (e : Env) (u : Url) (p : Option Int) (k : Nat) :
    Errs Q (withPort e u p k) := by
  unfold withPort; errs
theorem withQuery_errs [Sub TV Q] (e : Env) (u : Url) (a : QArg) : Errs Q (withQuery e u a) := by
  unfold withQuery; errs
instance [Sub TV Q] : Leaf Q (withQuery e u a) := ⟨withQuery_errs e u a⟩
theorem extendQuery_errs [Sub TV Q] (e : Env) (u : Url) (a : QArg) : Errs Q (extendQuery e u a) := by
  unfold extendQuery; errs
theorem updateQuery_errs [Sub TV Q] (e : Env) (u : Url) (a : QArg) : Errs Q (updateQuery e u a) := by
  unfold updateQuery; errs
theorem withoutQueryParams_errs [Sub TV Q] (e : Env) (u : Url) (l : List Str) :
    Errs Q (withoutQueryParams e u l) := by
  unfold withoutQueryParams; errs
theorem origin_errs [Sub VO Q] (e : Env) (u : Url) : Errs Q (origin e u) := by unfold origin; errs
theorem relative_errs [Sub VO Q] (u : Url) : Errs Q (relative u) := by unfold relative; errs

/-! ### names: `raw_parts` is never empty -/

theorem rawParts_ne_nil (u : Url) : rawParts u ≠ [] := by
  unfold rawParts
  split
  · split <;> simp
  · split
    · simp
    · exact PathLemmas.splitOn_ne_nil _ _

theorem rawName_errs (u : Url) : Errs Q (rawName u) := by
  unfold rawName
  dsimp only
  split
  · split
    · exact Errs.pure _
    · rename_i h
      exact absurd (List.getLast?_eq_none_iff.1 h) (rawParts_ne_nil u)
  · split <;> exact Errs.pure _
instance : Leaf Q (rawName u) := ⟨rawName_errs u⟩

theorem name_errs (e : Env) (u : Url) : Errs Q (name e u) := by unfold name; errs
theorem rawSuffix_errs (u : Url) : Errs Q (rawSuffix u) := by unfold rawSuffix; errs
instance : Leaf Q (rawSuffix u) := ⟨rawSuffix_errs u⟩
theorem suffix_errs (e : Env) (u : Url) : Errs Q (suffix e u) := by unfold suffix; errs
theorem rawSuffixes_errs (u : Url) : Errs Q (rawSuffixes u) := by unfold rawSuffixes; errs
instance : Leaf Q (rawSuffixes u) := ⟨rawSuffixes_errs u⟩
theorem suffixes_errs (e : Env) (u : Url) : Errs Q (suffixes e u) := by unfold suffixes; errs

theorem withRawName_errs (u : Url) (nm : Str) (kq kf : Bool) : Errs Q (withRawName u nm kq kf) := by
  unfold withRawName
  dsimp only
  apply Errs.bind
  · split
    · exact Errs.pure _
    · split
      · rename_i h; exact absurd h (rawParts_ne_nil u)
      · exact Errs.pure _
  · intro _; exact Errs.pure _
instance : Leaf Q (withRawName u nm kq kf) := ⟨withRawName_errs u nm kq kf⟩

theorem withName_errs [Sub VO Q] (e : Env) (u : Url) (nm : Str) (kq kf : Bool) : Errs Q (withName e u nm kq kf) := by
  unfold withName; errs
theorem withSuffix_errs [Sub VO Q] (e : Env) (u : Url) (nm : Str) (kq kf : Bool) :
    Errs Q (withSuffix e u nm kq kf) := by
  unfold withSuffix; errs

theorem makeChild_errs [Sub VO Q] (e : Env) (u : Url) (paths : List Str) (encoded : Bool) :
    Errs Q (makeChild e u paths encoded) := by
  rw [PathMore.makeChild_closed]
  split
  · exact Errs.error vo_value
  · exact Errs.pure _

end ErrLemmas

/-! ## C19: the statements -/

theorem C19_encodeUrl (e : Env) (s : Str) (err : PyErr) :
    encodeUrl e s = .error err → err = .valueError ∨ ∃ f a, err = .oracleMiss f a :=
  (encodeUrl_errs (Q := VO) e s).elim

theorem C19_preEncodedUrl (e : Env) (s : Str) (err : PyErr) :
    preEncodedUrl e s = .error err → err = .valueError ∨ ∃ f a, err = .oracleMiss f a :=
  (preEncodedUrl_errs (Q := VO) e s).elim

theorem C19_encodeHost (o : Oracles) (h : Str) (v : Bool) (err : PyErr) :
    encodeHost o h v = .error err → err = .valueError ∨ ∃ f a, err = .oracleMiss f a :=
  fun hh => (encodeHost_errs (Q := VO) o h v).elim hh

theorem C19_build (e : Env) (a : BuildArgs) (err : PyErr) : build e a = .error err → Allowed err :=
  (build_errs e a).elim

/-- hence also `rawUser`, `rawPassword`, `rawHost`, `explicitPort` (they are `(net e u).map _`) -/
theorem C19_net (e : Env) (u : Url) (err : PyErr) :
    net e u = .error err → err = .valueError ∨ ∃ f a, err = .oracleMiss f a :=
  (net_errs (Q := VO) e u).elim

theorem C19_net_fields (e : Env) (u : Url) (err : PyErr) :
    (rawUser e u = .error err ∨ rawPassword e u = .error err ∨ rawHost e u = .error err ∨
      explicitPort e u = .error err) → err = .valueError ∨ ∃ f a, err = .oracleMiss f a := by
  rintro (h | h | h | h)
  · exact (rawUser_errs (Q := VO) e u).elim h
  · exact (rawPassword_errs (Q := VO) e u).elim h
  · exact (rawHost_errs (Q := VO) e u).elim h
  · exact (explicitPort_errs (Q := VO) e u).elim h

theorem C19_accessors (e : Env) (u : Url) (err : PyErr) :
    (str e u = .error err ∨ host e u = .error err ∨ hostSubcomponent e u = .error err ∨
      hostPortSubcomponent e u = .error err ∨ port e u = .error err ∨ isDefaultPort e u = .error err ∨
      authority e u = .error err ∨ user e u = .error err ∨ password e u = .error err ∨
      humanRepr e u = .error err) →
    err = .valueError ∨ ∃ f a, err = .oracleMiss f a := by
  rintro (h | h | h | h | h | h | h | h | h | h)
  · exact (str_errs (Q := VO) e u).elim h
  · exact (host_errs (Q := VO) e u).elim h
  · exact (hostSubcomponent_errs (Q := VO) e u).elim h
  · exact (hostPortSubcomponent_errs (Q := VO) e u).elim h
  · exact (port_errs (Q := VO) e u).elim h
  · exact (isDefaultPort_errs (Q := VO) e u).elim h
  · exact (authority_errs (Q := VO) e u).elim h
  · exact (user_errs (Q := VO) e u).elim h
  · exact (password_errs (Q := VO) e u).elim h
  · exact (humanRepr_errs (Q := VO) e u).elim h

/-- `raw_parts` is never the empty tuple -/
theorem C19_rawParts_ne_nil (u : Url) : rawParts u ≠ [] := rawParts_ne_nil u

/-- `parts[-1]` never fails: the model's `.indexError` branch of `rawName` is unreachable -/
theorem C19_rawName_total (u : Url) : ∃ n, rawName u = .ok n :=
  (rawName_errs (Q := Never) u).total

theorem C19_name_suffix_total (e : Env) (u : Url) :
    (∃ n, name e u = .ok n) ∧ (∃ s, rawSuffix u = .ok s) ∧ (∃ s, suffix e u = .ok s) ∧
      (∃ l, rawSuffixes u = .ok l) ∧ (∃ l, suffixes e u = .ok l) :=
  ⟨(name_errs (Q := Never) e u).total, (rawSuffix_errs (Q := Never) u).total,
   (suffix_errs (Q := Never) e u).total, (rawSuffixes_errs (Q := Never) u).total,
   (suffixes_errs (Q := Never) e u).total⟩

/-- Every modifier that can fail fails only with an allowed error.
    `withPath`, `withFragment`, `parent` and `join` are total functions in the model
    (they return a `Url`, not an `R Url`), so there is nothing to prove for them. -/
theorem C19_modifiers (e : Env) (u : Url) (err : PyErr) :
    (∀ s, withScheme e u s = .error err → Allowed err) ∧
    (∀ usr, withUser e u usr = .error err → Allowed err) ∧
    (∀ pw, withPassword e u pw = .error err → Allowed err) ∧
    (∀ h, withHost e u h = .error err → Allowed err) ∧
    (∀ p kind, withPort e u p kind = .error err → Allowed err) ∧
    (∀ a, withQuery e u a = .error err → Allowed err) ∧
    (∀ a, extendQuery e u a = .error err → Allowed err) ∧
    (∀ a, updateQuery e u a = .error err → Allowed err) ∧
    (∀ names, withoutQueryParams e u names = .error err → Allowed err) ∧
    (∀ nm kq kf, withName e u nm kq kf = .error err → Allowed err) ∧
    (∀ sfx kq kf, withSuffix e u sfx kq kf = .error err → Allowed err) ∧
    (∀ paths encoded, makeChild e u paths encoded = .error err → Allowed err) ∧
    (origin e u = .error err → Allowed err) ∧
    (relative u = .error err → Allowed err) :=
  ⟨fun s => (withScheme_errs e u s).elim,
   fun s => (withUser_errs e u s).elim,
   fun s => (withPassword_errs e u s).elim,
   fun s => (withHost_errs e u s).elim,
   fun p k => (withPort_errs e u p k).elim,
   fun a => (withQuery_errs e u a).elim,
   fun a => (extendQuery_errs e u a).elim,
   fun a => (updateQuery_errs e u a).elim,
   fun l => (withoutQueryParams_errs e u l).elim,
   fun nm kq kf => (withName_errs e u nm kq kf).elim,
   fun nm kq kf => (withSuffix_errs e u nm kq kf).elim,
   fun l enc => (makeChild_errs e u l enc).elim,
   (origin_errs e u).elim,
   (relative_errs u).elim⟩

/-- sharper kinds for the individual modifiers: the netloc/path modifiers raise only ValueError
    (or ask the oracle), the query modifiers only TypeError/ValueError -/
theorem C19_modifiers_sharp (e : Env) (u : Url) (err : PyErr) :
    (∀ s, withScheme e u s = .error err → VO err) ∧
    (∀ usr, withUser e u usr = .error err → VO err) ∧
    (∀ pw, withPassword e u pw = .error err → VO err) ∧
    (∀ h, withHost e u h = .error err → VO err) ∧
    (∀ a, withQuery e u a = .error err → TV err) ∧
    (∀ a, extendQuery e u a = .error err → TV err) ∧
    (∀ a, updateQuery e u a = .error err → TV err) ∧
    (∀ names, withoutQueryParams e u names = .error err → TV err) ∧
    (∀ nm kq kf, withName e u nm kq kf = .error err → VO err) ∧
    (∀ sfx kq kf, withSuffix e u sfx kq kf = .error err → VO err) ∧
    (∀ paths encoded, makeChild e u paths encoded = .error err → VO err) ∧
    (origin e u = .error err → VO err) ∧
    (relative u = .error err → err = .valueError) :=
  ⟨fun s => (withScheme_errs e u s).elim,
   fun s => (withUser_errs e u s).elim,
   fun s => (withPassword_errs e u s).elim,
   fun s => (withHost_errs e u s).elim,
   fun a => (withQuery_errs e u a).elim,
   fun a => (extendQuery_errs e u a).elim,
   fun a => (updateQuery_errs e u a).elim,
   fun l => (withoutQueryParams_errs e u l).elim,
   fun nm kq kf => (withName_errs e u nm kq kf).elim,
   fun nm kq kf => (withSuffix_errs e u nm kq kf).elim,
   fun l enc => (makeChild_errs e u l enc).elim,
   (origin_errs e u).elim,
   fun h => by
    unfold relative at h; split at h
    · cases h; rfl
    · cases h⟩

/-- `_with_raw_name` never hits its `.indexError` branch -/
theorem C19_withRawName_total (u : Url) (nm : Str) (kq kf : Bool) : ∃ v, withRawName u nm kq kf = .ok v :=
  (withRawName_errs (Q := Never) u nm kq kf).total

theorem C19_getStrQuery (b : Backend) (a : QArg) (err : PyErr) :
    getStrQuery b a = .error err → err = .typeError ∨ err = .valueError :=
  (getStrQuery_errs (Q := TV) b a).elim

/-- no allowed error is one of the "crash" kinds -/
theorem C19_allowed_not_crash (err : PyErr) (h : Allowed err) :
    err ≠ .indexError ∧ err ≠ .keyError ∧ err ≠ .attributeError ∧ err ≠ .unicodeError ∧ err ≠ .memoryError := by
  rcases h with h | h | ⟨f, a, h⟩ <;> subst h <;> simp

/-! ### non-vacuity: every allowed kind is actually raised somewhere, and the total functions return -/

-- ValueError from the constructor (unbalanced bracket), for every environment
example (e : Env) : encodeUrl e "http://[::1/a".toStr = .error .valueError := by str_lits; rfl
example (e : Env) : preEncodedUrl e "http://[::1/a".toStr = .error .valueError := by str_lits; rfl
-- an oracle request from the constructor (non-ASCII authority, empty table)
example (b : Backend) : ∃ f a, encodeUrl ⟨b, Oracles.empty⟩ ("http://".toStr ++ [233] ++ "/".toStr) = .error (.oracleMiss f a) :=
  ⟨_, _, rfl⟩
-- encodeHost: validation failure, and an IDNA oracle request
example : encodeHost Oracles.empty "a b".toStr true = .error .valueError := by str_lits; rfl
example : ∃ f a, encodeHost Oracles.empty [233] false = .error (.oracleMiss f a) := ⟨_, _, rfl⟩
-- build: TypeError (bool port), ValueError (port out of range), TypeError from the query argument
example (e : Env) : build e { host := "h".toStr, portKind := 1 } = .error .typeError := by str_lits; rfl
example (e : Env) : build e { host := "h".toStr, port := some 70000 } = .error .valueError := by str_lits; rfl
example (e : Env) : build e { host := "h".toStr, query := .other } = .error .typeError := by str_lits; rfl
-- net / accessors: a stored netloc with a bad port (reachable through `encoded=True`)
example (e : Env) : net e (fromParts [] "h:99999".toStr [] [] []) = .error .valueError := by str_lits; rfl
example (e : Env) : port e (fromParts [] "h:99999".toStr [] [] []) = .error .valueError := by str_lits; rfl
example (e : Env) : str e (fromParts [] "h:99999".toStr [] [] []) = .error .valueError := by str_lits; rfl
-- names are total, including on the empty URL and on a bare authority
example : rawName (fromParts [] [] [] [] []) = .ok [] := by str_lits; rfl
example : rawName (fromParts "http".toStr "h".toStr [] [] []) = .ok [] := by str_lits; rfl
example : rawName (fromParts [] [] "/a/b.tar.gz".toStr [] []) = .ok "b.tar.gz".toStr := by str_lits; rfl
example : rawSuffixes (fromParts [] [] "/a/b.tar.gz".toStr [] []) = .ok [".tar".toStr, ".gz".toStr] := by str_lits; rfl
example : withRawName (fromParts [] [] [] [] []) "x".toStr false false = .ok (fromParts [] [] "x".toStr [] []) := by str_lits; rfl
example : withRawName (fromParts "http".toStr "h".toStr [] [] []) "x".toStr false false
    = .ok (fromParts "http".toStr "h".toStr "/x".toStr [] []) := by str_lits; rfl
-- modifiers
example (e : Env) (u : Url) : withName e u "a/b".toStr false false = .error .valueError := by str_lits; rfl
example (e : Env) (u : Url) : withSuffix e u "x".toStr false false = .error .valueError := by str_lits; rfl
example (e : Env) (u : Url) : withPort e u none 1 = .error .typeError := by str_lits; rfl
example (e : Env) (u : Url) : withPort e u (some (-1)) 0 = .error .valueError := by str_lits; rfl
example (e : Env) (u : Url) : withQuery e u (.bytes false) = .error .typeError := by str_lits; rfl
example (e : Env) (u : Url) : updateQuery e u .noArgs = .error .valueError := by str_lits; rfl
example (e : Env) (u : Url) : makeChild e u ["/x".toStr] true = .error .valueError := by str_lits; rfl
example (e : Env) : withHost e (fromParts [] [] "a".toStr [] []) "h".toStr = .error .valueError := by str_lits; rfl
example (e : Env) : origin e (fromParts [] [] "a".toStr [] []) = .error .valueError := by str_lits; rfl
example : relative (fromParts [] [] "a".toStr [] []) = .error .valueError := by str_lits; rfl
-- getStrQuery: both kinds
example (b : Backend) : getStrQuery b .other = .error .typeError := by str_lits; rfl
example (b : Backend) : getStrQuery b (.pairs [("a".toStr, .one (.float "inf".toStr 1))]) = .error .valueError := by str_lits; rfl
example (b : Backend) : getStrQuery b (.pairs [("a".toStr, .many [])]) = .error .typeError := by str_lits; rfl

end Yarl
