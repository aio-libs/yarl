import YarlProofs.C18Headline
import YarlProofs.C18HeadlineMore3
import YarlProofs.C18More3
import YarlProofs.C18More3b
import YarlProofs.C18More3Join
import YarlProofs.C18More3JoinB
import YarlProofs.C18More3Spell
/-!
  C18HeadlineMore4.lean — AUDIT LAYER for property C18, continuation of C18Headline.lean / C18HeadlineMore3.lean (the
  theorems here need C18More3.lean, C18More3b.lean, C18More3Join.lean, C18More3JoinB.lean, C18More3Spell.lean, written
  after C18HeadlineMore3.lean; this file is a leaf, nobody imports it).

  C18 | human_repr() is readable and round-trips |
  "For every absolute URL built from decoded components - any Unicode text in user, password, path, query
  keys/values and fragment; IDN, IPv4 or IPv6 host - URL(u.human_repr()) == u, and human_repr() shows
  printable non-ASCII text and the IDN host decoded rather than escaped. Only characters that would change
  the parse in their position, '%' and non-printable characters are escaped."

  What is here:
  * GAPS 6 (i) of C18Headline.lean — the '%' escape, UNIVERSALLY: at the level of the stored component the literal '%'
    changes the re-parse IFF it is followed by two hex digits (every position, every decoded text); at URL level the same
    `iff` for path / query key / query value / fragment, and the direction "not needed" for all six positions; the
    decoded-level converse is FALSE ("%FF") — cites C18More3.lean, C18More3b.lean;
  * GAPS 6 (ii) — the non-printable escapes, UNIVERSALLY: every set of non-printable characters other than TAB / LF / CR
    may be left literal in any position of any URL with `StoresOK`; TAB / LF / CR are dropped by `URL(…)` for every input;
  * GAPS 10 — the instrumented copy `R5.humanReprLit` IS `human_repr()` when nothing is literal, for every URL;
  * GAPS 2(e) — `join`: the result of `base.join(ref)` stores the encodings of decoded components for an absolute, a
    relative and a network-path reference that store them; the decoded join path is the path of RFC 3986 §5.2.2; chains of
    modifiers AND `join` steps (`HumanReachJ`); how a relative reference storing decoded components is made by the public
    API, and the side condition that is needed there ("a:b") — cites C18More3Join.lean, C18More3JoinB.lean;
  * GAPS 9 / 2(d) — the SPELLING CONDITIONS of the constructor theorem characterised SYNTACTICALLY, in both directions, and
    the constructor theorem restated with syntactic hypotheses; spellings that spell nothing (`%2F` in a path, `%FF`, `%20`
    in a query) — cites C18More3Spell.lean.
  STILL OPEN after this file: `join` with a reference (or a base) that does NOT store encodings of decoded components, a
  relative reference made by the constructor from a non-canonical spelling; `build(authority=<arbitrary raw text>)`; the
  '%' rule at URL level in the direction "needed" for user / password (proved at component level only); the NFKC proviso
  (F-C18-nfkc-userinfo) is a hypothesis everywhere (GAPS 1).

  Vocabulary added by C18More3.lean / C18More3b.lean (namespace `R12`; `StoresOK`, `humanReprLit`, `positions`,
  `HumanReachC`: C18Headline.lean / C18HeadlineMore3.lean):
  `R12.twoHex s`     — the text `s` starts with two hex digits (either case): `re.match("[0-9a-fA-F]{2}", s)`.
  `R5.humanQuoteLit o x uns lit` — `human_quote(x, uns)` (`uns`: the position's escape list `humanUnsafeOf …`) with the
                       characters selected by `lit` left literal.
  `R12.LitChars uns lit x` — every selected character of `x` is none of TAB / LF / CR and is not in the list `uns`.
  `R12.PctOK lit x`  — no SELECTED '%' of `x` is followed (in `x`) by two hex digits.
  `R12.textsAt comp user pw p kvs f` — the decoded texts in position `comp` ("user", "password", "path", "k", "v",
                       "fragment") of a URL storing these components (for "k" / "v": all keys / all values).
  `R12.LitSafeAt comp lit user pw p kvs f` — `LitChars (humanUnsafeOf comp) lit x ∧ PctOK lit x` for all of them
                       (decidable).
  Vocabulary added by C18More3Join.lean (namespace `R12c`):
  `R12c.RelStores e ref rp kvs f` — `ref` is a RELATIVE reference that stores the encodings of decoded components:
                       `ref.scheme == ""`, `ref.raw_authority == ""`, `ref.raw_path == PATH_QUOTER(rp)` for ANY text
                       `rp` (empty, rooted, rootless, with dot segments), `ref.raw_query_string` the `k=v&…` text of the
                       pairs, `ref.raw_fragment == FRAGMENT_QUOTER(f)` ("" for ""); no lone surrogates.
  `R12c.NetRefOK e ref user pw H port p kvs f` — a NETWORK-PATH reference (`//host/path…`: no scheme, an authority) with
                       `Stores` and the side conditions of `StoresOK` other than the scheme.
  `R12c.joinTail p rp` — the DECODED path (without its leading "/") of `base.join(ref)`: the base's `p` for `rp == ""`,
                       else `rp` (rooted) or `"/" ++ p` cut after its last "/" followed by `rp`, dot segments removed.
  `R12c.HumanReachJ e u` — `HumanReachC` (build / constructor + modifiers) closed under modifier steps and three `join`
                       steps: relative reference (`RelStores`), network-path reference (`NetRefOK`) — both for a base
                       in `HumanReachJ` whose scheme has relative resolution —, absolute reference in `HumanReachJ`
                       (base ANY URL).
  Vocabulary added by C18More3Spell.lean (namespace `R12d`):
  `R12d.SpellsP P s d` — the written text `s` SPELLS the decoded text `d` in position `P`: character by character, a
                       literal character other than '%' (standing for what `P.lit` says), a '%' not followed by two hex
                       digits (standing for '%'), or the `%XY…` escapes (either hex case) of the UTF-8 bytes of a character
                       that `P.esc` allows to be escaped.  An inductive relation; `R12d.spellsB` is its Bool checker.
  `R12d.SpellsPath` / `SpellsPlain` / `SpellsQV` — the relation for the path (`pathPos`: every literal stands for itself;
                       '/' and '+' may NOT be escaped), for fragment and userinfo (`plainPos`: no restriction), for a
                       query key / value (`queryPos`: literal ' ' and '+' stand for a space, literal '=', '&', ';' for
                       nothing, a space may NOT be written `%20`).
  `R12d.SpellsOpt y x` — optional texts: both absent, or both present and `SpellsPlain`.
  `R12d.AllSpell ps kvs` — the written pairs `ps` spell the decoded pairs `kvs` one by one (same number; `SpellsQV` for
                       key and value); `rawQuery ps` is the text `rk1=rv1&rk2=rv2…`.
  `R12d.Spells t t'` / `R12d.TabPair t t'` — the relation determined by a pair of quoter tables, and the decidable
                       conditions on the pair under which the generic theorem holds.
-/
namespace Yarl
open HumanLemmas HumanFull HumanMore HumanRelax QueryUrl QsLemmas NetlocLemmas PathAlg PathLemmas PathMore HumanReach
open R5 R12 R12c R12d

/-! ## Sentence 2 — "'%' … [is] escaped": WHEN the escape is needed for the parse, universally (GAPS 6 (i)) -/

/-- "'%' … [is] escaped" — for EVERY decoded text `x ++ "%" ++ y` (no lone surrogates) and every position kind, with `X`,
    `Y` what `human_quote` shows for `x`, `y`: the text `X ++ "%" ++ Y` (this '%' left literal) is read by the
    constructor's requoter as the encoding that `build` stores for the decoded text IF AND ONLY IF the '%' is NOT followed
    by two hex digits (`twoHex y = false`).  So the escape of '%' "would change the parse" — the STORED component, hence
    `==` — exactly in front of two hex digits; `human_quote` has no look-ahead and escapes every '%', as the property
    says.  Both backends.  Replaces the three witness texts of `C18_headline_percent_escape_needed`.
    Cites C18_percent_literal_iff (C18More3.lean). -/
theorem C18_headline_percent_escape_needed_iff (e : Env) (x y X Y : Str)
    (hx : PyStr x) (hxn : NoSurrogate x) (hy : PyStr y) (hyn : NoSurrogate y) :   -- Python strings, no lone surrogates
    (∀ key, key = "user" ∨ key = "password" →                       -- user / password: REQUOTER vs QUOTER
      humanQuote e.o x (humanUnsafeOf key) = .ok X → humanQuote e.o y (humanUnsafeOf key) = .ok Y →
      (q e Gen.REQUOTER (X ++ 37 :: Y) = q e Gen.QUOTER (x ++ 37 :: y) ↔ twoHex y = false)) ∧
    (humanQuote e.o x (humanUnsafeOf "path") = .ok X → humanQuote e.o y (humanUnsafeOf "path") = .ok Y →   -- path
      (q e Gen.PATH_REQUOTER (X ++ 37 :: Y) = q e Gen.PATH_QUOTER (x ++ 37 :: y) ↔ twoHex y = false)) ∧
    (∀ key, key = "k" ∨ key = "v" →                                 -- query key / value
      humanQuote e.o x (humanUnsafeOf key) = .ok X → humanQuote e.o y (humanUnsafeOf key) = .ok Y →
      (q e Gen.QUERY_REQUOTER (X ++ 37 :: Y) = q e Gen.QUERY_PART_QUOTER (x ++ 37 :: y) ↔ twoHex y = false)) ∧
    (humanQuote e.o x (humanUnsafeOf "fragment") = .ok X → humanQuote e.o y (humanUnsafeOf "fragment") = .ok Y →
      (q e Gen.FRAGMENT_REQUOTER (X ++ 37 :: Y) = q e Gen.FRAGMENT_QUOTER (x ++ 37 :: y) ↔ twoHex y = false)) :=
  C18_percent_literal_iff e x y X Y hx hxn hy hyn

/-- … with EVERY '%' of the decoded text `x` left literal (or any set `lit` of characters none of which is TAB / LF / CR
    or in the position's escape list): the requoter reads the shown text `X` as the encoding `build` stores for `x` IFF no '%'
    that was left literal is followed by two hex digits in `x` (`PctOK lit x`).  Every position kind, both backends.
    For user / password this is the ONLY form of the direction "needed" (the URL-level `iff` below is for the other four
    positions).  Cites C18_percent_literal_all_iff (C18More3.lean). -/
theorem C18_headline_percent_escape_needed_all_iff (e : Env) (lit : Nat → Bool) (x X : Str)
    (hx : PyStr x) (hxn : NoSurrogate x) :                          -- a Python string without lone surrogates
    (∀ key, key = "user" ∨ key = "password" →
      humanQuoteLit e.o x (humanUnsafeOf key) lit = .ok X → LitChars (humanUnsafeOf key) lit x →
      (q e Gen.REQUOTER X = q e Gen.QUOTER x ↔ PctOK lit x)) ∧
    (humanQuoteLit e.o x (humanUnsafeOf "path") lit = .ok X → LitChars (humanUnsafeOf "path") lit x →
      (q e Gen.PATH_REQUOTER X = q e Gen.PATH_QUOTER x ↔ PctOK lit x)) ∧
    (∀ key, key = "k" ∨ key = "v" →
      humanQuoteLit e.o x (humanUnsafeOf key) lit = .ok X → LitChars (humanUnsafeOf key) lit x →
      (q e Gen.QUERY_REQUOTER X = q e Gen.QUERY_PART_QUOTER x ↔ PctOK lit x)) ∧
    (humanQuoteLit e.o x (humanUnsafeOf "fragment") lit = .ok X → LitChars (humanUnsafeOf "fragment") lit x →
      (q e Gen.FRAGMENT_REQUOTER X = q e Gen.FRAGMENT_QUOTER x ↔ PctOK lit x)) :=
  C18_percent_literal_all_iff e lit x X hx hxn

/-- "'%' … [is] escaped" at URL LEVEL, BOTH directions, for the positions path, query key, query value, fragment: `u` ANY
    URL object that stores the encodings of decoded components (`StoresOK`), `hr` its `human_repr()` with the characters
    selected by `lit` left literal in position `comp` (`lit = (· == 37)`: every '%' of the position).  Then
    `URL(hr) == u` IF AND ONLY IF no '%' that was left literal stands in front of two hex digits in its decoded text.
    NOT stated for user / password (there: "⇐" by `C18_headline_percent_literal_roundtrip`, "⇒" at component level only,
    `C18_headline_percent_escape_needed_all_iff`).  Cites C18_percent_literal_url_iff (C18More3b.lean). -/
theorem C18_headline_percent_escape_url_iff (e : Env) (u : Url) (user pw : Option Str) (H : Str) (port : Option Nat)
    (p : Str) (kvs : List (Str × Str)) (f : Str)
    (ok : StoresOK e u user pw H port p kvs f)      -- `u` stores the encodings of the decoded components (+ side conditions)
    (comp : String) (hcomp : comp = "path" ∨ comp = "k" ∨ comp = "v" ∨ comp = "fragment")   -- NOT user / password
    (lit : Nat → Bool)
    -- the characters left literal are none of TAB / LF / CR and none of the position's escape list
    (hch : ∀ x ∈ textsAt comp user pw p kvs f, LitChars (humanUnsafeOf comp) lit x)
    (hr : Str) (hh : humanReprLit comp lit e u = .ok hr)            -- `hr`: `human_repr()` with those characters literal
    -- NFKC proviso (F-C18-nfkc-userinfo) on the shown authority
    (hnf : isAscii (Rfc.appendixB Gen.schemeChars hr).authority = false →
      checkNetloc e.o (Rfc.appendixB Gen.schemeChars hr).authority = .ok ()) :
    (∃ v, encodeUrl e hr = .ok v ∧ Url.beq v u = true) ↔ ∀ x ∈ textsAt comp user pw p kvs f, PctOK lit x :=
  C18_percent_literal_url_iff e u user pw H port p kvs f ok comp hcomp lit hch hr hh hnf

/-- … and the direction "NOT needed" for ALL SIX positions (user and password included): when no '%' of the decoded texts
    of the position is followed by two hex digits, the text shown with every '%' of that position left LITERAL is read
    back by `URL(…)` to an equal URL.  Cites C18_percent_literal_roundtrip (C18More3.lean). -/
theorem C18_headline_percent_literal_roundtrip (e : Env) (u : Url) (user pw : Option Str) (H : Str) (port : Option Nat)
    (p : Str) (kvs : List (Str × Str)) (f : Str)
    (ok : StoresOK e u user pw H port p kvs f)      -- `u` stores the encodings of the decoded components
    (comp : String) (hpos : comp ∈ positions)       -- one of "user", "password", "path", "k", "v", "fragment"
    (hpct : ∀ x ∈ textsAt comp user pw p kvs f, PctOK (· == 37) x) :   -- no '%' there is followed by two hex digits
    ∀ hr, humanReprLit comp (· == 37) e u = .ok hr →
      (isAscii (Rfc.appendixB Gen.schemeChars hr).authority = false →            -- NFKC proviso (F-C18-nfkc-userinfo)
        checkNetloc e.o (Rfc.appendixB Gen.schemeChars hr).authority = .ok ()) →
      ∃ v, encodeUrl e hr = .ok v ∧ Url.beq v u = true :=
  C18_percent_literal_roundtrip e u user pw H port p kvs f ok comp hpos hpct

/-- NEGATIVE RESULT: the rule "needed iff followed by two hex digits" is FALSE when "changes the parse" is read on the
    DECODED accessors instead of the stored components.  Decoded text "%FF" (`URL.build(scheme="http", host="h",
    path="/%FF")`, or user / fragment "%FF"): its '%' IS followed by two hex digits; left literal, the requoter keeps
    `%FF` (stored `%FF`, `build` stores `%25FF`: the URLs are not `==`), but `%FF` is not UTF-8, the unquoter keeps it
    verbatim and `.path` / `.user` / `.fragment` read "%FF" again.  Both backends.
    Cites C18_percent_literal_decoded_converse_fails (C18More3.lean); the direction that does hold at decoded level is
    C18_percent_literal_decoded (ibid., not restated). -/
theorem C18_headline_percent_rule_decoded_level_false : ∀ b : Backend,
    let e : Env := ⟨b, Oracles.empty⟩
    twoHex "FF".toStr = true ∧
    humanQuote e.o [] (humanUnsafeOf "path") = .ok [] ∧ humanQuote e.o "FF".toStr (humanUnsafeOf "path") = .ok "FF".toStr ∧
    q e Gen.PATH_REQUOTER "%FF".toStr = "%FF".toStr ∧ q e Gen.PATH_QUOTER "%FF".toStr = "%25FF".toStr ∧
    uq e Gen.PATH_UNQUOTER (q e Gen.PATH_REQUOTER "%FF".toStr) = "%FF".toStr ∧
    uq e Gen.UNQUOTER (q e Gen.REQUOTER "%FF".toStr) = "%FF".toStr ∧
    uq e Gen.UNQUOTER (q e Gen.FRAGMENT_REQUOTER "%FF".toStr) = "%FF".toStr :=
  C18_percent_literal_decoded_converse_fails

/-! ## Sentence 2 — "non-printable characters are escaped": which of these escapes the parse needs, universally
    (GAPS 6 (ii), GAPS 10) -/

/-- the UNIVERSAL statement behind both classifications: `u` ANY URL with `StoresOK`; `hr` its `human_repr()` with the
    characters selected by `lit` left LITERAL in position `comp`.  If in every decoded text of that position the selected
    characters are none of TAB / LF / CR, none of the position's escape list, and no selected '%' stands in
    front of two hex digits (`LitSafeAt`, decidable), then `URL(hr)` succeeds, is `== u` and stores the same decoded
    components.  Cites C18_literal_roundtrip (C18More3.lean). -/
theorem C18_headline_literal_roundtrip (e : Env) (u : Url) (user pw : Option Str) (H : Str) (port : Option Nat) (p : Str)
    (kvs : List (Str × Str)) (f : Str)
    (ok : StoresOK e u user pw H port p kvs f)      -- `u` stores the encodings of the decoded components
    (comp : String) (lit : Nat → Bool)
    (hsafe : LitSafeAt comp lit user pw p kvs f) :  -- the characters left literal are harmless in position `comp`
    ∀ hr, humanReprLit comp lit e u = .ok hr →
      (isAscii (Rfc.appendixB Gen.schemeChars hr).authority = false →            -- NFKC proviso (F-C18-nfkc-userinfo)
        checkNetloc e.o (Rfc.appendixB Gen.schemeChars hr).authority = .ok ()) →
      ∃ v, encodeUrl e hr = .ok v ∧ Url.beq v u = true ∧ StoresOK e v user pw H port p kvs f :=
  C18_literal_roundtrip e u user pw H port p kvs f ok comp lit hsafe

/-- "non-printable characters are escaped" — NONE of these escapes is needed for the parse, except those of TAB, LF and
    CR, UNIVERSALLY: for every URL with `StoresOK`, every position and EVERY set `lit` of characters that
    `str.isprintable()` rejects (C0 controls, DEL, every non-printable non-ASCII character, whatever the `isprintable`
    oracle says) other than TAB / LF / CR, the text shown with those characters left literal is read back by `URL(…)`
    to an equal URL.  Replaces the 14-character sample of `C18_headline_nonprintable_escape_classified`.
    Cites C18_nonprintable_literal_roundtrip (C18More3.lean). -/
theorem C18_headline_nonprintable_escapes_not_needed (e : Env) (u : Url) (user pw : Option Str) (H : Str)
    (port : Option Nat) (p : Str) (kvs : List (Str × Str)) (f : Str)
    (ok : StoresOK e u user pw H port p kvs f)      -- `u` stores the encodings of the decoded components
    (comp : String) (lit : Nat → Bool)
    -- every character left literal is NON-PRINTABLE and is none of TAB, LF, CR
    (hlit : ∀ c, lit c = true → isPrintableChar e.o c = .ok false ∧ c ≠ 9 ∧ c ≠ 10 ∧ c ≠ 13) :
    ∀ hr, humanReprLit comp lit e u = .ok hr →
      (isAscii (Rfc.appendixB Gen.schemeChars hr).authority = false →            -- NFKC proviso (F-C18-nfkc-userinfo)
        checkNetloc e.o (Rfc.appendixB Gen.schemeChars hr).authority = .ok ()) →
      ∃ v, encodeUrl e hr = .ok v ∧ Url.beq v u = true :=
  C18_nonprintable_literal_roundtrip e u user pw H port p kvs f ok comp lit hlit

/-- … and the converse for TAB, LF, CR, for EVERY input string: `URL(s)` IS `URL(s without its TAB / LF / CR characters)`
    (`split_url` removes them first; the removed set is exactly TAB, CR, LF).  So a TAB / LF / CR left literal in a decoded
    text is silently dropped by the re-parse: THAT escape is needed.  Cites C18_tab_lf_cr_dropped (C18More3.lean). -/
theorem C18_headline_tab_lf_cr_dropped (e : Env) (s : Str) :
    encodeUrl e s = encodeUrl e (s.filter (fun c => !mem c Gen.removeSet)) ∧ Gen.removeSet = [9, 13, 10] :=
  C18_tab_lf_cr_dropped e s

/-- GAPS 10: the instrumented copy `R5.humanReprLit` of `human_repr()` IS `human_repr()` when nothing is left literal —
    for EVERY URL, environment and position name (it was tied by one computed instance, `C18_humanReprLit_std`).
    Cites C18_humanReprLit_none (C18More3.lean). -/
theorem C18_headline_humanReprLit_is_human_repr (comp : String) (e : Env) (u : Url) :
    humanReprLit comp (fun _ => false) e u = humanRepr e u :=
  C18_humanReprLit_none comp e u

/-! ## Sentence 1, first half — "URL(u.human_repr()) == u" for the results of `join` (GAPS 2(e), "WHAT REMAINS") -/

/-- `base.join(ref)` for a base that stores decoded components (`StoresOK`) under a scheme with relative resolution, and a
    RELATIVE reference that stores the encodings of the decoded path `rp` (ANY shape), pairs `kvs'`, fragment `f'`
    (`RelStores`): the result stores the authority of the base, the merged and normalised DECODED path `joinTail p rp`,
    the query of the reference unless the reference has neither path nor query, and the fragment of the reference — with
    all side conditions of the round trip (`StoresOK`).  Cites C18_stores_join_relative (C18More3Join.lean). -/
theorem C18_headline_join_relative_stores (e : Env) (base ref : Url) (user pw : Option Str) (H : Str)
    (port : Option Nat) (p : Str) (kvs : List (Str × Str)) (f : Str)
    (ok : StoresOK e base user pw H port p kvs f)   -- the base stores the encodings of decoded components
    (rp : Str) (kvs' : List (Str × Str)) (f' : Str)
    (rs : RelStores e ref rp kvs' f')               -- the reference: no scheme, no authority, encodings of `rp`, `kvs'`, `f'`
    (hrel : Gen.usesRelative.contains base.scheme = true) :   -- the base scheme has relative resolution (http, https, ftp, …)
    StoresOK e (join e base ref) user pw H port (joinTail p rp) (if rp ≠ [] ∨ kvs' ≠ [] then kvs' else kvs) f' :=
  C18_stores_join_relative e base ref user pw H port p kvs f ok rp kvs' f' rs hrel

/-- … where the decoded join path IS the path of RFC 3986 §5.2.2 reference resolution (`Rfc.resolve`, the independent
    spec of C14) applied to the DECODED base path `"/" ++ p` and the DECODED non-empty reference path: `join` commutes with
    decoding.  (`joinTail p "" = p`: `C18_joinTail_empty`.)  Cites C18_joinTail_rfc (C18More3Join.lean). -/
theorem C18_headline_join_path_is_rfc (sc A Q F Q' F' : Str) (p rp : Str)
    (hne : rp ≠ []) :                               -- a reference with a path
    (Rfc.resolve ⟨sc, A, 47 :: p, Q, F⟩ ⟨[], [], rp, Q', F'⟩).path = 47 :: joinTail p rp :=
  C18_joinTail_rfc sc A Q F Q' F' p rp hne

/-- `base.join(ref)` for an ABSOLUTE reference that stores decoded components, `base` ANY URL object: the result stores
    the same decoded components and has the five parts of `ref` (it IS `ref` when the schemes differ or the scheme has no
    relative resolution).  And for a NETWORK-PATH reference `//host/path` (`NetRefOK`) under a base with a valid scheme
    that has relative resolution: the result is `from_parts(base.scheme, ref's other four parts)` and stores the
    reference's decoded components.  Cites C18_stores_join_absolute, C18_stores_join_netpath (C18More3Join.lean). -/
theorem C18_headline_join_absolute_netpath_stores (e : Env) (base ref : Url) (user pw : Option Str) (H : Str)
    (port : Option Nat) (p : Str) (kvs : List (Str × Str)) (f : Str) :
    (StoresOK e ref user pw H port p kvs f →        -- an absolute reference storing decoded components
      StoresOK e (join e base ref) user pw H port p kvs f ∧ (join e base ref).parts = ref.parts ∧
      ((ref.scheme ≠ base.scheme ∨ Gen.usesRelative.contains ref.scheme = false) → join e base ref = ref)) ∧
    (ValidScheme base.scheme → Gen.usesRelative.contains base.scheme = true →
      NetRefOK e ref user pw H port p kvs f →       -- a network-path reference storing decoded components
      join e base ref = fromParts base.scheme ref.netloc ref.path ref.query ref.fragment ∧
      StoresOK e (join e base ref) user pw H port p kvs f) :=
  ⟨fun ok => let ⟨h1, h2, h3, _⟩ := C18_stores_join_absolute e base ref user pw H port p kvs f ok; ⟨h1, h2, h3⟩,
   C18_stores_join_netpath e base ref user pw H port p kvs f⟩

/-- "URL(u.human_repr()) == u" for `u = base.join(ref)`: `ref` absolute and storing decoded components (`base` ANY URL),
    or `base` storing decoded components under a scheme with relative resolution and `ref` a relative or a network-path
    reference storing decoded components — NFKC proviso as everywhere.  Cites C18_roundtrip_join (C18More3Join.lean). -/
theorem C18_headline_roundtrip_join (e : Env) (base ref : Url)
    (h : (∃ user pw H port p kvs f, StoresOK e ref user pw H port p kvs f) ∨     -- an absolute reference, any base
      ((∃ user pw H port p kvs f, StoresOK e base user pw H port p kvs f) ∧      -- or: a base storing decoded components
        Gen.usesRelative.contains base.scheme = true ∧                           --   under a scheme with relative resolution
        ((∃ rp kvs' f', RelStores e ref rp kvs' f') ∨                            --   and a relative reference
          (∃ user pw H port p kvs f, NetRefOK e ref user pw H port p kvs f)))) : --   or a network-path reference
    ∀ hr, humanRepr e (join e base ref) = .ok hr →
      (isAscii (Rfc.appendixB Gen.schemeChars hr).authority = false →            -- NFKC proviso (F-C18-nfkc-userinfo)
        checkNetloc e.o (Rfc.appendixB Gen.schemeChars hr).authority = .ok ()) →
      ∃ v, encodeUrl e hr = .ok v ∧ Url.beq v (join e base ref) = true :=
  C18_roundtrip_join e base ref h

/-- "URL(u.human_repr()) == u" for every URL obtained from `URL.build` / the constructor (human or canonical input) by
    ANY finite chain of modifiers with decoded arguments AND `join` steps (`HumanReachJ`): every such URL stores the
    encodings of decoded components (`StoresOK`), hence round-trips (NFKC proviso).
    Cites C18_reachJ_stores, C18_roundtrip_reachJ (C18More3Join.lean). -/
theorem C18_headline_roundtrip_reachable_with_join (e : Env) (u : Url)
    (hr : HumanReachJ e u) :                        -- build / constructor + a chain of modifiers and `join` steps
    (∃ user pw H port p kvs f, StoresOK e u user pw H port p kvs f) ∧
    ∀ t, humanRepr e u = .ok t →
      (isAscii (Rfc.appendixB Gen.schemeChars t).authority = false →             -- NFKC proviso (F-C18-nfkc-userinfo)
        checkNetloc e.o (Rfc.appendixB Gen.schemeChars t).authority = .ok ()) →
      ∃ v, encodeUrl e t = .ok v ∧ Url.beq v u = true :=
  ⟨C18_reachJ_stores e u hr, C18_roundtrip_reachJ e u hr⟩

/-- the hypothesis `RelStores` is ESTABLISHED by the public API: `URL.build(path=rp, query=[(k, v), …], fragment=f)`
    without scheme and host, for ANY decoded path text `rp`; and the constructor on the text `str(ref)` of such a
    reference, PROVIDED the first segment of the decoded path has no ':'.
    Cites C18_relstores_build, C18_relstores_constructor_first_segment (C18More3Join.lean; the exact condition, on the
    encoded path, is C18_relstores_constructor, ibid.). -/
theorem C18_headline_relative_reference_established (e : Env) (rp : Str) (kvs : List (Str × Str)) (f : Str)
    (hp : PyStr rp) (hn : NoSurrogate rp)           -- decoded path: a Python string without lone surrogates
    (hg : GoodPairs kvs) (hf : PyStr f) (hfn : NoSurrogate f) :   -- decoded pairs / fragment: no lone surrogates
    (∃ r, build e { path := rp, query := .pairs (strItems kvs), fragment := f } = .ok r ∧ RelStores e r rp kvs f) ∧
    (58 ∉ rp.takeWhile (· ≠ 47) →                   -- no ':' in the first segment of the decoded path
      ∃ r, encodeUrl e (unsplitResult [] [] (q e Gen.PATH_QUOTER rp) (qtext e.b kvs) (fragText e f)) = .ok r ∧
        RelStores e r rp kvs f) :=
  ⟨C18_relstores_build e rp kvs f hp hn hg hf hfn,
   fun hseg => let ⟨r, h1, _, h3⟩ := C18_relstores_constructor_first_segment e rp kvs f hp hn hg hf hfn hseg; ⟨r, h1, h3⟩⟩

/-- NON-VACUITY of the constructor clause above, and the side condition is NEEDED (both backends, oracle
    `HumanReach.demoIdn`): `URL("../x%20y?q=1+2#g%20h")` is the relative reference storing the decoded path "../x y", the
    pair ("q", "1 2"), the fragment "g h"; for the decoded path "a:b" the text `str(ref)` is "a:b" and `URL("a:b")` reads
    scheme "a", path "b" — NOT the reference.  Cites C18_relstores_constructor_instance (C18More3JoinB.lean). -/
theorem C18_headline_relative_reference_constructor_example : ∀ b : Backend,
    unsplitResult [] [] (q (demoEnv b) Gen.PATH_QUOTER "../x y".toStr) (qtext b [("q".toStr, "1 2".toStr)])
      (fragText (demoEnv b) "g h".toStr) = "../x%20y?q=1+2#g%20h".toStr ∧
    (∃ r, encodeUrl (demoEnv b) "../x%20y?q=1+2#g%20h".toStr = .ok r ∧
      RelStores (demoEnv b) r "../x y".toStr [("q".toStr, "1 2".toStr)] "g h".toStr) ∧
    unsplitResult [] [] (q (demoEnv b) Gen.PATH_QUOTER "a:b".toStr) (qtext b []) (fragText (demoEnv b) []) = "a:b".toStr ∧
    (encodeUrl (demoEnv b) "a:b".toStr).map Url.parts = .ok (mkP "a" "" "b" "" "") :=
  C18_relstores_constructor_instance

/-- NON-VACUITY of `C18_headline_join_relative_stores` / `C18_headline_roundtrip_join` / `HumanReachJ` (both backends,
    oracle `HumanReach.demoIdn`; hypotheses discharged by computation): base `http://us er@example.com/a b/c d?k=v#f`
    (`R12c.demoBase`), reference built from the decoded path "../x y", pairs [("q", "1 2")], fragment "g h".  The result
    stores user "us er", host example.com, the decoded path "/x y", the pairs and the fragment of the reference; it is in
    `HumanReachJ`; it is shown `http://us er@example.com/x y?q=1 2#g h`, and `URL(…)` of that is `==` the result; a
    modifier applied to it stays in `HumanReachJ`.  Cites C18_join_relative_instance (C18More3JoinB.lean). -/
theorem C18_headline_join_relative_example : ∀ b : Backend,
    ∃ base ref, build (demoEnv b) demoBase = .ok base ∧
      build (demoEnv b) (relArgs "../x y".toStr [("q".toStr, "1 2".toStr)] "g h".toStr) = .ok ref ∧
      RelStores (demoEnv b) ref "../x y".toStr [("q".toStr, "1 2".toStr)] "g h".toStr ∧
      joinTail "a b/c d".toStr "../x y".toStr = "x y".toStr ∧
      StoresOK (demoEnv b) (join (demoEnv b) base ref) (some "us er".toStr) none "example.com".toStr none "x y".toStr
        [("q".toStr, "1 2".toStr)] "g h".toStr ∧
      HumanReachJ (demoEnv b) (join (demoEnv b) base ref) ∧
      humanRepr (demoEnv b) (join (demoEnv b) base ref) = .ok "http://us er@example.com/x y?q=1 2#g h".toStr ∧
      (∃ v, encodeUrl (demoEnv b) "http://us er@example.com/x y?q=1 2#g h".toStr = .ok v ∧
        Url.beq v (join (demoEnv b) base ref) = true) ∧
      ∃ w, applyOp (demoEnv b) (join (demoEnv b) base ref) (HOp.withFragment none).toUOp = .ok w ∧
        HumanReachJ (demoEnv b) w :=
  C18_join_relative_instance

/-! ## Sentence 1, first half — the constructor: the SPELLING CONDITIONS characterised syntactically (GAPS 9, 2(d)) -/

/-- GAPS 9: the spelling conditions of `C18_headline_constructor_any_spelling` — EQUATIONS between quoter outputs — are,
    for texts without lone surrogates and on both backends, EQUIVALENT to the syntactic relation "the written text `s`
    spells the decoded text `d`" of the position:
    path — `d` with any of its characters EXCEPT '/' and '+' written as `%XY…` (UTF-8 bytes, either hex case), a '%' of
    `d` written literally only where no two hex digits follow; fragment and userinfo — the same with no exception;
    query key / value — a space written ' ' or '+' (NOT `%20`), '+', '=', '&', ';' written `%2B`, `%3D`, `%26`, `%3B`
    only, any other character literal or escaped.
    Cites C18_spelling_path, C18_spelling_fragment, C18_spelling_userinfo, C18_spelling_query_value
    (C18More3Spell.lean). -/
theorem C18_headline_spelling_conditions_syntactic (e : Env) (s d : Str)
    (hs : PyStr s) (hn : NoSurrogate s)             -- the written text: a Python string without lone surrogates
    (hd : PyStr d) (hdn : NoSurrogate d) :          -- the decoded text: likewise
    (q e Gen.PATH_REQUOTER s = q e Gen.PATH_QUOTER d ↔ SpellsPath s d) ∧
    (q e Gen.FRAGMENT_REQUOTER s = q e Gen.FRAGMENT_QUOTER d ↔ SpellsPlain s d) ∧
    (q e Gen.REQUOTER s = q e Gen.QUOTER d ↔ SpellsPlain s d) ∧
    (q e Gen.QUERY_REQUOTER s = q e Gen.QUERY_PART_QUOTER d ↔ SpellsQV s d) :=
  ⟨C18_spelling_path e s d hs hn hd hdn, C18_spelling_fragment e s d hs hn hd hdn,
   C18_spelling_userinfo e s d hs hn hd hdn, C18_spelling_query_value e s d hs hn hd hdn⟩

/-- … the WHOLE QUERY: what the constructor stores for the written query `rq` equals the `k=v&…` text that `build` makes
    of the decoded pairs `kvs` IFF `rq = rk1=rv1&rk2=rv2&…` with the SAME NUMBER of pairs, each written key / value
    spelling the decoded key / value (`AllSpell`).  So a piece without '=' (`?a`), an empty piece (`a=1&&b=2`), a second
    literal '=' in a piece, a literal ';' or `%20` are spellings of NO list of pairs.
    Cites C18_spelling_query (C18More3Spell.lean). -/
theorem C18_headline_spelling_query (e : Env) (rq : Str) (kvs : List (Str × Str))
    (hs : PyStr rq) (hn : NoSurrogate rq)           -- the written query: no lone surrogates
    (hg : GoodPairs kvs) :                          -- the decoded pairs: no lone surrogates
    FixLemmas.encQuery e rq = qtext e.b kvs ↔ ∃ ps, rq = rawQuery ps ∧ AllSpell ps kvs :=
  C18_spelling_query e rq kvs hs hn hg

/-- … the written text DETERMINES the decoded text (a text spells at most one decoded text, computed by the library's own
    unquoters), the relation is decided by a Bool checker, and the standard forms ARE spellings: the canonical encodings
    and the human form (what `human_repr()` shows) of every decoded text, in every position.
    Cites C18_spelling_decoded, C18_spelling_checker, C18_spelling_canonical, C18_spelling_human (C18More3Spell.lean). -/
theorem C18_headline_spelling_determined_and_standard_forms (e : Env) (s d x : Str)
    (hd : PyStr d) (hdn : NoSurrogate d) :          -- the decoded text: a Python string without lone surrogates
    ((SpellsPath s d → d = uq e Gen.UNQUOTER (q e Gen.PATH_REQUOTER s)) ∧
     (SpellsPlain s d → d = uq e Gen.UNQUOTER (q e Gen.FRAGMENT_REQUOTER s) ∧
        d = uq e Gen.UNQUOTER (q e Gen.REQUOTER s)) ∧
     (SpellsQV s d → d = stdUnquote (plusToSpace (q e Gen.QUERY_REQUOTER s)))) ∧
    (∀ P : Pos, spellsB P s d = true ↔ SpellsP P s d) ∧
    (SpellsPath (q e Gen.PATH_QUOTER d) d ∧ SpellsPlain (q e Gen.FRAGMENT_QUOTER d) d ∧
      SpellsPlain (q e Gen.QUOTER d) d ∧ SpellsQV (q e Gen.QUERY_PART_QUOTER d) d) ∧
    ((humanQuote e.o d (humanUnsafeOf "path") = .ok x → SpellsPath x d) ∧
     (humanQuote e.o d (humanUnsafeOf "fragment") = .ok x → SpellsPlain x d) ∧
     (humanQuote e.o d (humanUnsafeOf "user") = .ok x → SpellsPlain x d) ∧
     (humanQuote e.o d (humanUnsafeOf "password") = .ok x → SpellsPlain x d) ∧
     (humanQuote e.o d (humanUnsafeOf "k") = .ok x → SpellsQV x d) ∧
     (humanQuote e.o d (humanUnsafeOf "v") = .ok x → SpellsQV x d)) :=
  ⟨C18_spelling_decoded e s d hd hdn, fun P => C18_spelling_checker P s d, C18_spelling_canonical e d hd hdn,
   C18_spelling_human e d x hd hdn⟩

/-- GAPS 2(d) / 9: `C18_headline_constructor_any_spelling` WITH SYNTACTIC HYPOTHESES — `URL(s)` for
    `s = scheme://[usr[:pw']@]D[:port]/rp[?rk1=rv1&…][#rf]` whose pieces SPELL decoded components: `URL(s)` succeeds,
    stores their encodings (`StoresOK`) and round-trips.  The hypothesis "a written user is not empty" follows and is
    dropped.  The exclusions of literal characters (TAB LF CR `# / : ? @ [ ]` in the userinfo: `HumanPart`; '?', '#', TAB,
    LF, CR in the path; '#', TAB, LF, CR in the query; TAB, LF, CR in the fragment) do NOT follow from the spelling
    relations — they are about how `URL(…)` SPLITS the string — and stay.
    Cites C18_constructor_any_spelling_syntactic (C18More3Spell.lean). -/
theorem C18_headline_constructor_any_spelling_syntactic (e : Env) (sc : Str) (user pw : Option Str) (h H D : Str)
    (port : Option Nat) (p : Str) (kvs : List (Str × Str)) (f : Str) (usr pw' : Option Str) (rp : Str)
    (ps : List (Str × Str)) (rf : Str)
    (vs : ValidScheme sc)                           -- "absolute": the written scheme is RFC-valid and LOWER case
    (hk : HostKind e h H D)                         -- `D` is the host text written in `s` (as `human_repr()` shows it)
    (hport : ∀ x, port = some x → x ≤ 65535)        -- guard: a port in range
    (hu : UText user) (hw : UText pw)               -- decoded user / password: no lone surrogates
    (hune : ∀ s, user = some s → s ≠ [])            -- a decoded user is not ""
    (hp : PyStr (47 :: p)) (hn : NoSurrogate (47 :: p))   -- decoded path: a Python string without lone surrogates
    (hnorm : normalizePath (47 :: p) = 47 :: p)     -- … without dot segments
    (hg : GoodPairs kvs) (hf : PyStr f) (hfn : NoSurrogate f)   -- decoded pairs / fragment: no lone surrogates
    (su : SpellsOpt usr user) (hpu : HumanPart usr) -- the written user spells the decoded user; no delimiter literal in it
    (sw : SpellsOpt pw' pw) (hpw : HumanPart pw')   -- the same for the password
    (spath : SpellsPath rp p)                       -- the written path spells the decoded path …
    (hrp : ∀ c ∈ rp, c ≠ 63 ∧ c ≠ 35) (hc1 : Clean rp)   -- … with no literal '?', '#', TAB, LF, CR
    (squery : AllSpell ps kvs)                      -- the written pairs spell the decoded pairs …
    (hq35 : ∀ c ∈ rawQuery ps, c ≠ 35) (hcq : Clean (rawQuery ps))   -- … with no literal '#', TAB, LF, CR
    (sfrag : SpellsPlain rf f) (hc2 : Clean rf)     -- the written fragment spells the decoded one, no TAB, LF, CR
    -- NFKC proviso on the INPUT (F-C18-nfkc-userinfo): a non-ASCII written authority must pass `_check_netloc`
    (hnf : isAscii (authText usr pw' D port) = false → checkNetloc e.o (authText usr pw' D port) = .ok ()) :
    ∃ u, encodeUrl e (composeUrl sc (authText usr pw' D port) (47 :: rp) (rawQuery ps) rf) = .ok u ∧ u.scheme = sc ∧
      StoresOK e u user pw H port p kvs f ∧
      ∀ hr, humanRepr e u = .ok hr →
        (isAscii (Rfc.appendixB Gen.schemeChars hr).authority = false →          -- NFKC proviso on the OUTPUT
          checkNetloc e.o (Rfc.appendixB Gen.schemeChars hr).authority = .ok ()) →
        ∃ v, encodeUrl e hr = .ok v ∧ Url.beq v u = true :=
  C18_constructor_any_spelling_syntactic e sc user pw h H D port p kvs f usr pw' rp ps rf vs hk hport hu hw hune hp hn
    hnorm hg hf hfn su hpu sw hpw spath hrp hc1 squery hq35 hcq sfrag hc2 hnf

/-- NEGATIVE RESULTS — written texts that spell NOTHING, so `URL(…)` of them stores no encoding of decoded components
    (the counterexamples of GAPS 2(d), now for EVERY decoded text / list of pairs, both backends):
    the written path "a%2Fb" (`URL("http://example.com/a%2Fb")`: the requoter keeps `%2F`, the quoter never writes it);
    `%FF…` in any position (not UTF-8); the written query `k=v%20w` (`%20` stays `%20`, `build` writes '+').
    Cites C18_spelling_escaped_slash_spells_nothing, C18_spelling_non_utf8_spells_nothing,
    C18_spelling_query_pct20_spells_nothing (C18More3Spell.lean; general forms:
    C18_spelling_bad_escape_spells_nothing, C18_spelling_bad_lead_spells_nothing, ibid.). -/
theorem C18_headline_spellings_of_nothing (e : Env) :
    (∀ d, PyStr d → NoSurrogate d → q e Gen.PATH_REQUOTER "a%2Fb".toStr ≠ q e Gen.PATH_QUOTER d) ∧
    (∀ (P : Pos) (r d : Str), ¬ SpellsP P (37 :: 70 :: 70 :: r) d) ∧
    (∀ kvs, GoodPairs kvs → FixLemmas.encQuery e "k=v%20w".toStr ≠ qtext e.b kvs) :=
  ⟨C18_spelling_escaped_slash_spells_nothing e, C18_spelling_non_utf8_spells_nothing,
   C18_spelling_query_pct20_spells_nothing e⟩

/-- instances decided by the checker (Python-level texts): a mixed spelling; lower- and mixed-case hex; `%2F` does NOT
    spell "/" in a path; "%zz" spells "%zz" (and so does "%25zz"); "%41" spells "A", not "%41"; a literal '?' / '#' DOES
    spell itself for the path quoter (it is the URL splitter that excludes it); in a query value a space is written ' '
    or '+', NOT `%20`; '+' and '=' are written `%2B`, `%3D` only; `%FF` alone is no UTF-8.
    Cites C18_spelling_examples (C18More3Spell.lean). -/
theorem C18_headline_spelling_examples :
    SpellsPath "é%20x".toStr "é x".toStr ∧
    SpellsPath "%c3%a9".toStr "é".toStr ∧ SpellsPath "%C3%a9".toStr "é".toStr ∧
    ¬ SpellsPath "%2F".toStr "/".toStr ∧ SpellsPath "/".toStr "/".toStr ∧ ¬ SpellsPath "a%2Fb".toStr "a/b".toStr ∧
    SpellsPath "%zz".toStr "%zz".toStr ∧ SpellsPath "%25zz".toStr "%zz".toStr ∧
    SpellsPath "%41".toStr "A".toStr ∧ ¬ SpellsPath "%41".toStr "%41".toStr ∧ SpellsPath "%2541".toStr "%41".toStr ∧
    SpellsPath "?".toStr "?".toStr ∧ SpellsPath "#".toStr "#".toStr ∧ SpellsPlain "a:b@c/[]".toStr "a:b@c/[]".toStr ∧
    SpellsQV "#".toStr "#".toStr ∧
    SpellsQV "v+w".toStr "v w".toStr ∧ SpellsQV "v w".toStr "v w".toStr ∧ ¬ SpellsQV "v%20w".toStr "v w".toStr ∧
    SpellsQV "a%2Bb".toStr "a+b".toStr ∧ ¬ SpellsQV "a+b".toStr "a+b".toStr ∧
    SpellsQV "a%3Db".toStr "a=b".toStr ∧ ¬ SpellsQV "a=b".toStr "a=b".toStr ∧
    SpellsPlain "%e2%82%AC%2f".toStr "€/".toStr ∧ ¬ SpellsPlain "%FF".toStr [0xFF] ∧ ¬ SpellsPlain "%C3".toStr "é".toStr ∧
    SpellsOpt (some "us%20er".toStr) (some "us er".toStr) ∧ ¬ SpellsOpt none (some []) :=
  C18_spelling_examples

/-! ## non-vacuity -/

-- `LitSafeAt` / `PctOK` / `twoHex` on Python-level texts: "a%zz", "a%4" may keep their '%' literal, "a%41" may not
example : twoHex "41".toStr = true ∧ twoHex "zz".toStr = false ∧ twoHex "4".toStr = false ∧
    PctOK (· == 37) "a%zz%4".toStr ∧ ¬ PctOK (· == 37) "a%41".toStr ∧
    LitSafeAt "path" (· == 37) none none "a%zz".toStr [] [] ∧ ¬ LitSafeAt "path" (· == 37) none none "a%41".toStr [] [] := by
  decide +kernel

-- the hypothesis `hlit` of C18_headline_nonprintable_escapes_not_needed is satisfiable: SOH and DEL are non-printable
example : ∀ c, (fun c => c == 1 || c == 127) c = true →
    isPrintableChar demo c = .ok false ∧ c ≠ 9 ∧ c ≠ 10 ∧ c ≠ 13 := by
  intro c hc
  simp only [Bool.or_eq_true, beq_iff_eq] at hc
  rcases hc with rfl | rfl <;> exact ⟨by decide +kernel, by decide, by decide, by decide⟩

-- the spelling hypotheses of C18_headline_constructor_any_spelling_syntactic on the mixed spelling
-- `http://us%20er@example.com/é%20x?k=v w#é%20f` (C18_constructor_any_spelling_syntactic_example, C18More3Spell.lean)
example : SpellsOpt (some "us%20er".toStr) (some "us er".toStr) ∧ SpellsPath "é%20x".toStr "é x".toStr ∧
    AllSpell [("k".toStr, "v w".toStr)] [("k".toStr, "v w".toStr)] ∧ SpellsPlain "é%20f".toStr "é f".toStr :=
  ⟨by decide +kernel, by decide +kernel, .cons ⟨by decide +kernel, by decide +kernel⟩ .nil, by decide +kernel⟩

-- the join example goes through the headline theorems: the result round-trips
example (b : Backend) : ∃ base ref, build (demoEnv b) demoBase = .ok base ∧
    HumanReachJ (demoEnv b) (join (demoEnv b) base ref) ∧
    ∃ user pw H port p kvs f, StoresOK (demoEnv b) (join (demoEnv b) base ref) user pw H port p kvs f := by
  obtain ⟨base, ref, hb, _, _, _, _, hJ, _⟩ := C18_headline_join_relative_example b
  exact ⟨base, ref, hb, hJ, (C18_headline_roundtrip_reachable_with_join _ _ hJ).1⟩

end Yarl
