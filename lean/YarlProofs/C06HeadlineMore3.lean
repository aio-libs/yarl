import YarlProofs.C06Headline
import YarlProofs.C06HeadlineMore
import YarlProofs.C06More2
import YarlProofs.C06Encoded
/-!
  C06HeadlineMore3.lean — AUDIT LAYER for property C06, third file (after C06Headline.lean and C06HeadlineMore.lean):
  headline theorems for the proof modules added after the last refresh, C06More2.lean (with its lemma library
  Lemmas/Readback2.lean) and C06Encoded.lean.  This file is a leaf, nobody imports it.  The GAPS block of
  C06Headline.lean cites the theorems of this file.

  C06 | Decoded views are faithful and supplied values read back unchanged |
  "Each decoded accessor (user, password, path, path_safe, parts, name, suffix, query, query_string, fragment) equals
  the UTF-8 percent-decoding of the corresponding raw component, with malformed or undecodable escapes kept verbatim,
  '+' meaning space only in queries, and path_safe keeping %2F and %25. Any text supplied as a decoded value through
  build(), with_user, with_password, with_path, with_name, with_fragment, with_query, / or joinpath reads back
  unchanged from the matching accessor (lone surrogates, and dot segments under an authority, excepted)."

  What is here (numbers = GAPS items of C06Headline.lean):
    * sentence 1a for `encoded=True` URLs (C06Encoded.lean): the decoded accessors of `URL(s, encoded=True)` and of
      `URL.build(…, encoded=True)` are the textbook decodings of the Appendix B components / of the arguments VERBATIM;
    * GAPS 3: `build(authority=A)` — user, password, raw_host / host, explicit_port / port; `build(query=<str>)`;
    * GAPS 4: `with_user("")`; `with_user` / `with_password` on a URL without authority;
    * GAPS 6: `joinpath(a₁, …, aₙ)` read back through `path`;
    * GAPS 9: the `/` / joinpath read-backs for REACHABLE URLs (`ReachC`) without side conditions on the old path;
    * GAPS 10: exactly when `URL.host` consults the IDNA decoder; `build(host=)` read-back without oracle hypothesis where
      it does not; the oracle hypothesis is needed where it does (with the library's real behaviour for "xn--" names).

  Vocabulary of the cited modules.  `np = split_netloc(A)` (`splitNetloc e.o A = .ok np`): `np.user` = the text before
  the first ':' of the userinfo (= the text before the LAST '@'), `None` when empty; `np.password` = the text after that
  ':' (`None` without ':'); `np.host` = the host text without brackets; `np.port` = the integer.
  `HostTextOK h0` (Lemmas/NetShape.lean) = `h0` is a supported ASCII host text: non-empty and either (no ':') a name /
  IPv4 text of visible ASCII characters without `/ ? # @ [ ] :`, or (with ':') an IPv6 literal with optional "%zone".
  `stripSurr s` = `s` without lone surrogates; `orNone x` = `x or None`; `q e a s` / `uq e a s` = the quoter /
  unquoter configuration `a` on the backend of `e`.  `strPort sc p` (C03Reach.lean) = `p`, or `None` when `p` is the
  default port of scheme `sc`; `defaultPort sc` = `DEFAULT_PORTS.get(sc)`; `lowerAny e s` = `s.lower()` (non-ASCII
  through an oracle); `unbracket r` = `r` without surrounding brackets; `bracket h` = `h` in brackets iff it has a ':'.
  `UserOK U` = the user, when given, is non-empty without ':'; `HostOK H` = non-empty, none of '@' '[' ']'.
  `Written qf u usr pw h port`, `pickleTwin`, `net`, `GoodAuthority`, `NetlocCanon`: see C06HeadlineMore.lean.
  `ReachC e u` (C03Reach.lean) = `u` is obtainable through the auto-encoding API: constructor on a Python string,
  `build(encoded=False)`, every modifier with Python-string arguments, `join`.  `PathMore.argSegs e true ps`,
  `stripTrail`, `rawParts`, `NoDots`, `dot`, `dotdot`: see C06Headline.lean.  `idnaDecode o raw` = the library's
  `_idna_decode(raw)`; `o.idnaDec` = the oracle table for the `idna` package (`none` = no entry: the model reports an
  `oracleMiss`).  `Rfc.pctUtf8Decode keep plus`, `keepNone`, `keepSlashPercent`, `keepQsDelims`: the independent
  decoding specification of C06HeadlineMore.lean.  `Rfc.appendixB`, `Rfc.authoritySplit`, `C07_portOf` (C07More.lean):
  the Appendix B decomposition, the RFC split of an authority, and the port text read as a port (all four authority
  accessors raise when it is not an integer in 0..65535).  `C07_encBuildNetloc a` (C07Encoded.lean) = the authority
  `build(encoded=True)` stores: `authority=` verbatim, else `make_netloc(user, password, host, port)` WITHOUT encoding
  and without brackets; `C07_buildQueryString e a` = `get_str_query(query)` for a truthy `query=`, else `query_string=`.
-/
namespace Yarl
open NetlocLemmas HeadB EagerLemmas NetShape R2

/-! ## Sentence 1a — "Each decoded accessor … equals the UTF-8 percent-decoding of the corresponding raw component" —
    for `encoded=True` URLs, where the raw component is what the caller typed -/

section EncodedHeadline
open Rfc DecMore

/-- "Each decoded accessor … equals the UTF-8 percent-decoding of the corresponding raw component" for
    `u = URL(s, encoded=True)`: with `B` = the Appendix B decomposition of the cleaned input and `A` = the RFC split of
    its authority, path / path_safe / query_string / fragment / user / password are the textbook decoding
    `Rfc.pctUtf8Decode` of the components of `B` / `A` VERBATIM (nothing was requoted: an unquoted space, a non-ASCII
    character, a lower-case or malformed escape are decoded from exactly what was typed); parts / name / suffix /
    suffixes are the decodings of the raw ones.  user / password raise when the port text of the authority is no port
    (`C07_portOf`); an empty path reads "" without and "/" with an authority.  (Instance of
    C06_headline_accessors_are_pct_utf8_decodings, which has no hypothesis on the URL, composed with C07's
    "encoded=True … verbatim".)  Cites C06_encoded_accessors (C06Encoded.lean). -/
theorem C06_headline_encoded_true_accessors_are_decodings (e : Env) (s : Str) (u : Url)
    (h : preEncodedUrl e s = .ok u) :                -- `u = URL(s, encoded=True)`
    let B := Rfc.appendixB Gen.schemeChars (cleanUrl s)
    let A := Rfc.authoritySplit B.authority
    pathDecoded e u = (if B.path.isEmpty then (if B.authority.isEmpty then [] else [47])
                       else pctUtf8Decode keepNone false B.path) ∧
    pathSafe e u = (if B.path.isEmpty then (if B.authority.isEmpty then [] else [47])
                    else pctUtf8Decode keepSlashPercent false B.path) ∧
    queryString e u = pctUtf8Decode keepQsDelims true B.query ∧
    fragmentDecoded e u = pctUtf8Decode keepNone false B.fragment ∧
    user e u = (C07_portOf e.o A.port).map (fun _ => (A.user.bind orNone).map (pctUtf8Decode keepNone false)) ∧
    password e u = (C07_portOf e.o A.port).map (fun _ => A.password.map (pctUtf8Decode keepNone false)) ∧
    partsDecoded e u = (rawParts u).map (pctUtf8Decode keepNone false) ∧
    name e u = (rawName u).map (pctUtf8Decode keepNone false) ∧
    suffix e u = (rawSuffix u).map (pctUtf8Decode keepNone false) ∧
    suffixes e u = (rawSuffixes u).map (List.map (pctUtf8Decode keepNone false)) :=
  C06_encoded_accessors e s u h

/-- the same for `u = URL.build(…, encoded=True)`: the decoding specification applied to the ARGUMENTS verbatim
    (`path=`, `fragment=`, `query_string=`; a truthy `query=` alone is first rendered by `get_str_query`, as in both
    modes), user / password decoded from the RFC split of the stored authority `C07_encBuildNetloc a`.  NO read-back
    claim: with `encoded=True` the arguments are raw texts, not decoded values — `build(path="/a%2Fb", encoded=True).path`
    is "/a/b".  Cites C06_build_encoded_accessors (C06Encoded.lean). -/
theorem C06_headline_build_encoded_true_accessors_are_decodings (e : Env) (a : BuildArgs) (u : Url)
    (ha : a.encoded = true)                          -- `encoded=True`
    (h : build e a = .ok u) :                        -- `u = URL.build(…)`
    let N := C07_encBuildNetloc a
    let A := Rfc.authoritySplit N
    pathDecoded e u = (if a.path.isEmpty then (if N.isEmpty then [] else [47])
                       else pctUtf8Decode keepNone false a.path) ∧
    pathSafe e u = (if a.path.isEmpty then (if N.isEmpty then [] else [47])
                    else pctUtf8Decode keepSlashPercent false a.path) ∧
    fragmentDecoded e u = pctUtf8Decode keepNone false a.fragment ∧
    (∃ qs, C07_buildQueryString e a = .ok qs ∧ queryString e u = pctUtf8Decode keepQsDelims true qs) ∧
    (qargTruthy a.query = false → queryString e u = pctUtf8Decode keepQsDelims true a.queryString) ∧
    user e u = (C07_portOf e.o A.port).map (fun _ => (A.user.bind orNone).map (pctUtf8Decode keepNone false)) ∧
    password e u = (C07_portOf e.o A.port).map (fun _ => A.password.map (pctUtf8Decode keepNone false)) :=
  C06_build_encoded_accessors e a u ha h

end EncodedHeadline

/-! ## Sentence 2 — "Any text supplied as a decoded value through build() … reads back unchanged" — `build(authority=A)`
    (GAPS 3 of C06Headline.lean) -/

/-- GAPS 3, `build(authority=A)` (encoded=False): the userinfo texts of `A` are taken AS DECODED VALUES (they are quoted
    with QUOTER, '%' becomes "%25"), so `user` / `password` read back the userinfo texts of `A` VERBATIM — lone
    surrogates dropped; an empty user reads `None` — and NOT their percent-decodings
    (C06_headline_build_authority_readback_fails_for_percent_escapes); `raw_host` is `_encode_host(host text)` without
    brackets (which text: next theorem); `explicit_port` is the port of `A` unless it is the default port of the
    lower-cased scheme — then `None`; `port` is the integer of `A` whenever `A` has one (the scheme's default otherwise).
    Cites C06_build_authority_readback (C06More2.lean). -/
theorem C06_headline_build_authority_readback (e : Env) (a : BuildArgs) (v : Url) (h : build e a = .ok v)
    (henc : a.encoded = false)                                    -- auto-encoding mode
    (hpy : PyStr a.authority)                                     -- model artefact: `Str` also has code points > 0x10FFFF
    (np : NetlocParts) (h0 : Str)
    (hsp : splitNetloc e.o a.authority = .ok np)                  -- `np = split_netloc(A)` (names the parts of `A`)
    (hhost : np.host = some h0)                                   -- `A` has a host text `h0`
    (hk : HostTextOK h0)                                          -- a supported ASCII host text (name / IPv4 / IPv6 [+zone]); IDN, IPvFuture: not covered
    (hwrap : 58 ∉ h0 → 91 ∉ (rpartition 64 a.authority).2.2) :    -- a host that is no IPv6 literal is not written in brackets
    ∃ sc r, lowerAny e a.scheme = .ok sc ∧ v.scheme = sc ∧ encodeHost e.o h0 false = .ok r ∧ r ≠ [] ∧
      rawUser e v = .ok ((np.user.map (q e Gen.QUOTER)).bind orNone) ∧
      rawPassword e v = .ok (np.password.map (q e Gen.QUOTER)) ∧
      user e v = .ok ((np.user.map stripSurr).bind orNone) ∧
      password e v = .ok (np.password.map stripSurr) ∧
      ((∀ s, np.user = some s → NoSurrogate s) → user e v = .ok np.user) ∧               -- "lone surrogates … excepted"
      ((∀ s, np.password = some s → NoSurrogate s) → password e v = .ok np.password) ∧   -- "lone surrogates … excepted"
      rawHost e v = .ok (some (unbracket r)) ∧
      explicitPort e v = .ok (strPort sc np.port) ∧
      port e v = .ok (np.port.orElse fun _ => defaultPort sc) :=
  C06_build_authority_readback e a v h henc hpy np h0 hsp hhost hk hwrap

/-- GAPS 3, `build(authority=A)`, the host (`host` is not in the property's list of accessors; same three cases as
    C06_headline_build_host_readback for `host=`):
    (i) the host text of `A` is a NAME (no ':'; not an IPv4 literal): `raw_host` is the name LOWER-CASED, and so is
        `host` — under the hypothesis that the IDNA decoder maps that ASCII lower-case name to itself, needed only when
        `URL.host` consults the decoder (GAPS 10; C06_headline_host_oracle_use);
    (ii) an IPv4 literal (not in brackets): `raw_host` and `host` return it unchanged, no oracle;
    (iii) an IPv6 literal (any spelling `ipaddress` accepts, optional "%zone"): canonical lower-case text, the zone id
        verbatim, without brackets, from both, no oracle.
    Cites C06_build_authority_host_name, C06_build_authority_host_ipv4, C06_build_authority_host_ipv6 (C06More2.lean). -/
theorem C06_headline_build_authority_host_readback (e : Env) (a : BuildArgs) (v : Url) (h : build e a = .ok v)
    (henc : a.encoded = false)                                    -- auto-encoding mode
    (hpy : PyStr a.authority)                                     -- model artefact
    (np : NetlocParts) (h0 : Str)
    (hsp : splitNetloc e.o a.authority = .ok np) (hhost : np.host = some h0) :   -- `h0` = the host text of `A`
    (HostTextOK h0 →                                              -- supported ASCII host text
      (58 ∉ h0 → 91 ∉ (rpartition 64 a.authority).2.2) →          -- a non-IPv6 host is not written in brackets
      -- the text is not an IP literal (those are (ii), (iii)):
      (parseIP (partition 37 h0).1 = none ∨ (58 ∉ h0 ∧ ∀ l, h0.getLast? = some l → isDigitC l = false)) →
      rawHost e v = .ok (some (lower h0)) ∧
      -- oracle hypothesis, needed only when `URL.host` calls the IDNA decoder:
      ((((∀ l, (lower h0).getLast? = some l → isDigitC l = false) ∨ hasSub [120, 110, 45, 45] (lower h0) = true) →
          e.o.idnaDec (lower h0) = some (some (lower h0))) →
        host e v = .ok (some (lower h0)))) ∧
    (91 ∉ (rpartition 64 a.authority).2.2 →                       -- the IPv4 literal is not written in brackets
      ∀ o4, parseIPv4 h0 = some o4 → rawHost e v = .ok (some h0) ∧ host e v = .ok (some h0)) ∧
    (HostTextOK h0 → ∀ h8, parseIPv6 (partition 37 h0).1 = some h8 →
      rawHost e v = .ok (some (ipv6ToStr h8 ++ (if (partition 37 h0).2.1 then [37] ++ (partition 37 h0).2.2 else []))) ∧
      host e v = .ok (some (ipv6ToStr h8 ++ (if (partition 37 h0).2.1 then [37] ++ (partition 37 h0).2.2 else [])))) :=
  ⟨fun hk hwrap hnip => C06_build_authority_host_name e a v h henc hpy np h0 hsp hhost hk hwrap hnip,
   fun hwrap o4 h4 => C06_build_authority_host_ipv4 e a v h henc hpy np h0 hsp hhost hwrap o4 h4,
   fun hk h8 h6 => C06_build_authority_host_ipv6 e a v h henc hpy np h0 hsp hhost hk h8 h6⟩

/-- GAPS 3, `build(authority=A)` in "reads back unchanged" form: for `A = make_netloc(U, P, H, pt)` written WITHOUT
    encoding — a well-shaped user `U` (non-empty, no ':'), any password `P`, a supported host text `H` in brackets iff
    it has a ':' — `user`, `password` of `build(authority=A)` are `U`, `P` (verbatim), `explicit_port` is `pt` unless
    it is the scheme's default, `port` is the integer.  Cites C06_build_authority_written_readback (C06More2.lean). -/
theorem C06_headline_build_authority_written_readback (e : Env) (a : BuildArgs) (v : Url) (h : build e a = .ok v)
    (henc : a.encoded = false)                                    -- auto-encoding mode
    (U P : Option Str) (H : Str) (pt : Option Nat)
    (hA : a.authority = makeNetloc id U P (some (bracket H)) pt false)   -- `A` is `[U[:P]@]H[:pt]`, nothing encoded
    (hpy : PyStr a.authority)                                     -- model artefact
    (hU : UserOK U)                                               -- the user, when given, is non-empty and has no ':'
    (hH : HostOK H) (hk : HostTextOK H)                           -- a supported ASCII host text without '@' '[' ']'
    (hport : ∀ p, pt = some p → p ≤ 65535)                        -- a port in range
    (hUn : ∀ s, U = some s → NoSurrogate s) (hPn : ∀ s, P = some s → NoSurrogate s) :  -- "lone surrogates … excepted"
    ∃ sc r, lowerAny e a.scheme = .ok sc ∧ v.scheme = sc ∧ encodeHost e.o H false = .ok r ∧
      user e v = .ok U ∧ password e v = .ok P ∧ rawHost e v = .ok (some (unbracket r)) ∧
      explicitPort e v = .ok (strPort sc pt) ∧
      port e v = .ok (pt.orElse fun _ => defaultPort sc) :=
  C06_build_authority_written_readback e a v h henc U P H pt hA hpy hU hH hk hport hUn hPn

/-- — the userinfo of `authority=` is NOT read as escaped text, and `explicit_port` does not always read back the
    integer (both backends): `URL.build(scheme="http", authority="us%41er:p%40w@h1:80")` has stored authority
    "us%2541er:p%2540w@h1", `user == "us%41er"` (the percent-decoding of "us%41er" is "usAer"), `password == "p%40w"`,
    `explicit_port is None`, `port == 80` — whereas the same text in `URL("http://us%41er:p%40w@h1:80")` is REQUOTED:
    user "usAer".  So whether this is "reads back unchanged" depends on the reading of `authority=`: as a sequence of
    DECODED values it does (previous theorems); as a raw authority (what the parameter name and the parser suggest) the
    '%' is double-encoded.  NOT in KNOWN_FINDINGS.jsonl — see GAPS 11.
    Cites C06_build_authority_not_percent_decoded (C06More2.lean). -/
theorem C06_headline_build_authority_readback_fails_for_percent_escapes (b : Backend) :
    ∃ v, build ⟨b, Oracles.empty⟩ { scheme := "http".toStr, authority := "us%41er:p%40w@h1:80".toStr } = .ok v ∧
      v.netloc = "us%2541er:p%2540w@h1".toStr ∧
      user ⟨b, Oracles.empty⟩ v = .ok (some "us%41er".toStr) ∧
      password ⟨b, Oracles.empty⟩ v = .ok (some "p%40w".toStr) ∧
      Gen.UNQUOTER.run b "us%41er".toStr = "usAer".toStr ∧ Gen.UNQUOTER.run b "p%40w".toStr = "p@w".toStr ∧
      explicitPort ⟨b, Oracles.empty⟩ v = .ok none ∧ port ⟨b, Oracles.empty⟩ v = .ok (some 80) ∧
      (encodeUrl ⟨b, Oracles.empty⟩ "http://us%41er:p%40w@h1:80".toStr).bind (user ⟨b, Oracles.empty⟩) =
        .ok (some "usAer".toStr) :=
  C06_build_authority_not_percent_decoded b

/-! ## Sentence 2 — "build()" — a STRING `query=` (GAPS 3 of C06Headline.lean) -/

/-- GAPS 3, `build(query=s)` for a non-empty STRING `s` — in BOTH `encoded=` modes (a `query=` argument is always
    rendered by the library) and whatever the other arguments are: the stored query is `QUERY_QUOTER(s)`; `url.query`
    yields the pieces of `s` between '&' (empty pieces dropped), each cut at its FIRST '=', with '+' read as a space and
    NOTHING else decoded ('%' in `s` is a literal character: it is stored as "%25"); `query_string` is `s` with
    '+' → ' '.  So a query STRING is not a sequence of decoded values: '&', '=' and '+' in it are syntax (as for
    `query_string=`, C06_headline_build_query_string_readback); in particular ONE "key=value" text without '&' '+' (and
    no '=' in the key) reads back as that pair.
    Cites C06_build_query_str_readback, C06_build_query_str_single (C06More2.lean). -/
theorem C06_headline_build_query_str_readback (e : Env) (a : BuildArgs) (v : Url) (h : build e a = .ok v) :
    (∀ s, a.query = .str s → s ≠ [] →              -- `query=` is a non-empty str ("" is falsy: no query)
      PyStr s →                                    -- model artefact
      NoSurrogate s →                              -- "lone surrogates … excepted"
      v.query = q e Gen.QUERY_QUOTER s ∧
      queryPairs v = ((splitOn 38 s).filter (fun p => ¬ p = [])).map
        (fun p => (plusToSpace (partition 61 p).1, plusToSpace (partition 61 p).2.2)) ∧
      queryString e v = plusToSpace s) ∧
    (∀ k w, a.query = .str (k ++ 61 :: w) →        -- `query="k=w"`
      PyStr k ∧ NoSurrogate k → PyStr w ∧ NoSurrogate w →
      38 ∉ k ∧ 61 ∉ k ∧ 43 ∉ k →                   -- no '&' '=' '+' in the key
      38 ∉ w ∧ 43 ∉ w →                            -- no '&' '+' in the value
      queryPairs v = [(k, w)]) :=
  ⟨fun s hq hne hs hn => C06_build_query_str_readback e a v h s hq hne hs hn,
   fun k w hq hk hw hk' hw' => C06_build_query_str_single e a v h k w hq hk hw hk' hw'⟩

/-! ## Sentence 2 — "with_user, with_password" — `with_user("")` and URLs without authority (GAPS 4) -/

/-- GAPS 4, `with_user("")` on a record without cache whose authority is `make_netloc(usr, pw, h, port)`: it does NOT
    store an empty user and is NOT `with_user(None)`: it removes the user and KEEPS the password (authority
    ":pw@host"); `user` of the result is `None` — so "reads back unchanged" is FALSE for the text "" (it reads `None`;
    the same deviation as C11_headline_with_user_fails_for_empty); password / host / port are kept; it coincides with
    `with_user(None)` exactly when the URL has no password.  Cites C06_with_user_empty_written (C06More2.lean). -/
theorem C06_headline_with_user_empty_written (e : Env) (qf : Str → Str) (usr pw : Option Str) (h : Str)
    (port : Option Nat) (scheme path query fragment : Str)
    (hu : UserOK usr)                              -- the old user, when there is one, is non-empty without ':'
    (hh : HostOK h)                                -- the host is non-empty, none of '@' '[' ']'
    (hp : ∀ p, port = some p → p ≤ 65535) :        -- a port in range
    let u := fromParts scheme (makeNetloc qf usr pw (some (bracket h)) port false) path query fragment
    let v := fromParts scheme (makeNetloc id none pw (some (bracket h)) port false) path query fragment
    withUser e u (some []) = .ok v ∧
    user e v = .ok none ∧ rawUser e v = .ok none ∧
    rawPassword e v = .ok pw ∧ password e v = password e u ∧
    rawHost e v = .ok (some h) ∧ explicitPort e v = .ok port ∧
    (withUser e u none = .ok v ↔ pw = none) :=
  C06_with_user_empty_written e qf usr pw h port scheme path query fragment hu hh hp

/-- GAPS 4, `with_user("")` on a URL WITH a (consistent) pre-filled cache, and on a CONSTRUCTOR result `u = URL(s)`:
    the result has `user is None`, the old raw password / decoded password / host / port, the authority
    `make_netloc(None, pw, h, port)`, and the other four parts unchanged.
    Cites C06_cached_with_user_empty, C06_ctor_with_user_empty (C06More2.lean). -/
theorem C06_headline_with_user_empty_cached_constructor (e : Env) (qf : Str → Str) (u : Url) (usr pw : Option Str)
    (h : Str) (port : Option Nat)
    (w : Written qf (pickleTwin u) usr pw h port) :          -- the stored authority is `make_netloc` text
    (net e (pickleTwin u) = net e u ∨                        -- the cache agrees with the stored authority (C09's statement), or
      (∃ s, encodeUrl e s = .ok u ∧ GoodAuthority e s)) →    -- `u = URL(s)` under the C09 guard
    ∃ v, withUser e u (some []) = .ok v ∧
      user e v = .ok none ∧ rawUser e v = .ok none ∧
      rawPassword e v = .ok pw ∧ password e v = password e u ∧
      rawHost e v = .ok (some h) ∧ explicitPort e v = .ok port ∧
      v.netloc = makeNetloc id none pw (some (bracket h)) port false ∧
      v.scheme = u.scheme ∧ v.path = u.path ∧ v.query = u.query ∧ v.fragment = u.fragment ∧
      (withUser e u none = .ok v ↔ pw = none) := by
  rintro (hnet | ⟨s, hu, hg⟩)
  · exact C06_cached_with_user_empty e qf u usr pw h port hnet w
  · exact C06_ctor_with_user_empty e qf s u usr pw h port hu hg w

/-- GAPS 4, `with_user("")` on EVERY URL with an authority that satisfies the invariant `NetlocCanon` — no `Written` /
    cache hypothesis: `user` of the result is `None`, the raw and decoded password, raw_host, explicit_port and the
    other parts are those of `u`; it is `with_user(None)` iff `u` has no password.
    Cites C06_netlocCanon_with_user_empty (C06More2.lean). -/
theorem C06_headline_with_user_empty_invariant (e : Env) (u : Url)
    (hc : NetlocCanon e u)      -- the invariant (C06_headline_with_user_password_readback_from_input, C11_headline_invariant_of_*)
    (hne : u.netloc ≠ []) :     -- there is an authority (without one: next theorem)
    ∃ v pw, rawPassword e u = .ok pw ∧ withUser e u (some []) = .ok v ∧
      user e v = .ok none ∧ rawUser e v = .ok none ∧
      rawPassword e v = .ok pw ∧ password e v = password e u ∧
      rawHost e v = rawHost e u ∧ explicitPort e v = explicitPort e u ∧
      v.scheme = u.scheme ∧ v.path = u.path ∧ v.query = u.query ∧ v.fragment = u.fragment ∧
      (withUser e u none = .ok v ↔ pw = none) :=
  C06_netlocCanon_with_user_empty e u hc hne

/-- GAPS 4, "with_user / with_password on a URL without host": for EVERY record with an empty stored authority (cache
    or not, whatever its other parts) and EVERY argument (`None`, "", any text) the model returns `ValueError` —
    Python: "user replacement is not allowed for relative URLs" / "password replacement is not allowed for relative
    URLs" — so there is nothing to read back; and for a record without cache "without host" (`raw_host` / `host` is
    `None`) IS "empty stored authority".
    Cites C06_with_user_password_no_authority, C06_no_host_iff_no_authority (C06More2.lean). -/
theorem C06_headline_with_user_password_no_authority (e : Env) (u : Url) :
    (u.netloc = [] →                                -- no authority
      (∀ x, withUser e u x = .error .valueError) ∧ (∀ x, withPassword e u x = .error .valueError)) ∧
    (u.pre = none →                                 -- no pre-filled cache
      (rawHost e u = .ok none ↔ u.netloc = []) ∧ (host e u = .ok none ↔ u.netloc = [])) :=
  ⟨fun hnl => C06_with_user_password_no_authority e u hnl, fun hpre => C06_no_host_iff_no_authority e u hpre⟩

/-! ## Sentence 2 — "/ or joinpath" — several arguments through `path` (GAPS 6); reachable URLs (GAPS 9) -/

section JoinHeadline
open PathLemmas PathAlg PathMore EntryLemmas

/-- GAPS 6 (read-back through `path` for several arguments): `u.joinpath(a₁, …, aₙ)` is `u.joinpath("a₁/…/aₙ")` — the
    SAME URL, where "a₁/…/aₙ" = `joinC 47 (argSegs e true ps)` is the text in which a trailing '/' of a non-last argument
    is not doubled — and so reads back through `path` as the old decoded path without ONE trailing slash, then "/" and
    the joined arguments (for an empty old path: the joined arguments themselves without, "/" + them with an
    authority); `parts` / `name` as in C06_headline_joinpath_readback.
    Cites C06_joinpath_path_readback (C06More2.lean). -/
theorem C06_headline_joinpath_path_readback (e : Env) (u : Url) (ps : List Str) (v : Url)
    (hne : ps ≠ [])                                                    -- at least one argument
    (hps : ∀ p ∈ ps, PyStr p ∧ NoSurrogate p)                          -- model artefact; "lone surrogates … excepted"
    (hnd : u.netloc ≠ [] → NoDots (splitOn 47 u.path) ∧ ∀ p ∈ ps, NoDots (splitOn 47 p))  -- "dot segments under an authority excepted" (old path: GAPS 9)
    (hq : u.netloc ≠ [] → u.path = [] → ∃ p ∈ ps, p ≠ [])              -- not all arguments empty on an empty path under an authority
    (hpath : u.netloc ≠ [] → (u.path = [] ∨ u.path.head? = some 47)) : -- old path empty or rooted under an authority (GAPS 9)
    makeChild e u ps false = .ok v →
      makeChild e u [joinC 47 (argSegs e true ps)] false = .ok v ∧
      pathDecoded e v =
        (if u.path = [] then (if u.netloc = [] then joinC 47 (argSegs e true ps) else 47 :: joinC 47 (argSegs e true ps))
         else (if u.path.getLast? = some 47 then (pathDecoded e u).dropLast else pathDecoded e u) ++
           47 :: joinC 47 (argSegs e true ps)) ∧
      partsDecoded e v = (stripTrail (rawParts u)).map (uq e Gen.UNQUOTER) ++ argSegs e true ps ∧
      name e v = .ok ((argSegs e true ps).getLast?.getD []) :=
  C06_joinpath_path_readback e u ps v hne hps hnd hq hpath

/-- GAPS 9: the two side conditions on the OLD url of the `/` / joinpath read-back theorems hold for EVERY URL
    reachable through the auto-encoding API: under an authority its stored path has no dot segment and is empty or
    rooted.  Cites C06_reachable_old_path_ok (C06More2.lean; composition with C15_headline_reachable). -/
theorem C06_headline_reachable_old_path_ok (e : Env) (u : Url)
    (hr : ReachC e u) :                                   -- `u` is reachable through the auto-encoding API
    (u.netloc ≠ [] → NoDots (splitOn 47 u.path)) ∧ (u.netloc ≠ [] → (u.path = [] ∨ u.path.head? = some 47)) :=
  C06_reachable_old_path_ok e u hr

/-- GAPS 9, "/ or joinpath" on a REACHABLE URL — only conditions on the ARGUMENTS remain:
    (i) ONE non-empty segment that may contain '.' (not "." / ".." themselves) reads back through `name`;
    (ii) a text with '/' and '.' (no dot SEGMENT under an authority) reads back through `parts`, `name` and `path`.
    Cites C06_reach_child_readback, C06_reach_child_slash_readback (C06More2.lean). -/
theorem C06_headline_child_readback_reachable (e : Env) (u : Url)
    (hr : ReachC e u)                                     -- `u` is reachable through the auto-encoding API
    (s : Str) (v : Url)
    (hs : PyStr s) (hsur : NoSurrogate s) :               -- model artefact; "lone surrogates … excepted"
    (47 ∉ s → s ≠ [] →                                    -- ONE non-empty segment
      s ≠ dot ∧ s ≠ dotdot →                              -- "dot segments … excepted"
      makeChild e u [s] false = .ok v → name e v = .ok s) ∧
    ((u.netloc ≠ [] → NoDots (splitOn 47 s)) →            -- "dot segments under an authority excepted" (the ARGUMENT only)
      (u.netloc ≠ [] → u.path = [] → s ≠ []) →            -- "http://h" / "" is excluded (the result path would be "/")
      makeChild e u [s] false = .ok v →
        partsDecoded e v = (stripTrail (rawParts u)).map (uq e Gen.UNQUOTER) ++ splitOn 47 s ∧
        name e v = .ok ((splitOn 47 s).getLast?.getD []) ∧
        pathDecoded e v =
          (if u.path = [] then (if u.netloc = [] then s else 47 :: s)
           else (if u.path.getLast? = some 47 then (pathDecoded e u).dropLast else pathDecoded e u) ++ 47 :: s)) :=
  ⟨fun h47 hne hdot => C06_reach_child_readback e u hr s v hs hsur h47 hne hdot,
   fun hnd hq => C06_reach_child_slash_readback e u hr s v hs hsur hnd hq⟩

/-- GAPS 9 + GAPS 6, "joinpath" with several arguments on a REACHABLE URL: `parts`, `name` and `path`.
    Cites C06_reach_joinpath_readback (C06More2.lean). -/
theorem C06_headline_joinpath_readback_reachable (e : Env) (u : Url)
    (hr : ReachC e u)                                     -- `u` is reachable through the auto-encoding API
    (ps : List Str) (v : Url)
    (hne : ps ≠ [])                                       -- at least one argument
    (hps : ∀ p ∈ ps, PyStr p ∧ NoSurrogate p)             -- model artefact; "lone surrogates … excepted"
    (hnd : u.netloc ≠ [] → ∀ p ∈ ps, NoDots (splitOn 47 p))   -- "dot segments under an authority excepted" (the ARGUMENTS only)
    (hq : u.netloc ≠ [] → u.path = [] → ∃ p ∈ ps, p ≠ []) :   -- not all arguments empty on an empty path under an authority
    makeChild e u ps false = .ok v →
      partsDecoded e v = (stripTrail (rawParts u)).map (uq e Gen.UNQUOTER) ++ argSegs e true ps ∧
      name e v = .ok ((argSegs e true ps).getLast?.getD []) ∧
      pathDecoded e v =
        (if u.path = [] then (if u.netloc = [] then joinC 47 (argSegs e true ps) else 47 :: joinC 47 (argSegs e true ps))
         else (if u.path.getLast? = some 47 then (pathDecoded e u).dropLast else pathDecoded e u) ++
           47 :: joinC 47 (argSegs e true ps)) :=
  C06_reach_joinpath_readback e u hr ps v hne hps hnd hq

end JoinHeadline

/-! ## Sentence 2 — "build()" — the decoded `host` and the IDNA oracle (GAPS 10) -/

/-- GAPS 10: PRECISELY when `URL.host` is computed without the IDNA oracle, for an ASCII raw host: (a) last character a
    digit and no "xn--", or a ':' inside → `host` IS the raw host, whatever the oracles are; (b) otherwise `host` is
    the answer of `_idna_decode` — consulted for EVERY other name, with or without "xn--" ("example.com" too): with no
    table entry the model reports the miss, and for any answer `r` of the IDNA decoder `host` is `r`.
    Cites C06_host_oracle_use (C06More2.lean). -/
theorem C06_headline_host_oracle_use (e : Env) (u : Url) (raw : Str)
    (hraw : rawHost e u = .ok (some raw))                 -- `raw` = `url.raw_host`
    (hasc : isAscii raw = true) :                         -- it is ASCII (true of every encoded host)
    ((((∃ l, raw.getLast? = some l ∧ isDigitC l = true) ∧ hasSub [120, 110, 45, 45] raw = false) ∨ 58 ∈ raw) →
      host e u = .ok (some raw)) ∧
    (¬ (((∃ l, raw.getLast? = some l ∧ isDigitC l = true) ∧ hasSub [120, 110, 45, 45] raw = false) ∨ 58 ∈ raw) →
      host e u = (idnaDecode e.o raw).map some ∧
      (e.o.idnaDec raw = none → host e u = .error (.oracleMiss "idnaDec" raw)) ∧
      (∀ r, e.o.idnaDec raw = some (some r) → host e u = .ok (some r))) :=
  C06_host_oracle_use e u raw hraw hasc

/-- GAPS 10: C06_headline_build_host_readback (i) WITHOUT any oracle hypothesis, for the names where `URL.host`
    consults no oracle: `build(host=x)` for an ASCII registered name `x` that ENDS IN A DIGIT and has no "xn--" (any
    letter case; e.g. "Srv-01", "Node.K8S", "h1"): `raw_host` and `host` are `x` lower-cased.
    Cites C06_build_host_readback_no_oracle (C06More2.lean). -/
theorem C06_headline_build_host_readback_no_oracle (e : Env) (a : BuildArgs) (v : Url) (h : build e a = .ok v)
    (henc : a.encoded = false)      -- auto-encoding mode
    (hauth : a.authority = [])      -- `host=`, not `authority=` (that one: C06_headline_build_authority_host_readback)
    (hasc : isAscii a.host = true)                                        -- an ASCII name
    (hnip : parseIP (partition 37 a.host).1 = none)                       -- the text is not an IP literal
    (hd : ∃ l, a.host.getLast? = some l ∧ isDigitC l = true)              -- it ends in a digit
    (hx : hasSub [120, 110, 45, 45] (lower a.host) = false) :             -- no "xn--" (in any letter case)
    rawHost e v = .ok (some (lower a.host)) ∧ host e v = .ok (some (lower a.host)) :=
  C06_build_host_readback_no_oracle e a v h henc hauth hasc hnip hd hx

/-- GAPS 10: for EVERY other ASCII registered name (not ending in a digit, or containing "xn--") the decoded `host` of
    `build(host=x)` is whatever `_idna_decode` answers for the lower-cased name: the read-back (of the lower-cased name)
    holds IF AND ONLY IF that answer is the name itself — the oracle hypothesis of C06_headline_build_host_readback (i)
    cannot be dropped or weakened.  Cites C06_build_host_readback_iff_oracle (C06More2.lean). -/
theorem C06_headline_build_host_readback_iff_oracle (e : Env) (a : BuildArgs) (v : Url) (h : build e a = .ok v)
    (henc : a.encoded = false) (hauth : a.authority = []) (hhost : a.host ≠ [])   -- `build(host=x)`, auto-encoding mode
    (hasc : isAscii a.host = true)                                                -- an ASCII name
    (hnip : parseIP (partition 37 a.host).1 = none ∨                              -- not an IP literal
      (58 ∉ a.host ∧ ∀ l, a.host.getLast? = some l → isDigitC l = false))
    (hor : (∀ l, (lower a.host).getLast? = some l → isDigitC l = false) ∨         -- the case: `URL.host` consults the decoder
      hasSub [120, 110, 45, 45] (lower a.host) = true) :
    host e v = (idnaDecode e.o (lower a.host)).map some ∧
    (host e v = .ok (some (lower a.host)) ↔ idnaDecode e.o (lower a.host) = .ok (lower a.host)) :=
  C06_build_host_readback_iff_oracle e a v h henc hauth hhost hasc hnip hor

/-- GAPS 10: concrete oracles for which the read-back through `host` FAILS.  (a) names WITH "xn--" — the library's REAL
    behaviour, not hypothetical (`R2.oIdna` answers what the `idna` package answers):
    `URL.build(host="XN--Bcher-KVA.de").host == "bücher.de"` while `raw_host` is the lower-cased A-label
    "xn--bcher-kva.de" — "reads back unchanged" through the DECODED `host` is false for A-labels (`host` is not in the
    property's list of accessors); (b) names WITHOUT "xn--" not ending in a digit: with a HYPOTHETICAL decoder
    (`R2.oUp`) answering "EXAMPLE.COM" for "example.com", `build(host="Example.COM").host` is "EXAMPLE.COM"; with no
    answer at all the model reports the oracle miss — `host` DOES consult the decoder for "example.com".
    Cites C06_build_host_readback_fails_for_oracle (C06More2.lean). -/
theorem C06_headline_build_host_readback_fails_for_oracle (b : Backend) :
    (∃ v, build ⟨b, oIdna⟩ { host := "XN--Bcher-KVA.de".toStr } = .ok v ∧
      rawHost ⟨b, oIdna⟩ v = .ok (some "xn--bcher-kva.de".toStr) ∧
      host ⟨b, oIdna⟩ v = .ok (some [98, 252, 99, 104, 101, 114, 46, 100, 101]) ∧
      host ⟨b, oIdna⟩ v ≠ .ok (some "xn--bcher-kva.de".toStr)) ∧
    (∃ v, build ⟨b, oUp⟩ { host := "Example.COM".toStr } = .ok v ∧
      rawHost ⟨b, oUp⟩ v = .ok (some "example.com".toStr) ∧
      host ⟨b, oUp⟩ v = .ok (some "EXAMPLE.COM".toStr) ∧ host ⟨b, oUp⟩ v ≠ .ok (some "example.com".toStr)) ∧
    (∃ v, build ⟨b, Oracles.empty⟩ { host := "Example.COM".toStr } = .ok v ∧
      host ⟨b, Oracles.empty⟩ v = .error (.oracleMiss "idnaDec" "example.com".toStr)) :=
  C06_build_host_readback_fails_for_oracle b

/-! ## non-vacuity -/

/-- `URL.build(scheme="HTTP", authority="us%41er:p%40 w:@x@Example.COM:8080")` (witnesses `R2.exAuth`, `R2.exAuthUrl`,
    `R2.exAuthNp` of C06More2.lean; upper-case scheme and host, '%' ' ' ':' '@' in the userinfo, a port): the
    hypotheses of C06_headline_build_authority_readback hold, user / password read back verbatim. -/
example (b : Backend) :
    user ⟨b, Oracles.empty⟩ exAuthUrl = .ok (some "us%41er".toStr) ∧
    password ⟨b, Oracles.empty⟩ exAuthUrl = .ok (some "p%40 w:@x".toStr) := by
  obtain ⟨sc, r, _, _, _, _, _, _, _, _, h9, h10, _⟩ :=
    C06_headline_build_authority_readback ⟨b, Oracles.empty⟩ exAuth exAuthUrl (exAuth_ok b) rfl (by decide +kernel) exAuthNp
      "Example.COM".toStr exAuth_split rfl exAuth_host (by decide +kernel)
  exact ⟨h9 (by intro s hs; cases hs; decide +kernel), h10 (by intro s hs; cases hs; decide +kernel)⟩

/-- `build(query="a=%41+b&&c&=d&e=f=g")`: a string query with '%', '+', empty pieces, an empty key, '=' in a value -/
example (b : Backend) (v : Url)
    (h : build ⟨b, Oracles.empty⟩ { query := .str "a=%41+b&&c&=d&e=f=g".toStr } = .ok v) :
    queryPairs v = [("a".toStr, "%41 b".toStr), ("c".toStr, []), ([], "d".toStr), ("e".toStr, "f=g".toStr)] := by
  rw [((C06_headline_build_query_str_readback _ _ v h).1 "a=%41+b&&c&=d&e=f=g".toStr rfl (by decide +kernel) (by decide +kernel)
    (by decide +kernel)).2.1]
  str_lits; decide +kernel

/-- `URL("http://h/x/./y/../z/") / "a.b/c d"`: a reachable URL (constructor result `R2.uR`), no side condition on it -/
example (v : Url) (h : makeChild e0 uR ["a.b/c d".toStr] false = .ok v) :
    pathDecoded e0 v = "/x/z/a.b/c d".toStr := by
  have := ((C06_headline_child_readback_reachable e0 uR (ReachC.ctor _ uR (by decide +kernel) uR_ok) "a.b/c d".toStr v
    (by decide +kernel) (by decide +kernel)).2 (by intro _; unfold PathLemmas.NoDots; decide +kernel) (by intro _ _; decide +kernel) h).2.2
  rw [this]
  str_lits; decide +kernel

/-- "Srv-01" ends in a digit and has no "xn--": `host` without any oracle -/
example (b : Backend) (v : Url) (h : build ⟨b, Oracles.empty⟩ { host := "Srv-01".toStr } = .ok v) :
    host ⟨b, Oracles.empty⟩ v = .ok (some "srv-01".toStr) :=
  (C06_headline_build_host_readback_no_oracle _ _ v h rfl rfl (by decide +kernel) (by decide +kernel)
    ⟨49, by decide +kernel, by decide +kernel⟩ (by decide +kernel)).2

end Yarl
