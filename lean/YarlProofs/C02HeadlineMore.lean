import YarlProofs.C02Headline
import YarlProofs.C07More
import YarlProofs.C12More
import YarlProofs.C01Str
/-!
  C02HeadlineMore.lean — AUDIT LAYER for property C02, continuation of C02Headline.lean (the theorems here need
  C07More.lean, which imports C02Headline.lean, and C12More.lean / C01Str.lean; it is imported by
  Lemmas/MeanMore.lean — hence by C02More.lean — so the headline theorems that cite C02More.lean are in the second
  continuation C02HeadlineMore2.lean).

  C02 | Canonicalisation never changes what a URL means |
  "Auto-encoding preserves every decoded value: percent-decoding the canonical user, password, each path
  segment, each query key and value, and the fragment yields exactly the bytes obtained by percent-decoding
  (as UTF-8) the text that was supplied. Delimiter status is preserved too: an encoded '/' inside a path
  segment and encoded '&', '=', '+', ';' inside a query stay encoded, literal ones stay literal, so the number
  and boundaries of path segments and query pairs never change."

  What is here: the URL-LEVEL forms for the auto-encoding constructor `URL(s)` that C02Headline.lean had only at
  quoter level (its GAPS 1, 2), the clause "each query key and value" in terms of the library's own parser
  `parse_qsl` (GAPS 4), and the first URL-level modifier statement (with_user / with_password, part of GAPS 3).

  Vocabulary (nothing new is defined in this file).  `splitUrl e.o s = .ok p`: `p` is the five-part split of the
  supplied text (`p.netloc`, `p.path`, `p.query`, `p.fragment` are "the text that was supplied" for each component).
  `Rfc.authoritySplit n` (C07More.lean): the independent RFC reading of an authority — `.user` = text before the first
  ':' of the userinfo (`none` without '@'), `.password` = text after it (`none` without ':'), split at the LAST '@'.
  `orNone x` = `None` for the empty string (the library's `or None`).  `q e a s` = `a.run e.b s`.
  `pctDecode` / `pctDecodeQs` / `btoks`: as in C02Headline.lean.  `parseQsl`: the model of
  `urllib.parse.parse_qsl(keep_blank_values=True, errors='replace')` the `query` accessor uses; `queryPairs u` =
  `parseQsl u.query` (by definition, C06_headline_query_accessor).
-/
namespace Yarl
open OutLangLemmas QsLemmas WfLemmas TokLemmas StrAscii

/-! ## Sentence 1 — "percent-decoding the canonical user, password, each path segment, each query key and value …
    yields exactly the bytes obtained by percent-decoding (as UTF-8) the text that was supplied" — URL level -/

/-- "… the canonical user, password …" for the auto-encoding CONSTRUCTOR (closes GAPS 1 of C02Headline.lean):
    `raw_user` / `raw_password` of `URL(s)` never raise, exist exactly when the supplied authority has a non-empty
    user / a password (`np.user`, `np.password`: what `split_netloc` reads = the RFC split of the supplied authority),
    and percent-decode to the same bytes as the supplied user / password.
    Cites C02_encodeUrl_userinfo_decode (C07More.lean). -/
theorem C02_headline_constructor_user_password (e : Env) (s : Str)
    (hs : PyStr s)          -- model artefact: `Str` also has code points > 0x10FFFF
    (hn : NoSurrogate s)    -- lone surrogates are dropped before escapes are read (GAPS 5,
                            --   `C02_headline_decoded_value_fails_for_lone_surrogate_in_escape` in C02Headline.lean)
    (u : Url) (h : encodeUrl e s = .ok u) :
    ∃ (p : Parts) (np : NetlocParts) (ru rp : Option Str), splitUrl e.o s = .ok p ∧
      splitNetloc e.o p.netloc = .ok np ∧
      np.user = (Rfc.authoritySplit p.netloc).user.bind orNone ∧
      np.password = (Rfc.authoritySplit p.netloc).password ∧
      rawUser e u = .ok ru ∧ rawPassword e u = .ok rp ∧
      ru.map pctDecode = np.user.map pctDecode ∧
      rp.map pctDecode = np.password.map pctDecode :=
  C02_encodeUrl_userinfo_decode e s hs hn u h

/-- "… each path segment …" for the CONSTRUCTOR (closes GAPS 2, path half): when the URL has no authority (no
    dot-segment removal then) or no '/'-segment of the supplied path percent-decodes to "." or ".." ("%2E%2e" counts),
    the '/'-segments of the stored path are the requoted segments of the supplied path one for one — equally many, and
    the i-th stored segment percent-decodes to what the i-th supplied one decodes to.
    Cites C02_encodeUrl_segments (C07More.lean). -/
theorem C02_headline_constructor_path_segments (e : Env) (s : Str)
    (hs : PyStr s) (hn : NoSurrogate s)     -- as above
    (u : Url) (h : encodeUrl e s = .ok u) :
    ∃ p : Parts, splitUrl e.o s = .ok p ∧
      -- guard: dot segments are REMOVED under an authority (property C15), which changes the number of segments:
      -- `C02_headline_constructor_path_segments_fails_for_dot_segments`
      ((u.netloc = [] ∨ ∀ sg ∈ splitOn 47 p.path, pctDecode sg ≠ [46] ∧ pctDecode sg ≠ [46, 46]) →
        splitOn 47 u.path = (splitOn 47 p.path).map (q e Gen.PATH_REQUOTER) ∧
        (splitOn 47 u.path).length = (splitOn 47 p.path).length ∧
        (splitOn 47 u.path).map pctDecode = (splitOn 47 p.path).map pctDecode ∧
        ∀ i : Nat, ((splitOn 47 u.path)[i]?).map pctDecode = ((splitOn 47 p.path)[i]?).map pctDecode) :=
  C02_encodeUrl_segments e s hs hn u h

/-- the dot-segment guard is needed and must be about DECODED segments: 'http://a/b/../c' and 'http://a/b/%2E%2e/c'
    supply four '/'-segments, the stored path "/c" has two (dot-segment removal, property C15 — intended behaviour,
    not a finding; "the number … of path segments never change[s]" is to be read modulo C15).
    Cites C02_encodeUrl_segments_needs_no_dots. -/
theorem C02_headline_constructor_path_segments_fails_for_dot_segments :
    let e : Env := ⟨.py, Oracles.empty⟩
    (encodeUrl e "http://a/b/../c".toStr).map (·.path) = .ok "/c".toStr ∧
    (encodeUrl e "http://a/b/%2E%2e/c".toStr).map (·.path) = .ok "/c".toStr ∧
    (splitOn 47 "/b/../c".toStr).length = 4 ∧ (splitOn 47 "/b/%2E%2e/c".toStr).length = 4 ∧
    (splitOn 47 "/c".toStr).length = 2 :=
  C02_encodeUrl_segments_needs_no_dots

/-- "… each query key and value …" for the CONSTRUCTOR (closes GAPS 2, query half; no side condition — nothing is
    removed from a query): the '&'-pieces of the stored query are the requoted '&'-pieces of the supplied query one for
    one; inside the i-th piece the split at the first '=' gives a key and a value that form-decode to what the supplied
    i-th key and value decode to, and "has no '='" is kept.  (The triple is `C02_pairView` of C07More.lean, written
    out.)  Cites C02_encodeUrl_pairs (C07More.lean). -/
theorem C02_headline_constructor_query_pairs (e : Env) (s : Str)
    (hs : PyStr s) (hn : NoSurrogate s)     -- as above
    (u : Url) (h : encodeUrl e s = .ok u) :
    ∃ p : Parts, splitUrl e.o s = .ok p ∧
      splitOn 38 u.query = (splitOn 38 p.query).map (q e Gen.QUERY_REQUOTER) ∧
      (splitOn 38 u.query).length = (splitOn 38 p.query).length ∧
      (splitOn 38 u.query).map
          (fun x => (pctDecodeQs (partition 61 x).1, (partition 61 x).2.1, pctDecodeQs (partition 61 x).2.2)) =
        (splitOn 38 p.query).map
          (fun x => (pctDecodeQs (partition 61 x).1, (partition 61 x).2.1, pctDecodeQs (partition 61 x).2.2)) ∧
      ∀ i : Nat,
        ((splitOn 38 u.query)[i]?).map
          (fun x => (pctDecodeQs (partition 61 x).1, (partition 61 x).2.1, pctDecodeQs (partition 61 x).2.2)) =
        ((splitOn 38 p.query)[i]?).map
          (fun x => (pctDecodeQs (partition 61 x).1, (partition 61 x).2.1, pctDecodeQs (partition 61 x).2.2)) :=
  C02_encodeUrl_pairs e s hs hn u h

/-- "… each query key and value …" in terms of the library's OWN parser (closes GAPS 4).  Quoter level: requoting a
    query does not change what `parse_qsl` reads from it.  URL level: the pairs the `query` accessor of `URL(s)` returns
    are the `parse_qsl` pairs of the SUPPLIED query text.  (Escapes that are not valid UTF-8 give U+FFFD on both sides —
    F-C06-query-replace is about that decoding, not about requoting.)
    Cites C12_parseQsl_requote (C12More.lean) + C07_encodeUrl_components (C07More.lean). -/
theorem C02_headline_query_parse_qsl (e : Env) :
    (∀ s, PyStr s → NoSurrogate s → parseQsl (Gen.QUERY_REQUOTER.run e.b s) = parseQsl s) ∧
    (∀ s, PyStr s →
      NoSurrogate s →       -- needed: `C02_headline_query_parse_qsl_fails_for_lone_surrogate`
      ∀ u, encodeUrl e s = .ok u → ∃ p : Parts, splitUrl e.o s = .ok p ∧ queryPairs u = parseQsl p.query) := by
  refine ⟨fun s hs hn => C12_parseQsl_requote e.b s hs hn, fun s hs hn u h => ?_⟩
  obtain ⟨p, hp, _, _, _, hquery, _⟩ := C07_encodeUrl_components e s u h
  obtain ⟨_, _, h3, _⟩ := splitUrl_pyStr e.o s hs p hp
  obtain ⟨_, _, s3, _⟩ := splitUrl_sublist e.o s p hp
  refine ⟨p, hp, ?_⟩
  show parseQsl u.query = parseQsl p.query
  rw [hquery]
  exact C12_parseQsl_requote_q e p.query h3 (noSurr_of_sublist s3 hn)

/-- `NoSurrogate` is needed in the previous theorem: the requoter drops a lone surrogate, the parser keeps it — the key
    '\ud800' of the supplied query '\ud800=1' reads back as ''.  (Same root as GAPS 5; not in KNOWN_FINDINGS.)
    Cites C12_parseQsl_requote_needs_no_surrogate. -/
theorem C02_headline_query_parse_qsl_fails_for_lone_surrogate (b : Backend) :
    parseQsl (Gen.QUERY_REQUOTER.run b [0xD800, 61, 49]) = [([], [49])] ∧
    parseQsl [0xD800, 61, 49] = [([0xD800], [49])] :=
  C12_parseQsl_requote_needs_no_surrogate b

/-! ## Sentence 2 — "Delimiter status is preserved too … so the number and boundaries of path segments and query
    pairs never change" — URL level -/

/-- the constructor's guard on dot-segment removal, as cases: a path `p1` is stored as it is, or — only under an
    authority `nl` and only when `p1` contains a '.' — as `normalize_path p1` -/
theorem dotGuard_cases {up nl p1 : Str}
    (h : up = if (!nl.isEmpty && mem 46 p1) = true then normalizePath p1 else p1) :
    up = p1 ∨ (nl ≠ [] ∧ mem 46 p1 = true ∧ up = normalizePath p1) := by
  rw [h]
  split
  · rename_i hc
    simp only [Bool.and_eq_true, Bool.not_eq_true', List.isEmpty_eq_false_iff] at hc
    exact Or.inr ⟨hc.1, hc.2, rfl⟩
  · exact Or.inl rfl

/-- delimiter status at URL level for the CONSTRUCTOR (closes the rest of GAPS 2): the stored query IS the requoted
    supplied query, so token by token a literal / an encoded '&', '=', ';' (38, 61, 59) of the stored query sits exactly
    where one sits in the supplied query, `%2B` stays `%2B`, and the literal '+' of the stored query are the literal '+'
    and spaces of the supplied one.  The stored path is `p1` or `normalize_path p1` (dot-segment removal, only under an
    authority and only when `p1` contains a '.') for `p1` = the requoted supplied path, whose literal / encoded '/' and
    '+' (47, 43) sit exactly where those of the supplied path sit.  NEW composition of C07_encodeUrl_components
    (C07More.lean) with the quoter-level theorems of C02Headline.lean. -/
theorem C02_headline_constructor_delimiter_status (e : Env) (s : Str)
    (hs : PyStr s) (hn : NoSurrogate s)     -- as above
    (u : Url) (h : encodeUrl e s = .ok u) :
    ∃ p : Parts, splitUrl e.o s = .ok p ∧
      u.query = Gen.QUERY_REQUOTER.run e.b p.query ∧
      (∀ d, d = 38 ∨ d = 61 ∨ d = 59 →
        (btoks u.query).map (fun k => decide (k = .lit d)) = (btoks p.query).map (fun k => decide (k = .lit d)) ∧
        (btoks u.query).map (fun k => decide (k = .esc d)) = (btoks p.query).map (fun k => decide (k = .esc d))) ∧
      (btoks u.query).map (fun k => decide (k = .lit 43)) =
        (btoks p.query).map (fun k => decide (k = .lit 43 ∨ k = .lit 32)) ∧
      (btoks u.query).map (fun k => decide (k = .esc 43)) = (btoks p.query).map (fun k => decide (k = .esc 43)) ∧
      ∃ p1, p1 = Gen.PATH_REQUOTER.run e.b p.path ∧
        (u.path = p1 ∨ (u.netloc ≠ [] ∧ mem 46 p1 = true ∧ u.path = normalizePath p1)) ∧
        ∀ d, d = 47 ∨ d = 43 →
          (btoks p1).map (fun k => decide (k = .lit d)) = (btoks p.path).map (fun k => decide (k = .lit d)) ∧
          (btoks p1).map (fun k => decide (k = .esc d)) = (btoks p.path).map (fun k => decide (k = .esc d)) := by
  obtain ⟨p, hp, _, _, hpath, hquery, _⟩ := C07_encodeUrl_components e s u h
  obtain ⟨_, h2, h3, _⟩ := splitUrl_pyStr e.o s hs p hp
  obtain ⟨_, s2, s3, _⟩ := splitUrl_sublist e.o s p hp
  have n2 := noSurr_of_sublist s2 hn
  have n3 := noSurr_of_sublist s3 hn
  have hq : u.query = Gen.QUERY_REQUOTER.run e.b p.query := hquery
  refine ⟨p, hp, hq, ?_, ?_, ?_, _, rfl, ?_, ?_⟩
  · intro d hd
    rw [hq]
    exact C02_headline_query_delimiter_status e.b d hd p.query h3 n3
  · rw [hq]
    exact (C02_headline_query_plus_status e.b p.query h3 n3).1
  · rw [hq]
    exact (C02_headline_query_plus_status e.b p.query h3 n3).2
  · exact dotGuard_cases hpath
  · intro d hd
    exact C02_headline_path_delimiter_status e.b d hd p.path h2 n2

/-! ## Modifiers — the first URL-level statement (part of GAPS 3) -/

/-- "percent-decoding the canonical user, password … yields exactly the bytes obtained by [UTF-8 encoding] the text that
    was supplied" for `with_user(s)` / `with_password(s)` on a reachable URL, at URL level: whenever the accessors of the
    result answer, `raw_user` is the QUOTER output of `s` (`None` for an empty one) and `raw_password` is the QUOTER
    output of the argument; and QUOTER output percent-decodes to the UTF-8 bytes of its input.  (`ReachS`,
    `HostOracleNoAt`, `UserinfoOK`: C01Str.lean, explained in the header of C01HeadlineMore.lean.)
    Cites C01_with_user_reads_back, C01_with_password_reads_back (C01Str.lean) + C02_gen_decode_QUOTER. -/
theorem C02_headline_with_user_with_password_decoded (e : Env) (Z Sc : Str → Prop) (J : Url → Prop) (u v : Url)
    (ho : HostOracleNoAt e.o)               -- oracle hypothesis: no IDNA answer contains '@' (C01Headline GAPS 7)
    (hJ : ∀ y, J y → UserinfoOK e.b y)      -- model artefact (`UOp.joinRef` references)
    (hreach : ReachS Z Sc J e u) :
    (∀ s, PyStr s → withUser e u (some s) = .ok v →
      ∀ r, rawUser e v = .ok r → r = orNone (q e Gen.QUOTER s)) ∧
    (∀ s, withPassword e u s = .ok v →
      ∀ r, rawPassword e v = .ok r → r = s.map (q e Gen.QUOTER)) ∧
    (∀ s, PyStr s → pctDecode (q e Gen.QUOTER s) = utf8s s) :=
  have hu := C01_reachable_userinfo_ok e Z Sc J u ho hJ hreach
  ⟨fun s hs h => (C01_with_user_reads_back e u v s ho hu hs h).1,
   fun s h => (C01_with_password_reads_back e u v s ho hu h).1,
   fun s hs => C02_gen_decode_QUOTER e.b s hs⟩

/-! ## non-vacuity -/

/-- the sample of C07More.lean (`HtTp://u%41%2f:p%40@[::1]x:8080/b.c/%2e%2e%2e/d?k=v&x%26y=%3d+%2B#f g`) satisfies the
    hypotheses of every constructor theorem above, including the dot-segment guard although its path contains '.'
    under an authority -/
example : PyStr CtorShape.sampleUrl ∧ NoSurrogate CtorShape.sampleUrl ∧
    ∃ u, encodeUrl CtorShape.sampleEnv CtorShape.sampleUrl = .ok u ∧ u.path = "/b.c/.../d".toStr ∧
      u.query = "k=v&x%26y=%3D+%2B".toStr ∧ queryPairs u = parseQsl "k=v&x%26y=%3d+%2B".toStr := by
  have h : PyStr CtorShape.sampleUrl ∧ NoSurrogate CtorShape.sampleUrl ∧
      encodeUrl CtorShape.sampleEnv CtorShape.sampleUrl = .ok
        { scheme := "http".toStr, netloc := "uA%2F:p%40@[::1]:8080".toStr, path := "/b.c/.../d".toStr,
          query := "k=v&x%26y=%3D+%2B".toStr, fragment := "f%20g".toStr,
          pre := some { rawHost := some "::1".toStr, explicitPort := some 8080, rawUser := some "uA%2F".toStr,
                        rawPassword := some "p%40".toStr } } ∧
      splitUrl CtorShape.sampleEnv.o CtorShape.sampleUrl = .ok
        { scheme := "http".toStr, netloc := "u%41%2f:p%40@[::1]x:8080".toStr, path := "/b.c/%2e%2e%2e/d".toStr,
          query := "k=v&x%26y=%3d+%2B".toStr, fragment := "f g".toStr } := by
    unfold CtorShape.sampleUrl; str_lits; decide +kernel
  refine ⟨h.1, h.2.1, _, h.2.2.1, rfl, rfl, ?_⟩
  obtain ⟨p, hp, hq⟩ := (C02_headline_query_parse_qsl CtorShape.sampleEnv).2 _ h.1 h.2.1 _ h.2.2.1
  rw [h.2.2.2] at hp
  cases hp
  exact hq

end Yarl
