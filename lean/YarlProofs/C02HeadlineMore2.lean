import YarlProofs.C02HeadlineMore
import YarlProofs.C02More
/-!
  C02HeadlineMore2.lean — AUDIT LAYER for property C02, second continuation of C02Headline.lean.  (The theorems here
  need C02More.lean; its lemma library Lemmas/MeanMore.lean imports C02HeadlineMore.lean, so they cannot live there.
  This file is a leaf, nobody imports it.)

  C02 | Canonicalisation never changes what a URL means |
  "Auto-encoding preserves every decoded value: percent-decoding the canonical user, password, each path
  segment, each query key and value, and the fragment yields exactly the bytes obtained by percent-decoding
  (as UTF-8) the text that was supplied. Delimiter status is preserved too: an encoded '/' inside a path
  segment and encoded '&', '=', '+', ';' inside a query stay encoded, literal ones stay literal, so the number
  and boundaries of path segments and query pairs never change."

  What is here: the two items of the GAPS block of C02Headline.lean that were still open —
    * GAPS 2, open half: WHICH segments of a supplied path survive dot-segment removal under an authority, and the
      delimiter status pushed through `normalize_path` (`C02_headline_constructor_dot_segment_survivors`, …);
    * GAPS 3: C02 at URL level for `build`, with_user, with_password, with_fragment, with_path, with_name, with_suffix,
      `/` and joinpath, with_query, extend_query, update_query, and `join`.

  Reference value.  The constructor REQUOTES (the supplied text may contain escapes: reference value `pctDecode` of it);
  `build` and the modifiers QUOTE decoded text (reference value `utf8s` of it: a supplied "%2F" is the three characters
  '%', '2', 'F' and is stored as "%252F").

  Vocabulary (Lemmas/MeanMore.lean, C02More.lean; `q e a s` = `a.run e.b s`):
    `C02_isDotSeg sg`       `sg` percent-decodes to "." or ".." (escaped spellings count; constructor only)
    `C02_nonDots L`         the segments of `L` other than "." / "..", in order
    `PathLemmas.trail L`    `[[]]` if the last segment of `L` is "." / "..", else `[]` (the trailing slash of "/a/." = "/a/")
    `C02_Survivors qf L S`  `S = K0.map qf ++ trail L` for a subsequence (`List.Sublist`) `K0` of `C02_nonDots L`
    `NoDots L`              no element of `L` is "." or ".."
    `ensureSlash t`         (Defs.lean) `t` with the '/' with_path puts before a non-empty rootless argument
    `C02_suppliedSegs ps`   the '/'-segments the arguments of joinpath / `/` supply (each argument split at '/', the trailing
                            empty segment of a non-last argument dropped)
    `C02_joinTargetSegs`    the segments of the RFC 3986 §5.2.2 target path of `join`, before dot-segment removal
    `C02_textPairView x`    (key bytes, has '=', value bytes) of one '&'-piece of a query STRING given as decoded text
                            ('+' = space); `C02_pairView x` (C07More.lean) the same for escaped text (form-decoded)
    `C02_PairsStored b R l` the '&'-pieces `l` store exactly the pairs `R`, one piece per pair:
                            `l = R.map (pairText b)`, equal lengths, `l.map C02_pairView = R.map (utf8s key, true, utf8s value)`
    `PathAlg.base u`, `PathAlg.root n L`, `PathAlg.stripTrail`, `PathAlg.fixRoot`: the old segments without a trailing
                            empty one; the root segment "" added under an authority; dropping a trailing ""; restoring a
                            leading '/'
    `QueryUrl.qtext b ps`   "&".join of `QsLemmas.pairText b p` = "QUERY_PART_QUOTER(k)=QUERY_PART_QUOTER(v)"
    `expandItems items`     (QueryUrl.lean) the string pairs a mapping / sequence-of-pairs argument denotes
    `mdUpdate old new`      `MultiDict(old).update(new)` (property C12)
  Hypotheses: `PyStr` (code points ≤ 0x10FFFF: every Python str), `NoSurrogate` (the quoters DROP lone surrogates,
  GAPS 5 of C02Headline.lean; assumed only where a dropped character would change a count or an emptiness test).

  NOT covered (stays in GAPS 3): `build(authority=…)` (its user / password are QUOTER-quoted like `build(user=…)`; stated
  only for the `user=` / `password=` arguments); `encoded=True` calls (nothing is encoded there).
  (Later: user / password of `build(authority=…)` for the supported ASCII host kinds are now in C02HeadlineMore3.lean,
  `C02_headline_build_authority_user_password`; see GAPS 3 of C02Headline.lean.)
-/
namespace Yarl
open MeanMore PathLemmas PathAlg WfLemmas BuildMore QsLemmas QueryUrl StrAscii EntryLemmas

/-! ## Sentence 1 / 2b — "each path segment …", "the number and boundaries of path segments … never change" — the
    CONSTRUCTOR under an authority, paths WITH dot segments (closes GAPS 2, open half) -/

/-- "percent-decoding … each path segment … yields exactly the bytes obtained by percent-decoding … the text that was
    supplied", "an encoded '/' inside a path segment … stay[s] encoded, literal ones stay literal" for `URL(s)` WITH an
    authority, dot segments allowed; `p.path` is the supplied path text:
     * the stored path is `normalize_path` (for a non-empty path: RFC 3986 §5.2.4 `remove_dot_segments`, property C15) of
       the requoted supplied path, whose '/'-segments are the requoted supplied segments one for one; for a rooted path
       the stored segment list is "" followed by `normalize_path_segments` of the requoted supplied segments after the
       root;
     * SURVIVORS: there is a subsequence `K0` (`List.Sublist`: same order, nothing new, nothing duplicated) of the
       supplied segments that do not percent-decode to "." / ".." such that the stored segments are exactly the requoted
       `K0`, followed by ONE empty segment when the last supplied segment is a dot segment (the trailing slash of
       "/a/." = "/a/" — so the stored list is NOT a plain subsequence of the supplied one then: next theorem but one);
     * each survivor is byte for byte the requoted supplied segment and percent-decodes to what that segment decodes to;
     * delimiter status pushed through `normalize_path`: inside every survivor a literal / an encoded '/' or '+' sits
       exactly where it sat in the supplied segment ("%2F" stays "%2F" and never becomes a separator).
    Cites C02_normalized_segments (C02More.lean). -/
theorem C02_headline_constructor_dot_segment_survivors (e : Env) (s : Str)
    (hs : PyStr s)             -- model artefact: `Str` also has code points > 0x10FFFF
    (hn : NoSurrogate s)       -- lone surrogates are dropped before escapes are read (GAPS 5)
    (u : Url) (h : encodeUrl e s = .ok u)
    (hnl : u.netloc ≠ []) :    -- the case: an authority (without one nothing is removed: C02_headline_constructor_path_segments)
    ∃ (p : Parts) (K0 : List Str), splitUrl e.o s = .ok p ∧
      u.path = normalizePath (q e Gen.PATH_REQUOTER p.path) ∧
      (p.path ≠ [] → u.path = Rfc.removeDotSegments (q e Gen.PATH_REQUOTER p.path)) ∧
      splitOn 47 (q e Gen.PATH_REQUOTER p.path) = (splitOn 47 p.path).map (q e Gen.PATH_REQUOTER) ∧
      (∀ r, p.path = 47 :: r →
        splitOn 47 u.path = [] :: normalizePathSegments ((splitOn 47 r).map (q e Gen.PATH_REQUOTER))) ∧
      K0.Sublist ((splitOn 47 p.path).filter (fun sg => !C02_isDotSeg sg)) ∧
      splitOn 47 u.path = K0.map (q e Gen.PATH_REQUOTER) ++
        (if (splitOn 47 p.path).getLast?.any C02_isDotSeg then [[]] else []) ∧
      (K0.map (q e Gen.PATH_REQUOTER)).map pctDecode = K0.map pctDecode ∧
      (∀ sg ∈ K0, ∀ d, d = 47 ∨ d = 43 →
        (btoks (q e Gen.PATH_REQUOTER sg)).map (fun k => decide (k = .lit d)) =
          (btoks sg).map (fun k => decide (k = .lit d)) ∧
        (btoks (q e Gen.PATH_REQUOTER sg)).map (fun k => decide (k = .esc d)) =
          (btoks sg).map (fun k => decide (k = .esc d))) :=
  C02_normalized_segments e s hs hn u h hnl

/-- the same in "subsequence" form.  With `R` = the requoted supplied segments that are no dot segments: the stored
    segment list is a subsequence of `R` followed by one empty segment, and of `R` itself when the last supplied segment
    is no dot segment; NEVER MORE segments are stored than were supplied; every stored segment is empty or IS a requoted
    non-dot supplied segment, with the same decoded bytes.  Cites C02_normalized_segments_sublist. -/
theorem C02_headline_constructor_dot_segment_survivors_sublist (e : Env) (s : Str) (hs : PyStr s) (hn : NoSurrogate s)
    (u : Url) (h : encodeUrl e s = .ok u) (hnl : u.netloc ≠ []) :      -- as above
    ∃ p : Parts, splitUrl e.o s = .ok p ∧
      let R := ((splitOn 47 p.path).filter (fun sg => !C02_isDotSeg sg)).map (q e Gen.PATH_REQUOTER)
      (splitOn 47 u.path).Sublist (R ++ [[]]) ∧
      ((splitOn 47 p.path).getLast?.any C02_isDotSeg = false → (splitOn 47 u.path).Sublist R) ∧
      (splitOn 47 u.path).length ≤ (splitOn 47 p.path).length ∧
      (∀ sg ∈ splitOn 47 u.path, sg = [] ∨ ∃ x ∈ splitOn 47 p.path, C02_isDotSeg x = false ∧
        sg = q e Gen.PATH_REQUOTER x ∧ pctDecode sg = pctDecode x) :=
  C02_normalized_segments_sublist e s hs hn u h hnl

/-- DEVIATION from the plain reading "the stored segments are a subsequence of the non-dot supplied segments": FALSE
    when the supplied path ENDS in a dot segment.  'http://a/b/..' supplies "", "b", ".." and stores "/" = "", "" — the
    second empty segment (the trailing slash RFC 3986 §5.2.4 leaves for "/b/..") is no supplied segment.  Intended
    behaviour (C15), not a defect; it is the `++ [[]]` of the two theorems above.
    Cites C02_normalized_segments_not_plain_sublist. -/
theorem C02_headline_constructor_survivors_not_plain_sublist_for_trailing_dot_segment :
    let e : Env := ⟨.py, Oracles.empty⟩
    (encodeUrl e "http://a/b/..".toStr).map (·.path) = .ok "/".toStr ∧
    splitOn 47 "/".toStr = [[], []] ∧
    ((splitOn 47 "/b/..".toStr).filter (fun sg => !C02_isDotSeg sg)).map (q e Gen.PATH_REQUOTER) = [[], "b".toStr] ∧
    ¬ ([[], []] : List Str).Sublist [[], "b".toStr] :=
  C02_normalized_segments_not_plain_sublist

/-! ## `URL.build(...)` (encoded=False) — closes GAPS 3 for build.  The supplied texts are DECODED texts: the reference
    value of a component is the UTF-8 encoding `utf8s` of the supplied text. -/

/-- "percent-decoding the canonical user, password … yields exactly the bytes … [of] the text that was supplied" for
    `build(user=, password=, host=)`: `raw_user` / `raw_password` of the result are the QUOTER output of the supplied
    texts (an absent or empty user is `None`; an empty password stays ""), and percent-decode to their UTF-8 bytes.
    Cites C02_build_user_password. -/
theorem C02_headline_build_user_password (e : Env) (a : BuildArgs) (v : Url) (h : build e a = .ok v)
    (henc : a.encoded = false)      -- auto-encoding mode
    (hauth : a.authority = [])      -- `authority=` is NOT covered (GAPS 3)
    (hhost : a.host ≠ [])           -- without `host=` no authority is stored: user= / password= are silently dropped
    (hu : ∀ s, a.user = some s → PyStr s ∧ NoSurrogate s)   -- a user made of lone surrogates only quotes to "" = no user
    (hpw : ∀ s, a.password = some s → PyStr s) :
    ∃ ru rp, rawUser e v = .ok ru ∧ rawPassword e v = .ok rp ∧
      ru = (a.user.bind orNone).map (q e Gen.QUOTER) ∧ rp = a.password.map (q e Gen.QUOTER) ∧
      ru.map pctDecode = (a.user.bind orNone).map utf8s ∧ rp.map pctDecode = a.password.map utf8s :=
  C02_build_user_password e a v h henc hauth hhost hu hpw

/-- "each path segment", "the number and boundaries of path segments" for `build(path=t)`.  With `L` the '/'-segments
    of the supplied text and `qf` = PATH_QUOTER:
     * (delimiter status) a literal '/' of the supplied text stays a separator and no other is written — the quoted text
       splits into the quoted segments, none of which contains a '/' — and every quoted segment percent-decodes to the
       UTF-8 bytes of the supplied one;
     * the stored path is the quoted text, its segments the quoted supplied segments one for one — without an authority
       always, and with one whenever no supplied segment is "." or "..";
     * otherwise (authority and dot segments) it is `normalize_path` of the quoted text and the stored segments are the
       survivors (`C02_Survivors`) of the supplied ones.
    Cites C02_build_path. -/
theorem C02_headline_build_path (e : Env) (a : BuildArgs) (v : Url) (h : build e a = .ok v)
    (henc : a.encoded = false)                            -- auto-encoding mode
    (hp : PyStr a.path) (hn : NoSurrogate a.path) :      -- model artefact; lone surrogates are dropped (GAPS 5)
    let qf := q e Gen.PATH_QUOTER
    let L := splitOn 47 a.path
    splitOn 47 (qf a.path) = L.map qf ∧
    (∀ sg ∈ L, pctDecode (qf sg) = utf8s sg ∧ 47 ∉ qf sg) ∧
    ((v.path = qf a.path ∧ splitOn 47 v.path = L.map qf) ∨
      (v.netloc ≠ [] ∧ v.path = normalizePath (qf a.path) ∧ C02_Survivors qf L (splitOn 47 v.path))) ∧
    ((v.netloc = [] ∨ NoDots L) → v.path = qf a.path ∧ splitOn 47 v.path = L.map qf ∧
      (splitOn 47 v.path).map pctDecode = L.map utf8s) :=
  C02_build_path e a v h henc hp hn

/-- "each query key and value", "the number and boundaries of … query pairs" for `build(query_string=t)` and
    `build(query=<sequence of pairs or mapping>)`.
    STRING: the stored query is QUERY_QUOTER(t); '&' and '=' of the supplied STRING stay separators — the '&'-pieces of
    the stored query are the quoted supplied pieces one for one, and piece by piece the key, "has '='" and the value have
    the bytes of the supplied ones ('+' = space on both sides, `C02_textPairView`).
    PAIRS / MAPPING denoting the string pairs `ps` (`expandItems`: list values of a mapping expanded, ints rendered by
    `str()`): the stored query has exactly ONE '&'-piece per supplied pair — '&', '=', ';' inside a supplied key or value
    are escaped — and the i-th piece is "key=value" with the bytes of the i-th supplied key and value.
    Cites C02_build_query_string, C02_build_query_pairs. -/
theorem C02_headline_build_query (e : Env) (a : BuildArgs) (v : Url) (h : build e a = .ok v) :
    (a.encoded = false → qargTruthy a.query = false → PyStr a.queryString →
      v.query = Gen.QUERY_QUOTER.run e.b a.queryString ∧
      splitOn 38 v.query = (splitOn 38 a.queryString).map (Gen.QUERY_QUOTER.run e.b) ∧
      (splitOn 38 v.query).length = (splitOn 38 a.queryString).length ∧
      (splitOn 38 v.query).map C02_pairView = (splitOn 38 a.queryString).map C02_textPairView ∧
      pctDecodeQs v.query = utf8s (plusToSpace a.queryString)) ∧
    (∀ (items : List (Str × QItem)) (ps : List (Str × Str)),
      (a.query = .mapping items ∨ (a.query = .pairs items ∧ SingleValued items)) → items ≠ [] →
      expandItems items = some ps → (∀ p ∈ ps, PyStr p.1 ∧ PyStr p.2) →
      v.query = qtext e.b ps ∧
      (ps ≠ [] →
        splitOn 38 v.query = ps.map (pairText e.b) ∧
        (splitOn 38 v.query).length = ps.length ∧
        (splitOn 38 v.query).map C02_pairView = ps.map (fun p => (utf8s p.1, true, utf8s p.2)))) :=
  ⟨fun henc hq hp => C02_build_query_string e a v h henc hq hp,
   fun items ps hq hne hx hp => C02_build_query_pairs e a v h items ps hq hne hx hp⟩

/-- "… and the fragment" for `build(fragment=t)`: the stored fragment is FRAGMENT_QUOTER(t) and percent-decodes to the
    UTF-8 bytes of `t`.  Cites C02_build_fragment. -/
theorem C02_headline_build_fragment (e : Env) (a : BuildArgs) (v : Url) (h : build e a = .ok v)
    (henc : a.encoded = false) (hp : PyStr a.fragment) :
    v.fragment = q e Gen.FRAGMENT_QUOTER a.fragment ∧ pctDecode v.fragment = utf8s a.fragment :=
  C02_build_fragment e a v h henc hp

/-! ## with_user, with_password, with_fragment, with_path — closes GAPS 3 for these -/

/-- "percent-decoding the canonical user, password …" for `with_user(s)` / `with_password(s)` on a URL satisfying the
    user-info invariant `UserinfoOK` (every reachable URL does: `C01_reachable_userinfo_ok`, used in
    C02_headline_with_user_with_password_decoded, C02HeadlineMore.lean): whenever the accessor of the result answers,
    `raw_user` is the QUOTER output of `s` (`None` for an empty one) and percent-decodes ("" for `None`) to the UTF-8
    bytes of `s`; `raw_password` is the QUOTER output of the argument and decodes to its UTF-8 bytes (`None` stays
    `None`); the OTHER of the two is the old one; path, query and fragment are untouched byte for byte.
    Cites C02_with_user, C02_with_password. -/
theorem C02_headline_with_user_with_password (e : Env) (u v : Url)
    (ho : HostOracleNoAt e.o)        -- oracle hypothesis: no IDNA answer contains '@' (C01Headline GAPS 7)
    (hu : UserinfoOK e.b u) :        -- the invariant (C01Str.lean); holds for every reachable URL
    (∀ s, PyStr s → withUser e u (some s) = .ok v →
      (∀ r, rawUser e v = .ok r → r = orNone (q e Gen.QUOTER s) ∧ pctDecode (r.getD []) = utf8s s) ∧
      (∀ r, rawPassword e v = .ok r → rawPassword e u = .ok r) ∧
      v.path = u.path ∧ v.query = u.query ∧ v.fragment = u.fragment) ∧
    (∀ s : Option Str, (∀ x, s = some x → PyStr x) → withPassword e u s = .ok v →
      (∀ r, rawPassword e v = .ok r → r = s.map (q e Gen.QUOTER) ∧ r.map pctDecode = s.map utf8s) ∧
      (∀ r, rawUser e v = .ok r → ∃ r0, rawUser e u = .ok r0 ∧ r = r0.bind orNone) ∧
      v.path = u.path ∧ v.query = u.query ∧ v.fragment = u.fragment) :=
  ⟨fun s hs h => C02_with_user e u v s ho hu hs h, fun s hs h => C02_with_password e u v s ho hu hs h⟩

/-- "… and the fragment" for `with_fragment(s)`: the stored fragment is FRAGMENT_QUOTER(s) and percent-decodes to the
    UTF-8 bytes of `s` (`None` clears it); everything else is untouched byte for byte.  Cites C02_with_fragment. -/
theorem C02_headline_with_fragment (e : Env) (u : Url) (f : Option Str) (hf : ∀ s, f = some s → PyStr s) :
    let v := withFragment e u f
    v.fragment = (f.map (q e Gen.FRAGMENT_QUOTER)).getD [] ∧ pctDecode v.fragment = (f.map utf8s).getD [] ∧
    v.scheme = u.scheme ∧ v.netloc = u.netloc ∧ v.path = u.path ∧ v.query = u.query :=
  C02_with_fragment e u f hf

/-- "each path segment", "the number and boundaries of path segments" for `with_path(t)`.  `T` = the supplied text with
    the '/' `with_path` puts in front of a non-empty rootless one (`ensureSlash`), `L` its '/'-segments, `qf` =
    PATH_QUOTER:
     * (delimiter status) a literal '/' in the argument stays a separator and none is added: the quoted text splits into
       the quoted segments, no quoted segment contains a '/', each percent-decodes to the UTF-8 bytes of the supplied
       segment (a supplied "%2F" is the TEXT "%2F": it is stored as "%252F");
     * the stored path is the quoted text, its segments the quoted supplied ones one for one — always without an
       authority, and with one whenever no supplied segment is "." / "..";
     * otherwise it is `normalize_path` of the quoted text and the stored segments are the survivors of the supplied ones.
    Cites C02_with_path. -/
theorem C02_headline_with_path (e : Env) (u : Url) (t : Str) (kq kf : Bool)
    (ht : PyStr t) (hn : NoSurrogate t) :      -- model artefact; lone surrogates are dropped (GAPS 5)
    let v := withPath e u t false kq kf
    let qf := q e Gen.PATH_QUOTER
    let T := ensureSlash t
    let L := splitOn 47 T
    splitOn 47 (qf T) = L.map qf ∧
    (∀ sg ∈ L, pctDecode (qf sg) = utf8s sg ∧ 47 ∉ qf sg) ∧
    ((v.path = qf T ∧ splitOn 47 v.path = L.map qf) ∨
      (u.netloc ≠ [] ∧ v.path = normalizePath (qf T) ∧ C02_Survivors qf L (splitOn 47 v.path))) ∧
    ((u.netloc = [] ∨ NoDots L) → v.path = qf T ∧ splitOn 47 v.path = L.map qf ∧
      (splitOn 47 v.path).map pctDecode = L.map utf8s) ∧
    v.netloc = u.netloc ∧ v.scheme = u.scheme :=
  C02_with_path e u t kq kf ht hn

/-! ## with_name, with_suffix — closes GAPS 3 for these -/

/-- "an encoded '/' inside a path segment … the number … of path segments never change[s]" for `with_name(nm)` and
    `with_suffix(x)`.
    with_name: a '/' in the argument is REJECTED (a name is ONE segment); the last raw part of the result is
    PATH_QUOTER(nm) — one segment, without '/', percent-decoding to the UTF-8 bytes of `nm`; the OTHER raw parts are the
    old ones byte for byte (all but the old name; all of them when the URL had an authority and only the root part), so
    the number of segments does not change; authority untouched.
    with_suffix: with `n` the old raw name, `old` its raw suffix and `stem` = `n` without `old`, the raw name of the
    result is `stem ++ PATH_QUOTER(x)`: the stem is kept byte for byte, the new suffix is one piece without '/' (a '/' in
    `x` is rejected) that percent-decodes to the UTF-8 bytes of `x`, and the decoded name is the decoded stem followed by
    those bytes; all other raw parts and the authority are untouched.
    Cites C02_with_name_rejects_slash, C02_with_name, C02_with_suffix. -/
theorem C02_headline_with_name_with_suffix (e : Env) (u : Url) (kq kf : Bool) (v : Url) :
    (∀ nm, 47 ∈ nm → withName e u nm kq kf = .error .valueError) ∧
    (∀ nm, PyStr nm → withName e u nm kq kf = .ok v →
      47 ∉ nm ∧ 47 ∉ q e Gen.PATH_QUOTER nm ∧ pctDecode (q e Gen.PATH_QUOTER nm) = utf8s nm ∧
      rawName v = .ok (q e Gen.PATH_QUOTER nm) ∧
      (rawParts v).dropLast = (if u.netloc ≠ [] ∧ (rawParts u).length = 1 then rawParts u else (rawParts u).dropLast) ∧
      v.scheme = u.scheme ∧ v.netloc = u.netloc ∧
      v.query = (if kq then u.query else []) ∧ v.fragment = (if kf then u.fragment else [])) ∧
    (∀ x, PyStr x → withSuffix e u x kq kf = .ok v →
      ∃ n old, rawName u = .ok n ∧ rawSuffix u = .ok old ∧
        let stem := n.take (n.length - old.length)
        n = stem ++ old ∧ 47 ∉ x ∧ 47 ∉ q e Gen.PATH_QUOTER x ∧
        rawName v = .ok (stem ++ q e Gen.PATH_QUOTER x) ∧
        pctDecode (q e Gen.PATH_QUOTER x) = utf8s x ∧
        pctDecode (stem ++ q e Gen.PATH_QUOTER x) = pctDecode stem ++ utf8s x ∧
        (rawParts v).dropLast = (rawParts u).dropLast ∧ v.scheme = u.scheme ∧ v.netloc = u.netloc) :=
  ⟨fun nm h => C02_with_name_rejects_slash e u nm kq kf h,
   fun nm hnm h => C02_with_name e u nm kq kf v hnm h,
   fun x hx h => C02_with_suffix e u x kq kf v hx h⟩

/-! ## `/` and joinpath (`_make_child`, encoded=False) — closes GAPS 3 for these.  `u / s` is `makeChild e u [s] false`. -/

/-- "each path segment", "the number and boundaries of path segments" for `joinpath(*paths)` / `u / s`.  With `X0` the
    supplied segments (`C02_suppliedSegs`: each argument split at '/'), `qf` = PATH_QUOTER and `M` = the old segments
    (`PathAlg.base u`: the '/'-segments of the old path without a trailing empty one) followed by the quoted supplied
    segments, rooted under an authority (`PathAlg.root`):
     * an argument starting with '/' is rejected; (delimiter status) every other literal '/' of an argument separates
       segments and no quoted segment contains one; each quoted segment percent-decodes to the UTF-8 bytes supplied;
     * the OLD segments enter `M` untouched, byte for byte (by the definition of `M`);
     * without an authority, or when no quoted argument contains a '.', the stored path is "/".join(M), its segments are `M`;
     * otherwise dot segments are removed and the stored segments are the survivors of `M` (`C02_Survivors id M`); they
       are all of `M` again when `M` has no dot segment.
    Cites C02_joinpath. -/
theorem C02_headline_joinpath (e : Env) (u : Url) (paths : List Str) (v : Url)
    (hg : ∀ p ∈ paths, PyStr p ∧ NoSurrogate p)      -- model artefact; lone surrogates are dropped (GAPS 5)
    (h : makeChild e u paths false = .ok v) :
    let qf := q e Gen.PATH_QUOTER
    let X0 := C02_suppliedSegs paths
    let M := root u.netloc (base u ++ X0.map qf)
    (∀ p ∈ paths, p.head? ≠ some 47) ∧
    (∀ sg ∈ X0, pctDecode (qf sg) = utf8s sg ∧ 47 ∉ sg ∧ 47 ∉ qf sg) ∧
    (∀ p ∈ paths, splitOn 47 (qf p) = (splitOn 47 p).map qf) ∧
    ((v.path = joinC 47 M ∧ (M ≠ [] → splitOn 47 v.path = M)) ∨
      (u.netloc ≠ [] ∧ paths ≠ [] ∧ v.path = fixRoot (joinC 47 (normalizePathSegments M)) ∧
        C02_Survivors id M (splitOn 47 v.path))) ∧
    ((u.netloc = [] ∨ NoDots M) → M ≠ [] → splitOn 47 v.path = M) ∧
    v.netloc = u.netloc ∧ v.scheme = u.scheme :=
  C02_joinpath e u paths v hg h

/-! ## with_query, extend_query, update_query — closes GAPS 3 for these -/

/-- "each query key and value", "the number and boundaries of … query pairs" for with_query / extend_query with a
    STRING argument: the stored query is QUERY_QUOTER(s) resp. the OLD '&'-pieces byte for byte (`stripTrail`: without the
    empty piece after a trailing '&') followed by the quoted pieces of `s`; '&' and '=' of the supplied STRING stay
    separators — the pieces are the quoted supplied pieces one for one, and piece by piece the key, "has '='" and the
    value have the bytes supplied ('+' = space on both sides); an extend_query argument that quotes to "" changes nothing.
    Everything else is untouched.  (In such a STRING '%' is data, not an escape; property C12 records how update_query
    differs: next theorem but one.)  Cites C02_with_query_string, C02_extend_query_string. -/
theorem C02_headline_query_string_argument (e : Env) (u : Url) (s : Str) (hs : PyStr s) :
    (∃ v, withQuery e u (.str s) = .ok v ∧
      v.query = Gen.QUERY_QUOTER.run e.b s ∧
      splitOn 38 v.query = (splitOn 38 s).map (Gen.QUERY_QUOTER.run e.b) ∧
      (splitOn 38 v.query).length = (splitOn 38 s).length ∧
      (splitOn 38 v.query).map C02_pairView = (splitOn 38 s).map C02_textPairView ∧
      pctDecodeQs v.query = utf8s (plusToSpace s) ∧
      v.scheme = u.scheme ∧ v.netloc = u.netloc ∧ v.path = u.path ∧ v.fragment = u.fragment) ∧
    (∃ v, extendQuery e u (.str s) = .ok v ∧
      (Gen.QUERY_QUOTER.run e.b s = [] → v = u) ∧
      (Gen.QUERY_QUOTER.run e.b s ≠ [] →
        splitOn 38 v.query = stripTrail (splitOn 38 u.query) ++ (splitOn 38 s).map (Gen.QUERY_QUOTER.run e.b) ∧
        ((splitOn 38 s).map (Gen.QUERY_QUOTER.run e.b)).map C02_pairView = (splitOn 38 s).map C02_textPairView) ∧
      v.scheme = u.scheme ∧ v.netloc = u.netloc ∧ v.path = u.path ∧ v.fragment = u.fragment) :=
  ⟨C02_with_query_string e u s hs, C02_extend_query_string e u s hs⟩

/-- … with a MAPPING / SEQUENCE-OF-PAIRS argument denoting the string pairs `ps`: with_query stores exactly those pairs
    (`C02_PairsStored`: as many '&'-pieces as pairs supplied — '&', '=', ';' inside a supplied key or value are escaped —
    keys and values with the supplied bytes); extend_query keeps the OLD '&'-pieces byte for byte and appends exactly one
    piece per supplied pair.  Cites C02_with_query_pairs, C02_extend_query_pairs. -/
theorem C02_headline_query_pairs_argument (e : Env) (u : Url) (a : QArg) (items : List (Str × QItem))
    (ps : List (Str × Str))
    (ha : a = .mapping items ∨ (a = .pairs items ∧ SingleValued items))    -- a list value in a SEQUENCE is rejected (C12)
    (hx : expandItems items = some ps)                                     -- the pairs the argument denotes
    (hp : ∀ p ∈ ps, PyStr p.1 ∧ PyStr p.2) :
    (∃ v, withQuery e u a = .ok v ∧ v.query = qtext e.b ps ∧
      (ps ≠ [] → C02_PairsStored e.b ps (splitOn 38 v.query)) ∧
      v.scheme = u.scheme ∧ v.netloc = u.netloc ∧ v.path = u.path ∧ v.fragment = u.fragment) ∧
    (ps ≠ [] →
      ∃ v, extendQuery e u a = .ok v ∧
        splitOn 38 v.query = stripTrail (splitOn 38 u.query) ++ ps.map (pairText e.b) ∧
        C02_PairsStored e.b ps (ps.map (pairText e.b)) ∧
        v.scheme = u.scheme ∧ v.netloc = u.netloc ∧ v.path = u.path ∧ v.fragment = u.fragment) :=
  ⟨C02_with_query_pairs e u a items ps ha hx hp, fun hne => C02_extend_query_pairs e u a items ps ha hx hp hne⟩

/-- … update_query.  PAIRS / single-valued MAPPING denoting `ps` ≠ []: the stored query holds exactly the pairs `R` =
    `MultiDict(old pairs).update(ps)` (property C12), one '&'-piece per pair with that pair's bytes; every supplied pair
    is among them, and every other one is an old pair (as `parse_qsl` reads the old query).
    STRING: the string is ESCAPED text there — it is read by `parse_qsl` like the old query ("%41" is "A", whereas
    with_query / extend_query above store the TEXT "%41": the C12 observation `C12_str_argument_pct_differs`) — and the
    result holds the pairs `MultiDict(old pairs).update(parse_qsl(s))`, one '&'-piece per pair with that pair's bytes.
    `hgu`: the OLD pairs are re-rendered, so they must be Python strings without lone surrogates — true of every URL
    reachable through the auto-encoding API (C12_headline_reachable_good_pairs).
    Cites C02_update_query_pairs, C02_update_query_string. -/
theorem C02_headline_update_query (e : Env) (u : Url)
    (hgu : GoodPairs (queryPairs u)) :   -- needed: the OLD pairs are re-rendered
    (∀ (a : QArg) (items : List (Str × QItem)) (ps : List (Str × Str)),
      (a = .mapping items ∨ a = .pairs items) → SingleValued items → expandItems items = some ps → GoodPairs ps →
      ps ≠ [] →
      ∃ v, updateQuery e u a = .ok v ∧
        let R := mdUpdate (queryPairs u) ps
        v.query = qtext e.b R ∧ C02_PairsStored e.b R (splitOn 38 v.query) ∧
        (∀ p ∈ ps, p ∈ R) ∧ (∀ p ∈ R, p ∈ queryPairs u ∨ p ∈ ps) ∧
        v.scheme = u.scheme ∧ v.netloc = u.netloc ∧ v.path = u.path ∧ v.fragment = u.fragment) ∧
    (∀ s : Str, GoodText s → parseQsl s ≠ [] →
      ∃ v, updateQuery e u (.str s) = .ok v ∧
        let R := mdUpdate (queryPairs u) (parseQsl s)
        v.query = qtext e.b R ∧ C02_PairsStored e.b R (splitOn 38 v.query) ∧
        (∀ p ∈ parseQsl s, p ∈ R) ∧ (∀ p ∈ R, p ∈ queryPairs u ∨ p ∈ parseQsl s) ∧
        v.scheme = u.scheme ∧ v.netloc = u.netloc ∧ v.path = u.path ∧ v.fragment = u.fragment) :=
  ⟨fun a items ps ha hsv hx hg hne => C02_update_query_pairs e u a items ps ha hsv hx hg hgu hne,
   fun s hs hne => C02_update_query_string e u s hs hgu hne⟩

/-- `C02_PairsStored`, written out (definition of C02More.lean, by `Iff.rfl`) -/
theorem C02_headline_pairs_stored_def (b : Backend) (R : List (Str × Str)) (pieces : List Str) :
    C02_PairsStored b R pieces ↔
      (pieces = R.map (pairText b) ∧ pieces.length = R.length ∧
        pieces.map C02_pairView = R.map (fun p => (utf8s p.1, true, utf8s p.2))) :=
  Iff.rfl

/-! ## join — closes GAPS 3 for join -/

/-- "each path segment … the number and boundaries of path segments" for `base.join(ref)`, the path.  Either the
    reference is taken as it is (other scheme, no relative resolution, or the reference has an authority); or its path is
    empty and the base path is kept byte for byte; or — with `M` the segments of the RFC 3986 §5.2.2 target path: base
    segments without the last, then reference segments (`C02_joinTargetSegs`), every one a base or reference segment byte
    for byte — the stored path is `normalize_path` of "/".join(M), its segments are the survivors of `M`
    (`C02_Survivors id M`: nothing is re-encoded, decoded or invented), and all of `M` when `M` has no dot segment.
    Cites C02_join_path. -/
theorem C02_headline_join_path (e : Env) (base ref : Url)
    -- a ROOTED base: a path next to an authority is empty or starts with '/'.  True of every URL reachable through the
    -- auto-encoding API; only violated by `encoded=True` bases (or model records); needed:
    -- C02_headline_join_fails_for_rootless_base_under_authority
    (hb : base.netloc = [] ∨ base.path = [] ∨ base.path.head? = some 47) :
    let v := join e base ref
    (v.netloc = ref.netloc ∧ v.path = ref.path) ∨
    (ref.netloc = [] ∧ v.netloc = base.netloc ∧ ref.path = [] ∧ v.path = base.path) ∨
    (ref.netloc = [] ∧ v.netloc = base.netloc ∧ ref.path ≠ [] ∧
      let M := C02_joinTargetSegs base ref
      (∀ sg ∈ M, sg = [] ∨ sg ∈ splitOn 47 base.path ∨ sg ∈ splitOn 47 ref.path) ∧
      v.path = normalizePath (joinC 47 M) ∧ C02_Survivors id M (splitOn 47 v.path) ∧
      (NoDots M → v.path = joinC 47 M ∧ splitOn 47 v.path = M)) :=
  C02_join_path e base ref hb

/-- THE `join` ORACLE of the harness (props_a.py, class "join-segment"), proved: every raw part of `base.join(ref)` is a
    raw part of the base or of the reference, byte for byte, or "" or "/" — `join` only splices encoded segments.  For a
    rooted base and ANY reference; in particular for every base reachable through the auto-encoding API (`ReachC`,
    C03Reach.lean: constructor, build, modifiers with Python strings, `/`, joinpath, join).
    Cites C02_join_segments, C02_join_segments_reachable. -/
theorem C02_headline_join_segments (e : Env) (base ref : Url) :
    ((base.netloc = [] ∨ base.path = [] ∨ base.path.head? = some 47) →   -- rooted base, see above
      ∀ sg ∈ rawParts (join e base ref), sg ∈ rawParts base ∨ sg ∈ rawParts ref ∨ sg = [] ∨ sg = [47]) ∧
    (ReachC e base →
      ∀ sg ∈ rawParts (join e base ref), sg ∈ rawParts base ∨ sg ∈ rawParts ref ∨ sg = [] ∨ sg = [47]) :=
  ⟨C02_join_segments e base ref, C02_join_segments_reachable e base ref⟩

/-- the hypothesis on the base is needed: a base with an authority and a ROOTLESS path (not producible by the parser, by
    `build` — it raises — or by any modifier; only `encoded=True` construction or a model record) loses the first
    character of a segment: base parts ("/", "", "") + reference "../bc" give the part "c".  (Not a finding: `encoded=True`
    input is the caller's responsibility.)  Cites C02_join_segments_needs_rooted_base. -/
theorem C02_headline_join_fails_for_rootless_base_under_authority (e : Env) :
    let base := fromParts "http".toStr "h".toStr "a/".toStr [] []
    let ref := fromParts [] [] "../bc".toStr [] []
    rawParts base = ["/".toStr, [], []] ∧ rawParts ref = ["..".toStr, "bc".toStr] ∧
    rawParts (join e base ref) = ["/".toStr, "c".toStr] :=
  C02_join_segments_needs_rooted_base e

/-! ## non-vacuity -/

/-- `URL('http://h/x/./%2E%2e/y%2Fz/w+%2B/.')` (`MeanMore.ctorUrl`, C02More.lean): an authority, dot segments in both
    spellings (one cancels "x"), an encoded '/' and '+' inside survivors, and a trailing dot segment — the hypotheses of
    C02_headline_constructor_dot_segment_survivors hold, the stored path is "/y%2Fz/w+%2B/" -/
example : PyStr ctorUrl ∧ NoSurrogate ctorUrl ∧ ∃ u, encodeUrl e0 ctorUrl = .ok u ∧ u.netloc ≠ [] ∧
    u.path = "/y%2Fz/w+%2B/".toStr ∧ splitOn 47 u.path = [[], "y%2Fz".toStr, "w+%2B".toStr, []] := by
  have h : PyStr ctorUrl ∧ NoSurrogate ctorUrl ∧ encodeUrl e0 ctorUrl = .ok
      { scheme := "http".toStr, netloc := "h".toStr, path := "/y%2Fz/w+%2B/".toStr, query := [], fragment := [],
        pre := some { rawHost := some "h".toStr, explicitPort := none, rawUser := none, rawPassword := none } } := by
    unfold ctorUrl; str_lits; decide +kernel
  exact ⟨h.1, h.2.1, _, h.2.2, by decide +kernel, rfl, by decide +kernel⟩

/-- `build(…)` of C02More.lean (`MeanMore.buildArgs`: user 'é', password 'a b', path '/a/../b%2F c/./é', two query pairs
    with '&' '=' ';' '+' inside, fragment 'f g%') satisfies the hypotheses of the four build theorems -/
example : build e0 buildArgs = .ok buildUrl ∧ buildArgs.encoded = false ∧ buildArgs.authority = [] ∧
    buildArgs.host ≠ [] ∧ PyStr buildArgs.path ∧ NoSurrogate buildArgs.path ∧ PyStr buildArgs.fragment ∧
    buildUrl.path = "/b%252F%20c/%C3%A9".toStr ∧ buildUrl.query = "k%26%3D=v%3B%2B+&x=5".toStr :=
  ⟨build_ok, by decide +kernel⟩

/-- join: base 'http://h/a%2Fb/c%20d/e' (rooted), reference '../x%2Fy/./z?q' — the encoded '/' of both sides survive -/
example : (joinBase.netloc = [] ∨ joinBase.path = [] ∨ joinBase.path.head? = some 47) ∧
    rawParts (join e0 joinBase joinRef) = ["/".toStr, "a%2Fb".toStr, "x%2Fy".toStr, "z".toStr] :=
  ⟨by decide +kernel, by unfold joinBase joinRef; str_lits; decide +kernel⟩

end Yarl
