/-
  CanonComplete.lean — COMPLETENESS of the Boolean checkers of Lemmas/CanonDecide.lean (property C04, the
  converse).  `isCanon` decides `Canon`; a stored host that `_encode_host` maps to itself
  (`HostFix` / `HostFixB`) passes `hostKindB` / `bracketTextB` — except the one corner where `_encode_host` copies
  text verbatim: an IPv4 literal followed by a `%zone` (any letter case survives there); `netlocB` accepts every
  `CanonNetlocB` authority outside that corner.
-/
import YarlModel
import YarlProofs.Lemmas.CanonDecide
namespace Yarl
namespace R8
open FixLemmas NetShape HostLemmas NetlocLemmas BrHost ParseLemmas

theorem hexv_toHex {x : Nat} (h : x < 16) : hexv (toHex x) = x := by
  unfold hexv toHex
  split <;> split <;> omega

theorem isCanon_complete (t : QTab) (s : Str) (h : Canon t s) : isCanon t s = true := by
  induction h with
  | nil => rfl
  | lit c r hs hc hq _ ih =>
    have : isCanon t (c :: r) = (c != 37 && t.safe c && !(t.qs && c == 32) && isCanon t r) := by
      rw [isCanon.eq_3]
      intro a' b' r' heq _
      exact hc heq
    rw [this, ih, hs]
    simp
    refine ⟨hc, ?_⟩
    by_cases hqs : t.qs = true
    · right; intro h32; exact hq ⟨hqs, h32⟩
    · left; simpa using hqs
  | esc b r hb hk _ ih =>
    have h1 : b / 16 < 16 := by omega
    have h2 : b % 16 < 16 := by omega
    show isCanon t (37 :: toHex (b / 16) :: toHex (b % 16) :: r) = true
    rw [isCanon.eq_2]
    rw [OutLangLemmas.toHex_upper h1, OutLangLemmas.toHex_upper h2, hexv_toHex h1, hexv_toHex h2, ih]
    have : b / 16 * 16 + b % 16 = b := by omega
    rw [this]
    rcases hk with hk | hk | hk <;> simp [hk]

/-- text canonical for a generated quoter on either backend passes the checker on the C tables (the backends share
    their tables) -/
theorem isCanon_complete_c {a : QArgs} (ha : a ∈ Gen.allQuoters) {b : Backend} {s : Str} (h : Canon (a.tab b) s) :
    isCanon (a.tab .c) s = true :=
  isCanon_complete _ _ (tab_eq_c a ha b ▸ h)

theorem no_upper_of_lower_eq {s : Str} (h : lower s = s) : ∀ c ∈ s, ¬ (65 ≤ c ∧ c ≤ 90) := by
  induction s with
  | nil => intro c hc; cases hc
  | cons a r ih =>
    simp only [lower, List.map_cons, List.cons.injEq] at h
    intro c hc
    rcases List.mem_cons.1 hc with rfl | hc
    · intro hu
      have := h.1
      unfold lowerC at this
      rw [if_pos hu] at this
      omega
    · exact ih h.2 c hc

theorem lower_length (s : Str) : (lower s).length = s.length := by simp [lower]

/-- what `_encode_host(h, validate_host=False)` returns for ASCII text: the IP branch, or the lower-cased text (and
    then, when the text contains ':', it is no IP literal) -/
theorem encodeHost_ascii_cases (o : Oracles) {h r : Str} (ha : isAscii h = true) (he : encodeHost o h false = .ok r) :
    ipRes h = some r ∨ (r = lower h ∧ (58 ∈ h → ipRes h = none)) := by
  rcases encodeHost_ok_iff.1 he with ⟨_, hr, _⟩ | ⟨hn, hreg⟩
  · exact Or.inl hr
  · obtain ⟨rfl, _⟩ := (regPath_ok_of_ascii ha).1 hreg
    refine Or.inr ⟨rfl, fun h58 => ?_⟩
    obtain ⟨b, hl, hb⟩ := hn
    rw [HostLemmas.looksIP_of_colon o h58] at hl
    cases hl
    exact hb rfl

/-- the corner excluded from the converse: an IPv4 literal followed by `%zone` -/
def NoV4Zone (h : Str) : Prop := ∀ o4, parseIPv4 (partition 37 h).1 = some o4 → (partition 37 h).2.1 = false

instance (h : Str) : Decidable (NoV4Zone h) :=
  match hp : parseIPv4 (partition 37 h).1 with
  | none => isTrue (by intro o4 h4; rw [hp] at h4; cases h4)
  | some o4 => decidable_of_iff ((partition 37 h).2.1 = false) ⟨fun h _ _ => h, fun h => h o4 hp⟩

/-- outside the corner an IPv4 literal in front of a possible '%' is the whole text -/
theorem parseIPv4_whole {h : Str} {o4 : List Nat} (hz : NoV4Zone h) (h4 : parseIPv4 (partition 37 h).1 = some o4) :
    parseIPv4 h = some o4 := by
  have hj := partition_join 37 h
  rw [hz o4 h4] at hj
  simp only [Bool.false_eq_true, if_false, List.append_nil] at hj
  rwa [← hj] at h4

theorem textChar_of {h : Str} (hch : ∀ c ∈ h, 33 ≤ c ∧ c < 128 ∧ Rfc.isDelim3 c = false) (hok : HostOK h) :
    ∀ c ∈ h, textChar c = true := by
  intro c hc
  obtain ⟨h1, h2, h3⟩ := hch c hc
  simp only [Rfc.isDelim3, Bool.or_eq_false_iff, decide_eq_false_iff_not] at h3
  have n64 : c ≠ 64 := fun e => hok.2.1 (e ▸ hc)
  have n91 : c ≠ 91 := fun e => hok.2.2.1 (e ▸ hc)
  have n93 : c ≠ 93 := fun e => hok.2.2.2 (e ▸ hc)
  unfold textChar
  simp
  omega

theorem hostKindB_complete (o : Oracles) {h : Str} (hf : HostFix o h) (hz : NoV4Zone h) : hostKindB h = true := by
  have ha := isAscii_of_chars hf.chars
  have htext := textChar_of hf.chars hf.ok
  -- the text is lower-case reg-name / IPv4 text
  have plain : 58 ∉ h → (∀ c ∈ h, ¬ (65 ≤ c ∧ c ≤ 90)) → hostKindB h = true := by
    intro h58 hlow
    unfold hostKindB
    apply Bool.or_eq_true_iff.mpr
    left
    simp only [Bool.and_eq_true, Bool.not_eq_true', List.isEmpty_eq_false_iff, List.all_eq_true]
    refine ⟨hf.ok.1, ?_⟩
    intro c hc
    have ht := textChar_spec (htext c hc)
    have hl := hlow c hc
    have n58 : c ≠ 58 := fun e => h58 (e ▸ hc)
    unfold hostChar
    simp
    omega
  rcases encodeHost_ascii_cases o ha hf.enc with hip | ⟨hlo, _⟩
  · unfold ipRes at hip
    split at hip
    · -- IPv6
      rename_i h8 hp
      have h6 := parseIP_some_v6.1 hp
      have hj := partition_join 37 h
      have h58 : 58 ∈ h := partition_fst_sub 37 h 58 (parseIPv6_colon h6)
      obtain ⟨hl8, hx8⟩ := parseIPv6_shape h6
      rw [bracket_of_colon h58] at hip
      -- both texts are `h` once the zone (if any) is put back behind them
      have heq : ipv6ToStr h8 = (partition 37 h).1 := by
        have h2 : (ipv6ToStr h8 ++ if (partition 37 h).2.1 then 37 :: (partition 37 h).2.2 else []) ++ [93] = h ++ [93] := by
          cases hsep : (partition 37 h).2.1 <;> simpa [hsep] using hip
        exact List.append_cancel_right ((List.append_cancel_right h2).trans hj)
      unfold hostKindB
      apply Bool.or_eq_true_iff.mpr
      right
      unfold v6B
      rw [h6]
      simp only [Bool.and_eq_true, decide_eq_true_eq, List.all_eq_true]
      exact ⟨⟨⟨hl8, hx8⟩, heq⟩, fun c hc => htext c (partition_snd_sub 37 h c hc)⟩
    · -- IPv4
      rename_i o4 hp
      have h4 := parseIPv4_whole hz (parseIP_some_v4.1 hp)
      have h58 : 58 ∉ h := parseIPv4_no_colon h4
      apply plain h58
      intro c hc
      rcases parseIPv4_chars h4 c hc with rfl | hd
      · omega
      · simp [isDigitC] at hd; omega
    · cases hip
  · by_cases h58 : 58 ∈ h
    · have hl := congrArg List.length hlo
      rw [bracket_of_colon h58, lower_length] at hl
      simp at hl
      omega
    · rw [bracket_of_no_colon h58] at hlo
      exact plain h58 (no_upper_of_lower_eq hlo.symm)

theorem bracketTextB_complete (o : Oracles) {t : Str} (hf : HostFixB o t) (hz : NoV4Zone t) :
    bracketTextB t = true := by
  have ha := isAscii_of_chars hf.chars
  have htext := textChar_of hf.chars hf.ok
  have h91 : 91 ∉ t := hf.ok.2.2.1
  have key : (∀ c ∈ t, ¬ (65 ≤ c ∧ c ≤ 90)) ∧ notV6B t = true := by
    rcases encodeHost_ascii_cases o ha hf.enc with hip | ⟨hlo, hnone⟩
    · exfalso
      unfold ipRes at hip
      split at hip
      · -- IPv6: the result starts with '['
        simp only [Option.some.injEq] at hip
        apply h91
        rw [← hip]
        split <;> simp
      · -- IPv4: no zone (corner excluded), so the text is a dotted quad — but the bracket check asks for ':' or 'v'
        rename_i o4 hp
        have h4 := parseIPv4_whole hz (parseIP_some_v4.1 hp)
        have hch := parseIPv4_chars h4
        have hck := hf.check
        unfold bracketCheck at hck
        split at hck
        · rename_i hv
          cases t with
          | nil => simp at hv
          | cons a r =>
            simp at hv
            rcases hch a (by simp) with h | h
            · omega
            · rw [hv] at h; simp [isDigitC] at h
        · exact parseIPv4_no_colon h4 (mem_iff.mp hck)
      · cases hip
    · refine ⟨no_upper_of_lower_eq hlo.symm, ?_⟩
      unfold notV6B
      split
      · rename_i h8 hp
        exfalso
        have h6 := parseIP_some_v6.1 hp
        have h58 : 58 ∈ t := partition_fst_sub 37 t 58 (parseIPv6_colon h6)
        have := hnone h58
        rw [ipRes_of_v6 hp] at this
        cases this
      · rfl
  unfold bracketTextB bracketTextInB
  simp only [Bool.and_eq_true, List.all_eq_true, Bool.not_eq_true', Bool.and_eq_false_iff, decide_eq_false_iff_not]
  refine ⟨⟨⟨htext, hf.check⟩, key.2⟩, ?_⟩
  intro c hc
  have := key.1 c hc
  omega

theorem userInfoB_complete {b : Backend} {user pw : Option Str} (h : UserInfoOK b user pw) :
    userInfoB user pw = true := by
  unfold userInfoB
  rw [Bool.and_eq_true]
  constructor
  · cases user with
    | none => rfl
    | some s =>
      simp only [Bool.and_eq_true, Bool.not_eq_true', List.isEmpty_eq_false_iff]
      exact ⟨(h.user s rfl).1, isCanon_complete_c mem_REQUOTER (h.user s rfl).2⟩
  · cases pw with
    | none => rfl
    | some s => exact isCanon_complete_c mem_REQUOTER (h.pw s rfl)

theorem portB_complete {scheme : Str} {port : Option Nat} (h : PortOK scheme port) : portB scheme port = true := by
  unfold portB
  cases port with
  | none => rfl
  | some p =>
    simp only [Bool.and_eq_true, decide_eq_true_eq]
    exact ⟨h.range p rfl, h.notDefault p rfl⟩

/-- `netlocB` accepts every canonical authority whose host is outside the IPv4-with-zone corner -/
theorem netlocB_complete (e : Env) {scheme a : Str} (h : CanonNetlocB e scheme a)
    (hz : ∀ np hst, splitNetloc Oracles.empty a = .ok np → np.host = some hst → NoV4Zone hst) :
    netlocB scheme a = true := by
  unfold netlocB
  apply Bool.or_eq_true_iff.mpr
  rcases canonNetlocB_iff.1 h with rfl | ⟨user, pw, W, h, port, hn, hu, w, hp⟩
  · exact .inl rfl
  · right
    have hsp : splitNetloc Oracles.empty a = .ok { user := user, password := pw, host := some h, port := port } := by
      rw [hn]
      exact hostW_splitNetloc Oracles.empty (userOK_of hu) w hp.range
    rw [hsp]
    simp only [Bool.and_eq_true, Bool.or_eq_true, decide_eq_true_eq]
    refine ⟨⟨userInfoB_complete hu, portB_complete hp⟩, ?_⟩
    cases w with
    | fix hh => exact Or.inl ⟨hostKindB_complete e.o hh (hz _ _ hsp rfl), hn.symm⟩
    | brk hh => exact Or.inr ⟨bracketTextB_complete e.o hh (hz _ _ hsp rfl), hn.symm⟩

end R8
end Yarl
