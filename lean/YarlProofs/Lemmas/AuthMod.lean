/-
  AuthMod.lean — what `with_user`, `with_password`, `with_host`, `with_port` and `origin()` do, said once.

  None of them looks at the stored authority TEXT beyond testing it for emptiness (`origin()`: for an '@').  They read
  the four components `net e u` — the pre-filled cache when there is one, the lazy parse otherwise — and write
  `make_netloc(…, encode=False)` of the components with the targeted one replaced.  The equations `*_eq` hold for every
  URL; `*_ok` reads a successful call backwards; `*_of_net` is the call on a URL whose components are known.  What the
  accessors read from the re-made text is `NetlocLemmas.net_std` (host non-empty, without '@' '[' ']') or
  `EncTrue.net_rebuilt` (any host text `split_netloc` can answer).
-/
import YarlModel
import YarlProofs.Lemmas.NetlocLemmas
import YarlProofs.Lemmas.Basics
namespace Yarl
open NetlocLemmas

namespace EncTrue

/-- the range check of `with_port`: an `int` outside 0..65535.  `build` makes the same test, written out in
    `C07_buildArgCheck`; passing it there is `argCheck_port` (BuildShape.lean), passing it here `portBad_range`. -/
def portBad (p : Option Int) : Bool :=
  match p with
  | some p => !(0 ≤ p ∧ p ≤ 65535)
  | none => false

theorem portBad_eq_false {p : Option Int} : portBad p = false ↔ ∀ i, p = some i → 0 ≤ i ∧ i ≤ 65535 := by
  cases p with
  | none => exact ⟨fun _ _ h => (nomatch h), fun _ => rfl⟩
  | some i => simp [portBad]

/-- a port that passes the range check is in range -/
theorem portBad_range {p : Option Int} (h : portBad p = false) : ∀ x, p.map Int.toNat = some x → x ≤ 65535 := by
  intro x hx
  cases p with
  | none => cases hx
  | some i =>
    simp only [Option.map_some, Option.some.injEq] at hx
    simp only [portBad, Bool.not_eq_eq_eq_not, Bool.not_false, decide_eq_true_eq] at h
    omega

end EncTrue

namespace AuthMod
open EncTrue (portBad)

/-- the raw accessors are the fields of `net` -/
theorem acc_of_net (e : Env) (v : Url) (N : NetPre) (h : net e v = .ok N) :
    rawUser e v = .ok N.rawUser ∧ rawPassword e v = .ok N.rawPassword ∧ rawHost e v = .ok N.rawHost ∧
    explicitPort e v = .ok N.explicitPort ∧ hostSubcomponent e v = .ok (N.rawHost.map bracket) := by
  refine ⟨?_, ?_, ?_, ?_, ?_⟩
  · unfold rawUser; rw [h]; rfl
  · unfold rawPassword; rw [h]; rfl
  · unfold rawHost; rw [h]; rfl
  · unfold explicitPort; rw [h]; rfl
  · unfold hostSubcomponent rawHost; rw [h]; rfl

/-- `u` with its authority re-made from user, password, written host text and port -/
def remake (e : Env) (u : Url) (U P : Option Str) (hb : Str) (port : Option Nat) : Url :=
  fromParts u.scheme (makeNetloc (q e Gen.QUOTER) U P (some hb) port false) u.path u.query u.fragment

/-- `host_subcomponent or ""` -/
def hostB (N : NetPre) : Str := (N.rawHost.map bracket).getD []

/-- no host is written like the empty host -/
theorem hostB_eq (N : NetPre) : hostB N = bracket (N.rawHost.getD []) := by
  unfold hostB
  cases N.rawHost <;> rfl

/-- the empty authority always parses: `with_user(str)` reads `raw_password` BEFORE it rejects a relative URL -/
theorem net_ok_of_nil (e : Env) (u : Url) (hn : u.netloc = []) : ∃ N, net e u = .ok N := by
  unfold net
  cases hp : u.pre with
  | some p => exact ⟨p, rfl⟩
  | none =>
    refine ⟨{ rawHost := none, explicitPort := none, rawUser := none, rawPassword := none }, ?_⟩
    simp only
    unfold lazyNet
    rw [hn]
    rfl

/-! ### the five operations as functions of `net` -/

section eqs
variable (e : Env) (u : Url)

theorem withUser_some_eq (s : Str) : withUser e u (some s) =
    if u.netloc = [] then .error .valueError
    else (net e u).map fun N => remake e u (some (q e Gen.QUOTER s)) N.rawPassword (hostB N) N.explicitPort := by
  unfold withUser rawPassword hostSubcomponent explicitPort rawHost
  by_cases hn : u.netloc = []
  · obtain ⟨N, hN⟩ := net_ok_of_nil e u hn
    rw [if_pos hn, hN, hn]
    rfl
  · rw [if_neg hn]
    cases net e u with
    | error err => rfl
    | ok N =>
      simp only [isEmpty_false hn]
      rfl

theorem withUser_none_eq : withUser e u none =
    if u.netloc = [] then .error .valueError
    else (net e u).map fun N => remake e u none none (hostB N) N.explicitPort := by
  unfold withUser hostSubcomponent explicitPort rawHost
  by_cases hn : u.netloc = []
  · rw [if_pos hn, hn]
    rfl
  · rw [if_neg hn]
    simp only [isEmpty_false hn]
    cases net e u <;> rfl

theorem withPassword_eq (pw : Option Str) : withPassword e u pw =
    if u.netloc = [] then .error .valueError
    else (net e u).map fun N => remake e u N.rawUser (pw.map (q e Gen.QUOTER)) (hostB N) N.explicitPort := by
  unfold withPassword hostSubcomponent explicitPort rawUser rawHost
  by_cases hn : u.netloc = []
  · rw [if_pos hn, hn]
    rfl
  · rw [if_neg hn]
    simp only [isEmpty_false hn]
    cases net e u <;> rfl

theorem withHost_eq (hs : Str) : withHost e u hs =
    if u.netloc = [] then .error .valueError
    else if hs = [] then .error .valueError
    else encodeHost e.o hs true >>= fun eh =>
      (net e u).map fun N => remake e u N.rawUser N.rawPassword eh N.explicitPort := by
  unfold withHost explicitPort rawUser rawPassword
  by_cases hn : u.netloc = []
  · rw [if_pos hn, hn]
    rfl
  · rw [if_neg hn]
    by_cases hh : hs = []
    · rw [if_pos hh, hh]
      simp only [isEmpty_false hn]
      rfl
    · rw [if_neg hh]
      simp only [isEmpty_false hn, isEmpty_false hh]
      cases encodeHost e.o hs true with
      | error err => rfl
      | ok eh => cases net e u <;> rfl

theorem withPort_eq (p : Option Int) (k : Nat) : withPort e u p k =
    if k ≠ 0 then .error .typeError
    else if portBad p then .error .valueError
    else if u.netloc = [] then .error .valueError
    else (net e u).map fun N => remake e u N.rawUser N.rawPassword (hostB N) (p.map Int.toNat) := by
  unfold withPort hostSubcomponent rawUser rawPassword rawHost
  by_cases hk : k ≠ 0
  · rw [if_pos hk, if_pos hk]
  · rw [if_neg hk, if_neg hk]
    by_cases hb : portBad p = true
    · rw [if_pos hb]
      exact if_pos hb
    · rw [if_neg hb]
      refine (if_neg hb).trans ?_
      by_cases hn : u.netloc = []
      · rw [if_pos hn, hn]
        rfl
      · rw [if_neg hn]
        simp only [isEmpty_false hn]
        cases net e u <;> rfl

theorem origin_eq : origin e u =
    if u.netloc = [] then .error .valueError
    else if u.scheme = [] then .error .valueError
    else if 64 ∈ u.netloc then
      (net e u).map fun N =>
        fromParts u.scheme (makeNetloc (q e Gen.QUOTER) none none (N.rawHost.map bracket) N.explicitPort false) [] [] []
    else if u.path = [] ∧ u.query = [] ∧ u.fragment = [] then .ok u
    else .ok (fromParts u.scheme u.netloc [] [] []) := by
  unfold origin
  -- the Boolean tests become propositions while `hostSubcomponent` is still folded: `mem_iff` must not reach `bracket`
  simp only [List.isEmpty_iff, mem_iff, Bool.and_eq_true, and_assoc]
  unfold hostSubcomponent explicitPort rawHost
  cases net e u <;> rfl

end eqs

variable {e : Env} {u v : Url}

/-! ### a successful call, read backwards -/

theorem withUser_ok {x : Option Str} (h : withUser e u x = .ok v) :
    u.netloc ≠ [] ∧ ∃ N, net e u = .ok N ∧
      v = remake e u (x.map (q e Gen.QUOTER)) (x.bind fun _ => N.rawPassword) (hostB N) N.explicitPort := by
  cases x with
  | none =>
    rw [withUser_none_eq] at h
    obtain ⟨hn, h⟩ := ite_err_ok h
    obtain ⟨N, hN, rfl⟩ := map_ok h
    exact ⟨hn, N, hN, rfl⟩
  | some s =>
    rw [withUser_some_eq] at h
    obtain ⟨hn, h⟩ := ite_err_ok h
    obtain ⟨N, hN, rfl⟩ := map_ok h
    exact ⟨hn, N, hN, rfl⟩

theorem withPassword_ok {pw : Option Str} (h : withPassword e u pw = .ok v) :
    u.netloc ≠ [] ∧ ∃ N, net e u = .ok N ∧
      v = remake e u N.rawUser (pw.map (q e Gen.QUOTER)) (hostB N) N.explicitPort := by
  rw [withPassword_eq] at h
  obtain ⟨hn, h⟩ := ite_err_ok h
  obtain ⟨N, hN, rfl⟩ := map_ok h
  exact ⟨hn, N, hN, rfl⟩

theorem withHost_ok {hs : Str} (h : withHost e u hs = .ok v) :
    u.netloc ≠ [] ∧ hs ≠ [] ∧ ∃ eh N, encodeHost e.o hs true = .ok eh ∧ net e u = .ok N ∧
      v = remake e u N.rawUser N.rawPassword eh N.explicitPort := by
  rw [withHost_eq] at h
  obtain ⟨hn, h⟩ := ite_err_ok h
  obtain ⟨hh, h⟩ := ite_err_ok h
  obtain ⟨eh, heh, h⟩ := bind_ok h
  obtain ⟨N, hN, rfl⟩ := map_ok h
  exact ⟨hn, hh, eh, N, heh, hN, rfl⟩

theorem withPort_ok {p : Option Int} {k : Nat} (h : withPort e u p k = .ok v) :
    u.netloc ≠ [] ∧ k = 0 ∧ portBad p = false ∧ ∃ N, net e u = .ok N ∧
      v = remake e u N.rawUser N.rawPassword (hostB N) (p.map Int.toNat) := by
  rw [withPort_eq] at h
  obtain ⟨hk, h⟩ := ite_err_ok h
  obtain ⟨hb, h⟩ := ite_err_ok h
  obtain ⟨hn, h⟩ := ite_err_ok h
  obtain ⟨N, hN, rfl⟩ := map_ok h
  exact ⟨hn, Decidable.not_not.mp hk, Bool.not_eq_true _ ▸ hb, N, hN, rfl⟩

/-- a successful `origin()`: the authority re-made from host and port when the text holds an '@'; otherwise the URL
    itself (nothing to cut) or the same scheme and authority text with everything else cut -/
theorem origin_ok (h : origin e u = .ok v) : u.netloc ≠ [] ∧ u.scheme ≠ [] ∧
    ((64 ∈ u.netloc ∧ ∃ N, net e u = .ok N ∧ v = fromParts u.scheme
        (makeNetloc (q e Gen.QUOTER) none none (N.rawHost.map bracket) N.explicitPort false) [] [] []) ∨
     (64 ∉ u.netloc ∧
        (v = u ∧ u.path = [] ∧ u.query = [] ∧ u.fragment = [] ∨ v = fromParts u.scheme u.netloc [] [] []))) := by
  rw [origin_eq] at h
  obtain ⟨hn, h⟩ := ite_err_ok h
  obtain ⟨hs, h⟩ := ite_err_ok h
  refine ⟨hn, hs, ?_⟩
  by_cases h64 : 64 ∈ u.netloc
  · rw [if_pos h64] at h
    obtain ⟨N, hN, rfl⟩ := map_ok h
    exact Or.inl ⟨h64, N, hN, rfl⟩
  · rw [if_neg h64] at h
    refine Or.inr ⟨h64, ?_⟩
    by_cases hc : u.path = [] ∧ u.query = [] ∧ u.fragment = []
    · rw [if_pos hc] at h
      exact Or.inl ⟨(Except.ok.inj h).symm, hc⟩
    · rw [if_neg hc] at h
      exact Or.inr (Except.ok.inj h).symm

/-! ### a call on a URL whose components are known

  The components are given as an explicit record, so that the results are `remake e u … (bracket h) …` literally:
  an accessor fact about that term then fits without unfolding anything. -/

section forward
variable {U P : Option Str} {h : Str} {port : Option Nat} (hne : u.netloc ≠ [])
  (hN : net e u = .ok { rawHost := some h, explicitPort := port, rawUser := U, rawPassword := P })
include hne hN

theorem withUser_some_of_net (s : Str) :
    withUser e u (some s) = .ok (remake e u (some (q e Gen.QUOTER s)) P (bracket h) port) := by
  rw [withUser_some_eq, if_neg hne, hN]
  rfl

theorem withUser_none_of_net : withUser e u none = .ok (remake e u none none (bracket h) port) := by
  rw [withUser_none_eq, if_neg hne, hN]
  rfl

theorem withPassword_of_net (pw : Option Str) :
    withPassword e u pw = .ok (remake e u U (pw.map (q e Gen.QUOTER)) (bracket h) port) := by
  rw [withPassword_eq, if_neg hne, hN]
  rfl

theorem withHost_of_net {hs eh : Str} (hs_ne : hs ≠ []) (henc : encodeHost e.o hs true = .ok eh) :
    withHost e u hs = .ok (remake e u U P eh port) := by
  rw [withHost_eq, if_neg hne, if_neg hs_ne, henc, hN]
  rfl

theorem withPort_of_net {p : Option Int} (hp : ∀ i, p = some i → 0 ≤ i ∧ i ≤ 65535) :
    withPort e u p 0 = .ok (remake e u U P (bracket h) (p.map Int.toNat)) := by
  rw [withPort_eq, if_neg (by simp), EncTrue.portBad_eq_false.mpr hp, if_neg Bool.false_ne_true, if_neg hne, hN]
  rfl

end forward

/-! ### `origin()` on an authority the library wrote -/

/-- a written authority has an '@' exactly when there is a user or a password -/
theorem mem64_makeNetloc_iff (qf : Str → Str) (user pw : Option Str) (w : Str) (port : Option Nat)
    (hu : UserOK user) (h64 : 64 ∉ w) :
    64 ∈ makeNetloc qf user pw (some w) port false ↔ ¬ (user = none ∧ pw = none) := by
  have hret := notMem_hostPortStr_of port h64
  rw [makeNetloc_eq]
  cases user with
  | none => cases pw <;> simp [hret]
  | some u => cases pw <;> simp [isEmpty_false (hu u rfl).1]

/-- `origin()` of a URL whose stored authority is the text written for `(user, pw, h, port)`: scheme and the
    authority written for `(none, none, h, port)`, nothing else.  The result is a fresh record — or, when there is
    nothing to cut (then there was no userinfo), the URL itself. -/
theorem origin_written {qf : Str → Str} {user pw : Option Str} {h : Str} {port : Option Nat}
    (hN : net e u = .ok { rawHost := some h, explicitPort := port, rawUser := user, rawPassword := pw })
    (hnl : u.netloc = makeNetloc qf user pw (some (bracket h)) port false) (hu : UserOK user) (h64 : 64 ∉ h)
    (hne : u.netloc ≠ []) (hs : u.scheme ≠ []) :
    ∃ v, origin e u = .ok v ∧ v.scheme = u.scheme ∧
      v.netloc = makeNetloc qf none none (some (bracket h)) port false ∧
      v.path = [] ∧ v.query = [] ∧ v.fragment = [] ∧ ((v = u ∧ user = none ∧ pw = none) ∨ v.pre = none) := by
  rw [origin_eq, if_neg hne, if_neg hs, hN]
  by_cases hat : 64 ∈ u.netloc
  · rw [if_pos hat]
    exact ⟨_, rfl, rfl, makeNetloc_qf (q e Gen.QUOTER) qf none none (some (bracket h)) port, rfl, rfl, rfl, .inr rfl⟩
  · rw [if_neg hat]
    -- no '@' in the text: there is neither user nor password
    obtain ⟨rfl, rfl⟩ : user = none ∧ pw = none := Classical.not_not.mp fun hc =>
      hat (hnl ▸ (mem64_makeNetloc_iff qf user pw _ port hu (notMem_bracket h64 (by decide) (by decide))).mpr hc)
    by_cases hall : u.path = [] ∧ u.query = [] ∧ u.fragment = []
    · rw [if_pos hall]
      exact ⟨u, rfl, rfl, hnl, hall.1, hall.2.1, hall.2.2, .inl ⟨rfl, rfl, rfl⟩⟩
    · rw [if_neg hall]
      exact ⟨_, rfl, rfl, hnl, rfl, rfl, rfl, .inr rfl⟩

end AuthMod
end Yarl
