/-
  DotMore.lean — helper lemmas for C15More (gap items 1–3 of the C15 audit):
  * canonical text of the PATH table has no escape that decodes to '.', so a canonical segment
    percent-decodes to "." / ".." only if it IS "." / "..";
  * the non-requoting PATH_QUOTER is a character-wise homomorphism (so '%' always becomes "%25");
  * the stack algorithm on a segment list whose first segment is the root's empty segment, compared
    with RFC 3986 §5.2.4 on the joined rooted path (`climbs`, `normLoop_bottom_eq`: Lemmas/PathLemmas.lean);
  * `childSegs` / `anyDot`: the `encoded=False` instance of the closed form of `_make_child` (Lemmas/PathAlg.lean).
-/
import YarlModel
import YarlProofs.C02
import YarlProofs.C14
import YarlProofs.C03Reach
import YarlProofs.Lemmas.Basics
set_option linter.unusedVariables false
namespace Yarl.DotMore
open Yarl PathLemmas PathAlg WfLemmas EntryLemmas OutLangLemmas QsLemmas

/-! ### A. canonical text and escaped dots -/

/-- canonical text of a table that keeps '.' literal and unprotected: if every decoded byte is a '.',
    the text has no escape at all (decoding is the identity on it) -/
theorem canon_decode_dots {t : QTab} (ht : t.WF) (h46s : t.safe 46 = true) (h46p : t.prot 46 = false)
    {s : Str} (h : Canon t s) : (∀ x ∈ pctDecode s, x = 46) → pctDecode s = s := by
  induction h with
  | nil => intro _; exact pctDecode_nil
  | lit c r hs hc hq hr ih =>
    intro hall
    have hu : utf8 c = [c] := utf8_ascii (ht.safe_ascii c hs)
    rw [pctDecode_cons_ne hc, hu] at hall ⊢
    rw [ih (fun x hx => hall x (by simp [hx]))]
    rfl
  | esc b r hb hk hr ih =>
    intro hall
    rw [pctDecode_pct hb] at hall
    have hb46 : b = 46 := hall b (by simp)
    subst hb46
    rcases hk with hk | hk | hk
    · omega
    · rw [h46s] at hk; cases hk
    · rw [h46p] at hk; cases hk

theorem canon_decode_dot {t : QTab} (ht : t.WF) (h46s : t.safe 46 = true) (h46p : t.prot 46 = false)
    {s : Str} (h : Canon t s) : (pctDecode s = dot → s = dot) ∧ (pctDecode s = dotdot → s = dotdot) := by
  constructor
  · intro hd
    have := canon_decode_dots ht h46s h46p h (by rw [hd]; simp [dot])
    rw [← this, hd]
  · intro hd
    have := canon_decode_dots ht h46s h46p h (by rw [hd]; simp [dotdot])
    rw [← this, hd]

theorem path_tab_wf (b : Backend) : (Gen.PATH_REQUOTER.tab b).WF := gen_tab_wf _ FixLemmas.pr_mem b

theorem path_tab_46 (b : Backend) :
    (Gen.PATH_REQUOTER.tab b).safe 46 = true ∧ (Gen.PATH_REQUOTER.tab b).prot 46 = false := by
  cases b <;> exact ⟨by decide, by decide⟩

/-- a canonical path segment decodes to a dot segment only if it is one -/
theorem path_canon_decode_dot (b : Backend) {s : Str} (h : Canon (Gen.PATH_REQUOTER.tab b) s) :
    (pctDecode s = dot → s = dot) ∧ (pctDecode s = dotdot → s = dotdot) :=
  canon_decode_dot (path_tab_wf b) (path_tab_46 b).1 (path_tab_46 b).2 h

/-- the invariant of all auto-encoded URLs excludes escaped dot segments -/
theorem canonUrl_no_encoded_dots {b : Backend} {u : Url} (hu : CanonUrl b u) (hn : u.netloc ≠ []) :
    ∀ seg ∈ splitOn 47 u.path, pctDecode seg ≠ dot ∧ pctDecode seg ≠ dotdot := by
  intro seg hseg
  have hc := (ReachFix.canonLang ⟨b, Oracles.empty⟩).path.of_splitOn sep47 hu.path seg hseg
  have hd := hu.nodots hn seg hseg
  exact ⟨fun h => hd.1 ((path_canon_decode_dot b hc).1 h), fun h => hd.2 ((path_canon_decode_dot b hc).2 h)⟩

/-! ### B. the non-requoting PATH_QUOTER, character by character -/

theorem pq_tab_wf (b : Backend) : (Gen.PATH_QUOTER.tab b).WF := gen_tab_wf _ mem_PATH_QUOTER b

theorem q_path_quoter_eq (e : Env) (s : Str) (hs : PyStr s) :
    q e Gen.PATH_QUOTER s = cOut (Gen.PATH_QUOTER.tab e.b) (stripSurr s) :=
  QsLemmas.run_eq_cOut _ mem_PATH_QUOTER e.b s hs

theorem q_path_quoter_pct (e : Env) : q e Gen.PATH_QUOTER [37] = [37, 50, 53] := by
  show Gen.PATH_QUOTER.run e.b [37] = [37, 50, 53]
  cases e.b <;> decide +kernel

/-- percent-decoding what PATH_QUOTER wrote gives the UTF-8 bytes of the argument -/
theorem q_path_quoter_decode (e : Env) (s : Str) (hs : PyStr s) :
    pctDecode (q e Gen.PATH_QUOTER s) = utf8s s := by
  rw [q_path_quoter_eq e s hs, ← utf8s_stripSurr s]
  exact C02_decode_nr _ (pq_tab_wf e.b) (path_tab_requote e.b) (path_tab_qs e.b) _ (QuoteEquiv.pyStr_stripSurr hs)
    (by intro c hc; simp [stripSurr] at hc; simpa using hc.2)

/-! ### C. the stack algorithm with the root's empty segment on the stack, and RFC 3986 §5.2.4 -/

/-- a rooted path without dot segments is a fixed point of §5.2.4 -/
theorem rds_fixed_of_noDotSegments (r : Str) (h : NoDotSegments (47 :: r)) :
    Rfc.removeDotSegments (47 :: r) = 47 :: r := by
  rw [← C15_rfc]
  simp only [normalizePath]
  have hnd : NoDots (splitOn 47 r) := by
    intro s hs
    apply h s
    simp only [splitOn, if_true, List.mem_cons]
    exact Or.inr hs
  rw [normalizePathSegments_noDots _ hnd, joinC_splitOn]

/-- the root's empty segment in front of a non-empty list: popped iff the list climbs -/
theorem normalizePathSegments_root_eq (L : List Str) (hL : L ≠ []) :
    normalizePathSegments ([] :: L) =
      if climbs 0 L then normalizePathSegments L else [] :: normalizePathSegments L := by
  obtain ⟨a, b, rfl⟩ := List.exists_cons_of_ne_nil hL
  rw [normalizePathSegments_eq_G, normalizePathSegments_eq_G, G_cons]
  have hs : step [] ([] : Str) = [[]] := by simp [step, dot, dotdot]
  have h := normLoop_bottom_eq [] (a :: b) []
  rw [List.nil_append] at h
  rw [hs]
  unfold G
  rw [h]
  cases climbs 0 (a :: b) <;> rfl

theorem normalizePathSegments_root_noclimb (L : List Str) (hL : L ≠ []) (hc : climbs 0 L = false) :
    normalizePathSegments ([] :: L) = [] :: normalizePathSegments L := by
  rw [normalizePathSegments_root_eq L hL, hc]
  rfl

theorem normalizePathSegments_root_climb (L : List Str) (hL : L ≠ []) (hc : climbs 0 L = true) :
    normalizePathSegments ([] :: L) = normalizePathSegments L := by
  rw [normalizePathSegments_root_eq L hL, hc]
  rfl

theorem normalizePathSegments_ne_nil (L : List Str) (hL : L ≠ []) : normalizePathSegments L ≠ [] := by
  rw [normalizePathSegments_eq_G]; exact G_ne_nil L [] hL

theorem joinC_root_cons (K : List Str) (hK : K ≠ []) : joinC 47 ([] :: K) = 47 :: joinC 47 K := by
  rw [joinC_cons, flatC_eq_joinC 47 K hK]; rfl

/-- §5.2.4 on the rooted join of a non-empty list of slash-free segments -/
theorem rds_joinC (L : List Str) (hL : L ≠ []) (hs : Segs L) :
    Rfc.removeDotSegments (47 :: joinC 47 L) = 47 :: joinC 47 (normalizePathSegments L) := by
  rw [← C15_rfc]
  simp only [normalizePath]
  rw [splitOn_joinC L hL hs]

theorem fixRoot_cons (r : Str) : fixRoot (47 :: r) = 47 :: r := rfl

/-- what `fixRoot` makes of a path `N` compared with "/" ++ N -/
theorem fixRoot_cases (N : Str) :
    (N = [] ∧ fixRoot N = []) ∨ (∃ t, N = 47 :: t ∧ fixRoot N = 47 :: t) ∨
    (N ≠ [] ∧ N.head? ≠ some 47 ∧ fixRoot N = 47 :: N) := by
  cases N with
  | nil => left; exact ⟨rfl, rfl⟩
  | cons c t =>
    by_cases hc : c = 47
    · subst hc; right; left; exact ⟨t, rfl, rfl⟩
    · right; right
      refine ⟨by simp, by simpa using hc, ?_⟩
      unfold fixRoot
      split
      · rename_i h; cases h
      · rename_i r h; exact absurd (List.cons.inj h).1 hc
      · rfl

/-- for `_make_child` / `with_path`: the segment list `[""] ++ L` (rooted join "/" ++ "/".join(L)) —
    §5.2.4 gives "/" ++ N with N the stack result for `L`; the code's
    `"/".join(normalize_path_segments([""] ++ L))`, rooted again if need be, is that, or — only when a
    ".." climbed above the root — `fixRoot N` -/
theorem root_norm_rfc (L : List Str) (hL : L ≠ []) (hs : Segs L) :
    Rfc.removeDotSegments (joinC 47 ([] :: L)) = 47 :: joinC 47 (normalizePathSegments L) ∧
    (fixRoot (joinC 47 (normalizePathSegments ([] :: L))) = 47 :: joinC 47 (normalizePathSegments L) ∨
     (climbs 0 L = true ∧
      fixRoot (joinC 47 (normalizePathSegments ([] :: L))) = fixRoot (joinC 47 (normalizePathSegments L)))) := by
  refine ⟨by rw [joinC_root_cons L hL]; exact rds_joinC L hL hs, ?_⟩
  cases hc : climbs 0 L with
  | false =>
    left
    rw [normalizePathSegments_root_noclimb L hL hc, joinC_root_cons _ (normalizePathSegments_ne_nil L hL)]
    rfl
  | true =>
    right
    rw [normalizePathSegments_root_climb L hL hc]
    exact ⟨rfl, rfl⟩

/-! ### D. `_make_child(paths, encoded=False)` in closed form -/

/-- `needs_normalize`: some quoted argument contains a '.' -/
def anyDot (e : Env) (ps : List Str) : Bool := ps.any (fun p => mem 46 (q e Gen.PATH_QUOTER p))

/-- the new segments of `paths` (in argument order): `"/".join` of them is the text appended to the base -/
def childSegs (e : Env) (paths : List Str) : List Str :=
  paths.dropLast.flatMap (fun p => stripTrail (splitOn 47 (q e Gen.PATH_QUOTER p))) ++
  (match paths.getLast? with
   | some p => splitOn 47 (q e Gen.PATH_QUOTER p)
   | none => [])

/-- `childSegs` / `anyDot` are `PathMore.argSegs` / `PathMore.argDots` with `encoded=False` -/
theorem childSegs_eq (e : Env) (ps : List Str) : childSegs e ps = PathMore.argSegs e false ps := by
  rcases List.eq_nil_or_concat ps with rfl | ⟨init, l, rfl⟩
  · rfl
  · simp [childSegs, PathMore.argSegs_snoc, PathMore.argText]

theorem anyDot_eq (e : Env) (ps : List Str) : anyDot e ps = PathMore.argDots e false ps := rfl

/-! ### E. shapes -/

theorem root_shape (n : Str) (hn : n ≠ []) (L : List Str) : root n L = [] ∨ ∃ L', root n L = [] :: L' := by
  unfold root
  cases L with
  | nil => left; simp
  | cons l0 L1 =>
    right
    by_cases h0 : l0 = []
    · subst h0; exact ⟨L1, by simp⟩
    · exact ⟨l0 :: L1, by simp [not_isEmpty_of_ne_nil hn, h0]⟩

theorem root_nil_netloc (L : List Str) : root [] L = L := by simp [root]

theorem childOf_path (u : Url) (X : List Str) (nn : Bool) :
    (childOf u X nn).path =
      if (u.netloc.isEmpty || !nn) = true then joinC 47 (root u.netloc (base u ++ X))
      else fixRoot (joinC 47 (normalizePathSegments (root u.netloc (base u ++ X)))) := by
  unfold childOf
  simp only
  split <;> rfl

theorem childOf_netloc (u : Url) (X : List Str) (nn : Bool) : (childOf u X nn).netloc = u.netloc := by
  unfold childOf
  simp only
  split <;> rfl

/-! ### G. UTF-8 bytes that are all ASCII -/

theorem utf8_head_ge128 {c : Nat} (hc : 128 ≤ c) (hpy : c ≤ 0x10FFFF) (hns : isSurrogate c = false) :
    ∃ b r, utf8 c = b :: r ∧ 128 ≤ b := by
  unfold utf8
  rw [if_neg (by omega)]
  split
  · exact ⟨_, _, rfl, by omega⟩
  · rw [if_neg (by simp [hns])]
    split
    · exact ⟨_, _, rfl, by omega⟩
    · exact ⟨_, _, rfl, by omega⟩

/-- if the UTF-8 encoding of a Python string is pure ASCII, the string (without lone surrogates) is that text -/
theorem utf8s_ascii (s : Str) (hs : PyStr s) : ∀ d : List Nat, (∀ x ∈ d, x < 128) → utf8s s = d → stripSurr s = d := by
  induction s with
  | nil => intro d _ h; simpa [utf8s, stripSurr] using h
  | cons c r ih =>
    intro d hd h
    have hr : PyStr r := fun x hx => hs x (List.mem_cons_of_mem _ hx)
    rw [QuoteEquiv.utf8s_cons] at h
    by_cases hsur : isSurrogate c = true
    · have h0 : utf8 c = [] := by
        unfold utf8
        simp only [isSurrogate, Bool.and_eq_true, decide_eq_true_eq] at hsur
        rw [if_neg (by omega), if_neg (by omega), if_pos (by simp [isSurrogate]; omega)]
      rw [h0, List.nil_append] at h
      have := ih hr d hd h
      simpa [stripSurr, hsur] using this
    · have hns : isSurrogate c = false := by simpa using hsur
      by_cases h128 : c < 128
      · rw [utf8_ascii h128] at h
        cases d with
        | nil => simp at h
        | cons d0 d' =>
          simp only [List.singleton_append, List.cons.injEq] at h
          have := ih hr d' (fun x hx => hd x (List.mem_cons_of_mem _ hx)) h.2
          simp only [stripSurr, List.filter_cons, hns, Bool.not_false, if_true] at this ⊢
          rw [this, h.1]
      · obtain ⟨b, t, hbt, hb⟩ := utf8_head_ge128 (by omega) (hs c List.mem_cons_self) hns
        rw [hbt] at h
        cases d with
        | nil => simp at h
        | cons d0 d' =>
          simp only [List.cons_append, List.cons.injEq] at h
          have := hd d0 List.mem_cons_self
          omega

end Yarl.DotMore
