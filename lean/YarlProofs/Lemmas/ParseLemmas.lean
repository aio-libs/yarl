/-
  ParseLemmas.lean — the model's string functions reduced to core `takeWhile` / `dropWhile` once:
  the "first occurrence of c" views (`mem_eq`, `partition_eq`, `find_eq`, `dropWhile_ne_cases`, `span_first`,
  `partition_found` / `partition_notFound`), the last occurrence (`rpartition_mem`, `rpartition_not_mem`), where a
  `takeWhile` stops (`HeadP`, `takeWhile_stop`, `dropWhile_stop`), cleaning (`lstripSet_eq`, `mem_stripSet`, `mem_removeSet`), the scheme scan
  (`splitScheme_eq`), the authority scan, and the identification of the code's partition-at-'#'-then-'?' with the
  left-to-right reading of the Appendix B regular expression (`appendixB_eq` with `authOf`, `tailOf`, `tailOf_eq`);
  `pyInt_cases`.  In front of these: results as decidable objects (`decEqResult`, `OkAnd`, `decExistsOk`).
-/
import YarlModel
import YarlProofs.Lemmas.StrLit
import YarlProofs.Lemmas.Basics
namespace Yarl.ParseLemmas
open Yarl

/-- Decidable equality of results.  Not an instance: a file that evaluates closed instances of `… = .ok …` in the kernel
    switches it on for itself (`attribute [local instance]`).  Two global instances of the same thing exist higher up
    (`FixLemmas.exceptDecEq`, `HumanLemmas.instDecEqExcept`; fixed statements mention them), so in files that import
    those the local attribute only adds a third candidate. -/
@[reducible] def decEqResult {ε α : Type} [DecidableEq ε] [DecidableEq α] : DecidableEq (Except ε α)
  | .ok a, .ok b => if h : a = b then isTrue (by rw [h]) else isFalse (fun e => h (by cases e; rfl))
  | .error a, .error b => if h : a = b then isTrue (by rw [h]) else isFalse (fun e => h (by cases e; rfl))
  | .ok _, .error _ => isFalse (fun e => by cases e)
  | .error _, .ok _ => isFalse (fun e => by cases e)

/-- `x` succeeds with a value satisfying `P`: the decidable form of `∃ u, x = .ok u ∧ P u` -/
def OkAnd {α : Type} (x : R α) (P : α → Prop) : Prop :=
  match x with
  | .ok u => P u
  | .error _ => False

instance {α : Type} (x : R α) (P : α → Prop) [∀ u, Decidable (P u)] : Decidable (OkAnd x P) := by
  unfold OkAnd; cases x <;> infer_instance

theorem okAnd_iff {α : Type} (x : R α) (P : α → Prop) : OkAnd x P ↔ ∃ u, x = .ok u ∧ P u := by
  constructor
  · intro h
    cases x with
    | error e => exact h.elim
    | ok u => exact ⟨u, rfl, h⟩
  · rintro ⟨u, rfl, h⟩
    exact h

theorem OkAnd.exists {α : Type} {x : R α} {P : α → Prop} (h : OkAnd x P) : ∃ v, x = .ok v ∧ P v :=
  (okAnd_iff x P).mp h

theorem OkAnd.exists₂ {α β : Type} {x : R α} {y : R β} {P : α → β → Prop}
    (h : OkAnd x fun v => OkAnd y (P v)) : ∃ v w, x = .ok v ∧ y = .ok w ∧ P v w := by
  obtain ⟨v, hv, h⟩ := h.exists
  obtain ⟨w, hw, h⟩ := h.exists
  exact ⟨v, w, hv, hw, h⟩

/-- A closed instance of "`x` succeeds, and its result satisfies `P`" is decided by one evaluation of `x` followed by
    the checks on the result.  Not an instance: switched on (`attribute [local instance]`) by the files that state
    such instances. -/
@[reducible] def decExistsOk {α : Type} (x : R α) (P : α → Prop) [∀ u, Decidable (P u)] :
    Decidable (∃ u, x = .ok u ∧ P u) := decidable_of_iff _ (okAnd_iff x P)

/-! ### `partition`, `find` as views of the first occurrence -/

theorem partition_eq (c : Nat) (s : Str) :
    partition c s = (s.takeWhile (· ≠ c), decide (c ∈ s), (s.dropWhile (· ≠ c)).drop 1) := by
  induction s with
  | nil => simp [partition]
  | cons x xs ih =>
    by_cases h : x = c
    · subst h; simp [partition]
    · have h' : ¬ c = x := fun e => h e.symm
      simp [partition, ih, h, h']

theorem find_eq (c : Nat) (s : Str) :
    find c s = if c ∈ s then some (s.takeWhile (· ≠ c)).length else none := by
  induction s with
  | nil => simp [find]
  | cons x xs ih =>
    by_cases h : x = c
    · subst h; simp [find]
    · have h' : ¬ c = x := fun e => h e.symm
      simp only [find, h, ↓reduceIte, ih, List.mem_cons, h', false_or]
      split <;> simp [h]

theorem take_takeWhile_length (p : Nat → Bool) (s : Str) :
    s.take (s.takeWhile p).length = s.takeWhile p := by
  conv => lhs; arg 2; rw [← List.takeWhile_append_dropWhile (p := p) (l := s)]
  exact List.take_left' rfl

theorem drop_takeWhile_length (p : Nat → Bool) (s : Str) :
    s.drop (s.takeWhile p).length = s.dropWhile p := by
  conv => lhs; arg 2; rw [← List.takeWhile_append_dropWhile (p := p) (l := s)]
  exact List.drop_left' rfl

/-- the remainder after the longest `c`-free prefix is empty or starts with `c` -/
theorem dropWhile_ne_cases (c : Nat) (s : Str) :
    (c ∉ s ∧ s.dropWhile (· ≠ c) = []) ∨
    (c ∈ s ∧ s.dropWhile (· ≠ c) = c :: (s.dropWhile (· ≠ c)).drop 1) := by
  induction s with
  | nil => simp
  | cons x xs ih =>
    by_cases h : x = c
    · subst h; simp
    · have h' : ¬ c = x := fun e => h e.symm
      simpa [List.dropWhile_cons, h, h'] using ih

theorem takeWhile_ne_of_not_mem {c : Nat} {s : Str} (h : c ∉ s) : s.takeWhile (· ≠ c) = s := by
  induction s with
  | nil => rfl
  | cons x xs ih =>
    simp only [List.mem_cons, not_or] at h
    have h' : ¬ x = c := fun e => h.1 e.symm
    have := ih h.2
    simp only [List.takeWhile_cons, ne_eq, h', not_false_eq_true, decide_true, ↓reduceIte]
    rw [show (fun x => decide (x ≠ c)) = (fun x => decide ¬ x = c) from rfl] at this
    rw [this]

theorem not_mem_takeWhile_ne (c : Nat) (s : Str) : c ∉ s.takeWhile (· ≠ c) := by
  induction s with
  | nil => simp
  | cons x xs ih =>
    by_cases h : x = c
    · subst h; simp
    · have h' : ¬ c = x := fun e => h e.symm
      simpa [List.takeWhile_cons, h, h'] using ih


theorem mem_takeWhile_imp (p : Nat → Bool) (s : Str) (x : Nat) (h : x ∈ s.takeWhile p) : p x = true :=
  List.all_eq_true.1 List.all_takeWhile x h

theorem dropWhile_ne_of_not_mem {c : Nat} {s : Str} (h : c ∉ s) : s.dropWhile (· ≠ c) = [] := by
  rcases dropWhile_ne_cases c s with ⟨_, hd⟩ | ⟨hm, _⟩
  · exact hd
  · exact absurd hm h

theorem not_mem_takeWhile_of_not_mem {c : Nat} {s : Str} (p : Nat → Bool) (h : c ∉ s) : c ∉ s.takeWhile p :=
  fun hm => h (List.IsPrefix.mem hm (List.takeWhile_prefix p))

/-! ### "empty or starts with a character satisfying P": where a `takeWhile` stops -/

def HeadP (P : Nat → Prop) (b : Str) : Prop := ∀ x, b.head? = some x → P x

theorem headP_nil (P : Nat → Prop) : HeadP P [] := by intro x h; simp at h

theorem headP_cons {P : Nat → Prop} {x : Nat} (t : Str) (h : P x) : HeadP P (x :: t) := by
  intro y hy; simp at hy; subst hy; exact h

theorem headP_mono {P Q : Nat → Prop} {b : Str} (hPQ : ∀ x, P x → Q x) (h : HeadP P b) : HeadP Q b :=
  fun x hx => hPQ x (h x hx)

theorem headP_append {P : Nat → Prop} {a b : Str} (ha : HeadP P a) (hb : HeadP P b) : HeadP P (a ++ b) := by
  cases a with
  | nil => simpa using hb
  | cons x t => intro y hy; exact ha y (by simpa using hy)

theorem headP_dropWhile (p : Nat → Bool) (l : Str) : HeadP (fun x => p x = false) (l.dropWhile p) := by
  intro x hx
  have := List.head?_dropWhile_not p l
  rw [hx] at this
  simpa using this

theorem takeWhile_stop (p : Nat → Bool) (a b : Str) (ha : ∀ c ∈ a, p c = true)
    (hb : HeadP (fun x => p x = false) b) : (a ++ b).takeWhile p = a := by
  rw [List.takeWhile_append_of_pos ha]
  cases b with
  | nil => simp
  | cons x t =>
    have := hb x rfl
    simp [this]

theorem dropWhile_stop (p : Nat → Bool) (a b : Str) (ha : ∀ c ∈ a, p c = true)
    (hb : HeadP (fun x => p x = false) b) : (a ++ b).dropWhile p = b := by
  rw [List.dropWhile_append_of_pos ha]
  cases b with
  | nil => simp
  | cons x t =>
    have := hb x rfl
    simp [this]

/-- the text up to the first `c` and from it on, when what precedes has no `c` -/
theorem span_first {c : Nat} {a : Str} (h : c ∉ a) (b : Str) :
    (a ++ c :: b).takeWhile (· ≠ c) = a ∧ (a ++ c :: b).dropWhile (· ≠ c) = c :: b :=
  have ha : ∀ x ∈ a, decide (x ≠ c) = true := fun _ hx => decide_eq_true (fun e => h (e ▸ hx))
  ⟨takeWhile_stop _ a _ ha (headP_cons _ (by simp)),
   dropWhile_stop _ a _ ha (headP_cons _ (by simp))⟩

/-- `rpartition` at a character that occurs: the split at the last occurrence -/
theorem rpartition_mem {c : Nat} {s : Str} (h : c ∈ s) :
    s = (rpartition c s).1 ++ [c] ++ (rpartition c s).2.2 ∧ c ∉ (rpartition c s).2.2 := by
  have hr : c ∈ s.reverse := List.mem_reverse.2 h
  unfold rpartition
  simp only [partition_eq, hr, decide_true, ↓reduceIte]
  rcases dropWhile_ne_cases c s.reverse with ⟨hm, _⟩ | ⟨_, hd⟩
  · exact absurd hr hm
  · constructor
    · have := List.takeWhile_append_dropWhile (p := (· ≠ c)) (l := s.reverse)
      rw [hd] at this
      have := congrArg List.reverse this
      simp only [List.reverse_append, List.reverse_cons, List.reverse_reverse] at this
      exact this.symm
    · intro hm
      exact not_mem_takeWhile_ne c s.reverse (List.mem_reverse.1 hm)

/-- `rpartition` at a character that does not occur: Python gives `("", "", s)` -/
theorem rpartition_not_mem {c : Nat} {s : Str} (h : c ∉ s) : rpartition c s = ([], false, s) := by
  have hr : c ∉ s.reverse := fun hm => h (List.mem_reverse.1 hm)
  unfold rpartition
  simp only [partition_eq, hr, decide_false]
  rfl

theorem rpartition_snd_snd_of_mem_false {c : Nat} {s : Str} (h : mem c s = false) :
    (rpartition c s).2.2 = s := by
  rw [mem_eq] at h
  rw [rpartition_not_mem (by simpa using h)]

/-- the part after the last `c` is a part of the string -/
theorem mem_of_mem_rpartition_snd_snd {c x : Nat} {s : Str} (h : x ∈ (rpartition c s).2.2) : x ∈ s := by
  by_cases hc : c ∈ s
  · have := (rpartition_mem hc).1
    rw [this]; simp [h]
  · rwa [rpartition_not_mem hc] at h

theorem mem_rpartition_snd_snd_false {c x : Nat} {s : Str} (h : mem x s = false) :
    mem x (rpartition c s).2.2 = false := by
  rw [mem_eq] at h ⊢
  have h' : x ∉ s := by simpa using h
  simpa using fun hm => h' (mem_of_mem_rpartition_snd_snd hm)

/-! ### cleaning -/

theorem lstripSet_eq (chars s : Str) : lstripSet chars s = s.dropWhile (fun c => mem c chars) := by
  induction s with
  | nil => rfl
  | cons x xs ih =>
    by_cases h : mem x chars = true
    · simp [lstripSet, h, ih]
    · simp [lstripSet, h]

theorem mem_stripSet (c : Nat) : mem c Gen.stripSet = decide (c ≤ 32) := by
  by_cases h : c ≤ 32
  · have : ∀ c, c ≤ 32 → mem c Gen.stripSet = true := by decide
    simp [this c h, h]
  · have hall : ∀ x ∈ Gen.stripSet, x ≤ 32 := by decide
    have : mem c Gen.stripSet = false := by
      rw [mem_eq]
      simp only [decide_eq_false_iff_not]
      exact fun hm => h (hall c hm)
    simp [this, h]

theorem mem_removeSet (c : Nat) : (!mem c Gen.removeSet) = decide (c ≠ 9 ∧ c ≠ 10 ∧ c ≠ 13) := by
  have h1 : ∀ x ∈ Gen.removeSet, x = 9 ∨ x = 10 ∨ x = 13 := by decide
  have h2 : 9 ∈ Gen.removeSet ∧ 10 ∈ Gen.removeSet ∧ 13 ∈ Gen.removeSet := by decide
  rw [mem_eq]
  by_cases hm : c ∈ Gen.removeSet
  · have := h1 c hm
    simp only [hm, decide_true, Bool.not_true]
    symm
    simp only [decide_eq_false_iff_not]
    omega
  · have : c ≠ 9 ∧ c ≠ 10 ∧ c ≠ 13 := by
      refine ⟨?_, ?_, ?_⟩ <;> (intro e; subst e; simp [h2] at hm)
    simp [hm, this]

/-! ### the scheme scan -/

theorem splitScheme_eq (url : Str) : splitScheme url = Rfc.schemeOf Gen.schemeChars url := by
  unfold splitScheme Rfc.schemeOf
  rw [find_eq]
  rcases dropWhile_ne_cases 58 url with ⟨hm, hd⟩ | ⟨hm, hd⟩
  · simp only [hm, ↓reduceIte]
    rw [hd]
  · simp only [hm, ↓reduceIte, take_takeWhile_length]
    rw [hd]
    simp only
    have e1 : url.drop ((url.takeWhile (· ≠ 58)).length + 1) = (url.dropWhile (· ≠ 58)).drop 1 := by
      rw [← drop_takeWhile_length, List.drop_drop]
    rw [e1]
    generalize url.takeWhile (· ≠ 58) = pre
    cases pre with
    | nil => simp
    | cons a t => simp [mem]

/-! ### the authority scan -/

theorem authorityEnd_eq (body : Str) :
    authorityEnd body = (body.takeWhile (fun c => !Rfc.isDelim3 c)).length := by
  induction body with
  | nil => rfl
  | cons c t ih =>
    by_cases h : c = 47 ∨ c = 63 ∨ c = 35
    · have : Rfc.isDelim3 c = true := by simpa [Rfc.isDelim3, or_assoc] using h
      simp [authorityEnd, h, this]
    · have : Rfc.isDelim3 c = false := by simpa [Rfc.isDelim3, and_assoc] using h
      simp [authorityEnd, h, this, ih]

theorem take_authorityEnd (body : Str) :
    body.take (authorityEnd body) = body.takeWhile (fun c => !Rfc.isDelim3 c) := by
  rw [authorityEnd_eq, take_takeWhile_length]

theorem drop_authorityEnd (body : Str) :
    body.drop (authorityEnd body) = body.dropWhile (fun c => !Rfc.isDelim3 c) := by
  rw [authorityEnd_eq, drop_takeWhile_length]

theorem not_delim_mem_authority {c : Nat} (hc : Rfc.isDelim3 c = true) (body : Str) :
    c ∉ body.takeWhile (fun c => !Rfc.isDelim3 c) := by
  intro h
  have := mem_takeWhile_imp _ _ _ h
  simp [hc] at this

/-- a delimiter occurs in the body iff it occurs after the authority -/
theorem mem_body_iff {c : Nat} (hc : Rfc.isDelim3 c = true) (body : Str) :
    c ∈ body ↔ c ∈ body.dropWhile (fun c => !Rfc.isDelim3 c) := by
  have := not_delim_mem_authority hc body
  conv => lhs; rw [← List.takeWhile_append_dropWhile (p := fun c => !Rfc.isDelim3 c) (l := body)]
  rw [List.mem_append]
  exact ⟨fun h => h.resolve_left this, Or.inr⟩


/-! ### Appendix B cut in three stages -/

/-- the `(//([^/?#]*))?` group -/
def authOf (r1 : Str) : Str × Str :=
  match r1 with
  | 47 :: 47 :: r => (r.takeWhile (fun c => !Rfc.isDelim3 c), r.dropWhile (fun c => !Rfc.isDelim3 c))
  | _ => ([], r1)

/-- the `([^?#]*)(\?([^#]*))?(#(.*))?` groups: (path, query, fragment) -/
def tailOf (r2 : Str) : Str × Str × Str :=
  let path := r2.takeWhile (fun c => !Rfc.isDelim2 c)
  let r3 := r2.dropWhile (fun c => !Rfc.isDelim2 c)
  let (query, r4) :=
    match r3 with
    | 63 :: r => (r.takeWhile (· ≠ 35), r.dropWhile (· ≠ 35))
    | _ => ([], r3)
  let fragment := match r4 with
    | 35 :: r => r
    | _ => []
  (path, query, fragment)

theorem appendixB_eq (sc s : Str) :
    Rfc.appendixB sc s =
      { scheme := (Rfc.schemeOf sc s).1,
        authority := (authOf (Rfc.schemeOf sc s).2).1,
        path := (tailOf (authOf (Rfc.schemeOf sc s).2).2).1,
        query := (tailOf (authOf (Rfc.schemeOf sc s).2).2).2.1,
        fragment := (tailOf (authOf (Rfc.schemeOf sc s).2).2).2.2 } := by
  unfold Rfc.appendixB authOf tailOf
  rfl

theorem authOf_eq (r1 : Str) :
    authOf r1 = if r1.take 2 = [47, 47] then
        ((r1.drop 2).takeWhile (fun c => !Rfc.isDelim3 c), (r1.drop 2).dropWhile (fun c => !Rfc.isDelim3 c))
      else ([], r1) := by
  unfold authOf
  split
  · simp
  · rename_i h
    have : ¬ r1.take 2 = [47, 47] := by
      intro e
      apply h (r1.drop 2)
      rw [← List.take_append_drop 2 r1, e]; simp
    simp [this]

/-- a delimiter occurs in `r1` iff it occurs after the authority -/
theorem mem_authOf_rest {c : Nat} (hc : Rfc.isDelim3 c = true) (h47 : c ≠ 47) (r1 : Str) :
    c ∈ r1 ↔ c ∈ (authOf r1).2 := by
  unfold authOf
  split
  · simp only [List.mem_cons, h47, false_or]
    exact mem_body_iff hc _
  · rfl

theorem fragOf_dropWhile (t : Str) :
    (match t.dropWhile (· ≠ 35) with
      | 35 :: r => r
      | _ => []) = (t.dropWhile (· ≠ 35)).drop 1 := by
  rcases dropWhile_ne_cases 35 t with ⟨_, hd⟩ | ⟨_, hd⟩
  · rw [hd]; rfl
  · rw [hd]; simp

/-- left-to-right reading = cut at the first '#', then cut what is before it at the first '?' -/
theorem tailOf_eq (r2 : Str) :
    tailOf r2 =
      ((r2.takeWhile (· ≠ 35)).takeWhile (· ≠ 63),
       ((r2.takeWhile (· ≠ 35)).dropWhile (· ≠ 63)).drop 1,
       (r2.dropWhile (· ≠ 35)).drop 1) := by
  induction r2 with
  | nil => simp [tailOf]
  | cons c t ih =>
    by_cases h35 : c = 35
    · subst h35
      simp [tailOf, Rfc.isDelim2]
    · by_cases h63 : c = 63
      · subst h63
        have := fragOf_dropWhile t
        simp only [tailOf, Rfc.isDelim2]
        simp only [List.takeWhile_cons, List.dropWhile_cons]
        simpa using this
      · have hd : Rfc.isDelim2 c = false := by simp [Rfc.isDelim2, h35, h63]
        simp only [tailOf] at ih ⊢
        simp only [List.takeWhile_cons, List.dropWhile_cons, hd]
        simp only [Prod.mk.injEq] at ih
        simpa [h35, h63] using ih

end Yarl.ParseLemmas

namespace Yarl
open ParseLemmas

/-! ### `partition`: where its parts come from -/

theorem partition_fst_sub (c : Nat) (s : Str) : ∀ x ∈ (partition c s).1, x ∈ s := by
  rw [partition_eq]
  exact fun x hx => (List.takeWhile_sublist _).subset hx

theorem partition_snd_sub (c : Nat) (s : Str) : ∀ x ∈ (partition c s).2.2, x ∈ s := by
  rw [partition_eq]
  exact fun x hx => ((List.drop_sublist _ _).trans (List.dropWhile_sublist _)).subset hx

theorem partition_join (c : Nat) (s : Str) :
    s = (partition c s).1 ++ (if (partition c s).2.1 then c :: (partition c s).2.2 else []) := by
  rw [partition_eq]
  rcases dropWhile_ne_cases c s with ⟨hm, hd⟩ | ⟨hm, hd⟩
  · rw [takeWhile_ne_of_not_mem hm]
    simp [hm]
  · simp only [hm, decide_true, if_true]
    rw [← hd, List.takeWhile_append_dropWhile]

theorem partition_found (c : Nat) (a b : Str) (h : c ∉ a) :
    partition c (a ++ c :: b) = (a, true, b) := by
  rw [partition_eq, (span_first h b).1, (span_first h b).2]
  simp

theorem rpartition_found (c : Nat) (a b : Str) (h : c ∉ b) :
    rpartition c (a ++ c :: b) = (a, true, b) := by
  unfold rpartition
  have : (a ++ c :: b).reverse = b.reverse ++ c :: a.reverse := by simp
  rw [this, partition_found c b.reverse a.reverse (by simpa using h)]
  simp

theorem partition_notFound (c : Nat) (a : Str) (h : c ∉ a) :
    partition c a = (a, false, []) := by
  rw [partition_eq, takeWhile_ne_of_not_mem h, dropWhile_ne_of_not_mem h]
  simp [h]

/-- the separator was not found: the whole text is the first part -/
theorem partition_of_nosep {c : Nat} {s : Str} (h : (partition c s).2.1 = false) : partition c s = (s, false, []) := by
  rw [partition_eq] at h
  exact partition_notFound c s (of_decide_eq_false h)

/-! ### `int()` on the port text -/

namespace ParseLemmas

theorem pyInt_cases (o : Oracles) (s : Str) :
    (∃ v, pyInt o s = .ok v) ∨ (∃ f a, pyInt o s = .error (.oracleMiss f a)) := by
  unfold pyInt
  split
  · exact Or.inl ⟨_, rfl⟩
  · cases o.intU s with
    | none => exact Or.inr ⟨_, _, rfl⟩
    | some v => exact Or.inl ⟨_, rfl⟩

end ParseLemmas

end Yarl
