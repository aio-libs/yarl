/-
  DecLemmas.lean — helper lemmas for C05 and C06.

  For C05 (backend interchangeability): one quoter / unquoter call gives the same result on both backends; the pieces
  cut out of a Python string are Python strings; query arguments made of Python strings; the URL-level congruences
  (`requoteOpt`, `makeNetloc`).

  For C06 (decoded views / read-back): what a quoter writes (`quote_wf_eq_cOut`, one ASCII character `quote_ascii`,
  never a ':' and never nothing); what ONE character turns into in an unquoter (`uqPlain`, `uqEmit`), in general
  and as closed forms for the four generated unquoters; and what an unquoter reads back from the output of a quoter
  (`uqLoop_cOut_gen`, `readback_pair`).  The steps of the unquoter loop itself are in Lemmas/Readback.lean.
-/
import YarlProofs.Defs
import YarlProofs.Lemmas.QuoteEquiv
import YarlProofs.Lemmas.UnquoteEquiv
import YarlProofs.Lemmas.GenTabs
import YarlProofs.Lemmas.Readback
import YarlProofs.Lemmas.ParseLemmas
import YarlProofs.C07
import YarlProofs.C12Readback
import YarlProofs.Lemmas.OutLang
import YarlProofs.Lemmas.Basics
namespace Yarl
namespace DecLemmas
open Yarl.ParseLemmas

/-! ### backend independence of one quoter / unquoter call -/

theorem qrun_backend (a : QArgs) (ha : a ∈ Gen.allQuoters) (s : Str) (hs : PyStr s) :
    a.run .py s = a.run .c s := by
  show quotePy a.tabPy s = quoteC a.tabC s
  rw [← gen_tab_backend_eq a ha]
  exact quotePy_eq_quoteC a.tabPy (gen_tab_wf a ha .py) (fun _ => gen_space_unsafe a ha .py) s hs

theorem utab_backend (a : UArgs) : a.tab .py = a.tab .c := by
  unfold UArgs.tab
  show UTab.mk _ _ _ defaultQuoterArgs.tabPy defaultQsQuoterArgs.tabPy =
    UTab.mk _ _ _ defaultQuoterArgs.tabC defaultQsQuoterArgs.tabC
  rw [default_tab_backend_eq.1, default_tab_backend_eq.2]

theorem uqrun_backend (a : UArgs) (s : Str) : a.run .py s = a.run .c s := by
  show unquotePy (a.tab .py) s = unquoteC (a.tab .c) s
  rw [← utab_backend a]
  exact unquotePy_eq_unquoteC (a.tab .py) (default_tabs_wf .py).1 (default_tabs_wf .py).2
    (fun _ => (default_space_unsafe .py).1) (fun _ => (default_space_unsafe .py).2) s

theorem q_backend (o : Oracles) (a : QArgs) (ha : a ∈ Gen.allQuoters) (s : Str) (hs : PyStr s) :
    q { b := .py, o := o } a s = q { b := .c, o := o } a s := qrun_backend a ha s hs

theorem uq_backend (o : Oracles) (a : UArgs) (s : Str) :
    uq { b := .py, o := o } a s = uq { b := .c, o := o } a s := uqrun_backend a s

/-! ### the pieces cut out of a Python string are Python strings -/

theorem pyStr_takeWhile (p : Nat → Bool) {s : Str} (hs : PyStr s) : PyStr (s.takeWhile p) :=
  pyStr_of_sublist (List.takeWhile_sublist p) hs

theorem pyStr_dropWhile (p : Nat → Bool) {s : Str} (hs : PyStr s) : PyStr (s.dropWhile p) :=
  pyStr_of_sublist (List.dropWhile_sublist p) hs

theorem pyStr_drop (n : Nat) {s : Str} (hs : PyStr s) : PyStr (s.drop n) :=
  pyStr_of_sublist (List.drop_sublist n s) hs

theorem pyStr_take (n : Nat) {s : Str} (hs : PyStr s) : PyStr (s.take n) :=
  pyStr_of_sublist (List.take_sublist n s) hs

theorem pyStr_filter (p : Nat → Bool) {s : Str} (hs : PyStr s) : PyStr (s.filter p) :=
  pyStr_of_sublist List.filter_sublist hs

theorem pyStr_reverse {s : Str} (hs : PyStr s) : PyStr s.reverse :=
  fun c hc => hs c (List.mem_reverse.1 hc)

theorem pyStr_cleanUrl {s : Str} (hs : PyStr s) : PyStr (cleanUrl s) := by
  unfold cleanUrl
  rw [lstripSet_eq]
  exact pyStr_filter _ (pyStr_dropWhile _ hs)

theorem pyStr_partition_fst (c : Nat) {s : Str} (hs : PyStr s) : PyStr (partition c s).1 := by
  rw [partition_eq]; exact pyStr_takeWhile _ hs

theorem pyStr_partition_snd (c : Nat) {s : Str} (hs : PyStr s) : PyStr (partition c s).2.2 := by
  rw [partition_eq]; exact pyStr_drop 1 (pyStr_dropWhile _ hs)

theorem pyStr_rpartition_fst (c : Nat) {s : Str} (hs : PyStr s) : PyStr (rpartition c s).1 := by
  unfold rpartition
  simp only
  split
  · exact pyStr_reverse (pyStr_partition_snd c (pyStr_reverse hs))
  · exact pyStr_nil

theorem pyStr_schemeOf_rest (sc : Str) {s : Str} (hs : PyStr s) : PyStr (Rfc.schemeOf sc s).2 := by
  unfold Rfc.schemeOf
  simp only
  split
  · rename_i rest hpost
    split
    · have := pyStr_dropWhile (· ≠ 58) hs
      rw [hpost] at this
      exact fun c hc => this c (List.mem_cons_of_mem _ hc)
    · exact hs
  · exact hs

theorem pyStr_authOf {r : Str} (hr : PyStr r) : PyStr (authOf r).1 ∧ PyStr (authOf r).2 := by
  rw [authOf_eq]
  split
  · exact ⟨pyStr_takeWhile _ (pyStr_drop 2 hr), pyStr_dropWhile _ (pyStr_drop 2 hr)⟩
  · exact ⟨pyStr_nil, hr⟩

theorem pyStr_tailOf {r : Str} (hr : PyStr r) :
    PyStr (tailOf r).1 ∧ PyStr (tailOf r).2.1 ∧ PyStr (tailOf r).2.2 := by
  rw [tailOf_eq]
  exact ⟨pyStr_takeWhile _ (pyStr_takeWhile _ hr),
    pyStr_drop 1 (pyStr_dropWhile _ (pyStr_takeWhile _ hr)),
    pyStr_drop 1 (pyStr_dropWhile _ hr)⟩

/-- every part cut out by `split_url` (other than the lower-cased scheme) is made of characters of the input -/
theorem pyStr_splitUrl (o : Oracles) (s : Str) (hs : PyStr s) (p : Parts) (h : splitUrl o s = .ok p) :
    PyStr p.netloc ∧ PyStr p.path ∧ PyStr p.query ∧ PyStr p.fragment := by
  have h5 := C07_split o s p h
  rw [appendixB_eq] at h5
  have hc := pyStr_cleanUrl hs
  have h1 := pyStr_schemeOf_rest Gen.schemeChars hc
  have h2 := pyStr_authOf h1
  have h3 := pyStr_tailOf h2.2
  simp only [toParts5, Rfc.Parts5.mk.injEq] at h5
  obtain ⟨_, e1, e2, e3, e4⟩ := h5
  rw [e1, e2, e3, e4]
  exact ⟨h2.1, h3.1, h3.2.1, h3.2.2⟩

theorem pyStr_orNone {s : Str} (hs : PyStr s) : ∀ t, orNone s = some t → PyStr t := by
  intro t ht
  unfold orNone at ht
  split at ht
  · cases ht
  · cases ht; exact hs

/-- user and password cut out by `split_netloc` are made of characters of the netloc -/
theorem pyStr_splitNetloc (o : Oracles) (n : Str) (hn : PyStr n) (r : NetlocParts)
    (h : splitNetloc o n = .ok r) :
    (∀ t, r.user = some t → PyStr t) ∧ (∀ t, r.password = some t → PyStr t) := by
  obtain ⟨pt, _, rfl⟩ := NetlocLemmas.splitNetloc_ok_iff.1 h
  show (∀ t, (userTriple n).1.bind orNone = some t → PyStr t) ∧ (∀ t, (userTriple n).2.1 = some t → PyStr t)
  unfold userTriple
  split
  · simp
  · have hu := pyStr_rpartition_fst 64 hn
    constructor
    · intro t ht
      simp only [Option.bind_some] at ht
      exact pyStr_orNone (pyStr_partition_fst 58 hu) t ht
    · intro t ht
      simp only at ht
      split at ht
      · cases ht; exact pyStr_partition_snd 58 hu
      · cases ht

/-! ### query arguments made of Python strings -/

def QValPy : QVal → Prop
  | .str s => PyStr s
  | .float txt _ => PyStr txt
  | _ => True

def QItemPy : QItem → Prop
  | .one v => QValPy v
  | .many vs => ∀ v ∈ vs, QValPy v

def QArgPy : QArg → Prop
  | .str s => PyStr s
  | .mapping items => ∀ p ∈ items, PyStr p.1 ∧ QItemPy p.2
  | .pairs items => ∀ p ∈ items, PyStr p.1 ∧ QItemPy p.2
  | _ => True

theorem queryVar_pyStr (v : QVal) (hv : QValPy v) (s : Str) (h : queryVar v = .ok s) : PyStr s := by
  cases v with
  | str t => simp only [queryVar, Except.ok.injEq] at h; subst h; exact hv
  | int n =>
    simp only [queryVar, Except.ok.injEq] at h; subst h
    exact (QsLemmas.pyStr_of_ascii _ (QsLemmas.intToStr_ascii n)).1
  | float txt kind =>
    simp only [queryVar] at h
    split at h
    · simp only [Except.ok.injEq] at h; subst h; exact hv
    · cases h
  | bool => cases h
  | none => cases h
  | other => cases h

theorem pairStr_backend (k : Str) (hk : PyStr k) (v : QVal) (hv : QValPy v) :
    pairStr .py k v = pairStr .c k v := by
  unfold pairStr
  cases h : queryVar v with
  | error e => rfl
  | ok vs =>
    simp only [bind, Except.bind, pure, Except.pure]
    rw [qrun_backend Gen.QUERY_PART_QUOTER mem_QUERY_PART_QUOTER k hk,
      qrun_backend Gen.QUERY_PART_QUOTER mem_QUERY_PART_QUOTER vs (queryVar_pyStr v hv vs h)]

theorem mapM_congr_mem {α β : Type} (f g : α → R β) (l : List α) (h : ∀ x ∈ l, f x = g x) :
    l.mapM f = l.mapM g := by
  induction l with
  | nil => rfl
  | cons a t ih =>
    rw [List.mapM_cons, List.mapM_cons, h a (by simp), ih (fun x hx => h x (by simp [hx]))]

theorem getStrQuery_backend (a : QArg) (ha : QArgPy a) : getStrQuery .py a = getStrQuery .c a := by
  cases a with
  | none => rfl
  | str s =>
    simp only [getStrQuery]
    rw [qrun_backend Gen.QUERY_QUOTER mem_QUERY_QUOTER s ha]
  | mapping items =>
    simp only [getStrQuery, strQueryFromSeqIterable]
    rw [mapM_congr_mem _ (fun (x : Str × QItem) => (match x.snd with
            | .one v => do pure [← pairStr .c x.fst v]
            | .many vs => vs.mapM (pairStr .c x.fst) : R (List Str))) items]
    · rfl
    · intro p hp
      obtain ⟨hk, hi⟩ := ha p hp
      obtain ⟨k, it⟩ := p
      cases it with
      | one v => simp only; rw [pairStr_backend k hk v hi]
      | many vs =>
        simp only
        exact mapM_congr_mem _ _ vs (fun v hv => pairStr_backend k hk v (hi v hv))
  | pairs items =>
    simp only [getStrQuery, strQueryFromIterable]
    rw [mapM_congr_mem _ (fun (x : Str × QItem) => (match x.snd with
            | .one v => pairStr .c x.fst v
            | .many _ => .error .typeError : R Str)) items]
    · rfl
    · intro p hp
      obtain ⟨hk, hi⟩ := ha p hp
      obtain ⟨k, it⟩ := p
      cases it with
      | one v => simp only; rw [pairStr_backend k hk v hi]
      | many vs => rfl
  | bytes e => rfl
  | other => rfl
  | noArgs => rfl

/-! ### URL-level congruences -/

theorem requoteOpt_backend (o : Oracles) (x : Option Str) (hx : ∀ t, x = some t → PyStr t) :
    requoteOpt { b := .py, o := o } x = requoteOpt { b := .c, o := o } x := by
  cases x with
  | none => rfl
  | some t =>
    simp only [requoteOpt, Option.map_some]
    split
    · rfl
    · rw [q_backend o Gen.REQUOTER mem_REQUOTER t (hx t rfl)]

/-- with `encode = False` the quoter argument of `make_netloc` is never called -/
theorem makeNetloc_noenc (f g : Str → Str) (u p h : Option Str) (port : Option Nat) :
    makeNetloc f u p h port false = makeNetloc g u p h port false := by
  unfold makeNetloc
  cases h with
  | none => rfl
  | some h =>
    simp only
    cases u <;> cases p <;> simp

theorem makeNetloc_congr (f g : Str → Str) (u p h : Option Str) (port : Option Nat) (enc : Bool)
    (hu : ∀ t, u = some t → f t = g t) (hp : ∀ t, p = some t → f t = g t) :
    makeNetloc f u p h port enc = makeNetloc g u p h port enc := by
  unfold makeNetloc
  cases h with
  | none => rfl
  | some h =>
    cases u with
    | none =>
      cases p with
      | none => rfl
      | some pw => simp only [hp pw rfl]
    | some us =>
      cases p with
      | none => simp only [hu us rfl]
      | some pw => simp only [hu us rfl, hp pw rfl]

/-! ### what a quoter writes -/

theorem quote_wf_eq_cOut (b : Backend) (q : QTab) (hq : q.WF) (hsp : q.qs = true → q.safe 32 = false)
    (s : Str) (hs : PyStr s) : quote b q s = cOut q (stripSurr s) := by
  cases b with
  | py =>
    show quotePy q s = _
    rw [quotePy_eq_quoteC q hq hsp s hs, quoteC_eq_cOut q hq hsp s hs]
  | c => exact quoteC_eq_cOut q hq hsp s hs

/-- what a quoter writes for one ASCII character (other than a space under `qs`): the character when it is literal-safe,
    its escape otherwise. -/
theorem quote_ascii (b : Backend) (q : QTab) (hq : q.WF) (hsp : q.qs = true → q.safe 32 = false)
    (c : Nat) (hc : c < 128) (h32 : ¬(q.qs = true ∧ c = 32)) :
    quote b q [c] = if q.safe c = true then [c] else pct c := by
  have hpy : PyStr [c] := pyStr_singleton (by omega)
  have hsur : stripSurr [c] = [c] := by
    apply QsLemmas.stripSurr_id
    intro x hx
    simp only [List.mem_singleton] at hx
    subst hx
    simp [isSurrogate]
    omega
  have hw : cWriteOut q c = if q.safe c = true then [c] else pct c := by
    simp only [cWriteOut, h32, if_false, hc, true_and]
    split
    · rfl
    · simp [writeUtf8, utf8_ascii hc]
  rw [quote_wf_eq_cOut b q hq hsp [c] hpy, hsur, ← hw]
  by_cases h : c = 37 ∧ q.requote = true
  · obtain ⟨rfl, hr⟩ := h
    rw [QuoteEquiv.cOut_noesc q hr (by simp [takeEscape]), cOut]
    simp
  · rw [QuoteEquiv.cOut_plain q h, cOut]
    simp

theorem utf8s_eq_nil (t : Str) (ht : PyStr t) (hn : NoSurrogate t) (h : utf8s t = []) : t = [] := by
  cases t with
  | nil => rfl
  | cons c r =>
    rw [QuoteEquiv.utf8s_cons] at h
    have := utf8_length_pos c (ht c (by simp)) (hn c (by simp))
    have h2 := (List.append_eq_nil_iff.mp h).1
    rw [h2] at this
    simp at this

theorem quoter_no_colon (b : Backend) (s : Str) (hs : PyStr s) : 58 ∉ Gen.QUOTER.run b s := by
  have hmem := mem_QUOTER
  have hwf := gen_tab_wf _ hmem b
  rw [QsLemmas.run_eq_cOut _ hmem b s hs]
  have hall := outLang_allowed _ (cOut_outLang _ hwf (stripSurr s))
  have h58 : (Gen.QUOTER.tab b).safe 58 = false := by cases b <;> decide +kernel
  intro hm
  rcases hall 58 hm with h | h | h | h
  · rw [h58] at h; exact absurd h (by decide +kernel)
  · exact absurd h (by decide +kernel)
  · exact absurd h (by decide +kernel)
  · exact absurd h.2 (by decide +kernel)

/-! ### one character through an unquoter

  `uqPlain` is what a character that is no escape turns into, `uqEmit` what a character decoded out of escapes turns
  into.  Only the few characters named in a table (`unsafe`, `ignore`, "+=&;" when `qs`) are treated specially: for
  those the inner quoter is run (a finite computation), every other character is itself. -/

theorem utab_quoter (ua : UArgs) (b : Backend) : (ua.tab b).quoter = defaultQuoterArgs.tab b := rfl

theorem mem_false_of_all_eq {l : Str} {d : Nat} (hl : ∀ x ∈ l, x = d) {c : Nat} (hc : c ≠ d) : mem c l = false := by
  cases hm : mem c l with
  | false => rfl
  | true => exact absurd (hl c (mem_iff.mp hm)) hc

theorem mem_cons_false {c x : Nat} {l : Str} (h : c ≠ x) (hl : mem c l = false) : mem c (x :: l) = false := by
  simp only [mem, List.contains_cons, Bool.or_eq_false_iff, beq_eq_false_iff_ne] at hl ⊢
  exact ⟨h, hl⟩

theorem uqPlain_id (u : UTab) (hqs : u.qs = false) (hun : ∀ x ∈ u.unsafeS, x = 43) (c : Nat) :
    uqPlain u c = [c] := by
  unfold uqPlain
  split
  · rename_i h; subst h; simp [hqs]
  · rename_i h
    simp [mem_false_of_all_eq hun h]

/-- a character named in none of the lists of the table comes out of `uqEmit` as itself -/
theorem uqEmit_other (b : Backend) (u : UTab) (c : Nat) (h1 : u.qs = true → mem c "+=&;".toStr = false)
    (h2 : mem c u.unsafeS = false) (h3 : mem c u.ignoreS = false) : uqEmit b u c = [c] := by
  unfold uqEmit
  rw [if_neg (fun h => by rw [h1 h.1] at h; exact absurd h.2 (by decide)), if_neg (by simp [h2, h3])]

/-! ### the four generated unquoters, character by character -/

theorem uqEmit_UNQUOTER (b : Backend) (c : Nat) : uqEmit b (Gen.UNQUOTER.tab b) c = [c] :=
  uqEmit_other b _ c (fun h => nomatch h) rfl rfl

theorem uqPlain_UNQUOTER (b : Backend) (c : Nat) : uqPlain (Gen.UNQUOTER.tab b) c = [c] :=
  uqPlain_id _ rfl (show ∀ x ∈ ([] : Str), x = 43 by simp) c

theorem uqPlain_PATH_UNQUOTER (b : Backend) (c : Nat) : uqPlain (Gen.PATH_UNQUOTER.tab b) c = [c] :=
  uqPlain_id _ rfl (show ∀ x ∈ [43], x = 43 by simp) c

theorem uqPlain_PATH_SAFE_UNQUOTER (b : Backend) (c : Nat) : uqPlain (Gen.PATH_SAFE_UNQUOTER.tab b) c = [c] :=
  uqPlain_id _ rfl (show ∀ x ∈ [43], x = 43 by simp) c

/-- `unsafe="+"`, but the inner `_Quoter()` writes '+' literally -/
theorem uqEmit_PATH_UNQUOTER (b : Backend) (c : Nat) : uqEmit b (Gen.PATH_UNQUOTER.tab b) c = [c] := by
  by_cases h : c = 43
  · subst h
    cases b <;> decide +kernel
  · exact uqEmit_other b _ c (fun h => nomatch h) (mem_cons_false h rfl) rfl

/-- `ignore="/%"`: these two stay escapes (upper-case hex) -/
theorem uqEmit_PATH_SAFE_UNQUOTER (b : Backend) (c : Nat) :
    uqEmit b (Gen.PATH_SAFE_UNQUOTER.tab b) c = if c = 47 ∨ c = 37 then pct c else [c] := by
  by_cases h : c = 43 ∨ c = 47 ∨ c = 37
  · rcases h with rfl | rfl | rfl <;> cases b <;> decide +kernel
  · simp only [not_or] at h
    rw [if_neg (by omega)]
    exact uqEmit_other b _ c (fun h => nomatch h) (mem_cons_false h.1 rfl)
      (mem_cons_false h.2.1 (mem_cons_false h.2.2 rfl))

theorem uqPlain_QS_UNQUOTER (b : Backend) (c : Nat) :
    uqPlain (Gen.QS_UNQUOTER.tab b) c = [if c = 43 then 32 else c] := by
  by_cases h : c = 43
  · subst h
    rfl
  · rw [if_neg h]
    show (if c = 43 then _ else if mem c [] = true then _ else [c]) = _
    rw [if_neg h]
    rfl

/-- `qs=True`: the four delimiters stay escapes -/
theorem uqEmit_QS_UNQUOTER (b : Backend) (c : Nat) :
    uqEmit b (Gen.QS_UNQUOTER.tab b) c = if c = 43 ∨ c = 61 ∨ c = 38 ∨ c = 59 then pct c else [c] := by
  by_cases h : c = 43 ∨ c = 61 ∨ c = 38 ∨ c = 59
  · rcases h with rfl | rfl | rfl | rfl <;> cases b <;> decide +kernel
  · rw [if_neg h]
    simp only [not_or] at h
    refine uqEmit_other b _ c (fun _ => ?_) rfl rfl
    rw [String.toStr_ofList]
    exact mem_cons_false h.1 (mem_cons_false h.2.1 (mem_cons_false h.2.2.1 (mem_cons_false h.2.2.2 rfl)))

/-! ### unquoting what a quoter wrote -/

open Readback

/-- unquoting what a non-requoting, non-query quoter wrote, for ANY unquoter: character by character -/
theorem uqLoop_cOut_gen (b : Backend) (q : QTab) (u : UTab) (hq : q.WF) (hnr : q.requote = false)
    (hqs : q.qs = false) (t : Str) (ht : PyStr t) (hn : NoSurrogate t) :
    uqLoop b u [] [] (cOut q t) =
      t.flatMap (fun c => if c < 128 ∧ q.safe c = true then uqPlain u c else uqEmit b u c) := by
  rw [uqLoop_cOut_any b q u hq hnr t ht hn]
  simp only [hqs, Bool.false_eq_true, false_and, if_false]

/-- Read-back for a pairing of a generated non-requoting non-query quoter `qa` with a non-query unquoter `ua` whose
    `unsafe` is at most "+" (`hun`) and whose re-escaped characters (`unsafe`, `ignore`) are all literal-safe for `qa`
    (`hsafe`: `qa` never writes them as escapes). -/
theorem readback_pair (qa : QArgs) (hqa : qa ∈ Gen.allQuoters) (ua : UArgs) (b : Backend)
    (hnr : qa.requote = false) (hqs : qa.qs = false) (huqs : ua.qs = false)
    (hun : ∀ x ∈ ua.unsafeS, x = 43)
    (hsafe : ∀ x ∈ ua.unsafeS ++ ua.ignoreS, x < 128 ∧ (qa.tab b).safe x = true)
    (t : Str) (ht : PyStr t) (hn : NoSurrogate t) :
    ua.run b (qa.run b t) = t := by
  rw [QsLemmas.run_eq_cOut qa hqa b t ht, QsLemmas.stripSurr_id t hn]
  show unquote b (ua.tab b) _ = t
  apply unquote_cOut b (qa.tab b) (ua.tab b) (gen_tab_wf qa hqa b)
  · rw [tab_requote]
    exact hnr
  · intro c _ _ _
    exact uqPlain_id (ua.tab b) huqs hun c
  · intro h
    rw [tab_qs, hqs] at h
    exact absurd h (by decide +kernel)
  · intro c _ hc _
    have hnm : ∀ l : Str, (∀ x ∈ l, x ∈ ua.unsafeS ++ ua.ignoreS) → mem c l = false := by
      intro l hl
      cases hm : mem c l with
      | false => rfl
      | true =>
        have := hsafe c (hl c (mem_iff.mp hm))
        rcases hc with hc | hc
        · rw [this.2] at hc; exact absurd hc (by decide +kernel)
        · omega
    exact uqEmit_other b (ua.tab b) c (fun h => absurd (huqs.symm.trans h) Bool.false_ne_true) (hnm ua.unsafeS (fun x hx => List.mem_append_left _ hx))
      (hnm ua.ignoreS (fun x hx => List.mem_append_right _ hx))
  · exact ht
  · exact hn

end DecLemmas
end Yarl
