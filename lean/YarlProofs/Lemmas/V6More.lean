import YarlProofs.C16
/-!
# RFC 5952 §4 as an independent specification, and its equivalence with the model's `ipv6ToStr`

`Yarl.Rfc5952.format` is a 20-line specification of the recommended text form written WITHOUT looking at the
scanning loop of CPython's `_compress_hextets` (which `bestZeroRun` models): it is phrased with "number of
zero fields starting here", "maximum over all positions", "first position reaching the maximum" (`zerosAt`, `longest`,
`firstAt`, which stand in `HostLemmas` with the closed form of the loop, because the text round trip needs them).
-/
namespace Yarl
namespace Rfc5952
/-- §4.1: a 16-bit field is its four hex digits with the leading zeros removed, the last digit always kept -/
def field (x : Nat) : Str :=
  ([x / 4096 % 16, x / 256 % 16, x / 16 % 16].dropWhile (· == 0) ++ [x % 16]).map digit
/-- fields separated by single colons -/
def fields : List Nat → Str
  | [] => []
  | [x] => field x
  | x :: y :: r => field x ++ 58 :: fields (y :: r)
/-- §4.2: "::" replaces the first longest run of zero fields, provided it has at least two fields (§4.2.2) -/
def format (l : List Nat) : Str :=
  if longest l < 2 then fields l
  else fields (l.take (firstAt (longest l) l)) ++ [58, 58] ++ fields (l.drop (firstAt (longest l) l + longest l))
/-- number of (possibly overlapping) occurrences of "::" in a text -/
def countDC : Str → Nat
  | [] => 0
  | c :: r => (if c = 58 ∧ r.head? = some 58 then 1 else 0) + countDC r
end Rfc5952
namespace V6More
open Rfc5952

theorem zerosAt_nil : zerosAt [] = 0 := rfl
open HostLemmas in
/-- `field` is `hexDigits` written with `digit` -/
theorem field_eq_hexLower {x : Nat} (hx : x < 65536) : hexLower x = field x := hexLower_digits hx

/-! ### the colon-joined text -/

open HostLemmas

theorem fields_eq_joinC (l : List Nat) : fields l = joinC 58 (l.map field) := by
  induction l with
  | nil => rfl
  | cons x r ih =>
    cases r with
    | nil => simp [fields, PathLemmas.joinC_cons]
    | cons y r' =>
      rw [fields, ih, List.map_cons, PathLemmas.joinC_cons, List.map_cons, PathLemmas.joinC_cons]
      simp

theorem map_hexLower_eq (l : List Nat) (hx : ∀ x ∈ l, x < 65536) : l.map hexLower = l.map field :=
  List.map_congr_left (fun x h => field_eq_hexLower (hx x h))

theorem joinC_hexLower (l : List Nat) (hx : ∀ x ∈ l, x < 65536) : joinC 58 (l.map hexLower) = fields l := by
  rw [map_hexLower_eq l hx, fields_eq_joinC]

/-- colon-joined sides are the fields around "::" -/
theorem joinC_sides (A B : List Nat) (hA : ∀ x ∈ A, x < 65536) (hB : ∀ x ∈ B, x < 65536) :
    joinC 58 (side A ++ [] :: side B) = fields A ++ [58, 58] ++ fields B := by
  have e : ∀ L : List Nat, (∀ x ∈ L, x < 65536) → joinC 58 (side L) = fields L := by
    intro L hL
    rcases side_spec L with ⟨rfl, h⟩ | ⟨_, h⟩
    · rw [h]
      rfl
    · rw [h]
      exact joinC_hexLower L hL
  rw [← e A hA, ← e B hB]
  obtain ⟨a, ta, ea⟩ := List.exists_cons_of_ne_nil (List.ne_nil_of_length_pos (side_pos A))
  obtain ⟨b, tb, eb⟩ := List.exists_cons_of_ne_nil (List.ne_nil_of_length_pos (side_pos B))
  rw [ea, eb]
  simp [PathLemmas.joinC_cons, flatC_append]

/-! ### facts about the specification -/

theorem zerosAt_replicate_append (m : Nat) (b : List Nat) : m ≤ zerosAt (List.replicate m 0 ++ b) := by
  induction m with
  | zero => omega
  | succ k ih => simp only [List.replicate_succ, List.cons_append, zerosAt_cons_zero]; omega

theorem longest_cons_ge (x : Nat) (r : List Nat) : longest r ≤ longest (x :: r) := by
  simp only [longest]; omega

/-- §4.2.3 "longest": no run of zero fields anywhere is longer -/
theorem longest_max {l a b : List Nat} {m : Nat} (h : l = a ++ List.replicate m 0 ++ b) : m ≤ longest l := by
  subst h
  induction a with
  | nil => exact Nat.le_trans (zerosAt_replicate_append m b) (zerosAt_le_longest _)
  | cons x a' ih => exact Nat.le_trans ih (longest_cons_ge _ _)

/-- §4.2.3 "first": no run of at least that length starts earlier -/
theorem firstAt_min {l a b : List Nat} {m n : Nat} (h : l = a ++ List.replicate m 0 ++ b) (hn : n ≤ m) :
    firstAt n l ≤ a.length := by
  subst h
  induction a with
  | nil => rw [firstAt_of_le (Nat.le_trans hn (by simpa using zerosAt_replicate_append m b))]; omega
  | cons x a' ih =>
    simp only [List.cons_append, firstAt, List.length_cons]
    split
    · omega
    · simp only [List.append_assoc] at ih ⊢; omega

/-- §4.2.1 "as much as possible": the selected run cannot be extended on either side -/
theorem chosen_run_maximal (l : List Nat) :
    (l.drop (firstAt (longest l) l + longest l)).head? ≠ some 0 ∧
    (l.take (firstAt (longest l) l)).getLast? ≠ some 0 := by
  obtain ⟨_, hdec⟩ := chosen_run l
  constructor
  · intro hh
    cases hd : l.drop (firstAt (longest l) l + longest l) with
    | nil => rw [hd] at hh; cases hh
    | cons y b' =>
      rw [hd] at hh hdec
      simp only [List.head?_cons, Option.some.injEq] at hh
      subst hh
      have : l = l.take (firstAt (longest l) l) ++ List.replicate (longest l + 1) 0 ++ b' := by
        rw [List.replicate_succ']
        simpa using hdec
      have := longest_max this
      omega
  · intro hh
    obtain ⟨a', ha'⟩ := List.getLast?_eq_some_iff.mp hh
    rw [ha'] at hdec
    have : l = a' ++ List.replicate (longest l + 1) 0 ++ l.drop (firstAt (longest l) l + longest l) := by
      rw [List.replicate_succ]
      simpa using hdec
    have := longest_max this
    omega

/-! ### `ipv6ToStr` is the specification -/

theorem ipv6ToStr_eq_format (l : List Nat) (hx : ∀ x ∈ l, x < 65536) : ipv6ToStr l = format l := by
  rw [ipv6ToStr_closed]
  unfold format
  split
  · exact joinC_hexLower l hx
  · exact joinC_sides _ _ (fun x h => hx x (List.mem_of_mem_take h)) (fun x h => hx x (List.mem_of_mem_drop h))

/-! ### §4.1 / §4.3: the fields -/

theorem field_digits (x : Nat) : ∃ ds : List Nat, field x = ds.map digit ∧ (∀ d ∈ ds, d < 16) ∧
    1 ≤ ds.length ∧ ds.length ≤ 4 ∧ (ds.head? = some 0 → ds = [0]) := by
  refine ⟨hexDigits x, rfl, hexDigits_lt x, (hexDigits_length x).1, (hexDigits_length x).2, ?_⟩
  intro hh
  unfold hexDigits at hh ⊢
  cases hD : [x / 4096 % 16, x / 256 % 16, x / 16 % 16].dropWhile (· == 0) with
  | nil => rw [hD] at hh; simpa using hh
  | cons y D' =>
    exfalso
    have hnot := List.head?_dropWhile_not (· == 0) [x / 4096 % 16, x / 256 % 16, x / 16 % 16]
    rw [hD] at hnot hh
    simp only [List.cons_append, List.head?_cons, Option.some.injEq] at hh
    subst hh
    simp at hnot

theorem digit_eq_48 {d : Nat} (h : d < 16) : digit d = 48 ↔ d = 0 := by
  unfold digit; split <;> omega

/-- §4.3 + §4.1: lower-case hex digits only, one to four of them, no leading zero (a zero field is the single digit "0") -/
theorem field_spec (x : Nat) :
    (∀ c ∈ field x, isLowerHexC c) ∧ 1 ≤ (field x).length ∧ (field x).length ≤ 4 ∧
    ((field x).head? = some 48 → field x = [48]) := by
  obtain ⟨ds, e, h16, h1, h4, hz⟩ := field_digits x
  rw [e]
  refine ⟨?_, by simpa using h1, by simpa using h4, ?_⟩
  · intro c hc
    obtain ⟨d, hd, rfl⟩ := List.mem_map.1 hc
    exact digit_lowerHex (h16 d hd)
  · intro hh
    cases ds with
    | nil => simp at h1
    | cons d ds' =>
      simp only [List.map_cons, List.head?_cons, Option.some.injEq] at hh
      have : d = 0 := (digit_eq_48 (h16 d List.mem_cons_self)).1 hh
      subst this
      rw [hz rfl]; rfl

theorem field_no58 (x : Nat) : 58 ∉ field x := fun h =>
  not_lowerHex_of (Or.inr (Or.inr rfl)) ((field_spec x).1 58 h)

theorem field_ne_nil (x : Nat) : field x ≠ [] := by
  have := (field_spec x).2.1
  intro h; rw [h] at this; simp at this

/-! ### counting "::" -/

theorem countDC_no58 {s : Str} (h : 58 ∉ s) : countDC s = 0 := by
  induction s with
  | nil => rfl
  | cons c r ih =>
    have hc : c ≠ 58 := fun e => h (by simp [e])
    simp only [countDC, hc, false_and, if_false, Nat.zero_add]
    exact ih (fun hm => h (List.mem_cons_of_mem _ hm))

theorem countDC_append_left {A : Str} (R : Str) (h0 : countDC A = 0) (hl : A.getLast? ≠ some 58) :
    countDC (A ++ R) = countDC R := by
  induction A with
  | nil => rfl
  | cons a A' ih =>
    cases A' with
    | nil =>
      have ha : a ≠ 58 := by simpa using hl
      simp [countDC, ha]
    | cons b A'' =>
      simp only [countDC, List.head?_cons, Option.some.injEq] at h0
      have hl' : (b :: A'').getLast? ≠ some 58 := by simpa [List.getLast?_cons_cons] using hl
      have := ih (by simp only [countDC]; omega) hl'
      simp only [List.cons_append, countDC, List.head?_cons, Option.some.injEq] at this ⊢
      omega

theorem countDC_dc {B : Str} (hh : B.head? ≠ some 58) : countDC ([58, 58] ++ B) = 1 + countDC B := by
  simp [countDC, hh]

/-- colon-joined fields: no "::", no colon at either end -/
theorem fields_good (l : List Nat) :
    countDC (fields l) = 0 ∧ (fields l).head? ≠ some 58 ∧ (fields l).getLast? ≠ some 58 ∧ (l ≠ [] → fields l ≠ []) := by
  induction l with
  | nil => simp [fields, countDC]
  | cons x r ih =>
    have hf := field_no58 x
    have hne := field_ne_nil x
    have hhead : (field x).head? ≠ some 58 := fun h => hf (List.mem_of_head? h)
    have hlast : (field x).getLast? ≠ some 58 := fun h => hf (List.mem_of_getLast? h)
    cases r with
    | nil => exact ⟨countDC_no58 hf, hhead, hlast, fun _ => hne⟩
    | cons y r' =>
      obtain ⟨i1, i2, i3, i4⟩ := ih
      have hFne := i4 (by simp)
      simp only [fields]
      refine ⟨?_, ?_, ?_, fun _ => by simp⟩
      · rw [countDC_append_left _ (countDC_no58 hf) hlast]
        simp only [countDC, i1, Nat.add_zero]
        simp [i2]
      · cases hfx : field x with
        | nil => exact absurd hfx hne
        | cons c t => rw [hfx] at hhead; simpa using hhead
      · rw [List.getLast?_append]
        cases hF : fields (y :: r') with
        | nil => exact absurd hF hFne
        | cons c t =>
          rw [hF] at i3
          simp only [List.getLast?_cons_cons]
          intro h
          apply i3
          simpa [List.getLast?_cons] using h

/-- §4.2: in the recommended form "::" occurs at most once — exactly once iff there is a run of two zero fields -/
theorem countDC_format (l : List Nat) : countDC (format l) = if longest l < 2 then 0 else 1 := by
  unfold format
  split
  · exact (fields_good l).1
  · obtain ⟨a1, _, a3, _⟩ := fields_good (l.take (firstAt (longest l) l))
    obtain ⟨b1, b2, _, _⟩ := fields_good (l.drop (firstAt (longest l) l + longest l))
    rw [List.append_assoc, countDC_append_left _ a1 a3, countDC_dc b2, b1]
end V6More
end Yarl
