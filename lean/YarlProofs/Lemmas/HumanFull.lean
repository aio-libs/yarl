/-
  HumanFull.lean — what the URL-level round trip of `human_repr()` is made of (the round trip itself:
  `HumanStores.roundtrip_shown`, Lemmas/HumanStores.lean).

  In the order of the file:
  * the pieces `key=value` of the human query string (`humanPair`), the quoter's text of a pair (`pairOut`);
  * parsing the human form back: `split_url` on a composed string that may contain spaces and non-ASCII text
    (`splitUrl_human`); the authority block of the constructor on ANY spelling of user and password (`Spells`,
    `netBlock_spelt`);
  * PATH_QUOTER is a character map that keeps '/' and '.' (`SepMap`), so it commutes with dot-segment removal;
  * `URL.build` for the full family (`build_core`, `build_full`; `HumanReach.QueryArgOf`: the `query=` argument); URL
    objects that store the encodings of decoded components (`HumanMore.Stores`);
  * `human_repr()` with the quoting of each position as a parameter (`Shower`, `showWith`): of a URL with `Stores` it
    is made of what is shown for the components (`showWith_stores`, `showWith_shape`);
  * what the round trip asks of a host (`HostRT`: the argument `h` of `build`, the stored host `H`, the shown host `D`)
    and the pieces of the human form (`HumanPieces`);
  * the kinds of host of the property (`Yarl.HostKind`: plain, IDN, IPv4, IPv6 with zone), each of which gives a
    `HostRT` (`HostKind.rt`);
  * totality of `human_quote` on options and pairs.
-/
import YarlProofs.C18
import YarlProofs.C12Url
import YarlProofs.Lemmas.FixLemmas
import YarlProofs.Lemmas.SubLemmas
import YarlProofs.Lemmas.BuildShape
namespace Yarl
namespace HumanFull

open HumanLemmas OutLangLemmas QsLemmas QueryUrl

/-! ## the query string -/

/-- one `key=value` piece, with the characters selected by `lk` left literal in the key and those selected by `lv` in
    the value -/
def _root_.Yarl.R12.litPair (o : Oracles) (lk lv : Nat → Bool) : Str × Str → R Str := fun (k, v) => do
  pure ((← R5.humanQuoteLit o k (humanUnsafeOf "k") lk) ++ [61] ++ (← R5.humanQuoteLit o v (humanUnsafeOf "v") lv))

/-- a successful piece: key and value were shown, with '=' between them -/
theorem _root_.Yarl.R12.litPair_ok {o : Oracles} {lk lv : Nat → Bool} {p : Str × Str} {r : Str}
    (h : R12.litPair o lk lv p = .ok r) :
    ∃ rk rv, R5.humanQuoteLit o p.1 (humanUnsafeOf "k") lk = .ok rk ∧
      R5.humanQuoteLit o p.2 (humanUnsafeOf "v") lv = .ok rv ∧ r = rk ++ [61] ++ rv := by
  obtain ⟨k, v⟩ := p
  obtain ⟨rk, h1, h⟩ := bind_ok h
  obtain ⟨rv, h2, h⟩ := bind_ok h
  cases h
  exact ⟨rk, rv, h1, h2, rfl⟩

/-- one `key=value` piece of `human_repr` -/
def humanPair (o : Oracles) : Str × Str → R Str := fun (k, v) => do
  pure ((← humanQuote o k (humanUnsafeOf "k")) ++ [61] ++ (← humanQuote o v (humanUnsafeOf "v")))

/-- … which is `litPair` with nothing left literal -/
theorem humanPair_lit (o : Oracles) : humanPair o = R12.litPair o (fun _ => false) (fun _ => false) := rfl

theorem humanPair_ok {o : Oracles} {p : Str × Str} {r : Str} (h : humanPair o p = .ok r) :
    ∃ rk rv, humanQuote o p.1 (humanUnsafeOf "k") = .ok rk ∧
      humanQuote o p.2 (humanUnsafeOf "v") = .ok rv ∧ r = rk ++ [61] ++ rv :=
  R12.litPair_ok (lk := fun _ => false) (lv := fun _ => false) h

/-- the quoter's text of a pair, at table level -/
def pairOut (b : Backend) (p : Str × Str) : Str :=
  cOut (Gen.QUERY_PART_QUOTER.tab b) p.1 ++ [61] ++ cOut (Gen.QUERY_PART_QUOTER.tab b) p.2

/-! ### run level -/

theorem pairText_eq_pairOut (b : Backend) (p : Str × Str) (hg : GoodText p.1 ∧ GoodText p.2) :
    pairText b p = pairOut b p := by
  unfold pairText pairOut
  rw [run_eq_cOut _ mem_QUERY_PART_QUOTER b _ hg.1.1, run_eq_cOut _ mem_QUERY_PART_QUOTER b _ hg.2.1, stripSurr_id _ hg.1.2,
    stripSurr_id _ hg.2.2]

theorem k_unsafe_ascii : ∀ c ∈ humanUnsafeOf "k", c < 128 := unsafe_lt128 "k" (by decide)

/-- the characters that never appear literally in the human query string -/
def queryBad : List Nat := [9, 10, 13, 35]

/-- each of them is in the escape list of keys (and values) or is TAB, LF, CR; none is '%', '=', '&' or a hex digit -/
theorem queryBad_tab : ∀ d ∈ queryBad, d ≠ 37 ∧ d ≠ 61 ∧ d ≠ 38 ∧ isUpperHexDigit d = false ∧
    (mem d (humanUnsafeOf "k") = true ∨ d = 9 ∨ d = 10 ∨ d = 13) := by decide +kernel

theorem mapM_length {α β : Type} {f : α → R β} :
    ∀ (l : List α) (r : List β), l.mapM f = .ok r → r.length = l.length := by
  intro l
  induction l with
  | nil => intro r h; rw [mapM_nil_ok h]; rfl
  | cons a l ih =>
    intro r h
    obtain ⟨b, bs, h1, h2, rfl⟩ := mapM_cons_ok h
    simp [ih bs h2]

/-! ## parsing the human form back -/

open NetlocLemmas

theorem lower_fix {s : Str} (h : lower s = s) : ∀ c ∈ s, ¬ (65 ≤ c ∧ c ≤ 90) := by
  induction s with
  | nil => intro c hc; cases hc
  | cons x xs ih =>
    simp only [lower, List.map_cons, List.cons.injEq] at h
    intro c hc
    rcases List.mem_cons.mp hc with rfl | hc
    · intro hx
      have h1 := h.1
      unfold lowerC at h1
      rw [if_pos hx] at h1
      omega
    · exact ih h.2 c hc

theorem schemeOK_of_valid {sc : Str} (vs : ValidScheme sc) : SchemeOK sc :=
  ⟨vs.ne, fun c hc => ⟨vs.chars c hc, lower_fix vs.low c hc⟩⟩

/-- characters the authority of the human form must not contain for `split_url` to find it again -/
def AuthCh (a : Nat) : Prop := a ≠ 47 ∧ a ≠ 63 ∧ a ≠ 35 ∧ a ≠ 9 ∧ a ≠ 10 ∧ a ≠ 13

theorem clean_qPart {s : Str} (h : Clean s) : Clean (qPart s) := by
  unfold qPart; split
  · intro c hc; cases hc
  · intro c hc
    rcases List.mem_cons.mp hc with rfl | hc
    · omega
    · exact h c hc

theorem clean_fPart {s : Str} (h : Clean s) : Clean (fPart s) := by
  unfold fPart; split
  · intro c hc; cases hc
  · intro c hc
    rcases List.mem_cons.mp hc with rfl | hc
    · omega
    · exact h c hc

theorem clean_append {a b : Str} (ha : Clean a) (hb : Clean b) : Clean (a ++ b) := by
  intro c hc
  rcases List.mem_append.mp hc with h | h
  · exact ha c h
  · exact hb c h

/-- `split_url` on a composed string whose parts may contain spaces and non-ASCII text (no TAB / LF / CR: `Clean`; the
    NFKC screen must accept a non-ASCII authority).  `FixLemmas.splitUrl_compose` is the case of VISIBLE ASCII parts
    (nothing to clean, no screen); `HumanLemmas.splitUrl_auth` the case without a query and without brackets
    in the authority (`AuthOK`) -/
theorem splitUrl_human (o : Oracles) (sc A rp rq rf : Str) (vs : ValidScheme sc)
    (hA : ∀ a ∈ A, AuthCh a) (hb : checkBrackets A = .ok ())
    (hnf : isAscii A = false → checkNetloc o A = .ok ())
    (hp : ∀ c ∈ rp, c ≠ 63 ∧ c ≠ 35) (hc1 : Clean rp) (hq : ∀ c ∈ rq, c ≠ 35) (hcq : Clean rq)
    (hc2 : Clean rf) :
    splitUrl o (composeUrl sc A (47 :: rp) rq rf) =
      .ok { scheme := sc, netloc := A, path := 47 :: rp, query := rq, fragment := rf } := by
  have hcA : Clean A := fun c hc => ⟨(hA c hc).2.2.2.1, (hA c hc).2.2.2.2.1, (hA c hc).2.2.2.2.2⟩
  have hcp : Clean (47 :: rp) := by
    intro c hc
    rcases List.mem_cons.mp hc with rfl | hc
    · omega
    · exact hc1 c hc
  have hclean : Clean (58 :: 47 :: 47 :: (A ++ ((47 :: rp) ++ (qPart rq ++ fPart rf)))) := by
    have := clean_append hcA (clean_append hcp (clean_append (clean_qPart hcq) (clean_fPart hc2)))
    intro c hc
    simp only [List.mem_cons] at hc
    rcases hc with rfl | rfl | rfl | hc
    · omega
    · omega
    · omega
    · exact this c (by simpa using hc)
  have hB := FixLemmas.appendixB_compose sc A (47 :: rp) rq rf (schemeOK_of_valid vs)
    (fun c hc => by
      obtain ⟨h1, h2, h3, _⟩ := hA c hc
      simp [Rfc.isDelim3, h1, h2, h3])
    (Or.inr ⟨rp, rfl⟩)
    (fun c hc => by
      rcases List.mem_cons.mp hc with rfl | hc
      · omega
      · exact hp c hc) hq
  rw [ParseLemmas.splitUrl_eq]
  unfold ParseLemmas.splitUrlNF
  have hcl : cleanUrl (composeUrl sc A (47 :: rp) rq rf) = composeUrl sc A (47 :: rp) rq rf := by
    rw [FixLemmas.composeUrl_eq]
    exact cleanUrl_family sc _ vs hclean
  rw [hcl, hB]
  simp only [hb]
  cases hasc : isAscii A with
  | true => simp [pure, Except.pure]
  | false =>
    cases hne : A.isEmpty with
    | true => simp [pure, Except.pure]
    | false => simp [hnf hasc]

/-! ### the authority of the human form -/

/-- the shown host: non-empty, none of `@ [ ]` or of the characters that end / are stripped from
    an authority, not an IPvFuture look-alike -/
structure DispHost (D : Str) : Prop where
  ok : HostOK D
  chars : ∀ c ∈ D, AuthCh c
  notV : 58 ∈ D → D.head? ≠ some 118

theorem humanPart_chars {y : Option Str} (hy : HumanPart y) :
    ∀ r, y = some r → ∀ a ∈ r, AuthCh a ∧ a ≠ 58 ∧ a ≠ 64 ∧ a ≠ 91 ∧ a ≠ 93 := by
  intro r hr a ha
  have k := hy r hr
  refine ⟨⟨?_, ?_, ?_, ?_, ?_, ?_⟩, ?_, ?_, ?_, ?_⟩ <;>
    (intro e; subst e; exact k _ (by decide) ha)

theorem authCh_digit {c : Nat} (h : isDigitC c = true) : AuthCh c ∧ c ≠ 91 ∧ c ≠ 93 := by
  simp [isDigitC] at h
  unfold AuthCh
  omega

/-- a part of the authority text: its characters do not end the authority and are not brackets -/
def AuthPart (y : Option Str) : Prop := ∀ r, y = some r → ∀ a ∈ r, AuthCh a ∧ a ≠ 91 ∧ a ≠ 93

theorem authPart_human {y : Option Str} (hy : HumanPart y) : AuthPart y := fun r hr a ha =>
  ⟨(humanPart_chars hy r hr a ha).1, (humanPart_chars hy r hr a ha).2.2.2⟩

theorem authText_authCh {usr pw' : Option Str} {D : Str} (port : Option Nat)
    (h1 : AuthPart usr) (h2 : AuthPart pw') (hD : DispHost D) :
    ∀ a ∈ authText usr pw' D port, AuthCh a := by
  apply FixLemmas.authText_forall AuthCh
  · intro s hs c hc; exact (h1 s hs c hc).1
  · intro s hs c hc; exact (h2 s hs c hc).1
  · exact hD.chars
  · intro c hc; exact (authCh_digit hc).1
  · unfold AuthCh; omega
  · unfold AuthCh; omega
  · intro _; unfold AuthCh; omega
  · intro _; unfold AuthCh; omega

theorem checkBrackets_auth {usr pw' : Option Str} {D : Str} (port : Option Nat)
    (h1 : AuthPart usr) (h2 : AuthPart pw') (hD : DispHost D) :
    checkBrackets (authText usr pw' D port) = .ok () :=
  FixLemmas.checkBrackets_authText_of usr pw' port (fun s hs c hc => (h1 s hs c hc).2) (fun s hs c hc => (h2 s hs c hc).2)
    hD.ok hD.notV

/-- a character that is neither a digit nor ':' occurs in `host[:port]` only inside the host -/
theorem notMem_hostPort {c : Nat} {h : Str} (hh : c ∉ h) (hc : isDigitC c = false) (h58 : c ≠ 58)
    (port : Option Nat) : c ∉ hostPortStr h port := by
  cases port with
  | none => exact hh
  | some n =>
    simp only [hostPortStr, List.mem_append, List.mem_singleton, not_or]
    exact ⟨⟨hh, h58⟩, fun hm => by simpa [hc] using (Decimal.natToStr_digits n).2 c hm⟩

/-- the text in front of the host is empty or ends with the '@' -/
theorem rpart_authText (user pw : Option Str) {D : Str} (hD : HostOK D) (port : Option Nat) :
    (rpartition 64 (authText user pw D port)).2.2 = hostPortStr (bracket D) port :=
  FixLemmas.authW_hostinfo user pw port (notMem_bracket hD.2.1 (by decide) (by decide))

theorem keep_brackets {H D : Str} (user pw : Option Str) (port : Option Nat) (hD : HostOK D)
    (hcol : 58 ∈ D → 58 ∈ H) :
    (if mem 91 (rpartition 64 (authText user pw D port)).2.2 && !mem 91 (bracket H)
      then [91] ++ bracket H ++ [93] else bracket H) = bracket H := by
  by_cases h58 : 58 ∈ H
  · have : mem 91 (bracket H) = true := by
      unfold bracket; rw [if_pos (mem_iff.mpr h58)]; exact mem_iff.mpr (by simp)
    simp [this]
  · have h58D : 58 ∉ D := fun h => h58 (hcol h)
    have : mem 91 (rpartition 64 (authText user pw D port)).2.2 = false := by
      have hb : bracket D = D := by unfold bracket; rw [if_neg (by simpa using mem_false_iff.mpr h58D)]
      rw [rpart_authText user pw hD port, mem_false_iff, hb]
      exact notMem_hostPort hD.2.2.1 (by decide) (by decide) port
    simp [this]

/-- `y` spells the optional decoded text `x` in userinfo position: it is there iff `x` is, and the constructor re-quotes
    it to what `build` stores for `x` (literal, escaped or partly escaped: whatever `human_repr()` or a user wrote).
    This is what the authority block needs (`netBlock_spelt`).  Nothing is said about WHICH characters stand literally
    in `y`: the relaxed escape lists leave an '@' literal.  `R5.SpellOpt` (Lemmas/HumanSpell.lean) is `Spells` together
    with `HumanPart y` (`R5.spellOpt_iff`). -/
structure Spells (e : Env) (x y : Option Str) : Prop where
  shape : y = none ↔ x = none
  req : requoteOpt e y = x.map (q e Gen.QUOTER)

/-- the authority block of `encode_url` on `[usr[:pw']@]D[:port]` for ANY spelling `usr`, `pw'` of user and password
    and the shown host `D`: user and password are re-quoted to what `build` stored, the shown host is re-encoded to the
    stored host -/
theorem netBlock_spelt (e : Env) (sc : Str) (user pw usr pw' : Option Str) (H D : Str) (port : Option Nat)
    (hu : UText user) (hune : ∀ s, user = some s → s ≠ [])
    (s1 : Spells e user usr) (s2 : Spells e pw pw') (huo : UserOK usr)
    (hD : HostOK D) (hH : HostOK H) (henc : encodeHost e.o D false = .ok (bracket H))
    (hcol : 58 ∈ D → 58 ∈ H) (hp : ∀ p, port = some p → p ≤ 65535) :
    FixLemmas.netBlock e sc (authText usr pw' D port) =
      .ok (authText (user.map (q e Gen.QUOTER)) (pw.map (q e Gen.QUOTER)) H port,
           some (preOf (user.map (q e Gen.QUOTER)) (pw.map (q e Gen.QUOTER)) H port)) := by
  have hkeep : StrTotal.rebracket (mem 91 (rpartition 64 (authText usr pw' D port)).2.2) (bracket H) = bracket H :=
    keep_brackets usr pw' port hD hcol
  rw [FixLemmas.netBlock_of (n0 := authText usr pw' D port) (makeNetloc_ne_nil id usr pw' hD.1 port)
    (netloc_roundtrip e.o id usr pw' D port huo hD hp) rfl henc, hkeep, unbracket_bracket H hH]
  rw [show cachedUser e usr = HumanMore.dropEmpty (requoteOpt e usr) from rfl, s1.req, s2.req,
    HumanLemmas.orNone_quoted_user e user hu hune]
  exact congrArg (fun t => Except.ok (t, _)) (makeNetloc_qf (q e Gen.QUOTER) id _ _ _ port)

/-- the human form made with a list that is compatible with the (re)quoter pair is a spelling -/
theorem spells_human {e : Env} {L : Str} (k : ∀ b : Backend, HumanCompat (Gen.REQUOTER.tab b) (Gen.QUOTER.tab b) L)
    {x y : Option Str} (hx : UText x) (h : humanQuoteOpt e.o x L = .ok y) : Spells e x y where
  shape := by
    rcases humanQuoteOpt_ok h with ⟨rfl, rfl⟩ | ⟨s, r, rfl, rfl, _⟩
    · simp
    · simp
  req := requoteOpt_compat e L k x y hx h

/-! ## quoting a path commutes with dot-segment removal -/

section sepmap
open PathLemmas

/-- a character map that keeps '/' and '.' and never produces them (or nothing) otherwise -/
structure SepMap (f : Nat → Str) : Prop where
  slash : f 47 = [47]
  dot : f 46 = [46]
  other : ∀ c, c ≠ 47 → c ≠ 46 → f c ≠ [] ∧ 46 ∉ f c ∧ 47 ∉ f c

variable {f : Nat → Str} (hf : SepMap f)
include hf

theorem sep_no47 (c : Nat) (hc : c ≠ 47) : 47 ∉ f c := by
  by_cases h : c = 46
  · subst h; rw [hf.dot]; simp
  · exact (hf.other c hc h).2.2

theorem sep_ne_nil (c : Nat) : f c ≠ [] := by
  by_cases h1 : c = 47
  · subst h1; rw [hf.slash]; simp
  · by_cases h2 : c = 46
    · subst h2; rw [hf.dot]; simp
    · exact (hf.other c h1 h2).1

theorem splitOn_flatMap (x : Str) :
    splitOn 47 (x.flatMap f) = (splitOn 47 x).map (fun s => s.flatMap f) :=
  PathAlg.splitOn_flatMap hf.slash (sep_no47 hf) x

theorem flatMap_eq_nil (s : Str) : s.flatMap f = [] ↔ s = [] := by
  cases s with
  | nil => simp
  | cons c r =>
    simp only [List.flatMap_cons, List.append_eq_nil_iff, reduceCtorEq, iff_false, not_and]
    intro h; exact absurd h (sep_ne_nil hf c)

theorem flatMap_dot_cons (c : Nat) (r t : Str) (h : (c :: r).flatMap f = 46 :: t) :
    c = 46 ∧ r.flatMap f = t := by
  rw [List.flatMap_cons] at h
  by_cases h1 : c = 47
  · subst h1; rw [hf.slash] at h; cases h
  · by_cases h2 : c = 46
    · subst h2; rw [hf.dot] at h
      simp only [List.singleton_append, List.cons.injEq, true_and] at h
      exact ⟨rfl, h⟩
    · obtain ⟨a1, a2, _⟩ := hf.other c h1 h2
      obtain ⟨y, ys, hy⟩ := List.exists_cons_of_ne_nil a1
      rw [hy] at h a2
      simp only [List.cons_append, List.cons.injEq] at h
      exact absurd (h.1 ▸ List.mem_cons_self) a2

theorem flatMap_eq_dot (s : Str) : s.flatMap f = dot ↔ s = dot := by
  constructor
  · intro h
    cases s with
    | nil => cases h
    | cons c r =>
      obtain ⟨rfl, hr⟩ := flatMap_dot_cons hf c r [] h
      rw [(flatMap_eq_nil hf r).mp hr]; rfl
  · rintro rfl; simp [dot, hf.dot]

theorem flatMap_eq_dotdot (s : Str) : s.flatMap f = dotdot ↔ s = dotdot := by
  constructor
  · intro h
    cases s with
    | nil => cases h
    | cons c r =>
      obtain ⟨rfl, hr⟩ := flatMap_dot_cons hf c r [46] h
      rw [(flatMap_eq_dot hf r).mp hr]; rfl
  · rintro rfl; simp [dotdot, hf.dot]

theorem normLoop_map (segs acc : List Str) :
    normLoop (acc.map (fun s => s.flatMap f)) (segs.map (fun s => s.flatMap f)) =
      (normLoop acc segs).map (fun s => s.flatMap f) := by
  induction segs generalizing acc with
  | nil => simp [normLoop]
  | cons seg rest ih =>
    simp only [List.map_cons, normLoop, flatMap_eq_dot hf, flatMap_eq_dotdot hf]
    split
    · rw [← ih acc.tail, List.map_tail]
    · split
      · exact ih acc
      · rw [← ih (seg :: acc), List.map_cons]

theorem normalizePathSegments_map (segs : List Str) :
    normalizePathSegments (segs.map (fun s => s.flatMap f)) =
      (normalizePathSegments segs).map (fun s => s.flatMap f) := by
  unfold normalizePathSegments
  have := normLoop_map hf segs []
  simp only [List.map_nil] at this
  simp only [this, List.getLast?_map]
  cases segs.getLast? with
  | none => rfl
  | some l =>
    simp only [Option.map_some, flatMap_eq_dot hf, flatMap_eq_dotdot hf]
    split <;> simp

theorem flatF_map (l : List Str) :
    HostLemmas.flatC 47 (l.map (fun s => s.flatMap f)) = (HostLemmas.flatC 47 l).flatMap f := by
  induction l with
  | nil => rfl
  | cons s r ih =>
    simp only [List.map_cons, HostLemmas.flatC_cons, ih, List.flatMap_cons, hf.slash, List.flatMap_append,
      List.singleton_append]

theorem joinC_map (l : List Str) :
    joinC 47 (l.map (fun s => s.flatMap f)) = (joinC 47 l).flatMap f := by
  cases l with
  | nil => rfl
  | cons s r => rw [List.map_cons, PathLemmas.joinC_cons, PathLemmas.joinC_cons, flatF_map hf,
      List.flatMap_append]

/-- dot-segment removal commutes with a `SepMap` -/
theorem normalizePath_flatMap (r : Str) :
    normalizePath ((47 :: r).flatMap f) = (normalizePath (47 :: r)).flatMap f := by
  rw [List.flatMap_cons, hf.slash]
  simp only [List.singleton_append, normalizePath, splitOn_flatMap hf, normalizePathSegments_map hf,
    joinC_map hf, List.flatMap_cons, hf.slash]

end sepmap

/-! ### the path quoter is such a map -/

/-- `_Quoter._write` for one character of a Python string without lone surrogates (anything else
    is mapped to a dummy so that the map is a `SepMap` everywhere) -/
def wq (t : QTab) (c : Nat) : Str :=
  if c ≤ 0x10FFFF ∧ isSurrogate c = false then cWriteOut t c else [0]

theorem q_path_flatMap (e : Env) (s : Str) (hs : PyStr s) (hn : NoSurrogate s) :
    q e Gen.PATH_QUOTER s = s.flatMap (wq (Gen.PATH_QUOTER.tab e.b)) := by
  unfold q
  rw [run_eq_cOut _ (by decide) e.b _ hs, stripSurr_id _ hn,
    PathAlg.cOut_flatMap _ (by rw [tab_requote]; rfl)]
  apply flatMap_congr'
  intro c hc
  unfold wq
  rw [if_pos ⟨hs c hc, hn c hc⟩]

theorem path_tab_dots : ∀ b : Backend,
    cWriteOut (Gen.PATH_QUOTER.tab b) 47 = [47] ∧ cWriteOut (Gen.PATH_QUOTER.tab b) 46 = [46] := by
  intro b; cases b <;> decide +kernel

theorem sepMap_wq (b : Backend) : SepMap (wq (Gen.PATH_QUOTER.tab b)) where
  slash := by unfold wq; rw [if_pos (by decide)]; exact (path_tab_dots b).1
  dot := by unfold wq; rw [if_pos (by decide)]; exact (path_tab_dots b).2
  other := by
    intro c h47 h46
    unfold wq
    split
    · rename_i hg
      exact ⟨PathAlg.cWriteOut_ne_nil _ c hg.1 hg.2, PathAlg.cWriteOut_avoid _ c 46 (.inl rfl) h46,
        PathAlg.cWriteOut_avoid _ c 47 (.inr rfl) h47⟩
    · simp

theorem mem_normalizePath (r : Str) : ∀ c ∈ normalizePath (47 :: r), c = 47 ∨ c ∈ r := by
  intro c hc
  simp only [normalizePath, List.mem_cons] at hc
  rcases hc with rfl | hc
  · exact Or.inl rfl
  · rcases HostLemmas.mem_joinC hc with rfl | ⟨p, hp, hcp⟩
    · exact Or.inl rfl
    · right
      exact FixLemmas.normalizePathSegments_forall (fun p => ∀ c ∈ p, c ∈ r) (by intro c hc; cases hc)
        (splitOn 47 r) (fun p hp => PathLemmas.splitOn_sub 47 r p hp) p hp c hcp

theorem good_normalizePath {r : Str} (hs : PyStr (47 :: r)) (hn : NoSurrogate (47 :: r)) :
    PyStr (normalizePath (47 :: r)) ∧ NoSurrogate (normalizePath (47 :: r)) := by
  constructor
  · intro c hc
    rcases mem_normalizePath r c hc with rfl | h
    · exact hs 47 (by simp)
    · exact hs c (by simp [h])
  · intro c hc
    rcases mem_normalizePath r c hc with rfl | h
    · rfl
    · exact hn c (by simp [h])

/-- PATH_QUOTER commutes with dot-segment removal -/
theorem path_norm_commute (e : Env) (r : Str) (hs : PyStr (47 :: r)) (hn : NoSurrogate (47 :: r)) :
    normalizePath (q e Gen.PATH_QUOTER (47 :: r)) = q e Gen.PATH_QUOTER (normalizePath (47 :: r)) := by
  obtain ⟨g1, g2⟩ := good_normalizePath hs hn
  rw [q_path_flatMap e _ hs hn, q_path_flatMap e _ g1 g2, normalizePath_flatMap (sepMap_wq e.b)]

/-- the path `build` and `encode_url` store for a rooted decoded path: the quoted normal form -/
theorem stored_path (e : Env) (r : Str) (hs : PyStr (47 :: r)) (hn : NoSurrogate (47 :: r)) :
    (if mem 46 (q e Gen.PATH_QUOTER (47 :: r)) = true then normalizePath (q e Gen.PATH_QUOTER (47 :: r))
      else q e Gen.PATH_QUOTER (47 :: r)) = q e Gen.PATH_QUOTER (normalizePath (47 :: r)) := by
  rw [← path_norm_commute e r hs hn]
  split
  · rfl
  · rename_i h
    exact (C15_dot_guard_sound _ (mem_false_iff.mp (by simpa using h))).symm

/-- the tail of the normal form of a rooted path -/
def normTail (p : Str) : Str := joinC 47 (normalizePathSegments (splitOn 47 p))

theorem normalizePath_rooted (p : Str) : normalizePath (47 :: p) = 47 :: normTail p := rfl

theorem normTail_normal (p : Str) : normalizePath (47 :: normTail p) = 47 :: normTail p := by
  rw [← normalizePath_rooted, C15_idem]

/-! ## `URL.build` for the full family -/

/-- the port `build` keeps: the scheme's default port is dropped -/
def effPort (sc : Str) (port : Option Nat) : Option Nat :=
  match port with
  | some p => if some p = defaultPort sc then none else some p
  | none => none

theorem effPort_range {sc : Str} {port : Option Nat} (h : ∀ x, port = some x → x ≤ 65535) :
    ∀ x, effPort sc port = some x → x ≤ 65535 := by
  intro x hx
  cases port with
  | none => cases hx
  | some p =>
    simp only [effPort] at hx
    split at hx
    · cases hx
    · cases hx; exact h _ rfl

theorem effPort_notDefault {sc : Str} {port : Option Nat} :
    ∀ x, effPort sc port = some x → some x ≠ defaultPort sc := by
  intro x hx
  cases port with
  | none => cases hx
  | some p =>
    simp only [effPort] at hx
    split at hx
    · cases hx
    · rename_i hne; cases hx; exact hne

/-- what `URL.build` stores for the full family (`H` is the stored host without brackets) -/
def builtFull (e : Env) (sc : Str) (user pw : Option Str) (H : Str) (port : Option Nat)
    (p : Str) (kvs : List (Str × Str)) (f : Str) : Url :=
  fromParts sc (authText (user.map (q e Gen.QUOTER)) (pw.map (q e Gen.QUOTER)) H port)
    (q e Gen.PATH_QUOTER p) (qtext e.b kvs) (if f.isEmpty then f else q e Gen.FRAGMENT_QUOTER f)

theorem authText_ne_nil (user pw : Option Str) {H : Str} (hH : H ≠ []) (port : Option Nat) :
    authText user pw H port ≠ [] := makeNetloc_ne_nil id user pw hH port

theorem getStrQuery_strItems (b : Backend) (kvs : List (Str × Str)) :
    getStrQuery b (.pairs (strItems kvs)) = .ok (some (qtext b kvs)) :=
  getStrQuery_pairs b _ kvs (singleValued_strItems kvs) (expandItems_strItems kvs)

/-- the query of `build`: given as `query=` (then there is no `query_string=`) or as `query_string=` -/
theorem build_query_arg (e : Env) (qa : QArg) (qs Q : Str)
    (hq1 : qargTruthy qa = true → qs = [] ∧ getStrQuery e.b qa = .ok (some Q))
    (hq2 : qargTruthy qa = false → Q = if qs.isEmpty then qs else q e Gen.QUERY_QUOTER qs) :
    ∃ Q0, (if qargTruthy qa = true then (getStrQuery e.b qa).bind (fun r => pure (r.getD []))
        else pure qs : R Str) = .ok Q0 ∧
      (if (!qargTruthy qa && !Q0.isEmpty) = true then q e Gen.QUERY_QUOTER Q0 else Q0) = Q ∧
      (qargTruthy qa && !qs.isEmpty) = false := by
  cases hT : qargTruthy qa with
  | true =>
    obtain ⟨rfl, hg⟩ := hq1 hT
    exact ⟨Q, by simp [hg, Except.bind, pure, Except.pure], by simp, rfl⟩
  | false =>
    refine ⟨qs, by simp [pure, Except.pure], ?_, rfl⟩
    rw [hq2 hT]; cases qs <;> rfl

/-- the path of `build`: "" or rooted, and then quoted after the '/' and brought to normal form -/
theorem build_path_arg (e : Env) (path : Str)
    (hpath : path = [] ∨ ∃ p, path = 47 :: p ∧ PyStr (47 :: p) ∧ NoSurrogate (47 :: p)) :
    path = [] ∨ ∃ p, path = 47 :: p ∧
      q e Gen.PATH_QUOTER (47 :: p) = 47 :: q e Gen.PATH_QUOTER p ∧
      (if mem 46 (47 :: q e Gen.PATH_QUOTER p) = true then normalizePath (47 :: q e Gen.PATH_QUOTER p)
        else 47 :: q e Gen.PATH_QUOTER p) = q e Gen.PATH_QUOTER (normalizePath (47 :: p)) := by
  rcases hpath with rfl | ⟨p, rfl, hp, hn⟩
  · exact Or.inl rfl
  · have := stored_path e p hp hn
    rw [q_path_cons_slash e p hp] at this
    exact Or.inr ⟨p, rfl, q_path_cons_slash e p hp, this⟩

/-- the stored path for the `path` argument of build: empty, or the encoding of the normal form -/
def _root_.Yarl.HumanMore.storedPath (e : Env) (path : Str) : Str :=
  if path.isEmpty then [] else q e Gen.PATH_QUOTER (normalizePath path)

/-- the text of the fragment `build` stores -/
def _root_.Yarl.HumanMore.fragText (e : Env) (f : Str) : Str := if f.isEmpty then f else q e Gen.FRAGMENT_QUOTER f

/-- the path stage of `build` under a non-empty authority, on an empty or rooted path argument -/
theorem buildPath_stored (e : Env) {nl : Str} (hnl : nl ≠ []) (path : Str)
    (hpath : path = [] ∨ ∃ p, path = 47 :: p ∧ PyStr (47 :: p) ∧ NoSurrogate (47 :: p)) :
    buildPath e nl path = .ok (HumanMore.storedPath e path) := by
  unfold buildPath buildPath0 HumanMore.storedPath
  rcases build_path_arg e path hpath with rfl | ⟨p, rfl, hq, hd⟩
  · rfl
  · simp only [List.isEmpty_cons, Bool.false_eq_true, if_false, hq, Bool.not_false, Bool.true_and,
      isEmpty_false hnl, if_true, hd]
    rfl

/-- `build` (`encoded=False`) once the argument check (`hcheck`, given that `query=` and `query_string=` are not both
    there) and the netloc stage (`hnl`) are known: the query is given as `query=` (`hq1`) or as `query_string=` (`hq2`),
    the path is empty or rooted, the netloc `N` is not empty -/
theorem build_stages (e : Env) (a : BuildArgs) (sc' N Q : Str) (henc : a.encoded = false)
    (hl : lowerAny e a.scheme = .ok sc')
    (hq1 : qargTruthy a.query = true → a.queryString = [] ∧ getStrQuery e.b a.query = .ok (some Q))
    (hq2 : qargTruthy a.query = false →
      Q = if a.queryString.isEmpty then a.queryString else q e Gen.QUERY_QUOTER a.queryString)
    (hcheck : (qargTruthy a.query && !a.queryString.isEmpty) = false → C07_buildArgCheck a = none)
    (hnl : buildNetloc e sc' a = .ok N) (hN : N ≠ [])
    (hpath : a.path = [] ∨ ∃ p, a.path = 47 :: p ∧ PyStr (47 :: p) ∧ NoSurrogate (47 :: p)) :
    build e a = .ok (fromParts sc' N (HumanMore.storedPath e a.path) Q (HumanMore.fragText e a.fragment)) := by
  obtain ⟨Q0, hQ0, hQ0', hnoq⟩ := build_query_arg e a.query a.queryString Q hq1 hq2
  have hqs : C07_buildQueryString e a = .ok Q0 := by
    rw [← hQ0]
    unfold C07_buildQueryString
    split
    · cases getStrQuery e.b a.query <;> rfl
    · rfl
  rw [build_of henc (hcheck hnoq) hqs hl hnl (buildPath_stored e hN a.path hpath)]
  unfold buildQuery buildFragment
  rw [hQ0']
  rfl

/-- what `URL.build` returns for decoded components: host `h` stored as `H`, an empty or rooted path, the query given
    as `query=` or as `query_string=`.  `sc'` is the lowered scheme — `build` lowers the scheme first (fix e21485a) —,
    it is the stored scheme, and the default port that is dropped is that of `sc'` -/
theorem build_core (e : Env) (sc sc' : Str) (hl : lowerAny e sc = .ok sc')
    (user pw : Option Str) (h H : Str) (port : Option Nat)
    (path : Str) (qa : QArg) (qs Q : Str) (f : Str)
    (hne : h ≠ []) (hH : H ≠ []) (henc : encodeHost e.o h true = .ok (bracket H))
    (hport : ∀ x, port = some x → x ≤ 65535)
    (hpath : path = [] ∨ ∃ p, path = 47 :: p ∧ PyStr (47 :: p) ∧ NoSurrogate (47 :: p))
    (hq1 : qargTruthy qa = true → qs = [] ∧ getStrQuery e.b qa = .ok (some Q))
    (hq2 : qargTruthy qa = false → Q = if qs.isEmpty then qs else q e Gen.QUERY_QUOTER qs) :
    build e { scheme := sc, user := user, password := pw, host := h, port := port.map Int.ofNat,
              path := path, query := qa, queryString := qs, fragment := f } =
      .ok (fromParts sc' (authText (user.map (q e Gen.QUOTER)) (pw.map (q e Gen.QUOTER)) H (effPort sc' port))
        (HumanMore.storedPath e path) Q (HumanMore.fragText e f)) := by
  have hcheck : (qargTruthy qa && !qs.isEmpty) = false →
      C07_buildArgCheck ⟨sc, [], user, pw, h, port.map Int.ofNat, 0, path, qa, qs, f, false⟩ = none := by
    intro hnoq
    unfold C07_buildArgCheck
    cases port with
    | none => simp [isEmpty_false hne, hnoq]
    | some n =>
      have hrange : (n : Int) ≤ 65535 := Int.ofNat_le.mpr (hport n rfl)
      simp [isEmpty_false hne, hnoq, hrange]
  have hnl : buildNetloc e sc' ⟨sc, [], user, pw, h, port.map Int.ofNat, 0, path, qa, qs, f, false⟩ =
      .ok (authText (user.map (q e Gen.QUOTER)) (pw.map (q e Gen.QUOTER)) H (effPort sc' port)) := by
    rw [buildNetloc_host rfl hne, henc]
    have hp : (port.map Int.ofNat).map Int.toNat = port := by cases port <;> rfl
    show Except.ok (makeNetloc _ user pw _ (strPort sc' ((port.map Int.ofNat).map Int.toNat)) true) = _
    rw [hp, makeNetloc_encode_map _ (q_nil e _), makeNetloc_qf (q e Gen.QUOTER) id]
    rfl
  exact build_stages e ⟨sc, [], user, pw, h, port.map Int.ofNat, 0, path, qa, qs, f, false⟩ sc' _ Q rfl hl hq1 hq2 hcheck
    hnl (authText_ne_nil _ _ hH _) hpath

/-- the `query=` argument of `build` denotes the decoded pairs `kvs`: it renders to their text, or is absent -/
def _root_.Yarl.HumanReach.QueryArgOf (b : Backend) (qa : QArg) (kvs : List (Str × Str)) : Prop :=
  getStrQuery b qa = .ok (some (qtext b kvs)) ∨ (qa = .none ∧ kvs = [])

theorem _root_.Yarl.HumanReach.queryArgOf_pairs (b : Backend) (kvs : List (Str × Str)) :
    HumanReach.QueryArgOf b (.pairs (strItems kvs)) kvs :=
  Or.inl (getStrQuery_strItems b kvs)

theorem _root_.Yarl.HumanReach.queryArgOf_hq1 {b : Backend} {qa : QArg} {kvs : List (Str × Str)}
    (h : HumanReach.QueryArgOf b qa kvs) :
    qargTruthy qa = true → ([] : Str) = [] ∧ getStrQuery b qa = .ok (some (qtext b kvs)) := by
  intro ht
  rcases h with h | ⟨rfl, _⟩
  · exact ⟨rfl, h⟩
  · cases ht

theorem _root_.Yarl.HumanReach.queryArgOf_hq2 {e : Env} {qa : QArg} {kvs : List (Str × Str)}
    (h : HumanReach.QueryArgOf e.b qa kvs) :
    qargTruthy qa = false → qtext e.b kvs = if ([] : Str).isEmpty then [] else q e Gen.QUERY_QUOTER [] := by
  intro ht
  show qtext e.b kvs = []
  rcases h with h | ⟨_, rfl⟩
  · cases qa with
    | none => cases h
    | str s =>
      have hs : s = [] := by cases s with
        | nil => rfl
        | cons c r => simp [qargTruthy] at ht
      subst hs
      simp only [getStrQuery, List.isEmpty_nil, if_true, Except.ok.injEq, Option.some.injEq] at h
      exact h.symm
    | mapping l =>
      have hs : l = [] := by cases l with
        | nil => rfl
        | cons c r => simp [qargTruthy] at ht
      subst hs
      simp only [getStrQuery, List.isEmpty_nil, if_true, Except.ok.injEq, Option.some.injEq] at h
      exact h.symm
    | pairs l =>
      have hs : l = [] := by cases l with
        | nil => rfl
        | cons c r => simp [qargTruthy] at ht
      subst hs
      simp only [getStrQuery, List.isEmpty_nil, if_true, Except.ok.injEq, Option.some.injEq] at h
      exact h.symm
    | bytes em =>
      cases em with
      | false => simp [qargTruthy] at ht
      | true =>
        simp only [getStrQuery, if_true, Except.ok.injEq, Option.some.injEq] at h
        exact h.symm
    | other => simp [qargTruthy] at ht
    | noArgs => simp [getStrQuery] at h
  · rfl

/-- `build_core` for a rooted path and the query given as pairs: the record `builtFull` with the lowered scheme `sc'`,
    the path without dot segments and the port unless it is the default port of `sc'` -/
theorem build_full (e : Env) (sc sc' : Str) (hl : lowerAny e sc = .ok sc')
    (user pw : Option Str) (h H : Str) (port : Option Nat)
    (p : Str) (kvs : List (Str × Str)) (f : Str)
    (hne : h ≠ []) (hH : H ≠ []) (henc : encodeHost e.o h true = .ok (bracket H))
    (hport : ∀ x, port = some x → x ≤ 65535)
    (hp : PyStr (47 :: p)) (hn : NoSurrogate (47 :: p)) :
    build e { scheme := sc, user := user, password := pw, host := h, port := port.map Int.ofNat,
              path := 47 :: p, query := .pairs (strItems kvs), fragment := f } =
      .ok (builtFull e sc' user pw H (effPort sc' port) (normalizePath (47 :: p)) kvs f) :=
  build_core e sc sc' hl user pw h H port (47 :: p) (.pairs (strItems kvs)) [] (qtext e.b kvs) f hne hH henc hport
    (Or.inr ⟨p, rfl, hp, hn⟩) (HumanReach.queryArgOf_hq1 (HumanReach.queryArgOf_pairs e.b kvs))
    (HumanReach.queryArgOf_hq2 (HumanReach.queryArgOf_pairs e.b kvs))

end HumanFull

/-! ### URL objects that store the encodings of decoded components -/

namespace HumanMore
open HumanLemmas HumanFull QueryUrl NetlocLemmas

/-- `u` stores the encodings of the decoded components `user pw H port p kvs f` (`H` the stored host):
    however `u` was made (constructor, build, a modifier).  The path is the encoding of `"/" ++ p`, or is
    empty (then `p = ""`); the cache pre-fill of `encode_url`, when there is one, agrees. -/
structure Stores (e : Env) (u : Url) (user pw : Option Str) (H : Str) (port : Option Nat)
    (p : Str) (kvs : List (Str × Str)) (f : Str) : Prop where
  netloc : u.netloc = authText (user.map (q e Gen.QUOTER)) (pw.map (q e Gen.QUOTER)) H port
  pre : ∀ pr, u.pre = some pr → pr = preOf (user.map (q e Gen.QUOTER)) (pw.map (q e Gen.QUOTER)) H port
  path : u.path = q e Gen.PATH_QUOTER (47 :: p) ∨ (u.path = [] ∧ p = [])
  query : u.query = qtext e.b kvs
  fragment : u.fragment = if f.isEmpty then f else q e Gen.FRAGMENT_QUOTER f

theorem builtFull_stores (e : Env) (sc : Str) (user pw : Option Str) (H : Str) (port : Option Nat)
    (p : Str) (kvs : List (Str × Str)) (f : Str) :
    Stores e (builtFull e sc user pw H port (47 :: p) kvs f) user pw H port p kvs f :=
  ⟨rfl, fun pr h => (by cases h), Or.inl rfl, rfl, rfl⟩

section reads
variable {e : Env} {u : Url} {user pw : Option Str} {H : Str} {port : Option Nat}
  {p : Str} {kvs : List (Str × Str)} {f : Str} (st : Stores e u user pw H port p kvs f)
include st

theorem Stores.netloc_ne (hH : H ≠ []) : u.netloc.isEmpty = false := by
  rw [st.netloc]
  exact isEmpty_false (authText_ne_nil _ _ hH _)

/-- the cache pre-fill, or what the lazy path computes from the stored netloc -/
theorem Stores.net (hu : UserOK (user.map (q e Gen.QUOTER))) (hH : HostOK H)
    (hport : ∀ x, port = some x → x ≤ 65535) :
    net e u = .ok (preOf (user.map (q e Gen.QUOTER)) (pw.map (q e Gen.QUOTER)) H port) := by
  refine net_written_bracket st.netloc hu hH hport ?_
  cases hpre : u.pre with
  | none => exact .inl rfl
  | some pr => exact .inr (congrArg some (st.pre pr hpre))

theorem Stores.pathDecoded (hH : H ≠ []) (hp : PyStr (47 :: p)) (hn : NoSurrogate (47 :: p)) :
    pathDecoded e u = 47 :: p := by
  rcases st.path with h | ⟨h1, rfl⟩
  · exact pathDecoded_of e u p h hp hn
  · unfold Yarl.pathDecoded
    simp [h1, st.netloc_ne hH]

theorem Stores.queryPairs (hg : GoodPairs kvs) : queryPairs u = kvs := by
  unfold Yarl.queryPairs
  rw [st.query]
  exact parse_qtext e.b kvs hg

/-- two URL objects that store the same decoded components under the same scheme are `==`
    (`==` compares an empty stored path under an authority as "/") -/
theorem Stores.beq {v : Url} (sv : Stores e v user pw H port p kvs f) (hsc : v.scheme = u.scheme) (hH : H ≠ [])
    (hp : PyStr (47 :: p)) (hn : NoSurrogate (47 :: p)) : Url.beq v u = true := by
  have hnl : (authText (user.map (q e Gen.QUOTER)) (pw.map (q e Gen.QUOTER)) H port).isEmpty = false :=
    isEmpty_false (authText_ne_nil _ _ hH _)
  have hq1 := q_path_cons_slash e p hp
  have key : ∀ c : Url, Stores e c user pw H port p kvs f →
      (if c.path.isEmpty && !c.netloc.isEmpty then [47] else c.path) = 47 :: q e Gen.PATH_QUOTER p := by
    intro c sc
    rcases sc.path with h1 | ⟨h1, h2⟩
    · rw [h1, hq1]
      simp
    · subst h2
      rw [h1, sc.netloc, q_nil]
      simp [hnl]
  simp only [Url.beq, eqKey, decide_eq_true_eq, Parts.mk.injEq]
  exact ⟨hsc, sv.netloc.trans st.netloc.symm, (key v sv).trans (key u st).symm, sv.query.trans st.query.symm,
    sv.fragment.trans st.fragment.symm⟩

end reads

end HumanMore

namespace HumanFull
open HumanLemmas HumanMore OutLangLemmas QsLemmas QueryUrl NetlocLemmas

/-! ## what `human_repr()` shows, whatever the quoting of the positions -/

/-- how each position of a URL is shown -/
structure Shower where
  user : Option Str → R (Option Str)
  pw : Option Str → R (Option Str)
  path : Str → R Str
  pair : Str × Str → R Str
  frag : Str → R Str

/-- `human_repr()` with the quoting of each position given by `S` -/
def showWith (S : Shower) (e : Env) (u : Url) : R Str := do
  let usr ← S.user (← user e u)
  let pw ← S.pw (← password e u)
  let h0 ← host e u
  let h := h0.map (fun h => if !h.isEmpty && mem 58 h then [91] ++ h ++ [93] else h)
  let path ← S.path (pathDecoded e u)
  let qparts ← (queryPairs u).mapM S.pair
  let qs := joinC 38 qparts
  let frag ← S.frag (fragmentDecoded e u)
  let netloc := makeNetloc (q e Gen.QUOTER) usr pw h (← explicitPort e u) false
  pure (unsplitResult u.scheme netloc path qs frag)

/-- `human_quote` with the `unsafe` list `L key` in every position -/
def humanShower (o : Oracles) (L : String → Str) : Shower where
  user := (humanQuoteOpt o · (L "user"))
  pw := (humanQuoteOpt o · (L "password"))
  path := (humanQuote o · (L "path"))
  pair := fun (k, v) => do pure ((← humanQuote o k (L "k")) ++ [61] ++ (← humanQuote o v (L "v")))
  frag := (humanQuote o · (L "fragment"))

theorem humanRepr_show (e : Env) (u : Url) : humanRepr e u = showWith (humanShower e.o humanUnsafeOf) e u := rfl

theorem shown_bracket {D : Str} (hD : D ≠ []) :
    (if (!D.isEmpty && mem 58 D) = true then [91] ++ D ++ [93] else D) = bracket D := by
  unfold bracket
  simp [isEmpty_false hD]

/-- of a URL object that stores the encodings of decoded components: the accessors read the components back, so the
    text is made of what `S` shows for them and of the shown host `D` -/
theorem showWith_stores (S : Shower) (e : Env) (u : Url) (user pw : Option Str) (H D : Str) (port : Option Nat)
    (p : Str) (kvs : List (Str × Str)) (f : Str) (st : Stores e u user pw H port p kvs f)
    (hH : HostOK H) (hshown : ∀ u, rawHost e u = .ok (some H) → host e u = .ok (some D)) (hD : D ≠ [])
    (hport : ∀ x, port = some x → x ≤ 65535)
    (hu : UText user) (hune : ∀ s, user = some s → s ≠ []) (hw : UText pw)
    (hp : PyStr (47 :: p)) (hn : NoSurrogate (47 :: p)) (hg : GoodPairs kvs)
    (hf : PyStr f) (hfn : NoSurrogate f) :
    showWith S e u =
      (S.user user >>= fun usr =>
        S.pw pw >>= fun pw' =>
        S.path (47 :: p) >>= fun rp =>
        kvs.mapM S.pair >>= fun qparts =>
        S.frag f >>= fun rf =>
          pure (unsplitResult u.scheme (authText usr pw' D port) rp (joinC 38 qparts) rf)) := by
  have hnet := st.net (userOK_quoted e user hu hune) hH hport
  have hHo : rawHost e u = .ok (some H) := by
    unfold rawHost
    rw [hnet]
    rfl
  unfold showWith Yarl.user password rawUser rawPassword explicitPort
  rw [hshown u hHo, hnet, st.pathDecoded hH.1 hp hn, st.queryPairs hg, fragmentDecoded_of e u f st.fragment hf hfn]
  simp only [Except.map, ok_bind, pure_bind, map_readback e user hu, map_readback e pw hw,
    Option.map_some, shown_bracket hD, authText, makeNetloc_qf (q e Gen.QUOTER) id]

/-- … and, when it succeeds, its pieces (`hroot`: the path is shown with its leading "/") -/
theorem showWith_shape (S : Shower) (e : Env) (u : Url) (user pw : Option Str) (H D : Str) (port : Option Nat)
    (p : Str) (kvs : List (Str × Str)) (f : Str) (st : Stores e u user pw H port p kvs f) (hsc : u.scheme ≠ [])
    (hH : HostOK H) (hshown : ∀ u, rawHost e u = .ok (some H) → host e u = .ok (some D)) (hD : D ≠ [])
    (hport : ∀ x, port = some x → x ≤ 65535)
    (hu : UText user) (hune : ∀ s, user = some s → s ≠ []) (hw : UText pw)
    (hp : PyStr (47 :: p)) (hn : NoSurrogate (47 :: p)) (hg : GoodPairs kvs)
    (hf : PyStr f) (hfn : NoSurrogate f)
    (hroot : ∀ r, S.path (47 :: p) = .ok r → ∃ rp, r = 47 :: rp) (hr : Str) (hh : showWith S e u = .ok hr) :
    ∃ usr pw' rp qparts rf, S.user user = .ok usr ∧ S.pw pw = .ok pw' ∧ S.path (47 :: p) = .ok (47 :: rp) ∧
      kvs.mapM S.pair = .ok qparts ∧ S.frag f = .ok rf ∧
      hr = composeUrl u.scheme (authText usr pw' D port) (47 :: rp) (joinC 38 qparts) rf := by
  rw [showWith_stores S e u user pw H D port p kvs f st hH hshown hD hport hu hune hw hp hn hg hf hfn] at hh
  obtain ⟨usr, hq1, hh⟩ := bind_ok hh
  obtain ⟨pw', hq2, hh⟩ := bind_ok hh
  obtain ⟨rp0, h1, hh⟩ := bind_ok hh
  obtain ⟨qparts, h4, hh⟩ := bind_ok hh
  obtain ⟨rf, h2, hh⟩ := bind_ok hh
  cases hh
  obtain ⟨rp, rfl⟩ := hroot rp0 h1
  exact ⟨usr, pw', rp, qparts, rf, hq1, hq2, h1, h4, h2,
    FixLemmas.unsplit_compose u.scheme _ _ _ _ hsc (authText_ne_nil usr pw' hD port) (Or.inr ⟨rp, rfl⟩)⟩

/-- `human_quote` shows a rooted path with its "/" -/
theorem human_path_root {o : Oracles} {p r : Str} (h : humanQuote o (47 :: p) (humanUnsafeOf "path") = .ok r) :
    ∃ rp, r = 47 :: rp := by
  obtain ⟨rp, _, rfl⟩ := humanQuote_cons_shown o _ 47 p r (hqChar_slash_path o) h
  exact ⟨rp, rfl⟩

/-- `human_repr()` of a URL object that stores the encodings of decoded components, in pieces -/
theorem humanRepr_stores (e : Env) (u : Url) (user pw : Option Str) (H D : Str) (port : Option Nat)
    (p : Str) (kvs : List (Str × Str)) (f : Str) (st : Stores e u user pw H port p kvs f)
    (hH : HostOK H) (hshown : ∀ u, rawHost e u = .ok (some H) → host e u = .ok (some D)) (hD : D ≠ [])
    (hport : ∀ x, port = some x → x ≤ 65535)
    (hu : UText user) (hune : ∀ s, user = some s → s ≠ []) (hw : UText pw)
    (hp : PyStr (47 :: p)) (hn : NoSurrogate (47 :: p)) (hg : GoodPairs kvs)
    (hf : PyStr f) (hfn : NoSurrogate f) :
    humanRepr e u =
      (humanQuoteOpt e.o user (humanUnsafeOf "user") >>= fun usr =>
        humanQuoteOpt e.o pw (humanUnsafeOf "password") >>= fun pw' =>
        humanQuote e.o (47 :: p) (humanUnsafeOf "path") >>= fun rp =>
        kvs.mapM (humanPair e.o) >>= fun qparts =>
        humanQuote e.o f (humanUnsafeOf "fragment") >>= fun rf =>
          pure (unsplitResult u.scheme (authText usr pw' D port) rp (joinC 38 qparts) rf)) :=
  showWith_stores (humanShower e.o humanUnsafeOf) e u user pw H D port p kvs f st hH hshown hD hport hu hune hw hp hn hg
    hf hfn

/-! ## what the round trip asks of a host; the pieces of the human form -/

/-- what the round trip needs from the host: `h` is the argument of `build`, `H` the stored host
    and `D` the host that `human_repr` shows (both without brackets) -/
structure HostRT (e : Env) (h H D : Str) : Prop where
  hne : h ≠ []
  build : encodeHost e.o h true = .ok (bracket H)
  okH : HostOK H
  shown : ∀ u, rawHost e u = .ok (some H) → host e u = .ok (some D)
  disp : DispHost D
  enc : encodeHost e.o D false = .ok (bracket H)
  colon : 58 ∈ D → 58 ∈ H

/-- the pieces of the human form -/
structure HumanPieces (e : Env) (user pw : Option Str) (p : Str) (kvs : List (Str × Str)) (f : Str)
    (usr pw' : Option Str) (rp : Str) (qparts : List Str) (rf : Str) : Prop where
  q1 : humanQuoteOpt e.o user (humanUnsafeOf "user") = .ok usr
  q2 : humanQuoteOpt e.o pw (humanUnsafeOf "password") = .ok pw'
  q3 : humanQuote e.o p (humanUnsafeOf "path") = .ok rp
  q4 : kvs.mapM (humanPair e.o) = .ok qparts
  q5 : humanQuote e.o f (humanUnsafeOf "fragment") = .ok rf

/-! ## the kinds of host (`HostKind`), each a `HostRT` -/

open HostLemmas

theorem authCh_of_fix {c : Nat} (h : 33 ≤ c ∧ c < 128 ∧ Rfc.isDelim3 c = false) : AuthCh c := by
  obtain ⟨h1, _, h3⟩ := h
  simp [Rfc.isDelim3] at h3
  unfold AuthCh
  omega

/-- `URL.host` of a stored registered name that does not end in a digit, or contains "xn--": the
    IDNA-decoded text.  (When it ends in a digit and has no "xn--" `URL.host` returns the stored form undecoded; the
    test for "xn--" is fix 60dbf1e.) -/
theorem host_reg (e : Env) (u : Url) (raw D : Str) (ph : PlainHost raw)
    (hraw : rawHost e u = .ok (some raw)) (hidna : e.o.idnaDec raw = some (some D))
    (hlast : (∀ l, raw.getLast? = some l → isDigitC l = false) ∨ hasSub [120, 110, 45, 45] raw = true ∨
      D = raw) :
    host e u = .ok (some D) := by
  unfold host
  rw [hraw]
  simp only [bind, Except.bind]
  obtain ⟨l, hl⟩ : ∃ l, raw.getLast? = some l := by
    cases hx : raw.getLast? with
    | none => exact absurd (List.getLast?_eq_none_iff.mp hx) ph.ne
    | some l => exact ⟨l, rfl⟩
  have hlt : l < 128 := by
    have := List.mem_of_getLast? hl
    have ha := ph.ascii
    simp only [isAscii, List.all_eq_true, decide_eq_true_eq] at ha
    exact ha l this
  have h58 : mem 58 raw = false := mem_false_iff.mpr (plain_avoid ph (by decide))
  rw [hl]
  simp only [isDigitChar, hlt, ↓reduceIte, pure, Except.pure, h58, Bool.or_false]
  cases hd : (isDigitC l && !hasSub [120, 110, 45, 45] raw) with
  | true =>
    simp only [Bool.and_eq_true, Bool.not_eq_eq_eq_not, Bool.not_true] at hd
    rcases hlast with hlast | hlast | hlast
    · rw [hlast l hl] at hd; exact absurd hd.1 (by decide)
    · rw [hlast] at hd; exact absurd hd.2 (by decide)
    · rw [hlast]; rfl
  | false =>
    simp only [Bool.false_eq_true, ↓reduceIte, idnaDecode, ph.ascii, Bool.not_true, hidna, ask,
      bind, Except.bind, pure, Except.pure]

theorem dispHost_plain {h : Str} (ph : PlainHost h) : DispHost h where
  ok := plain_hostOK ph
  chars := fun c hc =>
    ⟨fun e => plain_avoid ph (d := 47) (by decide) (e ▸ hc),
     fun e => plain_avoid ph (d := 63) (by decide) (e ▸ hc),
     fun e => plain_avoid ph (d := 35) (by decide) (e ▸ hc),
     fun e => plain_avoid ph (d := 9) (by decide) (e ▸ hc),
     fun e => plain_avoid ph (d := 10) (by decide) (e ▸ hc),
     fun e => plain_avoid ph (d := 13) (by decide) (e ▸ hc)⟩
  notV := fun h58 => absurd h58 (plain_avoid ph (by decide))

/-- a plain registered name (ASCII, lower case, valid) that IDNA-decoding leaves alone -/
theorem hostRT_plain (e : Env) {h : Str} (ph : PlainHost h) (hidna : e.o.idnaDec h = some (some h)) :
    HostRT e h h h where
  hne := ph.ne
  build := by rw [plain_bracket ph]; exact encodeHost_plain e.o h true ph
  okH := plain_hostOK ph
  shown := fun u hraw => host_reg e u h h ph hraw hidna (Or.inr (Or.inr rfl))
  disp := dispHost_plain ph
  enc := by rw [plain_bracket ph]; exact encodeHost_plain e.o h false ph
  colon := id

theorem encodeHost_idn (o : Oracles) (h raw : Str) (v b : Bool) (hna : isAscii h = false)
    (hlook : looksIP o h = .ok b) (hnoip : parseIP (partition 37 h).1 = none)
    (henc : idnaEncode o h = .ok raw) (hreg : notRegName raw = false) :
    encodeHost o h v = .ok raw := by
  -- reg-name text holds no ':': the IDNA answer is returned as such (no re-entry, fix 3fbf5b4)
  rw [encodeHost_noIp v (noIp_of_parse hlook hnoip), regPath_idn_no_colon o v hna henc (notRegName_false_no_colon hreg),
    hreg, Bool.and_false]
  rfl

/-- an internationalised host `h` (not ASCII, not an IP literal) whose A-label form is `raw`:
    `idnaEncode h = raw` and `idnaDec raw = h` are the two oracle facts of the IDNA round trip.
    `hlast`: `raw` does not end in a digit, or contains "xn--" (every real A-label form does; the
    encoder is an oracle here, so it is a hypothesis). -/
theorem hostRT_idn (e : Env) {h raw : Str} (b : Bool) (ph : PlainHost raw) (hna : isAscii h = false)
    (hlook : looksIP e.o h = .ok b) (hnoip : parseIP (partition 37 h).1 = none)
    (henc : idnaEncode e.o h = .ok raw) (hdec : e.o.idnaDec raw = some (some h))
    (hlast : (∀ l, raw.getLast? = some l → isDigitC l = false) ∨ hasSub [120, 110, 45, 45] raw = true)
    (hd : DispHost h) (h58 : 58 ∉ h) : HostRT e h raw h where
  hne := hd.ok.1
  build := by
    rw [plain_bracket ph]; exact encodeHost_idn e.o h raw true b hna hlook hnoip henc ph.reg
  okH := plain_hostOK ph
  shown := fun u hraw => host_reg e u raw h ph hraw hdec
    (hlast.elim Or.inl (fun hx => Or.inr (Or.inl hx)))
  disp := hd
  enc := by
    rw [plain_bracket ph]; exact encodeHost_idn e.o h raw false b hna hlook hnoip henc ph.reg
  colon := fun hc => absurd hc h58

/-! ### IPv4 -/

theorem ipv4_last {s : Str} {o4 : List Nat} (h : parseIPv4 s = some o4) :
    ∃ l, s.getLast? = some l ∧ l < 128 ∧ isDigitC l = true := by
  obtain ⟨hs, hl, _⟩ := C16_ipv4_canonical s o4 h
  match o4, hl with
  | [a, b, c, d], _ =>
    refine ⟨48 + d % 10, ?_, by omega, by simp [isDigitC]; omega⟩
    rw [← hs]
    simp only [ipv4ToStr, List.map_cons, List.map_nil, PathLemmas.joinC_cons, flatC_cons, flatC_nil, List.append_nil]
    have := Decimal.natToStr_getLast d
    simp only [← List.append_assoc, ← List.cons_append]
    rw [List.getLast?_append]
    have h2 : (46 :: natToStr d).getLast? = some (48 + d % 10) := by
      rw [← this]
      generalize natToStr d = nd at this
      cases nd with
      | nil => simp at this
      | cons x xs => simp [List.getLast?_cons_cons]
    rw [h2]; rfl

theorem host_literal (e : Env) (u : Url) (raw : Str) (hraw : rawHost e u = .ok (some raw))
    (hl : ∃ l, raw.getLast? = some l ∧ l < 128 ∧
      ((isDigitC l = true ∧ hasSub [120, 110, 45, 45] raw = false) ∨ mem 58 raw = true)) :
    host e u = .ok (some raw) := by
  obtain ⟨l, h1, h2, h3⟩ := hl
  unfold host
  rw [hraw]
  simp only [bind, Except.bind, h1, isDigitChar, h2, ↓reduceIte, pure, Except.pure]
  rcases h3 with ⟨h3, h4⟩ | h3
  · simp [h3, h4]
  · simp [h3]

theorem hostRT_ipv4 (e : Env) {s : Str} {o4 : List Nat} (h4 : parseIPv4 s = some o4) :
    HostRT e s s s := by
  have hf := FixLemmas.hostFix_ipv4 e.o h4
  have hch := parseIPv4_chars h4
  have n (c : Nat) (h1 : c ≠ 46) (h2 : isDigitC c = false) : c ∉ s := by
    intro hm
    rcases hch c hm with h | h
    · exact h1 h
    · rw [h2] at h; exact Bool.noConfusion h
  have hb : bracket s = s := FixLemmas.bracket_of_no_colon (n 58 (by decide) (by decide))
  obtain ⟨l, hl1, hl2, hl3⟩ := ipv4_last h4
  exact {
    hne := hf.ok.1
    build := by rw [hb]; exact C16_ipv4_kept e.o s true o4 h4 (n 37 (by decide) (by decide))
    okH := hf.ok
    shown := fun u hraw => host_literal e u s hraw
      ⟨l, hl1, hl2, Or.inl ⟨hl3, SubLemmas.xn_not_in_digits_dots hch⟩⟩
    disp := ⟨hf.ok, fun c hc => authCh_of_fix (hf.chars c hc), hf.notV⟩
    enc := hf.enc
    colon := id }

/-! ### IPv6, with an optional zone id -/

/-- `""` or `"%" ++ zone` with a zone that `_encode_host(validate_host=True)` accepts -/
def ZoneOK (zs : Str) : Prop := zs = [] ∨ ∃ z, zs = 37 :: z ∧ notRegName (lower z) = false

instance (zs : Str) : Decidable (ZoneOK zs) :=
  match zs with
  | [] => isTrue (Or.inl rfl)
  | c :: z =>
    if h : c = 37 ∧ notRegName (lower z) = false then isTrue (Or.inr ⟨z, by rw [h.1], h.2⟩)
    else isFalse (by
      rintro (h0 | ⟨z', h1, h2⟩)
      · cases h0
      · cases h1; exact h ⟨rfl, h2⟩)

theorem regName_gt32 : ∀ k ∈ Gen.regNameChars, 32 < k := by decide +kernel

theorem zone_all {zs : Str} (hz : ZoneOK zs) :
    ∀ c ∈ zs, c < 128 ∧ c ≠ 64 ∧ c ≠ 47 ∧ c ≠ 63 ∧ c ≠ 35 ∧ c ≠ 58 ∧ c ≠ 91 ∧ c ≠ 93 ∧ 32 < c := by
  rcases hz with rfl | ⟨z, rfl, hz⟩
  · intro c hc; cases hc
  · intro c hc
    rcases List.mem_cons.mp hc with rfl | hc
    · omega
    · have h1 := zone_chars hz c hc
      have hm : lowerC c ∈ lower z := by simp only [lower, List.mem_map]; exact ⟨c, hc, rfl⟩
      have h2 : 32 < lowerC c := by
        rcases notRegName_spec _ hz _ hm with h | h
        · omega
        · exact regName_gt32 _ (mem_iff.mp h)
      have h3 : 32 < c := by
        revert h2; unfold lowerC; split <;> omega
      omega

theorem ipv6_encode (o : Oracles) (a : Str) (h8 : List Nat) (zs : Str) (v : Bool)
    (ha : parseIPv6 a = some h8) (h37 : 37 ∉ a) (hz : ZoneOK zs) :
    encodeHost o (a ++ zs) v = .ok ([91] ++ (ipv6ToStr h8 ++ zs) ++ [93]) := by
  rcases hz with rfl | ⟨z, rfl, hz⟩
  · have hp := partition_notFound 37 a h37
    rw [List.append_nil, encodeHost_of_v6 o v (by rw [hp]; exact ha)]
    simp [zoneBad, StrTotal.zonePart, hp]
  · have hp := partition_found 37 a z h37
    rw [encodeHost_of_v6 o v (by rw [hp]; exact ha)]
    simp [zoneBad, StrTotal.zonePart, hp, hz]

theorem hostRT_ipv6 (e : Env) {a : Str} {h8 : List Nat} {zs : Str} (ha : parseIPv6 a = some h8)
    (h37 : 37 ∉ a) (hz : ZoneOK zs) :
    HostRT e (a ++ zs) (ipv6ToStr h8 ++ zs) (ipv6ToStr h8 ++ zs) := by
  obtain ⟨hl, hx⟩ := parseIPv6_shape ha
  have hrt := C16_ipv6_roundtrip h8 hl hx
  have hch := C16_ipv6_text_lower h8
  obtain ⟨n37, _⟩ := C16_ipv6_text_no_pct_dot h8
  have hcolon : 58 ∈ ipv6ToStr h8 := parseIPv6_colon hrt
  have hzc := zone_all hz
  have hall : ∀ c ∈ ipv6ToStr h8 ++ zs, 32 < c ∧ c < 128 ∧ c ≠ 64 ∧ c ≠ 47 ∧ c ≠ 63 ∧ c ≠ 35 ∧
      c ≠ 91 ∧ c ≠ 93 := by
    intro c hc
    rcases List.mem_append.mp hc with hc | hc
    · rcases hch c hc with rfl | hd | hd
      · omega
      · simp [isDigitC] at hd; omega
      · omega
    · have := hzc c hc; omega
  have hne : ipv6ToStr h8 ≠ [] := by
    intro h; rw [h] at hcolon; cases hcolon
  have hcolon' : 58 ∈ ipv6ToStr h8 ++ zs := List.mem_append.mpr (Or.inl hcolon)
  have hb : bracket (ipv6ToStr h8 ++ zs) = [91] ++ (ipv6ToStr h8 ++ zs) ++ [93] := by
    unfold bracket; rw [if_pos (mem_iff.mpr hcolon')]
  have hok : HostOK (ipv6ToStr h8 ++ zs) :=
    ⟨by simp [hne], fun hm => (hall 64 hm).2.2.1 rfl, fun hm => (hall 91 hm).2.2.2.2.2.2.1 rfl,
      fun hm => (hall 93 hm).2.2.2.2.2.2.2 rfl⟩
  have hane : a ≠ [] := by
    intro h; have := parseIPv6_colon ha; rw [h] at this; cases this
  exact {
    hne := by simp [hane]
    build := by rw [hb]; exact ipv6_encode e.o a h8 zs true ha h37 hz
    okH := hok
    shown := fun u hraw => by
      obtain ⟨l, hl⟩ : ∃ l, (ipv6ToStr h8 ++ zs).getLast? = some l := by
        cases hx : (ipv6ToStr h8 ++ zs).getLast? with
        | none => exact absurd (List.getLast?_eq_none_iff.mp hx) hok.1
        | some l => exact ⟨l, rfl⟩
      exact host_literal e u _ hraw ⟨l, hl, (hall l (List.mem_of_getLast? hl)).2.1,
        Or.inr (mem_iff.mpr hcolon')⟩
    disp := ⟨hok, fun c hc => by have := hall c hc; unfold AuthCh; omega, fun _ hv => by
      have hm : 118 ∈ ipv6ToStr h8 := by
        cases hs : ipv6ToStr h8 with
        | nil => exact absurd hs hne
        | cons x xs => rw [hs] at hv; simp at hv; simp [hv]
      rcases hch 118 hm with h | h | h
      · omega
      · simp [isDigitC] at h
      · omega⟩
    enc := by rw [hb]; exact ipv6_encode e.o (ipv6ToStr h8) h8 zs false hrt n37 hz
    colon := id }

end HumanFull

open HumanLemmas HumanFull in
/-- the kinds of host of the property: `h` is the argument of `build`, `H` the stored host and `D`
    the host that `human_repr()` shows (both without brackets) -/
inductive HostKind (e : Env) : Str → Str → Str → Prop
  /-- a plain registered name (ASCII, lower case, valid, not an IP literal) that IDNA leaves alone -/
  | plain {h : Str} : PlainHost h → e.o.idnaDec h = some (some h) → HostKind e h h h
  /-- an internationalised name `h` with A-label form `raw`; `idnaEncode h = raw` and
      `idnaDec raw = h` are the two oracle facts of the IDNA round trip (trusted base).
      `raw` does not end in a digit OR contains "xn--" (as every real A-label form does; the encoder is
      an oracle, so this cannot be derived): then `URL.host` decodes it (`host_reg`) -/
  | idn {h raw : Str} (b : Bool) : PlainHost raw → isAscii h = false →
      HostLemmas.looksIP e.o h = .ok b → parseIP (partition 37 h).1 = none →
      idnaEncode e.o h = .ok raw → e.o.idnaDec raw = some (some h) →
      ((∀ l, raw.getLast? = some l → isDigitC l = false) ∨ hasSub [120, 110, 45, 45] raw = true) →
      DispHost h → 58 ∉ h → HostKind e h raw h
  /-- an IPv4 literal: stored and shown as given -/
  | ipv4 {s : Str} {o4 : List Nat} : parseIPv4 s = some o4 → HostKind e s s s
  /-- an IPv6 literal `a` (any accepted spelling), optionally followed by `%zone`: stored and
      shown in the compressed spelling, in brackets -/
  | ipv6 {a : Str} {h8 : List Nat} {zs : Str} : parseIPv6 a = some h8 → 37 ∉ a → ZoneOK zs →
      HostKind e (a ++ zs) (ipv6ToStr h8 ++ zs) (ipv6ToStr h8 ++ zs)

open HumanFull in
theorem HostKind.rt {e : Env} {h H D : Str} (k : HostKind e h H D) : HostRT e h H D := by
  cases k with
  | plain ph hidna => exact hostRT_plain e ph hidna
  | idn b ph hna hlook hnoip henc hdec hlast hd h58 =>
    exact hostRT_idn e b ph hna hlook hnoip henc hdec hlast hd h58
  | ipv4 h4 => exact hostRT_ipv4 e h4
  | ipv6 ha h37 hz => exact hostRT_ipv6 e ha h37 hz

section fix
open HumanLemmas HumanFull HostLemmas FixLemmas

/-- a plain registered name is stored as it is -/
theorem HumanLemmas.PlainHost.hostFix {h : Str} (ph : PlainHost h) (o : Oracles) : HostFix o h where
  ok := plain_hostOK ph
  chars := by
    intro c hc
    have hlt : c < 128 := by
      have ha := ph.ascii
      simp only [isAscii, List.all_eq_true, decide_eq_true_eq] at ha
      exact ha c hc
    have hge : 33 ≤ c := by
      rcases notRegName_spec _ ph.reg c hc with rfl | hm
      · omega
      · have := regName_gt32 c (mem_iff.mp hm); omega
    refine ⟨hge, hlt, ?_⟩
    have a1 : c ≠ 47 := fun e => plain_avoid ph (d := 47) (by decide) (e ▸ hc)
    have a2 : c ≠ 63 := fun e => plain_avoid ph (d := 63) (by decide) (e ▸ hc)
    have a3 : c ≠ 35 := fun e => plain_avoid ph (d := 35) (by decide) (e ▸ hc)
    simp [Rfc.isDelim3, a1, a2, a3]
  notV := fun h58 => absurd h58 (plain_avoid ph (by decide))
  enc := by rw [plain_bracket ph]; exact encodeHost_plain o h false ph

/-- the stored host of every kind is a fixed point of `_encode_host` (what `HostFix` says), as `HostKind.rt` says what
    the round trip needs of it -/
theorem HostKind.fix {e : Env} {h H D : Str} (k : HostKind e h H D) : HostFix e.o H := by
  cases k with
  | plain ph _ => exact ph.hostFix e.o
  | idn b ph => exact ph.hostFix e.o
  | ipv4 h4 => exact hostFix_ipv4 e.o h4
  | ipv6 ha h37 hz =>
    rename_i a h8 zs
    have hrt := hostRT_ipv6 e ha h37 hz
    have hch := C16_ipv6_text_lower h8
    have hzc := zone_all hz
    refine ⟨hrt.okH, ?_, hrt.disp.notV, hrt.enc⟩
    intro c hc
    have : 32 < c ∧ c < 128 ∧ c ≠ 47 ∧ c ≠ 63 ∧ c ≠ 35 := by
      rcases List.mem_append.mp hc with hc | hc
      · rcases hch c hc with rfl | hd | hd
        · omega
        · simp [isDigitC] at hd; omega
        · omega
      · have := hzc c hc; omega
    refine ⟨by omega, this.2.1, ?_⟩
    simp [Rfc.isDelim3, this.2.2.1, this.2.2.2.1, this.2.2.2.2]

end fix

namespace HumanFull
open HumanLemmas HumanMore OutLangLemmas QsLemmas QueryUrl NetlocLemmas HostLemmas

/-! ## totality -/

theorem humanQuoteOpt_total (o : Oracles) (x : Option Str) (uns : Str)
    (hx : ∀ s, x = some s → NoSurrogate s) (ho : ∀ c, 128 ≤ c → (o.isPrintableU c).isSome) :
    ∃ y, humanQuoteOpt o x uns = .ok y := by
  cases x with
  | none => exact ⟨none, rfl⟩
  | some s =>
    obtain ⟨r, hr⟩ := C18_human_quote_total o s uns (hx s rfl) (fun c _ => ho c)
    exact ⟨some r, by simp [humanQuoteOpt, hr, bind, Except.bind, pure, Except.pure]⟩

theorem humanPairs_total (o : Oracles) (ho : ∀ c, 128 ≤ c → (o.isPrintableU c).isSome) :
    ∀ kvs : List (Str × Str), GoodPairs kvs → ∃ parts, kvs.mapM (humanPair o) = .ok parts := by
  intro kvs
  induction kvs with
  | nil => intro _; exact ⟨[], rfl⟩
  | cons p ps ih =>
    intro hg
    obtain ⟨rs, hrs⟩ := ih (fun x hx => hg x (by simp [hx]))
    obtain ⟨rk, hk⟩ := C18_human_quote_total o p.1 (humanUnsafeOf "k") (hg p (by simp)).1.2 (fun c _ => ho c)
    obtain ⟨rv, hv⟩ := C18_human_quote_total o p.2 (humanUnsafeOf "v") (hg p (by simp)).2.2 (fun c _ => ho c)
    refine ⟨(rk ++ [61] ++ rv) :: rs, ?_⟩
    rw [List.mapM_cons, hrs]
    obtain ⟨k, v⟩ := p
    simp only [humanPair, hk, hv, bind, Except.bind, pure, Except.pure]

end HumanFull
end Yarl
