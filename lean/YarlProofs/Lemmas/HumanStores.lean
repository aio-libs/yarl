/-
  HumanStores.lean — the round trip `URL(u.human_repr()) == u` in ONE statement (`roundtrip_shown`): for every URL
  object that stores the encodings of decoded components (`HumanMore.Stores`) and every way of showing them (`Shower`)
  in which each shown piece spells its component (`ShownSpells`).  The shown text is made of the shown pieces
  (`HumanFull.showWith_shape`); the constructor splits it where it was joined and re-quotes every piece to what is stored
  (`R5.ctor_pieces`, Lemmas/HumanSpell.lean).  `human_repr()` itself, and `human_repr()` with other `unsafe` lists for
  user and password that satisfy `AuthLists`, show spellings (`shownSpells_lists`, `roundtrip`).  Then the general form
  of `URL.build`, which returns such a URL (`stores_built`), so that every round-trip statement about `build` is a
  corollary.  (Namespace `HumanRelax`: `human_repr()` with other `unsafe` lists, `humanReprU`, `AuthLists`; the
  others: see the header of Lemmas/HumanLemmas.lean.)
-/
import YarlProofs.Lemmas.HumanShown
namespace Yarl
namespace HumanRelax

open HumanLemmas HumanFull HumanMore QueryUrl QsLemmas NetlocLemmas

/-- `human_repr()` with the per-position `unsafe` lists as a parameter -/
def humanReprU (L : String → Str) (e : Env) (u : Url) : R Str := do
  let usr ← humanQuoteOpt e.o (← user e u) (L "user")
  let pw ← humanQuoteOpt e.o (← password e u) (L "password")
  let h0 ← host e u
  let h := h0.map (fun h => if !h.isEmpty && mem 58 h then [91] ++ h ++ [93] else h)
  let path ← humanQuote e.o (pathDecoded e u) (L "path")
  let qparts ← (queryPairs u).mapM (fun (k, v) => do
    pure ((← humanQuote e.o k (L "k")) ++ [61] ++ (← humanQuote e.o v (L "v"))))
  let qs := joinC 38 qparts
  let frag ← humanQuote e.o (fragmentDecoded e u) (L "fragment")
  let netloc := makeNetloc (q e Gen.QUOTER) usr pw h (← explicitPort e u) false
  pure (unsplitResult u.scheme netloc path qs frag)

theorem humanReprU_std : humanReprU humanUnsafeOf = humanRepr := rfl

/-- … and, for any lists, `showWith` of the `Shower` that quotes with them -/
theorem humanReprU_show (L : String → Str) (e : Env) (u : Url) :
    humanReprU L e u = showWith (humanShower e.o L) e u := rfl

/-- the characters the human form of a user must not contain literally -/
def userBadU : List Nat := [9, 10, 13, 35, 47, 58, 63, 91, 93]
/-- … and of a password (':' and '@' are harmless there) -/
def pwBadU : List Nat := [9, 10, 13, 35, 47, 63, 91, 93]

/-- what the round trip needs of the `unsafe` lists of user (`Lu`) and password (`Lp`) -/
structure AuthLists (Lu Lp : Str) : Prop where
  compatU : ∀ b : Backend, HumanCompat (Gen.REQUOTER.tab b) (Gen.QUOTER.tab b) Lu
  compatP : ∀ b : Backend, HumanCompat (Gen.REQUOTER.tab b) (Gen.QUOTER.tab b) Lp
  avoidU : ∀ d ∈ userBadU, mem d Lu = true ∨ d < 32 ∨ d = 127
  avoidP : ∀ d ∈ pwBadU, mem d Lp = true ∨ d < 32 ∨ d = 127

/-- both are parts of `userBad` -/
theorem bad_sub : ∀ d ∈ userBadU ++ pwBadU, d ∈ userBad := by decide

theorem bad_tab (d : Nat) (hd : d ∈ userBadU ++ pwBadU) : d ≠ 37 ∧ isUpperHexDigit d = false :=
  ⟨(userBad_tab d (bad_sub d hd)).1, (userBad_tab d (bad_sub d hd)).2.1⟩

theorem avoid_of {o : Oracles} {L : Str} (hasc : ∀ c ∈ L, c < 128) (bad : List Nat)
    (hbad : ∀ d ∈ bad, d ≠ 37 ∧ isUpperHexDigit d = false ∧ (mem d L = true ∨ d < 32 ∨ d = 127))
    {x y : Option Str} (hx : UText x) (h : humanQuoteOpt o x L = .ok y) :
    ∀ r, y = some r → ∀ d ∈ bad, d ∉ r := by
  intro r hr d hd
  rcases humanQuoteOpt_ok h with ⟨_, rfl⟩ | ⟨s, r', rfl, rfl, hq⟩
  · cases hr
  · cases hr
    obtain ⟨h2, h3, h4⟩ := hbad d hd
    exact humanQuote_avoid o _ hasc s r (hx s rfl).1 hq d h2 h3 h4

section lists
variable {Lu Lp : Str} (al : AuthLists Lu Lp)
include al

theorem avoidU_of {o : Oracles} {x y : Option Str} (hx : UText x) (h : humanQuoteOpt o x Lu = .ok y) :
    ∀ r, y = some r → ∀ d ∈ userBadU, d ∉ r :=
  avoid_of (al.compatU .c).ascii userBadU
    (fun d hd => ⟨(bad_tab d (by simp [hd])).1, (bad_tab d (by simp [hd])).2, al.avoidU d hd⟩) hx h

theorem avoidP_of {o : Oracles} {x y : Option Str} (hx : UText x) (h : humanQuoteOpt o x Lp = .ok y) :
    ∀ r, y = some r → ∀ d ∈ pwBadU, d ∉ r :=
  avoid_of (al.compatP .c).ascii pwBadU
    (fun d hd => ⟨(bad_tab d (by simp [hd])).1, (bad_tab d (by simp [hd])).2, al.avoidP d hd⟩) hx h

end lists

/-- a shown user or password without the characters of `pwBadU` has none that ends the authority, and no bracket -/
theorem authPart_of_bad {y : Option Str} {bad : List Nat} (hsub : ∀ d ∈ pwBadU, d ∈ bad)
    (h : ∀ r, y = some r → ∀ d ∈ bad, d ∉ r) : AuthPart y := by
  intro r hr a ha
  have := fun d hd => h r hr d (hsub d hd)
  refine ⟨⟨?_, ?_, ?_, ?_, ?_, ?_⟩, ?_, ?_⟩ <;> (intro e; subst e; exact this _ (by decide) ha)

/-- the lists `L` differ from the generated ones only for user and password -/
structure SameElsewhere (L : String → Str) : Prop where
  path : L "path" = humanUnsafeOf "path"
  k : L "k" = humanUnsafeOf "k"
  v : L "v" = humanUnsafeOf "v"
  fragment : L "fragment" = humanUnsafeOf "fragment"

end HumanRelax

namespace HumanStores

open HumanLemmas HumanFull HumanMore HumanRelax QueryUrl QsLemmas NetlocLemmas

theorem same_std : SameElsewhere humanUnsafeOf := ⟨rfl, rfl, rfl, rfl⟩

theorem lists_std : AuthLists (humanUnsafeOf "user") (humanUnsafeOf "password") where
  compatU := fun b => (gen_compat b).1
  compatP := fun b => gen_same_lists.1 ▸ (gen_compat b).1
  avoidU := by decide +kernel
  avoidP := by decide +kernel

/-- `URL(s)` for the text `s` composed of pieces shown by `S`: the record `R5.ctorUrl` of the decoded components, and
    the authority Appendix B reads off `s` is the one written -/
theorem ctor_shown {S : Shower} {e : Env} {user pw : Option Str} {p : Str} {kvs : List (Str × Str)} {f : Str}
    (sp : ShownSpells e S user pw p kvs f) (sc : Str) {h : Str} (H D : Str) (port : Option Nat)
    (vs : ValidScheme sc) (hrt : HostRT e h H D) (hport : ∀ x, port = some x → x ≤ 65535)
    (hu : UText user) (hune : ∀ s, user = some s → s ≠ [])
    (hp : PyStr (47 :: p)) (hn : NoSurrogate (47 :: p)) (hnorm : normalizePath (47 :: p) = 47 :: p)
    {usr pw' : Option Str} {rp : Str} {qparts : List Str} {rf : Str}
    (q1 : S.user user = .ok usr) (q2 : S.pw pw = .ok pw') (q3 : S.path (47 :: p) = .ok (47 :: rp))
    (q4 : kvs.mapM S.pair = .ok qparts) (q5 : S.frag f = .ok rf) :
    (Rfc.appendixB Gen.schemeChars (composeUrl sc (authText usr pw' D port) (47 :: rp) (joinC 38 qparts) rf)).authority =
      authText usr pw' D port ∧
    ((isAscii (authText usr pw' D port) = false → checkNetloc e.o (authText usr pw' D port) = .ok ()) →
      encodeUrl e (composeUrl sc (authText usr pw' D port) (47 :: rp) (joinC 38 qparts) rf) =
        .ok (R5.ctorUrl e sc user pw H port p kvs f)) := by
  obtain ⟨s1, huo, a1⟩ := sp.user usr q1
  obtain ⟨s2, a2⟩ := sp.pw pw' q2
  obtain ⟨rp', e0, hpath, hrp, hc1⟩ := sp.path _ q3
  obtain rfl : rp = rp' := (List.cons.inj e0).2
  obtain ⟨hquery, hq35, hcq⟩ := sp.query qparts q4
  obtain ⟨hfrag, hc2⟩ := sp.frag rf q5
  exact ⟨R5.authority_spelled sc port rp _ rf vs hrt.disp a1 a2 hrp hq35, fun hnf =>
    R5.ctor_pieces e sc user pw usr pw' H D port p kvs f rp _ rf vs hrt hport hu hune hp hn hnorm s1 s2 huo a1 a2
      hpath hrp hc1 hquery hq35 hcq hfrag hc2 hnf⟩

/-- THE MASTER ROUND TRIP (every other round trip of C18 is a case of it).  `u` stores the encodings of decoded components; `S` shows each of them by a spelling (`ShownSpells`).  The
    text `human_repr()` gives with `S` is made of the shown pieces (`showWith_shape`); its authority is
    `authText usr pw' D port` (shown user, shown password, shown host), and — provided the NFKC screen of `split_url`
    accepts that authority when it is not ASCII — `URL(…)` of the text is the record `R5.ctorUrl` of the decoded
    components: `==` to `u` (`Stores.beq`), storing the same components. -/
theorem roundtrip_shown (S : Shower) (e : Env) (u : Url) (user pw : Option Str) (h H D : Str) (port : Option Nat)
    (p : Str) (kvs : List (Str × Str)) (f : Str)
    (vs : ValidScheme u.scheme) (hrt : HostRT e h H D) (hport : ∀ x, port = some x → x ≤ 65535)
    (hu : UText user) (hune : ∀ s, user = some s → s ≠ []) (hw : UText pw)
    (hp : PyStr (47 :: p)) (hn : NoSurrogate (47 :: p)) (hnorm : normalizePath (47 :: p) = 47 :: p)
    (hg : GoodPairs kvs) (hf : PyStr f) (hfn : NoSurrogate f)
    (st : Stores e u user pw H port p kvs f) (sp : ShownSpells e S user pw p kvs f)
    (hr : Str) (hh : showWith S e u = .ok hr) :
    ∃ usr pw', S.user user = .ok usr ∧ S.pw pw = .ok pw' ∧
      (Rfc.appendixB Gen.schemeChars hr).authority = authText usr pw' D port ∧
      ((isAscii (authText usr pw' D port) = false → checkNetloc e.o (authText usr pw' D port) = .ok ()) →
        encodeUrl e hr = .ok (R5.ctorUrl e u.scheme user pw H port p kvs f)) := by
  obtain ⟨usr, pw', rp, qparts, rf, q1, q2, q3, q4, q5, rfl⟩ := showWith_shape S e u user pw H D port
    p kvs f st vs.ne hrt.okH hrt.shown hrt.disp.ok.1 hport hu hune hw hp hn hg hf hfn
    (fun r h => (sp.path r h).imp fun rp k => k.1) hr hh
  exact ⟨usr, pw', q1, q2, ctor_shown sp u.scheme H D port vs hrt hport hu hune hp hn hnorm q1 q2 q3 q4 q5⟩

/-- `roundtrip_shown` for `StoresOK`, with the proviso stated on the Appendix B authority of the text: `URL(…)` of the
    shown text is `==` to `u`, satisfies `StoresOK` with the same components (so that the round trip can be iterated and
    modifiers applied), and is shown as the same text -/
theorem _root_.Yarl.HumanReach.StoresOK.roundtrip {e : Env} {u : Url} {user pw : Option Str} {H : Str}
    {port : Option Nat} {p : Str} {kvs : List (Str × Str)} {f : Str} (ok : HumanReach.StoresOK e u user pw H port p kvs f)
    (S : Shower) (sp : ShownSpells e S user pw p kvs f) (hr : Str) (hh : showWith S e u = .ok hr)
    (hnf : isAscii (Rfc.appendixB Gen.schemeChars hr).authority = false →
      checkNetloc e.o (Rfc.appendixB Gen.schemeChars hr).authority = .ok ()) :
    ∃ v, encodeUrl e hr = .ok v ∧ Url.beq v u = true ∧ HumanReach.StoresOK e v user pw H port p kvs f ∧
      showWith S e v = .ok hr := by
  obtain ⟨h, D, hk⟩ := ok.hk
  obtain ⟨usr, pw', _, _, hA, hv⟩ := roundtrip_shown S e u user pw h H D port p kvs f ok.vs hk.rt ok.hport ok.hu ok.hune
    ok.hw ok.hp ok.hn ok.hnorm ok.hg ok.hf ok.hfn ok.st sp hr hh
  have hvok := R5.ctorUrl_storesOK e u.scheme user pw h H D port p kvs f ok.vs hk ok.hport ok.hu ok.hune ok.hw ok.hp ok.hn
    ok.hnorm ok.hg ok.hf ok.hfn
  refine ⟨_, hv (hA ▸ hnf), ok.st.beq hvok.st rfl hk.rt.okH.1 ok.hp ok.hn, hvok, ?_⟩
  rw [showWith_stores S e _ user pw H D port p kvs f hvok.st hk.rt.okH hk.rt.shown hk.rt.disp.ok.1 ok.hport ok.hu ok.hune
    ok.hw ok.hp ok.hn ok.hg ok.hf ok.hfn]
  rw [showWith_stores S e u user pw H D port p kvs f ok.st hk.rt.okH hk.rt.shown hk.rt.disp.ok.1 ok.hport ok.hu ok.hune
    ok.hw ok.hp ok.hn ok.hg ok.hf ok.hfn] at hh
  exact hh

/-- the human forms made with lists `L` that differ from the generated ones at most for user and password, where they
    satisfy `AuthLists`, are spellings -/
theorem shownSpells_lists (L : String → Str) (se : SameElsewhere L) (al : AuthLists (L "user") (L "password"))
    (e : Env) (user pw : Option Str) (p : Str) (kvs : List (Str × Str)) (f : Str)
    (hu : UText user) (hune : ∀ s, user = some s → s ≠ []) (hw : UText pw)
    (hp : PyStr (47 :: p)) (hn : NoSurrogate (47 :: p)) (hg : GoodPairs kvs) (hf : PyStr f) (hfn : NoSurrogate f) :
    ShownSpells e (humanShower e.o L) user pw p kvs f where
  user := fun usr q1 =>
    ⟨spells_human al.compatU hu q1,
      fun r hr => ⟨humanPart_ne_nil hu hune q1 r hr, avoidU_of al hu q1 r hr 58 (by decide)⟩,
      authPart_of_bad (by decide) (avoidU_of al hu q1)⟩
  pw := fun pw' q2 =>
    ⟨spells_human al.compatP hw q2, authPart_of_bad (fun _ hd => hd) (avoidP_of al hw q2)⟩
  path := fun r q3 => by
    have q3' : humanQuote e.o (47 :: p) (humanUnsafeOf "path") = .ok r := by
      simpa only [humanShower, se.path] using q3
    exact R12.lit_path_spells e (l := fun _ => false) hp hn q3' (R12.litOK_false _ p)
  query := fun qparts q4 => by
    have q4' : kvs.mapM (humanPair e.o) = .ok qparts := by
      simp only [humanShower, se.k, se.v] at q4
      exact q4
    rw [humanPair_lit] at q4'
    exact R12.lit_query_spells e _ _ hg (fun kv _ => ⟨R12.litOK_false _ _, R12.litOK_false _ _⟩) q4'
  frag := fun rf q5 => by
    have q5' : humanQuote e.o f (humanUnsafeOf "fragment") = .ok rf := by
      simpa only [humanShower, se.fragment] using q5
    exact R12.lit_frag_spells e (l := fun _ => false) hf hfn q5' (R12.litOK_false _ f)

/-- `human_repr()` itself shows spellings -/
theorem _root_.Yarl.HumanReach.StoresOK.shownSpells {e : Env} {u : Url} {user pw : Option Str} {H : Str}
    {port : Option Nat} {p : Str} {kvs : List (Str × Str)} {f : Str} (ok : HumanReach.StoresOK e u user pw H port p kvs f) :
    ShownSpells e (humanShower e.o humanUnsafeOf) user pw p kvs f :=
  shownSpells_lists humanUnsafeOf same_std lists_std e user pw p kvs f ok.hu ok.hune ok.hw ok.hp ok.hn ok.hg ok.hf ok.hfn

/-- `roundtrip_shown` for `human_repr()` made with such lists (`shownSpells_lists`): `URL(…)` of the text is `==` to
    `u`; its cache pre-fill and stored path are named -/
theorem roundtrip (L : String → Str) (se : SameElsewhere L) (al : AuthLists (L "user") (L "password"))
    (e : Env) (u : Url) (user pw : Option Str) (h H D : Str) (port : Option Nat)
    (p : Str) (kvs : List (Str × Str)) (f : Str)
    (vs : ValidScheme u.scheme) (hrt : HostRT e h H D) (hport : ∀ x, port = some x → x ≤ 65535)
    (hu : UText user) (hune : ∀ s, user = some s → s ≠ []) (hw : UText pw)
    (hp : PyStr (47 :: p)) (hn : NoSurrogate (47 :: p)) (hnorm : normalizePath (47 :: p) = 47 :: p)
    (hg : GoodPairs kvs) (hf : PyStr f) (hfn : NoSurrogate f)
    (st : Stores e u user pw H port p kvs f) (hr : Str) (hh : humanReprU L e u = .ok hr) :
    ∃ usr pw', humanQuoteOpt e.o user (L "user") = .ok usr ∧ humanQuoteOpt e.o pw (L "password") = .ok pw' ∧
      (Rfc.appendixB Gen.schemeChars hr).authority = authText usr pw' D port ∧
      ((isAscii (authText usr pw' D port) = false → checkNetloc e.o (authText usr pw' D port) = .ok ()) →
        ∃ v, encodeUrl e hr = .ok v ∧ Url.beq v u = true ∧
          v.pre = some (preOf (user.map (q e Gen.QUOTER)) (pw.map (q e Gen.QUOTER)) H port) ∧
          v.path = q e Gen.PATH_QUOTER (47 :: p)) := by
  obtain ⟨usr, pw', q1, q2, hA, hv⟩ := roundtrip_shown (humanShower e.o L) e u user pw h H D port p kvs f vs hrt hport hu
    hune hw hp hn hnorm hg hf hfn st (shownSpells_lists L se al e user pw p kvs f hu hune hw hp hn hg hf hfn) hr
    (humanReprU_show L e u ▸ hh)
  exact ⟨usr, pw', q1, q2, hA, fun hnf => ⟨_, hv hnf,
    st.beq (R5.ctorUrl_stores e u.scheme user pw H port p kvs f) rfl hrt.okH.1 hp hn, rfl, rfl⟩⟩

/-- `roundtrip` with the proviso stated on the Appendix B authority of the text -/
theorem roundtrip' (L : String → Str) (se : SameElsewhere L) (al : AuthLists (L "user") (L "password"))
    (e : Env) (u : Url) (user pw : Option Str) (h H D : Str) (port : Option Nat)
    (p : Str) (kvs : List (Str × Str)) (f : Str)
    (vs : ValidScheme u.scheme) (hrt : HostRT e h H D) (hport : ∀ x, port = some x → x ≤ 65535)
    (hu : UText user) (hune : ∀ s, user = some s → s ≠ []) (hw : UText pw)
    (hp : PyStr (47 :: p)) (hn : NoSurrogate (47 :: p)) (hnorm : normalizePath (47 :: p) = 47 :: p)
    (hg : GoodPairs kvs) (hf : PyStr f) (hfn : NoSurrogate f)
    (st : Stores e u user pw H port p kvs f) (hr : Str) (hh : humanReprU L e u = .ok hr)
    (hnf : isAscii (Rfc.appendixB Gen.schemeChars hr).authority = false →
      checkNetloc e.o (Rfc.appendixB Gen.schemeChars hr).authority = .ok ()) :
    ∃ v, encodeUrl e hr = .ok v ∧ Url.beq v u = true ∧
      v.pre = some (preOf (user.map (q e Gen.QUOTER)) (pw.map (q e Gen.QUOTER)) H port) ∧
      v.path = q e Gen.PATH_QUOTER (47 :: p) := by
  obtain ⟨usr, pw', _, _, hA, hv⟩ := roundtrip L se al e u user pw h H D port p kvs f vs hrt hport hu hune hw hp hn
    hnorm hg hf hfn st hr hh
  exact hv (hA ▸ hnf)

/-- neither user nor password and an ASCII shown host: the authority of the human form is ASCII, the proviso is void -/
theorem roundtrip_ascii (e : Env) (u : Url) (h H D : Str) (port : Option Nat)
    (p : Str) (kvs : List (Str × Str)) (f : Str)
    (vs : ValidScheme u.scheme) (hrt : HostRT e h H D) (hD : isAscii D = true) (hport : ∀ x, port = some x → x ≤ 65535)
    (hp : PyStr (47 :: p)) (hn : NoSurrogate (47 :: p)) (hnorm : normalizePath (47 :: p) = 47 :: p)
    (hg : GoodPairs kvs) (hf : PyStr f) (hfn : NoSurrogate f)
    (st : Stores e u none none H port p kvs f) (hr : Str) (hh : humanRepr e u = .ok hr) :
    ∃ v, encodeUrl e hr = .ok v ∧ Url.beq v u = true := by
  obtain ⟨usr, pw', h1, h2, _, hv⟩ := roundtrip humanUnsafeOf same_std lists_std e u none none h H D port p kvs f vs hrt
    hport nofun nofun nofun hp hn hnorm hg hf hfn st hr hh
  cases h1
  cases h2
  have hA : isAscii (authText none none D port) = true := by
    unfold isAscii at hD ⊢
    rw [List.all_eq_true] at hD ⊢
    simpa using FixLemmas.authText_forall (· < 128) none none D port nofun nofun (by simpa using hD)
      (fun c hc => by simp [isDigitC] at hc; omega) (by omega) (by omega) (fun _ => by omega) (fun _ => by omega)
  obtain ⟨v, a, b, _⟩ := hv (fun hx => by rw [hA] at hx; cases hx)
  exact ⟨v, a, b⟩

end HumanStores

namespace HumanMore

open HumanLemmas HumanFull HumanRelax HumanStores QueryUrl QsLemmas NetlocLemmas

/-- `roundtrip'` for `human_repr()` itself (the generated lists): `URL(u.human_repr()) == u` for every URL object `u`
    that stores the encodings of decoded components (`Stores`), with a valid scheme, a host that satisfies `HostRT`,
    a dot-segment-free decoded path — under the NFKC proviso for a non-ASCII authority -/
theorem roundtrip_stored (e : Env) (u : Url) (user pw : Option Str) (h H D : Str) (port : Option Nat)
    (p : Str) (kvs : List (Str × Str)) (f : Str)
    (vs : ValidScheme u.scheme) (hrt : HostRT e h H D) (hport : ∀ x, port = some x → x ≤ 65535)
    (hu : UText user) (hune : ∀ s, user = some s → s ≠ []) (hw : UText pw)
    (hp : PyStr (47 :: p)) (hn : NoSurrogate (47 :: p)) (hnorm : normalizePath (47 :: p) = 47 :: p)
    (hg : GoodPairs kvs) (hf : PyStr f) (hfn : NoSurrogate f)
    (st : Stores e u user pw H port p kvs f) :
    ∀ hr, humanRepr e u = .ok hr →
      (isAscii (Rfc.appendixB Gen.schemeChars hr).authority = false →
        checkNetloc e.o (Rfc.appendixB Gen.schemeChars hr).authority = .ok ()) →
      ∃ v, encodeUrl e hr = .ok v ∧ Url.beq v u = true ∧
        v.pre = some (preOf (user.map (q e Gen.QUOTER)) (pw.map (q e Gen.QUOTER)) H port) ∧
        v.path = q e Gen.PATH_QUOTER (47 :: p) :=
  roundtrip' humanUnsafeOf same_std lists_std e u user pw h H D port p kvs f vs hrt hport hu hune hw hp hn hnorm hg hf hfn
    st

/-! ## `URL.build` in general form: any user / password, empty or rooted path, any query argument -/

theorem dropEmpty_eq_some {x : Option Str} {s : Str} (h : dropEmpty x = some s) : x = some s ∧ s ≠ [] := by
  cases x with
  | none => cases h
  | some t =>
    cases t with
    | nil => cases h
    | cons c r => cases h; exact ⟨rfl, by simp⟩

theorem dropEmpty_ne (x : Option Str) : ∀ s, dropEmpty x = some s → s ≠ [] :=
  fun _ hs => (dropEmpty_eq_some hs).2

theorem dropEmpty_utext {x : Option Str} (h : UText x) : UText (dropEmpty x) :=
  fun s hs => h s (dropEmpty_eq_some hs).1

theorem dropEmpty_of_ne {x : Option Str} (h : ∀ s, x = some s → s ≠ []) : dropEmpty x = x := by
  cases x with
  | none => rfl
  | some t =>
    cases t with
    | nil => exact absurd rfl (h [] rfl)
    | cons c r => rfl

theorem authText_dropEmpty (e : Env) (user pw : Option Str) (H : Str) (port : Option Nat) :
    authText (user.map (q e Gen.QUOTER)) pw H port = authText ((dropEmpty user).map (q e Gen.QUOTER)) pw H port := by
  cases user with
  | none => rfl
  | some t =>
    cases t with
    | nil =>
      simp only [dropEmpty, Option.map_some, q_nil, Option.bind_some, List.isEmpty_nil, if_true, Option.map_none]
      unfold authText
      rw [makeNetloc_eq, makeNetloc_eq]
      cases pw <;> simp
    | cons c r => rfl

/-- the decoded path `build` stores for its `path` argument (without the leading "/") -/
def pathTail : Str → Str
  | [] => []
  | _ :: p => normTail p

/-- it is the tail of a Python string without lone surrogates, free of dot segments -/
theorem pathTail_good {path : Str}
    (hpath : path = [] ∨ ∃ p, path = 47 :: p ∧ PyStr (47 :: p) ∧ NoSurrogate (47 :: p)) :
    PyStr (47 :: pathTail path) ∧ NoSurrogate (47 :: pathTail path) ∧
      normalizePath (47 :: pathTail path) = 47 :: pathTail path := by
  rcases hpath with rfl | ⟨p, rfl, hp, hn⟩
  · exact ⟨by decide, by decide, by decide⟩
  · exact ⟨(good_normalizePath hp hn).1, (good_normalizePath hp hn).2, normTail_normal p⟩

/-- what `build` returns stores the encodings of the decoded components -/
theorem stores_built (e : Env) (sc : Str) (user pw : Option Str) (H : Str) (port : Option Nat)
    (path : Str) (kvs : List (Str × Str)) (f : Str)
    (hpath : path = [] ∨ ∃ p, path = 47 :: p ∧ PyStr (47 :: p) ∧ NoSurrogate (47 :: p)) :
    Stores e (fromParts sc (authText (user.map (q e Gen.QUOTER)) (pw.map (q e Gen.QUOTER)) H port)
        (storedPath e path) (qtext e.b kvs) (if f.isEmpty then f else q e Gen.FRAGMENT_QUOTER f))
      (dropEmpty user) pw H port (pathTail path) kvs f where
  netloc := authText_dropEmpty e user _ H port
  pre := fun pr h => by cases h
  path := by
    rcases hpath with rfl | ⟨p, rfl, hp, hn⟩
    · exact Or.inr ⟨rfl, rfl⟩
    · exact Or.inl rfl
  query := rfl
  fragment := rfl

/-- GENERAL round trip for `URL.build`: scheme, any user / password (a user "" is no user), a host that
    satisfies `HostRT`, optional port, an EMPTY or rooted path, a query argument of any kind that
    renders to the text of the pairs `kvs` (or a query string that quotes to it), a fragment -/
theorem roundtrip_build (e : Env) (sc : Str) (user pw : Option Str) (h H D : Str) (port : Option Nat)
    (path : Str) (qa : QArg) (qs : Str) (kvs : List (Str × Str)) (f : Str)
    (vs : ValidScheme sc) (hrt : HostRT e h H D) (hport : ∀ x, port = some x → x ≤ 65535)
    (hu : UText user) (hw : UText pw)
    (hpath : path = [] ∨ ∃ p, path = 47 :: p ∧ PyStr (47 :: p) ∧ NoSurrogate (47 :: p))
    (hg : GoodPairs kvs)
    (hq1 : qargTruthy qa = true → qs = [] ∧ getStrQuery e.b qa = .ok (some (qtext e.b kvs)))
    (hq2 : qargTruthy qa = false → qtext e.b kvs = if qs.isEmpty then qs else q e Gen.QUERY_QUOTER qs)
    (hf : PyStr f) (hfn : NoSurrogate f) :
    ∃ u, build e { scheme := sc, user := user, password := pw, host := h, port := port.map Int.ofNat,
                   path := path, query := qa, queryString := qs, fragment := f } = .ok u ∧
      u.scheme = sc ∧ u.path = storedPath e path ∧ u.query = qtext e.b kvs ∧
      Stores e u (dropEmpty user) pw H (effPort sc port) (pathTail path) kvs f ∧
      ∀ hr, humanRepr e u = .ok hr →
        (isAscii (Rfc.appendixB Gen.schemeChars hr).authority = false →
          checkNetloc e.o (Rfc.appendixB Gen.schemeChars hr).authority = .ok ()) →
        ∃ v, encodeUrl e hr = .ok v ∧ Url.beq v u = true ∧
          v.pre = some (preOf ((dropEmpty user).map (q e Gen.QUOTER)) (pw.map (q e Gen.QUOTER)) H
            (effPort sc port)) ∧ v.path = q e Gen.PATH_QUOTER (47 :: pathTail path) := by
  have hb := build_core e sc sc (vs.lowerAny_eq e) user pw h H port path qa qs (qtext e.b kvs) f hrt.hne hrt.okH.1 hrt.build hport
    hpath hq1 hq2
  have st := stores_built e sc user pw H (effPort sc port) path kvs f hpath
  refine ⟨_, hb, rfl, rfl, rfl, st, ?_⟩
  have hgood := pathTail_good hpath
  exact roundtrip_stored e _ (dropEmpty user) pw h H D (effPort sc port) (pathTail path) kvs f vs hrt
    (effPort_range hport) (dropEmpty_utext hu) (dropEmpty_ne user) hw hgood.1 hgood.2.1 hgood.2.2 hg hf hfn st

end HumanMore
end Yarl
