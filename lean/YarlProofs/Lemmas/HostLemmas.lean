/-
  HostLemmas.lean — the host functions of `YarlModel/Host.lean`, for C16 (host canonical form).
  * lower-casing, and that neither IP parser sees it; `notRegName`; `_parse_octet` against `Lemmas/Decimal.lean`;
  * hexadecimal groups: `hexLower` on code points, its closed form `hexDigits` (RFC 5952 `field`), `parseHextet` on it;
  * the IPv6 parser in two steps (`v6expand`, `v6core`, `skipTail`), the shape of what it accepts, and what it reads
    from colon-joined parts: `v6core_full`, and `v6core_sides` on the parts `side A ++ [] :: side B` around a "::";
  * `_encode_host` through its pieces (`looksIP`, `ipRes`, `zoneBad`, `regPath`; `hostBranch` and `hostBranch_ok_iff`
    for it and its re-entry): the lemmas the property files use instead of unfolding `encodeHost`;
  * the run of zeros `bestZeroRun` selects, in the words of RFC 5952 (`Rfc5952.zerosAt`, `longest`, `firstAt`; the loop
    in closed form `go_eq`, `bestZeroRun_eq`, `chosen_run`), and the printer in closed form `ipv6ToStr_closed`.
-/
import YarlModel
import YarlProofs.Lemmas.PathLemmas
import YarlProofs.Lemmas.ParseLemmas
import YarlProofs.Lemmas.Basics
import YarlProofs.Lemmas.Decimal
namespace Yarl.StrTotal
/-- the zone suffix `%zone` that `_encode_host` copies verbatim -/
def zonePart (h0 : Str) : Str := if (partition 37 h0).2.1 then [37] ++ (partition 37 h0).2.2 else []
end Yarl.StrTotal

namespace Yarl.Rfc5952
/-- §4.3: one hexadecimal digit, lower case -/
def digit (d : Nat) : Nat := if d < 10 then 48 + d else 87 + d
end Yarl.Rfc5952

namespace Yarl.HostLemmas
open Yarl
open Yarl.PathLemmas (splitOn_ne_nil splitOn_cons_ne splitOn_no_sep splitOn_sub)
open Yarl.ParseLemmas (partition_eq)
open Yarl.Rfc5952 (digit)

/-! ### the characters of a joined text -/

theorem mem_flatC {c x : Nat} {l : List Str} (h : x ∈ flatC c l) : x = c ∨ ∃ p ∈ l, x ∈ p := by
  induction l with
  | nil => simp at h
  | cons s r ih =>
    simp only [flatC_cons, List.mem_cons, List.mem_append] at h
    rcases h with h | h | h
    · exact Or.inl h
    · exact Or.inr ⟨s, List.mem_cons_self, h⟩
    · rcases ih h with h | ⟨p, hp, hx⟩
      · exact Or.inl h
      · exact Or.inr ⟨p, List.mem_cons_of_mem _ hp, hx⟩

theorem mem_joinC {c x : Nat} {l : List Str} (h : x ∈ joinC c l) : x = c ∨ ∃ p ∈ l, x ∈ p := by
  cases l with
  | nil => simp at h
  | cons s r =>
    rw [PathLemmas.joinC_cons, List.mem_append] at h
    rcases h with h | h
    · exact Or.inr ⟨s, List.mem_cons_self, h⟩
    · rcases mem_flatC h with h | ⟨p, hp, hx⟩
      · exact Or.inl h
      · exact Or.inr ⟨p, List.mem_cons_of_mem _ hp, hx⟩

/-! ### lower-casing -/

theorem lowerC_eq_iff (c k : Nat) (hk : ¬ (65 ≤ k ∧ k ≤ 122)) : lowerC c = k ↔ c = k := by
  unfold lowerC; split <;> omega

theorem lower_idem (s : Str) : lower (lower s) = lower s := by
  simp [lower, lowerC_idem]

theorem lowerC_lt {c : Nat} (h : c < 128) : lowerC c < 128 ∧ ¬ (65 ≤ lowerC c ∧ lowerC c ≤ 90) := by
  unfold lowerC; split <;> omega

theorem isAscii_lower {s : Str} (h : isAscii s = true) : isAscii (lower s) = true := by
  simp only [isAscii, lower, List.all_eq_true, List.mem_map, decide_eq_true_eq] at *
  rintro x ⟨c, hc, rfl⟩
  exact (lowerC_lt (h c hc)).1

theorem splitOn_lower (k : Nat) (hk : ¬ (65 ≤ k ∧ k ≤ 122)) (s : Str) :
    splitOn k (lower s) = (splitOn k s).map lower := by
  induction s with
  | nil => simp [splitOn, lower]
  | cons x xs ih =>
    by_cases h : x = k
    · subst h
      have : lowerC x = x := by unfold lowerC; split <;> omega
      simp only [lower, List.map_cons, this, splitOn, ↓reduceIte] at ih ⊢
      simp [ih]
    · obtain ⟨q, qs, e⟩ := List.exists_cons_of_ne_nil (splitOn_ne_nil k xs)
      have h' : lowerC x ≠ k := fun e => h ((lowerC_eq_iff x k hk).1 e)
      rw [splitOn_cons_ne k x xs h e]
      rw [e] at ih
      simp only [lower, List.map_cons] at ih ⊢
      exact splitOn_cons_ne k _ _ h' ih

theorem mem_lower (k : Nat) (hk : ¬ (65 ≤ k ∧ k ≤ 90) ∧ ¬ (97 ≤ k ∧ k ≤ 122)) (s : Str) : k ∈ lower s ↔ k ∈ s := by
  unfold lower
  simp only [List.mem_map]
  constructor
  · rintro ⟨c, hc, h⟩
    have : c = k := by unfold lowerC at h; split at h <;> omega
    exact this ▸ hc
  · intro h
    refine ⟨k, h, ?_⟩
    unfold lowerC; split <;> omega

theorem partition_fst_lower (k : Nat) (hk : ¬ (65 ≤ k ∧ k ≤ 122)) (s : Str) :
    (partition k (lower s)).1 = lower (partition k s).1 := by
  induction s with
  | nil => simp [lower, partition]
  | cons x xs ih =>
    simp only [lower, List.map_cons] at ih ⊢
    by_cases h : x = k
    · subst h
      have : lowerC x = x := (lowerC_eq_iff x x hk).2 rfl
      simp [partition, this]
    · have h' : lowerC x ≠ k := fun e => h ((lowerC_eq_iff x k hk).1 e)
      simp [partition, h, h', ih]

/-! ### lower-casing does not change what the IP parsers see -/

theorem isDigitC_lowerC (c : Nat) : isDigitC (lowerC c) = isDigitC c := by
  unfold lowerC isDigitC; split
  · rw [Bool.eq_iff_iff]; simp; omega
  · rfl

theorem lowerC_of_digit {c : Nat} (h : isDigitC c = true) : lowerC c = c := by
  unfold isDigitC at h; unfold lowerC; simp at h; split <;> omega

theorem lower_of_all {p : Str} (h : ∀ c ∈ p, lowerC c = c) : lower p = p := by
  induction p with
  | nil => rfl
  | cons x xs ih =>
    simp only [lower, List.map_cons] at ih ⊢
    rw [h x List.mem_cons_self, ih (fun c hc => h c (List.mem_cons_of_mem _ hc))]

theorem lower_of_all_digit {p : Str} (h : p.all isDigitC = true) : lower p = p :=
  lower_of_all fun c hc => lowerC_of_digit (List.all_eq_true.1 h c hc)

theorem all_digit_lower (p : Str) : (lower p).all isDigitC = p.all isDigitC := by
  simp [lower, List.all_map, Function.comp_def, isDigitC_lowerC]

theorem parseOctet_lower (p : Str) : parseOctet (lower p) = parseOctet p := by
  cases h : p.all isDigitC with
  | true => rw [lower_of_all_digit h]
  | false =>
    have h2 := all_digit_lower p
    rw [h] at h2
    cases p with
    | nil => rfl
    | cons x xs =>
      unfold parseOctet
      simp only [h, h2]
      simp [lower]

theorem mapM_parseOctet_lower (l : List Str) : (l.map lower).mapM parseOctet = l.mapM parseOctet := by
  induction l with
  | nil => rfl
  | cons x xs ih => simp [List.mapM_cons, parseOctet_lower, ih]

theorem mem_lower_b (k : Nat) (hk : ¬ (65 ≤ k ∧ k ≤ 122)) (s : Str) : mem k (lower s) = mem k s := by
  rw [mem_eq, mem_eq]; simp [mem_lower k (by omega)]

theorem isEmpty_lower (s : Str) : (lower s).isEmpty = s.isEmpty := by
  cases s <;> rfl

theorem parseIPv4_lower (s : Str) : parseIPv4 (lower s) = parseIPv4 s := by
  unfold parseIPv4
  simp only [mem_lower_b 47 (by omega), isEmpty_lower, splitOn_lower 46 (by omega), List.length_map,
    mapM_parseOctet_lower]

/-! ### hexadecimal rendering as a function on code points -/

def hexAuxN : Nat → Nat → Str → Str
  | 0, _, acc => acc
  | fuel + 1, n, acc => if n < 16 then digit n :: acc else hexAuxN fuel (n / 16) (digit (n % 16) :: acc)

theorem hexDigitC_toNat : ∀ k, k < 16 → (Wire.hexDigitC k).toNat = digit k := by decide

theorem toHexAux_map (fuel n : Nat) (acc : List Char) :
    (Wire.toHexAux fuel n acc).map Char.toNat = hexAuxN fuel n (acc.map Char.toNat) := by
  induction fuel generalizing n acc with
  | zero => rfl
  | succ f ih =>
    simp only [Wire.toHexAux, hexAuxN]
    split
    · rename_i h; simp [hexDigitC_toNat n h]
    · rw [ih]; simp [hexDigitC_toNat (n % 16) (by omega)]

theorem hexLower_eq (n : Nat) : hexLower n = hexAuxN 16 n [] := by
  simp [hexLower, Wire.toHexStr, String.toStr, toHexAux_map]

def isLowerHexC (c : Nat) : Prop := isDigitC c = true ∨ (97 ≤ c ∧ c ≤ 102)

theorem digit_lowerHex {k : Nat} (h : k < 16) : isLowerHexC (digit k) := by
  unfold digit isLowerHexC isDigitC; split
  · left; simp; omega
  · right; omega

theorem hexAuxN_lower (fuel n : Nat) (acc : Str) (h : ∀ c ∈ acc, isLowerHexC c) :
    ∀ c ∈ hexAuxN fuel n acc, isLowerHexC c := by
  induction fuel generalizing n acc with
  | zero => exact h
  | succ f ih =>
    simp only [hexAuxN]
    split
    · rename_i hn
      intro c hc
      rcases List.mem_cons.1 hc with rfl | hc
      · exact digit_lowerHex hn
      · exact h c hc
    · apply ih
      intro c hc
      rcases List.mem_cons.1 hc with rfl | hc
      · exact digit_lowerHex (by omega)
      · exact h c hc

theorem hexLower_lower (n : Nat) : ∀ c ∈ hexLower n, isLowerHexC c := by
  rw [hexLower_eq]; exact hexAuxN_lower 16 n [] (by simp)

theorem lowerC_of_lowerHex {c : Nat} (h : isLowerHexC c) : lowerC c = c := by
  unfold isLowerHexC isDigitC at h; unfold lowerC; simp at h; split <;> omega

theorem lower_hexLower (n : Nat) : lower (hexLower n) = hexLower n :=
  lower_of_all (fun c hc => lowerC_of_lowerHex (hexLower_lower n c hc))

/-! ### the structure of `parseIPv6` -/

/-- replace a dotted-quad last part by two hextets -/
def v6expand (parts0 : List Str) : Option (List Str) :=
  match parts0.getLast? with
  | some l =>
    if mem 46 l then
      match parseIPv4 l with
      | some [a, b, c, d] => some (parts0.dropLast ++ [hexLower (a * 256 + b), hexLower (c * 256 + d)])
      | _ => none
    else some parts0
  | none => none

/-- the part of `_ip_int_from_string` after the IPv4 suffix has been expanded -/
def v6core (parts : List Str) : Option (List Nat) :=
  if parts.length > 9 then none
  else
    match findSkip parts with
    | none => none
    | some (some skip) =>
      let hi0 := skip
      let lo0 := parts.length - skip - 1
      let firstEmpty := (parts.headD [1]).isEmpty
      let lastEmpty := (parts.getLastD [1]).isEmpty
      let hi := if firstEmpty then hi0 - 1 else hi0
      let lo := if lastEmpty then lo0 - 1 else lo0
      if firstEmpty ∧ hi ≠ 0 then none
      else if lastEmpty ∧ lo ≠ 0 then none
      else if 8 < hi + lo + 1 then none
      else
        let his := (parts.take hi).mapM parseHextet
        let los := ((parts.drop (parts.length - lo))).mapM parseHextet
        match his, los with
        | some h, some l => some (h ++ List.replicate (8 - (hi + lo)) 0 ++ l)
        | _, _ => none
    | some none =>
      if parts.length ≠ 8 then none
      else if (parts.headD [1]).isEmpty then none
      else if (parts.getLastD [1]).isEmpty then none
      else parts.mapM parseHextet

theorem parseIPv6_eq (s : Str) :
    parseIPv6 s =
      if mem 47 s then none
      else if s.isEmpty then none
      else if (splitOn 58 s).length < 3 then none
      else match v6expand (splitOn 58 s) with
        | none => none
        | some parts => v6core parts := by
  rfl

/-! ### `parseIPv6` is case-insensitive -/

theorem isHexC_lowerC (c : Nat) : isHexC (lowerC c) = isHexC c := by
  unfold lowerC isHexC isDigitC; split
  · rw [Bool.eq_iff_iff]; simp; omega
  · rfl

theorem hexVal_lowerC {c : Nat} (h : isHexC c = true) : hexVal (lowerC c) = hexVal c := by
  unfold isHexC isDigitC at h
  unfold lowerC hexVal isDigitC
  simp at h ⊢
  repeat' split
  all_goals omega

theorem foldl_hex_lower (p : Str) (h : p.all isHexC = true) (a : Nat) :
    (lower p).foldl (fun a c => a * 16 + hexVal c) a = p.foldl (fun a c => a * 16 + hexVal c) a := by
  induction p generalizing a with
  | nil => rfl
  | cons x xs ih =>
    simp only [List.all_cons, Bool.and_eq_true] at h
    simp only [lower, List.map_cons, List.foldl_cons] at ih ⊢
    rw [hexVal_lowerC h.1, ih h.2]

theorem parseHextet_lower (p : Str) : parseHextet (lower p) = parseHextet p := by
  have h1 : (lower p).all isHexC = p.all isHexC := by
    simp [lower, List.all_map, Function.comp_def, isHexC_lowerC]
  unfold parseHextet
  rw [h1, isEmpty_lower]
  cases h : p.all isHexC with
  | false => rfl
  | true => rw [foldl_hex_lower p h]; simp [lower]

theorem mapM_parseHextet_lower (l : List Str) : (l.map lower).mapM parseHextet = l.mapM parseHextet := by
  induction l with
  | nil => rfl
  | cons x xs ih => simp [List.mapM_cons, parseHextet_lower, ih]

theorem getD_map_lower (l : List Str) (i : Nat) : (l.map lower).getD i [1] = lower (l.getD i [1]) := by
  simp only [List.getD_eq_getElem?_getD, List.getElem?_map]
  cases l[i]? <;> rfl

theorem findSkip_lower (l : List Str) : findSkip (l.map lower) = findSkip l := by
  unfold findSkip
  simp only [List.length_map, getD_map_lower, isEmpty_lower]

theorem headD_map_lower (l : List Str) : (l.map lower).headD [1] = lower (l.headD [1]) := by
  cases l <;> rfl

theorem getLastD_map_lower (l : List Str) : (l.map lower).getLastD [1] = lower (l.getLastD [1]) := by
  simp only [List.getLastD_eq_getLast?, List.getLast?_map]
  cases l.getLast? <;> rfl

theorem v6core_lower (l : List Str) : v6core (l.map lower) = v6core l := by
  unfold v6core
  simp only [List.length_map, findSkip_lower, headD_map_lower, getLastD_map_lower, isEmpty_lower,
    ← List.map_take, ← List.map_drop, mapM_parseHextet_lower]

theorem v6expand_lower (l : List Str) : v6expand (l.map lower) = (v6expand l).map (·.map lower) := by
  unfold v6expand
  rw [List.getLast?_map]
  cases l.getLast? with
  | none => rfl
  | some x =>
    simp only [Option.map_some, mem_lower_b 46 (by omega), parseIPv4_lower]
    split
    · split
      · simp [← List.map_dropLast, lower_hexLower]
      · rfl
    · rfl

theorem parseIPv6_lower (s : Str) : parseIPv6 (lower s) = parseIPv6 s := by
  rw [parseIPv6_eq, parseIPv6_eq]
  simp only [mem_lower_b 47 (by omega), isEmpty_lower, splitOn_lower 58 (by omega), List.length_map,
    v6expand_lower]
  cases v6expand (splitOn 58 s) with
  | none => rfl
  | some ps => simp [v6core_lower]

theorem parseIP_lower (s : Str) : parseIP (lower s) = parseIP s := by
  unfold parseIP; rw [parseIPv4_lower, parseIPv6_lower]

/-! ### `notRegName` -/

theorem notRegName_cons_false {c : Nat} {rest : Str} (h : notRegName (c :: rest) = false) :
    (c = 37 ∨ mem c Gen.regNameChars = true) ∧ notRegName rest = false := by
  by_cases hc : c = 37
  · subst hc
    rw [notRegName.eq_def] at h
    simp only [Bool.or_eq_false_iff] at h
    exact ⟨Or.inl rfl, h.2⟩
  · rw [notRegName.eq_4 _ _ (by intro h'; exact hc h')] at h
    simp only [Bool.or_eq_false_iff, Bool.not_eq_false'] at h
    exact ⟨Or.inr h.1, h.2⟩

theorem notRegName_spec (s : Str) (h : notRegName s = false) :
    ∀ c ∈ s, c = 37 ∨ mem c Gen.regNameChars = true := by
  induction s with
  | nil => simp
  | cons x xs ih =>
    have := notRegName_cons_false h
    intro c hc
    rcases List.mem_cons.1 hc with rfl | hc
    · exact this.1
    · exact ih this.2 c hc

theorem regNameChars_lt : ∀ x ∈ Gen.regNameChars, x < 128 := by decide

theorem regNameChars_small :
    ∀ c, c < 128 → (mem c Gen.regNameChars = true ↔
      ((Rfc.unreserved c = true ∨ Rfc.subDelims c = true) ∧ ¬(65 ≤ c ∧ c ≤ 90))) := by
  decide +kernel

/-! ### `_parse_octet` and decimal text -/

/-- `_parse_octet` accepts exactly the canonical decimal texts of 0…255 -/
theorem parseOctet_some {p : Str} {v : Nat} : parseOctet p = some v ↔
    p ≠ [] ∧ (∀ c ∈ p, isDigitC c = true) ∧ p.length ≤ 3 ∧ (p = [48] ∨ p.head? ≠ some 48) ∧
      NetlocLemmas.dv 0 p = v ∧ v ≤ 255 := by
  unfold parseOctet NetlocLemmas.dv
  constructor
  · intro h
    split at h; · cases h
    split at h; · cases h
    split at h; · cases h
    split at h; · cases h
    rename_i h0 h1 h2 h3
    simp only [gt_iff_lt, Option.ite_none_left_eq_some, Option.some.injEq] at h
    exact ⟨by simpa using h0, by simpa using h1, by omega, Classical.or_iff_not_imp_left.2 fun a b => h3 ⟨a, b⟩,
      h.2, by omega⟩
  · rintro ⟨h0, h1, h2, h3, rfl, h5⟩
    rw [if_neg (by simpa using h0), if_neg (by simpa using h1), if_neg (by omega),
      if_neg (fun ⟨a, b⟩ => h3.elim a (fun n => n b))]
    exact if_neg (by omega)

/-- an accepted octet text is what `str(int)` prints for its value: one to three digits, no leading zero -/
theorem parseOctet_spec {p : Str} {v : Nat} (h : parseOctet p = some v) : natToStr v = p ∧ v ≤ 255 := by
  obtain ⟨hne, hd, -, hc, rfl, hv⟩ := parseOctet_some.1 h
  exact ⟨Decimal.natToStr_dv p hd hne hc, hv⟩

/-- conversely every octet, printed in decimal, is read back -/
theorem parseOctet_natToStr {n : Nat} (h : n ≤ 255) : parseOctet (natToStr n) = some n :=
  parseOctet_some.2 ⟨(Decimal.natToStr_digits n).1, (Decimal.natToStr_digits n).2,
    Decimal.natToStr_length n 2 (by omega), Decimal.natToStr_head n, Decimal.dv_natToStr n, h⟩

theorem mapM_parseOctet_spec {l : List Str} {o4 : List Nat} (h : l.mapM parseOctet = some o4) :
    o4.map natToStr = l ∧ ∀ x ∈ o4, x ≤ 255 := by
  induction l generalizing o4 with
  | nil => simp at h; subst h; simp
  | cons p ps ih =>
    rw [List.mapM_cons] at h
    cases hp : parseOctet p with
    | none => simp [hp] at h
    | some v =>
      cases hps : ps.mapM parseOctet with
      | none => simp [hp, hps] at h
      | some vs =>
        simp [hp, hps] at h
        subst h
        have := ih hps
        have := parseOctet_spec hp
        simp_all

/-! ### the structure of `encodeHost` -/

def looksIP (o : Oracles) (host : Str) : R Bool :=
  match host.getLast? with
  | none => pure false
  | some l => do
    let d ← (if mem 58 host then pure true else isDigitChar o l : R Bool)
    pure d

def ipRes (host : Str) : Option Str :=
  match parseIP (partition 37 host).1 with
  | some (.v6 h) => some (if (partition 37 host).2.1 then [91] ++ ipv6ToStr h ++ [37] ++ (partition 37 host).2.2 ++ [93]
                          else [91] ++ ipv6ToStr h ++ [93])
  | some (.v4 ip) => some (if (partition 37 host).2.1 then ipv4ToStr ip ++ [37] ++ (partition 37 host).2.2 else ipv4ToStr ip)
  | none => none

def regPath (o : Oracles) (host : Str) (validate : Bool) : R Str :=
  if isAscii host then
    if validate && notRegName (lower host) then .error .valueError else pure (lower host)
  else do
    let h ← idnaEncode o host
    if mem 58 h then encodeHostA o h validate
    else if validate && notRegName h then .error .valueError else pure h

/-- with validation on, the zone id of an IP literal is screened like a reg-name -/
def zoneBad (host : Str) (validate : Bool) : Bool :=
  validate && (partition 37 host).2.1 && notRegName (lower (partition 37 host).2.2)

/-- the IP branch exactly as the model writes it -/
def ipResV (host : Str) (validate : Bool) : Option (R Str) :=
  match parseIP (partition 37 host).1 with
  | some ip =>
    if zoneBad host validate then some (.error .valueError)
    else match ip with
      | .v6 h => some (pure (if (partition 37 host).2.1 then [91] ++ ipv6ToStr h ++ [37] ++ (partition 37 host).2.2 ++ [93]
                          else [91] ++ ipv6ToStr h ++ [93]))
      | .v4 ip => some (pure (if (partition 37 host).2.1 then ipv4ToStr ip ++ [37] ++ (partition 37 host).2.2 else ipv4ToStr ip))
  | none => none

/-- the reg-name branch of the re-entry: the IDNA step is not available a second time -/
def regPathA (host : Str) (validate : Bool) : R Str :=
  if isAscii host then
    if validate && notRegName (lower host) then .error .valueError else pure (lower host)
  else .error .valueError

/-! ### IPv6: colon, shape -/

theorem parseIPv6_colon {s : Str} {h8 : List Nat} (h : parseIPv6 s = some h8) : 58 ∈ s := by
  rw [parseIPv6_eq] at h
  by_cases hc : 58 ∈ s
  · exact hc
  · rw [PathLemmas.splitOn_of_not_mem 58 s hc] at h
    simp at h

theorem foldl_hex_lt (p : Str) (a : Nat) :
    p.foldl (fun a c => a * 16 + hexVal c) a < (a + 1) * 16 ^ p.length ∨ ¬ p.all isHexC = true := by
  induction p generalizing a with
  | nil => left; simp
  | cons x xs ih =>
    by_cases hx : isHexC x = true
    · rcases ih (a * 16 + hexVal x) with h | h
      · left
        simp only [List.foldl_cons, List.length_cons]
        have hv : hexVal x < 16 := by
          unfold isHexC isDigitC at hx; unfold hexVal isDigitC; simp at hx ⊢
          repeat' split
          all_goals omega
        calc _ < (a * 16 + hexVal x + 1) * 16 ^ xs.length := h
          _ ≤ ((a + 1) * 16) * 16 ^ xs.length := Nat.mul_le_mul_right _ (by omega)
          _ = (a + 1) * 16 ^ (xs.length + 1) := by rw [Nat.pow_succ, Nat.mul_assoc, Nat.mul_comm 16]
      · right; simp only [List.all_cons, Bool.and_eq_true, not_and]; intro _; exact h
    · right; simp [hx]

theorem parseHextet_lt {p : Str} {v : Nat} (h : parseHextet p = some v) : v < 65536 := by
  unfold parseHextet at h
  split at h; · cases h
  split at h; · cases h
  split at h; · cases h
  rename_i hall hlen _
  simp only [Option.some.injEq] at h
  subst h
  rcases foldl_hex_lt p 0 with h | h
  · have : 16 ^ p.length ≤ 16 ^ 4 := Nat.pow_le_pow_right (by omega) (by omega)
    omega
  · simp only [Bool.not_eq_eq_eq_not, Bool.not_true, Bool.not_eq_false] at hall; exact absurd hall h

theorem mapM_parseHextet_spec {l : List Str} {vs : List Nat} (h : l.mapM parseHextet = some vs) :
    vs.length = l.length ∧ ∀ x ∈ vs, x < 65536 := by
  induction l generalizing vs with
  | nil => simp at h; subst h; simp
  | cons p ps ih =>
    rw [List.mapM_cons] at h
    cases hp : parseHextet p with
    | none => simp [hp] at h
    | some v =>
      cases hps : ps.mapM parseHextet with
      | none => simp [hp, hps] at h
      | some vs' =>
        simp [hp, hps] at h
        subst h
        have := ih hps
        have := parseHextet_lt hp
        simp_all

theorem findSkip_some {parts : List Str} {k : Nat} (h : findSkip parts = some (some k)) :
    1 ≤ k ∧ k + 1 < parts.length ∧ (parts.getD k [1]).isEmpty = true := by
  unfold findSkip at h
  extract_lets n idxs at h
  generalize hidx : idxs = l at h
  match l, h with
  | [i], h =>
    simp only [Option.some.injEq] at h
    subst h
    have : i ∈ idxs := by rw [hidx]; simp
    simp only [idxs, n, List.mem_filter, List.mem_range, decide_eq_true_eq] at this
    exact ⟨this.2.1, this.2.2.1, this.2.2.2⟩

theorem skip_shape {parts : List Str} {hi lo : Nat} {h8 : List Nat}
    (hhi : hi ≤ parts.length) (hlo : lo ≤ parts.length)
    (h : (if 8 < hi + lo + 1 then none
      else match (parts.take hi).mapM parseHextet, ((parts.drop (parts.length - lo))).mapM parseHextet with
        | some h, some l => some (h ++ List.replicate (8 - (hi + lo)) 0 ++ l)
        | _, _ => none) = some h8) :
    h8.length = 8 ∧ ∀ x ∈ h8, x < 65536 := by
  split at h; · cases h
  split at h
  · rename_i hh ll h1 h2
    simp only [Option.some.injEq] at h
    subst h
    have a1 := mapM_parseHextet_spec h1
    have a2 := mapM_parseHextet_spec h2
    simp only [List.length_take, List.length_drop] at a1 a2
    constructor
    · simp only [List.length_append, List.length_replicate]
      omega
    · intro x hx
      simp only [List.mem_append, List.mem_replicate] at hx
      rcases hx with (hx | hx) | hx
      · exact a1.2 x hx
      · omega
      · exact a2.2 x hx
  · cases h

theorem v6core_shape {parts : List Str} {h8 : List Nat} (h : v6core parts = some h8) :
    h8.length = 8 ∧ ∀ x ∈ h8, x < 65536 := by
  unfold v6core at h
  split at h; · cases h
  split at h
  · cases h
  · rename_i skip hs
    have hk := findSkip_some hs
    extract_lets hi0 lo0 fe le hi lo at h
    have hhi : hi ≤ parts.length := by simp only [hi, hi0]; split <;> omega
    have hlo : lo ≤ parts.length := by simp only [lo, lo0]; split <;> omega
    split at h; · cases h
    split at h; · cases h
    exact skip_shape hhi hlo h
  · split at h; · cases h
    split at h; · cases h
    split at h; · cases h
    rename_i hl _ _
    have := mapM_parseHextet_spec h
    constructor
    · simp at hl; omega
    · exact this.2

theorem parseIPv6_shape {s : Str} {h8 : List Nat} (h : parseIPv6 s = some h8) :
    h8.length = 8 ∧ ∀ x ∈ h8, x < 65536 := by
  rw [parseIPv6_eq] at h
  split at h; · cases h
  split at h; · cases h
  split at h; · cases h
  split at h
  · cases h
  · exact v6core_shape h

/-! ### hex rendering / parsing round trip -/

theorem isHexC_digit {k : Nat} (h : k < 16) : isHexC (digit k) = true := by
  unfold digit isHexC isDigitC; split <;> simp <;> omega

theorem hexVal_digit {k : Nat} (h : k < 16) : hexVal (digit k) = k := by
  unfold digit hexVal isDigitC
  simp only [Bool.and_eq_true, decide_eq_true_eq]
  repeat' split
  all_goals omega

theorem foldl_hexDigits (ds : List Nat) (h16 : ∀ d ∈ ds, d < 16) (a : Nat) :
    (ds.map digit).foldl (fun a c => a * 16 + hexVal c) a = ds.foldl (fun a d => a * 16 + d) a := by
  induction ds generalizing a with
  | nil => rfl
  | cons d ds ih =>
    simp only [List.map_cons, List.foldl_cons]
    rw [hexVal_digit (h16 d List.mem_cons_self), ih (fun x hx => h16 x (List.mem_cons_of_mem _ hx))]

theorem parseHextet_digits (ds : List Nat) (h16 : ∀ d ∈ ds, d < 16) (h1 : 1 ≤ ds.length) (h4 : ds.length ≤ 4) :
    parseHextet (ds.map digit) = some (ds.foldl (fun a d => a * 16 + d) 0) := by
  have hall : (ds.map digit).all isHexC = true := by
    simp only [List.all_map, List.all_eq_true, Function.comp]
    intro d hd; exact isHexC_digit (h16 d hd)
  unfold parseHextet
  rw [hall, foldl_hexDigits ds h16]
  have h2 : ¬ (ds.map digit).length > 4 := by simp; omega
  have h3 : (ds.map digit).isEmpty = false := by
    cases ds with
    | nil => simp at h1
    | cons _ _ => rfl
  simp at h3
  simp [h3]; omega

theorem hexAuxN_lt {f n : Nat} (acc : Str) (h : n < 16) : hexAuxN (f + 1) n acc = digit n :: acc := by
  rw [hexAuxN, if_pos h]

theorem hexAuxN_ge {f n : Nat} (acc : Str) (h : ¬ n < 16) :
    hexAuxN (f + 1) n acc = hexAuxN f (n / 16) (digit (n % 16) :: acc) := by
  rw [hexAuxN, if_neg h]

/-- the hex digits of a 16-bit group, most significant first: leading zeros dropped, the last digit kept -/
def hexDigits (x : Nat) : List Nat := [x / 4096 % 16, x / 256 % 16, x / 16 % 16].dropWhile (· == 0) ++ [x % 16]

theorem hexDigits_lt (x : Nat) : ∀ d ∈ hexDigits x, d < 16 := by
  intro d hd
  rcases List.mem_append.1 hd with hd | hd
  · have := (List.dropWhile_sublist _).subset hd
    simp only [List.mem_cons, List.not_mem_nil, or_false] at this
    omega
  · simp only [List.mem_cons, List.not_mem_nil, or_false] at hd; omega

theorem hexDigits_length (x : Nat) : 1 ≤ (hexDigits x).length ∧ (hexDigits x).length ≤ 4 := by
  have := (List.dropWhile_sublist (· == 0) (l := [x / 4096 % 16, x / 256 % 16, x / 16 % 16])).length_le
  simp only [hexDigits, List.length_append, List.length_cons, List.length_nil] at this ⊢
  omega

theorem dropWhile_zero_cons (l : List Nat) : (0 :: l).dropWhile (· == 0) = l.dropWhile (· == 0) := rfl

theorem dropWhile_zero_ne {d : Nat} (h : d ≠ 0) (l : List Nat) : (d :: l).dropWhile (· == 0) = d :: l := by
  have : (d == 0) = false := by simpa using h
  simp only [List.dropWhile, this]

/-- dropped leading zeros do not change the value -/
theorem foldl_dropWhile_zero (l r : List Nat) :
    (l.dropWhile (· == 0) ++ r).foldl (fun a d => a * 16 + d) 0 = (l ++ r).foldl (fun a d => a * 16 + d) 0 := by
  induction l with
  | nil => rfl
  | cons d l ih =>
    by_cases hd : d = 0
    · subst hd; rw [dropWhile_zero_cons, ih]; rfl
    · rw [dropWhile_zero_ne hd]

theorem hexDigits_value {x : Nat} (hx : x < 65536) : (hexDigits x).foldl (fun a d => a * 16 + d) 0 = x := by
  rw [hexDigits, foldl_dropWhile_zero]
  show (((0 * 16 + x / 4096 % 16) * 16 + x / 256 % 16) * 16 + x / 16 % 16) * 16 + x % 16 = x
  omega

theorem hexLower_digits {x : Nat} (hx : x < 65536) : hexLower x = (hexDigits x).map digit := by
  have e3 : x / 4096 = x / 16 / 16 / 16 := by rw [Nat.div_div_eq_div_mul, Nat.div_div_eq_div_mul]
  have e2 : x / 256 = x / 16 / 16 := by rw [Nat.div_div_eq_div_mul]
  have h4 : x / 16 / 16 / 16 < 16 := by rw [← e3]; omega
  rw [hexLower_eq, hexDigits, e3, e2, Nat.mod_eq_of_lt h4]
  -- `hexAuxN` peels one digit per step; follow it for one to four digits
  by_cases h1 : x < 16
  · rw [hexAuxN_lt _ h1, Nat.div_eq_of_lt h1, Nat.mod_eq_of_lt h1]; rfl
  · have n1 : x / 16 ≠ 0 := by omega
    rw [hexAuxN_ge _ h1]
    generalize x / 16 = q1 at h4 n1 ⊢
    by_cases h2 : q1 < 16
    · rw [hexAuxN_lt _ h2, Nat.div_eq_of_lt h2, Nat.mod_eq_of_lt h2, Nat.zero_div, Nat.zero_mod,
        dropWhile_zero_cons, dropWhile_zero_cons, dropWhile_zero_ne n1]; rfl
    · have n2 : q1 / 16 ≠ 0 := by omega
      rw [hexAuxN_ge _ h2]
      generalize q1 / 16 = q2 at h4 n2 ⊢
      by_cases h3 : q2 < 16
      · rw [hexAuxN_lt _ h3, Nat.div_eq_of_lt h3, Nat.mod_eq_of_lt h3, dropWhile_zero_cons,
          dropWhile_zero_ne n2]; rfl
      · have n3 : q2 / 16 ≠ 0 := by omega
        rw [hexAuxN_ge _ h3, hexAuxN_lt _ h4, dropWhile_zero_ne n3]; rfl

theorem parseHextet_hexLower {x : Nat} (hx : x < 65536) : parseHextet (hexLower x) = some x := by
  rw [hexLower_digits hx, parseHextet_digits _ (hexDigits_lt x) (hexDigits_length x).1 (hexDigits_length x).2,
    hexDigits_value hx]

theorem hexLower_ne_nil {x : Nat} (hx : x < 65536) : hexLower x ≠ [] := by
  rw [hexLower_digits hx]
  intro h
  have := (hexDigits_length x).1
  rw [← List.length_map (f := digit), h] at this
  exact absurd this (by decide)

theorem map_hexLower_ne_nil {A : List Nat} (hA : ∀ x ∈ A, x < 65536) : ∀ p ∈ A.map hexLower, p ≠ [] := by
  intro p hp
  obtain ⟨x, hx, rfl⟩ := List.mem_map.1 hp
  exact hexLower_ne_nil (hA x hx)

theorem mapM_parseHextet_hexLower (A : List Nat) (hA : ∀ x ∈ A, x < 65536) :
    (A.map hexLower).mapM parseHextet = some A := by
  induction A with
  | nil => rfl
  | cons x xs ih =>
    simp [List.mapM_cons, parseHextet_hexLower (hA x List.mem_cons_self),
      ih (fun y hy => hA y (List.mem_cons_of_mem _ hy))]

/-! ### re-parsing the compressed text -/

theorem filter_range_none (n : Nat) (p : Nat → Bool) (h : ∀ i, i < n → p i = false) :
    (List.range n).filter p = [] := by
  rw [List.filter_eq_nil_iff]
  intro i hi
  simp only [List.mem_range] at hi
  simp [h i hi]

theorem filter_range_unique (n k : Nat) (p : Nat → Bool) (hk : k < n) (hpk : p k = true)
    (h : ∀ i, i < n → i ≠ k → p i = false) : (List.range n).filter p = [k] := by
  induction n with
  | zero => omega
  | succ m ih =>
    rw [List.range_succ, List.filter_append]
    by_cases hkm : k = m
    · subst hkm
      rw [filter_range_none k p (fun i hi => h i (by omega) (by omega))]
      simp [hpk]
    · rw [ih (by omega) (fun i hi hne => h i (by omega) hne)]
      simp [h m (by omega) (fun e => hkm e.symm)]

theorem findSkip_none_of {parts : List Str} (h : ∀ p ∈ parts, p ≠ []) : findSkip parts = some none := by
  unfold findSkip
  extract_lets n idxs
  have : idxs = [] := by
    apply filter_range_none
    intro i hi
    have : parts.getD i [1] ≠ [] := by
      rw [List.getD_eq_getElem?_getD, List.getElem?_eq_getElem hi]
      exact h _ (List.getElem_mem hi)
    have : (parts.getD i [1]).isEmpty = false := by simpa using this
    rw [this]; simp
  rw [this]

theorem findSkip_mid (P Q : List Str) (hP : ∀ p ∈ P.tail, p ≠ []) (hQ : ∀ p ∈ Q.dropLast, p ≠ [])
    (hP0 : P ≠ []) (hQ0 : Q ≠ []) : findSkip (P ++ [] :: Q) = some (some P.length) := by
  have hPl : 0 < P.length := List.length_pos_iff.2 hP0
  have hQl : 0 < Q.length := List.length_pos_iff.2 hQ0
  unfold findSkip
  extract_lets n idxs
  have hn : n = P.length + 1 + Q.length := by simp [n]; omega
  have : idxs = [P.length] := by
    apply filter_range_unique
    · omega
    · simp [n, List.getD_eq_getElem?_getD]; omega
    · intro i hi hne
      have : (P ++ [] :: Q).getD i [1] ≠ [] ∨ ¬ (1 ≤ i ∧ i + 1 < n) := by
        by_cases hlt : i < P.length
        · by_cases hi0 : i = 0
          · right; omega
          · left
            rw [List.getD_eq_getElem?_getD, List.getElem?_append_left hlt, List.getElem?_eq_getElem hlt]
            apply hP
            obtain ⟨j, rfl⟩ : ∃ j, i = j + 1 := ⟨i - 1, by omega⟩
            cases P with
            | nil => simp at hlt
            | cons a t => simp at hlt ⊢
        · by_cases hend : i + 1 < n
          · left
            obtain ⟨j, rfl⟩ : ∃ j, i = P.length + 1 + j := ⟨i - P.length - 1, by omega⟩
            have hj : j < Q.length - 1 := by omega
            have hj' : j < Q.length := by omega
            have e : (P ++ [] :: Q)[P.length + 1 + j]? = some Q[j] := by
              rw [List.getElem?_append_right (by omega)]
              have : P.length + 1 + j - P.length = j + 1 := by omega
              rw [this]; simp [hj']
            rw [List.getD_eq_getElem?_getD, e]
            apply hQ
            rw [List.mem_iff_getElem]
            exact ⟨j, by simp; omega, by simp⟩
          · right; omega
      rcases this with h | h
      · have : ((P ++ [] :: Q).getD i [1]).isEmpty = false := by simpa using h
        rw [this]; simp
      · simp only [decide_eq_false_iff_not]; intro hc; exact h ⟨hc.1, hc.2.1⟩
  rw [this]

theorem not_lowerHex_of {c : Nat} (h : c = 46 ∨ c = 47 ∨ c = 58) : ¬ isLowerHexC c := by
  unfold isLowerHexC isDigitC
  rcases h with rfl | rfl | rfl <;> simp

/-- parts without '/' and ':' joined by colons: the parser sees the parts again -/
theorem parseIPv6_joinC (parts : List Str) (hno : ∀ k, (k = 47 ∨ k = 58) → ∀ p ∈ parts, k ∉ p)
    (hlen : 3 ≤ parts.length) :
    parseIPv6 (joinC 58 parts) = match v6expand parts with
      | none => none
      | some ps => v6core ps := by
  have h47 : mem 47 (joinC 58 parts) = false := by
    rw [mem_eq]
    simp only [decide_eq_false_iff_not]
    intro hm
    rcases mem_joinC hm with h | ⟨p, hpp, hc⟩
    · omega
    · exact hno 47 (by simp) p hpp hc
  have hne : (joinC 58 parts).isEmpty = false := by
    match parts, hlen with
    | a :: b :: rest, _ =>
      rw [PathLemmas.joinC_cons, flatC_cons]
      cases a <;> rfl
  have hsplit := PathLemmas.splitOn_joinC (c := 58) parts (by intro e; subst e; simp at hlen) (hno 58 (by simp))
  rw [parseIPv6_eq, h47, hne, hsplit, if_neg (by omega : ¬ parts.length < 3)]
  rfl

theorem parseIPv6_join (parts : List Str) (hp : ∀ p ∈ parts, ∀ c ∈ p, isLowerHexC c)
    (hlen : 3 ≤ parts.length) : parseIPv6 (joinC 58 parts) = v6core parts := by
  have hno : ∀ k, (k = 46 ∨ k = 47 ∨ k = 58) → ∀ p ∈ parts, k ∉ p :=
    fun k hk p hpp hkp => not_lowerHex_of hk (hp p hpp k hkp)
  have hexp : v6expand parts = some parts := by
    unfold v6expand
    cases hl : parts.getLast? with
    | none => rw [List.getLast?_eq_none_iff] at hl; subst hl; simp at hlen
    | some l =>
      have : mem 46 l = false := by
        rw [mem_eq]; simp only [decide_eq_false_iff_not]
        exact hno 46 (by simp) l (List.mem_of_getLast? hl)
      simp [this]
  rw [parseIPv6_joinC parts (fun k hk => hno k (Or.inr hk)) hlen, hexp]

theorem headD_ne_nil_of {parts : List Str} (h : ∀ p ∈ parts, p ≠ []) : (parts.headD [1]).isEmpty = false := by
  cases parts with
  | nil => rfl
  | cons a t =>
    have := h a List.mem_cons_self
    simpa using this

theorem getLastD_ne_nil_of {parts : List Str} (h : ∀ p ∈ parts, p ≠ []) : (parts.getLastD [1]).isEmpty = false := by
  rw [List.getLastD_eq_getLast?]
  cases hl : parts.getLast? with
  | none => rfl
  | some l =>
    have := h l (List.mem_of_getLast? hl)
    simpa using this

theorem v6core_full (A : List Nat) (hl : A.length = 8) (hA : ∀ x ∈ A, x < 65536) :
    v6core (A.map hexLower) = some A := by
  have hne := map_hexLower_ne_nil hA
  unfold v6core
  rw [findSkip_none_of hne, headD_ne_nil_of hne, getLastD_ne_nil_of hne]
  simp [hl, mapM_parseHextet_hexLower A hA]

def skipTail (parts : List Str) (fe le : Bool) (hi lo : Nat) : Option (List Nat) :=
  if fe ∧ hi ≠ 0 then none
  else if le ∧ lo ≠ 0 then none
  else if 8 < hi + lo + 1 then none
  else
    match (parts.take hi).mapM parseHextet, ((parts.drop (parts.length - lo))).mapM parseHextet with
    | some h, some l => some (h ++ List.replicate (8 - (hi + lo)) 0 ++ l)
    | _, _ => none

theorem v6core_skip_eq {parts : List Str} {skip : Nat} (h : findSkip parts = some (some skip))
    (hl : ¬ parts.length > 9) :
    v6core parts = skipTail parts (parts.headD [1]).isEmpty (parts.getLastD [1]).isEmpty
      (if (parts.headD [1]).isEmpty then skip - 1 else skip)
      (if (parts.getLastD [1]).isEmpty then parts.length - skip - 1 - 1 else parts.length - skip - 1) := by
  unfold v6core skipTail
  rw [h, if_neg hl]

/-- the parts `":".join` gets for one side of a "::": the groups in hex, or one empty part when there are none -/
def side (A : List Nat) : List Str := if A = [] then [[]] else A.map hexLower

theorem side_spec (A : List Nat) : (A = [] ∧ side A = [[]]) ∨ (A ≠ [] ∧ side A = A.map hexLower) := by
  unfold side
  by_cases h : A = []
  · exact Or.inl ⟨h, if_pos h⟩
  · exact Or.inr ⟨h, if_neg h⟩

theorem v6core_sides (A B : List Nat) (hlen : A.length + B.length ≤ 6) (hA : ∀ x ∈ A, x < 65536)
    (hB : ∀ x ∈ B, x < 65536) :
    v6core (side A ++ [] :: side B) = some (A ++ List.replicate (8 - (A.length + B.length)) 0 ++ B) := by
  have hP := side_spec A
  have hQ := side_spec B
  generalize side A = P at hP ⊢
  generalize side B = Q at hQ ⊢
  have neA := map_hexLower_ne_nil hA
  have neB := map_hexLower_ne_nil hB
  -- facts about P
  have fP : P ≠ [] ∧ (∀ p ∈ P.tail, p ≠ []) ∧ P.length ≤ A.length + 1 ∧
      (if (P.headD [1]).isEmpty then P.length - 1 else P.length) = A.length ∧
      ((P.headD [1]).isEmpty = true → A.length = 0) ∧
      (P ++ [] :: Q).take A.length = A.map hexLower := by
    rcases hP with ⟨rfl, rfl⟩ | ⟨hA0, rfl⟩
    · simp
    · have hl0 : 0 < A.length := List.length_pos_iff.2 hA0
      have hh := headD_ne_nil_of neA
      refine ⟨by simpa using hA0, fun p hp => neA p (List.mem_of_mem_tail hp), by simp, ?_, ?_, ?_⟩
      · rw [hh]; simp
      · rw [hh]; simp
      · have : A.length = (A.map hexLower).length := by simp
        rw [this, List.take_left']
        rfl
  have fQ : Q ≠ [] ∧ (∀ p ∈ Q.dropLast, p ≠ []) ∧ Q.length ≤ B.length + 1 ∧
      (if (Q.getLastD [1]).isEmpty then Q.length - 1 else Q.length) = B.length ∧
      ((Q.getLastD [1]).isEmpty = true → B.length = 0) ∧
      (P ++ [] :: Q).drop ((P ++ [] :: Q).length - B.length) = B.map hexLower := by
    rcases hQ with ⟨rfl, rfl⟩ | ⟨hB0, rfl⟩
    · simp
    · have hl0 : 0 < B.length := List.length_pos_iff.2 hB0
      have hh := getLastD_ne_nil_of neB
      refine ⟨by simpa using hB0, fun p hp => neB p (List.dropLast_subset _ hp), by simp, ?_, ?_, ?_⟩
      · rw [hh]; simp
      · rw [hh]; simp
      · have e : P ++ [] :: B.map hexLower = (P ++ [[]]) ++ B.map hexLower := by simp
        have : (P ++ [] :: B.map hexLower).length - B.length = (P ++ [[]]).length := by simp; omega
        rw [this, e, List.drop_left']
        rfl
  obtain ⟨p0, pt, pl, phi, pz, ptake⟩ := fP
  obtain ⟨q0, qt, ql, qlo, qz, qdrop⟩ := fQ
  have hskip := findSkip_mid P Q pt qt p0 q0
  have hhead : (P ++ [] :: Q).headD [1] = P.headD [1] := by
    cases P with
    | nil => exact absurd rfl p0
    | cons a t => rfl
  have hlast : (P ++ [] :: Q).getLastD [1] = Q.getLastD [1] := by
    cases Q with
    | nil => exact absurd rfl q0
    | cons b t =>
      have : P ++ [] :: b :: t = (P ++ [[]]) ++ (b :: t) := by simp
      rw [this, List.getLastD_eq_getLast?, List.getLastD_eq_getLast?, List.getLast?_append]
      cases hq : (b :: t).getLast? with
      | none => simp at hq
      | some l => rfl
  have hlen9 : ¬ (P ++ [] :: Q).length > 9 := by simp; omega
  rw [v6core_skip_eq hskip hlen9, hhead, hlast]
  have e1 : (P ++ [] :: Q).length - P.length - 1 = Q.length := by simp
  have e2 : (if (Q.getLastD [1]).isEmpty then (P ++ [] :: Q).length - P.length - 1 - 1
      else (P ++ [] :: Q).length - P.length - 1) = B.length := by rw [e1]; exact qlo
  rw [phi, e2]
  unfold skipTail
  rw [ptake, qdrop, mapM_parseHextet_hexLower A hA, mapM_parseHextet_hexLower B hB]
  have c1 : ¬ ((P.headD [1]).isEmpty = true ∧ A.length ≠ 0) := fun h => h.2 (pz h.1)
  have c2 : ¬ ((Q.getLastD [1]).isEmpty = true ∧ B.length ≠ 0) := fun h => h.2 (qz h.1)
  have c3 : ¬ 8 < A.length + B.length + 1 := by omega
  rw [if_neg c1, if_neg c2, if_neg c3]

theorem all_lowerHex_map (A : List Nat) : ∀ p ∈ A.map hexLower, ∀ c ∈ p, isLowerHexC c := by
  intro p hp c hc
  simp only [List.mem_map] at hp
  obtain ⟨x, _, rfl⟩ := hp
  exact hexLower_lower x c hc

theorem side_hex (A : List Nat) : ∀ p ∈ side A, ∀ c ∈ p, isLowerHexC c := by
  intro p hp c hc
  unfold side at hp
  split at hp
  · rw [List.mem_singleton.1 hp] at hc
    cases hc
  · exact all_lowerHex_map A p hp c hc

/-- the parts around a "::" hold lower-case hex only -/
theorem sides_hex (A B : List Nat) : ∀ p ∈ side A ++ [] :: side B, ∀ c ∈ p, isLowerHexC c := by
  intro p hp c hc
  simp only [List.mem_append, List.mem_cons] at hp
  rcases hp with hp | rfl | hp
  · exact side_hex A p hp c hc
  · cases hc
  · exact side_hex B p hp c hc

theorem side_pos (A : List Nat) : 1 ≤ (side A).length := by
  rcases side_spec A with ⟨_, h⟩ | ⟨hA, h⟩
  · rw [h]
    exact Nat.le_refl 1
  · rw [h, List.length_map]
    exact List.length_pos_iff.2 hA

/-- an address text without '%', followed or not by `%zone`, is cut at the '%' -/
theorem partition_zone (a z : Str) (sep : Bool) (h : 37 ∉ a) :
    partition 37 (a ++ (if sep then [37] ++ z else [])) = (a, sep, if sep then z else []) := by
  cases sep with
  | true => simp [partition_found 37 _ _ h]
  | false => simp [partition_notFound 37 _ h]

/-- `IPv4Address` on a text without '.': one part instead of four -/
theorem parseIPv4_none_of_no_dot (s : Str) (h : 46 ∉ s) : parseIPv4 s = none := by
  unfold parseIPv4
  rw [PathLemmas.splitOn_of_not_mem 46 s h]
  simp

theorem parseOctet_digits {p : Str} {v : Nat} (h : parseOctet p = some v) : p.all isDigitC = true :=
  List.all_eq_true.2 (parseOctet_some.1 h).2.1

theorem mapM_parseOctet_digits {l : List Str} {o4 : List Nat} (h : l.mapM parseOctet = some o4) :
    ∀ p ∈ l, p.all isDigitC = true := by
  induction l generalizing o4 with
  | nil => simp
  | cons p ps ih =>
    rw [List.mapM_cons] at h
    cases hp : parseOctet p with
    | none => simp [hp] at h
    | some v =>
      cases hps : ps.mapM parseOctet with
      | none => simp [hp, hps] at h
      | some vs =>
        intro q hq
        rcases List.mem_cons.1 hq with rfl | hq
        · exact parseOctet_digits hp
        · exact ih hps q hq

/-- an accepted IPv4 text has four dot-separated parts, each an octet -/
theorem parseIPv4_inv {s : Str} {o4 : List Nat} (h : parseIPv4 s = some o4) :
    (splitOn 46 s).length = 4 ∧ (splitOn 46 s).mapM parseOctet = some o4 := by
  unfold parseIPv4 at h
  split at h; · cases h
  split at h; · cases h
  simp only at h
  split at h; · cases h
  rename_i hlen
  exact ⟨Classical.not_not.mp hlen, h⟩

theorem parseIPv4_chars {s : Str} {o4 : List Nat} (h : parseIPv4 s = some o4) :
    ∀ c ∈ s, c = 46 ∨ isDigitC c = true := by
  have hd := mapM_parseOctet_digits (parseIPv4_inv h).2
  intro c hc
  rw [← PathLemmas.joinC_splitOn (c := 46) s] at hc
  rcases mem_joinC hc with h | ⟨p, hp, hcp⟩
  · exact Or.inl h
  · right
    have := hd p hp
    rw [List.all_eq_true] at this
    exact this c hcp

/-- … and nothing else -/
theorem parseIPv4_not_mem {s : Str} {o4 : List Nat} (h : parseIPv4 s = some o4) {k : Nat}
    (hk : ¬ (k = 46 ∨ isDigitC k = true)) : k ∉ s :=
  fun hm => hk (parseIPv4_chars h k hm)

/-- an IPv6 text has a ':', an IPv4 text has none -/
theorem parseIPv4_none_of_parseIPv6 {s : Str} {h8 : List Nat} (h : parseIPv6 s = some h8) : parseIPv4 s = none := by
  cases h4 : parseIPv4 s with
  | none => rfl
  | some o4 => exact absurd (parseIPv6_colon h) (parseIPv4_not_mem h4 (by decide))

/-! ### `parseIP`, and the canonical text of an IPv4 literal -/

/-- IPv4 literals are kept verbatim (the parser rejects leading zeros, so the canonical text is the input) -/
theorem parseIPv4_canonical {s : Str} {o4 : List Nat} (h : parseIPv4 s = some o4) :
    ipv4ToStr o4 = s ∧ o4.length = 4 ∧ ∀ x ∈ o4, x ≤ 255 := by
  obtain ⟨hlen, hm⟩ := parseIPv4_inv h
  have := mapM_parseOctet_spec hm
  refine ⟨?_, ?_, this.2⟩
  · unfold ipv4ToStr; rw [this.1, PathLemmas.joinC_splitOn]
  · have h2 := congrArg List.length this.1
    simp only [List.length_map] at h2
    omega

theorem parseIP_some_v4 {s : Str} {o4 : List Nat} : parseIP s = some (.v4 o4) ↔ parseIPv4 s = some o4 := by
  unfold parseIP
  cases h4 : parseIPv4 s with
  | some o => simp
  | none => cases parseIPv6 s <;> simp

/-- an IPv6 text holds a ':', so the IPv4 parser, which `ip_address` tries first, has refused it -/
theorem parseIP_some_v6 {s : Str} {g : List Nat} : parseIP s = some (.v6 g) ↔ parseIPv6 s = some g := by
  unfold parseIP
  constructor
  · intro h
    cases h4 : parseIPv4 s with
    | some o => rw [h4] at h; cases h
    | none =>
      rw [h4] at h
      cases h6 : parseIPv6 s with
      | none => rw [h6] at h; cases h
      | some x => rw [h6] at h; cases h; rfl
  · intro h6
    rw [parseIPv4_none_of_parseIPv6 h6, h6]
    rfl

theorem parseIP_eq_none {s : Str} : parseIP s = none ↔ parseIPv4 s = none ∧ parseIPv6 s = none := by
  unfold parseIP
  cases parseIPv4 s with
  | some o => simp
  | none => cases parseIPv6 s <;> simp

/-! ### `_encode_host` through its pieces

  `looksIP`, `ipRes`, `zoneBad`, `regPath` are the pieces; `hostBranch` is the shape `_encode_host` shares with its
  re-entry `encodeHostA` (fix 3fbf5b4).  What each piece is on each kind of text, and `hostBranch_ok_iff`, are the lemmas
  through which the property files reason about `_encode_host`: they do not unfold it. -/

/-- the `str.isdigit` oracle is consulted only for a non-ASCII last character of a host without ':' -/
theorem looksIP_eq (o : Oracles) {t : Str} (h : mem 58 t = false → ∀ l, t.getLast? = some l → l < 128) :
    looksIP o t = .ok (mem 58 t || t.getLast?.any isDigitC) := by
  unfold looksIP
  cases hl : t.getLast? with
  | none =>
    rw [List.getLast?_eq_none_iff.1 hl]
    rfl
  | some l =>
    cases h58 : mem 58 t with
    | true => rfl
    | false =>
      simp only [isDigitChar, h h58 l hl, if_true, Bool.false_eq_true, if_false]
      rfl

theorem looksIP_of_ascii (o : Oracles) {t : Str} (ha : isAscii t = true) :
    looksIP o t = .ok (mem 58 t || t.getLast?.any isDigitC) := by
  refine looksIP_eq o fun _ l hl => ?_
  rw [isAscii_iff] at ha
  exact ha l (List.mem_of_getLast? hl)

/-- a host with a ':' looks like an IP literal (no oracle is consulted) -/
theorem looksIP_of_colon (o : Oracles) {s : Str} (h : 58 ∈ s) : looksIP o s = .ok true := by
  have hm : mem 58 s = true := mem_iff.mpr h
  rw [looksIP_eq o (fun h58 => by rw [hm] at h58; cases h58), hm]
  rfl

/-- a host that ends in an ASCII digit looks like an IP literal -/
theorem looksIP_of_digit (o : Oracles) {s : Str} {l : Nat} (hl : s.getLast? = some l)
    (hd : isDigitC l = true) : looksIP o s = .ok true := by
  have hlt : l < 128 := by
    simp [isDigitC] at hd
    omega
  rw [looksIP_eq o (fun _ l' hl' => by rw [hl] at hl'; cases hl'; exact hlt), hl]
  simp [hd]

theorem ipRes_eq_none {h : Str} : ipRes h = none ↔ parseIP (partition 37 h).1 = none := by
  unfold ipRes
  cases parseIP (partition 37 h).1 with
  | none => simp
  | some ip => cases ip <;> simp

/-- a text is its part before the first '%' followed by its zone suffix -/
theorem addr_append_zonePart (h : Str) : (partition 37 h).1 ++ StrTotal.zonePart h = h :=
  (partition_join 37 h).symm

theorem zonePart_of_sep {h : Str} (hs : (partition 37 h).2.1 = true) :
    StrTotal.zonePart h = 37 :: (partition 37 h).2.2 := by
  unfold StrTotal.zonePart
  rw [hs]
  rfl

theorem zonePart_of_noSep {h : Str} (hs : (partition 37 h).2.1 = false) : StrTotal.zonePart h = [] := by
  unfold StrTotal.zonePart
  rw [hs]
  rfl

theorem mem_zonePart {t : Str} {c : Nat} (h : c ∈ StrTotal.zonePart t) :
    c = 37 ∨ ((partition 37 t).2.1 = true ∧ c ∈ (partition 37 t).2.2) := by
  cases hs : (partition 37 t).2.1 with
  | true =>
    rw [zonePart_of_sep hs] at h
    exact (List.mem_cons.1 h).imp id fun hm => ⟨rfl, hm⟩
  | false =>
    rw [zonePart_of_noSep hs] at h
    cases h

theorem ipRes_of_v6 {h : Str} {g : List Nat} (hp : parseIP (partition 37 h).1 = some (.v6 g)) :
    ipRes h = some ([91] ++ ipv6ToStr g ++ StrTotal.zonePart h ++ [93]) := by
  unfold ipRes StrTotal.zonePart
  rw [hp]
  cases (partition 37 h).2.1 <;> simp

/-- an IPv4 literal, with or without zone, is its own canonical text -/
theorem ipRes_of_v4 {h : Str} {o4 : List Nat} (hp : parseIP (partition 37 h).1 = some (.v4 o4)) :
    ipRes h = some h := by
  unfold ipRes
  rw [hp]
  simp only [(parseIPv4_canonical (parseIP_some_v4.1 hp)).1]
  conv => rhs; rw [partition_join 37 h]
  cases (partition 37 h).2.1 <;> simp

theorem zoneBad_false (host : Str) : zoneBad host false = false := by simp [zoneBad]

theorem zoneBad_of_no_sep {host : Str} (v : Bool) (h : (partition 37 host).2.1 = false) : zoneBad host v = false := by
  simp [zoneBad, h]

theorem ipResV_eq (host : Str) (v : Bool) :
    ipResV host v = (ipRes host).map (fun r => if zoneBad host v then .error .valueError else .ok r) := by
  unfold ipResV ipRes zoneBad
  cases parseIP (partition 37 host).1 with
  | none => rfl
  | some ip =>
    cases ip <;> (simp only [Option.map_some]; split <;> rfl)

/-- the IP branch if the host looks like an IP literal and is one, else the reg-name branch `reg` -/
def hostBranch (o : Oracles) (host : Str) (v : Bool) (reg : R Str) : R Str :=
  looksIP o host >>= fun b =>
    match (if b then ipResV host v else none) with
    | some r => r
    | none => reg

theorem encodeHost_branch (o : Oracles) (h : Str) (v : Bool) :
    encodeHost o h v = hostBranch o h v (regPath o h v) := rfl

theorem encodeHostA_branch (o : Oracles) (h : Str) (v : Bool) :
    encodeHostA o h v = hostBranch o h v (regPathA h v) := rfl

/-- the host does not take the IP branch -/
def NoIp (o : Oracles) (h : Str) : Prop := ∃ b, looksIP o h = .ok b ∧ (b = true → ipRes h = none)

theorem NoIp.why {o : Oracles} {h : Str} (hn : NoIp o h) : ipRes h = none ∨ looksIP o h = .ok false := by
  obtain ⟨b, hl, hb⟩ := hn
  cases b with
  | true => exact Or.inl (hb rfl)
  | false => exact Or.inr hl

theorem noIp_of_parse {o : Oracles} {h : Str} {b : Bool} (hl : looksIP o h = .ok b)
    (hp : parseIP (partition 37 h).1 = none) : NoIp o h :=
  ⟨b, hl, fun _ => ipRes_eq_none.2 hp⟩

theorem noIp_of_ascii (o : Oracles) {h : Str} (ha : isAscii h = true) (hp : parseIP (partition 37 h).1 = none) :
    NoIp o h :=
  noIp_of_parse (looksIP_of_ascii o ha) hp

theorem hostBranch_ip {o : Oracles} {h r : Str} (v : Bool) (reg : R Str) (hl : looksIP o h = .ok true)
    (hr : ipRes h = some r) : hostBranch o h v reg = if zoneBad h v then .error .valueError else .ok r := by
  unfold hostBranch
  rw [hl]
  show (match (if true = true then ipResV h v else none) with | some r => r | none => reg) = _
  rw [if_pos rfl, ipResV_eq, hr]
  rfl

theorem hostBranch_noIp {o : Oracles} {h : Str} (v : Bool) (reg : R Str) (hn : NoIp o h) :
    hostBranch o h v reg = reg := by
  obtain ⟨b, hl, hb⟩ := hn
  unfold hostBranch
  rw [hl]
  cases b with
  | false => rfl
  | true =>
    show (match (if true = true then ipResV h v else none) with | some r => r | none => reg) = _
    rw [if_pos rfl, ipResV_eq, hb rfl]
    rfl

/-- every way the shared shape succeeds -/
theorem hostBranch_ok_iff {o : Oracles} {h r : Str} {v : Bool} {reg : R Str} : hostBranch o h v reg = .ok r ↔
    (looksIP o h = .ok true ∧ ipRes h = some r ∧ zoneBad h v = false) ∨ (NoIp o h ∧ reg = .ok r) := by
  constructor
  · intro he
    obtain ⟨b, hl, -⟩ := bind_ok he
    cases b with
    | false => exact Or.inr ⟨⟨false, hl, nofun⟩, hostBranch_noIp v reg ⟨false, hl, nofun⟩ ▸ he⟩
    | true =>
      cases hr : ipRes h with
      | none => exact Or.inr ⟨⟨true, hl, fun _ => hr⟩, hostBranch_noIp v reg ⟨true, hl, fun _ => hr⟩ ▸ he⟩
      | some r' =>
        rw [hostBranch_ip v reg hl hr] at he
        obtain ⟨hz, he⟩ := ite_err_ok he
        cases he
        exact Or.inl ⟨hl, rfl, Bool.eq_false_iff.2 hz⟩
  · rintro (⟨hl, hr, hz⟩ | ⟨hn, hreg⟩)
    · rw [hostBranch_ip v reg hl hr, hz]
      rfl
    · rw [hostBranch_noIp v reg hn, hreg]

theorem encodeHost_ok_iff {o : Oracles} {h r : Str} {v : Bool} : encodeHost o h v = .ok r ↔
    (looksIP o h = .ok true ∧ ipRes h = some r ∧ zoneBad h v = false) ∨ (NoIp o h ∧ regPath o h v = .ok r) :=
  hostBranch_ok_iff

theorem encodeHostA_ok_iff {o : Oracles} {h r : Str} {v : Bool} : encodeHostA o h v = .ok r ↔
    (looksIP o h = .ok true ∧ ipRes h = some r ∧ zoneBad h v = false) ∨ (NoIp o h ∧ regPathA h v = .ok r) :=
  hostBranch_ok_iff

/-- an equation: a host that does not take the IP branch is handled by the reg-name branch, whatever that returns
    (`encodeHost_ok_reg` below reads a successful call backwards) -/
theorem encodeHost_noIp {o : Oracles} {h : Str} (v : Bool) (hn : NoIp o h) : encodeHost o h v = regPath o h v :=
  hostBranch_noIp v _ hn

theorem encodeHostA_noIp {o : Oracles} {h : Str} (v : Bool) (hn : NoIp o h) : encodeHostA o h v = regPathA h v :=
  hostBranch_noIp v _ hn

/-- an equation: the IP branch returns the `ipRes` text, unless validation is on and the zone fails the screen -/
theorem encodeHost_ip_eq {o : Oracles} {h r : Str} (v : Bool) (hl : looksIP o h = .ok true) (hr : ipRes h = some r) :
    encodeHost o h v = if zoneBad h v then .error .valueError else .ok r :=
  hostBranch_ip v _ hl hr

/-- … its success case, the zone known to pass -/
theorem encodeHost_ip {o : Oracles} {host : Str} {v : Bool} {r : Str} (hl : looksIP o host = .ok true)
    (hr : ipRes host = some r) (hz : zoneBad host v = false) : encodeHost o host v = .ok r :=
  encodeHost_ok_iff.2 (Or.inl ⟨hl, hr, hz⟩)

/-- `_encode_host` and its re-entry on a text whose part before '%' is an IPv6 literal: any zone, validation on or off -/
theorem hostBranch_of_v6 (o : Oracles) {t : Str} {g : List Nat} (v : Bool) (reg : R Str)
    (h6 : parseIPv6 (partition 37 t).1 = some g) :
    hostBranch o t v reg =
      if zoneBad t v then .error .valueError else .ok ([91] ++ ipv6ToStr g ++ StrTotal.zonePart t ++ [93]) :=
  hostBranch_ip v reg (looksIP_of_colon o (partition_fst_sub 37 t 58 (parseIPv6_colon h6)))
    (ipRes_of_v6 (parseIP_some_v6.2 h6))

theorem encodeHost_of_v6 (o : Oracles) {t : Str} {g : List Nat} (v : Bool)
    (h6 : parseIPv6 (partition 37 t).1 = some g) :
    encodeHost o t v =
      if zoneBad t v then .error .valueError else .ok ([91] ++ ipv6ToStr g ++ StrTotal.zonePart t ++ [93]) :=
  hostBranch_of_v6 o v _ h6

/-- … without a zone -/
theorem encodeHost_of_v6_plain (o : Oracles) {s : Str} {g : List Nat} (v : Bool) (hp : parseIPv6 s = some g)
    (h37 : 37 ∉ s) : encodeHost o s v = .ok ([91] ++ ipv6ToStr g ++ [93]) := by
  have hpart := partition_notFound 37 s h37
  have hs : (partition 37 s).2.1 = false := by rw [hpart]
  rw [encodeHost_of_v6 o v (by rw [hpart]; exact hp), zoneBad_of_no_sep v hs, zonePart_of_noSep hs, List.append_nil]
  rfl

theorem encodeHostA_of_v6 (o : Oracles) {t : Str} {g : List Nat} (v : Bool)
    (h6 : parseIPv6 (partition 37 t).1 = some g) :
    encodeHostA o t v =
      if zoneBad t v then .error .valueError else .ok ([91] ++ ipv6ToStr g ++ StrTotal.zonePart t ++ [93]) :=
  hostBranch_of_v6 o v _ h6

theorem encodeHost_casesV {o : Oracles} {host : Str} {v : Bool} {r : Str} (h : encodeHost o host v = .ok r) :
    (ipRes host = some r ∧ zoneBad host v = false) ∨ (ipRes host = none ∨ looksIP o host = .ok false) ∧ regPath o host v = .ok r :=
  (encodeHost_ok_iff.1 h).imp (fun h => h.2) (fun h => ⟨h.1.why, h.2⟩)

theorem encodeHost_cases {o : Oracles} {host : Str} {v : Bool} {r : Str} (h : encodeHost o host v = .ok r) :
    ipRes host = some r ∨ regPath o host v = .ok r :=
  (encodeHost_ok_iff.1 h).imp (fun h => h.2.1) (fun h => h.2)

/-- a successful call read backwards: when the text before '%' is no IP literal the result came out of the reg-name
    branch (`encodeHost_noIp` above is the equation, for a host known not to take the IP branch) -/
theorem encodeHost_ok_reg (o : Oracles) (host : Str) (v : Bool) (r : Str)
    (hip : parseIP (partition 37 host).1 = none) (h : encodeHost o host v = .ok r) :
    regPath o host v = .ok r := by
  rcases encodeHost_ok_iff.1 h with ⟨_, hr, _⟩ | ⟨_, hreg⟩
  · rw [ipRes_eq_none.2 hip] at hr
    cases hr
  · exact hreg

/-! ### the reg-name branch -/

theorem regPath_of_ascii (o : Oracles) {h : Str} (v : Bool) (ha : isAscii h = true) :
    regPath o h v = if v && notRegName (lower h) then .error .valueError else .ok (lower h) := by
  unfold regPath
  rw [if_pos ha]
  rfl

theorem regPath_ok_of_ascii {o : Oracles} {h r : Str} {v : Bool} (ha : isAscii h = true) :
    regPath o h v = .ok r ↔ r = lower h ∧ (v = true → notRegName r = false) := by
  rw [regPath_of_ascii o v ha]
  constructor
  · intro he
    obtain ⟨hc, he⟩ := ite_err_ok he
    cases he
    exact ⟨rfl, fun hv => by simpa [hv] using hc⟩
  · rintro ⟨rfl, hv⟩
    rw [if_neg]
    intro hc
    simp only [Bool.and_eq_true] at hc
    rw [hv hc.1] at hc
    exact Bool.noConfusion hc.2

/-- the reg-name branch for a non-ASCII host whose IDNA answer holds no colon: the answer itself, screened when
    validating (an answer with a ':' is re-entered instead, fix 3fbf5b4: `regPath_idn`) -/
theorem regPath_idn_no_colon (o : Oracles) {host a : Str} (v : Bool) (hna : isAscii host = false)
    (hi : idnaEncode o host = .ok a) (hc : mem 58 a = false) :
    regPath o host v = (if v && notRegName a then .error .valueError else pure a) := by
  simp [regPath, hna, hi, hc, bind, Except.bind]

/-- the reg-name branch as a function of the IDNA answer -/
theorem regPath_idn (o : Oracles) {host : Str} (v : Bool) (hna : isAscii host = false) :
    regPath o host v = (idnaEncode o host >>= fun a =>
      if mem 58 a then encodeHostA o a v
      else if v && notRegName a then .error .valueError else pure a) := by
  simp [regPath, hna]


/-! ### the re-entry `encodeHostA` (fix 3fbf5b4) -/

theorem regNameChars_no_colon : mem 58 Gen.regNameChars = false := by decide

/-- ':' is not a reg-name character: a text that passes the `NOT_REG_NAME` screen holds no colon -/
theorem notRegName_false_no_colon {a : Str} (h : notRegName a = false) : mem 58 a = false := by
  rw [mem_eq]
  simp only [decide_eq_false_iff_not]
  intro hm
  rcases notRegName_spec a h 58 hm with h' | h'
  · omega
  · rw [regNameChars_no_colon] at h'; cases h'

theorem regPath_ascii (o : Oracles) {host : Str} (v : Bool) (ha : isAscii host = true) :
    regPath o host v = regPathA host v := by
  simp [regPath, regPathA, ha]

/-- on ASCII text the re-entry is `_encode_host` itself -/
theorem encodeHostA_ascii (o : Oracles) {host : Str} (v : Bool) (ha : isAscii host = true) :
    encodeHostA o host v = encodeHost o host v := by
  rw [encodeHostA_branch, encodeHost_branch, regPath_ascii o v ha]

/-- an accepted re-entry came out of the IP branch or out of the (ASCII-only) reg-name branch -/
theorem encodeHostA_casesV {o : Oracles} {host : Str} {v : Bool} {r : Str} (h : encodeHostA o host v = .ok r) :
    (ipRes host = some r ∧ zoneBad host v = false) ∨
      (ipRes host = none ∨ looksIP o host = .ok false) ∧ regPathA host v = .ok r :=
  (encodeHostA_ok_iff.1 h).imp (fun h => h.2) (fun h => ⟨h.1.why, h.2⟩)

theorem regPathA_ok {host : Str} {v : Bool} {r : Str} (h : regPathA host v = .ok r) :
    isAscii host = true ∧ r = lower host ∧ (v = true → notRegName r = false) := by
  cases ha : isAscii host with
  | true =>
    rw [← regPath_ascii Oracles.empty v ha] at h
    exact ⟨rfl, (regPath_ok_of_ascii ha).1 h⟩
  | false =>
    unfold regPathA at h
    rw [if_neg (by simp [ha])] at h
    cases h

/-- a text with a colon that the re-entry accepts under validation is an IP literal with a screened zone -/
theorem encodeHostA_colon_validated {o : Oracles} {a r : Str} (hc : mem 58 a = true)
    (h : encodeHostA o a true = .ok r) : ipRes a = some r ∧ zoneBad a true = false := by
  rcases encodeHostA_casesV h with h | ⟨_, h⟩
  · exact h
  · obtain ⟨_, rfl, hn⟩ := regPathA_ok h
    have := notRegName_false_no_colon (hn rfl)
    rw [mem_lower_b 58 (by omega), hc] at this
    cases this

/-- the reg-name branch of `encodeHost` for a non-ASCII host, when it succeeds -/
theorem regPath_idn_cases {o : Oracles} {host : Str} {v : Bool} {r : Str} (hna : isAscii host = false)
    (h : regPath o host v = .ok r) :
    ∃ a, idnaEncode o host = .ok a ∧
      ((mem 58 a = false ∧ r = a ∧ (v = true → notRegName a = false)) ∨
       (mem 58 a = true ∧ encodeHostA o a v = .ok r)) := by
  rw [regPath_idn o v hna] at h
  cases hi : idnaEncode o host with
  | error e => rw [hi] at h; cases h
  | ok a =>
    rw [hi] at h
    simp only [bind, Except.bind] at h
    refine ⟨a, rfl, ?_⟩
    cases hc : mem 58 a with
    | true => right; rw [hc] at h; exact ⟨rfl, by simpa using h⟩
    | false =>
      left
      rw [hc] at h
      simp only [Bool.false_eq_true, ↓reduceIte] at h
      split at h
      · cases h
      · rename_i hn
        cases h
        refine ⟨rfl, rfl, ?_⟩
        intro hv; subst hv; simpa using hn

/-- … with validation on: the IDNA answer itself (screened), or the IP literal the answer spells -/
theorem regPath_idn_validated {o : Oracles} {host : Str} {r : Str} (hna : isAscii host = false)
    (h : regPath o host true = .ok r) :
    ∃ a, idnaEncode o host = .ok a ∧
      ((mem 58 a = false ∧ r = a ∧ notRegName r = false) ∨
       (mem 58 a = true ∧ ipRes a = some r ∧ zoneBad a true = false)) := by
  obtain ⟨a, hi, h | h⟩ := regPath_idn_cases hna h
  · obtain ⟨h1, rfl, h3⟩ := h
    exact ⟨r, hi, Or.inl ⟨h1, rfl, h3 rfl⟩⟩
  · exact ⟨a, hi, Or.inr ⟨h.1, encodeHostA_colon_validated h.1 h.2⟩⟩

/-! ### a validated host -/

theorem zoneBad_true_false {h : Str} (hz : zoneBad h true = false) (hsep : (partition 37 h).2.1 = true) :
    notRegName (lower (partition 37 h).2.2) = false := by
  simpa [zoneBad, hsep] using hz

/-- every accepted validated host: the IP-branch text with a screened zone, or a string passing `NOT_REG_NAME`,
    or the IP-branch text of the IDNA answer of a non-ASCII host (re-entry, fix 3fbf5b4) -/
theorem validated_cases {o : Oracles} {h r : Str} (he : encodeHost o h true = .ok r) :
    (ipRes h = some r ∧ zoneBad h true = false) ∨ (notRegName r = false ∧ (isAscii h = true → r = lower h)) ∨
      (isAscii h = false ∧ ∃ a, idnaEncode o h = .ok a ∧ mem 58 a = true ∧ ipRes a = some r ∧ zoneBad a true = false) := by
  rcases encodeHost_casesV he with hip | ⟨_, hreg⟩
  · exact Or.inl hip
  · right
    cases ha : isAscii h with
    | true =>
      left
      obtain ⟨rfl, hn⟩ := (regPath_ok_of_ascii ha).1 hreg
      exact ⟨hn rfl, fun _ => rfl⟩
    | false =>
      obtain ⟨a, hi, ⟨_, rfl, hn⟩ | ⟨h58, hr, hz⟩⟩ := regPath_idn_validated ha hreg
      · exact Or.inl ⟨hn, fun h' => by cases h'⟩
      · exact Or.inr ⟨rfl, a, hi, h58, hr, hz⟩

/-- … in the form most consumers need: the IP-branch text of SOME text with a screened zone, or reg-name text -/
theorem validated_cases' {o : Oracles} {h r : Str} (he : encodeHost o h true = .ok r) :
    (∃ t, ipRes t = some r ∧ zoneBad t true = false) ∨ notRegName r = false := by
  rcases validated_cases he with hip | ⟨hn, _⟩ | ⟨_, a, _, _, hr, hz⟩
  · exact Or.inl ⟨h, hip⟩
  · exact Or.inr hn
  · exact Or.inl ⟨a, hr, hz⟩

/-! ### validation only rejects -/

theorem hostBranch_mono {o : Oracles} {h r : Str} {regT regF : R Str} (hreg : regT = .ok r → regF = .ok r)
    (he : hostBranch o h true regT = .ok r) : hostBranch o h false regF = .ok r := by
  rw [hostBranch_ok_iff] at he ⊢
  rcases he with ⟨hl, hr, -⟩ | ⟨hn, hr⟩
  · exact Or.inl ⟨hl, hr, zoneBad_false h⟩
  · exact Or.inr ⟨hn, hreg hr⟩

theorem regPathA_mono {h r : Str} (hr : regPathA h true = .ok r) : regPathA h false = .ok r := by
  obtain ⟨ha, rfl, -⟩ := regPathA_ok hr
  unfold regPathA
  rw [if_pos ha]
  rfl

theorem encodeHostA_mono {o : Oracles} {h r : Str} (he : encodeHostA o h true = .ok r) :
    encodeHostA o h false = .ok r :=
  hostBranch_mono regPathA_mono he

theorem regPath_mono {o : Oracles} {h r : Str} (hr : regPath o h true = .ok r) : regPath o h false = .ok r := by
  cases ha : isAscii h with
  | true =>
    rw [regPath_ok_of_ascii ha] at hr ⊢
    exact ⟨hr.1, nofun⟩
  | false =>
    rw [regPath_idn o _ ha] at hr ⊢
    obtain ⟨a, hi, hr⟩ := bind_ok hr
    rw [hi]
    show (if mem 58 a = true then _ else _) = _
    split at hr
    · rw [if_pos ‹_›]
      exact encodeHostA_mono hr
    · rw [if_neg ‹_›]
      exact (ite_err_ok hr).2

/-- whatever `_encode_host` accepts with validation on, it returns unchanged with validation off -/
theorem encodeHost_mono {o : Oracles} {h r : Str} (he : encodeHost o h true = .ok r) : encodeHost o h false = .ok r :=
  hostBranch_mono regPath_mono he

/-! ### lower-casing keeps an ASCII host on the reg-name branch -/

theorem getLast?_lower (s : Str) : (lower s).getLast? = s.getLast?.map lowerC := by
  unfold lower
  rw [List.getLast?_map]

/-- lower-casing an ASCII host does not change whether it looks like an IP literal -/
theorem looksIP_lower (o : Oracles) {s : Str} (ha : isAscii s = true) : looksIP o (lower s) = looksIP o s := by
  rw [looksIP_of_ascii o (isAscii_lower ha), looksIP_of_ascii o ha, mem_lower_b 58 (by omega), getLast?_lower]
  cases s.getLast? with
  | none => rfl
  | some l => simp [isDigitC_lowerC]

theorem noIp_lower {o : Oracles} {h : Str} (ha : isAscii h = true) (hn : NoIp o h) : NoIp o (lower h) := by
  obtain ⟨b, hl, hb⟩ := hn
  refine ⟨b, looksIP_lower o ha ▸ hl, fun hb' => ?_⟩
  rw [ipRes_eq_none, partition_fst_lower 37 (by omega), parseIP_lower]
  exact ipRes_eq_none.1 (hb hb')

/-- the reg-name branch is idempotent on ASCII hosts -/
theorem regPath_idem (o : Oracles) {h r : Str} (v : Bool) (ha : isAscii h = true) (hn : NoIp o h)
    (hr : regPath o h v = .ok r) : encodeHost o r v = .ok r := by
  obtain ⟨rfl, hv⟩ := (regPath_ok_of_ascii ha).1 hr
  rw [encodeHost_noIp v (noIp_lower ha hn), regPath_ok_of_ascii (isAscii_lower ha), lower_idem]
  exact ⟨rfl, hv⟩

/-! ### texts that `_encode_host` returns unchanged -/

theorem notRegName_append_false {a b : Str} (h : notRegName (a ++ b) = false) : notRegName b = false := by
  induction a with
  | nil => simpa using h
  | cons x xs ih => exact ih (notRegName_cons_false h).2

theorem partition_sep_decomp (c : Nat) (s : Str) (h : (partition c s).2.1 = true) :
    s = (partition c s).1 ++ c :: (partition c s).2.2 := by
  have := partition_join c s
  rwa [h, if_pos rfl] at this

theorem notV6_of_no_colon {t : Str} (h58 : 58 ∉ t) (g : List Nat) : parseIP (partition 37 t).1 ≠ some (.v6 g) :=
  fun hp => h58 (partition_fst_sub 37 t 58 (parseIPv6_colon (parseIP_some_v6.1 hp)))

/-- a lower-case ASCII text that is no IPv6 literal is returned unchanged: lower-cased as a registered name, or kept as
    an IPv4 literal, whose zone is a piece of the text and passes the screen when the text does -/
theorem encodeHost_self (o : Oracles) {t : Str} (v : Bool) (hasc : isAscii t = true) (hlow : lower t = t)
    (hv6 : ∀ g, parseIP (partition 37 t).1 ≠ some (.v6 g)) (hs : v = true → notRegName t = false) :
    encodeHost o t v = .ok t := by
  by_cases hn : NoIp o t
  · rw [encodeHost_noIp v hn, regPath_ok_of_ascii hasc, hlow]
    exact ⟨rfl, hs⟩
  · have hl : looksIP o t = .ok true := by
      unfold NoIp at hn
      rw [looksIP_of_ascii o hasc] at hn ⊢
      cases hb : (mem 58 t || t.getLast?.any isDigitC) with
      | true => rfl
      | false => exact absurd ⟨false, by rw [hb], nofun⟩ hn
    cases hp : parseIP (partition 37 t).1 with
    | none => exact absurd (noIp_of_parse hl hp) hn
    | some ip =>
      cases ip with
      | v6 g => exact absurd hp (hv6 g)
      | v4 o4 =>
        refine encodeHost_ip hl (ipRes_of_v4 hp) ?_
        cases v with
        | false => exact zoneBad_false t
        | true =>
          cases hsep : (partition 37 t).2.1 with
          | false => exact zoneBad_of_no_sep true hsep
          | true =>
            have hj := partition_sep_decomp 37 t hsep
            have hz := (notRegName_cons_false (notRegName_append_false (hj ▸ hs rfl))).2
            have hzl : lower (partition 37 t).2.2 = (partition 37 t).2.2 := by
              have := hlow
              rw [hj] at this
              simp only [lower, List.map_append, List.map_cons] at this
              exact (List.cons.inj (List.append_inj this (by simp)).2).2
            simp [zoneBad, hsep, hzl, hz]

/-! ### `_encode_host` unfolded one level, and `looksIP` on ASCII text in existence form -/

/-- `hostBranch` written out, with `ipRes` and `zoneBad` in place of `ipResV` -/
theorem encodeHost_eq (o : Oracles) (host : Str) (v : Bool) :
    encodeHost o host v = (looksIP o host >>= fun b =>
      match (if b then ipRes host else none) with
      | some r => if zoneBad host v then .error .valueError else pure r
      | none => regPath o host v) := by
  rw [encodeHost_branch]
  unfold hostBranch
  congr 1
  funext b
  cases b with
  | false => rfl
  | true =>
    simp only [↓reduceIte, ipResV_eq]
    cases ipRes host <;> rfl

/-- the existence form of `looksIP_of_ascii`: on ASCII text no oracle entry can be missing -/
theorem looksIP_ascii (o : Oracles) (host : Str) (ha : isAscii host = true) :
    ∃ b, looksIP o host = .ok b :=
  ⟨_, looksIP_of_ascii o ha⟩

end Yarl.HostLemmas

/-! ### the run of zeros that `bestZeroRun` selects, in the words of RFC 5952 §4.2.3 -/

namespace Yarl
namespace Rfc5952
/-- how many consecutive zero fields start at the head of the list -/
def zerosAt (l : List Nat) : Nat := (l.takeWhile (· == 0)).length
/-- §4.2.3: the length of the longest run of consecutive zero fields (maximum over all start positions) -/
def longest : List Nat → Nat
  | [] => 0
  | x :: r => max (zerosAt (x :: r)) (longest r)
/-- §4.2.3: the first position at which at least `n` consecutive zero fields start -/
def firstAt (n : Nat) : List Nat → Nat
  | [] => 0
  | x :: r => if n ≤ zerosAt (x :: r) then 0 else firstAt n r + 1
end Rfc5952
namespace HostLemmas
open Rfc5952

theorem zerosAt_cons_zero (r : List Nat) : zerosAt (0 :: r) = zerosAt r + 1 := by simp [zerosAt]
theorem zerosAt_cons_ne {x : Nat} (r : List Nat) (h : x ≠ 0) : zerosAt (x :: r) = 0 := by simp [zerosAt, h]
theorem zerosAt_le_longest (l : List Nat) : zerosAt l ≤ longest l := by
  cases l with
  | nil => simp [zerosAt, longest]
  | cons x r => simp only [longest]; omega
theorem firstAt_of_le {n : Nat} {l : List Nat} (h : n ≤ zerosAt l) : firstAt n l = 0 := by
  cases l with
  | nil => rfl
  | cons x r => simp [firstAt, h]

/-- The scanning loop, in closed form.  `cl + zerosAt xs` is the length the current run reaches; if no later run
    is longer, the answer is the better of the best so far and the current run, otherwise the better of the
    best so far and the first longest run ahead. -/
theorem go_eq (xs : List Nat) : ∀ (idx cs cl bs bl : Nat), cl ≤ bl →
    bestZeroRun.go xs idx cs cl bs bl =
      if longest xs ≤ cl + zerosAt xs then
        (if cl + zerosAt xs ≤ bl then bs else if cl = 0 then idx else cs, max bl (cl + zerosAt xs))
      else (if longest xs ≤ bl then bs else idx + firstAt (longest xs) xs, max bl (longest xs)) := by
  induction xs with
  | nil =>
    intro idx cs cl bs bl h
    simp only [bestZeroRun.go, zerosAt, List.takeWhile_nil, List.length_nil, longest, Nat.zero_le, if_true, Nat.add_zero, h, Nat.max_eq_left h]
  | cons x xs ih =>
    intro idx cs cl bs bl h
    have hz := zerosAt_le_longest xs
    unfold bestZeroRun.go
    by_cases h0 : x = 0
    · subst h0
      simp only [if_true]
      generalize (if cl = 0 then idx else cs) = cur
      rw [zerosAt_cons_zero, show cl + (zerosAt xs + 1) = cl + 1 + zerosAt xs by omega]
      have ih' : ∀ B Bl, cl + 1 ≤ Bl → bestZeroRun.go xs (idx + 1) cur (cl + 1) B Bl =
          if longest xs ≤ cl + 1 + zerosAt xs then (if cl + 1 + zerosAt xs ≤ Bl then B else cur, max Bl (cl + 1 + zerosAt xs))
          else (if longest xs ≤ Bl then B else idx + 1 + firstAt (longest xs) xs, max Bl (longest xs)) := by
        intro B Bl hB
        rw [ih _ _ _ _ _ hB, if_neg (Nat.succ_ne_zero cl)]
      generalize hc : cl + 1 + zerosAt xs = c at ih' ⊢
      by_cases hL : longest xs ≤ c
      · have hl : longest (0 :: xs) ≤ c := by simp only [longest, zerosAt_cons_zero]; omega
        rw [if_pos hl]
        by_cases hgt : cl + 1 > bl
        · rw [if_pos hgt, ih' _ _ (Nat.le_refl _), if_pos hL, ite_self, if_neg (by omega),
            Nat.max_eq_right (by omega), Nat.max_eq_right (by omega)]
        · rw [if_neg hgt, ih' _ _ (by omega), if_pos hL]
      · have hl : longest (0 :: xs) = longest xs := by simp only [longest, zerosAt_cons_zero]; omega
        have hf : idx + firstAt (longest xs) (0 :: xs) = idx + 1 + firstAt (longest xs) xs := by
          simp only [firstAt, zerosAt_cons_zero]; rw [if_neg (by omega)]; omega
        rw [hl, if_neg hL, hf]
        by_cases hgt : cl + 1 > bl
        · rw [if_pos hgt, ih' _ _ (Nat.le_refl _), if_neg hL, if_neg (by omega), if_neg (by omega),
            Nat.max_eq_right (by omega), Nat.max_eq_right (by omega)]
        · rw [if_neg hgt, ih' _ _ (by omega), if_neg hL]
    · simp only [if_neg h0]
      have hl : longest (x :: xs) = longest xs := by simp only [longest, zerosAt_cons_ne xs h0, Nat.zero_max]
      -- the next run starts a fresh count; whether or not it begins at once, `firstAt` says where
      have hrec : bestZeroRun.go xs (idx + 1) 0 0 bs bl =
          (if longest xs ≤ bl then bs else idx + 1 + firstAt (longest xs) xs, max bl (longest xs)) := by
        rw [ih _ _ _ _ _ (Nat.zero_le _), Nat.zero_add]
        by_cases hL : longest xs ≤ zerosAt xs
        · rw [if_pos hL, firstAt_of_le hL, Nat.le_antisymm hz hL]; rfl
        · rw [if_neg hL]
      rw [hrec, hl, zerosAt_cons_ne xs h0]
      simp only [Nat.add_zero]
      by_cases hcl : longest xs ≤ cl
      · rw [if_pos hcl, if_pos h, if_pos (Nat.le_trans hcl h), Nat.max_eq_left h, Nat.max_eq_left (Nat.le_trans hcl h)]
      · have hf : idx + firstAt (longest xs) (x :: xs) = idx + 1 + firstAt (longest xs) xs := by
          simp only [firstAt, zerosAt_cons_ne xs h0]; rw [if_neg (by omega)]; omega
        rw [if_neg hcl, hf]
theorem bestZeroRun_eq (l : List Nat) : bestZeroRun l = (firstAt (longest l) l, longest l) := by
  unfold bestZeroRun
  rw [go_eq l 0 0 0 0 0 (Nat.le_refl _)]
  simp only [Nat.zero_add, Nat.zero_max, ite_self]
  by_cases hL : longest l ≤ zerosAt l
  · rw [if_pos hL, firstAt_of_le hL, Nat.le_antisymm (zerosAt_le_longest l) hL]
  · rw [if_neg hL, if_neg (by omega)]


theorem take_zeros {l : List Nat} : ∀ {n : Nat}, n ≤ zerosAt l → l.take n = List.replicate n 0 := by
  induction l with
  | nil => intro n h; simp [zerosAt] at h; subst h; rfl
  | cons x r ih =>
    intro n h
    cases n with
    | zero => rfl
    | succ k =>
      by_cases h0 : x = 0
      · subst h0
        rw [zerosAt_cons_zero] at h
        simp [List.replicate_succ, ih (show k ≤ zerosAt r by omega)]
      · rw [zerosAt_cons_ne r h0] at h; omega

theorem zerosAt_le_length (l : List Nat) : zerosAt l ≤ l.length := by
  unfold zerosAt; exact (List.takeWhile_sublist _).length_le

theorem firstAt_spec {n : Nat} {l : List Nat} (h : n ≤ longest l) :
    firstAt n l ≤ l.length ∧ n ≤ zerosAt (l.drop (firstAt n l)) := by
  induction l with
  | nil => simp [longest] at h; subst h; simp [firstAt, zerosAt]
  | cons x r ih =>
    by_cases hz : n ≤ zerosAt (x :: r)
    · simp [firstAt, hz]
    · have : n ≤ longest r := by simp only [longest] at h; omega
      have := ih this
      simp only [firstAt, hz, if_false, List.drop_succ_cons, List.length_cons]
      omega

/-- the run the specification selects: where it is, that it consists of zeros, that it fits -/
theorem chosen_run (l : List Nat) :
    firstAt (longest l) l + longest l ≤ l.length ∧
    l = l.take (firstAt (longest l) l) ++ List.replicate (longest l) 0 ++ l.drop (firstAt (longest l) l + longest l) := by
  obtain ⟨h1, h2⟩ := firstAt_spec (Nat.le_refl (longest l))
  have h3 := zerosAt_le_length (l.drop (firstAt (longest l) l))
  have h4 := take_zeros h2
  refine ⟨by simp at h3; omega, ?_⟩
  rw [← h4, List.append_assoc, ← List.drop_drop, List.take_append_drop, List.take_append_drop]

/-- what the model's `bestZeroRun` returns, without the RFC vocabulary: a run of zeros that lies inside the list -/
theorem bestZeroRun_run (l : List Nat) : (bestZeroRun l).1 + (bestZeroRun l).2 ≤ l.length ∧
    l = l.take (bestZeroRun l).1 ++ List.replicate (bestZeroRun l).2 0 ++ l.drop ((bestZeroRun l).1 + (bestZeroRun l).2) := by
  rw [bestZeroRun_eq]
  exact chosen_run l
end HostLemmas
end Yarl

namespace Yarl.HostLemmas
open Rfc5952

/-- `IPv6Address.compressed` in closed form: the parts handed to `":".join` -/
theorem ipv6ToStr_closed (h : List Nat) :
    ipv6ToStr h = joinC 58 (if longest h < 2 then h.map hexLower
      else side (h.take (firstAt (longest h) h)) ++ [] :: side (h.drop (firstAt (longest h) h + longest h))) := by
  unfold ipv6ToStr
  rw [bestZeroRun_eq]
  obtain ⟨hle, -⟩ := chosen_run h
  generalize firstAt (longest h) h = i at hle ⊢
  generalize longest h = n at hle ⊢
  show (if n > 1 then _ else _) = _
  by_cases h2 : n < 2
  · rw [if_neg (by omega), if_pos h2]
  · rw [if_pos (by omega), if_neg h2, ← List.map_take, ← List.map_drop, List.length_map]
    -- `_compress_hextets` adds an empty part in front when the run starts the address, behind when it ends it
    have hA : i = 0 ↔ h.take i = [] := by
      rw [← List.length_eq_zero_iff, List.length_take]
      omega
    have hB : i + n = h.length ↔ h.drop (i + n) = [] := by
      rw [← List.length_eq_zero_iff, List.length_drop]
      omega
    unfold side
    by_cases hA0 : h.take i = [] <;> by_cases hB0 : h.drop (i + n) = [] <;> simp [hA, hB, hA0, hB0]

/-! ### the characters of a text the IP parsers accept -/

theorem parseHextet_chars {p : Str} {v : Nat} (h : parseHextet p = some v) : ∀ c ∈ p, isHexC c = true := by
  unfold parseHextet at h
  split at h; · cases h
  rename_i hall
  simpa using hall

theorem mapM_parseHextet_chars {l : List Str} {vs : List Nat} (h : l.mapM parseHextet = some vs) :
    ∀ p ∈ l, ∀ c ∈ p, isHexC c = true := by
  induction l generalizing vs with
  | nil => simp
  | cons p ps ih =>
    rw [List.mapM_cons] at h
    cases hp : parseHextet p with
    | none => simp [hp] at h
    | some v =>
      cases hps : ps.mapM parseHextet with
      | none => simp [hp, hps] at h
      | some vs' =>
        intro q hq
        rcases List.mem_cons.1 hq with rfl | hq
        · exact parseHextet_chars hp
        · exact ih hps q hq

theorem skip_chars {parts : List Str} {hi lo : Nat} {h8 : List Nat}
    (h : (if 8 < hi + lo + 1 then none
      else match (parts.take hi).mapM parseHextet, ((parts.drop (parts.length - lo))).mapM parseHextet with
        | some h, some l => some (h ++ List.replicate (8 - (hi + lo)) 0 ++ l)
        | _, _ => none) = some h8) :
    (∀ p ∈ parts.take hi, ∀ c ∈ p, isHexC c = true) ∧
    (∀ p ∈ parts.drop (parts.length - lo), ∀ c ∈ p, isHexC c = true) := by
  split at h; · cases h
  split at h
  · rename_i hh ll h1 h2
    exact ⟨mapM_parseHextet_chars h1, mapM_parseHextet_chars h2⟩
  · cases h

theorem nil_of_getD {l : List Str} {k : Nat} (hk : k < l.length) (h : (l.getD k [1]).isEmpty = true) : l[k] = [] := by
  rw [List.getD_eq_getElem?_getD, List.getElem?_eq_getElem hk] at h
  exact List.isEmpty_iff.mp h

theorem nil_of_headD {l : List Str} (hk : 0 < l.length) (h : (l.headD [1]).isEmpty = true) : l[0] = [] := by
  cases l with
  | nil => cases hk
  | cons x xs => exact List.isEmpty_iff.mp h

theorem nil_of_getLastD {l : List Str} (hk : l.length - 1 < l.length) (h : (l.getLastD [1]).isEmpty = true) :
    l[l.length - 1] = [] := by
  rw [List.getLastD_eq_getLast?, List.getLast?_eq_getElem?, List.getElem?_eq_getElem hk] at h
  exact List.isEmpty_iff.mp h

/-- `m` hextets are read on one side of the "::", out of `n` parts; an empty outermost part (`f`) is not one of
    them, and then there is no other -/
theorem side_count {f : Bool} {n m : Nat} (hm : m = if f = true then n - 1 else n) (c : ¬(f = true ∧ m ≠ 0))
    (hn : 1 ≤ n) : m = n ∨ (f = true ∧ m = 0 ∧ n = 1) := by
  by_cases hf : f = true
  · have h0 : m = 0 := Decidable.byContradiction fun hne => c ⟨hf, hne⟩
    rw [if_pos hf] at hm
    exact .inr ⟨hf, h0, by omega⟩
  · rw [if_neg hf] at hm
    exact .inl hm

/-- every part of an accepted IPv6 part list is empty or a run of hex digits -/
theorem v6core_chars {parts : List Str} {h8 : List Nat} (h : v6core parts = some h8) :
    ∀ p ∈ parts, ∀ c ∈ p, isHexC c = true := by
  unfold v6core at h
  split at h; · cases h
  split at h
  · cases h
  · rename_i skip hs
    obtain ⟨k1, k2, k3⟩ := findSkip_some hs
    extract_lets hi0 lo0 fe le hi lo at h
    split at h; · cases h
    rename_i c1
    split at h; · cases h
    rename_i c2
    obtain ⟨a1, a2⟩ := skip_chars h
    -- the hextets before and after the "::"; what lies between is the empty part at `skip`, and next to it the
    -- empty first or last part of a leading or trailing "::"
    have e1 := nil_of_getD (Nat.lt_of_succ_lt k2) k3
    have e2 : fe = true → _ := nil_of_headD (Nat.zero_lt_of_lt k2)
    have e3 : le = true → _ := nil_of_getLastD (Nat.sub_lt (Nat.zero_lt_of_lt k2) Nat.one_pos)
    have hhi : hi = skip ∨ (fe = true ∧ hi = 0 ∧ skip = 1) := side_count rfl c1 k1
    have hlo : lo = parts.length - skip - 1 ∨ (le = true ∧ lo = 0 ∧ parts.length - skip - 1 = 1) :=
      side_count rfl c2 (by omega)
    clear_value hi lo fe le
    clear h c1 c2 k3 hs
    intro p hp
    obtain ⟨i, hi', rfl⟩ := List.mem_iff_getElem.1 hp
    by_cases b1 : i < hi
    · exact a1 _ (List.mem_take_iff_getElem.2 ⟨i, by omega, rfl⟩)
    · by_cases b2 : parts.length - lo ≤ i
      · refine a2 _ (List.mem_drop_iff_getElem.2 ⟨i - (parts.length - lo), by omega, ?_⟩)
        congr 1; omega
      · have hempty : parts[i] = [] := by
          rcases hhi with g1 | ⟨hfe, g1, g2⟩ <;> rcases hlo with g3 | ⟨hle, g3, g4⟩
          · have : i = skip := by omega
            subst this; exact e1
          · have : i = skip ∨ i = parts.length - 1 := by omega
            rcases this with rfl | rfl
            · exact e1
            · exact e3 hle
          · have : i = 0 ∨ i = skip := by omega
            rcases this with rfl | rfl
            · exact e2 hfe
            · exact e1
          · have : i = 0 ∨ i = skip ∨ i = parts.length - 1 := by omega
            rcases this with rfl | rfl | rfl
            · exact e2 hfe
            · exact e1
            · exact e3 hle
        rw [hempty]; simp
  · split at h; · cases h
    split at h; · cases h
    split at h; · cases h
    exact mapM_parseHextet_chars h

/-- the characters of a text `ipaddress.IPv6Address` accepts: ':', '.', hex digits -/
theorem parseIPv6_chars {s : Str} {h8 : List Nat} (h : parseIPv6 s = some h8) :
    ∀ c ∈ s, c = 58 ∨ c = 46 ∨ isHexC c = true := by
  rw [parseIPv6_eq] at h
  split at h; · cases h
  split at h; · cases h
  split at h; · cases h
  split at h
  · cases h
  · rename_i parts hex
    have hparts := v6core_chars h
    have hp0 : ∀ p ∈ splitOn 58 s, ∀ c ∈ p, c = 46 ∨ isHexC c = true := by
      unfold v6expand at hex
      split at hex
      · rename_i l hl
        split at hex
        · split at hex
          · rename_i a b c d h4
            cases hex
            intro p hp
            have hne : splitOn 58 s ≠ [] := by intro h0; rw [h0] at hl; cases hl
            have hlast : (splitOn 58 s).getLast hne = l := by
              rw [List.getLast?_eq_some_getLast hne] at hl; exact Option.some.inj hl
            rw [← List.dropLast_concat_getLast hne, hlast] at hp
            rcases List.mem_append.1 hp with hp | hp
            · exact fun c hc => Or.inr (hparts p (List.mem_append_left _ hp) c hc)
            · simp only [List.mem_cons, List.not_mem_nil, or_false] at hp
              subst hp
              intro c hc
              rcases parseIPv4_chars h4 c hc with h | h
              · exact Or.inl h
              · exact Or.inr (by simp [isHexC, h])
          · cases hex
        · cases hex
          exact fun p hp c hc => Or.inr (hparts p hp c hc)
      · cases hex
    intro c hc
    rw [← PathLemmas.joinC_splitOn (c := 58) s] at hc
    rcases mem_joinC hc with h | ⟨p, hp, hcp⟩
    · exact Or.inl h
    · exact Or.inr (hp0 p hp c hcp)

theorem parseIP_chars {s : Str} {ip : IP} (h : parseIP s = some ip) : ∀ c ∈ s, c < 128 ∧ c ≠ 64 := by
  intro c hc
  unfold parseIP at h
  cases h4 : parseIPv4 s with
  | some o4 =>
    rcases parseIPv4_chars h4 c hc with h | h
    · omega
    · simp [isDigitC] at h; omega
  | none =>
    rw [h4] at h
    cases h6 : parseIPv6 s with
    | none => simp [h6] at h
    | some h8 =>
      rcases parseIPv6_chars h6 c hc with h | h | h
      · omega
      · omega
      · simp [isHexC, isDigitC] at h; omega

end Yarl.HostLemmas
