/-
  BrHost.lean — bracketed hosts that are NOT IPv6 addresses (IPvFuture `[v1.a:b]`, other text with ':' such as
  `[g::1]`, `[a:b]`, `[1.2.3.4%a:b]`).  The constructor keeps the brackets of such a host (fix c17f18a).

  `HostFix` (Lemmas/FixLemmas.lean) does not cover them (`HostFix.enc` asks `_encode_host` to ADD the brackets;
  here `_encode_host` only lower-cases and `encode_url` puts the brackets back): `HostFixB`, `authTextB`
  (Lemmas/HostW.lean).  This file has the syntactic families `BracketTextIn` / `BracketText`, the host step of an
  entry point on such input (`encodeHost_bracketIn`, `hostStep_brk`), and the facts about `authTextB` as instances of those about any written host (`HostW.brk`).
-/
import YarlModel
import YarlProofs.C03Netloc
namespace Yarl
open ReachFix FixLemmas NetShape NetlocLemmas HostLemmas MiscLemmas

/-! ## vocabulary -/

/-- the authority text `[user[:password]@][t][:port]` — the host is ALWAYS bracketed (compare `authText`,
    which brackets the host only when it contains ':').  It is `authW user pw ([91] ++ t ++ [93]) port` by
    definition, so the `hostW_…` lemmas of Lemmas/HostW.lean apply to it with `HostW.brk`. -/
def authTextB (user pw : Option Str) (t : Str) (port : Option Nat) : Str :=
  makeNetloc id user pw (some ([91] ++ t ++ [93])) port false

/-- what may stand between '[' and ']' of a bracketed host that is not an IPv6 address, INPUT side (any letter
    case): visible ASCII with none of `/ ? # @ [ ]` (`textChar`; ':' and '%' are allowed), accepted by the bracket
    check of `split_url`, and not an IPv6 literal (text before an optional `%zone`) -/
structure BracketTextIn (t : Str) : Prop where
  chars : ∀ c ∈ t, textChar c = true
  check : bracketCheck t = true
  notV6 : ∀ h8, parseIP (partition 37 t).1 ≠ some (.v6 h8)

/-- … STORED side: the same, in lower case (what `_encode_host` leaves unchanged) -/
structure BracketText (t : Str) : Prop extends BracketTextIn t where
  lower : ∀ c ∈ t, ¬ (65 ≤ c ∧ c ≤ 90)

/-- the authority `str` writes for a URL whose stored authority is `authTextB user pw t port`: the stored text,
    unless the explicit port is the scheme's default — then `str` REBUILDS the authority from `host_subcomponent`,
    which brackets the host only when it contains ':' (`authText`), and drops the port -/
def strAuthB (scheme : Str) (user pw : Option Str) (t : Str) (port : Option Nat) : Str :=
  match port with
  | some p => if some p = defaultPort scheme then authText user pw t none else authTextB user pw t (some p)
  | none => authTextB user pw t none

/-- `host_port_subcomponent` of such a URL: trailing dots stripped, brackets only around a text with ':', the
    port unless absent or default -/
def hostPortSubB (scheme : Str) (t : Str) (port : Option Nat) : Str :=
  hostPortStr (bracket (if t.getLast? = some 46 then rstripC 46 t else t)) (strPort scheme port)

namespace BrHost

/-! ## basic facts -/

theorem bracketCheck_ne_nil {t : Str} (h : bracketCheck t = true) : t ≠ [] := by
  rintro rfl
  revert h
  decide

theorem bracketText_ne_nil {t : Str} (h : BracketTextIn t) : t ≠ [] := bracketCheck_ne_nil h.check

theorem bracketText_hostOK {t : Str} (h : BracketTextIn t) : HostOK t := by
  have n (c : Nat) (hc : textChar c = false) : c ∉ t := by
    intro hm; rw [h.chars c hm] at hc; exact Bool.noConfusion hc
  exact ⟨bracketText_ne_nil h, n 64 (by decide), n 91 (by decide), n 93 (by decide)⟩

theorem lower_of_bracketText {t : Str} (h : BracketText t) : lower t = t := lower_of_no_upper h.lower

/-- the syntactic family is an instance of the abstract one, for every oracle -/
theorem hostFixB_of_text (o : Oracles) {t : Str} (h : BracketText t) : HostFixB o t :=
  ⟨bracketText_hostOK h.toBracketTextIn, fun c hc => textChar_fix (h.chars c hc), h.check,
    HostLemmas.encodeHost_self o false (isAscii_of_text h.chars) (lower_of_bracketText h) h.notV6 nofun⟩

/-! ## the authority text -/

/-- with a ':' inside, `authTextB` is `authText` -/
theorem authTextB_colon (user pw : Option Str) {t : Str} (port : Option Nat) (h58 : 58 ∈ t) :
    authTextB user pw t port = authText user pw t port := by
  unfold authTextB authText
  rw [bracket_of_colon h58]

theorem authTextB_ne_nil (user pw : Option Str) (t : Str) (port : Option Nat) : authTextB user pw t port ≠ [] :=
  EagerLemmas.makeNetloc_ne_nil_written id user pw (by simp) port

theorem authTextB_chars {e : Env} {user pw : Option Str} {t : Str} {port : Option Nat}
    (hu : UserInfoOK e.b user pw) (hh : HostFixB e.o t) :
    ∀ c ∈ authTextB user pw t port, 33 ≤ c ∧ c < 128 ∧ Rfc.isDelim3 c = false :=
  hostW_chars hu (.brk hh)

/-- `split_url`'s bracket check accepts the authority text -/
theorem checkBrackets_authTextB {e : Env} {user pw : Option Str} {t : Str} (port : Option Nat)
    (hu : UserInfoOK e.b user pw) (hh : HostFixB e.o t) :
    checkBrackets (authTextB user pw t port) = .ok () :=
  hostW_checkBrackets hu (.brk hh)

/-- the authority block of `encode_url` returns such an authority unchanged, with `raw_host = t` -/
theorem netBlock_authTextB (e : Env) (scheme : Str) {user pw : Option Str} {t : Str} {port : Option Nat}
    (hu : UserInfoOK e.b user pw) (hh : HostFixB e.o t) (hp : ∀ p, port = some p → p ≤ 65535) :
    netBlock e scheme (authTextB user pw t port) =
      .ok (authTextB user pw t port, some (preOf user pw t port)) :=
  hostW_netBlock scheme hu (.brk hh) hp

/-! ## cache, accessors, `str` -/

/-- the cache entries of a URL whose stored authority is `authTextB …` (eager or lazy) -/
theorem net_authB (e : Env) (u : Url) (user pw : Option Str) (t : Str) (port : Option Nat)
    (hnet : u.netloc = authTextB user pw t port) (hu : UserInfoOK e.b user pw) (hh : HostOK t)
    (hp : ∀ p, port = some p → p ≤ 65535) (hpre : u.pre = none ∨ u.pre = some (preOf user pw t port)) :
    net e u = .ok (preOf user pw t port) :=
  net_of_reads u hnet (userOK_of hu) (EagerLemmas.reads_bracketed t hh.2.1 hh.2.2.2) hh.1 hp hpre

theorem strAuthB_other {scheme : Str} (user pw : Option Str) (t : Str) {port : Option Nat}
    (h : ∀ p, port = some p → some p ≠ defaultPort scheme) :
    strAuthB scheme user pw t port = authTextB user pw t port := by
  cases port with
  | none => rfl
  | some p => simp [strAuthB, h p rfl]

theorem strAuthB_default {scheme : Str} (user pw : Option Str) (t : Str) {p : Nat}
    (h : some p = defaultPort scheme) : strAuthB scheme user pw t (some p) = authText user pw t none := by
  simp [strAuthB, h]

/-- in every case but "default port and no ':' in the host" `str` writes the bracketed authority -/
theorem strAuthB_colon {scheme : Str} (user pw : Option Str) {t : Str} (port : Option Nat) (h58 : 58 ∈ t) :
    strAuthB scheme user pw t port = authTextB user pw t (strPort scheme port) := by
  cases port with
  | none => rfl
  | some p =>
    by_cases hd : some p = defaultPort scheme
    · rw [strAuthB_default user pw t hd, strPort_default hd, authTextB_colon user pw none h58]
    · simp [strAuthB, strPort, hd]

/-- `str` of a URL with authority `authTextB user pw t port` -/
theorem str_authB (e : Env) (u : Url) (user pw : Option Str) (t : Str) (port : Option Nat)
    (hnet : u.netloc = authTextB user pw t port) (hN : net e u = .ok (preOf user pw t port)) :
    str e u = .ok (unsplitResult u.scheme (strAuthB u.scheme user pw t port) (C07_strPath u) u.query u.fragment) :=
  str_authW e u user pw ([91] ++ t ++ [93]) t port hnet hN

/-- the netloc-dependent accessors of such a URL -/
theorem accessors_authB (e : Env) (u : Url) (user pw : Option Str) (t : Str) (port : Option Nat)
    (hN : net e u = .ok (preOf user pw t port)) :
    rawHost e u = .ok (some t) ∧ explicitPort e u = .ok port ∧ rawUser e u = .ok user ∧
    rawPassword e u = .ok pw ∧ hostSubcomponent e u = .ok (some (bracket t)) ∧
    hostPortSubcomponent e u = .ok (some (hostPortSubB u.scheme t port)) ∧
    Yarl.port e u = .ok (port.or (defaultPort u.scheme)) := by
  obtain ⟨h3, h4, h1, h2, h5⟩ := AuthMod.acc_of_net e u _ hN
  refine ⟨h1, h2, h3, h4, h5, ?_, ?_⟩
  · unfold hostPortSubcomponent hostPortSubB
    rw [h1]
    simp only [bind, Except.bind, h2]
    cases port with
    | none => simp [strPort, hostPortStr, bracket, pure, Except.pure]
    | some p =>
      by_cases hd : some p = defaultPort u.scheme
      · simp [strPort, hd, hostPortStr, bracket, pure, Except.pure]
      · simp [strPort, hd, hostPortStr, bracket, pure, Except.pure]
  · unfold Yarl.port
    rw [h2]
    cases port <;> rfl

/-! ## an IPvFuture text is never an IP address -/

theorem parseHextet_bad_head {x : Nat} (p : Str) (hx : isHexC x = false) : parseHextet (x :: p) = none := by
  unfold parseHextet
  simp [hx]

theorem mapM_bad_head {hd : Str} (rest : List Str) (h : parseHextet hd = none) :
    (hd :: rest).mapM parseHextet = none := by
  simp [List.mapM_cons, h]

/-- `_ip_int_from_string` rejects a list of parts whose first part is non-empty and no hextet -/
theorem v6core_bad_head {hd : Str} (rest : List Str) (hne : hd ≠ []) (h : parseHextet hd = none) :
    v6core (hd :: rest) = none := by
  unfold v6core
  split; · rfl
  split
  · rfl
  · rename_i skip hs
    obtain ⟨h1, h2, _⟩ := findSkip_some hs
    have hfe : ((hd :: rest).headD [1]).isEmpty = false := by
      simp only [List.headD_cons]; exact isEmpty_false hne
    simp only [hfe, Bool.false_eq_true, false_and, if_false]
    obtain ⟨k, rfl⟩ : ∃ k, skip = k + 1 := ⟨skip - 1, by omega⟩
    rw [List.take_succ_cons, mapM_bad_head _ h]
    simp
  · split; · rfl
    split; · rfl
    split; · rfl
    exact mapM_bad_head rest h

/-- expanding a dotted-quad suffix keeps the first part (when there are at least two parts) -/
theorem v6expand_head (hd : Str) {ps : List Str} (hps : ps ≠ []) :
    v6expand (hd :: ps) = none ∨ ∃ rest, v6expand (hd :: ps) = some (hd :: rest) := by
  unfold v6expand
  have hlast : (hd :: ps).getLast? = ps.getLast? := by
    cases ps with
    | nil => exact absurd rfl hps
    | cons a b => simp [List.getLast?_cons_cons]
  have hdrop : (hd :: ps).dropLast = hd :: ps.dropLast := by
    cases ps with
    | nil => exact absurd rfl hps
    | cons a b => rfl
  rw [hlast, hdrop]
  cases hl : ps.getLast? with
  | none => exact Or.inl rfl
  | some l =>
    simp only
    split
    · split
      · exact Or.inr ⟨_, rfl⟩
      · exact Or.inl rfl
    · exact Or.inr ⟨_, rfl⟩

theorem parseIPv6_v (r : Str) : parseIPv6 (118 :: r) = none := by
  rw [parseIPv6_eq]
  split; · rfl
  split; · rfl
  split; · rfl
  rename_i hlen
  obtain ⟨p, ps, hsp⟩ := PathAlg.splitOn_head_nil 58 118 r (by decide)
  rw [hsp] at hlen ⊢
  have hbad : parseHextet (118 :: p) = none := parseHextet_bad_head p (by decide)
  have hps : ps ≠ [] := by
    intro h; rw [h] at hlen; simp at hlen
  rcases v6expand_head (118 :: p) hps with h | ⟨rest, h⟩
  · rw [h]
  · rw [h]
    exact v6core_bad_head rest (by simp) hbad

theorem parseIPv4_v (r : Str) : parseIPv4 (118 :: r) = none := by
  cases h : parseIPv4 (118 :: r) with
  | none => rfl
  | some o4 =>
    have := parseIPv4_chars h 118 (by simp)
    simp [isDigitC] at this

/-- a text that starts with 'v' is no IP literal: for an IPvFuture text the clause `notV6` of `BracketTextIn`
    is automatic -/
theorem notIP_of_v (r : Str) : parseIP (partition 37 (118 :: r)).1 = none := by
  have : (partition 37 (118 :: r)).1 = 118 :: (partition 37 r).1 := by
    rw [ParseLemmas.partition_eq, ParseLemmas.partition_eq]
    simp
  rw [this]
  unfold parseIP
  rw [parseIPv4_v, parseIPv6_v]
  rfl

/-- the IPvFuture family: `v<hex>+.<char>+` over lower-case `textChar`s -/
theorem bracketText_ipvFuture {t : Str} (hch : ∀ c ∈ t, textChar c = true) (hlow : ∀ c ∈ t, ¬ (65 ≤ c ∧ c ≤ 90))
    (hv : ipvFutureOk t = true) : BracketText t := by
  cases t with
  | nil => simp [ipvFutureOk] at hv
  | cons x r =>
    have hx : x = 118 := by
      unfold ipvFutureOk at hv
      split at hv
      · rename_i heq; cases heq; rfl
      · cases hv
    subst hx
    refine ⟨⟨hch, ?_, fun h8 hp => ?_⟩, hlow⟩
    · exact (bracketCheck_v r).trans hv
    · rw [notIP_of_v] at hp; cases hp

/-- the other family: lower-case `textChar`s with a ':', not starting with 'v', not an IPv6 literal -/
theorem bracketText_colon {t : Str} (hch : ∀ c ∈ t, textChar c = true) (hlow : ∀ c ∈ t, ¬ (65 ≤ c ∧ c ≤ 90))
    (h58 : 58 ∈ t) (hv : t.head? ≠ some 118) (h6 : ∀ h8, parseIP (partition 37 t).1 ≠ some (.v6 h8)) :
    BracketText t := by
  refine ⟨⟨hch, ?_, h6⟩, hlow⟩
  rw [bracketCheck_of_not_v hv]
  exact mem_iff.mpr h58

/-! ## the INPUT side: what the constructor makes of `[T]` in any letter case -/

theorem textChar_lowerC {c : Nat} (h : textChar c = true) : textChar (lowerC c) = true := by
  have := textChar_spec h
  unfold textChar lowerC
  split <;> simp <;> omega

theorem lowerC_digit_or_dot {c : Nat} (h : lowerC c = 46 ∨ isDigitC (lowerC c) = true) : lowerC c = c := by
  unfold lowerC at h ⊢
  split
  · rename_i hc
    rw [if_pos hc] at h
    simp [isDigitC] at h
    omega
  · rfl

/-- lower-casing cannot turn a text into an IPv6 literal -/
theorem notV6_lower {s : Str} (h : ∀ h8, parseIP s ≠ some (.v6 h8)) : ∀ h8, parseIP (lower s) ≠ some (.v6 h8) := by
  intro h8 hp
  have h6 := parseIP_some_v6.1 hp
  rw [parseIPv6_lower] at h6
  exact h h8 (parseIP_some_v6.2 h6)

theorem bracketTextIn_lower {T : Str} (hk : BracketTextIn T) (hlow : bracketCheck (lower T) = true) :
    BracketText (lower T) := by
  refine ⟨⟨?_, hlow, ?_⟩, ?_⟩
  · intro c hc
    obtain ⟨d, hd, rfl⟩ := List.mem_map.1 hc
    exact textChar_lowerC (hk.chars d hd)
  · rw [HostLemmas.partition_fst_lower 37 (by decide)]
    exact notV6_lower hk.notV6
  · intro c hc
    obtain ⟨d, hd, rfl⟩ := List.mem_map.1 hc
    unfold lowerC
    split <;> omega

/-- `_encode_host` on a bracketed non-IPv6 text in any letter case: the lower-cased text, or — an IPv4 literal
    with a zone id that contains ':' ("1.2.3.4%A:b") — the text itself; either way a `HostFixB` text -/
theorem encodeHost_bracketIn (o : Oracles) {T : Str} (hk : BracketTextIn T) (hlow : bracketCheck (lower T) = true) :
    ∃ t, encodeHost o T false = .ok t ∧ HostFixB o t ∧ (t = lower T ∨ t = T) := by
  have hasc := isAscii_of_text hk.chars
  cases hp : parseIP (partition 37 T).1 with
  | none =>
    refine ⟨lower T, ?_, hostFixB_of_text o (bracketTextIn_lower hk hlow), Or.inl rfl⟩
    rw [encodeHost_noIp false (noIp_of_ascii o hasc hp), regPath_of_ascii o false hasc]
    rfl
  | some ip =>
    cases ip with
    | v6 h8 => exact absurd hp (hk.notV6 h8)
    | v4 o4 =>
      have hr := ipRes_of_v4 hp
      have h4 := parseIP_some_v4.1 hp
      have hv : T.head? ≠ some 118 := by
        intro ht
        cases T with
        | nil => cases ht
        | cons x xs =>
          obtain rfl : x = 118 := Option.some.inj ht
          rw [notIP_of_v] at hp
          cases hp
      have h58 : 58 ∈ T := mem_iff.mp ((bracketCheck_of_not_v hv).symm.trans hk.check)
      have henc : encodeHost o T false = .ok T := encodeHost_ip (looksIP_of_colon o h58) hr (zoneBad_false T)
      exact ⟨T, henc, ⟨bracketText_hostOK hk, fun c hc => textChar_fix (hk.chars c hc), hk.check, henc⟩, Or.inr rfl⟩

/-- the host step on a bracketed non-IPv6 host text that stood in brackets -/
theorem hostStep_brk {o : Oracles} {n T : Str} (hk : BracketTextIn T) (hlow : bracketCheck (lower T) = true)
    (hwrap : 91 ∈ (rpartition 64 n).2.2) :
    HostStep o n T (fun W h => W = [91] ++ h ++ [93] ∧ HostFixB o h ∧ (h = lower T ∨ h = T)) := by
  intro r hr
  obtain ⟨t, he, hh, hor⟩ := encodeHost_bracketIn o hk hlow
  obtain rfl := Except.ok.inj (hr.symm.trans he)
  refine ⟨_, r, ⟨rfl, hh, hor⟩, ?_, (HostW.brk hh).reads.unbr⟩
  rw [mem_iff.mpr hwrap]
  exact rebracket_wrap hh.ok.2.2.1

/-! ## the bracket check and lower-casing -/

theorem takeWhile_hex_lower (r : Str) : (lower r).takeWhile isHexC = lower (r.takeWhile isHexC) := by
  induction r with
  | nil => rfl
  | cons x xs ih =>
    simp only [lower, List.map_cons, List.takeWhile_cons] at ih ⊢
    rw [isHexC_lowerC x]
    split
    · simp only [List.map_cons, ih]
    · rfl

theorem dropWhile_hex_lower (r : Str) : (lower r).dropWhile isHexC = lower (r.dropWhile isHexC) := by
  induction r with
  | nil => rfl
  | cons x xs ih =>
    simp only [lower, List.map_cons, List.dropWhile_cons] at ih ⊢
    rw [isHexC_lowerC x]
    split
    · exact ih
    · rfl

theorem lower_isEmpty (s : Str) : (lower s).isEmpty = s.isEmpty := HostLemmas.isEmpty_lower s

theorem ipvFutureOk_lower (r : Str) : ipvFutureOk (118 :: lower r) = ipvFutureOk (118 :: r) := by
  unfold ipvFutureOk
  simp only [takeWhile_hex_lower, dropWhile_hex_lower]
  cases hd : r.dropWhile isHexC with
  | nil => rfl
  | cons y tl =>
    by_cases hy : y = 46
    · subst hy
      simp only [lower, List.map_cons]
      show (!(List.map lowerC (r.takeWhile isHexC)).isEmpty && !(List.map lowerC tl).isEmpty) = _
      simp
    · have hy' : lowerC y ≠ 46 := fun h => hy (by rw [← lowerC_digit_or_dot (Or.inl h)]; exact h)
      simp only [lower, List.map_cons]
      split
      · rename_i heq; simp only [List.cons.injEq] at heq; exact absurd heq.1 hy'
      · split
        · rename_i heq; simp only [List.cons.injEq] at heq; exact absurd heq.1 hy
        · rfl

/-- the bracket check survives lower-casing unless the text starts with an UPPER-CASE 'V' (then the lower-cased
    text starts with 'v' and must be an IPvFuture literal: `C03_bracket_upper_v_counterexample`) -/
theorem bracketCheck_lower {T : Str} (hV : T.head? ≠ some 86) (h : bracketCheck T = true) :
    bracketCheck (lower T) = true := by
  cases T with
  | nil => exact absurd h (by decide)
  | cons x r =>
    by_cases hx : x = 118
    · subst hx
      rw [bracketCheck_v] at h
      show bracketCheck (118 :: lower r) = true
      rw [bracketCheck_v, ipvFutureOk_lower]
      exact h
    · have e1 : (x :: r).head? ≠ some 118 := fun h => hx (Option.some.inj h)
      have hx86 : x ≠ 86 := fun h86 => hV (by simp [h86])
      have e2 : (lower (x :: r)).head? ≠ some 118 := by
        intro h
        have h118 : lowerC x = 118 := Option.some.inj h
        unfold lowerC at h118
        split at h118
        · omega
        · exact hx h118
      rw [bracketCheck_of_not_v e1] at h
      rw [bracketCheck_of_not_v e2]
      have hm := mem_iff.mp h
      apply mem_iff.mpr
      exact List.mem_map.2 ⟨58, hm, rfl⟩

/-! ## a Boolean checker (for concrete instances) -/

def notV6B (t : Str) : Bool :=
  match parseIP (partition 37 t).1 with
  | some (.v6 _) => false
  | _ => true

theorem notV6B_sound {t : Str} (h : notV6B t = true) : ∀ h8, parseIP (partition 37 t).1 ≠ some (.v6 h8) := by
  intro h8 hp
  unfold notV6B at h
  rw [hp] at h
  cases h

/-- `BracketTextIn` as a Boolean -/
def bracketTextInB (t : Str) : Bool := t.all textChar && bracketCheck t && notV6B t

/-- `BracketText` as a Boolean -/
def bracketTextB (t : Str) : Bool := bracketTextInB t && t.all (fun c => !(decide (65 ≤ c) && decide (c ≤ 90)))

theorem bracketTextInB_sound {t : Str} (h : bracketTextInB t = true) : BracketTextIn t := by
  unfold bracketTextInB at h
  simp only [Bool.and_eq_true, List.all_eq_true] at h
  exact ⟨h.1.1, h.1.2, notV6B_sound h.2⟩

theorem bracketTextB_sound {t : Str} (h : bracketTextB t = true) : BracketText t := by
  unfold bracketTextB at h
  simp only [Bool.and_eq_true, List.all_eq_true, Bool.not_eq_true', Bool.and_eq_false_iff,
    decide_eq_false_iff_not] at h
  refine ⟨bracketTextInB_sound h.1, fun c hc hcc => ?_⟩
  rcases h.2 c hc with h' | h'
  · exact h' hcc.1
  · exact h' hcc.2

end BrHost
end Yarl
