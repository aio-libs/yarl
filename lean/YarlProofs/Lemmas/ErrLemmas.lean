import YarlModel
import YarlProofs.Lemmas.StrLit
import YarlProofs.Lemmas.PathLemmas
import Lean.Elab.Tactic
import Lean.Meta.Tactic.Split
/-
  ErrLemmas.lean — a small "error-kind" logic for the `Except PyErr` monad:
  `Errs P x` says "if `x` fails, the error satisfies `P`".  It is compositional
  over `pure`, `bind`, `map`, `if`, `match` and `List.mapM`, so the C19 proofs
  are a syntactic walk over each model function.
-/
namespace Yarl

/-- the exception kinds a public entry point may raise (`oracleMiss` is the driver
    asking the harness for a table entry, not a Python exception) -/
def Allowed (e : PyErr) : Prop := e = .valueError ∨ e = .typeError ∨ ∃ f a, e = .oracleMiss f a

namespace ErrLemmas

/-- ValueError or an oracle request -/
def VO (e : PyErr) : Prop := e = .valueError ∨ ∃ f a, e = .oracleMiss f a
/-- TypeError or ValueError -/
def TV (e : PyErr) : Prop := e = .typeError ∨ e = .valueError
/-- nothing: the computation is total -/
def Never (_ : PyErr) : Prop := False

/-- `Errs P x`: a failure of `x` satisfies `P` -/
def Errs {α} (P : PyErr → Prop) : R α → Prop
  | .ok _ => True
  | .error e => P e

theorem Errs.iff {α} {P : PyErr → Prop} {x : R α} : Errs P x ↔ ∀ err, x = .error err → P err := by
  cases x with
  | ok a => simp [Errs]
  | error e => simp [Errs]

theorem Errs.elim {α} {P : PyErr → Prop} {x : R α} (h : Errs P x) {err} (hx : x = .error err) : P err :=
  Errs.iff.1 h err hx

theorem Errs.total {α} {x : R α} (h : Errs Never x) : ∃ a, x = .ok a := by
  cases x with
  | ok a => exact ⟨a, rfl⟩
  | error e => exact absurd h (by simp [Errs, Never])

theorem Errs.mono {α} {P Q : PyErr → Prop} {x : R α} (hPQ : ∀ e, P e → Q e) (h : Errs P x) : Errs Q x := by
  cases x with
  | ok a => trivial
  | error e => exact hPQ e h

theorem Errs.pure {α} {P : PyErr → Prop} (a : α) : Errs P (Pure.pure a : R α) := trivial
theorem Errs.ok {α} {P : PyErr → Prop} (a : α) : Errs P (.ok a : R α) := trivial
theorem Errs.error {α} {P : PyErr → Prop} {e : PyErr} (h : P e) : Errs P (.error e : R α) := h

theorem Errs.bind {α β} {P : PyErr → Prop} {x : R α} {f : α → R β}
    (hx : Errs P x) (hf : ∀ a, Errs P (f a)) : Errs P (x >>= f) := by
  cases x with
  | ok a => exact hf a
  | error e => exact hx

theorem Errs.map {α β} {P : PyErr → Prop} {x : R α} {f : α → β}
    (hx : Errs P x) : Errs P (Except.map f x) := by
  cases x with
  | ok a => trivial
  | error e => exact hx

theorem Errs.fmap {α β} {P : PyErr → Prop} {x : R α} {f : α → β}
    (hx : Errs P x) : Errs P (f <$> x) := Errs.map hx

theorem Errs.mapM {α β} {P : PyErr → Prop} {f : α → R β} (hf : ∀ a, Errs P (f a)) :
    ∀ l : List α, Errs P (l.mapM f)
  | [] => by simp only [List.mapM_nil]; exact Errs.pure _
  | a :: l => by
    simp only [List.mapM_cons]
    exact Errs.bind (hf a) (fun b => Errs.bind (Errs.mapM hf l) (fun bs => Errs.pure _))

theorem Errs.ite {α} {P : PyErr → Prop} {c : Prop} [Decidable c] {x y : R α}
    (hx : c → Errs P x) (hy : ¬c → Errs P y) : Errs P (if c then x else y) := by
  split
  · exact hx ‹_›
  · exact hy ‹_›

/-- `Errs.bind` for statements written as `∀ err, x = .error err → P err` -/
theorem bind_err {α β} {x : R α} {f : α → R β} {P : PyErr → Prop}
    (hx : ∀ err, x = .error err → P err) (hf : ∀ a err, f a = .error err → P err) :
    ∀ err, (x >>= f) = .error err → P err :=
  Errs.iff.1 (Errs.bind (Errs.iff.2 hx) (fun a => Errs.iff.2 (hf a)))

/-- inclusion of error-kind predicates, found by instance search -/
class Sub (P Q : PyErr → Prop) : Prop where
  sub : ∀ e, P e → Q e

instance : Sub VO VO := ⟨fun _ h => h⟩
instance : Sub TV TV := ⟨fun _ h => h⟩
instance : Sub Allowed Allowed := ⟨fun _ h => h⟩
instance : Sub VO Allowed := ⟨fun _ h => h.elim Or.inl (fun h => Or.inr (Or.inr h))⟩
instance : Sub TV Allowed := ⟨fun _ h => h.elim (fun h => Or.inr (Or.inl h)) Or.inl⟩
instance {P} : Sub Never P := ⟨fun _ h => h.elim⟩

theorem Errs.sub {α} {P Q : PyErr → Prop} [Sub P Q] {x : R α} (h : Errs P x) : Errs Q x :=
  Errs.mono Sub.sub h

theorem vo_value {Q} [Sub VO Q] : Q .valueError := Sub.sub (P := VO) _ (Or.inl rfl)
theorem vo_oracle {Q} [Sub VO Q] (f a) : Q (.oracleMiss f a) := Sub.sub (P := VO) _ (Or.inr ⟨f, a, rfl⟩)
theorem tv_value {Q} [Sub TV Q] : Q .valueError := Sub.sub (P := TV) _ (Or.inr rfl)
theorem tv_type {Q} [Sub TV Q] : Q .typeError := Sub.sub (P := TV) _ (Or.inl rfl)

theorem Errs.ask {α} {Q} [Sub VO Q] (fn : String) (arg : Str) (o : Option α) : Errs Q (ask fn arg o) := by
  cases o with
  | none => exact vo_oracle _ _
  | some a => trivial

/-- leaves of the walk: computations whose error kinds are already known.  They are found by
    instance search, so a callee lemma is registered (as an instance) once it is proved, and a step
    of the walk looks it up by the head symbol of the computation -/
class Leaf {α} (Q : PyErr → Prop) (x : R α) : Prop where
  errs : Errs Q x

variable {α : Type} {Q : PyErr → Prop}
instance (a : α) : Leaf Q (Pure.pure a : R α) := ⟨Errs.pure a⟩
instance (a : α) : Leaf Q (.ok a : R α) := ⟨Errs.ok a⟩
instance [Sub VO Q] : Leaf Q (.error .valueError : R α) := ⟨Errs.error vo_value⟩
instance [Sub TV Q] : Leaf Q (.error .valueError : R α) := ⟨Errs.error tv_value⟩
instance [Sub TV Q] : Leaf Q (.error .typeError : R α) := ⟨Errs.error tv_type⟩
instance [Sub VO Q] (fn arg) (o : Option α) : Leaf Q (ask fn arg o) := ⟨Errs.ask fn arg o⟩

open Lean Elab Tactic Meta in
/-- split the `match` at the head of the computation in an `Errs P (match …)` goal
    (plain `split` may pick a `match` nested in a pure sub-term instead) -/
elab "split_head" : tactic => liftMetaTactic fun g => do
  let t ← instantiateMVars (← g.getType)
  unless t.isAppOfArity ``Yarl.ErrLemmas.Errs 3 do throwError "split_head: not an Errs goal"
  let x := t.appArg!
  unless (← isMatcherApp x) do throwError "split_head: no match at the head"
  Split.splitMatch g x

/-- one step of the walk -/
syntax "errs_step" : tactic
macro_rules | `(tactic| errs_step) => `(tactic| first
  | exact Leaf.errs
  | with_reducible apply Errs.bind
  | with_reducible apply Errs.map
  | with_reducible apply Errs.fmap
  | with_reducible apply Errs.mapM
  | intro _
  | with_reducible apply Errs.ite
  | split_head
  | dsimp only)

/-- the whole walk -/
macro "errs" : tactic => `(tactic| repeat' errs_step)

end ErrLemmas
end Yarl

