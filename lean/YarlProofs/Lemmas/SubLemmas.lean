/-
  SubLemmas.lean — facts about `hasSub` (Python's `p in s` on two strings), used by `URL.host`:
  `raw[-1].isdigit() and "xn--" not in raw or ":" in raw`.
-/
import YarlModel
namespace Yarl
namespace SubLemmas

/-- `p in s` is "`s = a ++ p ++ b` for some `a`, `b`" -/
theorem hasSub_iff (p s : Str) : hasSub p s = true ↔ ∃ a b, s = a ++ p ++ b := by
  induction s with
  | nil =>
    simp only [hasSub, List.isEmpty_iff]
    constructor
    · intro h; subst h; exact ⟨[], [], rfl⟩
    · rintro ⟨a, b, h⟩
      have := congrArg List.length h
      simp only [List.length_nil, List.length_append] at this
      exact List.eq_nil_of_length_eq_zero (by omega)
  | cons c cs ih =>
    simp only [hasSub, Bool.or_eq_true, List.isPrefixOf_iff_prefix, ih]
    constructor
    · rintro (⟨t, ht⟩ | ⟨a, b, h⟩)
      · exact ⟨[], t, by simpa using ht.symm⟩
      · exact ⟨c :: a, b, by rw [h]; simp⟩
    · rintro ⟨a, b, h⟩
      cases a with
      | nil => left; exact ⟨b, by simpa using h.symm⟩
      | cons x a =>
        right
        simp only [List.cons_append, List.cons.injEq] at h
        exact ⟨a, b, h.2⟩

/-- every character of an occurring substring occurs -/
theorem mem_of_hasSub {p s : Str} (h : hasSub p s = true) {c : Nat} (hc : c ∈ p) : c ∈ s := by
  obtain ⟨a, b, rfl⟩ := (hasSub_iff p s).mp h
  simp [hc]

/-- a string that lacks one character of `p` does not contain `p` -/
theorem hasSub_false_of_not_mem {p s : Str} {c : Nat} (hc : c ∈ p) (hs : c ∉ s) : hasSub p s = false := by
  cases h : hasSub p s with
  | false => rfl
  | true => exact absurd (mem_of_hasSub h hc) hs

/-- strings over an alphabet that misses a character of `p` do not contain `p` -/
theorem hasSub_false_of_alphabet {p s : Str} (P : Nat → Prop) (hs : ∀ c ∈ s, P c) {c : Nat} (hc : c ∈ p)
    (hP : ¬ P c) : hasSub p s = false :=
  hasSub_false_of_not_mem hc (fun hm => hP (hs c hm))

theorem hasSub_append_left {p s : Str} (t : Str) (h : hasSub p s = true) : hasSub p (t ++ s) = true := by
  obtain ⟨a, b, rfl⟩ := (hasSub_iff p s).mp h
  exact (hasSub_iff _ _).mpr ⟨t ++ a, b, by simp⟩

theorem hasSub_append_right {p s : Str} (t : Str) (h : hasSub p s = true) : hasSub p (s ++ t) = true := by
  obtain ⟨a, b, rfl⟩ := (hasSub_iff p s).mp h
  exact (hasSub_iff _ _).mpr ⟨a, b ++ t, by simp⟩

/-- "xn--" as code points -/
abbrev xn : Str := [120, 110, 45, 45]

/-- digits and dots only (an IPv4 text): no "xn--" -/
theorem xn_not_in_digits_dots {s : Str} (h : ∀ c ∈ s, c = 46 ∨ isDigitC c = true) : hasSub xn s = false :=
  hasSub_false_of_alphabet (fun c => c = 46 ∨ isDigitC c = true) h (c := 120) (by decide) (by decide)

example : hasSub xn "xn--bcher-kva.h1".toStr = true ∧ hasSub xn "10.0.0.255".toStr = false ∧
    hasSub xn "xn-".toStr = false ∧ hasSub [] [] = true := by decide +kernel

end SubLemmas
end Yarl
