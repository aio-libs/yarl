/-
  WfLemmas.lean — helper lemmas for C01 (well-formed canonical output) and C02
  (canonicalisation preserves meaning); `unsplit_result` taken apart (`unsplit_eq`); the constructor's result in component terms (`encodeUrl_shape`).
-/
import YarlModel
import YarlProofs.Defs
import YarlProofs.Lemmas.OutLang
import YarlProofs.Lemmas.QuoteEquiv
import YarlProofs.Lemmas.GenTabs
import YarlProofs.Lemmas.PathLemmas
import YarlProofs.Lemmas.SegLang
import YarlProofs.Lemmas.ParseLemmas
import YarlProofs.C07
import YarlProofs.C12Readback
import YarlProofs.Lemmas.MdLemmas
import YarlProofs.Lemmas.PathAlg
import YarlProofs.Lemmas.StrLit
import YarlProofs.Lemmas.Basics
import YarlProofs.Lemmas.EagerLemmas
import YarlProofs.Lemmas.UnsplitLemmas
namespace Yarl

/-- the texts inside a query argument are Python strings (float texts are `str(float)`,
    supplied by Python: their being a Python string is a hypothesis) -/
def QValPy : QVal → Prop
  | .str s => PyStr s
  | .float txt _ => PyStr txt
  | _ => True

def QItemPy : QItem → Prop
  | .one v => QValPy v
  | .many vs => ∀ v ∈ vs, QValPy v

def QItemsPy (items : List (Str × QItem)) : Prop := ∀ p ∈ items, PyStr p.1 ∧ QItemPy p.2

def QArgPy : QArg → Prop
  | .str s => PyStr s
  | .mapping items => QItemsPy items
  | .pairs items => QItemsPy items
  | _ => True

namespace WfLemmas

open OutLangLemmas QsLemmas

/-! ### monotonicity of the output language -/

theorem outLang_mono {t t' : QTab} (hsafe : ∀ c, t.safe c = true → t'.safe c = true)
    (hqs : t.qs = true → t'.qs = true) {s : Str} : OutLang t s → OutLang t' s := by
  intro hs
  induction hs with
  | nil => exact OutLang.nil
  | lit c r hc h37 _ ih => exact OutLang.lit c r (hsafe c hc) h37 ih
  | plus r hq _ ih => exact OutLang.plus r (hqs hq) ih
  | esc b r hb _ ih => exact OutLang.esc b r hb ih

/-- a safe-set inclusion only has to be checked below 128 -/
theorem safe_sub_of_lt {t t' : QTab} (h : t.WF)
    (hlt : ∀ c, c < 128 → t.safe c = true → t'.safe c = true) :
    ∀ c, t.safe c = true → t'.safe c = true :=
  fun c hc => hlt c (h.safe_ascii c hc) hc

theorem outLang_singleton {t : QTab} {c : Nat} (hs : t.safe c = true) (h37 : c ≠ 37) : OutLang t [c] :=
  OutLang.lit c [] hs h37 OutLang.nil

/-! ### splitting and joining at a safe separator -/

theorem outLang_joinC_iff {t : QTab} (d : Nat) (hd : t.safe d = true) (hd37 : d ≠ 37)
    (hdhex : isUpperHexDigit d = false) (segs : List Str) (hne : segs ≠ [])
    (hsep : ∀ p ∈ segs, d ∉ p) :
    OutLang t (joinC d segs) ↔ ∀ seg ∈ segs, OutLang t seg := by
  have hL : SegLang (· = d) (OutLang t) := outLang_segLang fun d' hd' => hd' ▸ ⟨hd, hd37, hdhex⟩
  constructor
  · intro h seg hseg
    have := hL.of_splitOn rfl h seg
    rw [PathLemmas.splitOn_joinC (c := d) segs hne hsep] at this
    exact this hseg
  · exact hL.of_joinC rfl segs

/-! ### the parts of a parsed URL are Python strings when the input is -/

theorem cleanUrl_sublist (s : Str) : (cleanUrl s).Sublist s := by
  unfold cleanUrl
  rw [ParseLemmas.lstripSet_eq]
  exact List.filter_sublist.trans (List.dropWhile_sublist _)

theorem schemeOf_snd_sublist (sc s : Str) : (Rfc.schemeOf sc s).2.Sublist s := by
  unfold Rfc.schemeOf
  simp only
  split
  · rename_i rest heq
    split
    · have h1 : rest.Sublist (58 :: rest) := List.sublist_cons_self _ _
      rw [← heq] at h1
      exact h1.trans (List.dropWhile_sublist _)
    · exact List.Sublist.refl _
  · exact List.Sublist.refl _

theorem authOf_sublist (r1 : Str) :
    (ParseLemmas.authOf r1).1.Sublist r1 ∧ (ParseLemmas.authOf r1).2.Sublist r1 := by
  rw [ParseLemmas.authOf_eq]
  split
  · exact ⟨(List.takeWhile_sublist _).trans (List.drop_sublist _ _),
      (List.dropWhile_sublist _).trans (List.drop_sublist _ _)⟩
  · exact ⟨List.nil_sublist _, List.Sublist.refl _⟩

theorem tailOf_sublist (r2 : Str) :
    (ParseLemmas.tailOf r2).1.Sublist r2 ∧ (ParseLemmas.tailOf r2).2.1.Sublist r2 ∧
      (ParseLemmas.tailOf r2).2.2.Sublist r2 := by
  rw [ParseLemmas.tailOf_eq]
  exact ⟨(List.takeWhile_sublist _).trans (List.takeWhile_sublist _),
    (List.drop_sublist _ _).trans ((List.dropWhile_sublist _).trans (List.takeWhile_sublist _)),
    (List.drop_sublist _ _).trans (List.dropWhile_sublist _)⟩

theorem splitUrl_sublist (o : Oracles) (s : Str) (p : Parts) (h : splitUrl o s = .ok p) :
    p.netloc.Sublist s ∧ p.path.Sublist s ∧ p.query.Sublist s ∧ p.fragment.Sublist s := by
  have hB := C07_split o s p h
  rw [ParseLemmas.appendixB_eq] at hB
  simp only [toParts5, Rfc.Parts5.mk.injEq] at hB
  obtain ⟨_, h2, h3, h4, h5⟩ := hB
  have hc := cleanUrl_sublist s
  have h1 := (schemeOf_snd_sublist Gen.schemeChars (cleanUrl s)).trans hc
  have ha := authOf_sublist (Rfc.schemeOf Gen.schemeChars (cleanUrl s)).2
  have ht := tailOf_sublist (ParseLemmas.authOf (Rfc.schemeOf Gen.schemeChars (cleanUrl s)).2).2
  rw [h2, h3, h4, h5]
  exact ⟨ha.1.trans h1, ht.1.trans (ha.2.trans h1), ht.2.1.trans (ha.2.trans h1),
    ht.2.2.trans (ha.2.trans h1)⟩

theorem splitUrl_pyStr (o : Oracles) (s : Str) (hs : PyStr s) (p : Parts) (h : splitUrl o s = .ok p) :
    PyStr p.netloc ∧ PyStr p.path ∧ PyStr p.query ∧ PyStr p.fragment := by
  obtain ⟨h1, h2, h3, h4⟩ := splitUrl_sublist o s p h
  exact ⟨pyStr_of_sublist h1 hs, pyStr_of_sublist h2 hs, pyStr_of_sublist h3 hs, pyStr_of_sublist h4 hs⟩

theorem splitNetloc_pyStr (o : Oracles) (n : Str) (hn : PyStr n) (r : NetlocParts)
    (h : splitNetloc o n = .ok r) :
    (∀ x, r.user = some x → PyStr x) ∧ (∀ x, r.password = some x → PyStr x) := by
  by_cases h64 : 64 ∈ n
  · obtain ⟨ui, hi, hn', _, hu, hp⟩ := C07_netloc_userinfo o n r h64 h
    have hui : PyStr ui := by
      intro c hc
      exact hn c (by rw [hn']; simp [hc])
    constructor
    · intro x hx
      rw [hu] at hx
      rw [(EagerLemmas.orNone_some hx).1]
      exact pyStr_of_sublist (List.takeWhile_sublist _) hui
    · intro x hx
      rw [hp] at hx
      split at hx
      · cases hx
        exact pyStr_of_sublist ((List.drop_sublist _ _).trans (List.dropWhile_sublist _)) hui
      · cases hx
  · obtain ⟨hu, hp⟩ := C07_netloc_no_userinfo o n r h64 h
    rw [hu, hp]
    exact ⟨nofun, nofun⟩

/-! ### the success path of `encodeUrl` -/

/-- the success path of `encode_url` in terms of the stored components (`EagerLemmas.encodeUrl_ok`, `authBlock_ok`):
    path, query and fragment are the requoted parts of the split input; a pre-filled cache holds the requoted user
    (`None` when it requotes to "") and password `split_netloc` reads from the input authority -/
theorem encodeUrl_shape (e : Env) (s : Str) (u : Url) (h : encodeUrl e s = .ok u) :
    ∃ (p : Parts) (netloc : Str), splitUrl e.o s = .ok p ∧
      u.path = (if p.path.isEmpty then p.path else
        if !netloc.isEmpty && mem 46 (q e Gen.PATH_REQUOTER p.path) then normalizePath (q e Gen.PATH_REQUOTER p.path)
        else q e Gen.PATH_REQUOTER p.path) ∧
      u.query = (if p.query.isEmpty then p.query else q e Gen.QUERY_REQUOTER p.query) ∧
      u.fragment = (if p.fragment.isEmpty then p.fragment else q e Gen.FRAGMENT_REQUOTER p.fragment) ∧
      (∀ pr, u.pre = some pr → ∃ np, splitNetloc e.o p.netloc = .ok np ∧
          pr.rawUser = (requoteOpt e np.user).bind (fun s => if s.isEmpty then none else some s) ∧
          pr.rawPassword = requoteOpt e np.password) := by
  obtain ⟨p, nl, pre, hp, hab, rfl⟩ := EagerLemmas.encodeUrl_ok h
  refine ⟨p, nl, hp, rfl, rfl, rfl, fun pr hpr => ?_⟩
  rcases EagerLemmas.authBlock_ok hab with ⟨_, _, rfl⟩ | ⟨_, np, _, _, hsp, _, _, _, rfl⟩
  · cases hpr
  · cases hpr
    exact ⟨np, hsp, rfl, rfl⟩

/-- `(x or None)`: the filter `encodeUrl` applies to the requoted user (since commit 2fdb38c) -/
theorem orNoneBind_some {o : Option Str} {x : Str} :
    (o.bind (fun s => if s.isEmpty then none else some s)) = some x ↔ o = some x ∧ x ≠ [] := by
  cases o with
  | none => simp
  | some s =>
    cases s with
    | nil => simp
    | cons c r => simp; intro h; subst h; simp

/-- the cached user is never the empty string -/
theorem orNoneBind_ne_nil {o : Option Str} :
    (o.bind (fun s => if s.isEmpty then none else some s)) ≠ some [] :=
  fun h => (orNoneBind_some.mp h).2 rfl

theorem orNoneBind_none {o : Option Str} :
    (o.bind (fun s => if s.isEmpty then none else some s)) = none ↔ o = none ∨ o = some [] := by
  cases o with
  | none => simp
  | some s => cases s <;> simp

theorem orNoneBind_of_ne {o : Option Str} (h : o ≠ some []) :
    (o.bind (fun s => if s.isEmpty then none else some s)) = o := by
  cases o with
  | none => rfl
  | some s => cases s with
    | nil => exact absurd rfl h
    | cons c r => rfl

/-! ### `parse_qsl` yields Python strings -/

theorem parseQsl_pyStr (qs : Str) (hq : PyStr qs) : ∀ p ∈ parseQsl qs, PyStr p.1 ∧ PyStr p.2 :=
  fun p hp => ⟨fun c hc => ((QsLemmas.parseQsl_mem qs p hp).1 c hc).elim (hq c) (·.1),
    fun c hc => ((QsLemmas.parseQsl_mem qs p hp).2 c hc).elim (hq c) (·.1)⟩

/-! ### `unsplit_result` as a concatenation -/

/-- what `unsplit_result` writes between the scheme and the path: the text before the authority, the authority if it
    is rendered (else ""), the text after it -/
def unsplitSep (scheme netloc path : Str) : Str × Str × Str :=
  if !netloc.isEmpty || (!scheme.isEmpty && Gen.usesAuthority.contains scheme) || path.take 2 = [47, 47] then
    if !path.isEmpty && path.take 1 ≠ [47] then
      if !scheme.isEmpty then ([58, 47, 47], netloc, [47]) else ([58], [], [])
    else
      if !scheme.isEmpty then ([58, 47, 47], netloc, []) else ([47, 47], netloc, [])
  else if !scheme.isEmpty then ([58], [], []) else ([], [], [])

/-- `unsplit_result` writes scheme, path, query and fragment verbatim, in this order (`UnsplitLemmas.unsplit_shape`,
    with the text before the query cut at the authority) -/
theorem unsplit_eq (scheme netloc path query fragment : Str) :
    unsplitResult scheme netloc path query fragment =
      scheme ++ (unsplitSep scheme netloc path).1 ++ (unsplitSep scheme netloc path).2.1 ++
        (unsplitSep scheme netloc path).2.2 ++ path ++ UnsplitLemmas.tailStr query fragment := by
  have nil_of : ¬ (!scheme.isEmpty) = true → scheme = [] := by
    intro h
    cases scheme with
    | nil => rfl
    | cons a l => exact absurd rfl h
  rw [UnsplitLemmas.unsplit_shape]
  congr 1
  unfold UnsplitLemmas.unsplitHead unsplitSep
  split
  · split
    · split
      · simp
      · simp
    · split
      · simp
      · -- "//authority" is written without a scheme only when the scheme is empty
        rw [nil_of ‹_›]
        simp
  · split
    · simp
    · rw [nil_of ‹_›]
      simp

theorem unsplitSep_mid (scheme netloc path : Str) :
    (unsplitSep scheme netloc path).2.1 = netloc ∨ (unsplitSep scheme netloc path).2.1 = [] := by
  unfold unsplitSep
  split
  · split
    · split
      · exact .inl rfl
      · exact .inr rfl
    · split
      · exact .inl rfl
      · exact .inl rfl
  · split
    · exact .inr rfl
    · exact .inr rfl

theorem unsplitSep_glue {P : Str → Prop} (hP : Glue P) (k58 : P [58]) (k47 : P [47]) (scheme netloc path : Str) :
    P (unsplitSep scheme netloc path).1 ∧ P (unsplitSep scheme netloc path).2.2 := by
  have k1 : P [58, 47, 47] := hP.app k58 (hP.app k47 k47)
  have k2 : P [47, 47] := hP.app k47 k47
  unfold unsplitSep
  split
  · split
    · split
      · exact ⟨k1, k47⟩
      · exact ⟨k58, hP.nil⟩
    · split
      · exact ⟨k1, hP.nil⟩
      · exact ⟨k2, hP.nil⟩
  · split
    · exact ⟨k58, hP.nil⟩
    · exact ⟨hP.nil, hP.nil⟩

theorem tailStr_glue {P : Str → Prop} (hP : Glue P) (k63 : P [63]) (k35 : P [35]) {query fragment : Str}
    (h4 : P query) (h5 : P fragment) : P (UnsplitLemmas.tailStr query fragment) := by
  unfold UnsplitLemmas.tailStr
  apply hP.app
  · split
    · exact hP.app k63 h4
    · exact hP.nil
  · split
    · exact hP.app k35 h5
    · exact hP.nil

/-- a property that survives concatenation and holds of the five parts and of the delimiters holds of the
    rendered text -/
theorem unsplit_glue {P : Str → Prop} (hP : Glue P) (k58 : P [58]) (k47 : P [47]) (k63 : P [63]) (k35 : P [35])
    {scheme netloc path query fragment : Str} (h1 : P scheme) (h2 : P netloc) (h3 : P path) (h4 : P query)
    (h5 : P fragment) : P (unsplitResult scheme netloc path query fragment) := by
  rw [unsplit_eq]
  obtain ⟨ha, hb⟩ := unsplitSep_glue hP k58 k47 scheme netloc path
  have hm : P (unsplitSep scheme netloc path).2.1 := by
    rcases unsplitSep_mid scheme netloc path with h | h <;> rw [h]
    · exact h2
    · exact hP.nil
  exact hP.app (hP.app (hP.app (hP.app (hP.app h1 ha) hm) hb) h3) (tailStr_glue hP k63 k35 h4 h5)

theorem mem_tailStr {query fragment : Str} {c : Nat} (h : c ∈ query ∨ c ∈ fragment) : c ∈ UnsplitLemmas.tailStr query fragment := by
  unfold UnsplitLemmas.tailStr
  rcases h with h | h
  · cases query with
    | nil => cases h
    | cons a l => exact List.mem_append_left _ (List.mem_cons_of_mem _ h)
  · cases fragment with
    | nil => cases h
    | cons a l => exact List.mem_append_right _ (List.mem_cons_of_mem _ h)

theorem mem_unsplit {scheme path query fragment : Str} (netloc : Str) {c : Nat}
    (h : c ∈ scheme ∨ c ∈ path ∨ c ∈ query ∨ c ∈ fragment) :
    c ∈ unsplitResult scheme netloc path query fragment := by
  rw [unsplit_eq]
  simp only [List.append_assoc, List.mem_append]
  rcases h with h | h | h
  · exact .inl h
  · exact .inr (.inr (.inr (.inr (.inl h))))
  · exact .inr (.inr (.inr (.inr (.inr (mem_tailStr h)))))


/-! ### query arguments made of Python strings -/

theorem intToStr_pyStr (n : Int) : PyStr (intToStr n) := (pyStr_of_ascii _ (intToStr_ascii n)).1

theorem queryVar_pyStr (v : QVal) (s : Str) (h : queryVar v = .ok s) (hv : QValPy v) : PyStr s := by
  cases v with
  | str t => cases h; exact hv
  | int n => cases h; exact intToStr_pyStr n
  | float txt kind =>
    simp only [queryVar] at h
    split at h
    · cases h; exact hv
    · cases h
  | bool => cases h
  | none => cases h
  | other => cases h

theorem strItems_py (ps : List (Str × Str)) (h : ∀ p ∈ ps, PyStr p.1 ∧ PyStr p.2) : QItemsPy (strItems ps) := by
  intro x hx
  simp only [strItems, List.mem_map] at hx
  obtain ⟨p, hp, rfl⟩ := hx
  exact ⟨(h p hp).1, (h p hp).2⟩

theorem mdUpdate_py (old new : List (Str × QItem)) (ho : QItemsPy old) (hn : QItemsPy new) :
    QItemsPy (mdUpdate old new) := by
  intro x hx
  rcases MdLemmas.mem_mdUpdate_cases old new x hx with h | h
  · exact ho x h
  · exact hn x h

end WfLemmas
end Yarl
