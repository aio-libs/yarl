/-
  HumanLemmas.lean — `human_quote` character by character (`hqChar`, `Piece`, `humanQuote_induction`), stated for
  `human_quote` with some characters left literal (`R5.humanQuoteLit`, `R12.litChar`, `R12.humanQuoteLit_cons`) of which
  `human_quote` is the case "none" (`R12.humanQuoteLit_false`, `humanQuote_cons`), and what a requoting `_Quoter` makes
  of its output.  Then, for the URL level: plain registered-name hosts, what the quoters do with decoded texts and what
  the decoded accessors read back, `split_url` on a text with an authority, the human form of user and password and the
  table facts about the generated `unsafe` lists (`userBad_tab`, `unsafe_lt128`).

  Namespaces of the C18 stack (fixed: end results and fixed definitions carry these names, so the lemmas about them
  stay in them whatever file they stand in).  `HumanLemmas`, `HumanFull`, `HumanStores`, `HumanMore`, `HumanReach`: the
  lemmas of the file of that name, and the notions first stated there (`HumanMore.Stores`, `HumanMore.fragText`,
  `HumanReach.StoresOK`, `HumanReach.QueryArgOf` are used below their files and are declared where they are first
  needed).  `R5`: showing and parsing with spellings — `humanQuoteLit`, `humanReprLit` (the copy of `human_repr()` that
  leaves selected characters literal), `SpellOpt`, `ctorUrl`, `ctor_pieces`.  `R12`: the conditions on characters left
  literal and their lemmas — `litChar`, `LitChars`, `PctOK`, `LitOK`, `LitCompat`, `lit_*`, `litShower`.  `R12d`: the
  spelling positions (`Pos`, `pathPos` …, `Describes`) and the spelling relation `SpellsP` (C18More3Spell.lean).
-/
import YarlProofs.Defs
import YarlProofs.Lemmas.Canon
import YarlProofs.Lemmas.Utf8Round
import YarlProofs.Lemmas.GenTabs
import YarlProofs.C12Readback
import YarlProofs.C07
import YarlProofs.C11
import YarlProofs.C13
import YarlProofs.C16
import YarlProofs.C06
import YarlProofs.Lemmas.StrLit
import YarlProofs.Lemmas.Basics

namespace Yarl
namespace HumanLemmas

open OutLangLemmas QsLemmas

/-- equality of results is decidable (core has no such instance); needed to state
    "`isPrintableChar o c = .ok false`" inside an `if`, and for the `decide` checks -/
instance instDecEqExcept {ε α : Type} [DecidableEq ε] [DecidableEq α] : DecidableEq (Except ε α)
  | .ok a, .ok b => if h : a = b then isTrue (h ▸ rfl) else isFalse (fun e => h (Except.ok.inj e))
  | .error a, .error b =>
    if h : a = b then isTrue (h ▸ rfl) else isFalse (fun e => h (Except.error.inj e))
  | .ok _, .error _ => isFalse (fun e => nomatch e)
  | .error _, .ok _ => isFalse (fun e => nomatch e)

/-- a text of code points other than lone surrogates -/
theorem good_of_mem {s : Str} (h : ∀ c ∈ s, c ≤ 0x10FFFF ∧ isSurrogate c = false) : PyStr s ∧ NoSurrogate s :=
  ⟨fun c hc => (h c hc).1, fun c hc => (h c hc).2⟩

/-- the characters of an escape `%XY` -/
theorem pct_chars (b : Nat) (hb : b < 256) : ∀ y ∈ pct b, y = 37 ∨ isUpperHexDigit y = true := by
  intro y hy
  simp only [pct, List.mem_cons, List.not_mem_nil, or_false] at hy
  rcases hy with rfl | rfl | rfl
  · exact Or.inl rfl
  · exact Or.inr (toHex_upper (Nat.div_lt_of_lt_mul (by omega)))
  · exact Or.inr (toHex_upper (by omega))

/-- what `human_quote` does with one character -/
def hqChar (o : Oracles) (uns : Str) (c : Nat) : R Str := do
  if c = 37 || mem c uns then pure (pct c)
  else if ← isPrintableChar o c then pure [c]
  else if isSurrogate c then .error .valueError
  else pure ((utf8 c).flatMap pct)

/-- rewriting with this (and `pure_bind`) runs the successful steps of a `do` block and leaves the other binds
    folded; unfolding `bind` instead turns every step into a `match`, and rewriting under those is dear to check -/
theorem ok_bind {α β : Type} (a : α) (f : α → R β) : (Except.ok a >>= f) = f a := rfl

end HumanLemmas

/-! ### `human_quote` with some characters left literal; `human_quote` itself is the case "none" -/

namespace R5
open HumanLemmas

/-- `human_quote(s, unsafe)` with the characters selected by `lit` left LITERAL whatever they are ('%', unsafe, non-printable) -/
def humanQuoteLit (o : Oracles) (s uns : Str) (lit : Nat → Bool) : R Str := do
  let parts ← s.mapM (fun c => if lit c then pure [c] else hqChar o uns c)
  pure parts.flatten

def humanQuoteLitOpt (o : Oracles) (s : Option Str) (uns : Str) (lit : Nat → Bool) : R (Option Str) :=
  match s with
  | none => pure none
  | some s => do pure (some (← humanQuoteLit o s uns lit))

end R5

namespace R12
open HumanLemmas R5

/-- what `humanQuoteLit` does with one character -/
def litChar (o : Oracles) (uns : Str) (lit : Nat → Bool) (c : Nat) : R Str :=
  if lit c then pure [c] else hqChar o uns c

/-- with nothing left literal it is `human_quote` -/
theorem humanQuoteLit_false (o : Oracles) (s uns : Str) : humanQuoteLit o s uns (fun _ => false) = humanQuote o s uns := rfl

theorem humanQuoteLit_nil (o : Oracles) (uns : Str) (lit : Nat → Bool) : humanQuoteLit o [] uns lit = .ok [] := rfl

/-- a successful run, one character at a time -/
theorem humanQuoteLit_cons (o : Oracles) (uns : Str) (lit : Nat → Bool) (c : Nat) (s r : Str) :
    humanQuoteLit o (c :: s) uns lit = .ok r ↔
      ∃ p r', litChar o uns lit c = .ok p ∧ humanQuoteLit o s uns lit = .ok r' ∧ r = p ++ r' := by
  show (List.mapM (litChar o uns lit) (c :: s) >>= fun parts => pure parts.flatten) = .ok r ↔ _
  rw [List.mapM_cons]
  constructor
  · intro h
    obtain ⟨ps, h, hr⟩ := bind_ok h
    obtain ⟨p, hp, h⟩ := bind_ok h
    obtain ⟨ps', hps, h⟩ := bind_ok h
    cases h
    cases hr
    exact ⟨p, ps'.flatten, hp, (by show (List.mapM (litChar o uns lit) s >>= _) = _; rw [hps]; rfl), rfl⟩
  · rintro ⟨p, r', hp, hr', rfl⟩
    obtain ⟨ps, hps, hr'⟩ := bind_ok (show (List.mapM (litChar o uns lit) s >>= fun parts => pure parts.flatten) = .ok r' from hr')
    cases hr'
    rw [hp, hps]
    rfl

/-- a successful run on an optional text -/
theorem humanQuoteLitOpt_ok {o : Oracles} {x y : Option Str} {L : Str} {lit : Nat → Bool}
    (h : humanQuoteLitOpt o x L lit = .ok y) :
    (x = none ∧ y = none) ∨ ∃ s r, x = some s ∧ y = some r ∧ humanQuoteLit o s L lit = .ok r := by
  cases x with
  | none => left; cases h; exact ⟨rfl, rfl⟩
  | some s =>
    right
    obtain ⟨r, hq, h⟩ := bind_ok h
    cases h
    exact ⟨s, r, rfl, rfl, hq⟩

end R12

namespace HumanLemmas
open OutLangLemmas QsLemmas

theorem humanQuote_nil (o : Oracles) (uns : Str) : humanQuote o [] uns = .ok [] := rfl

theorem humanQuote_cons (o : Oracles) (uns : Str) (c : Nat) (s r : Str) :
    humanQuote o (c :: s) uns = .ok r ↔
      ∃ p r', hqChar o uns c = .ok p ∧ humanQuote o s uns = .ok r' ∧ r = p ++ r' :=
  R12.humanQuoteLit_cons o uns (fun _ => false) c s r

/-- the three ways a character comes out -/
inductive Piece (o : Oracles) (uns : Str) (c : Nat) (p : Str) : Prop
  | esc : (c = 37 ∨ mem c uns = true) → p = pct c → Piece o uns c p
  | shown : c ≠ 37 → mem c uns = false → isPrintableChar o c = .ok true → p = [c] → Piece o uns c p
  | hidden : c ≠ 37 → mem c uns = false → isPrintableChar o c = .ok false → isSurrogate c = false →
      p = (utf8 c).flatMap pct → Piece o uns c p

theorem hqChar_ok {o : Oracles} {uns : Str} {c : Nat} {p : Str} (h : hqChar o uns c = .ok p) :
    Piece o uns c p := by
  unfold hqChar at h
  by_cases h1 : c = 37 ∨ mem c uns = true
  · have : (c = 37 || mem c uns) = true := by simpa using h1
    simp only [this, if_true, pure, Except.pure, Except.ok.injEq] at h
    exact .esc h1 h.symm
  · have hf : (c = 37 || mem c uns) = false := by simpa using h1
    have h37 : c ≠ 37 := fun e => h1 (Or.inl e)
    have hm : mem c uns = false := by
      cases hx : mem c uns with
      | false => rfl
      | true => exact absurd (Or.inr hx) h1
    simp only [hf, Bool.false_eq_true, if_false] at h
    cases hp : isPrintableChar o c with
    | error e => rw [hp] at h; simp [bind, Except.bind] at h
    | ok b =>
      rw [hp] at h
      cases b with
      | true =>
        simp only [bind, Except.bind, if_true, pure, Except.pure, Except.ok.injEq] at h
        exact .shown h37 hm hp h.symm
      | false =>
        simp only [bind, Except.bind, Bool.false_eq_true, if_false] at h
        cases hs : isSurrogate c with
        | true => rw [hs] at h; simp at h
        | false =>
          rw [hs] at h
          simp only [Bool.false_eq_true, if_false, pure, Except.pure, Except.ok.injEq] at h
          exact .hidden h37 hm hp hs h.symm

/-- induction principle for successful runs of `human_quote` -/
theorem humanQuote_induction {o : Oracles} {uns : Str} (P : Str → Str → Prop)
    (nil : P [] [])
    (cons : ∀ c s p r, Piece o uns c p → humanQuote o s uns = .ok r → P s r → P (c :: s) (p ++ r)) :
    ∀ s r, humanQuote o s uns = .ok r → P s r := by
  intro s
  induction s with
  | nil =>
    intro r h
    rw [humanQuote_nil] at h
    cases h
    exact nil
  | cons c s ih =>
    intro r h
    obtain ⟨p, r', hp, hr', rfl⟩ := (humanQuote_cons o uns c s r).mp h
    exact cons c s p r' (hqChar_ok hp) hr' (ih r' hr')

/-! ### printable ASCII -/

theorem isPrintableChar_ascii (o : Oracles) {c : Nat} (h : c < 128) :
    isPrintableChar o c = .ok (decide (32 ≤ c) && decide (c < 127)) := by
  unfold isPrintableChar
  rw [if_pos h]; rfl

theorem isPrintableChar_high (o : Oracles) {c : Nat} (h : 128 ≤ c) :
    isPrintableChar o c = ask "isPrintableU" [c] (o.isPrintableU c) := by
  unfold isPrintableChar
  rw [if_neg (by omega)]

/-! ### the requoter on escapes of UTF-8 bytes -/

theorem cOut_flatMap_pct_high (t : QTab) (ht : t.WF) (hreq : t.requote = true) (bs : List Nat)
    (hb : ∀ b ∈ bs, 128 ≤ b ∧ b < 256) (r : Str) :
    cOut t (bs.flatMap pct ++ r) = bs.flatMap pct ++ cOut t r := by
  induction bs with
  | nil => simp
  | cons b bs ih =>
    have hb0 := hb b (by simp)
    rw [List.flatMap_cons, List.append_assoc, cOut_pct t hreq hb0.2,
      cEscOut_eq_pct t ht (Or.inl hb0.1), ih (fun x hx => hb x (by simp [hx])), List.append_assoc]

theorem cOut_writeUtf8_high (t : QTab) (ht : t.WF) (hreq : t.requote = true) {c : Nat}
    (hc : 128 ≤ c) (hp : c ≤ 0x10FFFF) (r : Str) :
    cOut t ((utf8 c).flatMap pct ++ r) = (utf8 c).flatMap pct ++ cOut t r :=
  cOut_flatMap_pct_high t ht hreq _
    (fun b hb => ⟨utf8_ge128 hc b hb, OutLangLemmas.utf8_lt256 c b hb⟩) r

theorem cWriteOut_high (t : QTab) {c : Nat} (hc : 128 ≤ c) :
    cWriteOut t c = (utf8 c).flatMap pct := by
  unfold cWriteOut writeUtf8
  rw [if_neg (by omega), if_neg (by omega)]

/-! ### compatibility of a (requoter, quoter) pair with an `unsafe` list -/

/-- the ASCII characters other than '%' that `human_quote` escapes -/
def escapedAscii (uns : Str) (c : Nat) : Bool := mem c uns || decide (c < 32) || decide (c = 127)

/-- Everything the round trip through `human_quote` needs from the requoting table `t`, the
    non-requoting table `t'` and the `unsafe` list, character by character (decidable). -/
structure HumanCompat (t t' : QTab) (uns : Str) : Prop where
  ascii : ∀ c ∈ uns, c < 128
  esc : ∀ c, c < 128 → c ≠ 37 → escapedAscii uns c = true → cEscOut t c = cWriteOut t' c
  lit : ∀ c, c < 128 → c ≠ 37 → escapedAscii uns c = false → cWriteOut t c = cWriteOut t' c

instance (t t' : QTab) (uns : Str) : Decidable (HumanCompat t t' uns) :=
  if h : (∀ c ∈ uns, c < 128) ∧
      (∀ c, c < 128 → c ≠ 37 → escapedAscii uns c = true → cEscOut t c = cWriteOut t' c) ∧
      (∀ c, c < 128 → c ≠ 37 → escapedAscii uns c = false → cWriteOut t c = cWriteOut t' c) then
    isTrue ⟨h.1, h.2.1, h.2.2⟩
  else isFalse (fun k => h ⟨k.ascii, k.esc, k.lit⟩)

theorem cEscOut_37 (t : QTab) (ht : t.WF) : cEscOut t 37 = pct 37 :=
  cEscOut_eq_pct t ht (Or.inr (Or.inl ht.pct_unsafe))

theorem cWriteOut_37 (t : QTab) (ht : t.WF) : cWriteOut t 37 = pct 37 := by
  unfold cWriteOut writeUtf8
  rw [if_neg (by omega), if_neg (by rw [ht.pct_unsafe]; simp)]
  rfl

theorem printable_not_escaped {o : Oracles} {uns : Str} {c : Nat} (hc : c < 128)
    (hm : mem c uns = false) (hp : isPrintableChar o c = .ok true) : escapedAscii uns c = false := by
  rw [isPrintableChar_ascii o hc] at hp
  simp only [Except.ok.injEq, Bool.and_eq_true, decide_eq_true_eq] at hp
  unfold escapedAscii
  rw [hm]
  simp only [Bool.false_or, Bool.or_eq_false_iff, decide_eq_false_iff_not]
  omega

theorem hidden_escaped {o : Oracles} {uns : Str} {c : Nat} (hc : c < 128)
    (hp : isPrintableChar o c = .ok false) : escapedAscii uns c = true := by
  rw [isPrintableChar_ascii o hc] at hp
  simp only [Except.ok.injEq, Bool.and_eq_false_iff, decide_eq_false_iff_not] at hp
  unfold escapedAscii
  simp only [Bool.or_eq_true, decide_eq_true_eq]
  omega

/-- one piece through the requoter equals the character through the quoter -/
theorem cOut_piece (o : Oracles) (t t' : QTab) (ht : t.WF) (ht' : t'.WF) (hreq : t.requote = true)
    (uns : Str) (k : HumanCompat t t' uns) {c : Nat} (hc : c ≤ 0x10FFFF) {p : Str}
    (hp : Piece o uns c p) (r : Str) : cOut t (p ++ r) = cWriteOut t' c ++ cOut t r := by
  cases hp with
  | esc h hp =>
    subst hp
    have hlt : c < 128 := by
      rcases h with rfl | h
      · omega
      · exact k.ascii c (mem_iff.mp h)
    rw [cOut_pct t hreq (by omega)]
    by_cases h37 : c = 37
    · subst h37
      rw [cEscOut_37 t ht, cWriteOut_37 t' ht']
    · have hm : mem c uns = true := by
        rcases h with h | h
        · exact absurd h h37
        · exact h
      rw [k.esc c hlt h37 (by unfold escapedAscii; rw [hm]; rfl)]
  | shown h37 hm hpr hp =>
    subst hp
    rw [List.singleton_append, cOut_cons_ne t h37]
    by_cases hlt : c < 128
    · rw [k.lit c hlt h37 (printable_not_escaped hlt hm hpr)]
    · rw [cWriteOut_high t (by omega), cWriteOut_high t' (by omega)]
  | hidden h37 hm hpr hsur hp =>
    subst hp
    by_cases hlt : c < 128
    · rw [utf8_ascii hlt]
      simp only [List.flatMap_cons, List.flatMap_nil, List.append_nil]
      rw [cOut_pct t hreq (by omega), k.esc c hlt h37 (hidden_escaped hlt hpr)]
    · rw [cOut_writeUtf8_high t ht hreq (by omega) hc, cWriteOut_high t' (by omega)]

/-! ### unquoter after quoter -/

theorem path_readback (e : Env) (t : Str) (ht : PyStr t) (hn : NoSurrogate t) :
    uq e Gen.PATH_UNQUOTER (q e Gen.PATH_QUOTER t) = t :=
  C06_readback_path e.b t ht hn

theorem fragment_readback (e : Env) (t : Str) (ht : PyStr t) (hn : NoSurrogate t) :
    uq e Gen.UNQUOTER (q e Gen.FRAGMENT_QUOTER t) = t :=
  C06_readback_fragment e.b t ht hn

/-! ### a shown leading character; '/' is shown in the path -/

/-- a leading character that is shown stays in front -/
theorem humanQuote_cons_shown (o : Oracles) (uns : Str) (c : Nat) (s r : Str)
    (hc : hqChar o uns c = .ok [c]) (h : humanQuote o (c :: s) uns = .ok r) :
    ∃ r', humanQuote o s uns = .ok r' ∧ r = c :: r' := by
  obtain ⟨p, r', hp, hr', rfl⟩ := (humanQuote_cons o uns c s r).mp h
  rw [hc] at hp; cases hp
  exact ⟨r', hr', rfl⟩

theorem hqChar_slash_path (o : Oracles) : hqChar o (humanUnsafeOf "path") 47 = .ok [47] := by
  unfold hqChar isPrintableChar
  rfl

/-! ## URL level: plain registered-name hosts -/

open HostLemmas NetlocLemmas

/-- a plain registered name: ASCII, lower case, accepted by the host validation, not an IP literal -/
structure PlainHost (h : Str) : Prop where
  ne : h ≠ []
  ascii : isAscii h = true
  low : lower h = h
  reg : notRegName h = false
  noip : parseIP (partition 37 h).1 = none

instance (h : Str) : Decidable (PlainHost h) :=
  if k : h ≠ [] ∧ isAscii h = true ∧ lower h = h ∧ notRegName h = false ∧
      parseIP (partition 37 h).1 = none then isTrue ⟨k.1, k.2.1, k.2.2.1, k.2.2.2.1, k.2.2.2.2⟩
  else isFalse (fun p => k ⟨p.ne, p.ascii, p.low, p.reg, p.noip⟩)

theorem encodeHost_plain (o : Oracles) (h : Str) (v : Bool) (ph : PlainHost h) :
    encodeHost o h v = .ok h := by
  rw [encodeHost_noIp v (noIp_of_ascii o ph.ascii ph.noip), regPath_of_ascii o v ph.ascii, ph.low, ph.reg, Bool.and_false]
  rfl

/-- the characters that never appear literally in the human form of user and password -/
def userBad : List Nat := [9, 10, 13, 35, 47, 58, 63, 64, 91, 93]

/-- none of them is a registered-name character -/
theorem regName_tab : ∀ d ∈ userBad, d ≠ 37 ∧ mem d Gen.regNameChars = false := by decide +kernel

theorem plain_avoid {h : Str} (ph : PlainHost h) {d : Nat} (hd : d ∈ userBad) : d ∉ h := by
  intro hm
  have := regName_tab d hd
  rcases HostLemmas.notRegName_spec _ ph.reg d hm with h1 | h1
  · exact this.1 h1
  · rw [this.2] at h1; cases h1

theorem plain_hostOK {h : Str} (ph : PlainHost h) : HostOK h :=
  ⟨ph.ne, plain_avoid ph (by decide), plain_avoid ph (by decide), plain_avoid ph (by decide)⟩

theorem plain_bracket {h : Str} (ph : PlainHost h) : bracket h = h := by
  unfold bracket
  rw [if_neg]
  rw [mem_iff]
  exact plain_avoid ph (by decide)

theorem plain_netloc (qf : Str → Str) {h : Str} (ph : PlainHost h) :
    makeNetloc qf none none (some (bracket h)) none false = h := by
  rw [plain_bracket ph]; rfl

/-! ### quoting decoded texts -/

/-- `PathAlg.q_path_cons_fix` for '/', with the hypothesis on the whole rooted text -/
theorem q_path_cons_slash (e : Env) (p : Str) (hp : PyStr (47 :: p)) :
    q e Gen.PATH_QUOTER (47 :: p) = 47 :: q e Gen.PATH_QUOTER p :=
  PathAlg.q_path_cons_fix e p (pyStr_tail hp) (.inr rfl)

/-- the URL built from decoded components -/
def builtUrl (e : Env) (sc h p f : Str) : Url :=
  fromParts sc h (q e Gen.PATH_QUOTER p) [] (if f.isEmpty then f else q e Gen.FRAGMENT_QUOTER f)

theorem run_ne_nil (a : QArgs) (ha : a ∈ Gen.allQuoters) (hnr : a.requote = false) (b : Backend)
    (t : Str) (ht : PyStr t) (hn : NoSurrogate t) (h0 : t ≠ []) : a.run b t ≠ [] := by
  obtain ⟨c, r, rfl⟩ := List.exists_cons_of_ne_nil h0
  rw [run_eq_cOut a ha b _ ht, stripSurr_id _ hn, cOut_nr_cons _ (by rw [tab_requote]; exact hnr)]
  intro h
  exact PathAlg.cWriteOut_ne_nil _ c (ht c (by simp)) (hn c (by simp)) (List.append_eq_nil_iff.mp h).1

/-! ### parsing a text with an authority back -/

/-- a scheme as `split_url` reads it back: non-empty, scheme characters, lower case -/
structure ValidScheme (sc : Str) : Prop where
  ne : sc ≠ []
  chars : ∀ c ∈ sc, mem c Gen.schemeChars = true
  low : lower sc = sc

instance (sc : Str) : Decidable (ValidScheme sc) :=
  if k : sc ≠ [] ∧ (∀ c ∈ sc, mem c Gen.schemeChars = true) ∧ lower sc = sc then
    isTrue ⟨k.1, k.2.1, k.2.2⟩
  else isFalse (fun p => k ⟨p.ne, p.chars, p.low⟩)

theorem schemeChars_ascii : ∀ c ∈ Gen.schemeChars, c < 128 := by decide +kernel

/-- a valid (lower-case, scheme-character) scheme is stored as it is by `build` / `with_scheme` -/
theorem ValidScheme.lowerAny_eq {sc : Str} (vs : ValidScheme sc) (e : Env) : lowerAny e sc = .ok sc := by
  have ha : isAscii sc = true := by
    unfold isAscii
    rw [List.all_eq_true]
    intro c hc
    simpa using schemeChars_ascii c (mem_iff.mp (vs.chars c hc))
  unfold lowerAny
  rw [if_pos ha, vs.low]; rfl

def fragTail (rf : Str) : Str := if rf.isEmpty then [] else 35 :: rf

def Clean (s : Str) : Prop := ∀ c ∈ s, c ≠ 9 ∧ c ≠ 10 ∧ c ≠ 13

theorem schemeChars_tab : ∀ c ∈ Gen.schemeChars, 32 < c ∧ c ≠ 58 := by decide +kernel

/-- a text that starts with scheme characters (in any case) loses nothing in front; behind them TAB, LF, CR go -/
theorem cleanUrl_schemeText (SC X : Str) (hne : SC ≠ []) (hch : ∀ c ∈ SC, mem c Gen.schemeChars = true) :
    cleanUrl (SC ++ X) = SC ++ X.filter (fun c => !mem c Gen.removeSet) := by
  have hsc : ∀ c ∈ SC, 32 < c ∧ c ≠ 58 := fun c hc => schemeChars_tab c (mem_iff.mp (hch c hc))
  unfold cleanUrl
  obtain ⟨c, r, rfl⟩ := List.exists_cons_of_ne_nil hne
  have h1 : lstripSet Gen.stripSet (c :: r ++ X) = c :: r ++ X := by
    rw [ParseLemmas.lstripSet_eq, List.cons_append, List.dropWhile_cons_of_neg]
    rw [ParseLemmas.mem_stripSet]
    have := (hsc c (by simp)).1
    simp only [decide_eq_true_eq]; omega
  rw [h1, List.filter_append, List.filter_eq_self.mpr]
  intro x hx
  rw [ParseLemmas.mem_removeSet]
  have := (hsc x hx).1
  simp only [decide_eq_true_eq]
  omega

/-- scheme characters (in any case) in front of ':' are read as the scheme, lower-cased -/
theorem schemeOf_schemeText (SC Y : Str) (hne : SC ≠ []) (hch : ∀ c ∈ SC, mem c Gen.schemeChars = true) :
    Rfc.schemeOf Gen.schemeChars (SC ++ 58 :: Y) = (lower SC, Y) := by
  have hsc : ∀ c ∈ SC, 32 < c ∧ c ≠ 58 := fun c hc => schemeChars_tab c (mem_iff.mp (hch c hc))
  have hall : ∀ a ∈ SC, (decide (a ≠ 58)) = true := fun a ha => by simp [(hsc a ha).2]
  unfold Rfc.schemeOf
  rw [List.takeWhile_append_of_pos hall, List.dropWhile_append_of_pos hall]
  simp only [ne_eq, decide_not, List.takeWhile_cons, decide_true, Bool.not_true, Bool.false_eq_true,
    ↓reduceIte, List.append_nil, List.dropWhile_cons, isEmpty_false hne, Bool.not_false, Bool.true_and]
  have : SC.all (fun c => Gen.schemeChars.contains c) = true := by
    rw [List.all_eq_true]; exact hch
  rw [this]
  rfl

theorem cleanUrl_family (sc rest : Str) (vs : ValidScheme sc) (hc : Clean rest) :
    cleanUrl (sc ++ rest) = sc ++ rest := by
  rw [cleanUrl_schemeText sc rest vs.ne vs.chars, List.filter_eq_self.mpr]
  intro x hx
  rw [ParseLemmas.mem_removeSet]
  simp only [decide_eq_true_eq]
  exact hc x hx

theorem schemeOf_family (sc rest : Str) (vs : ValidScheme sc) :
    Rfc.schemeOf Gen.schemeChars (sc ++ 58 :: rest) = (sc, rest) := by
  rw [schemeOf_schemeText sc rest vs.ne vs.chars, vs.low]

theorem tail_family (rp rf : Str) (h35 : 35 ∉ rp) (h63 : 63 ∉ rp) :
    ParseLemmas.tailOf (rp ++ fragTail rf) = (rp, [], rf) := by
  rw [ParseLemmas.tailOf_eq]
  have a35 : ∀ a ∈ rp, decide (a ≠ 35) = true := fun a ha => by
    simp only [decide_eq_true_eq]; rintro rfl; exact h35 ha
  have t63 : rp.takeWhile (· ≠ 63) = rp := ParseLemmas.takeWhile_ne_of_not_mem h63
  have d63 : rp.dropWhile (· ≠ 63) = [] := ParseLemmas.dropWhile_ne_of_not_mem h63
  unfold fragTail
  cases rf with
  | nil =>
    simp only [List.isEmpty_nil, ↓reduceIte, List.append_nil,
      ParseLemmas.takeWhile_ne_of_not_mem h35, ParseLemmas.dropWhile_ne_of_not_mem h35, t63, d63,
      List.drop_nil]
  | cons c r =>
    simp only [List.isEmpty_cons, Bool.false_eq_true, ↓reduceIte]
    rw [List.takeWhile_append_of_pos a35, List.dropWhile_append_of_pos a35]
    simp only [ne_eq, decide_not, List.takeWhile_cons, decide_true, Bool.not_true, Bool.false_eq_true,
      ↓reduceIte, List.append_nil, List.dropWhile_cons, List.drop_succ_cons, List.drop_zero]
    have t63' : rp.takeWhile (fun x => !decide (x = 63)) = rp := by
      have := t63; simpa using this
    have d63' : rp.dropWhile (fun x => !decide (x = 63)) = [] := by
      have := d63; simpa using this
    rw [t63', d63']
    rfl

/-- what the parser needs from the authority of the human form -/
structure AuthOK (o : Oracles) (nl : Str) : Prop where
  chars : ∀ a ∈ nl, a ≠ 47 ∧ a ≠ 63 ∧ a ≠ 35 ∧ a ≠ 9 ∧ a ≠ 10 ∧ a ≠ 13 ∧ a ≠ 91 ∧ a ≠ 93
  /-- the NFKC check of `split_url` (only run on a non-ASCII authority) -/
  nfkc : isAscii nl = false → checkNetloc o nl = .ok ()

theorem appendixB_auth (sc nl rp rf : Str) (vs : ValidScheme sc)
    (hnl : ∀ a ∈ nl, a ≠ 47 ∧ a ≠ 63 ∧ a ≠ 35)
    (h35 : 35 ∉ rp) (h63 : 63 ∉ rp) :
    Rfc.appendixB Gen.schemeChars (sc ++ 58 :: 47 :: 47 :: (nl ++ (47 :: rp ++ fragTail rf))) =
      { scheme := sc, authority := nl, path := 47 :: rp, query := [], fragment := rf } := by
  have hd : ∀ a ∈ nl, (!Rfc.isDelim3 a) = true := by
    intro a ha
    obtain ⟨h1, h2, h3⟩ := hnl a ha
    simp [Rfc.isDelim3, h1, h2, h3]
  have hauth : ParseLemmas.authOf (47 :: 47 :: (nl ++ (47 :: rp ++ fragTail rf))) =
      (nl, 47 :: rp ++ fragTail rf) := by
    unfold ParseLemmas.authOf
    simp only
    rw [List.takeWhile_append_of_pos hd, List.dropWhile_append_of_pos hd]
    have : Rfc.isDelim3 47 = true := by decide +kernel
    simp [this]
  have htail := tail_family (47 :: rp) rf (by simp [h35]) (by simp [h63])
  rw [ParseLemmas.appendixB_eq, schemeOf_family sc _ vs]
  simp only [hauth, htail]

/-- `split_url` on `scheme://netloc/path[#fragment]` (no query) for an authority without brackets (`AuthOK`); path and
    fragment may contain spaces and non-ASCII text.  With a query and for an authority given by its characters:
    `HumanFull.splitUrl_human`; for visible ASCII parts: `FixLemmas.splitUrl_compose` -/
theorem splitUrl_auth (o : Oracles) (sc nl rp rf : Str) (vs : ValidScheme sc) (ha : AuthOK o nl)
    (h35 : 35 ∉ rp) (h63 : 63 ∉ rp) (hc1 : Clean rp) (hc2 : Clean rf) :
    splitUrl o (sc ++ 58 :: 47 :: 47 :: (nl ++ (47 :: rp ++ fragTail rf))) =
      .ok { scheme := sc, netloc := nl, path := 47 :: rp, query := [], fragment := rf } := by
  have hclean : Clean (58 :: 47 :: 47 :: (nl ++ (47 :: rp ++ fragTail rf))) := by
    intro c hc
    simp only [List.mem_cons, List.mem_append] at hc
    rcases hc with rfl | rfl | rfl | hc | (rfl | hc) | hc
    · omega
    · omega
    · omega
    · have := ha.chars c hc; omega
    · omega
    · exact hc1 c hc
    · unfold fragTail at hc
      split at hc
      · cases hc
      · rcases List.mem_cons.mp hc with rfl | hc
        · omega
        · exact hc2 c hc
  have h91 : mem 91 nl = false := mem_false_iff.mpr
    (fun hm => (ha.chars 91 hm).2.2.2.2.2.2.1 rfl)
  have h93 : mem 93 nl = false := mem_false_iff.mpr
    (fun hm => (ha.chars 93 hm).2.2.2.2.2.2.2 rfl)
  have hcb : checkBrackets nl = .ok () := by
    unfold checkBrackets
    simp [h91, h93]
  rw [ParseLemmas.splitUrl_eq]
  unfold ParseLemmas.splitUrlNF
  rw [cleanUrl_family sc _ vs hclean,
    appendixB_auth sc nl rp rf vs (fun a h => ⟨(ha.chars a h).1, (ha.chars a h).2.1, (ha.chars a h).2.2.1⟩)
      h35 h63]
  simp only [hcb]
  cases hasc : isAscii nl with
  | true => simp [pure, Except.pure]
  | false =>
    cases hne : nl.isEmpty with
    | true => simp [pure, Except.pure]
    | false => simp [ha.nfkc hasc]

/-! ## user, password and what the decoded accessors read -/

theorem q_nil (e : Env) (a : QArgs) : q e a [] = [] := a.run_nil e.b

/-- a user given as "" is no user (`make_netloc`: `if not user`) -/
def _root_.Yarl.HumanMore.dropEmpty (x : Option Str) : Option Str := x.bind (fun s => if s.isEmpty then none else some s)

/-- `NetlocLemmas.makeNetloc_encode` with the user written `user.map qf` instead of `encUser qf user`: the two differ
    for the user "" only, which `make_netloc` writes like no user when `qf "" = ""` -/
theorem makeNetloc_encode_map (qf : Str → Str) (hq0 : qf [] = []) (user pw : Option Str) (H : Str)
    (port : Option Nat) :
    makeNetloc qf user pw (some H) port true = makeNetloc qf (user.map qf) (pw.map qf) (some H) port false := by
  rw [NetlocLemmas.makeNetloc_encode]
  cases user with
  | none => rfl
  | some u =>
    cases u with
    | nil =>
      unfold makeNetloc BuildMore.encUser
      cases pw <;> simp [hq0]
    | cons c r => rfl

theorem quoter_avoid (e : Env) (s : Str) (hs : PyStr s) (d : Nat)
    (hd : ∀ b, (Gen.QUOTER.tab b).safe d = false) (h37 : d ≠ 37) (hx : isUpperHexDigit d = false) :
    d ∉ q e Gen.QUOTER s := by
  have hwf := gen_tab_wf Gen.QUOTER (by decide) e.b
  unfold q
  rw [run_eq_cOut _ (by decide) e.b s hs]
  have hall := outLang_allowed _ (cOut_outLang _ hwf (stripSurr s))
  intro hm
  rcases hall d hm with h | h | h | h
  · rw [hd] at h; cases h
  · exact h37 h
  · rw [hx] at h; cases h
  · rw [tab_qs] at h; exact absurd h.1 (by decide)

theorem quoter_unsafe_tab : ∀ b, (Gen.QUOTER.tab b).safe 58 = false := by
  intro b; cases b <;> decide

theorem user_readback (e : Env) (t : Str) (ht : PyStr t) (hn : NoSurrogate t) :
    uq e Gen.UNQUOTER (q e Gen.QUOTER t) = t :=
  C06_readback_user e.b t ht hn

/-- the decoded texts given to `build` -/
def UText (x : Option Str) : Prop := ∀ s, x = some s → PyStr s ∧ NoSurrogate s

theorem userOK_quoted (e : Env) (user : Option Str) (hu : UText user) (hune : ∀ s, user = some s → s ≠ []) :
    UserOK (user.map (q e Gen.QUOTER)) := by
  intro s hs
  cases user with
  | none => cases hs
  | some us =>
    simp only [Option.map_some, Option.some.injEq] at hs
    subst hs
    obtain ⟨h1, h2⟩ := hu us rfl
    exact ⟨run_ne_nil Gen.QUOTER (by decide) rfl e.b us h1 h2 (hune us rfl),
      quoter_avoid e us h1 58 quoter_unsafe_tab (by omega) (by decide)⟩

theorem map_readback (e : Env) (x : Option Str) (hx : UText x) :
    (x.map (q e Gen.QUOTER)).map (uq e Gen.UNQUOTER) = x := by
  cases x with
  | none => rfl
  | some s =>
    obtain ⟨h1, h2⟩ := hx s rfl
    simp only [Option.map_some, user_readback e s h1 h2]

theorem pathDecoded_of (e : Env) (u : Url) (p : Str) (hu : u.path = q e Gen.PATH_QUOTER (47 :: p))
    (hp : PyStr (47 :: p)) (hn : NoSurrogate (47 :: p)) : pathDecoded e u = 47 :: p := by
  unfold pathDecoded
  rw [hu]
  simp only [q_path_cons_slash e p hp, List.isEmpty_cons, Bool.not_false, ↓reduceIte]
  rw [← q_path_cons_slash e p hp]
  exact path_readback e _ hp hn

theorem fragmentDecoded_of (e : Env) (u : Url) (f : Str)
    (hu : u.fragment = if f.isEmpty then f else q e Gen.FRAGMENT_QUOTER f)
    (hf : PyStr f) (hfn : NoSurrogate f) : fragmentDecoded e u = f := by
  unfold fragmentDecoded
  rw [hu]
  cases f with
  | nil => rfl
  | cons c r =>
    have hne : q e Gen.FRAGMENT_QUOTER (c :: r) ≠ [] :=
      run_ne_nil Gen.FRAGMENT_QUOTER (by decide) rfl e.b _ hf hfn (by simp)
    simp only [List.isEmpty_cons, Bool.false_eq_true, ↓reduceIte, isEmpty_false hne, Bool.not_false]
    exact fragment_readback e _ hf hfn

/-! ### the human form of user and password -/

theorem humanQuoteOpt_ok {o : Oracles} {x y : Option Str} {L : Str} (h : humanQuoteOpt o x L = .ok y) :
    (x = none ∧ y = none) ∨ ∃ s r, x = some s ∧ y = some r ∧ humanQuote o s L = .ok r :=
  R12.humanQuoteLitOpt_ok (lit := fun _ => false) h

/-- each of them is in the escape list of the user or is TAB, LF, CR; none is '%' or a hex digit -/
theorem userBad_tab : ∀ d ∈ userBad, d ≠ 37 ∧ isUpperHexDigit d = false ∧
    (mem d (humanUnsafeOf "user") = true ∨ d = 9 ∨ d = 10 ∨ d = 13) := by decide +kernel

/-- all generated `unsafe` characters are ASCII -/
theorem unsafe_lt128 : ∀ key ∈ ["user", "password", "path", "k", "v", "fragment"],
    ∀ c ∈ humanUnsafeOf key, c < 128 := by decide +kernel

theorem user_unsafe_ascii : ∀ c ∈ humanUnsafeOf "user", c < 128 := unsafe_lt128 "user" (by decide)

/-- a human form of a user or password -/
def HumanPart (y : Option Str) : Prop := ∀ r, y = some r → ∀ d ∈ userBad, d ∉ r

end HumanLemmas
end Yarl
