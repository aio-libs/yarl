/-
  Decimal.lean — `natToStr` (`str(int)` for naturals) without its fuel, and the value `dv` of a digit string.

  `natToStr n` satisfies the recursion on `n / 10` that its fuel argument only serves to make structural
  (`natToStr_step`); everything else is proved from that equation by induction along the decimal digits
  (`decimal_induction`).  `dv 0` and `natToStr` are inverse to each other on digit strings without a superfluous
  leading zero.  Python's `int(text)` reads a digit string as its value (`pyIntAscii_digits`), so the written port
  parses back (`natToStr_roundtrip`); a digit is none of the delimiters (`notMem_digits`).
-/
import YarlModel
import YarlProofs.Lemmas.Basics
namespace Yarl

namespace NetlocLemmas

/-- value of a digit string, accumulating -/
def dv (a : Nat) (ds : Str) : Nat := ds.foldl (fun a c => a * 10 + (c - 48)) a

end NetlocLemmas

namespace Decimal
open NetlocLemmas (dv)

theorem isDigitC_iff {c : Nat} : isDigitC c = true ↔ 48 ≤ c ∧ c ≤ 57 := by
  simp [isDigitC]

/-! ### with the fuel: only what holds for ANY fuel, sufficient or not -/

theorem natToStrAux_digits (fuel n : Nat) :
    natToStrAux fuel n ≠ [] ∧ ∀ c ∈ natToStrAux fuel n, isDigitC c = true := by
  induction fuel generalizing n with
  | zero =>
    refine ⟨by simp [natToStrAux], fun c hc => ?_⟩
    simp only [natToStrAux, List.mem_singleton] at hc
    rw [isDigitC_iff]
    omega
  | succ f ih =>
    simp only [natToStrAux]
    split
    · refine ⟨by simp, fun c hc => ?_⟩
      simp only [List.mem_singleton] at hc
      rw [isDigitC_iff]
      omega
    · refine ⟨by simp, fun c hc => ?_⟩
      rcases List.mem_append.1 hc with hc | hc
      · exact (ih (n / 10)).2 c hc
      · simp only [List.mem_singleton] at hc
        rw [isDigitC_iff]
        omega

/-- any sufficient fuel gives the same digits -/
theorem natToStrAux_fuel : ∀ (f1 f2 n : Nat), n ≤ f1 → n ≤ f2 → natToStrAux f1 n = natToStrAux f2 n := by
  intro f1
  induction f1 with
  | zero =>
    intro f2 n h1 _
    obtain rfl : n = 0 := by omega
    cases f2 with
    | zero => rfl
    | succ g => simp [natToStrAux]
  | succ f ih =>
    intro f2 n h1 h2
    cases f2 with
    | zero =>
      obtain rfl : n = 0 := by omega
      simp [natToStrAux]
    | succ g =>
      simp only [natToStrAux]
      split
      · rfl
      · rw [ih g (n / 10) (by omega) (by omega)]

/-! ### without the fuel -/

theorem natToStr_lt {n : Nat} (h : n < 10) : natToStr n = [48 + n] := by
  unfold natToStr
  cases n with
  | zero => rfl
  | succ m => simp [natToStrAux, h]

theorem natToStr_ge {n : Nat} (h : 10 ≤ n) : natToStr n = natToStr (n / 10) ++ [48 + n % 10] := by
  obtain ⟨m, rfl⟩ : ∃ m, n = m + 1 := ⟨n - 1, by omega⟩
  rw [natToStr, natToStrAux, if_neg (by omega), natToStrAux_fuel m ((m + 1) / 10) _ (by omega) (Nat.le_refl _)]
  rfl

/-- the recursion `str(int)` follows -/
theorem natToStr_step (n : Nat) :
    natToStr n = if n < 10 then [48 + n] else natToStr (n / 10) ++ [48 + n % 10] := by
  split
  · rename_i h
    exact natToStr_lt h
  · rename_i h
    exact natToStr_ge (by omega)

/-- induction on a number along its decimal digits -/
theorem decimal_induction {P : Nat → Prop} (small : ∀ n, n < 10 → P n)
    (step : ∀ n, 10 ≤ n → P (n / 10) → P n) (n : Nat) : P n := by
  induction n using Nat.strongRecOn with
  | ind n ih =>
    by_cases h : n < 10
    · exact small n h
    · exact step n (by omega) (ih _ (by omega))

theorem natToStr_digits (n : Nat) : natToStr n ≠ [] ∧ ∀ c ∈ natToStr n, isDigitC c = true :=
  natToStrAux_digits n n

theorem natToStr_getLast (n : Nat) : (natToStr n).getLast? = some (48 + n % 10) := by
  rw [natToStr_step]
  split
  · rename_i h
    simp only [List.getLast?_singleton, Option.some.injEq]
    omega
  · simp

/-- a number below `10 ^ (k + 1)` has at most `k + 1` digits -/
theorem natToStr_length (n : Nat) : ∀ k, n < 10 ^ (k + 1) → (natToStr n).length ≤ k + 1 := by
  induction n using decimal_induction with
  | small n h =>
    intro k _
    rw [natToStr_lt h]
    simp
  | step n h ih =>
    intro k hk
    rw [natToStr_ge h, List.length_append, List.length_singleton]
    cases k with
    | zero => omega
    | succ j =>
      have : n / 10 < 10 ^ (j + 1) := by
        rw [Nat.pow_succ] at hk
        omega
      have := ih j this
      omega

/-! ### value and text -/

theorem dv_append (a : Nat) (ds : Str) (c : Nat) : dv a (ds ++ [c]) = dv a ds * 10 + (c - 48) := by
  simp [dv]

theorem dv_zero (ds : Str) : dv 0 (48 :: ds) = dv 0 ds := by
  simp [dv]

theorem dv_dropZeros (ds : Str) : dv 0 ds = dv 0 (ds.dropWhile (· = 48)) := by
  induction ds with
  | nil => rfl
  | cons x xs ih =>
    by_cases hx : x = 48
    · subst hx
      rw [dv_zero, ih]
      simp
    · simp [hx]

/-- the text of a number reads as the number -/
theorem dv_natToStr (n : Nat) : dv 0 (natToStr n) = n := by
  induction n using decimal_induction with
  | small n h =>
    rw [natToStr_lt h]
    simp [dv]
  | step n h ih =>
    rw [natToStr_ge h, dv_append, ih]
    omega

/-- no superfluous leading zero: the text is "0" or does not start with '0' -/
theorem natToStr_head (n : Nat) : natToStr n = [48] ∨ (natToStr n).head? ≠ some 48 := by
  induction n using decimal_induction with
  | small n h =>
    rw [natToStr_lt h]
    by_cases h0 : n = 0
    · left
      rw [h0]
    · right
      simp only [List.head?_cons, ne_eq, Option.some.injEq]
      omega
  | step n h ih =>
    right
    rw [natToStr_ge h]
    rcases ih with ih | ih
    · -- the text of `n / 10 ≥ 1` is not "0": it reads as `n / 10`
      have hv := dv_natToStr (n / 10)
      rw [ih] at hv
      simp only [dv, List.foldl_cons, List.foldl_nil] at hv
      omega
    · cases hs : natToStr (n / 10) with
      | nil => exact absurd hs (natToStr_digits (n / 10)).1
      | cons x xs =>
        rw [hs] at ih
        exact ih

/-- appending a digit to a non-zero number appends it to the text -/
theorem natToStr_snoc {a c : Nat} (ha : 1 ≤ a) (hc : isDigitC c = true) :
    natToStr (a * 10 + (c - 48)) = natToStr a ++ [c] := by
  have hc' := isDigitC_iff.1 hc
  rw [natToStr_ge (by omega), show (a * 10 + (c - 48)) / 10 = a by omega,
    show 48 + (a * 10 + (c - 48)) % 10 = c by omega]

/-- behind a number `a ≥ 1` already read, the digits `ds` are printed back unchanged -/
theorem natToStr_dv_acc (ds : Str) (hd : ∀ c ∈ ds, isDigitC c = true) :
    ∀ a, 1 ≤ a → natToStr (dv a ds) = natToStr a ++ ds := by
  induction ds with
  | nil =>
    intro a _
    simp [dv]
  | cons c cs ih =>
    intro a ha
    have hc := isDigitC_iff.1 (hd c (by simp))
    show natToStr (dv (a * 10 + (c - 48)) cs) = _
    rw [ih (fun x hx => hd x (by simp [hx])) _ (by omega), natToStr_snoc ha (hd c (by simp)), List.append_assoc]
    rfl

/-- a digit string without superfluous leading zero is what `str(int)` prints for its value -/
theorem natToStr_dv (ds : Str) (hd : ∀ c ∈ ds, isDigitC c = true) (hne : ds ≠ [])
    (hc : ds = [48] ∨ ds.head? ≠ some 48) : natToStr (dv 0 ds) = ds := by
  cases ds with
  | nil => exact absurd rfl hne
  | cons x xs =>
    have hx := isDigitC_iff.1 (hd x (by simp))
    by_cases h48 : x = 48
    · rcases hc with h | h
      · rw [h]
        rfl
      · simp [h48] at h
    · have e : dv 0 (x :: xs) = dv (x - 48) xs := by simp [dv]
      rw [e, natToStr_dv_acc xs (fun c hc => hd c (by simp [hc])) _ (by omega), natToStr_lt (by omega),
        show 48 + (x - 48) = x by omega]
      rfl

/-! ### digits are ASCII and are none of the delimiters -/

theorem isAscii_natToStr (p : Nat) : isAscii (natToStr p) = true := by
  unfold isAscii
  rw [List.all_eq_true]
  intro c hc
  have := (natToStr_digits p).2 c hc
  unfold isDigitC at this; simp at this ⊢; omega

theorem digit_ne {c d : Nat} (h : isDigitC c = true) (hd : d < 48 ∨ 57 < d) : c ≠ d := by
  unfold isDigitC at h; simp at h; omega

theorem notMem_digits {ds : Str} (h : ∀ c ∈ ds, isDigitC c = true) (d : Nat) (hd : d < 48 ∨ 57 < d) :
    d ∉ ds := fun hm => digit_ne (h d hm) hd rfl

/-! ### Python `int(text)` on a digit string -/

theorem digitsUnderscore_some (ds : Str) (a : Nat) (h : ∀ c ∈ ds, isDigitC c = true) :
    digitsUnderscore ds (some a) false = some (dv a ds) := by
  induction ds generalizing a with
  | nil => simp [digitsUnderscore, dv]
  | cons c cs ih =>
    have hc : isDigitC c = true := h c (by simp)
    simp only [digitsUnderscore, hc, if_true]
    rw [ih _ (fun x hx => h x (by simp [hx]))]
    simp [dv]

theorem digitsUnderscore_none (ds : Str) (hne : ds ≠ []) (h : ∀ c ∈ ds, isDigitC c = true) :
    digitsUnderscore ds none false = some (dv 0 ds) := by
  cases ds with
  | nil => exact absurd rfl hne
  | cons c cs =>
    have hc : isDigitC c = true := h c (by simp)
    simp only [digitsUnderscore, hc, if_true]
    rw [digitsUnderscore_some _ _ (fun x hx => h x (by simp [hx]))]
    simp [dv]

theorem lstripSet_id (ws s : Str) (h : ∀ c ∈ s, mem c ws = false) : lstripSet ws s = s := by
  cases s with
  | nil => rfl
  | cons x xs => simp [lstripSet, h x (by simp)]

theorem digit_not_space (c : Nat) (h : isDigitC c = true) :
    mem c ((List.range 128).filter isPySpaceC) = false := by
  rw [mem_false_iff]
  intro hm
  simp only [List.mem_filter] at hm
  have := hm.2
  unfold isPySpaceC at this
  unfold isDigitC at h
  simp at this h
  omega

theorem pyIntAscii_digits (ds : Str) (hne : ds ≠ []) (h : ∀ c ∈ ds, isDigitC c = true) :
    pyIntAscii ds = some (Int.ofNat (dv 0 ds)) := by
  unfold pyIntAscii
  have h1 : lstripSet ((List.range 128).filter isPySpaceC) ds = ds :=
    lstripSet_id _ _ (fun c hc => digit_not_space c (h c hc))
  have h2 : lstripSet ((List.range 128).filter isPySpaceC) ds.reverse = ds.reverse :=
    lstripSet_id _ _ (fun c hc => digit_not_space c (h c (by simpa using hc)))
  simp only [h1, h2, List.reverse_reverse]
  cases ds with
  | nil => exact absurd rfl hne
  | cons c cs =>
    have hc : isDigitC c = true := h c (by simp)
    have hc' : 48 ≤ c ∧ c ≤ 57 := by unfold isDigitC at hc; simpa using hc
    split
    · rename_i heq; cases heq
    · rename_i heq; cases heq; omega
    · rename_i heq; cases heq; omega
    · rw [digitsUnderscore_none _ hne h]; rfl

end Decimal

theorem natToStr_roundtrip (p : Nat) : pyIntAscii (natToStr p) = some (Int.ofNat p) := by
  rw [Decimal.pyIntAscii_digits _ (Decimal.natToStr_digits p).1 (Decimal.natToStr_digits p).2, Decimal.dv_natToStr]

end Yarl
