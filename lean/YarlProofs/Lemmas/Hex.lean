import YarlProofs.Defs
namespace Yarl.Hex
open Yarl

/-- Upper-casing and then reading `[0-9A-F]` is `_from_hex`: `g`–`z` become `G`–`Z`, which are not digits. -/
theorem hexValUpper_upper (c : Nat) : hexValUpper (upperAZ c) = fromHex c := by
  unfold upperAZ
  split
  · have h1 : ¬ (48 ≤ c - 32 ∧ c - 32 ≤ 57) := by omega
    have h2 : ¬ (0x30 ≤ c ∧ c ≤ 0x39) := by omega
    have h3 : ¬ (0x41 ≤ c ∧ c ≤ 0x46) := by omega
    rw [hexValUpper, fromHex, if_neg h1, if_neg h2, if_neg h3]
    by_cases h : 0x61 ≤ c ∧ c ≤ 0x66
    · rw [if_pos h, if_pos (by omega)]; congr 1; omega
    · rw [if_neg h, if_neg (by omega)]
  · have h3 : ¬ (0x61 ≤ c ∧ c ≤ 0x66) := by omega
    rw [hexValUpper, fromHex, if_neg h3]
    split
    · rfl
    · split
      · congr 1; omega
      · rfl

theorem fromHex_of_not_az (c : Nat) (h : isAZ09 (upperAZ c) = false) : fromHex c = none := by
  rw [← hexValUpper_upper, hexValUpper]
  simp [isAZ09] at h
  rw [if_neg (by omega), if_neg (by omega)]

theorem restoreCh_none_left {b1 : Nat} (b2 : Nat) (h : fromHex b1 = none) : restoreCh b1 b2 = none := by
  simp [restoreCh, h]

theorem restoreCh_none_right (b1 : Nat) {b2 : Nat} (h : fromHex b2 = none) : restoreCh b1 b2 = none := by
  unfold restoreCh
  split <;> simp_all

/-- The `[A-Z0-9]` pre-test of the pure-Python code rejects nothing that `_restore_ch` accepts. -/
theorem restorePy_eq_restoreCh (b1 b2 : Nat) : restorePy b1 b2 = restoreCh b1 b2 := by
  simp only [restorePy, hexValUpper_upper]
  cases h1 : isAZ09 (upperAZ b1)
  · exact (restoreCh_none_left b2 (fromHex_of_not_az _ h1)).symm
  cases h2 : isAZ09 (upperAZ b2)
  · exact (restoreCh_none_right b1 (fromHex_of_not_az _ h2)).symm
  · rfl

theorem fromHex_lt {d a : Nat} (h : fromHex d = some a) : a < 16 := by
  unfold fromHex at h
  repeat' split at h
  all_goals simp at h
  all_goals omega

theorem toHex_fromHex {d a : Nat} (h : fromHex d = some a) (hl : isLowerHex d = false) :
    toHex a = d := by
  unfold fromHex at h
  unfold isLowerHex at hl
  unfold toHex
  simp at hl
  repeat' split at h
  all_goals simp at h
  all_goals split <;> omega

theorem fromHex_none_of_ge {b : Nat} (h : 128 ≤ b) : fromHex b = none := by
  unfold fromHex
  repeat' split
  all_goals first | rfl | omega

theorem restoreCh_some {d1 d2 v : Nat} (h : restoreCh d1 d2 = some v) :
    ∃ a b, fromHex d1 = some a ∧ fromHex d2 = some b ∧ v = a * 16 + b := by
  unfold restoreCh at h
  split at h
  · rename_i a b ha hb
    simp at h
    exact ⟨a, b, ha, hb, h.symm⟩
  · simp at h

theorem pct_of_restoreCh {d1 d2 v : Nat} (h : restoreCh d1 d2 = some v)
    (h1 : isLowerHex d1 = false) (h2 : isLowerHex d2 = false) : pct v = [37, d1, d2] := by
  obtain ⟨a, b, ha, hb, rfl⟩ := restoreCh_some h
  have := fromHex_lt ha
  have := fromHex_lt hb
  have e1 : (a * 16 + b) / 16 = a := by omega
  have e2 : (a * 16 + b) % 16 = b := by omega
  simp only [pct, e1, e2, toHex_fromHex ha h1, toHex_fromHex hb h2]

theorem restoreCh_lt {d1 d2 v : Nat} (h : restoreCh d1 d2 = some v) : v < 256 := by
  obtain ⟨a, b, ha, hb, rfl⟩ := restoreCh_some h
  have := fromHex_lt ha
  have := fromHex_lt hb
  omega

theorem restoreCh_ascii {d1 d2 v : Nat} (h : restoreCh d1 d2 = some v) : d1 < 128 ∧ d2 < 128 := by
  obtain ⟨a, b, ha, hb, rfl⟩ := restoreCh_some h
  refine ⟨?_, ?_⟩
  · apply Nat.lt_of_not_le; intro hge; rw [fromHex_none_of_ge hge] at ha; cases ha
  · apply Nat.lt_of_not_le; intro hge; rw [fromHex_none_of_ge hge] at hb; cases hb

end Yarl.Hex
