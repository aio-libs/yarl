/-
  PathAlg.lean — the path algebra on segment lists (a path is the '/'-join of a list of slash-free segments).
  In this order: split facts and a character-wise `flatMap` that keeps the separator; `find`/`rfind`; `Segs`, `stripTrail`;
  the shape of `rawParts` and of `_with_raw_name`; `_make_child` after its argument loop (`base`, `root`, `fixRoot`,
  `childOf`) and the two forms `joinpath(a, b)` / `(u / a) / b` (`joinpath_two_forms`); PATH_QUOTER on a Python string as the
  character-wise map `pqw` (`q_path_flatMap`, `splitOn_q`, `q_path_mem_iff`, …).  Namespace `PathMore`: the closed form
  of `_make_child` for any number of arguments and either `encoded` mode (`makeChild_closed`, `makeChild_ok`), through
  which every other module reads the argument loop; `suffix`/`suffixes` as functions of the raw name (`sfx`, `sfxs`) and
  the closed form of `with_suffix` (`withSuffix_closed`).  At the end: which segments survive `normalize_path_segments`.
-/
import YarlModel
import YarlProofs.Lemmas.PathLemmas
import YarlProofs.Lemmas.QuoteEquiv
import YarlProofs.Lemmas.GenTabs
import YarlProofs.Lemmas.Basics
import YarlProofs.Lemmas.ParseLemmas
namespace Yarl.PathAlg
open Yarl Yarl.PathLemmas

/-! ### generic separator -/

/-- a text that does not start with the separator has a non-empty first piece, beginning with its first character -/
theorem splitOn_head_nil (c : Nat) (x : Nat) (xs : Str) (h : x ≠ c) :
    ∃ p ps, splitOn c (x :: xs) = (x :: p) :: ps := by
  obtain ⟨q, qs, e⟩ := List.exists_cons_of_ne_nil (splitOn_ne_nil c xs)
  exact ⟨q, qs, splitOn_cons_ne c x xs h e⟩

/-- a separator-free prefix stays in the first piece -/
theorem splitOn_append_nosep (d : Nat) (x t : Str) (hx : d ∉ x) {p : Str} {ps : List Str}
    (e : splitOn d t = p :: ps) : splitOn d (x ++ t) = (x ++ p) :: ps := by
  induction x with
  | nil => exact e
  | cons y x ih =>
    exact splitOn_cons_ne d y _ (fun h => hx (h ▸ List.mem_cons_self)) (ih (fun h => hx (List.mem_cons_of_mem _ h)))

/-! ### a character-wise map `flatMap w` that keeps the separator `d` and writes no other `d` -/
section flatMap
variable {d : Nat} {w : Nat → Str} (hd : w d = [d]) (hw : ∀ c, c ≠ d → d ∉ w c)
include hd hw

theorem mem_flatMap_fix (s : Str) : d ∈ s.flatMap w ↔ d ∈ s := by
  constructor
  · intro h
    obtain ⟨c, hc, hm⟩ := List.mem_flatMap.1 h
    by_cases e : c = d
    · exact e ▸ hc
    · exact absurd hm (hw c e)
  · intro h
    exact List.mem_flatMap.2 ⟨d, h, by rw [hd]; simp⟩

/-- such a map commutes with splitting at `d` -/
theorem splitOn_flatMap (s : Str) : splitOn d (s.flatMap w) = (splitOn d s).map (·.flatMap w) := by
  induction s with
  | nil => simp [splitOn]
  | cons c s ih =>
    by_cases hc : c = d
    · subst hc
      simp [splitOn, hd, ih]
    · obtain ⟨p, ps, e⟩ := List.exists_cons_of_ne_nil (splitOn_ne_nil d s)
      rw [e] at ih
      rw [splitOn_cons_ne d c s hc e, List.flatMap_cons, splitOn_append_nosep d _ _ (hw c hc) ih]
      simp

end flatMap

/-! ### find / rfind -/

theorem find_some (c : Nat) (s : Str) (i : Nat) (h : find c s = some i) :
    i < s.length ∧ s[i]? = some c ∧ c ∉ s.take i := by
  induction s generalizing i with
  | nil => simp [find] at h
  | cons x xs ih =>
    unfold find at h
    split at h
    · rename_i hx
      cases h
      simp [hx]
    · rename_i hx
      cases hf : find c xs with
      | none => simp [hf] at h
      | some j =>
        simp [hf] at h
        subst h
        obtain ⟨h1, h2, h3⟩ := ih j hf
        refine ⟨by simp; omega, by simpa using h2, ?_⟩
        simp only [List.take_succ_cons, List.mem_cons, not_or]
        exact ⟨fun e => hx e.symm, h3⟩

theorem rfind_some (c : Nat) (s : Str) (i : Nat) (h : rfind c s = some i) :
    i < s.length ∧ s[i]? = some c ∧ c ∉ s.drop (i + 1) := by
  unfold rfind at h
  cases hf : find c s.reverse with
  | none => simp [hf] at h
  | some j =>
    simp [hf] at h
    obtain ⟨h1, h2, h3⟩ := find_some c s.reverse j hf
    simp only [List.length_reverse] at h1
    subst h
    refine ⟨by omega, ?_, ?_⟩
    · rw [List.getElem?_reverse h1] at h2
      exact h2
    · intro hm
      apply h3
      have : s.drop (s.length - 1 - j + 1) = (s.reverse.take j).reverse := by
        rw [List.take_reverse, List.reverse_reverse]
        congr 1
        omega
      rw [this] at hm
      simpa using hm

/-! ### segment lists -/

/-- no segment contains a slash -/
def Segs (l : List Str) : Prop := ∀ p ∈ l, 47 ∉ p

theorem segs_splitOn (s : Str) : Segs (splitOn 47 s) := splitOn_no_sep 47 s

theorem segs_append {a b : List Str} (ha : Segs a) (hb : Segs b) : Segs (a ++ b) := by
  intro p hp
  rcases List.mem_append.1 hp with h | h
  · exact ha p h
  · exact hb p h

theorem segs_dropLast {a : List Str} (ha : Segs a) : Segs a.dropLast :=
  fun p hp => ha p (List.dropLast_subset _ hp)

theorem segs_tail {a : List Str} (ha : Segs a) : Segs a.tail :=
  fun p hp => ha p (List.mem_of_mem_tail hp)

theorem segs_cons {s : Str} {a : List Str} (hs : 47 ∉ s) (ha : Segs a) : Segs (s :: a) := by
  intro p hp
  rcases List.mem_cons.1 hp with rfl | h
  · exact hs
  · exact ha p h

/-- `x[:-1] if x[-1] == "" else x` -/
def stripTrail (l : List Str) : List Str := if l.getLast? = some [] then l.dropLast else l

theorem segs_stripTrail {a : List Str} (ha : Segs a) : Segs (stripTrail a) := by
  unfold stripTrail; split
  · exact segs_dropLast ha
  · exact ha

/-! ### `rawParts` of a URL whose path is a joined segment list -/

/-- the path given as the JOIN of `"" :: r` (rooted, something after the root); the text form is `rawParts_of_rooted` -/
theorem rawParts_joinC_rooted (v : Url) (r : List Str) (hr : r ≠ []) (hs : Segs r)
    (hp : v.path = joinC 47 ([] :: r)) : rawParts v = [47] :: r := by
  have hp' : v.path = 47 :: joinC 47 r := by
    rw [hp, joinC_cons, flatC_eq_joinC 47 r hr]; rfl
  unfold rawParts
  by_cases hn : v.netloc = []
  · simp [hn, hp', splitOn_joinC r hr hs]
  · simp [hn, hp', splitOn_joinC r hr hs]

/-- the path given as the JOIN of a segment list `M`, rootless or empty, no authority; the text form is
    `rawParts_of_rootless` -/
theorem rawParts_joinC_rootless (v : Url) (M : List Str) (hn : v.netloc = []) (hs : Segs M) (hne : M ≠ [])
    (hh : M.head? ≠ some [] ∨ M = [[]]) (hp : v.path = joinC 47 M) : rawParts v = M := by
  unfold rawParts
  simp only [hn, List.isEmpty_nil, Bool.not_true, Bool.false_eq_true, ↓reduceIte]
  rcases hh with hh | hh
  · cases M with
    | nil => exact absurd rfl hne
    | cons m r =>
      cases m with
      | nil => simp at hh
      | cons c m' =>
        have hc : c ≠ 47 := fun e => hs (c :: m') List.mem_cons_self (e ▸ List.mem_cons_self)
        have hp' : v.path = c :: (m' ++ HostLemmas.flatC 47 r) := by rw [hp, joinC_cons]; rfl
        split
        · rename_i rest hv
          rw [hp'] at hv
          exact absurd (List.cons.inj hv).1 hc
        · rw [hp, splitOn_joinC _ hne hs]
  · subst hh
    have hp' : v.path = [] := by rw [hp]; rfl
    simp [hp', splitOn]

theorem rawParts_empty_auth (v : Url) (hn : v.netloc ≠ []) (hp : v.path = []) : rawParts v = [[47]] := by
  unfold rawParts
  simp [hn, hp]

/-- shape of `rawParts` -/
theorem rawParts_shape (u : Url) :
    (∃ T, rawParts u = [47] :: T ∧ Segs T ∧ (T = [] → u.netloc ≠ [])) ∨
    (u.netloc = [] ∧ Segs (rawParts u) ∧ rawParts u ≠ [] ∧
      ((rawParts u).head? ≠ some [] ∨ rawParts u = [[]])) := by
  unfold rawParts
  by_cases hn : u.netloc = []
  · simp only [hn, List.isEmpty_nil, Bool.not_true, Bool.false_eq_true, ↓reduceIte]
    split
    · rename_i rest hp
      exact Or.inl ⟨_, rfl, segs_splitOn _, fun h => absurd h (splitOn_ne_nil _ _)⟩
    · rename_i hp
      refine Or.inr ⟨trivial, segs_splitOn _, splitOn_ne_nil _ _, ?_⟩
      cases hpe : u.path with
      | nil => right; simp [splitOn]
      | cons c rest =>
        have hc : c ≠ 47 := fun e => hp rest (e ▸ hpe)
        obtain ⟨p, ps, e⟩ := splitOn_head_nil 47 c rest hc
        left; simp [e]
  · left
    by_cases hp : u.path = []
    · exact ⟨[], by simp [hn, hp], fun _ h => by simp at h, fun _ => hn⟩
    · exact ⟨splitOn 47 (u.path.drop 1), by simp [hn, hp], segs_splitOn _,
        fun h => absurd h (splitOn_ne_nil _ _)⟩

theorem segs_single {s : Str} (h : 47 ∉ s) : Segs [s] := by
  intro p hp; simp at hp; subst hp; exact h

/-- `raw_parts` of a path given as the TEXT `'/' :: rest` -/
theorem rawParts_of_rooted (u : Url) (rest : Str) (hp : u.path = 47 :: rest) :
    rawParts u = [47] :: splitOn 47 rest := by
  unfold rawParts
  by_cases hn : u.netloc = [] <;> simp [hn, hp]

/-- `raw_parts` of a path given as the TEXT `c :: rest`, `c` not '/', no authority -/
theorem rawParts_of_rootless (u : Url) (c : Nat) (rest : Str) (hn : u.netloc = []) (hp : u.path = c :: rest)
    (hc : c ≠ 47) : rawParts u = splitOn 47 (c :: rest) := by
  unfold rawParts
  simp only [hn, List.isEmpty_nil, Bool.not_true, Bool.false_eq_true, ↓reduceIte, hp]
  split
  · rename_i r h; exact absurd (List.cons.inj h).1 hc
  · rfl

/-- the segments `_with_raw_name` keeps: those of the path before the last.  Next to an authority the path is read as
    `raw_parts` reads it: without its first character (the '/' of a rooted path), behind the root's empty segment -/
def keptSegs (u : Url) : List Str :=
  if u.netloc ≠ [] then [] :: (splitOn 47 (u.path.drop 1)).dropLast else (splitOn 47 u.path).dropLast

theorem segs_keptSegs (u : Url) : Segs (keptSegs u) := by
  unfold keptSegs
  split
  · exact segs_cons (by simp) (segs_dropLast (segs_splitOn _))
  · exact segs_dropLast (segs_splitOn _)

/-- `_with_raw_name(nm)`, every URL and every `nm`: the kept segments followed by `nm`, joined.  One corner: without
    an authority and with nothing kept (a path without '/'), the name "/" is read as the root mark and the path
    written is empty -/
theorem withRawName_eq (u : Url) (nm : Str) (kq kf : Bool) :
    withRawName u nm kq kf = .ok (fromParts u.scheme u.netloc
      (if u.netloc = [] ∧ keptSegs u = [] ∧ nm = [47] then [] else joinC 47 (keptSegs u ++ [nm]))
      (if kq then u.query else []) (if kf then u.fragment else [])) := by
  unfold withRawName keptSegs
  by_cases hn : u.netloc = []
  · -- no authority: `raw_parts` are the segments, "/" standing for a leading empty one
    simp only [hn, List.isEmpty_nil, Bool.not_true, Bool.false_eq_true, if_false, ne_eq, not_true_eq_false, true_and]
    cases hpe : u.path with
    | nil =>
      simp only [rawParts, hn, hpe, splitOn, List.isEmpty_nil, Bool.not_true, Bool.false_eq_true, if_false,
        List.dropLast_singleton, List.nil_append, bind, Except.bind, pure, Except.pure, true_and]
      split
      · rename_i r h
        obtain ⟨rfl, rfl⟩ := List.cons.inj h
        rfl
      · rename_i h
        rw [if_neg (show ¬ nm = [47] from fun e => h [] (by rw [e]))]
    | cons c rest =>
      by_cases hc : c = 47
      · subst hc
        have hS := splitOn_ne_nil 47 rest
        simp only [rawParts_of_rooted u rest hpe, splitOn, if_true, List.dropLast_cons_of_ne_nil hS,
          List.cons_append, bind, Except.bind, pure, Except.pure, reduceCtorEq, false_and, if_false]
      · obtain ⟨s0, sr, hS⟩ := splitOn_head_nil 47 c rest hc
        simp only [rawParts_of_rootless u c rest hn hpe hc, hS, bind, Except.bind, pure, Except.pure]
        cases sr with
        | nil =>
          simp only [List.dropLast_singleton, List.nil_append, true_and]
          split
          · rename_i r h
            obtain ⟨rfl, rfl⟩ := List.cons.inj h
            rfl
          · rename_i h
            rw [if_neg (show ¬ nm = [47] from fun e => h [] (by rw [e]))]
        | cons a b =>
          rw [List.dropLast_cons_of_ne_nil (by simp)]
          simp only [List.cons_append, reduceCtorEq, false_and, if_false]
          split
          · rename_i r h
            simp at h
            exact absurd h.1.1 hc
          · rfl
  · -- an authority: `raw_parts` is "/" followed by the segments of the path without its first character
    have hn' : u.netloc.isEmpty = false := by simpa using hn
    simp only [hn', Bool.not_false, if_true, ne_eq, hn, not_false_eq_true, bind, Except.bind, pure, Except.pure,
      false_and, if_false]
    cases hpe : u.path with
    | nil => simp [rawParts, hn', hpe, splitOn]
    | cons c rest =>
      have hS := splitOn_ne_nil 47 rest
      have hr : rawParts u = [47] :: splitOn 47 rest := by simp [rawParts, hn', hpe]
      have hlen : ([47] :: splitOn 47 rest).length ≠ 1 := by
        obtain ⟨a, b, e⟩ := List.exists_cons_of_ne_nil hS
        rw [e]
        simp
      simp only [hr, hlen, if_false, List.dropLast_cons_of_ne_nil hS, List.cons_append, List.drop_succ_cons,
        List.drop_zero]

/-- `_with_raw_name(nm)` for a slash-free `nm` -/
theorem withRawName_closed (u : Url) (nm : Str) (kq kf : Bool) (hnm : 47 ∉ nm) :
    withRawName u nm kq kf = .ok (fromParts u.scheme u.netloc (joinC 47 (keptSegs u ++ [nm]))
      (if kq then u.query else []) (if kf then u.fragment else [])) := by
  rw [withRawName_eq, if_neg]
  rintro ⟨_, _, rfl⟩
  simp at hnm

/-- … so the segments of the written path are the kept ones, then `nm` -/
theorem withRawName_segs (u : Url) (nm : Str) (kq kf : Bool) (v : Url) (hnm : 47 ∉ nm)
    (h : withRawName u nm kq kf = .ok v) : splitOn 47 v.path = keptSegs u ++ [nm] := by
  rw [withRawName_closed u nm kq kf hnm] at h
  cases h
  exact splitOn_joinC _ (by simp) (segs_append (segs_keptSegs u) (segs_single hnm))

/-- a slash-free name written, the kept segments are the same -/
theorem keptSegs_withRawName (u : Url) (m : Str) (hm : 47 ∉ m) (s qq f : Str) :
    keptSegs (fromParts s u.netloc (joinC 47 (keptSegs u ++ [m])) qq f) = keptSegs u := by
  have hS : Segs (keptSegs u ++ [m]) := segs_append (segs_keptSegs u) (segs_single hm)
  show (if u.netloc ≠ [] then [] :: (splitOn 47 ((joinC 47 (keptSegs u ++ [m])).drop 1)).dropLast
    else (splitOn 47 (joinC 47 (keptSegs u ++ [m]))).dropLast) = keptSegs u
  by_cases hn : u.netloc = []
  · rw [if_neg (fun h => h hn), splitOn_joinC _ (by simp) hS, List.dropLast_concat]
  · rw [if_pos hn]
    have hk : keptSegs u = [] :: (splitOn 47 (u.path.drop 1)).dropLast := by unfold keptSegs; rw [if_pos hn]
    rw [hk] at hS ⊢
    have hS' : Segs ((splitOn 47 (u.path.drop 1)).dropLast ++ [m]) := fun p hp => hS p (List.mem_cons_of_mem _ hp)
    obtain ⟨b, r, e⟩ := List.exists_cons_of_ne_nil
      (show (splitOn 47 (u.path.drop 1)).dropLast ++ [m] ≠ [] by simp)
    rw [List.cons_append, e, joinC_cons2, List.nil_append, List.drop_succ_cons, List.drop_zero, ← e,
      splitOn_joinC _ (by simp) hS', List.dropLast_concat]

/-- for a path that is empty or rooted next to an authority the kept segments are those of the path before the last;
    the empty path next to an authority counts as the root -/
theorem keptSegs_of_rooted (u : Url) (hpath : u.netloc ≠ [] → (u.path = [] ∨ u.path.head? = some 47)) :
    keptSegs u = if u.path = [] ∧ u.netloc ≠ [] then [[]] else (splitOn 47 u.path).dropLast := by
  unfold keptSegs
  by_cases hn : u.netloc = []
  · rw [if_neg (fun h => h hn), if_neg (fun h => h.2 hn)]
  · rw [if_pos hn]
    rcases hpath hn with hp | hp
    · rw [if_pos ⟨hp, hn⟩, hp]
      rfl
    · obtain ⟨rest, hr⟩ := List.head?_eq_some_iff.1 hp
      rw [if_neg (fun h => by rw [h.1] at hp; cases hp), hr]
      simp only [List.drop_succ_cons, List.drop_zero, splitOn, if_true]
      exact (List.dropLast_cons_of_ne_nil (splitOn_ne_nil 47 rest)).symm

/-- `_with_raw_name(nm)` for a slash-free `nm`: ALL parts of the result, and the other components;
    `withRawName_name_parent` splits the parts into name and parent parts -/
theorem withRawName_rawParts (u : Url) (nm : Str) (kq kf : Bool) (v : Url) (hnm : 47 ∉ nm)
    (h : withRawName u nm kq kf = .ok v) :
    rawParts v = (if u.netloc ≠ [] ∧ (rawParts u).length = 1 then rawParts u ++ [nm]
                  else (rawParts u).dropLast ++ [nm]) ∧
    v.scheme = u.scheme ∧ v.netloc = u.netloc ∧ v.query = (if kq then u.query else []) ∧
    v.fragment = (if kf then u.fragment else []) := by
  unfold withRawName at h
  rcases rawParts_shape u with ⟨T, hT, hsT, hTn⟩ | ⟨hn, hs, hne, hh⟩
  · rw [hT] at h ⊢
    by_cases hn : u.netloc = []
    · have hT0 : T ≠ [] := fun e => hTn e hn
      have e1 : ([47] :: T).dropLast = [47] :: T.dropLast := List.dropLast_cons_of_ne_nil hT0
      simp only [hn, List.isEmpty_nil, Bool.not_true, Bool.false_eq_true, ↓reduceIte, e1,
        List.cons_append, bind, Except.bind, pure, Except.pure, Except.ok.injEq] at h
      subst h
      simp only [fromParts, ne_eq, not_true_eq_false, false_and, ↓reduceIte, hn, and_self, and_true]
      rw [e1]
      exact rawParts_joinC_rooted _ (T.dropLast ++ [nm]) (by simp)
          (segs_append (segs_dropLast hsT) (segs_single hnm)) rfl
    · have hn' : u.netloc.isEmpty = false := by simpa using hn
      simp only [hn', Bool.not_false, ↓reduceIte, bind, Except.bind, pure, Except.pure, Except.ok.injEq] at h
      subst h
      simp only [fromParts, ne_eq, hn, not_false_eq_true, true_and, and_self, and_true]
      by_cases hT0 : T = []
      · subst hT0
        simp
        exact rawParts_joinC_rooted _ _ (by simp) (segs_single hnm) rfl
      · have e1 : ([47] :: T).dropLast = [47] :: T.dropLast := List.dropLast_cons_of_ne_nil hT0
        have e2 : ([47] :: T).length ≠ 1 := by
          cases T with
          | nil => exact absurd rfl hT0
          | cons a b => simp
        simp only [e2, ↓reduceIte, e1, List.cons_append, List.drop_succ_cons, List.drop_zero]
        exact rawParts_joinC_rooted _ (T.dropLast ++ [nm]) (by simp)
          (segs_append (segs_dropLast hsT) (segs_single hnm)) rfl
  · generalize hL : rawParts u = L at h hs hne hh ⊢
    simp only [hn, List.isEmpty_nil, Bool.not_true, Bool.false_eq_true, ↓reduceIte, bind, Except.bind,
      pure, Except.pure] at h
    have hps : Segs (L.dropLast ++ [nm]) := segs_append (segs_dropLast hs) (segs_single hnm)
    cases L with
    | nil => exact absurd rfl hne
    | cons l0 lr =>
      simp only [Except.ok.injEq] at h
      split at h
      · rename_i r hr
        exact absurd (List.mem_singleton.2 rfl) (hps [47] (hr ▸ List.mem_cons_self))
      · subst h
        simp only [fromParts, ne_eq, hn, not_true_eq_false, false_and, ↓reduceIte, and_self, and_true]
        refine rawParts_joinC_rootless _ _ rfl hps (by simp) ?_ rfl
        cases lr with
        | nil =>
          by_cases hnm0 : nm = []
          · right; simp [hnm0]
          · left; simp [hnm0]
        | cons l1 lr' =>
          left
          rcases hh with hh | hh
          · simpa using hh
          · simp at hh

theorem rawName_append (v : Url) (P : List Str) (nm : Str) (h : rawParts v = P ++ [nm])
    (hP : v.netloc ≠ [] → P ≠ []) : rawName v = .ok nm := by
  unfold rawName
  simp only [h]
  by_cases hn : v.netloc = []
  · simp [hn, pure, Except.pure]
  · have hn' : v.netloc.isEmpty = false := by simpa using hn
    cases P with
    | nil => exact absurd rfl (hP hn)
    | cons p0 pr => simp [hn', pure, Except.pure]

/-- `_with_raw_name(nm)` for a slash-free `nm`: name, parent parts, other components -/
theorem withRawName_name_parent (u : Url) (nm : Str) (kq kf : Bool) (v : Url) (hnm : 47 ∉ nm)
    (h : withRawName u nm kq kf = .ok v) :
    rawName v = .ok nm ∧
    (rawParts v).dropLast = (if u.netloc ≠ [] ∧ (rawParts u).length = 1 then rawParts u
                             else (rawParts u).dropLast) ∧
    v.scheme = u.scheme ∧ v.netloc = u.netloc ∧ v.query = (if kq then u.query else []) ∧
    v.fragment = (if kf then u.fragment else []) := by
  obtain ⟨h1, h2, h3, h4, h5⟩ := withRawName_rawParts u nm kq kf v hnm h
  have hP : rawParts v = (if u.netloc ≠ [] ∧ (rawParts u).length = 1 then rawParts u
                             else (rawParts u).dropLast) ++ [nm] := by
    rw [h1]; split <;> rfl
  refine ⟨rawName_append v _ nm hP ?_, by rw [hP]; simp, h2, h3, h4, h5⟩
  rw [h3]
  intro hn
  split
  · rename_i hc
    intro e
    rw [e] at hc
    simp at hc
  · rename_i hc
    have hl : (rawParts u).length ≠ 1 := fun e => hc ⟨hn, e⟩
    rcases rawParts_shape u with ⟨T, hT, _, _⟩ | ⟨hn0, _⟩
    · rw [hT] at hl ⊢
      cases T with
      | nil => simp at hl
      | cons a b => simp
    · exact absurd hn0 hn

/-- the name is one of the slash-free segments -/
theorem rawName_no_slash (u : Url) (n : Str) (h : rawName u = .ok n) : 47 ∉ n := by
  unfold rawName at h
  simp only at h
  rcases rawParts_shape u with ⟨T, hT, hsT, hTn⟩ | ⟨hn, hs, hne, _⟩
  · rw [hT] at h
    by_cases hn : u.netloc = []
    · have hT0 : T ≠ [] := fun e => hTn e hn
      simp only [hn, List.isEmpty_nil, ↓reduceIte] at h
      obtain ⟨a, b, rfl⟩ := List.exists_cons_of_ne_nil hT0
      simp only [List.getLast?_cons_cons] at h
      cases hl : (a :: b).getLast? with
      | none => simp [hl] at h
      | some l =>
        simp [hl, pure, Except.pure] at h
        subst h
        exact hsT l (List.mem_of_getLast? hl)
    · have hn' : u.netloc.isEmpty = false := by simpa using hn
      simp only [hn', Bool.false_eq_true, ↓reduceIte, List.drop_succ_cons, List.drop_zero] at h
      cases hl : T.getLast? with
      | none => simp [hl, pure, Except.pure] at h; subst h; simp
      | some l =>
        simp [hl, pure, Except.pure] at h
        subst h
        exact hsT l (List.mem_of_getLast? hl)
  · simp only [hn, List.isEmpty_nil, ↓reduceIte] at h
    cases hl : (rawParts u).getLast? with
    | none => simp [hl] at h
    | some l =>
      simp [hl, pure, Except.pure] at h
      subst h
      exact hs l (List.mem_of_getLast? hl)

/-- under an authority a one-element `raw_parts` (`("/",)`) has the empty name -/
theorem rawName_root (u : Url) (n : Str) (h : rawName u = .ok n) (hn : u.netloc ≠ [])
    (hl : (rawParts u).length = 1) : n = [] := by
  unfold rawName at h
  have hn' : u.netloc.isEmpty = false := by simpa using hn
  simp only [hn', Bool.false_eq_true, ↓reduceIte] at h
  cases hp : rawParts u with
  | nil => simp [hp] at hl
  | cons a b =>
    cases b with
    | nil => simp [hp, pure, Except.pure] at h; exact h
    | cons c d => simp [hp] at hl

/-! ### `_make_child` on segment lists -/

/-- the old path's segments without a trailing empty one -/
def base (u : Url) : List Str := if u.path.isEmpty then [] else stripTrail (splitOn 47 u.path)

/-- under an authority a non-empty segment list gets the root's empty first segment -/
def root (n : Str) (L : List Str) : List Str :=
  if !n.isEmpty && !L.isEmpty && decide (L.head? ≠ some []) then [] :: L else L

def fixRoot (p : Str) : Str :=
  match p with
  | [] => p
  | 47 :: _ => p
  | _ => 47 :: p

/-- the same function as `ensureSlash` (Defs.lean), which `with_path` is stated with -/
theorem fixRoot_eq_ensureSlash : fixRoot = ensureSlash := rfl

/-- `_make_child` after the argument loop: `X` the new segments (in order), `nn` = "a '.' occurred" -/
def childOf (u : Url) (X : List Str) (nn : Bool) : Url :=
  let M := root u.netloc (base u ++ X)
  if u.netloc.isEmpty || !nn then fromParts u.scheme u.netloc (joinC 47 M) [] []
  else fromParts u.scheme u.netloc (fixRoot (joinC 47 (normalizePathSegments M))) [] []

theorem makeChild_eq (e : Env) (u : Url) (paths : List Str) (enc : Bool) :
    makeChild e u paths enc =
      (makeChild.go e enc paths.reverse true [] false).map (fun r => childOf u r.1.reverse r.2) := by
  unfold makeChild
  cases hg : makeChild.go e enc paths.reverse true [] false with
  | error err => rfl
  | ok r =>
    obtain ⟨p0, nn⟩ := r
    simp only [bind, Except.bind, Except.map, childOf]
    have h1 : (if (!u.path.isEmpty) = true then
          p0 ++ (if (splitOn 47 u.path).getLast? = some [] then (splitOn 47 u.path).dropLast
                 else splitOn 47 u.path).reverse
        else p0) = (base u ++ p0.reverse).reverse := by
      unfold base stripTrail
      by_cases hp : u.path.isEmpty = true <;> simp [hp]
    simp only [h1]
    have h2 : (if (!u.netloc.isEmpty && !(base u ++ p0.reverse).reverse.isEmpty &&
            decide ((base u ++ p0.reverse).reverse.getLast? ≠ some [])) = true
          then (base u ++ p0.reverse).reverse ++ [[]] else (base u ++ p0.reverse).reverse).reverse
        = root u.netloc (base u ++ p0.reverse) := by
      unfold root
      simp only [List.getLast?_reverse, List.isEmpty_reverse]
      split <;> simp
    simp only [h2]
    unfold fixRoot
    split <;> rfl


theorem stripTrail_cons (a : Str) (S : List Str) (h : S ≠ []) : stripTrail (a :: S) = a :: stripTrail S := by
  unfold stripTrail
  obtain ⟨b, c, rfl⟩ := List.exists_cons_of_ne_nil h
  simp only [List.getLast?_cons_cons]
  split <;> simp

theorem stripTrail_append (A S : List Str) (h : S ≠ []) : stripTrail (A ++ S) = A ++ stripTrail S := by
  induction A with
  | nil => rfl
  | cons a A ih => rw [List.cons_append, stripTrail_cons _ _ (by simp [h]), ih]; rfl

theorem stripTrail_single_nil : stripTrail [[]] = [] := by simp [stripTrail]

/-- a rootless, non-empty path stands next to no authority when paths next to an authority are empty or rooted -/
theorem netloc_nil_of_rootless {u : Url} {c : Nat} {rest : Str}
    (hpath : u.netloc ≠ [] → (u.path = [] ∨ u.path.head? = some 47)) (hp : u.path = c :: rest) (hc : c ≠ 47) :
    u.netloc = [] := by
  apply Classical.byContradiction
  intro hn
  rcases hpath hn with h | h
  · simp [hp] at h
  · simp [hp] at h; exact hc h

/-- for a path that is empty or rooted next to an authority the name is the last segment of the path -/
theorem rawName_of_rooted (u : Url) (hpath : u.netloc ≠ [] → (u.path = [] ∨ u.path.head? = some 47)) :
    rawName u = .ok ((splitOn 47 u.path).getLast?.getD []) := by
  have hlast : ∀ rest : Str, (([] : Str) :: splitOn 47 rest).getLast? = (splitOn 47 rest).getLast? := by
    intro rest
    obtain ⟨a, b, e⟩ := List.exists_cons_of_ne_nil (splitOn_ne_nil 47 rest)
    rw [e, List.getLast?_cons_cons]
  unfold rawName
  cases hpe : u.path with
  | nil =>
    by_cases hn : u.netloc = []
    · simp [rawParts, hn, hpe, splitOn, pure, Except.pure]
    · simp [rawParts, hn, hpe, splitOn, pure, Except.pure]
  | cons c rest =>
    by_cases hc : c = 47
    · subst hc
      have hS := splitOn_ne_nil 47 rest
      obtain ⟨a, b, e⟩ := List.exists_cons_of_ne_nil hS
      simp only [rawParts_of_rooted u rest hpe, splitOn, if_true, hlast]
      by_cases hn : u.netloc = []
      · simp only [hn, List.isEmpty_nil, if_true, e, List.getLast?_cons_cons]
        cases hl : (a :: b).getLast? with
        | none => exact absurd (List.getLast?_eq_none_iff.1 hl) (by simp)
        | some l => rfl
      · have hn' : u.netloc.isEmpty = false := by simpa using hn
        simp only [hn', Bool.false_eq_true, if_false, List.drop_succ_cons, List.drop_zero]
        cases (splitOn 47 rest).getLast? <;> rfl
    · have hn := netloc_nil_of_rootless hpath hpe hc
      simp only [rawParts_of_rootless u c rest hn hpe hc, hn, List.isEmpty_nil, if_true]
      cases hl : (splitOn 47 (c :: rest)).getLast? with
      | none => exact absurd (List.getLast?_eq_none_iff.1 hl) (splitOn_ne_nil _ _)
      | some l => rfl
/-- the parts of a child made of segments `X` (no normalisation): the old parts without a trailing empty one,
    then `X` -/
theorem childOf_parts (u : Url) (X : List Str) (hX : Segs X) (hne : X ≠ [])
    (hh : X.head? ≠ some [] ∨ X = [[]])
    (hp0 : u.netloc ≠ [] → u.path = [] → X ≠ [[]])
    (hpath : u.netloc ≠ [] → (u.path = [] ∨ u.path.head? = some 47)) :
    rawParts (childOf u X false) = stripTrail (rawParts u) ++ X := by
  have hv : (childOf u X false).path = joinC 47 (root u.netloc (base u ++ X)) := by
    simp [childOf, fromParts]
  have hvn : (childOf u X false).netloc = u.netloc := by
    simp [childOf, fromParts]
  cases hpe : u.path with
  | nil =>
    have hb : base u = [] := by simp [base, hpe]
    by_cases hn : u.netloc = []
    · have hr : rawParts u = [[]] := by simp [rawParts, hn, hpe, splitOn]
      rw [hr, stripTrail_single_nil]
      exact rawParts_joinC_rootless _ _ (hvn.trans hn) hX hne hh (by rw [hv, hb]; simp [root, hn])
    · have hr : rawParts u = [[47]] := rawParts_empty_auth u hn hpe
      have h0 := hp0 hn hpe
      rw [hr]
      have : stripTrail [[47]] = [[47]] := by simp [stripTrail]
      rw [this]
      have hh' : X.head? ≠ some [] := by
        rcases hh with h | h
        · exact h
        · exact absurd h h0
      refine rawParts_joinC_rooted _ X hne hX ?_
      rw [hv, hb]
      obtain ⟨x, xs, rfl⟩ := List.exists_cons_of_ne_nil hne
      have hx : x ≠ [] := by simpa using hh'
      simp [root, hn, hx]
  | cons c rest =>
    by_cases hc : c = 47
    · subst hc
      have hS := splitOn_ne_nil 47 rest
      have hr := rawParts_of_rooted u rest hpe
      have hb : base u = [] :: stripTrail (splitOn 47 rest) := by
        simp only [base, hpe, List.isEmpty_cons, Bool.false_eq_true, ↓reduceIte, splitOn]
        exact stripTrail_cons _ _ hS
      rw [hr, stripTrail_cons _ _ hS]
      refine rawParts_joinC_rooted _ (stripTrail (splitOn 47 rest) ++ X) (by simp [hne])
        (segs_append (segs_stripTrail (segs_splitOn _)) hX) ?_
      rw [hv, hb]
      simp [root]
    · have hn := netloc_nil_of_rootless hpath hpe hc
      obtain ⟨s0, sr, hS⟩ := splitOn_head_nil 47 c rest hc
      have hr := rawParts_of_rootless u c rest hn hpe hc
      have hb : base u = stripTrail (splitOn 47 (c :: rest)) := by
        simp [base, hpe]
      rw [hr]
      refine rawParts_joinC_rootless _ _ (hvn.trans hn)
        (segs_append (segs_stripTrail (segs_splitOn _)) hX) (by simp [hne]) ?_
        (by rw [hv, hb]; simp [root, hn])
      left
      rw [hS]
      cases sr with
      | nil => simp [stripTrail]
      | cons a b => rw [stripTrail_cons _ _ (by simp)]; simp

/-- a child made of one slash-free segment, nothing normalised; the segment must be non-empty only when it is
    appended to the bare root of an authority -/
theorem childOf_single (u : Url) (p : Str) (hp : 47 ∉ p) (hp0 : u.netloc ≠ [] → u.path = [] → p ≠ [])
    (hpath : u.netloc ≠ [] → (u.path = [] ∨ u.path.head? = some 47)) :
    rawParts (childOf u [p] false) = stripTrail (rawParts u) ++ [p] := by
  refine childOf_parts u [p] (segs_single hp) (by simp) ?_
    (fun hn h0 h => hp0 hn h0 (List.cons.inj h).1) hpath
  by_cases h0 : p = []
  · right; rw [h0]
  · left; simpa using h0

theorem segs_base (u : Url) : Segs (base u) := by
  unfold base; split
  · exact fun _ h => nomatch h
  · exact segs_stripTrail (segs_splitOn _)

theorem segs_root (n : Str) {L : List Str} (h : Segs L) : Segs (root n L) := by
  unfold root; split
  · exact segs_cons (by simp) h
  · exact h

theorem root_ne_nil (n : Str) {L : List Str} (h : L ≠ []) : root n L ≠ [] := by
  unfold root; split
  · simp
  · exact h

/-- the segments of a joined list, with the trailing empty one dropped; the empty path has none -/
theorem base_of_joinC (v : Url) (M : List Str) (hM : Segs M) (hne : M ≠ []) (hp : v.path = joinC 47 M) :
    base v = stripTrail M := by
  unfold base
  rw [hp]
  have hs := splitOn_joinC M hne hM
  split
  · rename_i he
    have : joinC 47 M = [] := by simpa using he
    rw [this] at hs
    rw [← hs]; simp [splitOn, stripTrail]
  · rw [hs]

theorem root_strip (n : Str) (L SB : List Str) (hL : L ≠ []) :
    root n (stripTrail (root n L) ++ SB) = root n (stripTrail L ++ SB) := by
  by_cases hc : (!n.isEmpty && !L.isEmpty && decide (L.head? ≠ some [])) = true
  · have e1 : root n L = [] :: L := by simp only [root, hc, ↓reduceIte]
    rw [e1, stripTrail_cons _ _ hL]
    obtain ⟨a, L', rfl⟩ := List.exists_cons_of_ne_nil hL
    have ha : a ≠ [] := by
      simp at hc
      exact hc.2
    have hn : n.isEmpty = false := by
      simp at hc
      simpa using hc.1
    have e2 : ∃ t, stripTrail (a :: L') = a :: t := by
      cases L' with
      | nil => exact ⟨[], by simp [stripTrail, ha]⟩
      | cons b c => exact ⟨_, stripTrail_cons _ _ (by simp)⟩
    obtain ⟨t, ht⟩ := e2
    rw [ht]
    simp [root, hn, ha]
  · have e1 : root n L = L := by simp only [root, hc]; rfl
    rw [e1]

theorem childOf_congr (v u' : Url) (X X' : List Str) (nn nn' : Bool) (hs : v.scheme = u'.scheme)
    (hn : v.netloc = u'.netloc) (hM : root u'.netloc (base v ++ X) = root u'.netloc (base u' ++ X'))
    (hc : (u'.netloc.isEmpty || !nn) = (u'.netloc.isEmpty || !nn')) : childOf v X nn = childOf u' X' nn' := by
  unfold childOf
  simp only [hs, hn, hM, hc]

theorem childOf_assoc_left (u : Url) (SA SB : List Str) (nnA nnB : Bool) (hSA : Segs SA) (hSA0 : SA ≠ [])
    (hnn : (u.netloc.isEmpty || !nnA) = true) :
    childOf (childOf u SA nnA) SB nnB = childOf u (stripTrail SA ++ SB) (nnB || nnA) := by
  have hL : base u ++ SA ≠ [] := by simp [hSA0]
  have hM : Segs (root u.netloc (base u ++ SA)) := segs_root _ (segs_append (segs_base u) hSA)
  have hv1 : childOf u SA nnA = fromParts u.scheme u.netloc (joinC 47 (root u.netloc (base u ++ SA))) [] [] := by
    simp only [childOf, hnn, ↓reduceIte]
  have hb : base (childOf u SA nnA) = stripTrail (root u.netloc (base u ++ SA)) :=
    base_of_joinC _ _ hM (root_ne_nil _ hL) (by rw [hv1]; rfl)
  have hM2 : root u.netloc (base (childOf u SA nnA) ++ SB) = root u.netloc (base u ++ (stripTrail SA ++ SB)) := by
    rw [hb, root_strip _ _ _ hL, stripTrail_append _ _ hSA0, List.append_assoc]
  have hc : (u.netloc.isEmpty || !(nnB || nnA)) = (u.netloc.isEmpty || !nnB) := by
    cases hn : u.netloc.isEmpty
    · simp [hn] at hnn; simp [hnn]
    · simp
  have hs1 : (childOf u SA nnA).scheme = u.scheme := by rw [hv1]; rfl
  have hn1 : (childOf u SA nnA).netloc = u.netloc := by rw [hv1]; rfl
  exact childOf_congr _ u _ _ _ _ hs1 hn1 hM2 hc.symm
/-! ### associativity with normalisation -/

theorem normLoop_append (acc X Y : List Str) :
    normLoop acc (X ++ Y) = normLoop (normLoop acc X).reverse Y := by
  induction X generalizing acc with
  | nil => simp [normLoop]
  | cons x X ih =>
    rw [List.cons_append, normLoop_cons, normLoop_cons, ih]

theorem normLoop_single (acc : List Str) (l : Str) : normLoop acc [l] = (step acc l).reverse := by
  rw [normLoop_cons]; simp [normLoop]

theorem trail_append (X SB : List Str) (h : SB ≠ []) : trail (X ++ SB) = trail SB := by
  unfold trail
  obtain ⟨S0, l, rfl⟩ : ∃ S0 l, SB = S0 ++ [l] := by
    rcases List.eq_nil_or_concat SB with h' | ⟨a, b, h'⟩
    · exact absurd h' h
    · exact ⟨a, b, by simpa using h'⟩
  rw [← List.append_assoc, List.getLast?_concat, List.getLast?_concat]

theorem trail_concat (X : List Str) (l : Str) : trail (X ++ [l]) = if l = dot ∨ l = dotdot then [[]] else [] := by
  unfold trail; rw [List.getLast?_concat]

theorem stripTrail_concat_nil (X : List Str) : stripTrail (X ++ [[]]) = X := by simp [stripTrail]

theorem stripTrail_concat_ne (X : List Str) (l : Str) (h : l ≠ []) : stripTrail (X ++ [l]) = X ++ [l] := by
  simp [stripTrail, h]

/-- the stack left by the segments without a trailing empty one = the normalised list without its
    trailing empty segment -/
theorem normLoop_stripTrail (M : List Str) :
    normLoop [] (stripTrail M) = stripTrail (normalizePathSegments M) := by
  rw [normalizePathSegments_eq_G]
  rcases List.eq_nil_or_concat M with h | ⟨M0, l, h⟩
  · subst h; simp [stripTrail, G, normLoop, trail]
  · have hM : M = M0 ++ [l] := by simpa using h
    subst hM
    unfold G
    rw [trail_concat]
    by_cases h0 : l = []
    · subst h0
      rw [stripTrail_concat_nil, normLoop_append, normLoop_single]
      simp [step, dot, dotdot, stripTrail_concat_nil]
    · rw [stripTrail_concat_ne _ _ h0, normLoop_append, normLoop_single]
      by_cases h1 : l = dotdot
      · subst h1
        simp [step, stripTrail_concat_nil]
      · by_cases h2 : l = dot
        · subst h2
          simp [step_dot, stripTrail_concat_nil]
        · simp [step, h1, h2, stripTrail_concat_ne _ _ h0]

theorem mem_stripTrail {X : List Str} {s : Str} (h : s ∈ stripTrail X) : s ∈ X := by
  unfold stripTrail at h; split at h
  · exact List.dropLast_subset _ h
  · exact h

theorem noDots_strip_norm (M : List Str) : NoDots (stripTrail (normalizePathSegments M)) :=
  fun s hs => noDots_normalizePathSegments M s (mem_stripTrail hs)

theorem norm_append (X SB : List Str) (h : SB ≠ []) :
    normalizePathSegments (X ++ SB) = normLoop (normLoop [] X).reverse SB ++ trail SB := by
  rw [normalizePathSegments_eq_G]; unfold G
  rw [normLoop_append, trail_append _ _ h]

/-- re-normalising after an intermediate normalisation of the prefix changes nothing -/
theorem norm_strip_append (M SB : List Str) (hSB : SB ≠ []) :
    normalizePathSegments (stripTrail M ++ SB)
      = normalizePathSegments (stripTrail (normalizePathSegments M) ++ SB) := by
  rw [norm_append _ _ hSB, norm_append _ _ hSB, normLoop_stripTrail,
    normLoop_noDots [] _ (noDots_strip_norm M)]
  simp

theorem fixRoot_rooted (R : List Str) (hR : R ≠ []) :
    fixRoot (joinC 47 ([] :: R)) = joinC 47 ([] :: R) := by
  obtain ⟨k, r, rfl⟩ := List.exists_cons_of_ne_nil hR
  rw [joinC_cons]
  simp [fixRoot]

theorem root_head (n : Str) (L : List Str) (hn : n.isEmpty = false) (hL : L ≠ []) :
    ∃ R, root n L = [] :: R := by
  unfold root
  by_cases h : L.head? = some []
  · obtain ⟨a, L', rfl⟩ := List.exists_cons_of_ne_nil hL
    simp at h; subst h
    exact ⟨L', by simp⟩
  · exact ⟨L, by simp [hn, hL, h]⟩

theorem root_of_head (n : Str) (R : List Str) : root n ([] :: R) = [] :: R := by
  simp [root]

theorem childOf_true (u : Url) (X : List Str) (hn : u.netloc.isEmpty = false) :
    childOf u X true = fromParts u.scheme u.netloc
      (fixRoot (joinC 47 (normalizePathSegments (root u.netloc (base u ++ X))))) [] [] := by
  simp [childOf, hn]

theorem childOf_false (u : Url) (X : List Str) :
    childOf u X false = fromParts u.scheme u.netloc (joinC 47 (root u.netloc (base u ++ X))) [] [] := by
  simp [childOf]

theorem noDots_append {A B : List Str} (ha : NoDots A) (hb : NoDots B) : NoDots (A ++ B) := by
  intro s hs
  rcases List.mem_append.1 hs with h | h
  · exact ha s h
  · exact hb s h

/-- without ".." the loop only drops the "." segments (`PathLemmas.normLoop_noDots`: without any dot segment it
    drops nothing) -/
theorem normLoop_filter_of_no_dotdot (acc X : List Str) (h : dotdot ∉ X) :
    normLoop acc X = acc.reverse ++ X.filter (fun s => decide (s ≠ dot)) := by
  induction X generalizing acc with
  | nil => simp [normLoop]
  | cons x X ih =>
    have hx : x ≠ dotdot := fun e => h (e ▸ List.mem_cons_self)
    have hX : dotdot ∉ X := fun e => h (List.mem_cons_of_mem _ e)
    rw [normLoop_cons, ih _ hX]
    by_cases hd : x = dot
    · subst hd; simp [step_dot]
    · simp [step, hx, hd]

/-- without ".." segments the root's empty segment stays at the bottom of the stack -/
theorem norm_keeps_root (R : List Str) (hR : R ≠ []) (hdd : dotdot ∉ R) :
    ∃ K', K' ≠ [] ∧ normalizePathSegments ([] :: R) = [] :: K' := by
  have hdd' : dotdot ∉ ([] :: R : List Str) := by
    intro h
    rcases List.mem_cons.1 h with h | h
    · simp [dotdot] at h
    · exact hdd h
  refine ⟨R.filter (fun s => decide (s ≠ dot)) ++ trail ([] :: R), ?_, ?_⟩
  · intro h
    rw [List.append_eq_nil_iff] at h
    obtain ⟨R0, l, rfl⟩ : ∃ R0 l, R = R0 ++ [l] := by
      rcases List.eq_nil_or_concat R with h' | ⟨a, b, h'⟩
      · exact absurd h' hR
      · exact ⟨a, b, by simpa using h'⟩
    have hl : l = dot := by
      have := List.filter_eq_nil_iff.1 h.1 l (by simp)
      simpa using this
    have := h.2
    rw [← List.cons_append, trail_concat] at this
    simp [hl] at this
  · rw [normalizePathSegments_eq_G]
    unfold G
    rw [normLoop_filter_of_no_dotdot _ _ hdd']
    simp [dot]

/-- `root` looks at the first segment only -/
theorem root_append (n : Str) (A Z : List Str) (hA : A ≠ []) : root n (A ++ Z) = root n A ++ Z := by
  obtain ⟨x, X', rfl⟩ := List.exists_cons_of_ne_nil hA
  by_cases hn : n = []
  · simp [root, hn]
  · by_cases hx : x = []
    · simp [root, hx]
    · simp [root, hn, hx]

theorem mem_root {n : Str} {L : List Str} {s : Str} (h : s ∈ root n L) : s = [] ∨ s ∈ L := by
  unfold root at h; split at h
  · rcases List.mem_cons.1 h with h | h
    · exact Or.inl h
    · exact Or.inr h
  · exact Or.inr h

theorem mem_base {u : Url} {s : Str} (h : s ∈ base u) : s ∈ splitOn 47 u.path := by
  unfold base at h; split at h
  · simp at h
  · exact mem_stripTrail h

theorem root_ne_single (n : Str) (L : List Str) (hL : L ≠ []) (h1 : L ≠ [[]]) : root n L ≠ [[]] := by
  unfold root; split
  · intro h; exact hL (List.cons.inj h).2
  · exact h1

/-! ### the PATH_QUOTER on Python strings: a character-wise map -/

theorem path_tab_requote (b : Backend) : (Gen.PATH_QUOTER.tab b).requote = false := by
  cases b <;> decide

theorem path_tab_qs (b : Backend) : (Gen.PATH_QUOTER.tab b).qs = false := by
  cases b <;> decide

/-- a fact of the generated table: '.' and '/' are safe characters of PATH_QUOTER on both backends -/
theorem path_tab_safe_dot_slash (b : Backend) {d : Nat} (hd : d = 46 ∨ d = 47) :
    (Gen.PATH_QUOTER.tab b).safe d = true := by
  rcases hd with rfl | rfl <;> cases b <;> decide +kernel

theorem cOut_flatMap (t : QTab) (hr : t.requote = false) (s : Str) :
    cOut t s = s.flatMap (cWriteOut t) := by
  induction s with
  | nil => simp [cOut]
  | cons c r ih =>
    rw [QuoteEquiv.cOut_plain t (by simp [hr]), ih]
    simp

theorem q_path_eq (e : Env) (s : Str) (hs : PyStr s) :
    q e Gen.PATH_QUOTER s = (stripSurr s).flatMap (cWriteOut (Gen.PATH_QUOTER.tab e.b)) := by
  have hwf := gen_tab_wf _ mem_PATH_QUOTER e.b
  have hsp : (Gen.PATH_QUOTER.tab e.b).qs = true → (Gen.PATH_QUOTER.tab e.b).safe 32 = false :=
    fun _ => gen_space_unsafe _ mem_PATH_QUOTER e.b
  have hC := quoteC_eq_cOut _ hwf hsp s hs
  rw [cOut_flatMap _ (path_tab_requote e.b)] at hC
  unfold q QArgs.run quote
  cases hb : e.b with
  | py =>
    rw [hb] at hC hwf hsp
    simp only
    rw [quotePy_eq_quoteC _ hwf hsp s hs, hC]
  | c =>
    rw [hb] at hC
    exact hC

theorem toHex_ge (v : Nat) : 48 ≤ toHex v := by
  unfold toHex; split <;> omega

theorem toHex_ne46 (v : Nat) : toHex v ≠ 46 := by have := toHex_ge v; omega
theorem toHex_ne47 (v : Nat) : toHex v ≠ 47 := by have := toHex_ge v; omega

/-- a character other than `d` (`d` = '/' or '.') never produces `d` -/
theorem cWriteOut_avoid (t : QTab) (c d : Nat) (hd : d = 46 ∨ d = 47) (hc : c ≠ d) : d ∉ cWriteOut t c := by
  unfold cWriteOut
  split
  · rcases hd with rfl | rfl <;> simp
  · split
    · simpa using fun h => hc h.symm
    · unfold writeUtf8
      intro h
      obtain ⟨b, _, hb⟩ := List.mem_flatMap.1 h
      simp only [pct, List.mem_cons, List.not_mem_nil, or_false] at hb
      have h1 := toHex_ge (b / 16)
      have h2 := toHex_ge (b % 16)
      rcases hd with rfl | rfl <;> omega

theorem cWriteOut_ne_nil (t : QTab) (c : Nat) (hp : c ≤ 0x10FFFF) (hs : isSurrogate c = false) :
    cWriteOut t c ≠ [] := by
  unfold cWriteOut
  split
  · simp
  · split
    · simp
    · unfold writeUtf8
      have := utf8_length_pos c hp hs
      cases hu : utf8 c with
      | nil => simp [hu] at this
      | cons b r => simp [pct]

/-- what PATH_QUOTER writes for one code point: nothing for a lone surrogate.  On a Python string the quoter is
    `flatMap` of this map (`q_path_flatMap`); '.' and '/' are kept and no other character writes one. -/
def pqw (e : Env) (c : Nat) : Str := if isSurrogate c then [] else cWriteOut (Gen.PATH_QUOTER.tab e.b) c

theorem q_path_flatMap (e : Env) (s : Str) (hs : PyStr s) : q e Gen.PATH_QUOTER s = s.flatMap (pqw e) := by
  rw [q_path_eq e s hs]
  induction s with
  | nil => rfl
  | cons c r ih =>
    have := ih (fun x hx => hs x (List.mem_cons_of_mem _ hx))
    by_cases hc : isSurrogate c = true <;> simp_all [stripSurr, pqw]

/-- '.' and '/' are written as they are: they are safe in the table, and PATH_QUOTER has no `qs` mode -/
theorem pqw_fix (e : Env) {d : Nat} (hd : d = 46 ∨ d = 47) : pqw e d = [d] := by
  have hs := path_tab_safe_dot_slash e.b hd
  rcases hd with rfl | rfl <;> simp [pqw, cWriteOut, path_tab_qs, hs] <;> decide

theorem pqw_avoid (e : Env) {d : Nat} (hd : d = 46 ∨ d = 47) (c : Nat) (hc : c ≠ d) : d ∉ pqw e c := by
  unfold pqw
  split
  · simp
  · exact cWriteOut_avoid _ c d hd hc

theorem pqw_ne_nil (e : Env) (c : Nat) (hp : c ≤ 0x10FFFF) (hs : isSurrogate c = false) : pqw e c ≠ [] := by
  rw [pqw, hs]
  exact cWriteOut_ne_nil _ c hp hs

theorem q_path_append (e : Env) (x y : Str) (hx : PyStr x) (hy : PyStr y) :
    q e Gen.PATH_QUOTER (x ++ y) = q e Gen.PATH_QUOTER x ++ q e Gen.PATH_QUOTER y := by
  rw [q_path_flatMap e _ (pyStr_append hx hy), q_path_flatMap e _ hx, q_path_flatMap e _ hy, List.flatMap_append]

/-- a value of the PATH_QUOTER computed on both backends -/
theorem q_path_of_run (e : Env) {s t : Str} (h : ∀ b : Backend, Gen.PATH_QUOTER.run b s = t) :
    q e Gen.PATH_QUOTER s = t := h e.b

/-- the quoter neither makes nor destroys a '.' or a '/' -/
theorem q_path_mem_iff (e : Env) (s : Str) (hs : PyStr s) {d : Nat} (hd : d = 46 ∨ d = 47) :
    d ∈ q e Gen.PATH_QUOTER s ↔ d ∈ s := by
  rw [q_path_flatMap e s hs, mem_flatMap_fix (pqw_fix e hd) (pqw_avoid e hd)]

theorem q_path_avoid (e : Env) (s : Str) (hs : PyStr s) (d : Nat) (hd : d = 46 ∨ d = 47) (h : d ∉ s) :
    d ∉ q e Gen.PATH_QUOTER s :=
  fun hm => h ((q_path_mem_iff e s hs hd).1 hm)

/-- a leading '.' or '/' stays in front -/
theorem q_path_cons_fix (e : Env) (y : Str) (hy : PyStr y) {d : Nat} (hd : d = 46 ∨ d = 47) :
    q e Gen.PATH_QUOTER (d :: y) = d :: q e Gen.PATH_QUOTER y := by
  have hdy : PyStr (d :: y) := by
    intro c hc
    rcases List.mem_cons.1 hc with rfl | hc
    · rcases hd with rfl | rfl <;> decide
    · exact hy c hc
  rw [q_path_flatMap e _ hdy, q_path_flatMap e _ hy, List.flatMap_cons, pqw_fix e hd]
  rfl

theorem q_path_slash (e : Env) : q e Gen.PATH_QUOTER [47] = [47] := by
  rw [q_path_flatMap e _ (by decide), List.flatMap_cons, pqw_fix e (.inr rfl)]
  rfl

/-- text made of '.' and '/' only is kept verbatim -/
theorem q_path_fixed (e : Env) (s : Str) (h : ∀ c ∈ s, c = 46 ∨ c = 47) : q e Gen.PATH_QUOTER s = s := by
  have hs : PyStr s := fun c hc => by rcases h c hc with rfl | rfl <;> decide
  rw [q_path_flatMap e s hs]
  induction s with
  | nil => rfl
  | cons c r ih =>
    rw [List.flatMap_cons, pqw_fix e (h c List.mem_cons_self),
      ih (fun x hx => h x (List.mem_cons_of_mem _ hx)) (fun x hx => hs x (List.mem_cons_of_mem _ hx))]
    rfl

/-- quoting commutes with splitting at '/' -/
theorem splitOn_q (e : Env) (s : Str) (hs : PyStr s) :
    splitOn 47 (q e Gen.PATH_QUOTER s) = (splitOn 47 s).map (q e Gen.PATH_QUOTER) := by
  rw [q_path_flatMap e s hs, splitOn_flatMap (pqw_fix e (.inr rfl)) (pqw_avoid e (.inr rfl))]
  exact List.map_congr_left fun p hp => (q_path_flatMap e p fun c hc => hs c (splitOn_sub 47 s p hp c hc)).symm

/-- the first character, for '.' and '/': kept in front, and written by no other first character -/
theorem q_path_head_iff (e : Env) (s : Str) (hs : PyStr s) (hsur : NoSurrogate s) {d : Nat} (hd : d = 46 ∨ d = 47) :
    (q e Gen.PATH_QUOTER s).head? = some d ↔ s.head? = some d := by
  rw [q_path_flatMap e s hs]
  cases s with
  | nil => simp
  | cons c r =>
    obtain ⟨y, ys, hy⟩ := List.exists_cons_of_ne_nil
      (pqw_ne_nil e c (hs c List.mem_cons_self) (hsur c List.mem_cons_self))
    by_cases hc : c = d
    · subst hc
      simp [pqw_fix e hd]
    · have := pqw_avoid e hd c hc
      rw [hy] at this
      simp only [List.flatMap_cons, hy, List.cons_append, List.head?_cons, Option.some.injEq, hc, iff_false]
      exact fun h => this (h ▸ List.mem_cons_self)

theorem q_path_ne_nil (e : Env) (s : Str) (hs : PyStr s) (hn : NoSurrogate s) (h0 : s ≠ []) :
    q e Gen.PATH_QUOTER s ≠ [] := by
  obtain ⟨c, r, rfl⟩ := List.exists_cons_of_ne_nil h0
  rw [q_path_flatMap e _ hs, List.flatMap_cons]
  exact fun h => pqw_ne_nil e c (hs c List.mem_cons_self) (hn c List.mem_cons_self) (List.append_eq_nil_iff.1 h).1

/-- under an authority, a text with a '.' gives a segment list "" :: R with R non-empty -/
theorem childRoot_shape (u : Url) (Q : Str) (hn : u.netloc ≠ []) (hm : 46 ∈ Q) :
    ∃ R, R ≠ [] ∧ root u.netloc (base u ++ splitOn 47 Q) = [] :: R := by
  have hn' : u.netloc.isEmpty = false := by simpa using hn
  have hSA0 := splitOn_ne_nil 47 Q
  have hL : base u ++ splitOn 47 Q ≠ [] := by simp [hSA0]
  have hSA1 : splitOn 47 Q ≠ [[]] := by
    intro h
    have := joinC_splitOn (c := 47) Q
    rw [h] at this
    rw [← this] at hm
    simp [joinC, joinSep] at hm
  have hL1 : base u ++ splitOn 47 Q ≠ [[]] := by
    intro h
    rcases List.append_eq_cons_iff.1 h with ⟨h1, h2⟩ | ⟨x, h1, h2⟩
    · exact hSA1 h2
    · exact hSA0 (List.append_eq_nil_iff.1 h2.symm).2
  obtain ⟨R, hR⟩ := root_head u.netloc _ hn' hL
  refine ⟨R, ?_, hR⟩
  intro h
  rw [h] at hR
  exact root_ne_single _ _ hL hL1 hR

/-- without a ".." segment in the old path or in `Q`, normalising keeps the root's empty segment and leaves
    something after it -/
theorem childRoot_norm_keeps_root (u : Url) (Q : Str) (hn : u.netloc ≠ []) (hm : 46 ∈ Q)
    (h1 : dotdot ∉ splitOn 47 u.path) (h2 : dotdot ∉ splitOn 47 Q) :
    ∃ K', K' ≠ [] ∧ normalizePathSegments (root u.netloc (base u ++ splitOn 47 Q)) = [] :: K' := by
  obtain ⟨R, hR0, hR⟩ := childRoot_shape u Q hn hm
  have hddR : dotdot ∉ R := by
    intro h
    have : dotdot ∈ root u.netloc (base u ++ splitOn 47 Q) := by
      rw [hR]; exact List.mem_cons_of_mem _ h
    rcases mem_root this with h | h
    · simp [dotdot] at h
    · rcases List.mem_append.1 h with h | h
      · exact h1 (mem_base h)
      · exact h2 h
  rw [hR]
  exact norm_keeps_root R hR0 hddR

theorem childRoot_cons (u : Url) (SA Y : List Str) (hSA0 : SA ≠ []) :
    root u.netloc (base u ++ (stripTrail SA ++ Y))
      = root u.netloc (stripTrail (root u.netloc (base u ++ SA)) ++ Y) := by
  have hL : base u ++ SA ≠ [] := by simp [hSA0]
  rw [root_strip _ _ _ hL, stripTrail_append _ _ hSA0, List.append_assoc]

/-- the list of a call whose first argument has a '.', after that argument -/
theorem childRoot_cons_dot (u : Url) (Q : Str) (Y R : List Str) (hR0 : R ≠ [])
    (hR : root u.netloc (base u ++ splitOn 47 Q) = [] :: R) :
    root u.netloc (base u ++ (stripTrail (splitOn 47 Q) ++ Y)) = [] :: (stripTrail R ++ Y) := by
  rw [childRoot_cons u _ Y (splitOn_ne_nil _ _), hR, stripTrail_cons _ _ hR0, List.cons_append, root_of_head]

/-- `fixRoot` on a joined segment list: the root's empty segment goes in front unless it is there already -/
theorem fixRoot_joinC (N : List Str) (hS : Segs N) :
    fixRoot (joinC 47 N) = joinC 47 (if N.head? = some [] then N else [] :: N) := by
  cases N with
  | nil => rfl
  | cons a K =>
    cases a with
    | nil => cases K <;> simp [joinC_cons, fixRoot]
    | cons c a' =>
      have hc : c ≠ 47 := fun h => hS _ List.mem_cons_self (h ▸ List.mem_cons_self)
      simp [joinC_cons, fixRoot, hc]

/-- the two forms `u.joinpath(a, b)` and `(u / a) / b` when the first step normalises (authority, a '.' in `qa`), with
    `N1` the first step's normalised segment list: the one-call form normalises `N1` without a trailing empty segment
    followed by `SB`; the first step's result has the old segments `N1`, rooted again, without a trailing empty one -/
theorem joinpath_two_forms (u : Url) (qa : Str) (SB : List Str) (hn' : u.netloc.isEmpty = false) (hdot : 46 ∈ qa)
    (hSB0 : SB ≠ []) :
    let N1 := normalizePathSegments (root u.netloc (base u ++ splitOn 47 qa))
    let v1 := childOf u (splitOn 47 qa) true
    NoDots (stripTrail N1) ∧ Segs N1 ∧ v1.scheme = u.scheme ∧ v1.netloc = u.netloc ∧
    base v1 = stripTrail (if N1.head? = some [] then N1 else [] :: N1) ∧
    childOf u (stripTrail (splitOn 47 qa) ++ SB) true = fromParts u.scheme u.netloc
      (fixRoot (joinC 47 (normalizePathSegments (stripTrail N1 ++ SB)))) [] [] := by
  intro N1 v1
  have hn : u.netloc ≠ [] := by simpa using hn'
  obtain ⟨R, hR0, hR⟩ := childRoot_shape u qa hn hdot
  have hMs : Segs (root u.netloc (base u ++ splitOn 47 qa)) := segs_root _ (segs_append (segs_base u) (segs_splitOn _))
  have hN1s : Segs N1 := normalizePathSegments_no_sep _ hMs
  have hv1 : v1 = fromParts u.scheme u.netloc (joinC 47 (if N1.head? = some [] then N1 else [] :: N1)) [] [] := by
    rw [← fixRoot_joinC N1 hN1s]
    exact childOf_true u _ hn'
  have hrs : Segs (if N1.head? = some [] then N1 else [] :: N1) := by
    split
    · exact hN1s
    · exact segs_cons (by simp) hN1s
  refine ⟨noDots_strip_norm _, hN1s, by rw [hv1]; rfl, by rw [hv1]; rfl, ?_, ?_⟩
  · refine base_of_joinC _ _ hrs ?_ (by rw [hv1]; rfl)
    split
    · rename_i h
      intro h0
      rw [h0] at h
      cases h
    · simp
  · rw [childOf_true u _ hn', childRoot_cons_dot u qa SB R hR0 hR, ← List.cons_append,
      ← stripTrail_cons _ _ hR0, ← hR, norm_strip_append _ _ hSB0]

/-- associativity when the first step IS normalised, provided that normalisation keeps the root's empty segment and
    leaves something after it -/
theorem childOf_assoc_right (u : Url) (qa : Str) (SB : List Str) (nnB : Bool) (hn : u.netloc.isEmpty = false)
    (hdot : 46 ∈ qa) (hSB0 : SB ≠ [])
    (hroot : ∃ K', K' ≠ [] ∧ normalizePathSegments (root u.netloc (base u ++ splitOn 47 qa)) = [] :: K')
    (hnnB : nnB = false → NoDots SB) :
    childOf (childOf u (splitOn 47 qa) true) SB nnB = childOf u (stripTrail (splitOn 47 qa) ++ SB) true := by
  obtain ⟨K', hK', hK⟩ := hroot
  obtain ⟨hTd, _, hs1, hn1, hb, hW⟩ := joinpath_two_forms u qa SB hn hdot hSB0
  rw [hK] at hTd hb hW
  -- the second step's segment list is `T ++ SB`, `T` beginning with the root's empty segment
  have hT : stripTrail ([] :: K') = [] :: stripTrail K' := stripTrail_cons _ _ hK'
  have hM2 : root u.netloc (base (childOf u (splitOn 47 qa) true) ++ SB) = stripTrail ([] :: K') ++ SB := by
    rw [hb, List.head?_cons, if_pos rfl, hT]
    exact root_of_head _ _
  rw [hW]
  cases nnB with
  | true => rw [childOf_true _ _ (by rw [hn1]; exact hn), hs1, hn1, hM2]
  | false =>
    rw [childOf_false, hs1, hn1, hM2, normalizePathSegments_noDots _ (noDots_append hTd (hnnB rfl)), hT,
      List.cons_append, fixRoot_rooted _ (by simp [hSB0])]

/-- the segments of `L` that are not "." / "..", in order -/
def _root_.Yarl.C02_nonDots (L : List Str) : List Str := L.filter (fun s => !(decide (s = dot) || decide (s = dotdot)))

/-! ### which segments survive `normalize_path_segments` -/

theorem nonDots_cons_dot (L : List Str) : C02_nonDots (dot :: L) = C02_nonDots L := by
  simp [C02_nonDots, dot, dotdot]

theorem nonDots_cons_dotdot (L : List Str) : C02_nonDots (dotdot :: L) = C02_nonDots L := by
  simp [C02_nonDots, dot, dotdot]

theorem nonDots_cons_other (s : Str) (L : List Str) (h1 : s ≠ dot) (h2 : s ≠ dotdot) :
    C02_nonDots (s :: L) = s :: C02_nonDots L := by
  simp [C02_nonDots, h1, h2]

theorem nonDots_sublist (L : List Str) : (C02_nonDots L).Sublist L := List.filter_sublist

theorem mem_nonDots {L : List Str} {s : Str} : s ∈ C02_nonDots L ↔ s ∈ L ∧ s ≠ dot ∧ s ≠ dotdot := by
  simp [C02_nonDots]

theorem nonDots_append (A B : List Str) : C02_nonDots (A ++ B) = C02_nonDots A ++ C02_nonDots B := by
  simp [C02_nonDots]

theorem tail_reverse_sublist (acc : List Str) : acc.tail.reverse.Sublist acc.reverse := by
  cases acc with
  | nil => simp
  | cons a t => simp

/-- the stack the loop ends with is a subsequence of the initial stack followed by the non-dot input segments -/
theorem normLoop_sublist (segs : List Str) : ∀ acc : List Str,
    (normLoop acc segs).Sublist (acc.reverse ++ C02_nonDots segs) := by
  induction segs with
  | nil => intro acc; simp [normLoop, C02_nonDots]
  | cons seg rest ih =>
    intro acc
    unfold normLoop
    split
    · rename_i h
      rw [h, nonDots_cons_dotdot]
      exact (ih acc.tail).trans (List.Sublist.append_right (tail_reverse_sublist acc) _)
    · split
      · rename_i h1 h
        rw [h, nonDots_cons_dot]
        exact ih acc
      · rename_i h1 h2
        rw [nonDots_cons_other seg rest h2 h1]
        have := ih (seg :: acc)
        simpa using this

/-- `normalize_path_segments`: a subsequence of the non-dot segments, plus one empty segment when the last input
    segment was a dot segment -/
theorem nps_shape (L : List Str) :
    normalizePathSegments L = normLoop [] L ++ trail L ∧ (normLoop [] L).Sublist (C02_nonDots L) := by
  refine ⟨normalizePathSegments_eq_G L, ?_⟩
  simpa using normLoop_sublist L []

end Yarl.PathAlg

/-! ### `_make_child` in closed form -/
namespace Yarl.PathMore
open Yarl Yarl.PathLemmas Yarl.PathAlg

/-- the text of one `joinpath` argument as it enters the path: quoted unless `encoded=True` -/
def argText (e : Env) (enc : Bool) (p : Str) : Str := if enc then p else q e Gen.PATH_QUOTER p

/-- the segments contributed by the argument list: every argument split at '/', a trailing empty segment of
    a non-last argument dropped -/
def argSegs (e : Env) (enc : Bool) : List Str → List Str
  | [] => []
  | [p] => splitOn 47 (argText e enc p)
  | p :: r :: rest => stripTrail (splitOn 47 (argText e enc p)) ++ argSegs e enc (r :: rest)

/-- "a '.' occurred in some argument" -/
def argDots (e : Env) (enc : Bool) (ps : List Str) : Bool := ps.any (fun p => mem 46 (argText e enc p))

theorem argSegs_single (e : Env) (enc : Bool) (p : Str) : argSegs e enc [p] = splitOn 47 (argText e enc p) := rfl

theorem argDots_single (e : Env) (enc : Bool) (p : Str) : argDots e enc [p] = mem 46 (argText e enc p) := by
  simp [argDots]

theorem argSegs_snoc (e : Env) (enc : Bool) (init : List Str) (l : Str) :
    argSegs e enc (init ++ [l]) =
      init.flatMap (fun p => stripTrail (splitOn 47 (argText e enc p))) ++ splitOn 47 (argText e enc l) := by
  induction init with
  | nil => rfl
  | cons a init ih =>
    cases init with
    | nil => simp [argSegs]
    | cons b r => rw [List.cons_append, List.cons_append, argSegs, ← List.cons_append, ih]; simp

/-- the loop over `reversed(paths)`, in one statement: an argument starting with '/' raises; otherwise each argument
    contributes its segments (reversed, as `parsed` is), without a trailing empty one unless it is the last (`last`) -/
theorem go_closed (e : Env) (enc : Bool) : ∀ (L : List Str) (last : Bool) (parsed : List Str) (nn : Bool),
    makeChild.go e enc L last parsed nn =
      if L.any (fun p => p.head? = some 47) then .error .valueError
      else .ok (parsed ++ (match L with
          | [] => []
          | p :: r => (if last then splitOn 47 (argText e enc p) else stripTrail (splitOn 47 (argText e enc p))).reverse
              ++ r.flatMap (fun p => (stripTrail (splitOn 47 (argText e enc p))).reverse)),
        nn || argDots e enc L) := by
  intro L
  induction L with
  | nil => intro last parsed nn; simp [makeChild.go, argDots, pure, Except.pure]
  | cons p L ih =>
    intro last parsed nn
    rw [makeChild.go]
    by_cases hp : p.head? = some 47
    · simp [hp]
    · have hadd : (if (!last && decide ((splitOn 47 (argText e enc p)).reverse.head? = some [])) = true
          then (splitOn 47 (argText e enc p)).reverse.drop 1 else (splitOn 47 (argText e enc p)).reverse)
          = (if last then splitOn 47 (argText e enc p) else stripTrail (splitOn 47 (argText e enc p))).reverse := by
        cases last <;> simp [stripTrail, List.head?_reverse, List.drop_one]
        split <;> simp
      simp only [hp, if_false, List.any_cons, decide_false, Bool.false_or]
      unfold argText at hadd ⊢
      rw [hadd, ih]
      cases L <;> simp [argDots, argText, Bool.or_assoc]

/-- `_make_child(paths, encoded)`: ValueError iff some argument starts with '/', otherwise the child made of the
    argument segments -/
theorem makeChild_closed (e : Env) (u : Url) (ps : List Str) (enc : Bool) :
    makeChild e u ps enc =
      if ps.any (fun p => p.head? = some 47) then .error .valueError
      else .ok (childOf u (argSegs e enc ps) (argDots e enc ps)) := by
  rw [makeChild_eq, go_closed, List.any_reverse]
  split
  · rfl
  · rcases List.eq_nil_or_concat ps with rfl | ⟨init, l, rfl⟩
    · rfl
    · simp only [Except.map, List.concat_eq_append, List.reverse_append, List.reverse_cons, List.reverse_nil,
        List.nil_append, List.cons_append, if_true, argSegs_snoc]
      congr 2
      · simp [List.flatMap_reverse, Function.comp_def]
      · simp [argDots, Bool.or_comm]

theorem makeChild_ok {e : Env} {u v : Url} {ps : List Str} {enc : Bool} :
    makeChild e u ps enc = .ok v ↔
      (∀ p ∈ ps, p.head? ≠ some 47) ∧ v = childOf u (argSegs e enc ps) (argDots e enc ps) := by
  rw [makeChild_closed]
  split
  · rename_i h
    simp only [List.any_eq_true, decide_eq_true_eq] at h
    obtain ⟨p, hp, h47⟩ := h
    exact ⟨fun hc => (nomatch hc), fun hc => absurd h47 (hc.1 p hp)⟩
  · rename_i h
    simp only [List.any_eq_true, decide_eq_true_eq, not_exists, not_and] at h
    exact ⟨fun hv => ⟨h, (Except.ok.inj hv).symm⟩, fun hv => by rw [hv.2]⟩

theorem makeChild_n (e : Env) (u : Url) (ps : List Str) (enc : Bool) (hh : ∀ p ∈ ps, p.head? ≠ some 47) :
    makeChild e u ps enc = .ok (childOf u (argSegs e enc ps) (argDots e enc ps)) :=
  makeChild_ok.2 ⟨hh, rfl⟩

theorem makeChild_err (e : Env) (u : Url) (ps : List Str) (enc : Bool) (h : ∃ p ∈ ps, p.head? = some 47) :
    makeChild e u ps enc = .error .valueError := by
  rw [makeChild_closed, if_pos (by simpa using h)]

theorem heads_of_ok (e : Env) (u : Url) (ps : List Str) (enc : Bool) (v : Url)
    (h : makeChild e u ps enc = .ok v) : ∀ p ∈ ps, p.head? ≠ some 47 := (makeChild_ok.1 h).1

theorem makeChild_single (e : Env) (u : Url) (a : Str) (enc : Bool) (ha : a.head? ≠ some 47) :
    makeChild e u [a] enc = .ok (childOf u (splitOn 47 (argText e enc a)) (mem 46 (argText e enc a))) := by
  rw [makeChild_n e u _ enc (by simpa using ha)]; simp [argSegs, argDots]

/-- every argument segment is a '/'-piece of some argument's text -/
theorem mem_argSegs (e : Env) (enc : Bool) : ∀ (ps : List Str) (x : Str), x ∈ argSegs e enc ps →
    ∃ p ∈ ps, x ∈ splitOn 47 (argText e enc p) := by
  intro ps
  induction ps with
  | nil => intro x hx; simp [argSegs] at hx
  | cons a ps ih =>
    intro x hx
    cases ps with
    | nil => exact ⟨a, by simp, by simpa [argSegs] using hx⟩
    | cons b r =>
      rw [argSegs] at hx
      rcases List.mem_append.1 hx with h | h
      · exact ⟨a, by simp, mem_stripTrail h⟩
      · obtain ⟨p, hp, hxp⟩ := ih x h
        exact ⟨p, List.mem_cons_of_mem _ hp, hxp⟩

theorem segs_argSegs (e : Env) (enc : Bool) (ps : List Str) : Segs (argSegs e enc ps) := by
  intro x hx
  obtain ⟨p, _, hxp⟩ := mem_argSegs e enc ps x hx
  exact segs_splitOn _ x hxp

/-- the flag is off only when no argument segment contains a '.' -/
theorem argDots_false_mem (e : Env) (enc : Bool) (ps : List Str) (h : argDots e enc ps = false) :
    ∀ x ∈ argSegs e enc ps, 46 ∉ x := by
  intro x hx h46
  obtain ⟨p, hp, hxp⟩ := mem_argSegs e enc ps x hx
  have : mem 46 (argText e enc p) = true := mem_iff.2 (splitOn_sub 47 _ x hxp 46 h46)
  unfold argDots at h
  rw [List.any_eq_false] at h
  exact h p hp this

theorem makeChild_cons (e : Env) (u : Url) (a b : Str) (rest : List Str) (enc : Bool)
    (hh : ∀ p ∈ a :: b :: rest, p.head? ≠ some 47) :
    makeChild e u (a :: b :: rest) enc =
      .ok (childOf u (stripTrail (splitOn 47 (argText e enc a)) ++ argSegs e enc (b :: rest))
        (argDots e enc (b :: rest) || mem 46 (argText e enc a))) := by
  rw [makeChild_n e u _ enc hh]
  congr 2
  simp [argDots, Bool.or_comm]

theorem argSegs_ne_nil (e : Env) (enc : Bool) : ∀ ps : List Str, ps ≠ [] → argSegs e enc ps ≠ [] := by
  intro ps
  induction ps with
  | nil => intro h; exact absurd rfl h
  | cons a ps ih =>
    intro _
    cases ps with
    | nil => simpa [argSegs] using splitOn_ne_nil _ _
    | cons b r =>
      rw [argSegs]
      intro h
      exact ih (by simp) (List.append_eq_nil_iff.1 h).2

theorem noDots_of_no_dot (L : List Str) (h : ∀ x ∈ L, 46 ∉ x) : NoDots L := by
  intro x hx
  constructor
  · rintro rfl; exact h _ hx (by simp [dot])
  · rintro rfl; exact h _ hx (by simp [dotdot])

theorem argDots_false (e : Env) (enc : Bool) (ps : List Str) (h : argDots e enc ps = false) :
    NoDots (argSegs e enc ps) := noDots_of_no_dot _ (argDots_false_mem e enc ps h)

/-- one step of the n-ary composition, with the exact guard `hroot`, either `encoded` mode -/
theorem makeChild_assoc_of_root_kept (e : Env) (u : Url) (a b : Str) (r : List Str) (enc : Bool)
    (hh : ∀ p ∈ a :: b :: r, p.head? ≠ some 47)
    (hroot : u.netloc ≠ [] → 46 ∈ argText e enc a →
      ∃ K', K' ≠ [] ∧ normalizePathSegments (root u.netloc (base u ++ splitOn 47 (argText e enc a))) = [] :: K') :
    makeChild e u (a :: b :: r) enc =
      makeChild e (childOf u (splitOn 47 (argText e enc a)) (mem 46 (argText e enc a))) (b :: r) enc := by
  rw [makeChild_cons e u a b r enc hh,
    makeChild_n e _ (b :: r) enc (fun p hp => hh p (List.mem_cons_of_mem _ hp))]
  congr 1
  by_cases hc : (u.netloc.isEmpty || !mem 46 (argText e enc a)) = true
  · exact (childOf_assoc_left u _ _ _ _ (segs_splitOn _) (splitOn_ne_nil _ _) hc).symm
  · simp only [Bool.or_eq_true, Bool.not_eq_eq_eq_not, Bool.not_true, not_or, Bool.not_eq_false] at hc
    have hn : u.netloc.isEmpty = false := by simpa using hc.1
    have hn' : u.netloc ≠ [] := by simpa using hn
    have hm : 46 ∈ argText e enc a := mem_iff.1 hc.2
    rw [hc.2, Bool.or_true]
    exact (childOf_assoc_right u _ _ _ hn hm (argSegs_ne_nil e enc _ (by simp)) (hroot hn' hm)
      (argDots_false e enc _)).symm

/-- invariants of the new segments without an induction over the loop: what holds of every '/'-piece of every
    argument text holds of every new segment -/
theorem makeChild_new_segs (e : Env) (u v : Url) (ps : List Str) (enc : Bool) (P : Str → Prop)
    (hP : ∀ p ∈ ps, ∀ s ∈ splitOn 47 (argText e enc p), P s) (h : makeChild e u ps enc = .ok v) :
    ∃ X nn, v = childOf u X nn ∧ (∀ s ∈ X, P s) ∧ Segs X ∧ (nn = false → ∀ s ∈ X, 46 ∉ s) := by
  refine ⟨_, _, (makeChild_ok.1 h).2, fun s hs => ?_, segs_argSegs e enc ps, argDots_false_mem e enc ps⟩
  obtain ⟨p, hp, hsp⟩ := mem_argSegs e enc ps s hs
  exact hP p hp s hsp

/-! ### string level: last occurrence, `suffix`, `suffixes` -/

theorem rfind_none (c : Nat) (a : Str) (h : c ∉ a) : rfind c a = none := by
  unfold rfind
  rw [find_none_of_not_mem c a.reverse (by simpa using h)]

theorem rfind_last (c : Nat) (a t : Str) (h : c ∉ t) : rfind c (a ++ c :: t) = some a.length := by
  unfold rfind
  have : (a ++ c :: t).reverse = t.reverse ++ c :: a.reverse := by simp
  rw [this, find_append c _ _ (by simpa using h)]
  simp only [List.length_reverse, List.length_append, List.length_cons, Option.some.injEq]
  omega

theorem exists_last (c : Nat) (s : Str) (h : c ∈ s) : ∃ a t, s = a ++ c :: t ∧ c ∉ t := by
  induction s with
  | nil => simp at h
  | cons x xs ih =>
    by_cases hx : c ∈ xs
    · obtain ⟨a, t, e, ht⟩ := ih hx
      exact ⟨x :: a, t, by rw [e]; rfl, ht⟩
    · rcases List.mem_cons.1 h with rfl | h'
      · exact ⟨[], xs, rfl, hx⟩
      · exact absurd h' hx

/-- `raw_suffix` as a function of the raw name -/
def sfx (n : Str) : Str :=
  match rfind 46 n with
  | some i => if 0 < i ∧ i + 1 < n.length then n.drop i else []
  | none => []

/-- `raw_suffixes` as a function of the raw name -/
def sfxs (n : Str) : List Str :=
  if n.getLast? = some 46 then [] else ((splitOn 46 (lstripSet [46] n)).drop 1).map (fun s => 46 :: s)

theorem rawSuffix_eq (u : Url) : rawSuffix u = (rawName u).map sfx := by
  unfold rawSuffix sfx
  cases rawName u with
  | error err => rfl
  | ok n =>
    simp only [bind, Except.bind, Except.map]
    cases rfind 46 n with
    | none => rfl
    | some i => simp only; split <;> rfl

theorem rawSuffixes_eq (u : Url) : rawSuffixes u = (rawName u).map sfxs := by
  unfold rawSuffixes sfxs
  cases rawName u with
  | error err => rfl
  | ok n =>
    simp only [bind, Except.bind, Except.map]
    split <;> rfl

theorem sfx_no_dot (n : Str) (h : 46 ∉ n) : sfx n = [] := by
  unfold sfx; rw [rfind_none 46 n h]

/-- the suffix is what follows the LAST '.', that '.' included, unless nothing precedes or nothing follows it -/
theorem sfx_last (a t : Str) (h : 46 ∉ t) :
    sfx (a ++ 46 :: t) = if a ≠ [] ∧ t ≠ [] then 46 :: t else [] := by
  unfold sfx
  rw [rfind_last 46 a t h]
  simp only [List.length_append, List.length_cons, List.drop_left']
  by_cases ha : a = []
  · subst ha; simp
  · by_cases ht : t = []
    · subst ht; simp
    · have h1 : 0 < a.length := List.length_pos_iff.2 ha
      have h2 : 0 < t.length := List.length_pos_iff.2 ht
      have : 0 < a.length ∧ a.length + 1 < a.length + (t.length + 1) := ⟨h1, by omega⟩
      simp [this, ha, ht]

theorem sfxs_head (n : Str) : ∀ x ∈ sfxs n, x.head? = some 46 ∧ 46 ∉ x.drop 1 := by
  intro x hx
  unfold sfxs at hx
  split at hx
  · simp at hx
  · obtain ⟨p, hp, rfl⟩ := List.mem_map.1 hx
    exact ⟨rfl, splitOn_no_sep 46 _ p (List.mem_of_mem_drop hp)⟩

theorem sfxs_concat (n : Str) : ∃ stem, n = stem ++ (sfxs n).flatten := by
  unfold sfxs
  split
  · exact ⟨n, by simp⟩
  · obtain ⟨p, ps, e⟩ := List.exists_cons_of_ne_nil (splitOn_ne_nil 46 (lstripSet [46] n))
    have hj := joinC_splitOn (c := 46) (lstripSet [46] n)
    rw [e, joinC_cons, HostLemmas.flatC_eq_flatten] at hj
    rw [e]
    simp only [List.drop_succ_cons, List.drop_zero]
    refine ⟨n.takeWhile (fun c => mem c [46]) ++ p, ?_⟩
    rw [List.append_assoc, hj, Yarl.ParseLemmas.lstripSet_eq]
    exact (List.takeWhile_append_dropWhile).symm

theorem sfx_ne_nil_iff (n : Str) :
    sfx n ≠ [] ↔ ∃ a t, n = a ++ 46 :: t ∧ 46 ∉ t ∧ a ≠ [] ∧ t ≠ [] := by
  constructor
  · intro h
    by_cases hm : 46 ∈ n
    · obtain ⟨a, t, e, ht⟩ := exists_last 46 n hm
      refine ⟨a, t, e, ht, ?_⟩
      rw [e, sfx_last a t ht] at h
      split at h
      · assumption
      · exact absurd rfl h
    · exact absurd (sfx_no_dot n hm) h
  · rintro ⟨a, t, rfl, ht, ha, ht0⟩
    rw [sfx_last a t ht, if_pos ⟨ha, ht0⟩]
    simp

theorem sfx_is_drop (n : Str) : ∃ k, k ≤ n.length ∧ sfx n = n.drop k := by
  unfold sfx
  cases h : rfind 46 n with
  | none => exact ⟨n.length, Nat.le_refl _, by simp⟩
  | some i =>
    simp only
    split
    · exact ⟨i, by omega, rfl⟩
    · exact ⟨n.length, Nat.le_refl _, by simp⟩

/-- name = stem ++ suffix, the stem being what `with_suffix` keeps -/
theorem stem_append_sfx (n : Str) : n.take (n.length - (sfx n).length) ++ sfx n = n := by
  obtain ⟨k, hk, e⟩ := sfx_is_drop n
  rw [e]
  have : n.length - (n.drop k).length = k := by simp; omega
  rw [this, List.take_append_drop]

theorem sfx_head (n : Str) (h : sfx n ≠ []) : ∃ t, sfx n = 46 :: t := by
  by_cases hm : 46 ∈ n
  · obtain ⟨a, t, e, ht⟩ := exists_last 46 n hm
    rw [e, sfx_last a t ht] at h ⊢
    split at h
    · rename_i hc; rw [if_pos hc]; exact ⟨t, rfl⟩
    · exact absurd rfl h
  · exact absurd (sfx_no_dot n hm) h

/-- `with_suffix(x)` in closed form, `n` the raw name: five refusals, then `_with_raw_name` on the name without its
    suffix followed by the quoted `x` -/
theorem withSuffix_closed (e : Env) (u : Url) (x : Str) (kq kf : Bool) (n : Str) (hn : rawName u = .ok n) :
    withSuffix e u x kq kf =
      if ((x ≠ [] ∧ x.head? ≠ some 46) ∨ x = [46]) ∨ n = [] ∨ 47 ∈ x ∨
          n.take (n.length - (sfx n).length) ++ q e Gen.PATH_QUOTER x = dot ∨
          n.take (n.length - (sfx n).length) ++ q e Gen.PATH_QUOTER x = dotdot
      then .error .valueError
      else withRawName u (n.take (n.length - (sfx n).length) ++ q e Gen.PATH_QUOTER x) kq kf := by
  -- without an old suffix both branches of the new name are the same text
  have hstem : (if (sfx n).isEmpty = true then n ++ q e Gen.PATH_QUOTER x
        else List.take (n.length - (sfx n).length) n ++ q e Gen.PATH_QUOTER x)
      = n.take (n.length - (sfx n).length) ++ q e Gen.PATH_QUOTER x := by
    split
    · rename_i h0
      rw [List.isEmpty_iff.1 h0, List.length_nil, Nat.sub_zero, List.take_length]
    · rfl
  unfold withSuffix
  rw [rawSuffix_eq, hn]
  simp only [bind, Except.bind, Except.map, hstem, ite_err_or]
  refine ite_congr (propext ?_) (fun _ => rfl) (fun _ => rfl)
  cases x <;> simp [Yarl.mem_eq]

theorem withSuffix_checks (e : Env) (u : Url) (x : Str) (kq kf : Bool) (v : Url) (n : Str)
    (hn : rawName u = .ok n) (h : withSuffix e u x kq kf = .ok v) :
    (x ≠ [] → x.head? = some 46) ∧ x ≠ [46] ∧ n ≠ [] ∧ 47 ∉ x := by
  rw [withSuffix_closed e u x kq kf n hn] at h
  obtain ⟨hc, _⟩ := ite_err_ok h
  refine ⟨fun hx => Decidable.of_not_not fun hh => hc (.inl (.inl ⟨hx, hh⟩)), fun h46 => hc (.inl (.inr h46)),
    fun h0 => hc (.inr (.inl h0)), fun h47 => hc (.inr (.inr (.inl h47)))⟩

end Yarl.PathMore

namespace Yarl.PathAlg
open Yarl Yarl.PathLemmas Yarl.PathMore

theorem makeChild_one (e : Env) (u : Url) (s : Str) (hs0 : s.head? ≠ some 47) :
    makeChild e u [s] false
      = .ok (childOf u (splitOn 47 (q e Gen.PATH_QUOTER s)) (mem 46 (q e Gen.PATH_QUOTER s))) :=
  makeChild_single e u s false hs0

theorem makeChild_two (e : Env) (u : Url) (a b : Str) (ha0 : a.head? ≠ some 47) (hb0 : b.head? ≠ some 47) :
    makeChild e u [a, b] false
      = .ok (childOf u (stripTrail (splitOn 47 (q e Gen.PATH_QUOTER a)) ++ splitOn 47 (q e Gen.PATH_QUOTER b))
          (mem 46 (q e Gen.PATH_QUOTER b) || mem 46 (q e Gen.PATH_QUOTER a))) := by
  rw [makeChild_n e u _ false (by simp [ha0, hb0])]; simp [argSegs, argDots, argText, Bool.or_comm]

theorem makeChild_head (e : Env) (u : Url) (s : Str) (rest : List Str) (v : Url)
    (h : makeChild e u (rest ++ [s]) false = .ok v) : s.head? ≠ some 47 :=
  heads_of_ok e u _ false v h s (by simp)

end Yarl.PathAlg
