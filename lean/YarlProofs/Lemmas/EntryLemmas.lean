/-
  EntryLemmas.lean — helper lemmas for C15Entry (no dot segment after any entry point)
  and C01Reach (well-formedness over all operation sequences).
-/
import YarlModel
import YarlProofs.Lemmas.PathLemmas
import YarlProofs.Lemmas.PathAlg
import YarlProofs.Lemmas.WfLemmas
import YarlProofs.C15
import YarlProofs.C07
import YarlProofs.Lemmas.Canon
import YarlProofs.Lemmas.JoinLemmas
namespace Yarl

/-- no segment of the '/'-split of `p` is "." or ".." -/
def NoDotSegments (p : Str) : Prop := ∀ s ∈ splitOn 47 p, s ≠ dot ∧ s ≠ dotdot

instance (p : Str) : Decidable (NoDotSegments p) := by unfold NoDotSegments; infer_instance

namespace EntryLemmas
open PathLemmas PathAlg WfLemmas

theorem noDotSegments_nil : NoDotSegments [] := by
  intro s hs
  simp only [splitOn, List.mem_singleton] at hs
  subst hs
  simp [dot, dotdot]

/-- a string without '.' has no dot segment -/
theorem noDotSegments_of_no_dot {p : Str} (h : 46 ∉ p) : NoDotSegments p := by
  intro s hs
  have hsub := splitOn_sub 47 p s hs
  constructor
  · rintro rfl; exact h (hsub 46 (by simp [dot]))
  · rintro rfl; exact h (hsub 46 (by simp [dotdot]))

theorem noDotSegments_of_mem_false {p : Str} (h : mem 46 p = false) : NoDotSegments p := by
  apply noDotSegments_of_no_dot
  rw [mem_eq] at h
  simpa using h

/-- joining dot-free, slash-free segments gives a path without dot segments -/
theorem noDotSegments_joinC (M : List Str) (hs : Segs M) (hd : NoDots M) : NoDotSegments (joinC 47 M) := by
  by_cases hM : M = []
  · subst hM
    exact noDotSegments_nil
  · intro s h
    rw [splitOn_joinC M hM hs] at h
    exact hd s h

/-- `normalize_path` output never has a dot segment, rooted or not -/
theorem noDotSegments_normalizePath (p : Str) : NoDotSegments (normalizePath p) := by
  unfold normalizePath
  split
  · rename_i rest
    exact C15_path_no_dot_segments rest
  · exact noDotSegments_joinC _ (normalizePathSegments_no_sep _ (splitOn_no_sep 47 p))
      (noDots_normalizePathSegments _)

/-- the `"." in path` guard followed by `normalize_path` -/
theorem noDotSegments_guard (p : Str) : NoDotSegments (if mem 46 p = true then normalizePath p else p) := by
  split
  · exact noDotSegments_normalizePath p
  · rename_i h
    exact noDotSegments_of_mem_false (by simpa using h)

/-- `with_path` since fix 7cae68c: the `"." in path` guard followed by `normalize_path` of the ROOTED path -/
theorem noDotSegments_guard_rooted (p : Str) :
    NoDotSegments (if mem 46 p = true then normalizePath (rooted p) else p) := by
  split
  · exact noDotSegments_normalizePath (rooted p)
  · rename_i h
    exact noDotSegments_of_mem_false (by simpa using h)

theorem noDotSegments_cons_slash {p : Str} (h : NoDotSegments p) : NoDotSegments (47 :: p) := by
  intro s hs
  simp only [splitOn, ↓reduceIte, List.mem_cons] at hs
  rcases hs with rfl | hs
  · simp [dot, dotdot]
  · exact h s hs

/-- `p if p is empty or starts with '/' else '/' + p` -/
theorem noDotSegments_fixRoot {p : Str} (h : NoDotSegments p) : NoDotSegments (fixRoot p) := by
  unfold fixRoot
  split
  · exact h
  · exact h
  · exact noDotSegments_cons_slash h

theorem noDotSegments_ensure_slash {p : Str} : NoDotSegments p →
    NoDotSegments (match p with
      | [] => p
      | 47 :: _ => p
      | _ => 47 :: p) := by
  intro h
  have := noDotSegments_fixRoot h
  unfold fixRoot at this
  exact this

/-! ### the success path of `encodeUrl`, with the stored netloc -/

theorem encodeUrl_path (e : Env) (s : Str) (u : Url) (h : encodeUrl e s = .ok u) :
    ∃ p : Parts, splitUrl e.o s = .ok p ∧
      u.path = (if p.path.isEmpty then p.path else
        if !u.netloc.isEmpty && mem 46 (q e Gen.PATH_REQUOTER p.path) then normalizePath (q e Gen.PATH_REQUOTER p.path)
        else q e Gen.PATH_REQUOTER p.path) ∧
      (p.netloc = [] → u.netloc = []) := by
  obtain ⟨p, nl, pre, hp, hab, rfl⟩ := EagerLemmas.encodeUrl_ok h
  refine ⟨p, hp, rfl, fun hpn => ?_⟩
  rcases EagerLemmas.authBlock_ok hab with ⟨_, rfl, _⟩ | ⟨hne, _⟩
  · rfl
  · exact absurd hpn hne

/-! ### rooted paths after an authority -/

open ParseLemmas in
/-- after an authority the Appendix B path is empty or starts with '/' -/
theorem splitUrl_path_rooted (o : Oracles) (s : Str) (p : Parts) (h : splitUrl o s = .ok p)
    (hn : p.netloc ≠ []) : p.path = [] ∨ ∃ r, p.path = 47 :: r := by
  have hB := C07_split o s p h
  rw [appendixB_eq] at hB
  have h1 : p.netloc = (authOf (Rfc.schemeOf Gen.schemeChars (cleanUrl s)).2).1 :=
    congrArg Rfc.Parts5.authority hB
  have h2 : p.path = (tailOf (authOf (Rfc.schemeOf Gen.schemeChars (cleanUrl s)).2).2).1 :=
    congrArg Rfc.Parts5.path hB
  generalize (Rfc.schemeOf Gen.schemeChars (cleanUrl s)).2 = r1 at h1 h2
  rw [h2]
  unfold authOf at h1 ⊢
  split
  · rename_i r
    simp only [tailOf]
    cases hD : List.dropWhile (fun c => !Rfc.isDelim3 c) r with
    | nil => left; rfl
    | cons c t =>
      have hc := List.head?_dropWhile_not (fun c => !Rfc.isDelim3 c) r
      rw [hD] at hc
      simp only [List.head?_cons, Bool.not_eq_false'] at hc
      by_cases h47 : c = 47
      · subst h47
        right
        refine ⟨t.takeWhile (fun c => !Rfc.isDelim2 c), ?_⟩
        simp [Rfc.isDelim2]
      · left
        have : Rfc.isDelim2 c = true := by
          simp only [Rfc.isDelim3, Bool.or_eq_true, decide_eq_true_eq] at hc
          simp only [Rfc.isDelim2, Bool.or_eq_true, decide_eq_true_eq]
          rcases hc with (hc | hc) | hc
          · exact absurd hc h47
          · exact Or.inl hc
          · exact Or.inr hc
        simp [this]
  · simp only at h1
    exact absurd h1 hn

/-- a literal-safe '/' at the front stays at the front, on both backends, for any input -/
theorem quote_rooted (b : Backend) (t : QTab) (hsafe : t.safe 47 = true) (hqs : t.qs = false) (r : Str) :
    ∃ r', quote b t (47 :: r) = 47 :: r' := by
  cases b with
  | py =>
    simp only [quote, quotePy, utf8s, List.flatMap_cons]
    have hu : utf8 47 = [47] := by decide
    rw [hu]
    simp only [List.cons_append, List.nil_append]
    rw [pyLoop]
    simp [hsafe, hqs]
  | c =>
    simp only [quote, quoteC]
    have hs : stripSurr (47 :: r) = 47 :: stripSurr r := by simp [stripSurr, isSurrogate]
    rw [hs]
    have hw : cWriteOut t 47 = [47] := by simp [cWriteOut, hsafe, hqs]
    by_cases ha : allSafe t (47 :: stripSurr r) = true
    · rw [if_pos ha]; exact ⟨_, rfl⟩
    · rw [if_neg ha]
      by_cases hc : cChanged t (47 :: stripSurr r) = true
      · rw [if_pos hc, OutLangLemmas.cOut_cons_ne _ (by decide), hw]
        exact ⟨_, rfl⟩
      · rw [if_neg hc]; exact ⟨_, rfl⟩

theorem q_path_requoter_rooted (e : Env) (r : Str) : ∃ r', q e Gen.PATH_REQUOTER (47 :: r) = 47 :: r' :=
  quote_rooted e.b _ (by cases e.b <;> decide) (by cases e.b <;> rfl) r

theorem noDots_of_no46 {s : Str} (h : 46 ∉ s) : s ≠ dot ∧ s ≠ dotdot := by
  constructor
  · rintro rfl; exact h (by simp [dot])
  · rintro rfl; exact h (by simp [dotdot])

theorem noDots_base (u : Url) (h : NoDotSegments u.path) : NoDots (base u) :=
  fun s hs => h s (mem_base hs)

theorem mem_root' {n : Str} {L : List Str} {s : Str} (h : s ∈ root n L) : s = [] ∨ s ∈ L := mem_root h

theorem noDots_root (n : Str) {L : List Str} (h : NoDots L) : NoDots (root n L) := by
  intro s hs
  rcases mem_root hs with rfl | hs
  · simp [dot, dotdot]
  · exact h s hs

end EntryLemmas
end Yarl
