/-
  HostW.lean — the host as the library WRITES it into an authority.

  A stored authority is `authW user pw W port` (Lemmas/FixLemmas.lean) around a host text `W`.  The library writes a
  raw host `h` in two ways: as `bracket h` when `_encode_host` returns that form itself (`HostFix`: reg-names, IPv4
  and IPv6 literals), or always in brackets when `_encode_host` returns the bare text and `encode_url` puts the
  brackets back (`HostFixB`: IPvFuture and other bracketed text that is no IPv6 literal).  `HostW o W h` is the union.

  `HostW o W h ⇒ EagerLemmas.HostTxt W h ⇒ EagerLemmas.Reads W h` (`HostW.hostTxt`, `HostTxt.reads`): what `split_netloc`
  reads is stated on `Reads`, the form of the text on `HostTxt`, re-parsing on `HostW`.

  * the two cases of `StrTotal.rebracket` (`rebracket_wrap`, `rebracket_keep`);
  * `bracketCheck` with its two cases (`bracketCheck_v`, `bracketCheck_of_not_v`) and `checkBrackets_bracketCheck`
    (it is the check of `split_url`); `HostFixB`.
  * namespace `HostW`: what the two ways have in common (`ok`, `hchars`, `shape`, `step`, `hostTxt`, `reads`, `sub`,
    `ne_nil`, `wchars`).  These are all that `split_url`'s bracket check, `split_netloc`, the authority block of
    `encode_url` and the accessors use, so each of those is proved once, for both ways: `hostW_chars`,
    `hostW_checkBrackets`, `hostW_splitNetloc`, `hostW_hostinfo`, `hostW_netBlock`; together `hostW_netFix` (the
    authority is a `NetFix` text).  `net_of_reads` (the cache of a URL with such an authority) needs `Reads W h` only.
  * the input side: `requoteOpt_canon`, `userInfoOK_stored` (what the authority block stores for the userinfo of a
    Python string), `HostStep` (the host step of an entry point: `_encode_host`, then the brackets the input had, give
    a written host) and `netBlock_shapeW` (the authority block of `encode_url` on an input authority, given its
    `HostStep`).  The `HostStep`s themselves are `NetShape.hostStep_plain` and `BrHost.hostStep_brk`.
-/
import YarlProofs.Lemmas.FixLemmas
import YarlProofs.Lemmas.WfLemmas
namespace Yarl
open FixLemmas NetlocLemmas EagerLemmas

/-- the check `split_url` applies to the text between '[' and ']' (`checkBrackets`, YarlModel/Parse.lean): a text
    that starts with a lower-case 'v' must be an IPvFuture literal `v<hex>+.<char>+`; any other text must
    contain ':' -/
def bracketCheck (t : Str) : Bool := if t.take 1 = [118] then ipvFutureOk t else mem 58 t

theorem bracketCheck_v (r : Str) : bracketCheck (118 :: r) = ipvFutureOk (118 :: r) := rfl

theorem bracketCheck_of_not_v {t : Str} (hv : t.head? ≠ some 118) : bracketCheck t = mem 58 t := by
  cases t with
  | nil => rfl
  | cons x r =>
    have hx : ¬ ((x :: r).take 1 = [118]) := fun ht => hv (congrArg List.head? ht)
    exact if_neg hx

/-- the abstract form (the counterpart of `HostFix`): a host text that is written in brackets whatever it
    contains, passes the bracket check, and that `_encode_host` returns unchanged (WITHOUT brackets) -/
structure HostFixB (o : Oracles) (t : Str) : Prop where
  ok : HostOK t
  chars : ∀ c ∈ t, 33 ≤ c ∧ c < 128 ∧ Rfc.isDelim3 c = false
  check : bracketCheck t = true
  enc : encodeHost o t false = .ok t

/-- `W` is how the library itself writes the stored raw host `h`, so the authority block maps it to itself -/
inductive HostW (o : Oracles) : Str → Str → Prop
  | fix {h : Str} : HostFix o h → HostW o (bracket h) h
  | brk {t : Str} : HostFixB o t → HostW o ([91] ++ t ++ [93]) t

/-- without ':' a `HostFixB` host is also a `HostFix` host (the same text WITHOUT brackets is a reg-name) -/
theorem HostFixB.hostFix_of_no_colon {o : Oracles} {t : Str} (h : HostFixB o t) (h58 : 58 ∉ t) : HostFix o t :=
  ⟨h.ok, h.chars, fun hm => absurd hm h58, by rw [bracket_of_no_colon h58]; exact h.enc⟩

/-- the brackets are put back around a text without '[' that stood in brackets -/
theorem rebracket_wrap {r : Str} (h91 : 91 ∉ r) : StrTotal.rebracket true r = [91] ++ r ++ [93] := by
  unfold StrTotal.rebracket
  rw [mem_false_iff.mpr h91]
  rfl

/-- nothing is added to a text that has its '[', or that did not stand in brackets -/
theorem rebracket_keep {b : Bool} {r : Str} (h : b = true → 91 ∈ r) : StrTotal.rebracket b r = r := by
  unfold StrTotal.rebracket
  cases b with
  | false => rfl
  | true =>
    rw [mem_iff.mpr (h rfl)]
    rfl

namespace HostW
variable {o : Oracles} {W h : Str}

theorem ok (w : HostW o W h) : HostOK h := by
  cases w with
  | fix hh => exact hh.ok
  | brk hh => exact hh.ok

theorem hchars (w : HostW o W h) : ∀ c ∈ h, 33 ≤ c ∧ c < 128 ∧ Rfc.isDelim3 c = false := by
  cases w with
  | fix hh => exact hh.chars
  | brk hh => exact hh.chars

/-- bare (then without ':'), or in brackets that pass the bracket check of `split_url` -/
theorem shape (w : HostW o W h) : (W = h ∧ 58 ∉ h) ∨ (W = [91] ++ h ++ [93] ∧ bracketCheck h = true) := by
  cases w with
  | fix hh =>
    by_cases h58 : 58 ∈ h
    · refine Or.inr ⟨bracket_of_colon h58, ?_⟩
      rw [bracketCheck_of_not_v (hh.notV h58)]
      exact mem_iff.mpr h58
    · exact Or.inl ⟨bracket_of_no_colon h58, h58⟩
  | brk hh => exact Or.inr ⟨rfl, hh.check⟩

/-- the host step of the authority block gives `W` back: `_encode_host`, then the brackets the text had -/
theorem step (w : HostW o W h) : ∃ r, encodeHost o h false = .ok r ∧ StrTotal.rebracket (mem 91 W) r = W := by
  cases w with
  | fix hh =>
    exact ⟨_, hh.enc, rebracket_keep mem_iff.mp⟩
  | brk hh =>
    refine ⟨_, hh.enc, ?_⟩
    have h1 : mem 91 ([91] ++ h ++ [93]) = true := mem_iff.mpr (by simp)
    rw [h1]
    exact rebracket_wrap hh.ok.2.2.1

/-- the form of the text: bare, or in brackets -/
theorem hostTxt (w : HostW o W h) : EagerLemmas.HostTxt W h := by
  have hk := w.ok
  rcases w.shape with ⟨rfl, h58⟩ | ⟨rfl, _⟩
  · exact .inr ⟨rfl, h58, hk.2.2.1, hk.2.1⟩
  · exact .inl ⟨rfl, hk.2.2.2, hk.2.1⟩

theorem reads (w : HostW o W h) : Reads W h := w.hostTxt.reads

/-- what `host_subcomponent` shows is again a way of writing `h`: for `[v1.a]` it is the reg-name `v1.a` -/
theorem sub (w : HostW o W h) : HostW o (bracket h) h := by
  cases w with
  | fix hh => exact .fix hh
  | brk hh =>
    by_cases h58 : 58 ∈ h
    · rw [bracket_of_colon h58]
      exact .brk hh
    · exact .fix (hh.hostFix_of_no_colon h58)

theorem ne_nil (w : HostW o W h) : W ≠ [] := by
  rcases w.shape with ⟨rfl, _⟩ | ⟨rfl, _⟩
  · exact w.ok.1
  · simp

theorem wchars (w : HostW o W h) : ∀ c ∈ W, 33 ≤ c ∧ c < 128 ∧ Rfc.isDelim3 c = false := by
  rcases w.shape with ⟨rfl, _⟩ | ⟨rfl, _⟩
  · exact w.hchars
  · intro c hc
    simp only [List.mem_append, List.mem_cons, List.not_mem_nil, or_false] at hc
    rcases hc with (rfl | hc) | rfl
    · decide
    · exact w.hchars c hc
    · decide

end HostW

/-! ## the authority text around a written host -/

section
variable {e : Env} {user pw : Option Str} {W h : Str} {port : Option Nat}

theorem hostW_chars (hu : UserInfoOK e.b user pw) (w : HostW e.o W h) :
    ∀ c ∈ authW user pw W port, 33 ≤ c ∧ c < 128 ∧ Rfc.isDelim3 c = false :=
  authW_chars port hu w.wchars

/-- `bracketCheck` is the check `split_url` applies to the host of an authority written around a bracketed text -/
theorem checkBrackets_bracketCheck (t : Str) (port : Option Nat)
    (hu : ∀ s, user = some s → ∀ c ∈ s, c ≠ 91 ∧ c ≠ 93) (hw : ∀ s, pw = some s → ∀ c ∈ s, c ≠ 91 ∧ c ≠ 93)
    (h93 : 93 ∉ t) :
    checkBrackets (authW user pw ([91] ++ t ++ [93]) port) =
      if bracketCheck t then .ok () else .error .valueError := by
  rw [checkBrackets_authW_bracketed user pw t port hu hw h93]
  unfold bracketCheck
  split
  · rfl
  · cases mem 58 t
    · rfl
    · rfl

/-- `split_url`'s bracket check accepts the authority text -/
theorem hostW_checkBrackets (hu : UserInfoOK e.b user pw) (w : HostW e.o W h) :
    checkBrackets (authW user pw W port) = .ok () := by
  have hk := w.ok
  obtain ⟨hu1, hu2⟩ := userInfoOK_no_bracket hu
  rcases w.shape with ⟨rfl, _⟩ | ⟨rfl, hc⟩
  · have hall := authW_no_bracket (W := W) port hu1 hu2
      (fun c hc => ⟨fun e => hk.2.2.1 (e ▸ hc), fun e => hk.2.2.2 (e ▸ hc)⟩)
    exact checkBrackets_plain (mem_false_iff.mpr fun hm => (hall 91 hm).1 rfl)
      (mem_false_iff.mpr fun hm => (hall 93 hm).2 rfl)
  · rw [checkBrackets_bracketCheck h port hu1 hu2 hk.2.2.2, hc]
    rfl

/-- `split_netloc` (under any oracles) reads the parts of the authority text back -/
theorem hostW_splitNetloc (o : Oracles) (hu : UserOK user) {o' : Oracles} (w : HostW o' W h)
    (hp : ∀ p, port = some p → p ≤ 65535) :
    splitNetloc o (authW user pw W port) = .ok { user := user, password := pw, host := some h, port := port } := by
  have r := w.reads
  unfold authW
  rw [roundtrip_written o id user pw port hu r.h64 r.plain r.port hp, orNone_of_ne_nil w.ok.1]

/-- the text after the last '@' has a '[' exactly when the host is written in brackets -/
theorem hostW_hostinfo (w : HostW e.o W h) : mem 91 (rpartition 64 (authW user pw W port)).2.2 = mem 91 W := by
  rw [authW_hostinfo user pw port w.reads.h64]
  cases port with
  | none => rfl
  | some p =>
    have hd := Decimal.notMem_digits (Decimal.natToStr_digits p).2 91 (by omega)
    cases hb : mem 91 W with
    | true => exact mem_iff.mpr (by simp [hostPortStr, mem_iff.mp hb])
    | false => exact mem_false_iff.mpr (by simp [hostPortStr, mem_false_iff.mp hb, hd])

/-- the authority block of `encode_url` returns such an authority unchanged, with the cache `raw_host = h` -/
theorem hostW_netBlock (scheme : Str) (hu : UserInfoOK e.b user pw) (w : HostW e.o W h)
    (hp : ∀ p, port = some p → p ≤ 65535) :
    netBlock e scheme (authW user pw W port) = .ok (authW user pw W port, some (preOf user pw h port)) := by
  obtain ⟨r, henc, hkeep⟩ := w.step
  have := netBlock_authW e scheme hu (authW_ne_nil user pw w.ne_nil port)
    (hostW_splitNetloc e.o (userOK_of hu) w hp) rfl henc (by rw [hostW_hostinfo w]; exact hkeep)
  rwa [w.reads.unbr] at this

/-- an authority written around a written host is a `NetFix` text -/
theorem hostW_netFix (scheme : Str) (hu : UserInfoOK e.b user pw) (w : HostW e.o W h)
    (hp : ∀ p, port = some p → p ≤ 65535) :
    NetFix e scheme (authW user pw W port) (some (preOf user pw h port)) :=
  ⟨hostW_chars hu w, hostW_checkBrackets hu w, hostW_netBlock scheme hu w hp⟩

/-- the cache entries of a URL whose stored authority is `authW … W …`, pre-filled or derived, when `W` reads back as
    `h`: `NetlocLemmas.net_written` on a `Reads W h` (for a written host: `HostW.reads`) -/
theorem net_of_reads (u : Url) (hnet : u.netloc = authW user pw W port) (hu : UserOK user) (hr : Reads W h)
    (hne : h ≠ []) (hp : ∀ p, port = some p → p ≤ 65535)
    (hpre : u.pre = none ∨ u.pre = some (preOf user pw h port)) : net e u = .ok (preOf user pw h port) :=
  net_written hnet hu hr.h64 hr.plain hr.port hne hp hpre

end

/-! ## the input side: what the authority block writes from an input authority -/

/-- requoting a Python string gives canonical text of the REQUOTER -/
theorem requoteOpt_canon (e : Env) (x : Option Str) (hx : ∀ s, x = some s → PyStr s) :
    ∀ s, requoteOpt e x = some s → Canon (Gen.REQUOTER.tab e.b) s := by
  intro s hs
  cases x with
  | none => cases hs
  | some y =>
    simp only [requoteOpt, Option.map_some, Option.some.injEq] at hs
    subst hs
    split
    · rename_i hemp
      rw [isEmpty_eq_nil hemp]
      exact Canon.nil
    · exact run_canon e.b _ mem_REQUOTER rfl y (hx y rfl)

/-- what the constructor stores and caches for the userinfo of a Python string is canonical userinfo -/
theorem userInfoOK_stored (e : Env) {user pw : Option Str} (hu : ∀ x, user = some x → PyStr x)
    (hp : ∀ x, pw = some x → PyStr x) : UserInfoOK e.b (cachedUser e user) (requoteOpt e pw) := by
  refine ⟨fun x hx => ?_, requoteOpt_canon e pw hp⟩
  obtain ⟨h1, h2⟩ := WfLemmas.orNoneBind_some.mp hx
  exact ⟨h2, requoteOpt_canon e user hu x h1⟩

/-- The host step of an entry point on the input host `h0` under the input authority `n`: `_encode_host`, then the
    brackets the host part of `n` had, yield a written host `W` that reads back as `h`, with `K W h` (e.g.
    `W = bracket h ∧ HostFix o h`).  The constructor and `build(authority=)` take the step in the same way. -/
def HostStep (o : Oracles) (n h0 : Str) (K : Str → Str → Prop) : Prop :=
  ∀ r, encodeHost o h0 false = .ok r → ∃ W h, K W h ∧
    StrTotal.rebracket (mem 91 (rpartition 64 n).2.2) r = W ∧ unbracket W = h

/-- the authority block of `encode_url` on a non-empty input authority naming the host `h0`: the stored authority is
    `authW` around the written host with canonical userinfo, the cache holds the host as read back -/
theorem netBlock_shapeW {K : Str → Str → Prop} (e : Env) (scheme n0 : Str)
    (np : NetlocParts) (h0 : Str) (netloc : Str) (pre : Option NetPre) (hne : n0 ≠ []) (hpy : PyStr n0)
    (hsp : splitNetloc e.o n0 = .ok np) (hhost : np.host = some h0) (hstep : HostStep e.o n0 h0 K)
    (hb : netBlock e scheme n0 = .ok (netloc, pre)) :
    ∃ user pw W h, netloc = authW user pw W np.port ∧ UserInfoOK e.b user pw ∧ K W h ∧
      pre = some (preOf user pw h np.port) := by
  obtain ⟨np', host0, host1, hsp', hho, henc, rfl, rfl⟩ := netBlock_ok hne hb
  obtain rfl := Except.ok.inj (hsp'.symm.trans hsp)
  rw [hhost] at hho
  obtain rfl := Except.ok.inj hho
  obtain ⟨W, h, k, hW, hun⟩ := hstep host1 henc
  obtain ⟨hu, hp⟩ := WfLemmas.splitNetloc_pyStr e.o n0 hpy np' hsp
  refine ⟨_, _, W, h, ?_, userInfoOK_stored e hu hp, k, ?_⟩
  · rw [hW, makeNetloc_qf (q e Gen.QUOTER) id]
    rfl
  · rw [hW, hun]

end Yarl
