/-
  UnquoteEquiv.lean — the compiled unquoter and the pure-Python unquoter compute
  the same function.
-/
import YarlProofs.Lemmas.QuoteEquiv
import YarlProofs.Lemmas.Readback
namespace Yarl

theorem pyStr_singleton {c : Nat} (hc : c ≤ 0x10FFFF) : PyStr [c] := by
  intro x hx
  rw [List.mem_singleton.mp hx]
  exact hc

namespace UnquoteEquiv

/-- Everything the backend-equivalence proof needs to know about the two inner
    quoters of an `_Unquoter`.  If `quotePy_eq_quoteC` gains a hypothesis (e.g.
    `t.qs = true → t.safe 32 = false`): add one field per quoter here, pass them
    in `quote_single`, and add the same hypotheses to the anonymous constructor
    `⟨hq, hqq⟩` in `uqLoop_backend` / to `unquotePy_eq_unquoteC`.  Nothing else
    in this file looks inside `Hyps`. -/
structure Hyps (u : UTab) : Prop where
  hq : u.quoter.WF
  hqq : u.qsQuoter.WF
  hsp : u.quoter.qs = true → u.quoter.safe 32 = false
  hspq : u.qsQuoter.qs = true → u.qsQuoter.safe 32 = false

/-- the only place where the quoter equivalence is used -/
theorem quote_single {u : UTab} (H : Hyps u) (ch : Nat) (hc : ch ≤ 0x10FFFF) :
    quote .py u.quoter [ch] = quote .c u.quoter [ch] ∧
    quote .py u.qsQuoter [ch] = quote .c u.qsQuoter [ch] := by
  have hs : PyStr [ch] := pyStr_singleton hc
  exact ⟨quotePy_eq_quoteC u.quoter H.hq H.hsp [ch] hs, quotePy_eq_quoteC u.qsQuoter H.hqq H.hspq [ch] hs⟩

theorem uqEmit_backend {u : UTab} (H : Hyps u) (ch : Nat) (hc : ch ≤ 0x10FFFF) :
    uqEmit .py u ch = uqEmit .c u ch := by
  obtain ⟨h1, h2⟩ := quote_single H ch hc
  unfold uqEmit
  rw [h1, h2]

theorem uqLoop_backend_aux {u : UTab} (H : Hyps u) :
    ∀ (n : Nat) (s : Str), s.length ≤ n → ∀ (pend : List Nat) (ptxt : Str),
      uqLoop .py u pend ptxt s = uqLoop .c u pend ptxt s := by
  intro n
  induction n with
  | zero =>
    intro s hs pend ptxt
    match s, hs with
    | [], _ => simp only [uqLoop]
  | succ n ih =>
    intro s hs pend ptxt
    match s, hs with
    | [], _ => simp only [uqLoop]
    | c :: rest, hs =>
      have hr : rest.length ≤ n := by simp only [List.length_cons] at hs; omega
      -- the backends differ only in `uqEmit`, which is called on what the strict decoder returned
      have emit : ∀ {bs ch}, decodeBuf bs = .char ch → uqEmit .py u ch = uqEmit .c u ch :=
        fun hch => uqEmit_backend H _ (decodeBuf_char hch).2.1
      simp only [uqLoop]
      split
      · split
        · rename_i v d1 d2 rest' h
          have hr' : rest'.length ≤ n := by have := takeEscape_length h; omega
          split
          · rw [ih rest' hr']
          · rename_i ch hch
            rw [ih rest' hr', emit hch]
          · split
            · rw [ih rest' hr']
            · rename_i ch hch
              rw [ih rest' hr', emit hch]
            · rw [ih rest' hr']
        · rw [ih rest hr]
      · rw [ih rest hr]

end UnquoteEquiv

open UnquoteEquiv

theorem uqLoop_backend (u : UTab) (hq : u.quoter.WF) (hqq : u.qsQuoter.WF)
    (hsp : u.quoter.qs = true → u.quoter.safe 32 = false)
    (hspq : u.qsQuoter.qs = true → u.qsQuoter.safe 32 = false) (pend : List Nat) (ptxt s : Str) :
    uqLoop .py u pend ptxt s = uqLoop .c u pend ptxt s :=
  uqLoop_backend_aux ⟨hq, hqq, hsp, hspq⟩ s.length s (Nat.le_refl _) pend ptxt

theorem unquotePy_eq_unquoteC (u : UTab) (hq : u.quoter.WF) (hqq : u.qsQuoter.WF)
    (hsp : u.quoter.qs = true → u.quoter.safe 32 = false)
    (hspq : u.qsQuoter.qs = true → u.qsQuoter.safe 32 = false) (s : Str) :
    unquotePy u s = unquoteC u s := by
  unfold unquotePy unquoteC
  split
  · exact uqLoop_backend u hq hqq hsp hspq [] [] s
  · rename_i h
    exact Readback.uqLoop_of_not_changed .py u s (by simpa using h)

end Yarl
