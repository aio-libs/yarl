/-
  PathLemmas.lean — split / join and the stack algorithm of `_path.py`, for every module that works on paths.
  `splitOn` / `joinC` as inverses at ANY separator (`joinC_cons`, `splitOn_joinC`, `joinC_splitOn`, with
  `HostLemmas.flatC c` = every segment preceded by the separator), `normLoop` facts (`NoDots`, `step`, `trail`, `G`),
  the depth counter `DotMore.climbs` with what happens to the bottom of the stack (`DotMore.normLoop_bottom_eq`), and the
  simulation of RFC 3986 §5.2.4's buffer loop by the stack algorithm with the guard `C14_escapes` for rootless input.
  The simulation is proved once, with a slash-free text `P` under the stack in the output buffer (`rds_sim_pre`);
  `P = []` is the rooted path (`rds_sim`), `P` = the first segment of a rootless path gives §5.2.4 on ANY path
  (`rdsLoop_joinC`, `rds_eq`).
-/
import YarlModel
namespace Yarl.PathLemmas
open Yarl

/-! ### splitOn -/

theorem splitOn_ne_nil (c : Nat) (s : Str) : splitOn c s ≠ [] := by
  induction s with
  | nil => simp [splitOn]
  | cons x xs ih =>
    unfold splitOn
    split
    · simp
    · split <;> simp

theorem splitOn_cons_ne (c x : Nat) (xs : Str) (h : x ≠ c) {p : Str} {ps : List Str}
    (e : splitOn c xs = p :: ps) : splitOn c (x :: xs) = (x :: p) :: ps := by
  rw [splitOn.eq_2]
  simp [h, e]

theorem splitOn_of_not_mem (c : Nat) (s : Str) (h : c ∉ s) : splitOn c s = [s] := by
  induction s with
  | nil => simp [splitOn]
  | cons x xs ih =>
    have hx : x ≠ c := fun e => h (e ▸ List.mem_cons_self)
    have hxs : c ∉ xs := fun e => h (List.mem_cons_of_mem _ e)
    exact splitOn_cons_ne c x xs hx (ih hxs)

theorem splitOn_no_sep (c : Nat) (s : Str) : ∀ p ∈ splitOn c s, c ∉ p := by
  induction s with
  | nil => simp [splitOn]
  | cons x xs ih =>
    by_cases h : x = c
    · subst h
      simp only [splitOn, ↓reduceIte, List.mem_cons]
      rintro p (rfl | hp)
      · simp
      · exact ih p hp
    · obtain ⟨q, qs, e⟩ := List.exists_cons_of_ne_nil (splitOn_ne_nil c xs)
      rw [splitOn_cons_ne c x xs h e]
      rw [e] at ih
      intro p hp
      rcases List.mem_cons.1 hp with rfl | hp
      · intro hm
        rcases List.mem_cons.1 hm with rfl | hm
        · exact h rfl
        · exact ih _ List.mem_cons_self hm
      · exact ih p (List.mem_cons_of_mem _ hp)

theorem splitOn_sub (c : Nat) (s : Str) : ∀ p ∈ splitOn c s, ∀ x ∈ p, x ∈ s := by
  induction s with
  | nil => simp [splitOn]
  | cons x xs ih =>
    by_cases h : x = c
    · subst h
      simp only [splitOn, ↓reduceIte, List.mem_cons]
      rintro p (rfl | hp) y hy
      · simp at hy
      · exact Or.inr (ih p hp y hy)
    · obtain ⟨q, qs, e⟩ := List.exists_cons_of_ne_nil (splitOn_ne_nil c xs)
      rw [splitOn_cons_ne c x xs h e]
      rw [e] at ih
      intro p hp y hy
      rcases List.mem_cons.1 hp with rfl | hp
      · rcases List.mem_cons.1 hy with rfl | hy
        · exact List.mem_cons_self
        · exact List.mem_cons_of_mem _ (ih _ List.mem_cons_self y hy)
      · exact List.mem_cons_of_mem _ (ih p (List.mem_cons_of_mem _ hp) y hy)

theorem splitOn_append (c : Nat) (a b : Str) : splitOn c (a ++ c :: b) = splitOn c a ++ splitOn c b := by
  induction a with
  | nil => simp [splitOn]
  | cons x xs ih =>
    by_cases hx : x = c
    · subst hx
      simp [splitOn, ih]
    · obtain ⟨p, ps, e⟩ := List.exists_cons_of_ne_nil (splitOn_ne_nil c xs)
      rw [List.cons_append, splitOn_cons_ne c x xs hx e, splitOn_cons_ne c x _ hx (by rw [ih, e]; rfl)]
      rfl

theorem joinC_cons2 (c : Nat) (p q : Str) (ps : List Str) : joinC c (p :: q :: ps) = p ++ c :: joinC c (q :: ps) := by
  simp [joinC, joinSep]

end Yarl.PathLemmas

/-! ### split / join at any separator -/

namespace Yarl.HostLemmas
open Yarl

/-- `c ++ s₁ ++ c ++ s₂ ++ …` : every segment preceded by the separator. -/
def flatC (c : Nat) : List Str → Str
  | [] => []
  | s :: r => c :: s ++ flatC c r

@[simp] theorem flatC_nil (c : Nat) : flatC c [] = [] := rfl
@[simp] theorem flatC_cons (c : Nat) (s : Str) (r : List Str) : flatC c (s :: r) = c :: (s ++ flatC c r) := rfl

theorem flatC_append (c : Nat) (a b : List Str) : flatC c (a ++ b) = flatC c a ++ flatC c b := by
  induction a with
  | nil => rfl
  | cons s r ih => simp [ih]

theorem flatC_head (c : Nat) (l : List Str) : flatC c l = [] ∨ ∃ r, flatC c l = c :: r := by
  cases l with
  | nil => exact Or.inl rfl
  | cons s r => exact Or.inr ⟨_, rfl⟩

theorem flatC_eq_flatten (c : Nat) (l : List Str) : flatC c l = (l.map (c :: ·)).flatten := by
  induction l with
  | nil => rfl
  | cons s r ih => simp [ih]

@[simp] theorem joinC_nil (c : Nat) : joinC c [] = [] := rfl

end Yarl.HostLemmas

namespace Yarl.PathLemmas
open Yarl Yarl.HostLemmas

theorem joinC_cons {c : Nat} (s : Str) (rest : List Str) : joinC c (s :: rest) = s ++ flatC c rest := by
  induction rest generalizing s with
  | nil => simp [joinC, joinSep]
  | cons s' r ih =>
    have := ih s'
    simp only [joinC] at this ⊢
    simp [joinSep, this]

theorem flatC_eq_joinC (c : Nat) (l : List Str) (h : l ≠ []) : flatC c l = c :: joinC c l := by
  cases l with
  | nil => exact absurd rfl h
  | cons s r => simp [joinC_cons]

theorem splitOn_joinC {c : Nat} (segs : List Str) (hne : segs ≠ []) (h : ∀ p ∈ segs, c ∉ p) :
    splitOn c (joinC c segs) = segs := by
  induction segs with
  | nil => exact absurd rfl hne
  | cons p rest ih =>
    cases rest with
    | nil => exact splitOn_of_not_mem c p (h p (by simp))
    | cons q ps =>
      rw [joinC_cons2, splitOn_append, splitOn_of_not_mem c p (h p (by simp)),
        ih (by simp) (fun x hx => h x (by simp [hx]))]
      rfl

theorem joinC_append (c : Nat) (A B : List Str) (hA : A ≠ []) (hB : B ≠ []) :
    joinC c (A ++ B) = joinC c A ++ c :: joinC c B := by
  obtain ⟨a, A, rfl⟩ := List.exists_cons_of_ne_nil hA
  obtain ⟨b, B, rfl⟩ := List.exists_cons_of_ne_nil hB
  rw [List.cons_append, joinC_cons, joinC_cons, flatC_append, flatC_eq_joinC c (b :: B) (by simp), List.append_assoc]

theorem joinC_snoc (c : Nat) (S : List Str) (l : Str) (h : S ≠ []) : joinC c (S ++ [l]) = joinC c S ++ c :: l :=
  joinC_append c S [l] h (by simp)

theorem joinC_splitOn {c : Nat} (s : Str) : joinC c (splitOn c s) = s := by
  induction s with
  | nil => simp [splitOn, joinC, joinSep]
  | cons x xs ih =>
    by_cases h : x = c
    · subst h
      obtain ⟨q, qs, e⟩ := List.exists_cons_of_ne_nil (splitOn_ne_nil x xs)
      simp only [splitOn, ↓reduceIte]
      rw [joinC_cons]
      rw [e, joinC_cons] at ih
      rw [e]
      simp [ih]
    · obtain ⟨q, qs, e⟩ := List.exists_cons_of_ne_nil (splitOn_ne_nil c xs)
      rw [splitOn_cons_ne c x xs h e, joinC_cons]
      rw [e, joinC_cons] at ih
      simp [ih]

theorem flatC_splitOn (c : Nat) (p : Str) : flatC c (splitOn c p) = c :: p := by
  rw [flatC_eq_joinC _ _ (splitOn_ne_nil c p), joinC_splitOn]

/-! ### normLoop -/

def NoDots (l : List Str) : Prop := ∀ s ∈ l, s ≠ dot ∧ s ≠ dotdot

theorem normLoop_mem (acc segs : List Str) :
    ∀ s ∈ normLoop acc segs, s ∈ acc ∨ (s ∈ segs ∧ s ≠ dot ∧ s ≠ dotdot) := by
  induction segs generalizing acc with
  | nil => intro s hs; simp [normLoop] at hs; exact Or.inl hs
  | cons seg rest ih =>
    intro s hs
    unfold normLoop at hs
    split at hs
    · rcases ih _ s hs with h | ⟨h1, h2⟩
      · exact Or.inl (List.mem_of_mem_tail h)
      · exact Or.inr ⟨List.mem_cons_of_mem _ h1, h2⟩
    · split at hs
      · rcases ih _ s hs with h | ⟨h1, h2⟩
        · exact Or.inl h
        · exact Or.inr ⟨List.mem_cons_of_mem _ h1, h2⟩
      · rcases ih _ s hs with h | ⟨h1, h2⟩
        · rcases List.mem_cons.1 h with rfl | h
          · exact Or.inr ⟨List.mem_cons_self, by assumption, by assumption⟩
          · exact Or.inl h
        · exact Or.inr ⟨List.mem_cons_of_mem _ h1, h2⟩

theorem normLoop_noDots (acc segs : List Str) (h : NoDots segs) :
    normLoop acc segs = acc.reverse ++ segs := by
  induction segs generalizing acc with
  | nil => simp [normLoop]
  | cons seg rest ih =>
    have h1 := h seg List.mem_cons_self
    have h2 : NoDots rest := fun s hs => h s (List.mem_cons_of_mem _ hs)
    unfold normLoop
    simp [h1.1, h1.2, ih _ h2]

theorem normalizePathSegments_noDots (segs : List Str) (h : NoDots segs) :
    normalizePathSegments segs = segs := by
  unfold normalizePathSegments
  simp only [normLoop_noDots [] segs h, List.reverse_nil, List.nil_append]
  cases hl : segs.getLast? with
  | none => rfl
  | some l =>
    have hm : l ∈ segs := List.mem_of_getLast? hl
    have := h l hm
    simp [this.1, this.2]

/-- a segment of the result is a non-dot segment of the input, or the empty segment put behind a final dot segment -/
theorem mem_normalizePathSegments' {segs : List Str} {s : Str} (hs : s ∈ normalizePathSegments segs) :
    (s ∈ segs ∧ s ≠ dot ∧ s ≠ dotdot) ∨ s = [] := by
  have key : s ∈ normLoop [] segs ∨ s = [] := by
    unfold normalizePathSegments at hs
    split at hs
    · split at hs
      · rcases List.mem_append.1 hs with h | h
        · exact Or.inl h
        · exact Or.inr (by simpa using h)
      · exact Or.inl hs
    · exact Or.inl hs
  rcases key with h | h
  · rcases normLoop_mem [] segs s h with h | h
    · simp at h
    · exact Or.inl h
  · exact Or.inr h

theorem mem_normalizePathSegments {segs : List Str} {s : Str} (hs : s ∈ normalizePathSegments segs) :
    s ∈ segs ∨ s = [] :=
  (mem_normalizePathSegments' hs).imp_left And.left

theorem noDots_normalizePathSegments (segs : List Str) : NoDots (normalizePathSegments segs) := by
  intro s hs
  rcases mem_normalizePathSegments' hs with h | rfl
  · exact h.2
  · simp [dot, dotdot]

theorem normalizePathSegments_no_sep (segs : List Str) (h : ∀ p ∈ segs, 47 ∉ p) :
    ∀ p ∈ normalizePathSegments segs, 47 ∉ p := by
  intro s hs
  rcases mem_normalizePathSegments' hs with h' | rfl
  · exact h s h'.1
  · simp

/-- a path none of whose '/'-segments is "." or ".." is left alone by `normalize_path` -/
theorem normalizePath_noDots (p : Str) (h : NoDots (splitOn 47 p)) : normalizePath p = p := by
  unfold normalizePath
  split
  · rename_i rest
    have h' : NoDots (splitOn 47 rest) := by
      intro sg hsg
      apply h sg
      simp only [splitOn, ↓reduceIte, List.mem_cons]
      exact Or.inr hsg
    rw [normalizePathSegments_noDots _ h', joinC_splitOn]
  · rw [normalizePathSegments_noDots _ h, joinC_splitOn]

/-! ### RFC 3986 §5.2.4 -/
open Yarl.Rfc

theorem takeWhile_seg (s Y : Str) (hs : 47 ∉ s) (hY : Y = [] ∨ ∃ r, Y = 47 :: r) :
    (s ++ Y).takeWhile (· ≠ 47) = s := by
  induction s with
  | nil =>
    rcases hY with rfl | ⟨r, rfl⟩ <;> simp
  | cons x xs ih =>
    have hx : x ≠ 47 := fun h => hs (h ▸ List.mem_cons_self)
    have hxs : 47 ∉ xs := fun h => hs (List.mem_cons_of_mem _ h)
    have := ih hxs
    simp only [ne_eq, decide_not] at this
    simp [hx, this]

theorem dropWhile_seg (s Y : Str) (hs : 47 ∉ s) (hY : Y = [] ∨ ∃ r, Y = 47 :: r) :
    (s ++ Y).dropWhile (· ≠ 47) = Y := by
  induction s with
  | nil =>
    rcases hY with rfl | ⟨r, rfl⟩ <;> simp
  | cons x xs ih =>
    have hx : x ≠ 47 := fun h => hs (h ▸ List.mem_cons_self)
    have hxs : 47 ∉ xs := fun h => hs (List.mem_cons_of_mem _ h)
    have := ih hxs
    simp only [ne_eq, decide_not] at this
    simp [hx, this]

theorem rdsLoop_nil (fuel : Nat) (out : Str) : rdsLoop fuel [] out = out := by
  cases fuel <;> simp [rdsLoop]

/-- rule E: the input is `pre ++ s ++ Y` with `pre` an optional leading '/', `s` its first segment (slash-free, not a
    dot segment, non-empty when there is no leading '/') and `Y` empty or starting with '/'.
    `rw [rdsLoop]` with the equation of rule E asks that no earlier pattern matches: the input is not empty, and it
    does not begin as rule A ("../", "./"), B ("/./", "/."), C ("/../", "/..") or D (".", "..") says.  With a leading
    '/' rules A and D cannot match and B, C would make the first segment `s` a dot segment (`key`); without it B, C
    cannot match and A, D would. -/
theorem rdsLoop_E_gen (fuel : Nat) (pre s Y out : Str) (hpre : pre = [47] ∨ (pre = [] ∧ s ≠ []))
    (hs : 47 ∉ s) (hd : s ≠ dot) (hdd : s ≠ dotdot) (hY : Y = [] ∨ ∃ r, Y = 47 :: r) :
    rdsLoop (fuel + 1) (pre ++ s ++ Y) out = rdsLoop fuel Y (out ++ pre ++ s) := by
  -- the text up to the first '/' of `s ++ Y` is `s`
  have key : ∀ Z, s ++ Y = Z → s = Z.takeWhile (· ≠ 47) := fun Z e => e ▸ (takeWhile_seg s Y hs hY).symm
  rcases hpre with rfl | ⟨rfl, hs0⟩
  · have hfs : firstSegment (47 :: (s ++ Y)) = (47 :: s, Y) := by
      simp only [firstSegment]
      rw [takeWhile_seg s Y hs hY, dropWhile_seg s Y hs hY]
    have notNil : 47 :: (s ++ Y) = [] → False := by simp
    have notA₁ : ∀ r, 47 :: (s ++ Y) = 46 :: 46 :: 47 :: r → False := by simp
    have notA₂ : ∀ r, 47 :: (s ++ Y) = 46 :: 47 :: r → False := by simp
    have notB₁ : ∀ r, 47 :: (s ++ Y) = 47 :: 46 :: 47 :: r → False :=
      fun r e => hd (key (46 :: 47 :: r) (List.cons.inj e).2)
    have notB₂ : 47 :: (s ++ Y) = [47, 46] → False := fun e => hd (key [46] (List.cons.inj e).2)
    have notC₁ : ∀ r, 47 :: (s ++ Y) = 47 :: 46 :: 46 :: 47 :: r → False :=
      fun r e => hdd (key (46 :: 46 :: 47 :: r) (List.cons.inj e).2)
    have notC₂ : 47 :: (s ++ Y) = [47, 46, 46] → False := fun e => hdd (key [46, 46] (List.cons.inj e).2)
    have notD₁ : 47 :: (s ++ Y) = [46] → False := by simp
    have notD₂ : 47 :: (s ++ Y) = [46, 46] → False := by simp
    rw [List.append_assoc, List.singleton_append, rdsLoop.eq_11 _ _ _ notNil notA₁ notA₂ notB₁ notB₂ notC₁ notC₂ notD₁ notD₂,
      hfs, List.append_assoc]
    rfl
  · obtain ⟨x, xs, rfl⟩ := List.exists_cons_of_ne_nil hs0
    have hx : x ≠ 47 := fun e => hs (e ▸ List.mem_cons_self)
    have hfs : firstSegment (x :: xs ++ Y) = (x :: xs, Y) := by
      unfold firstSegment
      split
      · rename_i rest heq
        exact absurd (List.cons.inj heq).1 hx
      · rw [takeWhile_seg _ Y hs hY, dropWhile_seg _ Y hs hY]
    have notNil : x :: (xs ++ Y) = [] → False := by simp
    have notA₁ : ∀ r, x :: (xs ++ Y) = 46 :: 46 :: 47 :: r → False := fun r e => hdd (key _ e)
    have notA₂ : ∀ r, x :: (xs ++ Y) = 46 :: 47 :: r → False := fun r e => hd (key _ e)
    have notB₁ : ∀ r, x :: (xs ++ Y) = 47 :: 46 :: 47 :: r → False := by simp [hx]
    have notB₂ : x :: (xs ++ Y) = [47, 46] → False := by simp [hx]
    have notC₁ : ∀ r, x :: (xs ++ Y) = 47 :: 46 :: 46 :: 47 :: r → False := by simp [hx]
    have notC₂ : x :: (xs ++ Y) = [47, 46, 46] → False := by simp [hx]
    have notD₁ : x :: (xs ++ Y) = [46] → False := fun e => hd (key _ e)
    have notD₂ : x :: (xs ++ Y) = [46, 46] → False := fun e => hdd (key _ e)
    rw [List.nil_append, List.cons_append,
      rdsLoop.eq_11 _ _ _ notNil notA₁ notA₂ notB₁ notB₂ notC₁ notC₂ notD₁ notD₂, ← List.cons_append, hfs,
      List.append_nil]

theorem rdsLoop_E (fuel : Nat) (s : Str) (rest : List Str) (out : Str)
    (hs : 47 ∉ s) (hd : s ≠ dot) (hdd : s ≠ dotdot) :
    rdsLoop (fuel + 1) (flatC 47 (s :: rest)) out = rdsLoop fuel (flatC 47 rest) (out ++ 47 :: s) := by
  simpa using rdsLoop_E_gen fuel [47] s (flatC 47 rest) out (.inl rfl) hs hd hdd (flatC_head 47 rest)

/-- a list with a last element is its front followed by that element -/
theorem dropLast_snoc_getLast (L : List Str) (n : Str) (h : L.getLast? = some n) : L.dropLast ++ [n] = L := by
  have hne : L ≠ [] := by intro h0; rw [h0] at h; cases h
  have h2 := List.getLast?_eq_some_getLast hne
  rw [h] at h2
  have h3 := List.dropLast_concat_getLast hne
  rw [← Option.some.inj h2] at h3
  exact h3

theorem find_append (c : Nat) (a X : Str) (h : c ∉ a) : find c (a ++ c :: X) = some a.length := by
  induction a with
  | nil => simp [find]
  | cons x xs ih =>
    have hx : x ≠ c := fun e => h (e ▸ List.mem_cons_self)
    have hxs : c ∉ xs := fun e => h (List.mem_cons_of_mem _ e)
    simp [find, hx, ih hxs]

theorem drop_seg (a X : Str) : (a ++ 47 :: X).drop (a.length + 1) = X := by
  simp

theorem find_none_of_not_mem (c : Nat) (a : Str) (h : c ∉ a) : find c a = none := by
  induction a with
  | nil => rfl
  | cons x xs ih =>
    rw [List.mem_cons, not_or] at h
    simp [find, Ne.symm h.1, ih h.2]

/-- the output buffer holds a slash-free text `P` and then the stack `acc`: removing the last segment pops the stack,
    and on the EMPTY stack it removes `P` -/
theorem removeLastSegment_pre (P : Str) (hP : 47 ∉ P) (acc : List Str) (h : ∀ p ∈ acc, 47 ∉ p) :
    removeLastSegment (P ++ flatC 47 acc.reverse) = if acc = [] then [] else P ++ flatC 47 acc.tail.reverse := by
  cases acc with
  | nil =>
    have : find 47 P.reverse = none := find_none_of_not_mem 47 _ (by simpa using hP)
    simp [removeLastSegment, this]
  | cons a t =>
    have e : (P ++ flatC 47 (a :: t).reverse).reverse = a.reverse ++ 47 :: (P ++ flatC 47 t.reverse).reverse := by
      simp [flatC_append 47]
    have ha : 47 ∉ a.reverse := by simpa using h a List.mem_cons_self
    unfold removeLastSegment
    simp only [e, find_append 47 _ _ ha]
    rw [drop_seg]
    simp

/-- one iteration of the `for seg in segments` loop -/
def step (acc : List Str) (s : Str) : List Str :=
  if s = dotdot then acc.tail else if s = dot then acc else s :: acc

theorem step_dot (acc : List Str) : step acc dot = acc := by simp [step, dot, dotdot]
theorem step_dotdot (acc : List Str) : step acc dotdot = acc.tail := by simp [step]

theorem normLoop_cons (acc : List Str) (s : Str) (rest : List Str) :
    normLoop acc (s :: rest) = normLoop (step acc s) rest := by
  unfold step
  rw [normLoop]
  split
  · rfl
  · split <;> rfl

theorem step_no_sep (acc : List Str) (s : Str) (hs : 47 ∉ s) (hacc : ∀ p ∈ acc, 47 ∉ p) :
    ∀ p ∈ step acc s, 47 ∉ p := by
  unfold step
  intro p hp
  split at hp
  · exact hacc p (List.mem_of_mem_tail hp)
  · split at hp
    · exact hacc p hp
    · rcases List.mem_cons.1 hp with rfl | hp
      · exact hs
      · exact hacc p hp

/-- the extra empty segment (trailing slash) appended after the loop -/
def trail (segs : List Str) : List Str :=
  match segs.getLast? with
  | some l => if l = dot ∨ l = dotdot then [[]] else []
  | none => []

def G (acc segs : List Str) : List Str := normLoop acc segs ++ trail segs

theorem normalizePathSegments_eq_G (segs : List Str) : normalizePathSegments segs = G [] segs := by
  unfold normalizePathSegments G trail
  cases segs.getLast? with
  | none => simp
  | some l => by_cases h : l = dot ∨ l = dotdot <;> simp [h]

theorem G_cons (acc : List Str) (s s' : Str) (rest : List Str) :
    G acc (s :: s' :: rest) = G (step acc s) (s' :: rest) := by
  unfold G
  rw [normLoop_cons]
  simp [trail, List.getLast?_cons_cons]

theorem G_ne_nil (segs : List Str) : ∀ acc, segs ≠ [] → G acc segs ≠ [] := by
  induction segs with
  | nil => intro _ h; exact absurd rfl h
  | cons s rest ih =>
    intro acc _
    cases rest with
    | nil =>
      unfold G trail
      rw [normLoop_cons]
      by_cases h : s = dot ∨ s = dotdot
      · simp [h]
      · have h1 : s ≠ dotdot := fun e => h (Or.inr e)
        have h2 : s ≠ dot := fun e => h (Or.inl e)
        simp [step, h1, h2, normLoop]
    | cons s' r =>
      rw [G_cons]
      exact ih _ (by simp)

end Yarl.PathLemmas

/-- "the stack underflows": `d` is the current depth; true as soon as a ".." meets depth 0 -/
def Yarl.DotMore.climbs : Nat → List Str → Bool
  | _, [] => false
  | d, s :: rest =>
    if s = dotdot then (match d with | 0 => true | d' + 1 => climbs d' rest)
    else if s = dot then climbs d rest
    else climbs (d + 1) rest

namespace Yarl.PathLemmas
open Yarl Yarl.Rfc Yarl.DotMore Yarl.HostLemmas

theorem climbs_cons (d : Nat) (s : Str) (R : List Str) :
    climbs d (s :: R) = if s = dotdot then (match d with | 0 => true | d' + 1 => climbs d' R)
      else if s = dot then climbs d R else climbs (d + 1) R := by
  cases d <;> rfl

theorem climbs_step (acc : List Str) (s : Str) (R : List Str) (h : ¬ (s = dotdot ∧ acc = [])) :
    climbs acc.length (s :: R) = climbs (step acc s).length R := by
  rw [climbs_cons]
  unfold step
  by_cases h1 : s = dotdot
  · obtain ⟨a, t, rfl⟩ := List.exists_cons_of_ne_nil fun e => h ⟨h1, e⟩
    simp [h1]
  · by_cases h2 : s = dot
    · subst h2
      simp [h1]
    · simp [h1, h2]

/-- an element under the stack survives the loop exactly when no ".." climbs past it; if one does, the loop runs on
    as if the element had never been there -/
theorem _root_.Yarl.DotMore.normLoop_bottom_eq (x : Str) (segs : List Str) : ∀ acc : List Str,
    normLoop (acc ++ [x]) segs = if climbs acc.length segs then normLoop acc segs else x :: normLoop acc segs := by
  induction segs with
  | nil =>
    intro acc
    simp [normLoop, climbs]
  | cons s rest ih =>
    intro acc
    rw [normLoop_cons, normLoop_cons]
    unfold climbs step
    split
    · cases acc with
      | nil => rfl
      | cons a t => exact ih t
    · split
      · exact ih acc
      · exact ih (s :: acc)

/-- `G` with one element `x` at the bottom of the stack -/
theorem G_bottom (x : Str) (R : List Str) :
    G [x] R = if climbs 0 R then G [] R else x :: G [] R := by
  unfold G
  rw [show normLoop [x] R = _ from normLoop_bottom_eq x R []]
  cases climbs 0 R
  · rfl
  · rfl

/-- one round of rules B / C / E = one `normLoop` step (non-final segment); a ".." on the EMPTY stack also
    removes the slash-free text `P` below it -/
theorem rds_step_pre (fuel : Nat) (P s s' : Str) (rest acc : List Str) (hP : 47 ∉ P)
    (hs : 47 ∉ s) (hacc : ∀ p ∈ acc, 47 ∉ p) :
    rdsLoop (fuel + 1) (flatC 47 (s :: s' :: rest)) (P ++ flatC 47 acc.reverse)
      = rdsLoop fuel (flatC 47 (s' :: rest))
          (if s = dotdot ∧ acc = [] then [] else P ++ flatC 47 (step acc s).reverse) := by
  by_cases h1 : s = dotdot
  · subst h1
    rw [step_dotdot]
    simp only [flatC_cons, dotdot, List.cons_append, List.nil_append]
    rw [rdsLoop, removeLastSegment_pre P hP acc hacc]
    by_cases ha : acc = [] <;> simp [ha]
  · by_cases h2 : s = dot
    · subst h2
      rw [step_dot]
      simp only [flatC_cons, dot, List.cons_append, List.nil_append]
      rw [rdsLoop]
      simp [dotdot]
    · rw [rdsLoop_E _ _ _ _ hs h2 h1]
      simp [step, h1, h2, flatC_append 47]

theorem rdsLoop_slash (fuel : Nat) (out : Str) : rdsLoop (fuel + 1) [47] out = out ++ [47] := by
  simpa [rdsLoop_nil] using rdsLoop_E fuel [] [] out (by simp) (by simp [dot]) (by simp [dotdot])

/-- the final segment -/
theorem rds_last_pre (fuel : Nat) (P s : Str) (acc : List Str) (hP : 47 ∉ P)
    (hs : 47 ∉ s) (hacc : ∀ p ∈ acc, 47 ∉ p) :
    rdsLoop (fuel + 2) (flatC 47 [s]) (P ++ flatC 47 acc.reverse)
      = (if climbs acc.length [s] then [] else P) ++ flatC 47 (G acc [s]) := by
  unfold G trail
  rw [normLoop_cons]
  by_cases h1 : s = dotdot
  · subst h1
    rw [step_dotdot]
    simp only [flatC_cons, dotdot, List.cons_append, List.nil_append, flatC_nil]
    rw [rdsLoop, rdsLoop_slash, removeLastSegment_pre P hP acc hacc]
    cases acc <;> simp [normLoop, climbs, dotdot, flatC_append 47]
  · by_cases h2 : s = dot
    · subst h2
      rw [step_dot]
      simp only [flatC_cons, dot, List.cons_append, List.nil_append, flatC_nil]
      rw [rdsLoop, rdsLoop_slash]
      simp [normLoop, flatC_append 47, climbs, dot, dotdot]
    · rw [rdsLoop_E _ _ _ _ hs h2 h1, flatC_nil, rdsLoop_nil]
      simp [step, h1, h2, normLoop, flatC_append 47, climbs]

/-- the simulation: the RFC loop on `"/" ++ "/".join(segs)`, the output buffer holding a slash-free text `P`
    followed by the stack `acc`, computes what the stack algorithm computes; `P` stays in front unless a ".." pops
    below `acc` (`P = []`: the rooted case, where nothing can be lost). -/
theorem rds_sim_pre (segs : List Str) :
    ∀ (P : Str) (acc : List Str) (fuel : Nat), 47 ∉ P → (∀ p ∈ segs, 47 ∉ p) → (∀ p ∈ acc, 47 ∉ p) →
      (flatC 47 segs).length < fuel →
      rdsLoop fuel (flatC 47 segs) (P ++ flatC 47 acc.reverse)
        = (if climbs acc.length segs then [] else P) ++ flatC 47 (G acc segs) := by
  induction segs with
  | nil => intro P acc fuel _ _ _ _; simp [rdsLoop_nil, climbs, G, normLoop, trail]
  | cons s rest ih =>
    intro P acc fuel hP hsegs hacc hfuel
    have hs : 47 ∉ s := hsegs s List.mem_cons_self
    rw [flatC_cons] at hfuel
    simp only [List.length_cons, List.length_append] at hfuel
    cases rest with
    | nil =>
      obtain ⟨f, rfl⟩ : ∃ f, fuel = f + 2 := ⟨fuel - 2, by omega⟩
      exact rds_last_pre f P s acc hP hs hacc
    | cons s' r =>
      obtain ⟨f, rfl⟩ : ∃ f, fuel = f + 1 := ⟨fuel - 1, by omega⟩
      have hlen : (flatC 47 (s' :: r)).length < f := by omega
      have hsegs' : ∀ p ∈ s' :: r, 47 ∉ p := fun p hp => hsegs p (List.mem_cons_of_mem _ hp)
      rw [rds_step_pre f P s s' r acc hP hs hacc, G_cons]
      by_cases hesc : s = dotdot ∧ acc = []
      · obtain ⟨rfl, rfl⟩ := hesc
        -- the buffer is empty again: go on with the empty text at the bottom
        have := ih [] [] f (by simp) hsegs' (by simp) hlen
        simp only [List.reverse_nil, flatC_nil, List.append_nil, ite_self, List.nil_append] at this
        simp only [and_self, if_true, this, step_dotdot, List.tail_nil, List.length_nil]
        simp [climbs]
      · rw [if_neg hesc, ih P (step acc s) f hP hsegs' (step_no_sep acc s hs hacc) hlen,
          climbs_step acc s (s' :: r) hesc]

/-- the rooted case: nothing below the stack -/
theorem rds_sim (segs acc : List Str) (fuel : Nat) (hsegs : ∀ p ∈ segs, 47 ∉ p) (hacc : ∀ p ∈ acc, 47 ∉ p)
    (hfuel : (flatC 47 segs).length < fuel) :
    rdsLoop fuel (flatC 47 segs) (flatC 47 acc.reverse) = flatC 47 (G acc segs) := by
  simpa using rds_sim_pre segs [] acc fuel (by simp) hsegs hacc hfuel

end Yarl.PathLemmas

namespace Yarl
open Yarl.DotMore

/-- `C14_escapes segs`: skip the leading "." / ".." segments and the first other segment; in the rest, does a ".."
    meet depth 0 (`DotMore.climbs 0`)?  -/
def C14_escapes : List Str → Bool
  | [] => false
  | s :: R => if s = dot ∨ s = dotdot then C14_escapes R else climbs 0 R

/-- the condition on a path: `C14_escapes` of its '/'-segments -/
def C14_pathEscapes (m : Str) : Bool := C14_escapes (splitOn 47 m)

end Yarl

namespace Yarl.PathLemmas
open Yarl Yarl.Rfc Yarl.DotMore Yarl.HostLemmas

/-! ### an input that does not start with '/': rules A and D, then the simulation under the first segment -/

/-- rule A: a leading "./" or "../" is dropped, whatever the output buffer holds -/
theorem rdsLoop_A (fuel : Nat) (d t out : Str) (hd : d = dot ∨ d = dotdot) :
    rdsLoop (fuel + 1) (d ++ 47 :: t) out = rdsLoop fuel t out := by
  rcases hd with rfl | rfl <;> simp [dot, dotdot, rdsLoop]

/-- rule D: the input is "." or ".." -/
theorem rdsLoop_D (fuel : Nat) (d out : Str) (hd : d = dot ∨ d = dotdot) :
    rdsLoop (fuel + 1) d out = out := by
  rcases hd with rfl | rfl <;> simp [dot, dotdot, rdsLoop]

/-- a first segment that is not a dot segment is pushed, also when it is the only one -/
theorem G_cons_push (acc : List Str) (s : Str) (rest : List Str) (hd : s ≠ dot) (hdd : s ≠ dotdot) :
    G acc (s :: rest) = G (s :: acc) rest := by
  unfold G
  rw [normLoop_cons]
  cases rest <;> simp [step, trail, hd, hdd, List.getLast?_cons_cons]

/-- §5.2.4 on the '/'-join of ANY list of slash-free segments, against the stack algorithm -/
theorem rdsLoop_joinC (L : List Str) : ∀ fuel, (∀ p ∈ L, 47 ∉ p) → (joinC 47 L).length < fuel →
    rdsLoop fuel (joinC 47 L) [] = (if C14_escapes L then [47] else []) ++ joinC 47 (G [] L) := by
  induction L with
  | nil => intro _ _ _; exact rdsLoop_nil _ _
  | cons s rest ih =>
    intro fuel hsegs hfuel
    have hs : 47 ∉ s := hsegs s List.mem_cons_self
    have hrest : ∀ p ∈ rest, 47 ∉ p := fun p hp => hsegs p (List.mem_cons_of_mem _ hp)
    obtain ⟨f, rfl⟩ : ∃ f, fuel = f + 1 := ⟨fuel - 1, by omega⟩
    rw [joinC_cons] at hfuel ⊢
    by_cases hd : s = dot ∨ s = dotdot
    · have hstep : step [] s = [] := by rcases hd with rfl | rfl <;> simp [step, dot, dotdot]
      simp only [C14_escapes, hd, if_true]
      cases rest with
      | nil =>
        have hG : G [] [s] = [[]] := by
          unfold G trail
          rw [normLoop_cons, hstep]
          simp [normLoop, hd]
        rw [hG, flatC_nil, List.append_nil, rdsLoop_D f s [] hd]
        rfl
      | cons s' r =>
        rw [flatC_eq_joinC 47 _ (by simp)] at hfuel ⊢
        rw [rdsLoop_A f s _ [] hd, G_cons, hstep]
        apply ih f hrest
        simp only [List.length_append, List.length_cons] at hfuel
        omega
    · obtain ⟨hd1, hd2⟩ := not_or.1 hd
      simp only [C14_escapes, hd, if_false]
      rw [G_cons_push [] s rest hd1 hd2, G_bottom]
      -- rule E moves `s` to the output buffer (an empty `s` is there already)
      obtain ⟨f', hf', hE⟩ : ∃ f', (flatC 47 rest).length < f' ∧
          rdsLoop (f + 1) (s ++ flatC 47 rest) [] = rdsLoop f' (flatC 47 rest) s := by
        by_cases hs0 : s = []
        · subst hs0
          exact ⟨f + 1, hfuel, rfl⟩
        · have := List.length_pos_iff.2 hs0
          rw [List.length_append] at hfuel
          exact ⟨f, by omega, by simpa using rdsLoop_E_gen f [] s _ [] (.inr ⟨rfl, hs0⟩) hs hd1 hd2 (flatC_head 47 rest)⟩
      have := rds_sim_pre rest s [] f' hs hrest (by simp) hf'
      simp only [List.reverse_nil, flatC_nil, List.append_nil, List.length_nil] at this
      rw [hE, this]
      cases hc : climbs 0 rest
      · simp [joinC_cons]
      · simp [flatC_eq_joinC 47 _ (G_ne_nil rest [] (by rintro rfl; cases hc))]

/-- §5.2.4 `remove_dot_segments` on ANY path `m`, rooted or not, against the stack algorithm run on the
    '/'-segments of `m`: the two agree up to ONE leading '/', present exactly when `C14_pathEscapes m` -/
theorem rds_eq (m : Str) :
    removeDotSegments m
      = (if C14_pathEscapes m then [47] else []) ++ joinC 47 (normalizePathSegments (splitOn 47 m)) := by
  unfold removeDotSegments C14_pathEscapes
  have h := rdsLoop_joinC (splitOn 47 m) (m.length + 1) (splitOn_no_sep 47 m) (by rw [joinC_splitOn]; omega)
  rw [joinC_splitOn] at h
  rw [h, normalizePathSegments_eq_G]

theorem climbs_false_of_no_dotdot (R : List Str) : ∀ d, dotdot ∉ R → climbs d R = false := by
  induction R with
  | nil => intro d _; rfl
  | cons s R ih =>
    intro d h
    rw [List.mem_cons, not_or] at h
    rw [climbs_cons, if_neg (Ne.symm h.1)]
    split <;> exact ih _ h.2

theorem escapes_false_of_no_dotdot (L : List Str) (h : dotdot ∉ L) : C14_escapes L = false := by
  induction L with
  | nil => rfl
  | cons s R ih =>
    rw [List.mem_cons, not_or] at h
    unfold C14_escapes
    split
    · exact ih h.2
    · exact climbs_false_of_no_dotdot R 0 h.2

/-- a segment of a path without '.' is not a dot segment -/
theorem noDots_splitOn_of_no_dot (q : Str) (hq : 46 ∉ q) : NoDots (splitOn 47 q) := fun s hs =>
  ⟨by rintro rfl; exact hq (splitOn_sub 47 q _ hs 46 (by simp [dot])),
   by rintro rfl; exact hq (splitOn_sub 47 q _ hs 46 (by simp [dotdot]))⟩

/-- §5.2.4 leaves ANY path without a '.' (rooted or rootless) unchanged -/
theorem rds_no_dot_any (p : Str) (h : 46 ∉ p) : removeDotSegments p = p := by
  have hnd := noDots_splitOn_of_no_dot p h
  rw [rds_eq, C14_pathEscapes, escapes_false_of_no_dotdot _ fun hm => (hnd _ hm).2 rfl,
    normalizePathSegments_noDots _ hnd, joinC_splitOn]
  rfl

end Yarl.PathLemmas
