/-
  HumanReach.lean — helper lemmas for C18Reach.lean: a modifier of the public API, applied with DECODED arguments to a
  URL object that stores the encodings of decoded components (`HumanMore.Stores`), gives a URL object that stores the
  encodings of the (updated) decoded components.  Here: `with_password`, `with_host`, `with_port`, `origin`,
  `with_scheme`, `with_path`, `extend_query`, `update_query`, `without_query_params`, `with_name`, `with_suffix`,
  `parent`, `joinpath` (`with_fragment`, `with_query`, `with_user` are in Lemmas/HumanMore.lean: `HumanMore.stores_with…`).
  On the way: the decoded descriptions `pathArgTail`, `nameTail`, `lastSeg`, `stem`, `parentTail`, `joinPathD` of what
  the path modifiers store; maps that act piecewise between the dots of a name (`R12a.DotHom`, used by C06More3.lean
  too).  Last: `URL.build(authority=…)` for an authority text assembled from decoded pieces (`build_assembled`).
-/
import YarlProofs.Lemmas.HumanMore
import YarlProofs.C13More
import YarlProofs.C12Url
import YarlProofs.C01Reach
import YarlProofs.C15Entry
namespace Yarl
namespace HumanReach

open HumanLemmas HumanFull HumanMore QueryUrl QsLemmas NetlocLemmas PathAlg PathLemmas PathMore

/-! ## the netloc modifiers -/

section net
variable (e : Env) (u : Url) (user pw : Option Str) (H : Str) (port : Option Nat)
  (p : Str) (kvs : List (Str × Str)) (f : Str) (st : Stores e u user pw H port p kvs f)
  (hu : UText user) (hune : ∀ s, user = some s → s ≠ []) (hH : HostOK H)
  (hport : ∀ x, port = some x → x ≤ 65535)
include st hu hune hH hport

/-- `with_password(pw')` (`None` removes the password, `""` stores the empty password) -/
theorem stores_withPassword (pw' : Option Str) :
    ∃ v, withPassword e u pw' = .ok v ∧ v.scheme = u.scheme ∧ Stores e v user pw' H port p kvs f := by
  obtain ⟨hne, hN⟩ := stores_net e u user pw H port p kvs f st hu hune hH hport
  exact ⟨_, AuthMod.withPassword_of_net hne hN pw', rfl, remake_netloc e u _ _ H port, fun pr h => (by cases h), st.path,
    st.query, st.fragment⟩

/-- `with_host(h')` for a host `h'` that `_encode_host` stores as `H'` -/
theorem stores_withHost (h' H' : Str) (hne : h' ≠ []) (henc : encodeHost e.o h' true = .ok (bracket H')) :
    ∃ v, withHost e u h' = .ok v ∧ v.scheme = u.scheme ∧ Stores e v user pw H' port p kvs f := by
  obtain ⟨hnl, hN⟩ := stores_net e u user pw H port p kvs f st hu hune hH hport
  exact ⟨_, AuthMod.withHost_of_net hnl hN hne henc, rfl, remake_netloc e u _ _ H' port, fun pr h => (by cases h), st.path,
    st.query, st.fragment⟩

/-- `with_port(port')`: the port given is stored AS IS (also the scheme's default port, also 0); `None` removes it -/
theorem stores_withPort (port' : Option Nat) (hr : ∀ x, port' = some x → x ≤ 65535) :
    ∃ v, withPort e u (port'.map Int.ofNat) 0 = .ok v ∧ v.scheme = u.scheme ∧
      Stores e v user pw H port' p kvs f := by
  obtain ⟨hnl, hN⟩ := stores_net e u user pw H port p kvs f st hu hune hH hport
  have hp : ∀ i, port'.map Int.ofNat = some i → 0 ≤ i ∧ i ≤ 65535 := by
    intro i hi
    obtain ⟨n, rfl, rfl⟩ := Option.map_eq_some_iff.mp hi
    exact ⟨Int.natCast_nonneg n, Int.ofNat_le.mpr (hr n rfl)⟩
  have hm : (port'.map Int.ofNat).map Int.toNat = port' := by
    cases port' <;> rfl
  refine ⟨_, AuthMod.withPort_of_net hnl hN hp, rfl, ?_, fun pr h => (by cases h), st.path, st.query, st.fragment⟩
  rw [hm]
  exact remake_netloc e u _ _ H port'

/-- `origin()`: user, password, path, query and fragment are dropped; host and port are kept -/
theorem stores_origin (hsc : u.scheme ≠ []) :
    ∃ v, origin e u = .ok v ∧ v.scheme = u.scheme ∧ Stores e v none none H port [] [] [] := by
  obtain ⟨hne, hN⟩ := stores_net e u user pw H port p kvs f st hu hune hH hport
  rw [AuthMod.origin_eq, if_neg hne, if_neg hsc]
  by_cases h64 : 64 ∈ u.netloc
  · rw [if_pos h64, hN]
    exact ⟨_, rfl, rfl, makeNetloc_qf (q e Gen.QUOTER) id none none (some (bracket H)) port, fun pr h => (by cases h),
      Or.inr ⟨rfl, rfl⟩, rfl, rfl⟩
  · -- no '@' in the netloc: there is neither a user nor a password
    have hnone : user = none ∧ pw = none := by
      have h64' := h64
      rw [st.netloc, FixLemmas.authText_eq] at h64'
      have hpre : 64 ∉ FixLemmas.userPrefix (user.map (q e Gen.QUOTER)) (pw.map (q e Gen.QUOTER)) :=
        fun hm => h64' (List.mem_append_left _ hm)
      cases user with
      | none =>
        cases pw with
        | none => exact ⟨rfl, rfl⟩
        | some w => exact absurd (by simp [FixLemmas.userPrefix]) hpre
      | some us =>
        exfalso
        cases pw with
        | some w => exact hpre (by simp [FixLemmas.userPrefix])
        | none =>
          have hne : (q e Gen.QUOTER us).isEmpty = false :=
            isEmpty_false (show q e Gen.QUOTER us ≠ [] from
              run_ne_nil Gen.QUOTER (by decide) rfl e.b us (hu us rfl).1 (hu us rfl).2 (hune us rfl))
          exact hpre (by simp [FixLemmas.userPrefix, hne])
    obtain ⟨rfl, rfl⟩ := hnone
    rw [if_neg h64]
    split
    · rename_i hall
      exact ⟨u, rfl, rfl, st.netloc, st.pre, Or.inr ⟨hall.1, rfl⟩, hall.2.1, hall.2.2⟩
    · exact ⟨_, rfl, rfl, st.netloc, fun pr h => (by cases h), Or.inr ⟨rfl, rfl⟩, rfl, rfl⟩

end net

/-! ## scheme, path, query -/

section mods
variable (e : Env) (u : Url) (user pw : Option Str) (H : Str) (port : Option Nat)
  (p : Str) (kvs : List (Str × Str)) (f : Str) (st : Stores e u user pw H port p kvs f) (hH : H ≠ [])
include st hH

theorem netloc_ne : u.netloc.isEmpty = false := st.netloc_ne hH

/-- `with_scheme(SC)` for a scheme text in any case: stored lower-case; the netloc — also a port that is the
    default of the NEW scheme — is kept as it is -/
theorem stores_withScheme (SC : Str) (hSC : SchemeText SC) :
    ∃ v, withScheme e u SC = .ok v ∧ v.scheme = lower SC ∧ Stores e v user pw H port p kvs f := by
  have hnl := netloc_ne e u user pw H port p kvs f st hH
  refine ⟨fromParts (lower SC) u.netloc u.path u.query u.fragment, ?_, rfl,
    ⟨st.netloc, fun pr h => (by cases h), st.path, st.query, st.fragment⟩⟩
  unfold withScheme
  simp only [lowerAny_schemeText e hSC, hnl, bind, Except.bind, Bool.false_and, Bool.false_eq_true, if_false]
  rfl

/-- the decoded path (without the leading "/") that `with_path(s)` stores: `s` made rooted, dot segments removed -/
def pathArgTail : Str → Str
  | [] => []
  | 47 :: r => normTail r
  | c :: r => normTail (c :: r)

omit st hH in
/-- `with_path` makes its argument rooted first (`ensureSlash`); from there on it stores what `build` stores -/
theorem pathArgTail_eq (s : Str) : pathArgTail s = pathTail (ensureSlash s) := by
  cases s with
  | nil => rfl
  | cons c r =>
    by_cases hc : c = 47
    · subst hc
      rfl
    · have h1 : pathArgTail (c :: r) = normTail (c :: r) := by simp [pathArgTail]
      have h2 : ensureSlash (c :: r) = 47 :: c :: r := by simp [ensureSlash, hc]
      rw [h1, h2]
      rfl

omit st hH in
theorem pathArgTail_good {s : Str} (hs : PyStr s) (hn : NoSurrogate s) :
    PyStr (47 :: pathArgTail s) ∧ NoSurrogate (47 :: pathArgTail s) ∧
      normalizePath (47 :: pathArgTail s) = 47 :: pathArgTail s := by
  rw [pathArgTail_eq]
  apply pathTail_good
  unfold ensureSlash
  split
  · exact Or.inl rfl
  · exact Or.inr ⟨_, rfl, hs, hn⟩
  · exact Or.inr ⟨_, rfl, (good_cons_slash ⟨hs, hn⟩).1, (good_cons_slash ⟨hs, hn⟩).2⟩

end mods

/-! ## the query modifiers -/

theorem qtext_append (b : Backend) (A B : List (Str × Str)) (hA : A ≠ []) (hB : B ≠ []) :
    qtext b (A ++ B) = qtext b A ++ [38] ++ qtext b B := by
  unfold qtext
  rw [List.map_append, PathLemmas.joinC_append 38 _ _ (by simpa using hA) (by simpa using hB)]
  simp

theorem getLast?_append_ne {α : Type} (a b : List α) (h : b ≠ []) : (a ++ b).getLast? = b.getLast? := by
  rw [List.getLast?_append]
  cases hb : b.getLast? with
  | none => simp_all
  | some x => simp

theorem qtext_last (b : Backend) (A : List (Str × Str)) (hg : GoodPairs A) : (qtext b A).getLast? ≠ some 38 := by
  rcases List.eq_nil_or_concat A with rfl | ⟨init, x, rfl⟩
  · simp [qtext]
  · rw [List.concat_eq_append] at hg ⊢
    have hx : 38 ∉ pairText b x := pairText_no_amp b x (hg x (by simp)).1.1 (hg x (by simp)).2.1
    have hne : pairText b x ≠ [] := by simp [pairText]
    have hlast : (qtext b (init ++ [x])).getLast? = (pairText b x).getLast? := by
      by_cases hi : init = []
      · subst hi; simp [qtext, joinC, joinSep]
      · rw [qtext_append b init [x] hi (by simp)]
        have : qtext b [x] = pairText b x := by simp [qtext, joinC, joinSep]
        rw [this, getLast?_append_ne _ _ hne]
    rw [hlast]
    intro h
    exact hx (List.mem_of_getLast? h)

section qmods
variable (e : Env) (u : Url) (user pw : Option Str) (H : Str) (port : Option Nat)
  (p : Str) (kvs : List (Str × Str)) (f : Str) (st : Stores e u user pw H port p kvs f) (hg : GoodPairs kvs)
include st hg

/-- `extend_query(a)` for an argument that renders to the text of the pairs `kvs'`: they are appended -/
theorem stores_extendQuery (a : QArg) (kvs' : List (Str × Str))
    (ha : getStrQuery e.b a = .ok (some (qtext e.b kvs'))) :
    ∃ v, extendQuery e u a = .ok v ∧ v.scheme = u.scheme ∧ Stores e v user pw H port p (kvs ++ kvs') f := by
  by_cases hk' : kvs' = []
  · subst hk'
    refine ⟨u, ?_, rfl, by simpa using st⟩
    unfold extendQuery
    rw [ha]
    rfl
  · refine ⟨_, extendQuery_of e u a _ ha (qtext_ne_nil e.b kvs' hk'), rfl,
      ⟨st.netloc, fun pr h => (by cases h), st.path, ?_, st.fragment⟩⟩
    show (if (!u.query.isEmpty) = true then _ else _) = _
    rw [st.query]
    by_cases hk : kvs = []
    · subst hk; simp [qtext]
    · have hne := isEmpty_false (qtext_ne_nil e.b kvs hk)
      simp only [hne, Bool.not_false, if_true, if_neg (qtext_last e.b kvs hg)]
      exact (qtext_append e.b kvs kvs' hk hk').symm

/-- `update_query(pairs)`: `MultiDict(old pairs).update(new pairs)` -/
theorem stores_updateQuery (kvs' : List (Str × Str)) (hg' : GoodPairs kvs') :
    ∃ v, updateQuery e u (.pairs (strItems kvs')) = .ok v ∧ v.scheme = u.scheme ∧
      Stores e v user pw H port p (mdUpdate kvs kvs') f := by
  have hqp : queryPairs u = kvs := by
    unfold queryPairs; rw [st.query]; exact parse_qtext e.b kvs hg
  cases kvs' with
  | nil =>
    refine ⟨fromParts u.scheme u.netloc u.path u.query u.fragment, rfl, rfl,
      ⟨st.netloc, fun pr h => (by cases h), st.path, ?_, st.fragment⟩⟩
    rw [C12_update_nil]; exact st.query
  | cons x xs =>
    rw [(updateQuery_stored e u (strItems (x :: xs)) (x :: xs) (singleValued_strItems _) (expandItems_strItems _)
      (List.cons_ne_nil _ _)).1, hqp]
    exact ⟨_, rfl, rfl, ⟨st.netloc, fun pr h => (by cases h), st.path, rfl, st.fragment⟩⟩

/-- `without_query_params(*names)`: the pairs whose key is named are removed -/
theorem stores_withoutQueryParams (names : List Str) :
    ∃ v, withoutQueryParams e u names = .ok v ∧ v.scheme = u.scheme ∧
      Stores e v user pw H port p (kvs.filter (fun kv => !names.contains kv.1)) f := by
  have hqp : queryPairs u = kvs := by
    unfold queryPairs; rw [st.query]; exact parse_qtext e.b kvs hg
  rw [C12_without_query_params_removes, hqp]
  split
  · rename_i hemp
    have hnil := List.filter_eq_nil_iff.mp (List.isEmpty_iff.mp hemp)
    have hself : kvs.filter (fun kv => !names.contains kv.1) = kvs := by
      rw [List.filter_eq_self]
      intro kv hkv
      by_cases hn : kv.1 ∈ names
      · exact absurd (by simp only [List.any_eq_true, decide_eq_true_eq]; exact ⟨kv, hkv, rfl⟩) (hnil kv.1 hn)
      · simp [hn]
    rw [hself]
    exact ⟨u, rfl, rfl, st⟩
  · exact ⟨_, withQuery_of e u _ _ (getStrQuery_strItems e.b _), rfl,
      ⟨st.netloc, fun pr h => (by cases h), st.path, rfl, st.fragment⟩⟩

end qmods

/-! ## the path modifiers: `with_name`, `with_suffix`, `parent`, `joinpath` -/

/-- PATH_QUOTER as a character map -/
abbrev pathEnc (e : Env) (s : Str) : Str := s.flatMap (wq (Gen.PATH_QUOTER.tab e.b))

theorem withRawName_pre (u : Url) (nm : Str) (kq kf : Bool) (v : Url) (h : withRawName u nm kq kf = .ok v) :
    v.pre = none := by
  unfold withRawName at h
  obtain ⟨x, _, h⟩ := bind_ok h
  cases h; rfl

theorem withRawName_total (u : Url) (nm : Str) (kq kf : Bool) (hnl : u.netloc.isEmpty = false) :
    ∃ v, withRawName u nm kq kf = .ok v := by
  unfold withRawName
  simp only [hnl, Bool.not_false, if_true, bind, Except.bind, pure, Except.pure]
  exact ⟨_, rfl⟩

/-- the decoded path (without the leading "/") after `with_name(nm)`: the last segment is replaced -/
def nameTail (p nm : Str) : Str := joinC 47 ((splitOn 47 p).dropLast ++ [nm])

/-- the last segment of the decoded path: the decoded `name` -/
def lastSeg (p : Str) : Str := ((splitOn 47 p).getLast?).getD []

/-- the name without its suffix -/
def stem (nm : Str) : Str := nm.take (nm.length - (sfx nm).length)

/-- the decoded path (without the leading "/") after `parent` -/
def parentTail (p : Str) : Str := joinC 47 (splitOn 47 p).dropLast

theorem stem_sub (nm : Str) : ∀ c ∈ stem nm, c ∈ nm := fun _ hc => List.mem_of_mem_take hc

theorem segs_nameList (p nm : Str) (h47 : 47 ∉ nm) : Segs ((splitOn 47 p).dropLast ++ [nm]) :=
  segs_append (segs_dropLast (segs_splitOn p)) (segs_single h47)

theorem nameTail_mem (p nm : Str) : ∀ c ∈ nameTail p nm, c = 47 ∨ c ∈ p ∨ c ∈ nm := by
  intro c hc
  rcases HostLemmas.mem_joinC hc with rfl | ⟨seg, hseg, hcs⟩
  · exact Or.inl rfl
  · rcases List.mem_append.mp hseg with h | h
    · exact Or.inr (Or.inl (splitOn_sub 47 p seg (List.dropLast_subset _ h) c hcs))
    · simp only [List.mem_singleton] at h; subst h; exact Or.inr (Or.inr hcs)

theorem noDots_tail_of_norm {p : Str} (hnorm : normalizePath (47 :: p) = 47 :: p) : NoDots (splitOn 47 p) := by
  have := EntryLemmas.noDotSegments_normalizePath (47 :: p)
  rw [hnorm] at this
  intro s hs
  exact this s (by simp [splitOn, hs])

theorem norm_of_noDots {p : Str} (h : NoDots (splitOn 47 p)) : normalizePath (47 :: p) = 47 :: p := by
  apply FixLemmas.normalizePath_noDotSegs
  intro s hs
  simp only [splitOn, if_true, List.mem_cons] at hs
  rcases hs with rfl | hs
  · simp [dot, dotdot]
  · exact h s hs

theorem nameTail_norm (p nm : Str) (hnorm : normalizePath (47 :: p) = 47 :: p) (h47 : 47 ∉ nm)
    (hd : nm ≠ dot ∧ nm ≠ dotdot) : normalizePath (47 :: nameTail p nm) = 47 :: nameTail p nm := by
  apply norm_of_noDots
  unfold nameTail
  rw [splitOn_joinC _ (by simp) (segs_nameList p nm h47)]
  intro s hs
  rcases List.mem_append.mp hs with h | h
  · exact noDots_tail_of_norm hnorm s (List.dropLast_subset _ h)
  · simp only [List.mem_singleton] at h; subst h; exact hd

theorem parentTail_mem (p : Str) : ∀ c ∈ parentTail p, c = 47 ∨ c ∈ p := by
  intro c hc
  rcases HostLemmas.mem_joinC hc with rfl | ⟨seg, hseg, hcs⟩
  · exact Or.inl rfl
  · exact Or.inr (splitOn_sub 47 p seg (List.dropLast_subset _ hseg) c hcs)

theorem parentTail_norm (p : Str) (hnorm : normalizePath (47 :: p) = 47 :: p) :
    normalizePath (47 :: parentTail p) = 47 :: parentTail p := by
  apply norm_of_noDots
  unfold parentTail
  by_cases hne : (splitOn 47 p).dropLast = []
  · rw [hne]; intro s hs; simp [joinC, joinSep, splitOn] at hs; subst hs; simp [dot, dotdot]
  · rw [splitOn_joinC _ hne (segs_dropLast (segs_splitOn p))]
    intro s hs
    exact noDots_tail_of_norm hnorm s (List.dropLast_subset _ hs)

theorem getLast?_splitOn (p : Str) : (splitOn 47 p).getLast? = some (lastSeg p) := by
  unfold lastSeg
  cases h : (splitOn 47 p).getLast? with
  | none => exact absurd (List.getLast?_eq_none_iff.mp h) (PathLemmas.splitOn_ne_nil 47 p)
  | some l => rfl

theorem lastSeg_mem (p : Str) : lastSeg p ∈ splitOn 47 p :=
  List.mem_of_getLast? (getLast?_splitOn p)

section sfxmap
variable {f : Nat → Str} (hf : SepMap f)
include hf

theorem dot_mem_flatMap (s : Str) : 46 ∈ s.flatMap f ↔ 46 ∈ s := by
  constructor
  · intro h
    obtain ⟨c, hc, h46⟩ := List.mem_flatMap.mp h
    by_cases h1 : c = 46
    · exact h1 ▸ hc
    · by_cases h2 : c = 47
      · subst h2; rw [hf.slash] at h46; simp at h46
      · exact absurd h46 (hf.other c h2 h1).2.1
  · intro h
    exact List.mem_flatMap.mpr ⟨46, h, by rw [hf.dot]; simp⟩

end sfxmap

end HumanReach

/-! ### maps that act piecewise between the dots of a name

  `DotHom g`: `g` keeps every '.' and maps the empty text, and only it, to the empty text; `Clean g s`: it creates no
  '.' inside the dot-free pieces of `s`.  Two instances: a character map that fixes '.' (`dotHom_flatMap`, always
  clean) and the unquoter of `name` / `suffix` (C06More3.lean; clean when the raw text has no "%2E"). -/

namespace R12a
open HumanReach HumanFull PathAlg PathLemmas PathMore

structure DotHom (g : Str → Str) : Prop where
  nil : g [] = []
  mid : ∀ x r, g (x ++ 46 :: r) = g x ++ 46 :: g r
  ne : ∀ s, s ≠ [] → g s ≠ []

def Clean (g : Str → Str) (s : Str) : Prop := ∀ p ∈ splitOn 46 s, 46 ∉ g p

section DotHomSec
variable {g : Str → Str} (hg : DotHom g)
include hg

theorem DotHom.dot_cons (p : Str) : g (46 :: p) = 46 :: g p := by
  have := hg.mid [] p
  rw [hg.nil] at this
  simpa using this

theorem DotHom.eq_nil_iff (s : Str) : g s = [] ↔ s = [] :=
  ⟨fun h => Classical.byContradiction fun hs => hg.ne s hs h, fun h => h ▸ hg.nil⟩

omit hg in
theorem clean_of_app {x y : Str} (h : Clean g (x ++ 46 :: y)) : Clean g x ∧ Clean g y := by
  unfold Clean at h ⊢
  rw [PathLemmas.splitOn_append] at h
  exact ⟨fun p hp => h p (List.mem_append_left _ hp), fun p hp => h p (List.mem_append_right _ hp)⟩

omit hg in
theorem clean_nodot {s : Str} (h : 46 ∉ s) (hc : Clean g s) : 46 ∉ g s := by
  apply hc; rw [PathLemmas.splitOn_of_not_mem 46 s h]; simp

theorem sfx_hom (n : Str) (hc : Clean g n) : sfx (g n) = g (sfx n) := by
  by_cases hm : 46 ∈ n
  · obtain ⟨a, t, rfl, ht⟩ := exists_last 46 n hm
    have ht' : 46 ∉ g t := clean_nodot ht (clean_of_app hc).2
    rw [hg.mid, sfx_last _ _ ht', sfx_last _ _ ht]
    by_cases hcnd : a ≠ [] ∧ t ≠ []
    · rw [if_pos hcnd, if_pos ⟨fun h => hcnd.1 ((hg.eq_nil_iff a).1 h), fun h => hcnd.2 ((hg.eq_nil_iff t).1 h)⟩,
        hg.dot_cons]
    · rw [if_neg hcnd, if_neg (fun h => hcnd ⟨fun h0 => h.1 ((hg.eq_nil_iff a).2 h0),
        fun h0 => h.2 ((hg.eq_nil_iff t).2 h0)⟩), hg.nil]
  · rw [sfx_no_dot n hm, sfx_no_dot _ (clean_nodot hm hc), hg.nil]

theorem hom_stem_sfx (n : Str) : g n = g (stem n) ++ g (sfx n) := by
  have h2 : stem n ++ sfx n = n := stem_append_sfx n
  by_cases h0 : sfx n = []
  · rw [h0, List.append_nil] at h2
    rw [h0, hg.nil, List.append_nil, h2]
  · obtain ⟨t, ht⟩ := sfx_head n h0
    conv => lhs; rw [← h2, ht, hg.mid]
    rw [ht, hg.dot_cons]

theorem stem_hom (n : Str) (hc : Clean g n) : stem (g n) = g (stem n) := by
  have h1 : stem (g n) ++ sfx (g n) = g n := stem_append_sfx (g n)
  rw [sfx_hom hg n hc] at h1
  exact List.append_cancel_right (h1.trans (hom_stem_sfx hg n))

end DotHomSec

theorem dotHom_flatMap {f : Nat → Str} (hf : SepMap f) : DotHom (fun s : Str => s.flatMap f) where
  nil := rfl
  mid := fun x r => by simp [List.flatMap_append, List.flatMap_cons, hf.dot]
  ne := fun s hs h => hs ((flatMap_eq_nil hf s).1 h)

theorem clean_flatMap {f : Nat → Str} (hf : SepMap f) (s : Str) : Clean (fun s : Str => s.flatMap f) s := by
  intro p hp h
  exact splitOn_no_sep 46 s p hp ((dot_mem_flatMap hf p).1 h)

end R12a

namespace HumanReach
open HumanLemmas HumanFull HumanMore QueryUrl QsLemmas NetlocLemmas PathAlg PathLemmas PathMore

/-! ### suffix, stem, `fixRoot`, `base`, `root` of an encoded path are the encodings of those of the decoded path -/

section sfxmap
variable {f : Nat → Str} (hf : SepMap f)
include hf

/-- the raw suffix of the encoded name is the encoding of the suffix of the decoded name -/
theorem sfx_flatMap (nm : Str) : sfx (nm.flatMap f) = (sfx nm).flatMap f :=
  R12a.sfx_hom (R12a.dotHom_flatMap hf) nm (R12a.clean_flatMap hf nm)

theorem stem_flatMap (nm : Str) : stem (nm.flatMap f) = (stem nm).flatMap f :=
  R12a.stem_hom (R12a.dotHom_flatMap hf) nm (R12a.clean_flatMap hf nm)

theorem fixRoot_flatMap (x : Str) : fixRoot (x.flatMap f) = (fixRoot x).flatMap f := by
  cases x with
  | nil => rfl
  | cons c r =>
    by_cases hc : c = 47
    · subst hc
      simp [fixRoot, List.flatMap_cons, hf.slash]
    · have hne := sep_ne_nil hf c
      have h47 := sep_no47 hf c hc
      obtain ⟨y, ys, hy⟩ := List.exists_cons_of_ne_nil hne
      have hy47 : y ≠ 47 := fun h => h47 (by rw [hy, h]; simp)
      have e1 : fixRoot (c :: r) = 47 :: c :: r := by simp [fixRoot, hc]
      rw [e1]
      simp [List.flatMap_cons, hf.slash, hy, fixRoot, hy47]

theorem stripTrail_flatMap (l : List Str) :
    stripTrail (l.map (fun s => s.flatMap f)) = (stripTrail l).map (fun s => s.flatMap f) :=
  stripTrail_map _ (fun x => flatMap_eq_nil hf x) l

theorem base_map (u d : Url) (hp : u.path = d.path.flatMap f) :
    base u = (base d).map (fun s => s.flatMap f) := by
  unfold base
  have he : u.path.isEmpty = d.path.isEmpty := by
    rw [hp]
    cases hd : d.path with
    | nil => rfl
    | cons c r =>
      have : (c :: r).flatMap f ≠ [] := fun h => by simpa using (flatMap_eq_nil hf (c :: r)).mp h
      rw [isEmpty_false this]; rfl
  rw [he]
  split
  · rfl
  · rw [hp, splitOn_flatMap hf, stripTrail_flatMap hf]

theorem root_map (n n' : Str) (hn : n.isEmpty = n'.isEmpty) (L : List Str) :
    root n (L.map (fun s => s.flatMap f)) = (root n' L).map (fun s => s.flatMap f) := by
  unfold root
  have h1 : (L.map (fun s => s.flatMap f)).isEmpty = L.isEmpty := by cases L <;> rfl
  have h2 : decide ((L.map (fun s => s.flatMap f)).head? ≠ some []) = decide (L.head? ≠ some []) := by
    cases L with
    | nil => rfl
    | cons a r =>
      simp only [List.map_cons, List.head?_cons, ne_eq, Option.some.injEq, flatMap_eq_nil hf]
  rw [hn, h1, h2]
  split <;> simp

/-- `_make_child` on encoded segments is the encoding of `_make_child` on the decoded segments -/
theorem childOf_path_map (u d : Url) (hn : u.netloc.isEmpty = d.netloc.isEmpty)
    (hp : u.path = d.path.flatMap f) (X : List Str) (nn : Bool) :
    (childOf u (X.map (fun s => s.flatMap f)) nn).path = ((childOf d X nn).path).flatMap f := by
  have hM : root u.netloc (base u ++ X.map (fun s => s.flatMap f)) =
      (root d.netloc (base d ++ X)).map (fun s => s.flatMap f) := by
    rw [base_map hf u d hp, ← List.map_append, root_map hf _ _ hn]
  unfold childOf
  simp only [hM, hn]
  split
  · simp only [fromParts, joinC_map hf]
  · simp only [fromParts, normalizePathSegments_map hf, joinC_map hf, fixRoot_flatMap hf]

end sfxmap

/-- what `with_path` stores under an authority for a non-empty argument: the argument made rooted, quoted, dot segments
    removed — the same as `build` (`stored_path`) -/
theorem withPath_stored (e : Env) (u : Url) (hnl : u.netloc.isEmpty = false) (s : Str) (hs : PyStr s)
    (hn : NoSurrogate s) (kq kf : Bool) :
    (withPath e u s false kq kf).path = if s.isEmpty then [] else q e Gen.PATH_QUOTER (normalizePath (ensureSlash s)) := by
  have hf := sepMap_wq e.b
  rw [withPath_eq]
  simp only [fromParts, hnl, Bool.not_false, Bool.true_and]
  cases hs0 : s with
  | nil => simp [q_nil, mem, ensureSlash]
  | cons c r =>
    rw [← hs0]
    have hne : s ≠ [] := by rw [hs0]; simp
    have hg : PyStr (ensureSlash s) ∧ NoSurrogate (ensureSlash s) := by
      rw [hs0]
      unfold ensureSlash
      split
      · exact ⟨hs0 ▸ hs, hs0 ▸ hn⟩
      · exact ⟨hs0 ▸ hs, hs0 ▸ hn⟩
      · exact good_cons_slash ⟨hs0 ▸ hs, hs0 ▸ hn⟩
    obtain ⟨t, ht⟩ : ∃ t, ensureSlash s = 47 :: t := by
      rw [ensureSlash_of_ne_nil hne]
      obtain ⟨t, ht, _⟩ := rooted_eq_cons s
      exact ⟨t, ht⟩
    -- quoting commutes with making rooted
    have hQ : ensureSlash (q e Gen.PATH_QUOTER s) = q e Gen.PATH_QUOTER (ensureSlash s) := by
      rw [q_path_flatMap e s hs hn, q_path_flatMap e _ hg.1 hg.2]
      exact fixRoot_flatMap hf s
    have hQne : q e Gen.PATH_QUOTER s ≠ [] := C13_path_quoter_nonempty e s hs hn hne
    have hr : rooted (q e Gen.PATH_QUOTER s) = ensureSlash (q e Gen.PATH_QUOTER s) := (ensureSlash_of_ne_nil hQne).symm
    obtain ⟨r, hr1, hr2⟩ := rooted_eq_cons (q e Gen.PATH_QUOTER s)
    have hm : mem 46 (ensureSlash (q e Gen.PATH_QUOTER s)) = mem 46 (q e Gen.PATH_QUOTER s) := by
      rw [← hr, hr1]
      rcases hr2 with h | h
      · rw [h]
      · rw [h]
        simp [mem]
    -- … so the stored path is the one `build` stores for the rooted argument
    have hsp := stored_path e t (ht ▸ hg.1) (ht ▸ hg.2)
    rw [← ht, ← hQ, hm] at hsp
    rw [isEmpty_false hne, ← hsp, hr]
    simp only [Bool.false_eq_true, if_false]
    split
    · obtain ⟨r', hr'⟩ := C15_rooted r
      rw [← hr, hr1, hr']
      rfl
    · rfl

/-- `with_path(s)` (`encoded=False`) for ANY decoded text `s` — empty, rooted or not, dot segments allowed;
    `keep_query` / `keep_fragment` keep or drop query and fragment -/
theorem stores_withPath (e : Env) (u : Url) (user pw : Option Str) (H : Str) (port : Option Nat)
    (p : Str) (kvs : List (Str × Str)) (f : Str) (st : Stores e u user pw H port p kvs f) (hH : H ≠ [])
    (s : Str) (hs : PyStr s) (hn : NoSurrogate s) (kq kf : Bool) :
    Stores e (withPath e u s false kq kf) user pw H port (pathArgTail s)
      (if kq then kvs else []) (if kf then f else []) := by
  have hq : (if kq then u.query else []) = qtext e.b (if kq then kvs else []) := by
    cases kq
    · rfl
    · exact st.query
  have hfr : (if kf then u.fragment else []) =
      (if (if kf then f else []).isEmpty then (if kf then f else []) else
        q e Gen.FRAGMENT_QUOTER (if kf then f else [])) := by
    cases kf
    · rfl
    · exact st.fragment
  refine ⟨st.netloc, fun pr h => (by cases h), ?_, hq, hfr⟩
  rw [withPath_stored e u (st.netloc_ne hH) s hs hn kq kf, pathArgTail_eq]
  cases s with
  | nil => exact Or.inr ⟨rfl, rfl⟩
  | cons c r =>
    left
    obtain ⟨t, ht, _⟩ := rooted_eq_cons (c :: r)
    rw [ensureSlash_of_ne_nil (by simp), ht]
    rfl

theorem parent_pre (u : Url) : (parent u).pre = none ∨ parent u = u := by
  unfold parent
  split
  · split
    · exact Or.inl rfl
    · exact Or.inr rfl
  · exact Or.inl rfl

/-! ### `joinpath(*ps)` on decoded segments -/

/-- the decoded segments contributed by the arguments of `joinpath`: every argument split at "/", a trailing empty
    segment of a non-last argument dropped -/
def decSegs : List Str → List Str
  | [] => []
  | [a] => splitOn 47 a
  | a :: r :: rest => stripTrail (splitOn 47 a) ++ decSegs (r :: rest)

theorem decSegs_eq (e : Env) : ∀ ps : List Str, decSegs ps = argSegs e true ps := by
  intro ps
  induction ps with
  | nil => rfl
  | cons a ps ih =>
    cases ps with
    | nil => rfl
    | cons b r => rw [decSegs, argSegs, ih]; rfl

/-- a URL object with an authority and the DECODED path `P`: `joinpath` is computed on it -/
def twin (P : Str) : Url := fromParts [] [47] P [] []

/-- the decoded path of `u.joinpath(*ps)` for a URL with decoded path `P` ("" or rooted) -/
def joinPathD (P : Str) (ps : List Str) : Str :=
  (childOf (twin P) (decSegs ps) (ps.any (fun a => mem 46 a))).path

theorem argSegs_false_map (e : Env) : ∀ ps : List Str, (∀ a ∈ ps, PyStr a ∧ NoSurrogate a) →
    argSegs e false ps = (decSegs ps).map (fun s => s.flatMap (wq (Gen.PATH_QUOTER.tab e.b))) := by
  have hf := sepMap_wq e.b
  intro ps
  induction ps with
  | nil => intro _; rfl
  | cons a ps ih =>
    intro hg
    have ha := hg a (by simp)
    have hq : argText e false a = a.flatMap (wq (Gen.PATH_QUOTER.tab e.b)) := by
      simp only [argText, Bool.false_eq_true, if_false]
      exact q_path_flatMap e a ha.1 ha.2
    cases ps with
    | nil => simp only [argSegs, decSegs, hq, splitOn_flatMap hf]
    | cons b r =>
      rw [argSegs, decSegs, hq, splitOn_flatMap hf, stripTrail_flatMap hf,
        ih (fun x hx => hg x (List.mem_cons_of_mem _ hx)), List.map_append]

theorem argDots_false_eq (e : Env) (ps : List Str) (hg : ∀ a ∈ ps, PyStr a ∧ NoSurrogate a) :
    argDots e false ps = ps.any (fun a => mem 46 a) := by
  have hf := sepMap_wq e.b
  unfold argDots
  have key : ∀ l : List Str, (∀ a ∈ l, PyStr a ∧ NoSurrogate a) →
      l.any (fun p => mem 46 (argText e false p)) = l.any (fun a => mem 46 a) := by
    intro l
    induction l with
    | nil => intro _; rfl
    | cons a l ih =>
      intro hl
      have ha := hl a (by simp)
      have h1 : mem 46 (argText e false a) = mem 46 a := by
        simp only [argText, Bool.false_eq_true, if_false]
        rw [q_path_flatMap e a ha.1 ha.2, Bool.eq_iff_iff, mem_eq, mem_eq]
        simp only [decide_eq_true_eq]
        exact dot_mem_flatMap hf a
      simp only [List.any_cons, h1, ih (fun x hx => hl x (List.mem_cons_of_mem _ hx))]
  exact key ps hg

theorem childOf_fields (u : Url) (X : List Str) (nn : Bool) :
    (childOf u X nn).scheme = u.scheme ∧ (childOf u X nn).netloc = u.netloc ∧ (childOf u X nn).query = [] ∧
      (childOf u X nn).fragment = [] ∧ (childOf u X nn).pre = none := by
  unfold childOf
  split <;> exact ⟨rfl, rfl, rfl, rfl, rfl⟩

theorem twin_netloc (P : Str) : (twin P).netloc.isEmpty = false := rfl

/-- the decoded path of the child is "" or rooted -/
theorem joinPathD_shape (P : Str) (ps : List Str) (hne : ps ≠ []) :
    joinPathD P ps = [] ∨ ∃ t, joinPathD P ps = 47 :: t := by
  have hX : decSegs ps ≠ [] := by rw [decSegs_eq ⟨.py, Oracles.empty⟩]; exact argSegs_ne_nil _ _ ps hne
  have hL : base (twin P) ++ decSegs ps ≠ [] := by simp [hX]
  obtain ⟨R, hR⟩ := root_head (twin P).netloc _ (twin_netloc P) hL
  unfold joinPathD childOf
  simp only [hR, twin_netloc, Bool.false_or]
  split
  · simp only [fromParts]
    cases R with
    | nil => left; simp [joinC, joinSep]
    | cons b r => right; exact ⟨_, by rw [PathLemmas.joinC_cons2 47]; rfl⟩
  · simp only [fromParts]
    generalize joinC 47 (normalizePathSegments ([] :: R)) = y
    cases y with
    | nil => left; rfl
    | cons c r =>
      right
      by_cases hc : c = 47
      · subst hc; exact ⟨r, by simp [fixRoot]⟩
      · exact ⟨c :: r, by simp [fixRoot, hc]⟩

/-- one argument without '.' on a rooted old path: the segments are appended -/
theorem joinPathD_one (p s : Str) (hdot : 46 ∉ s) : joinPathD (47 :: p) [s] = 47 :: childTail p s := by
  have hne : stripTrail (splitOn 47 p) ++ splitOn 47 s ≠ [] := by simp [PathLemmas.splitOn_ne_nil]
  have hb : base (twin (47 :: p)) = [] :: stripTrail (splitOn 47 p) := by
    simp only [base, twin, fromParts, List.isEmpty_cons, Bool.false_eq_true, if_false, splitOn, if_true]
    exact stripTrail_cons_nil _ (PathLemmas.splitOn_ne_nil 47 p)
  have h46 : mem 46 s = false := mem_false_iff.mpr hdot
  unfold joinPathD childOf
  simp only [decSegs, List.any_cons, List.any_nil, h46, Bool.or_self, Bool.not_false, Bool.or_true, if_true, hb,
    fromParts, List.cons_append]
  simp only [root, twin, fromParts, List.isEmpty_cons, Bool.not_false, List.head?_cons, ne_eq, not_true_eq_false,
    decide_false, Bool.and_false, Bool.false_eq_true, if_false]
  rw [PathLemmas.joinC_cons, List.nil_append, PathLemmas.flatC_eq_joinC 47 _ hne]
  rfl

theorem mem_decSegs (ps : List Str) (x : Str) (hx : x ∈ decSegs ps) : ∃ a ∈ ps, x ∈ splitOn 47 a := by
  rw [decSegs_eq ⟨.py, Oracles.empty⟩] at hx
  obtain ⟨a, ha, h⟩ := mem_argSegs _ _ ps x hx
  exact ⟨a, ha, by simpa [argText] using h⟩

theorem segs_decSegs (ps : List Str) : Segs (decSegs ps) := by
  rw [decSegs_eq ⟨.py, Oracles.empty⟩]; exact segs_argSegs _ _ ps

theorem mem_fixRoot {x : Str} {c : Nat} (h : c ∈ fixRoot x) : c = 47 ∨ c ∈ x := by
  unfold fixRoot at h
  split at h
  · exact Or.inr h
  · exact Or.inr h
  · rcases List.mem_cons.mp h with rfl | h
    · exact Or.inl rfl
    · exact Or.inr h

/-- the characters of the child's decoded path come from the old path and the arguments -/
theorem joinPathD_mem (P : Str) (ps : List Str) :
    ∀ c ∈ joinPathD P ps, c = 47 ∨ c ∈ P ∨ ∃ a ∈ ps, c ∈ a := by
  have hM : ∀ s ∈ root (twin P).netloc (base (twin P) ++ decSegs ps), ∀ c ∈ s, c ∈ P ∨ ∃ a ∈ ps, c ∈ a := by
    intro s hs c hc
    rcases mem_root hs with rfl | hs
    · cases hc
    · rcases List.mem_append.mp hs with h | h
      · exact Or.inl (splitOn_sub 47 _ s (mem_base h) c hc)
      · obtain ⟨a, ha, hsa⟩ := mem_decSegs ps s h
        exact Or.inr ⟨a, ha, splitOn_sub 47 a s hsa c hc⟩
  intro c hc
  unfold joinPathD childOf at hc
  simp only [twin_netloc, Bool.false_or] at hc
  split at hc
  · simp only [fromParts] at hc
    rcases HostLemmas.mem_joinC hc with rfl | ⟨s, hs, hcs⟩
    · exact Or.inl rfl
    · exact Or.inr (hM s hs c hcs)
  · simp only [fromParts] at hc
    rcases mem_fixRoot hc with rfl | hc
    · exact Or.inl rfl
    · rcases HostLemmas.mem_joinC hc with rfl | ⟨s, hs, hcs⟩
      · exact Or.inl rfl
      · rcases PathLemmas.mem_normalizePathSegments hs with hs | rfl
        · exact Or.inr (hM s hs c hcs)
        · cases hcs

/-- the child's decoded path has no dot segments -/
theorem joinPathD_noDots (P : Str) (ps : List Str) (hP : NoDotSegments P) : NoDotSegments (joinPathD P ps) := by
  have hsegs : Segs (root (twin P).netloc (base (twin P) ++ decSegs ps)) :=
    segs_root _ (segs_append (segs_base _) (segs_decSegs ps))
  unfold joinPathD childOf
  simp only [twin_netloc, Bool.false_or]
  split
  · rename_i hnn
    simp only [fromParts]
    apply EntryLemmas.noDotSegments_joinC _ hsegs
    apply EntryLemmas.noDots_root
    apply noDots_append (EntryLemmas.noDots_base (twin P) hP)
    intro s hs
    obtain ⟨a, ha, hsa⟩ := mem_decSegs ps s hs
    have h46 : mem 46 a = false := by
      have : ps.any (fun a => mem 46 a) = false := by simpa using hnn
      rw [List.any_eq_false] at this
      simpa using this a ha
    exact EntryLemmas.noDots_of_no46 (fun hm => mem_false_iff.mp h46 (splitOn_sub 47 a s hsa 46 hm))
  · simp only [fromParts]
    exact EntryLemmas.noDotSegments_fixRoot (EntryLemmas.noDotSegments_joinC _
      (normalizePathSegments_no_sep _ hsegs) (noDots_normalizePathSegments _))

/-- the decoded stored path: "" when the stored path is empty, `"/" ++ p` otherwise -/
def pathD (u : Url) (p : Str) : Str := if u.path.isEmpty then [] else 47 :: p

theorem joinPathD_good (P : Str) (ps : List Str) (hne : ps ≠ []) (hP : PyStr P ∧ NoSurrogate P)
    (hPd : NoDotSegments P) (hg : ∀ a ∈ ps, PyStr a ∧ NoSurrogate a) :
    PyStr (47 :: (joinPathD P ps).drop 1) ∧ NoSurrogate (47 :: (joinPathD P ps).drop 1) ∧
      normalizePath (47 :: (joinPathD P ps).drop 1) = 47 :: (joinPathD P ps).drop 1 := by
  have hmem : ∀ c ∈ joinPathD P ps, c ≤ 0x10FFFF ∧ isSurrogate c = false := by
    intro c hc
    rcases joinPathD_mem P ps c hc with rfl | h | ⟨a, ha, h⟩
    · exact good_47
    · exact ⟨hP.1 c h, hP.2 c h⟩
    · exact ⟨(hg a ha).1 c h, (hg a ha).2 c h⟩
  have hgood := good_cons_slash (s := (joinPathD P ps).drop 1)
    (good_of_mem fun c hc => hmem c (List.mem_of_mem_drop hc))
  refine ⟨hgood.1, hgood.2, ?_⟩
  rcases joinPathD_shape P ps hne with h | ⟨t, h⟩
  · rw [h]; decide
  · have := joinPathD_noDots P ps hPd
    rw [h] at this ⊢
    exact FixLemmas.normalizePath_noDotSegs this

section pmods
variable (e : Env) (u : Url) (user pw : Option Str) (H : Str) (port : Option Nat)
  (p : Str) (kvs : List (Str × Str)) (f : Str) (st : Stores e u user pw H port p kvs f) (hH : H ≠ [])
  (hp : PyStr (47 :: p)) (hn : NoSurrogate (47 :: p))
include st hH hp hn

omit hH in
/-- the stored path, as the encoding of the decoded path `"/" ++ p` or of `""` -/
theorem path_shape : (u.path = 47 :: pathEnc e p) ∨ (u.path = [] ∧ p = []) := by
  rcases st.path with h | h
  · left
    rw [h, q_path_cons_slash e p hp, q_path_flatMap e p (pyStr_tail hp) (noSurr_tail hn)]
  · exact Or.inr h

omit st hH in
theorem nameTail_good (nm : Str) (hnm : PyStr nm) (hnn : NoSurrogate nm) :
    PyStr (47 :: nameTail p nm) ∧ NoSurrogate (47 :: nameTail p nm) := by
  apply good_cons_slash
  apply good_of_mem
  intro c hc
  rcases nameTail_mem p nm c hc with rfl | h | h
  · exact good_47
  · exact ⟨hp c (by simp [h]), hn c (by simp [h])⟩
  · exact ⟨hnm c h, hnn c h⟩

/-- `_with_raw_name` with the encoding of a decoded name -/
theorem stores_withRawName (nm : Str) (hnm : PyStr nm) (hnn : NoSurrogate nm) (h47 : 47 ∉ nm) (kq kf : Bool)
    (v : Url) (h : withRawName u (q e Gen.PATH_QUOTER nm) kq kf = .ok v) :
    v.scheme = u.scheme ∧
      Stores e v user pw H port (nameTail p nm) (if kq then kvs else []) (if kf then f else []) := by
  have hf := sepMap_wq e.b
  have hnl := netloc_ne e u user pw H port p kvs f st hH
  have hnl' : u.netloc ≠ [] := fun h0 => by rw [h0] at hnl; cases hnl
  have hq47 : 47 ∉ q e Gen.PATH_QUOTER nm := C13_path_quoter_no_slash e nm hnm h47
  obtain ⟨_, hsc, hnet, hqy, hfr⟩ := withRawName_rawParts u _ kq kf v hq47 h
  obtain ⟨_, _, hp0, hp1, _⟩ := withRawName_path u _ kq kf v hq47 h
  have hpre := withRawName_pre u _ kq kf v h
  have hg := nameTail_good p hp hn nm hnm hnn
  refine ⟨hsc, ⟨hnet.trans st.netloc, fun pr h' => (by rw [hpre] at h'; cases h'), Or.inl ?_, ?_, ?_⟩⟩
  · rw [q_path_cons_slash e _ hg.1, q_path_flatMap e _ (pyStr_tail hg.1) (noSurr_tail hg.2)]
    rcases path_shape e u user pw H port p kvs f st hp hn with hs | ⟨hs, rfl⟩
    · rw [hp1 _ hs, splitOn_flatMap hf, ← List.map_dropLast, q_path_flatMap e nm hnm hnn]
      have : [nm.flatMap (wq (Gen.PATH_QUOTER.tab e.b))] = [nm].map (fun s => s.flatMap (wq (Gen.PATH_QUOTER.tab e.b))) := rfl
      rw [this, ← List.map_append, joinC_map hf]
      rfl
    · rw [hp0 hs, if_neg hnl', q_path_flatMap e nm hnm hnn]
      simp [nameTail, splitOn, joinC, joinSep]
  · rw [hqy]
    cases kq
    · rfl
    · exact st.query
  · rw [hfr]
    cases kf
    · rfl
    · exact st.fragment

/-- `with_name(nm)` for a decoded name without "/" that is not "." or ".." -/
theorem stores_withName (nm : Str) (hnm : PyStr nm) (hnn : NoSurrogate nm) (h47 : 47 ∉ nm)
    (hd : nm ≠ dot ∧ nm ≠ dotdot) (kq kf : Bool) :
    ∃ v, withName e u nm kq kf = .ok v ∧ v.scheme = u.scheme ∧
      Stores e v user pw H port (nameTail p nm) (if kq then kvs else []) (if kf then f else []) := by
  have hf := sepMap_wq e.b
  have hnl := netloc_ne e u user pw H port p kvs f st hH
  obtain ⟨v, hv⟩ := withRawName_total u (q e Gen.PATH_QUOTER nm) kq kf hnl
  refine ⟨v, ?_, stores_withRawName e u user pw H port p kvs f st hH hp hn nm hnm hnn h47 kq kf v hv⟩
  unfold withName
  have h1 : mem 47 nm = false := mem_false_iff.mpr h47
  have h2 : ¬ (q e Gen.PATH_QUOTER nm = dot ∨ q e Gen.PATH_QUOTER nm = dotdot) := by
    rw [q_path_flatMap e nm hnm hnn, flatMap_eq_dot hf, flatMap_eq_dotdot hf]
    exact fun h => h.elim hd.1 hd.2
  simp only [h1, Bool.false_eq_true, if_false, if_neg h2]
  exact hv

/-- `raw_name` is the encoding of the last segment of the decoded path -/
theorem rawName_stores : rawName u = .ok (pathEnc e (lastSeg p)) := by
  have hf := sepMap_wq e.b
  have hnl := netloc_ne e u user pw H port p kvs f st hH
  unfold rawName rawParts
  simp only [hnl, Bool.not_false, if_true, Bool.false_eq_true, if_false]
  rcases path_shape e u user pw H port p kvs f st hp hn with hs | ⟨hs, rfl⟩
  · rw [hs]
    simp only [List.isEmpty_cons, Bool.not_false, if_true, List.drop_succ_cons, List.drop_zero,
      splitOn_flatMap hf, List.getLast?_map, getLast?_splitOn]
    rfl
  · rw [hs]
    simp [lastSeg, splitOn, pure, Except.pure]

omit st hH in
theorem lastSeg_good : PyStr (lastSeg p) ∧ NoSurrogate (lastSeg p) ∧ 47 ∉ lastSeg p := by
  have hm := lastSeg_mem p
  refine ⟨fun c hc => hp c ?_, fun c hc => hn c ?_, splitOn_no_sep 47 p _ hm⟩
  · exact List.mem_cons_of_mem _ (splitOn_sub 47 p _ hm c hc)
  · exact List.mem_cons_of_mem _ (splitOn_sub 47 p _ hm c hc)

omit st hH in
/-- the new name of `with_suffix(x)`: the stem of the decoded name followed by `x`, encoded -/
theorem suffix_name (x : Str) (hx : PyStr x) (hxn : NoSurrogate x) :
    (PyStr (stem (lastSeg p) ++ x) ∧ NoSurrogate (stem (lastSeg p) ++ x)) ∧
    List.take ((pathEnc e (lastSeg p)).length - (sfx (pathEnc e (lastSeg p))).length) (pathEnc e (lastSeg p)) ++
      q e Gen.PATH_QUOTER x = q e Gen.PATH_QUOTER (stem (lastSeg p) ++ x) := by
  have hf := sepMap_wq e.b
  obtain ⟨g1, g2, g3⟩ := lastSeg_good p hp hn
  have hnew : PyStr (stem (lastSeg p) ++ x) ∧ NoSurrogate (stem (lastSeg p) ++ x) := by
    apply good_of_mem
    intro c hc
    rcases List.mem_append.mp hc with hc | hc
    · exact ⟨g1 c (stem_sub _ c hc), g2 c (stem_sub _ c hc)⟩
    · exact ⟨hx c hc, hxn c hc⟩
  refine ⟨hnew, ?_⟩
  -- the left-hand side is `stem` of the encoded name, written out as `with_suffix` computes it
  have hstem : List.take ((pathEnc e (lastSeg p)).length - (sfx (pathEnc e (lastSeg p))).length)
      (pathEnc e (lastSeg p)) = pathEnc e (stem (lastSeg p)) := stem_flatMap hf (lastSeg p)
  rw [hstem, q_path_flatMap e x hx hxn, q_path_flatMap e _ hnew.1 hnew.2, List.flatMap_append]

/-- `with_suffix(x)`: the new name is the stem of the decoded name followed by the decoded suffix `x` -/
theorem stores_withSuffix (x : Str) (hx : PyStr x) (hxn : NoSurrogate x) (kq kf : Bool)
    (v : Url) (h : withSuffix e u x kq kf = .ok v) :
    v.scheme = u.scheme ∧
      Stores e v user pw H port (nameTail p (stem (lastSeg p) ++ x)) (if kq then kvs else [])
        (if kf then f else []) ∧
      47 ∉ stem (lastSeg p) ++ x ∧ stem (lastSeg p) ++ x ≠ dot ∧ stem (lastSeg p) ++ x ≠ dotdot := by
  have hf := sepMap_wq e.b
  obtain ⟨hnew, e1⟩ := suffix_name e p hp hn x hx hxn
  rw [PathMore.withSuffix_closed e u x kq kf _ (rawName_stores e u user pw H port p kvs f st hH hp hn), e1] at h
  obtain ⟨hc, h⟩ := ite_err_ok h
  have hnd := fun hd => hc (.inr (.inr (.inr hd)))
  have h47' : 47 ∉ stem (lastSeg p) ++ x := by
    intro hm
    rcases List.mem_append.mp hm with hm | hm
    · exact (lastSeg_good p hp hn).2.2 (stem_sub _ _ hm)
    · exact hc (.inr (.inr (.inl hm)))
  rw [q_path_flatMap e _ hnew.1 hnew.2, flatMap_eq_dot hf, flatMap_eq_dotdot hf] at hnd
  obtain ⟨a, b⟩ := stores_withRawName e u user pw H port p kvs f st hH hp hn _ hnew.1 hnew.2 h47' kq kf v h
  exact ⟨a, b, h47', fun h0 => hnd (Or.inl h0), fun h0 => hnd (Or.inr h0)⟩

/-- `with_suffix(x)` succeeds: `x` is "" or starts with '.', is not ".", has no "/"; the decoded name is not empty;
    the new name is not "." or ".." -/
theorem withSuffix_total (x : Str) (hx : PyStr x) (hxn : NoSurrogate x) (kq kf : Bool)
    (hhead : x = [] ∨ x.head? = some 46) (hne : x ≠ [46]) (h47 : 47 ∉ x) (hnm : lastSeg p ≠ [])
    (hd : stem (lastSeg p) ++ x ≠ dot ∧ stem (lastSeg p) ++ x ≠ dotdot) :
    ∃ v, withSuffix e u x kq kf = .ok v := by
  have hf := sepMap_wq e.b
  obtain ⟨hnew, e1⟩ := suffix_name e p hp hn x hx hxn
  have c4 : ¬ (q e Gen.PATH_QUOTER (stem (lastSeg p) ++ x) = dot ∨
      q e Gen.PATH_QUOTER (stem (lastSeg p) ++ x) = dotdot) := by
    rw [q_path_flatMap e _ hnew.1 hnew.2, flatMap_eq_dot hf, flatMap_eq_dotdot hf]
    exact fun h => h.elim hd.1 hd.2
  rw [PathMore.withSuffix_closed e u x kq kf _ (rawName_stores e u user pw H port p kvs f st hH hp hn), e1, if_neg]
  · exact withRawName_total u _ kq kf (netloc_ne e u user pw H port p kvs f st hH)
  · rintro ((⟨hx0, hx46⟩ | h) | h | h | h)
    · exact hx46 (hhead.resolve_left hx0)
    · exact hne h
    · exact hnm ((flatMap_eq_nil hf _).mp h)
    · exact h47 h
    · exact c4 h

omit st hH in
theorem parentTail_good : PyStr (47 :: parentTail p) ∧ NoSurrogate (47 :: parentTail p) := by
  apply good_cons_slash
  apply good_of_mem
  intro c hc
  rcases parentTail_mem p c hc with rfl | h
  · exact good_47
  · exact ⟨hp c (by simp [h]), hn c (by simp [h])⟩

/-- `parent`: the last segment of the decoded path is removed; query and fragment are dropped -/
theorem stores_parent :
    (parent u).scheme = u.scheme ∧ Stores e (parent u) user pw H port (parentTail p) [] [] := by
  have hf := sepMap_wq e.b
  have hnl := netloc_ne e u user pw H port p kvs f st hH
  have hnl' : u.netloc ≠ [] := fun h0 => by rw [h0] at hnl; cases hnl
  -- the fields of `parent u`, read off `parent_eq`
  have heq := parent_eq u
  have h3 : (parent u).path = parentPath u.path := by
    have := congrArg Url.path heq
    simp only [pickleTwin, fromParts, parentPathN, rootFix_auth _ _ hnl'] at this
    exact this
  have hg := parentTail_good p hp hn
  refine ⟨(congrArg Url.scheme heq :), ⟨(congrArg Url.netloc heq).trans st.netloc, ?_, ?_,
    (congrArg Url.query heq :), (congrArg Url.fragment heq :)⟩⟩
  · intro pr hpr
    rcases parent_pre u with h0 | h0
    · rw [h0] at hpr; cases hpr
    · rw [h0] at hpr; exact st.pre pr hpr
  · rw [h3]
    rcases path_shape e u user pw H port p kvs f st hp hn with hs | ⟨hs, rfl⟩
    · by_cases hp0 : p = []
      · subst hp0
        left
        rw [hs]
        simp only [pathEnc, List.flatMap_nil, parentPath, or_true, if_true]
        have : parentTail [] = [] := by simp [parentTail, splitOn, joinC, joinSep]
        rw [this, q_path_slash]
      · have hGp : pathEnc e p ≠ [] := fun h0 => hp0 ((flatMap_eq_nil hf p).mp h0)
        have hne1 : ¬ (u.path = [] ∨ u.path = [47]) := by
          rw [hs]; simp [hGp]
        unfold parentPath
        rw [if_neg hne1, hs]
        have e1 : splitOn 47 (47 :: pathEnc e p) = [] :: (splitOn 47 p).map (fun s => s.flatMap (wq (Gen.PATH_QUOTER.tab e.b))) := by
          simp only [splitOn, if_true]
          rw [splitOn_flatMap hf]
        have hne2 : (splitOn 47 p).map (fun s => s.flatMap (wq (Gen.PATH_QUOTER.tab e.b))) ≠ [] := by
          simp [PathLemmas.splitOn_ne_nil]
        rw [e1, List.dropLast_cons_of_ne_nil hne2, ← List.map_dropLast]
        by_cases hL : (splitOn 47 p).dropLast = []
        · right
          unfold parentTail
          rw [hL]
          simp [joinC, joinSep]
        · left
          obtain ⟨b, r, hbr⟩ := List.exists_cons_of_ne_nil hL
          rw [q_path_cons_slash e _ hg.1, q_path_flatMap e _ (pyStr_tail hg.1) (noSurr_tail hg.2)]
          unfold parentTail
          rw [hbr, List.map_cons, PathLemmas.joinC_cons2 47, List.nil_append, ← List.map_cons, joinC_map hf]
    · right
      rw [hs]
      simp [parentPath, parentTail, splitOn, joinC, joinSep]

omit hH in
theorem pathD_spec : u.path = pathEnc e (pathD u p) ∧ (pathD u p = [] ∨ pathD u p = 47 :: p) := by
  have hf := sepMap_wq e.b
  unfold pathD
  rcases path_shape e u user pw H port p kvs f st hp hn with hs | ⟨hs, rfl⟩
  · rw [hs]
    simp [pathEnc, List.flatMap_cons, hf.slash]
  · rw [hs]; simp

omit hH in
theorem pathD_good (hnorm : normalizePath (47 :: p) = 47 :: p) :
    (PyStr (pathD u p) ∧ NoSurrogate (pathD u p)) ∧ NoDotSegments (pathD u p) := by
  rcases (pathD_spec e u user pw H port p kvs f st hp hn).2 with h | h
  · rw [h]; exact ⟨⟨by decide, by decide⟩, EntryLemmas.noDotSegments_nil⟩
  · rw [h]
    refine ⟨⟨hp, hn⟩, ?_⟩
    have := EntryLemmas.noDotSegments_normalizePath (47 :: p)
    rw [hnorm] at this
    exact this

omit hH in
/-- the decoded child path of `joinpath` on the decoded stored path: a Python string without lone surrogates and
    without dot segments -/
theorem joinpath_good (hnorm : normalizePath (47 :: p) = 47 :: p) (ps : List Str) (hne : ps ≠ [])
    (hg : ∀ a ∈ ps, PyStr a ∧ NoSurrogate a) :
    PyStr (47 :: (joinPathD (pathD u p) ps).drop 1) ∧ NoSurrogate (47 :: (joinPathD (pathD u p) ps).drop 1) ∧
      normalizePath (47 :: (joinPathD (pathD u p) ps).drop 1) = 47 :: (joinPathD (pathD u p) ps).drop 1 := by
  obtain ⟨hPg, hPd⟩ := pathD_good e u user pw H port p kvs f st hp hn hnorm
  exact joinPathD_good (pathD u p) ps hne hPg hPd hg

/-- `u.joinpath(*ps)` / `u / s` (`encoded=False`) for ANY decoded segments not starting with "/" ("/" inside and
    dot segments allowed): `_make_child` on the encoded path and segments is the encoding of `_make_child` on the
    decoded ones (`childOf_path_map`), so the new path is the encoding of the decoded child path; query and fragment are
    dropped -/
theorem stores_joinpath (ps : List Str) (hne : ps ≠ []) (hg : ∀ a ∈ ps, PyStr a ∧ NoSurrogate a)
    (hh : ∀ a ∈ ps, a.head? ≠ some 47) (hnorm : normalizePath (47 :: p) = 47 :: p) :
    ∃ v, makeChild e u ps false = .ok v ∧ v.scheme = u.scheme ∧ v.path = pathEnc e (joinPathD (pathD u p) ps) ∧
      Stores e v user pw H port ((joinPathD (pathD u p) ps).drop 1) [] [] := by
  obtain ⟨g1, g2, _⟩ := joinpath_good e u user pw H port p kvs f st hp hn hnorm ps hne hg
  have hpth : (childOf u (argSegs e false ps) (argDots e false ps)).path = pathEnc e (joinPathD (pathD u p) ps) := by
    rw [argSegs_false_map e ps hg, argDots_false_eq e ps hg]
    exact childOf_path_map (sepMap_wq e.b) u (twin (pathD u p)) (netloc_ne e u user pw H port p kvs f st hH)
      (pathD_spec e u user pw H port p kvs f st hp hn).1 _ _
  refine ⟨_, makeChild_n e u ps false hh, (childOf_fields u _ _).1, hpth, ?_⟩
  obtain ⟨_, c2, c3, c4, c5⟩ := childOf_fields u (argSegs e false ps) (argDots e false ps)
  refine ⟨c2.trans st.netloc, fun pr h => (by rw [c5] at h; cases h), ?_, c3, c4⟩
  rw [hpth]
  rcases joinPathD_shape (pathD u p) ps hne with h | ⟨t, h⟩
  · right; rw [h]; exact ⟨rfl, rfl⟩
  · left
    rw [h] at g1 g2 ⊢
    simp only [List.drop_succ_cons, List.drop_zero] at g1 g2 ⊢
    rw [q_path_flatMap e _ g1 g2]

end pmods

/-! ## `URL.build(authority=…)` for an authority text assembled from DECODED pieces -/

/-- `URL.build(scheme=sc, authority=A, path=…, query=…, fragment=…)` where `A` is the text
    `[user[:password]@]host[:port]` made of the DECODED user and password (the user not "" and without ':') and the
    SHOWN host `D` (in brackets iff it contains ':'): user and password are encoded, the host is stored as `H`, the
    default port of the scheme is dropped.  When `A` is not ASCII the NFKC check must accept it (`hnf`). -/
theorem build_assembled (e : Env) (sc sc' : Str) (hl : lowerAny e sc = .ok sc') (user pw : Option Str) (h H D : Str) (port : Option Nat)
    (path : Str) (qa : QArg) (qs Q : Str) (f : Str)
    (hrt : HostRT e h H D) (huo : UserOK user)
    (hport : ∀ x, port = some x → x ≤ 65535)
    (hnf : isAscii (authText user pw D port) = false → checkNetloc e.o (authText user pw D port) = .ok ())
    (hpath : path = [] ∨ ∃ p, path = 47 :: p ∧ PyStr (47 :: p) ∧ NoSurrogate (47 :: p))
    (hq1 : qargTruthy qa = true → qs = [] ∧ getStrQuery e.b qa = .ok (some Q))
    (hq2 : qargTruthy qa = false → Q = if qs.isEmpty then qs else q e Gen.QUERY_QUOTER qs) :
    build e { scheme := sc, authority := authText user pw D port, path := path, query := qa, queryString := qs,
              fragment := f } =
      .ok (fromParts sc' (authText (user.map (q e Gen.QUOTER)) (pw.map (q e Gen.QUOTER)) H (effPort sc' port))
        (storedPath e path) Q (if f.isEmpty then f else q e Gen.FRAGMENT_QUOTER f)) := by
  have hD := hrt.disp.ok
  have hneA : authText user pw D port ≠ [] := authText_ne_nil _ _ hD.1 _
  have hcheck : (qargTruthy qa && !qs.isEmpty) = false →
      C07_buildArgCheck ⟨sc, authText user pw D port, none, none, [], none, 0, path, qa, qs, f, false⟩ = none := by
    intro hnoq
    unfold C07_buildArgCheck
    simp [hnoq]
  have hnl : buildNetloc e sc' ⟨sc, authText user pw D port, none, none, [], none, 0, path, qa, qs, f, false⟩ =
      .ok (authText (user.map (q e Gen.QUOTER)) (pw.map (q e Gen.QUOTER)) H (effPort sc' port)) := by
    rw [buildNetloc_authority_eq hneA]
    have hscreen : (if isAscii (authText user pw D port) = true then (pure () : R Unit)
        else checkNetloc e.o (authText user pw D port)) = .ok () := by
      split
      · rfl
      · exact hnf (by simpa using ‹¬ isAscii (authText user pw D port) = true›)
    show ((if isAscii (authText user pw D port) = true then (pure () : R Unit)
        else checkNetloc e.o (authText user pw D port)) >>= fun _ =>
      splitNetloc e.o (authText user pw D port) >>= _) = _
    have hsplit : splitNetloc e.o (authText user pw D port) =
        .ok { user := user, password := pw, host := some D, port := port } :=
      netloc_roundtrip e.o id user pw D port huo hD hport
    rw [hscreen, hsplit]
    show (encodeHost e.o D false >>= _) = _
    rw [hrt.enc]
    show Except.ok (makeNetloc _ user pw (some (StrTotal.rebracket _ (bracket H))) (strPort sc' port) true) = _
    unfold StrTotal.rebracket
    rw [keep_brackets (H := H) user pw port hD hrt.colon, makeNetloc_encode_map _ (q_nil e _),
      makeNetloc_qf (q e Gen.QUOTER) id]
    rfl
  exact build_stages e ⟨sc, authText user pw D port, none, none, [], none, 0, path, qa, qs, f, false⟩ sc' _ Q rfl hl hq1
    hq2 hcheck hnl (authText_ne_nil _ _ hrt.okH.1 _) hpath

end HumanReach
end Yarl
