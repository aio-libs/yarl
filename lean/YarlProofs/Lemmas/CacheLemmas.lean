/-
  CacheLemmas.lean — helper lemmas for C08 / C20 (memoisation state machine of YarlModel/Cache.lean; the machine with
  several caches reuses `HeapExt`, `MemoOK`, `TableOK`, `HandlesOK` through `MultiCache.Sem.flat`).

  `HeapExt h h'`  : every object of `h` still exists in `h'` at the same id with the same parts
                    (the heap only grows, memos may change, parts never do);
  `MemoOK`        : every memo entry is what the accessor would compute;
  `TableOK`       : every constructor-table entry points to a live object with the right parts;
  `HRel`/`HandlesOK` : implementation handles denote objects whose parts are the spec's values
                    (`HandlesOK` is `All2 HRel`, `handlesOK_iff`);
  `specHandles`   : the specification's handle list after a sequence of operations, with the `append` lemmas of
                    `specRun` / `specHandles`.
-/
import YarlModel
import YarlProofs.Lemmas.Basics
namespace Yarl.CacheLemmas
open Yarl.Cache

variable {Key Parts Val : Type}

/-! ### heap extension -/

def HeapExt (h h' : List (Obj Parts Val)) : Prop :=
  ∀ (id : Nat) (o : Obj Parts Val), h[id]? = some o → ∃ o', h'[id]? = some o' ∧ o'.parts = o.parts

theorem HeapExt.refl (h : List (Obj Parts Val)) : HeapExt h h :=
  fun _ o ho => ⟨o, ho, rfl⟩

theorem HeapExt.trans {a b c : List (Obj Parts Val)} (h1 : HeapExt a b) (h2 : HeapExt b c) : HeapExt a c := by
  intro id o ho
  obtain ⟨o1, ho1, hp1⟩ := h1 id o ho
  obtain ⟨o2, ho2, hp2⟩ := h2 id o1 ho1
  exact ⟨o2, ho2, hp2.trans hp1⟩

theorem getElem?_lt {α} {l : List α} {i : Nat} {a : α} (h : l[i]? = some a) : i < l.length := by
  obtain ⟨h', _⟩ := List.getElem?_eq_some_iff.mp h
  exact h'

theorem heapExt_append (h l : List (Obj Parts Val)) : HeapExt h (h ++ l) := by
  intro id o ho
  refine ⟨o, ?_, rfl⟩
  rw [List.getElem?_append_left (getElem?_lt ho)]; exact ho

theorem getElem?_setMemo (h : List (Obj Parts Val)) (id : Nat) (n : String) (v : Val) (i : Nat) :
    (setMemo h id n v)[i]? =
      (h[i]?).map (fun o => if i = id then { o with memo := (n, v) :: o.memo } else o) := by
  simp [setMemo, List.getElem?_mapIdx]

theorem heapExt_setMemo (h : List (Obj Parts Val)) (id : Nat) (n : String) (v : Val) :
    HeapExt h (setMemo h id n v) := by
  intro i o ho
  rw [getElem?_setMemo, ho]
  by_cases hi : i = id
  · exact ⟨{ o with memo := (n, v) :: o.memo }, by simp [hi], rfl⟩
  · exact ⟨o, by simp [hi], rfl⟩

theorem setMemo_length (h : List (Obj Parts Val)) (id : Nat) (n : String) (v : Val) :
    (setMemo h id n v).length = h.length := by
  simp [setMemo]

/-! ### memo correctness -/

def MemoOK (sem : Sem Key Parts Val) (heap : List (Obj Parts Val)) : Prop :=
  ∀ o ∈ heap, ∀ nv ∈ o.memo, nv.2 = sem.derive o.parts nv.1

theorem memoOK_nil (sem : Sem Key Parts Val) : MemoOK sem [] := by
  intro o ho; cases ho

theorem memoOK_snoc {sem : Sem Key Parts Val} {h : List (Obj Parts Val)} {o : Obj Parts Val}
    (hm : MemoOK sem h) (ho : ∀ nv ∈ o.memo, nv.2 = sem.derive o.parts nv.1) : MemoOK sem (h ++ [o]) := by
  intro o' ho'
  rcases List.mem_append.mp ho' with h1 | h1
  · exact hm o' h1
  · simp at h1; subst h1; exact ho

theorem memoOK_setMemo {sem : Sem Key Parts Val} {h : List (Obj Parts Val)} {id : Nat} {n : String} {v : Val}
    (hm : MemoOK sem h) (hv : ∀ o, h[id]? = some o → v = sem.derive o.parts n) :
    MemoOK sem (setMemo h id n v) := by
  intro o' ho'
  obtain ⟨i, hi⟩ := List.mem_iff_getElem?.mp ho'
  rw [getElem?_setMemo] at hi
  cases hg : h[i]? with
  | none => rw [hg] at hi; cases hi
  | some o =>
    rw [hg] at hi
    simp only [Option.map_some, Option.some.injEq] at hi
    have hmem : o ∈ h := List.mem_iff_getElem?.mpr ⟨i, hg⟩
    by_cases hid : i = id
    · simp only [hid, if_true] at hi
      subst hi
      intro nv hnv
      simp only [List.mem_cons] at hnv
      rcases hnv with rfl | hnv
      · exact hv o (hid ▸ hg)
      · exact hm o hmem nv hnv
    · simp only [hid, if_false] at hi
      subst hi; exact hm o hmem

/-! ### the constructor table -/

def TableOK (sem : Sem Key Parts Val) (heap : List (Obj Parts Val)) (table : List (Key × Nat)) : Prop :=
  ∀ kid ∈ table, ∃ o, heap[kid.2]? = some o ∧ sem.construct kid.1 = some o.parts

theorem tableOK_nil (sem : Sem Key Parts Val) (heap : List (Obj Parts Val)) : TableOK sem heap [] := by
  intro kid h; cases h

theorem tableOK_ext {sem : Sem Key Parts Val} {h h' : List (Obj Parts Val)} {t : List (Key × Nat)}
    (he : HeapExt h h') (ht : TableOK sem h t) : TableOK sem h' t := by
  intro kid hk
  obtain ⟨o, ho, hc⟩ := ht kid hk
  obtain ⟨o', ho', hp⟩ := he _ _ ho
  exact ⟨o', ho', by rw [hp]; exact hc⟩

/-- what `insertTable` leaves in the table: the new entry and (some of) the old ones -/
theorem mem_insertTable (pol : Policy Key) (cap : Option Nat) (t : List (Key × Nat)) (k : Key) (id : Nat)
    (x : Key × Nat) (h : x ∈ insertTable pol cap t k id) : x = (k, id) ∨ x ∈ t := by
  unfold insertTable at h
  split at h
  · exact Or.inr h
  · split at h
    · rcases List.mem_cons.mp h with h | h
      · exact Or.inl h
      · exact Or.inr (pol.sub t x h)
    · exact (List.mem_cons.mp h)
  · exact (List.mem_cons.mp h)

theorem tableOK_insert {sem : Sem Key Parts Val} (pol : Policy Key) (cap : Option Nat)
    {h : List (Obj Parts Val)} {t : List (Key × Nat)} {k : Key} {id : Nat}
    (ht : TableOK sem h t) (hn : ∃ o, h[id]? = some o ∧ sem.construct k = some o.parts) :
    TableOK sem h (insertTable pol cap t k id) := by
  intro kid hk
  rcases mem_insertTable pol cap t k id kid hk with rfl | hk
  · exact hn
  · exact ht kid hk

/-- `lookup` and `memoGet` are the same look-up in an association list: a hit is a member -/
theorem assoc_mem {α β : Type} [DecidableEq α] {l : List (α × β)} {a : α} {b : β}
    (h : (l.find? (·.1 = a)).map (·.2) = some b) : (a, b) ∈ l := by
  obtain ⟨x, hf, rfl⟩ := Option.map_eq_some_iff.mp h
  have h1 := List.find?_some hf
  simp only [decide_eq_true_eq] at h1
  exact h1 ▸ List.mem_of_find?_eq_some hf

theorem lookup_mem [DecidableEq Key] {t : List (Key × Nat)} {k : Key} {id : Nat} (h : lookup t k = some id) :
    (k, id) ∈ t :=
  assoc_mem h

theorem memoGet_mem {m : List (String × Val)} {n : String} {v : Val} (h : memoGet m n = some v) : (n, v) ∈ m :=
  assoc_mem h

/-! ### handles -/

/-- implementation handle `a` denotes the spec value `b` -/
def HRel (heap : List (Obj Parts Val)) : Option Nat → Option Parts → Prop
  | some id, some p => ∃ o, heap[id]? = some o ∧ o.parts = p
  | none, none => True
  | _, _ => False

def HandlesOK (heap : List (Obj Parts Val)) (hs : List (Option Nat)) (shs : List (Option Parts)) : Prop :=
  hs.length = shs.length ∧ ∀ (i : Nat) (a : Option Nat) (b : Option Parts), hs[i]? = some a → shs[i]? = some b → HRel heap a b

theorem hrel_ext {h h' : List (Obj Parts Val)} (he : HeapExt h h') {a : Option Nat} {b : Option Parts}
    (hr : HRel h a b) : HRel h' a b := by
  cases a <;> cases b <;> simp only [HRel] at hr ⊢
  obtain ⟨o, ho, hp⟩ := hr
  obtain ⟨o', ho', hp'⟩ := he _ _ ho
  exact ⟨o', ho', hp'.trans hp⟩

/-- `HandlesOK` is `HRel` at every position -/
theorem handlesOK_iff {heap : List (Obj Parts Val)} {hs : List (Option Nat)} {shs : List (Option Parts)} :
    HandlesOK heap hs shs ↔ All2 (HRel heap) hs shs :=
  All2.iff_getElem.symm

theorem handlesOK_nil (heap : List (Obj Parts Val)) : HandlesOK heap [] [] :=
  handlesOK_iff.mpr .nil

theorem handlesOK_ext {h h' : List (Obj Parts Val)} (he : HeapExt h h') {hs : List (Option Nat)}
    {shs : List (Option Parts)} (hh : HandlesOK h hs shs) : HandlesOK h' hs shs :=
  handlesOK_iff.mpr ((handlesOK_iff.mp hh).imp fun _ _ => hrel_ext he)

theorem handlesOK_snoc {heap : List (Obj Parts Val)} {hs : List (Option Nat)} {shs : List (Option Parts)}
    (hh : HandlesOK heap hs shs) {a : Option Nat} {b : Option Parts} (hr : HRel heap a b) :
    HandlesOK heap (hs ++ [a]) (shs ++ [b]) :=
  handlesOK_iff.mpr ((handlesOK_iff.mp hh).append (.cons hr .nil))

/-- what a handle look-up on the implementation side tells about the spec side -/
theorem handlesOK_get {heap : List (Obj Parts Val)} {hs : List (Option Nat)} {shs : List (Option Parts)}
    (hh : HandlesOK heap hs shs) (i : Nat) :
    (∃ id o, hs[i]? = some (some id) ∧ heap[id]? = some o ∧ shs[i]? = some (some o.parts)) ∨
    (hs[i]? = some none ∧ shs[i]? = some none) ∨ (hs[i]? = none ∧ shs[i]? = none) := by
  rcases (handlesOK_iff.mp hh).getElem? i with h | ⟨_ | id, _ | p, h1, h2, hr⟩
  · exact .inr (.inr h)
  · exact .inr (.inl ⟨h1, h2⟩)
  · exact hr.elim
  · exact hr.elim
  · obtain ⟨o, ho, rfl⟩ := hr
    exact .inl ⟨id, o, h1, ho, h2⟩

/-! ### spec runs -/

/-- the spec's handle list after a sequence of operations -/
def specHandles (sem : Sem Key Parts Val) : List (Option Parts) → List (Op Key Parts) → List (Option Parts)
  | hs, [] => hs
  | hs, op :: ops => specHandles sem (specStep sem hs op).1 ops

theorem specRun_append (sem : Sem Key Parts Val) (hs : List (Option Parts)) (a b : List (Op Key Parts)) :
    specRun sem hs (a ++ b) = specRun sem hs a ++ specRun sem (specHandles sem hs a) b := by
  induction a generalizing hs with
  | nil => rfl
  | cons op a ih => simp only [List.cons_append, specRun, specHandles, ih]

theorem specHandles_append (sem : Sem Key Parts Val) (hs : List (Option Parts)) (a b : List (Op Key Parts)) :
    specHandles sem hs (a ++ b) = specHandles sem (specHandles sem hs a) b := by
  induction a generalizing hs with
  | nil => rfl
  | cons op a ih => simp only [List.cons_append, specHandles, ih]

variable [DecidableEq Key] in
set_option linter.unusedSectionVars false in
theorem specRun_length (sem : Sem Key Parts Val) (hs : List (Option Parts)) (a : List (Op Key Parts)) :
    (specRun sem hs a).length = a.length := by
  induction a generalizing hs with
  | nil => rfl
  | cons op a ih => simp only [specRun, List.length_cons, ih]

end Yarl.CacheLemmas
