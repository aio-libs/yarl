/-
  GenTabs.lean — facts about the GENERATED quoter configurations
  (`YarlModel/Generated.lean`), all established by computation so that they
  keep working when the tables are regenerated from the Python sources.

  Shape of every proof: a general lemma about an arbitrary `QArgs` with
  *decidable* side conditions, and then `decide +kernel` for the side conditions on the
  concrete configurations.  The one sweep over all characters (`sets_agree`) is about
  the generated character sets alone; what depends on the configuration is a handful
  of membership tests (`Side`).
-/
import YarlProofs.Defs
import YarlProofs.Lemmas.Basics
namespace Yarl

namespace GenTabs

theorem mem_append (c : Nat) (l₁ l₂ : Str) : mem c (l₁ ++ l₂) = (mem c l₁ || mem c l₂) := by
  unfold mem; simp

theorem mem_lt_of_all {l : Str} {n : Nat} (h : ∀ x ∈ l, x < n) {c : Nat} (hc : mem c l = true) : c < n :=
  h c (mem_iff.mp hc)

theorem mem_false_of_all {l : Str} {n : Nat} (h : ∀ x ∈ l, x < n) {c : Nat} (hc : n ≤ c) : mem c l = false := by
  cases hm : mem c l with
  | false => rfl
  | true => have := mem_lt_of_all h hm; omega

/-- the string the pure-Python `_Quoter` tests membership on -/
def pySafeStr (a : QArgs) : Str :=
  a.safe ++ Gen.allowedPy ++ (if a.qs then [] else "+&=;".toStr) ++ a.prot

/-- the compiled `_Quoter`'s safe table, before the `< 128` guard -/
def cSafeFn (a : QArgs) (c : Nat) : Bool :=
  mem c Gen.allowedC || (!a.qs && mem c Gen.qsC) || mem c a.safe || mem c a.prot

theorem tabPy_safe (a : QArgs) (c : Nat) : a.tabPy.safe c = mem c (pySafeStr a) := rfl
theorem tabC_safe (a : QArgs) (c : Nat) : a.tabC.safe c = (decide (c < 128) && cSafeFn a c) := rfl

/-- All the decidable side conditions on one configuration. -/
structure Ok (a : QArgs) : Prop where
  ascii : ∀ x ∈ pySafeStr a, x < 128
  pctPy : mem 37 (pySafeStr a) = false
  pctC : cSafeFn a 37 = false
  agree : ∀ c, c < 128 → mem c (pySafeStr a) = cSafeFn a c
  spacePy : mem 32 (pySafeStr a) = false
  spaceC : cSafeFn a 32 = false

theorem prot_sub (a : QArgs) (c : Nat) (h : mem c a.prot = true) : mem c (pySafeStr a) = true := by
  unfold pySafeStr
  rw [mem_append, h, Bool.or_true]

theorem prot_lt {a : QArgs} (o : Ok a) {c : Nat} (h : mem c a.prot = true) : c < 128 :=
  mem_lt_of_all o.ascii (prot_sub a c h)

theorem tabPy_wf {a : QArgs} (o : Ok a) : a.tabPy.WF where
  safe_ascii := fun c hc => mem_lt_of_all o.ascii (by rwa [tabPy_safe] at hc)
  prot_safe := fun c hc => by
    rw [tabPy_safe]; exact prot_sub a c hc
  pct_unsafe := by rw [tabPy_safe]; exact o.pctPy

theorem tabC_wf {a : QArgs} (o : Ok a) : a.tabC.WF where
  safe_ascii := fun c hc => by
    rw [tabC_safe] at hc
    simp only [Bool.and_eq_true, decide_eq_true_eq] at hc
    exact hc.1
  prot_safe := fun c hc => by
    have hc' : (decide (c < 128) && mem c a.prot) = true := hc
    simp only [Bool.and_eq_true, decide_eq_true_eq] at hc'
    rw [tabC_safe]
    simp only [cSafeFn, Bool.and_eq_true, decide_eq_true_eq, Bool.or_eq_true]
    exact ⟨hc'.1, Or.inr hc'.2⟩
  pct_unsafe := by
    rw [tabC_safe, o.pctC]; rfl

theorem safe_eq {a : QArgs} (o : Ok a) (c : Nat) : a.tabPy.safe c = a.tabC.safe c := by
  rw [tabPy_safe, tabC_safe]
  by_cases hc : c < 128
  · rw [o.agree c hc]; simp [hc]
  · rw [mem_false_of_all o.ascii (Nat.le_of_not_lt hc)]; simp [hc]

theorem prot_eq {a : QArgs} (o : Ok a) (c : Nat) : a.tabPy.prot c = a.tabC.prot c := by
  show mem c a.prot = (decide (c < 128) && mem c a.prot)
  cases hm : mem c a.prot with
  | false => simp
  | true => have := prot_lt o hm; simp [this]

theorem tab_eq {a : QArgs} (o : Ok a) : a.tabPy = a.tabC := by
  have hs : a.tabPy.safe = a.tabC.safe := funext (safe_eq o)
  have hp : a.tabPy.prot = a.tabC.prot := funext (prot_eq o)
  have hq : a.tabPy.qs = a.tabC.qs := rfl
  have hr : a.tabPy.requote = a.tabC.requote := rfl
  cases hx : a.tabPy with
  | mk s1 p1 q1 r1 =>
    cases hy : a.tabC with
    | mk s2 p2 q2 r2 =>
      rw [hx, hy] at hs hp hq hr
      simp only at hs hp hq hr
      subst hs hp hq hr
      rfl

theorem space_unsafe {a : QArgs} (o : Ok a) : ∀ b, (a.tab b).safe 32 = false
  | .py => o.spacePy
  | .c => by
    show (decide (32 < 128) && cSafeFn a 32) = false
    rw [o.spaceC]; rfl

theorem tab_wf {a : QArgs} (o : Ok a) : ∀ b, (a.tab b).WF
  | .py => tabPy_wf o
  | .c => tabC_wf o

/-- What the two backends share whatever the configuration: the generated character sets, swept once. -/
theorem sets_agree : (∀ x ∈ Gen.allowedPy, x < 128) ∧ (∀ x ∈ Gen.qsC, x < 128) ∧
    (∀ c, c < 128 → mem c Gen.allowedPy = mem c Gen.allowedC) ∧ "+&=;".toStr = Gen.qsC := by decide +kernel

/-- The side conditions that depend on the configuration: its own two sets are ASCII, and `%` and the space are
    in neither table. -/
structure Side (a : QArgs) : Prop where
  safe : ∀ x ∈ a.safe, x < 128
  prot : ∀ x ∈ a.prot, x < 128
  pctPy : mem 37 (pySafeStr a) = false
  pctC : cSafeFn a 37 = false
  spacePy : mem 32 (pySafeStr a) = false
  spaceC : cSafeFn a 32 = false

instance (a : QArgs) : Decidable (Side a) :=
  if h : (∀ x ∈ a.safe, x < 128) ∧ (∀ x ∈ a.prot, x < 128) ∧ mem 37 (pySafeStr a) = false ∧ cSafeFn a 37 = false ∧
      mem 32 (pySafeStr a) = false ∧ cSafeFn a 32 = false then
    isTrue ⟨h.1, h.2.1, h.2.2.1, h.2.2.2.1, h.2.2.2.2.1, h.2.2.2.2.2⟩
  else isFalse (fun o => h ⟨o.safe, o.prot, o.pctPy, o.pctC, o.spacePy, o.spaceC⟩)

/-- The pure-Python safe string is the compiled table's sets in another order, so the tables agree on every
    character at which the generated sets do. -/
theorem ok_of_side {a : QArgs} (s : Side a) : Ok a where
  ascii := by
    intro x hx
    unfold pySafeStr at hx
    rw [sets_agree.2.2.2] at hx
    simp only [List.mem_append] at hx
    rcases hx with ((h | h) | h) | h
    · exact s.safe x h
    · exact sets_agree.1 x h
    · cases hq : a.qs <;> rw [hq] at h
      · exact sets_agree.2.1 x h
      · cases h
    · exact s.prot x h
  pctPy := s.pctPy
  pctC := s.pctC
  agree := by
    intro c hc
    unfold pySafeStr cSafeFn
    rw [mem_append, mem_append, mem_append, sets_agree.2.2.1 c hc, sets_agree.2.2.2]
    cases a.qs
    · show (mem c a.safe || mem c Gen.allowedC || mem c Gen.qsC || mem c a.prot) =
        (mem c Gen.allowedC || mem c Gen.qsC || mem c a.safe || mem c a.prot)
      cases mem c a.safe <;> cases mem c Gen.allowedC <;> cases mem c Gen.qsC <;> rfl
    · show (mem c a.safe || mem c Gen.allowedC || false || mem c a.prot) =
        (mem c Gen.allowedC || false || mem c a.safe || mem c a.prot)
      cases mem c a.safe <;> cases mem c Gen.allowedC <;> rfl
  spacePy := s.spacePy
  spaceC := s.spaceC

/-- the computation: every generated configuration passes the checks -/
theorem all_ok : ∀ a ∈ Gen.allQuoters, Ok a :=
  fun a ha => ok_of_side ((by decide +kernel : ∀ a ∈ Gen.allQuoters, Side a) a ha)

theorem default_ok : Ok defaultQuoterArgs ∧ Ok defaultQsQuoterArgs :=
  ⟨ok_of_side (by decide +kernel), ok_of_side (by decide +kernel)⟩

/-- requoting query quoters keep `+` literal (it is in their protected set) -/
theorem plus_ok : ∀ a ∈ Gen.allQuoters, a.requote = true → a.qs = true →
    mem 43 (pySafeStr a) = true ∧ cSafeFn a 43 = true := by decide +kernel

end GenTabs

open GenTabs

theorem gen_tab_wf : ∀ a ∈ Gen.allQuoters, ∀ b : Backend, (a.tab b).WF :=
  fun a ha => tab_wf (all_ok a ha)

theorem default_tabs_wf : ∀ b : Backend, (defaultQuoterArgs.tab b).WF ∧ (defaultQsQuoterArgs.tab b).WF :=
  fun b => ⟨tab_wf default_ok.1 b, tab_wf default_ok.2 b⟩

theorem gen_tab_backend_eq : ∀ a ∈ Gen.allQuoters, a.tabPy = a.tabC :=
  fun a ha => tab_eq (all_ok a ha)

/-- both backends use the same tables (for the generated configurations) -/
theorem tab_eq_c (a : QArgs) (ha : a ∈ Gen.allQuoters) (b : Backend) : a.tab b = a.tab .c := by
  cases b with
  | py => exact gen_tab_backend_eq a ha
  | c => rfl

theorem tab_qs (a : QArgs) (b : Backend) : (a.tab b).qs = a.qs := by cases b <;> rfl
theorem tab_requote (a : QArgs) (b : Backend) : (a.tab b).requote = a.requote := by cases b <;> rfl

theorem mem_QUOTER : Gen.QUOTER ∈ Gen.allQuoters := by decide
theorem mem_REQUOTER : Gen.REQUOTER ∈ Gen.allQuoters := by decide
theorem mem_PATH_QUOTER : Gen.PATH_QUOTER ∈ Gen.allQuoters := by decide
theorem mem_PATH_REQUOTER : Gen.PATH_REQUOTER ∈ Gen.allQuoters := by decide
theorem mem_QUERY_QUOTER : Gen.QUERY_QUOTER ∈ Gen.allQuoters := by decide
theorem mem_QUERY_REQUOTER : Gen.QUERY_REQUOTER ∈ Gen.allQuoters := by decide
theorem mem_QUERY_PART_QUOTER : Gen.QUERY_PART_QUOTER ∈ Gen.allQuoters := by decide
theorem mem_FRAGMENT_QUOTER : Gen.FRAGMENT_QUOTER ∈ Gen.allQuoters := by decide
theorem mem_FRAGMENT_REQUOTER : Gen.FRAGMENT_REQUOTER ∈ Gen.allQuoters := by decide

theorem default_tab_backend_eq :
    defaultQuoterArgs.tabPy = defaultQuoterArgs.tabC ∧ defaultQsQuoterArgs.tabPy = defaultQsQuoterArgs.tabC :=
  ⟨tab_eq default_ok.1, tab_eq default_ok.2⟩

theorem gen_space_unsafe : ∀ a ∈ Gen.allQuoters, ∀ b, (a.tab b).safe 32 = false :=
  fun a ha => space_unsafe (all_ok a ha)

/-- (extra) the two quoters inside every `_Unquoter` never keep a space literal -/
theorem default_space_unsafe :
    ∀ b, (defaultQuoterArgs.tab b).safe 32 = false ∧ (defaultQsQuoterArgs.tab b).safe 32 = false :=
  fun b => ⟨space_unsafe default_ok.1 b, space_unsafe default_ok.2 b⟩

theorem gen_qs_plus_safe_requoters :
    ∀ a ∈ Gen.allQuoters, a.requote = true → a.qs = true → ∀ b, (a.tab b).safe 43 = true := by
  intro a ha hr hq b
  obtain ⟨h1, h2⟩ := plus_ok a ha hr hq
  cases b with
  | py => exact h1
  | c =>
    show (decide (43 < 128) && cSafeFn a 43) = true
    rw [h2]; rfl

/-- '+' in the three query tables: the requoter and the string quoter keep it literal, the requoter protects it,
    the key/value quoter escapes it -/
structure QueryPlus (b : Backend) : Prop where
  requoter_safe : (Gen.QUERY_REQUOTER.tab b).safe 43 = true
  requoter_prot : (Gen.QUERY_REQUOTER.tab b).prot 43 = true
  quoter_safe : (Gen.QUERY_QUOTER.tab b).safe 43 = true
  part_unsafe : (Gen.QUERY_PART_QUOTER.tab b).safe 43 = false

theorem gen_query_plus (b : Backend) : QueryPlus b := by
  cases b
  · exact ⟨by decide, by decide, by decide, by decide⟩
  · exact ⟨by decide, by decide, by decide, by decide⟩

/-! ### single entries of the generated tables -/

namespace GenTabs

theorem path_safe46 (b : Backend) : (Gen.PATH_REQUOTER.tab b).safe 46 = true := by
  cases b <;> decide

theorem path_safe47 (b : Backend) : (Gen.PATH_REQUOTER.tab b).safe 47 = true := by
  cases b <;> decide

theorem query_safe38 (b : Backend) : (Gen.QUERY_REQUOTER.tab b).safe 38 = true := by
  cases b <;> decide

theorem query_safe61 (b : Backend) : (Gen.QUERY_REQUOTER.tab b).safe 61 = true := by
  cases b <;> decide

/-- the hex digits of an escape are literals of the path table -/
theorem path_hex_safe (b : Backend) : ∀ c, isUpperHexDigit c = true → (Gen.PATH_REQUOTER.tab b).safe c = true := by
  have h : ∀ c, c < 128 → isUpperHexDigit c = true → (Gen.PATH_REQUOTER.tab b).safe c = true := by
    cases b <;> decide +kernel
  intro c hc
  refine h c ?_ hc
  unfold isUpperHexDigit at hc
  simp only [Bool.or_eq_true, Bool.and_eq_true, decide_eq_true_eq] at hc
  omega

/-- the userinfo tables are no query-string tables, and never keep ':' or '@' literal -/
theorem userinfo_not_qs (b : Backend) : (Gen.QUOTER.tab b).qs ≠ true ∧ (Gen.REQUOTER.tab b).qs ≠ true := by
  cases b <;> decide

theorem requoter_colon_at_unsafe (b : Backend) :
    (Gen.REQUOTER.tab b).safe 58 = false ∧ (Gen.REQUOTER.tab b).safe 64 = false := by
  cases b <;> decide

end GenTabs

end Yarl
