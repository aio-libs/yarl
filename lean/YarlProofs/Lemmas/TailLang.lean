/-
  TailLang.lean — one walk through the operations of the URL API for every invariant of the form
  "path, query and fragment each lie in a class of texts".

  `TailLang e P Q F`: the three classes are closed under what the operations do to stored text (`SegLang`, `Glue`)
  and hold what the quoters write.  `Tail P Q F u`: the three components of `u` lie in them.  Every operation that
  writes path, query or fragment keeps `Tail` (`tail_withQuery` … `tail_join`), and so do `build(encoded=False)`
  (`tail_build`) and a record cut down to scheme and authority (`tail_bare`, for `origin()`).  Well-formedness
  (`WFUrl`: the output languages), the text half of the canonical form (`CanonUrl`: the canonical texts) and "made of
  code points of a class" (`R6.TailIn`) are instances.  As in SegLang.lean a lemma `hL.of_f` says that what the model
  function `f` returns lies in the class (`of_pairStr` … `of_getStrQuery`, `of_rawParts`, `of_rawName`).
-/
import YarlProofs.Lemmas.SegLang
import YarlProofs.Lemmas.WfLemmas
import YarlProofs.Lemmas.PathAlg
import YarlProofs.Lemmas.JoinShape
import YarlProofs.Lemmas.BuildShape
import YarlProofs.Lemmas.ModShape
namespace Yarl
open WfLemmas ModShape

/-- the separators the path operations cut at: '/' and the '.' before a suffix -/
def PathSep (d : Nat) : Prop := d = 47 ∨ d = 46

theorem sep47 : PathSep 47 := .inl rfl

/-- classes of path, query and fragment texts that the operations of the API do not lead out of -/
structure TailLang (e : Env) (P Q F : Str → Prop) : Prop where
  path : SegLang PathSep P
  /-- `raw_parts` reads a path next to an authority from its second character on, whatever the first is -/
  ptail : ∀ {c : Nat} {r : Str}, P (c :: r) → P r
  query : Glue Q
  q38 : Q [38]
  q61 : Q [61]
  fnil : F []
  qpy : ∀ {s : Str}, Q s → PyStr s
  pquote : ∀ s, PyStr s → P (q e Gen.PATH_QUOTER s)
  qquote : ∀ s, PyStr s → Q (Gen.QUERY_QUOTER.run e.b s)
  qpart : ∀ s, PyStr s → Q (Gen.QUERY_PART_QUOTER.run e.b s)
  fquote : ∀ s, PyStr s → F (q e Gen.FRAGMENT_QUOTER s)

/-- path, query and fragment lie in the three classes -/
structure Tail (P Q F : Str → Prop) (u : Url) : Prop where
  path : P u.path
  query : Q u.query
  fragment : F u.fragment

/-- scheme, authority and cache are not looked at -/
theorem Tail.of_same {P Q F : Str → Prop} {u v : Url} (hu : Tail P Q F u)
    (h : v.path = u.path ∧ v.query = u.query ∧ v.fragment = u.fragment) : Tail P Q F v :=
  ⟨h.1 ▸ hu.path, h.2.1 ▸ hu.query, h.2.2 ▸ hu.fragment⟩

/-- the texts of a `build` call are Python strings -/
def BuildArgsPy (a : BuildArgs) : Prop :=
  PyStr a.path ∧ PyStr a.queryString ∧ PyStr a.fragment ∧ QArgPy a.query

namespace TailLang
variable {e : Env} {P Q F : Str → Prop}

theorem drop1 (hL : TailLang e P Q F) {s : Str} (h : P s) : P (s.drop 1) := by
  cases s with
  | nil => exact h
  | cons c r => exact hL.ptail h

theorem keepQ (hL : TailLang e P Q F) {s : Str} (k : Bool) (h : Q s) : Q (if k = true then s else []) := by
  split
  · exact h
  · exact hL.query.nil

theorem keepF (hL : TailLang e P Q F) {s : Str} (k : Bool) (h : F s) : F (if k = true then s else []) := by
  split
  · exact h
  · exact hL.fnil

/-! ### query -/

theorem of_pairStr (hL : TailLang e P Q F) (k : Str) (v : QVal) (s : Str) (hk : PyStr k) (hv : QValPy v)
    (h : pairStr e.b k v = .ok s) : Q s := by
  unfold pairStr at h
  obtain ⟨vs, hvs, h⟩ := bind_ok h
  cases h
  exact hL.query.app (hL.query.app (hL.qpart k hk) hL.q61) (hL.qpart vs (queryVar_pyStr v vs hvs hv))

theorem of_strQueryFromIterable (hL : TailLang e P Q F) (items : List (Str × QItem)) (s : Str) (hi : QItemsPy items)
    (h : strQueryFromIterable e.b items = .ok s) : Q s := by
  unfold strQueryFromIterable at h
  obtain ⟨ps, hps, h⟩ := bind_ok h
  cases h
  apply hL.query.of_joinC hL.q38
  apply mapM_ok_forall _ Q items ps hps
  intro x hx y hy
  obtain ⟨k, it⟩ := x
  cases it with
  | one v => exact hL.of_pairStr k v y (hi _ hx).1 (hi _ hx).2 hy
  | many vs => cases hy

theorem of_strQueryFromSeqIterable (hL : TailLang e P Q F) (items : List (Str × QItem)) (s : Str) (hi : QItemsPy items)
    (h : strQueryFromSeqIterable e.b items = .ok s) : Q s := by
  unfold strQueryFromSeqIterable at h
  obtain ⟨ps, hps, h⟩ := bind_ok h
  cases h
  apply hL.query.of_joinC hL.q38
  intro seg hseg
  obtain ⟨l, hl, hseg⟩ := List.mem_flatten.mp hseg
  refine mapM_ok_forall _ (fun l : List Str => ∀ y ∈ l, Q y) items ps hps ?_ l hl seg hseg
  intro x hx y hy
  obtain ⟨k, it⟩ := x
  cases it with
  | one v =>
    simp only at hy
    obtain ⟨t, ht, hy⟩ := bind_ok hy
    cases hy
    exact List.forall_mem_singleton.mpr (hL.of_pairStr k v _ (hi _ hx).1 (hi _ hx).2 ht)
  | many vs =>
    simp only at hy
    apply mapM_ok_forall _ Q vs y hy
    intro v hv z hz
    exact hL.of_pairStr k v z (hi _ hx).1 ((hi _ hx).2 v hv) hz

theorem of_getStrQuery (hL : TailLang e P Q F) (a : QArg) (ha : QArgPy a) (r : Option Str)
    (h : getStrQuery e.b a = .ok r) : Q (r.getD []) := by
  have nil := hL.query.nil
  cases a with
  | none =>
    cases h
    exact nil
  | str s =>
    simp only [getStrQuery] at h
    split at h
    · cases h
      exact nil
    · cases h
      exact hL.qquote s ha
  | mapping items =>
    simp only [getStrQuery] at h
    split at h
    · cases h
      exact nil
    · obtain ⟨t, ht, h⟩ := map_ok h
      subst h
      exact hL.of_strQueryFromSeqIterable items t ha ht
  | pairs items =>
    simp only [getStrQuery] at h
    split at h
    · cases h
      exact nil
    · obtain ⟨t, ht, h⟩ := map_ok h
      subst h
      exact hL.of_strQueryFromIterable items t ha ht
  | bytes empty =>
    simp only [getStrQuery] at h
    split at h
    · cases h
      exact nil
    · cases h
  | other => cases h
  | noArgs => cases h

/-- the pairs read back from a stored query are Python strings -/
theorem queryPairs_py (hL : TailLang e P Q F) {u : Url} (hu : Q u.query) : QItemsPy (strItems (queryPairs u)) :=
  strItems_py _ (parseQsl_pyStr _ (hL.qpy hu))

theorem tail_withQuery (hL : TailLang e P Q F) {u v : Url} (hu : Tail P Q F u) {a : QArg} (ha : QArgPy a)
    (h : withQuery e u a = .ok v) : Tail P Q F v := by
  obtain ⟨r, hr, rfl⟩ := withQuery_ok h
  exact ⟨hu.path, hL.of_getStrQuery a ha r hr, hu.fragment⟩

theorem tail_extendQuery (hL : TailLang e P Q F) {u v : Url} (hu : Tail P Q F u) {a : QArg} (ha : QArgPy a)
    (h : extendQuery e u a = .ok v) : Tail P Q F v := by
  rcases extendQuery_ok h with rfl | ⟨nq, hr, hv⟩
  · exact hu
  · have hq : Q nq := hL.of_getStrQuery a ha _ hr
    rcases hv with rfl | rfl | rfl
    · exact ⟨hu.path, hq, hu.fragment⟩
    · exact ⟨hu.path, hL.query.app hu.query hq, hu.fragment⟩
    · exact ⟨hu.path, hL.query.app (hL.query.app hu.query hL.q38) hq, hu.fragment⟩

theorem tail_updateQuery (hL : TailLang e P Q F) {u v : Url} (hu : Tail P Q F u) {a : QArg} (ha : QArgPy a)
    (h : updateQuery e u a = .ok v) : Tail P Q F v := by
  unfold updateQuery at h
  obtain ⟨qy, hq, h⟩ := bind_ok h
  cases h
  refine ⟨hu.path, ?_, hu.fragment⟩
  have hold := hL.queryPairs_py hu.query
  cases a with
  | none =>
    cases hq
    exact hL.query.nil
  | str s =>
    simp only at hq
    split at hq
    · cases hq
      exact hu.query
    · exact hL.of_strQueryFromIterable _ qy (mdUpdate_py _ _ hold (strItems_py _ (parseQsl_pyStr s ha))) hq
  | mapping items =>
    simp only at hq
    split at hq
    · cases hq
      exact hu.query
    · exact hL.of_strQueryFromSeqIterable _ qy (mdUpdate_py _ _ hold ha) hq
  | pairs items =>
    simp only at hq
    split at hq
    · cases hq
      exact hu.query
    · exact hL.of_strQueryFromIterable _ qy (mdUpdate_py _ _ hold ha) hq
  | bytes empty =>
    simp only at hq
    split at hq
    · cases hq
      exact hu.query
    · cases hq
  | other => cases hq
  | noArgs => cases hq

/-- `without_query_params` goes through `with_query` on some of the old pairs -/
theorem tail_withoutQueryParams (hL : TailLang e P Q F) {u v : Url} (hu : Tail P Q F u) {names : List Str}
    (h : withoutQueryParams e u names = .ok v) : Tail P Q F v := by
  rcases withoutQueryParams_ok h with rfl | ⟨ps, hps, h⟩
  · exact hu
  · exact hL.tail_withQuery hu (a := .pairs (strItems ps))
      (strItems_py _ fun p hp => parseQsl_pyStr _ (hL.qpy hu.query) p (hps hp)) h

/-! ### fragment, path given whole -/

theorem tail_withFragment (hL : TailLang e P Q F) {u : Url} (hu : Tail P Q F u) {f : Option Str}
    (hf : ∀ s, f = some s → PyStr s) : Tail P Q F (withFragment e u f) := by
  unfold withFragment
  cases f with
  | none =>
    simp only
    split
    · exact hu
    · exact ⟨hu.path, hu.query, hL.fnil⟩
  | some s =>
    simp only
    split
    · exact hu
    · exact ⟨hu.path, hu.query, hL.fquote s (hf s rfl)⟩

/-- a path handed over to be stored as it is (`with_path(…, encoded=True)`) -/
theorem tail_withPathEnc (hL : TailLang e P Q F) {u : Url} (hu : Tail P Q F u) {p : Str} (hp : P p) (kq kf : Bool) :
    Tail P Q F (withPath e u p true kq kf) :=
  ⟨hL.path.of_ensureSlash sep47 hp, hL.keepQ kq hu.query, hL.keepF kf hu.fragment⟩

theorem tail_withPath (hL : TailLang e P Q F) {u : Url} (hu : Tail P Q F u) {p : Str} (hp : PyStr p) (kq kf : Bool) :
    Tail P Q F (withPath e u p false kq kf) := by
  rw [withPath_eq]
  have hq := hL.pquote p hp
  exact ⟨hL.path.of_ensureSlash sep47 (of_ite (hL.path.of_normalizePath sep47 (hL.path.of_rooted sep47 hq)) hq),
    hL.keepQ kq hu.query, hL.keepF kf hu.fragment⟩

/-! ### the last segment: with_name, with_suffix -/

theorem of_rawParts (hL : TailLang e P Q F) (u : Url) (hu : P u.path) : ∀ seg ∈ rawParts u, P seg := by
  have h47 : P [47] := hL.path.sep sep47
  unfold rawParts
  split
  · split
    · exact List.forall_mem_cons.mpr ⟨h47, hL.path.of_splitOn sep47 (hL.drop1 hu)⟩
    · exact List.forall_mem_cons.mpr ⟨h47, nofun⟩
  · split
    · rename_i rest hp
      exact List.forall_mem_cons.mpr ⟨h47, hL.path.of_splitOn sep47 (hL.ptail (hp ▸ hu))⟩
    · exact hL.path.of_splitOn sep47 hu

theorem of_rawName (hL : TailLang e P Q F) (u : Url) (hu : P u.path) (n : Str) (h : rawName u = .ok n) : P n := by
  have hparts := hL.of_rawParts u hu
  unfold rawName at h
  simp only at h
  split at h
  · split at h
    · rename_i l hl
      cases h
      exact hparts _ (List.mem_of_getLast? hl)
    · cases h
  · split at h
    · rename_i l hl
      cases h
      exact hparts _ (List.mem_of_mem_drop (List.mem_of_getLast? hl))
    · cases h
      exact hL.path.nil

theorem tail_withRawName (hL : TailLang e P Q F) {u v : Url} (hu : Tail P Q F u) {nm : Str} (hnm : P nm) {kq kf : Bool}
    (h : withRawName u nm kq kf = .ok v) : Tail P Q F v := by
  have hparts := hL.of_rawParts u hu.path
  unfold withRawName at h
  obtain ⟨parts', hp', h⟩ := bind_ok h
  cases h
  have hseg : ∀ seg ∈ parts', P seg := by
    -- the new segments are old ones followed by the name
    have hps : ∀ L : List Str, L ⊆ rawParts u → ∀ seg ∈ L ++ [nm], P seg := fun L hL' =>
      List.forall_mem_append.mpr ⟨fun seg hs => hparts seg (hL' hs), List.forall_mem_cons.mpr ⟨hnm, nofun⟩⟩
    have hps2 := hps _ (List.dropLast_subset _)
    split at hp'
    · cases hp'
      refine List.forall_mem_cons.mpr ⟨hL.path.nil, fun seg hs => ?_⟩
      have hs := List.mem_of_mem_drop hs
      split at hs
      · exact hps _ (List.Subset.refl _) seg hs
      · exact hps2 seg hs
    · split at hp'
      · cases hp'
      · cases hp'
        split
        · rename_i r heq
          exact List.forall_mem_cons.mpr ⟨hL.path.nil, fun seg hs => hps2 seg (heq ▸ List.mem_cons_of_mem _ hs)⟩
        · exact hps2
  exact ⟨hL.path.of_joinC sep47 _ hseg, hL.keepQ kq hu.query, hL.keepF kf hu.fragment⟩

theorem tail_withName (hL : TailLang e P Q F) {u v : Url} (hu : Tail P Q F u) {nm : Str} (hnm : PyStr nm) {kq kf : Bool}
    (h : withName e u nm kq kf = .ok v) : Tail P Q F v :=
  hL.tail_withRawName hu (hL.pquote nm hnm) (withName_ok h).2.2.2

theorem tail_withSuffix (hL : TailLang e P Q F) {u v : Url} (hu : Tail P Q F u) {sfx : Str} (hs : PyStr sfx) {kq kf : Bool}
    (h : withSuffix e u sfx kq kf = .ok v) : Tail P Q F v := by
  obtain ⟨a, old, hn, ho, _, _, _, h⟩ := withSuffix_ok h
  have hnP := hL.of_rawName u hu.path _ hn
  -- the old suffix is empty or starts at a '.': the name is cut there
  have ha : P a := by
    rcases ho with rfl | ⟨b, rfl⟩
    · rwa [List.append_nil] at hnP
    · exact (hL.path.cut (.inr rfl) hnP).1
  exact hL.tail_withRawName hu (hL.path.app ha (hL.pquote sfx hs)) h

/-! ### joinpath, parent, join, build, a bare record -/

theorem tail_makeChild (hL : TailLang e P Q F) {u v : Url} (hu : Tail P Q F u) {paths : List Str} {enc : Bool}
    (hp : ∀ p ∈ paths, P (PathMore.argText e enc p)) (h : makeChild e u paths enc = .ok v) :
    Tail P Q F v := by
  obtain ⟨X, nn, rfl, hX, _, _⟩ := PathMore.makeChild_new_segs e u v paths enc P
    (fun p hp' => hL.path.of_splitOn sep47 (hp p hp')) h
  have hM : ∀ s ∈ PathAlg.root u.netloc (PathAlg.base u ++ X), P s := by
    intro s hs
    rcases PathAlg.mem_root hs with rfl | hs
    · exact hL.path.nil
    · rcases List.mem_append.mp hs with hs | hs
      · exact hL.path.of_splitOn sep47 hu.path s (PathAlg.mem_base hs)
      · exact hX s hs
  unfold PathAlg.childOf
  simp only
  split
  · exact ⟨hL.path.of_joinC sep47 _ hM, hL.query.nil, hL.fnil⟩
  · rw [PathAlg.fixRoot_eq_ensureSlash]
    exact ⟨hL.path.of_ensureSlash sep47 (hL.path.of_joinC sep47 _ (hL.path.of_normalizePathSegments hM)),
      hL.query.nil, hL.fnil⟩

theorem tail_parent (hL : TailLang e P Q F) {u : Url} (hu : Tail P Q F u) : Tail P Q F (parent u) := by
  unfold parent
  split
  · split
    · exact ⟨hu.path, hL.query.nil, hL.fnil⟩
    · exact hu
  · -- "/name" without an authority: the parent is the root "/" (fix 264b96e)
    exact ⟨of_ite (hL.path.sep sep47)
      (hL.path.of_joinC sep47 _ fun s hs => hL.path.of_splitOn sep47 hu.path s (List.dropLast_subset _ hs)),
      hL.query.nil, hL.fnil⟩

theorem tail_join (hL : TailLang e P Q F) {base ref : Url} (hb : Tail P Q F base) (hr : Tail P Q F ref) :
    Tail P Q F (join e base ref) := by
  have hm : P (joinC 47 ((rawParts base).dropLast ++ [[]]) ++ ref.path) :=
    hL.path.app (hL.path.of_joinC sep47 _ (List.forall_mem_append.mpr
      ⟨fun s hs => hL.of_rawParts base hb.path s (List.dropLast_subset _ hs),
        List.forall_mem_cons.mpr ⟨hL.path.nil, nofun⟩⟩)) hr.path
  rcases join_cases e base ref with h | ⟨_, _, h⟩ | ⟨_, h⟩
  · rw [h]
    exact hr
  · rw [h]
    exact ⟨hr.path, hr.query, hr.fragment⟩
  · rw [h]
    refine ⟨?_, ?_, hr.fragment⟩
    · refine joinRelPath_closed base ref hb.path (fun _ => ?_) (fun _ _ => hL.path.of_normalizePath sep47)
      exact joinRawPath_closed base ref (fun _ => hr.path) (fun _ _ => hL.path.cons sep47 hr.path) (fun _ _ => hr.path)
        (fun _ _ => hL.path.app hb.path hr.path) (fun _ _ => hL.drop1 hm) (fun _ _ => hm)
    · rcases joinRelQuery_cases base ref with hq | hq
      · exact hq ▸ hr.query
      · exact hq ▸ hb.query

/-- `build(encoded=False)`: the quoted path, dot segments removed under an authority; the query rendered by
    `get_str_query` or quoted; the quoted fragment -/
theorem tail_build (hL : TailLang e P Q F) {a : BuildArgs} {u : Url} (henc : a.encoded = false)
    (hpy : BuildArgsPy a) (h : build e a = .ok u) :
    Tail P Q F u := by
  obtain ⟨hpath_py, hqs_py, hfrag_py, hq_py⟩ := hpy
  obtain ⟨_, _, _, _, _, hpath, _, hf, _⟩ := build_false_ok henc h
  have hp0 : P (buildPath0 e a.path) := buildPath0_eq e a.path ▸ hL.pquote a.path hpath_py
  refine ⟨?_, ?_, ?_⟩
  · rcases buildPath_ok hpath with ⟨_, hp⟩ | ⟨_, _, hp⟩
    · rw [hp]
      exact hp0
    · rw [hp]
      exact of_ite (hL.path.of_normalizePath sep47 hp0) hp0
  · by_cases ht : qargTruthy a.query = true
    · obtain ⟨o, ho, hq⟩ := (build_query_shape h).1 ht
      rw [hq]
      exact hL.of_getStrQuery a.query hq_py o ho
    · rw [(build_query_shape h).2 ((Bool.not_eq_true _).mp ht)]
      split
      · exact hL.qquote a.queryString hqs_py
      · rename_i hc
        rw [Classical.not_not.mp fun hne => hc ⟨henc, hne⟩]
        exact hL.query.nil
  · rw [hf, buildFragment_eq]
    exact hL.fquote a.fragment hfrag_py

/-- a URL cut down to scheme and authority -/
theorem tail_bare (hL : TailLang e P Q F) (scheme netloc : Str) : Tail P Q F (fromParts scheme netloc [] [] []) :=
  ⟨hL.path.nil, hL.query.nil, hL.fnil⟩

end TailLang

end Yarl
