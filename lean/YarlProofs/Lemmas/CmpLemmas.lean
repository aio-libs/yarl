/-
  CmpLemmas.lean — `ltStr` (Python's `str.__lt__` on code-point lists) and `ltParts` (the 5-tuple comparison) are
  core's lexicographic `List.lt`, on `List Nat` and on the key list `List (List Nat)`: `ltStr_iff`, `ltParts_iff`.
  Their order laws are then core's; `beq_key`, `lt_key`, `le_key` read the comparisons of `URL` the same way.
-/
import YarlModel
import YarlProofs.Lemmas.StrLit
namespace Yarl

/-- the tuple `(scheme, netloc, path, query, fragment)` as a list -/
def keyList (p : Parts) : List Str := [p.scheme, p.netloc, p.path, p.query, p.fragment]

end Yarl

namespace Yarl.CmpLemmas
open Yarl

/-! ### `ltStr` -/

/-- `ltStr` is the lexicographic order of lists of code points -/
theorem ltStr_iff : ∀ a b : Str, ltStr a b = true ↔ a < b
  | [], [] => by simp [ltStr]
  | [], _ :: _ => by simp [ltStr]
  | _ :: _, [] => by simp [ltStr]
  | x :: xs, y :: ys => by
    rw [ltStr, List.cons_lt_cons_iff, ← ltStr_iff xs ys]
    by_cases h1 : x < y
    · simp [h1]
    · by_cases h2 : y < x
      · simp [h1, h2]; omega
      · have : x = y := by omega
        simp [this]

/-- exactly one of `<`, `=`, `>` in core's lexicographic order -/
theorem lex_trichotomy {α : Type} [LT α] [Std.Irrefl (α := α) (· < ·)] [Std.Asymm (α := α) (· < ·)]
    [Std.Trichotomous (α := α) (· < ·)] (x y : List α) :
    (x < y ∧ x ≠ y ∧ ¬ y < x) ∨ (¬ x < y ∧ x = y ∧ ¬ y < x) ∨ (¬ x < y ∧ x ≠ y ∧ y < x) := by
  by_cases h1 : x < y
  · exact .inl ⟨h1, fun e => List.lt_irrefl y (e ▸ h1), List.lt_asymm h1⟩
  · by_cases h2 : y < x
    · exact .inr (.inr ⟨h1, fun e => List.lt_irrefl y (e ▸ h2), h2⟩)
    · exact .inr (.inl ⟨h1, List.le_antisymm (List.not_lt.1 h2) (List.not_lt.1 h1), h2⟩)

/-- exactly one of `a < b`, `a = b`, `b < a` -/
theorem ltStr_trichotomy (a b : Str) :
    (ltStr a b = true ∧ a ≠ b ∧ ltStr b a = false) ∨
    (ltStr a b = false ∧ a = b ∧ ltStr b a = false) ∨
    (ltStr a b = false ∧ a ≠ b ∧ ltStr b a = true) := by
  simp only [← Bool.not_eq_true, ltStr_iff]
  exact lex_trichotomy a b

theorem parts_ext {a b : Parts} (h1 : a.scheme = b.scheme) (h2 : a.netloc = b.netloc)
    (h3 : a.path = b.path) (h4 : a.query = b.query) (h5 : a.fragment = b.fragment) : a = b := by
  cases a; cases b; simp_all

theorem keyList_eq_iff (p q : Parts) : keyList p = keyList q ↔ p = q :=
  ⟨fun h => by
    simp only [keyList, List.cons.injEq, and_true] at h
    exact parts_ext h.1 h.2.1 h.2.2.1 h.2.2.2.1 h.2.2.2.2, fun h => by rw [h]⟩

/-! ### `ltParts` -/

/-- one level of `ltParts` against one level of `List.lt` -/
theorem lex_iff {x y : Str} {r : Bool} {l₁ l₂ : List Str} (hr : r = true ↔ l₁ < l₂) :
    (if x ≠ y then ltStr x y else r) = true ↔ x :: l₁ < y :: l₂ := by
  rw [List.cons_lt_cons_iff]
  by_cases h : x = y
  · subst h
    simp [hr, List.lt_irrefl]
  · simp [h, ltStr_iff]

theorem ltParts_iff (a b : Parts) : ltParts a b = true ↔ keyList a < keyList b :=
  lex_iff (lex_iff (lex_iff (lex_iff (by simp [ltStr_iff, List.cons_lt_cons_iff]))))

/-! ### the comparisons of `URL` on the key list

`==` is `=`, `<` is `<`, `<=` is `≤` of core's lexicographic order on the key lists; the laws of C10.lean are the
laws of that order read through `beq_key`, `lt_key`, `le_key`. -/

theorem beq_iff (a b : Url) : a.beq b = true ↔ eqKey a = eqKey b := by
  simp [Url.beq]

theorem beq_key (a b : Url) : a.beq b = true ↔ keyList (eqKey a) = keyList (eqKey b) :=
  (beq_iff a b).trans (keyList_eq_iff _ _).symm

theorem lt_key (a b : Url) : a.lt b = true ↔ keyList (eqKey a) < keyList (eqKey b) := ltParts_iff _ _

theorem le_key (a b : Url) : a.le b = true ↔ keyList (eqKey a) ≤ keyList (eqKey b) := by
  rw [List.le_iff_lt_or_eq, ← lt_key, ← beq_key]
  simp [Url.le, Url.beq]

end Yarl.CmpLemmas
