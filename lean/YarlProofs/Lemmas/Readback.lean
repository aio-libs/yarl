/-
  Readback.lean — the steps of the unquoter machine `uqLoop`, one equation per kind of step, and what follows from
  them alone: a decoded text supplied to a non-requoting quoter reads back unchanged through the unquoter.
-/
import YarlProofs.Defs
import YarlProofs.Lemmas.Utf8Round
import YarlProofs.Lemmas.OutLang
namespace Yarl
namespace Readback

/-! ### hex digits -/

theorem fromHex_toHex (v : Nat) (h : v < 16) : fromHex (toHex v) = some v := by
  unfold toHex
  split
  · have a : 0x30 ≤ v + 0x30 ∧ v + 0x30 ≤ 0x39 := by omega
    simp only [fromHex, a, and_self, if_true, Option.some.injEq]; omega
  · have a : ¬ (0x30 ≤ v + 0x41 - 10 ∧ v + 0x41 - 10 ≤ 0x39) := by omega
    have b : 0x41 ≤ v + 0x41 - 10 ∧ v + 0x41 - 10 ≤ 0x46 := by omega
    simp only [fromHex, a, b, and_self, if_true, if_false, Option.some.injEq]; omega

theorem restoreCh_toHex (x : Nat) (h : x < 256) :
    restoreCh (toHex (x / 16)) (toHex (x % 16)) = some x := by
  have a := fromHex_toHex (x / 16) (by omega)
  have b := fromHex_toHex (x % 16) (by omega)
  simp only [restoreCh, a, b, Option.some.injEq]; omega

theorem takeEscape_toHex (x : Nat) (h : x < 256) (r : Str) :
    takeEscape restoreCh (toHex (x / 16) :: toHex (x % 16) :: r)
      = some (x, toHex (x / 16), toHex (x % 16), r) := by
  simp only [takeEscape, restoreCh_toHex x h]

theorem pct_append (x : Nat) (r : Str) :
    pct x ++ r = 37 :: toHex (x / 16) :: toHex (x % 16) :: r := by
  simp [pct]

/-! ### what one step of the unquoter machine does

  Where the next token ends and what the decoder answers depends on the input and on the pending bytes only, not on
  the backend or the table: those only say what a plain character (`uqPlain`) and a decoded one (`uqEmit`) are written
  as.  There are five kinds of step. -/

/-- the next character is no escape: a character other than '%', or a '%' not followed by two hex digits -/
def Lit (c : Nat) (rest : Str) : Prop := c ≠ 37 ∨ takeEscape restoreCh rest = none

theorem uqLoop_nil (b : Backend) (u : UTab) (pend : List Nat) (ptxt : Str) :
    uqLoop b u pend ptxt [] = ptxt := by
  rw [uqLoop]

/-- a plain character: the pending escapes are written out as they are, then the character -/
theorem uqLoop_lit (b : Backend) (u : UTab) (pend : List Nat) (ptxt : Str) {c : Nat} {rest : Str}
    (h : Lit c rest) : uqLoop b u pend ptxt (c :: rest) = ptxt ++ uqPlain u c ++ uqLoop b u [] [] rest := by
  rw [uqLoop]
  by_cases hc : c = 37
  · subst hc
    rw [if_pos rfl]
    split
    · rename_i h'
      rw [h.resolve_left (by simp)] at h'
      cases h'
    · rfl
  · rw [if_neg hc]

theorem uqLoop_esc (b : Backend) (u : UTab) (pend : List Nat) (ptxt : Str) {rest rest' : Str} {v d1 d2 : Nat}
    (h : takeEscape restoreCh rest = some (v, d1, d2, rest')) :
    uqLoop b u pend ptxt (37 :: rest) =
      match decodeBuf (pend ++ [v]) with
      | .incomplete => uqLoop b u (pend ++ [v]) (ptxt ++ [37, d1, d2]) rest'
      | .char ch => uqEmit b u ch ++ uqLoop b u [] [] rest'
      | .invalid =>
        ptxt ++
        (match decodeBuf [v] with
         | .incomplete => uqLoop b u [v] [37, d1, d2] rest'
         | .char ch => uqEmit b u ch ++ uqLoop b u [] [] rest'
         | .invalid => [37, d1, d2] ++ uqLoop b u [] [] rest') := by
  rw [uqLoop, if_pos rfl]
  split
  · rename_i h'
    rw [h] at h'
    cases h'
    rfl
  · rename_i h'
    rw [h] at h'
    cases h'

section esc
variable (b : Backend) (u : UTab) (pend : List Nat) (ptxt : Str) {rest rest' : Str} {v d1 d2 : Nat}
  (h : takeEscape restoreCh rest = some (v, d1, d2, rest'))
include h

/-- the escape continues the pending bytes -/
theorem uqLoop_pending (hd : decodeBuf (pend ++ [v]) = .incomplete) :
    uqLoop b u pend ptxt (37 :: rest) = uqLoop b u (pend ++ [v]) (ptxt ++ [37, d1, d2]) rest' := by
  rw [uqLoop_esc b u pend ptxt h, hd]

/-- the escape completes a character -/
theorem uqLoop_char {ch : Nat} (hd : decodeBuf (pend ++ [v]) = .char ch) :
    uqLoop b u pend ptxt (37 :: rest) = uqEmit b u ch ++ uqLoop b u [] [] rest' := by
  rw [uqLoop_esc b u pend ptxt h, hd]

/-- an escape that can start no sequence is copied -/
theorem uqLoop_reject (hd : decodeBuf [v] = .invalid) :
    uqLoop b u [] ptxt (37 :: rest) = ptxt ++ [37, d1, d2] ++ uqLoop b u [] [] rest' := by
  rw [uqLoop_esc b u [] ptxt h, List.nil_append, hd, List.append_assoc]

/-- an escape that cannot continue the pending bytes: they are written out as they are and the machine restarts AT
    this escape -/
theorem uqLoop_restart (hd : decodeBuf (pend ++ [v]) = .invalid) :
    uqLoop b u pend ptxt (37 :: rest) = ptxt ++ uqLoop b u [] [] (37 :: rest) := by
  rw [uqLoop_esc b u pend ptxt h, hd, uqLoop_esc b u [] [] h, List.nil_append]
  cases decodeBuf [v] <;> rfl

end esc

/-- an unquoter that maps no character to nothing maps no non-empty input to nothing -/
theorem uqLoop_ne_nil (b : Backend) (u : UTab) (hE : ∀ c, uqEmit b u c ≠ []) (hP : ∀ c, uqPlain u c ≠ [])
    (pend : List Nat) (ptxt s : Str) (h : ptxt ≠ [] ∨ s ≠ []) : uqLoop b u pend ptxt s ≠ [] := by
  fun_induction uqLoop b u pend ptxt s <;> simp_all
  intro _
  split <;> simp_all

/-! ### all escapes of one character -/

/-- with the first `k` bytes of `utf8 c` pending, the escapes of the remaining
    bytes complete the character -/
theorem uqLoop_utf8_from (b : Backend) (u : UTab) (c : Nat) (hc : c ≤ 0x10FFFF)
    (hs : isSurrogate c = false) (rest : Str) :
    ∀ (n k : Nat) (ptxt : Str), k + n + 1 = (utf8 c).length →
      uqLoop b u ((utf8 c).take k) ptxt (((utf8 c).drop k).flatMap pct ++ rest)
        = uqEmit b u c ++ uqLoop b u [] [] rest := by
  intro n
  induction n with
  | zero =>
    intro k ptxt hk
    have hlt : k < (utf8 c).length := by omega
    rw [List.drop_eq_getElem_cons hlt, List.drop_of_length_le (by omega)]
    simp only [List.flatMap_cons, List.flatMap_nil, List.append_nil]
    rw [pct_append]
    apply uqLoop_char b u _ _ (takeEscape_toHex _ (OutLangLemmas.utf8_lt256 c _ (List.getElem_mem hlt)) _)
    rw [← List.take_succ_eq_append_getElem hlt, List.take_of_length_le (by omega)]
    exact decodeBuf_utf8 c hc hs
  | succ n ih =>
    intro k ptxt hk
    have hlt : k < (utf8 c).length := by omega
    rw [List.drop_eq_getElem_cons hlt]
    simp only [List.flatMap_cons, List.append_assoc]
    rw [pct_append, uqLoop_pending b u _ _ (takeEscape_toHex _ (OutLangLemmas.utf8_lt256 c _ (List.getElem_mem hlt)) _),
      ← List.take_succ_eq_append_getElem hlt]
    · exact ih (k + 1) _ (by omega)
    · rw [← List.take_succ_eq_append_getElem hlt]
      exact decodeBuf_utf8_prefix c hc hs (k + 1) (by omega) (by omega)

theorem uqLoop_writeUtf8 (b : Backend) (u : UTab) (c : Nat) (hc : c ≤ 0x10FFFF)
    (hs : isSurrogate c = false) (rest : Str) :
    uqLoop b u [] [] (writeUtf8 c ++ rest) = uqEmit b u c ++ uqLoop b u [] [] rest := by
  have hpos := utf8_length_pos c hc hs
  have := uqLoop_utf8_from b u c hc hs rest ((utf8 c).length - 1) 0 [] (by omega)
  simpa [writeUtf8] using this

/-! ### the C `changed` flag of the unquoter -/

theorem uqLoop_of_not_changed (b : Backend) (u : UTab) (s : Str) :
    cUnqChanged u s = false → uqLoop b u [] [] s = s := by
  induction s with
  | nil => intro _; exact uqLoop_nil b u [] []
  | cons c rest ih =>
    intro h
    rw [cUnqChanged] at h
    by_cases h37 : c = 37
    · subst h37
      simp only [if_true] at h
      split at h
      · simp at h
      · rename_i hte
        simp only [Bool.or_eq_false_iff, decide_eq_false_iff_not] at h
        obtain ⟨⟨_, hm⟩, hr⟩ := h
        have : uqPlain u 37 = [37] := by
          simp [uqPlain, hm]
        rw [uqLoop_lit b u [] [] (Or.inr hte), this, ih hr]
        rfl
    · simp only [h37, if_false] at h
      rw [uqLoop_lit b u [] [] (Or.inl h37)]
      by_cases h43 : c = 43
      · subst h43
        simp only [if_true, Bool.or_eq_false_iff, Bool.not_eq_false'] at h
        obtain ⟨hm, hr⟩ := h
        have hm' : u.qs = false ∨ mem 43 u.unsafeS = true := by simpa using hm
        have : uqPlain u 43 = [43] := by
          simp only [uqPlain, if_true, hm']
        rw [this, ih hr]
        simp
      · simp only [h43, if_false, Bool.or_eq_false_iff] at h
        obtain ⟨hm, hr⟩ := h
        have : uqPlain u c = [c] := by
          simp [uqPlain, h43, hm]
        rw [this, ih hr]
        simp

/-- the C `changed` flag is an optimisation only: both backends return the loop's result -/
theorem unquote_eq_uqLoop (b : Backend) (u : UTab) (s : Str) :
    unquote b u s = uqLoop b u [] [] s := by
  cases b with
  | py => rfl
  | c =>
    show unquoteC u s = _
    unfold unquoteC
    split
    · rfl
    · rename_i h
      exact (uqLoop_of_not_changed .c u s (by simpa using h)).symm

/-! ### what a non-requoting quoter wrote -/

/-- unquoting what ANY non-requoting quoter (query quoters included) wrote, for ANY unquoter: character by character -/
theorem uqLoop_cOut_any (b : Backend) (q : QTab) (u : UTab) (hq : q.WF) (hnr : q.requote = false)
    (t : Str) (ht : PyStr t) (hn : NoSurrogate t) :
    uqLoop b u [] [] (cOut q t) =
      t.flatMap (fun c => if q.qs = true ∧ c = 32 then uqPlain u 43
        else if c < 128 ∧ q.safe c = true then uqPlain u c else uqEmit b u c) := by
  induction t with
  | nil => rw [cOut, uqLoop]; rfl
  | cons c rest ih =>
    have hc : c ≤ 0x10FFFF := ht c (by simp)
    have hs : isSurrogate c = false := hn c (by simp)
    have ih' := ih (fun x hx => ht x (by simp [hx])) (fun x hx => hn x (by simp [hx]))
    rw [cOut]
    simp only [hnr, Bool.false_eq_true, and_false, if_false]
    unfold cWriteOut
    simp only [List.flatMap_cons]
    by_cases h1 : q.qs = true ∧ c = 32
    · rw [if_pos h1, if_pos h1]
      rw [List.singleton_append, uqLoop_lit b u [] [] (Or.inl (by decide)), ih']
      rfl
    · rw [if_neg h1, if_neg h1]
      by_cases h2 : c < 128 ∧ q.safe c = true
      · have h37 : c ≠ 37 := by
          rintro rfl
          have := hq.pct_unsafe
          rw [h2.2] at this
          exact absurd this (by decide +kernel)
        rw [if_pos h2, if_pos h2]
        rw [List.singleton_append, uqLoop_lit b u [] [] (Or.inl h37), ih']
        rfl
      · rw [if_neg h2, if_neg h2]
        rw [uqLoop_writeUtf8 b u c hc hs, ih']

theorem flatMap_singleton (f : Nat → Str) (t : Str) (h : ∀ c ∈ t, f c = [c]) : t.flatMap f = t := by
  induction t with
  | nil => rfl
  | cons c r ih =>
    rw [List.flatMap_cons, h c (by simp), ih (fun x hx => h x (by simp [hx]))]; rfl

end Readback

open Readback

/-- unquoting what a non-requoting quoter wrote gives the text back -/
theorem unquote_cOut (b : Backend) (q : QTab) (u : UTab) (hq : q.WF) (hnr : q.requote = false)
    (hlit : ∀ c, q.safe c = true → c ≠ 37 → ¬(q.qs = true ∧ c = 32) → uqPlain u c = [c])
    (hqs : q.qs = true → uqPlain u 43 = [32])
    (hemit : ∀ c, c ≤ 0x10FFFF → (q.safe c = false ∨ 128 ≤ c) → ¬(q.qs = true ∧ c = 32) →
      uqEmit b u c = [c])
    (t : Str) (ht : PyStr t) (hn : NoSurrogate t) :
    unquote b u (cOut q t) = t := by
  rw [unquote_eq_uqLoop, uqLoop_cOut_any b q u hq hnr t ht hn]
  apply flatMap_singleton
  intro c hc
  by_cases h1 : q.qs = true ∧ c = 32
  · rw [if_pos h1, hqs h1.1, h1.2]
  rw [if_neg h1]
  by_cases h2 : c < 128 ∧ q.safe c = true
  · rw [if_pos h2]
    refine hlit c h2.2 ?_ h1
    rintro rfl
    exact absurd (hq.pct_unsafe ▸ h2.2) (by decide +kernel)
  · rw [if_neg h2]
    refine hemit c (ht c hc) ?_ h1
    cases hsafe : q.safe c with
    | false => exact Or.inl rfl
    | true => exact Or.inr (Nat.le_of_not_lt fun hlt => h2 ⟨hlt, hsafe⟩)

end Yarl
