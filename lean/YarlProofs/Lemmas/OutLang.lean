/-
  OutLang.lean — the output language of both quoter backends: everything the
  compiled core `cOut` and the pure-Python byte loop `pyLoop` write is in
  `OutLang t`, and `OutLang t` strings are ASCII, well escaped and made of
  allowed characters only.
-/
import YarlProofs.Defs
import YarlProofs.Lemmas.Hex
namespace Yarl

namespace OutLangLemmas

/-! ### hex digits -/

theorem toHex_upper {x : Nat} (h : x < 16) : isUpperHexDigit (toHex x) = true := by
  unfold isUpperHexDigit toHex
  split <;> simp <;> omega

theorem toHex_lt128 {x : Nat} (h : x < 16) : toHex x < 128 := by
  unfold toHex
  split <;> omega

theorem upperHex_lt128 {c : Nat} (h : isUpperHexDigit c = true) : c < 128 := by
  unfold isUpperHexDigit at h
  simp at h
  omega

theorem hexValUpper_lt {c v : Nat} (h : hexValUpper c = some v) : v < 16 := by
  unfold hexValUpper at h
  split at h
  · simp at h; omega
  · split at h
    · simp at h; omega
    · simp at h

theorem restorePy_lt {d1 d2 v : Nat} (h : restorePy d1 d2 = some v) : v < 256 := by
  unfold restorePy at h
  simp only at h
  split at h
  · split at h
    · rename_i a b ha hb
      have := hexValUpper_lt ha
      have := hexValUpper_lt hb
      simp at h
      omega
    · simp at h
  · simp at h

/-! ### UTF-8 bytes -/

/-- UTF-8 bytes are bytes, for any code point whatsoever (a lone surrogate and a code point beyond U+10FFFF have none) -/
theorem utf8_lt256 (c : Nat) : ∀ b ∈ utf8 c, b < 256 := by
  intro b hb
  unfold utf8 at hb
  split at hb
  · simp at hb; omega
  · split at hb
    · simp at hb; omega
    · split at hb
      · simp at hb
      · split at hb
        · simp at hb; omega
        · split at hb
          · simp at hb; omega
          · simp at hb

/-! ### building blocks -/

theorem pct_outLang (t : QTab) {b : Nat} {r : Str} (hb : b < 256) (hr : OutLang t r) :
    OutLang t (pct b ++ r) := OutLang.esc b r hb hr

theorem flatMap_pct_outLang (t : QTab) (bs : List Nat) {r : Str} (hb : ∀ b ∈ bs, b < 256)
    (hr : OutLang t r) : OutLang t (bs.flatMap pct ++ r) := by
  induction bs with
  | nil => simpa using hr
  | cons b bs ih =>
    rw [List.flatMap_cons, List.append_assoc]
    exact OutLang.esc b _ (hb b (by simp)) (ih (fun x hx => hb x (by simp [hx])))

theorem safe_ne37 {t : QTab} (h : t.WF) {c : Nat} (hc : t.safe c = true) : c ≠ 37 := by
  intro e
  subst e
  rw [h.pct_unsafe] at hc
  exact Bool.noConfusion hc

theorem cWriteOut_outLang (t : QTab) (h : t.WF) (c : Nat) {r : Str}
    (hr : OutLang t r) : OutLang t (cWriteOut t c ++ r) := by
  unfold cWriteOut
  split
  · rename_i hq
    exact OutLang.plus r hq.1 hr
  · split
    · rename_i hs
      exact OutLang.lit c r hs.2 (safe_ne37 h hs.2) hr
    · exact flatMap_pct_outLang t _ (utf8_lt256 c) hr

theorem cEscOut_outLang (t : QTab) (h : t.WF) {v : Nat} {r : Str} (hv : v < 256)
    (hr : OutLang t r) : OutLang t (cEscOut t v ++ r) := by
  unfold cEscOut
  split
  · exact OutLang.esc v r hv hr
  · split
    · rename_i hs
      exact OutLang.lit v r hs.2 (safe_ne37 h hs.2) hr
    · exact OutLang.esc v r hv hr

theorem emitEsc_outLang (t : QTab) (h : t.WF) {v : Nat} {r : Str} (hv : v < 256)
    (hr : OutLang t r) : OutLang t (emitEsc t v ++ r) := by
  unfold emitEsc
  split
  · exact OutLang.esc v r hv hr
  · split
    · rename_i hs
      exact OutLang.lit v r hs (safe_ne37 h hs) hr
    · exact OutLang.esc v r hv hr

/-! ### `WellEscaped` equations (the definition has overlapping patterns) -/

theorem wellEscaped_pct (a b : Nat) (r : Str) :
    WellEscaped (37 :: a :: b :: r) ↔
      (isUpperHexDigit a = true ∧ isUpperHexDigit b = true ∧ WellEscaped r) := by
  simp [WellEscaped]

theorem wellEscaped_cons_ne {c : Nat} (hc : c ≠ 37) (r : Str) :
    WellEscaped (c :: r) ↔ WellEscaped r := by
  rw [WellEscaped.eq_def]
  split
  · simp_all
  · simp_all
  · simp_all
  · simp_all
  · simp_all

/-- `WellEscaped` survives concatenation -/
theorem wellEscaped_append {a b : Str} (ha : WellEscaped a) (hb : WellEscaped b) : WellEscaped (a ++ b) := by
  induction a using WellEscaped.induct with
  | case1 => exact hb
  | case2 x y r ih =>
    rw [wellEscaped_pct] at ha
    show WellEscaped (37 :: x :: y :: (r ++ b))
    rw [wellEscaped_pct]
    exact ⟨ha.1, ha.2.1, ih ha.2.2⟩
  | case3 => simp [WellEscaped] at ha
  | case4 x => simp [WellEscaped] at ha
  | case5 c r h1 h2 h3 ih =>
    have hc : c ≠ 37 := by
      intro hc
      match r, h1, h2, h3 with
      | [], _, h2, _ => exact h2 hc rfl
      | [x], _, _, h3 => exact h3 x hc rfl
      | x :: y :: r', h1, _, _ => exact h1 x y r' hc rfl
    rw [wellEscaped_cons_ne hc] at ha
    show WellEscaped (c :: (r ++ b))
    rw [wellEscaped_cons_ne hc]
    exact ih ha

theorem wellEscaped_of_no_pct {s : Str} (h : 37 ∉ s) : WellEscaped s := by
  induction s with
  | nil => trivial
  | cons c r ih =>
    have hc : c ≠ 37 := fun e => h (by simp [e])
    rw [wellEscaped_cons_ne hc]
    exact ih (fun hm => h (by simp [hm]))

/-- a '%' of well-escaped text is followed by two upper-case hex digits -/
theorem wellEscaped_at {s : Str} (h : WellEscaped s) : ∀ i, s[i]? = some 37 →
    ∃ a b, s[i+1]? = some a ∧ s[i+2]? = some b ∧ isUpperHexDigit a = true ∧ isUpperHexDigit b = true := by
  fun_induction WellEscaped s with
  | case1 => intro i hi; simp at hi
  | case2 a b r ih =>
    obtain ⟨ha, hb, hr⟩ := h
    intro i hi
    match i with
    | 0 => exact ⟨a, b, rfl, rfl, ha, hb⟩
    | 1 => simp at hi; subst hi; exact absurd ha (by decide)
    | 2 => simp at hi; subst hi; exact absurd hb (by decide)
    | j + 3 =>
      simp only [List.getElem?_cons_succ] at hi ⊢
      exact ih hr j hi
  | case3 => exact h.elim
  | case4 x => exact h.elim
  | case5 c r h1 h2 h3 ih =>
    intro i hi
    match i with
    | 0 =>
      simp at hi; subst hi
      match r with
      | [] => exact (h2 rfl rfl).elim
      | [x] => exact (h3 x rfl rfl).elim
      | a :: b :: r' => exact (h1 a b r' rfl rfl).elim
    | j + 1 =>
      simp only [List.getElem?_cons_succ] at hi ⊢
      exact ih h j hi

end OutLangLemmas

open OutLangLemmas

/-- everything the compiled core writes is in the output language -/
theorem cOut_outLang (t : QTab) (h : t.WF) (s : Str) : OutLang t (cOut t s) := by
  fun_induction cOut t s with
  | case1 => exact OutLang.nil
  | case2 c rest hc v d1 d2 rest' hm ih =>
    exact cEscOut_outLang t h (Hex.restoreCh_lt (takeEscape_eq hm).2) ih
  | case3 c rest hc hm ih =>
    exact cWriteOut_outLang t h 37 ih
  | case4 c rest hc ih =>
    exact cWriteOut_outLang t h c ih

/-- everything the pure-Python byte loop writes is in the output language -/
theorem pyLoop_outLang (t : QTab) (h : t.WF) (bs : List Nat) (hb : ∀ b ∈ bs, b < 256) :
    OutLang t (pyLoop t bs) := by
  fun_induction pyLoop t bs with
  | case1 => exact OutLang.nil
  | case2 b rest hc v d1 d2 rest' hm ih =>
    have hrest : ∀ x ∈ rest', x < 256 := by
      intro x hx
      have := (takeEscape_eq hm).1
      exact hb x (by simp [this, hx])
    exact emitEsc_outLang t h (restorePy_lt (takeEscape_eq hm).2) (ih hrest)
  | case3 b rest hc hm ih =>
    have hrest : ∀ x ∈ rest, x < 256 := fun x hx => hb x (by simp [hx])
    exact OutLang.esc 37 _ (by decide) (ih hrest)
  | case4 b rest hc hq ih =>
    have hrest : ∀ x ∈ rest, x < 256 := fun x hx => hb x (by simp [hx])
    exact OutLang.plus _ hq.1 (ih hrest)
  | case5 b rest hc hq hsafe ih =>
    have hrest : ∀ x ∈ rest, x < 256 := fun x hx => hb x (by simp [hx])
    exact OutLang.lit b _ hsafe (safe_ne37 h hsafe) (ih hrest)
  | case6 b rest hc hq hsafe ih =>
    have hrest : ∀ x ∈ rest, x < 256 := fun x hx => hb x (by simp [hx])
    exact OutLang.esc b _ (hb b (by simp)) (ih hrest)

theorem outLang_append (t : QTab) {a b : Str} : OutLang t a → OutLang t b → OutLang t (a ++ b) := by
  intro ha hb
  induction ha with
  | nil => simpa using hb
  | lit c r hs hc _ ih => exact OutLang.lit c _ hs hc ih
  | plus r hq _ ih => exact OutLang.plus _ hq ih
  | esc x r hx _ ih =>
    rw [List.append_assoc]
    exact OutLang.esc x _ hx ih

theorem outLang_ascii (t : QTab) (h : t.WF) {s : Str} : OutLang t s → ∀ c ∈ s, c < 128 := by
  intro hs
  induction hs with
  | nil => intro c hc; simp at hc
  | lit c r hsafe _ _ ih =>
    intro x hx
    rcases List.mem_cons.mp hx with rfl | hx
    · exact h.safe_ascii _ hsafe
    · exact ih x hx
  | plus r _ _ ih =>
    intro x hx
    rcases List.mem_cons.mp hx with rfl | hx
    · decide
    · exact ih x hx
  | esc b r hb _ ih =>
    intro x hx
    simp only [pct, List.cons_append, List.nil_append, List.mem_cons] at hx
    rcases hx with rfl | rfl | rfl | hx
    · decide
    · exact toHex_lt128 (by omega)
    · exact toHex_lt128 (by omega)
    · exact ih x hx

theorem outLang_wellEscaped (t : QTab) {s : Str} : OutLang t s → WellEscaped s := by
  intro hs
  induction hs with
  | nil => simp [WellEscaped]
  | lit c r _ hc _ ih => exact (wellEscaped_cons_ne hc r).mpr ih
  | plus r _ _ ih => exact (wellEscaped_cons_ne (by decide) r).mpr ih
  | esc b r hb _ ih =>
    simp only [pct, List.cons_append, List.nil_append]
    exact (wellEscaped_pct _ _ r).mpr ⟨toHex_upper (by omega), toHex_upper (by omega), ih⟩

theorem outLang_allowed (t : QTab) {s : Str} : OutLang t s →
    ∀ c ∈ s, t.safe c = true ∨ c = 37 ∨ isUpperHexDigit c = true ∨ (t.qs = true ∧ c = 43) := by
  intro hs
  induction hs with
  | nil => intro c hc; simp at hc
  | lit c r hsafe _ _ ih =>
    intro x hx
    rcases List.mem_cons.mp hx with rfl | hx
    · exact Or.inl hsafe
    · exact ih x hx
  | plus r hq _ ih =>
    intro x hx
    rcases List.mem_cons.mp hx with rfl | hx
    · exact Or.inr (Or.inr (Or.inr ⟨hq, rfl⟩))
    · exact ih x hx
  | esc b r hb _ ih =>
    intro x hx
    simp only [pct, List.cons_append, List.nil_append, List.mem_cons] at hx
    rcases hx with rfl | rfl | rfl | hx
    · exact Or.inr (Or.inl rfl)
    · exact Or.inr (Or.inr (Or.inl (toHex_upper (by omega))))
    · exact Or.inr (Or.inr (Or.inl (toHex_upper (by omega))))
    · exact ih x hx

theorem allSafe_outLang (t : QTab) (h : t.WF) (s : Str) : allSafe t s = true → OutLang t s := by
  intro hs
  induction s with
  | nil => exact OutLang.nil
  | cons c r ih =>
    simp only [allSafe, List.all_cons, Bool.and_eq_true, decide_eq_true_eq] at hs
    exact OutLang.lit c r hs.1.2 (safe_ne37 h hs.1.2) (ih (by simpa [allSafe] using hs.2))

end Yarl
