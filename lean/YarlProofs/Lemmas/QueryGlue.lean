/-
  QueryGlue.lean — texts glued from pieces with a separator, and a quoter that tracks the separator
  (`WfLemmas.Tracked`: protected, no hex digit, not the space of `qs`).  The quoter distributes over the glue whatever
  the pieces are (`cOut_sep`, `cOut_joinC`), and a text glued from separator-free pieces determines its pieces
  (`joinC_inj`, `sep_inj`).  A statement about a whole query string `k1=v1&k2=v2…` is then the statement about one
  component, piece by piece (`mapM_map_iff` for pieces made one by one).
-/
import YarlProofs.Lemmas.TokLemmas
import YarlProofs.Lemmas.HostLemmas
import YarlProofs.Lemmas.Basics
namespace Yarl
namespace QueryGlue

open WfLemmas TokLemmas

theorem cOut_sep (t : QTab) (h : t.WF) {d : Nat} (k : Tracked t d) (a b : Str) :
    cOut t (a ++ d :: b) = cOut t a ++ d :: cOut t b :=
  cOut_append_sep t h (k.safe h) k.nothex (fun hq => (k.noqs hq.1).1 hq.2) a b

theorem cOut_joinC (t : QTab) (h : t.WF) {d : Nat} (k : Tracked t d) (l : List Str) :
    cOut t (joinC d l) = joinC d (l.map (cOut t)) := by
  cases l with
  | nil => simp [joinC, joinSep, cOut_nil]
  | cons s r =>
    rw [List.map_cons, PathLemmas.joinC_cons, PathLemmas.joinC_cons]
    induction r generalizing s with
    | nil => simp
    | cons s' r ih =>
      rw [HostLemmas.flatC_cons, cOut_sep t h k, ih s', List.map_cons, HostLemmas.flatC_cons]

/-- two texts that agree, each cut at the first occurrence of `d` or at its end -/
theorem first_sep_unique {d : Nat} {a1 a2 b1 b2 : Str} (h1 : d ∉ a1) (h2 : d ∉ a2)
    (e1 : b1 = [] ∨ ∃ x, b1 = d :: x) (e2 : b2 = [] ∨ ∃ x, b2 = d :: x) (h : a1 ++ b1 = a2 ++ b2) :
    a1 = a2 ∧ b1 = b2 := by
  induction a1 generalizing a2 with
  | nil =>
    cases a2 with
    | nil => exact ⟨rfl, by simpa using h⟩
    | cons y a2 =>
      rcases e1 with rfl | ⟨x, rfl⟩
      · simp at h
      · simp only [List.nil_append, List.cons_append, List.cons.injEq] at h
        exact absurd h.1 (fun e => h2 (by simp [e]))
  | cons y a1 ih =>
    cases a2 with
    | nil =>
      rcases e2 with rfl | ⟨x, rfl⟩
      · simp at h
      · simp only [List.nil_append, List.cons_append, List.cons.injEq] at h
        exact absurd h.1 (fun e => h1 (by simp [e]))
    | cons z a2 =>
      simp only [List.cons_append, List.cons.injEq] at h
      obtain ⟨r1, r2⟩ := ih (fun hm => h1 (by simp [hm])) (fun hm => h2 (by simp [hm])) h.2
      exact ⟨by rw [h.1, r1], r2⟩

theorem sep_inj {d : Nat} {a a' b b' : Str} (h : d ∉ a) (h' : d ∉ a') :
    a ++ [d] ++ b = a' ++ [d] ++ b' ↔ a = a' ∧ b = b' := by
  constructor
  · intro e
    have := first_sep_unique h h' (Or.inr ⟨b, rfl⟩) (Or.inr ⟨b', rfl⟩) (by simpa using e)
    exact ⟨this.1, by simpa using this.2⟩
  · rintro ⟨e1, e2⟩
    rw [e1, e2]

theorem joinC_inj {d : Nat} {l l' : List Str} (hl : l ≠ []) (hl' : l' ≠ []) (h : ∀ p ∈ l, d ∉ p)
    (h' : ∀ p ∈ l', d ∉ p) : joinC d l = joinC d l' ↔ l = l' := by
  constructor
  · intro e
    rw [← PathLemmas.splitOn_joinC (c := d) l hl h, e, PathLemmas.splitOn_joinC (c := d) l' hl' h']
  · intro e
    rw [e]

/-- pieces made one by one by `f`: their images under `G` are the images of the inputs under `H` iff each piece's is,
    said by a condition `P` on the input -/
theorem mapM_map_iff {ε α β γ : Type} {f : α → Except ε β} {G : β → γ} {H : α → γ} {P : α → Prop} :
    ∀ {l : List α} {r : List β}, l.mapM f = .ok r → (∀ a ∈ l, ∀ x, f a = .ok x → (G x = H a ↔ P a)) →
      (r.map G = l.map H ↔ ∀ a ∈ l, P a)
  | [], r, h, _ => by
    rw [List.mapM_nil] at h
    cases h
    simp
  | a :: l, r, h, k => by
    rw [List.mapM_cons] at h
    cases h1 : f a with
    | error err =>
      rw [h1] at h
      cases h
    | ok x =>
      cases h2 : l.mapM f with
      | error err =>
        rw [h1, h2] at h
        cases h
      | ok xs =>
        rw [h1, h2] at h
        cases h
        rw [List.map_cons, List.map_cons, List.cons.injEq, List.forall_mem_cons, k a (by simp) x h1,
          mapM_map_iff h2 fun a' ha' => k a' (by simp [ha'])]

end QueryGlue
end Yarl
