/-
  ReachFix.lean — helper lemmas for C03Reach: the canonical-form invariant `CanonUrl` of every URL the auto-encoding
  API can produce.  Its text half (`canonLang`: each component is canonical text of its REQUOTER) is an instance of the
  walk in TailLang.lean; its path half (`C15_Inv`: next to an authority no dot segment, empty or rooted) holds of any
  record an operation is applied to and is kept operation by operation (namespace `R14`: `R14.inv_join`,
  `R14.inv_applyOp` and their helper lemmas).
-/
import YarlModel
import YarlProofs.C01Reach
import YarlProofs.C03
import YarlProofs.C04
import YarlProofs.C07Recompose
import YarlProofs.C15Entry
import YarlProofs.Lemmas.JoinShape
import YarlProofs.Lemmas.Basics
import YarlProofs.Lemmas.AuthMod
namespace Yarl

/-- the invariant: each stored component is canonical text of its REQUOTER; under an authority the
    path has no dot segment and is empty or starts with '/' -/
structure CanonUrl (b : Backend) (u : Url) : Prop where
  path : Canon (Gen.PATH_REQUOTER.tab b) u.path
  query : Canon (Gen.QUERY_REQUOTER.tab b) u.query
  fragment : Canon (Gen.FRAGMENT_REQUOTER.tab b) u.fragment
  nodots : u.netloc ≠ [] → NoDotSegments u.path
  rooted : u.netloc ≠ [] → (u.path = [] ∨ u.path.head? = some 47)

namespace ReachFix
open OutLangLemmas

/-! ### generic facts about canonical text -/

theorem canon_cons {t : QTab} {d : Nat} {r : Str} (h : LitOK t d) (hr : Canon t r) : Canon t (d :: r) :=
  Canon.lit d r h.1 h.2.1 h.2.2 hr

theorem canon_singleton {t : QTab} {d : Nat} (h : LitOK t d) : Canon t [d] := canon_cons h Canon.nil

/-- the Canon analogue of `outLang_joinC_iff` -/
theorem canon_joinC_iff {t : QTab} (d : Nat) (hd : LitOK t d) (hdhex : isUpperHexDigit d = false)
    (segs : List Str) (hne : segs ≠ []) (hsep : ∀ p ∈ segs, d ∉ p) :
    Canon t (joinC d segs) ↔ ∀ seg ∈ segs, Canon t seg := by
  have hL : SegLang (· = d) (Canon t) := canon_segLang fun d' hd' => hd' ▸ ⟨hd, hdhex⟩
  constructor
  · intro h seg hseg
    have := hL.of_splitOn rfl h seg
    rw [PathLemmas.splitOn_joinC (c := d) segs hne hsep] at this
    exact this hseg
  · exact hL.of_joinC rfl segs

theorem toHex_ne37' {x : Nat} (h : x < 16) : toHex x ≠ 37 := TokLang.toHex_ne (by decide) h

/-! ### the generated tables -/

open WfLemmas FixLemmas in
theorem path_lit47 (b : Backend) : LitOK (Gen.PATH_REQUOTER.tab b) 47 := by
  cases b <;> exact ⟨by decide, by decide, by decide⟩

theorem path_lit46 (b : Backend) : LitOK (Gen.PATH_REQUOTER.tab b) 46 := by
  cases b <;> exact ⟨by decide, by decide, by decide⟩

theorem path_hex_lit (b : Backend) : ∀ c, isUpperHexDigit c = true → LitOK (Gen.PATH_REQUOTER.tab b) c := by
  intro c hc
  refine ⟨GenTabs.path_hex_safe b c hc, ?_, ?_⟩
  · have := FixLemmas.upperHex_range hc; omega
  · have := FixLemmas.upperHex_range hc; omega

theorem query_lit61 (b : Backend) : LitOK (Gen.QUERY_REQUOTER.tab b) 61 := by
  cases b <;> exact ⟨by decide, by decide, by decide⟩

theorem query_lit38 (b : Backend) : LitOK (Gen.QUERY_REQUOTER.tab b) 38 := by
  cases b <;> exact ⟨by decide, by decide, by decide⟩

/-! ### what the quoters write -/

theorem q_path_requoter_canon (e : Env) (s : Str) (hs : PyStr s) :
    Canon (Gen.PATH_REQUOTER.tab e.b) (q e Gen.PATH_REQUOTER s) :=
  FixLemmas.run_canon e.b _ FixLemmas.pr_mem rfl s hs

theorem q_path_quoter_canon (e : Env) (s : Str) (hs : PyStr s) :
    Canon (Gen.PATH_REQUOTER.tab e.b) (q e Gen.PATH_QUOTER s) := (C04_partner_canon e.b s hs).2.1

theorem q_query_quoter_canon (b : Backend) (s : Str) (hs : PyStr s) :
    Canon (Gen.QUERY_REQUOTER.tab b) (Gen.QUERY_QUOTER.run b s) := (C04_partner_canon b s hs).2.2.1

theorem q_query_part_canon (b : Backend) (s : Str) (hs : PyStr s) :
    Canon (Gen.QUERY_REQUOTER.tab b) (Gen.QUERY_PART_QUOTER.run b s) := (C04_partner_canon b s hs).2.2.2.1

theorem q_fragment_quoter_canon (e : Env) (s : Str) (hs : PyStr s) :
    Canon (Gen.FRAGMENT_REQUOTER.tab e.b) (q e Gen.FRAGMENT_QUOTER s) := (C04_partner_canon e.b s hs).2.2.2.2

/-- canonical text is in the output language -/
theorem canon_outLang {t : QTab} {s : Str} (h : Canon t s) : OutLang t s := by
  induction h with
  | nil => exact OutLang.nil
  | lit c r hs hc _ _ ih => exact OutLang.lit c r hs hc ih
  | esc b r hb _ _ ih => exact OutLang.esc b r hb ih

theorem CanonUrl.wf {b : Backend} {u : Url} (h : CanonUrl b u) : WFUrl b u :=
  ⟨canon_outLang h.path, canon_outLang h.query, canon_outLang h.fragment⟩

theorem canon_pyStr_path {b : Backend} {s : Str} (h : Canon (Gen.PATH_REQUOTER.tab b) s) : PyStr s :=
  FixLemmas.canon_pyStr (gen_tab_wf _ FixLemmas.pr_mem b) h

theorem canon_pyStr_query {b : Backend} {s : Str} (h : Canon (Gen.QUERY_REQUOTER.tab b) s) : PyStr s :=
  FixLemmas.canon_pyStr (gen_tab_wf _ FixLemmas.qr_mem b) h

/-- the canonical texts of the three REQUOTER tables: the text half of `CanonUrl` -/
theorem canonLang (e : Env) : TailLang e (Canon (Gen.PATH_REQUOTER.tab e.b)) (Canon (Gen.QUERY_REQUOTER.tab e.b))
    (Canon (Gen.FRAGMENT_REQUOTER.tab e.b)) where
  path := canon_segLang fun d hd => by
    rcases hd with rfl | rfl
    · exact ⟨path_lit47 e.b, by decide⟩
    · exact ⟨path_lit46 e.b, by decide⟩
  ptail := canon_tail (path_hex_lit e.b)
  query := ⟨.nil, FixLemmas.canon_append⟩
  q38 := canon_singleton (query_lit38 e.b)
  q61 := canon_singleton (query_lit61 e.b)
  fnil := .nil
  qpy := canon_pyStr_query
  pquote := q_path_quoter_canon e
  qquote := q_query_quoter_canon e.b
  qpart := q_query_part_canon e.b
  fquote := q_fragment_quoter_canon e

/-! ### rooted paths -/

/-- empty or starting with '/', in the form `CanonUrl.rooted`, `C03Guards` and `CanonString.rooted` spell inline (they
    unfold to it).  `Rooted` of Lemmas/FixLemmas.lean says the same with `∃ r, p = 47 :: r`; `rootedP_of_rooted` and
    `rooted_of_rootedP` convert. -/
def RootedP (p : Str) : Prop := p = [] ∨ p.head? = some 47

instance (p : Str) : Decidable (RootedP p) := by unfold RootedP; infer_instance

theorem rooted_of_rootedP {p : Str} (h : RootedP p) : Rooted p := by
  rcases h with rfl | h
  · exact Or.inl rfl
  · cases p with
    | nil => exact Or.inl rfl
    | cons a r => simp at h; subst h; exact Or.inr ⟨r, rfl⟩

theorem rootedP_cons (r : Str) : RootedP (47 :: r) := Or.inr rfl

theorem rootedP_flatF (l : List Str) : RootedP (HostLemmas.flatC 47 l) := by
  rcases HostLemmas.flatC_head 47 l with h | ⟨r, h⟩
  · exact Or.inl h
  · rw [h]; exact rootedP_cons r

/-- joining a segment list whose first segment is empty gives a rooted path -/
theorem rootedP_joinC_nil (l : List Str) : RootedP (joinC 47 ([] :: l)) := by
  rw [PathLemmas.joinC_cons]
  exact rootedP_flatF l

theorem rootedP_normalizePath {p : Str} (h : RootedP p) : RootedP (normalizePath p) := by
  rcases h with rfl | h
  · left; decide
  · cases p with
    | nil => left; decide
    | cons a r =>
      simp at h; subst h
      obtain ⟨q, hq⟩ := C15_rooted r
      rw [hq]; exact rootedP_cons q

theorem rootedP_guard {p : Str} (h : RootedP p) :
    RootedP (if mem 46 p = true then normalizePath p else p) := by
  split
  · exact rootedP_normalizePath h
  · exact h

theorem rootedP_ensure_slash (p1 : Str) :
    RootedP (match p1 with
      | [] => p1
      | 47 :: _ => p1
      | _ => 47 :: p1) := by
  split
  · exact Or.inl rfl
  · exact rootedP_cons _
  · exact rootedP_cons _

theorem rootedP_fixRoot (p : Str) : RootedP (PathAlg.fixRoot p) := by
  unfold PathAlg.fixRoot
  exact rootedP_ensure_slash p

/-! ### the constructor -/

theorem encPath_canon (e : Env) (netloc path : Str) (hs : PyStr path) :
    Canon (Gen.PATH_REQUOTER.tab e.b) (FixLemmas.encPath e netloc path) := by
  unfold FixLemmas.encPath
  split
  · rename_i h; rw [isEmpty_eq_nil h]; exact Canon.nil
  · simp only
    split
    · exact (canonLang e).path.of_normalizePath sep47 (q_path_requoter_canon e _ hs)
    · exact q_path_requoter_canon e _ hs

theorem encodeUrl_canon (e : Env) (s : Str) (hs : PyStr s) (u : Url) (h : encodeUrl e s = .ok u) :
    CanonUrl e.b u := by
  have hnd := C15_entry_encodeUrl e s u h
  obtain ⟨p, netloc, pre, hp, hn0, rfl⟩ := FixLemmas.encodeUrl_inv e s u h
  obtain ⟨_, f2, f3, f4, f5⟩ := FixLemmas.splitUrl_facts e.o s p hs hp
  refine ⟨encPath_canon e netloc p.path f3, FixLemmas.encQuery_canon e p.query f4,
    FixLemmas.encFragment_canon e p.fragment f5, hnd, ?_⟩
  intro hne
  simp only [FixLemmas.finishUrl] at hne ⊢
  have hpn : p.netloc ≠ [] := by
    intro hnil
    rw [hnil, FixLemmas.netBlock_nil] at hn0
    cases hn0
    exact hne rfl
  exact FixLemmas.rootedOrEmpty_of_rooted (FixLemmas.encPath_rooted e netloc p.path (f2 hpn))

/-! ### build -/

open WfLemmas in
theorem build_canon (e : Env) (a : BuildArgs) (u : Url) (henc : a.encoded = false)
    (hpy : PyStr a.path ∧ PyStr a.queryString ∧ PyStr a.fragment ∧ QArgPy a.query)
    (h : build e a = .ok u) : CanonUrl e.b u := by
  have ht := (canonLang e).tail_build henc hpy h
  refine ⟨ht.path, ht.query, ht.fragment, C15_entry_build e a u henc h, ?_⟩
  intro hne
  obtain ⟨_, _, _, _, _, hpath, _⟩ := build_false_ok henc h
  rcases buildPath_ok hpath with ⟨h0 | h0, hp⟩ | ⟨_, ⟨r, hr⟩, hp⟩
  · exact absurd h0 hne
  · exact Or.inl (hp.trans h0)
  · rw [hp, hr]
    exact rootedP_guard (rootedP_cons _)

/-! ### the path next to an authority

  `CanonUrl` is `Tail` of the canonical texts together with `C15_Inv`: next to an authority the path has no dot
  segment and is empty or rooted.  The first half is an instance of the walk in TailLang.lean (`canonLang`); the second
  half holds of ANY record the operation is applied to, whatever its texts are made of, and is proved here operation
  by operation. -/

theorem canonUrl_iff {b : Backend} {u : Url} : CanonUrl b u ↔
    Tail (Canon (Gen.PATH_REQUOTER.tab b)) (Canon (Gen.QUERY_REQUOTER.tab b)) (Canon (Gen.FRAGMENT_REQUOTER.tab b)) u ∧
      C15_Inv u :=
  ⟨fun h => ⟨⟨h.path, h.query, h.fragment⟩, fun hn => ⟨h.nodots hn, h.rooted hn⟩⟩,
    fun h => ⟨h.1.path, h.1.query, h.1.fragment, fun hn => (h.2 hn).1, fun hn => (h.2 hn).2⟩⟩

open WfLemmas EntryLemmas

/-- shape of the path `_with_raw_name` writes under an authority -/
theorem withRawName_auth (u : Url) (nm : Str) (kq kf : Bool) (v : Url) (hn : u.netloc ≠ [])
    (h : withRawName u nm kq kf = .ok v) :
    v.netloc = u.netloc ∧ ∃ X, v.path = joinC 47 ([] :: X) ∧
      ∀ x ∈ X, x = nm ∨ (u.path ≠ [] ∧ x ∈ splitOn 47 (u.path.drop 1)) := by
  have hn' : (!u.netloc.isEmpty) = true := not_isEmpty_of_ne_nil hn
  unfold withRawName at h
  simp only [hn', if_true, bind, Except.bind, pure, Except.pure, Except.ok.injEq] at h
  subst h
  refine ⟨rfl, ?_⟩
  simp only [fromParts]
  unfold rawParts
  simp only [hn', if_true]
  by_cases hp : u.path = []
  · refine ⟨[nm], ?_, ?_⟩
    · simp [hp]
    · intro x hx
      simp only [List.mem_singleton] at hx
      exact Or.inl hx
  · have hp' : (!u.path.isEmpty) = true := not_isEmpty_of_ne_nil hp
    obtain ⟨s0, S, hS⟩ := List.exists_cons_of_ne_nil (PathLemmas.splitOn_ne_nil 47 (u.path.drop 1))
    refine ⟨(s0 :: S).dropLast ++ [nm], ?_, ?_⟩
    · simp only [hp', if_true, hS]
      have e1 : ([47] :: s0 :: S).length ≠ 1 := by simp
      rw [if_neg e1]
      simp [List.dropLast]
    · intro x hx
      rcases List.mem_append.mp hx with hx | hx
      · right
        refine ⟨hp, ?_⟩
        rw [hS]
        exact List.dropLast_subset _ hx
      · simp only [List.mem_singleton] at hx
        exact Or.inl hx

/-- the segments after the root of a rooted path without dot segments -/
theorem nodots_drop1 {p : Str} (hr : RootedP p) (hp : p ≠ []) (hd : NoDotSegments p) :
    ∀ x ∈ splitOn 47 (p.drop 1), x ≠ dot ∧ x ≠ dotdot := by
  intro x hx
  rcases hr with rfl | hr
  · exact absurd rfl hp
  · cases p with
    | nil => exact absurd rfl hp
    | cons a r =>
      simp at hr; subst hr
      apply hd x
      simp only [splitOn, if_true, List.mem_cons]
      exact Or.inr hx

theorem rootedP_joinC_root (n : Str) (hn : n ≠ []) (L : List Str) : RootedP (joinC 47 (PathAlg.root n L)) := by
  unfold PathAlg.root
  split
  · exact rootedP_joinC_nil L
  · rename_i hc
    cases L with
    | nil => left; rfl
    | cons l0 L' =>
      simp only [not_isEmpty_of_ne_nil hn, List.isEmpty_cons, Bool.not_false, Bool.true_and, List.head?_cons,
        decide_eq_true_eq, ne_eq, Option.some.injEq, Decidable.not_not] at hc
      subst hc
      exact rootedP_joinC_nil L'

theorem rootedP_append {a b : Str} (ha : RootedP a) (hne : a ≠ []) : RootedP (a ++ b) := by
  rcases ha with h | h
  · exact absurd h hne
  · cases a with
    | nil => exact absurd rfl hne
    | cons x r => simp at h; subst h; exact rootedP_cons _

/-- the merge of a rooted, non-empty base path with a reference path is rooted -/
theorem rootedP_merged (base : Url) (hn : base.netloc ≠ []) (rest rp : Str) (hp : base.path = 47 :: rest) :
    RootedP ((joinC 47 ((rawParts base).dropLast ++ [[]]) ++ rp).drop 1) := by
  have hrp : rawParts base = [47] :: splitOn 47 rest := by
    unfold rawParts
    simp [not_isEmpty_of_ne_nil hn, hp]
  rw [hrp]
  obtain ⟨s0, S, hS⟩ := List.exists_cons_of_ne_nil (PathLemmas.splitOn_ne_nil 47 rest)
  rw [hS]
  have e1 : ([47] :: s0 :: S).dropLast ++ [[]] = [47] :: ((s0 :: S).dropLast ++ [[]]) := by
    simp [List.dropLast]
  have e2 : (joinC 47 ([47] :: ((s0 :: S).dropLast ++ [[]])) ++ rp).drop 1
      = HostLemmas.flatC 47 (s0 :: S).dropLast ++ (47 :: rp) := by
    rw [PathLemmas.joinC_cons, HostLemmas.flatC_append 47]
    simp [HostLemmas.flatC]
  rw [e1, e2]
  rcases HostLemmas.flatC_head 47 ((s0 :: S).dropLast) with h0 | ⟨r, h0⟩
  · rw [h0]; exact rootedP_cons _
  · rw [h0]; exact rootedP_cons _

/-- under an authority, the joined path of a rooted base path is rooted -/
theorem joinRelPath_rootedP (base ref : Url) (hn : base.netloc ≠ []) (hb : RootedP base.path) :
    RootedP (joinRelPath base ref) := by
  refine joinRelPath_closed base ref hb (fun _ => ?_) (fun _ _ => rootedP_normalizePath)
  refine joinRawPath_closed base ref (fun h => Or.inr h) (fun _ _ => rootedP_cons _) (fun _ h0 => absurd h0 hn)
    (fun hne _ => rootedP_append hb hne) (fun hne h47 => ?_) (fun hne h47 => ?_)
  · cases hp : base.path with
    | nil => exact absurd hp hne
    | cons a rest =>
      rw [hp] at h47
      cases h47
      exact rootedP_merged base hn rest ref.path hp
  · rcases hb with h0 | h
    · exact absurd h0 hne
    · exact absurd h h47

end ReachFix

namespace R14
open ReachFix WfLemmas EntryLemmas

theorem inv_of_canon {b : Backend} {u : Url} (h : CanonUrl b u) : C15_Inv u :=
  (canonUrl_iff.mp h).2

theorem inv_same_path {u v : Url} (hp : v.path = u.path) (hn : v.netloc ≠ [] → u.netloc ≠ []) (hu : C15_Inv u) :
    C15_Inv v := fun h => hp ▸ hu (hn h)

theorem inv_empty_path {v : Url} (hp : v.path = []) : C15_Inv v :=
  fun _ => ⟨hp ▸ noDotSegments_nil, Or.inl hp⟩

/-! #### `_with_raw_name`, with_name, with_suffix -/

theorem inv_withRawName (u : Url) (hu : C15_Inv u) (nm : Str) (h47 : 47 ∉ nm) (hnd : nm ≠ dot ∧ nm ≠ dotdot)
    (kq kf : Bool) (v : Url) (h : withRawName u nm kq kf = .ok v) : C15_Inv v := by
  intro hvn
  have hun : u.netloc ≠ [] := (C11_with_raw_name_frame u v nm kq kf h).2.1 ▸ hvn
  obtain ⟨_, X, hX, hmem⟩ := withRawName_auth u nm kq kf v hun h
  rw [hX]
  refine ⟨?_, rootedP_joinC_nil X⟩
  have hXfacts : ∀ x ∈ X, 47 ∉ x ∧ x ≠ dot ∧ x ≠ dotdot := by
    intro x hx
    rcases hmem x hx with rfl | ⟨hp, hx⟩
    · exact ⟨h47, hnd⟩
    · exact ⟨PathLemmas.splitOn_no_sep 47 _ x hx, nodots_drop1 (hu hun).2 hp (hu hun).1 x hx⟩
  exact noDotSegments_joinC _ (List.forall_mem_cons.2 ⟨List.not_mem_nil, fun p hp => (hXfacts p hp).1⟩)
    (List.forall_mem_cons.2 ⟨by decide, fun p hp => (hXfacts p hp).2⟩)

theorem inv_withName (e : Env) (u : Url) (hu : C15_Inv u) (nm : Str) (hnm : PyStr nm)
    (kq kf : Bool) (v : Url) (h : withName e u nm kq kf = .ok v) : C15_Inv v := by
  obtain ⟨h47, hd1, hd2, h⟩ := ModShape.withName_ok h
  exact inv_withRawName u hu _ (PathAlg.q_path_avoid e nm hnm 47 (Or.inr rfl) h47) ⟨hd1, hd2⟩ _ _ v h

theorem inv_withSuffix (e : Env) (u : Url) (hu : C15_Inv u) (sfx : Str) (hsfx : PyStr sfx)
    (kq kf : Bool) (v : Url) (h : withSuffix e u sfx kq kf = .ok v) : C15_Inv v := by
  obtain ⟨nm, h47, hd1, hd2, h⟩ := ModShape.withSuffix_name hsfx h
  exact inv_withRawName u hu nm h47 ⟨hd1, hd2⟩ _ _ v h

/-! #### `/`, joinpath, parent, origin, with_path -/

/-- `_make_child` in either mode writes an empty or rooted path next to an authority; that it has no dot segment is
    what the caller knows of the mode -/
theorem inv_makeChild (e : Env) (u : Url) (paths : List Str) (enc : Bool) (v : Url)
    (h : makeChild e u paths enc = .ok v) (hd : v.netloc ≠ [] → NoDotSegments v.path) : C15_Inv v := by
  intro hn
  refine ⟨hd hn, ?_⟩
  have hun : u.netloc ≠ [] := (C11_make_child_frame e u v paths enc h).2.1 ▸ hn
  obtain ⟨-, rfl⟩ := PathMore.makeChild_ok.1 h
  unfold PathAlg.childOf
  simp only
  split
  · exact rootedP_joinC_root u.netloc hun _
  · exact rootedP_fixRoot _

theorem inv_parent (u : Url) (hu : C15_Inv u) : C15_Inv (parent u) := by
  unfold parent
  split
  · split
    · exact inv_same_path rfl id hu
    · exact hu
  · rename_i hc
    simp only [Bool.or_eq_true, decide_eq_true_eq, not_or] at hc
    have hpne : u.path ≠ [] := fun e => hc.1 (by rw [e]; rfl)
    intro hn
    simp only [fromParts] at hn ⊢
    -- under an authority the root fix of 264b96e ("/name" → "/" WITHOUT an authority) does not apply
    have hfix : ∀ pp : Str,
        (if (pp.isEmpty && decide (u.path.head? = some 47) && u.netloc.isEmpty) = true then [47] else pp) = pp := by
      intro pp
      have : u.netloc.isEmpty = false := by simpa using hn
      rw [this, Bool.and_false]
      rfl
    rw [hfix]
    obtain ⟨hd, hroot⟩ := hu hn
    constructor
    · apply noDotSegments_joinC
      · exact PathAlg.segs_dropLast (PathAlg.segs_splitOn _)
      · intro s hs
        exact hd s (List.dropLast_subset _ hs)
    · rcases rooted_of_rootedP hroot with h0 | ⟨r, hp⟩
      · exact absurd h0 hpne
      · obtain ⟨s0, S, hS⟩ := List.exists_cons_of_ne_nil (PathLemmas.splitOn_ne_nil 47 r)
        have : (splitOn 47 u.path).dropLast = [] :: (s0 :: S).dropLast := by
          simp [hp, splitOn, hS]
        rw [this]
        exact rootedP_joinC_nil _

theorem inv_origin (e : Env) (u : Url) (hu : C15_Inv u) (v : Url) (h : origin e u = .ok v) : C15_Inv v := by
  cases Step.of_origin h with
  | same => exact hu
  | origin n _ => exact inv_empty_path rfl

/-- `with_path(p)` (auto-encoding): always clean, whatever the receiver carried -/
theorem inv_withPath (e : Env) (u : Url) (path : Str) (kq kf : Bool) : C15_Inv (withPath e u path false kq kf) := by
  intro hn
  refine ⟨C15_entry_withPath e u path kq kf hn, ?_⟩
  unfold withPath
  simp only [fromParts]
  exact rootedP_ensure_slash _

theorem inv_join (e : Env) (base ref : Url) (hb : C15_Inv base) (hr : C15_Inv ref) : C15_Inv (join e base ref) := by
  rcases join_cases e base ref with h | ⟨hrn, _, h⟩ | ⟨_, h⟩
  · rw [h]
    exact hr
  · rw [h]
    exact fun _ => hr hrn
  · rw [h]
    intro hn
    exact ⟨noDotSegments_joinRelPath (hb hn).1, joinRelPath_rootedP base ref hn (hb hn).2⟩

/-! #### one operation -/

theorem inv_applyOp (e : Env) (u : Url) (hu : C15_Inv u) (op : UOp) (ha : op.ArgsPy e.b)
    (hj : ∀ ref, op = .joinRef ref → C15_Inv ref) (v : Url) (h : applyOp e u op = .ok v) : C15_Inv v := by
  cases op with
  | withPath s kq kf =>
    cases h
    exact inv_withPath e u s kq kf
  | withName s kq kf => exact inv_withName e u hu s ha kq kf v h
  | withSuffix s kq kf => exact inv_withSuffix e u hu s ha kq kf v h
  | child paths =>
    refine inv_makeChild e u paths false v h fun hn => C15_entry_makeChild e u paths v h hn (hu ?_).1
    exact (C11_make_child_frame e u v paths false h).2.1 ▸ hn
  | parent =>
    cases h
    exact inv_parent u hu
  | origin => exact inv_origin e u hu v h
  | joinRef ref =>
    cases h
    exact inv_join e u ref hu (hj ref rfl)
  -- the others copy the path, and write an authority only where there was one
  | _ =>
    obtain ⟨hp, hn⟩ := (applyOp_step h).path_eq rfl
    exact inv_same_path hp hn hu

end R14
end Yarl
