/-
  HumanShown.lean — "each shown piece SPELLS its component" (`ShownSpells`), which is all the round trip
  (Lemmas/HumanStores.lean) asks of a way of showing a URL, for `human_repr()` with selected characters left literal in
  one position (`R5.humanReprLit` = `showWith` of `R12.litShower`): user and password (`R12.spellOpt_lit`), the path
  (`R12.lit_path_spells`), the query string piece by piece over its glue (`R12.query_lit_iff`, `lit_query_spells`), the
  fragment (`R12.lit_frag_spells`) — whenever the selected characters are none of TAB / LF / CR, not unsafe in the
  position, and no selected '%' stands in front of two hex digits (`R12.LitSafeAt`; `R12.shownSpells_lit`).  Nothing
  selected: `human_repr()` itself.  (Namespaces `R5`, `R12`: see the header of Lemmas/HumanLemmas.lean;
  `HumanStores.ShownSpells` is declared here because the lemmas that establish it are.)
-/
import YarlProofs.Lemmas.HumanSpell
namespace Yarl
open HumanLemmas HumanFull HumanMore QueryUrl QsLemmas NetlocLemmas OutLangLemmas R5 QueryGlue HumanReach

namespace R12

/-- the literal choice of `R5.humanReprLit`, per position key -/
def Lk (comp : String) (lit : Nat → Bool) (key : String) : Nat → Bool := fun c => key == comp && lit c

/-- how `R5.humanReprLit` shows each position (`HumanFull.Shower`) -/
def litShower (o : Oracles) (comp : String) (lit : Nat → Bool) : Shower where
  user := (humanQuoteLitOpt o · (humanUnsafeOf "user") (Lk comp lit "user"))
  pw := (humanQuoteLitOpt o · (humanUnsafeOf "password") (Lk comp lit "password"))
  path := (humanQuoteLit o · (humanUnsafeOf "path") (Lk comp lit "path"))
  pair := litPair o (Lk comp lit "k") (Lk comp lit "v")
  frag := (humanQuoteLit o · (humanUnsafeOf "fragment") (Lk comp lit "fragment"))

theorem humanReprLit_show (comp : String) (lit : Nat → Bool) (e : Env) (u : Url) :
    humanReprLit comp lit e u = showWith (litShower e.o comp lit) e u := rfl

/-- with NOTHING left literal the instrumented copy IS `human_repr()`, for every URL: the two `Shower`s are the same -/
theorem humanReprLit_none (comp : String) (e : Env) (u : Url) :
    humanReprLit comp (fun _ => false) e u = humanRepr e u := by
  have hL : ∀ key, Lk comp (fun _ => false) key = fun _ => false := by
    intro key; funext c; simp [Lk]
  have hS : litShower e.o comp (fun _ => false) = humanShower e.o humanUnsafeOf := by
    simp only [litShower, hL]
    congr 1 <;> funext x <;> cases x <;> rfl
  rw [humanReprLit_show, hS, humanRepr_show]

/-! ### the query string -/

theorem litPair_ok' {o : Oracles} {lk lv : Nat → Bool} {p : Str × Str} {r : Str}
    (h : litPair o lk lv p = .ok r) :
    ∃ rk rv, humanQuoteLit o p.1 (humanUnsafeOf "k") lk = .ok rk ∧
      humanQuoteLit o p.2 (humanUnsafeOf "k") lv = .ok rv ∧ r = rk ++ [61] ++ rv := by
  obtain ⟨rk, rv, h1, h2, h3⟩ := litPair_ok h
  rw [gen_same_lists.2] at h2
  exact ⟨rk, rv, h1, h2, h3⟩

/-- the character conditions alone (no condition on '%') -/
def PairsCh (lk lv : Nat → Bool) (ps : List (Str × Str)) : Prop :=
  ∀ p ∈ ps, LitChars (humanUnsafeOf "k") lk p.1 ∧ LitChars (humanUnsafeOf "k") lv p.2

/-- what the parser needs to know about the query string shown with literals -/
theorem litQuery_chars (o : Oracles) (lk lv : Nat → Bool) (ps : List (Str × Str)) (parts : List Str)
    (hg : GoodPairs ps) (hc : PairsCh lk lv ps)
    (h : ps.mapM (litPair o lk lv) = .ok parts) :
    PyStr (joinC 38 parts) ∧ NoSurrogate (joinC 38 parts) ∧ ∀ d ∈ queryBad, d ∉ joinC 38 parts := by
  have key : ∀ p r, p ∈ ps → litPair o lk lv p = .ok r →
      (PyStr r ∧ NoSurrogate r) ∧ ∀ d ∈ queryBad, d ∉ r := by
    intro p r hp hr
    obtain ⟨rk, rv, a1, a2, rfl⟩ := litPair_ok' hr
    obtain ⟨⟨g1, g2⟩, ⟨g3, g4⟩⟩ := hg p hp
    obtain ⟨c1, c2⟩ := hc p hp
    refine ⟨?_, ?_⟩
    · rw [List.append_assoc]
      exact good_mid (c := 61) (by decide) (lit_pyStr k_unsafe_ascii g1 g2 a1) (lit_pyStr k_unsafe_ascii g3 g4 a2)
    · intro d hd hm
      have hd' := queryBad_tab d hd
      simp only [List.mem_append, List.mem_singleton] at hm
      rcases hm with (hm | hm) | hm
      · exact lit_avoid k_unsafe_ascii g1 a1 c1 hd'.1 hd'.2.2.2.1 hd'.2.2.2.2 hm
      · exact hd'.2.1 hm
      · exact lit_avoid k_unsafe_ascii g3 a2 c2 hd'.1 hd'.2.2.2.1 hd'.2.2.2.2 hm
  have hall := mapM_forall (· ∈ ps) (fun r => (PyStr r ∧ NoSurrogate r) ∧ ∀ d ∈ queryBad, d ∉ r)
    (fun p r => key p r) ps parts (fun _ h => h) h
  refine ⟨?_, ?_, ?_⟩
  · intro x hx
    rcases HostLemmas.mem_joinC hx with rfl | ⟨p, hp, hxp⟩
    · show (38 : Nat) ≤ 0x10FFFF; omega
    · exact (hall p hp).1.1 x hxp
  · intro x hx
    rcases HostLemmas.mem_joinC hx with rfl | ⟨p, hp, hxp⟩
    · rfl
    · exact (hall p hp).1.2 x hxp
  · intro d hd hm
    rcases HostLemmas.mem_joinC hm with rfl | ⟨p, hp, hxp⟩
    · exact (queryBad_tab 38 hd).2.2.1 rfl
    · exact (hall p hp).2 d hd hxp

/-- no '%' left literal in a key or a value stands in front of two hex digits -/
def AllPct (lk lv : Nat → Bool) (ps : List (Str × Str)) : Prop := ∀ p ∈ ps, PctOK lk p.1 ∧ PctOK lv p.2

theorem litPair_no_amp {o : Oracles} {lk lv : Nat → Bool} {p : Str × Str} {r : Str}
    (hg : GoodText p.1 ∧ GoodText p.2)
    (hc : LitChars (humanUnsafeOf "k") lk p.1 ∧ LitChars (humanUnsafeOf "k") lv p.2)
    (h : litPair o lk lv p = .ok r) : 38 ∉ r := by
  obtain ⟨rk, rv, a1, a2, rfl⟩ := litPair_ok' h
  simp only [List.mem_append, List.mem_singleton, not_or]
  exact ⟨⟨lit_avoid k_unsafe_ascii hg.1.1 a1 hc.1 (by decide) (by decide) (Or.inl (by decide)), by decide⟩,
    lit_avoid k_unsafe_ascii hg.2.1 a2 hc.2 (by decide) (by decide) (Or.inl (by decide))⟩

/-- one `key=value` piece: the requoter distributes over the '=' (`QueryGlue.cOut_tq_pair`), neither side of the
    equation has an '=' in its first part, so the piece is requoted to the quoter's pair text exactly when key and value
    are (`cOut_lit_iff`) -/
theorem litPair_iff (o : Oracles) (b : Backend) (lk lv : Nat → Bool) (p : Str × Str) (r : Str)
    (hg : GoodText p.1 ∧ GoodText p.2)
    (hc : LitChars (humanUnsafeOf "k") lk p.1 ∧ LitChars (humanUnsafeOf "k") lv p.2)
    (h : litPair o lk lv p = .ok r) :
    cOut (tq b) r = pairOut b p ↔ PctOK lk p.1 ∧ PctOK lv p.2 := by
  obtain ⟨rk, rv, a1, a2, rfl⟩ := litPair_ok' h
  have ht' := gen_tab_wf Gen.QUERY_PART_QUOTER (by decide) b
  have hreq : (Gen.QUERY_REQUOTER.tab b).requote = true := by rw [tab_requote]; rfl
  have hnr : (Gen.QUERY_PART_QUOTER.tab b).requote = false := by rw [tab_requote]; rfl
  have k := (gen_litCompat b).2.2.2
  rw [cOut_tq_pair, ← cOut_lit_iff o _ _ (tq_wf b) ht' hreq hnr _ k _ p.1 rk hg.1.1 hg.1.2 a1 hc.1,
    ← cOut_lit_iff o _ _ (tq_wf b) ht' hreq hnr _ k _ p.2 rv hg.2.1 hg.2.2 a2 hc.2]
  exact sep_inj (tq_sep_not_mem b (Or.inr rfl)
    (lit_avoid k_unsafe_ascii hg.1.1 a1 hc.1 (by decide) (by decide) (Or.inl (by decide)))) (tp_no_seps b _ hg.1).2

/-- THE IFF for the whole query string: QUERY_REQUOTER on the `k=v&…` text shown with literals gives the stored query
    text of the decoded pairs exactly when no literal '%' of a key or value stands in front of two hex digits.  Both
    texts are glued from '&'-free pieces, so they agree iff the pieces do (`QueryGlue.joinC_inj`). -/
theorem query_lit_iff (e : Env) (lk lv : Nat → Bool) (ps : List (Str × Str)) (parts : List Str)
    (hg : GoodPairs ps) (hc : PairsCh lk lv ps)
    (h : ps.mapM (litPair e.o lk lv) = .ok parts) :
    q e Gen.QUERY_REQUOTER (joinC 38 parts) = qtext e.b ps ↔ AllPct lk lv ps := by
  obtain ⟨c1, c2, _⟩ := litQuery_chars e.o lk lv ps parts hg hc h
  have hq : qtext e.b ps = joinC 38 (ps.map (pairOut e.b)) := by
    unfold qtext
    exact congrArg _ (List.map_congr_left fun p hp => pairText_eq_pairOut e.b p (hg p hp))
  have hpieces : parts.map (cOut (tq e.b)) = ps.map (pairOut e.b) ↔ AllPct lk lv ps :=
    mapM_map_iff h fun p hp r hr => litPair_iff e.o e.b lk lv p r (hg p hp) (hc p hp) hr
  show Gen.QUERY_REQUOTER.run e.b _ = _ ↔ _
  rw [run_eq_cOut _ (by decide) e.b _ c1, stripSurr_id _ c2, hq, cOut_tq_joinC, ← hpieces]
  by_cases hne : ps = []
  · subst hne
    rw [mapM_nil_ok h]
    simp
  · have hne' : parts ≠ [] := fun e0 => hne (by simpa [e0] using (HumanFull.mapM_length _ _ h).symm)
    refine joinC_inj (by simpa using hne') (by simpa using hne) (fun x hx => ?_) (fun x hx => ?_)
    · obtain ⟨y, hy, rfl⟩ := List.mem_map.mp hx
      exact tq_sep_not_mem e.b (Or.inl rfl)
        (mapM_forall (· ∈ ps) (38 ∉ ·) (fun p r hp hr => litPair_no_amp (hg p hp) (hc p hp) hr) ps parts
          (fun _ hp => hp) h y hy)
    · obtain ⟨y, hy, rfl⟩ := List.mem_map.mp hx
      exact pairOut_no_38 e.b y (hg y hy)

theorem litQuery_nil_iff (o : Oracles) (lk lv : Nat → Bool) (ps : List (Str × Str)) (parts : List Str)
    (h : ps.mapM (litPair o lk lv) = .ok parts) : joinC 38 parts = [] ↔ ps = [] := by
  cases ps with
  | nil => rw [mapM_nil_ok h]; simp
  | cons p ps =>
    obtain ⟨r, rs, h1, h2, rfl⟩ := mapM_cons_ok h
    obtain ⟨rk, rv, _, _, rfl⟩ := litPair_ok h1
    simp [PathLemmas.joinC_cons]

/-! ### the other positions, and the assembly -/

/-- the decoded texts in position `key` of a URL that stores `user pw … p kvs f` -/
def textsAt (key : String) (user pw : Option Str) (p : Str) (kvs : List (Str × Str)) (f : Str) : List Str :=
  if key = "user" then user.toList else if key = "password" then pw.toList else if key = "path" then [p]
  else if key = "k" then kvs.map (·.1) else if key = "v" then kvs.map (·.2)
  else if key = "fragment" then [f] else []

/-- the condition of the universal theorem: in every decoded text of the position `comp`, the characters selected by
    `lit` are none of TAB / LF / CR, are not unsafe in the position, and a selected '%' is not followed by two hex
    digits -/
def LitSafeAt (comp : String) (lit : Nat → Bool) (user pw : Option Str) (p : Str) (kvs : List (Str × Str)) (f : Str) :
    Prop := ∀ x ∈ textsAt comp user pw p kvs f, LitOK (humanUnsafeOf comp) lit x

instance (comp : String) (lit : Nat → Bool) (user pw : Option Str) (p : Str) (kvs : List (Str × Str)) (f : Str) :
    Decidable (LitSafeAt comp lit user pw p kvs f) := by unfold LitSafeAt; infer_instance

theorem Lk_self (comp : String) (lit : Nat → Bool) : Lk comp lit comp = lit := by funext c; simp [Lk]

/-- the selector `Lk comp lit key` is `lit` in the position `comp` and selects nothing elsewhere: a condition that holds
    when nothing is selected holds under it as soon as it holds for `lit` in the position itself -/
theorem Lk_key {P : Str → (Nat → Bool) → Str → Prop} (hfalse : ∀ uns x, P uns (fun _ => false) x) (comp : String)
    (lit : Nat → Bool) (key : String) (x : Str) (h : key = comp → P (humanUnsafeOf comp) lit x) :
    P (humanUnsafeOf key) (Lk comp lit key) x := by
  by_cases hk : key = comp
  · subst hk; rw [Lk_self]; exact h rfl
  · have : Lk comp lit key = fun _ => false := by
      funext c
      have : (key == comp) = false := beq_eq_false_iff_ne.mpr hk
      simp [Lk, this]
    rw [this]; exact hfalse _ x

/-- a condition on every decoded text of the position `comp`, said position by position -/
theorem Lk_texts {P : Str → (Nat → Bool) → Str → Prop} (hfalse : ∀ uns x, P uns (fun _ => false) x) {comp : String}
    {lit : Nat → Bool} {user pw : Option Str} {p : Str} {kvs : List (Str × Str)} {f : Str}
    (h : ∀ x ∈ textsAt comp user pw p kvs f, P (humanUnsafeOf comp) lit x) :
    (∀ s, user = some s → P (humanUnsafeOf "user") (Lk comp lit "user") s) ∧
    (∀ s, pw = some s → P (humanUnsafeOf "user") (Lk comp lit "password") s) ∧
    P (humanUnsafeOf "path") (Lk comp lit "path") p ∧
    (∀ kv ∈ kvs, P (humanUnsafeOf "k") (Lk comp lit "k") kv.1 ∧ P (humanUnsafeOf "k") (Lk comp lit "v") kv.2) ∧
    P (humanUnsafeOf "fragment") (Lk comp lit "fragment") f := by
  refine ⟨fun s hs => Lk_key hfalse comp lit "user" s (fun hk => h s (by subst hk; simp [textsAt, hs])),
    fun s hs => ?_, Lk_key hfalse comp lit "path" p (fun hk => h p (by subst hk; simp [textsAt])),
    fun kv hkv => ⟨Lk_key hfalse comp lit "k" kv.1
      (fun hk => h kv.1 (by subst hk; simp only [textsAt]; simp; exact ⟨_, hkv⟩)), ?_⟩,
    Lk_key hfalse comp lit "fragment" f (fun hk => h f (by subst hk; simp [textsAt]))⟩
  · have := Lk_key hfalse comp lit "password" s (fun hk => h s (by subst hk; simp [textsAt, hs]))
    rwa [gen_same_lists.1] at this
  · have := Lk_key hfalse comp lit "v" kv.2 (fun hk => h kv.2 (by subst hk; simp only [textsAt]; simp; exact ⟨_, hkv⟩))
    rwa [gen_same_lists.2] at this

/-- user / password shown with literals SPELL the decoded text (`R5.SpellOpt`) -/
theorem spellOpt_lit {e : Env} {x y : Option Str} {l : Nat → Bool} (hx : UText x)
    (h : humanQuoteLitOpt e.o x (humanUnsafeOf "user") l = .ok y)
    (hc : ∀ s, x = some s → LitOK (humanUnsafeOf "user") l s) :
    SpellOpt e x y ∧ ((∀ s, x = some s → s ≠ []) → ∀ r, y = some r → r ≠ []) := by
  have hex := (gen_litCompat e.b).1.hex
  rcases humanQuoteLitOpt_ok h with ⟨rfl, rfl⟩ | ⟨s, r, rfl, rfl, hq⟩
  · exact ⟨⟨fun r hr => (by cases hr), ⟨fun _ => rfl, fun _ => rfl⟩, rfl⟩, fun _ r hr => (by cases hr)⟩
  · obtain ⟨hs, hn⟩ := hx s rfl
    obtain ⟨c1, c2⟩ := hc s rfl
    refine ⟨⟨?_, by simp, ?_⟩, ?_⟩
    · intro r' hr' d hd
      cases hr'
      obtain ⟨a1, a2, a3⟩ := userBad_tab d hd
      exact lit_avoid user_unsafe_ascii hs hq c1 a1 a2 a3
    · rw [requoteOpt_some, Option.map_some]
      exact congrArg some ((run_lit_iff Gen.REQUOTER Gen.QUOTER (by decide) (by decide) rfl rfl _
        (fun b => (gen_litCompat b).1) e l s r hs hn hq c1).mpr c2)
    · intro hne r' hr'
      cases hr'
      exact lit_ne_nil hs (hne s rfl) hq

theorem litChar_slash (o : Oracles) (l : Nat → Bool) : litChar o (humanUnsafeOf "path") l 47 = .ok [47] := by
  unfold litChar
  split
  · rfl
  · exact hqChar_slash_path o


/-! ### path, query string and fragment: what the constructor makes of the shown piece -/

/-- no '?' or '#' and no TAB / LF / CR in the shown path, from the character conditions alone -/
theorem lit_path_clean {o : Oracles} {l : Nat → Bool} {p rp : Str} (hp : PyStr p)
    (hrp : humanQuoteLit o p (humanUnsafeOf "path") l = .ok rp) (cp : LitChars (humanUnsafeOf "path") l p) :
    (∀ c ∈ rp, c ≠ 63 ∧ c ≠ 35) ∧ Clean rp := by
  obtain ⟨tpa, _, t35, t63, _⟩ := unsafe_ascii
  exact ⟨fun c hc => ⟨fun e9 => lit_avoid tpa hp hrp cp (by decide) (by decide) (Or.inl t63) (e9 ▸ hc),
      fun e9 => lit_avoid tpa hp hrp cp (by decide) (by decide) (Or.inl t35) (e9 ▸ hc)⟩, lit_clean tpa hp hrp cp⟩

/-- no '#' and no TAB / LF / CR in the shown query string -/
theorem lit_query_clean (o : Oracles) (lk lv : Nat → Bool) {kvs : List (Str × Str)} {qparts : List Str}
    (hg : GoodPairs kvs) (cq : PairsCh lk lv kvs) (h4 : kvs.mapM (litPair o lk lv) = .ok qparts) :
    (∀ c ∈ joinC 38 qparts, c ≠ 35) ∧ Clean (joinC 38 qparts) := by
  obtain ⟨_, _, hqbad⟩ := litQuery_chars o lk lv kvs qparts hg cq h4
  exact ⟨fun c hc e9 => hqbad 35 (by decide) (e9 ▸ hc),
    fun c hc => ⟨fun e9 => hqbad 9 (by decide) (e9 ▸ hc), fun e9 => hqbad 10 (by decide) (e9 ▸ hc),
      fun e9 => hqbad 13 (by decide) (e9 ▸ hc)⟩⟩

/-- the shown path keeps its "/", and PATH_REQUOTER makes of it what `build` stores -/
theorem lit_path_spells (e : Env) {l : Nat → Bool} {p r : Str} (hp : PyStr (47 :: p)) (hn : NoSurrogate (47 :: p))
    (h : humanQuoteLit e.o (47 :: p) (humanUnsafeOf "path") l = .ok r) (cp : LitOK (humanUnsafeOf "path") l p) :
    ∃ rp, r = 47 :: rp ∧ q e Gen.PATH_REQUOTER (47 :: rp) = q e Gen.PATH_QUOTER (47 :: p) ∧
      (∀ c ∈ rp, c ≠ 63 ∧ c ≠ 35) ∧ Clean rp := by
  obtain ⟨p0, rp, hp0, hrp, rfl⟩ := (humanQuoteLit_cons e.o _ _ 47 p r).mp h
  rw [litChar_slash] at hp0
  cases hp0
  have cp47 : LitOK (humanUnsafeOf "path") l (47 :: p) := by
    refine ⟨?_, ⟨fun _ h47 => (by cases h47), cp.2⟩⟩
    intro c hc hl
    rcases List.mem_cons.mp hc with rfl | hc
    · exact ⟨by decide, by decide, by decide, unsafe_ascii.2.2.2.2⟩
    · exact cp.1 c hc hl
  obtain ⟨k1, k2⟩ := lit_path_clean (fun y hy => hp y (by simp [hy])) hrp cp.1
  exact ⟨rp, rfl, (run_lit_iff Gen.PATH_REQUOTER Gen.PATH_QUOTER (by decide) (by decide) rfl rfl _
    (fun b => (gen_litCompat b).2.1) e _ (47 :: p) ([47] ++ rp) hp hn h cp47.1).mpr cp47.2, k1, k2⟩

/-- QUERY_REQUOTER makes of the shown query string what `build` stores for the pairs -/
theorem lit_query_spells (e : Env) (lk lv : Nat → Bool) {kvs : List (Str × Str)} {qparts : List Str} (hg : GoodPairs kvs)
    (cq : ∀ kv ∈ kvs, LitOK (humanUnsafeOf "k") lk kv.1 ∧ LitOK (humanUnsafeOf "k") lv kv.2)
    (h4 : kvs.mapM (litPair e.o lk lv) = .ok qparts) :
    FixLemmas.encQuery e (joinC 38 qparts) = qtext e.b kvs ∧ (∀ c ∈ joinC 38 qparts, c ≠ 35) ∧
      Clean (joinC 38 qparts) := by
  have cqc : PairsCh lk lv kvs := fun kv hkv => ⟨(cq kv hkv).1.1, (cq kv hkv).2.1⟩
  refine ⟨?_, lit_query_clean e.o lk lv hg cqc h4⟩
  unfold FixLemmas.encQuery
  split
  · rename_i hemp
    have := (litQuery_nil_iff e.o lk lv kvs qparts h4).mp (List.isEmpty_iff.mp hemp)
    subst this
    rw [List.isEmpty_iff.mp hemp]
    rfl
  · exact (query_lit_iff e lk lv kvs qparts hg cqc h4).mpr fun kv hkv => ⟨(cq kv hkv).1.2, (cq kv hkv).2.2⟩

/-- FRAGMENT_REQUOTER makes of the shown fragment what `build` stores -/
theorem lit_frag_spells (e : Env) {l : Nat → Bool} {f rf : Str} (hf : PyStr f) (hfn : NoSurrogate f)
    (h2 : humanQuoteLit e.o f (humanUnsafeOf "fragment") l = .ok rf) (cf : LitOK (humanUnsafeOf "fragment") l f) :
    FixLemmas.encFragment e rf = fragText e f ∧ Clean rf := by
  refine ⟨?_, lit_clean unsafe_ascii.2.1 hf h2 cf.1⟩
  unfold FixLemmas.encFragment fragText
  by_cases hf0 : f = []
  · subst hf0
    rw [humanQuoteLit_nil] at h2
    cases h2
    rfl
  · have hne := lit_ne_nil hf hf0 h2
    rw [isEmpty_false hne, isEmpty_false hf0]
    simp only [Bool.false_eq_true, ↓reduceIte]
    exact (run_lit_iff Gen.FRAGMENT_REQUOTER Gen.FRAGMENT_QUOTER (by decide) (by decide) rfl rfl _
      (fun b => (gen_litCompat b).2.2.1) e _ f rf hf hfn h2 cf.1).mpr cf.2

end R12

open R12

/-- what the round trip asks of a way `S` of showing the components `user pw p kvs f`: each shown piece SPELLS its
    component for the constructor (re-quoting it gives what `build` stores), and is free of the characters at which the
    constructor would cut the text elsewhere -/
structure HumanStores.ShownSpells (e : Env) (S : Shower) (user pw : Option Str) (p : Str) (kvs : List (Str × Str))
    (f : Str) : Prop where
  user : ∀ usr, S.user user = .ok usr → Spells e user usr ∧ UserOK usr ∧ AuthPart usr
  pw : ∀ pw', S.pw pw = .ok pw' → Spells e pw pw' ∧ AuthPart pw'
  path : ∀ r, S.path (47 :: p) = .ok r → ∃ rp, r = 47 :: rp ∧
    q e Gen.PATH_REQUOTER (47 :: rp) = q e Gen.PATH_QUOTER (47 :: p) ∧ (∀ c ∈ rp, c ≠ 63 ∧ c ≠ 35) ∧ Clean rp
  query : ∀ qparts, kvs.mapM S.pair = .ok qparts → FixLemmas.encQuery e (joinC 38 qparts) = qtext e.b kvs ∧
    (∀ c ∈ joinC 38 qparts, c ≠ 35) ∧ Clean (joinC 38 qparts)
  frag : ∀ rf, S.frag f = .ok rf → FixLemmas.encFragment e rf = fragText e f ∧ Clean rf

/-- `human_repr()` with characters left literal in one position shows spellings, under `LitSafeAt` -/
theorem R12.shownSpells_lit (e : Env) (comp : String) (lit : Nat → Bool) (user pw : Option Str) (p : Str)
    (kvs : List (Str × Str)) (f : Str) (hu : UText user) (hune : ∀ s, user = some s → s ≠ []) (hw : UText pw)
    (hp : PyStr (47 :: p)) (hn : NoSurrogate (47 :: p)) (hg : GoodPairs kvs) (hf : PyStr f) (hfn : NoSurrogate f)
    (hsafe : LitSafeAt comp lit user pw p kvs f) :
    HumanStores.ShownSpells e (litShower e.o comp lit) user pw p kvs f := by
  obtain ⟨cu, cw, cp, cq, cf⟩ := Lk_texts (P := LitOK) litOK_false hsafe
  refine ⟨fun usr q1 => ?_, fun pw' q2 => ?_, fun r q3 => lit_path_spells e hp hn q3 cp,
    fun qparts q4 => lit_query_spells e _ _ hg cq q4, fun rf q5 => lit_frag_spells e hf hfn q5 cf⟩
  · obtain ⟨s1, hne1⟩ := spellOpt_lit hu q1 cu
    exact ⟨s1.spells, s1.userOK (hne1 hune), s1.auth⟩
  · have q2' : humanQuoteLitOpt e.o pw (humanUnsafeOf "user") (Lk comp lit "password") = .ok pw' := by
      rw [← gen_same_lists.1]
      exact q2
    obtain ⟨s2, _⟩ := spellOpt_lit hw q2' cw
    exact ⟨s2.spells, s2.auth⟩

end Yarl
