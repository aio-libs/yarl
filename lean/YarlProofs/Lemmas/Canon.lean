/-
  Canon.lean — canonical (fixed-point) texts of a requoting table.

  `Canon t s`: `s` consists of literal characters that `t` keeps literal and of
  `%XY` escapes (upper-case hex) that `t` keeps escaped.  A requoting `t` maps
  such a text to itself (`cOut_fixed_on_canon`), and everything written by a
  compatible table `t'` is such a text (`cOut_in_canon`).  Together: requoting
  already-quoted text changes nothing — the heart of `str(URL(str(u))) == str(u)`.
-/
import YarlProofs.Lemmas.OutLang
import YarlProofs.Lemmas.Readback
import YarlProofs.Lemmas.StrLit
import YarlProofs.Lemmas.Basics
set_option linter.unusedVariables false
namespace Yarl

inductive Canon (t : QTab) : Str → Prop
  | nil : Canon t []
  | lit (c : Nat) (r : Str) : t.safe c = true → c ≠ 37 → ¬ (t.qs = true ∧ c = 32) →
      Canon t r → Canon t (c :: r)
  | esc (b : Nat) (r : Str) : b < 256 → (128 ≤ b ∨ t.safe b = false ∨ t.prot b = true) →
      Canon t r → Canon t (pct b ++ r)

namespace OutLangLemmas

/-! ### hex round trip -/

theorem isLowerHex_toHex {x : Nat} (h : x < 16) : isLowerHex (toHex x) = false := by
  unfold isLowerHex toHex
  split <;> simp <;> omega

/-! ### one-step unfoldings of `cOut` -/

theorem cOut_cons_esc (t : QTab) (hreq : t.requote = true) {rest rest' : Str} {v d1 d2 : Nat}
    (hm : takeEscape restoreCh rest = some (v, d1, d2, rest')) :
    cOut t (37 :: rest) = cEscOut t v ++ cOut t rest' := by
  rw [cOut]
  simp only [hreq, and_self, if_true]
  split
  · rename_i v' a b rest'' heq
    rw [hm] at heq
    simp only [Option.some.injEq, Prod.mk.injEq] at heq
    obtain ⟨rfl, _, _, rfl⟩ := heq
    rfl
  · rename_i heq
    rw [hm] at heq
    exact absurd heq (by simp)

theorem cOut_cons_ne (t : QTab) {c : Nat} (hc : c ≠ 37) (rest : Str) :
    cOut t (c :: rest) = cWriteOut t c ++ cOut t rest := by
  rw [cOut]
  simp only [hc, false_and, if_false]

theorem cOut_pct (t : QTab) (hreq : t.requote = true) {b : Nat} (hb : b < 256) (r : Str) :
    cOut t (pct b ++ r) = cEscOut t b ++ cOut t r := by
  simp only [pct, List.cons_append, List.nil_append]
  exact cOut_cons_esc t hreq (Readback.takeEscape_toHex _ hb r)

theorem cEscOut_eq_pct (t : QTab) (h : t.WF) {b : Nat}
    (hb : 128 ≤ b ∨ t.safe b = false ∨ t.prot b = true) : cEscOut t b = pct b := by
  unfold cEscOut
  split
  · rfl
  · rename_i h1
    split
    · rename_i h2
      rcases hb with hb | hb | hb
      · omega
      · rw [h2.2] at hb; exact Bool.noConfusion hb
      · exact absurd ⟨h2.1, hb⟩ h1
    · rfl

theorem cWriteOut_lit (t : QTab) (h : t.WF) {c : Nat} (hs : t.safe c = true)
    (hq : ¬ (t.qs = true ∧ c = 32)) : cWriteOut t c = [c] := by
  unfold cWriteOut
  rw [if_neg hq, if_pos ⟨h.safe_ascii c hs, hs⟩]

/-! ### UTF-8 bytes of a non-ASCII code point are non-ASCII -/

theorem utf8_ge128 {c : Nat} (hc : 128 ≤ c) : ∀ b ∈ utf8 c, 128 ≤ b := by
  unfold utf8
  rw [if_neg (by omega)]
  -- each remaining branch lists a lead byte `0xC0 + _`, `0xE0 + _`, `0xF0 + _` and continuation bytes `0x80 + _`
  repeat' split
  all_goals simp only [List.forall_mem_cons, List.not_mem_nil, false_imp_iff, implies_true, and_true]
  all_goals omega

/-! ### what a compatible table writes is canonical -/

theorem flatMap_pct_canon (t : QTab) (bs : List Nat) {r : Str}
    (hb : ∀ b ∈ bs, b < 256 ∧ (128 ≤ b ∨ t.safe b = false ∨ t.prot b = true))
    (hr : Canon t r) : Canon t (bs.flatMap pct ++ r) := by
  induction bs with
  | nil => simpa using hr
  | cons b bs ih =>
    rw [List.flatMap_cons, List.append_assoc]
    have hb0 := hb b (by simp)
    exact Canon.esc b _ hb0.1 hb0.2 (ih (fun x hx => hb x (by simp [hx])))

/-- the compatibility of the producing table `t'` with the requoting table `t` -/
structure Compat (t t' : QTab) : Prop where
  qs : t'.qs = t.qs
  sub : ∀ c, t'.safe c = true → t.safe c = true
  esc : ∀ c, t.safe c = true → t.prot c = false → t'.safe c = true
  prot : ∀ c, t'.prot c = true → t.prot c = true
  plus : t.qs = true → t.safe 43 = true
  sp : t.safe 32 = false

theorem Compat.ne32 {t t' : QTab} (k : Compat t t') {c : Nat} (hs : t'.safe c = true) : c ≠ 32 := by
  intro e
  subst e
  have := k.sub 32 hs
  rw [k.sp] at this
  exact Bool.noConfusion this

/-- a character that `t'` does not keep literal is one `t` keeps escaped -/
theorem Compat.notLiteral {t t' : QTab} (k : Compat t t') {c : Nat} (hs : t'.safe c = false) :
    t.safe c = false ∨ t.prot c = true := by
  cases h1 : t.safe c
  · exact Or.inl rfl
  · cases h2 : t.prot c
    · have := k.esc c h1 h2
      rw [hs] at this
      exact Bool.noConfusion this
    · exact Or.inr rfl

theorem canon_lit_of_safe' {t t' : QTab} (ht' : t'.WF) (k : Compat t t') {c : Nat} {r : Str}
    (hs : t'.safe c = true) (hr : Canon t r) : Canon t (c :: r) :=
  Canon.lit c r (k.sub c hs) (safe_ne37 ht' hs) (fun hq => k.ne32 hs hq.2) hr

theorem canon_cEscOut {t t' : QTab} (ht' : t'.WF) (k : Compat t t') {v : Nat} {r : Str}
    (hv : v < 256) (hr : Canon t r) : Canon t (cEscOut t' v ++ r) := by
  unfold cEscOut
  split
  · rename_i h1
    exact Canon.esc v r hv (Or.inr (Or.inr (k.prot v h1.2))) hr
  · rename_i h1
    split
    · rename_i h2
      exact canon_lit_of_safe' ht' k h2.2 hr
    · rename_i h2
      refine Canon.esc v r hv ?_ hr
      by_cases h128 : v < 128
      · exact Or.inr (k.notLiteral (Bool.eq_false_iff.2 fun hsv => h2 ⟨h128, hsv⟩))
      · exact Or.inl (by omega)

theorem canon_cWriteOut {t t' : QTab} (ht' : t'.WF) (k : Compat t t') {c : Nat} {r : Str}
    (hc : c ≤ 0x10FFFF) (hr : Canon t r) : Canon t (cWriteOut t' c ++ r) := by
  unfold cWriteOut
  split
  · rename_i h1
    have hq : t.qs = true := by rw [← k.qs]; exact h1.1
    exact Canon.lit 43 r (k.plus hq) (by decide) (fun h => absurd h.2 (by decide)) hr
  · rename_i h1
    split
    · rename_i h2
      exact canon_lit_of_safe' ht' k h2.2 hr
    · rename_i h2
      refine flatMap_pct_canon t _ ?_ hr
      intro b hb
      refine ⟨utf8_lt256 c b hb, ?_⟩
      by_cases h128 : c < 128
      · rw [utf8_ascii h128] at hb
        have hbc : b = c := by simpa using hb
        subst hbc
        exact Or.inr (k.notLiteral (Bool.eq_false_iff.2 fun hsv => h2 ⟨h128, hsv⟩))
      · exact Or.inl (utf8_ge128 (by omega) b hb)

theorem cOut_canon_of_compat {t t' : QTab} (ht' : t'.WF) (k : Compat t t') (s : Str) (hs : PyStr s) :
    Canon t (cOut t' s) := by
  fun_induction cOut t' s with
  | case1 => exact Canon.nil
  | case2 c rest hc v d1 d2 rest' hm ih =>
    have hrest : PyStr rest' := by
      intro x hx
      have := (takeEscape_eq hm).1
      exact hs x (by simp [this, hx])
    exact canon_cEscOut ht' k (Hex.restoreCh_lt (takeEscape_eq hm).2) (ih hrest)
  | case3 c rest hc hm ih =>
    have hrest : PyStr rest := fun x hx => hs x (by simp [hx])
    exact canon_cWriteOut ht' k (by decide) (ih hrest)
  | case4 c rest hc ih =>
    have hrest : PyStr rest := fun x hx => hs x (by simp [hx])
    exact canon_cWriteOut ht' k (hs c (by simp)) (ih hrest)

end OutLangLemmas

open OutLangLemmas

/-- a requoting table leaves canonical text alone -/
theorem cOut_fixed_on_canon (t : QTab) (h : t.WF) (hreq : t.requote = true) {s : Str} :
    Canon t s → cOut t s = s := by
  intro hs
  induction hs with
  | nil => rw [cOut]
  | lit c r hsafe hc hq _ ih =>
    rw [cOut_cons_ne t hc r, cWriteOut_lit t h hsafe hq, ih]
    rfl
  | esc b r hb hk _ ih =>
    rw [cOut_pct t hreq hb r, cEscOut_eq_pct t h hk, ih]

/-- what a compatible table `t'` writes is canonical for the requoting table `t` -/
theorem cOut_in_canon (t t' : QTab) (ht : t.WF) (ht' : t'.WF) (hqs : t'.qs = t.qs)
    (hsub : ∀ c, t'.safe c = true → t.safe c = true)
    (hesc : ∀ c, t.safe c = true → t.prot c = false → t'.safe c = true)
    (hprot : ∀ c, t'.prot c = true → t.prot c = true)
    (hplus : t.qs = true → t.safe 43 = true) (hsp : t.safe 32 = false)
    (s : Str) (hs : PyStr s) : Canon t (cOut t' s) :=
  cOut_canon_of_compat ht' ⟨hqs, hsub, hesc, hprot, hplus, hsp⟩ s hs

/-- requoting the output of a compatible table changes nothing -/
theorem cOut_requote_fixed (t t' : QTab) (ht : t.WF) (ht' : t'.WF) (hqs : t'.qs = t.qs)
    (hsub : ∀ c, t'.safe c = true → t.safe c = true)
    (hesc : ∀ c, t.safe c = true → t.prot c = false → t'.safe c = true)
    (hprot : ∀ c, t'.prot c = true → t.prot c = true)
    (hplus : t.qs = true → t.safe 43 = true) (hsp : t.safe 32 = false)
    (hreq : t.requote = true)
    (s : Str) (hs : PyStr s) : cOut t (cOut t' s) = cOut t' s :=
  cOut_fixed_on_canon t ht hreq (cOut_in_canon t t' ht ht' hqs hsub hesc hprot hplus hsp s hs)

/-- a requoting table is idempotent -/
theorem cOut_idem (t : QTab) (h : t.WF) (hreq : t.requote = true)
    (hplus : t.qs = true → t.safe 43 = true) (hsp : t.safe 32 = false)
    (s : Str) (hs : PyStr s) : cOut t (cOut t s) = cOut t s :=
  cOut_requote_fixed t t h h rfl (fun _ hc => hc) (fun _ hc _ => hc) (fun _ hc => hc)
    hplus hsp hreq s hs

end Yarl
