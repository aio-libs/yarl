/-
  JoinShape.lean — `join` taken apart.  `join_eq` names the pieces of the definition (the merged path before
  dot-segment removal, the resulting path, the resulting query); `join_cases` lists the three shapes of the
  result; `joinRawPath_closed` (the six forms of the merged path, each with the branch conditions that select it) and
  `joinRelPath_closed` are the induction principle every "the joined path is again in the class P" argument needs.
  Invariants of `join` are proved from these.
-/
import YarlModel
namespace Yarl

/-- the path `join` forms from a non-empty reference path, before dot-segment removal -/
def joinRawPath (base ref : Url) : Str :=
  if ref.path.head? = some 47 then ref.path
  else if base.path.isEmpty then (if !base.netloc.isEmpty then 47 :: ref.path else ref.path)
  else if base.path.getLast? = some 47 then base.path ++ ref.path
  else
    let merged := joinC 47 ((rawParts base).dropLast ++ [[]]) ++ ref.path
    if base.path.head? = some 47 then merged.drop 1 else merged

/-- the path of `join base ref` when the base's authority is kept -/
def joinRelPath (base ref : Url) : Str :=
  if !ref.path.isEmpty then
    (if mem 46 (joinRawPath base ref) then normalizePath (joinRawPath base ref) else joinRawPath base ref)
  else base.path

/-- the query of `join base ref` when the base's authority is kept -/
def joinRelQuery (base ref : Url) : Str :=
  if !ref.path.isEmpty || !ref.query.isEmpty then ref.query else base.query

/-- the scheme `join` resolves under -/
def joinScheme (base ref : Url) : Str := if !ref.scheme.isEmpty then ref.scheme else base.scheme

theorem join_eq (e : Env) (base ref : Url) :
    join e base ref =
      if joinScheme base ref ≠ base.scheme || !Gen.usesRelative.contains (joinScheme base ref) then ref
      else if !ref.netloc.isEmpty && Gen.usesAuthority.contains (joinScheme base ref) then
        fromParts (joinScheme base ref) ref.netloc ref.path ref.query ref.fragment
      else fromParts (joinScheme base ref) base.netloc (joinRelPath base ref) (joinRelQuery base ref) ref.fragment :=
  rfl

theorem joinScheme_cases (base ref : Url) : joinScheme base ref = ref.scheme ∨ joinScheme base ref = base.scheme := by
  unfold joinScheme; split
  · exact .inl rfl
  · exact .inr rfl

/-- the three shapes of a `join`: the reference itself; the reference under the resolved scheme (it has an
    authority); or the base's authority with the merged path.  In the last two the resolved scheme is the base's. -/
theorem join_cases (e : Env) (base ref : Url) :
    join e base ref = ref ∨
    (ref.netloc ≠ [] ∧ joinScheme base ref = base.scheme ∧
      join e base ref = fromParts (joinScheme base ref) ref.netloc ref.path ref.query ref.fragment) ∨
    (joinScheme base ref = base.scheme ∧
      join e base ref =
        fromParts (joinScheme base ref) base.netloc (joinRelPath base ref) (joinRelQuery base ref) ref.fragment) := by
  rw [join_eq]
  split
  · exact .inl rfl
  · rename_i h1
    have hs : joinScheme base ref = base.scheme := by
      by_cases hs : joinScheme base ref = base.scheme
      · exact hs
      · exact absurd (by simp [hs]) h1
    split
    · rename_i h2
      refine .inr (.inl ⟨?_, hs, rfl⟩)
      intro hn; rw [hn] at h2; cases h2
    · exact .inr (.inr ⟨hs, rfl⟩)

theorem joinRelQuery_cases (base ref : Url) : joinRelQuery base ref = ref.query ∨ joinRelQuery base ref = base.query := by
  unfold joinRelQuery; split
  · exact .inl rfl
  · exact .inr rfl

/-- Everything `joinRawPath` can be, each with the branch conditions that select it.  `P` is proved for the six
    forms; the hypotheses of a form are available to its proof. -/
theorem joinRawPath_closed {P : Str → Prop} (base ref : Url)
    (href : ref.path.head? = some 47 → P ref.path)
    (hslash : base.path = [] → base.netloc ≠ [] → P (47 :: ref.path))
    (hbare : base.path = [] → base.netloc = [] → P ref.path)
    (happ : base.path ≠ [] → base.path.getLast? = some 47 → P (base.path ++ ref.path))
    (hdrop : base.path ≠ [] → base.path.head? = some 47 →
      P ((joinC 47 ((rawParts base).dropLast ++ [[]]) ++ ref.path).drop 1))
    (hmerge : base.path ≠ [] → base.path.head? ≠ some 47 →
      P (joinC 47 ((rawParts base).dropLast ++ [[]]) ++ ref.path)) :
    P (joinRawPath base ref) := by
  unfold joinRawPath
  split
  · exact href ‹_›
  · split
    · rename_i hb
      have hb : base.path = [] := List.isEmpty_iff.mp hb
      split
      · rename_i hn
        exact hslash hb (by intro h0; rw [h0] at hn; cases hn)
      · rename_i hn
        exact hbare hb (by cases hnl : base.netloc with
          | nil => rfl
          | cons a r => rw [hnl] at hn; exact absurd rfl hn)
    · rename_i hb
      have hb : base.path ≠ [] := fun h0 => hb (by rw [h0]; rfl)
      split
      · exact happ hb ‹_›
      · simp only
        split
        · exact hdrop hb ‹_›
        · exact hmerge hb ‹_›

/-- A class of texts that holds the base and reference paths and is closed under what `join` does to them
    holds the joined path. -/
theorem joinRelPath_closed {P : Str → Prop} (base ref : Url) (hb : P base.path)
    (hm : ref.path ≠ [] → P (joinRawPath base ref))
    (hnorm : ref.path ≠ [] → mem 46 (joinRawPath base ref) = true → P (joinRawPath base ref) →
      P (normalizePath (joinRawPath base ref))) :
    P (joinRelPath base ref) := by
  unfold joinRelPath
  split
  · rename_i hr
    have hr : ref.path ≠ [] := by intro h0; rw [h0] at hr; cases hr
    split
    · exact hnorm hr ‹_› (hm hr)
    · exact hm hr
  · exact hb

end Yarl
