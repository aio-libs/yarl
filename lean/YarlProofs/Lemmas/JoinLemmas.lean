/-
  JoinLemmas.lean — helper lemmas for C14 (`join` is RFC 3986 §5.2 reference resolution):
  "the base path up to and including its last '/'" computed by split / dropLast / join
  (the code) and by reverse / dropWhile / reverse (the RFC spec) agree; the callers' `"." in path` guard
  (`guard_eq`) and §5.2.4 against `normalize_path` on any path (`rds_normalizePath`).
-/
import YarlModel
import YarlProofs.C15
import YarlProofs.Lemmas.JoinShape
import YarlProofs.Lemmas.Basics
namespace Yarl.JoinLemmas
open Yarl Yarl.PathLemmas

theorem dropWhile_rev_none (l : Str) (h : 47 ∉ l) : l.reverse.dropWhile (· ≠ 47) = [] := by
  have := dropWhile_seg l.reverse [] (by simpa using h) (Or.inl rfl)
  simpa using this

theorem upToLastSlash (X l : Str) (h : 47 ∉ l) :
    ((X ++ 47 :: l).reverse.dropWhile (· ≠ 47)).reverse = X ++ [47] := by
  have e : (X ++ 47 :: l).reverse = l.reverse ++ 47 :: X.reverse := by simp
  rw [e, dropWhile_seg l.reverse (47 :: X.reverse) (by simpa using h) (Or.inr ⟨_, rfl⟩)]
  simp

/-- the code's "all raw parts but the last, then an empty part, joined" is the RFC's
    "base path up to and including the right-most '/'" -/
theorem joinC_dropLast (s : Str) :
    joinC 47 ((splitOn 47 s).dropLast ++ [[]]) = (s.reverse.dropWhile (· ≠ 47)).reverse := by
  have hs : joinC 47 (splitOn 47 s) = s := joinC_splitOn (c := 47) s
  have hns := splitOn_no_sep 47 s
  have hne := splitOn_ne_nil 47 s
  generalize splitOn 47 s = xs at hs hns hne
  rcases List.eq_nil_or_concat xs with h | ⟨init, last, rfl⟩
  · exact absurd h hne
  · have hl : 47 ∉ last := hns last (by simp)
    simp only [List.concat_eq_append, List.dropLast_concat] at hs ⊢
    by_cases hi : init = []
    · subst hi
      have : last = s := by simpa [joinC, joinSep] using hs
      subst this
      rw [dropWhile_rev_none _ hl]
      rfl
    · rw [PathLemmas.joinC_snoc 47 _ _ hi] at hs ⊢
      rw [← hs, upToLastSlash _ _ hl]

/-- rooted base path: the raw parts start with "/" (not ""), and the code drops one leading '/' -/
theorem merged_rooted (rest rp : Str) :
    (joinC 47 (([47] :: splitOn 47 rest).dropLast ++ [[]]) ++ rp).drop 1
      = ((47 :: rest).reverse.dropWhile (· ≠ 47)).reverse ++ rp := by
  rw [← joinC_dropLast (47 :: rest)]
  have hne := splitOn_ne_nil 47 rest
  simp only [splitOn, ↓reduceIte]
  generalize splitOn 47 rest = xs at hne
  cases xs with
  | nil => exact absurd rfl hne
  | cons x r => simp [List.dropLast, joinC_cons]

/-- the `"." in path` guard of the callers changes nothing: `normalize_path` is the identity without a '.' -/
theorem guard_eq (p : Str) : (if mem 46 p = true then normalizePath p else p) = normalizePath p := by
  split
  · rfl
  · rename_i h
    exact (C15_dot_guard_sound p fun hm => h (mem_iff.2 hm)).symm

/-- the guarded normalisation of the code is RFC dot-segment removal on rooted paths -/
theorem guard_rds (p : Str) :
    (if mem 46 (47 :: p) then normalizePath (47 :: p) else 47 :: p) = Rfc.removeDotSegments (47 :: p) := by
  rw [guard_eq]
  exact C15_rfc p

/-- `normalize_path` on a path that does not start with '/' -/
theorem normalizePath_rootless (m : Str) (h : m.head? ≠ some 47) :
    normalizePath m = joinC 47 (normalizePathSegments (splitOn 47 m)) := by
  unfold normalizePath
  split
  · rename_i rest
    simp at h
  · rfl

/-- §5.2.4 against `normalize_path` on ANY path: equal on a rooted path; on a rootless one the RFC's result has one more
    '/' in front exactly when a ".." pops the first segment that reached the output -/
theorem rds_normalizePath (m : Str) :
    Rfc.removeDotSegments m
      = (if m.head? ≠ some 47 ∧ C14_pathEscapes m = true then [47] else []) ++ normalizePath m := by
  cases m with
  | nil => rfl
  | cons c r =>
    by_cases hc : c = 47
    · subst hc
      rw [if_neg (fun h => h.1 rfl), ← C15_rfc]
      rfl
    · have hn := normalizePath_rootless (c :: r) (by simpa using hc)
      rw [rds_eq, hn]
      simp [hc]

/-! ### the merge branch of `join` -/

theorem scheme_eq (base ref : Url) (hsch : ref.scheme = [] ∨ ref.scheme = base.scheme) :
    (if !ref.scheme.isEmpty then ref.scheme else base.scheme) = base.scheme := by
  rcases hsch with h | h <;> simp [h]

/-- a reference under the base's scheme (or none), that scheme in `uses_relative`, no authority taken from the
    reference: `join` keeps the base's authority and merges the paths -/
theorem join_merge (e : Env) (base ref : Url)
    (hsch : ref.scheme = [] ∨ ref.scheme = base.scheme)
    (hrel : Gen.usesRelative.contains base.scheme = true)
    (hauth : ref.netloc = [] ∨ Gen.usesAuthority.contains base.scheme = false) :
    join e base ref =
      fromParts base.scheme base.netloc (joinRelPath base ref) (joinRelQuery base ref) ref.fragment := by
  have hs : joinScheme base ref = base.scheme := scheme_eq base ref hsch
  have ha : (!ref.netloc.isEmpty && Gen.usesAuthority.contains base.scheme) = false := by
    rcases hauth with h | h
    · rw [h]; rfl
    · rw [h, Bool.and_false]
  rw [join_eq, hs, hrel, ha]
  simp

end Yarl.JoinLemmas
