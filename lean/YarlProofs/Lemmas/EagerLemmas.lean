/-
  EagerLemmas.lean — helper lemmas for C09 (eager = lazy netloc data).
  The guards of C09 on the input authority (`GoodHost`, `GoodNp`, `GoodAuthority`); a written host text that
  `split_netloc` reads back (`Reads`), its syntactic form (`HostTxt`) and the case analysis over the answers
  of `_encode_host` that gives it for the constructor (`hostText_rebracket`, `host_reads`); REQUOTER output
  facts; `cachedUser`, the user `encode_url` caches; the constructor in stages: `encodeUrl_eq`, the authority block
  `authBlock` stage by stage (`authBlock_eq`), read backwards (`authBlock_ok`) and forwards (`authBlock_of`); and
  `authBlock_lazy`: what the block caches is what `split_netloc` reads from the stored netloc.
-/
import YarlModel
import YarlProofs.Lemmas.NetlocLemmas
import YarlProofs.Lemmas.HostLemmas
import YarlProofs.Lemmas.OutLang
import YarlProofs.Lemmas.GenTabs
import YarlProofs.Lemmas.StrTotal
import YarlProofs.C07
import YarlProofs.C11
import YarlProofs.C12Readback
import YarlProofs.C16
import YarlProofs.Lemmas.Basics
namespace Yarl

/-- the guard on the host text `h0` that `split_netloc` cuts out of the INPUT authority, under which the written host
    reads back as the cached one (`host_reads`):
    * no '[' inside the host text ("[[::1]" is outside: the stored text then has two '['), and for a non-ASCII host
      the IDNA oracle's answer is non-empty and introduces none of ':' '@' '[' ']';
    * or the host is a valid IPv6 literal (text before an optional `%zone`), whatever the zone is.
    A host with ':' that is no IPv6 address (IPvFuture, "[a:b]", "[1.2.3.4%a:b]") is inside: `encode_url` puts the
    brackets of such a host back. -/
def GoodHost (o : Oracles) (h0 : Str) : Prop :=
  (91 ∉ h0 ∧ (isAscii h0 = false → ∀ r, idnaEncode o h0 = .ok r →
      r ≠ [] ∧ ∀ c, (c = 58 ∨ c = 64 ∨ c = 91 ∨ c = 93) → c ∈ r → c ∈ h0))
  ∨ (∃ h8, parseIP (partition 37 h0).1 = some (.v6 h8))

/-- a stronger guard (no ']' either, no ':' outside an IPv6 literal, a full `HostOK` IDNA answer): the hypothesis of
    `C09_good_authority_of_old`; it implies `GoodHost` (`goodHost_of_old`) -/
def GoodHostOld (o : Oracles) (h0 : Str) : Prop :=
  91 ∉ h0 ∧ 93 ∉ h0 ∧
  ((h0 ≠ [] ∧ 58 ∉ h0 ∧ (isAscii h0 = false → ∀ r, idnaEncode o h0 = .ok r → HostOK r ∧ 58 ∉ r))
   ∨ (∃ h8, parseIP (partition 37 h0).1 = some (.v6 h8)))

theorem goodHost_of_old {o : Oracles} {h0 : Str} (h : GoodHostOld o h0) : GoodHost o h0 := by
  obtain ⟨h91, _, h | h⟩ := h
  · left
    refine ⟨h91, fun hna r hr => ?_⟩
    obtain ⟨⟨hne, h64, h91', h93'⟩, h58⟩ := h.2.2 hna r hr
    refine ⟨hne, ?_⟩
    intro c hc hm
    rcases hc with rfl | rfl | rfl | rfl
    · exact absurd hm h58
    · exact absurd hm h64
    · exact absurd hm h91'
    · exact absurd hm h93'
  · exact Or.inr h

namespace EagerLemmas

/-! ### small string facts -/

theorem lower_ne_nil {s : Str} (h : s ≠ []) : lower s ≠ [] := by
  cases s with
  | nil => exact absurd rfl h
  | cons _ _ => simp [lower]

/-! ### reading a written host text back -/

/-- `Reads w h`: `split_netloc` and the bracket stripping of `encode_url` read the raw host `h` (and the port behind it)
    out of the text `w`.  What the reader does, and nothing else: no oracle, nothing about how `w` was made.
    `HostTxt` (below) and `HostW` (Lemmas/HostW.lean) are the two ways of knowing it:
    `HostW o W h → HostTxt W h → Reads W h`. -/
structure Reads (w h : Str) : Prop where
  h64 : 64 ∉ w
  plain : NetlocLemmas.hostPort w = (h, [])
  port : ∀ ds, 91 ∉ ds → NetlocLemmas.hostPort (w ++ [58] ++ ds) = (h, ds)
  unbr : unbracket w = h

open NetlocLemmas in
/-- a bracketed text: any content without '@' and ']' (a '[' inside is harmless) -/
theorem reads_bracketed (h : Str) (h64 : 64 ∉ h) (h93 : 93 ∉ h) : Reads ([91] ++ h ++ [93]) h := by
  refine ⟨by simp [h64], ?_, fun ds _ => ?_, ?_⟩
  · simpa [partition] using hostPort_bracketed (a := []) [] (by simp) h93
  · simpa [partition] using hostPort_bracketed (a := []) (58 :: ds) (by simp) h93
  · unfold unbracket
    rw [if_pos (mem_iff.mpr (by simp))]
    simp

open NetlocLemmas in
/-- a plain text: no ':' '@' '[' -/
theorem reads_plain (h : Str) (h58 : 58 ∉ h) (h64 : 64 ∉ h) (h91 : 91 ∉ h) : Reads h h := by
  refine ⟨h64, ?_, fun ds d91 => ?_, ?_⟩
  · rw [hostPort_noBracket h91, partition_notFound 58 h h58]
  · have : 91 ∉ h ++ [58] ++ ds := by simp [h91, d91]
    rw [hostPort_noBracket this, List.append_assoc, List.singleton_append, partition_found 58 h ds h58]
  · unfold unbracket
    rw [mem_false_iff.mpr h91]
    rfl

/-- the round trip `split_netloc (make_netloc …)` around any written host text that reads back -/
theorem roundtrip_reads (o : Oracles) (qf : Str → Str) (user pw : Option Str) (w h : Str) (port : Option Nat)
    (hu : UserOK user) (hr : Reads w h) (hp : ∀ p, port = some p → p ≤ 65535) :
    splitNetloc o (makeNetloc qf user pw (some w) port false) =
      .ok { user := user, password := pw, host := orNone h, port := port } :=
  NetlocLemmas.roundtrip_written o qf user pw port hu hr.h64 hr.plain hr.port hp

theorem makeNetloc_ne_nil_written (qf : Str → Str) (user pw : Option Str) {w : Str} (hne : w ≠ [])
    (port : Option Nat) : makeNetloc qf user pw (some w) port false ≠ [] := by
  have hr := NetlocLemmas.hostPortStr_ne_nil hne port
  rw [NetlocLemmas.makeNetloc_eq]
  cases user with
  | none => cases pw <;> simp [hr]
  | some u =>
    cases pw with
    | none => simp only; split <;> simp [hr]
    | some x => simp

/-! ### the written host of the constructor -/

section
open StrTotal (rebracket zonePart Delim)

/-- `HostTxt w body`: `w` is `body` in brackets (no ']' and no '@' inside) or bare (no ':' '[' '@') — `Reads` by its two
    rules (`reads_bracketed`, `reads_plain`), remembering which form.  It is all one knows about the host text the
    library wrote for an unvalidated host (`hostText_rebracket`), and it is what says that a host with ':' stands in
    brackets (`hostText_colon`, C16More.lean); what `split_netloc` makes of such a text is stated on `Reads`. -/
def HostTxt (w body : Str) : Prop :=
  (w = [91] ++ body ++ [93] ∧ 93 ∉ body ∧ 64 ∉ body) ∨ (w = body ∧ 58 ∉ body ∧ 91 ∉ body ∧ 64 ∉ body)

/-- … and `split_netloc` reads `body` (and the port behind it) out of `w` -/
theorem HostTxt.reads {w body : Str} (h : HostTxt w body) : Reads w body := by
  rcases h with ⟨rfl, h93, h64⟩ | ⟨rfl, h58, h91, h64⟩
  · exact reads_bracketed body h64 h93
  · exact reads_plain w h58 h64 h91

/-- The written host text of the constructor and of `build(authority=…)` — the re-bracketed result of the
    non-validating `_encode_host` — denotes a raw host, when the host cut out of the input contains no further '[' and
    IDNA brings no new delimiter, or is an IPv6 literal (whatever its zone).  `E` says whether the IDNA answers are
    known to be non-empty: then the raw host is not empty either. -/
theorem hostText_rebracket {E : Prop} (o : Oracles) (n : Str) (np : NetlocParts) (h0 h1 : Str)
    (hn : splitNetloc o n = .ok np) (hh : np.host = some h0)
    (hg : (91 ∉ h0 ∧ (isAscii h0 = false → ∀ r, idnaEncode o h0 = .ok r →
        (E → r ≠ []) ∧ ∀ c, Delim c → c ∈ r → c ∈ h0)) ∨
      ∃ h8, parseIP (partition 37 h0).1 = some (.v6 h8))
    (he : encodeHost o h0 false = .ok h1) :
    ∃ body, HostTxt (rebracket (mem 91 (rpartition 64 n).2.2) h1) body ∧ (E → body ≠ []) := by
  obtain ⟨hne, h64, hB, hnB⟩ := StrTotal.splitNetloc_host_facts o n np h0 hn hh
  -- a bracketed canonical IPv6 text made from `t`: the host, or its IDNA answer (fix 3fbf5b4: `_encode_host`
  -- tries the IP branch again on the answer)
  have keyv6 : ∀ (t : Str) (h8 : List Nat), (∀ c, (c = 58 ∨ c = 64 ∨ c = 93) → c ∈ t → c ∈ h0) →
      parseIP (partition 37 t).1 = some (.v6 h8) → h1 = [91] ++ (ipv6ToStr h8 ++ zonePart t) ++ [93] →
      ∃ body, HostTxt (rebracket (mem 91 (rpartition 64 n).2.2) h1) body ∧ body ≠ [] := by
    intro t h8 ht hv6 hr
    obtain ⟨hc, hc0, hsub⟩ := StrTotal.v6_body_facts t h8 hv6
    have hc0' : 58 ∈ h0 := ht 58 (by simp) hc0
    have hBt : mem 91 (rpartition 64 n).2.2 = true := Bool.of_not_eq_false fun hb => (hnB hb).1 hc0'
    have hm : mem 91 h1 = true := mem_iff.mpr (by rw [hr]; simp)
    have : rebracket (mem 91 (rpartition 64 n).2.2) h1 = h1 := by simp [rebracket, hm]
    rw [this, hr]
    refine ⟨_, Or.inl ⟨rfl, fun hm => hB hBt (ht 93 (by simp) (hsub 93 (by simp) hm)),
      fun hm => h64 (ht 64 (by simp) (hsub 64 (by simp) hm))⟩, ?_⟩
    intro hnil
    rw [hnil] at hc
    cases hc
  -- every other answer brings no new delimiter
  have main : 91 ∉ h0 → (∀ c, Delim c → c ∈ h1 → c ∈ h0) →
      ∃ body, HostTxt (rebracket (mem 91 (rpartition 64 n).2.2) h1) body ∧ (h1 ≠ [] → body ≠ []) := by
    intro h91 hd
    have h64' : 64 ∉ h1 := fun hm => h64 (hd 64 (by simp [Delim]) hm)
    have h91' : 91 ∉ h1 := fun hm => h91 (hd 91 (by simp [Delim]) hm)
    cases hb : mem 91 (rpartition 64 n).2.2 with
    | true =>
      have h93' : 93 ∉ h1 := fun hm => hB hb (hd 93 (by simp [Delim]) hm)
      have : rebracket true h1 = [91] ++ h1 ++ [93] := by simp [rebracket, mem_false_iff.mpr h91']
      rw [this]
      exact ⟨h1, Or.inl ⟨rfl, h93', h64'⟩, id⟩
    | false =>
      have h58' : 58 ∉ h1 := fun hm => (hnB hb).1 (hd 58 (by simp [Delim]) hm)
      have : rebracket false h1 = h1 := by simp [rebracket]
      rw [this]
      exact ⟨h1, Or.inr ⟨rfl, h58', h91', h64'⟩, id⟩
  rcases hg with ⟨h91, hidna⟩ | ⟨h8, hv6⟩
  · rcases StrTotal.encodeHost_false_cases o h0 h1 he with ⟨h8, hv6, hr⟩ | ⟨hna, a, hi, _, hA⟩ | hrest
    · obtain ⟨body, hb, hne'⟩ := keyv6 h0 h8 (fun _ _ hm => hm) hv6 hr
      exact ⟨body, hb, fun _ => hne'⟩
    · rcases hA with ⟨h8, hv6, hr⟩ | hA
      · obtain ⟨body, hb, hne'⟩ := keyv6 a h8 (fun c hc => (hidna hna a hi).2 c (by unfold Delim; omega)) hv6 hr
        exact ⟨body, hb, fun _ => hne'⟩
      · obtain ⟨body, hb, hne'⟩ := main h91 (fun c hc hm => (hidna hna a hi).2 c hc
          (StrTotal.encodeHostA_false_char a h1 c (by unfold Delim at hc; omega) hA hm))
        refine ⟨body, hb, fun hE => hne' ?_⟩
        rcases hA with h | ⟨_, h⟩
        · rw [h]; exact (hidna hna a hi).1 hE
        · rw [h]; exact lower_ne_nil ((hidna hna a hi).1 hE)
    · obtain ⟨body, hb, hne'⟩ := main h91
        (StrTotal.encodeHost_false_delims o h0 h1 (fun ha r hr => (hidna ha r hr).2) hrest)
      refine ⟨body, hb, fun hE => hne' ?_⟩
      rcases hrest with h | ⟨_, h⟩ | ⟨ha, h⟩
      · rw [h]; exact hne
      · rw [h]; exact lower_ne_nil hne
      · exact (hidna ha h1 h).1 hE
  · have h6 := HostLemmas.parseIP_some_v6.1 hv6
    have h4 := HostLemmas.parseIPv4_none_of_parseIPv6 h6
    obtain ⟨_, _, hr⟩ := C16_ipv6_bracketed o h0 false h8 h1 h4 h6 he
    obtain ⟨body, hb, hne'⟩ := keyv6 h0 h8 (fun _ _ hm => hm) hv6 (by rw [hr]; unfold zonePart; simp)
    exact ⟨body, hb, fun _ => hne'⟩

end


open StrTotal (rebracket) in
/-- under the guard, the re-bracketed result of `_encode_host` is a written host text from which
    `split_netloc` reads back exactly what `encode_url` caches as `raw_host` -/
theorem host_reads (o : Oracles) (n : Str) (np : NetlocParts) (h0 h1 : Str)
    (hn : splitNetloc o n = .ok np) (hh : np.host = some h0) (hg : GoodHost o h0)
    (he : encodeHost o h0 false = .ok h1) :
    ∃ rh, rh ≠ [] ∧ Reads (rebracket (mem 91 (rpartition 64 n).2.2) h1) rh := by
  obtain ⟨body, hb, hne⟩ := hostText_rebracket (E := True) o n np h0 h1 hn hh
    (hg.imp (fun h => ⟨h.1, fun ha r hr => ⟨fun _ => (h.2 ha r hr).1, (h.2 ha r hr).2⟩⟩) id) he
  exact ⟨body, hne trivial, hb.reads⟩

/-- "no host" is written as "" or, if the host part of the input was "[]", as "[]" -/
theorem nil_reads (b : Bool) : Reads (StrTotal.rebracket b []) [] := by
  cases b with
  | true =>
    have : StrTotal.rebracket true [] = [91] ++ [] ++ [93] := by simp [StrTotal.rebracket, mem]
    rw [this]
    exact reads_bracketed [] (by simp) (by simp)
  | false =>
    have : StrTotal.rebracket false [] = [] := by simp [StrTotal.rebracket]
    rw [this]
    exact reads_plain [] (by simp) (by simp) (by simp)

/-! ### REQUOTER output -/

theorem requoter_escapes : ∀ b : Backend, (Gen.REQUOTER.tab b).safe 58 = false ∧ (Gen.REQUOTER.tab b).safe 64 = false ∧
    (Gen.REQUOTER.tab b).qs = false := by
  intro b; cases b <;> decide

/-- REQUOTER escapes ':' and '@' -/
theorem requoter_no_delims (e : Env) (s : Str) (hs : PyStr s) :
    58 ∉ q e Gen.REQUOTER s ∧ 64 ∉ q e Gen.REQUOTER s := by
  obtain ⟨h58, h64, hqs⟩ := requoter_escapes e.b
  have hwf := gen_tab_wf _ mem_REQUOTER e.b
  unfold q
  rw [QsLemmas.run_eq_cOut _ mem_REQUOTER e.b s hs]
  have hall := outLang_allowed _ (cOut_outLang _ hwf (stripSurr s))
  constructor
  · intro hm
    rcases hall 58 hm with h | h | h | h
    · rw [h58] at h; cases h
    · exact absurd h (by decide)
    · exact absurd h (by decide)
    · rw [hqs] at h; cases h.1
  · intro hm
    rcases hall 64 hm with h | h | h | h
    · rw [h64] at h; cases h
    · exact absurd h (by decide)
    · exact absurd h (by decide)
    · rw [hqs] at h; cases h.1

theorem pct_ne_nil (b : Nat) : pct b ≠ [] := by simp [pct]

theorem cWriteOut_ne_nil (t : QTab) {c : Nat} (hc : c ≤ 0x10FFFF) (hn : isSurrogate c = false) :
    cWriteOut t c ≠ [] := by
  unfold cWriteOut
  split; · simp
  split; · simp
  unfold writeUtf8
  have := utf8_length_pos c hc hn
  cases hu : utf8 c with
  | nil => rw [hu] at this; cases this
  | cons b bs => simp [pct]

theorem cEscOut_ne_nil (t : QTab) (v : Nat) : cEscOut t v ≠ [] := by
  unfold cEscOut
  split; · exact pct_ne_nil v
  split; · simp
  exact pct_ne_nil v

theorem cOut_cons_ne_nil (t : QTab) (c : Nat) (rest : Str) (hc : c ≤ 0x10FFFF) (hn : isSurrogate c = false) :
    cOut t (c :: rest) ≠ [] := by
  rw [cOut]
  split
  · split
    · intro h; exact cEscOut_ne_nil t _ (List.append_eq_nil_iff.mp h).1
    · intro h; exact cWriteOut_ne_nil t (by decide) (by decide) (List.append_eq_nil_iff.mp h).1
  · intro h; exact cWriteOut_ne_nil t hc hn (List.append_eq_nil_iff.mp h).1

/-- a string with at least one real (non-surrogate) character does not requote to "" -/
theorem requoter_ne_nil (e : Env) (s : Str) (hs : PyStr s) (hx : ∃ c ∈ s, isSurrogate c = false) :
    q e Gen.REQUOTER s ≠ [] := by
  unfold q
  rw [QsLemmas.run_eq_cOut _ mem_REQUOTER e.b s hs]
  obtain ⟨c, hc, hn⟩ := hx
  have hm : c ∈ stripSurr s := by unfold stripSurr; simp [hc, hn]
  cases hss : stripSurr s with
  | nil => rw [hss] at hm; cases hm
  | cons d rest =>
    have hd : d ∈ stripSurr s := by rw [hss]; simp
    have hd' := List.mem_filter.mp hd
    exact cOut_cons_ne_nil _ d rest (hs d hd'.1) (by simpa using hd'.2)

end EagerLemmas

/-- `(REQUOTER(username) or None)`: the user `encode_url` caches and writes into the stored netloc — a user that
    requotes to "" is no user (fix 2fdb38c) -/
def cachedUser (e : Env) (u : Option Str) : Option Str :=
  (requoteOpt e u).bind (fun s => if s.isEmpty then none else some s)

/-- the guard on the authority of the INPUT as `split_netloc` cuts it:
    * the user, if any, is a Python string — nothing more: a user that requotes to "" (one made of lone surrogates
      only) is cached as `None` (`cachedUser`), which is what the lazy path reads from the stored netloc;
    * the host, if any, satisfies `GoodHost`;
    * with an EMPTY host there is a user THAT IS WRITTEN (it does not requote to ""), a password or a port:
      otherwise the stored netloc is "" and the lazy path reads no host at all. -/
def GoodNp (e : Env) (np : NetlocParts) : Prop :=
  (∀ s, np.user = some s → PyStr s) ∧
  (match np.host with
   | none => (∃ s, np.user = some s ∧ q e Gen.REQUOTER s ≠ []) ∨ np.password ≠ none ∨ np.port ≠ none
   | some h0 => GoodHost e.o h0)

/-- a stronger guard — every user requotes to a non-empty text, the host satisfies `GoodHost` — the hypothesis of
    `C09_good_authority_of_old`; it implies `GoodNp` (`goodNp_of_old`) -/
def GoodNpOld (e : Env) (np : NetlocParts) : Prop :=
  (∀ s, np.user = some s → PyStr s ∧ q e Gen.REQUOTER s ≠ []) ∧
  (match np.host with
   | none => np.user ≠ none ∨ np.password ≠ none ∨ np.port ≠ none
   | some h0 => GoodHost e.o h0)

theorem goodNp_of_old {e : Env} {np : NetlocParts} (h : GoodNpOld e np) : GoodNp e np := by
  obtain ⟨hu, hh⟩ := h
  refine ⟨fun s hs => (hu s hs).1, ?_⟩
  cases hnh : np.host with
  | some h0 => rw [hnh] at hh; exact hh
  | none =>
    rw [hnh] at hh
    rcases hh with h | h | h
    · cases hus : np.user with
      | none => exact absurd hus h
      | some x => exact Or.inl ⟨x, rfl, (hu x hus).2⟩
    · exact Or.inr (Or.inl h)
    · exact Or.inr (Or.inr h)

/-- the guard of `C09_eager_eq_lazy`, on the split authority of the input string -/
def GoodAuthority (e : Env) (s : Str) : Prop :=
  ∀ pt np, splitUrl e.o s = .ok pt → splitNetloc e.o pt.netloc = .ok np → GoodNp e np

namespace EagerLemmas

/-- the authority split of `encode_url` (the fast path for a netloc without ':' '@' '[') -/
def authSplit (o : Oracles) (netloc : Str) : R NetlocParts :=
  if mem 58 netloc || mem 64 netloc || mem 91 netloc then splitNetloc o netloc
  else pure { user := none, password := none, host := some netloc, port := none }

def hostOr (scheme : Str) (h : Option Str) : R Str :=
  match h with
  | some h => pure h
  | none => if Gen.schemeRequiresHost.contains scheme then .error .valueError else pure []

/-- stored netloc and pre-filled cache, from the split input authority and the encoded host -/
def eagerOut (e : Env) (np : NetlocParts) (host : Str) : R (Str × Option NetPre) :=
  let rawHost := if mem 91 host then (host.drop 1).dropLast else host
  if np.password.isNone && np.user.isNone then
    let netloc := match np.port with
      | none => host
      | some pt => host ++ [58] ++ natToStr pt
    pure (netloc, some { rawHost := some rawHost, explicitPort := np.port, rawUser := none, rawPassword := none })
  else
    let ru := cachedUser e np.user
    let rp := requoteOpt e np.password
    let netloc := makeNetloc (q e Gen.QUOTER) ru rp (some host) np.port false
    pure (netloc, some { rawHost := some rawHost, explicitPort := np.port, rawUser := ru, rawPassword := rp })

def authBlock (e : Env) (p : Parts) : R (Str × Option NetPre) :=
  if p.netloc.isEmpty then pure (([] : Str), (none : Option NetPre))
  else do
    let np ← authSplit e.o p.netloc
    let host0 ← hostOr p.scheme np.host
    let host1 ← encodeHost e.o host0 false
    -- a bracketed host that is not an IPv6 address keeps the brackets the input had
    eagerOut e np (if mem 91 (rpartition 64 p.netloc).2.2 && !mem 91 host1 then [91] ++ host1 ++ [93] else host1)

def finishUrl (e : Env) (p : Parts) (netloc : Str) (pre : Option NetPre) : Url :=
  let path :=
    if p.path.isEmpty then p.path
    else
      let p1 := q e Gen.PATH_REQUOTER p.path
      if !netloc.isEmpty && mem 46 p1 then normalizePath p1 else p1
  let query := if p.query.isEmpty then p.query else q e Gen.QUERY_REQUOTER p.query
  let fragment := if p.fragment.isEmpty then p.fragment else q e Gen.FRAGMENT_REQUOTER p.fragment
  { scheme := p.scheme, netloc := netloc, path := path, query := query, fragment := fragment, pre := pre }

theorem encodeUrl_eq (e : Env) (s : Str) :
    encodeUrl e s = (splitUrl e.o s >>= fun p => authBlock e p >>= fun np => pure (finishUrl e p np.1 np.2)) := by
  rfl

/-! ### what `split_netloc` returns -/

theorem orNone_some {x h : Str} (hx : orNone x = some h) : h = x ∧ h ≠ [] := by
  unfold orNone at hx
  split at hx
  · cases hx
  · rename_i hne
    cases hx
    exact ⟨rfl, by intro h0; subst h0; simp at hne⟩

/-- `split_netloc` never returns an empty user or an empty host, and the host has no '@' -/
theorem splitNetloc_shape (o : Oracles) (n : Str) (np : NetlocParts) (h : splitNetloc o n = .ok np) :
    np.user ≠ some [] ∧ (∀ h0, np.host = some h0 → h0 ≠ [] ∧ 64 ∉ h0) := by
  refine ⟨?_, fun h0 hh => ?_⟩
  · obtain ⟨pt, _, rfl⟩ := NetlocLemmas.splitNetloc_ok_iff.1 h
    cases (NetlocLemmas.userSplit n).1 with
    | none => simp
    | some x =>
      intro hx
      exact (orNone_some hx).2 rfl
  · obtain ⟨h1, h2, _⟩ := StrTotal.splitNetloc_host_facts o n np h0 h hh
    exact ⟨h1, h2⟩

theorem authSplit_eq (o : Oracles) (n : Str) (hne : n ≠ []) : authSplit o n = splitNetloc o n := by
  unfold authSplit
  split
  · rfl
  · rename_i hc
    simp only [Bool.or_eq_true, not_or, Bool.not_eq_true] at hc
    rw [NetlocLemmas.splitNetloc_noDelims o hne (mem_false_iff.mp hc.1.1) (mem_false_iff.mp hc.1.2)
      (mem_false_iff.mp hc.2)]
    rfl

/-! ### the eager data against the stored netloc -/

/-- both branches of the cache fill, uniformly -/
theorem eagerOut_eq (e : Env) (np : NetlocParts) (host : Str) :
    eagerOut e np host = .ok
      (makeNetloc (q e Gen.QUOTER) (cachedUser e np.user) (requoteOpt e np.password) (some host) np.port false,
       some { rawHost := some (unbracket host), explicitPort := np.port,
              rawUser := cachedUser e np.user, rawPassword := requoteOpt e np.password }) := by
  unfold eagerOut unbracket
  dsimp only
  split
  · rename_i hc
    have h1 : np.password = none := by
      cases h : np.password with
      | none => rfl
      | some x => rw [h] at hc; simp at hc
    have h2 : np.user = none := by
      cases h : np.user with
      | none => rfl
      | some x => rw [h] at hc; simp at hc
    rw [h1, h2]
    cases np.port <;> rfl
  · rfl

theorem userOK_requote (e : Env) (u : Option Str) (hne : u ≠ some [])
    (hu : ∀ s, u = some s → PyStr s ∧ q e Gen.REQUOTER s ≠ []) : UserOK (requoteOpt e u) := by
  intro t ht
  cases u with
  | none => cases ht
  | some s =>
    have hs : s.isEmpty = false := isEmpty_false (fun h => hne (by rw [h]))
    simp only [requoteOpt, Option.map_some, hs, Bool.false_eq_true, ↓reduceIte, Option.some.injEq] at ht
    subst ht
    exact ⟨(hu s rfl).2, (requoter_no_delims e s (hu s rfl).1).1⟩

/-- what the filter keeps -/
theorem cachedUser_some {e : Env} {u : Option Str} {t : Str} :
    cachedUser e u = some t ↔ ∃ s, u = some s ∧ s ≠ [] ∧ t = q e Gen.REQUOTER s ∧ t ≠ [] := by
  unfold cachedUser requoteOpt
  cases u with
  | none => simp
  | some s =>
    cases s with
    | nil => simp
    | cons c r =>
      simp only [Option.map_some, List.isEmpty_cons, Bool.false_eq_true, ↓reduceIte, Option.bind_some,
        Option.some.injEq, ne_eq, reduceCtorEq, not_false_eq_true, true_and, exists_eq_left']
      cases hq : q e Gen.REQUOTER (c :: r) with
      | nil =>
        simp only [List.isEmpty_nil, ↓reduceIte, reduceCtorEq, false_iff, not_and, Decidable.not_not]
        intro h; exact h
      | cons d r' =>
        simp only [List.isEmpty_cons, Bool.false_eq_true, ↓reduceIte, Option.some.injEq]
        constructor
        · intro h; subst h; exact ⟨rfl, by simp⟩
        · intro h; exact h.1.symm

theorem cachedUser_none {e : Env} {u : Option Str} :
    cachedUser e u = none ↔ u = none ∨ u = some [] ∨ ∃ s, u = some s ∧ q e Gen.REQUOTER s = [] := by
  unfold cachedUser requoteOpt
  cases u with
  | none => simp
  | some s =>
    cases s with
    | nil => simp
    | cons c r =>
      cases hq : q e Gen.REQUOTER (c :: r) <;> simp [hq]

/-- the cached user is never "" -/
theorem cachedUser_ne_nil (e : Env) (u : Option Str) : cachedUser e u ≠ some [] := by
  intro h
  obtain ⟨_, _, _, _, h'⟩ := cachedUser_some.mp h
  exact h' rfl

/-- where the requoted user is not "", the filter changes nothing -/
theorem cachedUser_eq_requoteOpt (e : Env) (u : Option Str) (hne : u ≠ some [])
    (hu : ∀ s, u = some s → q e Gen.REQUOTER s ≠ []) : cachedUser e u = requoteOpt e u := by
  unfold cachedUser requoteOpt
  cases u with
  | none => rfl
  | some s =>
    cases s with
    | nil => exact absurd rfl hne
    | cons c r =>
      have := hu _ rfl
      cases hq : q e Gen.REQUOTER (c :: r) with
      | nil => exact absurd hq this
      | cons d r' => simp [hq]

/-- the cached user can always be written into a netloc and read back — no condition on the user
    beyond being a Python string (`cachedUser` is never `some ""`: `cachedUser_ne_nil`) -/
theorem userOK_cached (e : Env) (u : Option Str) (hu : ∀ s, u = some s → PyStr s) : UserOK (cachedUser e u) := by
  intro t ht
  obtain ⟨s, hs, _, rfl, hne⟩ := cachedUser_some.mp ht
  exact ⟨hne, (requoter_no_delims e s (hu s hs)).1⟩

theorem lazyNet_of_split (e : Env) (u : Url) (p : NetPre) (hopt : Option Str)
    (hh : p.rawHost = match hopt with
      | none => if u.netloc.isEmpty then none else some []
      | some h => some h)
    (hs : splitNetloc e.o u.netloc =
      .ok { user := p.rawUser, password := p.rawPassword, host := hopt, port := p.explicitPort }) :
    lazyNet e u = .ok p := by
  unfold lazyNet
  rw [hs]
  simp only [bind, Except.bind, pure, Except.pure]
  obtain ⟨rh, ep, ru, rp⟩ := p
  simp only at hh
  subst hh
  cases hopt <;> rfl

theorem encodeHost_nil (o : Oracles) : encodeHost o [] false = .ok [] := rfl

theorem makeNetloc_nil_host_ne_nil (qf : Str → Str) (ru rp : Option Str) (port : Option Nat) (hu : UserOK ru)
    (h : ru ≠ none ∨ rp ≠ none ∨ port ≠ none) : makeNetloc qf ru rp (some []) port false ≠ [] := by
  rw [NetlocLemmas.makeNetloc_eq]
  cases rp with
  | some pw => cases ru <;> simp
  | none =>
    cases ru with
    | some u =>
      have := (hu u rfl).1
      simp [isEmpty_false this]
    | none =>
      cases port with
      | none => simp at h
      | some pt => simp [NetlocLemmas.hostPortStr]

/-- a successful `encode_url` is `finishUrl` of the split input and of what `authBlock` returns -/
theorem encodeUrl_ok {e : Env} {s : Str} {u : Url} (h : encodeUrl e s = .ok u) :
    ∃ pt nl pre, splitUrl e.o s = .ok pt ∧ authBlock e pt = .ok (nl, pre) ∧ u = finishUrl e pt nl pre := by
  rw [encodeUrl_eq] at h
  obtain ⟨pt, hpt, h⟩ := bind_ok h
  obtain ⟨⟨nl, pre⟩, hab, h⟩ := bind_ok h
  exact ⟨pt, nl, pre, hpt, hab, (Except.ok.inj h).symm⟩

/-- the authority block for a non-empty authority, stage by stage (the fast path of the split is `split_netloc`) -/
theorem authBlock_eq (e : Env) (pt : Parts) (hne : pt.netloc ≠ []) :
    authBlock e pt =
      (splitNetloc e.o pt.netloc >>= fun np => hostOr pt.scheme np.host >>= fun host0 =>
        encodeHost e.o host0 false >>= fun host1 =>
          eagerOut e np (StrTotal.rebracket (mem 91 (rpartition 64 pt.netloc).2.2) host1)) := by
  unfold authBlock
  rw [if_neg (fun h => hne (List.isEmpty_iff.mp h)), authSplit_eq _ _ hne]
  rfl

/-- what `authBlock` returns: nothing for an empty authority; otherwise the authority splits into `np`, its host
    (or "" where the scheme allows) encodes to `host1`, and the stored text and the cache are written from `np`
    and the re-bracketed `host1` -/
theorem authBlock_ok {e : Env} {pt : Parts} {nl : Str} {pre : Option NetPre} (hb : authBlock e pt = .ok (nl, pre)) :
    (pt.netloc = [] ∧ nl = [] ∧ pre = none) ∨
    (pt.netloc ≠ [] ∧ ∃ np host0 host1, splitNetloc e.o pt.netloc = .ok np ∧
      hostOr pt.scheme np.host = .ok host0 ∧ encodeHost e.o host0 false = .ok host1 ∧
      nl = makeNetloc (q e Gen.QUOTER) (cachedUser e np.user) (requoteOpt e np.password)
        (some (StrTotal.rebracket (mem 91 (rpartition 64 pt.netloc).2.2) host1)) np.port false ∧
      pre = some { rawHost := some (unbracket (StrTotal.rebracket (mem 91 (rpartition 64 pt.netloc).2.2) host1)),
                   explicitPort := np.port, rawUser := cachedUser e np.user,
                   rawPassword := requoteOpt e np.password }) := by
  by_cases hne : pt.netloc = []
  · unfold authBlock at hb
    rw [if_pos (by rw [hne]; rfl)] at hb
    cases hb
    exact Or.inl ⟨hne, rfl, rfl⟩
  · rw [authBlock_eq e pt hne] at hb
    obtain ⟨np, hsp, hb⟩ := bind_ok hb
    obtain ⟨host0, hho, hb⟩ := bind_ok hb
    obtain ⟨host1, henc, hb⟩ := bind_ok hb
    rw [eagerOut_eq] at hb
    cases hb
    exact Or.inr ⟨hne, np, host0, host1, hsp, hho, henc, rfl, rfl⟩

/-- … and forwards -/
theorem authBlock_of {e : Env} {pt : Parts} {np : NetlocParts} {host0 host1 : Str} (hne : pt.netloc ≠ [])
    (hsp : splitNetloc e.o pt.netloc = .ok np) (hho : hostOr pt.scheme np.host = .ok host0)
    (henc : encodeHost e.o host0 false = .ok host1) :
    authBlock e pt = .ok
      (makeNetloc (q e Gen.QUOTER) (cachedUser e np.user) (requoteOpt e np.password)
        (some (StrTotal.rebracket (mem 91 (rpartition 64 pt.netloc).2.2) host1)) np.port false,
       some { rawHost := some (unbracket (StrTotal.rebracket (mem 91 (rpartition 64 pt.netloc).2.2) host1)),
              explicitPort := np.port, rawUser := cachedUser e np.user, rawPassword := requoteOpt e np.password }) := by
  rw [authBlock_eq e pt hne, hsp]
  simp only [bind, Except.bind, hho, henc]
  exact eagerOut_eq e np _

theorem hostOr_none {scheme host0 : Str} (h : hostOr scheme none = .ok host0) : host0 = [] := by
  unfold hostOr at h
  exact (Except.ok.inj (ite_err_ok h).2).symm

/-- what `encode_url` caches is what `split_netloc` reads from the stored netloc -/
theorem authBlock_lazy (e : Env) (pt : Parts) (netloc : Str) (p : NetPre)
    (hb : authBlock e pt = .ok (netloc, some p))
    (hg : ∀ np, splitNetloc e.o pt.netloc = .ok np → GoodNp e np)
    (u : Url) (hu : u.netloc = netloc) : lazyNet e u = .ok p := by
  rcases authBlock_ok hb with ⟨_, _, h⟩ | ⟨hne', np, host0, host1, hsp, hho, henc, hnl, hp⟩
  · cases h
  cases hp
  obtain ⟨hgu, hgh⟩ := hg np hsp
  obtain ⟨hune, hhost⟩ := splitNetloc_shape _ _ _ hsp
  have hport := fun p => NetlocLemmas.splitNetloc_port_range e.o _ np p hsp
  have hUser : UserOK (cachedUser e np.user) := userOK_cached e np.user hgu
  -- the written host text reads back as the cached raw host
  have hreads : ∃ rh, Reads (StrTotal.rebracket (mem 91 (rpartition 64 pt.netloc).2.2) host1) rh ∧
      (rh = [] → netloc ≠ []) := by
    cases hnh : np.host with
    | some h0 =>
      rw [hnh] at hgh hho
      simp only [hostOr, pure, Except.pure, Except.ok.injEq] at hho
      subst hho
      obtain ⟨rh, hrne, hr⟩ := host_reads e.o pt.netloc np h0 host1 hsp hnh hgh henc
      exact ⟨rh, hr, fun h => absurd h hrne⟩
    | none =>
      rw [hnh] at hgh hho
      cases hostOr_none hho
      rw [encodeHost_nil] at henc
      cases henc
      refine ⟨[], nil_reads _, fun _ => ?_⟩
      rw [hnl]
      cases hbk : mem 91 (rpartition 64 pt.netloc).2.2 with
      | true =>
        apply makeNetloc_ne_nil_written
        simp [StrTotal.rebracket, mem]
      | false =>
        have : StrTotal.rebracket false [] = [] := by simp [StrTotal.rebracket]
        rw [this]
        apply makeNetloc_nil_host_ne_nil _ _ _ _ hUser
        rcases hgh with ⟨x, hx, hq⟩ | h | h
        · left
          have hxne : x ≠ [] := fun h0 => hune (by rw [hx, h0])
          have : cachedUser e np.user = some (q e Gen.REQUOTER x) :=
            cachedUser_some.mpr ⟨x, hx, hxne, rfl, hq⟩
          rw [this]; simp
        · right; left; cases hh : np.password with
          | none => exact absurd hh h
          | some x => simp [requoteOpt]
        · right; right; exact h
  obtain ⟨rh, hr, hnn⟩ := hreads
  apply lazyNet_of_split e u _ (orNone rh)
  · simp only [hr.unbr]
    cases rh with
    | nil => simp [orNone, hu, isEmpty_false (hnn rfl)]
    | cons _ _ => rfl
  · rw [hu, hnl]
    exact roundtrip_reads e.o _ _ _ _ rh np.port hUser hr (fun p hp => hport p hp)
end EagerLemmas
end Yarl
