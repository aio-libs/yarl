/-
  MultiCacheLemmas.lean — the invariant of the machine with several caches (YarlModel/CacheMulti.lean), proved ONCE,
  for the thread machine, and handed to the sequential machine.

  `WOK` / `Coherent`      : every memo entry, every table entry of every generation of every cache and every
                            derivation-memo entry is what the pure semantics computes; handles denote the spec's values;
  `wok_*`                 : each kind of write to the world keeps `WOK` (allocate + publish, memo store, copy, clear,
                            rebind, derivation-memo store);
  `PendOK` / `ThreadOK`   : what a thread has done and what it is in the middle of agree with the specification;
  `tstep_threadOK`        : one atomic step of a thread keeps all of it;
  `Runs` / `runs_step`    : `step` is what ONE thread does, by atomic steps of its own, from taking up an operation to
                            completing it — plain computation, no invariant.  So whatever `tstep` preserves
                            (`runs_threadOK`) `step` preserves: C08Multi.lean takes the sequential statements from here,
                            C20Multi.lean the threaded ones.

  The one-cache machine of YarlModel/Cache.lean (C08.lean, C20.lean) is a separate, smaller development: `Sem.flat`,
  through which `MemoOK` / `TableOK` of Lemmas/CacheLemmas.lean are reused here, is the only link.
-/
import YarlModel
import YarlModel.CacheMulti
import YarlProofs.Lemmas.CacheLemmas
namespace Yarl.MultiCache
open Yarl.Cache (Obj Policy lookup memoGet setMemo insertTable)
open Yarl.CacheLemmas

variable {I Key Mod Err Parts Val : Type}

/-! ### invariants -/

/-- the multi-cache semantics seen as a single-cache semantics (to reuse `MemoOK` / `TableOK`) -/
def Sem.flat (sem : Sem I Key Mod Err Parts Val) : Cache.Sem Key Parts Val :=
  { construct := fun k => (sem.construct k).toOption, derive := sem.attr, prefill := sem.prefill }

/-- what a constructor pre-computes is what the accessor (or `hash`) would compute — property C09 -/
def PrefillOK (sem : Sem I Key Mod Err Parts Val) : Prop :=
  ∀ k p, sem.construct k = .ok p → ∀ nv ∈ sem.prefill k p, nv.2 = sem.attr p nv.1

/-- two derivations memoised under the same property name are the same function -/
def MemoNamesOK (sem : Sem I Key Mod Err Parts Val) : Prop :=
  ∀ m m' n, sem.memoName m = some n → sem.memoName m' = some n → ∀ p, sem.modVal m p [] = sem.modVal m' p []

/-- a derivation-memo entry: both objects live, the result object has the parts the derivation yields -/
def DEntryOK (sem : Sem I Key Mod Err Parts Val) (heap : List (Obj Parts Val)) (s : Nat × String) (rid : Nat) : Prop :=
  ∃ o r, heap[s.1]? = some o ∧ heap[rid]? = some r ∧
    ∀ m, sem.memoName m = some s.2 → sem.modVal m o.parts [] = .ok r.parts

/-- world invariant: memo entries are correct, EVERY table of EVERY generation of EVERY cache points to live
    objects with the constructor's parts, derivation-memo entries are correct -/
structure WOK (sem : Sem I Key Mod Err Parts Val) (w : World I Key Parts Val) : Prop where
  memo : MemoOK sem.flat w.heap
  tables : ∀ i g, TableOK sem.flat w.heap (w.tables i g)
  dmemo : ∀ e ∈ w.dmemo, DEntryOK sem w.heap e.1 e.2

/-- coherence of a world with the implementation's and the specification's handle lists -/
def Coherent (sem : Sem I Key Mod Err Parts Val) (w : World I Key Parts Val) (hs : List (Option Nat))
    (shs : List (Option Parts)) : Prop :=
  WOK sem w ∧ HandlesOK w.heap hs shs

theorem dentryOK_ext {sem : Sem I Key Mod Err Parts Val} {h h' : List (Obj Parts Val)} (he : HeapExt h h')
    {s : Nat × String} {rid : Nat} (hd : DEntryOK sem h s rid) : DEntryOK sem h' s rid := by
  obtain ⟨o, r, ho, hr, hm⟩ := hd
  obtain ⟨o', ho', hpo⟩ := he _ _ ho
  obtain ⟨r', hr', hpr⟩ := he _ _ hr
  exact ⟨o', r', ho', hr', fun m hmn => by rw [hpo, hpr]; exact hm m hmn⟩

theorem WOK.ext_heap {sem : Sem I Key Mod Err Parts Val} {w : World I Key Parts Val} {heap' : List (Obj Parts Val)}
    (hw : WOK sem w) (he : HeapExt w.heap heap') (hm : MemoOK sem.flat heap') :
    WOK sem { w with heap := heap' } :=
  ⟨hm, fun i g => tableOK_ext he (hw.tables i g), fun e he' => dentryOK_ext he (hw.dmemo e he')⟩

theorem wok_init (sem : Sem I Key Mod Err Parts Val) (caps : I → Nat → Option Nat) (gen : I → Nat) :
    WOK sem ({ caps := caps, gen := gen } : World I Key Parts Val) :=
  ⟨memoOK_nil _, fun _ _ => tableOK_nil _ _, fun e he => by cases he⟩

theorem wok_alloc [DecidableEq I] {sem : Sem I Key Mod Err Parts Val} (hp : PrefillOK sem) (pol : I → Policy Key)
    {w : World I Key Parts Val} (hw : WOK sem w) {k : Key} (g : Nat) {p : Parts} (hk : sem.construct k = .ok p) :
    WOK sem (alloc sem pol w k g p).1 ∧ HeapExt w.heap (alloc sem pol w k g p).1.heap ∧
    (alloc sem pol w k g p).1.heap[(alloc sem pol w k g p).2]? = some { parts := p, memo := sem.prefill k p } := by
  have he : HeapExt w.heap (w.heap ++ [{ parts := p, memo := sem.prefill k p }]) := heapExt_append _ _
  have hkf : sem.flat.construct k = some p := by simp [Sem.flat, hk, Except.toOption]
  refine ⟨⟨memoOK_snoc hw.memo (hp k p hk), ?_, fun e he' => dentryOK_ext he (hw.dmemo e he')⟩, he, List.getElem?_concat_length⟩
  intro j g'
  show TableOK sem.flat _ (updTable w.tables (sem.cacheOf k) g _ j g')
  unfold updTable
  split
  · exact tableOK_insert _ _ (tableOK_ext he (hw.tables _ _)) ⟨_, List.getElem?_concat_length, hkf⟩
  · exact tableOK_ext he (hw.tables j g')

theorem wok_setMemo {sem : Sem I Key Mod Err Parts Val} {w : World I Key Parts Val} (hw : WOK sem w)
    {id : Nat} {n : String} {v : Val} (hv : ∀ o, w.heap[id]? = some o → v = sem.attr o.parts n) :
    WOK sem { w with heap := setMemo w.heap id n v } ∧ HeapExt w.heap (setMemo w.heap id n v) :=
  ⟨hw.ext_heap (heapExt_setMemo _ _ _ _) (memoOK_setMemo hw.memo hv), heapExt_setMemo _ _ _ _⟩

theorem wok_twin {sem : Sem I Key Mod Err Parts Val} {w : World I Key Parts Val} (hw : WOK sem w) (p : Parts) :
    WOK sem { w with heap := w.heap ++ [{ parts := p, memo := [] }] } ∧
    HeapExt w.heap (w.heap ++ [({ parts := p, memo := [] } : Obj Parts Val)]) ∧
    (w.heap ++ [({ parts := p, memo := [] } : Obj Parts Val)])[w.heap.length]? = some { parts := p, memo := [] } :=
  ⟨hw.ext_heap (heapExt_append _ _) (memoOK_snoc hw.memo (fun nv hnv => by cases hnv)), heapExt_append _ _, by simp⟩

theorem wok_clear [DecidableEq I] {sem : Sem I Key Mod Err Parts Val} {w : World I Key Parts Val} (hw : WOK sem w)
    (i : I) (g : Nat) :
    WOK sem { w with tables := updTable w.tables i g [] } := by
  refine ⟨hw.memo, ?_, hw.dmemo⟩
  intro j g'
  show TableOK sem.flat _ (updTable w.tables i g [] j g')
  unfold updTable
  split
  · exact tableOK_nil _ _
  · exact hw.tables j g'

theorem wok_reconfigure [DecidableEq I] {sem : Sem I Key Mod Err Parts Val} {w : World I Key Parts Val}
    (hw : WOK sem w) (i : I) (c : Option Nat) : WOK sem (reconfigure w i c) := by
  refine ⟨hw.memo, ?_, hw.dmemo⟩
  intro j g'
  show TableOK sem.flat _ (updTable w.tables i (w.gen i + 1) [] j g')
  unfold updTable
  split
  · exact tableOK_nil _ _
  · exact hw.tables j g'

theorem wok_dstore {sem : Sem I Key Mod Err Parts Val} {w : World I Key Parts Val} (hw : WOK sem w)
    {s : Nat × String} {rid : Nat} (hd : DEntryOK sem w.heap s rid) :
    WOK sem { w with dmemo := (s, rid) :: w.dmemo } := by
  refine ⟨hw.memo, hw.tables, ?_⟩
  intro e he
  rcases List.mem_cons.mp he with rfl | he
  · exact hd
  · exact hw.dmemo e he

/-! ### handles -/

theorem objOf_some {w : World I Key Parts Val} {hs : List (Option Nat)} {shs : List (Option Parts)}
    (hh : HandlesOK w.heap hs shs) {h id : Nat} {o : Obj Parts Val} (ho : objOf w hs h = some (id, o)) :
    hs[h]? = some (some id) ∧ w.heap[id]? = some o ∧ valOf shs h = some o.parts := by
  unfold objOf at ho
  rcases handlesOK_get hh h with ⟨id', o', h1, h2, h3⟩ | ⟨h1, h2⟩ | ⟨h1, h2⟩
  · rw [h1] at ho
    simp only [h2, Option.map_some, Option.some.injEq, Prod.mk.injEq] at ho
    obtain ⟨rfl, rfl⟩ := ho
    exact ⟨h1, h2, by simp only [valOf, h3]⟩
  · rw [h1] at ho; cases ho
  · rw [h1] at ho; cases ho

theorem objOf_none {w : World I Key Parts Val} {hs : List (Option Nat)} {shs : List (Option Parts)}
    (hh : HandlesOK w.heap hs shs) {h : Nat} (ho : objOf w hs h = none) : valOf shs h = none := by
  unfold objOf at ho
  rcases handlesOK_get hh h with ⟨id', o', h1, h2, h3⟩ | ⟨h1, h2⟩ | ⟨h1, h2⟩
  · rw [h1] at ho
    simp [h2] at ho
  · simp only [valOf, h2]
  · simp only [valOf, h2]

theorem objsOf_some {w : World I Key Parts Val} {hs : List (Option Nat)} {shs : List (Option Parts)}
    (hh : HandlesOK w.heap hs shs) {l : List Nat} {xs : List (Nat × Obj Parts Val)} (ho : objsOf w hs l = some xs) :
    valsOf shs l = some (xs.map (·.2.parts)) ∧ ∀ x ∈ xs, w.heap[x.1]? = some x.2 := by
  induction l generalizing xs with
  | nil =>
    simp only [objsOf, Option.some.injEq] at ho
    subst ho
    exact ⟨rfl, fun x hx => by cases hx⟩
  | cons h t ih =>
    simp only [objsOf] at ho
    cases h1 : objOf w hs h with
    | none => rw [h1] at ho; cases ho
    | some x =>
      cases h2 : objsOf w hs t with
      | none => rw [h1, h2] at ho; cases ho
      | some ys =>
        rw [h1, h2] at ho
        simp only [Option.some.injEq] at ho
        subst ho
        obtain ⟨id, o⟩ := x
        obtain ⟨_, hb, hc⟩ := objOf_some hh h1
        obtain ⟨hd, he⟩ := ih h2
        refine ⟨by simp only [valsOf, hc, hd, List.map_cons], ?_⟩
        intro y hy
        rcases List.mem_cons.mp hy with rfl | hy
        · exact hb
        · exact he y hy

theorem objsOf_none {w : World I Key Parts Val} {hs : List (Option Nat)} {shs : List (Option Parts)}
    (hh : HandlesOK w.heap hs shs) {l : List Nat} (ho : objsOf w hs l = none) : valsOf shs l = none := by
  induction l with
  | nil => simp [objsOf] at ho
  | cons h t ih =>
    simp only [objsOf] at ho
    cases h1 : objOf w hs h with
    | none => simp only [valsOf, objOf_none hh h1]
    | some x =>
      cases h2 : objsOf w hs t with
      | none =>
        simp only [valsOf, ih h2]
        split <;> simp_all
      | some ys => rw [h1, h2] at ho; cases ho

/-- the argument object a derivation returns (`return self`): it is live and has the spec's parts -/
theorem same_ok {heap : List (Obj Parts Val)} {id : Nat} {o : Obj Parts Val} {xs : List (Nat × Obj Parts Val)}
    (ho : heap[id]? = some o) (hxs : ∀ x ∈ xs, heap[x.1]? = some x.2) (j : Nat) :
    heap[(((id, o) :: xs).getD j (id, o)).1]? = some (((id, o) :: xs).getD j (id, o)).2 ∧
    (((id, o) :: xs).getD j (id, o)).2.parts = (o.parts :: xs.map (·.2.parts)).getD j o.parts := by
  have hall : ∀ x ∈ (id, o) :: xs, heap[x.1]? = some x.2 := by
    intro x hx
    rcases List.mem_cons.mp hx with rfl | hx
    · exact ho
    · exact hxs x hx
  have hmap : (o.parts :: xs.map (·.2.parts)) = ((id, o) :: xs).map (·.2.parts) := rfl
  rw [hmap]
  generalize (id, o) :: xs = l at hall
  rw [List.getD_eq_getElem?_getD, List.getD_eq_getElem?_getD, List.getElem?_map]
  cases hl : l[j]? with
  | none => exact ⟨ho, rfl⟩
  | some x => exact ⟨hall x (List.mem_of_getElem? hl), rfl⟩

/-! ### what the model's small functions return -/

theorem slotOf_some {sem : Sem I Key Mod Err Parts Val} {m : Mod} {args : List Nat} {id : Nat} {s : Nat × String}
    (h : slotOf sem m args id = some s) : sem.memoName m = some s.2 ∧ args = [] ∧ s.1 = id := by
  unfold slotOf at h
  split at h
  · rename_i n hn
    cases h
    exact ⟨hn, rfl, rfl⟩
  · cases h

theorem toOption_eq_some {x : Except Err Parts} {p : Parts} (h : x.toOption = some p) : x = .ok p := by
  cases x with
  | error e => cases h
  | ok q => cases h; rfl

theorem hrel_err {heap : List (Obj Parts Val)} (e : Err) :
    HRel heap none (Except.toOption (Except.error e : Except Err Parts)) := trivial

theorem dstore_heap (w : World I Key Parts Val) (slot : Option (Nat × String)) (rid : Nat) :
    (dstore w slot rid).heap = w.heap := by
  cases slot <;> rfl

theorem dstore_tables (w : World I Key Parts Val) (slot : Option (Nat × String)) (rid : Nat) :
    (dstore w slot rid).tables = w.tables := by
  cases slot <;> rfl

theorem attr_of_ne (sem : Sem I Key Mod Err Parts Val) (p : Parts) {n : String} (h : ¬ n = hashKey) :
    sem.attr p n = sem.derive p n := by
  simp only [Sem.attr, h, if_false]

theorem attr_hash (sem : Sem I Key Mod Err Parts Val) (p : Parts) : sem.attr p hashKey = sem.hash p := by
  simp only [Sem.attr, if_true]

/-! ### runs -/

theorem run_length [DecidableEq I] [DecidableEq Key] (sem : Sem I Key Mod Err Parts Val) (pol : I → Policy Key)
    (ops : List (Op I Key Mod)) :
    ∀ (w : World I Key Parts Val) (hs : List (Option Nat)), (run sem pol w hs ops).length = ops.length := by
  induction ops with
  | nil => intro w hs; rfl
  | cons op ops ih => intro w hs; simp only [run, List.length_cons, ih]

theorem specRun_append (sem : Sem I Key Mod Err Parts Val) (shs : List (Option Parts)) (a b : List (Op I Key Mod)) :
    specRun sem shs (a ++ b) = specRun sem shs a ++ specRun sem (specHandles sem shs a) b := by
  induction a generalizing shs with
  | nil => rfl
  | cons op a ih => simp only [List.cons_append, specRun, specHandles, ih]

theorem specHandles_append (sem : Sem I Key Mod Err Parts Val) (shs : List (Option Parts)) (a b : List (Op I Key Mod)) :
    specHandles sem shs (a ++ b) = specHandles sem (specHandles sem shs a) b := by
  induction a generalizing shs with
  | nil => rfl
  | cons op a ih => simp only [List.cons_append, specHandles, ih]

/-! ### the per-thread invariant -/

/-- a pending derivation-memo slot belongs to the memoised derivation the thread is executing -/
def SlotOK (sem : Sem I Key Mod Err Parts Val) (hs : List (Option Nat)) (slot : Option (Nat × String))
    (op : Op I Key Mod) : Prop :=
  ∀ s, slot = some s → ∃ h m, op = .mod h m [] ∧ sem.memoName m = some s.2 ∧ hs[h]? = some (some s.1)

/-- what a thread in the middle of an operation must satisfy (`shs` = the spec's handle values after the
    operations the thread has completed): whatever it has computed so far is what the specification says the
    current operation yields -/
def PendOK (sem : Sem I Key Mod Err Parts Val) (heap : List (Obj Parts Val)) (shs : List (Option Parts))
    (t : Thread I Key Mod Err Parts Val) : Prop :=
  match t.pend with
  | .idle => True
  | .modRun s => ∃ h m rest, t.prog = .mod h m [] :: rest ∧ sem.memoName m = some s.2 ∧ t.hs[h]? = some (some s.1)
  | .fetched k _ slot => ∃ op rest, t.prog = op :: rest ∧
      specStep sem shs op = (shs ++ [(sem.construct k).toOption], .handle (sem.construct k)) ∧ SlotOK sem t.hs slot op
  | .computed k _ r slot => r = sem.construct k ∧ ∃ op rest, t.prog = op :: rest ∧
      specStep sem shs op = (shs ++ [(sem.construct k).toOption], .handle (sem.construct k)) ∧ SlotOK sem t.hs slot op
  | .dstore s rid q => ∃ op rest, t.prog = op :: rest ∧ (∃ r, heap[rid]? = some r ∧ r.parts = q) ∧
      specStep sem shs op = (shs ++ [some q], .handle (.ok q)) ∧ SlotOK sem t.hs (some s) op
  | .readComputed id name v => ∃ op rest, t.prog = op :: rest ∧ (∃ o, heap[id]? = some o ∧ v = sem.attr o.parts name) ∧
      specStep sem shs op = (shs, .value v)
  | .clearFetched i _ => ∃ rest, t.prog = .clear i :: rest

/-- per-thread invariant, relative to the thread's ORIGINAL program `p` and the spec values `spool` of the
    shared pool: the thread has completed a prefix `done` of `p`; its handles denote objects whose parts are
    the spec's handle values after `done`; its outputs are exactly the spec outputs of `done`; its pending
    computation (if any) is correct -/
def ThreadOK (sem : Sem I Key Mod Err Parts Val) (heap : List (Obj Parts Val)) (spool : List (Option Parts))
    (p : List (Op I Key Mod)) (t : Thread I Key Mod Err Parts Val) : Prop :=
  ∃ done, p = done ++ t.prog ∧ HandlesOK heap t.hs (specHandles sem spool done) ∧
    t.outs = specRun sem spool done ∧ PendOK sem heap (specHandles sem spool done) t

/-- the invariant of the threaded world -/
def TCoherent (sem : Sem I Key Mod Err Parts Val) (w : World I Key Parts Val)
    (ts : List (Thread I Key Mod Err Parts Val)) (spool : List (Option Parts))
    (progs : List (List (Op I Key Mod))) : Prop :=
  WOK sem w ∧ ts.length = progs.length ∧
  ∀ (i : Nat) (t : Thread I Key Mod Err Parts Val) (p : List (Op I Key Mod)),
    ts[i]? = some t → progs[i]? = some p → ThreadOK sem w.heap spool p t

theorem pendOK_ext {sem : Sem I Key Mod Err Parts Val} {h h' : List (Obj Parts Val)} (he : HeapExt h h')
    {shs : List (Option Parts)} {t : Thread I Key Mod Err Parts Val} (hp : PendOK sem h shs t) :
    PendOK sem h' shs t := by
  obtain ⟨prog, hs, pend, outs⟩ := t
  cases pend with
  | dstore s rid q =>
    obtain ⟨op, rest, h1, ⟨r, hr1, hr2⟩, h3⟩ := hp
    obtain ⟨r', hr1', hr2'⟩ := he _ _ hr1
    exact ⟨op, rest, h1, ⟨r', hr1', hr2'.trans hr2⟩, h3⟩
  | readComputed id name v =>
    obtain ⟨op, rest, h1, ⟨o, ho1, ho2⟩, h3⟩ := hp
    obtain ⟨o', ho1', ho2'⟩ := he _ _ ho1
    exact ⟨op, rest, h1, ⟨o', ho1', by rw [ho2']; exact ho2⟩, h3⟩
  | _ => exact hp

theorem threadOK_ext {sem : Sem I Key Mod Err Parts Val} {h h' : List (Obj Parts Val)} (he : HeapExt h h')
    {spool : List (Option Parts)} {p : List (Op I Key Mod)} {t : Thread I Key Mod Err Parts Val}
    (ht : ThreadOK sem h spool p t) : ThreadOK sem h' spool p t := by
  obtain ⟨done, h1, h2, h3, h4⟩ := ht
  exact ⟨done, h1, handlesOK_ext he h2, h3, pendOK_ext he h4⟩

theorem specHandles_snoc (sem : Sem I Key Mod Err Parts Val) (shs : List (Option Parts)) (done : List (Op I Key Mod))
    (op : Op I Key Mod) :
    specHandles sem shs (done ++ [op]) = (specStep sem (specHandles sem shs done) op).1 := by
  rw [specHandles_append]; rfl

theorem specRun_snoc (sem : Sem I Key Mod Err Parts Val) (shs : List (Option Parts)) (done : List (Op I Key Mod))
    (op : Op I Key Mod) :
    specRun sem shs (done ++ [op]) = specRun sem shs done ++ [(specStep sem (specHandles sem shs done) op).2] := by
  rw [specRun_append]; rfl

/-- completing an operation that yields a handle -/
theorem threadOK_finishH {sem : Sem I Key Mod Err Parts Val} {heap : List (Obj Parts Val)}
    {spool : List (Option Parts)} {p done rest : List (Op I Key Mod)} {op : Op I Key Mod}
    {t : Thread I Key Mod Err Parts Val} {hid : Option Nat} {out : Out Err Parts Val} {b : Option Parts}
    (hpd : p = done ++ t.prog) (hprog : t.prog = op :: rest)
    (hh : HandlesOK heap t.hs (specHandles sem spool done)) (ho : t.outs = specRun sem spool done)
    (hs : specStep sem (specHandles sem spool done) op = (specHandles sem spool done ++ [b], out))
    (hr : HRel heap hid b) : ThreadOK sem heap spool p (t.finishH hid out) := by
  refine ⟨done ++ [op], ?_, ?_, ?_, trivial⟩
  · simp [Thread.finishH, hpd, hprog]
  · rw [specHandles_snoc, hs]; exact handlesOK_snoc hh hr
  · rw [specRun_snoc, hs]; simp [Thread.finishH, ho]

/-- completing an operation that yields no handle -/
theorem threadOK_finishV {sem : Sem I Key Mod Err Parts Val} {heap : List (Obj Parts Val)}
    {spool : List (Option Parts)} {p done rest : List (Op I Key Mod)} {op : Op I Key Mod}
    {t : Thread I Key Mod Err Parts Val} {out : Out Err Parts Val}
    (hpd : p = done ++ t.prog) (hprog : t.prog = op :: rest)
    (hh : HandlesOK heap t.hs (specHandles sem spool done)) (ho : t.outs = specRun sem spool done)
    (hs : specStep sem (specHandles sem spool done) op = (specHandles sem spool done, out)) :
    ThreadOK sem heap spool p (t.finishV out) := by
  refine ⟨done ++ [op], ?_, ?_, ?_, trivial⟩
  · simp [Thread.finishV, hpd, hprog]
  · rw [specHandles_snoc, hs]; exact hh
  · rw [specRun_snoc, hs]; simp [Thread.finishV, ho]

/-- a handle-producing operation has its result object -/
theorem threadOK_deliver {sem : Sem I Key Mod Err Parts Val} {heap : List (Obj Parts Val)}
    {spool : List (Option Parts)} {p done rest : List (Op I Key Mod)} {op : Op I Key Mod}
    {t : Thread I Key Mod Err Parts Val} {slot : Option (Nat × String)} {rid : Nat} {q : Parts}
    (hpd : p = done ++ t.prog) (hprog : t.prog = op :: rest)
    (hh : HandlesOK heap t.hs (specHandles sem spool done)) (ho : t.outs = specRun sem spool done)
    (hs : specStep sem (specHandles sem spool done) op = (specHandles sem spool done ++ [some q], .handle (.ok q)))
    (hr : ∃ r, heap[rid]? = some r ∧ r.parts = q) (hsl : SlotOK sem t.hs slot op) :
    ThreadOK sem heap spool p (t.deliver slot rid q) := by
  cases slot with
  | none => exact threadOK_finishH hpd hprog hh ho hs hr
  | some s => exact ⟨done, hpd, hh, ho, op, rest, hprog, hr, hs, hsl⟩

theorem slotOK_none (sem : Sem I Key Mod Err Parts Val) (hs : List (Option Nat)) (op : Op I Key Mod) :
    SlotOK sem hs none op := by
  intro s h; cases h

/-- the body of a derivation (one atomic step; the world is only read) -/
theorem modBody_ok {sem : Sem I Key Mod Err Parts Val} {w : World I Key Parts Val} {spool : List (Option Parts)}
    {p done rest : List (Op I Key Mod)} {t : Thread I Key Mod Err Parts Val} {h : Nat} {m : Mod} {args : List Nat}
    {slot : Option (Nat × String)}
    (hpd : p = done ++ t.prog) (hprog : t.prog = .mod h m args :: rest)
    (hh : HandlesOK w.heap t.hs (specHandles sem spool done)) (ho : t.outs = specRun sem spool done)
    (hsl : SlotOK sem t.hs slot (.mod h m args)) :
    ThreadOK sem w.heap spool p (modBody sem w t h m args slot) := by
  unfold modBody
  cases h1 : objOf w t.hs h with
  | none =>
    simp only
    refine threadOK_finishH (b := none) hpd hprog hh ho ?_ trivial
    simp only [specStep, objOf_none hh h1]
  | some x =>
    obtain ⟨id, o⟩ := x
    obtain ⟨ha, hb, hc⟩ := objOf_some hh h1
    cases h2 : objsOf w t.hs args with
    | none =>
      simp only
      refine threadOK_finishH (b := none) hpd hprog hh ho ?_ trivial
      simp only [specStep, hc, objsOf_none hh h2]
    | some xs =>
      obtain ⟨hd, he⟩ := objsOf_some hh h2
      simp only
      cases h4 : sem.modify m o.parts (xs.map (·.2.parts)) with
      | raise e =>
        have hv : sem.modVal m o.parts (xs.map (·.2.parts)) = .error e := by simp only [Sem.modVal, h4]
        simp only
        refine threadOK_finishH hpd hprog hh ho ?_ (hrel_err e)
        simp only [specStep, hc, hd, hv]
      | same j =>
        obtain ⟨hs1, hs2⟩ := same_ok hb he j
        have hv : sem.modVal m o.parts (xs.map (·.2.parts)) = .ok (((id, o) :: xs).getD j (id, o)).2.parts := by
          simp only [Sem.modVal, h4, hs2]
        simp only
        refine threadOK_deliver hpd hprog hh ho ?_ ⟨_, hs1, rfl⟩ hsl
        simp only [specStep, hc, hd, hv]
        rfl
      | via k =>
        have hv : sem.modVal m o.parts (xs.map (·.2.parts)) = sem.construct k := by simp only [Sem.modVal, h4]
        simp only
        refine ⟨done, hpd, hh, ho, .mod h m args, rest, hprog, ?_, hsl⟩
        simp only [specStep, hc, hd, hv]

/-! ### one atomic step -/

variable [DecidableEq I] [DecidableEq Key]

/-- one atomic step of a thread satisfying its invariant, in a world satisfying `WOK`,
    re-establishes everything and only extends the heap -/
theorem tstep_threadOK {sem : Sem I Key Mod Err Parts Val} (hp : PrefillOK sem) (hn : MemoNamesOK sem)
    (pol : I → Policy Key) (w : World I Key Parts Val) (spool : List (Option Parts)) (p : List (Op I Key Mod))
    (t : Thread I Key Mod Err Parts Val) (hw : WOK sem w) (hto : ThreadOK sem w.heap spool p t) :
    WOK sem (tstep sem pol w t).1 ∧ HeapExt w.heap (tstep sem pol w t).1.heap ∧
    ThreadOK sem (tstep sem pol w t).1.heap spool p (tstep sem pol w t).2 := by
  obtain ⟨prog, hs, pend, outs⟩ := t
  obtain ⟨done, hpd, hh, ho, hpe⟩ := hto
  simp only at hpd hh ho
  cases pend with
  | computed k g r slot =>
    obtain ⟨hr, op, rest, hprog, hsp, hsl⟩ := hpe
    subst hprog
    cases r with
    | error e =>
      simp only [tstep]
      refine ⟨hw, HeapExt.refl _, threadOK_finishH (b := none) hpd rfl hh ho ?_ trivial⟩
      rw [hsp, ← hr]; rfl
    | ok q =>
      simp only [tstep]
      obtain ⟨a1, a2, a3⟩ := wok_alloc hp pol hw g hr.symm
      refine ⟨a1, a2, threadOK_deliver hpd rfl (handlesOK_ext a2 hh) ho ?_ ⟨_, a3, rfl⟩ hsl⟩
      rw [hsp, ← hr]; rfl
  | fetched k g slot =>
    obtain ⟨op, rest, hprog, hsp, hsl⟩ := hpe
    subst hprog
    simp only [tstep]
    split
    · rename_i id hl
      obtain ⟨o, hoo, hk⟩ := hw.tables _ _ _ (lookup_mem hl)
      simp only at hoo hk
      have hk' : sem.construct k = .ok o.parts := toOption_eq_some hk
      simp only [hoo]
      refine ⟨hw, HeapExt.refl _, threadOK_deliver hpd rfl hh ho ?_ ⟨o, hoo, rfl⟩ hsl⟩
      rw [hsp, hk']; rfl
    · exact ⟨hw, HeapExt.refl _, done, hpd, hh, ho, rfl, op, rest, rfl, hsp, hsl⟩
  | dstore s rid q =>
    obtain ⟨op, rest, hprog, ⟨r, hr1, hr2⟩, hsp, hsl⟩ := hpe
    subst hprog
    simp only [tstep]
    obtain ⟨h, m, hop, hmn, hhs⟩ := hsl s rfl
    subst hop
    rcases handlesOK_get hh h with ⟨id', o, h1, h2, h3⟩ | ⟨h1, _⟩ | ⟨h1, _⟩
    · try simp only at hhs
      rw [hhs] at h1
      cases h1
      have hv : sem.modVal m o.parts [] = .ok q := by
        simp only [specStep, valOf, h3, valsOf, Prod.mk.injEq, Out.handle.injEq] at hsp
        exact hsp.2
      refine ⟨wok_dstore hw ⟨o, r, h2, hr1, fun m' hm' => ?_⟩, HeapExt.refl _,
        threadOK_finishH hpd rfl hh ho hsp ⟨r, hr1, hr2⟩⟩
      rw [hn m' m s.2 hm' hmn o.parts, hv, hr2]
    · rw [hhs] at h1; cases h1
    · rw [hhs] at h1; cases h1
  | readComputed id name v =>
    obtain ⟨op, rest, hprog, ⟨o, hoo, hv⟩, hsp⟩ := hpe
    subst hprog
    simp only [tstep]
    obtain ⟨s1, s2⟩ := wok_setMemo (n := name) (v := v) hw (by
      intro o' ho'; rw [hoo] at ho'; cases ho'; exact hv)
    exact ⟨s1, s2, threadOK_finishV hpd rfl (handlesOK_ext s2 hh) ho hsp⟩
  | clearFetched i g =>
    obtain ⟨rest, hprog⟩ := hpe
    subst hprog
    simp only [tstep]
    exact ⟨wok_clear hw i g, HeapExt.refl _, threadOK_finishV hpd rfl hh ho rfl⟩
  | modRun s =>
    obtain ⟨h, m, rest, hprog, hmn, hhs⟩ := hpe
    subst hprog
    simp only [tstep]
    refine ⟨hw, HeapExt.refl _, modBody_ok hpd rfl hh ho ?_⟩
    intro s' hs'
    cases hs'
    exact ⟨h, m, rfl, hmn, hhs⟩
  | idle =>
    cases prog with
    | nil =>
      simp only [tstep]
      exact ⟨hw, HeapExt.refl _, done, hpd, hh, ho, hpe⟩
    | cons op rest =>
      cases op with
      | new k =>
        simp only [tstep]
        exact ⟨hw, HeapExt.refl _, done, hpd, hh, ho, .new k, rest, rfl, rfl, slotOK_none _ _ _⟩
      | read h name =>
        simp only [tstep]
        cases h1 : objOf w hs h with
        | none =>
          simp only
          refine ⟨hw, HeapExt.refl _, threadOK_finishV hpd rfl hh ho ?_⟩
          simp only [specStep, objOf_none hh h1]
        | some x =>
          obtain ⟨id, o⟩ := x
          obtain ⟨ha, hb, hc⟩ := objOf_some hh h1
          simp only
          split
          · refine ⟨hw, HeapExt.refl _, threadOK_finishV hpd rfl hh ho ?_⟩
            simp only [specStep, hc]
          · rename_i hne
            cases hg : memoGet o.memo name with
            | some v =>
              have := hw.memo o (List.mem_iff_getElem?.mpr ⟨id, hb⟩) _ (memoGet_mem hg)
              simp only [Sem.flat, attr_of_ne sem _ hne] at this
              simp only
              refine ⟨hw, HeapExt.refl _, threadOK_finishV hpd rfl hh ho ?_⟩
              simp only [specStep, hc, this]
            | none =>
              simp only
              refine ⟨hw, HeapExt.refl _, done, hpd, hh, ho, .read h name, rest, rfl,
                ⟨o, hb, (attr_of_ne sem _ hne).symm⟩, ?_⟩
              simp only [specStep, hc]
      | hash h =>
        simp only [tstep]
        cases h1 : objOf w hs h with
        | none =>
          simp only
          refine ⟨hw, HeapExt.refl _, threadOK_finishV hpd rfl hh ho ?_⟩
          simp only [specStep, objOf_none hh h1]
        | some x =>
          obtain ⟨id, o⟩ := x
          obtain ⟨ha, hb, hc⟩ := objOf_some hh h1
          simp only
          cases hg : memoGet o.memo hashKey with
          | some v =>
            have := hw.memo o (List.mem_iff_getElem?.mpr ⟨id, hb⟩) _ (memoGet_mem hg)
            simp only [Sem.flat, attr_hash] at this
            simp only
            refine ⟨hw, HeapExt.refl _, threadOK_finishV hpd rfl hh ho ?_⟩
            simp only [specStep, hc, this]
          | none =>
            simp only
            refine ⟨hw, HeapExt.refl _, done, hpd, hh, ho, .hash h, rest, rfl,
              ⟨o, hb, (attr_hash sem _).symm⟩, ?_⟩
            simp only [specStep, hc]
      | cmp c h1 h2 =>
        simp only [tstep]
        cases e1 : objOf w hs h1 with
        | none =>
          simp only
          refine ⟨hw, HeapExt.refl _, threadOK_finishV hpd rfl hh ho ?_⟩
          simp only [specStep, objOf_none hh e1]
        | some x1 =>
          obtain ⟨id1, o1⟩ := x1
          obtain ⟨_, _, hc1⟩ := objOf_some hh e1
          cases e2 : objOf w hs h2 with
          | none =>
            simp only
            refine ⟨hw, HeapExt.refl _, threadOK_finishV hpd rfl hh ho ?_⟩
            simp only [specStep, hc1, objOf_none hh e2]
          | some x2 =>
            obtain ⟨id2, o2⟩ := x2
            obtain ⟨_, _, hc2⟩ := objOf_some hh e2
            simp only
            refine ⟨hw, HeapExt.refl _, threadOK_finishV hpd rfl hh ho ?_⟩
            simp only [specStep, hc1, hc2]
      | twin h =>
        simp only [tstep]
        cases h1 : objOf w hs h with
        | none =>
          simp only
          refine ⟨hw, HeapExt.refl _, threadOK_finishH (b := none) hpd rfl hh ho ?_ trivial⟩
          simp only [specStep, objOf_none hh h1]
        | some x =>
          obtain ⟨id, o⟩ := x
          obtain ⟨ha, hb, hc⟩ := objOf_some hh h1
          simp only
          obtain ⟨t1, t2, t3⟩ := wok_twin hw o.parts
          refine ⟨t1, t2, threadOK_finishH (b := some o.parts) hpd rfl (handlesOK_ext t2 hh) ho ?_ ⟨_, t3, rfl⟩⟩
          simp only [specStep, hc]
      | mod h m args =>
        simp only [tstep]
        cases h1 : objOf w hs h with
        | none =>
          simp only
          refine ⟨hw, HeapExt.refl _, threadOK_finishH (b := none) hpd rfl hh ho ?_ trivial⟩
          simp only [specStep, objOf_none hh h1]
        | some x =>
          obtain ⟨id, o⟩ := x
          obtain ⟨ha, hb, hc⟩ := objOf_some hh h1
          simp only
          cases hsl : slotOf sem m args id with
          | none =>
            simp only
            exact ⟨hw, HeapExt.refl _, modBody_ok hpd rfl hh ho (slotOK_none _ _ _)⟩
          | some s =>
            obtain ⟨hmn, hargs, hsid⟩ := slotOf_some hsl
            subst hargs
            simp only
            cases hl : lookup w.dmemo s with
            | none =>
              simp only
              exact ⟨hw, HeapExt.refl _, done, hpd, hh, ho, h, m, rest, rfl, hmn, hsid ▸ ha⟩
            | some rid =>
              obtain ⟨o', r, ho', hr, hmv⟩ := hw.dmemo _ (lookup_mem hl)
              simp only at ho' hr hmv
              rw [hsid, hb] at ho'
              cases ho'
              simp only [hr]
              refine ⟨hw, HeapExt.refl _, threadOK_finishH (b := some r.parts) hpd rfl hh ho ?_ ⟨r, hr, rfl⟩⟩
              simp only [specStep, hc, valsOf, hmv m hmn]
              rfl
      | clear i =>
        simp only [tstep]
        exact ⟨hw, HeapExt.refl _, done, hpd, hh, ho, rest, rfl⟩
      | configure i c =>
        simp only [tstep]
        exact ⟨wok_reconfigure hw i c, HeapExt.refl _, threadOK_finishV hpd rfl hh ho rfl⟩

/-! ### the sequential machine is the thread machine with one thread -/

/-- thread `x.2` in world `x.1` reaches `y` by atomic steps of its own (no other thread in between) -/
inductive Runs (sem : Sem I Key Mod Err Parts Val) (pol : I → Policy Key) :
    World I Key Parts Val × Thread I Key Mod Err Parts Val → World I Key Parts Val × Thread I Key Mod Err Parts Val → Prop
  | refl (x) : Runs sem pol x x
  | step (x y) : Runs sem pol (tstep sem pol x.1 x.2) y → Runs sem pol x y

theorem runs_threadOK {sem : Sem I Key Mod Err Parts Val} (hp : PrefillOK sem) (hn : MemoNamesOK sem)
    (pol : I → Policy Key) (spool : List (Option Parts)) (p : List (Op I Key Mod))
    {x y : World I Key Parts Val × Thread I Key Mod Err Parts Val} (hr : Runs sem pol x y)
    (hw : WOK sem x.1) (hto : ThreadOK sem x.1.heap spool p x.2) :
    WOK sem y.1 ∧ HeapExt x.1.heap y.1.heap ∧ ThreadOK sem y.1.heap spool p y.2 := by
  induction hr with
  | refl x => exact ⟨hw, HeapExt.refl _, hto⟩
  | step x y _ ih =>
    obtain ⟨h1, h2, h3⟩ := tstep_threadOK hp hn pol x.1 spool p x.2 hw hto
    obtain ⟨i1, i2, i3⟩ := ih h1 h3
    exact ⟨i1, h2.trans i2, i3⟩

/-- the cached call, as the thread machine performs it: look-up, compute, allocate + store, derivation-memo store -/
theorem runs_call (sem : Sem I Key Mod Err Parts Val) (pol : I → Policy Key) (w : World I Key Parts Val)
    (prog : List (Op I Key Mod)) (hs : List (Option Nat)) (outs : List (Out Err Parts Val)) (k : Key)
    (slot : Option (Nat × String)) :
    Runs sem pol (w, { prog := prog, hs := hs, pend := .fetched k (w.gen (sem.cacheOf k)) slot, outs := outs })
      ((match (call sem pol w k).2.1 with
        | some rid => dstore (call sem pol w k).1 slot rid
        | none => (call sem pol w k).1),
       { prog := prog.tail, hs := hs ++ [(call sem pol w k).2.1], outs := outs ++ [(call sem pol w k).2.2] }) := by
  refine .step _ _ ?_
  simp only [tstep, call]
  cases hl : lookup (w.tables (sem.cacheOf k) (w.gen (sem.cacheOf k))) k with
  | some id =>
    dsimp only
    cases ho : w.heap[id]? with
    | some o =>
      cases slot with
      | none => exact .refl _
      | some s => exact .step _ _ (.refl _)
    | none => exact .refl _
  | none =>
    refine .step _ _ ?_
    dsimp only
    cases hk : sem.construct k with
    | error e => exact .refl _
    | ok p =>
      cases slot with
      | none => exact .refl _
      | some s => exact .step _ _ (.refl _)

/-- the body of a derivation followed by the call it ends in -/
theorem runs_modBody (sem : Sem I Key Mod Err Parts Val) (pol : I → Policy Key) (w : World I Key Parts Val)
    (t : Thread I Key Mod Err Parts Val) (h : Nat) (m : Mod) (args : List Nat) (id : Nat) (o : Obj Parts Val)
    (slot : Option (Nat × String)) (ho : objOf w t.hs h = some (id, o)) (hsl : slotOf sem m args id = slot)
    (hl : slot.bind (lookup w.dmemo) = none) :
    Runs sem pol (w, modBody sem w t h m args slot)
      ((modCall sem pol w t.hs h m args).1,
       { prog := t.prog.tail, hs := t.hs ++ [(modCall sem pol w t.hs h m args).2.1],
         outs := t.outs ++ [(modCall sem pol w t.hs h m args).2.2] }) := by
  subst hsl
  simp only [modBody, modCall, ho]
  cases objsOf w t.hs args with
  | none => exact .refl _
  | some xs =>
    simp only [hl]
    cases sem.modify m o.parts (xs.map fun x => x.2.parts) with
    | raise e => exact .refl _
    | same j =>
      cases slotOf sem m args id with
      | none => exact .refl _
      | some s => exact .step _ _ (.refl _)
    | via k => exact runs_call sem pol w _ _ _ k _

/-- the sequential machine is the thread machine with one thread: `step` is what a thread does, by atomic steps of its
    own, from taking up an operation to completing it -/
theorem runs_step (sem : Sem I Key Mod Err Parts Val) (pol : I → Policy Key) (w : World I Key Parts Val)
    (hs : List (Option Nat)) (op : Op I Key Mod) (rest : List (Op I Key Mod)) (outs : List (Out Err Parts Val)) :
    Runs sem pol (w, { prog := op :: rest, hs := hs, outs := outs })
      ((step sem pol w hs op).1,
       { prog := rest, hs := (step sem pol w hs op).2.1, outs := outs ++ [(step sem pol w hs op).2.2] }) := by
  refine .step _ _ ?_
  cases op with
  | new k =>
    -- `runs_call` without a derivation-memo slot: `dstore _ none _` is the world itself
    have h := runs_call sem pol w (.new k :: rest) hs outs k none
    simp only [step]
    cases hx : (call sem pol w k).2.1 with
    | none =>
      rw [hx] at h
      exact h
    | some rid =>
      rw [hx] at h
      exact h
  | read h name =>
    simp only [tstep, step]
    cases objOf w hs h with
    | none => exact .refl _
    | some x =>
      dsimp only
      split
      · exact .refl _
      · cases memoGet x.2.memo name with
        | some v => exact .refl _
        | none => exact .step _ _ (.refl _)
  | hash h =>
    simp only [tstep, step]
    cases objOf w hs h with
    | none => exact .refl _
    | some x =>
      dsimp only
      cases memoGet x.2.memo hashKey with
      | some v => exact .refl _
      | none => exact .step _ _ (.refl _)
  | cmp c h1 h2 =>
    simp only [tstep, step]
    cases objOf w hs h1 <;> cases objOf w hs h2 <;> exact .refl _
  | twin h =>
    simp only [tstep, step]
    cases objOf w hs h <;> exact .refl _
  | mod h m args =>
    simp only [tstep, step]
    cases ho : objOf w hs h with
    | none => simp only [modCall, ho]; exact .refl _
    | some x =>
      dsimp only
      cases hsl : slotOf sem m args x.1 with
      | none => exact runs_modBody sem pol w _ h m args x.1 x.2 none ho hsl rfl
      | some s =>
        dsimp only
        cases hl : lookup w.dmemo s with
        | none => exact .step _ _ (runs_modBody sem pol w _ h m args x.1 x.2 (some s) ho hsl hl)
        | some rid =>
          obtain ⟨_, rfl, _⟩ := slotOf_some hsl
          simp only [modCall, ho, objsOf, hsl, Option.bind_some, hl]
          cases w.heap[rid]? <;> exact .refl _
  | clear i => exact .step _ _ (.refl _)
  | configure i c => exact .refl _

end Yarl.MultiCache
