/-
  HumanLit.lean — `human_quote` with some characters left LITERAL (`R5.humanQuoteLit`, Lemmas/HumanLemmas.lean; nothing
  selected: `human_quote` itself), at the level of one component: which characters the shown text has
  (`R12.lit_mem_cases`, `lit_avoid`, `lit_pyStr`), and when the requoter reads it as the quoter's output for the decoded
  text — piece by piece (`R12.cOut_litpiece`), always when no selected '%' stands in front of two hex digits
  (`R12.cOut_lit_append`), and otherwise never: the requoted text is strictly shorter (`R12.cOut_lit_lt`,
  `R12.cOut_lit_iff`).  The statements about `human_quote` are the case "nothing selected" (namespace `HumanLemmas`, at
  the end).  Namespaces `R5`, `R12`, `R12d`: see the header of Lemmas/HumanLemmas.lean.
-/
import YarlProofs.Lemmas.HumanLemmas
import YarlProofs.Lemmas.EagerLemmas
import YarlProofs.Lemmas.SpellPos
namespace Yarl
open HumanLemmas QsLemmas OutLangLemmas

open R5

namespace R12

/-! ## hex look-ahead -/

/-- the text starts with two hex digits (either case): a '%' in front of it is read as an escape -/
def twoHex : Str → Bool
  | h1 :: h2 :: _ => (fromHex h1).isSome && (fromHex h2).isSome
  | _ => false

theorem takeEscape_none_iff (s : Str) : takeEscape restoreCh s = none ↔ twoHex s = false := by
  match s with
  | [] => simp [takeEscape, twoHex]
  | [a] => simp [takeEscape, twoHex]
  | a :: b :: r =>
    simp only [takeEscape, restoreCh, twoHex]
    cases fromHex a <;> cases fromHex b <;> simp

theorem takeEscape_of_twoHex {s : Str} (h : twoHex s = true) :
    ∃ v d1 d2 r, s = d1 :: d2 :: r ∧ (fromHex d1).isSome ∧ (fromHex d2).isSome ∧
      takeEscape restoreCh s = some (v, d1, d2, r) := by
  match s, h with
  | a :: b :: r, h =>
    simp only [twoHex, Bool.and_eq_true] at h
    obtain ⟨x, hx⟩ := Option.isSome_iff_exists.mp h.1
    obtain ⟨y, hy⟩ := Option.isSome_iff_exists.mp h.2
    exact ⟨x * 16 + y, a, b, r, rfl, h.1, h.2, by simp [takeEscape, restoreCh, hx, hy]⟩

theorem hex_range {c : Nat} (h : (fromHex c).isSome) : 48 ≤ c ∧ c ≤ 102 := by
  unfold fromHex at h
  split at h
  · omega
  · split at h
    · omega
    · split at h
      · omega
      · simp at h

/-! ## `human_quote` with some characters left literal, one character at a time -/

/-- the characters left literal are none of TAB, LF, CR and none of the characters unsafe in the position -/
def LitChars (uns : Str) (lit : Nat → Bool) (x : Str) : Prop :=
  ∀ c ∈ x, lit c = true → c ≠ 9 ∧ c ≠ 10 ∧ c ≠ 13 ∧ mem c uns = false

/-- every '%' left literal is NOT followed (in the decoded text) by two hex digits -/
def PctOK (lit : Nat → Bool) : Str → Prop
  | [] => True
  | c :: s => (lit c = true → c = 37 → twoHex s = false) ∧ PctOK lit s

instance (lit : Nat → Bool) : (x : Str) → Decidable (PctOK lit x)
  | [] => isTrue trivial
  | c :: s => by
    unfold PctOK
    have := instDecidablePctOK lit s
    infer_instance

instance (uns : Str) (lit : Nat → Bool) (x : Str) : Decidable (LitChars uns lit x) := by
  unfold LitChars; infer_instance

theorem litChars_tail {uns : Str} {lit : Nat → Bool} {c : Nat} {s : Str} (h : LitChars uns lit (c :: s)) :
    LitChars uns lit s := fun d hd => h d (by simp [hd])

theorem litChars_false (uns x : Str) : LitChars uns (fun _ => false) x := fun c _ h => by cases h
theorem pctOK_false : ∀ x : Str, PctOK (fun _ => false) x
  | [] => trivial
  | c :: s => ⟨fun h => (by cases h), pctOK_false s⟩

/-- the table facts needed on top of `HumanCompat`: characters that are not unsafe in the position are written the
    same way by the requoting and the non-requoting table (so a literal one is read as itself), and no hex digit is
    unsafe (so the two characters after a '%' are shown as they are) -/
structure LitCompat (t t' : QTab) (uns : Str) : Prop where
  hc : HumanCompat t t' uns
  lit : ∀ c, c < 128 → c ≠ 37 → mem c uns = false → cWriteOut t c = cWriteOut t' c
  hex : ∀ c ∈ uns, fromHex c = none

/-- the shape of one piece -/
theorem litChar_head {o : Oracles} {uns : Str} {lit : Nat → Bool} {c : Nat} {p : Str}
    (hex : ∀ c ∈ uns, fromHex c = none) (hc : c ≤ 0x10FFFF) (hs : isSurrogate c = false)
    (h : litChar o uns lit c = .ok p) :
    ((fromHex c).isSome → p = [c]) ∧ (fromHex c = none → ∃ d rest, p = d :: rest ∧ fromHex d = none) := by
  unfold litChar at h
  by_cases hl : lit c = true
  · rw [if_pos hl] at h
    cases h
    exact ⟨fun _ => rfl, fun hn => ⟨c, [], rfl, hn⟩⟩
  · rw [if_neg hl] at h
    have h37 : fromHex 37 = none := by decide
    cases hqChar_ok h with
    | esc h1 hp =>
      subst hp
      refine ⟨fun hx => ?_, fun _ => ⟨37, _, rfl, h37⟩⟩
      rcases h1 with rfl | h1
      · rw [h37] at hx; cases hx
      · rw [hex c (mem_iff.mp h1)] at hx; cases hx
    | shown _ _ _ hp => subst hp; exact ⟨fun _ => rfl, fun hn => ⟨c, [], rfl, hn⟩⟩
    | hidden _ _ hpr hsur hp =>
      subst hp
      constructor
      · intro hx
        have hr := hex_range hx
        rw [isPrintableChar_ascii o (by omega)] at hpr
        simp only [Except.ok.injEq, Bool.and_eq_false_iff, decide_eq_false_iff_not] at hpr
        omega
      · intro _
        have := utf8_length_pos c hc hsur
        cases hu : utf8 c with
        | nil => rw [hu] at this; cases this
        | cons b bs => exact ⟨37, toHex (b / 16) :: toHex (b % 16) :: bs.flatMap pct, by simp [pct], h37⟩

/-- what follows does not start with a hex digit (so it cannot complete an escape that a literal '%' began) -/
def NH (r : Str) : Prop := ∀ c, r.head? = some c → fromHex c = none

theorem nh_nil : NH [] := fun c h => by cases h

/-- a '%' in front of a text that does not start with two hex digits, shown with literals and followed by a text that
    does not start with a hex digit, starts no escape -/
theorem noesc_lit {o : Oracles} {uns : Str} {lit : Nat → Bool} (hex : ∀ c ∈ uns, fromHex c = none)
    {s X : Str} (hs : PyStr s) (hn : NoSurrogate s) (h : humanQuoteLit o s uns lit = .ok X)
    (h2 : twoHex s = false) {r : Str} (hr : NH r) : takeEscape restoreCh (X ++ r) = none := by
  rw [takeEscape_none_iff]
  have tail : ∀ r : Str, NH r → twoHex r = false := by
    intro r hr
    cases r with
    | nil => rfl
    | cons c r' =>
      cases r' with
      | nil => rfl
      | cons d r'' => simp [twoHex, hr c rfl]
  cases s with
  | nil =>
    rw [humanQuoteLit_nil] at h
    cases h
    exact tail r hr
  | cons c s' =>
    obtain ⟨p, X', hp, hX', rfl⟩ := (humanQuoteLit_cons o uns lit c s' X).mp h
    obtain ⟨k1, k2⟩ := litChar_head hex (hs c (by simp)) (hn c (by simp)) hp
    cases hc : fromHex c with
    | none =>
      obtain ⟨d, rest, rfl, hd⟩ := k2 hc
      cases hrest : rest ++ X' ++ r with
      | nil => simp [twoHex, hrest]
      | cons d2 r2 =>
        rw [List.cons_append, List.cons_append, hrest]
        simp [twoHex, hd]
    | some v =>
      rw [k1 (by rw [hc]; rfl)]
      cases s' with
      | nil =>
        rw [humanQuoteLit_nil] at hX'
        cases hX'
        cases r with
        | nil => rfl
        | cons d r' => simp [twoHex, hr d rfl]
      | cons c2 s'' =>
        obtain ⟨p2, X'', hp2, hX'', rfl⟩ := (humanQuoteLit_cons o uns lit c2 s'' X').mp hX'
        obtain ⟨_, m2⟩ := litChar_head hex (hs c2 (by simp)) (hn c2 (by simp)) hp2
        have hc2 : fromHex c2 = none := by
          simp only [twoHex, hc, Option.isSome_some, Bool.true_and] at h2
          cases hx : fromHex c2 with
          | none => rfl
          | some w => rw [hx] at h2; cases h2
        obtain ⟨d, rest, rfl, hd⟩ := m2 hc2
        simp [twoHex, hd]

/-! ## characters of the shown text (no tables involved) -/

theorem litChar_mem {o : Oracles} {uns : Str} {lit : Nat → Bool} {c : Nat} {p : Str}
    (hu : ∀ c ∈ uns, c < 128) (hc : c ≤ 0x10FFFF) (h : litChar o uns lit c = .ok p) :
    ∀ d ∈ p, d = 37 ∨ isUpperHexDigit d = true ∨
      (d = c ∧ (lit d = true ∨ (mem d uns = false ∧ isPrintableChar o d = .ok true))) := by
  unfold litChar at h
  by_cases hlc : lit c = true
  · rw [if_pos hlc] at h
    cases h
    intro d hd
    simp only [List.mem_cons, List.not_mem_nil, or_false] at hd
    subst hd
    exact Or.inr (Or.inr ⟨rfl, Or.inl hlc⟩)
  · rw [if_neg hlc] at h
    intro d hd
    cases hqChar_ok h with
    | esc h1 hp =>
      subst hp
      have hlt : c < 128 := by
        rcases h1 with rfl | h1
        · omega
        · exact hu c (mem_iff.mp h1)
      rcases pct_chars c (by omega) d hd with h | h
      · exact Or.inl h
      · exact Or.inr (Or.inl h)
    | shown h37 hm hpr hp =>
      subst hp
      simp only [List.mem_cons, List.not_mem_nil, or_false] at hd
      subst hd
      exact Or.inr (Or.inr ⟨rfl, Or.inr ⟨hm, hpr⟩⟩)
    | hidden _ _ _ _ hp =>
      subst hp
      rw [List.mem_flatMap] at hd
      obtain ⟨b, hb, hd⟩ := hd
      rcases pct_chars b (OutLangLemmas.utf8_lt256 c b hb) d hd with h | h
      · exact Or.inl h
      · exact Or.inr (Or.inl h)

/-- every character of the shown text is '%', an upper-case hex digit, or a character of the decoded text that was
    left literal or is printable and not unsafe in the position -/
theorem lit_mem_cases {o : Oracles} {uns : Str} {lit : Nat → Bool} (hu : ∀ c ∈ uns, c < 128) :
    ∀ (x X : Str), PyStr x → humanQuoteLit o x uns lit = .ok X →
      ∀ d ∈ X, d = 37 ∨ isUpperHexDigit d = true ∨
        (d ∈ x ∧ (lit d = true ∨ (mem d uns = false ∧ isPrintableChar o d = .ok true))) := by
  intro x
  induction x with
  | nil =>
    intro X _ h d hd
    rw [humanQuoteLit_nil] at h
    cases h
    cases hd
  | cons c s ih =>
    intro X hs h d hd
    obtain ⟨p, X', hp, hX', rfl⟩ := (humanQuoteLit_cons o uns lit c s X).mp h
    rw [List.mem_append] at hd
    rcases hd with hd | hd
    · rcases litChar_mem hu (hs c (by simp)) hp d hd with h | h | ⟨h1, h2⟩
      · exact Or.inl h
      · exact Or.inr (Or.inl h)
      · exact Or.inr (Or.inr ⟨by simp [h1], h2⟩)
    · rcases ih X' (fun y hy => hs y (by simp [hy])) hX' d hd with h | h | ⟨h1, h2⟩
      · exact Or.inl h
      · exact Or.inr (Or.inl h)
      · exact Or.inr (Or.inr ⟨by simp [h1], h2⟩)

/-- a character that is unsafe in the position never appears literally; nor does a control character — unless it was
    left literal, and TAB / LF / CR are never left literal (`LitChars`) -/
theorem lit_not_mem {o : Oracles} {uns : Str} {lit : Nat → Bool} (hu : ∀ c ∈ uns, c < 128)
    {x X : Str} (hs : PyStr x) (h : humanQuoteLit o x uns lit = .ok X) (hl : LitChars uns lit x)
    {d : Nat} (h37 : d ≠ 37) (hx : isUpperHexDigit d = false)
    (hbad : mem d uns = true ∨ ((d < 32 ∨ d = 127) ∧ (lit d = true → d = 9 ∨ d = 10 ∨ d = 13))) : d ∉ X := by
  intro hm
  rcases lit_mem_cases hu x X hs h d hm with h1 | h1 | ⟨hdx, hk⟩
  · exact h37 h1
  · rw [hx] at h1
    cases h1
  · rcases hk with hlit | ⟨hmu, hpr⟩
    · obtain ⟨a1, a2, a3, a4⟩ := hl d hdx hlit
      rcases hbad with hb | ⟨_, hb⟩
      · rw [a4] at hb
        cases hb
      · rcases hb hlit with e | e | e
        · exact a1 e
        · exact a2 e
        · exact a3 e
    · rcases hbad with hb | ⟨hctl, _⟩
      · rw [hmu] at hb
        cases hb
      · rw [isPrintableChar_ascii o (by omega)] at hpr
        simp only [Except.ok.injEq, Bool.and_eq_true, decide_eq_true_eq] at hpr
        omega

/-- … in particular a character that is unsafe in the position, or TAB / LF / CR -/
theorem lit_avoid {o : Oracles} {uns : Str} {lit : Nat → Bool} (hu : ∀ c ∈ uns, c < 128)
    {x X : Str} (hs : PyStr x) (h : humanQuoteLit o x uns lit = .ok X) (hl : LitChars uns lit x)
    {d : Nat} (h37 : d ≠ 37) (hx : isUpperHexDigit d = false)
    (hbad : mem d uns = true ∨ d = 9 ∨ d = 10 ∨ d = 13) : d ∉ X :=
  lit_not_mem hu hs h hl h37 hx (hbad.imp_right fun hc => ⟨by omega, fun _ => hc⟩)

theorem upperHex_lt {d : Nat} (h : isUpperHexDigit d = true) : d < 128 := by
  unfold isUpperHexDigit at h
  simp only [Bool.or_eq_true, Bool.and_eq_true, decide_eq_true_eq] at h
  omega

theorem lit_pyStr {o : Oracles} {uns : Str} {lit : Nat → Bool} (hu : ∀ c ∈ uns, c < 128)
    {x X : Str} (hs : PyStr x) (hn : NoSurrogate x) (h : humanQuoteLit o x uns lit = .ok X) :
    PyStr X ∧ NoSurrogate X := by
  have key : ∀ d ∈ X, d < 128 ∨ d ∈ x := by
    intro d hd
    rcases lit_mem_cases hu x X hs h d hd with h1 | h1 | ⟨h1, _⟩
    · exact Or.inl (by omega)
    · exact Or.inl (upperHex_lt h1)
    · exact Or.inr h1
  constructor
  · intro d hd
    rcases key d hd with h | h
    · show d ≤ 0x10FFFF; omega
    · exact hs d h
  · intro d hd
    rcases key d hd with h | h
    · unfold isSurrogate
      simp only [Bool.and_eq_false_iff, decide_eq_false_iff_not]
      omega
    · exact hn d h

theorem lit_ne_nil {o : Oracles} {uns : Str} {lit : Nat → Bool} {x X : Str} (hs : PyStr x) (h0 : x ≠ [])
    (h : humanQuoteLit o x uns lit = .ok X) : X ≠ [] := by
  obtain ⟨c, s, rfl⟩ := List.exists_cons_of_ne_nil h0
  obtain ⟨p, X', hp, _, rfl⟩ := (humanQuoteLit_cons o uns lit c s X).mp h
  intro hnil
  have hp0 : p = [] := (List.append_eq_nil_iff.mp hnil).1
  subst hp0
  unfold litChar at hp
  by_cases hlc : lit c = true
  · rw [if_pos hlc] at hp
    cases hp
  · rw [if_neg hlc] at hp
    cases hqChar_ok hp with
    | esc _ hp => simp [pct] at hp
    | shown _ _ _ hp => simp at hp
    | hidden _ _ _ hsur hp =>
      have := utf8_length_pos c (hs c (by simp)) hsur
      cases hu : utf8 c with
      | nil => rw [hu] at this; cases this
      | cons b bs => rw [hu] at hp; simp [pct] at hp

/-! ## the requoter on the shown text -/

theorem cEscOut_le (t : QTab) (v : Nat) : (cEscOut t v).length ≤ 3 := by
  unfold cEscOut
  split
  · simp [pct]
  · split <;> simp [pct]

theorem cOut_nr_append (t' : QTab) (hnr : t'.requote = false) (a y : Str) :
    cOut t' (a ++ y) = cOut t' a ++ cOut t' y := by
  rw [PathAlg.cOut_flatMap t' hnr, PathAlg.cOut_flatMap t' hnr, PathAlg.cOut_flatMap t' hnr, List.flatMap_append]

section pieces
variable (o : Oracles) (t t' : QTab) (ht : t.WF) (ht' : t'.WF) (hreq : t.requote = true) (hnr : t'.requote = false)
  (uns : Str) (kc : HumanCompat t t' uns) (lit : Nat → Bool)
  (kl : ∀ c, lit c = true → c < 128 → c ≠ 37 → mem c uns = false → cWriteOut t c = cWriteOut t' c)
include ht ht' hreq hnr kc kl

omit hnr in
/-- one piece that is not a literal '%'.  Of the tables only `HumanCompat` is asked, and of a character that is left
    literal that both tables write it the same way -/
theorem cOut_litpiece {c : Nat} (hc : c ≤ 0x10FFFF) {p : Str} (hp : litChar o uns lit c = .ok p)
    (hl : lit c = true → c ≠ 37 ∧ mem c uns = false) (r : Str) :
    cOut t (p ++ r) = cWriteOut t' c ++ cOut t r := by
  unfold litChar at hp
  by_cases hlc : lit c = true
  · rw [if_pos hlc] at hp; cases hp
    obtain ⟨h37, hm⟩ := hl hlc
    rw [List.singleton_append, cOut_cons_ne t h37]
    by_cases hlt : c < 128
    · rw [kl c hlc hlt h37 hm]
    · rw [cWriteOut_high t (by omega), cWriteOut_high t' (by omega)]
  · rw [if_neg hlc] at hp
    exact cOut_piece o t t' ht ht' hreq uns kc hc (hqChar_ok hp) r

/-- COMPOSITIONAL SPELLING: the requoter reads the shown text `X` of the decoded text `x` (some characters left
    literal: none of them unsafe / TAB / LF / CR, no literal '%' in front of two hex digits), followed by any text `r`,
    as the QUOTER's output for `x` followed by what it makes of `r`.  When '%' may be left literal, no hex digit is
    unsafe (`kh`: the two characters after a '%' are shown as they are) and `r` does not start with a hex digit. -/
theorem cOut_lit_append (kh : lit 37 = true → ∀ c ∈ uns, fromHex c = none) :
    ∀ (x X : Str), PyStr x → (lit 37 = true → NoSurrogate x) → humanQuoteLit o x uns lit = .ok X →
    LitChars uns lit x → PctOK lit x → ∀ r, (lit 37 = true → NH r) → cOut t (X ++ r) = cOut t' x ++ cOut t r := by
  intro x
  induction x with
  | nil =>
    intro X _ _ h _ _ r _
    rw [humanQuoteLit_nil] at h
    cases h
    rw [List.nil_append, cOut_nil, List.nil_append]
  | cons c s ih =>
    intro X hs hn h hl hp r hr
    obtain ⟨p, X', hpc, hX', rfl⟩ := (humanQuoteLit_cons o uns lit c s X).mp h
    have hs' : PyStr s := fun y hy => hs y (by simp [hy])
    have hn' : lit 37 = true → NoSurrogate s := fun h37 y hy => hn h37 y (by simp [hy])
    have ih' := ih X' hs' hn' hX' (litChars_tail hl) hp.2 r hr
    rw [List.append_assoc, cOut_nr_cons t' hnr]
    by_cases h37 : lit c = true ∧ c = 37
    · obtain ⟨hlc, rfl⟩ := h37
      have : p = [37] := by unfold litChar at hpc; rw [if_pos hlc] at hpc; cases hpc; rfl
      subst this
      have hne := noesc_lit (kh hlc) hs' (hn' hlc) hX' (hp.1 hlc rfl) (hr hlc)
      rw [List.singleton_append, QuoteEquiv.cOut_noesc t hreq hne, ih', cWriteOut_37 t ht, cWriteOut_37 t' ht',
        List.append_assoc]
    · rw [cOut_litpiece o t t' ht ht' hreq uns kc lit kl (hs c (by simp)) hpc
        (fun hlc => ⟨fun e => h37 ⟨hlc, e⟩, (hl c (by simp) hlc).2.2.2⟩), ih', List.append_assoc]

end pieces

/-- nothing left literal: the requoter reads a human-quoted text followed by ANY text `x` as the quoter's output for
    the decoded text, followed by what it makes of `x` (every '%' of a human-quoted text starts a complete `%XY`) -/
theorem _root_.Yarl.HumanLemmas.cOut_human_append (o : Oracles) (t t' : QTab) (ht : t.WF) (ht' : t'.WF)
    (hreq : t.requote = true) (hnr : t'.requote = false) (uns : Str) (k : HumanCompat t t' uns)
    (s r : Str) (hs : PyStr s) (h : humanQuote o s uns = .ok r) (x : Str) :
    cOut t (r ++ x) = cOut t' s ++ cOut t x :=
  cOut_lit_append o t t' ht ht' hreq hnr uns k (fun _ => false) nofun nofun s r hs nofun h (litChars_false uns s)
    (pctOK_false s) x nofun

section tables
variable (o : Oracles) (t t' : QTab) (ht : t.WF) (ht' : t'.WF) (hreq : t.requote = true) (hnr : t'.requote = false)
  (uns : Str) (k : LitCompat t t' uns) (lit : Nat → Bool)
include ht ht' hreq hnr k

/-- the requoter never makes MORE of the shown text than the quoter makes of the decoded text -/
theorem cOut_lit_le : ∀ (x X : Str), PyStr x → NoSurrogate x → humanQuoteLit o x uns lit = .ok X →
    LitChars uns lit x → (cOut t X).length ≤ (cOut t' x).length := by
  intro x
  induction x with
  | nil =>
    intro X _ _ h _
    rw [humanQuoteLit_nil] at h
    cases h
    rw [cOut_nil]
    simp
  | cons c s ih =>
    intro X hs hn h hl
    obtain ⟨p, X', hpc, hX', rfl⟩ := (humanQuoteLit_cons o uns lit c s X).mp h
    have hs' : PyStr s := fun y hy => hs y (by simp [hy])
    have hn' : NoSurrogate s := fun y hy => hn y (by simp [hy])
    have ih' := ih X' hs' hn' hX' (litChars_tail hl)
    rw [cOut_nr_cons t' hnr, List.length_append]
    by_cases h37 : lit c = true ∧ c = 37
    · obtain ⟨hlc, rfl⟩ := h37
      have : p = [37] := by unfold litChar at hpc; rw [if_pos hlc] at hpc; cases hpc; rfl
      subst this
      rw [List.singleton_append, cWriteOut_37 t' ht']
      cases hte : takeEscape restoreCh X' with
      | none =>
        rw [QuoteEquiv.cOut_noesc t hreq hte, cWriteOut_37 t ht, List.length_append]
        omega
      | some q =>
        obtain ⟨v, d1, d2, rest⟩ := q
        obtain ⟨hshape, hv⟩ := takeEscape_eq hte
        rw [cOut_cons_esc t hreq hte, List.length_append]
        have h1 := cEscOut_le t v
        have hd1 : d1 ≠ 37 := by
          rintro rfl; simp [restoreCh, fromHex] at hv
        have hd2 : d2 ≠ 37 := by
          rintro rfl
          simp only [restoreCh] at hv
          cases fromHex d1 <;> simp [fromHex] at hv
        have h2 : (cOut t rest).length ≤ (cOut t X').length := by
          rw [hshape, cOut_cons_ne t hd1, cOut_cons_ne t hd2]
          simp only [List.length_append]; omega
        simp only [pct, List.length_cons, List.length_nil]
        omega
    · rw [cOut_litpiece o t t' ht ht' hreq uns k.hc lit (fun c _ => k.lit c) (hs c (by simp)) hpc
        (fun hlc => ⟨fun e => h37 ⟨hlc, e⟩, (hl c (by simp) hlc).2.2.2⟩), List.length_append]
      omega

/-- a literal '%' in front of a shown text whose decoded text starts with two hex digits: the requoter takes the three
    characters for an escape, and what it writes is shorter than the quoter's "%25" + the two digits -/
theorem esc_lt (s X' : Str) (hs' : PyStr s) (hn' : NoSurrogate s) (hX' : humanQuoteLit o s uns lit = .ok X')
    (hl : LitChars uns lit s) (h2 : twoHex s = true) :
    (cOut t (37 :: X')).length < 3 + (cOut t' s).length := by
  cases s with
  | nil => simp [twoHex] at h2
  | cons h1 s1 =>
  cases s1 with
  | nil => simp [twoHex] at h2
  | cons h2' s'' =>
    simp only [twoHex, Bool.and_eq_true] at h2
    obtain ⟨p1, Y, hp1, hY, rfl⟩ := (humanQuoteLit_cons o uns lit h1 _ X').mp hX'
    obtain ⟨p2, X'', hp2, hX'', rfl⟩ := (humanQuoteLit_cons o uns lit h2' _ Y).mp hY
    have e1 := (litChar_head k.hex (hs' h1 (by simp)) (hn' h1 (by simp)) hp1).1 h2.1
    have e2 := (litChar_head k.hex (hs' h2' (by simp)) (hn' h2' (by simp)) hp2).1 h2.2
    subst e1 e2
    obtain ⟨v, d1, d2, rest, hshape, _, _, hte⟩ := takeEscape_of_twoHex
      (s := [h1] ++ ([h2'] ++ X'')) (by simp [twoHex, h2.1, h2.2])
    have hshape' : h1 :: h2' :: X'' = d1 :: d2 :: rest := by simpa using hshape
    injection hshape' with _ hh
    injection hh with _ hrest
    subst hrest
    rw [cOut_cons_esc t hreq hte, List.length_append, cOut_nr_cons t' hnr, cOut_nr_cons t' hnr]
    have hs'' : PyStr s'' := fun y hy => hs' y (by simp [hy])
    have hn'' : NoSurrogate s'' := fun y hy => hn' y (by simp [hy])
    have hle := cOut_lit_le o t t' ht ht' hreq hnr uns k lit s'' X'' hs'' hn'' hX''
      (litChars_tail (litChars_tail hl))
    have h1' := cEscOut_le t v
    have w1 := List.length_pos_iff.mpr (EagerLemmas.cWriteOut_ne_nil t' (hs' h1 (by simp)) (hn' h1 (by simp)))
    have w2 := List.length_pos_iff.mpr (EagerLemmas.cWriteOut_ne_nil t' (hs' h2' (by simp)) (hn' h2' (by simp)))
    simp only [List.length_append]
    omega

/-- the requoter makes strictly LESS of the shown text than the quoter makes of the decoded text when some literal '%'
    stands in front of two hex digits -/
theorem cOut_lit_lt : ∀ (x X : Str), PyStr x → NoSurrogate x → humanQuoteLit o x uns lit = .ok X →
    LitChars uns lit x → ¬ PctOK lit x → (cOut t X).length < (cOut t' x).length := by
  intro x
  induction x with
  | nil => intro X _ _ _ _ hp; exact absurd trivial hp
  | cons c s ih =>
    intro X hs hn h hl hp
    obtain ⟨p, X', hpc, hX', rfl⟩ := (humanQuoteLit_cons o uns lit c s X).mp h
    have hs' : PyStr s := fun y hy => hs y (by simp [hy])
    have hn' : NoSurrogate s := fun y hy => hn y (by simp [hy])
    rw [cOut_nr_cons t' hnr, List.length_append]
    by_cases h37 : lit c = true ∧ c = 37
    · obtain ⟨hlc, rfl⟩ := h37
      have : p = [37] := by unfold litChar at hpc; rw [if_pos hlc] at hpc; cases hpc; rfl
      subst this
      rw [List.singleton_append, cWriteOut_37 t' ht']
      cases h2 : twoHex s with
      | false =>
        have hps : ¬ PctOK lit s := fun hh => hp ⟨fun _ _ => h2, hh⟩
        have ih' := ih X' hs' hn' hX' (litChars_tail hl) hps
        have hne := noesc_lit k.hex hs' hn' hX' h2 nh_nil
        rw [List.append_nil] at hne
        rw [QuoteEquiv.cOut_noesc t hreq hne, cWriteOut_37 t ht, List.length_append]
        omega
      | true =>
        have := esc_lt o t t' ht ht' hreq hnr uns k lit s X' hs' hn' hX' (litChars_tail hl) h2
        simp only [pct, List.length_cons, List.length_nil]
        omega
    · have hps : ¬ PctOK lit s := fun hh => hp ⟨fun hlc e => absurd ⟨hlc, e⟩ h37, hh⟩
      have ih' := ih X' hs' hn' hX' (litChars_tail hl) hps
      rw [cOut_litpiece o t t' ht ht' hreq uns k.hc lit (fun c _ => k.lit c) (hs c (by simp)) hpc
        (fun hlc => ⟨fun e => h37 ⟨hlc, e⟩, (hl c (by simp) hlc).2.2.2⟩), List.length_append]
      omega

/-- THE IFF at table level: the requoter reads the shown text as the quoter's output for the decoded text EXACTLY
    WHEN no '%' that was left literal stands in front of two hex digits -/
theorem cOut_lit_iff (x X : Str) (hs : PyStr x) (hn : NoSurrogate x) (h : humanQuoteLit o x uns lit = .ok X)
    (hl : LitChars uns lit x) : cOut t X = cOut t' x ↔ PctOK lit x := by
  constructor
  · intro he
    refine Classical.byContradiction (fun hp => ?_)
    have := cOut_lit_lt o t t' ht ht' hreq hnr uns k lit x X hs hn h hl hp
    rw [he] at this
    exact Nat.lt_irrefl _ this
  · intro hp
    have := cOut_lit_append o t t' ht ht' hreq hnr uns k.hc lit (fun c _ => k.lit c) (fun _ => k.hex) x X hs (fun _ => hn) h hl hp []
      (fun _ => nh_nil)
    rwa [List.append_nil, cOut_nil, List.append_nil] at this

/-- ONE '%' of the decoded text `a ++ "%" ++ b` left literal, everything else shown as `human_quote` shows it: the
    requoter reads the quoter's output for the decoded text IF AND ONLY IF the '%' is NOT followed by two hex digits. -/
theorem cOut_one_pct_iff (a b A B : Str) (hsa : PyStr a) (hsb : PyStr b) (hnb : NoSurrogate b)
    (hA : humanQuote o a uns = .ok A) (hB : humanQuote o b uns = .ok B) :
    cOut t (A ++ 37 :: B) = cOut t' (a ++ 37 :: b) ↔ twoHex b = false := by
  have hB' : humanQuoteLit o b (uns) (fun _ => false) = .ok B := hB
  rw [cOut_human_append o t t' ht ht' hreq hnr uns k.hc a A hsa hA,
    cOut_nr_append t' hnr, cOut_nr_cons t' hnr, cWriteOut_37 t' ht']
  constructor
  · intro he
    have he := List.append_cancel_left he
    cases h2 : twoHex b with
    | false => rfl
    | true =>
      have := esc_lt o t t' ht ht' hreq hnr uns k (fun _ => false) b B hsb hnb hB' (litChars_false uns b) h2
      rw [he] at this
      simp only [pct, List.length_cons, List.length_nil, List.length_append] at this
      omega
  · intro h2
    congr 1
    have hne := noesc_lit k.hex hsb hnb hB' h2 nh_nil
    rw [List.append_nil] at hne
    have hb := cOut_human_append o t t' ht ht' hreq hnr uns k.hc b B hsb hB []
    rw [List.append_nil, cOut_nil, List.append_nil] at hb
    rw [QuoteEquiv.cOut_noesc t hreq hne, cWriteOut_37 t ht, hb]

end tables

/-! ## the generated tables -/

/-- what a position says about an `unsafe` list, no table involved: only ASCII and no hex digit in the list; a character
    `human_quote` escapes may be written as an escape, one that is not in the list stands for itself -/
def PosUnsafe (P : R12d.Pos) (uns : Str) : Prop :=
  (∀ c ∈ uns, c < 128 ∧ fromHex c = none) ∧
  ∀ c, c < 128 → c ≠ 37 → (escapedAscii uns c = true → P.esc c = true) ∧ (mem c uns = false → P.lit c = some c)

instance (P : R12d.Pos) (uns : Str) : Decidable (PosUnsafe P uns) := by
  unfold PosUnsafe
  infer_instance

/-- the table facts follow from the description of the pair of tables by a position (`R12d.Describes`) -/
theorem litCompat_of_pos {t t' : QTab} {P : R12d.Pos} {uns : Str} (h : ∀ c, c < 128 → R12d.Describes t t' P c)
    (hp : PosUnsafe P uns) : LitCompat t t' uns := by
  have lit : ∀ c, c < 128 → c ≠ 37 → mem c uns = false → cWriteOut t c = cWriteOut t' c := by
    intro c hc h37 hm
    have := (h c hc).1
    rw [(hp.2 c hc h37).2 hm] at this
    exact this.2
  refine ⟨⟨fun c hc => (hp.1 c hc).1, fun c hc h37 he => ?_, fun c hc h37 he => lit c hc h37 ?_⟩, lit,
    fun c hc => (hp.1 c hc).2⟩
  · have := (h c hc).2
    rw [(hp.2 c hc h37).1 he] at this
    simpa using this.symm
  · unfold escapedAscii at he
    simp only [Bool.or_eq_false_iff] at he
    exact he.1.1

/-- the table facts for the real positions, on both backends: from the four computations of Lemmas/SpellPos.lean and a
    check of the `unsafe` lists against the positions -/
theorem gen_litCompat : ∀ b : Backend,
    LitCompat (Gen.REQUOTER.tab b) (Gen.QUOTER.tab b) (humanUnsafeOf "user") ∧
    LitCompat (Gen.PATH_REQUOTER.tab b) (Gen.PATH_QUOTER.tab b) (humanUnsafeOf "path") ∧
    LitCompat (Gen.FRAGMENT_REQUOTER.tab b) (Gen.FRAGMENT_QUOTER.tab b) (humanUnsafeOf "fragment") ∧
    LitCompat (Gen.QUERY_REQUOTER.tab b) (Gen.QUERY_PART_QUOTER.tab b) (humanUnsafeOf "k") := by
  intro b
  rw [tab_eq_c Gen.REQUOTER (by decide) b, tab_eq_c Gen.QUOTER (by decide) b,
    tab_eq_c Gen.PATH_REQUOTER (by decide) b, tab_eq_c Gen.PATH_QUOTER (by decide) b,
    tab_eq_c Gen.FRAGMENT_REQUOTER (by decide) b, tab_eq_c Gen.FRAGMENT_QUOTER (by decide) b,
    tab_eq_c Gen.QUERY_REQUOTER (by decide) b, tab_eq_c Gen.QUERY_PART_QUOTER (by decide) b]
  exact ⟨litCompat_of_pos R12d.user_litOK (by decide +kernel), litCompat_of_pos R12d.path_litOK (by decide +kernel),
    litCompat_of_pos R12d.fragment_litOK (by decide +kernel), litCompat_of_pos R12d.query_litOK (by decide +kernel)⟩

/-- run level (generated quoters, either backend): REQUOTER(shown text) = QUOTER(decoded text) iff no literal '%'
    stands in front of two hex digits -/
theorem run_lit_iff (a a' : QArgs) (ha : a ∈ Gen.allQuoters) (ha' : a' ∈ Gen.allQuoters)
    (hreq : a.requote = true) (hnr : a'.requote = false) (uns : Str)
    (k : ∀ b, LitCompat (a.tab b) (a'.tab b) uns)
    (e : Env) (lit : Nat → Bool) (x X : Str) (hs : PyStr x) (hn : NoSurrogate x)
    (h : humanQuoteLit e.o x uns lit = .ok X) (hl : LitChars uns lit x) :
    a.run e.b X = a'.run e.b x ↔ PctOK lit x := by
  obtain ⟨hr1, hr2⟩ := lit_pyStr (k e.b).hc.ascii hs hn h
  rw [run_eq_cOut a ha e.b X hr1, run_eq_cOut a' ha' e.b x hs, stripSurr_id X hr2, stripSurr_id x hn]
  exact cOut_lit_iff e.o (a.tab e.b) (a'.tab e.b) (gen_tab_wf a ha e.b) (gen_tab_wf a' ha' e.b)
    (by rw [tab_requote]; exact hreq) (by rw [tab_requote]; exact hnr) uns (k e.b) lit x X hs hn h hl

theorem good_mid {c : Nat} {x y : Str} (hc : c ≤ 0x10FFFF ∧ isSurrogate c = false) (hx : PyStr x ∧ NoSurrogate x)
    (hy : PyStr y ∧ NoSurrogate y) : PyStr (x ++ c :: y) ∧ NoSurrogate (x ++ c :: y) := by
  refine good_of_mem fun d hd => ?_
  rcases List.mem_append.mp hd with h | h
  · exact ⟨hx.1 d h, hx.2 d h⟩
  · rcases List.mem_cons.mp h with rfl | h
    · exact hc
    · exact ⟨hy.1 d h, hy.2 d h⟩

/-- run level, ONE literal '%' -/
theorem run_one_pct_iff (a a' : QArgs) (ha : a ∈ Gen.allQuoters) (ha' : a' ∈ Gen.allQuoters)
    (hreq : a.requote = true) (hnr : a'.requote = false) (uns : Str)
    (k : ∀ b, LitCompat (a.tab b) (a'.tab b) uns)
    (e : Env) (x y X Y : Str) (hx : PyStr x) (hxn : NoSurrogate x) (hy : PyStr y) (hyn : NoSurrogate y)
    (hX : humanQuote e.o x uns = .ok X) (hY : humanQuote e.o y uns = .ok Y) :
    a.run e.b (X ++ 37 :: Y) = a'.run e.b (x ++ 37 :: y) ↔ twoHex y = false := by
  obtain ⟨g1, g2⟩ := good_mid (c := 37) (by decide) (lit_pyStr (lit := fun _ => false) (k e.b).hc.ascii hx hxn hX)
    (lit_pyStr (lit := fun _ => false) (k e.b).hc.ascii hy hyn hY)
  obtain ⟨g3, g4⟩ := good_mid (c := 37) (by decide) ⟨hx, hxn⟩ ⟨hy, hyn⟩
  rw [run_eq_cOut a ha e.b _ g1, run_eq_cOut a' ha' e.b _ g3, stripSurr_id _ g2, stripSurr_id _ g4]
  exact cOut_one_pct_iff e.o (a.tab e.b) (a'.tab e.b) (gen_tab_wf a ha e.b) (gen_tab_wf a' ha' e.b)
    (by rw [tab_requote]; exact hreq) (by rw [tab_requote]; exact hnr) uns (k e.b) x y X Y hx hy hyn hX hY

/-- what is asked of the characters left literal in one decoded text: none of them TAB / LF / CR or unsafe in the
    position, and no literal '%' in front of two hex digits -/
def LitOK (uns : Str) (lit : Nat → Bool) (x : Str) : Prop := LitChars uns lit x ∧ PctOK lit x

instance (uns : Str) (lit : Nat → Bool) (x : Str) : Decidable (LitOK uns lit x) := by unfold LitOK; infer_instance

theorem litOK_false (uns x : Str) : LitOK uns (fun _ => false) x := ⟨litChars_false uns x, pctOK_false x⟩

/-- a shown piece has no TAB / LF / CR, whatever is left literal within the character conditions -/
theorem lit_clean {o : Oracles} {uns : Str} {lit : Nat → Bool} (hu : ∀ c ∈ uns, c < 128) {x X : Str} (hs : PyStr x)
    (h : humanQuoteLit o x uns lit = .ok X) (hl : LitChars uns lit x) : Clean X := fun c hc =>
  ⟨fun e9 => lit_avoid hu hs h hl (d := 9) (by decide) (by decide) (Or.inr (Or.inl rfl)) (e9 ▸ hc),
   fun e9 => lit_avoid hu hs h hl (d := 10) (by decide) (by decide) (Or.inr (Or.inr (Or.inl rfl))) (e9 ▸ hc),
   fun e9 => lit_avoid hu hs h hl (d := 13) (by decide) (by decide) (Or.inr (Or.inr (Or.inr rfl))) (e9 ▸ hc)⟩

end R12


/-! ## nothing left literal: `human_quote` -/

namespace HumanLemmas
open R12

/-- the human form of a Python string without lone surrogates is one too -/
theorem humanQuote_pyStr (o : Oracles) (uns : Str) (hu : ∀ c ∈ uns, c < 128) (s r : Str)
    (hs : PyStr s) (hn : NoSurrogate s) (h : humanQuote o s uns = .ok r) : PyStr r ∧ NoSurrogate r :=
  lit_pyStr (lit := fun _ => false) hu hs hn h

/-- a character that is unsafe in its position, or not printable, never appears literally -/
theorem humanQuote_avoid (o : Oracles) (uns : Str) (hu : ∀ c ∈ uns, c < 128) (s r : Str)
    (hs : PyStr s) (h : humanQuote o s uns = .ok r) (d : Nat) (h37 : d ≠ 37)
    (hx : isUpperHexDigit d = false) (hbad : mem d uns = true ∨ d < 32 ∨ d = 127) : d ∉ r :=
  lit_not_mem (lit := fun _ => false) hu hs h (litChars_false uns s) h37 hx (hbad.imp_right fun hc => ⟨hc, nofun⟩)

theorem humanQuote_ne_nil (o : Oracles) (uns : Str) (s r : Str) (hs : PyStr s) (h0 : s ≠ [])
    (h : humanQuote o s uns = .ok r) : r ≠ [] :=
  lit_ne_nil (lit := fun _ => false) hs h0 h

/-- the human form of a user or password has none of the characters of `userBad` -/
theorem humanPart_of {o : Oracles} {x y : Option Str} (hx : UText x)
    (h : humanQuoteOpt o x (humanUnsafeOf "user") = .ok y) : HumanPart y := by
  intro r hr d hd
  rcases humanQuoteOpt_ok h with ⟨_, rfl⟩ | ⟨s, r', rfl, rfl, hq⟩
  · cases hr
  · cases hr
    obtain ⟨h2, h3, h4⟩ := userBad_tab d hd
    exact humanQuote_avoid o _ user_unsafe_ascii s r (hx s rfl).1 hq d h2 h3 (h4.imp_right fun h => Or.inl (by omega))

theorem humanPart_ne_nil {o : Oracles} {x y : Option Str} {L : Str} (hx : UText x)
    (hne : ∀ s, x = some s → s ≠ []) (h : humanQuoteOpt o x L = .ok y) : ∀ r, y = some r → r ≠ [] := by
  intro r hr
  rcases humanQuoteOpt_ok h with ⟨_, rfl⟩ | ⟨s, r', rfl, rfl, hq⟩
  · cases hr
  · cases hr
    exact humanQuote_ne_nil o _ s r (hx s rfl).1 (hne s rfl) hq

end HumanLemmas

end Yarl
