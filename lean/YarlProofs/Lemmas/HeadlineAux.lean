/-
  HeadlineAux.lean — the two pieces of vocabulary shared by the `CxxHeadline.lean` audit files.
-/
import YarlModel
import YarlProofs.Lemmas.NetlocLemmas
namespace Yarl
namespace HeadB
open NetlocLemmas

/-- "`u` is a URL whose authority is the text `make_netloc` writes for (user, pw, h, port)":
    * `pre`    — no pre-filled constructor cache (true of every `build` / modifier / `encoded=True`
                 result: `C09_no_prefill`, `C09_modifiers_no_prefill`; for the auto-encoding constructor
                 the cache equals the lazy values: `C09_eager_eq_lazy`);
    * `netloc` — the stored authority is `[user[:pw]@]host[:port]`, host in brackets iff it contains ':';
    * `user`   — a present user is non-empty and has no ':'  (`UserOK`);
    * `host`   — the host is non-empty, without '@' '[' ']'   (`HostOK`);
    * `port`   — a present port is at most 65535.
    Every authority the library itself writes has this form (`NetlocCanon`, C03Reach.lean). -/
structure Written (qf : Str → Str) (u : Url) (user pw : Option Str) (h : Str) (port : Option Nat) : Prop where
  pre : u.pre = none
  netloc : u.netloc = makeNetloc qf user pw (some (bracket h)) port false
  user : UserOK user
  host : HostOK h
  port : ∀ p, port = some p → p ≤ 65535

theorem Written.eq {qf : Str → Str} {u : Url} {user pw : Option Str} {h : Str} {port : Option Nat}
    (w : Written qf u user pw h port) :
    u = fromParts u.scheme (makeNetloc qf user pw (some (bracket h)) port false) u.path u.query u.fragment := by
  have h1 := w.pre; have h2 := w.netloc
  cases u; simp only at h1 h2; subst h1 h2; rfl

theorem Written.net {e : Env} {qf : Str → Str} {u : Url} {user pw : Option Str} {h : Str} {port : Option Nat}
    (w : Written qf u user pw h port) :
    net e u = .ok { rawHost := some h, explicitPort := port, rawUser := user, rawPassword := pw } :=
  net_written_bracket w.netloc w.user w.host w.port (.inl w.pre)

end HeadB
end Yarl
