/-
  SpellPos.lean — what a requoting table does with an ASCII character compared with a non-requoting one, as data: a
  spelling POSITION `R12d.Pos`, the three positions of a URL (`pathPos`, `plainPos`, `queryPos`) and, by ONE
  computation over each generated pair of tables, that the position describes the pair (`R12d.Describes`: `path_litOK` …).
  The spelling relation (C18More3Spell.lean) and the table conditions of the literal round trip (C18More3.lean) are read
  off these.  (`R12d`: see the header of Lemmas/HumanLemmas.lean.  `R12d.Describes` is not `R12.LitOK`, the condition on
  the characters left literal in a decoded text.)
-/
import YarlProofs.Lemmas.GenTabs
namespace Yarl
namespace R12d

/-- A spelling POSITION, as two pieces of data about ASCII characters (`c < 128`, all that a table can say):
    `lit c` — the decoded character that a LITERAL `c` (other than '%') of the written text stands for, if any;
    `esc c` — may the decoded character `c` be written as the escape `%XY`?
    (A literal non-ASCII character always stands for itself, and a non-ASCII character may always be written as the
    escapes of its UTF-8 bytes: `litF`, `escF`.) -/
structure Pos where
  lit : Nat → Option Nat
  esc : Nat → Bool

def Pos.litF (P : Pos) (c : Nat) : Option Nat := if c < 128 then P.lit c else some c
def Pos.escF (P : Pos) (c : Nat) : Bool := if c < 128 then P.esc c else true

/-- PATH (`PATH_REQUOTER` against `PATH_QUOTER`): every literal character stands for itself; every character EXCEPT the
    protected '/' and '+' may be written as an escape (`%2F` stays `%2F`, which the quoter never writes for '/') -/
def pathPos : Pos := ⟨fun c => some c, fun c => c != 47 && c != 43⟩

/-- FRAGMENT (`FRAGMENT_REQUOTER` / `FRAGMENT_QUOTER`) and USERINFO (`REQUOTER` / `QUOTER`): every literal character
    stands for itself, every character may be escaped -/
def plainPos : Pos := ⟨fun c => some c, fun _ => true⟩

/-- QUERY KEY / VALUE (`QUERY_REQUOTER` against `QUERY_PART_QUOTER`): a literal ' ' and a literal '+' both stand for a
    SPACE; a literal '=', '&' or ';' stands for NOTHING (the part quoter escapes them); every other literal stands for
    itself; every character EXCEPT the space may be escaped (`%20` stays `%20`, the quoter writes '+'; `%2B`, `%3D`,
    `%26`, `%3B` are THE spellings of '+', '=', '&', ';') -/
def queryPos : Pos :=
  ⟨fun c => if c = 32 ∨ c = 43 then some 32 else if c = 61 ∨ c = 38 ∨ c = 59 then none else some c, fun c => c != 32⟩

/-- the explicit position `P` describes the pair of tables on the ASCII character `c` (decidable) -/
def Describes (t t' : QTab) (P : Pos) (c : Nat) : Prop :=
  (match P.lit c with
    | some c' => c' < 128 ∧ cWriteOut t c = cWriteOut t' c'
    | none => ∀ c', c' < 128 → cWriteOut t c ≠ cWriteOut t' c') ∧
  P.esc c = (cEscOut t c == cWriteOut t' c)

instance (t t' : QTab) (P : Pos) (c : Nat) : Decidable (Describes t t' P c) := by
  unfold Describes; cases P.lit c <;> infer_instance

theorem path_litOK : ∀ c, c < 128 → Describes Gen.PATH_REQUOTER.tabC Gen.PATH_QUOTER.tabC pathPos c := by
  decide +kernel
theorem fragment_litOK : ∀ c, c < 128 → Describes Gen.FRAGMENT_REQUOTER.tabC Gen.FRAGMENT_QUOTER.tabC plainPos c := by
  decide +kernel
theorem user_litOK : ∀ c, c < 128 → Describes Gen.REQUOTER.tabC Gen.QUOTER.tabC plainPos c := by
  decide +kernel
theorem query_litOK : ∀ c, c < 128 → Describes Gen.QUERY_REQUOTER.tabC Gen.QUERY_PART_QUOTER.tabC queryPos c := by
  decide +kernel

end R12d
end Yarl
