/-
  BuildShape.lean — `build` taken apart.  `build_eq` states `build` through its pieces: the argument checks as the
  exception they raise (`C07_buildArgCheck`), the query argument (`C07_buildQueryString`), and for `encoded=False` the
  authority under the lowered scheme (`buildNetloc`), the path (`buildPath`), query and fragment.  `build_false_ok` reads
  a successful `build(encoded=False)` backwards in one step; `build_of` is the same forwards.  Each piece has its own
  closed form: the stored authority is always a `make_netloc` text (`buildNetloc_host`, `buildNetloc_authority`,
  `buildNetloc_none`), `buildPath_ok` is the graph of the path step, `build_query_shape` the stored query in both modes.
-/
import YarlModel
import YarlProofs.Lemmas.Basics
import YarlProofs.Lemmas.NetlocLemmas
namespace Yarl
open NetlocLemmas

/-- the argument checks of `URL.build`, in source order (`none` = all passed); they do not depend on `encoded` -/
def C07_buildArgCheck (a : BuildArgs) : Option PyErr :=
  -- `port is not None` (a port of 0 counts: both checks test `port is not None`, not the truthiness of `port`)
  let portTruthy := match a.portKind, a.port with
    | 0, none => false
    | _, _ => true
  -- 'Can't mix "authority" with "user", "password", "host" or "port".'
  if !a.authority.isEmpty && (a.user.any (!·.isEmpty) || a.password.any (!·.isEmpty) || !a.host.isEmpty || portTruthy) then
    some .valueError
  -- "The port is required to be int"
  else if a.portKind ≠ 0 then some .typeError
  -- "port must be between 0 and 65535"
  else if (match a.port with | some p => !(0 ≤ p ∧ p ≤ 65535) | none => false) then some .valueError
  -- 'Can't build URL with "port" but without "host".'
  else if portTruthy && a.host.isEmpty then some .valueError
  -- 'Only one of "query" or "query_string" should be passed'
  else if qargTruthy a.query && !a.queryString.isEmpty then some .valueError
  else none

/-- the query text `build` stores in BOTH modes before `encoded` is looked at: `get_str_query(query) or ""` for a
    truthy `query=`, else `query_string=` as given -/
def C07_buildQueryString (e : Env) (a : BuildArgs) : R Str :=
  if qargTruthy a.query then (getStrQuery e.b a.query).map (fun r => r.getD []) else .ok a.queryString

/-- the port `str` writes: the scheme's default port is dropped -/
def strPort (scheme : Str) (port : Option Nat) : Option Nat :=
  match port with
  | some p => if some p = defaultPort scheme then none else some p
  | none => none

theorem strPort_default {scheme : Str} {p : Nat} (h : some p = defaultPort scheme) : strPort scheme (some p) = none :=
  if_pos h

theorem strPort_other {scheme : Str} {port : Option Nat} (h : ∀ p, port = some p → some p ≠ defaultPort scheme) :
    strPort scheme port = port := by
  cases port with
  | none => rfl
  | some p => exact if_neg (h p rfl)

/-- `str` drops the port, or the port is not the default one and is written -/
theorem strPort_cases (scheme : Str) (port : Option Nat) :
    strPort scheme port = none ∨
      (strPort scheme port = port ∧ ∀ p, port = some p → some p ≠ defaultPort scheme) := by
  cases port with
  | none => exact Or.inl rfl
  | some p =>
    by_cases hd : some p = defaultPort scheme
    · exact Or.inl (strPort_default hd)
    · have hn : ∀ q, some p = some q → some q ≠ defaultPort scheme := fun q hq => by cases hq; exact hd
      exact Or.inr ⟨strPort_other hn, hn⟩

theorem strPort_idem (scheme : Str) (port : Option Nat) :
    strPort scheme (strPort scheme port) = strPort scheme port := by
  rcases strPort_cases scheme port with h | ⟨h, _⟩
  · rw [h]; rfl
  · rw [h]; exact h

theorem strPort_notDefault (scheme : Str) (port : Option Nat) :
    ∀ p, strPort scheme port = some p → some p ≠ defaultPort scheme := by
  intro p hp
  rcases strPort_cases scheme port with h | ⟨h, hn⟩
  · rw [h] at hp; cases hp
  · exact hn p (h.symm.trans hp)

theorem strPort_range (scheme : Str) (port : Option Nat) (h : ∀ p, port = some p → p ≤ 65535) :
    ∀ p, strPort scheme port = some p → p ≤ 65535 := by
  intro p hp
  rcases strPort_cases scheme port with h' | ⟨h', _⟩
  · rw [h'] at hp; cases hp
  · exact h p (h'.symm.trans hp)

namespace StrTotal

/-- the host text as it is written into the netloc: `b` says that the host part of the input
    (the text after the last '@') contained a '[' -/
def rebracket (b : Bool) (h1 : Str) : Str := if b && !mem 91 h1 then [91] ++ h1 ++ [93] else h1

end StrTotal

/-- the authority of `build(encoded=False)`; `sc` is the lowered scheme.  `host[:port]` is spelled as in the model
    (`hostPortStr` lists the two cases in the other order), so that `buildBody` is the rest of `build` by `rfl`;
    `netlocForms_eq` turns it into `make_netloc`. -/
def buildNetloc (e : Env) (sc : Str) (a : BuildArgs) : R Str :=
  if !a.authority.isEmpty then do
    if !isAscii a.authority then checkNetloc e.o a.authority
    let np ← splitNetloc e.o a.authority
    let h1 ← (match np.host with
      | some h => encodeHost e.o h false
      | none => pure [] : R Str)
    let h := StrTotal.rebracket (mem 91 (rpartition 64 a.authority).2.2) h1
    let port := strPort sc np.port
    if np.user.isNone && np.password.isNone then
      pure (match port with | none => h | some p => h ++ [58] ++ natToStr p)
    else pure (makeNetloc (q e Gen.QUOTER) np.user np.password (some h) port true)
  else if !a.host.isEmpty then do
    let h ← encodeHost e.o a.host true
    let port := strPort sc (a.port.map Int.toNat)
    if a.user.isNone && a.password.isNone then
      pure (match port with | none => h | some p => h ++ [58] ++ natToStr p)
    else pure (makeNetloc (q e Gen.QUOTER) a.user a.password (some h) port true)
  else pure []

/-- the quoted `path=` argument (an empty one is stored as it is) -/
def buildPath0 (e : Env) (path : Str) : Str := if path.isEmpty then path else q e Gen.PATH_QUOTER path

/-- the stored path of `build(encoded=False)` under the authority `netloc` -/
def buildPath (e : Env) (netloc path : Str) : R Str :=
  if !(buildPath0 e path).isEmpty && !netloc.isEmpty then
    match buildPath0 e path with
    | 47 :: _ => pure (if mem 46 (buildPath0 e path) then normalizePath (buildPath0 e path) else buildPath0 e path)
    | _ => .error .valueError
  else pure (buildPath0 e path)

def buildQuery (e : Env) (a : BuildArgs) (qs : Str) : Str :=
  if !qargTruthy a.query && !qs.isEmpty then q e Gen.QUERY_QUOTER qs else qs

def buildFragment (e : Env) (f : Str) : Str := if f.isEmpty then f else q e Gen.FRAGMENT_QUOTER f

/-- `build` past its argument checks -/
def buildBody (e : Env) (a : BuildArgs) : R Url := do
  let qs ← C07_buildQueryString e a
  if a.encoded then pure (buildPreEncoded e a (a.port.map Int.toNat) qs)
  else do
    let sc ← lowerAny e a.scheme
    let nl ← buildNetloc e sc a
    let p ← buildPath e nl a.path
    pure (fromParts sc nl p (buildQuery e a qs) (buildFragment e a.fragment))

theorem build_eq (e : Env) (a : BuildArgs) :
    build e a = match C07_buildArgCheck a with
      | some err => .error err
      | none => buildBody e a :=
  guard_match (guard_match (guard_match (guard_match (guard_match rfl))))


/-! ### reading `build` backwards and forwards -/

theorem build_checked {e : Env} {a : BuildArgs} {u : Url} (h : build e a = .ok u) :
    C07_buildArgCheck a = none ∧ buildBody e a = .ok u := by
  rw [build_eq] at h
  cases hs : C07_buildArgCheck a with
  | some err => rw [hs] at h; cases h
  | none => rw [hs] at h; exact ⟨rfl, h⟩

theorem build_of_check {e : Env} {a : BuildArgs} {err : PyErr} (h : C07_buildArgCheck a = some err) :
    build e a = .error err := by
  rw [build_eq, h]

theorem build_of_query_error {e : Env} {a : BuildArgs} {err : PyErr} (hc : C07_buildArgCheck a = none)
    (hq : C07_buildQueryString e a = .error err) : build e a = .error err := by
  rw [build_eq, hc]
  show buildBody e a = _
  unfold buildBody
  rw [hq]
  rfl

/-- with an `int` (or no) port every argument check raises ValueError -/
theorem argCheck_valueError {a : BuildArgs} {err : PyErr} (hk : a.portKind = 0) (h : C07_buildArgCheck a = some err) :
    err = .valueError := by
  rcases guard_some h with ⟨_, rfl⟩ | ⟨_, h⟩
  · rfl
  rcases guard_some h with ⟨hc, _⟩ | ⟨_, h⟩
  · exact absurd hk hc
  rcases guard_some h with ⟨_, rfl⟩ | ⟨_, h⟩
  · rfl
  rcases guard_some h with ⟨_, rfl⟩ | ⟨_, h⟩
  · rfl
  rcases guard_some h with ⟨_, rfl⟩ | ⟨_, h⟩
  · rfl
  cases h

/-- what passes the argument checks: an `int` port (or none) in range -/
theorem argCheck_port {a : BuildArgs} (h : C07_buildArgCheck a = none) :
    ∀ p, a.port.map Int.toNat = some p → p ≤ 65535 := by
  obtain ⟨_, h⟩ := guard_none h
  obtain ⟨_, h⟩ := guard_none h
  obtain ⟨hr, _⟩ := guard_none h
  intro p hp
  cases hport : a.port with
  | none => rw [hport] at hp; cases hp
  | some i =>
    rw [hport] at hp hr
    simp only [Option.map_some, Option.some.injEq] at hp
    simp only [Bool.not_eq_true', decide_eq_false_iff_not, Classical.not_not] at hr
    omega

/-- what passes the argument checks: not both `query=` and `query_string=` -/
theorem argCheck_query (a : BuildArgs) (h : C07_buildArgCheck a = none) :
    (qargTruthy a.query && !a.queryString.isEmpty) = false := by
  obtain ⟨_, h⟩ := guard_none h
  obtain ⟨_, h⟩ := guard_none h
  obtain ⟨_, h⟩ := guard_none h
  obtain ⟨_, h⟩ := guard_none h
  exact (Bool.not_eq_true _).mp (guard_none h).1

/-- a successful `build(encoded=False)`: the stored scheme is the lowered one, and each stored part is its piece -/
theorem build_false_ok {e : Env} {a : BuildArgs} {u : Url} (henc : a.encoded = false) (h : build e a = .ok u) :
    ∃ qs, C07_buildArgCheck a = none ∧ C07_buildQueryString e a = .ok qs ∧ lowerAny e a.scheme = .ok u.scheme ∧
      buildNetloc e u.scheme a = .ok u.netloc ∧ buildPath e u.netloc a.path = .ok u.path ∧
      u.query = buildQuery e a qs ∧ u.fragment = buildFragment e a.fragment ∧ u.pre = none := by
  obtain ⟨hs, h⟩ := build_checked h
  obtain ⟨qs, hqs, h⟩ := bind_ok h
  rw [henc, if_neg (by decide)] at h
  obtain ⟨sc, hsc, h⟩ := bind_ok h
  obtain ⟨nl, hnl, h⟩ := bind_ok h
  obtain ⟨p, hp, h⟩ := bind_ok h
  cases h
  exact ⟨qs, hs, hqs, hsc, hnl, hp, rfl, rfl, rfl⟩

/-- a successful `build(encoded=True)`: the arguments as `build_pre_encoded_url` stores them -/
theorem build_true_ok {e : Env} {a : BuildArgs} {u : Url} (henc : a.encoded = true) (h : build e a = .ok u) :
    ∃ qs, C07_buildArgCheck a = none ∧ C07_buildQueryString e a = .ok qs ∧
      u = buildPreEncoded e a (a.port.map Int.toNat) qs := by
  obtain ⟨hs, h⟩ := build_checked h
  obtain ⟨qs, hqs, h⟩ := bind_ok h
  rw [henc, if_pos rfl] at h
  exact ⟨qs, hs, hqs, (Except.ok.inj h).symm⟩

/-- `build` ends in `from_parts` in both modes: no cache is pre-filled -/
theorem build_pre {e : Env} {a : BuildArgs} {u : Url} (h : build e a = .ok u) : u.pre = none := by
  cases henc : a.encoded with
  | true =>
    obtain ⟨_, _, _, rfl⟩ := build_true_ok henc h
    rfl
  | false =>
    obtain ⟨_, _, _, _, _, _, _, _, hpre⟩ := build_false_ok henc h
    exact hpre

theorem build_of {e : Env} {a : BuildArgs} {qs sc nl p : Str} (henc : a.encoded = false)
    (hs : C07_buildArgCheck a = none) (hqs : C07_buildQueryString e a = .ok qs) (hsc : lowerAny e a.scheme = .ok sc)
    (hnl : buildNetloc e sc a = .ok nl) (hp : buildPath e nl a.path = .ok p) :
    build e a = .ok (fromParts sc nl p (buildQuery e a qs) (buildFragment e a.fragment)) := by
  rw [build_eq, hs]
  unfold buildBody
  simp only [hqs, bind, Except.bind, if_neg (Bool.eq_false_iff.mp henc), hsc, hnl, hp]
  rfl

/-! ### the pieces -/

theorem buildQueryString_truthy {e : Env} {a : BuildArgs} {qs : Str} (ht : qargTruthy a.query = true)
    (h : C07_buildQueryString e a = .ok qs) : ∃ o, getStrQuery e.b a.query = .ok o ∧ qs = o.getD [] := by
  unfold C07_buildQueryString at h
  rw [if_pos ht] at h
  obtain ⟨o, ho, h⟩ := map_ok h
  exact ⟨o, ho, h.symm⟩

theorem buildQueryString_falsy {e : Env} {a : BuildArgs} (ht : qargTruthy a.query = false) :
    C07_buildQueryString e a = .ok a.queryString := by
  unfold C07_buildQueryString
  rw [if_neg (by rw [ht]; decide)]

theorem buildQueryString_ok_of {e : Env} {a : BuildArgs}
    (hq : qargTruthy a.query = true → ∃ o, getStrQuery e.b a.query = .ok o) :
    ∃ qs, C07_buildQueryString e a = .ok qs := by
  unfold C07_buildQueryString
  by_cases ht : qargTruthy a.query = true
  · obtain ⟨o, ho⟩ := hq ht
    exact ⟨o.getD [], by rw [if_pos ht, ho]; rfl⟩
  · exact ⟨a.queryString, by rw [if_neg ht]⟩

/-- the query a successful `build` stores (both `encoded=` modes): a truthy `query=` as `get_str_query` renders it,
    otherwise `query_string=`, quoted unless `encoded` -/
theorem build_query_shape {e : Env} {a : BuildArgs} {u : Url} (h : build e a = .ok u) :
    (qargTruthy a.query = true → ∃ o, getStrQuery e.b a.query = .ok o ∧ u.query = o.getD []) ∧
    (qargTruthy a.query = false →
      u.query = (if a.encoded = false ∧ a.queryString ≠ [] then q e Gen.QUERY_QUOTER a.queryString
                 else a.queryString)) := by
  obtain ⟨-, h⟩ := build_checked h
  obtain ⟨qs, hqs, h⟩ := bind_ok h
  have hq : u.query = if a.encoded then qs else buildQuery e a qs := by
    cases henc : a.encoded with
    | true => rw [henc] at h; cases h; rfl
    | false =>
      rw [henc, if_neg (by decide)] at h
      obtain ⟨sc, -, h⟩ := bind_ok h
      obtain ⟨nl, -, h⟩ := bind_ok h
      obtain ⟨p, -, h⟩ := bind_ok h
      cases h; rfl
  constructor
  · intro ht
    obtain ⟨o, ho, rfl⟩ := buildQueryString_truthy ht hqs
    refine ⟨o, ho, ?_⟩
    rw [hq]; unfold buildQuery; simp [ht]
  · intro ht
    rw [buildQueryString_falsy ht] at hqs
    cases hqs
    rw [hq]; unfold buildQuery
    cases a.encoded <;> cases a.queryString <;> simp [ht]

/-- `build(host=…)`: the authority is the `make_netloc` text around the validated host, the default port of the
    (lowered) scheme dropped -/
theorem buildNetloc_host {e : Env} {sc : Str} {a : BuildArgs} (hauth : a.authority = []) (hhost : a.host ≠ []) :
    buildNetloc e sc a = encodeHost e.o a.host true >>= fun h => pure
      (makeNetloc (q e Gen.QUOTER) a.user a.password (some h) (strPort sc (a.port.map Int.toNat)) true) := by
  unfold buildNetloc
  rw [hauth, if_neg (by decide), if_pos (not_isEmpty_of_ne_nil hhost)]
  cases encodeHost e.o a.host true with
  | error err => rfl
  | ok h => exact netlocForms_eq ..

/-- `build(authority=…)`: the NFKC screen of a non-ASCII text, the split, the host through `_encode_host` without
    validation and back into the brackets the input had; the authority is again a `make_netloc` text -/
theorem buildNetloc_authority_eq {e : Env} {sc : Str} {a : BuildArgs} (hauth : a.authority ≠ []) :
    buildNetloc e sc a =
      (if isAscii a.authority then pure () else checkNetloc e.o a.authority) >>= fun _ =>
      splitNetloc e.o a.authority >>= fun np =>
      (match np.host with
        | some h => encodeHost e.o h false
        | none => pure [] : R Str) >>= fun h1 => pure
      (makeNetloc (q e Gen.QUOTER) np.user np.password
        (some (StrTotal.rebracket (mem 91 (rpartition 64 a.authority).2.2) h1)) (strPort sc np.port) true) := by
  have key := bind_congr (x := splitNetloc e.o a.authority) fun np =>
    bind_congr (x := (match np.host with
      | some h => encodeHost e.o h false
      | none => pure [] : R Str)) fun h1 =>
    netlocForms_eq (q e Gen.QUOTER) np.user np.password
      (StrTotal.rebracket (mem 91 (rpartition 64 a.authority).2.2) h1) (strPort sc np.port) true
  unfold buildNetloc
  rw [if_pos (not_isEmpty_of_ne_nil hauth)]
  cases isAscii a.authority with
  | true => exact key
  | false => exact congrArg (fun k => checkNetloc e.o a.authority >>= fun _ => k) key

theorem buildNetloc_authority {e : Env} {sc : Str} {a : BuildArgs} {nl : Str} (hauth : a.authority ≠ [])
    (h : buildNetloc e sc a = .ok nl) :
    (isAscii a.authority = false → checkNetloc e.o a.authority = .ok ()) ∧
    ∃ np h1, splitNetloc e.o a.authority = .ok np ∧
      (match np.host with
        | some h => encodeHost e.o h false
        | none => pure [] : R Str) = .ok h1 ∧
      nl = makeNetloc (q e Gen.QUOTER) np.user np.password
        (some (StrTotal.rebracket (mem 91 (rpartition 64 a.authority).2.2) h1)) (strPort sc np.port) true := by
  rw [buildNetloc_authority_eq hauth] at h
  obtain ⟨_, hscreen, h⟩ := bind_ok h
  obtain ⟨np, hnp, h⟩ := bind_ok h
  obtain ⟨h1, hh1, h⟩ := bind_ok h
  refine ⟨fun ha => ?_, np, h1, hnp, hh1, (Except.ok.inj h).symm⟩
  rw [ha] at hscreen
  exact hscreen

/-- in front of the authority step nothing but ValueError can be raised once the port is an `int` (or none), the
    `query=` argument converts and the scheme can be lowered: an authority step that raises ValueError makes `build`
    raise it -/
theorem build_valueError_of_netloc {e : Env} {a : BuildArgs} {sc : Str} (henc : a.encoded = false)
    (hk : a.portKind = 0) (hq : qargTruthy a.query = true → ∃ o, getStrQuery e.b a.query = .ok o)
    (hsc : lowerAny e a.scheme = .ok sc) (hnl : buildNetloc e sc a = .error .valueError) :
    build e a = .error .valueError := by
  rw [build_eq]
  cases hc : C07_buildArgCheck a with
  | some err => rw [argCheck_valueError hk hc]
  | none =>
    obtain ⟨qs, hqs⟩ := buildQueryString_ok_of hq
    show buildBody e a = _
    unfold buildBody
    rw [hqs, henc]
    simp only [bind, Except.bind, Bool.false_eq_true, if_false, hsc, hnl]

theorem buildNetloc_none {e : Env} {sc : Str} {a : BuildArgs} (hauth : a.authority = []) (hhost : a.host = []) :
    buildNetloc e sc a = .ok [] := by
  unfold buildNetloc
  rw [hauth, hhost]; rfl

/-- the test for an empty `path=` changes nothing: the quoter writes nothing for the empty text -/
theorem buildPath0_eq (e : Env) (path : Str) : buildPath0 e path = q e Gen.PATH_QUOTER path := by
  unfold buildPath0
  split
  · rename_i he
    rw [List.isEmpty_iff.mp he]
    exact (Gen.PATH_QUOTER.run_nil e.b).symm
  · rfl

/-- the test for an empty `fragment=` changes nothing -/
theorem buildFragment_eq (e : Env) (f : Str) : buildFragment e f = q e Gen.FRAGMENT_QUOTER f := by
  unfold buildFragment
  split
  · rename_i he
    rw [List.isEmpty_iff.mp he]
    exact (Gen.FRAGMENT_QUOTER.run_nil e.b).symm
  · rfl

/-- the stored path: without an authority, or when empty, the quoted argument as it is; under an authority it was
    rooted and went through the guarded dot-segment removal -/
theorem buildPath_ok {e : Env} {netloc path p : Str} (h : buildPath e netloc path = .ok p) :
    ((netloc = [] ∨ buildPath0 e path = []) ∧ p = buildPath0 e path) ∨
    (netloc ≠ [] ∧ (∃ r, buildPath0 e path = 47 :: r) ∧
      p = if mem 46 (buildPath0 e path) then normalizePath (buildPath0 e path) else buildPath0 e path) := by
  unfold buildPath at h
  split at h
  · rename_i hc
    simp only [Bool.and_eq_true, Bool.not_eq_eq_eq_not, Bool.not_true, List.isEmpty_eq_false_iff] at hc
    split at h
    · rename_i r hr
      exact .inr ⟨hc.2, ⟨r, hr⟩, (Except.ok.inj h).symm⟩
    · cases h
  · rename_i hc
    refine .inl ⟨?_, (Except.ok.inj h).symm⟩
    by_cases hn : netloc = []
    · exact .inl hn
    · by_cases hp : buildPath0 e path = []
      · exact .inr hp
      · exact absurd (by simp [hn, hp]) hc

end Yarl
