/-
  TokLemmas.lean — the token reading of percent-encoded text, on which the whole of C02 at quoter level rests.
  `btoks s` parses `s` into byte tokens (an escape %XY, or a literal byte); percent-decoding is `map BTok.val`,
  form-decoding `map C02_formVal`.  A quoting table acts on tokens one by one: `btoks (cOut t s)` is the token
  list the quoter reads (`btoks s` when requoting, the UTF-8 bytes as literals otherwise) mapped by `tokOut t`
  (`btoks_cOut`, `btoks_cOut_nr`).  Decoded values, delimiter positions and delimiter counts are per-token facts
  about `tokOut` carried through `List.map`.  Also: the relational form `TokRel` / `TokRelNR` of `tokOut` (the
  statements that relate two token lists by it are in C02Tokens.lean), and splitting at a literal delimiter.
  The hex-digit facts and the bundle `Tracked` stand in namespace `WfLemmas`, with the C02 helpers of
  C02.lean that their users open.
-/
import YarlModel
import YarlProofs.Lemmas.QsLemmas
import YarlProofs.Lemmas.Canon
namespace Yarl

open OutLangLemmas QsLemmas

/-- byte-level tokens of a string: `esc b` for a valid escape %XY of byte b (either hex
    case), `lit b` for every other byte of the UTF-8 form (a '%' that starts no escape is
    `lit 37`) -/
inductive BTok where
  | esc (b : Nat)
  | lit (b : Nat)
  deriving DecidableEq, Repr

/-- the byte a token stands for -/
def BTok.val : BTok → Nat
  | .esc b => b
  | .lit b => b

-- `h` of `match h :` below is read by `decreasing_by` only
set_option linter.unusedVariables false in
/-- walk the code points exactly as `pctDecode` / `cOut` do: '%' followed by two hex digits
    is one escape token; every other code point contributes its UTF-8 bytes as literals -/
def btoks : Str → List BTok
  | [] => []
  | c :: rest =>
    if c = 37 then
      match h : takeEscape restoreCh rest with
      | some (v, _, _, rest') => .esc v :: btoks rest'
      | none => .lit 37 :: btoks rest
    else (utf8 c).map .lit ++ btoks rest
termination_by l => l.length
decreasing_by
  all_goals simp_wf
  all_goals (try have := takeEscape_length h)
  all_goals omega

/-- how one input token may be rewritten by a requoting table -/
def TokRel (t : QTab) : BTok → BTok → Prop
  | .esc b, .esc b' => b' = b ∧ (128 ≤ b ∨ t.safe b = false ∨ t.prot b = true)
  | .esc b, .lit b' => b' = b ∧ b < 128 ∧ t.safe b = true ∧ t.prot b = false
  | .lit b, .lit b' => (b' = b ∧ b < 128 ∧ t.safe b = true ∧ ¬(t.qs = true ∧ b = 32)) ∨
      (t.qs = true ∧ b = 32 ∧ b' = 43)
  | .lit b, .esc b' => b' = b ∧ ¬ (b < 128 ∧ t.safe b = true) ∧ ¬ (t.qs = true ∧ b = 32)

/-- the non-requoting variant: the input consists of literal bytes only; each becomes a
    literal (if safe; space → '+' for qs) or its own escape; nothing is decoded -/
def TokRelNR (t : QTab) : BTok → BTok → Prop
  | .lit b, .lit b' => (b' = b ∧ b < 128 ∧ t.safe b = true ∧ ¬(t.qs = true ∧ b = 32)) ∨
      (t.qs = true ∧ b = 32 ∧ b' = 43)
  | .lit b, .esc b' => b' = b ∧ ¬ (b < 128 ∧ t.safe b = true) ∧ ¬ (t.qs = true ∧ b = 32)
  | .esc _, _ => False

instance (t : QTab) (a b : BTok) : Decidable (TokRel t a b) := by
  cases a <;> cases b <;> unfold TokRel <;> infer_instance

instance (t : QTab) (a b : BTok) : Decidable (TokRelNR t a b) := by
  cases a <;> cases b <;> unfold TokRelNR <;> infer_instance

/-- the one output token a requoting table allows for an input token -/
def tokOut (t : QTab) : BTok → BTok
  | .esc b => if b < 128 ∧ t.safe b = true ∧ t.prot b = false then .lit b else .esc b
  | .lit b =>
    if t.qs = true ∧ b = 32 then .lit 43
    else if b < 128 ∧ t.safe b = true then .lit b
    else .esc b

/-- the byte a token of a QUERY means under form-decoding: a literal '+' is a space, every other token its own byte -/
def C02_formVal : BTok → Nat
  | .lit b => if b = 43 then 32 else b
  | .esc b => b

namespace WfLemmas

theorem fromHex_isHexC {d a : Nat} (h : fromHex d = some a) : isHexC d = true := by
  unfold fromHex at h
  unfold isHexC isDigitC
  repeat' split at h
  all_goals simp_all
  all_goals omega

theorem restoreCh_isHexC {d1 d2 v : Nat} (h : restoreCh d1 d2 = some v) :
    isHexC d1 = true ∧ isHexC d2 = true := by
  unfold restoreCh at h
  split at h
  · rename_i a b ha hb
    exact ⟨fromHex_isHexC ha, fromHex_isHexC hb⟩
  · cases h

/-- the side conditions under which the literal occurrences of `c` are tracked exactly -/
structure Tracked (t : QTab) (c : Nat) : Prop where
  prot : t.prot c = true
  nothex : isHexC c = false
  noqs : t.qs = true → c ≠ 32 ∧ c ≠ 43

theorem Tracked.safe {t : QTab} (h : t.WF) {c : Nat} (k : Tracked t c) : t.safe c = true :=
  h.prot_safe c k.prot
theorem Tracked.lt {t : QTab} (h : t.WF) {c : Nat} (k : Tracked t c) : c < 128 :=
  h.safe_ascii c (k.safe h)
theorem Tracked.ne37 {t : QTab} (h : t.WF) {c : Nat} (k : Tracked t c) : c ≠ 37 :=
  safe_ne37 h (k.safe h)

end WfLemmas

open WfLemmas

namespace TokLemmas

/-! ### one-step unfoldings of `btoks` -/

theorem btoks_nil : btoks [] = [] := by rw [btoks]

theorem btoks_cons_ne {c : Nat} (hc : c ≠ 37) (r : Str) :
    btoks (c :: r) = (utf8 c).map .lit ++ btoks r := by
  rw [btoks]; simp only [hc, if_false]

theorem btoks_esc {rest rest' : Str} {v d1 d2 : Nat}
    (hm : takeEscape restoreCh rest = some (v, d1, d2, rest')) :
    btoks (37 :: rest) = .esc v :: btoks rest' := by
  rw [btoks]
  simp only [if_true]
  split <;> simp_all

theorem btoks_noesc {rest : Str} (hm : takeEscape restoreCh rest = none) :
    btoks (37 :: rest) = .lit 37 :: btoks rest := by
  rw [btoks]
  simp only [if_true]
  split <;> simp_all

/-- an ASCII character other than '%' is its own literal token -/
theorem btoks_ascii {c : Nat} (hc : c < 128) (h37 : c ≠ 37) (r : Str) :
    btoks (c :: r) = .lit c :: btoks r := by
  rw [btoks_cons_ne h37, utf8_ascii hc]; rfl

/-- an upper-case escape written by the quoter is one escape token -/
theorem btoks_pct {b : Nat} (hb : b < 256) (r : Str) : btoks (pct b ++ r) = .esc b :: btoks r := by
  simp only [pct, List.cons_append, List.nil_append]
  exact btoks_esc (Readback.takeEscape_toHex _ hb r)

theorem btoks_flatMap_pct (bs : List Nat) (hb : ∀ b ∈ bs, b < 256) (r : Str) :
    btoks (bs.flatMap pct ++ r) = bs.map .esc ++ btoks r := by
  induction bs with
  | nil => rfl
  | cons b bs ih =>
    rw [List.flatMap_cons, List.append_assoc, btoks_pct (hb b (by simp)),
      ih (fun x hx => hb x (by simp [hx]))]
    rfl

/-- the bytes the tokens stand for are the percent-decoded bytes -/
theorem btoks_val (s : Str) : (btoks s).map BTok.val = pctDecode s := by
  fun_induction pctDecode s with
  | case1 => rw [btoks_nil]; rfl
  | case2 rest v d1 d2 rest' hm ih =>
    rw [btoks_esc hm, List.map_cons, ih]; rfl
  | case3 rest hm ih =>
    rw [btoks_noesc hm, List.map_cons, ih]; rfl
  | case4 c rest hc ih =>
    rw [btoks_cons_ne hc, List.map_append, ih, List.map_map]
    congr 1
    exact List.map_id _

/-- form-decoding is the token-wise reading `C02_formVal` -/
theorem btoks_formVal (s : Str) : (btoks s).map C02_formVal = pctDecodeQs s := by
  fun_induction pctDecodeQs s with
  | case1 => rw [btoks_nil]; rfl
  | case2 rest v d1 d2 rest' hm ih =>
    rw [btoks_esc hm, List.map_cons, ih]; rfl
  | case3 rest hm ih =>
    rw [btoks_noesc hm, List.map_cons, ih]; rfl
  | case4 rest hc ih =>
    rw [btoks_cons_ne (by decide), List.map_append, ih]; rfl
  | case5 c rest hc hp ih =>
    rw [btoks_cons_ne hc, List.map_append, ih, List.map_map]
    congr 1
    have : ∀ b ∈ utf8 c, b ≠ 43 := by
      intro b hb
      by_cases h128 : c < 128
      · rw [utf8_ascii h128] at hb
        simp at hb; subst hb; exact hp
      · have := QuoteEquiv.utf8_high (c := c) (by omega) b hb
        omega
    conv => rhs; rw [← List.map_id (utf8 c)]
    apply List.map_congr_left
    intro b hb
    simp [C02_formVal, this b hb]

/-! ### the action of a table on tokens -/

theorem tokOut_esc (t : QTab) (b : Nat) :
    tokOut t (.esc b) = if b < 128 ∧ t.safe b = true ∧ t.prot b = false then .lit b else .esc b := rfl

theorem tokOut_lit (t : QTab) (b : Nat) :
    tokOut t (.lit b) =
      if t.qs = true ∧ b = 32 then .lit 43 else if b < 128 ∧ t.safe b = true then .lit b else .esc b := rfl

/-- a UTF-8 byte of `c` is `c` itself (ASCII) or a byte ≥ 128 -/
theorem utf8_byte_cases {c b : Nat} (hb : b ∈ utf8 c) : (b = c ∧ c < 128) ∨ 128 ≤ b := by
  by_cases hc : c < 128
  · rw [utf8_ascii hc] at hb
    exact Or.inl ⟨by simpa using hb, hc⟩
  · exact Or.inr (QuoteEquiv.utf8_high (c := c) (by omega) b hb)

/-- `_write(c)`: every UTF-8 byte of `c` is written as the token `tokOut` gives for that literal byte -/
theorem btoks_cWriteOut (t : QTab) (h : t.WF) (c : Nat) (r : Str) :
    btoks (cWriteOut t c ++ r) = (utf8 c).map (fun b => tokOut t (.lit b)) ++ btoks r := by
  unfold cWriteOut
  split
  · rename_i hq
    rw [hq.2, List.singleton_append, btoks_ascii (by decide) (by decide), utf8_ascii (by decide)]
    simp only [List.map_cons, List.map_nil, tokOut, hq.1, and_self, if_true]
    rfl
  · rename_i hq
    split
    · rename_i hs
      rw [List.singleton_append, btoks_ascii hs.1 (safe_ne37 h hs.2), utf8_ascii hs.1]
      simp only [List.map_cons, List.map_nil, tokOut, if_neg hq, if_pos hs]
      rfl
    · rename_i hs
      rw [writeUtf8, btoks_flatMap_pct _ (utf8_lt256 c)]
      congr 1
      apply List.map_congr_left
      intro b hb
      rcases utf8_byte_cases hb with ⟨rfl, _⟩ | hb
      · simp only [tokOut, if_neg hq, if_neg hs]
      · simp only [tokOut, if_neg (show ¬(t.qs = true ∧ b = 32) by omega),
          if_neg (show ¬(b < 128 ∧ t.safe b = true) by omega)]

/-- what is written for a decoded escape -/
theorem btoks_cEscOut (t : QTab) (h : t.WF) {v : Nat} (hv : v < 256) (r : Str) :
    btoks (cEscOut t v ++ r) = tokOut t (.esc v) :: btoks r := by
  rw [tokOut_esc]
  unfold cEscOut
  split
  · rename_i hp
    rw [btoks_pct hv, if_neg (by simp [hp.2])]
  · rename_i hnp
    split
    · rename_i hs
      have hp : t.prot v = false := by
        cases hp : t.prot v with
        | false => rfl
        | true => exact absurd ⟨hs.1, hp⟩ hnp
      rw [List.singleton_append, btoks_ascii hs.1 (safe_ne37 h hs.2), if_pos ⟨hs.1, hs.2, hp⟩]
    · rename_i hns
      rw [btoks_pct hv, if_neg (fun k => hns ⟨k.1, k.2.1⟩)]

/-- REQUOTING: the tokens of the output are the tokens of the input, each rewritten by `tokOut` -/
theorem btoks_cOut (t : QTab) (h : t.WF) (hreq : t.requote = true) (s : Str) :
    btoks (cOut t s) = (btoks s).map (tokOut t) := by
  fun_induction cOut t s with
  | case1 => rw [btoks_nil]; rfl
  | case2 c rest hc v d1 d2 rest' hm ih =>
    rw [hc.1, btoks_esc hm, btoks_cEscOut t h (Hex.restoreCh_lt (takeEscape_eq hm).2), ih]; rfl
  | case3 c rest hc hm ih =>
    rw [hc.1, btoks_noesc hm, btoks_cWriteOut t h, ih, utf8_ascii (by decide)]; rfl
  | case4 c rest hc ih =>
    rw [btoks_cons_ne (fun e => hc ⟨e, hreq⟩), btoks_cWriteOut t h, ih, List.map_append, List.map_map]; rfl

/-- … so an observation `g` of the output tokens is the observation `f` of the input tokens whenever `tokOut`
    turns the one into the other, token by token -/
theorem map_btoks_cOut {γ : Type} (t : QTab) (h : t.WF) (hreq : t.requote = true) (s : Str) (f g : BTok → γ)
    (hfg : ∀ x, g (tokOut t x) = f x) : (btoks (cOut t s)).map g = (btoks s).map f := by
  rw [btoks_cOut t h hreq s, List.map_map]
  exact List.map_congr_left fun x _ => hfg x

/-- NOT requoting: the input is read as literal bytes only ('%' included), nothing is decoded -/
theorem btoks_cOut_nr (t : QTab) (h : t.WF) (hnr : t.requote = false) (s : Str) :
    btoks (cOut t s) = (utf8s s).map (fun b => tokOut t (.lit b)) := by
  induction s with
  | nil => rw [cOut, btoks_nil]; rfl
  | cons c r ih => rw [cOut_nr_cons t hnr, btoks_cWriteOut t h, ih, QuoteEquiv.utf8s_cons, List.map_append]

/-- `TokRel t` holds between a token and what `tokOut t` makes of it (it is the graph of `tokOut`) -/
theorem tokRel_tokOut (t : QTab) (x : BTok) : TokRel t x (tokOut t x) := by
  cases x with
  | esc b =>
    rw [tokOut_esc]
    split
    · rename_i hc; exact ⟨rfl, hc⟩
    · rename_i hc
      refine ⟨rfl, ?_⟩
      by_cases h1 : 128 ≤ b
      · exact Or.inl h1
      · cases hs : t.safe b with
        | false => exact Or.inr (Or.inl rfl)
        | true =>
          cases hp : t.prot b with
          | true => exact Or.inr (Or.inr rfl)
          | false => exact absurd ⟨by omega, hs, hp⟩ hc
  | lit b =>
    rw [tokOut_lit]
    split
    · rename_i hc; exact Or.inr ⟨hc.1, hc.2, rfl⟩
    · rename_i hq
      split
      · rename_i hs; exact Or.inl ⟨rfl, hs.1, hs.2, hq⟩
      · rename_i hs; exact ⟨rfl, hs, hq⟩

theorem tokRelNR_tokOut (t : QTab) (b : Nat) : TokRelNR t (.lit b) (tokOut t (.lit b)) := by
  have := tokRel_tokOut t (.lit b)
  cases h : tokOut t (.lit b) <;> rw [h] at this <;> exact this

/-! ### how related tokens compare with a delimiter token -/

/-- a protected character that is neither the form-space nor the form-plus keeps its exact
    status in every related pair of tokens -/
theorem tokrel_delim {t : QTab} (h : t.WF) {d : Nat} (hd : t.prot d = true)
    (hq : t.qs = true → d ≠ 32 ∧ d ≠ 43) {x y : BTok} (hr : TokRel t x y) :
    (decide (x = .lit d) = decide (y = .lit d)) ∧ (decide (x = .esc d) = decide (y = .esc d)) := by
  have hsafe := h.prot_safe d hd
  have hlt := h.safe_ascii d hsafe
  cases x with
  | esc b =>
    cases y with
    | esc b' =>
      obtain ⟨rfl, _⟩ := hr
      exact ⟨rfl, rfl⟩
    | lit b' =>
      obtain ⟨rfl, _, _, hp⟩ := hr
      have hne : b' ≠ d := by rintro rfl; rw [hd] at hp; cases hp
      simp [hne]
  | lit b =>
    cases y with
    | lit b' =>
      rcases hr with ⟨rfl, _⟩ | ⟨hqs, rfl, rfl⟩
      · exact ⟨rfl, rfl⟩
      · have := hq hqs
        simp [Ne.symm this.1, Ne.symm this.2]
    | esc b' =>
      obtain ⟨rfl, hns, _⟩ := hr
      have hne : b' ≠ d := by rintro rfl; exact hns ⟨hlt, hsafe⟩
      simp [hne]

/-- '+' in a form table: the literal '+' of the output comes from a literal '+' or a literal
    space; the escape %2B stays the escape %2B -/
theorem tokrel_plus {t : QTab} (h : t.WF) (hqs : t.qs = true) (hp : t.prot 43 = true)
    {x y : BTok} (hr : TokRel t x y) :
    (decide (x = .lit 43 ∨ x = .lit 32) = decide (y = .lit 43)) ∧
    (decide (x = .esc 43) = decide (y = .esc 43)) := by
  have hsafe := h.prot_safe 43 hp
  cases x with
  | esc b =>
    cases y with
    | esc b' =>
      obtain ⟨rfl, _⟩ := hr
      simp
    | lit b' =>
      obtain ⟨rfl, _, _, hp'⟩ := hr
      have hne : b' ≠ 43 := by rintro rfl; rw [hp] at hp'; cases hp'
      simp [hne]
  | lit b =>
    cases y with
    | lit b' =>
      rcases hr with ⟨rfl, _, _, hn32⟩ | ⟨_, rfl, rfl⟩
      · have : b' ≠ 32 := fun e => hn32 ⟨hqs, e⟩
        simp [this]
      · simp
    | esc b' =>
      obtain ⟨rfl, hns, hn32⟩ := hr
      have hne : b' ≠ 43 := by rintro rfl; exact hns ⟨by decide, hsafe⟩
      have : b' ≠ 32 := fun e => hn32 ⟨hqs, e⟩
      simp [hne, this]

/-- requoting form table with protected '+': every token keeps its form-decoded byte -/
theorem tokrel_formVal {t : QTab} (h : t.WF) (hp : t.prot 43 = true) {x y : BTok} (hr : TokRel t x y) :
    C02_formVal y = C02_formVal x := by
  have hsafe := h.prot_safe 43 hp
  cases x with
  | esc b =>
    cases y with
    | esc b' => obtain ⟨rfl, _⟩ := hr; rfl
    | lit b' =>
      obtain ⟨rfl, _, _, hp'⟩ := hr
      have hne : b' ≠ 43 := by rintro rfl; rw [hp] at hp'; cases hp'
      simp [C02_formVal, hne]
  | lit b =>
    cases y with
    | lit b' =>
      rcases hr with ⟨rfl, _⟩ | ⟨_, rfl, rfl⟩
      · rfl
      · simp [C02_formVal]
    | esc b' =>
      obtain ⟨rfl, hns, _⟩ := hr
      have hne : b' ≠ 43 := by rintro rfl; exact hns ⟨by decide, hsafe⟩
      simp [C02_formVal, hne]

/-- a form table that does not keep the space: "%20" stays "%20", and no literal space is written -/
theorem tokrel_esc32 {t : QTab} (hqs : t.qs = true) (hsp : t.safe 32 = false) {x y : BTok}
    (hr : TokRel t x y) : decide (x = .esc 32) = decide (y = .esc 32) ∧ y ≠ .lit 32 := by
  cases x with
  | esc b =>
    cases y with
    | esc b' => obtain ⟨rfl, _⟩ := hr; exact ⟨rfl, by simp⟩
    | lit b' =>
      obtain ⟨rfl, _, hs, _⟩ := hr
      have hne : b' ≠ 32 := by rintro rfl; rw [hsp] at hs; cases hs
      simp [hne]
  | lit b =>
    cases y with
    | lit b' =>
      rcases hr with ⟨rfl, _, hs, _⟩ | ⟨_, rfl, rfl⟩
      · have hne : b' ≠ 32 := by rintro rfl; rw [hsp] at hs; cases hs
        simp [hne]
      · simp
    | esc b' =>
      obtain ⟨rfl, _, hn32⟩ := hr
      have hne : b' ≠ 32 := fun e => hn32 ⟨hqs, e⟩
      simp [hne]

theorem tokrelNR_delim {t : QTab} (h : t.WF) {d : Nat} (hd : t.safe d = true) (h32 : d ≠ 32) (h43 : d ≠ 43)
    {b : Nat} {y : BTok} (hr : TokRelNR t (.lit b) y) :
    decide (y = .lit d) = decide (b = d) ∧ y ≠ .esc d := by
  have hlt := h.safe_ascii d hd
  cases y with
  | lit b' =>
    rcases hr with ⟨rfl, _⟩ | ⟨_, rfl, rfl⟩
    · simp
    · simp [Ne.symm h32, Ne.symm h43]
  | esc b' =>
    obtain ⟨rfl, hns, _⟩ := hr
    have hne : b' ≠ d := by rintro rfl; exact hns ⟨hlt, hd⟩
    simp [hne]

/-- what a form table that keeps '+' literal writes for the literal byte `b`, as a token `y` -/
structure FormWritten (b : Nat) (y : BTok) : Prop where
  lit43 : decide (y = .lit 43) = decide (b = 43 ∨ b = 32)
  ne_esc43 : y ≠ .esc 43
  ne_esc32 : y ≠ .esc 32
  ne_lit32 : y ≠ .lit 32
  formVal : C02_formVal y = C02_formVal (.lit b)
  esc37 : decide (y = .esc 37) = decide (b = 37)

theorem tokrelNR_plus {t : QTab} (h : t.WF) (hqs : t.qs = true) (hp : t.safe 43 = true)
    {b : Nat} {y : BTok} (hr : TokRelNR t (.lit b) y) : FormWritten b y := by
  cases y with
  | lit b' =>
    rcases hr with ⟨rfl, _, hs, hn32⟩ | ⟨_, rfl, rfl⟩
    · have hne : b' ≠ 32 := fun e => hn32 ⟨hqs, e⟩
      have h37 : b' ≠ 37 := by rintro rfl; rw [h.pct_unsafe] at hs; cases hs
      refine ⟨?_, ?_, ?_, ?_, ?_, ?_⟩
      all_goals simp [hne, h37]
    · refine ⟨?_, ?_, ?_, ?_, ?_, ?_⟩
      all_goals simp [C02_formVal]
  | esc b' =>
    obtain ⟨rfl, hns, hn32⟩ := hr
    have hne : b' ≠ 43 := by rintro rfl; exact hns ⟨by decide, hp⟩
    have hne' : b' ≠ 32 := fun e => hn32 ⟨hqs, e⟩
    refine ⟨?_, ?_, ?_, ?_, ?_, ?_⟩
    all_goals simp [hne, hne', C02_formVal]

/-! ### decoded bytes of one rewritten token -/

theorem val_tokOut {t : QTab} (hqs : t.qs = false) (x : BTok) : (tokOut t x).val = x.val := by
  cases x with
  | esc b => rw [tokOut_esc]; split <;> rfl
  | lit b => rw [tokOut_lit, if_neg (by simp [hqs])]; split <;> rfl

/-- a form table that escapes '+' (QUERY_PART_QUOTER): the written token form-decodes to the byte itself -/
theorem formVal_tokOut_lit {t : QTab} (hplus : t.safe 43 = false) (b : Nat) :
    C02_formVal (tokOut t (.lit b)) = b := by
  rw [tokOut_lit]
  split
  · rename_i hq; rw [hq.2]; rfl
  · split
    · rename_i hs
      have : b ≠ 43 := by rintro rfl; rw [hplus] at hs; cases hs.2
      simp only [C02_formVal, if_neg this]
    · rfl

/-- '+' → ' ' on code points is '+' → ' ' on UTF-8 bytes -/
theorem utf8s_plusToSpace (s : Str) :
    utf8s (plusToSpace s) = (utf8s s).map (fun b => if b = 43 then 32 else b) := by
  induction s with
  | nil => rfl
  | cons c r ih =>
    rw [show plusToSpace (c :: r) = (if c = 43 then 32 else c) :: plusToSpace r from rfl, QuoteEquiv.utf8s_cons, ih,
      QuoteEquiv.utf8s_cons, List.map_append]
    congr 1
    by_cases h43 : c = 43
    · subst h43; rfl
    · rw [if_neg h43]
      refine (List.map_id _).symm.trans (List.map_congr_left fun b hb => ?_)
      rcases utf8_byte_cases hb with ⟨rfl, _⟩ | hb
      · exact (if_neg h43).symm
      · exact (if_neg (by omega)).symm

/-! ### decoding the output of a table -/

theorem decode_nr (t : QTab) (h : t.WF) (hnr : t.requote = false) (hqs : t.qs = false) (s : Str) :
    pctDecode (cOut t s) = utf8s s := by
  rw [← btoks_val, btoks_cOut_nr t h hnr s, List.map_map]
  exact (List.map_congr_left fun b _ => val_tokOut hqs (.lit b)).trans (List.map_id _)

theorem decode_nr_qs (t : QTab) (h : t.WF) (hnr : t.requote = false) (hplus : t.safe 43 = false) (s : Str) :
    pctDecodeQs (cOut t s) = utf8s s := by
  rw [← btoks_formVal, btoks_cOut_nr t h hnr s, List.map_map]
  exact (List.map_congr_left fun b _ => formVal_tokOut_lit hplus b).trans (List.map_id _)

theorem decode_requote (t : QTab) (h : t.WF) (hreq : t.requote = true) (hqs : t.qs = false) (s : Str) :
    pctDecode (cOut t s) = pctDecode s := by
  rw [← btoks_val, ← btoks_val]
  exact map_btoks_cOut t h hreq s _ _ (val_tokOut hqs)

theorem decode_requote_qs (t : QTab) (h : t.WF) (hreq : t.requote = true) (hprot : t.prot 43 = true) (s : Str) :
    pctDecodeQs (cOut t s) = pctDecodeQs s := by
  rw [← btoks_formVal, ← btoks_formVal]
  exact map_btoks_cOut t h hreq s _ _ fun x => tokrel_formVal h hprot (tokRel_tokOut t x)

/-! ### the relational form over whole token lists -/

theorem all2_cOut (t : QTab) (h : t.WF) (hreq : t.requote = true) (s : Str) :
    All2 (TokRel t) (btoks s) (btoks (cOut t s)) := by
  rw [btoks_cOut t h hreq s]
  have := All2.maps id (tokOut t) (btoks s) (fun x _ => tokRel_tokOut t x)
  rwa [List.map_id] at this

theorem all2_cOut_nr (t : QTab) (h : t.WF) (hnr : t.requote = false) (s : Str) :
    All2 (TokRelNR t) ((utf8s s).map .lit) (btoks (cOut t s)) := by
  rw [btoks_cOut_nr t h hnr s]
  exact All2.maps _ _ _ (fun b _ => tokRelNR_tokOut t b)

/-! ### counting a literal delimiter is counting its literal token -/

theorem count_lit_utf8 {c : Nat} (hc : c < 128) (x : Nat) : ((utf8 x).map BTok.lit).count (.lit c) = [x].count c := by
  by_cases hxc : x = c
  · subst hxc; rw [utf8_ascii hc]; simp
  · have : BTok.lit c ∉ (utf8 x).map .lit := by
      intro hm
      obtain ⟨b, hb, e⟩ := List.mem_map.1 hm
      cases e
      rcases utf8_byte_cases hb with ⟨rfl, _⟩ | hb <;> omega
    rw [List.count_eq_zero.2 this, List.count_cons_of_ne hxc]; rfl

/-- an ASCII character other than '%' and the hex digits occurs in a text as often as its literal token does
    (a hex digit may sit inside an escape) -/
theorem count_lit_btoks {c : Nat} (hc : c < 128) (h37 : c ≠ 37) (hhex : isHexC c = false) (x : Str) :
    (btoks x).count (.lit c) = x.count c := by
  fun_induction btoks x with
  | case1 => rfl
  | case2 rest v d1 d2 rest' hm ih =>
    obtain ⟨rfl, hv⟩ := takeEscape_eq hm
    obtain ⟨k1, k2⟩ := restoreCh_isHexC hv
    have e1 : d1 ≠ c := by rintro rfl; rw [hhex] at k1; cases k1
    have e2 : d2 ≠ c := by rintro rfl; rw [hhex] at k2; cases k2
    rw [List.count_cons_of_ne (by simp), ih, List.count_cons_of_ne (Ne.symm h37), List.count_cons_of_ne e1,
      List.count_cons_of_ne e2]
  | case3 rest hm ih =>
    rw [List.count_cons_of_ne (by simpa using Ne.symm h37), ih, List.count_cons_of_ne (Ne.symm h37)]
  | case4 x rest hx ih =>
    rw [List.count_append, ih, count_lit_utf8 hc, ← List.count_append]; rfl

theorem count_lit_utf8s {c : Nat} (hc : c < 128) (s : Str) : ((utf8s s).map BTok.lit).count (.lit c) = s.count c := by
  induction s with
  | nil => rfl
  | cons x r ih =>
    rw [QuoteEquiv.utf8s_cons, List.map_append, List.count_append, ih, count_lit_utf8 hc, ← List.count_append]; rfl

/-- any table: the output tokens are `tokOut` of the tokens the quoter reads, and those count the literal
    occurrences of an ASCII character that is neither '%' nor a hex digit -/
theorem btoks_cOut_src (t : QTab) (h : t.WF) (s : Str) :
    ∃ src : List BTok, btoks (cOut t s) = src.map (tokOut t) ∧
      ∀ c, c < 128 → c ≠ 37 → isHexC c = false → src.count (.lit c) = s.count c := by
  cases hr : t.requote with
  | true => exact ⟨_, btoks_cOut t h hr s, fun c hc h37 hhex => count_lit_btoks hc h37 hhex s⟩
  | false =>
    refine ⟨(utf8s s).map .lit, ?_, fun c hc _ _ => count_lit_utf8s hc s⟩
    rw [btoks_cOut_nr t h hr s, List.map_map]; rfl

theorem count_map_lit {f : BTok → BTok} {a : BTok} (hf : ∀ x, decide (x = a) = decide (f x = a)) (l : List BTok) :
    (l.map f).count a = l.count a := by
  induction l with
  | nil => rfl
  | cons x l ih =>
    have := hf x
    rw [List.map_cons, List.count_cons, List.count_cons, ih]
    simp only [beq_iff_eq, decide_eq_decide] at this ⊢
    simp only [this]

/-- the number of literal occurrences of a tracked delimiter is unchanged by quoting -/
theorem count_cOut {t : QTab} (h : t.WF) {c : Nat} (k : Tracked t c) (s : Str) : (cOut t s).count c = s.count c := by
  obtain ⟨src, e, hsrc⟩ := btoks_cOut_src t h s
  rw [← count_lit_btoks (k.lt h) (k.ne37 h) k.nothex, e, ← hsrc c (k.lt h) (k.ne37 h) k.nothex]
  exact count_map_lit (fun x => (tokrel_delim h k.prot k.noqs (tokRel_tokOut t x)).1) src

/-! ### splitting at a literal delimiter -/

theorem fromHex_none_of_nothex {d : Nat} (h : isHexC d = false) : fromHex d = none := by
  cases e : fromHex d with
  | none => rfl
  | some a => rw [fromHex_isHexC e] at h; cases h

theorem takeEscape_append_some {rest rest' : Str} {v d1 d2 : Nat}
    (hm : takeEscape restoreCh rest = some (v, d1, d2, rest')) (tl : Str) :
    takeEscape restoreCh (rest ++ tl) = some (v, d1, d2, rest' ++ tl) := by
  obtain ⟨rfl, hv⟩ := takeEscape_eq hm
  simp [takeEscape, hv]

/-- an escape never spans a non-hex character: a look-ahead after '%' that finds no escape finds none
    when the text continues with `d :: b` -/
theorem takeEscape_append_none {rest : Str} (hm : takeEscape restoreCh rest = none) {d : Nat}
    (hd : isHexC d = false) (b : Str) : takeEscape restoreCh (rest ++ d :: b) = none := by
  have hf := fromHex_none_of_nothex hd
  match rest, hm with
  | [], _ =>
    cases b with
    | nil => rfl
    | cons x b => simp [takeEscape, Hex.restoreCh_none_left x hf]
  | [x], _ => simp [takeEscape, Hex.restoreCh_none_right x hf]
  | x :: y :: r, hm =>
    simp only [takeEscape] at hm
    split at hm
    · cases hm
    · rename_i hn
      simp [takeEscape, hn]

/-- quoting distributes over a literal safe non-hex character -/
theorem cOut_append_sep (t : QTab) (h : t.WF) {d : Nat} (hs : t.safe d = true)
    (hhex : isHexC d = false) (hq : ¬ (t.qs = true ∧ d = 32)) (a b : Str) :
    cOut t (a ++ d :: b) = cOut t a ++ d :: cOut t b := by
  have h37 := safe_ne37 h hs
  fun_induction cOut t a with
  | case1 =>
    rw [List.nil_append, cOut_cons_ne t h37, cWriteOut_lit t h hs hq]; rfl
  | case2 c rest hc v d1 d2 rest' hm ih =>
    rw [hc.1, List.cons_append, cOut_cons_esc t hc.2 (takeEscape_append_some hm _), ih,
      List.append_assoc]
  | case3 c rest hc hm ih =>
    rw [hc.1, List.cons_append, QuoteEquiv.cOut_noesc t hc.2 (takeEscape_append_none hm hhex b), ih,
      List.append_assoc]
  | case4 c rest hc ih =>
    rw [List.cons_append, QuoteEquiv.cOut_plain t hc, ih, List.append_assoc]

theorem exists_first {d : Nat} {s : Str} (h : d ∈ s) : ∃ a b, s = a ++ d :: b ∧ d ∉ a := by
  induction s with
  | nil => cases h
  | cons x xs ih =>
    by_cases hx : x = d
    · exact ⟨[], xs, by simp [hx], by simp⟩
    · have : d ∈ xs := by
        rcases List.mem_cons.1 h with e | e
        · exact absurd e.symm hx
        · exact e
      obtain ⟨a, b, e, hn⟩ := ih this
      exact ⟨x :: a, b, by simp [e], by simp [hn, Ne.symm hx]⟩

theorem splitOn_append_sep {d : Nat} {a : Str} (h : d ∉ a) (b : Str) :
    splitOn d (a ++ d :: b) = a :: splitOn d b := by
  induction a with
  | nil => simp [splitOn]
  | cons x xs ih =>
    have hx : x ≠ d := fun e => h (by simp [e])
    exact PathLemmas.splitOn_cons_ne d x _ hx (ih (fun hm => h (List.mem_cons_of_mem _ hm)))

theorem not_mem_cOut {t : QTab} (h : t.WF) {d : Nat} (k : Tracked t d) {s : Str} (hn : d ∉ s) :
    d ∉ cOut t s := by
  intro hm
  have := count_cOut h k s
  rw [List.count_eq_zero_of_not_mem hn] at this
  exact absurd (List.count_pos_iff.2 hm) (by omega)

/-- splitting at a tracked delimiter commutes with quoting -/
theorem splitOn_cOut (t : QTab) (h : t.WF) {d : Nat} (k : Tracked t d) (s : Str) :
    splitOn d (cOut t s) = (splitOn d s).map (cOut t) := by
  have hq : ¬ (t.qs = true ∧ d = 32) := fun hq => (k.noqs hq.1).1 hq.2
  have aux : ∀ n, ∀ s : Str, s.length ≤ n → splitOn d (cOut t s) = (splitOn d s).map (cOut t) := by
    intro n
    induction n with
    | zero =>
      intro s hs
      have : s = [] := List.eq_nil_of_length_eq_zero (by omega)
      subst this
      have e : cOut t [] = [] := by rw [cOut]
      simp [splitOn, e]
    | succ n ih =>
      intro s hs
      by_cases hm : d ∈ s
      · obtain ⟨a, b, rfl, hna⟩ := exists_first hm
        rw [cOut_append_sep t h (k.safe h) k.nothex hq, splitOn_append_sep (not_mem_cOut h k hna),
          splitOn_append_sep hna, List.map_cons, ih b (by simp at hs; omega)]
      · rw [PathLemmas.splitOn_of_not_mem d s hm, PathLemmas.splitOn_of_not_mem d _ (not_mem_cOut h k hm)]; rfl
  exact aux s.length s (Nat.le_refl _)

/-- the split at the first occurrence of a tracked delimiter commutes with quoting -/
theorem partition_cOut (t : QTab) (h : t.WF) {d : Nat} (k : Tracked t d) (s : Str) :
    partition d (cOut t s) =
      (cOut t (partition d s).1, (partition d s).2.1, cOut t (partition d s).2.2) := by
  have hq : ¬ (t.qs = true ∧ d = 32) := fun hq => (k.noqs hq.1).1 hq.2
  by_cases hm : d ∈ s
  · obtain ⟨a, b, rfl, hna⟩ := exists_first hm
    rw [cOut_append_sep t h (k.safe h) k.nothex hq, partition_found _ _ _ (not_mem_cOut h k hna),
      partition_found _ _ _ hna]
  · rw [partition_notFound _ _ hm, partition_notFound _ _ (not_mem_cOut h k hm)]
    simp only
    rw [cOut]

theorem stripSurr_cons_of_not {x : Nat} (hx : isSurrogate x = false) (xs : Str) :
    stripSurr (x :: xs) = x :: stripSurr xs := by
  simp [stripSurr, hx]

theorem stripSurr_cons_of {x : Nat} (hx : isSurrogate x = true) (xs : Str) :
    stripSurr (x :: xs) = stripSurr xs := by
  simp [stripSurr, hx]

theorem splitOn_stripSurr {d : Nat} (hd : isSurrogate d = false) (s : Str) :
    splitOn d (stripSurr s) = (splitOn d s).map stripSurr := by
  induction s with
  | nil => rfl
  | cons x xs ih =>
    by_cases hx : x = d
    · subst hx
      rw [stripSurr_cons_of_not hd]
      simp [splitOn, ih]
      rfl
    · obtain ⟨p, ps, e⟩ := List.exists_cons_of_ne_nil (PathLemmas.splitOn_ne_nil d xs)
      rw [PathLemmas.splitOn_cons_ne d x xs hx e]
      rw [e] at ih
      cases hsx : isSurrogate x with
      | true =>
        rw [stripSurr_cons_of hsx, ih, List.map_cons, List.map_cons, stripSurr_cons_of hsx]
      | false =>
        rw [stripSurr_cons_of_not hsx, List.map_cons, stripSurr_cons_of_not hsx]
        rw [List.map_cons] at ih
        exact PathLemmas.splitOn_cons_ne d x _ hx ih

theorem partition_stripSurr {d : Nat} (hd : isSurrogate d = false) (s : Str) :
    partition d (stripSurr s) =
      (stripSurr (partition d s).1, (partition d s).2.1, stripSurr (partition d s).2.2) := by
  induction s with
  | nil => rfl
  | cons x xs ih =>
    by_cases hx : x = d
    · subst hx
      rw [stripSurr_cons_of_not hd]
      simp [partition]
      rfl
    · cases hsx : isSurrogate x with
      | true =>
        rw [stripSurr_cons_of hsx, ih]
        simp [partition, hx, stripSurr_cons_of hsx]
      | false =>
        rw [stripSurr_cons_of_not hsx]
        simp [partition, hx, ih, stripSurr_cons_of_not hsx]

end TokLemmas

end Yarl
