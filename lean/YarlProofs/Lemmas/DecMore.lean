/-
  DecMore.lean — helper lemmas for C06Decode.lean that do not mention the independent specification:
  only scalar values have an encoding; lead bytes; pending escapes.
-/
import YarlProofs.C06Spec
namespace Yarl
namespace DecMore
open DecLemmas Readback UnquoteEquiv SpecLemmas

theorem utf8_scalar_of_ne_nil (c : Nat) (h : utf8 c ≠ []) : c ≤ 0x10FFFF ∧ isSurrogate c = false := by
  unfold utf8 at h
  by_cases hs : isSurrogate c = true
  · have : 0x800 ≤ c := by simp [isSurrogate] at hs; omega
    have a : ¬ c < 0x80 := by omega
    have b : ¬ c < 0x800 := by omega
    simp [a, b, hs] at h
  · have hs' : isSurrogate c = false := by simpa using hs
    refine ⟨?_, hs'⟩
    apply Decidable.byContradiction
    intro hc
    have a : ¬ c < 0x80 := by omega
    have b : ¬ c < 0x800 := by omega
    have d : ¬ c < 0x10000 := by omega
    simp [a, b, d, hs', hc] at h

/-- a byte that can start no well-formed sequence: a continuation byte, `C0`, `C1`, `F5`…`FF` -/
def BadLead (b : Nat) : Prop := (0x80 ≤ b ∧ b < 0xC2) ∨ 0xF5 ≤ b

theorem badLead_of_cont {b : Nat} (h : isCont b = true) : BadLead b := by
  rw [isCont_iff] at h; exact Or.inl (by omega)

theorem pending_tail_cont (p : Nat × Str) (ps : List (Nat × Str)) (hp : Pending (p :: ps)) :
    ∀ e ∈ ps, isCont e.1 = true := by
  have h := hp ps.length (by simp)
  rw [List.take_of_length_le (by simp)] at h
  intro e he
  exact decodeBuf_tail_isCont (by rw [h]; nofun) e.1 (by simp only [runBytes, List.map_cons, List.tail_cons]; exact List.mem_map_of_mem he)

theorem pending_take_incomplete {ps : List (Nat × Str)} (hp : Pending ps) (tl : List (Nat × Str)) (k : Nat)
    (h0 : 0 < k) (hk : k ≤ ps.length) : decodeBuf ((runBytes (ps ++ tl)).take k) = .incomplete := by
  have := hp (k - 1) (by omega)
  rw [show k - 1 + 1 = k by omega] at this
  simp only [runBytes, List.map_append]
  rw [List.take_append_of_le_length (by simp; omega)]
  exact this

/-- every run is: pending escapes to its end, or pending escapes and the escape that decides them -/
theorem split_pending (es : List (Nat × Str)) :
    Pending es ∨ ∃ ps e tl, es = ps ++ e :: tl ∧ Pending ps ∧ decodeBuf (runBytes ps ++ [e.1]) ≠ .incomplete := by
  have key : ∀ k, k ≤ es.length → Pending (es.take k) ∨
      ∃ ps e tl, es = ps ++ e :: tl ∧ Pending ps ∧ decodeBuf (runBytes ps ++ [e.1]) ≠ .incomplete := by
    intro k
    induction k with
    | zero => intro _; left; rw [List.take_zero]; exact pending_nil
    | succ k ih =>
      intro hk
      rcases ih (by omega) with hp | hex
      · by_cases hd : decodeBuf (runBytes (es.take k) ++ [(es[k]'(by omega)).1]) = .incomplete
        · left
          rw [List.take_succ_eq_append_getElem (by omega)]
          exact pending_snoc hp hd
        · right
          refine ⟨es.take k, es[k]'(by omega), es.drop (k + 1), ?_, hp, hd⟩
          rw [← List.drop_eq_getElem_cons (by omega), List.take_append_drop]
      · exact Or.inr hex
  have := key es.length (Nat.le_refl _)
  rwa [List.take_of_length_le (Nat.le_refl _)] at this

theorem not_startsEscape_of_restoreCh_none {d1 d2 : Nat} {r : Str} (h : restoreCh d1 d2 = none) :
    ¬ StartsEscape (37 :: d1 :: d2 :: r) := by
  rintro ⟨e1, e2, r', v, he, hv⟩
  injection he with _ he; injection he with h1 he; injection he with h2 _
  subst h1; subst h2
  rw [h] at hv; cases hv


end DecMore
end Yarl
