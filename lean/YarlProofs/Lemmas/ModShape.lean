/-
  ModShape.lean — what a successful call of each operation of the URL API returns.

  One lemma per operation reads its definition backwards, under one of two endings.  `…_ok` gives the checks that
  were passed and the text that was written: `withScheme_ok`, `relative_ok`, `withQuery_ok`, `withoutQueryParams_ok`,
  `extendQuery_ok`, `withName_ok`, `withSuffix_ok`.  `…_frame` only says which parts of the record are kept (the new
  text is an `∃`): `updateQuery_frame`, `withFragment_frame`, `withRawName_frame`, `makeChild_frame`, `parent_frame`;
  whoever needs that text unfolds the operation.  For the four authority modifiers and `origin()` the full forms are
  `AuthMod.withUser_ok` … `AuthMod.origin_ok` (Lemmas/AuthMod.lean), for `_make_child` it is the iff
  `PathMore.makeChild_ok` (Lemmas/PathAlg.lean).  `Step e u g v` collects them by the group `g` of stored parts the
  operation writes; what holds "for every operation" for a reason that only depends on which parts are written is an
  argument over `Step`.
-/
import YarlModel
import YarlProofs.Lemmas.Basics
import YarlProofs.Lemmas.AuthMod
import YarlProofs.Lemmas.PathAlg
namespace Yarl

/-- the group of stored parts an operation writes -/
inductive OpGroup where
  | scheme | net | path | query | fragment | origin | relative | copy | join

/-- what an operation of group `g` applied to `u` can return: `u` itself, or a record without cache in which
    the parts of the group are new and the others are those of `u` -/
inductive Step (e : Env) (u : Url) : OpGroup → Url → Prop
  | same (g : OpGroup) : Step e u g u
  | scheme (l : Str) : Step e u .scheme (fromParts l u.netloc u.path u.query u.fragment)
  | net (n : Str) : u.netloc ≠ [] → Step e u .net (fromParts u.scheme n u.path u.query u.fragment)
  | path (p : Str) (kq kf : Bool) :
      Step e u .path (fromParts u.scheme u.netloc p (if kq then u.query else []) (if kf then u.fragment else []))
  | query (q : Str) : Step e u .query (fromParts u.scheme u.netloc u.path q u.fragment)
  | fragment (f : Str) : Step e u .fragment (fromParts u.scheme u.netloc u.path u.query f)
  | origin (n : Str) : u.netloc ≠ [] → Step e u .origin (fromParts u.scheme n [] [] [])
  | relative : u.netloc ≠ [] → Step e u .relative (fromParts [] [] u.path u.query u.fragment)
  | copy : Step e u .copy (pickleTwin u)
  | join (r : Url) : Step e u .join (join e u r)

namespace ModShape

variable {e : Env} {u v : Url}

theorem withScheme_ok {s : Str} (hv : withScheme e u s = .ok v) :
    ∃ l, lowerAny e s = .ok l ∧ v = fromParts l u.netloc u.path u.query u.fragment := by
  obtain ⟨l, hl, h⟩ := bind_ok hv
  exact ⟨l, hl, (Except.ok.inj (ite_err_ok h).2).symm⟩

theorem relative_ok (hv : relative u = .ok v) : u.netloc ≠ [] ∧ v = fromParts [] [] u.path u.query u.fragment := by
  obtain ⟨hn, h⟩ := ite_err_ok hv
  exact ⟨fun h0 => hn (h0 ▸ rfl), (Except.ok.inj h).symm⟩

/-! ### query and fragment -/

theorem withQuery_ok {a : QArg} (hv : withQuery e u a = .ok v) :
    ∃ r, getStrQuery e.b a = .ok r ∧ v = fromParts u.scheme u.netloc u.path (r.getD []) u.fragment := by
  obtain ⟨r, hr, h⟩ := bind_ok hv
  exact ⟨r, hr, (Except.ok.inj h).symm⟩

/-- `without_query_params` answers the URL itself or goes through `with_query` on some of the old pairs -/
theorem withoutQueryParams_ok {names : List Str} (hv : withoutQueryParams e u names = .ok v) :
    v = u ∨ ∃ ps, ps ⊆ queryPairs u ∧ withQuery e u (.pairs (strItems ps)) = .ok v := by
  unfold withoutQueryParams at hv
  dsimp only at hv
  split at hv
  · exact Or.inl (Except.ok.inj hv).symm
  · exact Or.inr ⟨_, List.filter_sublist.subset, hv⟩

/-- `extend_query` answers the URL itself or appends the new query text, after a '&' unless one is there -/
theorem extendQuery_ok {a : QArg} (hv : extendQuery e u a = .ok v) :
    v = u ∨ ∃ nq, getStrQuery e.b a = .ok (some nq) ∧
      (v = fromParts u.scheme u.netloc u.path nq u.fragment ∨
       v = fromParts u.scheme u.netloc u.path (u.query ++ nq) u.fragment ∨
       v = fromParts u.scheme u.netloc u.path (u.query ++ [38] ++ nq) u.fragment) := by
  obtain ⟨r, hr, h⟩ := bind_ok hv
  cases r with
  | none => exact Or.inl (Except.ok.inj h).symm
  | some nq =>
    rcases ok_of_ite_pure h with h | h
    · exact Or.inl h
    · refine Or.inr ⟨nq, hr, ?_⟩
      subst h
      split
      · split
        · exact .inr (.inl rfl)
        · exact .inr (.inr rfl)
      · exact .inl rfl

/-- only the query is new; which text it is depends on the shape of the argument and is not said here -/
theorem updateQuery_frame {a : QArg} (hv : updateQuery e u a = .ok v) :
    ∃ qs, v = fromParts u.scheme u.netloc u.path qs u.fragment := by
  obtain ⟨r, _, h⟩ := bind_ok hv
  exact ⟨_, (Except.ok.inj h).symm⟩

/-- the URL itself, or the URL with a new fragment text -/
theorem withFragment_frame (e : Env) (u : Url) (f : Option Str) :
    withFragment e u f = u ∨ ∃ r, withFragment e u f = fromParts u.scheme u.netloc u.path u.query r :=
  (ite_eq_or _ _).imp id fun h => ⟨_, h⟩

/-! ### path -/

/-- scheme and authority are kept, query and fragment as the flags say; the new path is not described -/
theorem withRawName_frame {nm : Str} {kq kf : Bool} (hv : withRawName u nm kq kf = .ok v) :
    ∃ p, v = fromParts u.scheme u.netloc p (if kq then u.query else []) (if kf then u.fragment else []) := by
  obtain ⟨r, _, h⟩ := bind_ok hv
  exact ⟨_, (Except.ok.inj h).symm⟩

/-- `with_name` is `_with_raw_name` on the quoted name, which is not a dot segment; the argument has no '/' -/
theorem withName_ok {nm : Str} {kq kf : Bool} (hv : withName e u nm kq kf = .ok v) :
    47 ∉ nm ∧ q e Gen.PATH_QUOTER nm ≠ dot ∧ q e Gen.PATH_QUOTER nm ≠ dotdot ∧
      withRawName u (q e Gen.PATH_QUOTER nm) kq kf = .ok v := by
  obtain ⟨h47, h⟩ := ite_err_ok hv
  obtain ⟨hdd, h⟩ := ite_err_ok h
  exact ⟨fun hm => h47 (mem_iff.mpr hm), fun x => hdd (.inl x), fun x => hdd (.inr x), h⟩

/-- `with_suffix` is `_with_raw_name` on the old name without its suffix, followed by the quoted new one; the new
    name is not a dot segment; the argument has no '/' -/
theorem withSuffix_ok {sfx : Str} {kq kf : Bool} (hv : withSuffix e u sfx kq kf = .ok v) :
    ∃ a old, rawName u = .ok (a ++ old) ∧ (old = [] ∨ ∃ b, old = 46 :: b) ∧ 47 ∉ sfx ∧
      a ++ q e Gen.PATH_QUOTER sfx ≠ dot ∧ a ++ q e Gen.PATH_QUOTER sfx ≠ dotdot ∧
      withRawName u (a ++ q e Gen.PATH_QUOTER sfx) kq kf = .ok v := by
  obtain ⟨n, hn, -⟩ := bind_ok (ite_err_ok hv).2
  rw [PathMore.withSuffix_closed e u sfx kq kf n hn] at hv
  obtain ⟨hc, h⟩ := ite_err_ok hv
  refine ⟨_, PathMore.sfx n, by rw [PathMore.stem_append_sfx]; exact hn, ?_, fun h47 => hc (.inr (.inr (.inl h47))),
    fun hd => hc (.inr (.inr (.inr (.inl hd)))), fun hd => hc (.inr (.inr (.inr (.inr hd)))), h⟩
  by_cases h0 : PathMore.sfx n = []
  · exact .inl h0
  · exact .inr (PathMore.sfx_head n h0)

/-- `with_suffix` on a Python string is `_with_raw_name` on a name without '/' that is not a dot segment -/
theorem withSuffix_name {sfx : Str} {kq kf : Bool} (hpy : PyStr sfx) (hv : withSuffix e u sfx kq kf = .ok v) :
    ∃ nm, 47 ∉ nm ∧ nm ≠ dot ∧ nm ≠ dotdot ∧ withRawName u nm kq kf = .ok v := by
  obtain ⟨a, old, hn, _, h47, hd1, hd2, h⟩ := withSuffix_ok hv
  refine ⟨_, fun hm => ?_, hd1, hd2, h⟩
  rcases List.mem_append.mp hm with hm | hm
  · exact PathAlg.rawName_no_slash u _ hn (List.mem_append_left _ hm)
  · exact PathAlg.q_path_avoid e sfx hpy 47 (Or.inr rfl) h47 hm

/-- scheme and authority kept, query and fragment cleared; the path is described by `PathMore.makeChild_ok` -/
theorem makeChild_frame {paths : List Str} {encoded : Bool} (hv : makeChild e u paths encoded = .ok v) :
    ∃ p, v = fromParts u.scheme u.netloc p [] [] := by
  rw [(PathMore.makeChild_ok.1 hv).2]
  unfold PathAlg.childOf
  simp only
  split
  · exact ⟨_, rfl⟩
  · exact ⟨_, rfl⟩

/-- the URL itself, or a new path with query and fragment cleared -/
theorem parent_frame (u : Url) : parent u = u ∨ ∃ p, parent u = fromParts u.scheme u.netloc p [] [] := by
  unfold parent
  rcases ite_eq_or (c := (u.path.isEmpty || u.path = [47]) = true) _ _ with h | h
  · rw [h]
    exact (ite_eq_or _ _).symm.imp id fun h => ⟨_, h⟩
  · rw [h]
    exact Or.inr ⟨_, rfl⟩

end ModShape

/-! ### `Step`: the operations by the parts they write -/

namespace Step
open ModShape
variable {e : Env} {u v : Url}

theorem of_withScheme {s : Str} (h : withScheme e u s = .ok v) : Step e u .scheme v := by
  obtain ⟨l, _, rfl⟩ := withScheme_ok h
  exact .scheme l

theorem of_withUser {x : Option Str} (h : withUser e u x = .ok v) : Step e u .net v := by
  obtain ⟨hn, _, _, rfl⟩ := AuthMod.withUser_ok h
  exact .net _ hn

theorem of_withPassword {x : Option Str} (h : withPassword e u x = .ok v) : Step e u .net v := by
  obtain ⟨hn, _, _, rfl⟩ := AuthMod.withPassword_ok h
  exact .net _ hn

theorem of_withHost {x : Str} (h : withHost e u x = .ok v) : Step e u .net v := by
  obtain ⟨hn, _, _, _, _, _, rfl⟩ := AuthMod.withHost_ok h
  exact .net _ hn

theorem of_withPort {x : Option Int} {k : Nat} (h : withPort e u x k = .ok v) : Step e u .net v := by
  obtain ⟨hn, _, _, _, _, rfl⟩ := AuthMod.withPort_ok h
  exact .net _ hn

theorem of_origin (h : Yarl.origin e u = .ok v) : Step e u .origin v := by
  obtain ⟨hn, _, ⟨_, _, _, rfl⟩ | ⟨_, ⟨rfl, _⟩ | rfl⟩⟩ := AuthMod.origin_ok h
  · exact .origin _ hn
  · exact .same _
  · exact .origin _ hn

theorem of_relative (h : Yarl.relative u = .ok v) : Step e u .relative v := by
  obtain ⟨hn, rfl⟩ := relative_ok h
  exact .relative hn

theorem of_withQuery {a : QArg} (h : withQuery e u a = .ok v) : Step e u .query v := by
  obtain ⟨_, _, rfl⟩ := withQuery_ok h
  exact .query _

theorem of_withoutQueryParams {ns : List Str} (h : withoutQueryParams e u ns = .ok v) : Step e u .query v := by
  rcases withoutQueryParams_ok h with rfl | ⟨_, _, h⟩
  · exact .same _
  · exact of_withQuery h

theorem of_extendQuery {a : QArg} (h : extendQuery e u a = .ok v) : Step e u .query v := by
  rcases extendQuery_ok h with rfl | ⟨_, _, rfl | rfl | rfl⟩
  · exact .same _
  · exact .query _
  · exact .query _
  · exact .query _

theorem of_updateQuery {a : QArg} (h : updateQuery e u a = .ok v) : Step e u .query v := by
  obtain ⟨_, rfl⟩ := updateQuery_frame h
  exact .query _

theorem of_withFragment (f : Option Str) : Step e u .fragment (withFragment e u f) := by
  rcases withFragment_frame e u f with h | ⟨r, h⟩
  · rw [h]
    exact .same _
  · rw [h]
    exact .fragment r

theorem of_withPath (p : Str) (enc kq kf : Bool) : Step e u .path (withPath e u p enc kq kf) := .path _ kq kf

theorem of_withRawName {nm : Str} {kq kf : Bool} (h : withRawName u nm kq kf = .ok v) : Step e u .path v := by
  obtain ⟨p, rfl⟩ := withRawName_frame h
  exact .path p kq kf

theorem of_withName {nm : Str} {kq kf : Bool} (h : withName e u nm kq kf = .ok v) : Step e u .path v :=
  of_withRawName (withName_ok h).2.2.2

theorem of_withSuffix {s : Str} {kq kf : Bool} (h : withSuffix e u s kq kf = .ok v) : Step e u .path v := by
  obtain ⟨_, _, _, _, _, _, _, h⟩ := withSuffix_ok h
  exact of_withRawName h

theorem of_makeChild {paths : List Str} {enc : Bool} (h : makeChild e u paths enc = .ok v) : Step e u .path v := by
  obtain ⟨p, rfl⟩ := makeChild_frame h
  exact .path p false false

theorem of_parent : Step e u .path (parent u) := by
  rcases parent_frame u with h | ⟨p, h⟩
  · rw [h]
    exact .same _
  · rw [h]
    exact .path p false false

end Step

/-! ### what only depends on the group -/

namespace OpGroup
/-- the groups that copy path, query and fragment -/
def keepsTail : OpGroup → Bool
  | scheme | net | copy => true
  | _ => false
/-- the groups that copy the authority -/
def keepsNet : OpGroup → Bool
  | net | origin | relative | join => false
  | _ => true
/-- the groups that copy the path -/
def keepsPath : OpGroup → Bool
  | path | origin | join => false
  | _ => true
/-- the groups that copy the scheme, or clear it -/
def keepsScheme : OpGroup → Bool
  | scheme | join => false
  | _ => true
end OpGroup

namespace Step
variable {e : Env} {u v : Url} {g : OpGroup}

/-- the result has no pre-filled cache, or is the URL itself -/
theorem pre (h : Step e u g v) (hg : g ≠ .join) : v.pre = none ∨ v = u := by
  cases h with
  | same => exact .inr rfl
  | join r => exact absurd rfl hg
  | _ => exact .inl rfl

theorem tail (h : Step e u g v) (hg : g.keepsTail = true) :
    v.path = u.path ∧ v.query = u.query ∧ v.fragment = u.fragment := by
  cases h with
  | same => exact ⟨rfl, rfl, rfl⟩
  | scheme l => exact ⟨rfl, rfl, rfl⟩
  | net n _ => exact ⟨rfl, rfl, rfl⟩
  | copy => exact ⟨rfl, rfl, rfl⟩
  | _ => cases hg

/-- the authority is kept, with an empty or the same cache -/
theorem netloc (h : Step e u g v) (hg : g.keepsNet = true) : v.netloc = u.netloc ∧ (v.pre = none ∨ v.pre = u.pre) := by
  cases h with
  | same => exact ⟨rfl, .inr rfl⟩
  | net n _ => cases hg
  | origin n _ => cases hg
  | relative _ => cases hg
  | join r => cases hg
  | _ => exact ⟨rfl, .inl rfl⟩

theorem scheme_eq (h : Step e u g v) (hg : g.keepsScheme = true) : v.scheme = u.scheme ∨ v.scheme = [] := by
  cases h with
  | scheme l => cases hg
  | join r => cases hg
  | relative _ => exact .inr rfl
  | _ => exact .inl rfl

/-- the path is kept, and an authority in the result was one before -/
theorem path_eq (h : Step e u g v) (hg : g.keepsPath = true) : v.path = u.path ∧ (v.netloc ≠ [] → u.netloc ≠ []) := by
  cases h with
  | path p kq kf => cases hg
  | origin n _ => cases hg
  | join r => cases hg
  | net n hn => exact ⟨rfl, fun _ => hn⟩
  | relative hn => exact ⟨rfl, fun _ => hn⟩
  | _ => exact ⟨rfl, id⟩

/-- a query operation answers the URL itself or the URL with a new query text -/
theorem query_cases (h : Step e u .query v) : v = u ∨ ∃ qs, v = fromParts u.scheme u.netloc u.path qs u.fragment := by
  cases h with
  | same => exact .inl rfl
  | query q => exact .inr ⟨q, rfl⟩

end Step

end Yarl
