/-
  HumanMore.lean — helper lemmas for C18More.lean: two URL objects that are `==` with the same path and cache are the
  same (`url_eq_of`); the query arguments of `build` (mapping, string, str / int values);
  `with_fragment`, `with_query`, `with_user` keep `Stores`; counting the literal occurrences of a character in
  `human_repr()`; an upper-case scheme; the decoded path of `u / s` (`childTail`; its lemma is
  `HumanReach.joinPathD_one`); the constructor on the canonical string of encoded components; the stored
  host of every kind is a fixed point of `_encode_host`.
-/
import YarlProofs.C18Full
import YarlProofs.C04
import YarlProofs.C13
namespace Yarl
namespace HumanMore

open HumanLemmas HumanFull QueryUrl QsLemmas NetlocLemmas

/-- `==`, the same stored path and the same cache pre-fill: the same object -/
theorem url_eq_of (v w : Url) (hb : Url.beq v w = true) (hp : v.path = w.path) (hpre : v.pre = w.pre) :
    v = w := by
  obtain ⟨a1, a2, a3, a4, a5, a6⟩ := v
  obtain ⟨b1, b2, b3, b4, b5, b6⟩ := w
  simp only [Url.beq, eqKey, decide_eq_true_eq, Parts.mk.injEq] at hb
  simp only at hp hpre
  obtain ⟨h1, h2, _, h4, h5⟩ := hb
  subst h1 h2 h4 h5 hp hpre
  rfl

/-! ## a query STRING in `key=value&…` form without reserved query characters -/

/-- a non-requoting quoter is a character map -/
theorem q_flatMap (e : Env) (a : QArgs) (ha : a ∈ Gen.allQuoters) (hnr : a.requote = false) (s : Str)
    (hs : PyStr s) (hn : NoSurrogate s) : q e a s = s.flatMap (cWriteOut (a.tab e.b)) := by
  unfold q
  rw [run_eq_cOut _ ha e.b _ hs, stripSurr_id _ hn, PathAlg.cOut_flatMap _ (by rw [tab_requote]; exact hnr)]

/-- no character that QUERY_QUOTER protects ('=', '+', '&', ';') -/
def QueryPlain (s : Str) : Prop := ∀ c ∈ s, mem c Gen.QUERY_QUOTER.prot = false

instance (s : Str) : Decidable (QueryPlain s) := by unfold QueryPlain; infer_instance

theorem query_tabs_agree : ∀ b : Backend, ∀ c, c < 128 → mem c Gen.QUERY_QUOTER.prot = false →
    cWriteOut (Gen.QUERY_QUOTER.tab b) c = cWriteOut (Gen.QUERY_PART_QUOTER.tab b) c := by
  intro b
  rw [tab_eq_c Gen.QUERY_QUOTER (by decide) b, tab_eq_c Gen.QUERY_PART_QUOTER (by decide) b]
  decide +kernel

theorem query_quoter_seps : ∀ b : Backend,
    cWriteOut (Gen.QUERY_QUOTER.tab b) 61 = [61] ∧ cWriteOut (Gen.QUERY_QUOTER.tab b) 38 = [38] := by
  intro b; cases b <;> decide +kernel

theorem query_write_agree (b : Backend) (c : Nat) (hp : mem c Gen.QUERY_QUOTER.prot = false) :
    cWriteOut (Gen.QUERY_QUOTER.tab b) c = cWriteOut (Gen.QUERY_PART_QUOTER.tab b) c := by
  by_cases hc : c < 128
  · exact query_tabs_agree b c hc hp
  · rw [cWriteOut_high _ (by omega), cWriteOut_high _ (by omega)]

/-- the text `k=v` of a pair, as written in a query string -/
def rawPair (p : Str × Str) : Str := p.1 ++ [61] ++ p.2

theorem flatMap_plain (b : Backend) (s : Str) (hs : QueryPlain s) :
    s.flatMap (cWriteOut (Gen.QUERY_QUOTER.tab b)) = s.flatMap (cWriteOut (Gen.QUERY_PART_QUOTER.tab b)) :=
  flatMap_congr' (fun c hc => query_write_agree b c (hs c hc))

theorem pairText_flatMap (b : Backend) (p : Str × Str) (hg : GoodText p.1 ∧ GoodText p.2) :
    pairText b p = p.1.flatMap (cWriteOut (Gen.QUERY_PART_QUOTER.tab b)) ++ [61] ++
      p.2.flatMap (cWriteOut (Gen.QUERY_PART_QUOTER.tab b)) := by
  unfold pairText
  have := fun e : Env => q_flatMap e Gen.QUERY_PART_QUOTER (by decide) rfl
  have h1 := this ⟨b, Oracles.empty⟩ p.1 hg.1.1 hg.1.2
  have h2 := this ⟨b, Oracles.empty⟩ p.2 hg.2.1 hg.2.2
  unfold q at h1 h2
  rw [h1, h2]

theorem rawPair_flatMap (b : Backend) (p : Str × Str) (hg : GoodText p.1 ∧ GoodText p.2)
    (hp : QueryPlain p.1 ∧ QueryPlain p.2) :
    (rawPair p).flatMap (cWriteOut (Gen.QUERY_QUOTER.tab b)) = pairText b p := by
  rw [pairText_flatMap b p hg]
  unfold rawPair
  simp only [List.flatMap_append, List.flatMap_cons, List.flatMap_nil, List.append_nil, (query_quoter_seps b).1,
    flatMap_plain b _ hp.1, flatMap_plain b _ hp.2]

theorem flatC_flatMap (b : Backend) (ps : List (Str × Str)) (hg : GoodPairs ps)
    (hp : ∀ p ∈ ps, QueryPlain p.1 ∧ QueryPlain p.2) :
    (HostLemmas.flatC 38 (ps.map rawPair)).flatMap (cWriteOut (Gen.QUERY_QUOTER.tab b)) =
      HostLemmas.flatC 38 (ps.map (pairText b)) := by
  induction ps with
  | nil => rfl
  | cons p ps ih =>
    simp only [List.map_cons, HostLemmas.flatC_cons, List.flatMap_cons, List.flatMap_append, (query_quoter_seps b).2,
      rawPair_flatMap b p (hg p (by simp)) (hp p (by simp)),
      ih (fun x hx => hg x (by simp [hx])) (fun x hx => hp x (by simp [hx]))]
    rfl

theorem good_47 : (47 : Nat) ≤ 0x10FFFF ∧ isSurrogate 47 = false := by decide

theorem good_cons_slash {s : Str} (h : PyStr s ∧ NoSurrogate s) : PyStr (47 :: s) ∧ NoSurrogate (47 :: s) :=
  good_of_mem fun c hc => by
    rcases List.mem_cons.mp hc with rfl | hc
    · exact good_47
    · exact ⟨h.1 c hc, h.2 c hc⟩

/-- the query string `k1=v1&k2=v2…` of pairs -/
def rawQuery (ps : List (Str × Str)) : Str := joinC 38 (ps.map rawPair)

theorem rawQuery_good (ps : List (Str × Str)) (hg : GoodPairs ps) : PyStr (rawQuery ps) ∧ NoSurrogate (rawQuery ps) := by
  apply good_of_mem
  intro x hx
  rcases HostLemmas.mem_joinC hx with rfl | ⟨r, hr, hxr⟩
  · decide
  · obtain ⟨p, hp, rfl⟩ := List.mem_map.mp hr
    simp only [rawPair, List.mem_append, List.mem_singleton] at hxr
    rcases hxr with (h | rfl) | h
    · exact ⟨(hg p hp).1.1 x h, (hg p hp).1.2 x h⟩
    · decide
    · exact ⟨(hg p hp).2.1 x h, (hg p hp).2.2 x h⟩

/-- QUERY_QUOTER on such a query string gives the text `build(query=pairs)` stores -/
theorem query_quoter_rawQuery (e : Env) (ps : List (Str × Str)) (hg : GoodPairs ps)
    (hp : ∀ p ∈ ps, QueryPlain p.1 ∧ QueryPlain p.2) :
    q e Gen.QUERY_QUOTER (rawQuery ps) = qtext e.b ps := by
  obtain ⟨g1, g2⟩ := rawQuery_good ps hg
  rw [q_flatMap e _ (by decide) rfl _ g1 g2]
  unfold rawQuery qtext
  cases ps with
  | nil => rfl
  | cons p ps =>
    rw [List.map_cons, List.map_cons, PathLemmas.joinC_cons, PathLemmas.joinC_cons, List.flatMap_append,
      rawPair_flatMap e.b p (hg p (by simp)) (hp p (by simp)),
      flatC_flatMap e.b ps (fun x hx => hg x (by simp [hx])) (fun x hx => hp x (by simp [hx]))]

theorem rawQuery_nil_iff (ps : List (Str × Str)) : rawQuery ps = [] ↔ ps = [] := by
  cases ps with
  | nil => simp [rawQuery]
  | cons p ps => simp [rawQuery, PathLemmas.joinC_cons, rawPair]


/-! ## the query arguments -/

theorem _root_.Yarl.HumanReach.queryArgOf_mapping (b : Backend) (items : List (Str × QItem)) (kvs : List (Str × Str))
    (h : expandItems items = some kvs) : HumanReach.QueryArgOf b (.mapping items) kvs :=
  Or.inl (getStrQuery_mapping b items kvs h)

theorem rawQuery_hq2 (e : Env) (kvs : List (Str × Str)) (hg : GoodPairs kvs)
    (hp : ∀ p ∈ kvs, QueryPlain p.1 ∧ QueryPlain p.2) :
    qtext e.b kvs = if (rawQuery kvs).isEmpty then rawQuery kvs else q e Gen.QUERY_QUOTER (rawQuery kvs) := by
  cases kvs with
  | nil => rfl
  | cons x xs =>
    have hne : rawQuery (x :: xs) ≠ [] := fun h => by simpa using (rawQuery_nil_iff (x :: xs)).mp h
    rw [isEmpty_false hne]
    exact (query_quoter_rawQuery e _ hg hp).symm

theorem _root_.Yarl.HumanReach.queryArgOf_str (e : Env) (kvs : List (Str × Str)) (hg : GoodPairs kvs)
    (hp : ∀ p ∈ kvs, QueryPlain p.1 ∧ QueryPlain p.2) : HumanReach.QueryArgOf e.b (.str (rawQuery kvs)) kvs := by
  refine Or.inl ?_
  cases kvs with
  | nil => rfl
  | cons x xs =>
    have hne : rawQuery (x :: xs) ≠ [] := fun h => by simpa using (rawQuery_nil_iff (x :: xs)).mp h
    simp only [getStrQuery, isEmpty_false hne, Bool.false_eq_true, if_false]
    exact congrArg (fun t => Except.ok (some t)) (query_quoter_rawQuery e _ hg hp)

/-! ## a mapping with str / int values -/

def siVal : Str ⊕ Int → QVal
  | .inl s => .str s
  | .inr n => .int n

def siText : Str ⊕ Int → Str
  | .inl s => s
  | .inr n => intToStr n

/-- `{k: v, …}` with `v` a str or an int -/
def siItems (l : List (Str × (Str ⊕ Int))) : List (Str × QItem) := l.map (fun kv => (kv.1, .one (siVal kv.2)))

/-- the pairs it denotes: ints are rendered by `str()` -/
def siPairs (l : List (Str × (Str ⊕ Int))) : List (Str × Str) := l.map (fun kv => (kv.1, siText kv.2))

theorem queryVar_si (v : Str ⊕ Int) : queryVar (siVal v) = .ok (siText v) := by cases v <;> rfl

theorem expand_si (l : List (Str × (Str ⊕ Int))) : expandItems (siItems l) = some (siPairs l) := by
  induction l with
  | nil => rfl
  | cons kv l ih =>
    obtain ⟨k, v⟩ := kv
    simp only [siItems, siPairs, List.map_cons] at ih ⊢
    simp only [expandItems, queryVar_si, ih]

theorem digit_good {c : Nat} (h : isDigitC c = true) : c ≤ 0x10FFFF ∧ isSurrogate c = false := by
  simp [isDigitC] at h
  constructor
  · omega
  · unfold isSurrogate
    simp only [Bool.and_eq_false_iff, decide_eq_false_iff_not]; omega

theorem intToStr_good (n : Int) : GoodText (intToStr n) := by
  apply good_of_mem
  intro c hc
  unfold intToStr at hc
  split at hc
  · rcases List.mem_cons.mp hc with rfl | hc
    · decide
    · exact digit_good ((Decimal.natToStr_digits _).2 c hc)
  · exact digit_good ((Decimal.natToStr_digits _).2 c hc)

theorem siPairs_good (l : List (Str × (Str ⊕ Int)))
    (h : ∀ kv ∈ l, GoodText kv.1 ∧ ∀ s, kv.2 = .inl s → GoodText s) : GoodPairs (siPairs l) := by
  intro p hp
  obtain ⟨kv, hkv, rfl⟩ := List.mem_map.mp hp
  refine ⟨(h kv hkv).1, ?_⟩
  obtain ⟨k, v⟩ := kv
  cases v with
  | inl s => exact (h _ hkv).2 s rfl
  | inr n => exact intToStr_good n

/-! ## modifiers keep `Stores` -/

/-- an absent text counts as "" -/
theorem utext_getD {x : Option Str} (h : UText x) : PyStr (x.getD []) ∧ NoSurrogate (x.getD []) := by
  cases x with
  | none => exact ⟨by decide, by decide⟩
  | some t => exact h t rfl

theorem utext_ite {x : Option Str} (h : UText x) (b : Bool) : UText (if b then x else none) := by
  cases b with
  | false => exact fun s hs => nomatch hs
  | true => exact h

section mods
variable (e : Env) (u : Url) (user pw : Option Str) (H : Str) (port : Option Nat)
  (p : Str) (kvs : List (Str × Str)) (f : Str) (st : Stores e u user pw H port p kvs f)
include st

/-- `with_fragment(f')` (`None` is `""`) -/
theorem stores_withFragment (f' : Option Str) :
    (withFragment e u f').scheme = u.scheme ∧ Stores e (withFragment e u f') user pw H port p kvs (f'.getD []) := by
  have hraw : (match f' with | none => [] | some s => q e Gen.FRAGMENT_QUOTER s) =
      (if (f'.getD []).isEmpty then f'.getD [] else q e Gen.FRAGMENT_QUOTER (f'.getD [])) := by
    cases f' with
    | none => rfl
    | some s => cases s with
      | nil => simp [q_nil]
      | cons c r => rfl
  have key : ∀ raw : Str, raw = (if (f'.getD []).isEmpty then f'.getD [] else q e Gen.FRAGMENT_QUOTER (f'.getD [])) →
      Stores e (if u.fragment = raw then u else fromParts u.scheme u.netloc u.path u.query raw) user pw H port p kvs
        (f'.getD []) := by
    intro raw hr
    split
    · rename_i heq
      exact ⟨st.netloc, st.pre, st.path, st.query, by rw [heq, hr]⟩
    · exact ⟨st.netloc, fun pr h => (by cases h), st.path, st.query, hr⟩
  have hsc : (withFragment e u f').scheme = u.scheme := by
    unfold withFragment
    simp only
    split <;> split <;> rfl
  exact ⟨hsc, key _ hraw⟩

/-- `with_query(a)` for an argument that renders to the text of the pairs `kvs'` -/
theorem stores_withQuery (a : QArg) (kvs' : List (Str × Str))
    (ha : getStrQuery e.b a = .ok (some (qtext e.b kvs'))) :
    ∃ v, withQuery e u a = .ok v ∧ v.scheme = u.scheme ∧ Stores e v user pw H port p kvs' f :=
  ⟨_, withQuery_of e u a _ ha, rfl, ⟨st.netloc, fun pr h => (by cases h), st.path, rfl, st.fragment⟩⟩

/-- the cache pre-fill (`Stores.net`) as the record the modifiers of the authority read, and a non-empty netloc -/
theorem stores_net (hu : UText user) (hune : ∀ s, user = some s → s ≠ []) (hH : HostOK H)
    (hport : ∀ x, port = some x → x ≤ 65535) : u.netloc ≠ [] ∧
    net e u = .ok (preOf (user.map (q e Gen.QUOTER)) (pw.map (q e Gen.QUOTER)) H port) :=
  ⟨fun h0 => (by have := st.netloc_ne hH.1; rw [h0] at this; cases this),
    st.net (userOK_quoted e user hu hune) hH hport⟩

omit st in
/-- the netloc of a re-made authority, in the words of `Stores` -/
theorem remake_netloc (U P : Option Str) (H' : Str) (port' : Option Nat) :
    (AuthMod.remake e u U P (bracket H') port').netloc = authText U P H' port' :=
  makeNetloc_qf (q e Gen.QUOTER) id U P (some (bracket H')) port'

/-- `with_user(usr')`: the password, host and port are kept; `with_user(None)` drops user AND password -/
theorem stores_withUser (usr' : Option Str) (hu : UText user) (hune : ∀ s, user = some s → s ≠ [])
    (hH : HostOK H) (hport : ∀ x, port = some x → x ≤ 65535) :
    ∃ v, withUser e u usr' = .ok v ∧ v.scheme = u.scheme ∧
      Stores e v (dropEmpty usr') (if usr'.isSome then pw else none) H port p kvs f := by
  obtain ⟨hne, hN⟩ := stores_net e u user pw H port p kvs f st hu hune hH hport
  cases usr' with
  | none =>
    exact ⟨_, AuthMod.withUser_none_of_net hne hN, rfl, remake_netloc e u _ _ H port, fun pr h => (by cases h), st.path,
      st.query, st.fragment⟩
  | some s =>
    refine ⟨_, AuthMod.withUser_some_of_net hne hN s, rfl, ?_, fun pr h => (by cases h), st.path, st.query, st.fragment⟩
    rw [remake_netloc]
    exact authText_dropEmpty e (some s) _ H port

end mods


/-! ## counting the literal occurrences of a printable non-ASCII character in `human_repr()` -/

theorem count_ascii {l : Str} {c : Nat} (hc : 128 ≤ c) (hl : ∀ y ∈ l, y < 128) : l.count c = 0 :=
  List.count_eq_zero.mpr (fun hm => by have := hl c hm; omega)

theorem pct_lt (b : Nat) (hb : b < 256) : ∀ y ∈ pct b, y < 128 := by
  intro y hy
  rcases pct_chars b hb y hy with rfl | h
  · omega
  · rcases FixLemmas.upperHex_range h with h | h <;> omega

theorem flatMap_pct_lt (bs : List Nat) (hb : ∀ b ∈ bs, b < 256) : ∀ y ∈ bs.flatMap pct, y < 128 := by
  intro y hy
  obtain ⟨b, hb', hy'⟩ := List.mem_flatMap.mp hy
  exact pct_lt b (hb b hb') y hy'

/-- `human_quote` keeps EVERY occurrence of a printable non-ASCII character literal: the human form has
    exactly as many literal occurrences of it as the text -/
theorem count_humanQuote (o : Oracles) (uns : Str) (hu : ∀ c ∈ uns, c < 128) (c : Nat) (hc : 128 ≤ c)
    (hp : o.isPrintableU c = some true) (s r : Str) (hs : PyStr s) (h : humanQuote o s uns = .ok r) :
    r.count c = s.count c := by
  revert hs
  refine humanQuote_induction (o := o) (uns := uns) (fun s r => PyStr s → r.count c = s.count c) ?_ ?_ s r h
  · intro _; rfl
  · intro x s p r hpiece _ ih hs
    have ih' := ih (fun y hy => hs y (by simp [hy]))
    rw [List.count_append, ih', List.count_cons]
    cases hpiece with
    | esc hx hpx =>
      have hxlt : x < 128 := by
        rcases hx with rfl | hx
        · omega
        · exact hu x (mem_iff.mp hx)
      have hne : (x == c) = false := by simp; omega
      rw [hpx, count_ascii hc (pct_lt x (by omega)), hne]; simp
    | shown h37 hm hpr hpx =>
      rw [hpx]
      by_cases hxc : x = c
      · subst hxc; simp; omega
      · have hne : (x == c) = false := by simpa using hxc
        rw [hne]
        simp [List.count_cons, hne]
    | hidden h37 hm hpr hsur hpx =>
      have hxc : x ≠ c := by
        rintro rfl
        rw [isPrintableChar_high o hc, hp] at hpr
        cases hpr
      have hne : (x == c) = false := by simpa using hxc
      rw [hpx, count_ascii hc (flatMap_pct_lt _ (fun b hb => OutLangLemmas.utf8_lt256 x b hb)), hne]
      simp

/-- occurrences in an optional text -/
def occ (c : Nat) (x : Option Str) : Nat := (x.getD []).count c

theorem occ_humanQuoteOpt (o : Oracles) (uns : Str) (hu : ∀ c ∈ uns, c < 128) (c : Nat) (hc : 128 ≤ c)
    (hp : o.isPrintableU c = some true) (x y : Option Str) (hx : UText x)
    (h : humanQuoteOpt o x uns = .ok y) : occ c y = occ c x := by
  rcases humanQuoteOpt_ok h with ⟨rfl, rfl⟩ | ⟨s, r, rfl, rfl, hq⟩
  · rfl
  · exact count_humanQuote o uns hu c hc hp s r (hx s rfl).1 hq

/-- occurrences in the keys and values of a list of pairs -/
def occPairs (c : Nat) (kvs : List (Str × Str)) : Nat := (kvs.map (fun kv => kv.1.count c + kv.2.count c)).sum

theorem count_flatC (c : Nat) (hc : 128 ≤ c) (l : List Str) :
    (HostLemmas.flatC 38 l).count c = (l.map (fun s => s.count c)).sum := by
  induction l with
  | nil => rfl
  | cons s r ih =>
    have hne : ((38 : Nat) == c) = false := by simp; omega
    simp only [HostLemmas.flatC_cons, List.count_cons, List.count_append, ih, List.map_cons, List.sum_cons, hne]
    simp

theorem count_joinC (c : Nat) (hc : 128 ≤ c) (l : List Str) :
    (joinC 38 l).count c = (l.map (fun s => s.count c)).sum := by
  cases l with
  | nil => rfl
  | cons s r => rw [PathLemmas.joinC_cons, List.count_append, count_flatC c hc, List.map_cons, List.sum_cons]

theorem count_humanPairs (o : Oracles) (c : Nat) (hc : 128 ≤ c) (hp : o.isPrintableU c = some true) :
    ∀ (kvs : List (Str × Str)) (parts : List Str), GoodPairs kvs → kvs.mapM (humanPair o) = .ok parts →
      (parts.map (fun s => s.count c)).sum = occPairs c kvs := by
  intro kvs
  induction kvs with
  | nil => intro parts _ h; rw [mapM_nil_ok h]; rfl
  | cons kv kvs ih =>
    intro parts hg h
    obtain ⟨r, rs, h1, h2, rfl⟩ := mapM_cons_ok h
    obtain ⟨rk, rv, hk, hv, rfl⟩ := humanPair_ok h1
    rw [gen_same_lists.2] at hv
    have g := hg kv (by simp)
    have hne : ((61 : Nat) == c) = false := by simp; omega
    simp only [List.map_cons, List.sum_cons, occPairs, List.count_append, List.count_cons, List.count_nil, hne,
      count_humanQuote o _ k_unsafe_ascii c hc hp _ _ g.1.1 hk,
      count_humanQuote o _ k_unsafe_ascii c hc hp _ _ g.2.1 hv]
    have := ih rs (fun x hx => hg x (by simp [hx])) h2
    simp only [occPairs] at this
    rw [this]; simp

theorem count_qPart (c : Nat) (hc : 128 ≤ c) (s : Str) : (qPart s).count c = s.count c := by
  unfold qPart
  cases s with
  | nil => rfl
  | cons x r =>
    have hne : ((63 : Nat) == c) = false := by simp; omega
    simp [List.count_cons, hne]

theorem count_fPart (c : Nat) (hc : 128 ≤ c) (s : Str) : (fPart s).count c = s.count c := by
  unfold fPart
  cases s with
  | nil => rfl
  | cons x r =>
    have hne : ((35 : Nat) == c) = false := by simp; omega
    simp [List.count_cons, hne]

theorem count_authText (c : Nat) (hc : 128 ≤ c) (usr pw' : Option Str) (D : Str) (port : Option Nat) :
    (authText usr pw' D port).count c = occ c usr + occ c pw' + D.count c := by
  have h58 : ((58 : Nat) == c) = false := by simp; omega
  have h64 : ((64 : Nat) == c) = false := by simp; omega
  have h91 : ((91 : Nat) == c) = false := by simp; omega
  have h93 : ((93 : Nat) == c) = false := by simp; omega
  have hb : (bracket D).count c = D.count c := by
    unfold bracket; split <;> simp [List.count_cons, List.count_append, h91, h93]
  have hhp : (hostPortStr (bracket D) port).count c = D.count c := by
    cases port with
    | none => simpa [hostPortStr] using hb
    | some n =>
      have hd : (natToStr n).count c = 0 := count_ascii hc (fun y hy => by
        have := (Decimal.natToStr_digits n).2 y hy
        simp [isDigitC] at this; omega)
      simp [hostPortStr, List.count_append, List.count_cons, hb, hd, h58]
  rw [FixLemmas.authText_eq, List.count_append, hhp]
  unfold FixLemmas.userPrefix occ
  cases usr with
  | none =>
    cases pw' with
    | none => simp
    | some w => simp [List.count_append, List.count_cons, h58, h64]
  | some u =>
    cases pw' with
    | none =>
      simp only
      split
      · rename_i hemp; rw [List.isEmpty_iff.mp hemp]; simp
      · simp [List.count_append, List.count_cons, h64]
    | some w => simp [List.count_append, List.count_cons, h58, h64]

/-- the count of literal occurrences in the composed human form -/
theorem count_human_form (e : Env) (sc : Str) (user pw : Option Str) (D : Str) (port : Option Nat)
    (p : Str) (kvs : List (Str × Str)) (f : Str) (usr pw' : Option Str) (rp : Str) (qparts : List Str) (rf : Str)
    (vs : ValidScheme sc) (hu : UText user) (hw : UText pw) (hp : PyStr (47 :: p)) (hg : GoodPairs kvs)
    (hf : PyStr f) (hq : HumanPieces e user pw (47 :: p) kvs f usr pw' (47 :: rp) qparts rf)
    (c : Nat) (hc : 128 ≤ c) (hpr : e.o.isPrintableU c = some true) :
    (composeUrl sc (authText usr pw' D port) (47 :: rp) (joinC 38 qparts) rf).count c =
      occ c user + occ c pw + D.count c + (47 :: p).count c + occPairs c kvs + f.count c := by
  obtain ⟨hu1, hu2, _, _⟩ := unsafe_ascii
  have hsc : sc.count c = 0 := count_ascii hc (fun y hy => HumanLemmas.schemeChars_ascii y (mem_iff.mp (vs.chars y hy)))
  have h58 : ((58 : Nat) == c) = false := by simp; omega
  have h47 : ((47 : Nat) == c) = false := by simp; omega
  have e1 := occ_humanQuoteOpt e.o _ user_unsafe_ascii c hc hpr user usr hu hq.q1
  have e2 := occ_humanQuoteOpt e.o _ user_unsafe_ascii c hc hpr pw pw' hw (gen_same_lists.1 ▸ hq.q2)
  have e3 := count_humanQuote e.o _ hu1 c hc hpr _ _ hp hq.q3
  have e4 := count_humanPairs e.o c hc hpr kvs qparts hg hq.q4
  have e5 := count_humanQuote e.o _ hu2 c hc hpr _ _ hf hq.q5
  rw [FixLemmas.composeUrl_eq]
  simp only [List.count_append, List.count_cons, hsc, h58, h47, count_authText c hc, count_qPart c hc,
    count_fPart c hc, count_joinC c hc, e1, e2, e4, e5]
  simp only [List.count_cons, h47] at e3
  simp only [Bool.false_eq_true, if_false, Nat.zero_add, Nat.add_zero] at e3 ⊢
  omega

theorem occPairs_pos (c : Nat) (kvs : List (Str × Str)) (kv : Str × Str) (hkv : kv ∈ kvs)
    (h : c ∈ kv.1 ∨ c ∈ kv.2) : 0 < occPairs c kvs := by
  induction kvs with
  | nil => cases hkv
  | cons x xs ih =>
    simp only [occPairs, List.map_cons, List.sum_cons]
    rcases List.mem_cons.mp hkv with rfl | hm
    · rcases h with h | h
      · have := List.count_pos_iff.mpr h; omega
      · have := List.count_pos_iff.mpr h; omega
    · have := ih hm; simp only [occPairs] at this; omega

/-! ## an upper-case scheme in front of a URL string -/

/-- a non-empty string of scheme characters, in any case -/
def SchemeText (SC : Str) : Prop := SC ≠ [] ∧ ∀ c ∈ SC, mem c Gen.schemeChars = true

instance (SC : Str) : Decidable (SchemeText SC) := by unfold SchemeText; infer_instance


theorem schemeText_lower {SC : Str} (h : SchemeText SC) : SchemeText (lower SC) := by
  refine ⟨by simpa [lower] using h.1, ?_⟩
  intro c hc
  simp only [lower, List.mem_map] at hc
  obtain ⟨x, hx, rfl⟩ := hc
  exact (UnsplitLemmas.schemeChars_lower x (mem_iff.mp (h.2 x hx))).1

theorem validScheme_lower {SC : Str} (h : SchemeText SC) : ValidScheme (lower SC) :=
  ⟨(schemeText_lower h).1, (schemeText_lower h).2, HostLemmas.lower_idem SC⟩

theorem splitUrl_congr (o : Oracles) (s s' : Str) (h : splitScheme (cleanUrl s) = splitScheme (cleanUrl s')) :
    splitUrl o s = splitUrl o s' := by
  unfold splitUrl
  simp only [h]

/-- `URL(…)` lower-cases the scheme: a string with the scheme in any case is read as the string with the
    lower-case scheme -/
theorem encodeUrl_scheme_case (e : Env) (SC X : Str) (h : SchemeText SC) :
    encodeUrl e (SC ++ 58 :: X) = encodeUrl e (lower SC ++ 58 :: X) := by
  have hs : splitUrl e.o (SC ++ 58 :: X) = splitUrl e.o (lower SC ++ 58 :: X) := by
    apply splitUrl_congr
    rw [cleanUrl_schemeText SC _ h.1 h.2, cleanUrl_schemeText (lower SC) _ (schemeText_lower h).1 (schemeText_lower h).2]
    have : (58 :: X).filter (fun c => !mem c Gen.removeSet) = 58 :: X.filter (fun c => !mem c Gen.removeSet) := by
      rw [List.filter_cons_of_pos (by decide)]
    rw [this, ParseLemmas.splitScheme_eq, ParseLemmas.splitScheme_eq, schemeOf_schemeText SC _ h.1 h.2,
      schemeOf_schemeText (lower SC) _ (schemeText_lower h).1 (schemeText_lower h).2, HostLemmas.lower_idem]
  rw [FixLemmas.encodeUrl_eq, FixLemmas.encodeUrl_eq, hs]

/-- `build(encoded=False)` looks at its `scheme=` argument only through the lowering step (fix e21485a): two
    schemes that lower alike build the same URL -/
theorem build_scheme_congr (e : Env) (a : BuildArgs) (s s' : Str) (henc : a.encoded = false)
    (h : lowerAny e s = lowerAny e s') : build e { a with scheme := s } = build e { a with scheme := s' } := by
  rw [build_eq, build_eq]
  -- neither the argument checks nor any stage but the lowering looks at `scheme=`
  show (match C07_buildArgCheck a with
    | some err => (.error err : R Url)
    | none => buildBody e { a with scheme := s }) = _
  unfold buildBody
  simp only [henc, h, Bool.false_eq_true, if_false]
  rfl

/-- a scheme text in any case lowers to its lower-case form, natively (scheme characters are ASCII) -/
theorem lowerAny_schemeText (e : Env) {SC : Str} (h : SchemeText SC) : lowerAny e SC = .ok (lower SC) := by
  apply BuildFix.lowerAny_ascii
  unfold isAscii
  rw [List.all_eq_true]
  intro c hc
  simpa using HumanLemmas.schemeChars_ascii c (mem_iff.mp (h.2 c hc))

section childsec
open PathAlg

/-! ## the decoded path of `u / s` -/

/-- the decoded path (without the leading "/") of `u / s` for a URL with decoded path `"/" ++ p` -/
def childTail (p s : Str) : Str := joinC 47 (stripTrail (splitOn 47 p) ++ splitOn 47 s)

theorem stripTrail_map (g : Str → Str) (hg : ∀ x, g x = [] ↔ x = []) (l : List Str) :
    stripTrail (l.map g) = (stripTrail l).map g := by
  unfold stripTrail
  rw [List.getLast?_map]
  cases hl : l.getLast? with
  | none => simp
  | some x =>
    simp only [Option.map_some, Option.some.injEq, hg]
    split
    · rw [List.map_dropLast]
    · rfl

theorem stripTrail_cons_nil (T : List Str) (hT : T ≠ []) : stripTrail ([] :: T) = [] :: stripTrail T := by
  obtain ⟨a, b, rfl⟩ := List.exists_cons_of_ne_nil hT
  unfold stripTrail
  rw [List.getLast?_cons_cons]
  split <;> simp

end childsec

section ctor
open FixLemmas HostLemmas

/-! ## the constructor on the canonical string of encoded components -/

theorem query_sep_canon : ∀ b : Backend, (Gen.QUERY_REQUOTER.tab b).safe 61 = true ∧
    (Gen.QUERY_REQUOTER.tab b).safe 38 = true ∧ (Gen.QUERY_REQUOTER.tab b).qs = true := by
  intro b; cases b <;> decide +kernel

theorem canon_single (b : Backend) (c : Nat) (h : (Gen.QUERY_REQUOTER.tab b).safe c = true) (h37 : c ≠ 37)
    (h32 : c ≠ 32) : Canon (Gen.QUERY_REQUOTER.tab b) [c] :=
  .lit c [] h h37 (fun hx => h32 hx.2) .nil

theorem canon_pairText (b : Backend) (p : Str × Str) (hg : GoodText p.1 ∧ GoodText p.2) :
    Canon (Gen.QUERY_REQUOTER.tab b) (pairText b p) := by
  unfold pairText
  exact canon_append (canon_append (C04_partner_canon b p.1 hg.1.1).2.2.2.1
    (canon_single b 61 (query_sep_canon b).1 (by decide) (by decide))) (C04_partner_canon b p.2 hg.2.1).2.2.2.1

theorem canon_flatC (b : Backend) (ps : List (Str × Str)) (hg : GoodPairs ps) :
    Canon (Gen.QUERY_REQUOTER.tab b) (HostLemmas.flatC 38 (ps.map (pairText b))) := by
  induction ps with
  | nil => exact .nil
  | cons p ps ih =>
    simp only [List.map_cons, HostLemmas.flatC_cons]
    have := canon_append (canon_single b 38 (query_sep_canon b).2.1 (by decide) (by decide))
      (canon_append (canon_pairText b p (hg p (by simp))) (ih (fun x hx => hg x (by simp [hx]))))
    simpa using this

/-- the query text `build` stores is canonical for the QUERY_REQUOTER -/
theorem canon_qtext (b : Backend) (ps : List (Str × Str)) (hg : GoodPairs ps) :
    Canon (Gen.QUERY_REQUOTER.tab b) (qtext b ps) := by
  unfold qtext
  cases ps with
  | nil => exact .nil
  | cons p ps =>
    rw [List.map_cons, PathLemmas.joinC_cons]
    exact canon_append (canon_pairText b p (hg p (by simp))) (canon_flatC b ps (fun x hx => hg x (by simp [hx])))

theorem userInfoOK_quoted (e : Env) (user pw : Option Str) (hu : UText user)
    (hune : ∀ s, user = some s → s ≠ []) (hw : UText pw) :
    UserInfoOK e.b (user.map (q e Gen.QUOTER)) (pw.map (q e Gen.QUOTER)) where
  user := by
    intro s hs
    cases user with
    | none => cases hs
    | some t =>
      simp only [Option.map_some, Option.some.injEq] at hs
      subst hs
      exact ⟨run_ne_nil Gen.QUOTER (by decide) rfl e.b t (hu t rfl).1 (hu t rfl).2 (hune t rfl), (C04_partner_canon e.b t (hu t rfl).1).1⟩
  pw := by
    intro s hs
    cases pw with
    | none => cases hs
    | some t =>
      simp only [Option.map_some, Option.some.injEq] at hs
      subst hs
      exact (C04_partner_canon e.b t (hw t rfl).1).1

theorem compOK_encoded (e : Env) (p : Str) (kvs : List (Str × Str)) (f : Str)
    (hp : PyStr (47 :: p)) (hn : NoSurrogate (47 :: p)) (hnorm : normalizePath (47 :: p) = 47 :: p)
    (hg : GoodPairs kvs) (hf : PyStr f) :
    CompOK e.b (q e Gen.PATH_QUOTER (47 :: p)) (qtext e.b kvs) (fragText e f) where
  rooted := Or.inr ⟨_, q_path_cons_slash e p hp⟩
  pathC := (C04_partner_canon e.b _ hp).2.1
  norm := fun _ => by rw [path_norm_commute e p hp hn, hnorm]
  nonempty := fun h => by rw [q_path_cons_slash e p hp] at h; cases h
  queryC := canon_qtext e.b kvs hg
  fragmentC := by
    unfold fragText
    split
    · rename_i h; rw [List.isEmpty_iff.mp h]; exact .nil
    · exact (C04_partner_canon e.b _ hf).2.2.2.2

/-- `URL(s)` for the string `s` = scheme "://" authority path "?" query "#" fragment whose components are
    the encodings of decoded components: the URL object, with its cache pre-fill -/
theorem ctor_encoded (e : Env) (sc : Str) (user pw : Option Str) (H : Str) (port : Option Nat)
    (p : Str) (kvs : List (Str × Str)) (f : Str)
    (vs : ValidScheme sc) (hH : HostFix e.o H) (hport : ∀ x, port = some x → x ≤ 65535)
    (hu : UText user) (hune : ∀ s, user = some s → s ≠ []) (hw : UText pw)
    (hp : PyStr (47 :: p)) (hn : NoSurrogate (47 :: p)) (hnorm : normalizePath (47 :: p) = 47 :: p)
    (hg : GoodPairs kvs) (hf : PyStr f) :
    encodeUrl e (composeUrl sc (authText (user.map (q e Gen.QUOTER)) (pw.map (q e Gen.QUOTER)) H port)
        (q e Gen.PATH_QUOTER (47 :: p)) (qtext e.b kvs) (fragText e f)) =
      .ok (urlOf sc (authText (user.map (q e Gen.QUOTER)) (pw.map (q e Gen.QUOTER)) H port)
        (q e Gen.PATH_QUOTER (47 :: p)) (qtext e.b kvs) (fragText e f)
        (preOf (user.map (q e Gen.QUOTER)) (pw.map (q e Gen.QUOTER)) H port)) := by
  have hui := userInfoOK_quoted e user pw hu hune hw
  have hc := compOK_encoded e p kvs f hp hn hnorm hg hf
  exact ctor_compose e sc _ _ _ _ _ (schemeOK_of_valid vs) (authText_ne_nil _ _ hH.ok.1 port)
    (netFix_authText e sc hui hH hport) hc

theorem stores_ctor (e : Env) (sc : Str) (user pw : Option Str) (H : Str) (port : Option Nat)
    (p : Str) (kvs : List (Str × Str)) (f : Str) :
    Stores e (urlOf sc (authText (user.map (q e Gen.QUOTER)) (pw.map (q e Gen.QUOTER)) H port)
        (q e Gen.PATH_QUOTER (47 :: p)) (qtext e.b kvs) (fragText e f)
        (preOf (user.map (q e Gen.QUOTER)) (pw.map (q e Gen.QUOTER)) H port)) user pw H port p kvs f :=
  ⟨rfl, fun pr h => (by cases h; rfl), Or.inl rfl, rfl, rfl⟩

/-- from the accessors of a URL object to `Stores` -/
theorem stores_of_accessors (e : Env) (u : Url) (user pw : Option Str) (H : Str) (port : Option Nat)
    (p : Str) (kvs : List (Str × Str)) (f : Str)
    (hU : rawUser e u = .ok (user.map (q e Gen.QUOTER))) (hP : rawPassword e u = .ok (pw.map (q e Gen.QUOTER)))
    (hH : rawHost e u = .ok (some H)) (hE : explicitPort e u = .ok port)
    (hnl : u.netloc = authText (user.map (q e Gen.QUOTER)) (pw.map (q e Gen.QUOTER)) H port)
    (hpath : u.path = q e Gen.PATH_QUOTER (47 :: p) ∨ (u.path = [] ∧ p = []))
    (hquery : u.query = qtext e.b kvs) (hfrag : u.fragment = fragText e f) :
    Stores e u user pw H port p kvs f := by
  refine ⟨hnl, ?_, hpath, hquery, hfrag⟩
  intro pr hpr
  have hnet : net e u = .ok pr := by unfold net; rw [hpr]; rfl
  unfold rawUser at hU; unfold rawPassword at hP; unfold rawHost at hH; unfold explicitPort at hE
  rw [hnet] at hU hP hH hE
  simp only [Except.map, Except.ok.injEq] at hU hP hH hE
  cases pr
  simp only at hU hP hH hE
  subst hU hP hH hE
  rfl

end ctor

end HumanMore
end Yarl
