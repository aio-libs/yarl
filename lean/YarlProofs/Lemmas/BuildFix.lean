/-
  BuildFix.lean — small facts about the two steps `URL.build()` gained with the fixes e21485a
  (the scheme is stored lower-case: `lowerAny`) and c2c2803 (a non-ASCII `authority=` goes through
  the NFKC screen `checkNetloc`, as in the parser).  Used by the `build` proofs of every property.
-/
import YarlModel
import YarlProofs.Lemmas.StrLit
import YarlProofs.Lemmas.Basics
namespace Yarl
namespace BuildFix

/-- for an ASCII scheme `lowerAny` is `str.lower()` computed natively -/
theorem lowerAny_ascii (e : Env) (s : Str) (h : isAscii s = true) : lowerAny e s = .ok (lower s) := by
  unfold lowerAny; rw [if_pos h]; rfl

theorem lowerAny_ok_ascii {e : Env} {s sc : Str} (h : isAscii s = true) (hl : lowerAny e s = .ok sc) :
    sc = lower s := by
  rw [lowerAny_ascii e s h] at hl; cases hl; rfl

/-- a non-ASCII scheme is lowered by the oracle -/
theorem lowerAny_nonascii (e : Env) (s : Str) (h : isAscii s = false) :
    lowerAny e s = ask "lowerU" s (e.o.lowerU s) := by
  unfold lowerAny; rw [if_neg (by simp [h])]

/-- `lowerAny` fails only with an oracle request -/
theorem lowerAny_total (e : Env) (s : Str) :
    (∃ sc, lowerAny e s = .ok sc) ∨ lowerAny e s = .error (.oracleMiss "lowerU" s) := by
  unfold lowerAny
  split
  · exact Or.inl ⟨_, rfl⟩
  · cases e.o.lowerU s with
    | some v => exact Or.inl ⟨v, rfl⟩
    | none => exact Or.inr rfl

/-- the empty scheme stays empty -/
theorem lowerAny_nil (e : Env) : lowerAny e [] = .ok [] := rfl

/-- the screen step of `build(authority=…)`: an ASCII authority skips it -/
theorem screen_ascii {β : Type} {o : Oracles} {s : Str} {k : R β} (h : isAscii s = true) :
    (if (!isAscii s) = true then (do checkNetloc o s; k) else k) = k := by
  rw [if_neg (by simp [h])]

/-- a non-ASCII authority that fails the screen fails the whole step -/
theorem screen_error {β : Type} {o : Oracles} {s : Str} {k : R β} {er : PyErr}
    (h : isAscii s = false) (hc : checkNetloc o s = .error er) :
    (if (!isAscii s) = true then (do checkNetloc o s; k) else k) = .error er := by
  rw [if_pos (by simp [h]), hc]; rfl

/-- a non-ASCII authority that passes the screen continues -/
theorem screen_pass {β : Type} {o : Oracles} {s : Str} {k : R β}
    (hc : checkNetloc o s = .ok ()) :
    (if (!isAscii s) = true then (do checkNetloc o s; k) else k) = k := by
  split
  · rw [hc]; rfl
  · rfl

end BuildFix

end Yarl
