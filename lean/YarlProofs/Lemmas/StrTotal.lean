/-
  StrTotal.lean — when does a stored netloc split again?  `split_netloc` fails only on its port text, so the first
  half is about the text after the last '@': `HostShapeStr h` (no '@', no ']' together with a ':') is what every host
  `split_netloc` returns satisfies, `Writable w` is what a written host text needs for the port behind it to read
  back or be swallowed, and `splitNetloc_makeNetloc_written` is the conclusion.  The second half says what the
  non-validating `_encode_host` can return (`encodeHost_false_cases`) and that re-bracketing its answer gives a
  `Writable` text (`writable_rebracket`): what `build(authority=…)` and the constructor store.
-/
import YarlModel
import YarlProofs.Lemmas.StrLit
import YarlProofs.Lemmas.NetlocLemmas
import YarlProofs.Lemmas.BuildShape
import YarlProofs.Lemmas.ParseLemmas
import YarlProofs.Lemmas.HostLemmas
import YarlProofs.C16
import YarlProofs.Lemmas.Basics
namespace Yarl

/-- the host text (brackets stripped) of a netloc that can be re-written and still splits:
    no '@', and a ']' never together with a ':' -/
def HostShapeStr (h : Str) : Prop := 64 ∉ h ∧ (58 ∈ h → 93 ∉ h)

instance (h : Str) : Decidable (HostShapeStr h) := by unfold HostShapeStr; infer_instance

namespace StrTotal
open NetlocLemmas

/-! ### small helpers -/

/-- characters before the separator do not change what follows it -/
theorem partition_append_notMem (c : Nat) (d r : Str) (h : c ∉ d) :
    (partition c (d ++ r)).2.2 = (partition c r).2.2 := by
  induction d with
  | nil => rfl
  | cons x xs ih =>
    have hx : x ≠ c := fun e => h (by simp [e])
    have hxs : c ∉ xs := fun e => h (by simp [e])
    simp [partition, hx, ih hxs]

theorem partition_fst_notMem (c : Nat) (s : Str) : c ∉ (partition c s).1 := by
  rw [ParseLemmas.partition_eq]
  intro hm
  simpa using ParseLemmas.mem_takeWhile_imp _ _ _ hm

/-! ### the port text that `split_netloc` reads -/

/-- a port text that `split_netloc` accepts: absent, or the decimal rendering of a port in range -/
def PortStrOK (ps : Str) : Prop := ps = [] ∨ ∃ p, p ≤ 65535 ∧ ps = natToStr p

/-- `finish` succeeds whenever the port text is acceptable -/
theorem finish_ok (o : Oracles) (U P : Option Str) (hi : Str) (hp : PortStrOK (hostPort hi).2) :
    ∃ np, finish o U P hi = .ok np := by
  rw [finish_eq]
  rcases hp with h0 | ⟨p, hle, hps⟩
  · rw [h0]
    exact ⟨_, rfl⟩
  · rw [hps, portOf_natToStr o hle]
    exact ⟨_, rfl⟩

/-- whatever `finish` returns, its host is the host half of `hostPort` -/
theorem finish_host (o : Oracles) (U P : Option Str) (hi : Str) (np : NetlocParts)
    (h : finish o U P hi = .ok np) : np.host = orNone (hostPort hi).1 := by
  rw [finish_eq] at h
  obtain ⟨pt, _, rfl⟩ := map_ok h
  rfl

/-- behind the first '[' the port text is read after the next ']' -/
theorem hostPort_snd_open (a b rest : Str) (ha : 91 ∉ a) :
    (hostPort (a ++ 91 :: b ++ rest)).2 = (partition 58 (partition 93 (b ++ rest)).2.2).2.2 := by
  rw [List.append_assoc, List.cons_append]
  have e2 : mem 91 (a ++ 91 :: (b ++ rest)) = true := mem_iff.mpr (by simp)
  unfold hostPort
  simp [e2, partition_found 91 a (b ++ rest) ha]

/-- a bracket that is closed, with no ':' before `rest`: the port text is that of `rest` -/
theorem hostPort_snd_closed (a c d rest : Str) (ha : 91 ∉ a) (hc : 93 ∉ c) (hd : 58 ∉ d) :
    (hostPort (a ++ 91 :: (c ++ 93 :: d) ++ rest)).2 = (partition 58 rest).2.2 := by
  have e4 := partition_found 93 c (d ++ rest) hc
  rw [hostPort_snd_open a _ rest ha]
  simp [e4, partition_append_notMem 58 d rest hd]

/-- an opening bracket that is never closed swallows the port -/
theorem hostPort_snd_unclosed (a b rest : Str) (ha : 91 ∉ a) (hb : 93 ∉ b ++ rest) :
    (hostPort (a ++ 91 :: b ++ rest)).2 = [] := by
  rw [hostPort_snd_open a b rest ha, partition_notFound 93 _ hb]
  rfl

/-- the port text read back from `bracket h ++ rest`: nothing, or the port text of `rest` alone -/
theorem hostPort_snd (h rest : Str) (hs : 58 ∈ h → 93 ∉ h) (r91 : 91 ∉ rest) (r93 : 93 ∉ rest) :
    (hostPort (bracket h ++ rest)).2 = [] ∨ (hostPort (bracket h ++ rest)).2 = (partition 58 rest).2.2 := by
  by_cases h58 : 58 ∈ h
  · right
    have hb : bracket h = [91] ++ h ++ [93] := by simp [bracket, mem_iff.mpr h58]
    rw [hb]
    simpa using hostPort_snd_closed [] h [] rest (by simp) (hs h58) (by simp)
  · have hb : bracket h = h := by simp [bracket, mem_false_iff.mpr h58]
    rw [hb]
    by_cases h91 : 91 ∈ h
    · obtain ⟨a, b, rfl, ha⟩ := List.eq_append_cons_of_mem h91
      by_cases b93 : 93 ∈ b
      · obtain ⟨c, d, rfl, hc⟩ := List.eq_append_cons_of_mem b93
        exact Or.inr (hostPort_snd_closed a c d rest ha hc (by simp at h58; simp [h58]))
      · exact Or.inl (hostPort_snd_unclosed a b rest ha (by simp [b93, r93]))
    · right
      rw [hostPort_noBracket (by simp [h91, r91])]
      exact partition_append_notMem 58 h rest h58

/-! ### the host text that `split_netloc` returns -/

/-- the host half of `hostPort` is cut out of the input; cut out of brackets it has no ']', otherwise
    it has neither ':' nor '[' -/
theorem hostPort_fst (hi : Str) :
    (∀ x ∈ (hostPort hi).1, x ∈ hi) ∧ (mem 91 hi = true → 93 ∉ (hostPort hi).1) ∧
    (mem 91 hi = false → 58 ∉ (hostPort hi).1 ∧ 91 ∉ (hostPort hi).1) := by
  unfold hostPort
  cases h : mem 91 hi with
  | true =>
    simp only [if_true]
    exact ⟨fun x hx => partition_snd_sub 91 hi x (partition_fst_sub 93 _ x hx),
      fun _ => partition_fst_notMem 93 _, (fun h' => nomatch h')⟩
  | false =>
    simp only [Bool.false_eq_true, if_false]
    exact ⟨partition_fst_sub 58 hi, (fun h' => nomatch h'),
      fun _ => ⟨partition_fst_notMem 58 hi, fun hm => mem_false_iff.mp h (partition_fst_sub 58 hi 91 hm)⟩⟩

theorem userSplit_hostinfo (n : Str) : 64 ∉ (userSplit n).2.2 := by
  unfold userSplit
  by_cases h : mem 64 n = true
  · simp only [h, Bool.not_true, Bool.false_eq_true, if_false]
    exact (ParseLemmas.rpartition_mem (mem_iff.mp h)).2
  · have h' : mem 64 n = false := by simpa using h
    simp only [h', Bool.not_false, if_true]
    exact mem_false_iff.mp h'

/-- the host `split_netloc` returns is the non-empty host half of `hostPort` on the text after the last '@' -/
theorem splitNetloc_host_eq {o : Oracles} {n : Str} {np : NetlocParts} {h : Str}
    (hn : splitNetloc o n = .ok np) (hh : np.host = some h) : (hostPort (userSplit n).2.2).1 = h ∧ h ≠ [] := by
  rw [splitNetloc_eq] at hn
  have := finish_host o _ _ _ np hn
  rw [hh] at this
  unfold orNone at this
  split at this
  · cases this
  · rename_i hne
    have e := (Option.some.inj this).symm
    exact ⟨e, fun h0 => hne (by rw [e, h0]; rfl)⟩

/-- every host `split_netloc` returns has the shape -/
theorem splitNetloc_host_shape (o : Oracles) (n : Str) (np : NetlocParts) (h : Str)
    (hn : splitNetloc o n = .ok np) (hh : np.host = some h) : HostShapeStr h := by
  have hf := hostPort_fst (userSplit n).2.2
  rw [(splitNetloc_host_eq hn hh).1] at hf
  refine ⟨fun hm => userSplit_hostinfo n (hf.1 64 hm), fun h58 => ?_⟩
  cases hb : mem 91 (userSplit n).2.2 with
  | true => exact hf.2.1 hb
  | false => exact absurd h58 (hf.2.2 hb).1

/-! ### the re-bracketed host text

  `encode_url` and `build(authority=…)` put the brackets back around an encoded host that has none
  when the host part of the input was bracketed. -/

theorem userSplit_hostinfo_eq (n : Str) : (userSplit n).2.2 = (rpartition 64 n).2.2 := by
  unfold userSplit
  by_cases h : mem 64 n = true
  · simp only [h, Bool.not_true, Bool.false_eq_true, if_false]
  · have h' : mem 64 n = false := by simpa using h
    simp only [h', Bool.not_false, if_true]
    exact (ParseLemmas.rpartition_snd_snd_of_mem_false h').symm

/-- every host `split_netloc` returns: non-empty, no '@'; cut out of brackets it has no ']',
    otherwise it has neither ':' nor '[' -/
theorem splitNetloc_host_facts (o : Oracles) (n : Str) (np : NetlocParts) (h : Str)
    (hn : splitNetloc o n = .ok np) (hh : np.host = some h) :
    h ≠ [] ∧ 64 ∉ h ∧ (mem 91 (rpartition 64 n).2.2 = true → 93 ∉ h) ∧
    (mem 91 (rpartition 64 n).2.2 = false → 58 ∉ h ∧ 91 ∉ h) := by
  have he := splitNetloc_host_eq hn hh
  have hf := (hostPort_fst (userSplit n).2.2).2
  rw [he.1, userSplit_hostinfo_eq] at hf
  exact ⟨he.2, (splitNetloc_host_shape o n np h hn hh).1, hf.1, hf.2⟩

/-! ### host texts around which a netloc splits again -/

/-- a written host text `w`: no '@', and the port text read back from `w ++ rest` is nothing or
    the port text of `rest` -/
def Writable (w : Str) : Prop :=
  64 ∉ w ∧ ∀ rest, 91 ∉ rest → 93 ∉ rest →
    ((hostPort (w ++ rest)).2 = [] ∨ (hostPort (w ++ rest)).2 = (partition 58 rest).2.2)

theorem writable_bracket {h : Str} (hs : HostShapeStr h) : Writable (bracket h) :=
  ⟨notMem_bracket hs.1 (by decide) (by decide), fun rest r91 r93 => hostPort_snd h rest hs.2 r91 r93⟩

/-- a bracketed text without ']' inside -/
theorem writable_bracketed {h : Str} (h64 : 64 ∉ h) (h93 : 93 ∉ h) : Writable ([91] ++ h ++ [93]) :=
  ⟨by simp [h64], fun rest _ _ => Or.inr (by
    simpa using hostPort_snd_closed [] h [] rest (by simp) h93 (by simp))⟩

theorem writable_open {w : Str} (h64 : 64 ∉ w) (h91 : 91 ∈ w) (h93 : 93 ∉ w) : Writable w := by
  refine ⟨h64, fun rest _ r93 => Or.inl ?_⟩
  obtain ⟨a, b, rfl, ha⟩ := List.eq_append_cons_of_mem h91
  exact hostPort_snd_unclosed a b rest ha (by simp at h93; simp [h93, r93])

theorem portStrOK_written (w : Str) (port : Option Nat) (hw : Writable w)
    (hp : ∀ p, port = some p → p ≤ 65535) : PortStrOK (hostPort (hostPortStr w port)).2 := by
  cases port with
  | none =>
    have := hw.2 [] (by simp) (by simp)
    simp only [List.append_nil, partition, or_self] at this
    exact Or.inl this
  | some p =>
    -- the text after the host is ":" and digits: no bracket in it
    have hd : ∀ d, d < 48 ∨ 57 < d → d ∉ natToStr p := Decimal.notMem_digits (Decimal.natToStr_digits p).2
    have := hw.2 (58 :: natToStr p) (by simp [hd 91 (by omega)]) (by simp [hd 93 (by omega)])
    have e : hostPortStr w (some p) = w ++ 58 :: natToStr p := by simp [hostPortStr]
    rw [e]
    rcases this with h0 | h1
    · exact Or.inl h0
    · exact Or.inr ⟨p, hp p rfl, by rw [h1]; simp [partition]⟩

/-- whatever user and password are, a netloc written by `make_netloc` around a writable host
    text and a port in range splits again -/
theorem splitNetloc_makeNetloc_written (o : Oracles) (qf : Str → Str) (user pw : Option Str) (w : Str)
    (port : Option Nat) (enc : Bool) (hw : Writable w) (hp : ∀ p, port = some p → p ≤ 65535) :
    ∃ np, splitNetloc o (makeNetloc qf user pw (some w) port enc) = .ok np := by
  have h64 := notMem_hostPortStr_of port hw.1
  have hps := portStrOK_written w port hw hp
  -- with or without userinfo, `split_netloc` reads its port from the written `host[:port]`
  rcases makeNetloc_shape qf user pw w port enc with e | ⟨X, e⟩
  · rw [e, splitNetloc_eq, userSplit_noAt _ h64]
    exact finish_ok o _ _ _ hps
  · rw [e, splitNetloc_eq, userSplit_at X _ h64]
    exact finish_ok o _ _ _ hps

/-! ### what the non-validating `_encode_host` returns -/

/-- the IP branch without validation: a bracketed canonical IPv6 text (zone kept) or the input itself (IPv4) -/
theorem ipRes_false_cases {h0 h1 : Str} (hres : HostLemmas.ipRes h0 = some h1) :
    (∃ h8, parseIP (partition 37 h0).1 = some (.v6 h8) ∧ h1 = [91] ++ (ipv6ToStr h8 ++ zonePart h0) ++ [93]) ∨
    (∃ o4, parseIP (partition 37 h0).1 = some (.v4 o4)) ∧ h1 = h0 := by
  cases hp : parseIP (partition 37 h0).1 with
  | none =>
    rw [HostLemmas.ipRes_eq_none.2 hp] at hres
    cases hres
  | some ip =>
    cases ip with
    | v4 o4 => exact Or.inr ⟨⟨o4, rfl⟩, Option.some.inj (hres.symm.trans (HostLemmas.ipRes_of_v4 hp))⟩
    | v6 h8 =>
      refine Or.inl ⟨h8, rfl, ?_⟩
      rw [← Option.some.inj ((HostLemmas.ipRes_of_v6 hp).symm.trans hres)]
      simp

/-- the three things the re-entry `encodeHostA` can return without validation -/
theorem encodeHostA_false_cases (o : Oracles) (a h1 : Str) (he : encodeHostA o a false = .ok h1) :
    (∃ h8, parseIP (partition 37 a).1 = some (.v6 h8) ∧ h1 = [91] ++ (ipv6ToStr h8 ++ zonePart a) ++ [93]) ∨
    h1 = a ∨ (isAscii a = true ∧ h1 = lower a) := by
  rcases HostLemmas.encodeHostA_casesV he with ⟨hres, _⟩ | ⟨_, hreg⟩
  · rcases ipRes_false_cases hres with h | ⟨_, h⟩
    · exact Or.inl h
    · exact Or.inr (Or.inl h)
  · obtain ⟨ha, hr, _⟩ := HostLemmas.regPathA_ok hreg
    exact Or.inr (Or.inr ⟨ha, hr⟩)

/-- the things the non-validating `_encode_host` can return: a bracketed canonical IPv6 text
    (zone kept); for a non-ASCII host whose IDNA answer `a` holds a ':', what the re-entry makes
    of `a` (the same three ASCII cases, on `a`); the input itself (IPv4 literal, zone kept), the
    lower-cased ASCII input, or the IDNA encoder's answer -/
theorem encodeHost_false_cases (o : Oracles) (h0 h1 : Str) (he : encodeHost o h0 false = .ok h1) :
    (∃ h8, parseIP (partition 37 h0).1 = some (.v6 h8) ∧ h1 = [91] ++ (ipv6ToStr h8 ++ zonePart h0) ++ [93]) ∨
    (isAscii h0 = false ∧ ∃ a, idnaEncode o h0 = .ok a ∧ mem 58 a = true ∧
      ((∃ h8, parseIP (partition 37 a).1 = some (.v6 h8) ∧ h1 = [91] ++ (ipv6ToStr h8 ++ zonePart a) ++ [93]) ∨
        h1 = a ∨ (isAscii a = true ∧ h1 = lower a))) ∨
    h1 = h0 ∨ (isAscii h0 = true ∧ h1 = lower h0) ∨ (isAscii h0 = false ∧ idnaEncode o h0 = .ok h1) := by
  rcases HostLemmas.encodeHost_casesV he with ⟨hres, _⟩ | ⟨_, hreg⟩
  · rcases ipRes_false_cases hres with h | ⟨_, h⟩
    · exact Or.inl h
    · exact Or.inr (Or.inr (Or.inl h))
  · right
    cases ha : isAscii h0 with
    | true => exact Or.inr (Or.inr (Or.inl ⟨rfl, ((HostLemmas.regPath_ok_of_ascii ha).1 hreg).1⟩))
    | false =>
      obtain ⟨a, hi, ⟨_, rfl, _⟩ | ⟨h58, hA⟩⟩ := HostLemmas.regPath_idn_cases ha hreg
      · exact Or.inr (Or.inr (Or.inr ⟨rfl, hi⟩))
      · exact Or.inl ⟨rfl, a, hi, h58, encodeHostA_false_cases o a h1 hA⟩

/-- the delimiters that matter when a netloc is split and its host unbracketed -/
def Delim (c : Nat) : Prop := c = 58 ∨ c = 64 ∨ c = 91 ∨ c = 93

/-- the body of a bracketed IPv6 result: it has a ':', and its delimiters other than ':' come from the zone -/
theorem v6_body_facts (h0 : Str) (h8 : List Nat) (hv6 : parseIP (partition 37 h0).1 = some (.v6 h8)) :
    58 ∈ ipv6ToStr h8 ++ zonePart h0 ∧ 58 ∈ h0 ∧
    ∀ c, (c = 64 ∨ c = 91 ∨ c = 93) → c ∈ ipv6ToStr h8 ++ zonePart h0 → c ∈ h0 := by
  have h6 := HostLemmas.parseIP_some_v6.1 hv6
  have hcolon : 58 ∈ ipv6ToStr h8 := HostLemmas.parseIPv6_colon (C16_ipv6_reparse _ h8 h6)
  refine ⟨List.mem_append_left _ hcolon, partition_fst_sub 37 h0 58 (HostLemmas.parseIPv6_colon h6), ?_⟩
  intro c hc hm
  rcases List.mem_append.1 hm with hm | hm
  · exfalso
    rcases C16_ipv6_text_lower h8 c hm with h' | h' | h'
    · omega
    · simp [isDigitC] at h'; omega
    · omega
  · unfold zonePart at hm
    split at hm
    · simp only [List.cons_append, List.nil_append, List.mem_cons] at hm
      rcases hm with hm | hm
      · omega
      · exact partition_snd_sub 37 h0 c hm
    · cases hm

/-- in the three other cases no non-letter character is introduced (for the IDNA answer this is a hypothesis) -/
theorem encodeHost_false_char (o : Oracles) (h0 h1 : Str) (c : Nat)
    (hc : ¬ (65 ≤ c ∧ c ≤ 90) ∧ ¬ (97 ≤ c ∧ c ≤ 122))
    (hidna : isAscii h0 = false → ∀ r, idnaEncode o h0 = .ok r → c ∈ r → c ∈ h0)
    (h : h1 = h0 ∨ (isAscii h0 = true ∧ h1 = lower h0) ∨ (isAscii h0 = false ∧ idnaEncode o h0 = .ok h1)) :
    c ∈ h1 → c ∈ h0 := by
  intro hm
  rcases h with h | ⟨_, h⟩ | ⟨ha, h⟩
  · rwa [h] at hm
  · rw [h] at hm
    exact (HostLemmas.mem_lower c hc h0).1 hm
  · exact hidna ha h1 h hm

theorem encodeHost_false_delims (o : Oracles) (h0 h1 : Str)
    (hidna : isAscii h0 = false → ∀ r, idnaEncode o h0 = .ok r → ∀ c, Delim c → c ∈ r → c ∈ h0)
    (h : h1 = h0 ∨ (isAscii h0 = true ∧ h1 = lower h0) ∨ (isAscii h0 = false ∧ idnaEncode o h0 = .ok h1)) :
    ∀ c, Delim c → c ∈ h1 → c ∈ h0 := by
  intro c hc
  exact encodeHost_false_char o h0 h1 c (by unfold Delim at hc; omega) (fun ha r hr => hidna ha r hr c hc) h

/-- the two non-IPv6 answers of the re-entry introduce no non-letter character -/
theorem encodeHostA_false_char (a h1 : Str) (c : Nat) (hc : ¬ (65 ≤ c ∧ c ≤ 90) ∧ ¬ (97 ≤ c ∧ c ≤ 122))
    (h : h1 = a ∨ (isAscii a = true ∧ h1 = lower a)) : c ∈ h1 → c ∈ a := by
  intro hm
  rcases h with h | ⟨_, h⟩
  · rwa [h] at hm
  · rw [h] at hm
    exact (HostLemmas.mem_lower c hc a).1 hm

/-- a text whose '@', and ']' or ':' according to `b`, are excluded is writable once re-bracketed -/
theorem writable_rebracket_of (b : Bool) {h1 : Str} (h64 : 64 ∉ h1) (hB : b = true → 93 ∉ h1)
    (hnB : b = false → 58 ∉ h1) : Writable (rebracket b h1) := by
  cases b with
  | true =>
    cases hm : mem 91 h1 with
    | true =>
      have : rebracket true h1 = h1 := by simp [rebracket, hm]
      rw [this]
      exact writable_open h64 (mem_iff.mp hm) (hB rfl)
    | false =>
      have : rebracket true h1 = [91] ++ h1 ++ [93] := by simp [rebracket, hm]
      rw [this]
      exact writable_bracketed h64 (hB rfl)
  | false =>
    have : rebracket false h1 = bracket h1 := by simp [rebracket, bracket, mem_false_iff.mpr (hnB rfl)]
    rw [this]
    exact writable_bracket ⟨h64, fun hm => absurd hm (hnB rfl)⟩

/-- the re-bracketed encoded host of a host that `split_netloc` cut out of
    the input is always a writable host text -/
theorem writable_rebracket (o : Oracles) (n : Str) (np : NetlocParts) (h0 h1 : Str)
    (hn : splitNetloc o n = .ok np) (hh : np.host = some h0)
    (hidna : isAscii h0 = false → ∀ r, idnaEncode o h0 = .ok r →
      ∀ c, (c = 58 ∨ c = 64 ∨ c = 93) → c ∈ r → c ∈ h0)
    (he : encodeHost o h0 false = .ok h1) :
    Writable (rebracket (mem 91 (rpartition 64 n).2.2) h1) := by
  obtain ⟨_, h64, hB, hnB⟩ := splitNetloc_host_facts o n np h0 hn hh
  -- a bracketed canonical IPv6 text made from `t` (the host, or its IDNA answer):
  -- `t` has a ':', so the host was cut out of brackets and holds no ']'
  have keyv6 : ∀ (t : Str) (h8 : List Nat), (∀ c, (c = 58 ∨ c = 64 ∨ c = 93) → c ∈ t → c ∈ h0) →
      parseIP (partition 37 t).1 = some (.v6 h8) → h1 = [91] ++ (ipv6ToStr h8 ++ zonePart t) ++ [93] →
      Writable (rebracket (mem 91 (rpartition 64 n).2.2) h1) := by
    intro t h8 ht hv6 hr
    obtain ⟨_, hc0, hsub⟩ := v6_body_facts t h8 hv6
    have hBt : mem 91 (rpartition 64 n).2.2 = true := by
      cases hb : mem 91 (rpartition 64 n).2.2 with
      | true => rfl
      | false => exact absurd (ht 58 (by simp) hc0) (hnB hb).1
    have : rebracket (mem 91 (rpartition 64 n).2.2) h1 = h1 := by simp [rebracket, hr, mem]
    rw [this, hr]
    exact writable_bracketed (fun hm => h64 (ht 64 (by simp) (hsub 64 (by simp) hm)))
      (fun hm => hB hBt (ht 93 (by simp) (hsub 93 (by simp) hm)))
  -- every other answer brings no new delimiter
  have main : (∀ c, (c = 58 ∨ c = 64 ∨ c = 93) → c ∈ h1 → c ∈ h0) →
      Writable (rebracket (mem 91 (rpartition 64 n).2.2) h1) := fun hd =>
    writable_rebracket_of _ (fun hm => h64 (hd 64 (by simp) hm)) (fun hb hm => hB hb (hd 93 (by simp) hm))
      (fun hb hm => (hnB hb).1 (hd 58 (by simp) hm))
  rcases encodeHost_false_cases o h0 h1 he with ⟨h8, hv6, hr⟩ | ⟨hna, a, hi, _, hA⟩ | hrest
  · exact keyv6 h0 h8 (fun _ _ hm => hm) hv6 hr
  · rcases hA with ⟨h8, hv6, hr⟩ | hA
    · exact keyv6 a h8 (hidna hna a hi) hv6 hr
    · exact main (fun c hc hm => hidna hna a hi c hc (encodeHostA_false_char a h1 c (by omega) hA hm))
  · exact main (fun c hc =>
      encodeHost_false_char o h0 h1 c (by omega) (fun ha r hr => hidna ha r hr c hc) hrest)

/-- the re-bracketed form of "no host" -/
theorem writable_rebracket_nil (b : Bool) : Writable (rebracket b []) :=
  writable_rebracket_of b (by simp) (by simp) (by simp)

end StrTotal
end Yarl
