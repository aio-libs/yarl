/-
  SegLang.lean — classes of texts that a URL component can be kept in.

  `TokLang L E` is the language of texts made of literal characters with `L` and of escapes `%XY` (upper-case hex) of
  bytes with `E`.  The output language of a quoter (`OutLang t`), the canonical texts of a requoter (`Canon t`) and
  the texts over a class of code points are the three instances the development uses.  What they share is the
  interface `SegLang Sep P`: concatenation, and cutting at a separator `d` with `Sep d` (a literal that is no hex
  digit, so it never falls inside an escape).  Splitting, joining and dot-segment removal are proved from the interface;
  a lemma `hP.of_f` says that what the model function `f` returns lies in the class when its arguments do
  (`of_splitOn`, `of_joinC`, `of_normalizePathSegments`, `of_normalizePath`, `of_ensureSlash`, `of_rooted`).
-/
import YarlProofs.Lemmas.Canon
import YarlProofs.Lemmas.PathLemmas
namespace Yarl

/-- texts of literal characters with `L` and escapes `%XY` of bytes with `E` -/
inductive TokLang (L E : Nat → Prop) : Str → Prop
  | nil : TokLang L E []
  | lit (c : Nat) (r : Str) : L c → TokLang L E r → TokLang L E (c :: r)
  | esc (b : Nat) (r : Str) : b < 256 → E b → TokLang L E r → TokLang L E (pct b ++ r)

/-- a property of texts that survives concatenation -/
structure Glue (P : Str → Prop) : Prop where
  nil : P []
  app : ∀ {a b : Str}, P a → P b → P (a ++ b)

/-- a property of texts that survives concatenation and cutting at a separator -/
structure SegLang (Sep : Nat → Prop) (P : Str → Prop) : Prop extends Glue P where
  sep : ∀ {d : Nat}, Sep d → P [d]
  cut : ∀ {d : Nat} {a b : Str}, Sep d → P (a ++ d :: b) → P a ∧ P b

namespace TokLang
open OutLangLemmas
variable {L E : Nat → Prop}

theorem append {a b : Str} (ha : TokLang L E a) (hb : TokLang L E b) : TokLang L E (a ++ b) := by
  induction ha with
  | nil => exact hb
  | lit c r hc _ ih => exact lit c _ hc ih
  | esc x r hx he _ ih =>
    rw [List.append_assoc]
    exact esc x _ hx he ih

/-- a hex digit of an escape is not the separator -/
theorem toHex_ne {d x : Nat} (hd : isUpperHexDigit d = false) (hx : x < 16) : toHex x ≠ d := by
  intro e
  have := toHex_upper hx
  rw [e, hd] at this
  exact Bool.noConfusion this

theorem cut {d : Nat} (h37 : d ≠ 37) (hhex : isUpperHexDigit d = false) {s : Str} (h : TokLang L E s) :
    ∀ a b, s = a ++ d :: b → TokLang L E a ∧ TokLang L E b := by
  induction h with
  | nil =>
    intro a b e
    cases a with
    | nil => cases e
    | cons x a => cases e
  | lit c r hc hr ih =>
    intro a b e
    cases a with
    | nil =>
      cases e
      exact ⟨nil, hr⟩
    | cons x a =>
      cases e
      exact ⟨lit _ _ hc (ih a b rfl).1, (ih a b rfl).2⟩
  | esc x r hx he hr ih =>
    intro a b e
    -- the separator is none of the three characters of the escape
    have h1 := toHex_ne hhex (show x / 16 < 16 by omega)
    have h2 := toHex_ne hhex (show x % 16 < 16 by omega)
    match a, e with
    | [], e =>
      cases e
      exact absurd rfl h37
    | [_], e =>
      cases e
      exact absurd rfl h1
    | [_, _], e =>
      cases e
      exact absurd rfl h2
    | _ :: _ :: _ :: a, e =>
      cases e
      exact ⟨esc x a hx he (ih a b rfl).1, (ih a b rfl).2⟩

/-- when hex digits may stand as literals, the text after the first character is again in the language -/
theorem tail (hhex : ∀ c, isUpperHexDigit c = true → L c) {c : Nat} {r : Str} (h : TokLang L E (c :: r)) :
    TokLang L E r := by
  generalize hs : c :: r = s at h
  cases h with
  | nil => cases hs
  | lit c' r' _ hr =>
    cases hs
    exact hr
  | esc x r' hx _ hr =>
    cases hs
    exact lit _ _ (hhex _ (toHex_upper (by omega))) (lit _ _ (hhex _ (toHex_upper (by omega))) hr)

theorem segLang {Sep : Nat → Prop} (hsep : ∀ d, Sep d → L d ∧ d ≠ 37 ∧ isUpperHexDigit d = false) :
    SegLang Sep (TokLang L E) where
  nil := nil
  app := append
  sep := fun hd => lit _ _ (hsep _ hd).1 nil
  cut := fun hd h => cut (hsep _ hd).2.1 (hsep _ hd).2.2 h _ _ rfl

end TokLang

/-! ### the three instances -/

/-- the literals of `OutLang t`: safe characters other than '%', and '+' for a query table -/
def OutLit (t : QTab) (c : Nat) : Prop := (t.safe c = true ∧ c ≠ 37) ∨ (t.qs = true ∧ c = 43)

theorem outLang_iff_tok {t : QTab} {s : Str} : OutLang t s ↔ TokLang (OutLit t) (fun _ => True) s := by
  constructor
  · intro h
    induction h with
    | nil => exact .nil
    | lit c r hs hc _ ih => exact .lit c r (.inl ⟨hs, hc⟩) ih
    | plus r hq _ ih => exact .lit 43 r (.inr ⟨hq, rfl⟩) ih
    | esc b r hb _ ih => exact .esc b r hb trivial ih
  · intro h
    induction h with
    | nil => exact .nil
    | lit c r hc _ ih =>
      rcases hc with ⟨hs, hc⟩ | ⟨hq, rfl⟩
      · exact .lit c r hs hc ih
      · exact .plus r hq ih
    | esc b r hb _ _ ih => exact .esc b r hb ih

/-- `d` may stand as a literal in canonical text of `t` -/
def ReachFix.LitOK (t : QTab) (d : Nat) : Prop := t.safe d = true ∧ d ≠ 37 ∧ ¬ (t.qs = true ∧ d = 32)

/-- the escapes of `Canon t`: bytes the table does not write as literals -/
def CanonEsc (t : QTab) (b : Nat) : Prop := 128 ≤ b ∨ t.safe b = false ∨ t.prot b = true

theorem canon_iff_tok {t : QTab} {s : Str} : Canon t s ↔ TokLang (ReachFix.LitOK t) (CanonEsc t) s := by
  constructor
  · intro h
    induction h with
    | nil => exact .nil
    | lit c r hs hc hq _ ih => exact .lit c r ⟨hs, hc, hq⟩ ih
    | esc b r hb hk _ ih => exact .esc b r hb hk ih
  · intro h
    induction h with
    | nil => exact .nil
    | lit c r hc _ ih => exact .lit c r hc.1 hc.2.1 hc.2.2 ih
    | esc b r hb hk _ ih => exact .esc b r hb hk ih

theorem SegLang.of_iff {Sep : Nat → Prop} {P Q : Str → Prop} (h : ∀ s, P s ↔ Q s) (hQ : SegLang Sep Q) :
    SegLang Sep P where
  nil := (h _).2 hQ.nil
  app := fun ha hb => (h _).2 (hQ.app ((h _).1 ha) ((h _).1 hb))
  sep := fun hd => (h _).2 (hQ.sep hd)
  cut := fun hd hc => (hQ.cut hd ((h _).1 hc)).imp (h _).2 (h _).2

theorem outLang_segLang {t : QTab} {Sep : Nat → Prop}
    (hsep : ∀ d, Sep d → t.safe d = true ∧ d ≠ 37 ∧ isUpperHexDigit d = false) : SegLang Sep (OutLang t) :=
  .of_iff (fun _ => outLang_iff_tok)
    (TokLang.segLang fun d hd => ⟨.inl ⟨(hsep d hd).1, (hsep d hd).2.1⟩, (hsep d hd).2⟩)

theorem canon_segLang {t : QTab} {Sep : Nat → Prop}
    (hsep : ∀ d, Sep d → ReachFix.LitOK t d ∧ isUpperHexDigit d = false) : SegLang Sep (Canon t) :=
  .of_iff (fun _ => canon_iff_tok) (TokLang.segLang fun d hd => ⟨(hsep d hd).1, (hsep d hd).1.2.1, (hsep d hd).2⟩)

theorem glue_chars (C : Nat → Prop) : Glue (fun s => ∀ c ∈ s, C c) :=
  ⟨nofun, fun ha hb => List.forall_mem_append.mpr ⟨ha, hb⟩⟩

theorem forall_segLang {C : Nat → Prop} {Sep : Nat → Prop} (hsep : ∀ d, Sep d → C d) :
    SegLang Sep (fun s => ∀ c ∈ s, C c) where
  toGlue := glue_chars C
  sep := fun hd => List.forall_mem_cons.mpr ⟨hsep _ hd, nofun⟩
  cut := fun _ h => ⟨fun c hc => h c (List.mem_append_left _ hc),
    fun c hc => h c (List.mem_append_right _ (List.mem_cons_of_mem _ hc))⟩

theorem outLang_tail {t : QTab} (hhex : ∀ c, isUpperHexDigit c = true → t.safe c = true) {c : Nat} {r : Str}
    (h : OutLang t (c :: r)) : OutLang t r := by
  refine outLang_iff_tok.2 (TokLang.tail (fun c hc => .inl ⟨hhex c hc, ?_⟩) (outLang_iff_tok.1 h))
  intro h37
  subst h37
  cases hc

theorem canon_tail {t : QTab} (hhex : ∀ c, isUpperHexDigit c = true → ReachFix.LitOK t c) {c : Nat} {r : Str}
    (h : Canon t (c :: r)) : Canon t r :=
  canon_iff_tok.2 (TokLang.tail hhex (canon_iff_tok.1 h))

/-! ### what follows from the interface -/

theorem of_ite {α : Sort _} {P : α → Prop} {c : Prop} [Decidable c] {a b : α} (ha : P a) (hb : P b) :
    P (if c then a else b) := by
  split
  · exact ha
  · exact hb

/-- texts joined by a separator -/
theorem Glue.of_joinC {P : Str → Prop} (hP : Glue P) {d : Nat} (hd : P [d]) (l : List Str) (h : ∀ s ∈ l, P s) :
    P (joinC d l) := by
  induction l with
  | nil => exact hP.nil
  | cons p ps ih =>
    cases ps with
    | nil => exact h p (by simp)
    | cons p2 ps2 =>
      rw [PathLemmas.joinC_cons2]
      exact hP.app (h p (by simp)) (hP.app hd (ih fun s hs => h s (by simp [hs])))

namespace SegLang
variable {Sep : Nat → Prop} {P : Str → Prop}

theorem cons (hP : SegLang Sep P) {d : Nat} {r : Str} (hd : Sep d) (hr : P r) : P (d :: r) :=
  hP.app (hP.sep hd) hr

/-- `of_splitOn` with the length bound its induction runs on -/
private theorem of_splitOn_fuel (hP : SegLang Sep P) {d : Nat} (hd : Sep d) : ∀ (n : Nat) (s : Str), s.length ≤ n → P s →
    ∀ seg ∈ splitOn d s, P seg := by
  intro n
  induction n with
  | zero =>
    intro s hn _ seg hseg
    cases s with
    | nil =>
      simp only [splitOn, List.mem_singleton] at hseg
      subst hseg
      exact hP.nil
    | cons c r => simp at hn
  | succ n ih =>
    intro s hn hs seg hseg
    by_cases hm : d ∈ s
    · -- cut at some occurrence: both sides are shorter
      obtain ⟨a, b, rfl⟩ := List.append_of_mem hm
      obtain ⟨ha, hb⟩ := hP.cut hd hs
      rw [PathLemmas.splitOn_append] at hseg
      simp only [List.length_append, List.length_cons] at hn
      rcases List.mem_append.mp hseg with h | h
      · exact ih a (by omega) ha seg h
      · exact ih b (by omega) hb seg h
    · rw [PathLemmas.splitOn_of_not_mem d s hm] at hseg
      rw [List.mem_singleton.mp hseg]
      exact hs

theorem of_splitOn (hP : SegLang Sep P) {d : Nat} (hd : Sep d) {s : Str} (h : P s) : ∀ seg ∈ splitOn d s, P seg :=
  hP.of_splitOn_fuel hd _ s (Nat.le_refl _) h

theorem of_joinC (hP : SegLang Sep P) {d : Nat} (hd : Sep d) (l : List Str) (h : ∀ s ∈ l, P s) : P (joinC d l) :=
  hP.toGlue.of_joinC (hP.sep hd) l h

theorem of_normalizePathSegments (hP : SegLang Sep P) {l : List Str} (h : ∀ s ∈ l, P s) : ∀ s ∈ normalizePathSegments l, P s := by
  intro s hs
  rcases PathLemmas.mem_normalizePathSegments hs with h' | rfl
  · exact h s h'
  · exact hP.nil

theorem of_normalizePath (hP : SegLang Sep P) (h47 : Sep 47) {p : Str} (h : P p) : P (normalizePath p) := by
  unfold normalizePath
  split
  · exact hP.cons h47 (hP.of_joinC h47 _
      (hP.of_normalizePathSegments (hP.of_splitOn h47 (hP.cut (a := []) h47 h).2)))
  · exact hP.of_joinC h47 _ (hP.of_normalizePathSegments (hP.of_splitOn h47 h))

theorem of_ensureSlash (hP : SegLang Sep P) (h47 : Sep 47) {p : Str} (h : P p) : P (ensureSlash p) := by
  unfold ensureSlash
  split
  · exact h
  · exact h
  · exact hP.cons h47 h

theorem of_rooted (hP : SegLang Sep P) (h47 : Sep 47) {p : Str} (h : P p) : P (rooted p) := by
  unfold rooted
  split
  · exact h
  · exact hP.cons h47 h

end SegLang

end Yarl
