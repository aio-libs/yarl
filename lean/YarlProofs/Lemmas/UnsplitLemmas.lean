/-
  UnsplitLemmas.lean — the closed form of `unsplit_result` (`unsplit_shape`: head, then `tailStr`; `unsplitHead_eq`:
  the head as `schemeStr` ++ "//" authority (iff `marker`) ++ path, for a path that is rooted or empty under the
  marker), the three Appendix-B stages (`Rfc.schemeOf`, `authOf`, `tailOf`) computed on a string written that way,
  and conversely the re-assembly of a string from its three stages (`recompose_core`).
-/
import YarlModel
import YarlProofs.Lemmas.ParseLemmas
import YarlProofs.C07
namespace Yarl.UnsplitLemmas
open Yarl Yarl.ParseLemmas

/-! ### the written form -/

/-- `"?" query "#" fragment`, each written only when non-empty -/
def tailStr (q f : Str) : Str :=
  (if !q.isEmpty then 63 :: q else []) ++ (if !f.isEmpty then 35 :: f else [])

/-- the first stage of `unsplit_result` (everything before the query) -/
def unsplitHead (scheme netloc url : Str) : Str :=
  if !netloc.isEmpty || (!scheme.isEmpty && Gen.usesAuthority.contains scheme) || url.take 2 = [47, 47] then
    if !url.isEmpty && url.take 1 ≠ [47] then
      if !scheme.isEmpty then scheme ++ [58, 47, 47] ++ netloc ++ [47] ++ url
      else scheme ++ [58] ++ url
    else
      if !scheme.isEmpty then scheme ++ [58, 47, 47] ++ netloc ++ url
      else [47, 47] ++ netloc ++ url
  else if !scheme.isEmpty then scheme ++ [58] ++ url
  else url

/-- unconditional; `WfLemmas.unsplit_eq` continues from here and cuts the head at the authority in every branch -/
theorem unsplit_shape (sc n pa q f : Str) :
    unsplitResult sc n pa q f = unsplitHead sc n pa ++ tailStr q f := by
  unfold unsplitResult unsplitHead tailStr
  simp only
  generalize (if (!n.isEmpty || (!sc.isEmpty && Gen.usesAuthority.contains sc) || pa.take 2 = [47, 47]) = true then _ else _ : Str) = H
  cases q <;> cases f <;> simp

theorem tailStr_head (q f : Str) : HeadP (fun x => x = 63 ∨ x = 35) (tailStr q f) := by
  unfold tailStr
  cases q <;> cases f <;> intro x hx <;> simp at hx <;> omega

/-- scheme prefix `scheme ":"` (nothing for an empty scheme) -/
def schemeStr (sc : Str) : Str := if sc.isEmpty then [] else sc ++ [58]

def RootedOrEmpty (pa : Str) : Prop := pa = [] ∨ pa.head? = some 47

/-- whether `unsplit_result` writes the `//` marker -/
def marker (sc n pa : Str) : Bool :=
  !n.isEmpty || (!sc.isEmpty && Gen.usesAuthority.contains sc) || pa.take 2 = [47, 47]

theorem rooted_of_take2 {pa : Str} (h : pa.take 2 = [47, 47]) : RootedOrEmpty pa := by
  right
  match pa, h with
  | a :: b :: t, h => simp at h; simp [h.1]

/-- with a rooted-or-empty path under the marker, the head is `scheme ":" ["//" netloc] path` -/
theorem unsplitHead_eq (sc n pa : Str) (hr : marker sc n pa = true → RootedOrEmpty pa) :
    unsplitHead sc n pa = schemeStr sc ++ (if marker sc n pa then 47 :: 47 :: n else []) ++ pa := by
  unfold unsplitHead schemeStr
  by_cases hm : marker sc n pa = true
  · have hm' := hm
    unfold marker at hm'
    rw [if_pos hm', if_pos hm]
    have hroot : ¬ ((!pa.isEmpty && decide (pa.take 1 ≠ [47])) = true) := by
      rcases hr hm with h | h
      · subst h; simp
      · cases pa with
        | nil => simp
        | cons a t => simp at h; subst h; simp
    rw [if_neg hroot]
    cases sc <;> simp
  · have hm' := hm
    unfold marker at hm'
    rw [if_neg hm', if_neg hm]
    cases sc <;> simp

/-! ### the tail stage -/

theorem qpart_no35 (q : Str) (hq : 35 ∉ q) : ∀ c ∈ (if !q.isEmpty then 63 :: q else []), c ≠ 35 := by
  intro c hc
  cases q with
  | nil => simp at hc
  | cons a t =>
    simp only [List.isEmpty_cons, Bool.not_false, ↓reduceIte] at hc
    rcases List.mem_cons.1 hc with rfl | hc
    · simp
    · exact fun e => hq (e ▸ hc)

theorem tailOf_compose (pa q f : Str) (hpa : ∀ c ∈ pa, c ≠ 63 ∧ c ≠ 35) (hq : 35 ∉ q) :
    tailOf (pa ++ tailStr q f) = (pa, q, f) := by
  rw [tailOf_eq]
  unfold tailStr
  -- the first '#' is that of the fragment part, the first '?' before it that of the query part
  have ha : ∀ c ∈ pa ++ (if !q.isEmpty then 63 :: q else []), decide (c ≠ 35) = true := by
    intro c hc
    rcases List.mem_append.1 hc with hc | hc
    · simpa using (hpa c hc).2
    · simpa using qpart_no35 q hq c hc
  have hb : HeadP (fun x => decide (x ≠ 35) = false) (if !f.isEmpty then 35 :: f else []) := by
    cases f with
    | nil => exact headP_nil _
    | cons a t => exact headP_cons _ (by simp)
  have hc : ∀ c ∈ pa, decide (c ≠ 63) = true := fun c hc => by simpa using (hpa c hc).1
  have hd : HeadP (fun x => decide (x ≠ 63) = false) (if !q.isEmpty then 63 :: q else []) := by
    cases q with
    | nil => exact headP_nil _
    | cons a t => exact headP_cons _ (by simp)
  rw [← List.append_assoc, takeWhile_stop _ _ _ ha hb, dropWhile_stop _ _ _ ha hb, takeWhile_stop _ _ _ hc hd,
    dropWhile_stop _ _ _ hc hd]
  cases q <;> cases f <;> simp

/-! ### the authority stage -/

theorem authOf_compose (n rest : Str) (hn : ∀ c ∈ n, c ≠ 47 ∧ c ≠ 63 ∧ c ≠ 35)
    (hrest : HeadP (fun x => x = 47 ∨ x = 63 ∨ x = 35) rest) :
    authOf (47 :: 47 :: n ++ rest) = (n, rest) := by
  have ha : ∀ c ∈ n, (!Rfc.isDelim3 c) = true := by
    intro c hc
    obtain ⟨h1, h2, h3⟩ := hn c hc
    simp [Rfc.isDelim3, h1, h2, h3]
  have hb : HeadP (fun x => (!Rfc.isDelim3 x) = false) rest := by
    refine headP_mono (fun x hx => ?_) hrest
    simp only [Rfc.isDelim3, Bool.not_eq_eq_eq_not, Bool.not_false, Bool.or_eq_true, decide_eq_true_eq]
    omega
  show (List.takeWhile (fun c => !Rfc.isDelim3 c) (n ++ rest), List.dropWhile (fun c => !Rfc.isDelim3 c) (n ++ rest)) = _
  rw [takeWhile_stop _ _ _ ha hb, dropWhile_stop _ _ _ ha hb]

theorem authOf_none (r1 : Str) (h : r1.take 2 ≠ [47, 47]) : authOf r1 = ([], r1) := by
  rw [authOf_eq, if_neg h]

/-- appending a tail that does not start with '/' cannot create a leading "//" -/
theorem take2_append {pa T : Str} (hT : HeadP (fun x => x ≠ 47) T) (h : (pa ++ T).take 2 = [47, 47]) :
    pa.take 2 = [47, 47] := by
  match pa, h with
  | [], h =>
    match T, hT, h with
    | a :: t, hT, h =>
      have := hT a rfl
      cases t <;> simp at h <;> omega
  | [a], h =>
    match T, hT, h with
    | b :: t, hT, h =>
      have := hT b rfl
      simp at h; omega
  | a :: b :: t, h => simpa using h

/-! ### the scheme stage -/

theorem schemeChars_gt32 : ∀ c ∈ Gen.schemeChars, 32 < c := by decide +kernel

theorem schemeOf_compose (sc rest : Str) (hne : sc ≠ [])
    (hall : sc.all (fun c => mem c Gen.schemeChars) = true) (hlow : lower sc = sc) :
    Rfc.schemeOf Gen.schemeChars (sc ++ 58 :: rest) = (sc, rest) := by
  have hmemc : ∀ c ∈ sc, c ∈ Gen.schemeChars := by
    intro c hc
    have := List.all_eq_true.1 hall c hc
    simpa [mem_eq] using this
  have ha : ∀ c ∈ sc, (decide (c ≠ 58)) = true := by
    intro c hc
    simpa using (C07_schemeChars_no_delims c (hmemc c hc)).1
  have hb : HeadP (fun x => (decide (x ≠ 58)) = false) (58 :: rest) := headP_cons _ (by simp)
  unfold Rfc.schemeOf
  rw [takeWhile_stop _ _ _ ha hb, dropWhile_stop _ _ _ ha hb]
  have hall' : sc.all (fun c => Gen.schemeChars.contains c) = true := hall
  have : sc.isEmpty = false := by cases sc <;> simp at hne ⊢
  have hc : (!sc.isEmpty && sc.all (fun c => Gen.schemeChars.contains c)) = true := by rw [this, hall']; rfl
  simp only [hc, ↓reduceIte, hlow]

/-- no scheme is recognised when the text before the first ':' is empty or contains a non-scheme character -/
theorem schemeOf_none (s : Str)
    (h : 58 ∈ s → (s.takeWhile (· ≠ 58) = [] ∨ (s.takeWhile (· ≠ 58)).all (fun c => mem c Gen.schemeChars) = false)) :
    Rfc.schemeOf Gen.schemeChars s = ([], s) := by
  unfold Rfc.schemeOf
  rcases dropWhile_ne_cases 58 s with ⟨_, hd⟩ | ⟨hm, hd⟩
  · rw [hd]
  · rw [hd]
    simp only
    rcases h hm with h | h
    · rw [h]; simp
    · have h' : (s.takeWhile (· ≠ 58)).all (fun c => Gen.schemeChars.contains c) = false := h
      rw [h']; simp

/-- a bad character before the first ':' -/
theorem schemeOf_none_of_bad (s : Str) (x : Nat) (hx : x ∈ s.takeWhile (· ≠ 58)) (hbad : x ∉ Gen.schemeChars) :
    Rfc.schemeOf Gen.schemeChars s = ([], s) := by
  apply schemeOf_none
  intro _
  right
  rw [List.all_eq_false]
  exact ⟨x, hx, by simpa [mem_eq] using hbad⟩

theorem takeWhile_of_mem_left {c : Nat} {a : Str} (b : Str) (h : c ∈ a) :
    (a ++ b).takeWhile (· ≠ c) = a.takeWhile (· ≠ c) := by
  induction a with
  | nil => simp at h
  | cons x t ih =>
    by_cases hx : x = c
    · subst hx; simp
    · have : c ∈ t := by
        rcases List.mem_cons.1 h with e | e
        · exact absurd e.symm hx
        · exact e
      have hd : decide (x ≠ c) = true := by simpa using hx
      simp only [List.cons_append, List.takeWhile_cons, hd, ↓reduceIte]
      rw [ih this]

/-- the condition on the path alone suffices for `path ++ tail` -/
theorem schemeOf_none_path (pa q f : Str)
    (h : 58 ∈ pa → (pa.takeWhile (· ≠ 58) = [] ∨ (pa.takeWhile (· ≠ 58)).all (fun c => mem c Gen.schemeChars) = false)) :
    Rfc.schemeOf Gen.schemeChars (pa ++ tailStr q f) = ([], pa ++ tailStr q f) := by
  by_cases hp : 58 ∈ pa
  · apply schemeOf_none
    intro _
    rw [takeWhile_of_mem_left _ hp]
    exact h hp
  · by_cases hT : tailStr q f = []
    · rw [hT, List.append_nil]
      apply schemeOf_none
      intro hm; exact absurd hm hp
    · -- the tail starts with '?' or '#', which precedes any ':'
      obtain ⟨x, t, hxt⟩ : ∃ x t, tailStr q f = x :: t := by
        cases hh : tailStr q f with
        | nil => exact absurd hh hT
        | cons x t => exact ⟨x, t, rfl⟩
      have hx := tailStr_head q f x (by rw [hxt]; rfl)
      apply schemeOf_none_of_bad _ x
      · have ha : ∀ c ∈ pa, (decide (c ≠ 58)) = true := by
          intro c hc
          have : c ≠ 58 := fun e => hp (e ▸ hc)
          simpa using this
        rw [List.takeWhile_append_of_pos ha, hxt]
        have : x ≠ 58 := by omega
        simp [this]
      · intro hm
        have := C07_schemeChars_no_delims x hm
        omega

/-! ### cleaning is the identity on a clean string -/

theorem cleanUrl_id (s : Str) (h1 : HeadP (fun c => 32 < c) s) (h2 : ∀ c ∈ s, c ≠ 9 ∧ c ≠ 10 ∧ c ≠ 13) :
    cleanUrl s = s := by
  rw [C07_clean_spec]
  have : s.dropWhile (fun c => decide (c ≤ 32)) = s := by
    cases s with
    | nil => rfl
    | cons a t =>
      have := h1 a rfl
      have : ¬ a ≤ 32 := by omega
      simp [this]
  rw [this, List.filter_eq_self]
  intro c hc
  simpa using h2 c hc

/-! ### the other direction: a string is the concatenation of its three stages -/

/-- stage 1: either no scheme (and nothing consumed) or `pre ":"` consumed with `pre` made of scheme characters -/
theorem schemeOf_decomp (c : Str) :
    ((Rfc.schemeOf Gen.schemeChars c).1 = [] ∧ (Rfc.schemeOf Gen.schemeChars c).2 = c) ∨
    (∃ pre, pre ≠ [] ∧ (∀ x ∈ pre, x ∈ Gen.schemeChars) ∧ c = pre ++ 58 :: (Rfc.schemeOf Gen.schemeChars c).2 ∧
      (Rfc.schemeOf Gen.schemeChars c).1 = lower pre) := by
  unfold Rfc.schemeOf
  rcases dropWhile_ne_cases 58 c with ⟨_, hd⟩ | ⟨_, hd⟩
  · rw [hd]; exact Or.inl ⟨rfl, rfl⟩
  · have hc := List.takeWhile_append_dropWhile (p := (· ≠ 58)) (l := c)
    rw [hd] at hc
    rw [hd]
    simp only
    split
    · rename_i hcond
      simp only [Bool.and_eq_true] at hcond
      right
      refine ⟨c.takeWhile (· ≠ 58), ?_, ?_, hc.symm, rfl⟩
      · intro e; rw [e] at hcond; simp at hcond
      · intro x hx
        have := List.all_eq_true.1 hcond.2 x hx
        simpa using this
    · exact Or.inl ⟨rfl, rfl⟩

/-- no scheme recognised: nothing was cut off -/
theorem schemeOf_rest_of_nil (c : Str) (h : (Rfc.schemeOf Gen.schemeChars c).1 = []) :
    (Rfc.schemeOf Gen.schemeChars c).2 = c := by
  rcases schemeOf_decomp c with ⟨_, b⟩ | ⟨pre, hne, _, _, hl⟩
  · exact b
  · rw [h] at hl
    cases pre with
    | nil => exact absurd rfl hne
    | cons a t => simp [lower] at hl

theorem authOf_decomp (r1 : Str) :
    (r1.take 2 = [47, 47] ∧ r1 = 47 :: 47 :: ((authOf r1).1 ++ (authOf r1).2) ∧
      HeadP (fun x => x = 47 ∨ x = 63 ∨ x = 35) (authOf r1).2 ∧
      ∀ c ∈ (authOf r1).1, c ≠ 47 ∧ c ≠ 63 ∧ c ≠ 35) ∨
    (r1.take 2 ≠ [47, 47] ∧ (authOf r1).1 = [] ∧ (authOf r1).2 = r1) := by
  rw [authOf_eq]
  by_cases h : r1.take 2 = [47, 47]
  · left
    rw [if_pos h]
    refine ⟨h, ?_, ?_, ?_⟩
    · simp only [List.takeWhile_append_dropWhile]
      conv => lhs; rw [← List.take_append_drop 2 r1, h]
      rfl
    · refine headP_mono (fun x hx => ?_) (headP_dropWhile _ _)
      simp only [Rfc.isDelim3, Bool.not_eq_eq_eq_not, Bool.not_false, Bool.or_eq_true, decide_eq_true_eq] at hx
      omega
    · intro c hc
      have := mem_takeWhile_imp _ _ _ hc
      simp only [Rfc.isDelim3, Bool.not_eq_eq_eq_not, Bool.not_true, Bool.or_eq_false_iff, decide_eq_false_iff_not] at this
      omega
  · right
    rw [if_neg h]
    exact ⟨h, rfl, rfl⟩

/-- what stages 1 and 2 cut off holds the authority and no '#' -/
theorem stages_prefix (c : Str) :
    ∃ P, c = P ++ (authOf (Rfc.schemeOf Gen.schemeChars c).2).2 ∧ 35 ∉ P ∧
      ∀ x ∈ (authOf (Rfc.schemeOf Gen.schemeChars c).2).1, x ∈ P := by
  obtain ⟨P0, h0, n0⟩ : ∃ P0, c = P0 ++ (Rfc.schemeOf Gen.schemeChars c).2 ∧ 35 ∉ P0 := by
    rcases schemeOf_decomp c with ⟨_, b⟩ | ⟨pre, _, hall, hc, _⟩
    · exact ⟨[], b.symm, List.not_mem_nil⟩
    · refine ⟨pre ++ [58], by simpa using hc, fun hm => ?_⟩
      rcases List.mem_append.1 hm with hm | hm
      · exact (C07_schemeChars_no_delims _ (hall _ hm)).2.2.2 rfl
      · simp at hm
  have h2 := authOf_decomp (Rfc.schemeOf Gen.schemeChars c).2
  generalize (Rfc.schemeOf Gen.schemeChars c).2 = r1 at *
  generalize (authOf r1).1 = au at *
  generalize (authOf r1).2 = r2 at *
  rcases h2 with ⟨_, b, _, d⟩ | ⟨_, b1, b2⟩
  · refine ⟨P0 ++ 47 :: 47 :: au, by rw [h0, b]; simp, ?_, fun x hx => by simp [hx]⟩
    simp only [List.mem_append, List.mem_cons]
    rintro (hm | hm | hm | hm)
    · exact n0 hm
    · omega
    · omega
    · exact (d _ hm).2.2 rfl
  · subst b1 b2
    exact ⟨P0, h0, n0, fun x hx => absurd hx List.not_mem_nil⟩

theorem mem_takeWhile_ne {x c : Nat} {s : Str} (h : x ∈ s.takeWhile (· ≠ c)) : x ≠ c := by
  have := mem_takeWhile_imp _ _ _ h
  simpa using this

/-- a delimiter with what follows it, written only when something follows: this is the text from the first
    occurrence of the delimiter on, unless the delimiter occurs with nothing behind it -/
theorem delimPart_eq (c : Nat) (s : Str) (h : c ∈ s → (s.dropWhile (· ≠ c)).drop 1 ≠ []) :
    (if !((s.dropWhile (· ≠ c)).drop 1).isEmpty then c :: (s.dropWhile (· ≠ c)).drop 1 else []) =
      s.dropWhile (· ≠ c) := by
  rcases dropWhile_ne_cases c s with ⟨_, hd⟩ | ⟨hm, hd⟩
  · rw [hd]; rfl
  · have hne : (!((s.dropWhile (· ≠ c)).drop 1).isEmpty) = true := by
      cases hh : (s.dropWhile (· ≠ c)).drop 1 with
      | nil => exact absurd hh (h hm)
      | cons a t => rfl
    rw [if_pos hne]
    exact hd.symm

/-- stage 3: the tail is its three pieces, provided no empty query / fragment delimiter is present -/
theorem tailOf_recompose (r2 : Str)
    (hq : 63 ∈ r2.takeWhile (· ≠ 35) → (tailOf r2).2.1 ≠ [])
    (hf : 35 ∈ r2 → (tailOf r2).2.2 ≠ []) :
    r2 = (tailOf r2).1 ++ tailStr (tailOf r2).2.1 (tailOf r2).2.2 := by
  rw [tailOf_eq] at hq hf ⊢
  simp only at hq hf ⊢
  unfold tailStr
  rw [delimPart_eq 35 r2 hf, delimPart_eq 63 _ hq, ← List.append_assoc, List.takeWhile_append_dropWhile,
    List.takeWhile_append_dropWhile]

theorem tailOf_path_prefix (r2 : Str) : ∃ X, r2 = (tailOf r2).1 ++ X := by
  rw [tailOf_eq]
  refine ⟨(r2.takeWhile (· ≠ 35)).dropWhile (· ≠ 63) ++ r2.dropWhile (· ≠ 35), ?_⟩
  rw [← List.append_assoc, List.takeWhile_append_dropWhile, List.takeWhile_append_dropWhile]

theorem tailOf_path_rooted (r2 : Str) (h : HeadP (fun x => x = 47 ∨ x = 63 ∨ x = 35) r2) :
    RootedOrEmpty (tailOf r2).1 := by
  rw [tailOf_eq]
  cases r2 with
  | nil => left; rfl
  | cons a t =>
    rcases h a rfl with rfl | rfl | rfl
    · right; simp
    · left; simp
    · left; simp

theorem take2_of_prefix {pa X : Str} (h : pa.take 2 = [47, 47]) : (pa ++ X).take 2 = [47, 47] := by
  match pa, h with
  | a :: b :: t, h => simpa using h

theorem schemeStr_nil : schemeStr [] = [] := rfl

theorem schemeStr_eq (sc : Str) : schemeStr sc = if sc = [] then [] else sc ++ [58] := by
  cases sc <;> rfl

theorem tailStr_eq (q f : Str) :
    tailStr q f = (if q = [] then [] else 63 :: q) ++ (if f = [] then [] else 35 :: f) := by
  cases q <;> cases f <;> rfl

theorem schemeStr_ne {sc : Str} (h : sc ≠ []) : schemeStr sc = sc ++ [58] := by
  cases sc with
  | nil => exact absurd rfl h
  | cons a t => rfl

theorem marker_true_iff (sc n pa : Str) : marker sc n pa = true ↔
    (n ≠ [] ∨ (sc ≠ [] ∧ Gen.usesAuthority.contains sc = true) ∨ pa.take 2 = [47, 47]) := by
  unfold marker
  simp only [Bool.or_eq_true, Bool.and_eq_true, decide_eq_true_eq, or_assoc]
  have a : ∀ l : Str, (!l.isEmpty) = true ↔ l ≠ [] := by intro l; cases l <;> simp
  rw [a, a]

/-- the core of the re-composition: stated on the three stages of an arbitrary (cleaned) string -/
theorem recompose_core (c : Str)
    (hq : 63 ∈ c.takeWhile (· ≠ 35) → (Rfc.appendixB Gen.schemeChars c).query ≠ [])
    (hf : 35 ∈ c → (Rfc.appendixB Gen.schemeChars c).fragment ≠ [])
    (hm : (Rfc.schemeOf Gen.schemeChars c).2.take 2 = [47, 47] → (Rfc.appendixB Gen.schemeChars c).authority = [] →
      ((Rfc.appendixB Gen.schemeChars c).scheme ≠ [] ∧
          Gen.usesAuthority.contains (Rfc.appendixB Gen.schemeChars c).scheme = true) ∨
        (Rfc.appendixB Gen.schemeChars c).path.take 2 = [47, 47])
    (hs : (Rfc.appendixB Gen.schemeChars c).scheme ≠ [] →
      Gen.usesAuthority.contains (Rfc.appendixB Gen.schemeChars c).scheme = true →
      (Rfc.schemeOf Gen.schemeChars c).2.take 2 = [47, 47]) :
    unsplitResult (Rfc.appendixB Gen.schemeChars c).scheme (Rfc.appendixB Gen.schemeChars c).authority
        (Rfc.appendixB Gen.schemeChars c).path (Rfc.appendixB Gen.schemeChars c).query
        (Rfc.appendixB Gen.schemeChars c).fragment =
      (if (Rfc.schemeOf Gen.schemeChars c).1 = [] then c
       else (Rfc.schemeOf Gen.schemeChars c).1 ++ 58 :: (Rfc.schemeOf Gen.schemeChars c).2) := by
  rw [appendixB_eq] at hq hf hm hs ⊢
  simp only at hq hf hm hs ⊢
  have hscnil := schemeOf_rest_of_nil c
  obtain ⟨P, hcP, h35P, _⟩ := stages_prefix c
  have h2 := authOf_decomp (Rfc.schemeOf Gen.schemeChars c).2
  generalize (Rfc.schemeOf Gen.schemeChars c).1 = sc at *
  generalize (Rfc.schemeOf Gen.schemeChars c).2 = r1 at *
  generalize (authOf r1).1 = au at *
  generalize (authOf r1).2 = r2 at *
  have htw : c.takeWhile (· ≠ 35) = P ++ r2.takeWhile (· ≠ 35) := by
    rw [hcP]
    apply List.takeWhile_append_of_pos
    intro x hx
    have : x ≠ 35 := fun e => h35P (e ▸ hx)
    simpa using this
  have h3 := tailOf_recompose r2
    (fun hm => hq (by rw [htw]; exact List.mem_append_right _ hm))
    (fun hm => hf (by rw [hcP]; exact List.mem_append_right _ hm))
  have hrt := tailOf_path_rooted r2
  have hpfx := tailOf_path_prefix r2
  generalize (tailOf r2).1 = pa at *
  generalize (tailOf r2).2.1 = q at *
  generalize (tailOf r2).2.2 = f at *
  -- the marker is written exactly when it was read
  have hroot : marker sc au pa = true → RootedOrEmpty pa := by
    intro hmk
    rcases h2 with ⟨_, _, c', _⟩ | ⟨a, b, _⟩
    · exact hrt c'
    · rcases (marker_true_iff _ _ _).1 hmk with hn | ⟨ha, hb⟩ | ht
      · exact absurd b hn
      · exact absurd (hs ha hb) a
      · exact rooted_of_take2 ht
  have hmid : (if marker sc au pa then 47 :: 47 :: au else []) ++ r2 = r1 := by
    rcases h2 with ⟨a, b, _, _⟩ | ⟨a, b, c'⟩
    · have : marker sc au pa = true := by
        rw [marker_true_iff]
        by_cases hau' : au = []
        · exact Or.inr (hm a hau')
        · exact Or.inl hau'
      rw [if_pos this, b]; simp
    · have : ¬ marker sc au pa = true := by
        rw [marker_true_iff]
        rintro (hn | ⟨ha, hb⟩ | ht)
        · exact hn b
        · exact a (hs ha hb)
        · obtain ⟨X, hX⟩ := hpfx
          apply a
          rw [← c', hX]
          exact take2_of_prefix ht
      rw [if_neg this, c']; rfl
  rw [unsplit_shape, unsplitHead_eq _ _ _ hroot, List.append_assoc, ← h3, List.append_assoc, hmid]
  by_cases hsn : sc = []
  · rw [if_pos hsn, hsn, schemeStr_nil, List.nil_append]
    exact hscnil hsn
  · rw [if_neg hsn, schemeStr_ne hsn]; simp

/-! ### facts about the output of each stage (for "parsed parts are well-formed") -/

/-- the scheme characters: ASCII, closed under lower-casing, and lower-cased no capital is left -/
theorem schemeChars_lower : ∀ c ∈ Gen.schemeChars,
    mem (lowerC c) Gen.schemeChars = true ∧ ¬ (65 ≤ lowerC c ∧ lowerC c ≤ 90) ∧ c < 128 := by decide +kernel

theorem schemeOf_scheme_ok (c : Str) :
    (Rfc.schemeOf Gen.schemeChars c).1 = [] ∨
    (((Rfc.schemeOf Gen.schemeChars c).1).all (fun x => mem x Gen.schemeChars) = true ∧
      lower (Rfc.schemeOf Gen.schemeChars c).1 = (Rfc.schemeOf Gen.schemeChars c).1) := by
  rcases schemeOf_decomp c with ⟨a, _⟩ | ⟨pre, _, hall, _, hl⟩
  · exact Or.inl a
  · right
    rw [hl]
    constructor
    · rw [List.all_eq_true]
      intro x hx
      unfold lower at hx
      obtain ⟨y, hy, rfl⟩ := List.mem_map.1 hx
      exact (schemeChars_lower y (hall y hy)).1
    · unfold lower
      rw [List.map_map]
      apply List.map_congr_left
      intro x _
      exact lowerC_idem x

theorem schemeOf_nil_imp (c : Str) (h : (Rfc.schemeOf Gen.schemeChars c).1 = []) (hm : 58 ∈ c) :
    c.takeWhile (· ≠ 58) = [] ∨ (c.takeWhile (· ≠ 58)).all (fun x => mem x Gen.schemeChars) = false := by
  unfold Rfc.schemeOf at h
  rcases dropWhile_ne_cases 58 c with ⟨hn, _⟩ | ⟨_, hd⟩
  · exact absurd hm hn
  · rw [hd] at h
    simp only at h
    split at h
    · rename_i hcond
      simp only [Bool.and_eq_true] at hcond
      simp only [lower, List.map_eq_nil_iff] at h
      rw [h] at hcond
      simp at hcond
    · rename_i hcond
      cases hp : c.takeWhile (· ≠ 58) with
      | nil => exact Or.inl rfl
      | cons a t =>
        right
        rw [hp] at hcond
        simp only [List.isEmpty_cons, Bool.not_false, Bool.true_and, Bool.not_eq_true] at hcond
        exact hcond

theorem cleanUrl_head (s : Str) : HeadP (fun x => 32 < x) (cleanUrl s) := by
  rw [C07_clean_spec]
  have hd := headP_dropWhile (fun c => decide (c ≤ 32)) s
  cases hh : s.dropWhile (fun c => decide (c ≤ 32)) with
  | nil => exact headP_nil _
  | cons a t =>
    rw [hh] at hd
    have ha : 32 < a := by
      have := hd a rfl
      simp only [decide_eq_false_iff_not] at this
      omega
    have hpass : decide (a ≠ 9 ∧ a ≠ 10 ∧ a ≠ 13) = true := by
      simp only [decide_eq_true_eq]; omega
    rw [List.filter_cons, if_pos hpass]
    exact headP_cons _ ha

theorem cleanUrl_no_tab (s : Str) : ∀ c ∈ cleanUrl s, c ≠ 9 ∧ c ≠ 10 ∧ c ≠ 13 := by
  intro c hc
  rw [C07_clean_spec] at hc
  have := (List.mem_filter.1 hc).2
  simpa using this

theorem tailOf_mem (r2 : Str) :
    (∀ x ∈ (tailOf r2).1, x ∈ r2 ∧ x ≠ 63 ∧ x ≠ 35) ∧ (∀ x ∈ (tailOf r2).2.1, x ∈ r2 ∧ x ≠ 35) ∧
      (∀ x ∈ (tailOf r2).2.2, x ∈ r2) := by
  rw [tailOf_eq]
  refine ⟨?_, ?_, ?_⟩
  · intro x hx
    have h1 := List.IsPrefix.mem hx (List.takeWhile_prefix _)
    exact ⟨List.IsPrefix.mem h1 (List.takeWhile_prefix _), mem_takeWhile_ne hx, mem_takeWhile_ne h1⟩
  · intro x hx
    have h1 := List.mem_of_mem_drop hx
    have h2 := (List.dropWhile_suffix _).mem h1
    exact ⟨List.IsPrefix.mem h2 (List.takeWhile_prefix _), mem_takeWhile_ne h2⟩
  · intro x hx
    exact (List.dropWhile_suffix _).mem (List.mem_of_mem_drop hx)

end Yarl.UnsplitLemmas
