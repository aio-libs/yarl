/-
  QsMore.lean — helper lemmas for C12More.lean:
  * the replacing UTF-8 decoder does not depend on its fuel and re-synchronises at every byte that is not a
    continuation byte (`dr_append`);
  * stdlib `unquote` (per ASCII run, errors="replace") is "percent-decode the whole text to bytes, decode as UTF-8
    with replacement" on texts without lone surrogates (`stdUnquote_eq`), and after '+' → ' ' it is form-decoding
    (`stdUnquote_pts`).
-/
import YarlModel
import YarlProofs.C02
import YarlProofs.C12Readback
namespace Yarl.QsMore
open QsLemmas WfLemmas Readback

theorem mem_takeWhile {p : Nat → Bool} {l : List Nat} {x : Nat} (h : x ∈ l.takeWhile p) : p x = true :=
  List.all_eq_true.mp List.all_takeWhile x h

theorem dropWhile_head {p : Nat → Bool} {l : List Nat} {t : Nat} {tl : List Nat}
    (h : l.dropWhile p = t :: tl) : p t = false := by
  have := List.head_dropWhile_not p (l := l) (by rw [h]; exact List.cons_ne_nil _ _)
  simpa only [h, List.head_cons] using this

/-! ### the decoder and its fuel -/

theorem dr_eq (bs : List Nat) (f : Nat) (h : bs.length < f) : decodeReplaceAux f bs = decodeReplace bs :=
  dr_fuel bs f _ h (Nat.lt_succ_self _)

/-- `r` is empty or starts with a byte that is not a continuation byte -/
def Bnd (r : List Nat) : Prop := ∀ b r', r = b :: r' → isCont b = false

/-- a step does not look past a byte that is not a continuation byte -/
theorem drStep_append (b0 : Nat) (a r : List Nat) (hb : Bnd r) :
    drStep b0 (a ++ r) = ((drStep b0 a).1, (drStep b0 a).2 ++ r) := by
  rcases r with _ | ⟨c0, r'⟩
  · simp only [List.append_nil]
  · have hc : isCont c0 = false := hb c0 r' rfl
    fun_cases drStep b0 a <;>
      simp only [drStep, List.cons_append, List.nil_append, *, ↓reduceIte, Bool.false_eq_true, Bool.not_false,
        Bool.true_or]

theorem dr_append_aux (r : List Nat) (hb : Bnd r) (f2 : Nat) (hf2 : r.length < f2) : ∀ (f1 : Nat) (a : List Nat) (f : Nat),
    (a ++ r).length < f → a.length < f1 →
    decodeReplaceAux f (a ++ r) = decodeReplaceAux f1 a ++ decodeReplaceAux f2 r := by
  intro f1
  induction f1 with
  | zero => intro a f _ h; cases h
  | succ f1 ih =>
    intro a f hf hf1
    cases a with
    | nil => rw [dr_nil]; exact dr_fuel r _ _ hf hf2
    | cons b0 a =>
      obtain ⟨g, rfl⟩ : ∃ g, f = g + 1 := ⟨f - 1, by cases f; cases hf; rfl⟩
      have hlen := drStep_length b0 a
      simp only [List.length_append, List.length_cons] at hf hf1
      rw [List.cons_append, dr_step, dr_step, drStep_append b0 a r hb, List.cons_append,
        ih _ g (by simp only [List.length_append]; omega) (by omega)]

/-- RESYNCHRONISATION: decoding with replacement splits at every position whose next byte is not a continuation
    byte (an ASCII byte or a lead byte) — whatever ill-formed or truncated sequence precedes it -/
theorem dr_append (a r : List Nat) (hb : Bnd r) :
    decodeReplace (a ++ r) = decodeReplace a ++ decodeReplace r :=
  dr_append_aux r hb _ (Nat.lt_succ_self _) _ a _ (Nat.lt_succ_self _) (Nat.lt_succ_self _)

theorem dr_cons_char (c : Nat) (r : List Nat) (hc : c ≤ 0x10FFFF) (hs : isSurrogate c = false) :
    decodeReplace (utf8 c ++ r) = c :: decodeReplace r := by
  have hp := utf8_length_pos c hc hs
  unfold decodeReplace
  rw [show (utf8 c ++ r).length + 1 = ((utf8 c ++ r).length) + 1 from rfl, dr_char _ c r hc hs]
  congr 1
  exact dr_fuel r _ _ (by simp only [List.length_append]; omega) (Nat.lt_succ_self _)

/-- the first UTF-8 byte of a non-ASCII character is a lead byte -/
theorem utf8_head (c : Nat) (h : 128 ≤ c) (hc : c ≤ 0x10FFFF) (hs : isSurrogate c = false) :
    ∃ b bs, utf8 c = b :: bs ∧ isCont b = false := by
  have hlead : ∀ b, 0xC0 ≤ b → isCont b = false := by
    intro b hb
    simp only [isCont, Bool.and_eq_false_imp, decide_eq_true_eq, decide_eq_false_iff_not]
    omega
  by_cases h2 : c < 0x800
  · exact ⟨_, _, utf8_2 c h h2, hlead _ (by omega)⟩
  by_cases h3 : c < 0x10000
  · exact ⟨_, _, utf8_3 c (by omega) h3 hs, hlead _ (by omega)⟩
  · exact ⟨_, _, utf8_4 c (by omega) hc, hlead _ (by omega)⟩

/-! ### `pctDecode` on an ASCII run followed by a non-ASCII character -/

theorem fromHex_lt {c v : Nat} (h : fromHex c = some v) : c < 128 := by
  unfold fromHex at h
  split at h
  · omega
  · split at h
    · omega
    · split at h
      · omega
      · cases h

theorem restoreCh_lt128 {d1 d2 v : Nat} (h : restoreCh d1 d2 = some v) : d1 < 128 ∧ d2 < 128 := by
  unfold restoreCh at h
  cases h1 : fromHex d1 with
  | none => simp [h1] at h
  | some a =>
    cases h2 : fromHex d2 with
    | none => simp [h1, h2] at h
    | some b => exact ⟨fromHex_lt h1, fromHex_lt h2⟩

/-- `tail` is empty or starts with a non-ASCII character -/
def NA (tail : Str) : Prop := ∀ t tl, tail = t :: tl → 128 ≤ t

theorem takeEscape_append_none {rest tail : Str} (hm : takeEscape restoreCh rest = none) (ht : NA tail) :
    takeEscape restoreCh (rest ++ tail) = none := by
  rcases rest with _ | ⟨d1, _ | ⟨d2, r⟩⟩
  · rcases tail with _ | ⟨t, _ | ⟨t2, tl⟩⟩
    · rfl
    · rfl
    · simp only [List.nil_append, takeEscape]
      cases hr : restoreCh t t2 with
      | none => rfl
      | some v => have := (restoreCh_lt128 hr).1; have := ht t _ rfl; omega
  · rcases tail with _ | ⟨t, tl⟩
    · rfl
    · simp only [List.cons_append, List.nil_append, takeEscape]
      cases hr : restoreCh d1 t with
      | none => rfl
      | some v => have := (restoreCh_lt128 hr).2; have := ht t _ rfl; omega
  · simp only [List.cons_append, takeEscape] at hm ⊢
    cases hr : restoreCh d1 d2 with
    | none => rfl
    | some v => rw [hr] at hm; cases hm

theorem takeEscape_append_some {rest rest' tail : Str} {v d1 d2 : Nat}
    (hm : takeEscape restoreCh rest = some (v, d1, d2, rest')) :
    takeEscape restoreCh (rest ++ tail) = some (v, d1, d2, rest' ++ tail) := by
  obtain ⟨rfl, hv⟩ := takeEscape_eq hm
  simp only [List.cons_append, takeEscape, hv]

theorem pctDecode_run (run : Str) (hrun : ∀ c ∈ run, c < 128) (tail : Str) (ht : NA tail) :
    pctDecode (run ++ tail) = unquoteToBytes run ++ pctDecode tail := by
  fun_induction unquoteToBytes run with
  | case1 => simp
  | case2 rest v d1 d2 rest' hm ih =>
    have hsub : ∀ c ∈ rest', c < 128 := by
      obtain ⟨rfl, _⟩ := takeEscape_eq hm
      exact fun c hc => hrun c (by simp [hc])
    rw [List.cons_append, pctDecode_esc (takeEscape_append_some hm), ih hsub]
    rfl
  | case3 rest hm ih =>
    rw [List.cons_append, pctDecode_noesc (takeEscape_append_none hm ht),
      ih (fun c hc => hrun c (by simp [hc]))]
    rfl
  | case4 c rest hc ih =>
    rw [List.cons_append, pctDecode_cons_ne hc, utf8_ascii (hrun c (by simp)),
      ih (fun c hc => hrun c (by simp [hc]))]
    rfl

theorem pctDecode_no_pct (s : Str) (h : 37 ∉ s) : pctDecode s = utf8s s := by
  induction s with
  | nil => rw [pctDecode_nil]; rfl
  | cons c r ih =>
    rw [pctDecode_cons_ne (fun e => h (by simp [e])), ih (fun hm => h (by simp [hm])), QuoteEquiv.utf8s_cons]

theorem bnd_pctDecode (tail : Str) (ht : NA tail) (hp : PyStr tail) (hn : NoSurrogate tail) :
    Bnd (pctDecode tail) := by
  intro b r' hb
  rcases tail with _ | ⟨t, tl⟩
  · rw [pctDecode_nil] at hb; cases hb
  · have h128 := ht t tl rfl
    rw [pctDecode_cons_ne (by omega)] at hb
    obtain ⟨b0, bs, hu, hcont⟩ := utf8_head t h128 (hp t (by simp)) (hn t (by simp))
    rw [hu] at hb
    simp only [List.cons_append, List.cons.injEq] at hb
    rw [← hb.1]; exact hcont

/-! ### stdlib `unquote` is "percent-decode the whole text, decode as UTF-8 with replacement" -/

theorem stdUnquoteAux_eq (fuel : Nat) (s : Str) : s.length < fuel → PyStr s → NoSurrogate s →
    stdUnquoteAux fuel s = decodeReplace (pctDecode s) := by
  fun_induction stdUnquoteAux fuel s with
  | case1 s => intro h; omega
  | case2 fuel hf => intro _ _ _; rw [pctDecode_nil]; rfl
  | case3 fuel c rest hc run tail ih =>
    intro hl hp hn
    have hsplit : run ++ tail = c :: rest := List.takeWhile_append_dropWhile
    have hrun : ∀ x ∈ run, x < 128 := fun x hx => by simpa using mem_takeWhile hx
    have hNA : NA tail := by
      intro t tl htl
      have := dropWhile_head (p := fun x => decide (x < 128)) (l := c :: rest) htl
      simpa using this
    have hsub : tail.Sublist (c :: rest) := List.dropWhile_sublist _
    have hpt : PyStr tail := fun x hx => hp x (hsub.subset hx)
    have hnt : NoSurrogate tail := fun x hx => hn x (hsub.subset hx)
    have hlen : tail.length < fuel := by
      -- `c` itself belongs to the run
      have h1 : tail = rest.dropWhile (· < 128) := List.dropWhile_cons_of_pos (by simpa using hc)
      have h2 := (List.dropWhile_sublist (fun x => decide (x < 128)) (l := rest)).length_le
      rw [← h1] at h2
      simp only [List.length_cons] at hl
      omega
    rw [ih hlen hpt hnt, ← hsplit, pctDecode_run run hrun tail hNA,
      dr_append _ _ (bnd_pctDecode tail hNA hpt hnt)]
  | case4 fuel c rest hc ih =>
    intro hl hp hn
    have h37 : c ≠ 37 := by omega
    rw [ih (by simp only [List.length_cons] at hl; omega) (pyStr_tail hp) (noSurr_tail hn),
      pctDecode_cons_ne h37, dr_cons_char c _ (hp c (by simp)) (hn c (by simp))]

/-- `urllib.parse.unquote(s)` (errors="replace") on a text without lone surrogates: percent-decode the whole text to
    bytes (non-ASCII characters contribute their UTF-8 bytes), then decode as UTF-8 with U+FFFD replacement -/
theorem stdUnquote_eq (s : Str) (hp : PyStr s) (hn : NoSurrogate s) :
    stdUnquote s = decodeReplace (pctDecode s) := by
  unfold stdUnquote
  split
  · rename_i hm
    have hm' : 37 ∉ s := by
      intro h; rw [mem_iff.mpr h] at hm; simp at hm
    rw [pctDecode_no_pct s hm', decodeReplace_utf8s s hp hn]
  · exact stdUnquoteAux_eq _ s (Nat.lt_succ_self _) hp hn

/-! ### '+' → ' ' first: form-decoding -/

def p2s (c : Nat) : Nat := if c = 43 then 32 else c

theorem pts_eq (s : Str) : plusToSpace s = s.map p2s := rfl

theorem fromHex_p2s (c : Nat) : fromHex (p2s c) = fromHex c := by
  unfold p2s
  split
  · rename_i h; subst h; decide
  · rfl

theorem takeEscape_pts (rest : Str) :
    takeEscape restoreCh (plusToSpace rest) =
      (takeEscape restoreCh rest).map (fun x => (x.1, p2s x.2.1, p2s x.2.2.1, plusToSpace x.2.2.2)) := by
  rcases rest with _ | ⟨d1, _ | ⟨d2, r⟩⟩
  · rfl
  · rfl
  · simp only [pts_eq, List.map_cons, takeEscape, restoreCh, fromHex_p2s]
    cases fromHex d1 <;> cases fromHex d2 <;> rfl

/-- percent-decoding after '+' → ' ' is form-decoding -/
theorem pctDecode_pts (s : Str) : pctDecode (plusToSpace s) = pctDecodeQs s := by
  fun_induction pctDecodeQs s with
  | case1 => exact pctDecode_nil
  | case2 rest v d1 d2 rest' hm ih =>
    have h2 := takeEscape_pts rest
    rw [hm] at h2
    show pctDecode (37 :: plusToSpace rest) = _
    rw [pctDecode_esc h2, ih]
  | case3 rest hm ih =>
    have h2 := takeEscape_pts rest
    rw [hm] at h2
    show pctDecode (37 :: plusToSpace rest) = _
    rw [pctDecode_noesc h2, ih]
  | case4 rest hc ih =>
    show pctDecode (32 :: plusToSpace rest) = _
    rw [pctDecode_cons_ne (by decide), ih]
    rfl
  | case5 c rest hc h43 ih =>
    have h1 : plusToSpace (c :: rest) = c :: plusToSpace rest := by simp [plusToSpace, h43]
    rw [h1, pctDecode_cons_ne hc, ih]

theorem pts_pyStr {s : Str} (h : PyStr s) : PyStr (plusToSpace s) := by
  intro c hc
  simp only [plusToSpace, List.mem_map] at hc
  obtain ⟨x, hx, rfl⟩ := hc
  split
  · omega
  · exact h x hx

theorem pts_noSurr {s : Str} (h : NoSurrogate s) : NoSurrogate (plusToSpace s) := by
  intro c hc
  simp only [plusToSpace, List.mem_map] at hc
  obtain ⟨x, hx, rfl⟩ := hc
  split
  · decide
  · exact h x hx

/-- what `parse_qsl` does to one key or value: '+' → ' ', then `unquote` — i.e. form-decode to bytes and decode as
    UTF-8 with replacement -/
theorem stdUnquote_pts (s : Str) (hp : PyStr s) (hn : NoSurrogate s) :
    stdUnquote (plusToSpace s) = decodeReplace (pctDecodeQs s) := by
  rw [stdUnquote_eq _ (pts_pyStr hp) (pts_noSurr hn), pctDecode_pts]

end Yarl.QsMore
