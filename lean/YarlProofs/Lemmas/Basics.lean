/-
  Basics.lean — small facts every proof module may need.  Reading a successful `do` block in `R` backwards (`bind_ok`,
  `ite_err_ok`, `map_ok`, `ok_of_ite_pure`, `mapM_cons_ok`, `mapM_forall`); a chain of checks that raise as the first
  error it finds (`guard_match`, `guard_none`, `guard_some`, `ite_err_or`); conditionals (`ite_eq_or`, `ite_rel`);
  `isEmpty`, `mem` in its three readings (`mem_eq`, `mem_iff`, `mem_false_iff`), `isAscii`, `PyStr`, `NoSurrogate`,
  `utf8`, `orNone`; what a quoter and `cOut` write for the empty text, `lowerC` twice; and the pointwise relation
  `All2` between two lists (core Lean has no `List.Forall₂`).
-/
import YarlModel
namespace Yarl

/-! ### reading a successful `do` block in `R` backwards -/

/-- a `do` block that succeeds: its first step did, and the rest did on that result -/
theorem bind_ok {α β : Type _} {x : R α} {f : α → R β} {v : β} (h : (x >>= f) = .ok v) :
    ∃ a, x = .ok a ∧ f a = .ok v := by
  cases x with
  | error e => cases h
  | ok a => exact ⟨a, rfl, h⟩

/-- a check that raises: a successful result passed it -/
theorem ite_err_ok {α : Type _} {c : Prop} [Decidable c] {er : PyErr} {y : R α} {v : α}
    (h : (if c then .error er else y) = .ok v) : ¬ c ∧ y = .ok v := by
  split at h
  · cases h
  · exact ⟨‹_›, h⟩

/-- a mapped result that succeeds: the result did, and the value is its image -/
theorem map_ok {α β : Type _} {x : R α} {f : α → β} {b : β} (h : x.map f = .ok b) : ∃ a, x = .ok a ∧ f a = b := by
  cases x with
  | error e => cases h
  | ok a => exact ⟨a, rfl, Except.ok.inj h⟩

/-- a successful choice between two values is one of them -/
theorem ok_of_ite_pure {α : Type} {c : Prop} [Decidable c] {a b v : α}
    (h : (if c then (pure a : R α) else pure b) = .ok v) : v = a ∨ v = b := by
  by_cases hc : c
  · rw [if_pos hc] at h
    exact Or.inl (Except.ok.inj h).symm
  · rw [if_neg hc] at h
    exact Or.inr (Except.ok.inj h).symm

theorem mapM_nil_ok {α β : Type} {f : α → R β} {r : List β} (h : ([] : List α).mapM f = .ok r) : r = [] := by
  rw [List.mapM_nil] at h
  exact (Except.ok.inj h).symm

/-- a `mapM` that succeeds: it did on the head and on the tail -/
theorem mapM_cons_ok {α β : Type} {f : α → R β} {a : α} {l : List α} {r : List β}
    (h : (a :: l).mapM f = .ok r) : ∃ b bs, f a = .ok b ∧ l.mapM f = .ok bs ∧ r = b :: bs := by
  rw [List.mapM_cons] at h
  obtain ⟨b, hb, h⟩ := bind_ok h
  obtain ⟨bs, hbs, h⟩ := bind_ok h
  exact ⟨b, bs, hb, hbs, (Except.ok.inj h).symm⟩

/-- what `f` turns `P` into holds of every element of a successful `mapM f` over a list of `P`s -/
theorem mapM_forall {α β : Type} {f : α → R β} (P : α → Prop) (Q : β → Prop)
    (hf : ∀ a b, P a → f a = .ok b → Q b) :
    ∀ (l : List α) (r : List β), (∀ a ∈ l, P a) → l.mapM f = .ok r → ∀ b ∈ r, Q b := by
  intro l
  induction l with
  | nil =>
    intro r _ h b hb
    rw [mapM_nil_ok h] at hb
    cases hb
  | cons a l ih =>
    intro r hl h
    obtain ⟨b, bs, h1, h2, rfl⟩ := mapM_cons_ok h
    intro x hx
    rcases List.mem_cons.mp hx with rfl | hx
    · exact hf a _ (hl a (by simp)) h1
    · exact ih bs (fun y hy => hl y (by simp [hy])) h2 x hx

/-! ### a chain of checks that raise, as the first error it finds -/

/-- one guard that raises in front of a computation: the first error is that of the guard, if it fires -/
theorem guard_match {α : Type} {c : Prop} [Decidable c] {err : PyErr} {rest : Option PyErr} {x y : R α}
    (h : y = match rest with | some e => .error e | none => x) :
    (if c then .error err else y) = match (if c then some err else rest) with | some e => .error e | none => x := by
  by_cases hc : c
  · rw [if_pos hc, if_pos hc]
  · rw [if_neg hc, if_neg hc, h]

theorem guard_none {c : Prop} [Decidable c] {err : PyErr} {rest : Option PyErr}
    (h : (if c then some err else rest) = none) : ¬ c ∧ rest = none := by
  by_cases hc : c
  · rw [if_pos hc] at h; cases h
  · rw [if_neg hc] at h; exact ⟨hc, h⟩

theorem guard_some {c : Prop} [Decidable c] {err x : PyErr} {rest : Option PyErr}
    (h : (if c then some err else rest) = some x) : (c ∧ x = err) ∨ (¬ c ∧ rest = some x) := by
  by_cases hc : c
  · rw [if_pos hc] at h; exact .inl ⟨hc, (Option.some.inj h).symm⟩
  · rw [if_neg hc] at h; exact .inr ⟨hc, h⟩

/-- two checks in a row that raise the same error are one check -/
theorem ite_err_or {α : Type} {a b : Prop} [Decidable a] [Decidable b] (er : PyErr) (r : R α) :
    (if a then .error er else if b then .error er else r) = if a ∨ b then .error er else r := by
  by_cases ha : a <;> by_cases hb : b <;> simp [ha, hb]

/-! ### conditionals -/

theorem ite_eq_or {α : Sort _} {c : Prop} [Decidable c] (a b : α) :
    (if c then a else b) = a ∨ (if c then a else b) = b := by
  by_cases hc : c
  · exact Or.inl (if_pos hc)
  · exact Or.inr (if_neg hc)

/-- a relation that holds branch by branch holds of two conditionals over the same test -/
theorem ite_rel {α β : Type} {r : α → β → Prop} {c : Prop} [Decidable c] {x y : α} {x' y' : β}
    (h1 : c → r x x') (h2 : ¬ c → r y y') : r (if c then x else y) (if c then x' else y') := by
  by_cases hc : c
  · rw [if_pos hc, if_pos hc]
    exact h1 hc
  · rw [if_neg hc, if_neg hc]
    exact h2 hc

/-! ### lists -/

theorem isEmpty_false {α} {l : List α} (h : l ≠ []) : l.isEmpty = false :=
  List.isEmpty_eq_false_iff.mpr h

theorem not_isEmpty_of_ne_nil {α} {l : List α} (h : l ≠ []) : (!l.isEmpty) = true := by
  rw [isEmpty_false h]; rfl

theorem flatMap_congr' {α β : Type} {f g : α → List β} {l : List α} (h : ∀ x ∈ l, f x = g x) :
    l.flatMap f = l.flatMap g := by
  simp only [List.flatMap, List.map_congr_left h]

/-! ### strings -/

theorem mem_eq (c : Nat) (s : Str) : mem c s = decide (c ∈ s) := by
  unfold mem; exact List.contains_eq_mem c s

theorem mem_iff {c : Nat} {l : Str} : mem c l = true ↔ c ∈ l := by
  rw [mem_eq, decide_eq_true_iff]

theorem mem_false_iff {c : Nat} {l : Str} : mem c l = false ↔ c ∉ l := by
  rw [mem_eq, decide_eq_false_iff_not]

theorem isAscii_iff {s : Str} : isAscii s = true ↔ ∀ c ∈ s, c < 128 := by
  simp only [isAscii, List.all_eq_true, decide_eq_true_eq]

theorem pyStr_nil : PyStr [] := nofun

theorem DecLemmas.pyStr_of_subset {s t : Str} (h : ∀ c ∈ t, c ∈ s) (hs : PyStr s) : PyStr t :=
  fun c hc => hs c (h c hc)

theorem pyStr_of_sublist {s t : Str} (h : t.Sublist s) (hs : PyStr s) : PyStr t :=
  DecLemmas.pyStr_of_subset h.subset hs

theorem pyStr_tail {c : Nat} {s : Str} (h : PyStr (c :: s)) : PyStr s :=
  DecLemmas.pyStr_of_subset (fun _ hx => List.mem_cons_of_mem _ hx) h

theorem noSurr_of_subset {s t : Str} (h : ∀ c ∈ t, c ∈ s) (hs : NoSurrogate s) : NoSurrogate t :=
  fun c hc => hs c (h c hc)

theorem noSurr_of_sublist {s t : Str} (h : t.Sublist s) (hs : NoSurrogate s) : NoSurrogate t :=
  noSurr_of_subset h.subset hs

theorem noSurr_tail {c : Nat} {s : Str} (h : NoSurrogate (c :: s)) : NoSurrogate s :=
  noSurr_of_subset (fun _ hx => List.mem_cons_of_mem _ hx) h

theorem pyStr_append {x y : Str} (hx : PyStr x) (hy : PyStr y) : PyStr (x ++ y) := by
  intro c hc
  rcases List.mem_append.1 hc with h | h
  · exact hx c h
  · exact hy c h

theorem utf8_ascii {c : Nat} (h : c < 128) : utf8 c = [c] := by
  unfold utf8
  rw [if_pos h]

theorem orNone_of_ne_nil {s : Str} (h : s ≠ []) : orNone s = some s := by
  cases s with
  | nil => exact absurd rfl h
  | cons c r => rfl

theorem orNone_getD (s : Str) : (orNone s).getD [] = s := by
  cases s <;> rfl

theorem orNone_eq_none {s : Str} : orNone s = none ↔ s = [] := by
  cases s <;> simp [orNone]

/-! ### the empty text through a quoter; `lowerC` -/

/-- a quoter writes nothing for the empty text, on either backend -/
theorem QArgs.run_nil (a : QArgs) (b : Backend) : a.run b [] = [] := by
  unfold QArgs.run quote
  cases b
  · simp only [quotePy, utf8s, List.flatMap_nil]
    rw [pyLoop]
  · simp [quoteC, stripSurr, allSafe]

theorem lowerC_idem (c : Nat) : lowerC (lowerC c) = lowerC c := by
  unfold lowerC
  split <;> simp <;> omega

theorem cOut_nil (t : QTab) : cOut t [] = [] := by rw [cOut]

/-! ### a pointwise relation between two lists -/

/-- pointwise relation between two lists of the same length (`List.Forall₂`) -/
inductive All2 {α β : Type} (R : α → β → Prop) : List α → List β → Prop where
  | nil : All2 R [] []
  | cons {a b l₁ l₂} : R a b → All2 R l₁ l₂ → All2 R (a :: l₁) (b :: l₂)

theorem All2.append {α β : Type} {R : α → β → Prop} {a₁ a₂ : List α} {b₁ b₂ : List β}
    (h₁ : All2 R a₁ b₁) (h₂ : All2 R a₂ b₂) : All2 R (a₁ ++ a₂) (b₁ ++ b₂) := by
  induction h₁ with
  | nil => exact h₂
  | cons hr _ ih => exact .cons hr ih

theorem All2.maps {α β γ : Type} {R : α → β → Prop} (f : γ → α) (g : γ → β) (l : List γ)
    (h : ∀ x ∈ l, R (f x) (g x)) : All2 R (l.map f) (l.map g) := by
  induction l with
  | nil => exact .nil
  | cons x xs ih =>
    exact .cons (h x (by simp)) (ih (fun y hy => h y (by simp [hy])))

theorem All2.length_eq {α β : Type} {R : α → β → Prop} {l₁ : List α} {l₂ : List β}
    (h : All2 R l₁ l₂) : l₁.length = l₂.length := by
  induction h with
  | nil => rfl
  | cons _ _ ih => simp [ih]

theorem All2.imp {α β : Type} {R S : α → β → Prop} {l₁ : List α} {l₂ : List β}
    (hrs : ∀ a b, R a b → S a b) (h : All2 R l₁ l₂) : All2 S l₁ l₂ := by
  induction h with
  | nil => exact .nil
  | cons hr _ ih => exact .cons (hrs _ _ hr) ih

/-- positional reading: at every index either both lists have ended or both have an element
    and the two are related -/
theorem All2.getElem? {α β : Type} {R : α → β → Prop} {l₁ : List α} {l₂ : List β}
    (h : All2 R l₁ l₂) (i : Nat) :
    (l₁[i]? = none ∧ l₂[i]? = none) ∨ ∃ a b, l₁[i]? = some a ∧ l₂[i]? = some b ∧ R a b := by
  induction h generalizing i with
  | nil => exact Or.inl ⟨rfl, rfl⟩
  | cons hr _ ih =>
    cases i with
    | zero => exact Or.inr ⟨_, _, rfl, rfl, hr⟩
    | succ i => simpa using ih i

/-- `All2` is exactly "same length and related at every index" -/
theorem All2.iff_getElem {α β : Type} {R : α → β → Prop} {l₁ : List α} {l₂ : List β} :
    All2 R l₁ l₂ ↔ l₁.length = l₂.length ∧
      ∀ (i : Nat) a b, l₁[i]? = some a → l₂[i]? = some b → R a b := by
  constructor
  · intro h
    refine ⟨h.length_eq, fun i a b ha hb => ?_⟩
    rcases h.getElem? i with ⟨h1, _⟩ | ⟨a', b', h1, h2, hr⟩
    · rw [h1] at ha; cases ha
    · rw [h1] at ha; rw [h2] at hb; cases ha; cases hb; exact hr
  · intro ⟨hl, hi⟩
    induction l₁ generalizing l₂ with
    | nil =>
      cases l₂ with
      | nil => exact .nil
      | cons b l₂ => simp at hl
    | cons a l₁ ih =>
      cases l₂ with
      | nil => simp at hl
      | cons b l₂ =>
        refine .cons (hi 0 a b rfl rfl) (ih (by simpa using hl) (fun i x y hx hy => ?_))
        exact hi (i + 1) x y (by simpa using hx) (by simpa using hy)

instance All2.dec {α β : Type} {R : α → β → Prop} [∀ a b, Decidable (R a b)] :
    ∀ (l₁ : List α) (l₂ : List β), Decidable (All2 R l₁ l₂)
  | [], [] => isTrue .nil
  | [], _ :: _ => isFalse (fun h => by cases h)
  | _ :: _, [] => isFalse (fun h => by cases h)
  | a :: l₁, b :: l₂ =>
    match (inferInstance : Decidable (R a b)), All2.dec l₁ l₂ with
    | isTrue h₁, isTrue h₂ => isTrue (.cons h₁ h₂)
    | isFalse h₁, _ => isFalse (fun h => by cases h with | cons hr _ => exact h₁ hr)
    | _, isFalse h₂ => isFalse (fun h => by cases h with | cons _ hl => exact h₂ hl)

/-- what holds of every successful element-wise result holds of every element of a successful `mapM` -/
theorem mapM_ok_forall {α β : Type} (f : α → R β) (P : β → Prop) :
    ∀ (l : List α) (r : List β), l.mapM f = .ok r → (∀ x ∈ l, ∀ y, f x = .ok y → P y) →
      ∀ y ∈ r, P y := by
  intro l
  induction l with
  | nil =>
    intro r h _ y hy
    rw [List.mapM_nil] at h
    cases h
    simp at hy
  | cons a l ih =>
    intro r h hP y hy
    rw [List.mapM_cons] at h
    obtain ⟨b, hb, h⟩ := bind_ok h
    obtain ⟨bs, hbs, h⟩ := bind_ok h
    cases h
    rcases List.mem_cons.mp hy with rfl | hy
    · exact hP a (by simp) _ hb
    · exact ih bs hbs (fun x hx => hP x (by simp [hx])) y hy

theorem isEmpty_eq_nil {s : Str} (h : s.isEmpty = true) : s = [] := List.isEmpty_iff.mp h

/-! ### one computation succeeds whenever another does -/

/-- `y` succeeds with the same value whenever `x` succeeds -/
def Le {α} (x y : R α) : Prop := ∀ v, x = .ok v → y = .ok v

theorem Le.refl {α} (x : R α) : Le x x := fun _ h => h
theorem Le.bind {α β} {x y : R α} {f g : α → R β} (hx : Le x y) (hf : ∀ a, x = .ok a → Le (f a) (g a)) :
    Le (x >>= f) (y >>= g) := by
  intro v h
  obtain ⟨a, ha, h⟩ := bind_ok h
  rw [hx a ha]
  exact hf a ha v h
theorem Le.ite {α} (c : Prop) [Decidable c] {a a' b b' : R α} (h1 : c → Le a b) (h2 : ¬ c → Le a' b') :
    Le (if c then a else a') (if c then b else b') := by
  by_cases hc : c
  · rw [if_pos hc, if_pos hc]; exact h1 hc
  · rw [if_neg hc, if_neg hc]; exact h2 hc

end Yarl
