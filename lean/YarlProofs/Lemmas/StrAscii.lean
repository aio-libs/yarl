/-
  StrAscii.lean — machinery for the C01 gap items 1–4 (C01Str.lean):
   * the pieces `split_netloc` reads are contiguous pieces of the authority text;
   * `_encode_host` character by character, for an arbitrary character class;
   * a generic invariant on the stored authority (`Spec` / `Inv`) and its preservation by the constructor,
     `build`, the five authority modifiers, `origin`, `join` and everything that copies the authority;
   * reachability with explicit side conditions (`ReachS`);
   * `WellEscaped` survives concatenation (`glue_wellEscaped`), and reading the userinfo of a `make_netloc` text back.
-/
import YarlModel
import YarlProofs.Lemmas.AuthMod
import YarlProofs.Lemmas.BuildFix
import YarlProofs.Lemmas.JoinShape
import YarlProofs.C03Reach
import YarlProofs.C17Build
namespace Yarl
namespace StrAscii
open NetlocLemmas WfLemmas EntryLemmas

/-! ### partition / zone -/

/-- the text after the first '%' (the zone id when the text is an IP literal) -/
def zoneOf (h : Str) : Str := (partition 37 h).2.2

theorem mem_zoneOf {h : Str} {c : Nat} : c ∈ zoneOf h ↔ ∃ l r, h = l ++ 37 :: r ∧ c ∈ r := by
  unfold zoneOf
  induction h with
  | nil => simp [partition]
  | cons x xs ih =>
    by_cases hx : x = 37
    · subst hx
      simp only [partition, ↓reduceIte]
      constructor
      · intro hc; exact ⟨[], xs, rfl, hc⟩
      · rintro ⟨l, r, he, hc⟩
        cases l with
        | nil => simp only [List.nil_append, List.cons.injEq, true_and] at he; exact he ▸ hc
        | cons y ys =>
          simp only [List.cons_append, List.cons.injEq] at he
          rw [he.2]; simp [hc]
    · have : (partition 37 (x :: xs)).2.2 = (partition 37 xs).2.2 := by simp [partition, hx]
      rw [this, ih]
      constructor
      · rintro ⟨l, r, he, hc⟩; exact ⟨x :: l, r, by simp [he], hc⟩
      · rintro ⟨l, r, he, hc⟩
        cases l with
        | nil => simp only [List.nil_append, List.cons.injEq] at he; exact absurd he.1 hx
        | cons y ys =>
          simp only [List.cons_append, List.cons.injEq] at he
          exact ⟨ys, r, he.2, hc⟩

/-- the zone of a contiguous piece lies inside the zone of the whole -/
theorem zoneOf_piece {a h b : Str} {c : Nat} (hc : c ∈ zoneOf h) : c ∈ zoneOf (a ++ h ++ b) := by
  obtain ⟨l, r, he, hr⟩ := mem_zoneOf.mp hc
  exact mem_zoneOf.mpr ⟨a ++ l, r ++ b, by simp [he], by simp [hr]⟩

theorem zoneOf_sub {h : Str} {c : Nat} (hc : c ∈ zoneOf h) : c ∈ h := by
  obtain ⟨l, r, he, hr⟩ := mem_zoneOf.mp hc
  rw [he]; simp [hr]

theorem partition_fst_piece (c : Nat) (s : Str) : ∃ b, s = [] ++ (partition c s).1 ++ b :=
  ⟨_, by simpa using partition_join c s⟩

theorem partition_snd_piece (c : Nat) (s : Str) : ∃ a, s = a ++ (partition c s).2.2 ++ [] ∨ (partition c s).2.2 = [] := by
  induction s with
  | nil => exact ⟨[], Or.inr (by simp [partition])⟩
  | cons x xs ih =>
    by_cases hx : x = c
    · subst hx; exact ⟨[x], Or.inl (by simp [partition])⟩
    · obtain ⟨a, ha⟩ := ih
      refine ⟨x :: a, ?_⟩
      have : (partition c (x :: xs)).2.2 = (partition c xs).2.2 := by simp [partition, hx]
      rw [this]
      rcases ha with ha | ha
      · left; simp only [List.cons_append, List.cons.injEq, true_and]; exact ha
      · right; exact ha

/-- a contiguous piece of a contiguous piece -/
theorem piece_trans {s t u a b a' b' : Str} (h1 : s = a ++ t ++ b) (h2 : t = a' ++ u ++ b') :
    s = (a ++ a') ++ u ++ (b' ++ b) := by
  rw [h1, h2]; simp

/-! ### the pieces `split_netloc` reads -/

/-- the `host[:port]` part of an authority text: what follows the last '@' -/
def hostinfo (n : Str) : Str := (userSplit n).2.2

theorem hostinfo_noAt (n : Str) : 64 ∉ hostinfo n := by
  unfold hostinfo userSplit
  by_cases h : 64 ∈ n
  · have hm : mem 64 n = true := mem_iff.mpr h
    simp only [hm, Bool.not_true, Bool.false_eq_true, ↓reduceIte]
    exact (ParseLemmas.rpartition_mem h).2
  · have hm : mem 64 n = false := mem_false_iff.mpr h
    simp only [hm, Bool.not_false, ↓reduceIte]
    exact h

theorem hostinfo_of_noAt {n : Str} (h : 64 ∉ n) : hostinfo n = n := by
  unfold hostinfo; rw [userSplit_noAt n h]

/-- the host name `split_netloc` extracts is a contiguous piece of the `host[:port]` text -/
theorem hostPort_piece (hi : Str) : ∃ a b, hi = a ++ (hostPort hi).1 ++ b := by
  unfold hostPort
  split
  · simp only
    obtain ⟨b, hb⟩ := partition_fst_piece 93 (partition 91 hi).2.2
    obtain ⟨a, ha⟩ := partition_snd_piece 91 hi
    rcases ha with ha | ha
    · exact ⟨a ++ [], b ++ [], piece_trans ha hb⟩
    · rw [ha]; exact ⟨hi, [], by simp [partition]⟩
  · simp only
    obtain ⟨b, hb⟩ := partition_fst_piece 58 hi
    exact ⟨[], b, hb⟩

/-- what a successful `split_netloc` returns, in terms of the two splits -/
theorem splitNetloc_shape (o : Oracles) (n : Str) (r : NetlocParts) (h : splitNetloc o n = .ok r) :
    r.user = (userSplit n).1.bind orNone ∧ r.password = (userSplit n).2.1 ∧
      r.host = orNone (hostPort (hostinfo n)).1 := by
  obtain ⟨pt, _, rfl⟩ := NetlocLemmas.splitNetloc_ok_iff.1 h
  exact ⟨rfl, rfl, rfl⟩

/-! ### `_encode_host`, character by character -/

theorem regName_char {c : Nat} (h : c = 37 ∨ mem c Gen.regNameChars = true) : c < 128 ∧ c ≠ 64 := by
  refine ⟨(C16_regNameChars_lower h).1, ?_⟩
  rintro rfl
  rcases h with h | h
  · omega
  · revert h; decide

/-- the characters of the canonical text of an IP literal: ASCII other than '@', and the zone id -/
theorem ipRes_chars_class {C : Nat → Prop} (Cb : ∀ c, c < 128 → c ≠ 64 → C c) {h r : Str}
    (hip : HostLemmas.ipRes h = some r)
    (hzone : (partition 37 h).2.1 = true → ∀ c ∈ (partition 37 h).2.2, C c) : ∀ c ∈ r, C c := by
  intro c hc
  rcases HostLemmas.ipRes_chars hip c hc with h | rfl | ⟨hs, hz⟩
  · exact Cb c h.lt.1 h.lt.2.2.1
  · exact Cb 37 (by omega) (by omega)
  · exact hzone hs c hz

/-- … with the zone id screened by `NOT_REG_NAME` (a validated call) there is no condition left -/
theorem ipRes_validated_chars {C : Nat → Prop} (Cb : ∀ c, c < 128 → c ≠ 64 → C c) {h r : Str}
    (hip : HostLemmas.ipRes h = some r) (hz : HostLemmas.zoneBad h true = false) : ∀ c ∈ r, C c :=
  ipRes_chars_class Cb hip fun hsep c hc =>
    have := HostLemmas.zone_chars (HostLemmas.zoneBad_true_false hz hsep) c hc
    Cb c this.1 this.2.1

/-- the re-entry (fix 3fbf5b4) on a text whose characters are all in `C` answers in `C` -/
theorem encodeHostA_chars {C : Nat → Prop} (Cb : ∀ c, c < 128 → c ≠ 64 → C c) {o : Oracles} {a : Str} {v : Bool}
    {r : Str} (ha : ∀ c ∈ a, C c) (he : encodeHostA o a v = .ok r) : ∀ c ∈ r, C c := by
  rcases HostLemmas.encodeHostA_casesV he with ⟨hip, _⟩ | ⟨_, hreg⟩
  · exact ipRes_chars_class Cb hip (fun _ c hc => ha c (partition_snd_sub 37 a c hc))
  · obtain ⟨hasc, rfl, _⟩ := HostLemmas.regPathA_ok hreg
    intro c hc
    simp only [lower, List.mem_map] at hc
    obtain ⟨x, hx, rfl⟩ := hc
    rw [isAscii_iff] at hasc
    by_cases h64 : x = 64
    · subst h64; exact ha 64 hx
    · refine Cb _ (HostLemmas.lowerC_lt (hasc x hx)).1 ?_
      intro e
      rw [HostLemmas.lowerC_eq_iff x 64 (by omega)] at e
      exact h64 e

/-- every character of an encoded host belongs to the class `C`, when `C` contains every ASCII character
    other than '@', the IDNA oracle answers in `C`, and — unless the host is validated — the zone id of the
    input is in `C` and the input has no '@' -/
theorem encodeHost_chars' {C : Nat → Prop} (Cb : ∀ c, c < 128 → c ≠ 64 → C c) {o : Oracles} {h : Str} {v : Bool}
    {r : Str} (horc : isAscii h = false → ∀ y, idnaEncode o h = .ok y → ∀ c ∈ y, C c)
    (hin : v = true ∨ ((∀ c ∈ zoneOf h, C c) ∧ (∀ c ∈ h, c < 128 → C (lowerC c))))
    (he : encodeHost o h v = .ok r) : ∀ c ∈ r, C c := by
  rcases HostLemmas.encodeHost_casesV he with ⟨hip, hz⟩ | ⟨_, hreg⟩
  · rcases hin with rfl | ⟨hzc, _⟩
    · exact ipRes_validated_chars Cb hip hz
    · exact ipRes_chars_class Cb hip fun _ => hzc
  · cases ha : isAscii h with
    | true =>
      obtain ⟨rfl, hn⟩ := (HostLemmas.regPath_ok_of_ascii ha).1 hreg
      intro c hc
      rcases hin with hv | ⟨_, h64⟩
      · have := regName_char (HostLemmas.notRegName_spec _ (hn hv) c hc)
        exact Cb c this.1 this.2
      · simp only [lower, List.mem_map] at hc
        obtain ⟨x, hx, rfl⟩ := hc
        rw [isAscii_iff] at ha
        exact h64 x hx (ha x hx)
    | false =>
      obtain ⟨a, hi, ⟨_, rfl, _⟩ | ⟨_, hA⟩⟩ := HostLemmas.regPath_idn_cases ha hreg
      · exact horc ha _ hi
      · exact encodeHostA_chars Cb (horc ha a hi) hA

theorem encodeHost_chars {C : Nat → Prop} (Cb : ∀ c, c < 128 → c ≠ 64 → C c) {o : Oracles} {h : Str} {v : Bool}
    {r : Str} (horc : ∀ y, idnaEncode o h = .ok y → ∀ c ∈ y, C c)
    (hin : v = true ∨ ((∀ c ∈ zoneOf h, C c) ∧ 64 ∉ h))
    (he : encodeHost o h v = .ok r) : ∀ c ∈ r, C c := by
  refine encodeHost_chars' Cb (fun _ => horc) ?_ he
  rcases hin with hv | ⟨hz, h64⟩
  · exact Or.inl hv
  · refine Or.inr ⟨hz, ?_⟩
    intro c hc hlt
    refine Cb _ (HostLemmas.lowerC_lt hlt).1 ?_
    intro e
    rw [HostLemmas.lowerC_eq_iff c 64 (by omega)] at e
    exact h64 (e ▸ hc)

/-! ### `make_netloc` -/

/-- `host[:port]` is `make_netloc(None, None, host, port)` -/
theorem hostPortStr_eq (qf : Str → Str) (hb : Str) (port : Option Nat) :
    (match port with | none => hb | some p => hb ++ [58] ++ natToStr p) = makeNetloc qf none none (some hb) port false := by
  unfold makeNetloc; cases port <;> rfl

/-! ### a class of authority texts, described by its pieces -/

structure Spec (e : Env) where
  /-- characters of the host text -/
  C : Nat → Prop
  /-- user / password texts -/
  PU : Str → Prop
  /-- authority texts -/
  PN : Str → Prop
  /-- a cached raw host against the stored authority -/
  PH : Str → Str → Prop
  Cb : ∀ c, c < 128 → c ≠ 64 → C c
  PUnil : PU []
  PNnil : PN []
  mkN : ∀ (U P : Option Str) (hb : Str) (port : Option Nat), (∀ x, U = some x → PU x) → (∀ x, P = some x → PU x) →
      (∀ c ∈ hb, C c) → PN (makeNetloc id U P (some hb) port false)
  mkH : ∀ (U P : Option Str) (hb : Str) (port : Option Nat) (x : Str), (∀ x, U = some x → PU x) →
      (∀ x, P = some x → PU x) → (∀ c ∈ hb, C c) → (∀ c ∈ x, c ∈ hb) → PH x (makeNetloc id U P (some hb) port false)
  rdH : ∀ N, PN N → ∀ c ∈ hostinfo N, C c
  rdU : ∀ N, PN N → (∀ x, (userSplit N).1 = some x → PU x) ∧ (∀ x, (userSplit N).2.1 = some x → PU x)
  phC : ∀ N x, PN N → PH x N → ∀ c ∈ x, C c
  phLazy : ∀ N x, PN N → (∀ c ∈ x, c ∈ hostinfo N) → PH x N
  quote : ∀ s, PyStr s → PU (q e Gen.QUOTER s)
  requote : ∀ s, PyStr s → PU (q e Gen.REQUOTER s)
  orc : ∀ x y, idnaEncode e.o x = .ok y → ∀ c ∈ y, C c

/-- the stored authority is in the class, and so are the cache entries the constructor pre-filled -/
structure Inv {e : Env} (S : Spec e) (u : Url) : Prop where
  net : S.PN u.netloc
  preU : ∀ p x, u.pre = some p → p.rawUser = some x → S.PU x
  preP : ∀ p x, u.pre = some p → p.rawPassword = some x → S.PU x
  preH : ∀ p x, u.pre = some p → p.rawHost = some x → S.PH x u.netloc

variable {e : Env} {S : Spec e}

theorem Spec.mk' (S : Spec e) (qf : Str → Str) (U P : Option Str) (hb : Str) (port : Option Nat)
    (hU : ∀ x, U = some x → S.PU x) (hP : ∀ x, P = some x → S.PU x) (hh : ∀ c ∈ hb, S.C c) :
    S.PN (makeNetloc qf U P (some hb) port false) := by
  rw [makeNetloc_qf qf id]; exact S.mkN U P hb port hU hP hh

theorem Spec.Cdigit (S : Spec e) {c : Nat} (h : isDigitC c = true) : S.C c := by
  simp [isDigitC] at h; exact S.Cb c (by omega) (by omega)

/-- brackets put around a host text keep it in the class -/
theorem Spec.brackets (S : Spec e) (b : Bool) {h : Str} (hh : ∀ c ∈ h, S.C c) :
    ∀ c ∈ (if b = true then [91] ++ h ++ [93] else h), S.C c := by
  have k : ∀ c, c < 128 → c ≠ 64 → ∀ x ∈ [c], S.C x := fun c h1 h2 x hx => by
    rw [List.mem_singleton.mp hx]; exact S.Cb c h1 h2
  split
  · exact (glue_chars S.C).app ((glue_chars S.C).app (k 91 (by omega) (by omega)) hh) (k 93 (by omega) (by omega))
  · exact hh

/-- without pre-filled cache entries only the stored authority matters -/
theorem inv_of_pre_none {u : Url} (h : S.PN u.netloc) (hp : u.pre = none) : Inv S u :=
  ⟨h, fun _ _ hq => (by rw [hp] at hq; cases hq), fun _ _ hq => (by rw [hp] at hq; cases hq),
    fun _ _ hq => (by rw [hp] at hq; cases hq)⟩

theorem inv_fresh {N : Str} (h : S.PN N) (s p q f : Str) : Inv S (fromParts s N p q f) :=
  inv_of_pre_none h rfl

theorem inv_of_keeps {u v : Url} (h : Inv S u) (hk : ReachFix.Keeps u v) : Inv S v := by
  obtain ⟨hn, hp⟩ := hk
  rcases hp with hp | hp
  · exact inv_of_pre_none (hn ▸ h.net) hp
  · exact ⟨hn ▸ h.net, fun p x hq => h.preU p x (hp ▸ hq), fun p x hq => h.preP p x (hp ▸ hq),
      fun p x hq hx => hn ▸ h.preH p x (hp ▸ hq) hx⟩

/-- what the accessors of a URL satisfying the invariant answer -/
theorem Inv.net_ok {u : Url} (hI : Inv S u) (np : NetPre) (h : Yarl.net e u = .ok np) :
    (∀ x, np.rawUser = some x → S.PU x) ∧ (∀ x, np.rawPassword = some x → S.PU x) ∧
      (∀ x, np.rawHost = some x → S.PH x u.netloc) := by
  cases hpre : u.pre with
  | some p =>
    rw [net_of_cache hpre] at h
    cases h
    exact ⟨fun x => hI.preU _ x hpre, fun x => hI.preP _ x hpre, fun x => hI.preH _ x hpre⟩
  | none =>
    rw [net_of_no_cache hpre, lazyNet_eq] at h
    obtain ⟨r, hr, rfl⟩ := map_ok h
    obtain ⟨h1, h2, h3⟩ := splitNetloc_shape e.o u.netloc r hr
    obtain ⟨k1, k2⟩ := S.rdU u.netloc hI.net
    refine ⟨?_, ?_, ?_⟩
    · intro x hx
      rw [h1] at hx
      exact k1 x (orNoneBind_some.mp hx).1
    · intro x hx
      rw [h2] at hx
      exact k2 x hx
    · intro x hx
      apply S.phLazy _ _ hI.net
      simp only at hx
      split at hx
      · split at hx
        · cases hx
        · cases hx
          exact nofun
      · rename_i hh heq
        cases hx
        rw [h3] at heq
        rw [(EagerLemmas.orNone_some heq).1]
        exact hostPort_fst_sub _

theorem Inv.rawUser_ok {u : Url} (hI : Inv S u) {ru : Option Str} (h : rawUser e u = .ok ru) :
    ∀ x, ru = some x → S.PU x := by
  obtain ⟨n, hn, rfl⟩ := map_ok h
  exact (hI.net_ok n hn).1

theorem Inv.rawPassword_ok {u : Url} (hI : Inv S u) {rp : Option Str} (h : rawPassword e u = .ok rp) :
    ∀ x, rp = some x → S.PU x := by
  obtain ⟨n, hn, rfl⟩ := map_ok h
  exact (hI.net_ok n hn).2.1

theorem Inv.rawHost_ok {u : Url} (hI : Inv S u) {rh : Option Str} (h : rawHost e u = .ok rh) :
    ∀ x, rh = some x → S.PH x u.netloc := by
  obtain ⟨n, hn, rfl⟩ := map_ok h
  exact (hI.net_ok n hn).2.2

theorem Inv.hostSub_ok {u : Url} (hI : Inv S u) {hs : Option Str} (h : hostSubcomponent e u = .ok hs) :
    ∀ x, hs = some x → ∀ c ∈ x, S.C c := by
  unfold hostSubcomponent at h
  obtain ⟨rh, hrh, h⟩ := bind_ok h
  cases h
  intro x hx c hc
  obtain ⟨raw, rfl, rfl⟩ := Option.map_eq_some_iff.mp hx
  exact S.brackets _ (S.phC _ _ hI.net (hI.rawHost_ok hrh raw rfl)) c hc

theorem Inv.hostSub_getD {u : Url} (hI : Inv S u) {hs : Option Str} (h : hostSubcomponent e u = .ok hs) :
    ∀ c ∈ hs.getD [], S.C c := by
  cases hs with
  | none => intro c hc; cases hc
  | some x => exact hI.hostSub_ok h x rfl

/-! ### the authority modifiers -/

theorem withUser_inv {u v : Url} (hI : Inv S u) (s : Option Str) (ha : ∀ x, s = some x → PyStr x)
    (h : withUser e u s = .ok v) : Inv S v := by
  obtain ⟨_, N, hN, rfl⟩ := AuthMod.withUser_ok h
  obtain ⟨_, _, _, _, hhs⟩ := AuthMod.acc_of_net e u N hN
  refine inv_fresh (S.mk' _ _ _ _ _ ?_ ?_ (hI.hostSub_getD hhs)) _ _ _ _
  · intro x hx
    obtain ⟨y, rfl, rfl⟩ := Option.map_eq_some_iff.mp hx
    exact S.quote y (ha y rfl)
  · intro x hx
    cases s with
    | none => cases hx
    | some y => exact (hI.net_ok N hN).2.1 x hx

theorem withPassword_inv {u v : Url} (hI : Inv S u) (s : Option Str) (ha : ∀ x, s = some x → PyStr x)
    (h : withPassword e u s = .ok v) : Inv S v := by
  obtain ⟨_, N, hN, rfl⟩ := AuthMod.withPassword_ok h
  obtain ⟨_, _, _, _, hhs⟩ := AuthMod.acc_of_net e u N hN
  refine inv_fresh (S.mk' _ _ _ _ _ (hI.net_ok N hN).1 ?_ (hI.hostSub_getD hhs)) _ _ _ _
  intro x hx
  obtain ⟨y, rfl, rfl⟩ := Option.map_eq_some_iff.mp hx
  exact S.quote y (ha y rfl)

theorem withHost_inv {u v : Url} (hI : Inv S u) (s : Str) (h : withHost e u s = .ok v) : Inv S v := by
  obtain ⟨_, _, eh, N, heh, hN, rfl⟩ := AuthMod.withHost_ok h
  exact inv_fresh (S.mk' _ _ _ _ _ (hI.net_ok N hN).1 (hI.net_ok N hN).2.1
    (encodeHost_chars S.Cb (S.orc s) (Or.inl rfl) heh)) _ _ _ _

theorem withPort_inv {u v : Url} (hI : Inv S u) (p : Option Int) (k : Nat) (h : withPort e u p k = .ok v) :
    Inv S v := by
  obtain ⟨_, _, _, N, hN, rfl⟩ := AuthMod.withPort_ok h
  obtain ⟨_, _, _, _, hhs⟩ := AuthMod.acc_of_net e u N hN
  exact inv_fresh (S.mk' _ _ _ _ _ (hI.net_ok N hN).1 (hI.net_ok N hN).2.1 (hI.hostSub_getD hhs)) _ _ _ _

theorem origin_inv {u v : Url} (hI : Inv S u) (h : origin e u = .ok v) : Inv S v := by
  obtain ⟨_, _, ⟨_, N, hN, rfl⟩ | ⟨_, ⟨rfl, _⟩ | rfl⟩⟩ := AuthMod.origin_ok h
  · obtain ⟨_, _, _, _, hhs⟩ := AuthMod.acc_of_net e u N hN
    refine inv_fresh ?_ _ _ _ _
    generalize Option.map _ N.rawHost = hh at hhs ⊢
    cases hh with
    | none => exact S.PNnil
    | some x => exact S.mk' _ _ _ _ _ nofun nofun (hI.hostSub_ok hhs x rfl)
  · exact hI
  · exact inv_of_keeps hI (ReachFix.keeps_fromParts u _ _ _ _)

theorem join_inv {base ref : Url} (hb : Inv S base) (hr : Inv S ref) : Inv S (join e base ref) := by
  -- the result is the reference, or a fresh record over the authority of the reference or of the base
  rcases join_cases e base ref with h | ⟨_, _, h⟩ | ⟨_, h⟩ <;> rw [h]
  · exact hr
  · exact inv_of_keeps hr (ReachFix.keeps_fromParts ref _ _ _ _)
  · exact inv_of_keeps hb (ReachFix.keeps_fromParts base _ _ _ _)

/-! ### the constructor -/

theorem requoteOpt_PU (S : Spec e) (x : Option Str) (hx : ∀ s, x = some s → PyStr s) :
    ∀ y, requoteOpt e x = some y → S.PU y :=
  requoteOpt_closed e x S.PUnil (fun s h => S.requote s (hx s h))

/-- the `NetlocParts` the constructor / `build(authority=)` work with: texts are Python strings, the host is a
    contiguous piece of the `host[:port]` text -/
theorem splitNetloc_facts (o : Oracles) (N : Str) (hN : PyStr N) (np : NetlocParts) (h : splitNetloc o N = .ok np) :
    (∀ x, np.user = some x → PyStr x) ∧ (∀ x, np.password = some x → PyStr x) ∧
      (∀ x, np.host = some x → ∃ a b, hostinfo N = a ++ x ++ b) := by
  obtain ⟨k1, k2⟩ := splitNetloc_pyStr o N hN np h
  refine ⟨k1, k2, ?_⟩
  intro x hx
  rw [(splitNetloc_shape o N np h).2.2] at hx
  rw [(EagerLemmas.orNone_some hx).1]
  exact hostPort_piece _

/-- the host text handed to `_encode_host`: its zone id is inside the zone of the `host[:port]` text, no '@' -/
theorem piece_facts {C : Nat → Prop} {hi h0 : Str} (hp : ∃ a b, hi = a ++ h0 ++ b) (h64 : 64 ∉ hi)
    (hz : ∀ c ∈ zoneOf hi, C c) : (∀ c ∈ zoneOf h0, C c) ∧ 64 ∉ h0 := by
  obtain ⟨a, b, hab⟩ := hp
  constructor
  · intro c hc; exact hz c (hab ▸ zoneOf_piece hc)
  · intro hm; exact h64 (by rw [hab]; simp [hm])

theorem encodeUrl_inv (S : Spec e) (s : Str) (hs : PyStr s) (u : Url)
    (hz : ∀ p, splitUrl e.o s = .ok p → ∀ c ∈ zoneOf (hostinfo p.netloc), S.C c)
    (h : encodeUrl e s = .ok u) : Inv S u := by
  obtain ⟨p, nl, pre, hp, hab, rfl⟩ := EagerLemmas.encodeUrl_ok h
  rcases EagerLemmas.authBlock_ok hab with ⟨_, rfl, rfl⟩ | ⟨_, np, host0, host1, hsp, hh0, hh1, rfl, rfl⟩
  · exact inv_of_pre_none S.PNnil rfl
  · have hN := (splitUrl_pyStr e.o s hs p hp).1
    obtain ⟨kU, kP, kH⟩ := splitNetloc_facts e.o p.netloc hN np hsp
    have hpiece : ∃ a b, hostinfo p.netloc = a ++ host0 ++ b := by
      cases hh : np.host with
      | some x =>
        rw [hh] at hh0
        cases hh0
        exact kH _ hh
      | none =>
        rw [hh] at hh0
        rw [EagerLemmas.hostOr_none hh0]
        exact ⟨hostinfo p.netloc, [], by simp⟩
    obtain ⟨hz0, h640⟩ := piece_facts hpiece (hostinfo_noAt _) (hz p hp)
    have hC1 := encodeHost_chars S.Cb (S.orc host0) (Or.inr ⟨hz0, h640⟩) hh1
    generalize hH : StrTotal.rebracket (mem 91 (rpartition 64 p.netloc).2.2) host1 = H
    have hCh : ∀ c ∈ H, S.C c := by
      rw [← hH]
      exact S.brackets _ hC1
    have hraw : ∀ c ∈ unbracket H, c ∈ H := by
      intro c hc
      unfold unbracket at hc
      split at hc
      · exact (List.drop_sublist 1 H).subset ((List.dropLast_sublist _).subset hc)
      · exact hc
    -- user and password: requoted
    have hru : ∀ x, cachedUser e np.user = some x → S.PU x :=
      fun x hx => requoteOpt_PU S _ kU x (orNoneBind_some.mp hx).1
    have hrp := requoteOpt_PU S _ kP
    have hnl := makeNetloc_qf (q e Gen.QUOTER) id (cachedUser e np.user) (requoteOpt e np.password) (some H) np.port
    refine ⟨hnl ▸ S.mkN _ _ _ _ hru hrp hCh, ?_, ?_, ?_⟩
    · intro pr x hq
      cases hq
      exact hru x
    · intro pr x hq
      cases hq
      exact hrp x
    · intro pr x hq hx
      cases hq
      cases hx
      exact hnl ▸ S.mkH _ _ _ _ _ hru hrp hCh hraw

/-! ### `build` -/

theorem makeNetloc_true_PN (S : Spec e) (U P : Option Str) (hb : Str) (port : Option Nat)
    (hU : ∀ x, U = some x → PyStr x) (hP : ∀ x, P = some x → PyStr x) (hh : ∀ c ∈ hb, S.C c) :
    S.PN (makeNetloc (q e Gen.QUOTER) U P (some hb) port true) := by
  rw [makeNetloc_encode]
  refine S.mk' _ _ _ _ _ ?_ ?_ hh
  · intro x hx
    obtain ⟨y, rfl, hy⟩ := Option.bind_eq_some_iff.mp hx
    split at hy
    · cases hy
    · cases hy; exact S.quote y (hU y rfl)
  · intro x hx
    obtain ⟨y, rfl, rfl⟩ := Option.map_eq_some_iff.mp hx
    exact S.quote y (hP y rfl)

theorem buildNetloc_PN (S : Spec e) (sc : Str) (a : BuildArgs) (N : Str)
    (hU : ∀ x, a.user = some x → PyStr x) (hP : ∀ x, a.password = some x → PyStr x) (hA : PyStr a.authority)
    (hz : ∀ c ∈ zoneOf (hostinfo a.authority), S.C c)
    (h : buildNetloc e sc a = .ok N) : S.PN N := by
  by_cases hne : a.authority = []
  · by_cases hh : a.host = []
    · rw [buildNetloc_none hne hh] at h
      cases h
      exact S.PNnil
    · rw [buildNetloc_host hne hh] at h
      obtain ⟨eh, heh, h⟩ := bind_ok h
      cases h
      exact makeNetloc_true_PN S _ _ _ _ hU hP (encodeHost_chars S.Cb (S.orc a.host) (Or.inl rfl) heh)
  · -- a non-ASCII authority passed the NFKC screen (fix c2c2803)
    obtain ⟨_, np, h1, hnp, hh1, rfl⟩ := buildNetloc_authority hne h
    obtain ⟨kU, kP, kH⟩ := splitNetloc_facts e.o a.authority hA np hnp
    have hC1 : ∀ c ∈ h1, S.C c := by
      cases hh : np.host with
      | none => rw [hh] at hh1; cases hh1; intro c hc; cases hc
      | some x =>
        rw [hh] at hh1
        obtain ⟨hz0, h640⟩ := piece_facts (kH x hh) (hostinfo_noAt _) hz
        exact encodeHost_chars S.Cb (S.orc x) (Or.inr ⟨hz0, h640⟩) hh1
    exact makeNetloc_true_PN S _ _ _ _ kU kP (S.brackets _ hC1)

theorem build_inv (S : Spec e) (a : BuildArgs) (u : Url) (henc : a.encoded = false)
    (hU : ∀ x, a.user = some x → PyStr x) (hP : ∀ x, a.password = some x → PyStr x) (hA : PyStr a.authority)
    (hz : ∀ c ∈ zoneOf (hostinfo a.authority), S.C c)
    (h : build e a = .ok u) : Inv S u ∧ ∃ sc, lowerAny e a.scheme = .ok sc ∧ u.scheme = sc := by
  obtain ⟨_, _, _, hsc, hnl, _, _, _, hpre⟩ := build_false_ok henc h
  exact ⟨inv_of_pre_none (buildNetloc_PN S _ a u.netloc hU hP hA hz hnl) hpre, _, hsc, rfl⟩

/-! ### reachability with explicit side conditions -/

/-- the authority texts of a `build` call are Python strings (`BuildArgsPy` covers path, query, fragment only) -/
def BuildNetPy (a : BuildArgs) : Prop :=
  (∀ x, a.user = some x → PyStr x) ∧ (∀ x, a.password = some x → PyStr x) ∧ PyStr a.authority

/-- side conditions of one operation: `Sc` on the argument of `with_scheme`, `J` on a `join` reference -/
def OpSide (Sc : Str → Prop) (J : Url → Prop) : UOp → Prop
  | .withScheme s => Sc s
  | .joinRef ref => J ref
  | _ => True

/-- `Reach` (C01Reach.lean) with explicit side conditions:
    * `Z`  on the `host[:port]` text (what follows the last '@') of the authority the constructor / `build(authority=)`
           is given;
    * `Sc` on the scheme handed to `with_scheme` / `build(scheme=)`;
    * `J`  on a reference record handed to `join` (`UOp.joinRef` accepts ANY well-formed record);
    and the authority texts of `build` are Python strings. -/
inductive ReachS (Z : Str → Prop) (Sc : Str → Prop) (J : Url → Prop) (e : Env) : Url → Prop
  | ctor (s : Str) (u : Url) : PyStr s → (∀ p, splitUrl e.o s = .ok p → Z (hostinfo p.netloc)) →
      encodeUrl e s = .ok u → ReachS Z Sc J e u
  | build (a : BuildArgs) (u : Url) : a.encoded = false → BuildArgsPy a → BuildNetPy a → Z (hostinfo a.authority) →
      Sc a.scheme → build e a = .ok u → ReachS Z Sc J e u
  | op (u : Url) (op : UOp) (v : Url) : ReachS Z Sc J e u → op.ArgsPy e.b → OpSide Sc J op →
      applyOp e u op = .ok v → ReachS Z Sc J e v
  | join (u r : Url) : ReachS Z Sc J e u → ReachS Z Sc J e r → ReachS Z Sc J e (join e u r)

theorem ReachS.toReach {Z Sc : Str → Prop} {J : Url → Prop} {u : Url} (h : ReachS Z Sc J e u) : Reach e u := by
  induction h with
  | ctor s u hs _ h => exact Reach.ctor s u hs h
  | build a u henc hpy _ _ _ h => exact Reach.build a u henc hpy h
  | op u op v _ ha _ h ih => exact Reach.op u op v ih ha h
  | join u r _ _ ihu ihr => exact Reach.join u r ihu ihr

theorem ReachS.mono {Z Z' Sc Sc' : Str → Prop} {J J' : Url → Prop} (hZ : ∀ x, Z x → Z' x) (hS : ∀ x, Sc x → Sc' x)
    (hJ : ∀ x, J x → J' x) {u : Url} (h : ReachS Z Sc J e u) : ReachS Z' Sc' J' e u := by
  induction h with
  | ctor s u hs hz h => exact ReachS.ctor s u hs (fun p hp => hZ _ (hz p hp)) h
  | build a u henc hpy hn hz hsc h => exact ReachS.build a u henc hpy hn (hZ _ hz) (hS _ hsc) h
  | op u op v _ ha hside h ih =>
    refine ReachS.op u op v ih ha ?_ h
    cases op <;> first | exact hS _ hside | exact hJ _ hside | trivial
  | join u r _ _ ihu ihr => exact ReachS.join u r ihu ihr

/-- one operation keeps the invariant -/
theorem applyOp_inv (S : Spec e) {u v : Url} (hI : Inv S u) (op : UOp) (ha : op.ArgsPy e.b)
    (hj : ∀ ref, op = .joinRef ref → Inv S ref) (h : applyOp e u op = .ok v) : Inv S v := by
  cases op with
  | relative =>
    obtain ⟨_, rfl⟩ := ModShape.relative_ok h
    exact inv_fresh S.PNnil _ _ _ _
  | joinRef ref => cases h; exact join_inv hI (hj ref rfl)
  | origin => exact origin_inv hI h
  | withPort p k => exact withPort_inv hI p k h
  | withHost s => exact withHost_inv hI s h
  | withUser s => exact withUser_inv hI s ha h
  | withPassword s => exact withPassword_inv hI s ha h
  -- the other twelve do not write the authority
  | _ => exact inv_of_keeps hI ((applyOp_step h).netloc rfl)

/-- MAIN (generic): every URL reachable under the side conditions satisfies the invariant -/
theorem reachS_inv (S : Spec e) {Z Sc : Str → Prop} {J : Url → Prop}
    (hZ : ∀ hi, Z hi → 64 ∉ hi → ∀ c ∈ zoneOf hi, S.C c) (hJ : ∀ r, J r → Inv S r) {u : Url}
    (h : ReachS Z Sc J e u) : Inv S u := by
  induction h with
  | ctor s u hs hz h => exact encodeUrl_inv S s hs u (fun p hp => hZ _ (hz p hp) (hostinfo_noAt _)) h
  | build a u henc _ hn hz _ h =>
    exact (build_inv S a u henc hn.1 hn.2.1 hn.2.2 (hZ _ hz (hostinfo_noAt _)) h).1
  | op u op v _ ha hside h ih =>
    refine applyOp_inv S ih op ha ?_ h
    intro ref hop; subst hop; exact hJ ref hside
  | join u r _ _ ihu ihr => exact join_inv ihu ihr

/-! ### the scheme -/

theorem join_scheme (base ref : Url) : (join e base ref).scheme = base.scheme ∨ (join e base ref).scheme = ref.scheme := by
  have hs := (joinScheme_cases base ref).symm
  rcases join_cases e base ref with h | ⟨_, _, h⟩ | ⟨_, h⟩ <;> rw [h]
  · exact .inr rfl
  · exact hs
  · exact hs

/-- a class of scheme characters: ASCII, closed under ASCII lower-casing, containing `scheme_chars` -/
structure SchemeClass (P : Nat → Prop) : Prop where
  ascii : ∀ c, P c → c < 128
  lower : ∀ c, P c → P (lowerC c)
  chars : ∀ c ∈ Gen.schemeChars, P c

/-- every character of the scheme text is in the class -/
def SchemeIn (P : Nat → Prop) (s : Str) : Prop := ∀ c ∈ s, P c

theorem schemeIn_nil (P : Nat → Prop) : SchemeIn P [] := nofun

theorem schemeIn_lower {P : Nat → Prop} (hP : SchemeClass P) {s : Str} (h : SchemeIn P s) : SchemeIn P (lower s) := by
  intro c hc
  simp only [lower, List.mem_map] at hc
  obtain ⟨x, hx, rfl⟩ := hc
  exact hP.lower x (h x hx)

/-- ASCII -/
theorem schemeClass_ascii : SchemeClass (fun c => c < 128) :=
  ⟨fun _ h => h, fun c h => (HostLemmas.lowerC_lt h).1, by decide⟩

/-- ASCII and not '%' -/
theorem schemeClass_clean : SchemeClass (fun c => c < 128 ∧ c ≠ 37) := by
  refine ⟨fun _ h => h.1, fun c h => ⟨(HostLemmas.lowerC_lt h.1).1, ?_⟩, by decide⟩
  intro e37
  rw [HostLemmas.lowerC_eq_iff c 37 (by omega)] at e37
  exact h.2 e37

/-- the scheme `split_url` returns consists of (lower-cased) `scheme_chars` -/
theorem splitUrl_scheme_in {P : Nat → Prop} (hP : SchemeClass P) (o : Oracles) (s : Str) (p : Parts)
    (h : splitUrl o s = .ok p) : SchemeIn P p.scheme := by
  have hB := C07_split o s p h
  rw [ParseLemmas.appendixB_eq] at hB
  have h1 : p.scheme = (Rfc.schemeOf Gen.schemeChars (cleanUrl s)).1 := congrArg Rfc.Parts5.scheme hB
  rw [h1]
  rcases UnsplitLemmas.schemeOf_scheme_ok (cleanUrl s) with h0 | ⟨hall, _⟩
  · rw [h0]
    exact schemeIn_nil P
  · intro c hc
    exact hP.chars c (mem_iff.mp (List.all_eq_true.mp hall c hc))

theorem encodeUrl_scheme_in {P : Nat → Prop} (hP : SchemeClass P) (s : Str) (u : Url) (h : encodeUrl e s = .ok u) :
    SchemeIn P u.scheme := by
  obtain ⟨p, _, _, hp, _, rfl⟩ := EagerLemmas.encodeUrl_ok h
  exact splitUrl_scheme_in hP e.o s p hp

theorem withScheme_in {P : Nat → Prop} (hP : SchemeClass P) {u v : Url} {s : Str} (hs : SchemeIn P s)
    (h : withScheme e u s = .ok v) : SchemeIn P v.scheme := by
  obtain ⟨l, hl, rfl⟩ := ModShape.withScheme_ok h
  have hasc : isAscii s = true := by
    rw [isAscii_iff]
    exact fun c hc => hP.ascii c (hs c hc)
  rw [show l = lower s from BuildFix.lowerAny_ok_ascii hasc hl]
  exact schemeIn_lower hP hs

/-- one operation keeps the scheme inside the class: only `with_scheme` and `join` write one, `relative()` clears it -/
theorem applyOp_schemeIn {P : Nat → Prop} (hP : SchemeClass P) {u v : Url} (op : UOp)
    (hs : ∀ s, op = .withScheme s → SchemeIn P s) (hj : ∀ r, op = .joinRef r → SchemeIn P r.scheme)
    (ih : SchemeIn P u.scheme) (h : applyOp e u op = .ok v) : SchemeIn P v.scheme := by
  cases op with
  | withScheme s => exact withScheme_in hP (hs s rfl) h
  | joinRef r =>
    cases h
    rcases join_scheme (e := e) u r with hk | hk
    · rw [hk]
      exact ih
    · rw [hk]
      exact hj r rfl
  | _ =>
    rcases (applyOp_step h).scheme_eq rfl with hk | hk
    · rw [hk]
      exact ih
    · rw [hk]
      exact schemeIn_nil P

/-- under the side condition on `with_scheme` / `build(scheme=)` arguments, the stored scheme is in the class -/
theorem reachS_scheme {P : Nat → Prop} (hP : SchemeClass P) {Z Sc : Str → Prop} {J : Url → Prop}
    (hS : ∀ s, Sc s → SchemeIn P s) (hJ : ∀ r, J r → SchemeIn P r.scheme) {u : Url} (h : ReachS Z Sc J e u) :
    SchemeIn P u.scheme := by
  induction h with
  | ctor s u hs _ h => exact encodeUrl_scheme_in hP s u h
  | build a u henc _ _ _ hsc h =>
    -- the scheme `build` stores is the lowered argument (fix e21485a)
    obtain ⟨_, _, _, hl, _⟩ := build_false_ok henc h
    have hasc : isAscii a.scheme = true := by
      rw [isAscii_iff]
      exact fun c hc => hP.ascii c (hS _ hsc c hc)
    rw [BuildFix.lowerAny_ok_ascii hasc hl]
    exact schemeIn_lower hP (hS _ hsc)
  | op u op v _ ha hside h ih =>
    refine applyOp_schemeIn hP op ?_ ?_ ih h
    · intro s hs
      subst hs
      exact hS s hside
    · intro r hr
      subst hr
      exact hJ r hside
  | join u r _ _ ihu ihr =>
    rcases join_scheme (e := e) u r with hj | hj
    · rw [hj]; exact ihu
    · rw [hj]; exact ihr

/-! ### operation sequences as lists -/

theorem applyOps_reachS {Z Sc : Str → Prop} {J : Url → Prop} (ops : List UOp) : ∀ (u v : Url), ReachS Z Sc J e u →
    (∀ op ∈ ops, op.ArgsPy e.b ∧ OpSide Sc J op) → applyOps e u ops = .ok v → ReachS Z Sc J e v :=
  applyOps_closed (fun u op v hu ha h => ReachS.op u op v hu ha.1 ha.2 h) ops

/-! ### `WellEscaped` through concatenation -/

theorem glue_wellEscaped : Glue WellEscaped := ⟨trivial, OutLangLemmas.wellEscaped_append⟩

/-! ### `make_netloc`: characters, and reading the userinfo back -/

theorem makeNetloc_forall (C : Nat → Prop) (h58 : C 58) (h64 : C 64) (hd : ∀ c, isDigitC c = true → C c)
    (qf : Str → Str) (U P : Option Str) (hb : Str) (port : Option Nat)
    (hU : ∀ x, U = some x → ∀ c ∈ x, C c) (hP : ∀ x, P = some x → ∀ c ∈ x, C c) (hh : ∀ c ∈ hb, C c) :
    ∀ c ∈ makeNetloc qf U P (some hb) port false, C c :=
  makeNetloc_glue (glue_chars C) (by simpa using h58) (by simpa using h64) qf U P _ port hU hP
    (fun _ hx => Option.some.inj hx ▸ hh) (fun p _ c hc => hd c ((Decimal.natToStr_digits p).2 c hc))

theorem mem_hostPortStr {hb : Str} (port : Option Nat) {c : Nat} (hc : c ∈ hb) : c ∈ hostPortStr hb port := by
  cases port <;> simp [hostPortStr, hc]

end StrAscii
end Yarl
