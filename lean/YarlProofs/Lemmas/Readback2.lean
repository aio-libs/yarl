/-
  Readback2.lean — helper lemmas for C06More2.lean (property C06, GAPS 3, 4, 6, 9, 10 remainders).
  Namespace `Yarl.R2`.
-/
import YarlModel
import YarlProofs.C06More
import YarlProofs.C11Ctor
import YarlProofs.C17Ctor
import YarlProofs.C03Netloc
import YarlProofs.C15Headline
set_option linter.unusedSimpArgs false
namespace Yarl
namespace R2
open NetlocLemmas HeadB EagerLemmas BuildMore DecLemmas

/-! ## with_user("") -/

theorem q_quoter_nil (e : Env) : q e Gen.QUOTER [] = [] := Gen.QUOTER.run_nil e.b

/-- `make_netloc` treats the user "" as no user -/
theorem makeNetloc_user_nil (qf : Str → Str) (pw : Option Str) (hb : Str) (port : Option Nat) :
    makeNetloc qf (some []) pw (some hb) port false = makeNetloc qf none pw (some hb) port false := by
  rw [makeNetloc_eq, makeNetloc_eq]
  cases pw <;> simp

theorem userOK_none : UserOK none := by intro t ht; cases ht


/-! ## `build(authority=…)` -/

open NetShape StrTotal MiscLemmas in
/-- the authority `build(authority=A, encoded=False)` stores, for an `A` whose split names a supported host text -/
theorem build_authority_netloc (e : Env) (a : BuildArgs) (v : Url) (h : build e a = .ok v)
    (henc : a.encoded = false) (np : NetlocParts) (h0 : Str)
    (hsp : splitNetloc e.o a.authority = .ok np) (hhost : np.host = some h0) (hk : HostTextOK h0)
    (hwrap : 58 ∉ h0 → 91 ∉ (rpartition 64 a.authority).2.2) :
    ∃ sc hs, lowerAny e a.scheme = .ok sc ∧ v.scheme = sc ∧ encodeHost e.o h0 false = .ok (bracket hs) ∧
      HostFix e.o hs ∧ (58 ∈ hs ↔ 58 ∈ h0) ∧ v.pre = none ∧
      v.netloc = makeNetloc id (encUser (q e Gen.QUOTER) np.user) (np.password.map (q e Gen.QUOTER))
        (some (bracket hs)) (strPort sc np.port) false := by
  obtain ⟨_, _, _, hsc, hnl, _, _, _, hpre⟩ := build_false_ok henc h
  have hane : a.authority ≠ [] := by
    intro h0'
    rw [h0'] at hsp
    cases hsp
    cases hhost
  obtain ⟨_, np', r, hsp', he, hnl⟩ := buildNetloc_authority hane hnl
  obtain rfl : np' = np := Except.ok.inj (hsp'.symm.trans hsp)
  rw [hhost] at he
  obtain ⟨hs, rfl, hfix, hiff⟩ := encodeHost_hostFix e.o hk he
  refine ⟨_, hs, hsc, rfl, he, hfix, hiff, hpre, ?_⟩
  rw [hnl, NetlocLemmas.makeNetloc_encode, makeNetloc_qf _ id]
  unfold rebracket
  rw [keep_bracket (fun h58 => hwrap (fun hm => h58 (hiff.2 hm)))]


theorem encUser_bind (e : Env) (U : Option Str) :
    (encUser (q e Gen.QUOTER) U).bind orNone = (U.map (q e Gen.QUOTER)).bind orNone := by
  cases U with
  | none => rfl
  | some s =>
    cases s with
    | nil => simp [encUser, q_quoter_nil, orNone]
    | cons c r => simp [encUser]

open NetShape in
/-- the cache-less record `build(authority=A)` returns, read lazily: the four authority components -/
theorem build_authority_net (e : Env) (a : BuildArgs) (v : Url) (h : build e a = .ok v)
    (henc : a.encoded = false) (hpy : PyStr a.authority) (np : NetlocParts) (h0 : Str)
    (hsp : splitNetloc e.o a.authority = .ok np) (hhost : np.host = some h0) (hk : HostTextOK h0)
    (hwrap : 58 ∉ h0 → 91 ∉ (rpartition 64 a.authority).2.2) :
    ∃ sc hs, lowerAny e a.scheme = .ok sc ∧ v.scheme = sc ∧ encodeHost e.o h0 false = .ok (bracket hs) ∧
      HostFix e.o hs ∧ (58 ∈ hs ↔ 58 ∈ h0) ∧
      net e v = .ok { rawHost := some hs, explicitPort := strPort sc np.port,
                      rawUser := (np.user.map (q e Gen.QUOTER)).bind orNone,
                      rawPassword := np.password.map (q e Gen.QUOTER) } := by
  obtain ⟨sc, hs, hsc, hsch, he, hfix, hiff, hpre, hnl⟩ :=
    build_authority_netloc e a v h henc np h0 hsp hhost hk hwrap
  refine ⟨sc, hs, hsc, hsch, he, hfix, hiff, ?_⟩
  obtain ⟨hu, _⟩ := WfLemmas.splitNetloc_pyStr e.o a.authority hpy np hsp
  obtain ⟨hne, h64, h91, h93⟩ := hfix.ok
  have hsplit := split_makeNetloc e.o id (encUser (q e Gen.QUOTER) np.user) (np.password.map (q e Gen.QUOTER))
    hs (strPort sc np.port)
    (by
      intro s hs'
      obtain ⟨u, hus, hs'⟩ := Option.bind_eq_some_iff.1 hs'
      split at hs' <;> cases hs'
      exact quoter_no_colon e.b u (hu u hus))
    h64 h91 h93
    (strPort_range sc np.port (fun p hp => splitNetloc_port_range e.o a.authority np p hsp hp))
  rw [← hnl, encUser_bind] at hsplit
  rw [net_of_split e v _ hpre hsplit]
  have : orNone hs = some hs := by
    cases hs with
    | nil => exact absurd rfl hne
    | cons _ _ => rfl
  simp only [this]


/-! ### QUOTER then UNQUOTER on ANY Python string: lone surrogates are dropped, nothing else changes -/

theorem stripSurr_idem (s : Str) : stripSurr (stripSurr s) = stripSurr s :=
  QsLemmas.stripSurr_id _ (QuoteEquiv.noSurr_stripSurr s)

theorem uq_q_user (e : Env) (s : Str) (hs : PyStr s) :
    uq e Gen.UNQUOTER (q e Gen.QUOTER s) = stripSurr s := by
  rw [q_strip e Gen.QUOTER mem_QUOTER s hs]
  exact C06_readback_user e.b _ (QuoteEquiv.pyStr_stripSurr hs) (QuoteEquiv.noSurr_stripSurr s)

theorem q_user_nil_iff (e : Env) (s : Str) (hs : PyStr s) : q e Gen.QUOTER s = [] ↔ stripSurr s = [] := by
  rw [q_strip e Gen.QUOTER mem_QUOTER s hs]
  constructor
  · intro h
    apply Decidable.byContradiction
    intro h0
    exact quoter_ne_nil Gen.QUOTER mem_QUOTER (by decide +kernel) e.b _ (QuoteEquiv.pyStr_stripSurr hs)
      (QuoteEquiv.noSurr_stripSurr s) h0 h
  · intro h; rw [h]; exact q_quoter_nil e

theorem decoded_user (e : Env) (U : Option Str) (hU : ∀ s, U = some s → PyStr s) :
    ((U.map (q e Gen.QUOTER)).bind orNone).map (uq e Gen.UNQUOTER) = (U.map stripSurr).bind orNone := by
  cases U with
  | none => rfl
  | some s =>
    have hs := hU s rfl
    simp only [Option.map_some, Option.bind_some]
    by_cases h0 : stripSurr s = []
    · have := (q_user_nil_iff e s hs).2 h0
      simp [orNone, this, h0]
    · have h1 : q e Gen.QUOTER s ≠ [] := fun h => h0 ((q_user_nil_iff e s hs).1 h)
      simp [orNone, h0, h1, uq_q_user e s hs]

theorem decoded_password (e : Env) (P : Option Str) (hP : ∀ s, P = some s → PyStr s) :
    (P.map (q e Gen.QUOTER)).map (uq e Gen.UNQUOTER) = P.map stripSurr := by
  cases P with
  | none => rfl
  | some s => simp only [Option.map_some, uq_q_user e s (hP s rfl)]

theorem splitNetloc_user_ne (o : Oracles) (n : Str) (np : NetlocParts) (h : splitNetloc o n = .ok np) :
    np.user ≠ some [] := by
  have key : ∀ U : Option Str, U.bind orNone ≠ some [] := by
    intro U hU
    cases U with
    | none => cases hU
    | some s =>
      simp only [Option.bind_some, orNone] at hU
      split at hU
      · cases hU
      · rename_i hne; cases hU; simp at hne
  obtain ⟨pt, _, rfl⟩ := NetlocLemmas.splitNetloc_ok_iff.1 h
  exact key _

theorem stripSurr_opt_id (U : Option Str) (hn : ∀ s, U = some s → NoSurrogate s) : U.map stripSurr = U := by
  cases U with
  | none => rfl
  | some s => simp [QsLemmas.stripSurr_id s (hn s rfl)]

theorem bind_orNone_id (U : Option Str) (h : U ≠ some []) : U.bind orNone = U := by
  cases U with
  | none => rfl
  | some s =>
    have : s ≠ [] := fun h0 => h (by rw [h0])
    simp [orNone, isEmpty_false this]


/-! ## a STRING query: `parse_qsl(QUERY_QUOTER(s))` -/

section StrQuery

/-- `parse_qsl(QUERY_QUOTER(s))`: the pieces of `s` between '&' (empty ones dropped), each cut at its first '=',
    '+' read as a space — and NOTHING else decoded: '%' in `s` is a literal character
    (`C12_parseQsl_quote` with `parseQslLit` written out) -/
theorem parseQsl_query_quoter (b : Backend) (s : Str) (hs : PyStr s) (hn : NoSurrogate s) :
    parseQsl (Gen.QUERY_QUOTER.run b s) =
      ((splitOn 38 s).filter (fun p => ¬ p = [])).map
        (fun p => (plusToSpace (partition 61 p).1, plusToSpace (partition 61 p).2.2)) := by
  rw [C12_parseQsl_quote b s hs hn, parseQslLit, QsMore.qslWith,
    QsMore.filterMap_nonempty fun p => (plusToSpace (splitFirstEq p).1, plusToSpace ((splitFirstEq p).2.getD []))]
  apply List.map_congr_left
  intro p _
  unfold splitFirstEq
  cases hf : (partition 61 p).2.1
  · simp [hf, partition_of_nosep hf, plusToSpace]
  · simp [hf]

end StrQuery


/-! ## joinpath with several arguments = joinpath with ONE argument (the arguments joined) -/

section Join
open PathLemmas PathAlg PathMore

theorem joinC_head (X : List Str) (hX : Segs X) (h : X.head? ≠ some [] ∨ X = [[]]) :
    (joinC 47 X).head? ≠ some 47 := by
  rcases h with h | h
  · cases X with
    | nil => simp [joinC, joinSep]
    | cons x xs =>
      have hx : x ≠ [] := by simpa using h
      obtain ⟨c, r, rfl⟩ := List.exists_cons_of_ne_nil hx
      have hc : c ≠ 47 := fun hc => hX (c :: r) (by simp) (by simp [hc])
      rw [joinC_cons]
      simpa using hc
  · rw [h]; simp [joinC, joinSep]

/-- a non-empty argument keeps the argument segments from being the single empty segment -/
theorem argSegs_ne_single (e : Env) (enc : Bool) (ps : List Str) (hT : ∀ p ∈ ps, (argText e enc p).head? ≠ some 47)
    (h : ∃ p ∈ ps, argText e enc p ≠ []) : argSegs e enc ps ≠ [[]] := by
  intro hc
  obtain ⟨p, hpm, hp0⟩ := h
  obtain ⟨x, hx, hx0⟩ := argSegs_nonempty_mem e enc ps ⟨p, hpm, hT p hpm, hp0⟩
  rw [hc] at hx
  simp at hx
  exact hx0 hx

/-- the text `a₁/…/aₙ` that `joinpath(a₁, …, aₙ)` appends: the arguments joined by '/', a trailing '/' of a non-last
    argument not doubled -/
def joinedArgs (e : Env) (ps : List Str) : Str := joinC 47 (argSegs e true ps)

theorem joinedArgs_split (e : Env) (ps : List Str) (hne : ps ≠ []) :
    splitOn 47 (joinedArgs e ps) = argSegs e true ps :=
  PathLemmas.splitOn_joinC (c := 47) _ (argSegs_ne_nil e true ps hne) (segs_argSegs e true ps)

/-- what holds of '/' and of every character of every argument holds of every character of the joined text -/
theorem joinedArgs_all {P : Nat → Prop} (h47 : P 47) (e : Env) (ps : List Str) (h : ∀ p ∈ ps, ∀ c ∈ p, P c) :
    ∀ c ∈ joinedArgs e ps, P c := by
  intro c hc
  rcases HostLemmas.mem_joinC hc with rfl | ⟨x, hx, hcx⟩
  · exact h47
  · obtain ⟨p, hp, hxp⟩ := mem_argSegs e true ps x hx
    exact h p hp c (splitOn_sub 47 _ x hxp c hcx)

theorem joinedArgs_good (e : Env) (ps : List Str) (hps : ∀ p ∈ ps, PyStr p ∧ NoSurrogate p) :
    PyStr (joinedArgs e ps) ∧ NoSurrogate (joinedArgs e ps) :=
  ⟨joinedArgs_all (by decide +kernel) e ps fun p hp => (hps p hp).1,
   joinedArgs_all (by decide +kernel) e ps fun p hp => (hps p hp).2⟩

/-- `u.joinpath(a₁, …, aₙ)` IS `u.joinpath("a₁/…/aₙ")` (= `u / "a₁/…/aₙ"`), when nothing is normalised -/
theorem makeChild_joined (e : Env) (u : Url) (ps : List Str) (v : Url) (hne : ps ≠ [])
    (hps : ∀ p ∈ ps, PyStr p ∧ NoSurrogate p)
    (hnd : u.netloc ≠ [] → NoDots (splitOn 47 u.path) ∧ ∀ p ∈ ps, NoDots (splitOn 47 p))
    (hq : u.netloc ≠ [] → u.path = [] → ∃ p ∈ ps, p ≠ [])
    (hpath : u.netloc ≠ [] → (u.path = [] ∨ u.path.head? = some 47))
    (h : makeChild e u ps false = .ok v) :
    makeChild e u [joinedArgs e ps] false = .ok v ∧
    (u.netloc ≠ [] → NoDots (splitOn 47 (joinedArgs e ps))) ∧
    (u.netloc ≠ [] → u.path = [] → joinedArgs e ps ≠ []) := by
  have hh := heads_of_ok e u ps false v h
  have hT : ∀ p ∈ ps, (argText e false p).head? ≠ some 47 :=
    fun p hp => q_path_head e p (hps p hp).1 (hps p hp).2 (hh p hp)
  have hTt : ∀ p ∈ ps, (argText e true p).head? ≠ some 47 := fun p hp => hh p hp
  obtain ⟨hv, _⟩ := C13_joinpath_parts e u ps false v hne hT
    (by
      intro hn
      refine ⟨(hnd hn).1, fun p hp => ?_⟩
      exact noDots_q e p (hps p hp).1 (hps p hp).2 ((hnd hn).2 p hp))
    (by
      intro hn hp
      obtain ⟨p, hpm, hp0⟩ := hq hn hp
      exact argSegs_ne_single e false ps hT ⟨p, hpm, C13_path_quoter_nonempty e p (hps p hpm).1 (hps p hpm).2 hp0⟩)
    hpath h
  obtain ⟨hJp, hJn⟩ := joinedArgs_good e ps hps
  have hsplit := joinedArgs_split e ps hne
  have hJhead : (joinedArgs e ps).head? ≠ some 47 :=
    joinC_head _ (segs_argSegs e true ps) (argSegs_head e true ps hne hTt)
  have hJnd : u.netloc ≠ [] → NoDots (splitOn 47 (joinedArgs e ps)) := by
    intro hn x hx
    rw [hsplit] at hx
    obtain ⟨p, hp, hxp⟩ := mem_argSegs e true ps x hx
    exact (hnd hn).2 p hp x hxp
  have hJne : u.netloc ≠ [] → u.path = [] → joinedArgs e ps ≠ [] := by
    intro hn hp hJ
    exact argSegs_ne_single e true ps hTt (hq hn hp)
      (PathMore.joinC_eq_nil (argSegs_ne_nil e true ps hne) (segs_argSegs e true ps) hJ)
  refine ⟨?_, hJnd, hJne⟩
  obtain ⟨v', hv'⟩ : ∃ v', makeChild e u [joinedArgs e ps] false = .ok v' :=
    ⟨_, makeChild_single e u _ false hJhead⟩
  obtain ⟨hv'', _⟩ := C13_child_slash e u (joinedArgs e ps) v' hJp hJn
    (fun hn => ⟨(hnd hn).1, hJnd hn⟩) hJne hpath hv'
  rw [hv', hv'', hsplit, ← argSegs_false_q e ps hps, ← hv]

end Join

end R2
end Yarl
