/-
  NetShape.lean — helper lemmas for C03Netloc.lean: which INPUT host texts `_encode_host` maps to a stored
  host satisfying `HostFix` (the "syntactically valid host" of property C03), and the shape of the
  authority that the constructor / `build` write from a split input authority.
-/
import YarlModel
import YarlProofs.Lemmas.BuildFix
import YarlProofs.C03Reach
import YarlProofs.C16Host
namespace Yarl
namespace NetShape
open HostLemmas NetlocLemmas FixLemmas MiscLemmas

/-! ## characters of host texts -/

/-- a character that may stand in a stored host: visible ASCII, none of `/ ? # @ [ ]` (':' allowed) -/
def textChar (c : Nat) : Bool :=
  decide (33 ≤ c) && decide (c < 128) && !(c == 47 || c == 63 || c == 35 || c == 64 || c == 91 || c == 93)

/-- … and not ':' either: a character of a name / IPv4 text (any case, '%' allowed) -/
def nameChar (c : Nat) : Bool := textChar c && !(c == 58)

theorem textChar_spec {c : Nat} (h : textChar c = true) :
    33 ≤ c ∧ c < 128 ∧ c ≠ 47 ∧ c ≠ 63 ∧ c ≠ 35 ∧ c ≠ 64 ∧ c ≠ 91 ∧ c ≠ 93 := by
  unfold textChar at h
  simp at h
  omega

theorem nameChar_spec {c : Nat} (h : nameChar c = true) :
    33 ≤ c ∧ c < 128 ∧ c ≠ 47 ∧ c ≠ 63 ∧ c ≠ 35 ∧ c ≠ 64 ∧ c ≠ 91 ∧ c ≠ 93 ∧ c ≠ 58 := by
  unfold nameChar textChar at h
  simp at h
  omega

theorem nameChar_text {c : Nat} (h : nameChar c = true) : textChar c = true := by
  unfold nameChar at h
  simp only [Bool.and_eq_true] at h
  exact h.1

theorem textChar_fix {c : Nat} (h : textChar c = true) : 33 ≤ c ∧ c < 128 ∧ Rfc.isDelim3 c = false := by
  have := textChar_spec h
  refine ⟨this.1, this.2.1, ?_⟩
  simp [Rfc.isDelim3]
  omega

/-- lower-casing a name character gives a plain host character (`hostChar`, Lemmas/FixLemmas.lean) -/
theorem hostChar_lowerC {c : Nat} (h : nameChar c = true) : hostChar (lowerC c) = true := by
  have := nameChar_spec h
  unfold hostChar lowerC
  split
  · simp
    omega
  · simp
    omega

theorem isAscii_of_text {s : Str} (h : ∀ c ∈ s, textChar c = true) : isAscii s = true :=
  isAscii_iff.mpr fun c hc => (textChar_spec (h c hc)).2.1

/-! ## `HostFix` families -/

/-- a host without ':' that `_encode_host` returns unchanged -/
theorem hostFix_of_self (o : Oracles) {h : Str} (hne : h ≠ []) (hch : ∀ c ∈ h, nameChar c = true)
    (henc : encodeHost o h false = .ok h) : HostFix o h := by
  have n (c : Nat) (hc : nameChar c = false) : c ∉ h := by
    intro hm; rw [hch c hm] at hc; exact Bool.noConfusion hc
  refine ⟨⟨hne, n 64 (by decide), n 91 (by decide), n 93 (by decide)⟩,
    fun c hc => textChar_fix (nameChar_text (hch c hc)), fun h58 => absurd h58 (n 58 (by decide)), ?_⟩
  rw [bracket_of_no_colon (n 58 (by decide))]
  exact henc

/-- a reg-name that ENDS IN A DIGIT ("h1", "example.com1", "1.2.3.4.5", "256.1.1.1"): `_encode_host` tries
    `ip_address`, which fails, and falls through to lower-casing -/
theorem hostFix_regname_digit (o : Oracles) {h : Str} (hne : h ≠ []) (hch : ∀ c ∈ h, hostChar c = true)
    (l : Nat) (hl : h.getLast? = some l) (hd : isDigitC l = true)
    (h4 : parseIPv4 (partition 37 h).1 = none) :
    HostFix o h ∧ looksIP o h = .ok true ∧ ipRes h = none :=
  ⟨hostFix_plain o hne hch, looksIP_of_digit o hl hd, by
    have n58 : 58 ∉ h := fun hm => by have := hostChar_spec (hch 58 hm); omega
    exact ipRes_eq_none.2 (parseIP_none_of n58 h4)⟩

/-- a host with a trailing dot ("example.com.", also "1.2.3.4.") -/
theorem hostFix_trailing_dot (o : Oracles) {h : Str} (hch : ∀ c ∈ h, hostChar c = true) :
    HostFix o (h ++ [46]) := by
  refine hostFix_plain o (by simp) ?_
  intro c hc
  rcases List.mem_append.1 hc with hc | hc
  · exact hch c hc
  · simp only [List.mem_cons, List.not_mem_nil, or_false] at hc
    subst hc; decide

/-- IPv6 literal WITH a zone id: the stored host is the compressed address, '%', and the zone verbatim -/
theorem hostFix_ipv6_zone (o : Oracles) (h8 : List Nat) (hl : h8.length = 8) (hx : ∀ x ∈ h8, x < 65536)
    (z : Str) (hz : ∀ c ∈ z, textChar c = true) : HostFix o (ipv6ToStr h8 ++ 37 :: z) := by
  have hrt := C16_ipv6_roundtrip h8 hl hx
  have hch := C16_ipv6_text_lower h8
  obtain ⟨n37, n46⟩ := C16_ipv6_text_no_pct_dot h8
  have hcolon0 : 58 ∈ ipv6ToStr h8 := parseIPv6_colon hrt
  have hcolon : 58 ∈ ipv6ToStr h8 ++ 37 :: z := List.mem_append_left _ hcolon0
  have hall : ∀ c ∈ ipv6ToStr h8 ++ 37 :: z, textChar c = true := by
    intro c hc
    rcases List.mem_append.1 hc with hc | hc
    · rcases hch c hc with rfl | hd | hd
      · decide
      · simp [isDigitC] at hd
        unfold textChar; simp; omega
      · unfold textChar; simp; omega
    · rcases List.mem_cons.1 hc with rfl | hc
      · decide
      · exact hz c hc
  have n (c : Nat) (hc : textChar c = false) : c ∉ ipv6ToStr h8 ++ 37 :: z := by
    intro hm; rw [hall c hm] at hc; exact Bool.noConfusion hc
  refine ⟨⟨by simp, n 64 (by decide), n 91 (by decide), n 93 (by decide)⟩,
    fun c hc => textChar_fix (hall c hc), ?_, ?_⟩
  · intro _ hv
    have hm : 118 ∈ ipv6ToStr h8 := by
      cases hs : ipv6ToStr h8 with
      | nil => rw [hs] at hcolon0; simp at hcolon0
      | cons x xs => rw [hs] at hv; simp at hv; simp [hv]
    rcases hch 118 hm with h | h | h
    · omega
    · simp [isDigitC] at h
    · omega
  · have hp : partition 37 (ipv6ToStr h8 ++ 37 :: z) = (ipv6ToStr h8, true, z) :=
      partition_found 37 _ z n37
    have hb : bracket (ipv6ToStr h8 ++ 37 :: z) = [91] ++ ipv6ToStr h8 ++ [37] ++ z ++ [93] := by
      rw [bracket_of_colon hcolon]
      simp
    rw [hb, encodeHost_of_v6 o false (by rw [hp]; exact hrt), zoneBad_false]
    simp [StrTotal.zonePart, hp]

/-! ## input host texts -/

/-- The supported ASCII host texts AS THEY STAND IN THE INPUT (any letter case):
    * without ':' — a name or IPv4 text: non-empty, visible ASCII, none of `/ ? # @ [ ]`
      (reg-names ending in a digit or in a dot, IPv4 literals, '%' allowed);
    * with ':' — an IPv6 literal in any spelling `ipaddress` accepts, optionally followed by '%' and a zone id of
      visible ASCII characters other than `/ ? # @ [ ]`. -/
structure HostTextOK (h : Str) : Prop where
  ne : h ≠ []
  name : 58 ∉ h → ∀ c ∈ h, nameChar c = true
  ipv6 : 58 ∈ h → ∃ h8, parseIPv6 (partition 37 h).1 = some h8 ∧ ∀ c ∈ (partition 37 h).2.2, textChar c = true

/-- a name in any case — reg-name, reg-name ending in a digit, trailing dot -/
theorem hostText_name {h : Str} (hne : h ≠ []) (hch : ∀ c ∈ h, nameChar c = true) : HostTextOK h :=
  ⟨hne, fun _ => hch, fun h58 => absurd (nameChar_spec (hch 58 h58)).2.2.2.2.2.2.2.2 (by simp)⟩

/-- an IPv4 literal -/
theorem hostText_ipv4 {h : Str} {o4 : List Nat} (h4 : parseIPv4 h = some o4) : HostTextOK h := by
  have hch := parseIPv4_chars h4
  refine hostText_name ?_ ?_
  · rintro rfl; simp [parseIPv4, mem] at h4
  · intro c hc
    rcases hch c hc with rfl | hd
    · decide
    · simp [isDigitC] at hd
      unfold nameChar textChar; simp; omega

/-- an accepted IPv4 text has no ':' -/
theorem parseIPv4_no_colon {s : Str} {o4 : List Nat} (h : parseIPv4 s = some o4) : 58 ∉ s := by
  intro hm
  rcases parseIPv4_chars h 58 hm with h | h
  · omega
  · simp [isDigitC] at h

/-- an IPv6 literal (any accepted spelling) without zone -/
theorem hostText_ipv6 {h : Str} {h8 : List Nat} (h37 : 37 ∉ h) (h6 : parseIPv6 h = some h8) : HostTextOK h := by
  have hp := partition_notFound 37 h h37
  refine ⟨?_, fun h58 => absurd (parseIPv6_colon h6) h58, fun _ => ⟨h8, by rw [hp]; exact h6, by rw [hp]; simp⟩⟩
  rintro rfl
  exact absurd (parseIPv6_colon h6) (by simp)

/-- an IPv6 literal with a zone id -/
theorem hostText_ipv6_zone {a z : Str} {h8 : List Nat} (h37 : 37 ∉ a) (h6 : parseIPv6 a = some h8)
    (hz : ∀ c ∈ z, textChar c = true) : HostTextOK (a ++ 37 :: z) := by
  have hp := partition_found 37 a z h37
  have hc : 58 ∈ a ++ 37 :: z := List.mem_append_left _ (parseIPv6_colon h6)
  exact ⟨by simp, fun h58 => absurd hc h58, fun _ => ⟨h8, by rw [hp]; exact h6, by rw [hp]; exact hz⟩⟩

/-- `_encode_host(h0, validate_host=False)` of a supported host text is (the bracketed form of) a
    stored host satisfying `HostFix`; the stored host has a ':' iff the input has -/
theorem encodeHost_hostFix (o : Oracles) {h0 r : Str} (hk : HostTextOK h0) (he : encodeHost o h0 false = .ok r) :
    ∃ h, r = bracket h ∧ HostFix o h ∧ (58 ∈ h ↔ 58 ∈ h0) := by
  by_cases h58 : 58 ∈ h0
  · obtain ⟨h8, h6, hz⟩ := hk.ipv6 h58
    obtain ⟨hl, hx⟩ := parseIPv6_shape h6
    obtain ⟨_, _, hr⟩ := C16_ipv6_bracketed o h0 false h8 r (HostLemmas.parseIPv4_none_of_parseIPv6 h6) h6 he
    have hc0 : 58 ∈ ipv6ToStr h8 := parseIPv6_colon (C16_ipv6_roundtrip h8 hl hx)
    cases hsep : (partition 37 h0).2.1 with
    | true =>
      rw [hsep] at hr
      have hc : 58 ∈ ipv6ToStr h8 ++ 37 :: (partition 37 h0).2.2 := List.mem_append_left _ hc0
      refine ⟨ipv6ToStr h8 ++ 37 :: (partition 37 h0).2.2, ?_, hostFix_ipv6_zone o h8 hl hx _ hz,
        ⟨fun _ => h58, fun _ => hc⟩⟩
      rw [hr, bracket_of_colon hc]; simp
    | false =>
      rw [hsep] at hr
      refine ⟨ipv6ToStr h8, ?_, hostFix_ipv6 o h8 hl hx, ⟨fun _ => h58, fun _ => hc0⟩⟩
      rw [hr, bracket_of_colon hc0]; simp
  · have hch := hk.name h58
    have hasc := isAscii_of_text (fun c hc => nameChar_text (hch c hc))
    have key : HostFix o r ∧ 58 ∉ r := by
      rcases encodeHost_casesV he with ⟨hres, _⟩ | ⟨hwhy, hreg⟩
      · cases hp : parseIP (partition 37 h0).1 with
        | none =>
          rw [ipRes_eq_none.2 hp] at hres
          cases hres
        | some ip =>
          cases ip with
          | v6 h8 =>
            exact absurd (partition_fst_sub 37 h0 58 (parseIPv6_colon (parseIP_some_v6.1 hp))) h58
          | v4 o4 =>
            obtain rfl := Option.some.inj ((ipRes_of_v4 hp).symm.trans hres)
            exact ⟨hostFix_of_self o hk.ne hch he, h58⟩
      · obtain ⟨hrl, _⟩ := (regPath_ok_of_ascii hasc).1 hreg
        subst hrl
        have hne : lower h0 ≠ [] := by
          intro h; apply hk.ne; unfold lower at h; simpa using h
        have hch' : ∀ c ∈ lower h0, hostChar c = true := by
          intro c hc
          simp only [lower, List.mem_map] at hc
          obtain ⟨d, hd, rfl⟩ := hc
          exact hostChar_lowerC (hch d hd)
        exact ⟨hostFix_plain o hne hch', fun hm => h58 ((mem_lower 58 (by omega) h0).1 hm)⟩
    exact ⟨r, (bracket_of_no_colon key.2).symm, key.1, ⟨fun h => absurd h key.2, fun h => absurd h h58⟩⟩

/-- `_encode_host` never fails on a supported host text (validation off) -/
theorem encodeHost_total (o : Oracles) {h0 : Str} (hk : HostTextOK h0) : ∃ r, encodeHost o h0 false = .ok r := by
  by_cases h58 : 58 ∈ h0
  · obtain ⟨h8, h6, _⟩ := hk.ipv6 h58
    have hres : ∃ r, ipRes h0 = some r := by
      simp only [ipRes, parseIP, HostLemmas.parseIPv4_none_of_parseIPv6 h6, h6, Option.map_some]
      exact ⟨_, rfl⟩
    obtain ⟨r, hr⟩ := hres
    exact ⟨r, encodeHost_ip (looksIP_of_colon o h58) hr (zoneBad_false _)⟩
  · have hasc := isAscii_of_text (fun c hc => nameChar_text (hk.name h58 c hc))
    obtain ⟨b, hb⟩ := looksIP_ascii o h0 hasc
    rw [encodeHost_eq, hb]
    simp only [bind, Except.bind, zoneBad_false, Bool.false_eq_true, if_false, regPath, hasc, if_true,
      Bool.false_and, pure, Except.pure]
    split <;> exact ⟨_, rfl⟩

/-! ### validation on -/

theorem regNameChars_nameChar : ∀ k ∈ Gen.regNameChars, nameChar k = true := by decide +kernel

/-- a text that passes the `NOT_REG_NAME` screen after lower-casing consists of name characters -/
theorem screened_nameChar {z : Str} (h : notRegName (lower z) = false) : ∀ c ∈ z, nameChar c = true := by
  intro c hc
  have hm : lowerC c ∈ lower z := by simp only [lower, List.mem_map]; exact ⟨c, hc, rfl⟩
  have hl : nameChar (lowerC c) = true := by
    rcases notRegName_spec _ h _ hm with h37 | hr
    · rw [h37]; decide
    · exact regNameChars_nameChar _ (mem_iff.mp hr)
  have := nameChar_spec hl
  revert this
  unfold nameChar textChar lowerC
  split <;> simp <;> omega

/-- a non-empty text the IP branch accepts under validation is a supported host text: the address part is an IPv4
    or IPv6 literal and the zone is screened.  No ASCII hypothesis. -/
theorem hostTextOK_of_ipRes {a r : Str} (hne : a ≠ []) (hres : ipRes a = some r) (hz : zoneBad a true = false) :
    HostTextOK a := by
  have hzone : (partition 37 a).2.1 = true → ∀ c ∈ (partition 37 a).2.2, nameChar c = true :=
    fun hsep => screened_nameChar (zoneBad_true_false hz hsep)
  have hj := partition_join 37 a
  cases hp : parseIP (partition 37 a).1 with
  | none =>
    rw [ipRes_eq_none.2 hp] at hres
    cases hres
  | some ip =>
    cases ip with
    | v4 o4 =>
      have h4 := parseIP_some_v4.1 hp
      refine hostText_name hne ?_
      intro c hc
      rw [hj] at hc
      rcases List.mem_append.1 hc with hc | hc
      · exact (hostText_ipv4 h4).name (parseIPv4_no_colon h4) c hc
      · cases hsep : (partition 37 a).2.1 with
        | false => rw [hsep] at hc; simp at hc
        | true =>
          rw [hsep] at hc
          simp only [if_true, List.mem_cons] at hc
          rcases hc with rfl | hc
          · decide
          · exact hzone hsep c hc
    | v6 h8 =>
      have h6 := parseIP_some_v6.1 hp
      have h58 : 58 ∈ a := partition_fst_sub 37 a 58 (parseIPv6_colon h6)
      refine ⟨hne, fun h => absurd h58 h, fun _ => ⟨h8, h6, ?_⟩⟩
      intro c hc
      cases hsep : (partition 37 a).2.1 with
      | true => exact nameChar_text (hzone hsep c hc)
      | false =>
        rw [partition_of_nosep hsep] at hc
        simp at hc

/-- with validation on, every accepted non-empty ASCII host is a supported host text -/
theorem hostTextOK_of_validated (o : Oracles) {h0 r : Str} (ha : isAscii h0 = true) (hne : h0 ≠ [])
    (he : encodeHost o h0 true = .ok r) : HostTextOK h0 := by
  rcases encodeHost_casesV he with ⟨hres, hz⟩ | ⟨hwhy, hreg⟩
  · exact hostTextOK_of_ipRes hne hres hz
  · obtain ⟨rfl, hv⟩ := (regPath_ok_of_ascii ha).1 hreg
    exact hostText_name hne (screened_nameChar (hv rfl))

/-- the validated host (`build(host=…)`, `with_host`): every accepted non-empty ASCII argument is
    encoded to (the bracketed form of) a stored host satisfying `HostFix` -/
theorem encodeHost_hostFix_validated (o : Oracles) {h0 r : Str} (ha : isAscii h0 = true) (hne : h0 ≠ [])
    (he : encodeHost o h0 true = .ok r) : ∃ h, r = bracket h ∧ HostFix o h := by
  obtain ⟨h, h1, h2, _⟩ := encodeHost_hostFix o (hostTextOK_of_validated o ha hne he) (HostLemmas.encodeHost_mono he)
  exact ⟨h, h1, h2⟩

/-- (fix 3fbf5b4) a text with a ':' that the IP branch accepts under validation — the IDNA answer of a non-ASCII host
    that spells an IP literal — has as canonical form (the bracketed form of) a stored host satisfying `HostFix` -/
theorem hostFix_of_ipRes_colon (o : Oracles) {a r : Str} (h58 : 58 ∈ a) (hres : ipRes a = some r)
    (hz : zoneBad a true = false) : ∃ h, r = bracket h ∧ HostFix o h := by
  have he : encodeHost o a false = .ok r := encodeHost_ip (looksIP_of_colon o h58) hres (zoneBad_false _)
  obtain ⟨h, h1, h2, _⟩ := encodeHost_hostFix o (hostTextOK_of_ipRes (List.ne_nil_of_mem h58) hres hz) he
  exact ⟨h, h1, h2⟩

/-! ## the authority the constructor / `build` write -/

/-- the stored authority of `u` is `[user[:pw]@]host[:port]` with canonical pieces (the data of
    `NetlocCanon.auth`, with the witnesses exposed) -/
structure AuthShape (e : Env) (u : Url) (user pw : Option Str) (host : Str) (port : Option Nat) : Prop where
  netloc : u.netloc = authText user pw host port
  userinfo : UserInfoOK e.b user pw
  fixed : HostFix e.o host
  range : ∀ p, port = some p → p ≤ 65535
  cache : u.pre = none ∨ u.pre = some (preOf user pw host port)

theorem AuthShape.canon {e : Env} {u : Url} {user pw : Option Str} {host : Str} {port : Option Nat}
    (h : AuthShape e u user pw host port) : NetlocCanon e u :=
  NetlocCanon.auth user pw host port h.netloc h.userinfo h.fixed h.range h.cache

theorem AuthShape.stored {e : Env} {u : Url} {user pw : Option Str} {host : Str} {port : Option Nat}
    (h : AuthShape e u user pw host port) : Stored e u user pw (bracket host) host port :=
  ⟨h.netloc, h.userinfo, .fix h.fixed, h.range, h.cache⟩

theorem AuthShape.net {e : Env} {u : Url} {user pw : Option Str} {host : Str} {port : Option Nat}
    (h : AuthShape e u user pw host port) : net e u = .ok (preOf user pw host port) :=
  h.stored.net

theorem AuthShape.explicitPort {e : Env} {u : Url} {user pw : Option Str} {host : Str} {port : Option Nat}
    (h : AuthShape e u user pw host port) : explicitPort e u = .ok port := by
  unfold Yarl.explicitPort; rw [h.net]; rfl

theorem AuthShape.ne {e : Env} {u : Url} {user pw : Option Str} {host : Str} {port : Option Nat}
    (h : AuthShape e u user pw host port) : u.netloc ≠ [] :=
  h.stored.ne

/-- the input-side notion of "syntactically valid authority": the authority text is empty, or `split_netloc`
    accepts it, it names a host of a supported kind, and a host that is not an IPv6 literal is not
    written in brackets (`hostinfo` = the text after the last '@') -/
def AuthInput (o : Oracles) (n : Str) : Prop :=
  n = [] ∨ ∃ np h0, splitNetloc o n = .ok np ∧ np.host = some h0 ∧ HostTextOK h0 ∧
    (58 ∉ h0 → 91 ∉ (rpartition 64 n).2.2)

/-- the bracket-keeping step of the constructor does nothing on a `HostFix` host under the side condition -/
theorem keep_bracket {hostinfo h : Str} (hw : 58 ∉ h → 91 ∉ hostinfo) :
    (if mem 91 hostinfo && !mem 91 (bracket h) then [91] ++ bracket h ++ [93] else bracket h) = bracket h := by
  refine rebracket_keep (fun hb => ?_)
  have h58 : 58 ∈ h := Classical.not_not.mp (fun hn => hw hn (mem_iff.mp hb))
  rw [bracket_of_colon h58]
  simp

/-- the host step on a supported host text that is not wrongly bracketed -/
theorem hostStep_plain {o : Oracles} {n h0 : Str} (hk : HostTextOK h0) (hwrap : 58 ∉ h0 → 91 ∉ (rpartition 64 n).2.2) :
    HostStep o n h0 (fun W h => W = bracket h ∧ HostFix o h) := by
  intro r he
  obtain ⟨h, rfl, hh, hiff⟩ := encodeHost_hostFix o hk he
  exact ⟨_, h, ⟨rfl, hh⟩, keep_bracket (fun h58 => hwrap (fun hm => h58 (hiff.2 hm))), unbracket_bracket h hh.ok⟩

/-- `make_netloc(…, encode=True)` on Python strings writes the authority of a `UserInfoOK` pair -/
theorem makeNetloc_true_written (e : Env) (U P : Option Str) (hb : Str) (port : Option Nat)
    (hU : ∀ s, U = some s → PyStr s) (hP : ∀ s, P = some s → PyStr s) :
    ∃ user pw, makeNetloc (Yarl.q e Gen.QUOTER) U P (some hb) port true = makeNetloc id user pw (some hb) port false ∧
      UserInfoOK e.b user pw := by
  have hu : ∀ s, BuildMore.encUser (Yarl.q e Gen.QUOTER) U = some s → Canon (Gen.REQUOTER.tab e.b) s := by
    intro s hs
    obtain ⟨y, rfl, hy⟩ := Option.bind_eq_some_iff.mp hs
    split at hy
    · cases hy
    · cases hy
      exact ReachFix.q_quoter_canon e y (hU y rfl)
  rw [NetlocLemmas.makeNetloc_encode]
  obtain ⟨user', heq, hui⟩ := ReachFix.makeNetloc_written e _ (P.map (Yarl.q e Gen.QUOTER)) hb port hu
    (ReachFix.quoted_canon e P hP)
  exact ⟨user', _, heq, hui⟩

/-- what `build(encoded=False)` needs of its authority arguments -/
structure BuildNetOK (e : Env) (a : BuildArgs) : Prop where
  /-- `authority=`: a Python string whose split names a supported host (`AuthInput`) -/
  authority_py : PyStr a.authority
  authority : AuthInput e.o a.authority
  /-- `user=`, `password=`: Python strings -/
  user : ∀ x, a.user = some x → PyStr x
  password : ∀ x, a.password = some x → PyStr x
  /-- `host=`: ASCII (it is validated by `build` itself; IDN hosts are out of scope here) -/
  host : isAscii a.host = true

theorem strPort_eq (scheme : Str) (port : Option Nat) :
    (match port with
      | some p => if some p = defaultPort scheme then none else some p
      | none => none) = strPort scheme port := by
  cases port <;> rfl

/-- the authority route of `build(encoded=False)` on an authority naming the host `h0`: `authW` around the written
    host with canonical userinfo and the port `str` would write -/
theorem buildNetloc_shapeW {K : Str → Str → Prop} (e : Env) (sc : Str) (a : BuildArgs) (np : NetlocParts)
    (h0 nl : Str) (hane : a.authority ≠ []) (hpy : PyStr a.authority) (hsp : splitNetloc e.o a.authority = .ok np)
    (hhost : np.host = some h0) (hstep : HostStep e.o a.authority h0 K) (hnl : buildNetloc e sc a = .ok nl) :
    ∃ user pw W h, nl = authW user pw W (strPort sc np.port) ∧ UserInfoOK e.b user pw ∧ K W h ∧
      ∀ p, strPort sc np.port = some p → p ≤ 65535 := by
  obtain ⟨_, np', h1, hsp', he, rfl⟩ := buildNetloc_authority hane hnl
  obtain rfl := Except.ok.inj (hsp'.symm.trans hsp)
  rw [hhost] at he
  obtain ⟨W, h, k, hW, _⟩ := hstep h1 he
  obtain ⟨hu, hp⟩ := WfLemmas.splitNetloc_pyStr e.o a.authority hpy np' hsp
  obtain ⟨user, pw, heq, hui⟩ := makeNetloc_true_written e np'.user np'.password W (strPort sc np'.port) hu hp
  refine ⟨user, pw, W, h, ?_, hui, k,
    strPort_range _ _ (fun p hp => splitNetloc_port_range e.o a.authority np' p hsp hp)⟩
  rw [hW]
  exact heq

/-- the scheme and the authority `build(encoded=False)` writes: the scheme is the LOWERED one (`sc`, fix e21485a:
    `lower a.scheme` for an ASCII scheme, the oracle's answer otherwise), and no default port of THAT scheme is
    stored -/
theorem build_shape (e : Env) (a : BuildArgs) (u : Url) (henc : a.encoded = false) (hok : BuildNetOK e a)
    (h : build e a = .ok u) :
    ∃ sc, lowerAny e a.scheme = .ok sc ∧ u.scheme = sc ∧ ((u.netloc = [] ∧ u.pre = none) ∨
      ∃ user pw host port, AuthShape e u user pw host port ∧ ∀ p, port = some p → some p ≠ defaultPort sc) := by
  obtain ⟨_, hs, _, hsc, hnl, _, _, _, hpre⟩ := build_false_ok henc h
  refine ⟨_, hsc, rfl, ?_⟩
  by_cases hane : a.authority = []
  · by_cases hhne : a.host = []
    · rw [buildNetloc_none hane hhne] at hnl
      exact .inl ⟨(Except.ok.inj hnl).symm, hpre⟩
    · -- host route
      rw [buildNetloc_host hane hhne] at hnl
      obtain ⟨r, he, hnl⟩ := bind_ok hnl
      obtain ⟨hh, rfl, hfix⟩ := encodeHost_hostFix_validated e.o hok.host hhne he
      obtain ⟨user, pw, heq, hui⟩ := makeNetloc_true_written e a.user a.password (bracket hh)
        (strPort u.scheme (a.port.map Int.toNat)) hok.user hok.password
      exact .inr ⟨user, pw, hh, _, ⟨(Except.ok.inj hnl).symm.trans heq, hui, hfix,
        strPort_range _ _ (argCheck_port hs), Or.inl hpre⟩, strPort_notDefault _ _⟩
  · -- authority route (a non-ASCII authority passed the NFKC screen, fix c2c2803)
    rcases hok.authority with h0 | ⟨np, h0, hsp, hhost, hk, hwrap⟩
    · exact absurd h0 hane
    · obtain ⟨user, pw, _, h, h1, h2, ⟨rfl, hh⟩, h4⟩ := buildNetloc_shapeW e u.scheme a np h0 u.netloc hane
        hok.authority_py hsp hhost (hostStep_plain hk hwrap) hnl
      exact .inr ⟨user, pw, h, _, ⟨h1, h2, hh, h4, Or.inl hpre⟩, strPort_notDefault _ _⟩

end NetShape
end Yarl
