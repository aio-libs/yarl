/-
  QsLemmas.lean — helper lemmas for the query read-back property (C06/C12):
  the replacing UTF-8 decoder one step at a time (`drStep`), what it can emit (`dr_good`) and what it does on
  well-formed input (`dr_utf8s`, `decodeReplace_utf8s`); the generated quoters compute `cOut` after dropping lone
  surrogates (`run_eq_cOut`, `stripSurr_id`, `run_strip`, `q_strip` — the entry to every quoter fact of the
  development); and a few small facts used here and elsewhere: `cOut_nr_cons`, `joinC_cons_eq_nil`,
  `filterMap_map_id`, `takeWhile_all`, `dropWhile_all`, `intToStr_ascii`, `pyStr_of_ascii`.
-/
import YarlProofs.Defs
import YarlProofs.Lemmas.Utf8Round
import YarlProofs.Lemmas.Readback
import YarlProofs.Lemmas.QuoteEquiv
import YarlProofs.Lemmas.GenTabs
import YarlProofs.Lemmas.ParseLemmas
import YarlProofs.Lemmas.PathLemmas
import YarlProofs.Lemmas.Decimal
namespace Yarl.QsLemmas

open Readback

/-! ### `decodeReplace`, one step at a time -/

/-- One step of `decodeReplaceAux`: the code point emitted for the lead byte `b0` and what is left of `rest`. -/
def drStep (b0 : Nat) (rest : List Nat) : Nat × List Nat :=
  if b0 < 0x80 then (b0, rest)
  else if b0 < 0xC2 then (0xFFFD, rest)
  else if b0 < 0xE0 then
    match rest with
    | b1 :: r1 => if isCont b1 then ((b0 - 0xC0) * 64 + (b1 - 0x80), r1) else (0xFFFD, rest)
    | [] => (0xFFFD, [])
  else if b0 < 0xF0 then
    match rest with
    | b1 :: r1 =>
      if !isCont b1 || (b0 = 0xE0 && b1 < 0xA0) || (b0 = 0xED && 0xA0 ≤ b1) then (0xFFFD, rest)
      else match r1 with
        | b2 :: r2 => if isCont b2 then ((b0 - 0xE0) * 4096 + (b1 - 0x80) * 64 + (b2 - 0x80), r2)
                      else (0xFFFD, r1)
        | [] => (0xFFFD, [])
    | [] => (0xFFFD, [])
  else if b0 < 0xF5 then
    match rest with
    | b1 :: r1 =>
      if !isCont b1 || (b0 = 0xF0 && b1 < 0x90) || (b0 = 0xF4 && 0x90 ≤ b1) then (0xFFFD, rest)
      else match r1 with
        | b2 :: r2 =>
          if !isCont b2 then (0xFFFD, r1)
          else match r2 with
            | b3 :: r3 => if isCont b3 then
                ((b0 - 0xF0) * 262144 + (b1 - 0x80) * 4096 + (b2 - 0x80) * 64 + (b3 - 0x80), r3)
              else (0xFFFD, r2)
            | [] => (0xFFFD, [])
        | [] => (0xFFFD, [])
    | [] => (0xFFFD, [])
  else (0xFFFD, rest)

theorem dr_nil (f : Nat) : decodeReplaceAux f [] = [] := by cases f <;> rfl

theorem dr_step (f b0 : Nat) (rest : List Nat) :
    decodeReplaceAux (f + 1) (b0 :: rest) = (drStep b0 rest).1 :: decodeReplaceAux f (drStep b0 rest).2 := by
  fun_cases drStep b0 rest <;> simp only [decodeReplaceAux, dr_nil, *] <;> rfl


/-- a step consumes a prefix of what follows the lead byte -/
theorem drStep_length (b0 : Nat) (rest : List Nat) : (drStep b0 rest).2.length ≤ rest.length := by
  fun_cases drStep b0 rest <;> simp only [List.length_cons, List.length_nil] <;> omega

/-- any fuel above the length gives the same result -/
theorem dr_fuel (bs : List Nat) (f f' : Nat) : bs.length < f → bs.length < f' →
    decodeReplaceAux f bs = decodeReplaceAux f' bs := by
  induction f generalizing bs f' with
  | zero => intro h; cases h
  | succ f ih =>
    intro h h'
    cases bs with
    | nil => rw [dr_nil, dr_nil]
    | cons b0 rest =>
      obtain ⟨g, rfl⟩ : ∃ g, f' = g + 1 := ⟨f' - 1, by omega⟩
      have := drStep_length b0 rest
      simp only [List.length_cons] at h h'
      rw [dr_step, dr_step, ih _ g (by omega) (by omega)]

/-! ### the decoder emits scalar values only -/

/-- a scalar value: a code point that is not a surrogate -/
def Scalar (c : Nat) : Prop := c ≤ 0x10FFFF ∧ isSurrogate c = false

theorem scalar_of (c : Nat) (h1 : c ≤ 0x10FFFF) (h2 : c < 0xD800 ∨ 0xDFFF < c) : Scalar c := by
  refine ⟨h1, ?_⟩
  simp only [isSurrogate, Bool.and_eq_false_imp, decide_eq_true_eq, decide_eq_false_iff_not]
  omega

theorem drStep_good (b0 : Nat) (rest : List Nat) : Scalar (drStep b0 rest).1 := by
  fun_cases drStep b0 rest
  all_goals apply scalar_of
  -- `b0` itself or U+FFFD, unless a character is put together from continuation bytes
  all_goals first
    | omega
    | (simp only [isCont, Bool.or_eq_true, Bool.and_eq_true, decide_eq_true_eq, decide_eq_false_iff_not, not_or,
        not_and, Bool.not_eq_eq_eq_not, Bool.not_true, Bool.and_eq_false_imp] at *
       omega)

/-- the replacing decoder emits scalar values only, whatever the bytes -/
theorem dr_good : ∀ (fuel : Nat) (bs : List Nat), ∀ c ∈ decodeReplaceAux fuel bs, Scalar c := by
  intro fuel
  induction fuel with
  | zero => intro bs c hc; cases hc
  | succ f ih =>
    intro bs c hc
    cases bs with
    | nil => cases hc
    | cons b0 rest =>
      rw [dr_step] at hc
      rcases List.mem_cons.mp hc with rfl | hc
      · exact drStep_good b0 rest
      · exact ih _ c hc

/-! ### `decodeReplace` on well-formed UTF-8 -/

theorem dr_1 (f c : Nat) (r : List Nat) (h : c < 0x80) :
    decodeReplaceAux (f + 1) ([c] ++ r) = c :: decodeReplaceAux f r := by
  rw [List.singleton_append, dr_step]
  simp only [drStep, h, if_true]

theorem isCont_mod (n : Nat) : isCont (0x80 + n % 64) = true := isCont_80 _ (Nat.mod_lt n (by decide))

-- `dr_2`, `dr_3`, `dr_4` walk down the `if` chain of `drStep`: every range test on the lead byte is left to `omega`
-- (`rw [if_neg, …, if_pos]`), the continuation bytes are recognised by `isCont_mod`, and the code point is
-- reassembled by `omega`

theorem dr_2 (f c : Nat) (r : List Nat) (h1 : 0x80 ≤ c) (h2 : c < 0x800) :
    decodeReplaceAux (f + 1) ([0xC0 + c / 64, 0x80 + c % 64] ++ r) = c :: decodeReplaceAux f r := by
  rw [List.cons_append, List.cons_append, List.nil_append, dr_step]
  unfold drStep
  rw [if_neg, if_neg, if_pos]
  · simp only [isCont_mod, if_true]
    refine congrArg (· :: decodeReplaceAux f r) ?_
    omega
  all_goals omega

theorem dr_3 (f c : Nat) (r : List Nat) (h1 : 0x800 ≤ c) (h2 : c < 0x10000)
    (hs : isSurrogate c = false) :
    decodeReplaceAux (f + 1) ([0xE0 + c / 4096, 0x80 + (c / 64) % 64, 0x80 + c % 64] ++ r)
      = c :: decodeReplaceAux f r := by
  have hs' : c < 0xD800 ∨ 0xDFFF < c := by
    simp only [isSurrogate, Bool.and_eq_false_iff, decide_eq_false_iff_not] at hs; omega
  rw [List.cons_append, List.cons_append, List.cons_append, List.nil_append, dr_step]
  unfold drStep
  rw [if_neg, if_neg, if_neg, if_pos]
  · simp only [isCont_mod]
    rw [if_neg]
    · simp only [if_true]
      refine congrArg (· :: decodeReplaceAux f r) ?_
      omega
    · -- not overlong, not a surrogate
      simp only [Bool.not_true, Bool.false_or, Bool.or_eq_true, Bool.and_eq_true, decide_eq_true_eq]
      omega
  all_goals omega

theorem dr_4 (f c : Nat) (r : List Nat) (h1 : 0x10000 ≤ c) (h2 : c ≤ 0x10FFFF) :
    decodeReplaceAux (f + 1)
        ([0xF0 + c / 262144, 0x80 + (c / 4096) % 64, 0x80 + (c / 64) % 64, 0x80 + c % 64] ++ r)
      = c :: decodeReplaceAux f r := by
  rw [List.cons_append, List.cons_append, List.cons_append, List.cons_append, List.nil_append, dr_step]
  unfold drStep
  rw [if_neg, if_neg, if_neg, if_neg, if_pos]
  · simp only [isCont_mod]
    rw [if_neg]
    · simp only [Bool.not_true, Bool.false_eq_true, if_false, if_true]
      refine congrArg (· :: decodeReplaceAux f r) ?_
      omega
    · -- not overlong, not above U+10FFFF
      simp only [Bool.not_true, Bool.false_or, Bool.or_eq_true, Bool.and_eq_true, decide_eq_true_eq]
      omega
  all_goals omega

/-- one well-formed character is decoded exactly, at the cost of one unit of fuel -/
theorem dr_char (f c : Nat) (r : List Nat) (hc : c ≤ 0x10FFFF) (hs : isSurrogate c = false) :
    decodeReplaceAux (f + 1) (utf8 c ++ r) = c :: decodeReplaceAux f r := by
  by_cases h1 : c < 0x80
  · rw [utf8_ascii h1]; exact dr_1 f c r h1
  by_cases h2 : c < 0x800
  · rw [utf8_2 c (by omega) h2]; exact dr_2 f c r (by omega) h2
  by_cases h3 : c < 0x10000
  · rw [utf8_3 c (by omega) h3 hs]; exact dr_3 f c r (by omega) h3 hs
  · rw [utf8_4 c (by omega) hc]; exact dr_4 f c r (by omega) hc

theorem dr_utf8s (t : Str) (ht : PyStr t) (hn : NoSurrogate t) :
    ∀ f, t.length < f → decodeReplaceAux f (utf8s t) = t := by
  induction t with
  | nil => intro f _; exact dr_nil f
  | cons c rest ih =>
    intro f hf
    cases f with
    | zero => simp at hf
    | succ f =>
      rw [QuoteEquiv.utf8s_cons, dr_char f c _ (ht c (by simp)) (hn c (by simp)),
        ih (pyStr_tail ht) (noSurr_tail hn) f
          (by simp only [List.length_cons] at hf; omega)]

theorem length_le_utf8s (t : Str) (ht : PyStr t) (hn : NoSurrogate t) :
    t.length ≤ (utf8s t).length := by
  induction t with
  | nil => simp
  | cons c rest ih =>
    have := ih (pyStr_tail ht) (noSurr_tail hn)
    have hp := utf8_length_pos c (ht c (by simp)) (hn c (by simp))
    rw [QuoteEquiv.utf8s_cons]
    simp only [List.length_cons, List.length_append]
    omega

/-! ### what one character contributes -/

theorem cOut_nr_cons (q : QTab) (hnr : q.requote = false) (c : Nat) (r : Str) :
    cOut q (c :: r) = cWriteOut q c ++ cOut q r := by
  rw [cOut]; simp [hnr]

/-! ### small facts about lists and texts -/

theorem joinC_cons_eq_nil (c : Nat) (p : Str) (ps : List Str) (h : joinC c (p :: ps) = []) : p = [] := by
  cases ps with
  | nil => exact h
  | cons q ps =>
    rw [PathLemmas.joinC_cons2] at h
    simp at h

theorem filterMap_map_id {α β : Type} (f : β → Option α) (g : α → β) (l : List α)
    (h : ∀ p ∈ l, f (g p) = some p) : (l.map g).filterMap f = l := by
  induction l with
  | nil => rfl
  | cons a l ih =>
    rw [List.map_cons, List.filterMap_cons, h a (by simp), ih (fun p hp => h p (by simp [hp]))]

theorem takeWhile_all (p : Nat → Bool) (s : Str) (h : ∀ x ∈ s, p x = true) : s.takeWhile p = s := by
  induction s with
  | nil => rfl
  | cons x xs ih =>
    rw [List.takeWhile_cons, h x (by simp), if_pos rfl, ih (fun y hy => h y (by simp [hy]))]

theorem dropWhile_all (p : Nat → Bool) (s : Str) (h : ∀ x ∈ s, p x = true) : s.dropWhile p = [] := by
  induction s with
  | nil => rfl
  | cons x xs ih =>
    rw [List.dropWhile_cons, h x (by simp), if_pos rfl, ih (fun y hy => h y (by simp [hy]))]

/-! ### `str(int)` is ASCII digits with an optional sign -/

theorem intToStr_ascii (n : Int) : ∀ c ∈ intToStr n, c < 128 := by
  intro c hc
  unfold intToStr at hc
  split at hc
  · rcases List.mem_cons.mp hc with rfl | h
    · decide
    · have := Decimal.isDigitC_iff.1 ((Decimal.natToStrAux_digits _ _).2 c h); omega
  · have := Decimal.isDigitC_iff.1 ((Decimal.natToStrAux_digits _ _).2 c hc); omega

theorem pyStr_of_ascii (s : Str) (h : ∀ c ∈ s, c < 128) : PyStr s ∧ NoSurrogate s := by
  refine ⟨fun c hc => ?_, fun c hc => ?_⟩
  · have := h c hc; omega
  · have := h c hc
    simp only [isSurrogate, Bool.and_eq_false_iff, decide_eq_false_iff_not]; omega

/-! ### the generated quoters compute `cOut` -/

theorem stripSurr_id (t : Str) (hn : NoSurrogate t) : stripSurr t = t := by
  unfold stripSurr
  exact List.filter_eq_self.mpr (fun c hc => by simp [hn c hc])

/-- both backends of a generated quoter compute `cOut` after dropping lone surrogates -/
theorem run_eq_cOut (a : QArgs) (ha : a ∈ Gen.allQuoters) (b : Backend) (t : Str) (ht : PyStr t) :
    a.run b t = cOut (a.tab b) (stripSurr t) := by
  have hwf := gen_tab_wf a ha b
  have hsp : (a.tab b).qs = true → (a.tab b).safe 32 = false := fun _ => gen_space_unsafe a ha b
  cases b with
  | py =>
    show quotePy (a.tab .py) t = _
    rw [quotePy_eq_quoteC _ hwf hsp t ht, quoteC_eq_cOut _ hwf hsp t ht]
  | c =>
    show quoteC (a.tab .c) t = _
    rw [quoteC_eq_cOut _ hwf hsp t ht]

end Yarl.QsLemmas

namespace Yarl
open QsLemmas

/-- quoting does not see lone surrogates: the compiled quoter works on the UTF-8 bytes, where they are dropped -/
theorem run_strip (a : QArgs) (ha : a ∈ Gen.allQuoters) (b : Backend) (s : Str) (hs : PyStr s) :
    a.run b s = a.run b (stripSurr s) := by
  rw [run_eq_cOut a ha b s hs, run_eq_cOut a ha b _ (QuoteEquiv.pyStr_stripSurr hs),
    stripSurr_id _ (QuoteEquiv.noSurr_stripSurr s)]

theorem q_strip (e : Env) (a : QArgs) (ha : a ∈ Gen.allQuoters) (s : Str) (hs : PyStr s) :
    q e a s = q e a (stripSurr s) := run_strip a ha e.b s hs

/-- UTF-8 with replacement decodes well-formed UTF-8 exactly -/
theorem decodeReplace_utf8s (t : Str) (ht : PyStr t) (hn : NoSurrogate t) :
    decodeReplace (utf8s t) = t := by
  unfold decodeReplace
  exact dr_utf8s t ht hn _ (by have := length_le_utf8s t ht hn; omega)

end Yarl
