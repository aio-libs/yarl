import YarlModel
import YarlProofs.Lemmas.StrLit
/-
  WriterLemmas.lean — the C output buffer (`YarlModel/Writer.lean`):
  growth steps are invisible, allocation failure gives MemoryError and nothing
  else, the heap block is released exactly once, the static buffer never, and
  the number of bytes held never exceeds the capacity.

  The states reachable from `init n` are a two-parameter family: after `k` granted
  growth requests the writer is `grown n k d`, every field but the bytes held being
  a function of `k`.  `Reach` says so, and is the one invariant the rest reads from, down to when a run fails
  (`writeAll_fail_iff`, `run_error_iff`).  That a run consults only the oracle answers it asks for is `run_congr`.
-/
namespace Yarl.WriterLemmas
open Yarl Yarl.Writer

/-- the two ways `_write_char` succeeds: there is room; or the buffer is full, request `allocs` is granted, and
    the block with that id, `n` bytes larger, replaces the buffer -/
theorem writeChar_some {n : Nat} {f : Nat → Bool} {w w' : St} {c : Nat} (h : writeChar n f w c = some w') :
    (w.data.length ≠ w.size ∧ w' = { w with data := w.data ++ [c] }) ∨
    (w.data.length = w.size ∧ f w.allocs = false ∧
      w' = { w with buf := .heap w.allocs, size := w.size + n, allocs := w.allocs + 1, data := w.data ++ [c],
                    live := w.allocs :: (match w.buf with
                      | .static => w.live
                      | .heap old => w.live.filter (· ≠ old)) }) := by
  unfold writeChar at h
  by_cases hfull : w.data.length = w.size
  · rw [if_pos hfull] at h
    cases hf : f w.allocs with
    | true => simp [hf] at h
    | false =>
      refine Or.inr ⟨hfull, rfl, ?_⟩
      simp only [hf, Bool.false_eq_true, if_false] at h
      cases hb : w.buf <;> simp only [hb, Option.some.injEq] at h <;> rw [← h]
  · rw [if_neg hfull] at h
    exact Or.inl ⟨hfull, (Option.some.inj h).symm⟩

/-- a successful `_write_char` appends exactly the character -/
theorem writeChar_data {n : Nat} {f : Nat → Bool} {w w' : St} {c : Nat}
    (h : writeChar n f w c = some w') : w'.data = w.data ++ [c] := by
  rcases writeChar_some h with ⟨_, rfl⟩ | ⟨_, _, rfl⟩ <;> rfl

/-- `_write_char` fails only when the buffer is full and the allocation request fails -/
theorem writeChar_none {n : Nat} {f : Nat → Bool} {w : St} {c : Nat}
    (h : writeChar n f w c = none) : w.data.length = w.size ∧ f w.allocs = true := by
  simp only [writeChar] at h
  split at h
  · rename_i hfull
    split at h
    · rename_i hf; exact ⟨hfull, hf⟩
    · split at h <;> simp at h
  · simp at h

/-- without faults `_write_char` never fails -/
theorem writeChar_nofault (n : Nat) (w : St) (c : Nat) :
    ∃ w', writeChar n (fun _ => false) w c = some w' := by
  cases h : writeChar n (fun _ => false) w c with
  | some w' => exact ⟨w', rfl⟩
  | none => have := (writeChar_none h).2; simp at this

/-- while there is room, `_write_char` makes no allocation request at all -/
theorem writeChar_room (n : Nat) (f : Nat → Bool) (w : St) (c : Nat) (h : w.data.length < w.size) :
    writeChar n f w c = some { w with data := w.data ++ [c] } := by
  have : ¬ w.data.length = w.size := by omega
  simp [writeChar, this]

/-- what every successful `_write_char` preserves holds in the state where `writeAll` stops -/
theorem writeAll_ind {P : St → Prop} {n : Nat} {f : Nat → Bool}
    (step : ∀ w c w', P w → writeChar n f w c = some w' → P w') (cs : List Nat) (w : St) (h : P w) :
    P (writeAll n f w cs).1 := by
  induction cs generalizing w with
  | nil => exact h
  | cons c cs ih =>
    simp only [writeAll]
    cases hw : writeChar n f w c with
    | none => exact h
    | some w' => exact ih w' (step w c w' h hw)

/-- the writer after `k` granted growth requests, holding `d`: capacity `(k+1)·n`; block `k-1` is the buffer and the
    only live block, or — `k = 0` — the buffer is still the static one -/
def grown (n k : Nat) (d : List Nat) : St :=
  { buf := match k with
      | 0 => .static
      | k + 1 => .heap k,
    size := (k + 1) * n, data := d, allocs := k,
    live := match k with
      | 0 => []
      | k + 1 => [k] }

@[simp] theorem grown_data (n k : Nat) (d : List Nat) : (grown n k d).data = d := rfl
@[simp] theorem grown_size (n k : Nat) (d : List Nat) : (grown n k d).size = (k + 1) * n := rfl
@[simp] theorem grown_allocs (n k : Nat) (d : List Nat) : (grown n k d).allocs = k := rfl

/-- `w` is `grown n k d` within its capacity, every request made so far having been granted -/
def Reach (n : Nat) (f : Nat → Bool) (w : St) : Prop :=
  ∃ k d, w = grown n k d ∧ d.length ≤ (k + 1) * n ∧ ∀ j, j < k → f j = false

theorem reach_init (n : Nat) (f : Nat → Bool) : Reach n f (init n) :=
  ⟨0, [], by simp [grown, init], Nat.zero_le _, fun _ h => absurd h (Nat.not_lt_zero _)⟩

/-- `_write_char` on a reachable state: append, or — the buffer being full — ask for request `k` -/
theorem writeChar_grown (n : Nat) (f : Nat → Bool) (k : Nat) (d : List Nat) (c : Nat) :
    writeChar n f (grown n k d) c =
      if d.length = (k + 1) * n then (if f k then none else some (grown n (k + 1) (d ++ [c])))
      else some (grown n k (d ++ [c])) := by
  cases k <;> simp [writeChar, grown, Nat.succ_mul]

theorem reach_writeChar {n : Nat} (hn : 0 < n) {f : Nat → Bool} {w w' : St} {c : Nat} (hr : Reach n f w)
    (h : writeChar n f w c = some w') : Reach n f w' := by
  obtain ⟨k, d, rfl, hc, hg⟩ := hr
  rw [writeChar_grown] at h
  split at h
  · split at h
    · cases h
    · rename_i hf
      cases h
      refine ⟨k + 1, _, rfl, ?_, fun j hj => ?_⟩
      · rw [Nat.add_mul (k + 1) 1 n]
        simp
        omega
      · rcases Nat.lt_succ_iff_lt_or_eq.1 hj with h1 | rfl
        · exact hg j h1
        · simpa using hf
  · cases h
    refine ⟨k, _, rfl, ?_, hg⟩
    simp
    omega

theorem reach_writeAll {n : Nat} (hn : 0 < n) (f : Nat → Bool) (cs : List Nat) {w : St} (hr : Reach n f w) :
    Reach n f (writeAll n f w cs).1 :=
  writeAll_ind (fun _ _ _ hr h => reach_writeChar hn hr h) cs w hr

/-- `_release_writer` on a reachable state frees the one live block, if there is one -/
theorem release_grown (n k : Nat) (d : List Nat) :
    release (grown n k d) = { grown n k d with live := [], freed := match k with
      | 0 => []
      | k + 1 => [k] } := by
  cases k <;> simp [release, grown]

/-- the data part needs no invariant (and no positivity of the buffer size) -/
theorem writeAll_data (n : Nat) (f : Nat → Bool) (cs : List Nat) (w : St) :
    (writeAll n f w cs).2 = true → (writeAll n f w cs).1.data = w.data ++ cs := by
  induction cs generalizing w with
  | nil => simp [writeAll]
  | cons c cs ih =>
    simp only [writeAll]
    cases h : writeChar n f w c with
    | none => simp
    | some w' =>
      simp only
      intro hok
      rw [ih w' hok, writeChar_data h]; simp

/-- without faults all writes succeed -/
theorem writeAll_nofault (n : Nat) (cs : List Nat) (w : St) :
    (writeAll n (fun _ => false) w cs).2 = true := by
  induction cs generalizing w with
  | nil => simp [writeAll]
  | cons c cs ih =>
    obtain ⟨w', h⟩ := writeChar_nofault n w c
    simp only [writeAll, h]
    exact ih w'

/-- while everything fits, no allocation request is made: every field except `data` is untouched -/
theorem writeAll_room (n : Nat) (f : Nat → Bool) (cs : List Nat) (w : St)
    (h : w.data.length + cs.length ≤ w.size) :
    writeAll n f w cs = ({ w with data := w.data ++ cs }, true) := by
  induction cs generalizing w with
  | nil => simp [writeAll]
  | cons c cs ih =>
    simp only [List.length_cons] at h
    rw [writeAll, writeChar_room n f w c (by omega)]
    simp only
    rw [ih]
    · simp
    · simp; omega

theorem run_fst (n : Nat) (f : Nat → Bool) (cs : List Nat) :
    (run n f cs).1 = if (writeAll n f (init n) cs).2 then .ok (writeAll n f (init n) cs).1.data
                     else .error .memoryError := rfl

theorem run_snd (n : Nat) (f : Nat → Bool) (cs : List Nat) :
    (run n f cs).2 = release (writeAll n f (init n) cs).1 := rfl

/-- `run` without faults returns what was written, for every `n`: the property's own statements (`C05_writer`,
    `C19_writer_after_failure`) carry the hypothesis `0 < n`, which this needs not -/
theorem run_ok (n : Nat) (cs : List Nat) : (run n (fun _ => false) cs).1 = .ok cs := by
  have hok := writeAll_nofault n cs (init n)
  rw [run_fst, hok, writeAll_data n _ cs (init n) hok]
  simp [init]

theorem run_dichotomy (n : Nat) (f : Nat → Bool) (cs : List Nat) :
    (run n f cs).1 = .ok cs ∨ (run n f cs).1 = .error .memoryError := by
  rw [run_fst]
  cases hok : (writeAll n f (init n) cs).2 with
  | true => left; rw [writeAll_data n _ cs (init n) hok]; simp [init]
  | false => right; simp

/-! ### the writer on a concatenation -/

theorem writeAll_append (n : Nat) (f : Nat → Bool) (a b : List Nat) (w : St) :
    writeAll n f w (a ++ b) =
      if (writeAll n f w a).2 then writeAll n f (writeAll n f w a).1 b else writeAll n f w a := by
  induction a generalizing w with
  | nil => simp [writeAll]
  | cons c a ih =>
    cases h : Writer.writeChar n f w c with
    | none => simp [writeAll, h]
    | some w' =>
      simp only [List.cons_append, writeAll, h]
      exact ih w'

/-! ### when does the writer fail -/

/-- the state in which a failed `writeAll` stopped: buffer full, the request with index
    `allocs` refused, and strictly before the end of the output -/
theorem writeAll_fail_state (n : Nat) (f : Nat → Bool) (cs : List Nat) (w : St)
    (h : (writeAll n f w cs).2 = false) :
    (writeAll n f w cs).1.data.length = (writeAll n f w cs).1.size ∧
    f (writeAll n f w cs).1.allocs = true ∧
    (writeAll n f w cs).1.data.length < w.data.length + cs.length := by
  induction cs generalizing w with
  | nil => simp [writeAll] at h
  | cons c cs ih =>
    simp only [writeAll] at h ⊢
    cases hw : Writer.writeChar n f w c with
    | none =>
      obtain ⟨hfull, hf⟩ := writeChar_none hw
      simp only [List.length_cons]
      exact ⟨hfull, hf, by omega⟩
    | some w' =>
      rw [hw] at h
      simp only at h ⊢
      obtain ⟨h1, h2, h3⟩ := ih w' h
      refine ⟨h1, h2, ?_⟩
      have : w'.data.length = w.data.length + 1 := by rw [writeChar_data hw]; simp
      simp only [List.length_cons]; omega

theorem writeChar_allocs_mono {n : Nat} {f : Nat → Bool} {w w' : St} {c : Nat}
    (h : Writer.writeChar n f w c = some w') :
    w.allocs ≤ w'.allocs ∧ (w.data.length = w.size → w'.allocs = w.allocs + 1) := by
  rcases writeChar_some h with ⟨hne, rfl⟩ | ⟨_, _, rfl⟩
  · exact ⟨Nat.le_refl _, fun hf => absurd hf hne⟩
  · exact ⟨Nat.le_succ _, fun _ => rfl⟩

theorem writeAll_allocs_mono (n : Nat) (f : Nat → Bool) (cs : List Nat) (w : St) :
    w.allocs ≤ (writeAll n f w cs).1.allocs :=
  writeAll_ind (P := fun x => w.allocs ≤ x.allocs)
    (fun _ _ _ hle h => Nat.le_trans hle (writeChar_allocs_mono h).1) cs w (Nat.le_refl _)

/-- growth `k` (0-based) is requested when the `(k+1)·n`-th character does not fit; request 0 is the `PyMem_Malloc`,
    every later one a `PyMem_Realloc`.  The writer fails exactly when a request that the output length needs is
    refused: a failing run stops at a refused request (`writeAll_fail_state`); a run that wrote everything fits the
    capacity it stopped with, and every request below that one was granted -/
theorem writeAll_fail_iff {n : Nat} (hn : 0 < n) (f : Nat → Bool) (cs : List Nat) (w : St) (hr : Reach n f w) :
    (writeAll n f w cs).2 = false ↔
      ∃ k, w.allocs ≤ k ∧ (k + 1) * n < w.data.length + cs.length ∧ f k = true := by
  have hmono := writeAll_allocs_mono n f cs w
  obtain ⟨k', d', h', hc', hg'⟩ := reach_writeAll hn f cs hr
  constructor
  · intro hf
    obtain ⟨h1, h2, h3⟩ := writeAll_fail_state n f cs w hf
    simp only [h', grown_data, grown_size, grown_allocs] at h1 h2 h3 hmono
    exact ⟨k', hmono, h1 ▸ h3, h2⟩
  · rintro ⟨k, hk, hlt, hfk⟩
    cases hok : (writeAll n f w cs).2 with
    | false => rfl
    | true =>
      have hd : d' = w.data ++ cs := by
        rw [← writeAll_data n f cs w hok, h']
        rfl
      have hlt' : (k + 1) * n < (k' + 1) * n := by
        rw [hd] at hc'
        simp at hc'
        omega
      have hkk : k < k' := by
        rcases Nat.lt_or_ge k k' with h | h
        · exact h
        · exact absurd (Nat.mul_le_mul_right n (Nat.succ_le_succ h)) (Nat.not_le.2 hlt')
      rw [hg' k hkk] at hfk
      cases hfk

theorem run_error_iff {n : Nat} (hn : 0 < n) (f : Nat → Bool) (cs : List Nat) :
    (Writer.run n f cs).1 = .error .memoryError ↔ ∃ k, (k + 1) * n < cs.length ∧ f k = true := by
  rw [run_fst]
  have := writeAll_fail_iff hn f cs (init n) (reach_init n f)
  simp only [show (init n).allocs = 0 from rfl, show (init n).data = [] from rfl,
    List.length_nil, Nat.zero_add, Nat.zero_le, true_and] at this
  rw [← this]
  cases hb : (writeAll n f (init n) cs).2 <;> simp

theorem release_fields (w : St) :
    (release w).allocs = w.allocs ∧ (release w).data = w.data ∧ (release w).size = w.size ∧
    (release w).buf = w.buf := by
  unfold release; split <;> simp

/-! ### a run consults only the oracle answers it asks for -/

theorem writeChar_congr {n : Nat} {f g : Nat → Bool} {w : St} (c : Nat)
    (h : w.data.length = w.size → f w.allocs = g w.allocs) :
    Writer.writeChar n g w c = Writer.writeChar n f w c := by
  unfold Writer.writeChar
  split
  · rename_i hfull; simp only [h hfull]
  · rfl

/-- requests made by `writeAll`: the granted ones plus the refused one, if any -/
def used (n : Nat) (f : Nat → Bool) (w : St) (cs : List Nat) : Nat :=
  (writeAll n f w cs).1.allocs + (if (writeAll n f w cs).2 then 0 else 1)

theorem writeAll_congr (n : Nat) (f g : Nat → Bool) (cs : List Nat) (w : St)
    (h : ∀ i, w.allocs ≤ i → i < used n f w cs → f i = g i) :
    writeAll n g w cs = writeAll n f w cs := by
  induction cs generalizing w with
  | nil => rfl
  | cons c cs ih =>
    cases hw : Writer.writeChar n f w c with
    | none =>
      have hu : used n f w (c :: cs) = w.allocs + 1 := by simp [used, writeAll, hw]
      have hg : Writer.writeChar n g w c = none := by
        rw [writeChar_congr c (fun _ => h w.allocs (Nat.le_refl _) (by omega)), hw]
      simp only [writeAll, hw, hg]
    | some w' =>
      have hu : used n f w (c :: cs) = used n f w' cs := by simp [used, writeAll, hw]
      have hmono := writeChar_allocs_mono hw
      have hfin := writeAll_allocs_mono n f cs w'
      have hg : Writer.writeChar n g w c = some w' := by
        rw [writeChar_congr c (fun hfull => h w.allocs (Nat.le_refl _) (by
          rw [hu]; unfold used; have := hmono.2 hfull; omega)), hw]
      simp only [writeAll, hw, hg]
      exact ih w' (fun i hi hlt => h i (by omega) (by rw [hu]; exact hlt))

theorem run_congr (n : Nat) (f g : Nat → Bool) (cs : List Nat)
    (h : ∀ i, i < used n f (init n) cs → f i = g i) : Writer.run n g cs = Writer.run n f cs := by
  have := writeAll_congr n f g cs (init n) (fun i _ hi => h i hi)
  unfold Writer.run
  rw [this]

end Yarl.WriterLemmas

namespace Yarl.Writer
open Yarl.WriterLemmas

/-- if the output fits the static buffer, no allocation request is made and nothing is freed -/
theorem run_small_state (n : Nat) (faults : Nat → Bool) (cs : List Nat) (h : cs.length ≤ n) :
    (run n faults cs).2 = { init n with data := cs } := by
  rw [run_snd, writeAll_room n faults cs (init n) (by simpa [init] using h)]
  simp [init, release]

/-- every state `writeAll` reaches from `init` -/
theorem reach_run {n : Nat} (hn : 0 < n) (faults : Nat → Bool) (cs : List Nat) :
    Reach n faults (writeAll n faults (init n) cs).1 :=
  reach_writeAll hn faults cs (reach_init n faults)

/-- sharper form of `C19_writer_release`: what is freed is exactly the block that was live when the
    writing stopped (normally or by MemoryError) — or nothing if the buffer is still static -/
theorem run_release_exact (n : Nat) (hn : 0 < n) (faults : Nat → Bool) (cs : List Nat) :
    let w := (writeAll n faults (init n) cs).1
    (w.buf = .static ∧ w.live = [] ∧ (run n faults cs).2.freed = []) ∨
    (∃ id, w.buf = .heap id ∧ w.live = [id] ∧ id < w.allocs ∧ (run n faults cs).2.freed = [id]) := by
  obtain ⟨k, d, h, -, -⟩ := reach_run hn faults cs
  rw [run_snd]
  simp only [h, release_grown]
  cases k <;> simp [grown]

/-- `Except` has no `DecidableEq` in core; needed only for the `decide` checks below -/
local instance {ε α : Type} [DecidableEq ε] [DecidableEq α] : DecidableEq (Except ε α)
  | .ok a, .ok b => if h : a = b then isTrue (by rw [h]) else isFalse (by intro h'; cases h'; exact h rfl)
  | .error a, .error b => if h : a = b then isTrue (by rw [h]) else isFalse (by intro h'; cases h'; exact h rfl)
  | .ok _, .error _ => isFalse (by intro h; cases h)
  | .error _, .ok _ => isFalse (by intro h; cases h)

-- n = 2, five bytes, the second allocation request (the realloc) fails:
-- MemoryError, nothing live, block 0 freed once
example : (run 2 (fun k => k == 1) [10, 20, 30, 40, 50]).1 = .error .memoryError := by decide +kernel
example : (run 2 (fun k => k == 1) [10, 20, 30, 40, 50]).2.live = [] ∧
          (run 2 (fun k => k == 1) [10, 20, 30, 40, 50]).2.freed = [0] ∧
          (run 2 (fun k => k == 1) [10, 20, 30, 40, 50]).2.staticFreed = false := by decide +kernel
-- same input without faults: two growth steps (malloc, realloc), only the last block is freed
example : (run 2 (fun _ => false) [10, 20, 30, 40, 50]).1 = .ok [10, 20, 30, 40, 50] ∧
          (run 2 (fun _ => false) [10, 20, 30, 40, 50]).2.live = [] ∧
          (run 2 (fun _ => false) [10, 20, 30, 40, 50]).2.freed = [1] ∧
          (run 2 (fun _ => false) [10, 20, 30, 40, 50]).2.allocs = 2 := by decide +kernel
-- the very first allocation fails: the buffer is still static, nothing is freed
example : (run 2 (fun _ => true) [10, 20, 30]).1 = .error .memoryError ∧
          (run 2 (fun _ => true) [10, 20, 30]).2.freed = [] ∧
          (run 2 (fun _ => true) [10, 20, 30]).2.buf = .static := by decide +kernel
-- fits the static buffer: faults are irrelevant
example : (run 2 (fun _ => true) [10, 20]).1 = .ok [10, 20] := by decide +kernel

end Yarl.Writer
