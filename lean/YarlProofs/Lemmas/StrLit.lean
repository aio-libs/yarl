/-
  StrLit.lean — string literals in concrete instances.

  `"abc".toStr` is `("abc".toList).map Char.toNat`, and `String.toList` decodes the UTF-8 bytes of its
  argument.  Evaluated on a literal, in the kernel, that is quadratic in the length of the literal (an 80-character URL
  costs about a second), and it is paid again by every instance that mentions the literal.  A literal IS
  `String.ofList [c₁, …, cₙ]`, though: `rw` and the kernel both unfold it to that form in linear time, and on that
  form `toStr` is `List.map Char.toNat` by a theorem, not by evaluation.
-/
import YarlModel.Str

theorem String.toStr_ofList (l : List Char) : (String.ofList l).toStr = l.map Char.toNat := by
  simp [String.toStr]

/-- Spells every `"…".toStr` of the goal as the list of its characters (`String.toStr_ofList`).  Literals hidden in
    a definition have to be brought into the goal first (`simp only [thatDef]`).  Used in front of `decide +kernel`. -/
macro "str_lits" : tactic => `(tactic| repeat rw [String.toStr_ofList])
