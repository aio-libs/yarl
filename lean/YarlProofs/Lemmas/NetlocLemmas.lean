/-
  NetlocLemmas.lean — `split_netloc` in two stages (`userSplit`, then `finish` on `hostPort` of the text after the
  last '@') with the equations through which the proofs use them: `finish_eq` (everything but the port is read off
  the text; the call fails exactly when the port text is no port, `C07_portOf`), `splitNetloc_ok_iff`,
  `hostPort_noBracket` / `hostPort_bracketed`, `portOf_natToStr` (a written port reads back).  `make_netloc` in
  closed form: `makeNetloc_eq` / `makeNetloc_prefix` (userinfo prefix, then `hostPortStr`), `makeNetloc_encode`
  (encoding is quoting the pieces first), `netlocForms_eq`, `makeNetloc_shape`.  A host text that `hostPort` reads back, written by
  `make_netloc` with any userinfo and a port in range, is split again into what was written (`roundtrip_written`,
  `netloc_roundtrip`); on a URL this is `net_written` (`net_written_bracket`, `net_std` and the `_std` accessors for
  the host text `bracket h`).  The last section evaluates the round trip on closed inputs: some on which every
  hypothesis holds, and a counterexample for each hypothesis dropped.
-/
import YarlModel
import YarlProofs.Lemmas.ParseLemmas
import YarlProofs.Lemmas.Basics
import YarlProofs.Lemmas.Decimal
namespace Yarl

/-- an encoded user as the quoter leaves it: non-empty and without ':' -/
def UserOK (u : Option Str) : Prop := ∀ s, u = some s → s ≠ [] ∧ 58 ∉ s

/-- a stored host: non-empty, no '@', no '[' / ']' (an IPv6-style host contains ':'
    and is bracketed when written) -/
def HostOK (h : Str) : Prop := h ≠ [] ∧ 64 ∉ h ∧ 91 ∉ h ∧ 93 ∉ h

def bracket (h : Str) : Str := if mem 58 h then [91] ++ h ++ [93] else h

/-- what `raw_host` reads of a written host text: `encode_url` strips the brackets of an IP-literal before it caches -/
def unbracket (eh : Str) : Str := if mem 91 eh then (eh.drop 1).dropLast else eh

instance (u : Option Str) : Decidable (UserOK u) := by
  unfold UserOK
  cases u with
  | none => exact isTrue (by intro s h; cases h)
  | some s =>
    exact decidable_of_iff (s ≠ [] ∧ 58 ∉ s)
      ⟨fun h t ht => by cases ht; exact h, fun h => h s rfl⟩
instance (h : Str) : Decidable (HostOK h) := by unfold HostOK; infer_instance

/-- the port text read as a port: empty = no port, otherwise Python `int(text)`, which must lie in 0..65535 -/
def C07_portOf (o : Oracles) (t : Str) : R (Option Nat) :=
  if t.isEmpty then .ok none
  else match pyInt o t with
    | .ok (some p) => if 0 ≤ p ∧ p ≤ 65535 then .ok (some p.toNat) else .error .valueError
    | .ok none => .error .valueError
    | .error err => .error err

/-- the `user[:password]@` prefix that `make_netloc` writes -/
def FixLemmas.userPrefix (user pw : Option Str) : Str :=
  match user, pw with
  | none, none => []
  | _, some w => user.getD [] ++ 58 :: w ++ [64]
  | some u, none => if u.isEmpty then [] else u ++ [64]

/-- the user text `make_netloc(…, encode=True)` writes: nothing for `None` and for "" -/
def BuildMore.encUser (qf : Str → Str) (u : Option Str) : Option Str :=
  u.bind (fun s => if s.isEmpty then none else some (qf s))

namespace NetlocLemmas

/-! ### `unbracket` on the forms of a written host text -/

theorem _root_.Yarl.unbracket_of_no91 {r : Str} (h : 91 ∉ r) : unbracket r = r := by
  unfold unbracket
  rw [mem_false_iff.mpr h]
  rfl

theorem _root_.Yarl.unbracket_of_head {r : Str} (h : r.head? = some 91) : unbracket r = (r.drop 1).dropLast := by
  cases r with
  | nil => cases h
  | cons c t =>
    cases h
    unfold unbracket
    rw [if_pos (mem_iff.mpr (by simp))]

theorem _root_.Yarl.unbracket_wrapped (x : Str) : unbracket ([91] ++ x ++ [93]) = x := by
  rw [unbracket_of_head rfl]
  simp

/-- the written form of a host text without '[' reads back -/
theorem _root_.Yarl.unbracket_bracket_of_no91 {r : Str} (h91 : 91 ∉ r) : unbracket (bracket r) = r := by
  unfold bracket
  split
  · exact unbracket_wrapped r
  · exact unbracket_of_no91 h91

theorem _root_.Yarl.unbracket_bracket (h : Str) (hh : HostOK h) : unbracket (bracket h) = h :=
  unbracket_bracket_of_no91 hh.2.2.1


/-! ### `splitNetloc` in two stages -/

/-- the host/port half of `split_netloc` -/
def hostPort (hostinfo : Str) : Str × Str :=
  if mem 91 hostinfo then
    let bracketed := (partition 91 hostinfo).2.2
    let (hostname, _, afterB) := partition 93 bracketed
    (hostname, (partition 58 afterB).2.2)
  else
    let (hostname, _, p) := partition 58 hostinfo
    (hostname, p)

/-- the userinfo half of `split_netloc` -/
def userSplit (netloc : Str) : Option Str × Option Str × Str :=
  if !mem 64 netloc then ((none : Option Str), (none : Option Str), netloc)
  else
    let (userinfo, _, hostinfo) := rpartition 64 netloc
    let (u, havePw, pw) := partition 58 userinfo
    (some u, if havePw then some pw else none, hostinfo)

/-- everything after the userinfo split -/
def finish (o : Oracles) (username password : Option Str) (hostinfo : Str) : R NetlocParts := do
  let (hostname, portStr) := hostPort hostinfo
  let user := username.bind orNone
  if portStr.isEmpty then
    pure { user := user, password := password, host := orNone hostname, port := none }
  else
    match ← pyInt o portStr with
    | none => .error .valueError
    | some p =>
      if 0 ≤ p ∧ p ≤ 65535 then
        pure { user := user, password := password, host := orNone hostname, port := some p.toNat }
      else .error .valueError

theorem splitNetloc_eq (o : Oracles) (netloc : Str) :
    splitNetloc o netloc =
      finish o (userSplit netloc).1 (userSplit netloc).2.1 (userSplit netloc).2.2 := by
  rfl

/-- everything but the port is read off the text; the call fails exactly when the port text is no port -/
theorem finish_eq (o : Oracles) (U P : Option Str) (hi : Str) :
    finish o U P hi = (C07_portOf o (hostPort hi).2).map fun pt =>
      { user := U.bind orNone, password := P, host := orNone (hostPort hi).1, port := pt } := by
  unfold finish C07_portOf
  simp only
  split
  · rfl
  · cases pyInt o (hostPort hi).2 with
    | error err => rfl
    | ok v =>
      cases v with
      | none => rfl
      | some p =>
        simp only [bind, Except.bind]
        split
        · rfl
        · rfl

theorem portOf_ok_iff {o : Oracles} {t : Str} {pt : Option Nat} :
    C07_portOf o t = .ok pt ↔ (t = [] ∧ pt = none) ∨
      (t ≠ [] ∧ ∃ p : Int, pyInt o t = .ok (some p) ∧ 0 ≤ p ∧ p ≤ 65535 ∧ pt = some p.toNat) := by
  unfold C07_portOf
  cases t with
  | nil => simp [eq_comm]
  | cons c r =>
    simp only [List.isEmpty_cons, Bool.false_eq_true, ↓reduceIte, reduceCtorEq, false_and, false_or, ne_eq,
      not_false_eq_true, true_and]
    cases pyInt o (c :: r) with
    | error err => simp
    | ok v =>
      cases v with
      | none => simp
      | some p =>
        by_cases hr : 0 ≤ p ∧ p ≤ 65535
        · simp [hr, eq_comm]
        · simp only [hr, ↓reduceIte, reduceCtorEq, Except.ok.injEq, Option.some.injEq, false_iff, not_exists, not_and]
          intro q hq
          cases hq
          intro h1 h2
          exact absurd ⟨h1, h2⟩ hr

theorem portOf_total (o : Oracles) (t : Str) :
    (∃ pt, C07_portOf o t = .ok pt) ∨ C07_portOf o t = .error .valueError ∨
      ∃ f a, C07_portOf o t = .error (.oracleMiss f a) := by
  unfold C07_portOf
  split
  · exact Or.inl ⟨_, rfl⟩
  · rcases ParseLemmas.pyInt_cases o t with ⟨v, hv⟩ | ⟨f, a, hv⟩
    · rw [hv]
      cases v with
      | none => exact Or.inr (Or.inl rfl)
      | some p =>
        simp only
        split
        · exact Or.inl ⟨_, rfl⟩
        · exact Or.inr (Or.inl rfl)
    · rw [hv]
      exact Or.inr (Or.inr ⟨f, a, rfl⟩)

theorem portOf_natToStr (o : Oracles) {p : Nat} (hp : p ≤ 65535) : C07_portOf o (natToStr p) = .ok (some p) := by
  have hne : (natToStr p).isEmpty = false := isEmpty_false (Decimal.natToStr_digits p).1
  unfold C07_portOf pyInt
  rw [hne, Decimal.isAscii_natToStr, natToStr_roundtrip]
  have hr : (0 : Int) ≤ Int.ofNat p ∧ Int.ofNat p ≤ 65535 := ⟨Int.natCast_nonneg p, Int.ofNat_le.mpr hp⟩
  simp only [hr, and_self, ↓reduceIte]
  rfl

/-- a successful `split_netloc`, read off -/
theorem splitNetloc_ok_iff {o : Oracles} {n : Str} {r : NetlocParts} :
    splitNetloc o n = .ok r ↔ ∃ pt, C07_portOf o (hostPort (userSplit n).2.2).2 = .ok pt ∧
      r = { user := (userSplit n).1.bind orNone, password := (userSplit n).2.1,
            host := orNone (hostPort (userSplit n).2.2).1, port := pt } := by
  rw [splitNetloc_eq, finish_eq]
  cases C07_portOf o (hostPort (userSplit n).2.2).2 with
  | error err => simp [Except.map]
  | ok pt => simp [Except.map, eq_comm]

/-- whatever `split_netloc` accepts has a port in range -/
theorem splitNetloc_port_range (o : Oracles) (n : Str) (np : NetlocParts) (p : Nat)
    (h : splitNetloc o n = .ok np) (hp : np.port = some p) : p ≤ 65535 := by
  obtain ⟨pt, hpt, rfl⟩ := splitNetloc_ok_iff.1 h
  rcases portOf_ok_iff.1 hpt with ⟨_, rfl⟩ | ⟨_, q, _, _, _, rfl⟩
  · cases hp
  · cases hp
    omega

theorem userSplit_noAt (n : Str) (h : 64 ∉ n) : userSplit n = (none, none, n) := by
  unfold userSplit; simp [mem_false_iff.mpr h]

theorem userSplit_at (ui hi : Str) (h : 64 ∉ hi) :
    userSplit (ui ++ 64 :: hi) =
      (some (partition 58 ui).1,
       if (partition 58 ui).2.1 then some (partition 58 ui).2.2 else none, hi) := by
  have hm : mem 64 (ui ++ 64 :: hi) = true := mem_iff.mpr (by simp)
  unfold userSplit
  simp [hm, rpartition_found 64 ui hi h]

/-- without '[': host and port text are the two sides of the first ':' -/
theorem hostPort_noBracket {hi : Str} (h91 : 91 ∉ hi) :
    hostPort hi = ((partition 58 hi).1, (partition 58 hi).2.2) := by
  unfold hostPort
  rw [mem_false_iff.mpr h91]
  rfl

/-- with '[': whatever precedes the first '[', and whatever stands between the closing ']' and the next ':', is
    dropped -/
theorem hostPort_bracketed {a h : Str} (rest : Str) (ha : 91 ∉ a) (hh : 93 ∉ h) :
    hostPort (a ++ 91 :: (h ++ 93 :: rest)) = (h, (partition 58 rest).2.2) := by
  unfold hostPort
  rw [mem_iff.mpr (by simp), if_pos rfl, partition_found 91 a _ ha]
  simp only [partition_found 93 h rest hh]

theorem hostPort_plain (h : Str) (h91 : 91 ∉ h) (h93 : 93 ∉ h) : hostPort (bracket h) = (h, []) := by
  unfold bracket
  split
  · exact hostPort_bracketed (a := []) [] (by simp) h93
  · rename_i h58
    rw [hostPort_noBracket h91, partition_notFound 58 h (mem_false_iff.mp (by simpa using h58))]

theorem hostPort_port (h ds : Str) (h91 : 91 ∉ h) (h93 : 93 ∉ h) (d91 : 91 ∉ ds) :
    hostPort (bracket h ++ [58] ++ ds) = (h, ds) := by
  unfold bracket
  split
  · have := hostPort_bracketed (a := []) (58 :: ds) (by simp) h93
    simpa [partition] using this
  · rename_i h58
    have : 91 ∉ h ++ [58] ++ ds := by simp [h91, d91]
    rw [hostPort_noBracket this, List.append_assoc, List.singleton_append,
      partition_found 58 h ds (mem_false_iff.mp (by simpa using h58))]

/-- the shortcut of `encode_url` for an authority without ':', '@', '[' -/
theorem splitNetloc_noDelims (o : Oracles) {n : Str} (hne : n ≠ []) (h58 : 58 ∉ n) (h64 : 64 ∉ n) (h91 : 91 ∉ n) :
    splitNetloc o n = .ok { user := none, password := none, host := some n, port := none } := by
  rw [splitNetloc_eq, finish_eq, userSplit_noAt n h64, hostPort_noBracket h91, partition_notFound 58 n h58,
    orNone_of_ne_nil hne]
  rfl

/-- `host ++ (":" ++ port)?` as `make_netloc` writes it -/
def hostPortStr (hb : Str) (port : Option Nat) : Str :=
  match port with
  | some p => hb ++ [58] ++ natToStr p
  | none => hb

/-- a host text `w` that `hostPort` reads back as `h`, alone and in front of a port: written with a port in range,
    `finish` returns what was written -/
theorem finish_written (o : Oracles) (U P : Option Str) {w h : Str} (port : Option Nat)
    (hplain : hostPort w = (h, [])) (hport : ∀ ds, 91 ∉ ds → hostPort (w ++ [58] ++ ds) = (h, ds))
    (hp : ∀ p, port = some p → p ≤ 65535) :
    finish o U P (hostPortStr w port) =
      .ok { user := U.bind orNone, password := P, host := orNone h, port := port } := by
  rw [finish_eq]
  cases port with
  | none =>
    rw [hostPortStr, hplain]
    rfl
  | some p =>
    rw [hostPortStr, hport _ (Decimal.notMem_digits (Decimal.natToStr_digits p).2 91 (by omega)), portOf_natToStr o (hp p rfl)]
    rfl

theorem finish_hostPortStr (o : Oracles) (U P : Option Str) (h : Str) (port : Option Nat)
    (h91 : 91 ∉ h) (h93 : 93 ∉ h) (hp : ∀ p, port = some p → p ≤ 65535) :
    finish o U P (hostPortStr (bracket h) port) =
      .ok { user := U.bind orNone, password := P, host := orNone h, port := port } :=
  finish_written o U P port (hostPort_plain h h91 h93) (fun ds => hostPort_port h ds h91 h93) hp

theorem notMem_bracket {h : Str} {c : Nat} (hc : c ∉ h) (h1 : c ≠ 91) (h2 : c ≠ 93) : c ∉ bracket h := by
  unfold bracket; split <;> simp [hc, h1, h2]

theorem notMem_hostPortStr_of {w : Str} (port : Option Nat) (h64 : 64 ∉ w) : 64 ∉ hostPortStr w port := by
  cases port with
  | none => simpa [hostPortStr] using h64
  | some p =>
    have := Decimal.notMem_digits (Decimal.natToStr_digits p).2 64 (by omega)
    simp only [hostPortStr, List.mem_append, not_or]
    exact ⟨⟨h64, by simp⟩, this⟩

theorem notMem_hostPortStr {h : Str} (port : Option Nat) (h64 : 64 ∉ h) :
    64 ∉ hostPortStr (bracket h) port :=
  notMem_hostPortStr_of port (notMem_bracket h64 (by decide) (by decide))

/-- `make_netloc` without encoding, as a concatenation -/
theorem makeNetloc_eq (qf : Str → Str) (user pw : Option Str) (hb : Str) (port : Option Nat) :
    makeNetloc qf user pw (some hb) port false =
      match user, pw with
      | none, none => hostPortStr hb port
      | _, some pw => user.getD [] ++ 58 :: pw ++ 64 :: hostPortStr hb port
      | some u, none => if u.isEmpty then hostPortStr hb port else u ++ 64 :: hostPortStr hb port := by
  unfold makeNetloc hostPortStr
  cases user with
  | none => cases pw <;> cases port <;> simp
  | some u =>
    cases pw with
    | none => cases port <;> simp
    | some w =>
      cases port <;> cases u <;> simp

/-- `make_netloc` without encoding writes the userinfo prefix, then `host[:port]` -/
theorem makeNetloc_prefix (qf : Str → Str) (user pw : Option Str) (hb : Str) (port : Option Nat) :
    makeNetloc qf user pw (some hb) port false = FixLemmas.userPrefix user pw ++ hostPortStr hb port := by
  rw [makeNetloc_eq]
  unfold FixLemmas.userPrefix
  cases user with
  | none => cases pw <;> simp
  | some u =>
    cases pw with
    | none => simp only; split <;> simp
    | some w => simp

/-- without `encode` the quoter argument of `make_netloc` is irrelevant -/
theorem makeNetloc_qf (qf qf' : Str → Str) (user pw host : Option Str) (port : Option Nat) :
    makeNetloc qf user pw host port false = makeNetloc qf' user pw host port false := by
  cases host with
  | none => rfl
  | some hb => rw [makeNetloc_eq, makeNetloc_eq]

/-- the two splits of `split_netloc` on a text `make_netloc` wrote: the password reads back exactly, the user up to
    "an empty user is no user", the rest is `host[:port]` -/
theorem userSplit_makeNetloc (U P : Option Str) (hb : Str) (port : Option Nat)
    (hU : ∀ x, U = some x → 58 ∉ x) (h64 : 64 ∉ hb) :
    ∃ U', userSplit (makeNetloc id U P (some hb) port false) = (U', P, hostPortStr hb port) ∧
      U'.bind orNone = U.bind orNone ∧ (∀ x, U' = some x → x = [] ∨ U = some x) := by
  have hret := notMem_hostPortStr_of port h64
  rw [makeNetloc_eq]
  cases U with
  | none =>
    cases P with
    | none =>
      exact ⟨none, userSplit_noAt _ hret, rfl, nofun⟩
    | some w =>
      have e1 : (none : Option Str).getD [] ++ 58 :: w ++ 64 :: hostPortStr hb port
          = (58 :: w) ++ 64 :: hostPortStr hb port := by simp
      simp only [e1, userSplit_at _ _ hret]
      exact ⟨some [], by simp [partition], rfl, fun x hx => (by simp at hx; exact Or.inl hx)⟩
  | some u =>
    have h58 := hU u rfl
    cases P with
    | none =>
      simp only
      split
      · rename_i hemp
        refine ⟨none, userSplit_noAt _ hret, ?_, nofun⟩
        rw [List.isEmpty_iff.mp hemp]
        rfl
      · rw [userSplit_at u _ hret]
        simp only [partition_notFound 58 u h58]
        exact ⟨some u, by simp, rfl, fun x hx => Or.inr hx⟩
    | some w =>
      have e1 : (some u).getD [] ++ 58 :: w ++ 64 :: hostPortStr hb port
          = (u ++ 58 :: w) ++ 64 :: hostPortStr hb port := by simp
      simp only [e1, userSplit_at _ _ hret, partition_found 58 u w h58]
      exact ⟨some u, by simp, rfl, fun x hx => Or.inr hx⟩

/-- `split_netloc (make_netloc …)`: the userinfo half always reads back; what is left is the host/port half -/
theorem splitNetloc_written (o : Oracles) (qf : Str → Str) (user pw : Option Str) (w : Str) (port : Option Nat)
    (hu : UserOK user) (h64 : 64 ∉ w) :
    ∃ U : Option Str, U.bind orNone = user ∧
      splitNetloc o (makeNetloc qf user pw (some w) port false) = finish o U pw (hostPortStr w port) := by
  obtain ⟨U, hs, hb, _⟩ := userSplit_makeNetloc user pw w port (fun x hx => (hu x hx).2) h64
  refine ⟨U, ?_, ?_⟩
  · rw [hb]
    cases user with
    | none => rfl
    | some u => exact orNone_of_ne_nil (hu u rfl).1
  · rw [makeNetloc_qf qf id, splitNetloc_eq, hs]

/-- the round trip `split_netloc (make_netloc …)` around any written host text that reads back -/
theorem roundtrip_written (o : Oracles) (qf : Str → Str) (user pw : Option Str) {w h : Str} (port : Option Nat)
    (hu : UserOK user) (h64 : 64 ∉ w) (hplain : hostPort w = (h, []))
    (hport : ∀ ds, 91 ∉ ds → hostPort (w ++ [58] ++ ds) = (h, ds)) (hp : ∀ p, port = some p → p ≤ 65535) :
    splitNetloc o (makeNetloc qf user pw (some w) port false) =
      .ok { user := user, password := pw, host := orNone h, port := port } := by
  obtain ⟨U, hU, hsp⟩ := splitNetloc_written o qf user pw w port hu h64
  rw [hsp, finish_written o U pw port hplain hport hp, hU]

/-- `make_netloc(…, encode=True)` is `make_netloc(…, encode=False)` of the quoted pieces -/
theorem makeNetloc_encode (qf : Str → Str) (U P : Option Str) (hb : Str) (port : Option Nat) :
    makeNetloc qf U P (some hb) port true =
      makeNetloc qf (BuildMore.encUser qf U) (P.map qf) (some hb) port false := by
  unfold makeNetloc BuildMore.encUser
  cases U with
  | none => cases P <;> rfl
  | some u =>
    cases u with
    | nil => cases P <;> rfl
    | cons c r =>
      cases P with
      | none => simp
      | some w =>
        cases hq : qf (c :: r) <;> simp [hq]

/-- `build` and `encode_url` write the authority in two ways — `host[:port]` directly when there is neither user nor
    password, through `make_netloc` otherwise — and they are one: `make_netloc(None, None, host, port)` IS `host[:port]` -/
theorem netlocForms_eq (qf : Str → Str) (U P : Option Str) (w : Str) (port : Option Nat) (enc : Bool) :
    (if (U.isNone && P.isNone) = true then
        (pure (match port with | none => w | some p => w ++ [58] ++ natToStr p) : R Str)
      else pure (makeNetloc qf U P (some w) port enc)) = pure (makeNetloc qf U P (some w) port enc) := by
  cases U <;> cases P <;> cases port <;> rfl

/-- `make_netloc` (with or without encoding) writes `[userinfo "@"] host [":" port]` -/
theorem makeNetloc_shape (qf : Str → Str) (user pw : Option Str) (hb : Str) (port : Option Nat) (enc : Bool) :
    makeNetloc qf user pw (some hb) port enc = hostPortStr hb port ∨
    ∃ X, makeNetloc qf user pw (some hb) port enc = X ++ 64 :: hostPortStr hb port := by
  -- the port only matters through the written `host[:port]`
  have e : makeNetloc qf user pw (some hb) port enc = makeNetloc qf user pw (some (hostPortStr hb port)) none enc := by
    cases port <;> rfl
  rw [e]
  generalize hostPortStr hb port = ret
  unfold makeNetloc
  cases user with
  | none =>
    cases pw with
    | none => left; rfl
    | some w => right; exact ⟨58 :: (if enc then qf w else w), by simp⟩
  | some u =>
    cases pw with
    | none =>
      simp only
      generalize (if (!u.isEmpty && enc) = true then qf u else u) = u'
      split
      · left; rfl
      · right; exact ⟨u', by simp⟩
    | some w =>
      right
      exact ⟨(if u.isEmpty then [] else if enc then qf u else u) ++ 58 :: (if enc then qf w else w), by simp⟩

/-- host and port read back whatever the userinfo is, encoded or not: it ends in front of the last '@' -/
theorem splitNetloc_written_any (o : Oracles) (qf : Str → Str) (U P : Option Str) {w h : Str} (port : Option Nat)
    (enc : Bool) (h64 : 64 ∉ w) (hplain : hostPort w = (h, []))
    (hport : ∀ ds, 91 ∉ ds → hostPort (w ++ [58] ++ ds) = (h, ds)) (hp : ∀ p, port = some p → p ≤ 65535) :
    ∃ np, splitNetloc o (makeNetloc qf U P (some w) port enc) = .ok np ∧ np.port = port ∧ np.host = orNone h := by
  have hret := notMem_hostPortStr_of port h64
  rcases makeNetloc_shape qf U P w port enc with e | ⟨X, e⟩
  · rw [e, splitNetloc_eq, userSplit_noAt _ hret, finish_written o _ _ port hplain hport hp]
    exact ⟨_, rfl, rfl, rfl⟩
  · rw [e, splitNetloc_eq, userSplit_at X _ hret, finish_written o _ _ port hplain hport hp]
    exact ⟨_, rfl, rfl, rfl⟩

theorem bracket_ne_nil {h : Str} (hne : h ≠ []) : bracket h ≠ [] := by
  unfold bracket; split
  · simp
  · exact hne

theorem hostPortStr_ne_nil {hb : Str} (hne : hb ≠ []) (port : Option Nat) : hostPortStr hb port ≠ [] := by
  cases port <;> simp [hostPortStr, hne]

theorem makeNetloc_ne_nil (qf : Str → Str) (user pw : Option Str) {h : Str} (hne : h ≠ []) (port : Option Nat) :
    makeNetloc qf user pw (some (bracket h)) port false ≠ [] := by
  have hr := hostPortStr_ne_nil (bracket_ne_nil hne) port
  rw [makeNetloc_eq]
  cases user with
  | none => cases pw <;> simp [hr]
  | some u =>
    cases pw with
    | none => simp only; split <;> simp [hr]
    | some w => simp

/-! ### accessors of a URL whose netloc was written by `make_netloc` -/

/-- `net` of a URL whose stored authority is the text written for `(U, P, h, port)` around a host text
    `w` that reads back as `h`, the pre-filled cache — if there is one — agreeing: the four components.  Every
    predicate "the authority of `u` was written by the library" supplies these hypotheses. -/
theorem net_written {e : Env} {u : Url} {qf : Str → Str} {U P : Option Str} {w h : Str} {port : Option Nat}
    (hnl : u.netloc = makeNetloc qf U P (some w) port false) (hU : UserOK U) (h64 : 64 ∉ w)
    (hplain : hostPort w = (h, [])) (hport : ∀ ds, 91 ∉ ds → hostPort (w ++ [58] ++ ds) = (h, ds)) (hh : h ≠ [])
    (hp : ∀ p, port = some p → p ≤ 65535)
    (hpre : u.pre = none ∨
      u.pre = some { rawHost := some h, explicitPort := port, rawUser := U, rawPassword := P }) :
    net e u = .ok { rawHost := some h, explicitPort := port, rawUser := U, rawPassword := P } := by
  unfold net
  rcases hpre with hpre | hpre
  · rw [hpre]
    unfold lazyNet
    rw [hnl, roundtrip_written e.o qf U P port hU h64 hplain hport hp, orNone_of_ne_nil hh]
    rfl
  · rw [hpre]
    rfl

/-- `net_written` for `bracket h`, the host text the library itself writes -/
theorem net_written_bracket {e : Env} {u : Url} {qf : Str → Str} {U P : Option Str} {h : Str} {port : Option Nat}
    (hnl : u.netloc = makeNetloc qf U P (some (bracket h)) port false) (hU : UserOK U) (hh : HostOK h)
    (hp : ∀ p, port = some p → p ≤ 65535)
    (hpre : u.pre = none ∨
      u.pre = some { rawHost := some h, explicitPort := port, rawUser := U, rawPassword := P }) :
    net e u = .ok { rawHost := some h, explicitPort := port, rawUser := U, rawPassword := P } :=
  net_written hnl hU (notMem_bracket hh.2.1 (by decide) (by decide)) (hostPort_plain h hh.2.2.1 hh.2.2.2)
    (fun ds => hostPort_port h ds hh.2.2.1 hh.2.2.2) hh.1 hp hpre

theorem net_std (e : Env) (qf : Str → Str) (user pw : Option Str) (h : Str) (port : Option Nat)
    (scheme path query fragment : Str)
    (hu : UserOK user) (hh : HostOK h) (hp : ∀ p, port = some p → p ≤ 65535) :
    net e (fromParts scheme (makeNetloc qf user pw (some (bracket h)) port false) path query fragment) =
      .ok { rawHost := some h, explicitPort := port, rawUser := user, rawPassword := pw } :=
  net_written_bracket rfl hu hh hp (.inl rfl)

section std
variable (e : Env) (qf : Str → Str) (user pw : Option Str) (h : Str) (port : Option Nat)
  (scheme path query fragment : Str)
  (hu : UserOK user) (hh : HostOK h) (hp : ∀ p, port = some p → p ≤ 65535)
include hu hh hp

theorem rawUser_std :
    rawUser e (fromParts scheme (makeNetloc qf user pw (some (bracket h)) port false) path query fragment) = .ok user := by
  unfold rawUser; rw [net_std e qf user pw h port scheme path query fragment hu hh hp]; rfl

theorem rawPassword_std :
    rawPassword e (fromParts scheme (makeNetloc qf user pw (some (bracket h)) port false) path query fragment) = .ok pw := by
  unfold rawPassword; rw [net_std e qf user pw h port scheme path query fragment hu hh hp]; rfl

theorem rawHost_std :
    rawHost e (fromParts scheme (makeNetloc qf user pw (some (bracket h)) port false) path query fragment) = .ok (some h) := by
  unfold rawHost; rw [net_std e qf user pw h port scheme path query fragment hu hh hp]; rfl

theorem explicitPort_std :
    explicitPort e (fromParts scheme (makeNetloc qf user pw (some (bracket h)) port false) path query fragment) = .ok port := by
  unfold explicitPort; rw [net_std e qf user pw h port scheme path query fragment hu hh hp]; rfl

theorem hostSubcomponent_std :
    hostSubcomponent e (fromParts scheme (makeNetloc qf user pw (some (bracket h)) port false) path query fragment)
      = .ok (some (bracket h)) := by
  unfold hostSubcomponent; rw [rawHost_std e qf user pw h port scheme path query fragment hu hh hp]; rfl

end std

end NetlocLemmas

open NetlocLemmas

theorem netloc_roundtrip (o : Oracles) (qf : Str → Str) (user pw : Option Str) (h : Str) (port : Option Nat)
    (hu : UserOK user) (hh : HostOK h) (hp : ∀ p, port = some p → p ≤ 65535) :
    splitNetloc o (makeNetloc qf user pw (some (bracket h)) port false) =
      .ok { user := user, password := pw, host := some h, port := port } := by
  obtain ⟨hne, h64, h91, h93⟩ := hh
  rw [roundtrip_written o qf user pw port hu (notMem_bracket h64 (by decide) (by decide)) (hostPort_plain h h91 h93)
    (fun ds => hostPort_port h ds h91 h93) hp, orNone_of_ne_nil hne]

/-- a URL whose netloc has an EMPTY host ("//:80", "//u@"): the host reads back as `none`
    (the accessor layer `lazyNet` then maps it to `some []`) -/
theorem netloc_roundtrip_empty_host (o : Oracles) (qf : Str → Str) (user pw : Option Str) (port : Option Nat)
    (hu : UserOK user) (hp : ∀ p, port = some p → p ≤ 65535) :
    splitNetloc o (makeNetloc qf user pw (some []) port false) =
      .ok { user := user, password := pw, host := none, port := port } :=
  roundtrip_written (w := []) (h := []) o qf user pw port hu List.not_mem_nil
    (hostPort_plain [] List.not_mem_nil List.not_mem_nil)
    (fun ds => hostPort_port [] ds List.not_mem_nil List.not_mem_nil) hp

/-! ### non-vacuity and necessity of the hypotheses -/

section checks
attribute [local instance] ParseLemmas.decEqResult

-- the hypotheses hold for non-trivial inputs: '@' in user and password, ':' in the password, IPv6 host
example : UserOK (some "us@er".toStr) ∧ UserOK none ∧ HostOK "::1".toStr ∧ HostOK "example.com".toStr := by
  decide +kernel
example : makeNetloc id (some "us@er".toStr) (some "p:w@".toStr) (some (bracket "::1".toStr)) (some 8080) false
    = "us@er:p:w@@[::1]:8080".toStr := by str_lits; decide +kernel
example : splitNetloc Oracles.empty "us@er:p:w@@[::1]:8080".toStr =
    .ok { user := some "us@er".toStr, password := some "p:w@".toStr, host := some "::1".toStr, port := some 8080 } := by
  str_lits; decide +kernel
example : splitNetloc Oracles.empty (makeNetloc id none (some "x".toStr) (some (bracket "h".toStr)) (some 0) false) =
    .ok { user := none, password := some "x".toStr, host := some "h".toStr, port := some 0 } := by
  decide +kernel
-- each hypothesis is needed
example : ¬ UserOK (some []) ∧ ¬ UserOK (some "a:b".toStr) ∧ ¬ HostOK [] ∧ ¬ HostOK "a@b".toStr ∧
    ¬ HostOK "a[b".toStr ∧ ¬ HostOK "a:]b".toStr := by decide +kernel
/-- `user = some ""` reads back as `none` -/
example : splitNetloc Oracles.empty (makeNetloc id (some []) (some "x".toStr) (some (bracket "h".toStr)) none false) =
    .ok { user := none, password := some "x".toStr, host := some "h".toStr, port := none } := by
  decide +kernel
/-- a ':' in the user moves the split -/
example : splitNetloc Oracles.empty (makeNetloc id (some "a:b".toStr) none (some (bracket "h".toStr)) none false) =
    .ok { user := some "a".toStr, password := some "b".toStr, host := some "h".toStr, port := none } := by
  decide +kernel
/-- an '@' in the host moves the split -/
example : splitNetloc Oracles.empty (makeNetloc id (some "u".toStr) none (some (bracket "a@b".toStr)) none false) =
    .ok { user := some "u@a".toStr, password := none, host := some "b".toStr, port := none } := by
  decide +kernel
/-- '[' in an un-bracketed host -/
example : splitNetloc Oracles.empty (makeNetloc id none none (some (bracket "a[b".toStr)) none false) =
    .ok { user := none, password := none, host := some "b".toStr, port := none } := by decide +kernel
/-- ']' in a bracketed host -/
example : splitNetloc Oracles.empty (makeNetloc id none none (some (bracket "a:]b".toStr)) none false) =
    .ok { user := none, password := none, host := some "a:".toStr, port := none } := by decide +kernel
/-- a port above 65535 is written but rejected when read -/
example : splitNetloc Oracles.empty (makeNetloc id none none (some (bracket "h".toStr)) (some 65536) false) =
    .error .valueError := by decide +kernel
/-- empty host: "//u@:80" -/
example : splitNetloc Oracles.empty (makeNetloc id (some "u".toStr) none (some []) (some 80) false) =
    .ok { user := some "u".toStr, password := none, host := none, port := some 80 } := by decide +kernel
end checks

end Yarl
