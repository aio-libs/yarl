/-
  FixLemmas.lean — helper lemmas for C04 (already-canonical URLs are left
  untouched) and C03 (the canonical string is a fixed point of parsing).

  Part 1: canonical component texts — their characters (`Canon t s`), the generated requoters on canonical text,
          compatibility of quoter / requoter pairs.
  Part 2: composing a URL string and reading it back (Appendix B).
  Part 3: `encodeUrl` in stages (parse, authority block, components).  The stages `netBlock` / `finishUrl` are
          `EagerLemmas.authBlock` / `finishUrl` with the scheme and the authority as arguments and the component
          encoders named (`netBlock_authBlock`, `finishUrl_eq`, by `rfl`); the authority block is read backwards and
          forwards by `netBlock_ok` / `netBlock_of`.  The component conditions `CompOK`; `unsplit_result` in closed
          form (`unsplit_closed`); `str` as `unsplit_result` (`str_unsplit`).
  Part 4: the plain lower-case host (`HostBasic`), dot segments, the Boolean checker `isCanon`.
  Part 5: what `encode_url` stores — canonical, rooted components; the authority block without ':'; `strPathOf`.
  Part 6: the authority as `make_netloc` writes it, `[user[:password]@]W[:port]` around any written host `W` (`authW`:
          its text, its characters, the bracket check, the authority block on it — `netBlock_authW`); `authText` is
          `W = bracket h`: the authority block returns it unchanged (`netBlock_authority`); `NetFix`; plain, IPv4
          and IPv6 hosts.
  Part 7: the identity for any authority the block stores unchanged (`NetFix`): canonical parts are well-formed for
          `C07_split_unsplit` (`partsOK_build`), the constructor gives them back (`encode_unsplit`), `identity_netFix` /
          `identity_auth`; `identity_core` and `identity_authority` are the composed-string forms.
-/
import YarlModel
import YarlProofs.Lemmas.Canon
import YarlProofs.Lemmas.SegLang
import YarlProofs.Lemmas.GenTabs
import YarlProofs.C12Readback
import YarlProofs.C15
import YarlProofs.C07
import YarlProofs.C07Recompose
import YarlProofs.Lemmas.DecLemmas
import YarlProofs.C16
import YarlProofs.Lemmas.NetlocLemmas
import YarlProofs.Lemmas.EagerLemmas
import YarlProofs.Lemmas.EntryLemmas
import YarlProofs.C17
import YarlProofs.C11
import YarlProofs.Lemmas.Basics
namespace Yarl
namespace FixLemmas
open OutLangLemmas ParseLemmas HostLemmas

/-- decidable equality of results, for closed examples -/
instance exceptDecEq {ε α : Type} [DecidableEq ε] [DecidableEq α] : DecidableEq (Except ε α)
  | .ok a, .ok b => if h : a = b then isTrue (by rw [h]) else isFalse (fun e => h (by cases e; rfl))
  | .error a, .error b => if h : a = b then isTrue (by rw [h]) else isFalse (fun e => h (by cases e; rfl))
  | .ok _, .error _ => isFalse (fun e => by cases e)
  | .error _, .ok _ => isFalse (fun e => by cases e)

/-! ## Part 1 — canonical component texts -/

theorem toHex_hex {x : Nat} (h : x < 16) : isUpperHexDigit (toHex x) = true := toHex_upper h

/-- every character of a canonical text is a safe literal, `%`, or an upper-case hex digit -/
theorem canon_chars {t : QTab} {s : Str} (h : Canon t s) :
    ∀ c ∈ s, (t.safe c = true ∧ c ≠ 37) ∨ c = 37 ∨ isUpperHexDigit c = true := by
  induction h with
  | nil => intro c hc; simp at hc
  | lit c r hs hc hq _ ih =>
    intro x hx
    rcases List.mem_cons.1 hx with rfl | hx
    · exact Or.inl ⟨hs, hc⟩
    · exact ih x hx
  | esc b r hb hk _ ih =>
    intro x hx
    simp only [pct, List.cons_append, List.nil_append, List.mem_cons] at hx
    rcases hx with rfl | rfl | rfl | hx
    · exact Or.inr (Or.inl rfl)
    · exact Or.inr (Or.inr (toHex_upper (by omega)))
    · exact Or.inr (Or.inr (toHex_upper (by omega)))
    · exact ih x hx

theorem upperHex_range {c : Nat} (h : isUpperHexDigit c = true) : (48 ≤ c ∧ c ≤ 57) ∨ (65 ≤ c ∧ c ≤ 70) := by
  unfold isUpperHexDigit at h
  simp at h
  omega

theorem canon_ascii {t : QTab} (ht : t.WF) {s : Str} (h : Canon t s) : ∀ c ∈ s, c < 128 := by
  intro c hc
  rcases canon_chars h c hc with h1 | rfl | h1
  · exact ht.safe_ascii c h1.1
  · omega
  · have := upperHex_range h1; omega

theorem canon_pyStr {t : QTab} (ht : t.WF) {s : Str} (h : Canon t s) : PyStr s := by
  intro c hc
  have := canon_ascii ht h c hc
  omega

theorem canon_noSurr {t : QTab} (ht : t.WF) {s : Str} (h : Canon t s) : stripSurr s = s := by
  apply QsLemmas.stripSurr_id
  intro c hc
  have := canon_ascii ht h c hc
  unfold isSurrogate
  simp
  omega

/-- a character that is neither safe, nor `%`, nor an upper-case hex digit does not occur -/
theorem canon_not_mem {t : QTab} {s : Str} (h : Canon t s) {c : Nat} (h1 : t.safe c = false)
    (h2 : c ≠ 37) (h3 : isUpperHexDigit c = false) : c ∉ s := by
  intro hc
  rcases canon_chars h c hc with h | h | h
  · rw [h1] at h; exact Bool.noConfusion h.1
  · exact h2 h
  · rw [h3] at h; exact Bool.noConfusion h

theorem canon_append {t : QTab} {a b : Str} (ha : Canon t a) (hb : Canon t b) : Canon t (a ++ b) := by
  induction ha with
  | nil => simpa using hb
  | lit c r hs hc hq _ ih => exact Canon.lit c _ hs hc hq ih
  | esc x r hx hk _ ih =>
    rw [List.append_assoc]
    exact Canon.esc x _ hx hk ih

theorem run_fixed (b : Backend) (a : QArgs) (ha : a ∈ Gen.allQuoters) (hreq : a.requote = true)
    {s : Str} (h : Canon (a.tab b) s) : a.run b s = s := by
  have hwf := gen_tab_wf a ha b
  rw [QsLemmas.run_eq_cOut a ha b s (canon_pyStr hwf h), canon_noSurr hwf h]
  exact cOut_fixed_on_canon _ hwf (by rw [tab_requote]; exact hreq) h

/-- the output of a generated requoter is canonical for it -/
theorem run_canon (b : Backend) (a : QArgs) (ha : a ∈ Gen.allQuoters) (hreq : a.requote = true)
    (s : Str) (hs : PyStr s) : Canon (a.tab b) (a.run b s) := by
  have hwf := gen_tab_wf a ha b
  rw [QsLemmas.run_eq_cOut a ha b s hs]
  exact cOut_in_canon _ _ hwf hwf rfl (fun _ h => h) (fun _ h _ => h) (fun _ h => h)
    (fun hq => gen_qs_plus_safe_requoters a ha hreq (by rw [← tab_qs a b]; exact hq) b)
    (gen_space_unsafe a ha b) _ (QuoteEquiv.pyStr_stripSurr hs)

/-! ### compatibility of a quoter with its requoting partner, decidable on the ASCII range -/

/-- the side conditions of `cOut_requote_fixed`, restricted to `c < 128` -/
def CompatLt (t t' : QTab) : Prop :=
  t'.qs = t.qs ∧ (∀ c, c < 128 → t'.safe c = true → t.safe c = true) ∧
  (∀ c, c < 128 → t.safe c = true → t.prot c = false → t'.safe c = true) ∧
  (∀ c, c < 128 → t'.prot c = true → t.prot c = true) ∧
  (t.qs = true → t.safe 43 = true) ∧ t.safe 32 = false

instance (t t' : QTab) : Decidable (CompatLt t t') := by unfold CompatLt; infer_instance

theorem compat_of_lt {t t' : QTab} (ht : t.WF) (ht' : t'.WF) (k : CompatLt t t') : Compat t t' where
  qs := k.1
  sub := fun c h => k.2.1 c (ht'.safe_ascii c h) h
  esc := fun c h h2 => k.2.2.1 c (ht.safe_ascii c h) h h2
  prot := fun c h => k.2.2.2.1 c (ht'.safe_ascii c (ht'.prot_safe c h)) h
  plus := k.2.2.2.2.1
  sp := k.2.2.2.2.2

/-- a quoter and a generated requoter made from the same `safe`, `protected` and `qs` arguments have the same
    tables -/
theorem compatLt_same_args (b : Backend) (r a : QArgs) (hr : r ∈ Gen.allQuoters) (hreq : r.requote = true)
    (hs : a.safe = r.safe) (hp : a.prot = r.prot) (hq : a.qs = r.qs) : CompatLt (r.tab b) (a.tab b) := by
  have e1 : (a.tab b).safe = (r.tab b).safe := by
    cases b <;> simp only [QArgs.tab, QArgs.tabPy, QArgs.tabC, hs, hp, hq]
  have e2 : (a.tab b).prot = (r.tab b).prot := by
    cases b <;> simp only [QArgs.tab, QArgs.tabPy, QArgs.tabC, hp]
  exact ⟨by rw [tab_qs, tab_qs, hq], fun c _ h => e1 ▸ h, fun c _ h _ => e1 ▸ h, fun c _ h => e2 ▸ h,
    fun h => gen_qs_plus_safe_requoters r hr hreq (by rw [← tab_qs r b]; exact h) b, gen_space_unsafe r hr b⟩

theorem partner_fixed (b : Backend) (r a : QArgs) (hr : r ∈ Gen.allQuoters) (ha : a ∈ Gen.allQuoters)
    (hreq : r.requote = true) (k : CompatLt (r.tab b) (a.tab b)) (s : Str) (hs : PyStr s) :
    Canon (r.tab b) (a.run b s) ∧ r.run b (a.run b s) = a.run b s := by
  have hwr := gen_tab_wf r hr b
  have hwa := gen_tab_wf a ha b
  have hc : Canon (r.tab b) (a.run b s) := by
    rw [QsLemmas.run_eq_cOut a ha b s hs]
    exact cOut_canon_of_compat hwa (compat_of_lt hwr hwa k) _ (QuoteEquiv.pyStr_stripSurr hs)
  exact ⟨hc, run_fixed b r hr hreq hc⟩

end FixLemmas

/-! ## Part 2 — composing a URL string and reading it back (Appendix B) -/

/-- `"?" ++ query` unless empty -/
def qPart (query : Str) : Str := if query.isEmpty then [] else 63 :: query
/-- `"#" ++ fragment` unless empty -/
def fPart (fragment : Str) : Str := if fragment.isEmpty then [] else 35 :: fragment

/-- `scheme ++ "://" ++ authority ++ path ++ ("?" ++ query)? ++ ("#" ++ fragment)?` -/
def composeUrl (scheme auth path query fragment : Str) : Str :=
  scheme ++ [58, 47, 47] ++ auth ++ path ++ qPart query ++ fPart fragment

/-- every character is a visible ASCII-or-above character (no C0 control, no space) -/
def Visible (s : Str) : Prop := ∀ c ∈ s, 33 ≤ c

/-- a non-empty string of lower-case scheme characters (`split_url` does not insist on a leading
    letter: `url[0] in scheme_chars`) -/
def SchemeOK (scheme : Str) : Prop :=
  scheme ≠ [] ∧ ∀ c ∈ scheme, mem c Gen.schemeChars = true ∧ ¬ (65 ≤ c ∧ c ≤ 90)

/-- empty, or `SchemeOK`: a URL without a scheme stores the empty one -/
def SchemeOK' (s : Str) : Prop := s = [] ∨ SchemeOK s

/-- empty or starting with "/" -/
def Rooted (path : Str) : Prop := path = [] ∨ ∃ r, path = 47 :: r

instance (s : Str) : Decidable (Visible s) := by unfold Visible; infer_instance
instance (s : Str) : Decidable (SchemeOK s) := by unfold SchemeOK; infer_instance
instance (s : Str) : Decidable (SchemeOK' s) := by unfold SchemeOK'; infer_instance
instance (s : Str) : Decidable (Rooted s) := by
  unfold Rooted
  have : Decidable (∃ r, s = 47 :: r) :=
    match s with
    | [] => isFalse (by rintro ⟨r, h⟩; cases h)
    | a :: r => decidable_of_iff (a = 47)
        ⟨fun h => ⟨r, by rw [h]⟩, by rintro ⟨r', h⟩; cases h; rfl⟩
  infer_instance

namespace FixLemmas
open OutLangLemmas ParseLemmas HostLemmas

theorem lower_of_no_upper {s : Str} (h : ∀ c ∈ s, ¬ (65 ≤ c ∧ c ≤ 90)) : lower s = s :=
  lower_of_all fun c hc => if_neg (h c hc)

theorem composeUrl_eq (scheme auth path query fragment : Str) :
    composeUrl scheme auth path query fragment =
      scheme ++ 58 :: 47 :: 47 :: (auth ++ (path ++ (qPart query ++ fPart fragment))) := by
  simp [composeUrl]

theorem tailStr_parts (q f : Str) : UnsplitLemmas.tailStr q f = qPart q ++ fPart f := by
  cases q <;> cases f <;> rfl

/-- the three stages of the Appendix B reading (`UnsplitLemmas`) on a composed string -/
theorem appendixB_compose (scheme auth path query fragment : Str) (hs : SchemeOK scheme)
    (ha : ∀ c ∈ auth, Rfc.isDelim3 c = false) (hr : Rooted path)
    (hp : ∀ c ∈ path, c ≠ 63 ∧ c ≠ 35) (hq : ∀ c ∈ query, c ≠ 35) :
    Rfc.appendixB Gen.schemeChars (composeUrl scheme auth path query fragment) =
      { scheme := scheme, authority := auth, path := path, query := query, fragment := fragment } := by
  have hrest : ParseLemmas.HeadP (fun x => x = 47 ∨ x = 63 ∨ x = 35) (path ++ UnsplitLemmas.tailStr query fragment) := by
    apply ParseLemmas.headP_append
    · rcases hr with rfl | ⟨r, rfl⟩
      · exact ParseLemmas.headP_nil _
      · exact ParseLemmas.headP_cons _ (Or.inl rfl)
    · exact ParseLemmas.headP_mono (fun x hx => Or.inr hx) (UnsplitLemmas.tailStr_head _ _)
  have hauth := UnsplitLemmas.authOf_compose auth _
    (fun c hc => by have := ha c hc; simp [Rfc.isDelim3] at this; omega) hrest
  rw [List.cons_append, List.cons_append] at hauth
  rw [appendixB_eq, composeUrl_eq, ← tailStr_parts, UnsplitLemmas.schemeOf_compose scheme _ hs.1
    (List.all_eq_true.2 (fun c hc => (hs.2 c hc).1)) (lower_of_no_upper (fun c hc => (hs.2 c hc).2))]
  simp only [hauth, UnsplitLemmas.tailOf_compose path query fragment hp (fun h => hq 35 h rfl)]

theorem cleanUrl_visible {s : Str} (h : Visible s) : cleanUrl s = s := by
  rw [C07_clean_spec]
  have e1 : s.dropWhile (fun c => decide (c ≤ 32)) = s := by
    cases s with
    | nil => rfl
    | cons x xs =>
      have := h x (by simp)
      rw [List.dropWhile_cons]
      simp only [decide_eq_true_eq]
      rw [if_neg (by omega)]
  rw [e1]
  apply List.filter_eq_self.mpr
  intro c hc
  have := h c hc
  simp only [ne_eq, decide_eq_true_eq]
  omega

theorem visible_nil : Visible [] := fun _ h => nomatch h

theorem visible_cons {c : Nat} {s : Str} : Visible (c :: s) ↔ 33 ≤ c ∧ Visible s := List.forall_mem_cons

theorem visible_append {a b : Str} : Visible (a ++ b) ↔ Visible a ∧ Visible b := List.forall_mem_append

theorem schemeChars_visible : ∀ c, mem c Gen.schemeChars = true → 33 ≤ c := by
  intro c h
  have : ∀ x ∈ Gen.schemeChars, 33 ≤ x := by decide
  exact this c (mem_iff.mp h)

theorem isAscii_of_chars {x : Str} (hx : ∀ c ∈ x, 33 ≤ c ∧ c < 128 ∧ Rfc.isDelim3 c = false) : isAscii x = true :=
  isAscii_iff.mpr fun c hc => (hx c hc).2.1

/-! ## Part 3 — `encodeUrl` in stages -/

/-- the authority block of `encode_url`: `(netloc, cache pre-fill)` -/
def netBlock (e : Env) (scheme netloc0 : Str) : R (Str × Option NetPre) :=
    (if netloc0.isEmpty then pure (([] : Str), (none : Option NetPre))
    else do
      let np ← (if mem 58 netloc0 || mem 64 netloc0 || mem 91 netloc0 then splitNetloc e.o netloc0
                else pure { user := none, password := none, host := some netloc0, port := none } : R NetlocParts)
      let host0 ← (match np.host with
        | some h => pure h
        | none => if Gen.schemeRequiresHost.contains scheme then .error .valueError else pure [] : R Str)
      let host1 ← encodeHost e.o host0 false
      -- a bracketed host that is not an IPv6 address keeps the brackets the input had
      let host := if mem 91 (rpartition 64 netloc0).2.2 && !mem 91 host1 then [91] ++ host1 ++ [93] else host1
      let rawHost := if mem 91 host then (host.drop 1).dropLast else host
      if np.password.isNone && np.user.isNone then
        let netloc := match np.port with
          | none => host
          | some pt => host ++ [58] ++ natToStr pt
        pure (netloc, some { rawHost := some rawHost, explicitPort := np.port, rawUser := none, rawPassword := none })
      else
        -- `(REQUOTER(username) or None)`: a user that requotes to "" is no user (commit 2fdb38c)
        let ru := (requoteOpt e np.user).bind (fun s => if s.isEmpty then none else some s)
        let rp := requoteOpt e np.password
        let netloc := makeNetloc (q e Gen.QUOTER) ru rp (some host) np.port false
        pure (netloc, some { rawHost := some rawHost, explicitPort := np.port, rawUser := ru, rawPassword := rp })
     : R (Str × Option NetPre))

/-- the path as `encode_url` stores it -/
def encPath (e : Env) (netloc path : Str) : Str :=
  if path.isEmpty then path
  else
    let p1 := q e Gen.PATH_REQUOTER path
    if !netloc.isEmpty && mem 46 p1 then normalizePath p1 else p1

def encQuery (e : Env) (query : Str) : Str := if query.isEmpty then query else q e Gen.QUERY_REQUOTER query
def encFragment (e : Env) (f : Str) : Str := if f.isEmpty then f else q e Gen.FRAGMENT_REQUOTER f

def finishUrl (e : Env) (p : Parts) (netloc : Str) (pre : Option NetPre) : Url :=
  { scheme := p.scheme, netloc := netloc, path := encPath e netloc p.path, query := encQuery e p.query,
    fragment := encFragment e p.fragment, pre := pre }

/-- `netBlock` and `finishUrl` are `EagerLemmas.authBlock` and `EagerLemmas.finishUrl` with the scheme and the
    authority as arguments and the three component encoders named -/
theorem netBlock_authBlock (e : Env) (p : Parts) : netBlock e p.scheme p.netloc = EagerLemmas.authBlock e p := rfl

theorem finishUrl_eq (e : Env) (p : Parts) (netloc : Str) (pre : Option NetPre) :
    finishUrl e p netloc pre = EagerLemmas.finishUrl e p netloc pre := rfl

theorem encodeUrl_eq (e : Env) (s : Str) :
    encodeUrl e s = (splitUrl e.o s >>= fun p => netBlock e p.scheme p.netloc >>= fun r =>
      pure (finishUrl e p r.1 r.2)) := by
  simp only [netBlock_authBlock, finishUrl_eq]
  exact EagerLemmas.encodeUrl_eq e s

theorem encodeUrl_of (e : Env) (s : Str) (p : Parts) (netloc : Str) (pre : Option NetPre)
    (hp : splitUrl e.o s = .ok p) (hn : netBlock e p.scheme p.netloc = .ok (netloc, pre)) :
    encodeUrl e s = .ok (finishUrl e p netloc pre) := by
  rw [encodeUrl_eq, hp]
  simp only [bind, Except.bind, hn]
  rfl

theorem encodeUrl_inv (e : Env) (s : Str) (u : Url) (h : encodeUrl e s = .ok u) :
    ∃ p netloc pre, splitUrl e.o s = .ok p ∧ netBlock e p.scheme p.netloc = .ok (netloc, pre) ∧
      u = finishUrl e p netloc pre := by
  simp only [netBlock_authBlock, finishUrl_eq]
  exact EagerLemmas.encodeUrl_ok h

theorem netBlock_nil (e : Env) (scheme : Str) : netBlock e scheme [] = .ok ([], none) := rfl

/-- the authority block for a non-empty authority, stage by stage (`EagerLemmas.authBlock_eq`, `eagerOut_eq`) -/
theorem netBlock_closed (e : Env) (scheme n0 : Str) (hne : n0 ≠ []) :
    netBlock e scheme n0 =
      (splitNetloc e.o n0 >>= fun np => EagerLemmas.hostOr scheme np.host >>= fun host0 =>
        encodeHost e.o host0 false >>= fun host1 =>
          EagerLemmas.eagerOut e np (StrTotal.rebracket (mem 91 (rpartition 64 n0).2.2) host1)) :=
  EagerLemmas.authBlock_eq e ⟨scheme, n0, [], [], []⟩ hne

/-- the authority block read backwards (`EagerLemmas.authBlock_ok`): the authority splits into `np`, its host (or ""
    where the scheme allows) encodes to `host1`, and the stored text and the cache are written from `np` and the
    re-bracketed `host1` -/
theorem netBlock_ok {e : Env} {scheme n0 nl : Str} {pre : Option NetPre} (hne : n0 ≠ [])
    (h : netBlock e scheme n0 = .ok (nl, pre)) :
    ∃ np host0 host1, splitNetloc e.o n0 = .ok np ∧ EagerLemmas.hostOr scheme np.host = .ok host0 ∧
      encodeHost e.o host0 false = .ok host1 ∧
      nl = makeNetloc (q e Gen.QUOTER) (cachedUser e np.user) (requoteOpt e np.password)
        (some (StrTotal.rebracket (mem 91 (rpartition 64 n0).2.2) host1)) np.port false ∧
      pre = some { rawHost := some (unbracket (StrTotal.rebracket (mem 91 (rpartition 64 n0).2.2) host1)),
                   explicitPort := np.port, rawUser := cachedUser e np.user,
                   rawPassword := requoteOpt e np.password } := by
  rcases EagerLemmas.authBlock_ok (pt := ⟨scheme, n0, [], [], []⟩) h with ⟨h0, _⟩ | ⟨_, h'⟩
  · exact absurd h0 hne
  · exact h'

/-- … and forwards (`EagerLemmas.authBlock_of`) -/
theorem netBlock_of {e : Env} {scheme n0 : Str} {np : NetlocParts} {host0 host1 : Str} (hne : n0 ≠ [])
    (hsp : splitNetloc e.o n0 = .ok np) (hho : EagerLemmas.hostOr scheme np.host = .ok host0)
    (henc : encodeHost e.o host0 false = .ok host1) :
    netBlock e scheme n0 = .ok
      (makeNetloc (q e Gen.QUOTER) (cachedUser e np.user) (requoteOpt e np.password)
        (some (StrTotal.rebracket (mem 91 (rpartition 64 n0).2.2) host1)) np.port false,
       some { rawHost := some (unbracket (StrTotal.rebracket (mem 91 (rpartition 64 n0).2.2) host1)),
              explicitPort := np.port, rawUser := cachedUser e np.user, rawPassword := requoteOpt e np.password }) :=
  EagerLemmas.authBlock_of (pt := ⟨scheme, n0, [], [], []⟩) hne hsp hho henc

/-! ### component conditions; what `unsplit_result` and `str` write -/

theorem canon_forall {t : QTab} (ht : t.WF) (P : Nat → Prop) (hsafe : ∀ c, c < 128 → t.safe c = true → P c)
    (h37 : P 37) (hhex : ∀ c, (48 ≤ c ∧ c ≤ 57) ∨ (65 ≤ c ∧ c ≤ 70) → P c) {s : Str} (h : Canon t s) :
    ∀ c ∈ s, P c := by
  intro c hc
  rcases canon_chars h c hc with h1 | rfl | h1
  · exact hsafe c (ht.safe_ascii c h1.1) h1.1
  · exact h37
  · exact hhex c (upperHex_range h1)

/-- the characters each requoter keeps literal are exactly the RFC 3986 literals of its component (userinfo
    without ':'), by computation on the generated tables -/
theorem tab_policy : ∀ b : Backend, ∀ c, c < 128 →
    ((Gen.PATH_REQUOTER.tab b).safe c = Rfc.pathLit c) ∧ ((Gen.QUERY_REQUOTER.tab b).safe c = Rfc.queryLit c) ∧
    ((Gen.FRAGMENT_REQUOTER.tab b).safe c = Rfc.queryLit c) ∧
    ((Gen.REQUOTER.tab b).safe c = (Rfc.userinfoLit c && c != 58)) := by
  intro b
  rw [tab_eq_c Gen.PATH_REQUOTER (by decide) b, tab_eq_c Gen.QUERY_REQUOTER (by decide) b,
    tab_eq_c Gen.FRAGMENT_REQUOTER (by decide) b, tab_eq_c Gen.REQUOTER (by decide) b]
  decide +kernel

/-- RFC 3986 path, query and fragment literals are visible and never '#'; path literals exclude '?' -/
theorem rfc_lit_chars (c : Nat) :
    (Rfc.pathLit c = true → 33 ≤ c ∧ c ≠ 63 ∧ c ≠ 35) ∧ (Rfc.queryLit c = true → 33 ≤ c ∧ c ≠ 35) := by
  simp only [Rfc.pathLit, Rfc.queryLit, Rfc.pcharLit, Rfc.unreserved, Rfc.subDelims, Rfc.isAlpha, Rfc.isDigit,
    Bool.or_eq_true, Bool.and_eq_true, decide_eq_true_eq]
  omega

/-- RFC 3986 userinfo literals other than ':' are visible and none of the delimiters of an authority -/
theorem rfc_userinfo_chars (c : Nat) : (Rfc.userinfoLit c && c != 58) = true →
    33 ≤ c ∧ c ≠ 47 ∧ c ≠ 63 ∧ c ≠ 35 ∧ c ≠ 58 ∧ c ≠ 64 ∧ c ≠ 91 ∧ c ≠ 93 := by
  simp only [Rfc.userinfoLit, Rfc.unreserved, Rfc.subDelims, Rfc.isAlpha, Rfc.isDigit, Bool.or_eq_true,
    Bool.and_eq_true, decide_eq_true_eq, bne_iff_ne]
  omega

theorem pr_mem : Gen.PATH_REQUOTER ∈ Gen.allQuoters := by decide
theorem qr_mem : Gen.QUERY_REQUOTER ∈ Gen.allQuoters := by decide
theorem fr_mem : Gen.FRAGMENT_REQUOTER ∈ Gen.allQuoters := by decide
theorem canon_path_chars {b : Backend} {p : Str} (h : Canon (Gen.PATH_REQUOTER.tab b) p) :
    ∀ c ∈ p, 33 ≤ c ∧ c ≠ 63 ∧ c ≠ 35 :=
  canon_forall (gen_tab_wf _ pr_mem b) _ (fun c hc hs => (rfc_lit_chars c).1 ((tab_policy b c hc).1 ▸ hs))
    (by omega) (fun c hc => by omega) h

theorem canon_query_chars {b : Backend} {p : Str} (h : Canon (Gen.QUERY_REQUOTER.tab b) p) :
    ∀ c ∈ p, 33 ≤ c ∧ c ≠ 35 :=
  canon_forall (gen_tab_wf _ qr_mem b) _ (fun c hc hs => (rfc_lit_chars c).2 ((tab_policy b c hc).2.1 ▸ hs))
    (by omega) (fun c hc => by omega) h

theorem canon_fragment_chars {b : Backend} {p : Str} (h : Canon (Gen.FRAGMENT_REQUOTER.tab b) p) :
    ∀ c ∈ p, 33 ≤ c :=
  canon_forall (gen_tab_wf _ fr_mem b) _ (fun c hc hs => ((rfc_lit_chars c).2 ((tab_policy b c hc).2.2.1 ▸ hs)).1)
    (by omega) (fun c hc => by omega) h

end FixLemmas

/-- the conditions on path, query and fragment of an already-canonical URL with an authority -/
structure CompOK (b : Backend) (path query fragment : Str) : Prop where
  rooted : Rooted path
  pathC : Canon (Gen.PATH_REQUOTER.tab b) path
  /-- no dot segments (stated through the code's normaliser; see `normalizePath_noDotSegs`) -/
  norm : 46 ∈ path → normalizePath path = path
  /-- `str` writes "/" for an empty path in front of a query or fragment -/
  nonempty : path = [] → query = [] ∧ fragment = []
  queryC : Canon (Gen.QUERY_REQUOTER.tab b) query
  fragmentC : Canon (Gen.FRAGMENT_REQUOTER.tab b) fragment

/-- the URL object `encode_url` builds for five parts and a netloc cache pre-fill -/
abbrev urlOf (scheme auth path query fragment : Str) (pre : NetPre) : Url :=
  { scheme := scheme, netloc := auth, path := path, query := query, fragment := fragment, pre := some pre }

namespace FixLemmas
open OutLangLemmas ParseLemmas HostLemmas

theorem encQuery_fixed (e : Env) {query : Str} (h : Canon (Gen.QUERY_REQUOTER.tab e.b) query) :
    encQuery e query = query := by
  unfold encQuery
  split
  · rfl
  · exact run_fixed e.b _ qr_mem rfl h

theorem encFragment_fixed (e : Env) {f : Str} (h : Canon (Gen.FRAGMENT_REQUOTER.tab e.b) f) :
    encFragment e f = f := by
  unfold encFragment
  split
  · rfl
  · exact run_fixed e.b _ fr_mem rfl h

theorem rootedOrEmpty_of_rooted {p : Str} (h : Rooted p) : UnsplitLemmas.RootedOrEmpty p := by
  rcases h with rfl | ⟨r, rfl⟩
  · exact Or.inl rfl
  · exact Or.inr rfl

/-- `unsplit_result` in closed form, when the path under the "//" marker is empty or rooted:
    `[scheme ":"] ["//" authority] path ["?" query] ["#" fragment]` -/
theorem unsplit_closed (sc n pa q f : Str)
    (hr : UnsplitLemmas.marker sc n pa = true → UnsplitLemmas.RootedOrEmpty pa) :
    unsplitResult sc n pa q f = UnsplitLemmas.schemeStr sc ++
      (if UnsplitLemmas.marker sc n pa then 47 :: 47 :: n else []) ++ pa ++ qPart q ++ fPart f := by
  rw [UnsplitLemmas.unsplit_shape, UnsplitLemmas.unsplitHead_eq _ _ _ hr, tailStr_parts, ← List.append_assoc]

/-- `unsplit_result` with a non-empty authority, a scheme and a rooted path is the composition -/
theorem unsplit_compose (scheme auth path query fragment : Str) (hs : scheme ≠ []) (ha : auth ≠ [])
    (hr : Rooted path) :
    unsplitResult scheme auth path query fragment = composeUrl scheme auth path query fragment := by
  rw [unsplit_closed _ _ _ _ _ fun _ => rootedOrEmpty_of_rooted hr]
  simp [UnsplitLemmas.schemeStr, UnsplitLemmas.marker, composeUrl, isEmpty_false hs, isEmpty_false ha]

/-- `str` writes the stored path itself unless it is empty, under an authority, in front of a query or fragment -/
theorem strPath_eq {u : Url} (h : u.netloc ≠ [] → u.path = [] → u.query = [] ∧ u.fragment = []) :
    C07_strPath u = u.path := by
  unfold C07_strPath
  split
  · rename_i hc
    simp only [Bool.and_eq_true, Bool.or_eq_true, List.isEmpty_iff, Bool.not_eq_true',
      List.isEmpty_eq_false_iff] at hc
    obtain ⟨hq, hf⟩ := h hc.1.2 hc.1.1
    rcases hc.2 with h2 | h2
    · exact absurd hq h2
    · exact absurd hf h2
  · rfl

/-- `str` of a URL whose explicit port is not the default one and whose path `str` writes as stored:
    `unsplit_result` of the five stored components -/
theorem str_unsplit (e : Env) (u : Url) (ep : Option Nat) (hep : explicitPort e u = .ok ep)
    (hport : ∀ p, ep = some p → some p ≠ defaultPort u.scheme)
    (hne : u.netloc ≠ [] → u.path = [] → u.query = [] ∧ u.fragment = []) :
    str e u = .ok (unsplitResult u.scheme u.netloc u.path u.query u.fragment) := by
  have h := C07_str_recompose e u ep hep hport
  have hp := strPath_eq hne
  unfold C07_strPath at hp
  rwa [hp] at h

/-- A round-trip statement moves along an equation between texts: an instance about a concrete text compares it with
    the composed text once, by evaluation of `hs`, instead of restating it. -/
theorem at_text {e : Env} {t s : Str} {P : Url → Prop} (hs : t = s)
    (h : ∃ u, encodeUrl e t = .ok u ∧ str e u = .ok t ∧ P u) : ∃ u, encodeUrl e s = .ok u ∧ str e u = .ok s ∧ P u :=
  hs ▸ h

theorem at_text' {e : Env} {t s : Str} (hs : t = s) (h : ∃ u, encodeUrl e t = .ok u ∧ str e u = .ok t) :
    ∃ u, encodeUrl e s = .ok u ∧ str e u = .ok s :=
  hs ▸ h

theorem at_text_fst {e : Env} {t s : Str} {P : Url → Prop} (hs : t = s)
    (h : ∃ u, encodeUrl e t = .ok u ∧ str e u = .ok t ∧ P u) : ∃ u, encodeUrl e s = .ok u ∧ str e u = .ok s :=
  let ⟨u, h1, h2, _⟩ := at_text hs h
  ⟨u, h1, h2⟩

end FixLemmas

/-! ## Part 4 — the plain lower-case host, dot segments, the Boolean checker `isCanon` -/

/-- characters of a plain host: visible ASCII, not upper-case, none of `/ ? # : @ [ ]` -/
def hostChar (c : Nat) : Bool :=
  decide (33 ≤ c) && decide (c < 128) && !(decide (65 ≤ c) && decide (c ≤ 90)) &&
    !(c == 47 || c == 63 || c == 35 || c == 58 || c == 64 || c == 91 || c == 93)

/-- a non-empty plain host that does not end in a digit (so that it cannot be taken for an IP literal) -/
def HostBasic (h : Str) : Prop :=
  h ≠ [] ∧ (∀ c ∈ h, hostChar c = true) ∧ ∀ l, h.getLast? = some l → isDigitC l = false

instance (h : Str) : Decidable (HostBasic h) := by
  unfold HostBasic
  have : Decidable (∀ l, h.getLast? = some l → isDigitC l = false) :=
    match hl : h.getLast? with
    | none => isTrue (by intro l h; cases h)
    | some l => decidable_of_iff (isDigitC l = false)
        ⟨fun h l' hl' => by cases hl'; exact h, fun h => h l rfl⟩
  infer_instance

/-- the cache pre-fill for a host without userinfo and port -/
abbrev preHost (host : Str) : NetPre :=
  { rawHost := some host, explicitPort := none, rawUser := none, rawPassword := none }

namespace FixLemmas
open OutLangLemmas ParseLemmas HostLemmas

theorem hostChar_spec {c : Nat} (h : hostChar c = true) :
    33 ≤ c ∧ c < 128 ∧ ¬ (65 ≤ c ∧ c ≤ 90) ∧ c ≠ 47 ∧ c ≠ 63 ∧ c ≠ 35 ∧ c ≠ 58 ∧ c ≠ 64 ∧ c ≠ 91 ∧ c ≠ 93 := by
  unfold hostChar at h
  simp at h
  omega

/-- every pct-free RFC reg-name character in lower case is a plain host character -/
theorem regNameChars_hostChar : ∀ c ∈ Gen.regNameChars, hostChar c = true := by decide

theorem hostBasic_auth {h : Str} (hh : HostBasic h) :
    ∀ c ∈ h, 33 ≤ c ∧ c < 128 ∧ Rfc.isDelim3 c = false := by
  intro c hc
  have := hostChar_spec (hh.2.1 c hc)
  refine ⟨this.1, this.2.1, ?_⟩
  simp [Rfc.isDelim3]
  omega

theorem hostBasic_notMem {h : Str} (hh : HostBasic h) {c : Nat} (hc : hostChar c = false) : mem c h = false := by
  rw [mem_false_iff]
  intro hm
  rw [hh.2.1 c hm] at hc
  exact Bool.noConfusion hc

theorem checkBrackets_plain {n : Str} (h1 : mem 91 n = false) (h2 : mem 93 n = false) :
    checkBrackets n = .ok () := by
  unfold checkBrackets
  simp [h1, h2]

/-! ### dot segments -/

/-- no segment of the path is "." or ".." -/
def NoDotSegs (p : Str) : Prop := ∀ s ∈ splitOn 47 p, s ≠ dot ∧ s ≠ dotdot

instance (p : Str) : Decidable (NoDotSegs p) := by unfold NoDotSegs; infer_instance

/-- `normalize_path` leaves a path without dot segments alone -/
theorem normalizePath_noDotSegs {p : Str} (h : NoDotSegs p) : normalizePath p = p := by
  have key : ∀ q : Str, PathLemmas.NoDots (splitOn 47 q) → joinC 47 (normalizePathSegments (splitOn 47 q)) = q := by
    intro q hq
    rw [PathLemmas.normalizePathSegments_noDots _ hq, PathLemmas.joinC_splitOn]
  unfold normalizePath
  split
  · rename_i rest
    have : PathLemmas.NoDots (splitOn 47 rest) := by
      intro s hs
      apply h s
      simp [splitOn, hs]
    rw [key rest this]
  · exact key p h

/-! ### a Boolean checker for `Canon` -/

def hexv (c : Nat) : Nat := if c ≤ 57 then c - 48 else c - 55

/-- `Canon t s`, decided -/
def isCanon (t : QTab) : Str → Bool
  | [] => true
  | 37 :: a :: b :: r =>
    isUpperHexDigit a && isUpperHexDigit b &&
      (decide (128 ≤ hexv a * 16 + hexv b) || !t.safe (hexv a * 16 + hexv b) || t.prot (hexv a * 16 + hexv b)) &&
      isCanon t r
  | c :: r => c != 37 && t.safe c && !(t.qs && c == 32) && isCanon t r

theorem toHex_hexv {a : Nat} (h : isUpperHexDigit a = true) : hexv a < 16 ∧ toHex (hexv a) = a := by
  have := upperHex_range h
  unfold hexv toHex
  constructor
  · split <;> omega
  · split <;> split <;> omega

theorem isCanon_sound (t : QTab) (s : Str) : isCanon t s = true → Canon t s := by
  fun_induction isCanon t s with
  | case1 => intro _; exact Canon.nil
  | case2 a b r ih =>
    intro h
    simp only [Bool.and_eq_true, Bool.or_eq_true, decide_eq_true_eq, Bool.not_eq_true'] at h
    obtain ⟨⟨⟨ha, hb⟩, hk⟩, hr⟩ := h
    obtain ⟨ha1, ha2⟩ := toHex_hexv ha
    obtain ⟨hb1, hb2⟩ := toHex_hexv hb
    have hp : pct (hexv a * 16 + hexv b) = [37, a, b] := by
      unfold pct
      have e1 : (hexv a * 16 + hexv b) / 16 = hexv a := by omega
      have e2 : (hexv a * 16 + hexv b) % 16 = hexv b := by omega
      rw [e1, e2, ha2, hb2]
    have := Canon.esc (hexv a * 16 + hexv b) r (by omega) (or_assoc.1 hk) (ih hr)
    rwa [hp] at this
  | case3 c r hne ih =>
    intro h
    simp only [Bool.and_eq_true, bne_iff_ne, ne_eq, Bool.not_eq_true', Bool.and_eq_false_iff, beq_eq_false_iff_ne] at h
    obtain ⟨⟨⟨h37, hs⟩, hq⟩, hr⟩ := h
    refine Canon.lit c r hs h37 ?_ (ih hr)
    rintro ⟨h1, h2⟩
    rcases hq with hq | hq
    · rw [h1] at hq; exact Bool.noConfusion hq
    · exact hq h2

/-- the checker on the C tables establishes canonical text on either backend (the backends share their tables) -/
theorem isCanon_sound_b {a : QArgs} (ha : a ∈ Gen.allQuoters) (b : Backend) {s : Str}
    (h : isCanon (a.tab .c) s = true) : Canon (a.tab b) s :=
  tab_eq_c a ha b ▸ isCanon_sound _ _ h

/-! ## Part 5 — what `encode_url` stores -/

/-! ### canonical text and '/'-segments -/

theorem normalizePathSegments_forall (P : Str → Prop) (h0 : P []) (segs : List Str) (h : ∀ p ∈ segs, P p) :
    ∀ p ∈ normalizePathSegments segs, P p := by
  intro s hs
  rcases PathLemmas.mem_normalizePathSegments hs with h' | rfl
  · exact h s h'
  · exact h0

/-! ### the path requoter keeps the leading "/" -/

theorem run_path_rooted (b : Backend) (r : Str) :
    ∃ r', Gen.PATH_REQUOTER.run b (47 :: r) = 47 :: r' :=
  EntryLemmas.q_path_requoter_rooted ⟨b, Oracles.empty⟩ r

/-- the stored path of a rooted input path is empty or rooted -/
theorem encPath_rooted (e : Env) (netloc path : Str) (hr : Rooted path) : Rooted (encPath e netloc path) := by
  unfold encPath
  split
  · exact hr
  · rename_i hne
    rcases hr with rfl | ⟨r, rfl⟩
    · exact absurd rfl hne
    · obtain ⟨r', hr'⟩ := EntryLemmas.q_path_requoter_rooted e r
      simp only [hr']
      split
      · exact Or.inr (C15_rooted r')
      · exact Or.inr ⟨r', rfl⟩

theorem encQuery_canon (e : Env) (query : Str) (hs : PyStr query) :
    Canon (Gen.QUERY_REQUOTER.tab e.b) (encQuery e query) := by
  unfold encQuery
  split
  · rename_i h; simp only [List.isEmpty_iff] at h; subst h; exact Canon.nil
  · exact run_canon e.b _ qr_mem rfl _ hs

theorem encFragment_canon (e : Env) (f : Str) (hs : PyStr f) :
    Canon (Gen.FRAGMENT_REQUOTER.tab e.b) (encFragment e f) := by
  unfold encFragment
  split
  · rename_i h; simp only [List.isEmpty_iff] at h; subst h; exact Canon.nil
  · exact run_canon e.b _ fr_mem rfl _ hs

/-! ### facts about the Appendix B decomposition -/

theorem schemeOf_scheme (s : Str) :
    (Rfc.schemeOf Gen.schemeChars s).1 = [] ∨ SchemeOK (Rfc.schemeOf Gen.schemeChars s).1 := by
  unfold Rfc.schemeOf
  simp only
  split
  · split
    · rename_i h
      right
      simp only [Bool.and_eq_true, Bool.not_eq_true', List.all_eq_true] at h
      constructor
      · intro hl
        have : (s.takeWhile (· ≠ 58)) = [] := by
          simpa [lower] using hl
        rw [this] at h; simp at h
      · intro c hc
        simp only [lower, List.mem_map] at hc
        obtain ⟨x, hx, rfl⟩ := hc
        exact ⟨(UnsplitLemmas.schemeChars_lower x (List.contains_iff_mem.mp (h.2 x hx))).1,
          (UnsplitLemmas.schemeChars_lower x (List.contains_iff_mem.mp (h.2 x hx))).2.1⟩
    · exact Or.inl rfl
  · exact Or.inl rfl

/-- what a successful parse provides (for a Python string) -/
theorem splitUrl_facts (o : Oracles) (s : Str) (p : Parts) (hs : PyStr s) (h : splitUrl o s = .ok p) :
    SchemeOK' p.scheme ∧ (p.netloc ≠ [] → Rooted p.path) ∧
      PyStr p.path ∧ PyStr p.query ∧ PyStr p.fragment := by
  obtain ⟨_, g1, g2, g3⟩ := DecLemmas.pyStr_splitUrl o s hs p h
  refine ⟨?_, EntryLemmas.splitUrl_path_rooted o s p h, g1, g2, g3⟩
  have hB := C07_split o s p h
  rw [appendixB_eq] at hB
  have h1 : p.scheme = (Rfc.schemeOf Gen.schemeChars (cleanUrl s)).1 := congrArg Rfc.Parts5.scheme hB
  rw [h1]
  exact schemeOf_scheme _

/-! ### the authority block when the stored netloc has no ':' -/

theorem mem58_makeNetloc (qf : Str → Str) (user pw : Option Str) (hb : Str) (p : Nat) :
    58 ∈ makeNetloc qf user pw (some hb) (some p) false := by
  rw [NetlocLemmas.makeNetloc_eq]
  have : 58 ∈ NetlocLemmas.hostPortStr hb (some p) := by simp [NetlocLemmas.hostPortStr]
  cases user with
  | none => cases pw <;> simp [this]
  | some u =>
    cases pw with
    | none => simp only; split <;> simp [this]
    | some w => simp

/-- a non-empty result of the authority block comes with a pre-filled cache, and a cached port is written
    behind a ':' -/
theorem netBlock_inv (e : Env) (scheme n0 netloc : Str) (pre : Option NetPre)
    (h : netBlock e scheme n0 = .ok (netloc, pre)) (hne : netloc ≠ []) :
    ∃ pr, pre = some pr ∧ ∀ pt, pr.explicitPort = some pt → 58 ∈ netloc := by
  by_cases hn0 : n0 = []
  · subst hn0
    cases h
    exact absurd rfl hne
  · obtain ⟨np, _, _, _, _, _, rfl, rfl⟩ := netBlock_ok hn0 h
    refine ⟨_, rfl, fun pt hp => ?_⟩
    rw [show np.port = some pt from hp]
    exact mem58_makeNetloc _ _ _ _ _

theorem netBlock_no_colon (e : Env) (scheme n0 netloc : Str) (pre : Option NetPre)
    (h : netBlock e scheme n0 = .ok (netloc, pre)) (hne : netloc ≠ []) (h58 : 58 ∉ netloc) :
    ∃ pr, pre = some pr ∧ pr.explicitPort = none := by
  obtain ⟨pr, hpr, hp⟩ := netBlock_inv e scheme n0 netloc pre h hne
  refine ⟨pr, hpr, ?_⟩
  cases hpe : pr.explicitPort with
  | none => rfl
  | some pt => exact absurd (hp pt hpe) h58

/-- the path as `str` writes it after a non-empty authority -/
def strPathOf (path query fragment : Str) : Str :=
  if path.isEmpty && (!query.isEmpty || !fragment.isEmpty) then [47] else path

end FixLemmas

/-! ## Part 6 — the authority as `make_netloc` writes it -/

/-- the authority text `make_netloc` writes around a written host `W` — a host text as it stands in the authority: in
    brackets or not, possibly empty -/
def authW (user pw : Option Str) (W : Str) (port : Option Nat) : Str :=
  makeNetloc id user pw (some W) port false

/-- the authority text; the host is bracketed iff it contains ':' -/
def authText (user pw : Option Str) (h : Str) (port : Option Nat) : Str :=
  makeNetloc id user pw (some (bracket h)) port false

/-- user and password are canonical texts of the REQUOTER (so contain none of `: @ / ? # [ ]`
    literally); the user, when present, is non-empty -/
structure UserInfoOK (b : Backend) (user pw : Option Str) : Prop where
  user : ∀ s, user = some s → s ≠ [] ∧ Canon (Gen.REQUOTER.tab b) s
  pw : ∀ s, pw = some s → Canon (Gen.REQUOTER.tab b) s

/-- a stored host that `_encode_host` gives back unchanged (in brackets when it contains ':') -/
structure HostFix (o : Oracles) (h : Str) : Prop where
  ok : HostOK h
  chars : ∀ c ∈ h, 33 ≤ c ∧ c < 128 ∧ Rfc.isDelim3 c = false
  notV : 58 ∈ h → h.head? ≠ some 118
  enc : encodeHost o h false = .ok (bracket h)

/-- an explicit port is in range and is not the scheme's default port -/
structure PortOK (scheme : Str) (port : Option Nat) : Prop where
  range : ∀ p, port = some p → p ≤ 65535
  notDefault : ∀ p, port = some p → some p ≠ defaultPort scheme

/-- the cache pre-fill of `encode_url` for such an authority -/
abbrev preOf (user pw : Option Str) (h : Str) (port : Option Nat) : NetPre :=
  { rawHost := some h, explicitPort := port, rawUser := user, rawPassword := pw }

/-- an authority text that the authority block of `encode_url` stores unchanged, with cache pre-fill `pre`: what every
    identity and re-parse theorem asks of an authority -/
structure NetFix (e : Env) (scheme N : Str) (pre : Option NetPre) : Prop where
  chars : ∀ c ∈ N, 33 ≤ c ∧ c < 128 ∧ Rfc.isDelim3 c = false
  brackets : checkBrackets N = .ok ()
  block : FixLemmas.netBlock e scheme N = .ok (N, pre)

namespace FixLemmas
open OutLangLemmas ParseLemmas HostLemmas NetlocLemmas

theorem userInfoOK_some {b : Backend} {u w : Str} (hu : u ≠ []) (hcu : isCanon (Gen.REQUOTER.tab b) u = true)
    (hcw : isCanon (Gen.REQUOTER.tab b) w = true) : UserInfoOK b (some u) (some w) :=
  ⟨fun s h => by cases h; exact ⟨hu, isCanon_sound _ _ hcu⟩, fun s h => by cases h; exact isCanon_sound _ _ hcw⟩

theorem _root_.Yarl.userInfoOK_none (b : Backend) : UserInfoOK b none none :=
  ⟨fun s h => (by cases h), fun s h => (by cases h)⟩

theorem portOK_some {scheme : Str} {p : Nat} (hr : p ≤ 65535) (hd : some p ≠ defaultPort scheme) :
    PortOK scheme (some p) :=
  ⟨fun q hq => by cases hq; exact hr, fun q hq => by cases hq; exact hd⟩

theorem canon_user_chars {b : Backend} {p : Str} (h : Canon (Gen.REQUOTER.tab b) p) :
    ∀ c ∈ p, 33 ≤ c ∧ c < 128 ∧ c ≠ 47 ∧ c ≠ 63 ∧ c ≠ 35 ∧ c ≠ 58 ∧ c ≠ 64 ∧ c ≠ 91 ∧ c ≠ 93 := by
  refine canon_forall (gen_tab_wf _ mem_REQUOTER b) _ (fun c hc hs => ?_) (by omega) (fun c hc => by omega) h
  have := rfc_userinfo_chars c ((tab_policy b c hc).2.2.2 ▸ hs)
  exact ⟨this.1, hc, this.2⟩

theorem userOK_of {b : Backend} {user pw : Option Str} (h : UserInfoOK b user pw) : UserOK user := by
  intro s hs
  obtain ⟨h1, h2⟩ := h.user s hs
  exact ⟨h1, fun hm => (canon_user_chars h2 58 hm).2.2.2.2.2.1 rfl⟩

theorem userPrefix_nil_or_at (user pw : Option Str) :
    userPrefix user pw = [] ∨ ∃ a, userPrefix user pw = a ++ [64] := by
  unfold userPrefix
  cases user <;> cases pw
  · exact Or.inl rfl
  · exact Or.inr ⟨_, rfl⟩
  · simp only
    split
    · exact Or.inl rfl
    · exact Or.inr ⟨_, rfl⟩
  · exact Or.inr ⟨_, rfl⟩

theorem bracket_of_no_colon {h : Str} (h58 : 58 ∉ h) : bracket h = h := by
  unfold bracket; rw [if_neg (by rw [mem_iff]; exact h58)]

theorem bracket_of_colon {h : Str} (h58 : 58 ∈ h) : bracket h = [91] ++ h ++ [93] := by
  unfold bracket; rw [if_pos (mem_iff.mpr h58)]

theorem authText_eq_authW (user pw : Option Str) (h : Str) (port : Option Nat) :
    authText user pw h port = authW user pw (bracket h) port := rfl

/-! ### the text, for any written host -/

theorem authW_eq (user pw : Option Str) (W : Str) (port : Option Nat) :
    authW user pw W port = userPrefix user pw ++ hostPortStr W port :=
  makeNetloc_prefix id user pw W port

theorem authText_eq (user pw : Option Str) (h : Str) (port : Option Nat) :
    authText user pw h port = userPrefix user pw ++ hostPortStr (bracket h) port :=
  authW_eq user pw (bracket h) port

theorem authW_ne_nil (user pw : Option Str) {W : Str} (hne : W ≠ []) (port : Option Nat) : authW user pw W port ≠ [] :=
  EagerLemmas.makeNetloc_ne_nil_written id user pw hne port

theorem userPrefix_forall (P : Nat → Prop) (user pw : Option Str)
    (hu : ∀ s, user = some s → ∀ c ∈ s, P c) (hw : ∀ s, pw = some s → ∀ c ∈ s, P c)
    (h58 : P 58) (h64 : P 64) : ∀ c ∈ userPrefix user pw, P c := by
  unfold userPrefix
  cases user with
  | none =>
    cases pw with
    | none => exact fun _ h => nomatch h
    | some w => simpa [or_imp, forall_and] using ⟨h58, hw w rfl, h64⟩
  | some u =>
    cases pw with
    | none =>
      simp only
      split
      · exact fun _ h => nomatch h
      · simpa [or_imp, forall_and] using ⟨hu u rfl, h64⟩
    | some w => simpa [or_imp, forall_and] using ⟨hu u rfl, h58, hw w rfl, h64⟩

/-- a predicate on characters that holds on every part holds on the whole authority text -/
theorem authW_forall (P : Nat → Prop) (user pw : Option Str) (W : Str) (port : Option Nat)
    (hu : ∀ s, user = some s → ∀ c ∈ s, P c) (hw : ∀ s, pw = some s → ∀ c ∈ s, P c)
    (hW : ∀ c ∈ W, P c) (hd : ∀ c, isDigitC c = true → P c) (h58 : P 58) (h64 : P 64) :
    ∀ c ∈ authW user pw W port, P c := by
  have hhp : ∀ c ∈ hostPortStr W port, P c := by
    cases port with
    | none => exact hW
    | some p =>
      simpa [hostPortStr, or_imp, forall_and] using
        ⟨hW, h58, fun c hc => hd c ((Decimal.natToStr_digits p).2 c hc)⟩
  rw [authW_eq]
  exact List.forall_mem_append.2 ⟨userPrefix_forall P user pw hu hw h58 h64, hhp⟩

theorem authText_forall (P : Nat → Prop) (user pw : Option Str) (h : Str) (port : Option Nat)
    (hu : ∀ s, user = some s → ∀ c ∈ s, P c) (hw : ∀ s, pw = some s → ∀ c ∈ s, P c)
    (hh : ∀ c ∈ h, P c) (hd : ∀ c, isDigitC c = true → P c)
    (h58 : P 58) (h64 : P 64) (h91 : 58 ∈ h → P 91) (h93 : 58 ∈ h → P 93) :
    ∀ c ∈ authText user pw h port, P c := by
  refine authW_forall P user pw (bracket h) port hu hw ?_ hd h58 h64
  unfold bracket
  split
  · rename_i hm
    simpa [or_imp, forall_and] using ⟨h91 (mem_iff.mp hm), hh, h93 (mem_iff.mp hm)⟩
  · exact hh

/-- canonical userinfo around a written host of visible ASCII without delimiters -/
theorem authW_chars {b : Backend} {user pw : Option Str} {W : Str} (port : Option Nat)
    (hu : UserInfoOK b user pw) (hW : ∀ c ∈ W, 33 ≤ c ∧ c < 128 ∧ Rfc.isDelim3 c = false) :
    ∀ c ∈ authW user pw W port, 33 ≤ c ∧ c < 128 ∧ Rfc.isDelim3 c = false := by
  have hcan {s : Str} (hs : Canon (Gen.REQUOTER.tab b) s) : ∀ c ∈ s, 33 ≤ c ∧ c < 128 ∧ Rfc.isDelim3 c = false := by
    intro c hc
    have := canon_user_chars hs c hc
    refine ⟨this.1, this.2.1, ?_⟩
    simp [Rfc.isDelim3]; omega
  apply authW_forall (fun c => 33 ≤ c ∧ c < 128 ∧ Rfc.isDelim3 c = false)
  · exact fun s hs => hcan (hu.user s hs).2
  · exact fun s hs => hcan (hu.pw s hs)
  · exact hW
  · intro c hc
    simp [isDigitC] at hc
    refine ⟨by omega, by omega, ?_⟩
    simp [Rfc.isDelim3]; omega
  · decide
  · decide

theorem authText_chars_of {b : Backend} {user pw : Option Str} {h : Str} (port : Option Nat)
    (hu : UserInfoOK b user pw) (hh : ∀ c ∈ h, 33 ≤ c ∧ c < 128 ∧ Rfc.isDelim3 c = false) :
    ∀ c ∈ authText user pw h port, 33 ≤ c ∧ c < 128 ∧ Rfc.isDelim3 c = false := by
  refine authW_chars port hu ?_
  unfold bracket
  split
  · intro c hc
    simp only [List.mem_append, List.mem_singleton] at hc
    rcases hc with (rfl | hc) | rfl
    · decide
    · exact hh c hc
    · decide
  · exact hh

theorem authText_chars {e : Env} {user pw : Option Str} {h : Str} {port : Option Nat}
    (hu : UserInfoOK e.b user pw) (hh : HostFix e.o h) :
    ∀ c ∈ authText user pw h port, 33 ≤ c ∧ c < 128 ∧ Rfc.isDelim3 c = false :=
  authText_chars_of port hu hh.chars

/-- canonical userinfo has no bracket -/
theorem userInfoOK_no_bracket {b : Backend} {user pw : Option Str} (hu : UserInfoOK b user pw) :
    (∀ s, user = some s → ∀ c ∈ s, c ≠ 91 ∧ c ≠ 93) ∧ (∀ s, pw = some s → ∀ c ∈ s, c ≠ 91 ∧ c ≠ 93) := by
  constructor
  · intro s hs c hc
    have := canon_user_chars (hu.user s hs).2 c hc
    omega
  · intro s hs c hc
    have := canon_user_chars (hu.pw s hs) c hc
    omega

/-- without a bracket in the userinfo and in the written host the authority text has none -/
theorem authW_no_bracket {user pw : Option Str} {W : Str} (port : Option Nat)
    (hu : ∀ s, user = some s → ∀ c ∈ s, c ≠ 91 ∧ c ≠ 93) (hw : ∀ s, pw = some s → ∀ c ∈ s, c ≠ 91 ∧ c ≠ 93)
    (hW : ∀ c ∈ W, c ≠ 91 ∧ c ≠ 93) : ∀ c ∈ authW user pw W port, c ≠ 91 ∧ c ≠ 93 :=
  authW_forall (fun c => c ≠ 91 ∧ c ≠ 93) user pw W port hu hw hW
    (fun c hc => by simp [isDigitC] at hc; omega) (by decide) (by decide)

/-- without a ':' in the host the authority text has no bracket -/
theorem authText_no_bracket {b : Backend} {user pw : Option Str} {h : Str} (port : Option Nat)
    (hu : UserInfoOK b user pw) (h91 : 91 ∉ h) (h93 : 93 ∉ h) (h58 : 58 ∉ h) :
    ∀ c ∈ authText user pw h port, c ≠ 91 ∧ c ≠ 93 := by
  refine authW_no_bracket port (userInfoOK_no_bracket hu).1 (userInfoOK_no_bracket hu).2 ?_
  rw [bracket_of_no_colon h58]
  exact fun c hc => ⟨fun e => h91 (e ▸ hc), fun e => h93 (e ▸ hc)⟩

/-- the text after the last '@' of the authority is the written host and the port -/
theorem authW_hostinfo (user pw : Option Str) {W : Str} (port : Option Nat) (h64 : 64 ∉ W) :
    (rpartition 64 (authW user pw W port)).2.2 = hostPortStr W port := by
  have hw := notMem_hostPortStr_of port h64
  rw [authW_eq]
  rcases userPrefix_nil_or_at user pw with hp | ⟨a, hp⟩
  · rw [hp, List.nil_append, rpartition_not_mem hw]
  · rw [hp, List.append_assoc, List.singleton_append, rpartition_found 64 a _ hw]

/-! ### the bracket check of `split_url` -/

/-- on a text with one bracketed part the check looks at that part only -/
theorem checkBrackets_bracketed (pre t tail : Str) (h91 : 91 ∉ pre) (h93 : 93 ∉ t) :
    checkBrackets (pre ++ 91 :: (t ++ 93 :: tail)) =
      if t.take 1 = [118] then (if ipvFutureOk t then .ok () else .error .valueError)
      else if !mem 58 t then .error .valueError else .ok () := by
  have e1 : partition 91 (pre ++ 91 :: (t ++ 93 :: tail)) = (pre, true, t ++ 93 :: tail) := partition_found 91 _ _ h91
  have e2 : partition 93 (t ++ 93 :: tail) = (t, true, tail) := partition_found 93 t tail h93
  have m1 : mem 91 (pre ++ 91 :: (t ++ 93 :: tail)) = true := mem_iff.mpr (by simp)
  have m2 : mem 93 (pre ++ 91 :: (t ++ 93 :: tail)) = true := mem_iff.mpr (by simp)
  unfold checkBrackets
  simp only [m1, m2, e1, e2, Bool.not_true, Bool.and_false, Bool.or_self, Bool.false_eq_true, if_false, if_true]

/-- the authority text around a bracketed host: the check looks at the host -/
theorem checkBrackets_authW_bracketed (user pw : Option Str) (t : Str) (port : Option Nat)
    (hu : ∀ s, user = some s → ∀ c ∈ s, c ≠ 91 ∧ c ≠ 93) (hw : ∀ s, pw = some s → ∀ c ∈ s, c ≠ 91 ∧ c ≠ 93)
    (h93 : 93 ∉ t) :
    checkBrackets (authW user pw ([91] ++ t ++ [93]) port) =
      if t.take 1 = [118] then (if ipvFutureOk t then .ok () else .error .valueError)
      else if !mem 58 t then .error .valueError else .ok () := by
  obtain ⟨tail, htail⟩ : ∃ tail, hostPortStr ([91] ++ t ++ [93]) port = 91 :: (t ++ 93 :: tail) := by
    cases port with
    | none => exact ⟨[], by simp [hostPortStr]⟩
    | some p => exact ⟨58 :: natToStr p, by simp [hostPortStr]⟩
  rw [authW_eq, htail]
  exact checkBrackets_bracketed _ t tail
    (fun hm => (userPrefix_forall (fun c => c ≠ 91 ∧ c ≠ 93) user pw hu hw (by decide) (by decide) 91 hm).1 rfl) h93

/-- `authText` of userinfo without brackets passes the check: a host with ':' stands in brackets and does not start
    with 'v', a host without ':' brings no bracket -/
theorem checkBrackets_authText_of (user pw : Option Str) {h : Str} (port : Option Nat)
    (hu : ∀ s, user = some s → ∀ c ∈ s, c ≠ 91 ∧ c ≠ 93) (hw : ∀ s, pw = some s → ∀ c ∈ s, c ≠ 91 ∧ c ≠ 93)
    (hh : HostOK h) (hv : 58 ∈ h → h.head? ≠ some 118) :
    checkBrackets (authText user pw h port) = .ok () := by
  by_cases h58 : 58 ∈ h
  · have hb := bracket_of_colon h58
    have hnv : ¬ (h.take 1 = [118]) := by
      intro ht
      apply hv h58
      cases h with
      | nil => simp at ht
      | cons x xs => simp at ht; simp [ht]
    rw [authText_eq_authW, hb, checkBrackets_authW_bracketed user pw h port hu hw hh.2.2.2, if_neg hnv,
      mem_iff.mpr h58]
    rfl
  · have hall := authW_no_bracket (W := bracket h) port hu hw (by
      rw [bracket_of_no_colon h58]
      exact fun c hc => ⟨fun e => hh.2.2.1 (e ▸ hc), fun e => hh.2.2.2 (e ▸ hc)⟩)
    exact checkBrackets_plain (mem_false_iff.mpr (fun hm => (hall 91 hm).1 rfl))
      (mem_false_iff.mpr (fun hm => (hall 93 hm).2 rfl))

theorem checkBrackets_authText {e : Env} {user pw : Option Str} {h : Str} (port : Option Nat)
    (hu : UserInfoOK e.b user pw) (hh : HostFix e.o h) :
    checkBrackets (authText user pw h port) = .ok () :=
  checkBrackets_authText_of user pw port (userInfoOK_no_bracket hu).1 (userInfoOK_no_bracket hu).2 hh.ok hh.notV

/-- the authority text contains '[' only when the host is bracketed -/
theorem authText_no91 {e : Env} {user pw : Option Str} {h : Str} (port : Option Nat)
    (hu : UserInfoOK e.b user pw) (hh : HostFix e.o h) (h58 : 58 ∉ h) : 91 ∉ authText user pw h port :=
  fun hm => (authText_no_bracket port hu hh.ok.2.2.1 hh.ok.2.2.2 h58 91 hm).1 rfl

/-! ### the authority block on a written authority -/

theorem requoteOpt_user {e : Env} {user : Option Str}
    (h : ∀ s, user = some s → Canon (Gen.REQUOTER.tab e.b) s) : requoteOpt e user = user := by
  cases user with
  | none => rfl
  | some s =>
    simp only [requoteOpt, Option.map_some, Option.some.injEq]
    split
    · rfl
    · exact run_fixed e.b _ mem_REQUOTER rfl (h s rfl)

/-- canonical userinfo is stored and cached as it stands -/
theorem stored_of_userInfoOK {e : Env} {user pw : Option Str} (hu : UserInfoOK e.b user pw) :
    cachedUser e user = user ∧ requoteOpt e pw = pw := by
  refine ⟨?_, requoteOpt_user hu.pw⟩
  unfold cachedUser
  rw [requoteOpt_user (fun s hs => (hu.user s hs).2)]
  cases user with
  | none => rfl
  | some u => exact if_neg (by simpa using (hu.user u rfl).1)

/-- An authority text with canonical userinfo is stored unchanged when `split_netloc` reads its pieces back, the host
    it reads (or "" where the scheme allows) encodes to `h1`, and `h1` with the brackets the text has is the written
    host again; the cache holds the written host without its brackets. -/
theorem netBlock_authW (e : Env) (scheme : Str) {user pw host : Option Str} {W h0 h1 : Str} {port : Option Nat}
    (hu : UserInfoOK e.b user pw) (hne : authW user pw W port ≠ [])
    (hsp : splitNetloc e.o (authW user pw W port) = .ok { user := user, password := pw, host := host, port := port })
    (hho : EagerLemmas.hostOr scheme host = .ok h0) (henc : encodeHost e.o h0 false = .ok h1)
    (hkeep : StrTotal.rebracket (mem 91 (rpartition 64 (authW user pw W port)).2.2) h1 = W) :
    netBlock e scheme (authW user pw W port) =
      .ok (authW user pw W port, some (preOf user pw (unbracket W) port)) := by
  rw [netBlock_of hne hsp hho henc, hkeep, (stored_of_userInfoOK hu).1, (stored_of_userInfoOK hu).2,
    makeNetloc_qf (q e Gen.QUOTER) id]
  rfl

/-- the authority block of `encode_url` returns such an authority unchanged -/
theorem netBlock_authority (e : Env) (scheme : Str) {user pw : Option Str} {h : Str} {port : Option Nat}
    (hu : UserInfoOK e.b user pw) (hh : HostFix e.o h) (hp : ∀ p, port = some p → p ≤ 65535) :
    netBlock e scheme (authText user pw h port) =
      .ok (authText user pw h port, some (preOf user pw h port)) := by
  have hkeep : StrTotal.rebracket (mem 91 (rpartition 64 (authW user pw (bracket h) port)).2.2) (bracket h)
      = bracket h := by
    unfold StrTotal.rebracket
    by_cases h58 : 58 ∈ h
    · have : mem 91 (bracket h) = true := by
        rw [bracket_of_colon h58]
        exact mem_iff.mpr (by simp)
      simp [this]
    · have : mem 91 (rpartition 64 (authW user pw (bracket h) port)).2.2 = false :=
        ParseLemmas.mem_rpartition_snd_snd_false (mem_false_iff.mpr (authText_no91 port hu hh h58))
      simp [this]
  have := netBlock_authW e scheme hu (authW_ne_nil user pw (bracket_ne_nil hh.ok.1) port)
    (netloc_roundtrip e.o id user pw h port (userOK_of hu) hh.ok hp) rfl hh.enc hkeep
  rwa [unbracket_bracket h hh.ok] at this

/-! ### `NetFix` texts -/

theorem netFix_nil (e : Env) (scheme : Str) : NetFix e scheme [] none :=
  ⟨fun _ h => (nomatch h), rfl, netBlock_nil e scheme⟩

theorem netFix_authText (e : Env) (scheme : Str) {user pw : Option Str} {h : Str} {port : Option Nat}
    (hu : UserInfoOK e.b user pw) (hh : HostFix e.o h) (hp : ∀ p, port = some p → p ≤ 65535) :
    NetFix e scheme (authText user pw h port) (some (preOf user pw h port)) :=
  ⟨authText_chars hu hh, checkBrackets_authText port hu hh, netBlock_authority e scheme hu hh hp⟩

/-- the explicit port the accessor reads is the cached one, whatever the other components -/
theorem _root_.Yarl.NetFix.explicitPort {e : Env} {scheme N : Str} {pre : Option NetPre} (h : NetFix e scheme N pre)
    (P Q F : Str) : explicitPort e ⟨scheme, N, P, Q, F, pre⟩ = .ok (pre.bind (·.explicitPort)) := by
  by_cases hN : N = []
  · subst hN
    have := h.block
    rw [netBlock_nil] at this
    cases this
    rfl
  · obtain ⟨pr, rfl, _⟩ := netBlock_inv e scheme N N pre h.block hN
    rfl

/-! ### the three host families -/

/-- every non-empty lower-case text of plain host characters is a fixed point of `_encode_host`: a reg-name (ending in
    a digit or not), or an IPv4 literal — `_encode_host` lower-cases the one and copies the other -/
theorem hostFix_plain (o : Oracles) {h : Str} (hne : h ≠ []) (hch : ∀ c ∈ h, hostChar c = true) : HostFix o h := by
  have n (c : Nat) (hc : hostChar c = false) : c ∉ h := by
    intro hm
    rw [hch c hm] at hc
    exact Bool.noConfusion hc
  have hascii : isAscii h = true := isAscii_iff.mpr fun c hc => (hostChar_spec (hch c hc)).2.1
  have hlow : lower h = h := lower_of_no_upper (fun c hc => (hostChar_spec (hch c hc)).2.2.1)
  refine ⟨⟨hne, n 64 (by decide), n 91 (by decide), n 93 (by decide)⟩, fun c hc => ?_,
    fun h58 => absurd h58 (n 58 (by decide)), ?_⟩
  · have := hostChar_spec (hch c hc)
    refine ⟨this.1, this.2.1, ?_⟩
    simp [Rfc.isDelim3]
    omega
  · rw [bracket_of_no_colon (n 58 (by decide))]
    exact encodeHost_self o false hascii hlow
      (fun _ hp => n 58 (by decide) (partition_fst_sub 37 _ 58 (parseIPv6_colon (parseIP_some_v6.1 hp)))) nofun

theorem hostFix_basic (o : Oracles) {h : Str} (hh : HostBasic h) : HostFix o h := hostFix_plain o hh.1 hh.2.1

theorem netBlock_basic (e : Env) (scheme : Str) {h : Str} (hh : HostBasic h) :
    netBlock e scheme h = .ok (h, some (preHost h)) := by
  have h58 : 58 ∉ h := mem_false_iff.mp (hostBasic_notMem hh (by decide))
  have hb := netBlock_authority e scheme (user := none) (pw := none) (port := none)
    ⟨fun s h => (nomatch h), fun s h => (nomatch h)⟩ (hostFix_basic e.o hh) (fun p hp => (nomatch hp))
  rwa [show authText none none h none = h by simp [authText, makeNetloc, bracket_of_no_colon h58]] at hb

theorem hostFix_ipv4 (o : Oracles) {s : Str} {o4 : List Nat} (h : parseIPv4 s = some o4) : HostFix o s := by
  have hne : s ≠ [] := by
    rintro rfl
    simp [parseIPv4, mem] at h
  refine hostFix_plain o hne fun c hc => ?_
  rcases parseIPv4_chars h c hc with rfl | hd
  · decide
  · simp only [isDigitC, Bool.and_eq_true, decide_eq_true_eq] at hd
    unfold hostChar
    simp
    omega

theorem hostFix_ipv6 (o : Oracles) (h8 : List Nat) (hl : h8.length = 8) (hx : ∀ x ∈ h8, x < 65536) :
    HostFix o (ipv6ToStr h8) := by
  have hrt := C16_ipv6_roundtrip h8 hl hx
  have hch := C16_ipv6_text_lower h8
  obtain ⟨n37, _⟩ := C16_ipv6_text_no_pct_dot h8
  have hcolon : 58 ∈ ipv6ToStr h8 := parseIPv6_colon hrt
  have n (c : Nat) (h1 : c ≠ 58) (h2 : isDigitC c = false) (h3 : ¬ (97 ≤ c ∧ c ≤ 102)) : c ∉ ipv6ToStr h8 := by
    intro hm
    rcases hch c hm with h | h | h
    · exact h1 h
    · rw [h2] at h; exact Bool.noConfusion h
    · exact h3 h
  refine ⟨⟨List.ne_nil_of_mem hcolon, n 64 (by decide) (by decide) (by omega), n 91 (by decide) (by decide) (by omega),
    n 93 (by decide) (by decide) (by omega)⟩, ?_, ?_, ?_⟩
  · intro c hc
    rcases hch c hc with rfl | hd | hd
    · decide
    · simp [isDigitC] at hd
      refine ⟨by omega, by omega, ?_⟩
      simp [Rfc.isDelim3]; omega
    · refine ⟨by omega, by omega, ?_⟩
      simp [Rfc.isDelim3]; omega
  · exact fun _ hv => n 118 (by decide) (by decide) (by omega) (List.mem_of_mem_head? hv)
  · rw [bracket_of_colon hcolon]
    exact encodeHost_of_v6_plain o false hrt n37

end FixLemmas

/-! ## Part 7 — the identity for any authority the block stores unchanged -/

namespace FixLemmas
open OutLangLemmas ParseLemmas HostLemmas NetlocLemmas
open UnsplitLemmas (RootedOrEmpty)

theorem scheme_ok_of {scheme : Str} (hs : SchemeOK' scheme) :
    scheme = [] ∨ (scheme.all (fun c => mem c Gen.schemeChars) = true ∧ lower scheme = scheme) := by
  rcases hs with h | ⟨_, h⟩
  · exact Or.inl h
  · right
    refine ⟨?_, lower_of_no_upper (fun c hc => (h c hc).2)⟩
    rw [List.all_eq_true]
    exact fun c hc => (h c hc).1

/-- canonical parts around an authority of visible ASCII without delimiters satisfy the side condition of
    `C07_split_unsplit` -/
theorem partsOK_build (b : Backend) (scheme N P Q F : Str) (hs : SchemeOK' scheme)
    (hN : ∀ c ∈ N, 33 ≤ c ∧ c < 128 ∧ Rfc.isDelim3 c = false) (hbr : checkBrackets N = .ok ())
    (hP : Canon (Gen.PATH_REQUOTER.tab b) P) (hQ : Canon (Gen.QUERY_REQUOTER.tab b) Q)
    (hF : Canon (Gen.FRAGMENT_REQUOTER.tab b) F)
    (hroot : N ≠ [] → RootedOrEmpty P)
    (hauth : scheme ≠ [] → Gen.usesAuthority.contains scheme = true → RootedOrEmpty P)
    (hfirst : scheme = [] → N = [] → 58 ∈ P →
      (P.takeWhile (· ≠ 58) = [] ∨ (P.takeWhile (· ≠ 58)).all (fun c => mem c Gen.schemeChars) = false)) :
    PartsOK { scheme := scheme, netloc := N, path := P, query := Q, fragment := F } := by
  have hp := canon_path_chars hP
  have hq := canon_query_chars hQ
  have hf := canon_fragment_chars hF
  refine ⟨scheme_ok_of hs, ?_, hbr, fun c hc => (hp c hc).2, fun hm => (hq 35 hm).2 rfl, hroot, hauth, hfirst,
    ?_, ?_, ?_, ?_, ?_⟩
  · intro c hc
    obtain ⟨h1, h2, h3⟩ := hN c hc
    simp only [Rfc.isDelim3, Bool.or_eq_false_iff, decide_eq_false_iff_not] at h3
    exact ⟨h3.1.1, h3.1.2, h3.2, h2⟩
  · intro _ _ c hc
    have : c ∈ P := by
      cases P with
      | nil => simp at hc
      | cons a t => simp at hc; subst hc; simp
    have := (hp c this).1
    omega
  · intro c hc; have := (hN c hc).1; omega
  · intro c hc; have := (hp c hc).1; omega
  · intro c hc; have := (hq c hc).1; omega
  · intro c hc; have := hf c hc; omega

theorem noDotSegments_of_compOK {b : Backend} {path query fragment : Str} (hc : CompOK b path query fragment) :
    NoDotSegments path := by
  by_cases hd : 46 ∈ path
  · have := EntryLemmas.noDotSegments_normalizePath path
    rw [hc.norm hd] at this
    exact this
  · exact EntryLemmas.noDotSegments_of_no_dot hd

theorem encPath_fixed' (e : Env) (N P : Str) (hP : Canon (Gen.PATH_REQUOTER.tab e.b) P)
    (hnd : N ≠ [] → NoDotSegments P) : encPath e N P = P := by
  unfold encPath
  split
  · rfl
  · have hq : q e Gen.PATH_REQUOTER P = P := run_fixed e.b _ pr_mem rfl hP
    simp only [hq]
    split
    · rename_i h
      simp only [Bool.and_eq_true, Bool.not_eq_true', List.isEmpty_eq_false_iff] at h
      exact normalizePath_noDotSegs (hnd h.1)
    · rfl

/-- the constructor on what `unsplit_result` writes from canonical parts: the scheme and the canonical components
    come back as they are, the authority as the authority block stores it (unchanged for a `NetFix` text) -/
theorem encode_unsplit (e : Env) (scheme N P Q F : Str) {N' : Str} (pre' : Option NetPre)
    (hok : PartsOK { scheme := scheme, netloc := N, path := P, query := Q, fragment := F })
    (hnb : netBlock e scheme N = .ok (N', pre'))
    (hP : Canon (Gen.PATH_REQUOTER.tab e.b) P) (hQ : Canon (Gen.QUERY_REQUOTER.tab e.b) Q)
    (hF : Canon (Gen.FRAGMENT_REQUOTER.tab e.b) F) (hnd : N' ≠ [] → NoDotSegments P) :
    encodeUrl e (unsplitResult scheme N P Q F) =
      .ok { scheme := scheme, netloc := N', path := P, query := Q, fragment := F, pre := pre' } := by
  have hsplit := C07_split_unsplit e.o _ hok
  rw [encodeUrl_of e _ _ N' pre' hsplit hnb]
  simp only [finishUrl, encQuery_fixed e hQ, encFragment_fixed e hF, encPath_fixed' e N' P hP hnd]

/-- The identity in its general form, for ANY authority text `N` that the authority block of `encode_url` stores
    unchanged (`NetFix`: empty, `authText`, the bracketed and the host-less ones are instances): if the port it caches is
    not the scheme's default and the component clauses of `CanonString` hold, then the string written from the five
    parts is parsed into the URL with exactly these parts and that cache, and printed back. -/
theorem identity_netFix (e : Env) (scheme N path query fragment : Str) (pre : Option NetPre)
    (hs : SchemeOK' scheme) (hN : NetFix e scheme N pre)
    (hport : ∀ p, pre.bind (·.explicitPort) = some p → some p ≠ defaultPort scheme)
    (hP : Canon (Gen.PATH_REQUOTER.tab e.b) path) (hQ : Canon (Gen.QUERY_REQUOTER.tab e.b) query)
    (hF : Canon (Gen.FRAGMENT_REQUOTER.tab e.b) fragment)
    (hroot : N ≠ [] → RootedOrEmpty path) (hnd : N ≠ [] → NoDotSegments path)
    (hne : N ≠ [] → path = [] → query = [] ∧ fragment = [])
    (hfirst : scheme = [] → N = [] → 58 ∈ path →
      (path.takeWhile (· ≠ 58) = [] ∨ (path.takeWhile (· ≠ 58)).all (fun c => mem c Gen.schemeChars) = false))
    (hauth : scheme ≠ [] → Gen.usesAuthority.contains scheme = true → N = [] → RootedOrEmpty path) :
    encodeUrl e (unsplitResult scheme N path query fragment) = .ok ⟨scheme, N, path, query, fragment, pre⟩ ∧
    str e ⟨scheme, N, path, query, fragment, pre⟩ = .ok (unsplitResult scheme N path query fragment) := by
  have hok := partsOK_build e.b scheme N path query fragment hs hN.chars hN.brackets hP hQ hF hroot
    (fun h1 h2 => if hn : N = [] then hauth h1 h2 hn else hroot hn) hfirst
  exact ⟨encode_unsplit e scheme N path query fragment pre hok hN.block hP hQ hF hnd,
    str_unsplit e _ _ (hN.explicitPort path query fragment) hport hne⟩

/-- `identity_netFix` under an authority, with the component conditions bundled (`CompOK`) -/
theorem identity_auth (e : Env) (scheme N path query fragment : Str) (pre : NetPre)
    (hs : SchemeOK' scheme) (hne : N ≠ []) (hN : NetFix e scheme N (some pre))
    (hport : ∀ p, pre.explicitPort = some p → some p ≠ defaultPort scheme) (hc : CompOK e.b path query fragment) :
    encodeUrl e (unsplitResult scheme N path query fragment) = .ok ⟨scheme, N, path, query, fragment, some pre⟩ ∧
    str e ⟨scheme, N, path, query, fragment, some pre⟩ = .ok (unsplitResult scheme N path query fragment) :=
  identity_netFix e scheme N path query fragment (some pre) hs hN hport hc.pathC hc.queryC hc.fragmentC
    (fun _ => rootedOrEmpty_of_rooted hc.rooted) (fun _ => noDotSegments_of_compOK hc) (fun _ => hc.nonempty)
    (fun _ h => absurd h hne) (fun _ _ h => absurd h hne)

/-- the constructor half for a scheme and an authority, on the composed string: no condition on the port -/
theorem ctor_compose (e : Env) (scheme N path query fragment : Str) (pre : NetPre) (hs : SchemeOK scheme)
    (hne : N ≠ []) (hN : NetFix e scheme N (some pre)) (hc : CompOK e.b path query fragment) :
    encodeUrl e (composeUrl scheme N path query fragment) = .ok (urlOf scheme N path query fragment pre) := by
  have hr := rootedOrEmpty_of_rooted hc.rooted
  rw [← unsplit_compose scheme N path query fragment hs.1 hne hc.rooted]
  exact encode_unsplit e scheme N path query fragment (some pre)
    (partsOK_build e.b scheme N path query fragment (Or.inr hs) hN.chars hN.brackets hc.pathC hc.queryC hc.fragmentC
      (fun _ => hr) (fun _ _ => hr) (fun _ h => absurd h hne))
    hN.block hc.pathC hc.queryC hc.fragmentC (fun _ => noDotSegments_of_compOK hc)

/-- the general identity theorem: whatever the authority family, if the authority block returns the
    authority text unchanged and the cached port is not the default one, the URL is a fixed point -/
theorem identity_core (e : Env) (scheme auth path query fragment : Str) (pre : NetPre)
    (hs : SchemeOK scheme)
    (ha : ∀ c ∈ auth, 33 ≤ c ∧ c < 128 ∧ Rfc.isDelim3 c = false) (hne : auth ≠ [])
    (hb : checkBrackets auth = .ok ())
    (hn : netBlock e scheme auth = .ok (auth, some pre))
    (hport : ∀ p, pre.explicitPort = some p → some p ≠ defaultPort scheme)
    (hc : CompOK e.b path query fragment) :
    encodeUrl e (composeUrl scheme auth path query fragment) =
      .ok (urlOf scheme auth path query fragment pre) ∧
    str e (urlOf scheme auth path query fragment pre)
      = .ok (composeUrl scheme auth path query fragment) := by
  rw [← unsplit_compose scheme auth path query fragment hs.1 hne hc.rooted]
  exact identity_auth e scheme auth path query fragment pre (Or.inr hs) hne ⟨ha, hb, hn⟩ hport hc

/-- the general identity theorem for an authority `[user[:password]@]host[:port]` -/
theorem identity_authority (e : Env) (scheme : Str) (user pw : Option Str) (h : Str) (port : Option Nat)
    (path query fragment : Str) (hs : SchemeOK scheme) (hu : UserInfoOK e.b user pw) (hh : HostFix e.o h)
    (hp : PortOK scheme port) (hc : CompOK e.b path query fragment) :
    encodeUrl e (composeUrl scheme (authText user pw h port) path query fragment) =
      .ok (urlOf scheme (authText user pw h port) path query fragment (preOf user pw h port)) ∧
    str e (urlOf scheme (authText user pw h port) path query fragment (preOf user pw h port)) =
      .ok (composeUrl scheme (authText user pw h port) path query fragment) :=
  identity_core e scheme _ path query fragment (preOf user pw h port) hs (authText_chars hu hh)
    (makeNetloc_ne_nil id user pw hh.ok.1 port) (checkBrackets_authText port hu hh)
    (netBlock_authority e scheme hu hh hp.range) hp.notDefault hc

end FixLemmas
end Yarl
