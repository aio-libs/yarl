/-
  CanonDecide.lean — Boolean checkers for the authority clause of "already canonical" (property C04), with their
  soundness lemmas.  Used by YarlProofs/C04Decide.lean (`canonicalB`).

  `hostKindB h`     — "lower-case ASCII host of a supported kind", unbracketed text: a non-empty text of `hostChar`s
                      (visible ASCII, no upper-case letter, none of `/ ? # : @ [ ]`: reg-names, IPv4 literals), or the
                      compressed lower-case text of an IPv6 address (`ipv6ToStr (parseIPv6 a) = a`) optionally followed
                      by `%zone` (`textChar`s).  Sound for `HostFix o h`, every oracle `o`.
  `userInfoB`       — user non-empty and REQUOTER-canonical, password REQUOTER-canonical (`UserInfoOK`).
  `portB`           — port ≤ 65535 and not the scheme's default (`PortOK`).
  `netlocB scheme a`— the authority text `a` is empty, or reads (with the model's `split_netloc`, no oracle) as
                      `[user[:password]@]host[:port]` AND IS LITERALLY the text `authText user pw host port`
                      (resp. `authTextB …` for a bracketed non-IPv6 host, `bracketTextB`) of these pieces — so a port
                      with leading zeros, an empty user "@h", a superfluous ':' … are all rejected.
                      Sound for `CanonNetlocB e scheme a`, every `e`.
-/
import YarlModel
import YarlProofs.C04Bracket
namespace Yarl
namespace R8
open FixLemmas NetShape HostLemmas NetlocLemmas BrHost ParseLemmas

/-- compressed lower-case IPv6 text (what `ipaddress` prints for the address it reads from the text), optionally
    followed by `%zone` (visible ASCII, none of `/ ? # @ [ ]`) -/
def v6B (h : Str) : Bool :=
  match parseIPv6 (partition 37 h).1 with
  | some h8 => decide (h8.length = 8) && h8.all (fun x => decide (x < 65536)) &&
      decide (ipv6ToStr h8 = (partition 37 h).1) && (partition 37 h).2.2.all textChar
  | none => false

/-- a host text of a supported kind, as it stands between '@' and ':port' without brackets: lower-case reg-name /
    IPv4 text (`hostChar`: visible ASCII, no upper-case letter, none of `/ ? # : @ [ ]`), or `v6B` -/
def hostKindB (h : Str) : Bool := (!h.isEmpty && h.all hostChar) || v6B h

theorem v6B_sound (o : Oracles) {h : Str} (hb : v6B h = true) : HostFix o h := by
  unfold v6B at hb
  split at hb
  · rename_i h8 hp
    simp only [Bool.and_eq_true, decide_eq_true_eq, List.all_eq_true] at hb
    obtain ⟨⟨⟨hl, hx⟩, hs⟩, hz⟩ := hb
    have hj := partition_join 37 h
    by_cases hsep : (partition 37 h).2.1 = true
    · rw [hsep, if_pos rfl, ← hs] at hj
      rw [hj]
      exact C03_hostFix_ipv6_zone o h8 hl hx _ hz
    · simp only [Bool.not_eq_true] at hsep
      rw [hsep] at hj
      simp only [Bool.false_eq_true, if_false, List.append_nil] at hj
      rw [hj, ← hs]
      exact hostFix_ipv6 o h8 hl hx
  · cases hb

theorem hostKindB_sound (o : Oracles) {h : Str} (hb : hostKindB h = true) : HostFix o h := by
  unfold hostKindB at hb
  rcases Bool.or_eq_true_iff.mp hb with hb | hb
  · simp only [Bool.and_eq_true, Bool.not_eq_true', List.isEmpty_eq_false_iff, List.all_eq_true] at hb
    exact C03_hostFix_lower o hb.1 hb.2
  · exact v6B_sound o hb

/-- `UserInfoOK` as a Boolean: the user (when present) non-empty, user and password canonical text of the REQUOTER
    (no literal ':' '@' '/' '?' '#' '[' ']', upper-case escapes of exactly the characters that must be escaped) -/
def userInfoB (user pw : Option Str) : Bool :=
  (match user with
   | none => true
   | some s => !s.isEmpty && isCanon (Gen.REQUOTER.tab .c) s) &&
  (match pw with
   | none => true
   | some s => isCanon (Gen.REQUOTER.tab .c) s)

theorem userInfoB_sound (b : Backend) {user pw : Option Str} (h : userInfoB user pw = true) : UserInfoOK b user pw := by
  unfold userInfoB at h
  rw [Bool.and_eq_true] at h
  obtain ⟨h1, h2⟩ := h
  constructor
  · intro s hs
    subst hs
    simp only [Bool.and_eq_true, Bool.not_eq_true', List.isEmpty_eq_false_iff] at h1
    exact ⟨h1.1, isCanon_sound_b mem_REQUOTER b h1.2⟩
  · intro s hs
    subst hs
    exact isCanon_sound_b mem_REQUOTER b h2

/-- `PortOK` as a Boolean: at most 65535 and not the scheme's default port -/
def portB (scheme : Str) (port : Option Nat) : Bool :=
  match port with
  | none => true
  | some p => decide (p ≤ 65535) && decide (some p ≠ defaultPort scheme)

theorem portB_sound {scheme : Str} {port : Option Nat} (h : portB scheme port = true) : PortOK scheme port := by
  unfold portB at h
  constructor
  · intro p hp; subst hp
    simp only [Bool.and_eq_true, decide_eq_true_eq] at h
    exact h.1
  · intro p hp; subst hp
    simp only [Bool.and_eq_true, decide_eq_true_eq] at h
    exact h.2

/-- the authority clause: empty, or `[user[:password]@]host[:port]` — read with `split_netloc` (no oracle: a non-ASCII
    port makes it fail) and REQUIRED to be literally `authText user pw host port` (host of `hostKindB`; brackets exactly
    around a host with ':') or `authTextB user pw host port` (host of `bracketTextB`, always in brackets) -/
def netlocB (scheme a : Str) : Bool :=
  a.isEmpty ||
  (match splitNetloc Oracles.empty a with
   | .ok np =>
     match np.host with
     | some h => userInfoB np.user np.password && portB scheme np.port &&
        ((hostKindB h && decide (authText np.user np.password h np.port = a)) ||
         (bracketTextB h && decide (authTextB np.user np.password h np.port = a)))
     | none => false
   | .error _ => false)

theorem netlocB_sound (e : Env) {scheme a : Str} (h : netlocB scheme a = true) : CanonNetlocB e scheme a := by
  unfold netlocB at h
  rcases Bool.or_eq_true_iff.mp h with h | h
  · exact .plain (.empty (List.isEmpty_iff.mp h))
  · split at h
    · rename_i np _
      split at h
      · rename_i hh _
        simp only [Bool.and_eq_true, Bool.or_eq_true, decide_eq_true_eq] at h
        obtain ⟨⟨hu, hp⟩, hk | hk⟩ := h
        · exact .plain (.auth _ _ hh _ hk.2.symm (userInfoB_sound e.b hu) (hostKindB_sound e.o hk.1) (portB_sound hp))
        · exact .brk _ _ hh _ hk.2.symm (userInfoB_sound e.b hu)
            (C03_bracket_hostFixB e.o (bracketTextB_sound hk.1)) (portB_sound hp)
      · cases h
    · cases h

/-- a canonical authority passes the bracket check of `split_url` and is ASCII (no NFKC oracle is consulted) -/
theorem canonNetlocB_parse (e : Env) {scheme a : Str} (h : CanonNetlocB e scheme a) :
    checkBrackets a = .ok () ∧ isAscii a = true :=
  let ⟨_, hN, _⟩ := h.netFix
  ⟨hN.brackets, isAscii_of_chars hN.chars⟩

end R8
end Yarl
