/-
  Utf8Round.lean — the strict stateful decoder inverts the encoder:
  `decodeBuf (utf8 c) = .char c`, and every proper non-empty prefix of `utf8 c`
  is `.incomplete` (both read off the normal form `Utf8Shape`: lead byte + payload).  Conversely (`decodeBuf_spec`):
  `.char c` is answered only on `utf8 c`, `.incomplete` only on a lead byte followed by continuation bytes.  Hence
  UTF-8 is a prefix code (`utf8_prefix_free`).
-/
import YarlProofs.Defs
import YarlProofs.Lemmas.Basics
namespace Yarl

/-! ### the four length classes of `utf8` -/

theorem utf8_2 (c : Nat) (h1 : 0x80 ≤ c) (h2 : c < 0x800) :
    utf8 c = [0xC0 + c / 64, 0x80 + c % 64] := by
  have : ¬ c < 0x80 := by omega
  simp [utf8, this, h2]

theorem utf8_3 (c : Nat) (h1 : 0x800 ≤ c) (h2 : c < 0x10000) (hs : isSurrogate c = false) :
    utf8 c = [0xE0 + c / 4096, 0x80 + (c / 64) % 64, 0x80 + c % 64] := by
  have a : ¬ c < 0x80 := by omega
  have b : ¬ c < 0x800 := by omega
  simp [utf8, a, b, hs, h2]

theorem not_surrogate {c : Nat} (h : c < 0xD800 ∨ 0xDFFF < c) : isSurrogate c = false := by
  simp only [isSurrogate, Bool.and_eq_false_iff, decide_eq_false_iff_not]; omega

theorem utf8_4 (c : Nat) (h1 : 0x10000 ≤ c) (h2 : c ≤ 0x10FFFF) :
    utf8 c = [0xF0 + c / 262144, 0x80 + (c / 4096) % 64, 0x80 + (c / 64) % 64, 0x80 + c % 64] := by
  have a : ¬ c < 0x80 := by omega
  have b : ¬ c < 0x800 := by omega
  have d : ¬ c < 0x10000 := by omega
  have hs : isSurrogate c = false := not_surrogate (Or.inr (by omega))
  simp [utf8, a, b, d, hs, h2]

theorem isCont_80 (x : Nat) (h : x < 64) : isCont (0x80 + x) = true := by
  simp only [isCont, Bool.and_eq_true, decide_eq_true_eq]; omega

/-! ### one ASCII byte (the other classes: `Utf8Shape.decodeBuf`) -/

theorem dec_1 (c : Nat) (h : c < 0x80) : decodeBuf [c] = .char c := by
  simp [decodeBuf, h]

/-- Evaluates `decodeBuf` on bytes given as arithmetic expressions: every test of the decoder is an inequality between
    them, decided by `omega`; `isCont_80` recognises the continuation bytes. -/
macro "decode_bytes" : tactic =>
  `(tactic| simp (disch := omega) only [decodeBuf, isCont_80, if_neg, if_pos, if_true, if_false, Bool.not_true, Bool.or_self,
    Bool.false_eq_true, Bool.and_eq_true, Bool.or_eq_true, decide_eq_true_eq, Nat.add_sub_cancel_left, List.take_succ_cons,
    List.take_zero])

/-- An encoding as lead byte and payload: the marker of the lead byte plus its payload bits, then continuation bytes
    `0x80 + six bits`, under the side conditions of Unicode Table 3-7 (no overlong form, no surrogate, at most U+10FFFF).
    The arithmetic on the code point (`/ 64`, `% 64` …) is done once, in `Utf8Shape.of_utf8`; what is proved from a
    shape is linear. -/
inductive Utf8Shape : Nat → List Nat → Prop
  | one (c : Nat) : c < 0x80 → Utf8Shape c [c]
  | two (a0 a1 : Nat) : 2 ≤ a0 → a0 < 32 → a1 < 64 → Utf8Shape (a0 * 64 + a1) [0xC0 + a0, 0x80 + a1]
  | three (a0 a1 a2 : Nat) : a0 < 16 → a1 < 64 → a2 < 64 → (a0 = 0 → 32 ≤ a1) → (a0 = 13 → a1 < 32) →
      Utf8Shape (a0 * 4096 + a1 * 64 + a2) [0xE0 + a0, 0x80 + a1, 0x80 + a2]
  | four (a0 a1 a2 a3 : Nat) : a0 < 5 → a1 < 64 → a2 < 64 → a3 < 64 → (a0 = 0 → 16 ≤ a1) → (a0 = 4 → a1 < 16) →
      Utf8Shape (a0 * 262144 + a1 * 4096 + a2 * 64 + a3) [0xF0 + a0, 0x80 + a1, 0x80 + a2, 0x80 + a3]

namespace Utf8Shape

theorem of_utf8 (c : Nat) (hc : c ≤ 0x10FFFF) (hs : isSurrogate c = false) : Utf8Shape c (utf8 c) := by
  simp only [isSurrogate, Bool.and_eq_false_iff, decide_eq_false_iff_not] at hs
  by_cases h1 : c < 0x80
  · rw [utf8_ascii h1]
    exact .one c h1
  by_cases h2 : c < 0x800
  · rw [utf8_2 c (by omega) h2]
    have := Utf8Shape.two (c / 64) (c % 64) (by omega) (by omega) (by omega)
    rwa [Nat.div_add_mod' c 64] at this
  by_cases h3 : c < 0x10000
  · rw [utf8_3 c (by omega) h3 (not_surrogate (by omega))]
    have := Utf8Shape.three (c / 4096) (c / 64 % 64) (c % 64) (by omega) (by omega) (by omega) (by omega) (by omega)
    rwa [show c / 4096 * 4096 + c / 64 % 64 * 64 + c % 64 = c by omega] at this
  · rw [utf8_4 c (by omega) hc]
    have := Utf8Shape.four (c / 262144) (c / 4096 % 64) (c / 64 % 64) (c % 64) (by omega) (by omega) (by omega)
      (by omega) (by omega) (by omega)
    rwa [show c / 262144 * 262144 + c / 4096 % 64 * 4096 + c / 64 % 64 * 64 + c % 64 = c by omega] at this

theorem decodeBuf {c : Nat} {bs : List Nat} (h : Utf8Shape c bs) : Yarl.decodeBuf bs = .char c := by
  cases h with
  | one c h => exact dec_1 c h
  | two => decode_bytes
  | three => decode_bytes
  | four => decode_bytes

theorem decodeBuf_take {c : Nat} {bs : List Nat} (h : Utf8Shape c bs) (k : Nat) (hk : 0 < k)
    (hk2 : k < bs.length) : Yarl.decodeBuf (bs.take k) = .incomplete := by
  cases h with
  | one =>
    simp only [List.length_cons, List.length_nil] at hk2
    omega
  | two =>
    simp only [List.length_cons, List.length_nil] at hk2
    obtain rfl : k = 1 := by omega
    decode_bytes
  | three =>
    simp only [List.length_cons, List.length_nil] at hk2
    obtain rfl | rfl : k = 1 ∨ k = 2 := by omega
    · decode_bytes
    · decode_bytes
  | four =>
    simp only [List.length_cons, List.length_nil] at hk2
    obtain rfl | rfl | rfl : k = 1 ∨ k = 2 ∨ k = 3 := by omega
    · decode_bytes
    · decode_bytes
    · decode_bytes

/-- the bytes of an encoding: a lead byte that is ASCII or in `C2..F4`, then continuation bytes -/
theorem bytes {c : Nat} {bs : List Nat} (h : Utf8Shape c bs) :
    ∃ b0 r, bs = b0 :: r ∧ (b0 < 0x80 ∨ (0xC2 ≤ b0 ∧ b0 < 0xF5)) ∧ (∀ x ∈ r, isCont x = true) ∧ ∀ x ∈ bs, x < 256 := by
  cases h with
  | one c h =>
    refine ⟨_, _, rfl, Or.inl h, nofun, ?_⟩
    simp only [List.mem_singleton, forall_eq]
    omega
  | two =>
    refine ⟨_, _, rfl, Or.inr (by omega), ?_, ?_⟩
    · simp [isCont_80, *]
    · simp only [List.mem_cons, List.not_mem_nil, or_false, forall_eq_or_imp, forall_eq]
      omega
  | three =>
    refine ⟨_, _, rfl, Or.inr (by omega), ?_, ?_⟩
    · simp [isCont_80, *]
    · simp only [List.mem_cons, List.not_mem_nil, or_false, forall_eq_or_imp, forall_eq]
      omega
  | four =>
    refine ⟨_, _, rfl, Or.inr (by omega), ?_, ?_⟩
    · simp [isCont_80, *]
    · simp only [List.mem_cons, List.not_mem_nil, or_false, forall_eq_or_imp, forall_eq]
      omega

/-- a code point from 0x80 on is written as two or more bytes, none of them ASCII -/
theorem high {c : Nat} {bs : List Nat} (h : Utf8Shape c bs) (hc : 0x80 ≤ c) :
    2 ≤ bs.length ∧ ∀ b ∈ bs, 0x80 ≤ b := by
  cases h with
  | one c h => omega
  | two =>
    refine ⟨by simp, fun b hb => ?_⟩
    simp only [List.mem_cons, List.not_mem_nil, or_false] at hb
    omega
  | three =>
    refine ⟨by simp, fun b hb => ?_⟩
    simp only [List.mem_cons, List.not_mem_nil, or_false] at hb
    omega
  | four =>
    refine ⟨by simp, fun b hb => ?_⟩
    simp only [List.mem_cons, List.not_mem_nil, or_false] at hb
    omega

end Utf8Shape

/-- the decoder inverts the encoder -/
theorem decodeBuf_utf8 (c : Nat) (hc : c ≤ 0x10FFFF) (hs : isSurrogate c = false) :
    decodeBuf (utf8 c) = .char c :=
  (Utf8Shape.of_utf8 c hc hs).decodeBuf

/-- every proper non-empty prefix of an encoding keeps the decoder pending -/
theorem decodeBuf_utf8_prefix (c : Nat) (hc : c ≤ 0x10FFFF) (hs : isSurrogate c = false)
    (k : Nat) (hk : 0 < k) (hk2 : k < (utf8 c).length) :
    decodeBuf ((utf8 c).take k) = .incomplete :=
  (Utf8Shape.of_utf8 c hc hs).decodeBuf_take k hk hk2

/-- an encoding starts with a byte that is ASCII or in `C2..F4` (so not a continuation byte) and goes on with
    continuation bytes -/
theorem utf8_bytes (c : Nat) (hc : c ≤ 0x10FFFF) (hs : isSurrogate c = false) :
    ∃ b0 r, utf8 c = b0 :: r ∧ (b0 < 0x80 ∨ (0xC2 ≤ b0 ∧ b0 < 0xF5)) ∧ (∀ x ∈ r, isCont x = true) ∧
      ∀ x ∈ utf8 c, x < 256 :=
  (Utf8Shape.of_utf8 c hc hs).bytes

theorem utf8_length_pos (c : Nat) (hc : c ≤ 0x10FFFF) (hs : isSurrogate c = false) :
    0 < (utf8 c).length := by
  obtain ⟨b0, r, e, _⟩ := utf8_bytes c hc hs
  rw [e]
  exact Nat.succ_pos _

/-! ### what each answer of the decoder says about the buffer -/

theorem isCont_iff {b : Nat} : isCont b = true ↔ 0x80 ≤ b ∧ b < 0xC0 := by
  simp [isCont]

/-- a continuation byte is `10xxxxxx`: the marker `0x80` plus six payload bits -/
theorem isCont_payload {b : Nat} (h : isCont b = true) : ∃ a, b = 0x80 + a ∧ a < 64 := by
  rw [isCont_iff] at h; exact ⟨b - 0x80, by omega, by omega⟩

theorem isCont_of_not {b : Nat} (h : ¬ (!isCont b) = true) : isCont b = true := by
  simpa using h

/-- What an answer of the decoder says about the buffer: `.char c` that the buffer is the encoding of the
    scalar value `c`; `.incomplete` that it is a possible lead byte followed by continuation bytes. -/
def DecSpec (bs : List Nat) : DecRes → Prop
  | .char c => bs = utf8 c ∧ c ≤ 0x10FFFF ∧ isSurrogate c = false
  | .incomplete => ∃ b0 r, bs = b0 :: r ∧ 0xC2 ≤ b0 ∧ b0 < 0xF5 ∧ ∀ x ∈ r, isCont x = true
  | .invalid => True

theorem DecSpec.ite {bs : List Nat} {p : Prop} [Decidable p] {x y : DecRes}
    (hx : p → DecSpec bs x) (hy : ¬ p → DecSpec bs y) : DecSpec bs (if p then x else y) := by
  by_cases h : p
  · rw [if_pos h]; exact hx h
  · rw [if_neg h]; exact hy h

theorem DecSpec.pending {b0 : Nat} {r : List Nat} (h0 : ¬ b0 < 0xC2) (h1 : b0 < 0xF5)
    (hr : ∀ x ∈ r, isCont x = true) : DecSpec (b0 :: r) .incomplete :=
  ⟨b0, r, rfl, Nat.le_of_not_lt h0, h1, hr⟩

theorem decodeBuf_spec1 (b0 : Nat) : DecSpec [b0] (decodeBuf [b0]) := by
  simp only [decodeBuf]
  -- one `.ite` for each `if` of `decodeBuf`, in its order; the `.invalid` leaves are `trivial`
  refine .ite (fun h0 => ?_) fun _ => .ite (fun _ => trivial) fun h1 => .ite (fun h2 => ?_) fun _ => trivial
  · exact ⟨(utf8_ascii h0).symm, by omega, not_surrogate (by omega)⟩
  · exact .pending h1 h2 nofun

theorem decodeBuf_spec2 (b0 b1 : Nat) : DecSpec [b0, b1] (decodeBuf [b0, b1]) := by
  simp only [decodeBuf]
  refine .ite (fun _ => trivial) fun h0 => .ite (fun h1 => .ite (fun c1 => ?two) fun _ => trivial) fun _ =>
    .ite (fun h2 => .ite (fun _ => trivial) fun c1 => .ite (fun _ => trivial) fun _ => ?p3) fun _ =>
    .ite (fun h3 => .ite (fun _ => trivial) fun c1 => .ite (fun _ => trivial) fun _ =>
      .ite (fun _ => trivial) fun _ => ?p4) fun _ => trivial
  case p3 => exact .pending h0 (by omega) (by simpa using isCont_of_not c1)
  case p4 => exact .pending h0 h3 (by simpa using isCont_of_not c1)
  case two =>
    obtain ⟨a0, rfl⟩ := Nat.exists_eq_add_of_le (Nat.le_of_not_lt h0)
    obtain ⟨a1, rfl, _⟩ := isCont_payload c1
    have e : (0xC2 + a0 - 0xC0) * 64 + (0x80 + a1 - 0x80) = (a0 + 2) * 64 + a1 := by omega
    rw [e]
    refine ⟨?_, by omega, not_surrogate (by omega)⟩
    rw [utf8_2 _ (by omega) (by omega)]
    simp only [List.cons.injEq, and_true]
    omega

theorem decodeBuf_spec3 (b0 b1 b2 : Nat) : DecSpec [b0, b1, b2] (decodeBuf [b0, b1, b2]) := by
  simp only [decodeBuf]
  refine .ite (fun _ => trivial) fun h0 =>
    .ite (fun h1 => .ite (fun _ => trivial) fun cc => .ite (fun _ => trivial) fun e0 =>
      .ite (fun _ => trivial) fun ed => ?three) fun h1 =>
    .ite (fun h2 => .ite (fun _ => trivial) fun cc => .ite (fun _ => trivial) fun _ =>
      .ite (fun _ => trivial) fun _ => ?p4) fun _ => trivial
  case p4 =>
    have cc : isCont b1 = true ∧ isCont b2 = true := by simpa using cc
    exact .pending (by omega) h2 (by simpa using cc)
  case three =>
    have cc : isCont b1 = true ∧ isCont b2 = true := by simpa using cc
    obtain ⟨a0, rfl⟩ := Nat.exists_eq_add_of_le (Nat.le_of_not_lt h0)
    obtain ⟨a1, rfl, _⟩ := isCont_payload cc.1
    obtain ⟨a2, rfl, _⟩ := isCont_payload cc.2
    simp only [Bool.and_eq_true, decide_eq_true_eq] at e0 ed
    simp only [Nat.add_sub_cancel_left]
    have hs : isSurrogate (a0 * 4096 + a1 * 64 + a2) = false := not_surrogate (by omega)
    refine ⟨?_, by omega, hs⟩
    rw [utf8_3 _ (by omega) (by omega) hs]
    simp only [List.cons.injEq, and_true]
    omega

theorem decodeBuf_spec4 (b0 b1 b2 b3 : Nat) : DecSpec [b0, b1, b2, b3] (decodeBuf [b0, b1, b2, b3]) := by
  simp only [decodeBuf]
  refine .ite (fun _ => trivial) fun h0 => .ite (fun _ => trivial) fun cc => .ite (fun _ => trivial) fun e0 =>
    .ite (fun _ => trivial) fun e4 => ?_
  have cc : (isCont b1 = true ∧ isCont b2 = true) ∧ isCont b3 = true := by simpa using cc
  have h0 : 0xF0 ≤ b0 ∧ b0 < 0xF5 := by simpa using h0
  obtain ⟨a0, rfl⟩ := Nat.exists_eq_add_of_le h0.1
  obtain ⟨a1, rfl, _⟩ := isCont_payload cc.1.1
  obtain ⟨a2, rfl, _⟩ := isCont_payload cc.1.2
  obtain ⟨a3, rfl, _⟩ := isCont_payload cc.2
  simp only [Bool.and_eq_true, decide_eq_true_eq] at e0 e4
  simp only [Nat.add_sub_cancel_left]
  refine ⟨?_, by omega, not_surrogate (by omega)⟩
  rw [utf8_4 _ (by omega) (by omega)]
  simp only [List.cons.injEq, and_true]
  omega

theorem decodeBuf_spec : ∀ bs, DecSpec bs (decodeBuf bs)
  | [] => trivial
  | [b0] => decodeBuf_spec1 b0
  | [b0, b1] => decodeBuf_spec2 b0 b1
  | [b0, b1, b2] => decodeBuf_spec3 b0 b1 b2
  | [b0, b1, b2, b3] => decodeBuf_spec4 b0 b1 b2 b3
  | _ :: _ :: _ :: _ :: _ :: _ => trivial


theorem decodeBuf_char {bs : List Nat} {c : Nat} (h : decodeBuf bs = .char c) :
    bs = utf8 c ∧ c ≤ 0x10FFFF ∧ isSurrogate c = false := by
  have := decodeBuf_spec bs; rwa [h] at this

theorem decodeBuf_incomplete {bs : List Nat} (h : decodeBuf bs = .incomplete) :
    ∃ b0 r, bs = b0 :: r ∧ 0xC2 ≤ b0 ∧ b0 < 0xF5 ∧ ∀ x ∈ r, isCont x = true := by
  have := decodeBuf_spec bs; rwa [h] at this

/-- after its first byte an encoding consists of continuation bytes -/
theorem utf8_drop_isCont (c : Nat) (hc : c ≤ 0x10FFFF) (hs : isSurrogate c = false) {k : Nat} (hk : 0 < k) :
    ∀ x ∈ (utf8 c).drop k, isCont x = true := by
  obtain ⟨b0, r, e, _, hr, _⟩ := utf8_bytes c hc hs
  obtain ⟨j, rfl⟩ : ∃ j, k = j + 1 := ⟨k - 1, by omega⟩
  rw [e, List.drop_succ_cons]
  exact fun x hx => hr x (List.mem_of_mem_drop hx)

/-- whatever the decoder does not reject consists, after its first byte, of continuation bytes -/
theorem decodeBuf_tail_isCont {bs : List Nat} (h : decodeBuf bs ≠ .invalid) : ∀ x ∈ bs.tail, isCont x = true := by
  cases hd : decodeBuf bs with
  | invalid => exact absurd hd h
  | incomplete =>
    obtain ⟨b0, r, rfl, _, _, hr⟩ := decodeBuf_incomplete hd
    exact hr
  | char c =>
    obtain ⟨rfl, hc, hs⟩ := decodeBuf_char hd
    rw [← List.drop_one]
    exact utf8_drop_isCont c hc hs Nat.one_pos

/-- an ASCII byte never continues a pending sequence -/
theorem decodeBuf_pend_ascii (pend : List Nat) (hp : pend ≠ []) (x : Nat) (hx : x < 128) :
    decodeBuf (pend ++ [x]) = .invalid := by
  apply Decidable.byContradiction
  intro h
  have hc : isCont x = true := by
    apply decodeBuf_tail_isCont h
    cases pend with
    | nil => exact absurd rfl hp
    | cons a p => simp
  rw [isCont_iff] at hc
  omega

/-! ### UTF-8 is a prefix code -/

/-- The shorter of two encodings that start the same byte string is the longer one: the decoder answers `.char` on
    a whole encoding and `.incomplete` on every proper prefix of one. -/
theorem utf8_prefix_le (c c' : Nat) (hc : c ≤ 0x10FFFF) (hs : isSurrogate c = false)
    (hc' : c' ≤ 0x10FFFF) (hs' : isSurrogate c' = false) (X Y : List Nat)
    (h : utf8 c ++ X = utf8 c' ++ Y) (hle : (utf8 c).length ≤ (utf8 c').length) : c = c' ∧ X = Y := by
  have e : utf8 c = (utf8 c').take (utf8 c).length := by
    have := congrArg (List.take (utf8 c).length) h
    rwa [List.take_left, List.take_append_of_le_length hle] at this
  have hd := decodeBuf_utf8 c hc hs
  by_cases hlt : (utf8 c).length < (utf8 c').length
  · rw [e, decodeBuf_utf8_prefix c' hc' hs' _ (utf8_length_pos c hc hs) hlt] at hd
    cases hd
  · rw [show (utf8 c).length = (utf8 c').length by omega, List.take_length] at e
    rw [e, decodeBuf_utf8 c' hc' hs'] at hd
    cases hd
    exact ⟨rfl, List.append_cancel_left h⟩

/-- UTF-8 is a prefix code -/
theorem utf8_prefix_free (c c' : Nat) (hc : c ≤ 0x10FFFF) (hs : isSurrogate c = false)
    (hc' : c' ≤ 0x10FFFF) (hs' : isSurrogate c' = false) (X Y : List Nat)
    (h : utf8 c ++ X = utf8 c' ++ Y) : c = c' ∧ X = Y := by
  rcases Nat.le_total (utf8 c).length (utf8 c').length with hle | hle
  · exact utf8_prefix_le c c' hc hs hc' hs' X Y h hle
  · obtain ⟨h1, h2⟩ := utf8_prefix_le c' c hc' hs' hc hs Y X h.symm hle
    exact ⟨h1.symm, h2.symm⟩

theorem utf8_head_not_cont (c : Nat) (hc : c ≤ 0x10FFFF) (hs : isSurrogate c = false) :
    ∃ x r, utf8 c = x :: r ∧ isCont x = false := by
  obtain ⟨b0, r, e, hb, _⟩ := utf8_bytes c hc hs
  refine ⟨b0, r, e, ?_⟩
  simp only [isCont, Bool.and_eq_false_iff, decide_eq_false_iff_not]
  omega

end Yarl
