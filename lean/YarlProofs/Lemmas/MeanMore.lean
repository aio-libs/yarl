/-
  MeanMore.lean — helper lemmas for C02More.lean (C02 at URL level for build / modifiers / join, and the
  segment-survival characterisation of `normalize_path`).  Namespace `R15` at the end holds two facts about a query
  given as a string (`getStr`, `extendQuery_nil`) that C02QueryStr.lean and C02BuildQuery.lean share.
-/
import YarlModel
import YarlProofs.C02HeadlineMore
import YarlProofs.C06More
import YarlProofs.C15More
import YarlProofs.C15Entry
import YarlProofs.C14
import YarlProofs.C14More
import YarlProofs.Lemmas.Basics
namespace Yarl
open PathLemmas PathAlg WfLemmas

/-! ### vocabulary of C02More.lean -/

/-- a supplied (possibly escaped) segment "is a dot segment" when it percent-decodes to "." or ".." ("%2E", ".%2e" … count) -/
def C02_isDotSeg (sg : Str) : Bool := decide (pctDecode sg = [46]) || decide (pctDecode sg = [46, 46])

/-- `C02_Survivors qf L S`: the stored segment list `S` is what dot-segment removal leaves of the supplied segment list `L`
    (each segment written by `qf`): a subsequence `K0` (`List.Sublist`: same order, nothing new, nothing repeated) of the
    segments of `L` other than "." / "..", each stored as `qf` of it, followed by ONE empty segment exactly when the last
    segment of `L` is "." or ".." (`PathLemmas.trail`: "/a/." is "/a/") -/
def C02_Survivors (qf : Str → Str) (L S : List Str) : Prop :=
  ∃ K0 : List Str, K0.Sublist (C02_nonDots L) ∧ S = K0.map qf ++ trail L

/-- decoded view of one '&'-piece `x` of a query STRING supplied as decoded text (with_query(str), build(query_string=)):
    (bytes of the key, "has an '='", bytes of the value), the split being at the first '='; a supplied '+' means a space
    there (`plusToSpace`, documented yarl behaviour).  Counterpart of `C02_pairView` (C07More.lean) for escaped text. -/
def C02_textPairView (x : Str) : List Nat × Bool × List Nat :=
  (utf8s (plusToSpace (partition 61 x).1), (partition 61 x).2.1, utf8s (plusToSpace (partition 61 x).2.2))

/-- the '/'-segments the arguments of `joinpath` (one argument: `/`) supply, in path order: every argument split at '/',
    the trailing empty segment of a NON-last argument dropped (`joinpath("a/", "b")` is "a/b") -/
def C02_suppliedSegs (paths : List Str) : List Str :=
  paths.dropLast.flatMap (fun p => stripTrail (splitOn 47 p)) ++
  (match paths.getLast? with
   | some p => splitOn 47 p
   | none => [])

/-- the '/'-segments of the path `join` builds BEFORE dot-segment removal (RFC 3986 §5.2.2 target / §5.2.3 merge), for a
    reference with a non-empty path and no authority: the reference's own segments when its path is rooted; otherwise the
    base's segments without the last one, followed by the reference's segments (under an authority an empty base path counts
    as "/") -/
def C02_joinTargetSegs (base ref : Url) : List Str :=
  if ref.path.head? = some 47 then splitOn 47 ref.path
  else if !base.netloc.isEmpty && base.path.isEmpty then [] :: splitOn 47 ref.path
  else (splitOn 47 base.path).dropLast ++ splitOn 47 ref.path

namespace MeanMore

/-! ### which segments survive `normalize_path_segments` (`nps_shape`, Lemmas/PathAlg.lean) -/


theorem nonDots_of_noDots {L : List Str} (h : NoDots L) : C02_nonDots L = L := by
  apply List.filter_eq_self.2
  intro s hs
  have := h s hs
  simp [this.1, this.2]

theorem trail_cons (a : Str) (L : List Str) (h : L ≠ []) : trail (a :: L) = trail L := by
  have := trail_append [a] L h
  simpa using this

theorem splitOn_cons47 (r : Str) : splitOn 47 (47 :: r) = [] :: splitOn 47 r := by
  simp [splitOn]

theorem nil_ne_dot : ([] : Str) ≠ dot ∧ ([] : Str) ≠ dotdot := by
  constructor <;> intro h <;> cases h

/-- `normalize_path`, segment view: the segments of the result are a subsequence `K` of the non-dot segments of the
    argument, followed by one empty segment exactly when the last segment of the argument is "." or ".." -/
theorem normalizePath_segments (p : Str) :
    ∃ K, splitOn 47 (normalizePath p) = K ++ trail (splitOn 47 p) ∧ K.Sublist (C02_nonDots (splitOn 47 p)) := by
  unfold normalizePath
  split
  · rename_i rest
    have hne := PathLemmas.splitOn_ne_nil 47 rest
    obtain ⟨h1, h2⟩ := nps_shape (splitOn 47 rest)
    refine ⟨[] :: normLoop [] (splitOn 47 rest), ?_, ?_⟩
    · rw [splitOn_cons47, PathLemmas.splitOn_joinC _ (DotMore.normalizePathSegments_ne_nil _ hne)
        (normalizePathSegments_no_sep _ (splitOn_no_sep 47 rest)), splitOn_cons47, trail_cons _ _ hne, h1]
      rfl
    · rw [splitOn_cons47, nonDots_cons_other _ _ nil_ne_dot.1 nil_ne_dot.2]
      exact List.Sublist.cons_cons _ h2
  · have hne := PathLemmas.splitOn_ne_nil 47 p
    obtain ⟨h1, h2⟩ := nps_shape (splitOn 47 p)
    refine ⟨normLoop [] (splitOn 47 p), ?_, h2⟩
    rw [PathLemmas.splitOn_joinC _ (DotMore.normalizePathSegments_ne_nil _ hne)
        (normalizePathSegments_no_sep _ (splitOn_no_sep 47 p)), h1]

/-- `normalize_path` of a rooted path: "" followed by `normalize_path_segments` of the other segments -/
theorem splitOn_normalizePath_rooted (X : Str) :
    splitOn 47 (normalizePath (47 :: X)) = [] :: normalizePathSegments (splitOn 47 X) := by
  have hne := PathLemmas.splitOn_ne_nil 47 X
  show splitOn 47 (47 :: joinC 47 (normalizePathSegments (splitOn 47 X))) = _
  rw [splitOn_cons47, PathLemmas.splitOn_joinC _ (DotMore.normalizePathSegments_ne_nil _ hne)
        (normalizePathSegments_no_sep _ (splitOn_no_sep 47 X))]

/-! ### the requoter and dot segments -/

theorem requote_dot_iff (e : Env) (sg : Str) (hs : PyStr sg) (hn : NoSurrogate sg) :
    (q e Gen.PATH_REQUOTER sg = dot ∨ q e Gen.PATH_REQUOTER sg = dotdot) ↔ C02_isDotSeg sg = true := by
  have hd : pctDecode (q e Gen.PATH_REQUOTER sg) = pctDecode sg := C02_gen_decode_PATH_REQUOTER e.b sg hs hn
  have hc := DotMore.path_canon_decode_dot e.b (ReachFix.q_path_requoter_canon e sg hs)
  unfold C02_isDotSeg
  simp only [Bool.or_eq_true, decide_eq_true_eq]
  constructor
  · rintro (h | h)
    · left; rw [← hd, h]; exact CtorShape.pctDecode_dot.1
    · right; rw [← hd, h]; exact CtorShape.pctDecode_dot.2
  · rintro (h | h)
    · left; exact hc.1 (hd.trans h)
    · right; exact hc.2 (hd.trans h)

/-- the non-dot segments of a mapped list, when `d x` says whether `f x` is a dot segment -/
theorem nonDots_map_of {f : Str → Str} {d : Str → Bool} (L : List Str)
    (h : ∀ x ∈ L, (f x = dot ∨ f x = dotdot) ↔ d x = true) :
    C02_nonDots (L.map f) = (L.filter (fun x => !d x)).map f := by
  unfold C02_nonDots
  rw [List.filter_map]
  congr 1
  apply List.filter_congr
  intro x hx
  cases hd : d x
  · have hn : ¬ (f x = dot ∨ f x = dotdot) := fun hh => by rw [(h x hx).1 hh] at hd; cases hd
    simp [not_or.1 hn]
  · rcases (h x hx).2 hd with h1 | h1 <;> simp [h1, dot, dotdot]

theorem nonDots_map_requote (e : Env) (L : List Str) (h : ∀ sg ∈ L, PyStr sg ∧ NoSurrogate sg) :
    C02_nonDots (L.map (q e Gen.PATH_REQUOTER)) = (L.filter (fun sg => !C02_isDotSeg sg)).map (q e Gen.PATH_REQUOTER) :=
  nonDots_map_of L fun x hx => requote_dot_iff e x (h x hx).1 (h x hx).2

theorem trail_map_requote (e : Env) (L : List Str) (h : ∀ sg ∈ L, PyStr sg ∧ NoSurrogate sg) :
    trail (L.map (q e Gen.PATH_REQUOTER)) = if L.getLast?.any C02_isDotSeg then [[]] else [] := by
  unfold trail
  rw [List.getLast?_map]
  cases hl : L.getLast? with
  | none => rfl
  | some l =>
    have hm := h l (List.mem_of_getLast? hl)
    have hiff := requote_dot_iff e l hm.1 hm.2
    simp only [Option.map_some, Option.any_some]
    by_cases hd : C02_isDotSeg l = true
    · rw [if_pos (hiff.2 hd), if_pos hd]
    · rw [if_neg (fun hh => hd (hiff.1 hh)), if_neg hd]

theorem good_segs {s : Str} (hs : PyStr s) (hn : NoSurrogate s) :
    ∀ sg ∈ splitOn 47 s, PyStr sg ∧ NoSurrogate sg :=
  fun _ h => ⟨PathMore.pyStr_seg hs h, PathMore.noSurr_seg hn h⟩

/-! ### `C02_Survivors` -/

theorem survivors_normalizePath (p : Str) : C02_Survivors id (splitOn 47 p) (splitOn 47 (normalizePath p)) := by
  obtain ⟨K, h1, h2⟩ := normalizePath_segments p
  exact ⟨K, h2, by simpa using h1⟩

theorem survivors_nps (M : List Str) : C02_Survivors id M (normalizePathSegments M) := by
  obtain ⟨h1, h2⟩ := nps_shape M
  exact ⟨_, h2, by simpa using h1⟩

theorem trail_cases (L : List Str) : trail L = [] ∨ trail L = [[]] := by
  unfold trail
  split
  · split
    · exact Or.inr rfl
    · exact Or.inl rfl
  · exact Or.inl rfl

/-- every stored segment is the written form of a supplied non-dot segment, or empty -/
theorem Survivors.mem {qf : Str → Str} {L S : List Str} (h : C02_Survivors qf L S) :
    ∀ sg ∈ S, sg = [] ∨ ∃ x ∈ L, x ≠ dot ∧ x ≠ dotdot ∧ sg = qf x := by
  obtain ⟨K0, hK, rfl⟩ := h
  intro sg hsg
  rcases List.mem_append.1 hsg with hm | hm
  · obtain ⟨x, hx, rfl⟩ := List.mem_map.1 hm
    have := mem_nonDots.1 (hK.subset hx)
    exact Or.inr ⟨x, this.1, this.2.1, this.2.2, rfl⟩
  · rcases trail_cases L with ht | ht
    · rw [ht] at hm; cases hm
    · rw [ht] at hm
      exact Or.inl (by simpa using hm)

/-- the stored list is a subsequence of the written non-dot supplied segments followed by one empty segment -/
theorem Survivors.sublist {qf : Str → Str} {L S : List Str} (h : C02_Survivors qf L S) :
    S.Sublist ((C02_nonDots L).map qf ++ [[]]) := by
  obtain ⟨K0, hK, rfl⟩ := h
  apply List.Sublist.append (hK.map qf)
  rcases trail_cases L with ht | ht <;> rw [ht] <;> simp

/-- … and of the written non-dot supplied segments alone when the last supplied segment is no dot segment -/
theorem Survivors.sublist_of_trail {qf : Str → Str} {L S : List Str} (h : C02_Survivors qf L S) (ht : trail L = []) :
    S.Sublist ((C02_nonDots L).map qf) := by
  obtain ⟨K0, hK, rfl⟩ := h
  rw [ht, List.append_nil]
  exact hK.map qf

theorem trail_eq_nil_iff (L : List Str) : trail L = [] ↔ ∀ l, L.getLast? = some l → l ≠ dot ∧ l ≠ dotdot := by
  unfold trail
  cases L.getLast? with
  | none => simp
  | some l =>
    by_cases h : l = dot ∨ l = dotdot
    · simp only [h, if_true]
      constructor
      · intro hh; cases hh
      · intro hh
        have := hh l rfl
        rcases h with h | h
        · exact absurd h this.1
        · exact absurd h this.2
    · simp only [h, if_false, true_iff]
      intro l' hl'
      cases hl'
      exact ⟨fun e => h (Or.inl e), fun e => h (Or.inr e)⟩

theorem nonDots_length_lt (L : List Str) (h : trail L ≠ []) : (C02_nonDots L).length < L.length := by
  rcases List.eq_nil_or_concat L with rfl | ⟨init, l, rfl⟩
  · exact absurd rfl h
  · have hl : l = dot ∨ l = dotdot := by
      rw [List.concat_eq_append, trail_concat] at h
      by_cases hd : l = dot ∨ l = dotdot
      · exact hd
      · simp [hd] at h
    have : C02_nonDots (init ++ [l]) = C02_nonDots init := by
      rw [nonDots_append]
      rcases hl with rfl | rfl
      · rw [nonDots_cons_dot]; simp [C02_nonDots]
      · rw [nonDots_cons_dotdot]; simp [C02_nonDots]
    rw [List.concat_eq_append, this]
    have := (nonDots_sublist init).length_le
    simp
    omega

/-- dot-segment removal never creates segments: at most as many are stored as were supplied -/
theorem Survivors.length_le {qf : Str → Str} {L S : List Str} (h : C02_Survivors qf L S) : S.length ≤ L.length := by
  obtain ⟨K0, hK, rfl⟩ := h
  have h1 := hK.length_le
  have h2 := (nonDots_sublist L).length_le
  rcases trail_cases L with ht | ht
  · simp [ht]; omega
  · have := nonDots_length_lt L (by rw [ht]; simp)
    simp [ht]; omega

/-! ### the non-requoting PATH_QUOTER and dot segments -/

theorem nonDots_map_pq (e : Env) (L : List Str) (h : ∀ sg ∈ L, PyStr sg ∧ NoSurrogate sg) :
    C02_nonDots (L.map (q e Gen.PATH_QUOTER)) = (C02_nonDots L).map (q e Gen.PATH_QUOTER) :=
  nonDots_map_of L fun x hx => by
    obtain ⟨i1, i2⟩ := PathMore.q_path_eq_dot_iff e x (h x hx).1 (h x hx).2
    rw [i1, i2]; simp

theorem trail_map_pq (e : Env) (L : List Str) (h : ∀ sg ∈ L, PyStr sg ∧ NoSurrogate sg) :
    trail (L.map (q e Gen.PATH_QUOTER)) = trail L := by
  unfold trail
  rw [List.getLast?_map]
  cases hl : L.getLast? with
  | none => rfl
  | some l =>
    have hm := h l (List.mem_of_getLast? hl)
    obtain ⟨i1, i2⟩ := PathMore.q_path_eq_dot_iff e l hm.1 hm.2
    simp only [Option.map_some, i1, i2]

/-- transfer of `C02_Survivors` from the list of written segments to the list of supplied ones -/
theorem survivors_pq (e : Env) (L S : List Str) (h : ∀ sg ∈ L, PyStr sg ∧ NoSurrogate sg)
    (hS : C02_Survivors id (L.map (q e Gen.PATH_QUOTER)) S) : C02_Survivors (q e Gen.PATH_QUOTER) L S := by
  obtain ⟨K, hK, rfl⟩ := hS
  rw [nonDots_map_pq e L h] at hK
  obtain ⟨K0, hK0, rfl⟩ := List.sublist_map_iff.1 hK
  exact ⟨K0, hK0, by rw [trail_map_pq e L h]; simp⟩

/-- PATH_QUOTER, one text: quoting commutes with splitting at '/', every written segment percent-decodes to the UTF-8 bytes
    of the supplied segment and contains no '/' -/
theorem pq_facts (e : Env) (T : Str) (hT : PyStr T) (hn : NoSurrogate T) :
    splitOn 47 (q e Gen.PATH_QUOTER T) = (splitOn 47 T).map (q e Gen.PATH_QUOTER) ∧
    (∀ sg ∈ splitOn 47 T, pctDecode (q e Gen.PATH_QUOTER sg) = utf8s sg ∧ 47 ∉ q e Gen.PATH_QUOTER sg) := by
  refine ⟨splitOn_q e T hT, fun sg hsg => ?_⟩
  have hp := (good_segs hT hn sg hsg).1
  exact ⟨C02_gen_decode_PATH_QUOTER e.b sg hp, q_path_avoid e sg hp 47 (.inr rfl) (splitOn_no_sep 47 T sg hsg)⟩

/-- … and after `normalize_path` -/
theorem pq_normalized (e : Env) (T : Str) (hT : PyStr T) (hn : NoSurrogate T) :
    C02_Survivors (q e Gen.PATH_QUOTER) (splitOn 47 T) (splitOn 47 (normalizePath (q e Gen.PATH_QUOTER T))) := by
  apply survivors_pq e _ _ (good_segs hT hn)
  rw [← (pq_facts e T hT hn).1]
  exact survivors_normalizePath _

theorem pq_noDots (e : Env) (T : Str) (hT : PyStr T) (hn : NoSurrogate T) (hd : NoDots (splitOn 47 T)) :
    normalizePath (q e Gen.PATH_QUOTER T) = q e Gen.PATH_QUOTER T :=
  PathMore.normalizePath_noDots _ (PathMore.noDots_q e T hT hn hd)

/-! ### percent-decoding a concatenation -/

/-- an escape never spans a non-hex character -/
theorem pctDecode_append_sep (a : Str) {d : Nat} (hd : isHexC d = false) (b : Str) :
    pctDecode (a ++ d :: b) = pctDecode a ++ pctDecode (d :: b) := by
  fun_induction pctDecode a with
  | case1 => rfl
  | case2 rest v d1 d2 rest' hm ih =>
    rw [List.cons_append, pctDecode_esc (TokLemmas.takeEscape_append_some hm (d :: b)), ih]
    rfl
  | case3 rest hm ih =>
    rw [List.cons_append, pctDecode_noesc (TokLemmas.takeEscape_append_none hm hd b), ih]
    rfl
  | case4 c rest hc ih =>
    rw [List.cons_append, pctDecode_cons_ne hc, ih, List.append_assoc]

/-! ### with_path -/

theorem good_ensureSlash {t : Str} (ht : PyStr t) (hn : NoSurrogate t) :
    PyStr (ensureSlash t) ∧ NoSurrogate (ensureSlash t) := by
  unfold ensureSlash
  split
  · exact ⟨ht, hn⟩
  · exact ⟨ht, hn⟩
  · exact ⟨PathMore.pyStr_cons47 ht, PathMore.noSurr_cons47 hn⟩

theorem q_ensureSlash (e : Env) (t : Str) (ht : PyStr t) (hn : NoSurrogate t) :
    q e Gen.PATH_QUOTER (ensureSlash t) = ensureSlash (q e Gen.PATH_QUOTER t) := by
  cases t with
  | nil =>
    rw [show ensureSlash ([] : Str) = [] from rfl, PathMore.q_path_nil]; rfl
  | cons c r =>
    by_cases hc : c = 47
    · subst hc
      rw [show ensureSlash (47 :: r) = 47 :: r from rfl, PathMore.q_cons47 e r (PathMore.pyStr_cons ht)]
      rfl
    · have h1 : ensureSlash (c :: r) = 47 :: c :: r := by
        rw [Yarl.ensureSlash_of_ne_nil (by simp), rooted_of_ne47 r hc]
      have hne : q e Gen.PATH_QUOTER (c :: r) ≠ [] := PathAlg.q_path_ne_nil e _ ht hn (by simp)
      have hh := PathMore.q_path_head e (c :: r) ht hn (by simpa using hc)
      rw [h1, PathMore.q_cons47 e _ ht, Yarl.ensureSlash_of_ne_nil hne]
      obtain ⟨x, xs, hx⟩ := List.exists_cons_of_ne_nil hne
      rw [hx] at hh ⊢
      have hx47 : x ≠ 47 := by simpa using hh
      rw [rooted_of_ne47 xs hx47]

/-- what `with_path(t)` stores: PATH_QUOTER of the rooted argument, dot segments removed under an authority -/
theorem withPath_path (e : Env) (u : Url) (t : Str) (kq kf : Bool) (ht : PyStr t) (hn : NoSurrogate t) :
    ((withPath e u t false kq kf).path = q e Gen.PATH_QUOTER (ensureSlash t) ∧
        (u.netloc = [] ∨ 46 ∉ q e Gen.PATH_QUOTER t)) ∨
      (u.netloc ≠ [] ∧ (withPath e u t false kq kf).path = normalizePath (q e Gen.PATH_QUOTER (ensureSlash t))) := by
  rw [withPath_eq, q_ensureSlash e t ht hn]
  simp only [fromParts]
  by_cases hg : (!u.netloc.isEmpty && mem 46 (q e Gen.PATH_QUOTER t)) = true
  · rw [if_pos hg]
    simp only [Bool.and_eq_true, Bool.not_eq_true', List.isEmpty_eq_false_iff] at hg
    right
    have hne : q e Gen.PATH_QUOTER t ≠ [] := by
      intro h0; rw [h0] at hg; simp [mem] at hg
    refine ⟨hg.1, ?_⟩
    rw [Yarl.ensureSlash_of_ne_nil hne]
    obtain ⟨r, hr, _⟩ := rooted_eq_cons (q e Gen.PATH_QUOTER t)
    rw [hr]
    obtain ⟨r', hr'⟩ := C15_rooted r
    rw [hr']
    rfl
  · rw [if_neg hg]
    left
    refine ⟨rfl, ?_⟩
    by_cases h0 : u.netloc = []
    · exact Or.inl h0
    · right
      intro hm
      apply hg
      simp only [Bool.and_eq_true, Bool.not_eq_true', List.isEmpty_eq_false_iff]
      exact ⟨h0, by rw [mem_eq]; simpa using hm⟩

/-! ### `/` and joinpath -/

theorem suppliedSegs_mem {paths : List Str} {sg : Str} (h : sg ∈ C02_suppliedSegs paths) :
    ∃ p ∈ paths, sg ∈ splitOn 47 p := by
  unfold C02_suppliedSegs at h
  rcases List.mem_append.1 h with h | h
  · obtain ⟨p, hp, hs⟩ := List.mem_flatMap.1 h
    exact ⟨p, List.dropLast_subset _ hp, mem_stripTrail hs⟩
  · split at h
    · rename_i p hp
      exact ⟨p, List.mem_of_getLast? hp, h⟩
    · cases h

theorem suppliedSegs_ne_nil {paths : List Str} (h : paths ≠ []) : C02_suppliedSegs paths ≠ [] := by
  unfold C02_suppliedSegs
  rw [List.getLast?_eq_some_getLast h]
  exact fun h0 => splitOn_ne_nil 47 _ (List.append_eq_nil_iff.1 h0).2

theorem suppliedSegs_good {paths : List Str} (hg : ∀ p ∈ paths, PyStr p ∧ NoSurrogate p) :
    ∀ sg ∈ C02_suppliedSegs paths, PyStr sg ∧ NoSurrogate sg ∧ 47 ∉ sg := by
  intro sg h
  obtain ⟨p, hp, hs⟩ := suppliedSegs_mem h
  exact ⟨(good_segs (hg p hp).1 (hg p hp).2 sg hs).1, (good_segs (hg p hp).1 (hg p hp).2 sg hs).2,
    splitOn_no_sep 47 p sg hs⟩

/-- the new segments `_make_child` appends are the quoted supplied segments, one for one -/
theorem childSegs_supplied (e : Env) (paths : List Str) (hg : ∀ p ∈ paths, PyStr p ∧ NoSurrogate p) :
    DotMore.childSegs e paths = (C02_suppliedSegs paths).map (q e Gen.PATH_QUOTER) := by
  unfold DotMore.childSegs C02_suppliedSegs
  rw [List.map_append, List.map_flatMap]
  congr 1
  · apply flatMap_congr'
    intro p hp
    have hpp := hg p (List.dropLast_subset _ hp)
    rw [splitOn_q e p hpp.1,
      PathMore.stripTrail_map_q e _ (fun x hx => (good_segs hpp.1 hpp.2 x hx).1)
        (fun x hx => (good_segs hpp.1 hpp.2 x hx).2)]
  · cases hl : paths.getLast? with
    | none => rfl
    | some p =>
      have hpp := hg p (List.mem_of_getLast? hl)
      exact splitOn_q e p hpp.1

theorem splitOn_fixRoot_joinC (N : List Str) (hN : N ≠ []) (hs : Segs N) :
    splitOn 47 (fixRoot (joinC 47 N)) = if N.head? = some [] then N else [] :: N := by
  obtain ⟨a, N', rfl⟩ := List.exists_cons_of_ne_nil hN
  cases a with
  | nil =>
    simp only [List.head?_cons, if_true]
    by_cases h0 : N' = []
    · subst h0; rfl
    · rw [DotMore.joinC_root_cons N' h0, DotMore.fixRoot_cons, ← DotMore.joinC_root_cons N' h0,
        PathLemmas.splitOn_joinC _ (by simp) hs]
  | cons c a' =>
    have hc : c ≠ 47 := fun h => hs (c :: a') List.mem_cons_self (h ▸ List.mem_cons_self)
    have h1 : joinC 47 ((c :: a') :: N') = c :: (a' ++ HostLemmas.flatC 47 N') := by rw [joinC_cons]; rfl
    have h2 : fixRoot (c :: (a' ++ HostLemmas.flatC 47 N')) = 47 :: c :: (a' ++ HostLemmas.flatC 47 N') := by
      unfold fixRoot
      split
      · rename_i heq; cases heq
      · rename_i r heq; exact absurd (List.cons.inj heq).1 hc
      · rfl
    have hne : ((c :: a') :: N').head? ≠ some [] := by simp
    rw [if_neg hne, h1, h2, ← h1, ← DotMore.joinC_root_cons _ (by simp),
      PathLemmas.splitOn_joinC _ (by simp) (segs_cons (by simp) hs)]

/-- the survivors of a ROOTED segment list, after `fixRoot` has restored a root that ".." consumed -/
theorem survivors_fixRoot (M' : List Str) (hs : Segs ([] :: M')) :
    C02_Survivors id ([] :: M') (splitOn 47 (fixRoot (joinC 47 (normalizePathSegments ([] :: M'))))) := by
  obtain ⟨h1, h2⟩ := nps_shape ([] :: M')
  have hN := DotMore.normalizePathSegments_ne_nil ([] :: M') (by simp)
  have hsN : Segs (normalizePathSegments ([] :: M')) := normalizePathSegments_no_sep _ hs
  rw [splitOn_fixRoot_joinC _ hN hsN]
  rw [h1] at hN ⊢
  rw [nonDots_cons_other _ _ nil_ne_dot.1 nil_ne_dot.2] at h2
  split
  · exact ⟨_, by rw [nonDots_cons_other _ _ nil_ne_dot.1 nil_ne_dot.2]; exact h2, by simp⟩
  · rename_i hh
    refine ⟨[] :: normLoop [] ([] :: M'), ?_, by simp⟩
    rw [nonDots_cons_other _ _ nil_ne_dot.1 nil_ne_dot.2]
    apply List.Sublist.cons_cons
    cases hK : normLoop [] ([] :: M') with
    | nil =>
      exfalso
      rw [hK] at hN hh
      rcases trail_cases ([] :: M') with ht | ht
      · rw [ht] at hN; exact hN rfl
      · rw [ht] at hh; exact hh rfl
    | cons k K1 =>
      rw [hK] at h2 hh
      have hk : k ≠ [] := by
        intro h0; subst h0; exact hh rfl
      cases h2 with
      | cons _ h => exact h
      | cons_cons _ h => exact absurd rfl hk

/-! ### join -/
section Join
open JoinLemmas

/-- `JoinShape.join_cases` with the authority of the reference decided: in the third case `ref.netloc = []`
    (a scheme that resolves relative references also uses an authority), from `C14_passthrough` and `join_rel` -/
theorem join_shape (e : Env) (base ref : Url) :
    join e base ref = ref ∨
    (join e base ref = fromParts base.scheme ref.netloc ref.path ref.query ref.fragment) ∨
    (ref.netloc = [] ∧ ∃ qy, join e base ref = fromParts base.scheme base.netloc (joinPath base ref) qy ref.fragment) := by
  by_cases hpass : ((!ref.scheme.isEmpty ∧ ref.scheme ≠ base.scheme) ∨
      ¬ Gen.usesRelative.contains (if !ref.scheme.isEmpty then ref.scheme else base.scheme) = true)
  · exact Or.inl (C14_passthrough e base ref hpass)
  · right
    simp only [not_or, not_and, Decidable.not_not] at hpass
    obtain ⟨h1, h2⟩ := hpass
    have hsch : ref.scheme = [] ∨ ref.scheme = base.scheme := by
      by_cases h0 : ref.scheme = []
      · exact Or.inl h0
      · exact Or.inr (h1 (by simpa using h0))
    have hs := scheme_eq base ref hsch
    rw [hs] at h2
    rw [join_rel e base ref h2 hsch]
    split
    · exact Or.inl rfl
    · rename_i hn
      exact Or.inr ⟨by simpa using hn, _, rfl⟩

theorem splitOn_target (base ref : Url) :
    splitOn 47 (target base ref) = C02_joinTargetSegs base ref := by
  unfold target C02_joinTargetSegs
  split
  · rfl
  · unfold Rfc.merge
    show splitOn 47 (if (!base.netloc.isEmpty && base.path.isEmpty) = true then 47 :: ref.path
      else (base.path.reverse.dropWhile (· ≠ 47)).reverse ++ ref.path) = _
    by_cases hc : (!base.netloc.isEmpty && base.path.isEmpty) = true
    · rw [if_pos hc, if_pos hc]; exact splitOn_cons47 _
    · rw [if_neg hc, if_neg hc]; exact C14_merged_segments _ _

theorem joinC_joinTargetSegs (base ref : Url) : joinC 47 (C02_joinTargetSegs base ref) = target base ref := by
  rw [← splitOn_target]; exact joinC_splitOn _

theorem mem_rawParts_rooted (u : Url) (hr : u.netloc = [] ∨ u.path = [] ∨ u.path.head? = some 47) {sg : Str}
    (h : sg ∈ rawParts u) : sg = [47] ∨ sg ∈ splitOn 47 u.path := by
  cases hp : u.path with
  | nil =>
    unfold rawParts at h
    rw [hp] at h
    by_cases hn : u.netloc = []
    · simp [hn] at h; right; simpa using h
    · simp [hn] at h; left; exact h
  | cons c rest =>
    by_cases hc : c = 47
    · subst hc
      rw [PathAlg.rawParts_of_rooted u rest hp] at h
      rcases List.mem_cons.1 h with h | h
      · exact Or.inl h
      · right; rw [splitOn_cons47]; exact List.mem_cons_of_mem _ h
    · have hn : u.netloc = [] := netloc_nil_of_rootless (fun h => hr.resolve_left h) hp hc
      rw [JoinLemmas.rawParts_rootless u hn (by rw [hp]; simpa using hc), hp] at h
      exact Or.inr h

theorem mem_splitOn_rawParts (u : Url) (hr : u.netloc = [] ∨ u.path = [] ∨ u.path.head? = some 47) {sg : Str}
    (h : sg ∈ splitOn 47 u.path) : sg = [] ∨ sg ∈ rawParts u := by
  cases hp : u.path with
  | nil =>
    rw [hp] at h
    left; simpa [splitOn] using h
  | cons c rest =>
    rw [hp] at h
    by_cases hc : c = 47
    · subst hc
      rw [PathAlg.rawParts_of_rooted u rest hp]
      rw [splitOn_cons47] at h
      rcases List.mem_cons.1 h with h | h
      · exact Or.inl h
      · exact Or.inr (List.mem_cons_of_mem _ h)
    · have hn : u.netloc = [] := netloc_nil_of_rootless (fun h => hr.resolve_left h) hp hc
      rw [JoinLemmas.rawParts_rootless u hn (by rw [hp]; simpa using hc), hp]
      exact Or.inr h

theorem mem_joinTargetSegs {base ref : Url} {sg : Str} (h : sg ∈ C02_joinTargetSegs base ref) :
    sg = [] ∨ sg ∈ splitOn 47 base.path ∨ sg ∈ splitOn 47 ref.path := by
  unfold C02_joinTargetSegs at h
  split at h
  · exact Or.inr (Or.inr h)
  · split at h
    · rcases List.mem_cons.1 h with h | h
      · exact Or.inl h
      · exact Or.inr (Or.inr h)
    · rcases List.mem_append.1 h with h | h
      · exact Or.inr (Or.inl (List.dropLast_subset _ h))
      · exact Or.inr (Or.inr h)

end Join

/-! ### queries -/
section Queries
open TokLemmas QsLemmas QueryUrl

theorem qq_split38 (b : Backend) (s : Str) (hs : PyStr s) :
    splitOn 38 (Gen.QUERY_QUOTER.run b s) = (splitOn 38 s).map (Gen.QUERY_QUOTER.run b) :=
  gen_split _ mem_QUERY_QUOTER b ((gen_tracked b).2 38 (.inl rfl)).1 s hs

theorem qq_split59 (b : Backend) (s : Str) (hs : PyStr s) :
    splitOn 59 (Gen.QUERY_QUOTER.run b s) = (splitOn 59 s).map (Gen.QUERY_QUOTER.run b) :=
  gen_split _ mem_QUERY_QUOTER b ((gen_tracked b).2 59 (.inr (.inr rfl))).1 s hs

theorem qq_partition61 (b : Backend) (s : Str) (hs : PyStr s) :
    partition 61 (Gen.QUERY_QUOTER.run b s) =
      (Gen.QUERY_QUOTER.run b (partition 61 s).1, (partition 61 s).2.1, Gen.QUERY_QUOTER.run b (partition 61 s).2.2) :=
  gen_partition _ mem_QUERY_QUOTER b ((gen_tracked b).2 61 (.inr (.inl rfl))).1 s hs

theorem qq_pairView (b : Backend) (x : Str) (hx : PyStr x) :
    C02_pairView (Gen.QUERY_QUOTER.run b x) = C02_textPairView x := by
  unfold C02_pairView C02_textPairView
  rw [qq_partition61 b x hx]
  simp only
  rw [C02_gen_decode_QUERY_QUOTER b _ (DecLemmas.pyStr_of_subset (partition_fst_sub 61 x) hx),
    C02_gen_decode_QUERY_QUOTER b _ (DecLemmas.pyStr_of_subset (partition_snd_sub 61 x) hx)]

/-- QUERY_QUOTER on a decoded query STRING: '&' stays the pair separator, '=' the key/value separator, every piece keeps its
    key / "has '='" / value bytes -/
theorem qq_facts (b : Backend) (s : Str) (hs : PyStr s) :
    splitOn 38 (Gen.QUERY_QUOTER.run b s) = (splitOn 38 s).map (Gen.QUERY_QUOTER.run b) ∧
    (splitOn 38 (Gen.QUERY_QUOTER.run b s)).map C02_pairView = (splitOn 38 s).map C02_textPairView ∧
    pctDecodeQs (Gen.QUERY_QUOTER.run b s) = utf8s (plusToSpace s) := by
  refine ⟨qq_split38 b s hs, ?_, C02_gen_decode_QUERY_QUOTER b s hs⟩
  rw [qq_split38 b s hs, List.map_map]
  apply List.map_congr_left
  intro x hx
  exact qq_pairView b x (DecLemmas.pyStr_of_subset (PathLemmas.splitOn_sub 38 s x hx) hs)

theorem qpq_no_delims (b : Backend) (t : Str) (ht : PyStr t) :
    38 ∉ Gen.QUERY_PART_QUOTER.run b t ∧ 61 ∉ Gen.QUERY_PART_QUOTER.run b t ∧ 59 ∉ Gen.QUERY_PART_QUOTER.run b t := by
  obtain ⟨h38, h61⟩ := C12_part_no_delims b t ht
  refine ⟨h38, h61, ?_⟩
  obtain ⟨hwf, _, _, _, _, _, _⟩ := gen_query_part_quoter_ok b
  have h59 : (Gen.QUERY_PART_QUOTER.tab b).safe 59 = false := by cases b <;> decide
  rw [run_eq_cOut _ mem_QUERY_PART_QUOTER b t ht]
  have hall := outLang_allowed _
    (cOut_outLang _ hwf (stripSurr t))
  intro hm
  rcases hall 59 hm with h | h | h | h
  · rw [h59] at h; exact absurd h (by decide)
  · exact absurd h (by decide)
  · exact absurd h (by decide)
  · exact absurd h.2 (by decide)

theorem pairText_partition (b : Backend) (p : Str × Str) (h1 : PyStr p.1) :
    partition 61 (pairText b p) = (Gen.QUERY_PART_QUOTER.run b p.1, true, Gen.QUERY_PART_QUOTER.run b p.2) := by
  unfold pairText
  rw [List.append_assoc]
  exact partition_found _ _ _ (qpq_no_delims b p.1 h1).2.1

theorem pairText_view (b : Backend) (p : Str × Str) (h1 : PyStr p.1) (h2 : PyStr p.2) :
    C02_pairView (pairText b p) = (utf8s p.1, true, utf8s p.2) := by
  unfold C02_pairView
  rw [pairText_partition b p h1]
  simp only
  rw [C02_gen_decode_QUERY_PART_QUOTER b _ h1, C02_gen_decode_QUERY_PART_QUOTER b _ h2]

theorem qtext_split (b : Backend) (ps : List (Str × Str)) (hne : ps ≠ []) (h : ∀ p ∈ ps, PyStr p.1 ∧ PyStr p.2) :
    splitOn 38 (qtext b ps) = ps.map (pairText b) := by
  unfold qtext
  apply PathLemmas.splitOn_joinC (c := 38) _ (by simpa using hne)
  intro s hs
  obtain ⟨x, hx, rfl⟩ := List.mem_map.mp hs
  exact pairText_no_amp b x (h x hx).1 (h x hx).2

/-- a PAIRS / mapping argument rendered by `get_str_query`: one '&'-piece per supplied pair, every piece is
    "QUERY_PART_QUOTER(key)=QUERY_PART_QUOTER(value)" with no other '&' '=' ';' in it, and form-decodes to the UTF-8 bytes of
    the supplied key and value -/
theorem qtext_facts (b : Backend) (ps : List (Str × Str)) (hne : ps ≠ []) (h : ∀ p ∈ ps, PyStr p.1 ∧ PyStr p.2) :
    splitOn 38 (qtext b ps) = ps.map (pairText b) ∧
    (splitOn 38 (qtext b ps)).length = ps.length ∧
    (splitOn 38 (qtext b ps)).map C02_pairView = ps.map (fun p => (utf8s p.1, true, utf8s p.2)) := by
  have hs := qtext_split b ps hne h
  refine ⟨hs, by rw [hs]; simp, ?_⟩
  rw [hs, List.map_map]
  apply List.map_congr_left
  intro p hp
  exact pairText_view b p (h p hp).1 (h p hp).2

/-! #### extend_query -/

theorem splitOn_snoc_sep (c : Nat) (init : Str) : splitOn c (init ++ [c]) = splitOn c init ++ [[]] := by
  have := PathLemmas.splitOn_append c init []
  simpa [splitOn] using this

theorem splitOn_last_ne (c : Nat) (s : Str) (hs : s ≠ []) (hl : s.getLast? ≠ some c) :
    (splitOn c s).getLast? ≠ some [] := by
  by_cases hm : c ∈ s
  · obtain ⟨a, t, hat, ht⟩ := PathMore.exists_last c s hm
    rw [hat, PathLemmas.splitOn_append, PathLemmas.splitOn_of_not_mem c t ht]
    simp only [List.getLast?_append, List.getLast?_singleton, Option.some_or, ne_eq, Option.some.injEq]
    rintro rfl
    apply hl
    rw [hat]; simp
  · rw [PathLemmas.splitOn_of_not_mem c s hm]
    simpa using hs

/-- the '&'-pieces after `extend_query`: the old pieces (without the empty piece after a trailing '&') byte for byte,
    then the pieces of the new text -/
theorem extend_split (old nq : Str) :
    splitOn 38 (if !old.isEmpty then (if old.getLast? = some 38 then old ++ nq else old ++ [38] ++ nq) else nq) =
      stripTrail (splitOn 38 old) ++ splitOn 38 nq := by
  cases old with
  | nil => simp [splitOn, stripTrail]
  | cons x xs =>
    simp only [List.isEmpty_cons, Bool.not_false, if_true]
    split
    · rename_i hl
      obtain ⟨init, hi⟩ : ∃ init, x :: xs = init ++ [38] := List.getLast?_eq_some_iff.1 hl
      rw [hi, splitOn_snoc_sep, stripTrail_concat_nil, List.append_assoc, List.singleton_append,
        PathLemmas.splitOn_append]
    · rename_i hl
      rw [List.append_assoc, List.singleton_append, PathLemmas.splitOn_append]
      congr 1
      unfold stripTrail
      rw [if_neg (splitOn_last_ne 38 (x :: xs) (by simp) hl)]

end Queries

end MeanMore

namespace R15

/-- a query given as a string is stored as QUERY_QUOTER of it (the empty string included) -/
theorem getStr (b : Backend) (s : Str) : getStrQuery b (.str s) = .ok (some (Gen.QUERY_QUOTER.run b s)) := by
  cases s with
  | nil => simp only [getStrQuery, List.isEmpty_nil, if_true, QArgs.run_nil]
  | cons c r => simp [getStrQuery]

/-- an argument that renders to the empty text leaves the URL as it is -/
theorem extendQuery_nil (e : Env) (u : Url) (a : QArg) (h : getStrQuery e.b a = .ok (some [])) :
    extendQuery e u a = .ok u := by
  unfold extendQuery
  rw [h]
  rfl

end R15
end Yarl
