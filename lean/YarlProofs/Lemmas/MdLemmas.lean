/-
  MdLemmas.lean — two things the query properties (C12) rest on.
  (1) List algebra of the `MultiDict.update` model: `replaceFrom` as a decomposition, one step of the first loop as a
  relation (`Shape`, `loop_cons`) and what the loop does per key (`loop_vals`, `loop_used`), the second loop
  (`dt_cases`, `dt_split`, …), `mdUpdate` invents no entry and commutes with maps of the values.  The general facts
  about lists of pairs read by key are here too: `keysOf` / `valsOf` on `cons`, `++` and `snoc`, counting (`vlen_*`),
  and `ext_keys_vals` (a list of pairs is its key sequence and, per key, its value sequence).
  `update_vals_split` is the per-key description of `mdUpdate` that needs no hypothesis.
  (2) Which error the query-string builders raise: `errOf` (the error an `R` value carries), a `mapM` fails with its
  first error (`errOf_mapM`), hence `errOf_seq` / `errOf_iter` in terms of `firstErr` and of `QsMore.slotErr` /
  `QsMore.pairsFirstErr` (defined here, next to `firstErr`, though C12More.lean states the theorems about them), and
  the kinds of error (`ErrKind`, `getStrQuery_error`).
-/
import YarlModel
namespace Yarl

universe u

/-- the key sequence of a list of (key, value) pairs, as `MultiDict.keys()` iterates it -/
def keysOf {V : Type u} (l : List (Str × V)) : List Str := l.map (·.1)

namespace MdLemmas
variable {V : Type u}

/-! ### `replaceFrom` as a list decomposition -/

/-- the scan moves one entry on: the head is not a hit (before `start`, or another key), and nothing of key `k` is
    in the part of the tail at or after `start` -/
theorem drop_cons_ne {k k' : Str} {v' : V} {rest : List (Str × V)} {idx start : Nat}
    (hc : ¬ (idx ≥ start ∧ k' = k)) (h5 : ∀ x ∈ rest.drop (start - (idx + 1)), x.1 ≠ k) :
    ∀ x ∈ ((k', v') :: rest).drop (start - idx), x.1 ≠ k := by
  intro x hx
  by_cases hs : start ≤ idx
  · rw [Nat.sub_eq_zero_of_le hs] at hx
    rw [Nat.sub_eq_zero_of_le (Nat.le_succ_of_le hs)] at h5
    rcases List.mem_cons.mp hx with rfl | hx
    · exact fun hk => hc ⟨hs, hk⟩
    · exact h5 x hx
  · have : start - idx = (start - (idx + 1)) + 1 := by omega
    rw [this, List.drop_succ_cons] at hx
    exact h5 x hx

theorem rf_some (k : Str) (v : V) : ∀ (l : List (Str × V)) (idx start : Nat) (l' : List (Str × V)) (p : Nat),
    replaceFrom k v l idx start = some (l', p) →
    ∃ a b v0, l = a ++ (k, v0) :: b ∧ l' = a ++ (k, v) :: b ∧ p = idx + a.length + 1 ∧
      start ≤ idx + a.length ∧ ∀ x ∈ a.drop (start - idx), x.1 ≠ k := by
  intro l
  induction l with
  | nil => intro idx start l' p h; simp [replaceFrom] at h
  | cons hd rest ih =>
    intro idx start l' p h
    obtain ⟨k', v'⟩ := hd
    unfold replaceFrom at h
    split at h
    · rename_i hc
      cases h
      exact ⟨[], rest, v', by simp [hc.2], rfl, by simp, by simpa using hc.1, by simp⟩
    · rename_i hc
      split at h
      · rename_i l2 p2 hrec
        cases h
        obtain ⟨a, b, v0, rfl, rfl, rfl, h4, h5⟩ := ih _ _ _ _ hrec
        exact ⟨(k', v') :: a, b, v0, rfl, rfl, by rw [List.length_cons]; omega, by rw [List.length_cons]; omega,
          drop_cons_ne hc h5⟩
      · simp at h

theorem rf_none (k : Str) (v : V) : ∀ (l : List (Str × V)) (idx start : Nat),
    replaceFrom k v l idx start = none → ∀ x ∈ l.drop (start - idx), x.1 ≠ k := by
  intro l
  induction l with
  | nil => intro idx start _ x hx; simp at hx
  | cons hd rest ih =>
    intro idx start h x hx
    obtain ⟨k', v'⟩ := hd
    unfold replaceFrom at h
    split at h
    · simp at h
    · rename_i hc
      split at h
      · simp at h
      · rename_i hrec
        exact drop_cons_ne hc (ih _ _ hrec) x hx

/-! ### the `used` table -/

theorem usedGet_nil (k : Str) : usedGet [] k = none := rfl

theorem usedGet_set_self (used : List (Str × Nat)) (k : Str) (p : Nat) : usedGet (usedSet used k p) k = some p := by
  simp [usedGet, usedSet]

theorem find?_filter_of_imp {α} (q r : α → Bool) (hqr : ∀ x, q x = true → r x = true) :
    ∀ l : List α, (l.filter r).find? q = l.find? q := by
  intro l
  induction l with
  | nil => rfl
  | cons hd tl ih =>
    rw [List.filter_cons]
    by_cases hr : r hd = true
    · rw [if_pos hr, List.find?_cons, List.find?_cons, ih]
    · rw [if_neg hr, List.find?_cons, ih, Bool.eq_false_iff.mpr fun hq => hr (hqr hd hq)]

theorem usedGet_set_other (used : List (Str × Nat)) (k k' : Str) (p : Nat) (h : k' ≠ k) :
    usedGet (usedSet used k p) k' = usedGet used k' := by
  have hk : ¬ k = k' := fun e => h e.symm
  simp only [usedGet, usedSet, List.find?_cons, hk, decide_false]
  congr 1
  apply find?_filter_of_imp
  intro x hx
  simp only [decide_eq_true_eq] at hx
  simp only [ne_eq, decide_not, Bool.not_eq_eq_eq_not, Bool.not_true, decide_eq_false_iff_not]
  rw [hx]; exact h

/-! ### one step of the first loop -/

/-- what one iteration of the first loop does to the item list: `items = a ++ c`, and either `c` is empty (append)
    or `c` starts with the first entry of key `k` at or after `start` (replace) -/
def Shape (items items' : List (Str × V)) (k : Str) (v : V) (p start : Nat) : Prop :=
  ∃ a c b, items = a ++ c ∧ items' = a ++ (k, v) :: b ∧ p = a.length + 1 ∧
    ((c = [] ∧ b = []) ∨ (∃ v0, c = (k, v0) :: b ∧ start ≤ a.length)) ∧ (∀ x ∈ a.drop start, x.1 ≠ k)

theorem loop_cons (items : List (Str × V)) (used : List (Str × Nat)) (k : Str) (v : V) (rest : List (Str × V)) :
    ∃ items' p, mdUpdateLoop items used ((k, v) :: rest) = mdUpdateLoop items' (usedSet used k p) rest ∧
      Shape items items' k v p ((usedGet used k).getD 0) := by
  simp only [mdUpdateLoop]
  split
  · rename_i items' p hrf
    refine ⟨items', p, rfl, ?_⟩
    obtain ⟨a, b, v0, h1, h2, h3, h4, h5⟩ := rf_some k v _ _ _ _ _ hrf
    refine ⟨a, (k, v0) :: b, b, h1, h2, by omega, Or.inr ⟨v0, rfl, by omega⟩, ?_⟩
    simpa using h5
  · rename_i hrf
    refine ⟨items ++ [(k, v)], (items ++ [(k, v)]).length, rfl, ?_⟩
    have h5 := rf_none k v _ _ _ hrf
    refine ⟨items, [], [], by simp, rfl, by simp, Or.inl ⟨rfl, rfl⟩, ?_⟩
    simpa using h5

theorem filter_nil_of_forall_ne {l : List (Str × V)} {k : Str} (h : ∀ x ∈ l, x.1 ≠ k) :
    l.filter (fun p => p.1 = k) = [] := by
  simp only [List.filter_eq_nil_iff, decide_eq_true_eq]
  exact h

theorem filter_take_of_drop_ne (a : List (Str × V)) (k : Str) (s : Nat) (h : ∀ x ∈ a.drop s, x.1 ≠ k) :
    a.filter (fun p => p.1 = k) = (a.take s).filter (fun p => p.1 = k) := by
  conv => lhs; rw [← List.take_append_drop s a]
  rw [List.filter_append, filter_nil_of_forall_ne h, List.append_nil]

section shape
variable {items items' : List (Str × V)} {k : Str} {v : V} {p start : Nat}

theorem Shape.keys (h : Shape items items' k v p start) : ∃ ext, keysOf items' = keysOf items ++ ext := by
  obtain ⟨a, c, b, h1, h2, _, h4, _⟩ := h
  rcases h4 with ⟨hc, hb⟩ | ⟨v0, hc, _⟩
  · exact ⟨[k], by simp [keysOf, h1, h2, hc, hb]⟩
  · exact ⟨[], by simp [keysOf, h1, h2, hc]⟩

theorem Shape.filter_other (h : Shape items items' k v p start) (f : Str → Bool) (hf : f k = false) :
    items'.filter (fun x => f x.1) = items.filter (fun x => f x.1) := by
  obtain ⟨a, c, b, h1, h2, _, h4, _⟩ := h
  rcases h4 with ⟨hc, hb⟩ | ⟨v0, hc, _⟩
  · simp [h1, h2, hc, hb, hf]
  · simp [h1, h2, hc, hf]

/-- a step on key `k` leaves the entries of any other key where they are, in front of and behind every index -/
theorem Shape.split_other (h : Shape items items' k v p start) (k' : Str) (hk : k' ≠ k) (n : Nat) :
    (items'.take n).filter (fun x => x.1 = k') = (items.take n).filter (fun x => x.1 = k') ∧
    (items'.drop n).filter (fun x => x.1 = k') = (items.drop n).filter (fun x => x.1 = k') := by
  obtain ⟨a, c, b, h1, h2, _, h4, _⟩ := h
  have hk' : ¬ k = k' := fun e => hk e.symm
  rcases h4 with ⟨hc, hb⟩ | ⟨v0, hc, _⟩
  · subst h1 h2 hc hb
    simp only [List.take_append, List.drop_append, List.filter_append, List.append_nil]
    cases (n - a.length) <;> simp [hk']
  · subst h1 h2 hc
    simp only [List.take_append, List.drop_append, List.filter_append]
    cases (n - a.length) <;> simp [hk']

theorem Shape.take_self (h : Shape items items' k v p start) :
    (items'.take p).filter (fun x => x.1 = k) = (items.take start).filter (fun x => x.1 = k) ++ [(k, v)] := by
  obtain ⟨a, c, b, h1, h2, h3, h4, h5⟩ := h
  have ha := filter_take_of_drop_ne a k start h5
  have e1 : (items'.take p).filter (fun x => x.1 = k) = a.filter (fun x => x.1 = k) ++ [(k, v)] := by
    subst h2 h3
    have : List.take (a.length + 1) a = a := List.take_of_length_le (by omega)
    simp [List.take_append, this]
  rw [e1, ha]
  congr 2
  rcases h4 with ⟨hc, hb⟩ | ⟨v0, hc, hs⟩
  · simp [h1, hc]
  · rw [h1, List.take_append_of_le_length hs]

theorem Shape.drop_self (h : Shape items items' k v p start) :
    ((items'.drop p).filter (fun x => x.1 = k)).map (·.2) =
      (((items.drop start).filter (fun x => x.1 = k)).map (·.2)).tail := by
  obtain ⟨a, c, b, h1, h2, h3, h4, h5⟩ := h
  have ha := filter_nil_of_forall_ne h5
  have e1 : (items'.drop p) = b := by
    subst h2 h3
    simp [List.drop_append]
  rw [e1]
  rcases h4 with ⟨hc, hb⟩ | ⟨v0, hc, hs⟩
  · subst h1 hc hb
    simp [ha]
  · subst h1 hc
    have : start - a.length = 0 := by omega
    simp [List.drop_append, List.filter_append, ha, this]

end shape

/-! ### the first loop -/

/-- where the first loop starts looking for key `k`: just behind the last entry it wrote for `k`, `0` if none yet -/
def pos (used : List (Str × Nat)) (k : Str) : Nat := (usedGet used k).getD 0
/-- the values of key `k` in a list of pairs, in order (`MultiDict.getall(k)`); not the model's `MultiCache.valsOf`,
    which looks handles up in the shared cache -/
def valsOf (k : Str) (l : List (Str × V)) : List V := (l.filter (fun x => x.1 = k)).map (·.2)

theorem valsOf_cons_self (k : Str) (v : V) (l : List (Str × V)) : valsOf k ((k, v) :: l) = v :: valsOf k l := by
  simp [valsOf]
theorem valsOf_cons_other (k k0 : Str) (v : V) (l : List (Str × V)) (h : k ≠ k0) : valsOf k ((k0, v) :: l) = valsOf k l := by
  have : ¬ k0 = k := fun e => h e.symm
  simp [valsOf, this]

/-- the entries of key `k` are determined by their values -/
theorem filter_key_eq (k : Str) (l : List (Str × V)) :
    l.filter (fun p => p.1 = k) = ((l.filter (fun p => p.1 = k)).map (·.2)).map (fun v => (k, v)) := by
  induction l with
  | nil => rfl
  | cons p l ih =>
    obtain ⟨a, b⟩ := p
    by_cases h : a = k
    · subst h; simpa using ih
    · simpa [h] using ih

theorem loop_vals (new : List (Str × V)) : ∀ (items : List (Str × V)) (used : List (Str × Nat)) (k : Str),
    valsOf k ((mdUpdateLoop items used new).1.take (pos (mdUpdateLoop items used new).2 k)) =
        valsOf k (items.take (pos used k)) ++ valsOf k new ∧
    valsOf k ((mdUpdateLoop items used new).1.drop (pos (mdUpdateLoop items used new).2 k)) =
        (valsOf k (items.drop (pos used k))).drop (valsOf k new).length := by
  induction new with
  | nil => intro items used k; simp [mdUpdateLoop, valsOf]
  | cons hd rest ih =>
    intro items used k
    obtain ⟨k0, v⟩ := hd
    obtain ⟨items', p, heq, hsh⟩ := loop_cons items used k0 v rest
    rw [heq]
    obtain ⟨ih1, ih2⟩ := ih items' (usedSet used k0 p) k
    rw [ih1, ih2]
    by_cases hk : k = k0
    · subst hk
      have hp : pos (usedSet used k p) k = p := by simp [pos, usedGet_set_self]
      rw [hp, valsOf_cons_self]
      constructor
      · have := hsh.take_self
        simp only [valsOf, pos] at *
        rw [this]
        simp
      · have := hsh.drop_self
        simp only [valsOf, pos] at *
        rw [this]
        simp
    · have hp : pos (usedSet used k0 p) k = pos used k := by simp [pos, usedGet_set_other _ _ _ _ hk]
      rw [hp, valsOf_cons_other _ _ _ _ hk]
      simp only [valsOf]
      rw [(hsh.split_other k hk _).1, (hsh.split_other k hk _).2]
      exact ⟨rfl, rfl⟩

/-- `loop_vals` for the whole first loop (nothing used yet), at the recorded position `p` of `k` -/
theorem loop_vals_start (old new : List (Str × V)) (k : Str) (p : Nat)
    (hp : usedGet (mdUpdateLoop old [] new).2 k = some p) :
    valsOf k ((mdUpdateLoop old [] new).1.take p) = valsOf k new ∧
    valsOf k ((mdUpdateLoop old [] new).1.drop p) = (valsOf k old).drop (valsOf k new).length := by
  have h := loop_vals new old [] k
  have hpos : pos (mdUpdateLoop old [] new).2 k = p := by simp [pos, hp]
  have hp0 : pos [] k = 0 := rfl
  rw [hpos, hp0, List.take_zero, List.drop_zero] at h
  exact h

theorem loop_used (new : List (Str × V)) : ∀ (items : List (Str × V)) (used : List (Str × Nat)) (k : Str),
    (k ∈ keysOf new → ∃ p, usedGet (mdUpdateLoop items used new).2 k = some p) ∧
    (k ∉ keysOf new → usedGet (mdUpdateLoop items used new).2 k = usedGet used k) := by
  induction new with
  | nil => intro items used k; simp [mdUpdateLoop, keysOf]
  | cons hd rest ih =>
    intro items used k
    obtain ⟨k0, v⟩ := hd
    obtain ⟨items', p, heq, _⟩ := loop_cons items used k0 v rest
    rw [heq]
    obtain ⟨ih1, ih2⟩ := ih items' (usedSet used k0 p) k
    constructor
    · intro hk
      by_cases hr : k ∈ keysOf rest
      · exact ih1 hr
      · obtain rfl : k = k0 := (List.mem_cons.mp hk).resolve_right hr
        exact ⟨p, by rw [ih2 hr, usedGet_set_self]⟩
    · intro hk
      simp only [keysOf, List.map_cons, List.mem_cons, not_or] at hk
      rw [ih2 hk.2, usedGet_set_other _ _ _ _ hk.1]

theorem loop_filter_other (f : Str → Bool) (new : List (Str × V)) : ∀ (items : List (Str × V)) (used : List (Str × Nat)),
    (∀ k ∈ keysOf new, f k = false) →
    (mdUpdateLoop items used new).1.filter (fun x => f x.1) = items.filter (fun x => f x.1) := by
  induction new with
  | nil => intro items used _; simp [mdUpdateLoop]
  | cons hd rest ih =>
    intro items used hf
    obtain ⟨k0, v⟩ := hd
    obtain ⟨items', p, heq, hsh⟩ := loop_cons items used k0 v rest
    rw [heq, ih items' _ (fun k hk => hf k (List.mem_cons_of_mem _ hk))]
    exact hsh.filter_other f (hf k0 List.mem_cons_self)

/-! ### the second loop -/

theorem dt_nil (used : List (Str × Nat)) (i : Nat) : mdDropTails used ([] : List (Str × V)) i = [] := rfl

theorem dt_cons_none (used : List (Str × Nat)) (k : Str) (v : V) (rest : List (Str × V)) (i : Nat)
    (h : usedGet used k = none) : mdDropTails used ((k, v) :: rest) i = (k, v) :: mdDropTails used rest (i + 1) := by
  rw [mdDropTails]; simp only [h]

theorem dt_cons_del (used : List (Str × Nat)) (k : Str) (v : V) (rest : List (Str × V)) (i p : Nat)
    (h : usedGet used k = some p) (hp : p ≤ i) : mdDropTails used ((k, v) :: rest) i = mdDropTails used rest i := by
  rw [mdDropTails]; simp only [h, ge_iff_le, hp, ↓reduceIte]

theorem dt_cons_keep (used : List (Str × Nat)) (k : Str) (v : V) (rest : List (Str × V)) (i p : Nat)
    (h : usedGet used k = some p) (hp : i < p) :
    mdDropTails used ((k, v) :: rest) i = (k, v) :: mdDropTails used rest (i + 1) := by
  have : ¬ p ≤ i := by omega
  rw [mdDropTails]; simp only [h, ge_iff_le, this, ↓reduceIte]

/-- case analysis on the head of the second loop -/
theorem dt_cases (used : List (Str × Nat)) (k : Str) (v : V) (rest : List (Str × V)) (i : Nat) :
    (mdDropTails used ((k, v) :: rest) i = (k, v) :: mdDropTails used rest (i + 1) ∧ ∀ p, usedGet used k = some p → i < p) ∨
    (mdDropTails used ((k, v) :: rest) i = mdDropTails used rest i ∧ ∃ p, usedGet used k = some p ∧ p ≤ i) := by
  cases h : usedGet used k with
  | none => exact Or.inl ⟨dt_cons_none _ _ _ _ _ h, by simp⟩
  | some p =>
    by_cases hp : p ≤ i
    · exact Or.inr ⟨dt_cons_del _ _ _ _ _ _ h hp, p, rfl, hp⟩
    · refine Or.inl ⟨dt_cons_keep _ _ _ _ _ _ h (by omega), ?_⟩
      intro p' hp'
      simp only [Option.some.injEq] at hp'
      omega

theorem dt_sublist (used : List (Str × Nat)) : ∀ (l : List (Str × V)) (i : Nat), (mdDropTails used l i).Sublist l := by
  intro l
  induction l with
  | nil => intro i; simp [mdDropTails]
  | cons hd rest ih =>
    intro i
    obtain ⟨k, v⟩ := hd
    rcases dt_cases used k v rest i with ⟨h, _⟩ | ⟨h, _⟩
    · rw [h]; exact (ih _).cons_cons _
    · rw [h]; exact (ih _).cons _

theorem dt_keep_unused (used : List (Str × Nat)) (f : Str → Bool) (hf : ∀ x, f x = true → usedGet used x = none) :
    ∀ (l : List (Str × V)) (i : Nat), (mdDropTails used l i).filter (fun x => f x.1) = l.filter (fun x => f x.1) := by
  intro l
  induction l with
  | nil => intro i; simp [mdDropTails]
  | cons hd rest ih =>
    intro i
    obtain ⟨k, v⟩ := hd
    rcases dt_cases used k v rest i with ⟨h, _⟩ | ⟨h, p, hp, _⟩
    · rw [h]; simp only [List.filter_cons, ih]
    · have hfk : f k = false := Bool.eq_false_iff.mpr fun h => by rw [hf k h] at hp; cases hp
      rw [h]; simp only [List.filter_cons, ih, hfk]; simp

theorem dt_append (used : List (Str × Nat)) : ∀ (x z : List (Str × V)) (i : Nat),
    mdDropTails used (x ++ z) i = mdDropTails used x i ++ mdDropTails used z (i + (mdDropTails used x i).length) := by
  intro x
  induction x with
  | nil => intro z i; simp [mdDropTails]
  | cons hd rest ih =>
    intro z i
    obtain ⟨k, v⟩ := hd
    simp only [List.cons_append]
    cases h : usedGet used k with
    | none =>
      rw [dt_cons_none _ _ _ _ _ h, dt_cons_none _ _ _ _ _ h, ih, List.cons_append, List.length_cons]
      congr 3; omega
    | some p =>
      by_cases hp : p ≤ i
      · rw [dt_cons_del _ _ _ _ _ _ h hp, dt_cons_del _ _ _ _ _ _ h hp, ih]
      · rw [dt_cons_keep _ _ _ _ _ _ h (by omega), dt_cons_keep _ _ _ _ _ _ h (by omega), ih, List.cons_append,
          List.length_cons]
        congr 3; omega

theorem filter_cons_other (k k' : Str) (v : V) (l : List (Str × V)) (h : k' ≠ k) :
    ((k', v) :: l).filter (fun x => x.1 = k) = l.filter (fun x => x.1 = k) := by simp [h]

/-- `l` is the not yet visited part of the list, `i` the running index of the second loop and `j ≥ i` the index the
    head of `l` had before any deletion.  The entries of key `k` before the recorded position `p` all survive;
    of those at or after `p` only a sublist is deleted. -/
theorem dt_split (used : List (Str × Nat)) (k : Str) (p : Nat) (h : usedGet used k = some p) :
    ∀ (l : List (Str × V)) (i j : Nat), i ≤ j →
    ∃ S, (mdDropTails used l i).filter (fun x => x.1 = k) = (l.take (p - j)).filter (fun x => x.1 = k) ++ S ∧
         S.Sublist ((l.drop (p - j)).filter (fun x => x.1 = k)) := by
  intro l
  induction l with
  | nil => intro i j _; exact ⟨[], by simp [mdDropTails]⟩
  | cons hd rest ih =>
    intro i j hij
    by_cases hpj : p ≤ j
    · rw [Nat.sub_eq_zero_of_le hpj]
      exact ⟨_, by simp, (dt_sublist used _ i).filter _⟩
    · obtain ⟨k', v'⟩ := hd
      rw [show p - j = (p - (j + 1)) + 1 by omega, List.take_succ_cons, List.drop_succ_cons]
      rcases dt_cases used k' v' rest i with ⟨he, _⟩ | ⟨he, p', hp', hle⟩
      · obtain ⟨S, hS1, hS2⟩ := ih (i + 1) (j + 1) (by omega)
        refine ⟨S, ?_, hS2⟩
        rw [he, List.filter_cons, List.filter_cons, hS1]
        split <;> rfl
      · have hk : k' ≠ k := by
          rintro rfl
          cases hp'.symm.trans h
          omega
        obtain ⟨S, hS1, hS2⟩ := ih i (j + 1) (by omega)
        refine ⟨S, ?_, hS2⟩
        rw [he, filter_cons_other _ _ _ _ hk, hS1]

/-! ### segments that lose nothing; values and keys of a key -/

/-- nothing is deleted from a segment all of whose updated entries lie before the recorded position of their key -/
theorem dt_id (used : List (Str × Nat)) : ∀ (l : List (Str × V)) (i : Nat),
    (∀ (t : Nat) (ht : t < l.length) (p : Nat), usedGet used (l[t]).1 = some p → i + t < p) →
    mdDropTails used l i = l := by
  intro l
  induction l with
  | nil => intro i _; rfl
  | cons hd rest ih =>
    intro i h
    obtain ⟨k, v⟩ := hd
    have hrest : mdDropTails used rest (i + 1) = rest := by
      apply ih
      intro t ht p hp
      have := h (t + 1) (by simp; omega) p (by simpa using hp)
      omega
    rcases dt_cases used k v rest i with ⟨he, _⟩ | ⟨_, p, hp, hle⟩
    · rw [he, hrest]
    · have := h 0 (by simp) p (by simpa using hp)
      omega

theorem valsOf_append (k : Str) (a b : List (Str × V)) : valsOf k (a ++ b) = valsOf k a ++ valsOf k b := by
  simp [valsOf]

theorem valsOf_nil_of_not_mem (k : Str) (l : List (Str × V)) (h : k ∉ keysOf l) : valsOf k l = [] := by
  simp only [valsOf, List.map_eq_nil_iff]
  apply filter_nil_of_forall_ne
  intro x hx e
  exact h (List.mem_map.mpr ⟨x, hx, e⟩)

theorem valsOf_ne_nil_of_mem (k : Str) (l : List (Str × V)) (h : k ∈ keysOf l) : valsOf k l ≠ [] := by
  obtain ⟨x, hx, e⟩ := List.mem_map.mp h
  exact List.ne_nil_of_mem (List.mem_map_of_mem (f := (·.2)) (List.mem_filter.mpr ⟨hx, decide_eq_true e⟩))

theorem keysOf_append (a b : List (Str × V)) : keysOf (a ++ b) = keysOf a ++ keysOf b := by simp [keysOf]

theorem mdUpdate_eq (old new : List (Str × V)) (h : new ≠ []) :
    mdUpdate old new = mdDropTails (mdUpdateLoop old [] new).2 (mdUpdateLoop old [] new).1 0 := by
  unfold mdUpdate
  cases new with
  | nil => exact absurd rfl h
  | cons a b => simp

theorem keysOf_ne_nil {new : List (Str × V)} {k : Str} (h : k ∈ keysOf new) : new ≠ [] := by
  rintro rfl; cases h

/-! ### pairs by key: `snoc`, counting, extensionality -/

theorem valsOf_snoc_self (k : Str) (v : V) (l : List (Str × V)) : valsOf k (l ++ [(k, v)]) = valsOf k l ++ [v] := by
  simp [valsOf]

theorem valsOf_snoc_other (k k0 : Str) (v : V) (l : List (Str × V)) (h : k ≠ k0) :
    valsOf k (l ++ [(k0, v)]) = valsOf k l := by
  have : ¬ k0 = k := fun e => h e.symm
  simp [valsOf, this]

/-- a list of pairs is determined by its key sequence and, for every key, the value sequence of that key -/
theorem ext_keys_vals : ∀ (l1 l2 : List (Str × V)), keysOf l1 = keysOf l2 → (∀ k, valsOf k l1 = valsOf k l2) → l1 = l2 := by
  intro l1
  induction l1 with
  | nil =>
    intro l2 hk _
    cases l2 with
    | nil => rfl
    | cons a t => simp [keysOf] at hk
  | cons a t ih =>
    intro l2 hk hv
    cases l2 with
    | nil => simp [keysOf] at hk
    | cons b t2 =>
      obtain ⟨ka, va⟩ := a
      obtain ⟨kb, vb⟩ := b
      simp only [keysOf, List.map_cons, List.cons.injEq] at hk
      obtain ⟨rfl, hkt⟩ := hk
      have h1 := hv ka
      rw [valsOf_cons_self, valsOf_cons_self, List.cons.injEq] at h1
      obtain ⟨rfl, h1⟩ := h1
      congr 1
      apply ih t2 hkt
      intro k
      by_cases hk : k = ka
      · subst hk
        exact h1
      · have h2 := hv k
        rw [valsOf_cons_other _ _ _ _ hk, valsOf_cons_other _ _ _ _ hk] at h2
        exact h2

theorem snoc_induction {α : Type _} (P : List α → Prop) (h0 : P []) (hs : ∀ l x, P l → P (l ++ [x])) : ∀ l, P l := by
  have : ∀ (rest done : List α), P done → P (done ++ rest) := by
    intro rest
    induction rest with
    | nil => intro done h; simpa using h
    | cons x t ih =>
      intro done h
      have := ih (done ++ [x]) (hs done x h)
      simpa using this
  intro l
  simpa using this l [] h0

theorem vlen_split_lt (a : List (Str × V)) (x : Str × V) (b : List (Str × V)) :
    (valsOf x.1 a).length < (valsOf x.1 (a ++ x :: b)).length := by
  obtain ⟨k, v⟩ := x
  rw [valsOf_append, valsOf_cons_self]
  simp

theorem vlen_take_mono (k : Str) (l : List (Str × V)) {p i : Nat} (h : p ≤ i) :
    (valsOf k (l.take p)).length ≤ (valsOf k (l.take i)).length :=
  (((List.take_sublist_take_left h).filter _).map _).length_le

theorem vlen_eq_count (k : Str) (l : List (Str × V)) : (valsOf k l).length = (keysOf l).count k := by
  simp only [valsOf, keysOf, List.length_map, List.count_eq_countP, List.countP_eq_length_filter, List.filter_map]
  congr 1
  apply List.filter_congr
  intro x _
  by_cases hx : x.1 = k <;> simp [Function.comp, hx]

theorem vlen_keys (k : Str) (l1 l2 : List (Str × V)) (h : keysOf l1 = keysOf l2) :
    (valsOf k l1).length = (valsOf k l2).length := by
  rw [vlen_eq_count, vlen_eq_count, h]

theorem filter_length_add {α : Type _} (p : α → Bool) : ∀ l : List α,
    (l.filter (fun y => !p y)).length + (l.filter p).length = l.length := by
  intro l
  induction l with
  | nil => rfl
  | cons a t ih =>
    by_cases h : p a = true
    · rw [List.filter_cons_of_neg (by simp [h]), List.filter_cons_of_pos h, List.length_cons, List.length_cons]
      omega
    · rw [List.filter_cons_of_pos (by simpa using h), List.filter_cons_of_neg h, List.length_cons, List.length_cons]
      omega

/-! ### `MultiDict.update` moves entries around and looks at keys only -/

theorem mem_mdUpdateLoop_cases (new : List (Str × V)) : ∀ (items : List (Str × V)) (used : List (Str × Nat)),
    ∀ x ∈ (mdUpdateLoop items used new).1, x ∈ items ∨ x ∈ new := by
  induction new with
  | nil =>
    intro items used x hx
    exact Or.inl (by simpa [mdUpdateLoop] using hx)
  | cons kv rest ih =>
    intro items used x hx
    obtain ⟨k, v⟩ := kv
    obtain ⟨items', p, heq, a, c, b, h1, h2, _, h4, _⟩ := loop_cons items used k v rest
    rw [heq] at hx
    rcases ih items' _ x hx with h | h
    · rw [h2] at h
      rcases List.mem_append.mp h with h | h
      · exact Or.inl (by rw [h1]; simp [h])
      · rcases List.mem_cons.mp h with rfl | h
        · exact Or.inr (by simp)
        · rcases h4 with ⟨_, hb⟩ | ⟨v0, hc, _⟩
          · rw [hb] at h
            simp at h
          · exact Or.inl (by rw [h1, hc]; simp [h])
    · exact Or.inr (by simp [h])

/-- `MultiDict.update` invents no entry -/
theorem mem_mdUpdate_cases (old new : List (Str × V)) (x : Str × V) (hx : x ∈ mdUpdate old new) :
    x ∈ old ∨ x ∈ new := by
  unfold mdUpdate at hx
  split at hx
  · exact Or.inl hx
  · exact mem_mdUpdateLoop_cases new old [] x ((dt_sublist _ _ _).subset hx)

section mapVal
universe w
variable {W : Type w} (f : V → W)

/-- apply `f` to every value -/
def mapVal (l : List (Str × V)) : List (Str × W) := l.map fun p => (p.1, f p.2)

theorem replaceFrom_mapVal (k : Str) (v : V) : ∀ (l : List (Str × V)) (i s : Nat),
    replaceFrom k (f v) (mapVal f l) i s = (replaceFrom k v l i s).map fun r => (mapVal f r.1, r.2) := by
  intro l
  induction l with
  | nil =>
    intro i s
    rfl
  | cons x rest ih =>
    intro i s
    simp only [mapVal, List.map_cons, replaceFrom] at ih ⊢
    split
    · rfl
    · rw [ih]
      cases replaceFrom k v rest (i + 1) s <;> rfl

theorem loop_mapVal : ∀ (new items : List (Str × V)) (used : List (Str × Nat)),
    mdUpdateLoop (mapVal f items) used (mapVal f new) =
      (mapVal f (mdUpdateLoop items used new).1, (mdUpdateLoop items used new).2) := by
  intro new
  induction new with
  | nil =>
    intro items used
    rfl
  | cons x rest ih =>
    intro items used
    have hsnoc : mapVal f items ++ [(x.1, f x.2)] = mapVal f (items ++ [x]) := by
      simp [mapVal]
    simp only [mapVal, List.map_cons, mdUpdateLoop] at ih ⊢
    rw [← mapVal, replaceFrom_mapVal]
    cases replaceFrom x.1 x.2 items 0 ((usedGet used x.1).getD 0) with
    | some r => exact ih _ _
    | none =>
      simp only [Option.map_none]
      rw [hsnoc, show (mapVal f (items ++ [x])).length = (items ++ [x]).length from List.length_map _]
      exact ih _ _

theorem dt_mapVal (used : List (Str × Nat)) : ∀ (l : List (Str × V)) (i : Nat),
    mdDropTails used (mapVal f l) i = mapVal f (mdDropTails used l i) := by
  intro l
  induction l with
  | nil =>
    intro i
    rfl
  | cons x rest ih =>
    intro i
    simp only [mapVal, List.map_cons, mdDropTails] at ih ⊢
    split
    · rw [ih]
      rfl
    · split
      · exact ih _
      · rw [ih]
        rfl

/-- `MultiDict.update` looks at keys only: it commutes with any map of the values -/
theorem mdUpdate_mapVal (old new : List (Str × V)) :
    mdUpdate (mapVal f old) (mapVal f new) = mapVal f (mdUpdate old new) := by
  cases new with
  | nil => rfl
  | cons x xs =>
    rw [mdUpdate_eq _ _ (by simp [mapVal]), mdUpdate_eq _ _ (by simp), loop_mapVal, dt_mapVal]

end mapVal

/-! ### `mdUpdate` per key; a list of pairs taken apart at the first pair of a key -/

/-- the complete per-key description of `mdUpdate`: the values of an updated key are the new values followed by a
    sublist of those old values that were not overwritten -/
theorem update_vals_split (old new : List (Str × V)) (k : Str) (hk : k ∈ keysOf new) :
    ∃ S, valsOf k (mdUpdate old new) = valsOf k new ++ S ∧ S.Sublist ((valsOf k old).drop (valsOf k new).length) := by
  rw [mdUpdate_eq old new (keysOf_ne_nil hk)]
  obtain ⟨p, hp⟩ := (loop_used new old [] k).1 hk
  obtain ⟨S, hS1, hS2⟩ := dt_split _ k p hp (mdUpdateLoop old [] new).1 0 0 (Nat.le_refl 0)
  obtain ⟨h1, h2⟩ := loop_vals_start old new k p hp
  refine ⟨S.map (·.2), ?_, ?_⟩
  · simp only [valsOf] at h1 ⊢
    rw [hS1, Nat.sub_zero, List.map_append, h1]
  · rw [← h2]
    simp only [valsOf]
    rw [Nat.sub_zero] at hS2
    exact hS2.map _

theorem idxOf_split (k : Str) : ∀ l : List Str, k ∈ l → ∃ a b, l = a ++ k :: b ∧ k ∉ a ∧ l.idxOf k = a.length := by
  intro l
  induction l with
  | nil => intro h; simp at h
  | cons x xs ih =>
    intro h
    by_cases hx : x = k
    · subst hx
      exact ⟨[], xs, rfl, by simp, by simp⟩
    · obtain ⟨a, b, h1, h2, h3⟩ := ih ((List.mem_cons.mp h).resolve_left fun e => hx e.symm)
      exact ⟨x :: a, b, by simp [h1], by simp [h2, Ne.symm hx], by simp [List.idxOf_cons, beq_false_of_ne hx, h3]⟩

theorem idxOf_of_split (k : Str) (a b : List Str) (h : k ∉ a) : (a ++ k :: b).idxOf k = a.length := by
  rw [List.idxOf_append, if_neg h, List.idxOf_cons_self, Nat.zero_add]

/-- `old` taken apart at the first pair of key `k`, which stands at index `i` -/
theorem split_at_first_key (old : List (Str × V)) (k : Str) (i : Nat) (hi : (old.map (·.1)).idxOf k = i)
    (hlt : i < old.length) : ∃ A v0 B, old = A ++ (k, v0) :: B ∧ k ∉ keysOf A ∧ A.length = i := by
  have hmem : k ∈ old.map (·.1) := by
    rw [← List.idxOf_lt_length_iff, hi]; simpa using hlt
  obtain ⟨a, b, h1, h2, h3⟩ := idxOf_split k _ hmem
  obtain ⟨A, C, hAC, hA, hC⟩ := List.map_eq_append_iff.mp h1
  obtain ⟨hd, B, hC', hhd, _⟩ := List.map_eq_cons_iff.mp hC
  obtain ⟨k1, v0⟩ := hd
  simp only at hhd
  subst hhd hC' hAC
  exact ⟨A, v0, B, rfl, by rw [keysOf, hA]; exact h2, by rw [← hi, h3, ← hA, List.length_map]⟩

/-! ### the string builders: a `mapM` in `R` fails with its first error -/

/-- the error an `R` value carries, if any -/
def errOf {α : Type} : R α → Option PyErr
  | .error e => some e
  | .ok _ => none

theorem eq_error {α : Type} {x : R α} {e : PyErr} (h : errOf x = some e) : x = .error e := by
  cases x with
  | error e1 =>
    cases h
    rfl
  | ok a => cases h

theorem eq_ok {α : Type} {x : R α} (h : errOf x = none) : ∃ a, x = .ok a := by
  cases x with
  | error e => cases h
  | ok a => exact ⟨a, rfl⟩

theorem errOf_bind_pure {α β : Type} (x : R α) (g : α → β) : errOf (x >>= fun a => pure (g a)) = errOf x := by
  cases x <;> rfl

theorem errOf_map {α β : Type} (x : R α) (g : α → β) : errOf (x.map g) = errOf x := by
  cases x <;> rfl

/-- an error of `y` is an error of `x` when the two carry the same error (`errOf_bind_pure`, `errOf_map`) -/
theorem error_of_errOf {α β : Type} {x : R α} {y : R β} (hxy : errOf y = errOf x) {e : PyErr} (h : y = .error e) :
    x = .error e :=
  eq_error (hxy.symm.trans (congrArg errOf h))

theorem errOf_mapM {α β : Type} (f : α → R β) : ∀ l : List α, errOf (l.mapM f) = l.findSome? fun x => errOf (f x) := by
  intro l
  induction l with
  | nil => rfl
  | cons a l ih =>
    rw [List.mapM_cons, List.findSome?_cons, ← ih]
    cases f a with
    | error e => rfl
    | ok y => cases l.mapM f <;> rfl

theorem errOf_pairStr (b : Backend) (k : Str) (v : QVal) : errOf (pairStr b k v) = errOf (queryVar v) := by
  unfold pairStr
  exact errOf_bind_pure _ _

theorem bind_pure_ok {α β : Type} (x : R α) (g : α → β) (s : β)
    (h : (x >>= fun a => pure (g a)) = .ok s) : ∃ a, x = .ok a := by
  cases x with
  | error e1 => simp [bind, Except.bind] at h
  | ok a => exact ⟨a, rfl⟩

/-! ### the first offending value of a mapping argument, the first offending slot of a pair sequence -/

/-- the values of a mapping slot -/
def itemVals : QItem → List QVal
  | .one v => [v]
  | .many vs => vs

/-- all values of a mapping argument in iteration order -/
def flatVals (items : List (Str × QItem)) : List QVal := items.flatMap (fun p => itemVals p.2)

/-- the error raised by the first value that `query_var` rejects -/
def firstErr : List QVal → Option PyErr
  | [] => none
  | v :: vs => match queryVar v with
    | .error e => some e
    | .ok _ => firstErr vs

end MdLemmas

namespace QsMore

/-- the error a single slot of a pair SEQUENCE raises: `query_var` of a single value; a list/tuple value is an
    "invalid variable type" TypeError whatever it contains -/
def slotErr : QItem → Option PyErr
  | .one v => match queryVar v with
    | .error e => some e
    | .ok _ => none
  | .many _ => some .typeError

/-- the error of the first offending slot of a pair sequence -/
def pairsFirstErr : List (Str × QItem) → Option PyErr
  | [] => none
  | p :: rest => match slotErr p.2 with
    | some e => some e
    | none => pairsFirstErr rest

end QsMore

namespace MdLemmas
open QsMore

theorem firstErr_eq (vs : List QVal) : firstErr vs = vs.findSome? fun v => errOf (queryVar v) := by
  induction vs with
  | nil => rfl
  | cons v vs ih =>
    rw [firstErr, List.findSome?_cons, ih]
    cases queryVar v <;> rfl

theorem slotErr_one (v : QVal) : slotErr (.one v) = errOf (queryVar v) := by
  cases h : queryVar v <;> simp only [slotErr, errOf, h]

theorem pairsFirstErr_eq (items : List (Str × QItem)) : pairsFirstErr items = items.findSome? fun p => slotErr p.2 := by
  induction items with
  | nil => rfl
  | cons p rest ih =>
    rw [pairsFirstErr, List.findSome?_cons, ih]
    cases slotErr p.2 <;> rfl

theorem firstErr_append (a b : List QVal) : firstErr (a ++ b) = (firstErr a).or (firstErr b) := by
  rw [firstErr_eq, firstErr_eq, firstErr_eq, List.findSome?_append]

theorem firstErr_none_iff (vs : List QVal) : firstErr vs = none ↔ ∀ v ∈ vs, ∃ s, queryVar v = .ok s := by
  rw [firstErr_eq, List.findSome?_eq_none_iff]
  exact ⟨fun h v hv => eq_ok (h v hv), fun h v hv => by
    obtain ⟨s, hs⟩ := h v hv
    rw [hs]
    rfl⟩

theorem firstErr_mem (vs : List QVal) (e : PyErr) (h : firstErr vs = some e) : ∃ v ∈ vs, queryVar v = .error e := by
  rw [firstErr_eq] at h
  obtain ⟨v, hv, hq⟩ := List.exists_of_findSome?_eq_some h
  exact ⟨v, hv, eq_error hq⟩

theorem pairsFirstErr_mem (items : List (Str × QItem)) (e : PyErr) (h : pairsFirstErr items = some e) :
    ∃ p ∈ items, slotErr p.2 = some e := by
  rw [pairsFirstErr_eq] at h
  exact List.exists_of_findSome?_eq_some h

theorem firstErr_flatVals (items : List (Str × QItem)) :
    firstErr (flatVals items) = items.findSome? fun p => firstErr (itemVals p.2) := by
  induction items with
  | nil => rfl
  | cons p rest ih =>
    rw [flatVals, List.flatMap_cons, firstErr_append, ← flatVals, ih, List.findSome?_cons]
    cases firstErr (itemVals p.2) <;> rfl

/-- `get_str_query_from_sequence_iterable` fails with the error of the first value that `query_var` rejects (values in
    iteration order, list/tuple slots expanded), and only then -/
theorem errOf_seq (b : Backend) (items : List (Str × QItem)) :
    errOf (strQueryFromSeqIterable b items) = firstErr (flatVals items) := by
  unfold strQueryFromSeqIterable
  rw [errOf_bind_pure, errOf_mapM, firstErr_flatVals]
  congr 1
  funext p
  obtain ⟨k, it⟩ := p
  cases it with
  | one v =>
    simp only [errOf_bind_pure, errOf_pairStr, itemVals, firstErr_eq, List.findSome?_cons, List.findSome?_nil]
    cases errOf (queryVar v) <;> rfl
  | many vs => simp only [errOf_mapM, errOf_pairStr, itemVals, firstErr_eq]

/-- `get_str_query_from_iterable` fails with the error of the first offending slot, and only then -/
theorem errOf_iter (b : Backend) (items : List (Str × QItem)) :
    errOf (strQueryFromIterable b items) = pairsFirstErr items := by
  unfold strQueryFromIterable
  rw [errOf_bind_pure, errOf_mapM, pairsFirstErr_eq]
  congr 1
  funext p
  obtain ⟨k, it⟩ := p
  cases it with
  | one v => simp only [errOf_pairStr, slotErr_one]
  | many vs => rfl

/-! ### the argument gate: which errors the query-string builders can raise -/

def ErrKind (e : PyErr) : Prop := e = .typeError ∨ e = .valueError

theorem queryVar_error (v : QVal) (e : PyErr) (h : queryVar v = .error e) : ErrKind e := by
  cases v <;> simp [queryVar] at h
  · split at h <;> simp at h
    exact Or.inr h.symm
  all_goals exact Or.inl h.symm

theorem seq_error (b : Backend) (items : List (Str × QItem)) (e : PyErr)
    (h : strQueryFromSeqIterable b items = .error e) : ErrKind e := by
  obtain ⟨v, _, hq⟩ := firstErr_mem _ e ((errOf_seq b items).symm.trans (congrArg errOf h))
  exact queryVar_error v e hq

theorem iter_error (b : Backend) (items : List (Str × QItem)) (e : PyErr)
    (h : strQueryFromIterable b items = .error e) : ErrKind e := by
  obtain ⟨⟨k, it⟩, _, hq⟩ := pairsFirstErr_mem _ e ((errOf_iter b items).symm.trans (congrArg errOf h))
  cases it with
  | many vs =>
    cases hq
    exact Or.inl rfl
  | one v =>
    rw [slotErr_one] at hq
    exact queryVar_error v e (eq_error hq)

theorem getStrQuery_error (b : Backend) (a : QArg) (e : PyErr) (h : getStrQuery b a = .error e) : ErrKind e := by
  cases a with
  | none => cases h
  | str s => simp only [getStrQuery] at h; split at h <;> cases h
  | mapping items =>
    simp only [getStrQuery] at h
    split at h
    · cases h
    · exact seq_error b items e (error_of_errOf (errOf_map _ _) h)
  | pairs items =>
    simp only [getStrQuery] at h
    split at h
    · cases h
    · exact iter_error b items e (error_of_errOf (errOf_map _ _) h)
  | bytes empty =>
    simp only [getStrQuery] at h
    split at h
    · cases h
    · cases h; exact Or.inl rfl
  | other => cases h; exact Or.inl rfl
  | noArgs => cases h; exact Or.inr rfl

/-- `get_str_query` of a mapping fails with the error of the first value that `query_var` rejects, and only then -/
theorem errOf_getStrQuery_mapping (b : Backend) (items : List (Str × QItem)) :
    errOf (getStrQuery b (.mapping items)) = firstErr (flatVals items) := by
  cases items with
  | nil => rfl
  | cons x rest =>
    simp only [getStrQuery, List.isEmpty_cons, Bool.false_eq_true, if_false]
    rw [errOf_map, errOf_seq]

/-- `get_str_query` of a pair sequence fails with the error of the first offending slot, and only then -/
theorem errOf_getStrQuery_pairs (b : Backend) (items : List (Str × QItem)) :
    errOf (getStrQuery b (.pairs items)) = pairsFirstErr items := by
  cases items with
  | nil => rfl
  | cons x rest =>
    simp only [getStrQuery, List.isEmpty_cons, Bool.false_eq_true, if_false]
    rw [errOf_map, errOf_iter]

/-- `with_query` and `extend_query` fail exactly when `get_str_query` does, with its error -/
theorem errOf_withQuery (e : Env) (u : Url) (a : QArg) : errOf (withQuery e u a) = errOf (getStrQuery e.b a) := by
  unfold withQuery
  exact errOf_bind_pure _ _

theorem errOf_extendQuery (e : Env) (u : Url) (a : QArg) : errOf (extendQuery e u a) = errOf (getStrQuery e.b a) := by
  unfold extendQuery
  cases getStrQuery e.b a with
  | error er => rfl
  | ok o =>
    cases o with
    | none => rfl
    | some nq =>
      simp only [bind, Except.bind]
      split <;> rfl

end MdLemmas
end Yarl
