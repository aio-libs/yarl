/-
  CanonConverse.lean — the Prop-level core of the CONVERSE of C04: a string that `str(URL(s))` returns unchanged is
  canonical.  Used by YarlProofs/C04DecideConverse.lean.  The namespace `R8` (here, in CanonDecide, CanonComplete,
  C04DecideEmpty and C04DecideDomain) holds the helpers of the Boolean checker `canonicalB` and of this converse.

  `render`        — what `str` writes for a URL with `CanonUrl` and `NetlocCanonB`: `unsplit_result` of the scheme, a
                    canonical authority `N` without default port, the path `C07_strPath u`, the query, the fragment.
  `fixed_parts`   — if that text is the INPUT `s` again, the five parts `split_url` read from `s` are exactly these
                    five (the two recorded exclusions of C03 — `C03Guards` — cannot occur at a fixed point), and
                    they satisfy `CanonStringB` and `PartsOK`.
-/
import YarlModel
import YarlProofs.Lemmas.CanonComplete
namespace Yarl
namespace R8
open ReachFix FixLemmas NetShape HostLemmas NetlocLemmas BrHost ParseLemmas UnsplitLemmas IdGen

/-- the authority `str` writes is canonical and has no default port -/
theorem render (e : Env) (u : Url) (hnet : NetlocCanonB e u) :
    ∃ N, str e u = .ok (unsplitResult u.scheme N (C07_strPath u) u.query u.fragment) ∧
      CanonNetlocB e u.scheme N ∧ (N = [] ↔ u.netloc = []) := by
  rcases netlocCanonB_iff.1 hnet with ⟨hn, hpre⟩ | ⟨user, pw, W, h, port, st⟩
  · have hep : explicitPort e u = .ok none := by unfold explicitPort; rw [net_empty e u hn hpre]; rfl
    have hstr := C07_str_recompose e u none hep (by intro p hp; cases hp)
    refine ⟨[], ?_, .plain (.empty rfl), by simp [hn]⟩
    rw [hstr]
    unfold C07_strPath
    rw [hn]
  · -- `str` writes the authority around the host text it has, or, a default port dropped, around `bracket h`
    obtain ⟨W', hW', heq⟩ := strNet_eq u.scheme user pw W h port
    have hstr := str_authW e u user pw W h port st.netloc st.net
    rw [heq] at hstr
    have w' : HostW e.o W' h := by
      rcases hW' with rfl | rfl
      · exact st.host
      · exact st.host.sub
    exact ⟨_, hstr, canonNetlocB_iff.2 (.inr ⟨user, pw, W', h, _, rfl, st.userinfo, w',
        strPort_range u.scheme port st.range, strPort_notDefault u.scheme port⟩),
      fun h0 => absurd h0 (authW_ne_nil user pw w'.ne_nil _), fun h0 => absurd h0 st.ne⟩

theorem canonNetlocB_chars (e : Env) {scheme a : Str} (h : CanonNetlocB e scheme a) :
    ∀ c ∈ a, 33 ≤ c ∧ c < 128 ∧ Rfc.isDelim3 c = false :=
  let ⟨_, hN, _⟩ := h.netFix
  hN.chars

/-- `unsplit_result` of visible parts is visible: every branch concatenates parts and delimiters -/
theorem visible_unsplit {sc n pa q f : Str} (h1 : Visible sc) (h2 : Visible n) (h3 : Visible pa) (h4 : Visible q)
    (h5 : Visible f) : Visible (unsplitResult sc n pa q f) := by
  rw [unsplit_shape]
  unfold unsplitHead tailStr
  simp only [apply_ite Visible, visible_append, visible_cons, visible_nil, h1, h2, h3, h4, h5, and_self, ite_self,
    Nat.reduceLeDiff]

/-- for a scheme in `uses_authority` without authority, a rootless path and the same path behind a "/" are written
    alike ("file:a" and "file:/a" both give "file:///a") -/
theorem unsplit_rootless {sc P : Str} (Q F : Str) (hne : sc ≠ []) (huse : Gen.usesAuthority.contains sc = true)
    (hP : P ≠ []) (hroot : P.head? ≠ some 47) :
    unsplitResult sc [] P Q F = unsplitResult sc [] (47 :: P) Q F := by
  have h1 : sc.isEmpty = false := isEmpty_false hne
  have h2 : P.isEmpty = false := isEmpty_false hP
  have h3 : P.take 1 ≠ [47] := by
    cases P with
    | nil => exact absurd rfl hP
    | cons a r => simp at hroot ⊢; exact hroot
  have hm : sc ∈ Gen.usesAuthority := by simpa using huse
  unfold unsplitResult
  simp [h1, h2, h3, hm]

/-- The converse at Prop level.  If `str(URL(s))` is `s` again — for a Python string `s` whose authority names a host of a
    supported kind (`AuthInputB`: any letter case, any IPv6 spelling, …) — then the five parts `split_url` reads from
    `s` are canonical (`CanonStringB`), well-formed (`PartsOK`), and `s` is what `unsplit_result` writes from them. -/
theorem fixed_parts (e : Env) (s : Str) (p : Parts) (u : Url) (hs : PyStr s)
    (hp : splitUrl e.o s = .ok p) (ha : AuthInputB e.o p.netloc)
    (h1 : encodeUrl e s = .ok u) (h2 : str e u = .ok s) :
    CanonStringB e p.scheme p.netloc p.path p.query p.fragment ∧ PartsOK p ∧
    unsplitResult p.scheme p.netloc p.path p.query p.fragment = s := by
  have hc := C03_encodeUrl_canon e s hs u h1
  have hn := C03_bracket_encodeUrl_netlocCanonB e s u p hs h1 hp ha
  have hsch := C03_encodeUrl_scheme e s u hs h1
  obtain ⟨p', netloc, pre, hp', hn0, hu⟩ := encodeUrl_inv e s u h1
  rw [hp] at hp'
  cases hp'
  have hus : u.scheme = p.scheme := by rw [hu]; rfl
  have hupath : u.path = encPath e u.netloc p.path := by rw [hu]; rfl
  obtain ⟨N, hstr, hN, hNe⟩ := render e u hn
  have hun : N ≠ [] → u.netloc ≠ [] := fun hne h => hne (hNe.2 h)
  rw [hstr] at h2
  have hW : unsplitResult u.scheme N (C07_strPath u) u.query u.fragment = s := by injection h2
  obtain ⟨hPc, hPd, hPr⟩ := strPath_canon e.b u hc
  have hNch := canonNetlocB_chars e hN
  have hbr := (canonNetlocB_parse e hN).1
  have hvis : Visible s := by
    rw [← hW]
    apply visible_unsplit
    · intro c hc'
      rcases hsch with h | h
      · rw [h] at hc'; cases hc'
      · exact schemeChars_visible c (h.2 c hc').1
    · exact fun c hc' => (hNch c hc').1
    · exact fun c hc' => (canon_path_chars hPc c hc').1
    · exact fun c hc' => (canon_query_chars hc.query c hc').1
    · exact fun c hc' => canon_fragment_chars hc.fragment c hc'
  have hclean := cleanUrl_visible hvis
  have hB := C07_split e.o s p hp
  rw [hclean] at hB
  -- `C03Guards.authority_scheme` cannot fail at a fixed point
  have gA : u.scheme ≠ [] → Gen.usesAuthority.contains u.scheme = true → RootedP (C07_strPath u) := by
    intro hne huse
    by_cases hNn : N = []
    · have hun : u.netloc = [] := hNe.1 hNn
      rw [strPath_of_no_netloc u hun] at hW ⊢
      by_cases hroot : RootedP u.path
      · exact hroot
      · exfalso
        have hP : u.path ≠ [] := fun h => hroot (Or.inl h)
        have hh : u.path.head? ≠ some 47 := fun h => hroot (Or.inr h)
        have hcan : Canon (Gen.PATH_REQUOTER.tab e.b) (47 :: u.path) := canon_cons (path_lit47 e.b) hc.path
        have hok' := partsOK_build e.b u.scheme [] (47 :: u.path) u.query u.fragment hsch
          (fun c hc' => by cases hc') rfl hcan hc.query hc.fragment
          (fun h => absurd rfl h) (fun _ _ => rootedP_cons _) (fun h => absurd h hne)
        have hsplit := C07_split_unsplit e.o _ hok'
        simp only at hsplit
        rw [← unsplit_rootless u.query u.fragment hne huse hP hh, ← hNn, hW, hp] at hsplit
        have hpp : p.path = 47 :: u.path := by
          injection hsplit with h
          rw [h]
        rw [hun, hpp, encPath_fixed' e [] _ hcan (fun h => absurd rfl h)] at hupath
        have := congrArg List.length hupath
        simp at this
    · exact hPr (hun hNn)
  -- … nor `C03Guards.first_segment`
  have gB : u.scheme = [] → N = [] → 58 ∈ C07_strPath u →
      ((C07_strPath u).takeWhile (· ≠ 58) = [] ∨
        ((C07_strPath u).takeWhile (· ≠ 58)).all (fun c => mem c Gen.schemeChars) = false) := by
    intro hse hNn h58
    by_cases h2 : (C07_strPath u).take 2 = [47, 47]
    · right
      generalize C07_strPath u = P at h2 h58 ⊢
      match P, h2 with
      | a :: b :: t, h2 =>
        simp at h2
        obtain ⟨rfl, rfl⟩ := h2
        simp [List.takeWhile]
        intro h
        exact absurd h (by decide)
    · rw [hse, hNn] at hW
      have hrel := canonText_relative (C07_strPath u) u.query u.fragment h2
      unfold canonText at hrel
      rw [hrel, List.append_assoc] at hW
      have hnil : (Rfc.schemeOf Gen.schemeChars s).1 = [] := by
        have := congrArg Rfc.Parts5.scheme hB
        rw [appendixB_eq] at this
        simp only [toParts5] at this
        rw [← this, ← hus, hse]
      have hs58 : 58 ∈ s := by rw [← hW]; exact List.mem_append_left _ h58
      have := schemeOf_nil_imp s hnil hs58
      rw [← hW, takeWhile_of_mem_left _ h58] at this
      exact this
  have hok := partsOK_build e.b u.scheme N (C07_strPath u) u.query u.fragment hsch hNch hbr hPc hc.query
    hc.fragment (fun hne => hPr (hun hne)) gA gB
  have hsplit := C07_split_unsplit e.o _ hok
  simp only at hsplit
  rw [hW, hp] at hsplit
  have hpe : p = { scheme := u.scheme, netloc := N, path := C07_strPath u, query := u.query, fragment := u.fragment } := by
    injection hsplit
  have hnonempty : N ≠ [] → C07_strPath u = [] → u.query = [] ∧ u.fragment = [] := by
    intro hne hpe'
    unfold C07_strPath at hpe'
    split at hpe'
    · cases hpe'
    · rename_i hcnd
      rw [hpe'] at hcnd
      simp only [List.isEmpty_nil, Bool.true_and, isEmpty_false (hun hne), Bool.not_false, Bool.or_eq_true,
        Bool.not_eq_true', List.isEmpty_eq_false_iff, not_or, Decidable.not_not] at hcnd
      exact hcnd
  rw [hpe]
  refine ⟨⟨hsch, hN, hPc, hc.query, hc.fragment, fun hne => hPr (hun hne), fun hne => hPd (hun hne), hnonempty, gB, fun h1 h2 _ => gA h1 h2⟩, hok, hW⟩

end R8
end Yarl
