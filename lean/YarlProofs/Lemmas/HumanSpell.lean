import YarlProofs.Lemmas.HumanFull
import YarlProofs.Lemmas.QueryGlue
/-!
# HumanSpell — the constructor on ANY spelling of decoded components

`HumanReach.StoresOK` (a URL object stores the encodings of decoded components, with the side conditions of the round
trip) and what `URL(s)` makes of a text `s = scheme://[usr[:pw']@]D[:port]/rp[?rq][#rf]` whose pieces spell decoded
components: spelled user and password (`R5.SpellOpt`; the authority block is `HumanFull.netBlock_spelt`), the split
(`R5.encodeUrl_spelled`, `R5.authority_spelled`) and the stored record `R5.ctorUrl` (`R5.ctor_pieces`).  The spelling
conditions on path, query and fragment are equations between quoter outputs here; C18More3Spell.lean says which texts
satisfy them.  Also the instrumented copy `R5.humanReprLit` of `human_repr()` that leaves selected characters literal
(`R5.humanQuoteLit`, Lemmas/HumanLemmas.lean), and the glue of the query string for the generated query requoter.
(Namespaces `R5`, `R12`: see the header of Lemmas/HumanLemmas.lean.)
-/
namespace Yarl
open HumanLemmas HumanFull HumanMore QueryUrl QsLemmas NetlocLemmas

namespace HumanReach

/-- `u` stores the encodings of the decoded components `user pw H port p kvs f` (`HumanMore.Stores`), and these
    satisfy the side conditions of the round trip (`HumanStores.roundtrip_shown`, `C18_roundtrip_stored`): a valid stored scheme, a
    stored host `H` of one of the kinds of `HostKind`, a port in range, texts without lone surrogates, a user that is
    not "", a decoded path without dot segments -/
structure StoresOK (e : Env) (u : Url) (user pw : Option Str) (H : Str) (port : Option Nat)
    (p : Str) (kvs : List (Str × Str)) (f : Str) : Prop where
  st : Stores e u user pw H port p kvs f
  vs : ValidScheme u.scheme
  hk : ∃ h D, HostKind e h H D
  hport : ∀ x, port = some x → x ≤ 65535
  hu : UText user
  hune : ∀ s, user = some s → s ≠ []
  hw : UText pw
  hp : PyStr (47 :: p)
  hn : NoSurrogate (47 :: p)
  hnorm : normalizePath (47 :: p) = 47 :: p
  hg : GoodPairs kvs
  hf : PyStr f
  hfn : NoSurrogate f

theorem StoresOK.okH {e : Env} {u : Url} {user pw : Option Str} {H : Str} {port : Option Nat} {p : Str}
    {kvs : List (Str × Str)} {f : Str} (ok : StoresOK e u user pw H port p kvs f) : HostOK H := by
  obtain ⟨h, D, hk⟩ := ok.hk
  exact hk.rt.okH
end HumanReach

open HumanReach

namespace R5

/-- the URL object the constructor makes from the human text (and from the canonical text) of decoded components -/
def ctorUrl (e : Env) (sc : Str) (user pw : Option Str) (H : Str) (port : Option Nat)
    (p : Str) (kvs : List (Str × Str)) (f : Str) : Url :=
  { builtFull e sc user pw H port (47 :: p) kvs f with
    pre := some (preOf (user.map (q e Gen.QUOTER)) (pw.map (q e Gen.QUOTER)) H port) }

theorem ctorUrl_stores (e : Env) (sc : Str) (user pw : Option Str) (H : Str) (port : Option Nat)
    (p : Str) (kvs : List (Str × Str)) (f : Str) :
    Stores e (ctorUrl e sc user pw H port p kvs f) user pw H port p kvs f :=
  ⟨rfl, fun pr h => (by cases h; rfl), Or.inl rfl, rfl, rfl⟩

theorem ctorUrl_storesOK (e : Env) (sc : Str) (user pw : Option Str) (h H D : Str) (port : Option Nat)
    (p : Str) (kvs : List (Str × Str)) (f : Str)
    (vs : ValidScheme sc) (hk : HostKind e h H D) (hport : ∀ x, port = some x → x ≤ 65535)
    (hu : UText user) (hune : ∀ s, user = some s → s ≠ []) (hw : UText pw)
    (hp : PyStr (47 :: p)) (hn : NoSurrogate (47 :: p)) (hnorm : normalizePath (47 :: p) = 47 :: p)
    (hg : GoodPairs kvs) (hf : PyStr f) (hfn : NoSurrogate f) :
    StoresOK e (ctorUrl e sc user pw H port p kvs f) user pw H port p kvs f :=
  ⟨ctorUrl_stores e sc user pw H port p kvs f, vs, ⟨h, D, hk⟩, hport, hu, hune, hw, hp, hn, hnorm, hg, hf, hfn⟩
/-- `y` is a SPELLING of the optional decoded text `x` in userinfo position: present iff `x` is, none of the characters
    TAB LF CR `# / : ? @ [ ]` literally in it (`HumanPart`), and the constructor's re-quoting of it gives what `build`
    stores for `x` (`(REQUOTER(y) if y else y) == QUOTER(x)`) — literal, escaped, or partly escaped.
    It is `HumanFull.Spells e x y` (fields `shape`, `req`) together with `HumanPart y` (`spellOpt_iff`). -/
structure SpellOpt (e : Env) (x y : Option Str) : Prop where
  part : HumanPart y
  shape : y = none ↔ x = none
  req : requoteOpt e y = x.map (q e Gen.QUOTER)

theorem requoteOpt_some (e : Env) (r : Str) : requoteOpt e (some r) = some (q e Gen.REQUOTER r) := by
  cases r with
  | nil => simp [requoteOpt, HumanLemmas.q_nil]
  | cons c r => rfl

theorem spellOpt_human {e : Env} {x y : Option Str} (hx : UText x)
    (h : humanQuoteOpt e.o x (humanUnsafeOf "user") = .ok y) : SpellOpt e x y where
  part := humanPart_of hx h
  shape := by
    rcases humanQuoteOpt_ok h with ⟨rfl, rfl⟩ | ⟨s, r, rfl, rfl, _⟩ <;> simp
  req := requoteOpt_human e x y hx h

theorem SpellOpt.spells {e : Env} {x y : Option Str} (s : SpellOpt e x y) : Spells e x y := ⟨s.shape, s.req⟩

theorem spellOpt_iff {e : Env} {x y : Option Str} : SpellOpt e x y ↔ HumanPart y ∧ Spells e x y :=
  ⟨fun s => ⟨s.part, s.spells⟩, fun h => ⟨h.1, h.2.shape, h.2.req⟩⟩

theorem SpellOpt.auth {e : Env} {x y : Option Str} (s : SpellOpt e x y) : AuthPart y := authPart_human s.part

theorem SpellOpt.userOK {e : Env} {x y : Option Str} (s : SpellOpt e x y) (hne : ∀ r, y = some r → r ≠ []) :
    UserOK y := fun r hr => ⟨hne r hr, s.part r hr 58 (by decide)⟩

end R5

/-- `URL(s)` for a text `s` composed of a scheme, spelled user and password (`HumanFull.Spells`; free of the characters
    that end the authority and of brackets: `AuthPart`), the shown host `D`, and path, query and fragment texts free of
    the characters the splitter reacts to: the five parts are split off as written and the authority block is that of
    the decoded user and password.  Nothing is asked yet of what `rp`, `rq`, `rf` spell. -/
theorem R5.encodeUrl_spelled (e : Env) (sc : Str) (user pw usr pw' : Option Str) {h : Str} (H D : Str)
    (port : Option Nat) (rp rq rf : Str) (vs : ValidScheme sc) (hrt : HostRT e h H D)
    (hport : ∀ x, port = some x → x ≤ 65535) (hu : UText user) (hune : ∀ s, user = some s → s ≠ [])
    (s1 : Spells e user usr) (s2 : Spells e pw pw') (huo : UserOK usr) (a1 : AuthPart usr) (a2 : AuthPart pw')
    (hrp : ∀ c ∈ rp, c ≠ 63 ∧ c ≠ 35) (hc1 : Clean rp) (hq35 : ∀ c ∈ rq, c ≠ 35) (hcq : Clean rq) (hc2 : Clean rf)
    (hnf : isAscii (authText usr pw' D port) = false → checkNetloc e.o (authText usr pw' D port) = .ok ()) :
    encodeUrl e (composeUrl sc (authText usr pw' D port) (47 :: rp) rq rf) =
      .ok (FixLemmas.finishUrl e ⟨sc, authText usr pw' D port, 47 :: rp, rq, rf⟩
        (authText (user.map (q e Gen.QUOTER)) (pw.map (q e Gen.QUOTER)) H port)
        (some (preOf (user.map (q e Gen.QUOTER)) (pw.map (q e Gen.QUOTER)) H port))) :=
  FixLemmas.encodeUrl_of e _ _ _ _
    (splitUrl_human e.o sc (authText usr pw' D port) rp rq rf vs (authText_authCh port a1 a2 hrt.disp)
      (checkBrackets_auth port a1 a2 hrt.disp) hnf hrp hc1 hq35 hcq hc2)
    (netBlock_spelt e sc user pw usr pw' H D port hu hune s1 s2 huo hrt.disp.ok hrt.okH hrt.enc hrt.colon hport)

/-- … and the authority RFC 3986 Appendix B reads off such a text is the authority written -/
theorem R5.authority_spelled (sc : Str) {usr pw' : Option Str} {D : Str} (port : Option Nat)
    (rp rq rf : Str) (vs : ValidScheme sc) (hd : DispHost D) (a1 : AuthPart usr) (a2 : AuthPart pw')
    (hrp : ∀ c ∈ rp, c ≠ 63 ∧ c ≠ 35) (hq35 : ∀ c ∈ rq, c ≠ 35) :
    (Rfc.appendixB Gen.schemeChars (composeUrl sc (authText usr pw' D port) (47 :: rp) rq rf)).authority =
      authText usr pw' D port := by
  rw [FixLemmas.appendixB_compose sc _ (47 :: rp) rq rf (schemeOK_of_valid vs)
    (fun c hc => by
      obtain ⟨a1, a2, a3, _⟩ := authText_authCh port a1 a2 hd c hc
      simp [Rfc.isDelim3, a1, a2, a3])
    (Or.inr ⟨rp, rfl⟩)
    (fun c hc => by
      rcases List.mem_cons.mp hc with rfl | hc
      · omega
      · exact hrp c hc)
    hq35]

/-- … and when moreover the written path, query and fragment are re-quoted to what `build` stores for the decoded
    components, `URL(s)` is the record `R5.ctorUrl` -/
theorem R5.ctor_pieces (e : Env) (sc : Str) (user pw usr pw' : Option Str) {h : Str} (H D : Str) (port : Option Nat)
    (p : Str) (kvs : List (Str × Str)) (f rp rq rf : Str) (vs : ValidScheme sc) (hrt : HostRT e h H D)
    (hport : ∀ x, port = some x → x ≤ 65535) (hu : UText user) (hune : ∀ s, user = some s → s ≠ [])
    (hp : PyStr (47 :: p)) (hn : NoSurrogate (47 :: p)) (hnorm : normalizePath (47 :: p) = 47 :: p)
    (s1 : Spells e user usr) (s2 : Spells e pw pw') (huo : UserOK usr) (a1 : AuthPart usr) (a2 : AuthPart pw')
    (hpath : q e Gen.PATH_REQUOTER (47 :: rp) = q e Gen.PATH_QUOTER (47 :: p))
    (hrp : ∀ c ∈ rp, c ≠ 63 ∧ c ≠ 35) (hc1 : Clean rp)
    (hquery : FixLemmas.encQuery e rq = qtext e.b kvs) (hq35 : ∀ c ∈ rq, c ≠ 35) (hcq : Clean rq)
    (hfrag : FixLemmas.encFragment e rf = fragText e f) (hc2 : Clean rf)
    (hnf : isAscii (authText usr pw' D port) = false → checkNetloc e.o (authText usr pw' D port) = .ok ()) :
    encodeUrl e (composeUrl sc (authText usr pw' D port) (47 :: rp) rq rf) =
      .ok (R5.ctorUrl e sc user pw H port p kvs f) := by
  have hd := stored_path e p hp hn
  rw [hnorm] at hd
  have hnl : (authText (user.map (q e Gen.QUOTER)) (pw.map (q e Gen.QUOTER)) H port).isEmpty = false :=
    isEmpty_false (authText_ne_nil _ _ hrt.okH.1 _)
  rw [R5.encodeUrl_spelled e sc user pw usr pw' H D port rp rq rf vs hrt hport hu hune s1 s2 huo a1 a2 hrp hc1 hq35 hcq
    hc2 hnf]
  simp only [FixLemmas.finishUrl, hfrag, hquery, FixLemmas.encPath, hpath, hnl, List.isEmpty_cons,
    Bool.false_eq_true, ↓reduceIte, Bool.not_false, Bool.true_and, hd, builtFull, fromParts, R5.ctorUrl, fragText]

/-! ## the glue of the query string for the generated query requoter

`QUERY_REQUOTER` (`tq`) tracks '&' and '=' (`Lemmas/QueryGlue.lean`); `QUERY_PART_QUOTER` (`tp`), which `build` applies
to each key and value, never writes them. -/

namespace QueryGlue

abbrev tq (b : Backend) : QTab := Gen.QUERY_REQUOTER.tab b
abbrev tp (b : Backend) : QTab := Gen.QUERY_PART_QUOTER.tab b

theorem tq_wf (b : Backend) : (tq b).WF := gen_tab_wf _ (by decide) b

theorem tq_tracked (b : Backend) {d : Nat} (hd : d = 38 ∨ d = 61) : WfLemmas.Tracked (tq b) d := by
  have key : (tq b).prot 38 = true ∧ (tq b).prot 61 = true := by
    cases b <;> decide
  rcases hd with rfl | rfl
  · exact ⟨key.1, by decide, fun _ => by decide⟩
  · exact ⟨key.2, by decide, fun _ => by decide⟩

theorem cOut_tq_sep (b : Backend) {d : Nat} (hd : d = 38 ∨ d = 61) (a x : Str) :
    cOut (tq b) (a ++ d :: x) = cOut (tq b) a ++ d :: cOut (tq b) x :=
  cOut_sep _ (tq_wf b) (tq_tracked b hd) a x

theorem cOut_tq_joinC (b : Backend) (l : List Str) : cOut (tq b) (joinC 38 l) = joinC 38 (l.map (cOut (tq b))) :=
  cOut_joinC _ (tq_wf b) (tq_tracked b (Or.inl rfl)) l

theorem cOut_tq_pair (b : Backend) (rk rv : Str) :
    cOut (tq b) (rk ++ [61] ++ rv) = cOut (tq b) rk ++ [61] ++ cOut (tq b) rv := by
  rw [List.append_assoc, List.singleton_append, cOut_tq_sep b (Or.inr rfl), List.append_assoc, List.singleton_append]

theorem tq_sep_not_mem (b : Backend) {d : Nat} (hd : d = 38 ∨ d = 61) {s : Str} (h : d ∉ s) : d ∉ cOut (tq b) s :=
  TokLemmas.not_mem_cOut (tq_wf b) (tq_tracked b hd) h

theorem tp_no_seps (b : Backend) (t : Str) (ht : GoodText t) : 38 ∉ cOut (tp b) t ∧ 61 ∉ cOut (tp b) t := by
  have := C12_part_no_delims b t ht.1
  rwa [run_eq_cOut _ mem_QUERY_PART_QUOTER b t ht.1, stripSurr_id t ht.2] at this

theorem pairOut_no_38 (b : Backend) (p : Str × Str) (hg : GoodText p.1 ∧ GoodText p.2) : 38 ∉ pairOut b p := by
  unfold pairOut
  simp only [List.mem_append, List.mem_singleton, not_or]
  exact ⟨⟨(tp_no_seps b _ hg.1).1, by decide⟩, (tp_no_seps b _ hg.2).1⟩

end QueryGlue

/-! ## `human_repr()` with selected characters left literal -/

namespace R5

/-- `human_repr()` with the characters selected by `lit` left literal in position `comp` (and nowhere else) -/
def humanReprLit (comp : String) (lit : Nat → Bool) (e : Env) (u : Url) : R Str := do
  let L := fun (key : String) (c : Nat) => key == comp && lit c
  let usr ← humanQuoteLitOpt e.o (← user e u) (humanUnsafeOf "user") (L "user")
  let pw ← humanQuoteLitOpt e.o (← password e u) (humanUnsafeOf "password") (L "password")
  let h0 ← host e u
  let h := h0.map (fun h => if !h.isEmpty && mem 58 h then [91] ++ h ++ [93] else h)
  let path ← humanQuoteLit e.o (pathDecoded e u) (humanUnsafeOf "path") (L "path")
  let qparts ← (queryPairs u).mapM (fun (k, v) => do
    pure ((← humanQuoteLit e.o k (humanUnsafeOf "k") (L "k")) ++ [61] ++
          (← humanQuoteLit e.o v (humanUnsafeOf "v") (L "v"))))
  let qs := joinC 38 qparts
  let frag ← humanQuoteLit e.o (fragmentDecoded e u) (humanUnsafeOf "fragment") (L "fragment")
  let netloc := makeNetloc (q e Gen.QUOTER) usr pw h (← explicitPort e u) false
  pure (unsplitResult u.scheme netloc path qs frag)

end R5

end Yarl
