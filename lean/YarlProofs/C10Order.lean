/-
  C10Order.lean — C10 "Equality, hashing and ordering are coherent": the order laws in one place, and the model's
  comparisons against an independent specification of Python's.

  (a) the total-preorder facts for the six comparison operators of `URL`, stated for ALL URLs without hypotheses, in
      one place (`C10_order_laws`): `==` implies `<=` and `>=` (`C10_eq_le_ge`), `<=` is reflexive, mixed transitivity
      (`C10_lt_le_trans`); the other laws are those of C10.lean (`>` / `>=` are the converses by definition,
      `C10_ge_gt`).  `namespace R3` holds the helpers of part (b).
  (b) an INDEPENDENT specification of Python's rich comparison of sequences (`PySpec.seqCmp`, written from the Python
      language reference, §6.10.1 "Value comparisons": "Sequences compare lexicographically using comparison of
      corresponding elements … collections that support order comparison are ordered the same as their first unequal
      elements (for example, `[1,2,x] <= [1,2,y]` has the same value as `x <= y`).  If a corresponding element does not
      exist, the shorter collection is ordered first"; strings "compare lexicographically using the numerical Unicode
      code points of their characters") instantiated twice: `str` = sequence of code points, `_sort_key` = tuple of
      `str`.  All FOUR ordering operators are transcribed separately (`pyTupleLt`, `pyTupleLe`, `pyTupleGt`,
      `pyTupleGe`), and the model's `Url.lt` / `Url.le` / `Url.gt` / `Url.ge` (where `le`, `gt`, `ge` are DEFINED from
      `lt` and key equality) are proved equal to them on the five-element key lists.  Both sides are read in core's
      lexicographic order on lists: the specification's four operators are its `<`, `≤`, `>`, `≥` (`seqCmp_iff`, at
      both levels), the model's `<` is its `<` on the key list (`CmpLemmas.ltParts_iff`).  The identities
      `t1 <= t2 ↔ t1 < t2 ∨ t1 = t2`, `t1 > t2 ↔ t2 < t1`, `t1 >= t2 ↔ t2 <= t1` are theorems about the specification,
      for tuples of any length.
-/
import YarlModel
import YarlProofs.Lemmas.CmpLemmas
import YarlProofs.C10
namespace Yarl

/-! ## (b) the independent specification -/
namespace PySpec

/-- the four ordering operators -/
inductive Ord where
  | lt | le | gt | ge
  deriving DecidableEq, Repr

/-- `a <op> b` on ints (code points; lengths) -/
def natCmp : Ord → Nat → Nat → Bool
  | .lt, a, b => decide (a < b)
  | .le, a, b => decide (a ≤ b)
  | .gt, a, b => decide (a > b)
  | .ge, a, b => decide (a ≥ b)

set_option linter.unusedVariables false in
/-- Python's rich comparison `xs <op> ys` of two sequences with element comparison `elem`: the first pair of
    UNEQUAL corresponding elements decides (with the same operator); if there is none, the lengths are compared
    (the shorter sequence, a prefix of the other, is ordered first; equal lengths: `<` / `>` false, `<=` / `>=` true).
    Structural recursion on the two lists. -/
def seqCmp {α : Type} [DecidableEq α] (elem : Ord → α → α → Bool) (op : Ord) : List α → List α → Bool
  | [], ys => natCmp op 0 ys.length
  | x :: xs, [] => natCmp op (xs.length + 1) 0
  | x :: xs, y :: ys => if x = y then seqCmp elem op xs ys else elem op x y

/-- `s <op> t` for two `str` (sequences of code points) -/
def pyStrCmp (op : Ord) (s t : Str) : Bool := seqCmp natCmp op s t

/-- `t1 <op> t2` for two tuples of `str` -/
def pyTupleCmp (op : Ord) (x y : List Str) : Bool := seqCmp pyStrCmp op x y

end PySpec

open PySpec in
/-- Python's `<` on tuples of str -/
def pyTupleLt (x y : List Str) : Bool := pyTupleCmp .lt x y
open PySpec in
/-- Python's `<=` on tuples of str -/
def pyTupleLe (x y : List Str) : Bool := pyTupleCmp .le x y
open PySpec in
/-- Python's `>` on tuples of str -/
def pyTupleGt (x y : List Str) : Bool := pyTupleCmp .gt x y
open PySpec in
/-- Python's `>=` on tuples of str -/
def pyTupleGe (x y : List Str) : Bool := pyTupleCmp .ge x y

/-- `URL._sort_key` as a Python tuple of five str (an empty path under an authority counting as "/") -/
def sortKey (u : Url) : List Str := keyList (eqKey u)

namespace R3
open PySpec CmpLemmas

/-! ### generic facts about `seqCmp` -/

variable {α : Type} [DecidableEq α]

theorem seqCmp_lt_refl (elem : Ord → α → α → Bool) (xs : List α) : seqCmp elem .lt xs xs = false := by
  induction xs with
  | nil => rfl
  | cons x xs ih => simp only [seqCmp, if_true, ih]

/-- the relation of core's order on lists that an operator stands for (`≤` on lists is `¬ · > ·`) -/
def rel [LT α] : Ord → List α → List α → Prop
  | .lt, a, b => a < b
  | .le, a, b => a ≤ b
  | .gt, a, b => b < a
  | .ge, a, b => b ≤ a

/-- the element comparison is an order: on unequal elements every operator is decided by `<`, one way or the other -/
def ElemOK [LT α] (elem : Ord → α → α → Bool) : Prop :=
  ∀ x y, x ≠ y → (elem .lt x y = true ↔ x < y) ∧ (elem .le x y = true ↔ x < y) ∧
    (elem .gt x y = true ↔ y < x) ∧ (elem .ge x y = true ↔ y < x)

/-- the specification's four operators are core's lexicographic `<`, `≤`, `>`, `≥` on lists -/
theorem seqCmp_iff [LT α] [Std.Irrefl (α := α) (· < ·)] [Std.Asymm (α := α) (· < ·)]
    [Std.Trichotomous (α := α) (· < ·)] (elem : Ord → α → α → Bool) (he : ElemOK elem) (op : Ord) :
    ∀ xs ys : List α, seqCmp elem op xs ys = true ↔ rel op xs ys
  | [], [] => by
    cases op <;> simp [seqCmp, natCmp, rel]
  | [], _ :: _ => by
    cases op <;> simp [seqCmp, natCmp, rel]
  | _ :: _, [] => by
    cases op <;> simp [seqCmp, natCmp, rel]
  | x :: xs, y :: ys => by
    have ih := seqCmp_iff elem he op xs ys
    rw [seqCmp]
    by_cases hxy : x = y
    · subst hxy
      rw [if_pos rfl, ih]
      cases op <;> simp [rel, List.cons_le_cons_iff, Std.Irrefl.irrefl]
    · have hyx : ¬ y = x := fun e => hxy e.symm
      obtain ⟨h1, h2, h3, h4⟩ := he x y hxy
      rw [if_neg hxy]
      cases op <;> simp [rel, List.cons_lt_cons_iff, List.cons_le_cons_iff, hxy, hyx, h1, h2, h3, h4]

/-! ### ints, then str, then tuples of str -/

theorem natCmp_ok : ElemOK natCmp := by
  intro x y h
  simp only [natCmp, decide_eq_true_eq, gt_iff_lt, ge_iff_le, iff_self, true_and]
  constructor
  · omega
  · omega

theorem pyStr_iff (op : Ord) (s t : Str) : pyStrCmp op s t = true ↔ rel op s t :=
  seqCmp_iff natCmp natCmp_ok op s t

theorem pyStr_ok : ElemOK pyStrCmp := by
  intro s t h
  have hts : t ≠ s := fun e => h e.symm
  simp only [pyStr_iff, rel, List.le_iff_lt_or_eq, h, hts, or_false, and_self]

theorem pyTuple_iff (op : Ord) (x y : List Str) : pyTupleCmp op x y = true ↔ rel op x y :=
  seqCmp_iff pyStrCmp pyStr_ok op x y

/-- the model's string order IS the specification's `<` on code-point sequences -/
theorem pyStrLt_eq_ltStr (s t : Str) : pyStrCmp .lt s t = ltStr s t :=
  Bool.eq_iff_iff.2 ((pyStr_iff .lt s t).trans (ltStr_iff s t).symm)

theorem ltParts_eq_pyTupleLt (p q : Parts) : ltParts p q = pyTupleLt (keyList p) (keyList q) :=
  Bool.eq_iff_iff.2 ((ltParts_iff p q).trans (pyTuple_iff .lt _ _).symm)

end R3

open PySpec R3 CmpLemmas

/-! ## (b) theorems about the specification, and the model against it -/

/-- `t1 <= t2 ↔ t1 < t2 ∨ t1 = t2` for Python tuples of str of ANY lengths — a theorem about the independent
    specification (C10Headline GAPS 4: "the identities … are assumed, not proved") -/
theorem C10_pyTupleLe_iff (x y : List Str) : pyTupleLe x y = true ↔ (pyTupleLt x y = true ∨ x = y) := by
  unfold pyTupleLe pyTupleLt
  rw [pyTuple_iff, pyTuple_iff]
  exact List.le_iff_lt_or_eq

/-- `t1 > t2 ↔ t2 < t1` and `t1 >= t2 ↔ t2 <= t1` for Python tuples of str of any lengths -/
theorem C10_pyTupleGt_Ge (x y : List Str) : pyTupleGt x y = pyTupleLt y x ∧ pyTupleGe x y = pyTupleLe y x :=
  ⟨Bool.eq_iff_iff.2 ((pyTuple_iff .gt x y).trans (pyTuple_iff .lt y x).symm),
    Bool.eq_iff_iff.2 ((pyTuple_iff .ge x y).trans (pyTuple_iff .le y x).symm)⟩

/-- the same three identities one level down, for `str` (sequences of code points), and the model's `ltStr` is the
    specification's `<` (C10Headline GAPS 5: code-point order incl. lone surrogates / non-BMP: a code point is a `Nat`) -/
theorem C10_pyStr_order (s t : Str) :
    PySpec.pyStrCmp .lt s t = ltStr s t ∧
    (PySpec.pyStrCmp .le s t = true ↔ (PySpec.pyStrCmp .lt s t = true ∨ s = t)) ∧
    PySpec.pyStrCmp .gt s t = PySpec.pyStrCmp .lt t s ∧ PySpec.pyStrCmp .ge s t = PySpec.pyStrCmp .le t s := by
  refine ⟨pyStrLt_eq_ltStr s t, ?_, ?_, ?_⟩
  · rw [pyStr_iff, pyStr_iff]
    exact List.le_iff_lt_or_eq
  · exact Bool.eq_iff_iff.2 ((pyStr_iff .gt s t).trans (pyStr_iff .lt t s).symm)
  · exact Bool.eq_iff_iff.2 ((pyStr_iff .ge s t).trans (pyStr_iff .le t s).symm)

/-- the model's tuple `<` (`ltParts`) is Python's `<` on the two five-element tuples -/
theorem C10_ltParts_eq_pyTupleLt (p q : Parts) : ltParts p q = pyTupleLt (keyList p) (keyList q) :=
  ltParts_eq_pyTupleLt p q

/-- ALL SIX comparison operators of `URL` against the independent specification applied to the `_sort_key`
    tuples: `<`, `<=`, `>`, `>=` are Python's tuple comparisons (each transcribed on its own), `==` / `!=` are
    (in)equality of the tuples.  So the model's DEFINITIONS `le := lt || key-equality`, `gt a b := lt b a`,
    `ge a b := le b a` are theorems about `_sort_key <= …`, `>`, `>=`. -/
theorem C10_order_eq_pyTuple (a b : Url) :
    a.lt b = pyTupleLt (sortKey a) (sortKey b) ∧
    a.le b = pyTupleLe (sortKey a) (sortKey b) ∧
    a.gt b = pyTupleGt (sortKey a) (sortKey b) ∧
    a.ge b = pyTupleGe (sortKey a) (sortKey b) ∧
    a.beq b = decide (sortKey a = sortKey b) ∧
    (!a.beq b) = decide (sortKey a ≠ sortKey b) := by
  have hlt : ∀ a b : Url, a.lt b = pyTupleLt (sortKey a) (sortKey b) :=
    fun a b => ltParts_eq_pyTupleLt (eqKey a) (eqKey b)
  have hle : ∀ a b : Url, a.le b = pyTupleLe (sortKey a) (sortKey b) :=
    fun a b => Bool.eq_iff_iff.2 ((le_key a b).trans (pyTuple_iff .le _ _).symm)
  refine ⟨hlt a b, hle a b, ?_, ?_, ?_, ?_⟩
  · rw [(C10_pyTupleGt_Ge _ _).1]
    exact hlt b a
  · rw [(C10_pyTupleGt_Ge _ _).2]
    exact hle b a
  · show decide (eqKey a = eqKey b) = _
    exact decide_eq_decide.mpr (keyList_eq_iff _ _).symm
  · show (!decide (eqKey a = eqKey b)) = _
    simp only [sortKey, ne_eq, keyList_eq_iff, decide_not]

/-! ## (a) the order laws, for all URLs, no hypotheses -/

/-- `a == b` implies `a <= b` and `a >= b` (and excludes `<`, `>`, `!=`) -/
theorem C10_eq_le_ge (a b : Url) (h : a.beq b = true) :
    a.le b = true ∧ a.ge b = true ∧ a.lt b = false ∧ a.gt b = false ∧ (!a.beq b) = false := by
  have hk : eqKey a = eqKey b := (beq_iff a b).mp h
  refine ⟨(C10_le_iff a b).mpr (Or.inr h), (C10_le_iff b a).mpr (Or.inr ((beq_iff b a).mpr hk.symm)), ?_, ?_, by simp [h]⟩
  · rw [(C10_lt_respects_eq a b b h).1]
    exact C10_lt_irrefl b
  · show b.lt a = false
    rw [(C10_lt_respects_eq a b b h).2]
    exact C10_lt_irrefl b

/-- `<=` is reflexive -/
theorem C10_le_refl (a : Url) : a.le a = true := (C10_eq_le_ge a a (C10_equivalence.1 a)).1

/-- The ordering operators form a total preorder consistent with equality — every law, for ALL URLs:
    totality of `<=`; `<` is `<=` without `==`; `>` / `>=` are the converses of `<` / `<=`; `<` and `<=` are transitive;
    `==` implies `<=` and `>=`; `<=` is antisymmetric up to `==`; `<=` both ways is exactly `==`; `<=` is reflexive. -/
theorem C10_order_laws :
    (∀ a b : Url, a.le b = true ∨ b.le a = true) ∧
    (∀ a b : Url, a.lt b = true ↔ (a.le b = true ∧ ¬ a.beq b = true)) ∧
    (∀ a b : Url, a.gt b = true ↔ b.lt a = true) ∧
    (∀ a b : Url, a.ge b = true ↔ b.le a = true) ∧
    (∀ a b c : Url, a.lt b = true → b.lt c = true → a.lt c = true) ∧
    (∀ a b c : Url, a.le b = true → b.le c = true → a.le c = true) ∧
    (∀ a b : Url, a.beq b = true → (a.le b = true ∧ a.ge b = true)) ∧
    (∀ a b : Url, a.le b = true → b.le a = true → a.beq b = true) ∧
    (∀ a b : Url, a.beq b = true ↔ (a.le b = true ∧ a.ge b = true)) ∧
    (∀ a : Url, a.le a = true) := by
  refine ⟨C10_le_total, ?_, fun _ _ => Iff.rfl, fun _ _ => Iff.rfl, C10_lt_trans, C10_le_trans,
    fun a b h => ⟨(C10_eq_le_ge a b h).1, (C10_eq_le_ge a b h).2.1⟩, C10_le_antisymm,
    fun a b => ⟨fun h => ⟨(C10_eq_le_ge a b h).1, (C10_eq_le_ge a b h).2.1⟩, fun h => C10_le_antisymm a b h.1 h.2⟩,
    C10_le_refl⟩
  intro a b
  rw [C10_lt_iff_le_not_eq]
  simp

/-- mixed transitivity (`<` with `<=`), as Python programs sorting URLs rely on -/
theorem C10_lt_le_trans (a b c : Url) :
    (a.lt b = true → b.le c = true → a.lt c = true) ∧ (a.le b = true → b.lt c = true → a.lt c = true) := by
  refine ⟨fun h1 h2 => ?_, fun h1 h2 => ?_⟩
  · rcases (C10_le_iff b c).mp h2 with h | h
    · exact C10_lt_trans a b c h1 h
    · rw [← (C10_lt_respects_eq b c a h).2]; exact h1
  · rcases (C10_le_iff a b).mp h1 with h | h
    · exact C10_lt_trans a b c h h2
    · rw [(C10_lt_respects_eq a b c h).1]; exact h2

/-! ## concrete checks (non-vacuity; the specification computes what Python computes) -/

-- ("a",) < ("a", "") ; ("a", "b") < ("b",) ; ("ab",) < ("b",) ; () <= () ; not () < ()
example : pyTupleLt ["a".toStr] ["a".toStr, []] = true ∧ pyTupleLt ["a".toStr, "b".toStr] ["b".toStr] = true ∧
    pyTupleLt ["ab".toStr] ["b".toStr] = true ∧ pyTupleLe [] [] = true ∧ pyTupleLt [] [] = false ∧
    pyTupleGe ["a".toStr] ["a".toStr] = true ∧ pyTupleGt ["a".toStr, []] ["a".toStr] = true ∧
    pyTupleLe ["b".toStr] ["a".toStr, "z".toStr] = false := by str_lits; decide +kernel
-- str: prefix first, code points (upper case before lower case; a non-BMP code point after a BMP one)
example : PySpec.pyStrCmp .lt "ab".toStr "abc".toStr = true ∧ PySpec.pyStrCmp .lt "Z".toStr "a".toStr = true ∧
    PySpec.pyStrCmp .lt [0xFFFF] [0x10000] = true ∧ PySpec.pyStrCmp .le [0xD800] [0xD800] = true ∧
    PySpec.pyStrCmp .gt [0xD800] [0x61] = true := by decide +kernel
-- URL('http://h') vs URL('http://h/'): equal keys, so <= and >= both ways, neither < nor >
example : let a := fromParts "http".toStr "h".toStr [] [] []
    let b := fromParts "http".toStr "h".toStr [47] [] []
    sortKey a = sortKey b ∧ pyTupleLe (sortKey a) (sortKey b) = true ∧ pyTupleGe (sortKey a) (sortKey b) = true ∧
    pyTupleLt (sortKey a) (sortKey b) = false ∧ pyTupleGt (sortKey a) (sortKey b) = false := by decide +kernel
-- hypotheses of the mixed transitivity laws are satisfiable with `<=` holding by equality
example : let a := fromParts "http".toStr "a".toStr [] [] []
    let b := fromParts "http".toStr "b".toStr [] [] []
    let c := fromParts "http".toStr "b".toStr [47] [] []
    a.lt b = true ∧ b.le c = true ∧ b.lt c = false ∧ a.lt c = true := by str_lits; decide +kernel

end Yarl
