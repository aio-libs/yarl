/-
  C03 — "The canonical string is a fixed point of parsing": parsing `str(url)` again yields a URL
  with the same string form and the same components; normalisation is idempotent.

  The vocabulary of the first family — URLs whose stored netloc is a plain lower-case registered name
  (no userinfo, no port, not ending in a digit) and whose scheme is non-empty — and the counterexamples
  behind the known findings.  The theorems about the family (`C03_reparse_*`) stand in C03Reach.lean,
  as instances of the theorem about records.
-/
import YarlModel
import YarlProofs.Lemmas.FixLemmas
import YarlProofs.C04
import YarlProofs.Lemmas.StrLit
namespace Yarl
open Yarl.FixLemmas

/-- the URL has a scheme and its stored netloc is a plain lower-case host (see `HostBasic`) -/
def Basic (u : Url) : Prop := u.scheme ≠ [] ∧ HostBasic u.netloc

instance (u : Url) : Decidable (Basic u) := by unfold Basic; infer_instance

/-- the path `str` writes: "/" for an empty path in front of a query or fragment -/
def strPath (u : Url) : Str := strPathOf u.path u.query u.fragment

/-! ### the guard counterexamples (true facts about the model; they document known findings) -/

/-- the conclusion `u'.path = u.path` fails for an empty path in front of a query: the first parse stores
    "", `str` writes "/", the second parse stores "/" (the two URLs are `==`, but e.g. `raw_parts` differ) -/
theorem C03_empty_path_counterexample :
    let e : Env := ⟨.py, Oracles.empty⟩
    ∃ u u', encodeUrl e "http://a?b".toStr = .ok u ∧ Basic u ∧ u.path = [] ∧
      str e u = .ok "http://a/?b".toStr ∧ encodeUrl e "http://a/?b".toStr = .ok u' ∧ u'.path = [47] ∧
      rawParts u = [[47]] ∧ rawParts u' = [[47], []] :=
  ⟨urlOf "http".toStr "a".toStr [] "b".toStr [] (preHost "a".toStr),
   urlOf "http".toStr "a".toStr [47] "b".toStr [] (preHost "a".toStr),
   by decide +kernel, by decide +kernel, rfl, by decide +kernel, by decide +kernel, rfl,
   by decide +kernel, by decide +kernel⟩

/-- an escaped ':' in the first segment of a relative path is decoded (':' is literal in paths), and
    the resulting string "a:b" parses as scheme "a": the string form is NOT a fixed point -/
theorem C03_colon_first_segment_counterexample :
    let e : Env := ⟨.py, Oracles.empty⟩
    ∃ u u2, encodeUrl e "a%3Ab".toStr = .ok u ∧ u.scheme = [] ∧ u.path = "a:b".toStr ∧
      str e u = .ok "a:b".toStr ∧
      encodeUrl e "a:b".toStr = .ok u2 ∧ u2.scheme = "a".toStr ∧ u2.path = "b".toStr :=
  ⟨{ scheme := [], netloc := [], path := "a:b".toStr, query := [], fragment := [] },
   { scheme := "a".toStr, netloc := [], path := "b".toStr, query := [], fragment := [] },
   by decide +kernel, rfl, rfl, by decide +kernel, by decide +kernel, rfl, rfl⟩

/-- after the fix "a bracketed host that is not an IPv6 address keeps its brackets": an IPvFuture literal
    is stored WITH its brackets, and the string form is a fixed point (before the fix the brackets were
    dropped and `str(url)` could not be parsed again) -/
theorem C03_ipvfuture_fixed :
    let e : Env := ⟨.py, Oracles.empty⟩
    ∃ u, encodeUrl e "http://[v1.a:b]/".toStr = .ok u ∧ u.netloc = "[v1.a:b]".toStr ∧
      str e u = .ok "http://[v1.a:b]/".toStr :=
  ⟨urlOf "http".toStr "[v1.a:b]".toStr [47] [] [] (preHost "v1.a:b".toStr),
   by decide +kernel, rfl, by decide +kernel⟩

/-- FINDING: an explicit default port is kept in the stored netloc but dropped by `str`, so the URL made
    from `str(url)` has a different netloc and is NOT equal (`==`) to `url` -/
theorem C03_default_port_counterexample :
    let e : Env := ⟨.py, Oracles.empty⟩
    ∃ u u', encodeUrl e "http://a:80/".toStr = .ok u ∧ u.netloc = "a:80".toStr ∧
      str e u = .ok "http://a/".toStr ∧ encodeUrl e "http://a/".toStr = .ok u' ∧ u'.netloc = "a".toStr ∧
      str e u' = str e u ∧ Url.beq u' u = false ∧
      explicitPort e u = .ok (some 80) ∧ explicitPort e u' = .ok none :=
  ⟨urlOf "http".toStr "a:80".toStr [47] [] [] (preOf none none "a".toStr (some 80)),
   urlOf "http".toStr "a".toStr [47] [] [] (preHost "a".toStr),
   by decide +kernel, rfl, by decide +kernel, by decide +kernel, rfl, by decide +kernel, by decide +kernel,
   rfl, rfl⟩

/-! ### non-vacuity -/

-- an input that is far from canonical: upper-case scheme and host, lower-case and superfluous escapes,
-- dot segments, a space and a non-ASCII character
example : encodeUrl ⟨.c, Oracles.empty⟩ ("HTTP://Example.COM/a/./b/../%7Ec%2f d/é?x=%41 1&y#fr ag".toStr) =
    .ok (urlOf "http".toStr "example.com".toStr "/a/~c%2F%20d/%C3%A9".toStr "x=A+1&y".toStr "fr%20ag".toStr
      (preHost "example.com".toStr)) := by str_lits; decide +kernel
example : PyStr "HTTP://Example.COM/a/./b/../%7Ec%2f d/é?x=%41 1&y#fr ag".toStr := by str_lits; decide +kernel
example : Basic (urlOf "http".toStr "example.com".toStr "/a/~c%2F%20d/%C3%A9".toStr "x=A+1&y".toStr "fr%20ag".toStr
    (preHost "example.com".toStr)) := by str_lits; decide +kernel
example : ¬ Basic (urlOf "http".toStr "[v1.a:b]".toStr [47] [] [] (preHost "v1.a:b".toStr)) := by decide +kernel

end Yarl
