import YarlProofs.Lemmas.DecLemmas
import YarlProofs.C11
import YarlProofs.C09
import YarlProofs.Lemmas.EagerLemmas
import YarlProofs.C07More
import YarlProofs.C19
import YarlProofs.Lemmas.Basics
/-!
# C11 — the authority modifiers on a URL whose stored authority is ARBITRARY text

`URL(s, encoded=True)`, `URL.build(authority=…, encoded=True)` and `URL.build(host=…, encoded=True)` store the
authority VERBATIM.  The only thing the authority modifiers (`with_user`, `with_password`, `with_host`, `with_port`,
`origin`) ever do with the stored text is to run `split_netloc` on it (no cache is pre-filled: `u.pre = none`) and
to REBUILD the authority with `make_netloc(…, encode=False)` from

    raw_user, raw_password, host_subcomponent ('[' raw_host ']' iff raw_host contains ':'), explicit_port.

This file gives, for ANY stored text `n = u.netloc ≠ ""`:

 * `C11_arbitrary_authority_accessors`: if `split_netloc n` answers `np`, the raw accessors are `np`'s fields
   (`raw_host` is `np.host or ""`); the host text has no '@', the user no ':' and is non-empty, the port ≤ 65535;
 * `C11_arbitrary_authority_modifiers`: the EXACT stored authority after each modifier, in terms of `np`;
 * `C11_arbitrary_authority_rebuilt_net` / `_frame_*`: what the raw accessors read on the result.  The frame
   ("every authority accessor other than the targeted one reads the same as on `u`") holds with exactly TWO
   exceptions, both proved by witnesses below:
     (E1) the host text contains '[' but no ':' (authority "[a[b]", or "[v1.a[b]" through the constructor):
          it is re-written WITHOUT brackets and then parses differently (`raw_host` "a[b" becomes "b");
     (E2) nothing is left to write (no user, no password, empty host, no port: authorities "@", ":", "[]" …):
          the rebuilt authority is EMPTY and `raw_host` reads `None` instead of "";
   proved once for a URL whose cache, if any, agrees with its text (`C11_cached_arbitrary_authority`: only `net e u`
   is used), the `_frame_*` theorems being the case without cache;
   everything else that is non-canonical in the stored TEXT is silently normalised without changing any accessor:
   a port text "080" is re-written "80", junk around brackets ("[::1]x:80", "y[::1]") is dropped, brackets around a
   host without ':' ("[v1.x]") are dropped, an empty user in front of a password (":pw@h") is kept, upper-case host
   text is KEPT (no lower-casing: `raw_host` "H" stays "H");
 * `C11_arbitrary_authority_split_fails`: if `split_netloc n` FAILS (port text "99999", "x") every authority
   modifier fails with the same error — EXCEPT `origin()` on an authority without '@', which never parses the
   authority and succeeds (its `str()` then fails).

Namespace `EncTrue` holds the helpers: here what `split_netloc` can answer (`split_facts`), the round trip for every
`EncTrue.GoodHost` (a predicate on a host TEXT; not `Yarl.GoodHost` of EagerLemmas, the C09 guard on the input host) and
`reads_remake`.
-/
namespace Yarl
open NetlocLemmas AuthMod

namespace EncTrue

/-! ### what `split_netloc` can answer -/

/-- a host text that `make_netloc` + `split_netloc` reproduce: bracketed when it has a ':' (then it must not contain
    ']'), written bare otherwise (then it must not contain '[') -/
def GoodHost (h : Str) : Prop := (58 ∈ h ∧ 93 ∉ h) ∨ (58 ∉ h ∧ 91 ∉ h)

instance (h : Str) : Decidable (GoodHost h) := by unfold GoodHost; infer_instance

theorem takeWhile_sub {p : Nat → Bool} {s : Str} {x : Nat} (h : x ∈ s.takeWhile p) : x ∈ s :=
  List.IsPrefix.mem h (List.takeWhile_prefix p)

theorem dropWhile_sub {p : Nat → Bool} {s : Str} {x : Nat} (h : x ∈ s.dropWhile p) : x ∈ s :=
  List.IsSuffix.mem h (List.dropWhile_suffix p)

theorem hostinfo_not_mem_at (n : Str) : 64 ∉ Rfc.hostinfoOf n := by
  unfold Rfc.hostinfoOf
  intro h
  exact ParseLemmas.not_mem_takeWhile_ne 64 n.reverse (List.mem_reverse.1 h)

/-- the host text of ANY authority: no '@'; no ']' when the host part has a '[', else no ':' and no '[' -/
theorem host_facts (n : Str) :
    64 ∉ (Rfc.authoritySplit n).host ∧
    (93 ∉ (Rfc.authoritySplit n).host ∨ (58 ∉ (Rfc.authoritySplit n).host ∧ 91 ∉ (Rfc.authoritySplit n).host)) := by
  have h64 := hostinfo_not_mem_at n
  unfold Rfc.authoritySplit
  simp only
  by_cases h91 : 91 ∈ Rfc.hostinfoOf n
  · simp only [h91, if_true]
    refine ⟨fun h => h64 (dropWhile_sub (List.mem_of_mem_drop (takeWhile_sub h))), ?_⟩
    left; exact ParseLemmas.not_mem_takeWhile_ne 93 _
  · simp only [h91, if_false]
    refine ⟨fun h => h64 (takeWhile_sub h), Or.inr ⟨ParseLemmas.not_mem_takeWhile_ne 58 _, fun h => h91 (takeWhile_sub h)⟩⟩

theorem user_facts (n : Str) : UserOK ((Rfc.authoritySplit n).user.bind orNone) := by
  intro s hs
  unfold Rfc.authoritySplit at hs
  simp only at hs
  split at hs
  · simp only [Option.bind_some, orNone] at hs
    split at hs
    · cases hs
    · rename_i hne
      cases hs
      exact ⟨by simpa using hne, ParseLemmas.not_mem_takeWhile_ne 58 _⟩
  · cases hs

/-- everything `split_netloc` can answer -/
theorem split_facts (o : Oracles) (n : Str) (np : NetlocParts) (h : splitNetloc o n = .ok np) :
    UserOK np.user ∧ 64 ∉ np.host.getD [] ∧
    (93 ∉ np.host.getD [] ∨ (58 ∉ np.host.getD [] ∧ 91 ∉ np.host.getD [])) ∧
    (∀ p, np.port = some p → p ≤ 65535) ∧
    np.user = (Rfc.authoritySplit n).user.bind orNone ∧ np.password = (Rfc.authoritySplit n).password ∧
    np.host.getD [] = (Rfc.authoritySplit n).host := by
  have hr := fun p => splitNetloc_port_range o n np p h
  rw [C07_netloc] at h
  obtain ⟨pt, _, rfl⟩ := map_ok h
  simp only [orNone_getD]
  exact ⟨user_facts n, (host_facts n).1, (host_facts n).2, hr, trivial, trivial, trivial⟩

/-! ### the round trip `split_netloc (make_netloc …)` for every host text `split_netloc` can answer -/

/-- the written form `bracket h` of such a host text reads back as `h` -/
theorem reads_bracket {h : Str} (h64 : 64 ∉ h) (hg : GoodHost h) : EagerLemmas.Reads (bracket h) h := by
  unfold bracket
  rcases hg with ⟨h58, h93⟩ | ⟨h58, h91⟩
  · rw [if_pos (mem_iff.mpr h58)]
    exact EagerLemmas.reads_bracketed h h64 h93
  · rw [mem_false_iff.mpr h58]
    exact EagerLemmas.reads_plain h h58 h64 h91

/-- `EagerLemmas.roundtrip_reads` for every `GoodHost` -/
theorem roundtrip_good (o : Oracles) (qf : Str → Str) (user pw : Option Str) (h : Str) (port : Option Nat)
    (hu : UserOK user) (h64 : 64 ∉ h) (hg : GoodHost h) (hp : ∀ p, port = some p → p ≤ 65535) :
    splitNetloc o (makeNetloc qf user pw (some (bracket h)) port false) =
      .ok { user := user, password := pw, host := orNone h, port := port } :=
  EagerLemmas.roundtrip_reads o qf user pw (bracket h) h port hu (reads_bracket h64 hg) hp

/-- the rebuilt authority is empty exactly when there is nothing to write -/
theorem makeNetloc_eq_nil (qf : Str → Str) (user pw : Option Str) (h : Str) (port : Option Nat) (hu : UserOK user) :
    makeNetloc qf user pw (some (bracket h)) port false = [] ↔ user = none ∧ pw = none ∧ h = [] ∧ port = none := by
  have hb : bracket h = [] ↔ h = [] := by
    unfold bracket; split
    · simp; rintro rfl; simp [mem] at *
    · rfl
  have hr : hostPortStr (bracket h) port = [] ↔ h = [] ∧ port = none := by
    cases port <;> simp [hostPortStr, hb]
  rw [makeNetloc_eq]
  cases user with
  | none => cases pw <;> simp [hr]
  | some u =>
    have ⟨hne, _⟩ := hu u rfl
    have hemp : u.isEmpty = false := by cases u with
      | nil => exact absurd rfl hne
      | cons _ _ => rfl
    cases pw with
    | none => simp [hemp, hne]
    | some w => simp

/-- the cache-less authority parse of a URL whose stored authority `split_netloc` accepts -/
theorem net_of_split (e : Env) (u : Url) (np : NetlocParts) (hpre : u.pre = none) (hn : u.netloc ≠ [])
    (hs : splitNetloc e.o u.netloc = .ok np) :
    net e u = .ok { rawHost := some (np.host.getD []), explicitPort := np.port, rawUser := np.user,
                    rawPassword := np.password } := by
  unfold net lazyNet
  rw [hpre]
  simp only [hs, bind, Except.bind, pure, Except.pure]
  have : u.netloc.isEmpty = false := isEmpty_false hn
  cases hh : np.host <;> simp [this]

/-- the parse of a REBUILT authority (`UserOK` user, `GoodHost` host text without '@', port in range) -/
theorem net_rebuilt (e : Env) (qf : Str → Str) (U P : Option Str) (h : Str) (port : Option Nat)
    (scheme path query fragment : Str)
    (hU : UserOK U) (h64 : 64 ∉ h) (hg : GoodHost h) (hp : ∀ p, port = some p → p ≤ 65535) :
    net e (fromParts scheme (makeNetloc qf U P (some (bracket h)) port false) path query fragment) =
      .ok { rawHost := if U = none ∧ P = none ∧ h = [] ∧ port = none then none else some h,
            explicitPort := port, rawUser := U, rawPassword := P } := by
  unfold net lazyNet fromParts
  simp only [roundtrip_good e.o qf U P h port hU h64 hg hp, bind, Except.bind, pure, Except.pure]
  have hnil := makeNetloc_eq_nil qf U P h port hU
  by_cases hc : U = none ∧ P = none ∧ h = [] ∧ port = none
  · have hm := hnil.2 hc
    rw [if_pos hc]
    obtain ⟨_, _, rfl, _⟩ := hc
    simp [hm, orNone]
  · have hm : makeNetloc qf U P (some (bracket h)) port false ≠ [] := fun hm => hc (hnil.1 hm)
    have hm' := isEmpty_false hm
    rw [if_neg hc]
    unfold orNone
    cases h <;> simp [hm']

end EncTrue
open EncTrue

/-! ## 1. the accessors of an arbitrary accepted authority -/

/-- For a URL without pre-filled cache whose non-empty stored authority `split_netloc` accepts (answer `np`):
    the raw authority accessors ARE the fields of `np` (`raw_host` is `np.host or ""`; `host_subcomponent` brackets
    it iff it contains ':'), and `np` is the `Rfc.authoritySplit` reading of the text (C07_netloc).  The answer always
    satisfies: user non-empty and without ':', host text without '@' and either without ']' or without ':' and '[',
    port ≤ 65535. -/
theorem C11_arbitrary_authority_accessors (e : Env) (u : Url) (np : NetlocParts)
    (hpre : u.pre = none) (hn : u.netloc ≠ []) (hs : splitNetloc e.o u.netloc = .ok np) :
    rawUser e u = .ok np.user ∧ rawPassword e u = .ok np.password ∧
    rawHost e u = .ok (some (np.host.getD [])) ∧ explicitPort e u = .ok np.port ∧
    hostSubcomponent e u = .ok (some (bracket (np.host.getD []))) ∧
    np.user = (Rfc.authoritySplit u.netloc).user.bind orNone ∧
    np.password = (Rfc.authoritySplit u.netloc).password ∧
    np.host.getD [] = (Rfc.authoritySplit u.netloc).host ∧
    UserOK np.user ∧ 64 ∉ np.host.getD [] ∧
    (93 ∉ np.host.getD [] ∨ (58 ∉ np.host.getD [] ∧ 91 ∉ np.host.getD [])) ∧
    (∀ p, np.port = some p → p ≤ 65535) := by
  obtain ⟨a1, a2, a3, a4, a5⟩ := acc_of_net e u _ (net_of_split e u np hpre hn hs)
  obtain ⟨f1, f2, f3, f4, f5, f6, f7⟩ := split_facts e.o u.netloc np hs
  exact ⟨a1, a2, a3, a4, a5, f5, f6, f7, f1, f2, f3, f4⟩

/-! ## 2. the exact result of every authority modifier -/

/-- EXACT stored authority after each authority modifier, for ANY stored authority text that `split_netloc`
    accepts: each modifier re-makes the authority with `make_netloc(…, encode=False)` from `np.user`, `np.password`,
    the bracketed-iff-':' host text and `np.port`, the targeted component replaced by the (quoted / encoded)
    argument; scheme, path, query, fragment are copied.  `origin()` re-makes it only when the text contains '@',
    otherwise it keeps the text VERBATIM (non-canonical port text, junk and all). -/
theorem C11_arbitrary_authority_modifiers (e : Env) (u : Url) (np : NetlocParts)
    (hpre : u.pre = none) (hn : u.netloc ≠ []) (hs : splitNetloc e.o u.netloc = .ok np) :
    let Q := q e Gen.QUOTER
    let hb := bracket (np.host.getD [])
    (∀ s, withUser e u (some s) =
      .ok (fromParts u.scheme (makeNetloc Q (some (Q s)) np.password (some hb) np.port false) u.path u.query u.fragment)) ∧
    (withUser e u none =
      .ok (fromParts u.scheme (makeNetloc Q none none (some hb) np.port false) u.path u.query u.fragment)) ∧
    (∀ pw, withPassword e u pw =
      .ok (fromParts u.scheme (makeNetloc Q np.user (pw.map Q) (some hb) np.port false) u.path u.query u.fragment)) ∧
    (∀ hs, withHost e u hs =
      if hs = [] then .error .valueError
      else (encodeHost e.o hs true).map (fun eh =>
        fromParts u.scheme (makeNetloc Q np.user np.password (some eh) np.port false) u.path u.query u.fragment)) ∧
    (∀ (p : Option Int) (kind : Nat), withPort e u p kind =
      if kind ≠ 0 then .error .typeError
      else if portBad p then .error .valueError
      else .ok (fromParts u.scheme (makeNetloc Q np.user np.password (some hb) (p.map Int.toNat) false)
                  u.path u.query u.fragment)) ∧
    (origin e u =
      if u.scheme = [] then .error .valueError
      else if 64 ∈ u.netloc then .ok (fromParts u.scheme (makeNetloc Q none none (some hb) np.port false) [] [] [])
      else if u.path = [] ∧ u.query = [] ∧ u.fragment = [] then .ok u
      else .ok (fromParts u.scheme u.netloc [] [] [])) := by
  intro Q hb
  have hN := net_of_split e u np hpre hn hs
  refine ⟨withUser_some_of_net hn hN, withUser_none_of_net hn hN, withPassword_of_net hn hN, fun hs' => ?_,
    fun p kind => ?_, ?_⟩
  · rw [withHost_eq, if_neg hn, hN]
    cases encodeHost e.o hs' true <;> rfl
  · rw [withPort_eq, if_neg hn, hN]
    rfl
  · rw [origin_eq, if_neg hn, hN]
    rfl

/-! ## 3. what the accessors read on the result: the frame and its two exceptions -/

namespace EncTrue

theorem ite_host {c d : Prop} [Decidable c] [Decidable d] (hcd : c ↔ d) (h : Str) :
    (Except.ok (if c then none else some h) : R (Option Str)) = if d then .ok none else .ok (some h) := by
  by_cases hc : c
  · rw [if_pos hc, if_pos (hcd.1 hc)]
  · rw [if_neg hc, if_neg (fun hd => hc (hcd.2 hd))]

theorem ite_hostb {c d : Prop} [Decidable c] [Decidable d] (hcd : c ↔ d) (h : Str) :
    (Except.ok ((if c then none else some h).map bracket) : R (Option Str)) =
      if d then .ok none else .ok (some (bracket h)) := by
  by_cases hc : c
  · rw [if_pos hc, if_pos (hcd.1 hc)]; rfl
  · rw [if_neg hc, if_neg (fun hd => hc (hcd.2 hd))]; rfl

theorem good_of_facts {h : Str} (hf : 93 ∉ h ∨ (58 ∉ h ∧ 91 ∉ h)) (hgood : ¬ (91 ∈ h ∧ 58 ∉ h)) : GoodHost h := by
  by_cases h58 : 58 ∈ h
  · left
    refine ⟨h58, ?_⟩
    rcases hf with hf | hf
    · exact hf
    · exact absurd h58 hf.1
  · right
    exact ⟨h58, fun h91 => hgood ⟨h91, h58⟩⟩

end EncTrue

/-- The parse of the REBUILT authority.  Let `h` be the host text of the stored authority and assume it is not of
    the exceptional shape (E1) "contains '[' but no ':'".  For any `UserOK` user `U` (absent, or non-empty without
    ':'), any password `P`, any port in range, the authority `make_netloc(U, P, host_subcomponent, port)` parses back
    to exactly `U`, `P`, `port` and the SAME host text `h` — except that when nothing at all is written (E2) the
    authority is empty and `raw_host` reads `None`. -/
theorem C11_arbitrary_authority_rebuilt_net (e : Env) (u : Url) (np : NetlocParts)
    (hs : splitNetloc e.o u.netloc = .ok np)
    (hgood : ¬ (91 ∈ np.host.getD [] ∧ 58 ∉ np.host.getD []))
    (qf : Str → Str) (U P : Option Str) (port : Option Nat) (scheme path query fragment : Str)
    (hU : UserOK U) (hp : ∀ p, port = some p → p ≤ 65535) :
    let h := np.host.getD []
    let v := fromParts scheme (makeNetloc qf U P (some (bracket h)) port false) path query fragment
    net e v = .ok { rawHost := if U = none ∧ P = none ∧ h = [] ∧ port = none then none else some h,
                    explicitPort := port, rawUser := U, rawPassword := P } ∧
    (v.netloc = [] ↔ U = none ∧ P = none ∧ h = [] ∧ port = none) := by
  intro h v
  obtain ⟨_, f2, f3, _⟩ := split_facts e.o u.netloc np hs
  exact ⟨net_rebuilt e qf U P h port scheme path query fragment hU f2 (good_of_facts f3 hgood) hp,
    makeNetloc_eq_nil qf U P h port hU⟩

namespace EncTrue

/-- what the raw accessors read on a re-made authority, relative to the URL `u` whose host text `h` it keeps:
    user, password and port as written; host as on `u` unless `nothing` at all is written -/
theorem reads_remake (e : Env) (u : Url) {U₀ P₀ : Option Str} {h : Str} {port₀ : Option Nat}
    (hN : net e u = .ok { rawHost := some h, explicitPort := port₀, rawUser := U₀, rawPassword := P₀ })
    (h64 : 64 ∉ h) (hg : GoodHost h) (U P : Option Str) (port : Option Nat)
    (hU : UserOK U) (hp : ∀ p, port = some p → p ≤ 65535) (nothing : Prop) [Decidable nothing]
    (hiff : (U = none ∧ P = none ∧ h = [] ∧ port = none) ↔ nothing) :
    let v := remake e u U P (bracket h) port
    rawUser e v = .ok U ∧ rawPassword e v = .ok P ∧ explicitPort e v = .ok port ∧
    (rawHost e v = if nothing then .ok none else rawHost e u) ∧
    (hostSubcomponent e v = if nothing then .ok none else hostSubcomponent e u) ∧
    (v.netloc = [] ↔ nothing) := by
  intro v
  obtain ⟨_, _, a3, _, a5⟩ := acc_of_net e u _ hN
  obtain ⟨b1, b2, b3, b4, b5⟩ := acc_of_net e v _ (net_rebuilt e _ U P h port _ _ _ _ hU h64 hg hp)
  refine ⟨b1, b2, b4, ?_, ?_, (makeNetloc_eq_nil _ U P h port hU).trans hiff⟩
  · rw [b3, a3]
    exact ite_host hiff _
  · rw [b5, a5]
    exact ite_hostb hiff _

end EncTrue

/-- ANY URL whose cache (if any) agrees with its stored text
    (`C11_headline_cache_agrees`) and whose stored authority `split_netloc` accepts (answer `np`) — empty host
    ("user@:80"), brackets around a host without ':' ("[v1.x]:80"), anything.  The raw accessors of `u` are the
    fields of `np`; every authority modifier re-makes the authority from them (exact stored text given), and the
    frame "every other raw accessor reads as on `u`" holds with the ONE exception (E2) "nothing is left to write":
    then the new authority is EMPTY and `raw_host` reads `None` instead of "" (only possible with an empty host).
    The side condition `hgood` excludes (E1) a host text with '[' but no ':' (not producible by the auto-encoding
    constructor for the host kinds of this file: `C11_bracket_modifiers`, `C11_idn_ctor_modifiers`).
    Only `net e u` is used: the frames `C11_arbitrary_authority_frame_*` below are the case without cache. -/
theorem C11_cached_arbitrary_authority (e : Env) (u : Url) (np : NetlocParts)
    (hnet : net e (pickleTwin u) = net e u)
    (hn : u.netloc ≠ [])
    (hs : splitNetloc e.o u.netloc = .ok np)
    (hgood : ¬ (91 ∈ np.host.getD [] ∧ 58 ∉ np.host.getD [])) :
    (rawUser e u = .ok np.user ∧ rawPassword e u = .ok np.password ∧
      rawHost e u = .ok (some (np.host.getD [])) ∧ explicitPort e u = .ok np.port ∧
      hostSubcomponent e u = .ok (some (bracket (np.host.getD [])))) ∧
    (∀ s, PyStr s → q e Gen.QUOTER s ≠ [] →
      ∃ v, withUser e u (some s) = .ok v ∧
        v.netloc = makeNetloc (q e Gen.QUOTER) (some (q e Gen.QUOTER s)) np.password
          (some (bracket (np.host.getD []))) np.port false ∧
        rawUser e v = .ok (some (q e Gen.QUOTER s)) ∧
        rawPassword e v = rawPassword e u ∧ rawHost e v = rawHost e u ∧ explicitPort e v = explicitPort e u ∧
        hostSubcomponent e v = hostSubcomponent e u ∧
        v.scheme = u.scheme ∧ v.path = u.path ∧ v.query = u.query ∧ v.fragment = u.fragment ∧ v.pre = none) ∧
    (∃ v, withUser e u none = .ok v ∧
        v.netloc = makeNetloc (q e Gen.QUOTER) none none (some (bracket (np.host.getD []))) np.port false ∧
        rawUser e v = .ok none ∧ rawPassword e v = .ok none ∧
        explicitPort e v = explicitPort e u ∧
        (rawHost e v = if np.host.getD [] = [] ∧ np.port = none then .ok none else rawHost e u) ∧
        (hostSubcomponent e v = if np.host.getD [] = [] ∧ np.port = none then .ok none else hostSubcomponent e u) ∧
        (v.netloc = [] ↔ np.host.getD [] = [] ∧ np.port = none) ∧
        v.scheme = u.scheme ∧ v.path = u.path ∧ v.query = u.query ∧ v.fragment = u.fragment ∧ v.pre = none) ∧
    (∀ pw, ∃ v, withPassword e u pw = .ok v ∧
        v.netloc = makeNetloc (q e Gen.QUOTER) np.user (pw.map (q e Gen.QUOTER))
          (some (bracket (np.host.getD []))) np.port false ∧
        rawPassword e v = .ok (pw.map (q e Gen.QUOTER)) ∧
        rawUser e v = rawUser e u ∧ explicitPort e v = explicitPort e u ∧
        (rawHost e v = if np.user = none ∧ pw = none ∧ np.host.getD [] = [] ∧ np.port = none then .ok none
                       else rawHost e u) ∧
        (hostSubcomponent e v = if np.user = none ∧ pw = none ∧ np.host.getD [] = [] ∧ np.port = none then .ok none
                       else hostSubcomponent e u) ∧
        (v.netloc = [] ↔ np.user = none ∧ pw = none ∧ np.host.getD [] = [] ∧ np.port = none) ∧
        v.scheme = u.scheme ∧ v.path = u.path ∧ v.query = u.query ∧ v.fragment = u.fragment ∧ v.pre = none) ∧
    (∀ p : Option Int, (∀ i, p = some i → 0 ≤ i ∧ i ≤ 65535) →
      ∃ v, withPort e u p 0 = .ok v ∧
        v.netloc = makeNetloc (q e Gen.QUOTER) np.user np.password (some (bracket (np.host.getD [])))
          (p.map Int.toNat) false ∧
        explicitPort e v = .ok (p.map Int.toNat) ∧
        rawUser e v = rawUser e u ∧ rawPassword e v = rawPassword e u ∧
        (rawHost e v = if np.user = none ∧ np.password = none ∧ np.host.getD [] = [] ∧ p = none then .ok none
                       else rawHost e u) ∧
        (hostSubcomponent e v =
            if np.user = none ∧ np.password = none ∧ np.host.getD [] = [] ∧ p = none then .ok none
            else hostSubcomponent e u) ∧
        (v.netloc = [] ↔ np.user = none ∧ np.password = none ∧ np.host.getD [] = [] ∧ p = none) ∧
        v.scheme = u.scheme ∧ v.path = u.path ∧ v.query = u.query ∧ v.fragment = u.fragment ∧ v.pre = none) ∧
    (∀ hst eh, hst ≠ [] → encodeHost e.o hst true = .ok eh → eh ≠ [] →
      ∃ v, withHost e u hst = .ok v ∧
        v.netloc = makeNetloc (q e Gen.QUOTER) np.user np.password (some eh) np.port false ∧
        rawHost e v = .ok (some (unbracket eh)) ∧ hostSubcomponent e v = .ok (some eh) ∧
        rawUser e v = rawUser e u ∧ rawPassword e v = rawPassword e u ∧ explicitPort e v = explicitPort e u ∧
        v.scheme = u.scheme ∧ v.path = u.path ∧ v.query = u.query ∧ v.fragment = u.fragment ∧ v.pre = none) := by
  -- the components of `u` are what `split_netloc` reads from its text; from here on only `net e u` is used
  have hN := hnet ▸ net_of_split e (pickleTwin u) np rfl hn hs
  obtain ⟨fU, f64, fg, fP, _⟩ := split_facts e.o u.netloc np hs
  have hg := good_of_facts fg hgood
  obtain ⟨a1, a2, a3, a4, a5⟩ := acc_of_net e u _ hN
  refine ⟨⟨a1, a2, a3, a4, a5⟩, fun s hpy hq => ?_, ?_, fun pw => ?_, fun p hr => ?_, fun hst eh hne henc heh => ?_⟩
  · obtain ⟨b1, b2, b3, b4, b5, _⟩ := reads_remake e u hN f64 hg (some (q e Gen.QUOTER s)) np.password np.port
      (fun t ht => by cases ht; exact ⟨hq, DecLemmas.quoter_no_colon e.b s hpy⟩) fP False (by simp)
    exact ⟨_, withUser_some_of_net hn hN s, rfl, b1, b2.trans a2.symm, b4, b3.trans a4.symm, b5,
      rfl, rfl, rfl, rfl, rfl⟩
  · obtain ⟨b1, b2, b3, b4, b5, b6⟩ := reads_remake e u hN f64 hg none none np.port nofun fP
      (np.host.getD [] = [] ∧ np.port = none) (by simp)
    exact ⟨_, withUser_none_of_net hn hN, rfl, b1, b2, b3.trans a4.symm, b4, b5, b6, rfl, rfl, rfl, rfl, rfl⟩
  · obtain ⟨b1, b2, b3, b4, b5, b6⟩ := reads_remake e u hN f64 hg np.user (pw.map (q e Gen.QUOTER)) np.port fU fP
      (np.user = none ∧ pw = none ∧ np.host.getD [] = [] ∧ np.port = none) (by simp)
    exact ⟨_, withPassword_of_net hn hN pw, rfl, b2, b1.trans a1.symm, b3.trans a4.symm, b4, b5, b6,
      rfl, rfl, rfl, rfl, rfl⟩
  · have hp : ∀ n, p.map Int.toNat = some n → n ≤ 65535 := by
      intro n hn'
      cases p with
      | none => cases hn'
      | some i =>
        have := hr i rfl
        simp only [Option.map_some, Option.some.injEq] at hn'
        omega
    obtain ⟨b1, b2, b3, b4, b5, b6⟩ := reads_remake e u hN f64 hg np.user np.password (p.map Int.toNat) fU hp
      (np.user = none ∧ np.password = none ∧ np.host.getD [] = [] ∧ p = none) (by simp)
    exact ⟨_, withPort_of_net hn hN hr, rfl, b3, b1.trans a1.symm, b2.trans a2.symm, b4, b5, b6,
      rfl, rfl, rfl, rfl, rfl⟩
  · obtain ⟨hwf, hh2⟩ := C11_encoded_host_wellformed e.o hst eh heh henc
    obtain ⟨hv, b1, b2, b3, b4, b5⟩ := withHost_reads hn hN fU fP hne henc hwf hh2
    exact ⟨_, hv, rfl, b3, b5, b1.trans a1.symm, b2.trans a2.symm, b4.trans a4.symm,
      rfl, rfl, rfl, rfl, rfl⟩

/-- FRAME of `with_user(s)` on an arbitrary accepted authority (host text not of shape (E1), the quoted argument
    non-empty): the user reads back as the QUOTER output and `raw_password`, `raw_host`, `explicit_port`,
    `host_subcomponent`, scheme, path, query, fragment read exactly as on `u`. -/
theorem C11_arbitrary_authority_frame_with_user (e : Env) (u : Url) (np : NetlocParts)
    (hpre : u.pre = none) (hn : u.netloc ≠ []) (hs : splitNetloc e.o u.netloc = .ok np)
    (hgood : ¬ (91 ∈ np.host.getD [] ∧ 58 ∉ np.host.getD []))
    (s : Str) (hpy : PyStr s) (hq : q e Gen.QUOTER s ≠ []) :
    ∃ v, withUser e u (some s) = .ok v ∧ rawUser e v = .ok (some (q e Gen.QUOTER s)) ∧
      rawPassword e v = rawPassword e u ∧ rawHost e v = rawHost e u ∧ explicitPort e v = explicitPort e u ∧
      hostSubcomponent e v = hostSubcomponent e u ∧
      v.scheme = u.scheme ∧ v.path = u.path ∧ v.query = u.query ∧ v.fragment = u.fragment ∧ v.pre = none := by
  have hnet : net e (pickleTwin u) = net e u := by rw [C09_twin_of_pre_none u hpre]
  obtain ⟨v, h0, _, r⟩ := (C11_cached_arbitrary_authority e u np hnet hn hs hgood).2.1 s hpy hq
  exact ⟨v, h0, r⟩

/-- FRAME of `with_user(None)`: user AND password read `None`; `explicit_port` reads as on `u`; `raw_host` /
    `host_subcomponent` read as on `u` UNLESS the host text is empty and there is no port (E2: the rebuilt authority
    is empty, both read `None`). -/
theorem C11_arbitrary_authority_frame_with_user_none (e : Env) (u : Url) (np : NetlocParts)
    (hpre : u.pre = none) (hn : u.netloc ≠ []) (hs : splitNetloc e.o u.netloc = .ok np)
    (hgood : ¬ (91 ∈ np.host.getD [] ∧ 58 ∉ np.host.getD [])) :
    ∃ v, withUser e u none = .ok v ∧ rawUser e v = .ok none ∧ rawPassword e v = .ok none ∧
      explicitPort e v = explicitPort e u ∧
      (rawHost e v = if np.host.getD [] = [] ∧ np.port = none then .ok none else rawHost e u) ∧
      (hostSubcomponent e v = if np.host.getD [] = [] ∧ np.port = none then .ok none else hostSubcomponent e u) ∧
      (v.netloc = [] ↔ np.host.getD [] = [] ∧ np.port = none) ∧
      v.scheme = u.scheme ∧ v.path = u.path ∧ v.query = u.query ∧ v.fragment = u.fragment ∧ v.pre = none := by
  have hnet : net e (pickleTwin u) = net e u := by rw [C09_twin_of_pre_none u hpre]
  obtain ⟨v, h0, _, r⟩ := (C11_cached_arbitrary_authority e u np hnet hn hs hgood).2.2.1
  exact ⟨v, h0, r⟩

/-- FRAME of `with_password(pw)` (`pw = none` is `with_password(None)`): the password reads back as the QUOTER output
    (`some ""` for an empty one); `raw_user`, `explicit_port` read as on `u`; `raw_host` / `host_subcomponent` read as
    on `u` unless NOTHING is left to write (E2). -/
theorem C11_arbitrary_authority_frame_with_password (e : Env) (u : Url) (np : NetlocParts)
    (hpre : u.pre = none) (hn : u.netloc ≠ []) (hs : splitNetloc e.o u.netloc = .ok np)
    (hgood : ¬ (91 ∈ np.host.getD [] ∧ 58 ∉ np.host.getD [])) (pw : Option Str) :
    let nothing := np.user = none ∧ pw = none ∧ np.host.getD [] = [] ∧ np.port = none
    ∃ v, withPassword e u pw = .ok v ∧ rawPassword e v = .ok (pw.map (q e Gen.QUOTER)) ∧
      rawUser e v = rawUser e u ∧ explicitPort e v = explicitPort e u ∧
      (rawHost e v = if nothing then .ok none else rawHost e u) ∧
      (hostSubcomponent e v = if nothing then .ok none else hostSubcomponent e u) ∧
      (v.netloc = [] ↔ nothing) ∧
      v.scheme = u.scheme ∧ v.path = u.path ∧ v.query = u.query ∧ v.fragment = u.fragment ∧ v.pre = none := by
  have hnet : net e (pickleTwin u) = net e u := by rw [C09_twin_of_pre_none u hpre]
  obtain ⟨v, h0, _, r⟩ := (C11_cached_arbitrary_authority e u np hnet hn hs hgood).2.2.2.1 pw
  exact ⟨v, h0, r⟩

/-- FRAME of `with_port(p)` (`p = none` is `with_port(None)`, `0 ≤ p ≤ 65535`): the explicit port reads back;
    `raw_user`, `raw_password` read as on `u`; `raw_host` / `host_subcomponent` too unless nothing is left (E2). -/
theorem C11_arbitrary_authority_frame_with_port (e : Env) (u : Url) (np : NetlocParts)
    (hpre : u.pre = none) (hn : u.netloc ≠ []) (hs : splitNetloc e.o u.netloc = .ok np)
    (hgood : ¬ (91 ∈ np.host.getD [] ∧ 58 ∉ np.host.getD []))
    (p : Option Int) (hr : ∀ i, p = some i → 0 ≤ i ∧ i ≤ 65535) :
    let nothing := np.user = none ∧ np.password = none ∧ np.host.getD [] = [] ∧ p = none
    ∃ v, withPort e u p 0 = .ok v ∧ explicitPort e v = .ok (p.map Int.toNat) ∧
      rawUser e v = rawUser e u ∧ rawPassword e v = rawPassword e u ∧
      (rawHost e v = if nothing then .ok none else rawHost e u) ∧
      (hostSubcomponent e v = if nothing then .ok none else hostSubcomponent e u) ∧
      (v.netloc = [] ↔ nothing) ∧
      v.scheme = u.scheme ∧ v.path = u.path ∧ v.query = u.query ∧ v.fragment = u.fragment ∧ v.pre = none := by
  have hnet : net e (pickleTwin u) = net e u := by rw [C09_twin_of_pre_none u hpre]
  obtain ⟨v, h0, _, r⟩ := (C11_cached_arbitrary_authority e u np hnet hn hs hgood).2.2.2.2.1 p hr
  exact ⟨v, h0, r⟩

/-- FRAME of `with_host(hs)` (no condition on the OLD host text: it is discarded): for an accepted argument that
    encodes to a non-empty `eh`, `raw_host` reads `unbracket eh`, and `raw_user`, `raw_password`, `explicit_port`
    read as on `u`. -/
theorem C11_arbitrary_authority_frame_with_host (e : Env) (u : Url) (np : NetlocParts)
    (hpre : u.pre = none) (hn : u.netloc ≠ []) (hs : splitNetloc e.o u.netloc = .ok np)
    (hst eh : Str) (hne : hst ≠ []) (henc : encodeHost e.o hst true = .ok eh) (heh : eh ≠ []) :
    ∃ v, withHost e u hst = .ok v ∧ rawHost e v = .ok (some (unbracket eh)) ∧
      hostSubcomponent e v = .ok (some eh) ∧
      rawUser e v = rawUser e u ∧ rawPassword e v = rawPassword e u ∧ explicitPort e v = explicitPort e u ∧
      v.scheme = u.scheme ∧ v.path = u.path ∧ v.query = u.query ∧ v.fragment = u.fragment ∧ v.pre = none := by
  obtain ⟨a1, a2, a3, a4, a5, _, _, _, f1, _, _, f4⟩ := C11_arbitrary_authority_accessors e u np hpre hn hs
  obtain ⟨hwf, hh2⟩ := C11_encoded_host_wellformed e.o hst eh heh henc
  obtain ⟨hv, b1, b2, b3, b4, b5⟩ := withHost_reads hn (net_of_split e u np hpre hn hs) f1 f4 hne henc hwf hh2
  exact ⟨_, hv, b3, b5, b1.trans a1.symm, b2.trans a2.symm,
    b4.trans a4.symm, rfl, rfl, rfl, rfl, rfl⟩

/-- FRAME of `origin()` (URL with a scheme): user and password read `None`, the explicit port reads as on `u`,
    path / query / fragment are empty, and `raw_host` / `host_subcomponent` read as on `u` — unless the authority
    contains '@' and is left with nothing to write (E2: "http://@", "http://u:p@").  When the authority has no '@' it
    is kept VERBATIM and no condition on the host text is needed. -/
theorem C11_arbitrary_authority_frame_origin (e : Env) (u : Url) (np : NetlocParts)
    (hpre : u.pre = none) (hn : u.netloc ≠ []) (hs : splitNetloc e.o u.netloc = .ok np) (hsc : u.scheme ≠ [])
    (hgood : 64 ∈ u.netloc → ¬ (91 ∈ np.host.getD [] ∧ 58 ∉ np.host.getD [])) :
    let nothing := 64 ∈ u.netloc ∧ np.host.getD [] = [] ∧ np.port = none
    ∃ v, origin e u = .ok v ∧ rawUser e v = .ok none ∧ rawPassword e v = .ok none ∧
      explicitPort e v = explicitPort e u ∧
      (rawHost e v = if nothing then .ok none else rawHost e u) ∧
      (hostSubcomponent e v = if nothing then .ok none else hostSubcomponent e u) ∧
      (64 ∉ u.netloc → v.netloc = u.netloc) ∧
      v.scheme = u.scheme ∧ v.path = [] ∧ v.query = [] ∧ v.fragment = [] := by
  intro nothing
  obtain ⟨a1, a2, a3, a4, a5, f5, f6, _, f1, _, _, f4⟩ := C11_arbitrary_authority_accessors e u np hpre hn hs
  have hw := (C11_arbitrary_authority_modifiers e u np hpre hn hs).2.2.2.2.2
  rw [if_neg hsc] at hw
  by_cases h64 : 64 ∈ u.netloc
  · rw [if_pos h64] at hw
    have hU : UserOK none := by intro t ht; cases ht
    obtain ⟨hnet, hnil⟩ := C11_arbitrary_authority_rebuilt_net e u np hs (hgood h64) (q e Gen.QUOTER)
      none none np.port u.scheme [] [] [] hU f4
    obtain ⟨b1, b2, b3, b4, b5⟩ := acc_of_net e _ _ hnet
    have hiff : ((none : Option Str) = none ∧ (none : Option Str) = none ∧ np.host.getD [] = [] ∧ np.port = none)
        ↔ nothing := by simp [nothing, h64]
    refine ⟨_, hw, b1, b2, ?_, ?_, ?_, fun h => absurd h64 h, rfl, rfl, rfl, rfl⟩
    · rw [b4, a4]
    · rw [b3, a3]; exact ite_host hiff _
    · rw [b5, a5]; exact ite_hostb hiff _
  · rw [if_neg h64] at hw
    have hno : ¬ nothing := fun h => h64 h.1
    have hu1 : np.user = none := by rw [f5]; simp [Rfc.authoritySplit, h64]
    have hu2 : np.password = none := by rw [f6]; simp [Rfc.authoritySplit, h64]
    rw [if_neg hno, if_neg hno]
    by_cases hc : u.path = [] ∧ u.query = [] ∧ u.fragment = []
    · rw [if_pos hc] at hw
      exact ⟨u, hw, by rw [a1, hu1], by rw [a2, hu2], rfl, rfl, rfl, fun _ => rfl, rfl, hc.1, hc.2.1, hc.2.2⟩
    · rw [if_neg hc] at hw
      have hnet : net e (fromParts u.scheme u.netloc [] [] []) = net e u := by
        unfold net fromParts lazyNet; rw [hpre]
      have hN := net_of_split e u np hpre hn hs
      rw [← hnet] at hN
      obtain ⟨b1, b2, b3, b4, b5⟩ := acc_of_net e _ _ hN
      refine ⟨_, hw, by rw [b1, hu1], by rw [b2, hu2], by rw [b4, a4], by rw [b3, a3], by rw [b5, a5]; rfl,
        fun _ => rfl, rfl, rfl, rfl, rfl⟩

/-! ## 4. when `split_netloc` rejects the stored text -/

/-- If `split_netloc` FAILS on the stored authority (necessarily non-empty; the error `err` is ValueError — port text
    not an integer in 0..65535 — or an oracle miss for a non-ASCII port text), then on a URL without pre-filled cache
    `with_user` (any argument, `None` included), `with_password` and `str()` fail with `err`; `with_host` fails (with
    its own ValueError for an empty / invalid argument, else `err`); `with_port` fails (TypeError / ValueError for a
    bad argument, else `err`); `origin()` fails with `err` when the authority contains '@' — and otherwise SUCCEEDS,
    copying the unparsable authority verbatim (its `str()` then fails). -/
theorem C11_arbitrary_authority_split_fails (e : Env) (u : Url) (err : PyErr)
    (hpre : u.pre = none) (hs : splitNetloc e.o u.netloc = .error err) :
    u.netloc ≠ [] ∧ (err = .valueError ∨ ∃ f a, err = .oracleMiss f a) ∧
    (∀ x, withUser e u x = .error err) ∧
    (∀ pw, withPassword e u pw = .error err) ∧
    (∀ hst, withHost e u hst =
      if hst = [] then .error .valueError
      else match encodeHost e.o hst true with
        | .error err' => .error err'
        | .ok _ => .error err) ∧
    (∀ (p : Option Int) (kind : Nat), withPort e u p kind =
      if kind ≠ 0 then .error .typeError else if portBad p then .error .valueError else .error err) ∧
    (origin e u =
      if u.scheme = [] then .error .valueError
      else if 64 ∈ u.netloc then .error err
      else if u.path = [] ∧ u.query = [] ∧ u.fragment = [] then .ok u
      else .ok (fromParts u.scheme u.netloc [] [] [])) ∧
    str e u = .error err ∧
    (∀ v, origin e u = .ok v → str e v = .error err) := by
  have hn : u.netloc ≠ [] := by
    intro h0
    rw [h0] at hs
    cases hs
  have hverr : err = .valueError ∨ ∃ f a, err = .oracleMiss f a :=
    (ErrLemmas.Errs.iff.1 (ErrLemmas.splitNetloc_errs (Q := ErrLemmas.VO) e.o u.netloc)) err hs
  -- no URL without cache over this text parses, hence none prints
  have hnet : ∀ w : Url, w.pre = none → w.netloc = u.netloc → net e w = .error err := by
    intro w hw1 hw2
    unfold net lazyNet
    rw [hw1, hw2, hs]
    rfl
  have hstr : ∀ w : Url, w.pre = none → w.netloc = u.netloc → str e w = .error err := by
    intro w hw1 hw2
    unfold str explicitPort
    rw [hnet w hw1 hw2]
    rfl
  have hN := hnet u hpre rfl
  refine ⟨hn, hverr, fun x => ?_, fun pw => ?_, fun hst => ?_, fun p kind => ?_, ?_, hstr u hpre rfl,
    fun v hv => ?_⟩
  · cases x with
    | none =>
      rw [withUser_none_eq, if_neg hn, hN]
      rfl
    | some s =>
      rw [withUser_some_eq, if_neg hn, hN]
      rfl
  · rw [withPassword_eq, if_neg hn, hN]
    rfl
  · rw [withHost_eq, if_neg hn, hN]
    cases encodeHost e.o hst true <;> rfl
  · rw [withPort_eq, if_neg hn, hN]
    rfl
  · rw [origin_eq, if_neg hn, hN]
    rfl
  · rw [origin_eq, if_neg hn, hN] at hv
    obtain ⟨_, hv⟩ := ite_err_ok hv
    obtain ⟨_, hv⟩ := ite_err_ok hv
    split at hv
    · cases hv
      exact hstr u hpre rfl
    · cases hv
      exact hstr _ rfl rfl

/-! ## 5. witnesses: the two exceptions, the silent text normalisations, non-vacuity -/

section witnesses
private def e0 : Env := { b := .py, o := Oracles.empty }

/-- `URL('http://U:P@H:080/a/../b?x y#é', encoded=True)`: stored verbatim (upper-case host, port text "080", dot
    segments, unquoted space, non-ASCII fragment) -/
private def uA : Url := fromParts "http".toStr "U:P@H:080".toStr "/a/../b".toStr "x y".toStr [233]

/-- (E1) exception to the frame: host text with '[' but no ':' (`URL.build(scheme='http', authority='[a[b]',
    path='/p', encoded=True)`; through the constructor: `URL('http://[v1.a[b]/p', encoded=True)`).
    `raw_host` is "a[b" / "v1.a[b"; after `with_user('u')` the authority is "u@a[b" and `raw_host` reads "b". -/
theorem C11_arbitrary_authority_frame_fails_for_bracket_in_host :
    let u := fromParts "http".toStr "[a[b]".toStr "/p".toStr [] []
    splitNetloc e0.o u.netloc = .ok { user := none, password := none, host := some "a[b".toStr, port := none } ∧
    rawHost e0 u = .ok (some "a[b".toStr) ∧
    (withUser e0 u (some "u".toStr)).map (·.netloc) = .ok "u@a[b".toStr ∧
    (withUser e0 u (some "u".toStr)).bind (rawHost e0) = .ok (some "b".toStr) ∧
    (∃ w, preEncodedUrl e0 "http://[v1.a[b]/p".toStr = .ok w ∧ rawHost e0 w = .ok (some "v1.a[b".toStr) ∧
      (withUser e0 w (some "u".toStr)).bind (rawHost e0) = .ok (some "b".toStr)) := by
  refine ⟨by str_lits; decide +kernel, by str_lits; decide +kernel, by str_lits; decide +kernel, by str_lits; decide +kernel,
    ⟨fromParts "http".toStr "[v1.a[b]".toStr "/p".toStr [] [], by str_lits; decide +kernel⟩⟩

/-- (E2) exception to the frame: nothing left to write.  `URL('http://@/p', encoded=True)` has `raw_host == ""`;
    `.with_port(None)` / `.with_user(None)` / `.with_password(None)` store the EMPTY authority: `raw_host is None`
    (and `str()` is "http:///p").  Same for the authority ":" . -/
theorem C11_arbitrary_authority_frame_fails_for_nothing_left :
    let u := fromParts "http".toStr "@".toStr "/p".toStr [] []
    splitNetloc e0.o u.netloc = .ok { user := none, password := none, host := none, port := none } ∧
    rawHost e0 u = .ok (some []) ∧
    (withPort e0 u none 0).map (·.netloc) = .ok [] ∧ (withPort e0 u none 0).bind (rawHost e0) = .ok none ∧
    (withUser e0 u none).bind (rawHost e0) = .ok none ∧ (withPassword e0 u none).bind (rawHost e0) = .ok none ∧
    (withPort e0 u none 0).bind (str e0) = .ok "http:///p".toStr ∧
    (withUser e0 (fromParts "http".toStr ":".toStr "/p".toStr [] []) none).bind (rawHost e0) = .ok none := by
  str_lits; decide +kernel

/-- the running example `URL('http://U:P@H:080/a/../b?x y#é', encoded=True)`: accessors verbatim (host "H" NOT
    lower-cased, port 80 from "080"), and three modifiers on it: the port text is re-written "80", the host stays
    "H", path / query / fragment stay verbatim; `origin()` keeps "H:80"; `str()` drops the default port. -/
theorem C11_arbitrary_authority_running_example :
    preEncodedUrl e0 ("http://U:P@H:080/a/../b?x y#".toStr ++ [233]) = .ok uA ∧
    splitNetloc e0.o uA.netloc =
      .ok { user := some "U".toStr, password := some "P".toStr, host := some "H".toStr, port := some 80 } ∧
    rawHost e0 uA = .ok (some "H".toStr) ∧ explicitPort e0 uA = .ok (some 80) ∧
    withUser e0 uA (some "n w".toStr) =
      .ok (fromParts "http".toStr "n%20w:P@H:80".toStr "/a/../b".toStr "x y".toStr [233]) ∧
    withPassword e0 uA none = .ok (fromParts "http".toStr "U@H:80".toStr "/a/../b".toStr "x y".toStr [233]) ∧
    withHost e0 uA "ExAmple.com".toStr =
      .ok (fromParts "http".toStr "U:P@example.com:80".toStr "/a/../b".toStr "x y".toStr [233]) ∧
    withPort e0 uA none 0 = .ok (fromParts "http".toStr "U:P@H".toStr "/a/../b".toStr "x y".toStr [233]) ∧
    origin e0 uA = .ok (fromParts "http".toStr "H:80".toStr [] [] []) ∧
    str e0 uA = .ok ("http://U:P@H/a/../b?x y#".toStr ++ [233]) := by
  simp only [uA]; str_lits; decide +kernel

/-- silent normalisations of the stored TEXT that change no accessor (all through `encoded=True`):
    "user@:80" (empty host), ":pw@h" (empty user before a password), "[::1]x:80" and "y[::1]" (junk around the
    brackets), "[v1.x]:81" (brackets around a host without ':' are DROPPED), "a@b@h" (user "a@b"). -/
theorem C11_arbitrary_authority_text_normalisations :
    let mk := fun (n : String) => fromParts "http".toStr n.toStr "/p".toStr [] []
    (withUser e0 (mk "user@:80") (some "n".toStr)).map (·.netloc) = .ok "n@:80".toStr ∧
    (withHost e0 (mk "user@:80") "g".toStr).map (·.netloc) = .ok "user@g:80".toStr ∧
    (withPort e0 (mk "user@:80") none 0).map (·.netloc) = .ok "user@".toStr ∧
    (withUser e0 (mk ":pw@h") (some "n".toStr)).map (·.netloc) = .ok "n:pw@h".toStr ∧
    (withPort e0 (mk ":pw@h") (some 81) 0).map (·.netloc) = .ok ":pw@h:81".toStr ∧
    (withPassword e0 (mk "[::1]x:80") (some "q".toStr)).map (·.netloc) = .ok ":q@[::1]:80".toStr ∧
    (withPort e0 (mk "y[::1]") (some 81) 0).map (·.netloc) = .ok "[::1]:81".toStr ∧
    (withUser e0 (mk "[v1.x]:81") (some "u".toStr)).map (·.netloc) = .ok "u@v1.x:81".toStr ∧
    (withUser e0 (mk "[v1.x]:81") (some "u".toStr)).bind (rawHost e0) = rawHost e0 (mk "[v1.x]:81") ∧
    (withPort e0 (mk "a@b@h") (some 1) 0).map (·.netloc) = .ok "a@b@h:1".toStr ∧
    (origin e0 (mk "[::1]x:080")).map (·.netloc) = .ok "[::1]x:080".toStr ∧
    (origin e0 (mk "u@[::1]x:080")).map (·.netloc) = .ok "[::1]:80".toStr := by
  decide +kernel

/-- a port text `split_netloc` rejects (`URL('http://h:99999/p', encoded=True)`): every authority modifier and
    `str()` raise ValueError, `origin()` does not (no '@'), but its result cannot be printed -/
theorem C11_arbitrary_authority_split_fails_instance :
    let u := fromParts "http".toStr "h:99999".toStr "/p".toStr [] []
    preEncodedUrl e0 "http://h:99999/p".toStr = .ok u ∧
    splitNetloc e0.o u.netloc = .error .valueError ∧
    withUser e0 u (some "n".toStr) = .error .valueError ∧ withUser e0 u none = .error .valueError ∧
    withPassword e0 u none = .error .valueError ∧ withHost e0 u "g".toStr = .error .valueError ∧
    withPort e0 u (some 81) 0 = .error .valueError ∧ str e0 u = .error .valueError ∧
    origin e0 u = .ok (fromParts "http".toStr "h:99999".toStr [] [] []) ∧
    origin e0 (fromParts "http".toStr "u@h:99999".toStr "/p".toStr [] []) = .error .valueError := by
  str_lits; decide +kernel

/-- non-vacuity of the hypotheses of the frame theorems on the running example and on four odd authorities -/
example : uA.pre = none ∧ uA.netloc ≠ [] ∧
    ¬ (91 ∈ "H".toStr ∧ 58 ∉ "H".toStr) ∧ PyStr "n w".toStr ∧ q e0 Gen.QUOTER "n w".toStr ≠ [] := by
  decide +kernel
example : (["user@:80", ":pw@h", "[::1]x:80", "U:P@H:080", "[v1.x]:81", "a@b@h"].all fun n =>
    match splitNetloc e0.o (String.toStr n) with
    | .ok np => decide (¬ (91 ∈ np.host.getD [] ∧ 58 ∉ np.host.getD []))
    | .error _ => false) = true := by decide +kernel

end witnesses

end Yarl
