/-
  C12Url.lean — property C12 stated about `url.query` (= `queryPairs`) of the RESULTING URL:
  with_query(q) yields exactly the pairs of q in order (a list/tuple value in a mapping expands to repeated keys;
  ints and floats are rendered by str()); extend_query appends q's pairs after the existing ones; update_query
  is `MultiDict.update` of the old pairs with q's pairs; without_query_params removes exactly the named keys.
  Lifts the list algebra (C12.lean, MdLemmas) and the text round trip (C12ReadbackPairs.lean).
-/
import YarlModel
import YarlProofs.Lemmas.QueryUrl
import YarlProofs.C12ReadbackPairs
namespace Yarl

open QsLemmas MdLemmas QueryUrl

namespace QueryUrl

theorem good_shape {ps : List (Str × Str)} (hg : GoodPairs ps) :
    ∀ p ∈ ps, PyStr p.1 ∧ NoSurrogate p.1 ∧ PyStr p.2 ∧ NoSurrogate p.2 :=
  fun p hp => ⟨(hg p hp).1.1, (hg p hp).1.2, (hg p hp).2.1, (hg p hp).2.2⟩

/-- the rendered text of a list of pairs -/
def qtext (b : Backend) (ps : List (Str × Str)) : Str := joinC 38 (ps.map (pairText b))

theorem parse_qtext (b : Backend) (ps : List (Str × Str)) (hg : GoodPairs ps) : parseQsl (qtext b ps) = ps :=
  parseQsl_joinC_pairText b ps (good_shape hg)

theorem qtext_ne_nil (b : Backend) (ps : List (Str × Str)) (hne : ps ≠ []) : qtext b ps ≠ [] :=
  joinC_pairText_ne_nil b ps hne

theorem withQuery_of (e : Env) (u : Url) (a : QArg) (nq : Str) (h : getStrQuery e.b a = .ok (some nq)) :
    withQuery e u a = .ok (fromParts u.scheme u.netloc u.path nq u.fragment) := by
  unfold withQuery
  rw [h]
  rfl

theorem extendQuery_of (e : Env) (u : Url) (a : QArg) (nq : Str) (h : getStrQuery e.b a = .ok (some nq))
    (hne : nq ≠ []) :
    extendQuery e u a = .ok (fromParts u.scheme u.netloc u.path
      (if !u.query.isEmpty then (if u.query.getLast? = some 38 then u.query ++ nq else u.query ++ [38] ++ nq) else nq)
      u.fragment) := by
  have h1 : nq.isEmpty = false := by cases nq <;> simp_all
  unfold extendQuery
  rw [h]
  simp only [bind, Except.bind, h1, pure, Except.pure]
  rfl

theorem getStrQuery_mapping (b : Backend) (items : List (Str × QItem)) (ps : List (Str × Str))
    (h : expandItems items = some ps) : getStrQuery b (.mapping items) = .ok (some (qtext b ps)) := by
  cases items with
  | nil => simp only [expandItems, Option.some.injEq] at h; subst h; rfl
  | cons x rest =>
    simp only [getStrQuery, List.isEmpty_cons, Bool.false_eq_true, if_false]
    rw [seq_render b _ ps h]
    rfl

theorem getStrQuery_pairs (b : Backend) (items : List (Str × QItem)) (ps : List (Str × Str))
    (hs : SingleValued items) (h : expandItems items = some ps) :
    getStrQuery b (.pairs items) = .ok (some (qtext b ps)) := by
  cases items with
  | nil => simp only [expandItems, Option.some.injEq] at h; subst h; rfl
  | cons x rest =>
    simp only [getStrQuery, List.isEmpty_cons, Bool.false_eq_true, if_false]
    rw [iter_render b _ ps hs h]
    rfl

theorem queryPairs_fromParts (s n p q f : Str) : queryPairs (fromParts s n p q f) = parseQsl q := rfl

/-- `update_query` with an argument that denotes the pairs `ps` stores the rendered `MultiDict.update` of the old pairs
    with `ps` (no hypothesis on the texts: reading the stored text back is a separate step, `parse_qtext`) -/
theorem updateQuery_stored (e : Env) (u : Url) (items : List (Str × QItem)) (ps : List (Str × Str))
    (hs : SingleValued items) (h : expandItems items = some ps) (hne : ps ≠ []) :
    updateQuery e u (.pairs items) =
        .ok (fromParts u.scheme u.netloc u.path (qtext e.b (mdUpdate (queryPairs u) ps)) u.fragment) ∧
    updateQuery e u (.mapping items) =
        .ok (fromParts u.scheme u.netloc u.path (qtext e.b (mdUpdate (queryPairs u) ps)) u.fragment) := by
  obtain ⟨hs2, h2⟩ := expand_mdUpdate (queryPairs u) ps items hs h
  have hi := expandItems_nil_of_nil h hne
  constructor
  · rw [C12_update_query_pairs e u items hi, iter_render e.b _ _ hs2 h2]
    rfl
  · rw [C12_update_query_mapping e u items hi, seq_render e.b _ _ h2]
    rfl

/-- the same for a string argument, which is read by `parse_qsl` like the old query -/
theorem updateQuery_str_stored (e : Env) (u : Url) (s : Str) (hne : s ≠ []) :
    updateQuery e u (.str s) =
      .ok (fromParts u.scheme u.netloc u.path (qtext e.b (mdUpdate (queryPairs u) (parseQsl s))) u.fragment) := by
  obtain ⟨hs2, h2⟩ := expand_mdUpdate (queryPairs u) (parseQsl s) (strItems (parseQsl s))
    (singleValued_strItems _) (expandItems_strItems _)
  rw [C12_update_query_str e u s hne, iter_render e.b _ _ hs2 h2]
  rfl

end QueryUrl

/-! ### with_query -/

/-- with_query(mapping): the resulting URL's query pairs are exactly the pairs the mapping denotes, in order — list/tuple
    values expanded to repeated keys, ints rendered by `str()`, floats by their text.  (Also true for the empty
    mapping: `items ≠ []` is not needed.) -/
theorem C12_url_with_query_mapping' (e : Env) (u : Url) (items : List (Str × QItem)) (ps : List (Str × Str)) :
    expandItems items = some ps → GoodPairs ps →
    ∃ v, withQuery e u (.mapping items) = .ok v ∧ queryPairs v = ps ∧
      v.scheme = u.scheme ∧ v.netloc = u.netloc ∧ v.path = u.path ∧ v.fragment = u.fragment := by
  intro h hg
  exact ⟨_, withQuery_of e u _ _ (getStrQuery_mapping e.b items ps h), parse_qtext e.b ps hg, rfl, rfl, rfl, rfl⟩

theorem C12_url_with_query_mapping (e : Env) (u : Url) (items : List (Str × QItem)) (ps : List (Str × Str)) :
    expandItems items = some ps → GoodPairs ps → items ≠ [] →
    ∃ v, withQuery e u (.mapping items) = .ok v ∧ queryPairs v = ps := by
  intro h hg _
  obtain ⟨v, h1, h2, _⟩ := C12_url_with_query_mapping' e u items ps h hg
  exact ⟨v, h1, h2⟩

/-- with_query(sequence of (key, value) pairs), single values (a list value is rejected there, `C12_pairs_list_value_rejected`) -/
theorem C12_url_with_query_pairs' (e : Env) (u : Url) (items : List (Str × QItem)) (ps : List (Str × Str)) :
    SingleValued items → expandItems items = some ps → GoodPairs ps →
    ∃ v, withQuery e u (.pairs items) = .ok v ∧ queryPairs v = ps ∧
      v.scheme = u.scheme ∧ v.netloc = u.netloc ∧ v.path = u.path ∧ v.fragment = u.fragment := by
  intro hs h hg
  exact ⟨_, withQuery_of e u _ _ (getStrQuery_pairs e.b items ps hs h), parse_qtext e.b ps hg, rfl, rfl, rfl, rfl⟩

theorem C12_url_with_query_pairs (e : Env) (u : Url) (items : List (Str × QItem)) (ps : List (Str × Str)) :
    SingleValued items → expandItems items = some ps → GoodPairs ps → items ≠ [] →
    ∃ v, withQuery e u (.pairs items) = .ok v ∧ queryPairs v = ps := by
  intro hs h hg _
  obtain ⟨v, h1, h2, _⟩ := C12_url_with_query_pairs' e u items ps hs h hg
  exact ⟨v, h1, h2⟩

/-! ### extend_query -/

/-- extend_query(mapping) appends the pairs the mapping denotes after the existing ones — whatever the old query text
    is (empty, ending in '&', containing empty pieces, undecodable escapes …): no hypothesis on `u` -/
theorem C12_url_extend_query (e : Env) (u : Url) (items : List (Str × QItem)) (ps : List (Str × Str)) :
    expandItems items = some ps → GoodPairs ps → ps ≠ [] →
    ∃ v, extendQuery e u (.mapping items) = .ok v ∧ queryPairs v = queryPairs u ++ ps := by
  intro h hg hne
  refine ⟨_, extendQuery_of e u _ _ (getStrQuery_mapping e.b items ps h) (qtext_ne_nil e.b ps hne), ?_⟩
  rw [queryPairs_fromParts, parseQsl_extend, parse_qtext e.b ps hg]
  rfl

theorem C12_url_extend_query_pairs (e : Env) (u : Url) (items : List (Str × QItem)) (ps : List (Str × Str)) :
    SingleValued items → expandItems items = some ps → GoodPairs ps → ps ≠ [] →
    ∃ v, extendQuery e u (.pairs items) = .ok v ∧ queryPairs v = queryPairs u ++ ps := by
  intro hs h hg hne
  refine ⟨_, extendQuery_of e u _ _ (getStrQuery_pairs e.b items ps hs h) (qtext_ne_nil e.b ps hne), ?_⟩
  rw [queryPairs_fromParts, parseQsl_extend, parse_qtext e.b ps hg]
  rfl

/-- … and when the argument denotes no pair at all (`{}`, `{"a": []}`) the URL is returned unchanged -/
theorem C12_url_extend_query_no_pairs (e : Env) (u : Url) (items : List (Str × QItem)) :
    expandItems items = some [] → extendQuery e u (.mapping items) = .ok u := by
  intro h
  unfold extendQuery
  rw [getStrQuery_mapping e.b items [] h]
  rfl

/-! ### update_query -/

/-- the pairs read from a well-formed query text are well-formed texts, so `GoodPairs (queryPairs u)` follows from
    `GoodText u.query` (PyStr *and* NoSurrogate are both derivable: `errors="replace"` never produces a surrogate) -/
theorem C12_url_query_pairs_good (u : Url) : GoodText u.query → GoodPairs (queryPairs u) :=
  parseQsl_good u.query

/-- update_query(sequence of pairs): the resulting URL's query pairs are `MultiDict(old).update(new).items()` -/
theorem C12_url_update_query (e : Env) (u : Url) (items : List (Str × QItem)) (ps : List (Str × Str)) :
    SingleValued items → expandItems items = some ps → GoodPairs ps → GoodPairs (queryPairs u) → ps ≠ [] →
    ∃ v, updateQuery e u (.pairs items) = .ok v ∧ queryPairs v = mdUpdate (queryPairs u) ps := by
  intro hs h hg hgu hne
  rw [(updateQuery_stored e u items ps hs h hne).1]
  exact ⟨_, rfl, parse_qtext e.b _ (mdUpdate_good _ _ hgu hg)⟩

/-- update_query(mapping) with single values -/
theorem C12_url_update_query_mapping (e : Env) (u : Url) (items : List (Str × QItem)) (ps : List (Str × Str)) :
    SingleValued items → expandItems items = some ps → GoodPairs ps → GoodPairs (queryPairs u) → ps ≠ [] →
    ∃ v, updateQuery e u (.mapping items) = .ok v ∧ queryPairs v = mdUpdate (queryPairs u) ps := by
  intro hs h hg hgu hne
  rw [(updateQuery_stored e u items ps hs h hne).2]
  exact ⟨_, rfl, parse_qtext e.b _ (mdUpdate_good _ _ hgu hg)⟩

/-- update_query(mapping), list values allowed: `MultiDict.update` acts on the *slots* (a list value replaces one old
    entry as a whole) and the result is expanded afterwards -/
theorem C12_url_update_query_mapping_lists (e : Env) (u : Url) (items : List (Str × QItem)) (ps' : List (Str × Str)) :
    expandItems (mdUpdate (strItems (queryPairs u)) items) = some ps' → GoodPairs ps' → items ≠ [] →
    ∃ v, updateQuery e u (.mapping items) = .ok v ∧ queryPairs v = ps' := by
  intro h hg hne
  rw [C12_update_query_mapping e u items hne, seq_render e.b _ _ h]
  exact ⟨_, rfl, parse_qtext e.b _ hg⟩

/-- … which is NOT `mdUpdate` of the old pairs with the expanded new pairs: `?a=1&b=2&a=3` updated with
    `{"a": [7, 8]}` is `a=7&a=8&b=2`, whereas updating with the pairs `[("a","7"), ("a","8")]` gives `a=7&b=2&a=8` -/
theorem C12_url_update_query_lists_differ :
    expandItems (mdUpdate (strItems [([97], [49]), ([98], [50]), ([97], [51])]) [([97], .many [.str [55], .str [56]])]) =
      some [([97], [55]), ([97], [56]), ([98], [50])] ∧
    expandItems [([97], .many [.str [55], .str [56]])] = some [([97], [55]), ([97], [56])] ∧
    mdUpdate [(([97] : Str), ([49] : Str)), ([98], [50]), ([97], [51])] [([97], [55]), ([97], [56])] =
      [([97], [55]), ([98], [50]), ([97], [56])] := by
  decide +kernel

/-- the same with the hypothesis on the URL reduced to its query text -/
theorem C12_url_update_query_of_good_text (e : Env) (u : Url) (items : List (Str × QItem)) (ps : List (Str × Str)) :
    SingleValued items → expandItems items = some ps → GoodPairs ps → GoodText u.query → ps ≠ [] →
    ∃ v, updateQuery e u (.pairs items) = .ok v ∧ queryPairs v = mdUpdate (queryPairs u) ps :=
  fun hs h hg hq hne => C12_url_update_query e u items ps hs h hg (C12_url_query_pairs_good u hq) hne

/-- corollary: pairs whose key is not updated are unchanged, in order -/
theorem C12_url_update_keeps_others (e : Env) (u : Url) (items : List (Str × QItem)) (ps : List (Str × Str)) :
    SingleValued items → expandItems items = some ps → GoodPairs ps → GoodPairs (queryPairs u) → ps ≠ [] →
    ∃ v, updateQuery e u (.pairs items) = .ok v ∧
      (queryPairs v).filter (fun p => !(keysOf ps).contains p.1) =
        (queryPairs u).filter (fun p => !(keysOf ps).contains p.1) := by
  intro hs h hg hgu hne
  obtain ⟨v, h1, h2⟩ := C12_url_update_query e u items ps hs h hg hgu hne
  exact ⟨v, h1, by rw [h2]; exact C12_update_keeps_others _ _⟩

/-- corollary: for every updated key the new values appear, in order, as a prefix of that key's values -/
theorem C12_url_update_sets_keys_prefix (e : Env) (u : Url) (items : List (Str × QItem)) (ps : List (Str × Str))
    (k : Str) :
    SingleValued items → expandItems items = some ps → GoodPairs ps → GoodPairs (queryPairs u) → k ∈ keysOf ps →
    ∃ v, updateQuery e u (.pairs items) = .ok v ∧
      (ps.filter (fun p => p.1 = k)).map (·.2) <+: ((queryPairs v).filter (fun p => p.1 = k)).map (·.2) := by
  intro hs h hg hgu hk
  obtain ⟨v, h1, h2⟩ := C12_url_update_query e u items ps hs h hg hgu (keysOf_ne_nil hk)
  exact ⟨v, h1, by rw [h2]; exact C12_update_sets_keys_prefix _ _ k hk⟩

/-- corollary: … followed only by a sublist of the old values that were not overwritten -/
theorem C12_url_update_sets_keys_split (e : Env) (u : Url) (items : List (Str × QItem)) (ps : List (Str × Str))
    (k : Str) :
    SingleValued items → expandItems items = some ps → GoodPairs ps → GoodPairs (queryPairs u) → k ∈ keysOf ps →
    ∃ v, updateQuery e u (.pairs items) = .ok v ∧
      ∃ S, ((queryPairs v).filter (fun p => p.1 = k)).map (·.2) = (ps.filter (fun p => p.1 = k)).map (·.2) ++ S ∧
        S.Sublist ((((queryPairs u).filter (fun p => p.1 = k)).map (·.2)).drop (ps.filter (fun p => p.1 = k)).length) := by
  intro hs h hg hgu hk
  obtain ⟨v, h1, h2⟩ := C12_url_update_query e u items ps hs h hg hgu (keysOf_ne_nil hk)
  exact ⟨v, h1, by rw [h2]; exact C12_update_sets_keys_split _ _ k hk⟩

/-- corollary: exact under the no-tail hypothesis of `C12_update_sets_keys` (every *other* updated key has at most as
    many old entries as new ones).  Without it the statement is false: `C12_update_sets_keys_counterexample`. -/
theorem C12_url_update_sets_keys (e : Env) (u : Url) (items : List (Str × QItem)) (ps : List (Str × Str))
    (k : Str) :
    SingleValued items → expandItems items = some ps → GoodPairs ps → GoodPairs (queryPairs u) → k ∈ keysOf ps →
    (∀ k' ∈ keysOf ps, k' ≠ k →
      ((queryPairs u).filter (fun p => p.1 = k')).length ≤ (ps.filter (fun p => p.1 = k')).length) →
    ∃ v, updateQuery e u (.pairs items) = .ok v ∧
      ((queryPairs v).filter (fun p => p.1 = k)).map (·.2) = (ps.filter (fun p => p.1 = k)).map (·.2) := by
  intro hs h hg hgu hk hH
  obtain ⟨v, h1, h2⟩ := C12_url_update_query e u items ps hs h hg hgu (keysOf_ne_nil hk)
  exact ⟨v, h1, by rw [h2]; exact C12_update_sets_keys _ _ k hk hH⟩

/-- update_query(str): the string is read by `parse_qsl` like the old query -/
theorem C12_url_update_query_str (e : Env) (u : Url) (s : Str) :
    GoodText s → GoodPairs (queryPairs u) → s ≠ [] →
    ∃ v, updateQuery e u (.str s) = .ok v ∧ queryPairs v = mdUpdate (queryPairs u) (parseQsl s) := by
  intro hs hgu hne
  rw [updateQuery_str_stored e u s hne]
  exact ⟨_, rfl, parse_qtext e.b _ (mdUpdate_good _ _ hgu (parseQsl_good s hs))⟩

/-! ### the hypothesis on the old pairs is needed

`update_query` and `without_query_params` re-render the *old* pairs through the quoter, which drops lone surrogates.
A URL made with `encoded=True` may carry one in its query: `?\ud800=1`. -/

namespace QueryUrl

/-- the URL `?\ud800=1&b=2` (possible with `encoded=True` only) -/
def surrUrl : Url := fromParts [] [] [] [0xD800, 61, 49, 38, 98, 61, 50] []

theorem surr_render (b : Backend) :
    (strQueryFromIterable b (mdUpdate (strItems (queryPairs surrUrl)) [([99], .one (.str [51]))])).toOption =
      some [61, 49, 38, 98, 61, 50, 38, 99, 61, 51] ∧
    (strQueryFromIterable b (strItems ((queryPairs surrUrl).filter (fun p => ![[98]].contains p.1)))).toOption =
      some [61, 49] := by
  cases b <;> decide +kernel

theorem toOption_some {α : Type} {x : R α} {a : α} (h : x.toOption = some a) : x = .ok a := by
  cases x with
  | error e => simp [Except.toOption] at h
  | ok y => simp only [Except.toOption, Option.some.injEq] at h; rw [h]

end QueryUrl

/-- `?\ud800=1&b=2` updated with `[("c","3")]` reads back as `[("", "1"), ("b","2"), ("c","3")]`: the old key lost its
    surrogate, so the result is not `mdUpdate (queryPairs u) ps` -/
theorem C12_url_update_query_needs_good_old (e : Env) :
    ¬ GoodPairs (queryPairs surrUrl) ∧
    ∃ v, updateQuery e surrUrl (.pairs [([99], .one (.str [51]))]) = .ok v ∧
      queryPairs v = [([], [49]), ([98], [50]), ([99], [51])] ∧
      mdUpdate (queryPairs surrUrl) [([99], [51])] = [([0xD800], [49]), ([98], [50]), ([99], [51])] := by
  refine ⟨by decide +kernel, ?_⟩
  rw [C12_update_query_pairs e surrUrl _ (by simp), toOption_some (surr_render e.b).1]
  exact ⟨_, rfl, by decide +kernel, by decide +kernel⟩

/-- the same for `without_query_params("b")` on `?\ud800=1&b=2`: the kept pair comes back as `("", "1")` -/
theorem C12_url_without_query_params_needs_good_old (e : Env) :
    ∃ v, withoutQueryParams e surrUrl [[98]] = .ok v ∧ queryPairs v = [([], [49])] ∧
      (queryPairs surrUrl).filter (fun p => ![[98]].contains p.1) = [([0xD800], [49])] := by
  have hF : (strItems ((queryPairs surrUrl).filter (fun p => ![[98]].contains p.1))).isEmpty = false := by
    decide +kernel
  rw [C12_without_query_params_removes, if_neg (by decide +kernel)]
  refine ⟨_, withQuery_of e surrUrl _ [61, 49] ?_, by decide +kernel, by decide +kernel⟩
  simp only [getStrQuery, hF, Bool.false_eq_true, if_false]
  rw [toOption_some (surr_render e.b).2]
  rfl

/-! ### without_query_params -/

/-- without_query_params(names) removes exactly the pairs whose key is named and keeps the others in order -/
theorem C12_url_without_query_params (e : Env) (u : Url) (names : List Str) :
    GoodPairs (queryPairs u) →
    ∃ v, withoutQueryParams e u names = .ok v ∧
      queryPairs v = (queryPairs u).filter (fun p => !names.contains p.1) := by
  intro hgu
  rw [C12_without_query_params_removes]
  split
  · rename_i hemp
    refine ⟨u, rfl, ?_⟩
    have hnil : names.filter (fun n => (queryPairs u).any (·.1 = n)) = [] := by
      cases hf : names.filter (fun n => (queryPairs u).any (·.1 = n)) with
      | nil => rfl
      | cons a b => rw [hf] at hemp; simp at hemp
    rw [List.filter_eq_nil_iff] at hnil
    symm
    rw [List.filter_eq_self]
    intro p hp
    by_cases hn : p.1 ∈ names
    · exact absurd (by simp only [List.any_eq_true, decide_eq_true_eq]; exact ⟨p, hp, rfl⟩) (hnil p.1 hn)
    · simp [hn]
  · have hg : GoodPairs ((queryPairs u).filter (fun p => !names.contains p.1)) :=
      fun p hp => hgu p (List.mem_filter.mp hp).1
    obtain ⟨v, h1, h2, _⟩ := C12_url_with_query_pairs' e u _ _ (singleValued_strItems _) (expandItems_strItems _) hg
    exact ⟨v, h1, h2⟩

theorem C12_url_without_query_params_of_good_text (e : Env) (u : Url) (names : List Str) :
    GoodText u.query →
    ∃ v, withoutQueryParams e u names = .ok v ∧
      queryPairs v = (queryPairs u).filter (fun p => !names.contains p.1) :=
  fun h => C12_url_without_query_params e u names (C12_url_query_pairs_good u h)

/-! ### `None` and empty arguments -/

theorem C12_url_none_and_empty (e : Env) (u : Url) :
    (∃ v, withQuery e u .none = .ok v ∧ queryPairs v = []) ∧
    (∃ v, updateQuery e u .none = .ok v ∧ queryPairs v = []) ∧
    (∃ v, extendQuery e u .none = .ok v ∧ queryPairs v = queryPairs u) ∧
    (∃ v, withQuery e u (.mapping []) = .ok v ∧ queryPairs v = []) ∧
    (∃ v, withQuery e u (.pairs []) = .ok v ∧ queryPairs v = []) ∧
    (∃ v, withQuery e u (.str []) = .ok v ∧ queryPairs v = []) ∧
    (∃ v, extendQuery e u (.mapping []) = .ok v ∧ queryPairs v = queryPairs u) ∧
    (∃ v, extendQuery e u (.pairs []) = .ok v ∧ queryPairs v = queryPairs u) ∧
    (∃ v, extendQuery e u (.str []) = .ok v ∧ queryPairs v = queryPairs u) ∧
    (∃ v, updateQuery e u (.mapping []) = .ok v ∧ queryPairs v = queryPairs u) ∧
    (∃ v, updateQuery e u (.pairs []) = .ok v ∧ queryPairs v = queryPairs u) ∧
    (∃ v, updateQuery e u (.str []) = .ok v ∧ queryPairs v = queryPairs u) :=
  ⟨⟨_, rfl, rfl⟩, ⟨_, rfl, rfl⟩, ⟨_, rfl, rfl⟩, ⟨_, rfl, rfl⟩, ⟨_, rfl, rfl⟩, ⟨_, rfl, rfl⟩,
   ⟨_, rfl, rfl⟩, ⟨_, rfl, rfl⟩, ⟨_, rfl, rfl⟩, ⟨_, rfl, rfl⟩, ⟨_, rfl, rfl⟩, ⟨_, rfl, rfl⟩⟩


/-! ### non-vacuity: concrete inputs with list values, ints, floats, every delimiter, '%', non-ASCII and non-BMP
    characters, and an old query with an empty piece, an escape, an invalid escape and a trailing '&' -/

namespace QueryUrl
/-- `{"a&b=c +;%#é€😀": ["%2B+ %zz=&…", -12, 1.5], "b": 7, "c": []}` -/
def sampleItems : List (Str × QItem) :=
  [(sampleKey, .many [.str sampleVal, .int (-12), .float [49, 46, 53] 0]), ([98], .one (.int 7)), ([99], .many [])]
def samplePs : List (Str × Str) :=
  [(sampleKey, sampleVal), (sampleKey, [45, 49, 50]), (sampleKey, [49, 46, 53]), ([98], [55])]
/-- `[("a&b…", "%2B+…"), ("b", 7), ("b", 1.5), ("a", "")]` -/
def sampleSingle : List (Str × QItem) :=
  [(sampleKey, .one (.str sampleVal)), ([98], .one (.int 7)), ([98], .one (.float [49, 46, 53] 0)), ([97], .one (.str []))]
def sampleSinglePs : List (Str × Str) := [(sampleKey, sampleVal), ([98], [55]), ([98], [49, 46, 53]), ([97], [])]
/-- `http://h/?a=1&&b=%C3%A9&a=%zz&` -/
def sampleUrl : Url :=
  fromParts [104, 116, 116, 112] [104] [47]
    [97, 61, 49, 38, 38, 98, 61, 37, 67, 51, 37, 65, 57, 38, 97, 61, 37, 122, 122, 38] []
end QueryUrl

example : expandItems sampleItems = some samplePs ∧ GoodPairs samplePs ∧ sampleItems ≠ [] ∧ samplePs ≠ [] := by
  decide +kernel
example : SingleValued sampleSingle ∧ expandItems sampleSingle = some sampleSinglePs ∧ GoodPairs sampleSinglePs ∧
    sampleSingle ≠ [] ∧ sampleSinglePs ≠ [] ∧ GoodText sampleUrl.query := by
  decide +kernel
example : ¬ SingleValued sampleItems := by decide +kernel
example : expandItems [([97], .one (.float [110, 97, 110] 2))] = none ∧ expandItems [([97], .many [.int 1, .bool])] = none := by
  decide +kernel
-- the old pairs of `sampleUrl`: a=1, b=é, a=%zz
example : queryPairs sampleUrl = [([97], [49]), ([98], [233]), ([97], [37, 122, 122])] := by decide +kernel

example (e : Env) : ∃ v, withQuery e sampleUrl (.mapping sampleItems) = .ok v ∧ queryPairs v = samplePs :=
  C12_url_with_query_mapping e sampleUrl sampleItems samplePs (by decide +kernel) (by decide +kernel) (by decide +kernel)
example (e : Env) : ∃ v, withQuery e sampleUrl (.pairs sampleSingle) = .ok v ∧ queryPairs v = sampleSinglePs :=
  C12_url_with_query_pairs e sampleUrl sampleSingle sampleSinglePs (by decide +kernel) (by decide +kernel) (by decide +kernel) (by decide +kernel)
example (e : Env) : ∃ v, extendQuery e sampleUrl (.mapping sampleItems) = .ok v ∧
    queryPairs v = [([97], [49]), ([98], [233]), ([97], [37, 122, 122])] ++ samplePs := by
  have := C12_url_extend_query e sampleUrl sampleItems samplePs (by decide +kernel) (by decide +kernel) (by decide +kernel)
  rwa [show queryPairs sampleUrl = [([97], [49]), ([98], [233]), ([97], [37, 122, 122])] by decide +kernel] at this
example (e : Env) : ∃ v, updateQuery e sampleUrl (.pairs sampleSingle) = .ok v ∧
    queryPairs v = [([97], []), ([98], [55]), (sampleKey, sampleVal), ([98], [49, 46, 53])] := by
  have := C12_url_update_query_of_good_text e sampleUrl sampleSingle sampleSinglePs (by decide +kernel) (by decide +kernel)
    (by decide +kernel) (by decide +kernel) (by decide +kernel)
  rwa [show mdUpdate (queryPairs sampleUrl) sampleSinglePs =
    [([97], []), ([98], [55]), (sampleKey, sampleVal), ([98], [49, 46, 53])] by decide +kernel] at this
example (e : Env) : ∃ v, withoutQueryParams e sampleUrl [[97], [120]] = .ok v ∧ queryPairs v = [([98], [233])] := by
  have := C12_url_without_query_params_of_good_text e sampleUrl [[97], [120]] (by decide +kernel)
  rwa [show (queryPairs sampleUrl).filter (fun p => ![[97], [120]].contains p.1) = [([98], [233])] by decide +kernel] at this

end Yarl
