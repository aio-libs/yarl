import YarlProofs.C18More3Join
/-!
# C18More3JoinB — non-vacuity and computed examples for C18More3Join.lean (`join` and `human_repr()`)

Both backends, demonstration oracle `HumanReach.demoIdn`.  See the header of C18More3Join.lean.
-/
namespace Yarl
open HumanLemmas HumanFull HumanMore QueryUrl HumanReach R12c

namespace R12c

def demoEnv (b : Backend) : Env := ⟨b, demoIdn⟩

/-- `URL.build(scheme="http", user="us er", host="example.com", path="/a b/c d", query=[("k","v")], fragment="f")`,
    i.e. `http://us er@example.com/a b/c d?k=v#f` -/
def demoBase : BuildArgs :=
  { scheme := "http".toStr, user := some "us er".toStr, host := "example.com".toStr, path := "/a b/c d".toStr,
    query := .pairs (strItems [("k".toStr, "v".toStr)]), fragment := "f".toStr }

/-- the base of RFC 3986 §5.4, `http://a/b/c/d;p?q` (the query as the pair ("q", ""): stored and shown `q=`) -/
def rfcBase : BuildArgs :=
  { scheme := "http".toStr, host := "a".toStr, path := "/b/c/d;p".toStr,
    query := .pairs (strItems [("q".toStr, [])]) }

/-- `URL.build(scheme="http", host="example.com")`: the stored path is "" -/
def bareBase : BuildArgs := { scheme := "http".toStr, host := "example.com".toStr }

/-- the relative reference `URL.build(path=rp, query=kvs, fragment=f)` -/
def relArgs (rp : Str) (kvs : List (Str × Str)) (f : Str) : BuildArgs :=
  { path := rp, query := .pairs (strItems kvs), fragment := f }

/-- build base and reference, join; the five parts of the result `j`, `j.human_repr()`, `URL(j.human_repr()) == j` -/
def joinDemoA (e : Env) (base ref : BuildArgs) : R (Parts × Str × Bool) := do
  let b ← build e base
  let r ← build e ref
  let j := join e b r
  let hr ← humanRepr e j
  let v ← encodeUrl e hr
  pure (j.parts, hr, Url.beq v j)

def joinDemo (e : Env) (base : BuildArgs) (rp : Str) (kvs : List (Str × Str)) (f : Str) : R (Parts × Str × Bool) :=
  joinDemoA e base (relArgs rp kvs f)

/-- `URL.build(scheme="http", host="example.org", path="/p q", query=[("x","y z")])` -/
def orgRef : BuildArgs :=
  { scheme := "http".toStr, host := "example.org".toStr, path := "/p q".toStr,
    query := .pairs (strItems [("x".toStr, "y z".toStr)]) }

def mkP (a b c d f : String) : Parts := ⟨a.toStr, b.toStr, c.toStr, d.toStr, f.toStr⟩

end R12c

/-- (7) base `http://us er@example.com/a b/c d?k=v#f` joined with the relative references "../x y?q=1 2#g h", "/r/./s",
    "", "?z=1", "#frag", "e/f" (each built from DECODED path / pairs / fragment): the five stored parts of the result,
    its `human_repr()`, and `URL(human_repr) == result` -/
theorem C18_join_examples : ∀ b : Backend,
    joinDemo (demoEnv b) demoBase "../x y".toStr [("q".toStr, "1 2".toStr)] "g h".toStr =
      .ok (mkP "http" "us%20er@example.com" "/x%20y" "q=1+2" "g%20h",
        "http://us er@example.com/x y?q=1 2#g h".toStr, true) ∧
    joinDemo (demoEnv b) demoBase "/r/./s".toStr [] [] =
      .ok (mkP "http" "us%20er@example.com" "/r/s" "" "", "http://us er@example.com/r/s".toStr, true) ∧
    joinDemo (demoEnv b) demoBase [] [] [] =
      .ok (mkP "http" "us%20er@example.com" "/a%20b/c%20d" "k=v" "",
        "http://us er@example.com/a b/c d?k=v".toStr, true) ∧
    joinDemo (demoEnv b) demoBase [] [("z".toStr, "1".toStr)] [] =
      .ok (mkP "http" "us%20er@example.com" "/a%20b/c%20d" "z=1" "",
        "http://us er@example.com/a b/c d?z=1".toStr, true) ∧
    joinDemo (demoEnv b) demoBase [] [] "frag".toStr =
      .ok (mkP "http" "us%20er@example.com" "/a%20b/c%20d" "k=v" "frag",
        "http://us er@example.com/a b/c d?k=v#frag".toStr, true) ∧
    joinDemo (demoEnv b) demoBase "e/f".toStr [] [] =
      .ok (mkP "http" "us%20er@example.com" "/a%20b/e/f" "" "", "http://us er@example.com/a b/e/f".toStr, true) := by
  intro b
  simp only [mkP, demoBase]
  str_lits
  cases b <;> refine ⟨?_, ?_, ?_, ?_, ?_, ?_⟩ <;> decide +kernel

/-- (7) the flavour of RFC 3986 §5.4: base `http://a/b/c/d;p?q=` with "../g", "./g/.", "g;x?y=#s", "../../../g" (more
    ".." than segments), "g." and "..g" (a '.' that is no dot segment: the normaliser runs and changes nothing) -/
theorem C18_join_examples_rfc : ∀ b : Backend,
    joinDemo (demoEnv b) rfcBase "../g".toStr [] [] = .ok (mkP "http" "a" "/b/g" "" "", "http://a/b/g".toStr, true) ∧
    joinDemo (demoEnv b) rfcBase "./g/.".toStr [] [] =
      .ok (mkP "http" "a" "/b/c/g/" "" "", "http://a/b/c/g/".toStr, true) ∧
    joinDemo (demoEnv b) rfcBase "g;x".toStr [("y".toStr, [])] "s".toStr =
      .ok (mkP "http" "a" "/b/c/g;x" "y=" "s", "http://a/b/c/g;x?y=#s".toStr, true) ∧
    joinDemo (demoEnv b) rfcBase "../../../g".toStr [] [] = .ok (mkP "http" "a" "/g" "" "", "http://a/g".toStr, true) ∧
    joinDemo (demoEnv b) rfcBase "g.".toStr [] [] = .ok (mkP "http" "a" "/b/c/g." "" "", "http://a/b/c/g.".toStr, true) ∧
    joinDemo (demoEnv b) rfcBase "..g".toStr [] [] =
      .ok (mkP "http" "a" "/b/c/..g" "" "", "http://a/b/c/..g".toStr, true) := by
  intro b
  simp only [mkP, rfcBase]
  str_lits
  cases b <;> refine ⟨?_, ?_, ?_, ?_, ?_, ?_⟩ <;> decide +kernel

/-- (7) corners: a base whose stored path is "" (`URL.build(scheme="http", host="example.com")`): with "" the result's
    path stays "", with "x y" it is "/x y", with ".." it is "/"; an ABSOLUTE reference of another scheme comes back as
    it is, one of the same scheme replaces everything; a base scheme WITHOUT relative resolution ("foo") returns the
    relative reference itself (not an absolute URL) -/
theorem C18_join_examples_corners : ∀ b : Backend,
    joinDemo (demoEnv b) bareBase [] [] [] = .ok (mkP "http" "example.com" "" "" "", "http://example.com/".toStr, true) ∧
    joinDemo (demoEnv b) bareBase "x y".toStr [] [] =
      .ok (mkP "http" "example.com" "/x%20y" "" "", "http://example.com/x y".toStr, true) ∧
    joinDemo (demoEnv b) bareBase "..".toStr [] [] =
      .ok (mkP "http" "example.com" "/" "" "", "http://example.com/".toStr, true) ∧
    joinDemoA (demoEnv b) demoBase { scheme := "https".toStr, host := "example.org".toStr, path := "/p q".toStr } =
      .ok (mkP "https" "example.org" "/p%20q" "" "", "https://example.org/p q".toStr, true) ∧
    joinDemoA (demoEnv b) demoBase orgRef =
      .ok (mkP "http" "example.org" "/p%20q" "x=y+z" "", "http://example.org/p q?x=y z".toStr, true) ∧
    joinDemoA (demoEnv b) { scheme := "foo".toStr, host := "h".toStr, path := "/a".toStr } (relArgs "x".toStr [] []) =
      .ok (mkP "" "" "x" "" "", "x".toStr, true) := by
  intro b
  simp only [mkP, demoBase, bareBase, orgRef]
  str_lits
  cases b <;> refine ⟨?_, ?_, ?_, ?_, ?_, ?_⟩ <;> decide +kernel

namespace R12c

theorem hostKind_org (b : Backend) :
    HostKind (demoEnv b) "example.org".toStr "example.org".toStr "example.org".toStr :=
  .plain (by decide +kernel) (by show demoIdn.idnaDec _ = _; decide +kernel)

/-- `StoresOK` of the demonstration base, from `C18_stores_build` -/
theorem demoBase_ok (b : Backend) : ∃ base, build (demoEnv b) demoBase = .ok base ∧ base.scheme = "http".toStr ∧
    HumanReach (demoEnv b) base ∧
    StoresOK (demoEnv b) base (some "us er".toStr) none "example.com".toStr none "a b/c d".toStr
      [("k".toStr, "v".toStr)] "f".toStr := by
  obtain ⟨base, hb, hsc, ok⟩ := C18_stores_build (demoEnv b) "http".toStr (some "us er".toStr) none
    "example.com".toStr _ _ none "/a b/c d".toStr (.pairs (strItems [("k".toStr, "v".toStr)]))
    [("k".toStr, "v".toStr)] "f".toStr (by decide) (hostKind_example b) (by intro x hx; cases hx)
    (utext_some (by decide)) utext_none (Or.inr ⟨_, rfl, by decide, by decide⟩) (queryArgOf_pairs _ _) (by decide)
    (by decide) (by decide)
  have e1 : dropEmpty (some "us er".toStr) = some "us er".toStr := by decide
  have e2 : effPort (lower "http".toStr) none = none := by decide
  have e3 : pathTail "/a b/c d".toStr = "a b/c d".toStr := by decide +kernel
  rw [e1, e2, e3] at ok
  refine ⟨base, hb, hsc, ?_, ok⟩
  exact .build _ _ _ _ _ _ _ _ _ _ _ base (by decide)
    (hostKind_example b) (by intro x hx; cases hx) (utext_some (by decide)) utext_none
    (Or.inr ⟨_, rfl, by decide, by decide⟩) (queryArgOf_pairs _ _) (by decide) (by decide) (by decide) hb

end R12c

/-- NON-VACUITY of `C18_stores_join_relative`, `C18_relstores_build`, `HumanReachJ.joinRel`, `C18_roundtrip_join`
    (hypotheses discharged by computation): base `http://us er@example.com/a b/c d?k=v#f`, reference built from the
    decoded path "../x y", pairs [("q", "1 2")], fragment "g h".  The result stores user "us er", host example.com, the
    decoded path "/x y" (= `joinTail "a b/c d" "../x y"`), the pairs of the reference, the fragment "g h"; it is in
    `HumanReachJ`; its `human_repr()` is `http://us er@example.com/x y?q=1 2#g h` and — BY THE THEOREM — `URL(…)` of
    it is `==` the result. -/
theorem C18_join_relative_instance : ∀ b : Backend,
    ∃ base ref, build (demoEnv b) demoBase = .ok base ∧
      build (demoEnv b) (relArgs "../x y".toStr [("q".toStr, "1 2".toStr)] "g h".toStr) = .ok ref ∧
      RelStores (demoEnv b) ref "../x y".toStr [("q".toStr, "1 2".toStr)] "g h".toStr ∧
      joinTail "a b/c d".toStr "../x y".toStr = "x y".toStr ∧
      StoresOK (demoEnv b) (join (demoEnv b) base ref) (some "us er".toStr) none "example.com".toStr none "x y".toStr
        [("q".toStr, "1 2".toStr)] "g h".toStr ∧
      HumanReachJ (demoEnv b) (join (demoEnv b) base ref) ∧
      humanRepr (demoEnv b) (join (demoEnv b) base ref) = .ok "http://us er@example.com/x y?q=1 2#g h".toStr ∧
      (∃ v, encodeUrl (demoEnv b) "http://us er@example.com/x y?q=1 2#g h".toStr = .ok v ∧
        Url.beq v (join (demoEnv b) base ref) = true) ∧
      -- … and the chain goes on: a modifier applied to the result of `join` stays in `HumanReachJ`
      ∃ w, applyOp (demoEnv b) (join (demoEnv b) base ref) (HOp.withFragment none).toUOp = .ok w ∧
        HumanReachJ (demoEnv b) w := by
  intro b
  obtain ⟨base, hb, hsc, hreach, ok⟩ := demoBase_ok b
  obtain ⟨ref, hr, rs⟩ := C18_relstores_build (demoEnv b) "../x y".toStr [("q".toStr, "1 2".toStr)] "g h".toStr
    (by decide) (by decide) (by decide) (by decide) (by decide)
  have hr : build (demoEnv b) (relArgs "../x y".toStr [("q".toStr, "1 2".toStr)] "g h".toStr) = .ok ref := hr
  have hrel : Gen.usesRelative.contains base.scheme = true := by rw [hsc]; decide
  have key := C18_stores_join_relative (demoEnv b) base ref _ _ _ _ _ _ _ ok _ _ _ rs hrel
  have e3 : joinTail "a b/c d".toStr "../x y".toStr = "x y".toStr := by decide +kernel
  have e4 : (if "../x y".toStr ≠ [] ∨ [("q".toStr, "1 2".toStr)] ≠ [] then [("q".toStr, "1 2".toStr)]
      else [("k".toStr, "v".toStr)]) = [("q".toStr, "1 2".toStr)] := by decide
  rw [e3, e4] at key
  have hcomp : (do let x ← build (demoEnv b) demoBase
                   let y ← build (demoEnv b) (relArgs "../x y".toStr [("q".toStr, "1 2".toStr)] "g h".toStr)
                   humanRepr (demoEnv b) (join (demoEnv b) x y) : R Str) =
      .ok "http://us er@example.com/x y?q=1 2#g h".toStr := by
    simp only [demoBase]
    str_lits
    cases b <;> decide +kernel
  rw [hb, hr] at hcomp
  have hh : humanRepr (demoEnv b) (join (demoEnv b) base ref) = .ok "http://us er@example.com/x y?q=1 2#g h".toStr :=
    hcomp
  have hJ : HumanReachJ (demoEnv b) (join (demoEnv b) base ref) :=
    .joinRel base ref _ _ _ (.reachC _ (.reach _ hreach)) hrel rs
  refine ⟨base, ref, hb, hr, rs, e3, key, hJ, hh, ?_, ?_⟩
  rotate_left
  · exact ⟨_, rfl, .step _ (.withFragment none) _ hJ utext_none rfl⟩
  exact C18_roundtrip_join (demoEnv b) base ref (Or.inr ⟨⟨_, _, _, _, _, _, _, ok⟩, hrel, Or.inl ⟨_, _, _, rs⟩⟩) _ hh
    (fun h => absurd h (by str_lits; decide +kernel))

/-- NON-VACUITY of `C18_stores_join_absolute` and `HumanReachJ.joinAbs`: the reference
    `URL.build(scheme="http", host="example.org", path="/p q", query=[("x","y z")])` joined to ANY base -/
theorem C18_join_absolute_instance : ∀ b : Backend, ∀ base : Url,
    ∃ ref, build (demoEnv b) orgRef = .ok ref ∧
      StoresOK (demoEnv b) (join (demoEnv b) base ref) none none "example.org".toStr none "p q".toStr
        [("x".toStr, "y z".toStr)] [] ∧
      (join (demoEnv b) base ref).parts = mkP "http" "example.org" "/p%20q" "x=y+z" "" ∧
      HumanReachJ (demoEnv b) (join (demoEnv b) base ref) := by
  intro b base
  have hbuild := C18_stores_build (demoEnv b) "http".toStr none none
    "example.org".toStr _ _ none "/p q".toStr (.pairs (strItems [("x".toStr, "y z".toStr)]))
    [("x".toStr, "y z".toStr)] [] (by decide) (hostKind_org b) (by intro x hx; cases hx)
    utext_none utext_none (Or.inr ⟨_, rfl, by decide, by decide⟩) (queryArgOf_pairs _ _) (by decide)
    (by decide) (by decide)
  obtain ⟨ref, hr, hsc, ok⟩ := hbuild
  have e1 : dropEmpty (none : Option Str) = none := by decide
  have e2 : effPort (lower "http".toStr) none = none := by decide
  have e3 : pathTail "/p q".toStr = "p q".toStr := by decide +kernel
  rw [e1, e2, e3] at ok
  obtain ⟨ok', hparts, _, _⟩ := C18_stores_join_absolute (demoEnv b) base ref _ _ _ _ _ _ _ ok
  have hreach : HumanReach (demoEnv b) ref :=
    .build _ _ _ _ _ _ _ _ _ _ _ ref (by decide)
      (hostKind_org b) (by intro x hx; cases hx) utext_none utext_none
      (Or.inr ⟨_, rfl, by decide, by decide⟩) (queryArgOf_pairs _ _) (by decide) (by decide) (by decide) hr
  have hr : build (demoEnv b) orgRef = .ok ref := hr
  have hp : (build (demoEnv b) orgRef).map Url.parts =
      .ok (mkP "http" "example.org" "/p%20q" "x=y+z" "") := by
    simp only [orgRef, mkP]
    str_lits
    cases b <;> decide +kernel
  rw [hr] at hp
  refine ⟨ref, hr, ok', ?_, .joinAbs base ref (.reachC _ (.reach _ hreach))⟩
  rw [hparts]
  exact ok_inj hp

/-- NON-VACUITY of `C18_stores_join_netpath` / `HumanReachJ.joinNet`: the network-path reference `//example.org/x y?q=1` (an object with an
    authority but no scheme) joined to the demonstration base takes the base's scheme -/
theorem C18_join_netpath_instance : ∀ b : Backend,
    ∃ base, build (demoEnv b) demoBase = .ok base ∧
      let ref := fromParts [] "example.org".toStr "/x%20y".toStr "q=1".toStr []
      (join (demoEnv b) base ref).parts = mkP "http" "example.org" "/x%20y" "q=1" "" ∧
      StoresOK (demoEnv b) (join (demoEnv b) base ref) none none "example.org".toStr none "x y".toStr
        [("q".toStr, "1".toStr)] [] ∧
      HumanReachJ (demoEnv b) (join (demoEnv b) base ref) := by
  intro b
  obtain ⟨base, hb, hsc, hreach, ok⟩ := demoBase_ok b
  have hrel : Gen.usesRelative.contains base.scheme = true := by rw [hsc]; decide
  have st : Stores (demoEnv b) (fromParts [] "example.org".toStr "/x%20y".toStr "q=1".toStr []) none none
      "example.org".toStr none "x y".toStr [("q".toStr, "1".toStr)] [] :=
    ⟨rfl, fun pr h => (by cases h), Or.inl (by cases b <;> decide +kernel), by cases b <;> decide +kernel,
      rfl⟩
  have nr : NetRefOK (demoEnv b) (fromParts [] "example.org".toStr "/x%20y".toStr "q=1".toStr []) none none
      "example.org".toStr none "x y".toStr [("q".toStr, "1".toStr)] [] :=
    ⟨rfl, st, ⟨_, _, hostKind_org b⟩, (by intro x hx; cases hx), utext_none, (by intro s hs; cases hs), utext_none,
      (by decide), (by decide), (by decide +kernel), (by decide), (by decide), (by decide)⟩
  obtain ⟨hj, ok'⟩ := C18_stores_join_netpath (demoEnv b) base _ _ _ _ _ _ _ _ ok.vs hrel nr
  refine ⟨base, hb, ?_, ok', .joinNet base _ _ _ _ _ _ _ _ (.reachC _ (.reach _ hreach)) hrel nr⟩
  rw [hj, hsc]
  rfl

/-- NON-VACUITY of `C18_relstores_constructor_first_segment`: `URL("../x%20y?q=1+2#g%20h")` is the relative reference
    storing the decoded path "../x y", pairs [("q","1 2")], fragment "g h"; and the side condition is NEEDED: for the
    decoded path "a:b" the text "a:b" is read as scheme "a", path "b" -/
theorem C18_relstores_constructor_instance : ∀ b : Backend,
    unsplitResult [] [] (q (demoEnv b) Gen.PATH_QUOTER "../x y".toStr) (qtext b [("q".toStr, "1 2".toStr)])
      (fragText (demoEnv b) "g h".toStr) = "../x%20y?q=1+2#g%20h".toStr ∧
    (∃ r, encodeUrl (demoEnv b) "../x%20y?q=1+2#g%20h".toStr = .ok r ∧
      RelStores (demoEnv b) r "../x y".toStr [("q".toStr, "1 2".toStr)] "g h".toStr) ∧
    unsplitResult [] [] (q (demoEnv b) Gen.PATH_QUOTER "a:b".toStr) (qtext b []) (fragText (demoEnv b) []) = "a:b".toStr ∧
    (encodeUrl (demoEnv b) "a:b".toStr).map Url.parts = .ok (mkP "a" "" "b" "" "") := by
  intro b
  have h1 : unsplitResult [] [] (q (demoEnv b) Gen.PATH_QUOTER "../x y".toStr) (qtext b [("q".toStr, "1 2".toStr)])
      (fragText (demoEnv b) "g h".toStr) = "../x%20y?q=1+2#g%20h".toStr := by
    str_lits
    cases b <;> decide +kernel
  refine ⟨h1, ?_, by cases b <;> decide +kernel, by cases b <;> decide +kernel⟩
  obtain ⟨r, hr, _, rs⟩ := C18_relstores_constructor_first_segment (demoEnv b) "../x y".toStr
    [("q".toStr, "1 2".toStr)] "g h".toStr (by decide) (by decide) (by decide) (by decide) (by decide) (by decide)
  exact ⟨r, h1 ▸ hr, rs⟩

/-- NON-VACUITY of `C18_join_relative_passthrough`: "foo" has no relative resolution -/
example : Gen.usesRelative.contains "foo".toStr = false := by decide

end Yarl
