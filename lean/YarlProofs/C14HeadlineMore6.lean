import YarlProofs.C14Headline
import YarlProofs.C14HeadlineMore3
import YarlProofs.C14Rootless
/-!
# C14 — join() is RFC 3986 section 5.2 reference resolution   (audit layer, sixth part)

Continuation of `C14Headline.lean` / `C14HeadlineMore3.lean`: headline theorems for the proof module added after the last
refresh, `C14Rootless.lean` (over `C15More2.lean`, `C14More.lean`, `Lemmas/MeanMore.lean`).  This file is a leaf, nobody
imports it.  It closes GAPS item 7 of `C14Headline.lean` ("STILL OPEN: no comparison with `Rfc.resolve` (no iff, no "differs
by …" statement) for this shape; references with an empty or rooted path or their own authority against such a base are
not stated in any headline theorem") and the last paragraph of GAPS item 6 of `C15Headline.lean` ("STILL OPEN (both inside
case (a) …): with a base path ending in '/' the relation of `normalize_path(base.path + ref.path)` to §5.2.4 is shown on
instances only …; a ROOTED reference path against such a base has no theorem").

Property statement (verbatim):

> For a base URL whose scheme supports relative resolution and any reference, base.join(ref) has exactly
> the components computed by the RFC 3986 5.2.2 algorithm (non-strict: a reference carrying the base's
> own scheme is treated as relative) applied to the encoded components, including dot-segment removal,
> inheriting the query only when the reference path is empty, and always taking the fragment from the
> reference. A reference with a different scheme, or a base whose scheme does not support relative
> resolution, yields the reference unchanged.

What is here.  The base shape every earlier theorem excludes: a base WITH an authority and a ROOTLESS non-empty path
(`URL.build(scheme="http", host="h", path="x/y", encoded=True)` or hand-made parts).  By the kind of reference:
 * (a) ROOTED reference path — `C14_headline_rootless_base_rooted_ref`: `join` IS `Rfc.resolve`, NO hypothesis on the base
   (C15Headline.lean GAPS 6, "a ROOTED reference path against such a base has no theorem").
 * (b) EMPTY reference path — `C14_headline_rootless_base_empty_ref`, `…_empty_ref_cases`: `join` IS `Rfc.resolve` ("inheriting
   the query only when the reference path is empty, and always taking the fragment from the reference"); the base path is
   kept VERBATIM (rootless stays rootless).  NO hypothesis on the base.
 * (c) reference with its OWN AUTHORITY — `C14_headline_rootless_base_own_authority`: `join` is `Rfc.resolve` IF AND ONLY IF
   §5.2.4 leaves the reference path unchanged; when it fails the two differ in the path only;
   `…_own_authority_clean`: implied by "empty, or rooted without dot segment".  NO hypothesis on the base.
 * (d) RELATIVE-PATH reference — `C14_headline_rootless_base_relative_ref_vs_rfc`: all components but the path are the RFC's,
   the comparison is a comparison of two paths; `…_vs_rfc_slash` (base path ends with '/'): RFC path = join path with ONE
   '/' in front exactly when `C14_pathEscapes (base.path ++ ref.path)`, equal IFF it is false (C15Headline.lean GAPS 6, "the
   general relation … is proved for a base WITHOUT authority" — now also here); `…_vs_rfc_noslash` (otherwise): both
   paths in closed form through the stack algorithm, the first character of the base path is "eaten";
   `…_vs_rfc_nodots`: with no '.' in either path, `join` = `Rfc.resolve` IFF the base path ends with '/';
   `…_vs_rfc_witnesses`: computed witnesses in both directions, both sub-cases.
 The clause "has exactly the components computed by the RFC 3986 5.2.2 algorithm" stays FALSE for this shape in case (d)
 (and in (c) for a reference path with dot segments): these theorems say exactly when, and by what the paths differ.

Vocabulary (as in `C14Headline.lean` / `C14HeadlineMore3.lean`).
`p5 u`                    — the five encoded components of `u` (`Rfc.Parts5`: scheme, authority, path, query, fragment).
`Rfc.resolve B R`         — RFC 3986 §5.2.2 (non-strict) on five components; `Rfc.removeDotSegments` — §5.2.4.
`join e base ref`         — `base.join(ref)` (does not use its backend / oracles: `e` is arbitrary).
`joinPath base ref`       — the path `join` stores for a reference without authority (JoinLemmas).
`target base ref`         — the §5.2.3 merged path for this base: `base.path` up to its last '/' followed by `ref.path`.
`Gen.usesRelative`        — `urllib.parse.uses_relative` as generated from the Python sources.
`normalizePath` / `normalizePathSegments` — `yarl._path.normalize_path` / `normalize_path_segments` (the stack algorithm).
`C14_pathEscapes p` / `C14_escapes segs` — a ".." pops the first segment that reached the output (C14More.lean).
`NoDotSegments p`         — no "." / ".." segment in `p`;  `splitOn 47` / `joinC 47` — `.split('/')` / `'/'.join`.
`fromParts s n p q f`     — the URL with these five stored parts (hand-made / `build(…, encoded=True)`).
47 = '/', 46 = '.', 120 = 'x'.
-/
namespace Yarl
open Yarl.PathLemmas Yarl.JoinLemmas Yarl.DotMore Yarl.PathAlg

/-! ## (a) rooted reference path -/

/-- "base.join(ref) has exactly the components computed by the RFC 3986 5.2.2 algorithm … including dot-segment removal",
    for a reference without (other) scheme and without authority whose path is ROOTED: `join` is EXACTLY §5.2.2 — scheme and
    authority of the base, path = remove_dot_segments(ref.path), query and fragment of the reference.  NO hypothesis on the
    base: in particular a base with an authority and a rootless non-empty path (the shape
    `C14_headline_join_rfc_ref_not_merged` excludes).  No deviation.  Cites C14_rootless_base_rooted_ref. -/
theorem C14_headline_rootless_base_rooted_ref (e : Env) (base ref : Url)
    (hrel : Gen.usesRelative.contains base.scheme = true)
    (hsch : ref.scheme = [] ∨ ref.scheme = base.scheme)
    (hrn : ref.netloc = [])                       -- no authority
    (hr : ref.path.head? = some 47) :             -- rooted path
    p5 (join e base ref) = Rfc.resolve (p5 base) (p5 ref) ∧
    p5 (join e base ref) =
      { scheme := base.scheme, authority := base.netloc, path := Rfc.removeDotSegments ref.path,
        query := ref.query, fragment := ref.fragment } :=
  C14_rootless_base_rooted_ref e base ref hrel hsch hrn hr

/-! ## (b) empty reference path -/

/-- "inheriting the query only when the reference path is empty, and always taking the fragment from the reference", for a
    reference without (other) scheme, without authority and with an EMPTY path (`?q`, `?q#f`, `#f`, ``): `join` is EXACTLY
    §5.2.2 — scheme, authority and path of the base VERBATIM (a rootless base path stays rootless, dot segments stay), the
    query of the reference if it has one, else that of the base, the fragment of the reference.  NO hypothesis on the base.
    No deviation.  Cites C14_rootless_base_empty_ref. -/
theorem C14_headline_rootless_base_empty_ref (e : Env) (base ref : Url)
    (hrel : Gen.usesRelative.contains base.scheme = true)
    (hsch : ref.scheme = [] ∨ ref.scheme = base.scheme)
    (hrn : ref.netloc = [])                       -- no authority
    (hp : ref.path = []) :                        -- empty path
    p5 (join e base ref) = Rfc.resolve (p5 base) (p5 ref) ∧
    p5 (join e base ref) =
      { scheme := base.scheme, authority := base.netloc, path := base.path,
        query := if ref.query ≠ [] then ref.query else base.query, fragment := ref.fragment } :=
  C14_rootless_base_empty_ref e base ref hrel hsch hrn hp

/-- … the sub-cases written out: query present / fragment only / completely empty.
    Cites C14_rootless_base_empty_ref_cases. -/
theorem C14_headline_rootless_base_empty_ref_cases (e : Env) (base ref : Url)
    (hrel : Gen.usesRelative.contains base.scheme = true)
    (hsch : ref.scheme = [] ∨ ref.scheme = base.scheme)
    (hrn : ref.netloc = []) (hp : ref.path = []) :
    (join e base ref).path = base.path ∧ (join e base ref).netloc = base.netloc ∧
    (join e base ref).fragment = ref.fragment ∧
    (ref.query ≠ [] → (join e base ref).query = ref.query) ∧
    (ref.query = [] → (join e base ref).query = base.query) ∧
    (ref.query = [] → ref.fragment = [] →
      p5 (join e base ref) = { p5 base with fragment := [] }) :=
  C14_rootless_base_empty_ref_cases e base ref hrel hsch hrn hp

/-! ## (c) reference with its own authority -/

/-- a reference with its OWN authority (scheme empty or the base's): returned with the base scheme and otherwise AS IT IS;
    this is RFC 3986 §5.2.2 IF AND ONLY IF §5.2.4 leaves the reference path unchanged (the RFC removes the dot segments of
    the reference path, `join` does not).  NO hypothesis on the base.  When it fails, the two differ in the path only.
    Cites C14_rootless_base_own_authority. -/
theorem C14_headline_rootless_base_own_authority (e : Env) (base ref : Url)
    (hrel : Gen.usesRelative.contains base.scheme = true)
    (hsch : ref.scheme = [] ∨ ref.scheme = base.scheme)
    (hrn : ref.netloc ≠ []) :                     -- own authority
    p5 (join e base ref) =
      { scheme := base.scheme, authority := ref.netloc, path := ref.path, query := ref.query, fragment := ref.fragment } ∧
    Rfc.resolve (p5 base) (p5 ref) = { p5 (join e base ref) with path := Rfc.removeDotSegments ref.path } ∧
    (p5 (join e base ref) = Rfc.resolve (p5 base) (p5 ref) ↔ Rfc.removeDotSegments ref.path = ref.path) :=
  C14_rootless_base_own_authority e base ref hrel hsch hrn

/-- … for a reference path that is empty, or rooted without dot segment (every reference made by the auto-encoding API
    with an authority is of this kind: `C15_headline_reachable`), `join` IS §5.2.2.
    Cites C14_rootless_base_own_authority_clean. -/
theorem C14_headline_rootless_base_own_authority_clean (e : Env) (base ref : Url)
    (hrel : Gen.usesRelative.contains base.scheme = true)
    (hsch : ref.scheme = [] ∨ ref.scheme = base.scheme)
    (hrn : ref.netloc ≠ [])
    (hclean : ref.path = [] ∨ (ref.path.head? = some 47 ∧ NoDotSegments ref.path)) :
    p5 (join e base ref) = Rfc.resolve (p5 base) (p5 ref) :=
  C14_rootless_base_own_authority_clean e base ref hrel hsch hrn hclean

/-! ## (d) relative-path reference: exact comparison with `Rfc.resolve` -/

/-- all components: for a base WITH an authority and a ROOTLESS non-empty path and a relative-path reference, scheme,
    authority, query and fragment of `join` are the RFC's; the whole comparison is a comparison of the two paths
    `joinPath base ref` (`= (join e base ref).path`) and §5.2.4 of the §5.2.3 merged path (`target base ref`, which is
    `base.path` up to its last '/' followed by `ref.path`, non-rooted).  Cites C14_rootless_base_relative_ref_vs_rfc. -/
theorem C14_headline_rootless_base_relative_ref_vs_rfc (e : Env) (base ref : Url) (c : Nat) (rest : Str)
    (hrel : Gen.usesRelative.contains base.scheme = true)
    (hsch : ref.scheme = [] ∨ ref.scheme = base.scheme)
    (_hn : base.netloc ≠ [])                                -- base WITH an authority …
    (hbp : base.path = c :: rest) (hc : c ≠ 47)             -- … and a rootless non-empty path
    (hrn : ref.netloc = [])                                 -- relative-path reference: no authority,
    (hp : ref.path ≠ []) (hr : ref.path.head? ≠ some 47) :  -- a non-empty rootless path
    (join e base ref).path = joinPath base ref ∧
    p5 (join e base ref) = { Rfc.resolve (p5 base) (p5 ref) with path := (join e base ref).path } ∧
    (Rfc.resolve (p5 base) (p5 ref)).path = Rfc.removeDotSegments (target base ref) ∧
    target base ref = (base.path.reverse.dropWhile (· ≠ 47)).reverse ++ ref.path ∧
    (target base ref).head? ≠ some 47 ∧
    (p5 (join e base ref) = Rfc.resolve (p5 base) (p5 ref) ↔
      (join e base ref).path = Rfc.removeDotSegments (target base ref)) :=
  C14_rootless_base_relative_ref_vs_rfc e base ref c rest hrel hsch _hn hbp hc hrn hp hr

/-- base path ENDING WITH '/' (`x/y/`): the code's merged path IS the RFC's (`base.path ++ ref.path`), but it is
    normalised as a RELATIVE path.  RFC path = join path, with ONE '/' in front exactly when
    `C14_pathEscapes (base.path ++ ref.path)`; `join` equals `Rfc.resolve` on all five components IF AND ONLY IF it is
    false.  (Same deviation as for a base without authority, `C14_headline_join_rfc_iff`.)
    Cites C14_rootless_base_relative_ref_vs_rfc_slash. -/
theorem C14_headline_rootless_base_relative_ref_vs_rfc_slash (e : Env) (base ref : Url) (c : Nat) (rest : Str)
    (hrel : Gen.usesRelative.contains base.scheme = true)
    (hsch : ref.scheme = [] ∨ ref.scheme = base.scheme)
    (hn : base.netloc ≠ []) (hbp : base.path = c :: rest) (hc : c ≠ 47)
    (hrn : ref.netloc = []) (hp : ref.path ≠ []) (hr : ref.path.head? ≠ some 47)
    (hl : base.path.getLast? = some 47) :                   -- the base path ends with '/'
    (join e base ref).path = normalizePath (base.path ++ ref.path) ∧
    (Rfc.resolve (p5 base) (p5 ref)).path
      = (if C14_pathEscapes (base.path ++ ref.path) then [47] else []) ++ (join e base ref).path ∧
    Rfc.resolve (p5 base) (p5 ref)
      = { p5 (join e base ref) with
          path := (if C14_pathEscapes (base.path ++ ref.path) then [47] else []) ++ (join e base ref).path } ∧
    (p5 (join e base ref) = Rfc.resolve (p5 base) (p5 ref) ↔ C14_pathEscapes (base.path ++ ref.path) = false) :=
  C14_rootless_base_relative_ref_vs_rfc_slash e base ref c rest hrel hsch hn hbp hc hrn hp hr hl

/-- base path NOT ending with '/' (`x/y`): both paths through the stack algorithm of `yarl._path` on explicit segment
    lists.  With `S = base.path[1:].split('/')`:
      code:  '/' + '/'.join(stack([""] ++ S[:-1] ++ ref.path.split('/')))
      RFC :  ['/' if escapes] + '/'.join(stack(B[:-1] ++ ref.path.split('/'))),  B = base.path.split('/')
    — `B` is `S` with the first character `c` of the base path put back in front of its first segment: `raw_parts` eats
    `c` as if it were the root '/'.  The code's path is always rooted.
    Cites C14_rootless_base_relative_ref_vs_rfc_noslash. -/
theorem C14_headline_rootless_base_relative_ref_vs_rfc_noslash (e : Env) (base ref : Url) (c : Nat) (rest : Str)
    (hrel : Gen.usesRelative.contains base.scheme = true)
    (hsch : ref.scheme = [] ∨ ref.scheme = base.scheme)
    (hn : base.netloc ≠ []) (hbp : base.path = c :: rest) (hc : c ≠ 47)
    (hrn : ref.netloc = []) (hp : ref.path ≠ []) (hr : ref.path.head? ≠ some 47)
    (hl : base.path.getLast? ≠ some 47) :                   -- the base path does not end with '/'
    (join e base ref).path
      = 47 :: joinC 47 (normalizePathSegments ([] :: ((splitOn 47 rest).dropLast ++ splitOn 47 ref.path))) ∧
    (Rfc.resolve (p5 base) (p5 ref)).path
      = (if C14_escapes ((splitOn 47 base.path).dropLast ++ splitOn 47 ref.path) then [47] else []) ++
          joinC 47 (normalizePathSegments ((splitOn 47 base.path).dropLast ++ splitOn 47 ref.path)) ∧
    splitOn 47 base.path = (c :: (splitOn 47 rest).headD []) :: (splitOn 47 rest).tail ∧
    -- the code's path is always rooted; so equality forces the RFC's path to be rooted although its input is not
    (join e base ref).path.head? = some 47 :=
  C14_rootless_base_relative_ref_vs_rfc_noslash e base ref c rest hrel hsch hn hbp hc hrn hp hr hl

/-- NO '.' in either path (no dot segment can occur): `join` equals `Rfc.resolve` IF AND ONLY IF the base path ends with
    '/'.  Otherwise the code's path is "//" + base.path[1:]-up-to-its-last-'/' + ref.path, the RFC's is
    base.path-up-to-its-last-'/' + ref.path, which does not start with '/'.
    Cites C14_rootless_base_relative_ref_vs_rfc_nodots. -/
theorem C14_headline_rootless_base_relative_ref_vs_rfc_nodots (e : Env) (base ref : Url) (c : Nat) (rest : Str)
    (hrel : Gen.usesRelative.contains base.scheme = true)
    (hsch : ref.scheme = [] ∨ ref.scheme = base.scheme)
    (hn : base.netloc ≠ []) (hbp : base.path = c :: rest) (hc : c ≠ 47)
    (hrn : ref.netloc = []) (hp : ref.path ≠ []) (hr : ref.path.head? ≠ some 47)
    (hnodot : 46 ∉ base.path ∧ 46 ∉ ref.path) :
    (p5 (join e base ref) = Rfc.resolve (p5 base) (p5 ref) ↔ base.path.getLast? = some 47) ∧
    (base.path.getLast? ≠ some 47 →
      (join e base ref).path = 47 :: 47 :: (rest.reverse.dropWhile (· ≠ 47)).reverse ++ ref.path ∧
      (Rfc.resolve (p5 base) (p5 ref)).path = (base.path.reverse.dropWhile (· ≠ 47)).reverse ++ ref.path) :=
  C14_rootless_base_relative_ref_vs_rfc_nodots e base ref c rest hrel hsch hn hbp hc hrn hp hr hnodot

/-! ## witnesses -/

/-- witnesses in BOTH directions, both sub-cases (`join` does not use its backend; `e` is arbitrary).  Python:
    `b = URL.build(scheme="http", host="h", path="x/y", query_string="bq", encoded=True)`, `b2` with path "x/y/", `b1`
    with path "x":
      b.join(URL("c"))            path "///c"   RFC "x/c"    (differs)
      b1.join(URL("a/../../c"))   path "/c"     RFC "/c"     (COINCIDES although the base path does not end with '/')
      b1.join(URL("c"))           path "//c"    RFC "c"      (differs)
      b2.join(URL("../c"))        path "x/c"    RFC "x/c"    (coincides)
      b2.join(URL("../../c"))     path "c"      RFC "/c"     (differs by the leading '/')
    (`bx p` = `fromParts "http" "h" p "bq" ""`, `rr p q f` = `fromParts "" "" p q f`: the private abbreviations of
    C14Rootless.lean, written out.)  Cites C14_rootless_base_relative_ref_vs_rfc_witnesses. -/
theorem C14_headline_rootless_base_relative_ref_vs_rfc_witnesses (e : Env) :
    let bx := fun (p : String) => fromParts "http".toStr "h".toStr p.toStr "bq".toStr []
    let rr := fun (p q f : String) => fromParts [] [] p.toStr q.toStr f.toStr
    ((join e (bx "x/y") (rr "c" "" "")).path = "///c".toStr ∧
      (Rfc.resolve (p5 (bx "x/y")) (p5 (rr "c" "" ""))).path = "x/c".toStr ∧
      p5 (join e (bx "x/y") (rr "c" "" "")) ≠ Rfc.resolve (p5 (bx "x/y")) (p5 (rr "c" "" ""))) ∧
    ((join e (bx "x") (rr "a/../../c" "" "")).path = "/c".toStr ∧
      p5 (join e (bx "x") (rr "a/../../c" "" "")) = Rfc.resolve (p5 (bx "x")) (p5 (rr "a/../../c" "" ""))) ∧
    ((join e (bx "x") (rr "c" "" "")).path = "//c".toStr ∧
      (Rfc.resolve (p5 (bx "x")) (p5 (rr "c" "" ""))).path = "c".toStr) ∧
    ((join e (bx "x/y/") (rr "../c" "" "")).path = "x/c".toStr ∧
      p5 (join e (bx "x/y/") (rr "../c" "" "")) = Rfc.resolve (p5 (bx "x/y/")) (p5 (rr "../c" "" ""))) ∧
    ((join e (bx "x/y/") (rr "../../c" "" "")).path = "c".toStr ∧
      (Rfc.resolve (p5 (bx "x/y/")) (p5 (rr "../../c" "" ""))).path = "/c".toStr ∧
      p5 (join e (bx "x/y/") (rr "../../c" "" "")) ≠ Rfc.resolve (p5 (bx "x/y/")) (p5 (rr "../../c" "" ""))) :=
  C14_rootless_base_relative_ref_vs_rfc_witnesses e

/-- the hypotheses of the shape hold for the witness base `b` (non-vacuity of (d)) -/
example : (fromParts "http".toStr "h".toStr "x/y".toStr "bq".toStr []).netloc ≠ [] ∧
    (fromParts "http".toStr "h".toStr "x/y".toStr "bq".toStr []).path = 120 :: "/y".toStr ∧ (120 : Nat) ≠ 47 ∧
    Gen.usesRelative.contains (fromParts "http".toStr "h".toStr "x/y".toStr "bq".toStr []).scheme = true := by str_lits; decide +kernel

end Yarl
