import YarlProofs.C01Headline
import YarlProofs.C01HeadlineMore
import YarlProofs.C01ReachE
/-!
  C01HeadlineMore3.lean — AUDIT LAYER for property C01, second continuation of C01Headline.lean (the theorems here need
  ReachE.lean / C01ReachE.lean, which import C01HeadlineMore.lean; this file is a leaf, nobody imports it).

  C01 | Canonical output is well-formed ASCII in every component |
  "For every text accepted by the URL constructor in auto-encoding mode, or supplied to any builder or
  modifier (build, with_*, /, joinpath, join, the query operations), the resulting URL's string form is
  pure ASCII, every '%' in it starts an escape of two uppercase hex digits, and its user, password, path,
  query and fragment contain only the characters RFC 3986 allows for that component. Consequently
  bytes(url) never fails and raw spaces, control characters, quotes, '<>\^`{|}', non-ASCII characters and
  lone surrogates never appear outside the host."

  What is here: GAPS 5 of C01Headline.lean (the domain).  `Reach` / `ReachS` contain the AUTO-ENCODING entry points
  only.  The property's wording excludes `encoded=True` from the constructor ("in auto-encoding mode") but not
  expressly from `build`, `with_path` and `joinpath`, which also take `encoded=True`.  C01ReachE.lean states what
  becomes of C01 over the closure of ALL entry points: the clause "pure ASCII / bytes(url) never fails" is FALSE there
  (witnesses, one per `encoded=True` entry point), TRUE when every text handed over with `encoded=True` is ASCII, and
  the clauses "every '%' starts an escape" / "only the characters RFC 3986 allows" are lost with `encoded=True` even
  for ASCII texts.

  Vocabulary (ReachE.lean; `ReachS`, `ZoneAscii`, `ArgsAsciiScheme`, `HostOracleAscii`, `AsciiNet`: header of
  C01HeadlineMore.lean).
   * `ReachE e u` — the closure of: `URL(s)` and `URL(s, encoded=True)` (`preEncodedUrl`), `build` in both modes (all
     texts Python strings, `BuildAllPy`), the 18 operations of `UOp` other than the model artefact `UOp.joinRef`
     (Python-string arguments), `with_path(p, encoded=True)`, `joinpath(*paths, encoded=True)`, and `join` of two
     `ReachE` URLs.  No other modifier of the model has an `encoded` flag.
   * `ReachEX A Z Sc e u` — the same closure with side conditions on the INPUTS: `A` on every text handed over with
     `encoded=True` (the string of `URL(s, encoded=True)`; scheme, authority, user, password, host, path, query_string,
     fragment of `build(encoded=True)`; the path of `with_path(…, encoded=True)`; every path of
     `joinpath(…, encoded=True)`), `Z` and `Sc` as in `ReachS`.  `ReachE e u ↔ ReachEX ⊤ ⊤ ⊤ e u`.
   * `Ascii s` := `∀ c ∈ s, c < 128`.
-/
namespace Yarl
open StrAscii OutLangLemmas QsLemmas WfLemmas EntryLemmas R6

/-! ## Clause 0 — the domain, ALL entry points (GAPS 5 of C01Headline.lean) -/

/-- `ReachE` is `ReachEX` without side conditions, and the side conditions only restrict it: every URL the theorems
    below speak about is obtainable through the entry points listed in the header.
    Cites reachE_iff_reachEX, ReachEX.toReachE (ReachE.lean). -/
theorem C01_headline_all_entry_points_domain (e : Env) (u : Url) :
    (ReachE e u ↔ ReachEX (fun _ => True) (fun _ => True) (fun _ => True) e u) ∧
    (∀ A Z Sc : Str → Prop, ReachEX A Z Sc e u → ReachE e u) :=
  ⟨reachE_iff_reachEX e u, fun _ _ _ h => h.toReachE⟩

/-- what `encoded=True` can NOT be blamed for is nothing: EVERY record without cache whose five components are Python
    strings is obtainable (`URL.build(scheme=, authority=, path=, query_string=, fragment=, encoded=True)` stores its
    arguments verbatim).  So a theorem over `ReachE` is a theorem about arbitrary stored text, and C01 can hold there
    only under hypotheses on the `encoded=True` inputs.  Cites reachE_of_record (ReachE.lean). -/
theorem C01_headline_all_entry_points_any_record (e : Env) (s n p q f : Str)
    (hs : PyStr s) (hn : PyStr n) (hp : PyStr p) (hq : PyStr q) (hf : PyStr f) :   -- five Python strings
    ReachE e (fromParts s n p q f) :=
  reachE_of_record e s n p q f hs hn hp hq hf

/-! ## Clause 1 — "the resulting URL's string form is pure ASCII … Consequently bytes(url) never fails", over ALL
    entry points -/

/-- FALSE over all entry points: each of the four `encoded=True` entry points stores a non-ASCII text verbatim and prints
    it.  Python: `str(URL('/é', encoded=True)) == '/é'`; `str(URL.build(path='/é', encoded=True)) == '/é'`;
    `str(URL('http://h/').with_path('/é', encoded=True)) == 'http://h/é'`;
    `str(URL('http://h/').joinpath('é', encoded=True)) == 'http://h/é'`; `bytes()` of each raises UnicodeEncodeError.
    (By design: `encoded=True` means "trust the caller"; KNOWN FINDING F-C19-encoded-str is the same root.)
    Cites C01_reachE_str_ascii_fails_for_encoded. -/
theorem C01_headline_str_ascii_fails_for_encoded_true :
    let e0 : Env := ⟨.py, Oracles.empty⟩
    let hU : Url := { scheme := "http".toStr, netloc := "h".toStr, path := "/".toStr, query := [], fragment := [],
                      pre := some { rawHost := some "h".toStr, explicitPort := none, rawUser := none, rawPassword := none } }
    (∃ u, preEncodedUrl e0 [47, 233] = .ok u ∧ ReachE e0 u ∧ str e0 u = .ok [47, 233]) ∧
    (∃ u, build e0 { path := [47, 233], encoded := true } = .ok u ∧ ReachE e0 u ∧ str e0 u = .ok [47, 233]) ∧
    (encodeUrl e0 "http://h/".toStr = .ok hU ∧ ReachE e0 (withPath e0 hU [47, 233] true false false) ∧
      str e0 (withPath e0 hU [47, 233] true false false) = .ok ("http://h/".toStr ++ [233])) ∧
    (∃ v, makeChild e0 hU [[233]] true = .ok v ∧ ReachE e0 v ∧ str e0 v = .ok ("http://h/".toStr ++ [233])) ∧
    ¬ (∀ c ∈ ([47, 233] : Str), c < 128) :=
  C01_reachE_str_ascii_fails_for_encoded

/-- UNCONDITIONALLY, over all entry points: path, query and fragment are Python strings (code points ≤ 0x10FFFF) —
    the only guarantee left without a hypothesis on the `encoded=True` texts.  Cites C01_reachE_components_python. -/
theorem C01_headline_all_entry_points_components_python (e : Env) (u : Url) (h : ReachE e u) :
    PyStr u.path ∧ PyStr u.query ∧ PyStr u.fragment :=
  C01_reachE_components_python e u h

/-- "path, query and fragment are ASCII" over all entry points, the hypothesis on the INPUTS: every text handed over
    with `encoded=True` is ASCII.  Nothing is asked of schemes, authorities, zone ids or the IDNA oracle (`Z`, `Sc`
    arbitrary).  Cites C01_reachE_components_ascii. -/
theorem C01_headline_all_entry_points_components_ascii (e : Env) (Z Sc : Str → Prop) (u : Url)
    (h : ReachEX Ascii Z Sc e u) :                       -- every `encoded=True` text is ASCII
    (∀ c ∈ u.path, c < 128) ∧ (∀ c ∈ u.query, c < 128) ∧ (∀ c ∈ u.fragment, c < 128) :=
  C01_reachE_components_ascii e Z Sc u h

/-- SUFFICIENCY — "the resulting URL's string form is pure ASCII … bytes(url) never fails" over ALL entry points, every
    hypothesis on the inputs: (1) every text handed over with `encoded=True` is ASCII; and the side conditions the
    auto-encoding API needs already (GAPS 1 a, b, e): (2) ASCII zone ids (F-C01-nonascii-zone), (3) ASCII
    `with_scheme` / `build(scheme=)` arguments (F-C01-scheme), (4) the IDNA oracle answers ASCII (GAPS 7).  The second
    conjunct is the success of `str(url).encode("ascii")`.  Cites C01_reachE_str_ascii. -/
theorem C01_headline_all_entry_points_str_ascii (e : Env) (u : Url) (r : Str)
    (ho : HostOracleAscii e.o)                           -- (4) oracle hypothesis, NOT proved (GAPS 7)
    (h : ReachEX Ascii ZoneAscii ArgsAsciiScheme e u)    -- (1), (2), (3)
    (hs : str e u = .ok r) :
    (∀ c ∈ r, c < 128) ∧ r.all (fun c => decide (c < 128)) = true :=
  C01_reachE_str_ascii e u r ho h hs

/-- the stored authority over all entry points, under (1), (2), (4): ASCII, and so is the pre-filled cache.
    Cites C01_reachE_netloc_ascii. -/
theorem C01_headline_all_entry_points_netloc_ascii (e : Env) (Sc : Str → Prop) (u : Url)
    (ho : HostOracleAscii e.o)                           -- oracle hypothesis, NOT proved (GAPS 7)
    (h : ReachEX Ascii ZoneAscii Sc e u) :               -- `encoded=True` texts and zone ids are ASCII
    (∀ c ∈ u.netloc, c < 128) ∧ ∀ p, u.pre = some p → NetAscii p :=
  C01_reachE_netloc_ascii e Sc u ho h

/-- NECESSITY, on the STORED text, for every URL whatsoever (no reachability): `str()` writes scheme, path, query and
    fragment verbatim, so an ASCII string form means ASCII stored scheme, path, query and fragment; with an ASCII
    stored authority (and cache) this is an EQUIVALENCE.  Cites C01_reachE_str_ascii_stored,
    C01_reachE_str_ascii_iff_stored. -/
theorem C01_headline_str_ascii_iff_stored_text_ascii (e : Env) (u : Url) (r : Str) (h : str e u = .ok r) :
    ((∀ c ∈ r, c < 128) →
      (∀ c ∈ u.scheme, c < 128) ∧ (∀ c ∈ u.path, c < 128) ∧ (∀ c ∈ u.query, c < 128) ∧ (∀ c ∈ u.fragment, c < 128)) ∧
    (AsciiNet u →                                        -- stored authority and pre-filled cache are ASCII
      ((∀ c ∈ r, c < 128) ↔
        ((∀ c ∈ u.scheme, c < 128) ∧ (∀ c ∈ u.path, c < 128) ∧ (∀ c ∈ u.query, c < 128) ∧
          (∀ c ∈ u.fragment, c < 128)))) :=
  ⟨C01_reachE_str_ascii_stored e u r h, fun hn => C01_reachE_str_ascii_iff_stored e u r hn h⟩

/-- for the LAST step the equivalence is on the argument itself: on a URL with ASCII scheme, authority, query and
    fragment, `str(u.with_path(p, encoded=True))` is ASCII iff `p` is.  Cites C01_reachE_with_path_encoded_iff. -/
theorem C01_headline_with_path_encoded_str_ascii_iff_argument_ascii (e : Env) (u : Url) (p : Str) (kq kf : Bool) (r : Str)
    (hs : ∀ c ∈ u.scheme, c < 128) (hn : AsciiNet u)     -- the URL before the step: ASCII scheme, authority, cache,
    (hq : ∀ c ∈ u.query, c < 128) (hf : ∀ c ∈ u.fragment, c < 128)   -- query and fragment
    (h : str e (withPath e u p true kq kf) = .ok r) :
    (∀ c ∈ r, c < 128) ↔ (∀ c ∈ p, c < 128) :=
  C01_reachE_with_path_encoded_iff e u p kq kf r hs hn hq hf h

/-- NO converse of the sufficiency theorem over whole HISTORIES: `URL('/é', encoded=True).with_path('/a')` prints '/a'
    although an `encoded=True` argument of its history was not ASCII — a later step overwrote it.  "ASCII iff every
    `encoded=True` argument in the history was ASCII" holds from right to left only.
    Cites C01_reachE_ascii_history_not_necessary. -/
theorem C01_headline_encoded_ascii_history_not_necessary :
    let e0 : Env := ⟨.py, Oracles.empty⟩
    ∃ u v, preEncodedUrl e0 [47, 233] = .ok u ∧ ReachE e0 u ∧ str e0 u = .ok [47, 233] ∧
      applyOp e0 u (.withPath "/a".toStr false false) = .ok v ∧ ReachE e0 v ∧ str e0 v = .ok "/a".toStr ∧
      (∀ c ∈ "/a".toStr, c < 128) :=
  C01_reachE_ascii_history_not_necessary

/-! ## Clauses 2, 3 — "every '%' in it starts an escape of two uppercase hex digits", "only the characters RFC 3986
    allows", over ALL entry points -/

/-- LOST with `encoded=True`, even for ASCII texts: the derivation `URL('http://H:80/x', encoded=True)
    .with_path('/a%zz/b c/../d', encoded=True).joinpath('e f', encoded=True)` satisfies every side condition of the
    sufficiency theorem; its string form 'http://H/a%zz/b c/../d/e f' is ASCII but has a '%' that starts no escape, raw
    spaces, an upper-case host and a dot segment.  (Also the non-vacuity witness of
    C01_headline_all_entry_points_str_ascii.)  Cites C01_reachE_str_ascii_instance. -/
theorem C01_headline_percent_escapes_fails_for_encoded_true :
    ∃ u r, ReachEX Ascii ZoneAscii ArgsAsciiScheme ⟨.py, Oracles.empty⟩ u ∧ str ⟨.py, Oracles.empty⟩ u = .ok r ∧
      r = "http://H/a%zz/b c/../d/e f".toStr ∧ (∀ c ∈ r, c < 128) ∧ ¬ WellEscaped r :=
  C01_reachE_str_ascii_instance

/-! ## non-vacuity -/

-- the sufficiency theorem applied to the derivation above: `bytes(url)` succeeds
example : ∃ u r, str ⟨.py, Oracles.empty⟩ u = .ok r ∧ r.all (fun c => decide (c < 128)) = true := by
  obtain ⟨u, r, hr, hs, _⟩ := C01_headline_percent_escapes_fails_for_encoded_true
  exact ⟨u, r, hs, (C01_headline_all_entry_points_str_ascii _ u r C01_oracle_empty_ok.1 hr hs).2⟩

-- the side condition `Ascii` excludes exactly the witnesses of C01_headline_str_ascii_fails_for_encoded_true
example : ¬ Ascii [47, 233] := by decide

end Yarl
