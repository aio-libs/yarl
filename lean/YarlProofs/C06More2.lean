/-
  C06More2.lean — property C06 ("decoded accessors read back what was put in"), further write/read pairings.
  Helper lemmas: Lemmas/Readback2.lean (namespace `Yarl.R2`: the authority `build(authority=)` stores, QUOTER then
  UNQUOTER on arbitrary Python strings, joinpath with several arguments as one; here it also holds the witnesses).

    * `build(authority=A)` — user, password, raw_host / host, explicit_port / port of the built URL;
      `build(query="a=b")` (a STRING `query=`) — what `url.query` reads back as;
    * `with_user("")`; `with_user` / `with_password` on a URL without authority;
    * `joinpath(a₁, …, aₙ)` read back through `path`; the `/` / joinpath read-back theorems for reachable URLs
      (`ReachC`) without the side conditions on the old path;
    * when `URL.host` consults the IDNA decoder, and the `build(host=)` read-back without an oracle hypothesis where
      it does not.
-/
import YarlModel
import YarlProofs.Lemmas.Readback2
namespace Yarl
open NetlocLemmas HeadB EagerLemmas BuildMore DecLemmas NetShape MiscLemmas R2

/-! ## `build(authority=A)` (encoded=False)

  `np = split_netloc(A)`: `np.user` = the text before the first ':' of the userinfo (the text before the LAST '@'),
  `None` when empty; `np.password` = the text after that ':' (`None` without ':'); `np.host` the host text without
  brackets; `np.port` the integer.  `HostTextOK h0` (Lemmas/NetShape.lean): a supported ASCII host text — a name /
  IPv4 text of visible ASCII without `/ ? # @ [ ] :`, or an IPv6 literal with optional zone id; `hwrap`: a host that is
  no IPv6 literal is not written in brackets (together: `AuthInput e.o A` for a non-empty `A`). -/

/-- the four raw accessors read the parsed authority -/
theorem raw_of_net {e : Env} {v : Url} {n : NetPre} (hnet : net e v = .ok n) :
    rawUser e v = .ok n.rawUser ∧ rawPassword e v = .ok n.rawPassword ∧ rawHost e v = .ok n.rawHost ∧
      explicitPort e v = .ok n.explicitPort := by
  unfold rawUser rawPassword rawHost explicitPort; rw [hnet]; exact ⟨rfl, rfl, rfl, rfl⟩

/-- `build(authority=A)`: the userinfo texts of `A` are taken AS DECODED VALUES (they are quoted with QUOTER, '%'
    becomes "%25"), so `user` / `password` read back the userinfo texts of `A` VERBATIM — lone surrogates dropped —
    NOT their percent-decodings (next theorem); `raw_host` is `_encode_host(host text)` without brackets;
    `explicit_port` is the port of `A` unless it is the default port of the (lowered) scheme — then `None`
    (`strPort sc p`, Lemmas/BuildShape.lean); `port` is the integer of `A` whenever `A` has one (the scheme's default otherwise). -/
theorem C06_build_authority_readback (e : Env) (a : BuildArgs) (v : Url) (h : build e a = .ok v)
    (henc : a.encoded = false) (hpy : PyStr a.authority) (np : NetlocParts) (h0 : Str)
    (hsp : splitNetloc e.o a.authority = .ok np) (hhost : np.host = some h0) (hk : HostTextOK h0)
    (hwrap : 58 ∉ h0 → 91 ∉ (rpartition 64 a.authority).2.2) :
    ∃ sc r, lowerAny e a.scheme = .ok sc ∧ v.scheme = sc ∧ encodeHost e.o h0 false = .ok r ∧ r ≠ [] ∧
      rawUser e v = .ok ((np.user.map (q e Gen.QUOTER)).bind orNone) ∧
      rawPassword e v = .ok (np.password.map (q e Gen.QUOTER)) ∧
      user e v = .ok ((np.user.map stripSurr).bind orNone) ∧
      password e v = .ok (np.password.map stripSurr) ∧
      ((∀ s, np.user = some s → NoSurrogate s) → user e v = .ok np.user) ∧
      ((∀ s, np.password = some s → NoSurrogate s) → password e v = .ok np.password) ∧
      rawHost e v = .ok (some (unbracket r)) ∧
      explicitPort e v = .ok (strPort sc np.port) ∧
      port e v = .ok (np.port.orElse fun _ => defaultPort sc) := by
  obtain ⟨sc, hs, hsc, hsch, he, hfix, hiff, hnet⟩ :=
    build_authority_net e a v h henc hpy np h0 hsp hhost hk hwrap
  obtain ⟨hu, hp⟩ := WfLemmas.splitNetloc_pyStr e.o a.authority hpy np hsp
  obtain ⟨hru, hrp, hrh, hep⟩ := raw_of_net hnet
  have hUser : user e v = .ok ((np.user.map stripSurr).bind orNone) := by
    unfold user; rw [hru]
    show Except.ok (((np.user.map (q e Gen.QUOTER)).bind orNone).map (uq e Gen.UNQUOTER)) = _
    rw [decoded_user e np.user hu]
  have hPw : password e v = .ok (np.password.map stripSurr) := by
    unfold password; rw [hrp]
    show Except.ok ((np.password.map (q e Gen.QUOTER)).map (uq e Gen.UNQUOTER)) = _
    rw [decoded_password e np.password hp]
  refine ⟨sc, bracket hs, hsc, hsch, he, bracket_ne_nil hfix.ok.1, hru, hrp, hUser, hPw, ?_, ?_, ?_, hep, ?_⟩
  · intro hn
    rw [hUser, stripSurr_opt_id np.user hn, bind_orNone_id np.user (splitNetloc_user_ne e.o _ np hsp)]
  · intro hn
    rw [hPw, stripSurr_opt_id np.password hn]
  · rw [hrh, unbracket_bracket hs hfix.ok]
  · unfold port
    rw [hep, hsch]
    cases hport : np.port with
    | none => rfl
    | some p =>
      by_cases hd : some p = defaultPort sc <;> simp [strPort, hd, bind, Except.bind, pure, Except.pure]


/-- the host text of `A` is a NAME (no ':'; not an IPv4 literal): `raw_host` is the name LOWER-CASED, and so is
    `host` — without any oracle when the name ends in a digit and has no "xn--", otherwise under the hypothesis that
    the IDNA decoder maps that ASCII lower-case name to itself (`C06_host_oracle_use`). -/
theorem C06_build_authority_host_name (e : Env) (a : BuildArgs) (v : Url) (h : build e a = .ok v)
    (henc : a.encoded = false) (hpy : PyStr a.authority) (np : NetlocParts) (h0 : Str)
    (hsp : splitNetloc e.o a.authority = .ok np) (hhost : np.host = some h0) (hk : HostTextOK h0)
    (hwrap : 58 ∉ h0 → 91 ∉ (rpartition 64 a.authority).2.2)
    (hnip : parseIP (partition 37 h0).1 = none ∨ (58 ∉ h0 ∧ ∀ l, h0.getLast? = some l → isDigitC l = false)) :
    rawHost e v = .ok (some (lower h0)) ∧
    ((((∀ l, (lower h0).getLast? = some l → isDigitC l = false) ∨ hasSub [120, 110, 45, 45] (lower h0) = true) →
        e.o.idnaDec (lower h0) = some (some (lower h0))) →
      host e v = .ok (some (lower h0))) := by
  have h58 : 58 ∉ h0 := by
    rcases hnip with hp | ⟨h58, _⟩
    · intro hm
      obtain ⟨h8, h6, _⟩ := hk.ipv6 hm
      simp [parseIP, HostLemmas.parseIPv4_none_of_parseIPv6 h6, h6] at hp
    · exact h58
  have hasc : isAscii h0 = true := isAscii_of_text (fun c hc => nameChar_text (hk.name h58 c hc))
  have henc0 : encodeHost e.o h0 false = .ok (lower h0) := by
    rcases hnip with hp | ⟨_, hnd⟩
    · rw [HostLemmas.encodeHost_noIp false (HostLemmas.noIp_of_ascii e.o hasc hp),
        HostLemmas.regPath_of_ascii e.o false hasc]
      rfl
    · rw [HostLemmas.encodeHost_noIp false ⟨false, looksIP_false e.o hasc h58 hnd, nofun⟩,
        HostLemmas.regPath_of_ascii e.o false hasc]
      rfl
  obtain ⟨sc, hs, _, _, he, hfix, hiff, hnet⟩ :=
    build_authority_net e a v h henc hpy np h0 hsp hhost hk hwrap
  have h58s : 58 ∉ hs := fun hm => h58 (hiff.1 hm)
  have hhs : hs = lower h0 := by
    rw [henc0, FixLemmas.bracket_of_no_colon h58s] at he
    exact (Except.ok.inj he).symm
  have hraw : rawHost e v = .ok (some (lower h0)) := by rw [(raw_of_net hnet).2.2.1, hhs]
  refine ⟨hraw, fun hdec => ?_⟩
  exact host_ascii_lower e v (lower h0) hraw (HostLemmas.isAscii_lower hasc) (HostLemmas.lower_idem _)
    (by rw [← hhs]; exact h58s) hdec

/-- the host text of `A` is an IPv4 literal: `raw_host` and `host` return it unchanged (no oracle) -/
theorem C06_build_authority_host_ipv4 (e : Env) (a : BuildArgs) (v : Url) (h : build e a = .ok v)
    (henc : a.encoded = false) (hpy : PyStr a.authority) (np : NetlocParts) (h0 : Str)
    (hsp : splitNetloc e.o a.authority = .ok np) (hhost : np.host = some h0)
    (hwrap : 91 ∉ (rpartition 64 a.authority).2.2)      -- the IPv4 literal is not written in brackets
    (o4 : List Nat) (h4 : parseIPv4 h0 = some o4) :
    rawHost e v = .ok (some h0) ∧ host e v = .ok (some h0) := by
  have hch := HostLemmas.parseIPv4_chars h4
  have hno : ∀ c, ¬ (c = 46 ∨ isDigitC c = true) → c ∉ h0 := fun c hc hm => hc (hch c hm)
  have h37 : 37 ∉ h0 := hno 37 (by decide +kernel)
  have h58 : 58 ∉ h0 := parseIPv4_no_colon h4
  obtain ⟨sc, hs, _, _, he, hfix, hiff, hnet⟩ :=
    build_authority_net e a v h henc hpy np h0 hsp hhost (hostText_ipv4 h4) (fun _ => hwrap)
  have h58s : 58 ∉ hs := fun hm => h58 (hiff.1 hm)
  have hhs : hs = h0 := by
    rw [C16_ipv4_kept e.o h0 false o4 h4 h37, FixLemmas.bracket_of_no_colon h58s] at he
    exact (Except.ok.inj he).symm
  have hraw : rawHost e v = .ok (some h0) := by rw [(raw_of_net hnet).2.2.1, hhs]
  exact ⟨hraw, host_of_ipv4 e v h0 o4 h4 hraw⟩

/-- the host text of `A` is an IPv6 literal (any spelling `ipaddress` accepts, optional "%zone"; in `A` it stands in
    brackets): `raw_host` and `host` are its canonical lower-case text, the zone id verbatim, without brackets -/
theorem C06_build_authority_host_ipv6 (e : Env) (a : BuildArgs) (v : Url) (h : build e a = .ok v)
    (henc : a.encoded = false) (hpy : PyStr a.authority) (np : NetlocParts) (h0 : Str)
    (hsp : splitNetloc e.o a.authority = .ok np) (hhost : np.host = some h0) (hk : HostTextOK h0)
    (h8 : List Nat) (h6 : parseIPv6 (partition 37 h0).1 = some h8) :
    let raw := ipv6ToStr h8 ++ (if (partition 37 h0).2.1 then [37] ++ (partition 37 h0).2.2 else [])
    rawHost e v = .ok (some raw) ∧ host e v = .ok (some raw) := by
  intro raw
  have hcolon : 58 ∈ h0 := partition_fst_sub 37 h0 58 (HostLemmas.parseIPv6_colon h6)
  obtain ⟨sc, hs, _, _, he, hfix, hiff, hnet⟩ :=
    build_authority_net e a v h henc hpy np h0 hsp hhost hk (fun hn => absurd hcolon hn)
  have h58s : 58 ∈ hs := hiff.2 hcolon
  obtain ⟨_, _, hform⟩ := C16_ipv6_bracketed e.o h0 false h8 _ (HostLemmas.parseIPv4_none_of_parseIPv6 h6) h6 he
  have hhs : hs = raw := by
    rw [FixLemmas.bracket_of_colon h58s] at hform
    have hform' : hs ++ [93] = raw ++ [93] := by simpa [raw] using hform
    exact List.append_cancel_right hform'
  have hraw : rawHost e v = .ok (some raw) := by rw [(raw_of_net hnet).2.2.1, hhs]
  refine ⟨hraw, ?_⟩
  apply host_of_ip_looking e v raw hraw
  right
  refine ⟨by rw [← hhs]; exact h58s, fun l hl => ?_⟩
  exact isDigitChar_ascii _ (hfix.chars l (by rw [hhs]; exact List.mem_of_getLast? hl)).2.1


/-- the `make_netloc`-shaped form: `A = make_netloc(U, P, H, port)` (no encoding) for a well-shaped user (`UserOK`:
    non-empty, no ':'), any password, a supported host text `H` (`HostTextOK`, `HostOK`: none of '@' '[' ']') written
    in brackets iff it has a ':' — then `user`, `password`, `explicit_port`, `port` of `build(authority=A)` are `U`,
    `P` (verbatim), `port` unless it is the scheme's default, and the integer. -/
theorem C06_build_authority_written_readback (e : Env) (a : BuildArgs) (v : Url) (h : build e a = .ok v)
    (henc : a.encoded = false) (U P : Option Str) (H : Str) (port : Option Nat)
    (hA : a.authority = makeNetloc id U P (some (bracket H)) port false)
    (hpy : PyStr a.authority)                                   -- model artefact
    (hU : UserOK U) (hH : HostOK H) (hk : HostTextOK H) (hport : ∀ p, port = some p → p ≤ 65535)
    (hUn : ∀ s, U = some s → NoSurrogate s) (hPn : ∀ s, P = some s → NoSurrogate s) :  -- "lone surrogates … excepted"
    ∃ sc r, lowerAny e a.scheme = .ok sc ∧ v.scheme = sc ∧ encodeHost e.o H false = .ok r ∧
      user e v = .ok U ∧ password e v = .ok P ∧ rawHost e v = .ok (some (unbracket r)) ∧
      explicitPort e v = .ok (strPort sc port) ∧
      Yarl.port e v = .ok (port.orElse fun _ => defaultPort sc) := by
  have hsp : splitNetloc e.o a.authority = .ok { user := U, password := P, host := some H, port := port } := by
    rw [hA]; exact netloc_roundtrip e.o id U P H port hU hH hport
  have hwrap : 58 ∉ H → 91 ∉ (rpartition 64 a.authority).2.2 := by
    intro h58
    have h64 := notMem_hostPortStr port hH.2.1
    have hrest : (rpartition 64 a.authority).2.2 = hostPortStr (bracket H) port := by
      rw [hA]
      rcases NetlocLemmas.makeNetloc_shape id U P (bracket H) port false with hs | ⟨X, hs⟩
      · rw [hs, ParseLemmas.rpartition_not_mem h64]
      · rw [hs, rpartition_found 64 X _ h64]
    rw [hrest, FixLemmas.bracket_of_no_colon h58]
    cases port with
    | none => simpa [hostPortStr] using hH.2.2.1
    | some p =>
      have := Decimal.notMem_digits (Decimal.natToStr_digits p).2 91 (by omega)
      simp only [hostPortStr, List.mem_append, not_or]
      exact ⟨⟨hH.2.2.1, by simp⟩, this⟩
  obtain ⟨sc, r, h1, h2, h3, _, _, _, _, _, h9, h10, h11, h12, h13⟩ :=
    C06_build_authority_readback e a v h henc hpy _ H hsp rfl hk hwrap
  exact ⟨sc, r, h1, h2, h3, h9 hUn, h10 hPn, h11, h12, h13⟩

/-- COUNTEREXAMPLES to the expected statement "user / password read back as the percent-DECODED userinfo of `A`" and
    "explicit_port reads back the integer" (both backends):
    `URL.build(scheme="http", authority="us%41er:p%40w@h1:80")` has `raw_user == "us%2541er"`, `user == "us%41er"`
    (the percent-decoding of "us%41er" is "usAer"), `password == "p%40w"`, `explicit_port is None`, `port == 80`.
    (The same text in `URL("http://us%41er:p%40w@h1:80")` is REQUOTED: user "usAer", password "p@w".) -/
theorem C06_build_authority_not_percent_decoded (b : Backend) :
    ∃ v, build ⟨b, Oracles.empty⟩ { scheme := "http".toStr, authority := "us%41er:p%40w@h1:80".toStr } = .ok v ∧
      v.netloc = "us%2541er:p%2540w@h1".toStr ∧
      user ⟨b, Oracles.empty⟩ v = .ok (some "us%41er".toStr) ∧
      password ⟨b, Oracles.empty⟩ v = .ok (some "p%40w".toStr) ∧
      Gen.UNQUOTER.run b "us%41er".toStr = "usAer".toStr ∧ Gen.UNQUOTER.run b "p%40w".toStr = "p@w".toStr ∧
      explicitPort ⟨b, Oracles.empty⟩ v = .ok none ∧ port ⟨b, Oracles.empty⟩ v = .ok (some 80) ∧
      (encodeUrl ⟨b, Oracles.empty⟩ "http://us%41er:p%40w@h1:80".toStr).bind (user ⟨b, Oracles.empty⟩) =
        .ok (some "usAer".toStr) := by
  refine ⟨fromParts "http".toStr "us%2541er:p%2540w@h1".toStr [] [] [], ?_, rfl, ?_, ?_, ?_, ?_, ?_, ?_, ?_⟩
  all_goals str_lits
  · cases b <;> decide +kernel
  all_goals (cases b <;> decide +kernel)

/-! ## `build(query=<str>)` -/

/-- `build(query=s)` for a non-empty STRING `s` (either `encoded=` mode — a `query=` argument is always rendered by
    the library — and whatever the other arguments are): the stored query is `QUERY_QUOTER(s)`; `url.query` yields the
    pieces of `s` between '&' (empty pieces dropped), each cut at its FIRST '=', with '+' read as a space and NOTHING
    else decoded ('%' in `s` is a literal character: it is stored as "%25"); `query_string` is `s` with '+' → ' '.
    So a query STRING is not a sequence of decoded values: '&', '=' and '+' in it are syntax. -/
theorem C06_build_query_str_readback (e : Env) (a : BuildArgs) (v : Url) (h : build e a = .ok v)
    (s : Str) (hq : a.query = .str s) (hne : s ≠ [])
    (hs : PyStr s)                  -- model artefact
    (hn : NoSurrogate s) :          -- "lone surrogates … excepted"
    v.query = q e Gen.QUERY_QUOTER s ∧
    queryPairs v = ((splitOn 38 s).filter (fun p => ¬ p = [])).map
      (fun p => (plusToSpace (partition 61 p).1, plusToSpace (partition 61 p).2.2)) ∧
    queryString e v = plusToSpace s := by
  have hemp : s.isEmpty = false := isEmpty_false hne
  have ht : qargTruthy a.query = true := by rw [hq]; simp [qargTruthy, hemp]
  obtain ⟨qs, hqs, hv⟩ := (build_query_shape h).1 ht
  rw [hq] at hqs
  simp only [getStrQuery, hemp, Bool.false_eq_true, if_false] at hqs
  cases hqs
  have hv' : v.query = q e Gen.QUERY_QUOTER s := hv
  refine ⟨hv', ?_, ?_⟩
  · unfold queryPairs
    rw [hv']
    exact parseQsl_query_quoter e.b s hs hn
  · unfold queryString
    rw [hv']
    have hqne := quoter_ne_nil Gen.QUERY_QUOTER mem_QUERY_QUOTER (by decide +kernel) e.b s hs hn hne
    have : (q e Gen.QUERY_QUOTER s).isEmpty = false := isEmpty_false hqne
    simp only [this, Bool.not_false, if_true]
    exact C06_build_qs_quoter_level e.b s hs hn

/-- … in particular ONE "key=value" text without '&' '+' (and no '=' in the key) reads back as that pair -/
theorem C06_build_query_str_single (e : Env) (a : BuildArgs) (v : Url) (h : build e a = .ok v)
    (k w : Str) (hq : a.query = .str (k ++ 61 :: w))
    (hk : PyStr k ∧ NoSurrogate k) (hw : PyStr w ∧ NoSurrogate w)
    (hk' : 38 ∉ k ∧ 61 ∉ k ∧ 43 ∉ k) (hw' : 38 ∉ w ∧ 43 ∉ w) :
    queryPairs v = [(k, w)] := by
  have hs : PyStr (k ++ 61 :: w) := by
    intro c hc
    rcases List.mem_append.1 hc with h | h
    · exact hk.1 c h
    · rcases List.mem_cons.1 h with rfl | h
      · decide +kernel
      · exact hw.1 c h
  have hn : NoSurrogate (k ++ 61 :: w) := by
    intro c hc
    rcases List.mem_append.1 hc with h | h
    · exact hk.2 c h
    · rcases List.mem_cons.1 h with rfl | h
      · decide +kernel
      · exact hw.2 c h
  rw [(C06_build_query_str_readback e a v h _ hq (by simp) hs hn).2.1]
  have h38 : 38 ∉ k ++ 61 :: w := by simp [hk'.1, hw'.1]
  rw [PathLemmas.splitOn_of_not_mem 38 _ h38]
  simp [partition_found 61 k w hk'.2.1, plusToSpace_noplus hk'.2.2, plusToSpace_noplus hw'.2]


/-! ## `with_user("")`

  `with_user("")` does NOT store an empty user and is NOT `with_user(None)`: it removes the user and KEEPS the
  password (authority ":pw@host"); `user` of the result is `None`.  It coincides with `with_user(None)` exactly
  when the URL has no password. -/

/-- on a record without cache whose authority is `make_netloc(usr, pw, h, port)` -/
theorem C06_with_user_empty_written (e : Env) (qf : Str → Str) (usr pw : Option Str) (h : Str) (port : Option Nat)
    (scheme path query fragment : Str)
    (hu : UserOK usr) (hh : HostOK h) (hp : ∀ p, port = some p → p ≤ 65535) :
    let u := fromParts scheme (makeNetloc qf usr pw (some (bracket h)) port false) path query fragment
    let v := fromParts scheme (makeNetloc id none pw (some (bracket h)) port false) path query fragment
    withUser e u (some []) = .ok v ∧
    user e v = .ok none ∧ rawUser e v = .ok none ∧
    rawPassword e v = .ok pw ∧ password e v = password e u ∧
    rawHost e v = .ok (some h) ∧ explicitPort e v = .ok port ∧
    (withUser e u none = .ok v ↔ pw = none) := by
  intro u v
  have hne : u.netloc ≠ [] := NetlocLemmas.makeNetloc_ne_nil qf usr pw hh.1 port
  have hN : net e u = _ := NetlocLemmas.net_std e qf usr pw h port scheme path query fragment hu hh hp
  have hw := AuthMod.withUser_some_of_net hne hN []
  unfold AuthMod.remake at hw
  rw [q_quoter_nil, makeNetloc_user_nil, makeNetloc_qf (q e Gen.QUOTER) id none pw] at hw
  have hru : rawUser e v = .ok none := rawUser_std e id none pw h port scheme path query fragment userOK_none hh hp
  have hrp : rawPassword e v = .ok pw :=
    rawPassword_std e id none pw h port scheme path query fragment userOK_none hh hp
  have hrpu : rawPassword e u = .ok pw := rawPassword_std e qf usr pw h port scheme path query fragment hu hh hp
  refine ⟨hw, ?_, hru, hrp, ?_,
    rawHost_std e id none pw h port scheme path query fragment userOK_none hh hp,
    explicitPort_std e id none pw h port scheme path query fragment userOK_none hh hp, ?_⟩
  · unfold user; rw [hru]; rfl
  · unfold password; rw [hrp, hrpu]
  · have hn := AuthMod.withUser_none_of_net hne hN
    unfold AuthMod.remake at hn
    rw [makeNetloc_qf (q e Gen.QUOTER) id none none] at hn
    show withUser e u none = .ok v ↔ _
    rw [hn]
    constructor
    · intro heq
      have h1 : makeNetloc id none none (some (bracket h)) port false =
          makeNetloc id none pw (some (bracket h)) port false := congrArg Url.netloc (Except.ok.inj heq)
      cases pw with
      | none => rfl
      | some w =>
        exfalso
        rw [makeNetloc_eq, makeNetloc_eq] at h1
        have := congrArg List.length h1
        simp at this
        omega
    · rintro rfl; rfl

/-- on a URL WITH a (consistent) pre-filled cache — constructor results included -/
theorem C06_cached_with_user_empty (e : Env) (qf : Str → Str) (u : Url) (usr pw : Option Str) (h : Str)
    (port : Option Nat) (hnet : net e (pickleTwin u) = net e u) (w : Written qf (pickleTwin u) usr pw h port) :
    ∃ v, withUser e u (some []) = .ok v ∧
      user e v = .ok none ∧ rawUser e v = .ok none ∧
      rawPassword e v = .ok pw ∧ password e v = password e u ∧
      rawHost e v = .ok (some h) ∧ explicitPort e v = .ok port ∧
      v.netloc = makeNetloc id none pw (some (bracket h)) port false ∧
      v.scheme = u.scheme ∧ v.path = u.path ∧ v.query = u.query ∧ v.fragment = u.fragment ∧
      (withUser e u none = .ok v ↔ pw = none) := by
  obtain ⟨h1, h2, h3, h4, h5, h6, h7, h8⟩ :=
    C06_with_user_empty_written e qf usr pw h port u.scheme u.path u.query u.fragment w.user w.host w.port
  have heq : fromParts u.scheme (makeNetloc qf usr pw (some (bracket h)) port false) u.path u.query u.fragment
      = pickleTwin u := w.eq.symm
  rw [heq] at h1 h5 h8
  rw [(C09_modifiers_of_net e u hnet).1] at h1 h8
  have hpw : password e (pickleTwin u) = password e u := by
    unfold password rawPassword; rw [hnet]
  rw [hpw] at h5
  exact ⟨_, h1, h2, h3, h4, h5, h6, h7, rfl, rfl, rfl, rfl, rfl, h8⟩

/-- on a CONSTRUCTOR result `u = URL(s)` -/
theorem C06_ctor_with_user_empty (e : Env) (qf : Str → Str) (s : Str) (u : Url) (usr pw : Option Str) (h : Str)
    (port : Option Nat) (hu : encodeUrl e s = .ok u) (hg : GoodAuthority e s)
    (w : Written qf (pickleTwin u) usr pw h port) :
    ∃ v, withUser e u (some []) = .ok v ∧
      user e v = .ok none ∧ rawUser e v = .ok none ∧
      rawPassword e v = .ok pw ∧ password e v = password e u ∧
      rawHost e v = .ok (some h) ∧ explicitPort e v = .ok port ∧
      v.netloc = makeNetloc id none pw (some (bracket h)) port false ∧
      v.scheme = u.scheme ∧ v.path = u.path ∧ v.query = u.query ∧ v.fragment = u.fragment ∧
      (withUser e u none = .ok v ↔ pw = none) :=
  C06_cached_with_user_empty e qf u usr pw h port (CtorMods.ctor_agree e s u hu hg) w

/-- on EVERY URL with an authority that satisfies the invariant `NetlocCanon` (C03Reach.lean; kept by every
    operation, established by the constructor / build for the supported host kinds) — no cache hypothesis -/
theorem C06_netlocCanon_with_user_empty (e : Env) (u : Url) (hc : NetlocCanon e u) (hne : u.netloc ≠ []) :
    ∃ v pw, rawPassword e u = .ok pw ∧ withUser e u (some []) = .ok v ∧
      user e v = .ok none ∧ rawUser e v = .ok none ∧
      rawPassword e v = .ok pw ∧ password e v = password e u ∧
      rawHost e v = rawHost e u ∧ explicitPort e v = explicitPort e u ∧
      v.scheme = u.scheme ∧ v.path = u.path ∧ v.query = u.query ∧ v.fragment = u.fragment ∧
      (withUser e u none = .ok v ↔ pw = none) := by
  obtain ⟨usr, pw, h, port, w, _, _, _, a2, a3, a4, hnet⟩ := C11_netlocCanon_view e u hc hne
  obtain ⟨v, h1, h2, h3, h4, h5, h6, h7, _, f1, f2, f3, f4, h8⟩ :=
    C06_cached_with_user_empty e id u usr pw h port hnet w
  exact ⟨v, pw, a2, h1, h2, h3, h4, h5, h6.trans a3.symm, h7.trans a4.symm, f1, f2, f3, f4, h8⟩

/-! ## `with_user` / `with_password` on a URL without authority -/

/-- for EVERY record with an empty stored authority (cache or not, whatever its other parts) and EVERY argument
    (`None`, "", any text) the model returns `ValueError` — Python: "user replacement is not allowed for relative
    URLs" / "password replacement is not allowed for relative URLs" — and never anything else. -/
theorem C06_with_user_password_no_authority (e : Env) (u : Url) (hnl : u.netloc = []) :
    (∀ x, withUser e u x = .error .valueError) ∧ (∀ x, withPassword e u x = .error .valueError) := by
  constructor
  · intro x
    cases x with
    | none => rw [AuthMod.withUser_none_eq, if_pos hnl]
    | some s => rw [AuthMod.withUser_some_eq, if_pos hnl]
  · intro x
    rw [AuthMod.withPassword_eq, if_pos hnl]

/-- "without host" = "empty stored authority", for a record without cache: `host` / `raw_host` is `None` exactly
    when the stored authority is empty -/
theorem C06_no_host_iff_no_authority (e : Env) (u : Url) (hpre : u.pre = none) :
    (rawHost e u = .ok none ↔ u.netloc = []) ∧ (host e u = .ok none ↔ u.netloc = []) := by
  have h1 : rawHost e u = .ok none ↔ u.netloc = [] := by
    unfold rawHost net
    rw [hpre]
    unfold lazyNet
    constructor
    · intro h
      cases hs : splitNetloc e.o u.netloc with
      | error err => rw [hs] at h; cases h
      | ok np =>
        rw [hs] at h
        simp only [bind, Except.bind, pure, Except.pure, Except.map, Except.ok.injEq] at h
        cases hh : np.host with
        | some x => rw [hh] at h; cases h
        | none =>
          rw [hh] at h
          simp only at h
          split at h
          · rename_i he; simpa using he
          · cases h
    · intro h
      rw [h]
      rfl
  have h2 : host e u = .ok none ↔ rawHost e u = .ok none := by
    unfold host
    cases hr : rawHost e u with
    | error err => simp [bind, Except.bind]
    | ok r =>
      cases r with
      | none => simp [bind, Except.bind, pure, Except.pure]
      | some raw =>
        simp only [bind, Except.bind, Except.ok.injEq, reduceCtorEq, iff_false]
        intro h
        split at h
        · cases h
        · split at h
          · cases h
          · split at h
            · cases h
            · cases h
  exact ⟨h1, h2.trans h1⟩


/-! ## `joinpath(a₁, …, aₙ)` read back through `path`

  `PathMore.argSegs e true ps` = the segments of the arguments AS GIVEN (each argument split at '/', the trailing empty
  segment of a non-last argument dropped); `joinC 47` of it = the text "a₁/…/aₙ" in which a trailing '/' of a
  non-last argument is not doubled. -/

section JoinPart
open PathLemmas PathAlg PathMore

/-- `u.joinpath(a₁, …, aₙ)` is `u.joinpath("a₁/…/aₙ")` — the SAME URL — and so reads back through `path` as the old
    decoded path without ONE trailing slash, then "/" and the joined arguments (for an empty old path: the joined
    arguments themselves without, "/" + them with an authority); `parts` / `name` as in
    C06_joinpath_parts_readback. -/
theorem C06_joinpath_path_readback (e : Env) (u : Url) (ps : List Str) (v : Url)
    (hne : ps ≠ [])                                                    -- at least one argument
    (hps : ∀ p ∈ ps, PyStr p ∧ NoSurrogate p)                          -- model artefact; "lone surrogates … excepted"
    (hnd : u.netloc ≠ [] → NoDots (splitOn 47 u.path) ∧ ∀ p ∈ ps, NoDots (splitOn 47 p))  -- "dot segments under an authority excepted"
    (hq : u.netloc ≠ [] → u.path = [] → ∃ p ∈ ps, p ≠ [])              -- not all arguments empty on an empty path under an authority
    (hpath : u.netloc ≠ [] → (u.path = [] ∨ u.path.head? = some 47)) : -- old path empty or rooted under an authority
    makeChild e u ps false = .ok v →
      makeChild e u [joinC 47 (argSegs e true ps)] false = .ok v ∧
      pathDecoded e v =
        (if u.path = [] then (if u.netloc = [] then joinC 47 (argSegs e true ps) else 47 :: joinC 47 (argSegs e true ps))
         else (if u.path.getLast? = some 47 then (pathDecoded e u).dropLast else pathDecoded e u) ++
           47 :: joinC 47 (argSegs e true ps)) ∧
      partsDecoded e v = (stripTrail (rawParts u)).map (uq e Gen.UNQUOTER) ++ argSegs e true ps ∧
      name e v = .ok ((argSegs e true ps).getLast?.getD []) := by
  intro h
  obtain ⟨hJ, hJnd, hJne⟩ := makeChild_joined e u ps v hne hps hnd hq hpath h
  obtain ⟨hJp, hJn⟩ := joinedArgs_good e ps hps
  obtain ⟨_, _, hpathD⟩ := C06_child_slash_readback e u (joinedArgs e ps) v hJp hJn
    (fun hn => ⟨(hnd hn).1, hJnd hn⟩) hJne hpath hJ
  obtain ⟨hparts, hname⟩ := C06_joinpath_parts_readback e u ps v hne hps hnd hq hpath h
  exact ⟨hJ, hpathD, hparts, hname⟩

end JoinPart

/-! ## the `/` / joinpath read-back theorems for REACHABLE URLs

  `ReachC e u` (C03Reach.lean): `u` is obtainable through the auto-encoding API — constructor on a Python string,
  `build(encoded=False)`, every modifier with Python-string arguments, `join`.  For such `u` with an authority the
  stored path has no dot segment and is empty or rooted (C15_headline_reachable), so the side conditions `hold` /
  first half of `hnd` / `hpath` of the read-back theorems are discharged: only conditions on the ARGUMENTS remain. -/

section ReachPart
open PathLemmas PathAlg PathMore EntryLemmas

/-- the two side conditions on the OLD url, for every reachable URL -/
theorem C06_reachable_old_path_ok (e : Env) (u : Url) (hr : ReachC e u) :
    (u.netloc ≠ [] → NoDots (splitOn 47 u.path)) ∧ (u.netloc ≠ [] → (u.path = [] ∨ u.path.head? = some 47)) :=
  ⟨fun hn => (C15_headline_reachable e u hr hn).1, fun hn => (C15_headline_reachable e u hr hn).2⟩

/-- "/ or joinpath" — ONE segment that may contain '.', on a reachable URL: reads back through `name` -/
theorem C06_reach_child_readback (e : Env) (u : Url) (hr : ReachC e u) (s : Str) (v : Url)
    (hs : PyStr s) (hsur : NoSurrogate s)                 -- model artefact; "lone surrogates … excepted"
    (h47 : 47 ∉ s) (hne : s ≠ [])                         -- ONE non-empty segment
    (hdot : s ≠ dot ∧ s ≠ dotdot) :                       -- "dot segments … excepted"
    makeChild e u [s] false = .ok v → name e v = .ok s :=
  C06_child_name_readback_dots e u s v hs hsur h47 hne hdot (C06_reachable_old_path_ok e u hr).1
    (C06_reachable_old_path_ok e u hr).2

/-- "/ or joinpath" — a text with '/' and '.', on a reachable URL: `parts`, `name` and `path` -/
theorem C06_reach_child_slash_readback (e : Env) (u : Url) (hr : ReachC e u) (s : Str) (v : Url)
    (hs : PyStr s) (hsur : NoSurrogate s)                 -- model artefact; "lone surrogates … excepted"
    (hnd : u.netloc ≠ [] → NoDots (splitOn 47 s))         -- "dot segments under an authority excepted" (the ARGUMENT only)
    (hq : u.netloc ≠ [] → u.path = [] → s ≠ []) :         -- "http://h" / "" is excluded (the result path would be "/")
    makeChild e u [s] false = .ok v →
      partsDecoded e v = (stripTrail (rawParts u)).map (uq e Gen.UNQUOTER) ++ splitOn 47 s ∧
      name e v = .ok ((splitOn 47 s).getLast?.getD []) ∧
      pathDecoded e v =
        (if u.path = [] then (if u.netloc = [] then s else 47 :: s)
         else (if u.path.getLast? = some 47 then (pathDecoded e u).dropLast else pathDecoded e u) ++ 47 :: s) :=
  C06_child_slash_readback e u s v hs hsur
    (fun hn => ⟨(C06_reachable_old_path_ok e u hr).1 hn, hnd hn⟩) hq (C06_reachable_old_path_ok e u hr).2

/-- "joinpath" — several arguments, on a reachable URL: `parts`, `name` and `path` -/
theorem C06_reach_joinpath_readback (e : Env) (u : Url) (hr : ReachC e u) (ps : List Str) (v : Url)
    (hne : ps ≠ [])                                       -- at least one argument
    (hps : ∀ p ∈ ps, PyStr p ∧ NoSurrogate p)             -- model artefact; "lone surrogates … excepted"
    (hnd : u.netloc ≠ [] → ∀ p ∈ ps, NoDots (splitOn 47 p))   -- "dot segments under an authority excepted" (the ARGUMENTS only)
    (hq : u.netloc ≠ [] → u.path = [] → ∃ p ∈ ps, p ≠ []) :   -- not all arguments empty on an empty path under an authority
    makeChild e u ps false = .ok v →
      partsDecoded e v = (stripTrail (rawParts u)).map (uq e Gen.UNQUOTER) ++ argSegs e true ps ∧
      name e v = .ok ((argSegs e true ps).getLast?.getD []) ∧
      pathDecoded e v =
        (if u.path = [] then (if u.netloc = [] then joinC 47 (argSegs e true ps) else 47 :: joinC 47 (argSegs e true ps))
         else (if u.path.getLast? = some 47 then (pathDecoded e u).dropLast else pathDecoded e u) ++
           47 :: joinC 47 (argSegs e true ps)) := by
  intro h
  obtain ⟨_, h2, h3, h4⟩ := C06_joinpath_path_readback e u ps v hne hps
    (fun hn => ⟨(C06_reachable_old_path_ok e u hr).1 hn, hnd hn⟩) hq (C06_reachable_old_path_ok e u hr).2 h
  exact ⟨h3, h4, h2⟩

end ReachPart


/-! ## when `URL.host` consults the IDNA decoder

  `URL.host`: `raw` is returned as it is when `raw[-1].isdigit() and "xn--" not in raw or ":" in raw`; otherwise the
  result is `_idna_decode(raw)` — an ORACLE in the model (`idna.decode`, falling back to the stdlib codec), consulted
  for EVERY other name, with or without "xn--" ("example.com" too).  So the oracle-free names are exactly those ending
  in a digit that contain no "xn--" (and the IPv6 texts). -/

/-- PRECISELY when `host` is computed without the oracle, for an ASCII raw host: (a) last character a digit and no
    "xn--", or a ':' inside → `host` IS the raw host, whatever the oracles are; (b) otherwise `host` is the answer
    of `_idna_decode` — with no table entry the model reports the miss (so the oracle IS consulted), and for any
    answer `r` of the IDNA decoder `host` is `r`. -/
theorem C06_host_oracle_use (e : Env) (u : Url) (raw : Str) (hraw : rawHost e u = .ok (some raw))
    (hasc : isAscii raw = true) :
    ((((∃ l, raw.getLast? = some l ∧ isDigitC l = true) ∧ hasSub [120, 110, 45, 45] raw = false) ∨ 58 ∈ raw) →
      host e u = .ok (some raw)) ∧
    (¬ (((∃ l, raw.getLast? = some l ∧ isDigitC l = true) ∧ hasSub [120, 110, 45, 45] raw = false) ∨ 58 ∈ raw) →
      host e u = (idnaDecode e.o raw).map some ∧
      (e.o.idnaDec raw = none → host e u = .error (.oracleMiss "idnaDec" raw)) ∧
      (∀ r, e.o.idnaDec raw = some (some r) → host e u = .ok (some r))) := by
  have hlast : ∀ l, raw.getLast? = some l → l < 128 := by
    intro l hl
    have := List.mem_of_getLast? hl
    rw [isAscii_iff] at hasc
    exact hasc l this
  constructor
  · rintro (⟨⟨l, hl, hd⟩, hx⟩ | h58)
    · exact host_of_ip_looking e u raw hraw (Or.inl ⟨l, hl, hd, hx⟩)
    · exact host_of_ip_looking e u raw hraw (Or.inr ⟨h58, fun l hl => isDigitChar_ascii _ (hlast l hl)⟩)
  · intro hno
    have h58 : 58 ∉ raw := fun h => hno (Or.inr h)
    -- no "xn--": then the last character is no digit, by `hno`
    have hnd : (∀ l, raw.getLast? = some l → isDigitC l = false) ∨ hasSub [120, 110, 45, 45] raw = true :=
      (Bool.eq_false_or_eq_true _).symm.imp_left fun hx l hl =>
        Bool.eq_false_iff.2 fun hd => hno (Or.inl ⟨⟨l, hl, hd⟩, hx⟩)
    have hh := host_of_regname e u raw hraw hasc h58 hnd
    refine ⟨hh, ?_, ?_⟩
    · intro hmiss
      rw [hh]
      simp [idnaDecode, hasc, hmiss, ask, bind, Except.bind, Except.map]
    · intro r hr
      rw [hh]
      simp [idnaDecode, hasc, hr, ask, bind, Except.bind, Except.map, pure, Except.pure]

/-- C06_headline_build_host_readback (i) WITHOUT any oracle hypothesis, for the names where `URL.host` consults no
    oracle: `build(host=x)` for an ASCII registered name `x` that ENDS IN A DIGIT and has no "xn--" (any letter
    case; e.g. "Srv-01", "Node.K8S", "h1"): `raw_host` and `host` are `x` lower-cased. -/
theorem C06_build_host_readback_no_oracle (e : Env) (a : BuildArgs) (v : Url) (h : build e a = .ok v)
    (henc : a.encoded = false)      -- auto-encoding mode
    (hauth : a.authority = [])      -- `authority=` takes a raw authority text (`C06_build_authority_readback`)
    (hasc : isAscii a.host = true)
    (hnip : parseIP (partition 37 a.host).1 = none)                       -- the text is not an IP literal
    (hd : ∃ l, a.host.getLast? = some l ∧ isDigitC l = true)              -- it ends in a digit
    (hx : hasSub [120, 110, 45, 45] (lower a.host) = false) :             -- no "xn--" (in any letter case)
    rawHost e v = .ok (some (lower a.host)) ∧ host e v = .ok (some (lower a.host)) := by
  obtain ⟨l, hl, hdl⟩ := hd
  have hhost : a.host ≠ [] := by
    intro h0; rw [h0] at hl; cases hl
  obtain ⟨hraw, hh⟩ := C06_build_host_readback_lower e a v h henc hauth hhost hasc (Or.inl hnip)
  refine ⟨hraw, hh ?_⟩
  intro hc
  exfalso
  have hll : (lower a.host).getLast? = some (lowerC l) := by
    simp [lower, List.getLast?_map, hl]
  have hlc : lowerC l = l := by
    simp only [isDigitC, Bool.and_eq_true, decide_eq_true_eq] at hdl
    unfold lowerC
    rw [if_neg (by omega)]
  rcases hc with hc | hc
  · have := hc l (by rw [hll, hlc])
    rw [hdl] at this
    cases this
  · rw [hx] at hc; cases hc

/-- for EVERY other ASCII registered name (not ending in a digit, or containing "xn--") the decoded `host` of
    `build(host=x)` is whatever `_idna_decode` answers for the lower-cased name: the read-back holds IF AND ONLY IF
    that answer is the name itself — the oracle hypothesis of C06_headline_build_host_readback (i) cannot be dropped. -/
theorem C06_build_host_readback_iff_oracle (e : Env) (a : BuildArgs) (v : Url) (h : build e a = .ok v)
    (henc : a.encoded = false) (hauth : a.authority = []) (hhost : a.host ≠ [])
    (hasc : isAscii a.host = true)
    (hnip : parseIP (partition 37 a.host).1 = none ∨
      (58 ∉ a.host ∧ ∀ l, a.host.getLast? = some l → isDigitC l = false))
    (hor : (∀ l, (lower a.host).getLast? = some l → isDigitC l = false) ∨
      hasSub [120, 110, 45, 45] (lower a.host) = true) :
    host e v = (idnaDecode e.o (lower a.host)).map some ∧
    (host e v = .ok (some (lower a.host)) ↔ idnaDecode e.o (lower a.host) = .ok (lower a.host)) := by
  obtain ⟨hraw, _⟩ := C06_build_host_readback_lower e a v h henc hauth hhost hasc hnip
  obtain ⟨sc, eh, _, _, heh, _⟩ := build_netloc_form e a v h henc hauth hhost
  obtain ⟨hlow, hreg⟩ := encodeHost_ascii_regname e.o a.host eh hasc hnip heh
  have h58 : 58 ∉ lower a.host := by rw [← hlow]; exact mem_false_iff.mp (HostLemmas.notRegName_false_no_colon hreg)
  have hh := host_of_regname e v (lower a.host) hraw (HostLemmas.isAscii_lower hasc) h58 hor
  refine ⟨hh, ?_⟩
  rw [hh]
  cases idnaDecode e.o (lower a.host) with
  | error err => simp [Except.map]
  | ok r => simp [Except.map]


/-! ## concrete oracles for which the read-back through `host` FAILS -/

namespace R2
/-- what the `idna` package really answers for this name: the Unicode form -/
def oIdna : Oracles :=
  { Oracles.empty with idnaDec := fun s =>
      if s = "xn--bcher-kva.de".toStr then some (some [98, 252, 99, 104, 101, 114, 46, 100, 101]) else none }
/-- a HYPOTHETICAL decoder that upper-cases one name -/
def oUp : Oracles :=
  { Oracles.empty with idnaDec := fun s => if s = "example.com".toStr then some (some "EXAMPLE.COM".toStr) else none }
end R2

/-- the oracle hypothesis is needed, (a) for names WITH "xn--" — and there the failure is the library's real
    behaviour, not hypothetical: `URL.build(host="XN--Bcher-KVA.de").host == "bücher.de"` (`raw_host` is the
    lower-cased A-label "xn--bcher-kva.de"); (b) for names WITHOUT "xn--" not ending in a digit: with a (hypothetical)
    decoder answering "EXAMPLE.COM" for "example.com", `build(host="Example.COM").host` is "EXAMPLE.COM"; with no
    answer at all the model reports the oracle miss — `host` DOES consult the decoder for "example.com". -/
theorem C06_build_host_readback_fails_for_oracle (b : Backend) :
    (∃ v, build ⟨b, oIdna⟩ { host := "XN--Bcher-KVA.de".toStr } = .ok v ∧
      rawHost ⟨b, oIdna⟩ v = .ok (some "xn--bcher-kva.de".toStr) ∧
      host ⟨b, oIdna⟩ v = .ok (some [98, 252, 99, 104, 101, 114, 46, 100, 101]) ∧
      host ⟨b, oIdna⟩ v ≠ .ok (some "xn--bcher-kva.de".toStr)) ∧
    (∃ v, build ⟨b, oUp⟩ { host := "Example.COM".toStr } = .ok v ∧
      rawHost ⟨b, oUp⟩ v = .ok (some "example.com".toStr) ∧
      host ⟨b, oUp⟩ v = .ok (some "EXAMPLE.COM".toStr) ∧ host ⟨b, oUp⟩ v ≠ .ok (some "example.com".toStr)) ∧
    (∃ v, build ⟨b, Oracles.empty⟩ { host := "Example.COM".toStr } = .ok v ∧
      host ⟨b, Oracles.empty⟩ v = .error (.oracleMiss "idnaDec" "example.com".toStr)) := by
  unfold oIdna oUp
  refine ⟨⟨fromParts [] "xn--bcher-kva.de".toStr [] [] [], ?_, ?_, ?_, ?_⟩,
    ⟨fromParts [] "example.com".toStr [] [] [], ?_, ?_, ?_, ?_⟩,
    ⟨fromParts [] "example.com".toStr [] [] [], ?_, ?_⟩⟩
  all_goals str_lits
  · cases b <;> decide +kernel
  · cases b <;> decide +kernel
  · cases b <;> decide +kernel
  · cases b <;> decide +kernel
  · cases b <;> decide +kernel
  · cases b <;> decide +kernel
  · cases b <;> decide +kernel
  · cases b <;> decide +kernel
  · cases b <;> decide +kernel
  · cases b <;> decide +kernel

/-! ## non-vacuity -/

namespace R2
/-- upper-case scheme and host, '%' ' ' ':' '@' in the userinfo, a port -/
def exAuth : BuildArgs := { scheme := "HTTP".toStr, authority := "us%41er:p%40 w:@x@Example.COM:8080".toStr }
def exAuthNp : NetlocParts :=
  { user := some "us%41er".toStr, password := some "p%40 w:@x".toStr, host := some "Example.COM".toStr,
    port := some 8080 }
def exAuthUrl : Url := fromParts "http".toStr "us%2541er:p%2540%20w%3A%40x@example.com:8080".toStr [] [] []
theorem exAuth_ok (b : Backend) : build ⟨b, Oracles.empty⟩ exAuth = .ok exAuthUrl := by
  unfold exAuth exAuthUrl; str_lits
  cases b <;> decide +kernel
theorem exAuth_split : splitNetloc Oracles.empty exAuth.authority = .ok exAuthNp := by
  unfold exAuth exAuthNp; str_lits; decide +kernel
theorem exAuth_host : HostTextOK "Example.COM".toStr := hostText_name (by decide +kernel) (by decide +kernel)
theorem exAuth_py : PyStr exAuth.authority := by unfold exAuth; str_lits; decide +kernel
theorem exAuth_wrap : 58 ∉ "Example.COM".toStr → 91 ∉ (rpartition 64 exAuth.authority).2.2 := by
  unfold exAuth; str_lits; decide +kernel
/-- an IPv6 literal with zone id, no userinfo, the default port of the scheme -/
def exAuth6 : BuildArgs := { scheme := "https".toStr, authority := "[FE80::1%Eth0]:443".toStr }
def exAuth6Url : Url := fromParts "https".toStr "[fe80::1%Eth0]".toStr [] [] []
theorem exAuth6_ok (b : Backend) : build ⟨b, Oracles.empty⟩ exAuth6 = .ok exAuth6Url := by
  unfold exAuth6 exAuth6Url; str_lits
  cases b <;> decide +kernel
def exJ : Url := fromParts "http".toStr "h".toStr "/x/y/".toStr "k=v".toStr "f".toStr
theorem exJ_child (b : Backend) : makeChild ⟨b, Oracles.empty⟩ exJ ["a.b/c d".toStr, "e/".toStr, "f.g".toStr] false =
    .ok (fromParts "http".toStr "h".toStr "/x/y/a.b/c%20d/e/f.g".toStr [] []) := by
  unfold exJ; str_lits
  cases b <;> decide +kernel
end R2

-- user / password verbatim, raw host lower-cased, explicit port, port
example (b : Backend) :
    user ⟨b, Oracles.empty⟩ exAuthUrl = .ok (some "us%41er".toStr) ∧
    password ⟨b, Oracles.empty⟩ exAuthUrl = .ok (some "p%40 w:@x".toStr) ∧
    explicitPort ⟨b, Oracles.empty⟩ exAuthUrl = .ok (some 8080) := by
  obtain ⟨sc, r, h1, _, _, _, _, _, _, _, h9, h10, _, h12, _⟩ :=
    C06_build_authority_readback ⟨b, Oracles.empty⟩ exAuth exAuthUrl (exAuth_ok b) rfl exAuth_py exAuthNp
      "Example.COM".toStr exAuth_split rfl exAuth_host exAuth_wrap
  have hsc : sc = "http".toStr := by
    have : lowerAny ⟨b, Oracles.empty⟩ exAuth.scheme = .ok "http".toStr := by cases b <;> decide +kernel
    rw [this] at h1; exact (Except.ok.inj h1).symm
  refine ⟨h9 (by intro s hs; cases hs; decide +kernel), h10 (by intro s hs; cases hs; decide +kernel), ?_⟩
  rw [h12, hsc]; decide +kernel
example (b : Backend) : rawHost ⟨b, Oracles.empty⟩ exAuthUrl = .ok (some "example.com".toStr) :=
  (C06_build_authority_host_name ⟨b, Oracles.empty⟩ exAuth exAuthUrl (exAuth_ok b) rfl exAuth_py exAuthNp
    "Example.COM".toStr exAuth_split rfl exAuth_host exAuth_wrap
    (Or.inr ⟨by decide +kernel, by
      intro l hl
      have h77 : "Example.COM".toStr.getLast? = some 77 := by decide +kernel
      rw [h77] at hl; cases hl; decide +kernel⟩)).1
example (b : Backend) :
    rawHost ⟨b, Oracles.empty⟩ exAuth6Url = .ok (some "fe80::1%Eth0".toStr) ∧
    host ⟨b, Oracles.empty⟩ exAuth6Url = .ok (some "fe80::1%Eth0".toStr) := by
  have := C06_build_authority_host_ipv6 ⟨b, Oracles.empty⟩ exAuth6 exAuth6Url (exAuth6_ok b) rfl
    (by unfold exAuth6; str_lits; decide +kernel)
    { user := none, password := none, host := some "FE80::1%Eth0".toStr, port := some 443 }
    "FE80::1%Eth0".toStr (show splitNetloc Oracles.empty _ = _ by unfold exAuth6; str_lits; decide +kernel) rfl
    (by
      str_lits
      exact hostText_ipv6_zone (a := "FE80::1".toStr) (z := "Eth0".toStr) (h8 := [65152, 0, 0, 0, 0, 0, 0, 1])
        (by decide +kernel) (by decide +kernel) (by decide +kernel))
    [65152, 0, 0, 0, 0, 0, 0, 1] (by decide +kernel)
  have hr : ipv6ToStr [65152, 0, 0, 0, 0, 0, 0, 1] ++
      (if (partition 37 "FE80::1%Eth0".toStr).2.1 then [37] ++ (partition 37 "FE80::1%Eth0".toStr).2.2 else [])
      = "fe80::1%Eth0".toStr := by decide +kernel
  simp only [hr] at this
  exact this
-- the `make_netloc`-shaped form: its hypotheses are satisfiable
example : UserOK (some "us%41er".toStr) ∧ HostOK "Example.COM".toStr ∧
    makeNetloc id (some "us%41er".toStr) (some "p%40 w:@x".toStr) (some (bracket "Example.COM".toStr)) (some 8080) false
      = exAuth.authority := by unfold exAuth; str_lits; decide +kernel
-- a string query with '%', '+', empty pieces, an empty key, '=' in a value
example (b : Backend) (v : Url)
    (h : build ⟨b, Oracles.empty⟩ { query := .str "a=%41+b&&c&=d&e=f=g".toStr } = .ok v) :
    queryPairs v = [("a".toStr, "%41 b".toStr), ("c".toStr, []), ([], "d".toStr), ("e".toStr, "f=g".toStr)] := by
  rw [(C06_build_query_str_readback _ _ v h "a=%41+b&&c&=d&e=f=g".toStr rfl (by str_lits; decide +kernel)
    (by str_lits; decide +kernel) (by str_lits; decide +kernel)).2.1]
  str_lits; decide +kernel
example (b : Backend) (v : Url) (h : build ⟨b, Oracles.empty⟩ { query := .str "a=b".toStr } = .ok v) :
    queryPairs v = [("a".toStr, "b".toStr)] :=
  C06_build_query_str_single _ _ v h "a".toStr "b".toStr rfl (by decide +kernel) (by decide +kernel) (by decide +kernel) (by decide +kernel)
-- with_user("") keeps the password
example (b : Backend) :
    (withUser ⟨b, Oracles.empty⟩ (fromParts "http".toStr "me:pw@[::1]:8080".toStr [] [] []) (some [])).map (·.netloc)
      = .ok ":pw@[::1]:8080".toStr := by
  have := (C06_with_user_empty_written ⟨b, Oracles.empty⟩ id (some "me".toStr) (some "pw".toStr) "::1".toStr (some 8080)
    "http".toStr [] [] [] (by decide +kernel) (by decide +kernel) (by intro p hp; cases hp; decide +kernel)).1
  have e1 : makeNetloc id (some "me".toStr) (some "pw".toStr) (some (bracket "::1".toStr)) (some 8080) false
      = "me:pw@[::1]:8080".toStr := by decide +kernel
  rw [e1] at this
  rw [this]
  decide +kernel
-- every kind of argument on a URL without authority
example (e : Env) : withUser e (fromParts "mailto".toStr [] "a@b".toStr [] []) (some "x".toStr) = .error .valueError ∧
    withPassword e (fromParts [] [] "/p".toStr [] []) none = .error .valueError :=
  ⟨(C06_with_user_password_no_authority e _ rfl).1 _, (C06_with_user_password_no_authority e _ rfl).2 _⟩
-- three arguments with '/', '.', a trailing '/', a space
example : ∀ b : Backend, makeChild ⟨b, Oracles.empty⟩ exJ ["a.b/c d".toStr, "e/".toStr, "f.g".toStr] false =
    .ok (fromParts "http".toStr "h".toStr "/x/y/a.b/c%20d/e/f.g".toStr [] []) := exJ_child
example (b : Backend) :
    pathDecoded ⟨b, Oracles.empty⟩ (fromParts "http".toStr "h".toStr "/x/y/a.b/c%20d/e/f.g".toStr [] []) =
      "/x/y/a.b/c d/e/f.g".toStr := by
  have := (C06_joinpath_path_readback ⟨b, Oracles.empty⟩ exJ ["a.b/c d".toStr, "e/".toStr, "f.g".toStr] _
    (by decide +kernel) (by decide +kernel)
    (by intro _; refine ⟨?_, ?_⟩ <;> (unfold PathLemmas.NoDots; decide +kernel))
    (by intro _ hp; exact absurd hp (by decide +kernel)) (by intro _; right; decide +kernel) (exJ_child b)).2.1
  rw [this]
  cases b <;> decide +kernel
-- a reachable URL (constructor result) satisfies `ReachC`
example (b : Backend) (u : Url) (h : encodeUrl ⟨b, Oracles.empty⟩ "http://h/x/./y/../z/".toStr = .ok u) :
    ReachC ⟨b, Oracles.empty⟩ u := ReachC.ctor _ u (by decide +kernel) h
-- "Srv-01" ends in a digit, has no "xn--": `host` without any oracle
example (b : Backend) (v : Url) (h : build ⟨b, Oracles.empty⟩ { host := "Srv-01".toStr } = .ok v) :
    host ⟨b, Oracles.empty⟩ v = .ok (some "srv-01".toStr) :=
  (C06_build_host_readback_no_oracle _ _ v h rfl rfl (by decide +kernel) (by decide +kernel) ⟨49, by decide +kernel, by decide +kernel⟩
    (by decide +kernel)).2


namespace R2
/-- a constructor result WITH pre-filled cache, IPv6 brackets, explicit port -/
def sA : Str := "HTTP://Me:pw@[::1]:8080/p?k=v#f".toStr
def uA : Url :=
  { scheme := "http".toStr, netloc := "Me:pw@[::1]:8080".toStr, path := "/p".toStr, query := "k=v".toStr,
    fragment := "f".toStr,
    pre := some { rawHost := some "::1".toStr, explicitPort := some 8080, rawUser := some "Me".toStr,
                  rawPassword := some "pw".toStr } }
def e0 : Env := { b := .py, o := Oracles.empty }
theorem uA_ok : encodeUrl e0 sA = .ok uA := by unfold sA uA; str_lits; decide +kernel
theorem sA_good : GoodAuthority e0 sA :=
  C11_ctor_good_authority e0 sA
    { scheme := "http".toStr, netloc := "Me:pw@[::1]:8080".toStr, path := "/p".toStr, query := "k=v".toStr,
      fragment := "f".toStr }
    { user := some "Me".toStr, password := some "pw".toStr, host := some "::1".toStr, port := some 8080 }
    "::1".toStr (by unfold sA; str_lits; decide +kernel) (by unfold sA; str_lits; decide +kernel)
    (by str_lits; decide +kernel) rfl (by decide +kernel) (by decide +kernel)
theorem uA_written : Written id (pickleTwin uA) (some "Me".toStr) (some "pw".toStr) "::1".toStr (some 8080) :=
  ⟨rfl, by decide +kernel, by decide +kernel, by decide +kernel, by decide +kernel⟩
/-- a constructor result with dot segments in the input -/
def uR : Url :=
  { scheme := "http".toStr, netloc := "h".toStr, path := "/x/z/".toStr, query := [], fragment := [],
    pre := some { rawHost := some "h".toStr, explicitPort := none, rawUser := none, rawPassword := none } }
theorem uR_ok : encodeUrl e0 "http://h/x/./y/../z/".toStr = .ok uR := by unfold uR; str_lits; decide +kernel
end R2

-- a constructor result with cache: `URL("HTTP://Me:pw@[::1]:8080/p?k=v#f").with_user("")`
example : ∃ v, withUser e0 uA (some []) = .ok v ∧ user e0 v = .ok none ∧
    rawPassword e0 v = .ok (some "pw".toStr) ∧ v.netloc = ":pw@[::1]:8080".toStr ∧ withUser e0 uA none ≠ .ok v := by
  obtain ⟨v, h1, h2, _, h4, _, _, _, h8, _, _, _, _, h13⟩ :=
    C06_ctor_with_user_empty e0 id sA uA _ _ _ _ uA_ok sA_good uA_written
  refine ⟨v, h1, h2, h4, ?_, ?_⟩
  · rw [h8]; decide +kernel
  · intro hc; exact absurd (h13.1 hc) (by decide +kernel)
-- the `make_netloc`-shaped form, applied
example (b : Backend) : user ⟨b, Oracles.empty⟩ exAuthUrl = .ok (some "us%41er".toStr) := by
  obtain ⟨_, _, _, _, _, h, _⟩ := C06_build_authority_written_readback ⟨b, Oracles.empty⟩ exAuth exAuthUrl (exAuth_ok b)
    rfl (some "us%41er".toStr) (some "p%40 w:@x".toStr) "Example.COM".toStr (some 8080)
    (by unfold exAuth; str_lits; decide +kernel) exAuth_py
    (by decide +kernel) (by decide +kernel) exAuth_host (by intro p hp; cases hp; decide +kernel)
    (by intro s hs; cases hs; decide +kernel) (by intro s hs; cases hs; decide +kernel)
  exact h
-- a reachable URL: `URL("http://h/x/./y/../z/") / "a.b/c d"`
example (v : Url) (h : makeChild e0 uR ["a.b/c d".toStr] false = .ok v) :
    pathDecoded e0 v = "/x/z/a.b/c d".toStr := by
  have := (C06_reach_child_slash_readback e0 uR (ReachC.ctor _ uR (by decide +kernel) uR_ok) "a.b/c d".toStr v
    (by decide +kernel) (by decide +kernel) (by intro _; unfold PathLemmas.NoDots; decide +kernel) (by intro _ _; decide +kernel) h).2.2
  rw [this]
  decide +kernel
-- the hypotheses of the "iff" are satisfiable ("Example.COM" does not end in a digit)
example (b : Backend) (v : Url) (h : build ⟨b, oUp⟩ { host := "Example.COM".toStr } = .ok v) :
    host ⟨b, oUp⟩ v ≠ .ok (some "example.com".toStr) := by
  have := (C06_build_host_readback_iff_oracle ⟨b, oUp⟩ _ v h rfl rfl (by decide +kernel) (by decide +kernel)
    (Or.inl (by decide +kernel)) (Or.inl (by
      intro l hl
      have h109 : (lower "Example.COM".toStr).getLast? = some 109 := by decide +kernel
      rw [h109] at hl; cases hl; decide +kernel))).2
  intro hc
  have hd : idnaDecode oUp (lower "Example.COM".toStr) ≠ .ok (lower "Example.COM".toStr) := by decide +kernel
  exact hd (this.1 hc)

end Yarl
