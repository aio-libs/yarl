/-
  C03Idn.lean — property C03 ("URL(str(u)) is u again; case folding / IDNA are idempotent"), IDN hosts
  (closes C03 gap 2, item "IDN hosts (A-labels / IDNA oracle — 'IDNA' in the idempotence sentence has NO theorem)").

  `HostFix` (the host clause of `NetlocCanon`) was proved for three families only.  Here:
    * every sane A-label text (`IdnaAnswerSane`, C16Idn.lean: non-empty lower-case reg-name text, digit-ending
      or not) satisfies `HostFix` — no assumption about the `idna` package, the text is ASCII
      (`C03_idn_hostFix_answer`; `C03_hostFix_plain` for the even weaker "plain host characters");
    * under the assumption about the package (`IdnaSaneAt`, stated once in C16Idn.lean) what the constructor,
      `build` and `with_host` store for a NON-ASCII host is such a text, so `NetlocCanon` holds for it
      (`C03_idn_netlocCanon_ctor`, `C03_idn_withHost_netArgs`) and `C03_fixed_point_of_canon` /
      `C03_reachable_fixed_point` / `C03_op_sequence_fixed_point` apply: `C03_idn_fixed_point`,
      `C03_idn_ctor_fixed_point` ("IDNA is idempotent": the second parse does not even reach IDNA);
    * the assumption is needed: `C03_idn_needs_sane` (hostile tables of C16Idn.lean).
-/
import YarlProofs.C16Idn
import YarlProofs.C03Netloc
namespace Yarl
open Idn HostLemmas NetlocLemmas HumanLemmas FixLemmas

/-- a FOURTH host family for `HostFix`, containing `hostFix_basic` and the reg-names ending in a digit:
    any non-empty text of plain host characters (visible ASCII, no upper case, none of `/ ? # : @ [ ]`) -/
theorem C03_hostFix_plain (o : Oracles) (h : Str) (hne : h ≠ []) (hch : ∀ c ∈ h, hostChar c = true) :
    HostFix o h := hostFix_plain o hne hch

/-- sane A-label text satisfies `HostFix` -/
theorem C03_idn_hostFix_answer (o : Oracles) (answer : Str) (ha : IdnaAnswerSane answer) : HostFix o answer :=
  hostFix_sane o ha

/-- what `_encode_host` returns for a non-ASCII host satisfies `HostFix`, under the assumption -/
theorem C03_idn_hostFix (o : Oracles) (h r : Str) (v : Bool) (hna : isAscii h = false)
    (hip : parseIP (partition 37 h).1 = none) (hs : IdnaSaneAt o h) :
    encodeHost o h v = .ok r → HostFix o r := C16_idn_hostFix o h r v hna hip hs

/-- `NetlocCanon` for any authority the library writes around a sane A-label host -/
theorem C03_idn_netlocCanon (e : Env) (u : Url) (user pw : Option Str) (a : Str) (port : Option Nat)
    (hnet : u.netloc = authText user pw a port) (hu : UserInfoOK e.b user pw) (ha : IdnaAnswerSane a)
    (hp : ∀ p, port = some p → p ≤ 65535) (hpre : u.pre = none ∨ u.pre = some (preOf user pw a port)) :
    NetlocCanon e u :=
  NetlocCanon.auth user pw a port hnet hu (hostFix_sane e.o ha) hp hpre

/-- the side condition of `C03_applyOp_netlocCanon` / `C03_op_sequence_fixed_point` for `with_host(h)` with a
    non-ASCII `h`: validation is on, so the reg-name screen is checked by the library; all that is assumed of
    the package is a non-empty answer -/
theorem C03_idn_withHost_netArgs (e : Env) (h : Str) (hna : isAscii h = false)
    (hip : parseIP (partition 37 h).1 = none) (hne : ∀ r, idnaEncode e.o h = .ok r → r ≠ []) :
    (UOp.withHost h).NetArgs e := by
  intro eh he
  obtain ⟨a, hi, ⟨_, rfl, hn⟩ | ⟨h58, hres, hz⟩⟩ := C16_idna_validated e.o h eh hna hip he
  · have hsa : IdnaAnswerSane eh := ⟨hne eh hi, hn⟩
    exact ⟨eh, (bracket_of_no_colon (sane_no hsa (by decide))).symm, hostFix_sane e.o hsa⟩
  · -- (fix 3fbf5b4) the answer holds a ':' and spells an IP literal: its canonical form is a fixed point as well
    exact NetShape.hostFix_of_ipRes_colon e.o (mem_iff.mp h58) hres hz

/-- the fixed point for a URL whose authority is written around a sane A-label host (the general form;
    `CanonUrl` is the invariant every reachable URL has, `C03_reachable_canon`) -/
theorem C03_idn_fixed_point_general (e : Env) (u : Url) (hc : CanonUrl e.b u) (user pw : Option Str) (a : Str)
    (port : Option Nat) (hnet : u.netloc = authText user pw a port) (hu : UserInfoOK e.b user pw)
    (ha : IdnaAnswerSane a) (hp : ∀ p, port = some p → p ≤ 65535)
    (hpre : u.pre = none ∨ u.pre = some (preOf user pw a port)) (hs : SchemeOK' u.scheme) (hg : C03Guards u) :
    ∃ s u', str e u = .ok s ∧ encodeUrl e s = .ok u' ∧ str e u' = .ok s ∧ u'.scheme = u.scheme ∧
      u'.path = C07_strPath u ∧ u'.query = u.query ∧ u'.fragment = u.fragment ∧
      ((∀ p, explicitPort e u = .ok (some p) → some p ≠ defaultPort u.scheme) → u'.netloc = u.netloc) ∧
      Yarl.port e u' = Yarl.port e u ∧ rawHost e u' = rawHost e u ∧ rawUser e u' = rawUser e u ∧
      rawPassword e u' = rawPassword e u ∧ CanonUrl e.b u' ∧ NetlocCanon e u' :=
  C03_fixed_point_of_canon e u hc (C03_idn_netlocCanon e u user pw a port hnet hu ha hp hpre) hs hg

/-- exact form for an authority written around a sane A-label host: the constructor applied to the printed
    text returns THE SAME URL record (stored parts and cache), so `URL(str(u)) = u` literally -/
theorem C03_idn_fixed_point_authority (e : Env) (scheme : Str) (user pw : Option Str) (a : Str)
    (port : Option Nat) (path query fragment : Str) (hs : SchemeOK scheme) (hu : UserInfoOK e.b user pw)
    (ha : IdnaAnswerSane a) (hp : PortOK scheme port) (hc : CompOK e.b path query fragment) :
    let u := urlOf scheme (authText user pw a port) path query fragment (preOf user pw a port)
    str e u = .ok (composeUrl scheme (authText user pw a port) path query fragment) ∧
    encodeUrl e (composeUrl scheme (authText user pw a port) path query fragment) = .ok u ∧
    rawHost e u = .ok (some a) ∧ NetlocCanon e u := by
  intro u
  obtain ⟨h1, h2⟩ := identity_authority e scheme user pw a port path query fragment hs hu (hostFix_sane e.o ha) hp hc
  exact ⟨h2, h1, rfl, C03_idn_netlocCanon e u user pw a port rfl hu ha hp.range (Or.inr rfl)⟩

/-- the instance asked for: the URL `http://answer/path` (as the constructor leaves it: cache filled) prints
    as `"http://" ++ answer ++ "/path"`, and parsing that gives the same URL again — same netloc, same
    raw host — without consulting IDNA -/
theorem C03_idn_fixed_point (e : Env) (answer : Str) (ha : IdnaAnswerSane answer) :
    let u := urlOf "http".toStr answer "/path".toStr [] [] (preHost answer)
    str e u = .ok ("http://".toStr ++ answer ++ "/path".toStr) ∧
    encodeUrl e ("http://".toStr ++ answer ++ "/path".toStr) = .ok u ∧
    rawHost e u = .ok (some answer) ∧ NetlocCanon e u := by
  intro u
  have h58 : 58 ∉ answer := sane_no ha (by decide)
  have h := C03_idn_fixed_point_authority e "http".toStr none none answer none "/path".toStr [] [] (by decide)
    (userInfoOK_none _) ha (IdGen.portOK_none _) (compOKB_sound (by cases e.b <;> decide +kernel))
  have hcomp : composeUrl "http".toStr answer "/path".toStr [] [] =
      "http://".toStr ++ answer ++ "/path".toStr := by
    simp [composeUrl, qPart, fPart, String.toStr]
  simp only [authText_host answer h58, hcomp] at h
  exact h

/-- … for what the library itself produced for a non-ASCII host `h`, under the assumption -/
theorem C03_idn_fixed_point_of_host (e : Env) (h answer : Str) (hs : IdnaSaneAt e.o h)
    (he : idnaEncode e.o h = .ok answer) :
    let u := urlOf "http".toStr answer "/path".toStr [] [] (preHost answer)
    str e u = .ok ("http://".toStr ++ answer ++ "/path".toStr) ∧
    encodeUrl e ("http://".toStr ++ answer ++ "/path".toStr) = .ok u ∧
    rawHost e u = .ok (some answer) ∧ NetlocCanon e u :=
  C03_idn_fixed_point e answer (idnaEncode_sane hs he)

/-- `NetlocCanon` (and the whole C03 machinery) for the constructor's result on an IDN input -/
theorem C03_idn_netlocCanon_ctor (e : Env) (sc h rp rf : Str) (vs : ValidScheme sc) (hi : IdnHostInput e.o h)
    (hs : IdnaSaneAt e.o h) (h35 : 35 ∉ rp) (h63 : 63 ∉ rp) (hc1 : Clean rp) (hc2 : Clean rf) (u : Url) :
    encodeUrl e (sc ++ 58 :: 47 :: 47 :: (h ++ (47 :: rp ++ fragTail rf))) = .ok u → NetlocCanon e u := by
  intro hu
  obtain ⟨a, _, hsa, hn, _, hpre, _⟩ := (C16_idn_ctor e sc h rp rf vs hi hs h35 h63 hc1 hc2).1 u hu
  exact C03_idn_netlocCanon e u none none a none
    (by rw [hn, authText_host a (sane_no hsa (by decide))]) (userInfoOK_none _) hsa
    (fun p hp => by cases hp) (Or.inr hpre)

/-- `u = URL("scheme://h/path#fragment")` with an IDN host `h`.  Under the assumption about the
    package, `u` stores the A-label `a`, and `URL(str(u))` prints the same, has the same scheme, netloc, path,
    query, fragment and raw host: case folding and IDNA are idempotent at URL level -/
theorem C03_idn_ctor_fixed_point (e : Env) (sc h rp rf : Str) (hsc : SchemeOK sc) (hi : IdnHostInput e.o h)
    (hs : IdnaSaneAt e.o h) (h35 : 35 ∉ rp) (h63 : 63 ∉ rp) (hc1 : Clean rp) (hc2 : Clean rf)
    (hpy : PyStr (sc ++ 58 :: 47 :: 47 :: (h ++ (47 :: rp ++ fragTail rf)))) (u : Url) :
    encodeUrl e (sc ++ 58 :: 47 :: 47 :: (h ++ (47 :: rp ++ fragTail rf))) = .ok u →
    ∃ a t u', idnaEncode e.o h = .ok a ∧ IdnaAnswerSane a ∧ u.netloc = a ∧ rawHost e u = .ok (some a) ∧
      str e u = .ok t ∧ encodeUrl e t = .ok u' ∧ str e u' = .ok t ∧ u'.scheme = u.scheme ∧
      u'.netloc = u.netloc ∧ u'.path = C07_strPath u ∧ u'.query = u.query ∧ u'.fragment = u.fragment ∧
      rawHost e u' = .ok (some a) ∧ eqKey u' = eqKey u ∧ CanonUrl e.b u' ∧ NetlocCanon e u' := by
  intro hu
  have vs : ValidScheme sc := ⟨hsc.1, fun c hc => (hsc.2 c hc).1, lower_of_no_upper (fun c hc => (hsc.2 c hc).2)⟩
  obtain ⟨a, ha, hsa, hn, hraw, hpre, hscheme⟩ := (C16_idn_ctor e sc h rp rf vs hi hs h35 h63 hc1 hc2).1 u hu
  have hnc := C03_idn_netlocCanon_ctor e sc h rp rf vs hi hs h35 h63 hc1 hc2 u hu
  have hne : u.netloc ≠ [] := by rw [hn]; exact hsa.nonempty
  have hsne : u.scheme ≠ [] := by rw [hscheme]; exact hsc.1
  obtain ⟨t, u', h1, h2, h3, h4, h5, h6, h7, h8, h9, _, _, h12, _, _, h15, h16⟩ :=
    C03_fixed_point_eq e u (C03_encodeUrl_canon e _ hpy u hu) hnc (Or.inr (hscheme ▸ hsc))
      (C03_guards_of_authority u hsne hne)
  have hep : explicitPort e u = .ok none := by
    unfold explicitPort net; rw [hpre]; rfl
  have hnd : NoDefaultPort e u := (noDefaultPort_iff hep).2 (fun p hp => by cases hp)
  exact ⟨a, t, u', ha, hsa, hn, hraw, h1, h2, h3, h4, h8.2 hnd, h5, h6, h7, by rw [h12]; exact hraw, h9.2 hnd, h15, h16⟩

/-- the assumption is needed at URL level: with an `idna` package that answers "XN--A" (upper case) or "a/b"
    the constructor's result is NOT a fixed point — reparsing `str(u)` changes the netloc / host and path -/
theorem C03_idn_needs_sane :
    (let e : Env := { b := .c, o := C16_idn_hostile "XN--A".toStr }
     (encodeUrl e C16_idn_input).map (·.netloc) = .ok "XN--A".toStr ∧
     (encodeUrl e C16_idn_input).bind (str e) = .ok "http://XN--A/p".toStr ∧
     (encodeUrl e "http://XN--A/p".toStr).map (·.netloc) = .ok "xn--a".toStr) ∧
    (let e : Env := { b := .c, o := C16_idn_hostile "a/b".toStr }
     (encodeUrl e C16_idn_input).map (fun u => (u.netloc, u.path)) = .ok ("a/b".toStr, "/p".toStr) ∧
     (encodeUrl e C16_idn_input).bind (str e) = .ok "http://a/b/p".toStr ∧
     (encodeUrl e "http://a/b/p".toStr).map (fun u => (u.netloc, u.path)) = .ok ("a".toStr, "/b/p".toStr)) :=
  ⟨⟨by decide +kernel, by decide +kernel, by decide +kernel⟩, ⟨by decide +kernel, by decide +kernel, by decide +kernel⟩⟩

/-! ### non-vacuity -/
section checks
private def eS : Env := { b := .c, o := C16_idn_sampleOracle }

-- a digit-ending A-label host and an IPv4-looking answer are covered (outside `hostFix_basic`)
example : IdnaAnswerSane "xn--bcher-kva.h1".toStr ∧ ¬ HostBasic "xn--bcher-kva.h1".toStr := by decide +kernel
example (b : Backend) : NetlocCanon ⟨b, Oracles.empty⟩
    (urlOf "http".toStr "xn--bcher-kva.h1".toStr "/path".toStr [] [] (preHost "xn--bcher-kva.h1".toStr)) :=
  (C03_idn_fixed_point _ _ (by decide +kernel)).2.2.2
-- the end-to-end theorem on "http://bücher/a/b#f": hypotheses …
example : SchemeOK "http".toStr ∧ IdnHostInput eS.o C16_idn_buecher ∧ IdnaSaneAt eS.o C16_idn_buecher ∧
    PyStr ("http".toStr ++ 58 :: 47 :: 47 :: (C16_idn_buecher ++ (47 :: "a/b".toStr ++ fragTail "f".toStr))) :=
  ⟨by decide +kernel, ⟨by decide +kernel, by decide +kernel, rfl, ⟨false, rfl⟩, by decide +kernel⟩, C16_idn_sane_satisfiable.1.at (by decide +kernel), by decide +kernel⟩
-- … and what it says
example : (encodeUrl eS ("http://".toStr ++ C16_idn_buecher ++ "/a/b#f".toStr)).bind (str eS) =
    .ok "http://xn--bcher-kva/a/b#f".toStr ∧
    (encodeUrl eS "http://xn--bcher-kva/a/b#f".toStr).bind (str eS) = .ok "http://xn--bcher-kva/a/b#f".toStr :=
  ⟨by str_lits; decide +kernel, by str_lits; decide +kernel⟩
-- `with_host("bücher")` satisfies the side condition of `C03_op_sequence_fixed_point`
example : (UOp.withHost C16_idn_buecher).NetArgs eS :=
  C03_idn_withHost_netArgs eS _ (by decide +kernel) (by decide +kernel) (fun r hr => by
    have : idnaEncode eS.o C16_idn_buecher = .ok "xn--bcher-kva".toStr := rfl
    rw [this] at hr; cases hr; decide +kernel)
end checks

end Yarl
