import YarlProofs.C16Headline
import YarlProofs.C16HeadlineMore
import YarlProofs.C16HeadlineMore3
import YarlProofs.C16Mapped
/-!
  C16HeadlineMore4.lean — AUDIT LAYER for property C16, continuation of C16Headline.lean / C16HeadlineMore.lean /
  C16HeadlineMore3.lean (the theorems here need C16Mapped.lean, written after those files; this file is a leaf, nobody
  imports it).

  C16 | Hosts are stored in one canonical form and hostile hosts are rejected |
  "The encoded host is always lower-case ASCII (an IPv6 zone id is kept verbatim): registered names are IDNA-encoded, IPv4
  literals are kept, and valid IPv6 literals are compressed and always bracketed in str(), host_subcomponent and
  host_port_subcomponent; encoding is idempotent and the decoded host re-encodes to the same raw host. build() and
  with_host() reject hosts containing characters outside the RFC 3986 reg-name grammar, and any authority containing a
  non-ASCII character whose NFKC form contains '/', '?', '#', '@' or ':' is rejected."

  Background: library fix 3fbf5b4 ("canonicalize an IP-literal that only appears after IDNA mapping").  `_encode_host`,
  after `host = _idna_encode(host)` for a non-ASCII host that is no IP literal, now does
  `if ":" in host: return _encode_host(host, validate_host)`.  The model followed: `encodeHost` (YarlModel/Host.lean)
  hands an IDNA answer holding a ':' to `encodeHostA`, a COPY of `encodeHost` whose non-ASCII branch is ValueError (the
  model does not ask IDNA twice; `_idna_encode` answers ASCII text by construction, `….decode("ascii")`).  The repair pass
  that followed CHANGED THE STATEMENTS of existing C16 theorems (a new disjunct "… or the IDNA answer is the text of an
  IP literal and the result is its canonical form", or a new hypothesis); GAPS 9 of C16Headline.lean lists them.

  What is here (all theorems CITE C16Mapped.lean unless they say otherwise).
  * The re-entered branch: on ASCII text the re-entry IS `_encode_host`, on non-ASCII text that is no IP literal it is
    ValueError (`C16_headline_mapped_reentry`); an IDNA answer that is the text of an IPv6 address is stored COMPRESSED and
    BRACKETED, a fixed point (`C16_headline_mapped_ipv6_canonical`), with a zone id copied verbatim and screened when
    validating (`C16_headline_mapped_ipv6_zone`); the host of the fix, "１:0:0:0:0:0:0:2" ↦ "[1::2]", at `_encode_host`,
    constructor and `with_host` level (`C16_headline_mapped_example`); an answer without ':' — every reg-name answer —
    takes the pre-fix path (`C16_headline_mapped_regname_unchanged`).
  * The repaired clauses in the property's words: what a validated host IS, for ANY host and ANY oracle
    (`C16_headline_validated_host_invariant`, the readable form of the third clause of `C16_headline_validation`); a
    validated non-ASCII host is accepted in exactly two ways (`C16_headline_idn_validated_two_ways`, from the repaired
    `C16_idna_validated`); the consequences that need no case analysis (`C16_headline_validated_fixed_point`); ASCII
    results without validation (`C16_headline_result_ascii_unvalidated`).
  * The new hypothesis `h37a` of `C16_headline_lower_ascii` is NEEDED (`C16_headline_lower_ascii_fails_for_mapped_zone`,
    a hypothetical IDNA answer "::1%ETH"; computed here), and the hosts of the re-entered branch are OUTSIDE the standing
    assumption `IdnaSaneAt` (`C16_headline_mapped_outside_idna_sane`; proved here).

  Vocabulary (in addition to the reading guides of C16Headline.lean / C16HeadlineMore.lean / C16HeadlineMore3.lean).
  `encodeHostA o a v` — the re-entry `_encode_host(a, validate_host=v)` on the IDNA answer `a` (model: a copy of
                       `encodeHost` without the IDNA step).
  `looksIP o h`      — the guard of the IP branch of `_encode_host`: `":" in h or h[-1].isdigit()` (`str.isdigit` of a
                       non-ASCII last character is an oracle call; `looksIP o h = .ok b` says the oracle knows it).
  `ipRes t`          — the canonical text of the IP literal `t` (Lemmas/HostLemmas.lean): `some` "[compressed%zone]" for an
                       IPv6 text before the first '%', `some` "d.d.d.d%zone" for an IPv4 text, `none` when the text before
                       the first '%' is no IP literal; the zone is copied verbatim.
  `zoneBad t v`      — `v` and `t` has a '%' and the lower-cased zone fails `NOT_REG_NAME` (then `_encode_host` raises).
  `C16_mapped_ZoneOK z` — `z` is empty, or '%' followed by a zone id whose lower-cased text passes `NOT_REG_NAME`.
  `C16_mapped_host`  — the text "１:0:0:0:0:0:0:2" (U+FF11 FULLWIDTH DIGIT ONE, then ASCII);
  `C16_mapped_oracle` — a sample oracle with the answers of the real code for it (`idna.encode(…, uts46=True)` answers
                       "1:0:0:0:0:0:0:2"; NFKC maps U+FF11 to '1'; `"１".isdigit()` is True).
  `C16_idn_hostile ans` — a HYPOTHETICAL oracle answering `ans` for every non-ASCII host (C16Idn.lean).
  37 = '%', 58 = ':', 91 / 93 = '[' ']', 64 = '@', 47 = '/', 63 = '?', 35 = '#', 32 = ' '.
-/

namespace Yarl
open HostLemmas NetlocLemmas MiscLemmas

/-! ## Sentence 1 — "valid IPv6 literals are compressed and always bracketed", for a host that becomes an IP literal only
    through the IDNA mapping (fix 3fbf5b4; C16Headline GAPS 9) -/

/-- the modelled recursion `return _encode_host(host, validate_host)`: on ASCII text — what `_idna_encode` returns by
    construction — the re-entry `encodeHostA` of the model IS `_encode_host`; and a (hostile) NON-ASCII answer holding a
    ':' is accepted by the re-entry only as an IP literal — when the text before '%' is no IP literal the re-entry is
    ValueError (the model does not ask IDNA a second time; the real code would).
    Cites C16_mapped_reentry_ascii, C16_mapped_reentry_nonascii. -/
theorem C16_headline_mapped_reentry (o : Oracles) (a : Str) (v : Bool) :
    (isAscii a = true → encodeHostA o a v = encodeHost o a v) ∧
    (isAscii a = false → mem 58 a = true → parseIP (partition 37 a).1 = none →
      encodeHostA o a v = .error .valueError) :=
  ⟨fun ha => C16_mapped_reentry_ascii o a v ha, fun hna h58 hip => C16_mapped_reentry_nonascii o a v hna h58 hip⟩

/-- "valid IPv6 literals are compressed and always bracketed … encoding is idempotent" for a NON-ASCII host whose IDNA
    answer `a` is the text of a valid IPv6 address without zone (fullwidth digits, say): `_encode_host` returns the
    COMPRESSED, BRACKETED canonical form, with and without validation (`v`); encoding the stored raw host (the form
    without the brackets) again gives the same, validating or not (`v'`); and the stored raw host parses to the same
    address.  Before the fix the answer was stored as it came (validation off) or rejected (validation on).
    Cites C16_mapped_ipv6_canonical. -/
theorem C16_headline_mapped_ipv6_canonical (o : Oracles) (host a : Str) (g : List Nat) (v v' b : Bool)
    (hna : isAscii host = false)                    -- the IDN case
    (hlook : looksIP o host = .ok b)                -- model artefact: the `str.isdigit` oracle knows the last character
    (hip : parseIP (partition 37 host).1 = none)    -- the host is no IP literal as it stands (those: C16_headline_ipv6)
    (hi : idnaEncode o host = .ok a)                -- the answer of `_idna_encode`
    (hp : parseIP (partition 37 a).1 = some (.v6 g))   -- … is the text of an IPv6 address (groups `g`)
    (hsep : (partition 37 a).2.1 = false) :         -- … without a zone id (with one: next theorem)
    ∃ r, encodeHost o host v = .ok r ∧ r = [91] ++ ipv6ToStr g ++ [93] ∧
      encodeHost o (unbracket r) v' = .ok r ∧ parseIPv6 (unbracket r) = some g :=
  C16_mapped_ipv6_canonical o host a g v v' b hna hlook hip hi hp hsep

/-- … "(an IPv6 zone id is kept verbatim)": the same with a zone id in the IDNA answer — the zone of the ANSWER is copied
    verbatim inside the brackets; with validation on the call raises ValueError exactly when the lower-cased zone fails
    the reg-name screen.  Cites C16_mapped_ipv6_zone. -/
theorem C16_headline_mapped_ipv6_zone (o : Oracles) (host a : Str) (g : List Nat) (v b : Bool)
    (hna : isAscii host = false)                    -- the IDN case
    (hlook : looksIP o host = .ok b)                -- model artefact: the `str.isdigit` oracle knows the last character
    (hip : parseIP (partition 37 host).1 = none)    -- the host is no IP literal as it stands
    (hi : idnaEncode o host = .ok a)                -- the answer of `_idna_encode`
    (hp : parseIP (partition 37 a).1 = some (.v6 g))   -- … is the text of an IPv6 address before its first '%'
    (hsep : (partition 37 a).2.1 = true) :          -- … and has a '%': a zone id follows
    encodeHost o host v =
      (if v && notRegName (lower (partition 37 a).2.2) then .error .valueError
       else .ok ([91] ++ ipv6ToStr g ++ [37] ++ (partition 37 a).2.2 ++ [93])) :=
  C16_mapped_ipv6_zone o host a g v b hna hlook hip hi hp hsep

/-- the host of the fix, "１:0:0:0:0:0:0:2" (U+FF11, then ASCII), with the answers of the real code (`C16_mapped_oracle`):
    it is no IP literal as it stands, IDNA maps it to "1:0:0:0:0:0:0:2", and `_encode_host` stores "[1::2]" with and
    without validation; the stored raw host "1::2" re-encodes to the same; the constructor on
    "http://[１:0:0:0:0:0:0:2]/p" stores the authority "[1::2]", the raw host "1::2", and prints "http://[1::2]/p" (both
    backends); `with_host("１:0:0:0:0:0:0:2")` stores "[1::2]" too.
    Cites C16_mapped_example, C16_mapped_example_url, C16_mapped_example_with_host. -/
theorem C16_headline_mapped_example :
    (isAscii C16_mapped_host = false ∧ parseIP (partition 37 C16_mapped_host).1 = none ∧
      idnaEncode C16_mapped_oracle C16_mapped_host = .ok "1:0:0:0:0:0:0:2".toStr ∧
      encodeHost C16_mapped_oracle C16_mapped_host false = .ok "[1::2]".toStr ∧
      encodeHost C16_mapped_oracle C16_mapped_host true = .ok "[1::2]".toStr ∧
      encodeHost C16_mapped_oracle "1::2".toStr false = .ok "[1::2]".toStr ∧
      encodeHost C16_mapped_oracle "1::2".toStr true = .ok "[1::2]".toStr) ∧
    (∀ b : Backend,
      let e : Env := { b := b, o := C16_mapped_oracle }
      let s : Str := "http://[".toStr ++ C16_mapped_host ++ "]/p".toStr
      (encodeUrl e s).map (·.netloc) = .ok "[1::2]".toStr ∧
      (encodeUrl e s).bind (rawHost e) = .ok (some "1::2".toStr) ∧
      (encodeUrl e s).bind (str e) = .ok "http://[1::2]/p".toStr) ∧
    (let e : Env := { b := .py, o := C16_mapped_oracle }
     let u := fromParts "http".toStr (makeNetloc id none none (some (bracket "a.com".toStr)) none false)
               "/p".toStr [] []
     (withHost e u C16_mapped_host).map (·.netloc) = .ok "[1::2]".toStr) :=
  ⟨C16_mapped_example, C16_mapped_example_url, C16_mapped_example_with_host⟩

/-- "registered names are IDNA-encoded" is UNCHANGED by the fix for every answer that is reg-name text (what the standing
    assumption `IdnaAnswerSane` asks of the package): such an answer holds no ':', the new `if` is not taken, and the
    result is the IDNA answer, with and without validation; and WITHOUT validation any answer without ':' is returned as
    it is.  Cites C16_mapped_regname_unchanged, C16_mapped_no_colon_unchanged. -/
theorem C16_headline_mapped_regname_unchanged (o : Oracles) (host a : Str) (b : Bool)
    (hna : isAscii host = false)                    -- the IDN case
    (hlook : looksIP o host = .ok b)                -- model artefact: the `str.isdigit` oracle knows the last character
    (hip : parseIP (partition 37 host).1 = none)    -- the host is no IP literal as it stands
    (hi : idnaEncode o host = .ok a) :              -- the answer of `_idna_encode`
    (notRegName a = false → mem 58 a = false ∧ ∀ v, encodeHost o host v = .ok a) ∧
    (mem 58 a = false → encodeHost o host false = .ok a) :=
  ⟨fun hreg => ⟨(C16_mapped_regname_unchanged o host a true b hna hlook hip hi hreg).1,
      fun v => (C16_mapped_regname_unchanged o host a v b hna hlook hip hi hreg).2⟩,
   fun h58 => C16_mapped_no_colon_unchanged o host a b hna hlook hip hi h58⟩

/-! ## Sentence 2 — "build() and with_host() reject hosts containing characters outside the RFC 3986 reg-name grammar":
    the repaired clause with the new alternative spelled out (C16Headline GAPS 5, 9) -/

/-- WHAT A VALIDATED HOST IS, for ANY host `h` (ASCII or not, any characters) and ANY oracle (nothing is assumed of the
    IDNA package, not even that its answers are ASCII) — the readable form of the third clause of
    `C16_headline_validation` / of `C16_validated_general` as repaired after fix 3fbf5b4: whenever
    `_encode_host(h, validate_host=True)` (what `build(host=)` and `with_host` call) returns `r`, then `r` is
    * reg-name text (`NOT_REG_NAME` finds nothing), or
    * a plain IPv4 literal `d.d.d.d` in canonical spelling, optionally followed by `%zone`, or
    * a BRACKETED, COMPRESSED IPv6 literal, optionally with `%zone` inside the brackets,
    every zone id having passed the reg-name screen; the literal is the canonical form (`ipRes t`) of a text `t` which is
    the host itself or — the NEW alternative — the IDNA answer, holding a ':', of a non-ASCII host.
    Cites C16_mapped_validated_invariant. -/
theorem C16_headline_validated_host_invariant (o : Oracles) (h r : Str)
    (he : encodeHost o h true = .ok r) :            -- `h` passes `build(host=)` / `with_host`
    notRegName r = false ∨
    (∃ t, (t = h ∨ (isAscii h = false ∧ idnaEncode o h = .ok t ∧ mem 58 t = true)) ∧
      ipRes t = some r ∧ zoneBad t true = false ∧
      ((∃ o4 z, r = ipv4ToStr o4 ++ z ∧ o4.length = 4 ∧ (∀ x ∈ o4, x ≤ 255) ∧ parseIPv4 (ipv4ToStr o4) = some o4 ∧
          C16_mapped_ZoneOK z) ∨
       (∃ g z, r = [91] ++ ipv6ToStr g ++ z ++ [93] ∧ g.length = 8 ∧ (∀ x ∈ g, x < 65536) ∧
          parseIPv6 (ipv6ToStr g) = some g ∧ C16_mapped_ZoneOK z))) :=
  C16_mapped_validated_invariant o h r he

/-- "registered names are IDNA-encoded … build() and with_host() reject …" for a NON-ASCII host that is no IP literal as
    it stands, as repaired: validation accepts it in EXACTLY two ways —
    (1) the IDNA answer `a` holds no ':', passes the reg-name screen, and IS the result (the pre-fix statement), or
    (2) the IDNA answer `a` holds a ':' and is the text of an IP literal whose zone passes the screen, and the result is
        its canonical form (an IPv4 literal with zone, or a bracketed compressed IPv6 literal) — in particular an answer
        with a ':' that is NO IP literal ("a:81", "xn--:x-wka") is REJECTED.
    Cites the repaired C16_idna_validated (C16.lean) and C16_mapped_ipRes_shape. -/
theorem C16_headline_idn_validated_two_ways (o : Oracles) (h r : Str)
    (hna : isAscii h = false)                       -- the IDN case
    (hip : parseIP (partition 37 h).1 = none)       -- guard: no IP literal in front of a '%'
    (he : encodeHost o h true = .ok r) :            -- `h` passes `build(host=)` / `with_host`
    ∃ a, idnaEncode o h = .ok a ∧
      ((mem 58 a = false ∧ r = a ∧ notRegName r = false) ∨
       (mem 58 a = true ∧ (∃ ip, parseIP (partition 37 a).1 = some ip) ∧ ipRes a = some r ∧ zoneBad a true = false ∧
         ((∃ o4 z, r = ipv4ToStr o4 ++ z ∧ o4.length = 4 ∧ (∀ x ∈ o4, x ≤ 255) ∧
             parseIPv4 (ipv4ToStr o4) = some o4 ∧ C16_mapped_ZoneOK z) ∨
          (∃ g z, r = [91] ++ ipv6ToStr g ++ z ++ [93] ∧ g.length = 8 ∧ (∀ x ∈ g, x < 65536) ∧
             parseIPv6 (ipv6ToStr g) = some g ∧ C16_mapped_ZoneOK z)))) := by
  obtain ⟨a, hi, h1 | ⟨h58, hres, hz⟩⟩ := C16_idna_validated o h r hna hip he
  · exact ⟨a, hi, Or.inl h1⟩
  · exact ⟨a, hi, Or.inr ⟨h58, ipRes_some_parse hres, hres, hz, C16_mapped_ipRes_shape hres hz⟩⟩

/-- … and the consequences that need no case analysis, whatever the host and whatever the oracle: a validated result is
    ASCII, holds none of '@' '/' '?' '#' ' ', is a fixed point of `_encode_host` on the stored raw host (`unbracket r`),
    validating or not, and the non-validating call returns the same text.
    Cites C16_mapped_validated_fixed_point. -/
theorem C16_headline_validated_fixed_point (o : Oracles) (h r : Str) (v' : Bool)
    (he : encodeHost o h true = .ok r) :            -- `h` passes `build(host=)` / `with_host`
    (∀ c ∈ r, c < 128) ∧ 64 ∉ r ∧ 47 ∉ r ∧ 63 ∉ r ∧ 35 ∉ r ∧ 32 ∉ r ∧
    encodeHost o (unbracket r) v' = .ok r ∧ encodeHost o h false = .ok r :=
  C16_mapped_validated_fixed_point o h r v' he

/-- "The encoded host is always … ASCII" WITHOUT validation (constructor, `build(authority=)`), the re-entered branch
    included: for a host without '%' the result is ASCII PROVIDED the IDNA answers are ASCII text — which `_idna_encode`
    guarantees by construction (`….decode("ascii")`) but the model's oracle does not, so it is a hypothesis here.
    (Lower case is NOT claimed: `C16_headline_lower_ascii_fails_for_hostile_idna`.)  Cites C16_mapped_result_ascii. -/
theorem C16_headline_result_ascii_unvalidated (o : Oracles) (h r : Str) (v : Bool)
    (h37 : 37 ∉ h)                                  -- no zone id in the host (the zone is copied verbatim)
    (hidna : ∀ a, idnaEncode o h = .ok a → isAscii a = true)   -- ASSUMED of the oracle: `_idna_encode` answers ASCII text
    (he : encodeHost o h v = .ok r) :
    ∀ c ∈ r, c < 128 :=
  C16_mapped_result_ascii o h r v h37 hidna he

/-! ## the new hypothesis of `C16_headline_lower_ascii`, and the standing IDNA assumption -/

/-- the hypothesis `h37a` that the repair added to `C16_headline_lower_ascii` / `C16_result_lower_ascii` ("the IDNA answer
    of a non-ASCII host holds no '%'") is NEEDED, validation ON: with a HYPOTHETICAL `idna` package answering "::1%ETH"
    for the host "é" (no '%' in the host), `_encode_host("é", validate_host=True)` returns "[::1%ETH]" — the zone of the
    ANSWER copied verbatim, upper case included (it passes the zone screen, which lower-cases first) — which is not
    lower case.  By computation (not in C16Mapped.lean). -/
theorem C16_headline_lower_ascii_fails_for_mapped_zone :
    let o := C16_idn_hostile "::1%ETH".toStr
    isAscii [233] = false ∧ 37 ∉ ([233] : Str) ∧ idnaEncode o [233] = .ok "::1%ETH".toStr ∧
    encodeHost o [233] true = .ok "[::1%ETH]".toStr ∧ ¬ isLowerAscii "[::1%ETH]".toStr := by
  refine ⟨by decide, by decide, by rfl, by decide +kernel, fun h => absurd (h 69 (by decide)).2 (by decide)⟩

/-- the hosts of the re-entered branch are OUTSIDE the standing assumption on the IDNA answers: for the host of the fix
    and the answers of the real code, `IdnaSaneAt` is FALSE (the answer "1:0:0:0:0:0:0:2" is not reg-name text).  So every
    theorem that assumes `IdnaSaneAt o h` (`C16_headline_idn_lower_ascii`, `_idn_constructor`, `_idn_idempotent`, …) says
    nothing about such a host; it is covered by the theorems of this file and by those whose only hypothesis is "passes
    validation".  Proved here from the definitions. -/
theorem C16_headline_mapped_outside_idna_sane : ¬ IdnaSaneAt C16_mapped_oracle C16_mapped_host :=
  fun hs => absurd (hs.enc "1:0:0:0:0:0:0:2".toStr rfl).regName (by decide)

/-! ## non-vacuity -/

-- the hypotheses of C16_headline_mapped_ipv6_canonical hold for the host of the fix
example : ∃ r, encodeHost C16_mapped_oracle C16_mapped_host true = .ok r ∧ r = "[1::2]".toStr := by
  obtain ⟨r, h1, h2, _⟩ := C16_headline_mapped_ipv6_canonical C16_mapped_oracle C16_mapped_host "1:0:0:0:0:0:0:2".toStr
    [1, 0, 0, 0, 0, 0, 0, 2] true false true (by decide) (by rfl) (by decide +kernel) (by rfl) (by decide +kernel)
    (by decide +kernel)
  exact ⟨r, h1, by rw [h2]; decide +kernel⟩

-- the second way of C16_headline_idn_validated_two_ways is inhabited (the host of the fix), and so is the first
example : mem 58 "1:0:0:0:0:0:0:2".toStr = true ∧ ipRes "1:0:0:0:0:0:0:2".toStr = some "[1::2]".toStr ∧
    zoneBad "1:0:0:0:0:0:0:2".toStr true = false := by str_lits; decide +kernel
example : encodeHost (C16_idn_hostile "xn--a".toStr) [233] true = .ok "xn--a".toStr := by str_lits; decide +kernel

-- … and an answer with a ':' that is no IP literal is rejected by validation (but stored by the constructor route:
-- C16_idn_needs_no_colon, C16Idn.lean)
example : encodeHost (C16_idn_hostile "a:81".toStr) [233] true = .error .valueError ∧
    encodeHost (C16_idn_hostile "a:81".toStr) [233] false = .ok "a:81".toStr := by str_lits; decide +kernel

-- `C16_mapped_ZoneOK`: no zone, a clean zone; a zone with '/' is not
example : C16_mapped_ZoneOK [] ∧ C16_mapped_ZoneOK "%eth0".toStr ∧ ¬ C16_mapped_ZoneOK "%a/b".toStr := by
  refine ⟨Or.inl rfl, Or.inr ⟨"eth0".toStr, rfl, by decide⟩, ?_⟩
  rintro (h | ⟨z, hz, hn⟩)
  · cases h
  · cases hz; revert hn; decide

end Yarl
