/-
  C06.lean — decoded views are faithful and supplied values read back unchanged.
-/
import YarlProofs.Lemmas.DecLemmas
import YarlProofs.C13
import YarlProofs.C11
import YarlProofs.Lemmas.BuildShape
import YarlProofs.Lemmas.StrLit
import YarlProofs.C06Decode
namespace Yarl
open Yarl.DecLemmas Yarl.Readback

/-! ### read-back for each write/read pairing of generated configurations -/

/-- with_user / with_password / build(user=, password=) → `.user` / `.password` -/
theorem C06_readback_user (b : Backend) (t : Str) (ht : PyStr t) (hn : NoSurrogate t) :
    Gen.UNQUOTER.run b (Gen.QUOTER.run b t) = t :=
  readback_pair Gen.QUOTER mem_QUOTER Gen.UNQUOTER b (by decide +kernel) (by decide +kernel) (by decide +kernel) (by decide +kernel)
    (by cases b <;> decide +kernel) t ht hn

/-- with_path / build(path=) → `.path` -/
theorem C06_readback_path (b : Backend) (t : Str) (ht : PyStr t) (hn : NoSurrogate t) :
    Gen.PATH_UNQUOTER.run b (Gen.PATH_QUOTER.run b t) = t :=
  readback_pair Gen.PATH_QUOTER mem_PATH_QUOTER Gen.PATH_UNQUOTER b (by decide +kernel) (by decide +kernel) (by decide +kernel)
    (by decide +kernel) (by cases b <;> decide +kernel) t ht hn

/-- with_name, `/`, joinpath → `.name` / `.parts` -/
theorem C06_readback_name (b : Backend) (t : Str) (ht : PyStr t) (hn : NoSurrogate t) :
    Gen.UNQUOTER.run b (Gen.PATH_QUOTER.run b t) = t :=
  readback_pair Gen.PATH_QUOTER mem_PATH_QUOTER Gen.UNQUOTER b (by decide +kernel) (by decide +kernel) (by decide +kernel)
    (by decide +kernel) (by cases b <;> decide +kernel) t ht hn

/-- with_fragment / build(fragment=) → `.fragment` -/
theorem C06_readback_fragment (b : Backend) (t : Str) (ht : PyStr t) (hn : NoSurrogate t) :
    Gen.UNQUOTER.run b (Gen.FRAGMENT_QUOTER.run b t) = t :=
  readback_pair Gen.FRAGMENT_QUOTER mem_FRAGMENT_QUOTER Gen.UNQUOTER b (by decide +kernel) (by decide +kernel) (by decide +kernel)
    (by decide +kernel) (by cases b <;> decide +kernel) t ht hn

/-! ### path_safe keeps %2F and %25 -/

/-- `raw_path` written by PATH_QUOTER read through `path_safe`: the text comes back except that a
    literal '%' stays encoded as "%25" ('/' is literal in both directions: it separates segments) -/
theorem C06_path_safe_readback (b : Backend) (t : Str) (ht : PyStr t) (hn : NoSurrogate t) :
    Gen.PATH_SAFE_UNQUOTER.run b (Gen.PATH_QUOTER.run b t) =
      t.flatMap (fun c => if c = 37 then pct 37 else [c]) := by
  have hmem := mem_PATH_QUOTER
  rw [QsLemmas.run_eq_cOut _ hmem b t ht, QsLemmas.stripSurr_id t hn]
  show unquote b (Gen.PATH_SAFE_UNQUOTER.tab b) _ = _
  rw [unquote_eq_uqLoop, uqLoop_cOut_gen b _ _ (gen_tab_wf _ hmem b) (by cases b <;> rfl) (by cases b <;> rfl) t ht hn]
  congr 1
  funext c
  rw [uqPlain_PATH_SAFE_UNQUOTER, uqEmit_PATH_SAFE_UNQUOTER]
  -- '/' is literal for PATH_QUOTER, '%' never is
  by_cases h47 : c = 47
  · subst h47
    cases b <;> decide +kernel
  by_cases h37 : c = 37
  · subst h37
    cases b <;> decide +kernel
  · simp [h47, h37]

/-- an encoded "%2F" or "%25" anywhere in the RAW path stays encoded in `path_safe`: at any loop
    state (pending undecodable escapes are flushed verbatim first) -/
theorem C06_path_safe_keeps (b : Backend) (v : Nat) (hv : v = 0x2F ∨ v = 0x25) (pend : List Nat)
    (ptxt r : Str) (hinv : pend = [] → ptxt = []) :
    uqLoop b (Gen.PATH_SAFE_UNQUOTER.tab b) pend ptxt (pct v ++ r) =
      ptxt ++ pct v ++ uqLoop b (Gen.PATH_SAFE_UNQUOTER.tab b) [] [] r := by
  have hv128 : v < 128 := by omega
  have hemit : uqEmit b (Gen.PATH_SAFE_UNQUOTER.tab b) v = pct v := by
    rw [uqEmit_PATH_SAFE_UNQUOTER, if_pos hv]
  have hte := takeEscape_toHex v (by omega) r
  rw [pct_append]
  by_cases hp : pend = []
  · subst hp
    rw [hinv rfl, uqLoop_char b _ [] [] hte (dec_1 v hv128), hemit]
    rfl
  · rw [uqLoop_restart b _ pend ptxt hte (decodeBuf_pend_ascii pend hp v hv128),
      uqLoop_char b _ [] [] hte (dec_1 v hv128), hemit, List.append_assoc]

theorem C06_path_safe_keeps_2F (b : Backend) (r : Str) :
    Gen.PATH_SAFE_UNQUOTER.run b ("%2F".toStr ++ r) = "%2F".toStr ++ Gen.PATH_SAFE_UNQUOTER.run b r := by
  show unquote b (Gen.PATH_SAFE_UNQUOTER.tab b) _ = _ ++ unquote b (Gen.PATH_SAFE_UNQUOTER.tab b) _
  rw [unquote_eq_uqLoop, unquote_eq_uqLoop]
  exact C06_path_safe_keeps b 0x2F (Or.inl rfl) [] [] r (fun _ => rfl)

theorem C06_path_safe_keeps_25 (b : Backend) (r : Str) :
    Gen.PATH_SAFE_UNQUOTER.run b ("%25".toStr ++ r) = "%25".toStr ++ Gen.PATH_SAFE_UNQUOTER.run b r := by
  show unquote b (Gen.PATH_SAFE_UNQUOTER.tab b) _ = _ ++ unquote b (Gen.PATH_SAFE_UNQUOTER.tab b) _
  rw [unquote_eq_uqLoop, unquote_eq_uqLoop]
  exact C06_path_safe_keeps b 0x25 (Or.inr rfl) [] [] r (fun _ => rfl)

theorem C06_unquoter_nil (b : Backend) (a : UArgs) : a.run b [] = [] := by
  show unquote b (a.tab b) [] = []
  rw [unquote_eq_uqLoop, uqLoop_nil]

theorem C06_path_safe_2F (b : Backend) : Gen.PATH_SAFE_UNQUOTER.run b "%2F".toStr = "%2F".toStr := by
  have := C06_path_safe_keeps_2F b []
  rw [List.append_nil, C06_unquoter_nil, List.append_nil] at this
  exact this

theorem C06_path_safe_25 (b : Backend) : Gen.PATH_SAFE_UNQUOTER.run b "%25".toStr = "%25".toStr := by
  have := C06_path_safe_keeps_25 b []
  rw [List.append_nil, C06_unquoter_nil, List.append_nil] at this
  exact this

/-- … whereas the plain `path` accessor decodes both -/
theorem C06_path_decodes_2F_25 (b : Backend) :
    Gen.PATH_UNQUOTER.run b "%2F".toStr = "/".toStr ∧ Gen.PATH_UNQUOTER.run b "%25".toStr = "%".toStr := by
  have h := (C06_unquoter_keep_examples b [] []).2.1
  have h0 := C06_unquoter_nil b Gen.PATH_UNQUOTER
  exact ⟨by simpa [h0] using h.2.2.1, by simpa [h0] using h.2.2.2⟩

/-- every generated unquoter: decoding splits in front of a character that is neither '%' nor a hex digit (an instance
    of the concatenation theorem of the textbook decoder) -/
theorem DecLemmas.uq_split_of_gen (e : Env) (a : UArgs) (ha : a ∈ Gen.allUnquoters) (c0 : Nat) (h37 : c0 ≠ 37)
    (hh : fromHex c0 = none) (x r : Str) : uq e a (x ++ c0 :: r) = uq e a x ++ uq e a (c0 :: r) := by
  obtain ⟨hun, hig⟩ := C06_generated_unquoters_shape a ha
  have h : uq e a = Rfc.pctUtf8Decode (a.keeps e.b) a.plusIsSpace :=
    funext fun s => (C06_unquoter_is_pctUtf8_of_table a e.b hun hig s).1
  rw [h]
  exact C06_pct_append _ _ x (c0 :: r) (fun c hc => by cases hc; rw [DecMore.hexValue_eq]; exact hh)
    (fun d1 d2 r' v he => absurd (List.cons.inj he).1 h37)

/-! ### URL-level read-back through the model -/

/-- a stored fragment that is the quoted text `t` decodes to `t` -/
theorem DecLemmas.fragmentDecoded_q (e : Env) (w : Url) (t : Str) (ht : PyStr t) (hn : NoSurrogate t)
    (hw : w.fragment = q e Gen.FRAGMENT_QUOTER t) : fragmentDecoded e w = t := by
  have hrb : uq e Gen.UNQUOTER (q e Gen.FRAGMENT_QUOTER t) = t := C06_readback_fragment e.b t ht hn
  unfold fragmentDecoded
  rw [hw]
  split
  · exact hrb
  · rename_i h
    have h0 : q e Gen.FRAGMENT_QUOTER t = [] := by simpa using h
    rw [h0] at hrb
    rw [← hrb]
    exact (C06_unquoter_nil e.b Gen.UNQUOTER).symm

theorem C06_with_fragment_readback (e : Env) (u : Url) (t : Str) (ht : PyStr t) (hn : NoSurrogate t) :
    fragmentDecoded e (withFragment e u (some t)) = t := by
  apply fragmentDecoded_q e _ t ht hn
  unfold withFragment
  simp only
  split
  · rename_i h
    exact h
  · rfl

/-- `with_fragment(None)` clears the fragment -/
theorem C06_with_fragment_none (e : Env) (u : Url) : fragmentDecoded e (withFragment e u none) = [] := by
  have hfrag : (withFragment e u none).fragment = [] := by
    unfold withFragment
    simp only
    split
    · rename_i h; exact h
    · rfl
  unfold fragmentDecoded
  rw [hfrag]; rfl

theorem C06_path_quoter_slash (b : Backend) (r : Str) (hr : PyStr (47 :: r)) :
    Gen.PATH_QUOTER.run b (47 :: r) = 47 :: Gen.PATH_QUOTER.run b r := by
  have hr' : PyStr r := fun c hc => hr c (List.mem_cons_of_mem _ hc)
  have hmem := mem_PATH_QUOTER
  rw [QsLemmas.run_eq_cOut _ hmem b _ hr, QsLemmas.run_eq_cOut _ hmem b _ hr']
  have h1 : stripSurr (47 :: r) = 47 :: stripSurr r := by
    simp [stripSurr, isSurrogate]
  have hnr : (Gen.PATH_QUOTER.tab b).requote = false := by cases b <;> decide +kernel
  have hw : cWriteOut (Gen.PATH_QUOTER.tab b) 47 = [47] := by cases b <;> decide +kernel
  rw [h1, QuoteEquiv.cOut_plain _ (by simp [hnr]), hw]
  rfl

set_option linter.unusedVariables false in
/-- `with_name(t)` → `.name`.  The hypothesis `hslash` is not used: `with_name` itself rejects a name with '/', so
    success already implies it. -/
theorem C06_with_name_readback (e : Env) (u : Url) (t : Str) (ht : PyStr t) (hn : NoSurrogate t)
    (hslash : 47 ∉ t) (v : Url) : withName e u t false false = .ok v → name e v = .ok t := by
  intro h
  obtain ⟨hraw, _⟩ := C13_with_name_spec_py e u t false false v ht h
  unfold name
  rw [hraw]
  exact congrArg Except.ok (C06_readback_name e.b t ht hn)

/-- `u / s` and `u.joinpath(s)` for one plain segment: `.name` reads back `s` -/
theorem C06_child_name_readback (e : Env) (u : Url) (s : Str) (v : Url)
    (hs : PyStr s) (hsur : NoSurrogate s) (h47 : 47 ∉ s) (h46 : 46 ∉ s) (hne : s ≠ [])
    (hpath : u.netloc ≠ [] → (u.path = [] ∨ u.path.head? = some 47)) :
    makeChild e u [s] false = .ok v → name e v = .ok s := by
  intro h
  obtain ⟨hraw, _⟩ := C13_child_name_py e u s v hs hsur h47 h46 hne hpath h
  unfold name
  rw [hraw]
  exact congrArg Except.ok (C06_readback_name e.b s hs hsur)

/-! ### wiring of the decoded accessors -/

theorem C06_accessor_wiring (e : Env) (u : Url) :
    fragmentDecoded e u = (if u.fragment.isEmpty then [] else Gen.UNQUOTER.run e.b u.fragment) ∧
    queryString e u = (if u.query.isEmpty then [] else Gen.QS_UNQUOTER.run e.b u.query) ∧
    pathDecoded e u = (if u.path.isEmpty then (if u.netloc.isEmpty then [] else [47])
                       else Gen.PATH_UNQUOTER.run e.b u.path) ∧
    pathSafe e u = (if u.path.isEmpty then (if u.netloc.isEmpty then [] else [47])
                    else Gen.PATH_SAFE_UNQUOTER.run e.b u.path) ∧
    partsDecoded e u = (rawParts u).map (Gen.UNQUOTER.run e.b) ∧
    name e u = (rawName u).map (Gen.UNQUOTER.run e.b) ∧
    user e u = (rawUser e u).map (Option.map (Gen.UNQUOTER.run e.b)) ∧
    password e u = (rawPassword e u).map (Option.map (Gen.UNQUOTER.run e.b)) := by
  refine ⟨?_, ?_, ?_, ?_, rfl, ?_, ?_, ?_⟩
  · unfold fragmentDecoded; cases u.fragment.isEmpty <;> rfl
  · unfold queryString; cases u.query.isEmpty <;> rfl
  · unfold pathDecoded; cases u.path.isEmpty <;> cases u.netloc.isEmpty <;> rfl
  · unfold pathSafe; cases u.path.isEmpty <;> cases u.netloc.isEmpty <;> rfl
  · unfold name; cases rawName u <;> rfl
  · unfold user; cases rawUser e u <;> rfl
  · unfold password; cases rawPassword e u <;> rfl

/-! ### undecodable escapes are kept verbatim -/

theorem C06_invalid_escape_verbatim (bk : Backend) (u : UTab) (b : Nat) (hb : b < 256) :
    decodeBuf [b] = .invalid → uqLoop bk u [] [] (pct b) = pct b := by
  intro h
  have := uqLoop_reject bk u [] (takeEscape_toHex b hb []) h
  rw [← pct_append, List.append_nil] at this
  rw [this, uqLoop_nil]
  rfl

/-- the same in context: an invalid byte's escape is copied and decoding continues after it,
    whatever was pending (the pending escapes are flushed verbatim as well) -/
theorem C06_invalid_escape_verbatim_ctx (bk : Backend) (u : UTab) (pend : List Nat) (ptxt : Str)
    (b : Nat) (hb : b < 256) (r : Str) :
    decodeBuf (pend ++ [b]) = .invalid → decodeBuf [b] = .invalid →
    uqLoop bk u pend ptxt (pct b ++ r) = ptxt ++ pct b ++ uqLoop bk u [] [] r :=
  fun h1 h2 => by
    have hte := takeEscape_toHex b hb r
    rw [pct_append, uqLoop_restart bk u pend ptxt hte h1, uqLoop_reject bk u [] hte h2]
    simp [pct]

theorem C06_truncated_escape_verbatim (bk : Backend) (u : UTab) (b0 : Nat) :
    decodeBuf [b0] = .incomplete → b0 < 256 → uqLoop bk u [] [] (pct b0) = pct b0 := by
  intro h hb
  have := uqLoop_pending bk u [] [] (takeEscape_toHex b0 hb []) h
  rw [← pct_append, List.append_nil] at this
  rw [this, uqLoop_nil]
  rfl

/-- a run of escapes that stays an incomplete UTF-8 sequence to the end of the string comes back verbatim -/
theorem C06_truncated_run_verbatim (bk : Backend) (u : UTab) (bs : List Nat) (hb : ∀ x ∈ bs, x < 256) :
    ∀ (pend : List Nat) (ptxt : Str),
      (∀ k, k < bs.length → decodeBuf (pend ++ bs.take (k + 1)) = .incomplete) →
      uqLoop bk u pend ptxt (bs.flatMap pct) = ptxt ++ bs.flatMap pct := by
  induction bs with
  | nil => intro pend ptxt _; rw [List.flatMap_nil, uqLoop_nil]; simp
  | cons x xs ih =>
    intro pend ptxt h
    have hx : x < 256 := hb x (by simp)
    have h1 : decodeBuf (pend ++ [x]) = .incomplete := by
      have := h 0 (by simp)
      simpa using this
    rw [List.flatMap_cons, pct_append, uqLoop_pending bk u pend ptxt (takeEscape_toHex x hx _) h1,
      ih (fun y hy => hb y (List.mem_cons_of_mem _ hy)) (pend ++ [x]) (ptxt ++ [37, toHex (x / 16), toHex (x % 16)])]
    · simp
    · intro k hk
      have := h (k + 1) (by simp; omega)
      simpa using this

theorem C06_truncated_examples (bk : Backend) (u : UTab) :
    uqLoop bk u [] [] "%C3".toStr = "%C3".toStr ∧ uqLoop bk u [] [] "%E2%82".toStr = "%E2%82".toStr ∧
    uqLoop bk u [] [] "%F0%9F%98".toStr = "%F0%9F%98".toStr ∧
    uqLoop bk u [] [] "%FF".toStr = "%FF".toStr ∧ uqLoop bk u [] [] "%80".toStr = "%80".toStr := by
  refine ⟨?_, ?_, ?_, ?_, ?_⟩
  · exact C06_truncated_run_verbatim bk u [0xC3] (by decide +kernel) [] [] (by decide +kernel)
  · exact C06_truncated_run_verbatim bk u [0xE2, 0x82] (by decide +kernel) [] [] (by decide +kernel)
  · exact C06_truncated_run_verbatim bk u [0xF0, 0x9F, 0x98] (by decide +kernel) [] [] (by decide +kernel)
  · exact C06_invalid_escape_verbatim bk u 0xFF (by decide +kernel) (by decide +kernel)
  · exact C06_invalid_escape_verbatim bk u 0x80 (by decide +kernel) (by decide +kernel)

/-! ### '+' means space only in queries -/

theorem C06_plus_only_in_queries (b : Backend) :
    Gen.QS_UNQUOTER.run b [43] = [32] ∧ Gen.UNQUOTER.run b [43] = [43] ∧
    Gen.PATH_UNQUOTER.run b [43] = [43] ∧ Gen.PATH_SAFE_UNQUOTER.run b [43] = [43] := by
  have key : ∀ a : UArgs, a.run b [43] = uqPlain (a.tab b) 43 := by
    intro a
    show unquote b (a.tab b) [43] = _
    rw [unquote_eq_uqLoop, uqLoop_lit b _ [] [] (Or.inl (by decide)), uqLoop_nil, List.append_nil]
    rfl
  refine ⟨?_, ?_, ?_, ?_⟩
  · rw [key, uqPlain_QS_UNQUOTER]
    rfl
  · rw [key, uqPlain_UNQUOTER]
  · rw [key, uqPlain_PATH_UNQUOTER]
  · rw [key, uqPlain_PATH_SAFE_UNQUOTER]

/-! ### with_user / with_password read-back at the URL level -/

theorem DecLemmas.quoter_ne_nil (a : QArgs) (ha : a ∈ Gen.allQuoters) (hnr : a.requote = false)
    (b : Backend) (s : Str) (hs : PyStr s) (hn : NoSurrogate s) (h0 : s ≠ []) : a.run b s ≠ [] := by
  rw [QsLemmas.run_eq_cOut _ ha b s hs, QsLemmas.stripSurr_id s hn]
  obtain ⟨c, r, rfl⟩ := List.exists_cons_of_ne_nil h0
  have hnr' : (a.tab b).requote = false := by cases b <;> exact hnr
  rw [QuoteEquiv.cOut_plain _ (by simp [hnr'])]
  intro h
  exact PathAlg.cWriteOut_ne_nil _ c (hs c (by simp)) (hn c (by simp)) (List.append_eq_nil_iff.1 h).1

/-- `with_user(s)` → `.user` -/
theorem C06_with_user_readback (e : Env) (qf : Str → Str) (usr pw : Option Str) (h : Str) (port : Option Nat)
    (scheme path query fragment : Str) (s : Str)
    (hu : UserOK usr) (hh : HostOK h) (hp : ∀ p, port = some p → p ≤ 65535)
    (hs : PyStr s) (hn : NoSurrogate s) (h0 : s ≠ []) :
    let u := fromParts scheme (makeNetloc qf usr pw (some (bracket h)) port false) path query fragment
    ∃ v, withUser e u (some s) = .ok v ∧ user e v = .ok (some s) := by
  intro u
  obtain ⟨v, hv, hru, _⟩ := C11_with_user e qf usr pw h port scheme path query fragment s hu hh hp
    (quoter_ne_nil Gen.QUOTER mem_QUOTER (by decide +kernel) e.b s hs hn h0) (quoter_no_colon e.b s hs)
  refine ⟨v, hv, ?_⟩
  unfold user
  rw [hru]
  exact congrArg (fun x => Except.ok (some x)) (C06_readback_user e.b s hs hn)

/-- `with_password(s)` → `.password` (an empty password reads back as the empty string, not `None`) -/
theorem C06_with_password_readback (e : Env) (qf : Str → Str) (usr pw : Option Str) (h : Str) (port : Option Nat)
    (scheme path query fragment : Str) (s : Str)
    (hu : UserOK usr) (hh : HostOK h) (hp : ∀ p, port = some p → p ≤ 65535)
    (hs : PyStr s) (hn : NoSurrogate s) :
    let u := fromParts scheme (makeNetloc qf usr pw (some (bracket h)) port false) path query fragment
    ∃ v, withPassword e u (some s) = .ok v ∧ password e v = .ok (some s) := by
  intro u
  obtain ⟨v, hv, hrp, _⟩ := C11_with_password e qf usr pw h port scheme path query fragment (some s) hu hh hp
  refine ⟨v, hv, ?_⟩
  unfold password
  rw [hrp]
  exact congrArg (fun x => Except.ok (some x)) (C06_readback_user e.b s hs hn)


/-! ### build(...) read-back -/

/-- what `build(encoded=False)` stores as fragment and as path: the quoted texts; the path normalised when there is
    an authority and the quoted path contains a '.' -/
theorem DecLemmas.build_path_shape (e : Env) (a : BuildArgs) (v : Url) (h : build e a = .ok v)
    (henc : a.encoded = false) :
    v.fragment = (if a.fragment.isEmpty then a.fragment else q e Gen.FRAGMENT_QUOTER a.fragment) ∧
    (v.path = (if a.path.isEmpty then a.path else q e Gen.PATH_QUOTER a.path) ∨
      (v.netloc ≠ [] ∧ mem 46 (q e Gen.PATH_QUOTER a.path) = true ∧
        v.path = normalizePath (q e Gen.PATH_QUOTER a.path))) := by
  obtain ⟨_, _, _, _, _, hp, _, hf, _⟩ := build_false_ok henc h
  refine ⟨hf, ?_⟩
  rcases buildPath_ok hp with ⟨_, hp⟩ | ⟨hn, ⟨r, hr⟩, hp⟩
  · exact .inl hp
  · -- under an authority: normalised iff the quoted text has a '.'
    have hq := buildPath0_eq e a.path
    by_cases hm : mem 46 (buildPath0 e a.path) = true
    · rw [if_pos hm] at hp
      exact .inr ⟨hn, hq ▸ hm, hq ▸ hp⟩
    · rw [if_neg hm] at hp
      exact .inl hp

theorem C06_build_fragment_readback (e : Env) (a : BuildArgs) (v : Url) (h : build e a = .ok v)
    (henc : a.encoded = false) (hf : PyStr a.fragment) (hn : NoSurrogate a.fragment) :
    fragmentDecoded e v = a.fragment := by
  obtain ⟨hfr, _⟩ := build_path_shape e a v h henc
  by_cases he : a.fragment.isEmpty = true
  · unfold fragmentDecoded
    rw [hfr]
    simp only [he, if_true, Bool.not_true, Bool.false_eq_true, if_false]
    exact (List.isEmpty_iff.mp he).symm
  · rw [if_neg he] at hfr
    exact fragmentDecoded_q e v _ hf hn hfr

/-! ### the decoded value IS the UTF-8 percent-decoding of the raw component -/

/-- If percent-decoding the raw text (`pctDecode`: `%XY` in either case → one byte, other characters →
    their UTF-8 bytes) gives the UTF-8 encoding of `t`, the unquoters return exactly `t`. -/
theorem C06_decodes_utf8 (b : Backend) (s t : Str) (hs : PyStr s) (hsn : NoSurrogate s)
    (ht : PyStr t) (htn : NoSurrogate t) (h : pctDecode s = utf8s t) :
    Gen.UNQUOTER.run b s = t ∧ Gen.PATH_UNQUOTER.run b s = t := by
  rw [(C06_unquoter_is_pctUtf8 b s).1, (C06_unquoter_is_pctUtf8 b s).2.1]
  exact ⟨DecMore.pctUtf8Decode_utf8 s hs hsn t ht htn h, DecMore.pctUtf8Decode_utf8 s hs hsn t ht htn h⟩

/-- accessor level: `.fragment`, `.path` (non-empty raw path), `.name`-style segments -/
theorem C06_accessors_decode_utf8 (e : Env) (u : Url) :
    (∀ t, PyStr u.fragment → NoSurrogate u.fragment → PyStr t → NoSurrogate t →
      pctDecode u.fragment = utf8s t → fragmentDecoded e u = t) ∧
    (∀ t, u.path ≠ [] → PyStr u.path → NoSurrogate u.path → PyStr t → NoSurrogate t →
      pctDecode u.path = utf8s t → pathDecoded e u = t) := by
  constructor
  · intro t h1 h2 h3 h4 h5
    unfold fragmentDecoded
    split
    · exact (C06_decodes_utf8 e.b _ t h1 h2 h3 h4 h5).1
    · rename_i h0
      have h0' : u.fragment = [] := by simpa using h0
      rw [h0'] at h5
      rw [pctDecode] at h5
      exact (utf8s_eq_nil t h3 h4 h5.symm).symm
  · intro t h0 h1 h2 h3 h4 h5
    unfold pathDecoded
    have : u.path.isEmpty = false := by
      cases hp : u.path with
      | nil => exact absurd hp h0
      | cons _ _ => rfl
    simp only [this, Bool.not_false, if_true]
    exact (C06_decodes_utf8 e.b _ t h1 h2 h3 h4 h5).2

/-! ### non-vacuity -/

namespace DecLemmas
/-- '/', letters, space, '+', '%', "%2F" as text, non-ASCII of every UTF-8 length, delimiters -/
def sampleDecoded : Str := [47, 97, 32, 43, 37, 37, 50, 70, 233, 0x20AC, 0x1F600, 38, 61, 63, 35, 64, 58, 59, 0xD7FF, 0xE000, 0x10FFFF]
def sampleSeg : Str := [97, 32, 43, 37, 233, 0x20AC, 0x1F600, 38, 61, 63, 35, 64, 58]
def o0 : Oracles := Oracles.empty
def exU : Url := fromParts "http".toStr "h".toStr "/x/y".toStr "k=v".toStr "f".toStr
def exB : BuildArgs :=
  { scheme := "http".toStr, host := "h".toStr, path := "/a b%".toStr, fragment := "f g".toStr }
end DecLemmas

example : PyStr DecLemmas.sampleDecoded ∧ NoSurrogate DecLemmas.sampleDecoded ∧
    DecLemmas.sampleDecoded.head? = some 47 ∧ 46 ∉ DecLemmas.sampleDecoded := by decide +kernel
example : PyStr DecLemmas.sampleSeg ∧ NoSurrogate DecLemmas.sampleSeg ∧ 47 ∉ DecLemmas.sampleSeg ∧
    46 ∉ DecLemmas.sampleSeg ∧ DecLemmas.sampleSeg ≠ [] := by decide +kernel
/-- the quoted form is not the identity (so the read-back theorems are not about a no-op) -/
example : ∀ b : Backend, Gen.PATH_QUOTER.run b DecLemmas.sampleDecoded =
    "/a%20+%25%252F%C3%A9%E2%82%AC%F0%9F%98%80&=%3F%23@:;%ED%9F%BF%EE%80%80%F4%8F%BF%BF".toStr := by
  str_lits; intro b; cases b <;> decide +kernel
example : ∀ b : Backend, Gen.PATH_SAFE_UNQUOTER.run b (Gen.PATH_QUOTER.run b DecLemmas.sampleDecoded) =
    [47, 97, 32, 43, 37, 50, 53, 37, 50, 53, 50, 70, 233, 0x20AC, 0x1F600, 38, 61, 63, 35, 64, 58, 59,
      0xD7FF, 0xE000, 0x10FFFF] := by
  intro b; cases b <;> decide +kernel
/-- `C06_with_name_readback` / `C06_child_name_readback`: the modifiers succeed on the sample -/
example : ∀ b : Backend, withName ⟨b, DecLemmas.o0⟩ DecLemmas.exU DecLemmas.sampleSeg false false =
    .ok (fromParts "http".toStr "h".toStr "/x/a%20+%25%C3%A9%E2%82%AC%F0%9F%98%80&=%3F%23@:".toStr [] []) := by
  str_lits; intro b; cases b <;> decide +kernel
example : ∀ b : Backend, makeChild ⟨b, DecLemmas.o0⟩ DecLemmas.exU [DecLemmas.sampleSeg] false =
    .ok (fromParts "http".toStr "h".toStr "/x/y/a%20+%25%C3%A9%E2%82%AC%F0%9F%98%80&=%3F%23@:".toStr [] []) := by
  str_lits; intro b; cases b <;> decide +kernel
example : DecLemmas.exU.netloc ≠ [] → (DecLemmas.exU.path = [] ∨ DecLemmas.exU.path.head? = some 47) := by decide +kernel
/-- `C06_decodes_utf8`: lower-case hex, a literal non-ASCII character, escaped '/' and '%', 4-byte UTF-8 -/
example : PyStr "a%c3%A9é%2f%25%f0%9F%98%80".toStr ∧ NoSurrogate "a%c3%A9é%2f%25%f0%9F%98%80".toStr ∧
    PyStr [97, 233, 233, 47, 37, 0x1F600] ∧ NoSurrogate [97, 233, 233, 47, 37, 0x1F600] := by
  str_lits; decide +kernel
example : pctDecode "a%c3%A9é%2f%25%f0%9F%98%80".toStr = utf8s [97, 233, 233, 47, 37, 0x1F600] := by
  str_lits; decide +kernel
/-- `C06_with_user_readback` / `C06_with_password_readback`: the side conditions are satisfiable -/
example : UserOK (some "old".toStr) ∧ HostOK "example.com".toStr ∧ HostOK "::1".toStr ∧
    (∀ p, (some 8080 : Option Nat) = some p → p ≤ 65535) := by
  refine ⟨by decide +kernel, by decide +kernel, by decide +kernel, ?_⟩
  intro p hp; cases hp; decide +kernel
/-- `C06_build_*_readback`: a successful `build` with authority-free and authority-bearing URLs -/
example : ∀ b : Backend, build ⟨b, DecLemmas.o0⟩ DecLemmas.exB =
    .ok (fromParts "http".toStr "h".toStr "/a%20b%25".toStr [] "f%20g".toStr) := by
  str_lits; intro b; cases b <;> decide +kernel
/-- hypotheses of the verbatim theorems: bytes that are invalid / incomplete on their own exist -/
example : decodeBuf [0xFF] = .invalid ∧ decodeBuf [0x80] = .invalid ∧ decodeBuf [0xC1] = .invalid ∧
    decodeBuf [0xC3] = .incomplete ∧ decodeBuf [0xE2, 0x82] = .incomplete ∧
    decodeBuf [0xED, 0xA0] = .incomplete := by decide +kernel
/-- malformed escapes (not two hex digits) are kept as they are, on every unquoter -/
example : ∀ b : Backend, Gen.UNQUOTER.run b "%zz%4".toStr = "%zz%4".toStr ∧
    Gen.QS_UNQUOTER.run b "%zz%4+%".toStr = "%zz%4 %".toStr := by
  intro b; cases b <;> decide +kernel

end Yarl
