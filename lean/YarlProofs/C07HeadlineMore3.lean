import YarlProofs.C07Headline
import YarlProofs.C07HeadlineMore
import YarlProofs.C07Encoded
import YarlProofs.C06Encoded
/-!
  C07HeadlineMore3.lean — AUDIT LAYER for property C07, third file (after C07Headline.lean and C07HeadlineMore.lean):
  headline theorems for the proof module added after the last refresh, C07Encoded.lean (`URL.build(…, encoded=True)`),
  and for `C06_encoded_str` (C06Encoded.lean).  This file is a leaf, nobody imports it.  The GAPS block of
  C07Headline.lean cites the theorems of this file.

  C07 | Parsing is the RFC 3986 decomposition of the input |
  "For every input string, the scheme, authority, path, query and fragment the library extracts equal the RFC 3986
  Appendix B decomposition of the string after stripping leading C0-control/space characters and removing tab, CR and
  LF, and user, password, host and port are the split of the authority at its last '@', the first ':' of the userinfo,
  and the ':' after the host or closing ']'. With encoded=True those raw components are returned verbatim, and for every
  URL the raw accessors re-compose to str(url)."

  What is here.  The property speaks about PARSING an input string; its clause "With encoded=True those raw components
  are returned verbatim" is proved for the constructor `URL(s, encoded=True)` (C07_headline_encoded_true_verbatim,
  C07_headline_encoded_true_accessors, GAPS 2).  The other `encoded=True` entry point, `URL.build(…, encoded=True)`
  (`build_pre_encoded_url`), takes the components as ARGUMENTS; C07Encoded.lean proves the same two statements for it:
  every argument is stored verbatim (only a truthy `query=` is rendered, by `get_str_query`, as in both modes), and the
  raw authority accessors are the `Rfc.authoritySplit` components of the stored authority text.  Also: which calls
  raise; and a witness that the guard `hrooted` of C07_headline_recompose_by_the_letter (GAPS 8) is a genuine
  restriction for such URLs.

  Vocabulary added by C07Encoded.lean.
  `C07_buildArgCheck a` — the argument checks of `URL.build`, in source order (`none` = all passed): authority mixed with
      user / password / host / port (`port is not None`: 0 counts) → ValueError; port not an int → TypeError; port outside 0..65535 → ValueError; port
      without host → ValueError; `query=` together with `query_string=` → ValueError.  They do not depend on `encoded`.
  `C07_buildQueryString e a` — the query text `build` stores in BOTH modes: `get_str_query(query) or ""` for a truthy
      `query=`, else `query_string=` as given.
  `C07_encBuildPort a` — the port argument, dropped when it equals `DEFAULT_PORTS.get(scheme)` for the scheme AS GIVEN.
  `C07_encBuildNetloc a` — the authority `build(encoded=True)` stores: `authority=` verbatim; else for a non-empty
      `host=`: `make_netloc(user, password, host, C07_encBuildPort, encode=False)` with the host text verbatim; else "".
  `Rfc.authoritySplit`, `C07_portOf`, `C07_strPath`, `C07_shownNetloc`, `rawPath`, `orNone`: see C07HeadlineMore.lean.
-/
namespace Yarl
open NetlocLemmas

/-! ## Sentence 2a — "With encoded=True those raw components are returned verbatim" — `URL.build(…, encoded=True)` -/

/-- `URL.build(…, encoded=True)` as ONE equation: the argument checks (the same in both modes), then the query text,
    then the five parts `scheme, C07_encBuildNetloc, path, query text, fragment` stored as they are.
    Cites C07_build_encoded (C07Encoded.lean). -/
theorem C07_headline_build_encoded_true_equation (e : Env) (a : BuildArgs)
    (ha : a.encoded = true) :                       -- `encoded=True`
    build e a =
      match C07_buildArgCheck a with
      | some err => .error err
      | none => (C07_buildQueryString e a).map
          (fun qs => fromParts a.scheme (C07_encBuildNetloc a) a.path qs a.fragment) :=
  C07_build_encoded e a ha

/-- "With encoded=True those raw components are returned verbatim" for `u = URL.build(…, encoded=True)`: the scheme is
    the argument verbatim (NOT lower-cased — the lowering of `build` comes after the `encoded` branch), path and
    fragment verbatim (no quoting, no dot-segment removal, no "path must start with '/'" check), `query_string=`
    verbatim, a truthy `query=` QUOTED by `get_str_query` as always (and then `query_string=` is empty), no cache
    pre-filled (so user / password / host / port are read lazily from the stored authority, as for the constructor).
    Cites C07_build_encoded_verbatim (C07Encoded.lean). -/
theorem C07_headline_build_encoded_true_verbatim (e : Env) (a : BuildArgs) (u : Url)
    (ha : a.encoded = true)                         -- `encoded=True`
    (h : build e a = .ok u) :                       -- the call succeeds with `u`
    C07_buildArgCheck a = none ∧
    u.scheme = a.scheme ∧
    u.netloc = C07_encBuildNetloc a ∧
    u.path = a.path ∧
    u.fragment = a.fragment ∧
    u.pre = none ∧
    C07_buildQueryString e a = .ok u.query ∧
    (qargTruthy a.query = false → u.query = a.queryString) ∧
    (qargTruthy a.query = true → a.queryString = [] ∧ ∃ r, getStrQuery e.b a.query = .ok r ∧ u.query = r.getD []) :=
  C07_build_encoded_verbatim e a u ha h

/-- the authority text `build(encoded=True)` stores, spelled out: `authority=` verbatim; without `authority=` and
    `host=` NOTHING (user / password are silently dropped; a port — 0 included — without a host raises); otherwise `userinfo ++ host ++ port` with the host
    VERBATIM (NO brackets around a host with ':', no IDNA, no lower-casing), user / password verbatim (an empty user is
    dropped; `user:password@` as soon as a password — even "" — is given), the port dropped iff it equals
    `DEFAULT_PORTS.get(scheme)` for the scheme AS GIVEN ("HTTP" has no default port: ":80" stays).
    Cites C07_encBuildNetloc_shape (C07Encoded.lean). -/
theorem C07_headline_build_encoded_true_authority (a : BuildArgs) :
    (a.authority ≠ [] → C07_encBuildNetloc a = a.authority) ∧
    (a.authority = [] → a.host = [] → C07_encBuildNetloc a = []) ∧
    (a.authority = [] → a.host ≠ [] →
      C07_encBuildNetloc a =
        (match a.user, a.password with
          | none, none => []
          | _, some pw => a.user.getD [] ++ [58] ++ pw ++ [64]
          | some us, none => if us = [] then [] else us ++ [64]) ++
        a.host ++
        (match C07_encBuildPort a with
          | none => []
          | some p => [58] ++ natToStr p)) ∧
    (C07_encBuildPort a =
      match a.port with
      | none => none
      | some p => if some p.toNat = defaultPort a.scheme then none else some p.toNat) :=
  C07_encBuildNetloc_shape a

/-- "user, password, host and port are the split of the authority …" for `u = URL.build(…, encoded=True)`: exactly as
    for `URL(s, encoded=True)` (C07_headline_encoded_true_accessors), `raw_user` / `raw_password` / `raw_host` /
    `explicit_port` are the `Rfc.authoritySplit` components of the STORED authority text `N = C07_encBuildNetloc a`,
    the port text through `int()` + range check (`C07_portOf`; all four raise when it fails), an empty user `None`,
    `raw_host` "" (not `None`) for a missing host under a non-empty authority; `raw_path` is "/" for an empty path under
    an authority.  NOTE: they are the split of the assembled TEXT, not the arguments: `build(host="h::1", port=80,
    scheme="HTTP", …, encoded=True)` stores "…h::1:80" without brackets, whose split has host "h" and port text ":1:80",
    so `explicit_port` — and with it the other three — raises (C07_headline_build_encoded_true_instance).
    Cites C07_build_encoded_accessors (C07Encoded.lean). -/
theorem C07_headline_build_encoded_true_accessors (e : Env) (a : BuildArgs) (u : Url)
    (ha : a.encoded = true)                         -- `encoded=True`
    (h : build e a = .ok u) :                       -- the call succeeds with `u`
    let N := C07_encBuildNetloc a
    let A := Rfc.authoritySplit N
    rawPath u = (if a.path = [] ∧ N ≠ [] then [47] else a.path) ∧
    explicitPort e u = C07_portOf e.o A.port ∧
    rawUser e u = (C07_portOf e.o A.port).map (fun _ => A.user.bind orNone) ∧
    rawPassword e u = (C07_portOf e.o A.port).map (fun _ => A.password) ∧
    rawHost e u = (C07_portOf e.o A.port).map (fun _ => if N = [] then none else some A.host) :=
  C07_build_encoded_accessors e a u ha h

/-- which `build(…, encoded=True)` calls raise, and with what: ALL the argument conflicts still raise (they are tested
    before `encoded` is looked at), `encoded=True` adds NO check of its own (no "path must start with '/'" check, no
    host validation, no port-text check), and the only other failure is that of `get_str_query` on a truthy `query=`.
    Cites C07_build_encoded_raises (C07Encoded.lean). -/
theorem C07_headline_build_encoded_true_raises (e : Env) (a : BuildArgs)
    (ha : a.encoded = true) :                       -- `encoded=True`
    (∀ err, C07_buildArgCheck a = some err → build e a = .error err) ∧
    (C07_buildArgCheck a = none → qargTruthy a.query = false → ∃ u, build e a = .ok u) ∧
    (C07_buildArgCheck a = none → qargTruthy a.query = true →
      build e a = (getStrQuery e.b a.query).map (fun r =>
        fromParts a.scheme (C07_encBuildNetloc a) a.path (r.getD []) a.fragment)) :=
  C07_build_encoded_raises e a ha

/-- one call with every feature, compared with the real library:
    `URL.build(scheme='HTTP', host='h::1', port=80, user='a b', password='', path='x/../y', query={'k': 'v w'},
    fragment='f g', encoded=True)` stores `('HTTP', 'a b:@h::1:80', 'x/../y', 'k=v+w', 'f g')`: scheme upper-case, so 80
    is not its default port and stays; host with ':' NOT bracketed — and `explicit_port` then raises (the port text is
    ":1:80"); rootless path with dot segments under an authority; only `query=` is quoted.  The same call with
    encoded=False is REJECTED (invalid host; rootless path); with the valid IPv6 host '::1', encoded=True stores
    "a b:@::1:80" (NO brackets) while encoded=False lower-cases the scheme, quotes the userinfo, brackets the host,
    drops the now-default port and removes the dot segments.  Cites C07_build_encoded_instance (C07Encoded.lean). -/
theorem C07_headline_build_encoded_true_instance :
    let e0 : Env := { b := .py, o := Oracles.empty }
    let a : BuildArgs := {
      scheme := "HTTP".toStr, host := "h::1".toStr, port := some 80, user := some "a b".toStr,
      password := some [], path := "x/../y".toStr,
      query := .mapping [("k".toStr, .one (.str "v w".toStr))], fragment := "f g".toStr, encoded := true }
    build e0 a = .ok (fromParts "HTTP".toStr "a b:@h::1:80".toStr "x/../y".toStr "k=v+w".toStr "f g".toStr) ∧
    (build e0 a).bind (explicitPort e0) = .error .valueError ∧
    build e0 { a with encoded := false } = .error .valueError ∧
    build e0 { a with encoded := false, path := "/x/../y".toStr } = .error .valueError ∧
    build e0 { a with host := "::1".toStr } =
      .ok (fromParts "HTTP".toStr "a b:@::1:80".toStr "x/../y".toStr "k=v+w".toStr "f g".toStr) ∧
    build e0 { a with host := "::1".toStr, encoded := false, path := "/x/../y".toStr } =
      .ok (fromParts "http".toStr "a%20b:@[::1]".toStr "/y".toStr "k=v+w".toStr "f%20g".toStr) :=
  C07_build_encoded_instance

/-- the argument conflicts still raise with `encoded=True` (Python: `URL.build(encoded=True, authority='a', host='h')`,
    `…(authority='a', user='u')`, `…(port=80)`, `…(host='h', port=70000)`, `…(host='h', port=True)`,
    `…(query='a', query_string='b')`, and — the checks read `port is not None` — `authority='a', port=0`), while
    `authority='a', user='', password=''` passes.
    Cites C07_build_encoded_conflicts (C07Encoded.lean). -/
theorem C07_headline_build_encoded_true_conflicts :
    let e0 : Env := { b := .py, o := Oracles.empty }
    build e0 { authority := "a".toStr, host := "h".toStr, encoded := true } = .error .valueError ∧
    build e0 { authority := "a".toStr, user := some "u".toStr, encoded := true } = .error .valueError ∧
    build e0 { port := some 80, encoded := true } = .error .valueError ∧
    build e0 { host := "h".toStr, port := some 70000, encoded := true } = .error .valueError ∧
    build e0 { host := "h".toStr, portKind := 1, encoded := true } = .error .typeError ∧
    build e0 { query := .str "a".toStr, queryString := "b".toStr, encoded := true } = .error .valueError ∧
    build e0 { authority := "a".toStr, port := some 0, encoded := true } = .error .valueError ∧
    build e0 { authority := "a".toStr, user := some [], password := some [], encoded := true } =
      .ok (fromParts [] "a".toStr [] [] []) :=
  C07_build_encoded_conflicts

/-! ## Sentence 2b — "and for every URL the raw accessors re-compose to str(url)." — `encoded=True` URLs -/

/-- "for every URL the raw accessors re-compose to str(url)" on an `encoded=True` URL (constructor or `build`): no cache
    is pre-filled; `str(url)` prints the stored scheme / path / query / fragment VERBATIM through `unsplit_result` and
    the stored authority verbatim UNLESS an explicit port equal to the scheme default is written, in which case the
    authority is re-made from raw_user, raw_password and host_subcomponent without the port (F-C07-default-port: "U:P@H:080"
    under "http" prints "U:P@H"); if the port text cannot be parsed, `str()` raises that error (F-C19-encoded-str).
    (C07_headline_recompose_with_accessors — which has no hypothesis on the URL — plus `u.pre = none` and the
    non-default-port clause.)  Cites C06_encoded_str (C06Encoded.lean). -/
theorem C07_headline_encoded_true_str (e : Env) (u : Url)
    (hu : (∃ s, preEncodedUrl e s = .ok u) ∨                       -- `u = URL(s, encoded=True)`, or
      (∃ a, a.encoded = true ∧ build e a = .ok u)) :               -- `u = URL.build(…, encoded=True)`
    u.pre = none ∧
    (∀ ep, explicitPort e u = .ok ep →
      ∃ ru rp hs, rawUser e u = .ok ru ∧ rawPassword e u = .ok rp ∧ hostSubcomponent e u = .ok hs ∧
        str e u = .ok (unsplitResult u.scheme (C07_shownNetloc e u ep ru rp hs) (C07_strPath u) u.query u.fragment) ∧
        ((∀ p, ep = some p → some p ≠ defaultPort u.scheme) → C07_shownNetloc e u ep ru rp hs = u.netloc)) ∧
    (∀ err, explicitPort e u = .error err → str e u = .error err) :=
  C06_encoded_str e u hu

/-- GAPS 8: the guard `hrooted` of C07_headline_recompose_by_the_letter ("under an authority the stored path is empty or
    rooted") is a GENUINE restriction for `build(…, encoded=True)` results: `URL.build(scheme='http', host='h', port=80,
    path='x', query_string='a b', encoded=True)` stores `('http', 'h', 'x', 'a b', '')` — a ROOTLESS path under an
    authority (default port dropped, `query_string=` verbatim) — and `str()` of it is "http://h/x?a b" (`unsplit_result`
    inserts the '/'), not the plain concatenation "http://hx?a b" of the raw accessors.  (The constructor cannot produce
    such a URL: Appendix B paths under an authority are empty or rooted.)
    First conjunct cites C07_build_encoded_instances (C07Encoded.lean); the rest is computed. -/
theorem C07_headline_recompose_by_the_letter_fails_for_rootless_build_encoded_true :
    let e0 : Env := { b := .py, o := Oracles.empty }
    let u := fromParts "http".toStr "h".toStr "x".toStr "a b".toStr []
    build e0 { scheme := "http".toStr, host := "h".toStr, port := some 80, path := "x".toStr,
               queryString := "a b".toStr, encoded := true } = .ok u ∧
    u.netloc ≠ [] ∧ ¬ (u.path = [] ∨ u.path.head? = some 47) ∧
    str e0 u = .ok "http://h/x?a b".toStr ∧
    u.scheme ++ [58] ++ [47, 47] ++ u.netloc ++ rawPath u ++ 63 :: u.query = "http://hx?a b".toStr :=
  ⟨C07_build_encoded_instances.1, by str_lits; decide +kernel⟩

/-! ## non-vacuity -/

/-- `build(scheme='http', authority='U@H:080', path='x', query='a b=c', encoded=True)`: through the headline theorems —
    authority verbatim, a str `query=` quoted, and `explicit_port` = `int("080")` = 80 read from the stored text -/
example :
    let e0 : Env := { b := .py, o := Oracles.empty }
    ∀ u, build e0 { scheme := "http".toStr, authority := "U@H:080".toStr, path := "x".toStr,
                    query := .str "a b=c".toStr, encoded := true } = .ok u →
      u.netloc = "U@H:080".toStr ∧ u.path = "x".toStr ∧ explicitPort e0 u = .ok (some 80) ∧
      rawUser e0 u = .ok (some "U".toStr) := by
  intro e0 u h
  obtain ⟨_, _, h3, h4, _⟩ := C07_headline_build_encoded_true_verbatim e0 _ u rfl h
  obtain ⟨_, h6, h7, _⟩ := C07_headline_build_encoded_true_accessors e0 _ u rfl h
  exact ⟨h3.trans (by decide +kernel), h4, h6.trans (by decide +kernel),
    h7.trans (by decide +kernel)⟩

end Yarl
