import YarlProofs.C11Headline
import YarlProofs.C11Ctor
import YarlProofs.C03Netloc
/-!
# C11 — Every modifier changes only its own component   (audit layer, continued)

Continuation of `C11Headline.lean`: the theorems that need `C11Ctor.lean` (which imports `C11Headline.lean`, so
that file cannot import it) and `C03Netloc.lean`.

Property statement (verbatim):

> with_scheme, with_user, with_password, with_host, with_port, with_fragment and the query operations
> return a URL in which the targeted component reads back as the canonicalised argument and every other
> raw component - including IPv6 brackets, an explicit port and an empty-vs-absent password - is
> unchanged (with_user(None) also drops the password, as documented). with_path, with_name, with_suffix,
> /, joinpath and parent keep scheme and authority and clear query and fragment unless
> keep_query/keep_fragment is given; origin() keeps only scheme, host and port and relative() only path,
> query and fragment.

What is added here.  `C11Headline.lean` proves sentence 1 (authority modifiers) and `origin()` for URLs `u` with
`Written qf u user pw h port` — no pre-filled cache, stored authority = the `make_netloc` text.  Here the same
statements are proved for the URLs the library actually produces:

 * URLs WITH a pre-filled cache (the auto-encoding constructor fills it), provided the cache holds what the lazy
   path reads from the stored text: `net e (pickleTwin u) = net e u` (`pickleTwin u` = `u` with the cache
   dropped, `net` = the four cached-or-lazily-parsed authority components);
 * the invariant `NetlocCanon e u` (C03Reach.lean: the stored authority is empty, or `[user[:pw]@]host[:port]`
   with requoter-canonical user/password, a host `_encode_host` maps to itself, a port ≤ 65535, and the cache —
   when filled — agrees), which the constructor and `build(encoded=False)` establish on supported input and
   every operation keeps.  From it `Written` FOLLOWS (`C11_headline_written_of_invariant`).

Vocabulary of the cited modules: `AuthInput o n` (Lemmas/NetShape.lean) — the input authority `n` is empty, or
`split_netloc` accepts it and its host text is `HostTextOK` (ASCII: a name/IPv4 text of visible characters without
`/ ? # @ [ ] :`, or an IPv6 literal with optional zone id; any letter case) and a host that is no IPv6 literal is not
written in brackets.  `BuildNetOK e a` — `authority=` is a Python string with `AuthInput`, `user=`/`password=` are
Python strings, `host=` is ASCII.  `GoodAuthority e s` (Lemmas/EagerLemmas.lean) — the C09 guard on the split input
authority under which the constructor's cache equals the lazy values.
-/
namespace Yarl
open NetlocLemmas HeadB EagerLemmas NetShape

/-! ## Sentence 1 on the URLs the library produces (GAPS 1 of C11Headline.lean) -/

/-- GAPS 1, first half ("the composition C09_eager_eq_lazy + C09_modifiers_of_net + these theorems is not stated
    anywhere").  Where the cache-agreement equation comes from: a constructor result under the C09 guard, and
    every URL satisfying the invariant.  Cites `C09_pickle_lossless` (via `CtorMods.ctor_agree`) and
    `C11_netlocCanon_cache_agrees` (C11Ctor.lean). -/
theorem C11_headline_cache_agrees (e : Env) (u : Url) :
    (∀ s, encodeUrl e s = .ok u → GoodAuthority e s → net e (pickleTwin u) = net e u) ∧
    (NetlocCanon e u → net e (pickleTwin u) = net e u) :=
  ⟨fun s hu hg => CtorMods.ctor_agree e s u hu hg, C11_netlocCanon_cache_agrees e u⟩

/-- GAPS 1, first half: "with_user, with_password, with_host, with_port … reads back as the canonicalised argument
    and every other raw component - including IPv6 brackets, an explicit port and an empty-vs-absent password - is
    unchanged (with_user(None) also drops the password)" and "origin() keeps only scheme, host and port" for a URL
    WITH a pre-filled cache: the `Written` shape is asked of the cache-less twin, the conclusions are about `u`
    itself.  Cites `C11_cached_with_user`, `_with_user_none`, `_with_password`, `_with_host`, `_with_port`,
    `_origin` (C11Ctor.lean). -/
theorem C11_headline_cached_modifiers (e : Env) (qf : Str → Str) (u : Url) (user pw : Option Str) (h : Str)
    (port : Option Nat)
    -- the cache, if any, holds what the lazy path reads (`C11_headline_cache_agrees`); an inconsistent hand-made
    -- record is served from its cache (`C03_inconsistent_cache_counterexample`)
    (hnet : net e (pickleTwin u) = net e u)
    -- the stored authority is the `make_netloc` text (follows from the invariant:
    -- `C11_headline_written_of_invariant`)
    (w : Written qf (pickleTwin u) user pw h port) :
    (∀ x, PyStr x →                       -- a Python string: the quoter output has no ':'
       q e Gen.QUOTER x ≠ [] →            -- `with_user("")` DROPS the user: `C11_headline_with_user_fails_for_empty`
      ∃ v, withUser e u (some x) = .ok v ∧ rawUser e v = .ok (some (q e Gen.QUOTER x)) ∧
        rawPassword e v = .ok pw ∧ rawHost e v = .ok (some h) ∧ explicitPort e v = .ok port ∧
        v.scheme = u.scheme ∧ v.path = u.path ∧ v.query = u.query ∧ v.fragment = u.fragment) ∧
    (∃ v, withUser e u none = .ok v ∧ rawUser e v = .ok none ∧ rawPassword e v = .ok none ∧
        rawHost e v = .ok (some h) ∧ explicitPort e v = .ok port ∧
        v.scheme = u.scheme ∧ v.path = u.path ∧ v.query = u.query ∧ v.fragment = u.fragment) ∧
    (∀ np, ∃ v, withPassword e u np = .ok v ∧ rawPassword e v = .ok (np.map (q e Gen.QUOTER)) ∧
        rawUser e v = .ok user ∧ rawHost e v = .ok (some h) ∧ explicitPort e v = .ok port ∧
        v.scheme = u.scheme ∧ v.path = u.path ∧ v.query = u.query ∧ v.fragment = u.fragment) ∧
    (∀ hs eh, hs ≠ [] →                   -- `with_host("")` is rejected
       encodeHost e.o hs true = .ok eh →  -- `eh` = `_encode_host(hs)`, the canonicalisation (C16)
       eh ≠ [] →                          -- excludes an IDNA oracle answering "" (GAPS 4)
      ∃ v, withHost e u hs = .ok v ∧ rawHost e v = .ok (some (unbracket eh)) ∧
        rawUser e v = .ok user ∧ rawPassword e v = .ok pw ∧ explicitPort e v = .ok port ∧
        v.scheme = u.scheme ∧ v.path = u.path ∧ v.query = u.query ∧ v.fragment = u.fragment) ∧
    (∀ np : Option Int,
       (∀ p, np = some p → 0 ≤ p ∧ p ≤ 65535) →   -- other values are rejected: C17
      ∃ v, withPort e u np 0 = .ok v ∧ explicitPort e v = .ok (np.map Int.toNat) ∧
        rawUser e v = .ok user ∧ rawPassword e v = .ok pw ∧ rawHost e v = .ok (some h) ∧
        v.scheme = u.scheme ∧ v.path = u.path ∧ v.query = u.query ∧ v.fragment = u.fragment) ∧
    (u.scheme ≠ [] →                      -- `origin()` without scheme raises ValueError
      ∃ v, origin e u = .ok v ∧ v.scheme = u.scheme ∧ rawHost e v = .ok (some h) ∧ explicitPort e v = .ok port ∧
        rawUser e v = .ok none ∧ rawPassword e v = .ok none ∧ 64 ∉ v.netloc ∧
        v.path = [] ∧ v.query = [] ∧ v.fragment = []) :=
  ⟨fun x hx hq => C11_cached_with_user e qf u user pw h port x hnet w hx hq,
   C11_cached_with_user_none e qf u user pw h port hnet w,
   fun np => C11_cached_with_password e qf u user pw h port np hnet w,
   fun hs eh h1 h2 h3 => C11_cached_with_host e qf u user pw h port hs eh hnet w h1 h2 h3,
   fun np hnp => C11_cached_with_port e qf u user pw h port np hnet w hnp,
   fun hsch => C11_cached_origin e qf u user pw h port hnet w hsch⟩

/-- GAPS 1, second half ("no theorem says that the stored netloc of a constructor result satisfies `Written`"; "the
    bridge `NetlocCanon e u → ∃ …, Written id (pickleTwin u) …` is not written down"): the invariant with a
    non-empty authority gives the `Written` shape of the cache-less twin with `qf = id`; the four components ARE
    the raw accessors of `u` itself (cache or not), and the cache agrees.  Cites `C11_netlocCanon_view`. -/
theorem C11_headline_written_of_invariant (e : Env) (u : Url)
    (hc : NetlocCanon e u)       -- the invariant (where it comes from: `C11_headline_invariant_of_*` below)
    (hne : u.netloc ≠ []) :      -- there is an authority (without one the authority modifiers raise ValueError)
    ∃ user pw h port, Written id (pickleTwin u) user pw h port ∧
      rawUser e u = .ok user ∧ rawPassword e u = .ok pw ∧ rawHost e u = .ok (some h) ∧
      explicitPort e u = .ok port ∧ net e (pickleTwin u) = net e u := by
  obtain ⟨user, pw, h, port, w, _, _, a1, a2, a3, a4, a5⟩ := C11_netlocCanon_view e u hc hne
  exact ⟨user, pw, h, port, w, a1, a2, a3, a4, a5⟩

/-- where the invariant comes from (1): the auto-encoding constructor on a Python string whose authority is empty
    or names a supported ASCII host (`AuthInput`).  Cites `C03_encodeUrl_netlocCanon` (C03Netloc.lean).  (IDN
    hosts: `C03_idn_netlocCanon_ctor`, C03Idn.lean, under the sanity assumption on the `idna` answers.) -/
theorem C11_headline_invariant_of_ctor (e : Env) (s : Str) (u : Url) (pt : Parts)
    (hs : PyStr s)                        -- the input is a Python string
    (hu : encodeUrl e s = .ok u)          -- `u = URL(s)`
    (hpt : splitUrl e.o s = .ok pt)       -- `pt` = the five parts `split_url` cuts
    (ha : AuthInput e.o pt.netloc) :      -- supported host kinds (see the header); others: GAPS 8
    NetlocCanon e u :=
  C03_encodeUrl_netlocCanon e s u pt hs hu hpt ha

/-- where the invariant comes from (2): `URL.build(…, encoded=False)`; `authority=` as for the constructor, `host=`
    any accepted ASCII text (it is validated by `build`), `user=`/`password=` Python strings.  Cites
    `C03_build_netlocCanon` (C03Netloc.lean). -/
theorem C11_headline_invariant_of_build (e : Env) (a : BuildArgs) (u : Url)
    (henc : a.encoded = false)            -- `encoded=True` stores the authority unchecked: GAPS 2
    (hok : BuildNetOK e a)                -- supported authority arguments (see the header)
    (hb : build e a = .ok u) : NetlocCanon e u :=
  C03_build_netlocCanon e a u henc hok hb

/-- where the invariant comes from (3): every operation of the auto-encoding API keeps it (`applyOp` runs one of
    with_scheme/user/password/host/port/path/query…/fragment/name/suffix, `/`, parent, origin, relative, join,
    copy), and so does `join`.  `op.ArgsPy` = the text arguments are Python strings; `op.NetArgs` = the host handed
    to `with_host` is encoded to a fixed point of `_encode_host` (true of every non-empty ASCII argument:
    `C03_withHost_netArgs`) and a `join` reference satisfies the invariant itself.
    Cites `C03_applyOp_netlocCanon`, `C03_join_netlocCanon` (C03Reach.lean). -/
theorem C11_headline_invariant_kept (e : Env) (u : Url) (hn : NetlocCanon e u) :
    (∀ op v, op.ArgsPy e.b → op.NetArgs e → applyOp e u op = .ok v → NetlocCanon e v) ∧
    (∀ r, NetlocCanon e r → NetlocCanon e (join e u r)) :=
  ⟨fun op v ha hx h => C03_applyOp_netlocCanon e u hn op ha hx v h, fun r hr => C03_join_netlocCanon e u r hn hr⟩

/-- GAPS 1, end to end from the invariant: sentence 1 of C11 for the authority modifiers, and `origin()`, on EVERY
    URL with `NetlocCanon` and an authority — cache or not, no `Written` hypothesis, no `GoodAuthority`.  `user`,
    `pw`, `h`, `port` are the raw components of `u` itself.  Cites `C11_netlocCanon_modifiers` (C11Ctor.lean). -/
theorem C11_headline_invariant_modifiers (e : Env) (u : Url)
    (hc : NetlocCanon e u)       -- the invariant (`C11_headline_invariant_of_ctor` / `_of_build` / `_kept`)
    (hne : u.netloc ≠ []) :      -- there is an authority
    ∃ user pw h port,
      rawUser e u = .ok user ∧ rawPassword e u = .ok pw ∧ rawHost e u = .ok (some h) ∧ explicitPort e u = .ok port ∧
      (∀ x, PyStr x → q e Gen.QUOTER x ≠ [] →   -- guards as in `C11_headline_with_user`
        ∃ v, withUser e u (some x) = .ok v ∧ rawUser e v = .ok (some (q e Gen.QUOTER x)) ∧
          rawPassword e v = .ok pw ∧ rawHost e v = .ok (some h) ∧ explicitPort e v = .ok port ∧
          v.scheme = u.scheme ∧ v.path = u.path ∧ v.query = u.query ∧ v.fragment = u.fragment) ∧
      (∃ v, withUser e u none = .ok v ∧ rawUser e v = .ok none ∧ rawPassword e v = .ok none ∧
          rawHost e v = .ok (some h) ∧ explicitPort e v = .ok port ∧
          v.scheme = u.scheme ∧ v.path = u.path ∧ v.query = u.query ∧ v.fragment = u.fragment) ∧
      (∀ np, ∃ v, withPassword e u np = .ok v ∧ rawPassword e v = .ok (np.map (q e Gen.QUOTER)) ∧
          rawUser e v = .ok user ∧ rawHost e v = .ok (some h) ∧ explicitPort e v = .ok port ∧
          v.scheme = u.scheme ∧ v.path = u.path ∧ v.query = u.query ∧ v.fragment = u.fragment) ∧
      (∀ hs eh, hs ≠ [] → encodeHost e.o hs true = .ok eh → eh ≠ [] →   -- guards as in `C11_headline_with_host`
        ∃ v, withHost e u hs = .ok v ∧ rawHost e v = .ok (some (unbracket eh)) ∧
          rawUser e v = .ok user ∧ rawPassword e v = .ok pw ∧ explicitPort e v = .ok port ∧
          v.scheme = u.scheme ∧ v.path = u.path ∧ v.query = u.query ∧ v.fragment = u.fragment) ∧
      (∀ np : Option Int, (∀ p, np = some p → 0 ≤ p ∧ p ≤ 65535) →    -- guard as in `C11_headline_with_port`
        ∃ v, withPort e u np 0 = .ok v ∧ explicitPort e v = .ok (np.map Int.toNat) ∧
          rawUser e v = .ok user ∧ rawPassword e v = .ok pw ∧ rawHost e v = .ok (some h) ∧
          v.scheme = u.scheme ∧ v.path = u.path ∧ v.query = u.query ∧ v.fragment = u.fragment) ∧
      (u.scheme ≠ [] →                                                  -- guard as in `C11_headline_origin`
        ∃ v, origin e u = .ok v ∧ v.scheme = u.scheme ∧ rawHost e v = .ok (some h) ∧ explicitPort e v = .ok port ∧
          rawUser e v = .ok none ∧ rawPassword e v = .ok none ∧ 64 ∉ v.netloc ∧
          v.path = [] ∧ v.query = [] ∧ v.fragment = []) :=
  C11_netlocCanon_modifiers e u hc hne

/-- GAPS 1, end to end from the INPUT, constructor route: `u = URL(s)` for a Python string `s` whose authority names
    a supported ASCII host; then sentence 1 (authority modifiers) and `origin()` hold for `u`, with `user`, `pw`, `h`,
    `port` the raw components of `u`.  (= `C11_headline_invariant_of_ctor` + `C11_headline_invariant_modifiers`.) -/
theorem C11_headline_ctor_modifiers (e : Env) (s : Str) (u : Url) (pt : Parts)
    (hs : PyStr s) (hu : encodeUrl e s = .ok u) (hpt : splitUrl e.o s = .ok pt)
    (ha : AuthInput e.o pt.netloc)   -- supported host kinds; others: GAPS 8
    (hne : u.netloc ≠ []) :          -- there is an authority
    ∃ user pw h port,
      rawUser e u = .ok user ∧ rawPassword e u = .ok pw ∧ rawHost e u = .ok (some h) ∧ explicitPort e u = .ok port ∧
      (∀ x, PyStr x → q e Gen.QUOTER x ≠ [] →
        ∃ v, withUser e u (some x) = .ok v ∧ rawUser e v = .ok (some (q e Gen.QUOTER x)) ∧
          rawPassword e v = .ok pw ∧ rawHost e v = .ok (some h) ∧ explicitPort e v = .ok port ∧
          v.scheme = u.scheme ∧ v.path = u.path ∧ v.query = u.query ∧ v.fragment = u.fragment) ∧
      (∃ v, withUser e u none = .ok v ∧ rawUser e v = .ok none ∧ rawPassword e v = .ok none ∧
          rawHost e v = .ok (some h) ∧ explicitPort e v = .ok port ∧
          v.scheme = u.scheme ∧ v.path = u.path ∧ v.query = u.query ∧ v.fragment = u.fragment) ∧
      (∀ np, ∃ v, withPassword e u np = .ok v ∧ rawPassword e v = .ok (np.map (q e Gen.QUOTER)) ∧
          rawUser e v = .ok user ∧ rawHost e v = .ok (some h) ∧ explicitPort e v = .ok port ∧
          v.scheme = u.scheme ∧ v.path = u.path ∧ v.query = u.query ∧ v.fragment = u.fragment) ∧
      (∀ hs eh, hs ≠ [] → encodeHost e.o hs true = .ok eh → eh ≠ [] →
        ∃ v, withHost e u hs = .ok v ∧ rawHost e v = .ok (some (unbracket eh)) ∧
          rawUser e v = .ok user ∧ rawPassword e v = .ok pw ∧ explicitPort e v = .ok port ∧
          v.scheme = u.scheme ∧ v.path = u.path ∧ v.query = u.query ∧ v.fragment = u.fragment) ∧
      (∀ np : Option Int, (∀ p, np = some p → 0 ≤ p ∧ p ≤ 65535) →
        ∃ v, withPort e u np 0 = .ok v ∧ explicitPort e v = .ok (np.map Int.toNat) ∧
          rawUser e v = .ok user ∧ rawPassword e v = .ok pw ∧ rawHost e v = .ok (some h) ∧
          v.scheme = u.scheme ∧ v.path = u.path ∧ v.query = u.query ∧ v.fragment = u.fragment) ∧
      (u.scheme ≠ [] →
        ∃ v, origin e u = .ok v ∧ v.scheme = u.scheme ∧ rawHost e v = .ok (some h) ∧ explicitPort e v = .ok port ∧
          rawUser e v = .ok none ∧ rawPassword e v = .ok none ∧ 64 ∉ v.netloc ∧
          v.path = [] ∧ v.query = [] ∧ v.fragment = []) :=
  C11_netlocCanon_modifiers e u (C03_encodeUrl_netlocCanon e s u pt hs hu hpt ha) hne

/-- GAPS 1, end to end from the INPUT, `build` route: `u = URL.build(…, encoded=False)` with supported authority
    arguments.  (= `C11_headline_invariant_of_build` + `C11_headline_invariant_modifiers`.)  Note: `build`
    lower-cases the scheme (fix e21485a) and drops a port equal to the default of that lower-cased scheme, so
    `port` here is never the scheme default (`C03_build_noDefaultPort`; C17). -/
theorem C11_headline_build_modifiers (e : Env) (a : BuildArgs) (u : Url)
    (henc : a.encoded = false)       -- `encoded=True`: GAPS 2
    (hok : BuildNetOK e a)           -- supported authority arguments
    (hb : build e a = .ok u)
    (hne : u.netloc ≠ []) :          -- there is an authority
    ∃ user pw h port,
      rawUser e u = .ok user ∧ rawPassword e u = .ok pw ∧ rawHost e u = .ok (some h) ∧ explicitPort e u = .ok port ∧
      (∀ x, PyStr x → q e Gen.QUOTER x ≠ [] →
        ∃ v, withUser e u (some x) = .ok v ∧ rawUser e v = .ok (some (q e Gen.QUOTER x)) ∧
          rawPassword e v = .ok pw ∧ rawHost e v = .ok (some h) ∧ explicitPort e v = .ok port ∧
          v.scheme = u.scheme ∧ v.path = u.path ∧ v.query = u.query ∧ v.fragment = u.fragment) ∧
      (∃ v, withUser e u none = .ok v ∧ rawUser e v = .ok none ∧ rawPassword e v = .ok none ∧
          rawHost e v = .ok (some h) ∧ explicitPort e v = .ok port ∧
          v.scheme = u.scheme ∧ v.path = u.path ∧ v.query = u.query ∧ v.fragment = u.fragment) ∧
      (∀ np, ∃ v, withPassword e u np = .ok v ∧ rawPassword e v = .ok (np.map (q e Gen.QUOTER)) ∧
          rawUser e v = .ok user ∧ rawHost e v = .ok (some h) ∧ explicitPort e v = .ok port ∧
          v.scheme = u.scheme ∧ v.path = u.path ∧ v.query = u.query ∧ v.fragment = u.fragment) ∧
      (∀ hs eh, hs ≠ [] → encodeHost e.o hs true = .ok eh → eh ≠ [] →
        ∃ v, withHost e u hs = .ok v ∧ rawHost e v = .ok (some (unbracket eh)) ∧
          rawUser e v = .ok user ∧ rawPassword e v = .ok pw ∧ explicitPort e v = .ok port ∧
          v.scheme = u.scheme ∧ v.path = u.path ∧ v.query = u.query ∧ v.fragment = u.fragment) ∧
      (∀ np : Option Int, (∀ p, np = some p → 0 ≤ p ∧ p ≤ 65535) →
        ∃ v, withPort e u np 0 = .ok v ∧ explicitPort e v = .ok (np.map Int.toNat) ∧
          rawUser e v = .ok user ∧ rawPassword e v = .ok pw ∧ rawHost e v = .ok (some h) ∧
          v.scheme = u.scheme ∧ v.path = u.path ∧ v.query = u.query ∧ v.fragment = u.fragment) ∧
      (u.scheme ≠ [] →
        ∃ v, origin e u = .ok v ∧ v.scheme = u.scheme ∧ rawHost e v = .ok (some h) ∧ explicitPort e v = .ok port ∧
          rawUser e v = .ok none ∧ rawPassword e v = .ok none ∧ 64 ∉ v.netloc ∧
          v.path = [] ∧ v.query = [] ∧ v.fragment = []) :=
  C11_netlocCanon_modifiers e u (C03_build_netlocCanon e a u henc hok hb) hne

/-! ## with_scheme and the authority-derived accessors (GAPS 5 of C11Headline.lean) -/

/-- GAPS 5 ("that with_scheme never touches the authority-derived accessors follows from `v.netloc = u.netloc` only
    for `u.pre = none`"): "with_scheme … every other raw component is unchanged", accessor by accessor, ALSO on a URL
    with a pre-filled cache (the result has no cache and reads the unchanged stored text lazily).  `port`,
    `is_default_port()` and `str()` depend on the scheme and are of course not kept.
    Cites `C11_cached_with_scheme` (C11Ctor.lean). -/
theorem C11_headline_with_scheme_accessors (e : Env) (u v : Url) (x : Str)
    -- the cache, if any, is consistent (`C11_headline_cache_agrees`: constructor results under the C09 guard, every
    -- URL with the invariant; trivially true when `u.pre = none`)
    (hnet : net e (pickleTwin u) = net e u)
    (hv : withScheme e u x = .ok v) :
    lowerAny e x = .ok v.scheme ∧ (isAscii x = true → v.scheme = lower x) ∧
    v.netloc = u.netloc ∧ v.path = u.path ∧ v.query = u.query ∧ v.fragment = u.fragment ∧
    rawUser e v = rawUser e u ∧ rawPassword e v = rawPassword e u ∧ rawHost e v = rawHost e u ∧
    explicitPort e v = explicitPort e u ∧ hostSubcomponent e v = hostSubcomponent e u ∧
    user e v = user e u ∧ password e v = password e u ∧ host e v = host e u := by
  obtain ⟨a1, a2, a3, a4, a5, a6, _, b⟩ := C11_cached_with_scheme e u v x hnet hv
  exact ⟨a1, a2, a3, a4, a5, a6, b⟩

/-- GAPS 5 for a constructor result: only the C09 guard `GoodAuthority` is needed — ANY accepted authority inside the
    guard, `Written` or not.  Cites `C11_ctor_with_scheme`. -/
theorem C11_headline_ctor_with_scheme_accessors (e : Env) (s : Str) (u v : Url) (x : Str)
    (hu : encodeUrl e s = .ok u)
    (hg : GoodAuthority e s)      -- the C09 guard: the constructor's cache equals the lazy values
    (hv : withScheme e u x = .ok v) :
    v.netloc = u.netloc ∧ v.path = u.path ∧ v.query = u.query ∧ v.fragment = u.fragment ∧
    rawUser e v = rawUser e u ∧ rawPassword e v = rawPassword e u ∧ rawHost e v = rawHost e u ∧
    explicitPort e v = explicitPort e u ∧ hostSubcomponent e v = hostSubcomponent e u ∧
    user e v = user e u ∧ password e v = password e u ∧ host e v = host e u := by
  obtain ⟨_, _, a3, a4, a5, a6, _, b⟩ := C11_ctor_with_scheme e s u v x hu hg hv
  exact ⟨a3, a4, a5, a6, b⟩

/-! ## non-vacuity: a constructor result WITH cache (upper-case input, IPv6 brackets, explicit port) -/
section checks
private def e1 : Env := { b := .py, o := Oracles.empty }
private def s1 : Str := "HTTP://Me:pw@[::1]:8080/p?k=v#f".toStr
private def u1 : Url :=
  { scheme := "http".toStr, netloc := "Me:pw@[::1]:8080".toStr, path := "/p".toStr, query := "k=v".toStr,
    fragment := "f".toStr,
    pre := some { rawHost := some "::1".toStr, explicitPort := some 8080, rawUser := some "Me".toStr,
                  rawPassword := some "pw".toStr } }
example : encodeUrl e1 s1 = .ok u1 ∧ u1.pre ≠ none ∧ u1.netloc ≠ [] := by simp only [s1, u1]; str_lits; decide +kernel
example : Written id (pickleTwin u1) (some "Me".toStr) (some "pw".toStr) "::1".toStr (some 8080) :=
  ⟨rfl, by simp only [u1]; str_lits; decide +kernel, by str_lits; decide +kernel, by str_lits; decide +kernel, by decide +kernel⟩
-- what `C11_headline_cached_modifiers` then says, computed
example : (withUser e1 u1 (some "a b".toStr)).map (·.netloc) = .ok "a%20b:pw@[::1]:8080".toStr := by simp only [u1]; str_lits; decide +kernel
example : (withPort e1 u1 (some 0) 0).map (·.netloc) = .ok "Me:pw@[::1]:0".toStr := by simp only [u1]; str_lits; decide +kernel
example : (origin e1 u1).map (·.netloc) = .ok "[::1]:8080".toStr := by simp only [u1]; str_lits; decide +kernel
end checks

end Yarl
