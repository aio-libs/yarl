import YarlProofs.C02Headline
import YarlProofs.C02HeadlineMore2
import YarlProofs.C06More2
/-!
  C02HeadlineMore3.lean — AUDIT LAYER for property C02, third continuation of C02Headline.lean: the `build(authority=…)`
  half of GAPS 3, which C06More2.lean (+ Lemmas/Readback2.lean; written for property C06, GAPS 3 there) now supplies.
  This file is a leaf, nobody imports it.  The GAPS block of C02Headline.lean cites the theorem of this file.

  C02 | Canonicalisation never changes what a URL means |
  "Auto-encoding preserves every decoded value: percent-decoding the canonical user, password, each path
  segment, each query key and value, and the fragment yields exactly the bytes obtained by percent-decoding
  (as UTF-8) the text that was supplied. Delimiter status is preserved too: an encoded '/' inside a path
  segment and encoded '&', '=', '+', ';' inside a query stay encoded, literal ones stay literal, so the number
  and boundaries of path segments and query pairs never change."

  What is here: "percent-decoding the canonical user, password … yields exactly the bytes … [of] the text that was
  supplied" for `URL.build(authority=A)` (encoded=False), the entry point C02_headline_build_user_password
  (C02HeadlineMore2.lean) excludes by its hypothesis `hauth`.  As for `build(user=…)`, the supplied userinfo texts are
  DECODED texts (reference value `utf8s`): the library QUOTES them, a supplied "%41" is the three characters '%' '4' '1'
  and is stored "%2541" (C06_build_authority_not_percent_decoded) — unlike the constructor, which REQUOTES.

  Vocabulary.  `np = split_netloc(A)` (`splitNetloc e.o A = .ok np`): `np.user` = the text before the first ':' of the
  userinfo (the text before the LAST '@' of `A`), `None` when empty; `np.password` = the text after that ':' (`None`
  without ':'); `np.host` = the host text without brackets.  `HostTextOK h0` (Lemmas/NetShape.lean) = a supported ASCII
  host text: non-empty and either (no ':') a name / IPv4 text of visible ASCII characters without `/ ? # @ [ ] :`, or
  (with ':') an IPv6 literal with optional "%zone".  `q e a s` = `a.run e.b s`; `orNone x` = `x or None`.
-/
namespace Yarl
open NetShape

/-! ## Sentence 1 — "percent-decoding the canonical user, password … yields exactly the bytes obtained by
    percent-decoding (as UTF-8) the text that was supplied" — `URL.build(authority=A)` (GAPS 3 of C02Headline.lean) -/

/-- "percent-decoding the canonical user, password … yields exactly the bytes … [of] the text that was supplied" for
    `build(authority=A)`: `raw_user` / `raw_password` of the result are the QUOTER output of the userinfo texts of `A`
    (a user whose quoted form is empty — i.e. one made of lone surrogates only — is `None`; `split_netloc` never returns
    an empty user; an empty password stays ""), every canonical user / password percent-decodes to the UTF-8 bytes of
    the supplied text, and — lone surrogates excepted — the decoded accessors `user` / `password` return the supplied
    texts.  The supplied texts are DECODED texts, as for `build(user=…)` (C02_headline_build_user_password).
    Composition of C06_build_authority_readback (C06More2.lean) with C02_gen_decode_QUOTER (C02.lean) and
    WfLemmas.splitNetloc_pyStr. -/
theorem C02_headline_build_authority_user_password (e : Env) (a : BuildArgs) (v : Url) (h : build e a = .ok v)
    (henc : a.encoded = false)                                    -- auto-encoding mode
    (hpy : PyStr a.authority)                                     -- model artefact: `Str` also has code points > 0x10FFFF
    (np : NetlocParts) (h0 : Str)
    (hsp : splitNetloc e.o a.authority = .ok np)                  -- `np = split_netloc(A)` (names the supplied user / password)
    (hhost : np.host = some h0)                                   -- `A` has a host text `h0`
    (hk : HostTextOK h0)                                          -- a supported ASCII host text (name / IPv4 / IPv6 [+zone]); IDN, IPvFuture: NOT covered
    (hwrap : 58 ∉ h0 → 91 ∉ (rpartition 64 a.authority).2.2) :    -- a host that is no IPv6 literal is not written in brackets
    ∃ ru rp, rawUser e v = .ok ru ∧ rawPassword e v = .ok rp ∧
      ru = (np.user.map (q e Gen.QUOTER)).bind orNone ∧ rp = np.password.map (q e Gen.QUOTER) ∧
      (∀ x, ru = some x → ∃ s, np.user = some s ∧ x = q e Gen.QUOTER s ∧ pctDecode x = utf8s s) ∧
      rp.map pctDecode = np.password.map utf8s ∧
      ((∀ s, np.user = some s → NoSurrogate s) → user e v = .ok np.user) ∧               -- lone surrogates are dropped (GAPS 5)
      ((∀ s, np.password = some s → NoSurrogate s) → password e v = .ok np.password) := by
  obtain ⟨sc, r, _, _, _, _, hru, hrp, _, _, hu, hp, _⟩ :=
    C06_build_authority_readback e a v h henc hpy np h0 hsp hhost hk hwrap
  obtain ⟨pu, pp⟩ := WfLemmas.splitNetloc_pyStr e.o a.authority hpy np hsp
  refine ⟨_, _, hru, hrp, rfl, rfl, ?_, ?_, hu, hp⟩
  · intro x hx
    cases hus : np.user with
    | none => rw [hus] at hx; cases hx
    | some s =>
      rw [hus] at hx
      have hxs : x = q e Gen.QUOTER s := (EagerLemmas.orNone_some (show orNone (q e Gen.QUOTER s) = some x from hx)).1
      exact ⟨s, rfl, hxs, by rw [hxs]; exact C02_gen_decode_QUOTER e.b s (pu s hus)⟩
  · exact map_quoter_decode e np.password pp

/-! ## non-vacuity -/

/-- `URL.build(scheme="HTTP", authority="us%41er:p%40 w:@x@Example.COM:8080")` (witnesses `R2.exAuth`, `R2.exAuthUrl`,
    `R2.exAuthNp` of C06More2.lean): the hypotheses hold; the canonical user is "us%2541er" and decodes to the bytes of
    the supplied text "us%41er" -/
example (b : Backend) :
    rawUser ⟨b, Oracles.empty⟩ R2.exAuthUrl = .ok (some "us%2541er".toStr) ∧
    pctDecode "us%2541er".toStr = utf8s "us%41er".toStr := by
  obtain ⟨ru, rp, h1, _, h3, _, h5, _⟩ :=
    C02_headline_build_authority_user_password ⟨b, Oracles.empty⟩ R2.exAuth R2.exAuthUrl (R2.exAuth_ok b) rfl (by decide)
      R2.exAuthNp "Example.COM".toStr R2.exAuth_split rfl R2.exAuth_host (by decide +kernel)
  have hru : ru = some "us%2541er".toStr := by
    rw [h3]; cases b <;> decide +kernel
  refine ⟨by rw [h1, hru], ?_⟩
  obtain ⟨s, hs, _, hd⟩ := h5 _ hru
  cases hs
  exact hd

end Yarl
