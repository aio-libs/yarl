import YarlProofs.C02
import YarlProofs.C02Tokens
/-!
  C02Headline.lean — AUDIT LAYER for property C02.

  C02 | Canonicalisation never changes what a URL means |
  "Auto-encoding preserves every decoded value: percent-decoding the canonical user, password, each path
  segment, each query key and value, and the fragment yields exactly the bytes obtained by percent-decoding
  (as UTF-8) the text that was supplied. Delimiter status is preserved too: an encoded '/' inside a path
  segment and encoded '&', '=', '+', ';' inside a query stay encoded, literal ones stay literal, so the number
  and boundaries of path segments and query pairs never change."

  Vocabulary.  `a.run b s` = the generated quoter configuration `a` on backend `b` applied to `s`.
  REQUOTER / PATH_REQUOTER / QUERY_REQUOTER / FRAGMENT_REQUOTER are what the constructor applies to
  user+password / path / query / fragment ("the text that was supplied" may already contain escapes, so the
  reference value is `pctDecode s`); QUOTER / PATH_QUOTER / QUERY_PART_QUOTER / QUERY_QUOTER / FRAGMENT_QUOTER
  are what build() and the modifiers apply to DECODED text (reference value `utf8s s`).
  `pctDecode` / `pctDecodeQs` (Defs.lean): percent-decoding to bytes, the second with '+' = space.
  `btoks s`: the byte tokens of `s` (`.esc v` for a `%XY` escape, `.lit b` for every other UTF-8 byte).
  Almost everything in THIS file is proved at QUOTER level; the URL-level theorem here is clause 1f.  See `GAPS:`.

  Continued in C02HeadlineMore.lean (theorems that need modules which import this file): C07More.lean imports
  this file, so the URL-level headline theorems for the constructor that rest on it (user / password, per path
  segment, per query pair, delimiter status of the stored path and query), the `parse_qsl` form of the query clause
  (C12More.lean) and the with_user / with_password statement (C01Str.lean) are stated there as `C02_headline_…`;
  the GAPS block below cites them.
  Continued further in C02HeadlineMore2.lean (C02More.lean's lemma library imports C02HeadlineMore.lean): which path
  segments survive dot-segment removal under an authority (GAPS 2, open half) and C02 at URL level for build, every
  text-accepting modifier, `/`, joinpath, the query operations and join (GAPS 3).
  Continued in C02HeadlineMore3.lean (C06More2.lean, added later): user / password of `build(authority=…)` (GAPS 3).
  Continued further in C02HeadlineMore4.lean (headline theorems for the proof modules added after the last refresh:
  C02More3.lean; the GAPS block below cites them).
  Continued in C02HeadlineMore5.lean (C02QueryStr.lean, added later: the STRING forms of with_query / extend_query /
  update_query; GAPS 3, 6, 7, 8).
-/
namespace Yarl
open OutLangLemmas QsLemmas WfLemmas TokLemmas

/-! ## Sentence 1 — "Auto-encoding preserves every decoded value: percent-decoding the canonical … yields exactly
    the bytes obtained by percent-decoding (as UTF-8) the text that was supplied." -/

/-- "… the canonical user, password …" — quoter level: REQUOTER (constructor) keeps the percent-decoded bytes,
    QUOTER (with_user, with_password, build) output decodes to the UTF-8 bytes of the supplied text. -/
theorem C02_headline_decoded_user_password (b : Backend) (s : Str) (hs : PyStr s) :
    -- `NoSurrogate`: a lone surrogate is dropped BEFORE escapes are recognised, so "%\ud800" ++ "41" requotes as
    -- "%41" = "A" (C02_requote_surrogate_example); without the guard only `pctDecode (stripSurr s)` is kept.
    (NoSurrogate s → pctDecode (Gen.REQUOTER.run b s) = pctDecode s) ∧
    pctDecode (Gen.REQUOTER.run b s) = pctDecode (stripSurr s) ∧
    pctDecode (Gen.QUOTER.run b s) = utf8s s :=
  ⟨C02_gen_decode_REQUOTER b s hs, C02_gen_decode_requote' b _ (by decide) (by decide) (by decide) s hs,
    C02_gen_decode_QUOTER b s hs⟩

/-- the `NoSurrogate` guard of the requoter theorems is needed (GAPS 5; NOT in KNOWN_FINDINGS — the property text has
    no such exception): a lone surrogate is dropped BEFORE escapes are recognised, so the user "%\ud80041", whose
    percent-decoded bytes are "%41" (the '%' is not followed by two hex digits), is requoted to "A" on both backends. -/
theorem C02_headline_decoded_value_fails_for_lone_surrogate_in_escape (b : Backend) :
    Gen.REQUOTER.run b [37, 0xD800, 52, 49] = [65] ∧ pctDecode [37, 0xD800, 52, 49] = [37, 52, 49] ∧
    pctDecode (Gen.REQUOTER.run b [37, 0xD800, 52, 49]) ≠ pctDecode [37, 0xD800, 52, 49] := by
  obtain ⟨h1, h2⟩ := C02_requote_surrogate_example b
  refine ⟨h1, h2, ?_⟩
  rw [h1, h2, pctDecode_cons_ne (by decide), pctDecode_nil]
  decide

/-- "… each path segment …" — constructor side.  NEW composition (C02_split_commutes + C02_gen_decode_PATH_REQUOTER):
    the list of decoded '/'-segments of the requoted path IS the list of decoded segments of the input. -/
theorem C02_headline_decoded_path_segments (b : Backend) (s : Str) (hs : PyStr s)
    (hn : NoSurrogate s) :  -- same reason as above (C02_requote_surrogate_example)
    (splitOn 47 (Gen.PATH_REQUOTER.run b s)).map pctDecode = (splitOn 47 s).map pctDecode := by
  rw [C02_split_commutes b s hs hn, List.map_map]
  apply List.map_congr_left
  intro p hp
  have hsub := PathLemmas.splitOn_sub 47 s p hp
  exact C02_gen_decode_PATH_REQUOTER b p (DecLemmas.pyStr_of_subset hsub hs) (noSurr_of_subset hsub hn)

/-- "… each path segment …" — modifier side (with_path, with_name, `/`, joinpath quote DECODED text with
    PATH_QUOTER): the output decodes to the UTF-8 bytes of the supplied text. -/
theorem C02_headline_decoded_path_supplied (b : Backend) (s : Str) (hs : PyStr s) :
    pctDecode (Gen.PATH_QUOTER.run b s) = utf8s s :=
  C02_gen_decode_PATH_QUOTER b s hs

/-- "… each query key and value …" — constructor side.  NEW composition (C02_split_commutes_query +
    C02_pair_split_commutes + C02_gen_decode_QUERY_REQUOTER): pair by pair ('&'), the form-decoded key (before
    the first '='), the presence of '=', and the form-decoded value are those of the input. -/
theorem C02_headline_decoded_query_keys_values (b : Backend) (s : Str) (hs : PyStr s) (hn : NoSurrogate s) :
    (splitOn 38 (Gen.QUERY_REQUOTER.run b s)).map
        (fun p => (pctDecodeQs (partition 61 p).1, (partition 61 p).2.1, pctDecodeQs (partition 61 p).2.2)) =
    (splitOn 38 s).map
        (fun p => (pctDecodeQs (partition 61 p).1, (partition 61 p).2.1, pctDecodeQs (partition 61 p).2.2)) := by
  rw [C02_split_commutes_query b s hs hn, List.map_map]
  apply List.map_congr_left
  intro p hp
  have hsub := PathLemmas.splitOn_sub 38 s p hp
  have hp' := DecLemmas.pyStr_of_subset hsub hs
  have hn' := noSurr_of_subset hsub hn
  simp only [Function.comp, C02_pair_split_commutes b p hp' hn']
  rw [C02_gen_decode_QUERY_REQUOTER b _ (DecLemmas.pyStr_of_subset (partition_fst_sub 61 p) hp')
        (noSurr_of_subset (partition_fst_sub 61 p) hn'),
      C02_gen_decode_QUERY_REQUOTER b _ (DecLemmas.pyStr_of_subset (partition_snd_sub 61 p) hp')
        (noSurr_of_subset (partition_snd_sub 61 p) hn')]

/-- "… each query key and value …" — modifier side: a key or value given to with_query/extend_query/update_query
    goes through QUERY_PART_QUOTER and form-decodes to its UTF-8 bytes; a whole query STRING goes through
    QUERY_QUOTER, where a supplied literal '+' stays '+' and therefore decodes as the space it is indistinguishable
    from (documented yarl behaviour, not a finding: `plusToSpace`). -/
theorem C02_headline_decoded_query_supplied (b : Backend) (s : Str) (hs : PyStr s) :
    pctDecodeQs (Gen.QUERY_PART_QUOTER.run b s) = utf8s s ∧
    pctDecodeQs (Gen.QUERY_QUOTER.run b s) = utf8s (plusToSpace s) ∧
    (43 ∉ s → pctDecodeQs (Gen.QUERY_QUOTER.run b s) = utf8s s) :=
  ⟨C02_gen_decode_QUERY_PART_QUOTER b s hs, C02_gen_decode_QUERY_QUOTER b s hs,
    C02_gen_decode_QUERY_QUOTER_noplus b s hs⟩

/-- "… and the fragment …" — FRAGMENT_REQUOTER (constructor) and FRAGMENT_QUOTER (with_fragment, build). -/
theorem C02_headline_decoded_fragment (b : Backend) (s : Str) (hs : PyStr s) :
    (NoSurrogate s → pctDecode (Gen.FRAGMENT_REQUOTER.run b s) = pctDecode s) ∧
    pctDecode (Gen.FRAGMENT_QUOTER.run b s) = utf8s s :=
  ⟨C02_gen_decode_FRAGMENT_REQUOTER b s hs, C02_gen_decode_FRAGMENT_QUOTER b s hs⟩

/-- Clause 1f, URL level — the auto-encoding CONSTRUCTOR: with `p` the split of the input, query and fragment
    keep their decoded bytes, and the stored path is `p1` or `normalizePath p1` (dot-segment removal under an
    authority, property C15) for a `p1` with the decoded bytes and the segment count of the input path.
    User / password, per segment, per pair and delimiter status at URL level: C02HeadlineMore.lean
    (`C02_headline_constructor_user_password`, `…_path_segments`, `…_query_pairs`, `…_delimiter_status`). -/
theorem C02_headline_constructor (e : Env) (s : Str) (hs : PyStr s)
    (hn : NoSurrogate s)  -- C02_requote_surrogate_example
    (u : Url) :
    encodeUrl e s = .ok u → ∃ p : Parts, splitUrl e.o s = .ok p ∧
      pctDecodeQs u.query = pctDecodeQs p.query ∧
      pctDecode u.fragment = pctDecode p.fragment ∧
      (∃ p1, pctDecode p1 = pctDecode p.path ∧
        (splitOn 47 p1).length = (splitOn 47 p.path).length ∧
        (u.path = p1 ∨ (mem 46 p1 = true ∧ u.path = normalizePath p1))) :=
  C02_encodeUrl_decode e s hs hn u

/-! ## Sentence 2a — "Delimiter status is preserved too: an encoded '/' inside a path segment and encoded '&', '=',
    '+', ';' inside a query stay encoded, literal ones stay literal" -/

/-- "an encoded '/' inside a path segment … stay[s] encoded, literal ones stay literal": token by token, the i-th
    token of the requoted path is the literal '/' (47) iff the i-th input token is, and is `%2F` iff the input's is
    (either hex case).  Same for '+' (43) in paths. -/
theorem C02_headline_path_delimiter_status (b : Backend) (d : Nat) (hd : d = 47 ∨ d = 43) (s : Str)
    (hs : PyStr s) (hn : NoSurrogate s) :
    (btoks (Gen.PATH_REQUOTER.run b s)).map (fun k => decide (k = .lit d)) =
      (btoks s).map (fun k => decide (k = .lit d)) ∧
    (btoks (Gen.PATH_REQUOTER.run b s)).map (fun k => decide (k = .esc d)) =
      (btoks s).map (fun k => decide (k = .esc d)) :=
  C02_gen_path_delimiter_positions b d hd s hs hn

/-- "encoded '&', '=', … ';' inside a query stay encoded, literal ones stay literal" (38, 61, 59) -/
theorem C02_headline_query_delimiter_status (b : Backend) (d : Nat) (hd : d = 38 ∨ d = 61 ∨ d = 59)
    (s : Str) (hs : PyStr s) (hn : NoSurrogate s) :
    (btoks (Gen.QUERY_REQUOTER.run b s)).map (fun k => decide (k = .lit d)) =
      (btoks s).map (fun k => decide (k = .lit d)) ∧
    (btoks (Gen.QUERY_REQUOTER.run b s)).map (fun k => decide (k = .esc d)) =
      (btoks s).map (fun k => decide (k = .esc d)) :=
  C02_gen_query_delimiter_positions b d hd s hs hn

/-- "encoded … '+' … inside a query stay[s] encoded, literal ones stay literal" — `%2B` stays `%2B` exactly; the
    literal '+' of the output are the literal '+' AND the literal spaces of the input (a form quoter writes a space
    as '+'; both mean "space", so the meaning is kept although the clause is not literally true of the space). -/
theorem C02_headline_query_plus_status (b : Backend) (s : Str) (hs : PyStr s) (hn : NoSurrogate s) :
    (btoks (Gen.QUERY_REQUOTER.run b s)).map (fun k => decide (k = .lit 43)) =
      (btoks s).map (fun k => decide (k = .lit 43 ∨ k = .lit 32)) ∧
    (btoks (Gen.QUERY_REQUOTER.run b s)).map (fun k => decide (k = .esc 43)) =
      (btoks s).map (fun k => decide (k = .esc 43)) :=
  C02_gen_query_plus_positions b s hs hn

/-! ## Sentence 2b — "so the number and boundaries of path segments and query pairs never change" -/

/-- "the number and boundaries of path segments … never change": the j-th '/'-segment of the requoted path is the
    requoted j-th segment of the input (hence equal counts). -/
theorem C02_headline_path_segment_boundaries (b : Backend) (s : Str) (hs : PyStr s) :
    splitOn 47 (Gen.PATH_REQUOTER.run b s) = (splitOn 47 s).map (Gen.PATH_REQUOTER.run b) ∧
    (splitOn 47 (Gen.PATH_REQUOTER.run b s)).length = (splitOn 47 s).length :=
  ⟨gen_split _ mem_PATH_REQUOTER b ((gen_tracked b).1 47 (.inl rfl)).2 s hs, C02_path_segments' b s hs⟩

/-- "the number and boundaries of … query pairs never change": the same for '&' (and for ';'), and inside a pair
    for the split at the first '='. -/
theorem C02_headline_query_pair_boundaries (b : Backend) (s : Str) (hs : PyStr s) :
    splitOn 38 (Gen.QUERY_REQUOTER.run b s) = (splitOn 38 s).map (Gen.QUERY_REQUOTER.run b) ∧
    splitOn 59 (Gen.QUERY_REQUOTER.run b s) = (splitOn 59 s).map (Gen.QUERY_REQUOTER.run b) ∧
    (splitOn 38 (Gen.QUERY_REQUOTER.run b s)).length = (splitOn 38 s).length ∧
    partition 61 (Gen.QUERY_REQUOTER.run b s) =
      (Gen.QUERY_REQUOTER.run b (partition 61 s).1, (partition 61 s).2.1,
        Gen.QUERY_REQUOTER.run b (partition 61 s).2.2) :=
  ⟨gen_split _ mem_QUERY_REQUOTER b ((gen_tracked b).2 38 (.inl rfl)).2 s hs,
   gen_split _ mem_QUERY_REQUOTER b ((gen_tracked b).2 59 (.inr (.inr rfl))).2 s hs,
   C02_query_pairs b s hs,
   gen_partition _ mem_QUERY_REQUOTER b ((gen_tracked b).2 61 (.inr (.inl rfl))).2 s hs⟩

/-! ## Appendix E -/

-- Appendix E: C02_tokens ↦ C02_tokens_gen (restated below).  `Gen.requoters` became `a ∈ Gen.allQuoters` with
--   `a.requote = true`; `List.Forall₂` became the local `All2`; `tokens (utf8s s)` became `btoks s`; hypotheses
--   `PyStr s`, `NoSurrogate s` added (without the second: C02_tokens_gen' about `stripSurr s`).
theorem C02_headline_tokens (b : Backend) (a : QArgs) (ha : a ∈ Gen.allQuoters) (hreq : a.requote = true)
    (s : Str) (hs : PyStr s) (hn : NoSurrogate s) :
    All2 (TokRel (a.tab b)) (btoks s) (btoks (a.run b s)) :=
  C02_tokens_gen b a ha hreq s hs hn

-- Appendix E: C02_decode_nr ↦ C02_gen_decode_nr (restated below) for the non-form configurations, and
--   C02_gen_decode_QUERY_PART_QUOTER / C02_gen_decode_QUERY_QUOTER (clause "query supplied" above) for the two
--   form ones.  The planned single statement `pctDecode q.qs (quote b q s) = utf8s s` is FALSE for QUERY_QUOTER
--   when `s` contains '+' (it is kept literal and decodes to a space): the `plusToSpace` version replaces it.
theorem C02_headline_decode_nr (b : Backend) (a : QArgs) (ha : a ∈ Gen.allQuoters)
    (hnr : a.requote = false) (hqs : a.qs = false) (s : Str) (hs : PyStr s) :
    pctDecode (a.run b s) = utf8s s :=
  C02_gen_decode_nr b a ha hnr hqs s hs

/-- the '+' exception of QUERY_QUOTER, concretely: "a+b" stays "a+b", which form-decodes to "a b" -/
theorem C02_headline_decode_nr_fails_for_plus (b : Backend) :
    Gen.QUERY_QUOTER.run b [97, 43, 98] = [97, 43, 98] ∧ pctDecodeQs [97, 43, 98] = [97, 32, 98] ∧
    utf8s [97, 43, 98] = [97, 43, 98] := by
  refine ⟨by cases b <;> decide +kernel, by simp [pctDecodeQs, utf8], by simp [utf8s, utf8]⟩

/-
GAPS:
 1. CLOSED by C02_encodeUrl_userinfo_decode (C07More.lean), see C02_headline_constructor_user_password
    (C02HeadlineMore.lean).  Proved, for `encodeUrl e s = .ok u` with `PyStr s`, `NoSurrogate s`: `rawUser e u` and
    `rawPassword e u` succeed, are present exactly when `split_netloc` reads a non-empty user / a password from the
    supplied authority (which is the RFC split `Rfc.authoritySplit` of it), and percent-decode to the same bytes as
    those.
    EXTENDED (the `NoSurrogate s` hypothesis removed) by C02_surr_encodeUrl_userinfo_decode (C02More3.lean), see
    C02_headline_surr_constructor_user_password (C02HeadlineMore4.lean): for every Python string `s` the canonical
    user / password percent-decode to the bytes of the supplied texts WITH THEIR LONE SURROGATES DROPPED (item 5).
 2. CLOSED by C02_encodeUrl_segments, C02_encodeUrl_pairs, C07_encodeUrl_components (C07More.lean) and — the half that
    was open — C02_normalized_segments, C02_normalized_segments_sublist (C02More.lean), see
    C02_headline_constructor_path_segments, C02_headline_constructor_query_pairs,
    C02_headline_constructor_delimiter_status (C02HeadlineMore.lean) and
    C02_headline_constructor_dot_segment_survivors, C02_headline_constructor_dot_segment_survivors_sublist
    (C02HeadlineMore2.lean).  Proved for a constructed URL: (query, no side
    condition) `u.query` IS the requoted supplied query; its '&'-pieces are the requoted supplied pieces one for one,
    key / "has '='" / value form-decode alike, and the literal / encoded '&' '=' ';' '+' tokens sit where they sat;
    (path) the '/'-segments of `u.path` are the requoted supplied segments one for one, with equal decoded bytes —
    PROVIDED the URL has no authority or no supplied segment decodes to "." or ".." — and in general `u.path` is `p1`
    or `normalize_path p1` for `p1` = the requoted supplied path, whose literal / encoded '/' and '+' sit where they
    sat.  NOW ALSO, for a path WITH dot segments under an authority: the stored segments are the requoted members of a
    subsequence `K0` (same order, nothing new, nothing duplicated) of the supplied segments that do not decode to "." /
    "..", each byte for byte the requoted supplied segment with the same decoded bytes, and inside every survivor a
    literal / an encoded '/' or '+' sits where it sat (delimiter status pushed through `normalizePath`); never more
    segments are stored than were supplied.  DEVIATION the module reports: the stored segments are NOT a plain sublist of
    the supplied ones when the supplied path ENDS in a dot segment — ONE empty segment is appended (the trailing slash
    RFC 3986 5.2.4 leaves: "/b/.." is stored "/" = "", ""): C02_headline_constructor_survivors_not_plain_sublist_for_trailing_dot_segment;
    intended behaviour (C15).  WHAT REMAINS: the theorems say THAT the stored segments are such a subsequence, not WHICH
    subsequence (that is `normalize_path_segments` = RFC 3986 5.2.4, property C15: C15_rfc); the segment count does
    change there (C02_headline_constructor_path_segments_fails_for_dot_segments), "never change[s]" is to be read modulo C15.
    EXTENDED (the `NoSurrogate s` hypothesis removed; every clause about `stripSurr` of the supplied path / query, see
    item 5) by C02_surr_encodeUrl_segments, C02_surr_encodeUrl_pairs, C02_surr_normalized_segments,
    C02_surr_encodeUrl_components, C02_surr_encodeUrl_decode (C02More3.lean), see
    C02_headline_surr_constructor_path_segments, C02_headline_surr_constructor_query_pairs (C02HeadlineMore4.lean; the
    dot-segment form C02_surr_normalized_segments has no headline restatement).
 3. CLOSED (`build(authority=…)`: PARTLY CLOSED, see the end of this item) by C01_with_user_reads_back, C01_with_password_reads_back (C01Str.lean) and
    C02_build_user_password, C02_build_path, C02_build_query_string, C02_build_query_pairs, C02_build_fragment,
    C02_with_user, C02_with_password, C02_with_fragment, C02_with_path, C02_with_name(_rejects_slash), C02_with_suffix,
    C02_joinpath, C02_with_query_string / _pairs, C02_extend_query_string / _pairs, C02_update_query_pairs / _string,
    C02_join_path, C02_join_segments(_reachable) (C02More.lean), see
    C02_headline_with_user_with_password_decoded (C02HeadlineMore.lean) and C02_headline_build_user_password,
    C02_headline_build_path, C02_headline_build_query, C02_headline_build_fragment,
    C02_headline_with_user_with_password, C02_headline_with_fragment, C02_headline_with_path,
    C02_headline_with_name_with_suffix, C02_headline_joinpath, C02_headline_query_string_argument,
    C02_headline_query_pairs_argument, C02_headline_update_query, C02_headline_join_path, C02_headline_join_segments
    (C02HeadlineMore2.lean).  Proved at URL level, for DECODED supplied text (reference value: its UTF-8 bytes; a supplied
    "%2F" is the text "%2F" and is stored "%252F"): user / password / fragment are stored as the quoter output and
    decode to the supplied bytes (hypotheses for with_user / with_password: `HostOracleNoAt`, `UserinfoOK` — see
    C01Headline.lean GAPS 7, 1c); a path argument (build, with_path, `/`, joinpath) splits at exactly its literal '/',
    no quoted segment contains a '/', each decodes to the supplied bytes, the OLD segments are kept byte for byte, and
    the stored segments are all of them — or, under an authority with dot segments, their survivors (`C02_Survivors`,
    with the trailing-slash deviation of item 2); with_name / with_suffix reject '/' and change ONE segment; a query
    STRING (build(query_string=), with_query, extend_query) keeps its '&' / '=' as separators piece for piece ('+' =
    space on both sides); a pairs / mapping argument gives exactly ONE '&'-piece per pair with the supplied bytes
    (`C02_PairsStored`); update_query stores `MultiDict(old).update(new)` (C12) one piece per pair — for it a STRING is
    ESCAPED text ("%41" is "A"; C12 observation C12_str_argument_pct_differs; exact statements: EXTENDED paragraph
    below) and the OLD pairs must be `GoodPairs` (true of every reachable URL); `join` only splices encoded segments: every raw part of the result is a raw part of
    the base or the reference, "" or "/".  SIDE CONDITION the module reports: join needs a ROOTED base (a path next to an
    authority is empty or starts with '/') — automatic for every base reachable through the auto-encoding API
    (C02_join_segments_reachable), only violated by `encoded=True` bases:
    C02_headline_join_fails_for_rootless_base_under_authority.
    `build(authority=A)`: PARTLY CLOSED by C06_build_authority_readback (C06More2.lean + Lemmas/Readback2.lean, written
    for C06), see C02_headline_build_authority_user_password (C02HeadlineMore3.lean; a composition with
    C02_gen_decode_QUOTER).  Proved, for `build(encoded=False, authority=A)`: raw_user / raw_password are the QUOTER
    output of the userinfo texts `split_netloc(A)` reads (user `None` when that output is empty), each percent-decodes to
    the UTF-8 bytes of the supplied text, and `user` / `password` return the supplied texts (lone surrogates excepted) —
    the userinfo of `authority=` is DECODED text like `build(user=…)`: a supplied "%41" is stored "%2541"
    (C06_build_authority_not_percent_decoded; the constructor on the same text requotes instead).  Hypotheses: `A` is
    a Python string; `split_netloc(A)` succeeds with a host text that is `HostTextOK` (supported ASCII kinds: name /
    IPv4 text of visible ASCII without `/ ? # @ [ ] :`, or IPv6 literal with optional zone id); a host that is no IPv6
    literal is not written in brackets.  STILL OPEN for `build(authority=…)`: IDN / non-ASCII / IPvFuture / bracketed
    non-IPv6 hosts and a missing host (the proof goes through the shape of the stored authority, established for the
    supported host kinds only).  (The host of `authority=` is not a C02 clause: C16; its read-back is
    C06_headline_build_authority_host_readback, C06HeadlineMore3.lean.)
    EXTENDED (the STRING forms of the three query modifiers, each with its own exact statement) by
    C02_qstr_with_query_stored, C02_qstr_extend_query_stored (+ _stored_amp), C02_qstr_with_query_form_decoding,
    C02_qstr_extend_query_form_decoding, C02_qstr_literal_delims_split, C02_qstr_literal_delims_positions,
    C02_qstr_update_preserves_values, C02_qstr_parse_bytes (+ _iff), C02_qstr_formDecode_exact_iff,
    C02_qstr_update_delims_reencoded, C02_qstr_update_undecodable_byte / _escape / _not_valid,
    C02_qstr_update_replacement_stored, C02_qstr_update_literal_delims_fail, C02_qstr_instance_* (C02QueryStr.lean), see
    C02_headline_qstr_text_forms_stored, C02_headline_qstr_with_query_decoded_values,
    C02_headline_qstr_extend_query_decoded_values, C02_headline_qstr_text_forms_literal_delims,
    C02_headline_qstr_update_query_decoded_values, C02_headline_qstr_update_query_bytes_iff_escapes_valid,
    C02_headline_qstr_update_query_fails_for_undecodable_escape, C02_headline_qstr_update_query_delims_reencoded,
    C02_headline_qstr_update_query_literal_delims_fail, C02_headline_qstr_instances, C02_headline_qstr_vocabulary_def
    (C02HeadlineMore5.lean).  The sentence above ("for update_query a STRING is ESCAPED text") is now exact.
    with_query(<str>) / extend_query(<str>) take the string as TEXT: the stored text is `QUERY_QUOTER(s)` resp. the old
    query, "&" (unless the old query is empty or ends in '&'), `QUERY_QUOTER(s)` — for EVERY string, no hypothesis;
    piece for piece the stored key / value form-decode to the UTF-8 bytes of the supplied key / value text ('+' = space
    on both sides, '%' is DATA: "%2B" is stored "%252B"); hypotheses `PyStr s` (with_query), `GoodText s` and `s ≠ ""`
    (extend_query).  update_query(<str>) — and the `%` operator, which is the same call (C12Headline.lean GAPS 12) —
    PARSES the string: with `R = MultiDict(old pairs).update(parse_qsl(s))` the stored query has one '&'-piece
    `QUERY_PART_QUOTER(key)=QUERY_PART_QUOTER(value)` per pair of `R`, form-decoding to exactly the bytes of that pair,
    and `parse_qsl(s)` has one pair per NON-EMPTY '&'-piece of `s` (';' no separator, split at the first '='); the
    pair carries the form-decoded bytes of the supplied piece's key / value text IF AND ONLY IF every escape of `s`
    decodes to valid UTF-8 (`EscapesValid s`; hypotheses `GoodText s`, `GoodPairs (queryPairs u)`, `parse_qsl(s) ≠ []`).
    Where `EscapesValid` fails the clause "preserves every decoded value" is FALSE: item 8.  Delimiter status under
    update_query(<str>): item 6 (FALSE).
    STILL OPEN otherwise: `encoded=True` calls (nothing is encoded there; what is stored: C07Encoded.lean,
    C07_headline_build_encoded_true_verbatim, C07HeadlineMore3.lean); list-valued mappings for update_query
    (`SingleValued` is assumed there; C12 has them); `build(query=<str>)` has no C02 statement of its own (it is
    rendered by `get_str_query` like with_query(<str>): C06_headline_build_query_str_readback).
 4. CLOSED by C12_parseQsl_requote (C12More.lean), see C02_headline_query_parse_qsl (C02HeadlineMore.lean).  Proved:
    `parseQsl (Gen.QUERY_REQUOTER.run b s) = parseQsl s` for `PyStr s`, `NoSurrogate s` (text-level decoding with
    errors='replace' included), and at URL level `queryPairs u = parseQsl p.query` for a constructed URL (`p.query` the
    supplied query text).  `NoSurrogate` is needed: C02_headline_query_parse_qsl_fails_for_lone_surrogate.  (The
    quoter-level theorems of this file still treat ';' as a protected delimiter although `parseQsl` does not split on
    it; that is extra, not missing.)
    EXTENDED: without `NoSurrogate`, `queryPairs u = parseQsl (stripSurr p.query)` for every constructed URL
    (C02_surr_encodeUrl_pairs, C02More3.lean; last clause of C02_headline_surr_constructor_query_pairs).
 5. Lone surrogates: every requoter statement needs `NoSurrogate s` (or speaks about `stripSurr s`);
    C02_requote_surrogate_example shows the decoded bytes DO change when a lone surrogate sits inside an
    escape ("%\ud80041" → "A").  The property text has no such exception; this is not in KNOWN_FINDINGS.
    (Now visible in the headline layer: C02_headline_decoded_value_fails_for_lone_surrogate_in_escape here,
    C02_headline_query_parse_qsl_fails_for_lone_surrogate in C02HeadlineMore.lean.)
    SHARPENED TO AN EXACT STATEMENT (the clause of the property stays FALSE for the original text) by
    C02_run_stripSurr, C02_surr_quoter_level, C02_surr_only_inside_escapes, C02_escSurrFree_of_noSurrogate,
    C02_surr_requoters_verbatim, C02_utf8Encodable_iff, C02_stripSurr_eq_self_iff, C02_stripSurr_splitOn / _partition /
    _append, C02_surr_encodeUrl_* (constructor), C02_surr_build_user_password / _build_path / _build_query_string /
    _build_fragment / _build_authority_user_password, C02_surr_with_user / _with_password / _with_fragment /
    _with_path / _with_name / _with_suffix / _with_query_string / _extend_query_string / _query_pairs / _joinpath,
    and the computed C02_surr_url_counterexample, C02_surr_hidden_dot_segment, C02_surr_user_vanishes,
    C02_surr_joinpath_head_check_bypassed (C02More3.lean), see C02_headline_surr_mechanism,
    C02_headline_surr_quoter_level, C02_headline_surr_requoters_verbatim, C02_headline_surr_constructor_user_password /
    _path_segments / _query_pairs / _verbatim, C02_headline_surr_build_path, C02_headline_surr_joinpath,
    C02_headline_surr_with_user_with_password, C02_headline_surr_fails_for_original_text,
    C02_headline_surr_hidden_dot_segment, C02_headline_surr_user_vanishes,
    C02_headline_surr_joinpath_head_check_bypassed (C02HeadlineMore4.lean).  Proved: every generated quoter (both
    backends) gives the same output for `s` and for `stripSurr s` (`s` without its lone surrogates), so every C02
    statement of items 1–4 holds for every Python string WITHOUT a `NoSurrogate` hypothesis when "the text that was
    supplied" is read as `stripSurr` of the supplied COMPONENT (splitting happens on the original text and commutes with
    `stripSurr`: a surrogate is never a delimiter); `stripSurr` is the identity exactly on the strings Python can
    encode as UTF-8, for which this is the property verbatim.  For the quoters of DECODED text (build, with_*, `/`,
    joinpath, with_query) the decoded-value clauses hold for the ORIGINAL text (`utf8s` does not see a lone
    surrogate); what moves are counts and emptiness (a user / name made of surrogates only quotes to ""; the "must
    not start with '/'" test of joinpath sees the original text: `.joinpath('\ud800/x')` is accepted and appends an
    empty segment).  For the REQUOTERS (constructor) the original text can be kept under the weaker, decidable guard
    `C02_EscSurrFree` (no lone surrogate within the two characters after a '%'); outside it the property is FALSE in
    every component: `URL('http://%\ud80041:%\udfff42@h/%\ud80043/x?k%\ud8003Dv=%\ud80041#%\ud80045')` is stored
    `http://A:B@h/C/x?k%3Dv=A#E` (decoded values change, an ENCODED '=' appears that was not supplied); a segment
    ".\ud800." is requoted to ".." and removes its neighbour (segment count changes although no supplied segment is the
    text "." / ".."); `URL('http://\ud800@h/')` has no user.  NOT in KNOWN_FINDINGS.jsonl.
    STILL OPEN / not stated: the WHOLE-URL statement `URL(s) == URL(stripSurr s)` is not stated; the header of
    C02More3.lean says (no theorem) that it is false for the authority's HOST (not quoted: a surrogate there reaches
    the NFKC screen / IDNA) and for `cleanUrl` (leading C0 / space stripping stops at a surrogate) — the constructor
    theorems are component-wise on `splitUrl e.o s = .ok p`; nothing is proved about a lone surrogate in the host.
 6. Literal space in a query: it becomes '+', so "literal ones stay literal" holds for '+' only in the sense of
    C02_headline_query_plus_status (literal '+' out = literal '+' or ' ' in); decoded meaning is unaffected.
    CLOSED (as an exact statement at URL level; the observation itself stands) by C02_form_constructor,
    C02_form_with_query_string, C02_form_build_query_string, C02_form_requoter_tokens, C02_form_quoter_tokens,
    C02_form_decode_is_tokenwise, C02_form_requoter_table (C02More3.lean), see C02_headline_form_constructor,
    C02_headline_form_with_query_string, C02_headline_form_build_query_string, C02_headline_form_tokens_reading
    (C02HeadlineMore4.lean).  Proved, for `URL(s)`, `with_query(<str>)` and `build(query_string=)` (Python strings, no
    `NoSurrogate` hypothesis; build: encoded=False and no truthy `query=`): the canonical query has one byte token per
    supplied token (constructor: per token of the supplied query with lone surrogates dropped; the other two: per
    UTF-8 byte of the supplied text, every byte literal) with the same FORM-decoded byte at every position; '&' '=' ';'
    keep their status (literal / encoded) at their position; "%2B" stays "%2B" and "%20" stays "%20" (constructor); a
    literal '+' of the output sits exactly where the input had a literal '+' OR a literal ' ' — the only change of
    spelling of a literal token; the output has no literal space; `with_query(<str>)` / `build(query_string=)` never
    write an encoded '&' '=' ';' '+' ' ' and store a supplied '%' as "%25".  So "literal ones stay literal" is FALSE by
    the letter for a literal ' ' (it becomes the literal '+', same form-decoded byte) and true for everything else.
    WAS: Not covered: `extend_query` / `update_query` with a string, and `build(query=<str>)` (their stored pieces:
    C02_headline_query_string_argument, C02_headline_update_query, C06_headline_build_query_str_readback — no token
    statement).
    PARTLY CLOSED (extend_query(<str>): CLOSED; update_query(<str>): the clause is PROVED FALSE; `build(query=<str>)`:
    STILL OPEN, no token statement) by C02_qstr_literal_delims_split, C02_qstr_literal_delims_positions,
    C02_qstr_update_delims_reencoded, C02_qstr_update_literal_delims_fail (C02QueryStr.lean), see
    C02_headline_qstr_text_forms_literal_delims, C02_headline_qstr_update_query_delims_reencoded,
    C02_headline_qstr_update_query_literal_delims_fail (C02HeadlineMore5.lean).  Proved: the stored text of BOTH text
    forms is `QUERY_QUOTER` of the argument (after the old query, for extend_query), and for every Python string that
    quoter output has a literal '&' / '=' / ';' exactly where the UTF-8 bytes of the argument have that byte (as a
    split statement and token by token), a literal '+' exactly where they have '+' or ' ', never an escape %26 %3D %3B
    %2B, and one token per supplied byte — so for with_query / extend_query "literal ones stay literal" holds with the
    one exception of this item (' ' → '+').  For update_query(<str>) "literal ones stay literal" is FALSE BY THE LETTER,
    in general and not only for ' ': under `GoodText s`, `GoodPairs (queryPairs u)`, `parse_qsl(s) ≠ []` the stored query
    NEVER contains a literal ';' and every stored '&'-piece has EXACTLY ONE literal '=' — a literal ';' and every
    literal '=' after the first of a piece are stored %3B / %3D, a piece without '=' GAINS one, an empty '&'-piece
    DISAPPEARS, and the OLD pieces are re-rendered the same way; four calls on every environment:
    update_query("a=x=y") stores "a=x%3Dy", ("s=a;b") "s=a%3Bb", ("a") "a=", ("a=1&&b=2") "a=1&b=2", where with_query
    stores the argument unchanged.  Decoded values and the pairs read back are the same in each case (item 3), i.e. the
    meaning is preserved and only the SPELLING of delimiters inside values changes; the property's sentence "literal
    ones stay literal, so the number and boundaries of … query pairs never change" is violated in its premise, not in
    its conclusion about pairs (the '&'-piece COUNT does change for an empty piece).  NOT in KNOWN_FINDINGS.jsonl as
    an entry of its own (F-C02-query-replace is about decoded values: item 8).
 7. NEW (with C02More3.lean).  Trusted readings introduced by the statements of items 5 / 6: `stripSurr`,
    `C02_Utf8Encodable` (proved equal to `PyStr ∧ NoSurrogate`; that Python's `str.encode("utf-8")` raises exactly
    outside it is a REMARK, not expressible in the model), `C02_EscSurrFree`, `C02_formVal` (proved:
    `(btoks s).map C02_formVal = pctDecodeQs s`), `tokOut`.  MODEL CONVENTION: `pctDecode` / `pctDecodeQs` / `btoks` /
    `utf8s` DROP lone surrogates (they have no UTF-8 form; the quoters encode with errors="ignore"), so "the bytes
    obtained by percent-decoding (as UTF-8) the text that was supplied" is given a value by the model even for texts
    Python cannot encode; every "FALSE for the original text" statement of item 5 is relative to that convention (it
    is what makes `pctDecode "%\ud80041"` the bytes "%41").  The two computed constructor counterexamples run with an
    NFKC oracle that is the identity on their authority texts ("%\ud80041:%\udfff42@h", "h") — an assumption about
    `unicodedata.normalize` on ASCII text with lone surrogates, checked by the differential harness only.
    ADDED (with C02QueryStr.lean).  Trusted readings introduced by the statements of items 3 / 6 / 8: `R15.pieces`,
    `R15.keyText`, `R15.valText`, `R15.ValidUtf8` ("is the `utf8s` of some `GoodText` string" — the model's own UTF-8
    encoder `utf8s` defines validity; it is not compared with RFC 3629 here), `R15.EscapesValid`,
    `R15.ex` — six short definitions, spelled out by `rfl` / `Iff.rfl` in C02_headline_qstr_vocabulary_def;
    `formDecode` = `decodeReplace ∘ pctDecodeQs` is the model's transcription of `bytes.decode('utf-8', 'replace')`
    (maximal-subpart replacement), tied to CPython by the differential harness only: the general statement of item 8
    covers a single undecodable BYTE (C0, C1, F5..FF) in a text whose prefix has no '%' / '+'; truncated multi-byte
    sequences ('%e4%bd', named in F-C02-query-replace) are covered by the iff with `EscapesValid` but have no
    "how many U+FFFD" statement.  That `URL.__mod__` is `update_query` is a READING of the source (C12Headline.lean
    GAPS 12).  The `C02_qstr_instance_*` theorems are evaluated in the model for every `Env` (both backends, any
    oracles); that the library returns the same URLs is recorded in the header of C02QueryStr.lean ("observed on the
    real library") and checked by the differential harness, not proved.
 8. NEW (with C02QueryStr.lean).  "Auto-encoding preserves every decoded value" is FALSE for update_query(<str>) (and
    `url % <str>`) when an escape of the string — or of an OLD pair, every pair being re-rendered — is not valid
    UTF-8: KNOWN FINDING F-C02-query-replace (KNOWN_FINDINGS.jsonl; witness URL('http://h/p').update_query('bad=%FF');
    same root as F-C06-query-replace: `parse_qsl(errors='replace')`).  Stated EXACTLY by C02_qstr_parse_bytes_iff,
    C02_qstr_formDecode_exact_iff, C02_qstr_update_undecodable_byte, C02_qstr_update_undecodable_escape,
    C02_qstr_update_undecodable_not_valid, C02_qstr_update_replacement_stored, C02_qstr_instance_update_query_replace,
    C02_qstr_instance_update_query_rewrites_old (C02QueryStr.lean), see
    C02_headline_qstr_update_query_bytes_iff_escapes_valid, C02_headline_qstr_update_query_fails_for_undecodable_escape
    (C02HeadlineMore5.lean): the bytes are preserved for every piece IFF `EscapesValid s`; a byte that occurs in no
    well-formed UTF-8 sequence becomes ONE U+FFFD, stored "%EF%BF%BD" on both backends;
    `URL("http://h/").update_query("bad=%FF")` is http://h/?bad=%EF%BF%BD and `URL("http://h/?a=%FF").update_query("b=1")`
    is http://h/?a=%EF%BF%BD&b=1.  The constructor, with_query and extend_query do not have the effect (items 2, 3).
    The identity theorems of item 3 for update_query (pairs / mapping arguments, C02_headline_update_query) carry
    `GoodPairs (queryPairs u)` and speak about the DECODED old pairs, so they do not contradict this: the old stored
    text "%FF" decodes (errors='replace') to U+FFFD before it is compared.  Not stated: an exact description of the
    stored text for an arbitrary invalid sequence (only single bytes, see item 7); that `update_query` with a pairs /
    mapping argument rewrites an OLD pair with an invalid escape in the same way is to be expected (every pair is
    re-rendered from `queryPairs u`) but is proved on an instance for the string form only
    (C02_qstr_instance_update_query_rewrites_old).
-/

end Yarl
