import YarlProofs.C17Headline
import YarlProofs.C17Ctor
import YarlProofs.C03Netloc
/-!
# C17 — Port semantics: explicit vs default, zero vs absent   (audit layer, continued)

Continuation of `C17Headline.lean`: the theorems that need `C17Ctor.lean` / `C11Ctor.lean` (which import
`C17Headline.lean`, so that file cannot import them) and `C03Netloc.lean`.

Property statement (verbatim):

> explicit_port is the integer value of the port written in the URL, which must lie in 0-65535
> (non-numeric or out-of-range ports are rejected with ValueError); port falls back to the scheme default
> (http/ws 80, https/wss 443, ftp 21) only when none is written, and port 0 is distinct from absent.
> str(), host_port_subcomponent and is_default_port() omit or report the port as default exactly when it is
> absent or equals the scheme default; with_port(p) sets any valid p, clears on None, and rejects bools,
> non-integers and out-of-range values.

What is added here.  `C17Headline.lean` proves the accessor clauses for URLs with `Written qf u user pw h port`
(no pre-filled cache, stored authority = `make_netloc` text).  Here:

 * explicit_port of a URL straight from the auto-encoding constructor (served from the pre-filled cache), for
   EVERY accepted input, in terms of the port text of the INPUT authority;
 * sentence 2 (str(), host_port_subcomponent, is_default_port(), with_port) on URLs WITH a cache, on constructor
   and `build(encoded=False)` results, and on every URL with the invariant `NetlocCanon` (C03Reach.lean);
 * rejection of a bad port text by the constructor and by `build(authority=…)`, in general.

Vocabulary of the cited modules.  `CtorMods.portText n` (C17Ctor.lean) — the port text of the authority `n` as
`split_netloc` cuts it: what follows the ':' after the host (after the closing ']' of a bracketed host), `[]` if
there is none.  `pyInt o t` — Python's `int(t)`: `.ok none` = "not a number", ASCII texts are computed by
`pyIntAscii` (surrounding whitespace, sign, single underscores, leading zeros accepted), non-ASCII digits go through
the `intU` oracle.  `pickleTwin u` — `u` without the cache; `net` — the cached-or-lazily-parsed authority components.
`AuthInput`, `BuildNetOK` (Lemmas/NetShape.lean), `GoodAuthority` (Lemmas/EagerLemmas.lean), `NetlocCanon`: see the
header of `C11HeadlineMore.lean`.
-/
namespace Yarl
open NetlocLemmas HeadB EagerLemmas NetShape CtorMods

/-! ## Sentence 1 — explicit_port of a constructor result (GAPS 1 of C17Headline.lean) -/

/-- GAPS 1: "explicit_port is the integer value of the port written in the URL, which must lie in 0-65535" for a URL
    straight from the auto-encoding constructor, for ANY accepted input (no guard): with `pt` the five parts
    `split_url` cuts from the input, explicit_port is `None` when the input has no authority or no port text, and
    otherwise Python's `int()` of the port text, which lies in 0–65535.  Covers an empty host ("user@:80"),
    IPvFuture ("[v1.x]:80"), "h:080", "h: 80 " (`C17_headline_ctor_explicit_port_instances`).
    Cites `C17_ctor_explicit_port` (C17Ctor.lean). -/
theorem C17_headline_ctor_explicit_port (e : Env) (s : Str) (u : Url)
    (hu : encodeUrl e s = .ok u) :         -- `u = URL(s)`; nothing else is assumed
    ∃ pt, splitUrl e.o s = .ok pt ∧
      (pt.netloc = [] → explicitPort e u = .ok none) ∧
      (pt.netloc ≠ [] → ∃ np, splitNetloc e.o pt.netloc = .ok np ∧ explicitPort e u = .ok np.port ∧
        (portText pt.netloc = [] → np.port = none) ∧
        (portText pt.netloc ≠ [] → ∃ p : Int, pyInt e.o (portText pt.netloc) = .ok (some p) ∧
          0 ≤ p ∧ p ≤ 65535 ∧ np.port = some p.toNat)) :=
  C17_ctor_explicit_port e s u hu

/-- the authorities named in GAPS 1 (and the liberal `int()` spellings of GAPS 2), through the constructor, on both
    backends: port text, what `int()` makes of it, and the explicit_port served from the cache.
    "user@:80" (empty host), "[v1.x]:80" (IPvFuture), "h:080" (leading zero), "h: 80 " (blanks), "h:+8_0" (sign,
    underscore), "h:-0" (`int("-0") = 0`: port 0, NOT absent), "h:" (empty port text: no port).
    Cites `C17_ctor_explicit_port_instances`. -/
theorem C17_headline_ctor_explicit_port_instances (b : Backend) :
    (portText "user@:80".toStr = "80".toStr ∧
      (encodeUrl ⟨b, Oracles.empty⟩ "foo://user@:80/".toStr).bind (explicitPort ⟨b, Oracles.empty⟩) = .ok (some 80)) ∧
    (portText "[v1.x]:80".toStr = "80".toStr ∧
      (encodeUrl ⟨b, Oracles.empty⟩ "http://[v1.x]:80/".toStr).bind (explicitPort ⟨b, Oracles.empty⟩) = .ok (some 80)) ∧
    (portText "h:080".toStr = "080".toStr ∧ pyIntAscii "080".toStr = some 80 ∧
      (encodeUrl ⟨b, Oracles.empty⟩ "http://h:080/".toStr).bind (explicitPort ⟨b, Oracles.empty⟩) = .ok (some 80)) ∧
    (portText "h: 80 ".toStr = " 80 ".toStr ∧ pyIntAscii " 80 ".toStr = some 80 ∧
      (encodeUrl ⟨b, Oracles.empty⟩ "http://h: 80 /".toStr).bind (explicitPort ⟨b, Oracles.empty⟩) = .ok (some 80)) ∧
    (pyIntAscii "+8_0".toStr = some 80 ∧
      (encodeUrl ⟨b, Oracles.empty⟩ "http://h:+8_0/".toStr).bind (explicitPort ⟨b, Oracles.empty⟩) = .ok (some 80)) ∧
    (pyIntAscii "-0".toStr = some 0 ∧
      (encodeUrl ⟨b, Oracles.empty⟩ "http://h:-0/".toStr).bind (explicitPort ⟨b, Oracles.empty⟩) = .ok (some 0)) ∧
    (portText "h:".toStr = [] ∧
      (encodeUrl ⟨b, Oracles.empty⟩ "http://h:/".toStr).bind (explicitPort ⟨b, Oracles.empty⟩) = .ok none) :=
  C17_ctor_explicit_port_instances b

/-- GAPS 1 ("agreement with the lazy value is C09"): the same value is read from the STORED text once the cache is
    gone (pickle / copy).  Cites `C17_ctor_explicit_port_twin`. -/
theorem C17_headline_ctor_explicit_port_twin (e : Env) (s : Str) (u : Url) (hu : encodeUrl e s = .ok u)
    (hg : GoodAuthority e s) :             -- the C09 guard (from input conditions: `C11_ctor_good_authority`)
    explicitPort e (pickleTwin u) = explicitPort e u :=
  C17_ctor_explicit_port_twin e s u hu hg

/-- is_default_port() of ANY constructor result, from the input (no guard, no `Written`): "report[s] the port as
    default exactly when it is absent or equals the scheme default", `np` being the `split_netloc` data of the input
    authority; without an authority it is False.  Cites `C17_ctor_is_default_port_any`. -/
theorem C17_headline_ctor_is_default_port (e : Env) (s : Str) (u : Url) (hu : encodeUrl e s = .ok u) :
    ∃ pt, splitUrl e.o s = .ok pt ∧
      (pt.netloc = [] → isDefaultPort e u = .ok false) ∧
      (pt.netloc ≠ [] → ∃ np, splitNetloc e.o pt.netloc = .ok np ∧
        isDefaultPort e u = .ok (match np.port with
          | none => !u.netloc.isEmpty
          | some p => decide (some p = defaultPort u.scheme))) :=
  C17_ctor_is_default_port_any e s u hu

/-! ## Sentence 1, rejection (GAPS 3 of C17Headline.lean) -/

/-- GAPS 3, constructor: "(non-numeric or out-of-range ports are rejected with ValueError)" — the auto-encoding
    constructor raises ValueError whenever the port text of the input authority is non-numeric (`int()` fails) or out
    of 0–65535.  Cites `C17_encodeUrl_rejects_bad_port`. -/
theorem C17_headline_ctor_rejects_bad_port (e : Env) (s : Str) (pt : Parts)
    (hsp : splitUrl e.o s = .ok pt)            -- `split_url` succeeds (a malformed bracket is reported first, also
                                               -- as ValueError: C19)
    (hne : portText pt.netloc ≠ [])            -- there is a port text
    (hbad : pyInt e.o (portText pt.netloc) = .ok none ∨                        -- not a number, or
      ∃ p, pyInt e.o (portText pt.netloc) = .ok (some p) ∧ ¬ (0 ≤ p ∧ p ≤ 65535)) :   -- out of range
    encodeUrl e s = .error .valueError :=
  C17_encodeUrl_rejects_bad_port e s pt hsp hne hbad

/-- GAPS 3 ("the constructor skips `split_netloc` when the authority has none of ':' '@' '['"): nothing is skipped —
    an authority on that fast path has NO port text; more generally a port text needs a ':'.
    Cites `C17_ctor_fast_path_no_port`. -/
theorem C17_headline_fast_path_no_port (n : Str) :
    (portText n ≠ [] → 58 ∈ n) ∧
    ((mem 58 n || mem 64 n || mem 91 n) = false → portText n = []) :=
  C17_ctor_fast_path_no_port n

/-- GAPS 3, `URL.build(authority=…)` in auto-encoding mode: such an authority is NEVER accepted; and the error is
    ValueError as soon as `port=` is an int or None, the `query=` argument (if any) is convertible, and the two steps
    `build` runs in front of `split_netloc` can be answered — lowering the scheme (fix e21485a; an oracle call for a
    non-ASCII scheme only) and the NFKC screen of the authority (fix c2c2803; an oracle call for a non-ASCII
    authority only; whether it passes or raises ValueError itself).  An ASCII scheme and an ASCII authority always
    meet both.  Without them: `C17_headline_build_rejects_bad_port_fails_for_oracle_miss`.
    Cites `C17_build_rejects_bad_port`. -/
theorem C17_headline_build_rejects_bad_port (e : Env) (a : BuildArgs)
    (henc : a.encoded = false)                 -- `encoded=True` stores the authority unchecked (instances below)
    (hne : portText a.authority ≠ [])          -- there is a port text
    (hbad : pyInt e.o (portText a.authority) = .ok none ∨
      ∃ p, pyInt e.o (portText a.authority) = .ok (some p) ∧ ¬ (0 ≤ p ∧ p ≤ 65535)) :
    (∀ u, build e a ≠ .ok u) ∧
    (a.portKind = 0 →                          -- `port=` of a wrong type is reported first (TypeError/ValueError)
      (qargTruthy a.query = true → ∃ r, getStrQuery e.b a.query = .ok r) →   -- a bad `query=` is reported first
      (∃ sc, lowerAny e a.scheme = .ok sc) →   -- the oracle answers `scheme.lower()` (always for ASCII)
      (isAscii a.authority = false →           -- the oracle answers the NFKC request (none for ASCII)
        ∃ nn, e.o.nfkc (a.authority.filter (fun c => c ≠ 64 ∧ c ≠ 58 ∧ c ≠ 35 ∧ c ≠ 63 ∧ c ≠ 91 ∧ c ≠ 93)) = some nn) →
      build e a = .error .valueError) :=
  C17_build_rejects_bad_port e a henc hne hbad

/-- the oracle-availability hypotheses of `C17_headline_build_rejects_bad_port` are needed for the exact error kind
    (a model artefact, not a library finding): `build(scheme="é", authority="h:99999")` on an oracle table without
    an entry for `"é".lower()` stops at that request, before the port is looked at.
    Cites `C17_build_bad_port_oracle_first`. -/
theorem C17_headline_build_rejects_bad_port_fails_for_oracle_miss : ∀ b : Backend,
    build ⟨b, Oracles.empty⟩ { scheme := [233], authority := "h:99999".toStr } =
      .error (.oracleMiss "lowerU" [233]) :=
  C17_build_bad_port_oracle_first

/-- rejected port texts (hypotheses of the two theorems above, computed): out of range, not a number, negative, a
    number followed by junk; `build(authority="h:99999")` is ValueError; and `encoded=True` does NOT check — the
    authority is stored as given and the error surfaces in explicit_port (known finding F-C19-encoded-str).
    Cites `C17_ctor_rejects_bad_port_instances`. -/
theorem C17_headline_rejects_bad_port_instances :
    let e0 : Env := { b := .py, o := Oracles.empty }
    (portText "h:99999".toStr = "99999".toStr ∧ pyInt Oracles.empty "99999".toStr = .ok (some 99999)) ∧
    (portText "h:8o".toStr = "8o".toStr ∧ pyInt Oracles.empty "8o".toStr = .ok none) ∧
    (portText "u:p@[::1]:-1".toStr = "-1".toStr ∧ pyInt Oracles.empty "-1".toStr = .ok (some (-1))) ∧
    (portText "h:80:90".toStr = "80:90".toStr ∧ pyInt Oracles.empty "80:90".toStr = .ok none) ∧
    build e0 { scheme := "http".toStr, authority := "h:99999".toStr } = .error .valueError ∧
    (build e0 { scheme := "http".toStr, authority := "h:99999".toStr, encoded := true }).map (·.netloc)
      = .ok "h:99999".toStr ∧
    (build e0 { scheme := "http".toStr, authority := "h:99999".toStr, encoded := true }).bind (explicitPort e0)
      = .error .valueError :=
  C17_ctor_rejects_bad_port_instances

/-! ## Sentence 2 on the URLs the library produces (GAPS 1 of C17Headline.lean) -/

/-- GAPS 1: explicit_port, "str(), host_port_subcomponent and is_default_port() omit or report the port as default
    exactly when it is absent or equals the scheme default; with_port(p) sets any valid p, clears on None" for a URL
    WITH a pre-filled cache: `Written` is asked of the cache-less twin, the conclusions are about `u` itself.
    Cites `C17_cached_explicit_port`, `_str_omits_default`, `_host_port_subcomponent`, `_is_default_port`,
    `_with_port` (C17Ctor.lean). -/
theorem C17_headline_cached_port_views (e : Env) (qf : Str → Str) (u : Url) (user pw : Option Str) (h : Str)
    (port : Option Nat)
    -- the cache, if any, holds what the lazy path reads: true of a constructor result under the C09 guard
    -- (`CtorMods.ctor_agree`) and of every URL with `NetlocCanon` (`C11_netlocCanon_cache_agrees`)
    (hnet : net e (pickleTwin u) = net e u)
    -- the stored authority is the `make_netloc` text (follows from `NetlocCanon`: `C11_netlocCanon_view`)
    (w : Written qf (pickleTwin u) user pw h port) :
    explicitPort e u = .ok port ∧
    str e u = .ok (unsplitResult u.scheme
      (match (generalizing := false) port with
        | some p => if some p = defaultPort u.scheme then makeNetloc qf user pw (some (bracket h)) none false
                    else u.netloc
        | none => u.netloc)
      (if u.path.isEmpty && (!u.query.isEmpty || !u.fragment.isEmpty) then [47] else u.path) u.query u.fragment) ∧
    hostPortSubcomponent e u =
      .ok (some (match (generalizing := false) port with
        | none => bracket (rstripC 46 h)
        | some p =>
          if some p = defaultPort u.scheme then bracket (rstripC 46 h)
          else bracket (rstripC 46 h) ++ [58] ++ natToStr p)) ∧
    isDefaultPort e u = .ok (match (generalizing := false) port with
      | none => true
      | some p => decide (some p = defaultPort u.scheme)) ∧
    (∀ np : Option Int,
      (∀ p, np = some p → 0 ≤ p ∧ p ≤ 65535) →      -- other values are rejected: `C17_headline_with_port_rejects`
      ∃ v, withPort e u np 0 = .ok v ∧ explicitPort e v = .ok (np.map Int.toNat)) :=
  ⟨C17_cached_explicit_port e qf u user pw h port hnet w,
   C17_cached_str_omits_default e qf u user pw h port hnet w,
   C17_cached_host_port_subcomponent e qf u user pw h port hnet w,
   C17_cached_is_default_port e qf u user pw h port hnet w,
   fun np hnp => C17_cached_with_port e qf u user pw h port np hnet w hnp⟩

/-- GAPS 1, from the invariant: sentence 2 on EVERY URL with `NetlocCanon` and an authority (constructor and build
    results on supported input and everything derived from them: `C11_headline_invariant_of_ctor` / `_of_build` /
    `_kept`, C11HeadlineMore.lean) — cache or not, no `Written` hypothesis, no `GoodAuthority`.  The stored
    authority is the `make_netloc id` text of `(user, pw, h, port)`, `h` and `port` are what raw_host and
    explicit_port of `u` return.  Cites `C17_netlocCanon_port_views` (C17Ctor.lean). -/
theorem C17_headline_invariant_port_views (e : Env) (u : Url)
    (hc : NetlocCanon e u)       -- the invariant
    (hne : u.netloc ≠ []) :      -- there is an authority (without one: explicit_port None, is_default_port False)
    ∃ user pw h port, u.netloc = makeNetloc id user pw (some (bracket h)) port false ∧
      rawHost e u = .ok (some h) ∧ explicitPort e u = .ok port ∧ (∀ p, port = some p → p ≤ 65535) ∧
      str e u = .ok (unsplitResult u.scheme
        (match (generalizing := false) port with
          | some p => if some p = defaultPort u.scheme then makeNetloc id user pw (some (bracket h)) none false
                      else u.netloc
          | none => u.netloc)
        (if u.path.isEmpty && (!u.query.isEmpty || !u.fragment.isEmpty) then [47] else u.path) u.query u.fragment) ∧
      hostPortSubcomponent e u =
        .ok (some (match (generalizing := false) port with
          | none => bracket (rstripC 46 h)
          | some p =>
            if some p = defaultPort u.scheme then bracket (rstripC 46 h)
            else bracket (rstripC 46 h) ++ [58] ++ natToStr p)) ∧
      isDefaultPort e u = .ok (match (generalizing := false) port with
        | none => true
        | some p => decide (some p = defaultPort u.scheme)) ∧
      (∀ np : Option Int, (∀ p, np = some p → 0 ≤ p ∧ p ≤ 65535) →
        ∃ v, withPort e u np 0 = .ok v ∧ explicitPort e v = .ok (np.map Int.toNat)) :=
  C17_netlocCanon_port_views e u hc hne

/-- GAPS 1, end to end from the INPUT, constructor route: `u = URL(s)` for a Python string `s` whose authority names a
    supported ASCII host (`AuthInput`).  (= `C03_encodeUrl_netlocCanon` + `C17_netlocCanon_port_views`.)
    A port equal to the scheme default STAYS stored (explicit_port reports it) and is omitted by str() and
    host_port_subcomponent only. -/
theorem C17_headline_ctor_port_views (e : Env) (s : Str) (u : Url) (pt : Parts)
    (hs : PyStr s) (hu : encodeUrl e s = .ok u) (hpt : splitUrl e.o s = .ok pt)
    (ha : AuthInput e.o pt.netloc)   -- supported host kinds (others: GAPS 7)
    (hne : u.netloc ≠ []) :          -- there is an authority
    ∃ user pw h port, u.netloc = makeNetloc id user pw (some (bracket h)) port false ∧
      rawHost e u = .ok (some h) ∧ explicitPort e u = .ok port ∧ (∀ p, port = some p → p ≤ 65535) ∧
      str e u = .ok (unsplitResult u.scheme
        (match (generalizing := false) port with
          | some p => if some p = defaultPort u.scheme then makeNetloc id user pw (some (bracket h)) none false
                      else u.netloc
          | none => u.netloc)
        (if u.path.isEmpty && (!u.query.isEmpty || !u.fragment.isEmpty) then [47] else u.path) u.query u.fragment) ∧
      hostPortSubcomponent e u =
        .ok (some (match (generalizing := false) port with
          | none => bracket (rstripC 46 h)
          | some p =>
            if some p = defaultPort u.scheme then bracket (rstripC 46 h)
            else bracket (rstripC 46 h) ++ [58] ++ natToStr p)) ∧
      isDefaultPort e u = .ok (match (generalizing := false) port with
        | none => true
        | some p => decide (some p = defaultPort u.scheme)) ∧
      (∀ np : Option Int, (∀ p, np = some p → 0 ≤ p ∧ p ≤ 65535) →
        ∃ v, withPort e u np 0 = .ok v ∧ explicitPort e v = .ok (np.map Int.toNat)) :=
  C17_netlocCanon_port_views e u (C03_encodeUrl_netlocCanon e s u pt hs hu hpt ha) hne

/-- GAPS 1 and 4, end to end from the INPUT, `build` route: `u = URL.build(…, encoded=False)` with supported authority
    arguments (`host=`/`port=` or `authority=`).  In addition NO port equal to the default of the stored scheme is
    ever stored — `build` lower-cases the scheme first (fix e21485a) and drops a port equal to the default of THAT
    scheme, so `build(scheme="HTTP", host="h", port=80).explicit_port` is `None`; hence str() and
    host_port_subcomponent of a build result show every stored port.
    (= `C03_build_netlocCanon` + `C03_build_noDefaultPort` + `C17_netlocCanon_port_views`.) -/
theorem C17_headline_build_port_views (e : Env) (a : BuildArgs) (u : Url)
    (henc : a.encoded = false)       -- `encoded=True` stores the authority unchecked: GAPS 6
    (hok : BuildNetOK e a)           -- supported authority arguments
    (hb : build e a = .ok u)
    (hne : u.netloc ≠ []) :          -- there is an authority
    ∃ user pw h port, u.netloc = makeNetloc id user pw (some (bracket h)) port false ∧
      rawHost e u = .ok (some h) ∧ explicitPort e u = .ok port ∧ (∀ p, port = some p → p ≤ 65535) ∧
      (∀ p, port = some p → some p ≠ defaultPort u.scheme) ∧
      str e u = .ok (unsplitResult u.scheme u.netloc
        (if u.path.isEmpty && (!u.query.isEmpty || !u.fragment.isEmpty) then [47] else u.path) u.query u.fragment) ∧
      hostPortSubcomponent e u =
        .ok (some (match (generalizing := false) port with
          | none => bracket (rstripC 46 h)
          | some p => bracket (rstripC 46 h) ++ [58] ++ natToStr p)) ∧
      isDefaultPort e u = .ok port.isNone ∧
      (∀ np : Option Int, (∀ p, np = some p → 0 ≤ p ∧ p ≤ 65535) →
        ∃ v, withPort e u np 0 = .ok v ∧ explicitPort e v = .ok (np.map Int.toNat)) := by
  obtain ⟨user, pw, h, port, h1, h2, h3, h4, h5, h6, h7, h8⟩ :=
    C17_netlocCanon_port_views e u (C03_build_netlocCanon e a u henc hok hb) hne
  have hnd : ∀ p, port = some p → some p ≠ defaultPort u.scheme := by
    intro p hp
    exact C03_build_noDefaultPort e a u henc hok hb p (by rw [h3, hp])
  refine ⟨user, pw, h, port, h1, h2, h3, h4, hnd, ?_, ?_, ?_, h8⟩
  · cases port with
    | none => exact h5
    | some p => simpa [hnd p rfl] using h5
  · cases port with
    | none => exact h6
    | some p => simpa [hnd p rfl] using h6
  · cases port with
    | none => exact h7
    | some p => simpa [hnd p rfl] using h7

/-! ## non-vacuity -/
section checks
private def e1 : Env := { b := .py, o := Oracles.empty }
-- a constructor result with cache and DEFAULT port: kept by explicit_port, omitted by str()
private def s1 : Str := "http://me@[::1]:80/p".toStr
private def u1 : Url :=
  { scheme := "http".toStr, netloc := "me@[::1]:80".toStr, path := "/p".toStr, query := [], fragment := [],
    pre := some { rawHost := some "::1".toStr, explicitPort := some 80, rawUser := some "me".toStr,
                  rawPassword := none } }
example : encodeUrl e1 s1 = .ok u1 ∧ u1.pre ≠ none ∧ u1.netloc ≠ []  := ⟨by decide +kernel, by decide +kernel, by decide +kernel⟩
example : Written id (pickleTwin u1) (some "me".toStr) none "::1".toStr (some 80) :=
  ⟨rfl, by decide +kernel, by decide +kernel, by decide +kernel, by decide +kernel⟩
example : (str e1 u1).toOption = some "http://me@[::1]/p".toStr ∧
    (hostPortSubcomponent e1 u1).toOption = some (some "[::1]".toStr) ∧
    (isDefaultPort e1 u1).toOption = some true ∧ (explicitPort e1 u1).toOption = some (some 80) := by
  str_lits; decide +kernel
-- build lower-cases the scheme and drops the default port of the lower-cased scheme; port 0 is kept
example : ((build e1 { scheme := "HTTP".toStr, host := "h".toStr, port := some 80 }).map
    (fun u => (u.scheme, u.netloc))).toOption = some ("http".toStr, "h".toStr) := by decide +kernel
example : ((build e1 { scheme := "HTTP".toStr, host := "h".toStr, port := some 0 }).map
    (fun u => (u.scheme, u.netloc))).toOption = some ("http".toStr, "h:0".toStr) := by str_lits; decide +kernel
-- the hypotheses of `C17_headline_ctor_rejects_bad_port` on a concrete input
example (s : Str) (pt : Parts) (h : splitUrl e1.o s = .ok pt) (hn : pt.netloc = "h:8o".toStr) :
    encodeUrl e1 s = .error .valueError :=
  C17_headline_ctor_rejects_bad_port e1 s pt h (by rw [hn]; decide +kernel) (Or.inl (by rw [hn]; decide +kernel))
end checks

end Yarl
