/-
  C09Idn.lean — property C09 ("eager = lazy; pickling is lossless"), IDN hosts (closes C09 gap 1).

  The guard `GoodHost` of `C09_eager_eq_lazy` has, for a NON-ASCII host, the clause "the IDNA answer is
  non-empty and introduces none of ':' '@' '[' ']'" — a hypothesis about the oracle that no theorem
  discharged.  Under the assumption about the `idna` package stated once in C16Idn.lean (`IdnaSaneAt`: the
  answer is non-empty lower-case reg-name text) the clause holds, so for IDN inputs C09 is conditional on
  that assumption ONLY: `C09_idn_good_host`, `C09_idn_eager_eq_lazy`, `C09_idn_pickle_lossless`, and under the
  universal form `IdnaSane` the IDNA clause disappears from the guard altogether (`C09_idn_good_host_iff`).
  That the assumption is needed: `C16_idn_needs_no_colon` / `_no_at` / `_nonempty` (each a hostile table for
  which eager and lazy data differ, `¬ GoodAuthority`), `C19_twin_needs_good_authority`.
-/
import YarlProofs.C16Idn
namespace Yarl
open Idn HostLemmas NetlocLemmas HumanLemmas

/-- the IDNA clause of the guard, from the assumption about the package (for the host at hand) -/
theorem C09_idn_good_host (o : Oracles) (h0 : Str) (h91 : 91 ∉ h0) (hs : IdnaSaneAt o h0) : GoodHost o h0 := by
  refine Or.inl ⟨h91, fun _ r hr => ?_⟩
  have hsa := idnaEncode_sane hs hr
  refine ⟨hsa.nonempty, fun c hc hm => ?_⟩
  exfalso
  rcases hc with rfl | rfl | rfl | rfl <;> exact sane_no hsa (by decide) hm

/-- under `IdnaSane` the guard is purely syntactic: "no '[' inside the host text, or a valid IPv6 literal" -/
theorem C09_idn_good_host_iff (o : Oracles) (hs : IdnaSane o) (h0 : Str) :
    GoodHost o h0 ↔ (91 ∉ h0 ∨ ∃ h8, parseIP (partition 37 h0).1 = some (.v6 h8)) := by
  constructor
  · rintro (⟨h, _⟩ | h)
    · exact Or.inl h
    · exact Or.inr h
  · rintro (h | h)
    · cases ha : isAscii h0 with
      | true => exact C09_good_host_ascii o h0 ha h
      | false => exact C09_idn_good_host o h0 h (hs.at ha)
    · exact Or.inr h

/-- eager = lazy for an input whose authority has the (IDN) host `h0` -/
theorem C09_idn_eager_eq_lazy (e : Env) (s : Str) (u : Url) (p : NetPre) (pt : Parts) (np : NetlocParts)
    (h0 : Str) :
    encodeUrl e s = .ok u → u.pre = some p → splitUrl e.o s = .ok pt → splitNetloc e.o pt.netloc = .ok np →
    np.host = some h0 → 91 ∉ h0 → IdnaSaneAt e.o h0 →
    (∀ x, np.user = some x → PyStr x) →
    lazyNet e (pickleTwin u) = .ok p := by
  intro h hpre h1 h2 hh h91 hs hu
  refine C09_eager_eq_lazy e s u p h hpre (C09_good_authority_of e s pt np h1 h2 ⟨hu, ?_⟩)
  rw [hh]
  exact C09_idn_good_host e.o h0 h91 hs

/-- … and everything observable survives pickling / copying -/
theorem C09_idn_pickle_lossless (e : Env) (s : Str) (u : Url) (pt : Parts) (np : NetlocParts) (h0 : Str) :
    PyStr s → encodeUrl e s = .ok u → splitUrl e.o s = .ok pt → splitNetloc e.o pt.netloc = .ok np →
    np.host = some h0 → 91 ∉ h0 → IdnaSaneAt e.o h0 →
    net e (pickleTwin u) = net e u ∧ str e (pickleTwin u) = str e u ∧ host e (pickleTwin u) = host e u ∧
    port e (pickleTwin u) = port e u ∧ authority e (pickleTwin u) = authority e u ∧
    user e (pickleTwin u) = user e u ∧ password e (pickleTwin u) = password e u ∧
    humanRepr e (pickleTwin u) = humanRepr e u ∧ (pickleTwin u).beq u = true ∧ eqKey (pickleTwin u) = eqKey u := by
  intro hpy h h1 h2 hh h91 hs
  have hu := (WfLemmas.splitNetloc_pyStr e.o pt.netloc (WfLemmas.splitUrl_pyStr e.o s hpy pt h1).1 np h2).1
  refine C09_pickle_lossless e s u h (C09_good_authority_of e s pt np h1 h2 ⟨hu, ?_⟩)
  rw [hh]
  exact C09_idn_good_host e.o h0 h91 hs

/-- under the universal assumption: every Python-string input whose host text has no '[' inside (or is a
    valid IPv6 literal) — ASCII or not — is inside the guard -/
theorem C09_idn_pickle_lossless_any_host (e : Env) (hs : IdnaSane e.o) (s : Str) (u : Url) (pt : Parts)
    (np : NetlocParts) (h0 : Str) :
    PyStr s → encodeUrl e s = .ok u → splitUrl e.o s = .ok pt → splitNetloc e.o pt.netloc = .ok np →
    np.host = some h0 → (91 ∉ h0 ∨ ∃ h8, parseIP (partition 37 h0).1 = some (.v6 h8)) →
    net e (pickleTwin u) = net e u ∧ str e (pickleTwin u) = str e u ∧ host e (pickleTwin u) = host e u ∧
    port e (pickleTwin u) = port e u ∧ authority e (pickleTwin u) = authority e u ∧
    user e (pickleTwin u) = user e u ∧ password e (pickleTwin u) = password e u ∧
    humanRepr e (pickleTwin u) = humanRepr e u ∧ (pickleTwin u).beq u = true ∧ eqKey (pickleTwin u) = eqKey u := by
  intro hpy h h1 h2 hh hsyn
  have hu := (WfLemmas.splitNetloc_pyStr e.o pt.netloc (WfLemmas.splitUrl_pyStr e.o s hpy pt h1).1 np h2).1
  refine C09_pickle_lossless e s u h (C09_good_authority_of e s pt np h1 h2 ⟨hu, ?_⟩)
  rw [hh]
  exact (C09_idn_good_host_iff e.o hs h0).2 hsyn

/-- END TO END for `URL("scheme://h/path#fragment")` with an IDN host `h` (`IdnHostInput`): whatever the
    constructor returns is inside the guard, so pickling it is lossless -/
theorem C09_idn_pickle_lossless_ctor (e : Env) (sc h rp rf : Str) (vs : ValidScheme sc) (hi : IdnHostInput e.o h)
    (hs : IdnaSaneAt e.o h) (h35 : 35 ∉ rp) (h63 : 63 ∉ rp) (hc1 : Clean rp) (hc2 : Clean rf) (u : Url) :
    encodeUrl e (sc ++ 58 :: 47 :: 47 :: (h ++ (47 :: rp ++ fragTail rf))) = .ok u →
    GoodAuthority e (sc ++ 58 :: 47 :: 47 :: (h ++ (47 :: rp ++ fragTail rf))) ∧
    net e (pickleTwin u) = net e u ∧ str e (pickleTwin u) = str e u ∧ host e (pickleTwin u) = host e u ∧
    port e (pickleTwin u) = port e u ∧ authority e (pickleTwin u) = authority e u ∧
    user e (pickleTwin u) = user e u ∧ password e (pickleTwin u) = password e u ∧
    humanRepr e (pickleTwin u) = humanRepr e u ∧ (pickleTwin u).beq u = true ∧ eqKey (pickleTwin u) = eqKey u := by
  intro hu
  have h58 : 58 ∉ h := fun hm => (hi.chars 58 hm).2.2.2.2.2.2.2.2.1 rfl
  have h64 : 64 ∉ h := fun hm => (hi.chars 64 hm).2.2.2.2.2.2.2.2.2 rfl
  have h91 : 91 ∉ h := fun hm => (hi.chars 91 hm).2.2.2.2.2.2.1 rfl
  have hg : GoodAuthority e (sc ++ 58 :: 47 :: 47 :: (h ++ (47 :: rp ++ fragTail rf))) :=
    C09_good_authority_of e _ _ _ (splitUrl_auth e.o sc h rp rf vs (authOK_idn hi) h35 h63 hc1 hc2)
      (NetlocLemmas.splitNetloc_noDelims e.o (nonempty_of_nonAscii hi.nonAscii) h58 h64 h91)
      ⟨fun x hx => (by cases hx), C09_idn_good_host e.o h h91 hs⟩
  exact ⟨hg, C09_pickle_lossless e _ u hu hg⟩

/-! ### non-vacuity: "http://bücher/a/b#f" with the two-entry table of C16Idn.lean -/
section checks
private def eS : Env := { b := .c, o := C16_idn_sampleOracle }
private def sB : Str := "http://".toStr ++ C16_idn_buecher ++ "/a/b#f".toStr

example : GoodHost eS.o C16_idn_buecher :=
  C09_idn_good_host _ _ (by decide +kernel) (C16_idn_sane_satisfiable.1.at (by decide +kernel))
example : (encodeUrl eS sB).map (fun u => (u.netloc, u.pre)) = .ok ("xn--bcher-kva".toStr,
    some { rawHost := some "xn--bcher-kva".toStr, explicitPort := none, rawUser := none, rawPassword := none }) := by
  decide +kernel
example : (encodeUrl eS sB).bind (fun u => lazyNet eS (pickleTwin u)) =
    .ok { rawHost := some "xn--bcher-kva".toStr, explicitPort := none, rawUser := none, rawPassword := none } := by
  decide +kernel
example : sB = "http".toStr ++ 58 :: 47 :: 47 :: (C16_idn_buecher ++ (47 :: "a/b".toStr ++ fragTail "f".toStr)) := by
  decide +kernel
end checks

end Yarl
