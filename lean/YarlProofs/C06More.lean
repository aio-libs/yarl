/-
  C06More.lean — property C06: read-back of `build()` arguments, and of paths and names that need more than the
  one-segment case of C06.lean.

    * `build()` arguments through `user`, `password`, `host` / `raw_host`, `query`, `query_string` (helpers in
      `Yarl.BuildMore`, declared here);
    * `with_path` for rootless texts and for texts with '.' that are not dot segments, `build(path=)` likewise; `/` and
      `joinpath` with '.' / '/' / several arguments, read back through `name`, `parts`, `path`; `with_name` with
      `keep_query` / `keep_fragment` (helpers in `Yarl.PathMore`: the ones about the path quoter are in Lemmas/PathAlg.lean
      and C13More.lean, the read-back ones are declared here).
-/
import YarlModel
import YarlProofs.C06
import YarlProofs.C17Build
import YarlProofs.C16Host
import YarlProofs.C12Url
import YarlProofs.C13More
import YarlProofs.Lemmas.BuildShape
namespace Yarl

section BuildPart
open NetlocLemmas StrTotal MiscLemmas DecLemmas

namespace BuildMore

/-- `split_netloc ∘ make_netloc` for ANY user without ':' (possibly empty) and any password -/
theorem split_makeNetloc (o : Oracles) (qf : Str → Str) (user pw : Option Str) (h : Str) (port : Option Nat)
    (hu : ∀ s, user = some s → 58 ∉ s) (h64 : 64 ∉ h) (h91 : 91 ∉ h) (h93 : 93 ∉ h)
    (hp : ∀ p, port = some p → p ≤ 65535) :
    splitNetloc o (makeNetloc qf user pw (some (bracket h)) port false) =
      .ok { user := user.bind orNone, password := pw, host := orNone h, port := port } := by
  have key : ∀ U, UserOK U → splitNetloc o (makeNetloc qf U pw (some (bracket h)) port false) =
      .ok { user := U, password := pw, host := orNone h, port := port } := fun U hU =>
    roundtrip_written o qf U pw port hU (notMem_bracket h64 (by decide) (by decide)) (hostPort_plain h h91 h93)
      (fun ds => hostPort_port h ds h91 h93) hp
  cases user with
  | none => exact key none (fun _ hs => nomatch hs)
  | some u =>
    cases u with
    | nil =>
      -- `make_netloc` treats the user "" as no user
      have e : makeNetloc qf (some []) pw (some (bracket h)) port false =
          makeNetloc qf none pw (some (bracket h)) port false := by
        rw [makeNetloc_eq, makeNetloc_eq]
        cases pw <;> simp
      rw [e]
      exact key none (fun _ hs => nomatch hs)
    | cons c r =>
      exact key (some (c :: r)) (fun s hs => by cases hs; exact ⟨List.cons_ne_nil c r, hu _ rfl⟩)

/-! ### the netloc a successful `build(host=…)` stores -/

/-- `sc` is the scheme `build` stores: `lower a.scheme` for an ASCII scheme, the oracle's answer otherwise -/
theorem build_netloc_form (e : Env) (a : BuildArgs) (v : Url) (h : build e a = .ok v)
    (henc : a.encoded = false) (hauth : a.authority = []) (hhost : a.host ≠ []) :
    ∃ sc eh, lowerAny e a.scheme = .ok sc ∧ v.scheme = sc ∧ encodeHost e.o a.host true = .ok eh ∧ v.pre = none ∧
      v.netloc = makeNetloc (q e Gen.QUOTER) a.user a.password (some eh) (strPort sc (a.port.map Int.toNat)) true ∧
      (∀ p, strPort sc (a.port.map Int.toNat) = some p → p ≤ 65535) := by
  obtain ⟨_, hs, _, hsc, hnl, _, _, _, hpre⟩ := build_false_ok henc h
  rw [buildNetloc_host hauth hhost] at hnl
  obtain ⟨eh, heh, hnl⟩ := bind_ok hnl
  exact ⟨_, eh, hsc, rfl, heh, hpre, (Except.ok.inj hnl).symm, strPort_range _ _ (argCheck_port hs)⟩

/-! ### accessors of a cache-less URL from the split of its netloc -/

theorem net_of_split (e : Env) (v : Url) (np : NetlocParts) (hpre : v.pre = none)
    (h : splitNetloc e.o v.netloc = .ok np) :
    net e v = .ok { rawHost := (match np.host with
                      | none => if v.netloc.isEmpty then none else some []
                      | some h => some h),
                    explicitPort := np.port, rawUser := np.user, rawPassword := np.password } := by
  unfold net
  rw [hpre]
  unfold lazyNet
  rw [h]
  rfl

theorem unbracket_nil : unbracket [] = [] := rfl

/-- the encoded host as `bracket r` with `r = unbracket eh` -/
theorem encoded_host_unbracket (o : Oracles) (hs eh : Str) (h : encodeHost o hs true = .ok eh) :
    eh = bracket (unbracket eh) ∧ 64 ∉ unbracket eh ∧ 91 ∉ unbracket eh ∧ 93 ∉ unbracket eh := by
  by_cases hne : eh = []
  · subst hne; exact ⟨rfl, by simp [unbracket_nil], by simp [unbracket_nil], by simp [unbracket_nil]⟩
  · obtain ⟨hwf, hok⟩ := C11_encoded_host_wellformed o hs eh hne h
    exact ⟨hwf.symm, hok.2.1, hok.2.2.1, hok.2.2.2⟩

/-- the split of the netloc of `build(user=, password=, host=, port=)` -/
theorem build_split (e : Env) (a : BuildArgs) (v : Url) (h : build e a = .ok v)
    (henc : a.encoded = false) (hauth : a.authority = []) (hhost : a.host ≠ [])
    (hu : ∀ s, a.user = some s → PyStr s) :
    ∃ sc eh, lowerAny e a.scheme = .ok sc ∧ encodeHost e.o a.host true = .ok eh ∧ v.pre = none ∧
      splitNetloc e.o v.netloc = .ok
        { user := (encUser (q e Gen.QUOTER) a.user).bind orNone, password := a.password.map (q e Gen.QUOTER),
          host := orNone (unbracket eh), port := strPort sc (a.port.map Int.toNat) } := by
  obtain ⟨sc, eh, hsc, _, heh, hpre, hnl, hport⟩ := build_netloc_form e a v h henc hauth hhost
  obtain ⟨hbr, h64, h91, h93⟩ := encoded_host_unbracket e.o a.host eh heh
  refine ⟨sc, eh, hsc, heh, hpre, ?_⟩
  rw [hnl, makeNetloc_encode]
  conv => lhs; rw [hbr]
  apply split_makeNetloc e.o _ _ _ _ _ ?_ h64 h91 h93 hport
  intro s hs
  obtain ⟨u, hus, hs⟩ := Option.bind_eq_some_iff.1 hs
  split at hs <;> cases hs
  exact quoter_no_colon e.b u (hu u hus)

/-- `host` of a lower-case ASCII raw host without ':' is the raw host; the IDNA decoder is consulted only
    when the host does not end in a digit or contains "xn--", and then it must answer the host itself -/
theorem host_ascii_lower (e : Env) (u : Url) (raw : Str) (hraw : rawHost e u = .ok (some raw))
    (hasc : isAscii raw = true) (hlow : lower raw = raw) (h58 : 58 ∉ raw)
    (hdec : ((∀ l, raw.getLast? = some l → isDigitC l = false) ∨ hasSub [120, 110, 45, 45] raw = true) →
      e.o.idnaDec raw = some (some raw)) :
    host e u = .ok (some raw) := by
  by_cases hx : (∀ l, raw.getLast? = some l → isDigitC l = false) ∨ hasSub [120, 110, 45, 45] raw = true
  · exact (C16_host_reencodes_ascii e u raw hraw hasc hlow h58 hx (hdec hx)).1
  · obtain ⟨hx1, hx2⟩ := not_or.1 hx
    obtain ⟨l, hl, hd⟩ : ∃ l, raw.getLast? = some l ∧ isDigitC l = true := by simpa using hx1
    exact host_of_ip_looking e u raw hraw (Or.inl ⟨l, hl, hd, by simpa using hx2⟩)

/-- an ASCII host that is no IP literal (its text before '%' parses as neither IPv4 nor IPv6, or it has no
    ':' and does not end in a digit) is encoded by lower-casing, and the result passes `NOT_REG_NAME` -/
theorem encodeHost_ascii_regname (o : Oracles) (h eh : Str) (ha : isAscii h = true)
    (hnip : parseIP (partition 37 h).1 = none ∨
      (58 ∉ h ∧ ∀ l, h.getLast? = some l → isDigitC l = false))
    (he : encodeHost o h true = .ok eh) : eh = lower h ∧ notRegName eh = false := by
  rcases hnip with hp | ⟨h58, hnd⟩
  · exact ⟨(C16_ascii_regname o h true eh ha hp he).1, C16_validated_regname o h eh ha hp he⟩
  · rw [HostLemmas.encodeHost_noIp true ⟨false, looksIP_false o ha h58 hnd, nofun⟩] at he
    obtain ⟨rfl, hs⟩ := (HostLemmas.regPath_ok_of_ascii ha).1 he
    exact ⟨rfl, hs rfl⟩

/-- a truthy `query=` rendered as the text of the pairs `ps` is stored as that text and parses back to `ps` -/
theorem build_query_rendered (e : Env) (a : BuildArgs) (v : Url) (h : build e a = .ok v) (ps : List (Str × Str))
    (ht : qargTruthy a.query = true) (hr : getStrQuery e.b a.query = .ok (some (QueryUrl.qtext e.b ps)))
    (hg : GoodPairs ps) : queryPairs v = ps ∧ v.query = QueryUrl.qtext e.b ps := by
  obtain ⟨qs, hqs, hv⟩ := (build_query_shape h).1 ht
  rw [hr] at hqs
  cases hqs
  have hv' : v.query = QueryUrl.qtext e.b ps := hv
  refine ⟨?_, hv'⟩
  unfold queryPairs
  rw [hv']
  exact QueryUrl.parse_qtext e.b ps hg

end BuildMore
open BuildMore

/-! ## user and password -/

/-- raw user and password of `build(user=, password=, host=)`: the quoted texts; an absent or empty user is
    `None`; the password is `None` only when absent (an empty password is kept as "") -/
theorem C06_build_raw_userinfo (e : Env) (a : BuildArgs) (v : Url) (h : build e a = .ok v)
    (henc : a.encoded = false) (hauth : a.authority = []) (hhost : a.host ≠ [])
    (hu : ∀ s, a.user = some s → PyStr s) :
    rawUser e v = .ok ((encUser (q e Gen.QUOTER) a.user).bind orNone) ∧
    rawPassword e v = .ok (a.password.map (q e Gen.QUOTER)) := by
  obtain ⟨sc, eh, _, _, hpre, hsp⟩ := build_split e a v h henc hauth hhost hu
  have hn := net_of_split e v _ hpre hsp
  constructor
  · unfold rawUser; rw [hn]; rfl
  · unfold rawPassword; rw [hn]; rfl

/-- `build(user=s, …).user == s` for a non-empty `s`, whatever the password is -/
theorem C06_build_user_readback (e : Env) (a : BuildArgs) (v : Url) (h : build e a = .ok v)
    (henc : a.encoded = false) (hauth : a.authority = []) (hhost : a.host ≠ [])
    (s : Str) (hus : a.user = some s) (hs : PyStr s) (hn : NoSurrogate s) (h0 : s ≠ []) :
    user e v = .ok (some s) := by
  have hu : ∀ t, a.user = some t → PyStr t := by
    intro t ht; rw [hus] at ht; cases ht; exact hs
  have hr := (C06_build_raw_userinfo e a v h henc hauth hhost hu).1
  have hq : q e Gen.QUOTER s ≠ [] :=
    quoter_ne_nil Gen.QUOTER mem_QUOTER (by decide +kernel) e.b s hs hn h0
  have : (encUser (q e Gen.QUOTER) a.user).bind orNone = some (q e Gen.QUOTER s) := by
    simp [encUser, hus, h0, orNone, hq]
  rw [this] at hr
  unfold user
  rw [hr]
  exact congrArg (fun x => Except.ok (some x)) (C06_readback_user e.b s hs hn)

/-- no user, or the empty user: `.user` is `None` — also when a password is given (netloc ":pw@host") -/
theorem C06_build_user_none (e : Env) (a : BuildArgs) (v : Url) (h : build e a = .ok v)
    (henc : a.encoded = false) (hauth : a.authority = []) (hhost : a.host ≠ [])
    (hus : a.user = none ∨ a.user = some []) :
    user e v = .ok none := by
  have hu : ∀ t, a.user = some t → PyStr t := by
    intro t ht
    rcases hus with hus | hus <;> rw [hus] at ht <;> cases ht
    exact pyStr_nil
  have hr := (C06_build_raw_userinfo e a v h henc hauth hhost hu).1
  have : (encUser (q e Gen.QUOTER) a.user).bind orNone = none := by
    rcases hus with hus | hus <;> simp [encUser, hus]
  rw [this] at hr
  unfold user
  rw [hr]
  rfl

/-- `build(password=p, …).password == p`, for EVERY `p` including "" (with or without a user) -/
theorem C06_build_password_readback (e : Env) (a : BuildArgs) (v : Url) (h : build e a = .ok v)
    (henc : a.encoded = false) (hauth : a.authority = []) (hhost : a.host ≠ [])
    (hu : ∀ s, a.user = some s → PyStr s)
    (p : Str) (hpw : a.password = some p) (hp : PyStr p) (hn : NoSurrogate p) :
    password e v = .ok (some p) := by
  have hr := (C06_build_raw_userinfo e a v h henc hauth hhost hu).2
  rw [hpw] at hr
  unfold password
  rw [hr]
  exact congrArg (fun x => Except.ok (some x)) (C06_readback_user e.b p hp hn)

/-- no password: `.password` is `None` -/
theorem C06_build_password_none (e : Env) (a : BuildArgs) (v : Url) (h : build e a = .ok v)
    (henc : a.encoded = false) (hauth : a.authority = []) (hhost : a.host ≠ [])
    (hu : ∀ s, a.user = some s → PyStr s) (hpw : a.password = none) :
    password e v = .ok none := by
  have hr := (C06_build_raw_userinfo e a v h henc hauth hhost hu).2
  rw [hpw] at hr
  unfold password
  rw [hr]
  rfl

/-! ## host -/

/-- (c, general raw statement) whatever `_encode_host(host, validate_host=True)` answered is what
    `raw_host` returns, without the brackets of an IPv6 literal — for EVERY user / password / port.
    (The `if` only matters for an IDNA oracle answering "": then the netloc may be empty.) -/
theorem C06_build_raw_host_gen (e : Env) (a : BuildArgs) (v : Url) (h : build e a = .ok v)
    (henc : a.encoded = false) (hauth : a.authority = []) (hhost : a.host ≠ [])
    (eh : Str) (heh : encodeHost e.o a.host true = .ok eh) :
    rawHost e v = .ok (if v.netloc.isEmpty then none else some (unbracket eh)) := by
  obtain ⟨sc, eh', _, _, heh', hpre, hnl, hport⟩ := build_netloc_form e a v h henc hauth hhost
  rw [heh] at heh'
  cases heh'
  obtain ⟨hbr, h64, h91, h93⟩ := encoded_host_unbracket e.o a.host eh heh
  have hshape : v.netloc = hostPortStr (bracket (unbracket eh)) (strPort sc (a.port.map Int.toNat)) ∨
      ∃ X, v.netloc = X ++ 64 :: hostPortStr (bracket (unbracket eh)) (strPort sc (a.port.map Int.toNat)) := by
    rw [hnl, ← hbr]
    exact makeNetloc_shape _ _ _ _ _ _
  obtain ⟨np, hsp, _, hnh⟩ := splitNetloc_written_any e.o (q e Gen.QUOTER) a.user a.password
    (strPort sc (a.port.map Int.toNat)) true (notMem_bracket h64 (by decide) (by decide))
    (hostPort_plain _ h91 h93) (fun ds => hostPort_port _ ds h91 h93) hport
  rw [← hbr, ← hnl] at hsp
  have hn := net_of_split e v np hpre hsp
  unfold rawHost
  rw [hn, hnh]
  show Except.ok _ = _
  congr 1
  cases hr : unbracket eh with
  | nil => rfl
  | cons c r =>
    have hne : v.netloc.isEmpty = false := by
      apply isEmpty_false
      have hb : hostPortStr (bracket (unbracket eh)) (strPort sc (a.port.map Int.toNat)) ≠ [] :=
        hostPortStr_ne_nil (bracket_ne_nil (by rw [hr]; simp)) _
      rcases hshape with hs | ⟨X, hs⟩
      · rw [hs]; exact hb
      · rw [hs]; simp
    simp [orNone, hne]

/-- (c, raw) with a non-empty encoded host (always the case unless an IDNA oracle answers "") -/
theorem C06_build_raw_host (e : Env) (a : BuildArgs) (v : Url) (h : build e a = .ok v)
    (henc : a.encoded = false) (hauth : a.authority = []) (hhost : a.host ≠ [])
    (eh : Str) (heh : encodeHost e.o a.host true = .ok eh) (hne : eh ≠ []) :
    rawHost e v = .ok (some (unbracket eh)) := by
  rw [C06_build_raw_host_gen e a v h henc hauth hhost eh heh]
  obtain ⟨sc, eh', _, _, heh', _, hnl, _⟩ := build_netloc_form e a v h henc hauth hhost
  rw [heh] at heh'
  cases heh'
  have : v.netloc ≠ [] := by
    rw [hnl]
    rcases makeNetloc_shape (q e Gen.QUOTER) a.user a.password eh (strPort sc (a.port.map Int.toNat)) true with hs | ⟨X, hs⟩
    · rw [hs]; exact hostPortStr_ne_nil hne _
    · rw [hs]; simp
  simp [this]

/-- an ASCII registered name given as `host=` (no IP literal: see `encodeHost_ascii_regname`) is stored
    LOWER-CASED, and `.host` returns that text.  `URL.host` runs the raw host through `_idna_decode` unless it
    ends in a digit (and has no "xn--"): the hypothesis of the second part says the IDNA decoder maps the
    (ASCII, lower-case) name to itself — it is needed only in that case and only for the decoded accessor. -/
theorem C06_build_host_readback_lower (e : Env) (a : BuildArgs) (v : Url) (h : build e a = .ok v)
    (henc : a.encoded = false) (hauth : a.authority = []) (hhost : a.host ≠ [])
    (hasc : isAscii a.host = true)
    (hnip : parseIP (partition 37 a.host).1 = none ∨
      (58 ∉ a.host ∧ ∀ l, a.host.getLast? = some l → isDigitC l = false)) :
    rawHost e v = .ok (some (lower a.host)) ∧
    ((((∀ l, (lower a.host).getLast? = some l → isDigitC l = false) ∨
        hasSub [120, 110, 45, 45] (lower a.host) = true) →
      e.o.idnaDec (lower a.host) = some (some (lower a.host))) →
     host e v = .ok (some (lower a.host))) := by
  obtain ⟨sc, eh, _, _, heh, _⟩ := build_netloc_form e a v h henc hauth hhost
  obtain ⟨hlow, hreg⟩ := encodeHost_ascii_regname e.o a.host eh hasc hnip heh
  have hne : eh ≠ [] := by
    rw [hlow]
    intro h0
    apply hhost
    cases hh : a.host with
    | nil => rfl
    | cons c r => rw [hh] at h0; simp [lower] at h0
  have hraw := C06_build_raw_host e a v h henc hauth hhost eh heh hne
  rw [unbracket_of_no91 (notRegName_no91 hreg), hlow] at hraw
  refine ⟨hraw, fun hdec => ?_⟩
  exact host_ascii_lower e v (lower a.host) hraw (HostLemmas.isAscii_lower hasc) (HostLemmas.lower_idem _)
    (by rw [← hlow]; exact mem_false_iff.mp (HostLemmas.notRegName_false_no_colon hreg)) hdec

/-- a LOWER-CASE ASCII registered name reads back unchanged -/
theorem C06_build_host_readback (e : Env) (a : BuildArgs) (v : Url) (h : build e a = .ok v)
    (henc : a.encoded = false) (hauth : a.authority = []) (hhost : a.host ≠ [])
    (hasc : isAscii a.host = true) (hlow : lower a.host = a.host)
    (hnip : parseIP (partition 37 a.host).1 = none ∨
      (58 ∉ a.host ∧ ∀ l, a.host.getLast? = some l → isDigitC l = false))
    (hdec : ((∀ l, a.host.getLast? = some l → isDigitC l = false) ∨
        hasSub [120, 110, 45, 45] a.host = true) → e.o.idnaDec a.host = some (some a.host)) :
    rawHost e v = .ok (some a.host) ∧ host e v = .ok (some a.host) := by
  have := C06_build_host_readback_lower e a v h henc hauth hhost hasc hnip
  rw [hlow] at this
  exact ⟨this.1, this.2 hdec⟩

theorem isDigitChar_ascii (o : Oracles) {l : Nat} (h : l < 128) : ∃ b, isDigitChar o l = .ok b :=
  ⟨_, by unfold isDigitChar; rw [if_pos h]; rfl⟩

/-- an IPv4 literal that is the raw host is also the host -/
theorem BuildMore.host_of_ipv4 (e : Env) (v : Url) (h0 : Str) (o4 : List Nat) (h4 : parseIPv4 h0 = some o4)
    (hraw : rawHost e v = .ok (some h0)) : host e v = .ok (some h0) :=
  (C16_host_reencodes_ip e v h0 hraw (Or.inl ⟨o4, h4⟩) (by
    intro l hl hge
    have := HostLemmas.parseIPv4_chars h4 l (List.mem_of_getLast? hl)
    rcases this with rfl | hd
    · omega
    · simp [isDigitC] at hd; omega)).1

/-- an IPv4 literal given as `host=` reads back unchanged from `raw_host` and `host` (no oracle) -/
theorem C06_build_host_readback_ipv4 (e : Env) (a : BuildArgs) (v : Url) (h : build e a = .ok v)
    (henc : a.encoded = false) (hauth : a.authority = []) (o4 : List Nat)
    (h4 : parseIPv4 a.host = some o4) :
    rawHost e v = .ok (some a.host) ∧ host e v = .ok (some a.host) := by
  have hch := HostLemmas.parseIPv4_chars h4
  have hno : ∀ c, ¬ (c = 46 ∨ isDigitC c = true) → c ∉ a.host := fun c hc hm => hc (hch c hm)
  have h37 : 37 ∉ a.host := hno 37 (by decide +kernel)
  have h91 : 91 ∉ a.host := hno 91 (by decide +kernel)
  have hhost : a.host ≠ [] := by
    intro h0
    have : parseIPv4 [] = none := by decide +kernel
    rw [h0, this] at h4; cases h4
  have heh := C16_ipv4_kept e.o a.host true o4 h4 h37
  have hraw := C06_build_raw_host e a v h henc hauth hhost a.host heh hhost
  rw [unbracket_of_no91 h91] at hraw
  exact ⟨hraw, host_of_ipv4 e v a.host o4 h4 hraw⟩

/-- an IPv6 literal (any spelling, optional zone id) given as `host=`: `raw_host` and `host` are its
    canonical lower-case text, the zone id verbatim, no brackets (no oracle) -/
theorem C06_build_host_readback_ipv6 (e : Env) (a : BuildArgs) (v : Url) (h : build e a = .ok v)
    (henc : a.encoded = false) (hauth : a.authority = []) (h8 : List Nat)
    (h4 : parseIPv4 (partition 37 a.host).1 = none) (h6 : parseIPv6 (partition 37 a.host).1 = some h8) :
    let raw := ipv6ToStr h8 ++ (if (partition 37 a.host).2.1 then [37] ++ (partition 37 a.host).2.2 else [])
    rawHost e v = .ok (some raw) ∧ host e v = .ok (some raw) := by
  intro raw
  have hcolon : 58 ∈ a.host := partition_fst_sub 37 a.host 58 (HostLemmas.parseIPv6_colon h6)
  have hhost : a.host ≠ [] := by intro h0; rw [h0] at hcolon; simp at hcolon
  obtain ⟨sc, eh, _, _, heh, _⟩ := build_netloc_form e a v h henc hauth hhost
  obtain ⟨hhd, _, hform⟩ := C16_ipv6_bracketed e.o a.host true h8 eh h4 h6 heh
  have hne : eh ≠ [] := by rw [hform]; simp
  have hraw := C06_build_raw_host e a v h henc hauth hhost eh heh hne
  have hub : unbracket eh = raw := by
    rw [unbracket_of_head hhd, hform]
    simp [raw]
  rw [hub] at hraw
  refine ⟨hraw, ?_⟩
  apply host_of_ip_looking e v raw hraw
  right
  have hc6 : 58 ∈ ipv6ToStr h8 := HostLemmas.parseIPv6_colon (C16_ipv6_reparse _ h8 h6)
  refine ⟨by simp [raw, hc6], fun l hl => ?_⟩
  have hasc := C16_validated_ascii e.o a.host eh heh
  have hl128 : l < 128 := by
    apply hasc
    rw [hform, List.append_assoc [91], List.mem_append, List.mem_append]
    exact Or.inl (Or.inr (List.mem_of_getLast? hl))
  exact isDigitChar_ascii _ hl128

/-! ## query= (pairs / mapping) → `url.query` -/

/-- `build(query=<sequence of (key, value)>)`: `url.query` yields exactly the pairs the argument denotes
    (ints by `str()`), in order — in BOTH modes (`encoded=True` as well: a non-string `query=` is always
    rendered by the library), with any other arguments. -/
theorem C06_build_query_readback_pairs (e : Env) (a : BuildArgs) (v : Url) (h : build e a = .ok v)
    (items : List (Str × QItem)) (ps : List (Str × Str)) (hq : a.query = .pairs items) (hne : items ≠ [])
    (hs : SingleValued items) (hx : expandItems items = some ps) (hg : GoodPairs ps) :
    queryPairs v = ps ∧ v.query = QueryUrl.qtext e.b ps := by
  refine build_query_rendered e a v h ps (by rw [hq]; simpa [qargTruthy] using hne) ?_ hg
  rw [hq]
  exact QueryUrl.getStrQuery_pairs e.b items ps hs hx

/-- `build(query=<mapping>)`: list/tuple values expand to repeated keys -/
theorem C06_build_query_readback_mapping (e : Env) (a : BuildArgs) (v : Url) (h : build e a = .ok v)
    (items : List (Str × QItem)) (ps : List (Str × Str)) (hq : a.query = .mapping items) (hne : items ≠ [])
    (hx : expandItems items = some ps) (hg : GoodPairs ps) :
    queryPairs v = ps ∧ v.query = QueryUrl.qtext e.b ps := by
  refine build_query_rendered e a v h ps (by rw [hq]; simpa [qargTruthy] using hne) ?_ hg
  rw [hq]
  exact QueryUrl.getStrQuery_mapping e.b items ps hx

/-- a non-empty sequence of string pairs reads back unchanged -/
theorem C06_build_query_readback (e : Env) (a : BuildArgs) (v : Url) (h : build e a = .ok v)
    (ps : List (Str × Str)) (hq : a.query = .pairs (strItems ps)) (hne : ps ≠ [])
    (hps : ∀ p ∈ ps, PyStr p.1 ∧ NoSurrogate p.1 ∧ PyStr p.2 ∧ NoSurrogate p.2) :
    queryPairs v = ps := by
  have hne' : strItems ps ≠ [] := by
    cases ps with
    | nil => exact absurd rfl hne
    | cons _ _ => simp [strItems]
  exact (C06_build_query_readback_pairs e a v h (strItems ps) ps hq hne' (QueryUrl.singleValued_strItems ps)
    (QueryUrl.expandItems_strItems ps) (fun p hp => ⟨⟨(hps p hp).1, (hps p hp).2.1⟩, (hps p hp).2.2⟩)).1

/-! ## query_string= → `raw_query_string`, `query_string`, `query` -/

/-- the quoter-level fact: a query STRING is not a decoded value — `QUERY_QUOTER` keeps '+' (and '=' '&' ';')
    literal and writes ' ' as '+', `QS_UNQUOTER` reads every literal '+' as a space.  Everything else
    ('%', '=', '&', ';', non-ASCII, delimiters) comes back unchanged. -/
theorem C06_build_qs_quoter_level (b : Backend) (t : Str) (ht : PyStr t) (hn : NoSurrogate t) :
    Gen.QS_UNQUOTER.run b (Gen.QUERY_QUOTER.run b t) = plusToSpace t := by
  have hmem := mem_QUERY_QUOTER
  rw [QsLemmas.run_eq_cOut _ hmem b t ht, QsLemmas.stripSurr_id t hn]
  show unquote b (Gen.QS_UNQUOTER.tab b) _ = _
  rw [Readback.unquote_eq_uqLoop, Readback.uqLoop_cOut_any b _ _ (gen_tab_wf _ hmem b) (by cases b <;> rfl) t ht hn, plusToSpace,
    List.map_eq_flatMap]
  congr 1
  funext c
  simp only [uqPlain_QS_UNQUOTER, uqEmit_QS_UNQUOTER]
  have hqs : (Gen.QUERY_QUOTER.tab b).qs = true := by cases b <;> rfl
  -- ' ' was written as '+', which reads as ' '; the four delimiters are literal for QUERY_QUOTER, so none is emitted
  by_cases h : c = 32 ∨ c = 43 ∨ c = 61 ∨ c = 38 ∨ c = 59
  · rcases h with rfl | rfl | rfl | rfl | rfl <;> cases b <;> decide +kernel
  · simp only [not_or] at h
    simp [hqs, h]

/-- `build(query_string=s)` (no truthy `query=`; `encoded=False`): the stored query is `QUERY_QUOTER(s)`,
    `url.query` is `parse_qsl` of that, and `url.query_string` is `s` WITH EVERY '+' REPLACED BY A SPACE. -/
theorem C06_build_query_string_readback (e : Env) (a : BuildArgs) (v : Url) (h : build e a = .ok v)
    (henc : a.encoded = false) (hq : qargTruthy a.query = false)
    (hs : PyStr a.queryString) (hn : NoSurrogate a.queryString) :
    v.query = q e Gen.QUERY_QUOTER a.queryString ∧
    queryPairs v = parseQsl (q e Gen.QUERY_QUOTER a.queryString) ∧
    queryString e v = plusToSpace a.queryString := by
  have hv := (build_query_shape h).2 hq
  have hnil : q e Gen.QUERY_QUOTER [] = [] := Gen.QUERY_QUOTER.run_nil e.b
  have hv' : v.query = q e Gen.QUERY_QUOTER a.queryString := by
    rw [hv]
    by_cases h0 : a.queryString = []
    · rw [if_neg (by simp [h0]), h0, hnil]
    · rw [if_pos ⟨henc, h0⟩]
  refine ⟨hv', by unfold queryPairs; rw [hv'], ?_⟩
  unfold queryString
  rw [hv']
  by_cases h0 : a.queryString = []
  · rw [h0, hnil]; rfl
  · have hne := quoter_ne_nil Gen.QUERY_QUOTER mem_QUERY_QUOTER (by decide +kernel) e.b a.queryString hs hn h0
    have : (q e Gen.QUERY_QUOTER a.queryString).isEmpty = false := isEmpty_false hne
    simp only [this, Bool.not_false, if_true]
    exact C06_build_qs_quoter_level e.b a.queryString hs hn

theorem BuildMore.plusToSpace_noplus {s : Str} (h43 : 43 ∉ s) : plusToSpace s = s := by
  unfold plusToSpace
  conv => rhs; rw [← List.map_id s]
  exact List.map_congr_left fun c hc => if_neg fun (hc43 : c = 43) => h43 (hc43 ▸ hc)

/-- a query string without '+' reads back unchanged -/
theorem C06_build_query_string_readback_noplus (e : Env) (a : BuildArgs) (v : Url) (h : build e a = .ok v)
    (henc : a.encoded = false) (hq : qargTruthy a.query = false)
    (hs : PyStr a.queryString) (hn : NoSurrogate a.queryString) (h43 : 43 ∉ a.queryString) :
    queryString e v = a.queryString := by
  rw [(C06_build_query_string_readback e a v h henc hq hs hn).2.2]
  exact plusToSpace_noplus h43

/-- `encoded=True`: the query string is stored verbatim (`url.query_string` is then `QS_UNQUOTER` of it) -/
theorem C06_build_query_string_encoded (e : Env) (a : BuildArgs) (v : Url) (h : build e a = .ok v)
    (henc : a.encoded = true) (hq : qargTruthy a.query = false) :
    v.query = a.queryString := by
  rw [(build_query_shape h).2 hq, if_neg (by simp [henc])]

/-- COUNTEREXAMPLE to "`build(query_string=s).query_string == s`": `URL.build(host="h",
    query_string="a+b").query_string == "a b"`, on both backends (the raw query is "a+b") -/
theorem C06_build_query_string_plus_counterexample (b : Backend) :
    ∃ v, build ⟨b, Oracles.empty⟩ { host := "h".toStr, queryString := "a+b".toStr } = .ok v ∧
      v.query = "a+b".toStr ∧ queryString ⟨b, Oracles.empty⟩ v = "a b".toStr ∧
      queryString ⟨b, Oracles.empty⟩ v ≠ "a+b".toStr := by
  refine ⟨fromParts [] "h".toStr [] "a+b".toStr [], ?_, rfl, ?_, ?_⟩
  · cases b <;> decide +kernel
  · cases b <;> decide +kernel
  · cases b <;> decide +kernel

/-! ## non-vacuity -/

namespace BuildMore
/-- user "u:@%é ", password "p:@%€/", upper-case host, a port, query pairs with ' ' 'é' '+' '&' '=' '%' and an
    empty pair -/
def exA : BuildArgs :=
  { scheme := "http".toStr, user := some [117, 58, 64, 37, 233, 32],
    password := some [112, 58, 64, 37, 0x20AC, 47],
    host := "Example.COM".toStr, port := some 8080, path := "/p".toStr,
    query := .pairs (strItems [([107, 32, 233], [118, 43, 38, 61, 37]), ([], [])]) }
def exAUrl : Url :=
  fromParts "http".toStr "u%3A%40%25%C3%A9%20:p%3A%40%25%E2%82%AC%2F@example.com:8080".toStr "/p".toStr
    "k+%C3%A9=v%2B%26%3D%25&=".toStr []
/-- an IDNA decoder that maps every name to itself -/
def oId : Oracles := { Oracles.empty with idnaDec := fun s => some (some s) }
theorem exA_ok (b : Backend) : build ⟨b, o0⟩ exA = .ok exAUrl ∧ build ⟨b, oId⟩ exA = .ok exAUrl := by
  unfold exA exAUrl
  str_lits
  cases b <;> exact ⟨by decide +kernel, by decide +kernel⟩
def exQ : BuildArgs := { host := "h1".toStr, queryString := [97, 43, 98, 32, 37, 61, 38, 59, 233] }
def exQUrl : Url := fromParts [] "h1".toStr [] "a+b+%25=&;%C3%A9".toStr []
theorem exQ_ok (b : Backend) : build ⟨b, o0⟩ exQ = .ok exQUrl := by
  unfold exQ exQUrl
  str_lits
  cases b <;> decide +kernel
/-- IPv6 literal with a zone id, empty password and no user (netloc ":@[fe80::1%Eth0]") -/
def ex6 : BuildArgs := { scheme := "http".toStr, host := "FE80::1%Eth0".toStr, password := some [] }
def ex6Url : Url := fromParts "http".toStr ":@[fe80::1%Eth0]".toStr [] [] []
theorem ex6_ok (b : Backend) : build ⟨b, o0⟩ ex6 = .ok ex6Url := by
  unfold ex6 ex6Url
  str_lits
  cases b <;> decide +kernel
/-- IPv4 literal, empty user and a password (netloc ":x@10.0.0.1") -/
def ex4 : BuildArgs := { scheme := "http".toStr, host := "10.0.0.1".toStr, user := some [], password := some "x".toStr }
def ex4Url : Url := fromParts "http".toStr ":x@10.0.0.1".toStr [] [] []
theorem ex4_ok (b : Backend) : build ⟨b, o0⟩ ex4 = .ok ex4Url := by
  unfold ex4 ex4Url
  str_lits
  cases b <;> decide +kernel
theorem exA_last : ∀ l, exA.host.getLast? = some l → isDigitC l = false := by
  intro l hl
  have : exA.host.getLast? = some 77 := by decide +kernel
  rw [this] at hl; cases hl; decide +kernel
end BuildMore

-- (a), (b): user and password with ':' '@' '%' non-ASCII and a space read back
example (b : Backend) : user ⟨b, o0⟩ exAUrl = .ok (some [117, 58, 64, 37, 233, 32]) :=
  C06_build_user_readback _ exA _ (exA_ok b).1 rfl rfl (by decide +kernel) _ rfl (by decide +kernel) (by decide +kernel) (by decide +kernel)
example (b : Backend) : password ⟨b, o0⟩ exAUrl = .ok (some [112, 58, 64, 37, 0x20AC, 47]) :=
  C06_build_password_readback _ exA _ (exA_ok b).1 rfl rfl (by decide +kernel)
    (by intro s hs; cases hs; decide +kernel) _ rfl (by decide +kernel) (by decide +kernel)
-- the empty password is kept (""), the absent user is None; the empty user is None
example (b : Backend) : password ⟨b, o0⟩ ex6Url = .ok (some []) ∧ user ⟨b, o0⟩ ex6Url = .ok none :=
  ⟨C06_build_password_readback _ ex6 _ (ex6_ok b) rfl rfl (by decide +kernel) (by intro s hs; cases hs) _ rfl
      (by decide +kernel) (by decide +kernel),
   C06_build_user_none _ ex6 _ (ex6_ok b) rfl rfl (by decide +kernel) (Or.inl rfl)⟩
example (b : Backend) : user ⟨b, o0⟩ ex4Url = .ok none ∧ password ⟨b, o0⟩ ex4Url = .ok (some "x".toStr) :=
  ⟨C06_build_user_none _ ex4 _ (ex4_ok b) rfl rfl (by decide +kernel) (Or.inr rfl),
   C06_build_password_readback _ ex4 _ (ex4_ok b) rfl rfl (by decide +kernel)
     (by intro s hs; cases hs; decide +kernel) _ rfl (by decide +kernel) (by decide +kernel)⟩
-- (c): the upper-case host reads back lower-cased (raw: no oracle; decoded: the IDNA decoder answers the name)
example (b : Backend) : rawHost ⟨b, o0⟩ exAUrl = .ok (some "example.com".toStr) := by
  str_lits
  exact (C06_build_host_readback_lower _ exA _ (exA_ok b).1 rfl rfl (by decide +kernel) (by decide +kernel)
    (Or.inr ⟨by decide +kernel, exA_last⟩)).1
example (b : Backend) : host ⟨b, oId⟩ exAUrl = .ok (some "example.com".toStr) := by
  str_lits
  exact (C06_build_host_readback_lower _ exA _ (exA_ok b).2 rfl rfl (by decide +kernel) (by decide +kernel)
    (Or.inr ⟨by decide +kernel, exA_last⟩)).2 (fun _ => rfl)
-- a digit-ending lower-case name: no oracle needed
example (b : Backend) : host ⟨b, o0⟩ exQUrl = .ok (some "h1".toStr) :=
  (C06_build_host_readback _ exQ _ (exQ_ok b) rfl rfl (by decide +kernel) (by decide +kernel) (by decide +kernel)
    (Or.inl (by decide +kernel)) (by
      intro h
      exfalso
      rcases h with h | h
      · exact absurd (h 49 (by decide +kernel)) (by decide +kernel)
      · revert h; decide +kernel)).2
example (b : Backend) : host ⟨b, o0⟩ ex4Url = .ok (some "10.0.0.1".toStr) :=
  (C06_build_host_readback_ipv4 _ ex4 _ (ex4_ok b) rfl rfl [10, 0, 0, 1] (by decide +kernel)).2
example (b : Backend) : host ⟨b, o0⟩ ex6Url = .ok (some "fe80::1%Eth0".toStr) := by
  have := (C06_build_host_readback_ipv6 _ ex6 _ (ex6_ok b) rfl rfl [65152, 0, 0, 0, 0, 0, 0, 1]
    (by decide +kernel) (by decide +kernel)).2
  rw [this]
  str_lits
  decide +kernel
-- (d): the pairs read back
example (b : Backend) : queryPairs exAUrl = [([107, 32, 233], [118, 43, 38, 61, 37]), ([], [])] :=
  C06_build_query_readback ⟨b, o0⟩ exA _ (exA_ok b).1 _ rfl (by decide +kernel) (by decide +kernel)
-- (e): '+' and ' ' both come back as ' ', everything else unchanged
example (b : Backend) : queryString ⟨b, o0⟩ exQUrl = [97, 32, 98, 32, 37, 61, 38, 59, 233] :=
  (C06_build_query_string_readback _ exQ _ (exQ_ok b) rfl rfl (by decide +kernel) (by decide +kernel)).2.2


end BuildPart

section PathPart
open Yarl.PathLemmas Yarl.PathAlg Yarl.PathMore Yarl.DecLemmas

/-! ## with_path / build(path=) / `/` for texts with '.' that are not dot segments, rootless with_path -/

namespace PathMore

theorem normalizePath_noDots (p : Str) (h : NoDots (splitOn 47 p)) : normalizePath p = p := by
  unfold normalizePath
  split
  · rename_i rest
    have : NoDots (splitOn 47 rest) := by
      intro s hs
      apply h
      simp [splitOn, hs]
    rw [normalizePathSegments_noDots _ this, joinC_splitOn]
  · rw [normalizePathSegments_noDots _ h, joinC_splitOn]

/-- the text has no dot segment ⟹ its quoted form has none -/
theorem noDots_q (e : Env) (s : Str) (hs : PyStr s) (hn : NoSurrogate s) (h : NoDots (splitOn 47 s)) :
    NoDots (splitOn 47 (q e Gen.PATH_QUOTER s)) := by
  rw [splitOn_q e s hs]
  exact noDots_map_q e _ (fun x hx => pyStr_seg hs hx) (fun x hx => noSurr_seg hn hx) h

/-- the normalisation guard of with_path / build is the identity on a quoted text without dot segments -/
theorem guard_id (e : Env) (t : Str) (ht : PyStr t) (hn : NoSurrogate t) (h : NoDots (splitOn 47 t)) :
    (if mem 46 (q e Gen.PATH_QUOTER t) then normalizePath (q e Gen.PATH_QUOTER t) else q e Gen.PATH_QUOTER t)
      = q e Gen.PATH_QUOTER t := by
  split
  · exact normalizePath_noDots _ (noDots_q e t ht hn h)
  · rfl

/-- `C06_readback_path` in the `uq e` / `q e` spelling, for rewriting -/
theorem uqP_q (e : Env) (t : Str) (ht : PyStr t) (hn : NoSurrogate t) :
    uq e Gen.PATH_UNQUOTER (q e Gen.PATH_QUOTER t) = t := C06_readback_path e.b t ht hn

theorem pyStr_cons47 {t : Str} (ht : PyStr t) : PyStr (47 :: t) :=
  List.forall_mem_cons.2 ⟨by decide +kernel, ht⟩

theorem noSurr_cons47 {t : Str} (ht : NoSurrogate t) : NoSurrogate (47 :: t) :=
  List.forall_mem_cons.2 ⟨by decide +kernel, ht⟩

theorem q_cons47 (e : Env) (t : Str) (ht : PyStr t) :
    q e Gen.PATH_QUOTER (47 :: t) = 47 :: q e Gen.PATH_QUOTER t :=
  C06_path_quoter_slash e.b t (pyStr_cons47 ht)

theorem pathDecoded_ne (e : Env) (w : Url) (h : w.path ≠ []) : pathDecoded e w = uq e Gen.PATH_UNQUOTER w.path := by
  unfold pathDecoded
  have : w.path.isEmpty = false := by simpa using h
  simp [this]

/-- a stored path that is the quoted non-empty text `t` decodes to `t` -/
theorem pathDecoded_q (e : Env) (w : Url) (t : Str) (ht : PyStr t) (hn : NoSurrogate t) (h0 : t ≠ [])
    (hw : w.path = q e Gen.PATH_QUOTER t) : pathDecoded e w = t := by
  rw [pathDecoded_ne e w (hw ▸ C13_path_quoter_nonempty e t ht hn h0), hw, uqP_q e t ht hn]

theorem ensureSlash_rootless {p : Str} (h0 : p ≠ []) (hh : p.head? ≠ some 47) : ensureSlash p = 47 :: p := by
  obtain ⟨c, r, rfl⟩ := List.exists_cons_of_ne_nil h0
  have hc : c ≠ 47 := by simpa using hh
  unfold ensureSlash
  split
  next heq => cases heq
  next tl heq => exact absurd (List.cons.inj heq).1 hc
  next => rfl

/-- rooting a path (`with_path` roots its argument before `normalize_path`, fix 7cae68c) adds no dot segment -/
theorem noDots_rooted {p : Str} (h : NoDots (splitOn 47 p)) : NoDots (splitOn 47 (rooted p)) := by
  unfold rooted
  split
  · exact h
  · intro s hs
    simp only [splitOn, if_true, List.mem_cons] at hs
    rcases hs with rfl | hs
    · exact ⟨by decide +kernel, by decide +kernel⟩
    · exact h s hs

/-- the closing `ensureSlash` of `with_path` sees the same thing with or without the rooting -/
theorem ensureSlash_rooted {p : Str} (h : p ≠ []) : ensureSlash (rooted p) = ensureSlash p := by
  cases p with
  | nil => exact absurd rfl h
  | cons c r =>
    by_cases hc : c = 47
    · subst hc; rfl
    · rw [rooted_of_ne47 r hc, ensureSlash_rootless h (by simpa using hc)]
      rfl

end PathMore

/-- a text without '.' has no dot segment -/
theorem PathMore.noDots_splitOn {X : Str} (h : 46 ∉ X) : NoDots (splitOn 47 X) :=
  noDots_of_no_dot _ fun s hs h46 => h (splitOn_sub 47 X s hs 46 h46)

/-- `with_path` read-back with the side condition where the library looks: on the QUOTED text (no dot segment when there
    is an authority).  It follows from "no dot segment in `t`" (`noDots_q`) as well as from "no '.' in the quoted text"
    (`noDots_splitOn`). -/
theorem PathMore.with_path_readback_gen (e : Env) (u : Url) (t : Str) (kq kf : Bool) (ht : PyStr t)
    (hn : NoSurrogate t) (hnd : u.netloc = [] ∨ NoDots (splitOn 47 (q e Gen.PATH_QUOTER t))) :
    pathDecoded e (withPath e u t false kq kf) =
      (if t = [] then (if u.netloc = [] then [] else [47]) else if t.head? = some 47 then t else 47 :: t) := by
  -- the stored path is `ensureSlash` of the quoted text: rooting first (fix 7cae68c) and normalising change nothing
  have hW : withPath e u t false kq kf = fromParts u.scheme u.netloc (ensureSlash (q e Gen.PATH_QUOTER t))
      (if kq then u.query else []) (if kf then u.fragment else []) := by
    have hE : ensureSlash (if (!u.netloc.isEmpty && mem 46 (q e Gen.PATH_QUOTER t)) = true
          then normalizePath (rooted (q e Gen.PATH_QUOTER t)) else q e Gen.PATH_QUOTER t) =
        ensureSlash (q e Gen.PATH_QUOTER t) := by
      by_cases hc : (!u.netloc.isEmpty && mem 46 (q e Gen.PATH_QUOTER t)) = true
      · rw [if_pos hc]
        simp only [Bool.and_eq_true, Bool.not_eq_eq_eq_not, Bool.not_true] at hc
        have hnl : u.netloc ≠ [] := by intro h0; rw [h0] at hc; simp at hc
        have hq := hnd.resolve_left hnl
        have hQne : q e Gen.PATH_QUOTER t ≠ [] := by intro h0; rw [h0] at hc; simp [mem] at hc
        rw [normalizePath_noDots _ (noDots_rooted hq)]
        exact ensureSlash_rooted hQne
      · rw [if_neg hc]
    rw [withPath_eq, hE]
  rw [hW]
  cases t with
  | nil =>
    rw [q_path_nil]
    simp only [if_true]
    unfold pathDecoded fromParts ensureSlash
    by_cases hnl : u.netloc = [] <;> simp [hnl]
  | cons c r =>
    simp only [List.cons_ne_nil, if_false, List.head?_cons, Option.some.injEq]
    by_cases hc : c = 47
    · subst hc
      rw [if_pos rfl]
      exact pathDecoded_q e _ _ ht hn (by simp) (by rw [q_cons47 e r (pyStr_cons ht)]; rfl)
    · rw [if_neg hc]
      refine pathDecoded_q e _ _ (pyStr_cons47 ht) (noSurr_cons47 hn) (by simp) ?_
      rw [q_cons47 e _ ht]
      exact ensureSlash_rootless (C13_path_quoter_nonempty e _ ht hn (by simp))
        (q_path_head e _ ht hn (by simpa using hc))

/-- `with_path(t)` (any `keep_query` / `keep_fragment`) for a Python string `t` without lone surrogates and — under
    an authority — without dot segments ('.' inside a segment is fine: "/a.b/c.txt"): `.path` is `t` when `t` is
    rooted, `"/" + t` when it is ROOTLESS and non-empty (the library prepends the slash, with or without an
    authority), and the empty path reads back as "" without and "/" with an authority. -/
theorem C06_with_path_readback_nodots (e : Env) (u : Url) (t : Str) (kq kf : Bool) (ht : PyStr t)
    (hn : NoSurrogate t) (hnd : u.netloc = [] ∨ NoDots (splitOn 47 t)) :
    pathDecoded e (withPath e u t false kq kf) =
      (if t = [] then (if u.netloc = [] then [] else [47]) else if t.head? = some 47 then t else 47 :: t) ∧
    (withPath e u t false kq kf).query = (if kq then u.query else []) ∧
    (withPath e u t false kq kf).fragment = (if kf then u.fragment else []) :=
  ⟨with_path_readback_gen e u t kq kf ht hn (hnd.imp id (noDots_q e t ht hn)), rfl, rfl⟩

theorem C06_with_path_readback (e : Env) (u : Url) (t : Str) (ht : PyStr t) (hn : NoSurrogate t)
    (hnet : u.netloc = [] ∨ 46 ∉ Gen.PATH_QUOTER.run e.b t) (hroot : t.head? = some 47) :
    pathDecoded e (withPath e u t false false false) = t := by
  rw [with_path_readback_gen e u t false false ht hn (hnet.imp id noDots_splitOn),
    if_neg (by rintro rfl; simp at hroot), if_pos hroot]

/-- the library accepts a rootless text and stores it ROOTED: `URL("http://h").with_path("a.b/c").path == "/a.b/c"`
    (also without an authority: `URL("x:").with_path("a").path == "/a"`), so "reads back unchanged" is false for
    rootless texts — the exact read-back is `"/" + t` -/
theorem C06_with_path_readback_rootless (e : Env) (u : Url) (t : Str) (kq kf : Bool) (ht : PyStr t)
    (hn : NoSurrogate t) (hnd : u.netloc = [] ∨ NoDots (splitOn 47 t)) (h0 : t ≠ []) (hr : t.head? ≠ some 47) :
    pathDecoded e (withPath e u t false kq kf) = 47 :: t ∧ pathDecoded e (withPath e u t false kq kf) ≠ t := by
  have := (C06_with_path_readback_nodots e u t kq kf ht hn hnd).1
  rw [if_neg h0, if_neg hr] at this
  refine ⟨this, ?_⟩
  rw [this]
  intro h
  have := congrArg List.length h
  simp at this

/-- `with_path` for a rooted text with '.' inside segments under an authority -/
theorem C06_with_path_readback_rooted (e : Env) (u : Url) (t : Str) (kq kf : Bool) (ht : PyStr t)
    (hn : NoSurrogate t) (hnd : u.netloc = [] ∨ NoDots (splitOn 47 t)) (hr : t.head? = some 47) :
    pathDecoded e (withPath e u t false kq kf) = t := by
  have := (C06_with_path_readback_nodots e u t kq kf ht hn hnd).1
  have h0 : t ≠ [] := by rintro rfl; simp at hr
  rw [if_neg h0, if_pos hr] at this
  exact this

namespace PathMore
/-- what `build(encoded=False)` stores as path: the quoted text, normalised when an authority is present and a '.'
    occurs -/
theorem build_shape2 (e : Env) (a : BuildArgs) (v : Url) (h : build e a = .ok v) (henc : a.encoded = false) :
    v.path = (if a.path.isEmpty then a.path else q e Gen.PATH_QUOTER a.path) ∨
      (v.netloc ≠ [] ∧ v.path = normalizePath (q e Gen.PATH_QUOTER a.path)) :=
  (DecLemmas.build_path_shape e a v h henc).2.imp id fun ⟨h1, _, h3⟩ => ⟨h1, h3⟩
end PathMore

/-- the same for `build(path=)`: side condition on the quoted text -/
theorem PathMore.build_path_readback_gen (e : Env) (a : BuildArgs) (v : Url) (h : build e a = .ok v)
    (henc : a.encoded = false) (hp : PyStr a.path) (hn : NoSurrogate a.path) (hne : a.path ≠ [])
    (hdot : v.netloc = [] ∨ NoDots (splitOn 47 (q e Gen.PATH_QUOTER a.path))) :
    pathDecoded e v = a.path := by
  apply pathDecoded_q e v _ hp hn hne
  rcases build_shape2 e a v h henc with h1 | ⟨h1, h2⟩
  · rw [h1]; simp [hne]
  · rw [h2, normalizePath_noDots _ (hdot.resolve_left h1)]

/-- `build(path=t)` for a non-empty `t` with '.' inside segments (no dot SEGMENT) under an authority -/
theorem C06_build_path_readback_nodots (e : Env) (a : BuildArgs) (v : Url) (h : build e a = .ok v)
    (henc : a.encoded = false) (hp : PyStr a.path) (hn : NoSurrogate a.path) (hne : a.path ≠ [])
    (hdot : v.netloc = [] ∨ NoDots (splitOn 47 a.path)) :
    pathDecoded e v = a.path :=
  build_path_readback_gen e a v h henc hp hn hne (hdot.imp id (noDots_q e _ hp hn))

theorem C06_build_path_readback (e : Env) (a : BuildArgs) (v : Url) (h : build e a = .ok v)
    (henc : a.encoded = false) (hp : PyStr a.path) (hn : NoSurrogate a.path) (hne : a.path ≠ [])
    (hdot : v.netloc = [] ∨ 46 ∉ Gen.PATH_QUOTER.run e.b a.path) :
    pathDecoded e v = a.path :=
  build_path_readback_gen e a v h henc hp hn hne (hdot.imp id noDots_splitOn)

/-- `C06_with_path_readback`: its `46 ∉ quoted` hypothesis follows from `46 ∉ t` (`C13_path_quoter_no_dot`) -/
example (e : Env) : pathDecoded e (withPath e DecLemmas.exU DecLemmas.sampleDecoded false false false)
    = DecLemmas.sampleDecoded :=
  C06_with_path_readback e _ _ (by decide +kernel) (by decide +kernel)
    (Or.inr (C13_path_quoter_no_dot e _ (by decide +kernel) (by decide +kernel))) (by decide +kernel)
/-! ## `/` and joinpath: segments with '.', texts with '/', several arguments; through name, parts, path -/

/-- `u / s` for ONE segment that may contain '.' (only "." and ".." are excluded) -/
theorem C06_child_name_readback_dots (e : Env) (u : Url) (s : Str) (v : Url)
    (hs : PyStr s) (hsur : NoSurrogate s) (h47 : 47 ∉ s) (hne : s ≠ []) (hdot : s ≠ dot ∧ s ≠ dotdot)
    (hold : u.netloc ≠ [] → NoDots (splitOn 47 u.path))
    (hpath : u.netloc ≠ [] → (u.path = [] ∨ u.path.head? = some 47)) :
    makeChild e u [s] false = .ok v → name e v = .ok s :=
  fun h => (C13_child_name_decoded e u s v hs hsur h47 hne hdot hold hpath h).1

namespace PathMore
theorem root_append_right (n : Str) (A B : List Str) (hA : A ≠ []) : root n (A ++ B) = root n A ++ B := by
  obtain ⟨a, A', rfl⟩ := List.exists_cons_of_ne_nil hA
  by_cases hn : n = [] <;> by_cases ha : a = [] <;> simp [root, hn, ha]

theorem base_ne_nil (u : Url) (h : u.path ≠ []) : base u ≠ [] := by
  unfold base
  have : u.path.isEmpty = false := by simpa using h
  simp only [this, Bool.false_eq_true, if_false]
  obtain ⟨S, l, hS⟩ : ∃ S l, splitOn 47 u.path = S ++ [l] := by
    rcases List.eq_nil_or_concat (splitOn 47 u.path) with h' | ⟨a, b, h'⟩
    · exact absurd h' (splitOn_ne_nil _ _)
    · exact ⟨a, b, by simpa using h'⟩
  rw [hS, stripTrail_snoc]
  split
  · rename_i hl
    intro hS0
    apply h
    have := joinC_splitOn (c := 47) u.path
    rw [hS, hS0, hl] at this
    exact this.symm
  · simp

theorem uqP_slash (e : Env) : uq e Gen.PATH_UNQUOTER [47] = [47] := by
  have : ∀ b : Backend, Gen.PATH_UNQUOTER.run b [47] = [47] := fun b => by cases b <;> decide +kernel
  exact this e.b
end PathMore

/-- `u / s` (`u.joinpath(s)`) for a text `s` that may contain '/' and '.', no dot SEGMENT: the segments of `s` read
    back through `parts`, its last segment through `name`, and through `path`:
    the old decoded path without ONE trailing slash, then "/" and `s` -/
theorem C06_child_slash_readback (e : Env) (u : Url) (s : Str) (v : Url) (hs : PyStr s) (hsur : NoSurrogate s)
    (hnd : u.netloc ≠ [] → NoDots (splitOn 47 u.path) ∧ NoDots (splitOn 47 s))
    (hq : u.netloc ≠ [] → u.path = [] → s ≠ [])
    (hpath : u.netloc ≠ [] → (u.path = [] ∨ u.path.head? = some 47)) :
    makeChild e u [s] false = .ok v →
      partsDecoded e v = (stripTrail (rawParts u)).map (uq e Gen.UNQUOTER) ++ splitOn 47 s ∧
      name e v = .ok ((splitOn 47 s).getLast?.getD []) ∧
      pathDecoded e v =
        (if u.path = [] then (if u.netloc = [] then s else 47 :: s)
         else (if u.path.getLast? = some 47 then (pathDecoded e u).dropLast else pathDecoded e u) ++ 47 :: s) := by
  intro h
  obtain ⟨hv, _, _, _, hparts, hname⟩ := C13_child_slash e u s v hs hsur hnd hq hpath h
  refine ⟨hparts, hname, ?_⟩
  have hX0 : (splitOn 47 s).map (q e Gen.PATH_QUOTER) ≠ [] := by simp [splitOn_ne_nil]
  have hjX : joinC 47 ((splitOn 47 s).map (q e Gen.PATH_QUOTER)) = q e Gen.PATH_QUOTER s := by
    rw [← splitOn_q e s hs, joinC_splitOn]
  have hvp : v.path = joinC 47 (root u.netloc (base u ++ (splitOn 47 s).map (q e Gen.PATH_QUOTER))) := by
    rw [hv, childOf_false]; rfl
  have hs0 := heads_of_ok e u [s] false v h s (by simp)
  by_cases hp : u.path = []
  · rw [if_pos hp]
    have hb : base u = [] := by simp [base, hp]
    rw [hb, List.nil_append] at hvp
    by_cases hn : u.netloc = []
    · rw [if_pos hn]
      rw [hn, show ∀ L, root [] L = L from fun L => rfl, hjX] at hvp
      by_cases hs' : s = []
      · subst hs'
        have : v.netloc = [] := by rw [hv, childOf_false]; exact hn
        simp [pathDecoded, hvp, q_path_nil, this]
      · exact pathDecoded_q e v s hs hsur hs' hvp
    · rw [if_neg hn]
      have hs' := hq hn hp
      have hh := q_path_head e s hs hsur hs0
      have hhead : ((splitOn 47 s).map (q e Gen.PATH_QUOTER)).head? ≠ some [] := by
        rw [← splitOn_q e s hs]
        rcases splitOn_head _ hh with h1 | h1
        · exact h1
        · exfalso
          have := joinC_splitOn (c := 47) (q e Gen.PATH_QUOTER s)
          rw [h1] at this
          exact C13_path_quoter_nonempty e s hs hsur hs' this.symm
      have hr : root u.netloc ((splitOn 47 s).map (q e Gen.PATH_QUOTER)) =
          [] :: (splitOn 47 s).map (q e Gen.PATH_QUOTER) := by
        rw [root, if_pos (by simpa [hn, splitOn_ne_nil] using hhead)]
      rw [hr, joinC_cons, flatC_eq_joinC 47 _ hX0, hjX] at hvp
      refine pathDecoded_q e v _ (pyStr_cons47 hs) (noSurr_cons47 hsur) (by simp) ?_
      rw [hvp, q_cons47 e s hs]
      rfl
  · rw [if_neg hp]
    have hb0 := base_ne_nil u hp
    rw [root_append_right _ _ _ hb0, root_base u hpath, PathLemmas.joinC_append 47 _ _ hb0 hX0, hjX, joinC_base] at hvp
    have hup : pathDecoded e u = uq e Gen.PATH_UNQUOTER u.path := pathDecoded_ne e u hp
    rw [pathDecoded_ne e v (by rw [hvp]; simp), hvp, hup]
    rw [uq_split_slash e _ (by decide), ← q_cons47 e s hs, uqP_q e _ (pyStr_cons47 hs) (noSurr_cons47 hsur)]
    congr 1
    unfold dropSlash
    by_cases hl : u.path.getLast? = some 47
    · rw [if_pos hl, if_pos hl]
      obtain ⟨P', hP'⟩ := List.getLast?_eq_some_iff.1 hl
      rw [hP', List.dropLast_concat, uq_split_slash e _ (by decide), uqP_slash, List.dropLast_concat]
    · rw [if_neg hl, if_neg hl]

namespace PathMore
theorem q_nil_iff (e : Env) (x : Str) (hx : PyStr x) (hn : NoSurrogate x) : q e Gen.PATH_QUOTER x = [] ↔ x = [] := by
  constructor
  · intro h
    apply Decidable.byContradiction
    intro h0
    exact C13_path_quoter_nonempty e x hx hn h0 h
  · rintro rfl; exact q_path_nil e

theorem stripTrail_map_q (e : Env) (L : List Str) (hp : ∀ x ∈ L, PyStr x) (hn : ∀ x ∈ L, NoSurrogate x) :
    stripTrail (L.map (q e Gen.PATH_QUOTER)) = (stripTrail L).map (q e Gen.PATH_QUOTER) := by
  unfold stripTrail
  rw [List.getLast?_map]
  cases hl : L.getLast? with
  | none => simp
  | some l =>
    have hm := List.mem_of_getLast? hl
    have := q_nil_iff e l (hp l hm) (hn l hm)
    by_cases h0 : l = []
    · subst h0
      simp [q_path_nil, List.map_dropLast]
    · have h1 : q e Gen.PATH_QUOTER l ≠ [] := fun h => h0 (this.1 h)
      simp [h0, h1]

theorem map_uq_q (e : Env) (L : List Str) (hp : ∀ x ∈ L, PyStr x) (hn : ∀ x ∈ L, NoSurrogate x) :
    (L.map (q e Gen.PATH_QUOTER)).map (uq e Gen.UNQUOTER) = L := by
  rw [List.map_map]
  conv => rhs; rw [← List.map_id L]
  apply List.map_congr_left
  intro x hx
  exact uq_q e x (hp x hx) (hn x hx)

/-- the quoted argument segments are the quoted verbatim argument segments -/
theorem argSegs_false_q (e : Env) : ∀ ps : List Str, (∀ p ∈ ps, PyStr p ∧ NoSurrogate p) →
    argSegs e false ps = (argSegs e true ps).map (q e Gen.PATH_QUOTER) := by
  intro ps
  induction ps with
  | nil => intro _; rfl
  | cons a ps ih =>
    intro h
    have ha := h a (by simp)
    have hseg1 : ∀ x ∈ splitOn 47 a, PyStr x := fun x hx => pyStr_seg ha.1 hx
    have hseg2 : ∀ x ∈ splitOn 47 a, NoSurrogate x := fun x hx => noSurr_seg ha.2 hx
    cases ps with
    | nil =>
      simp only [argSegs, argText, Bool.false_eq_true, if_false, if_true]
      rw [splitOn_q e a ha.1]
    | cons b r =>
      rw [argSegs, argSegs, List.map_append, ih (fun p hp => h p (List.mem_cons_of_mem _ hp))]
      congr 1
      simp only [argText, Bool.false_eq_true, if_false, if_true]
      rw [splitOn_q e a ha.1, stripTrail_map_q e _ hseg1 hseg2]

/-- decoding the quoted argument segments gives the verbatim argument segments -/
theorem argSegs_decoded (e : Env) (ps : List Str) (hps : ∀ p ∈ ps, PyStr p ∧ NoSurrogate p) :
    (argSegs e false ps).map (uq e Gen.UNQUOTER) = argSegs e true ps := by
  have hseg : ∀ x ∈ argSegs e true ps, PyStr x ∧ NoSurrogate x := by
    intro x hx
    obtain ⟨p, hp, hxp⟩ := mem_argSegs e true ps x hx
    exact ⟨pyStr_seg (hps p hp).1 hxp, noSurr_seg (hps p hp).2 hxp⟩
  rw [argSegs_false_q e ps hps]
  exact map_uq_q e _ (fun x hx => (hseg x hx).1) (fun x hx => (hseg x hx).2)
end PathMore

/-- `u.joinpath(a₁, …, aₙ)` for Python strings without lone surrogates and without dot segments: the decoded
    `parts` are the old decoded parts (without a trailing empty one) followed by the segments of the arguments AS
    GIVEN (`argSegs e true ps`: each argument split at '/', the trailing empty segment of a non-last one dropped);
    `name` is the last of them -/
theorem C06_joinpath_parts_readback (e : Env) (u : Url) (ps : List Str) (v : Url) (hne : ps ≠ [])
    (hps : ∀ p ∈ ps, PyStr p ∧ NoSurrogate p)
    (hnd : u.netloc ≠ [] → NoDots (splitOn 47 u.path) ∧ ∀ p ∈ ps, NoDots (splitOn 47 p))
    (hq : u.netloc ≠ [] → u.path = [] → ∃ p ∈ ps, p ≠ [])
    (hpath : u.netloc ≠ [] → (u.path = [] ∨ u.path.head? = some 47)) :
    makeChild e u ps false = .ok v →
      partsDecoded e v = (stripTrail (rawParts u)).map (uq e Gen.UNQUOTER) ++ argSegs e true ps ∧
      name e v = .ok ((argSegs e true ps).getLast?.getD []) := by
  intro h
  have hh := heads_of_ok e u ps false v h
  have hT : ∀ p ∈ ps, (argText e false p).head? ≠ some 47 :=
    fun p hp => q_path_head e p (hps p hp).1 (hps p hp).2 (hh p hp)
  obtain ⟨_, h1, h2, _⟩ := C13_joinpath_parts e u ps false v hne hT
    (by
      intro hn
      refine ⟨(hnd hn).1, fun p hp => ?_⟩
      exact noDots_q e p (hps p hp).1 (hps p hp).2 ((hnd hn).2 p hp))
    (by
      intro hn hp hc
      obtain ⟨p, hpm, hp0⟩ := hq hn hp
      have hqp : argText e false p ≠ [] := C13_path_quoter_nonempty e p (hps p hpm).1 (hps p hpm).2 hp0
      obtain ⟨x, hx, hx0⟩ := argSegs_nonempty_mem e false ps ⟨p, hpm, hT p hpm, hqp⟩
      rw [hc] at hx
      simp at hx
      exact hx0 hx)
    hpath h
  have hdec := argSegs_decoded e ps hps
  constructor
  · show (rawParts v).map _ = _
    rw [h1, List.map_append, hdec]
  · unfold name
    rw [h2]
    show Except.ok (uq e Gen.UNQUOTER _) = _
    congr 1
    rw [← hdec, List.getLast?_map]
    cases (argSegs e false ps).getLast? with
    | none => exact uq_nil e _
    | some l => rfl

/-! ## with_name with keep_query / keep_fragment -/

/-- `with_name(t, keep_query=kq, keep_fragment=kf)`: `.name` is `t`; query and fragment are kept or cleared as asked -/
theorem C06_with_name_readback_keep (e : Env) (u : Url) (t : Str) (kq kf : Bool) (v : Url)
    (ht : PyStr t) (hn : NoSurrogate t) :
    withName e u t kq kf = .ok v → name e v = .ok t ∧
      queryString e v = (if kq then queryString e u else []) ∧ queryPairs v = (if kq then queryPairs u else []) ∧
      fragmentDecoded e v = (if kf then fragmentDecoded e u else []) := by
  intro h
  obtain ⟨h1, _, hq, hf⟩ := C13_with_name_decoded e u t kq kf v ht hn h
  refine ⟨h1, ?_, ?_, ?_⟩
  · unfold queryString; rw [hq]; cases kq <;> rfl
  · unfold queryPairs; rw [hq]; cases kq <;> rfl
  · unfold fragmentDecoded; rw [hf]; cases kf <;> rfl

/-! ## non-vacuity -/

namespace PathMore
def exU1 : Url := fromParts "http".toStr "h".toStr "/x/y/".toStr "k=v".toStr "f".toStr
def exT1 : Str := "/a.b/c d.txt".toStr
def exB1 : BuildArgs := { scheme := "http".toStr, host := "h".toStr, path := "/a.b/..c/d.é".toStr }
end PathMore

example : PyStr exT1 ∧ NoSurrogate exT1 ∧ exT1.head? = some 47 ∧ 46 ∈ exT1 := by decide +kernel
example : NoDots (splitOn 47 exT1) ∧ NoDots (splitOn 47 "a.b/c".toStr) ∧ NoDots (splitOn 47 exB1.path) := by
  unfold exT1 exB1; str_lits; refine ⟨?_, ?_, ?_⟩ <;> (unfold NoDots; decide +kernel)
example : ∀ b : Backend, (withPath ⟨b, Oracles.empty⟩ exU1 exT1 false true false) =
    fromParts "http".toStr "h".toStr "/a.b/c%20d.txt".toStr "k=v".toStr [] := by
  unfold exU1 exT1; str_lits; intro b; cases b <;> decide +kernel
example : ∀ b : Backend, (withPath ⟨b, Oracles.empty⟩ exU1 "a.b/c".toStr false false false) =
    fromParts "http".toStr "h".toStr "/a.b/c".toStr [] [] := by
  unfold exU1; str_lits; intro b; cases b <;> decide +kernel
example : ∀ b : Backend, build ⟨b, Oracles.empty⟩ exB1 =
    .ok (fromParts "http".toStr "h".toStr "/a.b/..c/d.%C3%A9".toStr [] []) := by
  unfold exB1; str_lits; intro b; cases b <;> decide +kernel
example : ∀ b : Backend, makeChild ⟨b, Oracles.empty⟩ exU1 ["a.b/c d".toStr, "e/".toStr, "f.g".toStr] false =
    .ok (fromParts "http".toStr "h".toStr "/x/y/a.b/c%20d/e/f.g".toStr [] []) := by
  unfold exU1; str_lits; intro b; cases b <;> decide +kernel
example : argSegs ⟨.py, Oracles.empty⟩ true ["a.b/c d".toStr, "e/".toStr, "f.g".toStr] =
    ["a.b".toStr, "c d".toStr, "e".toStr, "f.g".toStr] := by decide +kernel
example : ∀ b : Backend, withName ⟨b, Oracles.empty⟩ exU1 "n.m".toStr true true =
    .ok (fromParts "http".toStr "h".toStr "/x/y/n.m".toStr "k=v".toStr "f".toStr) := by
  unfold exU1; str_lits; intro b; cases b <;> decide +kernel


end PathPart

end Yarl
