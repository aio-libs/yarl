import YarlProofs.C18More2
import YarlProofs.Lemmas.Basics
import YarlProofs.Lemmas.SpellPos
/-!
# C18More3 — C18 gap closing, third wave: the '%' escape and the non-printable escapes, UNIVERSALLY (GAPS 6, 10)

"Only characters that would change the parse in their position, '%' and non-printable characters are escaped."
C18More2.lean classified '%' on three witness texts and the non-printable characters on a sample, by computation with an
instrumented copy `R5.humanReprLit` of `human_repr()`.  Here the statements are universal.  Companion files:
C18More3b.lean (the '%' rule at URL level in BOTH directions), C18More3Join.lean (+ C18More3JoinB.lean: `join`, GAPS 2(e)),
C18More3Spell.lean (syntactic characterisation of the spelling conditions, GAPS 9).

Vocabulary (namespace `R12`; Lemmas/HumanLit.lean for one component, Lemmas/HumanShown.lean for the pieces of a URL).
`twoHex s`: `s` starts with two hex digits (either case).  `R5.humanQuoteLit o x uns lit`: `human_quote(x, unsafe=uns)`
with the characters selected by `lit` left literal.  `LitChars uns lit x`: every selected character of `x` is none of
TAB / LF / CR and not in `uns`.  `PctOK lit x`: no selected '%' of `x` is followed (in `x`) by two hex digits.
`LitOK = LitChars ∧ PctOK`.  `textsAt comp …`: the decoded texts in position `comp` ("user", "password", "path", "k", "v",
"fragment"); `LitSafeAt comp lit …`: `LitOK` for all of them (decidable).  `LitCompat t t' uns`: the table facts
(`gen_litCompat`).  The URL-level theorems are `HumanReach.StoresOK.roundtrip` (Lemmas/HumanStores.lean: the master
`HumanStores.roundtrip_shown` under `StoresOK`) for the way `R5.humanReprLit` shows a URL (`R12.litShower`, `R12.shownSpells_lit`).

Component level (requoter vs quoter of each position kind; both backends):
* `C18_percent_literal_iff` — ONE '%' of the decoded text `x ++ "%" ++ y` left literal: REQUOTER(shown) = QUOTER(decoded)
  IFF the '%' is not followed by two hex digits (`R12.cOut_one_pct_iff` at table level);
* `C18_percent_literal_all_iff` — every '%' (any admissible `lit`) left literal: … IFF `PctOK lit x`
  (`R12.cOut_lit_iff`; the two halves are `R12.cOut_lit_append` and `R12.cOut_lit_lt` — the requoted text is strictly
  SHORTER otherwise; `R12.query_lit_iff` for the whole query string, piece by piece: Lemmas/QueryGlue.lean);
* `C18_percent_literal_decoded` — decoded level, direction "not needed"; `C18_percent_literal_decoded_converse_fails` —
  the converse is FALSE at the decoded level ("%FF": the stored component differs, the decoded accessor does not).
URL level (`u` ANY URL with `StoresOK`; `R5.humanReprLit`):
* `C18_humanReprLit_none` — the instrumented copy IS `human_repr()` when nothing is literal, for every URL (GAPS 10);
* `C18_literal_roundtrip` — the general theorem: `LitSafeAt` ⟹ `URL(shown) == u`, and it stores the same components;
* `C18_nonprintable_literal_roundtrip` — EVERY set of non-printable characters other than TAB / LF / CR may be left literal
  in any position; `C18_tab_lf_cr_dropped` — the converse for TAB / LF / CR, for every input string;
* `C18_percent_literal_roundtrip` — the '%' rule, direction "not needed" (all six positions);
  `C18_percent_literal_url_iff` (C18More3b.lean) — both directions for path / k / v / fragment.
-/
namespace Yarl
open HumanLemmas HumanFull HumanMore HumanRelax QueryUrl QsLemmas NetlocLemmas PathAlg PathLemmas PathMore HumanReach
open OutLangLemmas R5 QueryGlue

open R12

/-! ## C18 GAPS 6 (i) — the '%' escape, UNIVERSALLY, at the level of the component quoter / requoter / unquoter -/

/-- "'%' … [is] escaped" — WHEN the escape is needed, for EVERY decoded text and every position kind.  The decoded
    text is `x ++ "%" ++ y` (any Python strings without lone surrogates); `X`, `Y` are what `human_quote` shows for `x`
    and `y` in the position; the text with THIS '%' left literal is `X ++ "%" ++ Y`.  The constructor's requoter of
    the position reads it as the encoding that `build` stores for the decoded text (so the re-parse is unchanged)
    IF AND ONLY IF the '%' is NOT followed by two hex digits in the decoded text (`R12.twoHex y = false`).  Positions:
    user / password (REQUOTER vs QUOTER), path (PATH_REQUOTER vs PATH_QUOTER), query key / value (QUERY_REQUOTER vs
    QUERY_PART_QUOTER), fragment (FRAGMENT_REQUOTER vs FRAGMENT_QUOTER); both backends (`e.b`). -/
theorem C18_percent_literal_iff (e : Env) (x y X Y : Str)
    (hx : PyStr x) (hxn : NoSurrogate x) (hy : PyStr y) (hyn : NoSurrogate y) :
    (∀ key, key = "user" ∨ key = "password" →
      humanQuote e.o x (humanUnsafeOf key) = .ok X → humanQuote e.o y (humanUnsafeOf key) = .ok Y →
      (q e Gen.REQUOTER (X ++ 37 :: Y) = q e Gen.QUOTER (x ++ 37 :: y) ↔ twoHex y = false)) ∧
    (humanQuote e.o x (humanUnsafeOf "path") = .ok X → humanQuote e.o y (humanUnsafeOf "path") = .ok Y →
      (q e Gen.PATH_REQUOTER (X ++ 37 :: Y) = q e Gen.PATH_QUOTER (x ++ 37 :: y) ↔ twoHex y = false)) ∧
    (∀ key, key = "k" ∨ key = "v" →
      humanQuote e.o x (humanUnsafeOf key) = .ok X → humanQuote e.o y (humanUnsafeOf key) = .ok Y →
      (q e Gen.QUERY_REQUOTER (X ++ 37 :: Y) = q e Gen.QUERY_PART_QUOTER (x ++ 37 :: y) ↔ twoHex y = false)) ∧
    (humanQuote e.o x (humanUnsafeOf "fragment") = .ok X → humanQuote e.o y (humanUnsafeOf "fragment") = .ok Y →
      (q e Gen.FRAGMENT_REQUOTER (X ++ 37 :: Y) = q e Gen.FRAGMENT_QUOTER (x ++ 37 :: y) ↔ twoHex y = false)) := by
  refine ⟨?_, ?_, ?_, ?_⟩
  · intro key hk hX hY
    have hl : humanUnsafeOf key = humanUnsafeOf "user" := by
      rcases hk with rfl | rfl
      · rfl
      · exact gen_same_lists.1
    rw [hl] at hX hY
    exact run_one_pct_iff Gen.REQUOTER Gen.QUOTER (by decide) (by decide) rfl rfl _ (fun b => (gen_litCompat b).1)
      e x y X Y hx hxn hy hyn hX hY
  · intro hX hY
    exact run_one_pct_iff Gen.PATH_REQUOTER Gen.PATH_QUOTER (by decide) (by decide) rfl rfl _
      (fun b => (gen_litCompat b).2.1) e x y X Y hx hxn hy hyn hX hY
  · intro key hk hX hY
    have hl : humanUnsafeOf key = humanUnsafeOf "k" := by
      rcases hk with rfl | rfl
      · rfl
      · exact gen_same_lists.2
    rw [hl] at hX hY
    exact run_one_pct_iff Gen.QUERY_REQUOTER Gen.QUERY_PART_QUOTER (by decide) (by decide) rfl rfl _
      (fun b => (gen_litCompat b).2.2.2) e x y X Y hx hxn hy hyn hX hY
  · intro hX hY
    exact run_one_pct_iff Gen.FRAGMENT_REQUOTER Gen.FRAGMENT_QUOTER (by decide) (by decide) rfl rfl _
      (fun b => (gen_litCompat b).2.2.1) e x y X Y hx hxn hy hyn hX hY

/-! ## URL level: `human_repr()` with characters left literal in one position -/

namespace R12

/-- the shape of the shown text -/
theorem lit_shape (e : Env) (u : Url) (user pw : Option Str) (H : Str) (port : Option Nat) (p : Str)
    (kvs : List (Str × Str)) (f : Str) (ok : StoresOK e u user pw H port p kvs f) (comp : String) (lit : Nat → Bool)
    (h D : Str) (hk : HostKind e h H D) (hr : Str) (hh : humanReprLit comp lit e u = .ok hr) :
    ∃ usr pw' rp qparts rf,
      humanQuoteLitOpt e.o user (humanUnsafeOf "user") (Lk comp lit "user") = .ok usr ∧
      humanQuoteLitOpt e.o pw (humanUnsafeOf "user") (Lk comp lit "password") = .ok pw' ∧
      humanQuoteLit e.o p (humanUnsafeOf "path") (Lk comp lit "path") = .ok rp ∧
      kvs.mapM (litPair e.o (Lk comp lit "k") (Lk comp lit "v")) = .ok qparts ∧
      humanQuoteLit e.o f (humanUnsafeOf "fragment") (Lk comp lit "fragment") = .ok rf ∧
      hr = composeUrl u.scheme (authText usr pw' D port) (47 :: rp) (joinC 38 qparts) rf := by
  have hrt := hk.rt
  obtain ⟨usr, pw', rp, qparts, rf, hq1, hq2, h1, h4, h2, rfl⟩ := showWith_shape (litShower e.o comp lit) e u user pw H D
    port p kvs f ok.st ok.vs.ne hrt.okH hrt.shown hrt.disp.ok.1 ok.hport ok.hu ok.hune ok.hw ok.hp ok.hn ok.hg ok.hf ok.hfn
    (fun r h1 => by
      obtain ⟨p0, rp, hp0, _, rfl⟩ := (humanQuoteLit_cons e.o _ _ 47 p r).mp h1
      rw [litChar_slash] at hp0
      cases hp0
      exact ⟨rp, rfl⟩) hr hh
  obtain ⟨p0, rp', hp0, hrp, e0⟩ := (humanQuoteLit_cons e.o _ _ 47 p (47 :: rp)).mp h1
  rw [litChar_slash] at hp0
  cases hp0
  obtain rfl : rp = rp' := by simpa using e0
  exact ⟨usr, pw', rp, qparts, rf, hq1, by rw [← gen_same_lists.1]; exact hq2, hrp, h4, h2, rfl⟩

/-- MAIN (URL level).  `u` is ANY URL object that stores the encodings of decoded components (`StoresOK`: made by
    `build`, the constructor, any chain of modifiers …); `hr` is its `human_repr()` computed with the characters selected
    by `lit` left LITERAL in position `comp` (`R5.humanReprLit`).  If in every decoded text of that position the selected
    characters are none of TAB / LF / CR, none of the characters unsafe in the position, and no selected '%' stands in
    front of two hex digits (`LitSafeAt`), then `URL(hr)` succeeds, is `==` to `u`, and stores the same decoded
    components (NFKC proviso as in `C18_roundtrip_stored`). -/
theorem literal_reparse (e : Env) (u : Url) (user pw : Option Str) (H : Str) (port : Option Nat) (p : Str)
    (kvs : List (Str × Str)) (f : Str) (ok : StoresOK e u user pw H port p kvs f) (comp : String) (lit : Nat → Bool)
    (hsafe : LitSafeAt comp lit user pw p kvs f) :
    ∀ hr, humanReprLit comp lit e u = .ok hr →
      (isAscii (Rfc.appendixB Gen.schemeChars hr).authority = false →
        checkNetloc e.o (Rfc.appendixB Gen.schemeChars hr).authority = .ok ()) →
      ∃ v, encodeUrl e hr = .ok v ∧ Url.beq v u = true ∧ StoresOK e v user pw H port p kvs f := by
  intro hr hh hnf
  obtain ⟨v, h1, h2, h3, _⟩ := ok.roundtrip (litShower e.o comp lit)
    (shownSpells_lit e comp lit user pw p kvs f ok.hu ok.hune ok.hw ok.hp ok.hn ok.hg ok.hf ok.hfn hsafe) hr hh hnf
  exact ⟨v, h1, h2, h3⟩

theorem pctOK_of_not37 {lit : Nat → Bool} (h : lit 37 = false) : ∀ x : Str, PctOK lit x
  | [] => trivial
  | c :: s => ⟨fun hl hc => (by subst hc; rw [h] at hl; cases hl), pctOK_of_not37 h s⟩

theorem textsAt_pos {comp : String} {user pw : Option Str} {p : Str} {kvs : List (Str × Str)} {f x : Str}
    (h : x ∈ textsAt comp user pw p kvs f) : comp ∈ positions := by
  unfold textsAt at h
  by_cases h1 : comp = "user"
  · subst h1; decide
  by_cases h2 : comp = "password"
  · subst h2; decide
  by_cases h3 : comp = "path"
  · subst h3; decide
  by_cases h4 : comp = "k"
  · subst h4; decide
  by_cases h5 : comp = "v"
  · subst h5; decide
  by_cases h6 : comp = "fragment"
  · subst h6; decide
  simp [h1, h2, h3, h4, h5, h6] at h

/-- every character that is unsafe in one of the six positions is printable ASCII other than '%' -/
theorem unsafe_printable : ∀ comp ∈ positions, ∀ c ∈ humanUnsafeOf comp, 32 ≤ c ∧ c < 127 ∧ c ≠ 37 := by decide

/-- `cleanUrl` (strip leading C0-or-space, remove TAB / LF / CR) does not see TAB / LF / CR -/
theorem lstrip_filter (s : Str) :
    lstripSet Gen.stripSet (s.filter (fun c => !mem c Gen.removeSet)) =
      (lstripSet Gen.stripSet s).filter (fun c => !mem c Gen.removeSet) := by
  have hsub : ∀ c, mem c Gen.removeSet = true → mem c Gen.stripSet = true := by
    intro c hc
    have : c ∈ Gen.removeSet := mem_iff.mp hc
    have h' : ∀ d ∈ Gen.removeSet, mem d Gen.stripSet = true := by decide
    exact h' c this
  induction s with
  | nil => rfl
  | cons x xs ih =>
    cases hx : mem x Gen.removeSet with
    | true =>
      have h1 : (x :: xs).filter (fun c => !mem c Gen.removeSet) = xs.filter (fun c => !mem c Gen.removeSet) := by
        simp [hx]
      rw [h1, ih]
      simp only [lstripSet, hsub x hx, if_true]
    | false =>
      have h1 : (x :: xs).filter (fun c => !mem c Gen.removeSet) = x :: xs.filter (fun c => !mem c Gen.removeSet) := by
        simp [hx]
      rw [h1]
      simp only [lstripSet]
      split
      · exact ih
      · rw [h1]

theorem cleanUrl_filter (s : Str) : cleanUrl (s.filter (fun c => !mem c Gen.removeSet)) = cleanUrl s := by
  unfold cleanUrl
  rw [lstrip_filter, List.filter_filter]
  congr 1
  funext c
  simp

theorem splitUrl_clean (o : Oracles) (s s' : Str) (h : cleanUrl s = cleanUrl s') : splitUrl o s = splitUrl o s' := by
  unfold splitUrl
  simp only [h]

end R12

/-! ## C18 GAPS 6 (ii), GAPS 10 — non-printable characters, UNIVERSALLY, at URL level -/

/-- GAPS 10: the instrumented copy `R5.humanReprLit` of `human_repr()` IS `human_repr()` when nothing is left literal —
    for EVERY URL and position name (it was tied by one computed instance, `C18_humanReprLit_std`). -/
theorem C18_humanReprLit_none (comp : String) (e : Env) (u : Url) :
    humanReprLit comp (fun _ => false) e u = humanRepr e u := humanReprLit_none comp e u

/-- the UNIVERSAL statement behind both classifications: `u` ANY URL object that stores the encodings of decoded
    components (`StoresOK` — `build`, the constructor on any spelling, every chain of modifiers); `hr` its
    `human_repr()` with the characters selected by `lit` left LITERAL in position `comp` (one of "user", "password",
    "path", "k", "v", "fragment").  If, in every decoded text of that position, the selected characters are none of
    TAB / LF / CR, none of the characters unsafe in the position, and no selected '%' stands in front of two hex digits
    (`R12.LitSafeAt`, decidable), then `URL(hr)` succeeds, is `==` to `u` and stores the same decoded components (so
    every modifier may follow).  NFKC proviso as in `C18_roundtrip_stored` (F-C18-nfkc-userinfo). -/
theorem C18_literal_roundtrip (e : Env) (u : Url) (user pw : Option Str) (H : Str) (port : Option Nat) (p : Str)
    (kvs : List (Str × Str)) (f : Str) (ok : StoresOK e u user pw H port p kvs f) (comp : String) (lit : Nat → Bool)
    (hsafe : LitSafeAt comp lit user pw p kvs f) :
    ∀ hr, humanReprLit comp lit e u = .ok hr →
      (isAscii (Rfc.appendixB Gen.schemeChars hr).authority = false →
        checkNetloc e.o (Rfc.appendixB Gen.schemeChars hr).authority = .ok ()) →
      ∃ v, encodeUrl e hr = .ok v ∧ Url.beq v u = true ∧ StoresOK e v user pw H port p kvs f :=
  literal_reparse e u user pw H port p kvs f ok comp lit hsafe

/-- "non-printable characters are escaped" — NONE of these escapes is needed for the parse, except those of TAB, LF
    and CR: UNIVERSALLY.  For every URL that stores the encodings of decoded components, every position, and EVERY set
    `lit` of characters that `str.isprintable()` rejects (C0 controls, DEL, every non-printable non-ASCII character —
    whatever the `isprintable` oracle says) other than TAB / LF / CR: the text shown with those characters left literal
    is read back by `URL(…)` to an equal URL.  (The parser only strips TAB / LF / CR and splits at the delimiters;
    everything else is re-quoted: `C18_tab_lf_cr_dropped` is the converse for TAB / LF / CR.) -/
theorem C18_nonprintable_literal_roundtrip (e : Env) (u : Url) (user pw : Option Str) (H : Str) (port : Option Nat)
    (p : Str) (kvs : List (Str × Str)) (f : Str) (ok : StoresOK e u user pw H port p kvs f) (comp : String)
    (lit : Nat → Bool)
    (hlit : ∀ c, lit c = true → isPrintableChar e.o c = .ok false ∧ c ≠ 9 ∧ c ≠ 10 ∧ c ≠ 13) :
    ∀ hr, humanReprLit comp lit e u = .ok hr →
      (isAscii (Rfc.appendixB Gen.schemeChars hr).authority = false →
        checkNetloc e.o (Rfc.appendixB Gen.schemeChars hr).authority = .ok ()) →
      ∃ v, encodeUrl e hr = .ok v ∧ Url.beq v u = true := by
  intro hr hh hnf
  have h37 : lit 37 = false := by
    cases h : lit 37 with
    | false => rfl
    | true =>
      have := (hlit 37 h).1
      rw [isPrintableChar_ascii e.o (by omega)] at this
      cases this
  have hsafe : LitSafeAt comp lit user pw p kvs f := by
    intro x hx
    have hpos := textsAt_pos hx
    refine ⟨?_, pctOK_of_not37 h37 x⟩
    intro c _ hl
    obtain ⟨a1, a2, a3, a4⟩ := hlit c hl
    refine ⟨a2, a3, a4, ?_⟩
    cases hm : mem c (humanUnsafeOf comp) with
    | false => rfl
    | true =>
      obtain ⟨b1, b2, _⟩ := unsafe_printable comp hpos c (mem_iff.mp hm)
      rw [isPrintableChar_ascii e.o (by omega)] at a1
      simp only [Except.ok.injEq, Bool.and_eq_false_iff, decide_eq_false_iff_not] at a1
      omega
  obtain ⟨v, h1, h2, _⟩ := literal_reparse e u user pw H port p kvs f ok comp lit hsafe hr hh hnf
  exact ⟨v, h1, h2⟩

/-- the converse for TAB, LF and CR, at parser level and for EVERY input string: `URL(s)` IS `URL(s without its TAB /
    LF / CR characters)` — `split_url` removes them before anything else.  So a TAB / LF / CR left literal in a decoded
    text is silently dropped by the re-parse: that escape IS needed. -/
theorem C18_tab_lf_cr_dropped (e : Env) (s : Str) :
    encodeUrl e s = encodeUrl e (s.filter (fun c => !mem c Gen.removeSet)) ∧ Gen.removeSet = [9, 13, 10] := by
  refine ⟨?_, rfl⟩
  rw [FixLemmas.encodeUrl_eq, FixLemmas.encodeUrl_eq, splitUrl_clean e.o s _ (cleanUrl_filter s).symm]

/-- "'%' … [is] escaped" at URL level, the direction "not needed": for every URL that stores the encodings of decoded
    components and every position, if NO '%' of the decoded texts of that position is followed by two hex digits
    (`R12.PctOK (· == 37)`), the text shown with every '%' of that position left LITERAL is read back by `URL(…)` to an
    equal URL.  (The direction "needed" is `C18_percent_literal_iff` / `C18_percent_literal_all_iff`: the stored
    component differs.) -/
theorem C18_percent_literal_roundtrip (e : Env) (u : Url) (user pw : Option Str) (H : Str) (port : Option Nat)
    (p : Str) (kvs : List (Str × Str)) (f : Str) (ok : StoresOK e u user pw H port p kvs f) (comp : String)
    (hpos : comp ∈ positions)
    (hpct : ∀ x ∈ textsAt comp user pw p kvs f, PctOK (· == 37) x) :
    ∀ hr, humanReprLit comp (· == 37) e u = .ok hr →
      (isAscii (Rfc.appendixB Gen.schemeChars hr).authority = false →
        checkNetloc e.o (Rfc.appendixB Gen.schemeChars hr).authority = .ok ()) →
      ∃ v, encodeUrl e hr = .ok v ∧ Url.beq v u = true := by
  intro hr hh hnf
  have hsafe : LitSafeAt comp (· == 37) user pw p kvs f := by
    intro x hx
    refine ⟨?_, hpct x hx⟩
    intro c _ hl
    have hc : c = 37 := by simpa using hl
    subst hc
    refine ⟨by decide, by decide, by decide, ?_⟩
    cases hm : mem 37 (humanUnsafeOf comp) with
    | false => rfl
    | true => exact absurd rfl (unsafe_printable comp hpos 37 (mem_iff.mp hm)).2.2
  obtain ⟨v, h1, h2, _⟩ := literal_reparse e u user pw H port p kvs f ok comp _ hsafe hr hh hnf
  exact ⟨v, h1, h2⟩

/-! ## C18 GAPS 6 (i) — every '%' of a text left literal; the decoded level; counterexample -/

/-- ALL the '%' of a decoded text `x` left literal (more generally: any set `lit` of characters none of which is TAB /
    LF / CR or unsafe in the position — `R12.LitChars`): with `X` the text so shown (`R5.humanQuoteLit`), the
    constructor's requoter reads `X` as the encoding `build` stores for `x` IF AND ONLY IF no '%' that was left literal
    is followed by two hex digits in `x` (`R12.PctOK lit x`).  Every position kind, both backends. -/
theorem C18_percent_literal_all_iff (e : Env) (lit : Nat → Bool) (x X : Str) (hx : PyStr x) (hxn : NoSurrogate x) :
    (∀ key, key = "user" ∨ key = "password" →
      humanQuoteLit e.o x (humanUnsafeOf key) lit = .ok X → LitChars (humanUnsafeOf key) lit x →
      (q e Gen.REQUOTER X = q e Gen.QUOTER x ↔ PctOK lit x)) ∧
    (humanQuoteLit e.o x (humanUnsafeOf "path") lit = .ok X → LitChars (humanUnsafeOf "path") lit x →
      (q e Gen.PATH_REQUOTER X = q e Gen.PATH_QUOTER x ↔ PctOK lit x)) ∧
    (∀ key, key = "k" ∨ key = "v" →
      humanQuoteLit e.o x (humanUnsafeOf key) lit = .ok X → LitChars (humanUnsafeOf key) lit x →
      (q e Gen.QUERY_REQUOTER X = q e Gen.QUERY_PART_QUOTER x ↔ PctOK lit x)) ∧
    (humanQuoteLit e.o x (humanUnsafeOf "fragment") lit = .ok X → LitChars (humanUnsafeOf "fragment") lit x →
      (q e Gen.FRAGMENT_REQUOTER X = q e Gen.FRAGMENT_QUOTER x ↔ PctOK lit x)) := by
  refine ⟨?_, ?_, ?_, ?_⟩
  · intro key hk hX hl
    have hlist : humanUnsafeOf key = humanUnsafeOf "user" := by
      rcases hk with rfl | rfl
      · rfl
      · exact gen_same_lists.1
    rw [hlist] at hX hl
    exact run_lit_iff Gen.REQUOTER Gen.QUOTER (by decide) (by decide) rfl rfl _ (fun b => (gen_litCompat b).1)
      e lit x X hx hxn hX hl
  · intro hX hl
    exact run_lit_iff Gen.PATH_REQUOTER Gen.PATH_QUOTER (by decide) (by decide) rfl rfl _
      (fun b => (gen_litCompat b).2.1) e lit x X hx hxn hX hl
  · intro key hk hX hl
    have hlist : humanUnsafeOf key = humanUnsafeOf "k" := by
      rcases hk with rfl | rfl
      · rfl
      · exact gen_same_lists.2
    rw [hlist] at hX hl
    exact run_lit_iff Gen.QUERY_REQUOTER Gen.QUERY_PART_QUOTER (by decide) (by decide) rfl rfl _
      (fun b => (gen_litCompat b).2.2.2) e lit x X hx hxn hX hl
  · intro hX hl
    exact run_lit_iff Gen.FRAGMENT_REQUOTER Gen.FRAGMENT_QUOTER (by decide) (by decide) rfl rfl _
      (fun b => (gen_litCompat b).2.2.1) e lit x X hx hxn hX hl

/-- the DECODED level (`unquote(requote(text with the '%' literal))`), direction "not needed": when the '%' is not
    followed by two hex digits, the decoded accessor reads the text back — user / password and fragment through
    UNQUOTER, path through PATH_UNQUOTER. -/
theorem C18_percent_literal_decoded (e : Env) (x y X Y : Str)
    (hx : PyStr x) (hxn : NoSurrogate x) (hy : PyStr y) (hyn : NoSurrogate y) (h2 : twoHex y = false) :
    (∀ key, key = "user" ∨ key = "password" →
      humanQuote e.o x (humanUnsafeOf key) = .ok X → humanQuote e.o y (humanUnsafeOf key) = .ok Y →
      uq e Gen.UNQUOTER (q e Gen.REQUOTER (X ++ 37 :: Y)) = x ++ 37 :: y) ∧
    (humanQuote e.o x (humanUnsafeOf "path") = .ok X → humanQuote e.o y (humanUnsafeOf "path") = .ok Y →
      uq e Gen.PATH_UNQUOTER (q e Gen.PATH_REQUOTER (X ++ 37 :: Y)) = x ++ 37 :: y) ∧
    (humanQuote e.o x (humanUnsafeOf "fragment") = .ok X → humanQuote e.o y (humanUnsafeOf "fragment") = .ok Y →
      uq e Gen.UNQUOTER (q e Gen.FRAGMENT_REQUOTER (X ++ 37 :: Y)) = x ++ 37 :: y) := by
  obtain ⟨k1, k2, _, k4⟩ := C18_percent_literal_iff e x y X Y hx hxn hy hyn
  have g3 : PyStr (x ++ 37 :: y) := by
    intro c hc
    simp only [List.mem_append, List.mem_cons] at hc
    rcases hc with hc | rfl | hc
    · exact hx c hc
    · show (37 : Nat) ≤ 0x10FFFF; omega
    · exact hy c hc
  have g4 : NoSurrogate (x ++ 37 :: y) := by
    intro c hc
    simp only [List.mem_append, List.mem_cons] at hc
    rcases hc with hc | rfl | hc
    · exact hxn c hc
    · rfl
    · exact hyn c hc
  refine ⟨?_, ?_, ?_⟩
  · intro key hk hX hY
    rw [(k1 key hk hX hY).mpr h2]
    exact user_readback e _ g3 g4
  · intro hX hY
    rw [(k2 hX hY).mpr h2]
    exact path_readback e _ g3 g4
  · intro hX hY
    rw [(k4 hX hY).mpr h2]
    exact fragment_readback e _ g3 g4

/-- … and the converse is FALSE at the decoded level (it holds at the level of the stored component,
    `C18_percent_literal_iff`): the decoded text "%FF" (Python: `URL.build(scheme="http", host="h", path="/%FF")`, or
    user / fragment "%FF").  Its '%' IS followed by two hex digits; left literal, the requoter keeps `%FF` as an escape
    (stored `%FF`, while `build` stores `%25FF`: the URLs are not `==`) — but `%FF` is not UTF-8, the unquoter keeps it
    verbatim, and the decoded accessor reads "%FF" again.  So "changes the re-parse" must be read on the stored
    components (`==`), not on the decoded accessors.  Both backends. -/
theorem C18_percent_literal_decoded_converse_fails : ∀ b : Backend,
    let e : Env := ⟨b, Oracles.empty⟩
    twoHex "FF".toStr = true ∧
    humanQuote e.o [] (humanUnsafeOf "path") = .ok [] ∧ humanQuote e.o "FF".toStr (humanUnsafeOf "path") = .ok "FF".toStr ∧
    q e Gen.PATH_REQUOTER "%FF".toStr = "%FF".toStr ∧ q e Gen.PATH_QUOTER "%FF".toStr = "%25FF".toStr ∧
    uq e Gen.PATH_UNQUOTER (q e Gen.PATH_REQUOTER "%FF".toStr) = "%FF".toStr ∧
    uq e Gen.UNQUOTER (q e Gen.REQUOTER "%FF".toStr) = "%FF".toStr ∧
    uq e Gen.UNQUOTER (q e Gen.FRAGMENT_REQUOTER "%FF".toStr) = "%FF".toStr := by
  intro b; cases b <;> decide +kernel

/-! ## non-vacuity and computed instances -/

section checks
open R12

/-- the witness: `URL.build(scheme="http", user="u%zz", host="example.com", path="/a\x01b%4", query={"k%": "v\x7f%"},
    fragment="f%")` as a stored record (`R5.ctorUrl`), oracle `HumanMore.demo` -/
private def wit (b : Backend) : Url :=
  ctorUrl ⟨b, demo⟩ "http".toStr (some "u%zz".toStr) none "example.com".toStr none [97, 1, 98, 37, 52]
    [("k%".toStr, [118, 127, 37])] "f%".toStr

private theorem wit_ok (b : Backend) :
    StoresOK ⟨b, demo⟩ (wit b) (some "u%zz".toStr) none "example.com".toStr none [97, 1, 98, 37, 52]
      [("k%".toStr, [118, 127, 37])] "f%".toStr :=
  ctorUrl_storesOK ⟨b, demo⟩ "http".toStr (some "u%zz".toStr) none "example.com".toStr "example.com".toStr
    "example.com".toStr none _ _ _ (by decide)
    (R5.hostKind_demo b) (by intro x hx; cases hx)
    (utext_some (by decide)) (by intro t ht; cases ht; decide) utext_none (by decide) (by decide) (by decide +kernel)
    (by decide) (by decide) (by decide)

/-- the characters left literal: '%', SOH, DEL — the hypotheses of `C18_literal_roundtrip` hold in EVERY position … -/
private def litW : Nat → Bool := fun c => c == 37 || c == 1 || c == 127

example : ∀ comp ∈ positions, LitSafeAt comp litW (some "u%zz".toStr) none [97, 1, 98, 37, 52]
    [("k%".toStr, [118, 127, 37])] "f%".toStr := by decide +kernel

/-- … the text shown has them literal, and `URL(…)` of it is `==` the URL (computed; the theorem says the same) -/
example : ∀ b : Backend,
    humanReprLit "path" litW ⟨b, demo⟩ (wit b) =
      .ok ("http://u%25zz@example.com/a".toStr ++ [1] ++ "b%4?k%25=v%7F%25#f%25".toStr) ∧
    humanReprLit "v" litW ⟨b, demo⟩ (wit b) =
      .ok ("http://u%25zz@example.com/a%01b%254?k%25=v".toStr ++ [127, 37] ++ "#f%25".toStr) := by
  intro b
  simp only [wit]
  str_lits
  cases b <;> decide +kernel

example (b : Backend) (comp : String) (hc : comp ∈ positions) (hr : Str)
    (h : humanReprLit comp litW ⟨b, demo⟩ (wit b) = .ok hr) :
    ∃ v, encodeUrl ⟨b, demo⟩ hr = .ok v ∧ Url.beq v (wit b) = true := by
  have hall : ∀ comp ∈ positions, LitSafeAt comp litW (some "u%zz".toStr) none [97, 1, 98, 37, 52]
      [("k%".toStr, [118, 127, 37])] "f%".toStr := by decide +kernel
  -- the authority of the shown text is ASCII, whatever the position
  have key : ∀ comp ∈ positions, ((humanReprLit comp litW ⟨b, demo⟩ (wit b)).toOption.all
      (fun hr => isAscii (Rfc.appendixB Gen.schemeChars hr).authority)) = true := by
    simp only [wit]
    str_lits
    cases b <;> decide +kernel
  have hasc : isAscii (Rfc.appendixB Gen.schemeChars hr).authority = true := by
    have := key comp hc
    rw [h] at this
    simpa [Except.toOption] using this
  obtain ⟨v, h1, h2, _⟩ := C18_literal_roundtrip _ _ _ _ _ _ _ _ _ (wit_ok b) comp litW (hall comp hc) hr h
    (fun hna => by rw [hasc] at hna; cases hna)
  exact ⟨v, h1, h2⟩

/-- `C18_nonprintable_literal_roundtrip`: a `lit` that satisfies its hypothesis (all C0 controls except TAB / LF / CR,
    DEL, and the non-printable non-ASCII character U+200B of the demonstration oracle) -/
example : ∀ c, (fun c => (c < 32 && c != 9 && c != 10 && c != 13) || c == 127 || c == 0x200B) c = true →
    isPrintableChar demo c = .ok false ∧ c ≠ 9 ∧ c ≠ 10 ∧ c ≠ 13 := by
  intro c hc
  simp only [Bool.or_eq_true, Bool.and_eq_true, decide_eq_true_eq, bne_iff_ne, beq_iff_eq] at hc
  rcases hc with (⟨⟨⟨h1, h2⟩, h3⟩, h4⟩ | rfl) | rfl
  · refine ⟨?_, h2, h3, h4⟩
    rw [isPrintableChar_ascii demo (by omega)]
    simp only [Except.ok.injEq, Bool.and_eq_false_iff, decide_eq_false_iff_not]; omega
  · exact ⟨by decide, by decide, by decide, by decide⟩
  · exact ⟨by decide +kernel, by decide, by decide, by decide⟩

/-- `C18_percent_literal_iff` on the texts of `C18_percent_escape_needed`: "a%41" (needed), "a%zz", "a%4" (not) — and
    the theorem agrees with the computation -/
example : ∀ b : Backend,
    let e : Env := ⟨b, demo⟩
    humanQuote e.o "a".toStr (humanUnsafeOf "path") = .ok "a".toStr ∧
    humanQuote e.o "41".toStr (humanUnsafeOf "path") = .ok "41".toStr ∧
    twoHex "41".toStr = true ∧ twoHex "zz".toStr = false ∧ twoHex "4".toStr = false ∧
    q e Gen.PATH_REQUOTER "a%41".toStr = "aA".toStr ∧ q e Gen.PATH_QUOTER "a%41".toStr = "a%2541".toStr ∧
    q e Gen.PATH_REQUOTER "a%zz".toStr = q e Gen.PATH_QUOTER "a%zz".toStr ∧
    q e Gen.PATH_REQUOTER "a%4".toStr = q e Gen.PATH_QUOTER "a%4".toStr := by
  intro b; cases b <;> decide +kernel

example (b : Backend) : q ⟨b, demo⟩ Gen.PATH_REQUOTER ("a".toStr ++ 37 :: "41".toStr) ≠
    q ⟨b, demo⟩ Gen.PATH_QUOTER ("a".toStr ++ 37 :: "41".toStr) := by
  have h := (C18_percent_literal_iff ⟨b, demo⟩ "a".toStr "41".toStr "a".toStr "41".toStr (by decide) (by decide)
    (by decide) (by decide)).2.1 (by show humanQuote demo _ _ = _; decide +kernel)
    (by show humanQuote demo _ _ = _; decide +kernel)
  intro he
  have := h.mp he
  revert this; decide

/-- the finding of `C18_percent_literal_decoded_converse_fails` at URL level (Python: `u = URL.build(scheme="http",
    host="example.com", path="/%FF")`; `URL("http://example.com/%FF") != u` although both have `.path == "/%FF"`) -/
example : ∀ b : Backend,
    changesParseLit b "path" "%FF".toStr 37 = some true ∧
    (do let u ← build ⟨b, demo⟩ (witnessT "path" "%FF".toStr); pure (pathDecoded ⟨b, demo⟩ u)) = .ok "/%FF".toStr ∧
    (do let v ← encodeUrl ⟨b, demo⟩ "http://example.com/%FF".toStr; pure (pathDecoded ⟨b, demo⟩ v)) = .ok "/%FF".toStr := by
  intro b
  str_lits
  cases b <;> decide +kernel

/-- `C18_tab_lf_cr_dropped` on a path with a literal TAB: it reads back WITHOUT the TAB (the escape is needed) -/
example : ∀ b : Backend,
    (encodeUrl ⟨b, demo⟩ ("http://example.com/a".toStr ++ [9] ++ "b".toStr)).map Url.parts =
      (encodeUrl ⟨b, demo⟩ "http://example.com/ab".toStr).map Url.parts := by
  intro b
  have := (C18_tab_lf_cr_dropped ⟨b, demo⟩ ("http://example.com/a".toStr ++ [9] ++ "b".toStr)).1
  rw [this]
  have h2 : ("http://example.com/a".toStr ++ [9] ++ "b".toStr).filter (fun c => !mem c Gen.removeSet) =
      "http://example.com/ab".toStr := by
    str_lits
    decide +kernel
  rw [h2]

end checks

end Yarl
