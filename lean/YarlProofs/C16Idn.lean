/-
  C16Idn.lean — IDN (non-ASCII) hosts, for C16 and for the host clauses of C03, C04 and C09.

  IDNA is an ORACLE of the model (`Oracles.idnaEnc`, `idnaEncStd`, `idnaDec`, `idnaDecStd`): the answers of
  the third-party `idna` package and of the stdlib "idna" codec are inputs.  So every statement about an
  IDN host has the form "IF the IDNA answers satisfy P THEN …".  P is stated ONCE here:

    `IdnaAnswerSane a`  — what the library relies on for ONE answer `a` of `_idna_encode`:
                          `a` is non-empty and passes the library's own reg-name screen
                          (`NOT_REG_NAME` finds nothing: lower-case RFC 3986 reg-name text), which
                          `build` / `with_host` check AFTER IDNA but the constructor does NOT;
    `IdnaSaneAt o h`    — the answers of the oracle `o` for the host `h` are sane (the `idna` package answer
                          as it is; the stdlib-codec fallback answer after the `.lower()` the library applies);
    `IdnaSane o`        — … for every non-ASCII host;
    `IdnaRoundTripAt o a` — decode ∘ encode round trip for the answer `a` (only used for "the decoded host
                          re-encodes to the same raw host").

  `IdnaAnswerSane` is deliberately WEAKER than the textbook "LDH labels and dots" (`IdnaAnswerLdh`,
  `Idn.sane_of_ldh`): it is exactly the predicate the library checks itself when validation is on.
  NO fixed-point clause (`idnaEnc answer = answer`) is needed: a sane answer is ASCII, so re-encoding it
  takes the ASCII fast path of `_encode_host` and never reaches IDNA again (`C16_idn_idempotent`).

  TRUSTED BASE.  These predicates document exactly what is ASSUMED about the third-party package.  The
  theorems are stated per host (`IdnaSaneAt e.o h`), so they can be used for the hosts of one run; the
  universal form `IdnaSane o` implies each of them (`IdnaSane.at`).  The differential harness answers
  the oracle from the real `idna` package for every host it generates, so `IdnaSaneAt` restricted to the
  answers actually used in a run is a finite, decidable check (`IdnaAnswerSane` is `Decidable`) that the
  harness PERFORMS on its oracle table (`harness/core.py`, `check_oracle_assumption`: every answer of a run is tested
  against `IdnaAnswerSane` / `IdnaRoundTripAt` and the outcome is written into the evidence; answers outside the assumption —
  e.g. the stdlib codec's "a/b" for "a／b" — only limit the domain of the per-host theorems).  The universal form `IdnaSane` is an idealisation.
  Probed with idna 3.13 / CPython 3.11: for hosts whose ASCII part is LDH text the answers are LDH text; but
  the package refuses other ASCII characters and the stdlib fallback passes them through unchanged —
    * "ü%zz" ↦ "xn--%zz-goa": not reg-name text; harmless for C03 / C04 / C09 (`C16_idn_needs_regname`);
    * "ü:x" (reachable through the constructor as "[ü:x]") ↦ "xn--:x-wka", "ü@x" ↦ "xn--@x-wka",
      "x：ü" (full-width colon) ↦ "xn--x:-yka": the last one is rejected by the constructor BEFORE IDNA
      (`_check_netloc`, C16_headline_nfkc_rejects) and all of them by `build` / `with_host` AFTER IDNA
      (validation, `C16_idn_validated_sane`); what such answers would do otherwise is
      `C16_idn_needs_no_colon`, `C16_idn_needs_no_at`, `C16_idn_needs_no_slash`;
    * an upper-case pure-ASCII label survives the stdlib fallback ("ü_X.EXAMPLE" ↦ "xn--_x-wka.EXAMPLE"):
      harmless because of the `.lower()` (`C16_idn_std_answer_lowered`); the same from the package itself
      would not be (`C16_idn_needs_lower`);
    * empty answers: both codecs raise "label empty"; what an empty answer would do: `C16_idn_needs_nonempty`;
    * round trip: "ü.xn--abc-" ↦ (fallback) "xn--tda.xn--abc-", which NEITHER decoder accepts ("A-label must
      not end with a hyphen" / "IDNA does not round-trip"): by the code of `_idna_decode` the `host` accessor
      of the URL with that host then raises (not replayed against the library).
-/
import YarlModel
import YarlProofs.C16Host
import YarlProofs.C09
import YarlProofs.C03Reach
import YarlProofs.C04General
import YarlProofs.C19Ctor
import YarlProofs.Lemmas.HumanLemmas


namespace Yarl
open HostLemmas NetlocLemmas MiscLemmas FixLemmas

/-! ## 1. The assumption, stated once -/

/-- what the library relies on for ONE answer of `_idna_encode`: non-empty, and `NOT_REG_NAME` finds nothing
    (every character is `%` followed by two lower-case hex digits, or an RFC 3986 `unreserved` / `sub-delims`
    character that is not an upper-case letter: `C16_notRegName_spec`, `C16_regNameChars_rfc`) -/
structure IdnaAnswerSane (a : Str) : Prop where
  nonempty : a ≠ []
  regName : notRegName a = false

instance (a : Str) : Decidable (IdnaAnswerSane a) :=
  if k : a ≠ [] ∧ notRegName a = false then isTrue ⟨k.1, k.2⟩ else isFalse (fun p => k ⟨p.nonempty, p.regName⟩)

/-- the textbook form: a non-empty string of lower-case letters, digits, '-' and '.' (LDH labels and dots) -/
def IdnaAnswerLdh (a : Str) : Prop :=
  a ≠ [] ∧ ∀ c ∈ a, (97 ≤ c ∧ c ≤ 122) ∨ isDigitC c = true ∨ c = 45 ∨ c = 46

/-- the oracle's answers for the host `h` are sane.  `_idna_encode` asks the `idna` package first
    (`idna.encode(host, uts46=True)`); if that raises it falls back to the stdlib codec and lower-cases the
    result (`host.encode("idna").decode("ascii").lower()`), so the fallback answer is only asked to be sane
    AFTER lower-casing -/
structure IdnaSaneAt (o : Oracles) (h : Str) : Prop where
  enc : ∀ a, o.idnaEnc h = some (some a) → IdnaAnswerSane a
  encStd : ∀ a, o.idnaEnc h = some none → o.idnaEncStd h = some (some a) → IdnaAnswerSane (lower a)

/-- THE assumption about the `idna` package and the stdlib codec: every answer for a non-ASCII host is sane -/
def IdnaSane (o : Oracles) : Prop := ∀ h, isAscii h = false → IdnaSaneAt o h

theorem IdnaSane.at {o : Oracles} (hs : IdnaSane o) {h : Str} (hna : isAscii h = false) : IdnaSaneAt o h := hs h hna

/-- the round trip for ONE answer `a`: whatever the decoders return for `a` encodes back to `a`.
    An ASCII decoding is `a` itself (no label had non-ASCII content); a non-ASCII decoding `d` is encoded to
    `a`, and is no IP literal in front of a '%' (so that `_encode_host` sends it to IDNA at all). -/
structure IdnaRoundTripAt (o : Oracles) (a : Str) : Prop where
  ascii : ∀ d, idnaDecode o a = .ok d → isAscii d = true → d = a
  nonAscii : ∀ d, idnaDecode o a = .ok d → isAscii d = false →
    idnaEncode o d = .ok a ∧ parseIP (partition 37 d).1 = none

namespace Idn

/-! ### `_idna_encode` under the assumption -/

theorem idnaEncode_cases {o : Oracles} {h a : Str} (he : idnaEncode o h = .ok a) :
    o.idnaEnc h = some (some a) ∨
    (o.idnaEnc h = some none ∧ ∃ r, o.idnaEncStd h = some (some r) ∧ a = lower r) := by
  unfold idnaEncode at he
  cases h1 : o.idnaEnc h with
  | none => simp [h1, ask, bind, Except.bind] at he
  | some x =>
    cases x with
    | some r =>
      simp only [h1, ask, bind, Except.bind, pure, Except.pure, Except.ok.injEq] at he
      subst he; exact Or.inl rfl
    | none =>
      simp only [h1, ask, bind, Except.bind] at he
      cases h2 : o.idnaEncStd h with
      | none => simp [h2] at he
      | some y =>
        cases y with
        | none => simp [h2] at he
        | some r =>
          simp only [h2, pure, Except.pure, Except.ok.injEq] at he
          exact Or.inr ⟨rfl, r, rfl, he.symm⟩

/-- `IdnaSaneAt` is exactly "every result of `_idna_encode(h)` is sane" -/
theorem saneAt_iff (o : Oracles) (h : Str) :
    IdnaSaneAt o h ↔ ∀ a, idnaEncode o h = .ok a → IdnaAnswerSane a := by
  constructor
  · intro hs a he
    rcases idnaEncode_cases he with h1 | ⟨h1, r, h2, rfl⟩
    · exact hs.enc a h1
    · exact hs.encStd r h1 h2
  · intro hall
    refine ⟨fun a h1 => hall a ?_, fun a h1 h2 => hall (lower a) ?_⟩
    · simp [idnaEncode, h1, ask, bind, Except.bind, pure, Except.pure]
    · simp [idnaEncode, h1, h2, ask, bind, Except.bind, pure, Except.pure]

theorem idnaEncode_sane {o : Oracles} {h a : Str} (hs : IdnaSaneAt o h) (he : idnaEncode o h = .ok a) :
    IdnaAnswerSane a := (saneAt_iff o h).1 hs a he

/-! ### what a sane answer looks like -/

theorem regNameChars_hostChar : ∀ x ∈ Gen.regNameChars, hostChar x = true := by decide

theorem sane_hostChar {a : Str} (hs : IdnaAnswerSane a) : ∀ c ∈ a, hostChar c = true := by
  intro c hc
  rcases notRegName_spec a hs.regName c hc with rfl | h
  · decide
  · exact regNameChars_hostChar c (mem_iff.mp h)

theorem sane_chars {a : Str} (hs : IdnaAnswerSane a) : ∀ c ∈ a,
    33 ≤ c ∧ c < 128 ∧ ¬ (65 ≤ c ∧ c ≤ 90) ∧ c ≠ 47 ∧ c ≠ 63 ∧ c ≠ 35 ∧ c ≠ 58 ∧ c ≠ 64 ∧ c ≠ 91 ∧ c ≠ 93 :=
  fun c hc => hostChar_spec (sane_hostChar hs c hc)

theorem sane_ascii {a : Str} (hs : IdnaAnswerSane a) : isAscii a = true :=
  isAscii_iff.mpr fun c hc => (sane_chars hs c hc).2.1

theorem sane_lower {a : Str} (hs : IdnaAnswerSane a) : lower a = a :=
  lower_of_no_upper (fun c hc => (sane_chars hs c hc).2.2.1)

theorem sane_no {a : Str} (hs : IdnaAnswerSane a) {d : Nat} (hd : hostChar d = false) : d ∉ a := by
  intro hm
  rw [sane_hostChar hs d hm] at hd
  exact Bool.noConfusion hd

theorem sane_isLowerAscii {a : Str} (hs : IdnaAnswerSane a) : isLowerAscii a :=
  fun c hc => ⟨(sane_chars hs c hc).2.1, (sane_chars hs c hc).2.2.1⟩

/-- LDH text is sane -/
theorem sane_of_ldh {a : Str} (h : IdnaAnswerLdh a) : IdnaAnswerSane a := by
  refine ⟨h.1, ?_⟩
  have key : ∀ s : Str, (∀ c ∈ s, (97 ≤ c ∧ c ≤ 122) ∨ isDigitC c = true ∨ c = 45 ∨ c = 46) →
      notRegName s = false := by
    intro s
    induction s with
    | nil => intro _; rfl
    | cons x xs ih =>
      intro hall
      have hx := hall x (by simp)
      have hne : x ≠ 37 := by
        rcases hx with h | h | h | h
        · omega
        · simp [isDigitC] at h; omega
        · omega
        · omega
      rw [notRegName.eq_4 _ _ (by intro h'; exact hne h')]
      have hm : mem x Gen.regNameChars = true := by
        have hlt : x < 128 := by
          rcases hx with h | h | h | h
          · omega
          · simp [isDigitC] at h; omega
          · omega
          · omega
        rw [regNameChars_small x hlt]
        have : ∀ y, y < 128 → ((97 ≤ y ∧ y ≤ 122) ∨ isDigitC y = true ∨ y = 45 ∨ y = 46) →
            ((Rfc.unreserved y = true ∨ Rfc.subDelims y = true) ∧ ¬(65 ≤ y ∧ y ≤ 90)) := by decide +kernel
        exact this x hlt hx
      simp only [hm, Bool.not_true, Bool.false_or]
      exact ih (fun c hc => hall c (by simp [hc]))
  exact key a h.2

/-! ### a sane answer is a fixed point of `_encode_host`, with and without validation -/

theorem encodeHost_sane (o : Oracles) {a : Str} (hs : IdnaAnswerSane a) (v : Bool) : encodeHost o a v = .ok a :=
  encodeHost_self o v (sane_ascii hs) (sane_lower hs)
    (notV6_of_no_colon (sane_no hs (d := 58) (by decide))) (fun _ => hs.regName)

/-- `HostFix` for a sane answer: C03 / C04 apply to it -/
theorem hostFix_sane (o : Oracles) {a : Str} (hs : IdnaAnswerSane a) : HostFix o a :=
  FixLemmas.hostFix_plain o hs.nonempty (sane_hostChar hs)

/-! ### a non-ASCII host in front of the constructor -/

theorem nonempty_of_nonAscii {h : Str} (hna : isAscii h = false) : h ≠ [] := by
  rintro rfl; cases hna

/-- `_encode_host` on a non-ASCII host that is no IP literal: the IDNA answer (screened when validating) — for an
    answer without ':' (an answer holding a ':' goes through `_encode_host` again: fix 3fbf5b4) -/
theorem encodeHost_idn (o : Oracles) {h a : Str} (v : Bool) (hna : isAscii h = false)
    (hd : ∃ b, looksIP o h = .ok b) (hip : parseIP (partition 37 h).1 = none)
    (he : idnaEncode o h = .ok a) (h58 : mem 58 a = false) (hv : v = true → notRegName a = false) :
    encodeHost o h v = .ok a := by
  obtain ⟨b, hb⟩ := hd
  rw [encodeHost_noIp v (noIp_of_parse hb hip), regPath_idn_no_colon o v hna he h58, if_neg]
  · rfl
  · intro hc
    simp only [Bool.and_eq_true] at hc
    rw [hv hc.1] at hc
    exact Bool.noConfusion hc.2

/-- conversely: the result for such a host IS the IDNA answer (when that answer holds no ':') -/
theorem encodeHost_idn_inv (o : Oracles) {h r : Str} {v : Bool} (hna : isAscii h = false)
    (hip : parseIP (partition 37 h).1 = none) (hc : ∀ a, idnaEncode o h = .ok a → mem 58 a = false)
    (he : encodeHost o h v = .ok r) : idnaEncode o h = .ok r := by
  have hreg := encodeHost_ok_reg o h v r hip he
  obtain ⟨a, hi, ⟨_, rfl, _⟩ | ⟨h58, _⟩⟩ := regPath_idn_cases hna hreg
  · exact hi
  · rw [hc a hi] at h58; cases h58

end Idn

/-- a non-ASCII host `h` standing alone in an authority (`scheme://h/…`), as `split_url` accepts it:
    none of the delimiters, the NFKC check of `_check_netloc` passes, the `str.isdigit` oracle knows the last
    character, and `h` is no IPv4 literal followed by a (non-ASCII) zone id -/
structure IdnHostInput (o : Oracles) (h : Str) : Prop where
  nonAscii : isAscii h = false
  chars : ∀ c ∈ h, c ≠ 47 ∧ c ≠ 63 ∧ c ≠ 35 ∧ c ≠ 9 ∧ c ≠ 10 ∧ c ≠ 13 ∧ c ≠ 91 ∧ c ≠ 93 ∧ c ≠ 58 ∧ c ≠ 64
  nfkc : checkNetloc o h = .ok ()
  digit : ∃ b, looksIP o h = .ok b
  noIP : parseIP (partition 37 h).1 = none

namespace Idn
open HumanLemmas

theorem authOK_idn {o : Oracles} {h : Str} (hi : IdnHostInput o h) : AuthOK o h where
  chars := fun a ha => by have := hi.chars a ha; omega
  nfkc := fun _ => hi.nfkc

/-- the constructor on `scheme://h/path#fragment` with an IDN host `h` whose IDNA answer `a` is sane:
    the stored netloc and the cached raw host are `a` -/
theorem encodeUrl_idn (e : Env) (sc h a rp rf : Str) (vs : ValidScheme sc) (hi : IdnHostInput e.o h)
    (ha : idnaEncode e.o h = .ok a) (hs : IdnaAnswerSane a)
    (h35 : 35 ∉ rp) (h63 : 63 ∉ rp) (hc1 : Clean rp) (hc2 : Clean rf) :
    encodeUrl e (sc ++ 58 :: 47 :: 47 :: (h ++ (47 :: rp ++ fragTail rf))) =
      .ok { scheme := sc, netloc := a,
            path := if mem 46 (q e Gen.PATH_REQUOTER (47 :: rp)) then
                normalizePath (q e Gen.PATH_REQUOTER (47 :: rp)) else q e Gen.PATH_REQUOTER (47 :: rp),
            query := [],
            fragment := if rf.isEmpty then rf else q e Gen.FRAGMENT_REQUOTER rf,
            pre := some { rawHost := some a, explicitPort := none, rawUser := none, rawPassword := none } } := by
  have hne := nonempty_of_nonAscii hi.nonAscii
  have n58 : 58 ∉ h := fun hm => (hi.chars 58 hm).2.2.2.2.2.2.2.2.1 rfl
  have n64 : 64 ∉ h := fun hm => (hi.chars 64 hm).2.2.2.2.2.2.2.2.2 rfl
  have n91 : 91 ∉ h := fun hm => (hi.chars 91 hm).2.2.2.2.2.2.1 rfl
  have henc := encodeHost_idn e.o false hi.nonAscii hi.digit hi.noIP ha (notRegName_false_no_colon hs.regName)
    (fun h => by cases h)
  -- the authority is the bare host: `split_netloc` returns it whole, `_encode_host` answers `a`, and `a` (no '[',
  -- no userinfo, no port) is written and cached as it is
  rw [EagerLemmas.encodeUrl_eq, splitUrl_auth e.o sc h rp rf vs (authOK_idn hi) h35 h63 hc1 hc2]
  show EagerLemmas.authBlock e _ >>= _ = _
  rw [EagerLemmas.authBlock_of (host0 := h) (host1 := a) hne (splitNetloc_noDelims e.o hne n58 n64 n91) rfl henc]
  have hb : StrTotal.rebracket (mem 91 (rpartition 64 h).2.2) a = a := by
    rw [ParseLemmas.rpartition_snd_snd_of_mem_false (mem_false_iff.mpr n64), mem_false_iff.mpr n91]
    rfl
  have hnet : makeNetloc (q e Gen.QUOTER) none none (some a) none false = a := by
    simp [makeNetloc]
  show Except.ok (EagerLemmas.finishUrl e _ (makeNetloc (q e Gen.QUOTER) none none
    (some (StrTotal.rebracket (mem 91 (rpartition 64 h).2.2) a)) none false) _) = _
  rw [hb, hnet, unbracket_of_no91 (sane_no hs (by decide))]
  unfold EagerLemmas.finishUrl
  simp only [List.isEmpty_cons, Bool.false_eq_true, if_false, isEmpty_false hs.nonempty, Bool.not_false, Bool.true_and,
    List.isEmpty_nil, if_true]
  rfl

end Idn
open Idn HumanLemmas

/-! ## 2. C16 under the assumption: what the library stores for an IDN host -/

/-- (C16, "the encoded host is always lower-case ASCII", IDN case — constructor INCLUDED, `v = false`.)
    For a non-ASCII host that is no IP literal, an accepted host is the answer of `_idna_encode`, and under
    `IdnaSaneAt` that answer is non-empty lower-case ASCII reg-name text: no upper-case letter, no character
    ≥ 128, no blank or control character, none of `/ ? # : @ [ ]`. -/
theorem C16_idn_encoded_ascii_lower (o : Oracles) (h r : Str) (v : Bool) (hna : isAscii h = false)
    (hip : parseIP (partition 37 h).1 = none) (hs : IdnaSaneAt o h) :
    encodeHost o h v = .ok r →
    idnaEncode o h = .ok r ∧ IdnaAnswerSane r ∧ isLowerAscii r ∧ isAscii r = true ∧ lower r = r ∧
    (∀ c ∈ r, 33 ≤ c ∧ c ≠ 47 ∧ c ≠ 63 ∧ c ≠ 35 ∧ c ≠ 58 ∧ c ≠ 64 ∧ c ≠ 91 ∧ c ≠ 93) := by
  intro he
  have hi := encodeHost_idn_inv o hna hip (fun a ha => notRegName_false_no_colon (idnaEncode_sane hs ha).regName) he
  have hsa := idnaEncode_sane hs hi
  refine ⟨hi, hsa, sane_isLowerAscii hsa, sane_ascii hsa, sane_lower hsa, fun c hc => ?_⟩
  have := sane_chars hsa c hc
  omega

/-- with validation on (`build(host=…)`, `with_host`) the reg-name screen is CHECKED by the library after
    IDNA; the only thing left to assume about the package is that the answer is not empty.  There is a
    second way to be accepted (re-entry, fix 3fbf5b4): the answer `a` holds a ':' and is an IP literal — then the result is the canonical text of
    that literal (`ipRes a`, its zone screened), which is not reg-name text (brackets, colons). -/
theorem C16_idn_validated_sane (o : Oracles) (h r : Str) (hna : isAscii h = false)
    (hip : parseIP (partition 37 h).1 = none) :
    encodeHost o h true = .ok r → r ≠ [] → IdnaAnswerSane r ∨
      ∃ a, idnaEncode o h = .ok a ∧ mem 58 a = true ∧ ipRes a = some r ∧ zoneBad a true = false := by
  intro he hne
  obtain ⟨a, hi, ⟨_, _, hn⟩ | ⟨h58, hr, hz⟩⟩ := C16_idna_validated o h r hna hip he
  · exact Or.inl ⟨hne, hn⟩
  · exact Or.inr ⟨a, hi, h58, hr, hz⟩

/-- (C16, "encoding is idempotent", IDN case.)  A sane answer is a fixed point of `_encode_host`, with and
    without validation: it is ASCII, so the second pass takes the ASCII fast path (lower-casing, or the IPv4
    branch which keeps its input) and never asks IDNA again.  `answer` stands for ANY sane text. -/
theorem C16_idn_idempotent (o : Oracles) (answer : Str) (v : Bool) (hs : IdnaAnswerSane answer) :
    encodeHost o answer v = .ok answer ∧ unbracket answer = answer :=
  ⟨encodeHost_sane o hs v, unbracket_of_no91 (sane_no hs (by decide))⟩

/-- … in the form of `C16_headline_idempotent`, without its `isAscii h` hypothesis -/
theorem C16_idn_encode_idempotent (o : Oracles) (h r : Str) (v v' : Bool) (hna : isAscii h = false)
    (hip : parseIP (partition 37 h).1 = none) (hs : IdnaSaneAt o h) :
    encodeHost o h v = .ok r → encodeHost o (unbracket r) v' = .ok r := by
  intro he
  have hsa := (C16_idn_encoded_ascii_lower o h r v hna hip hs he).2.1
  rw [(C16_idn_idempotent o r v' hsa).2]
  exact (C16_idn_idempotent o r v' hsa).1

/-- the answer satisfies `HostFix` (the host clause of `NetlocCanon` / `CanonString`: C03 and C04 apply) -/
theorem C16_idn_hostFix (o : Oracles) (h r : Str) (v : Bool) (hna : isAscii h = false)
    (hip : parseIP (partition 37 h).1 = none) (hs : IdnaSaneAt o h) :
    encodeHost o h v = .ok r → HostFix o r :=
  fun he => hostFix_sane o (C16_idn_encoded_ascii_lower o h r v hna hip hs he).2.1

/-- CONSTRUCTOR: `URL("scheme://h/path#fragment")` for an IDN host `h`: accepted exactly when `_idna_encode`
    answers; the stored netloc and `raw_host` are the answer -/
theorem C16_idn_ctor (e : Env) (sc h rp rf : Str) (vs : ValidScheme sc) (hi : IdnHostInput e.o h)
    (hs : IdnaSaneAt e.o h) (h35 : 35 ∉ rp) (h63 : 63 ∉ rp) (hc1 : Clean rp) (hc2 : Clean rf) :
    (∀ u, encodeUrl e (sc ++ 58 :: 47 :: 47 :: (h ++ (47 :: rp ++ fragTail rf))) = .ok u →
      ∃ a, idnaEncode e.o h = .ok a ∧ IdnaAnswerSane a ∧ u.netloc = a ∧ rawHost e u = .ok (some a) ∧
        u.pre = some (preHost a) ∧ u.scheme = sc) ∧
    (∀ a, idnaEncode e.o h = .ok a →
      ∃ u, encodeUrl e (sc ++ 58 :: 47 :: 47 :: (h ++ (47 :: rp ++ fragTail rf))) = .ok u) := by
  constructor
  · intro u hu
    cases hi' : idnaEncode e.o h with
    | error er =>
      exfalso
      have hne := nonempty_of_nonAscii hi.nonAscii
      have n58 : 58 ∉ h := fun hm => (hi.chars 58 hm).2.2.2.2.2.2.2.2.1 rfl
      have n64 : 64 ∉ h := fun hm => (hi.chars 64 hm).2.2.2.2.2.2.2.2.2 rfl
      have n91 : 91 ∉ h := fun hm => (hi.chars 91 hm).2.2.2.2.2.2.1 rfl
      have henc : encodeHost e.o h false = .error er := by
        obtain ⟨b, hb⟩ := hi.digit
        rw [encodeHost_noIp false (noIp_of_parse hb hi.noIP), regPath_idn e.o false hi.nonAscii, hi']
        rfl
      obtain ⟨pt, nl, pre, hpt, hab, -⟩ := EagerLemmas.encodeUrl_ok hu
      rw [splitUrl_auth e.o sc h rp rf vs (authOK_idn hi) h35 h63 hc1 hc2] at hpt
      cases hpt
      rw [EagerLemmas.authBlock_eq e _ hne, splitNetloc_noDelims e.o hne n58 n64 n91] at hab
      change (encodeHost e.o h false >>= _) = _ at hab
      rw [henc] at hab
      cases hab
    | ok a =>
      have hsa := idnaEncode_sane hs hi'
      rw [encodeUrl_idn e sc h a rp rf vs hi hi' hsa h35 h63 hc1 hc2] at hu
      cases hu
      exact ⟨a, rfl, hsa, rfl, rfl, rfl, rfl⟩
  · intro a ha
    exact ⟨_, encodeUrl_idn e sc h a rp rf vs hi ha (idnaEncode_sane hs ha) h35 h63 hc1 hc2⟩

/-- what validation leaves of a non-ASCII host: the IDNA answer `r`, screened (a fixed point when non-empty) — or,
    the canonical text of the IP literal that an answer holding a ':' spells (re-entry, fix 3fbf5b4) -/
theorem C16_idn_validated_result (o : Oracles) (h r : Str) (hna : isAscii h = false)
    (hip : parseIP (partition 37 h).1 = none) (hr : encodeHost o h true = .ok r) :
    (idnaEncode o h = .ok r ∧ notRegName r = false ∧
      (r ≠ [] → IdnaAnswerSane r ∧ HostFix o r ∧ ∀ v, encodeHost o r v = .ok r)) ∨
    (∃ a, idnaEncode o h = .ok a ∧ mem 58 a = true ∧ ipRes a = some r ∧ zoneBad a true = false) := by
  obtain ⟨a, hi, ⟨_, rfl, hn⟩ | ⟨h58, hres, hz⟩⟩ := C16_idna_validated o h r hna hip hr
  · exact Or.inl ⟨hi, hn, fun hne => ⟨⟨hne, hn⟩, hostFix_sane o ⟨hne, hn⟩, fun v => encodeHost_sane o ⟨hne, hn⟩ v⟩⟩
  · exact Or.inr ⟨a, hi, h58, hres, hz⟩

/-- BUILD: `URL.build(host=h, …)` with a non-ASCII `h` succeeds only if the IDNA answer passes the screen;
    if it is also non-empty it is a fixed point of `_encode_host` and satisfies `HostFix`.  (Or the
    answer holds a ':' and is an IP literal, stored in its canonical form: re-entry, fix 3fbf5b4.) -/
theorem C16_idn_build (e : Env) (a : BuildArgs) (u : Url) (henc : a.encoded = false) (hauth : a.authority = [])
    (hna : isAscii a.host = false) (hip : parseIP (partition 37 a.host).1 = none) :
    build e a = .ok u →
    ∃ r, encodeHost e.o a.host true = .ok r ∧
      ((idnaEncode e.o a.host = .ok r ∧ notRegName r = false ∧
        (r ≠ [] → IdnaAnswerSane r ∧ HostFix e.o r ∧ ∀ v, encodeHost e.o r v = .ok r)) ∨
       (∃ x, idnaEncode e.o a.host = .ok x ∧ mem 58 x = true ∧ ipRes x = some r ∧ zoneBad x true = false)) := by
  intro hb
  obtain ⟨r, hr⟩ := C16_build_validates e a u henc hauth (nonempty_of_nonAscii hna) hb
  exact ⟨r, hr, C16_idn_validated_result e.o a.host r hna hip hr⟩

/-- WITH_HOST: the same for `u.with_host(h)` -/
theorem C16_idn_withHost (e : Env) (u u' : Url) (h : Str)
    (hna : isAscii h = false) (hip : parseIP (partition 37 h).1 = none) :
    withHost e u h = .ok u' →
    ∃ r, encodeHost e.o h true = .ok r ∧
      ((idnaEncode e.o h = .ok r ∧ notRegName r = false ∧
        (r ≠ [] → IdnaAnswerSane r ∧ HostFix e.o r ∧ ∀ v, encodeHost e.o r v = .ok r)) ∨
       (∃ x, idnaEncode e.o h = .ok x ∧ mem 58 x = true ∧ ipRes x = some r ∧ zoneBad x true = false)) := by
  intro hb
  obtain ⟨r, hr⟩ := C16_withHost_validates e u u' h hb
  exact ⟨r, hr, C16_idn_validated_result e.o h r hna hip hr⟩

/-! ### the decoded host -/

/-- `URL.host` of a URL whose raw host is a sane IDNA answer `a`: the IDNA decoding of `a` — except for a
    digit-ending `a` without "xn--" (the answer for a host in full-width digits, say), which is returned as
    it is ("IP addresses are never IDNA encoded") -/
theorem C16_idn_host_decoded (e : Env) (u : Url) (a : Str) (hraw : rawHost e u = .ok (some a))
    (hs : IdnaAnswerSane a) :
    (((∀ l, a.getLast? = some l → isDigitC l = false) ∨ hasSub [120, 110, 45, 45] a = true) →
      host e u = (idnaDecode e.o a).map some ∧
      (∀ d, e.o.idnaDec a = some (some d) → host e u = .ok (some d))) ∧
    ((∃ l, a.getLast? = some l ∧ isDigitC l = true) → hasSub [120, 110, 45, 45] a = false →
      host e u = .ok (some a)) := by
  have hasc := sane_ascii hs
  have h58 : 58 ∉ a := sane_no hs (by decide)
  refine ⟨fun hnd => ?_, fun ⟨l, hl, hd⟩ hx => host_of_ip_looking e u a hraw (Or.inl ⟨l, hl, hd, hx⟩)⟩
  have hh := host_of_regname e u a hraw hasc h58 hnd
  refine ⟨hh, fun d hd => ?_⟩
  rw [hh]
  simp [idnaDecode, hasc, hd, ask, bind, Except.bind, pure, Except.pure, Except.map]

/-- (C16, "the decoded host re-encodes to the same raw host", IDN case.)  Under the round-trip assumption
    for the answer `a`, whatever `URL.host` returns encodes back to `a`.  `hdig` is about ANOTHER oracle
    (`str.isdigit` of the last character of a non-ASCII decoded host must be known to the model). -/
theorem C16_idn_host_reencodes (e : Env) (u : Url) (a d : Str) (hraw : rawHost e u = .ok (some a))
    (hs : IdnaAnswerSane a) (hrt : IdnaRoundTripAt e.o a)
    (hdig : isAscii d = false → ∃ b, looksIP e.o d = .ok b) :
    host e u = .ok (some d) → encodeHost e.o d false = .ok a := by
  intro hhost
  have hasc := sane_ascii hs
  have h58 : 58 ∉ a := sane_no hs (by decide)
  by_cases hnd : (∀ l, a.getLast? = some l → isDigitC l = false) ∨ hasSub [120, 110, 45, 45] a = true
  · have hdec : idnaDecode e.o a = .ok d := by
      rw [host_of_regname e u a hraw hasc h58 hnd] at hhost
      cases hd : idnaDecode e.o a with
      | error er => rw [hd] at hhost; cases hhost
      | ok x => rw [hd] at hhost; cases hhost; rfl
    refine (C16_host_reencodes_regname e u a d hraw hasc h58 hnd hhost ?_ ?_).2
    · intro hda
      have := hrt.ascii d hdec hda
      subst this
      exact ⟨sane_lower hs, Or.inr (Or.inr rfl)⟩
    · intro hdn
      obtain ⟨h1, h2⟩ := hrt.nonAscii d hdec hdn
      refine ⟨h1, ?_⟩
      obtain ⟨b, hb⟩ := hdig hdn
      cases b with
      | false => exact Or.inl hb
      | true => exact Or.inr ⟨hb, h2⟩
  · -- digit-ending, no "xn--": the host accessor returns `a` itself
    have : host e u = .ok (some a) := host_of_ip_looking e u a hraw (Or.inl (digit_ending_of_not hnd))
    rw [this] at hhost
    cases hhost
    exact encodeHost_sane e.o hs false

/-! ## 3. The assumption is satisfiable … -/

/-- "bücher" -/
def C16_idn_buecher : Str := "b".toStr ++ [252] ++ "cher".toStr
/-- "ü_X.EXAMPLE" -/
def C16_idn_underscore : Str := [252] ++ "_X.EXAMPLE".toStr

/-- a two-entry IDNA table with the answers of the real code (idna 3.13 / CPython 3.11):
    `idna.encode("bücher", uts46=True)` = "xn--bcher-kva"; the package refuses "ü_X.EXAMPLE" ('_' is not
    PVALID), the stdlib codec answers "xn--_x-wka.EXAMPLE" — upper case survives in its pure-ASCII label,
    hence the `.lower()` in `_idna_encode`; `idna.decode("xn--bcher-kva")` = "bücher" -/
def C16_idn_sampleOracle : Oracles :=
  { Oracles.empty with
    nfkc := fun s => some s
    isDigitU := fun _ => some false
    idnaEnc := fun s => if s = C16_idn_buecher then some (some "xn--bcher-kva".toStr)
                        else if s = C16_idn_underscore then some none else none
    idnaEncStd := fun s => if s = C16_idn_underscore then some (some "xn--_x-wka.EXAMPLE".toStr) else none
    idnaDec := fun s => if s = "xn--bcher-kva".toStr then some (some C16_idn_buecher) else none }

/-- `IdnaSane` (and the round trip) hold for it, and both entries are used -/
theorem C16_idn_sane_satisfiable :
    IdnaSane C16_idn_sampleOracle ∧
    idnaEncode C16_idn_sampleOracle C16_idn_buecher = .ok "xn--bcher-kva".toStr ∧
    idnaEncode C16_idn_sampleOracle C16_idn_underscore = .ok "xn--_x-wka.example".toStr ∧
    IdnaAnswerLdh "xn--bcher-kva".toStr ∧ ¬ IdnaAnswerLdh "xn--_x-wka.example".toStr ∧
    ¬ IdnaAnswerSane "xn--_x-wka.EXAMPLE".toStr ∧
    IdnaRoundTripAt C16_idn_sampleOracle "xn--bcher-kva".toStr := by
  have hdec : idnaDecode C16_idn_sampleOracle "xn--bcher-kva".toStr = .ok C16_idn_buecher := by str_lits; decide +kernel
  refine ⟨?_, by decide +kernel, by decide +kernel, ⟨by decide +kernel, by decide +kernel⟩, ?_, by decide +kernel, ?_, ?_⟩
  · intro h _
    constructor
    · intro a ha
      simp only [C16_idn_sampleOracle] at ha
      split at ha
      · cases ha; decide +kernel
      · split at ha <;> cases ha
    · intro a _ ha
      simp only [C16_idn_sampleOracle] at ha
      split at ha
      · cases ha; decide +kernel
      · cases ha
  · intro h
    exact absurd (h.2 95 (by decide +kernel)) (by decide +kernel)
  · intro d hd _
    rw [hdec] at hd; cases hd
    rename_i hasc
    exact absurd hasc (by decide +kernel)
  · intro d hd _
    rw [hdec] at hd; cases hd
    exact ⟨rfl, by decide +kernel⟩

/-! ## 4. … and every clause of it is NEEDED (hostile oracles)

  `C16_idn_hostile ans` answers `ans` for every non-ASCII host (`C19_hostileIdna` is `C16_idn_hostile "a:x"`).
  The input is always `URL("http://é/p")` on the compiled backend. -/

/-- an `idna` package that answers `ans` whatever the host is -/
def C16_idn_hostile (ans : Str) : Oracles :=
  { Oracles.empty with nfkc := fun s => some s, idnaEnc := fun _ => some (some ans),
                       isDigitU := fun _ => some false }

theorem C16_idn_hostile_eq_c19 : C19_hostileIdna = C16_idn_hostile "a:x".toStr := rfl

/-- "http://é/p" -/
def C16_idn_input : Str := "http://".toStr ++ [233] ++ "/p".toStr

/-- the input IS in the scope of the theorems of section 2 (only `IdnaSaneAt` is missing below) -/
theorem C16_idn_input_ok (ans : Str) : IdnHostInput (C16_idn_hostile ans) [233] ∧
    C16_idn_input = "http".toStr ++ 58 :: 47 :: 47 :: ([233] ++ (47 :: "p".toStr ++ fragTail [])) ∧
    ValidScheme "http".toStr ∧ Clean "p".toStr :=
  ⟨⟨by decide, by decide, rfl, ⟨false, rfl⟩, by decide⟩, by decide, by decide, by unfold Clean; decide⟩

/-- NEEDED: no ':' in an answer.  With the answer "a:81" the constructor stores the netloc "a:81"; the URL
    itself says host "a:81", port 80 (from its cache), its pickle twin says host "a", port 81: the answer
    INJECTED a port, and reparsing `str(u)` changes `raw_host` (C03) — while `str` is unchanged.
    (With "a:x" the twin raises: `C19_twin_needs_good_authority`.) -/
theorem C16_idn_needs_no_colon :
    let e : Env := { b := .c, o := C16_idn_hostile "a:81".toStr }
    ¬ IdnaSaneAt e.o [233] ∧
    (encodeUrl e C16_idn_input).map (·.netloc) = .ok "a:81".toStr ∧
    (encodeUrl e C16_idn_input).bind (rawHost e) = .ok (some "a:81".toStr) ∧
    (encodeUrl e C16_idn_input).bind (port e) = .ok (some 80) ∧
    (encodeUrl e C16_idn_input).bind (fun u => rawHost e (pickleTwin u)) = .ok (some "a".toStr) ∧
    (encodeUrl e C16_idn_input).bind (fun u => port e (pickleTwin u)) = .ok (some 81) ∧
    (encodeUrl e C16_idn_input).bind (str e) = .ok "http://a:81/p".toStr ∧
    (encodeUrl e "http://a:81/p".toStr).bind (rawHost e) = .ok (some "a".toStr) ∧
    ¬ GoodAuthority e C16_idn_input := by
  str_lits; intro e
  have hns : ¬ IdnaSaneAt e.o [233] := fun hs => absurd (hs.enc "a:81".toStr rfl) (by decide)
  refine ⟨hns, by decide +kernel, by decide +kernel, by decide +kernel, by decide +kernel, by decide +kernel, by decide +kernel, by decide +kernel, ?_⟩
  exact C09_guard_excludes e C16_idn_input "a:81".toStr
    { rawHost := some "a:81".toStr, explicitPort := none, rawUser := none, rawPassword := none }
    (.ok { rawHost := some "a".toStr, explicitPort := some 81, rawUser := none, rawPassword := none })
    (by decide +kernel) (by decide)

/-- NEEDED: no '@' in an answer.  With "u@x" the twin (and the reparsed URL) has the user "u" and the host
    "x"; the URL itself has no user and the host "u@x". -/
theorem C16_idn_needs_no_at :
    let e : Env := { b := .c, o := C16_idn_hostile "u@x".toStr }
    ¬ IdnaSaneAt e.o [233] ∧
    (encodeUrl e C16_idn_input).bind (rawHost e) = .ok (some "u@x".toStr) ∧
    (encodeUrl e C16_idn_input).bind (rawUser e) = .ok none ∧
    (encodeUrl e C16_idn_input).bind (fun u => rawHost e (pickleTwin u)) = .ok (some "x".toStr) ∧
    (encodeUrl e C16_idn_input).bind (fun u => rawUser e (pickleTwin u)) = .ok (some "u".toStr) ∧
    ¬ GoodAuthority e C16_idn_input := by
  str_lits; intro e
  have hns : ¬ IdnaSaneAt e.o [233] := fun hs => absurd (hs.enc "u@x".toStr rfl) (by decide)
  refine ⟨hns, by decide +kernel, by decide +kernel, by decide +kernel, by decide +kernel, ?_⟩
  exact C09_guard_excludes e C16_idn_input "u@x".toStr
    { rawHost := some "u@x".toStr, explicitPort := none, rawUser := none, rawPassword := none }
    (.ok { rawHost := some "x".toStr, explicitPort := none, rawUser := some "u".toStr, rawPassword := none })
    (by decide +kernel) (by decide)

/-- NEEDED: none of '/' '?' '#' in an answer.  With "a/b" the stored netloc is "a/b", `str` prints
    "http://a/b/p", and parsing that gives the host "a" and the path "/b/p": `str(URL(str(u)))` is the same
    string but the URL is another one (C03: host and path change).  Eager and lazy data agree here (C09 is
    not affected: '/' is not a netloc delimiter of `split_netloc`). -/
theorem C16_idn_needs_no_slash :
    let e : Env := { b := .c, o := C16_idn_hostile "a/b".toStr }
    ¬ IdnaSaneAt e.o [233] ∧
    (encodeUrl e C16_idn_input).map (fun u => (u.netloc, u.path)) = .ok ("a/b".toStr, "/p".toStr) ∧
    (encodeUrl e C16_idn_input).bind (str e) = .ok "http://a/b/p".toStr ∧
    (encodeUrl e "http://a/b/p".toStr).map (fun u => (u.netloc, u.path)) = .ok ("a".toStr, "/b/p".toStr) := by
  str_lits; intro e
  have hns : ¬ IdnaSaneAt e.o [233] := fun hs => absurd (hs.enc "a/b".toStr rfl) (by decide)
  exact ⟨hns, by decide +kernel⟩

/-- NEEDED: no upper-case letter in an answer of the `idna` PACKAGE (its answer is not lower-cased by the
    library; only the stdlib fallback is).  With "XN--A" the raw host is not lower case ("always lower-case
    ASCII" fails), `_encode_host` is not idempotent on it, and `URL(str(u))` has another netloc (C03, `==`). -/
theorem C16_idn_needs_lower :
    let e : Env := { b := .c, o := C16_idn_hostile "XN--A".toStr }
    ¬ IdnaSaneAt e.o [233] ∧
    encodeHost e.o [233] false = .ok "XN--A".toStr ∧ ¬ isLowerAscii "XN--A".toStr ∧
    encodeHost e.o "XN--A".toStr false = .ok "xn--a".toStr ∧
    (encodeUrl e C16_idn_input).bind (rawHost e) = .ok (some "XN--A".toStr) ∧
    (encodeUrl e C16_idn_input).bind (str e) = .ok "http://XN--A/p".toStr ∧
    (encodeUrl e "http://XN--A/p".toStr).map (·.netloc) = .ok "xn--a".toStr := by
  str_lits; intro e
  have hns : ¬ IdnaSaneAt e.o [233] := fun hs => absurd (hs.enc "XN--A".toStr rfl) (by decide)
  refine ⟨hns, by decide +kernel, ?_, by decide +kernel⟩
  intro h
  exact absurd (h 88 (by decide)).2 (by decide)

/-- … whereas an upper-case answer of the STDLIB fallback is harmless: the library lower-cases it (this is
    why `IdnaSaneAt.encStd` speaks about `lower a`).  The package refuses, the codec answers "XN--A.EXAMPLE". -/
theorem C16_idn_std_answer_lowered :
    let o : Oracles := { C16_idn_hostile [] with idnaEnc := fun _ => some none,
                                                 idnaEncStd := fun _ => some (some "XN--A.EXAMPLE".toStr) }
    IdnaSaneAt o [233] ∧ ¬ IdnaAnswerSane "XN--A.EXAMPLE".toStr ∧
    encodeHost o [233] false = .ok "xn--a.example".toStr := by
  str_lits; intro o
  refine ⟨⟨fun a ha => (by cases ha), fun a _ ha => ?_⟩, by decide, by decide +kernel⟩
  have : a = "XN--A.EXAMPLE".toStr := by
    have h : some (some "XN--A.EXAMPLE".toStr) = some (some a) := ha
    cases h; rfl
  subst this; decide

/-- NEEDED: a non-empty answer.  With "" the stored netloc is empty: the URL itself says `raw_host == ""`
    (cached), its twin says `None`; `str` prints "http:///p". -/
theorem C16_idn_needs_nonempty :
    let e : Env := { b := .c, o := C16_idn_hostile [] }
    ¬ IdnaSaneAt e.o [233] ∧
    (encodeUrl e C16_idn_input).map (·.netloc) = .ok [] ∧
    (encodeUrl e C16_idn_input).bind (rawHost e) = .ok (some []) ∧
    (encodeUrl e C16_idn_input).bind (fun u => rawHost e (pickleTwin u)) = .ok none ∧
    (encodeUrl e C16_idn_input).bind (str e) = .ok "http:///p".toStr ∧
    ¬ GoodAuthority e C16_idn_input := by
  str_lits; intro e
  have hns : ¬ IdnaSaneAt e.o [233] := fun hs => absurd (hs.enc [] rfl).nonempty (by decide)
  refine ⟨hns, by decide +kernel, by decide +kernel, by decide +kernel, by decide +kernel, ?_⟩
  exact C09_guard_excludes e C16_idn_input []
    { rawHost := some [], explicitPort := none, rawUser := none, rawPassword := none }
    (.ok { rawHost := none, explicitPort := none, rawUser := none, rawPassword := none })
    (by decide +kernel) (by decide)

/-- The reg-name clause is stronger than C03 / C04 / C09 need (they need `hostChar` text only,
    `FixLemmas.hostFix_plain`); it is what the C16 sentence "registered names … reg-name grammar" needs for
    the CONSTRUCTOR, which does not validate: with the answer "a%zz" (the real stdlib fallback does answer
    "xn--%zz-goa" for "ü%zz") everything round-trips, but the stored host is not reg-name text, and
    `build` / `with_host` reject the same host. -/
theorem C16_idn_needs_regname :
    let e : Env := { b := .c, o := C16_idn_hostile "a%zz".toStr }
    ¬ IdnaSaneAt e.o [233] ∧
    (encodeUrl e C16_idn_input).bind (rawHost e) = .ok (some "a%zz".toStr) ∧ notRegName "a%zz".toStr = true ∧
    encodeHost e.o [233] true = .error .valueError ∧
    HostFix e.o "a%zz".toStr ∧
    (encodeUrl e C16_idn_input).bind (str e) = .ok "http://a%zz/p".toStr ∧
    (encodeUrl e "http://a%zz/p".toStr).bind (rawHost e) = .ok (some "a%zz".toStr) := by
  str_lits; intro e
  have hns : ¬ IdnaSaneAt e.o [233] := fun hs => absurd (hs.enc "a%zz".toStr rfl) (by decide)
  exact ⟨hns, by decide +kernel, by decide, by decide +kernel, FixLemmas.hostFix_plain _ (by decide) (by decide), by decide +kernel⟩

/-- NEEDED (for "the decoded host re-encodes" only): the round trip.  A table that is sane but decodes
    "xn--9ca" to "ë" and encodes "ë" to "xn--cda": `URL.host` is "ë", which encodes to another raw host. -/
theorem C16_idn_needs_roundtrip :
    let o : Oracles := { C16_idn_hostile [] with
      idnaEnc := fun s => if s = [233] then some (some "xn--9ca".toStr) else some (some "xn--cda".toStr),
      idnaDec := fun s => if s = "xn--9ca".toStr then some (some [235]) else none }
    let e : Env := { b := .c, o := o }
    IdnaSane o ∧ ¬ IdnaRoundTripAt o "xn--9ca".toStr ∧
    (encodeUrl e C16_idn_input).bind (rawHost e) = .ok (some "xn--9ca".toStr) ∧
    (encodeUrl e C16_idn_input).bind (host e) = .ok (some [235]) ∧
    encodeHost o [235] false = .ok "xn--cda".toStr := by
  str_lits; intro o e
  refine ⟨?_, ?_, by decide +kernel⟩
  · intro h _
    refine ⟨fun a ha => ?_, fun a ha _ => ?_⟩
    · have ha' : (if h = [233] then some (some "xn--9ca".toStr) else some (some "xn--cda".toStr)) = some (some a) := ha
      split at ha' <;> (cases ha'; decide)
    · have ha' : (if h = [233] then some (some "xn--9ca".toStr) else some (some "xn--cda".toStr)) = some none := ha
      split at ha' <;> cases ha'
  · intro hrt
    have := (hrt.nonAscii [235] rfl (by decide)).1
    have h2 : idnaEncode o [235] = .ok "xn--cda".toStr := by str_lits; decide +kernel
    rw [h2] at this
    exact absurd (Except.ok.inj this) (by decide)

/-! ## non-vacuity -/

section checks
private def eS : Env := { b := .c, o := C16_idn_sampleOracle }

-- "bücher" is an `IdnHostInput`; the scheme / path side conditions of `C16_idn_ctor`
example : IdnHostInput eS.o C16_idn_buecher :=
  ⟨by decide +kernel, by decide +kernel, by decide +kernel, ⟨false, by decide +kernel⟩, by decide +kernel⟩
example : IdnaSaneAt eS.o C16_idn_buecher := C16_idn_sane_satisfiable.1.at (by decide +kernel)
example : ValidScheme "http".toStr ∧ 35 ∉ "a/b".toStr ∧ 63 ∉ "a/b".toStr ∧ Clean "a/b".toStr ∧ Clean "f".toStr := by
  unfold Clean; decide +kernel
-- the constructor on "http://bücher/a/b#f"
example : (encodeUrl eS ("http://".toStr ++ C16_idn_buecher ++ "/a/b#f".toStr)).bind (rawHost eS)
    = .ok (some "xn--bcher-kva".toStr) := by str_lits; decide +kernel
example : (encodeUrl eS ("http://".toStr ++ C16_idn_buecher ++ "/a/b#f".toStr)).bind (host eS)
    = .ok (some C16_idn_buecher) := by str_lits; decide +kernel
example : (encodeUrl eS ("http://".toStr ++ C16_idn_buecher ++ "/a/b#f".toStr)).bind (str eS)
    = .ok "http://xn--bcher-kva/a/b#f".toStr := by str_lits; decide +kernel
-- `C16_idn_host_reencodes`, instantiated: the decoded host "bücher" encodes back to the stored raw host
example (u : Url) (hraw : rawHost eS u = .ok (some "xn--bcher-kva".toStr))
    (hh : host eS u = .ok (some C16_idn_buecher)) :
    encodeHost eS.o C16_idn_buecher false = .ok "xn--bcher-kva".toStr :=
  C16_idn_host_reencodes eS u _ _ hraw (by decide +kernel) C16_idn_sane_satisfiable.2.2.2.2.2.2 (fun _ => ⟨false, rfl⟩) hh
-- encodeHost hypotheses of `C16_idn_encoded_ascii_lower`
example : isAscii C16_idn_buecher = false ∧ parseIP (partition 37 C16_idn_buecher).1 = none ∧
    encodeHost eS.o C16_idn_buecher false = .ok "xn--bcher-kva".toStr ∧
    encodeHost eS.o C16_idn_buecher true = .ok "xn--bcher-kva".toStr := by str_lits; decide +kernel
-- the stdlib-fallback entry
example : encodeHost eS.o C16_idn_underscore false = .ok "xn--_x-wka.example".toStr := by str_lits; decide +kernel
-- a digit-ending answer without "xn--" (full-width "ａｂｃ1" ↦ "abc1") and an IPv4 answer are sane and kept
example : IdnaAnswerSane "abc1".toStr ∧ IdnaAnswerSane "1.2.3.4".toStr ∧ IdnaAnswerSane "xn--bcher-kva.h1".toStr := by
  str_lits; decide +kernel
example (o : Oracles) : encodeHost o "1.2.3.4".toStr true = .ok "1.2.3.4".toStr :=
  (C16_idn_idempotent o _ true (by decide +kernel)).1
end checks

end Yarl
