import YarlProofs.C03Reach
import YarlProofs.C03Netloc
import YarlProofs.C03Idn
import YarlProofs.C03Bracket
import YarlProofs.C15
import YarlProofs.C16
import YarlProofs.C16Idn
/-!
  C03Mech.lean — property C03, sentence 2 ("Normalisation is therefore idempotent: a second pass of encoding,
  decoding, case folding, default-port dropping, IDNA or dot-segment removal changes nothing"): PER-MECHANISM
  idempotence theorems at URL level and the `encoded=True` fixed point (C03Headline.lean GAPS 5 and 6 refer to them).

  Each theorem is about the SECOND pass on a URL `u` of the C03 domain: `s = str(u)`, `pt = split_url(s)`, and what
  one mechanism of `encode_url` does to the pieces of `pt`:
    (a) `C03_mech_case_folding` (+ `_zone_counterexample`)          (b) `C03_mech_requote_stored`, `_requote`, `_requote_both_backends`
    (c) `C03_mech_dot_segments_stored`, `_dot_segments` (+ `_no_authority`)   (d) `C03_mech_host`, `C03_mech_host_idna`
    (e) `C03_mech_default_port`                                      (f) `C03_mech_second_pass_identity` (+ `_reachable`, `_from_valid_input`)
    `encoded=True`: `C03_mech_encoded_true_fixed_point`, `C03_mech_encoded_true_noncanonical_counterexample`
    bracketed non-IPv6 hosts: `C03_mech_bracketed_host`.
  Helper lemmas: namespace `Yarl.R1`; the anatomy of the second pass (`R1.Anat`, `Stored.pass`) is in C03Reach.lean.
  Non-vacuity: C03MechChecks.lean.
-/
namespace Yarl
open ReachFix FixLemmas NetShape NetlocLemmas HostLemmas HumanLemmas BrHost

namespace R1

/-! ## host facts -/

/-- on an ASCII host `looksIP` does not consult the oracle -/
theorem looksIP_indep (o o' : Oracles) {h : Str} (ha : isAscii h = true) : looksIP o h = looksIP o' h := by
  rw [looksIP_of_ascii o ha, looksIP_of_ascii o' ha]

/-- on an ASCII host `_encode_host` consults no oracle at all (no IDNA, no `str.isdigit` table) -/
theorem encodeHost_indep (o o' : Oracles) {h : Str} (ha : isAscii h = true) (v : Bool) :
    encodeHost o h v = encodeHost o' h v := by
  rw [encodeHost_branch, encodeHost_branch, HostLemmas.regPath_ascii o v ha, HostLemmas.regPath_ascii o' v ha]
  unfold hostBranch
  rw [looksIP_indep o o' ha]

theorem lower_of_low {s : Str} (h : ∀ c ∈ s, c = 46 ∨ c = 58 ∨ isDigitC c = true ∨ (97 ≤ c ∧ c ≤ 102)) :
    lower s = s := by
  apply lower_of_all
  intro c hc
  rcases h c hc with rfl | rfl | hd | hd
  · rfl
  · rfl
  · exact lowerC_of_digit hd
  · unfold lowerC; rw [if_neg (by omega)]

/-- a text in brackets that `_encode_host` returned for an `h` without '[' is `[h]` -/
theorem unbracket_eq {h X r : Str} (h91 : 91 ∉ h) (hr : r = bracket h ∨ r = h) (hip : [91] ++ X ++ [93] = r) :
    h = X := by
  by_cases h58 : 58 ∈ h
  · rw [bracket_of_colon h58] at hr
    rcases hr with rfl | rfl
    · exact (List.append_cancel_left (List.append_cancel_right hip)).symm
    · exact absurd (hip ▸ by simp) h91
  · rw [bracket_of_no_colon h58, or_self] at hr
    subst hr
    exact absurd (hip ▸ by simp) h91

/-- CASE FOLDING, core: `h` is ASCII without '[', and `_encode_host(h)` is `h` itself, possibly in brackets.
    Then the part of `h` before an optional `%zone` is lower-case, and the whole of `h` is lower-case unless it is
    an IP literal with a zone id (which `_encode_host` copies verbatim, it never lower-cases it) -/
theorem host_case_core (o : Oracles) {h r : Str} (ha : isAscii h = true) (h91 : 91 ∉ h)
    (henc : encodeHost o h false = .ok r) (hr : r = bracket h ∨ r = h) :
    lower (partition 37 h).1 = (partition 37 h).1 ∧
    (lower h = h ∨ (parseIP (partition 37 h).1 ≠ none ∧ (partition 37 h).2.1 = true)) := by
  have low4 : ∀ {a : Str} {o4 : List Nat}, parseIP a = some (.v4 o4) → lower a = a := by
    intro a o4 hp
    exact lower_of_low (fun c hc =>
      (parseIPv4_chars (parseIP_some_v4.1 hp) c hc).imp_right (fun h => Or.inr (Or.inl h)))
  have low6 : ∀ h8 : List Nat, lower (ipv6ToStr h8) = ipv6ToStr h8 := fun h8 =>
    lower_of_low (fun c hc => Or.inr (C16_ipv6_text_lower h8 c hc))
  have key : lower h = h ∨ (parseIP (partition 37 h).1 ≠ none ∧ (partition 37 h).2.1 = true ∧
      lower (partition 37 h).1 = (partition 37 h).1) := by
    rcases encodeHost_cases henc with hip | hreg
    · -- the IP branch
      cases hp : parseIP (partition 37 h).1 with
      | none =>
        rw [ipRes_eq_none.2 hp] at hip
        cases hip
      | some ip =>
        have hfst : lower (partition 37 h).1 = (partition 37 h).1 := by
          cases ip with
          | v4 o4 => exact low4 hp
          | v6 h8 =>
            obtain rfl := Option.some.inj ((ipRes_of_v6 hp).symm.trans hip)
            have hX : h = ipv6ToStr h8 ++ StrTotal.zonePart h := unbracket_eq h91 hr (by simp)
            have : (partition 37 h).1 = ipv6ToStr h8 := by
              unfold StrTotal.zonePart at hX
              cases hsep : (partition 37 h).2.1 with
              | true =>
                rw [hsep, if_pos rfl, List.singleton_append] at hX
                have h2 := congrArg (fun s => (partition 37 s).1) hX
                rwa [partition_found 37 _ _ (C16_ipv6_text_no_pct_dot h8).1] at h2
              | false =>
                rw [hsep, if_neg Bool.false_ne_true, List.append_nil] at hX
                rw [partition_of_nosep hsep]
                exact hX
            rw [this]
            exact low6 h8
        cases hsep : (partition 37 h).2.1 with
        | true => exact .inr ⟨nofun, rfl, hfst⟩
        | false =>
          rw [partition_of_nosep hsep] at hfst
          exact .inl hfst
    · -- the reg-name branch: `lower h = r`
      left
      have hreg := ((regPath_ok_of_ascii ha).1 hreg).1.symm
      rcases hr with rfl | rfl
      · unfold bracket at hreg
        split at hreg
        · have := congrArg List.length hreg
          simp [lower] at this
          omega
        · exact hreg
      · exact hreg
  refine ⟨?_, ?_⟩
  · rcases key with h1 | ⟨_, _, h3⟩
    · have := HostLemmas.partition_fst_lower 37 (by decide) h
      rw [h1] at this
      exact this.symm
    · exact h3
  · exact key.imp_right fun ⟨h1, h2, _⟩ => ⟨h1, h2⟩

theorem hostFix_case (o : Oracles) {h : Str} (hh : HostFix o h) :
    lower (partition 37 h).1 = (partition 37 h).1 ∧
    (lower h = h ∨ (parseIP (partition 37 h).1 ≠ none ∧ (partition 37 h).2.1 = true)) :=
  host_case_core o (FixLemmas.isAscii_of_chars hh.chars) hh.ok.2.2.1 hh.enc (Or.inl rfl)

/-- the bracket-keeping step and the `raw_host` step of `encode_url` on what `_encode_host` returned -/
theorem host_steps {e : Env} {user pw : Option Str} {h : Str} (port : Option Nat)
    (hu : UserInfoOK e.b user pw) (hh : HostFix e.o h) :
    (if mem 91 (rpartition 64 (authText user pw h port)).2.2 && !mem 91 (bracket h) then [91] ++ bracket h ++ [93]
      else bracket h) = bracket h ∧
    (if mem 91 (bracket h) then ((bracket h).drop 1).dropLast else bracket h) = h := by
  exact ⟨keep_bracket (fun h58 hm =>
    authText_no91 port hu hh h58 (ParseLemmas.mem_of_mem_rpartition_snd_snd hm)), unbracket_bracket h hh.ok⟩

/-! ## the second pass under an authority around a `HostFix` host, packaged -/

theorem auth_pass (e : Env) (u : Url) (hc : CanonUrl e.b u) (hs : SchemeOK' u.scheme)
    (user pw : Option Str) (host : Str) (port : Option Nat) (hsh : AuthShape e u user pw host port) :
    Anat e u (authText user pw host (strPort u.scheme port)) (some (preOf user pw host (strPort u.scheme port))) ∧
    splitNetloc e.o (authText user pw host (strPort u.scheme port)) =
      .ok { user := user, password := pw, host := some host, port := strPort u.scheme port } ∧
    authText user pw host (strPort u.scheme port) ≠ [] ∧ u.netloc ≠ [] ∧
    rawHost e u = .ok (some host) ∧ rawUser e u = .ok user ∧ rawPassword e u = .ok pw ∧
    explicitPort e u = .ok port ∧ hostSubcomponent e u = .ok (some (bracket host)) := by
  obtain ⟨a2, a3, a5, a4, a1⟩ := AuthMod.acc_of_net e u _ hsh.net
  exact ⟨strNet_bracket u.scheme user pw host port ▸ (hsh.stored.pass hc hs).1,
    netloc_roundtrip e.o id user pw host _ (userOK_of hsh.userinfo) hsh.fixed.ok (strPort_range u.scheme port hsh.range),
    makeNetloc_ne_nil id user pw hsh.fixed.ok.1 _, hsh.ne, a5, a2, a3, a4, a1⟩

theorem empty_pass (e : Env) (u : Url) (hc : CanonUrl e.b u) (hs : SchemeOK' u.scheme) (hg : C03Guards u)
    (hn : u.netloc = []) (hpre : u.pre = none) :
    Anat e u [] none ∧ C07_strPath u = u.path ∧
    rawHost e u = .ok none ∧ rawUser e u = .ok none ∧ rawPassword e u = .ok none ∧ explicitPort e u = .ok none := by
  have hN := net_empty e u hn hpre
  obtain ⟨a2, a3, a5, a4, _⟩ := AuthMod.acc_of_net e u _ hN
  exact ⟨anat_empty e u hc hs hg hn hpre, strPath_of_no_netloc u hn, a5, a2, a3, a4⟩

theorem scheme_lower {sc : Str} (hs : SchemeOK' sc) : lower sc = sc := by
  rcases scheme_ok_of hs with h | h
  · rw [h]; rfl
  · exact h.2

end R1

/-! # C03, sentence 2 — PER-MECHANISM idempotence at URL level, and `encoded=True`

  DOMAIN.  All theorems take the hypotheses of `C03_fixed_point_of_canon` / `C03_fixed_point_eq` on the stored
  record `u` (the WIDEST domain of the C03 headline theorems):
    `CanonUrl e.b u`    — the invariant of every URL the auto-encoding API produces (`C03_reachable_canon`:
                          `ReachC e u → CanonUrl e.b u`; so every theorem holds for `ReachC` / `ReachV` URLs,
                          see `C03_mech_second_pass_identity_reachable` / `_from_valid_input`);
    `NetlocCanon e u`   — "syntactically valid host" on the stored side (derived from the input by
                          `C03_encodeUrl_netlocCanon`, `C03_build_netlocCanon`, `C03_reachV_netlocCanon`);
                          the combined corollary and the `encoded=True` theorem are proved for the wider
                          `NetlocCanonB` (bracketed non-IPv6 hosts included);
    `SchemeOK' u.scheme`, `C03Guards u` — RFC-valid scheme; the two recorded exclusions F-C03-colon / F-C03-rootless.
  THE SECOND PASS is spelled out in every statement: `s = str(u)`, `pt = split_url(s)` (the five raw pieces the
  second `encode_url` starts from), `np = split_netloc(pt.netloc)`; each theorem says what ONE mechanism of
  `encode_url` does to these pieces. -/

open R1

/-- (a) CASE FOLDING.  The second pass lower-cases the scheme (in `split_url`) and the host (in `_encode_host`,
    reg-name branch only).  Both are fixed points: `lower u.scheme = u.scheme`; the host `h` that the second pass
    splits off is the stored `raw_host`, it is ASCII, its address part (the text before an optional `%zone`) is
    lower-case, and the WHOLE host is lower-case unless it is an IP literal followed by a `%zone` — `_encode_host`
    copies a zone id verbatim, it applies no lower-casing to it (`C03_mech_case_folding_zone_counterexample`). -/
theorem C03_mech_case_folding (e : Env) (u : Url) (hc : CanonUrl e.b u) (hnet : NetlocCanon e u)
    (hs : SchemeOK' u.scheme) (hg : C03Guards u) :
    ∃ s pt, str e u = .ok s ∧ splitUrl e.o s = .ok pt ∧
      pt.scheme = u.scheme ∧ lower u.scheme = u.scheme ∧ lower pt.scheme = pt.scheme ∧
      ((pt.netloc = [] ∧ u.netloc = [] ∧ rawHost e u = .ok none) ∨
       ∃ np h, splitNetloc e.o pt.netloc = .ok np ∧ np.host = some h ∧ rawHost e u = .ok (some h) ∧
         isAscii h = true ∧ lower (partition 37 h).1 = (partition 37 h).1 ∧
         (lower h = h ∨ (parseIP (partition 37 h).1 ≠ none ∧ (partition 37 h).2.1 = true))) := by
  have hl := scheme_lower hs
  cases hnet with
  | empty hn hpre =>
    obtain ⟨ha, _, h5, _⟩ := empty_pass e u hc hs hg hn hpre
    exact ⟨_, _, ha.str_eq, ha.split, rfl, hl, hl, Or.inl ⟨rfl, hn, h5⟩⟩
  | auth user pw host port hn hu hh hp hpre =>
    obtain ⟨ha, h4, _, _, h7, _⟩ := auth_pass e u hc hs user pw host port ⟨hn, hu, hh, hp, hpre⟩
    obtain ⟨c1, c2⟩ := hostFix_case e.o hh
    exact ⟨_, _, ha.str_eq, ha.split, rfl, hl, hl, Or.inr ⟨_, host, h4, rfl, h7, FixLemmas.isAscii_of_chars hh.chars, c1, c2⟩⟩

/-- (b) ENCODING / DECODING, on the STORED record (needs only `CanonUrl` and `NetlocCanon`): each requoter —
    percent-decoding of superfluous escapes followed by re-encoding, generated quoter configuration, backend
    `e.b` — returns the stored component unchanged: REQUOTER on `raw_user` / `raw_password`, PATH_REQUOTER on the
    path, QUERY_REQUOTER on the query, FRAGMENT_REQUOTER on the fragment. -/
theorem C03_mech_requote_stored (e : Env) (u : Url) (hc : CanonUrl e.b u) (hnet : NetlocCanon e u) :
    q e Gen.PATH_REQUOTER u.path = u.path ∧ q e Gen.QUERY_REQUOTER u.query = u.query ∧
    q e Gen.FRAGMENT_REQUOTER u.fragment = u.fragment ∧
    ∃ user pw, rawUser e u = .ok user ∧ rawPassword e u = .ok pw ∧
      (∀ x, user = some x → x ≠ [] ∧ q e Gen.REQUOTER x = x) ∧ (∀ x, pw = some x → q e Gen.REQUOTER x = x) := by
  refine ⟨run_fixed e.b _ pr_mem rfl hc.path, run_fixed e.b _ qr_mem rfl hc.query,
    run_fixed e.b _ fr_mem rfl hc.fragment, ?_⟩
  cases hnet with
  | empty hn hpre =>
    obtain ⟨a2, a3, _⟩ := AuthMod.acc_of_net e u _ (net_empty e u hn hpre)
    exact ⟨none, none, a2, a3, fun x hx => (by cases hx), fun x hx => (by cases hx)⟩
  | auth user pw host port hn hu hh hp hpre =>
    obtain ⟨a2, a3, _⟩ := AuthMod.acc_of_net e u _ (net_auth e u user pw host port hn hu hh hp hpre)
    exact ⟨user, pw, a2, a3, fun x hx => ⟨(hu.user x hx).1, run_fixed e.b _ mem_REQUOTER rfl (hu.user x hx).2⟩,
      fun x hx => run_fixed e.b _ mem_REQUOTER rfl (hu.pw x hx)⟩

/-- (b) "both backends": the domain does not depend on the backend (the generated tables of the Python and the C
    quoter agree, `tab_eq_c`), so `C03_mech_requote_stored` and every other theorem of this file hold for the pure-Python
    AND the C quoter as soon as the hypotheses hold for one of them. -/
theorem C03_mech_requote_both_backends (b b' : Backend) (o : Oracles) (u : Url) (hc : CanonUrl b u)
    (hnet : NetlocCanon ⟨b, o⟩ u) : CanonUrl b' u ∧ NetlocCanon ⟨b', o⟩ u := by
  have t : ∀ a ∈ Gen.allQuoters, a.tab b = a.tab b' := fun a ha => (tab_eq_c a ha b).trans (tab_eq_c a ha b').symm
  refine ⟨⟨t _ pr_mem ▸ hc.path, t _ qr_mem ▸ hc.query, t _ fr_mem ▸ hc.fragment, hc.nodots, hc.rooted⟩, ?_⟩
  cases hnet with
  | empty hn hpre => exact NetlocCanon.empty hn hpre
  | auth user pw host port hn hu hh hp hpre =>
    exact NetlocCanon.auth user pw host port hn
      ⟨fun x hx => ⟨(hu.user x hx).1, t _ mem_REQUOTER ▸ (hu.user x hx).2⟩, fun x hx => t _ mem_REQUOTER ▸ hu.pw x hx⟩ hh hp hpre

/-- (b) ENCODING / DECODING in the SECOND PASS: the pieces `split_url(str(u))` hands to the requoters are the
    stored components (the path with the "/" `str` inserts for an empty path), `split_netloc` of the authority
    gives back `raw_user` / `raw_password`, and every requoter call of `encode_url` —
    `PATH_REQUOTER(path)`, `QUERY_REQUOTER(query)`, `FRAGMENT_REQUOTER(fragment)`, `REQUOTER(user) or None`,
    `REQUOTER(password)` — returns its argument. -/
theorem C03_mech_requote (e : Env) (u : Url) (hc : CanonUrl e.b u) (hnet : NetlocCanon e u)
    (hs : SchemeOK' u.scheme) (hg : C03Guards u) :
    ∃ s pt, str e u = .ok s ∧ splitUrl e.o s = .ok pt ∧
      pt.path = C07_strPath u ∧ q e Gen.PATH_REQUOTER pt.path = pt.path ∧
      pt.query = u.query ∧ q e Gen.QUERY_REQUOTER pt.query = pt.query ∧
      pt.fragment = u.fragment ∧ q e Gen.FRAGMENT_REQUOTER pt.fragment = pt.fragment ∧
      ((pt.netloc = [] ∧ rawUser e u = .ok none ∧ rawPassword e u = .ok none) ∨
       ∃ np, splitNetloc e.o pt.netloc = .ok np ∧ rawUser e u = .ok np.user ∧ rawPassword e u = .ok np.password ∧
         (∀ x, np.user = some x → x ≠ [] ∧ q e Gen.REQUOTER x = x) ∧
         (∀ x, np.password = some x → q e Gen.REQUOTER x = x) ∧
         (requoteOpt e np.user).bind (fun s => if s.isEmpty then none else some s) = np.user ∧
         requoteOpt e np.password = np.password) := by
  have hq := run_fixed e.b _ qr_mem rfl hc.query
  have hf := run_fixed e.b _ fr_mem rfl hc.fragment
  have hp' : q e Gen.PATH_REQUOTER (C07_strPath u) = C07_strPath u :=
    run_fixed e.b _ pr_mem rfl (strPath_canon e.b u hc).1
  cases hnet with
  | empty hn hpre =>
    obtain ⟨ha, _, _, h6, h7, _⟩ := empty_pass e u hc hs hg hn hpre
    exact ⟨_, _, ha.str_eq, ha.split, rfl, hp', rfl, hq, rfl, hf, Or.inl ⟨rfl, h6, h7⟩⟩
  | auth user pw host port hn hu hh hp hpre =>
    obtain ⟨ha, h4, _, _, _, h8, h9, _⟩ := auth_pass e u hc hs user pw host port ⟨hn, hu, hh, hp, hpre⟩
    refine ⟨_, _, ha.str_eq, ha.split, rfl, hp', rfl, hq, rfl, hf, Or.inr ⟨_, h4, h8, h9,
      fun x hx => ⟨(hu.user x hx).1, run_fixed e.b _ mem_REQUOTER rfl (hu.user x hx).2⟩,
      fun x hx => run_fixed e.b _ mem_REQUOTER rfl (hu.pw x hx), ?_, requoteOpt_user (fun x hx => hu.pw x hx)⟩⟩
    show (requoteOpt e user).bind _ = user
    rw [requoteOpt_user (fun x hx => (hu.user x hx).2)]
    cases user with
    | none => rfl
    | some x =>
      cases x with
      | nil => exact absurd rfl (hu.user [] rfl).1
      | cons _ _ => rfl

/-- a path that is empty or starts with '/' and has no dot segment is a fixed point of `normalize_path` and of
    RFC 3986 §5.2.4 `remove_dot_segments` -/
theorem R1.rds_fixed {p : Str} (hr : p = [] ∨ p.head? = some 47) (hd : NoDotSegments p) :
    normalizePath p = p ∧ Rfc.removeDotSegments p = p := by
  have hn : normalizePath p = p := normalizePath_noDotSegs hd
  refine ⟨hn, ?_⟩
  rcases hr with rfl | hr
  · rfl
  · cases p with
    | nil => cases hr
    | cons c r =>
      simp only [List.head?_cons, Option.some.injEq] at hr
      subst hr
      rw [← C15_rfc r, hn]

/-- (c) on the STORED record (needs only `CanonUrl` and a non-empty authority): no dot segment, fixed point of
    `normalize_path` and of RFC 3986 §5.2.4 -/
theorem C03_mech_dot_segments_stored (b : Backend) (u : Url) (hc : CanonUrl b u) (hne : u.netloc ≠ []) :
    NoDotSegments u.path ∧ normalizePath u.path = u.path ∧ Rfc.removeDotSegments u.path = u.path :=
  ⟨hc.nodots hne, R1.rds_fixed (hc.rooted hne) (hc.nodots hne)⟩

/-- (c) DOT-SEGMENT REMOVAL.  Under a non-empty authority the stored path has no "." / ".." segment and is a fixed
    point of `normalize_path` (and of RFC 3986 `remove_dot_segments`); in the second pass the authority is non-empty
    exactly when the stored one is, the path piece is the stored path (or "/"), and the guarded call of `encode_url`
    — `if netloc and "." in path: path = normalize_path(path)`, after requoting — returns the piece unchanged.
    WITHOUT an authority the clause `normalizePath u.path = u.path` is false (`C03_mech_dot_segments_no_authority`)
    but `encode_url` does not call `normalize_path` then, so the guarded call is still the identity. -/
theorem C03_mech_dot_segments (e : Env) (u : Url) (hc : CanonUrl e.b u) (hnet : NetlocCanon e u)
    (hs : SchemeOK' u.scheme) (hg : C03Guards u) :
    (u.netloc ≠ [] → NoDotSegments u.path ∧ normalizePath u.path = u.path ∧ Rfc.removeDotSegments u.path = u.path) ∧
    ∃ s pt, str e u = .ok s ∧ splitUrl e.o s = .ok pt ∧ (pt.netloc = [] ↔ u.netloc = []) ∧
      pt.path = C07_strPath u ∧
      (pt.netloc ≠ [] → NoDotSegments pt.path ∧ normalizePath pt.path = pt.path ∧
        Rfc.removeDotSegments pt.path = pt.path) ∧
      (if !pt.netloc.isEmpty && mem 46 (q e Gen.PATH_REQUOTER pt.path) then normalizePath (q e Gen.PATH_REQUOTER pt.path)
        else q e Gen.PATH_REQUOTER pt.path) = pt.path ∧
      (46 ∉ pt.path → normalizePath pt.path = pt.path) := by
  obtain ⟨hPc, hPd, hPr⟩ := strPath_canon e.b u hc
  have hp' : q e Gen.PATH_REQUOTER (C07_strPath u) = C07_strPath u := run_fixed e.b _ pr_mem rfl hPc
  have key : ∀ N : Str, (N = [] ↔ u.netloc = []) →
      (N ≠ [] → NoDotSegments (C07_strPath u) ∧ normalizePath (C07_strPath u) = C07_strPath u ∧
        Rfc.removeDotSegments (C07_strPath u) = C07_strPath u) ∧
      (if !N.isEmpty && mem 46 (q e Gen.PATH_REQUOTER (C07_strPath u)) then
          normalizePath (q e Gen.PATH_REQUOTER (C07_strPath u))
        else q e Gen.PATH_REQUOTER (C07_strPath u)) = C07_strPath u := by
    intro N hN
    have h1 : N ≠ [] → NoDotSegments (C07_strPath u) ∧ normalizePath (C07_strPath u) = C07_strPath u ∧
        Rfc.removeDotSegments (C07_strPath u) = C07_strPath u := by
      intro hne
      have hune : u.netloc ≠ [] := fun h => hne (hN.2 h)
      exact ⟨hPd hune, R1.rds_fixed (hPr hune) (hPd hune)⟩
    refine ⟨h1, ?_⟩
    rw [hp']
    split
    · rename_i h
      simp only [Bool.and_eq_true, Bool.not_eq_true', List.isEmpty_eq_false_iff] at h
      exact (h1 h.1).2.1
    · rfl
  refine ⟨C03_mech_dot_segments_stored e.b u hc, ?_⟩
  cases hnet with
  | empty hn hpre =>
    obtain ⟨ha, _⟩ := empty_pass e u hc hs hg hn hpre
    obtain ⟨k1, k2⟩ := key [] (by simp [hn])
    exact ⟨_, _, ha.str_eq, ha.split, by simp [hn], rfl, k1, k2, C15_dot_guard_sound _⟩
  | auth user pw host port hn hu hh hp hpre =>
    obtain ⟨ha, _, h5, h6, _⟩ := auth_pass e u hc hs user pw host port ⟨hn, hu, hh, hp, hpre⟩
    obtain ⟨k1, k2⟩ := key (authText user pw host (strPort u.scheme port)) (by simp [h5, h6])
    exact ⟨_, _, ha.str_eq, ha.split, by simp [h5, h6], rfl, k1, k2, C15_dot_guard_sound _⟩

/-- (c) the corner: WITHOUT an authority dot segments are kept by the library (both passes; `encode_url` only
    normalises under an authority), so `normalizePath u.path = u.path` fails there, while the second pass is still the
    identity.  Python: `URL('a/./b')` has raw_path 'a/./b', `str(URL(str(URL('a/./b')))) == 'a/./b'`. -/
theorem C03_mech_dot_segments_no_authority (b : Backend) :
    let e : Env := ⟨b, Oracles.empty⟩
    let u : Url := fromParts [] [] "a/./b".toStr [] []
    encodeUrl e "a/./b".toStr = .ok u ∧ CanonUrl b u ∧ NetlocCanon e u ∧ SchemeOK' u.scheme ∧ C03Guards u ∧
    normalizePath u.path = "a/b".toStr ∧ normalizePath u.path ≠ u.path ∧ str e u = .ok "a/./b".toStr := by
  refine ⟨by cases b <;> decide +kernel, canonUrlB_sound (by cases b <;> decide +kernel), NetlocCanon.empty rfl rfl,
    by decide, by decide, by decide, by decide, by cases b <;> decide +kernel⟩

/-- (d) HOST CANONICALISATION incl. IDNA.  The host `h` the second pass splits off is the stored `raw_host`; it is
    ASCII; `_encode_host(h)` returns `h` again — in brackets exactly when it contains ':' (`bracket h` is what
    `host_subcomponent` shows) — for EVERY oracle, i.e. without consulting IDNA or any Unicode table; the
    bracket-keeping step of `encode_url` changes nothing and the `raw_host` it caches is `h`. -/
theorem C03_mech_host (e : Env) (u : Url) (hc : CanonUrl e.b u) (hnet : NetlocCanon e u)
    (hs : SchemeOK' u.scheme) (hg : C03Guards u) :
    ∃ s pt, str e u = .ok s ∧ splitUrl e.o s = .ok pt ∧
      ((pt.netloc = [] ∧ u.netloc = [] ∧ rawHost e u = .ok none) ∨
       ∃ np h, splitNetloc e.o pt.netloc = .ok np ∧ np.host = some h ∧ rawHost e u = .ok (some h) ∧
         hostSubcomponent e u = .ok (some (bracket h)) ∧ isAscii h = true ∧
         encodeHost e.o h false = .ok (bracket h) ∧ (58 ∉ h → encodeHost e.o h false = .ok h) ∧
         (∀ o' : Oracles, encodeHost o' h false = .ok (bracket h)) ∧
         (if mem 91 (rpartition 64 pt.netloc).2.2 && !mem 91 (bracket h) then [91] ++ bracket h ++ [93]
           else bracket h) = bracket h ∧
         (if mem 91 (bracket h) then ((bracket h).drop 1).dropLast else bracket h) = h) := by
  cases hnet with
  | empty hn hpre =>
    obtain ⟨ha, _, h5, _⟩ := empty_pass e u hc hs hg hn hpre
    exact ⟨_, _, ha.str_eq, ha.split, Or.inl ⟨rfl, hn, h5⟩⟩
  | auth user pw host port hn hu hh hp hpre =>
    obtain ⟨ha, h4, _, _, h7, _, _, _, h11⟩ := auth_pass e u hc hs user pw host port ⟨hn, hu, hh, hp, hpre⟩
    have hasc := FixLemmas.isAscii_of_chars hh.chars
    obtain ⟨s1, s2⟩ := host_steps (strPort u.scheme port) hu hh
    exact ⟨_, _, ha.str_eq, ha.split, Or.inr ⟨_, host, h4, rfl, h7, h11, hasc, hh.enc,
      fun h58 => by rw [hh.enc, bracket_of_no_colon h58],
      fun o' => by rw [← encodeHost_indep e.o o' hasc]; exact hh.enc, s1, s2⟩⟩

/-- (e) DEFAULT-PORT DROPPING.  The authority piece of `str(u)` carries the port `strPort u.scheme port` — the stored
    explicit port unless it is the scheme default — so it NEVER carries the default port of `u.scheme`; the second
    pass stores that piece unchanged (`u'.netloc = pt.netloc`), `u'` has no explicit default port, `str(u') = str(u)`
    (nothing further is dropped; the third pass returns `u'` itself).  The stored netloc changes in the second pass
    EXACTLY when `u` stores an explicit default port (`NoDefaultPort`, the condition of `C03_fixed_point_eq` /
    `C03_headline_equal_iff_no_default_port`); that is the pass in which ":<default>" disappears from the stored
    netloc: then `explicit_port` becomes `None` while `port` stays. -/
theorem C03_mech_default_port (e : Env) (u : Url) (hc : CanonUrl e.b u) (hnet : NetlocCanon e u)
    (hs : SchemeOK' u.scheme) (hg : C03Guards u) :
    ∃ s pt u', str e u = .ok s ∧ splitUrl e.o s = .ok pt ∧ encodeUrl e s = .ok u' ∧
      ((pt.netloc = [] ∧ explicitPort e u = .ok none) ∨
       ∃ np port, splitNetloc e.o pt.netloc = .ok np ∧ explicitPort e u = .ok port ∧
         np.port = strPort u.scheme port ∧ (∀ p, np.port = some p → some p ≠ defaultPort u.scheme)) ∧
      u'.netloc = pt.netloc ∧ u'.scheme = u.scheme ∧
      (∀ p, explicitPort e u' = .ok (some p) → some p ≠ defaultPort u'.scheme) ∧
      str e u' = .ok s ∧ (str e u' >>= encodeUrl e) = .ok u' ∧
      (u'.netloc = u.netloc ↔ NoDefaultPort e u) ∧
      (∀ p, explicitPort e u = .ok (some p) → some p = defaultPort u.scheme →
        explicitPort e u' = .ok none ∧ u'.netloc ≠ u.netloc ∧ port e u' = .ok (some p) ∧ port e u = .ok (some p)) := by
  obtain ⟨s, u', f1, f2, f3, f4, _, _, _, f8, _, _, f11, _⟩ := C03_fixed_point_eq e u hc hnet hs hg
  have hthird : (str e u' >>= encodeUrl e) = .ok u' := by rw [f3]; exact f2
  cases hnet with
  | empty hn hpre =>
    obtain ⟨ha, _, _, _, _, h8⟩ := empty_pass e u hc hs hg hn hpre
    have h1 := ha.str_eq
    rw [f1] at h1; cases h1
    have h3 := ha.encode hc
    rw [f2] at h3; cases h3
    refine ⟨_, _, _, f1, ha.split, f2, Or.inl ⟨rfl, h8⟩, rfl, rfl, ?_, f3, hthird, f8, ?_⟩
    · intro p hp; cases hp
    · intro p hp; rw [h8] at hp; cases hp
  | auth user pw host port hn hu hh hp hpre =>
    obtain ⟨ha, h4, _, _, _, _, _, h10, _⟩ := auth_pass e u hc hs user pw host port ⟨hn, hu, hh, hp, hpre⟩
    have h1 := ha.str_eq
    rw [f1] at h1; cases h1
    have h3 := ha.encode hc
    rw [f2] at h3; cases h3
    refine ⟨_, _, _, f1, ha.split, f2, Or.inr ⟨_, port, h4, h10, rfl, fun p hp' => strPort_notDefault u.scheme port p hp'⟩,
      rfl, rfl, ?_, f3, hthird, f8, ?_⟩
    · intro p hp'
      have : strPort u.scheme port = some p := by
        have : explicitPort e (Url.mk u.scheme (authText user pw host (strPort u.scheme port)) (C07_strPath u) u.query
            u.fragment (some (preOf user pw host (strPort u.scheme port)))) = .ok (strPort u.scheme port) := rfl
        rw [this] at hp'
        exact Except.ok.inj hp'
      exact strPort_notDefault u.scheme port p this
    · intro p hp' hd
      rw [h10] at hp'
      have hport : port = some p := Except.ok.inj hp'
      subst hport
      have hsp : strPort u.scheme (some p) = none := strPort_default hd
      have hnd : ¬ NoDefaultPort e u := fun h => h p h10 hd
      refine ⟨?_, fun h => hnd (f8.1 h), ?_, ?_⟩
      · show Except.ok (strPort u.scheme (some p)) = _
        rw [hsp]
      · rw [f11]; unfold Yarl.port; rw [h10]; rfl
      · unfold Yarl.port; rw [h10]; rfl

/-! ## (f) the combined corollary, and `encoded=True` — for `NetlocCanonB` -/

namespace R1

/-- the second pass as a record, for every valid stored authority (bracketed non-IPv6 hosts included), with the
    lazily computed cache of the authority piece -/
theorem anat_exists (e : Env) (u : Url) (hc : CanonUrl e.b u) (hnet : NetlocCanonB e u) (hs : SchemeOK' u.scheme)
    (hg : C03Guards u) :
    ∃ N pre', Anat e u N pre' ∧
      net e (Url.mk u.scheme N (C07_strPath u) u.query u.fragment none) =
        net e (Url.mk u.scheme N (C07_strPath u) u.query u.fragment pre') := by
  rcases netlocCanonB_iff.1 hnet with ⟨hn, hpre⟩ | ⟨user, pw, W, h, port, st⟩
  · exact ⟨[], none, anat_empty e u hc hs hg hn hpre, rfl⟩
  · obtain ⟨a, ⟨W', _, w', heq⟩, _⟩ := st.pass hc hs
    exact ⟨_, _, a, net_of_reads _ heq (userOK_of st.userinfo) w'.reads w'.ok.1 (strPort_range u.scheme port st.range)
      (.inl rfl)⟩

/-- `str` reads the authority only through the cache `net` -/
theorem str_congr (e : Env) (a b : Url) (h1 : a.scheme = b.scheme) (h2 : a.netloc = b.netloc) (h3 : a.path = b.path)
    (h4 : a.query = b.query) (h5 : a.fragment = b.fragment) (hN : net e a = net e b) : str e a = str e b := by
  unfold str explicitPort hostSubcomponent rawUser rawPassword rawHost
  rw [hN, h1, h2, h3, h4, h5]

end R1

/-- (f) THE SECOND PASS IS THE IDENTITY ON THE SPLIT PIECES.  For `s = str(u)` and `pt = split_url(s)`, the URL
    `u' = encode_url(s)` stores exactly the five pieces of `pt`; stage by stage (`encodeUrl_eq`: `encode_url` is
    `split_url`, then the authority block `netBlock`, then `encPath` / `encQuery` / `encFragment`): the authority
    block maps `pt.netloc` to itself, and the three component encoders map their piece to itself.  The pieces are
    the stored components of `u` (the path as `str` wrote it; the authority with the default port dropped: it is
    the stored one exactly when no explicit default port is stored).
    Domain: `NetlocCanonB`, i.e. `NetlocCanon` or a bracketed non-IPv6 host. -/
theorem C03_mech_second_pass_identity (e : Env) (u : Url) (hc : CanonUrl e.b u) (hnet : NetlocCanonB e u)
    (hs : SchemeOK' u.scheme) (hg : C03Guards u) :
    ∃ s pt u', str e u = .ok s ∧ splitUrl e.o s = .ok pt ∧ encodeUrl e s = .ok u' ∧
      u'.scheme = pt.scheme ∧ u'.netloc = pt.netloc ∧ u'.path = pt.path ∧ u'.query = pt.query ∧
      u'.fragment = pt.fragment ∧
      netBlock e pt.scheme pt.netloc = .ok (pt.netloc, u'.pre) ∧
      encPath e pt.netloc pt.path = pt.path ∧ encQuery e pt.query = pt.query ∧
      encFragment e pt.fragment = pt.fragment ∧
      pt.scheme = u.scheme ∧ pt.path = C07_strPath u ∧ pt.query = u.query ∧ pt.fragment = u.fragment ∧
      (pt.netloc = u.netloc ↔ NoDefaultPort e u) := by
  obtain ⟨N, pre', ha, _⟩ := anat_exists e u hc hnet hs hg
  obtain ⟨s, u', f1, f2, _, _, _, _, _, f8, _⟩ := C03_fixed_point_of_canonB e u hc hnet hs hg
  have h1 := ha.str_eq
  rw [f1] at h1; cases h1
  have h3 := ha.encode hc
  rw [f2] at h3; cases h3
  exact ⟨_, _, _, f1, ha.split, f2, rfl, rfl, rfl, rfl, rfl, ha.block, strPath_fixed e u hc N ha.emp,
    encQuery_fixed e hc.query, encFragment_fixed e hc.fragment, rfl, rfl, rfl, rfl, f8⟩

/-- (f) for "every URL the library produces": `ReachC` (constructor, `build(encoded=False)`, the 19 operations,
    `join`) with the hypotheses of `C03_headline_identical_string_form` -/
theorem C03_mech_second_pass_identity_reachable (e : Env) (u : Url) (hreach : ReachC e u) (hnet : NetlocCanon e u)
    (hs : SchemeOK' u.scheme) (hg : C03Guards u) :
    ∃ s pt u', str e u = .ok s ∧ splitUrl e.o s = .ok pt ∧ encodeUrl e s = .ok u' ∧
      u'.scheme = pt.scheme ∧ u'.netloc = pt.netloc ∧ u'.path = pt.path ∧ u'.query = pt.query ∧
      u'.fragment = pt.fragment := by
  obtain ⟨s, pt, u', h1, h2, h3, h4, h5, h6, h7, h8, _⟩ :=
    C03_mech_second_pass_identity e u (C03_reachable_canon e u hreach) (.plain hnet) hs hg
  exact ⟨s, pt, u', h1, h2, h3, h4, h5, h6, h7, h8⟩

/-- (f) with the hypotheses of `C03_headline_reachable_from_valid_input`: produced from valid input (`ReachV`, no
    hypothesis on the stored authority) -/
theorem C03_mech_second_pass_identity_from_valid_input (e : Env) (u : Url) (hr : ReachV e u)
    (hs : SchemeOK' u.scheme) (hg : C03Guards u) :
    ∃ s pt u', str e u = .ok s ∧ splitUrl e.o s = .ok pt ∧ encodeUrl e s = .ok u' ∧
      u'.scheme = pt.scheme ∧ u'.netloc = pt.netloc ∧ u'.path = pt.path ∧ u'.query = pt.query ∧
      u'.fragment = pt.fragment :=
  C03_mech_second_pass_identity_reachable e u (C03_reachV_reachC e u hr) (C03_reachV_netlocCanon e u hr) hs hg

/-- `encoded=True` on a CANONICAL string.  For `s = str(u)` with `u` as above, `URL(s, encoded=True)`
    (`preEncodedUrl`, which only splits) and `URL(s)` (`encodeUrl`) store the same five parts: `v` is `u'` without the
    pre-filled cache (`pickleTwin`), they are `==`, print the same string `s`, and `s` is a fixed point of BOTH
    constructors (`URL(str(v), encoded=True)` is `v`, `URL(str(v))` is `u'`). -/
theorem C03_mech_encoded_true_fixed_point (e : Env) (u : Url) (hc : CanonUrl e.b u) (hnet : NetlocCanonB e u)
    (hs : SchemeOK' u.scheme) (hg : C03Guards u) :
    ∃ s v u', str e u = .ok s ∧ preEncodedUrl e s = .ok v ∧ encodeUrl e s = .ok u' ∧
      v.scheme = u'.scheme ∧ v.netloc = u'.netloc ∧ v.path = u'.path ∧ v.query = u'.query ∧
      v.fragment = u'.fragment ∧ v = pickleTwin u' ∧ eqKey v = eqKey u' ∧ Url.beq v u' = true ∧
      str e v = .ok s ∧ str e u' = .ok s ∧
      (str e v >>= preEncodedUrl e) = .ok v ∧ (str e v >>= encodeUrl e) = .ok u' := by
  obtain ⟨N, pre', ha, hN⟩ := anat_exists e u hc hnet hs hg
  obtain ⟨s, u', f1, f2, f3, _⟩ := C03_fixed_point_of_canonB e u hc hnet hs hg
  have h1 := ha.str_eq
  rw [f1] at h1; cases h1
  have h3 := ha.encode hc
  rw [f2] at h3; cases h3
  have hpre : preEncodedUrl e (unsplitResult u.scheme N (C07_strPath u) u.query u.fragment) =
      .ok (Url.mk u.scheme N (C07_strPath u) u.query u.fragment none) := by
    unfold preEncodedUrl
    rw [ha.split]
    rfl
  have hsv : str e (Url.mk u.scheme N (C07_strPath u) u.query u.fragment none) =
      .ok (unsplitResult u.scheme N (C07_strPath u) u.query u.fragment) := by
    have := str_congr e (Url.mk u.scheme N (C07_strPath u) u.query u.fragment none)
      (Url.mk u.scheme N (C07_strPath u) u.query u.fragment pre') rfl rfl rfl rfl rfl hN
    rw [this]
    exact f3
  refine ⟨_, _, _, f1, hpre, f2, rfl, rfl, rfl, rfl, rfl, rfl, rfl, ?_, hsv, f3, ?_, ?_⟩
  · unfold Url.beq; exact decide_eq_true rfl
  · rw [hsv]; exact hpre
  · rw [hsv]; exact f2

/-- For a NON-canonical string the fixed point FAILS for the `encoded=True` object.
    `v = URL('http://EXAMPLE.com/a/../b c', encoded=True)` stores the text as split (upper-case host, dot segments,
    a raw space: not `CanonUrl`), prints it back verbatim, and is a fixed point of `encoded=True` parsing — but
    `URL(str(v))` stores different parts and prints 'http://example.com/b%20c' ≠ `str(v)`: for `v`, "parsing str(url)
    again yields a URL with an identical string form" is false.  (Not a defect: `encoded=True` is the caller's
    promise that the text is already canonical.) -/
theorem C03_mech_encoded_true_noncanonical_counterexample (b : Backend) :
    let e : Env := ⟨b, Oracles.empty⟩
    let s := "http://EXAMPLE.com/a/../b c".toStr
    let v : Url := fromParts "http".toStr "EXAMPLE.com".toStr "/a/../b c".toStr [] []
    preEncodedUrl e s = .ok v ∧ str e v = .ok s ∧ (str e v >>= preEncodedUrl e) = .ok v ∧ ¬ CanonUrl b v ∧
    (encodeUrl e s).map (fun w => (w.scheme, w.netloc, w.path, w.query, w.fragment)) =
      .ok ("http".toStr, "example.com".toStr, "/b%20c".toStr, [], []) ∧
    (str e v >>= encodeUrl e >>= str e) = .ok "http://example.com/b%20c".toStr ∧
    (str e v >>= encodeUrl e >>= str e) ≠ str e v := by
  str_lits
  refine ⟨by cases b <;> decide +kernel, by cases b <;> decide +kernel, by cases b <;> decide +kernel, ?_,
    by cases b <;> decide +kernel, by cases b <;> decide +kernel, by cases b <;> decide +kernel⟩
  intro h
  have := canon_path_chars h.path 32 (by decide +kernel)
  omega

/-! ## corners, IDN, bracketed hosts -/

/-- (a) the corner: `lower h = h` is FALSE for an IP literal with a zone id in upper case.  `URL('http://[FE80::1%Eth0]/p')`
    — in the domain — stores raw_host 'fe80::1%Eth0': the FIRST pass lower-cases (compresses) the address and copies the
    zone id verbatim, `_encode_host` never lower-cases a zone id, and the second pass is the identity (the URL re-parses
    to itself).  Python: `URL('http://[FE80::1%Eth0]/p').raw_host == 'fe80::1%Eth0'`.  Not a defect (zone ids are
    case-sensitive interface names); the strongest true variant is `C03_mech_case_folding`. -/
theorem C03_mech_case_folding_zone_counterexample (b : Backend) :
    let e : Env := ⟨b, Oracles.empty⟩
    let u : Url := urlOf "http".toStr "[fe80::1%Eth0]".toStr "/p".toStr [] [] (preOf none none "fe80::1%Eth0".toStr none)
    encodeUrl e "http://[FE80::1%Eth0]/p".toStr = .ok u ∧
    CanonUrl b u ∧ NetlocCanon e u ∧ SchemeOK' u.scheme ∧ C03Guards u ∧
    rawHost e u = .ok (some "fe80::1%Eth0".toStr) ∧ lower "fe80::1%Eth0".toStr ≠ "fe80::1%Eth0".toStr ∧
    str e u = .ok "http://[fe80::1%Eth0]/p".toStr ∧ encodeUrl e "http://[fe80::1%Eth0]/p".toStr = .ok u := by
  str_lits
  refine ⟨by cases b <;> decide +kernel, canonUrlB_sound (by cases b <;> decide +kernel),
    NetlocCanon.auth none none "fe80::1%Eth0".toStr none (by decide +kernel) (userInfoOK_none b)
      (hostFix_fe80_zone _)
      (fun p hp => by cases hp) (Or.inr rfl),
    by decide +kernel, by decide +kernel, rfl, by decide +kernel, by cases b <;> decide +kernel,
    by cases b <;> decide +kernel⟩

/-- (d) IDNA.  The constructor on `scheme://h/path#fragment` with a NON-ASCII host `h` (`IdnHostInput`), under the
    ASSUMPTION `IdnaSaneAt e.o h` about the `idna` package (TRUSTED BASE, C16Idn.lean): the first pass stores the
    A-label `a = _idna_encode(h)`; the second pass splits off `a` again, `a` is ASCII, and `_encode_host(a)` is `a`
    for EVERY oracle — in particular for `Oracles.empty`, which answers no IDNA question at all: the second pass
    takes the ASCII path and never calls IDNA. -/
theorem C03_mech_host_idna (e : Env) (sc h rp rf : Str) (hsc : SchemeOK sc) (hi : IdnHostInput e.o h)
    (hsane : IdnaSaneAt e.o h) (h35 : 35 ∉ rp) (h63 : 63 ∉ rp) (hc1 : Clean rp) (hc2 : Clean rf)
    (hpy : PyStr (sc ++ 58 :: 47 :: 47 :: (h ++ (47 :: rp ++ fragTail rf)))) (u : Url) :
    encodeUrl e (sc ++ 58 :: 47 :: 47 :: (h ++ (47 :: rp ++ fragTail rf))) = .ok u →
    ∃ a s pt np, idnaEncode e.o h = .ok a ∧ isAscii h = false ∧ rawHost e u = .ok (some a) ∧
      str e u = .ok s ∧ splitUrl e.o s = .ok pt ∧ splitNetloc e.o pt.netloc = .ok np ∧ np.host = some a ∧
      isAscii a = true ∧ encodeHost e.o a false = .ok a ∧ (∀ o' : Oracles, encodeHost o' a false = .ok a) ∧
      encodeHost Oracles.empty a false = .ok a := by
  intro hu
  have vs : ValidScheme sc := ⟨hsc.1, fun c hc => (hsc.2 c hc).1, lower_of_no_upper (fun c hc => (hsc.2 c hc).2)⟩
  obtain ⟨a, ha, hsa, hn, hraw, hpre, hscheme⟩ := (C16_idn_ctor e sc h rp rf vs hi hsane h35 h63 hc1 hc2).1 u hu
  have hnc := C03_idn_netlocCanon_ctor e sc h rp rf vs hi hsane h35 h63 hc1 hc2 u hu
  have hne : u.netloc ≠ [] := by rw [hn]; exact hsa.nonempty
  have hsne : u.scheme ≠ [] := by rw [hscheme]; exact hsc.1
  obtain ⟨s, pt, h1, h2, h3⟩ := C03_mech_host e u (C03_encodeUrl_canon e _ hpy u hu) hnc (Or.inr (hscheme ▸ hsc))
    (C03_guards_of_authority u hsne hne)
  rcases h3 with ⟨_, h, _⟩ | ⟨np, h', k1, k2, k3, _, k5, k6, k7, k8, _⟩
  · exact absurd h hne
  · rw [hraw] at k3
    have : a = h' := by injection k3 with k3; injection k3
    subst this
    have h58 : 58 ∉ a := Idn.sane_no hsa (by decide)
    have hb : bracket a = a := bracket_of_no_colon h58
    refine ⟨a, s, pt, np, ha, hi.nonAscii, hraw, h1, h2, k1, k2, k5, k7 h58, fun o' => ?_, ?_⟩
    · have := k8 o'; rwa [hb] at this
    · have := k8 Oracles.empty; rwa [hb] at this

/-- the mechanisms for a BRACKETED NON-IPv6 HOST (`[v1.a:b]`, `[g::1]`: the `brk` case of `NetlocCanonB`, which
    (a)–(e) above do not cover): the second pass splits off the same user, password, host text `t` and the port
    `str` wrote; `t` is ASCII and case-folded like a `HostFix` host; `_encode_host(t)` is `t` (WITHOUT brackets, for
    every oracle — `encode_url` puts the brackets back); no default port is left in the authority piece; the piece
    is again a bracketed authority, EXCEPT that a dropped default port also drops the brackets of a host without ':'
    (`C03_headline_bracketed_host_default_port`: 'https://[v1.a]:443/' prints "https://v1.a/"). -/
theorem C03_mech_bracketed_host (e : Env) (u : Url) (hc : CanonUrl e.b u) (hs : SchemeOK' u.scheme)
    (user pw : Option Str) (t : Str) (port : Option Nat)
    (hn : u.netloc = authTextB user pw t port) (hu : UserInfoOK e.b user pw) (hh : HostFixB e.o t)
    (hp : ∀ p, port = some p → p ≤ 65535) (hpre : u.pre = none ∨ u.pre = some (preOf user pw t port)) :
    ∃ s pt np, str e u = .ok s ∧ splitUrl e.o s = .ok pt ∧ pt.netloc = strAuthB u.scheme user pw t port ∧
      splitNetloc e.o pt.netloc = .ok np ∧ np.host = some t ∧ np.user = user ∧ np.password = pw ∧
      np.port = strPort u.scheme port ∧ rawHost e u = .ok (some t) ∧ explicitPort e u = .ok port ∧
      isAscii t = true ∧ lower (partition 37 t).1 = (partition 37 t).1 ∧
      (lower t = t ∨ (parseIP (partition 37 t).1 ≠ none ∧ (partition 37 t).2.1 = true)) ∧
      (∀ o' : Oracles, encodeHost o' t false = .ok t) ∧
      (∀ p, np.port = some p → some p ≠ defaultPort u.scheme) ∧
      (pt.netloc = authTextB user pw t (strPort u.scheme port) ∨
        (58 ∉ t ∧ (∃ p, port = some p ∧ some p = defaultPort u.scheme) ∧ pt.netloc = authText user pw t none)) := by
  have st := stored_brk hn hu hh hp hpre
  obtain ⟨ha, ⟨W', _, w', heq⟩, _⟩ := st.pass hc hs
  obtain ⟨a1, a2, _⟩ := accessors_authB e u user pw t port st.net
  have hasc := FixLemmas.isAscii_of_chars hh.chars
  obtain ⟨c1, c2⟩ := host_case_core e.o hasc hh.ok.2.2.1 hh.enc (Or.inr rfl)
  have hsplit := heq ▸ hostW_splitNetloc e.o (userOK_of hu) w' (strPort_range u.scheme port hp)
  refine ⟨_, _, _, ha.str_eq, ha.split, rfl, hsplit, rfl, rfl, rfl, rfl, a1, a2, hasc, c1, c2,
    fun o' => by rw [← encodeHost_indep e.o o' hasc]; exact hh.enc,
    fun p hp' => strPort_notDefault u.scheme port p hp', ?_⟩
  -- which of the two texts `str` wrote
  show strAuthB u.scheme user pw t port = _ ∨ (_ ∧ _ ∧ strAuthB u.scheme user pw t port = _)
  by_cases hcase : 58 ∈ t ∨ ∀ p, port = some p → some p ≠ defaultPort u.scheme
  · refine .inl (hcase.elim (strAuthB_colon user pw port) fun h => ?_)
    rw [strAuthB_other user pw t h, strPort_other h]
  · simp only [not_or, Classical.not_forall, Decidable.not_not] at hcase
    obtain ⟨h58, p, rfl, hd⟩ := hcase
    exact .inr ⟨h58, ⟨p, rfl, hd⟩, strAuthB_default user pw t hd⟩

end Yarl
