import YarlProofs.C13Headline
import YarlProofs.C13HeadlineMore
import YarlProofs.C13HeadlineMore3
import YarlProofs.C13More3
import YarlProofs.C13More3b
/-!
# C13 — Path operations compose like a path algebra   (audit layer, fourth part)

Continuation of `C13Headline.lean` / `C13HeadlineMore.lean` / `C13HeadlineMore3.lean`: the theorems that need
`C13More3.lean` and `C13More3b.lean` (both import `C13More2.lean`, which imports `C13HeadlineMore.lean`).  This file is
a leaf, nobody imports it.

Property statement (verbatim):

> raw_parts re-compose to raw_path, name is the last part and suffix/suffixes are the tail of name.
> u / s equals u.joinpath(s), has name s (for s not a dot segment) and parent parts equal to u's parts
> without a trailing empty segment; joinpath(a, b), joinpath(a).joinpath(b) and u / 'a/b' are equal;
> with_name(n) has name n and the same parent; with_suffix(x) replaces only the suffix and leaves the
> rest of the (decoded) name and all other segments exactly as they were, never re-encoding them.

What is here (numbers: GAPS items of `C13Headline.lean`).
 * GAPS 2 — parts, name and parent parts of `u / s` and of `u.joinpath(a₁, …, aₙ)` in CLOSED FORM when `_make_child`
   NORMALISES (authority and a '.' in some argument): arguments with '/' and with dot segments, any number of
   arguments, both `encoded` modes, NO hypothesis on the old path; the DECODED restatement of the any-old-path theorem;
   "no rootless path next to an authority" shown NECESSARY (an iff, with a witness) where nothing is normalised.
 * GAPS 4 — the URL operation `parent` of the result in the normalising case: the parent's path is the NORMALISED path
   of everything before the name; `(u / s).parent` is "`u` without query, fragment and one trailing slash" IF AND ONLY IF
   the old path has no dot segments.
 * GAPS 5 — the `encoded=True` version of `joinpath(a, b) = u / pjoin(a, b)`; "no climb" sufficient in either mode;
   n arguments under "no climb before the last argument" (weaker than "no '..' at all"), the guard shown needed for
   n = 3; THE EXACT CONDITION for a FIXED pair (a, b), also outside `hroot`; one separating pair differs only as stored.
 * GAPS 7 / sentence 1 — the suffix algebra on every raw name: `name = stem + suffix` always; `name = head +
   "".join(suffixes)` exactly when the name does not end in '.'; `suffix` = last of `suffixes` — exact iff.
 * GAPS 3 / sentence 4 — `with_suffix`: `with_suffix(own suffix)` and `with_suffix("")` (no suffix) give the URL back;
   "replaces only the suffix" (the stem is kept), idempotence and absorption — each IF AND ONLY IF the argument "keeps
   the stem"; the failing cases (".tar.gz", "" on "a.tar.gz", ".\ud800", an escaped '/' in the suffix, a rootless path
   next to an authority) as theorems.
 Everything of C13More3b.lean (the last two bullets) is on the RAW (stored) name; arguments are Python strings.

Vocabulary added by C13More3.lean / C13More3b.lean (in addition to the reading guides of the three earlier files).
 * `argDots e enc ps`        — "some argument text has a '.'": the flag that makes `_make_child` call
                               `normalize_path_segments` under an authority (C13More.lean);
 * `normalizePathSegments M` — `normalize_path_segments(M)`; it is the final stack `normLoop [] M` followed by ONE empty
                               segment exactly when the last element of `M` is "." or ".." (YarlModel/Path.lean);
 * `root n L`, `base u`      — `base u`: the old segments without a trailing empty one; `root` puts the root's empty
                               segment in front under an authority; `root u.netloc (base u ++ argSegs e enc ps)` is the
                               list `_make_child` hands to `normalize_path_segments` (Lemmas/PathAlg.lean);
 * `C13_dropRootSeg l`       — `l` without a leading empty segment (C13More2.lean);
 * `DotMore.climbs d L`      — depth counter: ".." decrements, "." stays, anything else increments, start `d`; true iff
                               some ".." meets depth 0;
 * `ps.foldlM (fun v a => makeChild e v [a] enc) u` — `u.joinpath(a₁).joinpath(a₂)….joinpath(aₙ)`, errors propagated;
 * `sfx n`, `sfxs n`         — `raw_suffix` / `raw_suffixes` as functions of the raw name `n` (C13More.lean;
                               `rawSuffix_eq`, `rawSuffixes_eq` tie them to the accessors);
 * `C13_rawStem n`           — `n[: len(n) - len(suffix)]`: the raw name without its raw suffix, what `with_suffix` keeps;
 * `C13_dottedPiece t`       — `t` is '.' followed by a NON-EMPTY text without '.';
 * `C13_stemKeeping e n x`   — `x == ""` and the stem of `n` has no suffix of its own, or `quote(x)` is one dotted piece;
 * `C13_keep u kq kf`        — `u` with the same scheme, authority and path, the query kept iff `kq` (`keep_query`), the
                               fragment kept iff `kf` (`keep_fragment`), no constructor cache.
-/
set_option linter.unusedVariables false
namespace Yarl
open Yarl.PathLemmas Yarl.PathAlg PathMore

/-! ## Sentence 2 — "has name s … and parent parts equal to u's parts …" when `_make_child` NORMALISES (GAPS 2) -/

/-- GAPS 2 ("the same for an argument WITH '/' whose segments include "." / "..", for several arguments, and for
    `encoded=True` arguments … no C13 statement about name/parent then"): ANY number of arguments, either `encoded` mode,
    ANY old path.  When `_make_child` normalises, the parts of the result are "/" followed by
    `normalize_path_segments` of the whole segment list `M` (old segments without a trailing empty one, then the
    argument segments, the root's empty segment in front) without a leading empty segment; the name is the LAST element
    of that normalised list; and `normalize_path_segments M` is the final stack followed by one empty segment exactly
    when the last argument segment is "." or "..".  Cites `C13_joinpath_norm_closed` (C13More3.lean). -/
theorem C13_headline_joinpath_norm_closed (e : Env) (u : Url) (ps : List Str) (enc : Bool) (v : Url)
    (hne : ps ≠ [])                               -- at least one argument
    (hn : u.netloc ≠ [])                          -- under an authority
    (hd : argDots e enc ps = true) :              -- a '.' in some argument text: `_make_child` normalises
    makeChild e u ps enc = .ok v →
    let M := root u.netloc (base u ++ argSegs e enc ps)
    rawParts v = [47] :: C13_dropRootSeg (normalizePathSegments M) ∧
    rawName v = .ok ((normalizePathSegments M).getLast?.getD []) ∧
    (rawParts v).dropLast = ([47] :: C13_dropRootSeg (normalizePathSegments M)).dropLast ∧
    (∀ l, (argSegs e enc ps).getLast? = some l →
      normalizePathSegments M = normLoop [] M ++ (if l = dot ∨ l = dotdot then [[]] else [])) :=
  C13_joinpath_norm_closed e u ps enc v hne hn hd

/-- GAPS 2, name and parent parts by the LAST argument segment `l`: for an ordinary `l` (not "", ".", "..") the name is
    `l` and the parent parts are "/" followed by the final stack of the segments BEFORE `l` — the NORMALISED path of
    everything before the name, not "u's parts without a trailing empty segment"; for `l` one of "", ".", ".." the
    name is "" and the parts end with ONE empty segment.  Cites `C13_joinpath_norm_name_parent`. -/
theorem C13_headline_joinpath_norm_name_parent (e : Env) (u : Url) (ps : List Str) (enc : Bool) (v : Url)
    (hne : ps ≠ [])                               -- at least one argument
    (hn : u.netloc ≠ [])                          -- under an authority
    (hd : argDots e enc ps = true)                -- `_make_child` normalises
    (X' : List Str) (l : Str) (hX : argSegs e enc ps = X' ++ [l]) :   -- `l` the last argument segment
    makeChild e u ps enc = .ok v →
    ((l ≠ [] ∧ l ≠ dot ∧ l ≠ dotdot) →
      rawName v = .ok l ∧
      (rawParts v).dropLast = [47] :: C13_dropRootSeg (normLoop [] (root u.netloc (base u ++ X'))) ∧
      rawParts v = ([47] :: C13_dropRootSeg (normLoop [] (root u.netloc (base u ++ X')))) ++ [l]) ∧
    ((l = [] ∨ l = dot ∨ l = dotdot) →
      rawName v = .ok [] ∧
      rawParts v = [47] :: C13_dropRootSeg
        (normLoop [] (stripTrail (root u.netloc (base u ++ argSegs e enc ps))) ++ [[]])) :=
  C13_joinpath_norm_name_parent e u ps enc v hne hn hd X' l hX

/-- GAPS 2, `u / s` for ONE Python string `s` that may contain '/' AND dot segments, ANY old path, by the last segment
    `t` of `s`: for an ordinary `t` (non-empty, no lone surrogate, not "." / "..") the raw name is `quote(t)`, the
    DECODED name is `t`, and the parent parts are "/" + the final stack over (old segments + the quoted other segments of
    `s`); for `t` one of "", ".", ".." the name is "".  Cites `C13_child_norm_name_parent`. -/
theorem C13_headline_child_norm_name_parent (e : Env) (u : Url) (s : Str) (v : Url)
    (hs : PyStr s)                                -- a Python string
    (hn : u.netloc ≠ []) (hdot : 46 ∈ s)          -- authority and a '.' in `s`: `_make_child` normalises
    (S' : List Str) (t : Str) (hS : splitOn 47 s = S' ++ [t]) :   -- `t` the last '/'-segment of `s`
    makeChild e u [s] false = .ok v →
    ((t ≠ [] ∧ NoSurrogate t ∧ t ≠ dot ∧ t ≠ dotdot) →
      rawName v = .ok (q e Gen.PATH_QUOTER t) ∧ name e v = .ok t ∧
      (rawParts v).dropLast
        = [47] :: C13_dropRootSeg (normLoop [] (root u.netloc (base u ++ S'.map (q e Gen.PATH_QUOTER))))) ∧
    ((t = [] ∨ t = dot ∨ t = dotdot) →
      rawName v = .ok [] ∧
      rawParts v = [47] :: C13_dropRootSeg (normLoop [] (stripTrail (childSegments e u s)) ++ [[]])) :=
  C13_child_norm_name_parent e u s v hs hn hdot S' t hS

/-- GAPS 2 ("the any-old-path statement is on the RAW accessors only (no decoded restatement …)"): the DECODED
    restatement of `C13_headline_child_name_any_old_path`, every hypothesis on `s` itself: `u / s` has decoded name `s`;
    the decoded parent parts are `u.parts` without a trailing empty segment when nothing is normalised, and "/" followed
    by the DECODED final stack of `normalize_path_segments` on the old segments when `_make_child` normalises.
    Cites `C13_child_name_any_old_path_decoded`. -/
theorem C13_headline_child_name_any_old_path_decoded (e : Env) (u : Url) (s : Str) (v : Url)
    (hs : PyStr s) (hsur : NoSurrogate s)         -- a Python string without lone surrogates
    (h47 : 47 ∉ s) (hne : s ≠ [])                 -- ONE non-empty segment
    (hdot : s ≠ dot ∧ s ≠ dotdot) :               -- "s not a dot segment"
    makeChild e u [s] false = .ok v →
    name e v = .ok s ∧
    ((u.netloc = [] ∨ 46 ∉ s) →                                              -- nothing is normalised
      (u.netloc ≠ [] → (u.path = [] ∨ u.path.head? = some 47)) →             -- no rootless path next to an authority
      (partsDecoded e v).dropLast =
        (if (rawParts u).getLast? = some [] then (partsDecoded e u).dropLast else partsDecoded e u)) ∧
    (u.netloc ≠ [] → 46 ∈ s →                                                -- `_make_child` normalises
      (partsDecoded e v).dropLast
        = [47] :: (C13_dropRootSeg (normLoop [] (root u.netloc (base u)))).map (uq e Gen.UNQUOTER)) :=
  C13_child_name_any_old_path_decoded e u s v hs hsur h47 hne hdot

/-- GAPS 2 (""no rootless path next to an authority" in the non-normalising case"): the hypothesis is NECESSARY.  For
    one plain segment `s` under an authority with no '.' in `quote(s)` and ANY old path, the parent parts of `u / s`
    are "/" followed by the old SEGMENTS without a trailing empty one, and they are "u's parts without a trailing empty
    segment" IF AND ONLY IF the old path is empty or rooted.  Cites `C13_child_parent_parts_iff_rooted`. -/
theorem C13_headline_child_parent_parts_iff_rooted (e : Env) (u : Url) (s : Str) (v : Url)
    (hs : PyStr s) (hsur : NoSurrogate s)         -- a Python string without lone surrogates
    (h47 : 47 ∉ s) (hne : s ≠ [])                 -- ONE non-empty segment
    (hn : u.netloc ≠ [])                          -- under an authority
    (hnd : 46 ∉ q e Gen.PATH_QUOTER s) :          -- no '.' in `quote(s)`: nothing is normalised
    makeChild e u [s] false = .ok v →
    (rawParts v).dropLast = [47] :: C13_dropRootSeg (root u.netloc (base u)) ∧
    ((rawParts v).dropLast = stripTrail (rawParts u) ↔ (u.path = [] ∨ u.path.head? = some 47)) :=
  C13_child_parent_parts_iff_rooted e u s v hs hsur h47 hne hn hnd

/-- "parent parts equal to u's parts without a trailing empty segment" is FALSE for a rootless path next to an authority
    (hand-made parts / `encoded=True` only): `URL.build(scheme="http", host="h", path="a", encoded=True) / "c"` has parts
    ("/", "a", "c") while the old `raw_parts` are ("/", "") — `raw_parts` has lost the 'a'; likewise for "a/b".
    Cites `C13_child_parent_parts_fails_for_rootless`. -/
theorem C13_headline_child_parent_parts_fails_for_rootless : ∀ b : Backend,
    let e : Env := ⟨b, Oracles.empty⟩
    let u := fromParts "http".toStr "h".toStr "a".toStr [] []
    let u2 := fromParts "http".toStr "h".toStr "a/b".toStr [] []
    let parts := fun (r : R Url) => (r.map rawParts).toOption
    rawParts u = ["/".toStr, []] ∧
    parts (makeChild e u ["c".toStr] false) = some ["/".toStr, "a".toStr, "c".toStr] ∧
    rawParts u2 = ["/".toStr, [], "b".toStr] ∧
    parts (makeChild e u2 ["c".toStr] false) = some ["/".toStr, "a".toStr, "b".toStr, "c".toStr] ∧
    46 ∉ q e Gen.PATH_QUOTER "c".toStr :=
  C13_child_parent_parts_fails_for_rootless

/-! ## Sentence 2 — the URL operation `parent` of the result in the normalising case (GAPS 2 / GAPS 4) -/

/-- GAPS 2 ("no statement about the URL operation `parent` of the result in the normalising case"): `parent` of
    `u.joinpath(a₁, …, aₙ)` when `_make_child` normalises and the last argument segment `l` is ordinary: same scheme and
    authority, no query, no fragment, and the path is "/" + the final stack of the segments before `l`.  ANY old path,
    either `encoded` mode.  Cites `C13_joinpath_norm_parent`. -/
theorem C13_headline_joinpath_norm_parent (e : Env) (u : Url) (ps : List Str) (enc : Bool) (v : Url)
    (hne : ps ≠ [])                               -- at least one argument
    (hn : u.netloc ≠ [])                          -- under an authority
    (hd : argDots e enc ps = true)                -- `_make_child` normalises
    (X' : List Str) (l : Str) (hX : argSegs e enc ps = X' ++ [l])   -- `l` the last argument segment
    (hl : l ≠ [] ∧ l ≠ dot ∧ l ≠ dotdot) :        -- … an ordinary one
    makeChild e u ps enc = .ok v →
    parent v = fromParts u.scheme u.netloc
      (joinC 47 ([] :: C13_dropRootSeg (normLoop [] (root u.netloc (base u ++ X'))))) [] [] :=
  C13_joinpath_norm_parent e u ps enc v hne hn hd X' l hX hl

/-- … and when the last argument segment is "", "." or ".." (the name of the result is ""): with `A` the final stack of
    the whole segment list, the result is its own parent when `A` is empty (the arguments climbed above the root: the
    bare authority) or `[""]` (the root "/"); otherwise `parent` drops the trailing empty segment.
    Cites `C13_joinpath_norm_parent_trailing`. -/
theorem C13_headline_joinpath_norm_parent_trailing (e : Env) (u : Url) (ps : List Str) (enc : Bool) (v : Url)
    (hne : ps ≠ [])                               -- at least one argument
    (hn : u.netloc ≠ [])                          -- under an authority
    (hd : argDots e enc ps = true)                -- `_make_child` normalises
    (l : Str) (hX : (argSegs e enc ps).getLast? = some l)   -- `l` the last argument segment
    (hl : l = [] ∨ l = dot ∨ l = dotdot) :        -- … "", "." or ".."
    makeChild e u ps enc = .ok v →
    let A := normLoop [] (stripTrail (root u.netloc (base u ++ argSegs e enc ps)))
    parent v = (if A = [] ∨ A = [[]] then v
      else fromParts u.scheme u.netloc (joinC 47 ([] :: C13_dropRootSeg A)) [] []) :=
  C13_joinpath_norm_parent_trailing e u ps enc v hne hn hd l hX hl

/-- GAPS 4 ("the guards of item 2 … apply to the `/` statements"): `(u / s).parent` for ONE plain segment `s` in the
    normalising case, ANY old path — the path of the parent is "/" + the final stack of the OLD segments; and for an
    old path that is empty or rooted this is "`u` without query, fragment and ONE trailing slash"
    (`C13_headline_child_parent`) IF AND ONLY IF the old path has no dot segments.  Cites `C13_child_norm_parent`. -/
theorem C13_headline_child_norm_parent (e : Env) (u : Url) (s : Str) (v : Url)
    (hs : PyStr s) (hsur : NoSurrogate s)         -- a Python string without lone surrogates
    (h47 : 47 ∉ s) (hne : s ≠ [])                 -- ONE non-empty segment
    (hdot : s ≠ dot ∧ s ≠ dotdot)                 -- "s not a dot segment"
    (hn : u.netloc ≠ []) (hm : 46 ∈ s) :          -- authority and a '.' in `s`: `_make_child` normalises
    makeChild e u [s] false = .ok v →
    parent v = fromParts u.scheme u.netloc
      (joinC 47 ([] :: C13_dropRootSeg (normLoop [] (root u.netloc (base u))))) [] [] ∧
    ((u.path = [] ∨ u.path.head? = some 47) →
      (parent v = fromParts u.scheme u.netloc (dropSlash u.path) [] [] ↔ NoDots (base u))) :=
  C13_child_norm_parent e u s v hs hsur h47 hne hdot hn hm

/-! ## Sentence 3 — "joinpath(a, b) … and u / 'a/b' are equal", `encoded=True` (GAPS 5) -/

/-- GAPS 5 ("(a) and (b) are not stated for `encoded=True`"), part (a): `u.joinpath(a, b, encoded=True)` IS
    `u.joinpath(pjoin(a, b), encoded=True)` as VALUES, errors included.  Nothing is quoted, so no hypothesis on the
    characters of `a` (no surrogate guard).  Cites `C13_joinpath_two_eq_truediv_encoded`. -/
theorem C13_headline_joinpath_two_eq_truediv_encoded (e : Env) (u : Url) (a b : Str)
    -- `b` does not start with '/': joinpath raises ValueError for such an argument, the joined text would not
    (hb0 : b.head? ≠ some 47) :
    makeChild e u [a, b] true = makeChild e u [C13_pjoin a b] true :=
  C13_joinpath_two_eq_truediv_encoded e u a b hb0

/-- GAPS 5, part (b) in EITHER `encoded` mode: "no climb" on the first step's segment list is sufficient for
    `joinpath(a, b) = joinpath(a).joinpath(b)`, as VALUES (`argText` = `a` itself with `encoded=True`, `quote(a)`
    otherwise).  Only the SUFFICIENT guard: the exactness statements (`C13_headline_joinpath_assoc_iff`, the fixed-pair
    condition below) are `encoded=False` only.  Cites `C13_joinpath_assoc_noclimb_gen`. -/
theorem C13_headline_joinpath_assoc_noclimb_either_mode (e : Env) (enc : Bool) (u : Url) (a b : Str) (v1 : Url)
    -- under an authority, when the first argument text has a '.' (otherwise nothing is normalised): "no climb"
    (hc : u.netloc ≠ [] → 46 ∈ argText e enc a →
      DotMore.climbs 0 (root u.netloc (base u ++ splitOn 47 (argText e enc a))).tail = false)
    (h1 : makeChild e u [a] enc = .ok v1) :       -- the first step succeeds, `v1 = u.joinpath(a)`
    makeChild e u [a, b] enc = makeChild e v1 [b] enc :=
  C13_joinpath_assoc_noclimb_gen e enc u a b v1 hc h1

/-! ## Sentence 3 — n arguments (GAPS 5) -/

/-- GAPS 5 ("for n ≥ 3 arguments only the sufficient guard of `C13_headline_joinpath_nary`"): a WEAKER sufficient guard.
    `u.joinpath(a₁, …, aₙ)` is `u.joinpath(a₁)….joinpath(aₙ)` as VALUES (errors included), either `encoded` mode, when
    under an authority the segment list of the call WITHOUT its last argument does not climb; the guard of
    `C13_headline_joinpath_nary` ("no '..' in the old path or in any argument but the last") implies it; and "no climb
    before the last argument" is "no climb on every proper prefix of the argument list".  Still only sufficient.
    Cites `C13_joinpath_nary_noclimb`, `C13_nary_noclimb_of_no_dotdot`, `C13_noclimb_prefixes`. -/
theorem C13_headline_joinpath_nary_noclimb (e : Env) (enc : Bool) (ps : List Str) (u : Url)
    (hne : ps ≠ []) :                             -- at least one argument
    -- under an authority: no ".." of (old segments + segments of all arguments but the last) meets depth 0
    ((u.netloc ≠ [] → DotMore.climbs 0 (root u.netloc (base u ++ argSegs e enc ps.dropLast)).tail = false) →
      makeChild e u ps enc = ps.foldlM (fun v a => makeChild e v [a] enc) u) ∧
    ((dotdot ∉ splitOn 47 u.path ∧ ∀ a ∈ ps.dropLast, dotdot ∉ splitOn 47 (argText e enc a)) →
      DotMore.climbs 0 (root u.netloc (base u ++ argSegs e enc ps.dropLast)).tail = false) ∧
    (∀ P Q : List Str, Q ≠ [] →
      DotMore.climbs 0 (root u.netloc (base u ++ argSegs e enc (P ++ Q))).tail = false →
      DotMore.climbs 0 (root u.netloc (base u ++ argSegs e enc P)).tail = false) :=
  ⟨fun hg => C13_joinpath_nary_noclimb e enc ps u hne hg,
   fun hdd => C13_nary_noclimb_of_no_dotdot e enc ps u hdd,
   fun P Q hQ hg => C13_noclimb_prefixes e enc u P Q hQ hg⟩

/-- the guard is needed for n = 3: `URL("http://h").joinpath("..", ".//x", "y")` is `http://h/x/y`, the iterated form
    `((u / "..") / ".//x") / "y"` is `http://h//x/y`; the segment list before the last argument climbs.
    Cites `C13_joinpath_nary_fails_when_climbing`. -/
theorem C13_headline_joinpath_nary_fails_when_climbing : ∀ bk : Backend,
    let e : Env := ⟨bk, Oracles.empty⟩
    let u := fromParts "http".toStr "h".toStr [] [] []
    let ps := ["..".toStr, ".//x".toStr, "y".toStr]
    makeChild e u ps false = .ok (fromParts "http".toStr "h".toStr "/x/y".toStr [] []) ∧
    ps.foldlM (fun v a => makeChild e v [a] false) u = .ok (fromParts "http".toStr "h".toStr "//x/y".toStr [] []) ∧
    DotMore.climbs 0 (root u.netloc (base u ++ argSegs e false ps.dropLast)).tail = true :=
  C13_joinpath_nary_fails_when_climbing

/-! ## Sentence 3 — "joinpath(a, b) [and] joinpath(a).joinpath(b) … are equal" for a FIXED pair (GAPS 5) -/

/-- GAPS 5 ("for a FIXED pair (a, b) outside `hroot` no exact condition"): THE EXACT CONDITION, `encoded=False`.  For a
    URL with an authority and a first argument whose quoted text has a '.' (in every other case the two forms always
    agree), with `v1 = u / a`: `u.joinpath(a, b)` and `(u / a) / b` are the same STORED VALUE if and only if `hroot`
    holds, or `quote(b)` has no '.', or `b` climbs above what the first step left (a ".." of its segments meets depth 0,
    starting at the number of segments the first step leaves), or the normalised list of (what the first step leaves ++
    segments of `quote(b)`) does not begin with an empty segment.
    Cites `C13_joinpath_assoc_pair_iff` (its `hroot`-fails half is `C13_joinpath_assoc_fixed_iff`). -/
theorem C13_headline_joinpath_assoc_pair_iff (e : Env) (u : Url) (a b : Str) (v1 : Url)
    (hn : u.netloc ≠ [])                                  -- under an authority
    (hdot : 46 ∈ q e Gen.PATH_QUOTER a)                   -- the first step normalises
    (h1 : makeChild e u [a] false = .ok v1)               -- the first step succeeds, `v1 = u / a`
    (hb0 : b.head? ≠ some 47)                             -- `b` does not start with '/' (else both raise ValueError)
    -- `quote(b)` does not start with '/' (true for every `b` without lone surrogates that does not start with '/')
    (hqb0 : (q e Gen.PATH_QUOTER b).head? ≠ some 47) :
    makeChild e u [a, b] false = makeChild e v1 [b] false ↔
      ((∃ K', K' ≠ [] ∧ normalizePathSegments (childSegments e u a) = [] :: K') ∨
       46 ∉ q e Gen.PATH_QUOTER b ∨
       DotMore.climbs (stripTrail (normalizePathSegments (childSegments e u a))).length
         (splitOn 47 (q e Gen.PATH_QUOTER b)) = true ∨
       (normalizePathSegments (stripTrail (normalizePathSegments (childSegments e u a)) ++
          splitOn 47 (q e Gen.PATH_QUOTER b))).head? ≠ some []) :=
  C13_joinpath_assoc_pair_iff e u a b v1 hn hdot h1 hb0 hqb0

/-- corollary, UNCONDITIONAL in `u` and `a`: a second argument whose quoted text has NO '.' always composes, also when
    the first step consumed or lost the root.  Cites `C13_joinpath_assoc_second_without_dot`. -/
theorem C13_headline_joinpath_assoc_second_without_dot (e : Env) (u : Url) (a b : Str) (v1 : Url)
    (h1 : makeChild e u [a] false = .ok v1)               -- the first step succeeds
    (hd : 46 ∉ q e Gen.PATH_QUOTER b)                     -- no '.' in the quoted SECOND argument
    (hqb0 : (q e Gen.PATH_QUOTER b).head? ≠ some 47) :    -- `quote(b)` does not start with '/'
    makeChild e u [a, b] false = makeChild e v1 [b] false :=
  C13_joinpath_assoc_second_without_dot e u a b v1 h1 hd hqb0

/-- the three clauses on `URL("http://h")`, a = ".." (`hroot` fails): b = ".//x" has no ".." segment, the condition
    FAILS and the values differ (`http://h/x` against `http://h//x`) — so "no '..' segment in `b`" is not sufficient;
    b = "c.txt" (third clause) and b = "../x" (second clause: `b` climbs) agree.
    Cites `C13_joinpath_assoc_fixed_instances`. -/
theorem C13_headline_joinpath_assoc_fixed_instances : ∀ bk : Backend,
    let e : Env := ⟨bk, Oracles.empty⟩
    let u := fromParts "http".toStr "h".toStr [] [] []
    let U := fun (p : String) => fromParts "http".toStr "h".toStr p.toStr [] []
    makeChild e u ["..".toStr] false = .ok u ∧
    normalizePathSegments (childSegments e u "..".toStr) = [[]] ∧
    dotdot ∉ splitOn 47 (q e Gen.PATH_QUOTER ".//x".toStr) ∧
    makeChild e u ["..".toStr, ".//x".toStr] false = .ok (U "/x") ∧
    makeChild e u [".//x".toStr] false = .ok (U "//x") ∧
    (46 ∈ q e Gen.PATH_QUOTER ".//x".toStr ∧
     DotMore.climbs 0 (splitOn 47 (q e Gen.PATH_QUOTER ".//x".toStr)) = false ∧
     (normalizePathSegments ([] ++ splitOn 47 (q e Gen.PATH_QUOTER ".//x".toStr))).head? = some []) ∧
    makeChild e u ["..".toStr, "c.txt".toStr] false = .ok (U "/c.txt") ∧
    makeChild e u ["c.txt".toStr] false = .ok (U "/c.txt") ∧
    (normalizePathSegments ([] ++ splitOn 47 (q e Gen.PATH_QUOTER "c.txt".toStr))).head? ≠ some [] ∧
    makeChild e u ["..".toStr, "../x".toStr] false = .ok (U "/x") ∧
    makeChild e u ["../x".toStr] false = .ok (U "/x") ∧
    DotMore.climbs 0 (splitOn 47 (q e Gen.PATH_QUOTER "../x".toStr)) = true :=
  C13_joinpath_assoc_fixed_instances

/-- CAVEAT of all the composition equivalences: they compare STORED values.  One separating pair differs only in the
    stored path "" / "/" of the bare authority — equal as Python `==`, different as `str()`:
    `URL("http://h").joinpath("..", ".")` is `http://h`, `(URL("http://h") / "..") / "."` is `http://h/`.
    Cites `C13_joinpath_assoc_fixed_eq_only_instance`. -/
theorem C13_headline_joinpath_assoc_differs_only_as_stored : ∀ bk : Backend,
    let e : Env := ⟨bk, Oracles.empty⟩
    let u := fromParts "http".toStr "h".toStr [] [] []
    makeChild e u ["..".toStr, ".".toStr] false = .ok u ∧
    makeChild e u [".".toStr] false = .ok (fromParts "http".toStr "h".toStr "/".toStr [] []) ∧
    eqKey u = eqKey (fromParts "http".toStr "h".toStr "/".toStr [] []) ∧
    u ≠ fromParts "http".toStr "h".toStr "/".toStr [] [] :=
  C13_joinpath_assoc_fixed_eq_only_instance

/-! ## Sentence 1 — "suffix/suffixes are the tail of name", exactly (GAPS 7) -/

/-- "suffix … [is] the tail of name", for EVERY URL: `raw_name = stem + raw_suffix` where the stem is what `with_suffix`
    keeps; the stem of a non-empty name is non-empty; the suffix is empty iff the stem is the whole name.
    Cites `C13_name_eq_stem_suffix` (C13More3b.lean). -/
theorem C13_headline_name_eq_stem_suffix (u : Url) (n s : Str)
    (hn : rawName u = .ok n) (hs : rawSuffix u = .ok s) :   -- the two read-outs
    n = C13_rawStem n ++ s ∧ s = sfx n ∧ (n ≠ [] → C13_rawStem n ≠ []) ∧ (s = [] ↔ C13_rawStem n = n) :=
  C13_name_eq_stem_suffix u n s hn hs

/-- "suffixes are the tail of name", with the EXACT side condition: for a raw name that does not end in '.', the name
    is its head (leading dots and the first dot-free piece, non-empty for a non-empty name) followed by the
    concatenation of `raw_suffixes`; for a raw name ending in '.', `raw_suffixes` is `()`.
    Cites `C13_suffixes_tail_closed`. -/
theorem C13_headline_suffixes_tail_closed (u : Url) (n : Str) (ss : List Str)
    (hn : rawName u = .ok n) (hss : rawSuffixes u = .ok ss) :   -- the two read-outs
    (n.getLast? = some 46 → ss = []) ∧
    (n.getLast? ≠ some 46 → ∃ (d : Nat) (p : Str), 46 ∉ p ∧ (n ≠ [] → p ≠ []) ∧
      n = (List.replicate d 46 ++ p) ++ ss.flatten ∧ ∀ x ∈ ss, x.head? = some 46 ∧ 46 ∉ x.drop 1) :=
  C13_suffixes_tail_closed u n ss hn hss

/-- the side condition is needed: `URL("http://h/a.b.")` has name "a.b.", suffix "" and suffixes () — the tail ".b." is
    NOT the concatenation of `suffixes` (as `pathlib` does).  Cites `C13_suffixes_tail_fails_for_trailing_dot`. -/
theorem C13_headline_suffixes_tail_fails_for_trailing_dot :
    let u := fromParts "http".toStr "h".toStr "/a.b.".toStr [] []
    rawName u = .ok "a.b.".toStr ∧ rawSuffix u = .ok [] ∧ rawSuffixes u = .ok [] ∧
    C13_rawStem "a.b.".toStr = "a.b.".toStr :=
  C13_suffixes_tail_fails_for_trailing_dot

/-- GAPS 7, exactly: `raw_suffix` is the last of `raw_suffixes` ("" when there are none) IF AND ONLY IF the raw name is
    not "two or more dots followed by a non-empty dot-free piece" ("..a", "...tar" — the
    `C13_headline_suffix_last_of_suffixes_fails_for_dotdot_name` corner, now characterised); outside that form the same
    holds on the decoded accessors.  Cites `C13_suffix_last_iff`. -/
theorem C13_headline_suffix_last_iff (e : Env) (u : Url) (n s : Str) (ss : List Str)
    (hn : rawName u = .ok n) (hs : rawSuffix u = .ok s) (hss : rawSuffixes u = .ok ss) :   -- the three read-outs
    (s = ss.getLast?.getD [] ↔ ¬ ∃ (k : Nat) (p : Str), n = List.replicate (k + 2) 46 ++ p ∧ p ≠ [] ∧ 46 ∉ p) ∧
    ((¬ ∃ (k : Nat) (p : Str), n = List.replicate (k + 2) 46 ++ p ∧ p ≠ [] ∧ 46 ∉ p) →
      ∃ s' ss', suffix e u = .ok s' ∧ suffixes e u = .ok ss' ∧ s' = ss'.getLast?.getD []) :=
  C13_suffix_last_iff e u n s ss hn hs hss

/-! ## Sentence 4 — "with_suffix(x) replaces only the suffix" as an algebra (GAPS 3) -/

/-- `with_suffix(x)` with `quote(x)` equal to the (non-empty) raw suffix of `u` gives `u` back: same scheme, authority
    and path; query / fragment as the keep flags say.  In particular `with_suffix(u.suffix)` — the DECODED suffix —
    gives `u` back when the raw suffix is what the quoter writes for a Python string `y` without lone surrogates (then
    `u.suffix == y`).  Cites `C13_with_suffix_own_suffix`, `C13_with_suffix_suffix_id`. -/
theorem C13_headline_with_suffix_own_suffix (e : Env) (u : Url) (x : Str) (kq kf : Bool) (n : Str)
    (hn : rawName u = .ok n)                             -- `n` the raw name
    (hx : PyStr x)                                       -- a Python string
    -- no lone surrogate: a leading one is dropped by the quoter but fails the "must start with '.'" check
    -- (`C13_headline_with_suffix_idem_fails_for_surrogate`)
    (hxs : NoSurrogate x)
    (hs : sfx n ≠ [])                                    -- the name has a suffix
    -- no rootless path next to an authority (`_with_raw_name` re-roots it:
    -- `C13_headline_with_suffix_own_suffix_fails_for_rootless`)
    (hpath : u.netloc ≠ [] → (u.path = [] ∨ u.path.head? = some 47)) :
    (q e Gen.PATH_QUOTER x = sfx n →                     -- `x` quotes to the raw suffix
      withSuffix e u x kq kf = .ok (C13_keep u kq kf)) ∧
    (sfx n = q e Gen.PATH_QUOTER x →                     -- the same, read from the accessor side
      suffix e u = .ok x ∧ withSuffix e u x kq kf = .ok (C13_keep u kq kf)) :=
  ⟨fun hq => C13_with_suffix_own_suffix e u x kq kf n hn hx hxs hq hs hpath,
   fun hq => C13_with_suffix_suffix_id e u x kq kf n hn hx hxs hq hs hpath⟩

/-- the hypothesis "empty or rooted under an authority" is needed: for the hand-made
    `URL.build(scheme="http", host="h", path="x/a.b", encoded=True)` `with_suffix(".b")` gives the path "//a.b", not the
    URL back.  Cites `C13_with_suffix_own_suffix_fails_for_rootless`. -/
theorem C13_headline_with_suffix_own_suffix_fails_for_rootless : ∀ b : Backend,
    let e : Env := ⟨b, Oracles.empty⟩
    let u := fromParts "http".toStr "h".toStr "x/a.b".toStr [] []
    rawName u = .ok "a.b".toStr ∧ q e Gen.PATH_QUOTER ".b".toStr = sfx "a.b".toStr ∧
    withSuffix e u ".b".toStr false false = .ok (fromParts "http".toStr "h".toStr "//a.b".toStr [] []) :=
  C13_with_suffix_own_suffix_fails_for_rootless

/-- `with_suffix(u.suffix) = u` is FALSE in general: `URL("http://h/a.b%2Fc")` has suffix ".b/c" (the escaped '/' is
    decoded), and `with_suffix(".b/c")` raises ValueError ("Slash in name is not allowed").
    Cites `C13_with_suffix_suffix_fails_for_escaped_slash`. -/
theorem C13_headline_with_suffix_suffix_fails_for_escaped_slash : ∀ b : Backend,
    let e : Env := ⟨b, Oracles.empty⟩
    let u := fromParts "http".toStr "h".toStr "/a.b%2Fc".toStr [] []
    rawSuffix u = .ok ".b%2Fc".toStr ∧ suffix e u = .ok ".b/c".toStr ∧
    withSuffix e u ".b/c".toStr false false = .error .valueError :=
  C13_with_suffix_suffix_fails_for_escaped_slash

/-- `with_suffix("")` on a name WITHOUT a suffix: the URL itself (up to the keep flags) — unless the name is "", "." or
    "..", where `with_suffix` raises ValueError.  Cites `C13_with_suffix_empty_id`. -/
theorem C13_headline_with_suffix_empty_id (e : Env) (u : Url) (kq kf : Bool) (n : Str)
    (hn : rawName u = .ok n) (hs : sfx n = [])           -- the name has no suffix
    (hpath : u.netloc ≠ [] → (u.path = [] ∨ u.path.head? = some 47)) :   -- no rootless path next to an authority
    ((n ≠ [] ∧ n ≠ dot ∧ n ≠ dotdot) → withSuffix e u [] kq kf = .ok (C13_keep u kq kf)) ∧
    ((n = [] ∨ n = dot ∨ n = dotdot) → withSuffix e u [] kq kf = .error .valueError) :=
  C13_with_suffix_empty_id e u kq kf n hn hs hpath

/-- "with_suffix(x) replaces only the suffix and leaves the rest of the … name … exactly as [it was]", read as "the
    stem of the new name is the old stem": true IF AND ONLY IF `x` keeps the stem — `x` is "" and the old stem has no
    suffix of its own, or `quote(x)` is ONE dotted piece; and then the new raw suffix is `quote(x)`.  (The RAW new name
    is always old stem + `quote(x)`: `C13_headline_with_suffix`; what fails otherwise is that the old stem is no longer
    the stem of the new name.)  Cites `C13_with_suffix_stem_iff`. -/
theorem C13_headline_with_suffix_stem_iff (e : Env) (u : Url) (x : Str) (kq kf : Bool) (v : Url) (n m : Str)
    (hx : PyStr x)                                       -- a Python string
    (hn : rawName u = .ok n)                             -- the old raw name
    (h : withSuffix e u x kq kf = .ok v)                 -- the call succeeds
    (hm : rawName v = .ok m) :                           -- the new raw name
    (C13_rawStem m = C13_rawStem n ↔ C13_stemKeeping e n x) ∧
    (C13_dottedPiece (q e Gen.PATH_QUOTER x) → sfx m = q e Gen.PATH_QUOTER x) :=
  C13_with_suffix_stem_iff e u x kq kf v n m hx hn h hm

/-- IDEMPOTENCE, exactly: after a successful `v = u.with_suffix(x)`, `v.with_suffix(x)` is `v` again (same scheme,
    authority, path; query / fragment by the keep flags) IF AND ONLY IF `x` keeps the stem.  Any URL.
    Cites `C13_with_suffix_idem_iff`. -/
theorem C13_headline_with_suffix_idem_iff (e : Env) (u : Url) (x : Str) (kq kf kq' kf' : Bool) (v : Url) (n : Str)
    (hx : PyStr x)                                       -- a Python string
    (hn : rawName u = .ok n)                             -- the old raw name
    (h : withSuffix e u x kq kf = .ok v) :               -- the first call succeeds
    withSuffix e v x kq' kf' = .ok (C13_keep v kq' kf') ↔ C13_stemKeeping e n x :=
  C13_with_suffix_idem_iff e u x kq kf kq' kf' v n hx hn h

/-- ABSORPTION, exactly: after a successful `v = u.with_suffix(x)`, a further `with_suffix(y)` on `v` is
    `with_suffix(y)` on `u` — for EVERY `y`, as VALUES (errors included), the keep flags composed — IF AND ONLY IF `x`
    keeps the stem.  Cites `C13_with_suffix_absorb_iff`. -/
theorem C13_headline_with_suffix_absorb_iff (e : Env) (u : Url) (x : Str) (kq kf : Bool) (v : Url) (n : Str)
    (hx : PyStr x)                                       -- a Python string
    (hn : rawName u = .ok n)                             -- the old raw name
    (h : withSuffix e u x kq kf = .ok v) :               -- the first call succeeds
    (∀ (y : Str) (kq' kf' : Bool), withSuffix e v y kq' kf' = withSuffix e u y (kq && kq') (kf && kf')) ↔
      C13_stemKeeping e n x :=
  C13_with_suffix_absorb_iff e u x kq kf v n hx hn h

/-- the everyday form: `u.with_suffix("." + x').with_suffix(y)` is `u.with_suffix(y)` for `x'` non-empty, without '.'
    and without lone surrogates (both keep flags on in the first step), for every `y`, errors included.
    Cites `C13_with_suffix_then_with_suffix`. -/
theorem C13_headline_with_suffix_then_with_suffix (e : Env) (u : Url) (x' y : Str) (kq' kf' : Bool) (v : Url)
    (hx : PyStr x') (hxs : NoSurrogate x')               -- a Python string without lone surrogates
    (hx0 : x' ≠ []) (hx46 : 46 ∉ x')                     -- non-empty, no '.'
    (h : withSuffix e u (46 :: x') true true = .ok v) :  -- the first call (keep_query, keep_fragment on) succeeds
    withSuffix e v y kq' kf' = withSuffix e u y kq' kf' :=
  C13_with_suffix_then_with_suffix e u x' y kq' kf' v hx hxs hx0 hx46 h

/-- "`x` keeps the stem" on the ARGUMENT itself, for a Python string without lone surrogates that passes the first
    check of `with_suffix` (empty or starting with '.'): `x` is "" (and the old stem has no suffix) or `x` is "." + a
    non-empty text without '.'.  Cites `C13_stemKeeping_iff`. -/
theorem C13_headline_stemKeeping_iff (e : Env) (n x : Str)
    (hx : PyStr x) (hxs : NoSurrogate x)                 -- a Python string without lone surrogates
    (hshape : x = [] ∨ x.head? = some 46) :              -- the first check of `with_suffix`
    C13_stemKeeping e n x ↔
      ((x = [] ∧ sfx (C13_rawStem n) = []) ∨ ∃ y, x = 46 :: y ∧ y ≠ [] ∧ 46 ∉ y) :=
  C13_stemKeeping_iff e n x hx hxs hshape

/-- idempotence, absorption and "the stem is kept" are FALSE for a suffix with two dots and for "" on a name with two
    suffixes: `URL("http://h/a.b").with_suffix(".tar.gz")` is `…/a.tar.gz`, the same call AGAIN gives `…/a.tar.tar.gz`,
    and `.with_suffix(".x")` after it gives `…/a.tar.x` where `URL("http://h/a.b").with_suffix(".x")` is `…/a.x`;
    `URL("http://h/a.tar.gz").with_suffix("")` is `…/a.tar`, again `…/a`.
    Cites `C13_with_suffix_idem_fails_for_multi_dot`. -/
theorem C13_headline_with_suffix_idem_fails_for_multi_dot : ∀ b : Backend,
    let e : Env := ⟨b, Oracles.empty⟩
    let U := fun (p : String) => fromParts "http".toStr "h".toStr p.toStr [] []
    withSuffix e (U "/a.b") ".tar.gz".toStr false false = .ok (U "/a.tar.gz") ∧
    withSuffix e (U "/a.tar.gz") ".tar.gz".toStr false false = .ok (U "/a.tar.tar.gz") ∧
    withSuffix e (U "/a.tar.gz") ".x".toStr false false = .ok (U "/a.tar.x") ∧
    withSuffix e (U "/a.b") ".x".toStr false false = .ok (U "/a.x") ∧
    ¬ C13_dottedPiece (q e Gen.PATH_QUOTER ".tar.gz".toStr) ∧
    C13_rawStem "a.tar.gz".toStr = "a.tar".toStr ∧ C13_rawStem "a.b".toStr = "a".toStr ∧
    withSuffix e (U "/a.tar.gz") [] false false = .ok (U "/a.tar") ∧
    withSuffix e (U "/a.tar") [] false false = .ok (U "/a") ∧
    sfx (C13_rawStem "a.tar.gz".toStr) = ".tar".toStr :=
  C13_with_suffix_idem_fails_for_multi_dot

/-- where `NoSurrogate` is needed: ".\ud800" passes the checks of `with_suffix`, quotes to "." and is not a dotted
    piece — `URL("http://h/a.b").with_suffix(".\ud800")` is `…/a.`, the same call again `…/a..`; and
    `with_suffix("\ud800.b")` raises ValueError although its quoted text ".b" is the suffix of "a.b".
    Cites `C13_with_suffix_idem_fails_for_surrogate`. -/
theorem C13_headline_with_suffix_idem_fails_for_surrogate : ∀ b : Backend,
    let e : Env := ⟨b, Oracles.empty⟩
    let U := fun (p : String) => fromParts "http".toStr "h".toStr p.toStr [] []
    let x : Str := [46, 0xD800]
    PyStr x ∧ 46 ∉ x.drop 1 ∧ q e Gen.PATH_QUOTER x = ".".toStr ∧
    withSuffix e (U "/a.b") x false false = .ok (U "/a.") ∧
    withSuffix e (U "/a.") x false false = .ok (U "/a..") ∧
    q e Gen.PATH_QUOTER [0xD800, 46, 98] = ".b".toStr ∧
    withSuffix e (U "/a.b") [0xD800, 46, 98] false false = .error .valueError :=
  C13_with_suffix_idem_fails_for_surrogate

/-! ## non-vacuity -/
section checks
private def e4 : Env := { b := .py, o := Oracles.empty }
private def uD4 : Url := fromParts "http".toStr "h".toStr "/a/../b".toStr [] []
private def uT4 : Url := fromParts "http".toStr "h".toStr "/d/a.tar.gz".toStr "k=v".toStr "f".toStr

/-- `C13_headline_child_norm_name_parent` / `C13_headline_child_norm_parent` on an old path WITH dot segments and an
    argument with '/' and "..": the hypotheses hold, the call succeeds, parts and parent as the closed form says -/
example : uD4.netloc ≠ [] ∧ PyStr "x/../c d.txt".toStr ∧ 46 ∈ "x/../c d.txt".toStr ∧
    splitOn 47 "x/../c d.txt".toStr = ["x".toStr, "..".toStr] ++ ["c d.txt".toStr] ∧
    ((makeChild e4 uD4 ["x/../c d.txt".toStr] false).map rawParts).toOption
      = some ["/".toStr, "b".toStr, "c%20d.txt".toStr] ∧
    ((makeChild e4 uD4 ["x/../c d.txt".toStr] false).map parent).toOption
      = some (fromParts "http".toStr "h".toStr "/b".toStr [] []) := by
  simp only [uD4]; str_lits; decide +kernel

/-- `C13_headline_with_suffix_own_suffix` through the headline theorem: `http://h/d/a.tar.gz?k=v#f`, x = ".gz",
    query kept, fragment dropped -/
example : withSuffix e4 uT4 ".gz".toStr true false
    = .ok (fromParts "http".toStr "h".toStr "/d/a.tar.gz".toStr "k=v".toStr []) :=
  (C13_headline_with_suffix_own_suffix e4 uT4 ".gz".toStr true false "a.tar.gz".toStr (by decide)
    (by decide) (by decide) (by decide) (by decide)).1 (by decide +kernel)

/-- `C13_stemKeeping`: holds for ".t x" on "a.tar.gz" (one dotted piece after quoting), and the argument-side reading
    applies (Python string, no lone surrogate, starts with '.') -/
example : C13_stemKeeping e4 "a.tar.gz".toStr ".t x".toStr ∧ PyStr ".t x".toStr ∧ NoSurrogate ".t x".toStr ∧
    (".t x".toStr).head? = some 46 :=
  ⟨Or.inr (by decide +kernel), by decide, by decide, by decide⟩
end checks

end Yarl
