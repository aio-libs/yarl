/-
  C20Yarl.lean — schedule independence for the REAL URL model.

  The thread-interleaving theorems of C20.lean (every cached call = look-up / compute / store atomic
  steps; shared heap, shared constructor table, shared per-object memos; clear / configure at any
  point) instantiated with `yarlSem e` (auto-encoding constructor of YarlModel/Url.lean on inputs
  inside the C09 guard, real accessors) and with `yarlSemEncoded e` (`encoded=True`), the hypothesis
  `PrefillOK` being discharged by `C08_yarl_prefillOK` (i.e. by `C09_eager_eq_lazy`).
-/
import YarlModel
import YarlProofs.Lemmas.CacheLemmas
import YarlProofs.C08
import YarlProofs.C20
import YarlProofs.C09
import YarlProofs.C08Yarl
namespace Yarl
open Yarl.Cache Yarl.CacheLemmas Yarl.CacheInst

/-! ### the auto-encoding constructor -/

theorem C20_yarl_tstep_coherent (e : Env) (pol : Policy (GoodKey e)) (w : World (GoodKey e) Url Val)
    (ts : List (Thread (GoodKey e) Url Val)) (spool : List (Option Url))
    (progs : List (List (Op (GoodKey e) Url))) (i : Nat) (t : Thread (GoodKey e) Url Val)
    (hc : TCoherent (yarlSem e) w ts spool progs) (hi : ts[i]? = some t) :
    let r := tstep (yarlSem e) pol w t
    TCoherent (yarlSem e) r.1 (ts.set i r.2) spool progs ∧ HeapExt w.heap r.1.heap ∧
      (∀ j, j ≠ i → (ts.set i r.2)[j]? = ts[j]?) :=
  C20_tstep_coherent (yarlSem e) pol (C08_yarl_prefillOK e) w ts spool progs i t hc hi

theorem C20_yarl_runSched_coherent (e : Env) (pol : Policy (GoodKey e)) (w : World (GoodKey e) Url Val)
    (ts : List (Thread (GoodKey e) Url Val)) (spool : List (Option Url))
    (progs : List (List (Op (GoodKey e) Url))) (sched : List Nat)
    (hc : TCoherent (yarlSem e) w ts spool progs) :
    TCoherent (yarlSem e) (runSched (yarlSem e) pol w ts sched).1 (runSched (yarlSem e) pol w ts sched).2
      spool progs :=
  runSched_coherent (yarlSem e) pol (C08_yarl_prefillOK e) w ts spool progs sched hc

/-- threads sharing yarl URL objects and yarl's constructor caches, under EVERY schedule: each
    thread's outputs are a prefix of — and, once it has finished, equal to — what its program yields
    alone against the cache-free specification -/
theorem C20_yarl_any_schedule (e : Env) (pol : Policy (GoodKey e)) (w0 : World (GoodKey e) Url Val)
    (pool : List (Option Nat)) (spool : List (Option Url)) (hc : Coherent (yarlSem e) w0 pool spool)
    (progs : List (List (Op (GoodKey e) Url))) (sched : List Nat) :
    let ts0 := progs.map (fun p => ({ prog := p, hs := pool } : Thread (GoodKey e) Url Val))
    let r := runSched (yarlSem e) pol w0 ts0 sched
    ∀ (i : Nat) (t : Thread (GoodKey e) Url Val), r.2[i]? = some t →
      ∃ p, progs[i]? = some p ∧ t.outs <+: specRun (yarlSem e) spool p ∧
        (t.prog = [] ∧ t.pend = .idle → t.outs = specRun (yarlSem e) spool p) :=
  C20_any_schedule (yarlSem e) pol (C08_yarl_prefillOK e) w0 pool spool hc progs sched

theorem C20_yarl_any_schedule_finished (e : Env) (pol : Policy (GoodKey e)) (w0 : World (GoodKey e) Url Val)
    (pool : List (Option Nat)) (spool : List (Option Url)) (hc : Coherent (yarlSem e) w0 pool spool)
    (progs : List (List (Op (GoodKey e) Url))) (sched : List Nat) (i : Nat) (t : Thread (GoodKey e) Url Val)
    (hi : (runSched (yarlSem e) pol w0
            (progs.map (fun p => ({ prog := p, hs := pool } : Thread (GoodKey e) Url Val))) sched).2[i]? = some t)
    (hfin : t.prog = []) :
    ∃ p, progs[i]? = some p ∧ t.outs = specRun (yarlSem e) spool p :=
  C20_any_schedule_finished (yarlSem e) pol (C08_yarl_prefillOK e) w0 pool spool hc progs sched i t hi hfin

theorem C20_yarl_any_schedule_fresh (e : Env) (pol : Policy (GoodKey e)) (cap : Option Nat)
    (progs : List (List (Op (GoodKey e) Url))) (sched : List Nat) :
    let ts0 := progs.map (fun p => ({ prog := p, hs := [] } : Thread (GoodKey e) Url Val))
    let r := runSched (yarlSem e) pol { cap := cap } ts0 sched
    ∀ (i : Nat) (t : Thread (GoodKey e) Url Val), r.2[i]? = some t →
      ∃ p, progs[i]? = some p ∧ t.outs <+: specRun (yarlSem e) [] p ∧
        (t.prog = [] ∧ t.pend = .idle → t.outs = specRun (yarlSem e) [] p) :=
  C20_any_schedule_fresh (yarlSem e) pol (C08_yarl_prefillOK e) cap progs sched

/-- threads started on a pool of URLs that an arbitrary sequential prologue `pre` created (and whose
    memos it filled arbitrarily): the pool is coherent, so `C20_yarl_any_schedule` applies -/
theorem C20_yarl_any_schedule_after (e : Env) (pol : Policy (GoodKey e)) (cap : Option Nat)
    (pre : List (Op (GoodKey e) Url)) (progs : List (List (Op (GoodKey e) Url))) (sched : List Nat) :
    let w := runWorld (yarlSem e) pol { cap := cap } [] pre
    let spool := specHandles (yarlSem e) [] pre
    let ts0 := progs.map (fun p => ({ prog := p, hs := w.2 } : Thread (GoodKey e) Url Val))
    let r := runSched (yarlSem e) pol w.1 ts0 sched
    ∀ (i : Nat) (t : Thread (GoodKey e) Url Val), r.2[i]? = some t →
      ∃ p, progs[i]? = some p ∧ t.outs <+: specRun (yarlSem e) spool p ∧
        (t.prog = [] ∧ t.pend = .idle → t.outs = specRun (yarlSem e) spool p) :=
  C20_any_schedule (yarlSem e) pol (C08_yarl_prefillOK e) _ _ _
    (C08_yarl_runWorld_coherent e pol _ [] [] (C08_yarl_init_coherent e cap) pre) progs sched

/-! ### the non-validating constructor -/

theorem C20_yarl_encoded_any_schedule (e : Env) (pol : Policy Str) (w0 : World Str Url Val)
    (pool : List (Option Nat)) (spool : List (Option Url)) (hc : Coherent (yarlSemEncoded e) w0 pool spool)
    (progs : List (List (Op Str Url))) (sched : List Nat) :
    let ts0 := progs.map (fun p => ({ prog := p, hs := pool } : Thread Str Url Val))
    let r := runSched (yarlSemEncoded e) pol w0 ts0 sched
    ∀ (i : Nat) (t : Thread Str Url Val), r.2[i]? = some t →
      ∃ p, progs[i]? = some p ∧ t.outs <+: specRun (yarlSemEncoded e) spool p ∧
        (t.prog = [] ∧ t.pend = .idle → t.outs = specRun (yarlSemEncoded e) spool p) :=
  C20_any_schedule (yarlSemEncoded e) pol (C08_yarl_encoded_prefillOK e) w0 pool spool hc progs sched

theorem C20_yarl_encoded_any_schedule_finished (e : Env) (pol : Policy Str) (w0 : World Str Url Val)
    (pool : List (Option Nat)) (spool : List (Option Url)) (hc : Coherent (yarlSemEncoded e) w0 pool spool)
    (progs : List (List (Op Str Url))) (sched : List Nat) (i : Nat) (t : Thread Str Url Val)
    (hi : (runSched (yarlSemEncoded e) pol w0
            (progs.map (fun p => ({ prog := p, hs := pool } : Thread Str Url Val))) sched).2[i]? = some t)
    (hfin : t.prog = []) :
    ∃ p, progs[i]? = some p ∧ t.outs = specRun (yarlSemEncoded e) spool p :=
  C20_any_schedule_finished (yarlSemEncoded e) pol (C08_yarl_encoded_prefillOK e) w0 pool spool hc progs sched
    i t hi hfin

theorem C20_yarl_encoded_any_schedule_fresh (e : Env) (pol : Policy Str) (cap : Option Nat)
    (progs : List (List (Op Str Url))) (sched : List Nat) :
    let ts0 := progs.map (fun p => ({ prog := p, hs := [] } : Thread Str Url Val))
    let r := runSched (yarlSemEncoded e) pol { cap := cap } ts0 sched
    ∀ (i : Nat) (t : Thread Str Url Val), r.2[i]? = some t →
      ∃ p, progs[i]? = some p ∧ t.outs <+: specRun (yarlSemEncoded e) [] p ∧
        (t.prog = [] ∧ t.pend = .idle → t.outs = specRun (yarlSemEncoded e) [] p) :=
  C20_any_schedule_fresh (yarlSemEncoded e) pol (C08_yarl_encoded_prefillOK e) cap progs sched

/-! ### non-vacuity: real races on the real constructor -/

namespace YarlRun

def prog1 : List (Op (GoodKey envC) Url) := [.new k1, .read 0 "raw_host", .read 0 "str"]

def seq1 : List (Out Url Val) :=
  [.handle (some u1), .value (some (.ostr (.ok (some "example.com".toStr)))), .value (some (.str (.ok s1)))]

example : specRun (yarlSem envC) [] prog1 = seq1 := by
  unfold prog1; k1_lits; decide +kernel

/-- both threads miss the constructor table, both run `encode_url`, both allocate (two objects for
    one key), both compute "str" on their own object: outputs are the sequential ones -/
example : ((runSched (yarlSem envC) lruPol (w0 (some 2)) [{ prog := prog1, hs := [] }, { prog := prog1, hs := [] }]
    [0, 1, 0, 1, 0, 1, 1, 0, 0, 1]).2.map (·.outs)) = [seq1, seq1] := by
  unfold prog1; k1_lits; decide +kernel
example : ((runSched (yarlSem envC) lruPol (w0 (some 2)) [{ prog := prog1, hs := [] }, { prog := prog1, hs := [] }]
    [0, 1, 0, 1, 0, 1, 1, 0, 0, 1]).2.map (·.hs)) = [[some 0], [some 1]] := by
  unfold prog1; k1_lits; decide +kernel

/-- scheduled one after the other the second thread gets the first one's object, memo included -/
example : ((runSched (yarlSem envC) lruPol (w0 (some 2)) [{ prog := prog1, hs := [] }, { prog := prog1, hs := [] }]
    [0, 0, 0, 0, 0, 1, 1, 1, 1, 1]).2.map (fun t => (t.hs, t.outs))) = [([some 0], seq1), ([some 0], seq1)] := by
  unfold prog1; k1_lits; decide +kernel

/-- two threads racing on the memo of ONE shared URL object: both miss "str", both compute, both store;
    thread 1 also unpickles a copy and reads the pre-filled name from it (lazy route).  Thread 0 is
    starved before its last step: a strict prefix. -/
def pool1 : World (GoodKey envC) Url Val × List (Option Nat) := runWorld (yarlSem envC) lruPol (w0 none) [] [.new k1]

example : ((runSched (yarlSem envC) flushPol pool1.1
      [{ prog := [.read 0 "str", .clear, .new k1], hs := pool1.2 },
       { prog := [.read 0 "str", .twin 0, .read 1 "raw_user", .read 0 "raw_user"], hs := pool1.2 }]
      [0, 1, 1, 0, 0, 1, 1, 1, 1, 7]).2.map (·.outs))
    = [[.value (some (.str (.ok s1))), .unit],
       [.value (some (.str (.ok s1))), .handle (some u1), .value (some (.ostr (.ok (some "user".toStr)))),
        .value (some (.ostr (.ok (some "user".toStr))))]] := by
  unfold pool1; k1_lits; decide +kernel

/-- WITHOUT the guard, threads see schedule/route-dependent answers for "equal" URLs -/
example : ((runSched (yarlSemAll envPy) lruPol { cap := none }
      [{ prog := [.new "http://[[::1]/".toStr, .read 0 "raw_host"], hs := [] },
       { prog := [.new "http://[[::1]/".toStr, .twin 0, .read 1 "raw_host"], hs := [] }]
      [0, 0, 0, 1, 1, 1, 1]).2.map (·.outs))
    = [[.handle (some badParts), .value (some (.ostr (.ok (some "::".toStr))))],
       [.handle (some badParts), .handle (some badParts), .value (some (.ostr (.ok (some "::1".toStr))))]] := by
  str_lits; decide +kernel

/-- the theorem instantiated at the concrete threads -/
example (sched : List Nat) (i : Nat) (t : Thread (GoodKey envC) Url Val)
    (hi : (runSched (yarlSem envC) lruPol (w0 (some 2))
            ([prog1, prog1].map (fun p => ({ prog := p, hs := [] } : Thread (GoodKey envC) Url Val))) sched).2[i]? = some t)
    (hfin : t.prog = []) : t.outs = seq1 := by
  obtain ⟨p, hp, ho⟩ := C20_yarl_any_schedule_finished envC lruPol (w0 (some 2)) [] []
    (C08_yarl_init_coherent envC (some 2)) [prog1, prog1] sched i t hi hfin
  have hp1 : p = prog1 := by
    match i, hp with
    | 0, hp => exact (Option.some.inj hp).symm
    | 1, hp => exact (Option.some.inj hp).symm
  rw [ho, hp1]
  decide +kernel

end YarlRun

end Yarl
