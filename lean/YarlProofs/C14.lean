/-
  C14.lean — `join()` is RFC 3986 §5.2 reference resolution (non-strict).
-/
import YarlModel
import YarlProofs.C15
import YarlProofs.Lemmas.JoinLemmas
import YarlProofs.Lemmas.JoinShape
import YarlProofs.Lemmas.PathAlg
namespace Yarl
open Yarl.PathLemmas Yarl.JoinLemmas

/-- the five RFC components of a URL -/
def p5 (u : Url) : Rfc.Parts5 :=
  { scheme := u.scheme, authority := u.netloc, path := u.path, query := u.query, fragment := u.fragment }

/-- other scheme, or a base scheme without relative resolution: the reference comes back unchanged -/
theorem C14_passthrough (e : Env) (base ref : Url) :
    ((!ref.scheme.isEmpty ∧ ref.scheme ≠ base.scheme) ∨
      ¬ Gen.usesRelative.contains (if !ref.scheme.isEmpty then ref.scheme else base.scheme) = true) →
    join e base ref = ref := by
  intro h
  rw [join_eq, if_pos]
  rcases h with ⟨h1, h2⟩ | h
  · simp [joinScheme, h1, h2]
  · rw [Bool.or_eq_true]
    right
    simpa [joinScheme] using h

/-- every scheme with relative resolution also takes an authority (generated tables; by computation) -/
theorem C14_relative_subset_authority : ∀ s ∈ Gen.usesRelative, Gen.usesAuthority.contains s = true := by
  decide +kernel

namespace JoinLemmas

/-- the path computed by the relative branch of `join`: it IS `joinRelPath` (Lemmas/JoinShape.lean,
    `joinPath_eq_joinRelPath`), spelled out here because end results name it -/
def joinPath (base ref : Url) : Str :=
  if !ref.path.isEmpty then
    let p :=
      if ref.path.head? = some 47 then ref.path
      else if base.path.isEmpty then (if !base.netloc.isEmpty then 47 :: ref.path else ref.path)
      else if base.path.getLast? = some 47 then base.path ++ ref.path
      else
        let merged := joinC 47 ((rawParts base).dropLast ++ [[]]) ++ ref.path
        if base.path.head? = some 47 then merged.drop 1 else merged
    if mem 46 p then normalizePath p else p
  else base.path

theorem joinPath_eq_joinRelPath (base ref : Url) : joinPath base ref = joinRelPath base ref := rfl

theorem join_rel (e : Env) (base ref : Url)
    (hrel : Gen.usesRelative.contains base.scheme = true)
    (hsch : ref.scheme = [] ∨ ref.scheme = base.scheme) :
    join e base ref =
      if !ref.netloc.isEmpty then fromParts base.scheme ref.netloc ref.path ref.query ref.fragment
      else fromParts base.scheme base.netloc (joinPath base ref)
        (if !ref.path.isEmpty || !ref.query.isEmpty then ref.query else base.query) ref.fragment := by
  have hs : joinScheme base ref = base.scheme := scheme_eq base ref hsch
  have ha : Gen.usesAuthority.contains base.scheme = true :=
    C14_relative_subset_authority _ (by simpa using hrel)
  rw [join_eq, hs, hrel, ha]
  simp only [ne_eq, not_true_eq_false, decide_false, Bool.not_true, Bool.or_self, Bool.false_eq_true, if_false,
    Bool.and_true]
  rfl

theorem dropWhile_snoc (l : Str) :
    (l ++ [47]).dropWhile (· ≠ 47) = l.dropWhile (· ≠ 47) ++ [47] := by
  induction l with
  | nil => simp
  | cons x xs ih =>
    rw [List.cons_append, List.dropWhile_cons, List.dropWhile_cons, ih]
    split <;> rfl

theorem upTo_rooted (rest : Str) :
    ((47 :: rest).reverse.dropWhile (· ≠ 47)).reverse
      = 47 :: (rest.reverse.dropWhile (· ≠ 47)).reverse := by
  rw [List.reverse_cons, dropWhile_snoc]
  simp

theorem rawParts_rootless (base : Url) (hn : base.netloc = []) (h : base.path.head? ≠ some 47) :
    rawParts base = splitOn 47 base.path := by
  unfold rawParts
  simp only [hn, List.isEmpty_nil, Bool.not_true, Bool.false_eq_true, if_false]
  split
  · rename_i rest hp
    simp [hp] at h
  · rfl

/-- §5.2.3 `merge`, first case: an authority and an empty base path -/
theorem merge_of_empty (base : Url) (rp : Str) (hp : base.path = []) (hn : base.netloc ≠ []) :
    Rfc.merge (p5 base) rp = 47 :: rp := by
  simp [Rfc.merge, p5, hp, hn]

/-- §5.2.3 `merge`, second case: the base path up to and including its last '/', then the reference path -/
theorem merge_upTo (base : Url) (rp : Str) (h : base.netloc = [] ∨ base.path ≠ []) :
    Rfc.merge (p5 base) rp = (base.path.reverse.dropWhile (· ≠ 47)).reverse ++ rp := by
  rcases h with h | h
  · simp [Rfc.merge, p5, h]
  · simp [Rfc.merge, p5, h]

/-- the un-normalised path of the relative branch, for a non-rooted reference path, is RFC 3986 §5.2.3 `merge` —
    unless the base has an authority AND a rootless non-empty path -/
theorem joinRawPath_eq_merge (base ref : Url)
    (hb : base.netloc = [] ∨ base.path = [] ∨ base.path.head? = some 47) (hh : ref.path.head? ≠ some 47) :
    joinRawPath base ref = Rfc.merge (p5 base) ref.path := by
  refine joinRawPath_closed (P := (· = Rfc.merge (p5 base) ref.path)) base ref (fun h => absurd h hh) ?_ ?_ ?_ ?_ ?_
  · intro he hn
    rw [merge_of_empty base _ he hn]
  · intro he hn
    rw [merge_upTo base _ (.inl hn), he]
    rfl
  · intro he hl
    obtain ⟨init, hi⟩ := List.getLast?_eq_some_iff.mp hl
    rw [merge_upTo base _ (.inr he), hi, upToLastSlash init [] (by simp)]
  · intro he h
    obtain ⟨rest, hr⟩ := List.head?_eq_some_iff.mp h
    rw [merge_upTo base _ (.inr he), PathAlg.rawParts_of_rooted base rest hr, hr]
    exact merged_rooted rest ref.path
  · intro he h
    rw [merge_upTo base _ (.inr he), rawParts_rootless base (hb.resolve_right (fun hb => hb.elim he h)) h,
      joinC_dropLast]

/-- `merge` yields a rooted path when the base path is rooted, or empty next to an authority -/
theorem merge_rooted (base : Url) (rp : Str)
    (hbase : (base.path = [] ∧ base.netloc ≠ []) ∨ base.path.head? = some 47) :
    ∃ q, Rfc.merge (p5 base) rp = 47 :: q := by
  rcases hbase with ⟨h, hn⟩ | h
  · exact ⟨rp, merge_of_empty base rp h hn⟩
  · obtain ⟨xs, hp⟩ := List.head?_eq_some_iff.mp h
    refine ⟨(xs.reverse.dropWhile (· ≠ 47)).reverse ++ rp, ?_⟩
    rw [merge_upTo base rp (.inr (by rw [hp]; exact List.cons_ne_nil _ _)), hp, upTo_rooted xs]
    rfl

/-- `merge` introduces no '.' -/
theorem merge_nodot (base : Url) (rp : Str) (h1 : 46 ∉ base.path) (h2 : 46 ∉ rp) :
    46 ∉ Rfc.merge (p5 base) rp := by
  unfold Rfc.merge
  split
  · simpa using h2
  · simp only [p5, List.mem_append, List.mem_reverse, not_or]
    exact ⟨fun hm => h1 (List.mem_reverse.1 ((List.dropWhile_sublist _).subset hm)), h2⟩

/-- the target path of §5.2.2 before dot-segment removal -/
def target (base ref : Url) : Str :=
  if ref.path.head? = some 47 then ref.path else Rfc.merge (p5 base) ref.path

theorem target_of_rooted {base ref : Url} (h : ref.path.head? = some 47) : target base ref = ref.path :=
  if_pos h

theorem target_of_rootless {base ref : Url} (h : ref.path.head? ≠ some 47) :
    target base ref = Rfc.merge (p5 base) ref.path :=
  if_neg h

/-- the relative branch normalises the §5.2.3 target -/
theorem joinPath_normalize (base ref : Url)
    (hb : base.netloc = [] ∨ base.path = [] ∨ base.path.head? = some 47)
    (hp : ref.path ≠ []) :
    joinPath base ref = normalizePath (target base ref) := by
  have ht : joinRawPath base ref = target base ref := by
    by_cases hh : ref.path.head? = some 47
    · rw [target_of_rooted hh, joinRawPath, if_pos hh]
    · rw [target_of_rootless hh]
      exact joinRawPath_eq_merge base ref hb hh
  rw [joinPath_eq_joinRelPath, joinRelPath, if_pos (by simpa using hp), ht, guard_eq]

/-- … hence §5.2.4 of the target is the path of the relative branch, with one '/' in front exactly when the target is
    rootless and a ".." pops its first segment -/
theorem joinPath_vs_rds (base ref : Url)
    (hb : base.netloc = [] ∨ base.path = [] ∨ base.path.head? = some 47) (hp : ref.path ≠ []) :
    Rfc.removeDotSegments (target base ref)
      = (if (target base ref).head? ≠ some 47 ∧ C14_pathEscapes (target base ref) = true then [47] else []) ++
          joinPath base ref := by
  rw [joinPath_normalize base ref hb hp, ← rds_normalizePath]

theorem target_rooted (base ref : Url)
    (hbase : (base.path = [] ∧ base.netloc ≠ []) ∨ base.path.head? = some 47 ∨ ref.path.head? = some 47) :
    ∃ q, target base ref = 47 :: q := by
  by_cases hh : ref.path.head? = some 47
  · rw [target_of_rooted hh]
    exact List.head?_eq_some_iff.mp hh
  · rw [target_of_rootless hh]
    exact merge_rooted base ref.path (hbase.imp_right (·.resolve_right hh))

theorem target_nodot (base ref : Url) (h1 : 46 ∉ base.path) (h2 : 46 ∉ ref.path) :
    46 ∉ target base ref := by
  by_cases hh : ref.path.head? = some 47
  · rw [target_of_rooted hh]
    exact h2
  · rw [target_of_rootless hh]
    exact merge_nodot base ref.path h1 h2

/-- the relative branch computes §5.2.2's path whenever the target path is rooted or free of '.' -/
theorem joinPath_rfc (base ref : Url)
    (hb : base.netloc = [] ∨ base.path = [] ∨ base.path.head? = some 47)
    (hp : ref.path ≠ [])
    (ht : (∃ q, target base ref = 47 :: q) ∨ 46 ∉ target base ref) :
    joinPath base ref = Rfc.removeDotSegments (target base ref) := by
  rw [joinPath_vs_rds base ref hb hp, if_neg, List.nil_append]
  rintro ⟨h1, h2⟩
  rcases ht with ⟨q, hq⟩ | ht
  · exact h1 (hq ▸ rfl)
  · rw [C14_pathEscapes, escapes_false_of_no_dotdot _ fun hm => (noDots_splitOn_of_no_dot _ ht _ hm).2 rfl] at h2
    cases h2

/-- §5.2.2 on a reference without scheme or with the base's: "R.scheme undefined" -/
theorem rs_nil (base ref : Url) (hsch : ref.scheme = [] ∨ ref.scheme = base.scheme) :
    (if (p5 ref).scheme = (p5 base).scheme then [] else (p5 ref).scheme) = ([] : Str) := by
  rcases hsch with h | h <;> simp [h, p5]

/-- `join` with a same-scheme reference, component by component -/
theorem p5_join (e : Env) (base ref : Url)
    (hrel : Gen.usesRelative.contains base.scheme = true) (hsch : ref.scheme = [] ∨ ref.scheme = base.scheme) :
    p5 (join e base ref) =
      if ref.netloc = [] then
        { scheme := base.scheme, authority := base.netloc, path := joinPath base ref,
          query := joinRelQuery base ref, fragment := ref.fragment }
      else { scheme := base.scheme, authority := ref.netloc, path := ref.path, query := ref.query,
             fragment := ref.fragment } := by
  rw [join_rel e base ref hrel hsch]
  by_cases hn : ref.netloc = []
  · simp [hn, p5, fromParts, joinRelQuery]
  · simp [hn, p5, fromParts]

theorem join_path (e : Env) (base ref : Url)
    (hrel : Gen.usesRelative.contains base.scheme = true) (hsch : ref.scheme = [] ∨ ref.scheme = base.scheme)
    (hrn : ref.netloc = []) : (join e base ref).path = joinPath base ref := by
  have h := congrArg Rfc.Parts5.path (p5_join e base ref hrel hsch)
  rwa [if_pos hrn] at h

/-- §5.2.2 with a same-scheme reference, component by component: what `p5_join` says, except for the path -/
theorem resolve_eq (base ref : Url) (hsch : ref.scheme = [] ∨ ref.scheme = base.scheme) :
    Rfc.resolve (p5 base) (p5 ref) =
      if ref.netloc = [] then
        { scheme := base.scheme, authority := base.netloc,
          path := if ref.path = [] then base.path else Rfc.removeDotSegments (target base ref),
          query := joinRelQuery base ref, fragment := ref.fragment }
      else { scheme := base.scheme, authority := ref.netloc, path := Rfc.removeDotSegments ref.path,
             query := ref.query, fragment := ref.fragment } := by
  unfold Rfc.resolve
  simp only [rs_nil base ref hsch, List.isEmpty_nil, Bool.not_true, Bool.false_eq_true, if_false]
  by_cases hn : ref.netloc = []
  · by_cases hp : ref.path = []
    · simp [p5, hn, hp, joinRelQuery]
    · by_cases hh : ref.path.head? = some 47
      · simp [p5, hn, hp, hh, joinRelQuery, target]
      · simp [p5, hn, hp, hh, joinRelQuery, target]
  · simp [p5, hn]

/-- the whole relative branch, given the path -/
theorem join_rfc_of_path (e : Env) (base ref : Url)
    (hrel : Gen.usesRelative.contains base.scheme = true)
    (hsch : ref.scheme = [] ∨ ref.scheme = base.scheme)
    (href : ref.netloc ≠ [] → Rfc.removeDotSegments ref.path = ref.path)
    (hpath : ref.netloc = [] → ref.path ≠ [] →
      joinPath base ref = Rfc.removeDotSegments (target base ref)) :
    p5 (join e base ref) = Rfc.resolve (p5 base) (p5 ref) := by
  rw [p5_join e base ref hrel hsch, resolve_eq base ref hsch]
  split
  · rename_i hn
    by_cases hp : ref.path = []
    · simp [joinPath, hp]
    · rw [if_neg hp, hpath hn hp]
  · rw [href ‹_›]

end JoinLemmas

/-- MAIN: `join` computes RFC 3986 §5.2.2 reference resolution on the encoded components.
    `hempty` only concerns a base with NEITHER authority NOR path (`URL("")`, `URL("http:")`,
    `URL("?q")`): there the merged path is the reference path itself, rootless, and the stack
    algorithm differs from §5.2.4 on rootless paths with dot segments
    (`C14_empty_base_dotdot_counterexample`). -/
theorem C14_join_rfc (e : Env) (base ref : Url)
    (hrel : Gen.usesRelative.contains base.scheme = true)
    (hsch : ref.scheme = [] ∨ ref.scheme = base.scheme)
    (hbase : base.path = [] ∨ base.path.head? = some 47)
    (hempty : base.netloc = [] → base.path = [] → ref.path.head? = some 47 ∨ 46 ∉ ref.path)
    (href : ref.netloc ≠ [] → Rfc.removeDotSegments ref.path = ref.path) :
    p5 (join e base ref) = Rfc.resolve (p5 base) (p5 ref) := by
  apply join_rfc_of_path e base ref hrel hsch href
  intro _ hp
  apply joinPath_rfc base ref (Or.inr hbase) hp
  rcases hbase with h | h
  · by_cases hn : base.netloc = []
    · rcases hempty hn h with hr | hr
      · exact Or.inl (target_rooted base ref (Or.inr (Or.inr hr)))
      · exact Or.inr (target_nodot base ref (by simp [h]) hr)
    · exact Or.inl (target_rooted base ref (Or.inl ⟨h, hn⟩))
  · exact Or.inl (target_rooted base ref (Or.inr (Or.inl h)))

/-- a base WITHOUT authority (its path may be rootless, `a/b`, or empty) and no '.' anywhere in the
    two paths: nothing is removed on either side and `join` is exactly RFC 3986 §5.2.2.
    Together with the `C14_rootless_base_counterexample*` this pins the remaining deviation down to
    dot segments meeting a rootless merged path. -/
theorem C14_join_rfc_rootless_nodots (e : Env) (base ref : Url)
    (hrel : Gen.usesRelative.contains base.scheme = true)
    (hsch : ref.scheme = [] ∨ ref.scheme = base.scheme)
    (hnet : base.netloc = [])
    (href : ref.netloc ≠ [] → Rfc.removeDotSegments ref.path = ref.path)
    (hnodot : 46 ∉ base.path ∧ 46 ∉ ref.path) :
    p5 (join e base ref) = Rfc.resolve (p5 base) (p5 ref) := by
  apply join_rfc_of_path e base ref hrel hsch href
  intro _ hp
  exact joinPath_rfc base ref (Or.inl hnet) hp (Or.inr (target_nodot base ref hnodot.1 hnodot.2))

/-- the fragment always comes from the reference (in every branch, including pass-through) -/
theorem C14_fragment_from_ref (e : Env) (base ref : Url) :
    (join e base ref).fragment = ref.fragment := by
  rcases join_cases e base ref with h | ⟨_, _, h⟩ | ⟨_, h⟩ <;> rw [h] <;> rfl

/-- the base query is inherited exactly when the reference has neither path nor query -/
theorem C14_query_inherited_iff (e : Env) (base ref : Url)
    (hrel : Gen.usesRelative.contains base.scheme = true)
    (hsch : ref.scheme = [] ∨ ref.scheme = base.scheme)
    (hn : ref.netloc = []) :
    (join e base ref).query
      = (if ref.path = [] ∧ ref.query = [] then base.query else ref.query) := by
  rw [join_rel e base ref hrel hsch]
  simp only [hn, List.isEmpty_nil, Bool.not_true, Bool.false_eq_true, if_false, fromParts]
  cases ref.path <;> cases ref.query <;> simp

/-! ### the corners of `C14_join_rfc`: a base with neither authority nor path, and where each hypothesis is needed -/

/-- a base WITHOUT authority and with an EMPTY path: RFC 3986 §5.2.3 `merge` prepends '/' only
    when the base has an authority, and so does the code: `URL("").join(URL("a"))` and
    `URL("http:").join(URL("a"))` have path `a`, as `Rfc.resolve` says. -/
theorem C14_empty_base_now_rfc (e : Env) :
    (let base := fromParts [] [] [] [] []
     let ref := fromParts [] [] "a".toStr [] []
     (join e base ref).path = "a".toStr ∧ p5 (join e base ref) = Rfc.resolve (p5 base) (p5 ref)) ∧
    (let base := fromParts "http".toStr [] [] [] []
     let ref := fromParts [] [] "a".toStr [] []
     (join e base ref).path = "a".toStr ∧ p5 (join e base ref) = Rfc.resolve (p5 base) (p5 ref)) := by
  simp only [join]; decide +kernel

/-- `hempty`: base without authority and with an empty path, ROOTLESS reference with a ".." that
    pops its first segment: the merged path is the rootless `a/..`; the stack algorithm gives the
    empty path, RFC 3986 §5.2.4 gives `/` (same phenomenon as `C14_rootless_base_counterexample`). -/
theorem C14_empty_base_dotdot_counterexample (e : Env) :
    let base := fromParts "http".toStr [] [] [] []
    let ref := fromParts [] [] "a/..".toStr [] []
    (join e base ref).path = [] ∧ (Rfc.resolve (p5 base) (p5 ref)).path = "/".toStr ∧
      p5 (join e base ref) ≠ Rfc.resolve (p5 base) (p5 ref) := by
  simp only [join]; decide +kernel

/-- same corner: `URL("").join(URL("a/../b"))` is `b`, RFC `/b` -/
theorem C14_empty_base_dotdot_counterexample2 (e : Env) :
    let base := fromParts [] [] [] [] []
    let ref := fromParts [] [] "a/../b".toStr [] []
    (join e base ref).path = "b".toStr ∧ (Rfc.resolve (p5 base) (p5 ref)).path = "/b".toStr := by
  simp only [join]; decide +kernel

/-- `hbase`: a base with a ROOTLESS path (`a/b`, only possible without authority) joined with `..`:
    the stack algorithm gives the empty path, RFC 3986 §5.2.4 applied to the merged `a/..` gives `/`. -/
theorem C14_rootless_base_counterexample (e : Env) :
    let base := fromParts [] [] "a/b".toStr [] []
    let ref := fromParts [] [] "..".toStr [] []
    (join e base ref).path = [] ∧ (Rfc.resolve (p5 base) (p5 ref)).path = "/".toStr ∧
      p5 (join e base ref) ≠ Rfc.resolve (p5 base) (p5 ref) := by
  simp only [join]; decide +kernel

/-- rootless base, climbing above the start: code `c`, RFC `/c` -/
theorem C14_rootless_base_counterexample2 (e : Env) :
    let base := fromParts [] [] "a/b".toStr [] []
    let ref := fromParts [] [] "../../c".toStr [] []
    (join e base ref).path = "c".toStr ∧ (Rfc.resolve (p5 base) (p5 ref)).path = "/c".toStr := by
  simp only [join]; decide +kernel

/-- without dot segments a rootless base is merged exactly as the RFC says -/
example (e : Env) :
    let base := fromParts [] [] "a/b".toStr [] []
    let ref := fromParts [] [] "c".toStr [] []
    p5 (join e base ref) = Rfc.resolve (p5 base) (p5 ref) ∧ (join e base ref).path = "a/c".toStr := by
  simp only [join]; decide +kernel

/-- `hbase` with an authority: a rootless path next to an authority (never produced by yarl's
    constructors, only by `encoded=True` / hand-made parts) is mangled by `raw_parts` -/
theorem C14_rootless_authority_base_counterexample (e : Env) :
    let base := fromParts "http".toStr "h".toStr "x/y".toStr [] []
    let ref := fromParts [] [] "c".toStr [] []
    (join e base ref).path = "///c".toStr ∧ (Rfc.resolve (p5 base) (p5 ref)).path = "x/c".toStr := by
  simp only [join]; decide +kernel

/-- `href`: a reference with its own authority is returned with its path AS IS; RFC 3986 §5.2.2
    removes its dot segments.  (yarl normalises such paths when the reference is constructed, so
    this only shows for `encoded=True` references.) -/
theorem C14_ref_authority_unnormalised_counterexample (e : Env) :
    let base := fromParts "http".toStr "h".toStr "/x".toStr [] []
    let ref := fromParts [] "g".toStr "/a/../b".toStr [] []
    (join e base ref).path = "/a/../b".toStr ∧ (Rfc.resolve (p5 base) (p5 ref)).path = "/b".toStr ∧
      p5 (join e base ref) ≠ Rfc.resolve (p5 base) (p5 ref) := by
  simp only [join]; decide +kernel

/-! ### non-vacuity: RFC 3986 §5.4 examples, base `http://a/b/c/d;p?q` -/

namespace JoinLemmas
def rfcBase : Url := fromParts "http".toStr "a".toStr "/b/c/d;p".toStr "q".toStr []
def rel (p q f : String) : Url := fromParts [] [] p.toStr q.toStr f.toStr
end JoinLemmas

-- the hypotheses of the main theorem hold for the RFC's base and these references
example : Gen.usesRelative.contains rfcBase.scheme = true := by decide +kernel
example : rfcBase.path = [] ∨ rfcBase.path.head? = some 47 := by decide +kernel
example : rfcBase.netloc = [] → rfcBase.path = [] →
    (rel "../../g" "" "").path.head? = some 47 ∨ 46 ∉ (rel "../../g" "" "").path := by decide +kernel
example : (rel "../../g" "" "").scheme = [] ∨ (rel "../../g" "" "").scheme = rfcBase.scheme := by decide +kernel
example : (rel "../../g" "" "").netloc ≠ [] → Rfc.removeDotSegments (rel "../../g" "" "").path = (rel "../../g" "" "").path := by decide +kernel

example (e : Env) : p5 (join e rfcBase (rel "../../g" "" "")) = p5 (fromParts "http".toStr "a".toStr "/g".toStr [] []) := by
  simp only [join]; decide +kernel
example (e : Env) : p5 (join e rfcBase (rel "g;x" "y" "s")) = p5 (fromParts "http".toStr "a".toStr "/b/c/g;x".toStr "y".toStr "s".toStr) := by
  simp only [join]; decide +kernel
example (e : Env) : p5 (join e rfcBase (rel "" "" "s")) = p5 (fromParts "http".toStr "a".toStr "/b/c/d;p".toStr "q".toStr "s".toStr) := by
  simp only [join]; decide +kernel
example (e : Env) : p5 (join e rfcBase (rel "" "y" "")) = p5 (fromParts "http".toStr "a".toStr "/b/c/d;p".toStr "y".toStr []) := by
  simp only [join]; decide +kernel
example (e : Env) : p5 (join e rfcBase (rel "../../../g" "" "")) = p5 (fromParts "http".toStr "a".toStr "/g".toStr [] []) := by
  simp only [join]; decide +kernel
example (e : Env) : p5 (join e rfcBase (rel "./g/." "" "")) = p5 (fromParts "http".toStr "a".toStr "/b/c/g/".toStr [] []) := by
  simp only [join]; decide +kernel
-- non-strict: a reference carrying the base's scheme is relative
example (e : Env) : p5 (join e rfcBase (fromParts "http".toStr [] "g".toStr [] []))
    = p5 (fromParts "http".toStr "a".toStr "/b/c/g".toStr [] []) := by
  simp only [join]; decide +kernel
-- base with authority and empty path
example (e : Env) : p5 (join e (fromParts "http".toStr "a".toStr [] [] []) (rel "g/../h" "" ""))
    = p5 (fromParts "http".toStr "a".toStr "/h".toStr [] []) := by
  simp only [join]; decide +kernel
-- pass-through: other scheme / scheme without relative resolution
example (e : Env) : join e rfcBase (fromParts "mailto".toStr [] "x@y".toStr [] []) = fromParts "mailto".toStr [] "x@y".toStr [] [] :=
  C14_passthrough e _ _ (Or.inl (by decide +kernel))
example (e : Env) : join e (fromParts "mailto".toStr [] "x@y".toStr [] []) (rel "g" "" "") = rel "g" "" "" :=
  C14_passthrough e _ _ (Or.inr (by decide +kernel))
-- the main theorem instantiated
example (e : Env) : p5 (join e rfcBase (rel "../g" "" "f")) = Rfc.resolve (p5 rfcBase) (p5 (rel "../g" "" "f")) :=
  C14_join_rfc e _ _ (by decide +kernel) (by decide +kernel) (by decide +kernel) (by decide +kernel) (by decide +kernel)
-- … and with a base that has neither authority nor path
example (e : Env) : p5 (join e (fromParts "http".toStr [] [] "q".toStr []) (rel "a/b" "" "f"))
    = Rfc.resolve (p5 (fromParts "http".toStr [] [] "q".toStr [])) (p5 (rel "a/b" "" "f")) :=
  C14_join_rfc e _ _ (by decide +kernel) (by decide +kernel) (by decide +kernel) (by decide +kernel) (by decide +kernel)
example (e : Env) : (join e (fromParts "http".toStr [] [] "q".toStr []) (rel "a/b" "" "f")).path = "a/b".toStr := by
  simp only [join]; decide +kernel
-- the rootless, dot-free theorem instantiated: base `a/b/c` (no authority), reference `d/e?y`
example (e : Env) : p5 (join e (fromParts [] [] "a/b/c".toStr [] []) (rel "d/e" "y" ""))
    = Rfc.resolve (p5 (fromParts [] [] "a/b/c".toStr [] [])) (p5 (rel "d/e" "y" "")) :=
  C14_join_rfc_rootless_nodots e _ _ (by decide +kernel) (by decide +kernel) (by decide +kernel) (by decide +kernel) (by decide +kernel)
example (e : Env) : (join e (fromParts [] [] "a/b/c".toStr [] []) (rel "d/e" "y" "")).path = "a/b/d/e".toStr := by
  simp only [join]; decide +kernel
-- §5.2.4 on arbitrary dot-free paths
example : Rfc.removeDotSegments "a//b/c/".toStr = "a//b/c/".toStr := rds_no_dot_any _ (by decide +kernel)

end Yarl
