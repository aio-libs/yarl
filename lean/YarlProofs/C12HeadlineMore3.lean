import YarlProofs.C12Headline
import YarlProofs.C12Dyn
import YarlProofs.C12ReachE
/-!
  C12HeadlineMore3.lean — AUDIT LAYER for property C12, continuation of C12Headline.lean (the theorems here need
  C12ReachE.lean and C12Dyn.lean; this file is a leaf, nobody imports it).

  C12 | Query operations implement multi-dict algebra exactly |
  "with_query(q) yields exactly the pairs of q in order (a list/tuple value in a mapping expands to repeated keys; ints
  and floats are rendered by str()); extend_query appends q's pairs after the existing ones; update_query replaces all
  pairs whose key occurs in q and keeps every other pair in order; without_query_params removes exactly the named keys.
  None clears the query (with_query, update_query) or is a no-op (extend_query); bool, None values, NaN/inf and bytes
  are rejected with TypeError/ValueError; the argument is never mutated."

  What is here.
   * Part A (C12ReachE.lean) — GAPS 9 of C12Headline.lean: the C12 clauses over `ReachE`, the closure of ALL entry points
     of the model, `encoded=True` included (ReachE.lean).  `with_query` / `extend_query` need nothing of the URL;
     `update_query` / `without_query_params` need exactly one thing of the stored query: NO LONE SURROGATE
     (`NoSurrogate u.query`), which follows when no text handed over with `encoded=True` contained one, and which is
     NEEDED (`URL('?\ud800=1&b=2', encoded=True)` is in `ReachE`).
   * Part B (C12Dyn.lean) — the tail of GAPS 6 of C12Headline.lean: keys that are not `str`, values and whole arguments
     of the wrong type, in every container (dict, list / tuple of pairs, kwargs).  ALL OF PART B IS MODEL-LEVEL: the
     theorems are about `dynWithQuery` / `dynExtendQuery` / `dynUpdateQuery` of YarlModel/Dyn.lean, a hand TRANSCRIPTION
     of the `isinstance` / `type(x) is …` dispatch of `yarl/_query.py`, `URL.update_query` and (C implementation of)
     multidict 6.2 `MultiDict.update` over a small universe `PyObj` of Python objects.  That model is tied to CPython only
     by the run-time PROBE TABLE at the end of C12Dyn.lean (outcomes of the real library on a finite list of rows,
     re-checked by `decide`), not by proof.

  Vocabulary.
  `ReachE e u`            — `u` is obtainable through ANY entry point (both constructor modes, both `build` modes, the 18
                            operations with Python-string arguments, `with_path` / `joinpath` with `encoded=True`, `join`).
  `ReachEX A Z Sc e u`    — the same closure with the side condition `A` on every text handed over with `encoded=True`
                            (`Z`, `Sc`: conditions on auto-encoded host[:port] / scheme arguments, unused here).
  `NoSurrogate s`         — no code point of `s` is a lone surrogate U+D800..U+DFFF.
  `GoodText`, `GoodPairs`, `queryPairs`, `expandItems`, `SingleValued`, `mdUpdate`, `keysOf`, `strItems`, `slotErr`,
  `firstErr`, `flatVals`  — as in C12Headline.lean.
  `PyObj`                 — `.none .bool .int .float .str .strSub .bytes .tuple .list .dict .url .splitResult .other`
                            (YarlModel/Dyn.lean; `.strSub` = plain str subclass, `.other` = `object()`-like).
  `truthy o`              — `bool(o)`.   `strLike o` — `isinstance(o, str)` with the content.
  `toQVal` / `toQItem`    — the typed value / value slot an object denotes (a list / tuple / SplitResult is a slot of many).
  `keyStr k`              — the text of a KEY in with_query / extend_query: a str (subclass) is itself, `None` is "None",
                            anything else `none` (= TypeError).   `mkPair k v` — the typed pair of one `(k, v)`.
  `pairOf o` / `mdPair o` — one element of a pair sequence as with_query / extend_query (`for k, v in …`) resp.
                            `MultiDict.update` (update_query) see it.
  `Dyn.goodVal o`         — `o` is a str (subclass), int or finite float.   `Dyn.badVal o = some err` — `o` is a bool /
                            None / bytes / dict / URL / object (`err` TypeError) or a NaN / inf float (`err` ValueError).
  `Dyn.asDict kvs`, `Dyn.asPairs kvs`, `Dyn.asPairsT kvs` — the dict `{k: v, …}`, the list of 2-tuples, the tuple of 2-lists
                            with str keys made from the rows `kvs`; `dyn…Kw e u kvs` the keyword form `f(k=v, …)`.
-/
namespace Yarl
open StrAscii OutLangLemmas QsLemmas WfLemmas EntryLemmas R6 QueryUrl QsSpec MdLemmas QsMore Yarl.Dyn

/-! ## Part A — the clauses of C12 over `ReachE` (all entry points incl. `encoded=True`; GAPS 9) -/

/-- GAPS 9: what is needed of the URL.  Over `ReachE` the stored query is a Python string; if it contains no lone
    surrogate, the pairs read from it are good — this is the hypothesis `hold` of every update_query /
    without_query_params theorem of C12Headline.lean.  Cites C12_reachE_good_pairs. -/
theorem C12_headline_reachE_good_pairs (e : Env) (u : Url)
    (hr : ReachE e u)                     -- obtainable through any entry point
    (hq : NoSurrogate u.query) :          -- no lone surrogate in the stored query; needed: …_reachE_fails_for_surrogate
    GoodText u.query ∧ GoodPairs (queryPairs u) :=
  C12_reachE_good_pairs e u hr hq

/-- GAPS 9, INPUT side: if no text handed over with `encoded=True` contained a lone surrogate, the stored path, query and
    fragment contain none (the auto-encoding entry points store ASCII), hence `GoodPairs (queryPairs u)`: the
    hypothesis `hold` is discharged from the inputs.
    Cites C12_reachE_query_no_surrogate, C12_reachE_good_pairs_of_inputs. -/
theorem C12_headline_reachE_good_pairs_of_inputs (e : Env) (Z Sc : Str → Prop) (u : Url)
    (h : ReachEX NoSurrogate Z Sc e u) :  -- every `encoded=True` text on the way to `u` is free of lone surrogates
    (NoSurrogate u.path ∧ NoSurrogate u.query ∧ NoSurrogate u.fragment) ∧ GoodPairs (queryPairs u) :=
  ⟨C12_reachE_query_no_surrogate e Z Sc u h, C12_reachE_good_pairs_of_inputs e Z Sc u h⟩

/-- "with_query(q) yields exactly the pairs of q in order …; extend_query appends q's pairs after the existing ones" for
    every URL of `ReachE`, WHATEVER its stored query (indeed for every `Url`: `hr` is not used) — mapping and pair
    sequence.  Cites C12_reachE_with_and_extend_query. -/
theorem C12_headline_reachE_with_and_extend_query (e : Env) (u : Url) (hr : ReachE e u)
    (items : List (Str × QItem)) (ps : List (Str × Str))
    (hden : expandItems items = some ps)  -- the argument denotes the pairs `ps`
    (hg : GoodPairs ps) :                 -- no lone surrogate in the ARGUMENT (dropped by the quoter, C06)
    (∃ v, withQuery e u (.mapping items) = .ok v ∧ queryPairs v = ps) ∧
    (SingleValued items → ∃ v, withQuery e u (.pairs items) = .ok v ∧ queryPairs v = ps) ∧
    (ps ≠ [] → ∃ v, extendQuery e u (.mapping items) = .ok v ∧ queryPairs v = queryPairs u ++ ps) ∧
    (ps ≠ [] → SingleValued items → ∃ v, extendQuery e u (.pairs items) = .ok v ∧ queryPairs v = queryPairs u ++ ps) ∧
    (ps = [] → extendQuery e u (.mapping items) = .ok u) :=
  C12_reachE_with_and_extend_query e u hr items ps hden hg

/-- "without_query_params removes exactly the named keys" over `ReachE`.  Cites C12_reachE_without_query_params. -/
theorem C12_headline_reachE_without_query_params (e : Env) (u : Url)
    (hr : ReachE e u)                     -- obtainable through any entry point
    (hq : NoSurrogate u.query)            -- the kept pairs are re-rendered: a lone surrogate would be lost
    (names : List Str) :
    ∃ v, withoutQueryParams e u names = .ok v ∧
      queryPairs v = (queryPairs u).filter (fun p => !names.contains p.1) :=
  C12_reachE_without_query_params e u hr hq names

/-- `update_query(q)` is `MultiDict(url.query).update(q)` over `ReachE` (pair sequence, mapping with single values,
    string).  Cites C12_reachE_update_is_multidict_update. -/
theorem C12_headline_reachE_update_is_multidict_update (e : Env) (u : Url)
    (hr : ReachE e u) (hq : NoSurrogate u.query)   -- as above (the OLD pairs are re-rendered)
    (items : List (Str × QItem)) (ps : List (Str × Str)) (s : Str) :
    (SingleValued items → expandItems items = some ps → GoodPairs ps → ps ≠ [] →
      (∃ v, updateQuery e u (.pairs items) = .ok v ∧ queryPairs v = mdUpdate (queryPairs u) ps) ∧
      (∃ v, updateQuery e u (.mapping items) = .ok v ∧ queryPairs v = mdUpdate (queryPairs u) ps)) ∧
    (GoodText s → s ≠ [] →
      ∃ v, updateQuery e u (.str s) = .ok v ∧ queryPairs v = mdUpdate (queryPairs u) (parseQsl s)) :=
  C12_reachE_update_is_multidict_update e u hr hq items ps s

/-- "update_query … keeps every other pair in order" over `ReachE`.  Cites C12_reachE_update_keeps_others. -/
theorem C12_headline_reachE_update_keeps_others (e : Env) (u : Url)
    (hr : ReachE e u) (hq : NoSurrogate u.query)   -- as above
    (items : List (Str × QItem)) (ps : List (Str × Str)) (hs : SingleValued items)
    (hden : expandItems items = some ps) (hg : GoodPairs ps) (hne : ps ≠ []) :
    ∃ v, updateQuery e u (.pairs items) = .ok v ∧
      (queryPairs v).filter (fun p => !(keysOf ps).contains p.1) =
        (queryPairs u).filter (fun p => !(keysOf ps).contains p.1) :=
  C12_reachE_update_keeps_others e u hr hq items ps hs hden hg hne

/-- "update_query replaces all pairs whose key occurs in q" over `ReachE`: GUARDED form (F-C12-multidict-tail, see
    C12_headline_update_replaces) and the unguarded "new values first, then a sublist of the not overwritten old ones".
    Cites C12_reachE_update_replaces. -/
theorem C12_headline_reachE_update_replaces (e : Env) (u : Url)
    (hr : ReachE e u) (hq : NoSurrogate u.query)   -- as above
    (items : List (Str × QItem)) (ps : List (Str × Str)) (k : Str) (hs : SingleValued items)
    (hden : expandItems items = some ps) (hg : GoodPairs ps) (hk : k ∈ keysOf ps) :
    ((∀ k' ∈ keysOf ps, k' ≠ k →           -- excludes multidict's stale duplicate
        ((queryPairs u).filter (fun p => p.1 = k')).length ≤ (ps.filter (fun p => p.1 = k')).length) →
      ∃ v, updateQuery e u (.pairs items) = .ok v ∧
        ((queryPairs v).filter (fun p => p.1 = k)).map (·.2) = (ps.filter (fun p => p.1 = k)).map (·.2)) ∧
    (∃ v, updateQuery e u (.pairs items) = .ok v ∧
      ∃ S, ((queryPairs v).filter (fun p => p.1 = k)).map (·.2) = (ps.filter (fun p => p.1 = k)).map (·.2) ++ S ∧
        S.Sublist ((((queryPairs u).filter (fun p => p.1 = k)).map (·.2)).drop (ps.filter (fun p => p.1 = k)).length)) :=
  C12_reachE_update_replaces e u hr hq items ps k hs hden hg hk

/-- update_query with a MAPPING whose values may be lists / tuples, over `ReachE`: keeps the pairs of keys not in the
    mapping; replaces (guarded) / prefix (unguarded) for the keys of the mapping.  Cites C12_reachE_update_lists. -/
theorem C12_headline_reachE_update_lists (e : Env) (u : Url)
    (hr : ReachE e u) (hq : NoSurrogate u.query)   -- as above
    (items : List (Str × QItem)) (ps : List (Str × Str)) (hden : expandItems items = some ps) (hg : GoodPairs ps)
    (hne : items ≠ []) :                  -- an empty mapping is a no-op (different code path)
    (∃ v, updateQuery e u (.mapping items) = .ok v ∧
      (queryPairs v).filter (fun p => !(keysOf items).contains p.1) =
        (queryPairs u).filter (fun p => !(keysOf items).contains p.1)) ∧
    (∀ k ∈ keysOf items,
      (∀ k' ∈ keysOf items, k' ≠ k →      -- excludes multidict's stale duplicate
        ((queryPairs u).filter (fun p => p.1 = k')).length ≤ (items.filter (fun p => p.1 = k')).length) →
      ∃ v, updateQuery e u (.mapping items) = .ok v ∧
        (queryPairs v).filter (fun p => p.1 = k) = ps.filter (fun p => p.1 = k)) ∧
    (∀ k ∈ keysOf items, ∃ v, updateQuery e u (.mapping items) = .ok v ∧
      ps.filter (fun p => p.1 = k) <+: (queryPairs v).filter (fun p => p.1 = k)) :=
  C12_reachE_update_lists e u hr hq items ps hden hg hne

/-- the reading `queryPairs u` (stdlib `parse_qsl` of the stored text) meets its independent specification on every
    `ReachE` URL without lone surrogate in the query.  Cites C12_reachE_query_accessor_spec. -/
theorem C12_headline_reachE_query_accessor_spec (e : Env) (u : Url) (hr : ReachE e u) (hq : NoSurrogate u.query) :
    queryPairs u = queryPairsSpec u.query :=
  C12_reachE_query_accessor_spec e u hr hq

/-- the hypothesis `NoSurrogate u.query` is NEEDED: `URL('?\ud800=1&b=2', encoded=True)` (= `surrUrl`) IS in `ReachE`;
    `update_query([("c","3")])` on it reads back `[("", "1"), ("b","2"), ("c","3")]` instead of the multidict update
    `[("\ud800","1"), ("b","2"), ("c","3")]`, and `without_query_params("b")` reads back `[("", "1")]` instead of
    `[("\ud800","1")]` — "keeps every other pair" / "removes exactly the named keys" are FALSE there (C06 "lone
    surrogates excepted").  Cites C12_reachE_fails_for_surrogate. -/
theorem C12_headline_reachE_fails_for_surrogate (e : Env) :
    preEncodedUrl e [63, 0xD800, 61, 49, 38, 98, 61, 50] = .ok surrUrl ∧ ReachE e surrUrl ∧
    ¬ NoSurrogate surrUrl.query ∧ ¬ GoodPairs (queryPairs surrUrl) ∧
    (∃ v, updateQuery e surrUrl (.pairs [([99], .one (.str [51]))]) = .ok v ∧
      queryPairs v = [([], [49]), ([98], [50]), ([99], [51])] ∧
      mdUpdate (queryPairs surrUrl) [([99], [51])] = [([0xD800], [49]), ([98], [50]), ([99], [51])]) ∧
    (∃ v, withoutQueryParams e surrUrl [[98]] = .ok v ∧ queryPairs v = [([], [49])] ∧
      (queryPairs surrUrl).filter (fun p => ![[98]].contains p.1) = [([0xD800], [49])]) :=
  C12_reachE_fails_for_surrogate e

/-! ## Part B — "bool, None values, NaN/inf and bytes are rejected with TypeError/ValueError": arbitrary Python objects
    as VALUES, as the ARGUMENT and as KEYS — MODEL-LEVEL (YarlModel/Dyn.lean, tied to CPython by the probe table only) -/

/-- MODEL-LEVEL.  How `query_var` classifies an arbitrary object used as a VALUE: accepted are str, str subclasses, int
    ("rendered by str()": `intToStr`) and finite floats; NaN / ±inf → ValueError; bool, None, bytes, list, tuple, dict,
    URL, SplitResult, any other object → TypeError.  In a MAPPING a list / tuple / SplitResult value is first expanded
    into its elements ("a list/tuple value in a mapping expands to repeated keys").  Cites C12_dyn_value_gate. -/
theorem C12_headline_dyn_value_gate :
    (∀ s, queryVar (toQVal (.str s)) = .ok s) ∧ (∀ s, queryVar (toQVal (.strSub s)) = .ok s) ∧
    (∀ i, queryVar (toQVal (.int i)) = .ok (intToStr i)) ∧
    (∀ t, queryVar (toQVal (.float t 0)) = .ok t) ∧
    (∀ t k, k ≠ 0 → queryVar (toQVal (.float t k)) = .error .valueError) ∧
    (∀ b, queryVar (toQVal (.bool b)) = .error .typeError) ∧ queryVar (toQVal .none) = .error .typeError ∧
    (∀ b, queryVar (toQVal (.bytes b)) = .error .typeError) ∧ (∀ xs, queryVar (toQVal (.list xs)) = .error .typeError) ∧
    (∀ xs, queryVar (toQVal (.tuple xs)) = .error .typeError) ∧ (∀ d, queryVar (toQVal (.dict d)) = .error .typeError) ∧
    (∀ v, queryVar (toQVal (.url v)) = .error .typeError) ∧
    (∀ ps, queryVar (toQVal (.splitResult ps)) = .error .typeError) ∧
    (∀ t, queryVar (toQVal (.other t)) = .error .typeError) ∧
    (∀ xs, toQItem (.list xs) = .many (xs.map toQVal) ∧ toQItem (.tuple xs) = .many (xs.map toQVal)) ∧
    (∀ ps, toQItem (.splitResult ps) = .many (ps.map .str)) :=
  C12_dyn_value_gate

/-- MODEL-LEVEL.  Which objects are `Dyn.badVal` (with which error) and which are `Dyn.goodVal`.
    Cites C12_dyn_bad_value_kinds. -/
theorem C12_headline_dyn_bad_value_kinds :
    (∀ b, badVal (.bool b) = some .typeError) ∧ badVal .none = some .typeError ∧
    (∀ b, badVal (.bytes b) = some .typeError) ∧ (∀ d, badVal (.dict d) = some .typeError) ∧
    (∀ v, badVal (.url v) = some .typeError) ∧ (∀ t, badVal (.other t) = some .typeError) ∧
    (∀ t k, k ≠ 0 → badVal (.float t k) = some .valueError) ∧
    (∀ s, goodVal (.str s) = true) ∧ (∀ s, goodVal (.strSub s) = true) ∧ (∀ i, goodVal (.int i) = true) ∧
    (∀ t, goodVal (.float t 0) = true) :=
  C12_dyn_bad_value_kinds

/-- MODEL-LEVEL.  "bool, None values, NaN/inf … and bytes are rejected with TypeError/ValueError" for a bad VALUE in EVERY
    container — the dict `{…}`, the list of 2-tuples, the tuple of 2-lists and the keyword form: `with_query` and
    `extend_query` raise exactly the error of the first bad value (the entries before it being fine); `update_query`
    raises TypeError or ValueError — exactly that error when the entries after it are fine too (otherwise the error of
    one of the offenders: C12_headline_update_query_error_order).  Cites C12_dyn_rejects. -/
theorem C12_headline_dyn_rejects_values (e : Env) (u : Url) (pre post : List (Str × PyObj)) (k : Str) (bad : PyObj)
    (err : PyErr)
    (hpre : ∀ p ∈ pre, goodVal p.2 = true)   -- the values before it are str / int / finite float
    (hbad : badVal bad = some err) :         -- `bad` is a bool / None / bytes / dict / URL / object, or a NaN / inf float
    let kvs := pre ++ (k, bad) :: post
    (dynWithQuery e u (asDict kvs) = .error err ∧ dynExtendQuery e u (asDict kvs) = .error err ∧
     dynWithQuery e u (asPairs kvs) = .error err ∧ dynExtendQuery e u (asPairs kvs) = .error err ∧
     dynWithQuery e u (asPairsT kvs) = .error err ∧ dynExtendQuery e u (asPairsT kvs) = .error err ∧
     dynWithQueryKw e u kvs = .error err ∧ dynExtendQueryKw e u kvs = .error err) ∧
    (∀ c, c = asDict kvs ∨ c = asPairs kvs ∨ c = asPairsT kvs →
      ∃ err', dynUpdateQuery e u c = .error err' ∧ (err' = .typeError ∨ err' = .valueError)) ∧
    (∃ err', dynUpdateQueryKw e u kvs = .error err' ∧ (err' = .typeError ∨ err' = .valueError)) ∧
    ((∀ p ∈ post, goodVal p.2 = true) →      -- the values after it are fine too
      dynUpdateQuery e u (asDict kvs) = .error err ∧ dynUpdateQuery e u (asPairs kvs) = .error err ∧
      dynUpdateQuery e u (asPairsT kvs) = .error err ∧ dynUpdateQueryKw e u kvs = .error err) :=
  C12_dyn_rejects e u pre post k bad err hpre hbad

/-- MODEL-LEVEL.  A bad value INSIDE a list / tuple value of a mapping (`{"k": [1, True]}`, `k=[None]`, a nested list
    `{"k": [[1]]}`) is rejected with the kind of the first offending element; in a pair SEQUENCE a list / tuple value is
    itself a TypeError, whatever it contains (all three methods).  Cites C12_dyn_rejects_in_list_value. -/
theorem C12_headline_dyn_rejects_in_list_value (e : Env) (u : Url) (k : Str) (good : List PyObj) (bad : PyObj)
    (rest : List PyObj) (err : PyErr)
    (hgood : ∀ x ∈ good, ∃ s, queryVar (toQVal x) = .ok s)   -- the elements before it are accepted
    (hbad : queryVar (toQVal bad) = .error err) :            -- this one is rejected with `err`
    dynWithQuery e u (.dict [(.str k, .list (good ++ bad :: rest))]) = .error err ∧
    dynExtendQuery e u (.dict [(.str k, .tuple (good ++ bad :: rest))]) = .error err ∧
    dynWithQueryKw e u [(k, .list (good ++ bad :: rest))] = .error err ∧
    (∀ xs, dynWithQuery e u (.list [.tuple [.str k, .list xs]]) = .error .typeError ∧
           dynExtendQuery e u (.list [.tuple [.str k, .tuple xs]]) = .error .typeError ∧
           dynUpdateQuery e u (.list [.tuple [.str k, .list xs]]) = .error .typeError) :=
  C12_dyn_rejects_in_list_value e u k good bad rest err hgood hbad

/-- MODEL-LEVEL.  A non-query ARGUMENT — bytes, int, float, bool, URL, any other object: if it is TRUTHY all three methods
    raise TypeError; if it is FALSY (`b""`, `0`, `False`, `0.0`, `URL("")`) it is treated like `""` (`if not query:
    return ""`): `with_query` clears the query, `extend_query` and `update_query` keep it — NOT rejected.
    Cites C12_dyn_argument_gate. -/
theorem C12_headline_dyn_argument_gate (e : Env) (u : Url) (o : PyObj)
    (ho : (∃ b, o = .bytes b) ∨ (∃ i, o = .int i) ∨ (∃ t k, o = .float t k) ∨ (∃ b, o = .bool b) ∨ (∃ v, o = .url v) ∨
      (∃ t, o = .other t)) :                 -- the argument is none of None / str / Mapping / Sequence
    (truthy o = true → dynWithQuery e u o = .error .typeError ∧ dynExtendQuery e u o = .error .typeError ∧
      dynUpdateQuery e u o = .error .typeError) ∧
    (truthy o = false → dynWithQuery e u o = .ok (fromParts u.scheme u.netloc u.path [] u.fragment) ∧
      dynExtendQuery e u o = .ok u ∧
      dynUpdateQuery e u o = .ok (fromParts u.scheme u.netloc u.path u.query u.fragment)) :=
  C12_dyn_argument_gate e u o ho

/-- MODEL-LEVEL.  "… and bytes are rejected": a NON-EMPTY bytes argument, all three methods, TypeError.
    Cites C12_dyn_bytes_argument. -/
theorem C12_headline_dyn_bytes_argument (e : Env) (u : Url) (c : Nat) (b : List Nat) :
    dynWithQuery e u (.bytes (c :: b)) = .error .typeError ∧ dynExtendQuery e u (.bytes (c :: b)) = .error .typeError ∧
    dynUpdateQuery e u (.bytes (c :: b)) = .error .typeError :=
  C12_dyn_bytes_argument e u c b

/-- MODEL-LEVEL.  "non-empty" is needed — "bytes are rejected" is FALSE for the EMPTY bytes object: `with_query(b"")`
    clears the query, `extend_query(b"")` and `update_query(b"")` return the URL with its query — no error (the probe
    table of C12Dyn.lean has the rows `with_query(b"")`, `extend_query(b"")`, `update_query(b"")` → ok from the real
    library).
    Cites C12_dyn_argument_gate (instance `o = b""`). -/
theorem C12_headline_dyn_bytes_argument_fails_for_empty (e : Env) (u : Url) :
    dynWithQuery e u (.bytes []) = .ok (fromParts u.scheme u.netloc u.path [] u.fragment) ∧
    dynExtendQuery e u (.bytes []) = .ok u ∧
    dynUpdateQuery e u (.bytes []) = .ok (fromParts u.scheme u.netloc u.path u.query u.fragment) :=
  (C12_dyn_argument_gate e u (.bytes []) (.inl ⟨_, rfl⟩)).2 rfl

/-- MODEL-LEVEL.  KEYS in with_query / extend_query, one pair at a time: a str subclass key is the str; the key `None` is
    NOT rejected — it is the TEXT "None"; any other key type (`keyStr k = none`: int, bool, float, bytes, tuple, URL, …)
    poisons the pair — TypeError when a value of the pair is rendered, and nothing at all when the value is an empty
    list / tuple.  Cites C12_dyn_key_of_pair. -/
theorem C12_headline_dyn_key_of_pair (k v : PyObj) :
    (∀ s, k = .strSub s → mkPair k v = mkPair (.str s) v) ∧
    (k = .none → mkPair k v = mkPair (.str [78, 111, 110, 101]) v) ∧
    (keyStr k = none →
      (∀ x ∈ itemVals (mkPair k v).2, queryVar x = .error .typeError) ∧
      (itemVals (mkPair k v).2).length = (itemVals (toQItem v)).length ∧
      (slotErr (mkPair k v).2 = some .typeError)) ∧
    (keyStr k = none ↔ strLike k = none ∧ k ≠ .none) :=
  C12_dyn_key_of_pair k v

/-- MODEL-LEVEL.  A key that is neither a str (subclass) nor `None`, in a dict or in a list of pairs: `with_query`,
    `extend_query` AND `update_query` raise TypeError — as soon as the entries before it are fine and the entry has
    something to render.  Cites C12_dyn_non_str_keys. -/
theorem C12_headline_dyn_non_str_keys (e : Env) (u : Url) (pre : List (Str × PyObj)) (k v : PyObj)
    (post : List (PyObj × PyObj))
    (hpre : ∀ p ∈ pre, goodVal p.2 = true)   -- the entries before it: str keys, accepted values
    (hk : keyStr k = none)                   -- the key is not a str (subclass) and not None
    (hv : itemVals (toQItem v) ≠ []) :       -- its value is not an empty list / tuple: `…_empty_value_hides_key`
    let d := PyObj.dict (pre.map (fun p => (.str p.1, p.2)) ++ (k, v) :: post)
    let l := PyObj.list (pre.map (fun p => .tuple [.str p.1, p.2]) ++ .tuple [k, v] :: post.map (fun p => .tuple [p.1, p.2]))
    dynWithQuery e u d = .error .typeError ∧ dynExtendQuery e u d = .error .typeError ∧
    dynWithQuery e u l = .error .typeError ∧ dynExtendQuery e u l = .error .typeError ∧
    dynUpdateQuery e u d = .error .typeError ∧ dynUpdateQuery e u l = .error .typeError :=
  C12_dyn_non_str_keys e u pre k v post hpre hk hv

/-- MODEL-LEVEL.  update_query with a dict: ANY key that is not a str (subclass) — `None` included — is a TypeError
    (raised by `MultiDict.update` before anything is rendered), whatever the values and wherever it sits.
    Cites C12_dyn_update_query_non_str_key. -/
theorem C12_headline_dyn_update_query_non_str_key (e : Env) (u : Url) (items : List (PyObj × PyObj))
    (h : ∃ kv ∈ items, strLike kv.1 = none) :   -- some key is not a str (subclass)
    dynUpdateQuery e u (.dict items) = .error .typeError :=
  C12_dyn_update_query_non_str_key e u items h

/-- MODEL-LEVEL (C implementation of multidict 6.2; the pure-Python multidict raises TypeError instead of ValueError for an
    element of the wrong length — observed, not modelled).  update_query with a list / tuple: the elements are validated
    one by one by `MultiDict.update` (`mdPair`: not iterable → TypeError, length ≠ 2 → ValueError, key not a str →
    TypeError) and the FIRST offending element decides; if all are valid pairs the call is the typed `update_query` of
    those pairs (bad VALUES are met only then).  Cites C12_dyn_update_query_sequence. -/
theorem C12_headline_dyn_update_query_sequence (e : Env) (u : Url) (xs : List PyObj)
    (hne : xs ≠ []) :                        -- an empty sequence is falsy: `update_query([])` keeps the query
    (∀ err, xs.mapM mdPair = .error err → dynUpdateQuery e u (.list xs) = .error err ∧
      dynUpdateQuery e u (.tuple xs) = .error err ∧ (err = .typeError ∨ err = .valueError)) ∧
    (∀ items, xs.mapM mdPair = .ok items → dynUpdateQuery e u (.list xs) = updateQuery e u (.pairs items) ∧
      dynUpdateQuery e u (.tuple xs) = updateQuery e u (.pairs items)) :=
  C12_dyn_update_query_sequence e u xs hne

/-- MODEL-LEVEL OBSERVATION (not a clause of C12: the text speaks of None VALUES).  The key `None` is accepted — as the text
    "None" — by with_query / extend_query (`URL("http://h").with_query({None: "v"})` is `http://h/?None=v`) and rejected
    with TypeError by update_query, for every receiver and both backends.  Cites C12_dyn_none_key_differs. -/
theorem C12_headline_dyn_none_key_differs (e : Env) (u : Url) (v : Str) :
    dynWithQuery e u (.dict [(.none, .str v)]) = dynWithQuery e u (.dict [(.str "None".toStr, .str v)]) ∧
    dynExtendQuery e u (.dict [(.none, .str v)]) = dynExtendQuery e u (.dict [(.str "None".toStr, .str v)]) ∧
    dynWithQuery e u (.list [.tuple [.none, .str v]]) = dynWithQuery e u (.list [.tuple [.str "None".toStr, .str v]]) ∧
    (∃ r, dynWithQuery e u (.dict [(.none, .str v)]) = .ok r) ∧
    dynUpdateQuery e u (.dict [(.none, .str v)]) = .error .typeError ∧
    dynUpdateQuery e u (.list [.tuple [.none, .str v]]) = .error .typeError :=
  C12_dyn_none_key_differs e u v

/-- MODEL-LEVEL.  The hypothesis `hv` of C12_headline_dyn_non_str_keys is needed: an EMPTY list / tuple value hides a bad
    key from with_query / extend_query (`with_query({1: []})` succeeds with an empty query) — but not from update_query.
    Cites C12_dyn_empty_value_hides_key. -/
theorem C12_headline_dyn_empty_value_hides_key (e : Env) (u : Url) (i : Int) :
    dynWithQuery e u (.dict [(.int i, .list [])]) = .ok (fromParts u.scheme u.netloc u.path [] u.fragment) ∧
    dynExtendQuery e u (.dict [(.int i, .list [])]) = .ok u ∧
    dynUpdateQuery e u (.dict [(.int i, .list [])]) = .error .typeError :=
  C12_dyn_empty_value_hides_key e u i

/-- MODEL-LEVEL.  Elements of a pair sequence that are not pairs, for with_query / extend_query (the `for k, v in items`
    unpacking): not iterable → TypeError, wrong length → ValueError, raised at the element's position; a 2-element
    iterable is the pair `mkPair k v`.  Cites C12_dyn_unpack. -/
theorem C12_headline_dyn_unpack (o : PyObj) :
    (iterElems o = none → pairOf o = poisonPair .typeError ∧ slotErr (pairOf o).2 = some .typeError) ∧
    (∀ l, iterElems o = some l → l.length ≠ 2 → pairOf o = poisonPair .valueError ∧
      slotErr (pairOf o).2 = some .valueError) ∧
    (∀ k v, iterElems o = some [k, v] → pairOf o = mkPair k v) :=
  C12_dyn_unpack o

/-! ## non-vacuity -/

section checks
private def eP : Env := ⟨.py, Oracles.empty⟩

-- Part A: a `ReachE` URL that really comes from `encoded=True`, NON-canonical stored query (raw space, lower-case escape,
-- non-ASCII text) but no lone surrogate; `update_query` on it is the multidict update (through C12_reachE_instance)
example :
    let u := fromParts [] [] "/p".toStr ("a=x y&k=%c3%a9&z=".toStr ++ [233]) []
    preEncodedUrl eP ("/p?a=x y&k=%c3%a9&z=".toStr ++ [233]) = .ok u ∧
    ReachEX NoSurrogate (fun _ => True) (fun _ => True) eP u ∧ ReachE eP u ∧ NoSurrogate u.query ∧
    queryPairs u = [("a".toStr, "x y".toStr), ("k".toStr, [233]), ("z".toStr, [233])] ∧
    ∃ v, updateQuery eP u (.pairs [("a".toStr, .one (.str "2".toStr))]) = .ok v ∧
      queryPairs v = [("a".toStr, "2".toStr), ("k".toStr, [233]), ("z".toStr, [233])] :=
  C12_reachE_instance

-- Part B: hypotheses of C12_headline_dyn_rejects_values / _non_str_keys / _update_query_non_str_key / _update_query_sequence
example : (∀ p ∈ [(([97] : Str), PyObj.int 2), ([98], .strSub [120])], goodVal p.2 = true) ∧
    badVal (.float [110, 97, 110] 2) = some .valueError ∧ badVal (.bool true) = some .typeError := by decide +kernel
example : keyStr (.int 1) = none ∧ keyStr (.bytes [107]) = none ∧ keyStr (.bool true) = none ∧
    itemVals (toQItem (.str [118])) ≠ [] := by decide +kernel
example : [PyObj.tuple [.int 1, .str [118]], .str [97, 98, 99]].mapM mdPair = .error .typeError := by rfl
end checks

end Yarl
