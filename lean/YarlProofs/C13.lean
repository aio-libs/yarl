/-
  C13.lean — "Path operations compose like a path algebra".
-/
import YarlModel
import YarlProofs.Lemmas.PathLemmas
import YarlProofs.Lemmas.PathAlg
import YarlProofs.Lemmas.ParseLemmas
import YarlProofs.Lemmas.Basics
import YarlProofs.Lemmas.ModShape
namespace Yarl
open Yarl.PathLemmas Yarl.PathAlg

/-- joins parts with '/', the first part "/" standing for the leading slash -/
def recompose : List Str → Str
  | [47] :: rest => 47 :: joinC 47 rest
  | parts => joinC 47 parts

theorem C13_raw_parts_nonempty (u : Url) : rawParts u ≠ [] := by
  unfold rawParts
  split
  · split <;> simp
  · split
    · simp
    · exact splitOn_ne_nil _ _

theorem C13_raw_parts_recompose (u : Url)
    (h : u.netloc ≠ [] → (u.path = [] ∨ u.path.head? = some 47)) :
    recompose (rawParts u) = rawPath u := by
  unfold rawParts rawPath
  by_cases hn : u.netloc = []
  · simp only [hn, List.isEmpty_nil, Bool.not_true, Bool.false_eq_true, ↓reduceIte, Bool.or_true]
    split
    · rename_i rest hp
      simp [recompose, joinC_splitOn, hp]
    · rename_i hp
      have key : ∀ l : List Str, (∀ p ∈ l, 47 ∉ p) → recompose l = joinC 47 l := by
        intro l hl
        unfold recompose
        split
        · rename_i rest
          exact absurd (List.mem_singleton.2 rfl) (hl [47] List.mem_cons_self)
        · rfl
      rw [key _ (splitOn_no_sep 47 _), joinC_splitOn]
  · rcases h hn with hp | hp
    · simp [hn, hp, recompose, joinC, joinSep]
    · cases hpe : u.path with
      | nil => simp [hpe] at hp
      | cons c rest =>
        simp [hpe] at hp
        subst hp
        simp [hn, recompose, joinC_splitOn]

/-- without the hypothesis: a rootless path next to an authority (only reachable through
    `encoded=True`/hand-made parts) is not recovered from `raw_parts` -/
theorem C13_raw_parts_recompose_counterexample :
    let u := fromParts "http".toStr "h".toStr "a".toStr [] []
    rawParts u = ["/".toStr, []] ∧ rawPath u = "a".toStr ∧ recompose (rawParts u) ≠ rawPath u := by
  str_lits; decide +kernel

/-- the IndexError branch of the model is unreachable -/
theorem C13_raw_name_total (u : Url) : ∃ n, rawName u = .ok n := by
  unfold rawName
  simp only
  split
  · cases h : (rawParts u).getLast? with
    | none => exact absurd (List.getLast?_eq_none_iff.1 h) (C13_raw_parts_nonempty u)
    | some l => exact ⟨l, rfl⟩
  · cases h : ((rawParts u).drop 1).getLast? with
    | none => exact ⟨[], rfl⟩
    | some l => exact ⟨l, rfl⟩

theorem C13_name_is_last (u : Url) (n : Str) : rawName u = .ok n →
    (u.netloc = [] → (rawParts u).getLast? = some n) ∧
    (u.netloc ≠ [] → n = ((rawParts u).drop 1).getLast?.getD []) := by
  intro hn
  unfold rawName at hn
  simp only at hn
  constructor
  · intro h0
    simp only [h0, List.isEmpty_nil, ↓reduceIte] at hn
    cases h : (rawParts u).getLast? with
    | none => simp [h] at hn
    | some l => simp [h, pure, Except.pure] at hn; simp [hn]
  · intro h0
    have : u.netloc.isEmpty = false := by simpa using h0
    simp only [this, Bool.false_eq_true, ↓reduceIte] at hn
    cases h : ((rawParts u).drop 1).getLast? with
    | none => rw [h] at hn; simp [pure, Except.pure] at hn; simp [hn]
    | some l => rw [h] at hn; simp [pure, Except.pure] at hn; simp [hn]

theorem C13_suffix_is_tail (u : Url) (n s : Str) : rawName u = .ok n → rawSuffix u = .ok s → s ≠ [] →
    ∃ stem, n = stem ++ s ∧ stem ≠ [] ∧ s.head? = some 46 ∧ 46 ∉ s.drop 1 ∧ 1 < s.length := by
  intro hn hs hne
  rw [PathMore.rawSuffix_eq, hn] at hs
  cases hs
  obtain ⟨a, t, rfl, ht, ha, ht0⟩ := (PathMore.sfx_ne_nil_iff n).1 hne
  rw [PathMore.sfx_last a t ht, if_pos ⟨ha, ht0⟩]
  exact ⟨a, rfl, ha, rfl, ht, by simpa using List.length_pos_iff.2 ht0⟩

theorem C13_suffixes_concat (u : Url) (n : Str) (ss : List Str) : rawName u = .ok n →
    rawSuffixes u = .ok ss → ss ≠ [] → ∃ stem, n = stem ++ ss.flatten := by
  intro hn hs _
  rw [PathMore.rawSuffixes_eq, hn] at hs
  cases hs
  exact PathMore.sfxs_concat n

/-- a record, not a result (both sides are one term): the model has no separate `/`.  `Main.lean` wires `truediv` and
    one-argument `joinpath` to `makeChild e u [s] false`, as `URL.__truediv__` and `URL.joinpath` both call
    `self._make_child((name,))` / `_make_child(other, encoded)`. -/
theorem C13_truediv_eq_joinpath (e : Env) (u : Url) (s : Str) :
    makeChild e u [s] false = makeChild e u [s] false := rfl

/-- with_name(n) has name n and the same parent; holds for ALL `Url` values (no condition on the
    shape of the path) -/
theorem C13_with_name_spec_strong (e : Env) (u : Url) (nm : Str) (kq kf : Bool) (v : Url)
    (hx : 47 ∉ q e Gen.PATH_QUOTER nm) :
    withName e u nm kq kf = .ok v → rawName v = .ok (q e Gen.PATH_QUOTER nm) ∧
      (rawParts v).dropLast = (if u.netloc ≠ [] ∧ (rawParts u).length = 1 then rawParts u
                               else (rawParts u).dropLast) ∧
      v.scheme = u.scheme ∧ v.netloc = u.netloc ∧ v.query = (if kq then u.query else []) ∧
      v.fragment = (if kf then u.fragment else []) := by
  intro h
  exact withRawName_name_parent u _ kq kf v hx (ModShape.withName_ok h).2.2.2

/-- the form with the guard on the path; its hypothesis `_hpath` is not needed: `C13_with_name_spec_strong` -/
theorem C13_with_name_spec (e : Env) (u : Url) (nm : Str) (kq kf : Bool) (v : Url)
    (_hpath : u.netloc ≠ [] → (u.path = [] ∨ u.path.head? = some 47))
    (hx : 47 ∉ q e Gen.PATH_QUOTER nm) :
    withName e u nm kq kf = .ok v → rawName v = .ok (q e Gen.PATH_QUOTER nm) ∧
      (rawParts v).dropLast = (if u.netloc ≠ [] ∧ (rawParts u).length = 1 then rawParts u
                               else (rawParts u).dropLast) ∧
      v.scheme = u.scheme ∧ v.netloc = u.netloc ∧ v.query = (if kq then u.query else []) ∧
      v.fragment = (if kf then u.fragment else []) :=
  C13_with_name_spec_strong e u nm kq kf v hx

/-- with_suffix never re-encodes: every segment but the last, and the stem of the last, are
    unchanged as raw text; holds for ALL `Url` values -/
theorem C13_with_suffix_raw_strong (e : Env) (u : Url) (x : Str) (kq kf : Bool) (v : Url) (n old : Str)
    (hx : 47 ∉ q e Gen.PATH_QUOTER x)
    (hn : rawName u = .ok n) (ho : rawSuffix u = .ok old) : withSuffix e u x kq kf = .ok v →
    (rawParts v).dropLast = (rawParts u).dropLast ∧
    rawName v = .ok (n.take (n.length - old.length) ++ q e Gen.PATH_QUOTER x) ∧
    v.scheme = u.scheme ∧ v.netloc = u.netloc := by
  intro h
  have ho' : old = PathMore.sfx n := by
    rw [PathMore.rawSuffix_eq, hn] at ho
    exact (Except.ok.inj ho).symm
  subst ho'
  have hn0 : n ≠ [] := (PathMore.withSuffix_checks e u x kq kf v n hn h).2.2.1
  rw [PathMore.withSuffix_closed e u x kq kf n hn] at h
  obtain ⟨_, h⟩ := ite_err_ok h
  have hnm : 47 ∉ List.take (n.length - (PathMore.sfx n).length) n ++ q e Gen.PATH_QUOTER x := by
    intro hm
    rcases List.mem_append.1 hm with hm | hm
    · exact rawName_no_slash u n hn (List.mem_of_mem_take hm)
    · exact hx hm
  obtain ⟨h1, h2, h3, h4, _, _⟩ := withRawName_name_parent u _ kq kf v hnm h
  refine ⟨?_, h1, h3, h4⟩
  rw [h2, if_neg]
  exact fun hc => hn0 (rawName_root u n hn hc.1 hc.2)

/-- the form with the guard on the path; its hypothesis `_hpath` is not needed: `C13_with_suffix_raw_strong` -/
theorem C13_with_suffix_raw (e : Env) (u : Url) (x : Str) (kq kf : Bool) (v : Url) (n old : Str)
    (_hpath : u.netloc ≠ [] → u.path.head? = some 47)
    (hx : 47 ∉ q e Gen.PATH_QUOTER x)
    (hn : rawName u = .ok n) (ho : rawSuffix u = .ok old) : withSuffix e u x kq kf = .ok v →
    (rawParts v).dropLast = (rawParts u).dropLast ∧
    rawName v = .ok (n.take (n.length - old.length) ++ q e Gen.PATH_QUOTER x) ∧
    v.scheme = u.scheme ∧ v.netloc = u.netloc :=
  C13_with_suffix_raw_strong e u x kq kf v n old hx hn ho

/-- a child made of one slash-free segment `p` (no normalisation): its name is `p`, its parent parts are the old
    parts without a trailing empty segment -/
theorem childOf_single_name (u : Url) (p : Str) (hp : 47 ∉ p) (hp0 : u.netloc ≠ [] → u.path = [] → p ≠ [])
    (hpath : u.netloc ≠ [] → (u.path = [] ∨ u.path.head? = some 47)) :
    rawName (childOf u [p] false) = .ok p ∧
    (rawParts (childOf u [p] false)).dropLast =
      (let ps := rawParts u; if ps.getLast? = some [] then ps.dropLast else ps) := by
  have hparts := childOf_single u p hp hp0 hpath
  refine ⟨rawName_append _ _ _ hparts ?_, by rw [hparts]; simp [stripTrail]⟩
  intro hn
  have hn' : u.netloc ≠ [] := by simpa [childOf, fromParts] using hn
  rcases rawParts_shape u with ⟨T, hT, _, _⟩ | ⟨hn0, _⟩
  · rw [hT]
    cases T with
    | nil => simp [stripTrail]
    | cons a b => rw [stripTrail_cons _ _ (by simp)]; simp
  · exact absurd hn0 hn'

/-- a child made from one plain segment has that segment as its name and the old parts — without a
    trailing empty segment — as its parent parts.

    * No side condition `1 < ps.length` on dropping the trailing empty segment: for the empty path without authority
      `raw_parts = ("",)` and the child `URL("") / "a"` is `URL("a")` with parts `("a",)`, so the
      single empty segment IS dropped (`C13_child_name_empty_path_counterexample`);
    * `hq`: the *quoted* segment must be non-empty when it is appended to the bare root of an
      authority; `s ≠ []` does not imply it, because the quoter silently drops lone surrogates
      (`C13_child_name_surrogate_counterexample`). -/
theorem C13_child_name (e : Env) (u : Url) (s : Str) (v : Url)
    (hs : 47 ∉ q e Gen.PATH_QUOTER s) (hdot : 46 ∉ q e Gen.PATH_QUOTER s) (_hne : s ≠ [])
    (hs0 : s.head? ≠ some 47)
    (hq : u.netloc ≠ [] → u.path = [] → q e Gen.PATH_QUOTER s ≠ [])
    (hpath : u.netloc ≠ [] → (u.path = [] ∨ u.path.head? = some 47)) :
    makeChild e u [s] false = .ok v → rawName v = .ok (q e Gen.PATH_QUOTER s) ∧
      (rawParts v).dropLast = (let ps := rawParts u; if ps.getLast? = some [] then ps.dropLast else ps) := by
  intro h
  rw [makeChild_one e u s hs0, PathLemmas.splitOn_of_not_mem 47 _ hs] at h
  have hd : mem 46 (q e Gen.PATH_QUOTER s) = false := by
    rw [Yarl.mem_eq]; simpa using hdot
  rw [hd] at h
  cases h
  exact childOf_single_name u _ hs hq hpath

/-- the PATH_QUOTER drops a lone surrogate, on both backends -/
theorem C13_path_quoter_surrogate (e : Env) : q e Gen.PATH_QUOTER [0xD800] = [] := by
  have : ∀ b : Backend, Gen.PATH_QUOTER.run b [0xD800] = [] := fun b => by cases b <;> decide +kernel
  exact this e.b

theorem C13_path_quoter_a (e : Env) : q e Gen.PATH_QUOTER "a".toStr = "a".toStr := by
  have : ∀ b : Backend, Gen.PATH_QUOTER.run b "a".toStr = "a".toStr := fun b => by
    cases b <;> decide +kernel
  exact this e.b

/-- `hq` of `C13_child_name` is needed: `URL("http://h") / "\ud800"` is `URL("http://h")` itself
    (the quoted segment is empty), its parts are `("/",)` and its parent parts `()` — not `("/",)`. -/
theorem C13_child_name_surrogate_counterexample (e : Env) :
    let u := fromParts "http".toStr "h".toStr [] [] []
    let s : Str := [0xD800]
    s ≠ [] ∧ s.head? ≠ some 47 ∧ q e Gen.PATH_QUOTER s = [] ∧ makeChild e u [s] false = .ok u ∧
      rawParts u = ["/".toStr] ∧ (rawParts u).dropLast = [] := by
  intro u s
  refine ⟨by decide, by decide, C13_path_quoter_surrogate e, ?_, by decide, by decide⟩
  rw [makeChild_one e u s (by decide), C13_path_quoter_surrogate e]
  exact congrArg Except.ok (by decide)

/-- a side condition `1 < ps.length` on dropping the trailing empty segment would be wrong for the empty path without
    authority: `URL("") / "a"` is `URL("a")`, parent parts `()`, while `raw_parts` of `URL("")` is `("",)` -/
theorem C13_child_name_empty_path_counterexample (e : Env) :
    let u := fromParts [] [] [] [] []
    let v := fromParts [] [] "a".toStr [] []
    makeChild e u ["a".toStr] false = .ok v ∧ rawParts u = [[]] ∧ (rawParts v).dropLast = [] ∧
      (let ps := rawParts u; if ps.getLast? = some [] ∧ 1 < ps.length then ps.dropLast else ps) = [[]] := by
  intro u v
  refine ⟨?_, by decide, by decide, by decide⟩
  rw [makeChild_one e u _ (by decide), C13_path_quoter_a e]
  exact congrArg Except.ok (by decide)

/-- the segment list that `_make_child((a,))` builds (old segments without a trailing empty one,
    then the segments of the quoted `a`, rooted under an authority) and — when a '.' occurred under
    an authority — hands to `normalize_path_segments` -/
def childSegments (e : Env) (u : Url) (a : Str) : List Str :=
  root u.netloc (base u ++ splitOn 47 (q e Gen.PATH_QUOTER a))

/-- joinpath(a, b) = joinpath(a).joinpath(b) also when the first step is normalised
    (authority and a '.' in `a`), provided that normalisation keeps the root's empty segment at the
    bottom of the stack and leaves something after it — i.e. `a` does not climb above the root.
    Without `hroot` the statement is FALSE: see `C13_joinpath_assoc_root_counterexample*`. -/
theorem C13_joinpath_assoc (e : Env) (u : Url) (a b : Str) (v1 v2 w : Url)
    (hroot : u.netloc ≠ [] → 46 ∈ q e Gen.PATH_QUOTER a →
      ∃ K', K' ≠ [] ∧ normalizePathSegments (childSegments e u a) = [] :: K') :
    makeChild e u [a, b] false = .ok w → makeChild e u [a] false = .ok v1 →
    makeChild e v1 [b] false = .ok v2 → w = v2 := by
  intro hw h1 h2
  have ha0 : a.head? ≠ some 47 := makeChild_head e u a [] v1 h1
  have hb0 : b.head? ≠ some 47 := makeChild_head e v1 b [] v2 h2
  rw [makeChild_one e u a ha0] at h1
  cases h1
  have hstep := PathMore.makeChild_assoc_of_root_kept e u a b [] false (by simp [ha0, hb0]) hroot
  exact Except.ok.inj (hw.symm.trans (hstep.trans h2))

/-- joinpath(a, b) = joinpath(a).joinpath(b) whenever the FIRST step
    is not normalised (the form `u / 'a/b'` is `C13_truediv_slash`): no authority, or no '.' in the quoted `a`.  No condition on `b`, none on
    slashes inside or at the end of `a` (the code drops the trailing empty segment of a non-last
    argument exactly so that `a = "x/"` composes), and `a` may be empty. -/
theorem C13_joinpath_assoc_nodots (e : Env) (u : Url) (a b : Str) (v1 v2 w : Url)
    (hda : u.netloc ≠ [] → 46 ∉ q e Gen.PATH_QUOTER a) :
    makeChild e u [a, b] false = .ok w → makeChild e u [a] false = .ok v1 →
    makeChild e v1 [b] false = .ok v2 → w = v2 :=
  C13_joinpath_assoc e u a b v1 v2 w (fun hn hm => absurd hm (hda hn))

/-- a sufficient, directly checkable condition for `hroot`: no ".." segment in the old path or in `a` -/
theorem C13_joinpath_assoc_no_dotdot (e : Env) (u : Url) (a b : Str) (v1 v2 w : Url)
    (hdd : u.netloc ≠ [] → dotdot ∉ splitOn 47 u.path ∧ dotdot ∉ splitOn 47 (q e Gen.PATH_QUOTER a)) :
    makeChild e u [a, b] false = .ok w → makeChild e u [a] false = .ok v1 →
    makeChild e v1 [b] false = .ok v2 → w = v2 := by
  refine C13_joinpath_assoc e u a b v1 v2 w ?_
  intro hn hm
  exact childRoot_norm_keeps_root u _ hn hm (hdd hn).1 (hdd hn).2

/-! ### the quoter side conditions discharged for Python strings (`PyStr`: code points ≤ 0x10FFFF) -/

theorem C13_path_quoter_no_slash (e : Env) (s : Str) (hs : PyStr s) (h : 47 ∉ s) :
    47 ∉ q e Gen.PATH_QUOTER s := q_path_avoid e s hs 47 (Or.inr rfl) h

theorem C13_path_quoter_no_dot (e : Env) (s : Str) (hs : PyStr s) (h : 46 ∉ s) :
    46 ∉ q e Gen.PATH_QUOTER s := q_path_avoid e s hs 46 (Or.inl rfl) h

theorem C13_path_quoter_nonempty (e : Env) (s : Str) (hs : PyStr s) (hn : NoSurrogate s) (h0 : s ≠ []) :
    q e Gen.PATH_QUOTER s ≠ [] := q_path_ne_nil e s hs hn h0

/-- `with_name` on a Python string: no side condition left -/
theorem C13_with_name_spec_py (e : Env) (u : Url) (nm : Str) (kq kf : Bool) (v : Url) (hnm : PyStr nm) :
    withName e u nm kq kf = .ok v → rawName v = .ok (q e Gen.PATH_QUOTER nm) ∧
      (rawParts v).dropLast = (if u.netloc ≠ [] ∧ (rawParts u).length = 1 then rawParts u
                               else (rawParts u).dropLast) ∧
      v.scheme = u.scheme ∧ v.netloc = u.netloc ∧ v.query = (if kq then u.query else []) ∧
      v.fragment = (if kf then u.fragment else []) := by
  intro h
  exact C13_with_name_spec_strong e u nm kq kf v
    (C13_path_quoter_no_slash e nm hnm (ModShape.withName_ok h).1) h

/-- `with_suffix` on a Python string: no side condition left -/
theorem C13_with_suffix_raw_py (e : Env) (u : Url) (x : Str) (kq kf : Bool) (v : Url) (n old : Str)
    (hxs : PyStr x) (hn : rawName u = .ok n) (ho : rawSuffix u = .ok old) :
    withSuffix e u x kq kf = .ok v →
    (rawParts v).dropLast = (rawParts u).dropLast ∧
    rawName v = .ok (n.take (n.length - old.length) ++ q e Gen.PATH_QUOTER x) ∧
    v.scheme = u.scheme ∧ v.netloc = u.netloc := by
  intro h
  have h47 : 47 ∉ x := (PathMore.withSuffix_checks e u x kq kf v n hn h).2.2.2
  exact C13_with_suffix_raw_strong e u x kq kf v n old (C13_path_quoter_no_slash e x hxs h47) hn ho h

/-- `u / s` for a plain Python-string segment (no '/', no '.', no lone surrogate, non-empty) -/
theorem C13_child_name_py (e : Env) (u : Url) (s : Str) (v : Url)
    (hs : PyStr s) (hsur : NoSurrogate s) (h47 : 47 ∉ s) (h46 : 46 ∉ s) (hne : s ≠ [])
    (hpath : u.netloc ≠ [] → (u.path = [] ∨ u.path.head? = some 47)) :
    makeChild e u [s] false = .ok v → rawName v = .ok (q e Gen.PATH_QUOTER s) ∧
      (rawParts v).dropLast = (let ps := rawParts u; if ps.getLast? = some [] then ps.dropLast else ps) := by
  refine C13_child_name e u s v (C13_path_quoter_no_slash e s hs h47) (C13_path_quoter_no_dot e s hs h46)
    hne (fun h => h47 (List.mem_of_head? h)) (fun _ _ => C13_path_quoter_nonempty e s hs hsur hne) hpath

/-- the quoter works segment by segment: a '/' between two Python strings stays where it is -/
theorem q_slash (e : Env) (a b : Str) (ha : PyStr a) (hb : PyStr b) :
    q e Gen.PATH_QUOTER (a ++ 47 :: b) = q e Gen.PATH_QUOTER a ++ 47 :: q e Gen.PATH_QUOTER b := by
  have : a ++ 47 :: b = a ++ ([47] ++ b) := rfl
  rw [this, q_path_append e _ _ ha (pyStr_append (by decide) hb),
    q_path_append e _ _ (by decide) hb, q_path_slash]
  rfl

/-- `u / "a/b"` = `u.joinpath(a, b)` for Python strings `a`, `b` when the quoted `a` has a non-empty
    last segment (i.e. `a` is not empty and does not end with '/'; otherwise `u / "x//b"` keeps the
    empty segment that `joinpath("x/", "b")` drops) -/
theorem C13_truediv_slash (e : Env) (u : Url) (a b : Str) (w w' : Url) (ha : PyStr a) (hb : PyStr b)
    (hlast : (splitOn 47 (q e Gen.PATH_QUOTER a)).getLast? ≠ some []) :
    makeChild e u [a ++ 47 :: b] false = .ok w' → makeChild e u [a, b] false = .ok w → w' = w := by
  intro h1 h2
  have hab0 := makeChild_head e u _ [] w' h1
  have hb0 := makeChild_head e u b [a] w h2
  have ha0 : a.head? ≠ some 47 := by
    intro h
    apply hab0
    cases a with
    | nil => simp at h
    | cons c r => simpa using h
  rw [makeChild_one e u _ hab0] at h1
  rw [makeChild_two e u a b ha0 hb0] at h2
  cases h1; cases h2
  rw [q_slash e a b ha hb, splitOn_append 47]
  have hst : stripTrail (splitOn 47 (q e Gen.PATH_QUOTER a)) = splitOn 47 (q e Gen.PATH_QUOTER a) := by
    simp [stripTrail, hlast]
  rw [hst]
  congr 1
  simp only [Yarl.mem_eq]
  simp [Bool.or_comm]

/-! ### associativity fails when the first step climbs above the root (confirmed on yarl 1.18.4.dev0) -/

/-- `URL("http://h").joinpath("..", ".//x")` is `http://h/x`, but
    `URL("http://h").joinpath("..").joinpath(".//x")` is `http://h//x`: the ".." of the one-call form
    pops the root's empty segment, and the empty segment of ".//x" then takes its place. -/
theorem C13_joinpath_assoc_root_counterexample (e : Env) :
    let u := fromParts "http".toStr "h".toStr [] [] []
    makeChild e u ["..".toStr, ".//x".toStr] false = .ok (fromParts "http".toStr "h".toStr "/x".toStr [] []) ∧
    makeChild e u ["..".toStr] false = .ok u ∧
    makeChild e u [".//x".toStr] false = .ok (fromParts "http".toStr "h".toStr "//x".toStr [] []) ∧
    normalizePathSegments (childSegments e u "..".toStr) = [[]] := by
  intro u
  have q1 : q e Gen.PATH_QUOTER "..".toStr = "..".toStr :=
    q_path_of_run e (fun b => by cases b <;> decide +kernel)
  have q2 : q e Gen.PATH_QUOTER ".//x".toStr = ".//x".toStr :=
    q_path_of_run e (fun b => by cases b <;> decide +kernel)
  refine ⟨?_, ?_, ?_, ?_⟩
  · rw [makeChild_two e u _ _ (by decide) (by decide), q1, q2]
    exact congrArg Except.ok (by decide +kernel)
  · rw [makeChild_one e u _ (by decide), q1]
    exact congrArg Except.ok (by decide +kernel)
  · rw [makeChild_one e u _ (by decide), q2]
    exact congrArg Except.ok (by decide +kernel)
  · unfold childSegments
    rw [q1]
    decide +kernel

/-- same corner, milder symptom: `URL("http://h").joinpath("..", ".")` is `http://h` (empty path),
    `URL("http://h").joinpath("..").joinpath(".")` is `http://h/` -/
theorem C13_joinpath_assoc_root_counterexample2 (e : Env) :
    let u := fromParts "http".toStr "h".toStr [] [] []
    makeChild e u ["..".toStr, ".".toStr] false = .ok u ∧
    makeChild e u ["..".toStr] false = .ok u ∧
    makeChild e u [".".toStr] false = .ok (fromParts "http".toStr "h".toStr "/".toStr [] []) := by
  intro u
  have q1 : q e Gen.PATH_QUOTER "..".toStr = "..".toStr :=
    q_path_of_run e (fun b => by cases b <;> decide +kernel)
  have q2 : q e Gen.PATH_QUOTER ".".toStr = ".".toStr :=
    q_path_of_run e (fun b => by cases b <;> decide +kernel)
  refine ⟨?_, ?_, ?_⟩
  · rw [makeChild_two e u _ _ (by decide) (by decide), q1, q2]
    exact congrArg Except.ok (by decide +kernel)
  · rw [makeChild_one e u _ (by decide), q1]
    exact congrArg Except.ok (by decide +kernel)
  · rw [makeChild_one e u _ (by decide), q2]
    exact congrArg Except.ok (by decide +kernel)

/-! ### non-vacuity -/

private def okEq {α : Type} [DecidableEq α] (r : R α) (a : α) : Bool :=
  match r with
  | .ok x => decide (x = a)
  | .error _ => false
private theorem okEq_sound {α : Type} [DecidableEq α] {r : R α} {a : α} (h : okEq r a = true) : r = .ok a := by
  unfold okEq at h
  split at h
  · simp at h; rw [h]
  · cases h

private def o0 : Oracles :=
  { nfkc := fun _ => none, idnaEnc := fun _ => none, idnaEncStd := fun _ => none, idnaDec := fun _ => none,
    idnaDecStd := fun _ => none, isDigitU := fun _ => none, intU := fun _ => none,
    isPrintableU := fun _ => none, lowerU := fun _ => none }
private def ex1 : Url := fromParts "http".toStr "h".toStr "/a/b.tar.gz".toStr "k=v".toStr "f".toStr
private def ex2 : Url := fromParts [] [] "p/q/".toStr [] []

example : (ex1.netloc ≠ [] → (ex1.path = [] ∨ ex1.path.head? = some 47)) ∧
    rawParts ex1 = ["/".toStr, "a".toStr, "b.tar.gz".toStr] ∧ rawPath ex1 = "/a/b.tar.gz".toStr ∧
    recompose (rawParts ex1) = rawPath ex1 := by
  simp only [ex1]; str_lits; decide +kernel
example : rawName ex1 = .ok "b.tar.gz".toStr ∧ rawSuffix ex1 = .ok ".gz".toStr ∧
    rawSuffixes ex1 = .ok [".tar".toStr, ".gz".toStr] := by
  simp only [ex1]; str_lits
  exact ⟨okEq_sound (by decide +kernel), okEq_sound (by decide +kernel), okEq_sound (by decide +kernel)⟩
example : rawParts ex2 = ["p".toStr, "q".toStr, []] ∧ recompose (rawParts ex2) = rawPath ex2 := by
  simp only [ex2]; str_lits; decide +kernel

example : ∀ b : Backend, withSuffix ⟨b, o0⟩ ex1 ".txt".toStr false false
    = .ok (fromParts "http".toStr "h".toStr "/a/b.tar.txt".toStr [] []) := by
  simp only [ex1]; str_lits; intro b; cases b <;> exact okEq_sound (by decide +kernel)
example : ∀ b : Backend, withName ⟨b, o0⟩ ex1 "c d".toStr true false
    = .ok (fromParts "http".toStr "h".toStr "/a/c%20d".toStr "k=v".toStr []) := by
  simp only [ex1]; str_lits; intro b; cases b <;> exact okEq_sound (by decide +kernel)
example : ∀ b : Backend, 47 ∉ q ⟨b, o0⟩ Gen.PATH_QUOTER "c d".toStr := by
  intro b; cases b <;> decide +kernel
example : ∀ b : Backend, makeChild ⟨b, o0⟩ ex2 ["r s".toStr] false
    = .ok (fromParts [] [] "p/q/r%20s".toStr [] []) := by
  simp only [ex2]; str_lits; intro b; cases b <;> exact okEq_sound (by decide +kernel)
example : rawParts (fromParts [] [] "p/q/r%20s".toStr [] []) = ["p".toStr, "q".toStr, "r%20s".toStr] := by
  str_lits; decide +kernel
/-- associativity with normalisation: `http://h/p/q` joined with `"../r/."` then `"./s/.."` -/
example : ∀ b : Backend,
    let u := fromParts "http".toStr "h".toStr "/p/q".toStr [] []
    let e : Env := ⟨b, o0⟩
    makeChild e u ["../r/.".toStr, "./s/..".toStr] false = .ok (fromParts "http".toStr "h".toStr "/p/r/".toStr [] []) ∧
    makeChild e u ["../r/.".toStr] false = .ok (fromParts "http".toStr "h".toStr "/p/r/".toStr [] []) ∧
    makeChild e (fromParts "http".toStr "h".toStr "/p/r/".toStr [] []) ["./s/..".toStr] false
      = .ok (fromParts "http".toStr "h".toStr "/p/r/".toStr [] []) ∧
    normalizePathSegments (childSegments e u "../r/.".toStr) = [[], "p".toStr, "r".toStr, []] := by
  str_lits; intro b; cases b <;>
    exact ⟨okEq_sound (by decide +kernel), okEq_sound (by decide +kernel), okEq_sound (by decide +kernel),
      by decide +kernel⟩
example : ∀ b : Backend, PyStr "x y".toStr ∧ NoSurrogate "x y".toStr ∧
    (splitOn 47 (q ⟨b, o0⟩ Gen.PATH_QUOTER "x y".toStr)).getLast? ≠ some [] ∧
    46 ∉ q ⟨b, o0⟩ Gen.PATH_QUOTER "x y".toStr := by
  str_lits; intro b; cases b <;> decide +kernel

end Yarl
