/-
  C10Dyn.lean — closes C10 GAPS item 1: "equality … never holds against non-URL objects".

  `YarlModel/Dyn.lean` transcribes the `if type(other) is not URL: return NotImplemented` gate of `URL.__eq__`,
  `__lt__`, `__le__`, `__gt__`, `__ge__` together with the interpreter's fallback (reflected method of the other
  operand, then identity for `==` / `!=`, TypeError for the ordering operators) over the object universe `PyObj`.

  Proved here:
   * `u == o` is False and `u != o` is True for EVERY non-URL object `o` (str — in particular `str(u)` —, the 5-tuple of
     the parts, a SplitResult of the parts, None, numbers, bytes, containers — also containers that contain the URL —,
     `object()`); `u == o` holds iff `o` is a URL whose key tuple equals `u`'s;
   * `u < o`, `u <= o`, `u > o`, `u >= o` raise TypeError for every non-URL object and never for a URL;
   * on URLs the dynamic operators ARE `Url.beq` / `lt` / `le` / `gt` / `ge`, so every C10 theorem transfers (the
     transferred equivalence / trichotomy statements are spelled out);
   * hashing: `hash(u)` never raises, equal URLs hash equally, and `hash(u)` IS the hash of the key 5-tuple — an object
     that is not equal to `u` (equal hashes of unequal objects are allowed; the converse direction is the property's).
  ASSUMPTION (stated in Dyn.lean): `.other` objects and str subclasses do not override the reflected comparison
  methods; an object like `unittest.mock.ANY`, whose `__eq__` answers True to everything, compares equal to a URL
  through the interpreter's fallback — no library can prevent that.
  The probe rows at the end were run against the real library (both quoter backends) by harness/sub/dyn_probe.py.
-/
import YarlModel.Dyn
import YarlProofs.C10
namespace Yarl
open Yarl.Dyn

/-! ## equality against non-URL objects -/

/-- "never holds against non-URL objects" -/
theorem C10_eq_non_url (u : Url) (o : PyObj) (h : ∀ v, o ≠ .url v) :
    dynEq u o = false ∧ dynNe u o = true := by
  cases o <;> first | exact ⟨rfl, rfl⟩ | exact absurd rfl (h _)

/-- `u == o` holds exactly when `o` is a URL with the same key tuple -/
theorem C10_eq_iff_url (u : Url) (o : PyObj) :
    dynEq u o = true ↔ ∃ v, o = .url v ∧ u.beq v = true := by
  cases o <;> simp [dynEq, urlEqMethod, reflEq]

/-- `!=` is the negation of `==` for every object -/
theorem C10_ne_eq_not (u : Url) (o : PyObj) : dynNe u o = !dynEq u o := by
  cases o <;> simp [dynNe, dynEq, urlEqMethod, reflEq]

/-- the instances the property has in mind: the URL's own text, any other string (or str subclass), the key 5-tuple,
    the 5-tuple / SplitResult of the stored parts, None, and containers holding the URL itself -/
theorem C10_eq_non_url_instances (e : Env) (u : Url) :
    (∀ s, str e u = .ok s → dynEq u (.str s) = false ∧ dynNe u (.str s) = true) ∧
    (∀ s, dynEq u (.str s) = false ∧ dynEq u (.strSub s) = false) ∧
    dynEq u (keyTuple u) = false ∧
    dynEq u (.tuple [.str u.scheme, .str u.netloc, .str u.path, .str u.query, .str u.fragment]) = false ∧
    dynEq u (.splitResult [u.scheme, u.netloc, u.path, u.query, u.fragment]) = false ∧
    dynEq u .none = false ∧ dynEq u (.tuple [.url u]) = false ∧ dynEq u (.list [.url u]) = false ∧
    dynEq u (.dict [(.url u, .url u)]) = false :=
  ⟨fun _ _ => ⟨rfl, rfl⟩, fun _ => ⟨rfl, rfl⟩, rfl, rfl, rfl, rfl, rfl, rfl, rfl⟩

/-! ## ordering against non-URL objects -/

/-- `url < 1`, `url <= "x"`, `url > None`, `url >= (1,)` … raise TypeError -/
theorem C10_order_non_url (u : Url) (o : PyObj) (h : ∀ v, o ≠ .url v) :
    dynLt u o = .error .typeError ∧ dynLe u o = .error .typeError ∧
    dynGt u o = .error .typeError ∧ dynGe u o = .error .typeError := by
  cases o <;> first | exact ⟨rfl, rfl, rfl, rfl⟩ | exact absurd rfl (h _)

/-- an ordering comparison answers (instead of raising) exactly for URLs, and TypeError is the only error -/
theorem C10_order_answers_iff_url (u : Url) (o : PyObj) (op : Nat) :
    ((∃ b, dynCmp op u o = .ok b) ↔ ∃ v, o = .url v) ∧
    (∀ err, dynCmp op u o = .error err → err = .typeError) := by
  cases o <;> simp [dynCmp, urlCmpMethod, reflCmp]

/-! ## on URLs the dynamic operators are the typed ones -/

/-- so every C10 theorem about `Url.beq` / `lt` / `le` / `gt` / `ge` (and `cmpUrl` of C08Multi.lean, which is defined
    from them) is a theorem about `==`, `!=`, `<`, `<=`, `>`, `>=` on `PyObj.url` operands -/
theorem C10_dyn_agrees_on_urls (u v : Url) :
    dynEq u (.url v) = u.beq v ∧ dynNe u (.url v) = !u.beq v ∧
    dynLt u (.url v) = .ok (u.lt v) ∧ dynLe u (.url v) = .ok (u.le v) ∧
    dynGt u (.url v) = .ok (u.gt v) ∧ dynGe u (.url v) = .ok (u.ge v) :=
  ⟨rfl, rfl, rfl, rfl, rfl, rfl⟩

/-- the reflected methods, had the interpreter consulted them, would have given the same answers (it never does for
    two URLs, since the left method answers): `v.__eq__(u) = u.__eq__(v)`, `v.__gt__(u) = u.__lt__(v)`, … -/
theorem C10_dyn_reflected_consistent (u v : Url) :
    reflEq (.url v) u = urlEqMethod u (.url v) ∧ ∀ op, op ≤ 3 → reflCmp op (.url v) u = urlCmpMethod op u (.url v) := by
  refine ⟨?_, fun op h => ?_⟩
  · simp only [reflEq, urlEqMethod, Url.beq, Option.some.injEq, decide_eq_decide]; exact eq_comm
  · have : op = 0 ∨ op = 1 ∨ op = 2 ∨ op = 3 := by omega
    rcases this with h | h | h | h <;> subst h <;>
      simp [reflCmp, urlCmpMethod, Url.gt, Url.ge]

/-- "equality is reflexive, symmetric, transitive", now for the operator `==` itself, over ALL objects: symmetry and
    transitivity are stated for URL-typed right operands, where `==` can hold at all -/
theorem C10_dyn_equality_is_equivalence :
    (∀ u : Url, dynEq u (.url u) = true) ∧
    (∀ u v : Url, dynEq u (.url v) = true → dynEq v (.url u) = true) ∧
    (∀ u v w : Url, dynEq u (.url v) = true → dynEq v (.url w) = true → dynEq u (.url w) = true) ∧
    (∀ (u : Url) (o : PyObj), dynEq u o = true → ∃ v, o = .url v) := by
  refine ⟨C10_equivalence.1, C10_equivalence.2.1, C10_equivalence.2.2, fun u o h => ?_⟩
  obtain ⟨v, hv, _⟩ := (C10_eq_iff_url u o).1 h
  exact ⟨v, hv⟩

/-- "for any two URLs exactly one of a < b, a == b, a > b holds", for the operators; for a non-URL right operand none
    of the three holds (`==` is False, `<` and `>` raise) -/
theorem C10_dyn_trichotomy (u : Url) (o : PyObj) :
    (∃ v, o = .url v ∧
      ((dynLt u o = .ok true ∧ dynEq u o = false ∧ dynGt u o = .ok false) ∨
       (dynLt u o = .ok false ∧ dynEq u o = true ∧ dynGt u o = .ok false) ∨
       (dynLt u o = .ok false ∧ dynEq u o = false ∧ dynGt u o = .ok true))) ∨
    ((∀ v, o ≠ .url v) ∧ dynLt u o = .error .typeError ∧ dynEq u o = false ∧ dynGt u o = .error .typeError) := by
  by_cases h : ∃ v, o = .url v
  · obtain ⟨v, rfl⟩ := h
    refine .inl ⟨v, rfl, ?_⟩
    have := C10_trichotomy u v
    simpa [dynLt, dynGt, dynCmp, urlCmpMethod, dynEq, urlEqMethod, Url.gt] using this
  · have h' : ∀ v, o ≠ .url v := fun v hv => h ⟨v, hv⟩
    exact .inr ⟨h', (C10_order_non_url u o h').1, (C10_eq_non_url u o h').1, (C10_order_non_url u o h').2.2.1⟩

/-- `<=` is `<` or `==`, and `>=`, `>` are the converses — for the operators on URL operands -/
theorem C10_dyn_le_iff (u v : Url) :
    (dynLe u (.url v) = .ok true ↔ (dynLt u (.url v) = .ok true ∨ dynEq u (.url v) = true)) ∧
    dynGe u (.url v) = dynLe v (.url u) ∧ dynGt u (.url v) = dynLt v (.url u) := by
  refine ⟨?_, rfl, rfl⟩
  have := C10_le_iff u v
  simpa [dynLe, dynLt, dynCmp, urlCmpMethod, dynEq, urlEqMethod] using this

/-! ## hashing -/

/-- `hash(u)` never raises (the key is a tuple of str) and is `hf` of the key tuple -/
theorem C10_dyn_hash_total (hf : PyObj → Int) (u : Url) : dynHash hf (.url u) = .ok (hf (keyTuple u)) := rfl

/-- "equal URLs have equal hashes", for `==` and `hash()` as the interpreter evaluates them, whatever `o` is -/
theorem C10_dyn_hash_coherent (hf : PyObj → Int) (u : Url) (o : PyObj) (h : dynEq u o = true) :
    dynHashEq hf u o = .ok true := by
  obtain ⟨v, rfl, hv⟩ := (C10_eq_iff_url u o).1 h
  have hk : eqKey u = eqKey v := (CmpLemmas.beq_iff u v).1 hv
  simp [dynHashEq, dynHash, keyTuple, hk, bind, Except.bind, pure, Except.pure]

/-- the converse fails, as it may: `hash(u)` IS the hash of the key 5-tuple (`hash((scheme, netloc, path, query,
    fragment))` in `__hash__`), an object that is not equal to `u` -/
theorem C10_dyn_hash_collides_with_key_tuple (hf : PyObj → Int) (u : Url) :
    dynHashEq hf u (keyTuple u) = .ok true ∧ dynEq u (keyTuple u) = false := by
  simp [dynHashEq, dynHash, keyTuple, hashable, hashableAll, bind, Except.bind, pure, Except.pure, dynEq, urlEqMethod,
    reflEq]

/-- `hash(u) == hash(o)` can only raise "unhashable type" (TypeError), and only because of `o` -/
theorem C10_dyn_hash_eq_errors (hf : PyObj → Int) (u : Url) (o : PyObj) (err : PyErr)
    (h : dynHashEq hf u o = .error err) : err = .typeError ∧ hashable o = false := by
  have key : ∀ r : R Int, r = dynHash hf o → (∃ n, r = .ok n) ∨ (r = .error .typeError ∧ hashable o = false) := by
    intro r hr
    unfold dynHash at hr
    split at hr
    · exact .inl ⟨_, hr⟩
    · exact .inl ⟨_, hr⟩
    · split at hr
      · exact .inl ⟨_, hr⟩
      · rename_i hh
        exact .inr ⟨hr, by simpa using hh⟩
  have h0 : dynHash hf (.url u) = .ok (hf (keyTuple u)) := rfl
  rcases key _ rfl with ⟨n, hn⟩ | ⟨he, hh⟩
  · simp [dynHashEq, h0, hn, bind, Except.bind, pure, Except.pure] at h
  · simp [dynHashEq, h0, he, bind, Except.bind] at h
    exact ⟨h.symm, hh⟩

/-! ## non-vacuity and the probe table -/

-- hypotheses are satisfiable: a non-URL object, and a URL that is equal without being identical
example : ∀ v, PyObj.str [104] ≠ .url v := by intro v h; cases h
example : dynEq (fromParts "http".toStr "h".toStr [] [] []) (.url (fromParts "http".toStr "h".toStr [47] [] [])) = true := by
  decide +kernel
example : dynHashEq (fun _ => 0) (fromParts [] [] [] [] []) (.list []) = .error .typeError := by rfl

-- the rows of harness/sub/dyn_probe.py for `==`, `!=`, `<`, `<=`, `>`, `>=` (base URL("http://h/p?a=1#f")); the right-hand
-- sides are the outcomes of the real library
example : Out.bool (dynEq (pU [104, 116, 116, 112, 58, 47, 47, 104, 47, 112, 63, 97, 61, 49, 35, 102]) (.str [104, 116, 116, 112, 58, 47, 47, 104, 47, 112, 63, 97, 61, 49, 35, 102])) = .bool false := by decide +kernel
example : Out.bool (dynNe (pU [104, 116, 116, 112, 58, 47, 47, 104, 47, 112, 63, 97, 61, 49, 35, 102]) (.str [104, 116, 116, 112, 58, 47, 47, 104, 47, 112, 63, 97, 61, 49, 35, 102])) = .bool true := by decide +kernel
example : Out.bool (dynEq (pU [104, 116, 116, 112, 58, 47, 47, 104, 47, 112, 63, 97, 61, 49, 35, 102]) (.tuple [(.str [104, 116, 116, 112]), (.str [104]), (.str [47, 112]), (.str [97, 61, 49]), (.str [102])])) = .bool false := by decide +kernel
example : Out.bool (dynNe (pU [104, 116, 116, 112, 58, 47, 47, 104, 47, 112, 63, 97, 61, 49, 35, 102]) (.tuple [(.str [104, 116, 116, 112]), (.str [104]), (.str [47, 112]), (.str [97, 61, 49]), (.str [102])])) = .bool true := by decide +kernel
example : Out.bool (dynEq (pU [104, 116, 116, 112, 58, 47, 47, 104, 47, 112, 63, 97, 61, 49, 35, 102]) (.splitResult [[104, 116, 116, 112], [104], [47, 112], [97, 61, 49], [102]])) = .bool false := by decide +kernel
example : Out.bool (dynNe (pU [104, 116, 116, 112, 58, 47, 47, 104, 47, 112, 63, 97, 61, 49, 35, 102]) (.splitResult [[104, 116, 116, 112], [104], [47, 112], [97, 61, 49], [102]])) = .bool true := by decide +kernel
example : Out.bool (dynEq (pU [104, 116, 116, 112, 58, 47, 47, 104, 47, 112, 63, 97, 61, 49, 35, 102]) .none) = .bool false := by decide +kernel
example : Out.bool (dynNe (pU [104, 116, 116, 112, 58, 47, 47, 104, 47, 112, 63, 97, 61, 49, 35, 102]) .none) = .bool true := by decide +kernel
example : Out.bool (dynEq (pU [104, 116, 116, 112, 58, 47, 47, 104, 47, 112, 63, 97, 61, 49, 35, 102]) (.int (1))) = .bool false := by decide +kernel
example : Out.bool (dynNe (pU [104, 116, 116, 112, 58, 47, 47, 104, 47, 112, 63, 97, 61, 49, 35, 102]) (.int (1))) = .bool true := by decide +kernel
example : Out.bool (dynEq (pU [104, 116, 116, 112, 58, 47, 47, 104, 47, 112, 63, 97, 61, 49, 35, 102]) (.other 0)) = .bool false := by decide +kernel
example : Out.bool (dynNe (pU [104, 116, 116, 112, 58, 47, 47, 104, 47, 112, 63, 97, 61, 49, 35, 102]) (.other 0)) = .bool true := by decide +kernel
example : Out.bool (dynEq (pU [104, 116, 116, 112, 58, 47, 47, 104, 47, 112, 63, 97, 61, 49, 35, 102]) (.list [(.url (pU [104, 116, 116, 112, 58, 47, 47, 104, 47, 112, 63, 97, 61, 49, 35, 102]))])) = .bool false := by decide +kernel
example : Out.bool (dynNe (pU [104, 116, 116, 112, 58, 47, 47, 104, 47, 112, 63, 97, 61, 49, 35, 102]) (.list [(.url (pU [104, 116, 116, 112, 58, 47, 47, 104, 47, 112, 63, 97, 61, 49, 35, 102]))])) = .bool true := by decide +kernel
example : Out.bool (dynEq (pU [104, 116, 116, 112, 58, 47, 47, 104, 47, 112, 63, 97, 61, 49, 35, 102]) (.url (pU [104, 116, 116, 112, 58, 47, 47, 104, 47, 112, 63, 97, 61, 49, 35, 102]))) = .bool true := by decide +kernel
example : Out.bool (dynNe (pU [104, 116, 116, 112, 58, 47, 47, 104, 47, 112, 63, 97, 61, 49, 35, 102]) (.url (pU [104, 116, 116, 112, 58, 47, 47, 104, 47, 112, 63, 97, 61, 49, 35, 102]))) = .bool false := by decide +kernel
example : Out.bool (dynEq (pU [104, 116, 116, 112, 58, 47, 47, 104, 47, 112, 63, 97, 61, 49, 35, 102]) (.url (pU [104, 116, 116, 112, 58, 47, 47, 104, 47, 112, 63, 97, 61, 49, 35, 103]))) = .bool false := by decide +kernel
example : Out.bool (dynNe (pU [104, 116, 116, 112, 58, 47, 47, 104, 47, 112, 63, 97, 61, 49, 35, 102]) (.url (pU [104, 116, 116, 112, 58, 47, 47, 104, 47, 112, 63, 97, 61, 49, 35, 103]))) = .bool true := by decide +kernel
example : showB (dynLt (pU [104, 116, 116, 112, 58, 47, 47, 104, 47, 112, 63, 97, 61, 49, 35, 102]) (.int (1))) = .err .typeError := by decide +kernel
example : showB (dynLe (pU [104, 116, 116, 112, 58, 47, 47, 104, 47, 112, 63, 97, 61, 49, 35, 102]) (.str [120])) = .err .typeError := by decide +kernel
example : showB (dynGt (pU [104, 116, 116, 112, 58, 47, 47, 104, 47, 112, 63, 97, 61, 49, 35, 102]) .none) = .err .typeError := by decide +kernel
example : showB (dynGe (pU [104, 116, 116, 112, 58, 47, 47, 104, 47, 112, 63, 97, 61, 49, 35, 102]) (.tuple [(.int (1))])) = .err .typeError := by decide +kernel
example : showB (dynLt (pU [104, 116, 116, 112, 58, 47, 47, 104, 47, 112, 63, 97, 61, 49, 35, 102]) (.splitResult [[104, 116, 116, 112], [104], [47, 112], [97, 61, 49], [102]])) = .err .typeError := by decide +kernel
example : showB (dynLe (pU [104, 116, 116, 112, 58, 47, 47, 104, 47, 112, 63, 97, 61, 49, 35, 102]) (.other 0)) = .err .typeError := by decide +kernel
example : showB (dynLt (pU [104, 116, 116, 112, 58, 47, 47, 104, 47, 112, 63, 97, 61, 49, 35, 102]) (.url (pU [104, 116, 116, 112, 58, 47, 47, 105]))) = .bool true := by decide +kernel
example : showB (dynGe (pU [104, 116, 116, 112, 58, 47, 47, 104, 47, 112, 63, 97, 61, 49, 35, 102]) (.url (pU [104, 116, 116, 112, 58, 47, 47, 104, 47, 112, 63, 97, 61, 49, 35, 102]))) = .bool true := by decide +kernel
example : showB (dynGt (pU [104, 116, 116, 112, 58, 47, 47, 104, 47, 112, 63, 97, 61, 49, 35, 102]) (.url (pU [104, 116, 116, 112, 58, 47, 47, 97]))) = .bool true := by decide +kernel
end Yarl
