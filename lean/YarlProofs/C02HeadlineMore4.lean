import YarlProofs.C02Headline
import YarlProofs.C02HeadlineMore
import YarlProofs.C02HeadlineMore2
import YarlProofs.C02HeadlineMore3
import YarlProofs.C02More3
/-!
  C02HeadlineMore4.lean — AUDIT LAYER for property C02, fourth continuation of C02Headline.lean: headline theorems for the
  proof module added after the last refresh, C02More3.lean (which imports C02HeadlineMore3.lean).  This file is a leaf,
  nobody imports it.  The GAPS block of C02Headline.lean cites the theorems of this file.

  C02 | Canonicalisation never changes what a URL means |
  "Auto-encoding preserves every decoded value: percent-decoding the canonical user, password, each path
  segment, each query key and value, and the fragment yields exactly the bytes obtained by percent-decoding
  (as UTF-8) the text that was supplied. Delimiter status is preserved too: an encoded '/' inside a path
  segment and encoded '&', '=', '+', ';' inside a query stay encoded, literal ones stay literal, so the number
  and boundaries of path segments and query pairs never change."

  What is here (numbers = GAPS items of C02Headline.lean).
    * GAPS 5 (lone surrogates), at URL level: every generated quoter gives the same output for `s` and for `s` with its
      lone surrogates dropped (`stripSurr s`), so every clause of the property holds WITHOUT a `NoSurrogate` hypothesis
      when "the text that was supplied" is read as `stripSurr` of the supplied component — constructor (user, password,
      path segments, query pairs), build(path=), with_user / with_password, `/` / joinpath; for the requoters the
      ORIGINAL text can be kept under the weaker `C02_EscSurrFree` (no lone surrogate within the two characters after a
      '%'); for the ORIGINAL text without guard the property is FALSE in every component (one URL for all five), a
      surrogate can hide a dot segment, make a user vanish and bypass the "must not start with '/'" test of joinpath.
    * GAPS 6 (a literal space in a query becomes '+'): one statement per entry point (constructor, `with_query(str)`,
      `build(query_string=)`) — decoded values and delimiter status TOKEN BY TOKEN, with the literal ' ' → literal '+'
      as the only change of spelling of a literal token, "%20" staying "%20".

  Vocabulary added by C02More3.lean.  `stripSurr s` = `s` without its lone surrogates (code points D800..DFFF).
  `C02_Utf8Encodable s` = `s.encode("utf-8")` succeeds: every code point ≤ 0x10FFFF and none in D800..DFFF.
  `C02_EscSurrFree t` = no lone surrogate sits within the two characters that follow a '%' of `t` (decidable; implied by
  `NoSurrogate t`).  `C02_formVal k` = the byte the token `k` means under FORM-decoding (a literal '+' is a space, every
  other token its own byte); `(btoks s).map C02_formVal = pctDecodeQs s`.  `tokOut tab k` (Lemmas/TokLemmas.lean) = the one
  output token a requoting table writes for the input token `k`.  `C02_pairView piece` (C07More.lean) = (form-decoded
  key, has '=', form-decoded value) of a '&'-piece; `C02_textPairView` (Lemmas/MeanMore.lean) = the same for DECODED text
  ('+' = space, no escapes).  `C02_suppliedSegs paths`, `C02_Survivors qf L S`, `root`, `base`: see
  C02HeadlineMore2.lean.  `R11.C02.eS b` = backend `b` with an NFKC oracle that is the identity; `R11.C02.sAll`,
  `uAll`, `pAll`, `sDot`, `uDot` = the input texts / results of the two computed constructor examples (spelled out in
  the doc comments); `StrAscii.demoU` = `URL("HTTP://us er:p%2fw@Example.COM:8080/a b?x=1#f")`.
-/
namespace Yarl
open OutLangLemmas QsLemmas WfLemmas TokLemmas CtorShape MeanMore PathLemmas PathAlg NetShape R11.C02 StrAscii

/-! ## GAPS 5 — lone surrogates: the mechanism -/

/-- THE MECHANISM behind GAPS 5: every generated quoter, on both backends, gives the same output for `s` and for
    `stripSurr s`; `stripSurr` is the identity exactly on the strings without lone surrogates, i.e. (for Python strings)
    on the strings Python can encode as UTF-8 — for those every theorem below is the property VERBATIM.
    Cites C02_run_stripSurr, C02_stripSurr_eq_self_iff, C02_utf8Encodable_iff (C02More3.lean). -/
theorem C02_headline_surr_mechanism (b : Backend) (s : Str) :
    (∀ a ∈ Gen.allQuoters, PyStr s →                  -- any of the nine generated quoter configurations
      a.run b s = a.run b (stripSurr s) ∧ a.run b s = cOut (a.tab b) (stripSurr s)) ∧
    (stripSurr s = s ↔ NoSurrogate s) ∧
    (C02_Utf8Encodable s ↔ PyStr s ∧ NoSurrogate s) :=
  ⟨fun a ha hs => C02_run_stripSurr b a ha s hs, C02_stripSurr_eq_self_iff s, C02_utf8Encodable_iff s⟩

/-- "percent-decoding the canonical … yields exactly the bytes obtained by percent-decoding (as UTF-8) the text that was
    supplied", quoter level, all four requoters and all five quoters, NO `NoSurrogate` hypothesis: the reference value
    is that of `stripSurr s`; for the quoters of DECODED text it equals that of `s` itself (`utf8s` does not see a lone
    surrogate).  Cites C02_surr_quoter_level. -/
theorem C02_headline_surr_quoter_level (b : Backend) (s : Str)
    (hs : PyStr s) :                                  -- model artefact: a Python string
    pctDecode (Gen.REQUOTER.run b s) = pctDecode (stripSurr s) ∧
    pctDecode (Gen.PATH_REQUOTER.run b s) = pctDecode (stripSurr s) ∧
    pctDecodeQs (Gen.QUERY_REQUOTER.run b s) = pctDecodeQs (stripSurr s) ∧
    pctDecode (Gen.FRAGMENT_REQUOTER.run b s) = pctDecode (stripSurr s) ∧
    pctDecode (Gen.QUOTER.run b s) = utf8s (stripSurr s) ∧
    pctDecode (Gen.PATH_QUOTER.run b s) = utf8s (stripSurr s) ∧
    pctDecodeQs (Gen.QUERY_PART_QUOTER.run b s) = utf8s (stripSurr s) ∧
    pctDecodeQs (Gen.QUERY_QUOTER.run b s) = utf8s (plusToSpace (stripSurr s)) ∧
    pctDecode (Gen.FRAGMENT_QUOTER.run b s) = utf8s (stripSurr s) ∧
    utf8s (stripSurr s) = utf8s s ∧ utf8s (plusToSpace (stripSurr s)) = utf8s (plusToSpace s) :=
  C02_surr_quoter_level b s hs

/-- EXACTLY where the guard is needed for the requoters: when no lone surrogate sits within the two characters after a
    '%' (`C02_EscSurrFree`, implied by `NoSurrogate`), the ORIGINAL text can stay on the right-hand side — decoded
    bytes, and delimiter status / position (the token relation of C02Tokens.lean) for every requoter.
    Cites C02_surr_requoters_verbatim, C02_escSurrFree_of_noSurrogate, C02_surr_only_inside_escapes. -/
theorem C02_headline_surr_requoters_verbatim (b : Backend) (t : Str)
    (ht : PyStr t) :                                  -- a Python string
    (NoSurrogate t → C02_EscSurrFree t) ∧
    (C02_EscSurrFree t →                              -- no lone surrogate inside (what would become) an escape
      (btoks (stripSurr t) = btoks t ∧ pctDecode (stripSurr t) = pctDecode t ∧
        pctDecodeQs (stripSurr t) = pctDecodeQs t) ∧
      pctDecode (Gen.REQUOTER.run b t) = pctDecode t ∧
      pctDecode (Gen.PATH_REQUOTER.run b t) = pctDecode t ∧
      pctDecodeQs (Gen.QUERY_REQUOTER.run b t) = pctDecodeQs t ∧
      pctDecode (Gen.FRAGMENT_REQUOTER.run b t) = pctDecode t ∧
      (∀ a ∈ Gen.allQuoters, a.requote = true → All2 (TokRel (a.tab b)) (btoks t) (btoks (a.run b t)))) :=
  ⟨C02_escSurrFree_of_noSurrogate t,
   fun hf => ⟨C02_surr_only_inside_escapes t hf, C02_surr_requoters_verbatim b t ht hf⟩⟩

/-! ## GAPS 5 — the constructor `URL(s)`, component-wise on the split of the input, no `NoSurrogate` hypothesis -/

/-- "percent-decoding the canonical user, password … yields exactly the bytes … [of] the text that was supplied" for
    `URL(s)` WITHOUT the guard of `C02_headline_constructor_user_password`: the canonical user / password are the
    requoted userinfo texts `split_netloc` reads from the supplied authority (a user whose requoted form is empty is
    `None`), and they percent-decode to the bytes of those texts with lone surrogates dropped.
    Cites C02_surr_encodeUrl_userinfo_decode. -/
theorem C02_headline_surr_constructor_user_password (e : Env) (s : Str) (u : Url)
    (hs : PyStr s)                                    -- model artefact: a Python string
    (h : encodeUrl e s = .ok u) :                     -- `u = URL(s)`
    ∃ (p : Parts) (np : NetlocParts) (ru rp : Option Str), splitUrl e.o s = .ok p ∧
      splitNetloc e.o p.netloc = .ok np ∧
      np.user = (Rfc.authoritySplit p.netloc).user.bind orNone ∧
      np.password = (Rfc.authoritySplit p.netloc).password ∧
      rawUser e u = .ok ru ∧ rawPassword e u = .ok rp ∧
      ru = (np.user.map (q e Gen.REQUOTER)).bind orNone ∧
      rp = np.password.map (q e Gen.REQUOTER) ∧
      ru.map pctDecode = ((np.user.map stripSurr).bind orNone).map pctDecode ∧
      rp.map pctDecode = (np.password.map stripSurr).map pctDecode :=
  C02_surr_encodeUrl_userinfo_decode e s hs u h

/-- "… each path segment … so the number and boundaries of path segments … never change" for `URL(s)` without the guard:
    `L` = the '/'-segments of the supplied path with lone surrogates dropped = the supplied segments, each stripped (a
    surrogate is no '/').  Without an authority, or when no segment of `L` decodes to "." / "..", the stored segments
    are the requoted supplied segments one for one, equally many, the i-th decoding to what the i-th of `L` decodes to.
    Cites C02_surr_encodeUrl_segments.  (With dot segments under an authority: C02_surr_normalized_segments, the
    guard-free form of `C02_headline_constructor_dot_segment_survivors`; no headline restatement.) -/
theorem C02_headline_surr_constructor_path_segments (e : Env) (s : Str) (u : Url)
    (hs : PyStr s) (h : encodeUrl e s = .ok u) :      -- `u = URL(s)`, `s` a Python string
    ∃ p : Parts, splitUrl e.o s = .ok p ∧
      let L := splitOn 47 (stripSurr p.path)
      L = (splitOn 47 p.path).map stripSurr ∧
      -- no authority, or no dot segment among the STRIPPED segments (".\ud800." IS "..": `…_hidden_dot_segment`)
      ((u.netloc = [] ∨ ∀ sg ∈ L, pctDecode sg ≠ [46] ∧ pctDecode sg ≠ [46, 46]) →
        splitOn 47 u.path = (splitOn 47 p.path).map (q e Gen.PATH_REQUOTER) ∧
        splitOn 47 u.path = L.map (q e Gen.PATH_REQUOTER) ∧
        (splitOn 47 u.path).length = (splitOn 47 p.path).length ∧
        (splitOn 47 u.path).map pctDecode = L.map pctDecode ∧
        ∀ i : Nat, ((splitOn 47 u.path)[i]?).map pctDecode = (L[i]?).map pctDecode) :=
  C02_surr_encodeUrl_segments e s hs u h

/-- "… each query key and value … so the number and boundaries of … query pairs never change" for `URL(s)` without the
    guard: the stored '&'-pieces are the requoted supplied pieces one for one (equally many); piece by piece key /
    "has '='" / value form-decode to those of the STRIPPED supplied pieces; `parse_qsl` of the canonical query is
    `parse_qsl` of the stripped supplied query.  Cites C02_surr_encodeUrl_pairs. -/
theorem C02_headline_surr_constructor_query_pairs (e : Env) (s : Str) (u : Url)
    (hs : PyStr s) (h : encodeUrl e s = .ok u) :      -- `u = URL(s)`, `s` a Python string
    ∃ p : Parts, splitUrl e.o s = .ok p ∧
      let L := splitOn 38 (stripSurr p.query)
      L = (splitOn 38 p.query).map stripSurr ∧
      (∀ x, partition 61 (stripSurr x)
        = (stripSurr (partition 61 x).1, (partition 61 x).2.1, stripSurr (partition 61 x).2.2)) ∧
      splitOn 38 u.query = (splitOn 38 p.query).map (q e Gen.QUERY_REQUOTER) ∧
      splitOn 38 u.query = L.map (q e Gen.QUERY_REQUOTER) ∧
      (splitOn 38 u.query).length = (splitOn 38 p.query).length ∧
      (splitOn 38 u.query).map C02_pairView = L.map C02_pairView ∧
      (∀ i : Nat, ((splitOn 38 u.query)[i]?).map C02_pairView = (L[i]?).map C02_pairView) ∧
      queryPairs u = parseQsl (stripSurr p.query) :=
  C02_surr_encodeUrl_pairs e s hs u h

/-- the constructor, VERBATIM form: for a component in which no lone surrogate sits within the two characters after a
    '%' the property holds for the ORIGINAL supplied text (query, fragment, path as wholes), and its byte tokens are
    those of the original text.  Cites C02_surr_encodeUrl_verbatim. -/
theorem C02_headline_surr_constructor_verbatim (e : Env) (s : Str) (u : Url)
    (hs : PyStr s) (h : encodeUrl e s = .ok u) :      -- `u = URL(s)`, `s` a Python string
    ∃ p : Parts, splitUrl e.o s = .ok p ∧
      (C02_EscSurrFree p.query →
        pctDecodeQs u.query = pctDecodeQs p.query ∧ btoks (stripSurr p.query) = btoks p.query) ∧
      (C02_EscSurrFree p.fragment → pctDecode u.fragment = pctDecode p.fragment) ∧
      (C02_EscSurrFree p.path →
        pctDecode (q e Gen.PATH_REQUOTER p.path) = pctDecode p.path ∧ btoks (stripSurr p.path) = btoks p.path) :=
  C02_surr_encodeUrl_verbatim e s hs u h

/-! ## GAPS 5 — entry points that take DECODED text (quoters), no `NoSurrogate` hypothesis -/

/-- `build(path=t)` without the guard of `C02_headline_build_path`: every clause speaks about `T` = `t` with lone
    surrogates dropped, whose '/'-segments `L` are the stripped segments of `t`: PATH_QUOTER(t) = PATH_QUOTER(T) splits
    into the quoted segments of `L`, none contains '/', each decodes to the UTF-8 bytes of its segment; the stored path
    is PATH_QUOTER(T), or under an authority with dot segments IN `L` its `normalize_path`, with the survivors of `L`.
    Cites C02_surr_build_path. -/
theorem C02_headline_surr_build_path (e : Env) (a : BuildArgs) (v : Url)
    (h : build e a = .ok v) (henc : a.encoded = false)   -- a successful auto-encoding `build`
    (hp : PyStr a.path) :                                 -- the path argument is a Python string
    let qf := q e Gen.PATH_QUOTER
    let T := stripSurr a.path
    let L := splitOn 47 T
    L = (splitOn 47 a.path).map stripSurr ∧ qf a.path = qf T ∧
    splitOn 47 (qf a.path) = L.map qf ∧
    (∀ sg ∈ L, pctDecode (qf sg) = utf8s sg ∧ 47 ∉ qf sg) ∧
    ((v.path = qf T ∧ splitOn 47 v.path = L.map qf) ∨
      (v.netloc ≠ [] ∧ v.path = normalizePath (qf T) ∧ C02_Survivors qf L (splitOn 47 v.path))) ∧
    ((v.netloc = [] ∨ NoDots L) → v.path = qf T ∧ splitOn 47 v.path = L.map qf ∧
      (splitOn 47 v.path).map pctDecode = L.map utf8s) :=
  C02_surr_build_path e a v h henc hp

/-- `u / s` / `u.joinpath(*paths)` without the guard of `C02_headline_joinpath`: the supplied segments are those of the
    STRIPPED arguments; the "an argument must not start with '/'" test (first clause) is about the ORIGINAL arguments
    (`C02_headline_surr_joinpath_head_check_bypassed`).  Cites C02_surr_joinpath. -/
theorem C02_headline_surr_joinpath (e : Env) (u : Url) (paths : List Str) (v : Url)
    (hg : ∀ p ∈ paths, PyStr p)                       -- the arguments are Python strings
    (h : makeChild e u paths false = .ok v) :         -- the call succeeds
    let qf := q e Gen.PATH_QUOTER
    let X0 := C02_suppliedSegs (paths.map stripSurr)
    let M := root u.netloc (base u ++ X0.map qf)
    (∀ p ∈ paths, p.head? ≠ some 47) ∧
    (∀ sg ∈ X0, pctDecode (qf sg) = utf8s sg ∧ 47 ∉ sg ∧ 47 ∉ qf sg) ∧
    (∀ p ∈ paths, qf p = qf (stripSurr p) ∧ splitOn 47 (qf p) = (splitOn 47 (stripSurr p)).map qf) ∧
    ((v.path = joinC 47 M ∧ (M ≠ [] → splitOn 47 v.path = M)) ∨
      (u.netloc ≠ [] ∧ paths ≠ [] ∧ v.path = fixRoot (joinC 47 (normalizePathSegments M)) ∧
        C02_Survivors id M (splitOn 47 v.path))) ∧
    ((u.netloc = [] ∨ NoDots M) → M ≠ [] → splitOn 47 v.path = M) ∧
    v.netloc = u.netloc ∧ v.scheme = u.scheme :=
  C02_surr_joinpath e u paths v hg h

/-- with_user(s) / with_password(s) about `stripSurr s`: `raw_user` is `QUOTER(stripSurr s) or None` — `None` exactly when
    `s` is empty or made of lone surrogates only — `raw_password` is QUOTER(stripSurr s); both decode to the UTF-8 bytes
    of the stripped (= of the supplied) text.  Hypotheses as `C02_headline_with_user_with_password`.
    Cites C02_surr_with_user, C02_surr_with_password.  (The same restatement exists for build(user=, password=),
    build(authority=), build(query_string=), build(fragment=), with_fragment, with_path, with_name, with_suffix,
    with_query / extend_query with a string or pairs: C02_surr_* in C02More3.lean, no headline restatement.) -/
theorem C02_headline_surr_with_user_with_password (e : Env) (u v : Url) (s : Str)
    (ho : HostOracleNoAt e.o) (hu : UserinfoOK e.b u) -- as in C02_headline_with_user_with_password (C01Headline GAPS 7)
    (hs : PyStr s) :                                  -- a Python string
    (withUser e u (some s) = .ok v → ∀ r, rawUser e v = .ok r →
      r = orNone (q e Gen.QUOTER (stripSurr s)) ∧ pctDecode (r.getD []) = utf8s (stripSurr s) ∧
      utf8s (stripSurr s) = utf8s s) ∧
    (withPassword e u (some s) = .ok v → ∀ r, rawPassword e v = .ok r →
      r = some (q e Gen.QUOTER (stripSurr s)) ∧ r.map pctDecode = some (utf8s (stripSurr s)) ∧
      utf8s (stripSurr s) = utf8s s) :=
  ⟨fun h => C02_surr_with_user e u v s ho hu hs h, fun h => C02_surr_with_password e u v s ho hu hs h⟩

/-! ## GAPS 5 — the property is FALSE for the ORIGINAL text (NOT in KNOWN_FINDINGS.jsonl; the property text has no
    exception for lone surrogates) -/

/-- GAPS 5 at URL level, ONE Python-level input for all five components, both backends:
    `URL('http://%\ud80041:%\udfff42@h/%\ud80043/x?k%\ud8003Dv=%\ud80041#%\ud80045')`.  The supplied user "%\ud80041"
    percent-decodes to the bytes "%41", the canonical user is "A"; likewise password "B", first path segment "C", query
    value "A", fragment "E"; and the supplied query key "k%\ud8003Dv" is stored "k%3Dv" — an ENCODED '=' appears that
    was not supplied.  Decoded-value clause and delimiter clause both fail for the original text.
    Cites C02_surr_url_counterexample. -/
theorem C02_headline_surr_fails_for_original_text (b : Backend) :
    let e := eS b
    PyStr sAll ∧ ¬ NoSurrogate sAll ∧
    encodeUrl e sAll = .ok uAll ∧
    splitUrl e.o sAll = .ok pAll ∧
    rawUser e uAll = .ok (some "A".toStr) ∧ rawPassword e uAll = .ok (some "B".toStr) ∧
    uAll.path = "/C/x".toStr ∧ uAll.query = "k%3Dv=A".toStr ∧ uAll.fragment = "E".toStr ∧
    pctDecode ("%".toStr ++ [0xD800] ++ "41".toStr) = "%41".toStr ∧ pctDecode "A".toStr = "A".toStr ∧
    pctDecode ("%".toStr ++ [0xD800] ++ "45".toStr) ≠ pctDecode uAll.fragment ∧
    pctDecodeQs ("k%".toStr ++ [0xD800] ++ "3Dv=%".toStr ++ [0xD800] ++ "41".toStr) ≠ pctDecodeQs uAll.query ∧
    BTok.esc 61 ∉ btoks ("k%".toStr ++ [0xD800] ++ "3Dv=%".toStr ++ [0xD800] ++ "41".toStr) ∧
    BTok.esc 61 ∈ btoks uAll.query :=
  C02_surr_url_counterexample b

/-- "the number and boundaries of path segments … never change" fails through a HIDDEN dot segment, both backends:
    `URL('http://h/a/.\ud800./b?…')` — no supplied segment is the text "." or "..", yet ".\ud800." is requoted to ".." and
    removes its left neighbour: four segments supplied, two stored ("/b").  Cites C02_surr_hidden_dot_segment. -/
theorem C02_headline_surr_hidden_dot_segment (b : Backend) :
    let e := eS b
    PyStr sDot ∧ encodeUrl e sDot = .ok uDot ∧ uDot.netloc ≠ [] ∧
    (∃ p, splitUrl e.o sDot = .ok p ∧ splitOn 47 p.path = [[], "a".toStr, [46, 0xD800, 46], "b".toStr] ∧
      NoDots (splitOn 47 p.path) ∧
      splitOn 47 (stripSurr p.path) = [[], "a".toStr, "..".toStr, "b".toStr]) ∧
    splitOn 47 uDot.path = [[], "b".toStr] :=
  C02_surr_hidden_dot_segment b

/-- a user made of lone surrogates only VANISHES, both backends: `URL('http://\ud800@h/')` — `split_netloc` reads the
    non-empty user "\ud800", the canonical URL has no user at all; the same for `with_user('\ud800')` (the user is
    removed, an old password stays).  Cites C02_surr_user_vanishes. -/
theorem C02_headline_surr_user_vanishes (b : Backend) :
    let e := eS b
    let s : Str := "http://".toStr ++ [0xD800] ++ "@h/".toStr
    splitNetloc e.o ([0xD800] ++ "@h".toStr)
      = .ok { user := some [0xD800], password := none, host := some "h".toStr, port := none } ∧
    (∃ u, encodeUrl e s = .ok u ∧ u.netloc = "h".toStr ∧ rawUser e u = .ok none) ∧
    (∃ v, withUser ⟨b, Oracles.empty⟩ demoU (some [0xD800]) = .ok v ∧ v.netloc = ":p%2Fw@example.com:8080".toStr ∧
      rawUser ⟨b, Oracles.empty⟩ v = .ok none) :=
  C02_surr_user_vanishes b

/-- the "must not start with '/'" test of `joinpath` / `/` sees the ORIGINAL text: `.joinpath('/x')` raises ValueError,
    `.joinpath('\ud800/x')` is accepted and appends an EMPTY segment and "x" (stored path "/a%20b//x").
    Cites C02_surr_joinpath_head_check_bypassed. -/
theorem C02_headline_surr_joinpath_head_check_bypassed (b : Backend) :
    let e : Env := ⟨b, Oracles.empty⟩
    makeChild e demoU ["/x".toStr] false = .error .valueError ∧
    (makeChild e demoU [[0xD800] ++ "/x".toStr] false).map (·.path) = .ok "/a%20b//x".toStr ∧
    C02_suppliedSegs ([[0xD800] ++ "/x".toStr].map stripSurr) = [[], "x".toStr] :=
  C02_surr_joinpath_head_check_bypassed b

/-! ## GAPS 6 — "a literal space in a query becomes '+'": decoded values and delimiter status, token by token -/

/-- the reading of the token statements below: form-decoding IS token-wise (`pctDecodeQs s` is the list of `C02_formVal`
    of the byte tokens of `s`), and what QUERY_REQUOTER writes for the tokens GAPS 6 is about, on both backends: a
    literal ' ' and a literal '+' both become a literal '+'; "%20" stays "%20" and "%2B" stays "%2B"; '&' '=' ';' keep
    their status; "%41" ↦ 'A'; a literal '%' (no escape) ↦ "%25".
    Cites C02_form_decode_is_tokenwise, C02_form_requoter_table. -/
theorem C02_headline_form_tokens_reading (b : Backend) (s : Str) :
    ((btoks s).map C02_formVal = pctDecodeQs s ∧ (btoks s).map BTok.val = pctDecode s) ∧
    (let f := tokOut (Gen.QUERY_REQUOTER.tab b)
     f (.lit 32) = .lit 43 ∧ f (.lit 43) = .lit 43 ∧ f (.esc 32) = .esc 32 ∧ f (.esc 43) = .esc 43 ∧
     f (.lit 38) = .lit 38 ∧ f (.esc 38) = .esc 38 ∧ f (.lit 61) = .lit 61 ∧ f (.esc 61) = .esc 61 ∧
     f (.lit 59) = .lit 59 ∧ f (.esc 59) = .esc 59 ∧ f (.esc 65) = .lit 65 ∧ f (.lit 233) = .esc 233 ∧
     f (.lit 37) = .esc 37) :=
  ⟨C02_form_decode_is_tokenwise s, C02_form_requoter_table b⟩

/-- GAPS 6, (i) THE CONSTRUCTOR `URL(s)`: with `S` = the supplied query (lone surrogates dropped), `T0` / `T1` the byte
    tokens of the supplied / the canonical query.  Decoded values: the canonical query is QUERY_REQUOTER(S) and
    form-decodes to what `S` form-decodes to — as a whole, '&'-piece by '&'-piece, as `parse_qsl` reads it, and token
    by token.  Delimiter status: equally many tokens, and at every position '&' '=' ';' are literal iff literal, encoded
    iff encoded; "%2B" iff "%2B"; a literal '+' in the output iff a literal '+' OR a literal ' ' in the input (the only
    way a literal token changes its spelling); "%20" iff "%20"; no literal space in the canonical query.  No
    `NoSurrogate` hypothesis.  Cites C02_form_constructor. -/
theorem C02_headline_form_constructor (e : Env) (s : Str) (u : Url)
    (hs : PyStr s) (h : encodeUrl e s = .ok u) :      -- `u = URL(s)`, `s` a Python string
    ∃ p : Parts, splitUrl e.o s = .ok p ∧
      let S := stripSurr p.query
      let T0 := btoks S
      let T1 := btoks u.query
      u.query = Gen.QUERY_REQUOTER.run e.b p.query ∧ u.query = Gen.QUERY_REQUOTER.run e.b S ∧
      -- decoded values
      pctDecodeQs u.query = pctDecodeQs S ∧
      splitOn 38 u.query = (splitOn 38 S).map (Gen.QUERY_REQUOTER.run e.b) ∧
      (splitOn 38 u.query).length = (splitOn 38 p.query).length ∧
      (splitOn 38 u.query).map C02_pairView = (splitOn 38 S).map C02_pairView ∧
      queryPairs u = parseQsl S ∧
      T1.map C02_formVal = T0.map C02_formVal ∧
      -- delimiter status, token by token
      T1 = T0.map (tokOut (Gen.QUERY_REQUOTER.tab e.b)) ∧ T1.length = T0.length ∧
      (∀ d, d = 38 ∨ d = 61 ∨ d = 59 →
        T1.map (fun k => decide (k = .lit d)) = T0.map (fun k => decide (k = .lit d)) ∧
        T1.map (fun k => decide (k = .esc d)) = T0.map (fun k => decide (k = .esc d))) ∧
      T1.map (fun k => decide (k = .lit 43)) = T0.map (fun k => decide (k = .lit 43 ∨ k = .lit 32)) ∧
      T1.map (fun k => decide (k = .esc 43)) = T0.map (fun k => decide (k = .esc 43)) ∧
      T1.map (fun k => decide (k = .esc 32)) = T0.map (fun k => decide (k = .esc 32)) ∧
      BTok.lit 32 ∉ T1 :=
  C02_form_constructor e s hs u h

/-- GAPS 6, (ii) `with_query(s)` for a STRING `s` (DECODED text: a '%' in it is a literal percent sign, "%2B" is stored
    "%252B").  `B` = the UTF-8 bytes of the supplied text, `T1` = the byte tokens of the canonical query.  Decoded
    values: the canonical query form-decodes to the supplied bytes with '+' read as space, as a whole, piece by piece
    and byte by byte.  Delimiter status: one token per supplied byte; every supplied '&' '=' ';' stays literal at its
    position; a literal '+' in the output iff the supplied byte is '+' or ' '; a supplied '%' becomes "%25"; NO encoded
    '&' '=' ';' '+' ' ' and no literal ' ' is ever written.  Cites C02_form_with_query_string. -/
theorem C02_headline_form_with_query_string (e : Env) (u : Url) (s : Str)
    (hs : PyStr s) :                                  -- a Python string (lone surrogates allowed)
    ∃ v, withQuery e u (.str s) = .ok v ∧
      let B := utf8s s
      let T1 := btoks v.query
      v.query = Gen.QUERY_QUOTER.run e.b s ∧
      -- decoded values
      pctDecodeQs v.query = utf8s (plusToSpace s) ∧
      splitOn 38 v.query = (splitOn 38 s).map (Gen.QUERY_QUOTER.run e.b) ∧
      (splitOn 38 v.query).length = (splitOn 38 s).length ∧
      (splitOn 38 v.query).map C02_pairView = (splitOn 38 s).map C02_textPairView ∧
      T1.map C02_formVal = B.map (fun x => if x = 43 then 32 else x) ∧
      -- delimiter status, token by token
      T1.length = B.length ∧
      (∀ d, d = 38 ∨ d = 61 ∨ d = 59 → T1.map (fun k => decide (k = .lit d)) = B.map (fun x => decide (x = d))) ∧
      T1.map (fun k => decide (k = .lit 43)) = B.map (fun x => decide (x = 43 ∨ x = 32)) ∧
      T1.map (fun k => decide (k = .esc 37)) = B.map (fun x => decide (x = 37)) ∧
      (∀ d, d = 38 ∨ d = 61 ∨ d = 59 ∨ d = 43 ∨ d = 32 → BTok.esc d ∉ T1) ∧
      BTok.lit 32 ∉ T1 ∧
      B = utf8s (stripSurr s) :=
  C02_form_with_query_string e u s hs

/-- GAPS 6, (iii) `URL.build(query_string=s)` (encoded=False): the same statement for the query of the built URL.
    Cites C02_form_build_query_string. -/
theorem C02_headline_form_build_query_string (e : Env) (a : BuildArgs) (v : Url)
    (h : build e a = .ok v) (henc : a.encoded = false)   -- a successful auto-encoding `build`
    (hq : qargTruthy a.query = false)                     -- no (truthy) `query=` argument
    (hp : PyStr a.queryString) :                          -- `query_string=` is a Python string
    let s := a.queryString
    let B := utf8s s
    let T1 := btoks v.query
    v.query = Gen.QUERY_QUOTER.run e.b s ∧
    pctDecodeQs v.query = utf8s (plusToSpace s) ∧
    splitOn 38 v.query = (splitOn 38 s).map (Gen.QUERY_QUOTER.run e.b) ∧
    (splitOn 38 v.query).length = (splitOn 38 s).length ∧
    (splitOn 38 v.query).map C02_pairView = (splitOn 38 s).map C02_textPairView ∧
    T1.map C02_formVal = B.map (fun x => if x = 43 then 32 else x) ∧
    T1.length = B.length ∧
    (∀ d, d = 38 ∨ d = 61 ∨ d = 59 → T1.map (fun k => decide (k = .lit d)) = B.map (fun x => decide (x = d))) ∧
    T1.map (fun k => decide (k = .lit 43)) = B.map (fun x => decide (x = 43 ∨ x = 32)) ∧
    T1.map (fun k => decide (k = .esc 37)) = B.map (fun x => decide (x = 37)) ∧
    (∀ d, d = 38 ∨ d = 61 ∨ d = 59 ∨ d = 43 ∨ d = 32 → BTok.esc d ∉ T1) ∧
    BTok.lit 32 ∉ T1 ∧
    B = utf8s (stripSurr s) :=
  C02_form_build_query_string e a v h henc hq hp

/-! ## non-vacuity -/
section checks
/-- `C02_EscSurrFree` is strictly weaker than `NoSurrogate`: ".\ud800.%41\ud800" satisfies it, "%\ud80041" does not -/
example : C02_EscSurrFree [46, 0xD800, 46, 37, 52, 49, 0xD800] ∧ ¬ NoSurrogate [46, 0xD800, 46, 37, 52, 49, 0xD800] ∧
    ¬ C02_EscSurrFree [37, 0xD800, 52, 49] := by decide +kernel

/-- the constructor theorems on an input with lone surrogates, a space, "%20", "%2B", "%26", "%3D", ';' and "%3b":
    `URL('http://h/a/.\ud800./b?x y=\udc00%20+%2B&%26\udc00=%3D;%3b')` succeeds on both backends; the stored query is
    "x+y=%20+%2B&%26=%3D;%3B" -/
example : ∀ b : Backend, PyStr sDot ∧ encodeUrl (eS b) sDot = .ok uDot ∧
    uDot.query = "x+y=%20+%2B&%26=%3D;%3B".toStr :=
  fun b => ⟨by decide +kernel, sDot_ok b, rfl⟩
end checks

end Yarl
