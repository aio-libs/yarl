/-
  C12Dyn.lean — property C12 for arguments of any Python type: non-str KEYS, values and arguments of the wrong type in
  every container, over the dynamic layer YarlModel/Dyn.lean.

  `dynQuery` transcribes the type dispatch of `get_str_query` / `query_var` / the two string builders of
  `yarl/_query.py` (and `dynUpdateQuery` that of `URL.update_query`, which goes through `MultiDict.update` first) and
  lands in the typed `QArg` / `QItem` / `QVal`, so the typed C12 theorems apply.  Proved here:
   * `C12_dyn_value_gate`: how `query_var` classifies an arbitrary object as a VALUE;
   * `C12_dyn_rejects`: a bool / None / NaN / inf / bytes / dict / URL / object value is rejected — TypeError, resp.
     ValueError for NaN / inf — by `with_query`, `extend_query` and `update_query`, whatever the container: dict,
     list or tuple of pairs, kwargs (exact kind for with_query / extend_query when the entries before it are fine, and
     for update_query when all other entries are fine; otherwise update_query raises the kind of one of the offenders);
   * `C12_dyn_argument_gate`: what the three methods do with a non-query ARGUMENT (bytes, int, float, bool, URL, object):
     TypeError if it is truthy — and, a quirk of the code, the same as `""` if it is falsy (`0`, `False`, `0.0`, `b""`,
     `URL("")`);
   * `C12_dyn_non_str_keys`: what happens with keys that are not `str`:
       - a str SUBCLASS key is the str;
       - with_query / extend_query: the key `None` is NOT rejected — it is rendered as the text "None"
         (`quoter(None)` is `None`, formatted by the f-string): `URL("http://h").with_query({None: "v"})` is
         `http://h/?None=v`; every other key type (int, bool, float, bytes, tuple, URL, …) is a TypeError raised when
         the comprehension reaches that pair — unless the pair's value is an EMPTY list/tuple, then the key is never
         looked at (`with_query({1: []})` succeeds);
       - update_query: EVERY non-str key, `None` included, is a TypeError ("MultiDict keys should be either str or
         subclasses of str"), raised by `MultiDict.update` before anything is rendered, whatever the values are;
         for a sequence the elements are validated one by one (not a sequence → TypeError, length ≠ 2 → ValueError,
         key → TypeError) and the first offending element decides.
     So `with_query({None: "v"})` succeeds where `update_query({None: "v"})` raises (`C12_dyn_none_key_differs`).
  ASSUMPTION: `mdPair` models the C implementation of multidict 6.2 (the one the harness runs); the pure-Python
  multidict raises TypeError instead of ValueError for an element of the wrong length (observed, not modelled).
  The probe rows at the end are outcomes of the real library (harness/sub/dyn_probe.py, both quoter backends).
-/
import YarlModel.Dyn
import YarlProofs.C12More
import YarlProofs.C19Dyn
namespace Yarl
open Yarl.Dyn QsLemmas MdLemmas QsMore

namespace Dyn

/-- a scalar VALUE `query_var` accepts: str (subclass), int, finite float -/
def goodVal : PyObj → Bool
  | .str _ => true
  | .strSub _ => true
  | .int _ => true
  | .float _ k => k = 0
  | _ => false

/-- the error of a scalar VALUE `query_var` rejects (`none`: accepted, or a list / tuple / SplitResult, which in a
    mapping is a sequence of values) -/
def badVal : PyObj → Option PyErr
  | .bool _ => some .typeError
  | .none => some .typeError
  | .bytes _ => some .typeError
  | .dict _ => some .typeError
  | .url _ => some .typeError
  | .other _ => some .typeError
  | .float _ k => if k = 0 then none else some .valueError
  | _ => none

/-- a dict / a list of 2-tuples / kwargs with str keys, from `(key, value)` rows -/
def asDict (kvs : List (Str × PyObj)) : PyObj := .dict (kvs.map (fun p => (.str p.1, p.2)))
def asPairs (kvs : List (Str × PyObj)) : PyObj := .list (kvs.map (fun p => .tuple [.str p.1, p.2]))
def asPairsT (kvs : List (Str × PyObj)) : PyObj := .tuple (kvs.map (fun p => .list [.str p.1, p.2]))
/-- … and the typed items they denote -/
def typedItems (kvs : List (Str × PyObj)) : List (Str × QItem) := kvs.map (fun p => (p.1, toQItem p.2))

theorem goodVal_item (o : PyObj) (h : goodVal o = true) :
    toQItem o = .one (toQVal o) ∧ ∃ s, queryVar (toQVal o) = .ok s := by
  cases o with
  | str s | strSub s | int i => exact ⟨rfl, _, rfl⟩
  | float t k =>
    have hk : k = 0 := by simpa [goodVal] using h
    exact ⟨rfl, t, by simp [toQVal, queryVar, hk]⟩
  | _ => cases h

theorem badVal_item (o : PyObj) (err : PyErr) (h : badVal o = some err) :
    toQItem o = .one (toQVal o) ∧ queryVar (toQVal o) = .error err := by
  cases o with
  | bool b | none | bytes b | dict d | url v | other t => cases h; exact ⟨rfl, rfl⟩
  | float t k =>
    by_cases hk : k = 0 <;> simp [badVal, hk] at h
    subst h
    exact ⟨rfl, by simp [toQVal, queryVar, hk]⟩
  | _ => cases h

theorem goodVal_slot (o : PyObj) (h : goodVal o = true) : slotErr (toQItem o) = none := by
  obtain ⟨h1, s, h2⟩ := goodVal_item o h
  simp [h1, slotErr, h2]

theorem badVal_slot (o : PyObj) (err : PyErr) (h : badVal o = some err) : slotErr (toQItem o) = some err := by
  obtain ⟨h1, h2⟩ := badVal_item o err h
  simp [h1, slotErr, h2]

theorem mem_typedItems {kvs : List (Str × PyObj)} {p : Str × QItem} (h : p ∈ typedItems kvs) :
    ∃ q ∈ kvs, p = (q.1, toQItem q.2) := by
  simp only [typedItems, List.mem_map] at h
  obtain ⟨q, hq, rfl⟩ := h
  exact ⟨q, hq, rfl⟩

theorem typedItems_ne_nil {kvs : List (Str × PyObj)} (h : kvs ≠ []) : (typedItems kvs).isEmpty = false := by
  cases kvs <;> simp_all [typedItems]

/-! ### bridges: the three containers denote the same typed argument -/

theorem mkPair_str (k : Str) (v : PyObj) : mkPair (.str k) v = (k, toQItem v) := rfl
theorem pairOf_tuple (k : Str) (v : PyObj) : pairOf (.tuple [.str k, v]) = (k, toQItem v) := rfl
theorem pairOf_list (k : Str) (v : PyObj) : pairOf (.list [.str k, v]) = (k, toQItem v) := rfl

theorem dynQuery_asDict (kvs : List (Str × PyObj)) (h : kvs ≠ []) : dynQuery (asDict kvs) = .mapping (typedItems kvs) := by
  cases kvs with
  | nil => exact absurd rfl h
  | cons p r => simp [dynQuery, asDict, truthy, typedItems, mkPair_str, Function.comp_def]

theorem dynQuery_asPairs (kvs : List (Str × PyObj)) (h : kvs ≠ []) : dynQuery (asPairs kvs) = .pairs (typedItems kvs) := by
  cases kvs with
  | nil => exact absurd rfl h
  | cons p r => simp [dynQuery, asPairs, truthy, typedItems, pairOf_tuple, Function.comp_def]

theorem dynQuery_asPairsT (kvs : List (Str × PyObj)) (h : kvs ≠ []) : dynQuery (asPairsT kvs) = .pairs (typedItems kvs) := by
  cases kvs with
  | nil => exact absurd rfl h
  | cons p r => simp [dynQuery, asPairsT, truthy, typedItems, pairOf_list, Function.comp_def]

theorem dynQueryKw_eq (kvs : List (Str × PyObj)) (h : kvs ≠ []) : dynQueryKw kvs = .mapping (typedItems kvs) := by
  cases kvs with
  | nil => exact absurd rfl h
  | cons p r => simp [dynQueryKw, typedItems]

/-- rows that `MultiDict.update` unpacks into `(key, value)` -/
theorem mapM_mdPair_rows {f : Str × PyObj → PyObj} (hf : ∀ p, mdPair (f p) = .ok (p.1, toQItem p.2))
    (kvs : List (Str × PyObj)) : (kvs.map f).mapM mdPair = .ok (typedItems kvs) := by
  induction kvs with
  | nil => rfl
  | cons p r ih =>
    simp only [List.map_cons, List.mapM_cons, hf, ih, typedItems]
    rfl

theorem dynUpdate_asDict (e : Env) (u : Url) (kvs : List (Str × PyObj)) (h : kvs ≠ []) :
    dynUpdateQuery e u (asDict kvs) = updateQuery e u (.mapping (typedItems kvs)) := by
  cases kvs with
  | nil => exact absurd rfl h
  | cons p r =>
    simp [dynUpdateQuery, asDict, truthy, typedItems, mkPair_str, Function.comp_def, strLike]

/-- a non-empty list or tuple whose elements `MultiDict.update` unpacks is the pair sequence they give -/
theorem dynUpdate_seq (e : Env) (u : Url) {xs : List PyObj} {items : List (Str × QItem)} (hne : xs ≠ [])
    (h : xs.mapM mdPair = .ok items) :
    dynUpdateQuery e u (.list xs) = updateQuery e u (.pairs items) ∧
    dynUpdateQuery e u (.tuple xs) = updateQuery e u (.pairs items) := by
  cases xs with
  | nil => exact absurd rfl hne
  | cons x r => simp [dynUpdateQuery, truthy, h, Except.bind]

theorem dynUpdate_asPairs (e : Env) (u : Url) (kvs : List (Str × PyObj)) (h : kvs ≠ []) :
    dynUpdateQuery e u (asPairs kvs) = updateQuery e u (.pairs (typedItems kvs)) :=
  (dynUpdate_seq e u (by simpa using h) (mapM_mdPair_rows (fun _ => rfl) kvs)).1

theorem dynUpdate_asPairsT (e : Env) (u : Url) (kvs : List (Str × PyObj)) (h : kvs ≠ []) :
    dynUpdateQuery e u (asPairsT kvs) = updateQuery e u (.pairs (typedItems kvs)) :=
  (dynUpdate_seq e u (by simpa using h) (mapM_mdPair_rows (fun _ => rfl) kvs)).2

/-! ### the typed facts about `pre ++ (k, bad) :: post` -/

theorem firstErr_good (pre : List (Str × PyObj)) (h : ∀ p ∈ pre, goodVal p.2 = true) :
    firstErr (flatVals (typedItems pre)) = none := by
  rw [firstErr_none_iff]
  intro v hv
  simp only [flatVals, List.mem_flatMap] at hv
  obtain ⟨p, hp, hvp⟩ := hv
  obtain ⟨q, hq, rfl⟩ := mem_typedItems hp
  obtain ⟨h1, s, h2⟩ := goodVal_item q.2 (h q hq)
  simp only [h1, itemVals, List.mem_singleton] at hvp
  subst hvp
  exact ⟨s, h2⟩

/-- fine rows, then an item whose values `query_var` rejects with `err`: the mapping fails with `err` -/
theorem firstErr_after_good (pre : List (Str × PyObj)) (p : Str × QItem) (rest : List (Str × QItem)) (err : PyErr)
    (hpre : ∀ q ∈ pre, goodVal q.2 = true) (hp : firstErr (itemVals p.2) = some err) :
    firstErr (flatVals (typedItems pre ++ p :: rest)) = some err := by
  rw [firstErr_flatVals, List.findSome?_append, ← firstErr_flatVals, firstErr_good pre hpre, List.findSome?_cons, hp]
  rfl

/-- … and so does the pair sequence, when the item's slot is rejected with `err` -/
theorem pairsFirstErr_after_good (pre : List (Str × PyObj)) (p : Str × QItem) (rest : List (Str × QItem)) (err : PyErr)
    (hpre : ∀ q ∈ pre, goodVal q.2 = true) (hp : slotErr p.2 = some err) :
    pairsFirstErr (typedItems pre ++ p :: rest) = some err := by
  refine pairsFirstErr_at _ _ p.1 p.2 _ (fun x hx => ?_) hp
  obtain ⟨q, hq, rfl⟩ := mem_typedItems hx
  exact goodVal_slot q.2 (hpre q hq)

theorem typedItems_split (pre post : List (Str × PyObj)) (k : Str) (v : PyObj) :
    typedItems (pre ++ (k, v) :: post) = typedItems pre ++ (k, toQItem v) :: typedItems post := by
  simp [typedItems]

theorem extend_of_with_error (e : Env) (u : Url) (a : QArg) (err : PyErr) (hw : withQuery e u a = .error err) :
    extendQuery e u a = .error err :=
  eq_error ((errOf_extendQuery e u a).trans ((errOf_withQuery e u a).symm.trans (congrArg errOf hw)))

/-- `if not query: return ""`: a falsy argument other than `None` denotes the empty string, for `update_query` too
    (`query = self._query`) -/
theorem dynQuery_falsy {o : PyObj} (hn : o ≠ .none) (hf : truthy o = false) :
    dynQuery o = .str [] ∧ ∀ e u, dynUpdateQuery e u o = updateQuery e u (.str []) := by
  cases o <;> simp_all [dynQuery, dynUpdateQuery]

/-- a truthy argument that is neither `None`, a str, a mapping nor a sequence is an invalid query type: bytes are
    named as such, everything else is "other"; `update_query` rejects it in its own dispatch -/
theorem dynQuery_nonquery {o : PyObj}
    (ho : (∃ b, o = .bytes b) ∨ (∃ i, o = .int i) ∨ (∃ t k, o = .float t k) ∨ (∃ b, o = .bool b) ∨ (∃ v, o = .url v) ∨
      (∃ t, o = .other t)) (ht : truthy o = true) :
    (dynQuery o = .bytes false ∨ dynQuery o = .other) ∧ ∀ e u, dynUpdateQuery e u o = .error .typeError := by
  rcases ho with ⟨b, rfl⟩ | ⟨i, rfl⟩ | ⟨t, k, rfl⟩ | ⟨b, rfl⟩ | ⟨v, rfl⟩ | ⟨t, rfl⟩ <;>
    simp_all [dynQuery, dynUpdateQuery]

end Dyn

/-! ## values -/

/-- `query_var` on an arbitrary object used as a VALUE (after `toQVal`): accepted are str, str subclasses, int and
    finite floats; NaN / ±inf → ValueError; bool, None, bytes, list, tuple, dict, URL, SplitResult, any other object
    → TypeError.  (In a MAPPING a list / tuple / SplitResult value is first expanded into its elements — `toQItem` —
    and only a NESTED one reaches `query_var`.) -/
theorem C12_dyn_value_gate :
    (∀ s, queryVar (toQVal (.str s)) = .ok s) ∧ (∀ s, queryVar (toQVal (.strSub s)) = .ok s) ∧
    (∀ i, queryVar (toQVal (.int i)) = .ok (intToStr i)) ∧
    (∀ t, queryVar (toQVal (.float t 0)) = .ok t) ∧
    (∀ t k, k ≠ 0 → queryVar (toQVal (.float t k)) = .error .valueError) ∧
    (∀ b, queryVar (toQVal (.bool b)) = .error .typeError) ∧ queryVar (toQVal .none) = .error .typeError ∧
    (∀ b, queryVar (toQVal (.bytes b)) = .error .typeError) ∧ (∀ xs, queryVar (toQVal (.list xs)) = .error .typeError) ∧
    (∀ xs, queryVar (toQVal (.tuple xs)) = .error .typeError) ∧ (∀ d, queryVar (toQVal (.dict d)) = .error .typeError) ∧
    (∀ v, queryVar (toQVal (.url v)) = .error .typeError) ∧
    (∀ ps, queryVar (toQVal (.splitResult ps)) = .error .typeError) ∧
    (∀ t, queryVar (toQVal (.other t)) = .error .typeError) ∧
    -- the value slot of a mapping: a list / tuple / SplitResult is a sequence of values
    (∀ xs, toQItem (.list xs) = .many (xs.map toQVal) ∧ toQItem (.tuple xs) = .many (xs.map toQVal)) ∧
    (∀ ps, toQItem (.splitResult ps) = .many (ps.map .str)) :=
  ⟨fun _ => rfl, fun _ => rfl, fun _ => rfl, fun _ => rfl, fun _ k hk => by simp [toQVal, queryVar, hk],
   fun _ => rfl, rfl, fun _ => rfl, fun _ => rfl, fun _ => rfl, fun _ => rfl, fun _ => rfl, fun _ => rfl, fun _ => rfl,
   fun _ => ⟨rfl, rfl⟩, fun _ => rfl⟩

/-- "bool, None values, NaN/inf … and bytes are rejected", dynamically, in every container.
    `kvs = pre ++ (k, bad) :: post` with str keys; `bad` is a bool / None / bytes / dict / URL / object (`err` =
    TypeError) or a NaN / inf float (`err` = ValueError); the entries before it are fine.  Then, for the dict
    `{…}`, the list of 2-tuples `[(k, v), …]`, the tuple of 2-lists and the keyword form alike:
    `with_query` and `extend_query` raise exactly `err`; `update_query` raises TypeError or ValueError — exactly `err`
    when the entries after it are fine too. -/
theorem C12_dyn_rejects (e : Env) (u : Url) (pre post : List (Str × PyObj)) (k : Str) (bad : PyObj) (err : PyErr)
    (hpre : ∀ p ∈ pre, goodVal p.2 = true) (hbad : badVal bad = some err) :
    let kvs := pre ++ (k, bad) :: post
    (dynWithQuery e u (asDict kvs) = .error err ∧ dynExtendQuery e u (asDict kvs) = .error err ∧
     dynWithQuery e u (asPairs kvs) = .error err ∧ dynExtendQuery e u (asPairs kvs) = .error err ∧
     dynWithQuery e u (asPairsT kvs) = .error err ∧ dynExtendQuery e u (asPairsT kvs) = .error err ∧
     dynWithQueryKw e u kvs = .error err ∧ dynExtendQueryKw e u kvs = .error err) ∧
    (∀ c, c = asDict kvs ∨ c = asPairs kvs ∨ c = asPairsT kvs →
      ∃ err', dynUpdateQuery e u c = .error err' ∧ (err' = .typeError ∨ err' = .valueError)) ∧
    (∃ err', dynUpdateQueryKw e u kvs = .error err' ∧ (err' = .typeError ∨ err' = .valueError)) ∧
    ((∀ p ∈ post, goodVal p.2 = true) →
      dynUpdateQuery e u (asDict kvs) = .error err ∧ dynUpdateQuery e u (asPairs kvs) = .error err ∧
      dynUpdateQuery e u (asPairsT kvs) = .error err ∧ dynUpdateQueryKw e u kvs = .error err) := by
  intro kvs
  have hne : kvs ≠ [] := by simp [kvs]
  obtain ⟨hb1, hb2⟩ := badVal_item bad err hbad
  have hfe : firstErr (flatVals (typedItems kvs)) = some err :=
    typedItems_split pre post k bad ▸ firstErr_after_good pre _ _ err hpre (by simp [hb1, itemVals, firstErr, hb2])
  have hpe : pairsFirstErr (typedItems kvs) = some err :=
    typedItems_split pre post k bad ▸ pairsFirstErr_after_good pre _ _ err hpre (badVal_slot bad err hbad)
  have hwm := C12_with_query_mapping_first_error e u (typedItems kvs) err hfe
  have hxm := extend_of_with_error e u _ err hwm
  obtain ⟨hwp, hxp, ep, hup, -, -⟩ := C12_pairs_bad_value_rejected e u (typedItems kvs) err hpe
  obtain ⟨em, hum, -, -⟩ := C12_update_query_mapping_bad_value_rejected e u (typedItems kvs) err hfe
  have kinds := C12_update_query_error_kinds e u
  -- every container denotes the typed mapping, or the typed pair sequence, of its rows
  have hD := dynUpdate_asDict e u kvs hne
  have hP := dynUpdate_asPairs e u kvs hne
  have hT := dynUpdate_asPairsT e u kvs hne
  simp only [dynWithQuery, dynExtendQuery, dynWithQueryKw, dynExtendQueryKw, dynUpdateQueryKw, dynQuery_asDict kvs hne,
    dynQuery_asPairs kvs hne, dynQuery_asPairsT kvs hne, dynQueryKw_eq kvs hne, hD, hP, hT]
  refine ⟨⟨hwm, hxm, hwp, hxp, hwp, hxp, hwm, hxm⟩, ?_, ⟨em, hum, kinds _ em hum⟩, fun hpost => ?_⟩
  · rintro c (rfl | rfl | rfl)
    · exact ⟨em, hD ▸ hum, kinds _ em hum⟩
    · exact ⟨ep, hP ▸ hup, kinds _ ep hup⟩
    · exact ⟨ep, hT ▸ hup, kinds _ ep hup⟩
  · -- every row is a scalar whose slot is fine, or is `bad`
    have hmem : ∀ q ∈ kvs, goodVal q.2 = true ∨ q.2 = bad := by
      intro q hq
      simp only [kvs, List.mem_append, List.mem_cons] at hq
      rcases hq with hq | rfl | hq
      · exact .inl (hpre q hq)
      · exact .inr rfl
      · exact .inl (hpost q hq)
    have hslot : ∀ p ∈ typedItems kvs, slotErr p.2 = none ∨ slotErr p.2 = some err := by
      intro p hp
      obtain ⟨q, hq, rfl⟩ := mem_typedItems hp
      exact (hmem q hq).imp (goodVal_slot _) fun h => by rw [h]; exact badVal_slot bad err hbad
    have hin : (k, toQItem bad) ∈ typedItems kvs := by simp [typedItems, kvs]
    have hup' := C12_update_query_pairs_bad_kind e u _ err ⟨_, hin, badVal_slot bad err hbad⟩ hslot
    have hum' : updateQuery e u (.mapping (typedItems kvs)) = .error err := by
      refine C12_update_query_mapping_bad_kind e u _ err ⟨toQVal bad, ?_, hb2⟩ fun v hv e' he' => ?_
      · exact List.mem_flatMap.2 ⟨_, hin, by simp [hb1, itemVals]⟩
      · obtain ⟨p, hp, hvp⟩ := List.mem_flatMap.1 hv
        obtain ⟨q, hq, rfl⟩ := mem_typedItems hp
        have h1 : toQItem q.2 = .one (toQVal q.2) := (hmem q hq).elim (fun h => (goodVal_item _ h).1) fun h => by rw [h]; exact hb1
        have := hslot _ hp
        simp only [h1, itemVals, List.mem_singleton] at hvp this
        subst hvp
        simpa [slotErr, he'] using this
    exact ⟨hum', hup', hup', hum'⟩

/-- the kinds, spelled out: which `bad` values give which error -/
theorem C12_dyn_bad_value_kinds :
    (∀ b, badVal (.bool b) = some .typeError) ∧ badVal .none = some .typeError ∧
    (∀ b, badVal (.bytes b) = some .typeError) ∧ (∀ d, badVal (.dict d) = some .typeError) ∧
    (∀ v, badVal (.url v) = some .typeError) ∧ (∀ t, badVal (.other t) = some .typeError) ∧
    (∀ t k, k ≠ 0 → badVal (.float t k) = some .valueError) ∧
    (∀ s, goodVal (.str s) = true) ∧ (∀ s, goodVal (.strSub s) = true) ∧ (∀ i, goodVal (.int i) = true) ∧
    (∀ t, goodVal (.float t 0) = true) :=
  ⟨fun _ => rfl, rfl, fun _ => rfl, fun _ => rfl, fun _ => rfl, fun _ => rfl, fun _ k hk => by simp [badVal, hk],
   fun _ => rfl, fun _ => rfl, fun _ => rfl, fun _ => by simp [goodVal]⟩

/-- a bad value INSIDE a list / tuple value of a mapping (`{"k": [1, True]}`, `k=[None]`), and a nested list
    (`{"k": [[1]]}`): rejected with the kind of the first offending element; in a pair SEQUENCE a list / tuple /
    SplitResult value is itself a TypeError, whatever it contains -/
theorem C12_dyn_rejects_in_list_value (e : Env) (u : Url) (k : Str) (good : List PyObj) (bad : PyObj) (rest : List PyObj)
    (err : PyErr) (hgood : ∀ x ∈ good, ∃ s, queryVar (toQVal x) = .ok s) (hbad : queryVar (toQVal bad) = .error err) :
    dynWithQuery e u (.dict [(.str k, .list (good ++ bad :: rest))]) = .error err ∧
    dynExtendQuery e u (.dict [(.str k, .tuple (good ++ bad :: rest))]) = .error err ∧
    dynWithQueryKw e u [(k, .list (good ++ bad :: rest))] = .error err ∧
    (∀ xs, dynWithQuery e u (.list [.tuple [.str k, .list xs]]) = .error .typeError ∧
           dynExtendQuery e u (.list [.tuple [.str k, .tuple xs]]) = .error .typeError ∧
           dynUpdateQuery e u (.list [.tuple [.str k, .list xs]]) = .error .typeError) := by
  have hfe : firstErr ((good ++ bad :: rest).map toQVal) = some err := by
    rw [List.map_append, firstErr_append]
    have : firstErr (good.map toQVal) = none := by
      rw [firstErr_none_iff]
      intro v hv
      obtain ⟨x, hx, rfl⟩ := List.mem_map.1 hv
      exact hgood x hx
    simp [this, firstErr, hbad]
  have h1 : withQuery e u (.mapping [(k, .many ((good ++ bad :: rest).map toQVal))]) = .error err :=
    C12_with_query_mapping_first_error e u _ err (by simpa [flatVals, itemVals] using hfe)
  refine ⟨h1, extend_of_with_error e u _ err h1, h1, fun xs => ?_⟩
  have hp := C12_pairs_bad_value_rejected e u [(k, .many (xs.map toQVal))] .typeError rfl
  refine ⟨hp.1, hp.2.1, (dynUpdate_asPairs e u [(k, .list xs)] (by simp)).trans ?_⟩
  exact C12_update_query_pairs_bad_kind e u [(k, .many (xs.map toQVal))] .typeError
    ⟨(k, .many (xs.map toQVal)), by simp, rfl⟩
    (by intro p hp; simp at hp; subst hp; exact .inr rfl)

/-! ## the argument itself -/

/-- a non-query ARGUMENT: bytes, int, float, bool, URL, any other object.  Truthy → TypeError from all three methods;
    falsy (`b""`, `0`, `False`, `0.0`, `URL("")`) → treated like `""` (`if not query: return ""`): `with_query` clears
    the query, `extend_query` and `update_query` keep it -/
theorem C12_dyn_argument_gate (e : Env) (u : Url) (o : PyObj)
    (ho : (∃ b, o = .bytes b) ∨ (∃ i, o = .int i) ∨ (∃ t k, o = .float t k) ∨ (∃ b, o = .bool b) ∨ (∃ v, o = .url v) ∨
      (∃ t, o = .other t)) :
    (truthy o = true → dynWithQuery e u o = .error .typeError ∧ dynExtendQuery e u o = .error .typeError ∧
      dynUpdateQuery e u o = .error .typeError) ∧
    (truthy o = false → dynWithQuery e u o = .ok (fromParts u.scheme u.netloc u.path [] u.fragment) ∧
      dynExtendQuery e u o = .ok u ∧
      dynUpdateQuery e u o = .ok (fromParts u.scheme u.netloc u.path u.query u.fragment)) := by
  unfold dynWithQuery dynExtendQuery
  constructor
  · -- an invalid query type: `get_str_query` raises TypeError, and so does `update_query`'s own dispatch
    intro ht
    obtain ⟨hq, hu⟩ := dynQuery_nonquery ho ht
    rcases hq with hq | hq
    · rw [hq]
      exact ⟨rfl, rfl, hu e u⟩
    · rw [hq]
      exact ⟨rfl, rfl, hu e u⟩
  · -- the same as `""`
    intro hf
    have hn : o ≠ .none := by
      rintro rfl
      rcases ho with ⟨_, h⟩ | ⟨_, h⟩ | ⟨_, _, h⟩ | ⟨_, h⟩ | ⟨_, h⟩ | ⟨_, h⟩ <;> cases h
    obtain ⟨hq, hu⟩ := dynQuery_falsy hn hf
    rw [hq, hu]
    exact ⟨rfl, rfl, rfl⟩

/-- "… and bytes are rejected": a non-empty bytes argument, all three methods -/
theorem C12_dyn_bytes_argument (e : Env) (u : Url) (c : Nat) (b : List Nat) :
    dynWithQuery e u (.bytes (c :: b)) = .error .typeError ∧ dynExtendQuery e u (.bytes (c :: b)) = .error .typeError ∧
    dynUpdateQuery e u (.bytes (c :: b)) = .error .typeError :=
  (C12_dyn_argument_gate e u _ (.inl ⟨_, rfl⟩)).1 (by simp [truthy])

/-! ## keys that are not str -/

/-- with_query / extend_query, one pair at a time (`mkPair`): a str subclass key is the str; `None` is the TEXT
    "None"; any other key type poisons the pair — TypeError when a value of the pair is rendered, and nothing at all
    when the value is an empty list / tuple -/
theorem C12_dyn_key_of_pair (k v : PyObj) :
    (∀ s, k = .strSub s → mkPair k v = mkPair (.str s) v) ∧
    (k = .none → mkPair k v = mkPair (.str [78, 111, 110, 101]) v) ∧
    (keyStr k = none →
      (∀ x ∈ itemVals (mkPair k v).2, queryVar x = .error .typeError) ∧
      (itemVals (mkPair k v).2).length = (itemVals (toQItem v)).length ∧
      (slotErr (mkPair k v).2 = some .typeError)) ∧
    (keyStr k = none ↔ strLike k = none ∧ k ≠ .none) := by
  refine ⟨fun s hs => by subst hs; rfl, fun hk => by subst hk; rfl, fun hk => ?_, ?_⟩
  · simp only [mkPair, hk]
    cases toQItem v with
    | one x => simp [poisonItem, itemVals, queryVar, slotErr]
    | many xs => simp [poisonItem, itemVals, queryVar, slotErr]
  · cases k <;> simp [keyStr, strLike]

/-- update_query: ANY key that is not a str (subclass) — `None` included — is a TypeError, whatever the values and
    wherever it sits in the dict -/
theorem C12_dyn_update_query_non_str_key (e : Env) (u : Url) (items : List (PyObj × PyObj))
    (h : ∃ kv ∈ items, strLike kv.1 = none) : dynUpdateQuery e u (.dict items) = .error .typeError := by
  obtain ⟨kv, hkv, hk⟩ := h
  have hne : items ≠ [] := by intro h0; subst h0; simp at hkv
  have hall : items.all (fun kv => (strLike kv.1).isSome) = false := by
    rw [← Bool.not_eq_true, List.all_eq_true]
    intro hc
    have := hc kv hkv
    simp [hk] at this
  cases items with
  | nil => exact absurd rfl hne
  | cons p r =>
    simp only [dynUpdateQuery, truthy, List.isEmpty_cons, Bool.not_false, Bool.false_eq_true, ↓reduceIte, hall,
      Bool.not_true]

/-- … and a sequence handed to update_query is validated element by element by `MultiDict.update`, before anything is
    rendered: the FIRST offending element decides (not iterable → TypeError, length ≠ 2 → ValueError, key not a str →
    TypeError); bad VALUES are only met afterwards, when the updated multidict is rendered -/
theorem C12_dyn_update_query_sequence (e : Env) (u : Url) (xs : List PyObj) (hne : xs ≠ []) :
    (∀ err, xs.mapM mdPair = .error err → dynUpdateQuery e u (.list xs) = .error err ∧
      dynUpdateQuery e u (.tuple xs) = .error err ∧ (err = .typeError ∨ err = .valueError)) ∧
    (∀ items, xs.mapM mdPair = .ok items → dynUpdateQuery e u (.list xs) = updateQuery e u (.pairs items) ∧
      dynUpdateQuery e u (.tuple xs) = updateQuery e u (.pairs items)) := by
  refine ⟨fun err h => ?_, fun items h => dynUpdate_seq e u hne h⟩
  have hk : err = .typeError ∨ err = .valueError :=
    (ErrLemmas.Errs.mapM (P := ErrLemmas.TV) (fun o => mdPair_errs o) xs).elim h
  cases xs with
  | nil => exact absurd rfl hne
  | cons x r => simp [dynUpdateQuery, truthy, h, Except.bind, hk]

/-- with_query / extend_query with a non-str, non-None key in a dict or a pair sequence: TypeError as soon as the
    entries before it are fine and the entry has something to render -/
theorem C12_dyn_non_str_keys (e : Env) (u : Url) (pre : List (Str × PyObj)) (k v : PyObj) (post : List (PyObj × PyObj))
    (hpre : ∀ p ∈ pre, goodVal p.2 = true) (hk : keyStr k = none) (hv : itemVals (toQItem v) ≠ []) :
    let d := PyObj.dict (pre.map (fun p => (.str p.1, p.2)) ++ (k, v) :: post)
    let l := PyObj.list (pre.map (fun p => .tuple [.str p.1, p.2]) ++ .tuple [k, v] :: post.map (fun p => .tuple [p.1, p.2]))
    dynWithQuery e u d = .error .typeError ∧ dynExtendQuery e u d = .error .typeError ∧
    dynWithQuery e u l = .error .typeError ∧ dynExtendQuery e u l = .error .typeError ∧
    dynUpdateQuery e u d = .error .typeError ∧ dynUpdateQuery e u l = .error .typeError := by
  intro d l
  obtain ⟨hall, hlen, hslot⟩ := (C12_dyn_key_of_pair k v).2.2.1 hk
  have hsl : strLike k = none := ((C12_dyn_key_of_pair k v).2.2.2.1 hk).1
  -- both containers denote the fine rows, then the poisoned pair
  obtain ⟨items, hi⟩ : ∃ items, items = typedItems pre ++ mkPair k v :: post.map (fun kv => mkPair kv.1 kv.2) := ⟨_, rfl⟩
  have hd : dynQuery d = .mapping items := by
    cases pre <;> simp [hi, d, dynQuery, truthy, typedItems, mkPair_str, Function.comp_def]
  have hl : dynQuery l = .pairs items := by
    cases pre <;> simp [hi, l, dynQuery, truthy, typedItems, pairOf, unpack2, iterElems, mkPair_str, Function.comp_def]
  have hfe : firstErr (flatVals items) = some .typeError := by
    refine hi ▸ firstErr_after_good pre _ _ _ hpre ?_
    cases hiv : itemVals (mkPair k v).2 with
    | nil => rw [hiv] at hlen; exact absurd (List.length_eq_zero_iff.1 hlen.symm) hv
    | cons x xs => simp [firstErr, hall x (by simp [hiv])]
  have hwm := C12_with_query_mapping_first_error e u _ _ hfe
  have hp := C12_pairs_bad_value_rejected e u _ _ (hi ▸ pairsFirstErr_after_good pre _ _ _ hpre hslot)
  simp only [dynWithQuery, dynExtendQuery, hd, hl]
  refine ⟨hwm, extend_of_with_error e u _ _ hwm, hp.1, hp.2.1, ?_, ?_⟩
  · -- update_query with a dict: MultiDict.update validates all keys first
    exact C12_dyn_update_query_non_str_key e u _ ⟨(k, v), by simp, hsl⟩
  · -- update_query with a sequence: the elements before are valid pairs, this one has a bad key
    have hm : ∀ (pre : List (Str × PyObj)) (rest : List PyObj),
        (pre.map (fun p => PyObj.tuple [.str p.1, p.2]) ++ .tuple [k, v] :: rest).mapM mdPair = .error .typeError := by
      intro pre rest
      induction pre with
      | nil => simp [List.mapM_cons, mdPair, unpack2, iterElems, hsl, bind, Except.bind]
      | cons p r ih =>
        simp only [List.map_cons, List.cons_append, List.mapM_cons, ih]
        rfl
    exact ((C12_dyn_update_query_sequence e u _ (by simp)).1 _ (hm pre _)).1

/-- the `None` key: accepted (as the text "None") by with_query / extend_query, rejected by update_query — for every
    receiver and every backend -/
theorem C12_dyn_none_key_differs (e : Env) (u : Url) (v : Str) :
    dynWithQuery e u (.dict [(.none, .str v)]) = dynWithQuery e u (.dict [(.str "None".toStr, .str v)]) ∧
    dynExtendQuery e u (.dict [(.none, .str v)]) = dynExtendQuery e u (.dict [(.str "None".toStr, .str v)]) ∧
    dynWithQuery e u (.list [.tuple [.none, .str v]]) = dynWithQuery e u (.list [.tuple [.str "None".toStr, .str v]]) ∧
    (∃ r, dynWithQuery e u (.dict [(.none, .str v)]) = .ok r) ∧
    dynUpdateQuery e u (.dict [(.none, .str v)]) = .error .typeError ∧
    dynUpdateQuery e u (.list [.tuple [.none, .str v]]) = .error .typeError := by
  refine ⟨rfl, rfl, rfl, ?_, rfl, rfl⟩
  -- the typed mapping has the one pair ("None", v), whose value `query_var` accepts
  refine C12_with_query_mapping_ok e u [("None".toStr, .one (.str v))] fun p hp w hw => ?_
  cases List.mem_singleton.mp hp
  cases List.mem_singleton.mp hw
  exact ⟨v, rfl⟩

/-- an empty list / tuple value hides a bad key from with_query / extend_query (`with_query({1: []})` succeeds with an
    empty query) but not from update_query -/
theorem C12_dyn_empty_value_hides_key (e : Env) (u : Url) (i : Int) :
    dynWithQuery e u (.dict [(.int i, .list [])]) = .ok (fromParts u.scheme u.netloc u.path [] u.fragment) ∧
    dynExtendQuery e u (.dict [(.int i, .list [])]) = .ok u ∧
    dynUpdateQuery e u (.dict [(.int i, .list [])]) = .error .typeError := by
  refine ⟨?_, ?_, rfl⟩ <;>
    simp [dynWithQuery, dynExtendQuery, dynQuery, truthy, mkPair, keyStr, strLike, toQItem, poisonItem, withQuery,
      extendQuery, getStrQuery, strQueryFromSeqIterable, joinC, joinSep, bind, Except.bind, pure, Except.pure, Except.map]

/-- elements of a pair sequence that are not pairs (with_query / extend_query: the `for k, v in items` unpacking):
    not iterable → TypeError, wrong length → ValueError, at the element's position -/
theorem C12_dyn_unpack (o : PyObj) :
    (iterElems o = none → pairOf o = poisonPair .typeError ∧ slotErr (pairOf o).2 = some .typeError) ∧
    (∀ l, iterElems o = some l → l.length ≠ 2 → pairOf o = poisonPair .valueError ∧
      slotErr (pairOf o).2 = some .valueError) ∧
    (∀ k v, iterElems o = some [k, v] → pairOf o = mkPair k v) := by
  refine ⟨fun h => ?_, fun l h hl => ?_, fun k v h => ?_⟩
  · simp [pairOf, unpack2, h, poisonPair, slotErr, queryVar]
  · have : unpack2 o = .error .valueError := by
      unfold unpack2
      rw [h]
      match l, hl with
      | [], _ => rfl
      | [_], _ => rfl
      | [_, _], hl => simp at hl
      | _ :: _ :: _ :: _, _ => rfl
    simp [pairOf, this, poisonPair, slotErr, queryVar]
  · simp [pairOf, unpack2, h]

/-! ## non-vacuity -/

example : ∀ p ∈ [(([97] : Str), PyObj.int 2), ([98], .strSub [120])], goodVal p.2 = true := by decide +kernel
example : badVal (.float [110, 97, 110] 2) = some .valueError ∧ badVal (.bool true) = some .typeError := by decide +kernel
example : keyStr (.int 1) = none ∧ keyStr (.bytes [107]) = none ∧ keyStr (.bool true) = none ∧
    itemVals (toQItem (.str [118])) ≠ [] := by decide +kernel
example : [PyObj.tuple [.str [107], .float [110, 97, 110] 2], .str [97, 98, 99]].mapM mdPair = .error .valueError := by decide +kernel
example : [PyObj.tuple [.int 1, .str [118]], .str [97, 98, 99]].mapM mdPair = .error .typeError := by decide +kernel
example : ∃ kv ∈ [((PyObj.none, PyObj.str [118]) : PyObj × PyObj)], strLike kv.1 = none :=
  ⟨(.none, .str [118]), by simp, rfl⟩

/-! ## the probe table (outcomes of the real library, both quoter backends; harness/sub/dyn_probe.py): with_query,
    extend_query, update_query and their keyword forms on URL("http://h/p?a=1#f") -/
example : showU pe (dynWithQuery pe (pU [104, 116, 116, 112, 58, 47, 47, 104, 47, 112, 63, 97, 61, 49, 35, 102]) .none) = .ok [104, 116, 116, 112, 58, 47, 47, 104, 47, 112, 35, 102] := by rw [pU_base]; decide +kernel
example : showU pe (dynWithQuery pe (pU [104, 116, 116, 112, 58, 47, 47, 104, 47, 112, 63, 97, 61, 49, 35, 102]) (.int (0))) = .ok [104, 116, 116, 112, 58, 47, 47, 104, 47, 112, 35, 102] := by rw [pU_base]; decide +kernel
example : showU pe (dynWithQuery pe (pU [104, 116, 116, 112, 58, 47, 47, 104, 47, 112, 63, 97, 61, 49, 35, 102]) (.int (1))) = .err .typeError := by decide +kernel
example : showU pe (dynWithQuery pe (pU [104, 116, 116, 112, 58, 47, 47, 104, 47, 112, 63, 97, 61, 49, 35, 102]) (.bool false)) = .ok [104, 116, 116, 112, 58, 47, 47, 104, 47, 112, 35, 102] := by rw [pU_base]; decide +kernel
example : showU pe (dynWithQuery pe (pU [104, 116, 116, 112, 58, 47, 47, 104, 47, 112, 63, 97, 61, 49, 35, 102]) (.bool true)) = .err .typeError := by decide +kernel
example : showU pe (dynWithQuery pe (pU [104, 116, 116, 112, 58, 47, 47, 104, 47, 112, 63, 97, 61, 49, 35, 102]) (.float [48, 46, 48] 0)) = .ok [104, 116, 116, 112, 58, 47, 47, 104, 47, 112, 35, 102] := by rw [pU_base]; decide +kernel
example : showU pe (dynWithQuery pe (pU [104, 116, 116, 112, 58, 47, 47, 104, 47, 112, 63, 97, 61, 49, 35, 102]) (.float [110, 97, 110] 2)) = .err .typeError := by decide +kernel
example : showU pe (dynWithQuery pe (pU [104, 116, 116, 112, 58, 47, 47, 104, 47, 112, 63, 97, 61, 49, 35, 102]) (.bytes [])) = .ok [104, 116, 116, 112, 58, 47, 47, 104, 47, 112, 35, 102] := by rw [pU_base]; decide +kernel
example : showU pe (dynWithQuery pe (pU [104, 116, 116, 112, 58, 47, 47, 104, 47, 112, 63, 97, 61, 49, 35, 102]) (.bytes [97, 61, 49])) = .err .typeError := by decide +kernel
example : showU pe (dynWithQuery pe (pU [104, 116, 116, 112, 58, 47, 47, 104, 47, 112, 63, 97, 61, 49, 35, 102]) (.strSub [120, 61, 49])) = .ok [104, 116, 116, 112, 58, 47, 47, 104, 47, 112, 63, 120, 61, 49, 35, 102] := by rw [pU_base]; decide +kernel
example : showU pe (dynWithQuery pe (pU [104, 116, 116, 112, 58, 47, 47, 104, 47, 112, 63, 97, 61, 49, 35, 102]) (.url (pU []))) = .ok [104, 116, 116, 112, 58, 47, 47, 104, 47, 112, 35, 102] := by rw [pU_base]; decide +kernel
example : showU pe (dynWithQuery pe (pU [104, 116, 116, 112, 58, 47, 47, 104, 47, 112, 63, 97, 61, 49, 35, 102]) (.url (pU [104, 116, 116, 112, 58, 47, 47, 104, 47, 112, 63, 97, 61, 49, 35, 102]))) = .err .typeError := by rw [pU_base]; decide +kernel
example : showU pe (dynWithQuery pe (pU [104, 116, 116, 112, 58, 47, 47, 104, 47, 112, 63, 97, 61, 49, 35, 102]) (.other 0)) = .err .typeError := by decide +kernel
example : showU pe (dynWithQuery pe (pU [104, 116, 116, 112, 58, 47, 47, 104, 47, 112, 63, 97, 61, 49, 35, 102]) (.splitResult [[97, 98], [99, 100], [47, 101, 102], [103, 104], [105, 106]])) = .err .valueError := by decide +kernel
example : showU pe (dynWithQuery pe (pU [104, 116, 116, 112, 58, 47, 47, 104, 47, 112, 63, 97, 61, 49, 35, 102]) (.splitResult [[97, 98], [99, 100], [], [], []])) = .err .valueError := by decide +kernel
example : showU pe (dynWithQuery pe (pU [104, 116, 116, 112, 58, 47, 47, 104, 47, 112, 63, 97, 61, 49, 35, 102]) (.dict [((.int (1)), (.str [118]))])) = .err .typeError := by decide +kernel
example : showU pe (dynWithQuery pe (pU [104, 116, 116, 112, 58, 47, 47, 104, 47, 112, 63, 97, 61, 49, 35, 102]) (.dict [(.none, (.str [118]))])) = .ok [104, 116, 116, 112, 58, 47, 47, 104, 47, 112, 63, 78, 111, 110, 101, 61, 118, 35, 102] := by rw [pU_base]; decide +kernel
example : showU pe (dynWithQuery pe (pU [104, 116, 116, 112, 58, 47, 47, 104, 47, 112, 63, 97, 61, 49, 35, 102]) (.dict [((.strSub [107]), (.str [118]))])) = .ok [104, 116, 116, 112, 58, 47, 47, 104, 47, 112, 63, 107, 61, 118, 35, 102] := by rw [pU_base]; decide +kernel
example : showU pe (dynWithQuery pe (pU [104, 116, 116, 112, 58, 47, 47, 104, 47, 112, 63, 97, 61, 49, 35, 102]) (.dict [((.bool true), (.str [118]))])) = .err .typeError := by decide +kernel
example : showU pe (dynWithQuery pe (pU [104, 116, 116, 112, 58, 47, 47, 104, 47, 112, 63, 97, 61, 49, 35, 102]) (.dict [((.bytes [107]), (.str [118]))])) = .err .typeError := by decide +kernel
example : showU pe (dynWithQuery pe (pU [104, 116, 116, 112, 58, 47, 47, 104, 47, 112, 63, 97, 61, 49, 35, 102]) (.dict [((.int (1)), (.list []))])) = .ok [104, 116, 116, 112, 58, 47, 47, 104, 47, 112, 35, 102] := by rw [pU_base]; decide +kernel
example : showU pe (dynWithQuery pe (pU [104, 116, 116, 112, 58, 47, 47, 104, 47, 112, 63, 97, 61, 49, 35, 102]) (.dict [((.int (1)), (.list [(.str [97])]))])) = .err .typeError := by decide +kernel
example : showU pe (dynWithQuery pe (pU [104, 116, 116, 112, 58, 47, 47, 104, 47, 112, 63, 97, 61, 49, 35, 102]) (.dict [((.str [107]), (.splitResult [[97, 98], [99, 100], [47, 101, 102], [103, 104], [105, 106]]))])) = .ok [104, 116, 116, 112, 58, 47, 47, 104, 47, 112, 63, 107, 61, 97, 98, 38, 107, 61, 99, 100, 38, 107, 61, 47, 101, 102, 38, 107, 61, 103, 104, 38, 107, 61, 105, 106, 35, 102] := by rw [pU_base]; decide +kernel
example : showU pe (dynWithQuery pe (pU [104, 116, 116, 112, 58, 47, 47, 104, 47, 112, 63, 97, 61, 49, 35, 102]) (.dict [((.str [107]), .none)])) = .err .typeError := by decide +kernel
example : showU pe (dynWithQuery pe (pU [104, 116, 116, 112, 58, 47, 47, 104, 47, 112, 63, 97, 61, 49, 35, 102]) (.dict [((.str [107]), (.bool true))])) = .err .typeError := by decide +kernel
example : showU pe (dynWithQuery pe (pU [104, 116, 116, 112, 58, 47, 47, 104, 47, 112, 63, 97, 61, 49, 35, 102]) (.dict [((.str [107]), (.float [110, 97, 110] 2))])) = .err .valueError := by decide +kernel
example : showU pe (dynWithQuery pe (pU [104, 116, 116, 112, 58, 47, 47, 104, 47, 112, 63, 97, 61, 49, 35, 102]) (.dict [((.str [107]), (.float [105, 110, 102] 1))])) = .err .valueError := by decide +kernel
example : showU pe (dynWithQuery pe (pU [104, 116, 116, 112, 58, 47, 47, 104, 47, 112, 63, 97, 61, 49, 35, 102]) (.dict [((.str [107]), (.bytes [118]))])) = .err .typeError := by decide +kernel
example : showU pe (dynWithQuery pe (pU [104, 116, 116, 112, 58, 47, 47, 104, 47, 112, 63, 97, 61, 49, 35, 102]) (.dict [((.str [107]), (.strSub [118]))])) = .ok [104, 116, 116, 112, 58, 47, 47, 104, 47, 112, 63, 107, 61, 118, 35, 102] := by rw [pU_base]; decide +kernel
example : showU pe (dynWithQuery pe (pU [104, 116, 116, 112, 58, 47, 47, 104, 47, 112, 63, 97, 61, 49, 35, 102]) (.dict [((.str [107]), (.float [49, 46, 53] 0))])) = .ok [104, 116, 116, 112, 58, 47, 47, 104, 47, 112, 63, 107, 61, 49, 46, 53, 35, 102] := by rw [pU_base]; decide +kernel
example : showU pe (dynWithQuery pe (pU [104, 116, 116, 112, 58, 47, 47, 104, 47, 112, 63, 97, 61, 49, 35, 102]) (.dict [((.str [107]), (.int (-7)))])) = .ok [104, 116, 116, 112, 58, 47, 47, 104, 47, 112, 63, 107, 61, 45, 55, 35, 102] := by rw [pU_base]; decide +kernel
example : showU pe (dynWithQuery pe (pU [104, 116, 116, 112, 58, 47, 47, 104, 47, 112, 63, 97, 61, 49, 35, 102]) (.dict [((.str [107]), (.list [(.bool true)]))])) = .err .typeError := by decide +kernel
example : showU pe (dynWithQuery pe (pU [104, 116, 116, 112, 58, 47, 47, 104, 47, 112, 63, 97, 61, 49, 35, 102]) (.dict [((.str [107]), (.list [(.list [(.int (1))])]))])) = .err .typeError := by decide +kernel
example : showU pe (dynWithQuery pe (pU [104, 116, 116, 112, 58, 47, 47, 104, 47, 112, 63, 97, 61, 49, 35, 102]) (.dict [((.str [107]), (.dict []))])) = .err .typeError := by decide +kernel
example : showU pe (dynWithQuery pe (pU [104, 116, 116, 112, 58, 47, 47, 104, 47, 112, 63, 97, 61, 49, 35, 102]) (.dict [((.str [107]), (.url (pU [104, 116, 116, 112, 58, 47, 47, 104, 47, 112, 63, 97, 61, 49, 35, 102])))])) = .err .typeError := by decide +kernel
example : showU pe (dynWithQuery pe (pU [104, 116, 116, 112, 58, 47, 47, 104, 47, 112, 63, 97, 61, 49, 35, 102]) (.dict [((.str [107]), (.list [(.int (1)), (.str [120])]))])) = .ok [104, 116, 116, 112, 58, 47, 47, 104, 47, 112, 63, 107, 61, 49, 38, 107, 61, 120, 35, 102] := by rw [pU_base]; decide +kernel
example : showU pe (dynWithQuery pe (pU [104, 116, 116, 112, 58, 47, 47, 104, 47, 112, 63, 97, 61, 49, 35, 102]) (.dict [((.str [97]), (.int (2))), ((.str [98]), (.float [110, 97, 110] 2))])) = .err .valueError := by decide +kernel
example : showU pe (dynWithQuery pe (pU [104, 116, 116, 112, 58, 47, 47, 104, 47, 112, 63, 97, 61, 49, 35, 102]) (.dict [((.str [98]), (.float [110, 97, 110] 2)), ((.int (1)), (.int (2)))])) = .err .valueError := by decide +kernel
example : showU pe (dynWithQuery pe (pU [104, 116, 116, 112, 58, 47, 47, 104, 47, 112, 63, 97, 61, 49, 35, 102]) (.list [(.tuple [(.int (1)), (.str [118])])])) = .err .typeError := by decide +kernel
example : showU pe (dynWithQuery pe (pU [104, 116, 116, 112, 58, 47, 47, 104, 47, 112, 63, 97, 61, 49, 35, 102]) (.list [(.tuple [.none, (.str [118])])])) = .ok [104, 116, 116, 112, 58, 47, 47, 104, 47, 112, 63, 78, 111, 110, 101, 61, 118, 35, 102] := by rw [pU_base]; decide +kernel
example : showU pe (dynWithQuery pe (pU [104, 116, 116, 112, 58, 47, 47, 104, 47, 112, 63, 97, 61, 49, 35, 102]) (.list [(.tuple [(.strSub [107]), (.str [118])])])) = .ok [104, 116, 116, 112, 58, 47, 47, 104, 47, 112, 63, 107, 61, 118, 35, 102] := by rw [pU_base]; decide +kernel
example : showU pe (dynWithQuery pe (pU [104, 116, 116, 112, 58, 47, 47, 104, 47, 112, 63, 97, 61, 49, 35, 102]) (.list [(.str [97, 98])])) = .ok [104, 116, 116, 112, 58, 47, 47, 104, 47, 112, 63, 97, 61, 98, 35, 102] := by rw [pU_base]; decide +kernel
example : showU pe (dynWithQuery pe (pU [104, 116, 116, 112, 58, 47, 47, 104, 47, 112, 63, 97, 61, 49, 35, 102]) (.list [(.str [97, 98, 99])])) = .err .valueError := by decide +kernel
example : showU pe (dynWithQuery pe (pU [104, 116, 116, 112, 58, 47, 47, 104, 47, 112, 63, 97, 61, 49, 35, 102]) (.list [(.bytes [97, 98])])) = .err .typeError := by decide +kernel
example : showU pe (dynWithQuery pe (pU [104, 116, 116, 112, 58, 47, 47, 104, 47, 112, 63, 97, 61, 49, 35, 102]) (.list [(.int (1))])) = .err .typeError := by decide +kernel
example : showU pe (dynWithQuery pe (pU [104, 116, 116, 112, 58, 47, 47, 104, 47, 112, 63, 97, 61, 49, 35, 102]) (.list [.none])) = .err .typeError := by decide +kernel
example : showU pe (dynWithQuery pe (pU [104, 116, 116, 112, 58, 47, 47, 104, 47, 112, 63, 97, 61, 49, 35, 102]) (.list [(.tuple [(.str [107])])])) = .err .valueError := by decide +kernel
example : showU pe (dynWithQuery pe (pU [104, 116, 116, 112, 58, 47, 47, 104, 47, 112, 63, 97, 61, 49, 35, 102]) (.list [(.tuple [(.str [107]), (.str [118]), (.str [119])])])) = .err .valueError := by decide +kernel
example : showU pe (dynWithQuery pe (pU [104, 116, 116, 112, 58, 47, 47, 104, 47, 112, 63, 97, 61, 49, 35, 102]) (.list [(.list [(.str [107]), (.str [118])])])) = .ok [104, 116, 116, 112, 58, 47, 47, 104, 47, 112, 63, 107, 61, 118, 35, 102] := by rw [pU_base]; decide +kernel
example : showU pe (dynWithQuery pe (pU [104, 116, 116, 112, 58, 47, 47, 104, 47, 112, 63, 97, 61, 49, 35, 102]) (.list [(.dict [((.str [107]), (.int (1))), ((.str [118]), (.int (2)))])])) = .ok [104, 116, 116, 112, 58, 47, 47, 104, 47, 112, 63, 107, 61, 118, 35, 102] := by rw [pU_base]; decide +kernel
example : showU pe (dynWithQuery pe (pU [104, 116, 116, 112, 58, 47, 47, 104, 47, 112, 63, 97, 61, 49, 35, 102]) (.list [(.tuple [(.str [107]), (.list [(.int (1))])])])) = .err .typeError := by decide +kernel
example : showU pe (dynWithQuery pe (pU [104, 116, 116, 112, 58, 47, 47, 104, 47, 112, 63, 97, 61, 49, 35, 102]) (.list [(.tuple [(.str [107]), (.bool true)])])) = .err .typeError := by decide +kernel
example : showU pe (dynWithQuery pe (pU [104, 116, 116, 112, 58, 47, 47, 104, 47, 112, 63, 97, 61, 49, 35, 102]) (.list [(.tuple [(.str [107]), .none]), (.tuple [(.int (1)), (.str [118])])])) = .err .typeError := by decide +kernel
example : showU pe (dynWithQuery pe (pU [104, 116, 116, 112, 58, 47, 47, 104, 47, 112, 63, 97, 61, 49, 35, 102]) (.list [(.tuple [(.int (1)), (.float [110, 97, 110] 2)])])) = .err .typeError := by decide +kernel
example : showU pe (dynWithQuery pe (pU [104, 116, 116, 112, 58, 47, 47, 104, 47, 112, 63, 97, 61, 49, 35, 102]) (.list [(.tuple [(.str [107]), (.float [110, 97, 110] 2)]), (.tuple [(.int (1)), (.str [118])])])) = .err .valueError := by decide +kernel
example : showU pe (dynWithQuery pe (pU [104, 116, 116, 112, 58, 47, 47, 104, 47, 112, 63, 97, 61, 49, 35, 102]) (.list [(.tuple [(.str [107]), (.float [110, 97, 110] 2)]), (.str [97, 98, 99])])) = .err .valueError := by decide +kernel
example : showU pe (dynWithQuery pe (pU [104, 116, 116, 112, 58, 47, 47, 104, 47, 112, 63, 97, 61, 49, 35, 102]) (.list [(.tuple [(.str [107]), (.bool true)]), (.str [97, 98, 99])])) = .err .typeError := by decide +kernel
example : showU pe (dynWithQuery pe (pU [104, 116, 116, 112, 58, 47, 47, 104, 47, 112, 63, 97, 61, 49, 35, 102]) (.list [(.str [97, 98, 99]), (.tuple [(.str [107]), (.bool true)])])) = .err .valueError := by decide +kernel
example : showU pe (dynWithQuery pe (pU [104, 116, 116, 112, 58, 47, 47, 104, 47, 112, 63, 97, 61, 49, 35, 102]) (.list [(.tuple [(.int (1)), (.str [118])]), (.str [97, 98, 99])])) = .err .typeError := by decide +kernel
example : showU pe (dynWithQuery pe (pU [104, 116, 116, 112, 58, 47, 47, 104, 47, 112, 63, 97, 61, 49, 35, 102]) (.list [(.str [97, 98, 99]), (.tuple [(.int (1)), (.str [118])])])) = .err .valueError := by decide +kernel
example : showU pe (dynWithQuery pe (pU [104, 116, 116, 112, 58, 47, 47, 104, 47, 112, 63, 97, 61, 49, 35, 102]) (.list [(.tuple [(.int (1)), (.str [118])]), (.int (5))])) = .err .typeError := by decide +kernel
example : showU pe (dynWithQuery pe (pU [104, 116, 116, 112, 58, 47, 47, 104, 47, 112, 63, 97, 61, 49, 35, 102]) (.list [(.int (5)), (.tuple [(.int (1)), (.str [118])])])) = .err .typeError := by decide +kernel
example : showU pe (dynWithQuery pe (pU [104, 116, 116, 112, 58, 47, 47, 104, 47, 112, 63, 97, 61, 49, 35, 102]) (.tuple [(.tuple [(.str [107]), (.str [118])])])) = .ok [104, 116, 116, 112, 58, 47, 47, 104, 47, 112, 63, 107, 61, 118, 35, 102] := by rw [pU_base]; decide +kernel
example : showU pe (dynWithQuery pe (pU [104, 116, 116, 112, 58, 47, 47, 104, 47, 112, 63, 97, 61, 49, 35, 102]) (.list [(.url (pU [104, 116, 116, 112, 58, 47, 47, 104, 47, 112, 63, 97, 61, 49, 35, 102]))])) = .err .typeError := by decide +kernel
example : showU pe (dynWithQuery pe (pU [104, 116, 116, 112, 58, 47, 47, 104, 47, 112, 63, 97, 61, 49, 35, 102]) (.list [(.splitResult [[97, 98], [99, 100], [47, 101, 102], [103, 104], [105, 106]])])) = .err .valueError := by decide +kernel
example : showU pe (dynWithQuery pe (pU [104, 116, 116, 112, 58, 47, 47, 104, 47, 112, 63, 97, 61, 49, 35, 102]) (.list [(.strSub [97, 98])])) = .ok [104, 116, 116, 112, 58, 47, 47, 104, 47, 112, 63, 97, 61, 98, 35, 102] := by rw [pU_base]; decide +kernel
example : showU pe (dynWithQuery pe (pU [104, 116, 116, 112, 58, 47, 47, 104, 47, 112, 63, 97, 61, 49, 35, 102]) (.list [(.tuple [(.strSub [107]), (.strSub [118])])])) = .ok [104, 116, 116, 112, 58, 47, 47, 104, 47, 112, 63, 107, 61, 118, 35, 102] := by rw [pU_base]; decide +kernel
example : showU pe (dynWithQuery pe (pU [104, 116, 116, 112, 58, 47, 47, 104, 47, 112, 63, 97, 61, 49, 35, 102]) (.list [(.tuple [(.str [97]), (.str [57])]), (.tuple [(.str [97]), (.bool true)])])) = .err .typeError := by decide +kernel
example : showU pe (dynWithQueryKw pe (pU [104, 116, 116, 112, 58, 47, 47, 104, 47, 112, 63, 97, 61, 49, 35, 102]) [([107], .none)]) = .err .typeError := by decide +kernel
example : showU pe (dynWithQueryKw pe (pU [104, 116, 116, 112, 58, 47, 47, 104, 47, 112, 63, 97, 61, 49, 35, 102]) [([107], (.list [(.int (1)), (.int (2))]))]) = .ok [104, 116, 116, 112, 58, 47, 47, 104, 47, 112, 63, 107, 61, 49, 38, 107, 61, 50, 35, 102] := by rw [pU_base]; decide +kernel
example : showU pe (dynWithQueryKw pe (pU [104, 116, 116, 112, 58, 47, 47, 104, 47, 112, 63, 97, 61, 49, 35, 102]) []) = .err .valueError := by decide +kernel
example : showU pe (dynWithQueryKw pe (pU [104, 116, 116, 112, 58, 47, 47, 104, 47, 112, 63, 97, 61, 49, 35, 102]) [([107], (.float [110, 97, 110] 2))]) = .err .valueError := by decide +kernel
example : showU pe (dynWithQueryKw pe (pU [104, 116, 116, 112, 58, 47, 47, 104, 47, 112, 63, 97, 61, 49, 35, 102]) [([107], (.bytes [120]))]) = .err .typeError := by decide +kernel
example : showU pe (dynWithQueryKw pe (pU [104, 116, 116, 112, 58, 47, 47, 104, 47, 112, 63, 97, 61, 49, 35, 102]) [([97], (.int (5)))]) = .ok [104, 116, 116, 112, 58, 47, 47, 104, 47, 112, 63, 97, 61, 53, 35, 102] := by rw [pU_base]; decide +kernel
example : showU pe (dynExtendQuery pe (pU [104, 116, 116, 112, 58, 47, 47, 104, 47, 112, 63, 97, 61, 49, 35, 102]) .none) = .ok [104, 116, 116, 112, 58, 47, 47, 104, 47, 112, 63, 97, 61, 49, 35, 102] := by rw [pU_base]; decide +kernel
example : showU pe (dynExtendQuery pe (pU [104, 116, 116, 112, 58, 47, 47, 104, 47, 112, 63, 97, 61, 49, 35, 102]) (.int (0))) = .ok [104, 116, 116, 112, 58, 47, 47, 104, 47, 112, 63, 97, 61, 49, 35, 102] := by rw [pU_base]; decide +kernel
example : showU pe (dynExtendQuery pe (pU [104, 116, 116, 112, 58, 47, 47, 104, 47, 112, 63, 97, 61, 49, 35, 102]) (.int (1))) = .err .typeError := by decide +kernel
example : showU pe (dynExtendQuery pe (pU [104, 116, 116, 112, 58, 47, 47, 104, 47, 112, 63, 97, 61, 49, 35, 102]) (.bool false)) = .ok [104, 116, 116, 112, 58, 47, 47, 104, 47, 112, 63, 97, 61, 49, 35, 102] := by rw [pU_base]; decide +kernel
example : showU pe (dynExtendQuery pe (pU [104, 116, 116, 112, 58, 47, 47, 104, 47, 112, 63, 97, 61, 49, 35, 102]) (.bool true)) = .err .typeError := by decide +kernel
example : showU pe (dynExtendQuery pe (pU [104, 116, 116, 112, 58, 47, 47, 104, 47, 112, 63, 97, 61, 49, 35, 102]) (.float [48, 46, 48] 0)) = .ok [104, 116, 116, 112, 58, 47, 47, 104, 47, 112, 63, 97, 61, 49, 35, 102] := by rw [pU_base]; decide +kernel
example : showU pe (dynExtendQuery pe (pU [104, 116, 116, 112, 58, 47, 47, 104, 47, 112, 63, 97, 61, 49, 35, 102]) (.float [110, 97, 110] 2)) = .err .typeError := by decide +kernel
example : showU pe (dynExtendQuery pe (pU [104, 116, 116, 112, 58, 47, 47, 104, 47, 112, 63, 97, 61, 49, 35, 102]) (.bytes [])) = .ok [104, 116, 116, 112, 58, 47, 47, 104, 47, 112, 63, 97, 61, 49, 35, 102] := by rw [pU_base]; decide +kernel
example : showU pe (dynExtendQuery pe (pU [104, 116, 116, 112, 58, 47, 47, 104, 47, 112, 63, 97, 61, 49, 35, 102]) (.bytes [97, 61, 49])) = .err .typeError := by decide +kernel
example : showU pe (dynExtendQuery pe (pU [104, 116, 116, 112, 58, 47, 47, 104, 47, 112, 63, 97, 61, 49, 35, 102]) (.strSub [120, 61, 49])) = .ok [104, 116, 116, 112, 58, 47, 47, 104, 47, 112, 63, 97, 61, 49, 38, 120, 61, 49, 35, 102] := by rw [pU_base]; decide +kernel
example : showU pe (dynExtendQuery pe (pU [104, 116, 116, 112, 58, 47, 47, 104, 47, 112, 63, 97, 61, 49, 35, 102]) (.url (pU []))) = .ok [104, 116, 116, 112, 58, 47, 47, 104, 47, 112, 63, 97, 61, 49, 35, 102] := by rw [pU_base]; decide +kernel
example : showU pe (dynExtendQuery pe (pU [104, 116, 116, 112, 58, 47, 47, 104, 47, 112, 63, 97, 61, 49, 35, 102]) (.url (pU [104, 116, 116, 112, 58, 47, 47, 104, 47, 112, 63, 97, 61, 49, 35, 102]))) = .err .typeError := by rw [pU_base]; decide +kernel
example : showU pe (dynExtendQuery pe (pU [104, 116, 116, 112, 58, 47, 47, 104, 47, 112, 63, 97, 61, 49, 35, 102]) (.other 0)) = .err .typeError := by decide +kernel
example : showU pe (dynExtendQuery pe (pU [104, 116, 116, 112, 58, 47, 47, 104, 47, 112, 63, 97, 61, 49, 35, 102]) (.splitResult [[97, 98], [99, 100], [47, 101, 102], [103, 104], [105, 106]])) = .err .valueError := by decide +kernel
example : showU pe (dynExtendQuery pe (pU [104, 116, 116, 112, 58, 47, 47, 104, 47, 112, 63, 97, 61, 49, 35, 102]) (.splitResult [[97, 98], [99, 100], [], [], []])) = .err .valueError := by decide +kernel
example : showU pe (dynExtendQuery pe (pU [104, 116, 116, 112, 58, 47, 47, 104, 47, 112, 63, 97, 61, 49, 35, 102]) (.dict [((.int (1)), (.str [118]))])) = .err .typeError := by decide +kernel
example : showU pe (dynExtendQuery pe (pU [104, 116, 116, 112, 58, 47, 47, 104, 47, 112, 63, 97, 61, 49, 35, 102]) (.dict [(.none, (.str [118]))])) = .ok [104, 116, 116, 112, 58, 47, 47, 104, 47, 112, 63, 97, 61, 49, 38, 78, 111, 110, 101, 61, 118, 35, 102] := by rw [pU_base]; decide +kernel
example : showU pe (dynExtendQuery pe (pU [104, 116, 116, 112, 58, 47, 47, 104, 47, 112, 63, 97, 61, 49, 35, 102]) (.dict [((.strSub [107]), (.str [118]))])) = .ok [104, 116, 116, 112, 58, 47, 47, 104, 47, 112, 63, 97, 61, 49, 38, 107, 61, 118, 35, 102] := by rw [pU_base]; decide +kernel
example : showU pe (dynExtendQuery pe (pU [104, 116, 116, 112, 58, 47, 47, 104, 47, 112, 63, 97, 61, 49, 35, 102]) (.dict [((.bool true), (.str [118]))])) = .err .typeError := by decide +kernel
example : showU pe (dynExtendQuery pe (pU [104, 116, 116, 112, 58, 47, 47, 104, 47, 112, 63, 97, 61, 49, 35, 102]) (.dict [((.bytes [107]), (.str [118]))])) = .err .typeError := by decide +kernel
example : showU pe (dynExtendQuery pe (pU [104, 116, 116, 112, 58, 47, 47, 104, 47, 112, 63, 97, 61, 49, 35, 102]) (.dict [((.int (1)), (.list []))])) = .ok [104, 116, 116, 112, 58, 47, 47, 104, 47, 112, 63, 97, 61, 49, 35, 102] := by rw [pU_base]; decide +kernel
example : showU pe (dynExtendQuery pe (pU [104, 116, 116, 112, 58, 47, 47, 104, 47, 112, 63, 97, 61, 49, 35, 102]) (.dict [((.int (1)), (.list [(.str [97])]))])) = .err .typeError := by decide +kernel
example : showU pe (dynExtendQuery pe (pU [104, 116, 116, 112, 58, 47, 47, 104, 47, 112, 63, 97, 61, 49, 35, 102]) (.dict [((.str [107]), (.splitResult [[97, 98], [99, 100], [47, 101, 102], [103, 104], [105, 106]]))])) = .ok [104, 116, 116, 112, 58, 47, 47, 104, 47, 112, 63, 97, 61, 49, 38, 107, 61, 97, 98, 38, 107, 61, 99, 100, 38, 107, 61, 47, 101, 102, 38, 107, 61, 103, 104, 38, 107, 61, 105, 106, 35, 102] := by rw [pU_base]; decide +kernel
example : showU pe (dynExtendQuery pe (pU [104, 116, 116, 112, 58, 47, 47, 104, 47, 112, 63, 97, 61, 49, 35, 102]) (.dict [((.str [107]), .none)])) = .err .typeError := by decide +kernel
example : showU pe (dynExtendQuery pe (pU [104, 116, 116, 112, 58, 47, 47, 104, 47, 112, 63, 97, 61, 49, 35, 102]) (.dict [((.str [107]), (.bool true))])) = .err .typeError := by decide +kernel
example : showU pe (dynExtendQuery pe (pU [104, 116, 116, 112, 58, 47, 47, 104, 47, 112, 63, 97, 61, 49, 35, 102]) (.dict [((.str [107]), (.float [110, 97, 110] 2))])) = .err .valueError := by decide +kernel
example : showU pe (dynExtendQuery pe (pU [104, 116, 116, 112, 58, 47, 47, 104, 47, 112, 63, 97, 61, 49, 35, 102]) (.dict [((.str [107]), (.float [105, 110, 102] 1))])) = .err .valueError := by decide +kernel
example : showU pe (dynExtendQuery pe (pU [104, 116, 116, 112, 58, 47, 47, 104, 47, 112, 63, 97, 61, 49, 35, 102]) (.dict [((.str [107]), (.bytes [118]))])) = .err .typeError := by decide +kernel
example : showU pe (dynExtendQuery pe (pU [104, 116, 116, 112, 58, 47, 47, 104, 47, 112, 63, 97, 61, 49, 35, 102]) (.dict [((.str [107]), (.strSub [118]))])) = .ok [104, 116, 116, 112, 58, 47, 47, 104, 47, 112, 63, 97, 61, 49, 38, 107, 61, 118, 35, 102] := by rw [pU_base]; decide +kernel
example : showU pe (dynExtendQuery pe (pU [104, 116, 116, 112, 58, 47, 47, 104, 47, 112, 63, 97, 61, 49, 35, 102]) (.dict [((.str [107]), (.float [49, 46, 53] 0))])) = .ok [104, 116, 116, 112, 58, 47, 47, 104, 47, 112, 63, 97, 61, 49, 38, 107, 61, 49, 46, 53, 35, 102] := by rw [pU_base]; decide +kernel
example : showU pe (dynExtendQuery pe (pU [104, 116, 116, 112, 58, 47, 47, 104, 47, 112, 63, 97, 61, 49, 35, 102]) (.dict [((.str [107]), (.int (-7)))])) = .ok [104, 116, 116, 112, 58, 47, 47, 104, 47, 112, 63, 97, 61, 49, 38, 107, 61, 45, 55, 35, 102] := by rw [pU_base]; decide +kernel
example : showU pe (dynExtendQuery pe (pU [104, 116, 116, 112, 58, 47, 47, 104, 47, 112, 63, 97, 61, 49, 35, 102]) (.dict [((.str [107]), (.list [(.bool true)]))])) = .err .typeError := by decide +kernel
example : showU pe (dynExtendQuery pe (pU [104, 116, 116, 112, 58, 47, 47, 104, 47, 112, 63, 97, 61, 49, 35, 102]) (.dict [((.str [107]), (.list [(.list [(.int (1))])]))])) = .err .typeError := by decide +kernel
example : showU pe (dynExtendQuery pe (pU [104, 116, 116, 112, 58, 47, 47, 104, 47, 112, 63, 97, 61, 49, 35, 102]) (.dict [((.str [107]), (.dict []))])) = .err .typeError := by decide +kernel
example : showU pe (dynExtendQuery pe (pU [104, 116, 116, 112, 58, 47, 47, 104, 47, 112, 63, 97, 61, 49, 35, 102]) (.dict [((.str [107]), (.url (pU [104, 116, 116, 112, 58, 47, 47, 104, 47, 112, 63, 97, 61, 49, 35, 102])))])) = .err .typeError := by decide +kernel
example : showU pe (dynExtendQuery pe (pU [104, 116, 116, 112, 58, 47, 47, 104, 47, 112, 63, 97, 61, 49, 35, 102]) (.dict [((.str [107]), (.list [(.int (1)), (.str [120])]))])) = .ok [104, 116, 116, 112, 58, 47, 47, 104, 47, 112, 63, 97, 61, 49, 38, 107, 61, 49, 38, 107, 61, 120, 35, 102] := by rw [pU_base]; decide +kernel
example : showU pe (dynExtendQuery pe (pU [104, 116, 116, 112, 58, 47, 47, 104, 47, 112, 63, 97, 61, 49, 35, 102]) (.dict [((.str [97]), (.int (2))), ((.str [98]), (.float [110, 97, 110] 2))])) = .err .valueError := by decide +kernel
example : showU pe (dynExtendQuery pe (pU [104, 116, 116, 112, 58, 47, 47, 104, 47, 112, 63, 97, 61, 49, 35, 102]) (.dict [((.str [98]), (.float [110, 97, 110] 2)), ((.int (1)), (.int (2)))])) = .err .valueError := by decide +kernel
example : showU pe (dynExtendQuery pe (pU [104, 116, 116, 112, 58, 47, 47, 104, 47, 112, 63, 97, 61, 49, 35, 102]) (.list [(.tuple [(.int (1)), (.str [118])])])) = .err .typeError := by decide +kernel
example : showU pe (dynExtendQuery pe (pU [104, 116, 116, 112, 58, 47, 47, 104, 47, 112, 63, 97, 61, 49, 35, 102]) (.list [(.tuple [.none, (.str [118])])])) = .ok [104, 116, 116, 112, 58, 47, 47, 104, 47, 112, 63, 97, 61, 49, 38, 78, 111, 110, 101, 61, 118, 35, 102] := by rw [pU_base]; decide +kernel
example : showU pe (dynExtendQuery pe (pU [104, 116, 116, 112, 58, 47, 47, 104, 47, 112, 63, 97, 61, 49, 35, 102]) (.list [(.tuple [(.strSub [107]), (.str [118])])])) = .ok [104, 116, 116, 112, 58, 47, 47, 104, 47, 112, 63, 97, 61, 49, 38, 107, 61, 118, 35, 102] := by rw [pU_base]; decide +kernel
example : showU pe (dynExtendQuery pe (pU [104, 116, 116, 112, 58, 47, 47, 104, 47, 112, 63, 97, 61, 49, 35, 102]) (.list [(.str [97, 98])])) = .ok [104, 116, 116, 112, 58, 47, 47, 104, 47, 112, 63, 97, 61, 49, 38, 97, 61, 98, 35, 102] := by rw [pU_base]; decide +kernel
example : showU pe (dynExtendQuery pe (pU [104, 116, 116, 112, 58, 47, 47, 104, 47, 112, 63, 97, 61, 49, 35, 102]) (.list [(.str [97, 98, 99])])) = .err .valueError := by decide +kernel
example : showU pe (dynExtendQuery pe (pU [104, 116, 116, 112, 58, 47, 47, 104, 47, 112, 63, 97, 61, 49, 35, 102]) (.list [(.bytes [97, 98])])) = .err .typeError := by decide +kernel
example : showU pe (dynExtendQuery pe (pU [104, 116, 116, 112, 58, 47, 47, 104, 47, 112, 63, 97, 61, 49, 35, 102]) (.list [(.int (1))])) = .err .typeError := by decide +kernel
example : showU pe (dynExtendQuery pe (pU [104, 116, 116, 112, 58, 47, 47, 104, 47, 112, 63, 97, 61, 49, 35, 102]) (.list [.none])) = .err .typeError := by decide +kernel
example : showU pe (dynExtendQuery pe (pU [104, 116, 116, 112, 58, 47, 47, 104, 47, 112, 63, 97, 61, 49, 35, 102]) (.list [(.tuple [(.str [107])])])) = .err .valueError := by decide +kernel
example : showU pe (dynExtendQuery pe (pU [104, 116, 116, 112, 58, 47, 47, 104, 47, 112, 63, 97, 61, 49, 35, 102]) (.list [(.tuple [(.str [107]), (.str [118]), (.str [119])])])) = .err .valueError := by decide +kernel
example : showU pe (dynExtendQuery pe (pU [104, 116, 116, 112, 58, 47, 47, 104, 47, 112, 63, 97, 61, 49, 35, 102]) (.list [(.list [(.str [107]), (.str [118])])])) = .ok [104, 116, 116, 112, 58, 47, 47, 104, 47, 112, 63, 97, 61, 49, 38, 107, 61, 118, 35, 102] := by rw [pU_base]; decide +kernel
example : showU pe (dynExtendQuery pe (pU [104, 116, 116, 112, 58, 47, 47, 104, 47, 112, 63, 97, 61, 49, 35, 102]) (.list [(.dict [((.str [107]), (.int (1))), ((.str [118]), (.int (2)))])])) = .ok [104, 116, 116, 112, 58, 47, 47, 104, 47, 112, 63, 97, 61, 49, 38, 107, 61, 118, 35, 102] := by rw [pU_base]; decide +kernel
example : showU pe (dynExtendQuery pe (pU [104, 116, 116, 112, 58, 47, 47, 104, 47, 112, 63, 97, 61, 49, 35, 102]) (.list [(.tuple [(.str [107]), (.list [(.int (1))])])])) = .err .typeError := by decide +kernel
example : showU pe (dynExtendQuery pe (pU [104, 116, 116, 112, 58, 47, 47, 104, 47, 112, 63, 97, 61, 49, 35, 102]) (.list [(.tuple [(.str [107]), (.bool true)])])) = .err .typeError := by decide +kernel
example : showU pe (dynExtendQuery pe (pU [104, 116, 116, 112, 58, 47, 47, 104, 47, 112, 63, 97, 61, 49, 35, 102]) (.list [(.tuple [(.str [107]), .none]), (.tuple [(.int (1)), (.str [118])])])) = .err .typeError := by decide +kernel
example : showU pe (dynExtendQuery pe (pU [104, 116, 116, 112, 58, 47, 47, 104, 47, 112, 63, 97, 61, 49, 35, 102]) (.list [(.tuple [(.int (1)), (.float [110, 97, 110] 2)])])) = .err .typeError := by decide +kernel
example : showU pe (dynExtendQuery pe (pU [104, 116, 116, 112, 58, 47, 47, 104, 47, 112, 63, 97, 61, 49, 35, 102]) (.list [(.tuple [(.str [107]), (.float [110, 97, 110] 2)]), (.tuple [(.int (1)), (.str [118])])])) = .err .valueError := by decide +kernel
example : showU pe (dynExtendQuery pe (pU [104, 116, 116, 112, 58, 47, 47, 104, 47, 112, 63, 97, 61, 49, 35, 102]) (.list [(.tuple [(.str [107]), (.float [110, 97, 110] 2)]), (.str [97, 98, 99])])) = .err .valueError := by decide +kernel
example : showU pe (dynExtendQuery pe (pU [104, 116, 116, 112, 58, 47, 47, 104, 47, 112, 63, 97, 61, 49, 35, 102]) (.list [(.tuple [(.str [107]), (.bool true)]), (.str [97, 98, 99])])) = .err .typeError := by decide +kernel
example : showU pe (dynExtendQuery pe (pU [104, 116, 116, 112, 58, 47, 47, 104, 47, 112, 63, 97, 61, 49, 35, 102]) (.list [(.str [97, 98, 99]), (.tuple [(.str [107]), (.bool true)])])) = .err .valueError := by decide +kernel
example : showU pe (dynExtendQuery pe (pU [104, 116, 116, 112, 58, 47, 47, 104, 47, 112, 63, 97, 61, 49, 35, 102]) (.list [(.tuple [(.int (1)), (.str [118])]), (.str [97, 98, 99])])) = .err .typeError := by decide +kernel
example : showU pe (dynExtendQuery pe (pU [104, 116, 116, 112, 58, 47, 47, 104, 47, 112, 63, 97, 61, 49, 35, 102]) (.list [(.str [97, 98, 99]), (.tuple [(.int (1)), (.str [118])])])) = .err .valueError := by decide +kernel
example : showU pe (dynExtendQuery pe (pU [104, 116, 116, 112, 58, 47, 47, 104, 47, 112, 63, 97, 61, 49, 35, 102]) (.list [(.tuple [(.int (1)), (.str [118])]), (.int (5))])) = .err .typeError := by decide +kernel
example : showU pe (dynExtendQuery pe (pU [104, 116, 116, 112, 58, 47, 47, 104, 47, 112, 63, 97, 61, 49, 35, 102]) (.list [(.int (5)), (.tuple [(.int (1)), (.str [118])])])) = .err .typeError := by decide +kernel
example : showU pe (dynExtendQuery pe (pU [104, 116, 116, 112, 58, 47, 47, 104, 47, 112, 63, 97, 61, 49, 35, 102]) (.tuple [(.tuple [(.str [107]), (.str [118])])])) = .ok [104, 116, 116, 112, 58, 47, 47, 104, 47, 112, 63, 97, 61, 49, 38, 107, 61, 118, 35, 102] := by rw [pU_base]; decide +kernel
example : showU pe (dynExtendQuery pe (pU [104, 116, 116, 112, 58, 47, 47, 104, 47, 112, 63, 97, 61, 49, 35, 102]) (.list [(.url (pU [104, 116, 116, 112, 58, 47, 47, 104, 47, 112, 63, 97, 61, 49, 35, 102]))])) = .err .typeError := by decide +kernel
example : showU pe (dynExtendQuery pe (pU [104, 116, 116, 112, 58, 47, 47, 104, 47, 112, 63, 97, 61, 49, 35, 102]) (.list [(.splitResult [[97, 98], [99, 100], [47, 101, 102], [103, 104], [105, 106]])])) = .err .valueError := by decide +kernel
example : showU pe (dynExtendQuery pe (pU [104, 116, 116, 112, 58, 47, 47, 104, 47, 112, 63, 97, 61, 49, 35, 102]) (.list [(.strSub [97, 98])])) = .ok [104, 116, 116, 112, 58, 47, 47, 104, 47, 112, 63, 97, 61, 49, 38, 97, 61, 98, 35, 102] := by rw [pU_base]; decide +kernel
example : showU pe (dynExtendQuery pe (pU [104, 116, 116, 112, 58, 47, 47, 104, 47, 112, 63, 97, 61, 49, 35, 102]) (.list [(.tuple [(.strSub [107]), (.strSub [118])])])) = .ok [104, 116, 116, 112, 58, 47, 47, 104, 47, 112, 63, 97, 61, 49, 38, 107, 61, 118, 35, 102] := by rw [pU_base]; decide +kernel
example : showU pe (dynExtendQuery pe (pU [104, 116, 116, 112, 58, 47, 47, 104, 47, 112, 63, 97, 61, 49, 35, 102]) (.list [(.tuple [(.str [97]), (.str [57])]), (.tuple [(.str [97]), (.bool true)])])) = .err .typeError := by decide +kernel
example : showU pe (dynExtendQueryKw pe (pU [104, 116, 116, 112, 58, 47, 47, 104, 47, 112, 63, 97, 61, 49, 35, 102]) [([107], .none)]) = .err .typeError := by decide +kernel
example : showU pe (dynExtendQueryKw pe (pU [104, 116, 116, 112, 58, 47, 47, 104, 47, 112, 63, 97, 61, 49, 35, 102]) [([107], (.list [(.int (1)), (.int (2))]))]) = .ok [104, 116, 116, 112, 58, 47, 47, 104, 47, 112, 63, 97, 61, 49, 38, 107, 61, 49, 38, 107, 61, 50, 35, 102] := by rw [pU_base]; decide +kernel
example : showU pe (dynExtendQueryKw pe (pU [104, 116, 116, 112, 58, 47, 47, 104, 47, 112, 63, 97, 61, 49, 35, 102]) []) = .err .valueError := by decide +kernel
example : showU pe (dynExtendQueryKw pe (pU [104, 116, 116, 112, 58, 47, 47, 104, 47, 112, 63, 97, 61, 49, 35, 102]) [([107], (.float [110, 97, 110] 2))]) = .err .valueError := by decide +kernel
example : showU pe (dynExtendQueryKw pe (pU [104, 116, 116, 112, 58, 47, 47, 104, 47, 112, 63, 97, 61, 49, 35, 102]) [([107], (.bytes [120]))]) = .err .typeError := by decide +kernel
example : showU pe (dynExtendQueryKw pe (pU [104, 116, 116, 112, 58, 47, 47, 104, 47, 112, 63, 97, 61, 49, 35, 102]) [([97], (.int (5)))]) = .ok [104, 116, 116, 112, 58, 47, 47, 104, 47, 112, 63, 97, 61, 49, 38, 97, 61, 53, 35, 102] := by rw [pU_base]; decide +kernel
example : showU pe (dynUpdateQuery pe (pU [104, 116, 116, 112, 58, 47, 47, 104, 47, 112, 63, 97, 61, 49, 35, 102]) .none) = .ok [104, 116, 116, 112, 58, 47, 47, 104, 47, 112, 35, 102] := by rw [pU_base]; decide +kernel
example : showU pe (dynUpdateQuery pe (pU [104, 116, 116, 112, 58, 47, 47, 104, 47, 112, 63, 97, 61, 49, 35, 102]) (.int (0))) = .ok [104, 116, 116, 112, 58, 47, 47, 104, 47, 112, 63, 97, 61, 49, 35, 102] := by rw [pU_base]; decide +kernel
example : showU pe (dynUpdateQuery pe (pU [104, 116, 116, 112, 58, 47, 47, 104, 47, 112, 63, 97, 61, 49, 35, 102]) (.int (1))) = .err .typeError := by decide +kernel
example : showU pe (dynUpdateQuery pe (pU [104, 116, 116, 112, 58, 47, 47, 104, 47, 112, 63, 97, 61, 49, 35, 102]) (.bool false)) = .ok [104, 116, 116, 112, 58, 47, 47, 104, 47, 112, 63, 97, 61, 49, 35, 102] := by rw [pU_base]; decide +kernel
example : showU pe (dynUpdateQuery pe (pU [104, 116, 116, 112, 58, 47, 47, 104, 47, 112, 63, 97, 61, 49, 35, 102]) (.bool true)) = .err .typeError := by decide +kernel
example : showU pe (dynUpdateQuery pe (pU [104, 116, 116, 112, 58, 47, 47, 104, 47, 112, 63, 97, 61, 49, 35, 102]) (.float [48, 46, 48] 0)) = .ok [104, 116, 116, 112, 58, 47, 47, 104, 47, 112, 63, 97, 61, 49, 35, 102] := by rw [pU_base]; decide +kernel
example : showU pe (dynUpdateQuery pe (pU [104, 116, 116, 112, 58, 47, 47, 104, 47, 112, 63, 97, 61, 49, 35, 102]) (.float [110, 97, 110] 2)) = .err .typeError := by decide +kernel
example : showU pe (dynUpdateQuery pe (pU [104, 116, 116, 112, 58, 47, 47, 104, 47, 112, 63, 97, 61, 49, 35, 102]) (.bytes [])) = .ok [104, 116, 116, 112, 58, 47, 47, 104, 47, 112, 63, 97, 61, 49, 35, 102] := by rw [pU_base]; decide +kernel
example : showU pe (dynUpdateQuery pe (pU [104, 116, 116, 112, 58, 47, 47, 104, 47, 112, 63, 97, 61, 49, 35, 102]) (.bytes [97, 61, 49])) = .err .typeError := by decide +kernel
example : showU pe (dynUpdateQuery pe (pU [104, 116, 116, 112, 58, 47, 47, 104, 47, 112, 63, 97, 61, 49, 35, 102]) (.strSub [120, 61, 49])) = .ok [104, 116, 116, 112, 58, 47, 47, 104, 47, 112, 63, 97, 61, 49, 38, 120, 61, 49, 35, 102] := by rw [pU_base]; decide +kernel
example : showU pe (dynUpdateQuery pe (pU [104, 116, 116, 112, 58, 47, 47, 104, 47, 112, 63, 97, 61, 49, 35, 102]) (.url (pU []))) = .ok [104, 116, 116, 112, 58, 47, 47, 104, 47, 112, 63, 97, 61, 49, 35, 102] := by rw [pU_base]; decide +kernel
example : showU pe (dynUpdateQuery pe (pU [104, 116, 116, 112, 58, 47, 47, 104, 47, 112, 63, 97, 61, 49, 35, 102]) (.url (pU [104, 116, 116, 112, 58, 47, 47, 104, 47, 112, 63, 97, 61, 49, 35, 102]))) = .err .typeError := by rw [pU_base]; decide +kernel
example : showU pe (dynUpdateQuery pe (pU [104, 116, 116, 112, 58, 47, 47, 104, 47, 112, 63, 97, 61, 49, 35, 102]) (.other 0)) = .err .typeError := by decide +kernel
example : showU pe (dynUpdateQuery pe (pU [104, 116, 116, 112, 58, 47, 47, 104, 47, 112, 63, 97, 61, 49, 35, 102]) (.splitResult [[97, 98], [99, 100], [47, 101, 102], [103, 104], [105, 106]])) = .err .valueError := by decide +kernel
example : showU pe (dynUpdateQuery pe (pU [104, 116, 116, 112, 58, 47, 47, 104, 47, 112, 63, 97, 61, 49, 35, 102]) (.splitResult [[97, 98], [99, 100], [], [], []])) = .err .valueError := by decide +kernel
example : showU pe (dynUpdateQuery pe (pU [104, 116, 116, 112, 58, 47, 47, 104, 47, 112, 63, 97, 61, 49, 35, 102]) (.dict [((.int (1)), (.str [118]))])) = .err .typeError := by decide +kernel
example : showU pe (dynUpdateQuery pe (pU [104, 116, 116, 112, 58, 47, 47, 104, 47, 112, 63, 97, 61, 49, 35, 102]) (.dict [(.none, (.str [118]))])) = .err .typeError := by decide +kernel
example : showU pe (dynUpdateQuery pe (pU [104, 116, 116, 112, 58, 47, 47, 104, 47, 112, 63, 97, 61, 49, 35, 102]) (.dict [((.strSub [107]), (.str [118]))])) = .ok [104, 116, 116, 112, 58, 47, 47, 104, 47, 112, 63, 97, 61, 49, 38, 107, 61, 118, 35, 102] := by rw [pU_base]; decide +kernel
example : showU pe (dynUpdateQuery pe (pU [104, 116, 116, 112, 58, 47, 47, 104, 47, 112, 63, 97, 61, 49, 35, 102]) (.dict [((.bool true), (.str [118]))])) = .err .typeError := by decide +kernel
example : showU pe (dynUpdateQuery pe (pU [104, 116, 116, 112, 58, 47, 47, 104, 47, 112, 63, 97, 61, 49, 35, 102]) (.dict [((.bytes [107]), (.str [118]))])) = .err .typeError := by decide +kernel
example : showU pe (dynUpdateQuery pe (pU [104, 116, 116, 112, 58, 47, 47, 104, 47, 112, 63, 97, 61, 49, 35, 102]) (.dict [((.int (1)), (.list []))])) = .err .typeError := by decide +kernel
example : showU pe (dynUpdateQuery pe (pU [104, 116, 116, 112, 58, 47, 47, 104, 47, 112, 63, 97, 61, 49, 35, 102]) (.dict [((.int (1)), (.list [(.str [97])]))])) = .err .typeError := by decide +kernel
example : showU pe (dynUpdateQuery pe (pU [104, 116, 116, 112, 58, 47, 47, 104, 47, 112, 63, 97, 61, 49, 35, 102]) (.dict [((.str [107]), (.splitResult [[97, 98], [99, 100], [47, 101, 102], [103, 104], [105, 106]]))])) = .ok [104, 116, 116, 112, 58, 47, 47, 104, 47, 112, 63, 97, 61, 49, 38, 107, 61, 97, 98, 38, 107, 61, 99, 100, 38, 107, 61, 47, 101, 102, 38, 107, 61, 103, 104, 38, 107, 61, 105, 106, 35, 102] := by rw [pU_base]; decide +kernel
example : showU pe (dynUpdateQuery pe (pU [104, 116, 116, 112, 58, 47, 47, 104, 47, 112, 63, 97, 61, 49, 35, 102]) (.dict [((.str [107]), .none)])) = .err .typeError := by rw [pU_base]; decide +kernel
example : showU pe (dynUpdateQuery pe (pU [104, 116, 116, 112, 58, 47, 47, 104, 47, 112, 63, 97, 61, 49, 35, 102]) (.dict [((.str [107]), (.bool true))])) = .err .typeError := by rw [pU_base]; decide +kernel
example : showU pe (dynUpdateQuery pe (pU [104, 116, 116, 112, 58, 47, 47, 104, 47, 112, 63, 97, 61, 49, 35, 102]) (.dict [((.str [107]), (.float [110, 97, 110] 2))])) = .err .valueError := by rw [pU_base]; decide +kernel
example : showU pe (dynUpdateQuery pe (pU [104, 116, 116, 112, 58, 47, 47, 104, 47, 112, 63, 97, 61, 49, 35, 102]) (.dict [((.str [107]), (.float [105, 110, 102] 1))])) = .err .valueError := by rw [pU_base]; decide +kernel
example : showU pe (dynUpdateQuery pe (pU [104, 116, 116, 112, 58, 47, 47, 104, 47, 112, 63, 97, 61, 49, 35, 102]) (.dict [((.str [107]), (.bytes [118]))])) = .err .typeError := by rw [pU_base]; decide +kernel
example : showU pe (dynUpdateQuery pe (pU [104, 116, 116, 112, 58, 47, 47, 104, 47, 112, 63, 97, 61, 49, 35, 102]) (.dict [((.str [107]), (.strSub [118]))])) = .ok [104, 116, 116, 112, 58, 47, 47, 104, 47, 112, 63, 97, 61, 49, 38, 107, 61, 118, 35, 102] := by rw [pU_base]; decide +kernel
example : showU pe (dynUpdateQuery pe (pU [104, 116, 116, 112, 58, 47, 47, 104, 47, 112, 63, 97, 61, 49, 35, 102]) (.dict [((.str [107]), (.float [49, 46, 53] 0))])) = .ok [104, 116, 116, 112, 58, 47, 47, 104, 47, 112, 63, 97, 61, 49, 38, 107, 61, 49, 46, 53, 35, 102] := by rw [pU_base]; decide +kernel
example : showU pe (dynUpdateQuery pe (pU [104, 116, 116, 112, 58, 47, 47, 104, 47, 112, 63, 97, 61, 49, 35, 102]) (.dict [((.str [107]), (.int (-7)))])) = .ok [104, 116, 116, 112, 58, 47, 47, 104, 47, 112, 63, 97, 61, 49, 38, 107, 61, 45, 55, 35, 102] := by rw [pU_base]; decide +kernel
example : showU pe (dynUpdateQuery pe (pU [104, 116, 116, 112, 58, 47, 47, 104, 47, 112, 63, 97, 61, 49, 35, 102]) (.dict [((.str [107]), (.list [(.bool true)]))])) = .err .typeError := by rw [pU_base]; decide +kernel
example : showU pe (dynUpdateQuery pe (pU [104, 116, 116, 112, 58, 47, 47, 104, 47, 112, 63, 97, 61, 49, 35, 102]) (.dict [((.str [107]), (.list [(.list [(.int (1))])]))])) = .err .typeError := by rw [pU_base]; decide +kernel
example : showU pe (dynUpdateQuery pe (pU [104, 116, 116, 112, 58, 47, 47, 104, 47, 112, 63, 97, 61, 49, 35, 102]) (.dict [((.str [107]), (.dict []))])) = .err .typeError := by rw [pU_base]; decide +kernel
example : showU pe (dynUpdateQuery pe (pU [104, 116, 116, 112, 58, 47, 47, 104, 47, 112, 63, 97, 61, 49, 35, 102]) (.dict [((.str [107]), (.url (pU [104, 116, 116, 112, 58, 47, 47, 104, 47, 112, 63, 97, 61, 49, 35, 102])))])) = .err .typeError := by rw [pU_base]; decide +kernel
example : showU pe (dynUpdateQuery pe (pU [104, 116, 116, 112, 58, 47, 47, 104, 47, 112, 63, 97, 61, 49, 35, 102]) (.dict [((.str [107]), (.list [(.int (1)), (.str [120])]))])) = .ok [104, 116, 116, 112, 58, 47, 47, 104, 47, 112, 63, 97, 61, 49, 38, 107, 61, 49, 38, 107, 61, 120, 35, 102] := by rw [pU_base]; decide +kernel
example : showU pe (dynUpdateQuery pe (pU [104, 116, 116, 112, 58, 47, 47, 104, 47, 112, 63, 97, 61, 49, 35, 102]) (.dict [((.str [97]), (.int (2))), ((.str [98]), (.float [110, 97, 110] 2))])) = .err .valueError := by rw [pU_base]; decide +kernel
example : showU pe (dynUpdateQuery pe (pU [104, 116, 116, 112, 58, 47, 47, 104, 47, 112, 63, 97, 61, 49, 35, 102]) (.dict [((.str [98]), (.float [110, 97, 110] 2)), ((.int (1)), (.int (2)))])) = .err .typeError := by decide +kernel
example : showU pe (dynUpdateQuery pe (pU [104, 116, 116, 112, 58, 47, 47, 104, 47, 112, 63, 97, 61, 49, 35, 102]) (.list [(.tuple [(.int (1)), (.str [118])])])) = .err .typeError := by decide +kernel
example : showU pe (dynUpdateQuery pe (pU [104, 116, 116, 112, 58, 47, 47, 104, 47, 112, 63, 97, 61, 49, 35, 102]) (.list [(.tuple [.none, (.str [118])])])) = .err .typeError := by decide +kernel
example : showU pe (dynUpdateQuery pe (pU [104, 116, 116, 112, 58, 47, 47, 104, 47, 112, 63, 97, 61, 49, 35, 102]) (.list [(.tuple [(.strSub [107]), (.str [118])])])) = .ok [104, 116, 116, 112, 58, 47, 47, 104, 47, 112, 63, 97, 61, 49, 38, 107, 61, 118, 35, 102] := by rw [pU_base]; decide +kernel
example : showU pe (dynUpdateQuery pe (pU [104, 116, 116, 112, 58, 47, 47, 104, 47, 112, 63, 97, 61, 49, 35, 102]) (.list [(.str [97, 98])])) = .ok [104, 116, 116, 112, 58, 47, 47, 104, 47, 112, 63, 97, 61, 98, 35, 102] := by rw [pU_base]; decide +kernel
example : showU pe (dynUpdateQuery pe (pU [104, 116, 116, 112, 58, 47, 47, 104, 47, 112, 63, 97, 61, 49, 35, 102]) (.list [(.str [97, 98, 99])])) = .err .valueError := by decide +kernel
example : showU pe (dynUpdateQuery pe (pU [104, 116, 116, 112, 58, 47, 47, 104, 47, 112, 63, 97, 61, 49, 35, 102]) (.list [(.bytes [97, 98])])) = .err .typeError := by decide +kernel
example : showU pe (dynUpdateQuery pe (pU [104, 116, 116, 112, 58, 47, 47, 104, 47, 112, 63, 97, 61, 49, 35, 102]) (.list [(.int (1))])) = .err .typeError := by decide +kernel
example : showU pe (dynUpdateQuery pe (pU [104, 116, 116, 112, 58, 47, 47, 104, 47, 112, 63, 97, 61, 49, 35, 102]) (.list [.none])) = .err .typeError := by decide +kernel
example : showU pe (dynUpdateQuery pe (pU [104, 116, 116, 112, 58, 47, 47, 104, 47, 112, 63, 97, 61, 49, 35, 102]) (.list [(.tuple [(.str [107])])])) = .err .valueError := by decide +kernel
example : showU pe (dynUpdateQuery pe (pU [104, 116, 116, 112, 58, 47, 47, 104, 47, 112, 63, 97, 61, 49, 35, 102]) (.list [(.tuple [(.str [107]), (.str [118]), (.str [119])])])) = .err .valueError := by decide +kernel
example : showU pe (dynUpdateQuery pe (pU [104, 116, 116, 112, 58, 47, 47, 104, 47, 112, 63, 97, 61, 49, 35, 102]) (.list [(.list [(.str [107]), (.str [118])])])) = .ok [104, 116, 116, 112, 58, 47, 47, 104, 47, 112, 63, 97, 61, 49, 38, 107, 61, 118, 35, 102] := by rw [pU_base]; decide +kernel
example : showU pe (dynUpdateQuery pe (pU [104, 116, 116, 112, 58, 47, 47, 104, 47, 112, 63, 97, 61, 49, 35, 102]) (.list [(.dict [((.str [107]), (.int (1))), ((.str [118]), (.int (2)))])])) = .ok [104, 116, 116, 112, 58, 47, 47, 104, 47, 112, 63, 97, 61, 49, 38, 107, 61, 118, 35, 102] := by rw [pU_base]; decide +kernel
example : showU pe (dynUpdateQuery pe (pU [104, 116, 116, 112, 58, 47, 47, 104, 47, 112, 63, 97, 61, 49, 35, 102]) (.list [(.tuple [(.str [107]), (.list [(.int (1))])])])) = .err .typeError := by rw [pU_base]; decide +kernel
example : showU pe (dynUpdateQuery pe (pU [104, 116, 116, 112, 58, 47, 47, 104, 47, 112, 63, 97, 61, 49, 35, 102]) (.list [(.tuple [(.str [107]), (.bool true)])])) = .err .typeError := by rw [pU_base]; decide +kernel
example : showU pe (dynUpdateQuery pe (pU [104, 116, 116, 112, 58, 47, 47, 104, 47, 112, 63, 97, 61, 49, 35, 102]) (.list [(.tuple [(.str [107]), .none]), (.tuple [(.int (1)), (.str [118])])])) = .err .typeError := by decide +kernel
example : showU pe (dynUpdateQuery pe (pU [104, 116, 116, 112, 58, 47, 47, 104, 47, 112, 63, 97, 61, 49, 35, 102]) (.list [(.tuple [(.int (1)), (.float [110, 97, 110] 2)])])) = .err .typeError := by decide +kernel
example : showU pe (dynUpdateQuery pe (pU [104, 116, 116, 112, 58, 47, 47, 104, 47, 112, 63, 97, 61, 49, 35, 102]) (.list [(.tuple [(.str [107]), (.float [110, 97, 110] 2)]), (.tuple [(.int (1)), (.str [118])])])) = .err .typeError := by decide +kernel
example : showU pe (dynUpdateQuery pe (pU [104, 116, 116, 112, 58, 47, 47, 104, 47, 112, 63, 97, 61, 49, 35, 102]) (.list [(.tuple [(.str [107]), (.float [110, 97, 110] 2)]), (.str [97, 98, 99])])) = .err .valueError := by decide +kernel
example : showU pe (dynUpdateQuery pe (pU [104, 116, 116, 112, 58, 47, 47, 104, 47, 112, 63, 97, 61, 49, 35, 102]) (.list [(.tuple [(.str [107]), (.bool true)]), (.str [97, 98, 99])])) = .err .valueError := by decide +kernel
example : showU pe (dynUpdateQuery pe (pU [104, 116, 116, 112, 58, 47, 47, 104, 47, 112, 63, 97, 61, 49, 35, 102]) (.list [(.str [97, 98, 99]), (.tuple [(.str [107]), (.bool true)])])) = .err .valueError := by decide +kernel
example : showU pe (dynUpdateQuery pe (pU [104, 116, 116, 112, 58, 47, 47, 104, 47, 112, 63, 97, 61, 49, 35, 102]) (.list [(.tuple [(.int (1)), (.str [118])]), (.str [97, 98, 99])])) = .err .typeError := by decide +kernel
example : showU pe (dynUpdateQuery pe (pU [104, 116, 116, 112, 58, 47, 47, 104, 47, 112, 63, 97, 61, 49, 35, 102]) (.list [(.str [97, 98, 99]), (.tuple [(.int (1)), (.str [118])])])) = .err .valueError := by decide +kernel
example : showU pe (dynUpdateQuery pe (pU [104, 116, 116, 112, 58, 47, 47, 104, 47, 112, 63, 97, 61, 49, 35, 102]) (.list [(.tuple [(.int (1)), (.str [118])]), (.int (5))])) = .err .typeError := by decide +kernel
example : showU pe (dynUpdateQuery pe (pU [104, 116, 116, 112, 58, 47, 47, 104, 47, 112, 63, 97, 61, 49, 35, 102]) (.list [(.int (5)), (.tuple [(.int (1)), (.str [118])])])) = .err .typeError := by decide +kernel
example : showU pe (dynUpdateQuery pe (pU [104, 116, 116, 112, 58, 47, 47, 104, 47, 112, 63, 97, 61, 49, 35, 102]) (.tuple [(.tuple [(.str [107]), (.str [118])])])) = .ok [104, 116, 116, 112, 58, 47, 47, 104, 47, 112, 63, 97, 61, 49, 38, 107, 61, 118, 35, 102] := by rw [pU_base]; decide +kernel
example : showU pe (dynUpdateQuery pe (pU [104, 116, 116, 112, 58, 47, 47, 104, 47, 112, 63, 97, 61, 49, 35, 102]) (.list [(.url (pU [104, 116, 116, 112, 58, 47, 47, 104, 47, 112, 63, 97, 61, 49, 35, 102]))])) = .err .typeError := by decide +kernel
example : showU pe (dynUpdateQuery pe (pU [104, 116, 116, 112, 58, 47, 47, 104, 47, 112, 63, 97, 61, 49, 35, 102]) (.list [(.splitResult [[97, 98], [99, 100], [47, 101, 102], [103, 104], [105, 106]])])) = .err .valueError := by decide +kernel
example : showU pe (dynUpdateQuery pe (pU [104, 116, 116, 112, 58, 47, 47, 104, 47, 112, 63, 97, 61, 49, 35, 102]) (.list [(.strSub [97, 98])])) = .ok [104, 116, 116, 112, 58, 47, 47, 104, 47, 112, 63, 97, 61, 98, 35, 102] := by rw [pU_base]; decide +kernel
example : showU pe (dynUpdateQuery pe (pU [104, 116, 116, 112, 58, 47, 47, 104, 47, 112, 63, 97, 61, 49, 35, 102]) (.list [(.tuple [(.strSub [107]), (.strSub [118])])])) = .ok [104, 116, 116, 112, 58, 47, 47, 104, 47, 112, 63, 97, 61, 49, 38, 107, 61, 118, 35, 102] := by rw [pU_base]; decide +kernel
example : showU pe (dynUpdateQuery pe (pU [104, 116, 116, 112, 58, 47, 47, 104, 47, 112, 63, 97, 61, 49, 35, 102]) (.list [(.tuple [(.str [97]), (.str [57])]), (.tuple [(.str [97]), (.bool true)])])) = .err .typeError := by rw [pU_base]; decide +kernel
example : showU pe (dynUpdateQueryKw pe (pU [104, 116, 116, 112, 58, 47, 47, 104, 47, 112, 63, 97, 61, 49, 35, 102]) [([107], .none)]) = .err .typeError := by rw [pU_base]; decide +kernel
example : showU pe (dynUpdateQueryKw pe (pU [104, 116, 116, 112, 58, 47, 47, 104, 47, 112, 63, 97, 61, 49, 35, 102]) [([107], (.list [(.int (1)), (.int (2))]))]) = .ok [104, 116, 116, 112, 58, 47, 47, 104, 47, 112, 63, 97, 61, 49, 38, 107, 61, 49, 38, 107, 61, 50, 35, 102] := by rw [pU_base]; decide +kernel
example : showU pe (dynUpdateQueryKw pe (pU [104, 116, 116, 112, 58, 47, 47, 104, 47, 112, 63, 97, 61, 49, 35, 102]) []) = .err .valueError := by decide +kernel
example : showU pe (dynUpdateQueryKw pe (pU [104, 116, 116, 112, 58, 47, 47, 104, 47, 112, 63, 97, 61, 49, 35, 102]) [([107], (.float [110, 97, 110] 2))]) = .err .valueError := by rw [pU_base]; decide +kernel
example : showU pe (dynUpdateQueryKw pe (pU [104, 116, 116, 112, 58, 47, 47, 104, 47, 112, 63, 97, 61, 49, 35, 102]) [([107], (.bytes [120]))]) = .err .typeError := by rw [pU_base]; decide +kernel
example : showU pe (dynUpdateQueryKw pe (pU [104, 116, 116, 112, 58, 47, 47, 104, 47, 112, 63, 97, 61, 49, 35, 102]) [([97], (.int (5)))]) = .ok [104, 116, 116, 112, 58, 47, 47, 104, 47, 112, 63, 97, 61, 53, 35, 102] := by rw [pU_base]; decide +kernel
end Yarl
