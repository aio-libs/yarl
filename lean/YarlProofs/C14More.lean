import YarlProofs.C14Headline
import YarlProofs.Lemmas.DotMore
/-!
# C14 — join() against RFC 3986 §5.2 for a ROOTLESS / EMPTY base path without authority

`C14_headline_join_rootless_characterised` says what `join` computes when the §5.2.3 merged path `m` is rootless:
`remove_dot_segments("/" + m)[1:]` (= `normalize_path(m)`, the stack algorithm on a relative path), where RFC 3986
§5.2.4 says `remove_dot_segments(m)`.  This file gives the EXACT, decidable condition for the two to coincide.

Walk the '/'-segments of `m` from the left:
 * skip the leading "." / ".." segments (rule A of §5.2.4 and the stack algorithm both drop them);
 * the next segment `s₀` is the first one that lands in the output;
 * in the remaining segments keep a depth counter (".." decrements, "." stays, anything else increments, start 0):
   `escapes` = "some '..' meets depth 0", i.e. `s₀` itself is popped.
Then, for EVERY path `m` (rooted or not, `C14_rds_any`):

    remove_dot_segments(m) = (if escapes(m) then "/" else "") + "/".join(normalize_path_segments(m.split("/")))

and hence for a rootless `m`:  `remove_dot_segments(m) = normalize_path(m)` IFF NOT `escapes(m)`; when `escapes(m)`, the
RFC result is EXACTLY "/" + (what yarl computes): §5.2.4's output buffer, emptied by the "..", is refilled with
"/"-prefixed segments, whereas the stack algorithm joins the surviving segments without a leading slash.

The condition on (base path, reference path), `C14_deviates bp rp`, in Python:

    def deviates(bp: str, rp: str) -> bool:          # base WITHOUT authority, reference WITHOUT authority
        if rp == "" or rp.startswith("/") or bp.startswith("/"):
            return False                              # reference not merged, or merged path rooted: join IS the RFC
        segs = bp.split("/")[:-1] + rp.split("/")     # the '/'-segments of merge(base, ref)   (C14_merged_segments)
        i = 0
        while i < len(segs) and segs[i] in (".", ".."):
            i += 1                                    # leading dot segments: dropped by both algorithms
        depth = 0
        for s in segs[i + 1:]:                        # segs[i] is the first segment that reaches the output
            if s == "..":
                if depth == 0:
                    return True                       # it is popped: RFC result = "/" + yarl's result
                depth -= 1
            elif s != ".":
                depth += 1
        return False

`C14_join_rfc_iff`: `p5 (join e base ref) = Rfc.resolve (p5 base) (p5 ref)  ↔  C14_deviates base.path ref.path = false`;
`C14_join_vs_rfc` / `C14_join_rfc_deviation`: when it is true, the RFC's path is '/' followed by `join`'s path and every
other component agrees.  Loop-free form of the condition: `C14_pathEscapes_iff` (some prefix of `segs[i+1:]` has more
".." than ordinary segments).
`C14_escapes`, `C14_pathEscapes` and the simulation behind `C14_rds_any` stand in Lemmas/PathLemmas.lean (`rds_eq`).
Namespace `R4` holds this file's helpers about `target` / `C14_merged` (and the end result `R4.parts5_eq_iff`).
-/
namespace Yarl
open Yarl.PathLemmas Yarl.JoinLemmas Yarl.DotMore Yarl.PathAlg

namespace R4
open Yarl.Rfc

/-- Parts5 with another path -/
theorem parts5_eq_iff (a b : Rfc.Parts5) (p : Str) :
    a = { b with path := p } ↔
      a.scheme = b.scheme ∧ a.authority = b.authority ∧ a.path = p ∧ a.query = b.query ∧ a.fragment = b.fragment := by
  cases a; cases b; simp

end R4

/-! ## §5.2.4 against the stack algorithm on arbitrary paths -/

/-- §5.2.4 `remove_dot_segments` on ANY path `m`, rooted or not, in terms of the stack algorithm of `yarl._path` run
    on the '/'-segments of `m`: the two agree up to ONE leading '/', present exactly when `C14_pathEscapes m`. -/
theorem C14_rds_any (m : Str) :
    Rfc.removeDotSegments m
      = (if C14_pathEscapes m then [47] else []) ++ joinC 47 (normalizePathSegments (splitOn 47 m)) :=
  rds_eq m

/-- … for a path that does not start with '/' (the empty path included): §5.2.4 is `normalize_path(m)`, with a '/' in
    front exactly when `C14_pathEscapes m` -/
theorem C14_rds_rootless (m : Str) (h : m.head? ≠ some 47) :
    Rfc.removeDotSegments m = (if C14_pathEscapes m then 47 :: normalizePath m else normalizePath m) := by
  rw [C14_rds_any m, normalizePath_rootless m h]
  split <;> rfl

/-- the IFF: on a path that does not start with '/', `normalize_path` (what `join` applies) IS RFC 3986 §5.2.4
    exactly when no ".." pops the first segment that reached the output -/
theorem C14_normalize_eq_rds_iff (m : Str) (h : m.head? ≠ some 47) :
    normalizePath m = Rfc.removeDotSegments m ↔ C14_pathEscapes m = false := by
  rw [C14_rds_rootless m h]
  cases C14_pathEscapes m
  · simp
  · simp only [if_true, Bool.true_eq_false, iff_false]
    exact fun e => List.cons_ne_self _ _ e.symm

/-- the same for `remove_dot_segments("/" + m)[1:]`, the form of `C14_headline_join_rootless_characterised` -/
theorem C14_rooted_drop_eq_rds_iff (m : Str) (h0 : m ≠ []) (h : m.head? ≠ some 47) :
    (Rfc.removeDotSegments (47 :: m)).drop 1 = Rfc.removeDotSegments m ↔ C14_pathEscapes m = false := by
  rw [C15_rds_rooted_relative m h0 h]
  exact C14_normalize_eq_rds_iff m h

/-- `C14_escapes` without recursion on the leading dot segments: drop them, drop the next segment, `climbs 0` -/
theorem C14_escapes_eq (L : List Str) :
    C14_escapes L = climbs 0 ((L.dropWhile (fun s => decide (s = dot ∨ s = dotdot))).drop 1) := by
  induction L with
  | nil => rfl
  | cons s R ih =>
    unfold C14_escapes
    by_cases hd : s = dot ∨ s = dotdot
    · rw [if_pos hd, List.dropWhile_cons_of_pos (by simpa using hd), ih]
    · rw [if_neg hd, List.dropWhile_cons_of_neg (by simpa using hd)]
      rfl

/-- a path without ".." segment never escapes; in particular a path without '.' -/
theorem C14_pathEscapes_false_of_no_dotdot (m : Str) (h : dotdot ∉ splitOn 47 m) : C14_pathEscapes m = false := by
  unfold C14_pathEscapes
  exact escapes_false_of_no_dotdot _ h

theorem R4.pathEscapes_false_of_no_dot (m : Str) (h : 46 ∉ m) : C14_pathEscapes m = false :=
  C14_pathEscapes_false_of_no_dotdot m fun hm => h (splitOn_sub 47 m _ hm 46 (by simp [dotdot]))

/-! ## the condition on (base path, reference path) -/

/-- RFC 3986 §5.2.3 `merge` for a base WITHOUT authority: the base path up to and including its last '/', then the
    reference path -/
def C14_merged (bp rp : Str) : Str := (bp.reverse.dropWhile (· ≠ 47)).reverse ++ rp

/-- `join` deviates from §5.2.2 (base without authority, reference without authority) EXACTLY when: the reference path
    is non-empty and rootless, the base path is empty or rootless, and in the merged path a ".." pops the first segment
    that reached the output (`C14_pathEscapes`). -/
def C14_deviates (bp rp : Str) : Bool :=
  !rp.isEmpty && rp.head? != some 47 && bp.head? != some 47 && C14_pathEscapes (C14_merged bp rp)

theorem C14_merge_no_authority (base : Url) (rp : Str) (hnet : base.netloc = []) :
    Rfc.merge (p5 base) rp = C14_merged base.path rp :=
  merge_upTo base rp (.inl hnet)

/-- the '/'-segments of the merged path: the base's segments without the last one, then the reference's -/
theorem C14_merged_segments (bp rp : Str) :
    splitOn 47 (C14_merged bp rp) = (splitOn 47 bp).dropLast ++ splitOn 47 rp := by
  unfold C14_merged
  rw [← joinC_dropLast bp]
  have hseg : Segs (splitOn 47 bp).dropLast := segs_dropLast (segs_splitOn bp)
  generalize (splitOn 47 bp).dropLast = D at hseg
  by_cases hD : D = []
  · subst hD; simp [joinC, joinSep]
  · rw [PathLemmas.joinC_snoc 47 D [] hD, List.append_assoc, List.cons_append, List.nil_append, splitOn_append 47,
      splitOn_joinC D hD hseg]

/-- hence `C14_deviates` reads off the two segment lists -/
theorem C14_deviates_segments (bp rp : Str) :
    C14_deviates bp rp =
      (!rp.isEmpty && rp.head? != some 47 && bp.head? != some 47 &&
        C14_escapes ((splitOn 47 bp).dropLast ++ splitOn 47 rp)) := by
  unfold C14_deviates C14_pathEscapes
  rw [C14_merged_segments]

/-- "no '.' in either path" (the hypothesis of `C14_headline_join_rfc_rootless_base`) is a special case -/
theorem C14_deviates_false_of_no_dot (bp rp : Str) (h : 46 ∉ bp ∧ 46 ∉ rp) : C14_deviates bp rp = false := by
  have : C14_pathEscapes (C14_merged bp rp) = false := by
    apply R4.pathEscapes_false_of_no_dot
    unfold C14_merged
    simp only [List.mem_append, List.mem_reverse, not_or]
    exact ⟨fun hm => h.1 (List.mem_reverse.1 ((List.dropWhile_sublist _).subset hm)), h.2⟩
  simp [C14_deviates, this]

namespace R4

/-- the merged path is rootless when base path and reference path are -/
theorem merged_rootless (bp rp : Str) (hb : bp.head? ≠ some 47) (hr : rp.head? ≠ some 47) :
    (C14_merged bp rp).head? ≠ some 47 :=
  upToLastSlash_rootless bp rp hb hr

/-- a rootless reference path against a base for which §5.2.3 takes its second case: the target is the merged path -/
theorem target_eq_merged (base ref : Url) (hr : ref.path.head? ≠ some 47) (h : base.netloc = [] ∨ base.path ≠ []) :
    target base ref = C14_merged base.path ref.path := by
  rw [target_of_rootless hr, merge_upTo base _ h]
  rfl

/-- the path of the relative branch against §5.2.4 of the §5.2.3 target, base without authority -/
theorem joinPath_vs_rds (base ref : Url) (hnet : base.netloc = []) (hp : ref.path ≠ []) :
    Rfc.removeDotSegments (target base ref)
      = (if C14_deviates base.path ref.path then [47] else []) ++ joinPath base ref := by
  rw [JoinLemmas.joinPath_vs_rds base ref (Or.inl hnet) hp]
  congr 2
  -- `C14_deviates` spells out "the target is rootless" on the two paths
  by_cases hr : ref.path.head? = some 47
  · simp [target, C14_deviates, hr]
  · have hT := target_eq_merged base ref hr (.inl hnet)
    by_cases hb : base.path.head? = some 47
    · obtain ⟨q, hq⟩ := target_rooted base ref (Or.inr (Or.inl hb))
      simp [C14_deviates, hb, hq]
    · simp [hT, C14_deviates, hr, hb, hp, merged_rootless base.path ref.path hb hr]

end R4

/-! ## join against §5.2.2: the exact statement -/

/-- EXACT relation between `join` and RFC 3986 §5.2.2 for a base WITHOUT authority and a reference WITHOUT authority:
    all components agree except, possibly, the path, and the RFC's path is `join`'s path with ONE '/' in front exactly when `C14_deviates base.path ref.path` — never anything else. -/
theorem C14_join_vs_rfc (e : Env) (base ref : Url)
    (hrel : Gen.usesRelative.contains base.scheme = true)
    (hsch : ref.scheme = [] ∨ ref.scheme = base.scheme)
    (hnet : base.netloc = []) (hrn : ref.netloc = []) :
    Rfc.resolve (p5 base) (p5 ref) =
      { p5 (join e base ref) with
        path := (if C14_deviates base.path ref.path then [47] else []) ++ (join e base ref).path } := by
  have hj := p5_join e base ref hrel hsch
  rw [if_pos hrn] at hj
  rw [resolve_eq base ref hsch, if_pos hrn, join_path e base ref hrel hsch hrn, hj]
  by_cases hp : ref.path = []
  · simp [hp, C14_deviates, joinPath]
  · simp [hp, R4.joinPath_vs_rds base ref hnet hp]

/-- THE IFF: for a base without authority
    and a reference without authority, `join` IS RFC 3986 §5.2.2 reference resolution if and only if
    `C14_deviates base.path ref.path = false`. -/
theorem C14_join_rfc_iff (e : Env) (base ref : Url)
    (hrel : Gen.usesRelative.contains base.scheme = true)
    (hsch : ref.scheme = [] ∨ ref.scheme = base.scheme)
    (hnet : base.netloc = []) (hrn : ref.netloc = []) :
    p5 (join e base ref) = Rfc.resolve (p5 base) (p5 ref) ↔ C14_deviates base.path ref.path = false := by
  rw [C14_join_vs_rfc e base ref hrel hsch hnet hrn]
  cases C14_deviates base.path ref.path
  · simp [p5]
  · simp only [if_true, Bool.true_eq_false, iff_false]
    exact fun h => List.cons_ne_self _ _ (congrArg Rfc.Parts5.path h).symm

/-- outside the condition there is ALWAYS a difference, and it is exactly one leading '/' of the path -/
theorem C14_join_rfc_deviation (e : Env) (base ref : Url)
    (hrel : Gen.usesRelative.contains base.scheme = true)
    (hsch : ref.scheme = [] ∨ ref.scheme = base.scheme)
    (hnet : base.netloc = []) (hrn : ref.netloc = [])
    (hd : C14_deviates base.path ref.path = true) :
    (Rfc.resolve (p5 base) (p5 ref)).path = 47 :: (join e base ref).path ∧
    (Rfc.resolve (p5 base) (p5 ref)).scheme = (join e base ref).scheme ∧
    (Rfc.resolve (p5 base) (p5 ref)).authority = (join e base ref).netloc ∧
    (Rfc.resolve (p5 base) (p5 ref)).query = (join e base ref).query ∧
    (Rfc.resolve (p5 base) (p5 ref)).fragment = (join e base ref).fragment ∧
    p5 (join e base ref) ≠ Rfc.resolve (p5 base) (p5 ref) := by
  have hne : p5 (join e base ref) ≠ Rfc.resolve (p5 base) (p5 ref) :=
    mt (C14_join_rfc_iff e base ref hrel hsch hnet hrn).1 (by simp [hd])
  rw [C14_join_vs_rfc e base ref hrel hsch hnet hrn, hd] at hne ⊢
  exact ⟨rfl, rfl, rfl, rfl, rfl, hne⟩

/-- `C14_headline_join_rfc_rootless_base` RESTATED with the exact condition in place of "no '.' in either path"
    (any reference: one with its own authority is taken as it is, hence `href` as in `C14_headline_join_rfc`) -/
theorem C14_headline_join_rfc_rootless_base_exact (e : Env) (base ref : Url)
    (hrel : Gen.usesRelative.contains base.scheme = true)
    (hsch : ref.scheme = [] ∨ ref.scheme = base.scheme)
    (hnet : base.netloc = [])
    (href : ref.netloc ≠ [] → Rfc.removeDotSegments ref.path = ref.path)
    -- exactly the finding F-C14-rootless-base is excluded: a ".." of the rootless merged path pops its first segment
    (hex : ref.netloc = [] → C14_deviates base.path ref.path = false) :
    p5 (join e base ref) = Rfc.resolve (p5 base) (p5 ref) := by
  by_cases hrn : ref.netloc = []
  · exact (C14_join_rfc_iff e base ref hrel hsch hnet hrn).2 (hex hrn)
  · exact join_rfc_of_path e base ref hrel hsch href (fun h => absurd h hrn)

/-- ALL bases at once (every base except a rootless non-empty path NEXT TO an authority, which only `encoded=True` can
    make: `C14_rootless_authority_base_counterexample`), reference without authority: `join` is RFC 3986 §5.2.2 iff
    the base has an authority or `C14_deviates` is false.  (With an authority nothing is excluded: that is
    `C14_headline_join_rfc`.) -/
theorem C14_join_rfc_iff_general (e : Env) (base ref : Url)
    (hrel : Gen.usesRelative.contains base.scheme = true)
    (hsch : ref.scheme = [] ∨ ref.scheme = base.scheme)
    (hb : base.netloc = [] ∨ base.path = [] ∨ base.path.head? = some 47)
    (hrn : ref.netloc = []) :
    p5 (join e base ref) = Rfc.resolve (p5 base) (p5 ref) ↔
      (base.netloc = [] → C14_deviates base.path ref.path = false) := by
  by_cases hnet : base.netloc = []
  · rw [C14_join_rfc_iff e base ref hrel hsch hnet hrn]
    exact ⟨fun h _ => h, fun h => h hnet⟩
  · exact ⟨fun _ h => absurd h hnet,
      fun _ => C14_join_rfc e base ref hrel hsch (hb.resolve_left hnet) (fun h => absurd h hnet)
        (fun h => absurd hrn h)⟩

/-- `C14_headline_join_rfc_rootless_base` is the special case "no '.' in either path" -/
theorem C14_headline_join_rfc_rootless_base_again (e : Env) (base ref : Url)
    (hrel : Gen.usesRelative.contains base.scheme = true)
    (hsch : ref.scheme = [] ∨ ref.scheme = base.scheme)
    (hnet : base.netloc = [])
    (href : ref.netloc ≠ [] → Rfc.removeDotSegments ref.path = ref.path)
    (hnodot : 46 ∉ base.path ∧ 46 ∉ ref.path) :
    p5 (join e base ref) = Rfc.resolve (p5 base) (p5 ref) :=
  C14_headline_join_rfc_rootless_base_exact e base ref hrel hsch hnet href
    (fun _ => C14_deviates_false_of_no_dot _ _ hnodot)

/-! ## `climbs` / `C14_escapes` without a loop: prefix counts -/

/-- a segment that is neither "." nor ".." -/
def C14_ordinarySeg (s : Str) : Bool := decide (s ≠ dot ∧ s ≠ dotdot)

namespace R4

theorem climbs_iff_prefix (R : List Str) : ∀ d, climbs d R = true ↔
    ∃ k, d + ((R.take k).filter C14_ordinarySeg).length < (R.take k).count dotdot := by
  induction R with
  | nil => intro d; simp [climbs]
  | cons s R ih =>
    intro d
    -- the empty prefix has no ".."; the others are `s :: R.take k`
    rw [climbs_cons, ← Nat.or_exists_add_one]
    simp only [List.take_zero, List.filter_nil, List.length_nil, List.count_nil, Nat.add_zero, Nat.not_lt_zero,
      false_or, List.take_succ_cons, List.filter_cons]
    by_cases h1 : s = dotdot
    · subst h1
      have ho : C14_ordinarySeg dotdot = false := by decide +kernel
      simp only [if_true, ho, Bool.false_eq_true, if_false, List.count_cons_self]
      cases d with
      | zero => simpa using ⟨0, by simp⟩
      | succ d' =>
        rw [ih d']
        exact exists_congr fun k => by omega
    · rw [if_neg h1]
      simp only [List.count_cons_of_ne h1]
      by_cases h2 : s = dot
      · subst h2
        have ho : C14_ordinarySeg dot = false := by decide +kernel
        simp only [if_true, ho, Bool.false_eq_true, if_false]
        exact ih d
      · have ho : C14_ordinarySeg s = true := by simp [C14_ordinarySeg, h1, h2]
        simp only [if_neg h2, ho, if_true, List.length_cons]
        rw [ih (d + 1)]
        exact exists_congr fun k => by omega
end R4

/-- CLOSED FORM of the condition: let `R` be the '/'-segments of the path after its leading "." / ".." segments and
    the ONE segment that follows them.  The path escapes iff some prefix of `R` has more ".." segments than ordinary
    (non-dot) ones. -/
theorem C14_pathEscapes_iff (m : Str) :
    C14_pathEscapes m = true ↔
      ∃ k, (((((splitOn 47 m).dropWhile (fun s => decide (s = dot ∨ s = dotdot))).drop 1).take k).filter
              C14_ordinarySeg).length
          < ((((splitOn 47 m).dropWhile (fun s => decide (s = dot ∨ s = dotdot))).drop 1).take k).count dotdot := by
  unfold C14_pathEscapes
  rw [C14_escapes_eq, R4.climbs_iff_prefix]
  simp

/-! ## witnesses and non-vacuity (Python calls in the comments) -/

section witnesses
private def rb (p : String) : Url := fromParts [] [] p.toStr [] []

-- the condition, computed: dot segments that do NOT pop the first segment are harmless …
example : C14_deviates "a/b/c".toStr "../d".toStr = false := by decide +kernel          -- merged a/b/../d
example : C14_deviates "a/b/c".toStr "./d/../e/.".toStr = false := by str_lits; decide +kernel
example : C14_deviates "../x/y".toStr "z".toStr = false := by decide +kernel            -- leading ".." of the base: dropped by both
example : C14_deviates [] "../b".toStr = false := by decide +kernel                     -- URL("").join(URL("../b")) == URL("b")
example : C14_deviates "a/b".toStr "/../c".toStr = false := by decide +kernel           -- rooted reference: never
example : C14_deviates "/a/b".toStr "../../../c".toStr = false := by decide +kernel     -- rooted base: never
-- … those that do are exactly the finding
example : C14_deviates "a/b".toStr "..".toStr = true := by decide +kernel               -- merged a/..
example : C14_deviates "a/b".toStr "../../c".toStr = true := by str_lits; decide +kernel
example : C14_deviates "a/b/c".toStr "../../d".toStr = true := by decide +kernel        -- merged a/b/../../d
example : C14_deviates "../x/y".toStr "../z".toStr = true := by decide +kernel          -- merged ../x/../z: "x" is popped
example : C14_deviates [] "a/../b".toStr = true := by decide +kernel                    -- URL("").join(URL("a/../b"))
example : C14_deviates "x".toStr ".//..".toStr = true := by decide +kernel              -- the popped first segment may be EMPTY

/-- `URL("a/b/c").join(URL("../d"))` is `a/d`, exactly RFC 3986 — a case with dot segments and a rootless base that
    `C14_headline_join_rfc_rootless_base` ("no '.' in either path") did not cover -/
example (e : Env) : p5 (join e (rb "a/b/c") (rb "../d")) = Rfc.resolve (p5 (rb "a/b/c")) (p5 (rb "../d")) ∧
    (join e (rb "a/b/c") (rb "../d")).path = "a/d".toStr :=
  ⟨(C14_join_rfc_iff e _ _ (by decide +kernel) (by decide +kernel) rfl rfl).2 (by decide +kernel), by simp only [join]; decide +kernel⟩

/-- `URL("a/b/c").join(URL("../../d"))` is `d`; RFC 3986: `/d` — from the general theorem -/
example (e : Env) : (Rfc.resolve (p5 (rb "a/b/c")) (p5 (rb "../../d"))).path
      = 47 :: (join e (rb "a/b/c") (rb "../../d")).path ∧
    (join e (rb "a/b/c") (rb "../../d")).path = "d".toStr :=
  ⟨(C14_join_rfc_deviation e _ _ (by decide +kernel) (by decide +kernel) rfl rfl (by decide +kernel)).1, by simp only [join]; decide +kernel⟩

/-- `URL("../x/y").join(URL("../z"))` is `z`; RFC 3986: `/z` (rule A drops the leading "../", then ".." pops "x") -/
example (e : Env) : p5 (join e (rb "../x/y") (rb "../z")) ≠ Rfc.resolve (p5 (rb "../x/y")) (p5 (rb "../z")) ∧
    (join e (rb "../x/y") (rb "../z")).path = "z".toStr ∧
    (Rfc.resolve (p5 (rb "../x/y")) (p5 (rb "../z"))).path = "/z".toStr :=
  ⟨(C14_join_rfc_deviation e _ _ (by decide +kernel) (by decide +kernel) rfl rfl (by decide +kernel)).2.2.2.2.2,
   by simp only [join]; decide +kernel, by decide +kernel⟩

/-- `C14_join_rfc_iff_general` at the RFC's own base `http://a/b/c/d;p?q` (authority: nothing to check) and at the
    authority-less `a/b/c` -/
example (e : Env) : p5 (join e rfcBase (rel "../../../g" "" "")) = Rfc.resolve (p5 rfcBase) (p5 (rel "../../../g" "" "")) :=
  (C14_join_rfc_iff_general e _ _ (by decide +kernel) (by decide +kernel) (by decide +kernel) rfl).2 (fun h => absurd h (by decide +kernel))
example (e : Env) : p5 (join e (rb "a/b/c") (rb "./../d")) = Rfc.resolve (p5 (rb "a/b/c")) (p5 (rb "./../d")) :=
  (C14_join_rfc_iff_general e _ _ (by decide +kernel) (by decide +kernel) (Or.inl rfl) rfl).2 (fun _ => by decide +kernel)

-- §5.2.4 on rootless paths, computed, next to the stack algorithm
example : Rfc.removeDotSegments "a/b/../../c".toStr = "/c".toStr ∧ normalizePath "a/b/../../c".toStr = "c".toStr ∧
    C14_pathEscapes "a/b/../../c".toStr = true := by str_lits; decide +kernel
example : Rfc.removeDotSegments "../a/b/../c/.".toStr = "a/c/".toStr ∧
    normalizePath "../a/b/../c/.".toStr = "a/c/".toStr ∧ C14_pathEscapes "../a/b/../c/.".toStr = false := by str_lits; decide +kernel
-- the prefix-count form at a witness: R = ["b", "..", "..", "c"], prefix of length 3 has two ".." and one ordinary
example : C14_pathEscapes "a/b/../../c".toStr = true := (C14_pathEscapes_iff _).2 ⟨3, by decide +kernel⟩
end witnesses

end Yarl
