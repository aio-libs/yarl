/-
  C06Decode.lean — the decoded accessors equal an INDEPENDENT, textbook specification of UTF-8 percent-decoding,
  `Rfc.pctUtf8Decode keep plusIsSpace` (the first section: no reference to the unquoter state machine, to `decodeBuf`,
  `DecodeSpec`, `takeEscape`, `restoreCh` or the quoters; it uses the model's UTF-8 ENCODER `utf8` only).

    * scan left to right; a maximal run of well-formed escapes `%XX` (`escapeRun`) is turned into bytes;
    * the bytes are decoded by maximal well-formed subsequences (`decodeEscapes` / `utf8Head`: the sequence announced
      by the lead byte must be exactly the UTF-8 encoding of the code point it carries — `utf8Head_iff`: it is THE
      code point whose encoding is a prefix of the bytes); a decoded code point `c` is emitted literally unless
      `keep c`, in which case the library RE-QUOTES it — the output is its upper-case percent-encoding `pctEncode c`,
      whatever hex case the input used (`%2f` → `%2F`);
    * an escape that starts no well-formed sequence is copied VERBATIM, as written; a `%` not followed by two hex
      digits is literal; '+' becomes ' ' iff `plusIsSpace`.

  Results (0 and 3 are about `Rfc.pctUtf8Decode` alone; 1 and 2 hold for both backends and every input):
    0. `C06_utf8Head_textbook`, `C06_spec_hex_agrees`
    1. `C06_unquoter_keep_sets`, `C06_unquoter_keep_examples`, `C06_decodeSpec_is_pctUtf8`, `C06_unquoter_is_pctUtf8`, `C06_unquoter_is_pctUtf8_of_table`
    2. `C06_*_is_decoding`, `C06_accessors_are_pctUtf8_decodings`; `C06_qs_decodes_utf8`, `C06_path_safe_decodes_utf8`
    3. `C06_pct_append`, `C06_pct_malformed_verbatim`, `C06_pct_invalid_verbatim`, `C06_pct_truncated_verbatim`,
       `C06_pct_surrogate_verbatim`, `C06_pct_valid_sequence`, `C06_pct_malformed_examples`
  Which level to cite: what an unquoter returns on a text — this file (`C06_unquoter_is_pctUtf8`, then the `C06_pct_*`
  algebra); the machine in an arbitrary state (pending bytes) — `Readback.uqLoop_*` and C06.lean; `DecodeSpec`
  (C06Spec.lean) is the bridge between the two and is cited through `C06_spec_nil/_plain/_run` only; one character
  through a generated unquoter — `DecLemmas.uqPlain_*` / `uqEmit_*`.
-/
import YarlProofs.Lemmas.DecMore
import YarlProofs.Lemmas.QsMore
namespace Yarl

/-! ## the independent specification -/

namespace Rfc

/-- value of a hexadecimal digit (either case) -/
def hexValue (c : Nat) : Option Nat :=
  if 48 ≤ c ∧ c ≤ 57 then some (c - 48) else if 65 ≤ c ∧ c ≤ 70 then some (c - 55)
  else if 97 ≤ c ∧ c ≤ 102 then some (c - 87) else none
/-- upper-case hexadecimal digit -/
def hexDigit (v : Nat) : Nat := if v < 10 then 48 + v else 55 + v
/-- percent-encoding of a code point: `%XX` (upper case) for every byte of its UTF-8 encoding -/
def pctEncode (c : Nat) : Str := (utf8 c).flatMap fun b => [37, hexDigit (b / 16), hexDigit (b % 16)]
/-- the maximal run of well-formed escapes `%XX` at the start of a string — each with its byte and its three
    characters AS WRITTEN — and the rest of the string -/
def escapeRun : Str → List (Nat × Str) × Str
  | 37 :: d1 :: d2 :: r =>
    match hexValue d1, hexValue d2 with
    | some a, some b => ((16 * a + b, [37, d1, d2]) :: (escapeRun r).1, (escapeRun r).2)
    | _, _ => ([], 37 :: d1 :: d2 :: r)
  | s => ([], s)
/-- length of a UTF-8 sequence as announced by its lead byte -/
def seqLen (b0 : Nat) : Nat := if b0 < 0x80 then 1 else if b0 < 0xE0 then 2 else if b0 < 0xF0 then 3 else 4
/-- the payload bits of a sequence: 7 / 5 / 4 / 3 bits of the lead byte, 6 bits of every further byte -/
def payload : List Nat → Nat
  | [b0] => b0
  | [b0, b1] => b0 % 32 * 64 + b1 % 64
  | [b0, b1, b2] => b0 % 16 * 4096 + b1 % 64 * 64 + b2 % 64
  | [b0, b1, b2, b3] => b0 % 8 * 262144 + b1 % 64 * 4096 + b2 % 64 * 64 + b3 % 64
  | _ => 0
/-- the code point at the head of a byte string and the number of bytes it takes: the bytes announced by the lead byte
    must be EXACTLY the UTF-8 encoding of the code point they carry (this rejects stray continuation bytes, truncated
    and overlong sequences, surrogates and values above U+10FFFF: `utf8` encodes none of them to these bytes) -/
def utf8Head : List Nat → Option (Nat × Nat)
  | [] => none
  | b0 :: bs => let w := (b0 :: bs).take (seqLen b0)
    if w = utf8 (payload w) then some (payload w, w.length) else none
/-- a run of escapes decoded as UTF-8 by maximal well-formed subsequences: a well-formed sequence becomes its code
    point (re-encoded, upper case, when `keep` says it must stay encoded); an escape that starts no well-formed sequence
    is copied as written -/
def decodeEscapes (keep : Nat → Bool) : List (Nat × Str) → Str
  | [] => []
  | e :: es =>
    match utf8Head (e.1 :: es.map (·.1)) with
    | some (c, k) => (if keep c then pctEncode c else [c]) ++ decodeEscapes keep (es.drop (k - 1))
    | none => e.2 ++ decodeEscapes keep es
termination_by l => l.length
decreasing_by all_goals simp_wf; all_goals omega
theorem escapeRun_length : ∀ s : Str, (escapeRun s).2.length + 3 * (escapeRun s).1.length = s.length := by
  intro s
  fun_induction escapeRun s <;> simp_all <;> omega
set_option linter.unusedVariables false in
/-- UTF-8 percent-decoding: maximal runs of well-formed escapes are decoded by `decodeEscapes`; every other character —
    including a `%` not followed by two hex digits — is literal, except that '+' is a space iff `plusIsSpace` -/
def pctUtf8Decode (keep : Nat → Bool) (plusIsSpace : Bool) : Str → Str
  | [] => []
  | c :: r =>
    match h : escapeRun (c :: r) with
    | ([], _) => (if c = 43 ∧ plusIsSpace = true then 32 else c) :: pctUtf8Decode keep plusIsSpace r
    | (e :: es, r') => decodeEscapes keep (e :: es) ++ pctUtf8Decode keep plusIsSpace r'
termination_by s => s.length
decreasing_by
  all_goals simp_wf
  all_goals (have := escapeRun_length (c :: r); rw [h] at this; simp at this; omega)
end Rfc

/-! ### not part of the specification: vocabulary for the theorems below -/

namespace Rfc
set_option linter.unusedVariables false in
/-- the bytes of all well-formed escapes `%XX` of a string, in order -/
def escapeBytes : Str → List Nat
  | [] => []
  | c :: r =>
    match h : escapeRun (c :: r) with
    | ([], _) => escapeBytes r
    | (e :: es, r') => (e :: es).map (·.1) ++ escapeBytes r'
termination_by s => s.length
decreasing_by
  all_goals simp_wf
  all_goals (have := escapeRun_length (c :: r); rw [h] at this; simp at this; omega)
end Rfc

/-! ## the `keep` set and the '+' flag of an unquoter configuration, READ OFF ITS TABLE -/

/-- the characters an `_Unquoter(ignore=…, unsafe=…, qs=…)` keeps encoded: a character decoded out of escapes is sent
    back through `_Quoter(qs=True)` when `qs` and it is one of "+=&;", through `_Quoter()` when it is in `unsafe` or
    `ignore`; it stays encoded iff that quoter does not keep it literal -/
def UArgs.keeps (a : UArgs) (b : Backend) (c : Nat) : Bool :=
  if a.qs = true ∧ mem c "+=&;".toStr = true then !(defaultQsQuoterArgs.tab b).safe c
  else (mem c a.unsafeS || mem c a.ignoreS) && !(defaultQuoterArgs.tab b).safe c

/-- a literal '+' is a space: `qs` and '+' not `unsafe` -/
def UArgs.plusIsSpace (a : UArgs) : Bool := a.qs && !mem 43 a.unsafeS

/-- no character stays encoded -/
abbrev keepNone : Nat → Bool := fun _ => false
/-- '/' and '%' stay encoded -/
abbrev keepSlashPercent : Nat → Bool := fun c => c == 0x2F || c == 0x25
/-- '+' '=' '&' ';' stay encoded -/
abbrev keepQsDelims : Nat → Bool := fun c => c == 0x2B || c == 0x3D || c == 0x26 || c == 0x3B

namespace DecMore
open Rfc DecLemmas Readback UnquoteEquiv SpecLemmas GenTabs



/-! ### hex digits: the specification's own tables agree with the library's -/

theorem hexValue_eq (c : Nat) : hexValue c = fromHex c := by
  unfold hexValue fromHex
  by_cases h1 : 48 ≤ c ∧ c ≤ 57
  · simp only [h1, and_self, if_true]
  by_cases h2 : 65 ≤ c ∧ c ≤ 70
  · simp only [h1, h2, and_self, if_true, if_false, Option.some.injEq]; omega
  by_cases h3 : 97 ≤ c ∧ c ≤ 102
  · simp only [h1, h2, h3, and_self, if_true, if_false, Option.some.injEq]; omega
  · simp only [h1, h2, h3, if_false]

theorem hexDigit_eq (v : Nat) : hexDigit v = toHex v := by
  unfold hexDigit toHex
  split <;> omega

theorem pctEncode_eq (c : Nat) : pctEncode c = writeUtf8 c := by
  unfold pctEncode writeUtf8 pct
  simp only [hexDigit_eq]

theorem pctEncode_ascii (c : Nat) (hc : c < 128) : pctEncode c = pct c := by
  rw [pctEncode_eq, writeUtf8, utf8_ascii hc]; simp



/-! ### `utf8Head`: THE code point whose encoding starts the byte string -/

theorem utf8Head_some {bs : List Nat} {c k : Nat} (h : utf8Head bs = some (c, k)) :
    c ≤ 0x10FFFF ∧ isSurrogate c = false ∧ k = (utf8 c).length ∧ 0 < k ∧ bs.take k = utf8 c := by
  match bs, h with
  | [], h => simp [utf8Head] at h
  | b0 :: t, h =>
    simp only [utf8Head] at h
    split at h
    · rename_i hw
      simp only [Option.some.injEq, Prod.mk.injEq] at h
      obtain ⟨hc, hk⟩ := h
      rw [hc] at hw
      have hpos : 0 < seqLen b0 := by unfold seqLen; split <;> (try split) <;> (try split) <;> omega
      have hne : List.take (seqLen b0) (b0 :: t) ≠ [] := by
        cases hsl : seqLen b0 with
        | zero => omega
        | succ n => simp
      have hsc := utf8_scalar_of_ne_nil c (by rw [← hw]; exact hne)
      refine ⟨hsc.1, hsc.2, ?_, ?_, ?_⟩
      · rw [← hk, hw]
      · rw [← hk]; exact List.length_pos_iff.mpr hne
      · rw [← hk, ← hw, List.length_take]
        by_cases hle : seqLen b0 ≤ (b0 :: t).length
        · rw [Nat.min_eq_left hle]
        · rw [Nat.min_eq_right (by omega), List.take_of_length_le (Nat.le_refl _),
            List.take_of_length_le (by omega)]
    · cases h

/-- the lead byte of an encoding announces its length, and the payload bits of an encoding are its code point -/
theorem utf8_seqLen_payload (c : Nat) (hc : c ≤ 0x10FFFF) (hs : isSurrogate c = false) :
    (∃ b0 r, utf8 c = b0 :: r ∧ seqLen b0 = (utf8 c).length) ∧ payload (utf8 c) = c := by
  have h := Utf8Shape.of_utf8 c hc hs
  generalize utf8 c = bs at h ⊢
  unfold seqLen
  cases h with
  | one c h => exact ⟨⟨_, _, rfl, if_pos h⟩, rfl⟩
  | two a0 a1 =>
    refine ⟨⟨_, _, rfl, ?_⟩, ?_⟩
    · rw [if_neg (by omega), if_pos (by omega)]
      rfl
    · show (0xC0 + a0) % 32 * 64 + (0x80 + a1) % 64 = a0 * 64 + a1
      omega
  | three a0 a1 a2 =>
    refine ⟨⟨_, _, rfl, ?_⟩, ?_⟩
    · rw [if_neg (by omega), if_neg (by omega), if_pos (by omega)]
      rfl
    · show (0xE0 + a0) % 16 * 4096 + (0x80 + a1) % 64 * 64 + (0x80 + a2) % 64 = a0 * 4096 + a1 * 64 + a2
      omega
  | four a0 a1 a2 a3 =>
    refine ⟨⟨_, _, rfl, ?_⟩, ?_⟩
    · rw [if_neg (by omega), if_neg (by omega), if_neg (by omega)]
      rfl
    · show (0xF0 + a0) % 8 * 262144 + (0x80 + a1) % 64 * 4096 + (0x80 + a2) % 64 * 64 + (0x80 + a3) % 64 =
        a0 * 262144 + a1 * 4096 + a2 * 64 + a3
      omega

theorem utf8Head_prefix (c : Nat) (hc : c ≤ 0x10FFFF) (hs : isSurrogate c = false) (rest : List Nat) :
    utf8Head (utf8 c ++ rest) = some (c, (utf8 c).length) := by
  obtain ⟨⟨b0, r, e, hl⟩, hp⟩ := utf8_seqLen_payload c hc hs
  -- the window cut out by the lead byte is `utf8 c` itself
  have hw : (b0 :: (r ++ rest)).take (seqLen b0) = utf8 c := by
    rw [hl, ← List.cons_append, ← e, List.take_left]
  have hb : utf8 c ++ rest = b0 :: (r ++ rest) := by rw [e]; rfl
  rw [hb, utf8Head]
  simp only [hw, hp, if_true]

/-- `utf8Head` is what the textbook says: the (unique) code point whose UTF-8 encoding is a prefix of the bytes -/
theorem utf8Head_iff (bs : List Nat) (c k : Nat) :
    utf8Head bs = some (c, k) ↔
      c ≤ 0x10FFFF ∧ isSurrogate c = false ∧ k = (utf8 c).length ∧ ∃ rest, bs = utf8 c ++ rest := by
  constructor
  · intro h
    obtain ⟨h1, h2, h3, h4, h5⟩ := utf8Head_some h
    exact ⟨h1, h2, h3, bs.drop k, by rw [← h5, List.take_append_drop]⟩
  · rintro ⟨h1, h2, h3, rest, rfl⟩
    rw [h3]; exact utf8Head_prefix c h1 h2 rest

theorem utf8Head_none_iff (bs : List Nat) :
    utf8Head bs = none ↔ ∀ c, c ≤ 0x10FFFF → isSurrogate c = false → ∀ rest, bs ≠ utf8 c ++ rest := by
  constructor
  · intro h c hc hs rest hb
    rw [hb, utf8Head_prefix c hc hs rest] at h; cases h
  · intro h
    cases hh : utf8Head bs with
    | none => rfl
    | some p =>
      obtain ⟨c, k⟩ := p
      obtain ⟨h1, h2, _, rest, h4⟩ := (utf8Head_iff bs c k).mp hh
      exact absurd h4 (h c h1 h2 rest)



/-! ### `decodeEscapes`, one step -/

theorem decodeEscapes_nil (keep : Nat → Bool) : decodeEscapes keep [] = [] := by
  rw [decodeEscapes]

theorem decodeEscapes_some (keep : Nat → Bool) (e : Nat × Str) (es : List (Nat × Str)) (c k : Nat)
    (h : utf8Head (runBytes (e :: es)) = some (c, k)) :
    decodeEscapes keep (e :: es) =
      (if keep c = true then pctEncode c else [c]) ++ decodeEscapes keep ((e :: es).drop k) := by
  have hk := (utf8Head_some h).2.2.2.1
  rw [decodeEscapes]
  simp only [runBytes, List.map_cons] at h
  rw [h]
  simp only
  obtain ⟨k', rfl⟩ : ∃ k', k = k' + 1 := ⟨k - 1, by omega⟩
  simp

theorem decodeEscapes_none (keep : Nat → Bool) (e : Nat × Str) (es : List (Nat × Str))
    (h : utf8Head (runBytes (e :: es)) = none) :
    decodeEscapes keep (e :: es) = e.2 ++ decodeEscapes keep es := by
  rw [decodeEscapes]
  simp only [runBytes, List.map_cons] at h
  rw [h]

theorem utf8Head_badLead (b : Nat) (hb : BadLead b) (rest : List Nat) : utf8Head (b :: rest) = none := by
  rw [utf8Head_none_iff]
  intro c hc hs r h
  obtain ⟨b0, r0, e, hn, _⟩ := utf8_bytes c hc hs
  rw [e] at h
  simp only [List.cons_append, List.cons.injEq] at h
  rw [← h.1] at hn
  unfold BadLead at hb
  omega

/-- escapes of continuation bytes at the start of a run are copied as written -/
theorem decodeEscapes_cont (keep : Nat → Bool) (qs : List (Nat × Str)) (hq : ∀ e ∈ qs, isCont e.1 = true)
    (tl : List (Nat × Str)) : decodeEscapes keep (qs ++ tl) = runText qs ++ decodeEscapes keep tl := by
  induction qs with
  | nil => rfl
  | cons q qs ih =>
    rw [List.cons_append, decodeEscapes_none keep q (qs ++ tl)
      (utf8Head_badLead _ (badLead_of_cont (hq q (by simp))) _),
      ih (fun e he => hq e (List.mem_cons_of_mem _ he))]
    simp [runText]

/-! ### pending escapes (every non-empty prefix an incomplete sequence) and `utf8Head` -/

/-- pending escapes that stay pending to the end of the run start no well-formed sequence -/
theorem utf8Head_pending {ps : List (Nat × Str)} (hp : Pending ps) : utf8Head (runBytes ps) = none := by
  cases hh : utf8Head (runBytes ps) with
  | none => rfl
  | some q =>
    obtain ⟨c, k⟩ := q
    obtain ⟨hc, hs, hk, h0, ht⟩ := utf8Head_some hh
    have hle : k ≤ ps.length := by
      have := congrArg List.length ht
      rw [List.length_take, ← hk] at this
      simp only [List.length_map] at this
      omega
    have := pending_take_incomplete hp [] k h0 hle
    rw [List.append_nil, ht, decodeBuf_utf8 c hc hs] at this
    cases this

/-- … nor do pending escapes that the next escape cannot continue -/
theorem utf8Head_pending_invalid {ps : List (Nat × Str)} (hp : Pending ps) (e : Nat × Str)
    (tl : List (Nat × Str)) (h : decodeBuf (runBytes ps ++ [e.1]) = .invalid) :
    utf8Head (runBytes (ps ++ e :: tl)) = none := by
  cases hh : utf8Head (runBytes (ps ++ e :: tl)) with
  | none => rfl
  | some q =>
    obtain ⟨c, k⟩ := q
    obtain ⟨hc, hs, hk, h0, ht⟩ := utf8Head_some hh
    exfalso
    by_cases hle : k ≤ ps.length
    · have := pending_take_incomplete hp (e :: tl) k h0 hle
      rw [ht, decodeBuf_utf8 c hc hs] at this
      cases this
    · have h1 : (runBytes (ps ++ e :: tl)).take (ps.length + 1) = runBytes ps ++ [e.1] :=
        (firstDecided_snoc hp e tl (by rw [h]; simp)).2
      have h2 : (utf8 c).take (ps.length + 1) = runBytes ps ++ [e.1] := by
        rw [← ht, List.take_take, Nat.min_eq_left (by omega), h1]
      by_cases heq : k = ps.length + 1
      · rw [heq] at hk
        rw [hk, List.take_of_length_le (Nat.le_refl _)] at h2
        rw [← h2, decodeBuf_utf8 c hc hs] at h
        cases h
      · have := decodeBuf_utf8_prefix c hc hs (ps.length + 1) (by omega) (by omega)
        rw [h2, h] at this
        cases this

/-- the next escape completes the pending ones to the encoding of `c` -/
theorem utf8Head_pending_char (ps : List (Nat × Str)) (e : Nat × Str) (tl : List (Nat × Str)) (c : Nat)
    (h : decodeBuf (runBytes ps ++ [e.1]) = .char c) :
    utf8Head (runBytes (ps ++ e :: tl)) = some (c, ps.length + 1) ∧ c ≤ 0x10FFFF ∧ isSurrogate c = false := by
  obtain ⟨hb, hc, hs⟩ := decodeBuf_char h
  refine ⟨?_, hc, hs⟩
  have : runBytes (ps ++ e :: tl) = utf8 c ++ runBytes tl := by
    rw [← hb]; simp [runBytes]
  rw [this, utf8Head_prefix c hc hs]
  congr 2
  rw [← hb]; simp

/-- pending escapes followed by something they do not combine with are copied as written -/
theorem decodeEscapes_pending (keep : Nat → Bool) {ps : List (Nat × Str)} (hp : Pending ps)
    (tl : List (Nat × Str)) (h : ps ≠ [] → utf8Head (runBytes (ps ++ tl)) = none) :
    decodeEscapes keep (ps ++ tl) = runText ps ++ decodeEscapes keep tl := by
  match ps, hp, h with
  | [], _, _ => rfl
  | p :: ps', hp, h =>
    rw [List.cons_append, decodeEscapes_none keep p (ps' ++ tl) (h (by simp)),
      decodeEscapes_cont keep ps' (pending_tail_cont p ps' hp)]
    simp [runText]

/-! ### the run decoder of the project specification IS the textbook one -/

theorem decodeRun_eq_decodeEscapes (b : Backend) (u : UTab) (keep : Nat → Bool)
    (hemit : ∀ c, c ≤ 0x10FFFF → isSurrogate c = false →
      uqEmit b u c = if keep c = true then pctEncode c else [c]) :
    ∀ n (es : List (Nat × Str)), es.length ≤ n → decodeRun b u es = decodeEscapes keep es := by
  intro n
  induction n with
  | zero =>
    intro es hl
    have : es = [] := List.eq_nil_of_length_eq_zero (by omega)
    subst this
    rw [decodeRun_nil, decodeEscapes_nil]
  | succ n ih =>
    intro es hl
    rcases split_pending es with hp | ⟨ps, e, tl, rfl, hp, hd⟩
    · rw [decodeRun_pending b u hp]
      have := decodeEscapes_pending keep hp [] (fun _ => by rw [List.append_nil]; exact utf8Head_pending hp)
      rw [List.append_nil, decodeEscapes_nil, List.append_nil] at this
      exact this.symm
    · simp only [List.length_append, List.length_cons] at hl
      cases hdb : decodeBuf (runBytes ps ++ [e.1]) with
      | incomplete => exact absurd hdb hd
      | char c =>
        obtain ⟨hh, hc, hs⟩ := utf8Head_pending_char ps e tl c hdb
        rw [decodeRun_char b u hp e tl c hdb, hemit c hc hs, ih tl (by omega)]
        match ps, hh with
        | [], hh =>
          rw [List.nil_append, decodeEscapes_some keep e tl c _ hh]
          simp
        | p :: ps', hh =>
          rw [List.cons_append, decodeEscapes_some keep p (ps' ++ e :: tl) c _ hh]
          simp
      | invalid =>
        by_cases hne : ps = []
        · subst hne
          have hh := utf8Head_pending_invalid pending_nil e tl hdb
          rw [List.nil_append] at hh ⊢
          rw [decodeRun_invalid_nil b u e tl (by simpa using hdb), decodeEscapes_none keep e tl hh,
            ih tl (by omega)]
        · have hh := utf8Head_pending_invalid hp e tl hdb
          have hpos : 0 < ps.length := List.length_pos_iff.mpr hne
          rw [decodeRun_invalid b u hp hne e tl hdb, decodeEscapes_pending keep hp (e :: tl) (fun _ => hh),
            ih (e :: tl) (by simp only [List.length_cons]; omega)]



/-! ### `escapeRun`: the maximal run of well-formed escapes -/

theorem restoreCh_hexValue {d1 d2 a b : Nat} (ha : hexValue d1 = some a) (hb : hexValue d2 = some b) :
    restoreCh d1 d2 = some (16 * a + b) := by
  rw [hexValue_eq] at ha hb
  simp only [restoreCh, ha, hb, Nat.mul_comm]

theorem restoreCh_none_of_hexValue {d1 d2 : Nat}
    (h : ∀ a b, hexValue d1 = some a → hexValue d2 = some b → False) : restoreCh d1 d2 = none := by
  simp only [hexValue_eq] at h
  unfold restoreCh
  cases h1 : fromHex d1 <;> cases h2 : fromHex d2 <;> simp
  exact h _ _ h1 h2

theorem escapeRun_spec (s : Str) :
    s = runText (escapeRun s).1 ++ (escapeRun s).2 ∧ (∀ e ∈ (escapeRun s).1, EscOK e) ∧
    ¬ StartsEscape (escapeRun s).2 ∧ ((escapeRun s).1 = [] → (escapeRun s).2 = s) := by
  fun_induction escapeRun s with
  | case1 d1 d2 r a b hb ha ih =>
    obtain ⟨h1, h2, h3, _⟩ := ih
    refine ⟨?_, ?_, h3, fun h => by simp at h⟩
    · simp only [runText, List.map_cons, List.flatten_cons, List.cons_append, List.nil_append]
      congr 3
    · intro e he
      simp only [List.mem_cons] at he
      rcases he with rfl | he
      · exact ⟨d1, d2, rfl, restoreCh_hexValue ha hb⟩
      · exact h2 e he
  | case2 d1 d2 r hno =>
    refine ⟨rfl, fun e he => by simp at he, ?_, fun _ => rfl⟩
    apply not_startsEscape_of_restoreCh_none
    apply restoreCh_none_of_hexValue
    intro a b ha hb
    exact hno a b ha hb
  | case3 s hno =>
    refine ⟨rfl, fun e he => by simp at he, ?_, fun _ => rfl⟩
    rintro ⟨d1, d2, r', v, rfl, hv⟩
    obtain ⟨a, b, ha, hb⟩ : ∃ a b, hexValue d1 = some a ∧ hexValue d2 = some b := by
      simp only [hexValue_eq]
      unfold restoreCh at hv
      cases h1 : fromHex d1 <;> cases h2 : fromHex d2 <;> simp [h1, h2] at hv
      exact ⟨_, _, rfl, rfl⟩
    exact hno d1 d2 r' rfl


/-! ### `pctUtf8Decode`, one step -/

theorem pctUtf8Decode_nil (keep : Nat → Bool) (plus : Bool) : pctUtf8Decode keep plus [] = [] := by
  rw [pctUtf8Decode]

theorem pctUtf8Decode_plain (keep : Nat → Bool) (plus : Bool) (c : Nat) (r : Str)
    (h : (escapeRun (c :: r)).1 = []) :
    pctUtf8Decode keep plus (c :: r) =
      (if c = 43 ∧ plus = true then 32 else c) :: pctUtf8Decode keep plus r := by
  rw [pctUtf8Decode]
  split
  · rfl
  · rename_i h'; rw [h'] at h; cases h

theorem pctUtf8Decode_run (keep : Nat → Bool) (plus : Bool) (s : Str) (h : (escapeRun s).1 ≠ []) :
    pctUtf8Decode keep plus s =
      decodeEscapes keep (escapeRun s).1 ++ pctUtf8Decode keep plus (escapeRun s).2 := by
  match s, h with
  | [], h => exact absurd rfl h
  | c :: r, h =>
    rw [pctUtf8Decode]
    split
    · rename_i h'; rw [h'] at h; exact absurd rfl h
    · rename_i h'; rw [h']

theorem escapeRun_noesc {s : Str} (h : ¬ StartsEscape s) : escapeRun s = ([], s) := by
  obtain ⟨h1, h2, h3, h4⟩ := escapeRun_spec s
  cases he : (escapeRun s).1 with
  | nil => exact Prod.ext he (h4 he)
  | cons e es =>
    exfalso
    obtain ⟨d1, d2, ht, hv⟩ := h2 e (by rw [he]; simp)
    apply h
    refine ⟨d1, d2, runText es ++ (escapeRun s).2, e.1, ?_, hv⟩
    conv => lhs; rw [h1, he]
    simp [runText, ht]

theorem pctUtf8Decode_unfold (keep : Nat → Bool) (plus : Bool) (s : Str) :
    pctUtf8Decode keep plus s =
      decodeEscapes keep (escapeRun s).1 ++ pctUtf8Decode keep plus (escapeRun s).2 := by
  by_cases h : (escapeRun s).1 = []
  · rw [h, (escapeRun_spec s).2.2.2 h, decodeEscapes_nil]; rfl
  · exact pctUtf8Decode_run keep plus s h

theorem pctUtf8Decode_noesc (keep : Nat → Bool) (plus : Bool) (c : Nat) (r : Str)
    (h : ¬ StartsEscape (c :: r)) :
    pctUtf8Decode keep plus (c :: r) =
      (if c = 43 ∧ plus = true then 32 else c) :: pctUtf8Decode keep plus r :=
  pctUtf8Decode_plain keep plus c r (by rw [escapeRun_noesc h])

/-- Induction over a string by the steps of `pctUtf8Decode`: a character that starts no escape is passed singly, a
    maximal run of escapes as a whole. -/
theorem escapeRun_induction {P : Str → Prop} (nil : P [])
    (plain : ∀ c r, ¬ StartsEscape (c :: r) → P r → P (c :: r))
    (run : ∀ s, StartsEscape s → P (escapeRun s).2 → P s) (s : Str) : P s := by
  match s with
  | [] => exact nil
  | c :: r =>
    by_cases hs : StartsEscape (c :: r)
    · -- the run is not empty, so what follows it is shorter
      obtain ⟨_, _, h3, h4⟩ := escapeRun_spec (c :: r)
      have hne : (escapeRun (c :: r)).1.length ≠ 0 := fun h0 =>
        h3 ((h4 (List.eq_nil_of_length_eq_zero h0)).symm ▸ hs)
      have hlt : (escapeRun (c :: r)).2.length < r.length + 1 := by
        have := escapeRun_length (c :: r)
        rw [List.length_cons] at this
        omega
      exact run _ hs (escapeRun_induction nil plain run _)
    · exact plain c r hs (escapeRun_induction nil plain run r)
termination_by s.length
decreasing_by all_goals simp_wf; all_goals omega

/-! ### the project specification IS the textbook one -/

theorem decodeSpec_eq (b : Backend) (u : UTab) (keep : Nat → Bool) (plus : Bool)
    (hplain : ∀ c, uqPlain u c = [if c = 43 ∧ plus = true then 32 else c])
    (hemit : ∀ c, c ≤ 0x10FFFF → isSurrogate c = false →
      uqEmit b u c = if keep c = true then pctEncode c else [c]) (s : Str) :
    DecodeSpec b u s = pctUtf8Decode keep plus s := by
  induction s using escapeRun_induction with
  | nil => rw [C06_spec_nil, pctUtf8Decode_nil]
  | plain c r hs ih =>
    rw [C06_spec_plain b u c r (Or.inr hs), hplain, pctUtf8Decode_noesc keep plus c r hs, ih]
    rfl
  | run s hs ih =>
    obtain ⟨h1, h2, h3, _⟩ := escapeRun_spec s
    rw [pctUtf8Decode_unfold]
    conv => lhs; rw [h1]
    rw [C06_spec_run b u _ h2 _ h3, decodeRun_eq_decodeEscapes b u keep hemit _ _ (Nat.le_refl _), ih]


theorem uqEmit_keeps (ua : UArgs) (b : Backend) (hun : ∀ x ∈ ua.unsafeS, x < 128)
    (hig : ∀ x ∈ ua.ignoreS, x < 128) (c : Nat) :
    uqEmit b (ua.tab b) c = if ua.keeps b c = true then pctEncode c else [c] := by
  have hqs0 : (defaultQuoterArgs.tab b).qs = false := by cases b <;> rfl
  -- the inner quoter on a character `c < 128`, for either of the two inner quoters
  have inner : ∀ q : QTab, q.WF → (q.qs = true → q.safe 32 = false) → c < 128 → ¬(q.qs = true ∧ c = 32) →
      quote b q [c] = if (!q.safe c) = true then pctEncode c else [c] := by
    intro q hq hsp hc h32
    rw [quote_ascii b q hq hsp c hc h32, pctEncode_ascii c hc]
    cases q.safe c <;> rfl
  unfold uqEmit UArgs.keeps
  show (if ua.qs = true ∧ mem c "+=&;".toStr = true then quote b (defaultQsQuoterArgs.tab b) [c]
    else if mem c ua.unsafeS = true ∨ mem c ua.ignoreS = true then quote b (defaultQuoterArgs.tab b) [c]
    else [c]) = _
  by_cases h1 : ua.qs = true ∧ mem c "+=&;".toStr = true
  · rw [if_pos h1, if_pos h1, inner _ (default_tabs_wf b).2 (fun _ => (default_space_unsafe b).2)
      (mem_lt_of_all (by decide +kernel) h1.2) (fun h => by rw [h.2] at h1; exact absurd h1.2 (by decide +kernel))]
  · rw [if_neg h1, if_neg h1]
    by_cases h2 : mem c ua.unsafeS = true ∨ mem c ua.ignoreS = true
    · rw [if_pos h2, inner _ (default_tabs_wf b).1 (fun _ => (default_space_unsafe b).1)
        (h2.elim (mem_lt_of_all hun) (mem_lt_of_all hig)) (by simp [hqs0])]
      have : (mem c ua.unsafeS || mem c ua.ignoreS) = true := by simpa using h2
      rw [this, Bool.true_and]
    · rw [if_neg h2]
      have : (mem c ua.unsafeS || mem c ua.ignoreS) = false := by simpa using h2
      rw [this, Bool.false_and]; rfl

theorem uqPlain_plus (ua : UArgs) (b : Backend) (hun : ∀ x ∈ ua.unsafeS, x = 43) (c : Nat) :
    uqPlain (ua.tab b) c = [if c = 43 ∧ ua.plusIsSpace = true then 32 else c] := by
  unfold uqPlain UArgs.plusIsSpace
  show (if c = 43 then (if ua.qs = false ∨ mem 43 ua.unsafeS = true then [43] else [32])
    else if mem c ua.unsafeS = true then 37 :: hexUpper c else [c]) = _
  by_cases hc : c = 43
  · subst hc
    cases ua.qs <;> cases mem 43 ua.unsafeS <;> simp
  · simp [hc, mem_false_of_all_eq hun hc]

/-- every unquoter configuration whose `unsafe` is at most "+" and whose `ignore` is ASCII computes the textbook
    decoding with the `keep` set and '+' flag read off its table -/
theorem uargs_decode (ua : UArgs) (b : Backend) (hun : ∀ x ∈ ua.unsafeS, x = 43)
    (hig : ∀ x ∈ ua.ignoreS, x < 128) (s : Str) :
    DecodeSpec b (ua.tab b) s = pctUtf8Decode (ua.keeps b) ua.plusIsSpace s :=
  decodeSpec_eq b (ua.tab b) (ua.keeps b) ua.plusIsSpace (uqPlain_plus ua b hun)
    (fun c _ _ => uqEmit_keeps ua b (fun x hx => by rw [hun x hx]; decide +kernel) hig c) s



/-! ### `utf8Head` looks at the sequence only; runs decode independently across a non-continuation byte -/

theorem utf8Head_append {bs : List Nat} {c k : Nat} (h : utf8Head bs = some (c, k)) (more : List Nat) :
    utf8Head (bs ++ more) = some (c, k) := by
  obtain ⟨h1, h2, h3, rest, rfl⟩ := (utf8Head_iff bs c k).mp h
  rw [List.append_assoc, h3]; exact utf8Head_prefix c h1 h2 _

theorem utf8Head_of_append {bs more : List Nat} {c k : Nat} (h : utf8Head (bs ++ more) = some (c, k))
    (hk : k ≤ bs.length) : utf8Head bs = some (c, k) := by
  obtain ⟨h1, h2, h3, h4, h5⟩ := utf8Head_some h
  rw [List.take_append_of_le_length hk] at h5
  rw [utf8Head_iff]
  exact ⟨h1, h2, h3, bs.drop k, by rw [← h5, List.take_append_drop]⟩

/-- a well-formed sequence does not reach over a byte that is not a continuation byte -/
theorem utf8Head_le_of_not_cont {bs1 : List Nat} {x : Nat} {bs2 : List Nat} {c k : Nat}
    (h : utf8Head (bs1 ++ x :: bs2) = some (c, k)) (h0 : bs1 ≠ []) (hx : isCont x = false) :
    k ≤ bs1.length := by
  obtain ⟨h1, h2, h3, h4, h5⟩ := utf8Head_some h
  apply Decidable.byContradiction
  intro hk
  have hpos : 0 < bs1.length := List.length_pos_iff.mpr h0
  have hd : (utf8 c).drop bs1.length = x :: (bs2.take (k - bs1.length - 1)) := by
    rw [← h5, List.drop_take, List.drop_append_of_le_length (Nat.le_refl _), List.drop_length,
      List.nil_append]
    obtain ⟨j, hj⟩ : ∃ j, k - bs1.length = j + 1 := ⟨k - bs1.length - 1, by omega⟩
    rw [hj, List.take_succ_cons]
    congr 2
  have := utf8_drop_isCont c h1 h2 hpos x (by rw [hd]; exact List.mem_cons_self)
  rw [hx] at this; cases this

theorem decodeEscapes_append (keep : Nat → Bool) (es2 : List (Nat × Str))
    (h2 : ∀ e, es2.head? = some e → isCont e.1 = false) :
    ∀ n (es1 : List (Nat × Str)), es1.length ≤ n →
      decodeEscapes keep (es1 ++ es2) = decodeEscapes keep es1 ++ decodeEscapes keep es2 := by
  intro n
  induction n with
  | zero =>
    intro es1 hl
    have : es1 = [] := List.eq_nil_of_length_eq_zero (by omega)
    subst this
    rw [decodeEscapes_nil]; rfl
  | succ n ih =>
    intro es1 hl
    match es1, hl with
    | [], _ => rw [decodeEscapes_nil]; rfl
    | e :: es1', hl =>
      simp only [List.length_cons] at hl
      rw [List.cons_append]
      cases hh : utf8Head (runBytes (e :: (es1' ++ es2))) with
      | none =>
        have hh1 : utf8Head (runBytes (e :: es1')) = none := by
          cases hq : utf8Head (runBytes (e :: es1')) with
          | none => rfl
          | some q =>
            have := utf8Head_append (c := q.1) (k := q.2) hq (runBytes es2)
            have e2 : runBytes (e :: es1') ++ runBytes es2 = runBytes (e :: (es1' ++ es2)) := by
              simp [runBytes]
            rw [e2, hh] at this; cases this
        rw [decodeEscapes_none keep e _ hh, decodeEscapes_none keep e _ hh1, ih es1' (by omega),
          List.append_assoc]
      | some q =>
        obtain ⟨c, k⟩ := q
        have e2 : runBytes (e :: (es1' ++ es2)) = runBytes (e :: es1') ++ runBytes es2 := by
          simp [runBytes]
        have hk0 := (utf8Head_some hh).2.2.2.1
        have hle : k ≤ (e :: es1').length := by
          match es2, h2 with
          | [], _ =>
            have := (utf8Head_some hh).2.2.2.2
            have hl2 := congrArg List.length this
            rw [List.length_take, ← (utf8Head_some hh).2.2.1] at hl2
            simp only [runBytes, List.length_map, List.length_cons, List.append_nil] at hl2 ⊢
            omega
          | x :: es2', h2 =>
            have hx := h2 x rfl
            rw [e2] at hh
            have := utf8Head_le_of_not_cont (bs1 := runBytes (e :: es1')) (x := x.1)
              (bs2 := runBytes es2') hh (by simp [runBytes]) hx
            simpa [runBytes] using this
        have hh1 : utf8Head (runBytes (e :: es1')) = some (c, k) := by
          rw [e2] at hh
          exact utf8Head_of_append hh (by simpa [runBytes] using hle)
        rw [decodeEscapes_some keep e _ c k hh, decodeEscapes_some keep e _ c k hh1,
          ← List.cons_append, List.drop_append_of_le_length hle,
          ih _ (by simp only [List.length_drop, List.length_cons]; omega), List.append_assoc]

/-! ### `escapeRun` and `pctUtf8Decode` on concatenations -/

theorem hexValue_of_restoreCh {d1 d2 v : Nat} (h : restoreCh d1 d2 = some v) :
    ∃ a b, hexValue d1 = some a ∧ hexValue d2 = some b ∧ v = 16 * a + b := by
  simp only [hexValue_eq]
  unfold restoreCh at h
  cases h1 : fromHex d1 <;> cases h2 : fromHex d2 <;> simp [h1, h2] at h
  exact ⟨_, _, rfl, rfl, by omega⟩

theorem escapeRun_esc {d1 d2 v : Nat} (h : restoreCh d1 d2 = some v) (r : Str) :
    escapeRun (37 :: d1 :: d2 :: r) = ((v, [37, d1, d2]) :: (escapeRun r).1, (escapeRun r).2) := by
  obtain ⟨a, b, ha, hb, rfl⟩ := hexValue_of_restoreCh h
  rw [escapeRun]
  simp only [ha, hb]

/-- the run in front of a string joins the run that starts it -/
theorem escapeRun_run (es : List (Nat × Str)) (hes : ∀ e ∈ es, EscOK e) (x : Str) :
    escapeRun (runText es ++ x) = (es ++ (escapeRun x).1, (escapeRun x).2) := by
  induction es with
  | nil => rfl
  | cons e es ih =>
    obtain ⟨d1, d2, ht, hv⟩ := hes e (by simp)
    have : runText (e :: es) ++ x = 37 :: d1 :: d2 :: (runText es ++ x) := by simp [runText, ht]
    rw [this, escapeRun_esc hv, ih (fun y hy => hes y (List.mem_cons_of_mem _ hy))]
    simp only [List.cons_append, ← ht]

theorem pctUtf8Decode_runText (keep : Nat → Bool) (plus : Bool) (es : List (Nat × Str))
    (hes : ∀ e ∈ es, EscOK e) (x : Str) :
    pctUtf8Decode keep plus (runText es ++ x) =
      decodeEscapes keep (es ++ (escapeRun x).1) ++ pctUtf8Decode keep plus (escapeRun x).2 := by
  rw [pctUtf8Decode_unfold, escapeRun_run es hes x]

/-- the first character of `s2` is not a hex digit: no escape reaches from `s1` into `s2` -/
def HeadNotHex (s2 : Str) : Prop := ∀ c, s2.head? = some c → hexValue c = none

theorem not_startsEscape_append {s1 s2 : Str} (h1 : s1 ≠ []) (hn : ¬ StartsEscape s1) (h2 : HeadNotHex s2) :
    ¬ StartsEscape (s1 ++ s2) := by
  rintro ⟨d1, d2, r, v, he, hv⟩
  obtain ⟨a, b, ha, hb, _⟩ := hexValue_of_restoreCh hv
  match s1, h1, hn, he with
  | [c], _, _, he =>
    simp only [List.cons_append, List.nil_append, List.cons.injEq] at he
    have := h2 d1 (by rw [he.2]; rfl)
    rw [ha] at this; cases this
  | [c, x], _, _, he =>
    simp only [List.cons_append, List.nil_append, List.cons.injEq] at he
    have := h2 d2 (by rw [he.2.2]; rfl)
    rw [hb] at this; cases this
  | c :: x :: y :: t, _, hn, he =>
    simp only [List.cons_append, List.cons.injEq] at he
    obtain ⟨rfl, rfl, rfl, _⟩ := he
    exact hn ⟨x, y, t, v, rfl, hv⟩

/-- CONCATENATION: when `s2` does not start with a hex digit nor with the escape of a continuation byte, the two
    parts are decoded independently -/
theorem pctUtf8Decode_append (keep : Nat → Bool) (plus : Bool) (s2 : Str) (h2 : HeadNotHex s2)
    (hc : ∀ e, (escapeRun s2).1.head? = some e → isCont e.1 = false) (s1 : Str) :
    pctUtf8Decode keep plus (s1 ++ s2) = pctUtf8Decode keep plus s1 ++ pctUtf8Decode keep plus s2 := by
  induction s1 using escapeRun_induction with
  | nil => rw [pctUtf8Decode_nil]; rfl
  | plain c t hs ih =>
    have hns : ¬ StartsEscape (c :: (t ++ s2)) := not_startsEscape_append (List.cons_ne_nil c t) hs h2
    rw [List.cons_append, pctUtf8Decode_noesc keep plus c (t ++ s2) hns, pctUtf8Decode_noesc keep plus c t hs, ih]
    rfl
  | run s1 hs ih =>
    obtain ⟨h1, hes, h3, _⟩ := escapeRun_spec s1
    rw [pctUtf8Decode_unfold keep plus s1, List.append_assoc, ← ih]
    conv => lhs; rw [h1, List.append_assoc]
    rw [pctUtf8Decode_runText keep plus _ hes]
    -- the run of `s1` continues into `s2` exactly when nothing follows it in `s1`
    cases hR : (escapeRun s1).2 with
    | nil =>
      rw [List.nil_append, decodeEscapes_append keep _ hc _ _ (Nat.le_refl _), List.append_assoc,
        ← pctUtf8Decode_unfold]
    | cons c t =>
      rw [hR] at h3
      rw [escapeRun_noesc (not_startsEscape_append (List.cons_ne_nil c t) h3 h2), List.append_nil]

theorem escapeBytes_nil : escapeBytes [] = [] := by rw [escapeBytes]

theorem escapeBytes_noesc (c : Nat) (r : Str) (h : ¬ StartsEscape (c :: r)) :
    escapeBytes (c :: r) = escapeBytes r := by
  rw [escapeBytes]
  split
  · rfl
  · rename_i h'; rw [escapeRun_noesc h] at h'; cases h'

theorem escapeBytes_unfold (s : Str) :
    escapeBytes s = runBytes (escapeRun s).1 ++ escapeBytes (escapeRun s).2 := by
  match s with
  | [] =>
    have : escapeRun [] = ([], []) := rfl
    rw [this, escapeBytes_nil]; rfl
  | c :: r =>
    by_cases hs : StartsEscape (c :: r)
    · rw [escapeBytes]
      split
      · rename_i h'
        exfalso
        have h4 := (escapeRun_spec (c :: r)).2.2.1
        have := (escapeRun_spec (c :: r)).2.2.2 (by rw [h'])
        rw [this] at h4
        exact h4 hs
      · rename_i h'; rw [h']
    · rw [escapeRun_noesc hs]; rfl

/-! ### characters that are not kept: `keep` is irrelevant for strings without escapes of kept characters -/

theorem decodeEscapes_keep_irrelevant (keep : Nat → Bool) (hk : ∀ c, keep c = true → c < 128) :
    ∀ n (es : List (Nat × Str)), es.length ≤ n → (∀ e ∈ es, keep e.1 = false) →
      decodeEscapes keep es = decodeEscapes (fun _ => false) es := by
  intro n
  induction n with
  | zero =>
    intro es hl _
    have : es = [] := List.eq_nil_of_length_eq_zero (by omega)
    subst this
    rw [decodeEscapes_nil, decodeEscapes_nil]
  | succ n ih =>
    intro es hl hes
    match es, hl, hes with
    | [], _, _ => rw [decodeEscapes_nil, decodeEscapes_nil]
    | e :: es, hl, hes =>
      simp only [List.length_cons] at hl
      cases hh : utf8Head (runBytes (e :: es)) with
      | none =>
        rw [decodeEscapes_none keep e es hh, decodeEscapes_none _ e es hh,
          ih es (by omega) (fun x hx => hes x (List.mem_cons_of_mem _ hx))]
      | some q =>
        obtain ⟨c, k⟩ := q
        obtain ⟨h1, h2, h3, h4, h5⟩ := utf8Head_some hh
        have hkc : keep c = false := by
          cases hkc : keep c with
          | false => rfl
          | true =>
            have hc := hk c hkc
            rw [utf8_ascii hc] at h3 h5
            simp only [List.length_cons, List.length_nil] at h3
            subst h3
            simp only [runBytes, List.map_cons, List.take_succ_cons, List.take_zero, List.cons.injEq,
              and_true] at h5
            rw [← h5, hes e (by simp)] at hkc
            cases hkc
        rw [decodeEscapes_some keep e es c k hh, decodeEscapes_some _ e es c k hh, hkc,
          ih _ (by simp only [List.length_drop, List.length_cons]; omega)
            (fun x hx => hes x (List.mem_of_mem_drop hx))]

theorem pctUtf8Decode_keep_irrelevant (keep : Nat → Bool) (plus : Bool) (hk : ∀ c, keep c = true → c < 128)
    (s : Str) : (∀ v ∈ escapeBytes s, keep v = false) →
      pctUtf8Decode keep plus s = pctUtf8Decode (fun _ => false) plus s := by
  induction s using escapeRun_induction with
  | nil => intro _; rw [pctUtf8Decode_nil, pctUtf8Decode_nil]
  | plain c r hs ih =>
    intro hv
    rw [escapeBytes_noesc c r hs] at hv
    rw [pctUtf8Decode_noesc keep plus c r hs, pctUtf8Decode_noesc _ plus c r hs, ih hv]
  | run s hs ih =>
    intro hv
    rw [escapeBytes_unfold] at hv
    rw [pctUtf8Decode_unfold keep, pctUtf8Decode_unfold (fun _ => false),
      decodeEscapes_keep_irrelevant keep hk _ _ (Nat.le_refl _)
        (fun e he => hv e.1 (List.mem_append_left _ (List.mem_map_of_mem he))),
      ih (fun v hv' => hv v (List.mem_append_right _ hv'))]

/-! ### '+' as space = decoding the string with every literal '+' replaced by a space -/

theorem hexValue_plus (c : Nat) : hexValue (if c = 43 then 32 else c) = hexValue c := by
  by_cases h : c = 43
  · subst h; decide +kernel
  · simp [h]

theorem startsEscape_plusToSpace (s : Str) : StartsEscape (plusToSpace s) ↔ StartsEscape s := by
  have hv : ∀ d1 d2, restoreCh (if d1 = 43 then 32 else d1) (if d2 = 43 then 32 else d2) = restoreCh d1 d2 := by
    intro d1 d2
    unfold restoreCh
    rw [← hexValue_eq, ← hexValue_eq, ← hexValue_eq, ← hexValue_eq, hexValue_plus, hexValue_plus]
  constructor
  · rintro ⟨d1, d2, r, v, he, hv'⟩
    match s, he with
    | [], he => simp [plusToSpace] at he
    | [_], he => simp [plusToSpace] at he
    | [_, _], he => simp [plusToSpace] at he
    | c :: x :: y :: t, he =>
      simp only [plusToSpace, List.map_cons, List.cons.injEq] at he
      obtain ⟨h1, h2, h3, _⟩ := he
      have hc : c = 37 := by
        by_cases h : c = 43
        · simp [h] at h1
        · simpa [h] using h1
      subst hc
      refine ⟨x, y, t, v, rfl, ?_⟩
      rw [← hv, h2, h3]; exact hv'
  · rintro ⟨d1, d2, r, v, rfl, hv'⟩
    refine ⟨_, _, plusToSpace r, v, ?_, (hv d1 d2).trans hv'⟩
    simp [plusToSpace]

theorem escapeRun_plusToSpace (s : Str) :
    escapeRun (plusToSpace s) = ((escapeRun s).1, plusToSpace (escapeRun s).2) := by
  have key : ∀ n (s : Str), s.length ≤ n →
      escapeRun (plusToSpace s) = ((escapeRun s).1, plusToSpace (escapeRun s).2) := by
    intro n
    induction n with
    | zero =>
      intro s hl
      have : s = [] := List.eq_nil_of_length_eq_zero (by omega)
      subst this; rfl
    | succ n ih =>
      intro s hl
      by_cases hs : StartsEscape s
      · obtain ⟨d1, d2, r, v, rfl, hv⟩ := hs
        obtain ⟨a, b, ha, hb, _⟩ := hexValue_of_restoreCh hv
        have h43 : hexValue 43 = none := by decide +kernel
        have h1 : d1 ≠ 43 := by rintro rfl; rw [h43] at ha; cases ha
        have h2 : d2 ≠ 43 := by rintro rfl; rw [h43] at hb; cases hb
        have : plusToSpace (37 :: d1 :: d2 :: r) = 37 :: d1 :: d2 :: plusToSpace r := by
          simp [plusToSpace, h1, h2]
        rw [this, escapeRun_esc hv, escapeRun_esc hv, ih r (by simp only [List.length_cons] at hl; omega)]
      · rw [escapeRun_noesc hs, escapeRun_noesc (fun h => hs ((startsEscape_plusToSpace s).mp h))]
  exact key s.length s (Nat.le_refl _)

theorem pctUtf8Decode_plus (keep : Nat → Bool) (s : Str) :
    pctUtf8Decode keep true s = pctUtf8Decode keep false (plusToSpace s) := by
  induction s using escapeRun_induction with
  | nil => rw [pctUtf8Decode_nil]; exact (pctUtf8Decode_nil keep false).symm
  | plain c r hs ih =>
    have hs' : ¬ StartsEscape (plusToSpace (c :: r)) := fun h => hs ((startsEscape_plusToSpace _).mp h)
    have : plusToSpace (c :: r) = (if c = 43 then 32 else c) :: plusToSpace r := by simp [plusToSpace]
    rw [this] at hs' ⊢
    rw [pctUtf8Decode_noesc keep true c r hs, pctUtf8Decode_noesc keep false _ _ hs', ih]
    by_cases h43 : c = 43
    · subst h43; simp
    · simp [h43]
  | run s hs ih =>
    rw [pctUtf8Decode_unfold keep true, pctUtf8Decode_unfold keep false, escapeRun_plusToSpace, ih]

theorem escapeBytes_plusToSpace (s : Str) : escapeBytes (plusToSpace s) = escapeBytes s := by
  induction s using escapeRun_induction with
  | nil => rfl
  | plain c r hs ih =>
    have hs' : ¬ StartsEscape (plusToSpace (c :: r)) := fun h => hs ((startsEscape_plusToSpace _).mp h)
    have : plusToSpace (c :: r) = (if c = 43 then 32 else c) :: plusToSpace r := by simp [plusToSpace]
    rw [this] at hs' ⊢
    rw [escapeBytes_noesc _ _ hs', escapeBytes_noesc _ _ hs, ih]
  | run s hs ih =>
    rw [escapeBytes_unfold (plusToSpace s), escapeBytes_unfold s, escapeRun_plusToSpace, ih]

/-! ### valid UTF-8: a string whose percent-decoding is the encoding of a text decodes to that text -/

/-- UTF-8 is self-synchronising: a cut in front of a byte that is no continuation byte is a cut between characters -/
theorem utf8s_split : ∀ (t : Str), PyStr t → NoSurrogate t → ∀ (A B : List Nat), utf8s t = A ++ B →
    (∀ x, B.head? = some x → isCont x = false) → ∃ t1 t2, t = t1 ++ t2 ∧ utf8s t1 = A ∧ utf8s t2 = B := by
  intro t
  induction t with
  | nil =>
    intro _ _ A B h _
    have h' : A ++ B = [] := h.symm
    exact ⟨[], [], rfl, (List.append_eq_nil_iff.mp h').1.symm, (List.append_eq_nil_iff.mp h').2.symm⟩
  | cons c t ih =>
    intro ht hn A B h hB
    have hc := ht c (by simp)
    have hs := hn c (by simp)
    rw [QuoteEquiv.utf8s_cons] at h
    rcases List.append_eq_append_iff.mp h with ⟨a', hA, ht'⟩ | ⟨c', hu, hB'⟩
    · obtain ⟨t1, t2, rfl, h1, h2⟩ := ih (fun x hx => ht x (by simp [hx])) (fun x hx => hn x (by simp [hx])) a' B ht' hB
      exact ⟨c :: t1, t2, rfl, by rw [QuoteEquiv.utf8s_cons, h1, hA], h2⟩
    · -- the cut falls inside `utf8 c`: only at its very start, since every later byte is a continuation byte
      cases c' with
      | nil =>
        obtain ⟨t1, t2, rfl, h1, h2⟩ := ih (fun x hx => ht x (by simp [hx])) (fun x hx => hn x (by simp [hx])) [] B
          (by simpa using hB'.symm) hB
        exact ⟨c :: t1, t2, rfl, by rw [QuoteEquiv.utf8s_cons, h1, hu, List.append_nil, List.append_nil], h2⟩
      | cons x r =>
        cases A with
        | nil => exact ⟨[], c :: t, rfl, rfl, by rw [QuoteEquiv.utf8s_cons]; exact h⟩
        | cons a A' =>
          exfalso
          have := utf8_drop_isCont c hc hs (k := (a :: A').length) (by simp) x (by rw [hu]; simp)
          rw [hB x (by rw [hB']; rfl)] at this
          cases this

/-- escapes whose bytes are the encoding of a text decode to that text (kept characters re-encoded) -/
theorem decodeEscapes_utf8s (keep : Nat → Bool) : ∀ (t : Str), PyStr t → NoSurrogate t →
    ∀ es : List (Nat × Str), runBytes es = utf8s t →
      decodeEscapes keep es = t.flatMap fun c => if keep c = true then pctEncode c else [c] := by
  intro t
  induction t with
  | nil =>
    intro _ _ es h
    have : es = [] := by simpa [runBytes, utf8s] using h
    rw [this, decodeEscapes_nil]
    rfl
  | cons c t ih =>
    intro ht hn es h
    have hc := ht c (by simp)
    have hs := hn c (by simp)
    rw [QuoteEquiv.utf8s_cons] at h
    match es, h with
    | [], h =>
      have := utf8_length_pos c hc hs
      rw [(List.append_eq_nil_iff.mp h.symm).1] at this
      simp at this
    | e :: es, h =>
      rw [decodeEscapes_some keep e es c _ (by rw [h]; exact utf8Head_prefix c hc hs _), List.flatMap_cons,
        ih (fun x hx => ht x (by simp [hx])) (fun x hx => hn x (by simp [hx]))]
      rw [runBytes, List.map_drop, ← runBytes, h, List.drop_left]

theorem pctDecode_runText (es : List (Nat × Str)) (hes : ∀ e ∈ es, EscOK e) (r : Str) :
    pctDecode (runText es ++ r) = runBytes es ++ pctDecode r := by
  induction es with
  | nil => rfl
  | cons e es ih =>
    obtain ⟨d1, d2, ht, hv⟩ := hes e (by simp)
    have : runText (e :: es) ++ r = 37 :: d1 :: d2 :: (runText es ++ r) := by simp [runText, ht]
    rw [this, WfLemmas.pctDecode_esc (takeEscape_ok _ hv), ih (fun x hx => hes x (List.mem_cons_of_mem _ hx))]
    rfl

theorem pctDecode_noesc' (c : Nat) (r : Str) (h : ¬ StartsEscape (c :: r)) :
    pctDecode (c :: r) = utf8 c ++ pctDecode r := by
  by_cases hc : c = 37
  · subst hc
    cases hte : takeEscape restoreCh r with
    | none =>
      rw [WfLemmas.pctDecode_noesc hte]
      rfl
    | some q =>
      obtain ⟨v, d1, d2, r'⟩ := q
      obtain ⟨h1, h2⟩ := takeEscape_eq hte
      exact absurd ⟨d1, d2, r', v, by rw [h1], h2⟩ h
  · exact WfLemmas.pctDecode_cons_ne hc r

/-- the textbook decoder on a string whose percent-decoding is valid UTF-8: the encoded text -/
theorem pctUtf8Decode_utf8 (s : Str) : PyStr s → NoSurrogate s → ∀ t : Str, PyStr t → NoSurrogate t →
    pctDecode s = utf8s t → pctUtf8Decode keepNone false s = t := by
  induction s using escapeRun_induction with
  | nil =>
    intro _ _ t ht hn h
    rw [pctUtf8Decode_nil]
    exact (utf8s_eq_nil t ht hn (by rw [← h, pctDecode])).symm
  | plain c r hs ih =>
    intro hp hsn t ht hn h
    rw [pctDecode_noesc' c r hs] at h
    have hc := hp c (by simp)
    have hcs := hsn c (by simp)
    cases t with
    | nil =>
      have := utf8_length_pos c hc hcs
      rw [(List.append_eq_nil_iff.mp h).1] at this
      simp at this
    | cons c' t' =>
      rw [QuoteEquiv.utf8s_cons] at h
      obtain ⟨rfl, hX⟩ := utf8_prefix_free c c' hc hcs (ht c' (by simp)) (hn c' (by simp)) _ _ h
      rw [pctUtf8Decode_noesc keepNone false c r hs,
        ih (fun x hx => hp x (by simp [hx])) (fun x hx => hsn x (by simp [hx])) t'
          (fun x hx => ht x (by simp [hx])) (fun x hx => hn x (by simp [hx])) hX]
      simp
  | run s hs ih =>
    intro hp hsn t ht hn h
    obtain ⟨h1, hes, h3, _⟩ := escapeRun_spec s
    have hsub : ∀ x ∈ (escapeRun s).2, x ∈ s := fun x hx => by rw [h1]; exact List.mem_append_right _ hx
    rw [h1, pctDecode_runText _ hes] at h
    -- what follows the run starts a character
    have hB : ∀ x, (pctDecode (escapeRun s).2).head? = some x → isCont x = false := by
      intro x hx
      cases hr : (escapeRun s).2 with
      | nil =>
        rw [hr, pctDecode] at hx
        cases hx
      | cons c r =>
        rw [hr] at h3 hx hsub
        obtain ⟨y, r', hy, hn'⟩ := utf8_head_not_cont c (hp c (hsub c (by simp))) (hsn c (hsub c (by simp)))
        rw [pctDecode_noesc' c r h3, hy] at hx
        cases hx
        exact hn'
    obtain ⟨t1, t2, rfl, e1, e2⟩ := utf8s_split t ht hn _ _ h.symm hB
    rw [pctUtf8Decode_unfold, decodeEscapes_utf8s keepNone t1 (fun x hx => ht x (by simp [hx]))
        (fun x hx => hn x (by simp [hx])) _ e1.symm,
      ih (fun x hx => hp x (hsub x hx)) (fun x hx => hsn x (hsub x hx)) t2 (fun x hx => ht x (by simp [hx]))
        (fun x hx => hn x (by simp [hx])) e2.symm]
    simp


/-! ### reading a `keep` set off a table -/

/-- a character named in none of the lists of the table is not kept -/
theorem keeps_other (a : UArgs) (b : Backend) (c : Nat) (h1 : a.qs = true → mem c "+=&;".toStr = false)
    (h2 : mem c a.unsafeS = false) (h3 : mem c a.ignoreS = false) : a.keeps b c = false := by
  unfold UArgs.keeps
  rw [if_neg (fun h => by rw [h1 h.1] at h; exact absurd h.2 (by decide)), h2, h3]
  rfl

/-! ### one run in context -/

theorem headNotHex_runText {es : List (Nat × Str)} (hes : ∀ e ∈ es, EscOK e) (hne : es ≠ []) (s2 : Str) :
    HeadNotHex (runText es ++ s2) := by
  match es, hes, hne with
  | e :: es', hes, _ =>
    obtain ⟨d1, d2, ht, _⟩ := hes e (by simp)
    intro c hc
    simp only [runText, List.map_cons, List.flatten_cons, ht, List.cons_append, List.head?_cons,
      Option.some.injEq] at hc
    subst hc; decide +kernel

/-- a run of escapes whose first byte is not a continuation byte, in ANY context: if the run (followed by the
    escapes that `s2` starts with) decodes to `X` and then those escapes on their own, the whole string decodes to
    the decoding of `s1`, then `X`, then the decoding of `s2` -/
theorem pct_ctx (keep : Nat → Bool) (plus : Bool) (es : List (Nat × Str)) (hes : ∀ e ∈ es, EscOK e)
    (hne : es ≠ []) (hhead : ∀ e, es.head? = some e → isCont e.1 = false) (X s1 s2 : Str)
    (hd : decodeEscapes keep (es ++ (escapeRun s2).1) = X ++ decodeEscapes keep (escapeRun s2).1) :
    pctUtf8Decode keep plus (s1 ++ runText es ++ s2) =
      pctUtf8Decode keep plus s1 ++ X ++ pctUtf8Decode keep plus s2 := by
  have hC : ∀ e, (escapeRun (runText es ++ s2)).1.head? = some e → isCont e.1 = false := by
    intro e he
    rw [escapeRun_run es hes s2] at he
    apply hhead e
    match es, hne, he with
    | x :: es', _, he => simpa using he
  rw [List.append_assoc, pctUtf8Decode_append keep plus _ (headNotHex_runText hes hne s2) hC s1,
    pctUtf8Decode_runText keep plus es hes s2, hd, List.append_assoc, ← pctUtf8Decode_unfold, List.append_assoc]

/-- a character that is not a hex digit and starts no escape, in ANY context -/
theorem pct_ctx_plain (keep : Nat → Bool) (plus : Bool) (c : Nat) (hc : hexValue c = none) (s1 s2 : Str)
    (hns : ¬ StartsEscape (c :: s2)) :
    pctUtf8Decode keep plus (s1 ++ c :: s2) =
      pctUtf8Decode keep plus s1 ++ (if c = 43 ∧ plus = true then 32 else c) :: pctUtf8Decode keep plus s2 := by
  have hB : HeadNotHex (c :: s2) := by
    intro x hx; simp only [List.head?_cons, Option.some.injEq] at hx; subst hx; exact hc
  have hC : ∀ e, (escapeRun (c :: s2)).1.head? = some e → isCont e.1 = false := by
    intro e he; rw [escapeRun_noesc hns] at he; cases he
  rw [pctUtf8Decode_append keep plus _ hB hC s1, pctUtf8Decode_noesc keep plus c s2 hns]

/-- escapes of bytes that can start no sequence, at the start of a run, are copied as written -/
theorem decodeEscapes_badLead (keep : Nat → Bool) (qs : List (Nat × Str)) (hq : ∀ e ∈ qs, BadLead e.1)
    (tl : List (Nat × Str)) : decodeEscapes keep (qs ++ tl) = runText qs ++ decodeEscapes keep tl := by
  induction qs with
  | nil => rfl
  | cons q qs ih =>
    rw [List.cons_append, decodeEscapes_none keep q (qs ++ tl) (utf8Head_badLead _ (hq q (by simp)) _),
      ih (fun e he => hq e (List.mem_cons_of_mem _ he))]
    simp [runText]

/-- `s2` does not start with the escape of a continuation byte -/
def NoContStart (s2 : Str) : Prop :=
  ∀ d1 d2 r v, s2 = 37 :: d1 :: d2 :: r → restoreCh d1 d2 = some v → isCont v = false

theorem noContStart_of_not_startsEscape {s2 : Str} (h : ¬ StartsEscape s2) : NoContStart s2 :=
  fun d1 d2 r v he hv => absurd ⟨d1, d2, r, v, he, hv⟩ h

theorem noContStart_head {s2 : Str} (h : NoContStart s2) :
    ∀ e, (escapeRun s2).1.head? = some e → isCont e.1 = false := by
  intro e he
  by_cases hs : StartsEscape s2
  · obtain ⟨d1, d2, r, v, rfl, hv⟩ := hs
    rw [escapeRun_esc hv] at he
    simp only [List.head?_cons, Option.some.injEq] at he
    subst he
    exact h d1 d2 r v rfl hv
  · rw [escapeRun_noesc hs] at he; cases he

theorem utf8Head_ED_A0_80 (rest : List Nat) : utf8Head (0xED :: 0xA0 :: 0x80 :: rest) = none := by
  rfl

end DecMore

open Rfc DecMore DecLemmas SpecLemmas UnquoteEquiv

/-! ## 0. the specification is the textbook one -/

/-- `Rfc.utf8Head bs = some (c, k)` iff `c` is a Unicode scalar value (≤ U+10FFFF, no surrogate) whose UTF-8 encoding —
    `k` bytes — is a prefix of `bs`.  UTF-8 being a prefix code, there is at most one such `c`: `utf8Head` returns THE
    well-formed sequence at the head of the bytes, and `none` iff there is none (stray continuation byte, truncated,
    overlong, surrogate, above U+10FFFF, `C0`/`C1`/`F5`…`FF`). -/
theorem C06_utf8Head_textbook (bs : List Nat) :
    (∀ c k, utf8Head bs = some (c, k) ↔
      c ≤ 0x10FFFF ∧ isSurrogate c = false ∧ k = (utf8 c).length ∧ ∃ rest, bs = utf8 c ++ rest) ∧
    (utf8Head bs = none ↔ ∀ c, c ≤ 0x10FFFF → isSurrogate c = false → ∀ rest, bs ≠ utf8 c ++ rest) :=
  ⟨fun c k => utf8Head_iff bs c k, utf8Head_none_iff bs⟩

/-- the specification's own hex tables and percent-encoder agree with the library's (`_from_hex`, `_to_hex`,
    `_write_utf8`) -/
theorem C06_spec_hex_agrees : (∀ c, hexValue c = fromHex c) ∧ (∀ v, hexDigit v = toHex v) ∧
    (∀ c, pctEncode c = writeUtf8 c) ∧ (∀ c, c < 128 → pctEncode c = pct c) :=
  ⟨hexValue_eq, hexDigit_eq, pctEncode_eq, pctEncode_ascii⟩

/-! ## 1. the four generated unquoter tables: `keep` set and '+' flag, explicitly -/

/-- What each generated `_Unquoter` keeps encoded and whether a literal '+' is a space, computed
    from the generated tables (`UArgs.keeps`: a decoded character is sent back through the inner `_Quoter()` /
    `_Quoter(qs=True)`; it stays an escape iff that quoter's table does not keep it literal) on both backends:
    UNQUOTER and PATH_UNQUOTER keep NOTHING encoded (PATH_UNQUOTER has `unsafe="+"`, but the inner quoter writes '+'
    literally: `%2B` → '+'); PATH_SAFE_UNQUOTER keeps exactly '/' and '%' (`%2F` → `%2F`, `%25` → `%25`; `%2B` → '+');
    QS_UNQUOTER keeps exactly '+' '=' '&' ';' (`%2B %3D %26 %3B` all stay) and is the only one where a literal '+' is a
    space. -/
theorem C06_unquoter_keep_sets (b : Backend) :
    (Gen.UNQUOTER.keeps b = keepNone ∧ Gen.UNQUOTER.plusIsSpace = false) ∧
    (Gen.PATH_UNQUOTER.keeps b = keepNone ∧ Gen.PATH_UNQUOTER.plusIsSpace = false) ∧
    (Gen.PATH_SAFE_UNQUOTER.keeps b = keepSlashPercent ∧ Gen.PATH_SAFE_UNQUOTER.plusIsSpace = false) ∧
    (Gen.QS_UNQUOTER.keeps b = keepQsDelims ∧ Gen.QS_UNQUOTER.plusIsSpace = true) := by
  refine ⟨⟨funext fun c => ?_, rfl⟩, ⟨funext fun c => ?_, rfl⟩, ⟨funext fun c => ?_, rfl⟩, ⟨funext fun c => ?_, rfl⟩⟩
  · exact keeps_other _ b c (fun h => absurd h (by decide)) rfl rfl
  · by_cases h : c = 43
    · subst h
      cases b <;> decide +kernel
    · exact keeps_other _ b c (fun h => absurd h (by decide)) (mem_cons_false h rfl) rfl
  · by_cases h : c = 43 ∨ c = 47 ∨ c = 37
    · rcases h with rfl | rfl | rfl <;> cases b <;> decide +kernel
    · simp only [not_or] at h
      rw [keeps_other _ b c (fun h => absurd h (by decide)) (mem_cons_false h.1 rfl)
        (mem_cons_false h.2.1 (mem_cons_false h.2.2 rfl))]
      simp [keepSlashPercent, h]
  · by_cases h : c = 43 ∨ c = 61 ∨ c = 38 ∨ c = 59
    · rcases h with rfl | rfl | rfl | rfl <;> cases b <;> decide +kernel
    · simp only [not_or] at h
      rw [keeps_other _ b c (fun _ => by
        rw [String.toStr_ofList]
        exact mem_cons_false h.1 (mem_cons_false h.2.1 (mem_cons_false h.2.2.1 (mem_cons_false h.2.2.2 rfl)))) rfl rfl]
      simp [keepQsDelims, h]

/-- every generated unquoter satisfies the side conditions of the general theorem: `unsafe` ⊆ "+", `ignore` ASCII -/
theorem C06_generated_unquoters_shape :
    ∀ ua ∈ Gen.allUnquoters, (∀ x ∈ ua.unsafeS, x = 43) ∧ (∀ x ∈ ua.ignoreS, x < 128) := by decide +kernel

/-- an `_Unquoter` whose `unsafe` is at most "+" and whose `ignore` is ASCII computes, on both
    backends and for EVERY input, the textbook decoding with the `keep` set and '+' flag read off its table -/
theorem C06_unquoter_is_pctUtf8_of_table (ua : UArgs) (b : Backend) (hun : ∀ x ∈ ua.unsafeS, x = 43)
    (hig : ∀ x ∈ ua.ignoreS, x < 128) (s : Str) :
    ua.run b s = pctUtf8Decode (ua.keeps b) ua.plusIsSpace s ∧
    DecodeSpec b (ua.tab b) s = pctUtf8Decode (ua.keeps b) ua.plusIsSpace s :=
  ⟨by rw [C06_run_spec]; exact uargs_decode ua b hun hig s, uargs_decode ua b hun hig s⟩

/-- the project specification `DecodeSpec` of each of the four generated tables IS the textbook decoding, for
    every input, on both backends — with the `keep` set and the '+' flag of each table EXPLICIT -/
theorem C06_decodeSpec_is_pctUtf8 (b : Backend) (s : Str) :
    DecodeSpec b (Gen.UNQUOTER.tab b) s = pctUtf8Decode keepNone false s ∧
    DecodeSpec b (Gen.PATH_UNQUOTER.tab b) s = pctUtf8Decode keepNone false s ∧
    DecodeSpec b (Gen.PATH_SAFE_UNQUOTER.tab b) s = pctUtf8Decode keepSlashPercent false s ∧
    DecodeSpec b (Gen.QS_UNQUOTER.tab b) s = pctUtf8Decode keepQsDelims true s := by
  obtain ⟨⟨k1, p1⟩, ⟨k2, p2⟩, ⟨k3, p3⟩, ⟨k4, p4⟩⟩ := C06_unquoter_keep_sets b
  refine ⟨?_, ?_, ?_, ?_⟩
  · rw [← k1, ← p1]; exact uargs_decode _ b (by decide +kernel) (by decide +kernel) s
  · rw [← k2, ← p2]; exact uargs_decode _ b (by decide +kernel) (by decide +kernel) s
  · rw [← k3, ← p3]; exact uargs_decode _ b (by decide +kernel) (by decide +kernel) s
  · rw [← k4, ← p4]; exact uargs_decode _ b (by decide +kernel) (by decide +kernel) s

/-- the same at the level of the unquoters themselves (`_Unquoter.__call__` / `_do_unquote`, both backends) -/
theorem C06_unquoter_is_pctUtf8 (b : Backend) (s : Str) :
    Gen.UNQUOTER.run b s = pctUtf8Decode keepNone false s ∧
    Gen.PATH_UNQUOTER.run b s = pctUtf8Decode keepNone false s ∧
    Gen.PATH_SAFE_UNQUOTER.run b s = pctUtf8Decode keepSlashPercent false s ∧
    Gen.QS_UNQUOTER.run b s = pctUtf8Decode keepQsDelims true s := by
  simp only [C06_run_spec]
  exact C06_decodeSpec_is_pctUtf8 b s

/-! ## 2. per accessor -/

theorem C06_uq_is_pctUtf8 (e : Env) :
    uq e Gen.UNQUOTER = pctUtf8Decode keepNone false ∧
    uq e Gen.PATH_UNQUOTER = pctUtf8Decode keepNone false ∧
    uq e Gen.PATH_SAFE_UNQUOTER = pctUtf8Decode keepSlashPercent false ∧
    uq e Gen.QS_UNQUOTER = pctUtf8Decode keepQsDelims true :=
  ⟨funext fun s => (C06_unquoter_is_pctUtf8 e.b s).1, funext fun s => (C06_unquoter_is_pctUtf8 e.b s).2.1,
   funext fun s => (C06_unquoter_is_pctUtf8 e.b s).2.2.1, funext fun s => (C06_unquoter_is_pctUtf8 e.b s).2.2.2⟩

/-- `url.query_string` IS the textbook decoding of the raw query: '+' is a space, `%2B %3D %26 %3B` stay encoded -/
theorem C06_query_string_is_decoding (e : Env) (u : Url) :
    queryString e u = pctUtf8Decode keepQsDelims true u.query := by
  rw [(C06_accessor_spec e u).2.1, (C06_decodeSpec_is_pctUtf8 e.b u.query).2.2.2]
  cases hq : u.query with
  | nil => simp [pctUtf8Decode_nil]
  | cons c r => rfl

theorem C06_fragment_is_decoding (e : Env) (u : Url) :
    fragmentDecoded e u = pctUtf8Decode keepNone false u.fragment := by
  rw [(C06_accessor_spec e u).1, (C06_decodeSpec_is_pctUtf8 e.b u.fragment).1]
  cases hq : u.fragment with
  | nil => simp [pctUtf8Decode_nil]
  | cons c r => rfl

/-- `url.path` (an empty raw path reads "" without and "/" with an authority) -/
theorem C06_path_is_decoding (e : Env) (u : Url) :
    pathDecoded e u = (if u.path.isEmpty then (if u.netloc.isEmpty then [] else [47])
                       else pctUtf8Decode keepNone false u.path) := by
  rw [(C06_accessor_spec e u).2.2.1, (C06_decodeSpec_is_pctUtf8 e.b u.path).2.1]

/-- `url.path_safe`: as `path`, but `%2F` and `%25` stay encoded -/
theorem C06_path_safe_is_decoding (e : Env) (u : Url) :
    pathSafe e u = (if u.path.isEmpty then (if u.netloc.isEmpty then [] else [47])
                    else pctUtf8Decode keepSlashPercent false u.path) := by
  rw [(C06_accessor_spec e u).2.2.2.1, (C06_decodeSpec_is_pctUtf8 e.b u.path).2.2.1]

/-- `url.parts`, `url.name`, `url.suffix`, `url.suffixes`: each raw segment / name / suffix decoded -/
theorem C06_parts_name_suffix_are_decodings (e : Env) (u : Url) :
    partsDecoded e u = (rawParts u).map (pctUtf8Decode keepNone false) ∧
    name e u = (rawName u).map (pctUtf8Decode keepNone false) ∧
    suffix e u = (rawSuffix u).map (pctUtf8Decode keepNone false) ∧
    suffixes e u = (rawSuffixes u).map (List.map (pctUtf8Decode keepNone false)) := by
  have h := (C06_uq_is_pctUtf8 e).1
  refine ⟨?_, ?_, ?_, ?_⟩
  · unfold partsDecoded; rw [h]
  · unfold name; rw [h]; cases rawName u <;> rfl
  · unfold suffix; rw [h]; cases rawSuffix u <;> rfl
  · unfold suffixes; rw [h]; cases rawSuffixes u <;> rfl

theorem C06_user_is_decoding (e : Env) (u : Url) :
    user e u = (rawUser e u).map (Option.map (pctUtf8Decode keepNone false)) ∧
    password e u = (rawPassword e u).map (Option.map (pctUtf8Decode keepNone false)) := by
  have h := (C06_uq_is_pctUtf8 e).1
  constructor
  · unfold user; rw [h]; cases rawUser e u <;> rfl
  · unfold password; rw [h]; cases rawPassword e u <;> rfl

/-- all string-valued decoded accessors at once; no hypothesis on the URL record -/
theorem C06_accessors_are_pctUtf8_decodings (e : Env) (u : Url) :
    user e u = (rawUser e u).map (Option.map (pctUtf8Decode keepNone false)) ∧
    password e u = (rawPassword e u).map (Option.map (pctUtf8Decode keepNone false)) ∧
    pathDecoded e u = (if u.path.isEmpty then (if u.netloc.isEmpty then [] else [47])
                       else pctUtf8Decode keepNone false u.path) ∧
    pathSafe e u = (if u.path.isEmpty then (if u.netloc.isEmpty then [] else [47])
                    else pctUtf8Decode keepSlashPercent false u.path) ∧
    partsDecoded e u = (rawParts u).map (pctUtf8Decode keepNone false) ∧
    name e u = (rawName u).map (pctUtf8Decode keepNone false) ∧
    suffix e u = (rawSuffix u).map (pctUtf8Decode keepNone false) ∧
    suffixes e u = (rawSuffixes u).map (List.map (pctUtf8Decode keepNone false)) ∧
    queryString e u = pctUtf8Decode keepQsDelims true u.query ∧
    fragmentDecoded e u = pctUtf8Decode keepNone false u.fragment :=
  ⟨(C06_user_is_decoding e u).1, (C06_user_is_decoding e u).2, C06_path_is_decoding e u,
   C06_path_safe_is_decoding e u, (C06_parts_name_suffix_are_decodings e u).1,
   (C06_parts_name_suffix_are_decodings e u).2.1, (C06_parts_name_suffix_are_decodings e u).2.2.1,
   (C06_parts_name_suffix_are_decodings e u).2.2.2, C06_query_string_is_decoding e u,
   C06_fragment_is_decoding e u⟩

/-! ### valid UTF-8 through the two unquoters that keep characters encoded (the other two: `C06_decodes_utf8`, C06.lean) -/

/-- the textbook decoding does not depend on `keep` for a string none of whose escapes is a kept (ASCII) character -/
theorem C06_pct_keep_irrelevant (keep : Nat → Bool) (plus : Bool) (hk : ∀ c, keep c = true → c < 128) (s : Str)
    (h : ∀ v ∈ escapeBytes s, keep v = false) :
    pctUtf8Decode keep plus s = pctUtf8Decode keepNone plus s :=
  pctUtf8Decode_keep_irrelevant keep plus hk s h

/-- '+' as space = decoding the string in which every literal '+' has been replaced by a space -/
theorem C06_pct_plus_is_replace (keep : Nat → Bool) (s : Str) :
    pctUtf8Decode keep true s = pctUtf8Decode keep false (plusToSpace s) :=
  pctUtf8Decode_plus keep s

/-- so `QS_UNQUOTER(s) == UNQUOTER(s.replace("+", " "))` for a raw query without escapes of '+' '=' '&' ';', and
    `PATH_SAFE_UNQUOTER(s) == UNQUOTER(s)` for a raw path without escapes of '/' '%' -/
theorem C06_qs_path_safe_reduce_to_unquoter (b : Backend) (s : Str) :
    ((∀ v ∈ escapeBytes s, keepQsDelims v = false) →
      Gen.QS_UNQUOTER.run b s = Gen.UNQUOTER.run b (plusToSpace s)) ∧
    ((∀ v ∈ escapeBytes s, keepSlashPercent v = false) →
      Gen.PATH_SAFE_UNQUOTER.run b s = Gen.UNQUOTER.run b s) := by
  have hk1 : ∀ c, keepQsDelims c = true → c < 128 := by
    intro c hc; simp only [keepQsDelims, Bool.or_eq_true, beq_iff_eq] at hc; omega
  have hk2 : ∀ c, keepSlashPercent c = true → c < 128 := by
    intro c hc; simp only [keepSlashPercent, Bool.or_eq_true, beq_iff_eq] at hc; omega
  constructor
  · intro h
    rw [(C06_unquoter_is_pctUtf8 b s).2.2.2, (C06_unquoter_is_pctUtf8 b (plusToSpace s)).1,
      C06_pct_plus_is_replace, C06_pct_keep_irrelevant keepQsDelims false hk1]
    rw [escapeBytes_plusToSpace s]; exact h
  · intro h
    rw [(C06_unquoter_is_pctUtf8 b s).2.2.1, (C06_unquoter_is_pctUtf8 b s).1,
      C06_pct_keep_irrelevant keepSlashPercent false hk2 s h]

/-- valid UTF-8, QS_UNQUOTER (`query_string`): when form-decoding the raw query to bytes (`pctDecodeQs`: '+' →
    space, `%XY` → byte) gives the UTF-8 encoding of a text `t`, and no escape of the raw query is one of the kept
    `%2B %3D %26 %3B`, the unquoter returns exactly `t` -/
theorem C06_qs_decodes_utf8 (b : Backend) (s t : Str) (hs : PyStr s) (hsn : NoSurrogate s)
    (ht : PyStr t) (htn : NoSurrogate t) (h : pctDecodeQs s = utf8s t)
    (hk : ∀ v ∈ escapeBytes s, keepQsDelims v = false) :     -- needed: C06_qs_decodes_utf8_needs_no_kept
    Gen.QS_UNQUOTER.run b s = t := by
  rw [(C06_qs_path_safe_reduce_to_unquoter b s).1 hk, (C06_unquoter_is_pctUtf8 b _).1]
  exact pctUtf8Decode_utf8 _ (QsMore.pts_pyStr hs) (QsMore.pts_noSurr hsn) t ht htn
    (by rw [QsMore.pctDecode_pts]; exact h)

/-- valid UTF-8, PATH_SAFE_UNQUOTER (`path_safe`) -/
theorem C06_path_safe_decodes_utf8 (b : Backend) (s t : Str) (hs : PyStr s) (hsn : NoSurrogate s)
    (ht : PyStr t) (htn : NoSurrogate t) (h : pctDecode s = utf8s t)
    (hk : ∀ v ∈ escapeBytes s, keepSlashPercent v = false) :  -- needed: C06_qs_decodes_utf8_needs_no_kept
    Gen.PATH_SAFE_UNQUOTER.run b s = t := by
  rw [(C06_qs_path_safe_reduce_to_unquoter b s).2 hk, (C06_unquoter_is_pctUtf8 b _).1]
  exact pctUtf8Decode_utf8 s hs hsn t ht htn h

/-- the guards `hk` are needed: "a%3Db" form-decodes to the bytes of "a=b" but `query_string` keeps "a%3Db";
    "a%2Fb" decodes to the bytes of "a/b" but `path_safe` keeps "a%2Fb" -/
theorem C06_qs_decodes_utf8_needs_no_kept (b : Backend) :
    pctDecodeQs "a%3Db".toStr = utf8s "a=b".toStr ∧ Gen.QS_UNQUOTER.run b "a%3Db".toStr = "a%3Db".toStr ∧
    pctDecode "a%2Fb".toStr = utf8s "a/b".toStr ∧ Gen.PATH_SAFE_UNQUOTER.run b "a%2Fb".toStr = "a%2Fb".toStr := by
  refine ⟨by decide +kernel, ?_, by decide +kernel, ?_⟩ <;> cases b <;> decide +kernel

theorem C06_query_string_path_safe_decode_utf8 (e : Env) (u : Url) :
    (∀ t, PyStr u.query → NoSurrogate u.query → PyStr t → NoSurrogate t → pctDecodeQs u.query = utf8s t →
      (∀ v ∈ escapeBytes u.query, keepQsDelims v = false) → queryString e u = t) ∧
    (∀ t, u.path ≠ [] → PyStr u.path → NoSurrogate u.path → PyStr t → NoSurrogate t →
      pctDecode u.path = utf8s t → (∀ v ∈ escapeBytes u.path, keepSlashPercent v = false) →
      pathSafe e u = t) := by
  constructor
  · intro t h1 h2 h3 h4 h5 h6
    rw [C06_query_string_is_decoding, ← (C06_unquoter_is_pctUtf8 e.b u.query).2.2.2]
    exact C06_qs_decodes_utf8 e.b _ t h1 h2 h3 h4 h5 h6
  · intro t h0 h1 h2 h3 h4 h5 h6
    rw [C06_path_safe_is_decoding]
    have : u.path.isEmpty = false := by
      cases hp : u.path with
      | nil => exact absurd hp h0
      | cons _ _ => rfl
    simp only [this, Bool.false_eq_true, if_false]
    rw [← (C06_unquoter_is_pctUtf8 e.b u.path).2.2.1]
    exact C06_path_safe_decodes_utf8 e.b _ t h1 h2 h3 h4 h5 h6


/-! ## 3. malformed / undecodable escapes stay exactly as written, IN CONTEXT — theorems over the independent
    specification, for every `keep`, every '+' flag, every text before (`s1`) and after (`s2`) -/

/-- CONCATENATION: if `s2` starts neither with a hex digit (no escape reaches from `s1` into `s2`) nor with the escape
    of a UTF-8 continuation byte (no sequence reaches from `s1` into `s2`), the two parts decode independently -/
theorem C06_pct_append (keep : Nat → Bool) (plus : Bool) (s1 s2 : Str)
    (h2 : ∀ c, s2.head? = some c → hexValue c = none)
    (hc : ∀ d1 d2 r v, s2 = 37 :: d1 :: d2 :: r → restoreCh d1 d2 = some v → isCont v = false) :
    pctUtf8Decode keep plus (s1 ++ s2) = pctUtf8Decode keep plus s1 ++ pctUtf8Decode keep plus s2 :=
  pctUtf8Decode_append keep plus s2 h2 (noContStart_head hc) s1

/-- MALFORMED: a '%' that is not followed by two hex digits is literal, whatever precedes and follows -/
theorem C06_pct_malformed_verbatim (keep : Nat → Bool) (plus : Bool) (s1 s2 : Str)
    (h : ¬ StartsEscape (37 :: s2)) :
    pctUtf8Decode keep plus (s1 ++ 37 :: s2) = pctUtf8Decode keep plus s1 ++ 37 :: pctUtf8Decode keep plus s2 := by
  have := pct_ctx_plain keep plus 37 (by decide +kernel) s1 s2 h
  simpa using this

/-- '+' is a space iff `plusIsSpace`, whatever precedes and follows -/
theorem C06_pct_plus (keep : Nat → Bool) (plus : Bool) (s1 s2 : Str) :
    pctUtf8Decode keep plus (s1 ++ 43 :: s2) =
      pctUtf8Decode keep plus s1 ++ (if plus = true then 32 else 43) :: pctUtf8Decode keep plus s2 := by
  have := pct_ctx_plain keep plus 43 (by decide +kernel) s1 s2
    (by rintro ⟨d1, d2, r, v, he, _⟩; injection he with h _; cases h)
  simpa using this

/-- WELL-FORMED: escapes (in either hex case) whose bytes are the UTF-8 encoding of a code point `c` decode to `c` —
    to its upper-case percent-encoding when `keep c` — whatever precedes and follows -/
theorem C06_pct_valid_sequence (keep : Nat → Bool) (plus : Bool) (c : Nat) (hc : c ≤ 0x10FFFF)
    (hs : isSurrogate c = false) (es : List (Nat × Str)) (hes : ∀ e ∈ es, EscOK e)
    (hb : runBytes es = utf8 c) (s1 s2 : Str) :
    pctUtf8Decode keep plus (s1 ++ runText es ++ s2) =
      pctUtf8Decode keep plus s1 ++ (if keep c = true then pctEncode c else [c]) ++ pctUtf8Decode keep plus s2 := by
  have hpos := utf8_length_pos c hc hs
  have hlen : es.length = (utf8 c).length := by rw [← hb]; simp
  match es, hes, hb, hlen with
  | [], _, _, hlen => simp at hlen; omega
  | e :: es', hes, hb, hlen =>
    apply pct_ctx keep plus (e :: es') hes (by simp)
    · intro x hx
      simp only [List.head?_cons, Option.some.injEq] at hx
      subst hx
      obtain ⟨y, r, hy, hn⟩ := utf8_head_not_cont c hc hs
      rw [← hb] at hy
      simp only [runBytes, List.map_cons, List.cons.injEq] at hy
      rw [← hy.1] at hn
      exact hn
    · have hh : utf8Head (runBytes (e :: (es' ++ (escapeRun s2).1))) = some (c, (e :: es').length) := by
        have : runBytes (e :: (es' ++ (escapeRun s2).1)) = utf8 c ++ runBytes (escapeRun s2).1 := by
          rw [← hb]; simp [runBytes]
        rw [this, utf8Head_prefix c hc hs, hlen]
      rw [List.cons_append, decodeEscapes_some keep e _ c _ hh, ← List.cons_append,
        List.drop_append_of_le_length (Nat.le_refl _), List.drop_length, List.nil_append]

/-- in particular an escaped ASCII character, in either hex case: `%2F`, `%2f`, `%2B`, … -/
theorem C06_pct_ascii_escape (keep : Nat → Bool) (plus : Bool) (c d1 d2 : Nat) (hc : c < 128)
    (hv : restoreCh d1 d2 = some c) (s1 s2 : Str) :
    pctUtf8Decode keep plus (s1 ++ [37, d1, d2] ++ s2) =
      pctUtf8Decode keep plus s1 ++ (if keep c = true then pctEncode c else [c]) ++ pctUtf8Decode keep plus s2 := by
  have := C06_pct_valid_sequence keep plus c (by omega) (by simp [isSurrogate]; omega) [(c, [37, d1, d2])]
    (by intro e he; simp only [List.mem_singleton] at he; subst he; exact ⟨d1, d2, rfl, hv⟩)
    (by rw [utf8_ascii hc]; rfl) s1 s2
  simpa [runText] using this

/-- UNDECODABLE (1): escapes of bytes that can start no UTF-8 sequence — the first one not a continuation byte, so
    that it cannot complete a sequence begun in `s1`: `C0`, `C1`, `F5`…`FF`, each possibly followed by further such
    bytes or continuation bytes (`%FF`, overlong `%C0%AF`, …) — stay exactly as written -/
theorem C06_pct_invalid_verbatim (keep : Nat → Bool) (plus : Bool) (es : List (Nat × Str))
    (hes : ∀ e ∈ es, EscOK e) (hne : es ≠ [])
    (hbad : ∀ e ∈ es, (0x80 ≤ e.1 ∧ e.1 < 0xC2) ∨ 0xF5 ≤ e.1)
    (hhead : ∀ e, es.head? = some e → isCont e.1 = false) (s1 s2 : Str) :
    pctUtf8Decode keep plus (s1 ++ runText es ++ s2) =
      pctUtf8Decode keep plus s1 ++ runText es ++ pctUtf8Decode keep plus s2 :=
  pct_ctx keep plus es hes hne hhead _ s1 s2 (decodeEscapes_badLead keep es hbad _)

/-- UNDECODABLE (2), truncated: escapes whose bytes are a proper non-empty prefix of the encoding of a code point,
    followed by the end of the string or by anything but the escape of a continuation byte, stay exactly as written -/
theorem C06_pct_truncated_verbatim (keep : Nat → Bool) (plus : Bool) (c : Nat) (hc : c ≤ 0x10FFFF)
    (hs : isSurrogate c = false) (k : Nat) (hk0 : 0 < k) (hk : k < (utf8 c).length) (es : List (Nat × Str))
    (hes : ∀ e ∈ es, EscOK e) (hb : runBytes es = (utf8 c).take k) (s1 s2 : Str)
    (h2 : ∀ d1 d2 r v, s2 = 37 :: d1 :: d2 :: r → restoreCh d1 d2 = some v → isCont v = false) :
    pctUtf8Decode keep plus (s1 ++ runText es ++ s2) =
      pctUtf8Decode keep plus s1 ++ runText es ++ pctUtf8Decode keep plus s2 := by
  have hl : es.length = k := by
    have := congrArg List.length hb
    simp only [List.length_map, List.length_take] at this
    omega
  have hp : Pending es := by
    intro n hn
    rw [hb, List.take_take, Nat.min_eq_left (by omega)]
    exact decodeBuf_utf8_prefix c hc hs (n + 1) (by omega) (by omega)
  have hne : es ≠ [] := by intro h; subst h; simp at hl; omega
  apply pct_ctx keep plus es hes hne
  · intro x hx
    obtain ⟨y, r, hy, hn⟩ := utf8_head_not_cont c hc hs
    match es, hx, hb with
    | e :: es', hx, hb =>
      simp only [List.head?_cons, Option.some.injEq] at hx
      subst hx
      obtain ⟨k', rfl⟩ : ∃ k', k = k' + 1 := ⟨k - 1, by omega⟩
      rw [hy] at hb
      simp only [runBytes, List.map_cons, List.take_succ_cons, List.cons.injEq] at hb
      rw [← hb.1] at hn
      exact hn
  · rw [decodeEscapes_append keep _ (noContStart_head h2) _ es (Nat.le_refl _)]
    congr 1
    have := decodeEscapes_pending keep hp [] (fun _ => by rw [List.append_nil]; exact utf8Head_pending hp)
    rw [List.append_nil, decodeEscapes_nil, List.append_nil] at this
    exact this

/-- UNDECODABLE (3), surrogates: the bytes `ED A0 80` (U+D800 in "UTF-8 shape"; any hex case) stay as written -/
theorem C06_pct_surrogate_verbatim (keep : Nat → Bool) (plus : Bool) (t1 t2 t3 : Str)
    (h1 : EscOK (0xED, t1)) (h2 : EscOK (0xA0, t2)) (h3 : EscOK (0x80, t3)) (s1 s2 : Str) :
    pctUtf8Decode keep plus (s1 ++ (t1 ++ t2 ++ t3) ++ s2) =
      pctUtf8Decode keep plus s1 ++ (t1 ++ t2 ++ t3) ++ pctUtf8Decode keep plus s2 := by
  have := pct_ctx keep plus [(0xED, t1), (0xA0, t2), (0x80, t3)]
    (by intro e he; simp only [List.mem_cons, List.not_mem_nil, or_false] at he
        rcases he with rfl | rfl | rfl <;> assumption)
    (by simp) (fun e he => by cases he; rfl)
    (t1 ++ t2 ++ t3) s1 s2
    (by
      have hh : utf8Head (runBytes ((0xED, t1) :: ([(0xA0, t2), (0x80, t3)] ++ (escapeRun s2).1))) = none :=
        utf8Head_ED_A0_80 (runBytes (escapeRun s2).1)
      rw [List.cons_append, decodeEscapes_none keep (0xED, t1) _ hh,
        decodeEscapes_badLead keep [(0xA0, t2), (0x80, t3)]
          (by intro e he; simp only [List.mem_cons, List.not_mem_nil, or_false] at he
              rcases he with rfl | rfl <;> exact Or.inl ⟨by simp, by simp⟩) _]
      simp [runText])
  simpa [runText] using this

/-- the seven textbook cases, each for EVERY `keep`, '+' flag, and text before and after:
    `%zz`; `%4` (not followed by a hex digit); a trailing `%`; `%FF`; truncated `%E2%82` (not followed by the escape of a
    continuation byte — e.g. at the end of the string or before any non-escape); overlong `%C0%AF`; surrogate bytes
    `%ED%A0%80` — stay exactly as written, and `s1`, `s2` are decoded as they are on their own -/
theorem C06_pct_malformed_examples (keep : Nat → Bool) (plus : Bool) (s1 s2 : Str) :
    pctUtf8Decode keep plus (s1 ++ "%zz".toStr ++ s2) =
      pctUtf8Decode keep plus s1 ++ "%zz".toStr ++ pctUtf8Decode keep plus s2 ∧
    ((∀ c, s2.head? = some c → hexValue c = none) →
      pctUtf8Decode keep plus (s1 ++ "%4".toStr ++ s2) =
        pctUtf8Decode keep plus s1 ++ "%4".toStr ++ pctUtf8Decode keep plus s2) ∧
    pctUtf8Decode keep plus (s1 ++ "%".toStr) = pctUtf8Decode keep plus s1 ++ "%".toStr ∧
    pctUtf8Decode keep plus (s1 ++ "%FF".toStr ++ s2) =
      pctUtf8Decode keep plus s1 ++ "%FF".toStr ++ pctUtf8Decode keep plus s2 ∧
    ((∀ d1 d2 r v, s2 = 37 :: d1 :: d2 :: r → restoreCh d1 d2 = some v → isCont v = false) →
      pctUtf8Decode keep plus (s1 ++ "%E2%82".toStr ++ s2) =
        pctUtf8Decode keep plus s1 ++ "%E2%82".toStr ++ pctUtf8Decode keep plus s2) ∧
    pctUtf8Decode keep plus (s1 ++ "%C0%AF".toStr ++ s2) =
      pctUtf8Decode keep plus s1 ++ "%C0%AF".toStr ++ pctUtf8Decode keep plus s2 ∧
    pctUtf8Decode keep plus (s1 ++ "%ED%A0%80".toStr ++ s2) =
      pctUtf8Decode keep plus s1 ++ "%ED%A0%80".toStr ++ pctUtf8Decode keep plus s2 := by
  have hz : ∀ r, ¬ StartsEscape (122 :: r) := by
    rintro r ⟨d1, d2, r', v, he, _⟩; injection he with h _; cases h
  refine ⟨?_, ?_, ?_, ?_, ?_, ?_, ?_⟩
  · have e1 : s1 ++ "%zz".toStr ++ s2 = s1 ++ 37 :: (122 :: 122 :: s2) := by simp [String.toStr]
    rw [e1, C06_pct_malformed_verbatim keep plus s1 _ (not_startsEscape_of_restoreCh_none (by decide +kernel)),
      pctUtf8Decode_noesc keep plus 122 _ (hz _), pctUtf8Decode_noesc keep plus 122 _ (hz _)]
    simp [String.toStr]
  · intro h
    have e1 : s1 ++ "%4".toStr ++ s2 = s1 ++ 37 :: (52 :: s2) := by simp [String.toStr]
    have hns : ¬ StartsEscape (37 :: 52 :: s2) := by
      rintro ⟨d1, d2, r, v, he, hv⟩
      injection he with _ he; injection he with h1 he
      subst h1
      obtain ⟨a, b, _, hb, _⟩ := hexValue_of_restoreCh hv
      rw [h d2 (by rw [he]; rfl)] at hb; cases hb
    have h4 : ¬ StartsEscape (52 :: s2) := by
      rintro ⟨d1, d2, r', v, he, _⟩; injection he with h _; cases h
    rw [e1, C06_pct_malformed_verbatim keep plus s1 _ hns, pctUtf8Decode_noesc keep plus 52 _ h4]
    simp [String.toStr]
  · have e1 : s1 ++ "%".toStr = s1 ++ 37 :: [] := by simp [String.toStr]
    rw [e1, C06_pct_malformed_verbatim keep plus s1 []
      (by rintro ⟨d1, d2, r, v, he, _⟩; injection he with _ he; cases he), pctUtf8Decode_nil]
    simp [String.toStr]
  · have := C06_pct_invalid_verbatim keep plus [(0xFF, "%FF".toStr)]
      (by intro e he; simp only [List.mem_singleton] at he; subst he; exact ⟨_, _, rfl, by decide +kernel⟩)
      (by simp) (by decide +kernel) (fun e he => by cases he; decide +kernel)
      s1 s2
    simpa [runText] using this
  · intro h
    have := C06_pct_truncated_verbatim keep plus 0x20AC (by decide +kernel) (by decide +kernel) 2 (by decide +kernel) (by decide +kernel)
      [(0xE2, "%E2".toStr), (0x82, "%82".toStr)]
      (by intro e he; simp only [List.mem_cons, List.not_mem_nil, or_false] at he
          rcases he with rfl | rfl <;> exact ⟨_, _, rfl, by decide +kernel⟩)
      (by decide +kernel) s1 s2 h
    simpa [runText, String.toStr] using this
  · have := C06_pct_invalid_verbatim keep plus [(0xC0, "%C0".toStr), (0xAF, "%AF".toStr)]
      (by intro e he; simp only [List.mem_cons, List.not_mem_nil, or_false] at he
          rcases he with rfl | rfl <;> exact ⟨_, _, rfl, by decide +kernel⟩)
      (by simp) (by decide +kernel) (fun e he => by cases he; decide +kernel)
      s1 s2
    simpa [runText, String.toStr] using this
  · have := C06_pct_surrogate_verbatim keep plus "%ED".toStr "%A0".toStr "%80".toStr
      ⟨_, _, rfl, by decide +kernel⟩ ⟨_, _, rfl, by decide +kernel⟩ ⟨_, _, rfl, by decide +kernel⟩ s1 s2
    simpa [String.toStr] using this


/-! ## the keep sets seen on the unquoters themselves, in context -/

/-- explicit consequences of the keep sets on the four generated unquoters (both backends; `s1`, `s2` arbitrary; escapes in
    either hex case as written):
    * PATH_SAFE_UNQUOTER: `%2F` → `%2F`, `%2f` → `%2F` (re-quoted, upper case), `%25` → `%25`, `%2B` → '+', '+' → '+';
    * PATH_UNQUOTER: '+' → '+', `%2B` → '+', `%2F` → '/', `%25` → '%';
    * QS_UNQUOTER: '+' → ' ', `%2B` → `%2B`, `%26` → `%26`, `%3D` → `%3D`, `%3d` → `%3D`, `%3B` → `%3B`, `%20` → ' ',
      `%2F` → '/';
    * UNQUOTER: '+' → '+', `%2B` → '+', `%26` → '&'. -/
theorem C06_unquoter_keep_examples (b : Backend) (s1 s2 : Str) :
    (Gen.PATH_SAFE_UNQUOTER.run b (s1 ++ "%2F".toStr ++ s2) =
      Gen.PATH_SAFE_UNQUOTER.run b s1 ++ "%2F".toStr ++ Gen.PATH_SAFE_UNQUOTER.run b s2 ∧
     Gen.PATH_SAFE_UNQUOTER.run b (s1 ++ "%2f".toStr ++ s2) =
      Gen.PATH_SAFE_UNQUOTER.run b s1 ++ "%2F".toStr ++ Gen.PATH_SAFE_UNQUOTER.run b s2 ∧
     Gen.PATH_SAFE_UNQUOTER.run b (s1 ++ "%25".toStr ++ s2) =
      Gen.PATH_SAFE_UNQUOTER.run b s1 ++ "%25".toStr ++ Gen.PATH_SAFE_UNQUOTER.run b s2 ∧
     Gen.PATH_SAFE_UNQUOTER.run b (s1 ++ "%2B".toStr ++ s2) =
      Gen.PATH_SAFE_UNQUOTER.run b s1 ++ "+".toStr ++ Gen.PATH_SAFE_UNQUOTER.run b s2 ∧
     Gen.PATH_SAFE_UNQUOTER.run b (s1 ++ "+".toStr ++ s2) =
      Gen.PATH_SAFE_UNQUOTER.run b s1 ++ "+".toStr ++ Gen.PATH_SAFE_UNQUOTER.run b s2) ∧
    (Gen.PATH_UNQUOTER.run b (s1 ++ "+".toStr ++ s2) =
      Gen.PATH_UNQUOTER.run b s1 ++ "+".toStr ++ Gen.PATH_UNQUOTER.run b s2 ∧
     Gen.PATH_UNQUOTER.run b (s1 ++ "%2B".toStr ++ s2) =
      Gen.PATH_UNQUOTER.run b s1 ++ "+".toStr ++ Gen.PATH_UNQUOTER.run b s2 ∧
     Gen.PATH_UNQUOTER.run b (s1 ++ "%2F".toStr ++ s2) =
      Gen.PATH_UNQUOTER.run b s1 ++ "/".toStr ++ Gen.PATH_UNQUOTER.run b s2 ∧
     Gen.PATH_UNQUOTER.run b (s1 ++ "%25".toStr ++ s2) =
      Gen.PATH_UNQUOTER.run b s1 ++ "%".toStr ++ Gen.PATH_UNQUOTER.run b s2) ∧
    (Gen.QS_UNQUOTER.run b (s1 ++ "+".toStr ++ s2) =
      Gen.QS_UNQUOTER.run b s1 ++ " ".toStr ++ Gen.QS_UNQUOTER.run b s2 ∧
     Gen.QS_UNQUOTER.run b (s1 ++ "%2B".toStr ++ s2) =
      Gen.QS_UNQUOTER.run b s1 ++ "%2B".toStr ++ Gen.QS_UNQUOTER.run b s2 ∧
     Gen.QS_UNQUOTER.run b (s1 ++ "%26".toStr ++ s2) =
      Gen.QS_UNQUOTER.run b s1 ++ "%26".toStr ++ Gen.QS_UNQUOTER.run b s2 ∧
     Gen.QS_UNQUOTER.run b (s1 ++ "%3D".toStr ++ s2) =
      Gen.QS_UNQUOTER.run b s1 ++ "%3D".toStr ++ Gen.QS_UNQUOTER.run b s2 ∧
     Gen.QS_UNQUOTER.run b (s1 ++ "%3d".toStr ++ s2) =
      Gen.QS_UNQUOTER.run b s1 ++ "%3D".toStr ++ Gen.QS_UNQUOTER.run b s2 ∧
     Gen.QS_UNQUOTER.run b (s1 ++ "%3B".toStr ++ s2) =
      Gen.QS_UNQUOTER.run b s1 ++ "%3B".toStr ++ Gen.QS_UNQUOTER.run b s2 ∧
     Gen.QS_UNQUOTER.run b (s1 ++ "%20".toStr ++ s2) =
      Gen.QS_UNQUOTER.run b s1 ++ " ".toStr ++ Gen.QS_UNQUOTER.run b s2 ∧
     Gen.QS_UNQUOTER.run b (s1 ++ "%2F".toStr ++ s2) =
      Gen.QS_UNQUOTER.run b s1 ++ "/".toStr ++ Gen.QS_UNQUOTER.run b s2) ∧
    (Gen.UNQUOTER.run b (s1 ++ "+".toStr ++ s2) =
      Gen.UNQUOTER.run b s1 ++ "+".toStr ++ Gen.UNQUOTER.run b s2 ∧
     Gen.UNQUOTER.run b (s1 ++ "%2B".toStr ++ s2) =
      Gen.UNQUOTER.run b s1 ++ "+".toStr ++ Gen.UNQUOTER.run b s2 ∧
     Gen.UNQUOTER.run b (s1 ++ "%26".toStr ++ s2) =
      Gen.UNQUOTER.run b s1 ++ "&".toStr ++ Gen.UNQUOTER.run b s2) := by
  have hU : Gen.UNQUOTER.run b = pctUtf8Decode keepNone false := funext fun s => (C06_unquoter_is_pctUtf8 b s).1
  have hP : Gen.PATH_UNQUOTER.run b = pctUtf8Decode keepNone false :=
    funext fun s => (C06_unquoter_is_pctUtf8 b s).2.1
  have hS : Gen.PATH_SAFE_UNQUOTER.run b = pctUtf8Decode keepSlashPercent false :=
    funext fun s => (C06_unquoter_is_pctUtf8 b s).2.2.1
  have hQ : Gen.QS_UNQUOTER.run b = pctUtf8Decode keepQsDelims true :=
    funext fun s => (C06_unquoter_is_pctUtf8 b s).2.2.2
  have esc := fun (keep : Nat → Bool) (plus : Bool) (c d1 d2 : Nat) (hc : c < 128)
      (hv : restoreCh d1 d2 = some c) => C06_pct_ascii_escape keep plus c d1 d2 hc hv s1 s2
  have plus := fun (keep : Nat → Bool) (plus : Bool) => by
    have := C06_pct_plus keep plus s1 s2
    rw [← List.singleton_append, ← List.append_assoc, ← List.singleton_append (l := pctUtf8Decode keep plus s2),
      ← List.append_assoc] at this
    exact this
  rw [hU, hP, hS, hQ]
  refine ⟨⟨esc _ _ 0x2F 50 70 ?_ ?_, esc _ _ 0x2F 50 102 ?_ ?_, esc _ _ 0x25 50 53 ?_ ?_, esc _ _ 0x2B 50 66 ?_ ?_,
      plus _ _⟩,
    ⟨plus _ _, esc _ _ 0x2B 50 66 ?_ ?_, esc _ _ 0x2F 50 70 ?_ ?_, esc _ _ 0x25 50 53 ?_ ?_⟩,
    ⟨plus _ _, esc _ _ 0x2B 50 66 ?_ ?_, esc _ _ 0x26 50 54 ?_ ?_, esc _ _ 0x3D 51 68 ?_ ?_, esc _ _ 0x3D 51 100 ?_ ?_,
      esc _ _ 0x3B 51 66 ?_ ?_, esc _ _ 0x20 50 48 ?_ ?_, esc _ _ 0x2F 50 70 ?_ ?_⟩,
    ⟨plus _ _, esc _ _ 0x2B 50 66 ?_ ?_, esc _ _ 0x26 50 54 ?_ ?_⟩⟩ <;> decide +kernel

/-! ## examples and non-vacuity -/

/-- `utf8Head` on the textbook cases: a well-formed 3-byte sequence (followed by anything); overlong `C0 AF`; surrogate
    `ED A0 80`; above U+10FFFF `F4 90 80 80`; truncated `E2 82`; a stray continuation byte; overlong `E0 9F BF`;
    the largest and smallest 4-byte sequences -/
example : utf8Head [0xE2, 0x82, 0xAC, 0x41] = some (0x20AC, 3) ∧ utf8Head [0xC0, 0xAF] = none ∧
    utf8Head [0xED, 0xA0, 0x80] = none ∧ utf8Head [0xF4, 0x90, 0x80, 0x80] = none ∧ utf8Head [0xE2, 0x82] = none ∧
    utf8Head [0x80] = none ∧ utf8Head [0xE0, 0x9F, 0xBF] = none ∧
    utf8Head [0xF4, 0x8F, 0xBF, 0xBF] = some (0x10FFFF, 4) ∧ utf8Head [0xF0, 0x90, 0x80, 0x80] = some (0x10000, 4) ∧
    utf8Head [0xED, 0x9F, 0xBF] = some (0xD7FF, 3) ∧ utf8Head [0x41, 0xFF] = some (0x41, 1) := by decide +kernel

/-- the maximal run of escapes, with the text as written -/
example : escapeRun "%c3%A9%zz".toStr = ([(0xC3, "%c3".toStr), (0xA9, "%A9".toStr)], "%zz".toStr) ∧
    escapeRun "%4%41".toStr = ([], "%4%41".toStr) ∧ escapeRun "x%41".toStr = ([], "x%41".toStr) := by
  str_lits; decide +kernel

/-- the specification computed on one string with every case in it, for the four configurations -/
example :
    pctUtf8Decode keepNone false "a+%C3%a9%zz%4%2f%25%41%2B%FF%E2%82%C0%AF%ED%A0%80%E2%82%ACx%".toStr =
      "a+".toStr ++ [233] ++ "%zz%4/%A+%FF%E2%82%C0%AF%ED%A0%80".toStr ++ [0x20AC] ++ "x%".toStr ∧
    pctUtf8Decode keepSlashPercent false "a+%C3%a9%zz%4%2f%25%41%2B%FF%E2%82%C0%AF%ED%A0%80%E2%82%ACx%".toStr =
      "a+".toStr ++ [233] ++ "%zz%4%2F%25A+%FF%E2%82%C0%AF%ED%A0%80".toStr ++ [0x20AC] ++ "x%".toStr ∧
    pctUtf8Decode keepQsDelims true "a+%C3%a9%zz%4%2f%25%41%2B%3d%FF%E2%82%C0%AF%ED%A0%80%E2%82%ACx%".toStr =
      "a ".toStr ++ [233] ++ "%zz%4/%A%2B%3D%FF%E2%82%C0%AF%ED%A0%80".toStr ++ [0x20AC] ++ "x%".toStr := by
  str_lits; decide +kernel

/-- the main theorem on that string, both sides computed, both backends -/
example : ∀ b : Backend,
    Gen.QS_UNQUOTER.run b "a+%C3%a9%zz%4%2f%25%41%2B%3d%FF%E2%82%C0%AF%ED%A0%80%E2%82%ACx%".toStr =
      pctUtf8Decode keepQsDelims true "a+%C3%a9%zz%4%2f%25%41%2B%3d%FF%E2%82%C0%AF%ED%A0%80%E2%82%ACx%".toStr ∧
    Gen.PATH_SAFE_UNQUOTER.run b "/a%2fb%25%E2%82".toStr = pctUtf8Decode keepSlashPercent false "/a%2fb%25%E2%82".toStr := by
  str_lits; intro b; cases b <;> decide +kernel

example : escapeBytes "a%20b%c3%A9%zz%4%".toStr = [0x20, 0xC3, 0xA9] ∧ escapeBytes "%%41".toStr = [0x41] := by
  str_lits; decide +kernel

/-- hypotheses of `C06_qs_decodes_utf8` / `C06_path_safe_decodes_utf8` / `C06_pct_keep_irrelevant` are satisfiable by
    non-trivial inputs ("a+b%C3%A9%20c" ↦ "a bé c"; "/a%20b/%E2%82%AC+" ↦ "/a b/€+"), and the conclusions computed -/
example : PyStr "a+b%C3%A9%20c".toStr ∧ NoSurrogate "a+b%C3%A9%20c".toStr ∧
    PyStr ("a b".toStr ++ [233] ++ " c".toStr) ∧ NoSurrogate ("a b".toStr ++ [233] ++ " c".toStr) ∧
    pctDecodeQs "a+b%C3%A9%20c".toStr = utf8s ("a b".toStr ++ [233] ++ " c".toStr) ∧
    (∀ v ∈ escapeBytes "a+b%C3%A9%20c".toStr, keepQsDelims v = false) ∧
    (∀ c, keepQsDelims c = true → c < 128) := by
  str_lits
  refine ⟨by decide +kernel, by decide +kernel, by decide +kernel, by decide +kernel, by decide +kernel, by decide +kernel, ?_⟩
  intro c hc; simp only [keepQsDelims, Bool.or_eq_true, beq_iff_eq] at hc; omega
example : PyStr "/a%20b/%E2%82%AC+".toStr ∧ NoSurrogate "/a%20b/%E2%82%AC+".toStr ∧
    pctDecode "/a%20b/%E2%82%AC+".toStr = utf8s ("/a b/".toStr ++ [0x20AC] ++ "+".toStr) ∧
    (∀ v ∈ escapeBytes "/a%20b/%E2%82%AC+".toStr, keepSlashPercent v = false) := by
  str_lits; decide +kernel
example (b : Backend) : Gen.QS_UNQUOTER.run b "a+b%C3%A9%20c".toStr = "a b".toStr ++ [233] ++ " c".toStr :=
  C06_qs_decodes_utf8 b _ _ (by decide +kernel) (by decide +kernel) (by decide +kernel) (by decide +kernel) (by decide +kernel) (by decide +kernel)
example (b : Backend) :
    Gen.PATH_SAFE_UNQUOTER.run b "/a%20b/%E2%82%AC+".toStr = "/a b/".toStr ++ [0x20AC] ++ "+".toStr :=
  C06_path_safe_decodes_utf8 b _ _ (by decide +kernel) (by decide +kernel) (by decide +kernel) (by decide +kernel) (by decide +kernel)
    (by decide +kernel)

/-- accessor level, on a URL record -/
example (e : Env) :
    queryString e (fromParts "http".toStr "h".toStr "/a%20b".toStr "k=v+w%C3%A9".toStr []) =
      "k=v w".toStr ++ [233] ∧
    pathSafe e (fromParts "http".toStr "h".toStr "/a%20b".toStr "k=v+w%C3%A9".toStr []) = "/a b".toStr := by
  constructor
  · exact (C06_query_string_path_safe_decode_utf8 e _).1 _ (by decide +kernel) (by decide +kernel) (by decide +kernel) (by decide +kernel)
      (by decide +kernel) (by decide +kernel)
  · exact (C06_query_string_path_safe_decode_utf8 e _).2 _ (by decide +kernel) (by decide +kernel) (by decide +kernel) (by decide +kernel)
      (by decide +kernel) (by decide +kernel) (by decide +kernel)

/-- hypotheses of the in-context theorems: escapes as written in either case; a text that may follow a truncated
    sequence / `%4`; a text that may not -/
example : EscOK (0xE2, "%e2".toStr) ∧ EscOK (0x82, "%82".toStr) ∧ EscOK (0xAC, "%aC".toStr) ∧
    EscOK (0xED, "%eD".toStr) ∧ EscOK (0xC0, "%c0".toStr) ∧
    runBytes [(0xE2, "%e2".toStr), (0x82, "%82".toStr), (0xAC, "%aC".toStr)] = utf8 0x20AC ∧
    runBytes [(0xF0, "%F0".toStr), (0x9F, "%9f".toStr), (0x98, "%98".toStr)] = (utf8 0x1F600).take 3 :=
  ⟨⟨_, _, rfl, by decide +kernel⟩, ⟨_, _, rfl, by decide +kernel⟩, ⟨_, _, rfl, by decide +kernel⟩, ⟨_, _, rfl, by decide +kernel⟩,
   ⟨_, _, rfl, by decide +kernel⟩, by decide +kernel, by decide +kernel⟩
example : (∀ c, "x%80".toStr.head? = some c → hexValue c = none) ∧
    (∀ d1 d2 r v, "%41%80".toStr = 37 :: d1 :: d2 :: r → restoreCh d1 d2 = some v → isCont v = false) ∧
    ¬ (∀ d1 d2 r v, "%80".toStr = 37 :: d1 :: d2 :: r → restoreCh d1 d2 = some v → isCont v = false) := by
  refine ⟨?_, ?_, ?_⟩
  · intro c hc; cases hc; decide +kernel
  · intro d1 d2 r v he hv
    rw [show "%41%80".toStr = [37, 52, 49, 37, 56, 48] from by decide +kernel] at he
    injection he with _ he; injection he with h1 he; injection he with h2 _
    subst h1; subst h2
    have : restoreCh 52 49 = some 0x41 := by decide +kernel
    rw [this] at hv; cases hv; decide +kernel
  · intro h
    exact absurd (h 56 48 [] 0x80 (by decide +kernel) (by decide +kernel)) (by decide +kernel)
/-- the side condition of the truncated case is needed: `%E2%82` followed by `%AC` is a complete sequence -/
example : pctUtf8Decode keepNone false ("%E2%82".toStr ++ "%AC".toStr) = [0x20AC] ∧
    pctUtf8Decode keepNone false "%E2%82".toStr ++ pctUtf8Decode keepNone false "%AC".toStr = "%E2%82%AC".toStr := by
  str_lits; decide +kernel
/-- the seven cases of `C06_pct_malformed_examples` in one concrete context, computed -/
example : pctUtf8Decode keepQsDelims true "%C3%A9+%zz=%4&%FF;%E2%82/%C0%AF%41%ED%A0%80%C3%A9%".toStr =
    [233] ++ " %zz=%4&%FF;%E2%82/%C0%AFA%ED%A0%80".toStr ++ [233] ++ "%".toStr := by str_lits; decide +kernel


end Yarl
