/-
  C19 (allocation-failure clause): the compiled quoter's output buffer, for EVERY
  buffer size, every fault oracle and every input.
-/
import YarlProofs.Lemmas.WriterLemmas
namespace Yarl.Writer
open Yarl.WriterLemmas

set_option linter.unusedVariables false in
/-- a call either returns exactly the bytes written or raises MemoryError: never a truncated or corrupted result
    (`hn` is not needed) -/
theorem C19_writer_faults (n : Nat) (hn : 0 < n) (faults : Nat → Bool) (cs : List Nat) :
    (run n faults cs).1 = .ok cs ∨ (run n faults cs).1 = .error .memoryError := run_dichotomy n faults cs

/-- no leak, no double free, the static buffer is never freed -/
theorem C19_writer_release (n : Nat) (hn : 0 < n) (faults : Nat → Bool) (cs : List Nat) :
    (run n faults cs).2.live = [] ∧ (run n faults cs).2.freed.Nodup ∧
    (run n faults cs).2.staticFreed = false ∧ (run n faults cs).2.freed.length ≤ 1 := by
  obtain ⟨k, d, h, -, -⟩ := reach_run hn faults cs
  rw [run_snd, h, release_grown]
  cases k <;> simp [grown]

/-- no write past the capacity of the current buffer -/
theorem C19_writer_capacity (n : Nat) (hn : 0 < n) (faults : Nat → Bool) (cs : List Nat) :
    let w := (writeAll n faults (init n) cs).1; w.data.length ≤ w.size := by
  obtain ⟨k, d, h, hc, -⟩ := reach_run hn faults cs
  simp only [h]
  exact hc

/-- an output that fits the static buffer never allocates, so no fault can matter -/
theorem C19_writer_small_never_fails (n : Nat) (faults : Nat → Bool) (cs : List Nat) (h : cs.length ≤ n) :
    (run n faults cs).1 = .ok cs := by
  rw [run_fst, writeAll_room n faults cs (init n) (by simpa [init] using h)]
  simp [init]

set_option linter.unusedVariables false in
/-- a failed call cannot influence a later one: every call starts from `init` (so `hn`, `f1`, `cs1` are not used) -/
theorem C19_writer_after_failure (n : Nat) (hn : 0 < n) (f1 : Nat → Bool) (cs1 cs2 : List Nat) :
    (run n (fun _ => false) cs2).1 = .ok cs2 := run_ok n cs2

/-- the buffer size extracted from the working tree's `.pyx` is positive (so the theorems above apply to it) -/
theorem C19_writer_bufsize_pos : 0 < Gen.bufSize := by decide

end Yarl.Writer

namespace Yarl
open Yarl.Writer Yarl.WriterLemmas

/-- request 0 is served by the malloc branch (buffer still static), every later request by the
    realloc branch; the capacity after `k` successful requests is `(k+1)·n`; the live block
    carries the index of the request that created it.  (All `cs`, hence every intermediate state.) -/
theorem C19_writer_growth_kind (n : Nat) (hn : 0 < n) (faults : Nat → Bool) (cs : List Nat) :
    let w := (writeAll n faults (init n) cs).1
    (w.buf = .static ↔ w.allocs = 0) ∧ w.size = (w.allocs + 1) * n ∧
    (∀ id, w.buf = .heap id → id + 1 = w.allocs) := by
  obtain ⟨k, d, h, -, -⟩ := reach_run hn faults cs
  simp only [h]
  cases k <;> simp [grown]

end Yarl
