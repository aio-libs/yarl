import YarlProofs.C02Headline
import YarlProofs.C02HeadlineMore
import YarlProofs.C02HeadlineMore2
import YarlProofs.C02HeadlineMore3
import YarlProofs.C02HeadlineMore4
import YarlProofs.C02QueryStr
/-!
  C02HeadlineMore5.lean — AUDIT LAYER for property C02, fifth continuation of C02Headline.lean: headline theorems for the
  proof module added after the last refresh, C02QueryStr.lean (the STRING-argument forms of the query modifiers).  This
  file is a leaf, nobody imports it.  The GAPS block of C02Headline.lean (items 3, 6, 7, 8) cites the theorems of this
  file; the C12 half of the module is in C12HeadlineMore5.lean.

  C02 | Canonicalisation never changes what a URL means |
  "Auto-encoding preserves every decoded value: percent-decoding the canonical user, password, each path
  segment, each query key and value, and the fragment yields exactly the bytes obtained by percent-decoding
  (as UTF-8) the text that was supplied. Delimiter status is preserved too: an encoded '/' inside a path
  segment and encoded '&', '=', '+', ';' inside a query stay encoded, literal ones stay literal, so the number
  and boundaries of path segments and query pairs never change."

  What is here.  The three methods read a `str` argument in TWO ways (observed on the library, reproduced by the model):
      with_query("a=1%2B2")     stores  a=1%252B2      the string is TEXT: '%' is data; '+' '&' '=' ';' stay literal
      extend_query("a=1%2B2")   appends a=1%252B2      (same)
      update_query("a=1%2B2")   stores  a=1%2B2        the string is PARSED (`parse_qsl`), every key / value re-quoted
   * TEXT forms (with_query, extend_query): the exact stored text for EVERY string
     (`C02_headline_qstr_text_forms_stored`); decoded values piece by piece, '%' being data
     (`C02_headline_qstr_with_query_decoded_values`, `C02_headline_qstr_extend_query_decoded_values`); "literal '&' '='
     ';' '+' stay literal" — TRUE, as a split statement and position by position
     (`C02_headline_qstr_text_forms_literal_delims`).
   * PARSED form (update_query): decoded values and pair boundaries are preserved
     (`C02_headline_qstr_update_query_decoded_values`) — the bytes of the supplied text EXACTLY when every escape of it
     is valid UTF-8 (`C02_headline_qstr_update_query_bytes_iff_escapes_valid`); otherwise EF BF BD is stored: the clause
     is FALSE there (`C02_headline_qstr_update_query_fails_for_undecodable_escape`; KNOWN FINDING F-C02-query-replace,
     same root as F-C06-query-replace).
   * PARSED form, delimiter status: "literal ones stay literal" is FALSE for update_query(str) — in general
     (`C02_headline_qstr_update_query_delims_reencoded`: never a literal ';', exactly one literal '=' per stored piece)
     and on four calls (`C02_headline_qstr_update_query_literal_delims_fail`: '=' / ';' inside a value get ENCODED, a
     bare key GAINS '=', an empty '&'-piece DISAPPEARS).  Decoded values and pairs are the same; NOT in
     KNOWN_FINDINGS.jsonl as a C02 entry of its own.
   * the observed calls (`C02_headline_qstr_instances`) and the vocabulary spelled out (`C02_headline_qstr_vocabulary_def`).

  Vocabulary added by C02QueryStr.lean (namespace `R15`; all definitions to be read).
  `pieces s`        — the NON-EMPTY '&'-pieces of `s` (what `parse_qsl` turns into pairs; ';' is no separator).
  `keyText p`, `valText p` — the text of the piece `p` before / after its FIRST '=' (value "" when there is none).
  `ValidUtf8 bs`    — `bs` is the UTF-8 encoding of a Python string without lone surrogates.
  `EscapesValid s`  — for every piece of `s`, the form-decoded bytes of its key text and of its value text are `ValidUtf8`.
  `ex "q"`          — the URL http://h/?q of the examples.
  From earlier files: `q e A x` = the quoter `A` on backend `e.b`; `pctDecodeQs` = form-decoding to bytes ('+' → space,
  %XY → byte); `formDecode x` = `decodeReplace (pctDecodeQs x)`, the decoded TEXT with errors='replace'; `utf8s` = UTF-8
  bytes of a text (lone surrogates dropped); `plusToSpace`; `parseQsl` = `parse_qsl(keep_blank_values=True,
  errors='replace')`; `parseQslLit` = the LITERAL pairs of a text (no percent-decoding; C12More.lean); `mdUpdate` =
  `MultiDict.update` (C12); `queryPairs u` = `parseQsl u.query`; `GoodText s` = Python string without lone surrogates;
  `GoodPairs`; `btoks` / `BTok.lit` / `BTok.esc` = the byte tokens of a stored text (Lemmas/TokLemmas.lean); `stripTrail L` = `L`
  without an empty last piece; `partition 61 P` = split at the first '='; 38 '&', 61 '=', 59 ';', 43 '+', 37 '%', 32 ' '.
-/
namespace Yarl
open QsLemmas MdLemmas QueryUrl WfLemmas TokLemmas QsMore MeanMore QsSpec OutLangLemmas PathAlg PathLemmas R15

/-! ## `with_query(str)` / `extend_query(str)`: the string is TEXT -/

/-- the EXACT stored text, for EVERY string and every URL (no hypothesis): `with_query(<str>)` sets the query to
    `QUERY_QUOTER(s)` and moves nothing else; `extend_query(<str>)` does nothing when the string quotes to "", else appends
    the quoted string to the old query — after an "&" unless the old query is empty or already ends in "&".
    Cites C02_qstr_with_query_stored, C02_qstr_extend_query_stored. -/
theorem C02_headline_qstr_text_forms_stored (e : Env) (u : Url) (s : Str) :
    withQuery e u (.str s) = .ok (fromParts u.scheme u.netloc u.path (q e Gen.QUERY_QUOTER s) u.fragment) ∧
    extendQuery e u (.str s) = .ok
      (if q e Gen.QUERY_QUOTER s = [] then u
       else fromParts u.scheme u.netloc u.path
        (if u.query = [] then q e Gen.QUERY_QUOTER s
         else if u.query.getLast? = some 38 then u.query ++ q e Gen.QUERY_QUOTER s
         else u.query ++ [38] ++ q e Gen.QUERY_QUOTER s) u.fragment) :=
  ⟨C02_qstr_with_query_stored e u s, C02_qstr_extend_query_stored e u s⟩

/-- "percent-decoding … each query key and value … yields exactly the bytes … of the text that was supplied" and "the
    number and boundaries of … query pairs never change" for `with_query(<str>)`, every Python string: the stored query
    has exactly as many '&'-pieces as the supplied TEXT, and piece by piece — split at the first '=' — (form-decoded key,
    has '=', form-decoded value) of the stored piece are (UTF-8 bytes of the key text, has '=', UTF-8 bytes of the value
    text) of the supplied piece, a supplied '+' read as a space.  There is NO percent-decoding of the supplied text: the
    right-hand sides are `utf8s`, '%' is data ("%2B" is stored "%252B").  Cites C02_qstr_with_query_form_decoding. -/
theorem C02_headline_qstr_with_query_decoded_values (e : Env) (u : Url) (s : Str)
    (hs : PyStr s) :                     -- model artefact: code points of a Python string
    ∃ v, withQuery e u (.str s) = .ok v ∧ v.query = q e Gen.QUERY_QUOTER s ∧
      (splitOn 38 v.query).length = (splitOn 38 s).length ∧
      (splitOn 38 v.query).map (fun P =>
          (pctDecodeQs (partition 61 P).1, (partition 61 P).2.1, pctDecodeQs (partition 61 P).2.2)) =
        (splitOn 38 s).map (fun T =>
          (utf8s (plusToSpace (partition 61 T).1), (partition 61 T).2.1, utf8s (plusToSpace (partition 61 T).2.2))) ∧
      pctDecodeQs v.query = utf8s (plusToSpace s) :=
  C02_qstr_with_query_form_decoding e u s hs

/-- … the same for `extend_query(<str>)`: the OLD '&'-pieces are kept byte for byte (without the empty piece after a
    trailing '&'), followed by one piece per '&'-piece of the supplied TEXT with exactly its bytes; scheme, authority, path
    and fragment are untouched.  Cites C02_qstr_extend_query_form_decoding. -/
theorem C02_headline_qstr_extend_query_decoded_values (e : Env) (u : Url) (s : Str)
    (hs : GoodText s)                    -- Python string without lone surrogates (C02Headline.lean GAPS 5)
    (hne : s ≠ []) :                     -- extend_query("") changes nothing
    ∃ v, extendQuery e u (.str s) = .ok v ∧
      splitOn 38 v.query = stripTrail (splitOn 38 u.query) ++ (splitOn 38 s).map (q e Gen.QUERY_QUOTER) ∧
      ((splitOn 38 s).map (q e Gen.QUERY_QUOTER)).map (fun P =>
          (pctDecodeQs (partition 61 P).1, (partition 61 P).2.1, pctDecodeQs (partition 61 P).2.2)) =
        (splitOn 38 s).map (fun T =>
          (utf8s (plusToSpace (partition 61 T).1), (partition 61 T).2.1, utf8s (plusToSpace (partition 61 T).2.2))) ∧
      v.scheme = u.scheme ∧ v.netloc = u.netloc ∧ v.path = u.path ∧ v.fragment = u.fragment :=
  C02_qstr_extend_query_form_decoding e u s hs hne

/-- "literal ones stay literal" for the TEXT forms (the stored text of both is `QUERY_QUOTER` of the argument) — TRUE:
    (1) cutting at '&', '=' or ';' commutes with the quoter: the stored text has a literal delimiter exactly where the
    supplied text has one; (2) POSITION BY POSITION (one token per stored byte, an escape %XY being one token): a literal
    '&' / '=' / ';' sits exactly where the UTF-8 bytes of the supplied text have that byte, a literal '+' where they have
    '+' OR a space (the only change of spelling: a supplied space is stored '+', item 6), NO escape of a delimiter (%26 %3D
    %3B %2B) is ever written, and there are as many tokens as supplied bytes.
    Cites C02_qstr_literal_delims_split, C02_qstr_literal_delims_positions. -/
theorem C02_headline_qstr_text_forms_literal_delims (b : Backend) (s : Str) (hs : PyStr s) :
    (∀ d, d = 38 ∨ d = 61 ∨ d = 59 →
      splitOn d (Gen.QUERY_QUOTER.run b s) = (splitOn d s).map (Gen.QUERY_QUOTER.run b)) ∧
    (∀ d, d = 38 ∨ d = 61 ∨ d = 59 →
      (btoks (Gen.QUERY_QUOTER.run b s)).map (fun k => decide (k = .lit d)) = (utf8s s).map (fun x => decide (x = d))) ∧
    (btoks (Gen.QUERY_QUOTER.run b s)).map (fun k => decide (k = .lit 43)) =
      (utf8s s).map (fun x => decide (x = 43 ∨ x = 32)) ∧
    (∀ d, d = 38 ∨ d = 61 ∨ d = 59 ∨ d = 43 → BTok.esc d ∉ btoks (Gen.QUERY_QUOTER.run b s)) ∧
    (btoks (Gen.QUERY_QUOTER.run b s)).length = (utf8s s).length :=
  ⟨fun d hd => C02_qstr_literal_delims_split b s hs d hd, C02_qstr_literal_delims_positions b s hs⟩

/-! ## `update_query(str)` (and the `%` operator, which is the same call): the string is PARSED -/

/-- "preserves every decoded value … the number and boundaries of … query pairs never change" for `update_query(<str>)`,
    the half that HOLDS.  With `R` = `MultiDict(old pairs).update(parse_qsl(s))`: the stored query has exactly one
    '&'-piece per pair of `R`, that piece is `QUERY_PART_QUOTER(key) = QUERY_PART_QUOTER(value)` — the stored text is the
    re-quoted DECODED value —, each stored piece form-decodes to exactly (UTF-8 bytes of the key, has '=', UTF-8 bytes of
    the value) of its pair, the result reads back as `R`; every pair of `parse_qsl(s)` is in `R`, every other pair of `R`
    is an old pair; `parse_qsl(s)` has one pair per NON-EMPTY '&'-piece of `s` — with the form-decoded bytes of that
    piece's key / value text WHEN EVERY ESCAPE DECODES (`EscapesValid s`; exact: next theorem).
    Cites C02_qstr_update_preserves_values. -/
theorem C02_headline_qstr_update_query_decoded_values (e : Env) (u : Url) (s : Str)
    (hs : GoodText s)                    -- Python string without lone surrogates
    (hgu : GoodPairs (queryPairs u))     -- the OLD pairs are re-rendered too; true of every reachable URL (C12 GAPS 7, 9)
    (hne : parseQsl s ≠ []) :            -- the string has a non-empty '&'-piece
    ∃ v, updateQuery e u (.str s) = .ok v ∧
      let R := mdUpdate (queryPairs u) (parseQsl s)
      splitOn 38 v.query =
        R.map (fun p => q e Gen.QUERY_PART_QUOTER p.1 ++ [61] ++ q e Gen.QUERY_PART_QUOTER p.2) ∧
      (splitOn 38 v.query).length = R.length ∧
      (splitOn 38 v.query).map (fun P =>
          (pctDecodeQs (partition 61 P).1, (partition 61 P).2.1, pctDecodeQs (partition 61 P).2.2)) =
        R.map (fun p => (utf8s p.1, true, utf8s p.2)) ∧
      queryPairs v = R ∧
      (∀ p ∈ parseQsl s, p ∈ R) ∧ (∀ p ∈ R, p ∈ queryPairs u ∨ p ∈ parseQsl s) ∧
      (parseQsl s).length = (pieces s).length ∧
      (EscapesValid s →
        (parseQsl s).map (fun p => (utf8s p.1, utf8s p.2)) =
          (pieces s).map (fun p => (pctDecodeQs (keyText p), pctDecodeQs (valText p)))) ∧
      v.scheme = u.scheme ∧ v.netloc = u.netloc ∧ v.path = u.path ∧ v.fragment = u.fragment :=
  C02_qstr_update_preserves_values e u s hs hgu hne

/-- the hypothesis `EscapesValid` is EXACT: the pairs `update_query(<str>)` adds carry, key by key and value by value,
    exactly the form-decoded bytes of the supplied piece's key / value text IF AND ONLY IF every escape of the string
    decodes to well-formed UTF-8; and for a single text: `utf8s (formDecode x) = pctDecodeQs x ⟺ ValidUtf8 (pctDecodeQs
    x)`.  (Escapes ARE escapes here and '+' is a space; for the TEXT forms '%' is data.)
    Cites C02_qstr_parse_bytes_iff, C02_qstr_formDecode_exact_iff. -/
theorem C02_headline_qstr_update_query_bytes_iff_escapes_valid (s : Str) (hs : GoodText s) :
    ((parseQsl s).map (fun p => (utf8s p.1, utf8s p.2)) =
        (pieces s).map (fun p => (pctDecodeQs (keyText p), pctDecodeQs (valText p))) ↔ EscapesValid s) ∧
    (∀ x : Str, utf8s (formDecode x) = pctDecodeQs x ↔ ValidUtf8 (pctDecodeQs x)) :=
  ⟨C02_qstr_parse_bytes_iff s hs, C02_qstr_formDecode_exact_iff⟩

/-- "preserves every decoded value" is FALSE for `update_query(<str>)` when an escape is NOT valid UTF-8 — KNOWN FINDING
    F-C02-query-replace (same root as F-C06-query-replace: `parse_qsl(errors='replace')`).  (1) in general: for a key or
    value text `t ++ "%XY" ++ y` (`t` without '%' and '+') whose escape XY is a byte that occurs in no well-formed UTF-8
    sequence (C0, C1, F5..FF), the supplied text form-decodes to bytes containing XY, the decoded TEXT has U+FFFD there,
    and its bytes — EF BF BD, stored "%EF%BF%BD" on both backends — DIFFER from the supplied ones; (2) the library call
    `URL("http://h/").update_query("bad=%FF")` is http://h/?bad=%EF%BF%BD; (3) an OLD pair is rewritten too:
    `URL("http://h/?a=%FF").update_query("b=1")` is http://h/?a=%EF%BF%BD&b=1 (with_query / extend_query cannot
    produce the effect: for them '%' is data, theorems above; that the constructor keeps "%FF" is C02Headline.lean
    items 2 / 4, not restated here).  Cites C02_qstr_update_undecodable_escape, C02_qstr_update_replacement_stored,
    C02_qstr_instance_update_query_replace, C02_qstr_instance_update_query_rewrites_old. -/
theorem C02_headline_qstr_update_query_fails_for_undecodable_escape (e : Env) :
    (∀ (t y : Str) (b0 : Nat), GoodText t → 37 ∉ t → 43 ∉ t →
      ((0xC0 ≤ b0 ∧ b0 < 0xC2) ∨ (0xF5 ≤ b0 ∧ b0 < 256)) →
      pctDecodeQs (t ++ pct b0 ++ y) = utf8s t ++ b0 :: pctDecodeQs y ∧
      formDecode (t ++ pct b0 ++ y) = t ++ 0xFFFD :: formDecode y ∧
      utf8s (formDecode (t ++ pct b0 ++ y)) = utf8s t ++ [0xEF, 0xBF, 0xBD] ++ utf8s (formDecode y) ∧
      utf8s (formDecode (t ++ pct b0 ++ y)) ≠ pctDecodeQs (t ++ pct b0 ++ y)) ∧
    (utf8 0xFFFD = [0xEF, 0xBF, 0xBD] ∧ Gen.QUERY_PART_QUOTER.run e.b [0xFFFD] = "%EF%BF%BD".toStr) ∧
    (updateQuery e (ex "") (.str "bad=%FF".toStr) = .ok (ex "bad=%EF%BF%BD") ∧
      pctDecodeQs "%FF".toStr = [0xFF] ∧ pctDecodeQs "%EF%BF%BD".toStr = [0xEF, 0xBF, 0xBD] ∧
      ¬ EscapesValid "bad=%FF".toStr) ∧
    (updateQuery e (ex "a=%FF") (.str "b=1".toStr) = .ok (ex "a=%EF%BF%BD&b=1") ∧
      GoodPairs (queryPairs (ex "a=%FF"))) :=
  ⟨fun t y b0 ht h37 h43 hb => C02_qstr_update_undecodable_escape t y b0 ht h37 h43 hb,
   C02_qstr_update_replacement_stored e.b, C02_qstr_instance_update_query_replace e,
   C02_qstr_instance_update_query_rewrites_old e⟩

/-- "literal ones stay literal" FAILS for `update_query(<str>)`, GENERAL form (hypotheses as for the decoded values):
    whatever the string, NO literal ';' is stored, no stored '&'-piece contains an '&', and every stored '&'-piece has
    EXACTLY ONE literal '=' — so a literal ';' of the supplied string and every literal '=' after the first one of a piece
    is stored ENCODED (%3B / %3D), and a piece without '=' GAINS one.  This also holds for the OLD pieces (all are
    re-rendered).  Cites C02_qstr_update_delims_reencoded. -/
theorem C02_headline_qstr_update_query_delims_reencoded (e : Env) (u : Url) (s : Str) (hs : GoodText s)
    (hgu : GoodPairs (queryPairs u)) (hne : parseQsl s ≠ []) :
    ∃ v, updateQuery e u (.str s) = .ok v ∧
      59 ∉ v.query ∧ (∀ P ∈ splitOn 38 v.query, P.count 61 = 1 ∧ 38 ∉ P) :=
  C02_qstr_update_delims_reencoded e u s hs hgu hne

/-- … on four calls, every environment (decoded values and pairs are the same in each; `with_query` on the same strings
    keeps the delimiters literal):
    * `update_query("a=x=y")` stores "a=x%3Dy" (two literal '=' supplied, one stored; value "x=y" either way);
    * `update_query("s=a;b")` stores "s=a%3Bb" (the literal ';' is gone; value "a;b" either way);
    * `update_query("a")` stores "a=" (a literal '=' APPEARS) — `with_query("a")` stores "a";
    * `update_query("a=1&&b=2")` stores "a=1&b=2" (the empty '&'-piece is dropped; the PAIRS are the same two) —
      `with_query("a=1&&b=2")` keeps "a=1&&b=2".
    Cites C02_qstr_update_literal_delims_fail. -/
theorem C02_headline_qstr_update_query_literal_delims_fail (e : Env) :
    (updateQuery e (ex "") (.str "a=x=y".toStr) = .ok (ex "a=x%3Dy") ∧
      "a=x=y".toStr.count 61 = 2 ∧ "a=x%3Dy".toStr.count 61 = 1 ∧
      parseQsl "a=x=y".toStr = [("a".toStr, "x=y".toStr)] ∧ queryPairs (ex "a=x%3Dy") = [("a".toStr, "x=y".toStr)] ∧
      withQuery e (ex "") (.str "a=x=y".toStr) = .ok (ex "a=x=y")) ∧
    (updateQuery e (ex "") (.str "s=a;b".toStr) = .ok (ex "s=a%3Bb") ∧
      59 ∈ "s=a;b".toStr ∧ 59 ∉ "s=a%3Bb".toStr ∧
      parseQsl "s=a;b".toStr = [("s".toStr, "a;b".toStr)] ∧ queryPairs (ex "s=a%3Bb") = [("s".toStr, "a;b".toStr)] ∧
      withQuery e (ex "") (.str "s=a;b".toStr) = .ok (ex "s=a;b")) ∧
    (updateQuery e (ex "") (.str "a".toStr) = .ok (ex "a=") ∧
      withQuery e (ex "") (.str "a".toStr) = .ok (ex "a")) ∧
    (updateQuery e (ex "") (.str "a=1&&b=2".toStr) = .ok (ex "a=1&b=2") ∧
      withQuery e (ex "") (.str "a=1&&b=2".toStr) = .ok (ex "a=1&&b=2") ∧
      queryPairs (ex "a=1&b=2") = queryPairs (ex "a=1&&b=2")) :=
  C02_qstr_update_literal_delims_fail e

/-! ## the observed calls, and the vocabulary -/

/-- the calls of the header, every environment (`ex "q"` is http://h/?q):
    `URL("http://h/").with_query("a=1%2B2")` is http://h/?a=1%252B2 and reads back ("a", "1%2B2");
    `URL("http://h/?x=0").extend_query("a=1%2B2")` is http://h/?x=0&a=1%252B2;
    `URL("http://h/").update_query("a=1%2B2")` is http://h/?a=1%2B2 and reads back ("a", "1+2");
    `URL("http://h/").update_query("s=a%3Bb;c")` is http://h/?s=a%3Bb%3Bc — ONE pair, value "a;b;c".
    Cites C02_qstr_instance_with_query, _extend_query, _update_query, _update_query_semicolon. -/
theorem C02_headline_qstr_instances (e : Env) :
    (withQuery e (ex "") (.str "a=1%2B2".toStr) = .ok (ex "a=1%252B2") ∧
      queryPairs (ex "a=1%252B2") = [("a".toStr, "1%2B2".toStr)]) ∧
    (extendQuery e (ex "x=0") (.str "a=1%2B2".toStr) = .ok (ex "x=0&a=1%252B2") ∧
      queryPairs (ex "x=0&a=1%252B2") = [("x".toStr, "0".toStr), ("a".toStr, "1%2B2".toStr)]) ∧
    (updateQuery e (ex "") (.str "a=1%2B2".toStr) = .ok (ex "a=1%2B2") ∧
      queryPairs (ex "a=1%2B2") = [("a".toStr, "1+2".toStr)]) ∧
    (updateQuery e (ex "") (.str "s=a%3Bb;c".toStr) = .ok (ex "s=a%3Bb%3Bc") ∧
      parseQsl "s=a%3Bb;c".toStr = [("s".toStr, "a;b;c".toStr)] ∧
      queryPairs (ex "s=a%3Bb%3Bc") = [("s".toStr, "a;b;c".toStr)]) :=
  ⟨C02_qstr_instance_with_query e, C02_qstr_instance_extend_query e, C02_qstr_instance_update_query e,
   C02_qstr_instance_update_query_semicolon e⟩

/-- the vocabulary of the `update_query(str)` statements SPELLED OUT (definitional unfoldings, to be read) -/
theorem C02_headline_qstr_vocabulary_def (s p : Str) (bs : List Nat) (query : String) :
    pieces s = (splitOn 38 s).filter (fun p => p ≠ []) ∧
    keyText p = (partition 61 p).1 ∧ valText p = (partition 61 p).2.2 ∧
    (ValidUtf8 bs ↔ ∃ t : Str, GoodText t ∧ utf8s t = bs) ∧
    (EscapesValid s ↔ ∀ p ∈ pieces s, ValidUtf8 (pctDecodeQs (keyText p)) ∧ ValidUtf8 (pctDecodeQs (valText p))) ∧
    ex query = fromParts "http".toStr "h".toStr "/".toStr query.toStr [] :=
  ⟨rfl, rfl, rfl, Iff.rfl, Iff.rfl, rfl⟩

/-! ## non-vacuity -/

/-- the hypotheses of the `update_query(str)` theorems on a string with valid escapes (é, €), a '+', an escaped '+', a
    ';', an empty piece and a bare key; and on an old query with an invalid escape -/
example : GoodText sampleStr ∧ parseQsl sampleStr ≠ [] ∧ GoodPairs (queryPairs (ex "a=%FF&b=x+y")) := by
  unfold sampleStr; str_lits; decide +kernel

example : EscapesValid sampleStr :=
  ((C02_headline_qstr_update_query_bytes_iff_escapes_valid sampleStr
    (by unfold sampleStr; str_lits; decide +kernel)).1).mp (by unfold sampleStr; str_lits; decide +kernel)

example (e : Env) : ∃ v, updateQuery e (ex "a=%FF&b=x+y") (.str sampleStr) = .ok v ∧ 59 ∉ v.query := by
  obtain ⟨v, h1, h2, _⟩ := C02_headline_qstr_update_query_delims_reencoded e (ex "a=%FF&b=x+y") sampleStr
    (by unfold sampleStr; str_lits; decide +kernel) (by decide +kernel)
    (by unfold sampleStr; str_lits; decide +kernel)
  exact ⟨v, h1, h2⟩

end Yarl
