/-
  C02.lean — property C02: canonicalisation never changes what a URL means.
  Percent-decoding the canonical component yields the bytes obtained by
  percent-decoding the supplied text; protected delimiters keep their status.
  The quoter-level theorems are corollaries of the token layer (Lemmas/TokLemmas.lean).  The `namespace WfLemmas`
  blocks hold the helpers of this file: the one-step equations of `pctDecode` / `pctDecodeQs`, the sample tables of the
  counterexamples, `gen_tracked` / `gen_count` (what the generated tables track) and the sample texts.
  A primed name (`C02_gen_decode_requote'`, `C02_gen_decode_QUERY_REQUOTER'`) is the form without `NoSurrogate`, about
  `stripSurr s`; the exception is `C02_path_segments'`, where the unprimed theorem is the `stripSurr` form.
-/
import YarlModel
import YarlProofs.Lemmas.WfLemmas
import YarlProofs.Lemmas.Canon
import YarlProofs.Lemmas.StrLit
import YarlProofs.Lemmas.Basics
import YarlProofs.Lemmas.TokLemmas
namespace Yarl

open OutLangLemmas QsLemmas TokLemmas

namespace WfLemmas

/-! ### one-step unfoldings of `pctDecode` / `pctDecodeQs` -/

theorem pctDecode_nil : pctDecode [] = [] := by rw [pctDecode]

theorem pctDecode_cons_ne {c : Nat} (hc : c ≠ 37) (r : Str) :
    pctDecode (c :: r) = utf8 c ++ pctDecode r := by
  rw [pctDecode]; simp only [hc, if_false]

theorem pctDecode_esc {rest rest' : Str} {v d1 d2 : Nat}
    (hm : takeEscape restoreCh rest = some (v, d1, d2, rest')) :
    pctDecode (37 :: rest) = v :: pctDecode rest' := by
  rw [pctDecode]
  simp only [if_true]
  split <;> simp_all

theorem pctDecode_noesc {rest : Str} (hm : takeEscape restoreCh rest = none) :
    pctDecode (37 :: rest) = 37 :: pctDecode rest := by
  rw [pctDecode]
  simp only [if_true]
  split <;> simp_all

theorem pctDecode_pct {b : Nat} (hb : b < 256) (r : Str) : pctDecode (pct b ++ r) = b :: pctDecode r := by
  simp only [pct, List.cons_append, List.nil_append]
  exact pctDecode_esc (Readback.takeEscape_toHex _ hb r)

theorem pctDecode_flatMap_pct (bs : List Nat) (hb : ∀ b ∈ bs, b < 256) (r : Str) :
    pctDecode (bs.flatMap pct ++ r) = bs ++ pctDecode r := by
  induction bs with
  | nil => rfl
  | cons b bs ih =>
    rw [List.flatMap_cons, List.append_assoc, pctDecode_pct (hb b (by simp)),
      ih (fun x hx => hb x (by simp [hx]))]
    rfl

theorem pctDecodeQs_nil : pctDecodeQs [] = [] := by rw [pctDecodeQs]

theorem pctDecodeQs_cons_ne {c : Nat} (hc : c ≠ 37) (hp : c ≠ 43) (r : Str) :
    pctDecodeQs (c :: r) = utf8 c ++ pctDecodeQs r := by
  rw [pctDecodeQs]; simp only [hc, hp, if_false]

theorem pctDecodeQs_plus (r : Str) : pctDecodeQs (43 :: r) = 32 :: pctDecodeQs r := by
  rw [pctDecodeQs]; simp

theorem pctDecodeQs_esc {rest rest' : Str} {v d1 d2 : Nat}
    (hm : takeEscape restoreCh rest = some (v, d1, d2, rest')) :
    pctDecodeQs (37 :: rest) = v :: pctDecodeQs rest' := by
  rw [pctDecodeQs]
  simp only [if_true]
  split <;> simp_all

theorem pctDecodeQs_noesc {rest : Str} (hm : takeEscape restoreCh rest = none) :
    pctDecodeQs (37 :: rest) = 37 :: pctDecodeQs rest := by
  rw [pctDecodeQs]
  simp only [if_true]
  split <;> simp_all

theorem pctDecodeQs_pct {b : Nat} (hb : b < 256) (r : Str) :
    pctDecodeQs (pct b ++ r) = b :: pctDecodeQs r := by
  simp only [pct, List.cons_append, List.nil_append]
  exact pctDecodeQs_esc (Readback.takeEscape_toHex _ hb r)

theorem pctDecodeQs_flatMap_pct (bs : List Nat) (hb : ∀ b ∈ bs, b < 256) (r : Str) :
    pctDecodeQs (bs.flatMap pct ++ r) = bs ++ pctDecodeQs r := by
  induction bs with
  | nil => rfl
  | cons b bs ih =>
    rw [List.flatMap_cons, List.append_assoc, pctDecodeQs_pct (hb b (by simp)),
      ih (fun x hx => hb x (by simp [hx]))]
    rfl

theorem cWriteOut_37 (t : QTab) (h : t.WF) : cWriteOut t 37 = pct 37 := by
  unfold cWriteOut
  rw [if_neg (by simp), if_neg (by simp [h.pct_unsafe])]
  rfl

end WfLemmas

open WfLemmas

/-! ### decode theorems over `cOut` -/

set_option linter.unusedVariables false in
/-- a non-requoting quoter: percent-decoding the output gives exactly the UTF-8 bytes of the
    input.  The binders `hs`, `hn` are not used (code points outside the Python range and lone
    surrogates are dropped on both sides): proofs cite `TokLemmas.decode_nr`. -/
theorem C02_decode_nr (t : QTab) (h : t.WF) (hnr : t.requote = false) (hqs : t.qs = false)
    (s : Str) (hs : PyStr s) (hn : NoSurrogate s) : pctDecode (cOut t s) = utf8s s := by
  exact decode_nr t h hnr hqs s

set_option linter.unusedVariables false in
/-- the same for a form (query-string) quoter that escapes '+'.  The binders `hqs`, `hs`, `hn` are not used: proofs
    cite `TokLemmas.decode_nr_qs`. -/
theorem C02_decode_nr_qs (t : QTab) (h : t.WF) (hnr : t.requote = false) (hqs : t.qs = true)
    (hplus : t.safe 43 = false) (s : Str) (hs : PyStr s) (hn : NoSurrogate s) :
    pctDecodeQs (cOut t s) = utf8s s := by
  exact decode_nr_qs t h hnr hplus s

/-- a non-requoting form quoter that keeps '+' literal (QUERY_QUOTER): a literal '+' is
    indistinguishable from the space it stands for -/
theorem C02_decode_nr_qs_plus (t : QTab) (h : t.WF) (hnr : t.requote = false) (hqs : t.qs = true)
    (hplus : t.safe 43 = true) (s : Str) : pctDecodeQs (cOut t s) = utf8s (plusToSpace s) := by
  rw [← btoks_formVal, btoks_cOut_nr t h hnr s, List.map_map, utf8s_plusToSpace]
  exact List.map_congr_left fun b _ => (tokrelNR_plus h hqs hplus (tokRelNR_tokOut t b)).formVal

set_option linter.unusedVariables false in
/-- a requoting quoter preserves the percent-decoded bytes of its input.  The binders `hs`, `hn` are not used: proofs
    cite `TokLemmas.decode_requote`. -/
theorem C02_decode_requote (t : QTab) (h : t.WF) (hreq : t.requote = true) (hqs : t.qs = false)
    (s : Str) (hs : PyStr s) (hn : NoSurrogate s) : pctDecode (cOut t s) = pctDecode s := by
  exact decode_requote t h hreq hqs s

set_option linter.unusedVariables false in
/-- the same for form decoding.  `hprot` (an escaped '+' stays escaped) is needed: see
    `C02_requote_qs_needs_prot` below. `t.safe 32 = false` is not needed (a literal space is
    turned into '+' before the safe table is consulted).  The binders `hqs`, `hplus` (it follows from `hprot`), `hs`,
    `hn` are not used: proofs cite `TokLemmas.decode_requote_qs`. -/
theorem C02_decode_requote_qs (t : QTab) (h : t.WF) (hreq : t.requote = true) (hqs : t.qs = true)
    (hplus : t.safe 43 = true) (hprot : t.prot 43 = true)
    (s : Str) (hs : PyStr s) (hn : NoSurrogate s) : pctDecodeQs (cOut t s) = pctDecodeQs s := by
  exact decode_requote_qs t h hreq hprot s

/-! ### delimiter status -/

namespace WfLemmas

/-- a form table that keeps '+' literal but does not protect it -/
def badPlusTab : QTab := { safe := fun c => c == 43, prot := fun _ => false, qs := true, requote := true }

theorem badPlusTab_wf : badPlusTab.WF where
  safe_ascii := fun c hc => by
    have : c = 43 := by simpa [badPlusTab] using hc
    omega
  prot_safe := fun c hc => by simp [badPlusTab] at hc
  pct_unsafe := by decide

end WfLemmas

/-- `hprot` in `C02_decode_requote_qs` cannot be dropped: a requoting form table that keeps
    '+' literal without protecting it turns "%2B" (a plus sign) into "+" (a space) -/
theorem C02_requote_qs_needs_prot :
    badPlusTab.WF ∧ badPlusTab.requote = true ∧ badPlusTab.qs = true ∧ badPlusTab.safe 43 = true ∧
    pctDecodeQs (cOut badPlusTab [37, 50, 66]) = [32] ∧ pctDecodeQs [37, 50, 66] = [43] := by
  have hm : takeEscape restoreCh [50, 66] = some (43, 50, 66, []) := by decide
  refine ⟨badPlusTab_wf, rfl, rfl, rfl, ?_, ?_⟩
  · rw [cOut_cons_esc badPlusTab rfl hm]
    have : cEscOut badPlusTab 43 = [43] := by decide
    rw [this, cOut, List.append_nil, pctDecodeQs_plus, pctDecodeQs_nil]
  · rw [pctDecodeQs_esc hm, pctDecodeQs_nil]

/-- delimiter status: the number of literal occurrences of a protected character `c` is
    unchanged by quoting (requoting or not), provided `c` is not a hex digit and, for form
    tables, neither ' ' nor '+' -/
theorem C02_literal_count (t : QTab) (h : t.WF) (c : Nat) (hc : t.prot c = true)
    (hhex : isHexC c = false) (hqs : t.qs = true → c ≠ 32 ∧ c ≠ 43) (s : Str) :
    (cOut t s).count c = s.count c :=
  count_cOut h ⟨hc, hhex, hqs⟩ s

set_option linter.unusedVariables false in
/-- the same for a requoting quoter and a Python string; the binders `hreq`, `hs` are not used -/
theorem C02_protected_literal_count (t : QTab) (h : t.WF) (hreq : t.requote = true) (c : Nat)
    (hc : t.prot c = true) (hhex : isHexC c = false) (hqs : t.qs = true → c ≠ 32 ∧ c ≠ 43)
    (s : Str) (hs : PyStr s) : (cOut t s).count c = s.count c :=
  C02_literal_count t h c hc hhex hqs s


namespace WfLemmas

/-- a path-like table that (unwisely) protects the hex digit 'F' next to '/' -/
def hexProtTab : QTab :=
  { safe := fun c => c == 47 || c == 70, prot := fun c => c == 47 || c == 70, qs := false, requote := true }

theorem hexProtTab_wf : hexProtTab.WF where
  safe_ascii := fun c hc => by
    have : c = 47 ∨ c = 70 := by simpa [hexProtTab] using hc
    omega
  prot_safe := fun c hc => hc
  pct_unsafe := by decide

theorem splitOn_length (c : Nat) (s : Str) : (splitOn c s).length = s.count c + 1 := by
  induction s with
  | nil => rfl
  | cons x xs ih =>
    by_cases hx : x = c
    · subst hx
      simp [splitOn, ih]
    · obtain ⟨p, ps, e⟩ := List.exists_cons_of_ne_nil (PathLemmas.splitOn_ne_nil c xs)
      rw [PathLemmas.splitOn_cons_ne c x xs hx e, List.count_cons_of_ne hx, ← ih, e]
      rfl

end WfLemmas

/-- the hex-digit side condition cannot be dropped: with 'F' protected, "%2f" is rewritten to
    "%2F" and the number of 'F's changes from 0 to 1 although none of them is a literal 'F' -/
theorem C02_count_needs_nothex :
    hexProtTab.WF ∧ hexProtTab.requote = true ∧ hexProtTab.prot 70 = true ∧
    (cOut hexProtTab [37, 50, 102]).count 70 = 1 ∧ ([37, 50, 102] : Str).count 70 = 0 := by
  have hm : takeEscape restoreCh [50, 102] = some (47, 50, 102, []) := by decide
  refine ⟨hexProtTab_wf, rfl, rfl, ?_, by decide⟩
  rw [cOut_cons_esc hexProtTab rfl hm]
  have : cEscOut hexProtTab 47 = [37, 50, 70] := by decide
  rw [this, cOut]
  decide

/-- form tables: a literal space is written as '+', so literal '+' are the old '+' and the old spaces -/
theorem C02_plus_count_qs (t : QTab) (h : t.WF) (hqs : t.qs = true) (hprot : t.prot 43 = true) (s : Str) :
    (cOut t s).count 43 = s.count 43 + s.count 32 := by
  obtain ⟨src, e, hsrc⟩ := btoks_cOut_src t h s
  rw [← count_lit_btoks (by decide) (by decide) (by decide), e, ← hsrc 43 (by decide) (by decide) (by decide),
    ← hsrc 32 (by decide) (by decide) (by decide)]
  clear e hsrc
  -- a literal '+' is written exactly for a literal '+' and for a literal space
  induction src with
  | nil => rfl
  | cons x l ih =>
    have := (tokrel_plus h hqs hprot (tokRel_tokOut t x)).1
    rw [List.map_cons, List.count_cons, List.count_cons, List.count_cons, ih]
    simp only [beq_iff_eq, decide_eq_decide] at this ⊢
    by_cases h1 : x = .lit 43
    · subst h1; simp [← this]; omega
    · by_cases h2 : x = .lit 32
      · subst h2; simp [← this]; omega
      · simp [← this, h1, h2]

/-- … so for '+' in a form table the count can only grow (and does: " " becomes "+") -/
theorem C02_plus_count_qs_le (t : QTab) (h : t.WF) (hqs : t.qs = true) (hprot : t.prot 43 = true) (s : Str) :
    s.count 43 ≤ (cOut t s).count 43 := by
  rw [C02_plus_count_qs t h hqs hprot s]; omega

set_option linter.unusedVariables false in
/-- form tables never leave a literal space -/
theorem C02_qs_no_literal_space (t : QTab) (h : t.WF) (hqs : t.qs = true) (hsp : t.safe 32 = false)
    (s : Str) (hs : PyStr s) : 32 ∉ cOut t s := by
  intro hm
  rcases outLang_allowed t (cOut_outLang t h s) 32 hm with k | k | k | k
  · rw [hsp] at k; cases k
  · cases k
  · exact absurd k (by decide)
  · exact absurd k.2 (by decide)


namespace WfLemmas

theorem count_stripSurr (c : Nat) (hc : isSurrogate c = false) (s : Str) :
    (stripSurr s).count c = s.count c := by
  unfold stripSurr
  exact List.count_filter (by simp [hc])

theorem plusToSpace_stripSurr (s : Str) : plusToSpace (stripSurr s) = stripSurr (plusToSpace s) := by
  induction s with
  | nil => rfl
  | cons c r ih =>
    simp only [plusToSpace, stripSurr, List.map_cons] at ih ⊢
    by_cases h43 : c = 43
    · subst h43
      have h1 : isSurrogate 43 = false := by decide
      have h2 : isSurrogate 32 = false := by decide
      simp [h1, h2, ih]
    · by_cases hs : isSurrogate c = true
      · simp [hs, h43, ih]
      · simp [hs, h43, ih]

end WfLemmas

/-! ### the generated quoters, on both backends -/

/-- non-requoting, non-form quoters (QUOTER, PATH_QUOTER, FRAGMENT_QUOTER): decoding the
    output gives the UTF-8 bytes of the input (lone surrogates are dropped by both) -/
theorem C02_gen_decode_nr (b : Backend) (a : QArgs) (ha : a ∈ Gen.allQuoters)
    (hnr : a.requote = false) (hqs : a.qs = false) (s : Str) (hs : PyStr s) :
    pctDecode (a.run b s) = utf8s s := by
  rw [run_eq_cOut a ha b s hs, decode_nr _ (gen_tab_wf a ha b) (by rw [tab_requote, hnr]) (by rw [tab_qs, hqs]),
    utf8s_stripSurr]

theorem C02_gen_decode_QUOTER (b : Backend) (s : Str) (hs : PyStr s) :
    pctDecode (Gen.QUOTER.run b s) = utf8s s :=
  C02_gen_decode_nr b _ mem_QUOTER rfl rfl s hs

theorem C02_gen_decode_PATH_QUOTER (b : Backend) (s : Str) (hs : PyStr s) :
    pctDecode (Gen.PATH_QUOTER.run b s) = utf8s s :=
  C02_gen_decode_nr b _ mem_PATH_QUOTER rfl rfl s hs

theorem C02_gen_decode_FRAGMENT_QUOTER (b : Backend) (s : Str) (hs : PyStr s) :
    pctDecode (Gen.FRAGMENT_QUOTER.run b s) = utf8s s :=
  C02_gen_decode_nr b _ mem_FRAGMENT_QUOTER rfl rfl s hs

/-- QUERY_PART_QUOTER (keys and values): form-decoding gives the UTF-8 bytes of the input -/
theorem C02_gen_decode_QUERY_PART_QUOTER (b : Backend) (s : Str) (hs : PyStr s) :
    pctDecodeQs (Gen.QUERY_PART_QUOTER.run b s) = utf8s s := by
  rw [run_eq_cOut _ mem_QUERY_PART_QUOTER b s hs, decode_nr_qs _ (gen_tab_wf _ mem_QUERY_PART_QUOTER b)
    (tab_requote _ b) (gen_query_plus b).part_unsafe, utf8s_stripSurr]

/-- QUERY_QUOTER (a whole query string given as text): '+' is protected, so a literal '+'
    stays '+' and form-decodes to the space it is indistinguishable from -/
theorem C02_gen_decode_QUERY_QUOTER (b : Backend) (s : Str) (hs : PyStr s) :
    pctDecodeQs (Gen.QUERY_QUOTER.run b s) = utf8s (plusToSpace s) := by
  have hmem : Gen.QUERY_QUOTER ∈ Gen.allQuoters := mem_QUERY_QUOTER
  rw [run_eq_cOut _ hmem b s hs, C02_decode_nr_qs_plus _ (gen_tab_wf _ hmem b) (tab_requote _ b)
    (tab_qs _ b) (gen_query_plus b).quoter_safe, plusToSpace_stripSurr, utf8s_stripSurr]

/-- … and every character other than '+' is preserved exactly: without a literal '+' in the
    input the decoded bytes are the UTF-8 bytes of the input -/
theorem C02_gen_decode_QUERY_QUOTER_noplus (b : Backend) (s : Str) (hs : PyStr s) (hp : 43 ∉ s) :
    pctDecodeQs (Gen.QUERY_QUOTER.run b s) = utf8s s := by
  rw [C02_gen_decode_QUERY_QUOTER b s hs]
  congr 1
  unfold plusToSpace
  conv => rhs; rw [← List.map_id s]
  apply List.map_congr_left
  intro c hc
  have : c ≠ 43 := fun e => hp (e ▸ hc)
  simp [this]

/-- requoting, non-form quoters (REQUOTER, PATH_REQUOTER, FRAGMENT_REQUOTER) preserve the
    percent-decoded bytes -/
theorem C02_gen_decode_requote' (b : Backend) (a : QArgs) (ha : a ∈ Gen.allQuoters)
    (hreq : a.requote = true) (hqs : a.qs = false) (s : Str) (hs : PyStr s) :
    pctDecode (a.run b s) = pctDecode (stripSurr s) := by
  rw [run_eq_cOut a ha b s hs, decode_requote _ (gen_tab_wf a ha b) (by rw [tab_requote, hreq]) (by rw [tab_qs, hqs])]

theorem C02_gen_decode_requote (b : Backend) (a : QArgs) (ha : a ∈ Gen.allQuoters)
    (hreq : a.requote = true) (hqs : a.qs = false) (s : Str) (hs : PyStr s) (hn : NoSurrogate s) :
    pctDecode (a.run b s) = pctDecode s := by
  rw [C02_gen_decode_requote' b a ha hreq hqs s hs, stripSurr_id s hn]

theorem C02_gen_decode_REQUOTER (b : Backend) (s : Str) (hs : PyStr s) (hn : NoSurrogate s) :
    pctDecode (Gen.REQUOTER.run b s) = pctDecode s :=
  C02_gen_decode_requote b _ mem_REQUOTER rfl rfl s hs hn

theorem C02_gen_decode_PATH_REQUOTER (b : Backend) (s : Str) (hs : PyStr s) (hn : NoSurrogate s) :
    pctDecode (Gen.PATH_REQUOTER.run b s) = pctDecode s :=
  C02_gen_decode_requote b _ mem_PATH_REQUOTER rfl rfl s hs hn

theorem C02_gen_decode_FRAGMENT_REQUOTER (b : Backend) (s : Str) (hs : PyStr s) (hn : NoSurrogate s) :
    pctDecode (Gen.FRAGMENT_REQUOTER.run b s) = pctDecode s :=
  C02_gen_decode_requote b _ mem_FRAGMENT_REQUOTER rfl rfl s hs hn

/-- QUERY_REQUOTER preserves the form-decoded bytes -/
theorem C02_gen_decode_QUERY_REQUOTER' (b : Backend) (s : Str) (hs : PyStr s) :
    pctDecodeQs (Gen.QUERY_REQUOTER.run b s) = pctDecodeQs (stripSurr s) := by
  rw [run_eq_cOut _ mem_QUERY_REQUOTER b s hs, decode_requote_qs _ (gen_tab_wf _ mem_QUERY_REQUOTER b)
    (tab_requote _ b) (gen_query_plus b).requoter_prot]

theorem C02_gen_decode_QUERY_REQUOTER (b : Backend) (s : Str) (hs : PyStr s) (hn : NoSurrogate s) :
    pctDecodeQs (Gen.QUERY_REQUOTER.run b s) = pctDecodeQs s := by
  rw [C02_gen_decode_QUERY_REQUOTER' b s hs, stripSurr_id s hn]

/-- lone surrogates matter for requoting: they are dropped *before* escapes are recognised,
    so "%\ud800" ++ "41" is requoted as if it were "%41" -/
theorem C02_requote_surrogate_example (b : Backend) :
    Gen.REQUOTER.run b [37, 0xD800, 52, 49] = [65] ∧ pctDecode [37, 0xD800, 52, 49] = [37, 52, 49] := by
  constructor
  · rw [run_eq_cOut _ (by decide) b _ (by decide)]
    have hs : stripSurr [37, 0xD800, 52, 49] = [37, 52, 49] := by decide
    have hm : takeEscape restoreCh [52, 49] = some (65, 52, 49, []) := by decide
    rw [hs, cOut_cons_esc _ (tab_requote _ b) hm, cOut]
    cases b <;> decide
  · have hm : takeEscape restoreCh [0xD800, 52, 49] = none := by decide
    rw [pctDecode_noesc hm, pctDecode_cons_ne (by decide), pctDecode_cons_ne (by decide),
      pctDecode_cons_ne (by decide), pctDecode_nil]
    decide

/-! #### delimiters of the generated requoters -/

namespace WfLemmas

theorem isSurrogate_of_lt {d : Nat} (h : d < 128) : isSurrogate d = false :=
  not_surrogate (.inl (Nat.lt_trans h (by decide)))

/-- what the generated tables track (by evaluation of the tables, once): '/' and '+' in paths, '&' '=' ';' in queries,
    for the quoter and for the requoter alike -/
theorem gen_tracked (b : Backend) :
    (∀ d, d = 47 ∨ d = 43 → Tracked (Gen.PATH_QUOTER.tab b) d ∧ Tracked (Gen.PATH_REQUOTER.tab b) d) ∧
    (∀ d, d = 38 ∨ d = 61 ∨ d = 59 → Tracked (Gen.QUERY_QUOTER.tab b) d ∧ Tracked (Gen.QUERY_REQUOTER.tab b) d) := by
  constructor
  · rintro d (rfl | rfl) <;> cases b <;>
      exact ⟨⟨by decide, by decide, fun h => absurd h (by decide)⟩, ⟨by decide, by decide, fun h => absurd h (by decide)⟩⟩
  · rintro d (rfl | rfl | rfl) <;> cases b <;>
      exact ⟨⟨by decide, by decide, fun _ => by decide⟩, ⟨by decide, by decide, fun _ => by decide⟩⟩

/-- a generated quoter keeps the number of literal occurrences of a delimiter its table tracks -/
theorem gen_count (a : QArgs) (ha : a ∈ Gen.allQuoters) (b : Backend) {d : Nat} (k : Tracked (a.tab b) d)
    (s : Str) (hs : PyStr s) : (a.run b s).count d = s.count d := by
  have hwf := gen_tab_wf a ha b
  rw [run_eq_cOut a ha b s hs, count_cOut hwf k, count_stripSurr _ (isSurrogate_of_lt (k.lt hwf))]

end WfLemmas



/-- paths: literal '/' (and literal '+') are counted exactly -/
theorem C02_gen_path_delims (b : Backend) (s : Str) (hs : PyStr s) (c : Nat) (hc : c = 47 ∨ c = 43) :
    (Gen.PATH_REQUOTER.run b s).count c = s.count c :=
  gen_count _ mem_PATH_REQUOTER b ((gen_tracked b).1 c hc).2 s hs

/-- consequence for paths: the number of segments never changes -/
theorem C02_path_segments (b : Backend) (s : Str) (hs : PyStr s) :
    (splitOn 47 (Gen.PATH_REQUOTER.run b s)).length = (splitOn 47 (stripSurr s)).length := by
  rw [splitOn_length, splitOn_length, C02_gen_path_delims b s hs 47 (Or.inl rfl),
    count_stripSurr _ (by decide)]

theorem C02_path_segments' (b : Backend) (s : Str) (hs : PyStr s) :
    (splitOn 47 (Gen.PATH_REQUOTER.run b s)).length = (splitOn 47 s).length := by
  rw [splitOn_length, splitOn_length, C02_gen_path_delims b s hs 47 (Or.inl rfl)]

/-- queries: literal '&', '=', ';' are counted exactly -/
theorem C02_gen_query_delims (b : Backend) (s : Str) (hs : PyStr s) (c : Nat)
    (hc : c = 38 ∨ c = 61 ∨ c = 59) : (Gen.QUERY_REQUOTER.run b s).count c = s.count c :=
  gen_count _ mem_QUERY_REQUOTER b ((gen_tracked b).2 c hc).2 s hs

/-- queries: literal '+' are the old literal '+' plus the old literal spaces -/
theorem C02_gen_query_plus (b : Backend) (s : Str) (hs : PyStr s) :
    (Gen.QUERY_REQUOTER.run b s).count 43 = s.count 43 + s.count 32 := by
  have hmem : Gen.QUERY_REQUOTER ∈ Gen.allQuoters := mem_QUERY_REQUOTER
  rw [run_eq_cOut _ hmem b s hs, C02_plus_count_qs _ (gen_tab_wf _ hmem b) (tab_qs _ b)
    (gen_query_plus b).requoter_prot, count_stripSurr _ (by decide), count_stripSurr _ (by decide)]

/-- the number of '&'-separated pairs of a query never changes -/
theorem C02_query_pairs (b : Backend) (s : Str) (hs : PyStr s) :
    (splitOn 38 (Gen.QUERY_REQUOTER.run b s)).length = (splitOn 38 s).length := by
  rw [splitOn_length, splitOn_length, C02_gen_query_delims b s hs 38 (Or.inl rfl)]

/-! ### URL level -/

/-- URL level: the constructor keeps the decoded meaning of query and fragment, and of the
    path up to dot-segment removal (which is applied to the requoted path `p1`) -/
theorem C02_encodeUrl_decode (e : Env) (s : Str) (hs : PyStr s) (hn : NoSurrogate s) (u : Url) :
    encodeUrl e s = .ok u → ∃ p : Parts, splitUrl e.o s = .ok p ∧
      pctDecodeQs u.query = pctDecodeQs p.query ∧
      pctDecode u.fragment = pctDecode p.fragment ∧
      (∃ p1, pctDecode p1 = pctDecode p.path ∧
        (splitOn 47 p1).length = (splitOn 47 p.path).length ∧
        (u.path = p1 ∨ (mem 46 p1 = true ∧ u.path = normalizePath p1))) := by
  intro h
  obtain ⟨p, netloc, hp, hpath, hquery, hfrag, _⟩ := encodeUrl_shape e s u h
  obtain ⟨_, h2, h3, h4⟩ := splitUrl_pyStr e.o s hs p hp
  obtain ⟨_, s2, s3, s4⟩ := splitUrl_sublist e.o s p hp
  refine ⟨p, hp, ?_, ?_, ?_⟩
  · rw [hquery]
    split
    · rfl
    · exact C02_gen_decode_QUERY_REQUOTER e.b _ h3 (noSurr_of_sublist s3 hn)
  · rw [hfrag]
    split
    · rfl
    · exact C02_gen_decode_FRAGMENT_REQUOTER e.b _ h4 (noSurr_of_sublist s4 hn)
  · rw [hpath]
    split
    · exact ⟨p.path, rfl, rfl, Or.inl rfl⟩
    · refine ⟨q e Gen.PATH_REQUOTER p.path,
        C02_gen_decode_PATH_REQUOTER e.b _ h2 (noSurr_of_sublist s2 hn),
        C02_path_segments' e.b _ h2, ?_⟩
      split
      · rename_i hc
        simp only [Bool.and_eq_true] at hc
        exact Or.inr ⟨hc.2, rfl⟩
      · exact Or.inl rfl

/-! ### non-vacuity -/

namespace WfLemmas
/-- `a/b%2fc%2Fd+e%2b é%zz%` -/
def samplePath : Str := [97, 47, 98, 37, 50, 102, 99, 37, 50, 70, 100, 43, 101, 37, 50, 98, 32, 233, 37, 122, 122, 37]
/-- `k=v&x%26y=%3d+%2B;é 😀` -/
def sampleQuery : Str := [107, 61, 118, 38, 120, 37, 50, 54, 121, 61, 37, 51, 100, 43, 37, 50, 66, 59, 233, 32, 0x1F600]
end WfLemmas

example : PyStr samplePath ∧ NoSurrogate samplePath ∧ PyStr sampleQuery ∧ NoSurrogate sampleQuery := by
  decide

example (b : Backend) : pctDecode (Gen.PATH_REQUOTER.run b samplePath) = pctDecode samplePath :=
  C02_gen_decode_PATH_REQUOTER b samplePath (by decide) (by decide)

example (b : Backend) : (splitOn 47 (Gen.PATH_REQUOTER.run b samplePath)).length = 2 := by
  rw [C02_path_segments' b samplePath (by decide)]; decide

example (b : Backend) : pctDecodeQs (Gen.QUERY_REQUOTER.run b sampleQuery) = pctDecodeQs sampleQuery :=
  C02_gen_decode_QUERY_REQUOTER b sampleQuery (by decide +kernel) (by decide +kernel)

example (b : Backend) : (Gen.QUERY_REQUOTER.run b sampleQuery).count 38 = 1 ∧
    (Gen.QUERY_REQUOTER.run b sampleQuery).count 61 = 2 ∧ (Gen.QUERY_REQUOTER.run b sampleQuery).count 43 = 2 := by
  rw [C02_gen_query_delims b sampleQuery (by decide +kernel) 38 (Or.inl rfl),
    C02_gen_query_delims b sampleQuery (by decide +kernel) 61 (Or.inr (Or.inl rfl)),
    C02_gen_query_plus b sampleQuery (by decide +kernel)]
  decide +kernel

example (b : Backend) : pctDecodeQs (Gen.QUERY_PART_QUOTER.run b sampleQuery) = utf8s sampleQuery :=
  C02_gen_decode_QUERY_PART_QUOTER b sampleQuery (by decide +kernel)

/-- the generated tables satisfy the hypotheses of the abstract theorems -/
example (b : Backend) : (Gen.QUERY_REQUOTER.tab b).WF ∧ (Gen.QUERY_REQUOTER.tab b).requote = true ∧
    (Gen.QUERY_REQUOTER.tab b).qs = true ∧ (Gen.QUERY_REQUOTER.tab b).safe 43 = true ∧
    (Gen.QUERY_REQUOTER.tab b).prot 43 = true :=
  ⟨gen_tab_wf _ mem_QUERY_REQUOTER b, tab_requote _ b, tab_qs _ b, (gen_query_plus b).requoter_safe, (gen_query_plus b).requoter_prot⟩

end Yarl
