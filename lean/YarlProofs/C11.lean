/-
  C11.lean — every modifier changes only its own component.

  The four authority modifiers and `origin()` on a URL whose authority `make_netloc` wrote (`C11_with_user` …
  `C11_origin`, over Lemmas/AuthMod.lean and `NetlocLemmas.net_std`), the frame of the query / path / fragment
  modifiers (over Lemmas/ModShape.lean), and the well-formedness of what `_encode_host` answers under validation
  (`C11_encoded_host_wellformed`; `unbracket`, what `raw_host` reads of a written host text, is beside `bracket` in
  NetlocLemmas).
-/
import YarlModel
import YarlProofs.Lemmas.NetlocLemmas
import YarlProofs.Lemmas.AuthMod
import YarlProofs.Lemmas.ModShape
import YarlProofs.Lemmas.StrLit
import YarlProofs.C16
import YarlProofs.Lemmas.Basics
namespace Yarl
open NetlocLemmas AuthMod EncTrue

/-- `with_user(s)`: the user reads back as the `QUOTER` output; password, host, port and the
    other four parts are unchanged -/
theorem C11_with_user (e : Env) (qf : Str → Str) (user pw : Option Str) (h : Str) (port : Option Nat)
    (scheme path query fragment : Str) (s : Str)
    (hu : UserOK user) (hh : HostOK h) (hp : ∀ p, port = some p → p ≤ 65535)
    (hq1 : q e Gen.QUOTER s ≠ []) (hq2 : 58 ∉ q e Gen.QUOTER s) :
    let u := fromParts scheme (makeNetloc qf user pw (some (bracket h)) port false) path query fragment
    ∃ v, withUser e u (some s) = .ok v ∧ rawUser e v = .ok (some (q e Gen.QUOTER s)) ∧
         rawPassword e v = .ok pw ∧ rawHost e v = .ok (some h) ∧ explicitPort e v = .ok port ∧
         v.scheme = u.scheme ∧ v.path = u.path ∧ v.query = u.query ∧ v.fragment = u.fragment := by
  intro u
  have hu' : UserOK (some (q e Gen.QUOTER s)) := by
    intro t ht; cases ht; exact ⟨hq1, hq2⟩
  obtain ⟨a1, a2, a3, a4, _⟩ := acc_of_net e _ _
    (net_std e (q e Gen.QUOTER) _ pw h port scheme path query fragment hu' hh hp)
  exact ⟨_, withUser_some_of_net (makeNetloc_ne_nil qf user pw hh.1 port)
    (net_std e qf user pw h port scheme path query fragment hu hh hp) s, a1, a2, a3, a4, rfl, rfl, rfl, rfl⟩

/-- `with_user(None)` clears user AND password; host and port are kept -/
theorem C11_with_user_none (e : Env) (qf : Str → Str) (user pw : Option Str) (h : Str) (port : Option Nat)
    (scheme path query fragment : Str)
    (hu : UserOK user) (hh : HostOK h) (hp : ∀ p, port = some p → p ≤ 65535) :
    let u := fromParts scheme (makeNetloc qf user pw (some (bracket h)) port false) path query fragment
    ∃ v, withUser e u none = .ok v ∧ rawUser e v = .ok none ∧ rawPassword e v = .ok none ∧
         rawHost e v = .ok (some h) ∧ explicitPort e v = .ok port ∧
         v.scheme = u.scheme ∧ v.path = u.path ∧ v.query = u.query ∧ v.fragment = u.fragment := by
  intro u
  obtain ⟨a1, a2, a3, a4, _⟩ := acc_of_net e _ _
    (net_std e (q e Gen.QUOTER) none none h port scheme path query fragment nofun hh hp)
  exact ⟨_, withUser_none_of_net (makeNetloc_ne_nil qf user pw hh.1 port)
    (net_std e qf user pw h port scheme path query fragment hu hh hp), a1, a2, a3, a4, rfl, rfl, rfl, rfl⟩

/-- `with_password(p)`: the password reads back as `some (QUOTER p)` (`some []` for an empty
    password, which is distinct from `none`), `with_password(None)` clears it; user, host, port and
    the other four parts are unchanged -/
theorem C11_with_password (e : Env) (qf : Str → Str) (user pw : Option Str) (h : Str) (port : Option Nat)
    (scheme path query fragment : Str) (np : Option Str)
    (hu : UserOK user) (hh : HostOK h) (hp : ∀ p, port = some p → p ≤ 65535) :
    let u := fromParts scheme (makeNetloc qf user pw (some (bracket h)) port false) path query fragment
    ∃ v, withPassword e u np = .ok v ∧ rawPassword e v = .ok (np.map (q e Gen.QUOTER)) ∧
         rawUser e v = .ok user ∧ rawHost e v = .ok (some h) ∧ explicitPort e v = .ok port ∧
         v.scheme = u.scheme ∧ v.path = u.path ∧ v.query = u.query ∧ v.fragment = u.fragment := by
  intro u
  obtain ⟨a1, a2, a3, a4, _⟩ := acc_of_net e _ _
    (net_std e (q e Gen.QUOTER) user (np.map (q e Gen.QUOTER)) h port scheme path query fragment hu hh hp)
  exact ⟨_, withPassword_of_net (makeNetloc_ne_nil qf user pw hh.1 port)
    (net_std e qf user pw h port scheme path query fragment hu hh hp) np, a2, a1, a3, a4, rfl, rfl, rfl, rfl⟩

/-- `with_host(hs)` on a URL with known components `(U, P, h, port)`, for an argument that encodes to a well-formed
    `eh`: the result, and what the raw accessors read on it.  `eh` is the written form of `unbracket eh`, so the
    re-made authority is one `net_std` reads back. -/
theorem withHost_reads {e : Env} {u : Url} {U P : Option Str} {h : Str} {port : Option Nat} {hs eh : Str}
    (hne : u.netloc ≠ [])
    (hN : net e u = .ok { rawHost := some h, explicitPort := port, rawUser := U, rawPassword := P })
    (hU : UserOK U) (hP : ∀ p, port = some p → p ≤ 65535) (hs_ne : hs ≠ [])
    (henc : encodeHost e.o hs true = .ok eh) (hwf : bracket (unbracket eh) = eh) (hh2 : HostOK (unbracket eh)) :
    withHost e u hs = .ok (remake e u U P eh port) ∧
    rawUser e (remake e u U P eh port) = .ok U ∧ rawPassword e (remake e u U P eh port) = .ok P ∧
    rawHost e (remake e u U P eh port) = .ok (some (unbracket eh)) ∧
    explicitPort e (remake e u U P eh port) = .ok port ∧
    hostSubcomponent e (remake e u U P eh port) = .ok (some eh) := by
  -- name the host `unbracket eh` and forget `eh`
  generalize unbracket eh = h2 at hwf hh2 ⊢
  subst hwf
  obtain ⟨a1, a2, a3, a4, a5⟩ := acc_of_net e _ _
    (net_std e (q e Gen.QUOTER) U P h2 port u.scheme u.path u.query u.fragment hU hh2 hP)
  exact ⟨withHost_of_net hne hN hs_ne henc, a1, a2, a3, a4, a5⟩

/-- `with_host(hs)`: for an encoded host `eh = _encode_host(hs)` that is a well-formed host
    (`bracket (unbracket eh) = eh` and `HostOK (unbracket eh)`), the host reads back as
    `unbracket eh`; user, password, port and the other four parts are unchanged.
    The well-formedness hypotheses follow from `eh ≠ []` (`C11_encoded_host_wellformed`, `C11_with_host_validated`):
    `_encode_host` validates the zone id of an IP literal (`C11_with_host_zone_rejected`). -/
theorem C11_with_host (e : Env) (qf : Str → Str) (user pw : Option Str) (h : Str) (port : Option Nat)
    (scheme path query fragment : Str) (hs eh : Str)
    (hu : UserOK user) (hh : HostOK h) (hp : ∀ p, port = some p → p ≤ 65535)
    (hs_ne : hs ≠ []) (henc : encodeHost e.o hs true = .ok eh)
    (hwf : bracket (unbracket eh) = eh) (hh2 : HostOK (unbracket eh)) :
    let u := fromParts scheme (makeNetloc qf user pw (some (bracket h)) port false) path query fragment
    ∃ v, withHost e u hs = .ok v ∧ rawHost e v = .ok (some (unbracket eh)) ∧
         rawUser e v = .ok user ∧ rawPassword e v = .ok pw ∧ explicitPort e v = .ok port ∧
         v.scheme = u.scheme ∧ v.path = u.path ∧ v.query = u.query ∧ v.fragment = u.fragment := by
  intro u
  obtain ⟨hv, a1, a2, a3, a4, _⟩ := withHost_reads (u := u) (makeNetloc_ne_nil qf user pw hh.1 port)
    (net_std e qf user pw h port scheme path query fragment hu hh hp) hu hp hs_ne henc hwf hh2
  exact ⟨_, hv, a3, a1, a2, a4, rfl, rfl, rfl, rfl⟩

/-- `with_host("")` and `with_host` on a URL without authority are rejected -/
theorem C11_with_host_rejects (e : Env) (u : Url) (hs : Str) :
    (u.netloc = [] → withHost e u hs = .error .valueError) ∧
    (hs = [] → withHost e u hs = .error .valueError) := by
  constructor
  · intro h
    rw [withHost_eq, if_pos h]
  · intro h
    rw [withHost_eq, if_pos h, ite_self]

/-- a non-empty text without `: @ [ ]` is stored as it is -/
theorem NetlocLemmas.plain_host_ok {eh : Str} (hne : eh ≠ [])
    (hno : ∀ k, (k = 58 ∨ k = 64 ∨ k = 91 ∨ k = 93) → k ∉ eh) :
    bracket (unbracket eh) = eh ∧ HostOK (unbracket eh) := by
  have h58 : mem 58 eh = false := mem_false_iff.mpr (hno 58 (by simp))
  rw [unbracket_of_no91 (hno 91 (by simp))]
  exact ⟨by simp [bracket, h58], hne, hno 64 (by simp), hno 91 (by simp), hno 93 (by simp)⟩

/-- a bracketed text with a ':' and without `@ [ ]` inside is stored without the brackets -/
theorem NetlocLemmas.bracketed_host_ok {body : Str} (h58 : 58 ∈ body) (hok : 64 ∉ body ∧ 91 ∉ body ∧ 93 ∉ body) :
    bracket (unbracket ([91] ++ body ++ [93])) = [91] ++ body ++ [93] ∧ HostOK (unbracket ([91] ++ body ++ [93])) := by
  rw [unbracket_wrapped]
  refine ⟨?_, ?_, hok⟩
  · have : mem 58 body = true := mem_iff.mpr h58
    simp [bracket, this]
  · intro e; rw [e] at h58; cases h58

/-- a non-empty host that passed the `NOT_REG_NAME` validation is a well-formed stored host
    (no `: @ [ ]`, by computation on the generated `regNameChars`) -/
theorem C11_reg_name_host_ok (eh : Str) (hne : eh ≠ []) (hv : notRegName eh = false) :
    bracket (unbracket eh) = eh ∧ HostOK (unbracket eh) := by
  have hall := HostLemmas.notRegName_spec _ hv
  have key : ∀ d, (d = 58 ∨ d = 64 ∨ d = 91 ∨ d = 93) → d ∉ eh := by
    intro d hd hm
    have htab : mem 58 Gen.regNameChars = false ∧ mem 64 Gen.regNameChars = false ∧
        mem 91 Gen.regNameChars = false ∧ mem 93 Gen.regNameChars = false := by decide
    rcases hall d hm with h37 | hr
    · omega
    · rcases hd with rfl | rfl | rfl | rfl <;> simp [htab] at hr
  exact plain_host_ok hne key

open ModShape

/-! ### frame facts for the non-authority modifiers (arbitrary URL) -/

/-- `with_scheme`: only the scheme changes, to the lower-cased argument -/
theorem C11_with_scheme (e : Env) (u v : Url) (s : Str) (hv : withScheme e u s = .ok v) :
    lowerAny e s = .ok v.scheme ∧ (isAscii s = true → v.scheme = lower s) ∧
    v.netloc = u.netloc ∧ v.path = u.path ∧ v.query = u.query ∧ v.fragment = u.fragment := by
  obtain ⟨l, hl, rfl⟩ := withScheme_ok hv
  refine ⟨hl, fun ha => ?_, rfl, rfl, rfl, rfl⟩
  unfold lowerAny at hl
  rw [if_pos ha] at hl
  exact (Except.ok.inj hl).symm

/-- `with_fragment`: only the fragment changes -/
theorem C11_with_fragment (e : Env) (u : Url) (f : Option Str) :
    (withFragment e u f).scheme = u.scheme ∧ (withFragment e u f).netloc = u.netloc ∧
    (withFragment e u f).path = u.path ∧ (withFragment e u f).query = u.query ∧
    (withFragment e u f).fragment = (match f with | none => [] | some s => q e Gen.FRAGMENT_QUOTER s) := by
  cases f with
  | none =>
    simp only [withFragment]
    split
    · rename_i heq; exact ⟨rfl, rfl, rfl, rfl, heq⟩
    · exact ⟨rfl, rfl, rfl, rfl, rfl⟩
  | some t =>
    simp only [withFragment]
    split
    · rename_i heq; exact ⟨rfl, rfl, rfl, rfl, heq⟩
    · exact ⟨rfl, rfl, rfl, rfl, rfl⟩

theorem C11_with_query_frame (e : Env) (u v : Url) (a : QArg) (hv : withQuery e u a = .ok v) :
    v.scheme = u.scheme ∧ v.netloc = u.netloc ∧ v.path = u.path ∧ v.fragment = u.fragment := by
  obtain ⟨_, _, rfl⟩ := withQuery_ok hv
  exact ⟨rfl, rfl, rfl, rfl⟩

theorem C11_extend_query_frame (e : Env) (u v : Url) (a : QArg) (hv : extendQuery e u a = .ok v) :
    v.scheme = u.scheme ∧ v.netloc = u.netloc ∧ v.path = u.path ∧ v.fragment = u.fragment := by
  rcases (Step.of_extendQuery hv).query_cases with rfl | ⟨qs, rfl⟩
  · exact ⟨rfl, rfl, rfl, rfl⟩
  · exact ⟨rfl, rfl, rfl, rfl⟩

theorem C11_update_query_frame (e : Env) (u v : Url) (a : QArg) (hv : updateQuery e u a = .ok v) :
    v.scheme = u.scheme ∧ v.netloc = u.netloc ∧ v.path = u.path ∧ v.fragment = u.fragment := by
  obtain ⟨qs, rfl⟩ := updateQuery_frame hv
  exact ⟨rfl, rfl, rfl, rfl⟩

/-- `with_path`: scheme and netloc kept; query / fragment cleared unless the keep flags are set -/
theorem C11_with_path_frame (e : Env) (u : Url) (p : Str) (encoded keepQuery keepFragment : Bool) :
    (withPath e u p encoded keepQuery keepFragment).scheme = u.scheme ∧
    (withPath e u p encoded keepQuery keepFragment).netloc = u.netloc ∧
    (withPath e u p encoded keepQuery keepFragment).query = (if keepQuery then u.query else []) ∧
    (withPath e u p encoded keepQuery keepFragment).fragment = (if keepFragment then u.fragment else []) :=
  ⟨rfl, rfl, rfl, rfl⟩

theorem C11_with_raw_name_frame (u v : Url) (nm : Str) (keepQuery keepFragment : Bool)
    (hv : withRawName u nm keepQuery keepFragment = .ok v) :
    v.scheme = u.scheme ∧ v.netloc = u.netloc ∧
    v.query = (if keepQuery then u.query else []) ∧ v.fragment = (if keepFragment then u.fragment else []) := by
  obtain ⟨p, rfl⟩ := withRawName_frame hv
  exact ⟨rfl, rfl, rfl, rfl⟩

theorem C11_with_name_frame (e : Env) (u v : Url) (nm : Str) (keepQuery keepFragment : Bool)
    (hv : withName e u nm keepQuery keepFragment = .ok v) :
    v.scheme = u.scheme ∧ v.netloc = u.netloc ∧
    v.query = (if keepQuery then u.query else []) ∧ v.fragment = (if keepFragment then u.fragment else []) := by
  exact C11_with_raw_name_frame u v _ keepQuery keepFragment (withName_ok hv).2.2.2

theorem C11_with_suffix_frame (e : Env) (u v : Url) (sfx : Str) (keepQuery keepFragment : Bool)
    (hv : withSuffix e u sfx keepQuery keepFragment = .ok v) :
    v.scheme = u.scheme ∧ v.netloc = u.netloc ∧
    v.query = (if keepQuery then u.query else []) ∧ v.fragment = (if keepFragment then u.fragment else []) := by
  obtain ⟨_, _, _, _, _, _, _, hv⟩ := withSuffix_ok hv
  exact C11_with_raw_name_frame u v _ keepQuery keepFragment hv

/-- `parent`: scheme and netloc kept; query and fragment cleared -/
theorem C11_parent_frame (u : Url) :
    (parent u).scheme = u.scheme ∧ (parent u).netloc = u.netloc ∧
    (parent u).query = [] ∧ (parent u).fragment = [] := by
  unfold parent
  split
  · split
    · exact ⟨rfl, rfl, rfl, rfl⟩
    · rename_i hqf
      simp at hqf
      exact ⟨rfl, rfl, hqf.2, hqf.1⟩
  · exact ⟨rfl, rfl, rfl, rfl⟩

/-- `_make_child` (`joinpath`, `/`): scheme and netloc kept; query and fragment cleared -/
theorem C11_make_child_frame (e : Env) (u v : Url) (paths : List Str) (encoded : Bool)
    (hv : makeChild e u paths encoded = .ok v) :
    v.scheme = u.scheme ∧ v.netloc = u.netloc ∧ v.query = [] ∧ v.fragment = [] := by
  obtain ⟨p, rfl⟩ := makeChild_frame hv
  exact ⟨rfl, rfl, rfl, rfl⟩

/-- `relative()`: scheme and netloc cleared; path, query, fragment kept; fails exactly on an empty netloc -/
theorem C11_relative (u : Url) :
    (u.netloc = [] → relative u = .error .valueError) ∧
    (u.netloc ≠ [] → relative u = .ok (fromParts [] [] u.path u.query u.fragment)) ∧
    (∀ v, relative u = .ok v →
      v.scheme = [] ∧ v.netloc = [] ∧ v.path = u.path ∧ v.query = u.query ∧ v.fragment = u.fragment) := by
  unfold relative
  refine ⟨?_, ?_, ?_⟩
  · intro h; simp [h]
  · intro h; simp [isEmpty_false h, pure, Except.pure]
  · intro v hv
    rw [(relative_ok hv).2]
    exact ⟨rfl, rfl, rfl, rfl, rfl⟩

/-! ### origin -/

/-- `origin()` keeps only scheme, host and port: the result netloc is `make_netloc(None, None, host, port)`
    (no '@'), path / query / fragment are empty -/
theorem C11_origin (e : Env) (qf : Str → Str) (user pw : Option Str) (h : Str) (port : Option Nat)
    (scheme path query fragment : Str)
    (hu : UserOK user) (hh : HostOK h) (hp : ∀ p, port = some p → p ≤ 65535) (hsch : scheme ≠ []) :
    let u := fromParts scheme (makeNetloc qf user pw (some (bracket h)) port false) path query fragment
    let v := fromParts scheme (makeNetloc qf none none (some (bracket h)) port false) [] [] []
    origin e u = .ok v ∧ 64 ∉ v.netloc ∧
    rawUser e v = .ok none ∧ rawPassword e v = .ok none ∧ rawHost e v = .ok (some h) ∧
    explicitPort e v = .ok port := by
  intro u v
  have hu' : UserOK none := by intro t ht; cases ht
  refine ⟨?_, ?_, rawUser_std e qf none none h port scheme [] [] [] hu' hh hp,
    rawPassword_std e qf none none h port scheme [] [] [] hu' hh hp,
    rawHost_std e qf none none h port scheme [] [] [] hu' hh hp,
    explicitPort_std e qf none none h port scheme [] [] [] hu' hh hp⟩
  · obtain ⟨v', hv', h1, h2, h3, h4, h5, h6⟩ := AuthMod.origin_written
      (net_std e qf user pw h port scheme path query fragment hu hh hp) rfl hu hh.2.1
      (makeNetloc_ne_nil qf user pw hh.1 port) hsch
    rw [hv']
    -- `v'` has the parts of `v` and no cache (when it is `u` itself: `u` has none)
    have hpre : v'.pre = none := by
      rcases h6 with ⟨rfl, _⟩ | h6
      · rfl
      · exact h6
    obtain ⟨a1, a2, a3, a4, a5, a6⟩ := v'
    simp only at h1 h2 h3 h4 h5 hpre
    subst h1 h2 h3 h4 h5 hpre
    rfl
  · have := notMem_hostPortStr port hh.2.1
    simpa [v, fromParts, makeNetloc_eq] using this

/-- `origin()` needs an authority and a scheme; whenever it succeeds only scheme (and netloc-derived
    host / port) survive -/
theorem C11_origin_frame (e : Env) (u : Url) :
    (u.netloc = [] → origin e u = .error .valueError) ∧
    (u.scheme = [] → origin e u = .error .valueError) ∧
    (∀ v, origin e u = .ok v → v.scheme = u.scheme ∧ v.path = [] ∧ v.query = [] ∧ v.fragment = []) := by
  refine ⟨?_, ?_, ?_⟩
  · intro h
    rw [origin_eq, if_pos h]
  · intro h
    rw [origin_eq, if_pos h, ite_self]
  · intro v hv
    obtain ⟨_, _, ⟨_, N, _, rfl⟩ | ⟨_, ⟨rfl, hc⟩ | rfl⟩⟩ := origin_ok hv
    · exact ⟨rfl, rfl, rfl, rfl⟩
    · exact ⟨rfl, hc⟩
    · exact ⟨rfl, rfl, rfl, rfl⟩

/-- `_encode_host` validates the zone id of an IP literal (`"%zone"`): an argument that would inject userinfo /
    host / port through the zone is rejected -/
theorem C11_with_host_zone_rejected :
    let e : Env := { b := .py, o := Oracles.empty }
    let u := fromParts "http".toStr (makeNetloc id none none (some (bracket "a.com".toStr)) none false)
              "/p".toStr [] []
    u.netloc = "a.com".toStr ∧
    encodeHost e.o "1.2.3.4%@evil.com:80".toStr true = .error .valueError ∧
    withHost e u "1.2.3.4%@evil.com:80".toStr = .error .valueError := by
  refine ⟨by str_lits; decide +kernel, by str_lits; rfl, by str_lits; rfl⟩

/-- every non-empty accepted `host=` argument is encoded to a well-formed host: the side conditions of
    `C11_with_host` hold automatically -/
theorem C11_encoded_host_wellformed (o : Oracles) (hs eh : Str) (hne : eh ≠ []) :
    encodeHost o hs true = .ok eh → bracket (unbracket eh) = eh ∧ HostOK (unbracket eh) := by
  intro he
  -- the IP-branch text may be that of the IDNA answer of a non-ASCII host (3fbf5b4 re-enters): any text `t`
  rcases HostLemmas.validated_cases' he with ⟨t, hip, hz⟩ | hn
  · clear he
    clear hs
    revert t
    intro hs hip hz
    have hzone : ∀ c, (partition 37 hs).2.1 = true ∧ c ∈ (partition 37 hs).2.2 → c ≠ 64 ∧ c ≠ 58 ∧ c ≠ 91 ∧ c ≠ 93 := by
      intro c ⟨hsep, hc⟩
      have := HostLemmas.zone_chars (HostLemmas.zoneBad_true_false hz hsep) c hc
      omega
    cases hp : parseIP (partition 37 hs).1 with
    | none =>
      rw [HostLemmas.ipRes_eq_none.2 hp] at hip
      cases hip
    | some ip =>
      cases ip with
      | v4 o4 =>
        -- an IPv4 text, zone and all, is answered as it stands
        obtain rfl := Option.some.inj ((HostLemmas.ipRes_of_v4 hp).symm.trans hip)
        have hd := HostLemmas.parseIPv4_chars (HostLemmas.parseIP_some_v4.1 hp)
        refine plain_host_ok hne fun k hk hm => ?_
        rw [partition_join 37 hs, List.mem_append] at hm
        rcases hm with hm | hm
        · rcases hd k hm with h | h
          · omega
          · simp [isDigitC] at h; omega
        · split at hm
          · rename_i hsep
            rcases List.mem_cons.mp hm with h | hm
            · omega
            · have := hzone k ⟨hsep, hm⟩; omega
          · cases hm
      | v6 h8 =>
        obtain rfl := Option.some.inj ((HostLemmas.ipRes_of_v6 hp).symm.trans hip)
        have h6 := HostLemmas.parseIP_some_v6.1 hp
        have hcolon : 58 ∈ ipv6ToStr h8 :=
          HostLemmas.parseIPv6_colon (C16_ipv6_reparse _ h8 h6)
        have hbody : ∀ k, (k = 64 ∨ k = 91 ∨ k = 93) → k ∉ ipv6ToStr h8 ++ StrTotal.zonePart hs := by
          intro k hk hm
          rcases List.mem_append.mp hm with hm | hm
          · rcases C16_ipv6_text_lower h8 k hm with h | h | h
            · omega
            · simp [isDigitC] at h; omega
            · omega
          · unfold StrTotal.zonePart at hm
            split at hm
            · rename_i hsep
              rcases List.mem_cons.mp hm with h | hm
              · omega
              · have := hzone k ⟨hsep, hm⟩; omega
            · cases hm
        have := bracketed_host_ok (body := ipv6ToStr h8 ++ StrTotal.zonePart hs) (List.mem_append_left _ hcolon)
          ⟨hbody 64 (by simp), hbody 91 (by simp), hbody 93 (by simp)⟩
        simpa using this
  · have hs := HostLemmas.notRegName_spec eh hn
    have hno : ∀ k, k ≠ 37 → mem k Gen.regNameChars = false → k ∉ eh := by
      intro k h1 h2 hk
      rcases hs k hk with h | h
      · exact h1 h
      · rw [h2] at h; cases h
    exact plain_host_ok hne (fun k hk => by
      rcases hk with rfl | rfl | rfl | rfl <;> exact hno _ (by decide) (by decide))

/-- `with_host(hs)` without side conditions on the encoded host: whenever the argument is accepted
    (and encodes to a non-empty string) the new host reads back as `unbracket eh` and nothing else changes -/
theorem C11_with_host_validated (e : Env) (qf : Str → Str) (user pw : Option Str) (h : Str) (port : Option Nat)
    (scheme path query fragment : Str) (hs eh : Str)
    (hu : UserOK user) (hh : HostOK h) (hp : ∀ p, port = some p → p ≤ 65535)
    (hs_ne : hs ≠ []) (henc : encodeHost e.o hs true = .ok eh) (heh : eh ≠ []) :
    let u := fromParts scheme (makeNetloc qf user pw (some (bracket h)) port false) path query fragment
    ∃ v, withHost e u hs = .ok v ∧ rawHost e v = .ok (some (unbracket eh)) ∧
         rawUser e v = .ok user ∧ rawPassword e v = .ok pw ∧ explicitPort e v = .ok port ∧
         v.scheme = u.scheme ∧ v.path = u.path ∧ v.query = u.query ∧ v.fragment = u.fragment := by
  obtain ⟨hwf, hh2⟩ := C11_encoded_host_wellformed e.o hs eh heh henc
  exact C11_with_host e qf user pw h port scheme path query fragment hs eh hu hh hp hs_ne henc hwf hh2

/-! ### non-vacuity checks -/

section checks
private def e0 : Env := { b := .py, o := Oracles.empty }
private instance {ε α : Type} [DecidableEq ε] [DecidableEq α] : DecidableEq (Except ε α) := fun a b =>
  match a, b with
  | .ok x, .ok y => if h : x = y then isTrue (by rw [h]) else isFalse (by intro hc; cases hc; exact h rfl)
  | .error x, .error y => if h : x = y then isTrue (by rw [h]) else isFalse (by intro hc; cases hc; exact h rfl)
  | .ok _, .error _ => isFalse (by intro hc; cases hc)
  | .error _, .ok _ => isFalse (by intro hc; cases hc)
/-- without validation (`encoded=True` paths) the zone is still copied verbatim -/
example : encodeHost Oracles.empty "1.2.3.4%@evil.com:80".toStr false = .ok "1.2.3.4%@evil.com:80".toStr := by str_lits; decide +kernel

example : encodeHost Oracles.empty "fe80::1%eth0".toStr true = .ok "[fe80::1%eth0]".toStr ∧
    unbracket "[fe80::1%eth0]".toStr = "fe80::1%eth0".toStr ∧ "[fe80::1%eth0]".toStr ≠ [] := by str_lits; decide +kernel

/-- a well-formed zone is still accepted by `with_host` -/
example :
    let e : Env := { b := .py, o := Oracles.empty }
    let u := fromParts "http".toStr (makeNetloc id none none (some (bracket "a.com".toStr)) none false)
              "/p".toStr [] []
    (withHost e u "fe80::1%eth0".toStr).map (·.netloc) = .ok "[fe80::1%eth0]".toStr := by str_lits; decide +kernel

private def u0 : Url :=
  fromParts "http".toStr (makeNetloc id (some "us@er".toStr) (some "p:w".toStr) (some (bracket "::1".toStr)) (some 8080) false)
    "/p".toStr "k=v".toStr "f".toStr

example : UserOK (some "us@er".toStr) ∧ HostOK "::1".toStr := by str_lits; decide +kernel
example : q e0 Gen.QUOTER "a b".toStr ≠ [] ∧ 58 ∉ q e0 Gen.QUOTER "a b".toStr := by str_lits; decide +kernel
example : (withUser e0 u0 (some "a b".toStr)).map (·.netloc) = .ok "a%20b:p:w@[::1]:8080".toStr := by str_lits; decide +kernel
example : (withUser e0 u0 none).map (·.netloc) = .ok "[::1]:8080".toStr := by str_lits; decide +kernel
example : (withPassword e0 u0 (some [])).map (·.netloc) = .ok "us@er:@[::1]:8080".toStr := by str_lits; decide +kernel
example : (withPassword e0 u0 (some [])).bind (rawPassword e0) = .ok (some []) := by str_lits; decide +kernel
example : (withPassword e0 u0 none).bind (rawPassword e0) = .ok none := by str_lits; decide +kernel
example : (withHost e0 u0 "EXAMPLE.com".toStr).map (·.netloc) = .ok "us@er:p:w@example.com:8080".toStr := by str_lits; decide +kernel
example : encodeHost e0.o "EXAMPLE.com".toStr true = .ok "example.com".toStr ∧
    notRegName "example.com".toStr = false := by str_lits; decide +kernel
example : (origin e0 u0).map (·.netloc) = .ok "[::1]:8080".toStr := by str_lits; decide +kernel
end checks

end Yarl
