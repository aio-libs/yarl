import YarlProofs.C18More2
import YarlProofs.C06Decode
import YarlProofs.Lemmas.TokLemmas
import YarlProofs.Lemmas.Basics
import YarlProofs.Lemmas.SpellPos
/-!
# C18 — GAPS 9 and 2(d) of C18Headline: WHICH spellings satisfy the spelling conditions of the constructor theorem

`C18_constructor_any_spelling` (C18More2.lean) takes EQUATIONS between quoter outputs as hypotheses
(`PATH_REQUOTER("/" ++ rp) == PATH_QUOTER("/" ++ p)`, `QUERY_REQUOTER(rq)` == the `k=v&…` text, …).  This file
characterises them SYNTACTICALLY, in both directions.

* `R12d.SpellsP P s d` — the inductive relation "the written text `s` spells the decoded text `d` in position `P`":
  literal characters, a '%' not followed by two hex digits, `%XY…` escapes (either hex case) of the UTF-8 bytes of a
  character; `R12d.Spells t t'` is the relation for a pair of tables; `R12d.spellsB` a Bool checker (`Decidable`).
* (A) `C18_spelling_generic`: `cOut t s = cOut t' d ↔ Spells t t' s d` for ANY pair of tables satisfying the decidable
  `R12d.TabPair`.  (Completeness = unique decodability of the quoter's output + UTF-8 is a prefix code.)
* (B) `C18_spelling_path` / `_fragment` / `_userinfo` / `_query_value` (explicit positions `R12d.pathPos`, `plainPos`,
  `queryPos`, tied to the GENERATED tables by computation: Lemmas/SpellPos.lean), `C18_spelling_lone_surrogates`, `C18_spelling_decoded`,
  `C18_spelling_path_admissible`; the WHOLE query: `C18_spelling_query`, `C18_spelling_query_pieces`.
* (C) `C18_spelling_canonical` / `_human` / `_readable` / `_literal`, `C18_human_pieces_spell`, `C18_spellOpt_iff`,
  `C18_constructor_any_spelling_syntactic`.
* (D) `C18_spelling_examples`, `C18_spelling_escaped_slash_spells_nothing`, `C18_spelling_bad_escape_spells_nothing`,
  `C18_spelling_non_utf8_spells_nothing`, `C18_spelling_bad_lead_spells_nothing`,
  `C18_spelling_query_pct20_spells_nothing`; non-vacuity: `C18_spelling_nonvacuous`,
  `C18_constructor_any_spelling_syntactic_example`, `C18_spelling_generic_example`.
-/
namespace Yarl
namespace R12d
open OutLangLemmas QsLemmas HumanLemmas Readback DecMore Rfc TokLemmas

/-! ## the spelling relation -/

/-- the text `%XY%XY…` written with the given hex-digit pairs -/
def escText (hs : List (Nat × Nat)) : Str := hs.flatMap (fun p => [37, p.1, p.2])

/-- the digit pairs (each digit in upper OR lower case) denote exactly the bytes `bs` -/
def HexOf (hs : List (Nat × Nat)) (bs : List Nat) : Prop :=
  hs.map (fun p => restoreCh p.1 p.2) = bs.map some

instance (hs : List (Nat × Nat)) (bs : List Nat) : Decidable (HexOf hs bs) := by unfold HexOf; infer_instance

/-- `SpellsP P s d`: the written text `s` is a SPELLING of the decoded text `d` in position `P` — each character of
    `d` is written either literally or as the `%XY` escapes (hex digits in either case) of its UTF-8 bytes. -/
inductive SpellsP (P : Pos) : Str → Str → Prop
  | nil : SpellsP P [] []
  /-- a literal character other than '%' stands for the character the position assigns to it -/
  | lit {c c' : Nat} {s d : Str} : c ≠ 37 → P.litF c = some c' → SpellsP P s d → SpellsP P (c :: s) (c' :: d)
  /-- a '%' that is NOT followed by two hex digits stands for '%' -/
  | pct {s d : Str} : takeEscape restoreCh s = none → SpellsP P s d → SpellsP P (37 :: s) (37 :: d)
  /-- the UTF-8 bytes of `c`, each written `%XY`, stand for `c` — when `c` may be escaped in this position -/
  | esc {c : Nat} {hs : List (Nat × Nat)} {s d : Str} : c ≤ 0x10FFFF → isSurrogate c = false → P.escF c = true →
      HexOf hs (utf8 c) → SpellsP P s d → SpellsP P (escText hs ++ s) (c :: d)

/-- the position DETERMINED BY A PAIR OF TABLES (requoting `t`, non-requoting `t'`): a literal ASCII `c` stands for the
    ASCII `c'` that `t'` writes the way `t` writes `c`; `c` may be escaped iff `t` re-emits the decoded escape the way
    `t'` writes `c` -/
def posOf (t t' : QTab) : Pos where
  lit := fun c => (List.range 128).find? (fun c' => cWriteOut t c == cWriteOut t' c')
  esc := fun c => cEscOut t c == cWriteOut t' c

/-- THE generic relation: `s` spells `d` for the requoting table `t` against the non-requoting table `t'` -/
def Spells (t t' : QTab) : Str → Str → Prop := SpellsP (posOf t t')

/-- the decidable conditions on a pair of tables -/
structure TabPair (t t' : QTab) : Prop where
  wf : t.WF
  wf' : t'.WF
  req : t.requote = true
  nreq : t'.requote = false
  /-- the quoter writes a space and a '+' differently -/
  plus' : t'.qs = true → t'.safe 43 = false
  /-- an escaped '+' is not turned into the spelling of a space -/
  plus : t'.qs = true → t.safe 43 = true → t.prot 43 = true

/-! ## UTF-8 facts -/

/-- a non-ASCII code point is a lead byte `≥ 0xC0` followed by continuation bytes `0x80..0xBF` -/
theorem utf8_shape {c : Nat} (h : 128 ≤ c) (hc : c ≤ 0x10FFFF) (hs : isSurrogate c = false) :
    ∃ a as, utf8 c = a :: as ∧ 192 ≤ a ∧ a < 256 ∧ ∀ x ∈ as, 128 ≤ x ∧ x < 192 := by
  obtain ⟨b0, r, e, hb, hr, hlt⟩ := utf8_bytes c hc hs
  refine ⟨b0, r, e, ?_, hlt b0 (by rw [e]; exact List.mem_cons_self), fun x hx => isCont_iff.mp (hr x hx)⟩
  have hsh := Utf8Shape.of_utf8 c hc hs
  rw [e] at hsh
  cases hsh <;> omega

/-! ## `HexOf`, `escText` -/

theorem hexOf_nil_left {bs : List Nat} : HexOf [] bs ↔ bs = [] := by
  unfold HexOf
  cases bs <;> simp

theorem hexOf_cons {p : Nat × Nat} {hs : List (Nat × Nat)} {bs : List Nat} :
    HexOf (p :: hs) bs ↔ ∃ b bs', bs = b :: bs' ∧ restoreCh p.1 p.2 = some b ∧ HexOf hs bs' := by
  unfold HexOf
  cases bs with
  | nil => simp
  | cons b bs' =>
    simp only [List.map_cons, List.cons.injEq]
    constructor
    · rintro ⟨h1, h2⟩; exact ⟨b, bs', ⟨rfl, rfl⟩, h1, h2⟩
    · rintro ⟨b2, bs2, ⟨rfl, rfl⟩, h1, h2⟩; exact ⟨h1, h2⟩

theorem escText_cons (p : Nat × Nat) (hs : List (Nat × Nat)) (s : Str) :
    escText (p :: hs) ++ s = 37 :: p.1 :: p.2 :: (escText hs ++ s) := by
  simp [escText]

theorem takeEscape_of {d1 d2 v : Nat} (h : restoreCh d1 d2 = some v) (r : Str) :
    takeEscape restoreCh (d1 :: d2 :: r) = some (v, d1, d2, r) := by
  simp only [takeEscape, h]

theorem cOut_escText (t : QTab) (hreq : t.requote = true) (hs : List (Nat × Nat)) (bs : List Nat)
    (hx : HexOf hs bs) (s : Str) : cOut t (escText hs ++ s) = bs.flatMap (cEscOut t) ++ cOut t s := by
  induction hs generalizing bs with
  | nil => rw [hexOf_nil_left.mp hx]; rfl
  | cons p hs ih =>
    obtain ⟨b, bs', rfl, h1, h2⟩ := hexOf_cons.mp hx
    rw [escText_cons, cOut_cons_esc t hreq (takeEscape_of h1 _), ih bs' h2, List.flatMap_cons, List.append_assoc]

/-! ## soundness: a spelling requotes to the quoter's output -/

theorem posOf_lit_sound {t t' : QTab} {c c' : Nat} (h : (posOf t t').litF c = some c') :
    cWriteOut t c = cWriteOut t' c' := by
  unfold Pos.litF at h
  split at h
  · have := List.find?_some h
    simpa using this
  · rename_i hc
    cases h
    unfold cWriteOut
    rw [if_neg (by omega), if_neg (by omega), if_neg (by omega), if_neg (by omega)]

theorem posOf_esc_sound {t t' : QTab} (ht : t.WF) {c : Nat} (h : (posOf t t').escF c = true) :
    (utf8 c).flatMap (cEscOut t) = cWriteOut t' c := by
  unfold Pos.escF at h
  split at h
  · rename_i hc
    rw [utf8_ascii hc]
    have : cEscOut t c = cWriteOut t' c := by simpa [posOf] using h
    simp [this]
  · rename_i hc
    have hc : 128 ≤ c := by omega
    rw [show cWriteOut t' c = (utf8 c).flatMap pct by
      unfold cWriteOut writeUtf8; rw [if_neg (by omega), if_neg (by omega)]]
    apply flatMap_congr'
    intro b hb
    exact cEscOut_eq_pct t ht (Or.inl (utf8_ge128 hc b hb))

theorem spells_sound {t t' : QTab} (k : TabPair t t') {s d : Str} (h : Spells t t' s d) :
    cOut t s = cOut t' d := by
  induction h with
  | nil => rw [cOut_nil, cOut_nil]
  | lit h37 hl _ ih =>
    rw [cOut_cons_ne t h37, cOut_nr_cons t' k.nreq, ih, posOf_lit_sound hl]
  | pct hn _ ih =>
    rw [QuoteEquiv.cOut_noesc t k.req hn, cOut_nr_cons t' k.nreq, ih, cWriteOut_37 t k.wf, cWriteOut_37 t' k.wf']
  | esc hc hs he hx _ ih =>
    rw [cOut_escText t k.req _ _ hx, cOut_nr_cons t' k.nreq, ih, posOf_esc_sound k.wf he]

/-! ## completeness, on tokens: the output tokens of a spelling are those of the quoter's output (`WfLemmas.btoks_cOut`) -/

/-- the text an output token is written as -/
def rend : BTok → Str
  | .lit b => [b]
  | .esc b => pct b

theorem cWriteOut_rend (t : QTab) {c : Nat} (hc : c < 128) : cWriteOut t c = rend (tokOut t (.lit c)) := by
  unfold cWriteOut writeUtf8
  rw [tokOut_lit, utf8_ascii hc]
  split
  · rfl
  · split
    · rfl
    · simp [rend]

theorem cEscOut_rend (t : QTab) (v : Nat) : cEscOut t v = rend (tokOut t (.esc v)) := by
  unfold cEscOut
  rw [tokOut_esc]
  by_cases hp : v < 128 ∧ t.prot v = true
  · rw [if_pos hp, if_neg (by simp [hp.2])]
    rfl
  · rw [if_neg hp]
    by_cases hs : v < 128 ∧ t.safe v = true
    · rw [if_pos hs, if_pos ⟨hs.1, hs.2, by simpa [hs.1] using hp⟩]
      rfl
    · rw [if_neg hs, if_neg (fun h => hs ⟨h.1, h.2.1⟩)]
      rfl

/-- a token that is rewritten to an escape stands for that byte -/
theorem tok_esc_val {t : QTab} {x : BTok} {b : Nat} (h : tokOut t x = .esc b) : x.val = b := by
  cases x with
  | esc v =>
    rw [tokOut_esc] at h
    split at h <;> cases h
    rfl
  | lit a =>
    rw [tokOut_lit] at h
    split at h
    · cases h
    · split at h <;> cases h
      rfl

/-- every UTF-8 byte of a non-ASCII character is rewritten to its escape -/
theorem toks_hi (t : QTab) {c : Nat} (hc : 128 ≤ c) : (utf8 c).map (tokOut t ∘ .lit) = (utf8 c).map .esc := by
  apply List.map_congr_left
  intro b hb
  have := utf8_ge128 hc b hb
  show tokOut t (.lit b) = _
  rw [tokOut_lit, if_neg (by omega), if_neg (by omega)]

theorem posOf_lit_complete {t t' : QTab} (k : TabPair t t') {c c' : Nat} (hc : c < 128) (hc' : c' < 128)
    (h : cWriteOut t c = cWriteOut t' c') : (posOf t t').litF c = some c' := by
  unfold Pos.litF
  rw [if_pos hc]
  show (List.range 128).find? (fun x => cWriteOut t c == cWriteOut t' x) = some c'
  cases hf : (List.range 128).find? (fun x => cWriteOut t c == cWriteOut t' x) with
  | none =>
    have := List.find?_eq_none.mp hf c' (List.mem_range.mpr hc')
    simp [h] at this
  | some x =>
    have hx : x < 128 := List.mem_range.mp (List.mem_of_find?_eq_some hf)
    have hp : cWriteOut t c = cWriteOut t' x := by simpa using List.find?_some hf
    -- the non-requoting table writes different ASCII characters differently
    have ht := congrArg (fun z => btoks (z ++ [])) (h.symm.trans hp)
    simp only [btoks_cWriteOut t' k.wf', utf8_ascii hc', utf8_ascii hx, List.map_cons, List.map_nil,
      List.cons_append, List.nil_append, List.cons.injEq, and_true] at ht
    cases hq : t'.qs with
    | true =>
      have := congrArg C02_formVal ht
      rw [formVal_tokOut_lit (k.plus' hq), formVal_tokOut_lit (k.plus' hq)] at this
      rw [this]
    | false =>
      have := congrArg BTok.val ht
      rw [val_tokOut hq, val_tokOut hq] at this
      rw [show c' = x from this]

/-- an escape is re-emitted like the quoter's output for THAT ASCII character only -/
theorem tok_esc_lit {t t' : QTab} (k : TabPair t t') {v c' : Nat} (h : tokOut t (.esc v) = tokOut t' (.lit c')) :
    v = c' := by
  rw [tokOut_esc, tokOut_lit] at h
  split at h <;> split at h
  · rename_i hv hq
    obtain rfl : v = 43 := by injection h
    rw [k.plus hq.1 hv.2.1] at hv
    cases hv.2.2
  · split at h
    · injection h
    · cases h
  · cases h
  · split at h
    · cases h
    · injection h

/-- the tokens at the head of a text -/
theorem head_toks (c : Nat) (r : Str) :
    (c ≠ 37 ∧ c < 128 ∧ btoks (c :: r) = .lit c :: btoks r) ∨
    (c = 37 ∧ takeEscape restoreCh r = none ∧ btoks (c :: r) = .lit 37 :: btoks r) ∨
    (128 ≤ c ∧ btoks (c :: r) = (utf8 c).map .lit ++ btoks r) ∨
    (c = 37 ∧ ∃ v d1 d2 r', r = d1 :: d2 :: r' ∧ restoreCh d1 d2 = some v ∧ btoks (c :: r) = .esc v :: btoks r') := by
  by_cases h37 : c = 37
  · subst h37
    cases hm : takeEscape restoreCh r with
    | none => exact .inr (.inl ⟨rfl, rfl, btoks_noesc hm⟩)
    | some x =>
      obtain ⟨v, d1, d2, r'⟩ := x
      obtain ⟨e, hv⟩ := takeEscape_eq hm
      exact .inr (.inr (.inr ⟨rfl, v, d1, d2, r', e, hv, btoks_esc hm⟩))
  · by_cases hlt : c < 128
    · exact .inl ⟨h37, hlt, btoks_ascii hlt h37 r⟩
    · exact .inr (.inr (.inl ⟨by omega, btoks_cons_ne h37 r⟩))

/-- a text whose tokens are rewritten to the escapes of continuation bytes (and more) was written with these escapes -/
theorem cont_toks {t : QTab} (bs : List Nat) (hb : ∀ b ∈ bs, 128 ≤ b ∧ b < 192) (s : Str) (hs : PyStr s)
    (hn : NoSurrogate s) (y : List BTok) (h : (btoks s).map (tokOut t) = bs.map .esc ++ y) :
    ∃ hx s', s = escText hx ++ s' ∧ HexOf hx bs ∧ (btoks s').map (tokOut t) = y ∧ PyStr s' ∧ NoSurrogate s' := by
  induction bs generalizing s with
  | nil => exact ⟨[], s, rfl, hexOf_nil_left.mpr rfl, h, hs, hn⟩
  | cons b bs ih =>
    have hb0 := hb b (by simp)
    rw [List.map_cons, List.cons_append] at h
    cases s with
    | nil => rw [btoks_nil] at h; cases h
    | cons c r =>
      rcases head_toks c r with ⟨_, hlt, e⟩ | ⟨rfl, _, e⟩ | ⟨hge, e⟩ | ⟨rfl, v, d1, d2, r', rfl, hv, e⟩
      · rw [e, List.map_cons] at h
        have : c = b := tok_esc_val (List.cons.inj h).1
        omega
      · rw [e, List.map_cons] at h
        have : 37 = b := tok_esc_val (List.cons.inj h).1
        omega
      · obtain ⟨a, as, ea, ha1, _, _⟩ := utf8_shape hge (hs c (by simp)) (hn c (by simp))
        rw [e, List.map_append, List.map_map, toks_hi t hge, ea, List.map_cons, List.cons_append] at h
        have : a = b := by injection (List.cons.inj h).1
        omega
      · rw [e, List.map_cons] at h
        obtain ⟨h1, h2⟩ := List.cons.inj h
        obtain rfl : v = b := tok_esc_val h1
        obtain ⟨hx, s', rfl, k1, k2, k3, k4⟩ := ih (fun x hx => hb x (by simp [hx])) r'
          (pyStr_tail (pyStr_tail (pyStr_tail hs))) (noSurr_tail (noSurr_tail (noSurr_tail hn))) h2
        exact ⟨(d1, d2) :: hx, s', (escText_cons (d1, d2) hx s').symm, hexOf_cons.mpr ⟨v, bs, rfl, hv, k1⟩, k2, k3, k4⟩

theorem spells_of_toks {t t' : QTab} (k : TabPair t t') : ∀ (d s : Str), PyStr s → NoSurrogate s → PyStr d →
    NoSurrogate d → (btoks s).map (tokOut t) = (utf8s d).map (tokOut t' ∘ .lit) → Spells t t' s d := by
  intro d
  induction d with
  | nil =>
    intro s hs hn _ _ h
    cases s with
    | nil => exact .nil
    | cons c r =>
      exfalso
      have h0 : btoks (c :: r) = [] := List.map_eq_nil_iff.mp h
      rcases head_toks c r with ⟨_, _, e⟩ | ⟨_, _, e⟩ | ⟨_, e⟩ | ⟨_, v, d1, d2, r', _, _, e⟩ <;> rw [e] at h0
      · cases h0
      · cases h0
      · exact List.ne_nil_of_length_pos (utf8_length_pos c (hs c (by simp)) (hn c (by simp))) (by simpa using h0 : utf8 c = [] ∧ btoks r = []).1
      · cases h0
  | cons c' d ih =>
    intro s hs hn hd hdn h
    have hc' := hd c' (by simp)
    have hcn' := hdn c' (by simp)
    have hd' := pyStr_tail hd
    have hdn' := noSurr_tail hdn
    rw [QuoteEquiv.utf8s_cons, List.map_append] at h
    cases s with
    | nil =>
      rw [btoks_nil] at h
      exact absurd (by simpa using h.symm : utf8 c' = [] ∧ utf8s d = []).1 (List.ne_nil_of_length_pos (utf8_length_pos c' hc' hcn'))
    | cons c r =>
      have hc := hs c (by simp)
      have hcn := hn c (by simp)
      have hr := pyStr_tail hs
      have hrn := noSurr_tail hn
      by_cases hA : c' < 128
      · -- an ASCII character of the decoded text: one token
        rw [utf8_ascii hA, List.map_cons, List.map_nil, List.singleton_append] at h
        rcases head_toks c r with ⟨h37, hlt, e⟩ | ⟨rfl, hm, e⟩ | ⟨hge, e⟩ | ⟨rfl, v, d1, d2, r', rfl, hv, e⟩
        · rw [e, List.map_cons] at h
          obtain ⟨h1, h2⟩ := List.cons.inj h
          refine .lit h37 (posOf_lit_complete k hlt hA ?_) (ih r hr hrn hd' hdn' h2)
          rw [cWriteOut_rend t hlt, cWriteOut_rend t' hA]
          exact congrArg rend h1
        · rw [e, List.map_cons, tokOut_lit, if_neg (by simp), if_neg (by simp [k.wf.pct_unsafe])] at h
          obtain ⟨h1, h2⟩ := List.cons.inj h
          obtain rfl : c' = 37 := tok_esc_val h1.symm
          exact .pct hm (ih r hr hrn hd' hdn' h2)
        · obtain ⟨a, as, ea, ha1, _, _⟩ := utf8_shape hge hc hcn
          rw [e, List.map_append, List.map_map, toks_hi t hge, ea, List.map_cons, List.cons_append] at h
          have : c' = a := tok_esc_val (List.cons.inj h).1.symm
          omega
        · rw [e, List.map_cons] at h
          obtain ⟨h1, h2⟩ := List.cons.inj h
          obtain rfl := tok_esc_lit k h1
          have hesc : (posOf t t').escF v = true := by
            unfold Pos.escF
            rw [if_pos hA]
            show (cEscOut t v == cWriteOut t' v) = true
            rw [cEscOut_rend, cWriteOut_rend t' hA, h1]
            exact beq_self_eq_true _
          have hx : HexOf [(d1, d2)] (utf8 v) := by
            rw [utf8_ascii hA]; simp [HexOf, hv]
          exact .esc (hs := [(d1, d2)]) hc' hcn' hesc hx
            (ih r' (pyStr_tail (pyStr_tail hr)) (noSurr_tail (noSurr_tail hrn)) hd' hdn' h2)
      · -- a non-ASCII character: the escapes of its UTF-8 bytes
        have hA : 128 ≤ c' := by omega
        obtain ⟨b1, bs, eb, hb1, _, hbs⟩ := utf8_shape hA hc' hcn'
        rw [toks_hi t' hA] at h
        rcases head_toks c r with ⟨h37, hlt, e⟩ | ⟨rfl, hm, e⟩ | ⟨hge, e⟩ | ⟨rfl, v, d1, d2, r', rfl, hv, e⟩
        · rw [e, List.map_cons, eb, List.map_cons, List.cons_append] at h
          have : c = b1 := tok_esc_val (List.cons.inj h).1
          omega
        · rw [e, List.map_cons, eb, List.map_cons, List.cons_append] at h
          have : 37 = b1 := tok_esc_val (List.cons.inj h).1
          omega
        · rw [e, List.map_append, List.map_map, toks_hi t hge] at h
          have hu := congrArg (List.map BTok.val) h
          simp only [List.map_append, List.map_map] at hu
          obtain ⟨rfl, _⟩ := Yarl.utf8_prefix_free _ _ hc hcn hc' hcn' _ _
            (by simpa [Function.comp_def, BTok.val] using hu)
          refine .lit (by omega) ?_ (ih r hr hrn hd' hdn' (List.append_cancel_left h))
          unfold Pos.litF
          rw [if_neg (by omega)]
        · rw [e, List.map_cons, eb, List.map_cons, List.cons_append] at h
          obtain ⟨h1, h2⟩ := List.cons.inj h
          obtain rfl : v = b1 := tok_esc_val h1
          obtain ⟨hx, s', rfl, k1, k2, k3, k4⟩ := cont_toks bs hbs r'
            (pyStr_tail (pyStr_tail hr)) (noSurr_tail (noSurr_tail hrn)) _ h2
          have hesc : (posOf t t').escF c' = true := by
            unfold Pos.escF; rw [if_neg (by omega)]
          rw [← escText_cons (d1, d2) hx s']
          exact .esc hc' hcn' hesc (by rw [eb]; exact hexOf_cons.mpr ⟨v, bs, rfl, hv, k1⟩) (ih s' k3 k4 hd' hdn' k2)

theorem spells_complete {t t' : QTab} (k : TabPair t t') (d s : Str) (hs : PyStr s) (hn : NoSurrogate s) (hd : PyStr d)
    (hdn : NoSurrogate d) (h : cOut t s = cOut t' d) : Spells t t' s d := by
  have ht := congrArg btoks h
  rw [btoks_cOut t k.wf k.req, btoks_cOut_nr t' k.wf' k.nreq] at ht
  exact spells_of_toks k d s hs hn hd hdn ht

/-- (A) THE GENERIC THEOREM, both directions: for a requoting table `t` and a non-requoting table `t'` (decidable
    conditions `TabPair`), on texts without lone surrogates, `requote_t(s) = quote_t'(d)` iff `s` spells `d`. -/
theorem cOut_eq_iff_spells {t t' : QTab} (k : TabPair t t') {s d : Str} (hs : PyStr s) (hn : NoSurrogate s)
    (hd : PyStr d) (hdn : NoSurrogate d) : cOut t s = cOut t' d ↔ Spells t t' s d :=
  ⟨spells_complete k d s hs hn hd hdn, spells_sound k⟩

/-! ## positions that agree on ASCII give the same relation -/

theorem spellsP_congr {P P' : Pos} (hl : ∀ c, c < 128 → P.lit c = P'.lit c) (he : ∀ c, c < 128 → P.esc c = P'.esc c)
    {s d : Str} (h : SpellsP P s d) : SpellsP P' s d := by
  induction h with
  | nil => exact .nil
  | lit h37 hlit _ ih =>
    refine .lit h37 ?_ ih
    unfold Pos.litF at hlit ⊢
    split
    · rename_i hc; rw [if_pos hc, hl _ hc] at hlit; exact hlit
    · rename_i hc; rw [if_neg hc] at hlit; exact hlit
  | pct hm _ ih => exact .pct hm ih
  | esc hc hs hesc hx _ ih =>
    refine .esc hc hs ?_ hx ih
    unfold Pos.escF at hesc ⊢
    split
    · rename_i hc; rw [if_pos hc, he _ hc] at hesc; exact hesc
    · rfl

theorem spellsP_congr_iff {P P' : Pos} (hl : ∀ c, c < 128 → P.lit c = P'.lit c)
    (he : ∀ c, c < 128 → P.esc c = P'.esc c) {s d : Str} : SpellsP P s d ↔ SpellsP P' s d :=
  ⟨spellsP_congr hl he, spellsP_congr (fun c hc => (hl c hc).symm) (fun c hc => (he c hc).symm)⟩

/-! ## a Bool checker: the relation is decidable -/

/-- strip the escapes `%XY` (either case) of the given bytes from the front of a text -/
def stripEsc : List Nat → Str → Option Str
  | [], s => some s
  | b :: bs, 37 :: d1 :: d2 :: r => if restoreCh d1 d2 = some b then stripEsc bs r else none
  | _ :: _, _ => none

theorem stripEsc_escText (hs : List (Nat × Nat)) (bs : List Nat) (hx : HexOf hs bs) (s : Str) :
    stripEsc bs (escText hs ++ s) = some s := by
  induction hs generalizing bs with
  | nil => rw [hexOf_nil_left.mp hx]; rfl
  | cons p hs ih =>
    obtain ⟨b, bs', rfl, h1, h2⟩ := hexOf_cons.mp hx
    rw [escText_cons]
    simp only [stripEsc, h1, if_true]
    exact ih bs' h2

theorem stripEsc_some {bs : List Nat} {s s' : Str} (h : stripEsc bs s = some s') :
    ∃ hs, HexOf hs bs ∧ s = escText hs ++ s' := by
  induction bs generalizing s with
  | nil =>
    simp only [stripEsc, Option.some.injEq] at h
    exact ⟨[], hexOf_nil_left.mpr rfl, h ▸ rfl⟩
  | cons b bs ih =>
    match s, h with
    | 37 :: d1 :: d2 :: r, h =>
      simp only [stripEsc] at h
      split at h
      · rename_i hv
        obtain ⟨hs, k1, rfl⟩ := ih h
        exact ⟨(d1, d2) :: hs, hexOf_cons.mpr ⟨b, bs, rfl, hv, k1⟩, (escText_cons (d1, d2) hs s').symm⟩
      · cases h

/-- the checker (structural recursion on the decoded text) -/
def spellsB (P : Pos) : Str → Str → Bool
  | [], [] => true
  | [], _ :: _ => false
  | _ :: _, [] => false
  | c :: r, c' :: d =>
    if c = 37 then
      match takeEscape restoreCh r with
      | none => c' == 37 && spellsB P r d
      | some _ =>
        decide (c' ≤ 0x10FFFF) && !isSurrogate c' && P.escF c' &&
          (match stripEsc (utf8 c') (c :: r) with
           | some s' => spellsB P s' d
           | none => false)
    else P.litF c == some c' && spellsB P r d

theorem spellsB_of_spells {P : Pos} {s d : Str} (h : SpellsP P s d) : spellsB P s d = true := by
  induction h with
  | nil => rfl
  | lit h37 hl _ ih => simp [spellsB, h37, hl, ih]
  | pct hm _ ih => simp [spellsB, hm, ih]
  | @esc c hs s d hc hsur hesc hx _ ih =>
    cases hs with
    | nil => exact absurd (hexOf_nil_left.mp hx) (List.ne_nil_of_length_pos (utf8_length_pos _ hc hsur))
    | cons p hs' =>
      have hst := stripEsc_escText (p :: hs') _ hx s
      obtain ⟨b, bs', eb, h1, h2⟩ := hexOf_cons.mp hx
      rw [escText_cons] at hst ⊢
      simp [spellsB, takeEscape_of h1, hc, hsur, hesc, hst, ih]

theorem spells_of_spellsB {P : Pos} : ∀ (d s : Str), spellsB P s d = true → SpellsP P s d := by
  intro d
  induction d with
  | nil =>
    intro s h
    cases s with
    | nil => exact .nil
    | cons c r => simp [spellsB] at h
  | cons c' d ih =>
    intro s h
    cases s with
    | nil => simp [spellsB] at h
    | cons c r =>
      simp only [spellsB] at h
      split at h
      · rename_i h37
        subst h37
        split at h
        · rename_i hm
          simp only [Bool.and_eq_true, beq_iff_eq] at h
          obtain ⟨rfl, h2⟩ := h
          exact .pct hm (ih r h2)
        · simp only [Bool.and_eq_true, decide_eq_true_eq, Bool.not_eq_true'] at h
          obtain ⟨⟨⟨h1, h2⟩, h3⟩, h4⟩ := h
          split at h4
          · rename_i s' hst
            obtain ⟨hs, k1, k2⟩ := stripEsc_some hst
            rw [k2]
            exact .esc h1 h2 h3 k1 (ih s' h4)
          · cases h4
      · rename_i h37
        simp only [Bool.and_eq_true, beq_iff_eq] at h
        exact .lit h37 h.1 (ih r h.2)

theorem spellsB_iff (P : Pos) (s d : Str) : spellsB P s d = true ↔ SpellsP P s d :=
  ⟨spells_of_spellsB d s, spellsB_of_spells⟩

instance (P : Pos) (s d : Str) : Decidable (SpellsP P s d) := decidable_of_iff _ (spellsB_iff P s d)
instance (t t' : QTab) (s d : Str) : Decidable (Spells t t' s d) := by unfold Spells; infer_instance

/-! ## the four positions of a URL, explicitly -/

abbrev SpellsPath : Str → Str → Prop := SpellsP pathPos
abbrev SpellsPlain : Str → Str → Prop := SpellsP plainPos
abbrev SpellsQV : Str → Str → Prop := SpellsP queryPos

theorem spells_iff_of_litOK {t t' : QTab} (k : TabPair t t') {P : Pos} (h : ∀ c, c < 128 → Describes t t' P c)
    {s d : Str} : Spells t t' s d ↔ SpellsP P s d := by
  apply spellsP_congr_iff
  · intro c hc
    have h1 := (h c hc).1
    cases hP : P.lit c with
    | some c' =>
      rw [hP] at h1
      have := posOf_lit_complete k hc h1.1 h1.2
      unfold Pos.litF at this; rw [if_pos hc] at this; exact this
    | none =>
      rw [hP] at h1
      show (List.range 128).find? (fun x => cWriteOut t c == cWriteOut t' x) = none
      rw [List.find?_eq_none]
      intro x hx
      simpa using h1 x (List.mem_range.mp hx)
  · intro c hc
    exact (h c hc).2.symm

/-- the two-table conditions for a generated pair, both backends -/
theorem tabPair_gen (a a' : QArgs) (ha : a ∈ Gen.allQuoters) (ha' : a' ∈ Gen.allQuoters) (hr : a.requote = true)
    (hn : a'.requote = false) (h1 : a'.tabC.qs = true → a'.tabC.safe 43 = false)
    (h2 : a'.tabC.qs = true → a.tabC.safe 43 = true → a.tabC.prot 43 = true) (b : Backend) :
    TabPair (a.tab b) (a'.tab b) := by
  refine ⟨gen_tab_wf a ha b, gen_tab_wf a' ha' b, by rw [tab_requote]; exact hr, by rw [tab_requote]; exact hn, ?_, ?_⟩
  · rw [tab_eq_c a' ha' b]; exact h1
  · rw [tab_eq_c a' ha' b, tab_eq_c a ha b]; exact h2

/-- run level: two generated quoters, both backends, any explicit position that describes their tables -/
theorem q_eq_iff (a a' : QArgs) (ha : a ∈ Gen.allQuoters) (ha' : a' ∈ Gen.allQuoters) (P : Pos)
    (k : ∀ b, TabPair (a.tab b) (a'.tab b)) (hP : ∀ c, c < 128 → Describes a.tabC a'.tabC P c)
    (e : Env) (s d : Str) (hs : PyStr s) (hn : NoSurrogate s) (hd : PyStr d) (hdn : NoSurrogate d) :
    q e a s = q e a' d ↔ SpellsP P s d := by
  show a.run e.b s = a'.run e.b d ↔ _
  rw [run_eq_cOut a ha e.b s hs, run_eq_cOut a' ha' e.b d hd, stripSurr_id s hn, stripSurr_id d hdn,
    cOut_eq_iff_spells (k e.b) hs hn hd hdn]
  apply spells_iff_of_litOK (k e.b)
  rw [tab_eq_c a ha, tab_eq_c a' ha']
  exact hP

theorem path_pair : ∀ b, TabPair (Gen.PATH_REQUOTER.tab b) (Gen.PATH_QUOTER.tab b) :=
  tabPair_gen _ _ (by decide) (by decide) (by decide) (by decide) (by decide) (by decide)
theorem fragment_pair : ∀ b, TabPair (Gen.FRAGMENT_REQUOTER.tab b) (Gen.FRAGMENT_QUOTER.tab b) :=
  tabPair_gen _ _ (by decide) (by decide) (by decide) (by decide) (by decide) (by decide)
theorem user_pair : ∀ b, TabPair (Gen.REQUOTER.tab b) (Gen.QUOTER.tab b) :=
  tabPair_gen _ _ (by decide) (by decide) (by decide) (by decide) (by decide) (by decide)
theorem query_pair : ∀ b, TabPair (Gen.QUERY_REQUOTER.tab b) (Gen.QUERY_PART_QUOTER.tab b) :=
  tabPair_gen _ _ (by decide) (by decide) (by decide) (by decide) (by decide) (by decide)

/-! ## the whole query string: split at the literal '&' and the first literal '=' of each piece -/

section query
open HumanFull HumanMore QueryUrl TokLemmas QueryGlue

theorem cOut_eq_nil {t : QTab} {s : Str} (hs : PyStr s) (hn : NoSurrogate s) (h : cOut t s = []) : s = [] := by
  cases s with
  | nil => rfl
  | cons c r => exact absurd h (EagerLemmas.cOut_cons_ne_nil t c r (hs c (by simp)) (hn c (by simp)))

/-- the value-position theorem at table level -/
theorem spellsQV_iff (b : Backend) {s d : Str} : Spells (tq b) (tp b) s d ↔ SpellsQV s d := by
  apply spells_iff_of_litOK (query_pair b)
  rw [tab_eq_c Gen.QUERY_REQUOTER (by decide) b, tab_eq_c Gen.QUERY_PART_QUOTER (by decide) b]
  exact query_litOK

theorem qv_iff (b : Backend) {s d : Str} (hs : PyStr s) (hn : NoSurrogate s) (hd : GoodText d) :
    cOut (tq b) s = cOut (tp b) d ↔ SpellsQV s d := by
  rw [cOut_eq_iff_spells (query_pair b) hs hn hd.1 hd.2, spellsQV_iff]

/-- the spelling relation of a written pair `rk=rv` against a decoded pair -/
def PairSpells (p kv : Str × Str) : Prop := SpellsQV p.1 kv.1 ∧ SpellsQV p.2 kv.2

/-- the written pairs spell the decoded pairs, one by one (same number of pairs) -/
inductive AllSpell : List (Str × Str) → List (Str × Str) → Prop
  | nil : AllSpell [] []
  | cons {p kv : Str × Str} {ps kvs : List (Str × Str)} : PairSpells p kv → AllSpell ps kvs →
      AllSpell (p :: ps) (kv :: kvs)

/-- one piece `rk=rv` -/
theorem piece_complete (b : Backend) (a : Str) (kv : Str × Str) (ha : PyStr a) (han : NoSurrogate a)
    (hg : GoodText kv.1 ∧ GoodText kv.2) (h : cOut (tq b) a = pairOut b kv) :
    ∃ p : Str × Str, a = rawPair p ∧ PairSpells p kv := by
  have h61 : 61 ∈ a := by
    apply Classical.byContradiction
    intro hn
    have := tq_sep_not_mem b (Or.inr rfl) hn
    rw [h] at this
    exact this (by simp [pairOut])
  obtain ⟨rk, rv, rfl, hrk⟩ := exists_first h61
  have e : cOut (tq b) rk ++ [61] ++ cOut (tq b) rv = cOut (tp b) kv.1 ++ [61] ++ cOut (tp b) kv.2 := by
    rw [← cOut_tq_pair, List.append_assoc, List.singleton_append, h]
    rfl
  obtain ⟨h1, h2⟩ := (sep_inj (tq_sep_not_mem b (Or.inr rfl) hrk) (tp_no_seps b _ hg.1).2).mp e
  have v1 : PyStr rk := fun x hx => ha x (by simp [hx])
  have v2 : NoSurrogate rk := fun x hx => han x (by simp [hx])
  have v3 : PyStr rv := fun x hx => ha x (by simp [hx])
  have v4 : NoSurrogate rv := fun x hx => han x (by simp [hx])
  exact ⟨(rk, rv), by simp [rawPair], (qv_iff b v1 v2 hg.1).mp h1, (qv_iff b v3 v4 hg.2).mp h2⟩

theorem piece_sound (b : Backend) (p kv : Str × Str) (h : PairSpells p kv) :
    cOut (tq b) (rawPair p) = pairOut b kv := by
  have e1 : cOut (tq b) p.1 = cOut (tp b) kv.1 := spells_sound (query_pair b) ((spellsQV_iff b).mpr h.1)
  have e2 : cOut (tq b) p.2 = cOut (tp b) kv.2 := spells_sound (query_pair b) ((spellsQV_iff b).mpr h.2)
  unfold rawPair pairOut
  rw [List.append_assoc, List.singleton_append, cOut_tq_sep b (Or.inr rfl), e1, e2]
  simp

theorem flatC_shape (l : List Str) : HostLemmas.flatC 38 l = [] ∨ ∃ x, HostLemmas.flatC 38 l = 38 :: x := by
  cases l with
  | nil => exact Or.inl rfl
  | cons s r => exact Or.inr ⟨_, rfl⟩

end query

/-! ## inversion, validity -/

theorem hexOf_nil_right {hs : List (Nat × Nat)} : HexOf hs [] ↔ hs = [] := by
  unfold HexOf
  cases hs <;> simp

/-- the escape text consists of '%' and hex digits -/
theorem hexOf_chars {hs : List (Nat × Nat)} {bs : List Nat} (h : HexOf hs bs) :
    ∀ x ∈ escText hs, x = 37 ∨ ∃ a, fromHex x = some a := by
  induction hs generalizing bs with
  | nil => intro x hx; simp [escText] at hx
  | cons p hs ih =>
    obtain ⟨b, bs', rfl, h1, h2⟩ := hexOf_cons.mp h
    intro x hx
    have : escText (p :: hs) = 37 :: p.1 :: p.2 :: escText hs := by simp [escText]
    rw [this] at hx
    simp only [List.mem_cons] at hx
    obtain ⟨a, b', ha, hb, _⟩ := Hex.restoreCh_some h1
    rcases hx with rfl | rfl | rfl | hx
    · exact Or.inl rfl
    · exact Or.inr ⟨a, ha⟩
    · exact Or.inr ⟨b', hb⟩
    · exact ih h2 x hx

theorem hexOf_ascii {hs : List (Nat × Nat)} {bs : List Nat} (h : HexOf hs bs) : ∀ x ∈ escText hs, x < 128 := by
  intro x hx
  rcases hexOf_chars h x hx with rfl | ⟨a, ha⟩
  · omega
  · exact Nat.lt_of_not_le fun hge => by rw [Hex.fromHex_none_of_ge hge] at ha; cases ha

/-- a spelling of a text without lone surrogates has none either: the hypotheses on the WRITTEN text follow -/
theorem spells_valid {P : Pos} {s d : Str} (h : SpellsP P s d) (hd : PyStr d) (hdn : NoSurrogate d) :
    PyStr s ∧ NoSurrogate s := by
  have ascii : ∀ x, x < 128 → x ≤ 0x10FFFF ∧ isSurrogate x = false := fun x hx =>
    ⟨by omega, by simp only [isSurrogate, Bool.and_eq_false_iff, decide_eq_false_iff_not]; omega⟩
  refine HumanLemmas.good_of_mem ?_
  induction h with
  | nil => intro x hx; cases hx
  | @lit c c' s d h37 hl _ ih =>
    intro x hx
    rcases List.mem_cons.mp hx with rfl | hx
    · unfold Pos.litF at hl
      split at hl
      · exact ascii _ ‹_›
      · cases hl; exact ⟨hd _ (by simp), hdn _ (by simp)⟩
    · exact ih (pyStr_tail hd) (noSurr_tail hdn) x hx
  | pct _ _ ih =>
    intro x hx
    rcases List.mem_cons.mp hx with rfl | hx
    · decide
    · exact ih (pyStr_tail hd) (noSurr_tail hdn) x hx
  | esc _ _ _ hx _ ih =>
    intro x hm
    rcases List.mem_append.mp hm with hm | hm
    · exact ascii x (hexOf_ascii hx x hm)
    · exact ih (pyStr_tail hd) (noSurr_tail hdn) x hm

theorem spells_nil_left {P : Pos} {d : Str} (h : SpellsP P [] d) : d = [] := by
  have := (spellsB_iff P [] d).mpr h
  cases d with
  | nil => rfl
  | cons c d => simp [spellsB] at this

theorem spells_nil_right {P : Pos} {s : Str} (h : SpellsP P s []) : s = [] := by
  have := (spellsB_iff P s []).mpr h
  cases s with
  | nil => rfl
  | cons c d => simp [spellsB] at this

/-- inversion at a literal character -/
theorem spells_lit_inv {P : Pos} {c : Nat} {r d : Str} (h37 : c ≠ 37) (h : SpellsP P (c :: r) d) :
    ∃ c' d', d = c' :: d' ∧ P.litF c = some c' ∧ SpellsP P r d' := by
  have hb := (spellsB_iff P _ d).mpr h
  cases d with
  | nil => simp [spellsB] at hb
  | cons c' d' =>
    simp only [spellsB, h37, if_false, Bool.and_eq_true, beq_iff_eq] at hb
    exact ⟨c', d', rfl, hb.1, (spellsB_iff P _ _).mp hb.2⟩

/-- inversion at a '%' that starts no escape -/
theorem spells_pct_inv {P : Pos} {r d : Str} (hm : takeEscape restoreCh r = none) (h : SpellsP P (37 :: r) d) :
    ∃ d', d = 37 :: d' ∧ SpellsP P r d' := by
  have hb := (spellsB_iff P _ d).mpr h
  cases d with
  | nil => simp [spellsB] at hb
  | cons c' d' =>
    simp only [spellsB, if_true, hm, Bool.and_eq_true, beq_iff_eq] at hb
    exact ⟨d', by rw [hb.1], (spellsB_iff P _ _).mp hb.2⟩

/-- inversion at an escape `%XY`: it is the first byte of the UTF-8 encoding of the character it helps to spell, and
    that character may be escaped in this position -/
theorem spells_esc_inv {P : Pos} {d1 d2 v : Nat} {r d : Str} (hv : restoreCh d1 d2 = some v)
    (h : SpellsP P (37 :: d1 :: d2 :: r) d) :
    ∃ c' d' bs hs s', d = c' :: d' ∧ c' ≤ 0x10FFFF ∧ isSurrogate c' = false ∧ utf8 c' = v :: bs ∧
      P.escF c' = true ∧ HexOf hs bs ∧ r = escText hs ++ s' ∧ SpellsP P s' d' := by
  have hb := (spellsB_iff P _ d).mpr h
  cases d with
  | nil => simp [spellsB] at hb
  | cons c' d' =>
    simp only [spellsB, if_true, takeEscape_of hv, Bool.and_eq_true, decide_eq_true_eq, Bool.not_eq_true'] at hb
    obtain ⟨⟨⟨h1, h2⟩, h3⟩, h4⟩ := hb
    split at h4
    · rename_i s' hst
      obtain ⟨hs, k1, k2⟩ := stripEsc_some hst
      cases hs with
      | nil => exact absurd (hexOf_nil_left.mp k1) (List.ne_nil_of_length_pos (utf8_length_pos _ h1 h2))
      | cons p hs' =>
        obtain ⟨b, bs, eb, e1, e2⟩ := hexOf_cons.mp k1
        rw [escText_cons] at k2
        simp only [List.cons.injEq, true_and] at k2
        obtain ⟨rfl, rfl, rfl⟩ := k2
        rw [hv] at e1
        cases e1
        exact ⟨c', d', bs, hs', s', rfl, h1, h2, eb, h3, e2, rfl, (spellsB_iff P _ _).mp h4⟩
    · cases h4

/-- … for an ASCII escape: it spells exactly that character -/
theorem spells_esc_ascii_inv {P : Pos} {d1 d2 v : Nat} {r d : Str} (hv : restoreCh d1 d2 = some v) (hlt : v < 128)
    (h : SpellsP P (37 :: d1 :: d2 :: r) d) : ∃ d', d = v :: d' ∧ P.esc v = true ∧ SpellsP P r d' := by
  obtain ⟨c', d', bs, hs, s', rfl, h1, h2, h3, h4, h5, rfl, h7⟩ := spells_esc_inv hv h
  have hc : c' < 128 := by
    apply Classical.byContradiction
    intro hc
    obtain ⟨a, as, ea, ha, _⟩ := utf8_shape (by omega) h1 h2
    rw [ea] at h3
    simp only [List.cons.injEq] at h3
    omega
  rw [utf8_ascii hc] at h3
  simp only [List.cons.injEq] at h3
  obtain ⟨rfl, rfl⟩ := h3
  rw [hexOf_nil_right.mp h5]
  refine ⟨d', rfl, ?_, by simpa [escText] using h7⟩
  unfold Pos.escF at h4; rwa [if_pos hc] at h4

/-- the lead byte of a UTF-8 sequence is at most `0xF4` -/
theorem utf8_head_le {c : Nat} (hc : c ≤ 0x10FFFF) (hs : isSurrogate c = false) {a : Nat} {as : List Nat}
    (h : utf8 c = a :: as) : a ≤ 244 ∧ ¬ (128 ≤ a ∧ a < 192) := by
  obtain ⟨b0, r, e, hb, _⟩ := utf8_bytes c hc hs
  rw [h] at e
  obtain ⟨rfl, _⟩ := List.cons.inj e
  omega

/-- a text all of whose characters are literals that stand for themselves spells itself -/
theorem spells_literal {P : Pos} : ∀ (x : Str), (∀ c ∈ x, c ≠ 37 ∧ P.litF c = some c) → SpellsP P x x := by
  intro x
  induction x with
  | nil => intro _; exact .nil
  | cons c r ih =>
    intro h
    exact .lit (h c (by simp)).1 (h c (by simp)).2 (ih (fun y hy => h y (by simp [hy])))

/-! ## the standard forms, generically -/

section forms
open HumanFull HumanMore QueryUrl QueryGlue

/-- the CANONICAL (fully encoded) text spells the decoded text -/
theorem canonical_spells (r a : QArgs) (hr : r ∈ Gen.allQuoters) (ha : a ∈ Gen.allQuoters) (P : Pos)
    (k : ∀ b, TabPair (r.tab b) (a.tab b)) (hP : ∀ c, c < 128 → Describes r.tabC a.tabC P c) (hreq : r.requote = true)
    (kc : FixLemmas.CompatLt r.tabC a.tabC) (e : Env) (d : Str) (hd : PyStr d) (hdn : NoSurrogate d) :
    SpellsP P (q e a d) d := by
  have kc' : FixLemmas.CompatLt (r.tab e.b) (a.tab e.b) := by rw [tab_eq_c r hr, tab_eq_c a ha]; exact kc
  obtain ⟨hc, hfix⟩ := FixLemmas.partner_fixed e.b r a hr ha hreq kc' d hd
  have hwf := gen_tab_wf r hr e.b
  have v1 : PyStr (q e a d) := FixLemmas.canon_pyStr hwf hc
  have v2 : NoSurrogate (q e a d) := by
    intro x hx
    have := FixLemmas.canon_ascii hwf hc x hx
    simp only [isSurrogate, Bool.and_eq_false_iff, decide_eq_false_iff_not]; omega
  exact (q_eq_iff r a hr ha P k hP e _ d v1 v2 hd hdn).mp hfix

/-- the HUMAN form (`human_quote` output) spells the decoded text -/
theorem human_spells (r a : QArgs) (hr : r ∈ Gen.allQuoters) (ha : a ∈ Gen.allQuoters) (P : Pos)
    (k : ∀ b, TabPair (r.tab b) (a.tab b)) (hP : ∀ c, c < 128 → Describes r.tabC a.tabC P c) (hreq : r.requote = true)
    (hnr : a.requote = false) (uns : Str) (kh : ∀ b, HumanCompat (r.tab b) (a.tab b) uns)
    (e : Env) (d x : Str) (hd : PyStr d) (hdn : NoSurrogate d) (h : humanQuote e.o d uns = .ok x) :
    SpellsP P x d := by
  obtain ⟨v1, v2⟩ := humanQuote_pyStr e.o uns (kh e.b).ascii d x hd hdn h
  exact (q_eq_iff r a hr ha P k hP e x d v1 v2 hd hdn).mp (run_roundtrip r a hr ha hreq hnr uns kh e d x hd hdn h)

theorem compat_checks :
    FixLemmas.CompatLt Gen.PATH_REQUOTER.tabC Gen.PATH_QUOTER.tabC ∧
    FixLemmas.CompatLt Gen.FRAGMENT_REQUOTER.tabC Gen.FRAGMENT_QUOTER.tabC ∧
    FixLemmas.CompatLt Gen.REQUOTER.tabC Gen.QUOTER.tabC ∧
    FixLemmas.CompatLt Gen.QUERY_REQUOTER.tabC Gen.QUERY_PART_QUOTER.tabC :=
  have h := C04_partner_compat .c
  ⟨h.2.1, h.2.2.2.2, h.1, h.2.2.2.1⟩

/-- optional texts (user, password): present together, and then spelled -/
inductive SpellsOpt : Option Str → Option Str → Prop
  | none : SpellsOpt none none
  | some {r s : Str} : SpellsPlain r s → SpellsOpt (some r) (some s)

instance (x y : Option Str) : Decidable (SpellsOpt x y) :=
  match x, y with
  | .none, .none => isTrue .none
  | .some r, .some s => if h : SpellsPlain r s then isTrue (.some h) else isFalse (fun k => by cases k; exact h ‹_›)
  | .none, .some _ => isFalse (fun k => by cases k)
  | .some _, .none => isFalse (fun k => by cases k)

theorem allSpell_good {ps kvs : List (Str × Str)} (h : AllSpell ps kvs) (hg : GoodPairs kvs) : GoodPairs ps := by
  induction h with
  | nil => exact hg
  | @cons p kv ps' kvs' hp _ ih =>
    intro x hx
    rcases List.mem_cons.mp hx with rfl | hx
    · have g := hg kv (by simp)
      exact ⟨spells_valid hp.1 g.1.1 g.1.2, spells_valid hp.2 g.2.1 g.2.2⟩
    · exact ih (fun y hy => hg y (by simp [hy])) x hx

/-- a spelled key or value contains no '&', '=' or ';' at all -/
theorem spellsQV_no_seps {s d : Str} (h : SpellsQV s d) : 38 ∉ s ∧ 61 ∉ s ∧ 59 ∉ s := by
  induction h with
  | nil => simp
  | @lit c c' s d h37 hl _ ih =>
    have : c ≠ 38 ∧ c ≠ 61 ∧ c ≠ 59 := by
      refine ⟨?_, ?_, ?_⟩ <;> (rintro rfl; simp [Pos.litF, queryPos] at hl)
    simp only [List.mem_cons, not_or]
    exact ⟨⟨Ne.symm this.1, ih.1⟩, ⟨Ne.symm this.2.1, ih.2.1⟩, ⟨Ne.symm this.2.2, ih.2.2⟩⟩
  | pct _ _ ih =>
    simp only [List.mem_cons, not_or]
    exact ⟨⟨by decide, ih.1⟩, ⟨by decide, ih.2.1⟩, ⟨by decide, ih.2.2⟩⟩
  | @esc c hs s d _ _ _ hx _ ih =>
    have hc := hexOf_chars hx
    have key : ∀ x, (x = 38 ∨ x = 61 ∨ x = 59) → x ∉ escText hs := by
      intro x hx' hm
      rcases hc x hm with rfl | ⟨a, ha⟩
      · omega
      · rcases hx' with rfl | rfl | rfl <;> simp [fromHex] at ha
    simp only [List.mem_append, not_or]
    exact ⟨⟨key 38 (by simp), ih.1⟩, ⟨key 61 (by simp), ih.2.1⟩, ⟨key 59 (by simp), ih.2.2⟩⟩

/-- the written pairs are free of the glue characters -/
theorem allSpell_pieces {ps kvs : List (Str × Str)} (h : AllSpell ps kvs) :
    ∀ p ∈ ps, 61 ∉ p.1 ∧ 61 ∉ p.2 ∧ 38 ∉ rawPair p ∧ 59 ∉ rawPair p := by
  induction h with
  | nil =>
    intro p hp
    cases hp
  | @cons p kv ps' kvs' hp _ ih =>
    intro x hx
    rcases List.mem_cons.mp hx with rfl | hx
    · obtain ⟨a1, a2, a3⟩ := spellsQV_no_seps hp.1
      obtain ⟨b1, b2, b3⟩ := spellsQV_no_seps hp.2
      refine ⟨a2, b2, ?_, ?_⟩ <;> simp [rawPair, a1, b1, a3, b3]
    · exact ih x hx

/-- written pieces against decoded pairs, one by one -/
theorem allSpell_iff (b : Backend) (l : List Str) : ∀ (kvs : List (Str × Str)),
    (∀ a ∈ l, PyStr a ∧ NoSurrogate a) → GoodPairs kvs →
    (l.map (cOut (tq b)) = kvs.map (pairOut b) ↔ ∃ ps, l = ps.map rawPair ∧ AllSpell ps kvs) := by
  induction l with
  | nil =>
    intro kvs _ _
    cases kvs with
    | nil => exact ⟨fun _ => ⟨[], rfl, .nil⟩, fun _ => rfl⟩
    | cons kv kvs =>
      constructor
      · intro h
        cases h
      · rintro ⟨ps, h1, h2⟩
        cases h2
        cases h1
  | cons a l ih =>
    intro kvs hl hg
    cases kvs with
    | nil =>
      constructor
      · intro h
        cases h
      · rintro ⟨ps, h1, h2⟩
        cases h2
        cases h1
    | cons kv kvs =>
      obtain ⟨ha, hl'⟩ := List.forall_mem_cons.mp hl
      obtain ⟨hkv, hg'⟩ := List.forall_mem_cons.mp hg
      rw [List.map_cons, List.map_cons, List.cons.injEq, ih kvs hl' hg']
      constructor
      · rintro ⟨h1, ps, rfl, hps⟩
        obtain ⟨p, rfl, hp⟩ := piece_complete b a kv ha.1 ha.2 hkv h1
        exact ⟨p :: ps, rfl, .cons hp hps⟩
      · rintro ⟨ps, h1, h2⟩
        cases h2 with
        | cons hp hps =>
          cases h1
          exact ⟨piece_sound b _ _ hp, _, rfl, hps⟩

/-- the whole query at table level: the written query is its pieces between the literal '&', glued; the requoter
    works piece by piece, and so does the comparison with the glued pair texts -/
theorem query_iff (b : Backend) (rq : Str) (kvs : List (Str × Str)) (hs : PyStr rq) (hn : NoSurrogate rq)
    (hg : GoodPairs kvs) :
    cOut (tq b) rq = joinC 38 (kvs.map (pairOut b)) ↔ ∃ ps, rq = rawQuery ps ∧ AllSpell ps kvs := by
  by_cases hk : kvs = []
  · subst hk
    constructor
    · intro h
      exact ⟨[], cOut_eq_nil hs hn h, .nil⟩
    · rintro ⟨ps, h1, h2⟩
      cases h2
      rw [h1]
      simp [rawQuery, joinC, joinSep, cOut_nil]
  · have hne := PathLemmas.splitOn_ne_nil 38 rq
    have hgood : ∀ a ∈ splitOn 38 rq, PyStr a ∧ NoSurrogate a := fun a ha =>
      ⟨fun c hc => hs c (PathLemmas.splitOn_sub 38 rq a ha c hc), fun c hc => hn c (PathLemmas.splitOn_sub 38 rq a ha c hc)⟩
    have h1 : cOut (tq b) rq = joinC 38 ((splitOn 38 rq).map (cOut (tq b))) := by
      rw [← cOut_tq_joinC, PathLemmas.joinC_splitOn]
    have f1 : ∀ x ∈ (splitOn 38 rq).map (cOut (tq b)), 38 ∉ x := by
      intro x hx
      obtain ⟨y, hy, rfl⟩ := List.mem_map.mp hx
      exact tq_sep_not_mem b (Or.inl rfl) (PathLemmas.splitOn_no_sep 38 rq y hy)
    have f2 : ∀ x ∈ kvs.map (pairOut b), 38 ∉ x := by
      intro x hx
      obtain ⟨y, hy, rfl⟩ := List.mem_map.mp hx
      exact pairOut_no_38 b y (hg y hy)
    rw [h1, joinC_inj (by simpa using hne) (by simpa using hk) f1 f2, allSpell_iff b _ kvs hgood hg]
    constructor
    · rintro ⟨ps, h2, h3⟩
      exact ⟨ps, by rw [rawQuery, ← h2, PathLemmas.joinC_splitOn], h3⟩
    · rintro ⟨ps, rfl, h3⟩
      refine ⟨ps, ?_, h3⟩
      have hps : ps ≠ [] := by
        rintro rfl
        cases h3
        exact hk rfl
      exact PathLemmas.splitOn_joinC (c := 38) _ (by simpa using hps) fun x hx => by
        obtain ⟨p, hp, rfl⟩ := List.mem_map.mp hx
        exact (allSpell_pieces h3 p hp).2.2.1

theorem humanPairs_spell (e : Env) : ∀ (kvs : List (Str × Str)) (qparts : List Str), GoodPairs kvs →
    kvs.mapM (humanPair e.o) = .ok qparts → ∃ ps, qparts = ps.map rawPair ∧ AllSpell ps kvs := by
  intro kvs
  induction kvs with
  | nil =>
    intro qparts _ h
    exact ⟨[], by rw [mapM_nil_ok h]; rfl, .nil⟩
  | cons kv rest ih =>
    intro qparts hg h
    obtain ⟨r, rs, h1, h2, rfl⟩ := mapM_cons_ok h
    obtain ⟨rk, rv, q1, q2, rfl⟩ := humanPair_ok h1
    obtain ⟨ps, rfl, hps⟩ := ih rs (fun x hx => hg x (by simp [hx])) h2
    have g := hg kv (by simp)
    have s1 : SpellsQV rk kv.1 := human_spells _ _ (by decide) (by decide) queryPos query_pair query_litOK (by decide)
      (by decide) _ (fun b => (gen_compat b).2.2.2) e kv.1 rk g.1.1 g.1.2 q1
    have s2 : SpellsQV rv kv.2 := human_spells _ _ (by decide) (by decide) queryPos query_pair query_litOK (by decide)
      (by decide) _ (fun b => (gen_compat b).2.2.2) e kv.2 rv g.2.1 g.2.2 (gen_same_lists.2 ▸ q2)
    exact ⟨(rk, rv) :: ps, by simp [rawPair], .cons ⟨s1, s2⟩ hps⟩

end forms

end R12d

open R12d QueryGlue

/-! # (A) the generic theorem -/

/-- (A) For ANY requoting table `t` and non-requoting table `t'` satisfying the decidable conditions `R12d.TabPair`
    (both well-formed; the quoter `t'` does not write '+' literally when it writes a space as '+'; `t` does not decode
    `%2B` to a literal '+' in that case), and texts without lone surrogates: the requoter's output on the written text
    `s` EQUALS the quoter's output on the decoded text `d` if and only if `s` SPELLS `d` (`R12d.Spells t t'` =
    `R12d.SpellsP (R12d.posOf t t')`: literal characters, '%' not followed by two hex digits, and `%XY…` escapes of the
    UTF-8 bytes in either hex case, character by character).  The relation is decidable (`R12d.spellsB`). -/
theorem C18_spelling_generic {t t' : QTab} (k : TabPair t t') {s d : Str} (hs : PyStr s) (hn : NoSurrogate s)
    (hd : PyStr d) (hdn : NoSurrogate d) : cOut t s = cOut t' d ↔ Spells t t' s d :=
  cOut_eq_iff_spells k hs hn hd hdn

/-- the Bool checker decides the relation -/
theorem C18_spelling_checker (P : Pos) (s d : Str) : spellsB P s d = true ↔ SpellsP P s d := spellsB_iff P s d

/-! # (B) the positions of a URL, both backends -/

/-- PATH: `PATH_REQUOTER(s) == PATH_QUOTER(d)` iff `s` is `d` with any of its characters EXCEPT '/' and '+' written as
    `%XY…` (UTF-8, either hex case), a '%' of `d` written literally only where no two hex digits follow. -/
theorem C18_spelling_path (e : Env) (s d : Str) (hs : PyStr s) (hn : NoSurrogate s) (hd : PyStr d)
    (hdn : NoSurrogate d) : q e Gen.PATH_REQUOTER s = q e Gen.PATH_QUOTER d ↔ SpellsPath s d :=
  q_eq_iff _ _ (by decide) (by decide) pathPos path_pair path_litOK e s d hs hn hd hdn

/-- FRAGMENT: `FRAGMENT_REQUOTER(s) == FRAGMENT_QUOTER(d)` iff `s` is `d` with any characters escaped. -/
theorem C18_spelling_fragment (e : Env) (s d : Str) (hs : PyStr s) (hn : NoSurrogate s) (hd : PyStr d)
    (hdn : NoSurrogate d) : q e Gen.FRAGMENT_REQUOTER s = q e Gen.FRAGMENT_QUOTER d ↔ SpellsPlain s d :=
  q_eq_iff _ _ (by decide) (by decide) plainPos fragment_pair fragment_litOK e s d hs hn hd hdn

/-- USERINFO: `REQUOTER(s) == QUOTER(d)` iff `s` is `d` with any characters escaped. -/
theorem C18_spelling_userinfo (e : Env) (s d : Str) (hs : PyStr s) (hn : NoSurrogate s) (hd : PyStr d)
    (hdn : NoSurrogate d) : q e Gen.REQUOTER s = q e Gen.QUOTER d ↔ SpellsPlain s d :=
  q_eq_iff _ _ (by decide) (by decide) plainPos user_pair user_litOK e s d hs hn hd hdn

/-- QUERY KEY / VALUE: `QUERY_REQUOTER(s) == QUERY_PART_QUOTER(d)` iff `s` spells `d` in `R12d.queryPos`: a space of
    `d` written ' ' or '+' (NOT `%20`); '+', '=', '&', ';' of `d` written `%2B`, `%3D`, `%26`, `%3B` only; any other
    character literal or escaped. -/
theorem C18_spelling_query_value (e : Env) (s d : Str) (hs : PyStr s) (hn : NoSurrogate s) (hd : PyStr d)
    (hdn : NoSurrogate d) : q e Gen.QUERY_REQUOTER s = q e Gen.QUERY_PART_QUOTER d ↔ SpellsQV s d :=
  q_eq_iff _ _ (by decide) (by decide) queryPos query_pair query_litOK e s d hs hn hd hdn


/-- … WITHOUT the hypotheses on lone surrogates: both quoters DROP lone surrogates, so for arbitrary Python strings the
    equation holds iff the texts with the lone surrogates removed spell each other (all four positions) -/
theorem C18_spelling_lone_surrogates (e : Env) (s d : Str) (hs : PyStr s) (hd : PyStr d) :
    (q e Gen.PATH_REQUOTER s = q e Gen.PATH_QUOTER d ↔ SpellsPath (stripSurr s) (stripSurr d)) ∧
    (q e Gen.FRAGMENT_REQUOTER s = q e Gen.FRAGMENT_QUOTER d ↔ SpellsPlain (stripSurr s) (stripSurr d)) ∧
    (q e Gen.REQUOTER s = q e Gen.QUOTER d ↔ SpellsPlain (stripSurr s) (stripSurr d)) ∧
    (q e Gen.QUERY_REQUOTER s = q e Gen.QUERY_PART_QUOTER d ↔ SpellsQV (stripSurr s) (stripSurr d)) := by
  have a1 := QuoteEquiv.pyStr_stripSurr hs
  have a2 := QuoteEquiv.noSurr_stripSurr s
  have b1 := QuoteEquiv.pyStr_stripSurr hd
  have b2 := QuoteEquiv.noSurr_stripSurr d
  refine ⟨?_, ?_, ?_, ?_⟩
  · rw [q_strip e _ (by decide) s hs, q_strip e _ (by decide) d hd]
    exact C18_spelling_path e _ _ a1 a2 b1 b2
  · rw [q_strip e _ (by decide) s hs, q_strip e _ (by decide) d hd]
    exact C18_spelling_fragment e _ _ a1 a2 b1 b2
  · rw [q_strip e _ (by decide) s hs, q_strip e _ (by decide) d hd]
    exact C18_spelling_userinfo e _ _ a1 a2 b1 b2
  · rw [q_strip e _ (by decide) s hs, q_strip e _ (by decide) d hd]
    exact C18_spelling_query_value e _ _ a1 a2 b1 b2

/-- the decoded text is DETERMINED by the written text, and computed by the library's own unquoters: a written text
    spells at most one decoded text — `UNQUOTER(requoter(s))`, for a query key / value `unquote_plus` of it.
    (So `requote(s) == quote(d)` iff `d` is that text AND `s` spells it — the second, `spellsB … s (UNQUOTER(…))`, is a
    Bool-computable admissibility predicate on `s` alone.) -/
theorem C18_spelling_decoded (e : Env) (s d : Str) (hd : PyStr d) (hdn : NoSurrogate d) :
    (SpellsPath s d → d = uq e Gen.UNQUOTER (q e Gen.PATH_REQUOTER s)) ∧
    (SpellsPlain s d → d = uq e Gen.UNQUOTER (q e Gen.FRAGMENT_REQUOTER s) ∧
      d = uq e Gen.UNQUOTER (q e Gen.REQUOTER s)) ∧
    (SpellsQV s d → d = stdUnquote (plusToSpace (q e Gen.QUERY_REQUOTER s))) := by
  refine ⟨fun h => ?_, fun h => ⟨?_, ?_⟩, fun h => ?_⟩
  · obtain ⟨a1, a2⟩ := spells_valid h hd hdn
    rw [(C18_spelling_path e s d a1 a2 hd hdn).mpr h]
    exact (C06_readback_name e.b d hd hdn).symm
  · obtain ⟨a1, a2⟩ := spells_valid h hd hdn
    rw [(C18_spelling_fragment e s d a1 a2 hd hdn).mpr h]
    exact (C06_readback_fragment e.b d hd hdn).symm
  · obtain ⟨a1, a2⟩ := spells_valid h hd hdn
    rw [(C18_spelling_userinfo e s d a1 a2 hd hdn).mpr h]
    exact (C06_readback_user e.b d hd hdn).symm
  · obtain ⟨a1, a2⟩ := spells_valid h hd hdn
    rw [(C18_spelling_query_value e s d a1 a2 hd hdn).mpr h]
    exact (C12_part_readback e.b d hd hdn).symm

/-- … the ADMISSIBILITY form of the characterisation, for the path: `PATH_REQUOTER(s) == PATH_QUOTER(d)` iff `d` is
    `UNQUOTER(PATH_REQUOTER(s))` and `s` is admissible — a Bool-computable predicate on `s` alone -/
theorem C18_spelling_path_admissible (e : Env) (s d : Str) (hs : PyStr s) (hn : NoSurrogate s) (hd : PyStr d)
    (hdn : NoSurrogate d) :
    q e Gen.PATH_REQUOTER s = q e Gen.PATH_QUOTER d ↔
      d = uq e Gen.UNQUOTER (q e Gen.PATH_REQUOTER s) ∧
        spellsB pathPos s (uq e Gen.UNQUOTER (q e Gen.PATH_REQUOTER s)) = true := by
  rw [C18_spelling_path e s d hs hn hd hdn]
  constructor
  · intro h
    have hdd := (C18_spelling_decoded e s d hd hdn).1 h
    exact ⟨hdd, by rw [← hdd]; exact (spellsB_iff _ _ _).mpr h⟩
  · rintro ⟨h1, h2⟩
    rw [h1]; exact (spellsB_iff _ _ _).mp h2

open HumanFull HumanMore QueryUrl R5 in
/-- THE WHOLE QUERY: `QUERY_REQUOTER(rq)` (what the constructor stores for the written query `rq`) equals the `k=v&…`
    text that `build` makes of the decoded pairs `kvs` iff `rq = rk1=rv1&rk2=rv2&…` (`rawQuery ps`: the written pairs
    joined by '&', key and value joined by '=') with the SAME NUMBER of pairs, each written key / value spelling the
    decoded key / value in the query position (`R12d.AllSpell`).  Corners: `kvs = []` iff `rq = ""`; a pair with empty
    key and value is written `=`; a piece without '=' (`?a`), an empty piece (`a=1&&b=2`, a trailing '&'), a second
    literal '=' in a piece, a literal ';' or `%20` are spellings of NO list of pairs.  (`C18_spelling_query_pieces`: the
    written pairs are the pieces of `rq` between the literal '&', each cut at its only literal '='.) -/
theorem C18_spelling_query (e : Env) (rq : Str) (kvs : List (Str × Str)) (hs : PyStr rq) (hn : NoSurrogate rq)
    (hg : GoodPairs kvs) :
    FixLemmas.encQuery e rq = qtext e.b kvs ↔ ∃ ps, rq = rawQuery ps ∧ AllSpell ps kvs := by
  have h1 : FixLemmas.encQuery e rq = cOut (tq e.b) rq := by
    unfold FixLemmas.encQuery
    split
    · rename_i h
      have : rq = [] := by cases rq with | nil => rfl | cons _ _ => cases h
      rw [this, cOut_nil]
    · show Gen.QUERY_REQUOTER.run e.b rq = _
      rw [QsLemmas.run_eq_cOut _ (by decide) e.b rq hs, QsLemmas.stripSurr_id rq hn]
  have h2 : qtext e.b kvs = joinC 38 (kvs.map (pairOut e.b)) := by
    unfold qtext
    congr 1
    exact List.map_congr_left (fun p hp => pairText_eq_pairOut e.b p (hg p hp))
  rw [h1, h2]
  exact query_iff e.b rq kvs hs hn hg

open HumanFull HumanMore QueryUrl in
/-- … and the written pairs are DETERMINED by `rq`: they are its pieces between the literal '&', and each piece contains
    exactly one '=' (none in the written key, none in the written value), no ';' -/
theorem C18_spelling_query_pieces {ps kvs : List (Str × Str)} (h : AllSpell ps kvs) (hne : kvs ≠ []) :
    splitOn 38 (rawQuery ps) = ps.map rawPair ∧
    ∀ p ∈ ps, 61 ∉ p.1 ∧ 61 ∉ p.2 ∧ 38 ∉ rawPair p ∧ 59 ∉ rawPair p := by
  have key := allSpell_pieces h
  refine ⟨?_, key⟩
  have hps : ps ≠ [] := by
    rintro rfl
    cases h
    exact hne rfl
  unfold rawQuery
  apply PathLemmas.splitOn_joinC
  · simpa using hps
  · intro x hx
    obtain ⟨p, hp, rfl⟩ := List.mem_map.mp hx
    exact (key p hp).2.2.1

/-! # (C) the standard forms are spellings; the constructor theorem with syntactic hypotheses -/

/-- the CANONICAL (fully encoded) texts spell the decoded texts, in every position -/
theorem C18_spelling_canonical (e : Env) (d : Str) (hd : PyStr d) (hdn : NoSurrogate d) :
    SpellsPath (q e Gen.PATH_QUOTER d) d ∧ SpellsPlain (q e Gen.FRAGMENT_QUOTER d) d ∧
    SpellsPlain (q e Gen.QUOTER d) d ∧ SpellsQV (q e Gen.QUERY_PART_QUOTER d) d :=
  ⟨canonical_spells _ _ (by decide) (by decide) pathPos path_pair path_litOK (by decide) compat_checks.1 e d hd hdn,
   canonical_spells _ _ (by decide) (by decide) plainPos fragment_pair fragment_litOK (by decide) compat_checks.2.1 e d hd hdn,
   canonical_spells _ _ (by decide) (by decide) plainPos user_pair user_litOK (by decide) compat_checks.2.2.1 e d hd hdn,
   canonical_spells _ _ (by decide) (by decide) queryPos query_pair query_litOK (by decide) compat_checks.2.2.2 e d hd hdn⟩

open HumanLemmas in
/-- the HUMAN form (what `human_repr()` shows: the output of `human_quote` with the position's `unsafe` list) spells the
    decoded text, in every position -/
theorem C18_spelling_human (e : Env) (d x : Str) (hd : PyStr d) (hdn : NoSurrogate d) :
    (humanQuote e.o d (humanUnsafeOf "path") = .ok x → SpellsPath x d) ∧
    (humanQuote e.o d (humanUnsafeOf "fragment") = .ok x → SpellsPlain x d) ∧
    (humanQuote e.o d (humanUnsafeOf "user") = .ok x → SpellsPlain x d) ∧
    (humanQuote e.o d (humanUnsafeOf "password") = .ok x → SpellsPlain x d) ∧
    (humanQuote e.o d (humanUnsafeOf "k") = .ok x → SpellsQV x d) ∧
    (humanQuote e.o d (humanUnsafeOf "v") = .ok x → SpellsQV x d) := by
  have hu := human_spells _ _ (by decide) (by decide) plainPos user_pair user_litOK (by decide) (by decide) _
      (fun b => (gen_compat b).1) e d x hd hdn
  have hk := human_spells _ _ (by decide) (by decide) queryPos query_pair query_litOK (by decide) (by decide) _
      (fun b => (gen_compat b).2.2.2) e d x hd hdn
  refine ⟨human_spells _ _ (by decide) (by decide) pathPos path_pair path_litOK (by decide) (by decide) _
      (fun b => (gen_compat b).2.1) e d x hd hdn,
    human_spells _ _ (by decide) (by decide) plainPos fragment_pair fragment_litOK (by decide) (by decide) _
      (fun b => (gen_compat b).2.2.1) e d x hd hdn, hu, ?_, hk, ?_⟩
  · rw [gen_same_lists.1]; exact hu
  · rw [gen_same_lists.2]; exact hk

open R5 in
/-- the READABLE form (`R5.Readable`: every character printable, not '%', not reserved in the position) spells itself -/
theorem C18_spelling_readable (e : Env) (d : Str) (hd : PyStr d) (hdn : NoSurrogate d) :
    (Readable e.o (humanUnsafeOf "path") d → SpellsPath d d) ∧
    (Readable e.o (humanUnsafeOf "fragment") d → SpellsPlain d d) ∧
    (Readable e.o (humanUnsafeOf "user") d → SpellsPlain d d) ∧
    (Readable e.o (humanUnsafeOf "password") d → SpellsPlain d d) ∧
    (Readable e.o (humanUnsafeOf "k") d → SpellsQV d d) ∧
    (Readable e.o (humanUnsafeOf "v") d → SpellsQV d d) := by
  obtain ⟨h1, h2, h3, h4, h5, h6⟩ := C18_spelling_human e d d hd hdn
  exact ⟨fun r => h1 (humanQuote_readable r), fun r => h2 (humanQuote_readable r), fun r => h3 (humanQuote_readable r),
    fun r => h4 (humanQuote_readable r), fun r => h5 (humanQuote_readable r), fun r => h6 (humanQuote_readable r)⟩

/-- … in fact ANY text without '%' spells itself in the path, fragment and userinfo positions (printable or not), and
    any text without '%', '+', '=', '&', ';' spells itself as a query key / value -/
theorem C18_spelling_literal (d : Str) :
    (37 ∉ d → SpellsPath d d ∧ SpellsPlain d d) ∧
    ((∀ c ∈ d, c ≠ 37 ∧ c ≠ 43 ∧ c ≠ 61 ∧ c ≠ 38 ∧ c ≠ 59) → SpellsQV d d) := by
  refine ⟨fun h => ⟨spells_literal d ?_, spells_literal d ?_⟩, fun h => spells_literal d ?_⟩
  · intro c hc
    refine ⟨fun e => h (e ▸ hc), ?_⟩
    unfold Pos.litF; split <;> rfl
  · intro c hc
    refine ⟨fun e => h (e ▸ hc), ?_⟩
    unfold Pos.litF; split <;> rfl
  · intro c hc
    obtain ⟨a1, a2, a3, a4, a5⟩ := h c hc
    refine ⟨a1, ?_⟩
    unfold Pos.litF
    split
    · by_cases h32 : c = 32
      · subst h32; rfl
      · simp [queryPos, h32, a2, a3, a4, a5]
    · rfl

open HumanFull HumanMore QueryUrl HumanLemmas in
/-- the pieces of a URL string in HUMAN FORM (`HumanPieces`, the hypothesis of `C18_constructor_human_text`) satisfy the
    syntactic spelling hypotheses of `C18_constructor_any_spelling_syntactic` -/
theorem C18_human_pieces_spell (e : Env) (user pw : Option Str) (p : Str) (kvs : List (Str × Str)) (f : Str)
    (usr pw' : Option Str) (rp : Str) (qparts : List Str) (rf : Str)
    (hu : UText user) (hw : UText pw) (hp : PyStr (47 :: p)) (hn : NoSurrogate (47 :: p))
    (hg : GoodPairs kvs) (hf : PyStr f) (hfn : NoSurrogate f)
    (hq : HumanPieces e user pw (47 :: p) kvs f usr pw' (47 :: rp) qparts rf) :
    SpellsOpt usr user ∧ SpellsOpt pw' pw ∧ SpellsPath rp p ∧
      (∃ ps, qparts = ps.map rawPair ∧ AllSpell ps kvs) ∧ SpellsPlain rf f := by
  have opt : ∀ (x y : Option Str) (L : String), UText x →
      (∀ d r, PyStr d → NoSurrogate d → humanQuote e.o d (humanUnsafeOf L) = .ok r → SpellsPlain r d) →
      humanQuoteOpt e.o x (humanUnsafeOf L) = .ok y → SpellsOpt y x := by
    intro x y L hx hk h
    rcases humanQuoteOpt_ok h with ⟨rfl, rfl⟩ | ⟨s, r, rfl, rfl, hq⟩
    · exact .none
    · exact .some (hk s r (hx s rfl).1 (hx s rfl).2 hq)
  refine ⟨opt user usr "user" hu (fun d r a b => (C18_spelling_human e d r a b).2.2.1) hq.q1,
    opt pw pw' "password" hw (fun d r a b => (C18_spelling_human e d r a b).2.2.2.1) hq.q2, ?_,
    humanPairs_spell e kvs qparts hg hq.q4, (C18_spelling_human e f rf hf hfn).2.1 hq.q5⟩
  have := (C18_spelling_human e (47 :: p) (47 :: rp) hp hn).1 hq.q3
  obtain ⟨c', d', e1, _, e3⟩ := spells_lit_inv (by decide) this
  cases e1
  exact e3

open HumanFull HumanMore QueryUrl HumanLemmas HumanReach R5 in
/-- an optional text that spells the decoded one and has none of the excluded literal characters satisfies the
    userinfo hypothesis of `C18_constructor_any_spelling` -/
theorem R12d.spellOpt_of_spells (e : Env) {x y : Option Str} (hx : UText x) (hpart : HumanPart y)
    (hs : SpellsOpt y x) : SpellOpt e x y := by
  refine ⟨hpart, by cases hs <;> simp, ?_⟩
  cases hs with
  | none => rfl
  | @some r s hrs =>
    obtain ⟨a1, a2⟩ := hx s rfl
    obtain ⟨b1, b2⟩ := spells_valid hrs a1 a2
    rw [requoteOpt_some, Option.map_some, (C18_spelling_userinfo e r s b1 b2 a1 a2).mpr hrs]

open HumanFull HumanMore QueryUrl HumanLemmas HumanReach R5 in
/-- the userinfo hypothesis `R5.SpellOpt` of `C18_constructor_any_spelling` (its third field is the equation
    `(REQUOTER(y) if y else y) == QUOTER(x)`) IS the syntactic relation plus the exclusion of the literal characters -/
theorem C18_spellOpt_iff (e : Env) (x y : Option Str) (hx : UText x) (hy : UText y) :
    SpellOpt e x y ↔ HumanPart y ∧ SpellsOpt y x := by
  refine ⟨fun h => ⟨h.part, ?_⟩, fun h => spellOpt_of_spells e hx h.1 h.2⟩
  cases y with
  | none => rw [h.shape.mp rfl]; exact .none
  | some r =>
    cases x with
    | none => exact absurd (h.shape.mpr rfl) (by simp)
    | some s =>
      obtain ⟨a1, a2⟩ := hx s rfl
      obtain ⟨b1, b2⟩ := hy r rfl
      have hq := h.req
      rw [requoteOpt_some, Option.map_some, Option.some.injEq] at hq
      exact .some ((C18_spelling_userinfo e r s b1 b2 a1 a2).mp hq)

open HumanFull HumanMore QueryUrl HumanLemmas HumanReach R5 in
/-- (C) `C18_constructor_any_spelling` WITH SYNTACTIC HYPOTHESES: the spelling conditions — equations between quoter
    outputs there — are the relations `SpellsOpt` (user, password: userinfo position), `SpellsPath`, `AllSpell` (the
    written pairs `ps`; the written query is `rawQuery ps = rk1=rv1&rk2=rv2…`) and `SpellsPlain` (fragment) here.  The
    side condition "a written user is not empty" (`hne1`) FOLLOWS and is dropped; the validity of the written texts (no
    lone surrogates) follows too.  The exclusions of literal characters — TAB LF CR `# / : ? @ [ ]` in the userinfo
    (`HumanPart`), '?', '#', TAB, LF, CR in the path, '#', TAB, LF, CR in the query, TAB, LF, CR in the fragment — do
    NOT follow from the spelling relations (a literal '?' spells '?' for the path quoter: `C18_spelling_examples`) —
    they are about how `URL(…)` SPLITS the string — and stay. -/
theorem C18_constructor_any_spelling_syntactic (e : Env) (sc : Str) (user pw : Option Str) (h H D : Str)
    (port : Option Nat) (p : Str) (kvs : List (Str × Str)) (f : Str) (usr pw' : Option Str) (rp : Str)
    (ps : List (Str × Str)) (rf : Str)
    (vs : ValidScheme sc) (hk : HostKind e h H D) (hport : ∀ x, port = some x → x ≤ 65535)
    (hu : UText user) (hw : UText pw) (hune : ∀ s, user = some s → s ≠ [])
    (hp : PyStr (47 :: p)) (hn : NoSurrogate (47 :: p)) (hnorm : normalizePath (47 :: p) = 47 :: p)
    (hg : GoodPairs kvs) (hf : PyStr f) (hfn : NoSurrogate f)
    -- the INPUT pieces spell the decoded components: SYNTACTIC conditions
    (su : SpellsOpt usr user) (hpu : HumanPart usr) (sw : SpellsOpt pw' pw) (hpw : HumanPart pw')
    (spath : SpellsPath rp p) (hrp : ∀ c ∈ rp, c ≠ 63 ∧ c ≠ 35) (hc1 : Clean rp)
    (squery : AllSpell ps kvs) (hq35 : ∀ c ∈ rawQuery ps, c ≠ 35) (hcq : Clean (rawQuery ps))
    (sfrag : SpellsPlain rf f) (hc2 : Clean rf)
    (hnf : isAscii (authText usr pw' D port) = false → checkNetloc e.o (authText usr pw' D port) = .ok ()) :
    ∃ u, encodeUrl e (composeUrl sc (authText usr pw' D port) (47 :: rp) (rawQuery ps) rf) = .ok u ∧ u.scheme = sc ∧
      StoresOK e u user pw H port p kvs f ∧
      ∀ hr, humanRepr e u = .ok hr →
        (isAscii (Rfc.appendixB Gen.schemeChars hr).authority = false →
          checkNetloc e.o (Rfc.appendixB Gen.schemeChars hr).authority = .ok ()) →
        ∃ v, encodeUrl e hr = .ok v ∧ Url.beq v u = true := by
  have hne1 : ∀ r, usr = some r → r ≠ [] := by
    intro r hr hnil
    subst hr
    cases su with
    | @some r s hrs =>
      subst hnil
      exact hune s rfl (spells_nil_left hrs)
  have hpath : q e Gen.PATH_REQUOTER (47 :: rp) = q e Gen.PATH_QUOTER (47 :: p) := by
    have sp : SpellsPath (47 :: rp) (47 :: p) := .lit (by decide) (by rfl) spath
    obtain ⟨b1, b2⟩ := spells_valid sp hp hn
    exact (C18_spelling_path e _ _ b1 b2 hp hn).mpr sp
  have hquery : FixLemmas.encQuery e (rawQuery ps) = qtext e.b kvs := by
    obtain ⟨b1, b2⟩ := rawQuery_good ps (allSpell_good squery hg)
    exact (C18_spelling_query e _ kvs b1 b2 hg).mpr ⟨ps, rfl, squery⟩
  have hfrag : FixLemmas.encFragment e rf = fragText e f := by
    obtain ⟨b1, b2⟩ := spells_valid sfrag hf hfn
    have := (C18_spelling_fragment e rf f b1 b2 hf hfn).mpr sfrag
    unfold FixLemmas.encFragment fragText
    by_cases hr : rf = []
    · subst hr
      have hfe : f = [] := spells_nil_left sfrag
      subst hfe
      rfl
    · have hfne : f ≠ [] := fun hfe => hr (by subst hfe; exact spells_nil_right sfrag)
      rw [if_neg (by cases rf with | nil => exact absurd rfl hr | cons _ _ => simp),
        if_neg (by cases f with | nil => exact absurd rfl hfne | cons _ _ => simp)]
      exact this
  exact C18_constructor_any_spelling e sc user pw h H D port p kvs f usr pw' rp (rawQuery ps) rf vs hk hport hu hw hune
    hp hn hnorm hg hf hfn (spellOpt_of_spells e hu hpu su) (spellOpt_of_spells e hw hpw sw) hne1 hpath hrp hc1 hquery hq35 hcq hfrag hc2 hnf


/-! # (D) examples (Python-level inputs), negative results, non-vacuity -/

/-- instances decided by the checker: a mixed spelling; lower- and mixed-case hex; `%2F` does NOT spell "/" in a path
    (the literal does); "%zz" spells "%zz" (and so does "%25zz"); "%41" spells "A", not "%41" ("%2541" does); a literal
    '?' spells '?' for the path QUOTER (it is the URL splitter that excludes it); in a query value a space is written
    ' ' or '+', NOT `%20`; '+' and '=' are written `%2B`, `%3D` only; `%FF` alone is no UTF-8. -/
theorem C18_spelling_examples :
    SpellsPath "é%20x".toStr "é x".toStr ∧
    SpellsPath "%c3%a9".toStr "é".toStr ∧ SpellsPath "%C3%a9".toStr "é".toStr ∧
    ¬ SpellsPath "%2F".toStr "/".toStr ∧ SpellsPath "/".toStr "/".toStr ∧ ¬ SpellsPath "a%2Fb".toStr "a/b".toStr ∧
    SpellsPath "%zz".toStr "%zz".toStr ∧ SpellsPath "%25zz".toStr "%zz".toStr ∧
    SpellsPath "%41".toStr "A".toStr ∧ ¬ SpellsPath "%41".toStr "%41".toStr ∧ SpellsPath "%2541".toStr "%41".toStr ∧
    SpellsPath "?".toStr "?".toStr ∧ SpellsPath "#".toStr "#".toStr ∧ SpellsPlain "a:b@c/[]".toStr "a:b@c/[]".toStr ∧
    SpellsQV "#".toStr "#".toStr ∧
    SpellsQV "v+w".toStr "v w".toStr ∧ SpellsQV "v w".toStr "v w".toStr ∧ ¬ SpellsQV "v%20w".toStr "v w".toStr ∧
    SpellsQV "a%2Bb".toStr "a+b".toStr ∧ ¬ SpellsQV "a+b".toStr "a+b".toStr ∧
    SpellsQV "a%3Db".toStr "a=b".toStr ∧ ¬ SpellsQV "a=b".toStr "a=b".toStr ∧
    SpellsPlain "%e2%82%AC%2f".toStr "€/".toStr ∧ ¬ SpellsPlain "%FF".toStr [0xFF] ∧ ¬ SpellsPlain "%C3".toStr "é".toStr ∧
    SpellsOpt (some "us%20er".toStr) (some "us er".toStr) ∧ ¬ SpellsOpt none (some []) := by
  decide +kernel

/-- `URL("http://example.com/a%2Fb")`: the written path "a%2Fb" spells NO decoded text — the requoter keeps `%2F`, the
    quoter never writes it.  Both backends, every decoded text. -/
theorem C18_spelling_escaped_slash_spells_nothing (e : Env) (d : Str) (hd : PyStr d) (hdn : NoSurrogate d) :
    q e Gen.PATH_REQUOTER "a%2Fb".toStr ≠ q e Gen.PATH_QUOTER d := by
  intro h
  have hs := (C18_spelling_path e _ d (by decide) (by decide) hd hdn).mp h
  obtain ⟨c', d', _, _, h2⟩ := spells_lit_inv (c := 97) (by decide) hs
  obtain ⟨_, _, h3, _⟩ := spells_esc_ascii_inv (d1 := 50) (d2 := 70) (v := 47) (by decide) (by decide) h2
  exact absurd h3 (by decide)

/-- … in general: an escape of a character that may not be escaped in the position (`%2F`, `%2B` in a path; `%20` in a
    query key / value) spells nothing, wherever it stands after literal text without '%' -/
theorem C18_spelling_bad_escape_spells_nothing (P : Pos) (a r : Str) (d1 d2 v : Nat) (ha : 37 ∉ a)
    (hv : restoreCh d1 d2 = some v) (hlt : v < 128) (hbad : P.esc v = false) (d : Str) :
    ¬ SpellsP P (a ++ 37 :: d1 :: d2 :: r) d := by
  induction a generalizing d with
  | nil =>
    intro h
    obtain ⟨_, _, h3, _⟩ := spells_esc_ascii_inv hv hlt h
    rw [hbad] at h3; cases h3
  | cons c a ih =>
    intro h
    obtain ⟨c', d', _, _, h2⟩ := spells_lit_inv (fun e => ha (by simp [e])) h
    exact ih (fun hm => ha (by simp [hm])) d' h2

/-- `%FF` (not UTF-8) spells nothing, in any position; hence `URL("http://example.com/%FF")` stores no encoding of a
    decoded path -/
theorem C18_spelling_non_utf8_spells_nothing (P : Pos) (r d : Str) : ¬ SpellsP P (37 :: 70 :: 70 :: r) d := by
  intro h
  obtain ⟨c', d', bs, hs, s', _, h1, h2, h3, _⟩ := spells_esc_inv (v := 255) (by decide) h
  have := (utf8_head_le h1 h2 h3).1
  omega

/-- … the same for every stray CONTINUATION byte `%80`–`%BF` and every byte above `0xF4` at the start of a run -/
theorem C18_spelling_bad_lead_spells_nothing (P : Pos) (d1 d2 v : Nat) (r d : Str) (hv : restoreCh d1 d2 = some v)
    (hbad : (128 ≤ v ∧ v < 192) ∨ 244 < v) : ¬ SpellsP P (37 :: d1 :: d2 :: r) d := by
  intro h
  obtain ⟨c', d', bs, hs, s', _, h1, h2, h3, _⟩ := spells_esc_inv hv h
  have := utf8_head_le h1 h2 h3
  omega

open HumanFull HumanMore QueryUrl TokLemmas QueryGlue in
/-- `URL("http://example.com/?k=v%20w")`: the written query `k=v%20w` spells NO list of decoded pairs (`%20` stays
    `%20`, `build` writes '+') — the query hypothesis of the constructor theorem fails for every `kvs` -/
theorem C18_spelling_query_pct20_spells_nothing (e : Env) (kvs : List (Str × Str)) (hg : GoodPairs kvs) :
    FixLemmas.encQuery e "k=v%20w".toStr ≠ qtext e.b kvs := by
  intro h
  obtain ⟨ps, hrq, hall⟩ := (C18_spelling_query e _ kvs (by decide) (by decide) hg).mp h
  cases hall with
  | nil => exact absurd hrq (by decide)
  | @cons p kv ps' kvs' hp hps =>
    obtain ⟨a1, a2, _⟩ := spellsQV_no_seps hp.1
    obtain ⟨b1, b2, _⟩ := spellsQV_no_seps hp.2
    rw [rawQuery, List.map_cons, PathLemmas.joinC_cons] at hrq
    have e1 : ("k=v%20w".toStr : Str) = [107] ++ 61 :: "v%20w".toStr := by decide
    rw [e1] at hrq
    have er : rawPair p = p.1 ++ 61 :: p.2 := by simp [rawPair]
    rw [er, List.append_assoc, List.cons_append] at hrq
    have u1 := first_sep_unique (d := 61) (a1 := [107]) (by decide) a2 (Or.inr ⟨_, rfl⟩) (Or.inr ⟨_, rfl⟩) hrq
    have u2 : "v%20w".toStr = p.2 ++ HostLemmas.flatC 38 (List.map rawPair ps') := by simpa using u1.2
    have u3 := first_sep_unique (d := 38) (a1 := "v%20w".toStr) (b1 := []) (by decide) b1 (Or.inl rfl)
      (flatC_shape _) (by simpa using u2)
    have hv := hp.2
    rw [← u3.1] at hv
    exact C18_spelling_bad_escape_spells_nothing queryPos [118] [119] 50 48 32 (by decide) (by decide) (by decide)
      (by decide) _ hv

/-! ## non-vacuity -/

/-- the four position theorems on concrete Python-level texts, both backends -/
theorem C18_spelling_nonvacuous : ∀ b : Backend,
    let e : Env := ⟨b, HumanMore.demo⟩
    q e Gen.PATH_REQUOTER "é%20x".toStr = q e Gen.PATH_QUOTER "é x".toStr ∧
    q e Gen.PATH_REQUOTER "%c3%a9".toStr = q e Gen.PATH_QUOTER "é".toStr ∧
    q e Gen.FRAGMENT_REQUOTER "é%20f".toStr = q e Gen.FRAGMENT_QUOTER "é f".toStr ∧
    q e Gen.REQUOTER "us%20er".toStr = q e Gen.QUOTER "us er".toStr ∧
    q e Gen.QUERY_REQUOTER "v+%3d%C3%A9".toStr = q e Gen.QUERY_PART_QUOTER "v =é".toStr ∧
    FixLemmas.encQuery e "k=v+w&a=%3D&=".toStr =
      QueryUrl.qtext b [("k".toStr, "v w".toStr), ("a".toStr, "=".toStr), ([], [])] ∧
    FixLemmas.encQuery e [] = QueryUrl.qtext b [] := by
  intro b e
  refine ⟨(C18_spelling_path e _ _ (by decide) (by decide) (by decide) (by decide)).mpr (by decide +kernel),
    (C18_spelling_path e _ _ (by decide) (by decide) (by decide) (by decide)).mpr (by decide +kernel),
    (C18_spelling_fragment e _ _ (by decide) (by decide) (by decide) (by decide)).mpr (by decide +kernel),
    (C18_spelling_userinfo e _ _ (by decide) (by decide) (by decide) (by decide)).mpr (by decide +kernel),
    (C18_spelling_query_value e _ _ (by decide) (by decide) (by decide) (by decide)).mpr (by decide +kernel),
    (C18_spelling_query e _ _ (by decide) (by decide) (by decide)).mpr
      ⟨[("k".toStr, "v+w".toStr), ("a".toStr, "%3D".toStr), ([], [])], by decide,
        .cons ⟨by decide +kernel, by decide +kernel⟩ (.cons ⟨by decide +kernel, by decide +kernel⟩
          (.cons ⟨by decide +kernel, by decide +kernel⟩ .nil))⟩,
    (C18_spelling_query e _ _ (by decide) (by decide) (by decide)).mpr ⟨[], rfl, .nil⟩⟩

open HumanFull HumanMore QueryUrl HumanLemmas HumanReach R5 in
/-- NON-VACUITY of `C18_constructor_any_spelling_syntactic` on the MIXED spelling
    `http://us%20er@example.com/é%20x?k=v w#é%20f` (neither human form nor canonical), both backends, oracle
    `HumanMore.demo`: every spelling hypothesis is DECIDED by the checker -/
theorem C18_constructor_any_spelling_syntactic_example : ∀ b : Backend,
    let e : Env := ⟨b, demo⟩
    ∃ u, encodeUrl e "http://us%20er@example.com/é%20x?k=v w#é%20f".toStr = .ok u ∧
      StoresOK e u (some "us er".toStr) none "example.com".toStr none "é x".toStr [("k".toStr, "v w".toStr)] "é f".toStr := by
  intro b e
  have hs : "http://us%20er@example.com/é%20x?k=v w#é%20f".toStr =
      composeUrl "http".toStr (authText (some "us%20er".toStr) none "example.com".toStr none) (47 :: "é%20x".toStr)
        (rawQuery [("k".toStr, "v w".toStr)]) "é%20f".toStr := by
    str_lits
    decide +kernel
  have c1 : Clean "é%20x".toStr := by unfold Clean; decide
  have c2 : Clean (rawQuery [("k".toStr, "v w".toStr)]) := by unfold Clean; decide
  have c3 : Clean "é%20f".toStr := by unfold Clean; decide
  obtain ⟨u, hu, _, hok, _⟩ := C18_constructor_any_spelling_syntactic e "http".toStr (some "us er".toStr) none
    "example.com".toStr "example.com".toStr "example.com".toStr none "é x".toStr [("k".toStr, "v w".toStr)] "é f".toStr
    (some "us%20er".toStr) none "é%20x".toStr [("k".toStr, "v w".toStr)] "é%20f".toStr (by decide) (R5.hostKind_demo b)
    (by intro x hx; cases hx) (utext_some (by decide)) utext_none (by intro t ht; cases ht; decide) (by decide)
    (by decide) (by decide +kernel) (by decide) (by decide) (by decide)
    (by decide +kernel) (by intro r hr; cases hr; decide) (by decide +kernel) (by intro r hr; cases hr)
    (by decide +kernel) (by decide) c1 (.cons ⟨by decide +kernel, by decide +kernel⟩ .nil) (by decide) c2
    (by decide +kernel) c3 (fun _ => by cases b <;> decide +kernel)
  rw [← hs] at hu
  exact ⟨u, hu, hok⟩

/-- NON-VACUITY of the generic theorem for a pair of tables that is NOT one of the generated pairs: the path requoter
    against the FRAGMENT quoter (which keeps '?' literal and does not protect '/'): `TabPair` holds, and there `%2F`
    still spells nothing while "%3F" does not spell "?" … -/
theorem C18_spelling_generic_example :
    TabPair Gen.PATH_REQUOTER.tabC Gen.FRAGMENT_QUOTER.tabC ∧
    Spells Gen.PATH_REQUOTER.tabC Gen.FRAGMENT_QUOTER.tabC "a%20b".toStr "a b".toStr ∧
    ¬ Spells Gen.PATH_REQUOTER.tabC Gen.FRAGMENT_QUOTER.tabC "%3F".toStr "?".toStr ∧
    ¬ Spells Gen.PATH_REQUOTER.tabC Gen.FRAGMENT_QUOTER.tabC "?".toStr "?".toStr ∧
    cOut Gen.PATH_REQUOTER.tabC "a%20b".toStr = cOut Gen.FRAGMENT_QUOTER.tabC "a b".toStr := by
  have k : TabPair Gen.PATH_REQUOTER.tabC Gen.FRAGMENT_QUOTER.tabC :=
    ⟨gen_tab_wf _ (by decide) .c, gen_tab_wf _ (by decide) .c, by decide +kernel, by decide +kernel, by decide +kernel,
      by decide +kernel⟩
  refine ⟨k, by decide +kernel, by decide +kernel, by decide +kernel, ?_⟩
  exact (C18_spelling_generic k (by decide) (by decide) (by decide) (by decide)).mpr (by decide +kernel)

end Yarl

