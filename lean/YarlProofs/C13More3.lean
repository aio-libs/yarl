/-
  C13More3.lean — C13 ("path operations compose like a path algebra") beyond C13More2.lean:
   * `rawParts` / `rawName` / parent parts / `parent` of `u / s` and of `u.joinpath(a₁, …, aₙ)` in CLOSED FORM
     when `_make_child` normalises (authority and a '.' in an argument), for arguments with '/' and dot segments,
     any number of arguments, both `encoded` modes, NO hypothesis on the old path; the decoded restatement of the
     any-old-path theorem; "no rootless path next to an authority" shown NECESSARY (an iff) where nothing is normalised;
   * `encoded=True` versions of the two-argument laws; n-ary `joinpath` = iterated `joinpath` under "no climb
     before the last argument"; the EXACT condition for a fixed pair (a, b) outside `hroot`.
  `R12b` holds the helpers: parts of a URL whose path is a re-rooted join, the depth counter `climbs` over appends,
  one step of the n-ary composition on stored values.
-/
import YarlProofs.C13More2
namespace Yarl
open Yarl.PathLemmas Yarl.PathAlg PathMore

namespace R12b

/-! ### parts of a URL whose path is a re-rooted join -/

theorem dropRoot_getLast (N : List Str) (hN : N ≠ []) :
    (C13_dropRootSeg N).getLast?.getD [] = N.getLast?.getD [] := by
  cases N with
  | nil => exact absurd rfl hN
  | cons a K =>
    cases a with
    | nil =>
      cases K with
      | nil => rfl
      | cons k K' => simp [C13_dropRootSeg, List.getLast?_cons_cons]
    | cons c a' => rfl

theorem rawName_auth (v : Url) (hn : v.netloc ≠ []) (T : List Str) (h : rawParts v = [47] :: T) :
    rawName v = .ok (T.getLast?.getD []) := by
  have hn' : v.netloc.isEmpty = false := by simpa using hn
  unfold rawName
  simp only [h, hn', Bool.false_eq_true, if_false, List.drop_succ_cons, List.drop_zero]
  cases T.getLast? <;> rfl

theorem segs_childRoot (u : Url) (X : List Str) (hXs : Segs X) : Segs (root u.netloc (base u ++ X)) :=
  segs_root _ (segs_append (segs_base u) hXs)

/-- the parts and the name of a child whose segment list was normalised, ANY old path -/
theorem childOf_norm_parts (u : Url) (X : List Str) (hn : u.netloc ≠ []) (hX : X ≠ []) (hXs : Segs X) :
    rawParts (childOf u X true)
      = [47] :: C13_dropRootSeg (normalizePathSegments (root u.netloc (base u ++ X))) ∧
    rawName (childOf u X true)
      = .ok ((normalizePathSegments (root u.netloc (base u ++ X))).getLast?.getD []) := by
  have hn' : u.netloc.isEmpty = false := by simpa using hn
  have hM0 : root u.netloc (base u ++ X) ≠ [] := root_ne_nil _ (by simp [hX])
  have hN0 := DotMore.normalizePathSegments_ne_nil _ hM0
  have hNs : Segs (normalizePathSegments (root u.netloc (base u ++ X))) :=
    normalizePathSegments_no_sep _ (segs_childRoot u X hXs)
  have hvn : (childOf u X true).netloc ≠ [] := by rw [DotMore.childOf_netloc]; exact hn
  have hp := R4c.parts_of_fixRoot (childOf u X true) _ (fun _ => hvn) hNs (by rw [childOf_true u X hn']; rfl)
  refine ⟨hp, ?_⟩
  rw [rawName_auth _ hvn _ hp, dropRoot_getLast _ hN0]

/-- the segment list handed on, split before an ordinary last segment `l` -/
theorem childRoot_snoc (u : Url) (X' : List Str) (l : Str) (hn : u.netloc ≠ []) (hl : l ≠ [])
    (hXs : Segs X') :
    ∃ Xr, root u.netloc (base u ++ (X' ++ [l])) = Xr ++ [l] ∧ Segs Xr ∧
      C13_dropRootSeg (normLoop [] Xr) = C13_dropRootSeg (normLoop [] (root u.netloc (base u ++ X'))) := by
  have hn' : u.netloc.isEmpty = false := by simpa using hn
  by_cases hb : base u ++ X' = []
  · refine ⟨[[]], ?_, by intro p hp; simp at hp; subst hp; simp, ?_⟩
    · rw [← List.append_assoc, hb]; simp [root, hn', hl]
    · rw [hb]; simp [root]; decide
  · refine ⟨root u.netloc (base u ++ X'), ?_, segs_childRoot u X' hXs, rfl⟩
    rw [← List.append_assoc]
    exact root_append _ _ _ hb

/-- ordinary last segment `l` (not "", ".", ".."): the parts are "/" + the final stack of the segments BEFORE `l`
    (old ones included, without the root's empty segment) + `l` -/
theorem childOf_norm_last (u : Url) (X' : List Str) (l : Str) (hn : u.netloc ≠ []) (hXs : Segs (X' ++ [l]))
    (hl0 : l ≠ []) (hl1 : l ≠ dot) (hl2 : l ≠ dotdot) :
    rawParts (childOf u (X' ++ [l]) true)
      = ([47] :: C13_dropRootSeg (normLoop [] (root u.netloc (base u ++ X')))) ++ [l] ∧
    (childOf u (X' ++ [l]) true).path
      = joinC 47 (([] :: C13_dropRootSeg (normLoop [] (root u.netloc (base u ++ X')))) ++ [l]) := by
  have hn' : u.netloc.isEmpty = false := by simpa using hn
  have hX's : Segs X' := fun p hp => hXs p (List.mem_append_left _ hp)
  have hl47 : 47 ∉ l := hXs l (by simp)
  obtain ⟨Xr, hM, hXrs, hXd⟩ := childRoot_snoc u X' l hn hl0 hX's
  have hN := R4c.norm_snoc Xr l hl1 hl2
  have hS : Segs (normLoop [] Xr ++ [l]) := segs_append (R4c.segs_normLoop Xr hXrs) (segs_single hl47)
  have hpath : (childOf u (X' ++ [l]) true).path = fixRoot (joinC 47 (normLoop [] Xr ++ [l])) := by
    rw [childOf_true u _ hn', hM, hN]; rfl
  constructor
  · rw [← hXd]
    exact R4c.parts_of_stack _ (normLoop [] Xr) l hl0 hS hpath
  · rw [hpath, ← hXd, R4c.fixRoot_joinC_drop _ hS, R4c.dropRoot_snoc _ _ hl0]
    rfl

theorem root_getLast' (n : Str) (L : List Str) (l : Str) (h : L.getLast? = some l) :
    (root n L).getLast? = some l := by
  obtain ⟨L', rfl⟩ : ∃ L', L = L' ++ [l] := ⟨_, (dropLast_snoc_getLast _ l h).symm⟩
  exact root_getLast n L' l

/-- last segment "", "." or "..": the normalised list is the final stack of the list WITHOUT a trailing empty
    segment, followed by ONE empty segment -/
theorem norm_trailing (M : List Str) (l : Str) (hl : M.getLast? = some l) (h : l = [] ∨ l = dot ∨ l = dotdot) :
    normalizePathSegments M = normLoop [] (stripTrail M) ++ [[]] := by
  obtain ⟨M', rfl⟩ : ∃ M', M = M' ++ [l] := ⟨_, (dropLast_snoc_getLast _ l hl).symm⟩
  rcases h with rfl | h
  · rw [stripTrail_concat_nil, R4c.norm_snoc M' [] (by decide) (by decide)]
  · have hl0 : l ≠ [] := by rcases h with rfl | rfl <;> decide
    rw [stripTrail_concat_ne _ _ hl0, normalizePathSegments_eq_G]
    unfold G
    rw [trail_concat, if_pos h]

theorem uq_slash (e : Env) : uq e Gen.UNQUOTER [47] = [47] := by
  have : ∀ b : Backend, Gen.UNQUOTER.run b [47] = [47] := fun b => by cases b <;> decide +kernel
  exact this e.b

end R12b

open R12b

/-! ## `u / s` and `u.joinpath(a₁, …, aₙ)` when `_make_child` NORMALISES, in closed form -/

/-- ANY number of arguments, either `encoded` mode, ANY old path, arguments with '/' and dot segments: when
    `_make_child` normalises (authority, and a '.' in some argument text) the parts of the result are "/" followed by
    `normalize_path_segments` of the whole segment list — the old segments without a trailing empty one, then the
    argument segments `argSegs`, with the root's empty segment in front — WITHOUT a leading empty segment
    (`C13_dropRootSeg`); the name is the LAST element of that normalised list.  `normalize_path_segments L` is the final
    stack `normLoop [] L` followed by ONE empty segment exactly when the last segment of `L` is "." or "..". -/
theorem C13_joinpath_norm_closed (e : Env) (u : Url) (ps : List Str) (enc : Bool) (v : Url) (hne : ps ≠ [])
    (hn : u.netloc ≠ [])                          -- under an authority
    (hd : argDots e enc ps = true) :              -- a '.' in some (quoted) argument: `_make_child` normalises
    makeChild e u ps enc = .ok v →
    let M := root u.netloc (base u ++ argSegs e enc ps)
    rawParts v = [47] :: C13_dropRootSeg (normalizePathSegments M) ∧
    rawName v = .ok ((normalizePathSegments M).getLast?.getD []) ∧
    (rawParts v).dropLast = ([47] :: C13_dropRootSeg (normalizePathSegments M)).dropLast ∧
    (∀ l, (argSegs e enc ps).getLast? = some l →
      normalizePathSegments M = normLoop [] M ++ (if l = dot ∨ l = dotdot then [[]] else [])) := by
  intro h M
  obtain ⟨-, rfl⟩ := makeChild_ok.1 h
  rw [hd]
  obtain ⟨h1, h2⟩ := childOf_norm_parts u _ hn (argSegs_ne_nil e enc ps hne) (segs_argSegs e enc ps)
  refine ⟨h1, h2, by rw [h1], ?_⟩
  intro l hl
  have hlM : M.getLast? = some l := by
    apply root_getLast'
    rw [List.getLast?_append, hl]; rfl
  rw [normalizePathSegments_eq_G]
  unfold G trail
  rw [hlM]

/-- name and parent parts, by the LAST argument segment `l` (`argSegs = X' ++ [l]`):
    * `l` an ordinary segment (not "", ".", ".."): the name is `l`, the parent parts are "/" followed by the final stack
      of the segments BEFORE `l` (root's empty segment dropped);
    * `l` one of "", ".", "..": the name is "" and the parts are "/" + the final stack of the list without a trailing
      empty segment + ONE empty segment. -/
theorem C13_joinpath_norm_name_parent (e : Env) (u : Url) (ps : List Str) (enc : Bool) (v : Url) (hne : ps ≠ [])
    (hn : u.netloc ≠ []) (hd : argDots e enc ps = true)
    (X' : List Str) (l : Str) (hX : argSegs e enc ps = X' ++ [l]) :
    makeChild e u ps enc = .ok v →
    ((l ≠ [] ∧ l ≠ dot ∧ l ≠ dotdot) →
      rawName v = .ok l ∧
      (rawParts v).dropLast = [47] :: C13_dropRootSeg (normLoop [] (root u.netloc (base u ++ X'))) ∧
      rawParts v = ([47] :: C13_dropRootSeg (normLoop [] (root u.netloc (base u ++ X')))) ++ [l]) ∧
    ((l = [] ∨ l = dot ∨ l = dotdot) →
      rawName v = .ok [] ∧
      rawParts v = [47] :: C13_dropRootSeg
        (normLoop [] (stripTrail (root u.netloc (base u ++ argSegs e enc ps))) ++ [[]])) := by
  intro h
  have hXs := segs_argSegs e enc ps
  obtain ⟨h1, h2, _, _⟩ := C13_joinpath_norm_closed e u ps enc v hne hn hd h
  obtain ⟨-, rfl⟩ := makeChild_ok.1 h
  rw [hd] at h1 h2 ⊢
  constructor
  · rintro ⟨hl0, hl1, hl2⟩
    rw [hX] at hXs ⊢
    obtain ⟨hp, _⟩ := childOf_norm_last u X' l hn hXs hl0 hl1 hl2
    have hvn : (childOf u (X' ++ [l]) true).netloc ≠ [] := by rw [DotMore.childOf_netloc]; exact hn
    refine ⟨rawName_append _ _ l hp (fun _ => by simp), by rw [hp, List.dropLast_concat], hp⟩
  · intro hl
    have hlM : (root u.netloc (base u ++ argSegs e enc ps)).getLast? = some l := by
      apply root_getLast'
      rw [hX, ← List.append_assoc, List.getLast?_concat]
    have hN := norm_trailing _ l hlM hl
    rw [hN] at h1 h2
    refine ⟨?_, h1⟩
    rw [h2, List.getLast?_concat]; rfl

/-- ONE argument `s` that may contain '/' and dot segments, `encoded=False`, ANY old path: the instance of
    `C13_joinpath_norm_closed`; for a Python string `s` the segment list is the old segments followed by the QUOTED
    segments of `s`. -/
theorem C13_child_norm_closed (e : Env) (u : Url) (s : Str) (v : Url)
    (hn : u.netloc ≠ [])                          -- under an authority
    (hdot : 46 ∈ q e Gen.PATH_QUOTER s) :         -- a '.' in `quote(s)`: `_make_child` normalises
    makeChild e u [s] false = .ok v →
    let M := childSegments e u s
    rawParts v = [47] :: C13_dropRootSeg (normalizePathSegments M) ∧
    rawName v = .ok ((normalizePathSegments M).getLast?.getD []) ∧
    (rawParts v).dropLast = ([47] :: C13_dropRootSeg (normalizePathSegments M)).dropLast ∧
    (∀ l, (splitOn 47 (q e Gen.PATH_QUOTER s)).getLast? = some l →
      normalizePathSegments M = normLoop [] M ++ (if l = dot ∨ l = dotdot then [[]] else [])) ∧
    (PyStr s → M = root u.netloc (base u ++ (splitOn 47 s).map (q e Gen.PATH_QUOTER))) := by
  intro h
  have hd : argDots e false [s] = true := (argDots_single e false s).trans (mem_iff.2 hdot)
  obtain ⟨h1, h2, h3, h4⟩ := C13_joinpath_norm_closed e u [s] false v (by simp) hn hd h
  have hA : argSegs e false [s] = splitOn 47 (q e Gen.PATH_QUOTER s) := argSegs_single e false s
  simp only [hA] at h1 h2 h3 h4
  refine ⟨h1, h2, h3, h4, ?_⟩
  intro hs
  show root u.netloc (base u ++ splitOn 47 (q e Gen.PATH_QUOTER s)) = _
  rw [splitOn_q e s hs]

/-- name and parent parts of `u / s` in closed form, by the last segment `t` of the Python string `s`
    (`splitOn 47 s = S' ++ [t]`), `encoded=False`, ANY old path.  For an ordinary `t` (non-empty, no lone surrogate,
    not "." / ".."): the raw name is `quote(t)`, the DECODED name is `t`, and the parent parts are "/" followed by the
    final stack of `normalize_path_segments` on (old segments + quoted other segments of `s`).  For `t` one of "", ".",
    "..": the name is "" and the parts end with ONE empty segment. -/
theorem C13_child_norm_name_parent (e : Env) (u : Url) (s : Str) (v : Url) (hs : PyStr s)
    (hn : u.netloc ≠ []) (hdot : 46 ∈ s)
    (S' : List Str) (t : Str) (hS : splitOn 47 s = S' ++ [t]) :
    makeChild e u [s] false = .ok v →
    ((t ≠ [] ∧ NoSurrogate t ∧ t ≠ dot ∧ t ≠ dotdot) →
      rawName v = .ok (q e Gen.PATH_QUOTER t) ∧ name e v = .ok t ∧
      (rawParts v).dropLast
        = [47] :: C13_dropRootSeg (normLoop [] (root u.netloc (base u ++ S'.map (q e Gen.PATH_QUOTER))))) ∧
    ((t = [] ∨ t = dot ∨ t = dotdot) →
      rawName v = .ok [] ∧
      rawParts v = [47] :: C13_dropRootSeg (normLoop [] (stripTrail (childSegments e u s)) ++ [[]])) := by
  intro h
  have hd : argDots e false [s] = true := (argDots_single e false s).trans (mem_iff.2 ((q_path_mem_iff e s hs (.inl rfl)).2 hdot))
  have hA : argSegs e false [s] = S'.map (q e Gen.PATH_QUOTER) ++ [q e Gen.PATH_QUOTER t] := by
    simp [argSegs, argText, splitOn_q e s hs, hS]
  have htm : t ∈ splitOn 47 s := by rw [hS]; simp
  have htp : PyStr t := pyStr_seg hs htm
  obtain ⟨h1, h2⟩ := C13_joinpath_norm_name_parent e u [s] false v (by simp) hn hd _ _ hA h
  constructor
  · rintro ⟨ht0, hts, ht1, ht2⟩
    obtain ⟨d1, d2⟩ := q_path_eq_dot_iff e t htp hts
    obtain ⟨hname, hpar, _⟩ := h1 ⟨C13_path_quoter_nonempty e t htp hts ht0, fun hc => ht1 (d1.1 hc),
      fun hc => ht2 (d2.1 hc)⟩
    refine ⟨hname, ?_, hpar⟩
    unfold name
    rw [hname]
    show Except.ok (uq e Gen.UNQUOTER _) = _
    rw [uq_q e t htp hts]
  · intro ht
    have hq : q e Gen.PATH_QUOTER t = [] ∨ q e Gen.PATH_QUOTER t = dot ∨ q e Gen.PATH_QUOTER t = dotdot := by
      have hsur : NoSurrogate t := by rcases ht with rfl | rfl | rfl <;> decide
      obtain ⟨d1, d2⟩ := q_path_eq_dot_iff e t htp hsur
      rcases ht with rfl | rfl | rfl
      · exact Or.inl (q_path_nil e)
      · exact Or.inr (Or.inl (d1.2 rfl))
      · exact Or.inr (Or.inr (d2.2 rfl))
    have := h2 hq
    have hA' : argSegs e false [s] = splitOn 47 (q e Gen.PATH_QUOTER s) := argSegs_single e false s
    rw [hA'] at this
    exact this


/-- corollary, `s` WITHOUT dot segments (but with a '.', e.g. "c.txt/d"; old path without dot segments, empty or
    rooted): the closed form reduces to "old parts without a trailing empty segment, then the quoted segments of `s`" —
    `C13_child_slash` recovered from `C13_child_norm_closed`. -/
theorem C13_child_norm_closed_nodots (e : Env) (u : Url) (s : Str) (v : Url) (hs : PyStr s) (hsur : NoSurrogate s)
    (hn : u.netloc ≠ []) (hdot : 46 ∈ s)
    (hnd : NoDots (splitOn 47 u.path) ∧ NoDots (splitOn 47 s))          -- no dot SEGMENT anywhere
    (hpath : u.path = [] ∨ u.path.head? = some 47) :
    makeChild e u [s] false = .ok v →
    [47] :: C13_dropRootSeg (normalizePathSegments (childSegments e u s))
      = stripTrail (rawParts u) ++ (splitOn 47 s).map (q e Gen.PATH_QUOTER) ∧
    rawParts v = stripTrail (rawParts u) ++ (splitOn 47 s).map (q e Gen.PATH_QUOTER) := by
  intro h
  obtain ⟨h1, _⟩ := C13_child_norm_closed e u s v hn ((q_path_mem_iff e s hs (.inl rfl)).2 hdot) h
  obtain ⟨_, h2, _⟩ := C13_child_slash e u s v hs hsur (fun _ => hnd)
    (fun _ _ h0 => by rw [h0] at hdot; simp at hdot) (fun _ => hpath) h
  exact ⟨by rw [← h1, h2], h2⟩

/-! ### the any-old-path theorem on the DECODED accessors -/

/-- DECODED restatement of `C13_child_name_any_old_path`: for ONE plain segment `s` (Python string without lone
    surrogates, non-empty, no '/', not "." / ".." — all stated on `s` itself) and ANY old path, `u / s` has decoded name
    `s`; the decoded parent parts are `u.parts` without a trailing empty segment when nothing is normalised (no
    authority, or no '.' in `s`), and "/" followed by the DECODED final stack of `normalize_path_segments` on the old
    segments when `_make_child` normalises (authority and a '.' in `s`). -/
theorem C13_child_name_any_old_path_decoded (e : Env) (u : Url) (s : Str) (v : Url)
    (hs : PyStr s) (hsur : NoSurrogate s) (h47 : 47 ∉ s) (hne : s ≠ []) (hdot : s ≠ dot ∧ s ≠ dotdot) :
    makeChild e u [s] false = .ok v →
    name e v = .ok s ∧
    ((u.netloc = [] ∨ 46 ∉ s) →
      (u.netloc ≠ [] → (u.path = [] ∨ u.path.head? = some 47)) →
      (partsDecoded e v).dropLast =
        (if (rawParts u).getLast? = some [] then (partsDecoded e u).dropLast else partsDecoded e u)) ∧
    (u.netloc ≠ [] → 46 ∈ s →
      (partsDecoded e v).dropLast
        = [47] :: (C13_dropRootSeg (normLoop [] (root u.netloc (base u)))).map (uq e Gen.UNQUOTER)) := by
  intro h
  obtain ⟨d1, d2⟩ := q_path_eq_dot_iff e s hs hsur
  obtain ⟨hname, hA, hB⟩ := C13_child_name_any_old_path e u s v hs hsur h47 hne
    ⟨fun hc => hdot.1 (d1.1 hc), fun hc => hdot.2 (d2.1 hc)⟩ h
  refine ⟨?_, ?_, ?_⟩
  · unfold name
    rw [hname]
    show Except.ok (uq e Gen.UNQUOTER _) = _
    rw [uq_q e s hs hsur]
  · intro hc hpath
    have hc' : u.netloc = [] ∨ 46 ∉ q e Gen.PATH_QUOTER s := by
      rcases hc with hc | hc
      · exact Or.inl hc
      · exact Or.inr (fun hm => hc ((q_path_mem_iff e s hs (.inl rfl)).1 hm))
    show ((rawParts v).map _).dropLast = _
    rw [← List.map_dropLast, hA hc' hpath]
    simp only
    split
    · show _ = ((rawParts u).map _).dropLast
      rw [← List.map_dropLast]
    · rfl
  · intro hn hm
    show ((rawParts v).map _).dropLast = _
    rw [← List.map_dropLast, hB hn ((q_path_mem_iff e s hs (.inl rfl)).2 hm), List.map_cons, uq_slash]

/-! ### the URL operation `parent` of the result in the normalising case -/

namespace R12b

/-- `parent` of a URL under an authority whose path is the join of `M' ++ [l]` (not the paths "" and "/") -/
theorem parent_of_joined (v : Url) (M' : List Str) (l : Str) (hn : v.netloc ≠ []) (hS : Segs (M' ++ [l]))
    (hl : l = [] → M' ≠ [] ∧ M' ≠ [[]]) (hp : v.path = joinC 47 (M' ++ [l])) :
    parent v = fromParts v.scheme v.netloc (joinC 47 M') [] [] := by
  have hnot := joinC_snoc_ne M' l hS hl
  rw [← hp] at hnot
  rw [parent_of_ne v hnot]
  unfold parentPathN
  rw [hp, parentPath_joinC M' l hS hl, rootFix_auth _ _ hn]

theorem segs_stack (u : Url) (X' : List Str) (hX : Segs X') :
    Segs ([] :: C13_dropRootSeg (normLoop [] (root u.netloc (base u ++ X')))) :=
  segs_cons (by simp) (fun p hp => R4c.segs_normLoop _ (segs_childRoot u X' hX) p (R4c.mem_dropRoot hp))

theorem noDots_stack (X : List Str) : NoDots (normLoop [] X) := by
  intro s hs
  rcases normLoop_mem [] X s hs with h | ⟨_, h⟩
  · simp at h
  · exact h

/-- the path "/" + the final stack of the old segments is the old path without its trailing slash EXACTLY when the
    old path (empty or rooted) has no dot segments -/
theorem stack_path_iff (u : Url) (hpath : u.path = [] ∨ u.path.head? = some 47) :
    joinC 47 ([] :: C13_dropRootSeg (normLoop [] (root u.netloc (base u)))) = dropSlash u.path ↔
      NoDots (base u) := by
  rw [← joinC_base, root_base u (fun _ => hpath)]
  have hbase : base u = [] ∨ ∃ T, base u = [] :: T := by
    rcases hpath with h | h
    · left; exact (base_eq_nil_iff u).2 h
    · right
      obtain ⟨r, hr⟩ := List.head?_eq_some_iff.1 h
      refine ⟨stripTrail (splitOn 47 r), ?_⟩
      simp only [base, hr, List.isEmpty_cons, Bool.false_eq_true, ↓reduceIte, splitOn]
      exact stripTrail_cons _ _ (splitOn_ne_nil _ _)
  constructor
  · intro h
    rcases hbase with hb | ⟨T, hb⟩
    · rw [hb]; intro s hs; simp at hs
    · rw [hb] at h ⊢
      have hTs : Segs ([] :: T) := hb ▸ segs_base u
      have hDs : Segs ([] :: C13_dropRootSeg (normLoop [] ([] :: T))) :=
        segs_cons (by simp) (fun p hp => R4c.segs_normLoop _ hTs p (R4c.mem_dropRoot hp))
      have h1 := splitOn_joinC _ (by simp) hDs
      rw [h, splitOn_joinC _ (by simp) hTs] at h1
      have hT : T = C13_dropRootSeg (normLoop [] ([] :: T)) := (List.cons.inj h1).2
      intro s hs
      rcases List.mem_cons.1 hs with rfl | hs
      · exact ⟨by decide, by decide⟩
      · rw [hT] at hs
        exact noDots_stack _ s (R4c.mem_dropRoot hs)
  · intro h
    rw [normLoop_noDots [] _ h]
    rcases hbase with hb | ⟨T, hb⟩
    · rw [hb]; rfl
    · rw [hb]; rfl

/-- `parent` of a NORMALISED child with an ordinary last segment -/
theorem parent_norm (u : Url) (X' : List Str) (l : Str) (hn : u.netloc ≠ []) (hXs : Segs (X' ++ [l]))
    (hl0 : l ≠ []) (hl1 : l ≠ dot) (hl2 : l ≠ dotdot) :
    parent (childOf u (X' ++ [l]) true) = fromParts u.scheme u.netloc
      (joinC 47 ([] :: C13_dropRootSeg (normLoop [] (root u.netloc (base u ++ X'))))) [] [] := by
  obtain ⟨_, hp⟩ := childOf_norm_last u X' l hn hXs hl0 hl1 hl2
  have hn' : u.netloc.isEmpty = false := by simpa using hn
  have hvn : (childOf u (X' ++ [l]) true).netloc = u.netloc := DotMore.childOf_netloc _ _ _
  have hvs : (childOf u (X' ++ [l]) true).scheme = u.scheme := by
    rw [childOf_true u _ hn']; rfl
  have hX's : Segs X' := fun p hp' => hXs p (List.mem_append_left _ hp')
  have := parent_of_joined _ _ l (by rw [hvn]; exact hn)
    (segs_append (segs_stack u X' hX's) (segs_single (hXs l (by simp)))) (fun h0 => absurd h0 hl0) hp
  rw [this, hvn, hvs]

end R12b

set_option linter.unusedVariables false in
/-- `parent` of `u.joinpath(a₁, …, aₙ)` in the normalising case, last argument segment `l` ordinary (not "", ".",
    ".."): same scheme and authority, no query, no fragment, and the path is "/" + the final stack of the segments
    before `l` — i.e. the NORMALISED path of everything before the name.  ANY old path, either `encoded` mode. -/
theorem C13_joinpath_norm_parent (e : Env) (u : Url) (ps : List Str) (enc : Bool) (v : Url) (hne : ps ≠ [])
    (hn : u.netloc ≠ []) (hd : argDots e enc ps = true)
    (X' : List Str) (l : Str) (hX : argSegs e enc ps = X' ++ [l])
    (hl : l ≠ [] ∧ l ≠ dot ∧ l ≠ dotdot) :
    makeChild e u ps enc = .ok v →
    parent v = fromParts u.scheme u.netloc
      (joinC 47 ([] :: C13_dropRootSeg (normLoop [] (root u.netloc (base u ++ X'))))) [] [] := by
  intro h
  have hXs := segs_argSegs e enc ps
  obtain ⟨-, rfl⟩ := makeChild_ok.1 h
  rw [hd]
  rw [hX] at hXs ⊢
  exact parent_norm u X' l hn hXs hl.1 hl.2.1 hl.2.2

set_option linter.unusedVariables false in
/-- the other case: last argument segment "", "." or ".." (the name of the result is ""): with `A` the final stack
    of the whole segment list (without a trailing empty segment), the result is the bare authority (`A` empty: the
    arguments climbed above the root) or the root "/" (`A = [""]`) — then `parent` is the result itself — and otherwise
    `parent` drops the trailing empty segment: its path is "/" + `A` (root's empty segment dropped). -/
theorem C13_joinpath_norm_parent_trailing (e : Env) (u : Url) (ps : List Str) (enc : Bool) (v : Url) (hne : ps ≠ [])
    (hn : u.netloc ≠ []) (hd : argDots e enc ps = true)
    (l : Str) (hX : (argSegs e enc ps).getLast? = some l) (hl : l = [] ∨ l = dot ∨ l = dotdot) :
    makeChild e u ps enc = .ok v →
    let A := normLoop [] (stripTrail (root u.netloc (base u ++ argSegs e enc ps)))
    parent v = (if A = [] ∨ A = [[]] then v
      else fromParts u.scheme u.netloc (joinC 47 ([] :: C13_dropRootSeg A)) [] []) := by
  intro h
  dsimp only
  have hn' : u.netloc.isEmpty = false := by simpa using hn
  have hXs := segs_argSegs e enc ps
  obtain ⟨-, rfl⟩ := makeChild_ok.1 h
  have hlM : (root u.netloc (base u ++ argSegs e enc ps)).getLast? = some l :=
    root_getLast' _ _ _ (by rw [List.getLast?_append, hX]; rfl)
  have hAs := R4c.segs_normLoop _ (segs_stripTrail (segs_childRoot u _ hXs))
  rw [hd, childOf_true u _ hn', norm_trailing _ l hlM hl,
    R4c.fixRoot_joinC_drop _ (segs_append hAs (segs_single (by simp)))]
  generalize normLoop [] (stripTrail (root u.netloc (base u ++ argSegs e enc ps))) = A at hAs ⊢
  by_cases hA : A = [] ∨ A = [[]]
  · rw [if_pos hA]
    rcases hA with rfl | rfl <;> rfl
  · -- the trailing empty segment goes, something stays after the root's segment
    have hd : C13_dropRootSeg (A ++ [[]]) = C13_dropRootSeg A ++ [[]] ∧ C13_dropRootSeg A ≠ [] := by
      match A, hA with
      | [], hA => simp at hA
      | [[]], hA => simp at hA
      | [] :: k :: K, _ => simp [C13_dropRootSeg]
      | (c :: a) :: K, _ => simp [C13_dropRootSeg]
    rw [if_neg hA, hd.1]
    exact parent_of_joined _ ([] :: C13_dropRootSeg A) [] hn
      (segs_append (segs_cons (by simp) fun p hp => hAs p (R4c.mem_dropRoot hp)) (segs_single (by simp)))
      (fun _ => ⟨by simp, by simpa using hd.2⟩) rfl

/-- `parent (u / s)` for ONE plain segment `s` in the normalising case (authority, a '.' in `s`), ANY old path:
    the path of the parent is "/" + the final stack of the OLD segments.  For an old path that is empty or rooted this
    is "`u` without query, fragment and ONE trailing slash" (`C13_child_parent`) IF AND ONLY IF the old path has no dot
    segments; otherwise it is the NORMALISED old path (`URL("http://h/a/../b", encoded=True) / "c.txt"` has parent
    `http://h/b`: instance below). -/
theorem C13_child_norm_parent (e : Env) (u : Url) (s : Str) (v : Url)
    (hs : PyStr s) (hsur : NoSurrogate s) (h47 : 47 ∉ s) (hne : s ≠ []) (hdot : s ≠ dot ∧ s ≠ dotdot)
    (hn : u.netloc ≠ []) (hm : 46 ∈ s) :
    makeChild e u [s] false = .ok v →
    parent v = fromParts u.scheme u.netloc
      (joinC 47 ([] :: C13_dropRootSeg (normLoop [] (root u.netloc (base u))))) [] [] ∧
    ((u.path = [] ∨ u.path.head? = some 47) →
      (parent v = fromParts u.scheme u.netloc (dropSlash u.path) [] [] ↔ NoDots (base u))) := by
  intro h
  obtain ⟨d1, d2⟩ := q_path_eq_dot_iff e s hs hsur
  have hq47 := C13_path_quoter_no_slash e s hs h47
  have hd : argDots e false [s] = true := (argDots_single e false s).trans (mem_iff.2 ((q_path_mem_iff e s hs (.inl rfl)).2 hm))
  have hA : argSegs e false [s] = [] ++ [q e Gen.PATH_QUOTER s] := by
    simp [argSegs, argText, PathLemmas.splitOn_of_not_mem 47 _ hq47]
  have hp := C13_joinpath_norm_parent e u [s] false v (by simp) hn hd [] _ hA
    ⟨C13_path_quoter_nonempty e s hs hsur hne, fun hc => hdot.1 (d1.1 hc), fun hc => hdot.2 (d2.1 hc)⟩ h
  rw [List.append_nil] at hp
  refine ⟨hp, fun hpath => ?_⟩
  rw [hp, ← stack_path_iff u hpath]
  constructor
  · intro h'; exact congrArg Url.path h'
  · intro h'; rw [h']

/-! ### "no rootless path next to an authority" where nothing is normalised: NECESSARY -/

/-- ONE plain segment, authority, NO '.' in `quote(s)` (nothing is normalised), ANY old path — a rootless path
    next to the authority included: the parent parts of `u / s` are "/" followed by the old SEGMENTS without a trailing
    empty one (`base u`, root's empty segment dropped); and they are "u's parts without a trailing empty segment" IF
    AND ONLY IF the old path is empty or rooted.  So the hypothesis of `C13_child_name_any_old_path` cannot be dropped:
    `raw_parts` of a rootless path next to an authority has lost the first character of the path. -/
theorem C13_child_parent_parts_iff_rooted (e : Env) (u : Url) (s : Str) (v : Url)
    (hs : PyStr s) (hsur : NoSurrogate s) (h47 : 47 ∉ s) (hne : s ≠ [])
    (hn : u.netloc ≠ []) (hnd : 46 ∉ q e Gen.PATH_QUOTER s) :
    makeChild e u [s] false = .ok v →
    (rawParts v).dropLast = [47] :: C13_dropRootSeg (root u.netloc (base u)) ∧
    ((rawParts v).dropLast = stripTrail (rawParts u) ↔ (u.path = [] ∨ u.path.head? = some 47)) := by
  intro h
  have hn' : u.netloc.isEmpty = false := by simpa using hn
  have hs0 : s.head? ≠ some 47 := makeChild_head e u s [] v h
  have hq47 := C13_path_quoter_no_slash e s hs h47
  have hqne := C13_path_quoter_nonempty e s hs hsur hne
  have hdots : q e Gen.PATH_QUOTER s ≠ dot ∧ q e Gen.PATH_QUOTER s ≠ dotdot :=
    ⟨fun hc => hnd (by rw [hc]; simp [dot]), fun hc => hnd (by rw [hc]; simp [dotdot])⟩
  have hold := (C13_child_name_any_old_path e u s v hs hsur h47 hne hdots h).2.1 (Or.inr hnd)
  rw [makeChild_one e u s hs0, PathLemmas.splitOn_of_not_mem 47 _ hq47, (Bool.eq_false_iff.2 (fun hc => hnd (mem_iff.1 hc)))] at h
  cases h
  have hdl : (rawParts (childOf u [q e Gen.PATH_QUOTER s] false)).dropLast
      = [47] :: C13_dropRootSeg (root u.netloc (base u)) := by
    rw [rawParts_child_auth u _ hn' hq47 hqne, List.dropLast_concat]
  refine ⟨hdl, ⟨fun heq => ?_, fun hpath => by rw [hold (fun _ => hpath)]; rfl⟩⟩
  apply Classical.byContradiction
  intro hnr
  simp only [not_or] at hnr
  obtain ⟨c, rest, hpe⟩ := List.exists_cons_of_ne_nil hnr.1
  have hc : c ≠ 47 := by have := hnr.2; simpa [hpe] using this
  obtain ⟨s0, sr, hS'⟩ := List.exists_cons_of_ne_nil (splitOn_ne_nil 47 rest)
  have hS := splitOn_cons_ne 47 c rest hc hS'
  have hru : rawParts u = [47] :: (s0 :: sr) := by
    unfold rawParts; simp [hn', hpe, hS']
  have hb : base u = stripTrail ((c :: s0) :: sr) := by simp [base, hpe, hS]
  have hb0 : base u ≠ [] := fun h0 => hnr.1 ((base_eq_nil_iff u).1 h0)
  have hroot : root u.netloc (base u) = [] :: base u := by
    rw [hb] at hb0 ⊢
    cases sr with
    | nil => simp [stripTrail, root, hn']
    | cons a b => rw [stripTrail_cons _ _ (by simp)]; simp [root, hn']
  rw [hdl, hroot, hru, stripTrail_cons _ _ (by simp), hb] at heq
  have heq' : stripTrail ((c :: s0) :: sr) = stripTrail (s0 :: sr) := (List.cons.inj heq).2
  cases sr with
  | nil =>
    have h1 : stripTrail [c :: s0] = [c :: s0] := by simp [stripTrail]
    rw [h1] at heq'
    unfold stripTrail at heq'
    split at heq'
    · simp at heq'
    · have := congrArg (fun l => (l.map List.length)) heq'
      simp at this
  | cons a b =>
    rw [stripTrail_cons (c :: s0) (a :: b) (by simp), stripTrail_cons s0 (a :: b) (by simp)] at heq'
    have := congrArg List.length (List.cons.inj heq').1
    simp at this

/-- the computed witness (`fromParts` / `encoded=True` only: the constructor roots such a path):
    `URL.build(scheme="http", host="h", path="a", encoded=True) / "c"` is `http://h/a/c` with parts ("/", "a", "c"),
    while the old `raw_parts` are ("/", "") — the 'a' is lost by `raw_parts`, so "parent parts = u's parts without a
    trailing empty segment" FAILS; likewise for "a/b" (old parts ("/", "", "b")). -/
theorem C13_child_parent_parts_fails_for_rootless : ∀ b : Backend,
    let e : Env := ⟨b, Oracles.empty⟩
    let u := fromParts "http".toStr "h".toStr "a".toStr [] []
    let u2 := fromParts "http".toStr "h".toStr "a/b".toStr [] []
    let parts := fun (r : R Url) => (r.map rawParts).toOption
    rawParts u = ["/".toStr, []] ∧
    parts (makeChild e u ["c".toStr] false) = some ["/".toStr, "a".toStr, "c".toStr] ∧
    rawParts u2 = ["/".toStr, [], "b".toStr] ∧
    parts (makeChild e u2 ["c".toStr] false) = some ["/".toStr, "a".toStr, "b".toStr, "c".toStr] ∧
    46 ∉ q e Gen.PATH_QUOTER "c".toStr := by
  str_lits; intro b; cases b <;> decide +kernel


/-! ## several arguments against iterated `joinpath` -/

namespace R12b
open DotMore (climbs)

/-! ### the depth counter `climbs` -/

theorem climbs_append_left (A B : List Str) : ∀ d, climbs d (A ++ B) = false → climbs d A = false := by
  induction A with
  | nil => intro d _; rfl
  | cons s rest ih =>
    intro d h
    rw [List.cons_append] at h
    unfold climbs at h ⊢
    split
    · rename_i hs
      rw [if_pos hs] at h
      cases d with
      | zero => simp at h
      | succ d' => exact ih d' h
    · rename_i hs
      rw [if_neg hs] at h
      split
      · rename_i hs2; rw [if_pos hs2] at h; exact ih d h
      · rename_i hs2; rw [if_neg hs2] at h; exact ih (d + 1) h

/-- without a climb, the depth after `A` is the height of the stack `A` leaves -/
theorem climbs_append_noclimb (A Y : List Str) : ∀ acc : List Str, climbs acc.length A = false →
    climbs acc.length (A ++ Y) = climbs (normLoop acc A).length Y := by
  induction A with
  | nil => intro acc _; simp [normLoop]
  | cons s rest ih =>
    intro acc hc
    rw [List.cons_append, normLoop_cons]
    unfold climbs at hc
    conv => lhs; unfold climbs
    unfold step
    split
    · rename_i hs
      rw [if_pos hs] at hc
      cases acc with
      | nil => simp at hc
      | cons a t =>
        simp only [List.length_cons] at hc ⊢
        exact ih t hc
    · rename_i hs
      rw [if_neg hs] at hc
      split
      · rename_i hs2
        rw [if_pos hs2] at hc
        exact ih acc hc
      · rename_i hs2
        rw [if_neg hs2] at hc
        exact ih (s :: acc) hc

theorem climbs_noDots (P Y : List Str) (hP : NoDots P) : ∀ d, climbs d (P ++ Y) = climbs (d + P.length) Y := by
  induction P with
  | nil => intro d; rfl
  | cons s rest ih =>
    intro d
    have h1 := hP s List.mem_cons_self
    rw [List.cons_append]
    conv => lhs; unfold climbs
    rw [if_neg h1.2, if_neg h1.1, ih (fun x hx => hP x (List.mem_cons_of_mem _ hx))]
    simp only [List.length_cons]
    congr 1
    omega

theorem climbs_snoc_nil (A : List Str) : ∀ d, climbs d (A ++ [[]]) = climbs d A := by
  induction A with
  | nil => intro d; simp [climbs, dot, dotdot]
  | cons s rest ih =>
    intro d
    rw [List.cons_append]
    unfold climbs
    split
    · cases d with
      | zero => rfl
      | succ d' => exact ih d'
    · split
      · exact ih d
      · exact ih (d + 1)

theorem climbs_stripTrail (R : List Str) (d : Nat) : climbs d (stripTrail R) = climbs d R := by
  unfold stripTrail
  split
  · rename_i h
    obtain ⟨R', rfl⟩ : ∃ R', R = R' ++ [[]] := ⟨_, (dropLast_snoc_getLast _ [] h).symm⟩
    rw [List.dropLast_concat, climbs_snoc_nil]
  · rfl

end R12b

open DotMore (climbs)

/-! ### the two-argument laws with `encoded=True` -/

/-- the segments and the flag of `joinpath(a, b, encoded=True)` are those of `joinpath(pjoin(a, b), encoded=True)`:
    nothing is quoted, so NO hypothesis on the characters of `a` -/
theorem C13_pjoin_segments_encoded (a b : Str) :
    stripTrail (splitOn 47 a) ++ splitOn 47 b = splitOn 47 (C13_pjoin a b) ∧
    (mem 46 b || mem 46 a) = mem 46 (C13_pjoin a b) := by
  unfold C13_pjoin
  rcases List.eq_nil_or_concat a with rfl | ⟨a', c, hac⟩
  · simp [splitOn, stripTrail, R4c.mem46_nil]
  · have hac' : a = a' ++ [c] := by simpa using hac
    subst hac'
    rw [if_neg (by simp), List.getLast?_concat]
    by_cases hc : c = 47
    · subst hc
      rw [if_pos rfl]
      have e1 : a' ++ [47] = a' ++ 47 :: [] := rfl
      have e2 : a' ++ [47] ++ b = a' ++ 47 :: b := by simp
      rw [e2, e1, splitOn_append 47, splitOn_append 47]
      constructor
      · simp [splitOn, stripTrail_concat_nil]
      · simp only [Yarl.mem_eq]
        simp [Bool.or_comm]
    · rw [if_neg (by simpa using hc)]
      have hl : (splitOn 47 (a' ++ [c])).getLast? ≠ some [] := by
        intro h
        rcases R4c.splitOn_last_nil _ h with h0 | h0
        · simp at h0
        · rw [List.getLast?_concat] at h0
          exact hc (Option.some.inj h0)
      have hst : stripTrail (splitOn 47 (a' ++ [c])) = splitOn 47 (a' ++ [c]) := by simp [stripTrail, hl]
      rw [splitOn_append 47, hst]
      refine ⟨rfl, ?_⟩
      have h47 : mem 46 (47 :: b) = mem 46 b := by
        rw [show (47 :: b) = [47] ++ b from rfl, R4c.mem46_append]
        have : mem 46 [47] = false := by decide
        rw [this]; rfl
      rw [R4c.mem46_append (a' ++ [c]) (47 :: b), h47]
      exact Bool.or_comm _ _

/-- GENERAL LAW with `encoded=True`: `u.joinpath(a, b, encoded=True)` IS `u.joinpath(pjoin(a, b), encoded=True)`
    as VALUES (errors included).  Only hypothesis: `b` does not start with '/' (joinpath raises ValueError for such an
    argument, the joined text would not).  No `PyStr`, no surrogate guard: nothing is quoted. -/
theorem C13_joinpath_two_eq_truediv_encoded (e : Env) (u : Url) (a b : Str) (hb0 : b.head? ≠ some 47) :
    makeChild e u [a, b] true = makeChild e u [C13_pjoin a b] true := by
  by_cases ha0 : a.head? = some 47
  · have hp : (C13_pjoin a b).head? = some 47 := by
      unfold C13_pjoin
      cases a with
      | nil => simp at ha0
      | cons c r => rw [if_neg (by simp)]; split <;> simpa using ha0
    rw [makeChild_err e u [a, b] true ⟨a, by simp, ha0⟩, makeChild_err e u [_] true ⟨_, by simp, hp⟩]
  · obtain ⟨h1, h2⟩ := C13_pjoin_segments_encoded a b
    rw [makeChild_cons e u a b [] true (by
        intro p hp
        simp only [List.mem_cons, List.not_mem_nil, or_false] at hp
        rcases hp with rfl | rfl
        · exact ha0
        · exact hb0),
      makeChild_single e u _ true (C13_pjoin_head a b ha0 hb0)]
    have e1 : ∀ x : Str, argText e true x = x := fun x => by simp [argText]
    have e2 : argSegs e true [b] = splitOn 47 b := argSegs_single e true b
    have e3 : argDots e true [b] = mem 46 b := argDots_single e true b
    rw [e1, e1, e2, e3, h1, h2]

/-- "no climb" is sufficient for `joinpath(a, b) = joinpath(a).joinpath(b)` in EITHER `encoded` mode
    (`argText` = the text as it enters the path: `a` itself with `encoded=True`, `quote(a)` otherwise), as VALUES -/
theorem C13_joinpath_assoc_noclimb_gen (e : Env) (enc : Bool) (u : Url) (a b : Str) (v1 : Url)
    (hc : u.netloc ≠ [] → 46 ∈ argText e enc a →
      climbs 0 (root u.netloc (base u ++ splitOn 47 (argText e enc a))).tail = false)
    (h1 : makeChild e u [a] enc = .ok v1) :
    makeChild e u [a, b] enc = makeChild e v1 [b] enc := by
  have ha0 := heads_of_ok e u [a] enc v1 h1 a (by simp)
  rw [makeChild_single e u a enc ha0] at h1
  cases h1
  by_cases hb0 : b.head? = some 47
  · rw [makeChild_err e u [a, b] enc ⟨b, by simp, hb0⟩, makeChild_err e _ [b] enc ⟨b, by simp, hb0⟩]
  · refine makeChild_assoc_of_root_kept e u a b [] enc ?_ (fun hn hm => R4c.root_kept_of_noclimb u _ hn hm (hc hn hm))
    intro p hp
    simp only [List.mem_cons, List.not_mem_nil, or_false] at hp
    rcases hp with rfl | rfl
    · exact ha0
    · exact hb0

/-- the `encoded=True` version of `C13_joinpath_assoc_noclimb`, in its shape (successful results) -/
theorem C13_joinpath_assoc_noclimb_encoded (e : Env) (u : Url) (a b : Str) (v1 v2 w : Url)
    -- under an authority, when `a` has a '.' (otherwise nothing is normalised): "no climb"
    (hc : u.netloc ≠ [] → 46 ∈ a → climbs 0 (root u.netloc (base u ++ splitOn 47 a)).tail = false) :
    makeChild e u [a, b] true = .ok w → makeChild e u [a] true = .ok v1 →
    makeChild e v1 [b] true = .ok v2 → w = v2 := by
  intro hw h1 h2
  have := C13_joinpath_assoc_noclimb_gen e true u a b v1 (by simpa [argText] using hc) h1
  rw [hw, h2] at this
  exact Except.ok.inj this


/-! ### n ≥ 3 arguments: `joinpath(a₁, …, aₙ)` = `joinpath(a₁)….joinpath(aₙ)` under "no climb" -/

namespace R12b

/-- "no climb" on a call implies `hroot` for its first argument -/
theorem hroot_of_guard_cons (u : Url) (Q : Str) (Y : List Str) (hn : u.netloc ≠ []) (hm : 46 ∈ Q)
    (hg : climbs 0 (root u.netloc (base u ++ (stripTrail (splitOn 47 Q) ++ Y))).tail = false) :
    ∃ K', K' ≠ [] ∧ normalizePathSegments (root u.netloc (base u ++ splitOn 47 Q)) = [] :: K' := by
  obtain ⟨R, hR0, hR⟩ := childRoot_shape u Q hn hm
  rw [childRoot_cons_dot u Q Y R hR0 hR, List.tail_cons] at hg
  have h1 := climbs_append_left _ _ _ hg
  rw [climbs_stripTrail] at h1
  exact R4c.root_kept_of_noclimb u Q hn hm (by rw [hR]; exact h1)

/-- "no climb" is inherited by the intermediate URL -/
theorem guard_transfer (u : Url) (Q : Str) (Y : List Str) (hn : u.netloc ≠ [])
    (hg : climbs 0 (root u.netloc (base u ++ (stripTrail (splitOn 47 Q) ++ Y))).tail = false) :
    climbs 0 (root (childOf u (splitOn 47 Q) (mem 46 Q)).netloc
      (base (childOf u (splitOn 47 Q) (mem 46 Q)) ++ Y)).tail = false := by
  have hn' : u.netloc.isEmpty = false := by simpa using hn
  have hSA0 := splitOn_ne_nil 47 Q
  have hL : base u ++ splitOn 47 Q ≠ [] := by simp [hSA0]
  have hM : Segs (root u.netloc (base u ++ splitOn 47 Q)) := segs_childRoot u _ (segs_splitOn _)
  rw [DotMore.childOf_netloc]
  cases hm : mem 46 Q with
  | false =>
    have hb : base (childOf u (splitOn 47 Q) false) = stripTrail (root u.netloc (base u ++ splitOn 47 Q)) :=
      base_of_joinC _ _ hM (root_ne_nil _ hL) (by rw [childOf_false]; rfl)
    rw [hb, ← childRoot_cons u _ Y hSA0]
    exact hg
  | true =>
    have hm' : 46 ∈ Q := mem_iff.1 hm
    obtain ⟨R, hR0, hR⟩ := childRoot_shape u Q hn hm'
    rw [childRoot_cons_dot u Q Y R hR0 hR, List.tail_cons] at hg
    have h1 := climbs_append_left _ _ _ hg
    have h1' : climbs 0 R = false := by rw [← climbs_stripTrail]; exact h1
    have hK := DotMore.normalizePathSegments_root_noclimb R hR0 h1'
    have hK0 := DotMore.normalizePathSegments_ne_nil R hR0
    have hKs : Segs ([] :: normalizePathSegments R) := by
      rw [← hK, ← hR]; exact normalizePathSegments_no_sep _ hM
    have hv1 : childOf u (splitOn 47 Q) true
        = fromParts u.scheme u.netloc (joinC 47 ([] :: normalizePathSegments R)) [] [] := by
      rw [childOf_true u _ hn', hR, hK, fixRoot_rooted _ hK0]
    have hb : base (childOf u (splitOn 47 Q) true) = [] :: stripTrail (normalizePathSegments R) := by
      rw [base_of_joinC _ _ hKs (by simp) (by rw [hv1]; rfl), stripTrail_cons _ _ hK0]
    rw [hb, List.cons_append, root_of_head, List.tail_cons, ← normLoop_stripTrail,
      climbs_noDots _ _ (noDots_stack _), Nat.zero_add, ← climbs_append_noclimb _ _ [] h1]
    exact hg

theorem argSegs_cons_cons (e : Env) (enc : Bool) (a b : Str) (r : List Str) :
    argSegs e enc (a :: b :: r) = stripTrail (splitOn 47 (argText e enc a)) ++ argSegs e enc (b :: r) := rfl

theorem nary_aux (e : Env) (enc : Bool) : ∀ (ps : List Str) (u : Url), ps ≠ [] →
    (2 ≤ ps.length → u.netloc ≠ [] →
      climbs 0 (root u.netloc (base u ++ argSegs e enc ps.dropLast)).tail = false) →
    makeChild e u ps enc = ps.foldlM (fun v a => makeChild e v [a] enc) u := by
  refine nary_of_guard e enc (fun ps u => 2 ≤ ps.length → u.netloc ≠ [] →
    climbs 0 (root u.netloc (base u ++ argSegs e enc ps.dropLast)).tail = false) ?_ ?_
  · intro u a b r hg hn hm
    have hg' := hg (by simp) hn
    rw [show (a :: b :: r).dropLast = a :: (b :: r).dropLast by simp] at hg'
    cases r with
    | nil =>
      have : argSegs e enc (a :: [b].dropLast) = splitOn 47 (argText e enc a) := by simp [argSegs]
      rw [this] at hg'
      exact R4c.root_kept_of_noclimb u _ hn hm hg'
    | cons c r' =>
      rw [show (b :: c :: r').dropLast = b :: (c :: r').dropLast by simp, argSegs_cons_cons] at hg'
      exact hroot_of_guard_cons u _ _ hn hm hg'
  · intro u a b r hg hlen hn1
    have hn : u.netloc ≠ [] := by rw [DotMore.childOf_netloc] at hn1; exact hn1
    obtain ⟨c, r', rfl⟩ : ∃ c r', r = c :: r' := by
      cases r with
      | nil => simp at hlen
      | cons c r' => exact ⟨c, r', rfl⟩
    have hdl2 : (b :: c :: r').dropLast = b :: (c :: r').dropLast := by simp
    have hg' := hg (by simp) hn
    rw [show (a :: b :: c :: r').dropLast = a :: (b :: c :: r').dropLast by simp, hdl2, argSegs_cons_cons] at hg'
    rw [hdl2]
    exact guard_transfer u _ _ hn hg'

end R12b

/-- n arguments (n ≥ 1), either `encoded` mode: `u.joinpath(a₁, …, aₙ)` is `u.joinpath(a₁).joinpath(a₂)….joinpath(aₙ)`
    — as VALUES of `R Url`, errors included — when, under an authority, the segment list of the call WITHOUT its last
    argument (`u.joinpath(a₁, …, aₙ₋₁)`: old segments, then `argSegs`, after the root's empty segment) does not climb:
    no ".." meets depth 0.  Lifts `C13_joinpath_assoc_noclimb` to n arguments; implied by (strictly weaker than) the
    guard of `C13_joinpath_nary` (no ".." at all). -/
theorem C13_joinpath_nary_noclimb (e : Env) (enc : Bool) (ps : List Str) (u : Url) (hne : ps ≠ [])
    (hg : u.netloc ≠ [] → climbs 0 (root u.netloc (base u ++ argSegs e enc ps.dropLast)).tail = false) :
    makeChild e u ps enc = ps.foldlM (fun v a => makeChild e v [a] enc) u :=
  nary_aux e enc ps u hne (fun _ => hg)

namespace R12b

/-- a list cut short (up to ONE trailing empty segment) climbs no more than the whole list -/
theorem climbs_root_prefix (n : Str) (A t Z : List Str) (ht : t = [] ∨ t = [[]])
    (h : climbs 0 (root n (A ++ Z)).tail = false) : climbs 0 (root n (A ++ t)).tail = false := by
  by_cases hA : A = []
  · subst hA
    rcases ht with rfl | rfl
    · simp [root, climbs]
    · simp [root, climbs]
  · rw [root_append n A Z hA] at h
    rw [root_append n A t hA]
    obtain ⟨y, Y', hy⟩ := List.exists_cons_of_ne_nil (root_ne_nil n hA)
    rw [hy] at h ⊢
    simp only [List.cons_append, List.tail_cons] at h ⊢
    have h1 := climbs_append_left _ _ _ h
    rcases ht with rfl | rfl
    · simpa using h1
    · rw [climbs_snoc_nil]; exact h1

theorem argSegs_append (e : Env) (enc : Bool) (l q0 : Str) (Q' : List Str) : ∀ P' : List Str,
    argSegs e enc (P' ++ l :: q0 :: Q')
      = (P'.map (fun p => stripTrail (splitOn 47 (argText e enc p)))).flatten ++
        (stripTrail (splitOn 47 (argText e enc l)) ++ argSegs e enc (q0 :: Q')) := by
  intro P'
  induction P' with
  | nil => rfl
  | cons a P'' ih =>
    cases P'' with
    | nil =>
      simp only [List.cons_append, List.nil_append] at ih ⊢
      rw [argSegs_cons_cons, ih]
      simp
    | cons b r =>
      simp only [List.cons_append] at ih ⊢
      rw [argSegs_cons_cons, ih]
      simp

theorem stripTrail_split (S : List Str) (hS : S ≠ []) : ∃ t, S = stripTrail S ++ t ∧ (t = [] ∨ t = [[]]) := by
  unfold stripTrail
  split
  · rename_i h
    refine ⟨[[]], ?_, Or.inr rfl⟩
    have h2 := List.getLast?_eq_some_getLast hS
    rw [h] at h2
    have h3 := List.dropLast_concat_getLast hS
    rw [← Option.some.inj h2] at h3
    exact h3.symm
  · exact ⟨[], by simp, Or.inl rfl⟩

end R12b

/-- "no climb before the last argument" IS "no climb on every proper prefix": if the segment list of
    `u.joinpath(a₁, …, a_m)` does not climb, neither does that of `u.joinpath(a₁, …, a_k)` for k < m (k = 0: the old
    segments alone) -/
theorem C13_noclimb_prefixes (e : Env) (enc : Bool) (u : Url) (P Q : List Str) (hQ : Q ≠ [])
    (hg : climbs 0 (root u.netloc (base u ++ argSegs e enc (P ++ Q))).tail = false) :
    climbs 0 (root u.netloc (base u ++ argSegs e enc P)).tail = false := by
  obtain ⟨q0, Q', rfl⟩ := List.exists_cons_of_ne_nil hQ
  rcases List.eq_nil_or_concat P with rfl | ⟨P', l, rfl⟩
  · have := climbs_root_prefix u.netloc (base u) [] _ (Or.inl rfl) hg
    simpa [argSegs] using this
  · have hP : P'.concat l ++ q0 :: Q' = P' ++ l :: q0 :: Q' := by simp
    have hP2 : P'.concat l = P' ++ [l] := by simp
    rw [hP, argSegs_append] at hg
    rw [hP2, argSegs_snoc]
    obtain ⟨t, ht, htt⟩ := stripTrail_split _ (splitOn_ne_nil 47 (argText e enc l))
    rw [ht]
    rw [← List.append_assoc, ← List.append_assoc] at hg
    rw [← List.append_assoc, ← List.append_assoc]
    exact climbs_root_prefix u.netloc _ t _ htt hg


/-! ### a FIXED pair (a, b) outside `hroot`: the exact condition -/

namespace R12b

theorem fromParts_path_inj (sc n p p' : Str) :
    fromParts sc n p [] [] = fromParts sc n p' [] [] ↔ p = p' :=
  ⟨fun h => congrArg Url.path h, fun h => by rw [h]⟩

/-- `fixRoot` of a join whose first segment is empty adds nothing; prefixing "/" then differs -/
theorem fixRoot_head_nil_ne (K : List Str) : fixRoot (joinC 47 ([] :: K)) ≠ 47 :: joinC 47 ([] :: K) := by
  cases K with
  | nil => simp [joinC, joinSep, fixRoot]
  | cons k K' =>
    rw [fixRoot_rooted _ (by simp)]
    intro h
    have := congrArg List.length h
    simp at this

/-- the segment-level computation behind `C13_joinpath_assoc_fixed_iff` -/
theorem fixed_core (u : Url) (qa : Str) (SB : List Str) (nnB : Bool) (hn' : u.netloc.isEmpty = false)
    (hdot : 46 ∈ qa)
    (hnot : ¬ ∃ K', K' ≠ [] ∧ normalizePathSegments (root u.netloc (base u ++ splitOn 47 qa)) = [] :: K')
    (hSB0 : SB ≠ []) (hSBs : Segs SB)
    (hSBh : SB.head? ≠ some [] ∨ (SB = [[]] ∧ nnB = false))
    (hnnB : nnB = false → NoDots SB) :
    childOf u (stripTrail (splitOn 47 qa) ++ SB) true = childOf (childOf u (splitOn 47 qa) true) SB nnB ↔
      (nnB = false ∨
       climbs (stripTrail (normalizePathSegments (root u.netloc (base u ++ splitOn 47 qa)))).length SB = true ∨
       (normalizePathSegments
          (stripTrail (normalizePathSegments (root u.netloc (base u ++ splitOn 47 qa))) ++ SB)).head? ≠ some []) := by
  generalize hTdef : stripTrail (normalizePathSegments (root u.netloc (base u ++ splitOn 47 qa))) = T
  obtain ⟨hTd, hTs, hs1, hn1, hT, hW⟩ := R4.first_step_stack u qa SB T hn' hdot hnot hSB0 hTdef
  rw [hW]
  -- the trivial second argument "" (only with nnB = false)
  by_cases hSB1 : SB = [[]] ∧ nnB = false
  · obtain ⟨rfl, rfl⟩ := hSB1
    refine iff_of_true ?_ (Or.inl rfl)
    have hnd : NoDots (T ++ [[]]) := noDots_append hTd (by intro s hs; simp at hs; subst hs; exact ⟨by decide, by decide⟩)
    rw [normalizePathSegments_noDots _ hnd, childOf_false, hs1, hn1]
    rcases hT with ⟨hT0, hb⟩ | ⟨k, P, hP, hk, hb⟩
    · rw [hT0, hb]; simp [root, fixRoot, joinC, joinSep]
    · rw [hb, List.cons_append, root_of_head, hP, List.cons_append,
        R4c.fixRoot_unrooted k _ hk (hTs k (by rw [hP]; simp))]
  · have hSBh' : SB.head? ≠ some [] := by
      rcases hSBh with h | h
      · exact h
      · exact absurd h hSB1
    -- the second step runs on `"" :: Z`, `Z = T ++ SB` starting with a non-empty segment
    obtain ⟨hM2, hZh, _⟩ := R4.second_step u qa SB T hn' hdot hnot hSBh' hSB0 hTdef
    have hZ0 : T ++ SB ≠ [] := List.append_ne_nil_of_right_ne_nil T hSB0
    obtain ⟨z0, Z', hZ⟩ := List.exists_cons_of_ne_nil hZ0
    have hz0 : z0 ≠ [] := by
      rw [hZ] at hZh
      simpa using hZh
    have hZs : Segs (T ++ SB) := segs_append hTs hSBs
    have hcl : climbs 0 (T ++ SB) = climbs (T).length SB := by
      rw [climbs_noDots _ _ hTd, Nat.zero_add]
    cases nnB with
    | false =>
      refine iff_of_true ?_ (Or.inl rfl)
      have hnd : NoDots (T ++ SB) := noDots_append hTd (hnnB rfl)
      rw [normalizePathSegments_noDots _ hnd, childOf_false, hs1, hn1, hM2, hZ,
        R4c.fixRoot_unrooted z0 Z' hz0 (by rw [hZ] at hZs; exact hZs z0 (by simp))]
    | true =>
      rw [childOf_true _ _ (by rw [hn1]; exact hn'), hs1, hn1, hM2, fromParts_path_inj, ← hcl]
      cases hc : climbs 0 (T ++ SB) with
      | true =>
        rw [DotMore.normalizePathSegments_root_climb _ hZ0 hc]
        exact iff_of_true rfl (Or.inr (Or.inl rfl))
      | false =>
        rw [DotMore.normalizePathSegments_root_noclimb _ hZ0 hc]
        have hNZ0 := DotMore.normalizePathSegments_ne_nil _ hZ0
        have hNZs := normalizePathSegments_no_sep _ hZs
        rw [DotMore.joinC_root_cons _ hNZ0, DotMore.fixRoot_cons]
        obtain ⟨k', K'', hNZ⟩ := List.exists_cons_of_ne_nil hNZ0
        rw [hNZ] at hNZs ⊢
        by_cases hk' : k' = []
        · subst hk'
          refine iff_of_false (fixRoot_head_nil_ne K'') ?_
          simp
        · refine iff_of_true ?_ (Or.inr (Or.inr (by simpa using hk')))
          rw [R4c.fixRoot_unrooted k' K'' hk' (hNZs k' (by simp)), DotMore.joinC_root_cons _ (by simp)]

end R12b

/-- the segments the first step `u.joinpath(a)` leaves when it normalises (a trailing empty one not counted) -/
def C13_left (e : Env) (enc : Bool) (u : Url) (a : Str) : List Str :=
  stripTrail (normalizePathSegments (root u.netloc (base u ++ splitOn 47 (argText e enc a))))

/-- `hroot`: normalising the first step keeps the root's empty segment, followed by something -/
def C13_hroot (e : Env) (enc : Bool) (u : Url) (a : Str) : Prop :=
  ∃ K', K' ≠ [] ∧ normalizePathSegments (root u.netloc (base u ++ splitOn 47 (argText e enc a))) = [] :: K'

/-- the stored-value condition of one peeling step (`C13_beqStep`, C13UpToEq.lean, adds one clause for `==`) -/
def C13_storedStep (e : Env) (enc : Bool) (u : Url) (a : Str) (rest : List Str) : Prop :=
  u.netloc = [] ∨ 46 ∉ argText e enc a ∨ C13_hroot e enc u a ∨
  argDots e enc rest = false ∨
  climbs (C13_left e enc u a).length (argSegs e enc rest) = true ∨
  (normalizePathSegments (C13_left e enc u a ++ argSegs e enc rest)).head? ≠ some []

/-- the first step's result -/
def C13_first (e : Env) (enc : Bool) (u : Url) (a : Str) : Url :=
  childOf u (splitOn 47 (argText e enc a)) (mem 46 (argText e enc a))

namespace R12b

theorem argDots_of_single_nil (e : Env) (enc : Bool) : ∀ ps : List Str, argSegs e enc ps = [[]] →
    argDots e enc ps = false := by
  intro ps
  induction ps with
  | nil => intro _; rfl
  | cons a ps ih =>
    intro h
    cases ps with
    | nil =>
      simp only [argSegs] at h
      simp [argDots, splitOn_eq_single_nil h, mem]
    | cons b r =>
      simp only [argSegs] at h
      have hne : argSegs e enc (b :: r) ≠ [] := argSegs_ne_nil e enc _ (by simp)
      have h1 : stripTrail (splitOn 47 (argText e enc a)) = [] := by
        cases hs : stripTrail (splitOn 47 (argText e enc a)) with
        | nil => rfl
        | cons x X =>
          rw [hs] at h
          have := congrArg List.length h
          have hl : 0 < (argSegs e enc (b :: r)).length := List.length_pos_iff.2 hne
          simp only [List.length_append, List.length_cons, List.length_nil] at this; omega
      rw [h1, List.nil_append] at h
      have ha := splitOn_eq_single_nil (stripTrail_eq_nil (splitOn_ne_nil _ _) h1)
      have := ih h
      simp only [argDots, List.any_cons] at this ⊢
      rw [this, ha]; rfl

/-- ONE peeling step of `u.joinpath(a, b, …)`, as stored values, either `encoded` mode, exactly: peeling the first
    argument off changes nothing iff `C13_storedStep`.  Its first three clauses are `makeChild_assoc_of_root_kept`, the
    others `fixed_core`. -/
theorem step_stored (e : Env) (enc : Bool) (u : Url) (a b : Str) (r : List Str)
    (hh : ∀ p ∈ a :: b :: r, p.head? ≠ some 47)
    (hq : ∀ p ∈ b :: r, (argText e enc p).head? ≠ some 47) :
    makeChild e u (a :: b :: r) enc = makeChild e (C13_first e enc u a) (b :: r) enc ↔
      C13_storedStep e enc u a (b :: r) := by
  by_cases heasy : u.netloc = [] ∨ 46 ∉ argText e enc a ∨ C13_hroot e enc u a
  · refine iff_of_true (makeChild_assoc_of_root_kept e u a b r enc hh fun hn hm => ?_) ?_
    · exact (heasy.resolve_left hn).resolve_left (not_not_intro hm)
    · rcases heasy with h | h | h
      · exact Or.inl h
      · exact Or.inr (Or.inl h)
      · exact Or.inr (Or.inr (Or.inl h))
  · have hn' : u.netloc ≠ [] := fun h => heasy (Or.inl h)
    have hm : 46 ∈ argText e enc a := Classical.not_not.1 fun h => heasy (Or.inr (Or.inl h))
    have hroot : ¬ C13_hroot e enc u a := fun h => heasy (Or.inr (Or.inr h))
    have hn : u.netloc.isEmpty = false := by simpa using hn'
    have hSBh : (argSegs e enc (b :: r)).head? ≠ some [] ∨
        (argSegs e enc (b :: r) = [[]] ∧ argDots e enc (b :: r) = false) := by
      rcases argSegs_head e enc (b :: r) (by simp) hq with h | h
      · exact Or.inl h
      · exact Or.inr ⟨h, argDots_of_single_nil e enc _ h⟩
    have hs := fixed_core u (argText e enc a) (argSegs e enc (b :: r)) (argDots e enc (b :: r)) hn hm hroot
      (argSegs_ne_nil e enc _ (by simp)) (segs_argSegs e enc _) hSBh (argDots_false e enc _)
    unfold C13_first
    rw [makeChild_cons e u a b r enc hh,
      makeChild_n e _ (b :: r) enc (fun p hp => hh p (List.mem_cons_of_mem _ hp)),
      mem_iff.2 hm, Bool.or_true, Except.ok.injEq, hs]
    unfold C13_storedStep C13_left
    simp only [hn', hm, hroot, not_true_eq_false, false_or]

end R12b

/-- THE EXACT CONDITION FOR A FIXED PAIR (a, b), outside `hroot`.  Setting: authority, a '.' in `quote(a)` (the
    first step normalises), the first step succeeds (`v1 = u / a`), and `hroot` FAILS — the first step consumed the
    root or lost the root's empty segment (in every other case the two forms always agree:
    `C13_joinpath_assoc_iff`, `C13_joinpath_assoc_nodots`).  With `T` = the segments the first step leaves (a trailing
    empty one not counted) and `SB` = the segments of `quote(b)`:
    `u.joinpath(a, b)` and `(u / a) / b` are the same VALUE  IF AND ONLY IF
      `quote(b)` has no '.'  (the second step does not normalise), or
      `b` climbs above what the first step left (a ".." of `SB` meets depth 0, starting at depth `|T|`), or
      the normalised list of `T ++ SB` does not begin with an empty segment (the one-call path has no "//" in front).
    Hypotheses on `b`: it does not start with '/' (else both raise ValueError: equal), and `quote(b)` does not start
    with '/' (true for every `b` without lone surrogates: `q_path_head`). -/
theorem C13_joinpath_assoc_fixed_iff (e : Env) (u : Url) (a b : Str) (v1 : Url)
    (hn : u.netloc ≠ [])                                  -- under an authority
    (hdot : 46 ∈ q e Gen.PATH_QUOTER a)                   -- the first step normalises
    (hnot : ¬ ∃ K', K' ≠ [] ∧ normalizePathSegments (childSegments e u a) = [] :: K')   -- `hroot` FAILS
    (h1 : makeChild e u [a] false = .ok v1)               -- `v1 = u / a`
    (hb0 : b.head? ≠ some 47)
    (hqb0 : (q e Gen.PATH_QUOTER b).head? ≠ some 47) :
    makeChild e u [a, b] false = makeChild e v1 [b] false ↔
      (46 ∉ q e Gen.PATH_QUOTER b ∨
       climbs (stripTrail (normalizePathSegments (childSegments e u a))).length
         (splitOn 47 (q e Gen.PATH_QUOTER b)) = true ∨
       (normalizePathSegments (stripTrail (normalizePathSegments (childSegments e u a)) ++
          splitOn 47 (q e Gen.PATH_QUOTER b))).head? ≠ some []) := by
  have ha0 : a.head? ≠ some 47 := makeChild_head e u a [] v1 h1
  rw [makeChild_one e u a ha0] at h1
  cases h1
  have hd : 46 ∈ argText e false a := hdot
  have hr : ¬ C13_hroot e false u a := hnot
  have hq : ∀ p ∈ [b], (argText e false p).head? ≠ some 47 := fun p hp => List.mem_singleton.1 hp ▸ hqb0
  have hstep := step_stored e false u a b [] (by simp [ha0, hb0]) hq
  simp only [C13_storedStep, hn, hd, hr, not_true_eq_false, false_or, argDots, List.any_cons, List.any_nil,
    Bool.or_false, Bool.eq_false_iff, ne_eq, mem_iff] at hstep
  exact hstep


/-- the same as ONE equivalence for every pair under an authority whose first step normalises: the two forms are
    the same value iff `hroot` holds or the fixed-pair condition does -/
theorem C13_joinpath_assoc_pair_iff (e : Env) (u : Url) (a b : Str) (v1 : Url)
    (hn : u.netloc ≠ []) (hdot : 46 ∈ q e Gen.PATH_QUOTER a) (h1 : makeChild e u [a] false = .ok v1)
    (hb0 : b.head? ≠ some 47) (hqb0 : (q e Gen.PATH_QUOTER b).head? ≠ some 47) :
    makeChild e u [a, b] false = makeChild e v1 [b] false ↔
      ((∃ K', K' ≠ [] ∧ normalizePathSegments (childSegments e u a) = [] :: K') ∨
       46 ∉ q e Gen.PATH_QUOTER b ∨
       climbs (stripTrail (normalizePathSegments (childSegments e u a))).length
         (splitOn 47 (q e Gen.PATH_QUOTER b)) = true ∨
       (normalizePathSegments (stripTrail (normalizePathSegments (childSegments e u a)) ++
          splitOn 47 (q e Gen.PATH_QUOTER b))).head? ≠ some []) := by
  by_cases hroot : ∃ K', K' ≠ [] ∧ normalizePathSegments (childSegments e u a) = [] :: K'
  · exact iff_of_true ((C13_joinpath_assoc_iff e u a v1 hn hdot h1).2 hroot b) (Or.inl hroot)
  · rw [C13_joinpath_assoc_fixed_iff e u a b v1 hn hdot hroot h1 hb0 hqb0]
    constructor
    · exact Or.inr
    · rintro (h | h)
      · exact absurd h hroot
      · exact h

/-- corollary, UNCONDITIONAL in `u` and `a`: a second argument whose quoted text has NO '.' always composes —
    `u.joinpath(a, b)` is `(u / a) / b` as values, also when the first step consumed or lost the root -/
theorem C13_joinpath_assoc_second_without_dot (e : Env) (u : Url) (a b : Str) (v1 : Url)
    (h1 : makeChild e u [a] false = .ok v1)
    (hd : 46 ∉ q e Gen.PATH_QUOTER b)                     -- no '.' in the quoted SECOND argument
    (hqb0 : (q e Gen.PATH_QUOTER b).head? ≠ some 47) :    -- true for every `b` without lone surrogates
    makeChild e u [a, b] false = makeChild e v1 [b] false := by
  by_cases hb0 : b.head? = some 47
  · rw [makeChild_err e u [a, b] false ⟨b, by simp, hb0⟩, makeChild_err e v1 [b] false ⟨b, by simp, hb0⟩]
  · by_cases hc : u.netloc ≠ [] ∧ 46 ∈ q e Gen.PATH_QUOTER a
    · exact (C13_joinpath_assoc_pair_iff e u a b v1 hc.1 hc.2 h1 hb0 hqb0).2 (Or.inr (Or.inl hd))
    · refine C13_joinpath_assoc_noclimb_gen e false u a b v1 ?_ h1
      intro hn hm
      exact absurd ⟨hn, by simpa [argText] using hm⟩ hc

/-- "no '..' segment in `b`" is NOT sufficient (and by `C13_noclimb_weaker_than_no_dotdot` not necessary either):
    `URL("http://h").joinpath("..", ".//x")` is `http://h/x` but `(URL("http://h") / "..") / ".//x"` is `http://h//x`,
    and ".//x" has no ".." segment; the exact condition of `C13_joinpath_assoc_fixed_iff` fails there (a '.' in `b`, no
    climb, and the normalised list `["", "x"]` begins with an empty segment), while it holds for `b = "c.txt"` (third
    clause) and `b = "../x"` (second clause), where the two forms agree. -/
theorem C13_joinpath_assoc_fixed_instances : ∀ bk : Backend,
    let e : Env := ⟨bk, Oracles.empty⟩
    let u := fromParts "http".toStr "h".toStr [] [] []
    let U := fun (p : String) => fromParts "http".toStr "h".toStr p.toStr [] []
    makeChild e u ["..".toStr] false = .ok u ∧
    normalizePathSegments (childSegments e u "..".toStr) = [[]] ∧
    -- b = ".//x": no ".." segment, the condition FAILS, the values differ
    dotdot ∉ splitOn 47 (q e Gen.PATH_QUOTER ".//x".toStr) ∧
    makeChild e u ["..".toStr, ".//x".toStr] false = .ok (U "/x") ∧
    makeChild e u [".//x".toStr] false = .ok (U "//x") ∧
    (46 ∈ q e Gen.PATH_QUOTER ".//x".toStr ∧
     climbs 0 (splitOn 47 (q e Gen.PATH_QUOTER ".//x".toStr)) = false ∧
     (normalizePathSegments ([] ++ splitOn 47 (q e Gen.PATH_QUOTER ".//x".toStr))).head? = some []) ∧
    -- b = "c.txt": third clause, the values agree
    makeChild e u ["..".toStr, "c.txt".toStr] false = .ok (U "/c.txt") ∧
    makeChild e u ["c.txt".toStr] false = .ok (U "/c.txt") ∧
    (normalizePathSegments ([] ++ splitOn 47 (q e Gen.PATH_QUOTER "c.txt".toStr))).head? ≠ some [] ∧
    -- b = "../x": second clause (b climbs), the values agree
    makeChild e u ["..".toStr, "../x".toStr] false = .ok (U "/x") ∧
    makeChild e u ["../x".toStr] false = .ok (U "/x") ∧
    climbs 0 (splitOn 47 (q e Gen.PATH_QUOTER "../x".toStr)) = true := by
  dsimp only; str_lits; intro bk; cases bk <;> decide +kernel

/-- the guard of `C13_joinpath_nary_noclimb` is needed for n = 3: `URL("http://h").joinpath("..", ".//x", "y")` is
    `http://h/x/y`, the iterated form `((u / "..") / ".//x") / "y"` is `http://h//x/y`; the segment list before the last
    argument climbs -/
theorem C13_joinpath_nary_fails_when_climbing : ∀ bk : Backend,
    let e : Env := ⟨bk, Oracles.empty⟩
    let u := fromParts "http".toStr "h".toStr [] [] []
    let ps := ["..".toStr, ".//x".toStr, "y".toStr]
    makeChild e u ps false = .ok (fromParts "http".toStr "h".toStr "/x/y".toStr [] []) ∧
    ps.foldlM (fun v a => makeChild e v [a] false) u = .ok (fromParts "http".toStr "h".toStr "//x/y".toStr [] []) ∧
    climbs 0 (root u.netloc (base u ++ argSegs e false ps.dropLast)).tail = true := by
  str_lits; intro bk; cases bk <;> decide +kernel

/-- the equivalences above compare STORED values.  One separating pair differs only in
    the stored path "" / "/" of the bare authority — equal as Python `==`, different as `str()`:
    `URL("http://h").joinpath("..", ".")` is `http://h`, `(URL("http://h") / "..") / "."` is `http://h/` -/
theorem C13_joinpath_assoc_fixed_eq_only_instance : ∀ bk : Backend,
    let e : Env := ⟨bk, Oracles.empty⟩
    let u := fromParts "http".toStr "h".toStr [] [] []
    makeChild e u ["..".toStr, ".".toStr] false = .ok u ∧
    makeChild e u [".".toStr] false = .ok (fromParts "http".toStr "h".toStr "/".toStr [] []) ∧
    eqKey u = eqKey (fromParts "http".toStr "h".toStr "/".toStr [] []) ∧
    u ≠ fromParts "http".toStr "h".toStr "/".toStr [] [] := by
  str_lits; intro bk; cases bk <;> decide +kernel

/-- the guard of `C13_joinpath_nary` ("no '..' in the old path or in any argument but the last") implies the
    guard of `C13_joinpath_nary_noclimb` -/
theorem C13_nary_noclimb_of_no_dotdot (e : Env) (enc : Bool) (ps : List Str) (u : Url)
    (hdd : dotdot ∉ splitOn 47 u.path ∧ ∀ a ∈ ps.dropLast, dotdot ∉ splitOn 47 (argText e enc a)) :
    climbs 0 (root u.netloc (base u ++ argSegs e enc ps.dropLast)).tail = false := by
  apply PathLemmas.climbs_false_of_no_dotdot
  intro h
  rcases mem_root (List.mem_of_mem_tail h) with h0 | h0
  · simp [dotdot] at h0
  · rcases List.mem_append.1 h0 with h1 | h1
    · exact hdd.1 (mem_base h1)
    · obtain ⟨p, hp, hx⟩ := mem_argSegs e enc _ _ h1
      exact hdd.2 p hp hx

/-! ## non-vacuity (both backends; Python-level inputs) -/
section checks
private def eC (b : Backend) : Env := { b := b, o := Oracles.empty }
private def uD : Url := fromParts "http".toStr "h".toStr "/a/../b".toStr "k=v".toStr "f".toStr
private def uK : Url := fromParts "http".toStr "h".toStr "/k/".toStr [] []
private def sh (r : R Url) : Option (List Str) := (r.map rawParts).toOption

/-- `C13_child_norm_closed` / `C13_child_norm_name_parent` / `C13_child_norm_parent` on an old path WITH dot segments
    and an argument with '/' and "..": `URL("http://h/a/../b?k=v#f", encoded=True) / "x/../c d.txt"` has parts
    ("/", "b", "c%20d.txt"), the closed form says so, its parent is `http://h/b`; with a trailing ".." the name is "" -/
example : ∀ b : Backend,
    uD.netloc ≠ [] ∧ 46 ∈ q (eC b) Gen.PATH_QUOTER "x/../c d.txt".toStr ∧ PyStr "x/../c d.txt".toStr ∧
    splitOn 47 "x/../c d.txt".toStr = ["x".toStr, "..".toStr] ++ ["c d.txt".toStr] ∧
    sh (makeChild (eC b) uD ["x/../c d.txt".toStr] false) = some ["/".toStr, "b".toStr, "c%20d.txt".toStr] ∧
    [47] :: C13_dropRootSeg (normalizePathSegments (childSegments (eC b) uD "x/../c d.txt".toStr))
      = ["/".toStr, "b".toStr, "c%20d.txt".toStr] ∧
    [47] :: C13_dropRootSeg (normLoop [] (root uD.netloc (base uD ++
        ["x".toStr, "..".toStr].map (q (eC b) Gen.PATH_QUOTER)))) = ["/".toStr, "b".toStr] ∧
    ((makeChild (eC b) uD ["x/../c d.txt".toStr] false).map parent).toOption
      = some (fromParts "http".toStr "h".toStr "/b".toStr [] []) ∧
    sh (makeChild (eC b) uD ["x/..".toStr] false) = some ["/".toStr, "b".toStr, []] ∧
    sh (makeChild (eC b) uD ["../..".toStr] false) = some ["/".toStr] := by
  simp only [uD]; str_lits; intro b; cases b <;> decide +kernel

/-- `C13_joinpath_norm_parent_trailing`: a trailing ".." — `(URL("http://h/a/../b", encoded=True) / "x/..").parent` is
    `http://h/b`; climbing above the root gives the bare authority, which is its own parent -/
example : ∀ b : Backend,
    (splitOn 47 (q (eC b) Gen.PATH_QUOTER "x/..".toStr)).getLast? = some dotdot ∧
    ((makeChild (eC b) uD ["x/..".toStr] false).map parent).toOption
      = some (fromParts "http".toStr "h".toStr "/b".toStr [] []) ∧
    makeChild (eC b) uD ["../../..".toStr] false = .ok (fromParts "http".toStr "h".toStr [] [] []) ∧
    parent (fromParts "http".toStr "h".toStr [] [] []) = fromParts "http".toStr "h".toStr [] [] [] := by
  simp only [uD]; str_lits; intro b; cases b <;> decide +kernel

/-- `C13_joinpath_norm_closed` / `C13_joinpath_norm_name_parent` / `C13_joinpath_norm_parent` with THREE arguments,
    both `encoded` modes -/
example : ∀ b : Backend,
    argDots (eC b) false ["x/".toStr, "../y z".toStr, "w.q".toStr] = true ∧
    argSegs (eC b) false ["x/".toStr, "../y z".toStr, "w.q".toStr]
      = ["x".toStr, "..".toStr, "y%20z".toStr] ++ ["w.q".toStr] ∧
    sh (makeChild (eC b) uD ["x/".toStr, "../y z".toStr, "w.q".toStr] false)
      = some ["/".toStr, "b".toStr, "y%20z".toStr, "w.q".toStr] ∧
    argDots (eC b) true ["x/".toStr, "../y%20z".toStr, "w.q".toStr] = true ∧
    sh (makeChild (eC b) uD ["x/".toStr, "../y%20z".toStr, "w.q".toStr] true)
      = some ["/".toStr, "b".toStr, "y%20z".toStr, "w.q".toStr] ∧
    [47] :: C13_dropRootSeg (normLoop [] (root uD.netloc (base uD ++ ["x".toStr, "..".toStr, "y%20z".toStr])))
      = ["/".toStr, "b".toStr, "y%20z".toStr] := by
  simp only [uD]; str_lits; intro b; cases b <;> decide +kernel

/-- `C13_child_norm_closed_nodots`: `URL("http://h/k/") / "c.txt/d"` -/
example : ∀ b : Backend,
    PyStr "c.txt/d".toStr ∧ NoSurrogate "c.txt/d".toStr ∧ 46 ∈ "c.txt/d".toStr ∧
    sh (makeChild (eC b) uK ["c.txt/d".toStr] false) = some ["/".toStr, "k".toStr, "c.txt".toStr, "d".toStr] := by
  simp only [uK]; str_lits; intro b; cases b <;> decide +kernel
example : NoDots (splitOn 47 uK.path) ∧ NoDots (splitOn 47 "c.txt/d".toStr) := by
  constructor <;> (unfold NoDots; decide +kernel)

/-- `C13_child_name_any_old_path_decoded`: s = "c d.txt" on the dotted old path — decoded name and parent parts -/
example : ∀ b : Backend,
    PyStr "c d.txt".toStr ∧ NoSurrogate "c d.txt".toStr ∧ 47 ∉ "c d.txt".toStr ∧ 46 ∈ "c d.txt".toStr ∧
    ((makeChild (eC b) uD ["c d.txt".toStr] false).bind (name (eC b))).toOption = some "c d.txt".toStr ∧
    ((makeChild (eC b) uD ["c d.txt".toStr] false).map (fun v => (partsDecoded (eC b) v).dropLast)).toOption
      = some ["/".toStr, "b".toStr] := by
  simp only [uD]; str_lits; intro b; cases b <;> decide +kernel

/-- `C13_child_parent_parts_iff_rooted`, the rooted side: `URL("http://h/k/") / "c"` -/
example : ∀ b : Backend, 46 ∉ q (eC b) Gen.PATH_QUOTER "c".toStr ∧
    sh (makeChild (eC b) uK ["c".toStr] false) = some ["/".toStr, "k".toStr, "c".toStr] ∧
    stripTrail (rawParts uK) = ["/".toStr, "k".toStr] := by
  simp only [uK]; str_lits; intro b; cases b <;> decide +kernel

/-- `C13_joinpath_two_eq_truediv_encoded`: all three branches and the error case, `encoded=True` -/
example : ∀ b : Backend,
    makeChild (eC b) uK ["x%20y".toStr, "b.c".toStr] true = makeChild (eC b) uK ["x%20y/b.c".toStr] true ∧
    makeChild (eC b) uK ["x%20y/b.c".toStr] true = .ok (fromParts "http".toStr "h".toStr "/k/x%20y/b.c".toStr [] []) ∧
    makeChild (eC b) uK ["x//".toStr, "b".toStr] true = .ok (fromParts "http".toStr "h".toStr "/k/x//b".toStr [] []) ∧
    makeChild (eC b) uK ["x//b".toStr] true = .ok (fromParts "http".toStr "h".toStr "/k/x//b".toStr [] []) ∧
    makeChild (eC b) uK ["/x".toStr, "b".toStr] true = .error .valueError := by
  simp only [uK]; str_lits
  intro b
  refine ⟨C13_joinpath_two_eq_truediv_encoded (eC b) _ _ _ (by decide), ?_⟩
  cases b <;> decide +kernel

/-- `C13_joinpath_assoc_noclimb_encoded` / `C13_joinpath_assoc_noclimb_gen`: a ".." that stays below the root -/
example : ∀ b : Backend,
    climbs 0 (root uK.netloc (base uK ++ splitOn 47 "x/../y".toStr)).tail = false ∧
    makeChild (eC b) uK ["x/../y".toStr, "z".toStr] true = .ok (fromParts "http".toStr "h".toStr "/k/y/z".toStr [] []) ∧
    makeChild (eC b) uK ["x/../y".toStr] true = .ok (fromParts "http".toStr "h".toStr "/k/y".toStr [] []) ∧
    makeChild (eC b) (fromParts "http".toStr "h".toStr "/k/y".toStr [] []) ["z".toStr] true
      = .ok (fromParts "http".toStr "h".toStr "/k/y/z".toStr [] []) := by
  simp only [uK]; str_lits; intro b; cases b <;> decide +kernel

/-- `C13_joinpath_nary_noclimb` with THREE arguments and ".." segments that do not climb (the guard of
    `C13_joinpath_nary` — no ".." at all — fails here), through the theorem -/
example : ∀ b : Backend,
    makeChild (eC b) uK ["x/../y".toStr, "../z/".toStr, "../w.q".toStr] false
      = ["x/../y".toStr, "../z/".toStr, "../w.q".toStr].foldlM (fun v a => makeChild (eC b) v [a] false) uK ∧
    makeChild (eC b) uK ["x/../y".toStr, "../z/".toStr, "../w.q".toStr] false
      = .ok (fromParts "http".toStr "h".toStr "/k/w.q".toStr [] []) ∧
    dotdot ∈ splitOn 47 (argText (eC b) false "x/../y".toStr) := by
  simp only [uK]; str_lits
  intro b
  refine ⟨C13_joinpath_nary_noclimb (eC b) false _ _ (by simp) (fun _ => by cases b <;> decide +kernel), ?_⟩
  cases b <;> decide +kernel

/-- `C13_joinpath_assoc_fixed_iff` / `C13_joinpath_assoc_pair_iff`: the hypotheses hold for `http://h`, a = ".."
    (`hroot` fails: the normalised list is `[""]`) and b = ".//x", "c.txt", "../x" (`C13_joinpath_assoc_fixed_instances`) -/
example : ∀ b : Backend,
    let u := fromParts "http".toStr "h".toStr [] [] []
    u.netloc ≠ [] ∧ 46 ∈ q (eC b) Gen.PATH_QUOTER "..".toStr ∧
    (¬ ∃ K', K' ≠ [] ∧ normalizePathSegments (childSegments (eC b) u "..".toStr) = [] :: K') ∧
    (".//x".toStr).head? ≠ some 47 ∧ (q (eC b) Gen.PATH_QUOTER ".//x".toStr).head? ≠ some 47 := by
  intro b u
  have hN : normalizePathSegments (childSegments (eC b) u "..".toStr) = [[]] := by cases b <;> decide +kernel
  refine ⟨by decide, by cases b <;> decide +kernel, ?_, by decide, by cases b <;> decide +kernel⟩
  rintro ⟨K', hK, h⟩
  rw [hN] at h
  exact hK (List.cons.inj h).2.symm
end checks

end Yarl
