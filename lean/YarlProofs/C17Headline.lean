import YarlProofs.Lemmas.HeadlineAux
import YarlProofs.C17
import YarlProofs.C17Build
import YarlProofs.C07
/-!
# C17 — Port semantics: explicit vs default, zero vs absent   (audit layer)

Continued in C17HeadlineMore.lean (theorems that need modules which import this file): explicit_port of
constructor results for every accepted input, sentence 2 on URLs WITH a pre-filled cache / on constructor and
`build` results / under the invariant `NetlocCanon`, and the general rejection of bad port texts (C17Ctor.lean,
C11Ctor.lean, C03Netloc.lean).  Continued further in C17HeadlineMore3.lean (the `encoded=True` family: explicit_port,
`build(port=…, encoded=True)`, with_port and str() on stored authorities that are arbitrary text; C07Encoded.lean,
C06Encoded.lean, C11Encoded.lean, C11ReachE.lean; GAPS 3, 4, 6 below).

Property statement (verbatim):

> explicit_port is the integer value of the port written in the URL, which must lie in 0-65535
> (non-numeric or out-of-range ports are rejected with ValueError); port falls back to the scheme default
> (http/ws 80, https/wss 443, ftp 21) only when none is written, and port 0 is distinct from absent.
> str(), host_port_subcomponent and is_default_port() omit or report the port as default exactly when it is
> absent or equals the scheme default; with_port(p) sets any valid p, clears on None, and rejects bools,
> non-integers and out-of-range values.

Reading guide.  `Written qf u user pw h port` (Lemmas/HeadlineAux.lean): `u` has no pre-filled cache and its
stored authority is the text `[user[:pw]@]host[:port]` that `make_netloc` writes (host in brackets iff it
contains ':').  `explicitPort`, `port`, `isDefaultPort`, `hostPortSubcomponent`, `str` are the accessors;
`defaultPort scheme` looks the scheme up in the generated `DEFAULT_PORTS`.  `withPort e u p kind`:
`kind` 0 = int-or-None, 1 = bool, 2 = any other type.
Continued further in C17HeadlineMore4.lean (headline theorems for the proof modules added after the last refresh:
C17More.lean; the GAPS block below cites them).
-/
namespace Yarl
open NetlocLemmas HeadB ParseLemmas

/-! ## Sentence 1 -/

/-- "explicit_port is the integer value of the port written in the URL" (`none` if none is written) -/
theorem C17_headline_explicit_port (e : Env) (qf : Str → Str) (u : Url) (user pw : Option Str) (h : Str)
    (port : Option Nat) (w : Written qf u user pw h port) : explicitPort e u = .ok port := by
  rw [w.eq]; exact C17_explicit_port_value e qf user pw h port _ _ _ _ w.user w.host w.port

/-- "which must lie in 0-65535": every explicit port a constructor (either mode) or build returned is in range -/
theorem C17_headline_port_range (e : Env) (u : Url) (p : Nat) (hp : explicitPort e u = .ok (some p)) :
    (∀ s, encodeUrl e s = .ok u → p ≤ 65535) ∧ (∀ s, preEncodedUrl e s = .ok u → p ≤ 65535) ∧
    (∀ a, a.encoded = false → build e a = .ok u → p ≤ 65535) ∧ (u.pre = none → p ≤ 65535) :=
  ⟨fun s h => C17_constructor_port e s u h p hp, fun s h => C17_preencoded_port e s u h p hp,
   fun a ha h => C17_build_port_range e a u ha h p hp, fun h => C17_explicit_port_range e u p h hp⟩

/-- "(non-numeric or out-of-range ports are rejected with ValueError)" — NEW here, at the level of
    `split_netloc`: `ps` is the text after the host's ':' ; `pyInt` is Python's `int()` -/
theorem C17_headline_port_rejected (o : Oracles) (n : Str) :
    let ps := (ParseLemmas.hostPort (ParseLemmas.userTriple n).2.2).2
    ps ≠ [] →
    (pyInt o ps = .ok none ∨ ∃ p, pyInt o ps = .ok (some p) ∧ ¬ (0 ≤ p ∧ p ≤ 65535)) →
    splitNetloc o n = .error .valueError := by
  intro ps hne h
  have hp : C07_portOf o ps = .error .valueError := by
    rw [portOf_of_ne_nil o hne]
    rcases h with h | ⟨p, h, hr⟩
    · rw [h]
    · rw [h]
      simp only [hr, if_false]
  rw [NetlocLemmas.splitNetloc_eq, NetlocLemmas.finish_eq]
  show (C07_portOf o ps).map _ = _
  rw [hp]
  rfl

/-- … and through the constructor, two computed instances (`http://h:99999/`, `http://h:8o/`) -/
theorem C17_headline_port_rejected_examples (b : Backend) :
    encodeUrl ⟨b, Oracles.empty⟩ "http://h:99999/".toStr = .error .valueError ∧
    encodeUrl ⟨b, Oracles.empty⟩ "http://h:8o/".toStr = .error .valueError := by
  cases b <;> exact ⟨by str_lits; decide +kernel, by str_lits; decide +kernel⟩

/-- "port falls back to the scheme default (http/ws 80, https/wss 443, ftp 21) only when none is written"
    -- Appendix E: C17_port ↦ this theorem (C17_port_fallback + C17_default_ports) -/
theorem C17_headline_port_fallback (e : Env) (u : Url) (ep : Option Nat) :
    (explicitPort e u = .ok ep → port e u = .ok (ep <|> defaultPort u.scheme)) ∧
    defaultPort "http".toStr = some 80 ∧ defaultPort "https".toStr = some 443 ∧
    defaultPort "ws".toStr = some 80 ∧ defaultPort "wss".toStr = some 443 ∧
    defaultPort "ftp".toStr = some 21 :=
  ⟨C17_port_fallback e u ep, C17_default_ports⟩

/-- "and port 0 is distinct from absent" -/
theorem C17_headline_zero_distinct (e : Env) (qf : Str → Str) (user pw : Option Str) (h : Str)
    (scheme path query fragment : Str) (hu : UserOK user) (hh : HostOK h) :
    explicitPort e (fromParts scheme (makeNetloc qf user pw (some (bracket h)) (some 0) false) path query fragment)
      = .ok (some 0) ∧
    explicitPort e (fromParts scheme (makeNetloc qf user pw (some (bracket h)) none false) path query fragment)
      = .ok none :=
  let r := C17_zero_distinct e qf user pw h scheme path query fragment hu hh; ⟨r.1, r.2.1⟩

/-! ## Sentence 2 -/

/-- "str() … omit[s] … the port … exactly when it is absent or equals the scheme default": the string is
    built from the stored authority, re-written without port when the port is the scheme default
    -- Appendix E: C17_str_omits ↦ this theorem (`portShown (str u)` became the explicit output text) -/
theorem C17_headline_str_omits (e : Env) (qf : Str → Str) (u : Url) (user pw : Option Str) (h : Str)
    (port0 : Option Nat) (w : Written qf u user pw h port0) :
    let shown := match (generalizing := false) port0 with
      | some p => if some p = defaultPort u.scheme then makeNetloc qf user pw (some (bracket h)) none false
                  else u.netloc
      | none => u.netloc
    let path' := if u.path.isEmpty && (!u.query.isEmpty || !u.fragment.isEmpty) then [47] else u.path
    str e u = .ok (unsplitResult u.scheme shown path' u.query u.fragment) := by
  revert w
  cases port0 <;> intro w <;>
  · have h0 := C17_str_omits_default_port e qf user pw h _ u.scheme u.path u.query u.fragment w.user w.host w.port
    simp only at h0 ⊢
    rw [← w.eq] at h0
    rw [w.netloc]
    exact h0

/-- "host_port_subcomponent … omit[s] …" (and strips trailing dots of the host) -/
theorem C17_headline_host_port_omits (e : Env) (qf : Str → Str) (u : Url) (user pw : Option Str) (h : Str)
    (port : Option Nat) (w : Written qf u user pw h port) :
    hostPortSubcomponent e u =
      .ok (some (match (generalizing := false) port with
        | none => bracket (rstripC 46 h)
        | some p =>
          if some p = defaultPort u.scheme then bracket (rstripC 46 h)
          else bracket (rstripC 46 h) ++ [58] ++ natToStr p)) := by
  revert w
  cases port <;> intro w <;>
  · have h0 := C17_host_port_omits_default e qf user pw h _ u.scheme u.path u.query u.fragment w.user w.host w.port
    rw [← w.eq] at h0; exact h0

/-- "is_default_port() … report[s] the port as default exactly when it is absent or equals the scheme
    default" (absent counts only when there is an authority at all) — any URL -/
theorem C17_headline_is_default_port (e : Env) (u : Url) (ep : Option Nat) :
    explicitPort e u = .ok ep →
    isDefaultPort e u = .ok (match ep with
      | none => !u.netloc.isEmpty
      | some p => decide (some p = defaultPort u.scheme)) :=
  C17_is_default_port e u ep

/-- "with_port(p) sets any valid p, clears on None" (0 included; everything else unchanged: C11) -/
theorem C17_headline_with_port (e : Env) (qf : Str → Str) (u : Url) (user pw : Option Str) (h : Str)
    (port0 : Option Nat) (np : Option Int) (w : Written qf u user pw h port0)
    (hnp : ∀ p, np = some p → 0 ≤ p ∧ p ≤ 65535) :
    ∃ v, withPort e u np 0 = .ok v ∧ explicitPort e v = .ok (np.map Int.toNat) := by
  rw [w.eq]
  cases np with
  | none =>
    obtain ⟨v, h1, h2, _⟩ := C17_with_port_clears e qf user pw h port0 u.scheme u.path u.query u.fragment w.user w.host w.port
    exact ⟨v, h1, h2⟩
  | some p =>
    obtain ⟨v, h1, h2, _⟩ := C17_with_port_sets e qf user pw h port0 u.scheme u.path u.query u.fragment p w.user w.host w.port (hnp p rfl)
    exact ⟨v, h1, h2⟩

/-- "and rejects bools, non-integers [TypeError] and out-of-range values [ValueError]" — any URL -/
theorem C17_headline_with_port_rejects (e : Env) (u : Url) (p : Option Int) (k : Nat) :
    (k ≠ 0 → withPort e u p k = .error .typeError) ∧
    (k = 0 → (∃ v, p = some v ∧ (v < 0 ∨ 65535 < v)) → withPort e u p k = .error .valueError) :=
  C17_with_port_rejects e u p k

/-! ## build(port=…) (not in the property text, same semantics) -/

/-- build(host=…, port=…): a port equal to the default of the LOWERED scheme `sc` (fix e21485a: the scheme is
    stored lower-case, so `build(scheme="HTTP", port=80)` drops the port) is DROPPED at build time, any other port
    in range (0 included) is kept; bad ports are rejected (exact precedence: `C17_build_port_rejects`).  `sc` is
    `lower a.scheme` for an ASCII scheme (`C17_headline_build_port_ascii`), the oracle's answer otherwise. -/
theorem C17_headline_build_port (e : Env) (a : BuildArgs) (u : Url) (henc : a.encoded = false)
    (hauth : a.authority = []) (hhost : a.host ≠ []) (sc : Str) (hsc : lowerAny e a.scheme = .ok sc) :
    build e a = .ok u →
    u.scheme = sc ∧
    explicitPort e u = .ok (match a.port with
      | none => none
      | some p => if some p.toNat = defaultPort sc then none else some p.toNat) ∧
    port e u = .ok (match a.port with
      | none => defaultPort sc
      | some p => some p.toNat) := by
  intro hb
  obtain ⟨sc', hsc', hs⟩ := C17_build_lowered e a u henc hb
  have : sc' = sc := by rw [hsc] at hsc'; exact (Except.ok.inj hsc').symm
  exact ⟨by rw [hs, this], (C17_build_port e a u henc hauth hhost sc hsc hb).1,
    C17_build_port_value e a u henc hauth hhost sc hsc hb⟩

/-- the ASCII instance, unconditional in the lowering step -/
theorem C17_headline_build_port_ascii (e : Env) (a : BuildArgs) (u : Url) (henc : a.encoded = false)
    (hauth : a.authority = []) (hhost : a.host ≠ []) (hasc : isAscii a.scheme = true) :
    build e a = .ok u →
    u.scheme = lower a.scheme ∧
    explicitPort e u = .ok (match a.port with
      | none => none
      | some p => if some p.toNat = defaultPort (lower a.scheme) then none else some p.toNat) ∧
    port e u = .ok (match a.port with
      | none => defaultPort (lower a.scheme)
      | some p => some p.toNat) :=
  C17_headline_build_port e a u henc hauth hhost _ (BuildFix.lowerAny_ascii e a.scheme hasc)

/-- build(port=…) "rejects bools, non-integers and out-of-range values", with the exact precedence `build` has: the
    authority/port conflict check comes first (it tests `port is not None`: ANY given port counts there), so a bool /
    non-int port is TypeError without `authority=` and ValueError with it; an int out of 0–65535 is ValueError in
    every case.  No guard.  (Cites `C17_build_port_rejects`, C17Build.lean.) -/
theorem C17_headline_build_port_rejects (e : Env) (a : BuildArgs) :
    (a.portKind ≠ 0 →
      (a.authority = [] → build e a = .error .typeError) ∧
      (a.authority ≠ [] → build e a = .error .valueError) ∧
      (build e a = .error .typeError ∨ build e a = .error .valueError)) ∧
    (∀ p, a.portKind = 0 → a.port = some p → (p < 0 ∨ 65535 < p) → build e a = .error .valueError) :=
  C17_build_port_rejects e a

/-! ## non-vacuity -/
private def e0 : Env := { b := .py, o := Oracles.empty }
private def u0 : Url :=
  fromParts "http".toStr (makeNetloc id (some "me".toStr) none (some (bracket "::1".toStr)) (some 80) false)
    "/p".toStr [] []
example : Written id u0 (some "me".toStr) none "::1".toStr (some 80) := ⟨rfl, rfl, by decide +kernel, by decide +kernel, by decide +kernel⟩
example : u0.netloc = "me@[::1]:80".toStr ∧ (str e0 u0).toOption = some "http://me@[::1]/p".toStr := by str_lits; decide +kernel
example : (ParseLemmas.hostPort (ParseLemmas.userTriple "h:99999".toStr).2.2).2 = "99999".toStr ∧
    pyInt Oracles.empty "99999".toStr = .ok (some 99999) := by str_lits; decide +kernel

/-
GAPS:
 1. CLOSED by C17_ctor_explicit_port, C17_cached_* and C17_netlocCanon_port_views (C17Ctor.lean) with
    C03_encodeUrl_netlocCanon / C03_build_netlocCanon (C03Netloc.lean), see (all in C17HeadlineMore.lean)
    C17_headline_ctor_explicit_port (+ _instances, _twin), C17_headline_ctor_is_default_port,
    C17_headline_cached_port_views, C17_headline_invariant_port_views, C17_headline_ctor_port_views,
    C17_headline_build_port_views.
    Proved: (a) for EVERY input the auto-encoding constructor accepts (no guard), explicit_port of the result —
    served from the pre-filled cache — is None when the input has no authority or no port text, and otherwise
    Python `int()` of the port text of the INPUT authority (`CtorMods.portText`: the text after the ':' that follows
    the host / the closing bracket), which lies in 0–65535; "user@:80", "[v1.x]:80", "h:080", "h: 80 ", "h:+8_0",
    "h:-0", "h:" are computed instances; under the C09 guard `GoodAuthority` the same value is read from the stored
    text once the cache is gone.  (b) explicit_port, str(), host_port_subcomponent, is_default_port() and
    with_port(set/clear) satisfy the statements of this file on a URL WITH a cache that agrees with the stored text
    and whose cache-less twin is `Written`; on every URL with `NetlocCanon` and an authority; and end to end on
    `URL(s)` / `build(encoded=False)` results for input naming a supported ASCII host (`AuthInput` / `BuildNetOK`).
    What remains open is item 7.
 2. "the integer value of the port written": the port text is read by Python `int()` — `pyIntAscii` models
    surrounding whitespace, sign, underscores, leading zeros ("h:+8_0" is port 80); no theorem relates it to
    "decimal digits only" (it is more liberal, as Python is).  Non-ASCII digits go through the `intU` oracle.
    PARTLY CLOSED by C17_pyInt_spec, C17_pyInt_core, C17_pyInt_strip_exists, C17_pyInt_strip_unique,
    C17_digitsUnderscore_spec, C17_pyIntBody_props, C17_pyInt_rejects, C17_pyInt_alphabet, C17_pyInt_digits,
    C17_splitNetloc_ascii_port, C17_splitNetloc_port_iff, C17_host_port_accepts, C17_portText_after_host,
    C17_port_text_instances, C17_pyInt_non_ascii, C17_ctor_netloc_no_tab, C17_ctor_port_whitespace (C17More.lean), see
    C17_headline_pyint_grammar_def, C17_headline_pyint_spec, C17_headline_pyint_strip, C17_headline_pyint_rejects,
    C17_headline_pyint_digits, C17_headline_port_text_accepted_iff, C17_headline_port_text_instances,
    C17_headline_ctor_port_whitespace (C17HeadlineMore4.lean).  Proved: for EVERY text `pyIntAscii s = some v` IFF `s`
    is `ws* [+-]? digit (_? digit)* ws*` with value `v` (`PyIntForm`, a hand-written grammar of Python's base-10
    `int(str)` — NEW TRUSTED definition, item 8); `int()` depends on the stripped text only; the rejections (empty /
    only a sign; leading, trailing, double '_'; any other character behind the sign or another character); a plain digit
    string reads as its decimal value with leading zeros allowed, and `natToStr` is the canonical inverse; for a
    non-empty ASCII port text `split_netloc` accepts with port `p` IFF `int(text) = p` with 0 ≤ p ≤ 65535 and raises
    ValueError otherwise; TAB / LF / CR never reach the port parser through the constructor, the other whitespace
    `int()` strips does and is accepted around the digits.  STILL OPEN: that `PyIntForm` IS what CPython's `int()`
    accepts in base 10 is by reading (language reference), not by proof; NON-ASCII port texts (`int()` accepts every
    Unicode decimal digit and Unicode whitespace) are the `intU` oracle's answer, not computed
    (C17_headline_port_text_instances, last part).
 3. CLOSED by C17_encodeUrl_rejects_bad_port, C17_build_rejects_bad_port, C17_ctor_fast_path_no_port
    (C17Ctor.lean), see C17_headline_ctor_rejects_bad_port, C17_headline_build_rejects_bad_port,
    C17_headline_fast_path_no_port, C17_headline_rejects_bad_port_instances (C17HeadlineMore.lean).
    Proved: whenever `split_url` succeeds and the port text of the input authority is non-numeric or out of
    0–65535, `URL(s)` is ValueError; an authority without ':' '@' '[' (the constructor's fast path) has no port
    text, so nothing is skipped; `build(authority=…, encoded=False)` NEVER returns a URL for such an authority, and
    its error is ValueError when `port=` is an int or None, a `query=` argument is convertible and the oracle can
    answer the two requests `build` makes first — `scheme.lower()` (fix e21485a) and the NFKC screen of a non-ASCII
    authority (fix c2c2803); ASCII scheme and ASCII authority need no oracle.  Without an oracle answer the model
    stops with `oracleMiss` (model artefact): C17_headline_build_rejects_bad_port_fails_for_oracle_miss.  With
    `encoded=True` the authority TEXT is not checked at build time (known finding F-C19-encoded-str; instance in
    C17_headline_rejects_bad_port_instances); that is item 6.  SHARPENED by C07_build_encoded_raises,
    C07_build_encoded_verbatim, C07_encBuildNetloc_shape, C07_build_encoded_accessors (C07Encoded.lean) and
    C07_preencoded_accessors (C07More.lean), see C17_headline_encoded_build_port, C17_headline_encoded_explicit_port,
    C17_headline_encoded_build_port_instances (C17HeadlineMore3.lean): "nothing is checked" was too strong — the
    ARGUMENT checks of `build` do not depend on `encoded` (`port=` of a wrong type, out of range, without `host=`, mixed
    with `authority=` still raise: C17_headline_build_port_rejects holds for every `a`); what is not checked is the
    port TEXT inside `authority=` / after a `host=` text containing ':' and the host text.  On EVERY result of
    URL(s, encoded=True) / build(encoded=True), explicit_port is `C07_portOf` of the port text of the stored authority:
    `None` for an empty port text, the integer when `int()` gives one in 0–65535, and it RAISES ValueError (or asks
    the oracle) otherwise — the rejection happens at the first accessor instead of at construction.
 4. "only when none is written": C17_headline_port_fallback is an equation for `port`; note that
    build(port = the default of the LOWER-CASED scheme; fix e21485a: `build(scheme="HTTP", port=80)` too) DROPS
    the port (C17_headline_build_port; for the `authority=` route as well: C17_headline_build_port_views,
    C17HeadlineMore.lean — a `build(encoded=False)` result never stores the default port of its scheme), so
    `explicit_port` is None although a port was supplied — consistent with the property only if "written" means
    "stored".  The constructor does NOT drop it (C17_headline_ctor_port_views: explicit_port reports a default
    port, str() omits it).  NEW (C07_encBuildNetloc_shape, C07Encoded.lean, see C17_headline_encoded_build_port,
    C17HeadlineMore3.lean): `build(…, encoded=True)` drops `port=` iff it equals the default of the scheme AS GIVEN — the
    scheme is NOT lower-cased in this mode, so `build(scheme="HTTP", host="h", port=80, encoded=True)` KEEPS ":80"
    (explicit_port 80) while the same call with encoded=False drops it (instance:
    C17_headline_encoded_build_port_instances); a port written inside `authority=` is stored verbatim in this mode.
    SHARPENED by C17_default_port_table, C17_default_port_none, C17_port_default_iff, C17_default_port_build_vs_ctor,
    C17_default_port_build_vs_ctor_instances (C17More.lean), see C17_headline_default_port_table,
    C17_headline_port_default_iff, C17_headline_default_port_build_vs_ctor (C17HeadlineMore4.lean).  Proved: the
    COMPLETE `DEFAULT_PORTS` table from the generated table (exactly http 80, https 443, ws 80, wss 443, ftp 21; every
    other scheme string has none); for ANY URL `port = p` IFF `p` is written, or nothing is written and `p` is the
    scheme default, `port` is None IFF nothing is written and the scheme has no default, and `port` fails exactly as
    explicit_port does; and the contrast in one statement: `build(encoded=False, host=…, port = default of the
    lower-cased scheme)` has explicit_port None and `port` = that default, whereas `URL(s)` whose port text is the
    decimal text of `p` has explicit_port `p` also for the default — `URL.build(scheme="http", host="h", port=80)` and
    `URL("http://h:80")` have the same str() and `port`, different explicit_port, and are NOT `==` (computed, both
    backends).  The reading "written = STORED" stays an interpretation of the property text.
 5. is_default_port for a scheme without default and an explicit port: `some p = none` is false —
    stated; for an absent port and a scheme WITHOUT default it returns True (absent), as the code does.
    CLOSED by C17_is_default_port_iff, C17_is_default_port_cases, C17_is_default_port_no_authority,
    C17_is_default_port_instances (C17More.lean), see C17_headline_is_default_port_truth_table,
    C17_headline_is_default_port_instances (C17HeadlineMore4.lean).  Proved, for any URL on which explicit_port answers:
    is_default_port() is True IFF (no port written AND there is an authority) or (the written port is the scheme
    default), False IFF (no port written and no authority) or (the written port is not the scheme default); with an
    authority it is True IFF `port` equals the scheme default (possibly None).  OBSERVATION kept on record (not a
    finding; "absent" in the property text): `URL("foo://h").is_default_port()` is True although `port` is None;
    `URL("http://h:0")` is False (port 0 is distinct from absent).  Hypothesis: explicit_port does not raise.
 6. with_port on authorities not in `Written` form (encoded=True oddities): WAS "only the rejection half".
    PARTLY CLOSED by C11_arbitrary_authority_accessors, C11_arbitrary_authority_modifiers,
    C11_arbitrary_authority_frame_with_port, C11_arbitrary_authority_split_fails (C11Encoded.lean),
    C11_reachE_authority_frame, C11_reachE_split_fails (C11ReachE.lean), C06_encoded_str (C06Encoded.lean), see
    C17_headline_arbitrary_authority_explicit_port, C17_headline_with_port_arbitrary_authority,
    C17_headline_with_port_split_fails, C17_headline_reachE_with_port, C17_headline_encoded_str_omits_default,
    C17_headline_with_port_arbitrary_authority_instances (C17HeadlineMore3.lean).
    Proved, for a URL WITHOUT pre-filled cache (every URL(s, encoded=True) / build / modifier result) whose non-empty
    stored authority is ANY text: (a) if `split_netloc` accepts it (answer `np`): explicit_port is `np.port` = `int()` of
    the port text, in 0–65535 (`None` without port text), is_default_port() as the property says; `with_port` has an
    EXACT result for every argument — TypeError for bool / non-int, ValueError out of range, else the URL whose
    authority is re-made by `make_netloc(…, encode=False)` from `np` with the new port (so non-canonical text is silently
    normalised: "080" becomes "80", junk around brackets is dropped); and when the host text is not of the shape (E1)
    "contains '[' but no ':'", explicit_port of the result reads back the new port / `None`, raw_user and raw_password
    read as before, raw_host too unless nothing is left to write (E2: no user, no password, empty host, no port — the
    stored authority becomes EMPTY and raw_host reads `None`); the same over `ReachE` (closure of all entry points
    incl. encoded=True; a constructor result with cache needs `GoodAuthority`).  (b) if `split_netloc` rejects it:
    `with_port` fails for every argument (TypeError / ValueError of the argument, else the ValueError / oracle request
    of the stored text) and str() raises that error.  (c) str() of a URL(s, encoded=True) / build(encoded=True) result
    shows the stored authority verbatim unless a port equal to the scheme default is written, then the authority is
    re-made without the port; it raises when explicit_port does.
    (E1) is NEEDED for "with_port(p) sets any valid p": on `build(scheme="http", authority="[a[b]", path="/p",
    encoded=True)` `with_port(81)` stores "a[b:81", whose explicit_port is `None` — FALSE there; this is a computed
    `example` at the end of C17HeadlineMore3.lean (MODEL only: no theorem of a proof module states it and it is not a
    probe row; the cited modules' own (E1) witness, C11_reachE_authority_frame_fails_for, is about with_user).
    STILL OPEN: host_port_subcomponent on arbitrary stored text (only under `Written` / `NetlocCanon`); the read-back
    under (E1) in general; that (E1) / (E2) authorities are stored ONLY through encoded=True is stated in the doc
    comments of C11ReachE.lean (witnesses inside `ReachE`), not proved as a theorem; URLs WITH a pre-filled cache are
    covered only through `ReachE` + `GoodAuthority` (constructor results) — see item 7.
    FURTHER CLOSED by C17_port_views_of_net, C17_with_port_exact, C17_with_port_result, C17_with_port_readback,
    C17_lazy_components_ok, C17_with_port_readback_fails, C17_with_port_readback_lazy_iff,
    C17_with_port_encoded_instances, C17_with_port_readback_counterexample (C17More.lean), see
    C17_headline_port_views_of_net, C17_headline_with_port_exact, C17_headline_with_port_readback,
    C17_headline_with_port_readback_fails_for_bracket_in_host, C17_headline_with_port_readback_counterexample,
    C17_headline_with_port_encoded_instances (C17HeadlineMore4.lean).  Proved, for ANY URL — cache or not, any stored
    text — in terms of `net e u` (the cache when filled, else the lazy parse): the EXACT value of `with_port` with the
    order of the checks (TypeError, ValueError out of range, ValueError without authority, then the error of reading the
    stored authority is passed on, else the authority re-made); explicit_port / `port` / is_default_port() /
    host_subcomponent / host_port_subcomponent / str() as functions of the four components (closes
    "host_port_subcomponent on arbitrary stored text" whenever the components are readable); the read-back of
    `with_port` from hypotheses on the raw components only (`UserOK`, no '@' in the raw host, `EncTrue.GoodHost`).  The
    read-back under (E1) is no longer open: it is FALSE in general — C17_with_port_readback_fails: raw host with '[' but
    no ':' ⟹ explicit_port of `with_port(p)` reads None — and on a URL WITHOUT cache explicit_port reads `p` IFF the raw
    host is not of that shape.  The former remark "(E1) … a computed `example` … MODEL only: no theorem of a proof
    module states it" is superseded: C17_with_port_readback_counterexample (C17More.lean) computes
    `URL("http://[v1.[x]:80", encoded=True)`, `build(authority="[[x]", encoded=True)` and — through the AUTO-ENCODING
    constructor, which ACCEPTS it — `URL("http://[v1.[x]:80")` (stores "v1.[x:80", caches raw_host "1.[",
    `.with_port(81)` has explicit_port None).  So "with_port(p) sets any valid p" is FALSE on malformed-bracket
    authorities (same root as KNOWN FINDINGS F-C03-bracket / F-C11-bracket), reachable WITHOUT encoded=True (MODEL-level
    computation; no probe row of the real library is cited).  ADDED: the malformed-bracket family now has a C17 entry of
    its own in KNOWN_FINDINGS.jsonl, F-C17-bracket (witness URL('p://[[:]:1/r').with_scheme('x'): the constructor's
    pre-computed explicit_port is 1, after the derivation — which drops the cache — explicit_port reads None from the
    stored authority: cache and stored text disagree, item 8 (c)); no theorem of this layer states that witness.  STILL OPEN: that (E2) authorities are stored only through
    encoded=True is not a theorem; when `net e u` raises (unparsable stored port text) the views raise too
    (C17_headline_with_port_exact, second part) and nothing more is said.
 7. (new) Side conditions of the theorems that close 1(b).  `AuthInput` / `BuildNetOK` cover ASCII hosts of the
    supported kinds (name / IPv4 text, IPv6 literal with optional zone id; not IPvFuture, not a bracketed non-IPv6
    host, not an empty host); IDN hosts: `NetlocCanon` of the constructor result is C03_idn_netlocCanon_ctor
    (C03Idn.lean) under the assumption `IdnaSaneAt` on the `idna` answers.  For other accepted inputs sentence 2 is
    available only through C17_headline_cached_port_views, with `Written` checked on the concrete result and the
    cache agreement from `GoodAuthority` (C11_ctor_good_authority / C09_good_authority_of — not a theorem for every
    accepted input); 1(a) and C17_headline_ctor_is_default_port need no side condition.
    CLOSED by C17_ctor_port_views_any, C17_bracket_ctor_port_views, C17_empty_host_ctor_port_views,
    C17_idn_ctor_port_views, C17_bracket_ctor_instances, C17_empty_host_ctor_instances (C17More.lean), see
    C17_headline_ctor_port_views_any, C17_headline_bracket_ctor_port_views, C17_headline_bracket_ctor_instances,
    C17_headline_empty_host_ctor_port_views, C17_headline_empty_host_ctor_instances, C17_headline_idn_ctor_port_views
    (C17HeadlineMore4.lean).  Proved: for EVERY accepted constructor input with an authority — no `AuthInput`, no
    `GoodAuthority`, no `Written` — explicit_port is the input port (≤ 65535), `port`, is_default_port(),
    host_port_subcomponent and str() follow sentence 2 (str() re-makes the authority from the CACHED components exactly
    when a written port equals the scheme default, and prints the stored authority otherwise), `with_port` has its exact
    result, and it reads back when the input is a Python string and the cached raw host is re-writable (no '@';
    `EncTrue.GoodHost`).  Spelled out for bracketed non-IPv6 hosts (`BracketTextIn`, lower-cased text passes the bracket
    check), the empty host (schemes that do not require a host; they have no default port) and an IDN host alone in the
    authority (under `IdnaSaneAt`; with port / userinfo: the general theorem, no assumption).  NEGATIVE about the
    printed TEXT (computed, both backends; sentence 2 is about the PORT and holds): `str(URL("http://[v1.x]:80/"))` is
    "http://v1.x/" — with the default port the brackets of a bracketed host without ':' go as well, and `.with_port(81)`
    stores "v1.x:81" (C17More.lean files this under KNOWN FINDING F-C07-default-port).  STILL OPEN: the read-back of
    `with_port` on a constructor result whose cached raw host is NOT re-writable (malformed brackets — item 6: false
    there); all of this is about the cached components — that they agree with what the stored text splits into is C09.
 8.  NEW.  Trusted definitions and side conditions introduced by the theorems that close 2, 4, 5, 6, 7 (C17More.lean).
    (a) `PyIntForm` (with `PyWs`, `isPySpaceC`, the inductive `PyIntBody`) is a hand-written GRAMMAR of Python's
    `int(str)` in base 10; that CPython's `int()` accepts exactly this language on ASCII text (whitespace set 9–13,
    28–31, 32; single interior underscores; no base prefix) is by READING the language reference; the spec theorem
    C17_headline_pyint_spec is relative to it.  It is spelled out in C17_headline_pyint_grammar_def.  (b) `pyStrip`,
    `pyIntCore`, `EdgeFree` are definitional views of the model's own `pyIntAscii` (`C17_pyInt_core` is `rfl`).  (c) The
    general layer is in terms of `net e u`: for a URL WITH a cache these are the CACHED components — the theorems say
    nothing about whether the cache agrees with the stored text (C09; F-C09-bracket / F-C11-bracket / F-C17-bracket are
    where it does not).  (d) `EncTrue.GoodHost` / "raw host not of the shape '[' without ':'" is a hypothesis on the components, not
    on the input of the entry point; by C17_headline_with_port_readback_counterexample it can fail for an input the
    auto-encoding constructor ACCEPTS.  (e) The Python-level instance theorems are computed with `Oracles.empty` (ASCII
    inputs), on both backends where stated; they are examples.  (f) The IDN theorem needs the assumption `IdnaSaneAt`
    (trusted base, C16Idn.lean; checked at run time on the answers of a run, not proved).
-/
end Yarl
