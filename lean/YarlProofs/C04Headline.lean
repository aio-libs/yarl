import YarlProofs.C04
import YarlProofs.C04General
import YarlProofs.C07Recompose
import YarlProofs.C03Netloc
import YarlProofs.C04Idn
/-!
  C04Headline.lean — AUDIT LAYER for property C04.

  C04 | Already-canonical URLs are left untouched |
  "For every string that is already canonical - lower-case scheme and host, no default port, no dot segments
  under an authority, only characters that are legal literally in each component, and upper-case escapes only
  for characters that must be escaped there (or, for that component's reserved delimiters, may be) -
  str(URL(s)) == s. The library neither over-encodes nor over-decodes, as documented ('Already encoded URL is
  not changed')."

  Vocabulary.  `C04_roundTrip e s` = `encodeUrl e s >>= str e` = str(URL(s)).
  `canonText sc nl p q f` = `unsplitResult sc nl p q f`, the string with these five components.
  `Canon t x` (Lemmas/Canon.lean): `x` consists of literals `c` with `t.safe c` (not '%', not ' ' in a form table)
  and escapes `%XY` (upper-case hex) of bytes that are ≥ 128, or not safe, or protected (`t.prot`).
  `CanonNetloc e sc nl`: `nl = []`, or `nl = authText user pw host port` = `[user[:password]@]host[:port]` with
  `UserInfoOK` (user non-empty, user/password `Canon` for REQUOTER), `HostFix` (a host `_encode_host` maps to
  itself: every non-empty lower-case host text without ':' — reg-names, also ending in a digit or a dot, IPv4 —,
  compressed IPv6 with or without zone id, sane A-labels: C04_headline_lower_case_host_families) and `PortOK`
  (≤ 65535, not the scheme default).
  KNOWN FINDINGS of C04 (strings canonical in the words of the property that ARE changed; each is a theorem below):
  F-C04-empty-path, F-C04-single-slash, F-C04-empty-delims, F-C04-empty-authority, F-C04-colon-password.

  Continued in C04HeadlineMore.lean (theorems that need a module which imports this file): C04Bracket.lean imports this
  file, so the identity for BRACKETED hosts that are not IPv6 addresses (IPvFuture "[v1.a:b]", "[g::1]", "[a:b]";
  GAPS 1) is stated there as `C04_headline_…_bracketed_…`.
  Continued further in C04HeadlineMore4.lean (C04Decide.lean, C04DecideConverse.lean, C04DecideDomain.lean,
  C04DecideEmpty.lean, added after both files): the Boolean checker `canonicalB` on the raw string and its soundness
  (GAPS 2), the converse inside `C04_Domain` and where it fails (GAPS 5), the empty host (GAPS 1) and the empty user
  (GAPS 4).
-/
namespace Yarl
open FixLemmas NetShape HostLemmas NetlocLemmas Idn

/-! ## Sentence 1 — "For every string that is already canonical - … - str(URL(s)) == s." -/

/-- The sentence, for the string written from five components; every hypothesis is one phrase of the property text
    or a recorded exclusion.  (This is `C04_identity_general` / `C04_roundTrip_general` with `CanonString`
    unfolded field by field.) -/
theorem C04_headline_canonical_string_unchanged (e : Env) (scheme netloc path query fragment : Str)
    -- "lower-case scheme": empty, or non-empty lower-case scheme characters      (needed: C04_general_scheme_needed)
    (h_scheme : SchemeOK' scheme)
    -- "lower-case … host", "no default port" (+ canonical userinfo)   (C04_general_host_needed, C04_general_default_port_needed)
    -- the userinfo clause (`UserInfoOK`: no literal ':' in the password) is KNOWN FINDING F-C04-colon-password
    -- (`C04_headline_fails_for_colon_in_password` below)
    (h_netloc : CanonNetloc e scheme netloc)
    -- "only characters that are legal literally in each component, and upper-case escapes only for characters that
    -- must be escaped there (or, for … reserved delimiters, may be)"                   (C04_general_escape_needed)
    (h_path : Canon (Gen.PATH_REQUOTER.tab e.b) path)
    (h_query : Canon (Gen.QUERY_REQUOTER.tab e.b) query)
    (h_fragment : Canon (Gen.FRAGMENT_REQUOTER.tab e.b) fragment)
    -- "no dot segments under an authority"                                         (C04_general_dot_segment_needed)
    (h_nodots : netloc ≠ [] → NoDotSegments path)
    -- well-formedness of the 5-tuple: under an authority the path is empty or rooted  (C04_general_rooted_needed)
    (h_rooted : netloc ≠ [] → (path = [] ∨ path.head? = some 47))
    -- NOT in the property text — KNOWN FINDING F-C04-empty-path: an empty path before '?'/'#' under an authority is
    -- written "/" (C04_general_empty_path_needed; `C04_headline_fails_for_empty_path` below)
    (h_nonempty : netloc ≠ [] → path = [] → query = [] ∧ fragment = [])
    -- well-formedness of the 5-tuple: a scheme-less, authority-less path whose text before ':' reads as a scheme IS
    -- a scheme (C04_general_first_segment_needed; the STRING "a:b" is still a fixed point, as scheme "a" + path "b")
    (h_first_segment : scheme = [] → netloc = [] → 58 ∈ path →
      (path.takeWhile (· ≠ 58) = [] ∨ (path.takeWhile (· ≠ 58)).all (fun c => mem c Gen.schemeChars) = false))
    -- NOT in the property text — KNOWN FINDING F-C03-rootless: for a scheme in `uses_authority` without authority
    -- the path must be empty or rooted (C04_general_authority_scheme_needed; `…_fails_for_authority_scheme` below)
    (h_authority_scheme : scheme ≠ [] → Gen.usesAuthority.contains scheme = true → netloc = [] →
      (path = [] ∨ path.head? = some 47)) :
    C04_roundTrip e (canonText scheme netloc path query fragment) = .ok (canonText scheme netloc path query fragment) ∧
    ∃ u, encodeUrl e (canonText scheme netloc path query fragment) = .ok u ∧
      u.scheme = scheme ∧ u.netloc = netloc ∧ u.path = path ∧ u.query = query ∧ u.fragment = fragment := by
  have h : CanonString e scheme netloc path query fragment :=
    ⟨h_scheme, h_netloc, h_path, h_query, h_fragment, h_rooted, h_nodots, h_nonempty, h_first_segment,
      h_authority_scheme⟩
  obtain ⟨u, h1, _, h3⟩ := C04_identity_general e scheme netloc path query fragment h
  exact ⟨C04_roundTrip_general e scheme netloc path query fragment h, u, h1, h3⟩
-- Appendix E: C04_identity ↦ C04_identity_general (C04General.lean).  `CanonUrl s` (a predicate on the string)
--   became `CanonString e scheme netloc path query fragment` on components + `canonText`; the string-quantified
--   form is the next theorem (NEW).  `(encodeUrl s).map str = .ok s` became `C04_roundTrip e s = .ok s`
--   (`str` is itself fallible in the model).

/-- NEW (closes the gap between "for every 5-tuple" and "For every string"): for EVERY string `s` that parses, whose
    parsed components are canonical in the sense above, and that loses nothing in parsing, str(URL(s)) == s.
    Composition of C07_unsplit_split_id with C04_roundTrip_general. -/
theorem C04_headline_every_canonical_string (e : Env) (s : Str) (p : Parts)
    (h_parse : splitUrl e.o s = .ok p)
    (h_canon : CanonString e p.scheme p.netloc p.path p.query p.fragment)
    -- no leading C0/space, no TAB/CR/LF (they are stripped: C07_clean_spec)
    (h_clean : cleanUrl s = s)
    -- the scheme is WRITTEN lower-case in `s` (the parsed scheme is lowered already)
    (h_lower : (splitScheme s).1 = [] ∨ lower (s.takeWhile (· ≠ 58)) = s.takeWhile (· ≠ 58))
    -- no empty '?'/'#' delimiter (KNOWN FINDING F-C04-empty-delims, `C04_headline_fails_for_empty_delims`), no "//" of
    -- an empty authority that unsplit would not write (F-C04-empty-authority, `…_fails_for_empty_authority`), "//"
    -- after a `uses_authority` scheme (F-C04-single-slash, `…_fails_for_single_slash`)
    -- (C07_recomposable_*_counterexample; `C04_headline_fails_for_dropped_delimiters` below)
    (h_recomp : Recomposable s) :
    C04_roundTrip e s = .ok s := by
  have hs := C07_unsplit_split_id e.o s p h_parse h_recomp h_clean h_lower
  have := C04_roundTrip_general e p.scheme p.netloc p.path p.query p.fragment h_canon
  rwa [canonText, hs] at this

/-! ### "lower-case … host": which hosts are covered (closes GAPS 1 except the empty host; bracketed non-IPv6 hosts —
    IPvFuture — are in C04HeadlineMore.lean) -/

/-- "lower-case … host" is `HostFix o h` (= `_encode_host(h)` is `h` again, in brackets when it contains ':').  It
    holds for EVERY non-empty lower-case host text without ':' (`hostChar` = visible ASCII, no upper-case letter,
    none of `/ ? # : @ [ ]`: reg-names — also ending in a digit such as "h1", "example.com1" —, IPv4 literals), for
    such a text followed by a dot, for the compressed lower-case text `ipv6ToStr h8` of an IPv6 address without and
    with a zone id (`textChar` = visible ASCII, none of `/ ? # @ [ ]`), and for every sane A-label text
    (`IdnaAnswerSane a`, C16Idn.lean: non-empty and the library's `NOT_REG_NAME` screen finds nothing — "xn--…" hosts;
    no assumption about the `idna` package: the text is ASCII and never reaches IDNA).
    Cites C03_hostFix_lower, C03_hostFix_trailing_dot, C03_hostFix_ipv6_zone (C03Netloc.lean), hostFix_ipv6
    (Lemmas/FixLemmas.lean), Idn.hostFix_sane (C16Idn.lean). -/
theorem C04_headline_lower_case_host_families (o : Oracles) :
    (∀ h : Str, h ≠ [] → (∀ c ∈ h, hostChar c = true) → HostFix o h) ∧
    (∀ h : Str, (∀ c ∈ h, hostChar c = true) → HostFix o (h ++ [46])) ∧
    (∀ h8 : List Nat, h8.length = 8 → (∀ x ∈ h8, x < 65536) → HostFix o (ipv6ToStr h8)) ∧
    (∀ (h8 : List Nat) (z : Str), h8.length = 8 → (∀ x ∈ h8, x < 65536) → (∀ c ∈ z, textChar c = true) →
      HostFix o (ipv6ToStr h8 ++ 37 :: z)) ∧
    (∀ a : Str, IdnaAnswerSane a → HostFix o a) :=
  ⟨fun _ hne hch => C03_hostFix_lower o hne hch, fun _ hch => C03_hostFix_trailing_dot o hch,
   fun h8 hl hx => hostFix_ipv6 o h8 hl hx,
   fun h8 z hl hx hz => C03_hostFix_ipv6_zone o h8 hl hx z hz, fun _ ha => hostFix_sane o ha⟩

/-- The identity for a string with an authority, written out as text: `scheme://[user[:password]@]host[:port]path
    [?query][#fragment]` (`composeUrl`) and the network-path reference `//[user[:password]@]host[:port]path…` are
    parsed into exactly these components and printed back unchanged, for ANY host of the families above.
    `CompOK b path query fragment`: path empty or rooted, path / query / fragment `Canon` for their requoters, no dot
    segment (`46 ∈ path → normalizePath path = path`), path not empty in front of a query or fragment.
    (C04_identity_authority_of_general, C04_identity_network_path_authority, C04General.lean.) -/
theorem C04_headline_canonical_authority_unchanged (e : Env) (scheme : Str) (user pw : Option Str) (h : Str)
    (port : Option Nat) (path query fragment : Str)
    (hu : UserInfoOK e.b user pw)                  -- canonical userinfo; no literal ':' in the password: F-C04-colon-password
    (hh : HostFix e.o h)                           -- "lower-case … host", see the families above
    (hc : CompOK e.b path query fragment) :        -- "only characters that are legal literally …", "no dot segments",
                                                   -- not empty before '?'/'#': F-C04-empty-path
    (SchemeOK scheme →                             -- "lower-case scheme" (non-empty)
      PortOK scheme port →                         -- "no default port" (and ≤ 65535)
      ∃ u, encodeUrl e (composeUrl scheme (authText user pw h port) path query fragment) = .ok u ∧
        str e u = .ok (composeUrl scheme (authText user pw h port) path query fragment) ∧
        u.scheme = scheme ∧ u.netloc = authText user pw h port ∧ u.path = path ∧ u.query = query ∧
        u.fragment = fragment) ∧
    ((∀ p, port = some p → p ≤ 65535) →            -- no scheme, so no default port
      ∃ u, encodeUrl e ([47, 47] ++ authText user pw h port ++ path ++ qPart query ++ fPart fragment) = .ok u ∧
        str e u = .ok ([47, 47] ++ authText user pw h port ++ path ++ qPart query ++ fPart fragment) ∧
        u.scheme = [] ∧ u.netloc = authText user pw h port ∧ u.path = path ∧ u.query = query ∧
        u.fragment = fragment) :=
  ⟨fun hs hp => C04_identity_authority_of_general e scheme user pw h port path query fragment hs hu hh hp hc,
   fun hp => C04_identity_network_path_authority e user pw h port path query fragment hu hh hp hc⟩

/-- A-label / IDN hosts (GAPS 1): the same identity for a sane A-label host `a`, stated on its own; and what the
    library itself stores for a NON-ASCII host `h` is such a text PROVIDED the answers of the `idna` package for `h`
    are sane (`IdnaSaneAt e.o h`: an ASSUMPTION about a third-party package, C16Idn.lean — the only place where
    the package enters C04).  (C04_idn_identity_general, C04_idn_identity_network_path, C04Idn.lean.) -/
theorem C04_headline_idn_host_unchanged (e : Env) (scheme : Str) (user pw : Option Str) (a : Str)
    (port : Option Nat) (path query fragment : Str)
    (hu : UserInfoOK e.b user pw)                  -- canonical userinfo (F-C04-colon-password)
    (ha : IdnaAnswerSane a)                        -- the host text: non-empty lower-case reg-name text ("xn--…")
    (hc : CompOK e.b path query fragment) :        -- as above (F-C04-empty-path)
    (SchemeOK scheme → PortOK scheme port →
      ∃ u, encodeUrl e (composeUrl scheme (authText user pw a port) path query fragment) = .ok u ∧
        str e u = .ok (composeUrl scheme (authText user pw a port) path query fragment) ∧
        u.scheme = scheme ∧ u.netloc = authText user pw a port ∧ u.path = path ∧ u.query = query ∧
        u.fragment = fragment) ∧
    ((∀ p, port = some p → p ≤ 65535) →
      ∃ u, encodeUrl e ([47, 47] ++ authText user pw a port ++ path ++ qPart query ++ fPart fragment) = .ok u ∧
        str e u = .ok ([47, 47] ++ authText user pw a port ++ path ++ qPart query ++ fPart fragment) ∧
        u.scheme = [] ∧ u.netloc = authText user pw a port ∧ u.path = path ∧ u.query = query ∧
        u.fragment = fragment) ∧
    (∀ h, IdnaSaneAt e.o h → idnaEncode e.o h = .ok a → IdnaAnswerSane a) :=
  ⟨fun hs hp => C04_idn_identity_general e scheme user pw a port path query fragment hs hu ha hp hc,
   fun hp => C04_idn_identity_network_path e user pw a port path query fragment hu ha hp hc,
   fun _ hs he => idnaEncode_sane hs he⟩

/-- the assumption cannot be dropped for the library's OWN output: with an `idna` package that answered "XN--A" for
    the host of `C16_idn_input` ("http://é/p") the constructor stores that, and str(URL("http://XN--A/p")) is
    "http://xn--a/p".  (A hypothetical package, not a finding; "XN--A" is not `IdnaAnswerSane`.) -/
theorem C04_headline_idn_fails_for_upper_case_answer :
    let e : Env := { b := .c, o := C16_idn_hostile "XN--A".toStr }
    (encodeUrl e C16_idn_input).bind (str e) = .ok "http://XN--A/p".toStr ∧
    (encodeUrl e "http://XN--A/p".toStr).bind (str e) = .ok "http://xn--a/p".toStr :=
  C04_idn_needs_lower

/-! ### strings that look canonical in the words of the property but are changed -/

/-- KNOWN FINDING F-C04-empty-path (witness URL('http://h?q')): an empty path under an authority is written as "/" in
    front of a query or fragment: "http://h?q" ↦ "http://h/?q", "//h?q" ↦ "//h/?q", "//h#f" ↦ "//h/#f"
    (guard `h_nonempty`) -/
theorem C04_headline_fails_for_empty_path (b : Backend) :
    C04_roundTrip ⟨b, Oracles.empty⟩ "http://h?q".toStr = .ok "http://h/?q".toStr ∧
    C04_roundTrip ⟨b, Oracles.empty⟩ "//h?q".toStr = .ok "//h/?q".toStr ∧
    C04_roundTrip ⟨b, Oracles.empty⟩ "//h#f".toStr = .ok "//h/#f".toStr :=
  ⟨(C04_general_empty_path_needed b).2.2.2.2.1, (C04_general_empty_path_needed b).2.2.2.2.2.1,
    (C04_general_empty_path_needed b).2.2.2.2.2.2⟩

/-- F-C03-rootless seen from C04: "file:a/b" ↦ "file:///a/b" (guard `h_authority_scheme`), and KNOWN FINDING
    F-C04-single-slash (same root): "file:/p" ↦ "file:///p", "http:/p" ↦ "http:///p"
    (guard `Recomposable.authority_scheme`; on its own: `C04_headline_fails_for_single_slash`) -/
theorem C04_headline_fails_for_authority_scheme (b : Backend) :
    C04_roundTrip ⟨b, Oracles.empty⟩ "file:a/b".toStr = .ok "file:///a/b".toStr ∧
    C04_roundTrip ⟨b, Oracles.empty⟩ "file:/p".toStr = .ok "file:///p".toStr ∧
    C04_roundTrip ⟨b, Oracles.empty⟩ "http:/p".toStr = .ok "http:///p".toStr :=
  ⟨(C04_general_authority_scheme_needed b).2.2.2.2, (C04_authority_scheme_single_slash_not_fixed b).1,
    (C04_authority_scheme_single_slash_not_fixed b).2.1⟩

/-- At URL level (guard `Recomposable`): an empty query / fragment delimiter — KNOWN FINDING F-C04-empty-delims — and
    the "//" of an empty authority — KNOWN FINDING F-C04-empty-authority — are dropped: "http://h/a?" ↦ "http://h/a",
    "http://h/a#" ↦ "http://h/a", "x:///p" ↦ "x:/p".  Class by class with all recorded witnesses: the next three
    theorems. -/
theorem C04_headline_fails_for_dropped_delimiters (b : Backend) :
    C04_roundTrip ⟨b, Oracles.empty⟩ "http://h/a?".toStr = .ok "http://h/a".toStr ∧
    C04_roundTrip ⟨b, Oracles.empty⟩ "http://h/a#".toStr = .ok "http://h/a".toStr ∧
    C04_roundTrip ⟨b, Oracles.empty⟩ "x:///p".toStr = .ok "x:/p".toStr := by
  cases b <;> decide +kernel

/-- KNOWN FINDING F-C04-empty-delims (witness URL('http://h/a?')): an empty '?' or '#' delimiter is dropped —
    "http://h/a?" ↦ "http://h/a", "http://h/a#" ↦ "http://h/a", "/p?#" ↦ "/p".  The strings satisfy every condition
    the property lists; the URL value is the same (guard `Recomposable.query_delim` / `.fragment_delim`). -/
theorem C04_headline_fails_for_empty_delims (b : Backend) :
    C04_roundTrip ⟨b, Oracles.empty⟩ "http://h/a?".toStr = .ok "http://h/a".toStr ∧
    C04_roundTrip ⟨b, Oracles.empty⟩ "http://h/a#".toStr = .ok "http://h/a".toStr ∧
    C04_roundTrip ⟨b, Oracles.empty⟩ "/p?#".toStr = .ok "/p".toStr := by
  cases b <;> decide +kernel

/-- KNOWN FINDING F-C04-empty-authority (witness URL('x:///p')): the "//" of an empty authority is dropped for a
    scheme outside urllib's `uses_netloc` (`Gen.usesAuthority`) — both recorded witnesses: "x:///p" ↦ "x:/p" and
    "x://" ↦ "x:"; the results are fixed points (guard `Recomposable.authority_marker`). -/
theorem C04_headline_fails_for_empty_authority (b : Backend) :
    Gen.usesAuthority.contains "x".toStr = false ∧
    C04_roundTrip ⟨b, Oracles.empty⟩ "x:///p".toStr = .ok "x:/p".toStr ∧
    C04_roundTrip ⟨b, Oracles.empty⟩ "x://".toStr = .ok "x:".toStr ∧
    C04_roundTrip ⟨b, Oracles.empty⟩ "x:/p".toStr = .ok "x:/p".toStr ∧
    C04_roundTrip ⟨b, Oracles.empty⟩ "x:".toStr = .ok "x:".toStr := by
  cases b <;> decide +kernel

/-- KNOWN FINDING F-C04-single-slash (witness URL('file:/p'); same root as F-C03-rootless): for a scheme in urllib's
    `uses_netloc` an absent authority is written as an empty one — both recorded witnesses: "file:/p" ↦ "file:///p"
    and "http:/p" ↦ "http:///p"; the canonical spelling "file:///p" is a fixed point
    (guard `Recomposable.authority_scheme`). -/
theorem C04_headline_fails_for_single_slash (b : Backend) :
    C04_roundTrip ⟨b, Oracles.empty⟩ "file:/p".toStr = .ok "file:///p".toStr ∧
    C04_roundTrip ⟨b, Oracles.empty⟩ "http:/p".toStr = .ok "http:///p".toStr ∧
    canonText "file".toStr [] "/p".toStr [] [] = "file:///p".toStr ∧
    C04_roundTrip ⟨b, Oracles.empty⟩ "file:///p".toStr = .ok "file:///p".toStr :=
  C04_authority_scheme_single_slash_not_fixed b

/-- KNOWN FINDING F-C04-colon-password (witness URL('http://u:p:w@h/')): a literal ':' inside the password is legal
    RFC 3986 userinfo but is escaped (REQUOTER keeps no ':' literal, see `C04_headline_no_over_encoding`; documented
    deviation): "http://u:p:w@h/" ↦ "http://u:p%3Aw@h/" (guard `UserInfoOK` in `h_netloc`) -/
theorem C04_headline_fails_for_colon_in_password (b : Backend) :
    C04_roundTrip ⟨b, Oracles.empty⟩ "http://u:p:w@h/".toStr = .ok "http://u:p%3Aw@h/".toStr := by
  str_lits; cases b <;> decide +kernel

/-! ## Sentence 2 — "The library neither over-encodes nor over-decodes, as documented ('Already encoded URL is not
    changed')." -/

/-- "neither over-encodes …": the characters a requoter keeps literal are EXACTLY the RFC 3986 literals of its
    component (userinfo: without ':'), nothing ≥ 128 is literal — so nothing that may stand literally is escaped and
    nothing else is left raw. -/
theorem C04_headline_no_over_encoding (b : Backend) (c : Nat) :
    (c < 128 →
      (Gen.PATH_REQUOTER.tab b).safe c = Rfc.pathLit c ∧ (Gen.QUERY_REQUOTER.tab b).safe c = Rfc.queryLit c ∧
      (Gen.FRAGMENT_REQUOTER.tab b).safe c = Rfc.queryLit c ∧
      (Gen.REQUOTER.tab b).safe c = (Rfc.userinfoLit c && c != 58)) ∧
    (128 ≤ c → ∀ a ∈ Gen.allQuoters, (a.tab b).safe c = false) :=
  ⟨C04_policy b c, fun hc a ha => C04_policy_high b a ha c hc⟩
-- Appendix E: C04_policy ↦ C04_policy (same name; `Gen.requoterOf comp` became the four explicit tables, the
--   userinfo ':' exception is in the statement).

/-- "… nor over-decodes": the escapes a requoter KEEPS although the byte could be literal are exactly those of its
    reserved delimiters ('/' '+' in paths; '=' '+' '&' ';' in queries; none in fragment and userinfo) -/
theorem C04_headline_no_over_decoding (b : Backend) (c : Nat) (hc : c < 128) :
    (Gen.PATH_REQUOTER.tab b).prot c = (c == 47 || c == 43) ∧
    (Gen.QUERY_REQUOTER.tab b).prot c = (c == 61 || c == 43 || c == 38 || c == 59) ∧
    (Gen.FRAGMENT_REQUOTER.tab b).prot c = false ∧ (Gen.REQUOTER.tab b).prot c = false :=
  C04_policy_protected b c hc

/-- "'Already encoded URL is not changed'", component level: every generated requoter returns canonical text
    unchanged, what it writes is canonical, and it is idempotent; what the non-requoting partner (used by build /
    modifiers) writes is unchanged by the requoter. -/
theorem C04_headline_already_encoded_component (b : Backend) (a : QArgs) (ha : a ∈ Gen.allQuoters)
    (hreq : a.requote = true) (s : Str) (hs : PyStr s) :
    (Canon (a.tab b) s → a.run b s = s) ∧ Canon (a.tab b) (a.run b s) ∧ a.run b (a.run b s) = a.run b s ∧
    (Gen.REQUOTER.run b (Gen.QUOTER.run b s) = Gen.QUOTER.run b s ∧
     Gen.PATH_REQUOTER.run b (Gen.PATH_QUOTER.run b s) = Gen.PATH_QUOTER.run b s ∧
     Gen.QUERY_REQUOTER.run b (Gen.QUERY_QUOTER.run b s) = Gen.QUERY_QUOTER.run b s ∧
     Gen.QUERY_REQUOTER.run b (Gen.QUERY_PART_QUOTER.run b s) = Gen.QUERY_PART_QUOTER.run b s ∧
     Gen.FRAGMENT_REQUOTER.run b (Gen.FRAGMENT_QUOTER.run b s) = Gen.FRAGMENT_QUOTER.run b s) :=
  ⟨C04_component_identity b a ha hreq s hs, C04_requote_canon b a ha hreq s hs, C04_requote_idem b a ha hreq s hs,
    C04_partner_fixed b s hs⟩

/-! ## non-vacuity -/

example (b : Backend) : C04_roundTrip ⟨b, Oracles.empty⟩ "http://u:p%40w@[2001:db8::1]:8080/a/b?q#f".toStr =
    .ok "http://u:p%40w@[2001:db8::1]:8080/a/b?q#f".toStr :=
  let ⟨_, _, _, ⟨u, h1, h2, _⟩, _⟩ := C04_general_examples b
  IdGen.roundTrip_iff.2 ⟨u, h1, h2⟩

-- hosts of GAPS 1 that had no identity theorem: a reg-name ending in a digit, a trailing dot, IPv6 with a zone id
example (b : Backend) : ∃ u, encodeUrl ⟨b, Oracles.empty⟩ "http://example.com1/p".toStr = .ok u ∧
    str ⟨b, Oracles.empty⟩ u = .ok "http://example.com1/p".toStr :=
  at_text_fst (by str_lits; decide +kernel)
    ((C04_headline_canonical_authority_unchanged ⟨b, Oracles.empty⟩ "http".toStr none none
      "example.com1".toStr none "/p".toStr [] [] (userInfoOK_none _)
      ((C04_headline_lower_case_host_families _).1 _ (by decide) (by decide +kernel))
      (compOKB_sound (by cases b <;> decide +kernel))).1 (by decide +kernel) (IdGen.portOK_none _))
example (b : Backend) : ∃ u, encodeUrl ⟨b, Oracles.empty⟩ "//example.com./p".toStr = .ok u ∧
    str ⟨b, Oracles.empty⟩ u = .ok "//example.com./p".toStr :=
  at_text_fst (by str_lits; decide +kernel)
    ((C04_headline_canonical_authority_unchanged ⟨b, Oracles.empty⟩ [] none none
      ("example.com".toStr ++ [46]) none "/p".toStr [] [] (userInfoOK_none _)
      ((C04_headline_lower_case_host_families _).2.1 _ (by decide +kernel))
      (compOKB_sound (by cases b <;> decide +kernel))).2 (fun p hp => by cases hp))
example (b : Backend) : ∃ u, encodeUrl ⟨b, Oracles.empty⟩ "http://[fe80::1%eth0]:8080/p".toStr = .ok u ∧
    str ⟨b, Oracles.empty⟩ u = .ok "http://[fe80::1%eth0]:8080/p".toStr :=
  at_text_fst (by str_lits; decide +kernel)
    ((C04_headline_canonical_authority_unchanged ⟨b, Oracles.empty⟩ "http".toStr none none
      (ipv6ToStr [0xfe80, 0, 0, 0, 0, 0, 0, 1] ++ 37 :: "eth0".toStr) (some 8080) "/p".toStr [] [] (userInfoOK_none _)
      ((C04_headline_lower_case_host_families _).2.2.2.1 _ _ rfl (by decide) (by decide +kernel))
      (compOKB_sound (by cases b <;> decide +kernel))).1 (by decide +kernel)
      (portOK_some (by decide) (by decide)))
/-
GAPS:
 1. PARTLY CLOSED by C03_hostFix_lower, C03_hostFix_trailing_dot, C03_hostFix_ipv6_zone (C03Netloc.lean) and
    Idn.hostFix_sane / C04_idn_identity_general / C04_idn_identity_network_path (C16Idn.lean, C04Idn.lean), see
    C04_headline_lower_case_host_families, C04_headline_canonical_authority_unchanged,
    C04_headline_idn_host_unchanged.  "lower-case … host" (`HostFix`) and hence the identity are now proved for
    EVERY non-empty lower-case host text without ':' (reg-names incl. those ending in a digit — "h1",
    "example.com1" —, IPv4), a trailing dot, compressed lower-case IPv6 without and WITH a zone id, and A-label
    hosts ("xn--…": any text with `IdnaAnswerSane`, no assumption about the `idna` package; that the library's own
    answer for a non-ASCII host is such a text is the ASSUMPTION `IdnaSaneAt`, C16Idn.lean, not proved —
    C04_headline_idn_fails_for_upper_case_answer shows what a hostile package would do).
    Bracketed non-IPv6 hosts (IPvFuture "[v1.a:b]", "[g::1]", "[a:b]", "[1.2.3.4%a:b]"; `HostFix.notV` excludes a
    host with ':' that starts with 'v') — CLOSED by C04_identity_generalB, C04_roundTrip_generalB,
    C04_bracket_every_canonical_string, C04_bracket_identity (C04Bracket.lean, which IMPORTS this file, so the headline
    theorems are in the companion file C04HeadlineMore.lean), see C04_headline_canon_netloc_bracketed_spec,
    C04_headline_canonical_string_unchanged_bracketed_host, C04_headline_every_canonical_string_bracketed_host,
    C04_headline_canonical_bracketed_authority_unchanged, C04_headline_bracketed_host_families.  Proved: with the
    authority clause extended to `[user[:password]@][t][:port]` around a lower-case bracketed non-IPv6 text `t`
    (`HostFixB`; `BracketText t` suffices), any `UserInfoOK` userinfo, any non-default port ≤ 65535 and any canonical
    path / query / fragment, str(URL(s)) == s and the parsed URL has exactly the five components.  Both clauses are
    needed: upper case is lowered (C04_headline_bracketed_fails_for_upper_case); a default port is dropped — and, as the
    module reports, WITHOUT a ':' in the host the BRACKETS go with it: "https://[v1.a]:443/" ↦ "https://v1.a/"
    (C04_headline_bracketed_fails_for_default_port; both strings are outside "already canonical", no finding for C04).
    Not covered in this family: a space inside the brackets (outside `BracketText`, C03Headline.lean GAPS 2).
    WAS: STILL no identity theorem for: the empty host with a port (":80"; `HostFix` asks a non-empty host).
    The EMPTY HOST — CLOSED by C04_identity_empty_host, C04_identity_empty_host_text, C04_empty_host_requires_host,
    C04_requires_host_iff_default_port, C04_empty_host_examples (C04DecideEmpty.lean), see
    C04_headline_empty_host_unchanged, C04_headline_empty_host_rejected_when_host_required,
    C04_headline_empty_host_instances (C04HeadlineMore4.lean).  Proved: for an authority `[user[:password]@][:port]`
    without a host (`authTextE`; ":80", "u@", "u:p@:80") that is not the empty text (hypothesis `hne`), `UserInfoOK`
    userinfo, a port ≤ 65535, canonical path / query / fragment (`CompOK`) and a scheme that is empty or lower-case
    scheme characters: if the scheme is NOT in `SCHEME_REQUIRES_HOST` (hypothesis `hreq`; such a scheme has no default
    port) then str(URL(s)) == s with exactly the five components, `raw_host == ""`; if it IS (http, https, ws, wss,
    ftp) then `URL(s)` raises ValueError, so the clause is vacuous.  NOT covered by a general theorem: the host-less
    authority that is a ':' alone, which VANISHES ("//:/" ↦ "/", "x://:/" ↦ "x:/": instances in
    C04_headline_empty_host_instances; compare "http://h:/", a ':' without port after a host, rejected by `canonicalB`
    and not treated by any theorem).  These host-less fixed points are REJECTED by the checker of GAPS 2
    (`canonicalB "x://:80/" = false`): the checker is sound, not complete, see GAPS 5 / 8.
 2. "For every string": C04_headline_every_canonical_string (new) is string-quantified but asks the caller for
    `splitUrl e.o s = .ok p` and `CanonString` of the PARSED parts; there is no decision procedure / sound Boolean
    checker for the whole of `CanonString` (C04_canonClauses covers the eight component clauses, not
    `CanonNetloc`), so instantiating it on a concrete string still needs a hand-made `authText` decomposition (for a
    bracketed non-IPv6 host: an `authTextB` decomposition and `CanonNetlocB`, C04HeadlineMore.lean — same remark).
    CLOSED by C04_canonicalB_spec, C04_canonicalB_sound, C04_canonicalB_sound_parts, C04_canonicalB_rejects_changed
    (C04Decide.lean, over netlocB_sound / hostKindB_sound / userInfoB_sound / portB_sound of Lemmas/CanonDecide.lean),
    see C04_headline_checked_string_unchanged, C04_headline_checker_meaning,
    C04_headline_checker_rejects_every_changed_string, C04_headline_checker_instances (C04HeadlineMore4.lean).
    Proved: `canonicalB : Str → Bool` is a computable function of the raw text; for EVERY text, both backends, every
    oracle assignment and with NO further hypothesis, `canonicalB s = true` implies that `URL(s)` succeeds,
    str(URL(s)) == s and the URL has the five Appendix B components of `s`; it covers `CanonNetlocB` (plain and
    bracketed non-IPv6 hosts), so no hand-made `authText` / `authTextB` decomposition is needed: a concrete string is
    handled by `decide +kernel` (seventeen accepted / rejected instances in the headline theorem, sixty `example`s in
    C04Decide.lean).  What "already canonical" MEANS is now the definition of `canonicalB`: see GAPS 7.
 3. Strings canonical in the words of the property but changed by str(URL(s)) — the property text has no exception
    for them.  ALL are now in KNOWN_FINDINGS.jsonl and each is a theorem here: empty path before '?'/'#' under an
    authority (F-C04-empty-path, C04_headline_fails_for_empty_path); authority-taking scheme without "//"
    (F-C04-single-slash, C04_headline_fails_for_single_slash; with a rootless path F-C03-rootless,
    C04_headline_fails_for_authority_scheme); empty '?' / '#' delimiters (F-C04-empty-delims,
    C04_headline_fails_for_empty_delims); the "//" of an empty authority for other schemes (F-C04-empty-authority,
    C04_headline_fails_for_empty_authority; both recorded witnesses "x:///p" and "x://").  They remain GUARDS of the
    identity theorems (`h_nonempty`, `h_authority_scheme`, `Recomposable`), i.e. the sentence "for every string that
    is already canonical" is proved only outside these five classes (with item 4).
    FURTHER (C04Decide.lean): the checker of GAPS 2 REJECTS a witness of each of the five classes
    (C04_headline_checker_instances) and necessarily every string that is changed
    (C04_headline_checker_rejects_every_changed_string); so the closure of GAPS 2 does not prove the sentence for these
    classes either: it makes the exclusion part of the definition of `canonicalB` (clauses `Recomposable`,
    `C04_canonClauses`, `userInfoB`).  A SIXTH class of the same kind is now a theorem: the empty userinfo "@host",
    GAPS 4 / 9.
 4. Userinfo: `UserInfoOK` requires REQUOTER-canonical text, i.e. no literal ':' in the password — "u:p:w@h" is
    legal RFC 3986 userinfo but is rewritten (C04_headline_fails_for_colon_in_password; now KNOWN FINDING
    F-C04-colon-password) — and a NON-EMPTY user when a user is present: ":pw@h" evaluates to a fixed point and "@h"
    to "h", but no theorem covers the empty user.
    The EMPTY USER — CLOSED by C04_identity_empty_user_password, C04_empty_user_dropped, C04_empty_user_examples
    (C04DecideEmpty.lean), see C04_headline_empty_user_with_password_unchanged, C04_headline_fails_for_empty_user,
    C04_headline_empty_user_instances (C04HeadlineMore4.lean).  Proved: ":password@host" (no user, a
    REQUOTER-canonical password, also the empty one ":@h") is an instance of `UserInfoOK none (some w)` and is
    unchanged, with `raw_user` None and `raw_password` the password (any `HostFix` host, `PortOK` port, `CompOK`
    path / query / fragment); "@host" (the '@' alone) is NEVER unchanged: for every such host, port and components the
    '@' is dropped and str(URL(s)) differs from s (a NEGATIVE result, see GAPS 9).  The first sentence of this item
    (':' in the password, F-C04-colon-password) is unchanged.
 5. "neither over-encodes nor over-decodes" is proved as table identities (C04_policy, C04_policy_protected) and
    as the identity on canonical text; there is no CONVERSE at URL level ("if str(URL(s)) == s then s is canonical"),
    and no policy statement for the host or the scheme.
    PARTLY CLOSED by C04_fixed_point_canonical, C04_canonicalB_complete, C04_canonicalB_iff,
    C04_not_canonical_changed, C04_component_unchanged_canonical, C04_authority_unchanged_checked
    (C04DecideConverse.lean, over Lemmas/CanonComplete.lean and Lemmas/CanonConverse.lean) and C04_domainB_sound,
    C04_canonicalB_iff_of_domainB, C04_not_canonical_changed_of_domainB (C04DecideDomain.lean), see
    C04_headline_fixed_point_is_canonical, C04_headline_canonical_iff_unchanged_in_domain,
    C04_headline_canonical_iff_unchanged_decidable, C04_headline_domain_instances,
    C04_headline_unchanged_component_is_canonical, C04_headline_unchanged_authority_is_canonical
    (C04HeadlineMore4.lean).  Proved: UNDER THE HYPOTHESIS `C04_Domain e.o s p` (GAPS 8: `s` a Python string,
    `split_url(s) = p`, authority empty or of a supported host kind in any spelling, host not an IPv4 literal with a
    zone id) `canonicalB s = true` IFF str(URL(s)) == s, both backends, every oracle assignment — so inside the domain
    every string that is not canonical (upper-case scheme or host, default port, dot segment under an authority,
    superfluous or lower-case escape, …) IS changed or rejected, which is the missing policy statement for host and
    scheme; at Prop level, under `PyStr s`, `split_url(s) = p` and `AuthInputB` only, a fixed point has `CanonStringB`
    parts.  Per component WITHOUT any hypothesis on the authority: a path / query / fragment that `URL(s)` stores as
    read is canonical for its requoter (and the path has no dot segment and is empty or rooted under an authority).
    STILL OPEN / FALSE: outside the domain the converse is FALSE — C04_headline_converse_fails_outside_domain (cites
    C04_converse_fails_for_ipv4_zone, …_for_empty_host, …_for_space_in_host): "http://1.2.3.4%ETH0/" and
    "http://[1.2.3.4%A:b]/" are unchanged although the host is not lower-case (`_encode_host` copies the zone id of an
    IPv4 literal verbatim), "x://:80/" and "//u@:80/p" (empty host, GAPS 1) and "http://a b/" (a space in the host,
    C03Headline.lean GAPS 2) are unchanged and rejected by the checker.  Non-ASCII hosts (IDN) are outside `AuthInputB`, and every
    non-ASCII authority (every input that reaches the NFKC screen) is outside `C04_domainB`: no converse for them;
    the forward direction for A-label hosts stays C04_headline_idn_host_unchanged (GAPS 1).
 6. Only the auto-encoding constructor is covered (that is what C04 is about); `encoded=True` is trivially verbatim
    (C07_preencoded_verbatim) but `str` of such a URL may still drop a default port.
    CLOSED for canonical text (outside C04's wording, which is about the auto-encoding mode) by
    C03_encoded_true_on_canonical, C03_same_parts_not_canonical (C03Encoded.lean), see
    C03_headline_encoded_true_on_canonical_text, C03_headline_same_parts_fails_to_give_canonical (C03HeadlineMore5.lean):
    for every `s` with `canonicalB s = true`, `str(URL(s, encoded=True)) == s` as well (it stores the same five parts as
    `URL(s)` and every accessor agrees); the remark about the default port is now a theorem on a witness:
    `URL('http://h:80/', encoded=True)` stores ":80", prints 'http://h/' (F-C07-default-port) and 'http://h:80/' is not
    canonical.
 7. NEW (trusted definition introduced by the closure of GAPS 2).  `canonicalB` (C04Decide.lean) with `netlocB`,
    `hostKindB`, `v6B`, `userInfoB`, `portB` (Lemmas/CanonDecide.lean), `bracketTextB` (Lemmas/BrHost.lean family),
    `C04_canonClauses`, `isCanon` and `Recomposable` (earlier files) is a hand-written READING of the property's phrase
    "already canonical"; the soundness theorem says that what it accepts is unchanged, not that it accepts what the
    property means.  It is deliberately NARROWER than the words of the property: it rejects the five KNOWN FINDING
    classes (GAPS 3) and "@host" (GAPS 9); it rejects every non-ASCII host and every host-less authority; it asks for
    a port written without leading zeros.  In one corner it is narrower than the library needs: fixed points it
    rejects are listed in GAPS 5 (so it is NOT complete outside `C04_Domain`).  That it is not vacuous is shown by
    instances only (C04_headline_checker_instances and the examples of C04Decide.lean); there is no theorem "every
    string with property X is accepted" other than the completeness half of GAPS 5 (accepted iff unchanged, inside the
    domain) — and, ADDED with C03Encoded.lean, a SECOND characterisation of the same kind that does not go through the
    auto-encoding `str`: inside `C04_Domain`, `canonicalB s = true` IFF `URL(s, encoded=True)` and `URL(s)` store the same
    five parts AND the `encoded=True` object prints `s` (C03_encoded_true_canonical_iff, see
    C03_headline_encoded_true_canonical_iff, C03HeadlineMore5.lean; neither conjunct suffices alone).  Also ADDED: what
    `canonicalB` implies for the STRING FORM (ASCII, components well escaped: C03_headline_canonical_text_ascii).  The
    split it uses is `Rfc.appendixB Gen.schemeChars` (C07Headline.lean GAPS 6: now the RFC's regular
    expression up to the scheme test) and the C-backend tables (equal to the Python ones by `gen_tab_backend_eq`).
 8. NEW (hypothesis of the converse, GAPS 5).  `C04_Domain o s p` (C04DecideConverse.lean) =
    `PyStr s` ∧ `splitUrl o s = .ok p` ∧ `AuthInputB o p.netloc` (C03Bracket.lean) ∧ `C04_NoIPv4Zone p.netloc`; its
    Boolean form `C04_domainB s` (C04DecideDomain.lean) additionally asks for an ASCII authority that passes
    `checkBrackets` and is only SOUND for `C04_Domain` (C04_domainB_sound), not equivalent to it.  Both are definitions
    to be read; `AuthInputB` is the input-side host family of C03Bracket.lean (ASCII reg-name / IPv4 text in any letter
    case, IPv6 literal in any spelling `ipaddress` accepts + zone, bracketed non-IPv6 text).  The corner
    `C04_NoIPv4Zone` is needed only by the Boolean checker (it asks for a lower-case zone), not by the Prop-level
    converse C04_headline_fixed_point_is_canonical.
    ADDED: `C04_Domain` / `C04_domainB` are now also the hypothesis of the converse half of C03Headline.lean GAPS 6
    (C03_headline_encoded_true_same_parts, C03_headline_encoded_true_canonical_iff, C03HeadlineMore5.lean); the same
    remarks apply there.
 9. NEW (negative result, candidate finding).  "@host": a userinfo consisting of the '@' alone is legal RFC 3986
    (`userinfo = *( unreserved / pct-encoded / sub-delims / ":" )`), the string "http://@h/" satisfies every condition
    the property lists, and str(URL("http://@h/")) == "http://h/" — for EVERY host, port, path, query and fragment of
    the canonical families (C04_headline_fails_for_empty_user, cites C04_empty_user_dropped, C04DecideEmpty.lean).
    This is a sixth class of strings canonical by the letter that ARE changed, of the same kind as those of GAPS 3
    (the URL value is the same, `raw_user` is None either way).  It is NOT in KNOWN_FINDINGS.jsonl at the time of this
    refresh (the five C04 entries there are F-C04-empty-path, -single-slash, -empty-delims, -empty-authority,
    -colon-password); the identity theorems exclude it through `UserInfoOK` (a user, if present, is non-empty) and the
    checker through `userInfoB` / the literal comparison with `authText`.  The same remark applies to the host-less
    authority ":" ("//:/" ↦ "/", GAPS 1), for which there are instances only.
-/

end Yarl
