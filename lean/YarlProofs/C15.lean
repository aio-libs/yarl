/-
  C15.lean — properties of `normalize_path_segments` / `normalize_path`
  (dot-segment removal with a stack) and its agreement with RFC 3986 §5.2.4.
-/
import YarlModel
import YarlProofs.Lemmas.PathLemmas
import YarlProofs.Lemmas.StrLit
namespace Yarl
open Yarl.PathLemmas

/-- the result has no "." or ".." segment -/
theorem C15_no_dot_segments (segs : List Str) :
    ∀ s ∈ normalizePathSegments segs, s ≠ dot ∧ s ≠ dotdot :=
  noDots_normalizePathSegments segs

theorem C15_path_no_dot_segments (p : Str) :
    ∀ s ∈ splitOn 47 (normalizePath (47 :: p)), s ≠ dot ∧ s ≠ dotdot := by
  intro s hs
  simp only [normalizePath, splitOn, ↓reduceIte, List.mem_cons] at hs
  rcases hs with rfl | hs
  · simp [dot, dotdot]
  · by_cases hN : normalizePathSegments (splitOn 47 p) = []
    · rw [hN] at hs
      cases List.mem_singleton.1 hs
      simp [dot, dotdot]
    · rw [splitOn_joinC _ hN
        (normalizePathSegments_no_sep _ (splitOn_no_sep 47 p))] at hs
      exact noDots_normalizePathSegments _ s hs

/-- a path without '.' is returned unchanged (the `"." in path` guard in the callers is sound) -/
theorem C15_dot_guard_sound (p : Str) : 46 ∉ p → normalizePath p = p := by
  intro h
  have key : ∀ q : Str, 46 ∉ q → joinC 47 (normalizePathSegments (splitOn 47 q)) = q := fun q hq => by
    rw [normalizePathSegments_noDots _ (noDots_splitOn_of_no_dot q hq), joinC_splitOn]
  unfold normalizePath
  split
  · rename_i rest
    rw [key rest (fun hm => h (List.mem_cons_of_mem _ hm))]
  · exact key p h

theorem C15_segments_idem (segs : List Str) :
    normalizePathSegments (normalizePathSegments segs) = normalizePathSegments segs :=
  normalizePathSegments_noDots _ (noDots_normalizePathSegments segs)

theorem C15_idem (p : Str) : normalizePath (normalizePath (47 :: p)) = normalizePath (47 :: p) := by
  simp only [normalizePath]
  by_cases hN : normalizePathSegments (splitOn 47 p) = []
  · rw [hN]; decide +kernel
  · rw [splitOn_joinC _ hN (normalizePathSegments_no_sep _ (splitOn_no_sep 47 p)),
      C15_segments_idem]

/-- a rooted path stays rooted (never climbs above the root) -/
theorem C15_rooted (p : Str) : ∃ q, normalizePath (47 :: p) = 47 :: q :=
  ⟨_, rfl⟩

/-- trailing slash rule: if the last segment was a dot segment the result ends with "/" -/
theorem C15_trailing_slash (p : Str) :
    (splitOn 47 p).getLast? = some dot ∨ (splitOn 47 p).getLast? = some dotdot →
      (normalizePath (47 :: p)).getLast? = some 47 := by
  intro h
  have hN : normalizePathSegments (splitOn 47 p) = normLoop [] (splitOn 47 p) ++ [[]] := by
    unfold normalizePathSegments
    rcases h with h | h <;> simp [h]
  simp only [normalizePath]
  rw [hN]
  cases hr : normLoop [] (splitOn 47 p) with
  | nil => decide
  | cons a l =>
    rw [← flatC_eq_joinC 47 _ (by simp), HostLemmas.flatC_append 47]
    exact List.getLast?_concat

/-- MAIN: for rooted paths the stack algorithm IS RFC 3986 §5.2.4 -/
theorem C15_rfc (p : Str) : normalizePath (47 :: p) = Rfc.removeDotSegments (47 :: p) := by
  have hne := splitOn_ne_nil 47 p
  have hsim := rds_sim (splitOn 47 p) [] (p.length + 2) (splitOn_no_sep 47 p) (by simp)
    (by rw [flatC_splitOn 47]; simp)
  rw [flatC_splitOn 47] at hsim
  simp only [normalizePath, Rfc.removeDotSegments, List.length_cons]
  rw [normalizePathSegments_eq_G, ← flatC_eq_joinC 47 _ (G_ne_nil _ [] hne)]
  exact hsim.symm

/-! ### non-vacuity -/

example : normalizePath "/a/b/../c/./d".toStr = "/a/c/d".toStr := by str_lits; decide +kernel
example : Rfc.removeDotSegments "/a/b/../c/./d".toStr = "/a/c/d".toStr := by str_lits; decide +kernel
example : normalizePath "/a/b/c/./../../g".toStr = "/a/g".toStr := by str_lits; decide +kernel
example : Rfc.removeDotSegments "/a/b/c/./../../g".toStr = "/a/g".toStr := by str_lits; decide +kernel
example : normalizePath "/../../x/..".toStr = "/".toStr := by str_lits; decide +kernel
example : Rfc.removeDotSegments "/../../x/..".toStr = "/".toStr := by str_lits; decide +kernel
example : normalizePath "/a/.".toStr = "/a/".toStr := by str_lits; decide +kernel
example : normalizePath "/a//../b".toStr = "/a/b".toStr := by str_lits; decide +kernel
example : Rfc.removeDotSegments "/a//../b".toStr = "/a/b".toStr := by str_lits; decide +kernel
example : normalizePathSegments ["a".toStr, "..".toStr, "..".toStr, ".".toStr]
    = [[]] := by str_lits; decide +kernel
/-- relative paths are where the two algorithms may differ (outside `C15_rfc`'s scope) -/
example : normalizePath "../a".toStr = "a".toStr := by str_lits; decide +kernel

end Yarl
