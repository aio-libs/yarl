/-
  C15ReachE.lean — property C15 ("whenever a URL has an authority, its path — however produced — contains no '.' or '..'
  segment") over histories that CONTAIN `encoded=True` STEPS; there cannot be an unconditional closure theorem.

  `ReachE` / `ReachEX` (ReachE.lean) close ALL entry points of the model.  `C15_ReachE A Z Sc e` is `ReachEX A Z Sc e`
  with one C15 side condition on each `encoded=True` entry point that stores its text verbatim:

      URL(s, encoded=True)             C15_CtorEncOK s         the Appendix-B path of the cleaned `s` has no dot segment
                                                               when its Appendix-B authority is non-empty
      URL.build(…, encoded=True)       C15_BuildEncOK a        when `authority=` / `host=` is non-empty: `path=` has no
                                                               dot segment AND is empty or starts with '/'
      u.with_path(p, encoded=True)     C15_WithPathEncOK u p   when `u` has an authority: `p` has no dot segment
      u.joinpath(*ps, encoded=True)    — nothing —             (`_make_child` normalises the whole merged path as soon as
                                                               an argument contains '.', C15Encoded / C15More2)

  All three are decidable on the arguments (`Decidable` instances below; no backend, no oracle).

  MAIN: `C15_reachE_no_dot_segments` — every `C15_ReachE` URL with an authority has a path without dot segments that is
  empty or rooted (the invariant `C15_Inv`; the second half discharges `hrooted` of C07_headline_recompose_by_the_letter
  for these URLs).  `C15_ReachE.toReachEX` / `.toReachE`: it is a sub-closure of `ReachEX` / `ReachE`.

  EXACTNESS: each side condition is EQUIVALENT to "the invariant holds right after this call"
  (`C15_ctorEnc_inv_iff`, `C15_buildEnc_inv_iff`, `C15_withPathEnc_inv_iff`); `joinpath(encoded=True)` keeps the
  invariant unconditionally (`C15_joinpathEnc_inv`).  Witnesses with Python-level inputs that each condition is needed:
  `C15_reachE_ctorEnc_condition_needed`, `C15_reachE_buildEnc_condition_needed`,
  `C15_reachE_withPathEnc_condition_needed`, `C15_reachE_rootless_build_needed`.

  DEVIATION FROM THE REQUESTED FORM.  The statement "if every text handed over with `encoded=True` has no dot segment then
  every `ReachEX` URL with an authority has none" is FALSE (`C15_reachEX_no_dot_segments_false`):
  `URL.build(scheme='http', host='h', path='x/', encoded=True).join(URL('../x../y')).with_name('n')` has the path
  "/../n" under the authority "h" although no `encoded=True` text has a dot segment — a ROOTLESS path next to an authority
  (only `build(encoded=True)` stores one; it skips the "must start with '/'" check) is read by `raw_parts` from its
  second character on, and `join` normalises base.path + ref.path as a relative path.  Confirmed on the library
  (pure-Python backend).  Not a defect (`encoded=True` is the caller's promise), but the exact per-entry condition for
  `build` must include "empty or rooted", and the single class `A` of `ReachEX` — which is also imposed on the scheme /
  host texts of `build` — cannot express it; hence the own closure `C15_ReachE`.
-/
import YarlModel
import YarlProofs.ReachE
import YarlProofs.C15More2
import YarlProofs.C04Decide
namespace Yarl
open PathLemmas PathAlg WfLemmas EntryLemmas DotMore ReachFix

namespace R14

/-- `with_path(p, encoded=True)`: clean iff the argument has no dot segment (the path is rooted by the method) -/
theorem inv_withPathEnc (e : Env) (u : Url) (p : Str) (kq kf : Bool) (hp : u.netloc ≠ [] → NoDotSegments p) :
    C15_Inv (withPath e u p true kq kf) := by
  obtain ⟨h1, h2, h3⟩ := C15_encoded_with_path_iff e u p kq kf
  intro hn
  exact ⟨h3.2 (hp (h2 ▸ hn)), h1 ▸ rootedP_fixRoot p⟩

end R14
open R14 StrAscii

/-! ## the side conditions, entry point by entry point -/

/-- `URL(s, encoded=True)`: when the (cleaned) text has a non-empty authority by RFC 3986 Appendix B, its Appendix-B path
    has no dot segment.  Decidable on the raw string; no backend, no oracle. -/
def C15_CtorEncOK (s : Str) : Prop :=
  (Rfc.appendixB Gen.schemeChars (cleanUrl s)).authority ≠ [] →
    NoDotSegments (Rfc.appendixB Gen.schemeChars (cleanUrl s)).path

/-- `URL.build(…, path=p, encoded=True)`: when an authority is written (`authority=` or `host=` non-empty), `p` has no
    dot segment AND is empty or starts with '/' (`build(encoded=True)` does not check the latter). -/
def C15_BuildEncOK (a : BuildArgs) : Prop :=
  (a.authority ≠ [] ∨ a.host ≠ []) → NoDotSegments a.path ∧ (a.path = [] ∨ a.path.head? = some 47)

/-- `u.with_path(p, encoded=True)`: when `u` has an authority, `p` has no dot segment (the method roots `p`). -/
def C15_WithPathEncOK (u : Url) (p : Str) : Prop := u.netloc ≠ [] → NoDotSegments p

instance (s : Str) : Decidable (C15_CtorEncOK s) := by unfold C15_CtorEncOK; infer_instance
instance (a : BuildArgs) : Decidable (C15_BuildEncOK a) := by unfold C15_BuildEncOK; infer_instance
instance (u : Url) (p : Str) : Decidable (C15_WithPathEncOK u p) := by unfold C15_WithPathEncOK; infer_instance

/-- `ReachEX` (ReachE.lean: the closure of ALL entry points of the model, with the side conditions `A` / `Z` / `Sc` on
    the inputs) plus the three C15 side conditions on the `encoded=True` entry points that do not normalise.
    `joinpath(…, encoded=True)` carries NO extra condition. -/
inductive C15_ReachE (A Z Sc : Str → Prop) (e : Env) : Url → Prop
  | ctor (s : Str) (u : Url) : PyStr s → (∀ p, splitUrl e.o s = .ok p → Z (hostinfo p.netloc)) →
      encodeUrl e s = .ok u → C15_ReachE A Z Sc e u
  | ctorEnc (s : Str) (u : Url) : PyStr s → A s → C15_CtorEncOK s → preEncodedUrl e s = .ok u → C15_ReachE A Z Sc e u
  | build (a : BuildArgs) (u : Url) : a.encoded = false → BuildAllPy a → Z (hostinfo a.authority) → Sc a.scheme →
      build e a = .ok u → C15_ReachE A Z Sc e u
  | buildEnc (a : BuildArgs) (u : Url) : a.encoded = true → BuildAllPy a → BuildEncIn A a → C15_BuildEncOK a →
      build e a = .ok u → C15_ReachE A Z Sc e u
  | op (u : Url) (op : UOp) (v : Url) : C15_ReachE A Z Sc e u → op.ArgsPy e.b → op.notJoinRef →
      OpSide Sc (fun _ => True) op → applyOp e u op = .ok v → C15_ReachE A Z Sc e v
  | withPathEnc (u : Url) (p : Str) (kq kf : Bool) : C15_ReachE A Z Sc e u → PyStr p → A p → C15_WithPathEncOK u p →
      C15_ReachE A Z Sc e (withPath e u p true kq kf)
  | childEnc (u : Url) (paths : List Str) (v : Url) : C15_ReachE A Z Sc e u → (∀ p ∈ paths, PyStr p ∧ A p) →
      makeChild e u paths true = .ok v → C15_ReachE A Z Sc e v
  | join (u r : Url) : C15_ReachE A Z Sc e u → C15_ReachE A Z Sc e r → C15_ReachE A Z Sc e (join e u r)

/-- it IS a sub-closure of `ReachEX` (hence of `ReachE`) -/
theorem C15_ReachE.toReachEX {A Z Sc : Str → Prop} {e : Env} {u : Url} (h : C15_ReachE A Z Sc e u) :
    ReachEX A Z Sc e u := by
  induction h with
  | ctor s u hs hz h => exact ReachEX.ctor s u hs hz h
  | ctorEnc s u hs ha _ h => exact ReachEX.ctorEnc s u hs ha h
  | build a u henc hpy hz hsc h => exact ReachEX.build a u henc hpy hz hsc h
  | buildEnc a u henc hpy ha _ h => exact ReachEX.buildEnc a u henc hpy ha h
  | op u op v _ ha hj hside h ih => exact ReachEX.op u op v ih ha hj hside h
  | withPathEnc u p kq kf _ hp ha _ ih => exact ReachEX.withPathEnc u p kq kf ih hp ha
  | childEnc u paths v _ hp h ih => exact ReachEX.childEnc u paths v ih hp h
  | join u r _ _ ihu ihr => exact ReachEX.join u r ihu ihr

theorem C15_ReachE.toReachE {A Z Sc : Str → Prop} {e : Env} {u : Url} (h : C15_ReachE A Z Sc e u) : ReachE e u :=
  h.toReachEX.toReachE

/-! ## the entry points, as equivalences: each side condition is EXACTLY "the invariant holds after this call" -/

/-- `URL(s, encoded=True)` -/
theorem C15_ctorEnc_inv_iff (e : Env) (s : Str) (u : Url) (h : preEncodedUrl e s = .ok u) :
    C15_Inv u ↔ C15_CtorEncOK s := by
  obtain ⟨_, h2, h3, _⟩ := C07_preencoded_accessors e s u h
  have hroot : u.netloc ≠ [] → RootedP u.path := by
    obtain ⟨p, hp, h⟩ := bind_ok h
    cases h
    exact fun hn => FixLemmas.rootedOrEmpty_of_rooted (splitUrl_path_rooted e.o s p hp hn)
  unfold C15_Inv C15_CtorEncOK
  rw [← h2, ← h3]
  exact ⟨fun hi hn => (hi hn).1, fun hc hn => ⟨hc hn, hroot hn⟩⟩

theorem R14.encBuildNetloc_ne_nil (a : BuildArgs) : C07_encBuildNetloc a ≠ [] ↔ (a.authority ≠ [] ∨ a.host ≠ []) := by
  unfold C07_encBuildNetloc
  by_cases hA : a.authority = []
  · by_cases hH : a.host = []
    · simp [hA, hH]
    · simp [hA, hH, EagerLemmas.makeNetloc_ne_nil_written id a.user a.password hH]
  · simp [hA]

/-- `URL.build(…, encoded=True)` -/
theorem C15_buildEnc_inv_iff (e : Env) (a : BuildArgs) (u : Url) (ha : a.encoded = true) (h : build e a = .ok u) :
    C15_Inv u ↔ C15_BuildEncOK a := by
  obtain ⟨h1, h2, _⟩ := C15_encoded_build_iff e a u ha h
  unfold C15_Inv C15_BuildEncOK
  rw [h1, h2, R14.encBuildNetloc_ne_nil]

/-- `u.with_path(p, encoded=True)` -/
theorem C15_withPathEnc_inv_iff (e : Env) (u : Url) (p : Str) (kq kf : Bool) :
    C15_Inv (withPath e u p true kq kf) ↔ C15_WithPathEncOK u p := by
  obtain ⟨_, h2, h3⟩ := C15_encoded_with_path_iff e u p kq kf
  exact ⟨fun hi hn => h3.1 (hi (h2 ▸ hn)).1, inv_withPathEnc e u p kq kf⟩

/-- `u.joinpath(*ps, encoded=True)` needs NO side condition: it keeps the invariant for ANY arguments -/
theorem C15_joinpathEnc_inv (e : Env) (u v : Url) (paths : List Str) (hu : C15_Inv u)
    (h : makeChild e u paths true = .ok v) : C15_Inv v := by
  refine inv_makeChild e u paths true v h fun hn => ?_
  have hun : u.netloc ≠ [] := (C11_make_child_frame e u v paths true h).2.1 ▸ hn
  -- an argument with a '.' makes `_make_child` normalise the whole merged path, one without cannot carry a dot segment
  exact (C15_joinpath_dots_iff e u v paths true hun h).2 (Or.inr (hu hun).1)

/-! ## the closure theorem -/

/-- the invariant holds along every history -/
theorem C15_reachE_inv {A Z Sc : Str → Prop} {e : Env} {u : Url} (h : C15_ReachE A Z Sc e u) : C15_Inv u := by
  induction h with
  | ctor s u hs _ h => exact inv_of_canon (C03_encodeUrl_canon e s hs u h)
  | ctorEnc s u _ _ hc h => exact (C15_ctorEnc_inv_iff e s u h).2 hc
  | build a u henc hpy _ _ h =>
    exact inv_of_canon (C03_build_canon e a u henc hpy.2.2.2.2.2 h)
  | buildEnc a u henc _ _ hc h => exact (C15_buildEnc_inv_iff e a u henc h).2 hc
  | op u op v _ ha hj _ h ih =>
    refine inv_applyOp e u ih op ha ?_ v h
    intro ref hr
    subst hr
    exact absurd hj id
  | withPathEnc u p kq kf _ _ _ hc ih => exact (C15_withPathEnc_inv_iff e u p kq kf).2 hc
  | childEnc u paths v _ _ h ih => exact C15_joinpathEnc_inv e u v paths ih h
  | join u r _ _ ihu ihr => exact inv_join e u r ihu ihr

/-- THE CLOSURE THEOREM OVER HISTORIES WITH `encoded=True` STEPS.
    Every URL obtained through ANY sequence of entry points of the model — both constructor modes, both `build` modes,
    the 18 operations with Python-string arguments, `with_path(…, encoded=True)`, `joinpath(…, encoded=True)`, `join` of
    two such URLs — in which
      * every `URL(s, encoded=True)` satisfies `C15_CtorEncOK s`        (the Appendix-B path of `s` under an authority),
      * every `build(…, encoded=True)` satisfies `C15_BuildEncOK a`     (`path=` clean and empty-or-rooted under an authority),
      * every `u.with_path(p, encoded=True)` satisfies `C15_WithPathEncOK u p`   (`p` clean when `u` has an authority),
      * `joinpath(…, encoded=True)`: NOTHING,
    has, when it has an authority, a path without "." / ".." segments — and that path is empty or starts with '/'. -/
theorem C15_reachE_no_dot_segments {A Z Sc : Str → Prop} {e : Env} {u : Url} (h : C15_ReachE A Z Sc e u)
    (hn : u.netloc ≠ []) : NoDotSegments u.path ∧ (u.path = [] ∨ u.path.head? = some 47) :=
  C15_reachE_inv h hn

/-! ## canonical text is admissible -/

/-- every string the checker `canonicalB` (C04Decide.lean) accepts satisfies the side condition of
    `URL(s, encoded=True)` (C03Encoded.lean: on such text `encoded=True` IS the auto-encoding constructor) -/
theorem C15_ctorEncOK_of_canonicalB (s : Str) (h : canonicalB s = true) : C15_CtorEncOK s := by
  obtain ⟨_, hcanon, hclean, _, _⟩ := C04_canonicalB_spec ⟨.c, Oracles.empty⟩ s h
  unfold C15_CtorEncOK
  rw [hclean]
  exact hcanon.nodots

/-! ## every side condition is needed (Python-level inputs, both backends) -/

/-- `URL('http://h/a/../b', encoded=True)` — a `ReachE` URL with an authority and a ".." segment; `C15_CtorEncOK` fails -/
theorem C15_reachE_ctorEnc_condition_needed (b : Backend) :
    let e : Env := ⟨b, Oracles.empty⟩
    let u := fromParts "http".toStr "h".toStr "/a/../b".toStr [] []
    preEncodedUrl e "http://h/a/../b".toStr = .ok u ∧ ReachE e u ∧ u.netloc ≠ [] ∧ ¬ NoDotSegments u.path ∧
    ¬ C15_CtorEncOK "http://h/a/../b".toStr := by
  intro e u
  have h : preEncodedUrl e "http://h/a/../b".toStr = .ok u := by str_lits; cases b <;> decide +kernel
  exact ⟨h, ReachE.ctorEnc _ u (by decide +kernel) h, by decide +kernel⟩

/-- `URL.build(scheme='http', host='h', path='/a/./b', encoded=True)` — the first clause of `C15_BuildEncOK` fails -/
theorem C15_reachE_buildEnc_condition_needed (b : Backend) :
    let e : Env := ⟨b, Oracles.empty⟩
    let a : BuildArgs := { scheme := "http".toStr, host := "h".toStr, path := "/a/./b".toStr, encoded := true }
    let u := fromParts "http".toStr "h".toStr "/a/./b".toStr [] []
    build e a = .ok u ∧ ReachE e u ∧ u.netloc ≠ [] ∧ ¬ NoDotSegments u.path ∧ ¬ C15_BuildEncOK a := by
  intro e a u
  have h : build e a = .ok u := by str_lits; cases b <;> decide +kernel
  refine ⟨h, ReachE.build a u ?_ h, by decide +kernel⟩
  exact ⟨by decide +kernel, by decide +kernel, nofun, nofun, by decide +kernel, by decide +kernel, by decide +kernel,
    by decide +kernel, trivial⟩

/-- `URL('http://h/').with_path('/a/../b', encoded=True)` — `C15_WithPathEncOK` fails -/
theorem C15_reachE_withPathEnc_condition_needed (b : Backend) :
    let e : Env := ⟨b, Oracles.empty⟩
    ∃ u0, encodeUrl e "http://h/".toStr = .ok u0 ∧
      let v := withPath e u0 "/a/../b".toStr true false false
      ReachE e v ∧ v.netloc ≠ [] ∧ v.path = "/a/../b".toStr ∧ ¬ NoDotSegments v.path ∧
      ¬ C15_WithPathEncOK u0 "/a/../b".toStr := by
  intro e
  have hex : (encodeUrl e "http://h/".toStr).map (·.netloc) = .ok "h".toStr := by str_lits; cases b <;> decide +kernel
  cases h : encodeUrl e "http://h/".toStr with
  | error err => rw [h] at hex; cases hex
  | ok u0 =>
    have hn : u0.netloc = "h".toStr := by
      rw [h] at hex
      exact Except.ok.inj hex
    refine ⟨u0, rfl, ?_⟩
    intro v
    obtain ⟨hvp, hvn, _⟩ := C15_encoded_with_path_iff e u0 "/a/../b".toStr false false
    refine ⟨ReachE.withPathEnc u0 _ false false (ReachE.ctor _ u0 (by decide +kernel) h) (by decide +kernel), ?_, hvp, ?_, ?_⟩
    · rw [hvn, hn]; decide +kernel
    · rw [hvp]; decide +kernel
    · exact fun hc => absurd (hc (by rw [hn]; decide +kernel)) (by decide +kernel)

/-- THE SECOND CLAUSE of `C15_BuildEncOK` ("empty or rooted") is needed, although a rootless path without dot segments
    violates nothing by itself: `raw_parts` reads a stored path under an authority from its SECOND character on, and
    `join` appends to a rootless base path that ends in '/' and normalises the result as a RELATIVE path.

        b = URL.build(scheme='http', host='h', path='x/', encoded=True)       # path "x/", no dot segment anywhere
        j = b.join(URL('../x../y'))                                            # path "x../y"  (still no dot segment)
        w = j.with_name('n')                                                   # path "/../n"  — a ".." under "h"

    Every text handed over with `encoded=True` ('http', 'h', 'x/', '') is free of dot segments — so the closure theorem
    is FALSE over `ReachEX` with the class "no dot segment in any `encoded=True` text" (second conjunct): the per-entry
    condition on `build` must say "rooted".  Checked against the library (pure-Python backend): the three calls give
    URL('http://h/x/'), URL('http://h/x../y'), URL('http://h/../n'). -/
theorem C15_reachE_rootless_build_needed (b : Backend) :
    let e : Env := ⟨b, Oracles.empty⟩
    let a : BuildArgs := { scheme := "http".toStr, host := "h".toStr, path := "x/".toStr, encoded := true }
    let u0 := fromParts "http".toStr "h".toStr "x/".toStr [] []
    let r := fromParts [] [] "../x../y".toStr [] []
    let j := fromParts "http".toStr "h".toStr "x../y".toStr [] []
    let w := fromParts "http".toStr "h".toStr "/../n".toStr [] []
    build e a = .ok u0 ∧ encodeUrl e "../x../y".toStr = .ok r ∧ join e u0 r = j ∧
    withName e j "n".toStr false false = .ok w ∧
    NoDotSegments u0.path ∧ r.netloc = [] ∧ NoDotSegments j.path ∧ w.netloc ≠ [] ∧ ¬ NoDotSegments w.path ∧
    ReachEX (fun x => C15_CtorEncOK x ∧ NoDotSegments x) (fun _ => True) (fun _ => True) e w ∧
    ¬ C15_BuildEncOK a := by
  intro e a u0 r j w
  have h1 : build e a = .ok u0 := by str_lits; cases b <;> decide +kernel
  have h2 : encodeUrl e "../x../y".toStr = .ok r := by str_lits; cases b <;> decide +kernel
  have h3 : join e u0 r = j := by simp only [join]; decide +kernel
  have h4 : withName e j "n".toStr false false = .ok w := by str_lits; cases b <;> decide +kernel
  refine ⟨h1, h2, h3, h4, by decide +kernel, by decide +kernel, by decide +kernel, by decide +kernel, by decide +kernel, ?_, by decide +kernel⟩
  -- the history: `build`, `join` with the constructed reference, `with_name`
  exact ReachEX.op j (.withName "n".toStr false false) w
    (h3 ▸ ReachEX.join u0 r
      (ReachEX.buildEnc a u0 rfl
        ⟨by decide +kernel, by decide +kernel, nofun, nofun, by decide +kernel, by decide +kernel, by decide +kernel,
          by decide +kernel, trivial⟩
        ⟨by decide +kernel, by decide +kernel, nofun, nofun, by decide +kernel⟩ h1)
      (ReachEX.ctor _ r (by decide +kernel) (fun _ _ => trivial) h2))
    (show PyStr _ by decide +kernel) trivial trivial h4

/-- … so the statement asked for over `ReachEX` — "if every text handed over with `encoded=True` is free of dot segments
    (as a path, and as the path of a URL string), every `ReachEX` URL with an authority is" — is FALSE -/
theorem C15_reachEX_no_dot_segments_false :
    ¬ ∀ (e : Env) (u : Url),
        ReachEX (fun x => C15_CtorEncOK x ∧ NoDotSegments x) (fun _ => True) (fun _ => True) e u →
        u.netloc ≠ [] → NoDotSegments u.path := by
  intro h
  obtain ⟨_, _, _, _, _, _, _, h8, h9, h10, _⟩ := C15_reachE_rootless_build_needed .py
  exact h9 (h _ _ h10 h8)

/-- `joinpath(…, encoded=True)` needs no condition because it normalises exactly when an argument could carry a dot
    segment: `URL('http://h/a').joinpath('../b', encoded=True)` is "/b"; `'%2E%2E'` is not a dot segment and stays -/
theorem C15_reachE_joinpathEnc_instances (b : Backend) :
    let e : Env := ⟨b, Oracles.empty⟩
    let u := fromParts "http".toStr "h".toStr "/a".toStr [] []
    (makeChild e u ["../b".toStr] true).map (·.path) = .ok "/b".toStr ∧
    (makeChild e u ["./b".toStr, "..".toStr, "c".toStr] true).map (·.path) = .ok "/a/c".toStr ∧
    (makeChild e u ["%2E%2E".toStr] true).map (·.path) = .ok "/a/%2E%2E".toStr ∧ NoDotSegments "/a/%2E%2E".toStr := by
  intro e u
  str_lits; cases b <;> decide +kernel

/-! ## non-vacuity: a history with three `encoded=True` steps inside the closure -/

/-- `URL('http://h/a/b', encoded=True).with_path('/c d', encoded=True).joinpath('../e', encoded=True) / 'f'`, then
    `.with_name('g')` and `.join(URL('../x../y'))`: every side condition holds (decided on the inputs), so the result —
    'http://h/x../y' — is in the closure, has an authority, and the theorem applies -/
theorem C15_reachE_example (b : Backend) :
    let e : Env := ⟨b, Oracles.empty⟩
    let w := fromParts "http".toStr "h".toStr "/x../y".toStr [] []
    C15_ReachE (fun _ => True) (fun _ => True) (fun _ => True) e w ∧ w.netloc ≠ [] := by
  intro e w
  let u0 := fromParts "http".toStr "h".toStr "/a/b".toStr [] []
  let u1 := fromParts "http".toStr "h".toStr "/c d".toStr [] []
  let v1 := fromParts "http".toStr "h".toStr "/e".toStr [] []
  let v2 := fromParts "http".toStr "h".toStr "/e/f".toStr [] []
  let v3 := fromParts "http".toStr "h".toStr "/e/g".toStr [] []
  let r := fromParts [] [] "../x../y".toStr [] []
  have r0 : C15_ReachE (fun _ => True) (fun _ => True) (fun _ => True) e u0 :=
    .ctorEnc "http://h/a/b".toStr u0 (by decide +kernel) trivial (by decide +kernel) (by str_lits; cases b <;> decide +kernel)
  have e1 : withPath e u0 "/c d".toStr true false false = u1 := by str_lits; cases b <;> decide +kernel
  have r1 : C15_ReachE (fun _ => True) (fun _ => True) (fun _ => True) e u1 :=
    e1 ▸ C15_ReachE.withPathEnc u0 "/c d".toStr false false r0 (by decide +kernel) trivial (by decide +kernel)
  have r2 := C15_ReachE.childEnc u1 ["../e".toStr] v1 r1 (by decide +kernel) (by str_lits; cases b <;> decide +kernel)
  have r3 := C15_ReachE.op v1 (.child ["f".toStr]) v2 r2 (show ∀ p ∈ ["f".toStr], PyStr p by decide +kernel) trivial trivial
    (by str_lits; cases b <;> decide +kernel)
  have r4 := C15_ReachE.op v2 (.withName "g".toStr false false) v3 r3 (show PyStr _ by decide +kernel) trivial trivial
    (by str_lits; cases b <;> decide +kernel)
  have rr : C15_ReachE (fun _ => True) (fun _ => True) (fun _ => True) e r :=
    .ctor "../x../y".toStr r (by decide +kernel) (fun _ _ => trivial) (by str_lits; cases b <;> decide +kernel)
  have e5 : join e v3 r = w := by simp only [join]; decide +kernel
  exact ⟨e5 ▸ C15_ReachE.join v3 r r4 rr, by decide +kernel⟩

example (b : Backend) : NoDotSegments (fromParts "http".toStr "h".toStr "/x../y".toStr [] []).path :=
  (C15_reachE_no_dot_segments (C15_reachE_example b).1 (C15_reachE_example b).2).1

end Yarl
