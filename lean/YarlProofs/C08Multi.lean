/-
  C08Multi.lean — "URL values are immutable and results do not depend on history", for the machine with
  SEVERAL caches, derivations, hashing and comparisons (YarlModel/CacheMulti.lean).

  * the generic machine: refinement to the cache-free specification (`C08_multi_history_independent`), the frame
    (`C08_multi_frame_run`), every observation as a function of the values of its handles (`C08_multi_observation`,
    `…_reads_only_parts`), cache configuration unobservable.  The invariant (`WOK`, `Coherent`) and its preservation
    are in Lemmas/MultiCacheLemmas.lean, proved for the thread machine; the sequential `step` is one thread run
    alone (`runs_step`);
  * `yarlMSem e hf`: the instantiation with the real model — the four shared-object constructors of `_url.py`, every
    modifier (`YMod`, `yapply`), `hash`, the comparisons — and its theorems `C08_multi_yarl_*`;
  * `strSem`: the three configurable string caches; `pureSem f`: any pure function behind an `lru_cache`;
  * `Tiny`, `MultiRun`: small and real runs, and the runs on which each hypothesis is seen to be needed.

  This is the machine to build on: YarlModel/Cache.lean with C08.lean is the one-cache machine without derivations,
  hashing and comparisons, kept with its own theorems; no theorem relates the two (`Sem.flat` only lets this one
  reuse `MemoOK` / `TableOK` of Lemmas/CacheLemmas.lean).
-/
import YarlModel
import YarlModel.CacheMulti
import YarlProofs.Lemmas.CacheLemmas
import YarlProofs.Lemmas.MultiCacheLemmas
import YarlProofs.C08
import YarlProofs.C09
import YarlProofs.C08Yarl
namespace Yarl.MultiCache
open Yarl.Cache (Obj Policy lookup memoGet setMemo insertTable)
open Yarl.CacheLemmas

variable {I Key Mod Err Parts Val : Type} [DecidableEq I] [DecidableEq Key]

/-- one step: coherence is kept, the output is the specification's, the heap only grows -/
theorem C08_multi_step_coherent {sem : Sem I Key Mod Err Parts Val} (hp : PrefillOK sem) (hn : MemoNamesOK sem)
    (pol : I → Policy Key) (w : World I Key Parts Val) (hs : List (Option Nat)) (shs : List (Option Parts))
    (op : Op I Key Mod) (hc : Coherent sem w hs shs) :
    Coherent sem (step sem pol w hs op).1 (step sem pol w hs op).2.1 (specStep sem shs op).1 ∧
    (step sem pol w hs op).2.2 = (specStep sem shs op).2 ∧ HeapExt w.heap (step sem pol w hs op).1.heap := by
  -- a thread whose whole program is `op`, run alone
  obtain ⟨hw, he, done, hpd, hh, ho, _⟩ :=
    runs_threadOK hp hn pol shs [op] (runs_step sem pol w hs op [] []) hc.1 ⟨[], rfl, hc.2, rfl, trivial⟩
  cases List.append_nil done ▸ hpd
  exact ⟨⟨hw, hh⟩, (List.cons.inj ho).1, he⟩

/-! ### runs -/

omit [DecidableEq I] [DecidableEq Key] in
theorem specStep_prefix (sem : Sem I Key Mod Err Parts Val) (shs : List (Option Parts)) (op : Op I Key Mod) :
    shs <+: (specStep sem shs op).1 := by
  cases op <;> simp only [specStep] <;> (try split) <;>
    first | exact List.prefix_refl _ | exact List.prefix_append _ _

omit [DecidableEq I] [DecidableEq Key] in
theorem specHandles_prefix (sem : Sem I Key Mod Err Parts Val) (shs : List (Option Parts)) (ops : List (Op I Key Mod)) :
    shs <+: specHandles sem shs ops := by
  induction ops generalizing shs with
  | nil => exact List.prefix_refl _
  | cons op ops ih => exact (specStep_prefix sem shs op).trans (ih _)

omit [DecidableEq I] [DecidableEq Key] in
/-- a live handle denotes the same value for ever -/
theorem valOf_stable (sem : Sem I Key Mod Err Parts Val) (shs : List (Option Parts)) (ops : List (Op I Key Mod))
    (h : Nat) (hl : h < shs.length) : valOf (specHandles sem shs ops) h = valOf shs h := by
  obtain ⟨t, ht⟩ := specHandles_prefix sem shs ops
  simp only [valOf, ← ht, List.getElem?_append_left hl]

omit [DecidableEq I] [DecidableEq Key] in
/-- … in particular the handle an operation has just appended -/
theorem valOf_appended (sem : Sem I Key Mod Err Parts Val) (shs : List (Option Parts)) (x : Option Parts)
    (op : Op I Key Mod) (ops : List (Op I Key Mod)) (h : (specStep sem shs op).1 = shs ++ [x]) :
    valOf (specHandles sem shs (op :: ops)) shs.length = x := by
  show valOf (specHandles sem (specStep sem shs op).1 ops) shs.length = x
  rw [h, valOf_stable _ _ _ _ (by simp)]
  cases x <;> simp [valOf]

set_option linter.unusedSectionVars false in
theorem C08_multi_init_coherent (sem : Sem I Key Mod Err Parts Val) (caps : I → Nat → Option Nat) (gen : I → Nat) :
    Coherent sem ({ caps := caps, gen := gen } : World I Key Parts Val) [] [] :=
  ⟨wok_init sem caps gen, handlesOK_nil _⟩

/-- refinement from any coherent state -/
theorem C08_multi_run_eq_specRun {sem : Sem I Key Mod Err Parts Val} (hp : PrefillOK sem) (hn : MemoNamesOK sem)
    (pol : I → Policy Key) (w : World I Key Parts Val) (hs : List (Option Nat)) (shs : List (Option Parts))
    (hc : Coherent sem w hs shs) (ops : List (Op I Key Mod)) :
    run sem pol w hs ops = specRun sem shs ops := by
  induction ops generalizing w hs shs with
  | nil => rfl
  | cons op ops ih =>
    obtain ⟨h1, h2, _⟩ := C08_multi_step_coherent hp hn pol w hs shs op hc
    simp only [run, specRun]
    rw [h2, ih _ _ _ h1]

/-- refinement to the cache-free specification: for every operation sequence (cached calls on any of
    the caches, accessor reads, hashing, comparisons, copies, derivations, per-cache clear / configure), every
    family of capacities (per cache and generation; incl. 0 and unbounded), every family of eviction policies,
    every initial binding of the globals, the outputs are those of the specification -/
theorem C08_multi_history_independent {sem : Sem I Key Mod Err Parts Val} (hp : PrefillOK sem) (hn : MemoNamesOK sem)
    (pol : I → Policy Key) (caps : I → Nat → Option Nat) (gen : I → Nat) (ops : List (Op I Key Mod)) :
    run sem pol { caps := caps, gen := gen } [] ops = specRun sem [] ops :=
  C08_multi_run_eq_specRun hp hn pol _ _ _ (C08_multi_init_coherent sem caps gen) ops

theorem C08_multi_runWorld_coherent {sem : Sem I Key Mod Err Parts Val} (hp : PrefillOK sem) (hn : MemoNamesOK sem)
    (pol : I → Policy Key) (w : World I Key Parts Val) (hs : List (Option Nat)) (shs : List (Option Parts))
    (hc : Coherent sem w hs shs) (ops : List (Op I Key Mod)) :
    Coherent sem (runWorld sem pol w hs ops).1 (runWorld sem pol w hs ops).2 (specHandles sem shs ops) := by
  induction ops generalizing w hs shs with
  | nil => exact hc
  | cons op ops ih => exact ih _ _ _ (C08_multi_step_coherent hp hn pol w hs shs op hc).1

/-! ### frame: an existing object's parts never change (no hypothesis at all) -/

theorem call_heapExt (sem : Sem I Key Mod Err Parts Val) (pol : I → Policy Key) (w : World I Key Parts Val) (k : Key) :
    HeapExt w.heap (call sem pol w k).1.heap := by
  unfold call
  simp only
  split
  · split <;> exact HeapExt.refl _
  · split
    · exact HeapExt.refl _
    · exact heapExt_append _ _

theorem modCall_heapExt (sem : Sem I Key Mod Err Parts Val) (pol : I → Policy Key) (w : World I Key Parts Val)
    (hs : List (Option Nat)) (h : Nat) (m : Mod) (args : List Nat) :
    HeapExt w.heap (modCall sem pol w hs h m args).1.heap := by
  unfold modCall
  split
  · simp only
    split
    · split <;> exact HeapExt.refl _
    · split
      · exact HeapExt.refl _
      · rw [dstore_heap]; exact HeapExt.refl _
      · simp only
        split
        · rw [dstore_heap]; exact call_heapExt sem pol w _
        · exact call_heapExt sem pol w _
  · exact HeapExt.refl _

theorem step_heapExt (sem : Sem I Key Mod Err Parts Val) (pol : I → Policy Key) (w : World I Key Parts Val)
    (hs : List (Option Nat)) (op : Op I Key Mod) : HeapExt w.heap (step sem pol w hs op).1.heap := by
  cases op with
  | new k => exact call_heapExt sem pol w k
  | read h name =>
    simp only [step]
    split
    · split
      · exact HeapExt.refl _
      · split
        · exact HeapExt.refl _
        · exact heapExt_setMemo _ _ _ _
    · exact HeapExt.refl _
  | hash h =>
    simp only [step]
    split
    · split
      · exact HeapExt.refl _
      · exact heapExt_setMemo _ _ _ _
    · exact HeapExt.refl _
  | cmp c h1 h2 =>
    simp only [step]
    split <;> exact HeapExt.refl _
  | twin h =>
    simp only [step]
    split
    · exact heapExt_append _ _
    · exact HeapExt.refl _
  | mod h m args => exact modCall_heapExt sem pol w hs h m args
  | clear i => exact HeapExt.refl _
  | configure i c => exact HeapExt.refl _

/-- frame: an existing object's parts never change, whatever single operation is done — a construction through
    any cache, a read, `hash`, a comparison, a copy, a derivation, a clear or a rebinding -/
theorem C08_multi_frame (sem : Sem I Key Mod Err Parts Val) (pol : I → Policy Key) (w : World I Key Parts Val)
    (hs : List (Option Nat)) (op : Op I Key Mod) (id : Nat) (o : Obj Parts Val) :
    w.heap[id]? = some o → ∃ o', (step sem pol w hs op).1.heap[id]? = some o' ∧ o'.parts = o.parts :=
  step_heapExt sem pol w hs op id o

theorem runWorld_heapExt (sem : Sem I Key Mod Err Parts Val) (pol : I → Policy Key) (w : World I Key Parts Val)
    (hs : List (Option Nat)) (ops : List (Op I Key Mod)) : HeapExt w.heap (runWorld sem pol w hs ops).1.heap := by
  induction ops generalizing w hs with
  | nil => exact HeapExt.refl _
  | cons op ops ih => exact (step_heapExt sem pol w hs op).trans (ih _ _)

/-- an existing object's parts are the same after any sequence of operations -/
theorem C08_multi_frame_run (sem : Sem I Key Mod Err Parts Val) (pol : I → Policy Key) (w : World I Key Parts Val)
    (hs : List (Option Nat)) (ops : List (Op I Key Mod)) (id : Nat) (o : Obj Parts Val) :
    w.heap[id]? = some o → ∃ o', (runWorld sem pol w hs ops).1.heap[id]? = some o' ∧ o'.parts = o.parts :=
  runWorld_heapExt sem pol w hs ops id o

/-! ### every observation is a function of the values of the handles mentioned -/

/-- ANY operation after ANY history outputs what the specification computes from the spec values of its
    handles -/
theorem C08_multi_observation {sem : Sem I Key Mod Err Parts Val} (hp : PrefillOK sem) (hn : MemoNamesOK sem)
    (pol : I → Policy Key) (caps : I → Nat → Option Nat) (gen : I → Nat) (ops : List (Op I Key Mod))
    (op : Op I Key Mod) :
    run sem pol { caps := caps, gen := gen } [] (ops ++ [op]) =
      specRun sem [] ops ++ [(specStep sem (specHandles sem [] ops) op).2] := by
  rw [C08_multi_history_independent hp hn, specRun_append]
  rfl

/-- … so the last output of a run is the specification's output of the last operation -/
theorem run_last {sem : Sem I Key Mod Err Parts Val} (hp : PrefillOK sem) (hn : MemoNamesOK sem)
    (pol : I → Policy Key) (caps : I → Nat → Option Nat) (gen : I → Nat) (ops : List (Op I Key Mod))
    (op : Op I Key Mod) :
    (run sem pol { caps := caps, gen := gen } [] (ops ++ [op])).getLast? =
      some (specStep sem (specHandles sem [] ops) op).2 := by
  rw [C08_multi_observation hp hn]
  simp only [List.getLast?_append, List.getLast?_singleton, Option.some_or]

/-- `hash(url)` after any history — whether answered from `_cache["hash"]` (possibly filled through another
    handle of a shared object, by another constructor's cache hit) or computed — is `sem.hash` of the parts -/
theorem C08_multi_hash_reads_only_parts {sem : Sem I Key Mod Err Parts Val} (hp : PrefillOK sem) (hn : MemoNamesOK sem)
    (pol : I → Policy Key) (caps : I → Nat → Option Nat) (gen : I → Nat) (ops : List (Op I Key Mod)) (h : Nat) :
    (run sem pol { caps := caps, gen := gen } [] (ops ++ [.hash h])).getLast? =
      some (match valOf (specHandles sem [] ops) h with
            | some p => .value (sem.hash p)
            | none => .dead) := by
  rw [run_last hp hn]
  simp only [specStep]
  cases valOf (specHandles sem [] ops) h <;> rfl

/-- `url1 <op> url2` after any history is `sem.cmp op` of the two parts -/
theorem C08_multi_cmp_reads_only_parts {sem : Sem I Key Mod Err Parts Val} (hp : PrefillOK sem) (hn : MemoNamesOK sem)
    (pol : I → Policy Key) (caps : I → Nat → Option Nat) (gen : I → Nat) (ops : List (Op I Key Mod))
    (c : CmpOp) (h1 h2 : Nat) :
    (run sem pol { caps := caps, gen := gen } [] (ops ++ [.cmp c h1 h2])).getLast? =
      some (match valOf (specHandles sem [] ops) h1, valOf (specHandles sem [] ops) h2 with
            | some p1, some p2 => .value (sem.cmp c p1 p2)
            | _, _ => .dead) := by
  rw [run_last hp hn]
  simp only [specStep]
  cases valOf (specHandles sem [] ops) h1 <;> cases valOf (specHandles sem [] ops) h2 <;> rfl

/-- an accessor read after any history is `sem.derive` of the parts -/
theorem C08_multi_read_reads_only_parts {sem : Sem I Key Mod Err Parts Val} (hp : PrefillOK sem) (hn : MemoNamesOK sem)
    (pol : I → Policy Key) (caps : I → Nat → Option Nat) (gen : I → Nat) (ops : List (Op I Key Mod))
    (h : Nat) (name : String) :
    (run sem pol { caps := caps, gen := gen } [] (ops ++ [.read h name])).getLast? =
      some (match valOf (specHandles sem [] ops) h with
            | some p => .value (sem.derive p name)
            | none => .dead) := by
  rw [run_last hp hn]
  simp only [specStep]
  cases valOf (specHandles sem [] ops) h <;> rfl

/-- a derivation after any history yields `sem.modVal` of the parts of its arguments -/
theorem C08_multi_mod_reads_only_parts {sem : Sem I Key Mod Err Parts Val} (hp : PrefillOK sem) (hn : MemoNamesOK sem)
    (pol : I → Policy Key) (caps : I → Nat → Option Nat) (gen : I → Nat) (ops : List (Op I Key Mod))
    (h : Nat) (m : Mod) (args : List Nat) :
    (run sem pol { caps := caps, gen := gen } [] (ops ++ [.mod h m args])).getLast? =
      some (match valOf (specHandles sem [] ops) h, valsOf (specHandles sem [] ops) args with
            | some p, some ps => .handle (sem.modVal m p ps)
            | _, _ => .dead) := by
  rw [run_last hp hn]
  simp only [specStep]
  cases valOf (specHandles sem [] ops) h <;> cases valsOf (specHandles sem [] ops) args <;> rfl

set_option linter.unusedSectionVars false in
/-- composition "comparison / hash read only the parts, and parts never change": the outcome of hashing or
    comparing live handles is the same before and after ANY further history -/
theorem C08_multi_hash_cmp_stable (sem : Sem I Key Mod Err Parts Val) (shs : List (Option Parts))
    (ops : List (Op I Key Mod)) (c : CmpOp) (h1 h2 : Nat) (hl1 : h1 < shs.length) (hl2 : h2 < shs.length) :
    (specStep sem (specHandles sem shs ops) (.hash h1)).2 = (specStep sem shs (.hash h1)).2 ∧
    (specStep sem (specHandles sem shs ops) (.cmp c h1 h2)).2 = (specStep sem shs (.cmp c h1 h2)).2 ∧
    ∀ name, (specStep sem (specHandles sem shs ops) (.read h1 name)).2 = (specStep sem shs (.read h1 name)).2 := by
  simp only [specStep, valOf_stable sem shs ops h1 hl1, valOf_stable sem shs ops h2 hl2]
  generalize valOf shs h1 = x
  generalize valOf shs h2 = y
  refine ⟨?_, ?_, fun name => ?_⟩
  · cases x <;> rfl
  · cases x <;> cases y <;> rfl
  · cases x <;> rfl

/-! ### cache configuration is unobservable -/

def isCacheOp : Op I Key Mod → Bool
  | .clear _ => true
  | .configure _ _ => true
  | _ => false

/-- the outputs of the non-cache operations of a run -/
def nonCacheOuts (ops : List (Op I Key Mod)) (outs : List (Out Err Parts Val)) : List (Out Err Parts Val) :=
  ((ops.zip outs).filter (fun x => !isCacheOp x.1)).map (·.2)

omit [DecidableEq I] [DecidableEq Key] in
theorem specRun_nonCache (sem : Sem I Key Mod Err Parts Val) (shs : List (Option Parts)) (ops : List (Op I Key Mod)) :
    nonCacheOuts ops (specRun sem shs ops) = specRun sem shs (ops.filter (fun o => !isCacheOp o)) := by
  induction ops generalizing shs with
  | nil => rfl
  | cons op ops ih =>
    have ih' := ih (specStep sem shs op).1
    unfold nonCacheOuts at ih' ⊢
    simp only [specRun, List.zip_cons_cons, List.filter_cons]
    cases hc : isCacheOp op with
    | true =>
      have hs' : (specStep sem shs op).1 = shs := by
        cases op <;> simp only [isCacheOp, Bool.false_eq_true] at hc <;> rfl
      simp only [Bool.not_true, Bool.false_eq_true, if_false]
      rw [ih', hs']
    | false =>
      simp only [Bool.not_false, if_true, List.map_cons, specRun]
      rw [ih']

/-- two runs that differ only in the capacities, the eviction policies, the initial bindings and interleaved
    per-cache `clear` / `configure` operations agree on every other output -/
theorem C08_multi_cache_config_irrelevant {sem : Sem I Key Mod Err Parts Val} (hp : PrefillOK sem) (hn : MemoNamesOK sem)
    (pol pol' : I → Policy Key) (caps caps' : I → Nat → Option Nat) (gen gen' : I → Nat)
    (ops ops' : List (Op I Key Mod))
    (hsame : ops.filter (fun o => !isCacheOp o) = ops'.filter (fun o => !isCacheOp o)) :
    nonCacheOuts ops (run sem pol { caps := caps, gen := gen } [] ops) =
      nonCacheOuts ops' (run sem pol' { caps := caps', gen := gen' } [] ops') := by
  rw [C08_multi_history_independent hp hn, C08_multi_history_independent hp hn, specRun_nonCache, specRun_nonCache, hsame]

theorem C08_multi_cap_policy_irrelevant {sem : Sem I Key Mod Err Parts Val} (hp : PrefillOK sem) (hn : MemoNamesOK sem)
    (pol pol' : I → Policy Key) (caps caps' : I → Nat → Option Nat) (gen gen' : I → Nat) (ops : List (Op I Key Mod)) :
    run sem pol { caps := caps, gen := gen } [] ops = run sem pol' { caps := caps', gen := gen' } [] ops := by
  rw [C08_multi_history_independent hp hn, C08_multi_history_independent hp hn]

end Yarl.MultiCache

/-! ## the REAL model: four shared-object constructors, derivations, hash, comparisons -/
namespace Yarl.MultiInst
open Yarl.Cache (Val acc GoodKey prefillStr prefillOf Policy Obj)
open Yarl.CacheLemmas Yarl.CacheInst Yarl.MultiCache

/-- the caches of `_url.py` that hand out URL objects; `uncached` stands for `from_parts_uncached` and the
    non-encoded branch of `URL.build` (fresh object every time): it is the cache whose capacity is `some 0` in the
    real configuration — the theorems hold for EVERY capacity, this one included -/
inductive YCache where
  | encodeUrl | preEncodedUrl | buildPreEncoded | fromParts | uncached
  deriving DecidableEq, Repr

-- `YKey` below has `BuildArgs` among its keys and needs to compare them; the model file derives no equality for it
deriving instance DecidableEq for BuildArgs

/-- call keys -/
inductive YKey (e : Env) where
  | url (k : GoodKey e)            -- `URL(s)`                 → `encode_url(s)`, s inside the C09 guard
  | encoded (s : Str)              -- `URL(s, encoded=True)`   → `pre_encoded_url(s)`
  | build (a : BuildArgs)          -- `URL.build(...)`         → `build_pre_encoded_url(...)` if `encoded`, else fresh
  | parts (p : Parts)              -- `from_parts(scheme, netloc, path, query, fragment)`
  | partsUncached (p : Parts)      -- `from_parts_uncached(...)`
  deriving DecidableEq

/-- values: accessor results, `hash`, comparison results, `_sort_key` -/
inductive MVal where
  | acc (v : Val)
  | hash (n : Int)
  | cmp (b : Bool)
  | key (p : Parts)
  deriving DecidableEq

/-- the derivations of the model (YarlModel/Url.lean), with their non-URL arguments -/
inductive YMod where
  | withScheme (s : Str)
  | withUser (x : Option Str)
  | withPassword (x : Option Str)
  | withHost (h : Str)
  | withPort (p : Option Int) (kind : Nat)
  | withPath (path : Str) (encoded keepQuery keepFragment : Bool)
  | withQuery (a : QArg)
  | extendQuery (a : QArg)
  | updateQuery (a : QArg)
  | withoutQueryParams (names : List Str)
  | withFragment (f : Option Str)
  | withName (n : Str) (keepQuery keepFragment : Bool)
  | withSuffix (s : Str) (keepQuery keepFragment : Bool)
  | makeChild (paths : List Str) (encoded : Bool)     -- `/`, `joinpath`
  | parent
  | origin
  | relative
  | join                                              -- `self.join(url)`: one URL argument
  | fn (f : Url → R Url)                              -- any further derivation that ends in `from_parts(...)`

/-- the value of a derivation, as the model computes it (URL arguments beyond the arity are ignored) -/
def yapply (e : Env) (m : YMod) (u : Url) (args : List Url) : R Url :=
  match m with
  | .withScheme s => withScheme e u s
  | .withUser x => withUser e u x
  | .withPassword x => withPassword e u x
  | .withHost h => withHost e u h
  | .withPort p k => withPort e u p k
  | .withPath p en kq kf => pure (withPath e u p en kq kf)
  | .withQuery a => withQuery e u a
  | .extendQuery a => extendQuery e u a
  | .updateQuery a => updateQuery e u a
  | .withoutQueryParams ns => withoutQueryParams e u ns
  | .withFragment f => pure (withFragment e u f)
  | .withName n kq kf => withName e u n kq kf
  | .withSuffix s kq kf => withSuffix e u s kq kf
  | .makeChild ps en => makeChild e u ps en
  | .parent => pure (parent u)
  | .origin => origin e u
  | .relative => relative u
  | .join =>
    match args with
    | [r] => pure (join e u r)
    | _ => .error .typeError
  | .fn f => f u

/-- when the Python method returns one of its argument OBJECTS (`return self`, `return url`): its index -/
def yself (e : Env) (m : YMod) (u : Url) (args : List Url) : Option Nat :=
  match m with
  | .withFragment f =>
    if u.fragment = (match f with | none => [] | some s => q e Gen.FRAGMENT_QUOTER s) then some 0 else none
  | .parent =>
    if (u.path.isEmpty || u.path = [47]) && !(!u.fragment.isEmpty || !u.query.isEmpty) then some 0 else none
  | .origin =>
    if !u.netloc.isEmpty && !u.scheme.isEmpty && !mem 64 u.netloc && (u.path.isEmpty && u.query.isEmpty && u.fragment.isEmpty)
    then some 0 else none
  | .extendQuery a =>
    match getStrQuery e.b a with
    | .ok none => some 0
    | .ok (some nq) => if nq.isEmpty then some 0 else none
    | .error _ => none
  | .withoutQueryParams ns =>
    if (ns.filter (fun n => (queryPairs u).any (·.1 = n))).isEmpty then some 0 else none
  | .join =>
    match args with
    | [r] =>
      if (if !r.scheme.isEmpty then r.scheme else u.scheme) ≠ u.scheme
          || !Gen.usesRelative.contains (if !r.scheme.isEmpty then r.scheme else u.scheme) then some 1 else none
    | _ => none
  | _ => none

/-- the query modifiers build their result with `from_parts_uncached` -/
def ycached : YMod → Bool
  | .withQuery _ | .extendQuery _ | .updateQuery _ | .withoutQueryParams _ => false
  | _ => true

/-- `parent` and `_origin` are `cached_property`s: the result OBJECT is memoised in the source object -/
def ymemo : YMod → Option String
  | .parent => some "parent"
  | .origin => some "_origin"
  | _ => none

def cmpUrl : CmpOp → Url → Url → Bool
  | .eq, a, b => a.beq b
  | .ne, a, b => !a.beq b
  | .lt, a, b => a.lt b
  | .le, a, b => a.le b
  | .gt, a, b => a.gt b
  | .ge, a, b => a.ge b

def sortKeyName : String := "_sort_key"

/-- THE instantiation.  Objects are the five stored strings (`Parts`); `hf` is Python's hash of a 5-tuple of
    strings (process dependent, any function) -/
def yarlMSem (e : Env) (hf : Parts → Int) : Sem YCache (YKey e) YMod PyErr Parts MVal where
  cacheOf
    | .url _ => .encodeUrl
    | .encoded _ => .preEncodedUrl
    | .build a => if a.encoded then .buildPreEncoded else .uncached
    | .parts _ => .fromParts
    | .partsUncached _ => .uncached
  construct
    | .url k => (encodeUrl e k.1).map Url.parts
    | .encoded s => (preEncodedUrl e s).map Url.parts
    | .build a => (build e a).map Url.parts
    | .parts p => .ok p
    | .partsUncached p => .ok p
  prefill
    | .url k, _ => (prefillStr e k.1).map (fun nv => (nv.1, MVal.acc nv.2))
    | _, _ => []
  derive p n := if n = sortKeyName then .key (eqKey (Url.ofParts p)) else .acc (acc e (Url.ofParts p) n)
  hash p := .hash (hf (eqKey (Url.ofParts p)))
  cmp c p r := .cmp (cmpUrl c (Url.ofParts p) (Url.ofParts r))
  modify m p ps :=
    match yself e m (Url.ofParts p) (ps.map Url.ofParts) with
    | some j => .same j
    | none =>
      match yapply e m (Url.ofParts p) (ps.map Url.ofParts) with
      | .error x => .raise x
      | .ok r => .via (if ycached m then .parts r.parts else .partsUncached r.parts)
  memoName := ymemo

/-- a method that returns an argument object returns, in the model, that argument's value -/
theorem yself_ok (e : Env) (m : YMod) (u : Url) (args : List Url) (j : Nat) (h : yself e m u args = some j) :
    yapply e m u args = .ok ((u :: args).getD j u) := by
  cases m with
  | withFragment f =>
    cases f <;> simp only [yself] at h <;> split at h
    · rename_i hc
      cases h
      simp only [yapply, withFragment, hc, if_true, List.getD_cons_zero]
      rfl
    · cases h
    · rename_i hc
      cases h
      simp only [yapply, withFragment, hc, if_true, List.getD_cons_zero]
      rfl
    · cases h
  | parent =>
    simp only [yself] at h
    split at h
    · rename_i hc
      cases h
      simp only [Bool.and_eq_true, Bool.not_eq_true', Bool.or_eq_false_iff] at hc
      simp only [yapply, parent, hc.1, hc.2.1, hc.2.2, if_true, List.getD_cons_zero]
      rfl
    · cases h
  | origin =>
    simp only [yself] at h
    split at h
    · rename_i hc
      cases h
      simp only [Bool.and_eq_true, Bool.not_eq_true'] at hc
      obtain ⟨⟨⟨h1, h2⟩, h3⟩, ⟨h4, h5⟩, h6⟩ := hc
      simp only [yapply, origin, h1, h2, h3, h4, h5, h6, Bool.false_eq_true, if_false, Bool.and_self, if_true,
        List.getD_cons_zero]
      rfl
    · cases h
  | extendQuery a =>
    simp only [yself] at h
    simp only [yapply, extendQuery]
    split at h
    · rename_i hq
      cases h
      simp only [hq, bind, Except.bind, List.getD_cons_zero]
      rfl
    · rename_i nq hq
      split at h
      · rename_i hn
        cases h
        simp only [hq, bind, Except.bind, hn, if_true, List.getD_cons_zero]
        rfl
      · cases h
    · cases h
  | withoutQueryParams ns =>
    simp only [yself] at h
    split at h
    · rename_i hc
      cases h
      simp only [yapply, withoutQueryParams, hc, if_true, List.getD_cons_zero]
      rfl
    · cases h
  | join =>
    simp only [yself] at h
    split at h
    · rename_i r
      by_cases hc : (decide ((if (!List.isEmpty r.scheme) = true then r.scheme else u.scheme) ≠ u.scheme) ||
              !Gen.usesRelative.contains (if (!List.isEmpty r.scheme) = true then r.scheme else u.scheme)) = true
      · rw [if_pos hc] at h
        cases h
        simp only [yapply, join, hc, if_true]
        rfl
      · rw [if_neg hc] at h
        cases h
    · cases h
  | _ => simp only [yself] at h; cases h

theorem getD_map_parts (p : Parts) (ps : List Parts) (j : Nat) :
    ((Url.ofParts p :: ps.map Url.ofParts).getD j (Url.ofParts p)).parts = (p :: ps).getD j p := by
  have : (Url.ofParts p :: ps.map Url.ofParts) = (p :: ps).map Url.ofParts := rfl
  rw [this, List.getD_eq_getElem?_getD, List.getD_eq_getElem?_getD, List.getElem?_map]
  cases (p :: ps)[j]? <;> rfl

theorem prefillOf_names {x : Option NetPre} {nv : String × Val} (h : nv ∈ prefillOf x) :
    nv.1 = "raw_host" ∨ nv.1 = "explicit_port" ∨ nv.1 = "raw_user" ∨ nv.1 = "raw_password" := by
  cases x with
  | none => cases h
  | some n =>
    simp only [prefillOf, List.mem_cons, List.not_mem_nil, or_false] at h
    rcases h with rfl | rfl | rfl | rfl <;> simp

/-- `PrefillOK` for the four-constructor semantics: only `encode_url` pre-fills, and what it writes is what the
    accessors compute from the five parts (property C09, via `prefillStr_ok`) -/
theorem yarl_prefillOK (e : Env) (hf : Parts → Int) : PrefillOK (yarlMSem e hf) := by
  intro k p hk nv hnv
  cases k with
  | url k =>
    simp only [yarlMSem] at hk hnv
    obtain ⟨nv0, h0, rfl⟩ := List.mem_map.mp hnv
    cases hu : encodeUrl e k.1 with
    | error x => rw [hu] at hk; cases hk
    | ok u =>
      rw [hu] at hk
      simp only [Except.map, Except.ok.injEq] at hk
      subst hk
      have h1 := prefillStr_ok e k.1 k.2 (pickleTwin u) (constructStr_of_ok hu) nv0 h0
      have hn : nv0.1 = "raw_host" ∨ nv0.1 = "explicit_port" ∨ nv0.1 = "raw_user" ∨ nv0.1 = "raw_password" := by
        rw [prefillStr_of_ok hu] at h0
        exact prefillOf_names h0
      have hne1 : ¬ nv0.1 = hashKey := by rcases hn with h | h | h | h <;> rw [h] <;> decide
      have hne2 : ¬ nv0.1 = sortKeyName := by rcases hn with h | h | h | h <;> rw [h] <;> decide
      simp only [Sem.attr, hne1, if_false, h1]
      show _ = (if nv0.1 = sortKeyName then _ else _)
      rw [if_neg hne2]
      rfl
  | encoded s => cases hnv
  | build a => cases hnv
  | parts p' => cases hnv
  | partsUncached p' => cases hnv

theorem ymemo_some {m : YMod} {n : String} (h : ymemo m = some n) :
    (m = .parent ∧ n = "parent") ∨ (m = .origin ∧ n = "_origin") := by
  cases m <;> simp only [ymemo, Option.some.injEq, reduceCtorEq] at h
  · exact Or.inl ⟨rfl, h.symm⟩
  · exact Or.inr ⟨rfl, h.symm⟩

theorem yarl_memoNamesOK (e : Env) (hf : Parts → Int) : MemoNamesOK (yarlMSem e hf) := by
  intro m m' n h1 h2 p
  rcases ymemo_some h1 with ⟨rfl, rfl⟩ | ⟨rfl, rfl⟩ <;> rcases ymemo_some h2 with ⟨rfl, h⟩ | ⟨rfl, h⟩
  · rfl
  · exact absurd h (by decide +kernel)
  · exact absurd h (by decide +kernel)
  · rfl

end Yarl.MultiInst

namespace Yarl
open Yarl.Cache (Val acc GoodKey Policy Obj)
open Yarl.MultiCache Yarl.MultiInst

/-! ### the real model: refinement, and what `hash`, comparisons and derived URLs answer -/

/-- for yarl: `encode_url` (keys inside the C09 guard), `pre_encoded_url`, `URL.build` /
    `build_pre_encoded_url`, `from_parts`, `from_parts_uncached`, every modifier of the model, `hash`, the six
    comparisons, the 34 accessors + `_sort_key`, pickling, per-cache clear / rebinding configure: for every
    operation sequence, every family of capacities and eviction policies, the outputs are those of the cache-free
    specification -/
theorem C08_multi_yarl_history_independent (e : Env) (hf : Parts → Int) (pol : YCache → Policy (YKey e))
    (caps : YCache → Nat → Option Nat) (gen : YCache → Nat) (ops : List (Op YCache (YKey e) YMod)) :
    run (yarlMSem e hf) pol { caps := caps, gen := gen } [] ops = specRun (yarlMSem e hf) [] ops :=
  C08_multi_history_independent (yarl_prefillOK e hf) (yarl_memoNamesOK e hf) pol caps gen ops

theorem C08_multi_yarl_run_eq_specRun (e : Env) (hf : Parts → Int) (pol : YCache → Policy (YKey e))
    (w : World YCache (YKey e) Parts MVal) (hs : List (Option Nat)) (shs : List (Option Parts))
    (hc : Coherent (yarlMSem e hf) w hs shs) (ops : List (Op YCache (YKey e) YMod)) :
    run (yarlMSem e hf) pol w hs ops = specRun (yarlMSem e hf) shs ops :=
  C08_multi_run_eq_specRun (yarl_prefillOK e hf) (yarl_memoNamesOK e hf) pol w hs shs hc ops

theorem C08_multi_yarl_cache_config_irrelevant (e : Env) (hf : Parts → Int) (pol pol' : YCache → Policy (YKey e))
    (caps caps' : YCache → Nat → Option Nat) (gen gen' : YCache → Nat) (ops ops' : List (Op YCache (YKey e) YMod))
    (hsame : ops.filter (fun o => !isCacheOp o) = ops'.filter (fun o => !isCacheOp o)) :
    nonCacheOuts ops (run (yarlMSem e hf) pol { caps := caps, gen := gen } [] ops) =
      nonCacheOuts ops' (run (yarlMSem e hf) pol' { caps := caps', gen := gen' } [] ops') :=
  C08_multi_cache_config_irrelevant (yarl_prefillOK e hf) (yarl_memoNamesOK e hf) pol pol' caps caps' gen gen' ops ops' hsame

/-- the value of a derivation in the specification is the model's modifier applied to the five parts -/
theorem C08_multi_yarl_modVal (e : Env) (hf : Parts → Int) (m : YMod) (p : Parts) (ps : List Parts) :
    (yarlMSem e hf).modVal m p ps = (yapply e m (Url.ofParts p) (ps.map Url.ofParts)).map Url.parts := by
  simp only [Sem.modVal, yarlMSem]
  cases hs : yself e m (Url.ofParts p) (ps.map Url.ofParts) with
  | some j =>
    simp only [yself_ok e m _ _ j hs, Except.map, getD_map_parts]
  | none =>
    cases ha : yapply e m (Url.ofParts p) (ps.map Url.ofParts) with
    | error x => rfl
    | ok r =>
      simp only [Except.map]
      by_cases hcch : ycached m = true <;> simp only [hcch, if_true, if_false, Bool.false_eq_true]

/-- a derivation (any modifier, any URL arguments) on handles with values `p`, `ps` after ANY history `ops`, then ANY
    further history `ops'`, then accessor `name` on the derived handle: the answer is the accessor on the
    model's modifier result `r` — whether the result object came out of the `from_parts` cache (shared with
    other derivations that produced equal parts), was freshly built, is the argument object itself, or was
    found in the source object's `parent` / `_origin` memo -/
theorem C08_multi_yarl_mod_read (e : Env) (hf : Parts → Int) (pol : YCache → Policy (YKey e))
    (caps : YCache → Nat → Option Nat) (gen : YCache → Nat) (ops ops' : List (Op YCache (YKey e) YMod))
    (h : Nat) (m : YMod) (args : List Nat) (name : String) (p : Parts) (ps : List Parts) (r : Url)
    (hp : valOf (specHandles (yarlMSem e hf) [] ops) h = some p)
    (hps : valsOf (specHandles (yarlMSem e hf) [] ops) args = some ps)
    (hr : yapply e m (Url.ofParts p) (ps.map Url.ofParts) = .ok r) :
    (run (yarlMSem e hf) pol { caps := caps, gen := gen } []
        (ops ++ .mod h m args :: ops' ++ [.read (specHandles (yarlMSem e hf) [] ops).length name])).getLast? =
      some (.value (if name = sortKeyName then .key (eqKey r) else .acc (acc e (pickleTwin r) name))) := by
  have key : valOf (specHandles (yarlMSem e hf) [] (ops ++ .mod h m args :: ops'))
      (specHandles (yarlMSem e hf) [] ops).length = some r.parts := by
    rw [specHandles_append]
    exact valOf_appended _ _ _ _ ops' (by simp only [specStep, hp, hps, C08_multi_yarl_modVal, hr, Except.map, Except.toOption])
  rw [C08_multi_read_reads_only_parts (yarl_prefillOK e hf) (yarl_memoNamesOK e hf), key]
  rfl

/-- `hash(url)` and `url1 <op> url2` after ANY history are functions of the five parts (through the key
    `eqKey` = `_sort_key`): the memoised `_cache["hash"]` can never hold anything else -/
theorem C08_multi_yarl_hash_cmp (e : Env) (hf : Parts → Int) (pol : YCache → Policy (YKey e))
    (caps : YCache → Nat → Option Nat) (gen : YCache → Nat) (ops : List (Op YCache (YKey e) YMod))
    (c : CmpOp) (h1 h2 : Nat) :
    (run (yarlMSem e hf) pol { caps := caps, gen := gen } [] (ops ++ [.hash h1])).getLast? =
      some (match valOf (specHandles (yarlMSem e hf) [] ops) h1 with
            | some p => .value (.hash (hf (eqKey (Url.ofParts p))))
            | none => .dead) ∧
    (run (yarlMSem e hf) pol { caps := caps, gen := gen } [] (ops ++ [.cmp c h1 h2])).getLast? =
      some (match valOf (specHandles (yarlMSem e hf) [] ops) h1, valOf (specHandles (yarlMSem e hf) [] ops) h2 with
            | some p1, some p2 => .value (.cmp (cmpUrl c (Url.ofParts p1) (Url.ofParts p2)))
            | _, _ => .dead) :=
  by
  refine ⟨?_, ?_⟩
  · rw [C08_multi_hash_reads_only_parts (yarl_prefillOK e hf) (yarl_memoNamesOK e hf)]
    cases valOf (specHandles (yarlMSem e hf) [] ops) h1 <;> rfl
  · rw [C08_multi_cmp_reads_only_parts (yarl_prefillOK e hf) (yarl_memoNamesOK e hf)]
    cases valOf (specHandles (yarlMSem e hf) [] ops) h1 <;> cases valOf (specHandles (yarlMSem e hf) [] ops) h2 <;> rfl

/-- the six comparisons are functions of the two `_sort_key`s (which the ordering methods read through a
    memoised property: `.read h "_sort_key"` in the machine), and equal URLs have equal hashes -/
theorem C08_multi_yarl_cmp_of_sort_key (a b : Url) :
    cmpUrl .eq a b = decide (eqKey a = eqKey b) ∧ cmpUrl .ne a b = !decide (eqKey a = eqKey b) ∧
    cmpUrl .lt a b = ltParts (eqKey a) (eqKey b) ∧
    cmpUrl .le a b = (ltParts (eqKey a) (eqKey b) || decide (eqKey a = eqKey b)) ∧
    cmpUrl .gt a b = ltParts (eqKey b) (eqKey a) ∧
    cmpUrl .ge a b = (ltParts (eqKey b) (eqKey a) || decide (eqKey b = eqKey a)) :=
  ⟨rfl, rfl, rfl, rfl, rfl, rfl⟩

theorem C08_multi_yarl_eq_hash (e : Env) (hf : Parts → Int) (p1 p2 : Parts)
    (h : (yarlMSem e hf).cmp .eq p1 p2 = .cmp true) : (yarlMSem e hf).hash p1 = (yarlMSem e hf).hash p2 := by
  have h' : cmpUrl .eq (Url.ofParts p1) (Url.ofParts p2) = true := by
    simpa [yarlMSem] using h
  have : eqKey (Url.ofParts p1) = eqKey (Url.ofParts p2) := by
    simpa [cmpUrl, Url.beq] using h'
  show MVal.hash _ = MVal.hash _
  rw [this]

end Yarl

/-! ## the three configurable string caches: `_encode_host`, `_idna_encode`, `_idna_decode`

    These are the caches `cache_clear()` / `cache_configure()` act on.  Their values are immutable strings:
    objects with `Parts` = the string, no accessors, no prefill, no derivations. -/
namespace Yarl.MultiInst
open Yarl.MultiCache

inductive SCache where
  | encodeHost | idnaEncode | idnaDecode
  deriving DecidableEq, Repr

inductive SKey where
  | host (h : Str) (validate : Bool)    -- `_encode_host(host, validate_host)`
  | idnaEnc (s : Str)                   -- `_idna_encode(host)`
  | idnaDec (s : Str)                   -- `_idna_decode(raw)`
  deriving DecidableEq, Repr

def strSem (o : Oracles) : Sem SCache SKey Empty PyErr Str Unit where
  cacheOf
    | .host _ _ => .encodeHost
    | .idnaEnc _ => .idnaEncode
    | .idnaDec _ => .idnaDecode
  construct
    | .host h v => encodeHost o h v
    | .idnaEnc s => idnaEncode o s
    | .idnaDec s => idnaDecode o s
  prefill _ _ := []
  derive _ _ := ()
  hash _ := ()
  cmp _ _ _ := ()
  modify m := m.elim
  memoName m := m.elim

theorem str_prefillOK (o : Oracles) : PrefillOK (strSem o) := fun _ _ _ _ h => by cases h
theorem str_memoNamesOK (o : Oracles) : MemoNamesOK (strSem o) := fun m => m.elim

end Yarl.MultiInst

namespace Yarl
open Yarl.MultiCache Yarl.MultiInst

/-- the string caches under ANY sequence of calls, `cache_clear()`s and rebinding `cache_configure()`s (per
    cache, in any order, any sizes incl. 0 and unbounded, any eviction policy): every call returns what the
    uncached function computes -/
theorem C08_multi_strcaches_history_independent (o : Oracles) (pol : SCache → Cache.Policy SKey)
    (caps : SCache → Nat → Option Nat) (gen : SCache → Nat) (ops : List (Op SCache SKey Empty)) :
    run (strSem o) pol { caps := caps, gen := gen } [] ops = specRun (strSem o) [] ops :=
  C08_multi_history_independent (str_prefillOK o) (str_memoNamesOK o) pol caps gen ops

/-- in particular `_encode_host(h, v)` after any history is `encodeHost o h v` (value or exception), and likewise
    `_idna_encode` / `_idna_decode` -/
theorem C08_multi_encode_host_history_independent (o : Oracles) (pol : SCache → Cache.Policy SKey)
    (caps : SCache → Nat → Option Nat) (gen : SCache → Nat) (ops : List (Op SCache SKey Empty))
    (h : Str) (v : Bool) (s : Str) :
    (run (strSem o) pol { caps := caps, gen := gen } [] (ops ++ [.new (.host h v)])).getLast? =
      some (.handle (encodeHost o h v)) ∧
    (run (strSem o) pol { caps := caps, gen := gen } [] (ops ++ [.new (.idnaEnc s)])).getLast? =
      some (.handle (idnaEncode o s)) ∧
    (run (strSem o) pol { caps := caps, gen := gen } [] (ops ++ [.new (.idnaDec s)])).getLast? =
      some (.handle (idnaDecode o s)) := by
  refine ⟨?_, ?_, ?_⟩ <;>
  · rw [run_last (str_prefillOK o) (str_memoNamesOK o)]
    rfl

end Yarl

/-! ## pure-value caches (`split_netloc`, `make_netloc`, …): ANY function behind an `lru_cache` -/
namespace Yarl.MultiInst
open Yarl.MultiCache

/-- one cache in front of an arbitrary pure function (values without accessors) -/
def pureSem {K V Err : Type} (f : K → Except Err V) : Sem Unit K Empty Err V Unit where
  cacheOf _ := ()
  construct := f
  prefill _ _ := []
  derive _ _ := ()
  hash _ := ()
  cmp _ _ _ := ()
  modify m := m.elim
  memoName m := m.elim

end Yarl.MultiInst

namespace Yarl
open Yarl.MultiCache Yarl.MultiInst

/-- a cached pure function returns, after ANY history of calls / clears / rebindings, under any capacity and
    eviction policy, what the function computes (value or exception) -/
theorem C08_multi_pure_cache_history_independent {K V Err : Type} [DecidableEq K] (f : K → Except Err V)
    (pol : Unit → Cache.Policy K) (caps : Unit → Nat → Option Nat) (gen : Unit → Nat) (ops : List (Op Unit K Empty)) (k : K) :
    run (pureSem f) pol { caps := caps, gen := gen } [] ops = specRun (pureSem f) [] ops ∧
    (run (pureSem f) pol { caps := caps, gen := gen } [] (ops ++ [.new k])).getLast? = some (.handle (f k)) := by
  have hp : PrefillOK (pureSem f) := fun _ _ _ _ h => by cases h
  have hn : MemoNamesOK (pureSem f) := fun m => m.elim
  refine ⟨C08_multi_history_independent hp hn pol caps gen ops, ?_⟩
  rw [MultiCache.run_last hp hn]
  rfl

/-- `split_netloc` -/
theorem C08_multi_split_netloc_history_independent (o : Oracles) (pol : Unit → Cache.Policy Str)
    (caps : Unit → Nat → Option Nat) (gen : Unit → Nat) (ops : List (Op Unit Str Empty)) (s : Str) :
    (run (pureSem (splitNetloc o)) pol { caps := caps, gen := gen } [] (ops ++ [.new s])).getLast? =
      some (.handle (splitNetloc o s)) :=
  (C08_multi_pure_cache_history_independent (splitNetloc o) pol caps gen ops s).2

end Yarl

/-! ## non-vacuity -/
namespace Yarl.MultiCache.Tiny
open Yarl.Cache (Policy)

deriving instance DecidableEq for Out

/-- cache `false`: an `encode_url`-like constructor (normalises its key, pre-fills "x");
    cache `true`: a `from_parts`-like constructor (the key IS the parts, no prefill);
    derivation `k`: add `k` (`0` returns `self`, results above 100 raise), obtained THROUGH cache `true`;
    derivation 7 is a memoised property -/
def sem : Sem Bool (Bool × Nat) Nat Unit Nat Nat where
  cacheOf k := k.1
  construct k := if k.1 then .ok k.2 else .ok (k.2 % 3)
  prefill k p := if k.1 then [] else [("x", p + 1)]
  derive p n := p + n.length
  hash p := 1000 + p
  cmp c p r := match c with | .eq => if p = r then 1 else 0 | .lt => if p < r then 1 else 0 | _ => 2
  modify k p _ := if k = 0 then .same 0 else if p + k > 100 then .raise () else .via (true, p + k)
  memoName k := if k = 7 then some "plus7" else none

/-- the same with a WRONG prefill -/
def badPrefill : Sem Bool (Bool × Nat) Nat Unit Nat Nat := { sem with prefill := fun _ _ => [("x", 99)] }
/-- the same with ALL derivations memoised under one property name -/
def badNames : Sem Bool (Bool × Nat) Nat Unit Nat Nat := { sem with memoName := fun _ => some "p" }

def lru : Bool → Policy (Bool × Nat) :=
  fun _ => { evict := fun t => t.dropLast, sub := fun t _ h => List.dropLast_subset t h }

def w0 (cap : Option Nat) : World Bool (Bool × Nat) Nat Nat := { caps := fun _ _ => cap }

theorem sem_prefillOK : PrefillOK sem := by
  intro k p hk nv hnv
  obtain ⟨b, n⟩ := k
  cases b
  · simp only [sem, Bool.false_eq_true, if_false, List.mem_singleton] at hnv
    subst hnv
    show p + 1 = sem.attr p "x"
    simp only [Sem.attr, sem, hashKey]
    rfl
  · simp [sem] at hnv

theorem sem_memoNamesOK : MemoNamesOK sem := by
  intro m m' n h1 h2 p
  simp only [sem] at h1 h2
  have e1 : m = 7 := by by_cases h : m = 7 <;> simp_all
  have e2 : m' = 7 := by by_cases h : m' = 7 <;> simp_all
  rw [e1, e2]

/-- two derivations with equal results share ONE object (second `from_parts` call hits); a direct `from_parts`
    call with those parts hits too; derivation 0 returns `self`; derivation 200 raises -/
example : (runWorld sem lru (w0 (some 4)) []
    [.new (false, 1), .mod 0 5 [], .mod 0 5 [], .new (true, 6), .mod 0 0 [], .mod 0 200 []]).2 =
    [some 0, some 1, some 1, some 1, some 0, none] := by decide +kernel
/-- the memoised derivation 7 returns the SAME object after the `from_parts` table was cleared and even after
    the cache was rebound with capacity 0, while the unmemoised derivation 5 then creates fresh objects -/
example : (runWorld sem lru (w0 (some 4)) []
    [.new (false, 1), .mod 0 7 [], .clear true, .mod 0 7 [], .mod 0 5 [], .configure true (some 0), .mod 0 5 [],
     .mod 0 7 []]).2 = [some 0, some 1, some 1, some 2, some 3, some 1] := by decide +kernel
example : (runWorld sem lru (w0 (some 4)) [] [.new (false, 1), .configure true none, .configure true (some 3)]).1.gen true = 2 := by
  decide +kernel
/-- all of which is unobservable -/
example : run sem lru (w0 (some 4)) []
    [.new (false, 1), .mod 0 7 [], .clear true, .mod 0 7 [], .hash 1, .hash 2, .cmp .eq 1 2, .read 2 "ab", .read 0 "x",
     .twin 0, .read 3 "x", .mod 0 200 [], .mod 9 1 [], .mod 0 1 [9]] =
    [.handle (.ok 1), .handle (.ok 8), .unit, .handle (.ok 8), .value 1008, .value 1008, .value 1, .value 10,
     .value 2, .handle (.ok 1), .value 2, .handle (.error ()), .dead, .dead] := by decide +kernel

/-- `PrefillOK` and `MemoNamesOK` are real hypotheses: without either the refinement FAILS -/
theorem C08_multi_prefill_needed :
    run badPrefill lru (w0 (some 2)) [] [.new (false, 1), .read 0 "x"] ≠ specRun badPrefill [] [.new (false, 1), .read 0 "x"] := by
  decide +kernel

theorem C08_multi_memo_names_needed :
    run badNames lru (w0 (some 2)) [] [.new (false, 1), .mod 0 5 [], .mod 0 6 []] ≠
      specRun badNames [] [.new (false, 1), .mod 0 5 [], .mod 0 6 []] := by
  decide +kernel

example : run badNames lru (w0 (some 2)) [] [.new (false, 1), .mod 0 5 [], .mod 0 6 []] =
    [.handle (.ok 1), .handle (.ok 6), .handle (.ok 6)] := by decide +kernel

example (caps : Bool → Nat → Option Nat) (gen : Bool → Nat) (ops : List (Op Bool (Bool × Nat) Nat)) :
    run sem lru { caps := caps, gen := gen } [] ops = specRun sem [] ops :=
  C08_multi_history_independent sem_prefillOK sem_memoNamesOK lru caps gen ops

end Yarl.MultiCache.Tiny

namespace Yarl.MultiRun
open Yarl Yarl.MultiCache Yarl.MultiInst Yarl.CacheInst Yarl.YarlRun

deriving instance DecidableEq for MultiCache.Out

/-- the `hf` of the runs below (Python's tuple hash is process dependent: any function will do) -/
def hf0 : Parts → Int := fun p => p.path.length + 7 * p.netloc.length

def pathX : Str := "/x y".toStr

/-- `u = URL("http://user@example.com:8080/p")`; `a = u.with_path("/x y")` twice; `str(a)`; `hash(u)` twice;
    `a == a'`; `u < a`; `a.parent` twice; `.raw_path` of it; `u.join(a)`; clear + rebind `from_parts`;
    `u.with_user(None)`; `u.with_query("a=1")`; `u._sort_key`; `a.parent` again; `a.with_path("/", encoded=True)` -/
def opsA : List (Op YCache (YKey envC) YMod) :=
  [.new (.url k1), .mod 0 (.withPath pathX false false false) [], .mod 0 (.withPath pathX false false false) [],
   .read 1 "str", .hash 0, .hash 0, .cmp .eq 1 2, .cmp .lt 0 1, .mod 1 .parent [], .mod 1 .parent [], .read 3 "raw_path",
   .mod 0 .join [1], .read 5 "str", .clear .fromParts, .configure .fromParts (some 1), .mod 0 (.withUser none) [],
   .read 6 "str", .mod 0 (.withQuery (.str "a=1".toStr)) [], .read 7 "query_string", .read 0 "_sort_key",
   .mod 1 .parent [], .mod 1 (.withPath "/".toStr true false false) []]

def wA : World YCache (YKey envC) Parts MVal := { caps := fun c _ => if c = .uncached then some 0 else some 8 }

/-- handles 1, 2 and 5 (two `with_path`s and a `join` with equal results) are ONE shared object; handles 3, 4 and 8
    (`parent` three times, the last after `from_parts` was cleared and rebound) are one object, from the
    derivation memo -/
example : (runWorld (yarlMSem envC hf0) (fun _ => lruPol) wA [] opsA).2 =
    [some 0, some 1, some 1, some 2, some 2, some 1, some 3, some 4, some 2, some 5] := by
  unfold opsA; k1_lits; decide +kernel
example : (runWorld (yarlMSem envC hf0) (fun _ => lruPol) wA [] opsA).1.heap.length = 6 := by
  unfold opsA; k1_lits; decide +kernel
example : (runWorld (yarlMSem envC hf0) (fun _ => lruPol) wA [] opsA).1.gen .fromParts = 1 := by
  unfold opsA; k1_lits; decide +kernel

/-- the outputs are the specification's (instance of the theorem, here by evaluation) -/
example : run (yarlMSem envC hf0) (fun _ => lruPol) wA [] opsA = specRun (yarlMSem envC hf0) [] opsA := by
  unfold opsA; k1_lits; decide +kernel

example : ((run (yarlMSem envC hf0) (fun _ => lruPol) wA [] opsA).drop 3).take 5 =
    [.value (.acc (.str (.ok "http://user@example.com:8080/x%20y".toStr))), .value (.hash 149), .value (.hash 149),
     .value (.cmp true), .value (.cmp true)] := by
  str_lits; unfold opsA; k1_lits; decide +kernel

/-- with every cache disabled nothing is shared — 9 objects instead of 6 — (only the derivation memo still
    returns the same `parent` object) and the outputs are identical -/
example : (runWorld (yarlMSem envC hf0) (fun _ => flushPol) { caps := fun _ _ => some 0 } [] opsA).2 =
    [some 0, some 1, some 2, some 3, some 3, some 4, some 5, some 6, some 3, some 7] := by
  unfold opsA; k1_lits; decide +kernel
example : run (yarlMSem envC hf0) (fun _ => flushPol) { caps := fun _ _ => some 0 } [] opsA =
    run (yarlMSem envC hf0) (fun _ => lruPol) wA [] opsA := by
  unfold opsA; k1_lits; decide +kernel

/-- the theorems instantiated at the concrete program -/
example : run (yarlMSem envC hf0) (fun _ => lruPol) wA [] opsA = specRun (yarlMSem envC hf0) [] opsA :=
  C08_multi_yarl_history_independent envC hf0 _ _ _ opsA

/-- the string caches: `_encode_host("EXAMPLE.com", False)` before and after clear / rebind, and an IPv6 host -/
example : run (strSem envC.o) (fun _ => lruPol) { caps := fun _ _ => some 2 } []
    [.new (.host "EXAMPLE.com".toStr false), .clear .encodeHost, .new (.host "EXAMPLE.com".toStr false),
     .configure .encodeHost none, .new (.host "EXAMPLE.com".toStr false), .new (.host "::1".toStr true),
     .new (.host "a b".toStr true)] =
    [.handle (.ok "example.com".toStr), .unit, .handle (.ok "example.com".toStr), .unit,
     .handle (.ok "example.com".toStr), .handle (.ok "[::1]".toStr), .handle (.error .valueError)] := by str_lits; decide +kernel

end Yarl.MultiRun
