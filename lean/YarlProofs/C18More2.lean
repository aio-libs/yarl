import YarlProofs.C18Reach
import YarlProofs.C18More
/-!
# C18 — gap closing, second wave (C18Headline GAPS 2(d), 2(e), 6, 8)

GAPS 2(d) / 8 — the constructor, hypotheses on the INPUT string only (`Stores` discharged, `StoresOK` established; what
`URL(s)` makes of a spelled text is in Lemmas/HumanSpell.lean: `R5.SpellOpt`, `R5.ctor_pieces`):
* `C18_constructor_any_spelling` — GENERAL form: `URL(s)` for `s` whose pieces are ANY spelling (literal, escaped,
  mixed) of decoded components stores their encodings and round-trips; `C18_constructor_any_spelling_example` (a mixed
  spelling; and the spelling `k=v%20w` that fails the query hypothesis does NOT round-trip);
* `C18_constructor_human_text` — `s` in human form: moreover `URL(s).human_repr() == s`, no proviso on the output;
  `C18_constructor_readable_text` — `s` typed in plain readable form (decoded texts written literally);
  `C18_constructor_canonical_stores_ok` — the fully encoded string.
GAPS 2(e) — chains that start at the constructor: `HumanReachC`, `C18_reachC_stores`,
  `C18_roundtrip_reachable_from_constructor`, `C18_reachC_example`; `C18_human_repr_stable` (`URL(u.human_repr())`
  stores the same decoded components and shows the same text: the round trip can be iterated).
GAPS 6 — every class of escape classified (both backends, witnesses; universal where stated):
* `C18_overescape_exact` — over the 26 generated pairs, "not needed" ⇔ the three pairs of F-C18-overescape-userinfo;
* `C18_percent_escape_needed` — '%' needs its escape exactly in front of two hex digits;
* `C18_nonprintable_escape_classified` — of the non-printable characters only TAB / LF / CR need the escape;
  `C18_nonprintable_nonascii_escapes_not_needed` — UNIVERSAL: the parser never consults `isprintable`.
STILL OPEN after this file: `join` (no `Stores` theorem); `build(authority=<arbitrary raw text>)`; the NFKC proviso
(F-C18-nfkc-userinfo) is a hypothesis everywhere.
-/
namespace Yarl
open HumanLemmas HumanFull HumanMore HumanRelax QueryUrl QsLemmas NetlocLemmas PathAlg PathLemmas PathMore HumanReach

namespace R5

theorem humanRepr_of_pieces (e : Env) (u : Url) (user pw : Option Str) (h H D : Str) (port : Option Nat)
    (p : Str) (kvs : List (Str × Str)) (f : Str) (usr pw' : Option Str) (rp : Str) (qparts : List Str) (rf : Str)
    (hsc : u.scheme ≠ []) (hrt : HostRT e h H D) (hport : ∀ x, port = some x → x ≤ 65535)
    (hu : UText user) (hune : ∀ s, user = some s → s ≠ []) (hw : UText pw)
    (hp : PyStr (47 :: p)) (hn : NoSurrogate (47 :: p)) (hg : GoodPairs kvs) (hf : PyStr f) (hfn : NoSurrogate f)
    (st : Stores e u user pw H port p kvs f)
    (hq : HumanPieces e user pw (47 :: p) kvs f usr pw' (47 :: rp) qparts rf) :
    humanRepr e u = .ok (composeUrl u.scheme (authText usr pw' D port) (47 :: rp) (joinC 38 qparts) rf) := by
  rw [humanRepr_stores e u user pw H D port p kvs f st hrt.okH hrt.shown hrt.disp.ok.1 hport hu hune hw hp hn hg hf hfn]
  obtain ⟨q1, q2, q3, q4, q5⟩ := hq
  rw [q1, q2, q3, q4, q5]
  simp only [bind, Except.bind, pure, Except.pure]
  rw [FixLemmas.unsplit_compose u.scheme _ _ _ _ hsc (authText_ne_nil usr pw' hrt.disp.ok.1 port) (Or.inr ⟨rp, rfl⟩)]

/-- a text all of whose characters `human_quote(·, unsafe)` leaves alone: printable, not '%', not unsafe here -/
def Readable (o : Oracles) (uns x : Str) : Prop :=
  ∀ c ∈ x, c ≠ 37 ∧ mem c uns = false ∧ isPrintableChar o c = .ok true

theorem humanQuote_readable {o : Oracles} {uns x : Str} (h : Readable o uns x) : humanQuote o x uns = .ok x := by
  induction x with
  | nil => rfl
  | cons c r ih =>
    rw [humanQuote_cons]
    obtain ⟨h1, h2, h3⟩ := h c (by simp)
    refine ⟨[c], r, ?_, ih (fun d hd => h d (by simp [hd])), rfl⟩
    unfold hqChar
    simp [h1, h2, h3, bind, Except.bind, pure, Except.pure]

theorem humanQuoteOpt_readable {o : Oracles} {uns : Str} {x : Option Str} (h : ∀ s, x = some s → Readable o uns s) :
    humanQuoteOpt o x uns = .ok x := by
  cases x with
  | none => rfl
  | some s => simp [humanQuoteOpt, humanQuote_readable (h s rfl), bind, Except.bind, pure, Except.pure]

theorem humanPairs_readable {o : Oracles} {kvs : List (Str × Str)}
    (h : ∀ kv ∈ kvs, Readable o (humanUnsafeOf "k") kv.1 ∧ Readable o (humanUnsafeOf "v") kv.2) :
    kvs.mapM (humanPair o) = .ok (kvs.map rawPair) := by
  induction kvs with
  | nil => rfl
  | cons kv r ih =>
    obtain ⟨h1, h2⟩ := h kv (by simp)
    rw [List.mapM_cons, ih (fun x hx => h x (by simp [hx]))]
    obtain ⟨k, v⟩ := kv
    simp only [humanPair, humanQuote_readable h1, humanQuote_readable h2, bind, Except.bind, pure, Except.pure,
      List.map_cons, rawPair]

end R5

open R5

/-! ## C18 GAPS 2(d), 8 — the constructor, with hypotheses on the INPUT string only -/

/-- GAPS 2(d) / 8: `URL(s)` for an input string `s` WRITTEN IN HUMAN FORM — `scheme://[user[:password]@]host[:port]/path
    [?k=v&…][#fragment]` whose pieces are what `human_quote` makes of decoded components (`HumanPieces`: the user /
    password / path / each key and value / fragment with '%', the characters unsafe in that position and the
    non-printable characters escaped, everything else literal; the host as `human_repr()` shows it, `D`).  Hypotheses on
    the INPUT only (the NFKC proviso `hnf` is about the input's own authority).  Then
    * `URL(s)` succeeds and STORES the encodings of the decoded components, with all side conditions (`StoresOK`: the
      hypothesis `Stores` of `C18_roundtrip_stored` is DISCHARGED, and every modifier can be applied next:
      `C18_headline_modifiers_preserve_stores`);
    * `URL(s).human_repr() == s` — human form is a FIXED POINT of parse-then-show;
    * hence `URL(URL(s).human_repr())` IS `URL(s)` (the same object, not only `==`), with no further proviso. -/
theorem C18_constructor_human_text (e : Env) (sc : Str) (user pw : Option Str) (h H D : Str) (port : Option Nat)
    (p : Str) (kvs : List (Str × Str)) (f : Str) (usr pw' : Option Str) (rp : Str) (qparts : List Str) (rf : Str)
    (vs : ValidScheme sc)                           -- "absolute": an RFC-valid lower-case scheme (upper case: `encodeUrl_scheme_case`)
    (hk : HostKind e h H D)                         -- `D` is the host text written in `s` (reg-name / IDN / IPv4 / IPv6)
    (hport : ∀ x, port = some x → x ≤ 65535)        -- guard: a port in range
    (hu : UText user) (hw : UText pw)               -- no lone surrogates
    (hune : ∀ s, user = some s → s ≠ [])            -- a user, if written, is not ""
    (hp : PyStr (47 :: p)) (hn : NoSurrogate (47 :: p))
    (hnorm : normalizePath (47 :: p) = 47 :: p)     -- no dot segments in the written path (the constructor removes them)
    (hg : GoodPairs kvs) (hf : PyStr f) (hfn : NoSurrogate f)
    (hq : HumanPieces e user pw (47 :: p) kvs f usr pw' (47 :: rp) qparts rf)   -- the pieces of `s` are in human form
    -- NFKC proviso on the INPUT (known finding F-C18-nfkc-userinfo): a non-ASCII authority must pass `_check_netloc`
    (hnf : isAscii (authText usr pw' D port) = false → checkNetloc e.o (authText usr pw' D port) = .ok ()) :
    let s := composeUrl sc (authText usr pw' D port) (47 :: rp) (joinC 38 qparts) rf
    ∃ u, encodeUrl e s = .ok u ∧ u.scheme = sc ∧
      StoresOK e u user pw H port p kvs f ∧
      humanRepr e u = .ok s ∧
      (∀ hr, humanRepr e u = .ok hr → hr = s ∧ ∃ v, encodeUrl e hr = .ok v ∧ v = u ∧ Url.beq v u = true) := by
  intro s
  have hre := (HumanStores.ctor_shown
    (HumanStores.shownSpells_lists humanUnsafeOf HumanStores.same_std HumanStores.lists_std e user pw p kvs f hu hune hw hp
      hn hg hf hfn) sc H D port vs hk.rt hport hu hune hp hn hnorm hq.q1 hq.q2 hq.q3 hq.q4 hq.q5).2 hnf
  have hok := ctorUrl_storesOK e sc user pw h H D port p kvs f vs hk hport hu hune hw hp hn hnorm hg hf hfn
  have hhr := humanRepr_of_pieces e (ctorUrl e sc user pw H port p kvs f) user pw h H D port p kvs f usr pw' rp qparts rf
    vs.ne hk.rt hport hu hune hw hp hn hg hf hfn hok.st hq
  refine ⟨ctorUrl e sc user pw H port p kvs f, hre, rfl, hok, hhr, ?_⟩
  intro hr hh
  rw [hhr] at hh
  cases hh
  refine ⟨rfl, _, hre, rfl, ?_⟩
  show Url.beq (ctorUrl e sc user pw H port p kvs f) (ctorUrl e sc user pw H port p kvs f) = true
  simp [Url.beq]

/-- … the special case of a URL typed in PLAIN READABLE form: every character of the user, password, path, query keys
    and values and fragment is printable (`str.isprintable()`: an oracle above U+007F), is not '%' and is not one of the
    characters reserved in its position (`R5.Readable`; userinfo `#/:?@[]`, path `#?`, key/value `#&+;=`, fragment none).
    Then `s = scheme://[user[:password]@]host[:port]/path[?k1=v1&k2=v2…][#fragment]` with the DECODED texts written
    literally, `URL(s)` stores their encodings, `URL(s).human_repr() == s`, and the round trip holds.
    (`rawQuery kvs` is the text `k1=v1&k2=v2…`.) -/
theorem C18_constructor_readable_text (e : Env) (sc : Str) (user pw : Option Str) (h H D : Str) (port : Option Nat)
    (p : Str) (kvs : List (Str × Str)) (f : Str)
    (vs : ValidScheme sc) (hk : HostKind e h H D)   -- "absolute"; `D` is the host text written in `s`
    (hport : ∀ x, port = some x → x ≤ 65535)        -- guard: a port in range
    (hu : UText user) (hw : UText pw)               -- no lone surrogates
    (hune : ∀ s, user = some s → s ≠ [])            -- a user, if written, is not ""
    (hp : PyStr (47 :: p)) (hn : NoSurrogate (47 :: p))
    (hnorm : normalizePath (47 :: p) = 47 :: p)     -- no dot segments in the written path
    (hg : GoodPairs kvs) (hf : PyStr f) (hfn : NoSurrogate f)
    -- the INPUT is readable text (nothing in it that `human_repr()` would escape)
    (ru : ∀ s, user = some s → Readable e.o (humanUnsafeOf "user") s)
    (rw' : ∀ s, pw = some s → Readable e.o (humanUnsafeOf "password") s)
    (rp : Readable e.o (humanUnsafeOf "path") p)
    (rq : ∀ kv ∈ kvs, Readable e.o (humanUnsafeOf "k") kv.1 ∧ Readable e.o (humanUnsafeOf "v") kv.2)
    (rf : Readable e.o (humanUnsafeOf "fragment") f)
    -- NFKC proviso on the INPUT (F-C18-nfkc-userinfo)
    (hnf : isAscii (authText user pw D port) = false → checkNetloc e.o (authText user pw D port) = .ok ()) :
    let s := composeUrl sc (authText user pw D port) (47 :: p) (rawQuery kvs) f
    ∃ u, encodeUrl e s = .ok u ∧ u.scheme = sc ∧
      StoresOK e u user pw H port p kvs f ∧
      humanRepr e u = .ok s ∧
      (∀ hr, humanRepr e u = .ok hr → hr = s ∧ ∃ v, encodeUrl e hr = .ok v ∧ v = u ∧ Url.beq v u = true) := by
  have hpath : Readable e.o (humanUnsafeOf "path") (47 :: p) := by
    intro c hc
    rcases List.mem_cons.mp hc with rfl | hc
    · exact ⟨by decide, by decide, rfl⟩
    · exact rp c hc
  have hq : HumanPieces e user pw (47 :: p) kvs f user pw (47 :: p) (kvs.map rawPair) f :=
    ⟨humanQuoteOpt_readable ru, humanQuoteOpt_readable rw', humanQuote_readable hpath, humanPairs_readable rq,
     humanQuote_readable rf⟩
  exact C18_constructor_human_text e sc user pw h H D port p kvs f user pw p (kvs.map rawPair) f vs hk hport hu hw hune
    hp hn hnorm hg hf hfn hq hnf

/-- GAPS 2(d) / 8, the CANONICAL input (`C18_roundtrip_constructor_canonical` with `StoresOK` stated): for the string made
    of the ENCODINGS of decoded components `URL(s)` satisfies `StoresOK` too — so chains of modifiers may start at such a
    constructor call as well (`HumanReachC` below). -/
theorem C18_constructor_canonical_stores_ok (e : Env) (sc : Str) (user pw : Option Str) (h H D : Str)
    (port : Option Nat) (p : Str) (kvs : List (Str × Str)) (f : Str)
    (vs : ValidScheme sc) (hk : HostKind e h H D) (hport : ∀ x, port = some x → x ≤ 65535)
    (hu : UText user) (hune : ∀ s, user = some s → s ≠ []) (hw : UText pw)
    (hp : PyStr (47 :: p)) (hn : NoSurrogate (47 :: p)) (hnorm : normalizePath (47 :: p) = 47 :: p)
    (hg : GoodPairs kvs) (hf : PyStr f) (hfn : NoSurrogate f) :
    ∃ u, encodeUrl e (composeUrl sc (authText (user.map (q e Gen.QUOTER)) (pw.map (q e Gen.QUOTER)) H port)
        (q e Gen.PATH_QUOTER (47 :: p)) (qtext e.b kvs) (fragText e f)) = .ok u ∧ u.scheme = sc ∧
      StoresOK e u user pw H port p kvs f :=
  ⟨_, ctor_encoded e sc user pw H port p kvs f vs hk.fix hport hu hune hw hp hn hnorm hg hf, rfl,
    ctorUrl_storesOK e sc user pw h H D port p kvs f vs hk hport hu hune hw hp hn hnorm hg hf hfn⟩

/-! ## C18 GAPS 2(d) in general form — ANY spelling of the decoded components -/

/-- GAPS 2(d), GENERAL FORM: the constructor on ANY SPELLING of decoded components.  `s = scheme://[usr[:pw']@]D[:port]
    /rp[?rq][#rf]` where
    * `usr`, `pw'` are spellings of the decoded user / password (`R5.SpellOpt`: literal, `%XX`-escaped or mixed — what
      matters is that re-quoting gives `QUOTER(user)`, and that none of TAB LF CR `# / : ? @ [ ]` stands literally);
    * `rp` spells the path: no literal '#', '?', TAB, LF, CR, and `PATH_REQUOTER("/" ++ rp) == PATH_QUOTER("/" ++ p)`;
    * `rq` spells the query: no literal '#', TAB, LF, CR, and re-quoting it gives the `k=v&…` text of the pairs `kvs`;
    * `rf` spells the fragment: no TAB, LF, CR, and re-quoting it gives `FRAGMENT_QUOTER(f)`;
    * `D` is the host as `human_repr()` shows it (an IDN host decoded, an IPv6 literal compressed);
    the NFKC proviso is on the input's authority.  Then `URL(s)` STORES the encodings of the decoded components
    (`StoresOK`, so `Stores` is discharged and every modifier may follow), and `URL(URL(s).human_repr()) == URL(s)`.
    The human form (`C18_constructor_human_text`), the readable form and the canonical fully-encoded form are the
    special cases; e.g. `URL("http://example.com/é%20x")` (mixed) is covered by this theorem only.  The conditions are
    NEEDED: `C18_headline_roundtrip_fails_for_constructor` (`/a%2Fb`, a literal ';' in the query, `%FF`). -/
theorem C18_constructor_any_spelling (e : Env) (sc : Str) (user pw : Option Str) (h H D : Str) (port : Option Nat)
    (p : Str) (kvs : List (Str × Str)) (f : Str) (usr pw' : Option Str) (rp rq rf : Str)
    (vs : ValidScheme sc) (hk : HostKind e h H D)   -- "absolute"; `D` is the host text written in `s`
    (hport : ∀ x, port = some x → x ≤ 65535)        -- guard: a port in range
    (hu : UText user) (hw : UText pw)               -- no lone surrogates
    (hune : ∀ s, user = some s → s ≠ [])            -- a decoded user is not ""
    (hp : PyStr (47 :: p)) (hn : NoSurrogate (47 :: p))
    (hnorm : normalizePath (47 :: p) = 47 :: p)     -- the decoded path has no dot segments
    (hg : GoodPairs kvs) (hf : PyStr f) (hfn : NoSurrogate f)
    -- the INPUT pieces spell the decoded components
    (s1 : SpellOpt e user usr) (s2 : SpellOpt e pw pw') (hne1 : ∀ r, usr = some r → r ≠ [])
    (hpath : q e Gen.PATH_REQUOTER (47 :: rp) = q e Gen.PATH_QUOTER (47 :: p))
    (hrp : ∀ c ∈ rp, c ≠ 63 ∧ c ≠ 35) (hc1 : Clean rp)
    (hquery : FixLemmas.encQuery e rq = qtext e.b kvs) (hq35 : ∀ c ∈ rq, c ≠ 35) (hcq : Clean rq)
    (hfrag : FixLemmas.encFragment e rf = fragText e f) (hc2 : Clean rf)
    -- NFKC proviso on the INPUT (F-C18-nfkc-userinfo)
    (hnf : isAscii (authText usr pw' D port) = false → checkNetloc e.o (authText usr pw' D port) = .ok ()) :
    ∃ u, encodeUrl e (composeUrl sc (authText usr pw' D port) (47 :: rp) rq rf) = .ok u ∧ u.scheme = sc ∧
      StoresOK e u user pw H port p kvs f ∧
      ∀ hr, humanRepr e u = .ok hr →
        (isAscii (Rfc.appendixB Gen.schemeChars hr).authority = false →          -- NFKC proviso on the OUTPUT
          checkNetloc e.o (Rfc.appendixB Gen.schemeChars hr).authority = .ok ()) →
        ∃ v, encodeUrl e hr = .ok v ∧ Url.beq v u = true := by
  have hre := R5.ctor_pieces e sc user pw usr pw' H D port p kvs f rp rq rf vs hk.rt hport hu hune hp hn hnorm s1.spells
    s2.spells (s1.userOK hne1) s1.auth s2.auth hpath hrp hc1 hquery hq35 hcq hfrag hc2 hnf
  have hok := ctorUrl_storesOK e sc user pw h H D port p kvs f vs hk hport hu hune hw hp hn hnorm hg hf hfn
  exact ⟨_, hre, rfl, hok, C18_roundtrip_storesOK e _ user pw H port p kvs f hok⟩

theorem R5.hostKind_demo (b : Backend) :
    HostKind ⟨b, demo⟩ "example.com".toStr "example.com".toStr "example.com".toStr :=
  .plain (by decide +kernel) (by show demo.idnaDec _ = _; decide +kernel)

/-- NON-VACUITY of `C18_constructor_any_spelling` on a MIXED spelling (neither human form nor canonical), both backends
    (oracle `HumanMore.demo`): `s = "http://us%20er@example.com/é%20x?k=v w#é%20f"` spells user "us er", path "/é x",
    query k = "v w", fragment "é f"; `URL(s)` stores their encodings and shows `http://us er@example.com/é x?k=v w#é f`.
    The query hypothesis is NOT satisfied by the spelling `k=v%20w` (second conjunct): the QUERY_REQUOTER keeps `%20`,
    `build` writes `+` — and indeed `URL("http://example.com/?k=v%20w")` does not round-trip (`human_repr()` shows
    `?k=v w`, which reads back as `k=v+w`): such a URL does not "store the encodings of decoded components". -/
theorem C18_constructor_any_spelling_example : ∀ b : Backend,
    let e : Env := ⟨b, demo⟩
    (∃ u, encodeUrl e "http://us%20er@example.com/é%20x?k=v w#é%20f".toStr = .ok u ∧
      StoresOK e u (some "us er".toStr) none "example.com".toStr none "é x".toStr [("k".toStr, "v w".toStr)] "é f".toStr ∧
      u.parts = ⟨"http".toStr, "us%20er@example.com".toStr, "/%C3%A9%20x".toStr, "k=v+w".toStr, "%C3%A9%20f".toStr⟩ ∧
      humanRepr e u = .ok "http://us er@example.com/é x?k=v w#é f".toStr) ∧
    (FixLemmas.encQuery e "k=v%20w".toStr ≠ qtext b [("k".toStr, "v w".toStr)] ∧
      tripCtor e "http://example.com/?k=v%20w".toStr =
        .ok (⟨"http".toStr, "example.com".toStr, "/".toStr, "k=v%20w".toStr, []⟩, "http://example.com/?k=v w".toStr,
          .ok (⟨"http".toStr, "example.com".toStr, "/".toStr, "k=v+w".toStr, []⟩, false))) := by
  intro b e
  refine ⟨?_, by cases b <;> decide +kernel, ?trip⟩
  case trip =>
    str_lits
    cases b <;> decide +kernel
  have hs : "http://us%20er@example.com/é%20x?k=v w#é%20f".toStr =
      composeUrl "http".toStr (authText (some "us%20er".toStr) none "example.com".toStr none) (47 :: "é%20x".toStr)
        "k=v w".toStr "é%20f".toStr := by
    str_lits
    decide +kernel
  have c1 : Clean "é%20x".toStr := by unfold Clean; decide
  have c2 : Clean "k=v w".toStr := by unfold Clean; decide
  have c3 : Clean "é%20f".toStr := by unfold Clean; decide
  have sp1 : SpellOpt e (some "us er".toStr) (some "us%20er".toStr) :=
    ⟨(by intro r hr; cases hr; decide), (by simp), (by cases b <;> decide +kernel)⟩
  have sp2 : SpellOpt e none none := ⟨(by intro r hr; cases hr), (by simp), rfl⟩
  obtain ⟨u, hu, _, hok, _⟩ := C18_constructor_any_spelling e "http".toStr (some "us er".toStr) none "example.com".toStr
    "example.com".toStr "example.com".toStr none "é x".toStr [("k".toStr, "v w".toStr)] "é f".toStr
    (some "us%20er".toStr) none "é%20x".toStr "k=v w".toStr "é%20f".toStr (by decide) (R5.hostKind_demo b)
    (by intro x hx; cases hx)
    (utext_some (by decide)) utext_none (by intro t ht; cases ht; decide) (by decide) (by decide) (by decide +kernel)
    (by decide) (by decide) (by decide) sp1 sp2 (by intro r hr; cases hr; decide)
    (by cases b <;> decide +kernel) (by decide) c1 (by cases b <;> decide +kernel) (by decide) c2
    (by cases b <;> decide +kernel) c3 (fun _ => by cases b <;> decide +kernel)
  rw [← hs] at hu
  refine ⟨u, hu, hok, ?_, ?_⟩
  · have : (encodeUrl e "http://us%20er@example.com/é%20x?k=v w#é%20f".toStr).map Url.parts =
        .ok ⟨"http".toStr, "us%20er@example.com".toStr, "/%C3%A9%20x".toStr, "k=v+w".toStr, "%C3%A9%20f".toStr⟩ := by
      str_lits
      cases b <;> decide +kernel
    rw [hu] at this; exact ok_inj this
  · have : (encodeUrl e "http://us%20er@example.com/é%20x?k=v w#é%20f".toStr).bind (humanRepr e) =
        .ok "http://us er@example.com/é x?k=v w#é f".toStr := by
      str_lits
      cases b <;> decide +kernel
    rw [hu] at this; exact this

/-! ## C18 GAPS 2(e) — chains of modifiers that START AT THE CONSTRUCTOR -/

/-- `HumanReach` (C18Reach.lean: `build` + any finite chain of modifiers with decoded arguments) EXTENDED by two more
    ways to start: the constructor `URL(s)` on a string in human form (`ctorHuman`: the hypotheses of
    `C18_constructor_human_text`) and on the canonical string of encoded components (`ctorCanonical`). -/
inductive HumanReachC (e : Env) : Url → Prop
  | reach (u : Url) : HumanReach e u → HumanReachC e u
  | ctorHuman (sc : Str) (user pw : Option Str) (h H D : Str) (port : Option Nat) (p : Str) (kvs : List (Str × Str))
      (f : Str) (usr pw' : Option Str) (rp : Str) (qparts : List Str) (rf : Str) (u : Url) :
      ValidScheme sc → HostKind e h H D → (∀ x, port = some x → x ≤ 65535) → UText user → UText pw →
      (∀ s, user = some s → s ≠ []) → PyStr (47 :: p) → NoSurrogate (47 :: p) → normalizePath (47 :: p) = 47 :: p →
      GoodPairs kvs → PyStr f → NoSurrogate f →
      HumanPieces e user pw (47 :: p) kvs f usr pw' (47 :: rp) qparts rf →
      (isAscii (authText usr pw' D port) = false → checkNetloc e.o (authText usr pw' D port) = .ok ()) →
      encodeUrl e (composeUrl sc (authText usr pw' D port) (47 :: rp) (joinC 38 qparts) rf) = .ok u → HumanReachC e u
  | ctorCanonical (sc : Str) (user pw : Option Str) (h H D : Str) (port : Option Nat) (p : Str)
      (kvs : List (Str × Str)) (f : Str) (u : Url) :
      ValidScheme sc → HostKind e h H D → (∀ x, port = some x → x ≤ 65535) → UText user → UText pw →
      (∀ s, user = some s → s ≠ []) → PyStr (47 :: p) → NoSurrogate (47 :: p) → normalizePath (47 :: p) = 47 :: p →
      GoodPairs kvs → PyStr f → NoSurrogate f →
      encodeUrl e (composeUrl sc (authText (user.map (q e Gen.QUOTER)) (pw.map (q e Gen.QUOTER)) H port)
        (q e Gen.PATH_QUOTER (47 :: p)) (qtext e.b kvs) (fragText e f)) = .ok u → HumanReachC e u
  | step (u : Url) (op : HOp) (v : Url) : HumanReachC e u → op.Ok e → applyOp e u op.toUOp = .ok v → HumanReachC e v

/-- every URL of such a chain stores the encodings of decoded components, with the side conditions of the round trip (`StoresOK`) -/
theorem C18_reachC_stores (e : Env) (u : Url) (hr : HumanReachC e u) :
    ∃ user pw H port p kvs f, StoresOK e u user pw H port p kvs f := by
  induction hr with
  | reach u h => exact C18_reach_stores e u h
  | ctorHuman sc user pw h H D port p kvs f usr pw' rp qparts rf u vs hk hport hu hw hune hp hn hnorm hg hf hfn hq
      hnf hu' =>
    obtain ⟨w, h1, _, ok, _⟩ := C18_constructor_human_text e sc user pw h H D port p kvs f usr pw' rp qparts rf vs hk
      hport hu hw hune hp hn hnorm hg hf hfn hq hnf
    exact stores_of_ok hu' ⟨w, h1, ok⟩
  | ctorCanonical sc user pw h H D port p kvs f u vs hk hport hu hw hune hp hn hnorm hg hf hfn hu' =>
    obtain ⟨w, h1, _, ok⟩ := C18_constructor_canonical_stores_ok e sc user pw h H D port p kvs f vs hk hport hu hune
      hw hp hn hnorm hg hf hfn
    exact stores_of_ok hu' ⟨w, h1, ok⟩
  | step u op v _ hop h ih =>
    obtain ⟨user, pw, H, port, p, kvs, f, ok⟩ := ih
    exact step_stores e u user pw H port p kvs f ok op hop v h

/-- GAPS 2(e), "chains that START at the constructor": `URL(u.human_repr()) == u` for every URL obtained from `build` OR
    from the constructor (on human-form or canonical input) by ANY finite chain of the sixteen modifiers with decoded
    arguments — under the NFKC proviso when the shown authority is not ASCII (F-C18-nfkc-userinfo). -/
theorem C18_roundtrip_reachable_from_constructor (e : Env) (u : Url) (hr : HumanReachC e u) :
    ∀ t, humanRepr e u = .ok t →
      (isAscii (Rfc.appendixB Gen.schemeChars t).authority = false →
        checkNetloc e.o (Rfc.appendixB Gen.schemeChars t).authority = .ok ()) →
      ∃ v, encodeUrl e t = .ok v ∧ Url.beq v u = true := by
  obtain ⟨user, pw, H, port, p, kvs, f, ok⟩ := C18_reachC_stores e u hr
  exact C18_roundtrip_storesOK e u user pw H port p kvs f ok

/-! ## `human_repr()` is STABLE under the round trip -/

/-- For every URL `u` that stores the encodings of decoded components (`StoresOK`: every URL of `HumanReachC`), the URL
    `v = URL(u.human_repr())` is not only `== u`: it stores the same decoded components (`StoresOK` again, so the round
    trip can be iterated and modifiers applied to `v`), and `v.human_repr() == u.human_repr()` — the human form is a
    fixed point of parse-then-show. -/
theorem C18_human_repr_stable (e : Env) (u : Url) (user pw : Option Str) (H : Str) (port : Option Nat)
    (p : Str) (kvs : List (Str × Str)) (f : Str) (ok : StoresOK e u user pw H port p kvs f) :
    ∀ hr, humanRepr e u = .ok hr →
      -- NFKC proviso (known finding F-C18-nfkc-userinfo)
      (isAscii (Rfc.appendixB Gen.schemeChars hr).authority = false →
        checkNetloc e.o (Rfc.appendixB Gen.schemeChars hr).authority = .ok ()) →
      ∃ v, encodeUrl e hr = .ok v ∧ Url.beq v u = true ∧
        StoresOK e v user pw H port p kvs f ∧ humanRepr e v = .ok hr := by
  intro hr hh hnf
  exact ok.roundtrip (humanShower e.o humanUnsafeOf) ok.shownSpells hr hh hnf

/-- NON-VACUITY of `C18_constructor_human_text` / `HumanReachC.ctorHuman`, both backends (oracle `HumanReach.demoIdn`):
    `s = "http://ü s:p%3Aw@bücher.example:8080/a b?k=v w#frag ment"` is in human form for the decoded components user
    "ü s", password "p:w", IDN host, port 8080, path "/a b", query k = "v w", fragment "frag ment"; `URL(s)` is the
    computed URL `w`, `w.human_repr() == s`, `w` is in `HumanReachC`, and so is `w.with_fragment(None) / "x y"`. -/
theorem C18_reachC_example : ∀ b : Backend,
    let e : Env := ⟨b, demoIdn⟩
    let s := "http://ü s:p%3Aw@bücher.example:8080/a b?k=v w#frag ment".toStr
    ∃ w, encodeUrl e s = .ok w ∧
      w.parts = ⟨"http".toStr, "%C3%BC%20s:p%3Aw@xn--bcher-kva.example:8080".toStr, "/a%20b".toStr, "k=v+w".toStr,
        "frag%20ment".toStr⟩ ∧
      humanRepr e w = .ok s ∧ HumanReachC e w ∧
      ∃ v, runChain e w [.withFragment none, .joinpath ["x y".toStr]] = .ok v ∧ HumanReachC e v ∧
        humanRepr e v = .ok "http://ü s:p%3Aw@bücher.example:8080/a b/x y".toStr := by
  intro b e s
  have hs : s = composeUrl "http".toStr (authText (some "ü s".toStr) (some "p%3Aw".toStr) "bücher.example".toStr (some 8080))
      (47 :: "a b".toStr) (joinC 38 ["k=v w".toStr]) "frag ment".toStr := by
    simp only [s]
    str_lits
    decide +kernel
  have hq : HumanPieces e (some "ü s".toStr) (some "p:w".toStr) (47 :: "a b".toStr) [("k".toStr, "v w".toStr)]
      "frag ment".toStr (some "ü s".toStr) (some "p%3Aw".toStr) (47 :: "a b".toStr) ["k=v w".toStr] "frag ment".toStr :=
    ⟨by show humanQuoteOpt demoIdn _ _ = _; decide +kernel, by show humanQuoteOpt demoIdn _ _ = _; decide +kernel,
     by show humanQuote demoIdn _ _ = _; decide +kernel, by show List.mapM (humanPair demoIdn) _ = _; decide +kernel,
     by show humanQuote demoIdn _ _ = _; decide +kernel⟩
  obtain ⟨w, hw, _, hok, hhr, _⟩ := C18_constructor_human_text e "http".toStr (some "ü s".toStr) (some "p:w".toStr)
    "bücher.example".toStr "xn--bcher-kva.example".toStr "bücher.example".toStr (some 8080) "a b".toStr
    [("k".toStr, "v w".toStr)] "frag ment".toStr (some "ü s".toStr) (some "p%3Aw".toStr) "a b".toStr ["k=v w".toStr]
    "frag ment".toStr (by decide) (hostKind_buecher b) (by intro x hx; cases hx; decide) (utext_some (by decide))
    (utext_some (by decide)) (by intro t ht; cases ht; decide) (by decide) (by decide) (by decide +kernel) (by decide)
    (by decide) (by decide) hq (fun _ => by cases b <;> decide +kernel)
  rw [← hs] at hw hhr
  have hrc : HumanReachC e w :=
    .ctorHuman _ _ _ _ _ _ _ _ _ _ _ _ _ _ _ w (by decide) (hostKind_buecher b) (by intro x hx; cases hx; decide) (utext_some (by decide))
      (utext_some (by decide)) (by intro t ht; cases ht; decide) (by decide) (by decide) (by decide +kernel) (by decide)
      (by decide) (by decide) hq (fun _ => by cases b <;> decide +kernel) (hs ▸ hw)
  have hcomp : (encodeUrl e s).map Url.parts = .ok ⟨"http".toStr, "%C3%BC%20s:p%3Aw@xn--bcher-kva.example:8080".toStr,
      "/a%20b".toStr, "k=v+w".toStr, "frag%20ment".toStr⟩ := by
    simp only [e, s, demoIdn]
    str_lits
    cases b <;> decide +kernel
  have hparts : w.parts = ⟨"http".toStr, "%C3%BC%20s:p%3Aw@xn--bcher-kva.example:8080".toStr, "/a%20b".toStr,
      "k=v+w".toStr, "frag%20ment".toStr⟩ := by
    rw [hw] at hcomp; exact ok_inj hcomp
  refine ⟨w, hw, hparts, hhr, hrc, ?_⟩
  have hrun : ((encodeUrl e s).bind (fun w => runChain e w [.withFragment none, .joinpath ["x y".toStr]])).bind
      (humanRepr e) = .ok "http://ü s:p%3Aw@bücher.example:8080/a b/x y".toStr := by
    simp only [e, s, demoIdn]
    str_lits
    cases b <;> decide +kernel
  rw [hw] at hrun
  obtain ⟨v, hv, hrun⟩ := bind_ok hrun
  exact ⟨v, hv, chain_closed .step [.withFragment none, .joinpath ["x y".toStr]] w v hrc
    ⟨utext_none, (by decide : ["x y".toStr] ≠ [] ∧ ∀ a ∈ ["x y".toStr], PyStr a ∧ NoSurrogate a), trivial⟩ hv, hrun⟩

/-! ## C18 GAPS 6 — every class of escape classified: needed for the parse, or not -/

namespace R5

/-- the witness URL with the text `t` in position `comp` (as `HumanMore.witness`, any text) -/
def witnessT (comp : String) (t : Str) : BuildArgs :=
  let base : BuildArgs := { scheme := "http".toStr, host := "example.com".toStr, path := "/p".toStr }
  if comp == "user" then { base with user := some t }
  else if comp == "password" then { base with user := some [117], password := some t }
  else if comp == "path" then { base with path := 47 :: t }
  else if comp == "k" then { base with query := .pairs (strItems [(t, [118])]) }
  else if comp == "v" then { base with query := .pairs (strItems [([107], t)]) }
  else { base with fragment := t }

/-- `some true`: leaving the character `c` literal in the text `t` in position `comp` of the witness gives a text that
    `URL(…)` rejects or reads as a URL that is not `==`; `some false`: the round trip still holds -/
def changesParseLit (b : Backend) (comp : String) (t : Str) (c : Nat) : Option Bool :=
  let e : Env := ⟨b, demo⟩
  match (do let u ← build e (witnessT comp t); let hr ← humanReprLit comp (· == c) e u; pure (u, hr) : R (Url × Str)) with
  | .error _ => none
  | .ok (u, hr) =>
    match encodeUrl e hr with
    | .error _ => some true
    | .ok v => some (!(v.beq u))

/-- the six positions -/
def positions : List String := ["user", "password", "path", "k", "v", "fragment"]

/-- a sample of the characters `str.isprintable()` rejects: C0 controls (NUL, SOH, BEL, BS, TAB, LF, VT, FF, CR, SO, ESC,
    US), DEL, and the one non-ASCII character the demonstration oracle `HumanMore.demo` calls non-printable, U+200B -/
def hidden : List Nat := [0, 1, 7, 8, 9, 10, 11, 12, 13, 14, 27, 31, 127, 0x200B]

end R5

/-- sanity: with nothing left literal the instrumented `human_repr()` IS `human_repr()` (evaluated on a witness; the two
    definitions differ only by the `if lit c` test) -/
theorem C18_humanReprLit_std : ∀ b : Backend,
    (do let u ← build ⟨b, demo⟩ (witnessT "user" [97, 64, 37, 0x200B, 98]); humanReprLit "user" (fun _ => false) ⟨b, demo⟩ u) =
    (do let u ← build ⟨b, demo⟩ (witnessT "user" [97, 64, 37, 0x200B, 98]); humanRepr ⟨b, demo⟩ u) := by
  intro b; cases b <;> decide +kernel

/-- "'%' … [is] escaped": the escape of '%' IS needed for the parse exactly when the '%' is followed by two hex digits.
    In EVERY position, for the decoded text "a%41" leaving the '%' literal makes `URL(…)` read "aA" (a different URL),
    while for "a%zz" and "a%4" the literal text reads back to an equal URL (the requoter escapes a '%' that starts no
    escape).  `human_quote` has no look-ahead and escapes every '%'.  Both backends. -/
theorem C18_percent_escape_needed : ∀ b : Backend, ∀ comp ∈ positions,
    changesParseLit b comp "a%41".toStr 37 = some true ∧
    changesParseLit b comp "a%zz".toStr 37 = some false ∧
    changesParseLit b comp "a%4".toStr 37 = some false := by
  intro b; cases b <;> decide +kernel

/-- "non-printable characters are escaped": among the characters `str.isprintable()` rejects, ONLY TAB, LF and CR need
    the escape for the parse (`split_url` strips them from the input); for the other C0 controls of the sample
    `R5.hidden`, DEL and the non-printable non-ASCII character of the demonstration oracle (U+200B), in EVERY position, the text with the
    character left literal reads back to an EQUAL URL (the quoter escapes it on the way in).  So these escapes serve
    readability, as the property says — they are not among "characters that would change the parse".  Both backends. -/
theorem C18_nonprintable_escape_classified : ∀ b : Backend, ∀ comp ∈ positions, ∀ c ∈ hidden,
    changesParseLit b comp [97, c, 98] c = some (c == 9 || c == 10 || c == 13) := by
  intro b; cases b <;> decide +kernel

namespace R5
theorem hostKind_indep (e : Env) (pr : Nat → Option Bool) {h H D : Str} (k : HostKind e h H D) :
    HostKind ⟨e.b, { e.o with isPrintableU := pr }⟩ h H D := by
  cases k with
  | plain ph hidna => exact .plain ph hidna
  | idn b ph hna hlook hnoip henc hdec hlast hd h58 => exact .idn b ph hna hlook hnoip henc hdec hlast hd h58
  | ipv4 h4 => exact .ipv4 h4
  | ipv6 ha h37 hz => exact .ipv6 ha h37 hz
end R5

/-- … UNIVERSALLY for the non-ASCII characters: which characters ≥ U+0080 `human_repr()` escapes is decided by
    `str.isprintable()` alone (the oracle `isPrintableU`), and the PARSER never consults it.  So for EVERY answer table
    `pr` used for showing — in particular `fun _ => some true`, which escapes NO non-ASCII character at all — and every
    URL of the family of `C18_headline_roundtrip`, the text shown with `pr` is read back by the unchanged `URL(…)` to an
    equal URL (same NFKC proviso).  Hence no escape of a non-printable non-ASCII character is ever needed for the parse. -/
theorem C18_nonprintable_nonascii_escapes_not_needed (e : Env) (pr : Nat → Option Bool) (sc : Str) (user pw : Option Str)
    (h H D : Str) (port : Option Nat) (p : Str) (kvs : List (Str × Str)) (f : Str)
    (vs : ValidScheme sc) (hk : HostKind e h H D)   -- "absolute"; host kind
    (hport : ∀ x, port = some x → x ≤ 65535)        -- guard: `build` rejects other ports
    (hu : UText user) (hw : UText pw)               -- no lone surrogates
    (hune : ∀ s, user = some s → s ≠ [])            -- user absent or non-empty
    (hp : PyStr (47 :: p)) (hn : NoSurrogate (47 :: p)) (hg : GoodPairs kvs) (hf : PyStr f) (hfn : NoSurrogate f) :
    let e' : Env := ⟨e.b, { e.o with isPrintableU := pr }⟩    -- the same library, showing with the table `pr`
    (∀ s, encodeUrl e' s = encodeUrl e s) ∧ (∀ a, build e' a = build e a) ∧
    ∃ u, build e (fullArgs sc user pw h port p kvs f) = .ok u ∧
      ∀ hr, humanRepr e' u = .ok hr →
        (isAscii (Rfc.appendixB Gen.schemeChars hr).authority = false →          -- NFKC proviso (F-C18-nfkc-userinfo)
          checkNetloc e.o (Rfc.appendixB Gen.schemeChars hr).authority = .ok ()) →
        ∃ v, encodeUrl e hr = .ok v ∧ Url.beq v u = true := by
  intro e'
  refine ⟨fun _ => rfl, fun _ => rfl, ?_⟩
  obtain ⟨u, hb, hrt⟩ := C18_roundtrip_full e' sc user pw h H D port p kvs f vs (hostKind_indep e pr hk) hport hu hune hw
    hp hn hg hf hfn
  exact ⟨u, hb, fun hr hh hnf => hrt hr hh hnf⟩

/-- F-C18-overescape-userinfo, characterised EXACTLY (not re-derived: `C18_unsafe_char_needed`,
    `C18_unsafe_char_not_needed`, `C18_roundtrip_relaxed` are the sources): over the 26 generated (position, character)
    pairs, "leaving the character literal does NOT change the parse of the witness" holds for EXACTLY the three pairs
    ('@' in the user, ':' and '@' in the password) — an `iff`, both backends; and for exactly those three the relaxed
    round trip holds universally (`C18_headline_minimal_escaping_relaxed_roundtrip`).  Together with
    `C18_percent_escape_needed` and `C18_nonprintable_escape_classified` this classifies EVERY escape `human_repr()` can
    emit: needed — the 23 other pairs, '%' before two hex digits, TAB / LF / CR; not needed for the parse — the three
    pairs (finding), '%' elsewhere, every other non-printable character (readability escapes, by the property's wording). -/
theorem C18_overescape_exact : ∀ b : Backend, ∀ p ∈ unsafePairs,
    (changesParse b p.1 p.2 = some false ↔ p ∈ notNeeded) ∧
    (changesParse b p.1 p.2 = some true ↔ p ∉ notNeeded) := by
  intro b p hp
  by_cases hn : p ∈ notNeeded
  · rw [(C18_unsafe_char_not_needed b p hn).2]
    exact ⟨⟨fun _ => hn, fun _ => rfl⟩, ⟨nofun, fun h => absurd hn h⟩⟩
  · rw [C18_unsafe_char_needed b p hp hn]
    exact ⟨⟨nofun, fun h => absurd h hn⟩, ⟨fun _ => hn, fun _ => rfl⟩⟩

end Yarl
