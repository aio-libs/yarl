import YarlProofs.C15More
import YarlProofs.C13
import YarlProofs.C07Encoded
import YarlProofs.Lemmas.EagerLemmas
/-!
# C15 — dot segments and `encoded=True`

Property C15 says "whenever a URL has an authority, its path — however produced — contains no '.' or '..'
segment".  The `encoded=True` entry points are exempt by design; this file states EXACTLY what they do, and what
the ordinary modifiers do to a URL that carries dot segments under an authority (only obtainable through
`encoded=True`).

## 1. the entry points (`C15_encoded_entry_points`)
 * `URL(s, encoded=True)`: path = the Appendix B path, verbatim — never normalised;
 * `URL.build(path=p, encoded=True)`: path = `p`, verbatim — never normalised, not even required to be rooted;
 * `with_path(p, encoded=True)`: path = `p`, rooted with '/' when non-empty and rootless — never normalised;
 * `joinpath(*ps, encoded=True)` / `_make_child(ps, encoded=True)`: `C15_make_child_any_mode` — in BOTH modes
   `_make_child` is ONE function of the per-argument text `f p` (`f = PATH_QUOTER` without, `f = id` with
   `encoded=True`): it fails iff an argument starts with '/', the new segments are the '/'-pieces of the `f p`
   (all arguments but the last lose a trailing empty piece), and — under an authority — the WHOLE merged segment
   list is normalised iff some `f p` contains a '.'.  So `encoded=True` does NOT switch normalisation off here; it
   only replaces the quoter by the identity.

## 2. URLs derived from one that has dot segments under an authority (`C15_derived_…`)
 * scheme / authority / query / fragment modifiers (`with_scheme`, `with_user`, `with_password`, `with_host`,
   `with_port`, `with_query`, `extend_query`, `update_query`, `without_query_params`, `with_fragment`) and
   `relative()` keep the stored path VERBATIM — the dot segments stay;
 * `/` and `joinpath` (either mode): if some (quoted) argument contains '.', the whole merged path is normalised
   and the result has NO dot segment; otherwise the old segments are all kept (only a trailing empty one is
   replaced), so the old dot segments STAY;
 * `parent`, `with_name`, `with_suffix` work on the raw '/'-segments: all segments but the last are kept verbatim
   (`parent` drops the last one, `with_name` / `with_suffix` replace it) — dot segments before the last one STAY;
 * `join(ref)`: with a non-empty reference path (same scheme, reference without authority) the merged path is
   normalised — no dot segment left; with an EMPTY reference path the base path is kept verbatim (dots stay); a
   reference with its own authority or another scheme is taken as it is.
-/
namespace Yarl
open PathLemmas PathAlg WfLemmas EntryLemmas DotMore

/-! ## 1. the entry points -/

/-- new segments of `_make_child` for the per-argument text `f p` (`DotMore.childSegs e = C15_childSegsF (PATH_QUOTER)`) -/
def C15_childSegsF (f : Str → Str) (paths : List Str) : List Str :=
  paths.dropLast.flatMap (fun p => stripTrail (splitOn 47 (f p))) ++
  (match paths.getLast? with
   | some p => splitOn 47 (f p)
   | none => [])

/-- `needs_normalize`: some per-argument text contains a '.' -/
def C15_anyDotF (f : Str → Str) (ps : List Str) : Bool := ps.any (fun p => mem 46 (f p))

/-- the per-argument text of `_make_child(paths, encoded)` -/
def C15_childText (e : Env) (encoded : Bool) : Str → Str := if encoded then id else q e Gen.PATH_QUOTER

namespace EncTrue

theorem childText_eq (e : Env) (enc : Bool) : C15_childText e enc = PathMore.argText e enc := by
  funext p
  cases enc <;> rfl

theorem childSegsF_eq (e : Env) (enc : Bool) (ps : List Str) :
    C15_childSegsF (PathMore.argText e enc) ps = PathMore.argSegs e enc ps := by
  rcases List.eq_nil_or_concat ps with rfl | ⟨init, l, rfl⟩
  · rfl
  · simp [C15_childSegsF, PathMore.argSegs_snoc]

theorem segs_childSegsF (f : Str → Str) (paths : List Str) : Segs (C15_childSegsF f paths) := by
  intro s hs
  unfold C15_childSegsF at hs
  rcases List.mem_append.1 hs with h | h
  · obtain ⟨p, _, hp⟩ := List.mem_flatMap.1 h
    exact segs_stripTrail (segs_splitOn _) s hp
  · split at h
    · exact segs_splitOn _ s h
    · simp at h

/-- a dot segment is not the empty segment, so `stripTrail` keeps it -/
theorem dot_mem_stripTrail {l : List Str} {s : Str} (hs : s ∈ l) (hne : s ≠ []) : s ∈ stripTrail l := by
  unfold stripTrail
  split
  · rename_i hl
    obtain ⟨init, rfl⟩ := List.getLast?_eq_some_iff.1 hl
    rw [List.dropLast_concat]
    exact (List.mem_append.1 hs).resolve_right fun h => hne (List.mem_singleton.1 h)
  · exact hs

/-- the old path's non-empty segments (its dot segments among them) are in `base u` -/
theorem noDotSegments_of_base {u : Url} (h : NoDots (base u)) : NoDotSegments u.path := by
  intro s hs
  by_cases hne : s = []
  · subst hne
    simp [dot, dotdot]
  · apply h s
    unfold base
    split
    · rename_i hp
      rw [isEmpty_eq_nil hp] at hs
      exact absurd (List.mem_singleton.1 hs) hne
    · exact dot_mem_stripTrail hs hne

theorem mem_root_of_mem {n : Str} {L : List Str} {s : Str} (h : s ∈ L) : s ∈ root n L := by
  unfold root
  split
  · exact List.mem_cons_of_mem _ h
  · exact h

end EncTrue
open EncTrue

/-- `_make_child(paths, encoded)` in closed form, for BOTH values of `encoded`: ValueError iff some argument starts
    with '/', otherwise `childOf u X nn` (Lemmas/PathAlg.lean: merge the old segments without a trailing empty one
    with `X`, root them under an authority, and — under an authority, iff `nn` — run `normalize_path_segments` over
    the WHOLE list) where `X` are the '/'-pieces of the per-argument texts and `nn` says whether one of them
    contains '.'.  `encoded=True` only replaces PATH_QUOTER by the identity (`C15_childText`). -/
theorem C15_make_child_any_mode (e : Env) (u : Url) (paths : List Str) (encoded : Bool) :
    makeChild e u paths encoded =
      if paths.any (fun p => p.head? = some 47) then .error .valueError
      else .ok (childOf u (C15_childSegsF (C15_childText e encoded) paths)
                          (C15_anyDotF (C15_childText e encoded) paths)) := by
  rw [PathMore.makeChild_closed, childText_eq, childSegsF_eq]
  rfl

/-- … in particular `joinpath(*ps, encoded=True)` is `joinpath(*ps)` with the identity in place of the quoter: the
    SAME normalisation rule (a '.' anywhere in an argument normalises the whole merged path under an authority) -/
theorem C15_encoded_make_child (e : Env) (u : Url) (paths : List Str) :
    makeChild e u paths true =
      (if paths.any (fun p => p.head? = some 47) then .error .valueError
       else .ok (childOf u (C15_childSegsF id paths) (paths.any (mem 46)))) ∧
    makeChild e u paths false =
      (if paths.any (fun p => p.head? = some 47) then .error .valueError
       else .ok (childOf u (C15_childSegsF (q e Gen.PATH_QUOTER) paths)
                  (paths.any (fun p => mem 46 (q e Gen.PATH_QUOTER p))))) :=
  ⟨C15_make_child_any_mode e u paths true, C15_make_child_any_mode e u paths false⟩

/-- what `childOf` stores (restated from Lemmas/PathAlg.lean so that this file can be read alone) -/
theorem C15_childOf_path (u : Url) (X : List Str) (nn : Bool) :
    (childOf u X nn).scheme = u.scheme ∧ (childOf u X nn).netloc = u.netloc ∧
    (childOf u X nn).query = [] ∧ (childOf u X nn).fragment = [] ∧
    (childOf u X nn).path =
      (if u.netloc = [] ∨ nn = false then joinC 47 (root u.netloc (base u ++ X))
       else fixRoot (joinC 47 (normalizePathSegments (root u.netloc (base u ++ X))))) := by
  unfold childOf
  by_cases hn : u.netloc = [] <;> cases nn <;> simp [hn, fromParts]

/-- The four `encoded=True` entry points:
    the constructor, `build` and `with_path` store the supplied path VERBATIM (`with_path` roots a rootless
    non-empty one) and never remove a dot segment, with or without authority; `joinpath(…, encoded=True)` is
    `C15_encoded_make_child`. -/
theorem C15_encoded_entry_points (e : Env) :
    (∀ s u, preEncodedUrl e s = .ok u → u.path = (Rfc.appendixB Gen.schemeChars (cleanUrl s)).path) ∧
    (∀ a u, a.encoded = true → build e a = .ok u → u.path = a.path ∧ u.netloc = C07_encBuildNetloc a) ∧
    (∀ u p kq kf, (withPath e u p true kq kf).path = fixRoot p ∧ (withPath e u p true kq kf).netloc = u.netloc ∧
        (withPath e u p true kq kf).scheme = u.scheme) ∧
    (∀ u ps, makeChild e u ps true =
      if ps.any (fun p => p.head? = some 47) then .error .valueError
      else .ok (childOf u (C15_childSegsF id ps) (ps.any (mem 46)))) := by
  refine ⟨fun s u h => (C07_preencoded_accessors e s u h).2.2.1, ?_, fun u p kq kf => ⟨rfl, rfl, rfl⟩,
    fun u ps => C15_make_child_any_mode e u ps true⟩
  intro a u ha h
  obtain ⟨_, _, h2, h3, _⟩ := C07_build_encoded_verbatim e a u ha h
  exact ⟨h3, h2⟩

/-- hence: with `encoded=True` the constructor / `build` / `with_path` keep every dot segment of a rooted argument
    under an authority (the exemption the property text does not mention) -/
theorem C15_encoded_keeps_dot_segments (e : Env) (u : Url) (p : Str) (kq kf : Bool)
    (hp : ¬ NoDotSegments (47 :: p)) :
    ¬ NoDotSegments (withPath e u (47 :: p) true kq kf).path ∧
    (∀ a v, a.encoded = true → a.path = 47 :: p → build e a = .ok v → ¬ NoDotSegments v.path) := by
  refine ⟨hp, fun a v ha hap h => ?_⟩
  rw [(C07_build_encoded_verbatim e a v ha h).2.2.2.1, hap]
  exact hp

/-! ## 2. derived URLs -/

open EagerLemmas in
/-- the scheme / authority / query / fragment modifiers and `relative()` copy the stored path: a URL with dot
    segments keeps them (whatever its authority is — arbitrary text, pre-filled cache or not) -/
theorem C15_derived_path_kept (e : Env) (u : Url) :
    (∀ x v, withScheme e u x = .ok v → v.path = u.path) ∧
    (∀ x v, withUser e u x = .ok v → v.path = u.path) ∧
    (∀ x v, withPassword e u x = .ok v → v.path = u.path) ∧
    (∀ x v, withHost e u x = .ok v → v.path = u.path) ∧
    (∀ x k v, withPort e u x k = .ok v → v.path = u.path) ∧
    (∀ a v, withQuery e u a = .ok v → v.path = u.path) ∧
    (∀ a v, extendQuery e u a = .ok v → v.path = u.path) ∧
    (∀ a v, updateQuery e u a = .ok v → v.path = u.path) ∧
    (∀ ns v, withoutQueryParams e u ns = .ok v → v.path = u.path) ∧
    (∀ f, (withFragment e u f).path = u.path) ∧
    (∀ v, relative u = .ok v → v.path = u.path) := by
  refine ⟨fun x v h => ((Step.of_withScheme h).path_eq rfl).1, fun x v h => ((Step.of_withUser h).path_eq rfl).1,
    fun x v h => ((Step.of_withPassword h).path_eq rfl).1, fun x v h => ((Step.of_withHost h).path_eq rfl).1,
    fun x k v h => ((Step.of_withPort h).path_eq rfl).1, fun a v h => (C11_with_query_frame e u v a h).2.2.1,
    fun a v h => (C11_extend_query_frame e u v a h).2.2.1, fun a v h => (C11_update_query_frame e u v a h).2.2.1,
    ?_, fun f => (C11_with_fragment e u f).2.2.1, fun v h => ((C11_relative u).2.2 v h).2.2.1⟩
  intro ns v h
  rcases ModShape.withoutQueryParams_ok h with rfl | ⟨_, _, h⟩
  · rfl
  · exact (C11_with_query_frame e u v _ h).2.2.1

/-- `/` and `joinpath` (either mode) on a URL with an authority:
    (a) if some per-argument text contains a '.', the WHOLE merged path — old dot segments included — is normalised:
        the result has no dot segment at all;
    (b) otherwise nothing is normalised: every old segment other than a trailing empty one is still a segment of
        the result, so every old dot segment is still there. -/
theorem C15_derived_make_child (e : Env) (u v : Url) (paths : List Str) (encoded : Bool)
    (hn : u.netloc ≠ []) (h : makeChild e u paths encoded = .ok v) :
    let f := C15_childText e encoded
    let X := C15_childSegsF f paths
    (C15_anyDotF f paths = true →
      v.path = fixRoot (joinC 47 (normalizePathSegments (root u.netloc (base u ++ X)))) ∧ NoDotSegments v.path) ∧
    (C15_anyDotF f paths = false →
      v.path = joinC 47 (root u.netloc (base u ++ X)) ∧
      (∀ s ∈ base u, s ∈ splitOn 47 v.path) ∧
      (¬ NoDotSegments u.path → ¬ NoDotSegments v.path)) := by
  dsimp only
  rw [C15_make_child_any_mode] at h
  cases (ite_err_ok h).2
  have hMs := segs_root u.netloc
    (segs_append (segs_base u) (segs_childSegsF (C15_childText e encoded) paths))
  generalize C15_childSegsF (C15_childText e encoded) paths = X at hMs ⊢
  cases C15_anyDotF (C15_childText e encoded) paths
  · rw [childOf_false]
    have hmem : ∀ s ∈ base u, s ∈ splitOn 47 (joinC 47 (root u.netloc (base u ++ X))) := by
      intro s hs
      have hM : s ∈ root u.netloc (base u ++ X) := mem_root_of_mem (List.mem_append_left _ hs)
      rw [splitOn_joinC _ (List.ne_nil_of_mem hM) hMs]
      exact hM
    -- (b), last part by contraposition: `base u` holds the old dot segments and is kept
    exact ⟨nofun, fun _ => ⟨rfl, hmem,
      fun hdots hv => hdots (noDotSegments_of_base fun s hs => hv s (hmem s hs))⟩⟩
  · rw [childOf_true u X (by simpa using hn)]
    exact ⟨fun _ => ⟨rfl, noDotSegments_fixRoot
      (noDotSegments_joinC _ (normalizePathSegments_no_sep _ hMs) (noDots_normalizePathSegments _))⟩, nofun⟩

/-- all '/'-segments but the last of the rooted path "/r" -/
theorem dropLast_splitOn_rooted (r : Str) :
    (splitOn 47 (47 :: r)).dropLast = [] :: (splitOn 47 r).dropLast :=
  List.dropLast_cons_of_ne_nil (splitOn_ne_nil 47 r)

/-- `parent`: for a rooted path with segments `S` (path = "/" + "/".join(S)) other than "/", under an authority the
    result's path is "/" + "/".join(S without its last element), query and fragment cleared: no normalisation, the
    remaining segments verbatim.  (Path "/": the URL itself / its query and fragment cleared.) -/
theorem C15_derived_parent (u : Url) (r : Str) (hn : u.netloc ≠ []) (hp : u.path = 47 :: r) (hr : r ≠ []) :
    (parent u).path = joinC 47 ([] :: (splitOn 47 r).dropLast) ∧
    (parent u).netloc = u.netloc ∧ (parent u).scheme = u.scheme ∧
    splitOn 47 (parent u).path = (splitOn 47 u.path).dropLast := by
  have hpar : parent u = fromParts u.scheme u.netloc (joinC 47 ([] :: (splitOn 47 r).dropLast)) [] [] := by
    unfold parent
    simp [hp, hr, dropLast_splitOn_rooted, hn]
  rw [hpar, hp, dropLast_splitOn_rooted]
  exact ⟨rfl, rfl, rfl, splitOn_joinC _ (by simp) (segs_cons (by simp) (segs_dropLast (segs_splitOn r)))⟩

/-- `_with_raw_name` (the common tail of `with_name` and `with_suffix`): under an authority, for a rooted path with
    segments `S`, the new path is "/" + "/".join(S[:-1] + [name]) — every segment but the last verbatim. -/
theorem C15_derived_with_raw_name (u v : Url) (r nm : Str) (kq kf : Bool) (hn : u.netloc ≠ [])
    (hp : u.path = 47 :: r) (h47 : 47 ∉ nm) (h : withRawName u nm kq kf = .ok v) :
    v.path = joinC 47 ([] :: ((splitOn 47 r).dropLast ++ [nm])) ∧ v.netloc = u.netloc ∧
    splitOn 47 v.path = (splitOn 47 u.path).dropLast ++ [nm] := by
  have hS := splitOn_ne_nil 47 r
  unfold withRawName rawParts at h
  simp [hn, hp, hS, List.dropLast_cons_of_ne_nil hS, bind, Except.bind, pure, Except.pure] at h
  subst h
  rw [hp, dropLast_splitOn_rooted]
  exact ⟨rfl, rfl, splitOn_joinC _ (by simp)
    (segs_cons (by simp) (segs_append (segs_dropLast (segs_splitOn r)) (segs_single h47)))⟩

/-- `with_name(n)` and `with_suffix(s)` under an authority, rooted path: all '/'-segments but the last are kept
    verbatim (dot segments included) and the last one is replaced by a slash-free name; nothing is normalised.
    (`PyStr`: the argument is a Python string — code points ≤ 0x10FFFF; model artefact.) -/
theorem C15_derived_with_name_suffix (e : Env) (u v : Url) (r : Str) (kq kf : Bool) (hn : u.netloc ≠ [])
    (hp : u.path = 47 :: r) :
    (∀ nm, PyStr nm → withName e u nm kq kf = .ok v →
      splitOn 47 v.path = (splitOn 47 u.path).dropLast ++ [q e Gen.PATH_QUOTER nm] ∧ v.netloc = u.netloc) ∧
    (∀ sfx, PyStr sfx → withSuffix e u sfx kq kf = .ok v →
      ∃ n', 47 ∉ n' ∧ splitOn 47 v.path = (splitOn 47 u.path).dropLast ++ [n'] ∧ v.netloc = u.netloc) := by
  constructor
  · intro nm hpy h
    obtain ⟨h47, _, _, h⟩ := ModShape.withName_ok h
    obtain ⟨_, h2, h3⟩ := C15_derived_with_raw_name u v r _ kq kf hn hp (C13_path_quoter_no_slash e nm hpy h47) h
    exact ⟨h3, h2⟩
  · intro sfx hpy h
    obtain ⟨nm, h47, _, _, h⟩ := ModShape.withSuffix_name hpy h
    obtain ⟨_, h2, h3⟩ := C15_derived_with_raw_name u v r nm kq kf hn hp h47 h
    exact ⟨nm, h47, h3, h2⟩

/-- `join(ref)` in the merge branch (reference with the base's scheme — or none —, scheme in `uses_relative`, reference
    without authority): with a NON-EMPTY reference path the merged path is normalised whenever it contains a '.', so
    the result has no dot segment whatever the base carried; with an EMPTY reference path the base path (and
    authority) is copied verbatim — the base's dot segments stay. -/
theorem C15_derived_join (e : Env) (base ref : Url)
    (hsch : ref.scheme = [] ∨ ref.scheme = base.scheme)
    (hrel : Gen.usesRelative.contains base.scheme = true)
    (hauth : ref.netloc = [] ∨ Gen.usesAuthority.contains base.scheme = false) :
    (ref.path ≠ [] → NoDotSegments (join e base ref).path) ∧
    (ref.path = [] → (join e base ref).path = base.path ∧ (join e base ref).netloc = base.netloc) := by
  refine ⟨C15_entry_join_merge e base ref hsch hrel hauth, fun hp => ?_⟩
  rw [JoinLemmas.join_merge e base ref hsch hrel hauth, joinRelPath, hp]
  exact ⟨rfl, rfl⟩

/-- `join(ref)` outside the merge branch takes the reference as it is — dot segments of a reference made with
    `encoded=True` included: another scheme / a scheme outside `uses_relative` gives `ref` itself; a reference with
    its own authority (scheme in `uses_netloc`) gives `ref`'s authority and path. -/
theorem C15_derived_join_ref_verbatim (e : Env) (base ref : Url) :
    ((ref.scheme ≠ [] ∧ ref.scheme ≠ base.scheme) → join e base ref = ref) ∧
    ((ref.scheme = [] ∨ ref.scheme = base.scheme) → Gen.usesRelative.contains base.scheme = false →
      join e base ref = ref) ∧
    ((ref.scheme = [] ∨ ref.scheme = base.scheme) → Gen.usesRelative.contains base.scheme = true →
      ref.netloc ≠ [] → Gen.usesAuthority.contains base.scheme = true →
      (join e base ref).path = ref.path ∧ (join e base ref).netloc = ref.netloc) := by
  refine ⟨?_, ?_, ?_⟩
  · rintro ⟨h1, h2⟩
    exact C14_passthrough e base ref (.inl ⟨not_isEmpty_of_ne_nil h1, h2⟩)
  · intro hsch hrel
    refine C14_passthrough e base ref (.inr ?_)
    rw [JoinLemmas.scheme_eq base ref hsch, hrel]
    exact Bool.false_ne_true
  · intro hsch hrel hn ha
    have hs : joinScheme base ref = base.scheme := JoinLemmas.scheme_eq base ref hsch
    rw [join_eq, hs, hrel, ha, not_isEmpty_of_ne_nil hn]
    simp [fromParts]

/-! ## 3. witnesses (both backends; the Python calls are in the comments — all compared with the real library) -/

section witnesses

/-- `u = URL('http://U:P@H:080/a/../b?x y#é', encoded=True)`: an authority AND dot segments -/
private def uA : Url := fromParts "http".toStr "U:P@H:080".toStr "/a/../b".toStr "x y".toStr [233]

example : uA.netloc ≠ [] ∧ uA.path = 47 :: "a/../b".toStr ∧ ¬ NoDotSegments uA.path ∧ "a/../b".toStr ≠ [] := by
  str_lits
  decide +kernel

/-- the modifiers on `u` (Python: `u.with_query('k=v')`, `u.with_fragment(None)`, `u / 'c'`, `u / 'c.d'`,
    `u.joinpath('c.d', encoded=True)`, `u.joinpath('c', encoded=True)`, `u.parent`, `u.with_name('n')`,
    `u.with_suffix('.x')`, `u.join(URL('z'))`, `u.join(URL('?q'))`, `u.with_user('n')`):
    paths "/a/../b", "/a/../b", "/a/../b/c", "/b/c.d", "/b/c.d", "/a/../b/c", "/a/..", "/a/../n", "/a/../b.x", "/z",
    "/a/../b", "/a/../b" -/
theorem C15_derived_from_encoded_instance (b : Backend) :
    let e : Env := ⟨b, Oracles.empty⟩
    preEncodedUrl e ("http://U:P@H:080/a/../b?x y#".toStr ++ [233]) = .ok uA ∧
    (withQuery e uA (.str "k=v".toStr)).map (·.path) = .ok "/a/../b".toStr ∧
    (withFragment e uA none).path = "/a/../b".toStr ∧
    (makeChild e uA ["c".toStr] false).map (·.path) = .ok "/a/../b/c".toStr ∧
    (makeChild e uA ["c.d".toStr] false).map (·.path) = .ok "/b/c.d".toStr ∧
    (makeChild e uA ["c.d".toStr] true).map (·.path) = .ok "/b/c.d".toStr ∧
    (makeChild e uA ["c".toStr] true).map (·.path) = .ok "/a/../b/c".toStr ∧
    (parent uA).path = "/a/..".toStr ∧
    (withName e uA "n".toStr false false).map (·.path) = .ok "/a/../n".toStr ∧
    (withSuffix e uA ".x".toStr false false).map (·.path) = .ok "/a/../b.x".toStr ∧
    (join e uA (fromParts [] [] "z".toStr [] [])).path = "/z".toStr ∧
    (join e uA (fromParts [] [] [] "q".toStr [])).path = "/a/../b".toStr ∧
    (withUser e uA (some "n".toStr)).map (·.path) = .ok "/a/../b".toStr := by
  str_lits
  cases b <;> decide +kernel

/-- `with_path(p, encoded=True)` on `u` (Python: `u.with_path('/p/./q', encoded=True)`, `…('p/../q', encoded=True)`,
    `…('', encoded=True)`): "/p/./q", "/p/../q", "" — and `joinpath(…, encoded=True)` with a leading '/' raises -/
theorem C15_encoded_entry_points_instance (b : Backend) :
    let e : Env := ⟨b, Oracles.empty⟩
    (withPath e uA "/p/./q".toStr true false false).path = "/p/./q".toStr ∧
    (withPath e uA "p/../q".toStr true false false).path = "/p/../q".toStr ∧
    (withPath e uA [] true false false).path = [] ∧
    -- the same arguments WITHOUT encoded=True are normalised
    (withPath e uA "/p/./q".toStr false false false).path = "/p/q".toStr ∧
    (withPath e uA "p/../q".toStr false false false).path = "/q".toStr ∧
    makeChild e uA ["/c".toStr] true = .error .valueError ∧
    -- '%2E' is NOT a dot for `joinpath(encoded=True)`: nothing is decoded, but the literal '.' in "x.y" triggers
    -- normalisation of the whole path, old ".." included
    (makeChild e uA ["%2E%2E".toStr] true).map (·.path) = .ok "/a/../b/%2E%2E".toStr ∧
    (makeChild e uA ["%2E%2E".toStr, "x.y".toStr] true).map (·.path) = .ok "/b/%2E%2E/x.y".toStr := by
  str_lits
  cases b <;> decide +kernel

end witnesses

end Yarl
