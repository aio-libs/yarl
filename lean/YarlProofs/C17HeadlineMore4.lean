import YarlProofs.C17Headline
import YarlProofs.C17HeadlineMore
import YarlProofs.C17HeadlineMore3
import YarlProofs.C17More
/-!
  C17HeadlineMore4.lean — AUDIT LAYER for property C17, continuation of C17Headline.lean / C17HeadlineMore.lean /
  C17HeadlineMore3.lean (the theorems here need C17More.lean, which imports C17HeadlineMore.lean; this file is a leaf,
  nobody imports it).

  C17 | Port semantics: explicit vs default, zero vs absent |
  "explicit_port is the integer value of the port written in the URL, which must lie in 0-65535
  (non-numeric or out-of-range ports are rejected with ValueError); port falls back to the scheme default
  (http/ws 80, https/wss 443, ftp 21) only when none is written, and port 0 is distinct from absent.
  str(), host_port_subcomponent and is_default_port() omit or report the port as default exactly when it is
  absent or equals the scheme default; with_port(p) sets any valid p, clears on None, and rejects bools,
  non-integers and out-of-range values."

  What is here (C17More.lean) — GAPS 2, 4, 5, 6, 7 of C17Headline.lean.
   * GAPS 2 "the integer value of the port written": the model's `int()` (`pyIntAscii`) against a hand-written GRAMMAR of
     Python's base-10 `int(str)` — `ws* [+-]? digit (_? digit)* ws*` with its value (`PyIntForm`, a NEW TRUSTED
     definition): sound and complete for every text; the rejections; plain digit strings and `str(int)` as canonical
     inverse; which port texts `split_netloc` accepts (iff); which whitespace reaches the port parser through the
     constructor.
   * GAPS 4 "falls back to the scheme default … only when none is written": the complete `DEFAULT_PORTS` table (computed
     from the generated table), `port = p` as an iff, and the contrast `build(port=default)` DROPS / the constructor KEEPS.
   * GAPS 5: the full truth table of `is_default_port()`, with the ODDITY `URL("foo://h").is_default_port()` is True
     although `port` is None.
   * GAPS 6: `with_port` on ANY URL (cache or not, any stored text): the exact result with the order of the checks, the
     read-back from hypotheses on the raw components only, and — NEGATIVE, now a theorem — the read-back FAILS exactly when
     the raw host contains '[' but no ':' (malformed brackets; same root as F-C03-bracket / F-C11-bracket).
   * GAPS 7: sentence 2 on EVERY accepted constructor input with an authority, no side condition; IPvFuture / bracketed
     non-IPv6 hosts (NEGATIVE about the TEXT: `str(URL("http://[v1.x]:80/"))` is "http://v1.x/" — brackets dropped with
     the default port), the empty host, IDN hosts.

  Vocabulary added by C17More.lean.
  `isPySpaceC c`, `PyWs s`   — `c` is one of the ASCII characters `int()` strips (9–13, 28–31, 32); `s` consists of them.
  `PyIntBody b v`            — (inductive) `b` is `digit (_? digit)*` and `v` its decimal value, underscores ignored.
  `PyIntForm s v`            — `s = ws1 ++ sign ++ body ++ ws2`, `ws1` `ws2` whitespace runs, `sign` "" / "+" / "-",
                               `PyIntBody body n`, `v = ±n`: the grammar of Python's `int(s)` in base 10.
  `pyStrip s`, `pyIntCore r`, `EdgeFree r` — `s.strip()` as `int()` applies it; `int()` on a stripped text; no
                               whitespace at either end.
  `dv 0 ds`                  — (NetlocLemmas.lean) the decimal value of the digit string `ds`.
  `CtorMods.portText n`      — (C17Ctor.lean) the port text of the authority `n` as `split_netloc` cuts it.
  `NetPre` / `net e u`       — the four authority components (raw_host, explicit_port, raw_user, raw_password): the
                               pre-filled cache of a constructor result, else what `split_netloc` reads lazily.
  `EncTrue.GoodHost h`       — (C11Encoded.lean) `h` can be re-written: with a ':' it has no ']', without a ':' no '['.
  `EncTrue.portBad p`        — `p` is an int outside 0..65535.
  `cachedUser`, `requoteOpt` — `REQUOTER(user) or None`, `REQUOTER(password)` (EagerLemmas.lean).
  `authTextB`, `BracketTextIn`, `bracketCheck` — as in C09HeadlineMore.lean (BrHost.lean, C03Bracket.lean).
-/
namespace Yarl
open NetlocLemmas CtorMods EagerLemmas HeadB

/-! ## GAPS 2 — "explicit_port is the integer value of the port written in the URL": the model's `int()` -/

/-- the grammar, spelled out (definitions of C17More.lean, by unfolding; `PyIntBody` is inductive: its three rules are
    `digit`, `snoc` (a further digit), `usnoc` ('_' and a further digit)); a body starts and ends with a digit, consists
    of digits and '_' only, its value is the decimal value of its digits, and the digit scanner of the model accepts
    exactly the bodies.  Cites C17_pyIntBody_props, C17_digitsUnderscore_spec. -/
theorem C17_headline_pyint_grammar_def (s : Str) (v : Int) :
    (PyWs s ↔ ∀ c ∈ s, isPySpaceC c = true) ∧
    (PyIntForm s v ↔
      ∃ ws1 sign body ws2 n, s = ws1 ++ sign ++ body ++ ws2 ∧ PyWs ws1 ∧ PyWs ws2 ∧
        (sign = [] ∨ sign = [43] ∨ sign = [45]) ∧ PyIntBody body n ∧
        v = if sign = [45] then - Int.ofNat n else Int.ofNat n) ∧
    (∀ c, isPySpaceC c = true ↔ c ∈ [9, 10, 11, 12, 13, 28, 29, 30, 31, 32]) ∧
    (∀ b n, PyIntBody b n →
      (∃ c t, b = c :: t ∧ isDigitC c = true) ∧ (∃ c, b.getLast? = some c ∧ isDigitC c = true) ∧
      (∀ c ∈ b, isDigitC c = true ∨ c = 95) ∧ n = dv 0 (b.filter isDigitC)) ∧
    (∀ b n, digitsUnderscore b none false = some n ↔ PyIntBody b n) := by
  refine ⟨Iff.rfl, Iff.rfl, fun c => ?_, C17_pyIntBody_props, C17_digitsUnderscore_spec⟩
  unfold isPySpaceC
  simp only [List.mem_cons, List.not_mem_nil, or_false, Bool.or_eq_true, Bool.and_eq_true, decide_eq_true_eq]
  omega

/-- GAPS 2, the SPEC (sound and complete, EVERY text, ASCII or not): the model's `int(s)` succeeds with value `v` iff `s`
    is `ws* [+-]? digit (_? digit)* ws*` with that value.  Cites C17_pyInt_spec. -/
theorem C17_headline_pyint_spec (s : Str) (v : Int) : pyIntAscii s = some v ↔ PyIntForm s v :=
  C17_pyInt_spec s v

/-- … `int()` depends on the stripped text only, and the decomposition `ws ++ core ++ ws'` exists and is unique.
    Cites C17_pyInt_core, C17_pyInt_strip_exists, C17_pyInt_strip_unique. -/
theorem C17_headline_pyint_strip (s : Str) :
    pyIntAscii s = pyIntCore (pyStrip s) ∧
    (∃ ws1 ws2, s = ws1 ++ pyStrip s ++ ws2 ∧ PyWs ws1 ∧ PyWs ws2 ∧ EdgeFree (pyStrip s)) ∧
    (∀ ws1 core ws2, PyWs ws1 → PyWs ws2 → EdgeFree core →
      pyStrip (ws1 ++ core ++ ws2) = core ∧ pyIntAscii (ws1 ++ core ++ ws2) = pyIntCore core) :=
  ⟨C17_pyInt_core s, C17_pyInt_strip_exists s, C17_pyInt_strip_unique⟩

/-- "(non-numeric … ports are rejected …)": the rejections of `int()`, on the stripped text; `sign` is "", "+" or "-".
    Rejected: nothing / only a sign; a leading, a trailing, a double underscore; any character that is neither a digit nor
    '_' behind the sign or behind another character (interior whitespace, a second sign, a letter as in "0x50", any
    non-ASCII character).  And on the WHOLE text: an accepted text has a digit and consists of digits, '_', '+', '-' and
    ASCII whitespace only.  Cites C17_pyInt_rejects, C17_pyInt_alphabet. -/
theorem C17_headline_pyint_rejects (sign : Str) (hs : sign = [] ∨ sign = [43] ∨ sign = [45]) :
    (pyIntCore sign = none ∧
     (∀ r, pyIntCore (sign ++ 95 :: r) = none) ∧
     (∀ a, pyIntCore (sign ++ a ++ [95]) = none) ∧
     (∀ a r, pyIntCore (sign ++ a ++ 95 :: 95 :: r) = none) ∧
     (∀ a c r, isDigitC c = false → c ≠ 95 → (sign ≠ [] ∨ a ≠ [] ∨ (c ≠ 43 ∧ c ≠ 45)) →
       pyIntCore (sign ++ a ++ c :: r) = none)) ∧
    (∀ s v, pyIntAscii s = some v →
      (∃ c ∈ s, isDigitC c = true) ∧
      (∀ c ∈ s, isDigitC c = true ∨ c = 95 ∨ c = 43 ∨ c = 45 ∨ isPySpaceC c = true) ∧ isAscii s = true) :=
  ⟨C17_pyInt_rejects sign hs, C17_pyInt_alphabet⟩

/-- plain digit strings: a non-empty digit string reads as its decimal value, leading zeros allowed (`int("080") = 80`),
    and `natToStr` (`str(int)`, what `make_netloc` writes) is the canonical inverse: it parses back to the number, and
    for EVERY digit string it returns the text without its superfluous leading zeros.  Cites C17_pyInt_digits. -/
theorem C17_headline_pyint_digits (ds : Str)
    (hne : ds ≠ []) (hd : ∀ c ∈ ds, isDigitC c = true) :  -- a non-empty string of ASCII digits
    pyIntAscii ds = some (Int.ofNat (dv 0 ds)) ∧
    PyIntBody ds (dv 0 ds) ∧
    (∀ k, dv 0 (List.replicate k 48 ++ ds) = dv 0 ds) ∧
    (∀ p, pyIntAscii (natToStr p) = some (Int.ofNat p)) ∧
    natToStr (dv 0 ds) = (if ds.dropWhile (· = 48) = [] then [48] else ds.dropWhile (· = 48)) ∧
    ((ds = [48] ∨ ds.head? ≠ some 48) → natToStr (dv 0 ds) = ds) :=
  C17_pyInt_digits ds hne hd

/-- "… which must lie in 0-65535 (non-numeric or out-of-range ports are rejected with ValueError)" at `split_netloc`, for
    a non-empty ASCII port text, as equivalences: accepted with port `p` iff `int(port text) = p` with 0 ≤ p ≤ 65535;
    rejected iff `int()` fails or the value is out of range; and the rejection is ValueError.  Second part: for
    `host:port` with a plain host.  Cites C17_splitNetloc_port_iff, C17_host_port_accepts. -/
theorem C17_headline_port_text_accepted_iff (o : Oracles) (n : Str) (p : Nat)
    (hne : portText n ≠ [])                         -- there is a port text ("" = no port: C17_headline_port_text_instances)
    (hasc : isAscii (portText n) = true) :          -- ASCII (a non-ASCII port text is the `intU` oracle's business)
    ((∃ np, splitNetloc o n = .ok np ∧ np.port = some p) ↔
      ∃ v : Int, pyIntAscii (portText n) = some v ∧ 0 ≤ v ∧ v ≤ 65535 ∧ v.toNat = p) ∧
    ((∀ np, splitNetloc o n ≠ .ok np) ↔
      (pyIntAscii (portText n) = none ∨ ∃ v, pyIntAscii (portText n) = some v ∧ ¬ (0 ≤ v ∧ v ≤ 65535))) ∧
    ((∀ np, splitNetloc o n ≠ .ok np) → splitNetloc o n = .error .valueError) ∧
    (∀ h ps, 58 ∉ h → 64 ∉ h → 91 ∉ h → 64 ∉ ps → 91 ∉ ps → ps ≠ [] → isAscii ps = true →
      ((∃ np, splitNetloc o (h ++ [58] ++ ps) = .ok np ∧ np.port = some p) ↔
        ∃ v : Int, pyIntAscii ps = some v ∧ 0 ≤ v ∧ v ≤ 65535 ∧ v.toNat = p)) :=
  ⟨(C17_splitNetloc_port_iff o n hne hasc p).1, (C17_splitNetloc_port_iff o n hne hasc p).2.1,
   (C17_splitNetloc_port_iff o n hne hasc p).2.2,
   fun h ps h58 h64 h91 p64 p91 hps ha => C17_host_port_accepts o h ps h58 h64 h91 p64 p91 hps ha p⟩

/-- the consequences GAPS 2 named (computed): "+80", " 80 ", "8_0", "080" are port 80 and "-0" is port 0; "-1", "65536",
    "8__0", "_80", "80_", "8 0", "0x50", "+-80", "+", " " are ValueError; "" is no port; a non-ASCII text ("８０",
    full-width digits, `int()` = 80 in Python) is NOT computed in the model: it is the `intU` oracle's answer.
    Cites C17_port_text_instances, C17_pyInt_non_ascii. -/
theorem C17_headline_port_text_instances :
    (let o := Oracles.empty
     let port := fun (n : String) => (splitNetloc o n.toStr).map (·.port)
     port "h:+80" = .ok (some 80) ∧ port "h: 80 " = .ok (some 80) ∧ port "h:8_0" = .ok (some 80) ∧
     port "h:080" = .ok (some 80) ∧ port "h:-0" = .ok (some 0) ∧ port "h:65535" = .ok (some 65535) ∧
     port "h:" = .ok none ∧
     port "h:-1" = .error .valueError ∧ port "h:65536" = .error .valueError ∧
     port "h:8__0" = .error .valueError ∧ port "h:_80" = .error .valueError ∧ port "h:80_" = .error .valueError ∧
     port "h:8 0" = .error .valueError ∧ port "h:0x50" = .error .valueError ∧ port "h:+-80" = .error .valueError ∧
     port "h:+" = .error .valueError ∧ port "h: " = .error .valueError ∧
     (splitNetloc o ("h:".toStr ++ [65304, 65296])).map (·.port) = .error (.oracleMiss "intU" [65304, 65296]) ∧
     (splitNetloc { o with intU := fun _ => some (some 80) } ("h:".toStr ++ [65304, 65296])).map (·.port)
       = .ok (some 80)) ∧
    (∀ (o : Oracles) (ps : Str), isAscii ps = false → pyInt o ps = ask "intU" ps (o.intU ps)) :=
  ⟨C17_port_text_instances, C17_pyInt_non_ascii⟩

/-- which whitespace can reach the port parser through the CONSTRUCTOR: `split_url` removes TAB / LF / CR everywhere, so
    none is left in the authority it cuts out (hence none in the port text); the other characters `int()` strips —
    space, VT, FF, FS, GS, RS, US — do reach it and are accepted around the digits (both backends); a TAB / LF / CR
    INSIDE the digits is simply removed: `URL("http://h:8\t0/")` has port 80.
    Cites C17_ctor_netloc_no_tab, C17_ctor_port_whitespace. -/
theorem C17_headline_ctor_port_whitespace (b : Backend) :
    (∀ (o : Oracles) (s : Str) (pt : Parts), splitUrl o s = .ok pt →
      (∀ c ∈ Gen.removeSet, c ∉ pt.netloc) ∧ (∀ c ∈ pt.netloc, c ≠ 9 ∧ c ≠ 10 ∧ c ≠ 13) ∧
      (∀ c ∈ portText pt.netloc, c ∈ pt.netloc)) ∧
    (∀ c ∈ [32, 11, 12, 28, 29, 30, 31],
      (encodeUrl ⟨b, Oracles.empty⟩ ("http://h:".toStr ++ [c] ++ "80".toStr ++ [c] ++ "/".toStr)).bind
        (explicitPort ⟨b, Oracles.empty⟩) = .ok (some 80)) ∧
    (∀ c ∈ [9, 10, 13],
      (encodeUrl ⟨b, Oracles.empty⟩ ("http://h:8".toStr ++ [c] ++ "0/".toStr)).bind
        (explicitPort ⟨b, Oracles.empty⟩) = .ok (some 80)) :=
  ⟨C17_ctor_netloc_no_tab, (C17_ctor_port_whitespace b).1, (C17_ctor_port_whitespace b).2⟩

/-! ## GAPS 4 — "port falls back to the scheme default (http/ws 80, https/wss 443, ftp 21) only when none is written" -/

/-- "(http/ws 80, https/wss 443, ftp 21)": the COMPLETE `DEFAULT_PORTS` table, computed from the generated table — a scheme
    (any string) has the default port `p` iff the pair is one of the five listed; every other scheme has none.
    Cites C17_default_port_table, C17_default_port_none. -/
theorem C17_headline_default_port_table (s : Str) (p : Nat) :
    (defaultPort s = some p ↔
      (s, p) ∈ [("http".toStr, 80), ("https".toStr, 443), ("ws".toStr, 80), ("wss".toStr, 443), ("ftp".toStr, 21)]) ∧
    (s ∉ ["http".toStr, "https".toStr, "ws".toStr, "wss".toStr, "ftp".toStr] → defaultPort s = none) :=
  ⟨C17_default_port_table s p, C17_default_port_none s⟩

/-- "port falls back to the scheme default … only when none is written", as equivalences, for ANY URL: with no port
    written `port` is `p` iff `p` is the scheme default; in general `port` is `p` iff `p` is written, or nothing is
    written and `p` is the scheme default; `port` is None iff nothing is written and the scheme has no default; and
    `port` fails exactly as explicit_port does.  Cites C17_port_default_iff. -/
theorem C17_headline_port_default_iff (e : Env) (u : Url) (p : Nat) :
    (explicitPort e u = .ok none → (port e u = .ok (some p) ↔ defaultPort u.scheme = some p)) ∧
    (port e u = .ok (some p) ↔
      explicitPort e u = .ok (some p) ∨ (explicitPort e u = .ok none ∧ defaultPort u.scheme = some p)) ∧
    (port e u = .ok none ↔ explicitPort e u = .ok none ∧ defaultPort u.scheme = none) ∧
    (∀ err, port e u = .error err ↔ explicitPort e u = .error err) :=
  C17_port_default_iff e u p

/-- GAPS 4, the contrast in one statement ("written" must mean "STORED"): `build(host=…, port=p)` DROPS a port equal to
    the default of the (lower-cased) scheme — explicit_port is None, `port` still answers `p`; the constructor KEEPS a
    written port whatever the scheme — explicit_port is `p` also when `p` is the scheme default.  Instances (both
    backends): `URL.build(scheme="http", host="h", port=80)` vs `URL("http://h:80")` — same `str()`, same `port`,
    different explicit_port, and the two are NOT `==` (the stored authorities "h" / "h:80" differ).
    Cites C17_default_port_build_vs_ctor, C17_default_port_build_vs_ctor_instances. -/
theorem C17_headline_default_port_build_vs_ctor (e : Env) (b : Backend) :
    (∀ (a : BuildArgs) (u : Url) (sc : Str) (p : Int), a.encoded = false → a.authority = [] → a.host ≠ [] →
      lowerAny e a.scheme = .ok sc → build e a = .ok u → a.port = some p → some p.toNat = defaultPort sc →
      explicitPort e u = .ok none ∧ port e u = .ok (some p.toNat) ∧ u.scheme = sc) ∧
    (∀ (s : Str) (u : Url) (pt : Parts) (p : Nat), encodeUrl e s = .ok u → splitUrl e.o s = .ok pt →
      portText pt.netloc = natToStr p →                 -- the port text of the input is the canonical decimal text of `p`
      explicitPort e u = .ok (some p) ∧ port e u = .ok (some p) ∧ p ≤ 65535) ∧
    (let e : Env := ⟨b, Oracles.empty⟩
     let ub := build e { scheme := "http".toStr, host := "h".toStr, port := some 80 }
     let uc := encodeUrl e "http://h:80".toStr
     ub.bind (explicitPort e) = .ok none ∧ uc.bind (explicitPort e) = .ok (some 80) ∧
     ub.bind (port e) = .ok (some 80) ∧ uc.bind (port e) = .ok (some 80) ∧
     ub.bind (str e) = .ok "http://h".toStr ∧ uc.bind (str e) = .ok "http://h".toStr ∧
     ub.map (·.netloc) = .ok "h".toStr ∧ uc.map (·.netloc) = .ok "h:80".toStr ∧
     (do let x ← ub; let y ← uc; pure (x.beq y) : R Bool) = .ok false) :=
  ⟨(C17_default_port_build_vs_ctor e).1, (C17_default_port_build_vs_ctor e).2,
   C17_default_port_build_vs_ctor_instances b⟩

/-! ## GAPS 5 — "is_default_port() … report the port as default exactly when it is absent or equals the scheme default" -/

/-- GAPS 5, the full truth table (any URL on which explicit_port answers `ep`): True iff (no port written AND there is an
    authority) or (the written port is the scheme default); False iff (no port written and NO authority) or (the written
    port is not the scheme default).  Corollaries for a scheme WITHOUT default port: a written port is never "default";
    an ABSENT port with an authority IS reported as default; and with an authority `is_default_port()` is True iff `port`
    equals the scheme default (possibly None).  Cites C17_is_default_port_iff, C17_is_default_port_cases. -/
theorem C17_headline_is_default_port_truth_table (e : Env) (u : Url) (ep : Option Nat)
    (h : explicitPort e u = .ok ep) :                   -- explicit_port answers (it raises on an unparsable stored port text)
    (isDefaultPort e u = .ok true ↔
      (ep = none ∧ u.netloc ≠ []) ∨ (∃ p, ep = some p ∧ defaultPort u.scheme = some p)) ∧
    (isDefaultPort e u = .ok false ↔
      (ep = none ∧ u.netloc = []) ∨ (∃ p, ep = some p ∧ defaultPort u.scheme ≠ some p)) ∧
    (defaultPort u.scheme = none → ∀ p, ep = some p → isDefaultPort e u = .ok false) ∧
    (defaultPort u.scheme = none → ep = none → u.netloc ≠ [] → isDefaultPort e u = .ok true ∧ port e u = .ok none) ∧
    (u.netloc = [] → ep = none → isDefaultPort e u = .ok false) ∧
    (isDefaultPort e u = .ok true → port e u = .ok (defaultPort u.scheme) ∧
      ∀ p, ep = some p → port e u = .ok (some p) ∧ defaultPort u.scheme = some p) ∧
    (u.netloc ≠ [] → (isDefaultPort e u = .ok true ↔ port e u = .ok (defaultPort u.scheme))) :=
  ⟨(C17_is_default_port_iff e u ep h).1, (C17_is_default_port_iff e u ep h).2, C17_is_default_port_cases e u ep h⟩

/-- OBSERVATION (an oddity, consistent with the property text "absent"; not a finding): `URL("foo://h").is_default_port()`
    is True although `port` is None (scheme without default, no port written); `URL("foo://h:80")` False; `URL("foo:p")`
    and "/p" (no authority) False; `URL("http://h")` True, `URL("http://h:80")` True, `URL("http://h:81")` False,
    `URL("http://h:0")` False — port 0 is distinct from absent.  Both backends, computed.
    Cites C17_is_default_port_instances. -/
theorem C17_headline_is_default_port_instances (b : Backend) :
    let e : Env := ⟨b, Oracles.empty⟩
    let idp := fun (s : String) => (encodeUrl e s.toStr).bind (isDefaultPort e)
    idp "foo://h" = .ok true ∧ (encodeUrl e "foo://h".toStr).bind (port e) = .ok none ∧
    idp "foo://h:80" = .ok false ∧ idp "foo:p" = .ok false ∧ idp "/p" = .ok false ∧
    idp "http://h" = .ok true ∧ idp "http://h:80" = .ok true ∧ idp "http://h:81" = .ok false ∧
    idp "http://h:0" = .ok false :=
  C17_is_default_port_instances b

/-! ## GAPS 6 / 7, the general layer — every port view of ANY URL as a function of its authority components -/

/-- sentence 2 on ANY URL on which the authority components are available (`net e u = .ok n`: the pre-filled cache of a
    constructor result, or what `split_netloc` reads from the stored text) — no `Written`, no guard: explicit_port, `port`
    (fallback), is_default_port(), host_subcomponent, host_port_subcomponent (port omitted exactly when absent or the
    scheme default; trailing dots of the host stripped) and str() (the stored authority, or — exactly when a written port
    equals the scheme default — the authority RE-MADE from the components without the port).
    Cites C17_port_views_of_net. -/
theorem C17_headline_port_views_of_net (e : Env) (u : Url) (n : NetPre)
    (hn : net e u = .ok n) :                            -- the four authority components (cache, or lazy parse)
    explicitPort e u = .ok n.explicitPort ∧
    port e u = .ok (n.explicitPort <|> defaultPort u.scheme) ∧
    isDefaultPort e u = .ok (match n.explicitPort with
      | none => !u.netloc.isEmpty
      | some p => decide (some p = defaultPort u.scheme)) ∧
    hostSubcomponent e u = .ok (n.rawHost.map bracket) ∧
    hostPortSubcomponent e u = .ok (n.rawHost.map (fun raw =>
      match n.explicitPort with
      | none => bracket (rstripC 46 raw)
      | some p => if some p = defaultPort u.scheme then bracket (rstripC 46 raw)
                  else bracket (rstripC 46 raw) ++ [58] ++ natToStr p)) ∧
    str e u = .ok (unsplitResult u.scheme
      (match n.explicitPort with
        | some p => if some p = defaultPort u.scheme
                    then makeNetloc id n.rawUser n.rawPassword (n.rawHost.map bracket) none false
                    else u.netloc
        | none => u.netloc)
      (if u.path.isEmpty && !u.netloc.isEmpty && (!u.query.isEmpty || !u.fragment.isEmpty) then [47] else u.path)
      u.query u.fragment) :=
  C17_port_views_of_net e u n hn

/-- "with_port(p) sets any valid p, clears on None, and rejects bools, non-integers and out-of-range values" — the EXACT
    result on ANY URL (cache or not, any stored authority text), with the ORDER of the checks: TypeError for a bool /
    non-int (`k ≠ 0`), then ValueError for an int outside 0–65535, then ValueError for a URL without authority, and only
    then the authority is read — an error of `net` (ValueError for an unparsable port text in the stored authority, or an
    oracle miss) is passed on unchanged; otherwise the authority is re-made from raw_user, raw_password, the host in
    brackets iff it contains ':', and the new port.  Cites C17_with_port_exact, C17_with_port_result. -/
theorem C17_headline_with_port_exact (e : Env) (u : Url) (np : Option Int) (k : Nat) :
    withPort e u np k =
      (if k ≠ 0 then .error .typeError
       else if EncTrue.portBad np then .error .valueError
       else if u.netloc = [] then .error .valueError
       else (net e u).map (fun n => fromParts u.scheme
         (makeNetloc (q e Gen.QUOTER) n.rawUser n.rawPassword (some (bracket (n.rawHost.getD [])))
           (np.map Int.toNat) false) u.path u.query u.fragment)) ∧
    (u.netloc ≠ [] → (∀ p, np = some p → 0 ≤ p ∧ p ≤ 65535) →     -- URL with authority, valid argument
      (∀ err, net e u = .error err → withPort e u np 0 = .error err) ∧
      (u.pre = none → ∀ err, net e u = .error err → err = .valueError ∨ ∃ f a, err = .oracleMiss f a)) :=
  ⟨C17_with_port_exact e u np k,
   fun hne hnp => ⟨(C17_with_port_result e u np hne hnp).2.1, (C17_with_port_result e u np hne hnp).2.2⟩⟩

/-- "with_port(p) sets any valid p, clears on None" — READ-BACK, hypotheses on the raw components only: for ANY URL with
    authority whose components are available, `with_port(p)` succeeds and on the result explicit_port reads `p` (None for
    `with_port(None)`), raw_user / raw_password read as before, raw_host too — unless nothing at all is left to write (E2:
    then the authority is empty and raw_host is None).  For a URL WITHOUT cache the hypotheses hold except possibly
    "a host without ':' has no '['".  Cites C17_with_port_readback, C17_lazy_components_ok. -/
theorem C17_headline_with_port_readback (e : Env) (u : Url) (n : NetPre) (np : Option Int)
    (hnet : net e u = .ok n) (hne : u.netloc ≠ [])
    (hnp : ∀ p, np = some p → 0 ≤ p ∧ p ≤ 65535)        -- a valid argument
    (hu : UserOK n.rawUser)                             -- user absent, or non-empty without ':'
    (h64 : 64 ∉ n.rawHost.getD [])                      -- no '@' in the raw host
    -- the raw host can be re-written: with a ':' it has no ']', without a ':' no '[' — NEEDED:
    -- C17_headline_with_port_readback_fails_for_bracket_in_host
    (hg : EncTrue.GoodHost (n.rawHost.getD [])) :
    (∃ v, withPort e u np 0 = .ok v ∧ v.pre = none ∧
      explicitPort e v = .ok (np.map Int.toNat) ∧
      rawUser e v = .ok n.rawUser ∧ rawPassword e v = .ok n.rawPassword ∧
      rawHost e v = .ok (if n.rawUser = none ∧ n.rawPassword = none ∧ n.rawHost.getD [] = [] ∧ np = none
        then none else some (n.rawHost.getD [])) ∧
      v.scheme = u.scheme ∧ v.path = u.path ∧ v.query = u.query ∧ v.fragment = u.fragment) ∧
    (u.pre = none →
      UserOK n.rawUser ∧ 64 ∉ n.rawHost.getD [] ∧
      (93 ∉ n.rawHost.getD [] ∨ (58 ∉ n.rawHost.getD [] ∧ 91 ∉ n.rawHost.getD [])) ∧
      (∀ p, n.explicitPort = some p → p ≤ 65535) ∧
      (¬ (91 ∈ n.rawHost.getD [] ∧ 58 ∉ n.rawHost.getD []) → EncTrue.GoodHost (n.rawHost.getD []))) :=
  ⟨C17_with_port_readback e u n np hnet hne hnp hu h64 hg, fun hpre => C17_lazy_components_ok e u n hpre hnet⟩

/-- NEGATIVE — "with_port(p) sets any valid p" is FALSE when the raw host has a '[' but no ':' (malformed brackets that
    `split_url` accepts; same root as known findings F-C03-bracket / F-C11-bracket): the host is re-written WITHOUT
    brackets, the stray '[' then swallows the new port, and explicit_port of `with_port(p)` reads None.  On a URL WITHOUT
    cache this is the ONLY failure: explicit_port reads `p` on the result IFF the raw host is not of that shape.
    Cites C17_with_port_readback_fails, C17_with_port_readback_lazy_iff. -/
theorem C17_headline_with_port_readback_fails_for_bracket_in_host (e : Env) (u : Url) (n : NetPre) (p : Int)
    (hnet : net e u = .ok n) (hne : u.netloc ≠ []) (hp : 0 ≤ p ∧ p ≤ 65535) :
    (UserOK n.rawUser → 64 ∉ n.rawHost.getD [] →
      91 ∈ n.rawHost.getD [] → 58 ∉ n.rawHost.getD [] → 93 ∉ n.rawHost.getD [] →   -- '[' but no ':' (and no ']')
      ∃ v, withPort e u (some p) 0 = .ok v ∧ explicitPort e v = .ok none) ∧
    (u.pre = none →                                     -- no cache: every `build` / modifier / `encoded=True` result
      ((∃ v, withPort e u (some p) 0 = .ok v ∧ explicitPort e v = .ok (some p.toNat)) ↔
        ¬ (91 ∈ n.rawHost.getD [] ∧ 58 ∉ n.rawHost.getD []))) :=
  ⟨fun hu h64 h91 h58 h93 => C17_with_port_readback_fails e u n p hnet hne hp hu h64 h91 h58 h93,
   fun hpre => C17_with_port_readback_lazy_iff e u n p hpre hnet hne hp⟩

/-- … the COUNTEREXAMPLE, Python level (computed, pure-Python backend): `URL("http://[v1.[x]:80", encoded=True)` has
    raw_host "v1.[x" and explicit_port 80; `.with_port(81)` stores "v1.[x:81", on which explicit_port is None and
    raw_host "x:81".  Likewise `URL.build(scheme="http", authority="[[x]", encoded=True).with_port(81)`.  And through the
    AUTO-ENCODING constructor `URL("http://[v1.[x]:80")` is ACCEPTED, stores "v1.[x:80" and caches raw_host "1.[" —
    `.with_port(81)` stores "1.[:81" with explicit_port None.  Cites C17_with_port_readback_counterexample. -/
theorem C17_headline_with_port_readback_counterexample :
    let e : Env := ⟨.py, Oracles.empty⟩
    let u1 := preEncodedUrl e "http://[v1.[x]:80".toStr
    let u2 := build e { scheme := "http".toStr, authority := "[[x]".toStr, encoded := true }
    u1.bind (rawHost e) = .ok (some "v1.[x".toStr) ∧ u1.bind (explicitPort e) = .ok (some 80) ∧
    (u1.bind (fun u => withPort e u (some 81) 0)).map (·.netloc) = .ok "v1.[x:81".toStr ∧
    (u1.bind (fun u => withPort e u (some 81) 0)).bind (explicitPort e) = .ok none ∧
    (u1.bind (fun u => withPort e u (some 81) 0)).bind (rawHost e) = .ok (some "x:81".toStr) ∧
    u2.bind (rawHost e) = .ok (some "[x".toStr) ∧
    (u2.bind (fun u => withPort e u (some 81) 0)).map (·.netloc) = .ok "[x:81".toStr ∧
    (u2.bind (fun u => withPort e u (some 81) 0)).bind (explicitPort e) = .ok none ∧
    (encodeUrl e "http://[v1.[x]:80".toStr).map (·.netloc) = .ok "v1.[x:80".toStr ∧
    (encodeUrl e "http://[v1.[x]:80".toStr).bind (rawHost e) = .ok (some "1.[".toStr) ∧
    (encodeUrl e "http://[v1.[x]:80".toStr).bind (explicitPort e) = .ok (some 80) ∧
    ((encodeUrl e "http://[v1.[x]:80".toStr).bind (fun u => withPort e u (some 81) 0)).map (·.netloc)
      = .ok "1.[:81".toStr ∧
    ((encodeUrl e "http://[v1.[x]:80".toStr).bind (fun u => withPort e u (some 81) 0)).bind (explicitPort e)
      = .ok none :=
  C17_with_port_readback_counterexample

/-- `with_port` on `encoded=True` oddities, Python level (computed): "user@:80" (empty host) → "user@:81"; ":pw@h" →
    ":pw@h:81" (user None, password "pw"); "US:P@H:080" → "US:P@H:81" (case kept, port text re-written); "[v1.x]:80" →
    "v1.x:81" (brackets of a host without ':' DROPPED, explicit_port 81, raw_host unchanged); "a:b:c" → ValueError from
    reading the stored authority, AFTER the argument checks (`with_port(True)` TypeError, `with_port(70000)` ValueError);
    no authority → ValueError.  Cites C17_with_port_encoded_instances. -/
theorem C17_headline_with_port_encoded_instances :
    let e : Env := ⟨.py, Oracles.empty⟩
    let wp := fun (s : String) (p : Option Int) (k : Nat) => (preEncodedUrl e s.toStr).bind (fun u => withPort e u p k)
    (wp "http://user@:80" (some 81) 0).map (·.netloc) = .ok "user@:81".toStr ∧
    (wp "http://user@:80" (some 81) 0).bind (explicitPort e) = .ok (some 81) ∧
    (wp "http://:pw@h" (some 81) 0).map (·.netloc) = .ok ":pw@h:81".toStr ∧
    (wp "http://:pw@h" (some 81) 0).bind (explicitPort e) = .ok (some 81) ∧
    (wp "http://:pw@h" (some 81) 0).bind (rawUser e) = .ok none ∧
    (wp "http://:pw@h" (some 81) 0).bind (rawPassword e) = .ok (some "pw".toStr) ∧
    (wp "http://US:P@H:080" (some 81) 0).map (·.netloc) = .ok "US:P@H:81".toStr ∧
    (wp "http://[v1.x]:80/" (some 81) 0).map (·.netloc) = .ok "v1.x:81".toStr ∧
    (wp "http://[v1.x]:80/" (some 81) 0).bind (explicitPort e) = .ok (some 81) ∧
    (wp "http://[v1.x]:80/" (some 81) 0).bind (rawHost e) = .ok (some "v1.x".toStr) ∧
    wp "http://a:b:c" (some 81) 0 = .error .valueError ∧
    wp "http://a:b:c" (some 1) 1 = .error .typeError ∧
    wp "http://a:b:c" (some 70000) 0 = .error .valueError ∧
    wp "/p" (some 81) 0 = .error .valueError :=
  C17_with_port_encoded_instances

/-! ## GAPS 7 — sentence 2 on constructor results outside `AuthInput` -/

/-- GAPS 7, EVERY accepted constructor input with an authority — no `AuthInput`, no `GoodAuthority`, no `Written`:
    IPvFuture, bracketed non-IPv6 text, empty host, IDN host with or without port, malformed brackets … .  `np` is what
    `split_netloc` reads from the INPUT authority, `host` the host text the constructor stores, `unbracket host` the raw
    host it caches.  Sentence 2: explicit_port is the input port (≤ 65535); `port`, is_default_port() follow;
    host_port_subcomponent and str() omit the port exactly when it is absent or the scheme default — str() then RE-MAKES
    the authority from the cached components with the host in brackets iff it contains ':' and prints the stored
    authority otherwise; with_port(p) re-makes it the same way with the new port; and it reads back when the cached raw
    host is re-writable.  Cites C17_ctor_port_views_any. -/
theorem C17_headline_ctor_port_views_any (e : Env) (s : Str) (u : Url) (pt : Parts)
    (hu : encodeUrl e s = .ok u)                        -- `u = URL(s)`
    (hpt : splitUrl e.o s = .ok pt) (hne : pt.netloc ≠ []) :   -- names the split; the input has an authority
    ∃ np host, splitNetloc e.o pt.netloc = .ok np ∧
      u.netloc = makeNetloc (q e Gen.QUOTER) (cachedUser e np.user) (requoteOpt e np.password) (some host) np.port
        false ∧
      rawHost e u = .ok (some (unbracket host)) ∧
      rawUser e u = .ok (cachedUser e np.user) ∧ rawPassword e u = .ok (requoteOpt e np.password) ∧
      explicitPort e u = .ok np.port ∧ (∀ p, np.port = some p → p ≤ 65535) ∧
      port e u = .ok (np.port <|> defaultPort u.scheme) ∧
      isDefaultPort e u = .ok (match np.port with
        | none => !u.netloc.isEmpty
        | some p => decide (some p = defaultPort u.scheme)) ∧
      hostPortSubcomponent e u = .ok (some (match np.port with
        | none => bracket (rstripC 46 (unbracket host))
        | some p => if some p = defaultPort u.scheme then bracket (rstripC 46 (unbracket host))
                    else bracket (rstripC 46 (unbracket host)) ++ [58] ++ natToStr p)) ∧
      str e u = .ok (unsplitResult u.scheme
        (match np.port with
          | some p => if some p = defaultPort u.scheme
                      then makeNetloc id (cachedUser e np.user) (requoteOpt e np.password)
                        (some (bracket (unbracket host))) none false
                      else u.netloc
          | none => u.netloc)
        (if u.path.isEmpty && !u.netloc.isEmpty && (!u.query.isEmpty || !u.fragment.isEmpty) then [47] else u.path)
        u.query u.fragment) ∧
      (u.netloc ≠ [] → ∀ np' : Option Int, (∀ p, np' = some p → 0 ≤ p ∧ p ≤ 65535) →
        withPort e u np' 0 = .ok (fromParts u.scheme
          (makeNetloc (q e Gen.QUOTER) (cachedUser e np.user) (requoteOpt e np.password)
            (some (bracket (unbracket host))) (np'.map Int.toNat) false) u.path u.query u.fragment)) ∧
      -- read-back of with_port: the input a Python string; the cached raw host re-writable (no '@'; with ':' no ']',
      -- without ':' no '[' — fails otherwise: C17_headline_with_port_readback_counterexample, "http://[v1.[x]:80")
      (u.netloc ≠ [] → PyStr s → 64 ∉ unbracket host → EncTrue.GoodHost (unbracket host) →
        ∀ np' : Option Int, (∀ p, np' = some p → 0 ≤ p ∧ p ≤ 65535) →
        ∃ v, withPort e u np' 0 = .ok v ∧ explicitPort e v = .ok (np'.map Int.toNat) ∧
          rawUser e v = rawUser e u ∧ rawPassword e v = rawPassword e u) :=
  C17_ctor_port_views_any e s u pt hu hpt hne

open BrHost in
/-- GAPS 7, bracketed hosts that are not IPv6 addresses (IPvFuture "[v1.x]", "[v1.a:b]", "[g::1]", "[a:b]"; any letter
    case on input; any userinfo / port): the constructor stores `[user[:pw]@][t][:port]` with the brackets kept.  All of
    sentence 2 holds, with ONE twist when `t` has no ':' (IPvFuture such as "v1.x"): whenever the authority is re-made —
    str() with a default port, with_port — the brackets are DROPPED (`bracket t = t`), because host_subcomponent brackets
    a host only if it contains ':'.  explicit_port still reads back.  Cites C17_bracket_ctor_port_views. -/
theorem C17_headline_bracket_ctor_port_views (e : Env) (s : Str) (u : Url) (pt : Parts) (np : NetlocParts) (T : Str)
    (hs : PyStr s) (hu : encodeUrl e s = .ok u)         -- `u = URL(s)`
    (hpt : splitUrl e.o s = .ok pt) (hsp : splitNetloc e.o pt.netloc = .ok np) (hhost : np.host = some T)
    (hwrap : 91 ∈ (rpartition 64 pt.netloc).2.2)        -- the host part is written in brackets
    (hk : BracketTextIn T)                              -- bracketed non-IPv6 text, any letter case
    (hlow : bracketCheck (lower T) = true) :            -- the lower-cased text passes the bracket check too
    ∃ user pw t, u.netloc = authTextB user pw t np.port ∧ (t = lower T ∨ t = T) ∧ HostOK t ∧ UserOK user ∧
      rawHost e u = .ok (some t) ∧ explicitPort e u = .ok np.port ∧ (∀ p, np.port = some p → p ≤ 65535) ∧
      port e u = .ok (np.port <|> defaultPort u.scheme) ∧
      isDefaultPort e u = .ok (match np.port with
        | none => true
        | some p => decide (some p = defaultPort u.scheme)) ∧
      hostPortSubcomponent e u = .ok (some (match np.port with
        | none => bracket (rstripC 46 t)
        | some p => if some p = defaultPort u.scheme then bracket (rstripC 46 t)
                    else bracket (rstripC 46 t) ++ [58] ++ natToStr p)) ∧
      str e u = .ok (unsplitResult u.scheme
        (match np.port with
          | some p => if some p = defaultPort u.scheme then makeNetloc id user pw (some (bracket t)) none false
                      else u.netloc
          | none => u.netloc)
        (if u.path.isEmpty && (!u.query.isEmpty || !u.fragment.isEmpty) then [47] else u.path) u.query u.fragment) ∧
      (∀ np' : Option Int, (∀ p, np' = some p → 0 ≤ p ∧ p ≤ 65535) →
        ∃ v, withPort e u np' 0 = .ok v ∧
          v.netloc = makeNetloc (q e Gen.QUOTER) user pw (some (bracket t)) (np'.map Int.toNat) false ∧
          explicitPort e v = .ok (np'.map Int.toNat) ∧ rawHost e v = .ok (some t) ∧
          rawUser e v = .ok user ∧ rawPassword e v = .ok pw) ∧
      -- with a ':' in `t` the stored text IS the `make_netloc` text: the `Written` theorems of C17Headline.lean apply
      (58 ∈ t → Written id (pickleTwin u) user pw t np.port ∧ net e (pickleTwin u) = net e u) :=
  C17_bracket_ctor_port_views e s u pt np T hs hu hpt hsp hhost hwrap hk hlow

/-- NEGATIVE about the printed TEXT (sentence 2 is about omitting the PORT and holds), Python level, both backends:
    `URL("http://[v1.x]:80/")` stores "[v1.x]:80", explicit_port 80, is_default_port() True, host_port_subcomponent "v1.x",
    and `str()` is "http://v1.x/" — port omitted AND brackets dropped (the authority is re-made from host_subcomponent;
    C17More.lean files this under known finding F-C07-default-port); with port 81 nothing is re-made:
    "http://[v1.x]:81/"; `.with_port(81)` / `.with_port(None)` store "v1.x:81" / "v1.x" (brackets dropped, explicit_port
    reads back).  With a ':' inside ("[v1.a:b]") the brackets stay.  Cites C17_bracket_ctor_instances. -/
theorem C17_headline_bracket_ctor_instances (b : Backend) :
    let e : Env := ⟨b, Oracles.empty⟩
    let U := fun (s : String) => encodeUrl e s.toStr
    (U "http://[v1.x]:80/").map (·.netloc) = .ok "[v1.x]:80".toStr ∧
    (U "http://[v1.x]:80/").bind (explicitPort e) = .ok (some 80) ∧
    (U "http://[v1.x]:80/").bind (isDefaultPort e) = .ok true ∧
    (U "http://[v1.x]:80/").bind (hostPortSubcomponent e) = .ok (some "v1.x".toStr) ∧
    (U "http://[v1.x]:80/").bind (str e) = .ok "http://v1.x/".toStr ∧
    (U "http://[v1.x]:81/").bind (str e) = .ok "http://[v1.x]:81/".toStr ∧
    (U "http://[v1.x]:81/").bind (hostPortSubcomponent e) = .ok (some "v1.x:81".toStr) ∧
    (U "http://[v1.x]:81/").bind (isDefaultPort e) = .ok false ∧
    ((U "http://[v1.x]:80/").bind (fun u => withPort e u (some 81) 0)).map (·.netloc) = .ok "v1.x:81".toStr ∧
    ((U "http://[v1.x]:80/").bind (fun u => withPort e u (some 81) 0)).bind (explicitPort e) = .ok (some 81) ∧
    ((U "http://[v1.x]:80/").bind (fun u => withPort e u none 0)).map (·.netloc) = .ok "v1.x".toStr ∧
    (U "http://[v1.a:b]:80/").bind (str e) = .ok "http://[v1.a:b]/".toStr ∧
    (U "http://[v1.a:b]:80/").bind (hostPortSubcomponent e) = .ok (some "[v1.a:b]".toStr) ∧
    ((U "http://[v1.a:b]:80/").bind (fun u => withPort e u (some 81) 0)).map (·.netloc) = .ok "[v1.a:b]:81".toStr :=
  C17_bracket_ctor_instances b

/-- GAPS 7, EMPTY host ("foo://user@:80/", "foo://:80/"; only for schemes that do not require a host, and those have no
    default port): raw_host is "", explicit_port the input port and `port` the same; is_default_port() is True iff no port
    is written and the stored authority is non-empty; host_port_subcomponent is "" or ":port"; str() prints the stored
    authority; with_port sets / clears and reads back.  Cites C17_empty_host_ctor_port_views. -/
theorem C17_headline_empty_host_ctor_port_views (e : Env) (s : Str) (u : Url) (pt : Parts) (np : NetlocParts)
    (hs : PyStr s) (hu : encodeUrl e s = .ok u)         -- `u = URL(s)`
    (hpt : splitUrl e.o s = .ok pt) (hne : pt.netloc ≠ []) (hsp : splitNetloc e.o pt.netloc = .ok np)
    (hhost : np.host = none) :                          -- the EMPTY host
    Gen.schemeRequiresHost.contains u.scheme = false ∧ defaultPort u.scheme = none ∧
    rawHost e u = .ok (some []) ∧ explicitPort e u = .ok np.port ∧ port e u = .ok np.port ∧
    isDefaultPort e u = .ok (np.port.isNone && !u.netloc.isEmpty) ∧
    hostPortSubcomponent e u = .ok (some (match np.port with
      | none => []
      | some p => [58] ++ natToStr p)) ∧
    str e u = .ok (unsplitResult u.scheme u.netloc
      (if u.path.isEmpty && !u.netloc.isEmpty && (!u.query.isEmpty || !u.fragment.isEmpty) then [47] else u.path)
      u.query u.fragment) ∧
    (u.netloc ≠ [] → ∀ np' : Option Int, (∀ p, np' = some p → 0 ≤ p ∧ p ≤ 65535) →
      ∃ v, withPort e u np' 0 = .ok v ∧
        v.netloc = makeNetloc (q e Gen.QUOTER) (cachedUser e np.user) (requoteOpt e np.password) (some [])
          (np'.map Int.toNat) false ∧
        explicitPort e v = .ok (np'.map Int.toNat) ∧ rawUser e v = rawUser e u ∧
        rawPassword e v = rawPassword e u) :=
  C17_empty_host_ctor_port_views e s u pt np hs hu hpt hne hsp hhost

/-- … Python level, both backends (computed): `URL("foo://user@:80/")` — explicit_port 80, `port` 80, raw_host "",
    is_default_port() False, host_port_subcomponent ":80", str() unchanged; `.with_port(None)` stores "user@" and
    is_default_port() becomes True; `URL("foo://:80/").with_port(None)` stores the EMPTY authority (raw_host None,
    is_default_port() False); `URL("http://user@:80/")` is ValueError (http requires a host).
    Cites C17_empty_host_ctor_instances. -/
theorem C17_headline_empty_host_ctor_instances (b : Backend) :
    let e : Env := ⟨b, Oracles.empty⟩
    let U := fun (s : String) => encodeUrl e s.toStr
    (U "foo://user@:80/").bind (explicitPort e) = .ok (some 80) ∧
    (U "foo://user@:80/").bind (port e) = .ok (some 80) ∧
    (U "foo://user@:80/").bind (rawHost e) = .ok (some []) ∧
    (U "foo://user@:80/").bind (isDefaultPort e) = .ok false ∧
    (U "foo://user@:80/").bind (hostPortSubcomponent e) = .ok (some ":80".toStr) ∧
    (U "foo://user@:80/").bind (str e) = .ok "foo://user@:80/".toStr ∧
    ((U "foo://user@:80/").bind (fun u => withPort e u (some 81) 0)).bind (str e) = .ok "foo://user@:81/".toStr ∧
    ((U "foo://user@:80/").bind (fun u => withPort e u none 0)).map (·.netloc) = .ok "user@".toStr ∧
    ((U "foo://user@:80/").bind (fun u => withPort e u none 0)).bind (isDefaultPort e) = .ok true ∧
    ((U "foo://:80/").bind (fun u => withPort e u none 0)).map (·.netloc) = .ok [] ∧
    ((U "foo://:80/").bind (fun u => withPort e u none 0)).bind (rawHost e) = .ok none ∧
    ((U "foo://:80/").bind (fun u => withPort e u none 0)).bind (isDefaultPort e) = .ok false ∧
    U "http://user@:80/" = .error .valueError :=
  C17_empty_host_ctor_instances b

open Idn in
/-- GAPS 7, IDN host alone in the authority (`URL("scheme://hôte/path#frag")`): under the ASSUMPTION `IdnaSaneAt` on the
    `idna` answer the result has `NetlocCanon` (C03_idn_netlocCanon_ctor), so ALL of sentence 2 holds in the
    C17_headline_invariant_port_views form.  (An IDN host followed by a port, userinfo, … is covered by
    C17_headline_ctor_port_views_any, without that assumption.)  Cites C17_idn_ctor_port_views. -/
theorem C17_headline_idn_ctor_port_views (e : Env) (sc h rp rf : Str) (vs : HumanLemmas.ValidScheme sc)
    (hi : IdnHostInput e.o h)                           -- non-ASCII host text without delimiters, passes the NFKC check
    (hs : IdnaSaneAt e.o h)                             -- ASSUMPTION about the idna package (trusted base, C16Idn.lean)
    (h35 : 35 ∉ rp) (h63 : 63 ∉ rp) (hc1 : HumanLemmas.Clean rp) (hc2 : HumanLemmas.Clean rf) (u : Url)
    (hu : encodeUrl e (sc ++ 58 :: 47 :: 47 :: (h ++ (47 :: rp ++ HumanLemmas.fragTail rf))) = .ok u)
    (hne : u.netloc ≠ []) :
    ∃ user pw a port, u.netloc = makeNetloc id user pw (some (bracket a)) port false ∧
      rawHost e u = .ok (some a) ∧ explicitPort e u = .ok port ∧ (∀ p, port = some p → p ≤ 65535) ∧
      str e u = .ok (unsplitResult u.scheme
        (match (generalizing := false) port with
          | some p => if some p = defaultPort u.scheme then makeNetloc id user pw (some (bracket a)) none false
                      else u.netloc
          | none => u.netloc)
        (if u.path.isEmpty && (!u.query.isEmpty || !u.fragment.isEmpty) then [47] else u.path) u.query u.fragment) ∧
      hostPortSubcomponent e u =
        .ok (some (match (generalizing := false) port with
          | none => bracket (rstripC 46 a)
          | some p =>
            if some p = defaultPort u.scheme then bracket (rstripC 46 a)
            else bracket (rstripC 46 a) ++ [58] ++ natToStr p)) ∧
      isDefaultPort e u = .ok (match (generalizing := false) port with
        | none => true
        | some p => decide (some p = defaultPort u.scheme)) ∧
      (∀ np : Option Int, (∀ p, np = some p → 0 ≤ p ∧ p ≤ 65535) →
        ∃ v, withPort e u np 0 = .ok v ∧ explicitPort e v = .ok (np.map Int.toNat)) :=
  C17_idn_ctor_port_views e sc h rp rf vs hi hs h35 h63 hc1 hc2 u hu hne

end Yarl
