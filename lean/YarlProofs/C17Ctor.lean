import YarlProofs.C11Ctor
import YarlProofs.Lemmas.StrLit
/-!
# C17 — port semantics on constructor results

 * `C17_ctor_explicit_port`: for EVERY input the auto-encoding constructor accepts, `explicit_port` of the
   result — served from the pre-filled cache — is the port `split_netloc` reads from the input authority,
   i.e. `None` when there is no port text and Python `int()` of the port text otherwise (`portText`: the
   text after the ':' that follows the host / the closing bracket).  No guard.
 * Rejection of a port text that is non-numeric or out of 0–65535: the constructor raises ValueError
   (`C17_encodeUrl_rejects_bad_port`); `build(authority=…)` never accepts it, and raises ValueError once the
   scheme lowering and the NFKC screen that come first can be answered (`C17_build_rejects_bad_port`; otherwise
   the oracle miss comes first, `C17_build_bad_port_oracle_first`); `C17_ctor_rejects_bad_port` puts both
   together.  An authority without ':' '@' '[' (the constructor's fast path, which skips `split_netloc`) has
   NO port text (`C17_ctor_fast_path_no_port`), so nothing is skipped.
 * `C17_cached_*` / `C17_ctor_*`: str(), host_port_subcomponent, is_default_port(), with_port on a URL with
   cache: `cached_net` gives its components, `C17_port_views_of_net` (C17.lean) the views;
   `C17_ctor_is_default_port_any` for every constructor result; `C17_netlocCanon_port_views` under the
   invariant `NetlocCanon` (the form C17HeadlineMore.lean and C17More.lean use).
-/
namespace Yarl
open NetlocLemmas HeadB EagerLemmas

namespace CtorMods

/-- the port text of an authority as `split_netloc` cuts it: what follows the ':' after the host
    (after the closing ']' for a bracketed host); `[]` when there is none -/
def portText (n : Str) : Str := (ParseLemmas.hostPort (ParseLemmas.userTriple n).2.2).2

theorem userTriple_sub (n : Str) : ∀ x ∈ (ParseLemmas.userTriple n).2.2, x ∈ n := by
  unfold ParseLemmas.userTriple
  split
  · exact fun x hx => hx
  · exact fun x hx => ParseLemmas.mem_of_mem_rpartition_snd_snd hx

theorem partition_snd_ne_nil {c : Nat} {s : Str} (h : (partition c s).2.2 ≠ []) : c ∈ s := by
  by_cases hc : c ∈ s
  · exact hc
  · rw [partition_notFound c s hc] at h
    exact absurd rfl h

/-- a port text needs a ':' in the authority -/
theorem portText_colon (n : Str) (h : portText n ≠ []) : 58 ∈ n := by
  apply userTriple_sub n
  unfold portText ParseLemmas.hostPort at h
  split at h
  · have := partition_snd_ne_nil h
    exact partition_snd_sub 91 _ 58 (partition_snd_sub 93 _ 58 this)
  · exact partition_snd_ne_nil h

theorem unbracket_rebracket_nil (b : Bool) : unbracket (StrTotal.rebracket b []) = [] := by
  cases b <;> decide

/-- the port `split_netloc` returns, in terms of the port text -/
theorem splitNetloc_port_text (o : Oracles) (n : Str) (np : NetlocParts) (h : splitNetloc o n = .ok np) :
    (portText n = [] → np.port = none) ∧
    (portText n ≠ [] → ∃ p : Int, pyInt o (portText n) = .ok (some p) ∧ 0 ≤ p ∧ p ≤ 65535 ∧
      np.port = some p.toNat) := by
  obtain ⟨pt, hpt, rfl⟩ := NetlocLemmas.splitNetloc_ok_iff.1 h
  rcases NetlocLemmas.portOf_ok_iff.1 hpt with ⟨ht, rfl⟩ | ⟨hne, p, hp, h0, h1, rfl⟩
  · exact ⟨fun _ => rfl, fun hn => absurd ht hn⟩
  · exact ⟨fun hn => absurd hn hne, fun _ => ⟨p, hp, h0, h1, rfl⟩⟩

end CtorMods
open CtorMods

/-! ## Sentence 1 — explicit_port of a constructor result -/

/-- "explicit_port is the integer value of the port written in the URL" for a URL straight from
    the auto-encoding constructor, for ANY accepted input (no guard): the cached value is the port
    `split_netloc` reads from the INPUT authority `pt.netloc` — `None` if there is no port text, else
    Python's `int()` of the port text (`pyInt`: surrounding whitespace, sign, single underscores and leading
    zeros are accepted, as in Python), which lies in 0–65535.  Covers an empty host ("user@:80"), IPvFuture
    ("[v1.x]:80"), "h:080", "h: 80 " (instances below). -/
theorem C17_ctor_explicit_port (e : Env) (s : Str) (u : Url) (hu : encodeUrl e s = .ok u) :
    ∃ pt, splitUrl e.o s = .ok pt ∧
      (pt.netloc = [] → explicitPort e u = .ok none) ∧
      (pt.netloc ≠ [] → ∃ np, splitNetloc e.o pt.netloc = .ok np ∧ explicitPort e u = .ok np.port ∧
        (portText pt.netloc = [] → np.port = none) ∧
        (portText pt.netloc ≠ [] → ∃ p : Int, pyInt e.o (portText pt.netloc) = .ok (some p) ∧
          0 ≤ p ∧ p ≤ 65535 ∧ np.port = some p.toNat)) := by
  obtain ⟨pt, _, _, hpt, _, _⟩ := encodeUrl_ok hu
  refine ⟨pt, hpt, ?_, ?_⟩
  · intro hn
    rcases encodeUrl_authority hu hpt with ⟨_, a, b⟩ | ⟨hne, _⟩
    · unfold explicitPort
      rw [net_of_no_cache b, lazyNet_eq, a]
      rfl
    · exact absurd hn hne
  · intro hn
    rcases encodeUrl_authority hu hpt with ⟨h0, _⟩ | ⟨_, np, _, _, hnp, _, _, _, hpre⟩
    · exact absurd h0 hn
    · obtain ⟨t1, t2⟩ := splitNetloc_port_text e.o pt.netloc np hnp
      refine ⟨np, hnp, ?_, t1, t2⟩
      unfold explicitPort
      rw [net_of_cache hpre]
      rfl

/-- the same value is read from the STORED text once the cache is gone (pickle / copy), under the C09 guard -/
theorem C17_ctor_explicit_port_twin (e : Env) (s : Str) (u : Url) (hu : encodeUrl e s = .ok u)
    (hg : GoodAuthority e s) : explicitPort e (pickleTwin u) = explicitPort e u := by
  unfold explicitPort; rw [ctor_agree e s u hu hg]

/-- the constructor's fast path (authority without ':' '@' '[': `split_netloc` is skipped) concerns
    authorities WITHOUT port text only; more generally a port text needs a ':' -/
theorem C17_ctor_fast_path_no_port (n : Str) :
    (portText n ≠ [] → 58 ∈ n) ∧
    ((mem 58 n || mem 64 n || mem 91 n) = false → portText n = []) := by
  refine ⟨portText_colon n, fun h => ?_⟩
  by_cases hne : portText n = []
  · exact hne
  · have := mem_iff.mpr (portText_colon n hne)
    rw [this] at h
    simp at h

/-! ## Sentence 1, rejection -/

/-- the auto-encoding constructor raises ValueError whenever the port text of the input authority is
    non-numeric (`int()` fails) or out of 0–65535.  (`splitUrl` must succeed: a malformed bracket is
    reported first, also as ValueError — `C19`.) -/
theorem C17_encodeUrl_rejects_bad_port (e : Env) (s : Str) (pt : Parts) (hsp : splitUrl e.o s = .ok pt)
    (hne : portText pt.netloc ≠ [])
    (hbad : pyInt e.o (portText pt.netloc) = .ok none ∨
      ∃ p, pyInt e.o (portText pt.netloc) = .ok (some p) ∧ ¬ (0 ≤ p ∧ p ≤ 65535)) :
    encodeUrl e s = .error .valueError := by
  have hsn : splitNetloc e.o pt.netloc = .error .valueError :=
    C17_headline_port_rejected e.o pt.netloc hne hbad
  have hn : pt.netloc ≠ [] := by
    intro h0; have := portText_colon pt.netloc hne; rw [h0] at this; cases this
  rw [encodeUrl_eq, hsp]
  show (authBlock e pt >>= _) = _
  rw [authBlock_eq e pt hn, hsn]
  rfl

/-- `URL.build(authority=…)` (auto-encoding mode) NEVER accepts such an authority, and (with `port=` an int or
    None and the `query=` argument — if any — convertible) the error is ValueError as soon as the two steps `build`
    runs in front of `split_netloc` can be answered: lowering the scheme (an oracle call for a non-ASCII scheme
    only) and the NFKC screen (an oracle call for a non-ASCII authority only — whether it passes or raises
    ValueError itself).  The two hypotheses on the oracle (`∃ sc, lowerAny … = .ok sc` and `hnf`) are needed for the
    exact error kind: `build(scheme="é", authority="h:99999")` on an oracle table without an entry for
    `"é".lower()` stops at that request (`C17_build_bad_port_oracle_first`).
    With `encoded=True` the authority is stored unchecked (instance below): the bad port is then reported by
    `explicit_port` / `str()` on first use. -/
theorem C17_build_rejects_bad_port (e : Env) (a : BuildArgs) (henc : a.encoded = false)
    (hne : portText a.authority ≠ [])
    (hbad : pyInt e.o (portText a.authority) = .ok none ∨
      ∃ p, pyInt e.o (portText a.authority) = .ok (some p) ∧ ¬ (0 ≤ p ∧ p ≤ 65535)) :
    (∀ u, build e a ≠ .ok u) ∧
    (a.portKind = 0 → (qargTruthy a.query = true → ∃ r, getStrQuery e.b a.query = .ok r) →
      (∃ sc, lowerAny e a.scheme = .ok sc) →
      (isAscii a.authority = false →
        ∃ nn, e.o.nfkc (a.authority.filter (fun c => c ≠ 64 ∧ c ≠ 58 ∧ c ≠ 35 ∧ c ≠ 63 ∧ c ≠ 91 ∧ c ≠ 93)) = some nn) →
      build e a = .error .valueError) := by
  have hsn : splitNetloc e.o a.authority = .error .valueError :=
    C17_headline_port_rejected e.o a.authority hne hbad
  have hn : a.authority.isEmpty = false := by
    cases ha : a.authority with
    | nil => have := portText_colon a.authority hne; rw [ha] at this; cases this
    | cons _ _ => rfl
  constructor
  · intro u hb
    obtain ⟨_, _, _, _, hnl, _⟩ := build_false_ok henc hb
    obtain ⟨_, np, _, hnp, _⟩ := buildNetloc_authority (List.isEmpty_eq_false_iff.mp hn) hnl
    rw [hsn] at hnp
    cases hnp
  · intro hk hq ⟨sc, hsc⟩ hnf
    -- the authority step raises ValueError, at the screen or at `split_netloc`
    refine build_valueError_of_netloc henc hk hq hsc ?_
    rw [buildNetloc_authority_eq (List.isEmpty_eq_false_iff.mp hn)]
    cases ha : isAscii a.authority with
    | true => rw [hsn]; rfl
    | false =>
      obtain ⟨nn, hnn⟩ := hnf ha
      have hscr : checkNetloc e.o a.authority = .ok () ∨ checkNetloc e.o a.authority = .error .valueError := by
        unfold checkNetloc
        simp only [hnn, ask, bind, Except.bind]
        split
        · exact Or.inl rfl
        · split
          · exact Or.inr rfl
          · exact Or.inl rfl
      rcases hscr with h | h
      · rw [h, hsn]; rfl
      · rw [h]; rfl

/-- the witness for the oracle hypotheses of `C17_build_rejects_bad_port`: a non-ASCII scheme on an empty oracle
    table — `build` asks for `"é".lower()` before it looks at the authority -/
theorem C17_build_bad_port_oracle_first : ∀ b : Backend,
    build ⟨b, Oracles.empty⟩ { scheme := [233], authority := "h:99999".toStr } =
      .error (.oracleMiss "lowerU" [233]) := by
  intro b; cases b <;> rfl

/-- both entry points (for `build`: never accepted; ValueError under the oracle-availability
    hypotheses of `C17_build_rejects_bad_port`, which an ASCII scheme and an ASCII authority always meet) -/
theorem C17_ctor_rejects_bad_port (e : Env) (n : Str) (hne : portText n ≠ [])
    (hbad : pyInt e.o (portText n) = .ok none ∨
      ∃ p, pyInt e.o (portText n) = .ok (some p) ∧ ¬ (0 ≤ p ∧ p ≤ 65535)) :
    (∀ s pt, splitUrl e.o s = .ok pt → pt.netloc = n → encodeUrl e s = .error .valueError) ∧
    (∀ a : BuildArgs, a.authority = n → a.encoded = false → ∀ u, build e a ≠ .ok u) ∧
    (∀ a : BuildArgs, a.authority = n → a.encoded = false → a.portKind = 0 →
      (qargTruthy a.query = true → ∃ r, getStrQuery e.b a.query = .ok r) →
      isAscii a.scheme = true → isAscii n = true → build e a = .error .valueError) :=
  ⟨fun s pt h1 h2 => C17_encodeUrl_rejects_bad_port e s pt h1 (by rw [h2]; exact hne) (by rw [h2]; exact hbad),
   fun a h1 h2 => (C17_build_rejects_bad_port e a h2 (by rw [h1]; exact hne) (by rw [h1]; exact hbad)).1,
   fun a h1 h2 h3 h4 h5 h6 => (C17_build_rejects_bad_port e a h2 (by rw [h1]; exact hne) (by rw [h1]; exact hbad)).2
     h3 h4 ⟨_, BuildFix.lowerAny_ascii e a.scheme h5⟩ (fun hna => by rw [h1, h6] at hna; cases hna)⟩

/-! ## Sentence 2 on a URL with (consistent) cache, and on constructor results -/

/-- a URL whose cache agrees with its stored authority, the latter `Written`: its authority components.
    With `C17_port_views_of_net` this is all the `C17_cached_*` theorems need. -/
theorem CtorMods.cached_net (e : Env) (qf : Str → Str) (u : Url) (user pw : Option Str) (h : Str)
    (port : Option Nat) (hnet : net e (pickleTwin u) = net e u) (w : Written qf (pickleTwin u) user pw h port) :
    net e u = .ok { rawHost := some h, explicitPort := port, rawUser := user, rawPassword := pw } ∧
    u.netloc.isEmpty = false := by
  refine ⟨?_, isEmpty_false ?_⟩
  · rw [← hnet]
    exact w.net
  · rw [show u.netloc = _ from w.netloc]
    exact makeNetloc_ne_nil qf user pw w.host.1 port

theorem C17_cached_explicit_port (e : Env) (qf : Str → Str) (u : Url) (user pw : Option Str) (h : Str)
    (port : Option Nat) (hnet : net e (pickleTwin u) = net e u) (w : Written qf (pickleTwin u) user pw h port) :
    explicitPort e u = .ok port :=
  (C17_port_views_of_net e u _ (cached_net e qf u user pw h port hnet w).1).1

/-- str() on a URL with cache: the port is omitted exactly when it equals the scheme default -/
theorem C17_cached_str_omits_default (e : Env) (qf : Str → Str) (u : Url) (user pw : Option Str) (h : Str)
    (port0 : Option Nat) (hnet : net e (pickleTwin u) = net e u) (w : Written qf (pickleTwin u) user pw h port0) :
    let shown := match (generalizing := false) port0 with
      | some p => if some p = defaultPort u.scheme then makeNetloc qf user pw (some (bracket h)) none false
                  else u.netloc
      | none => u.netloc
    let path' := if u.path.isEmpty && (!u.query.isEmpty || !u.fragment.isEmpty) then [47] else u.path
    str e u = .ok (unsplitResult u.scheme shown path' u.query u.fragment) := by
  obtain ⟨hn, hne⟩ := cached_net e qf u user pw h port0 hnet w
  rw [(C17_port_views_of_net e u _ hn).2.2.2.2.2]
  simp only [hne, Bool.not_false, Bool.and_true, Option.map_some, makeNetloc_qf id qf]
  rfl

theorem C17_cached_host_port_subcomponent (e : Env) (qf : Str → Str) (u : Url) (user pw : Option Str) (h : Str)
    (port : Option Nat) (hnet : net e (pickleTwin u) = net e u) (w : Written qf (pickleTwin u) user pw h port) :
    hostPortSubcomponent e u =
      .ok (some (match (generalizing := false) port with
        | none => bracket (rstripC 46 h)
        | some p =>
          if some p = defaultPort u.scheme then bracket (rstripC 46 h)
          else bracket (rstripC 46 h) ++ [58] ++ natToStr p)) :=
  (C17_port_views_of_net e u _ (cached_net e qf u user pw h port hnet w).1).2.2.2.2.1

/-- is_default_port() on a URL with cache and a `Written` authority (so there IS an authority):
    True exactly when the port is absent or equals the scheme default -/
theorem C17_cached_is_default_port (e : Env) (qf : Str → Str) (u : Url) (user pw : Option Str) (h : Str)
    (port : Option Nat) (hnet : net e (pickleTwin u) = net e u) (w : Written qf (pickleTwin u) user pw h port) :
    isDefaultPort e u = .ok (match (generalizing := false) port with
      | none => true
      | some p => decide (some p = defaultPort u.scheme)) := by
  obtain ⟨hn, hne⟩ := cached_net e qf u user pw h port hnet w
  rw [(C17_port_views_of_net e u _ hn).2.2.1, hne]
  rfl

theorem C17_cached_with_port (e : Env) (qf : Str → Str) (u : Url) (user pw : Option Str) (h : Str)
    (port0 : Option Nat) (np : Option Int) (hnet : net e (pickleTwin u) = net e u)
    (w : Written qf (pickleTwin u) user pw h port0) (hnp : ∀ p, np = some p → 0 ≤ p ∧ p ≤ 65535) :
    ∃ v, withPort e u np 0 = .ok v ∧ explicitPort e v = .ok (np.map Int.toNat) := by
  obtain ⟨v, h1, h2, _⟩ := C11_cached_with_port e qf u user pw h port0 np hnet w hnp
  exact ⟨v, h1, h2⟩

/-- explicit_port of a constructor result whose stored authority is `Written` -/
theorem C17_ctor_explicit_port_written (e : Env) (qf : Str → Str) (s : Str) (u : Url) (user pw : Option Str)
    (h : Str) (port : Option Nat) (hu : encodeUrl e s = .ok u) (hg : GoodAuthority e s)
    (w : Written qf (pickleTwin u) user pw h port) : explicitPort e u = .ok port :=
  C17_cached_explicit_port e qf u user pw h port (ctor_agree e s u hu hg) w

/-- "str() … omit[s] … the port … exactly when it is absent or equals the scheme default", constructor result -/
theorem C17_ctor_str_omits_default (e : Env) (qf : Str → Str) (s : Str) (u : Url) (user pw : Option Str)
    (h : Str) (port0 : Option Nat) (hu : encodeUrl e s = .ok u) (hg : GoodAuthority e s)
    (w : Written qf (pickleTwin u) user pw h port0) :
    let shown := match (generalizing := false) port0 with
      | some p => if some p = defaultPort u.scheme then makeNetloc qf user pw (some (bracket h)) none false
                  else u.netloc
      | none => u.netloc
    let path' := if u.path.isEmpty && (!u.query.isEmpty || !u.fragment.isEmpty) then [47] else u.path
    str e u = .ok (unsplitResult u.scheme shown path' u.query u.fragment) :=
  C17_cached_str_omits_default e qf u user pw h port0 (ctor_agree e s u hu hg) w

/-- "host_port_subcomponent … omit[s] …", constructor result -/
theorem C17_ctor_host_port_subcomponent (e : Env) (qf : Str → Str) (s : Str) (u : Url) (user pw : Option Str)
    (h : Str) (port : Option Nat) (hu : encodeUrl e s = .ok u) (hg : GoodAuthority e s)
    (w : Written qf (pickleTwin u) user pw h port) :
    hostPortSubcomponent e u =
      .ok (some (match (generalizing := false) port with
        | none => bracket (rstripC 46 h)
        | some p =>
          if some p = defaultPort u.scheme then bracket (rstripC 46 h)
          else bracket (rstripC 46 h) ++ [58] ++ natToStr p)) :=
  C17_cached_host_port_subcomponent e qf u user pw h port (ctor_agree e s u hu hg) w

/-- "is_default_port() … report[s] the port as default exactly when it is absent or equals the scheme
    default", constructor result -/
theorem C17_ctor_is_default_port (e : Env) (qf : Str → Str) (s : Str) (u : Url) (user pw : Option Str)
    (h : Str) (port : Option Nat) (hu : encodeUrl e s = .ok u) (hg : GoodAuthority e s)
    (w : Written qf (pickleTwin u) user pw h port) :
    isDefaultPort e u = .ok (match (generalizing := false) port with
      | none => true
      | some p => decide (some p = defaultPort u.scheme)) :=
  C17_cached_is_default_port e qf u user pw h port (ctor_agree e s u hu hg) w

/-- is_default_port() of ANY constructor result, from the input (no guard, no `Written`): with `np` the
    `split_netloc` data of the input authority -/
theorem C17_ctor_is_default_port_any (e : Env) (s : Str) (u : Url) (hu : encodeUrl e s = .ok u) :
    ∃ pt, splitUrl e.o s = .ok pt ∧
      (pt.netloc = [] → isDefaultPort e u = .ok false) ∧
      (pt.netloc ≠ [] → ∃ np, splitNetloc e.o pt.netloc = .ok np ∧
        isDefaultPort e u = .ok (match np.port with
          | none => !u.netloc.isEmpty
          | some p => decide (some p = defaultPort u.scheme))) := by
  obtain ⟨pt, hpt, h1, h2⟩ := C17_ctor_explicit_port e s u hu
  refine ⟨pt, hpt, ?_, ?_⟩
  · intro hn
    have := C17_is_default_port e u none (h1 hn)
    rcases encodeUrl_authority hu hpt with ⟨_, hnl, _⟩ | ⟨hne, _⟩
    · rw [this, hnl]
      rfl
    · exact absurd hn hne
  · intro hn
    obtain ⟨np, hnp, hep, _⟩ := h2 hn
    exact ⟨np, hnp, C17_is_default_port e u np.port hep⟩

theorem C17_ctor_with_port (e : Env) (qf : Str → Str) (s : Str) (u : Url) (user pw : Option Str) (h : Str)
    (port0 : Option Nat) (np : Option Int) (hu : encodeUrl e s = .ok u) (hg : GoodAuthority e s)
    (w : Written qf (pickleTwin u) user pw h port0) (hnp : ∀ p, np = some p → 0 ≤ p ∧ p ≤ 65535) :
    ∃ v, withPort e u np 0 = .ok v ∧ explicitPort e v = .ok (np.map Int.toNat) :=
  C17_cached_with_port e qf u user pw h port0 np (ctor_agree e s u hu hg) w hnp

/-- Sentence 2 of C17 from the invariant: every URL with `NetlocCanon` and an authority (constructor results and
    everything derived from them; cache or not; no `GoodAuthority`) -/
theorem C17_netlocCanon_port_views (e : Env) (u : Url) (hc : NetlocCanon e u) (hne : u.netloc ≠ []) :
    ∃ user pw h port, u.netloc = makeNetloc id user pw (some (bracket h)) port false ∧
      rawHost e u = .ok (some h) ∧ explicitPort e u = .ok port ∧ (∀ p, port = some p → p ≤ 65535) ∧
      str e u = .ok (unsplitResult u.scheme
        (match (generalizing := false) port with
          | some p => if some p = defaultPort u.scheme then makeNetloc id user pw (some (bracket h)) none false
                      else u.netloc
          | none => u.netloc)
        (if u.path.isEmpty && (!u.query.isEmpty || !u.fragment.isEmpty) then [47] else u.path) u.query u.fragment) ∧
      hostPortSubcomponent e u =
        .ok (some (match (generalizing := false) port with
          | none => bracket (rstripC 46 h)
          | some p =>
            if some p = defaultPort u.scheme then bracket (rstripC 46 h)
            else bracket (rstripC 46 h) ++ [58] ++ natToStr p)) ∧
      isDefaultPort e u = .ok (match (generalizing := false) port with
        | none => true
        | some p => decide (some p = defaultPort u.scheme)) ∧
      (∀ np : Option Int, (∀ p, np = some p → 0 ≤ p ∧ p ≤ 65535) →
        ∃ v, withPort e u np 0 = .ok v ∧ explicitPort e v = .ok (np.map Int.toNat)) := by
  obtain ⟨user, pw, h, port, w, _, _, _, _, a3, a4, hnet⟩ := C11_netlocCanon_view e u hc hne
  exact ⟨user, pw, h, port, w.netloc, a3, a4, w.port,
    C17_cached_str_omits_default e id u user pw h port hnet w,
    C17_cached_host_port_subcomponent e id u user pw h port hnet w,
    C17_cached_is_default_port e id u user pw h port hnet w,
    fun np hnp => C17_cached_with_port e id u user pw h port np hnet w hnp⟩

/-! ## instances and non-vacuity -/
section checks
private def e0 : Env := { b := .py, o := Oracles.empty }

/-- sample authorities through the constructor (both backends): port text, what Python's
    `int()` (`pyIntAscii`) makes of it, and the `explicit_port` served from the cache.
    * "user@:80"  — empty host (scheme without host requirement): port text "80", port 80;
    * "[v1.x]:80" — IPvFuture literal: port text "80" (after the ']'), port 80;
    * "h:080"     — leading zero: `int("080") = 80`;
    * "h: 80 "    — surrounding blanks: `int(" 80 ") = 80` (a blank inside a URL is not stripped by `split_url`);
    * "h:+8_0"    — sign and underscore: `int("+8_0") = 80`;   "h:-0" — `int("-0") = 0`, port 0 (not absent);
    * "h:"        — empty port text: no port (`None`), accepted. -/
theorem C17_ctor_explicit_port_instances (b : Backend) :
    (portText "user@:80".toStr = "80".toStr ∧
      (encodeUrl ⟨b, Oracles.empty⟩ "foo://user@:80/".toStr).bind (explicitPort ⟨b, Oracles.empty⟩) = .ok (some 80)) ∧
    (portText "[v1.x]:80".toStr = "80".toStr ∧
      (encodeUrl ⟨b, Oracles.empty⟩ "http://[v1.x]:80/".toStr).bind (explicitPort ⟨b, Oracles.empty⟩) = .ok (some 80)) ∧
    (portText "h:080".toStr = "080".toStr ∧ pyIntAscii "080".toStr = some 80 ∧
      (encodeUrl ⟨b, Oracles.empty⟩ "http://h:080/".toStr).bind (explicitPort ⟨b, Oracles.empty⟩) = .ok (some 80)) ∧
    (portText "h: 80 ".toStr = " 80 ".toStr ∧ pyIntAscii " 80 ".toStr = some 80 ∧
      (encodeUrl ⟨b, Oracles.empty⟩ "http://h: 80 /".toStr).bind (explicitPort ⟨b, Oracles.empty⟩) = .ok (some 80)) ∧
    (pyIntAscii "+8_0".toStr = some 80 ∧
      (encodeUrl ⟨b, Oracles.empty⟩ "http://h:+8_0/".toStr).bind (explicitPort ⟨b, Oracles.empty⟩) = .ok (some 80)) ∧
    (pyIntAscii "-0".toStr = some 0 ∧
      (encodeUrl ⟨b, Oracles.empty⟩ "http://h:-0/".toStr).bind (explicitPort ⟨b, Oracles.empty⟩) = .ok (some 0)) ∧
    (portText "h:".toStr = [] ∧
      (encodeUrl ⟨b, Oracles.empty⟩ "http://h:/".toStr).bind (explicitPort ⟨b, Oracles.empty⟩) = .ok none) := by
  str_lits; cases b <;> decide +kernel

/-- rejected port texts (hypotheses of `C17_ctor_rejects_bad_port`): out of range, not a number, negative,
    a number followed by junk; and `encoded=True` does NOT check (the error surfaces in `explicit_port`) -/
theorem C17_ctor_rejects_bad_port_instances :
    (portText "h:99999".toStr = "99999".toStr ∧ pyInt Oracles.empty "99999".toStr = .ok (some 99999)) ∧
    (portText "h:8o".toStr = "8o".toStr ∧ pyInt Oracles.empty "8o".toStr = .ok none) ∧
    (portText "u:p@[::1]:-1".toStr = "-1".toStr ∧ pyInt Oracles.empty "-1".toStr = .ok (some (-1))) ∧
    (portText "h:80:90".toStr = "80:90".toStr ∧ pyInt Oracles.empty "80:90".toStr = .ok none) ∧
    build e0 { scheme := "http".toStr, authority := "h:99999".toStr } = .error .valueError ∧
    (build e0 { scheme := "http".toStr, authority := "h:99999".toStr, encoded := true }).map (·.netloc)
      = .ok "h:99999".toStr ∧
    (build e0 { scheme := "http".toStr, authority := "h:99999".toStr, encoded := true }).bind (explicitPort e0)
      = .error .valueError := by
  str_lits; decide +kernel

-- the general theorem applies to these: e.g. every input whose authority is "h:8o"
example (s : Str) (pt : Parts) (h : splitUrl e0.o s = .ok pt) (hn : pt.netloc = "h:8o".toStr) :
    encodeUrl e0 s = .error .valueError :=
  (C17_ctor_rejects_bad_port e0 "h:8o".toStr (by decide +kernel) (Or.inl (by decide +kernel))).1 s pt h hn
example : build e0 { scheme := "http".toStr, authority := "h:8o".toStr, path := "/p".toStr } = .error .valueError :=
  (C17_ctor_rejects_bad_port e0 "h:8o".toStr (by str_lits; decide +kernel) (Or.inl (by str_lits; decide +kernel))).2.2 _ rfl rfl rfl
    (fun h => by cases h) (by str_lits; decide +kernel) (by str_lits; decide +kernel)

-- a constructor result with cache and DEFAULT port: hypotheses of the `C17_ctor_*` theorems
private def sA : Str := "http://me@[::1]:80/p".toStr
private def uA : Url :=
  { scheme := "http".toStr, netloc := "me@[::1]:80".toStr, path := "/p".toStr, query := [], fragment := [],
    pre := some { rawHost := some "::1".toStr, explicitPort := some 80, rawUser := some "me".toStr,
                  rawPassword := none } }
example : encodeUrl e0 sA = .ok uA ∧ uA.pre ≠ none := ⟨by decide +kernel, by decide +kernel⟩
example : GoodAuthority e0 sA :=
  C11_ctor_good_authority e0 sA
    { scheme := "http".toStr, netloc := "me@[::1]:80".toStr, path := "/p".toStr, query := [], fragment := [] }
    { user := some "me".toStr, password := none, host := some "::1".toStr, port := some 80 }
    "::1".toStr (by str_lits; decide +kernel) (by str_lits; decide +kernel) (by str_lits; decide +kernel) rfl (by str_lits; decide +kernel) (by str_lits; decide +kernel)
example : Written id (pickleTwin uA) (some "me".toStr) none "::1".toStr (some 80) :=
  ⟨rfl, by decide +kernel, by decide +kernel, by decide +kernel, by decide +kernel⟩
example : (str e0 uA).toOption = some "http://me@[::1]/p".toStr ∧
    (hostPortSubcomponent e0 uA).toOption = some (some "[::1]".toStr) ∧
    (isDefaultPort e0 uA).toOption = some true ∧ (explicitPort e0 uA).toOption = some (some 80) := by
  str_lits; decide +kernel
end checks

end Yarl
