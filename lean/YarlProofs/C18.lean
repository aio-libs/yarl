/-
  C18.lean — `human_repr()` is readable and round-trips.

  component level
  * `C18_human_quote_minimal(_exact)` : what exactly is escaped ('%', unsafe, non-printable), nothing else
  * `C18_human_quote_printable_kept`, `C18_printable_nonascii_shown` : readable
  * `C18_human_quote_total`           : no error on surrogate-free text with a total oracle
  * `C18_component_roundtrip(_gen)`   : REQUOTER (human form) = QUOTER (decoded text);
    `HumanCond` is the condition on the `unsafe` list, `C18_component_cond_necessary` shows it is exact
  * `C18_{user,password,path,fragment,query_part,query_value}_roundtrip` : the real positions, by
    computation on the generated tables (all six hold)
  * `C18_unsafe_lists`, `C18_unsafe_ascii` : the generated `unsafe` lists, pinned
  * `C18_roundtrip_userinfo_nfkc_counterexample` : FINDING — with user / password the URL-level round trip (C18Full.lean)
    needs its NFKC proviso:
    `URL(URL.build(scheme="http", user="a／b", host="example.com", path="/p").human_repr())` raises ValueError
  The component level is the case "nothing left literal" of Lemmas/HumanLit.lean.  The helper lemmas after it say what
  the constructor makes of the human form of a user and a password; the URL-level theorems are in C18Full.lean and
  C18More.lean.
-/
import YarlProofs.Lemmas.HumanLit
import YarlProofs.C12Readback
import YarlProofs.Lemmas.EagerLemmas
namespace Yarl

open HumanLemmas OutLangLemmas QsLemmas

/-! ## minimality -/

/-- minimality, exact form: '%' and the unsafe characters become ONE escape of their code point
    (`f"%{ord(c):02X}"`), a non-printable character becomes the escapes of its UTF-8 bytes, and
    everything else is shown as is -/
theorem C18_human_quote_minimal_exact (o : Oracles) (s uns r : Str) :
    humanQuote o s uns = .ok r →
      r = s.flatMap (fun c => if c = 37 ∨ mem c uns = true then pct c
            else if isPrintableChar o c = .ok false then (utf8 c).flatMap pct else [c]) := by
  refine humanQuote_induction (o := o) (uns := uns)
    (fun s r => r = s.flatMap (fun c => if c = 37 ∨ mem c uns = true then pct c
            else if isPrintableChar o c = .ok false then (utf8 c).flatMap pct else [c])) rfl ?_ s r
  intro c s p r hp _ ih
  rw [List.flatMap_cons, ← ih]
  congr 1
  cases hp with
  | esc h hp => rw [if_pos h, hp]
  | shown h37 hm hpr hp =>
    rw [if_neg (by simp [h37, hm]), hpr, if_neg (by simp), hp]
  | hidden h37 hm hpr _ hp =>
    rw [if_neg (by simp [h37, hm]), if_pos hpr, hp]

/-- minimality: a character is escaped only if it is '%', unsafe in its position, or
    non-printable; everything else is shown as is.  (The `unsafe` characters must be ASCII for
    `pct c` to be the UTF-8 escape of `c`; see `C18_human_quote_minimal_needs_ascii`.) -/
theorem C18_human_quote_minimal (o : Oracles) (s uns r : Str) (hu : ∀ c ∈ uns, c < 128) :
    humanQuote o s uns = .ok r →
      r = s.flatMap (fun c => if c = 37 ∨ mem c uns = true ∨ isPrintableChar o c = .ok false
            then (utf8 c).flatMap pct else [c]) := by
  intro h
  rw [C18_human_quote_minimal_exact o s uns r h]
  apply flatMap_congr'
  intro c _
  by_cases h1 : c = 37 ∨ mem c uns = true
  · have hlt : c < 128 := by
      rcases h1 with rfl | h1
      · omega
      · exact hu c (mem_iff.mp h1)
    rw [if_pos h1, if_pos (by rcases h1 with h1 | h1 <;> simp [h1]), utf8_ascii hlt]
    simp
  · have h37 : c ≠ 37 := fun e => h1 (Or.inl e)
    have hm : ¬ mem c uns = true := fun e => h1 (Or.inr e)
    rw [if_neg h1]
    by_cases h2 : isPrintableChar o c = .ok false
    · rw [if_pos h2, if_pos (Or.inr (Or.inr h2))]
    · rw [if_neg h2, if_neg (by simp [h37, hm, h2])]

/-- the ASCII hypothesis of `C18_human_quote_minimal` is needed: a non-ASCII `unsafe` character
    is written as ONE (ill-formed) escape of its code point, not as its UTF-8 bytes -/
theorem C18_human_quote_minimal_needs_ascii :
    humanQuote Oracles.empty [233] [233] = .ok "%E9".toStr ∧
      (utf8 233).flatMap pct = "%C3%A9".toStr := by decide +kernel

/-- what is shown literally is really there -/
theorem C18_human_quote_printable_kept (o : Oracles) (s uns r : Str) :
    humanQuote o s uns = .ok r →
      ∀ c ∈ s, c ≠ 37 → mem c uns = false → isPrintableChar o c = .ok true → c ∈ r := by
  refine humanQuote_induction (o := o) (uns := uns)
    (fun s r => ∀ c ∈ s, c ≠ 37 → mem c uns = false → isPrintableChar o c = .ok true → c ∈ r)
    (by intro c hc; simp at hc) ?_ s r
  intro c s p r hp _ ih x hx h37 hm hpr
  rw [List.mem_append]
  rcases List.mem_cons.mp hx with rfl | hx
  · left
    cases hp with
    | esc h _ =>
      rcases h with h | h
      · exact absurd h h37
      · rw [hm] at h; exact absurd h (by simp)
    | shown _ _ _ hp => rw [hp]; simp
    | hidden _ _ hpr' _ _ => rw [hpr] at hpr'; simp at hpr'
  · exact Or.inr (ih x hx h37 hm hpr)

/-- no error on surrogate-free text when the oracle knows every non-ASCII character of it -/
theorem C18_human_quote_total (o : Oracles) (s uns : Str) :
    (∀ c ∈ s, isSurrogate c = false) → (∀ c ∈ s, 128 ≤ c → (o.isPrintableU c).isSome) →
      ∃ r, humanQuote o s uns = .ok r := by
  induction s with
  | nil => intro _ _; exact ⟨[], rfl⟩
  | cons c s ih =>
    intro hs ho
    obtain ⟨r', hr'⟩ := ih (fun x hx => hs x (by simp [hx])) (fun x hx => ho x (by simp [hx]))
    have hc : ∃ p, hqChar o uns c = .ok p := by
      unfold hqChar
      by_cases h1 : (c = 37 || mem c uns) = true
      · rw [if_pos h1]; exact ⟨_, rfl⟩
      · rw [if_neg h1]
        have hpr : ∃ b, isPrintableChar o c = .ok b := by
          by_cases hlt : c < 128
          · exact ⟨_, isPrintableChar_ascii o hlt⟩
          · rw [isPrintableChar_high o (by omega)]
            have := ho c (by simp) (by omega)
            cases hx : o.isPrintableU c with
            | none => rw [hx] at this; simp at this
            | some b => exact ⟨b, rfl⟩
        obtain ⟨b, hb⟩ := hpr
        rw [hb]
        cases b with
        | true => exact ⟨_, rfl⟩
        | false =>
          simp only [bind, Except.bind, Bool.false_eq_true, if_false, hs c (by simp)]
          exact ⟨_, rfl⟩
    obtain ⟨p, hp⟩ := hc
    exact ⟨p ++ r', (humanQuote_cons o uns c s _).mpr ⟨p, r', hp, hr', rfl⟩⟩

/-- readability: printable non-ASCII text is shown decoded -/
theorem C18_printable_nonascii_shown (o : Oracles) (s uns r : Str) (c : Nat) :
    humanQuote o s uns = .ok r → c ∈ s → 128 ≤ c → o.isPrintableU c = some true →
      mem c uns = false → c ∈ r := by
  intro h hc h128 hp hm
  refine C18_human_quote_printable_kept o s uns r h c hc (by omega) hm ?_
  rw [isPrintableChar_high o h128, hp]
  rfl

/-! ## the round trip of one component -/

/-- KEY round trip, general form: for a requoting table `t`, a non-requoting table `t'` and an
    `unsafe` list that are compatible character by character (`HumanCompat`, decidable),
    re-quoting the human form gives exactly what the quoter gives for the decoded text. -/
theorem C18_component_roundtrip_gen (o : Oracles) (t t' : QTab) (ht : t.WF) (ht' : t'.WF)
    (hreq : t.requote = true) (hnr : t'.requote = false) (uns : Str) (k : HumanCompat t t' uns)
    (s r : Str) (hs : PyStr s) :
    humanQuote o s uns = .ok r → cOut t r = cOut t' s := by
  intro h
  have := HumanLemmas.cOut_human_append o t t' ht ht' hreq hnr uns k s r hs h []
  rwa [List.append_nil, cOut_nil, List.append_nil] at this

/-- the condition on the `unsafe` list for a pair of tables with the same safe set: the unsafe
    characters are ASCII, not protected and not the space of a query table; and no control
    character is protected -/
def HumanCond (t : QTab) (uns : Str) : Prop :=
  (∀ c ∈ uns, c < 128 ∧ t.prot c = false ∧ ¬ (t.qs = true ∧ c = 32)) ∧
  (∀ c, c < 128 → c < 32 ∨ c = 127 → t.prot c = false)

instance (t : QTab) (uns : Str) : Decidable (HumanCond t uns) := by unfold HumanCond; infer_instance

theorem humanCompat_of_cond (t t' : QTab) (hqs : t'.qs = t.qs) (hsafe : ∀ c, t'.safe c = t.safe c)
    (uns : Str) (hcond : HumanCond t uns) : HumanCompat t t' uns where
  ascii := fun c hc => (hcond.1 c hc).1
  esc := by
    intro c hlt h37 he
    have hprot : t.prot c = false ∧ ¬ (t.qs = true ∧ c = 32) := by
      unfold escapedAscii at he
      simp only [Bool.or_eq_true, decide_eq_true_eq] at he
      rcases he with (he | he) | he
      · exact (hcond.1 c (mem_iff.mp he)).2
      · exact ⟨hcond.2 c hlt (Or.inl he), by omega⟩
      · exact ⟨hcond.2 c hlt (Or.inr he), by omega⟩
    unfold cEscOut cWriteOut writeUtf8
    rw [if_neg (by simp [hprot.1]), hqs, if_neg hprot.2, hsafe, utf8_ascii hlt]
    simp
  lit := by
    intro c hlt h37 he
    unfold cWriteOut
    rw [hqs, hsafe]

set_option linter.unusedVariables false in
/-- KEY round trip at component level: re-quoting the human form with the component's REQUOTER
    gives exactly what the non-requoting QUOTER (same safe set) gives for the decoded text,
    provided the `unsafe` characters are ASCII, unprotected and not the space of a query table,
    and no control character is protected (`HumanCond`). -/
theorem C18_component_roundtrip (o : Oracles) (t t' : QTab) (ht : t.WF) (ht' : t'.WF)
    (hreq : t.requote = true) (hnr : t'.requote = false) (hqs : t'.qs = t.qs)
    (hsafe : ∀ c, t'.safe c = t.safe c) (uns : Str) (hcond : HumanCond t uns)
    (s r : Str) (hs : PyStr s) (hn : NoSurrogate s) :
    humanQuote o s uns = .ok r → cOut t r = cOut t' s :=
  C18_component_roundtrip_gen o t t' ht ht' hreq hnr uns (humanCompat_of_cond t t' hqs hsafe uns hcond)
    s r hs

set_option linter.unusedVariables false in
/-- the condition is exact: for ASCII `unsafe` lists it is also NECESSARY for the round trip of
    all one-character texts -/
theorem C18_component_cond_necessary (o : Oracles) (t t' : QTab) (ht : t.WF) (ht' : t'.WF)
    (hreq : t.requote = true) (hnr : t'.requote = false) (hqs : t'.qs = t.qs)
    (hsafe : ∀ c, t'.safe c = t.safe c) (uns : Str) (hu : ∀ c ∈ uns, c < 128)
    (hrt : ∀ c, c < 128 → ∀ r, humanQuote o [c] uns = .ok r → cOut t r = cOut t' [c]) :
    HumanCond t uns := by
  -- an escaped ASCII character: the requoter sees `%XY`
  have key : ∀ c, c < 128 → humanQuote o [c] uns = .ok (pct c) →
      t.prot c = false ∧ ¬ (t.qs = true ∧ c = 32) := by
    intro c hlt hq
    have h := hrt c hlt _ hq
    have h1 : cOut t (pct c) = cEscOut t c := by
      have := cOut_pct t hreq (b := c) (by omega) []
      rw [List.append_nil] at this
      rw [this, cOut, List.append_nil]
    have h2 : cOut t' [c] = cWriteOut t' c := by
      rw [cOut_nr_cons t' hnr, cOut, List.append_nil]
    rw [h1, h2] at h
    have hlen : ∀ b, (pct b).length = 3 := fun b => rfl
    have hw : (cWriteOut t' c).length = 3 → t.safe c = false ∧ ¬ (t.qs = true ∧ c = 32) := by
      unfold cWriteOut
      rw [hqs, hsafe]
      split
      · intro h; simp at h
      · rename_i hq
        split
        · intro h; simp at h
        · rename_i hs
          intro _
          refine ⟨?_, hq⟩
          cases hx : t.safe c with
          | false => rfl
          | true => exact absurd ⟨hlt, hx⟩ hs
    cases hp : t.prot c with
    | true =>
      have : cEscOut t c = pct c := cEscOut_eq_pct t ht (Or.inr (Or.inr hp))
      rw [this] at h
      have := (hw (by rw [← h]; rfl)).1
      rw [ht.prot_safe c hp] at this
      exact absurd this (by simp)
    | false =>
      refine ⟨rfl, ?_⟩
      rintro ⟨hq', rfl⟩
      have h43 : cWriteOut t' 32 = [43] := by
        unfold cWriteOut; rw [hqs, if_pos ⟨hq', rfl⟩]
      rw [h43] at h
      unfold cEscOut at h
      rw [if_neg (by simp [hp])] at h
      split at h
      · simp at h
      · simp [pct] at h
  -- a character of the `unsafe` list is escaped
  have esc : ∀ c, mem c uns = true → humanQuote o [c] uns = .ok (pct c) := by
    intro c hm
    apply (humanQuote_cons o uns c [] _).mpr
    refine ⟨pct c, [], ?_, rfl, by simp⟩
    unfold hqChar
    rw [if_pos (by simp [hm])]; rfl
  constructor
  · intro c hc
    exact ⟨hu c hc, key c (hu c hc) (esc c (mem_iff.mpr hc))⟩
  · intro c hlt hctl
    by_cases hm : mem c uns = true
    · exact (key c hlt (esc c hm)).1
    · have hq : humanQuote o [c] uns = .ok (pct c) := by
        apply (humanQuote_cons o uns c [] _).mpr
        refine ⟨pct c, [], ?_, rfl, by simp⟩
        unfold hqChar
        have h37 : c ≠ 37 := by omega
        rw [if_neg (by simp [hm, h37]), isPrintableChar_ascii o hlt]
        have hnp : (decide (32 ≤ c) && decide (c < 127)) = false := by
          simp only [Bool.and_eq_false_iff, decide_eq_false_iff_not]; omega
        have hns : isSurrogate c = false := by
          unfold isSurrogate
          simp only [Bool.and_eq_false_iff, decide_eq_false_iff_not]; omega
        rw [hnp]
        simp only [bind, Except.bind, Bool.false_eq_true, if_false, hns, utf8_ascii hlt,
          List.flatMap_cons, List.flatMap_nil, List.append_nil]
        rfl
      exact (key c hlt hq).1

/-! ## the real positions -/

namespace HumanLemmas

/-- generated quoters: REQUOTER on the human form = QUOTER on the text -/
theorem run_roundtrip (a a' : QArgs) (ha : a ∈ Gen.allQuoters) (ha' : a' ∈ Gen.allQuoters)
    (hreq : a.requote = true) (hnr : a'.requote = false) (uns : Str)
    (k : ∀ b, HumanCompat (a.tab b) (a'.tab b) uns)
    (e : Env) (s r : Str) (hs : PyStr s) (hn : NoSurrogate s) :
    humanQuote e.o s uns = .ok r → a.run e.b r = a'.run e.b s := by
  intro h
  obtain ⟨hr1, hr2⟩ := humanQuote_pyStr e.o uns (k e.b).ascii s r hs hn h
  rw [run_eq_cOut a ha e.b r hr1, run_eq_cOut a' ha' e.b s hs, stripSurr_id r hr2, stripSurr_id s hn]
  exact C18_component_roundtrip_gen e.o (a.tab e.b) (a'.tab e.b) (gen_tab_wf a ha e.b)
    (gen_tab_wf a' ha' e.b) (by rw [tab_requote]; exact hreq) (by rw [tab_requote]; exact hnr)
    uns (k e.b) s r hs h

end HumanLemmas

/-- the hypotheses of `C18_component_roundtrip` (`hsafe` + `HumanCond`) hold for user, password, path and fragment,
    by computation on the generated tables, on both backends -/
theorem C18_gen_conditions : ∀ b : Backend,
    HumanCond (Gen.REQUOTER.tab b) (humanUnsafeOf "user") ∧
    HumanCond (Gen.REQUOTER.tab b) (humanUnsafeOf "password") ∧
    HumanCond (Gen.PATH_REQUOTER.tab b) (humanUnsafeOf "path") ∧
    HumanCond (Gen.FRAGMENT_REQUOTER.tab b) (humanUnsafeOf "fragment") ∧
    (∀ c, c < 128 → (Gen.QUOTER.tab b).safe c = (Gen.REQUOTER.tab b).safe c) ∧
    (∀ c, c < 128 → (Gen.PATH_QUOTER.tab b).safe c = (Gen.PATH_REQUOTER.tab b).safe c) ∧
    (∀ c, c < 128 → (Gen.FRAGMENT_QUOTER.tab b).safe c = (Gen.FRAGMENT_REQUOTER.tab b).safe c) := by
  intro b
  -- the two backends have the same tables, so the computation is run on the compiled backend's tables only
  rw [tab_eq_c Gen.REQUOTER (by decide) b, tab_eq_c Gen.QUOTER (by decide) b,
    tab_eq_c Gen.PATH_REQUOTER (by decide) b, tab_eq_c Gen.PATH_QUOTER (by decide) b,
    tab_eq_c Gen.FRAGMENT_REQUOTER (by decide) b, tab_eq_c Gen.FRAGMENT_QUOTER (by decide) b]
  decide +kernel

/-- safe sets of well-formed tables that agree on ASCII agree everywhere -/
theorem HumanLemmas.safe_ext {t t' : QTab} (ht : t.WF) (ht' : t'.WF)
    (h : ∀ c, c < 128 → t'.safe c = t.safe c) : ∀ c, t'.safe c = t.safe c := by
  intro c
  by_cases hc : c < 128
  · exact h c hc
  · cases h1 : t'.safe c with
    | true => exact absurd (ht'.safe_ascii c h1) hc
    | false =>
      cases h2 : t.safe c with
      | true => exact absurd (ht.safe_ascii c h2) hc
      | false => rfl

/-- `HumanCond` constrains the members of the list only: a sublist satisfies it too -/
theorem HumanCond.mono {t : QTab} {uns uns' : Str} (h : HumanCond t uns) (hs : ∀ c ∈ uns', c ∈ uns) :
    HumanCond t uns' :=
  ⟨fun c hc => h.1 c (hs c hc), h.2⟩

/-- a generated (requoter, quoter) pair with the same query flag and the same ASCII safe set -/
theorem HumanLemmas.compat_of_cond (a a' : QArgs) (ha : a ∈ Gen.allQuoters) (ha' : a' ∈ Gen.allQuoters)
    (hqs : a'.qs = a.qs) (b : Backend) (hsafe : ∀ c, c < 128 → (a'.tab b).safe c = (a.tab b).safe c) {uns : Str}
    (hc : HumanCond (a.tab b) uns) : HumanCompat (a.tab b) (a'.tab b) uns :=
  humanCompat_of_cond _ _ (by rw [tab_qs, tab_qs]; exact hqs)
    (safe_ext (gen_tab_wf a ha b) (gen_tab_wf a' ha' b) hsafe) uns hc

/-- the compatibility of the real positions, on both backends: user, path and fragment from `C18_gen_conditions`;
    the query tables do not have the same safe set ('=', '+', '&', ';'), so that pair is computed -/
theorem HumanLemmas.gen_compat : ∀ b : Backend,
    HumanCompat (Gen.REQUOTER.tab b) (Gen.QUOTER.tab b) (humanUnsafeOf "user") ∧
    HumanCompat (Gen.PATH_REQUOTER.tab b) (Gen.PATH_QUOTER.tab b) (humanUnsafeOf "path") ∧
    HumanCompat (Gen.FRAGMENT_REQUOTER.tab b) (Gen.FRAGMENT_QUOTER.tab b) (humanUnsafeOf "fragment") ∧
    HumanCompat (Gen.QUERY_REQUOTER.tab b) (Gen.QUERY_PART_QUOTER.tab b) (humanUnsafeOf "k") := by
  intro b
  obtain ⟨c1, _, c3, c4, s1, s3, s4⟩ := C18_gen_conditions b
  refine ⟨compat_of_cond Gen.REQUOTER Gen.QUOTER (by decide) (by decide) rfl b s1 c1,
    compat_of_cond Gen.PATH_REQUOTER Gen.PATH_QUOTER (by decide) (by decide) rfl b s3 c3,
    compat_of_cond Gen.FRAGMENT_REQUOTER Gen.FRAGMENT_QUOTER (by decide) (by decide) rfl b s4 c4, ?_⟩
  -- the two backends have the same tables, so the computation is run on the compiled backend's tables only
  rw [tab_eq_c Gen.QUERY_REQUOTER (by decide) b, tab_eq_c Gen.QUERY_PART_QUOTER (by decide) b]
  decide +kernel

theorem HumanLemmas.gen_same_lists :
    humanUnsafeOf "password" = humanUnsafeOf "user" ∧ humanUnsafeOf "v" = humanUnsafeOf "k" := by
  decide

theorem C18_user_roundtrip (e : Env) (s r : Str) (hs : PyStr s) (hn : NoSurrogate s) :
    humanQuote e.o s (humanUnsafeOf "user") = .ok r →
      Gen.REQUOTER.run e.b r = Gen.QUOTER.run e.b s :=
  run_roundtrip Gen.REQUOTER Gen.QUOTER (by decide) (by decide) (by decide) (by decide) _
    (fun b => (gen_compat b).1) e s r hs hn

theorem C18_password_roundtrip (e : Env) (s r : Str) (hs : PyStr s) (hn : NoSurrogate s) :
    humanQuote e.o s (humanUnsafeOf "password") = .ok r →
      Gen.REQUOTER.run e.b r = Gen.QUOTER.run e.b s :=
  gen_same_lists.1 ▸ C18_user_roundtrip e s r hs hn

theorem C18_path_roundtrip (e : Env) (s r : Str) (hs : PyStr s) (hn : NoSurrogate s) :
    humanQuote e.o s (humanUnsafeOf "path") = .ok r →
      Gen.PATH_REQUOTER.run e.b r = Gen.PATH_QUOTER.run e.b s :=
  run_roundtrip Gen.PATH_REQUOTER Gen.PATH_QUOTER (by decide) (by decide) (by decide) (by decide) _
    (fun b => (gen_compat b).2.1) e s r hs hn

theorem C18_fragment_roundtrip (e : Env) (s r : Str) (hs : PyStr s) (hn : NoSurrogate s) :
    humanQuote e.o s (humanUnsafeOf "fragment") = .ok r →
      Gen.FRAGMENT_REQUOTER.run e.b r = Gen.FRAGMENT_QUOTER.run e.b s :=
  run_roundtrip Gen.FRAGMENT_REQUOTER Gen.FRAGMENT_QUOTER (by decide) (by decide) (by decide)
    (by decide) _ (fun b => (gen_compat b).2.2.1) e s r hs hn

/-- query keys (`QUERY_REQUOTER` protects `= + & ;`, `QUERY_PART_QUOTER` escapes them: the tables
    do not have the same safe set, but `human_quote` escapes exactly these four) -/
theorem C18_query_part_roundtrip (e : Env) (s r : Str) (hs : PyStr s) (hn : NoSurrogate s) :
    humanQuote e.o s (humanUnsafeOf "k") = .ok r →
      Gen.QUERY_REQUOTER.run e.b r = Gen.QUERY_PART_QUOTER.run e.b s :=
  run_roundtrip Gen.QUERY_REQUOTER Gen.QUERY_PART_QUOTER (by decide) (by decide) (by decide)
    (by decide) _ (fun b => (gen_compat b).2.2.2) e s r hs hn

theorem C18_query_value_roundtrip (e : Env) (s r : Str) (hs : PyStr s) (hn : NoSurrogate s) :
    humanQuote e.o s (humanUnsafeOf "v") = .ok r →
      Gen.QUERY_REQUOTER.run e.b r = Gen.QUERY_PART_QUOTER.run e.b s :=
  gen_same_lists.2 ▸ C18_query_part_roundtrip e s r hs hn

/-- `C18_component_roundtrip` applies to the path position -/
example (e : Env) (s r : Str) (hs : PyStr s) (hn : NoSurrogate s)
    (h : humanQuote e.o s (humanUnsafeOf "path") = .ok r) :
    cOut (Gen.PATH_REQUOTER.tab e.b) r = cOut (Gen.PATH_QUOTER.tab e.b) s :=
  C18_component_roundtrip e.o _ _ (gen_tab_wf _ (by decide) e.b) (gen_tab_wf _ (by decide) e.b)
    (by rw [tab_requote]; rfl) (by rw [tab_requote]; rfl) (by rw [tab_qs, tab_qs]; rfl)
    (safe_ext (gen_tab_wf _ (by decide) e.b) (gen_tab_wf _ (by decide) e.b)
      (C18_gen_conditions e.b).2.2.2.2.2.1)
    _ (C18_gen_conditions e.b).2.2.1 s r hs hn h

/-- for query parts the safe sets differ (exactly on the protected `= + & ;`), so the simple
    `hsafe` form does not apply; these four are all in the `unsafe` list of keys and values -/
theorem C18_query_safe_sets_differ : ∀ b : Backend, ∀ c, c < 128 →
    ((Gen.QUERY_PART_QUOTER.tab b).safe c ≠ (Gen.QUERY_REQUOTER.tab b).safe c ↔
      (Gen.QUERY_REQUOTER.tab b).prot c = true) ∧
    ((Gen.QUERY_REQUOTER.tab b).prot c = true → mem c (humanUnsafeOf "k") = true ∧
      mem c (humanUnsafeOf "v") = true) := by
  intro b
  rw [tab_eq_c Gen.QUERY_REQUOTER (by decide) b, tab_eq_c Gen.QUERY_PART_QUOTER (by decide) b]
  decide +kernel

/-! ## the generated lists -/

/-- all generated `unsafe` characters are ASCII (the hypothesis of `C18_human_quote_minimal`) -/
theorem C18_unsafe_ascii : ∀ key ∈ ["user", "password", "path", "k", "v", "fragment"],
    ∀ c ∈ humanUnsafeOf key, c < 128 := HumanLemmas.unsafe_lt128


/-- the generated unsafe lists contain exactly the characters that would change the parse in
    their position -/
theorem C18_unsafe_lists :
    humanUnsafeOf "user" = "#/:?@[]".toStr ∧ humanUnsafeOf "password" = "#/:?@[]".toStr ∧
    humanUnsafeOf "path" = "#?".toStr ∧ humanUnsafeOf "k" = "#&+;=".toStr ∧
    humanUnsafeOf "v" = "#&+;=".toStr ∧ humanUnsafeOf "fragment" = [] := by decide +kernel

/-! ## the escape lists of path and fragment are ASCII; that of the path holds '#' and '?' and not '/' -/

theorem HumanLemmas.unsafe_ascii :
    (∀ c ∈ humanUnsafeOf "path", c < 128) ∧ (∀ c ∈ humanUnsafeOf "fragment", c < 128) ∧
    mem 35 (humanUnsafeOf "path") = true ∧ mem 63 (humanUnsafeOf "path") = true ∧
    mem 47 (humanUnsafeOf "path") = false :=
  ⟨HumanLemmas.unsafe_lt128 "path" (by decide), HumanLemmas.unsafe_lt128 "fragment" (by decide), by decide +kernel⟩

/-! ## what the constructor makes of the human form of user and password -/

namespace HumanLemmas
open HostLemmas NetlocLemmas

/-- re-quoting the human form of an optional text, made with any list `L` compatible with the (re)quoter pair -/
theorem requoteOpt_compat (e : Env) (L : Str)
    (k : ∀ b : Backend, HumanCompat (Gen.REQUOTER.tab b) (Gen.QUOTER.tab b) L)
    (x y : Option Str) (hx : UText x) (h : humanQuoteOpt e.o x L = .ok y) :
    requoteOpt e y = x.map (q e Gen.QUOTER) := by
  rcases humanQuoteOpt_ok h with ⟨rfl, rfl⟩ | ⟨s, r, rfl, rfl, hq⟩
  · rfl
  · obtain ⟨h1, h2⟩ := hx s rfl
    simp only [requoteOpt, Option.map_some, Option.some.injEq]
    by_cases hr : r = []
    · subst hr
      have hs : s = [] := by
        by_cases hs : s = []
        · exact hs
        · exact absurd rfl (humanQuote_ne_nil e.o _ s [] h1 hs hq)
      subst hs
      rw [q_nil e Gen.QUOTER]; rfl
    · rw [isEmpty_false hr]
      simp only [Bool.false_eq_true, ↓reduceIte]
      exact run_roundtrip Gen.REQUOTER Gen.QUOTER (by decide) (by decide) (by decide) (by decide) L k e s r h1 h2 hq

theorem requoteOpt_human (e : Env) (x y : Option Str) (hx : UText x)
    (h : humanQuoteOpt e.o x (humanUnsafeOf "user") = .ok y) :
    requoteOpt e y = x.map (q e Gen.QUOTER) :=
  requoteOpt_compat e _ (fun b => (gen_compat b).1) x y hx h

/-- `(REQUOTER(username) or None)` — what `encode_url` caches for the user (fix 2fdb38c) — keeps the quoted user of a
    non-empty text -/
theorem orNone_quoted_user (e : Env) (user : Option Str) (hu : UText user) (hune : ∀ s, user = some s → s ≠ []) :
    HumanMore.dropEmpty (user.map (q e Gen.QUOTER)) = user.map (q e Gen.QUOTER) := by
  cases user with
  | none => rfl
  | some s =>
    have : q e Gen.QUOTER s ≠ [] := run_ne_nil Gen.QUOTER (by decide) rfl e.b s (hu s rfl).1 (hu s rfl).2 (hune s rfl)
    simp only [HumanMore.dropEmpty, Option.map_some, Option.bind_some]
    rw [isEmpty_false this]; rfl

end HumanLemmas

/-! ## FINDING: with user / password the URL-level round trip FAILS (NFKC check of the netloc)

  `human_repr()` shows printable non-ASCII characters of user and password decoded.  When the
  string is parsed again, `split_url` runs the NFKC check on the (now non-ASCII) netloc and rejects
  it if the normal form contains one of `/ ? # @ :` — e.g. U+FF0F FULLWIDTH SOLIDUS, U+FF20, U+FF1A,
  U+FF03, U+FF1F, U+2100 (℀ = "a/c").  The component-level round trip (`C18_user_roundtrip`) is
  fine; the parse fails before it.  Checked against the Python code:
  `URL.build(scheme="http", user="a／b", host="example.com", path="/p")` has
  `human_repr() == 'http://a／b@example.com/p'` and `URL('http://a／b@example.com/p')` raises
  `ValueError: netloc 'a／b@example.com' contains invalid characters under NFKC normalization`. -/

/-- an oracle fragment: NFKC maps U+FF0F to '/', U+FF0F is printable, IDNA-decoding of an ASCII
    host is the identity -/
def HumanLemmas.nfkcDemo : Oracles :=
  { Oracles.empty with
    nfkc := fun s => some (s.map fun c => if c = 0xFF0F then 47 else c),
    isPrintableU := fun _ => some true,
    idnaDec := fun s => some (some s) }

/-- `URL(u.human_repr())` raises ValueError for `u = URL.build(scheme="http", user="a／b",
    host="example.com", path="/p")` (on both backends) -/
theorem C18_roundtrip_userinfo_nfkc_counterexample : ∀ b : Backend,
    let e : Env := ⟨b, nfkcDemo⟩
    let hr : Str := "http://a".toStr ++ [0xFF0F] ++ "b@example.com/p".toStr
    (build e { scheme := "http".toStr, user := some [97, 0xFF0F, 98], host := "example.com".toStr,
               path := "/p".toStr }).bind (humanRepr e) = .ok hr ∧
    encodeUrl e hr = .error .valueError := by
  str_lits; intro b; cases b <;> decide +kernel

/-! ## non-vacuity checks -/

section checks
open HumanLemmas

private def o1 : Oracles :=
  { Oracles.empty with isPrintableU := fun c => some (c != 0x200B && c != 0x85),
                       idnaDec := fun s => some (some s) }
private def smp : Str :=
  "a b+c&d=e;f#g?h/i:j@k[l]m%n".toStr ++ [0, 10, 127, 233, 0x20AC, 0x1F600, 0x200B, 0x85, 0x10FFFF]

-- the hypotheses of the component theorems hold for a text with every kind of character
example : PyStr smp ∧ NoSurrogate smp := by unfold smp; str_lits; decide +kernel
example : humanQuote o1 smp (humanUnsafeOf "k") =
    .ok ("a b%2Bc%26d%3De%3Bf%23g?h/i:j@k[l]m%25n%00%0A%7F".toStr ++ [233, 0x20AC, 0x1F600] ++
         "%E2%80%8B%C2%85".toStr ++ [0x10FFFF]) := by unfold smp; str_lits; decide +kernel
example : humanQuote o1 smp (humanUnsafeOf "user") =
    .ok ("a b+c&d=e;f%23g%3Fh%2Fi%3Aj%40k%5Bl%5Dm%25n%00%0A%7F".toStr ++ [233, 0x20AC, 0x1F600] ++
         "%E2%80%8B%C2%85".toStr ++ [0x10FFFF]) := by unfold smp; str_lits; decide +kernel
example : ∀ b, (humanQuote o1 smp (humanUnsafeOf "k")).map (Gen.QUERY_REQUOTER.run b) =
    .ok (Gen.QUERY_PART_QUOTER.run b smp) := by unfold smp; str_lits; intro b; cases b <;> decide +kernel
-- a lone surrogate that is not printable is an error; `total` needs its first hypothesis
example : humanQuote { Oracles.empty with isPrintableU := fun _ => some false } [0xD800] [] =
    .error .valueError := by decide +kernel
-- `HumanCond` fails for a protected unsafe character, and then the round trip fails:
-- '+' declared unsafe in a path would come back as %2B although PATH_QUOTER keeps it
example : ¬ HumanCond (Gen.PATH_REQUOTER.tab .c) [43] := by decide +kernel
example : (humanQuote o1 [43] [43]).map (Gen.PATH_REQUOTER.run .c) = .ok "%2B".toStr ∧
    Gen.PATH_QUOTER.run .c [43] = "+".toStr := by decide +kernel

-- the URL-level family
example : ValidScheme "http".toStr ∧ ValidScheme "svn+ssh".toStr ∧ PlainHost "example.com".toStr ∧
    PlainHost "xn--bcher-kva.example".toStr ∧ ¬ PlainHost "127.0.0.1".toStr ∧
    ¬ PlainHost "Example.com".toStr := by str_lits; decide +kernel
private def pth : Str := "/a b#c?d/".toStr ++ [233, 10, 0x200B] ++ "%41+;".toStr
private def frg : Str := "x#y?z ".toStr ++ [233, 9]
example : PyStr pth ∧ NoSurrogate pth ∧ 46 ∉ pth.drop 1 ∧ PyStr frg ∧ NoSurrogate frg := by unfold pth frg; str_lits; decide +kernel
example : ∀ b : Backend,
    (build ⟨b, o1⟩ { scheme := "http".toStr, host := "example.com".toStr, path := pth, fragment := frg }).bind
      (humanRepr ⟨b, o1⟩) =
    .ok ("http://example.com/a b%23c%3Fd/".toStr ++ [233] ++ "%0A%E2%80%8B%2541+;#x#y?z ".toStr ++ [233] ++
         "%09".toStr) := by unfold pth frg; str_lits; intro b; cases b <;> decide +kernel

-- with user and password: a non-ASCII user that passes the NFKC check (NFKC = identity here)
private def o2 : Oracles := { o1 with nfkc := fun s => some s }
private def usr : Str := "us er".toStr ++ [233]
private def pwd : Str := "p@w:/#".toStr ++ [0x20AC]
example : UText (some usr) ∧ UText (some pwd) ∧ UText none ∧ (∀ s, some usr = some s → s ≠ []) := by
  refine ⟨?_, ?_, ?_, ?_⟩
  · intro s hs; cases hs; decide
  · intro s hs; cases hs; decide
  · intro s hs; cases hs
  · intro s hs; cases hs; decide
example : ∀ b : Backend,
    (do let u ← build ⟨b, o2⟩ { scheme := "http".toStr, user := some usr, password := some pwd,
                                 host := "example.com".toStr, path := pth, fragment := frg }
        let hr ← humanRepr ⟨b, o2⟩ u
        let v ← encodeUrl ⟨b, o2⟩ hr
        pure (u.netloc, hr.take 41, v.beq u) : R (Str × Str × Bool)) =
    .ok ("us%20er%C3%A9:p%40w%3A%2F%23%E2%82%AC@example.com".toStr,
         "http://us er".toStr ++ [233] ++ ":p%40w%3A%2F%23".toStr ++ [0x20AC] ++ "@example.com".toStr,
         true) := by unfold usr pwd pth frg; str_lits; intro b; cases b <;> decide +kernel
end checks

end Yarl
