/-
  C05.lean — pure-Python and compiled quoters are interchangeable.
-/
import YarlProofs.Lemmas.DecLemmas
import YarlProofs.Lemmas.WriterLemmas
import YarlProofs.Lemmas.StrLit
import YarlProofs.Lemmas.EagerLemmas
import YarlProofs.Lemmas.BuildShape
namespace Yarl
open Yarl.DecLemmas

/-- every generated quoter configuration: both backends return the same string -/
theorem C05_quote (a : QArgs) (ha : a ∈ Gen.allQuoters) (s : Str) (hs : PyStr s) :
    a.run .py s = a.run .c s := qrun_backend a ha s hs

set_option linter.unusedVariables false in
/-- every generated unquoter configuration: both backends return the same string (`ha` is not used: the statement
    holds for any keyword arguments, `C05_unquote_any`) -/
theorem C05_unquote (a : UArgs) (ha : a ∈ Gen.allUnquoters) (s : Str) : a.run .py s = a.run .c s :=
  uqrun_backend a s

/-- the same for ANY unquoter keyword arguments, not only the generated ones -/
theorem C05_unquote_any (a : UArgs) (s : Str) : a.run .py s = a.run .c s := uqrun_backend a s

set_option linter.unusedVariables false in
/-- growth steps of the compiled writer are invisible, for every buffer size (`hn` is not used: a buffer of size 0
    grows as well) -/
theorem C05_writer (n : Nat) (hn : 0 < n) (cs : List Nat) :
    (Writer.run n (fun _ => false) cs).1 = .ok cs :=
  WriterLemmas.run_ok n cs

theorem C05_writer_gen (cs : List Nat) : (Writer.run Gen.bufSize (fun _ => false) cs).1 = .ok cs :=
  WriterLemmas.run_ok Gen.bufSize cs

/-! ### URL level -/

/-- unquoting is the same function on both backends -/
theorem DecLemmas.uq_backend_fun (o : Oracles) : uq { b := .py, o := o } = uq { b := .c, o := o } :=
  funext fun a => funext (uq_backend o a)

/-- a netloc assembled without encoding does not call the quoter it is given -/
theorem DecLemmas.makeNetloc_backend (o : Oracles) (u p h : Option Str) (port : Option Nat) :
    makeNetloc (q { b := .py, o := o } Gen.QUOTER) u p h port false =
      makeNetloc (q { b := .c, o := o } Gen.QUOTER) u p h port false := makeNetloc_noenc _ _ u p h port

/-! The constructor stage by stage (`EagerLemmas.encodeUrl_eq`): each stage meets the quoters only on pieces cut out
    of the input, which are Python strings. -/

theorem DecLemmas.eagerOut_backend (o : Oracles) (np : NetlocParts) (host : Str)
    (hu : ∀ t, np.user = some t → PyStr t) (hp : ∀ t, np.password = some t → PyStr t) :
    EagerLemmas.eagerOut { b := .py, o := o } np host = EagerLemmas.eagerOut { b := .c, o := o } np host := by
  unfold EagerLemmas.eagerOut cachedUser
  rw [requoteOpt_backend o np.user hu, requoteOpt_backend o np.password hp]
  simp only [makeNetloc_backend o]

theorem DecLemmas.authBlock_backend (o : Oracles) (p : Parts) (hn : PyStr p.netloc) :
    EagerLemmas.authBlock { b := .py, o := o } p = EagerLemmas.authBlock { b := .c, o := o } p := by
  unfold EagerLemmas.authBlock
  split
  · rfl
  · cases hsn : EagerLemmas.authSplit o p.netloc with
    -- not `rfl`: the kernel would compare the two continuations before it looks at the `error`
    | error err => simp only [bind, Except.bind]
    | ok np =>
      have hpy : (∀ t, np.user = some t → PyStr t) ∧ (∀ t, np.password = some t → PyStr t) := by
        unfold EagerLemmas.authSplit at hsn
        split at hsn
        · exact pyStr_splitNetloc o p.netloc hn np hsn
        · cases hsn
          exact ⟨nofun, nofun⟩
      simp only [bind, Except.bind, eagerOut_backend o np _ hpy.1 hpy.2]

theorem DecLemmas.finishUrl_backend (o : Oracles) (p : Parts) (nl : Str) (pre : Option NetPre)
    (h1 : PyStr p.path) (h2 : PyStr p.query) (h3 : PyStr p.fragment) :
    EagerLemmas.finishUrl { b := .py, o := o } p nl pre = EagerLemmas.finishUrl { b := .c, o := o } p nl pre := by
  unfold EagerLemmas.finishUrl
  rw [q_backend o Gen.PATH_REQUOTER mem_PATH_REQUOTER p.path h1,
    q_backend o Gen.QUERY_REQUOTER mem_QUERY_REQUOTER p.query h2,
    q_backend o Gen.FRAGMENT_REQUOTER mem_FRAGMENT_REQUOTER p.fragment h3]

theorem C05_encodeUrl_backend (o : Oracles) (s : Str) (hs : PyStr s) :
    encodeUrl { b := .py, o := o } s = encodeUrl { b := .c, o := o } s := by
  rw [EagerLemmas.encodeUrl_eq, EagerLemmas.encodeUrl_eq]
  cases hp : splitUrl o s with
  | error err => simp only [bind, Except.bind]
  | ok p =>
    obtain ⟨hnet, hpath, hquery, hfrag⟩ := pyStr_splitUrl o s hs p hp
    show (EagerLemmas.authBlock _ p >>= _) = (EagerLemmas.authBlock _ p >>= _)
    rw [authBlock_backend o p hnet]
    simp only [finishUrl_backend o p _ _ hpath hquery hfrag]

/-- the decoded accessors do not depend on the backend (no hypothesis on the URL is needed at all) -/
theorem C05_accessors_backend' (o : Oracles) (u : Url) :
    pathDecoded { b := .py, o := o } u = pathDecoded { b := .c, o := o } u ∧
    pathSafe { b := .py, o := o } u = pathSafe { b := .c, o := o } u ∧
    queryString { b := .py, o := o } u = queryString { b := .c, o := o } u ∧
    fragmentDecoded { b := .py, o := o } u = fragmentDecoded { b := .c, o := o } u ∧
    partsDecoded { b := .py, o := o } u = partsDecoded { b := .c, o := o } u ∧
    name { b := .py, o := o } u = name { b := .c, o := o } u ∧
    suffix { b := .py, o := o } u = suffix { b := .c, o := o } u ∧
    suffixes { b := .py, o := o } u = suffixes { b := .c, o := o } u ∧
    pathQs { b := .py, o := o } u = pathQs { b := .c, o := o } u := by
  simp only [pathQs, pathDecoded, pathSafe, queryString, fragmentDecoded, partsDecoded, name, suffix, suffixes,
    uq_backend_fun o, true_and]
  rfl

set_option linter.unusedVariables false in
/-- the first five of `C05_accessors_backend'` (`hu` is not used: no hypothesis on the URL is needed) -/
theorem C05_accessors_backend (o : Oracles) (u : Url)
    (hu : PyStr u.path ∧ PyStr u.query ∧ PyStr u.fragment ∧ PyStr u.netloc) :
    pathDecoded { b := .py, o := o } u = pathDecoded { b := .c, o := o } u ∧
    pathSafe { b := .py, o := o } u = pathSafe { b := .c, o := o } u ∧
    queryString { b := .py, o := o } u = queryString { b := .c, o := o } u ∧
    fragmentDecoded { b := .py, o := o } u = fragmentDecoded { b := .c, o := o } u ∧
    partsDecoded { b := .py, o := o } u = partsDecoded { b := .c, o := o } u :=
  let h := C05_accessors_backend' o u
  ⟨h.1, h.2.1, h.2.2.1, h.2.2.2.1, h.2.2.2.2.1⟩

/-- user / password accessors -/
theorem C05_userinfo_backend (o : Oracles) (u : Url) :
    user { b := .py, o := o } u = user { b := .c, o := o } u ∧
    password { b := .py, o := o } u = password { b := .c, o := o } u := by
  constructor
  · unfold user; rw [uq_backend_fun o]; rfl
  · unfold password; rw [uq_backend_fun o]; rfl

theorem C05_with_path_backend (o : Oracles) (u : Url) (path : Str) (hp : PyStr path)
    (encoded keepQuery keepFragment : Bool) :
    withPath { b := .py, o := o } u path encoded keepQuery keepFragment =
      withPath { b := .c, o := o } u path encoded keepQuery keepFragment := by
  unfold withPath
  rw [q_backend o Gen.PATH_QUOTER mem_PATH_QUOTER path hp]

theorem C05_with_fragment_backend (o : Oracles) (u : Url) (f : Option Str)
    (hf : ∀ t, f = some t → PyStr t) :
    withFragment { b := .py, o := o } u f = withFragment { b := .c, o := o } u f := by
  unfold withFragment
  cases f with
  | none => rfl
  | some t => simp only [q_backend o Gen.FRAGMENT_QUOTER mem_FRAGMENT_QUOTER t (hf t rfl)]

theorem C05_with_name_backend (o : Oracles) (u : Url) (nm : Str) (hp : PyStr nm)
    (keepQuery keepFragment : Bool) :
    withName { b := .py, o := o } u nm keepQuery keepFragment =
      withName { b := .c, o := o } u nm keepQuery keepFragment := by
  unfold withName
  rw [q_backend o Gen.PATH_QUOTER mem_PATH_QUOTER nm hp]

/-- the re-made authority is written without encoding: the backend is not consulted -/
theorem DecLemmas.remake_backend (o : Oracles) (u : Url) (U P : Option Str) (hb : Str) (port : Option Nat) :
    AuthMod.remake { b := .py, o := o } u U P hb port = AuthMod.remake { b := .c, o := o } u U P hb port := by
  unfold AuthMod.remake
  rw [makeNetloc_backend o]

/-! The authority modifiers through their closed forms (Lemmas/AuthMod.lean): `net` reads `e.o` only, the authority
    is re-made without encoding, so the backend is met only where the argument is quoted. -/

theorem C05_with_user_backend (o : Oracles) (u : Url) (usr : Option Str)
    (hf : ∀ t, usr = some t → PyStr t) :
    withUser { b := .py, o := o } u usr = withUser { b := .c, o := o } u usr := by
  cases usr with
  | none =>
    rw [AuthMod.withUser_none_eq, AuthMod.withUser_none_eq]
    simp only [remake_backend o]
    rfl
  | some t =>
    rw [AuthMod.withUser_some_eq, AuthMod.withUser_some_eq, q_backend o Gen.QUOTER mem_QUOTER t (hf t rfl)]
    simp only [remake_backend o]
    rfl

theorem C05_with_password_backend (o : Oracles) (u : Url) (pw : Option Str)
    (hf : ∀ t, pw = some t → PyStr t) :
    withPassword { b := .py, o := o } u pw = withPassword { b := .c, o := o } u pw := by
  have hq : pw.map (q { b := .py, o := o } Gen.QUOTER) = pw.map (q { b := .c, o := o } Gen.QUOTER) := by
    cases pw with
    | none => rfl
    | some t => rw [Option.map_some, Option.map_some, q_backend o Gen.QUOTER mem_QUOTER t (hf t rfl)]
  rw [AuthMod.withPassword_eq, AuthMod.withPassword_eq, hq]
  simp only [remake_backend o]
  rfl

/-- `with_query(str)` / `with_query(None)` -/
theorem C05_with_query_backend (o : Oracles) (u : Url) (s : Str) (hs : PyStr s) :
    withQuery { b := .py, o := o } u (.str s) = withQuery { b := .c, o := o } u (.str s) ∧
    withQuery { b := .py, o := o } u .none = withQuery { b := .c, o := o } u .none := by
  constructor
  · unfold withQuery getStrQuery
    show (do let qs := (← (if s.isEmpty then Except.ok (some []) else
            Except.ok (some (Gen.QUERY_QUOTER.run .py s)))).getD []; _) = _
    rw [C05_quote Gen.QUERY_QUOTER mem_QUERY_QUOTER s hs]
  · rfl

/-- `with_query(...)`, any argument kind whose strings are Python strings -/
theorem C05_with_query_backend_any (o : Oracles) (u : Url) (a : QArg) (ha : QArgPy a) :
    withQuery { b := .py, o := o } u a = withQuery { b := .c, o := o } u a := by
  unfold withQuery
  simp only [getStrQuery_backend a ha]

theorem C05_extend_query_backend (o : Oracles) (u : Url) (a : QArg) (ha : QArgPy a) :
    extendQuery { b := .py, o := o } u a = extendQuery { b := .c, o := o } u a := by
  unfold extendQuery
  simp only [getStrQuery_backend a ha]

/-- every string argument of `URL.build` is a Python string -/
def DecLemmas.BuildArgsPy (a : BuildArgs) : Prop :=
  PyStr a.authority ∧ (∀ t, a.user = some t → PyStr t) ∧ (∀ t, a.password = some t → PyStr t) ∧
  PyStr a.path ∧ QArgPy a.query ∧ PyStr a.queryString ∧ PyStr a.fragment

/-- the scheme is lowered without the quoting backend (`build` stores the scheme lower-case) -/
theorem DecLemmas.lowerAny_backend (o : Oracles) (s : Str) :
    lowerAny { b := .py, o := o } s = lowerAny { b := .c, o := o } s := rfl

/-- `URL.build(...)`, both modes -/
theorem C05_build_backend (o : Oracles) (a : BuildArgs) (ha : BuildArgsPy a) :
    build { b := .py, o := o } a = build { b := .c, o := o } a := by
  obtain ⟨hauth, huser, hpw, hpath, hq, hqs, hfrag⟩ := ha
  have hQ : ∀ t, PyStr t → q { b := .py, o := o } Gen.QUOTER t = q { b := .c, o := o } Gen.QUOTER t :=
    fun t ht => q_backend o Gen.QUOTER mem_QUOTER t ht
  have hmk : ∀ h port enc, makeNetloc (q { b := .py, o := o } Gen.QUOTER) a.user a.password h port enc =
      makeNetloc (q { b := .c, o := o } Gen.QUOTER) a.user a.password h port enc :=
    fun h port enc => makeNetloc_congr _ _ _ _ _ _ _ (fun t ht => hQ t (huser t ht)) (fun t ht => hQ t (hpw t ht))
  -- stage by stage: the argument checks and the lowering do not see the backend, every other stage quotes Python strings
  have hqsEq : C07_buildQueryString { b := .py, o := o } a = C07_buildQueryString { b := .c, o := o } a := by
    unfold C07_buildQueryString
    rw [getStrQuery_backend a.query hq]
  have hpre : ∀ port qs, buildPreEncoded { b := .py, o := o } a port qs = buildPreEncoded { b := .c, o := o } a port qs := by
    intro port qs
    unfold buildPreEncoded
    simp only [hmk]
  have hnl : ∀ sc, buildNetloc { b := .py, o := o } sc a = buildNetloc { b := .c, o := o } sc a := by
    intro sc
    by_cases hA : a.authority = []
    · by_cases hH : a.host = []
      · rw [buildNetloc_none hA hH, buildNetloc_none hA hH]
      · rw [buildNetloc_host hA hH, buildNetloc_host hA hH]
        simp only [hmk]
    · rw [buildNetloc_authority_eq hA, buildNetloc_authority_eq hA]
      refine bind_congr fun _ => ?_
      cases hsn : splitNetloc o a.authority with
      | error err => simp only [bind, Except.bind]
      | ok np =>
        obtain ⟨h1, h2⟩ := pyStr_splitNetloc o a.authority hauth np hsn
        have hmk' : ∀ h port enc, makeNetloc (q { b := .py, o := o } Gen.QUOTER) np.user np.password h port enc =
            makeNetloc (q { b := .c, o := o } Gen.QUOTER) np.user np.password h port enc :=
          fun h port enc =>
            makeNetloc_congr _ _ _ _ _ _ _ (fun t ht => hQ t (h1 t ht)) (fun t ht => hQ t (h2 t ht))
        simp only [bind, Except.bind, hmk']
  have hpth : ∀ nl, buildPath { b := .py, o := o } nl a.path = buildPath { b := .c, o := o } nl a.path := by
    intro nl
    unfold buildPath buildPath0
    rw [q_backend o Gen.PATH_QUOTER mem_PATH_QUOTER a.path hpath]
  have hfr : buildFragment { b := .py, o := o } a.fragment = buildFragment { b := .c, o := o } a.fragment := by
    unfold buildFragment
    rw [q_backend o Gen.FRAGMENT_QUOTER mem_FRAGMENT_QUOTER a.fragment hfrag]
  rw [build_eq, build_eq]
  cases C07_buildArgCheck a with
  | some err => rfl
  | none =>
    show buildBody _ a = buildBody _ a
    unfold buildBody
    by_cases ht : qargTruthy a.query = true
    · -- a rendered `query=` is stored as it is
      have hbq : ∀ (e : Env) qs, buildQuery e a qs = qs := by
        intro e qs
        unfold buildQuery
        rw [ht]
        rfl
      simp only [hqsEq, hpre, hnl, hpth, hfr, hbq]
      rfl
    · have hbq : buildQuery { b := .py, o := o } a a.queryString = buildQuery { b := .c, o := o } a a.queryString := by
        unfold buildQuery
        rw [q_backend o Gen.QUERY_QUOTER mem_QUERY_QUOTER a.queryString hqs]
      rw [buildQueryString_falsy ((Bool.not_eq_true _).mp ht), buildQueryString_falsy ((Bool.not_eq_true _).mp ht)]
      simp only [bind, Except.bind, hpre, hnl, hpth, hfr, hbq]
      rfl

/-! ### the remaining readers and modifiers that take the backend -/

theorem C05_str_backend (o : Oracles) (u : Url) : str { b := .py, o := o } u = str { b := .c, o := o } u := by
  unfold str
  simp only [makeNetloc_backend o]
  rfl

theorem C05_authority_backend (o : Oracles) (u : Url) :
    authority { b := .py, o := o } u = authority { b := .c, o := o } u := by
  unfold authority
  simp only [makeNetloc_backend o,
    (C05_userinfo_backend o u).1, (C05_userinfo_backend o u).2]
  rfl

theorem C05_origin_backend (o : Oracles) (u : Url) :
    origin { b := .py, o := o } u = origin { b := .c, o := o } u := by
  rw [AuthMod.origin_eq, AuthMod.origin_eq]
  simp only [makeNetloc_backend o]
  rfl

theorem C05_with_host_port_backend (o : Oracles) (u : Url) (h : Str) (p : Option Int) (k : Nat) :
    withHost { b := .py, o := o } u h = withHost { b := .c, o := o } u h ∧
    withPort { b := .py, o := o } u p k = withPort { b := .c, o := o } u p k := by
  constructor
  · rw [AuthMod.withHost_eq, AuthMod.withHost_eq]
    simp only [remake_backend o]
    rfl
  · rw [AuthMod.withPort_eq, AuthMod.withPort_eq]
    simp only [remake_backend o]
    rfl

theorem C05_human_repr_backend (o : Oracles) (u : Url) :
    humanRepr { b := .py, o := o } u = humanRepr { b := .c, o := o } u := by
  have h := C05_accessors_backend' o u
  unfold humanRepr
  simp only [makeNetloc_backend o,
    (C05_userinfo_backend o u).1, (C05_userinfo_backend o u).2, h.1, h.2.2.2.1]
  rfl

theorem C05_with_suffix_backend (o : Oracles) (u : Url) (sfx : Str) (hs : PyStr sfx) (kq kf : Bool) :
    withSuffix { b := .py, o := o } u sfx kq kf = withSuffix { b := .c, o := o } u sfx kq kf := by
  unfold withSuffix
  simp only [q_backend o Gen.PATH_QUOTER mem_PATH_QUOTER sfx hs]

theorem DecLemmas.makeChild_go_backend (o : Oracles) (enc : Bool) (l : List Str) (hl : ∀ p ∈ l, PyStr p) :
    ∀ last parsed nn, makeChild.go { b := .py, o := o } enc l last parsed nn =
      makeChild.go { b := .c, o := o } enc l last parsed nn := by
  induction l with
  | nil => intro last parsed nn; rfl
  | cons p rest ih =>
    intro last parsed nn
    unfold makeChild.go
    simp only [q_backend o Gen.PATH_QUOTER mem_PATH_QUOTER p (hl p (by simp))]
    split
    · rfl
    · exact ih (fun x hx => hl x (by simp [hx])) _ _ _

theorem C05_make_child_backend (o : Oracles) (u : Url) (paths : List Str) (hp : ∀ p ∈ paths, PyStr p)
    (enc : Bool) :
    makeChild { b := .py, o := o } u paths enc = makeChild { b := .c, o := o } u paths enc := by
  unfold makeChild
  rw [makeChild_go_backend o enc paths.reverse (fun p h => hp p (List.mem_reverse.1 h))]

/-! ### non-vacuity -/

namespace DecLemmas
def sampleText : Str := [47, 97, 32, 43, 37, 50, 102, 37, 122, 233, 0x20AC, 0x1F600, 0xD800, 38, 61, 63, 35, 64, 58]
def sampleUrl : Str := " HtTp://us%65r:p w@Example.com:8080/a b/%7e/é?k=v w&x=%zz#fr ag".toStr
end DecLemmas

example : PyStr DecLemmas.sampleText ∧ PyStr DecLemmas.sampleUrl := by unfold DecLemmas.sampleUrl; str_lits; decide +kernel
example : Gen.PATH_REQUOTER ∈ Gen.allQuoters ∧ Gen.QS_UNQUOTER ∈ Gen.allUnquoters := by decide +kernel
/-- both sides of `C05_quote` / `C05_unquote` on a non-trivial input (escapes, non-ASCII, a lone surrogate) -/
example : Gen.PATH_REQUOTER.run .py DecLemmas.sampleText = "/a%20+%2F%25z%C3%A9%E2%82%AC%F0%9F%98%80&=%3F%23@:".toStr ∧
    Gen.PATH_REQUOTER.run .c DecLemmas.sampleText = "/a%20+%2F%25z%C3%A9%E2%82%AC%F0%9F%98%80&=%3F%23@:".toStr := by
  str_lits; decide +kernel
example : Gen.QS_UNQUOTER.run .py "a+b%2Bc%C3%A9%FF%3d".toStr = "a b%2Bc\u00e9%FF%3D".toStr ∧
    Gen.QS_UNQUOTER.run .c "a+b%2Bc%C3%A9%FF%3d".toStr = "a b%2Bc\u00e9%FF%3D".toStr := by
  str_lits; decide +kernel
/-- the writer really grows: 3 growth steps with a 2-byte buffer, same bytes out -/
example : (Writer.run 2 (fun _ => false) [1, 2, 3, 4, 5, 6, 7]).2.allocs = 3 ∧
    (Writer.run 2 (fun _ => false) [1, 2, 3, 4, 5, 6, 7]).2.size = 8 := by decide +kernel
example : 0 < Gen.bufSize := by decide +kernel
/-- `C05_encodeUrl_backend` is about successful constructions too (userinfo, port, every component re-quoted) -/
example : ∀ b : Backend, (encodeUrl ⟨b, Oracles.empty⟩ DecLemmas.sampleUrl).toOption.map
      (fun u => (u.netloc, u.path, u.query, u.fragment)) =
    some ("user:p%20w@example.com:8080".toStr, "/a%20b/~/%C3%A9".toStr, "k=v+w&x=%25zz".toStr, "fr%20ag".toStr) := by
  unfold DecLemmas.sampleUrl; str_lits; intro b; cases b <;> decide +kernel

end Yarl
