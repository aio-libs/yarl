import YarlProofs.C20Headline
import YarlProofs.C08Bridge
/-!
  C20HeadlineMore3.lean — AUDIT LAYER for property C20, continuation of C20Headline.lean (the theorems here need
  C08Bridge.lean, which C20Headline.lean does not import; this file is a leaf, nobody imports it).

  C20 | URLs and caches are safe to share between threads |
  "URL objects and the module-level caches can be used from many threads at once: concurrent construction, accessor
  reads and derivations on shared URLs produce exactly the results of a sequential run, with no exceptions, torn values
  or cross-talk between threads - including through the compiled quoter's shared static buffer and during
  cache_clear()/cache_configure()."

  What is here: a sharpening of GAPS 7 of C20Headline.lean (exceptions).  C20_headline_multi_any_schedule already says
  that every thread's OUTPUTS — exceptions included, as `.handle (.error exc)` — are those of its sequential cache-free
  run.  C08Bridge.lean adds the STATE-level fact behind "no cross-talk" for raising calls: under EVERY schedule of any
  threads, no table of any cache or generation ever holds an entry for a key on which the constructor raises — a
  raising call of one thread leaves nothing behind that another thread (or the same one later) could hit.  Proved
  through the coherence invariant of the threaded machine (`runSched_coherent`, C20Multi.lean), hence under its two
  side conditions (`PrefillOK`, `MemoNamesOK`; both discharged for the real model); the sequential counterpart (C08_headline_failed_constructor_never_cached,
  C08HeadlineMore3.lean) needs none.  Same trust statement as everywhere in C20: the atomic steps are those of the
  MODEL (GAPS 1); that CPython's `lru_cache` does not cache exceptions is transcribed, not proved.

  Vocabulary (second reading guide of C20Headline.lean; C08Bridge.lean).
  `NoEntry w k`      — no table of `w` — any cache, any generation, discarded ones included — has an entry for key `k`.
  `ymodel e key`     — the monolithic model value of a constructor key of the real model: `encodeUrl` (`.url k`),
                       `preEncodedUrl` (`.encoded s`), `build` (`.build a`), `Url.ofParts p` (`.parts` / `.partsUncached`).
-/
namespace Yarl
open Yarl.Cache (Policy)
open Yarl.MultiCache Yarl.MultiInst

/-! ## "with no exceptions, torn values or cross-talk between threads" — raising constructor calls leave no trace, under
    every schedule -/

/-- the abstract multi-cache thread machine: after ANY schedule (any length, any order) of any threads started on a
    coherent world with a shared pool, no table — of any cache, of any generation — has an entry for a key on which
    the constructor raises.  Cites C08_bridge_failed_ctor_never_cached_threads. -/
theorem C20_headline_multi_raising_key_never_cached {I Key Mod Err Parts Val : Type} [DecidableEq I] [DecidableEq Key]
    (sem : MultiCache.Sem I Key Mod Err Parts Val)
    (hp : MultiCache.PrefillOK sem)                      -- pre-computed entries are the lazily computed ones (C09)
    (hn : MemoNamesOK sem)                               -- one derivation per memoised property name
    (pol : I → Policy Key) (w0 : MultiCache.World I Key Parts Val) (pool : List (Option Nat)) (spool : List (Option Parts))
    (hc : MultiCache.Coherent sem w0 pool spool)         -- the threads start on a consistent world
    (progs : List (List (MultiCache.Op I Key Mod))) (sched : List Nat)
    (k : Key) (x : Err) (hk : sem.construct k = .error x) : -- the constructor raises `x` on key `k`
    NoEntry (MultiCache.runSched sem pol w0
      (progs.map (fun p => ({ prog := p, hs := pool } : MultiCache.Thread I Key Mod Err Parts Val))) sched).1 k :=
  C08_bridge_failed_ctor_never_cached_threads hp hn pol w0 pool spool hc progs sched k x hk

/-- the REAL model: threads started on the world an arbitrary sequential prologue `pre` left behind, sharing all the
    constructor caches, under EVERY schedule: if the MODEL's constructor (`encodeUrl` / `preEncodedUrl` / `build`) raises on
    `key`, no table ever holds `key`.  Both side conditions are discharged (`yarl_prefillOK`, `yarl_memoNamesOK`), the
    initial coherence by C08_multi_runWorld_coherent.  Cites C08_bridge_failed_ctor_never_cached_threads. -/
theorem C20_headline_multi_yarl_raising_key_never_cached (e : Env) (hf : Parts → Int) (pol : YCache → Policy (YKey e))
    (caps : YCache → Nat → Option Nat) (gen : YCache → Nat) (pre : List (MultiCache.Op YCache (YKey e) YMod))
    (progs : List (List (MultiCache.Op YCache (YKey e) YMod))) (sched : List Nat)
    (key : YKey e) (x : PyErr) (hk : ymodel e key = .error x) : -- the model's constructor raises `x` (`.url k`: C09 guard, GAPS 3)
    let w := MultiCache.runWorld (yarlMSem e hf) pol { caps := caps, gen := gen } [] pre
    NoEntry (MultiCache.runSched (yarlMSem e hf) pol w.1
      (progs.map (fun p => ({ prog := p, hs := w.2 } : MultiCache.Thread YCache (YKey e) YMod PyErr Parts MVal))) sched).1
      key := by
  intro w
  have hk' : (yarlMSem e hf).construct key = .error x := by rw [R3.construct_eq_ymodel, hk]; rfl
  exact C08_bridge_failed_ctor_never_cached_threads (yarl_prefillOK e hf) (yarl_memoNamesOK e hf) pol w.1 w.2
    (MultiCache.specHandles (yarlMSem e hf) [] pre)
    (C08_multi_runWorld_coherent (yarl_prefillOK e hf) (yarl_memoNamesOK e hf) pol _ [] []
      (C08_multi_init_coherent (yarlMSem e hf) caps gen) pre) progs sched key x hk'

/-! ## non-vacuity -/

-- a raising constructor of the real model: `URL.build(port=True)` (TypeError); three threads, any schedule
example (pol : YCache → Policy (YKey envC)) (sched : List Nat) :
    NoEntry (MultiCache.runSched (yarlMSem envC MultiRun.hf0) pol { caps := fun _ _ => some 2 }
      ([[.new R3.Checks.badBuild, .new (.url YarlRun.k1)], [.new (.url YarlRun.k1), .new R3.Checks.badBuild, .read 0 "str"],
        [.clear .encodeUrl, .new R3.Checks.badBuild]].map
        (fun p => ({ prog := p, hs := [] } : MultiCache.Thread YCache (YKey envC) YMod PyErr Parts MVal))) sched).1
      R3.Checks.badBuild :=
  C20_headline_multi_yarl_raising_key_never_cached envC MultiRun.hf0 pol (fun _ _ => some 2) (fun _ => 0) []
    _ sched R3.Checks.badBuild .typeError (by decide +kernel)

end Yarl
