/-
  C03Netloc.lean — property C03 with hypotheses on the INPUT (C03Headline.lean GAPS 1, 2 and 7 refer to this file).

  "For every URL the library produces from valid input (RFC-valid scheme, syntactically valid host), parsing
   str(url) again yields a URL with an identical string form and identical scheme, user, password, host, port,
   path, query and fragment."

  C03Reach.lean proves the fixed point under the hypothesis `NetlocCanon e u` about the STORED authority.  Here that
  hypothesis is derived from conditions on the INPUT:

  * `HostTextOK h0` (Lemmas/NetShape.lean) — the supported ASCII host texts as they stand in the input, in any
    letter case: a name / IPv4 text without ':' (visible ASCII, none of `/ ? # @ [ ]`: reg-names, reg-names that
    end in a digit, trailing dot, IPv4 literals), or an IPv6 literal in any accepted spelling, with or without
    a zone id.  Kind lemmas `C03_host_*`; `HostFix` family lemmas `C03_hostFix_*`.
  * `AuthInput o n` — the input authority `n` is empty, or `split_netloc` accepts it, it names a host with
    `HostTextOK`, and a host that is no IPv6 literal is not written in brackets.
  * `C03_encodeUrl_netlocCanon`, `C03_build_netlocCanon` — the constructor / `build(encoded=False)` on such input
    produce `NetlocCanon`;  `C03_constructor_fixed_point`, `C03_build_fixed_point` —
    the fixed-point theorems with hypotheses on the input text only (plus the two recorded `C03Guards` on the result).
  * `C03_fixed_point_eq` (C03Reach.lean) — `URL(str(u)) == u` (`eqKey`) holds EXACTLY when no explicit default port
    is stored.
-/
import YarlModel
import YarlProofs.Lemmas.NetShape
namespace Yarl
open ReachFix FixLemmas NetShape NetlocLemmas HostLemmas

/-! ## host kinds (input side) and `HostFix` families (stored side) -/

/-- kind: ASCII reg-name in ANY letter case — non-empty, visible ASCII, none of `/ ? # : @ [ ]` ('%' allowed; the
    constructor does not validate).  Reg-names ending in a digit or in a dot and IPv4 literals are instances. -/
theorem C03_host_regname {h : Str} (hne : h ≠ []) (hch : ∀ c ∈ h, nameChar c = true) : HostTextOK h :=
  hostText_name hne hch

set_option linter.unusedVariables false in
/-- kind: reg-name that ends in a digit but is no IPv4 literal ("h1", "example.com1", "1.2.3.4.5") — nothing
    beyond `C03_host_regname` is needed on the input side; `_encode_host` takes the `ip_address` detour and falls
    through (`C03_hostFix_regname_digit`) -/
theorem C03_host_regname_digit {h : Str} (hne : h ≠ []) (hch : ∀ c ∈ h, nameChar c = true)
    (l : Nat) (hl : h.getLast? = some l) (hd : isDigitC l = true) : HostTextOK h :=
  hostText_name hne hch

/-- kind: host with a trailing dot -/
theorem C03_host_trailing_dot {h : Str} (hch : ∀ c ∈ h, nameChar c = true) : HostTextOK (h ++ [46]) := by
  refine hostText_name (by simp) ?_
  intro c hc
  rcases List.mem_append.1 hc with hc | hc
  · exact hch c hc
  · simp only [List.mem_cons, List.not_mem_nil, or_false] at hc
    subst hc; decide

/-- kind: IPv4 literal -/
theorem C03_host_ipv4 {h : Str} {o4 : List Nat} (h4 : parseIPv4 h = some o4) : HostTextOK h := hostText_ipv4 h4

/-- kind: IPv6 literal in any spelling `ipaddress` accepts (upper case, uncompressed, IPv4 suffix …) -/
theorem C03_host_ipv6 {h : Str} {h8 : List Nat} (h37 : 37 ∉ h) (h6 : parseIPv6 h = some h8) : HostTextOK h :=
  hostText_ipv6 h37 h6

/-- kind: IPv6 literal with a zone id (visible ASCII, none of `/ ? # @ [ ]`; ':' and '%' allowed) -/
theorem C03_host_ipv6_zone {a z : Str} {h8 : List Nat} (h37 : 37 ∉ a) (h6 : parseIPv6 a = some h8)
    (hz : ∀ c ∈ z, textChar c = true) : HostTextOK (a ++ 37 :: z) := hostText_ipv6_zone h37 h6 hz

/-- `HostFix` family: EVERY non-empty text of plain host characters (`hostChar`: visible ASCII, no upper-case
    letter, none of `/ ? # : @ [ ]`) — a reg-name, ending in a digit or not, or an IPv4 literal.  It is
    `FixLemmas.hostFix_plain`, and it subsumes `hostFix_basic`, whose clause "does not end in a digit" is not needed. -/
theorem C03_hostFix_lower (o : Oracles) {h : Str} (hne : h ≠ []) (hch : ∀ c ∈ h, hostChar c = true) : HostFix o h :=
  hostFix_plain o hne hch

/-- `HostFix` family: reg-name ending in a digit that is no IPv4 literal — with the facts that make it a separate
    case: `_encode_host` does try `ip_address` on it, and that fails -/
theorem C03_hostFix_regname_digit (o : Oracles) {h : Str} (hne : h ≠ []) (hch : ∀ c ∈ h, hostChar c = true)
    (l : Nat) (hl : h.getLast? = some l) (hd : isDigitC l = true) (h4 : parseIPv4 (partition 37 h).1 = none) :
    HostFix o h ∧ looksIP o h = .ok true ∧ ipRes h = none :=
  hostFix_regname_digit o hne hch l hl hd h4

/-- `HostFix` family: trailing dot -/
theorem C03_hostFix_trailing_dot (o : Oracles) {h : Str} (hch : ∀ c ∈ h, hostChar c = true) :
    HostFix o (h ++ [46]) := hostFix_trailing_dot o hch

/-- `HostFix` family: compressed IPv6 text with a zone id -/
theorem C03_hostFix_ipv6_zone (o : Oracles) (h8 : List Nat) (hl : h8.length = 8) (hx : ∀ x ∈ h8, x < 65536)
    (z : Str) (hz : ∀ c ∈ z, textChar c = true) : HostFix o (ipv6ToStr h8 ++ 37 :: z) :=
  hostFix_ipv6_zone o h8 hl hx z hz

/-- … on a concrete text (the examples of this file, C03Mech.lean and C03MechChecks.lean use it) -/
theorem hostFix_fe80_zone (o : Oracles) : HostFix o "fe80::1%Eth0".toStr := by
  have e : ipv6ToStr [0xfe80, 0, 0, 0, 0, 0, 0, 1] ++ 37 :: "Eth0".toStr = "fe80::1%Eth0".toStr := by decide +kernel
  exact e ▸ C03_hostFix_ipv6_zone o [0xfe80, 0, 0, 0, 0, 0, 0, 1] rfl (by decide +kernel) "Eth0".toStr
    (by decide +kernel)

/-- the link between the two sides: `_encode_host(h0, validate_host=False)` of a supported host text is (the
    bracketed form of) a `HostFix` host -/
theorem C03_encodeHost_hostFix (o : Oracles) {h0 r : Str} (hk : HostTextOK h0) (he : encodeHost o h0 false = .ok r) :
    ∃ h, r = bracket h ∧ HostFix o h ∧ (58 ∈ h ↔ 58 ∈ h0) := encodeHost_hostFix o hk he

/-- … and with validation on (`build(host=…)`, `with_host`) EVERY accepted non-empty ASCII argument is -/
theorem C03_encodeHost_hostFix_validated (o : Oracles) {h0 r : Str} (ha : isAscii h0 = true) (hne : h0 ≠ [])
    (he : encodeHost o h0 true = .ok r) : ∃ h, r = bracket h ∧ HostFix o h :=
  encodeHost_hostFix_validated o ha hne he

/-- hence every non-empty ASCII argument of `with_host` satisfies the side condition `UOp.NetArgs` of
    `C03_applyOp_netlocCanon` / `C03_op_sequence_fixed_point` -/
theorem C03_withHost_netArgs (e : Env) (s : Str) (ha : isAscii s = true) (hne : s ≠ []) :
    (UOp.withHost s).NetArgs e :=
  fun _ heh => encodeHost_hostFix_validated e.o ha hne heh

/-! ## the constructor -/

/-- an authority without ':' '@' '[' (the fast path of `encode_url`) that is a supported host text -/
theorem C03_authInput_plain (o : Oracles) {n : Str} (h58 : 58 ∉ n) (h64 : 64 ∉ n) (h91 : 91 ∉ n)
    (hk : HostTextOK n) : AuthInput o n := by
  right
  refine ⟨{ user := none, password := none, host := some n, port := none }, n, ?_, rfl, hk, ?_⟩
  · exact splitNetloc_noDelims o hk.ne h58 h64 h91
  · intro _
    rw [ParseLemmas.rpartition_snd_snd_of_mem_false (mem_false_iff.mpr h64)]
    exact h91

/-- the witnesses: the stored authority of a constructor result is `[user[:pw]@]host[:port]` with the port
    `split_netloc` read -/
theorem C03_encodeUrl_authShape (e : Env) (s : Str) (u : Url) (pt : Parts) (np : NetlocParts) (h0 : Str)
    (hs : PyStr s) (hu : encodeUrl e s = .ok u) (hpt : splitUrl e.o s = .ok pt) (hne : pt.netloc ≠ [])
    (hsp : splitNetloc e.o pt.netloc = .ok np) (hhost : np.host = some h0) (hk : HostTextOK h0)
    (hwrap : 58 ∉ h0 → 91 ∉ (rpartition 64 pt.netloc).2.2) :
    ∃ user pw host, AuthShape e u user pw host np.port := by
  obtain ⟨p, netloc, pre, hp, hn0, rfl⟩ := encodeUrl_inv e s u hu
  rw [hpt] at hp
  cases hp
  obtain ⟨user, pw, _, host, h1, h2, ⟨rfl, h3⟩, h4⟩ := netBlock_shapeW e pt.scheme pt.netloc np h0 netloc pre hne
    (WfLemmas.splitUrl_pyStr e.o s hs pt hpt).1 hsp hhost (hostStep_plain hk hwrap) hn0
  exact ⟨user, pw, host, ⟨h1, h2, h3, fun p hp => splitNetloc_port_range e.o pt.netloc np p hsp hp, Or.inr h4⟩⟩

/-- The auto-encoding constructor on an input whose authority is empty or names a supported host
    produces a URL with `NetlocCanon` -/
theorem C03_encodeUrl_netlocCanon (e : Env) (s : Str) (u : Url) (pt : Parts) (hs : PyStr s)
    (hu : encodeUrl e s = .ok u) (hpt : splitUrl e.o s = .ok pt) (ha : AuthInput e.o pt.netloc) :
    NetlocCanon e u := by
  by_cases hne : pt.netloc = []
  · obtain ⟨p, netloc, pre, hp, hn0, rfl⟩ := encodeUrl_inv e s u hu
    rw [hpt] at hp
    cases hp
    rw [hne, netBlock_nil] at hn0
    cases hn0
    exact NetlocCanon.empty rfl rfl
  · rcases ha with h0 | ⟨np, h0, hsp, hhost, hk, hwrap⟩
    · exact absurd h0 hne
    · obtain ⟨user, pw, host, hsh⟩ := C03_encodeUrl_authShape e s u pt np h0 hs hu hpt hne hsp hhost hk hwrap
      exact hsh.canon

/-- the form asked for: split authority, user / password / host / port named.  (User and password need no
    hypothesis: they are sub-strings of the Python string `s`.) -/
theorem C03_encodeUrl_netlocCanon_split (e : Env) (s : Str) (u : Url) (pt : Parts) (np : NetlocParts) (h0 : Str)
    (hs : PyStr s) (hu : encodeUrl e s = .ok u) (hpt : splitUrl e.o s = .ok pt)
    (hsp : splitNetloc e.o pt.netloc = .ok np) (hhost : np.host = some h0) (hk : HostTextOK h0)
    (hwrap : 58 ∉ h0 → 91 ∉ (rpartition 64 pt.netloc).2.2) : NetlocCanon e u :=
  C03_encodeUrl_netlocCanon e s u pt hs hu hpt (Or.inr ⟨np, h0, hsp, hhost, hk, hwrap⟩)

/-- … and the fast path (no ':' '@' '[' in the authority): the authority is the host -/
theorem C03_encodeUrl_netlocCanon_plain (e : Env) (s : Str) (u : Url) (pt : Parts) (hs : PyStr s)
    (hu : encodeUrl e s = .ok u) (hpt : splitUrl e.o s = .ok pt)
    (h58 : 58 ∉ pt.netloc) (h64 : 64 ∉ pt.netloc) (h91 : 91 ∉ pt.netloc) (hk : HostTextOK pt.netloc) :
    NetlocCanon e u :=
  C03_encodeUrl_netlocCanon e s u pt hs hu hpt (C03_authInput_plain e.o h58 h64 h91 hk)

/-! ## `build(encoded=False)` -/

/-- `build(encoded=False)` — authority route: as the constructor; host route: ANY accepted ASCII `host=`
    (it is validated), `user=` / `password=` Python strings — produces a URL with `NetlocCanon` -/
theorem C03_build_netlocCanon (e : Env) (a : BuildArgs) (u : Url) (henc : a.encoded = false)
    (hok : BuildNetOK e a) (hb : build e a = .ok u) : NetlocCanon e u := by
  obtain ⟨_, _, _, h | ⟨user, pw, host, port, hsh, _⟩⟩ := build_shape e a u henc hok hb
  · exact NetlocCanon.empty h.1 h.2
  · exact hsh.canon

/-! ## the fixed-point theorems with hypotheses on the input only -/

/-- "For every URL the library produces [with the constructor] from valid input … parsing str(url) again
    yields …".  VALID INPUT: `s` is a Python string whose authority is empty or names a supported host
    (`AuthInput`); the scheme needs no hypothesis (`C03_encodeUrl_scheme`).  The only hypothesis on the result
    are the two recorded exclusions `C03Guards u` (F-C03-colon, F-C03-rootless). -/
theorem C03_constructor_fixed_point (e : Env) (s : Str) (u : Url) (pt : Parts) (hs : PyStr s)
    (hu : encodeUrl e s = .ok u) (hpt : splitUrl e.o s = .ok pt) (ha : AuthInput e.o pt.netloc)
    (hg : C03Guards u) :
    ∃ t u', str e u = .ok t ∧ encodeUrl e t = .ok u' ∧ str e u' = .ok t ∧ u'.scheme = u.scheme ∧
      u'.path = C07_strPath u ∧ u'.query = u.query ∧ u'.fragment = u.fragment ∧
      (u'.netloc = u.netloc ↔ NoDefaultPort e u) ∧ (eqKey u' = eqKey u ↔ NoDefaultPort e u) ∧
      (Url.beq u' u = true ↔ NoDefaultPort e u) ∧
      port e u' = port e u ∧ rawHost e u' = rawHost e u ∧ rawUser e u' = rawUser e u ∧
      rawPassword e u' = rawPassword e u ∧ CanonUrl e.b u' ∧ NetlocCanon e u' :=
  C03_fixed_point_eq e u (C03_encodeUrl_canon e s hs u hu) (C03_encodeUrl_netlocCanon e s u pt hs hu hpt ha)
    (C03_encodeUrl_scheme e s u hs hu) hg

/-- for a constructor result "no explicit default port" is a condition on the input: the port `split_netloc`
    read is not the default port of the scheme `split_url` read -/
theorem C03_constructor_noDefaultPort (e : Env) (s : Str) (u : Url) (pt : Parts) (np : NetlocParts) (h0 : Str)
    (hs : PyStr s) (hu : encodeUrl e s = .ok u) (hpt : splitUrl e.o s = .ok pt) (hne : pt.netloc ≠ [])
    (hsp : splitNetloc e.o pt.netloc = .ok np) (hhost : np.host = some h0) (hk : HostTextOK h0)
    (hwrap : 58 ∉ h0 → 91 ∉ (rpartition 64 pt.netloc).2.2) :
    u.scheme = pt.scheme ∧ explicitPort e u = .ok np.port ∧
      (NoDefaultPort e u ↔ ∀ p, np.port = some p → some p ≠ defaultPort pt.scheme) := by
  obtain ⟨user, pw, host, hsh⟩ := C03_encodeUrl_authShape e s u pt np h0 hs hu hpt hne hsp hhost hk hwrap
  have hsc : u.scheme = pt.scheme := by
    obtain ⟨p, netloc, pre, hp, hn0, rfl⟩ := encodeUrl_inv e s u hu
    rw [hpt] at hp
    cases hp
    rfl
  exact ⟨hsc, hsh.explicitPort, hsc ▸ noDefaultPort_iff hsh.explicitPort⟩

/-- `build(encoded=False)` never stores an explicit default port -/
theorem C03_build_noDefaultPort (e : Env) (a : BuildArgs) (u : Url) (henc : a.encoded = false)
    (hok : BuildNetOK e a) (hb : build e a = .ok u) : NoDefaultPort e u := by
  obtain ⟨sc, _, hsc, h | ⟨user, pw, host, port, hsh, hnd⟩⟩ := build_shape e a u henc hok hb
  · exact noDefaultPort_empty e u h.1 h.2
  · exact (noDefaultPort_iff hsh.explicitPort).2 (hsc ▸ hnd)

/-! ### the `scheme=` argument of `build`: scheme characters in any case -/

/-- a string of scheme characters in ANY case (the empty scheme included) -/
def SchemeChars (s : Str) : Prop := ∀ c ∈ s, mem c Gen.schemeChars = true

instance (s : Str) : Decidable (SchemeChars s) := by unfold SchemeChars; infer_instance

theorem schemeOK'_chars {s : Str} (h : SchemeOK' s) : SchemeChars s := by
  rcases h with rfl | h
  · intro c hc; cases hc
  · exact fun c hc => (h.2 c hc).1

/-- `build` lowers the scheme (fix e21485a): scheme characters in any case are stored as an RFC-valid lower-case
    scheme -/
theorem lowerAny_schemeChars (e : Env) {s : Str} (h : SchemeChars s) :
    lowerAny e s = .ok (lower s) ∧ SchemeOK' (lower s) := by
  have tab := fun c hc => UnsplitLemmas.schemeChars_lower c (mem_iff.mp (h c hc))
  constructor
  · apply BuildFix.lowerAny_ascii
    exact isAscii_iff.mpr fun c hc => (tab c hc).2.2
  · cases s with
    | nil => exact Or.inl rfl
    | cons x r =>
      right
      refine ⟨by simp [lower], ?_⟩
      intro c hc
      unfold lower at hc
      obtain ⟨d, hd, rfl⟩ := List.mem_map.1 hc
      exact ⟨(tab d hd).1, (tab d hd).2.1⟩

/-- "For every URL the library produces [with `build(encoded=False)`] from valid input …".  VALID INPUT:
    `BuildArgsPy a` (path / query / fragment are Python strings), `BuildNetOK e a` (authority as for the
    constructor, or an ASCII `host=` with Python-string `user=` / `password=`), a `scheme=` of scheme characters
    in ANY CASE (`build` stores the scheme lower-case, fix e21485a; an RFC-valid lower-case scheme,
    `SchemeOK' a.scheme`, is a special case: `schemeOK'_chars`).  Here `URL(str(u)) == u` holds unconditionally. -/
theorem C03_build_fixed_point (e : Env) (a : BuildArgs) (u : Url) (henc : a.encoded = false)
    (hpy : BuildArgsPy a) (hok : BuildNetOK e a) (hsch : SchemeChars a.scheme) (hb : build e a = .ok u)
    (hg : C03Guards u) :
    ∃ t u', str e u = .ok t ∧ encodeUrl e t = .ok u' ∧ str e u' = .ok t ∧ u'.scheme = u.scheme ∧
      u'.path = C07_strPath u ∧ u'.query = u.query ∧ u'.fragment = u.fragment ∧
      u'.netloc = u.netloc ∧ eqKey u' = eqKey u ∧ Url.beq u' u = true ∧
      port e u' = port e u ∧ rawHost e u' = rawHost e u ∧ rawUser e u' = rawUser e u ∧
      rawPassword e u' = rawPassword e u ∧ CanonUrl e.b u' ∧ NetlocCanon e u' ∧ u.scheme = lower a.scheme := by
  obtain ⟨sc, hl, hsc, _⟩ := build_shape e a u henc hok hb
  obtain ⟨hl', hok'⟩ := lowerAny_schemeChars e hsch
  have hsc' : u.scheme = lower a.scheme := by
    rw [hl'] at hl; rw [hsc]; exact (Except.ok.inj hl).symm
  obtain ⟨t, u', k1, k2, k3, k4, k5, k6, k7, k8, k9, k10, k11, k12, k13, k14, k15, k16⟩ :=
    C03_fixed_point_eq e u (C03_build_canon e a u henc hpy hb) (C03_build_netlocCanon e a u henc hok hb)
      (by rw [hsc']; exact hok') hg
  have hnd := C03_build_noDefaultPort e a u henc hok hb
  exact ⟨t, u', k1, k2, k3, k4, k5, k6, k7, k8.2 hnd, k9.2 hnd, k10.2 hnd, k11, k12, k13, k14, k15, k16, hsc'⟩

/-! ## reachable URLs -/

/-- URLs the auto-encoding API produces FROM VALID INPUT: `ReachC` with the entry points restricted to inputs
    naming a supported host, and the authority-writing operations to arguments that keep it so
    (`UOp.NetArgs`: `with_host` — any non-empty ASCII argument, `C03_withHost_netArgs`; `join` — a reference
    with `NetlocCanon`) -/
inductive ReachV (e : Env) : Url → Prop
  | ctor (s : Str) (u : Url) (pt : Parts) : PyStr s → encodeUrl e s = .ok u → splitUrl e.o s = .ok pt →
      AuthInput e.o pt.netloc → ReachV e u
  | build (a : BuildArgs) (u : Url) : a.encoded = false → BuildArgsPy a → BuildNetOK e a → build e a = .ok u →
      ReachV e u
  | op (u : Url) (op : UOp) (v : Url) : ReachV e u → op.ArgsCanon e.b → op.NetArgs e → applyOp e u op = .ok v →
      ReachV e v
  | join (u r : Url) : ReachV e u → ReachV e r → ReachV e (join e u r)

theorem C03_reachV_reachC (e : Env) (u : Url) (h : ReachV e u) : ReachC e u := by
  induction h with
  | ctor s u pt hs h _ _ => exact ReachC.ctor s u hs h
  | build a u henc hpy _ h => exact ReachC.build a u henc hpy h
  | op u op v _ ha _ h ih => exact ReachC.op u op v ih ha h
  | join u r _ _ ihu ihr => exact ReachC.join u r ihu ihr

/-- every URL reachable from valid input carries an authority the library writes -/
theorem C03_reachV_netlocCanon (e : Env) (u : Url) (h : ReachV e u) : NetlocCanon e u := by
  induction h with
  | ctor s u pt hs h hpt ha => exact C03_encodeUrl_netlocCanon e s u pt hs h hpt ha
  | build a u henc _ hok h => exact C03_build_netlocCanon e a u henc hok h
  | op u op v _ ha hx h ih => exact C03_applyOp_netlocCanon e u ih op ha.toPy hx v h
  | join u r _ _ ihu ihr => exact C03_join_netlocCanon e u r ihu ihr

/-- operation sequences from a valid constructor call -/
theorem C03_applyOps_reachV (e : Env) (ops : List UOp) : ∀ (u v : Url), ReachV e u →
    (∀ op ∈ ops, op.ArgsCanon e.b ∧ op.NetArgs e) → applyOps e u ops = .ok v → ReachV e v :=
  applyOps_closed (fun u op w hu ha hw => ReachV.op u op w hu ha.1 ha.2 hw) ops

/-! ## the side conditions of `AuthInput` are needed (true facts about the model, by computation)

  Both are further members of the recorded class F-C03-bracket ("malformed brackets that `split_url` accepts"):
  `split_url` checks the FIRST '[' … ']' of the whole authority, `split_netloc` looks for brackets in the text
  after the last '@'. -/

/-- "a host that is no IPv6 literal is not written in brackets" is needed: `URL('http://[a:b]@[1.2.3.4]/')` is
    accepted (the bracket check sees "[a:b]" in the userinfo), the host "1.2.3.4" (`HostTextOK`) keeps its
    brackets, and the string form "http://%5Ba:b%5D@[1.2.3.4]/" is REJECTED when read again -/
theorem C03_bracketed_ipv4_counterexample :
    let e : Env := ⟨.py, Oracles.empty⟩
    ∃ u np, encodeUrl e "http://[a:b]@[1.2.3.4]/".toStr = .ok u ∧
      splitNetloc e.o "[a:b]@[1.2.3.4]".toStr = .ok np ∧ np.host = some "1.2.3.4".toStr ∧
      HostTextOK "1.2.3.4".toStr ∧ 91 ∈ (rpartition 64 "[a:b]@[1.2.3.4]".toStr).2.2 ∧
      u.netloc = "%5Ba:b%5D@[1.2.3.4]".toStr ∧ str e u = .ok "http://%5Ba:b%5D@[1.2.3.4]/".toStr ∧
      encodeUrl e "http://%5Ba:b%5D@[1.2.3.4]/".toStr = .error .valueError :=
  ⟨{ scheme := "http".toStr, netloc := "%5Ba:b%5D@[1.2.3.4]".toStr, path := [47], query := [], fragment := [],
     pre := some { rawHost := some "1.2.3.4".toStr, explicitPort := none, rawUser := some "%5Ba".toStr,
                   rawPassword := some "b%5D".toStr } },
   { user := some "[a".toStr, password := some "b]".toStr, host := some "1.2.3.4".toStr, port := none },
   by str_lits; decide +kernel, by str_lits; decide +kernel, rfl, C03_host_ipv4 (o4 := [1, 2, 3, 4]) (by str_lits; decide +kernel),
   by str_lits; decide +kernel, rfl, by str_lits; decide +kernel, by str_lits; decide +kernel⟩

/-- "no ']' in the host text" is needed: `URL('http://[a:b@h]/')` is accepted, the host is "h]", the string
    form "http://%5Ba:b@h]/" is REJECTED when read again -/
theorem C03_bracket_in_host_counterexample :
    let e : Env := ⟨.py, Oracles.empty⟩
    ∃ u np, encodeUrl e "http://[a:b@h]/".toStr = .ok u ∧
      splitNetloc e.o "[a:b@h]".toStr = .ok np ∧ np.host = some "h]".toStr ∧
      u.netloc = "%5Ba:b@h]".toStr ∧ str e u = .ok "http://%5Ba:b@h]/".toStr ∧
      encodeUrl e "http://%5Ba:b@h]/".toStr = .error .valueError :=
  ⟨{ scheme := "http".toStr, netloc := "%5Ba:b@h]".toStr, path := [47], query := [], fragment := [],
     pre := some { rawHost := some "h]".toStr, explicitPort := none, rawUser := some "%5Ba".toStr,
                   rawPassword := some "b".toStr } },
   { user := some "[a".toStr, password := some "b".toStr, host := some "h]".toStr, port := none },
   by str_lits; decide +kernel, by str_lits; decide +kernel, rfl, rfl, by str_lits; decide +kernel, by str_lits; decide +kernel⟩

/-! ## non-vacuity -/

section checks

-- the host kinds, on concrete texts
example : HostTextOK "Example.COM".toStr := C03_host_regname (by decide +kernel) (by decide +kernel)
example : HostTextOK "h1".toStr := C03_host_regname_digit (by decide +kernel) (by decide +kernel) 49 (by decide +kernel) (by decide +kernel)
example : HostTextOK "Example.com1".toStr := C03_host_regname (by decide +kernel) (by decide +kernel)
example : HostTextOK "1.2.3.Example".toStr := C03_host_regname (by decide +kernel) (by decide +kernel)
example : HostTextOK "1.2.3.4.5".toStr := C03_host_regname (by decide +kernel) (by decide +kernel)
example : HostTextOK "example.com.".toStr := C03_host_trailing_dot (h := "example.com".toStr) (by decide +kernel)
example : HostTextOK "10.0.0.255".toStr := C03_host_ipv4 (o4 := [10, 0, 0, 255]) (by decide +kernel)
example : HostTextOK "FE80:0:0::1".toStr :=
  C03_host_ipv6 (h8 := [0xfe80, 0, 0, 0, 0, 0, 0, 1]) (by decide +kernel) (by decide +kernel)
example : HostTextOK "::FFFF:1.2.3.4".toStr :=
  C03_host_ipv6 (h8 := [0, 0, 0, 0, 0, 0xffff, 0x102, 0x304]) (by decide +kernel) (by decide +kernel)
example : HostTextOK "FE80:0:0::1%Eth0".toStr :=
  C03_host_ipv6_zone (a := "FE80:0:0::1".toStr) (z := "Eth0".toStr) (h8 := [0xfe80, 0, 0, 0, 0, 0, 0, 1])
    (by decide +kernel) (by decide +kernel) (by decide +kernel)

-- the stored side: the hypotheses of the `HostFix` family lemmas
example (o : Oracles) : HostFix o "example.com1".toStr ∧ looksIP o "example.com1".toStr = .ok true ∧
    ipRes "example.com1".toStr = none :=
  C03_hostFix_regname_digit o (by decide +kernel) (by decide +kernel) 49 (by decide +kernel) (by decide +kernel) (by decide +kernel)
example (o : Oracles) : HostFix o "fe80::1%Eth0".toStr := hostFix_fe80_zone o
example : ipv6ToStr [0xfe80, 0, 0, 0, 0, 0, 0, 1] ++ 37 :: "Eth0".toStr = "fe80::1%Eth0".toStr := by decide +kernel

/-- a constructor input with userinfo (a superfluous escape), an upper-case uncompressed IPv6 literal with zone,
    a non-default port, a dot segment -/
def netIn : Str := "HTTP://Us%41er:P%40ss@[FE80:0:0::1%Eth0]:8080/a/./b?x=1#f".toStr

def netPt : Parts :=
  { scheme := "http".toStr, netloc := "Us%41er:P%40ss@[FE80:0:0::1%Eth0]:8080".toStr, path := "/a/./b".toStr,
    query := "x=1".toStr, fragment := "f".toStr }

theorem netIn_split : splitUrl Oracles.empty netIn = .ok netPt := by unfold netIn netPt; str_lits; decide +kernel

theorem netIn_auth : AuthInput Oracles.empty netPt.netloc := by
  right
  refine ⟨{ user := some "Us%41er".toStr, password := some "P%40ss".toStr, host := some "FE80:0:0::1%Eth0".toStr,
            port := some 8080 }, "FE80:0:0::1%Eth0".toStr, by unfold netPt; str_lits; decide +kernel, rfl, ?_, ?_⟩
  · exact C03_host_ipv6_zone (a := "FE80:0:0::1".toStr) (z := "Eth0".toStr) (h8 := [0xfe80, 0, 0, 0, 0, 0, 0, 1])
      (by decide +kernel) (by decide +kernel) (by decide +kernel)
  · intro h; exact absurd (by decide +kernel) h

/-- the constructor theorem applies (both backends), and the result is the expected one -/
example (b : Backend) (u : Url) (hu : encodeUrl ⟨b, Oracles.empty⟩ netIn = .ok u) :
    NetlocCanon ⟨b, Oracles.empty⟩ u ∧ ∃ t u', str ⟨b, Oracles.empty⟩ u = .ok t ∧
      encodeUrl ⟨b, Oracles.empty⟩ t = .ok u' ∧ str ⟨b, Oracles.empty⟩ u' = .ok t ∧ eqKey u' = eqKey u := by
  have hpy : PyStr netIn := by unfold netIn; str_lits; decide +kernel
  have hna := C03_encodeUrl_netlocCanon ⟨b, Oracles.empty⟩ netIn u netPt hpy hu netIn_split netIn_auth
  have hrun : encodeUrl ⟨b, Oracles.empty⟩ netIn =
      .ok (urlOf "http".toStr "UsAer:P%40ss@[fe80::1%Eth0]:8080".toStr "/a/b".toStr "x=1".toStr "f".toStr
        (preOf (some "UsAer".toStr) (some "P%40ss".toStr) "fe80::1%Eth0".toStr (some 8080))) := by
    unfold netIn; str_lits; cases b <;> decide +kernel
  rw [hrun] at hu
  cases hu
  obtain ⟨t, u', h1, h2, h3, _, _, _, _, _, h9, _⟩ :=
    C03_constructor_fixed_point ⟨b, Oracles.empty⟩ netIn _ netPt hpy hrun netIn_split netIn_auth
      (C03_guards_of_authority _ (by decide +kernel) (by decide +kernel))
  refine ⟨hna, t, u', h1, h2, h3, h9.2 ?_⟩
  intro p hp
  have : explicitPort ⟨b, Oracles.empty⟩
      (urlOf "http".toStr "UsAer:P%40ss@[fe80::1%Eth0]:8080".toStr "/a/b".toStr "x=1".toStr "f".toStr
        (preOf (some "UsAer".toStr) (some "P%40ss".toStr) "fe80::1%Eth0".toStr (some 8080))) = .ok (some 8080) := rfl
  rw [this] at hp
  cases hp
  decide +kernel

/-- the fast path: a digit-ending upper-case reg-name, no ':' '@' '[' -/
example (b : Backend) (u : Url) (hu : encodeUrl ⟨b, Oracles.empty⟩ "http://Example.COM1/p".toStr = .ok u) :
    NetlocCanon ⟨b, Oracles.empty⟩ u :=
  C03_encodeUrl_netlocCanon_plain ⟨b, Oracles.empty⟩ _ u
    { scheme := "http".toStr, netloc := "Example.COM1".toStr, path := "/p".toStr, query := [], fragment := [] }
    (by decide +kernel) hu (by show splitUrl Oracles.empty _ = _; decide +kernel) (by decide +kernel) (by decide +kernel) (by decide +kernel)
    (C03_host_regname (by decide +kernel) (by decide +kernel))
example (b : Backend) : ∃ u, encodeUrl ⟨b, Oracles.empty⟩ "http://Example.COM1/p".toStr = .ok u :=
  ⟨urlOf "http".toStr "example.com1".toStr "/p".toStr [] [] (preHost "example.com1".toStr), by cases b <;> decide +kernel⟩

/-- `build`, host route: user with a space, upper-case digit-ending host, default port (dropped) -/
def bArgs : BuildArgs :=
  { scheme := "http".toStr, user := some "u s".toStr, password := some "p:w".toStr, host := "Example.COM1".toStr,
    port := some 80, path := "/p q".toStr }

theorem bArgs_ok (b : Backend) : BuildNetOK ⟨b, Oracles.empty⟩ bArgs :=
  ⟨by decide +kernel, Or.inl rfl, fun x hx => (by cases hx; decide +kernel), fun x hx => (by cases hx; decide +kernel), by decide +kernel⟩

example (b : Backend) : ∃ u, build ⟨b, Oracles.empty⟩ bArgs = .ok u ∧ u.netloc = "u%20s:p%3Aw@example.com1".toStr ∧
    NetlocCanon ⟨b, Oracles.empty⟩ u ∧ SchemeOK' bArgs.scheme ∧ C03Guards u ∧ BuildArgsPy bArgs := by
  have hrun : build ⟨b, Oracles.empty⟩ bArgs =
      .ok (fromParts "http".toStr "u%20s:p%3Aw@example.com1".toStr "/p%20q".toStr [] []) := by
    unfold bArgs; str_lits; cases b <;> decide +kernel
  exact ⟨_, hrun, rfl, C03_build_netlocCanon _ bArgs _ rfl (bArgs_ok _) hrun, by decide +kernel, by decide +kernel,
    ⟨by decide +kernel, by decide +kernel, by decide +kernel, trivial⟩⟩

/-- `build`, authority route: userinfo, IPv4-suffixed IPv6 literal, default port -/
def bAuth : BuildArgs :=
  { scheme := "https".toStr, authority := "u:p@[::FFFF:1.2.3.4]:443".toStr, path := "/x".toStr }

def bAuthNp : NetlocParts :=
  { user := some "u".toStr, password := some "p".toStr, host := some "::FFFF:1.2.3.4".toStr, port := some 443 }

theorem bAuth_ok (b : Backend) : BuildNetOK ⟨b, Oracles.empty⟩ bAuth := by
  refine ⟨by decide +kernel, Or.inr ⟨bAuthNp, "::FFFF:1.2.3.4".toStr,
    by show splitNetloc Oracles.empty _ = _; decide +kernel, rfl, ?_, ?_⟩,
    fun x hx => (by cases hx), fun x hx => (by cases hx), by decide +kernel⟩
  · exact C03_host_ipv6 (h8 := [0, 0, 0, 0, 0, 0xffff, 0x102, 0x304]) (by decide +kernel) (by decide +kernel)
  · intro h; exact absurd (by decide +kernel) h

example (b : Backend) : ∃ u, build ⟨b, Oracles.empty⟩ bAuth = .ok u ∧ u.netloc = "u:p@[::ffff:102:304]".toStr ∧
    NetlocCanon ⟨b, Oracles.empty⟩ u := by
  have hrun : build ⟨b, Oracles.empty⟩ bAuth =
      .ok (fromParts "https".toStr "u:p@[::ffff:102:304]".toStr "/x".toStr [] []) := by
    unfold bAuth; str_lits; cases b <;> decide +kernel
  exact ⟨_, hrun, rfl, C03_build_netlocCanon _ bAuth _ rfl (bAuth_ok _) hrun⟩

/-- `ReachV`: valid constructor input, then `with_host` with an upper-case IPv6+zone argument, `with_user`,
    `with_path` — all side conditions discharged by `C03_withHost_netArgs` -/
example (b : Backend) (u v : Url) (hu : encodeUrl ⟨b, Oracles.empty⟩ netIn = .ok u)
    (hv : applyOps ⟨b, Oracles.empty⟩ u
      [.withHost "FE80::2%eth1".toStr, .withUser (some "n w".toStr), .withPath "/p q".toStr false false] = .ok v) :
    ReachV ⟨b, Oracles.empty⟩ v := by
  refine C03_applyOps_reachV _ _ u v (ReachV.ctor netIn u netPt (by decide +kernel) hu netIn_split netIn_auth) ?_ hv
  intro op hop
  simp only [List.mem_cons, List.not_mem_nil, or_false] at hop
  rcases hop with rfl | rfl | rfl
  · exact ⟨by show PyStr _; decide +kernel, C03_withHost_netArgs _ _ (by decide +kernel) (by decide +kernel)⟩
  · exact ⟨by intro x hx; cases hx; decide +kernel, trivial⟩
  · exact ⟨by show PyStr _; decide +kernel, trivial⟩

end checks

end Yarl
