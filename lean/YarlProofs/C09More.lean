import Lean
import YarlProofs.C09HeadlineMore
import YarlProofs.C17Ctor
import YarlProofs.Lemmas.Basics
/-!
  C09More.lean — C09 (eager and lazy component computation agree; pickling is lossless) over the complete accessor
  list, from the input text, and with the exact boundary.

  (a) Every accessor.  `Acc9` names the accessors of YarlModel/Url.lean (the five stored fields, the netloc-derived
      accessors, the path / query / fragment accessors, the URL-valued `parent` / `origin()` / `relative()`, the
      comparisons against any other URL on either side, `__bool__`, the hash key, `human_repr`); `Acc9.read` evaluates
      one.  `C09_every_accessor`: under the C09 guard `GoodAuthority`, for EVERY name the value read from the restored
      URL equals the value read from the constructor result (for the URL-valued accessors the two results are again
      indistinguishable, `Indist`; `C09_indist_every_accessor` says that indistinguishable URLs agree on every name, so
      the statement is closed under iteration).  That the list misses no function of Url.lean is a build-time assertion
      (`run_cmd`, section metaCheck: every function taking a `Url` is classified as accessor — then it occurs in
      `Acc9.read` — or modifier); `C09_accessor_list_complete` only spells `Acc9.read` out name by name.
  (b) The guard from the input text.  `AuthorityOK n` is a decidable predicate on the authority TEXT `n` of the input
      (`ctorAuthorityText s` = RFC 3986 Appendix B on the cleaned input) covering every host kind: reg-names in any letter
      case, trailing dots, IPv4, IPv6 with any zone, IPvFuture and other bracketed texts, IDN hosts, the empty host with
      a written user / a password / a port.  `R9.goodNp_iff`: on what `split_netloc` cuts out of `n` it IS the guard;
      `C09_good_authority_of_input` / `C09_good_authority_iff_input` are its two readings (for a non-ASCII host under
      the ONE assumption `IdnaSaneAt`, C16Idn.lean).  `GoodAuthority` is FALSE for an input WITHOUT authority
      (`C09_guard_false_without_authority`); `InputOK` / `C09_pickle_lossless_of_input` include such inputs.
  (c) The exact boundary.  `AgreeB n` is a decidable predicate on the authority text with `C09_eager_lazy_iff`: for an
      input whose host text is ASCII, eager = lazy IFF `AgreeB`.  The disagreeing authorities are exactly (A)
      "normalises to empty": empty host, no '[' , no written user (absent, "" or lone surrogates only), no password, no
      port text — among the authority texts without surrogates these are exactly "@", ":" and "@:"
      (`C09_normalises_to_empty_ascii`); (B) "malformed brackets": a '[' inside the host text which is no IPv6 literal —
      EXCEPT when there is no port and every character after the first is '[' (or the host text is "["), e.g.
      "foo://[:[]/": outside the guard `GoodAuthority`, yet eager = lazy (`C09_guard_not_exact`).  So `GoodAuthority` is
      sufficient, not necessary; `AgreeB` is exact.  A user made of lone surrogates only is no third class: in front of
      a non-empty host it is inside both predicates, in front of an empty host it is a member of class (A).
  Not in the model: a hash function / `_cache["hash"]`; the pickle format beyond "the five strings survive"; a generated
  fact listing the keys `encode_url` caches.
  Namespace `R9` holds the helpers of this file (text-level readings of `split_netloc`, the list combinatorics behind
  `OddHost`, the two `hostPort` computations of the boundary); `EmptyAuth` the closed form of class (A).
-/
namespace Yarl
open EagerLemmas NetlocLemmas

/-! ## (a) the complete accessor list -/

/-- every result type an accessor of Url.lean has -/
inductive AccVal where
  | str (r : R Str)
  | ostr (r : R (Option Str))
  | onat (r : R (Option Nat))
  | bool (r : R Bool)
  | strs (r : R (List Str))
  | pairs (l : List (Str × Str))
  | net (r : R NetPre)
  | parts (p : Parts)
  | url (r : R Url)

/-- THE accessor list of the model: every accessor function of YarlModel/Url.lean has a name (a comparison has one
    per operator and side) -/
inductive Acc9 where
  -- the five stored fields (`scheme`, `raw_authority`, stored path, `raw_query_string`, `raw_fragment`) and all five
  | scheme | rawAuthority | storedPath | rawQueryString | rawFragment | parts
  -- netloc-derived
  | lazyNet | net | rawUser | rawPassword | rawHost | explicitPort | user | password | host
  | hostSubcomponent | hostPortSubcomponent | port | isDefaultPort | authority | str | humanRepr
  -- path / query / fragment
  | rawPath | path | pathSafe | query | queryString | pathQs | rawPathQs | fragment
  | rawParts | partsDecoded | rawName | name | rawSuffix | suffix | rawSuffixes | suffixes
  -- URL-valued
  | parent | origin | relative
  -- comparison, truth value, hash key
  | eqKey | truthy
  | beqL (other : Url) | beqR (other : Url) | ltL (other : Url) | ltR (other : Url)
  | leL (other : Url) | leR (other : Url) | gtL (other : Url) | gtR (other : Url)
  | geL (other : Url) | geR (other : Url)

/-- evaluate the accessor `a` on `u` -/
def Acc9.read (a : Acc9) (e : Env) (u : Url) : AccVal :=
  match a with
  | .scheme => .str (.ok u.scheme)
  | .rawAuthority => .str (.ok u.netloc)
  | .storedPath => .str (.ok u.path)
  | .rawQueryString => .str (.ok u.query)
  | .rawFragment => .str (.ok u.fragment)
  | .parts => .parts u.parts
  | .lazyNet => .net (Yarl.lazyNet e (pickleTwin u))   -- what `_cache_netloc` derives from the stored netloc
  | .net => .net (Yarl.net e u)
  | .rawUser => .ostr (Yarl.rawUser e u)
  | .rawPassword => .ostr (Yarl.rawPassword e u)
  | .rawHost => .ostr (Yarl.rawHost e u)
  | .explicitPort => .onat (Yarl.explicitPort e u)
  | .user => .ostr (Yarl.user e u)
  | .password => .ostr (Yarl.password e u)
  | .host => .ostr (Yarl.host e u)
  | .hostSubcomponent => .ostr (Yarl.hostSubcomponent e u)
  | .hostPortSubcomponent => .ostr (Yarl.hostPortSubcomponent e u)
  | .port => .onat (Yarl.port e u)
  | .isDefaultPort => .bool (Yarl.isDefaultPort e u)
  | .authority => .str (Yarl.authority e u)
  | .str => .str (Yarl.str e u)
  | .humanRepr => .str (Yarl.humanRepr e u)
  | .rawPath => .str (.ok (Yarl.rawPath u))
  | .path => .str (.ok (pathDecoded e u))
  | .pathSafe => .str (.ok (Yarl.pathSafe e u))
  | .query => .pairs (queryPairs u)
  | .queryString => .str (.ok (Yarl.queryString e u))
  | .pathQs => .str (.ok (Yarl.pathQs e u))
  | .rawPathQs => .str (.ok (Yarl.rawPathQs u))
  | .fragment => .str (.ok (fragmentDecoded e u))
  | .rawParts => .strs (.ok (Yarl.rawParts u))
  | .partsDecoded => .strs (.ok (Yarl.partsDecoded e u))
  | .rawName => .str (Yarl.rawName u)
  | .name => .str (Yarl.name e u)
  | .rawSuffix => .str (Yarl.rawSuffix u)
  | .suffix => .str (Yarl.suffix e u)
  | .rawSuffixes => .strs (Yarl.rawSuffixes u)
  | .suffixes => .strs (Yarl.suffixes e u)
  | .parent => .url (.ok (Yarl.parent u))
  | .origin => .url (Yarl.origin e u)
  | .relative => .url (Yarl.relative u)
  | .eqKey => .parts (Yarl.eqKey u)
  | .truthy => .bool (.ok u.truthy)
  | .beqL v => .bool (.ok (u.beq v))
  | .beqR v => .bool (.ok (v.beq u))
  | .ltL v => .bool (.ok (u.lt v))
  | .ltR v => .bool (.ok (v.lt u))
  | .leL v => .bool (.ok (u.le v))
  | .leR v => .bool (.ok (v.le u))
  | .gtL v => .bool (.ok (u.gt v))
  | .gtR v => .bool (.ok (v.gt u))
  | .geL v => .bool (.ok (u.ge v))
  | .geR v => .bool (.ok (v.ge u))

/-- `Acc9.read` spelled out: each accessor function of YarlModel/Url.lean (everything that reads a `Url` and is not a
    constructor or a modifier) IS `Acc9.read` of one name.  These are the defining equations; that no accessor
    function is MISSING from the list is checked by the `run_cmd` of section metaCheck below.  (The modifiers — with_*,
    extend_query, update_query, without_query_params, `/`, join — taking the restored URL as an ARGUMENT:
    `C09_headline_restored_as_modifier_argument`, `C09_join_twin`.) -/
theorem C09_accessor_list_complete (e : Env) (u v : Url) :
    Acc9.scheme.read e u = .str (.ok u.scheme) ∧ Acc9.rawAuthority.read e u = .str (.ok u.netloc) ∧
    Acc9.storedPath.read e u = .str (.ok u.path) ∧ Acc9.rawQueryString.read e u = .str (.ok u.query) ∧
    Acc9.rawFragment.read e u = .str (.ok u.fragment) ∧ Acc9.parts.read e u = .parts (Url.parts u) ∧
    Acc9.lazyNet.read e u = .net (lazyNet e (pickleTwin u)) ∧ Acc9.net.read e u = .net (net e u) ∧
    Acc9.rawUser.read e u = .ostr (rawUser e u) ∧ Acc9.rawPassword.read e u = .ostr (rawPassword e u) ∧
    Acc9.rawHost.read e u = .ostr (rawHost e u) ∧ Acc9.explicitPort.read e u = .onat (explicitPort e u) ∧
    Acc9.user.read e u = .ostr (user e u) ∧ Acc9.password.read e u = .ostr (password e u) ∧
    Acc9.host.read e u = .ostr (host e u) ∧ Acc9.hostSubcomponent.read e u = .ostr (hostSubcomponent e u) ∧
    Acc9.hostPortSubcomponent.read e u = .ostr (hostPortSubcomponent e u) ∧ Acc9.port.read e u = .onat (port e u) ∧
    Acc9.isDefaultPort.read e u = .bool (isDefaultPort e u) ∧ Acc9.authority.read e u = .str (authority e u) ∧
    Acc9.str.read e u = .str (str e u) ∧ Acc9.humanRepr.read e u = .str (humanRepr e u) ∧
    Acc9.rawPath.read e u = .str (.ok (rawPath u)) ∧ Acc9.path.read e u = .str (.ok (pathDecoded e u)) ∧
    Acc9.pathSafe.read e u = .str (.ok (pathSafe e u)) ∧ Acc9.query.read e u = .pairs (queryPairs u) ∧
    Acc9.queryString.read e u = .str (.ok (queryString e u)) ∧ Acc9.pathQs.read e u = .str (.ok (pathQs e u)) ∧
    Acc9.rawPathQs.read e u = .str (.ok (rawPathQs u)) ∧ Acc9.fragment.read e u = .str (.ok (fragmentDecoded e u)) ∧
    Acc9.rawParts.read e u = .strs (.ok (rawParts u)) ∧ Acc9.partsDecoded.read e u = .strs (.ok (partsDecoded e u)) ∧
    Acc9.rawName.read e u = .str (rawName u) ∧ Acc9.name.read e u = .str (name e u) ∧
    Acc9.rawSuffix.read e u = .str (rawSuffix u) ∧ Acc9.suffix.read e u = .str (suffix e u) ∧
    Acc9.rawSuffixes.read e u = .strs (rawSuffixes u) ∧ Acc9.suffixes.read e u = .strs (suffixes e u) ∧
    Acc9.parent.read e u = .url (.ok (parent u)) ∧ Acc9.origin.read e u = .url (origin e u) ∧
    Acc9.relative.read e u = .url (relative u) ∧ Acc9.eqKey.read e u = .parts (eqKey u) ∧
    Acc9.truthy.read e u = .bool (.ok u.truthy) ∧
    (Acc9.beqL v).read e u = .bool (.ok (u.beq v)) ∧ (Acc9.beqR v).read e u = .bool (.ok (v.beq u)) ∧
    (Acc9.ltL v).read e u = .bool (.ok (u.lt v)) ∧ (Acc9.ltR v).read e u = .bool (.ok (v.lt u)) ∧
    (Acc9.leL v).read e u = .bool (.ok (u.le v)) ∧ (Acc9.leR v).read e u = .bool (.ok (v.le u)) ∧
    (Acc9.gtL v).read e u = .bool (.ok (u.gt v)) ∧ (Acc9.gtR v).read e u = .bool (.ok (v.gt u)) ∧
    (Acc9.geL v).read e u = .bool (.ok (u.ge v)) ∧ (Acc9.geR v).read e u = .bool (.ok (v.ge u)) := by
  refine ⟨rfl, rfl, rfl, rfl, rfl, rfl, rfl, rfl, rfl, rfl, rfl, rfl, rfl, rfl, rfl, rfl, rfl, rfl, rfl, rfl, rfl, rfl,
    rfl, rfl, rfl, rfl, rfl, rfl, rfl, rfl, rfl, rfl, rfl, rfl, rfl, rfl, rfl, rfl, rfl, rfl, rfl, rfl, rfl, rfl, rfl,
    rfl, rfl, rfl, rfl, rfl, rfl, rfl, rfl⟩


/-! ### build-time completeness check of the accessor list (not a theorem: an assertion on the environment)

  Every definition of the module YarlModel.Url that takes a `Url` argument must be classified below: either it is an
  ACCESSOR — then it must occur in the body of `Acc9.read` — or it is listed as a modifier / constructor-side function.
  If Url.lean gains a function that reads a `Url`, this file stops building until the function is classified. -/
section metaCheck
open Lean Elab Command

/-- the accessor functions of YarlModel/Url.lean (each is `Acc9.read` of one name: `C09_accessor_list_complete`) -/
def R9.accessorFns : List Name :=
  [``Url.parts, ``lazyNet, ``net, ``rawUser, ``rawPassword, ``rawHost, ``explicitPort, ``user, ``password, ``host,
   ``hostSubcomponent, ``hostPortSubcomponent, ``port, ``isDefaultPort, ``authority, ``str, ``humanRepr,
   ``rawPath, ``pathDecoded, ``pathSafe, ``queryPairs, ``queryString, ``pathQs, ``rawPathQs, ``fragmentDecoded,
   ``rawParts, ``partsDecoded, ``rawName, ``name, ``rawSuffix, ``suffix, ``rawSuffixes, ``suffixes,
   ``parent, ``origin, ``relative, ``eqKey, ``Url.truthy, ``Url.beq, ``Url.lt, ``Url.le, ``Url.gt, ``Url.ge]

/-- the functions of Url.lean with a `Url` argument that are NOT accessors: the restoring operation itself and the
    modifiers (a restored URL as their argument: `C09_modifiers_of_net`, `C09_join_twin`) -/
def R9.modifierFns : List Name :=
  [``pickleTwin, ``withScheme, ``withUser, ``withPassword, ``withHost, ``withPort, ``withPath, ``withQuery,
   ``extendQuery, ``updateQuery, ``withoutQueryParams, ``withFragment, ``withRawName, ``withName, ``withSuffix,
   ``makeChild, ``join]

private def R9.hasUrlArg (t : Expr) : Bool := Id.run do
  let mut t := t
  let mut found := false
  while t.isForall do
    if t.bindingDomain!.isConstOf ``Url then found := true
    t := t.bindingBody!
  return found

run_cmd do
  let env ← getEnv
  let some idx := env.getModuleIdx? `YarlModel.Url | throwError "module YarlModel.Url not found"
  let generated : List String :=
    ["casesOn", "recOn", "rec", "ctorIdx", "noConfusion", "noConfusionType", "decEq", "repr", "below", "brecOn"]
  let mut unclassified : Array Name := #[]
  for (n, ci) in env.constants.map₁.toList do
    if env.getModuleIdxFor? n == some idx then
      if n.isInternal || n.isInternalDetail || env.isProjectionFn n then continue
      if generated.contains n.getString! then continue
      if let .defnInfo _ := ci then
        if R9.hasUrlArg ci.type && !(R9.accessorFns.contains n) && !(R9.modifierFns.contains n) then
          unclassified := unclassified.push n
  unless unclassified.isEmpty do
    throwError "C09More: functions of YarlModel/Url.lean not classified as accessor or modifier: {unclassified}"
  -- every accessor function occurs in `Acc9.read`
  let some rd := env.find? ``Acc9.read | throwError "Acc9.read not found"
  let used := rd.value!.getUsedConstants
  let missing := R9.accessorFns.filter (fun n => !used.contains n)
  unless missing.isEmpty do
    throwError "C09More: accessor functions missing from Acc9.read: {missing}"

end metaCheck

/-- two URLs no observer can tell apart: the same five stored strings and the same netloc data (cached or derived) -/
def Indist (e : Env) (v w : Url) : Prop := pickleTwin v = pickleTwin w ∧ net e v = net e w

/-- "the same value": equality — for a URL-valued accessor, the same error or indistinguishable URLs -/
def AccVal.Same (e : Env) : AccVal → AccVal → Prop
  | .url (.ok v), .url (.ok w) => Indist e v w
  | .url (.error x), .url (.error y) => x = y
  | .url _, _ => False
  | a, b => a = b

namespace R9

theorem indist_fields {e : Env} {v w : Url} (h : Indist e v w) :
    v.scheme = w.scheme ∧ v.netloc = w.netloc ∧ v.path = w.path ∧ v.query = w.query ∧ v.fragment = w.fragment := by
  have := h.1
  cases v; cases w
  simp only [pickleTwin, Url.mk.injEq] at this
  obtain ⟨a, b, c, d, f, _⟩ := this
  exact ⟨a, b, c, d, f⟩

theorem indist_refl (e : Env) (v : Url) : Indist e v v := ⟨rfl, rfl⟩

theorem indist_fromParts (e : Env) (a b c d f : Str) : Indist e (fromParts a b c d f) (fromParts a b c d f) :=
  indist_refl e _

theorem same_refl (e : Env) (x : AccVal) : AccVal.Same e x x := by
  cases x with
  | url r => cases r with
    | ok v => exact indist_refl e v
    | error err => rfl
  | _ => rfl

end R9
open R9

/-- indistinguishable URLs agree on EVERY accessor (URL-valued results are indistinguishable again) -/
theorem C09_indist_every_accessor (e : Env) (v w : Url) (h : Indist e v w) (a : Acc9) :
    AccVal.Same e (a.read e v) (a.read e w) := by
  obtain ⟨hs, hn, hp, hq, hf⟩ := indist_fields h
  obtain ⟨b1, b2, b3, b4, b5, b6, b7, b8, b9, b10, b11, b12, b13, b14⟩ :=
    C09_accessors_of_parts_net e w v hs hn hp hq hf h.2
  obtain ⟨s, n, p, q, f, c⟩ := v
  obtain ⟨s', n', p', q', f', c'⟩ := w
  cases hs; cases hn; cases hp; cases hq; cases hf
  -- `v` and `w` now differ in the cache only: an accessor that does not read it is literally the same term on both
  cases a with
  | net => exact congrArg AccVal.net h.2
  | rawUser => exact congrArg AccVal.ostr b11
  | rawPassword => exact congrArg AccVal.ostr b12
  | rawHost => exact congrArg AccVal.ostr b13
  | explicitPort => exact congrArg AccVal.onat b14
  | user => exact congrArg AccVal.ostr b8
  | password => exact congrArg AccVal.ostr b9
  | host => exact congrArg AccVal.ostr b2
  | hostSubcomponent => exact congrArg AccVal.ostr b3
  | hostPortSubcomponent => exact congrArg AccVal.ostr b4
  | port => exact congrArg AccVal.onat b5
  | isDefaultPort => exact congrArg AccVal.bool b6
  | authority => exact congrArg AccVal.str b7
  | str => exact congrArg AccVal.str b1
  | humanRepr => exact congrArg AccVal.str b10
  | relative =>
    exact same_refl e (.url (relative _))
  | parent =>
    show Indist e (parent _) (parent _)
    unfold parent
    exact ite_rel (r := Indist e) (fun _ => ite_rel (r := Indist e) (fun _ => indist_refl e _) fun _ => h)
      fun _ => indist_refl e _
  | origin =>
    show AccVal.Same e (.url (origin e _)) (.url (origin e _))
    -- both sides are the same conditional over the five parts and `net` (Lemmas/AuthMod.lean)
    rw [AuthMod.origin_eq, AuthMod.origin_eq, h.2]
    have S := @ite_rel _ _ (fun x y : R Url => AccVal.Same e (.url x) (.url y))
    exact S (fun _ => rfl) fun _ => S (fun _ => rfl) fun _ => S (fun _ => same_refl e _) fun _ => S (fun _ => h) fun _ =>
      indist_refl e _
  | _ => rfl

/-- ONE theorem over the complete accessor list: under the C09 guard, EVERY accessor returns the same value
    on the URL restored by pickle / copy / deepcopy (`pickleTwin u`: the eager cache is gone, everything is derived
    from the stored strings) as on the constructor result `u` (served from the eager cache). -/
theorem C09_every_accessor (e : Env) (s : Str) (u : Url) (hu : encodeUrl e s = .ok u) (hg : GoodAuthority e s)
    (a : Acc9) : AccVal.Same e (a.read e (pickleTwin u)) (a.read e u) :=
  C09_indist_every_accessor e (pickleTwin u) u ⟨rfl, (C09_pickle_lossless e s u hu hg).1⟩ a

/-- … and for the four eager entries themselves: what the lazy route derives IS the cache (`Acc9.lazyNet` vs `.net`) -/
theorem C09_eager_entries_are_lazy (e : Env) (s : Str) (u : Url) (hu : encodeUrl e s = .ok u) (hg : GoodAuthority e s) :
    u.pre = none ∨ Acc9.lazyNet.read e u = Acc9.net.read e u := by
  cases hpre : u.pre with
  | none => exact Or.inl rfl
  | some p =>
    right
    show AccVal.net _ = AccVal.net _
    rw [C09_eager_eq_lazy e s u p hu hpre hg]
    unfold net; rw [hpre]; rfl

/-! ## (b) the guard, derived from the authority TEXT of the input -/

/-- the authority text of the input as `split_url` cuts it: RFC 3986 Appendix B on the cleaned input -/
def ctorAuthorityText (s : Str) : Str := (Rfc.appendixB Gen.schemeChars (cleanUrl s)).authority

/-- the host text `split_netloc` cuts out of the authority `n` (brackets removed) -/
def hostText (n : Str) : Str := (hostPort (userSplit n).2.2).1

/-- `ipaddress` accepts the text as an IPv6 address -/
def isV6 (t : Str) : Bool :=
  match parseIP t with
  | some (.v6 _) => true
  | _ => false

/-- there is a user in front of the last '@' that the quoter does not drop (one character that is no lone surrogate) -/
def userWritten (n : Str) : Bool :=
  match (userSplit n).1 with
  | some u => u.any (fun c => !isSurrogate c)
  | none => false

/-- the decidable guard on the authority text `n`, all host kinds: a non-empty host text without '[' inside (reg-name
    in any letter case, trailing dots, IPv4, IPvFuture / other bracketed text, IDN) or an IPv6 literal before an
    optional `%zone`; an empty host needs a written user, a password or a port text -/
def AuthorityOK (n : Str) : Bool :=
  if (hostText n).isEmpty then userWritten n || (userSplit n).2.1.isSome || !(CtorMods.portText n).isEmpty
  else !mem 91 (hostText n) || isV6 (partition 37 (hostText n)).1

namespace R9

theorem splitUrl_netloc (o : Oracles) (s : Str) (pt : Parts) (h : splitUrl o s = .ok pt) :
    pt.netloc = ctorAuthorityText s := by
  rw [ParseLemmas.splitUrl_eq] at h
  unfold ParseLemmas.splitUrlNF at h
  simp only at h
  split at h
  · cases h
  · split at h
    · cases h
    · cases h; rfl

/-- what `split_netloc` returns, in terms of the text -/
theorem splitNetloc_text (o : Oracles) (n : Str) (np : NetlocParts) (h : splitNetloc o n = .ok np) :
    np.user = (userSplit n).1.bind orNone ∧ np.password = (userSplit n).2.1 ∧ np.host = orNone (hostText n) ∧
    (np.port = none ↔ (CtorMods.portText n).isEmpty = true) := by
  obtain ⟨pt, hpt, rfl⟩ := NetlocLemmas.splitNetloc_ok_iff.1 h
  refine ⟨rfl, rfl, rfl, ?_⟩
  rcases NetlocLemmas.portOf_ok_iff.1 hpt with ⟨ht, rfl⟩ | ⟨hne, p, _, _, _, rfl⟩
  · exact ⟨fun _ => List.isEmpty_iff.mpr ht, fun _ => rfl⟩
  · exact ⟨fun h0 => (nomatch h0), fun he => absurd (List.isEmpty_iff.mp he) hne⟩

theorem isV6_spec {t : Str} (h : isV6 t = true) : ∃ h8, parseIP t = some (.v6 h8) := by
  unfold isV6 at h
  split at h
  · rename_i h8 hp; exact ⟨h8, hp⟩
  · cases h

theorem isV6_of {t : Str} {h8 : List Nat} (h : parseIP t = some (.v6 h8)) : isV6 t = true := by
  unfold isV6; rw [h]

theorem orNone_nil : orNone [] = none := rfl

end R9

/-! ## (c) the exact boundary between eager = lazy and eager ≠ lazy -/

/-- every character after the first is '[' (at least one), or the text is "[": the only malformed-bracket host texts
    for which the eager `raw_host` (first and last character stripped) and the lazy one (the text after the first
    '[') coincide -/
def OddHost (w : Str) : Bool :=
  match w with
  | [] => false
  | c :: t => if c = 91 then t.isEmpty else !t.isEmpty && t.all (· == 91)

/-- the EXACT decidable predicate on the authority text `n` (ASCII host text): eager = lazy iff `AgreeB n` -/
def AgreeB (n : Str) : Bool :=
  if (hostText n).isEmpty then
    mem 91 (userSplit n).2.2 || userWritten n || (userSplit n).2.1.isSome || !(CtorMods.portText n).isEmpty
  else !mem 91 (hostText n) || isV6 (partition 37 (hostText n)).1 ||
    ((CtorMods.portText n).isEmpty && OddHost (hostText n))

namespace R9

theorem partition_cons_ne (c x : Nat) (xs : Str) (h : x ≠ c) :
    partition c (x :: xs) = (x :: (partition c xs).1, (partition c xs).2.1, (partition c xs).2.2) := by
  simp only [partition, h, ↓reduceIte]

theorem partition_cons_eq (c : Nat) (xs : Str) : partition c (c :: xs) = ([], true, xs) := by
  simp only [partition, ↓reduceIte]

theorem partition_snd_len (c : Nat) (s : Str) : (partition c s).2.2.length ≤ s.length := by
  induction s with
  | nil => simp [partition]
  | cons x xs ih =>
    by_cases h : x = c
    · subst h; simp [partition]
    · rw [partition_cons_ne c x xs h]; simp only [List.length_cons]; omega

theorem partition_snd_len_lt (c : Nat) (s : Str) (h : c ∈ s) : (partition c s).2.2.length < s.length := by
  induction s with
  | nil => cases h
  | cons x xs ih =>
    by_cases hx : x = c
    · subst hx; simp [partition]
    · rw [partition_cons_ne c x xs hx]
      have := partition_snd_len c xs
      simp only [List.length_cons]
      omega

/-- `t = ('[' :: t).dropLast` iff `t` consists of '[' only -/
theorem shift_iff (t : Str) : t = (91 :: t).dropLast ↔ t.all (· == 91) = true := by
  induction t with
  | nil => simp
  | cons x t ih =>
    simp only [List.dropLast_cons_cons, List.cons.injEq, List.all_cons, Bool.and_eq_true, beq_iff_eq]
    constructor
    · rintro ⟨hx, ht⟩; subst hx; exact ⟨rfl, ih.mp ht⟩
    · rintro ⟨hx, ht⟩; subst hx; exact ⟨rfl, ih.mpr ht⟩

theorem tail_iff (t : Str) (h91 : 91 ∈ t) : (partition 91 t).2.2 = t.dropLast ↔ t.all (· == 91) = true := by
  cases t with
  | nil => cases h91
  | cons d t' =>
    by_cases hd : d = 91
    · subst hd
      simp only [partition, ↓reduceIte, List.all_cons, beq_self_eq_true, Bool.true_and]
      exact shift_iff t'
    · have h91' : 91 ∈ t' := by
        rcases List.mem_cons.mp h91 with h | h
        · exact absurd h.symm hd
        · exact h
      have hl := partition_snd_len_lt 91 t' h91'
      rw [partition_cons_ne 91 d t' hd]
      simp only [List.all_cons, Bool.and_eq_true, beq_iff_eq, hd, false_and, iff_false]
      intro heq
      have := congrArg List.length heq
      simp at this
      omega

theorem odd_iff (w : Str) (h91 : 91 ∈ w) : (partition 91 w).2.2 = (w.drop 1).dropLast ↔ OddHost w = true := by
  cases w with
  | nil => cases h91
  | cons c t =>
    by_cases hc : c = 91
    · subst hc
      simp only [partition, ↓reduceIte, List.drop_succ_cons, List.drop_zero, OddHost]
      constructor
      · intro h
        have := congrArg List.length h
        cases t with
        | nil => rfl
        | cons _ _ => simp at this
      · intro h
        cases t with
        | nil => rfl
        | cons _ _ => simp at h
    · have h91' : 91 ∈ t := by
        rcases List.mem_cons.mp h91 with h | h
        · exact absurd h.symm hc
        · exact h
      have hne : t.isEmpty = false := by cases t with
        | nil => cases h91'
        | cons _ _ => rfl
      rw [partition_cons_ne 91 c t hc]
      simp only [hc, ↓reduceIte, List.drop_succ_cons, List.drop_zero, OddHost, hne, Bool.not_false,
        Bool.true_and]
      exact tail_iff t h91'

theorem lowerC_91 (c : Nat) : lowerC c = 91 ↔ c = 91 := by unfold lowerC; split <;> omega

theorem oddHost_lower (w : Str) : OddHost (lower w) = OddHost w := by
  cases w with
  | nil => rfl
  | cons c t =>
    have hall : (lower t).all (· == 91) = t.all (· == 91) := by
      unfold lower
      rw [List.all_map]
      congr 1
      funext x
      show (lowerC x == 91) = (x == 91)
      by_cases hx : x = 91
      · subst hx; rfl
      · have : lowerC x ≠ 91 := fun h => hx ((lowerC_91 x).mp h)
        rw [beq_eq_false_iff_ne.mpr this, beq_eq_false_iff_ne.mpr hx]
    have hemp : (lower t).isEmpty = t.isEmpty := by cases t <;> rfl
    show OddHost (lowerC c :: lower t) = _
    unfold OddHost
    by_cases hc : c = 91
    · subst hc; simp [lowerC, hemp]
    · have : lowerC c ≠ 91 := fun h => hc ((lowerC_91 c).mp h)
      simp [hc, this, hemp, hall]

end R9

namespace R9

/-- the user the constructor caches, from the text -/
theorem cachedUser_written (e : Env) (n : Str) (hpy : ∀ x, (userSplit n).1.bind orNone = some x → PyStr x) :
    cachedUser e ((userSplit n).1.bind orNone) ≠ none ↔ userWritten n = true := by
  unfold userWritten
  cases hus : (userSplit n).1 with
  | none => simp [cachedUser, requoteOpt]
  | some u =>
    rw [hus] at hpy
    simp only [Option.bind_some]
    by_cases hne : u = []
    · subst hne; simp [orNone, cachedUser, requoteOpt]
    · simp only [Option.bind_some] at hpy
      rw [orNone_of_ne_nil hne] at hpy ⊢
      have hp := hpy u rfl
      constructor
      · intro h
        rw [List.any_eq_true]
        apply Classical.byContradiction
        intro hno
        apply h
        apply cachedUser_none.mpr
        right; right
        refine ⟨u, rfl, (quoter_eq_nil_iff mem_REQUOTER e u hp).mpr ?_⟩
        intro c hc
        cases hsu : isSurrogate c with
        | true => rfl
        | false => exact absurd ⟨c, hc, by simp [hsu]⟩ hno
      · intro h
        obtain ⟨c, hc, hcs⟩ := List.any_eq_true.mp h
        have hq := requoter_ne_nil e u hp ⟨c, hc, by simpa using hcs⟩
        intro hnone
        rcases cachedUser_none.mp hnone with h0 | h0 | ⟨x, hx, hxq⟩
        · cases h0
        · cases h0; exact hne rfl
        · cases hx; exact hq hxq

/-- the port text `make_netloc` writes -/
def portTail (port : Option Nat) : Str :=
  match port with
  | none => []
  | some p => 58 :: natToStr p

theorem hostPortStr_tail (w : Str) (port : Option Nat) : hostPortStr w port = w ++ portTail port := by
  cases port <;> simp [hostPortStr, portTail]

/-- an opening bracket that is never closed swallows the port: host = everything after it, no port -/
theorem finish_open (o : Oracles) (U P : Option Str) (w : Str) (port : Option Nat) (h91 : 91 ∈ w) (h93 : 93 ∉ w) :
    finish o U P (hostPortStr w port) =
      .ok { user := U.bind orNone, password := P, host := orNone ((partition 91 w).2.2 ++ portTail port),
            port := none } := by
  rw [hostPortStr_tail]
  have r93 : 93 ∉ portTail port := by
    cases port with
    | none => simp [portTail]
    | some p =>
      have := Decimal.notMem_digits (Decimal.natToStr_digits p).2 93 (by omega)
      simp only [portTail, List.mem_cons, not_or]
      exact ⟨by decide, this⟩
  obtain ⟨a, b, hab, ha⟩ := List.eq_append_cons_of_mem h91
  have e2 : mem 91 (w ++ portTail port) = true := mem_iff.mpr (by simp [h91])
  have e3 : partition 91 (w ++ portTail port) = (a, true, b ++ portTail port) := by
    rw [hab]
    have := partition_found 91 a (b ++ portTail port) ha
    simpa using this
  have e3' : (partition 91 w).2.2 = b := by
    rw [hab]
    have := partition_found 91 a b ha
    rw [this]
  have b93 : 93 ∉ b := fun hm => h93 (by rw [hab]; simp [hm])
  have e4 : partition 93 (b ++ portTail port) = (b ++ portTail port, false, []) :=
    partition_notFound 93 (b ++ portTail port) (by simp [b93, r93])
  have hp : hostPort (w ++ portTail port) = (b ++ portTail port, []) := by
    unfold hostPort
    simp [e2, e3, e4, partition]
  rw [NetlocLemmas.finish_eq, hp, e3']
  rfl

end R9

namespace R9

theorem unbracket_rebracket_nil (b : Bool) : unbracket (StrTotal.rebracket b []) = [] := by
  cases b <;> rfl

theorem lazyNet_eq (e : Env) (v : Url) (np : NetlocParts) (h : splitNetloc e.o v.netloc = .ok np) :
    lazyNet e v = .ok { rawHost := (match np.host with
                                    | none => if v.netloc.isEmpty then none else some []
                                    | some h => some h),
                        explicitPort := np.port, rawUser := np.user, rawPassword := np.password } := by
  unfold lazyNet
  rw [h]
  rfl

/-- the empty-host case: eager `raw_host` is "", the lazy one is "" iff the stored netloc is not empty -/
theorem iff_empty_host (e : Env) (v : Url) (b : Bool) (cu rp : Option Str) (port : Option Nat)
    (hUser : UserOK cu) (hport : ∀ p, port = some p → p ≤ 65535)
    (hnl : v.netloc = makeNetloc (q e Gen.QUOTER) cu rp (some (StrTotal.rebracket b [])) port false) :
    lazyNet e v = .ok { rawHost := some (unbracket (StrTotal.rebracket b [])), explicitPort := port,
                        rawUser := cu, rawPassword := rp } ↔
      (b = true ∨ cu ≠ none ∨ rp ≠ none ∨ port ≠ none) := by
  have hrt := roundtrip_reads e.o (q e Gen.QUOTER) cu rp _ [] port hUser (nil_reads b) hport
  rw [← hnl] at hrt
  rw [lazyNet_eq e v _ hrt, unbracket_rebracket_nil]
  simp only [orNone_nil, Except.ok.injEq, NetPre.mk.injEq, and_true]
  constructor
  · intro h
    apply Classical.byContradiction
    intro hno
    simp only [not_or, Decidable.not_not, Bool.not_eq_true] at hno
    obtain ⟨hb, hc, hr, hp⟩ := hno
    subst hb hc hr hp
    have : v.netloc = [] := by rw [hnl]; rfl
    rw [this] at h
    simp at h
  · intro h
    have hne : v.netloc ≠ [] := by
      rw [hnl]
      cases b with
      | true =>
        apply makeNetloc_ne_nil_written
        simp [StrTotal.rebracket, mem]
      | false =>
        have : StrTotal.rebracket false [] = [] := by simp [StrTotal.rebracket]
        rw [this]
        apply makeNetloc_nil_host_ne_nil _ _ _ _ hUser
        rcases h with h | h | h | h
        · cases h
        · exact Or.inl h
        · exact Or.inr (Or.inl h)
        · exact Or.inr (Or.inr h)
    rw [isEmpty_false hne]
    rfl

/-- the malformed-bracket case: the written host text `w` has a '[' and no ']' -/
theorem iff_open_host (e : Env) (v : Url) (w : Str) (cu rp : Option Str) (port : Option Nat)
    (hUser : UserOK cu) (h64 : 64 ∉ w) (h91 : 91 ∈ w) (h93 : 93 ∉ w)
    (hnl : v.netloc = makeNetloc (q e Gen.QUOTER) cu rp (some w) port false) :
    lazyNet e v = .ok { rawHost := some (unbracket w), explicitPort := port, rawUser := cu, rawPassword := rp } ↔
      (port = none ∧ OddHost w = true) := by
  obtain ⟨U, hU, hsp⟩ := NetlocLemmas.splitNetloc_written e.o (q e Gen.QUOTER) cu rp w port hUser h64
  rw [finish_open e.o U rp w port h91 h93, hU, ← hnl] at hsp
  have hwne : w ≠ [] := by intro h0; rw [h0] at h91; cases h91
  have hne : v.netloc ≠ [] := by rw [hnl]; exact makeNetloc_ne_nil_written _ _ _ hwne _
  have hub : unbracket w = (w.drop 1).dropLast := by
    unfold unbracket; rw [mem_iff.mpr h91]; rfl
  rw [lazyNet_eq e v _ hsp, hub]
  have hhost : (match orNone ((partition 91 w).2.2 ++ portTail port) with
      | none => if v.netloc.isEmpty then none else some []
      | some h => some h) = some ((partition 91 w).2.2 ++ portTail port) := by
    cases hx : (partition 91 w).2.2 ++ portTail port with
    | nil => simp [orNone, isEmpty_false hne]
    | cons c t => simp [orNone]
  simp only [hhost, Except.ok.injEq, NetPre.mk.injEq, Option.some.injEq, and_true]
  cases port with
  | none =>
    simp only [portTail, List.append_nil, true_and, and_true]
    exact odd_iff w h91
  | some p => simp

end R9

/-- THE EXACT BOUNDARY.  For a Python-string input the constructor accepts and whose host text (as
    `split_netloc` cuts it out of the authority) is ASCII: the four eager cache entries are what the lazy route derives
    from the stored netloc IF AND ONLY IF the decidable predicate `AgreeB` holds of the authority text.  (Non-ASCII
    host texts go through the IDNA oracle: `C09_headline_idn_guard`, `C09_headline_idn_fails_for_insane_answer`.) -/
theorem C09_eager_lazy_iff (e : Env) (s : Str) (u : Url) (p : NetPre)
    (hs : PyStr s) (hu : encodeUrl e s = .ok u) (hpre : u.pre = some p)
    (hascii : isAscii (hostText (ctorAuthorityText s)) = true) :
    lazyNet e (pickleTwin u) = .ok p ↔ AgreeB (ctorAuthorityText s) = true := by
  obtain ⟨pt, _, _, hpt, _, _⟩ := encodeUrl_ok hu
  have hn := splitUrl_netloc e.o s pt hpt
  rcases encodeUrl_authority hu hpt with ⟨_, _, hno⟩ | ⟨_, np, host0, host1, hnp, h0, h1, hnl, hp⟩
  · rw [hno] at hpre
    cases hpre
  rw [hpre] at hp
  have hp := Option.some.inj hp
  have hpy := (WfLemmas.splitNetloc_pyStr e.o pt.netloc (WfLemmas.splitUrl_pyStr e.o s hs pt hpt).1 np hnp).1
  have hnp' := hnp
  rw [hn] at hnp hnl hp
  generalize hnn : ctorAuthorityText s = n at *
  obtain ⟨tu, tp, th, tport⟩ := splitNetloc_text e.o n np hnp
  have hUser : UserOK (cachedUser e np.user) := userOK_cached e np.user hpy
  have hport := fun p => NetlocLemmas.splitNetloc_port_range e.o _ np p hnp
  have hb : mem 91 (rpartition 64 n).2.2 = mem 91 (userSplit n).2.2 := by rw [StrTotal.userSplit_hostinfo_eq]
  have hnl' : (pickleTwin u).netloc = _ := hnl
  subst hp
  by_cases hemp : hostText n = []
  · -- (A) empty host
    rw [hemp, orNone_nil] at th
    rw [th] at h0
    have e0 : host0 = [] := by
      simp only [hostOr] at h0
      split at h0
      · cases h0
      · cases h0; rfl
    subst e0
    rw [encodeHost_nil] at h1
    cases h1
    rw [iff_empty_host e (pickleTwin u) _ _ _ _ hUser hport hnl']
    unfold AgreeB
    rw [hemp]
    simp only [List.isEmpty_nil, if_true, Bool.or_eq_true, Bool.not_eq_true', hb]
    have c1 : cachedUser e np.user ≠ none ↔ userWritten n = true := by
      rw [tu]; exact cachedUser_written e n (by rw [← tu]; exact hpy)
    have c2 : requoteOpt e np.password ≠ none ↔ (userSplit n).2.1.isSome = true := by
      rw [tp]; cases (userSplit n).2.1 <;> simp [requoteOpt]
    rw [c1, c2]
    simp only [ne_eq, tport, Bool.not_eq_true, or_assoc]
  · -- non-empty host
    rw [orNone_of_ne_nil hemp] at th
    rw [th] at h0
    have e0 : host0 = hostText n := by
      simp only [hostOr, pure, Except.pure, Except.ok.injEq] at h0; exact h0.symm
    subst e0
    have hempB : (hostText n).isEmpty = false := isEmpty_false hemp
    by_cases hgood : mem 91 (hostText n) = false ∨ isV6 (partition 37 (hostText n)).1 = true
    · -- inside the guard
      have hA : AgreeB n = true := by
        unfold AgreeB
        rw [hempB]
        simp only [Bool.false_eq_true, if_false, Bool.or_eq_true, Bool.not_eq_true']
        rcases hgood with h | h
        · exact Or.inl (Or.inl h)
        · exact Or.inl (Or.inr h)
      have hG : GoodHost e.o (hostText n) := by
        rcases hgood with h | h
        · exact C09_good_host_ascii e.o _ hascii (mem_false_iff.mp h)
        · exact Or.inr (isV6_spec h)
      have := C09_eager_eq_lazy e s u _ hu hpre
        (C09_good_authority_of e s pt np hpt hnp' ⟨hpy, by rw [th]; exact hG⟩)
      exact ⟨fun _ => hA, fun _ => this⟩
    · -- (B) a '[' inside the host text, no IPv6 literal
      simp only [not_or, Bool.not_eq_false, Bool.not_eq_true] at hgood
      obtain ⟨g91, g6⟩ := hgood
      have h91 : 91 ∈ hostText n := mem_iff.mp g91
      obtain ⟨_, h64, hB, hnB⟩ := StrTotal.splitNetloc_host_facts e.o n np _ hnp th
      have hbt : mem 91 (rpartition 64 n).2.2 = true := Bool.of_not_eq_false fun hbb => (hnB hbb).2 h91
      have h93 := hB hbt
      have hcases : host1 = hostText n ∨ host1 = lower (hostText n) := by
        rcases StrTotal.encodeHost_false_cases e.o _ _ h1 with ⟨h8, hv6, _⟩ | ⟨hna, _⟩ | h | ⟨_, h⟩ | ⟨hna, _⟩
        · rw [isV6_of hv6] at g6; cases g6
        · rw [hascii] at hna; cases hna      -- the re-entry on an IDNA answer with ':' is for non-ASCII hosts only
        · exact Or.inl h
        · exact Or.inr h
        · rw [hascii] at hna; cases hna
      -- lower-casing moves none of '[', ']', '@'
      obtain ⟨k91, k93, k64, kodd⟩ :
          91 ∈ host1 ∧ 93 ∉ host1 ∧ 64 ∉ host1 ∧ OddHost host1 = OddHost (hostText n) := by
        rcases hcases with h | h
        · rw [h]; exact ⟨h91, h93, h64, rfl⟩
        · rw [h, HostLemmas.mem_lower 91 (by omega), HostLemmas.mem_lower 93 (by omega), HostLemmas.mem_lower 64 (by omega)]
          exact ⟨h91, h93, h64, oddHost_lower _⟩
      have hw : StrTotal.rebracket (mem 91 (rpartition 64 n).2.2) host1 = host1 := by
        simp [StrTotal.rebracket, mem_iff.mpr k91]
      rw [hw] at hnl' ⊢
      rw [iff_open_host e (pickleTwin u) host1 _ _ _ hUser k64 k91 k93 hnl', kodd]
      unfold AgreeB
      rw [hempB]
      simp only [Bool.false_eq_true, if_false, g91, g6, Bool.not_true, Bool.or_false, Bool.false_or,
        Bool.and_eq_true]
      rw [tport]

/-! ### the two classes of disagreement, spelled out -/

/-- class (A), "the authority normalises to empty" (F-C09-empty-authority): empty host, no '[' , no written user
    (absent, "" or lone surrogates only), no password, no port text -/
def NormalisesToEmpty (n : Str) : Prop :=
  hostText n = [] ∧ mem 91 (userSplit n).2.2 = false ∧ userWritten n = false ∧ (userSplit n).2.1 = none ∧
  CtorMods.portText n = []

/-- class (B), "malformed brackets" (F-C09-bracket): a '[' inside the host text, which is no IPv6 literal — except the
    odd texts without port whose eager and lazy `raw_host` happen to coincide -/
def MalformedBrackets (n : Str) : Prop :=
  91 ∈ hostText n ∧ isV6 (partition 37 (hostText n)).1 = false ∧
  ¬ (CtorMods.portText n = [] ∧ OddHost (hostText n) = true)

instance (n : Str) : Decidable (NormalisesToEmpty n) := by unfold NormalisesToEmpty; infer_instance
instance (n : Str) : Decidable (MalformedBrackets n) := by unfold MalformedBrackets; infer_instance

theorem C09_agreeB_false_iff (n : Str) : AgreeB n = false ↔ NormalisesToEmpty n ∨ MalformedBrackets n := by
  unfold AgreeB NormalisesToEmpty MalformedBrackets
  by_cases hemp : hostText n = []
  · rw [hemp]
    simp only [List.isEmpty_nil, if_true, Bool.or_eq_false_iff, Bool.not_eq_false', true_and, List.not_mem_nil,
      false_and, or_false]
    constructor
    · rintro ⟨⟨⟨a, b⟩, c⟩, d⟩
      refine ⟨a, b, ?_, List.isEmpty_iff.mp d⟩
      cases hx : (userSplit n).2.1 with
      | none => rfl
      | some _ => rw [hx] at c; cases c
    · rintro ⟨a, b, c, d⟩
      refine ⟨⟨⟨a, b⟩, by rw [c]; rfl⟩, by rw [d]; rfl⟩
  · rw [isEmpty_false hemp]
    simp only [Bool.false_eq_true, if_false, Bool.or_eq_false_iff, Bool.not_eq_false', Bool.and_eq_false_iff,
      hemp, false_and, false_or]
    constructor
    · rintro ⟨⟨a, b⟩, c⟩
      refine ⟨mem_iff.mp a, b, ?_⟩
      rintro ⟨d, f⟩
      rcases c with c | c
      · rw [d] at c; cases c
      · rw [f] at c; cases c
    · rintro ⟨a, b, c⟩
      refine ⟨⟨mem_iff.mpr a, b⟩, ?_⟩
      cases hp : (CtorMods.portText n).isEmpty with
      | false => exact Or.inl rfl
      | true =>
        right
        cases ho : OddHost (hostText n) with
        | false => rfl
        | true => exact absurd ⟨List.isEmpty_iff.mp hp, ho⟩ c

/-- eager ≠ lazy exactly for "normalises to empty" ∪ "malformed brackets" -/
theorem C09_eager_ne_lazy_iff (e : Env) (s : Str) (u : Url) (p : NetPre)
    (hs : PyStr s) (hu : encodeUrl e s = .ok u) (hpre : u.pre = some p)
    (hascii : isAscii (hostText (ctorAuthorityText s)) = true) :
    lazyNet e (pickleTwin u) ≠ .ok p ↔
      NormalisesToEmpty (ctorAuthorityText s) ∨ MalformedBrackets (ctorAuthorityText s) := by
  rw [← C09_agreeB_false_iff, ne_eq, C09_eager_lazy_iff e s u p hs hu hpre hascii]
  cases AgreeB (ctorAuthorityText s) <;> simp

namespace EmptyAuth

/-- `NormalisesToEmpty` on the pieces of `userSplit` -/
theorem nte_iff (n : Str) : NormalisesToEmpty n ↔
    ((hostPort (userSplit n).2.2).1 = [] ∧ mem 91 (userSplit n).2.2 = false ∧
     (match (userSplit n).1 with
      | some u => u.any (fun c => !isSurrogate c)
      | none => false) = false ∧
     (userSplit n).2.1 = none ∧ (hostPort (userSplit n).2.2).2 = []) := Iff.rfl

/-- the host/port half is "" or ":" -/
theorem tail (hi : Str) (a : mem 91 hi = false) (b : (hostPort hi).1 = []) (c : (hostPort hi).2 = []) :
    hi = [] ∨ hi = [58] := by
  unfold hostPort at b c
  simp only [a, Bool.false_eq_true, if_false] at b c
  have hj := partition_join 58 hi
  rw [b, c] at hj
  cases hf : (partition 58 hi).2.1 with
  | true => rw [hf] at hj; exact Or.inr (by simpa using hj)
  | false => rw [hf] at hj; exact Or.inl (by simpa using hj)

theorem any_real_false {σ : Str} : (σ.any (fun c => !isSurrogate c)) = false ↔ ∀ c ∈ σ, isSurrogate c = true := by
  rw [List.any_eq_false]
  constructor
  · intro h c hc
    have := h c hc
    cases hs : isSurrogate c with
    | true => rfl
    | false => rw [hs] at this; exact absurd rfl this
  · intro h c hc
    rw [h c hc]; simp

/-- a text that normalises to empty is "", ":", or lone surrogates `σ` in front of "@" or "@:": the part in front of
    the last '@' holds no ':' (no password) and nothing that is written; what follows it is an empty host and port -/
theorem shape {n : Str} (h : NormalisesToEmpty n) :
    n = [] ∨ n = [58] ∨ ∃ σ, (∀ c ∈ σ, isSurrogate c = true) ∧ (n = σ ++ [64] ∨ n = σ ++ [64, 58]) := by
  obtain ⟨h1, h2, h3, h4, h5⟩ := (nte_iff n).mp h
  by_cases h64 : 64 ∈ n
  · obtain ⟨ui, hi, hn, hhi⟩ : ∃ ui hi, n = ui ++ 64 :: hi ∧ 64 ∉ hi := by
      have := ParseLemmas.rpartition_mem h64
      exact ⟨(rpartition 64 n).1, (rpartition 64 n).2.2, by simpa using this.1, this.2⟩
    have hus := userSplit_at ui hi hhi
    rw [← hn] at hus
    rw [hus] at h1 h2 h3 h4 h5
    simp only at h1 h2 h3 h4 h5
    have hnf : (partition 58 ui).2.1 = false := by
      cases hf : (partition 58 ui).2.1 with
      | false => rfl
      | true => rw [hf] at h4; cases h4
    have hui : (partition 58 ui).1 = ui := by
      have := partition_join 58 ui
      rw [hnf] at this
      simpa using this.symm
    rw [hui] at h3
    refine Or.inr (Or.inr ⟨ui, any_real_false.mp h3, ?_⟩)
    rcases tail hi h2 h1 h5 with h | h
    · left; rw [hn, h]
    · right; rw [hn, h]
  · have hus := userSplit_noAt n h64
    rw [hus] at h1 h2 h5
    rcases tail n h2 h1 h5 with h | h
    · exact Or.inl h
    · exact Or.inr (Or.inl h)

end EmptyAuth

/-- class (A) in closed form: among the authority texts without surrogates (all ASCII ones) exactly "@", ":" and "@:"
    — the spellings of F-C09-empty-authority; the only further members are `<lone surrogates>@` and `<lone surrogates>@:`
    (`C09_headline_fails_for_surrogate_user_empty_host`) -/
theorem C09_normalises_to_empty_ascii (n : Str) (hns : NoSurrogate n) (hne : n ≠ []) :
    NormalisesToEmpty n ↔ (n = "@".toStr ∨ n = ":".toStr ∨ n = "@:".toStr) := by
  constructor
  · intro h
    rcases EmptyAuth.shape h with h | h | ⟨σ, hσ, h⟩
    · exact absurd h hne
    · exact Or.inr (Or.inl h)
    · -- without lone surrogates `σ` is empty
      have hnil : σ = [] := by
        cases σ with
        | nil => rfl
        | cons c t =>
          have h1 := hσ c (by simp)
          have h2 : isSurrogate c = false := hns c (by rcases h with h | h <;> rw [h] <;> simp)
          rw [h1] at h2; cases h2
      subst hnil
      rcases h with h | h
      · exact Or.inl h
      · exact Or.inr (Or.inr h)
  · rintro (h | h | h) <;> subst h <;> decide

/-- the guard `GoodAuthority` / `AuthorityOK` is SUFFICIENT for agreement … -/
theorem C09_authorityOK_agreeB (n : Str) (h : AuthorityOK n = true) : AgreeB n = true := by
  unfold AuthorityOK at h
  unfold AgreeB
  split
  · rename_i hemp
    rw [if_pos hemp] at h
    simp only [Bool.or_eq_true] at h ⊢
    rcases h with (h | h) | h
    · exact Or.inl (Or.inl (Or.inr h))
    · exact Or.inl (Or.inr h)
    · exact Or.inr h
  · rename_i hemp
    rw [if_neg hemp] at h
    simp only [Bool.or_eq_true] at h ⊢
    exact Or.inl h

namespace R9

/-- the user clause of `GoodNp` for an empty host, on the text: a user that the quoter does not drop -/
theorem user_written_iff (e : Env) (n : Str) (np : NetlocParts) (hu : np.user = (userSplit n).1.bind orNone)
    (hpy : ∀ x, np.user = some x → PyStr x) :
    (∃ s, np.user = some s ∧ q e Gen.REQUOTER s ≠ []) ↔ userWritten n = true := by
  rw [← cachedUser_written e n (by rw [← hu]; exact hpy), ← hu]
  constructor
  · rintro ⟨x, hx, hq⟩ hnone
    rcases cachedUser_none.mp hnone with h0 | h0 | ⟨y, hy, hyq⟩
    · rw [hx] at h0
      cases h0
    · rw [hx] at h0
      cases h0
      exact hq ((quoter_eq_nil_iff mem_REQUOTER e [] nofun).mpr nofun)
    · rw [hx] at hy
      cases hy
      exact hq hyq
  · intro h
    cases hc : cachedUser e np.user with
    | none => exact absurd hc h
    | some t =>
      obtain ⟨x, hx, _, rfl, hne⟩ := cachedUser_some.mp hc
      exact ⟨x, hx, hne⟩

/-- the guard on what `split_netloc` cuts out of the authority text `n` IS the decidable predicate on `n`
    (`IdnaSaneAt` is used for a non-ASCII host text, from right to left only) -/
theorem goodNp_iff (e : Env) (n : Str) (np : NetlocParts) (hnp : splitNetloc e.o n = .ok np)
    (hpy : ∀ x, np.user = some x → PyStr x)
    (hidn : isAscii (hostText n) = false → IdnaSaneAt e.o (hostText n)) :
    GoodNp e np ↔ AuthorityOK n = true := by
  obtain ⟨hu, hp, hh, tport⟩ := splitNetloc_text e.o n np hnp
  unfold GoodNp AuthorityOK
  rw [and_iff_right hpy, hh]
  by_cases hemp : hostText n = []
  · have c2 : np.password ≠ none ↔ (userSplit n).2.1.isSome = true := by
      rw [hp]
      cases (userSplit n).2.1 <;> simp
    have c3 : np.port ≠ none ↔ (CtorMods.portText n).isEmpty = false := by
      rw [ne_eq, tport, Bool.not_eq_true]
    rw [hemp, orNone_nil]
    simp only [List.isEmpty_nil, if_true, Bool.or_eq_true, Bool.not_eq_true', or_assoc]
    rw [user_written_iff e n np hu hpy, c2, c3]
  · rw [orNone_of_ne_nil hemp, isEmpty_false hemp]
    simp only [Bool.false_eq_true, if_false, Bool.or_eq_true, Bool.not_eq_true']
    constructor
    · rintro (⟨h91, _⟩ | ⟨h8, hv6⟩)
      · exact Or.inl (mem_false_iff.mpr h91)
      · exact Or.inr (isV6_of hv6)
    · rintro (h91 | h6)
      · cases ha : isAscii (hostText n) with
        | true => exact C09_good_host_ascii e.o _ ha (mem_false_iff.mp h91)
        | false => exact C09_idn_good_host e.o _ (mem_false_iff.mp h91) (hidn ha)
      · exact Or.inr (isV6_spec h6)

end R9

/-- the guard from the INPUT TEXT.  A Python-string input whose authority text satisfies the decidable
    predicate `AuthorityOK` is inside `GoodAuthority`, for every host kind at once; the only non-syntactic hypothesis
    is the trusted-base assumption `IdnaSaneAt` for a NON-ASCII host text (vacuous for ASCII hosts). -/
theorem C09_good_authority_of_input (e : Env) (s : Str)
    (hs : PyStr s)                                            -- the input is a Python string
    (hok : AuthorityOK (ctorAuthorityText s) = true)              -- decidable, on the authority text
    (hidn : isAscii (hostText (ctorAuthorityText s)) = false →    -- ASSUMPTION about the idna package (IDN hosts only)
      IdnaSaneAt e.o (hostText (ctorAuthorityText s))) :
    GoodAuthority e s := by
  intro pt np h1 h2
  have hpy := (WfLemmas.splitNetloc_pyStr e.o pt.netloc (WfLemmas.splitUrl_pyStr e.o s hs pt h1).1 np h2).1
  rw [splitUrl_netloc e.o s pt h1] at h2
  exact (goodNp_iff e _ np h2 hpy hidn).mpr hok

/-- `AuthorityOK` is not only sufficient: on an input whose authority `split_netloc` accepts it IS the guard
    `GoodAuthority` (for a non-ASCII host: under the assumption `IdnaSaneAt`) — nothing is missing from (b). -/
theorem C09_good_authority_iff_input (e : Env) (s : Str) (hs : PyStr s) (pt : Parts) (np : NetlocParts)
    (hpt : splitUrl e.o s = .ok pt) (hnp : splitNetloc e.o pt.netloc = .ok np)   -- the input is accepted so far
    (hidn : isAscii (hostText (ctorAuthorityText s)) = false → IdnaSaneAt e.o (hostText (ctorAuthorityText s))) :
    GoodAuthority e s ↔ AuthorityOK (ctorAuthorityText s) = true := by
  refine ⟨fun hg => ?_, fun hok => C09_good_authority_of_input e s hs hok hidn⟩
  have hg' := hg pt np hpt hnp
  rw [splitUrl_netloc e.o s pt hpt] at hnp
  exact (goodNp_iff e _ np hnp hg'.1 hidn).mp hg'

/-- … but NOT necessary: "foo://[:[]/", "foo://[:[[]/" and "foo://[a:b]@[[]/" (host texts ":[", ":[[", "[") lie outside
    `GoodAuthority`, yet the eager entries are exactly what the restored URL derives.  (Malformed input that the bracket
    check of `split_url` lets through; no observable defect — the guard is merely not exact.  `AgreeB` is.) -/
theorem C09_guard_not_exact :
    ∀ s ∈ ["foo://[:[]/".toStr, "foo://[:[[]/".toStr, "foo://[a:b]@[[]/".toStr],
      ¬ GoodAuthority envPy s ∧ AuthorityOK (ctorAuthorityText s) = false ∧ AgreeB (ctorAuthorityText s) = true ∧
      ∃ u p, encodeUrl envPy s = .ok u ∧ u.pre = some p ∧ lazyNet envPy (pickleTwin u) = .ok p := by
  -- everything that is evaluated, for one input: the constructor result with its cache `p`, what the restored URL
  -- derives, the split of the input with host text `h0`, and the two decidable guards
  have key : ∀ s (nl : Str) (p : NetPre) (pt : Parts) (np : NetlocParts) (h0 : Str),
      (encodeUrl envPy s = .ok ⟨"foo".toStr, nl, "/".toStr, [], [], some p⟩ ∧
        lazyNet envPy (pickleTwin ⟨"foo".toStr, nl, "/".toStr, [], [], some p⟩) = .ok p ∧
        splitUrl envPy.o s = .ok pt ∧ splitNetloc envPy.o pt.netloc = .ok np ∧ np.host = some h0 ∧
        91 ∈ h0 ∧ parseIP (partition 37 h0).1 = none ∧
        AuthorityOK (ctorAuthorityText s) = false ∧ AgreeB (ctorAuthorityText s) = true) →
      ¬ GoodAuthority envPy s ∧ AuthorityOK (ctorAuthorityText s) = false ∧ AgreeB (ctorAuthorityText s) = true ∧
        ∃ u p, encodeUrl envPy s = .ok u ∧ u.pre = some p ∧ lazyNet envPy (pickleTwin u) = .ok p := by
    intro s nl p pt np h0 ⟨a, c, d, f, g, h91, hip, hA, hB⟩
    refine ⟨fun hg => ?_, hA, hB, _, p, a, rfl, c⟩
    have := (hg pt np d f).2
    rw [g] at this
    rcases this with ⟨hn, _⟩ | ⟨h8, h8'⟩
    · exact hn h91
    · rw [hip] at h8'; cases h8'
  intro s hs
  simp only [List.mem_cons, List.not_mem_nil, or_false] at hs
  rcases hs with rfl | rfl | rfl
  · exact key _ ":[".toStr { rawHost := some [], explicitPort := none, rawUser := none, rawPassword := none }
      { scheme := "foo".toStr, netloc := "[:[]".toStr, path := "/".toStr, query := [], fragment := [] }
      { user := none, password := none, host := some ":[".toStr, port := none } ":[".toStr (by str_lits; decide +kernel)
  · exact key _ ":[[".toStr { rawHost := some [91], explicitPort := none, rawUser := none, rawPassword := none }
      { scheme := "foo".toStr, netloc := "[:[[]".toStr, path := "/".toStr, query := [], fragment := [] }
      { user := none, password := none, host := some ":[[".toStr, port := none } ":[[".toStr (by str_lits; decide +kernel)
  · exact key _ "%5Ba:b%5D@[".toStr
      { rawHost := some [], explicitPort := none, rawUser := some "%5Ba".toStr, rawPassword := some "b%5D".toStr }
      { scheme := "foo".toStr, netloc := "[a:b]@[[]".toStr, path := "/".toStr, query := [], fragment := [] }
      { user := some "[a".toStr, password := some "b]".toStr, host := some "[".toStr, port := none } "[".toStr
      (by str_lits; decide +kernel)

/-! ### inputs WITHOUT an authority

  `GoodAuthority` is FALSE for an input without authority (its empty-host clause asks for a user, a password or a port),
  so `C09_headline_restored_string_form_and_accessors` / `C09_pickle_lossless` say nothing about "/path", "mailto:x" …
  — although nothing is cached for them and the restored URL IS the URL. -/

theorem C09_guard_false_without_authority : ¬ GoodAuthority envPy "/a?b#c".toStr := by
  intro hg
  have := (hg { scheme := [], netloc := [], path := "/a".toStr, query := "b".toStr, fragment := "c".toStr }
    { user := none, password := none, host := none, port := none } (by str_lits; decide +kernel) (by str_lits; decide +kernel)).2
  simp at this

/-- an input without authority: nothing is pre-computed, the restored URL is the URL itself -/
theorem C09_no_authority_twin (e : Env) (s : Str) (u : Url) (hu : encodeUrl e s = .ok u)
    (hn : ctorAuthorityText s = []) : u.pre = none ∧ pickleTwin u = u := by
  obtain ⟨pt, _, _, hpt, _, _⟩ := encodeUrl_ok hu
  rcases encodeUrl_authority hu hpt with ⟨_, _, this⟩ | ⟨hne, _⟩
  · exact ⟨this, C09_twin_of_pre_none u this⟩
  · exact absurd (by rw [splitUrl_netloc e.o s pt hpt, hn]) hne

/-- the decidable guard on the INPUT: no authority at all, or an authority text with `AuthorityOK` -/
def InputOK (s : Str) : Bool := (ctorAuthorityText s).isEmpty || AuthorityOK (ctorAuthorityText s)

/-- C09, sentence 1 and 2, from the input text alone — every accepted Python-string input with `InputOK`, with or
    without authority: the eager entries are the lazy values, EVERY accessor of the restored URL returns the same
    value, the restored URL is `==` with the same hash key. -/
theorem C09_pickle_lossless_of_input (e : Env) (s : Str) (u : Url) (hs : PyStr s) (hu : encodeUrl e s = .ok u)
    (hok : InputOK s = true)
    (hidn : isAscii (hostText (ctorAuthorityText s)) = false → IdnaSaneAt e.o (hostText (ctorAuthorityText s))) :
    (∀ p, u.pre = some p → lazyNet e (pickleTwin u) = .ok p) ∧
    (∀ a : Acc9, AccVal.Same e (a.read e (pickleTwin u)) (a.read e u)) ∧
    (pickleTwin u).beq u = true ∧ eqKey (pickleTwin u) = eqKey u := by
  unfold InputOK at hok
  simp only [Bool.or_eq_true] at hok
  rcases hok with hok | hok
  · obtain ⟨h1, h2⟩ := C09_no_authority_twin e s u hu (List.isEmpty_iff.mp hok)
    refine ⟨fun p hp => (by rw [h1] at hp; cases hp), fun a => ?_, (C09_twin_parts u).2.2.1, rfl⟩
    rw [h2]; exact same_refl e _
  · have hg := C09_good_authority_of_input e s hs hok hidn
    exact ⟨fun p hp => C09_eager_eq_lazy e s u p hu hp hg, C09_every_accessor e s u hu hg,
      (C09_twin_parts u).2.2.1, rfl⟩

/-! ## non-vacuity and coverage -/

/-- every host kind (and two inputs without authority) passes the decidable guard -/
theorem R9.input_guard_covers_host_kinds :
    ∀ s ∈ ["HTTP://ExAmple.COM/p".toStr, "http://example.com./".toStr, "http://u:p@1.2.3.4:8080/".toStr,
           "http://Us:p%40w@[::1%eth0]:8080/".toStr, "http://[::1%[x]:81/".toStr, "http://u@[v1.A:b]:80/".toStr,
           "http://[1.2.3.4%a:b]/".toStr, "foo://:80/".toStr, "//u@".toStr, "foo://:pw@/x".toStr,
           "http://h: 80 /".toStr, "/a/b?x=1".toStr, "mailto:x@y".toStr],
    InputOK s = true := by str_lits; decide +kernel

/-- the boundary evaluated, both sides: the two classes of `C09_agreeB_false_iff` and inputs next to them -/
theorem R9.boundary_examples : AgreeB (ctorAuthorityText "http://[[::1]/".toStr) = false ∧ MalformedBrackets (ctorAuthorityText "http://[[::1]/".toStr) ∧
    AgreeB (ctorAuthorityText "//@:?#".toStr) = false ∧ NormalisesToEmpty (ctorAuthorityText "//@:?#".toStr) ∧
    AgreeB (ctorAuthorityText ("foo://".toStr ++ [0xDC80] ++ "@/x".toStr)) = false ∧
    NormalisesToEmpty (ctorAuthorityText ("foo://".toStr ++ [0xDC80] ++ "@/x".toStr)) ∧
    AgreeB (ctorAuthorityText ("http://".toStr ++ [0xDC80] ++ "@host/".toStr)) = true ∧
    AgreeB (ctorAuthorityText "http://x[::1]/".toStr) = true ∧ AgreeB (ctorAuthorityText "http://[::1]x/".toStr) = true ∧
    AgreeB (ctorAuthorityText "foo://[x:[]:80/".toStr) = false ∧ AgreeB (ctorAuthorityText "foo://[A:[]/".toStr) = false := by
  str_lits; decide +kernel

section checks

-- (b) every host kind, all through the ONE predicate (pure-Python backend, no oracle needed: ASCII hosts)
example : ∀ s ∈ ["HTTP://ExAmple.COM/p".toStr,                  -- upper-case reg-name
                 "http://example.com./".toStr,                   -- trailing dot
                 "http://u:p@1.2.3.4:8080/".toStr,               -- IPv4, userinfo, port
                 "http://Us:p%40w@[::1%eth0]:8080/".toStr,       -- IPv6 with zone, userinfo, port
                 "http://[::1%[x]:81/".toStr,                    -- IPv6, '[' in the zone
                 "http://u@[v1.A:b]:80/".toStr,                  -- IPvFuture
                 "http://[1.2.3.4%a:b]/".toStr,                  -- bracketed IPv4 with ':' in the zone
                 "foo://:80/".toStr, "//u@".toStr, "foo://:pw@/x".toStr,   -- empty host: port / user / password
                 "http://h: 80 /".toStr,                         -- liberal `int()` port text
                 "/a/b?x=1".toStr, "mailto:x@y".toStr],          -- no authority
    InputOK s = true := R9.input_guard_covers_host_kinds

example : ∀ s ∈ ["HTTP://ExAmple.COM/p".toStr, "http://u:p@1.2.3.4:8080/".toStr, "foo://:80/".toStr],
    GoodAuthority envPy s := by
  intro s hs
  have key : PyStr s ∧ AuthorityOK (ctorAuthorityText s) = true ∧
      isAscii (hostText (ctorAuthorityText s)) = true := by
    revert s; str_lits; decide +kernel
  exact C09_good_authority_of_input envPy s key.1 key.2.1 (fun h => by rw [key.2.2] at h; cases h)

-- userinfo + IDN host + port together (compiled backend, the two-entry oracle table of C16Idn.lean)
private def eS : Env := { b := .c, o := C16_idn_sampleOracle }
private def sI : Str := "http://User:p%40w@".toStr ++ C16_idn_buecher ++ ":8080/a/b#f".toStr

example : InputOK sI = true ∧ hostText (ctorAuthorityText sI) = C16_idn_buecher ∧
    isAscii (hostText (ctorAuthorityText sI)) = false := by simp only [sI]; str_lits; decide +kernel

example : GoodAuthority eS sI :=
  C09_good_authority_of_input eS sI (by str_lits; decide +kernel) (by str_lits; decide +kernel) (fun ha => C16_idn_sane_satisfiable.1.at ha)

example : eagerLazy eS sI = .ok ("User:p%40w@xn--bcher-kva:8080".toStr,
    some { rawHost := some "xn--bcher-kva".toStr, explicitPort := some 8080, rawUser := some "User".toStr,
           rawPassword := some "p%40w".toStr },
    .ok { rawHost := some "xn--bcher-kva".toStr, explicitPort := some 8080, rawUser := some "User".toStr,
          rawPassword := some "p%40w".toStr }) := by simp only [sI]; str_lits; decide +kernel

-- the ONE theorem over the accessor list, applied: `str()` and `origin()` of the restored URL
example (u : Url) (hu : encodeUrl eS sI = .ok u) :
    str eS (pickleTwin u) = str eS u ∧
    AccVal.Same eS (.url (origin eS (pickleTwin u))) (.url (origin eS u)) := by
  have h := (C09_pickle_lossless_of_input eS sI u (by str_lits; decide +kernel) hu (by str_lits; decide +kernel)
    (fun ha => C16_idn_sane_satisfiable.1.at ha)).2.1
  exact ⟨AccVal.str.inj (h .str), h .origin⟩

-- (c) the boundary, both sides, through `C09_eager_lazy_iff`
example : AgreeB (ctorAuthorityText "http://[[::1]/".toStr) = false ∧ MalformedBrackets (ctorAuthorityText "http://[[::1]/".toStr) ∧
    AgreeB (ctorAuthorityText "//@:?#".toStr) = false ∧ NormalisesToEmpty (ctorAuthorityText "//@:?#".toStr) ∧
    AgreeB (ctorAuthorityText ("foo://".toStr ++ [0xDC80] ++ "@/x".toStr)) = false ∧
    NormalisesToEmpty (ctorAuthorityText ("foo://".toStr ++ [0xDC80] ++ "@/x".toStr)) ∧
    AgreeB (ctorAuthorityText ("http://".toStr ++ [0xDC80] ++ "@host/".toStr)) = true ∧
    AgreeB (ctorAuthorityText "http://x[::1]/".toStr) = true ∧ AgreeB (ctorAuthorityText "http://[::1]x/".toStr) = true ∧
    AgreeB (ctorAuthorityText "foo://[x:[]:80/".toStr) = false ∧ AgreeB (ctorAuthorityText "foo://[A:[]/".toStr) = false :=
  R9.boundary_examples

example (u : Url) (p : NetPre) (hu : encodeUrl envPy "http://[[::1]/".toStr = .ok u) (hp : u.pre = some p) :
    lazyNet envPy (pickleTwin u) ≠ .ok p :=
  (C09_eager_ne_lazy_iff envPy _ u p (by str_lits; decide +kernel) hu hp (by str_lits; decide +kernel)).mpr (Or.inr (by str_lits; decide +kernel))

example (u : Url) (p : NetPre) (hu : encodeUrl envPy "foo://[:[]/".toStr = .ok u) (hp : u.pre = some p) :
    lazyNet envPy (pickleTwin u) = .ok p :=
  (C09_eager_lazy_iff envPy _ u p (by str_lits; decide +kernel) hu hp (by str_lits; decide +kernel)).mpr (by str_lits; decide +kernel)

example : NoSurrogate "@:".toStr ∧ NormalisesToEmpty "@:".toStr := by str_lits; decide +kernel

end checks

end Yarl
