/-
  C04DecideConverse.lean — property C04: the CONVERSE of `C04_canonicalB_sound`.

      str(URL(s)) == s   →   canonicalB s = true
  for every Python string `s` in the checker's syntactic domain: `s` parses, and its authority is empty or names a
  host of a supported kind in ANY spelling (`AuthInputB`: ASCII reg-name / IPv4 text in any letter case, an IPv6
  literal in any spelling `ipaddress` accepts with optional zone, a bracketed non-IPv6 text in any letter case) other
  than an IPv4 literal followed by `%zone`.  Outside that domain the converse is FALSE: an IPv4 literal with a zone id
  keeps an upper-case zone (`C04_converse_fails_for_ipv4_zone`), a host-less authority ":80" is a fixed point
  (`C04_converse_fails_for_empty_host`; identity theorem in C04DecideEmpty.lean), and so is a host containing a space
  (`C04_converse_fails_for_space_in_host`).  Inside it, `canonicalB` is EXACTLY the set of fixed points of
  `str ∘ URL` (`C04_canonicalB_iff`).

  Helpers: Lemmas/CanonComplete.lean (the Boolean checkers are complete for their Prop-level specifications),
  Lemmas/CanonConverse.lean (`fixed_parts`: at a fixed point the parsed parts are canonical).
-/
import YarlModel
import YarlProofs.C04Decide
import YarlProofs.Lemmas.CanonConverse
namespace Yarl
open R8 ReachFix FixLemmas NetShape HostLemmas NetlocLemmas BrHost ParseLemmas UnsplitLemmas

/-- the one corner of the supported host kinds that is excluded: the host of the authority text `n` (as
    `split_netloc` reads it) is not an IPv4 literal followed by `%zone` (`_encode_host` copies such a zone id
    verbatim, in any letter case) -/
def C04_NoIPv4Zone (n : Str) : Prop :=
  ∀ np h, splitNetloc Oracles.empty n = .ok np → np.host = some h → NoV4Zone h

instance (n : Str) : Decidable (C04_NoIPv4Zone n) :=
  match hsp : splitNetloc Oracles.empty n with
  | .error err => isTrue (by intro np h h1 _; rw [hsp] at h1; cases h1)
  | .ok np =>
    match hh : np.host with
    | none => isTrue (by intro np' h h1 h2; rw [hsp] at h1; cases h1; rw [hh] at h2; cases h2)
    | some h => decidable_of_iff (NoV4Zone h)
        ⟨fun hz np' h' h1 h2 => by rw [hsp] at h1; cases h1; rw [hh] at h2; cases h2; exact hz,
         fun hz => hz np h hsp hh⟩

/-- the checker's SYNTACTIC DOMAIN: a Python string that parses, whose authority is empty or names a host of a
    supported kind — in any spelling: nothing is said about letter case, escapes, ports, dot segments … -/
structure C04_Domain (o : Oracles) (s : Str) (p : Parts) : Prop where
  pyStr : PyStr s
  parse : splitUrl o s = .ok p
  /-- empty, or `split_netloc` accepts it and its host is an ASCII reg-name / IPv4 text, an IPv6 literal (+ zone), or
      a bracketed non-IPv6 text (`AuthInputB`, C03Bracket.lean) -/
  host : AuthInputB o p.netloc
  corner : C04_NoIPv4Zone p.netloc

/-- THE CONVERSE, Prop level: at a fixed point of `str ∘ URL` inside the domain, the five parts `split_url`
    reads are canonical (`CanonStringB`: every clause of "already canonical", incl. no default port, no dot segment
    under an authority, canonical escapes in every component) and well-formed, the string is clean, its scheme is
    written in lower case, nothing is dropped in parsing (`Recomposable`), and the stored URL has exactly these parts. -/
theorem C04_fixed_point_canonical (e : Env) (s : Str) (p : Parts) (u : Url) (hs : PyStr s)
    (hp : splitUrl e.o s = .ok p) (ha : AuthInputB e.o p.netloc)
    (h1 : encodeUrl e s = .ok u) (h2 : str e u = .ok s) :
    CanonStringB e p.scheme p.netloc p.path p.query p.fragment ∧ PartsOK p ∧
    cleanUrl s = s ∧ ((splitScheme s).1 = [] ∨ lower (s.takeWhile (· ≠ 58)) = s.takeWhile (· ≠ 58)) ∧
    Recomposable s ∧ toParts5 p = Rfc.appendixB Gen.schemeChars s := by
  obtain ⟨hcanon, hok, hW⟩ := fixed_parts e s p u hs hp ha h1 h2
  have hg := hok.toG
  have hsw : s = written p := hW.symm.trans (unsplit_written hg)
  refine ⟨hcanon, hok, ?_, ?_, ?_, ?_⟩
  · rw [hsw]; exact written_clean hg
  · rw [hsw]; exact lower_written hg
  · rw [hsw]; exact recomposable_written hg
  · rw [hsw, appendixB_written hg]; rfl

/-- THE CONVERSE for the Boolean checker: inside the domain, `str(URL(s)) == s` implies `canonicalB s`. -/
theorem C04_canonicalB_complete (e : Env) (s : Str) (p : Parts) (hd : C04_Domain e.o s p) :
    (∃ u, encodeUrl e s = .ok u ∧ str e u = .ok s) → canonicalB s = true := by
  rintro ⟨u, h1, h2⟩
  obtain ⟨hcanon, hok, hclean, hlower, hrec, hB⟩ :=
    C04_fixed_point_canonical e s p u hd.pyStr hd.parse hd.host h1 h2
  unfold canonicalB
  rw [← hB]
  simp only [toParts5, Bool.and_eq_true, decide_eq_true_eq, beq_iff_eq]
  refine ⟨⟨⟨⟨⟨hclean, hlower⟩, hrec⟩, decide_eq_true hcanon.schemeOK⟩, netlocB_complete e hcanon.netlocOK hd.corner⟩, ?_⟩
  unfold C04_canonClauses
  simp only [List.replicate, List.cons.injEq, decide_eq_true_eq, and_true]
  exact ⟨isCanon_complete_c pr_mem hcanon.pathC, isCanon_complete_c qr_mem hcanon.queryC,
    isCanon_complete_c fr_mem hcanon.fragmentC, hcanon.rooted, hcanon.nodots, hcanon.nonempty, hcanon.first_segment,
    hcanon.authority_scheme⟩

/-- … so inside the domain the checker decides EXACTLY "str(URL(s)) == s" (both backends, every oracle assignment):
    the library neither over-encodes nor over-decodes, and changes everything that is not canonical -/
theorem C04_canonicalB_iff (e : Env) (s : Str) (p : Parts) (hd : C04_Domain e.o s p) :
    canonicalB s = true ↔ ∃ u, encodeUrl e s = .ok u ∧ str e u = .ok s :=
  ⟨C04_canonicalB_sound e s, C04_canonicalB_complete e s p hd⟩

/-- … and in one line: a string of the domain that the checker rejects is CHANGED by `str(URL(s))` (or rejected) -/
theorem C04_not_canonical_changed (e : Env) (s : Str) (p : Parts) (hd : C04_Domain e.o s p)
    (h : canonicalB s = false) : C04_roundTrip e s ≠ .ok s := by
  intro hrt
  have := C04_canonicalB_complete e s p hd (IdGen.roundTrip_iff.1 hrt)
  rw [h] at this
  cases this

/-! ## per component (no domain hypothesis on the authority needed for path, query and fragment)

  `u.path = p.path` etc.: the component the constructor stores is the one it read. -/

/-- if the constructor leaves the PATH unchanged, the path satisfies the path clause: canonical for PATH_REQUOTER, and
    without dot segments when the stored URL has an authority; likewise QUERY and FRAGMENT -/
theorem C04_component_unchanged_canonical (e : Env) (s : Str) (p : Parts) (u : Url) (hs : PyStr s)
    (hp : splitUrl e.o s = .ok p) (h1 : encodeUrl e s = .ok u) :
    (u.path = p.path → Canon (Gen.PATH_REQUOTER.tab e.b) p.path ∧ (u.netloc ≠ [] → NoDotSegments p.path) ∧
      (u.netloc ≠ [] → (p.path = [] ∨ p.path.head? = some 47))) ∧
    (u.query = p.query → Canon (Gen.QUERY_REQUOTER.tab e.b) p.query) ∧
    (u.fragment = p.fragment → Canon (Gen.FRAGMENT_REQUOTER.tab e.b) p.fragment) ∧
    u.scheme = p.scheme ∧ SchemeOK' p.scheme := by
  have hc := C03_encodeUrl_canon e s hs u h1
  have hsch := C03_encodeUrl_scheme e s u hs h1
  obtain ⟨p', netloc, pre, hp', hn0, hu⟩ := encodeUrl_inv e s u h1
  rw [hp] at hp'
  cases hp'
  have hus : u.scheme = p.scheme := by rw [hu]; rfl
  refine ⟨fun h => ?_, fun h => ?_, fun h => ?_, hus, hus ▸ hsch⟩
  · rw [← h]; exact ⟨hc.path, hc.nodots, hc.rooted⟩
  · rw [← h]; exact hc.query
  · rw [← h]; exact hc.fragment

/-- … with the Boolean clause checkers of `canonicalB` -/
theorem C04_component_unchanged_checked (e : Env) (s : Str) (p : Parts) (u : Url) (hs : PyStr s)
    (hp : splitUrl e.o s = .ok p) (h1 : encodeUrl e s = .ok u) :
    (u.path = p.path → isCanon (Gen.PATH_REQUOTER.tab .c) p.path = true) ∧
    (u.query = p.query → isCanon (Gen.QUERY_REQUOTER.tab .c) p.query = true) ∧
    (u.fragment = p.fragment → isCanon (Gen.FRAGMENT_REQUOTER.tab .c) p.fragment = true) := by
  obtain ⟨a, b, c, _⟩ := C04_component_unchanged_canonical e s p u hs hp h1
  exact ⟨fun h => isCanon_complete_c pr_mem (a h).1, fun h => isCanon_complete_c qr_mem (b h),
    fun h => isCanon_complete_c fr_mem (c h)⟩

/-- the AUTHORITY component: inside the domain, if the constructor stores the authority it read AND `str` writes it
    back (no default port), the authority passes `netlocB` -/
theorem C04_authority_unchanged_checked (e : Env) (s : Str) (p : Parts) (u : Url) (hd : C04_Domain e.o s p)
    (h1 : encodeUrl e s = .ok u) (hn : u.netloc = p.netloc)
    (hport : ∀ q, explicitPort e u = .ok (some q) → some q ≠ defaultPort u.scheme) :
    netlocB p.scheme p.netloc = true := by
  have hnet := C03_bracket_encodeUrl_netlocCanonB e s u p hd.pyStr h1 hd.parse hd.host
  obtain ⟨p', netloc, pre, hp', hn0, hu⟩ := encodeUrl_inv e s u h1
  rw [hd.parse] at hp'
  cases hp'
  have hus : u.scheme = p.scheme := by rw [hu]; rfl
  apply netlocB_complete e _ hd.corner
  rw [← hn, ← hus]
  rcases netlocCanonB_iff.1 hnet with ⟨h0, _⟩ | ⟨user, pw, W, h, port, st⟩
  · exact .plain (.empty h0)
  · have hep : explicitPort e u = .ok port := by unfold explicitPort; rw [st.net]; rfl
    exact canonNetlocB_iff.2 (.inr ⟨user, pw, W, h, port, st.netloc, st.userinfo, st.host, st.range,
      fun q hq => hport q (by rw [hep, hq])⟩)

/-! ## where the converse FAILS (outside the domain): fixed points the checker rejects -/

/-- the excluded corner: `_encode_host` copies the zone id of an IPv4 literal verbatim, so an UPPER-CASE zone
    survives — "http://1.2.3.4%ETH0/" and "http://[1.2.3.4%A:b]/" are fixed points although the host is not
    lower-case (Python: `str(URL("http://1.2.3.4%ETH0/"))`); `C04_NoIPv4Zone` fails for them -/
theorem C04_converse_fails_for_ipv4_zone (b : Backend) :
    C04_roundTrip ⟨b, Oracles.empty⟩ "http://1.2.3.4%ETH0/".toStr = .ok "http://1.2.3.4%ETH0/".toStr ∧
    canonicalB "http://1.2.3.4%ETH0/".toStr = false ∧ ¬ C04_NoIPv4Zone "1.2.3.4%ETH0".toStr ∧
    C04_roundTrip ⟨b, Oracles.empty⟩ "http://[1.2.3.4%A:b]/".toStr = .ok "http://[1.2.3.4%A:b]/".toStr ∧
    canonicalB "http://[1.2.3.4%A:b]/".toStr = false ∧ ¬ C04_NoIPv4Zone "[1.2.3.4%A:b]".toStr ∧
    -- the lower-case spellings are accepted
    canonicalB "http://1.2.3.4%eth0/".toStr = true ∧ canonicalB "http://[1.2.3.4%a:b]/".toStr = true ∧
    -- … and the zone id IS lowered when the host does not end in a digit (the IP branch is not taken)
    C04_roundTrip ⟨b, Oracles.empty⟩ "http://1.2.3.4%ETHx/".toStr = .ok "http://1.2.3.4%ethx/".toStr := by
  str_lits; cases b <;> decide +kernel

/-- outside the supported host kinds: the EMPTY host with a port or a user (":80", "u@:80") is a fixed point for a
    scheme that does not require a host (C04DecideEmpty.lean), the checker asks for a host -/
theorem C04_converse_fails_for_empty_host (b : Backend) :
    C04_roundTrip ⟨b, Oracles.empty⟩ "x://:80/".toStr = .ok "x://:80/".toStr ∧ canonicalB "x://:80/".toStr = false ∧
    C04_roundTrip ⟨b, Oracles.empty⟩ "//u@:80/p".toStr = .ok "//u@:80/p".toStr ∧ canonicalB "//u@:80/p".toStr = false := by
  cases b <;> decide +kernel

/-- outside the supported host kinds: a SPACE inside the host is neither stripped nor escaped nor rejected —
    "http://a b/" is a fixed point (C03Headline.lean GAPS 2); the checker asks for visible ASCII -/
theorem C04_converse_fails_for_space_in_host (b : Backend) :
    C04_roundTrip ⟨b, Oracles.empty⟩ "http://a b/".toStr = .ok "http://a b/".toStr ∧
    canonicalB "http://a b/".toStr = false := by
  cases b <;> decide +kernel

/-! ## non-vacuity -/

/-- a string of the domain: the authority names an upper-case reg-name — `C04_not_canonical_changed` applies and
    says the string is changed -/
theorem C04_domain_example (o : Oracles) :
    C04_Domain o "HTTP://Example.COM:80/a/../b?x=%41".toStr
      { scheme := "http".toStr, netloc := "Example.COM:80".toStr, path := "/a/../b".toStr, query := "x=%41".toStr,
        fragment := [] } := by
  refine ⟨by str_lits; decide +kernel, ?_, ?_, by str_lits; decide +kernel⟩
  · have : splitUrl Oracles.empty "HTTP://Example.COM:80/a/../b?x=%41".toStr = .ok
        { scheme := "http".toStr, netloc := "Example.COM:80".toStr, path := "/a/../b".toStr, query := "x=%41".toStr,
          fragment := [] } := by str_lits; decide +kernel
    rw [splitUrl_eq] at this ⊢
    exact this
  · left; right
    refine ⟨{ user := none, password := none, host := some "Example.COM".toStr, port := some 80 },
      "Example.COM".toStr, ?_, rfl, hostText_name (by str_lits; decide +kernel) (by str_lits; decide +kernel),
      fun _ => by str_lits; decide +kernel⟩
    have : splitNetloc Oracles.empty "Example.COM:80".toStr =
        .ok { user := none, password := none, host := some "Example.COM".toStr, port := some 80 } := by
      str_lits; decide +kernel
    rw [NetlocLemmas.splitNetloc_eq] at this ⊢
    exact this

example (b : Backend) (o : Oracles) :
    C04_roundTrip ⟨b, o⟩ "HTTP://Example.COM:80/a/../b?x=%41".toStr ≠ .ok "HTTP://Example.COM:80/a/../b?x=%41".toStr :=
  C04_not_canonical_changed ⟨b, o⟩ _ _ (C04_domain_example o) (by str_lits; decide +kernel)

/-- … and a canonical string of the domain, through the `iff` -/
theorem C04_domain_example_canonical (o : Oracles) :
    C04_Domain o "http://example.com/a%20b?x=1#f".toStr
      { scheme := "http".toStr, netloc := "example.com".toStr, path := "/a%20b".toStr, query := "x=1".toStr,
        fragment := "f".toStr } := by
  refine ⟨by str_lits; decide +kernel, ?_, ?_, by str_lits; decide +kernel⟩
  · have : splitUrl Oracles.empty "http://example.com/a%20b?x=1#f".toStr = .ok
        { scheme := "http".toStr, netloc := "example.com".toStr, path := "/a%20b".toStr, query := "x=1".toStr,
          fragment := "f".toStr } := by str_lits; decide +kernel
    rw [splitUrl_eq] at this ⊢
    exact this
  · left
    exact C03_authInput_plain o (by str_lits; decide +kernel) (by str_lits; decide +kernel) (by str_lits; decide +kernel) (hostText_name (by str_lits; decide +kernel) (by str_lits; decide +kernel))

example (b : Backend) (o : Oracles) :
    ∃ u, encodeUrl ⟨b, o⟩ "http://example.com/a%20b?x=1#f".toStr = .ok u ∧
      str ⟨b, o⟩ u = .ok "http://example.com/a%20b?x=1#f".toStr :=
  (C04_canonicalB_iff ⟨b, o⟩ _ _ (C04_domain_example_canonical o)).1 (by str_lits; decide +kernel)

end Yarl
