/-
  C14Rootless.lean — `join()` against RFC 3986 §5.2.2 (`Rfc.resolve`) for the base shape every earlier theorem excludes:
  a base WITH an authority and a ROOTLESS non-empty path (`URL.build(scheme="http", host="h", path="x/y", encoded=True)`
  or hand-made parts).

  (a) C14_rootless_base_rooted_ref       reference with a ROOTED path          : join = Rfc.resolve            (any base)
  (b) C14_rootless_base_empty_ref        reference with an EMPTY path          : join = Rfc.resolve            (any base)
  (c) C14_rootless_base_own_authority    reference with its own authority      : join = Rfc.resolve  IFF  §5.2.4 leaves the
                                                                                  reference path unchanged       (any base)
  (d) C14_rootless_base_relative_ref_vs_rfc (+ _slash, _noslash, _nodots, _witnesses)
        relative-path reference: all components but the path are the RFC's; the path is
          * base path ends with '/':  RFC path = ['/' if C14_pathEscapes (base.path ++ ref.path)] ++ join path; equal IFF not;
          * otherwise: join path = '/' + stack(["" ] ++ segs(base.path[1:])[:-1] ++ segs(ref.path)),
                       RFC path  = ['/' if escapes] ++ stack(segs(base.path)[:-1] ++ segs(ref.path)),
            where segs(base.path) = (c :: s0) :: tail when segs(base.path[1:]) = s0 :: tail — the first character of the base
            path is replaced by a '/' ("eaten");
          * no '.' in either path: join = Rfc.resolve IFF the base path ends with '/'.
  The statements (a)–(c) need NO hypothesis on the base: they hold in particular for the shape of the gap.
-/
import YarlProofs.C15More2
import YarlProofs.C14HeadlineMore3
import YarlProofs.C14More
import YarlProofs.Lemmas.MeanMore
namespace Yarl
open Yarl.PathLemmas Yarl.JoinLemmas Yarl.DotMore Yarl.PathAlg

/-! ## (a) rooted reference path -/

/-- (a) A reference without (other) scheme and without authority whose path is ROOTED: `join` is EXACTLY RFC 3986 §5.2.2 —
    scheme and authority of the base, path = remove_dot_segments(ref.path), query and fragment of the reference.
    NO hypothesis on the base: in particular a base with an authority and a rootless non-empty path (the shape
    `C14_headline_join_rfc_ref_not_merged` excludes through `hb`).  No deviation. -/
theorem C14_rootless_base_rooted_ref (e : Env) (base ref : Url)
    (hrel : Gen.usesRelative.contains base.scheme = true)
    (hsch : ref.scheme = [] ∨ ref.scheme = base.scheme)
    (hrn : ref.netloc = [])                       -- no authority
    (hr : ref.path.head? = some 47) :             -- rooted path
    p5 (join e base ref) = Rfc.resolve (p5 base) (p5 ref) ∧
    p5 (join e base ref) =
      { scheme := base.scheme, authority := base.netloc, path := Rfc.removeDotSegments ref.path,
        query := ref.query, fragment := ref.fragment } := by
  obtain ⟨q, hq⟩ := List.head?_eq_some_iff.1 hr
  have hj : joinPath base ref = Rfc.removeDotSegments ref.path := by
    unfold joinPath
    simp only [hq, List.isEmpty_cons, Bool.not_false, if_true, List.head?_cons]
    exact guard_rds q
  refine ⟨join_rfc_of_path e base ref hrel hsch (absurd hrn) (fun _ _ => by rw [hj, target, if_pos hr]), ?_⟩
  rw [p5_join e base ref hrel hsch, if_pos hrn, hj, joinRelQuery, hq]
  rfl

/-! ## (b) empty reference path -/

/-- (b) A reference without (other) scheme, without authority and with an EMPTY path (`?q`, `?q#f`, `#f`, ``): `join`
    is EXACTLY RFC 3986 §5.2.2 — scheme, authority and path of the base VERBATIM (a rootless base path stays rootless, dot
    segments stay), the query of the reference if it has one, else that of the base, the fragment of the reference.
    NO hypothesis on the base.  No deviation. -/
theorem C14_rootless_base_empty_ref (e : Env) (base ref : Url)
    (hrel : Gen.usesRelative.contains base.scheme = true)
    (hsch : ref.scheme = [] ∨ ref.scheme = base.scheme)
    (hrn : ref.netloc = [])                       -- no authority
    (hp : ref.path = []) :                        -- empty path
    p5 (join e base ref) = Rfc.resolve (p5 base) (p5 ref) ∧
    p5 (join e base ref) =
      { scheme := base.scheme, authority := base.netloc, path := base.path,
        query := if ref.query ≠ [] then ref.query else base.query, fragment := ref.fragment } := by
  refine ⟨join_rfc_of_path e base ref hrel hsch (absurd hrn) (fun _ => absurd hp), ?_⟩
  rw [p5_join e base ref hrel hsch, if_pos hrn]
  by_cases hq : ref.query = [] <;> simp [hp, hq, joinPath, joinRelQuery]

/-- … the four sub-cases written out: query present / fragment only / completely empty -/
theorem C14_rootless_base_empty_ref_cases (e : Env) (base ref : Url)
    (hrel : Gen.usesRelative.contains base.scheme = true)
    (hsch : ref.scheme = [] ∨ ref.scheme = base.scheme)
    (hrn : ref.netloc = []) (hp : ref.path = []) :
    (join e base ref).path = base.path ∧ (join e base ref).netloc = base.netloc ∧
    (join e base ref).fragment = ref.fragment ∧
    (ref.query ≠ [] → (join e base ref).query = ref.query) ∧
    (ref.query = [] → (join e base ref).query = base.query) ∧
    (ref.query = [] → ref.fragment = [] →
      p5 (join e base ref) = { p5 base with fragment := [] }) := by
  have h := (C14_rootless_base_empty_ref e base ref hrel hsch hrn hp).2
  simp only [p5, Rfc.Parts5.mk.injEq] at h
  obtain ⟨hs, hnet, hpath, hq, hfr⟩ := h
  simp +contextual [p5, hs, hnet, hpath, hq, hfr]

/-! ## (c) reference with its own authority -/

/-- (c) A reference with its OWN authority (scheme empty or the base's): returned with the base scheme and otherwise AS IT
    IS; this is RFC 3986 §5.2.2 IF AND ONLY IF §5.2.4 leaves the reference path unchanged (the RFC removes the dot segments
    of the reference path, `join` does not: `C14_ref_authority_unnormalised_counterexample`).  NO hypothesis on the base.
    When it fails, the two differ in the path only. -/
theorem C14_rootless_base_own_authority (e : Env) (base ref : Url)
    (hrel : Gen.usesRelative.contains base.scheme = true)
    (hsch : ref.scheme = [] ∨ ref.scheme = base.scheme)
    (hrn : ref.netloc ≠ []) :                     -- own authority
    p5 (join e base ref) =
      { scheme := base.scheme, authority := ref.netloc, path := ref.path, query := ref.query, fragment := ref.fragment } ∧
    Rfc.resolve (p5 base) (p5 ref) = { p5 (join e base ref) with path := Rfc.removeDotSegments ref.path } ∧
    (p5 (join e base ref) = Rfc.resolve (p5 base) (p5 ref) ↔ Rfc.removeDotSegments ref.path = ref.path) := by
  have hj := p5_join e base ref hrel hsch
  have hres := resolve_eq base ref hsch
  rw [if_neg hrn] at hj hres
  refine ⟨hj, by rw [hres, hj], ?_⟩
  rw [hj, hres]
  exact ⟨fun h => (congrArg Rfc.Parts5.path h).symm, fun h => by rw [h]⟩

/-- … for a ROOTED reference path the condition is implied by "no dot segment" (every reference made by the
    auto-encoding API with an authority is of this kind: `C15_headline_reachable`) -/
theorem C14_rootless_base_own_authority_clean (e : Env) (base ref : Url)
    (hrel : Gen.usesRelative.contains base.scheme = true)
    (hsch : ref.scheme = [] ∨ ref.scheme = base.scheme)
    (hrn : ref.netloc ≠ [])
    (hclean : ref.path = [] ∨ (ref.path.head? = some 47 ∧ NoDotSegments ref.path)) :
    p5 (join e base ref) = Rfc.resolve (p5 base) (p5 ref) := by
  rw [(C14_rootless_base_own_authority e base ref hrel hsch hrn).2.2]
  rcases hclean with h | ⟨h, hd⟩
  · rw [h]; decide +kernel
  · obtain ⟨q, hq⟩ := List.head?_eq_some_iff.1 h
    rw [hq] at hd ⊢
    exact rds_fixed_of_noDotSegments q hd

/-! ## (d) relative-path reference: exact comparison with `Rfc.resolve` -/

/-- (d), all components: for a base WITH an authority and a ROOTLESS non-empty path and a relative-path reference, scheme,
    authority, query and fragment of `join` are the RFC's; the whole comparison is a comparison of the two paths
    `joinPath base ref` (`= (join e base ref).path`) and §5.2.4 of the §5.2.3 merged path (`target base ref`, which is
    `base.path` up to its last '/' followed by `ref.path`, non-rooted). -/
theorem C14_rootless_base_relative_ref_vs_rfc (e : Env) (base ref : Url) (c : Nat) (rest : Str)
    (hrel : Gen.usesRelative.contains base.scheme = true)
    (hsch : ref.scheme = [] ∨ ref.scheme = base.scheme)
    (_hn : base.netloc ≠ [])                                -- base WITH an authority …
    (hbp : base.path = c :: rest) (hc : c ≠ 47)             -- … and a rootless non-empty path
    (hrn : ref.netloc = [])                                 -- relative-path reference: no authority,
    (hp : ref.path ≠ []) (hr : ref.path.head? ≠ some 47) :  -- a non-empty rootless path
    (join e base ref).path = joinPath base ref ∧
    p5 (join e base ref) = { Rfc.resolve (p5 base) (p5 ref) with path := (join e base ref).path } ∧
    (Rfc.resolve (p5 base) (p5 ref)).path = Rfc.removeDotSegments (target base ref) ∧
    target base ref = (base.path.reverse.dropWhile (· ≠ 47)).reverse ++ ref.path ∧
    (target base ref).head? ≠ some 47 ∧
    (p5 (join e base ref) = Rfc.resolve (p5 base) (p5 ref) ↔
      (join e base ref).path = Rfc.removeDotSegments (target base ref)) := by
  have hj := p5_join e base ref hrel hsch
  have hres := resolve_eq base ref hsch
  rw [if_pos hrn] at hj hres
  rw [if_neg hp] at hres
  have hpath : (join e base ref).path = joinPath base ref := congrArg Rfc.Parts5.path hj
  have hT := R4.target_eq_merged base ref hr (.inr (by rw [hbp]; exact List.cons_ne_nil _ _))
  refine ⟨hpath, by rw [hpath, hj, hres], by rw [hres], hT,
    hT ▸ R4.merged_rootless _ _ (by simp [hbp, hc]) hr, ?_⟩
  rw [hpath, hj, hres]
  exact ⟨congrArg Rfc.Parts5.path, fun h => by rw [h]⟩

/-- (d), base path ENDING WITH '/' (`x/y/`): the code's merged path IS the RFC's (`base.path ++ ref.path`), but it is
    normalised as a RELATIVE path.  RFC path = join path, with ONE '/' in front exactly when
    `C14_pathEscapes (base.path ++ ref.path)` (a ".." pops the first segment that reached the output); `join` equals
    `Rfc.resolve` on all five components IF AND ONLY IF it is false.  (Same deviation as for a base without authority,
    `C14_join_rfc_iff`.) -/
theorem C14_rootless_base_relative_ref_vs_rfc_slash (e : Env) (base ref : Url) (c : Nat) (rest : Str)
    (hrel : Gen.usesRelative.contains base.scheme = true)
    (hsch : ref.scheme = [] ∨ ref.scheme = base.scheme)
    (hn : base.netloc ≠ []) (hbp : base.path = c :: rest) (hc : c ≠ 47)
    (hrn : ref.netloc = []) (hp : ref.path ≠ []) (hr : ref.path.head? ≠ some 47)
    (hl : base.path.getLast? = some 47) :                   -- the base path ends with '/'
    (join e base ref).path = normalizePath (base.path ++ ref.path) ∧
    (Rfc.resolve (p5 base) (p5 ref)).path
      = (if C14_pathEscapes (base.path ++ ref.path) then [47] else []) ++ (join e base ref).path ∧
    Rfc.resolve (p5 base) (p5 ref)
      = { p5 (join e base ref) with
          path := (if C14_pathEscapes (base.path ++ ref.path) then [47] else []) ++ (join e base ref).path } ∧
    (p5 (join e base ref) = Rfc.resolve (p5 base) (p5 ref) ↔ C14_pathEscapes (base.path ++ ref.path) = false) := by
  obtain ⟨hpath, hall, hrp, _, _, hiff⟩ :=
    C14_rootless_base_relative_ref_vs_rfc e base ref c rest hrel hsch hn hbp hc hrn hp hr
  obtain ⟨hJ, hT, _⟩ := C15_rfc_join_authority_rootless_base base ref c rest hn hbp hc hp hr
  rw [if_pos hl, ← hpath] at hJ
  have hroot : (base.path ++ ref.path).head? ≠ some 47 := by simp [hbp, hc]
  have hR : (Rfc.resolve (p5 base) (p5 ref)).path
      = (if C14_pathEscapes (base.path ++ ref.path) then [47] else []) ++ (join e base ref).path := by
    rw [hrp, hT hl, hJ, C14_rds_any, normalizePath_rootless _ hroot]
  refine ⟨hJ, hR, by rw [← hR, hall], ?_⟩
  rw [hiff, hT hl, hJ]
  exact C14_normalize_eq_rds_iff _ hroot

/-- (d), base path NOT ending with '/' (`x/y`): both paths through the stack algorithm of `yarl._path`
    (`normalizePathSegments`) on explicit segment lists.  With `S = base.path[1:].split('/')` (`= s0 :: tail`):
      code:  '/' + '/'.join(stack([""] ++ S[:-1] ++ ref.path.split('/')))
      RFC :  ['/' if escapes] + '/'.join(stack(B[:-1] ++ ref.path.split('/'))),  B = base.path.split('/') = (c :: s0) :: tail
    — the two inputs differ exactly in that the first segment `c :: s0` of the base path is replaced by the two segments
    "" and `s0`: `raw_parts` eats the first character `c` as if it were the root '/'. -/
theorem C14_rootless_base_relative_ref_vs_rfc_noslash (e : Env) (base ref : Url) (c : Nat) (rest : Str)
    (hrel : Gen.usesRelative.contains base.scheme = true)
    (hsch : ref.scheme = [] ∨ ref.scheme = base.scheme)
    (hn : base.netloc ≠ []) (hbp : base.path = c :: rest) (hc : c ≠ 47)
    (hrn : ref.netloc = []) (hp : ref.path ≠ []) (hr : ref.path.head? ≠ some 47)
    (hl : base.path.getLast? ≠ some 47) :                   -- the base path does not end with '/'
    (join e base ref).path
      = 47 :: joinC 47 (normalizePathSegments ([] :: ((splitOn 47 rest).dropLast ++ splitOn 47 ref.path))) ∧
    (Rfc.resolve (p5 base) (p5 ref)).path
      = (if C14_escapes ((splitOn 47 base.path).dropLast ++ splitOn 47 ref.path) then [47] else []) ++
          joinC 47 (normalizePathSegments ((splitOn 47 base.path).dropLast ++ splitOn 47 ref.path)) ∧
    splitOn 47 base.path = (c :: (splitOn 47 rest).headD []) :: (splitOn 47 rest).tail ∧
    -- the code's path is always rooted; so equality forces the RFC's path to be rooted although its input is not
    (join e base ref).path.head? = some 47 := by
  obtain ⟨hpath, _, hrp, hT, _, _⟩ :=
    C14_rootless_base_relative_ref_vs_rfc e base ref c rest hrel hsch hn hbp hc hrn hp hr
  have hJ' : (join e base ref).path
      = 47 :: joinC 47 (normalizePathSegments ([] :: ((splitOn 47 rest).dropLast ++ splitOn 47 ref.path))) := by
    rw [hpath, (C15_rfc_join_authority_rootless_base base ref c rest hn hbp hc hp hr).1, if_neg hl]
    show Rfc.removeDotSegments (47 :: 47 :: ((rest.reverse.dropWhile (· ≠ 47)).reverse ++ ref.path)) = _
    rw [← C15_rfc]
    simp only [normalizePath]
    rw [MeanMore.splitOn_cons47, ← C14_merged, C14_merged_segments]
  refine ⟨hJ', ?_, ?_, by rw [hJ']; rfl⟩
  · rw [hrp, hT, C14_rds_any, C14_pathEscapes, ← C14_merged, C14_merged_segments]
  · obtain ⟨a, b, hab⟩ := List.exists_cons_of_ne_nil (splitOn_ne_nil 47 rest)
    simp [hbp, splitOn, hc, hab]

/-- (d), NO '.' in either path (no dot segment can occur): `join` equals `Rfc.resolve` IF AND ONLY IF the base path ends
    with '/'.  Otherwise the code's path is "//" + base.path[1:]-up-to-its-last-'/' + ref.path, the RFC's is
    base.path-up-to-its-last-'/' + ref.path, which does not start with '/'. -/
theorem C14_rootless_base_relative_ref_vs_rfc_nodots (e : Env) (base ref : Url) (c : Nat) (rest : Str)
    (hrel : Gen.usesRelative.contains base.scheme = true)
    (hsch : ref.scheme = [] ∨ ref.scheme = base.scheme)
    (hn : base.netloc ≠ []) (hbp : base.path = c :: rest) (hc : c ≠ 47)
    (hrn : ref.netloc = []) (hp : ref.path ≠ []) (hr : ref.path.head? ≠ some 47)
    (hnodot : 46 ∉ base.path ∧ 46 ∉ ref.path) :
    (p5 (join e base ref) = Rfc.resolve (p5 base) (p5 ref) ↔ base.path.getLast? = some 47) ∧
    (base.path.getLast? ≠ some 47 →
      (join e base ref).path = 47 :: 47 :: (rest.reverse.dropWhile (· ≠ 47)).reverse ++ ref.path ∧
      (Rfc.resolve (p5 base) (p5 ref)).path = (base.path.reverse.dropWhile (· ≠ 47)).reverse ++ ref.path) := by
  obtain ⟨hpath, _, hrp, hT, hTr, hiff⟩ :=
    C14_rootless_base_relative_ref_vs_rfc e base ref c rest hrel hsch hn hbp hc hrn hp hr
  have hR := rds_no_dot_any _ (target_nodot base ref hnodot.1 hnodot.2)
  have hns : base.path.getLast? ≠ some 47 →
      (join e base ref).path = 47 :: 47 :: (rest.reverse.dropWhile (· ≠ 47)).reverse ++ ref.path := by
    intro hl
    rw [hpath, (C15_rfc_join_authority_rootless_base base ref c rest hn hbp hc hp hr).1, if_neg hl]
    apply rds_no_dot_any
    have h1 : 46 ∉ rest := fun h => hnodot.1 (by rw [hbp]; exact List.mem_cons_of_mem _ h)
    simp only [List.mem_cons, List.mem_append, List.mem_reverse, not_or]
    exact ⟨⟨by decide +kernel, by decide +kernel, fun hm => h1 (List.mem_reverse.1 ((List.dropWhile_sublist _).subset hm))⟩, hnodot.2⟩
  refine ⟨⟨fun h => ?_, fun hl => ?_⟩, fun hl => ⟨hns hl, by rw [hrp, hR, hT]⟩⟩
  · by_cases hl : base.path.getLast? = some 47
    · exact hl
    · have h2 := hiff.1 h
      rw [hR, hns hl] at h2
      exact absurd (by rw [← h2]; rfl) hTr
  · exact (C14_rootless_base_relative_ref_vs_rfc_slash e base ref c rest hrel hsch hn hbp hc hrn hp hr hl).2.2.2.2
      (R4.pathEscapes_false_of_no_dot _ fun hm => (List.mem_append.1 hm).elim hnodot.1 hnodot.2)

/-! ## non-vacuity and witnesses (`join` does not use its backend; `e` is arbitrary, so both backends are covered) -/
section checks
private def bx (p : String) : Url := fromParts "http".toStr "h".toStr p.toStr "bq".toStr []
private def rr (p q f : String) : Url := fromParts [] [] p.toStr q.toStr f.toStr

/-- (d) witnesses in BOTH directions, both sub-cases.  Python: `b = URL.build(scheme="http", host="h", path="x/y",
    query_string="bq", encoded=True)`, `b2` with path "x/y/", `b1` with path "x":
      b.join(URL("c"))            path "///c"   RFC "x/c"    (differs)
      b1.join(URL("a/../../c"))   path "/c"     RFC "/c"     (COINCIDES although the base path does not end with '/')
      b1.join(URL("c"))           path "//c"    RFC "c"      (differs)
      b2.join(URL("../c"))        path "x/c"    RFC "x/c"    (coincides)
      b2.join(URL("../../c"))     path "c"      RFC "/c"     (differs by the leading '/') -/
theorem C14_rootless_base_relative_ref_vs_rfc_witnesses (e : Env) :
    ((join e (bx "x/y") (rr "c" "" "")).path = "///c".toStr ∧
      (Rfc.resolve (p5 (bx "x/y")) (p5 (rr "c" "" ""))).path = "x/c".toStr ∧
      p5 (join e (bx "x/y") (rr "c" "" "")) ≠ Rfc.resolve (p5 (bx "x/y")) (p5 (rr "c" "" ""))) ∧
    ((join e (bx "x") (rr "a/../../c" "" "")).path = "/c".toStr ∧
      p5 (join e (bx "x") (rr "a/../../c" "" "")) = Rfc.resolve (p5 (bx "x")) (p5 (rr "a/../../c" "" ""))) ∧
    ((join e (bx "x") (rr "c" "" "")).path = "//c".toStr ∧
      (Rfc.resolve (p5 (bx "x")) (p5 (rr "c" "" ""))).path = "c".toStr) ∧
    ((join e (bx "x/y/") (rr "../c" "" "")).path = "x/c".toStr ∧
      p5 (join e (bx "x/y/") (rr "../c" "" "")) = Rfc.resolve (p5 (bx "x/y/")) (p5 (rr "../c" "" ""))) ∧
    ((join e (bx "x/y/") (rr "../../c" "" "")).path = "c".toStr ∧
      (Rfc.resolve (p5 (bx "x/y/")) (p5 (rr "../../c" "" ""))).path = "/c".toStr ∧
      p5 (join e (bx "x/y/") (rr "../../c" "" "")) ≠ Rfc.resolve (p5 (bx "x/y/")) (p5 (rr "../../c" "" ""))) := by
  simp only [join]; decide +kernel

-- the hypotheses of the shape hold for the witnesses
example : (bx "x/y").netloc ≠ [] ∧ (bx "x/y").path = 120 :: "/y".toStr ∧ (120 : Nat) ≠ 47 ∧
    Gen.usesRelative.contains (bx "x/y").scheme = true := by str_lits; decide +kernel

/-- (a) through the theorem: `b.join(URL("/p/../q?rq#f"))` = `http://h/q?rq#f` -/
example (e : Env) :
    p5 (join e (bx "x/y") (rr "/p/../q" "rq" "f")) = Rfc.resolve (p5 (bx "x/y")) (p5 (rr "/p/../q" "rq" "f")) ∧
    p5 (join e (bx "x/y") (rr "/p/../q" "rq" "f")) =
      { scheme := "http".toStr, authority := "h".toStr, path := "/q".toStr, query := "rq".toStr, fragment := "f".toStr } := by
  obtain ⟨h1, h2⟩ := C14_rootless_base_rooted_ref e (bx "x/y") (rr "/p/../q" "rq" "f") (by decide +kernel) (by decide +kernel) rfl (by decide +kernel)
  exact ⟨h1, h2.trans (by decide +kernel)⟩

/-- (b) through the theorem: `b.join(URL("?rq"))` keeps "x/y" and takes "rq"; `b.join(URL("#f"))` and `b.join(URL(""))`
    keep the base query "bq" -/
example (e : Env) :
    p5 (join e (bx "x/y") (rr "" "rq" "")) = p5 (fromParts "http".toStr "h".toStr "x/y".toStr "rq".toStr []) ∧
    p5 (join e (bx "x/y") (rr "" "" "f")) = p5 (fromParts "http".toStr "h".toStr "x/y".toStr "bq".toStr "f".toStr) ∧
    p5 (join e (bx "x/y") (rr "" "" "")) = p5 (bx "x/y") ∧
    p5 (join e (bx "x/y") (rr "" "rq" "f")) = Rfc.resolve (p5 (bx "x/y")) (p5 (rr "" "rq" "f")) := by
  have H := fun (q f : String) =>
    C14_rootless_base_empty_ref e (bx "x/y") (rr "" q f) (by decide +kernel) (Or.inl rfl) rfl rfl
  refine ⟨?_, ?_, ?_, (H _ _).1⟩
  · rw [(H "rq" "").2]; decide +kernel
  · rw [(H "" "f").2]; decide +kernel
  · rw [(H "" "" ).2]; decide +kernel

/-- (c) through the theorem, both directions: `//g/a/b` is RFC-exact, `//g/a/../b` (encoded=True) is not -/
example (e : Env) :
    p5 (join e (bx "x/y") (fromParts [] "g".toStr "/a/b".toStr [] []))
      = Rfc.resolve (p5 (bx "x/y")) (p5 (fromParts [] "g".toStr "/a/b".toStr [] [])) ∧
    p5 (join e (bx "x/y") (fromParts "http".toStr "g".toStr "/a/../b".toStr [] []))
      ≠ Rfc.resolve (p5 (bx "x/y")) (p5 (fromParts "http".toStr "g".toStr "/a/../b".toStr [] [])) := by
  refine ⟨(C14_rootless_base_own_authority e _ _ ?_ ?_ ?_).2.2.2 ?_,
    fun h => absurd ((C14_rootless_base_own_authority e _ _ ?_ ?_ ?_).2.2.1 h) ?_⟩
  all_goals decide +kernel

/-- (d) through the theorems: the iff of the '/'-ending case in both directions, and the no-dots iff -/
example (e : Env) :
    p5 (join e (bx "x/y/") (rr "../c" "" "")) = Rfc.resolve (p5 (bx "x/y/")) (p5 (rr "../c" "" "")) ∧
    p5 (join e (bx "x/y/") (rr "../../c" "" "")) ≠ Rfc.resolve (p5 (bx "x/y/")) (p5 (rr "../../c" "" "")) ∧
    p5 (join e (bx "x/y") (rr "c/d" "" "")) ≠ Rfc.resolve (p5 (bx "x/y")) (p5 (rr "c/d" "" "")) ∧
    p5 (join e (bx "x/y/") (rr "c/d" "" "")) = Rfc.resolve (p5 (bx "x/y/")) (p5 (rr "c/d" "" "")) := by
  -- every side condition is a closed fact about the witnesses
  refine ⟨(C14_rootless_base_relative_ref_vs_rfc_slash e _ _ 120 "/y/".toStr ?_ ?_ ?_ rfl ?_ rfl ?_ ?_ ?_).2.2.2.2 ?_,
    fun h => absurd ((C14_rootless_base_relative_ref_vs_rfc_slash e _ _ 120 "/y/".toStr ?_ ?_ ?_ rfl ?_ rfl ?_ ?_ ?_).2.2.2.1 h) ?_,
    fun h => absurd ((C14_rootless_base_relative_ref_vs_rfc_nodots e _ _ 120 "/y".toStr ?_ ?_ ?_ rfl ?_ rfl ?_ ?_ ?_).1.1 h) ?_,
    (C14_rootless_base_relative_ref_vs_rfc_nodots e _ _ 120 "/y/".toStr ?_ ?_ ?_ rfl ?_ rfl ?_ ?_ ?_).1.2 ?_⟩
  all_goals decide +kernel

/-- (d) the closed forms of the not-'/'-ending case at `b.join(URL("c"))`: code stack input ["", "", "c"], RFC ["x", "c"] -/
example :
    ([] :: ((splitOn 47 "/y".toStr).dropLast ++ splitOn 47 "c".toStr)) = [[], [], "c".toStr] ∧
    ((splitOn 47 "x/y".toStr).dropLast ++ splitOn 47 "c".toStr) = ["x".toStr, "c".toStr] := by str_lits; decide +kernel

end checks

end Yarl
-- 
