/-
  C08Yarl.lean — the abstract memoisation machine of YarlModel/Cache.lean instantiated with the REAL
  URL model of YarlModel/Url.lean.

  * `Cache.Val`       : what an accessor can return (exceptions are values);
  * `Cache.acc e u n` : the accessor named `n` evaluated on the model URL `u` (whatever `u.pre` is);
  * `Cache.yarlSem e` : `Sem (GoodKey e) Url Val` for the auto-encoding constructor `encode_url`:
        key    = an input string inside the guard of C09 (`GoodAuthority`),
        parts  = the URL WITHOUT its pre-filled cache (`pickleTwin u`: the five stored strings),
        prefill= the four entries `encode_url` writes ("raw_host", "explicit_port", "raw_user",
                 "raw_password"), taken from the `pre` field of the model's constructor result,
        derive = the accessor on the parts, i.e. the LAZY route (`lazyNet`);
  * `C08_yarl_prefillOK` : `PrefillOK (yarlSem e)`, from `C09_eager_eq_lazy`;
  * the theorems of C08.lean with the `sem`/`PrefillOK` parameters discharged;
  * `C08_yarl_read_eq_model_all` : what the machine derives on the parts equals what the monolithic model
    (with `pre` inside the `Url`) reports — for EVERY name (`C08_yarl_read_eq_model`: the same for the names in `Acc`);
  * `yarlSemEncoded e` : the non-validating constructor `pre_encoded_url` (no prefill, all strings);
  * `yarlSemAll e` + `C08_yarl_guard_needed` : without the guard `PrefillOK` FAILS, and the failure is
    observable as history dependence (an unpickled twin answers differently from the original).

  The key type is the subtype `{ s : Str // GoodAuthority e s }` (`DecidableEq` comes from `Subtype`).
-/
import YarlModel
import YarlProofs.Lemmas.CacheLemmas
import YarlProofs.Lemmas.StrLit
import YarlProofs.C08
import YarlProofs.C09
namespace Yarl.Cache
open Yarl.CacheLemmas

/-! ### values and accessors -/

/-- results of accessors: every Python result type that occurs, errors included -/
inductive Val where
  | ostr (r : R (Option Str))          -- `str | None`
  | onat (r : R (Option Nat))          -- `int | None`
  | str (r : R Str)                    -- `str`
  | bool (r : R Bool)
  | strs (r : R (List Str))            -- tuple of `str`
  | pairs (r : R (List (Str × Str)))   -- the query multidict as a list of pairs
  | noAttr                             -- not an accessor name: AttributeError
  deriving DecidableEq

/-- the accessor named `n` on the model URL `u` (uses `u.pre` when present, as the model does) -/
def acc (e : Env) (u : Url) (n : String) : Val :=
  match n with
  | "raw_host" => .ostr (rawHost e u)
  | "explicit_port" => .onat (explicitPort e u)
  | "raw_user" => .ostr (rawUser e u)
  | "raw_password" => .ostr (rawPassword e u)
  | "host" => .ostr (host e u)
  | "port" => .onat (port e u)
  | "str" => .str (str e u)
  | "authority" => .str (authority e u)
  | "user" => .ostr (user e u)
  | "password" => .ostr (password e u)
  | "host_subcomponent" => .ostr (hostSubcomponent e u)
  | "host_port_subcomponent" => .ostr (hostPortSubcomponent e u)
  | "is_default_port" => .bool (isDefaultPort e u)
  | "human_repr" => .str (humanRepr e u)
  | "raw_path" => .str (pure (rawPath u))
  | "path" => .str (pure (pathDecoded e u))
  | "path_safe" => .str (pure (pathSafe e u))
  | "query_string" => .str (pure (queryString e u))
  | "raw_query_string" => .str (pure u.query)
  | "query" => .pairs (pure (queryPairs u))
  | "path_qs" => .str (pure (pathQs e u))
  | "raw_path_qs" => .str (pure (rawPathQs u))
  | "fragment" => .str (pure (fragmentDecoded e u))
  | "raw_fragment" => .str (pure u.fragment)
  | "scheme" => .str (pure u.scheme)
  | "raw_authority" => .str (pure u.netloc)
  | "raw_parts" => .strs (pure (rawParts u))
  | "parts" => .strs (pure (partsDecoded e u))
  | "raw_name" => .str (rawName u)
  | "name" => .str (name e u)
  | "raw_suffix" => .str (rawSuffix u)
  | "suffix" => .str (suffix e u)
  | "raw_suffixes" => .strs (rawSuffixes u)
  | "suffixes" => .strs (suffixes e u)
  | _ => .noAttr

/-- the accessor names (the first four are the ones `encode_url` pre-fills) -/
def Acc : List String :=
  ["raw_host", "explicit_port", "raw_user", "raw_password",
   "host", "port", "str", "authority", "user", "password", "host_subcomponent", "host_port_subcomponent",
   "is_default_port", "human_repr", "raw_path", "path", "path_safe", "query_string", "raw_query_string",
   "query", "path_qs", "raw_path_qs", "fragment", "raw_fragment", "scheme", "raw_authority", "raw_parts",
   "parts", "raw_name", "name", "raw_suffix", "suffix", "raw_suffixes", "suffixes"]

/-- the `_cache` entries `encode_url` writes, given the `pre` field of the model's constructor result -/
def prefillOf : Option NetPre → List (String × Val)
  | none => []
  | some n =>
    [("raw_host", .ostr (.ok n.rawHost)), ("explicit_port", .onat (.ok n.explicitPort)),
     ("raw_user", .ostr (.ok n.rawUser)), ("raw_password", .ostr (.ok n.rawPassword))]

/-- input strings inside the guard of `C09_eager_eq_lazy` -/
abbrev GoodKey (e : Env) : Type := { s : Str // GoodAuthority e s }

/-- constructor part of the semantics, for an arbitrary string -/
def constructStr (e : Env) (s : Str) : Option Url :=
  match encodeUrl e s with
  | .ok u => some (pickleTwin u)
  | .error _ => none

def prefillStr (e : Env) (s : Str) : List (String × Val) :=
  match encodeUrl e s with
  | .ok u => prefillOf u.pre
  | .error _ => []

/-- THE instantiation: `URL(s)` (auto-encoding constructor) on inputs inside the C09 guard -/
def yarlSem (e : Env) : Sem (GoodKey e) Url Val :=
  { construct := fun k => constructStr e k.1
    derive := fun p n => acc e p n
    prefill := fun k _ => prefillStr e k.1 }

/-- the same semantics over ALL strings (negative control: `PrefillOK` fails for it) -/
def yarlSemAll (e : Env) : Sem Str Url Val :=
  { construct := fun s => constructStr e s
    derive := fun p n => acc e p n
    prefill := fun s _ => prefillStr e s }

/-- `URL(s, encoded=True)`: no validation, no prefill, every string is a key -/
def yarlSemEncoded (e : Env) : Sem Str Url Val :=
  { construct := fun s =>
      match preEncodedUrl e s with
      | .ok u => some u
      | .error _ => none
    derive := fun p n => acc e p n
    prefill := fun _ _ => [] }


end Yarl.Cache

/-! ### helper lemmas -/
namespace Yarl.CacheInst
open Yarl.Cache Yarl.CacheLemmas

/-- if the netloc data agree, EVERY accessor name gives the same answer on the twin and on the original -/
theorem acc_twin_of_net (e : Env) (u : Url) (hnet : net e (pickleTwin u) = net e u) (n : String) :
    acc e (pickleTwin u) n = acc e u n := by
  obtain ⟨h1, h2, h3, h4, h5, h6, h7, h8, h9, h10, h11, h12, h13, h14⟩ :=
    C09_accessors_of_parts_net e u (pickleTwin u) rfl rfl rfl rfl rfl hnet
  -- every arm of `acc` is one of these accessors or a function of the five parts
  unfold acc
  rw [h1, h2, h3, h4, h5, h6, h7, h8, h9, h10, h11, h12, h13, h14]
  rfl

theorem prefillOf_ok (e : Env) (u : Url) (p : NetPre) (hpre : u.pre = some p)
    (hl : lazyNet e (pickleTwin u) = .ok p) :
    ∀ nv ∈ prefillOf u.pre, nv.2 = acc e (pickleTwin u) nv.1 := by
  intro nv hnv
  have hn : net e (pickleTwin u) = .ok p := hl
  rw [hpre] at hnv
  simp only [prefillOf, List.mem_cons, List.not_mem_nil, or_false] at hnv
  rcases hnv with rfl | rfl | rfl | rfl
  · show _ = Val.ostr (rawHost e (pickleTwin u)); unfold rawHost; rw [hn]; rfl
  · show _ = Val.onat (explicitPort e (pickleTwin u)); unfold explicitPort; rw [hn]; rfl
  · show _ = Val.ostr (rawUser e (pickleTwin u)); unfold rawUser; rw [hn]; rfl
  · show _ = Val.ostr (rawPassword e (pickleTwin u)); unfold rawPassword; rw [hn]; rfl

/-! what `constructStr` and `prefillStr` are, given the constructor's result -/

theorem constructStr_of_ok {e : Env} {s : Str} {u : Url} (h : encodeUrl e s = .ok u) :
    constructStr e s = some (pickleTwin u) := by
  unfold constructStr
  rw [h]

theorem prefillStr_of_ok {e : Env} {s : Str} {u : Url} (h : encodeUrl e s = .ok u) :
    prefillStr e s = prefillOf u.pre := by
  unfold prefillStr
  rw [h]

theorem constructStr_some {e : Env} {s : Str} {p : Url} (hc : constructStr e s = some p) :
    ∃ u, encodeUrl e s = .ok u ∧ pickleTwin u = p := by
  unfold constructStr at hc
  cases h : encodeUrl e s with
  | error err =>
    rw [h] at hc
    cases hc
  | ok u =>
    rw [h] at hc
    exact ⟨u, rfl, Option.some.inj hc⟩

/-- `PrefillOK` for the real constructor rests on this: inside the guard, every pre-filled entry is what the accessor computes
    from the parts alone (C09) -/
theorem prefillStr_ok (e : Env) (s : Str) (hg : GoodAuthority e s) (p : Url) (hc : constructStr e s = some p) :
    ∀ nv ∈ prefillStr e s, nv.2 = acc e p nv.1 := by
  obtain ⟨u, h, rfl⟩ := constructStr_some hc
  rw [prefillStr_of_ok h]
  cases hpre : u.pre with
  | none => intro nv hnv; cases hnv
  | some q =>
    rw [← hpre]
    exact prefillOf_ok e u q hpre (C09_eager_eq_lazy e s u q h hpre hg)

theorem construct_of_encode (e : Env) (k : GoodKey e) (u : Url) (h : encodeUrl e k.1 = .ok u) :
    (yarlSem e).construct k = some (pickleTwin u) :=
  constructStr_of_ok h

/-- the spec values of all handles are twins of constructor results of keys inside the guard -/
def AllTwins (e : Env) (shs : List (Option Url)) : Prop :=
  ∀ p, some p ∈ shs → ∃ (k : GoodKey e) (u : Url), encodeUrl e k.1 = .ok u ∧ p = pickleTwin u

theorem allTwins_step (e : Env) (shs : List (Option Url)) (op : Op (GoodKey e) Url) (h : AllTwins e shs) :
    AllTwins e (specStep (yarlSem e) shs op).1 := by
  cases op with
  | new k =>
    intro p hp
    simp only [specStep, List.mem_append, List.mem_singleton] at hp
    rcases hp with hp | hp
    · exact h p hp
    · obtain ⟨u, hu, rfl⟩ := constructStr_some (s := k.1) hp.symm
      exact ⟨k, u, hu, rfl⟩
  | read hd name => simp only [specStep]; split <;> exact h
  | twin hd =>
    simp only [specStep]
    split
    · rename_i q hq
      intro p hp
      simp only [List.mem_append, List.mem_singleton] at hp
      rcases hp with hp | hp
      · exact h p hp
      · cases hp
        exact h q (List.mem_of_getElem? hq)
    · intro p hp
      simp only [List.mem_append, List.mem_singleton] at hp
      rcases hp with hp | hp
      · exact h p hp
      · cases hp
  | clear => exact h
  | configure c => exact h

theorem allTwins_specHandles (e : Env) (shs : List (Option Url)) (ops : List (Op (GoodKey e) Url))
    (h : AllTwins e shs) : AllTwins e (specHandles (yarlSem e) shs ops) := by
  induction ops generalizing shs with
  | nil => exact h
  | cons op ops ih => exact ih _ (allTwins_step e shs op h)

/-- an eviction policy available at every key type (drop the oldest entry) -/
def lruPol {Key : Type} : Policy Key :=
  { evict := fun t => t.dropLast, sub := fun t _ h => List.dropLast_subset t h }

/-- … and one that flushes the whole table -/
def flushPol {Key : Type} : Policy Key := { evict := fun _ => [], sub := fun _ _ h => by cases h }

end Yarl.CacheInst

namespace Yarl
open Yarl.Cache Yarl.CacheLemmas Yarl.CacheInst

/-! ### `PrefillOK` for the real constructor -/

/-- what `encode_url` writes into `_cache` is what the accessors compute lazily from the five parts:
    property C09 discharges the one hypothesis of the abstract cache machine -/
theorem C08_yarl_prefillOK (e : Env) : PrefillOK (yarlSem e) :=
  fun k p hc => prefillStr_ok e k.1 k.2 p hc

/-- `acc` is literally the model's accessor of that name (each line is `rfl`) -/
theorem C08_yarl_acc_spec (e : Env) (u : Url) :
    acc e u "raw_host" = .ostr (rawHost e u) ∧ acc e u "explicit_port" = .onat (explicitPort e u) ∧
    acc e u "raw_user" = .ostr (rawUser e u) ∧ acc e u "raw_password" = .ostr (rawPassword e u) ∧
    acc e u "host" = .ostr (host e u) ∧ acc e u "port" = .onat (port e u) ∧ acc e u "str" = .str (str e u) ∧
    acc e u "authority" = .str (authority e u) ∧ acc e u "user" = .ostr (user e u) ∧
    acc e u "password" = .ostr (password e u) ∧ acc e u "host_subcomponent" = .ostr (hostSubcomponent e u) ∧
    acc e u "host_port_subcomponent" = .ostr (hostPortSubcomponent e u) ∧
    acc e u "is_default_port" = .bool (isDefaultPort e u) ∧ acc e u "human_repr" = .str (humanRepr e u) ∧
    acc e u "raw_path" = .str (.ok (rawPath u)) ∧ acc e u "path" = .str (.ok (pathDecoded e u)) ∧
    acc e u "query_string" = .str (.ok (queryString e u)) ∧ acc e u "fragment" = .str (.ok (fragmentDecoded e u)) ∧
    acc e u "raw_name" = .str (rawName u) ∧ acc e u "name" = .str (name e u) ∧
    acc e u "no_such_attribute" = .noAttr :=
  ⟨rfl, rfl, rfl, rfl, rfl, rfl, rfl, rfl, rfl, rfl, rfl, rfl, rfl, rfl, rfl, rfl, rfl, rfl, rfl, rfl, rfl⟩

/-- the machine's `derive` is the accessor on the parts, i.e. on a URL with `pre = none`: the LAZY route -/
theorem C08_yarl_derive_is_lazy (e : Env) (u : Url) :
    (pickleTwin u).pre = none ∧ net e (pickleTwin u) = lazyNet e (pickleTwin u) ∧
    ∀ n, (yarlSem e).derive (pickleTwin u) n = acc e (pickleTwin u) n :=
  ⟨rfl, rfl, fun _ => rfl⟩

/-! ### the bridge to the value-level model -/

/-- what the machine derives from the parts (the URL without its prefill, lazy route) equals what the
    monolithic model — where `pre` sits inside the `Url` and the accessors prefer it — reports on the
    constructor's own result.  Holds for EVERY name (unknown names are `noAttr` on both sides). -/
theorem C08_yarl_read_eq_model_all (e : Env) (k : GoodKey e) (u : Url) (h : encodeUrl e k.1 = .ok u)
    (name : String) : (yarlSem e).derive (pickleTwin u) name = acc e u name :=
  acc_twin_of_net e u (C09_pickle_lossless e k.1 u h k.2).1 name

theorem C08_yarl_read_eq_model (e : Env) (k : GoodKey e) (u : Url) :
    encodeUrl e k.1 = .ok u → ∀ name ∈ Acc, (yarlSem e).derive (pickleTwin u) name = acc e u name :=
  fun h name _ => C08_yarl_read_eq_model_all e k u h name

/-- the four pre-filled entries ARE the model's eager values: the memo the machine starts an object
    with holds, under each pre-filled name, the value the monolithic model's accessor returns -/
theorem C08_yarl_prefill_eq_model (e : Env) (k : GoodKey e) (u : Url) (h : encodeUrl e k.1 = .ok u) :
    ∀ nv ∈ (yarlSem e).prefill k (pickleTwin u), nv.2 = acc e u nv.1 := by
  intro nv hnv
  rw [C08_yarl_prefillOK e k (pickleTwin u) (construct_of_encode e k u h) nv hnv]
  exact C08_yarl_read_eq_model_all e k u h nv.1

/-- a URL with an authority gets exactly the four entries, a URL without gets none -/
theorem C08_yarl_prefill_names (e : Env) (k : GoodKey e) (u : Url) (h : encodeUrl e k.1 = .ok u) (p : Url) :
    ((yarlSem e).prefill k p).map (·.1) =
      if u.pre.isSome then ["raw_host", "explicit_port", "raw_user", "raw_password"] else [] := by
  show (prefillStr e k.1).map (·.1) = _
  rw [prefillStr_of_ok h]
  cases u.pre <;> rfl

/-! ### the theorems of C08.lean, with `sem` and `PrefillOK` discharged -/

theorem C08_yarl_init_coherent (e : Env) (cap : Option Nat) :
    Coherent (yarlSem e) { heap := [], table := [], cap := cap } [] [] :=
  C08_init_coherent (yarlSem e) cap

theorem C08_yarl_step_coherent (e : Env) (pol : Policy (GoodKey e)) (w : World (GoodKey e) Url Val)
    (hs : List (Option Nat)) (shs : List (Option Url)) (op : Op (GoodKey e) Url) :
    Coherent (yarlSem e) w hs shs →
      let r := step (yarlSem e) pol w hs op
      let s := specStep (yarlSem e) shs op
      Coherent (yarlSem e) r.1 r.2.1 s.1 ∧ r.2.2 = s.2 :=
  C08_step_coherent (yarlSem e) pol (C08_yarl_prefillOK e) w hs shs op

theorem C08_yarl_run_eq_specRun (e : Env) (pol : Policy (GoodKey e)) (w : World (GoodKey e) Url Val)
    (hs : List (Option Nat)) (shs : List (Option Url)) (hc : Coherent (yarlSem e) w hs shs)
    (ops : List (Op (GoodKey e) Url)) :
    run (yarlSem e) pol w hs ops = specRun (yarlSem e) shs ops :=
  C08_run_eq_specRun (yarlSem e) pol (C08_yarl_prefillOK e) w hs shs hc ops

/-- yarl's cached auto-encoding constructor + per-object memo, under any capacity, any eviction
    policy, any sequence of constructions / accessor reads / pickle round trips / cache_clear /
    cache_configure, is observationally the cache-free specification -/
theorem C08_yarl_history_independent (e : Env) (pol : Policy (GoodKey e)) (cap : Option Nat)
    (ops : List (Op (GoodKey e) Url)) :
    run (yarlSem e) pol { cap := cap } [] ops = specRun (yarlSem e) [] ops :=
  C08_history_independent (yarlSem e) pol (C08_yarl_prefillOK e) cap ops

theorem C08_yarl_runWorld_coherent (e : Env) (pol : Policy (GoodKey e)) (w : World (GoodKey e) Url Val)
    (hs : List (Option Nat)) (shs : List (Option Url)) (hc : Coherent (yarlSem e) w hs shs)
    (ops : List (Op (GoodKey e) Url)) :
    Coherent (yarlSem e) (runWorld (yarlSem e) pol w hs ops).1 (runWorld (yarlSem e) pol w hs ops).2
      (specHandles (yarlSem e) shs ops) :=
  runWorld_coherent (yarlSem e) pol (C08_yarl_prefillOK e) w hs shs hc ops

theorem C08_yarl_read_is_function_of_parts (e : Env) (pol : Policy (GoodKey e)) (cap : Option Nat)
    (ops : List (Op (GoodKey e) Url)) (h : Nat) (name : String) :
    run (yarlSem e) pol { cap := cap } [] (ops ++ [.read h name]) =
      specRun (yarlSem e) [] ops ++ [specRead (yarlSem e) (specHandles (yarlSem e) [] ops) h name] :=
  C08_read_is_function_of_parts (yarlSem e) pol (C08_yarl_prefillOK e) cap ops h name

theorem C08_yarl_read_is_function_of_parts_last (e : Env) (pol : Policy (GoodKey e)) (cap : Option Nat)
    (ops : List (Op (GoodKey e) Url)) (h : Nat) (name : String) :
    (run (yarlSem e) pol { cap := cap } [] (ops ++ [.read h name])).getLast? =
      some (match (specHandles (yarlSem e) [] ops)[h]? with
            | some (some p) => .value (some (acc e p name))
            | _ => .value none) := by
  rw [C08_read_is_function_of_parts_last (yarlSem e) pol (C08_yarl_prefillOK e)]
  generalize (specHandles (yarlSem e) [] ops)[h]? = x
  rcases x with _ | _ | _ <;> rfl

theorem C08_yarl_cache_config_irrelevant (e : Env) (pol pol' : Policy (GoodKey e)) (cap cap' : Option Nat)
    (ops ops' : List (Op (GoodKey e) Url))
    (hsame : ops.filter (fun o => !isCacheOp o) = ops'.filter (fun o => !isCacheOp o)) :
    nonCacheOuts ops (run (yarlSem e) pol { cap := cap } [] ops) =
      nonCacheOuts ops' (run (yarlSem e) pol' { cap := cap' } [] ops') :=
  C08_cache_config_irrelevant (yarlSem e) pol pol' (C08_yarl_prefillOK e) cap cap' ops ops' hsame

theorem C08_yarl_cap_policy_irrelevant (e : Env) (pol pol' : Policy (GoodKey e)) (cap cap' : Option Nat)
    (ops : List (Op (GoodKey e) Url)) :
    run (yarlSem e) pol { cap := cap } [] ops = run (yarlSem e) pol' { cap := cap' } [] ops :=
  C08_cap_policy_irrelevant (yarlSem e) pol pol' (C08_yarl_prefillOK e) cap cap' ops

theorem C08_yarl_drop_cache_ops (e : Env) (pol pol' : Policy (GoodKey e)) (cap cap' : Option Nat)
    (ops : List (Op (GoodKey e) Url)) :
    nonCacheOuts ops (run (yarlSem e) pol { cap := cap } [] ops) =
      run (yarlSem e) pol' { cap := cap' } [] (ops.filter (fun o => !isCacheOp o)) :=
  C08_drop_cache_ops (yarlSem e) pol pol' (C08_yarl_prefillOK e) cap cap' ops

/-! ### what a read returns, in terms of the monolithic model -/

/-- EVERY accessor read in EVERY run returns either "dead handle" or the monolithic model's accessor
    evaluated on the result `u` of the auto-encoding constructor for some key of the guard — no matter
    whether the real object answered from the pre-filled entry, from an entry another holder of the
    shared object left there, or computed it lazily after a pickle round trip -/
theorem C08_yarl_every_read_eq_model (e : Env) (pol : Policy (GoodKey e)) (cap : Option Nat)
    (ops : List (Op (GoodKey e) Url)) (h : Nat) (name : String) :
    (run (yarlSem e) pol { cap := cap } [] (ops ++ [.read h name])).getLast? = some (.value none) ∨
    ∃ (k : GoodKey e) (u : Url), encodeUrl e k.1 = .ok u ∧
      (specHandles (yarlSem e) [] ops)[h]? = some (some (pickleTwin u)) ∧
      (run (yarlSem e) pol { cap := cap } [] (ops ++ [.read h name])).getLast? =
        some (.value (some (acc e u name))) := by
  rw [C08_yarl_read_is_function_of_parts_last]
  cases hq : (specHandles (yarlSem e) [] ops)[h]? with
  | none => exact Or.inl rfl
  | some a =>
    cases a with
    | none => exact Or.inl rfl
    | some p =>
      right
      obtain ⟨k, u, hu, hp⟩ := allTwins_specHandles e [] ops (by intro p hp; cases hp) p
        (List.mem_of_getElem? hq)
      subst hp
      refine ⟨k, u, hu, rfl, ?_⟩
      simp only
      rw [← C08_yarl_read_eq_model_all e k u hu name]
      rfl

/-- end to end: `URL(s)`, then ANY history, then accessor `name` through that first handle: the answer
    is the model's accessor on the constructor's own result `u` (which carries the pre-filled cache) -/
theorem C08_yarl_read_after_any_history (e : Env) (pol : Policy (GoodKey e)) (cap : Option Nat)
    (k : GoodKey e) (u : Url) (hu : encodeUrl e k.1 = .ok u) (ops : List (Op (GoodKey e) Url)) (name : String) :
    (run (yarlSem e) pol { cap := cap } [] (.new k :: ops ++ [.read 0 name])).getLast? =
      some (.value (some (acc e u name))) := by
  have h0 : (specHandles (yarlSem e) [] (.new k :: ops))[0]? = some (some (pickleTwin u)) :=
    specHandles_appended _ [] _ _ ops (by simp only [specStep, construct_of_encode e k u hu])
  have := C08_yarl_read_is_function_of_parts_last e pol cap (.new k :: ops) 0 name
  rw [h0] at this
  simp only at this
  rw [← C08_yarl_read_eq_model_all e k u hu name]
  exact this

/-- the same through a pickled / copied twin of that handle, created at any later point -/
theorem C08_yarl_twin_read_after_any_history (e : Env) (pol : Policy (GoodKey e)) (cap : Option Nat)
    (k : GoodKey e) (u : Url) (hu : encodeUrl e k.1 = .ok u) (ops ops' : List (Op (GoodKey e) Url))
    (name : String) :
    let pre := .new k :: ops
    let th := (specHandles (yarlSem e) [] pre).length     -- the handle the twin gets
    (run (yarlSem e) pol { cap := cap } [] (pre ++ .twin 0 :: ops' ++ [.read th name])).getLast? =
      some (.value (some (acc e u name))) := by
  intro pre th
  have h0 : (specHandles (yarlSem e) [] pre)[0]? = some (some (pickleTwin u)) :=
    specHandles_appended _ [] _ _ ops (by simp only [specStep, construct_of_encode e k u hu])
  have h1 : (specHandles (yarlSem e) [] (pre ++ .twin 0 :: ops'))[th]? = some (some (pickleTwin u)) := by
    rw [specHandles_append]
    exact specHandles_appended _ _ _ _ ops' (by simp only [specStep, h0])
  have := C08_yarl_read_is_function_of_parts_last e pol cap (pre ++ .twin 0 :: ops') th name
  rw [h1] at this
  simp only at this
  rw [← C08_yarl_read_eq_model_all e k u hu name]
  exact this

/-! ### the non-validating constructor `URL(s, encoded=True)` -/

theorem C08_yarl_encoded_prefillOK (e : Env) : PrefillOK (yarlSemEncoded e) :=
  fun _ _ _ _ hnv => by cases hnv

/-- `pre_encoded_url` never pre-fills: its result IS its parts -/
theorem C08_yarl_encoded_parts (e : Env) (s : Str) (u : Url) (h : preEncodedUrl e s = .ok u) :
    (yarlSemEncoded e).construct s = some u ∧ pickleTwin u = u ∧
      ∀ name, (yarlSemEncoded e).derive u name = acc e u name := by
  refine ⟨?_, C09_twin_of_pre_none u ((C09_no_prefill e).1 s u h), fun _ => rfl⟩
  show (match preEncodedUrl e s with | .ok u => some u | .error _ => none) = _
  rw [h]

theorem C08_yarl_encoded_history_independent (e : Env) (pol : Policy Str) (cap : Option Nat)
    (ops : List (Op Str Url)) :
    run (yarlSemEncoded e) pol { cap := cap } [] ops = specRun (yarlSemEncoded e) [] ops :=
  C08_history_independent (yarlSemEncoded e) pol (C08_yarl_encoded_prefillOK e) cap ops

theorem C08_yarl_encoded_run_eq_specRun (e : Env) (pol : Policy Str) (w : World Str Url Val)
    (hs : List (Option Nat)) (shs : List (Option Url)) (hc : Coherent (yarlSemEncoded e) w hs shs)
    (ops : List (Op Str Url)) :
    run (yarlSemEncoded e) pol w hs ops = specRun (yarlSemEncoded e) shs ops :=
  C08_run_eq_specRun (yarlSemEncoded e) pol (C08_yarl_encoded_prefillOK e) w hs shs hc ops

theorem C08_yarl_encoded_read_is_function_of_parts (e : Env) (pol : Policy Str) (cap : Option Nat)
    (ops : List (Op Str Url)) (h : Nat) (name : String) :
    run (yarlSemEncoded e) pol { cap := cap } [] (ops ++ [.read h name]) =
      specRun (yarlSemEncoded e) [] ops ++
        [specRead (yarlSemEncoded e) (specHandles (yarlSemEncoded e) [] ops) h name] :=
  C08_read_is_function_of_parts (yarlSemEncoded e) pol (C08_yarl_encoded_prefillOK e) cap ops h name

theorem C08_yarl_encoded_cache_config_irrelevant (e : Env) (pol pol' : Policy Str) (cap cap' : Option Nat)
    (ops ops' : List (Op Str Url))
    (hsame : ops.filter (fun o => !isCacheOp o) = ops'.filter (fun o => !isCacheOp o)) :
    nonCacheOuts ops (run (yarlSemEncoded e) pol { cap := cap } [] ops) =
      nonCacheOuts ops' (run (yarlSemEncoded e) pol' { cap := cap' } [] ops') :=
  C08_cache_config_irrelevant (yarlSemEncoded e) pol pol' (C08_yarl_encoded_prefillOK e) cap cap' ops ops' hsame

theorem C08_yarl_encoded_cap_policy_irrelevant (e : Env) (pol pol' : Policy Str) (cap cap' : Option Nat)
    (ops : List (Op Str Url)) :
    run (yarlSemEncoded e) pol { cap := cap } [] ops = run (yarlSemEncoded e) pol' { cap := cap' } [] ops :=
  C08_cap_policy_irrelevant (yarlSemEncoded e) pol pol' (C08_yarl_encoded_prefillOK e) cap cap' ops

/-! ### negative control: the guard is needed -/

/-- the URL `encode_url` stores for "http://[[::1]/" (finding F-C09, `C09_malformed_brackets_counterexample`) -/
def badParts : Url :=
  { scheme := "http".toStr, netloc := "[::1".toStr, path := "/".toStr, query := [], fragment := [] }

/-- WITHOUT the `GoodAuthority` restriction on keys, `PrefillOK` is FALSE for the real constructor:
    for "http://[[::1]/" `encode_url` caches `raw_host = "::"` while the accessor computes "::1" from
    the stored netloc "[::1" -/
theorem C08_yarl_guard_needed : ¬ PrefillOK (yarlSemAll envPy) := by
  intro h
  have := h "http://[[::1]/".toStr badParts (by str_lits; decide +kernel)
    ("raw_host", .ostr (.ok (some "::".toStr))) (by str_lits; decide +kernel)
  revert this
  decide +kernel

/-- … and the failure is observable as history dependence: the original answers from the pre-filled
    memo, its unpickled twin computes — two "equal" URLs, two different `raw_host`s; the cache-free
    specification says "::1" for both -/
theorem C08_yarl_guard_needed_observable :
    run (yarlSemAll envPy) lruPol { cap := some 128 } []
        [.new "http://[[::1]/".toStr, .twin 0, .read 0 "raw_host", .read 1 "raw_host"] =
      [.handle (some badParts), .handle (some badParts),
       .value (some (.ostr (.ok (some "::".toStr)))), .value (some (.ostr (.ok (some "::1".toStr))))] ∧
    specRun (yarlSemAll envPy) []
        [.new "http://[[::1]/".toStr, .twin 0, .read 0 "raw_host", .read 1 "raw_host"] =
      [.handle (some badParts), .handle (some badParts),
       .value (some (.ostr (.ok (some "::1".toStr)))), .value (some (.ostr (.ok (some "::1".toStr))))] := by
  constructor <;> decide +kernel

/-- the second family of findings ("//@", "//:", "//@:?#": authority that normalises to ""):
    cached `raw_host = ""`, the twin reads `None` -/
theorem C08_yarl_guard_needed_empty :
    run (yarlSemAll envPy) lruPol { cap := some 128 } []
        [.new "//@".toStr, .twin 0, .read 0 "raw_host", .read 1 "raw_host"] =
      [.handle (some { scheme := [], netloc := [], path := [], query := [], fragment := [] }),
       .handle (some { scheme := [], netloc := [], path := [], query := [], fragment := [] }),
       .value (some (.ostr (.ok (some [])))), .value (some (.ostr (.ok none)))] := by
  decide +kernel

/-- inside the guard `yarlSemAll` and `yarlSem` are the same semantics -/
theorem C08_yarl_all_restricts (e : Env) (k : GoodKey e) (p : Url) :
    (yarlSemAll e).construct k.1 = (yarlSem e).construct k ∧
    (yarlSemAll e).prefill k.1 p = (yarlSem e).prefill k p ∧
    (yarlSemAll e).derive = (yarlSem e).derive :=
  ⟨rfl, rfl, rfl⟩

/-! ### non-vacuity: a concrete run of the real constructor -/

namespace YarlRun

/-- "http://user@example.com:8080/p" -/
def s1 : Str := "http://user@example.com:8080/p".toStr

theorem s1_good : GoodAuthority envC s1 :=
  C09_good_authority_of envC _
    { scheme := "http".toStr, netloc := "user@example.com:8080".toStr, path := "/p".toStr, query := [], fragment := [] }
    { user := some "user".toStr, password := none, host := some "example.com".toStr, port := some 8080 }
    (by unfold s1; str_lits; decide +kernel) (by str_lits; decide +kernel)
    ⟨(by intro s hs; cases hs; decide),
     C09_good_host_regname _ _ (by str_lits; decide +kernel) (by str_lits; decide +kernel) (by str_lits; decide +kernel) (by str_lits; decide +kernel) (by str_lits; decide +kernel)⟩

def k1 : GoodKey envC := ⟨s1, s1_good⟩

theorem key_cast {e : Env} {s t : Str} (h : s = t) (g : GoodAuthority e s) :
    (⟨s, g⟩ : GoodKey e) = ⟨t, h ▸ g⟩ := by subst h; rfl

/-- Spells the string inside the key `k1` as the list of its characters (`String.toStr_ofList`), so that the kernel
    does not decode the literal each time a run constructs from `k1`; `key_cast` carries the guard along.  Programs
    that mention `k1` through a definition are unfolded first.  Used in front of `decide +kernel`. -/
macro "k1_lits" : tactic =>
  `(tactic| (unfold k1; rw [key_cast (show s1 = _ by unfold s1; rw [String.toStr_ofList]) s1_good]))

/-- an upper-case spelling of the same URL: a DIFFERENT key with equal parts -/
def k2 : GoodKey envC := ⟨"HTTP://user@EXAMPLE.com:8080/p".toStr,
  C09_good_authority_of envC _
    { scheme := "http".toStr, netloc := "user@EXAMPLE.com:8080".toStr, path := "/p".toStr, query := [], fragment := [] }
    { user := some "user".toStr, password := none, host := some "EXAMPLE.com".toStr, port := some 8080 }
    rfl rfl
    ⟨(by intro s hs; cases hs; decide),
     C09_good_host_regname _ _ (by decide +kernel) (by decide +kernel) (by decide +kernel) (by decide +kernel) (by decide +kernel)⟩⟩

/-- the parts of `URL("http://user@example.com:8080/p")` -/
def u1 : Url :=
  { scheme := "http".toStr, netloc := "user@example.com:8080".toStr, path := "/p".toStr, query := [], fragment := [] }

def w0 (cap : Option Nat) : World (GoodKey envC) Url Val := { cap := cap }

def ops1 : List (Op (GoodKey envC) Url) :=
  [.new k1, .read 0 "raw_host", .twin 0, .read 1 "raw_host", .clear, .new k1, .read 2 "raw_host", .new k1,
   .read 3 "explicit_port", .read 1 "explicit_port", .read 1 "str", .read 9 "str", .read 0 "nope"]

/-- the constructor's own result carries the prefill; the machine's parts do not -/
def pre1 : NetPre :=
  { rawHost := some "example.com".toStr, explicitPort := some 8080, rawUser := some "user".toStr, rawPassword := none }
theorem encode_s1 : encodeUrl envC s1 = .ok { u1 with pre := some pre1 } := by
  unfold s1 u1 pre1
  str_lits
  decide +kernel
example : encodeUrl envC s1 = .ok { u1 with pre := some pre1 } := encode_s1
/-- the same for the key `k1`; `k1.1` is turned into `s1` by `dsimp`: a `rfl` would decode the literal inside `s1` -/
theorem encode_k1 : encodeUrl envC k1.1 = .ok { u1 with pre := some pre1 } := by
  have h : k1.1 = s1 := by
    unfold k1
    dsimp only
  rw [h]
  exact encode_s1
example : (yarlSem envC).construct k1 = some u1 := by decide +kernel
example : (yarlSem envC).prefill k1 u1 =
    [("raw_host", .ostr (.ok (some "example.com".toStr))), ("explicit_port", .onat (.ok (some 8080))),
     ("raw_user", .ostr (.ok (some "user".toStr))), ("raw_password", .ostr (.ok none))] := by str_lits; decide +kernel

/-- original (pre-filled memo), pickled twin (lazy route), re-created after `cache_clear` and shared
    object: all `raw_host` / `explicit_port` reads agree -/
theorem run1 : run (yarlSem envC) lruPol (w0 (some 2)) [] ops1 =
    [.handle (some u1), .value (some (.ostr (.ok (some "example.com".toStr)))),
     .handle (some u1), .value (some (.ostr (.ok (some "example.com".toStr)))),
     .unit, .handle (some u1), .value (some (.ostr (.ok (some "example.com".toStr)))), .handle (some u1),
     .value (some (.onat (.ok (some 8080)))), .value (some (.onat (.ok (some 8080)))),
     .value (some (.str (.ok s1))), .value none, .value (some .noAttr)] := by
  str_lits; unfold ops1; k1_lits; decide +kernel

/-- handles 2 and 3 (two constructions after the `clear`) are the SAME object; handle 0 (before the
    clear) and handle 1 (the twin) are other objects: 3 objects for 4 handles -/
example : (runWorld (yarlSem envC) lruPol (w0 (some 2)) [] ops1).2 = [some 0, some 1, some 2, some 2] := by
  unfold ops1; k1_lits; decide +kernel
example : (runWorld (yarlSem envC) lruPol (w0 (some 2)) [] ops1).1.heap.length = 3 := by
  unfold ops1; k1_lits; decide +kernel

/-- the memos differ (the original answered "raw_host" from the prefill, the twin had to compute it),
    which is exactly what is unobservable -/
example : ((runWorld (yarlSem envC) lruPol (w0 (some 2)) [] [.new k1, .read 0 "raw_host", .twin 0, .read 1 "raw_host"]).1.heap.map
    (fun o => o.memo.map (·.1))) = [["raw_host", "explicit_port", "raw_user", "raw_password"], ["raw_host"]] := by
  k1_lits; decide +kernel

/-- the same program with the cache disabled and another eviction policy: same outputs (instance of
    `C08_yarl_cap_policy_irrelevant`, here by evaluation) -/
example : run (yarlSem envC) flushPol (w0 (some 0)) [] ops1 = run (yarlSem envC) lruPol (w0 (some 2)) [] ops1 := by
  unfold ops1; k1_lits; decide +kernel
example : (runWorld (yarlSem envC) flushPol (w0 (some 0)) [] ops1).2 = [some 0, some 1, some 2, some 3] := by
  unfold ops1; k1_lits; decide +kernel

/-- two spellings: different keys, different objects, equal parts, equal answers -/
example : run (yarlSem envC) lruPol (w0 none) [] [.new k1, .new k2, .read 0 "host_port_subcomponent", .read 1 "host_port_subcomponent"] =
    [.handle (some u1), .handle (some u1), .value (some (.ostr (.ok (some "example.com:8080".toStr)))),
     .value (some (.ostr (.ok (some "example.com:8080".toStr))))] := by str_lits; decide +kernel
example : (runWorld (yarlSem envC) lruPol (w0 none) [] [.new k1, .new k2]).2 = [some 0, some 1] := by decide +kernel

/-- the theorems instantiated at the concrete program -/
example : run (yarlSem envC) lruPol (w0 (some 2)) [] ops1 = specRun (yarlSem envC) [] ops1 :=
  C08_yarl_history_independent envC lruPol (some 2) ops1

/-- the encoded constructor on the same string: no prefill, same parts -/
example : run (yarlSemEncoded envC) lruPol { cap := some 2 } []
      [.new s1, .new s1, .read 0 "explicit_port", .twin 1, .read 2 "explicit_port"] =
    [.handle (some u1), .handle (some u1), .value (some (.onat (.ok (some 8080)))), .handle (some u1),
     .value (some (.onat (.ok (some 8080))))] := by
  unfold s1; str_lits; decide +kernel
example : (runWorld (yarlSemEncoded envC) lruPol { cap := some 2 } [] [.new s1, .new s1]).2 = [some 0, some 0] := by
  unfold s1; str_lits; decide +kernel
example : ((runWorld (yarlSemEncoded envC) lruPol { cap := some 2 } [] [.new s1]).1.heap.map (·.memo)) = [[]] := by
  unfold s1; str_lits; decide +kernel

end YarlRun

end Yarl
