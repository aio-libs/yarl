import YarlProofs.C14
import YarlProofs.C15Entry
import YarlProofs.Lemmas.FixLemmas
import YarlProofs.C03Reach
import YarlProofs.C15More
/-!
# C14 — join() is RFC 3986 section 5.2 reference resolution   (audit layer)

Property statement (verbatim):

> For a base URL whose scheme supports relative resolution and any reference, base.join(ref) has exactly
> the components computed by the RFC 3986 5.2.2 algorithm (non-strict: a reference carrying the base's
> own scheme is treated as relative) applied to the encoded components, including dot-segment removal,
> inheriting the query only when the reference path is empty, and always taking the fragment from the
> reference. A reference with a different scheme, or a base whose scheme does not support relative
> resolution, yields the reference unchanged.

Reading guide.  `p5 u` are the five encoded components of `u`; `Rfc.resolve` (YarlModel/Rfc.lean) is an
independent transcription of §5.2.2 with §5.2.3 `merge` and §5.2.4 `removeDotSegments`, non-strict;
`Gen.usesRelative` is `urllib.parse.uses_relative` as generated from the Python sources.

Continued in C14HeadlineMore3.lean (theorems that need C14More.lean / C15More2.lean, which import this file: the EXACT
condition `C14_deviates` for join = RFC 3986 with a base without authority, and the rootless base path next to an authority).
-/
namespace Yarl
open Yarl.PathLemmas Yarl.JoinLemmas EntryLemmas

/-! ## Sentence 1 -/

/-- "base.join(ref) has exactly the components computed by the RFC 3986 5.2.2 algorithm (non-strict …)
    applied to the encoded components, including dot-segment removal".
    -- Appendix E: C14_join ↦ this theorem (C14_join_rfc).  `WFUrl base`, `WFUrl ref`, `Normalised ref`
    --   became the three explicit guards below; `hsch` is the "relative reference" case, the other
    --   case is `C14_headline_passthrough`. -/
theorem C14_headline_join_rfc (e : Env) (base ref : Url)
    (hrel : Gen.usesRelative.contains base.scheme = true)
    (hsch : ref.scheme = [] ∨ ref.scheme = base.scheme)
    -- the base path is empty or rooted.  A ROOTLESS base path (possible without authority: `URL("a/b")`)
    -- meets §5.2.4 differently (F-C14-rootless-base): `C14_headline_join_rfc_fails_for_rootless_base`, what is computed
    -- instead: `C14_headline_join_rootless_characterised`; next to an authority
    -- (encoded=True only) it is mangled: `C14_rootless_authority_base_counterexample`
    (hbase : base.path = [] ∨ base.path.head? = some 47)
    -- a base with NEITHER authority NOR path (`URL("")`, `URL("http:")`): the reference path must be
    -- rooted or free of '.' (same finding F-C14-rootless-base): `C14_empty_base_dotdot_counterexample`,
    -- restated in `C14_headline_join_rfc_fails_for_other_guards`
    (hempty : base.netloc = [] → base.path = [] → ref.path.head? = some 47 ∨ 46 ∉ ref.path)
    -- a reference with its own authority is taken AS IS: its path must already be free of dot segments
    -- (true of every library-made URL, C15; false for encoded=True: `C14_ref_authority_unnormalised_counterexample`)
    (href : ref.netloc ≠ [] → Rfc.removeDotSegments ref.path = ref.path) :
    p5 (join e base ref) = Rfc.resolve (p5 base) (p5 ref) :=
  C14_join_rfc e base ref hrel hsch hbase hempty href

/-- the same with the guard on the reference in the form C15 delivers it (NEW here): under an
    authority the reference path is empty or rooted and has no "." / ".." segment -/
theorem C14_headline_join_rfc_normalised_ref (e : Env) (base ref : Url)
    (hrel : Gen.usesRelative.contains base.scheme = true)
    (hsch : ref.scheme = [] ∨ ref.scheme = base.scheme)
    (hbase : base.path = [] ∨ base.path.head? = some 47)
    (hempty : base.netloc = [] → base.path = [] → ref.path.head? = some 47 ∨ 46 ∉ ref.path)
    (href : ref.netloc ≠ [] → (ref.path = [] ∨ ref.path.head? = some 47) ∧ NoDotSegments ref.path) :
    p5 (join e base ref) = Rfc.resolve (p5 base) (p5 ref) := by
  refine C14_join_rfc e base ref hrel hsch hbase hempty (fun hn => ?_)
  obtain ⟨hroot, hnd⟩ := href hn
  cases hp : ref.path with
  | nil => decide
  | cons c r =>
    rw [hp] at hroot hnd
    have hc : c = 47 := by rcases hroot with h | h <;> simp at h; exact h
    subst hc
    exact DotMore.rds_fixed_of_noDotSegments r hnd

/-- for URLs the library itself produced (`ReachC`, C03Reach.lean; NEW here): a base WITH an authority
    needs no guard at all -/
theorem C14_headline_join_rfc_reachable (e : Env) (base ref : Url) (hb : ReachC e base) (hr : ReachC e ref)
    (hrel : Gen.usesRelative.contains base.scheme = true)
    (hsch : ref.scheme = [] ∨ ref.scheme = base.scheme)
    (hauth : base.netloc ≠ []) :
    p5 (join e base ref) = Rfc.resolve (p5 base) (p5 ref) :=
  C14_headline_join_rfc_normalised_ref e base ref hrel hsch ((C03_reachable_canon e base hb).rooted hauth)
    (fun h => absurd h hauth)
    (fun hn => ⟨(C03_reachable_canon e ref hr).rooted hn, (C03_reachable_canon e ref hr).nodots hn⟩)

/-- a base WITHOUT authority and with a rootless path: exact when neither path contains a '.' -/
theorem C14_headline_join_rfc_rootless_base (e : Env) (base ref : Url)
    (hrel : Gen.usesRelative.contains base.scheme = true)
    (hsch : ref.scheme = [] ∨ ref.scheme = base.scheme)
    (hnet : base.netloc = [])
    (href : ref.netloc ≠ [] → Rfc.removeDotSegments ref.path = ref.path)
    -- excludes dot segments meeting a rootless merged path: the finding below (F-C14-rootless-base)
    (hnodot : 46 ∉ base.path ∧ 46 ∉ ref.path) :
    p5 (join e base ref) = Rfc.resolve (p5 base) (p5 ref) :=
  C14_join_rfc_rootless_nodots e base ref hrel hsch hnet href hnodot

/-- KNOWN FINDING F-C14-rootless-base (rootless-base join): `URL("a/b").join(URL(".."))` has the EMPTY path, RFC 3986 gives "/";
    `URL("a/b").join(URL("../../c"))` is `c`, RFC `/c` -/
theorem C14_headline_join_rfc_fails_for_rootless_base (e : Env) :
    (let base := fromParts [] [] "a/b".toStr [] []
     let ref := fromParts [] [] "..".toStr [] []
     (join e base ref).path = [] ∧ (Rfc.resolve (p5 base) (p5 ref)).path = "/".toStr ∧
       p5 (join e base ref) ≠ Rfc.resolve (p5 base) (p5 ref)) ∧
    (let base := fromParts [] [] "a/b".toStr [] []
     let ref := fromParts [] [] "../../c".toStr [] []
     (join e base ref).path = "c".toStr ∧ (Rfc.resolve (p5 base) (p5 ref)).path = "/c".toStr) :=
  ⟨C14_rootless_base_counterexample e, C14_rootless_base_counterexample2 e⟩

/-- references that are NOT merged with the base path (NEW; the remaining cases next to C14_headline_join_rfc_rootless_base and
    C14_headline_join_rootless_characterised): a reference with its own authority, with an EMPTY path, or with a ROOTED path.
    The base path — rootless or not, with dot segments or not — plays no role in §5.2.2 then, and join is exactly RFC 3986. -/
theorem C14_headline_join_rfc_ref_not_merged (e : Env) (base ref : Url)
    (hrel : Gen.usesRelative.contains base.scheme = true)
    (hsch : ref.scheme = [] ∨ ref.scheme = base.scheme)
    -- excludes only a rootless non-empty base path NEXT TO AN AUTHORITY (encoded=True only; mangled by `raw_parts`:
    -- `C14_rootless_authority_base_counterexample`)
    (hb : base.netloc = [] ∨ base.path = [] ∨ base.path.head? = some 47)
    (hcase : ref.netloc ≠ [] ∨ ref.path = [] ∨ ref.path.head? = some 47)   -- network-path / empty-path / absolute-path reference
    (href : ref.netloc ≠ [] → Rfc.removeDotSegments ref.path = ref.path) :   -- as in C14_headline_join_rfc
    p5 (join e base ref) = Rfc.resolve (p5 base) (p5 ref) :=
  join_rfc_of_path e base ref hrel hsch href (fun hn hp => by
    rcases hcase with h | h | h
    · exact absurd hn h
    · exact absurd h hp
    · exact joinPath_rfc base ref hb hp (Or.inl (target_rooted base ref (Or.inr (Or.inr h)))))

/-- a rootless path up to its last '/', followed by a rootless path, is rootless -/
theorem JoinLemmas.upToLastSlash_rootless (bp rp : Str) (hb : bp.head? ≠ some 47) (hr : rp.head? ≠ some 47) :
    ((bp.reverse.dropWhile (· ≠ 47)).reverse ++ rp).head? ≠ some 47 := by
  cases hq : (bp.reverse.dropWhile (· ≠ 47)).reverse with
  | nil => simpa using hr
  | cons c t =>
    obtain ⟨s, hs⟩ : c :: t <+: bp := by
      rw [← hq, ← List.reverse_suffix, List.reverse_reverse]
      exact List.dropWhile_suffix _
    rw [← hs] at hb
    simpa using hb

/-- RFC 3986 §5.2.3 for a base WITHOUT authority whose path is empty or rootless and a rootless non-empty reference path:
    the merged path is non-empty and ROOTLESS (so §5.2.4 is applied to a rootless path — the situation of the finding) -/
theorem C14_headline_merge_rootless (base : Url) (rp : Str)
    (hnet : base.netloc = []) (hbase : base.path.head? ≠ some 47) (hp : rp ≠ []) (hr : rp.head? ≠ some 47) :
    Rfc.merge (p5 base) rp ≠ [] ∧ (Rfc.merge (p5 base) rp).head? ≠ some 47 := by
  have hm := merge_upTo base rp (.inl hnet)
  rw [hm]
  exact ⟨by simp [hp], upToLastSlash_rootless base.path rp hbase hr⟩

/-- WHAT join computes in the corner of F-C14-rootless-base (NEW; closes the "not characterised by any theorem" part of
    GAPS 1 and 2).  Base without authority, base path empty or rootless, relative-path reference (no authority, rootless
    non-empty path): every component except the path is the RFC's, and the path is §5.2.4 applied to the merged path AS IF
    IT WERE ROOTED, with that root slash dropped again: `remove_dot_segments("/" + merge(base, ref))[1:]` — whereas the RFC
    says `remove_dot_segments(merge(base, ref))` on the rootless merged path (second conjunct).  E.g. `a/b` + `..`:
    merged `a/..`; code: `remove_dot_segments("/a/..")[1:] = ""`; RFC: `remove_dot_segments("a/..") = "/"`.
    Uses C15_rds_rooted_relative (C15More.lean): `remove_dot_segments("/" + p) = "/" + normalize_path(p)` for rootless `p`. -/
theorem C14_headline_join_rootless_characterised (e : Env) (base ref : Url)
    (hrel : Gen.usesRelative.contains base.scheme = true)
    (hsch : ref.scheme = [] ∨ ref.scheme = base.scheme)
    (hnet : base.netloc = [])                 -- base without authority …
    (hbase : base.path.head? ≠ some 47)       -- … whose path is empty or rootless: the cases `hbase` / `hempty` above exclude
    (hrn : ref.netloc = [])                   -- relative-path reference: no authority,
    (hp : ref.path ≠ []) (hr : ref.path.head? ≠ some 47) :   -- a non-empty rootless path (else C14_headline_join_rfc applies)
    p5 (join e base ref) =
      { Rfc.resolve (p5 base) (p5 ref) with
        path := (Rfc.removeDotSegments (47 :: Rfc.merge (p5 base) ref.path)).drop 1 } ∧
    (Rfc.resolve (p5 base) (p5 ref)).path = Rfc.removeDotSegments (Rfc.merge (p5 base) ref.path) := by
  obtain ⟨hT0, hT47⟩ := C14_headline_merge_rootless base ref.path hnet hbase hp hr
  have hT : target base ref = Rfc.merge (p5 base) ref.path := target_of_rootless hr
  rw [p5_join e base ref hrel hsch, resolve_eq base ref hsch, if_pos hrn, if_pos hrn, if_neg hp,
    joinPath_normalize base ref (Or.inl hnet) hp, hT, C15_rds_rooted_relative _ hT0 hT47]
  exact ⟨rfl, rfl⟩

/-- the characterisation at the two witnesses of the finding (non-vacuity): `a/b` + `..` and `http:` + `a/..` -/
example (e : Env) :
    (join e (fromParts [] [] "a/b".toStr [] []) (fromParts [] [] "..".toStr [] [])).path
      = (Rfc.removeDotSegments (47 :: Rfc.merge (p5 (fromParts [] [] "a/b".toStr [] [])) "..".toStr)).drop 1 ∧
    (Rfc.removeDotSegments (47 :: Rfc.merge (p5 (fromParts [] [] "a/b".toStr [] [])) "..".toStr)).drop 1 = [] :=
  ⟨congrArg Rfc.Parts5.path (C14_headline_join_rootless_characterised e (fromParts [] [] "a/b".toStr [] [])
    (fromParts [] [] "..".toStr [] []) (by decide +kernel) (Or.inl rfl) rfl (by decide +kernel) rfl (by decide +kernel) (by decide +kernel)).1, by decide +kernel⟩

/-- the other two guards are needed as well: empty base (`http:` + `a/..`; class "empty base without authority" of the same
    KNOWN FINDING F-C14-rootless-base), un-normalised reference authority path (`//g/a/../b`, encoded=True only) -/
theorem C14_headline_join_rfc_fails_for_other_guards (e : Env) :
    (let base := fromParts "http".toStr [] [] [] []
     let ref := fromParts [] [] "a/..".toStr [] []
     p5 (join e base ref) ≠ Rfc.resolve (p5 base) (p5 ref)) ∧
    (let base := fromParts "http".toStr "h".toStr "/x".toStr [] []
     let ref := fromParts [] "g".toStr "/a/../b".toStr [] []
     p5 (join e base ref) ≠ Rfc.resolve (p5 base) (p5 ref)) :=
  ⟨(C14_empty_base_dotdot_counterexample e).2.2, (C14_ref_authority_unnormalised_counterexample e).2.2⟩

/-- "inheriting the query only when the reference path is empty" — precisely (§5.2.2): the base query is
    inherited iff the reference has neither path nor query.  No guard on the paths. -/
theorem C14_headline_query_inherited (e : Env) (base ref : Url)
    (hrel : Gen.usesRelative.contains base.scheme = true)
    (hsch : ref.scheme = [] ∨ ref.scheme = base.scheme)
    -- a reference with an authority brings its own query (network-path reference)
    (hn : ref.netloc = []) :
    (join e base ref).query = (if ref.path = [] ∧ ref.query = [] then base.query else ref.query) :=
  C14_query_inherited_iff e base ref hrel hsch hn

/-- "and always taking the fragment from the reference" — every branch, pass-through included, no guard -/
theorem C14_headline_fragment_from_ref (e : Env) (base ref : Url) :
    (join e base ref).fragment = ref.fragment :=
  C14_fragment_from_ref e base ref

/-! ## Sentence 2 -/

/-- "A reference with a different scheme, or a base whose scheme does not support relative resolution,
    yields the reference unchanged."  (Second disjunct: the scheme that is looked up is the reference's own
    scheme if it has one, else the base's.) -/
theorem C14_headline_passthrough (e : Env) (base ref : Url) :
    ((!ref.scheme.isEmpty ∧ ref.scheme ≠ base.scheme) ∨
      ¬ Gen.usesRelative.contains (if !ref.scheme.isEmpty then ref.scheme else base.scheme) = true) →
    join e base ref = ref :=
  C14_passthrough e base ref

/-! ## non-vacuity: RFC 3986 §5.4.1, base `http://a/b/c/d;p?q`, reference `../g?y#s` -/
example : Gen.usesRelative.contains rfcBase.scheme = true ∧
    (rfcBase.path = [] ∨ rfcBase.path.head? = some 47) := by decide +kernel
example : p5 (join ⟨.py, Oracles.empty⟩ rfcBase (rel "../g" "y" "s")) =
    { scheme := "http".toStr, authority := "a".toStr, path := "/b/g".toStr, query := "y".toStr, fragment := "s".toStr } := by
  str_lits
  decide +kernel

/-
GAPS:
 1. CLOSED (as a proof gap; the deviation itself is the library's behaviour and STAYS) by C14_join_rfc_iff, C14_join_vs_rfc,
    C14_join_rfc_deviation, C14_headline_join_rfc_rootless_base_exact, C14_join_rfc_iff_general, C14_pathEscapes_iff,
    C14_merged_segments, C14_rds_any, C14_normalize_eq_rds_iff, C14_rooted_drop_eq_rds_iff (C14More.lean), see
    C14_headline_join_rfc_iff, C14_headline_join_vs_rfc, C14_headline_join_rfc_fails_when_deviates,
    C14_headline_join_rfc_base_without_authority, C14_headline_join_rfc_iff_general, C14_headline_deviates_closed_form,
    C14_headline_deviates_false_of_no_dotdot, C14_headline_rds_vs_stack (C14HeadlineMore3.lean); earlier:
    C15_rds_rooted_relative (C15More.lean) + joinPath_normalize (C14.lean), see C14_headline_join_rootless_characterised (this file).
    Rootless base path (no authority, e.g. `URL("a/b")`) TOGETHER WITH dot segments: join is NOT always RFC 3986 (known finding
    F-C14-rootless-base, C14_headline_join_rfc_fails_for_rootless_base).  What the code computes instead is characterised
    against §5.2.4, for a relative-path reference with a non-empty rootless path: `remove_dot_segments("/" + merged)[1:]`
    instead of `remove_dot_segments(merged)`, all other components as in the RFC.
    A reference that is not merged (own authority, EMPTY path or ROOTED path) against such a base is RFC-exact:
    C14_headline_join_rfc_ref_not_merged (from join_rfc_of_path / joinPath_rfc / target_rooted in C14.lean).
    Proved now (the former "STILL OPEN: no closed-form condition … for when the two results coincide"): for a base WITHOUT
    authority (any path) and a reference WITHOUT authority, join = §5.2.2 on all five components IF AND ONLY IF
    `C14_deviates base.path ref.path = false`; when it is true, the RFC's path is EXACTLY '/' + join's path and scheme,
    authority, query, fragment agree.  `C14_deviates` (a definition of C14More.lean — read it, or its proved loop-free form
    C14_headline_deviates_closed_form): reference path non-empty and rootless, base path empty or rootless, and among the
    '/'-segments of the merged path, after the leading "." / ".." segments and the one segment following them, some prefix
    has more ".." than ordinary segments (a ".." pops the first segment that reached the output).  "No '.' in either path"
    and "no '..' segment in the merged path" are special cases.  Hypotheses: `hrel` (base scheme in uses_relative), `hsch`
    (reference scheme empty or the base's), base.netloc = [], ref.netloc = []; for a reference WITH an authority only the
    sufficient direction under `href` (C14_headline_join_rfc_base_without_authority).  The Python transcription
    `deviates(bp, rp)` in the header comment of C14More.lean is a comment, not a proved object.
 2. CLOSED, same theorems (`C14_deviates` includes the EMPTY base path: `bp.head? ≠ some 47`; e.g. `URL("").join(URL("a/../b"))`
    deviates, `URL("").join(URL("../b"))` does not — computed `example`s in C14More.lean).  Base with neither authority nor path
    and a rootless reference containing '.': same deviation (C14_empty_base_dotdot_counterexample, restated in
    C14_headline_join_rfc_fails_for_other_guards), characterised as in item 1 (here merged = the reference path) and now with
    the same exact condition.  Note `hempty` of C14_headline_join_rfc applies to a base with a scheme such as `http:` too; the
    iff covers it (no authority).
 3. For library-made URLs (`ReachC`) with an AUTHORITY in the base all guards are discharged
    (C14_headline_join_rfc_reachable).  `ReachC` excludes encoded=True anywhere in the history; for such
    URLs only the guarded theorem applies.
 4. "applied to the encoded components": join never re-encodes — true by construction of `join` (no quoter
    call); not a separate theorem.  The Python `join()` type check (non-URL argument → TypeError) is C19.
 5. `Rfc.resolve` treats "undefined" as "empty" (yarl cannot distinguish `http://a/b?` from `http://a/b`);
    this is a modelling decision of the spec, not proved against the RFC text.
 6. Pass-through when the reference has an authority but the (common) scheme is in uses_relative and not in
    uses_authority: impossible for the generated tables (`C14_relative_subset_authority`), so not a gap,
    but it depends on the generated tables.
 7. NEW.  A base WITH an authority and a ROOTLESS non-empty path (`URL.build(host=…, path="x/y", encoded=True)` / hand-made parts
    only; excluded by `hbase` / `hb` of every theorem above, including both iffs of item 1): join is NOT RFC 3986 in general
    (C14_rootless_authority_base_counterexample).  PARTLY CLOSED by C15_rfc_join_authority_rootless_base,
    C15_rfc_join_authority_rootless_base_instances (C15More2.lean), see C14_headline_join_rootless_authority_base,
    C14_headline_join_rfc_fails_for_rootless_authority_base (C14HeadlineMore3.lean).  Proved, for a relative-path reference
    (no authority, non-empty rootless path): the PATH of the result — `normalize_path(base.path + ref.path)` when the base path
    ends with '/' (that text is the RFC's merged path, normalised as a relative path), otherwise §5.2.4 of
    "//" + (base.path[1:] up to its last '/') + ref.path (`raw_parts` eats the first character of the base path).
    The comparison with `Rfc.resolve` for this shape, by the kind of reference (rooted path, empty path, own authority: exact,
    with no hypothesis on the base; relative path: the two paths in closed form, iff conditions): C14Rootless.lean, see
    C14HeadlineMore6.lean.
 8. NEW (side condition, unchanged in substance).  `href` — a reference WITH its own authority is returned as it is, so its
    path must already be free of dot segments — is a hypothesis of C14_headline_join_rfc and of
    C14_headline_join_rfc_base_without_authority; it is needed (C14_headline_join_rfc_fails_for_other_guards, `encoded=True`
    references only), discharged for `ReachC` references only inside C14_headline_join_rfc_reachable (item 3: base with an
    authority), and there is no iff for it.  C15_join_ref_dots_iff
    (C15More2.lean) states the underlying fact: with such a reference the result has the reference's authority and its path has
    no dot segment iff the reference's has none.
-/
end Yarl
