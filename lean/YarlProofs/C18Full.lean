/-
  C18Full.lean — `URL(u.human_repr()) == u` at URL level for the FULL family of the property:
  user, password, host of every kind (plain / IDN registered name, IPv4, IPv6 with optional zone),
  explicit port, rooted path, query pairs and fragment, all built from decoded components.
  The path is any rooted text: `build` removes its dot segments, and PATH_QUOTER commutes with that
  (`HumanFull.path_norm_commute`).  (`C18_roundtrip`, `C18_roundtrip_http` and `C18_roundtrip_userinfo` also carry a
  hypothesis "no '.' in the path", and the last one two more on the user; their proofs do not use them.)
  The round trips are cases of `HumanMore.roundtrip_stored` / `HumanMore.roundtrip_ascii` (Lemmas/HumanStores.lean: the
  generated lists' case of `HumanStores.roundtrip_shown`, for any URL object that stores the encodings of decoded
  components) applied to what `build` returns (`HumanFull.build_full`, `HumanFull.build_core`).

  * `C18_roundtrip(_http)`         : the first family — scheme + plain host + rooted path + fragment
  * `C18_roundtrip_total`          : `human_repr()` does not fail on the record `HumanLemmas.builtUrl` of that family
  * `C18_roundtrip_userinfo`       : the same with user / password, PROVIDED the NFKC check of the netloc passes
  * `C18_query_requote`            : QUERY_REQUOTER distributes over the '&' and '=' of the human query string and
                                     gives back `k1=v1&k2=v2…` as `build` stored it
  * `C18_roundtrip_query`          : scheme + plain host + path + QUERY pairs + fragment (no proviso)
  * `C18_roundtrip_port`           : explicit port that is not the scheme's default
  * `C18_roundtrip_port_default`   : the default port is dropped by `build` itself (same URL as without)
  * `C18_roundtrip_ipv4`, `C18_roundtrip_ipv6` : IP-literal hosts (IPv6 with optional zone id)
  * `C18_roundtrip_full`           : everything together, for the four kinds of host (`HostKind`)
  * `C18_human_repr_shape`         : what `human_repr()` is, piece by piece
  * `C18_idn_host_shown_decoded`   : an IDN host is shown decoded, and re-encodes to the stored A-label
  * `C18_idn_digit_host_now_decoded` : an IDN host whose last character is a digit (`bücher.h1`) is decoded by
                                     `URL.host` too: the IP-address shortcut does not apply when "xn--" occurs
  * `C18_roundtrip_full_total`     : `human_repr()` does not fail when the oracle knows every character

  With user / password the NFKC proviso of `C18_roundtrip_userinfo` remains (see
  `C18_roundtrip_userinfo_nfkc_counterexample` in C18.lean); with an IDN host the authority is not
  ASCII either, so the same proviso applies.
-/
import YarlProofs.Lemmas.HumanStores
namespace Yarl

open HumanLemmas HumanFull HumanMore HumanRelax HumanStores QueryUrl QsLemmas NetlocLemmas

/-! ## the query string -/

/-- the human query string `k1=v1&k2=v2…` (keys and values human-quoted with their unsafe sets `#&+;=`) is re-quoted
    by QUERY_REQUOTER to exactly the query string `build` stored.  No side condition on '+' or ' ' is needed.
    (The case "nothing left literal" of `R12.query_lit_iff`.) -/
theorem C18_query_requote (e : Env) (kvs : List (Str × Str)) (parts : List Str) (hg : GoodPairs kvs)
    (h : kvs.mapM (fun (k, v) => do
      pure ((← humanQuote e.o k (humanUnsafeOf "k")) ++ [61] ++ (← humanQuote e.o v (humanUnsafeOf "v"))))
        = .ok parts) :
    q e Gen.QUERY_REQUOTER (joinC 38 parts) =
      joinC 38 (kvs.map (fun p => Gen.QUERY_PART_QUOTER.run e.b p.1 ++ [61] ++
        Gen.QUERY_PART_QUOTER.run e.b p.2)) :=
  (R12.query_lit_iff e (fun _ => false) (fun _ => false) kvs parts hg
    (fun _ _ => ⟨R12.litChars_false _ _, R12.litChars_false _ _⟩) h).mpr fun _ _ => ⟨R12.pctOK_false _, R12.pctOK_false _⟩

/-! ## the general round trip -/

/-- the arguments of `URL.build` for the full family -/
def fullArgs (sc : Str) (user pw : Option Str) (h : Str) (port : Option Nat) (p : Str)
    (kvs : List (Str × Str)) (f : Str) : BuildArgs :=
  { scheme := sc, user := user, password := pw, host := h, port := port.map Int.ofNat,
    path := 47 :: p, query := .pairs (strItems kvs), fragment := f }

/-- what `human_repr()` of the built URL is: scheme, "://", the authority made of the human-quoted
    user and password, the SHOWN host `D` (in brackets iff it contains ':') and the port `build`
    kept, the human-quoted path (of the dot-segment-free form `"/" ++ normTail p` of the path given
    to `build`), "?" and the human query string, "#" and the human-quoted fragment -/
theorem C18_human_repr_shape (e : Env) (sc : Str) (user pw : Option Str) (h H D : Str)
    (port : Option Nat) (p : Str) (kvs : List (Str × Str)) (f : Str)
    (vs : ValidScheme sc) (hrt : HostRT e h H D) (hport : ∀ x, port = some x → x ≤ 65535)
    (hu : UText user) (hune : ∀ s, user = some s → s ≠ []) (hw : UText pw)
    (hp : PyStr (47 :: p)) (hn : NoSurrogate (47 :: p)) (hg : GoodPairs kvs)
    (hf : PyStr f) (hfn : NoSurrogate f) :
    build e (fullArgs sc user pw h port p kvs f) =
      .ok (builtFull e sc user pw H (effPort sc port) (47 :: normTail p) kvs f) ∧
    ∀ hr, humanRepr e (builtFull e sc user pw H (effPort sc port) (47 :: normTail p) kvs f) = .ok hr →
      ∃ usr pw' rp qparts rf,
        HumanPieces e user pw (47 :: normTail p) kvs f usr pw' (47 :: rp) qparts rf ∧
        hr = composeUrl sc (authText usr pw' D (effPort sc port)) (47 :: rp) (joinC 38 qparts) rf :=
  ⟨build_full e sc sc (vs.lowerAny_eq e) user pw h H port p kvs f hrt.hne hrt.okH.1 hrt.build hport hp hn,
   fun hr hh => by
     obtain ⟨usr, pw', rp, qparts, rf, q1, q2, q3, q4, q5, h⟩ := showWith_shape (humanShower e.o humanUnsafeOf) e _
       user pw H D (effPort sc port) (normTail p) kvs f (HumanMore.builtFull_stores e sc user pw H _ _ kvs f) vs.ne
       hrt.okH hrt.shown hrt.disp.ok.1 (effPort_range hport) hu hune hw (good_normalizePath hp hn).1
       (good_normalizePath hp hn).2 hg hf hfn (fun r h => human_path_root h) hr hh
     exact ⟨usr, pw', rp, qparts, rf, ⟨q1, q2, q3, q4, q5⟩, h⟩⟩

/-- the round trip for any host that satisfies `HostRT` -/
theorem C18_roundtrip_gen (e : Env) (sc : Str) (user pw : Option Str) (h H D : Str)
    (port : Option Nat) (p : Str) (kvs : List (Str × Str)) (f : Str)
    (vs : ValidScheme sc) (hrt : HostRT e h H D) (hport : ∀ x, port = some x → x ≤ 65535)
    (hu : UText user) (hune : ∀ s, user = some s → s ≠ []) (hw : UText pw)
    (hp : PyStr (47 :: p)) (hn : NoSurrogate (47 :: p)) (hg : GoodPairs kvs)
    (hf : PyStr f) (hfn : NoSurrogate f) :
    ∃ u, build e (fullArgs sc user pw h port p kvs f) = .ok u ∧
      ∀ hr, humanRepr e u = .ok hr →
        (isAscii (Rfc.appendixB Gen.schemeChars hr).authority = false →
          checkNetloc e.o (Rfc.appendixB Gen.schemeChars hr).authority = .ok ()) →
        ∃ v, encodeUrl e hr = .ok v ∧ Url.beq v u = true ∧
          v.pre = some (preOf (user.map (q e Gen.QUOTER)) (pw.map (q e Gen.QUOTER)) H (effPort sc port)) := by
  refine ⟨_, build_full e sc sc (vs.lowerAny_eq e) user pw h H port p kvs f hrt.hne hrt.okH.1 hrt.build hport hp hn,
    fun hr hh hnf => ?_⟩
  obtain ⟨v, h1, h2, h3, _⟩ := roundtrip_stored e _ user pw h H D (effPort sc port) (normTail p) kvs f vs hrt
    (effPort_range hport) hu hune hw (good_normalizePath hp hn).1 (good_normalizePath hp hn).2 (normTail_normal p) hg hf
    hfn (builtFull_stores e sc user pw H _ _ kvs f) hr hh hnf
  exact ⟨v, h1, h2, h3⟩

/-! ## the first family: build → human_repr → URL(...) gives an equal URL

  The family: any scheme `split_url` reads back (non-empty, scheme characters, lower case — `http`
  in particular), a plain registered-name host (ASCII, lower case, valid, not an IP literal) that
  IDNA-decoding leaves as it is, no user / password / port, a rooted path, no query, any fragment.
  Path and fragment are arbitrary Python strings without lone surrogates. -/

set_option linter.unusedVariables false in
theorem C18_roundtrip (e : Env) (sc h p f : Str) (vs : ValidScheme sc) (ph : PlainHost h)
    (hidna : e.o.idnaDec h = some (some h))
    (hp : PyStr (47 :: p)) (hn : NoSurrogate (47 :: p)) (hdot : 46 ∉ p)
    (hf : PyStr f) (hfn : NoSurrogate f) :
    ∃ u, build e { scheme := sc, host := h, path := 47 :: p, fragment := f } = .ok u ∧
      ∀ hr, humanRepr e u = .ok hr → ∃ v, encodeUrl e hr = .ok v ∧ Url.beq v u = true := by
  have hrt := hostRT_plain e ph hidna
  have hpath : (47 :: p) = [] ∨ ∃ p', 47 :: p = 47 :: p' ∧ PyStr (47 :: p') ∧ NoSurrogate (47 :: p') :=
    Or.inr ⟨p, rfl, hp, hn⟩
  have hg := good_normalizePath hp hn
  exact ⟨_, build_core e sc sc (vs.lowerAny_eq e) none none h h none (47 :: p) .none [] [] f hrt.hne hrt.okH.1 hrt.build
      nofun hpath nofun (fun _ => rfl),
    roundtrip_ascii e _ h h h none (normTail p) [] f vs hrt ph.ascii nofun hg.1 hg.2 (normTail_normal p) nofun hf hfn
      (stores_built e sc none none h none (47 :: p) [] f hpath)⟩

/-- `human_repr()` of the record `HumanLemmas.builtUrl e sc h ("/" ++ p) f` — scheme, plain host, the quoted path AS
    GIVEN (dot segments not removed), the quoted fragment — does not fail when the oracle knows every non-ASCII
    character.  (For a path without dot segments this record is what `build` returns; for `build` itself see
    `C18_roundtrip_full_total`.) -/
theorem C18_roundtrip_total (e : Env) (sc h p f : Str) (ph : PlainHost h)
    (hidna : e.o.idnaDec h = some (some h))
    (hp : PyStr (47 :: p)) (hn : NoSurrogate (47 :: p)) (hf : PyStr f) (hfn : NoSurrogate f)
    (ho : ∀ c, 128 ≤ c → (e.o.isPrintableU c).isSome) :
    ∃ hr, humanRepr e (builtUrl e sc h (47 :: p) f) = .ok hr := by
  have hrt := hostRT_plain e ph hidna
  obtain ⟨rp, h1⟩ := C18_human_quote_total e.o (47 :: p) (humanUnsafeOf "path") hn (fun c _ => ho c)
  obtain ⟨rf, h2⟩ := C18_human_quote_total e.o f (humanUnsafeOf "fragment") hfn (fun c _ => ho c)
  have st : Stores e (builtUrl e sc h (47 :: p) f) none none h none p [] f :=
    ⟨(plain_netloc id ph).symm, nofun, Or.inl rfl, rfl, rfl⟩
  rw [humanRepr_show, showWith_stores _ e _ none none h h none p [] f st hrt.okH hrt.shown ph.ne nofun nofun nofun nofun
    hp hn nofun hf hfn]
  simp only [humanShower, h1, h2]
  exact ⟨_, rfl⟩

set_option linter.unusedVariables false in
/-- the `http` instance of the family -/
theorem C18_roundtrip_http (e : Env) (h p f : Str) (ph : PlainHost h)
    (hidna : e.o.idnaDec h = some (some h))
    (hp : PyStr (47 :: p)) (hn : NoSurrogate (47 :: p)) (hdot : 46 ∉ p)
    (hf : PyStr f) (hfn : NoSurrogate f) :
    ∃ u, build e { scheme := "http".toStr, host := h, path := 47 :: p, fragment := f } = .ok u ∧
      ∀ hr, humanRepr e u = .ok hr → ∃ v, encodeUrl e hr = .ok v ∧ Url.beq v u = true :=
  C18_roundtrip e _ h p f (by decide) ph hidna hp hn hdot hf hfn

set_option linter.unusedVariables false in
/-- URL level with user and/or password: the round trip holds PROVIDED the NFKC check of
    `split_url` accepts the authority of the human form (it is only run when that authority is
    not ASCII) — and that proviso is needed (`C18_roundtrip_userinfo_nfkc_counterexample`). -/
theorem C18_roundtrip_userinfo (e : Env) (sc : Str) (user pw : Option Str) (h p f : Str)
    (vs : ValidScheme sc) (ph : PlainHost h) (hidna : e.o.idnaDec h = some (some h))
    (hu : UText user) (hune : ∀ s, user = some s → s ≠ []) (hw : UText pw)
    (hsome : user.isSome = true ∨ pw.isSome = true)
    (hp : PyStr (47 :: p)) (hn : NoSurrogate (47 :: p)) (hdot : 46 ∉ p)
    (hf : PyStr f) (hfn : NoSurrogate f) :
    ∃ u, build e { scheme := sc, user := user, password := pw, host := h, path := 47 :: p,
                   fragment := f } = .ok u ∧
      ∀ hr, humanRepr e u = .ok hr →
        (isAscii (Rfc.appendixB Gen.schemeChars hr).authority = false →
          checkNetloc e.o (Rfc.appendixB Gen.schemeChars hr).authority = .ok ()) →
        ∃ v, encodeUrl e hr = .ok v ∧ Url.beq v u = true := by
  have hrt := hostRT_plain e ph hidna
  have hpath : (47 :: p) = [] ∨ ∃ p', 47 :: p = 47 :: p' ∧ PyStr (47 :: p') ∧ NoSurrogate (47 :: p') :=
    Or.inr ⟨p, rfl, hp, hn⟩
  have hg := good_normalizePath hp hn
  refine ⟨_, build_core e sc sc (vs.lowerAny_eq e) user pw h h none (47 :: p) .none [] [] f hrt.hne hrt.okH.1 hrt.build
      nofun hpath nofun (fun _ => rfl), fun hr hh hnf => ?_⟩
  obtain ⟨v, a, b, _⟩ := roundtrip_stored e _ _ pw h h h none (normTail p) [] f vs hrt nofun (dropEmpty_utext hu)
    (dropEmpty_ne user) hw hg.1 hg.2 (normTail_normal p) nofun hf hfn
    (stores_built e sc user pw h none (47 :: p) [] f hpath) hr hh hnf
  exact ⟨v, a, b⟩

/-! ## the query -/

/-- scheme + plain host + rooted path + QUERY pairs + fragment: `URL(u.human_repr()) == u`.
    The authority is ASCII here, so there is no NFKC proviso. -/
theorem C18_roundtrip_query (e : Env) (sc h p : Str) (kvs : List (Str × Str)) (f : Str)
    (vs : ValidScheme sc) (ph : PlainHost h) (hidna : e.o.idnaDec h = some (some h))
    (hp : PyStr (47 :: p)) (hn : NoSurrogate (47 :: p)) (hg : GoodPairs kvs)
    (hf : PyStr f) (hfn : NoSurrogate f) :
    ∃ u, build e { scheme := sc, host := h, path := 47 :: p, query := .pairs (strItems kvs),
                   fragment := f } = .ok u ∧
      u.query = joinC 38 (kvs.map (fun kv => Gen.QUERY_PART_QUOTER.run e.b kv.1 ++ [61] ++
        Gen.QUERY_PART_QUOTER.run e.b kv.2)) ∧
      ∀ hr, humanRepr e u = .ok hr → ∃ v, encodeUrl e hr = .ok v ∧ Url.beq v u = true := by
  have hrt := hostRT_plain e ph hidna
  exact ⟨_, build_full e sc sc (vs.lowerAny_eq e) none none h h none p kvs f hrt.hne hrt.okH.1 hrt.build nofun hp hn, rfl,
    roundtrip_ascii e _ h h h none (normTail p) kvs f vs hrt ph.ascii nofun (good_normalizePath hp hn).1
      (good_normalizePath hp hn).2 (normTail_normal p) hg hf hfn (builtFull_stores e sc none none h _ _ kvs f)⟩

/-! ## the port -/

/-- as `C18_roundtrip_userinfo`, with an explicit port `≤ 65535` that is not the scheme's default
    (and query pairs): the port is stored, shown by `human_repr()` and read back -/
theorem C18_roundtrip_port (e : Env) (sc : Str) (user pw : Option Str) (h : Str) (pt : Nat) (p : Str)
    (kvs : List (Str × Str)) (f : Str)
    (vs : ValidScheme sc) (ph : PlainHost h) (hidna : e.o.idnaDec h = some (some h))
    (hpt : pt ≤ 65535) (hnd : some pt ≠ defaultPort sc)
    (hu : UText user) (hune : ∀ s, user = some s → s ≠ []) (hw : UText pw)
    (hp : PyStr (47 :: p)) (hn : NoSurrogate (47 :: p)) (hg : GoodPairs kvs)
    (hf : PyStr f) (hfn : NoSurrogate f) :
    ∃ u, build e { scheme := sc, user := user, password := pw, host := h, port := some (Int.ofNat pt),
                   path := 47 :: p, query := .pairs (strItems kvs), fragment := f } = .ok u ∧
      explicitPort e u = .ok (some pt) ∧
      ∀ hr, humanRepr e u = .ok hr →
        (isAscii (Rfc.appendixB Gen.schemeChars hr).authority = false →
          checkNetloc e.o (Rfc.appendixB Gen.schemeChars hr).authority = .ok ()) →
        ∃ v, encodeUrl e hr = .ok v ∧ Url.beq v u = true ∧ explicitPort e v = .ok (some pt) := by
  have hport : ∀ x, some pt = some x → x ≤ 65535 := by intro x hx; cases hx; exact hpt
  have heff : effPort sc (some pt) = some pt := by simp [effPort, hnd]
  obtain ⟨u, hb, hrt⟩ := C18_roundtrip_gen e sc user pw h h h (some pt) p kvs f vs (hostRT_plain e ph hidna)
    hport hu hune hw hp hn hg hf hfn
  have hb' := (C18_human_repr_shape e sc user pw h h h (some pt) p kvs f vs (hostRT_plain e ph hidna)
    hport hu hune hw hp hn hg hf hfn).1
  have hu' : u = builtFull e sc user pw h (effPort sc (some pt)) (47 :: normTail p) kvs f := by
    rw [hb'] at hb; cases hb; rfl
  refine ⟨u, hb, ?_, ?_⟩
  · rw [hu', heff]
    exact explicitPort_std e id _ _ h (some pt) _ _ _ _ (userOK_quoted e user hu hune) (plain_hostOK ph) hport
  · intro hr hh hnf
    obtain ⟨v, h1, h2, h3⟩ := hrt hr hh hnf
    refine ⟨v, h1, h2, ?_⟩
    unfold explicitPort net
    rw [h3, heff]
    rfl

/-- the scheme's default port given explicitly: `build` drops it, so the URL — and hence its
    `human_repr()` and the round trip — is the one built without a port -/
theorem C18_roundtrip_port_default (e : Env) (sc : Str) (user pw : Option Str) (h H D : Str) (pt : Nat)
    (p : Str) (kvs : List (Str × Str)) (f : Str)
    (vs : ValidScheme sc) (hrt : HostRT e h H D) (hpt : pt ≤ 65535) (hd : some pt = defaultPort sc)
    (hu : UText user) (hune : ∀ s, user = some s → s ≠ []) (hw : UText pw)
    (hp : PyStr (47 :: p)) (hn : NoSurrogate (47 :: p)) (hg : GoodPairs kvs)
    (hf : PyStr f) (hfn : NoSurrogate f) :
    build e (fullArgs sc user pw h (some pt) p kvs f) = build e (fullArgs sc user pw h none p kvs f) ∧
    ∃ u, build e (fullArgs sc user pw h (some pt) p kvs f) = .ok u ∧ explicitPort e u = .ok none ∧
      port e u = .ok (some pt) := by
  have hport : ∀ x, some pt = some x → x ≤ 65535 := by intro x hx; cases hx; exact hpt
  have hport0 : ∀ x, (none : Option Nat) = some x → x ≤ 65535 := by intro x hx; cases hx
  have heff : effPort sc (some pt) = none := by simp [effPort, hd]
  have hb1 := (C18_human_repr_shape e sc user pw h H D (some pt) p kvs f vs hrt hport hu hune hw hp hn
    hg hf hfn).1
  have hb0 := (C18_human_repr_shape e sc user pw h H D none p kvs f vs hrt hport0 hu hune hw hp hn
    hg hf hfn).1
  have hE : explicitPort e (builtFull e sc user pw H none (47 :: normTail p) kvs f) = .ok none :=
    explicitPort_std e id _ _ H none _ _ _ _ (userOK_quoted e user hu hune) hrt.okH hport0
  rw [heff] at hb1
  refine ⟨by rw [hb1, hb0]; rfl, _, hb1, hE, ?_⟩
  unfold port
  rw [hE]
  simp only [bind, Except.bind, pure, Except.pure]
  rw [hd]; rfl

/-! ## IP-literal hosts -/

/-- IPv4 host: `human_repr()` shows the literal as it is and the re-parse keeps it -/
theorem C18_roundtrip_ipv4 (e : Env) (sc : Str) (user pw : Option Str) (s : Str) (o4 : List Nat)
    (port : Option Nat) (p : Str) (kvs : List (Str × Str)) (f : Str)
    (vs : ValidScheme sc) (h4 : parseIPv4 s = some o4) (hport : ∀ x, port = some x → x ≤ 65535)
    (hu : UText user) (hune : ∀ s, user = some s → s ≠ []) (hw : UText pw)
    (hp : PyStr (47 :: p)) (hn : NoSurrogate (47 :: p)) (hg : GoodPairs kvs)
    (hf : PyStr f) (hfn : NoSurrogate f) :
    ∃ u, build e (fullArgs sc user pw s port p kvs f) = .ok u ∧ rawHost e u = .ok (some s) ∧
      ∀ hr, humanRepr e u = .ok hr →
        (isAscii (Rfc.appendixB Gen.schemeChars hr).authority = false →
          checkNetloc e.o (Rfc.appendixB Gen.schemeChars hr).authority = .ok ()) →
        ∃ v, encodeUrl e hr = .ok v ∧ Url.beq v u = true ∧ rawHost e v = .ok (some s) := by
  have hrt := hostRT_ipv4 e h4
  obtain ⟨u, hb, hr⟩ := C18_roundtrip_gen e sc user pw s s s port p kvs f vs hrt hport hu hune hw hp hn
    hg hf hfn
  have hb' := (C18_human_repr_shape e sc user pw s s s port p kvs f vs hrt hport hu hune hw hp hn hg hf
    hfn).1
  have hu' : u = builtFull e sc user pw s (effPort sc port) (47 :: normTail p) kvs f := by
    rw [hb'] at hb; cases hb; rfl
  refine ⟨u, hb, ?_, ?_⟩
  · rw [hu']
    exact rawHost_std e id _ _ s _ _ _ _ _ (userOK_quoted e user hu hune) hrt.okH (effPort_range hport)
  · intro t hh hnf
    obtain ⟨v, h1, h2, h3⟩ := hr t hh hnf
    refine ⟨v, h1, h2, ?_⟩
    unfold rawHost net
    rw [h3]; rfl

/-- IPv6 host `a` (any accepted spelling, optional `%zone`): stored compressed, shown in
    brackets by `human_repr()`, and the re-parse re-encodes it identically -/
theorem C18_roundtrip_ipv6 (e : Env) (sc : Str) (user pw : Option Str) (a : Str) (h8 : List Nat) (zs : Str)
    (port : Option Nat) (p : Str) (kvs : List (Str × Str)) (f : Str)
    (vs : ValidScheme sc) (ha : parseIPv6 a = some h8) (h37 : 37 ∉ a) (hz : ZoneOK zs)
    (hport : ∀ x, port = some x → x ≤ 65535)
    (hu : UText user) (hune : ∀ s, user = some s → s ≠ []) (hw : UText pw)
    (hp : PyStr (47 :: p)) (hn : NoSurrogate (47 :: p)) (hg : GoodPairs kvs)
    (hf : PyStr f) (hfn : NoSurrogate f) :
    ∃ u, build e (fullArgs sc user pw (a ++ zs) port p kvs f) = .ok u ∧
      rawHost e u = .ok (some (ipv6ToStr h8 ++ zs)) ∧
      ∀ hr, humanRepr e u = .ok hr →
        (∃ usr pw' tail, hr = sc ++ [58, 47, 47] ++ FixLemmas.userPrefix usr pw' ++
            ([91] ++ (ipv6ToStr h8 ++ zs) ++ [93]) ++ tail) ∧
        ((isAscii (Rfc.appendixB Gen.schemeChars hr).authority = false →
          checkNetloc e.o (Rfc.appendixB Gen.schemeChars hr).authority = .ok ()) →
        ∃ v, encodeUrl e hr = .ok v ∧ Url.beq v u = true ∧
          rawHost e v = .ok (some (ipv6ToStr h8 ++ zs))) := by
  have hrt := hostRT_ipv6 e ha h37 hz
  obtain ⟨u, hb, hr⟩ := C18_roundtrip_gen e sc user pw _ _ _ port p kvs f vs hrt hport hu hune hw hp hn
    hg hf hfn
  obtain ⟨hb', hshape⟩ := C18_human_repr_shape e sc user pw _ _ _ port p kvs f vs hrt hport hu hune hw hp hn
    hg hf hfn
  have hu' : u = builtFull e sc user pw (ipv6ToStr h8 ++ zs) (effPort sc port) (47 :: normTail p) kvs f := by
    rw [hb'] at hb; cases hb; rfl
  refine ⟨u, hb, ?_, ?_⟩
  · rw [hu']
    exact rawHost_std e id _ _ _ _ _ _ _ _ (userOK_quoted e user hu hune) hrt.okH (effPort_range hport)
  · intro t hh
    constructor
    · obtain ⟨usr, pw', rp, qparts, rf, _, rfl⟩ := hshape t (hu' ▸ hh)
      have h58 : 58 ∈ ipv6ToStr h8 ++ zs := by
        have := HostLemmas.parseIPv6_colon (C16_ipv6_roundtrip h8 (HostLemmas.parseIPv6_shape ha).1
          (HostLemmas.parseIPv6_shape ha).2)
        exact List.mem_append.mpr (Or.inl this)
      have hbr : bracket (ipv6ToStr h8 ++ zs) = [91] ++ (ipv6ToStr h8 ++ zs) ++ [93] := by
        unfold bracket; rw [if_pos (mem_iff.mpr h58)]
      refine ⟨usr, pw', (match effPort sc port with | some pt => [58] ++ natToStr pt | none => []) ++
        ((47 :: rp) ++ (qPart (joinC 38 qparts) ++ fPart rf)), ?_⟩
      rw [FixLemmas.composeUrl_eq, FixLemmas.authText_eq, hbr]
      cases effPort sc port <;> simp [hostPortStr]
    · intro hnf
      obtain ⟨v, h1, h2, h3⟩ := hr t hh hnf
      refine ⟨v, h1, h2, ?_⟩
      unfold rawHost net
      rw [h3]; rfl

/-! ## everything together -/

/-- MAIN: for every absolute URL built from decoded components — user, password, host of any of
    the kinds of `HostKind`, explicit port, ANY rooted path (dot segments included), query pairs, fragment —
    `URL(u.human_repr()) == u`, provided the NFKC check of `split_url` accepts the authority of
    the human form (it is only run when that authority is not ASCII). -/
theorem C18_roundtrip_full (e : Env) (sc : Str) (user pw : Option Str) (h H D : Str)
    (port : Option Nat) (p : Str) (kvs : List (Str × Str)) (f : Str)
    (vs : ValidScheme sc) (hk : HostKind e h H D) (hport : ∀ x, port = some x → x ≤ 65535)
    (hu : UText user) (hune : ∀ s, user = some s → s ≠ []) (hw : UText pw)
    (hp : PyStr (47 :: p)) (hn : NoSurrogate (47 :: p)) (hg : GoodPairs kvs)
    (hf : PyStr f) (hfn : NoSurrogate f) :
    ∃ u, build e { scheme := sc, user := user, password := pw, host := h, port := port.map Int.ofNat,
                   path := 47 :: p, query := .pairs (strItems kvs), fragment := f } = .ok u ∧
      ∀ hr, humanRepr e u = .ok hr →
        (isAscii (Rfc.appendixB Gen.schemeChars hr).authority = false →
          checkNetloc e.o (Rfc.appendixB Gen.schemeChars hr).authority = .ok ()) →
        ∃ v, encodeUrl e hr = .ok v ∧ Url.beq v u = true := by
  obtain ⟨u, hb, hr⟩ := C18_roundtrip_gen e sc user pw h H D port p kvs f vs hk.rt hport hu hune hw hp hn
    hg hf hfn
  refine ⟨u, hb, ?_⟩
  intro t hh hnf
  obtain ⟨v, h1, h2, _⟩ := hr t hh hnf
  exact ⟨v, h1, h2⟩

/-- … and `human_repr()` does not fail when the oracle knows every non-ASCII character -/
theorem C18_roundtrip_full_total (e : Env) (sc : Str) (user pw : Option Str) (h H D : Str)
    (port : Option Nat) (p : Str) (kvs : List (Str × Str)) (f : Str)
    (vs : ValidScheme sc) (hk : HostKind e h H D) (hport : ∀ x, port = some x → x ≤ 65535)
    (hu : UText user) (hune : ∀ s, user = some s → s ≠ []) (hw : UText pw)
    (hp : PyStr (47 :: p)) (hn : NoSurrogate (47 :: p)) (hg : GoodPairs kvs)
    (hf : PyStr f) (hfn : NoSurrogate f)
    (ho : ∀ c, 128 ≤ c → (e.o.isPrintableU c).isSome) :
    ∃ u hr, build e (fullArgs sc user pw h port p kvs f) = .ok u ∧ humanRepr e u = .ok hr := by
  have hrt := hk.rt
  obtain ⟨usr, h1⟩ := humanQuoteOpt_total e.o user (humanUnsafeOf "user") (fun s hs => (hu s hs).2) ho
  obtain ⟨pw', h2⟩ := humanQuoteOpt_total e.o pw (humanUnsafeOf "password") (fun s hs => (hw s hs).2) ho
  obtain ⟨rp, h3⟩ := C18_human_quote_total e.o (47 :: normTail p) (humanUnsafeOf "path")
    (good_normalizePath hp hn).2 (fun c _ => ho c)
  obtain ⟨qparts, h4⟩ := humanPairs_total e.o ho kvs hg
  obtain ⟨rf, h5⟩ := C18_human_quote_total e.o f (humanUnsafeOf "fragment") hfn (fun c _ => ho c)
  refine ⟨builtFull e sc user pw H (effPort sc port) (47 :: normTail p) kvs f,
    unsplitResult sc (authText usr pw' D (effPort sc port)) rp (joinC 38 qparts) rf,
    build_full e sc sc (vs.lowerAny_eq e) user pw h H port p kvs f hrt.hne hrt.okH.1 hrt.build hport hp hn, ?_⟩
  rw [humanRepr_stores e _ user pw H D (effPort sc port) (normTail p) kvs f (builtFull_stores e sc user pw H _ _ kvs f)
    hrt.okH hrt.shown hrt.disp.ok.1
    (effPort_range hport) hu hune hw (good_normalizePath hp hn).1 (good_normalizePath hp hn).2 hg hf hfn,
    h1, h2, h3, h4, h5]
  rfl

/-! ## an IDN host is shown decoded -/

/-- For a host `h` whose stored form is the A-label text `raw` (`idnaEncode h = raw`,
    `idnaDec raw = h`: the IDNA round trip, an oracle fact of the trusted base), `human_repr()`
    shows `h` — right after "://" and the `user:password@` prefix — not `raw`; and `URL(...)` of
    that text re-encodes `h` to `raw` (same netloc, `raw_host == raw`).

    `hlast`: the last character of `raw` is no digit, OR `raw` contains "xn--" (`URL.host` returns a digit-ending raw
    host undecoded unless "xn--" occurs in it; `C18_idn_digit_host_now_decoded` is an instance).  The second alternative
    holds for every real A-label form of a non-ASCII name, but `idnaEncode` is an oracle here (any
    `Str → Option (Option Str)` table), so it cannot be derived from `henc` and `hna`; without `hlast`
    the statement is false (`C18_idn_oracle_without_xn`). -/
theorem C18_idn_host_shown_decoded (e : Env) (sc : Str) (user pw : Option Str) (h raw : Str) (b : Bool)
    (port : Option Nat) (p : Str) (kvs : List (Str × Str)) (f : Str)
    (vs : ValidScheme sc) (ph : PlainHost raw) (hna : isAscii h = false)
    (hlook : HostLemmas.looksIP e.o h = .ok b) (hnoip : parseIP (partition 37 h).1 = none)
    (henc : idnaEncode e.o h = .ok raw) (hdec : e.o.idnaDec raw = some (some h))
    (hlast : (∀ l, raw.getLast? = some l → isDigitC l = false) ∨ hasSub [120, 110, 45, 45] raw = true)
    (hd : DispHost h) (h58 : 58 ∉ h)
    (hport : ∀ x, port = some x → x ≤ 65535)
    (hu : UText user) (hune : ∀ s, user = some s → s ≠ []) (hw : UText pw)
    (hp : PyStr (47 :: p)) (hn : NoSurrogate (47 :: p)) (hg : GoodPairs kvs)
    (hf : PyStr f) (hfn : NoSurrogate f) :
    ∃ u, build e (fullArgs sc user pw h port p kvs f) = .ok u ∧ rawHost e u = .ok (some raw) ∧
      host e u = .ok (some h) ∧
      ∀ hr, humanRepr e u = .ok hr →
        (∃ usr pw' tail, humanQuoteOpt e.o user (humanUnsafeOf "user") = .ok usr ∧
            humanQuoteOpt e.o pw (humanUnsafeOf "password") = .ok pw' ∧
            hr = sc ++ [58, 47, 47] ++ FixLemmas.userPrefix usr pw' ++ h ++ tail) ∧
        ((isAscii (Rfc.appendixB Gen.schemeChars hr).authority = false →
          checkNetloc e.o (Rfc.appendixB Gen.schemeChars hr).authority = .ok ()) →
        ∃ v, encodeUrl e hr = .ok v ∧ Url.beq v u = true ∧ rawHost e v = .ok (some raw)) := by
  have hrt := hostRT_idn e b ph hna hlook hnoip henc hdec hlast hd h58
  obtain ⟨u, hb, hr⟩ := C18_roundtrip_gen e sc user pw h raw h port p kvs f vs hrt hport hu hune hw hp hn
    hg hf hfn
  obtain ⟨hb', hshape⟩ := C18_human_repr_shape e sc user pw h raw h port p kvs f vs hrt hport hu hune hw hp
    hn hg hf hfn
  have hu' : u = builtFull e sc user pw raw (effPort sc port) (47 :: normTail p) kvs f := by
    rw [hb'] at hb; cases hb; rfl
  have hraw : rawHost e u = .ok (some raw) := by
    rw [hu']
    exact rawHost_std e id _ _ raw _ _ _ _ _ (userOK_quoted e user hu hune) hrt.okH (effPort_range hport)
  refine ⟨u, hb, hraw, hrt.shown u hraw, ?_⟩
  intro t hh
  constructor
  · obtain ⟨usr, pw', rp, qparts, rf, hq, rfl⟩ := hshape t (hu' ▸ hh)
    refine ⟨usr, pw', (match effPort sc port with | some pt => [58] ++ natToStr pt | none => []) ++
      ((47 :: rp) ++ (qPart (joinC 38 qparts) ++ fPart rf)), hq.q1, hq.q2, ?_⟩
    rw [FixLemmas.composeUrl_eq, FixLemmas.authText_eq, FixLemmas.bracket_of_no_colon h58]
    cases effPort sc port <;> simp [hostPortStr]
  · intro hnf
    obtain ⟨v, h1, h2, h3⟩ := hr t hh hnf
    refine ⟨v, h1, h2, ?_⟩
    unfold rawHost net
    rw [h3]; rfl

/-! ## an IDN name that ends in a digit is shown decoded

  `URL.host` returns `raw_host` unchanged when `raw[-1].isdigit() and "xn--" not in raw or ":" in raw` ("IP addresses
  are never IDNA encoded"; the test for "xn--" is fix 60dbf1e).  So an IDN host whose last label is ASCII and ends in a
  digit — e.g. `bücher.h1`, stored as `xn--bcher-kva.h1` — is decoded by `host` and hence by `human_repr()`, and
  `HostKind.idn` / `C18_idn_host_shown_decoded` accept a stored host that ends in a digit provided it contains
  "xn--". -/

section checks

private def demo : Oracles :=
  { Oracles.empty with
    nfkc := fun s => some s,
    isPrintableU := fun c => some (c != 0x200B),
    isDigitU := fun _ => some false,
    idnaEnc := fun s => if s = "bücher.example".toStr then some (some "xn--bcher-kva.example".toStr)
                        else if s = "bücher.h1".toStr then some (some "xn--bcher-kva.h1".toStr) else some none,
    idnaDec := fun s => if s = "xn--bcher-kva.example".toStr then some (some "bücher.example".toStr)
                        else if s = "xn--bcher-kva.h1".toStr then some (some "bücher.h1".toStr)
                        else some (some s) }

/-- `URL.build(scheme="http", host="bücher.h1", path="/p")`: stored host `xn--bcher-kva.h1`;
    `host` and `human_repr()` show the decoded `bücher.h1`, not the stored form (both backends), and the round trip
    holds. -/
theorem C18_idn_digit_host_now_decoded : ∀ b : Backend,
    let e : Env := ⟨b, demo⟩
    (do let u ← build e (fullArgs "http".toStr none none "bücher.h1".toStr none "p".toStr [] [])
        let hr ← humanRepr e u
        let v ← encodeUrl e hr
        pure (u.netloc, ← host e u, hr, v.beq u) : R (Str × Option Str × Str × Bool)) =
      .ok ("xn--bcher-kva.h1".toStr, some "bücher.h1".toStr,
           "http://bücher.h1/p".toStr, true) ∧
    idnaDecode e.o "xn--bcher-kva.h1".toStr = .ok "bücher.h1".toStr := by
  str_lits; intro b; cases b <;> decide +kernel

/-- `hlast` of `C18_idn_host_shown_decoded` / `HostKind.idn` cannot be dropped (nor derived from the
    encoder's answer): the encoder is an oracle, and one that answers a digit-ending text WITHOUT
    "xn--" (`h1` for `é1`; no real IDNA encoder does) makes `URL.host` take the IP shortcut and show the
    stored form.  Every other hypothesis of `HostKind.idn` holds. -/
theorem C18_idn_oracle_without_xn : ∀ b : Backend,
    let o : Oracles := { demo with
      idnaEnc := fun s => if s = "é1".toStr then some (some "h1".toStr) else some none,
      idnaDec := fun s => if s = "h1".toStr then some (some "é1".toStr) else some (some s) }
    let e : Env := ⟨b, o⟩
    PlainHost "h1".toStr ∧ isAscii "é1".toStr = false ∧ HostLemmas.looksIP o "é1".toStr = .ok true ∧
    parseIP (partition 37 "é1".toStr).1 = none ∧ idnaEncode o "é1".toStr = .ok "h1".toStr ∧
    o.idnaDec "h1".toStr = some (some "é1".toStr) ∧ 58 ∉ "é1".toStr ∧
    hasSub [120, 110, 45, 45] "h1".toStr = false ∧ "h1".toStr.getLast? = some 49 ∧ isDigitC 49 = true ∧
    (do let u ← build e (fullArgs "http".toStr none none "é1".toStr none "p".toStr [] [])
        pure (u.netloc, ← host e u) : R (Str × Option Str)) = .ok ("h1".toStr, some "h1".toStr) := by
  str_lits; intro b; cases b <;> decide +kernel

/-! ### non-vacuity: concrete inputs satisfy the hypotheses, and the computed results -/

private def usr : Str := "us eré".toStr
private def pwd : Str := "p@w:/#€".toStr
private def pth : Str := "a b#c?d/é".toStr ++ [10, 0x200B] ++ "%41+;".toStr
private def kvs : List (Str × Str) := [("k&1 é".toStr, "v=+;%2 #€".toStr), ([], []), ("a".toStr, [])]
private def frg : Str := "x#y?z é".toStr ++ [9]

example : ValidScheme "http".toStr ∧ PlainHost "example.com".toStr ∧ PlainHost "xn--bcher-kva.example".toStr ∧
    GoodPairs kvs ∧ PyStr (47 :: pth) ∧ NoSurrogate (47 :: pth) ∧ 46 ∉ pth ∧ PyStr frg ∧ NoSurrogate frg := by
  decide +kernel
example : UText (some usr) ∧ UText (some pwd) ∧ (∀ s, some usr = some s → s ≠ []) := by
  refine ⟨?_, ?_, ?_⟩
  · intro s hs; cases hs; decide
  · intro s hs; cases hs; decide
  · intro s hs; cases hs; decide
example : parseIPv4 "127.0.0.1".toStr = some [127, 0, 0, 1] ∧
    parseIPv6 "0:0:0:0:0:0:0:1".toStr = some [0, 0, 0, 0, 0, 0, 0, 1] ∧ 37 ∉ "0:0:0:0:0:0:0:1".toStr ∧
    parseIPv6 "fe80::1".toStr = some [0xfe80, 0, 0, 0, 0, 0, 0, 1] ∧
    ipv6ToStr [0xfe80, 0, 0, 0, 0, 0, 0, 1] = "fe80::1".toStr ∧
    ZoneOK "%eth0".toStr ∧ ZoneOK [] ∧ ¬ ZoneOK "%e@h".toStr := by str_lits; decide +kernel
-- the hypotheses of `HostKind.idn` for `bücher.example`
example : isAscii "bücher.example".toStr = false ∧
    HostLemmas.looksIP demo "bücher.example".toStr = .ok false ∧
    parseIP (partition 37 "bücher.example".toStr).1 = none ∧
    idnaEncode demo "bücher.example".toStr = .ok "xn--bcher-kva.example".toStr ∧
    demo.idnaDec "xn--bcher-kva.example".toStr = some (some "bücher.example".toStr) ∧
    (∀ l, "xn--bcher-kva.example".toStr.getLast? = some l → isDigitC l = false) ∧
    58 ∉ "bücher.example".toStr := by decide +kernel
example : DispHost "bücher.example".toStr := by
  str_lits
  exact ⟨by decide +kernel, by unfold AuthCh; decide +kernel, by decide +kernel⟩
-- … so the four kinds of host are inhabited
example (b : Backend) : HostKind ⟨b, demo⟩ "bücher.example".toStr "xn--bcher-kva.example".toStr
    "bücher.example".toStr := by
  str_lits
  exact .idn false (by decide +kernel) (by decide) (by show HostLemmas.looksIP demo _ = _; decide +kernel)
    (by decide +kernel) (by show idnaEncode demo _ = _; decide +kernel)
    (by show demo.idnaDec _ = _; decide +kernel) (Or.inl (by decide +kernel))
    ⟨by decide, by unfold AuthCh; decide, by decide⟩ (by decide)
-- … and the second alternative of `hlast`: `bücher.h1`, stored as the digit-ending `xn--bcher-kva.h1`
example : "xn--bcher-kva.h1".toStr.getLast? = some 49 ∧ isDigitC 49 = true ∧
    hasSub [120, 110, 45, 45] "xn--bcher-kva.h1".toStr = true := by str_lits; decide +kernel
example (b : Backend) : HostKind ⟨b, demo⟩ "bücher.h1".toStr "xn--bcher-kva.h1".toStr "bücher.h1".toStr := by
  str_lits
  exact .idn true (by decide +kernel) (by decide) (by show HostLemmas.looksIP demo _ = _; decide +kernel)
    (by decide +kernel) (by show idnaEncode demo _ = _; decide +kernel)
    (by show demo.idnaDec _ = _; decide +kernel) (Or.inr (by decide))
    ⟨by decide, by unfold AuthCh; decide, by decide⟩ (by decide)
example (b : Backend) : HostKind ⟨b, demo⟩ "example.com".toStr "example.com".toStr "example.com".toStr :=
  .plain (by decide +kernel) (by show demo.idnaDec _ = _; decide +kernel)
example (e : Env) : HostKind e "127.0.0.1".toStr "127.0.0.1".toStr "127.0.0.1".toStr :=
  .ipv4 (o4 := [127, 0, 0, 1]) (by decide +kernel)
example (e : Env) : HostKind e ("FE80:0::1".toStr ++ "%eth0".toStr)
    (ipv6ToStr [0xfe80, 0, 0, 0, 0, 0, 0, 1] ++ "%eth0".toStr)
    (ipv6ToStr [0xfe80, 0, 0, 0, 0, 0, 0, 1] ++ "%eth0".toStr) :=
  .ipv6 (by decide +kernel) (by decide) (by decide +kernel)

/-- build → human_repr → URL(...) on concrete URLs with non-ASCII user, password, path, query and
    fragment: the stored netloc and query, the human form, and `URL(human) == u` -/
private def run (e : Env) (a : BuildArgs) : R (Str × Str × Str × Bool) := do
  let u ← build e a
  let hr ← humanRepr e u
  let v ← encodeUrl e hr
  pure (u.netloc, u.query, hr, v.beq u)

-- user, password, plain host, explicit non-default port, query, fragment
example : ∀ b : Backend,
    run ⟨b, demo⟩ (fullArgs "http".toStr (some usr) (some pwd) "example.com".toStr (some 8080) pth kvs frg) =
    .ok ("us%20er%C3%A9:p%40w%3A%2F%23%E2%82%AC@example.com:8080".toStr,
         "k%261+%C3%A9=v%3D%2B%3B%252+%23%E2%82%AC&=&a=".toStr,
         "http://us eré:p%40w%3A%2F%23€@example.com:8080/a b%23c%3Fd/é%0A%E2%80%8B%2541+;?k%261 é=v%3D%2B%3B%252 %23€&=&a=#x#y?z é%09".toStr,
         true) := by
  str_lits; intro b; cases b <;> decide +kernel
-- the default port is dropped
example : ∀ b : Backend,
    run ⟨b, demo⟩ (fullArgs "http".toStr (some usr) none "example.com".toStr (some 80) "p".toStr [] []) =
    .ok ("us%20er%C3%A9@example.com".toStr, [], "http://us eré@example.com/p".toStr, true) := by
  str_lits; intro b; cases b <;> decide +kernel
-- IPv4, IPv6 (uncompressed input), IPv6 with zone, IDN host
example : ∀ b : Backend,
    run ⟨b, demo⟩ (fullArgs "http".toStr (some usr) none "127.0.0.1".toStr (some 8080) "p".toStr [] []) =
    .ok ("us%20er%C3%A9@127.0.0.1:8080".toStr, [], "http://us eré@127.0.0.1:8080/p".toStr, true) := by
  str_lits; intro b; cases b <;> decide +kernel
example : ∀ b : Backend,
    run ⟨b, demo⟩ (fullArgs "http".toStr none (some pwd) "0:0:0:0:0:0:0:1".toStr (some 8080) "p".toStr [] []) =
    .ok (":p%40w%3A%2F%23%E2%82%AC@[::1]:8080".toStr, [], "http://:p%40w%3A%2F%23€@[::1]:8080/p".toStr, true) := by
  str_lits; intro b; cases b <;> decide +kernel
example : ∀ b : Backend,
    run ⟨b, demo⟩ (fullArgs "http".toStr none none "fe80::1%eth0".toStr none "p".toStr [] frg) =
    .ok ("[fe80::1%eth0]".toStr, [], "http://[fe80::1%eth0]/p#x#y?z é%09".toStr, true) := by
  str_lits; intro b; cases b <;> decide +kernel
example : ∀ b : Backend,
    run ⟨b, demo⟩ (fullArgs "http".toStr none none "bücher.example".toStr (some 8080) "p".toStr
      [("k".toStr, "é".toStr)] []) =
    .ok ("xn--bcher-kva.example:8080".toStr, "k=%C3%A9".toStr, "http://bücher.example:8080/p?k=é".toStr, true) := by
  str_lits; intro b; cases b <;> decide +kernel

-- a path with '.' characters and dot segments: stored and shown in normal form, round trip holds
example : ∀ b : Backend,
    run ⟨b, demo⟩ (fullArgs "http".toStr none none "example.com".toStr none "a/./b/../é.x/index.html".toStr
      [("q.".toStr, "..".toStr)] ".".toStr) =
    .ok ("example.com".toStr, "q.=..".toStr, "http://example.com/a/é.x/index.html?q.=..#.".toStr, true) := by
  str_lits; intro b; cases b <;> decide +kernel
example : normTail "a/./b/../é.x/index.html".toStr = "a/é.x/index.html".toStr := by str_lits; decide +kernel

end checks

end Yarl
