/-
  C04Bracket.lean — property C04 for bracketed hosts that are not IPv6 addresses
  (IPvFuture "[v1.a:b]", "[g::1]", "[a:b]", "[1.2.3.4%a:b]"): `str(URL(s)) == s` for canonical strings with such a
  host.  Vocabulary: Lemmas/BrHost.lean, C03Bracket.lean (`BracketText`, `HostFixB`, `authTextB`).

  `CanonNetlocB e scheme netloc` — `CanonNetloc e scheme netloc`, or `netloc = [user[:password]@][t][:port]`
  (`authTextB`, host ALWAYS bracketed) with `UserInfoOK`, `HostFixB e.o t` (`BracketText t` suffices) and `PortOK`.
  `CanonStringB` — `CanonString` with `CanonNetlocB` as its authority clause.
-/
import YarlModel
import YarlProofs.C03Bracket
import YarlProofs.C04Headline
namespace Yarl
open ReachFix FixLemmas NetShape NetlocLemmas HostLemmas BrHost

/-- the authority component of a canonical string, extended by the bracketed non-IPv6 hosts -/
inductive CanonNetlocB (e : Env) (scheme netloc : Str) : Prop
  | plain : CanonNetloc e scheme netloc → CanonNetlocB e scheme netloc
  | brk (user pw : Option Str) (t : Str) (port : Option Nat) :
      netloc = authTextB user pw t port → UserInfoOK e.b user pw → HostFixB e.o t →
      PortOK scheme port → CanonNetlocB e scheme netloc

/-- `CanonString` (C04General.lean) with the extended authority clause; every other clause is unchanged -/
structure CanonStringB (e : Env) (scheme netloc path query fragment : Str) : Prop where
  schemeOK : SchemeOK' scheme
  netlocOK : CanonNetlocB e scheme netloc
  pathC : Canon (Gen.PATH_REQUOTER.tab e.b) path
  queryC : Canon (Gen.QUERY_REQUOTER.tab e.b) query
  fragmentC : Canon (Gen.FRAGMENT_REQUOTER.tab e.b) fragment
  rooted : netloc ≠ [] → (path = [] ∨ path.head? = some 47)
  nodots : netloc ≠ [] → NoDotSegments path
  nonempty : netloc ≠ [] → path = [] → query = [] ∧ fragment = []
  first_segment : scheme = [] → netloc = [] → 58 ∈ path →
    (path.takeWhile (· ≠ 58) = [] ∨ (path.takeWhile (· ≠ 58)).all (fun c => mem c Gen.schemeChars) = false)
  authority_scheme : scheme ≠ [] → Gen.usesAuthority.contains scheme = true → netloc = [] →
    (path = [] ∨ path.head? = some 47)

theorem CanonString.toB {e : Env} {scheme netloc path query fragment : Str}
    (h : CanonString e scheme netloc path query fragment) : CanonStringB e scheme netloc path query fragment :=
  ⟨h.schemeOK, .plain h.netlocOK, h.pathC, h.queryC, h.fragmentC, h.rooted, h.nodots, h.nonempty, h.first_segment,
    h.authority_scheme⟩

/-- `CanonNetlocB`, read: no authority, or `[user[:password]@]W[:port]` around a host text the library writes (`HostW`:
    `bracket h` of a `HostFix` host or a bracketed `HostFixB` text), with canonical userinfo and a port that is in range and
    not the scheme's default -/
theorem canonNetlocB_iff {e : Env} {scheme N : Str} : CanonNetlocB e scheme N ↔
    N = [] ∨ ∃ user pw W h port, N = authW user pw W port ∧ UserInfoOK e.b user pw ∧ HostW e.o W h ∧
      PortOK scheme port := by
  constructor
  · intro hn
    cases hn with
    | plain hn =>
      cases hn with
      | empty h0 => exact .inl h0
      | auth user pw host port h0 hu hh hp => exact .inr ⟨user, pw, _, host, port, h0, hu, .fix hh, hp⟩
    | brk user pw t port h0 hu hh hp => exact .inr ⟨user, pw, _, t, port, h0, hu, .brk hh, hp⟩
  · intro hn
    rcases hn with h0 | ⟨user, pw, W, h, port, h0, hu, w, hp⟩
    · exact .plain (.empty h0)
    · cases w with
      | fix hh => exact .plain (.auth user pw h port h0 hu hh hp)
      | brk hh => exact .brk user pw h port h0 hu hh hp

theorem CanonNetlocB.netFix {e : Env} {scheme N : Str} (h : CanonNetlocB e scheme N) :
    ∃ pre, NetFix e scheme N pre ∧ ∀ p, pre.bind (·.explicitPort) = some p → some p ≠ defaultPort scheme := by
  rcases canonNetlocB_iff.1 h with rfl | ⟨user, pw, W, h, port, rfl, hu, w, hp⟩
  · exact ⟨none, netFix_nil e scheme, fun _ h => nomatch h⟩
  · exact ⟨_, ⟨hostW_chars hu w, hostW_checkBrackets hu w, hostW_netBlock scheme hu w hp.range⟩, hp.notDefault⟩

/-- `C04_identity_general` with `CanonStringB` — a canonical string, also one whose host
    is a bracketed non-IPv6 text, is parsed into exactly its five components, and printing the parsed URL gives
    back the very string: `str(URL(s)) == s` -/
theorem C04_identity_generalB (e : Env) (scheme netloc path query fragment : Str)
    (h : CanonStringB e scheme netloc path query fragment) :
    ∃ u, encodeUrl e (canonText scheme netloc path query fragment) = .ok u ∧
      str e u = .ok (canonText scheme netloc path query fragment) ∧
      u.scheme = scheme ∧ u.netloc = netloc ∧ u.path = path ∧ u.query = query ∧ u.fragment = fragment := by
  obtain ⟨pre, hN, hport⟩ := h.netlocOK.netFix
  obtain ⟨henc, hstr⟩ := identity_netFix e scheme netloc path query fragment pre h.schemeOK hN hport h.pathC
    h.queryC h.fragmentC h.rooted h.nodots h.nonempty h.first_segment h.authority_scheme
  exact ⟨_, henc, hstr, rfl, rfl, rfl, rfl, rfl⟩

/-- C04 in one line for the extended grammar -/
theorem C04_roundTrip_generalB (e : Env) (scheme netloc path query fragment : Str)
    (h : CanonStringB e scheme netloc path query fragment) :
    C04_roundTrip e (canonText scheme netloc path query fragment) =
      .ok (canonText scheme netloc path query fragment) :=
  let ⟨u, h1, h2, _⟩ := C04_identity_generalB e scheme netloc path query fragment h
  IdGen.roundTrip_iff.2 ⟨u, h1, h2⟩

/-- "For every string": `C04_headline_every_canonical_string` with `CanonStringB` -/
theorem C04_bracket_every_canonical_string (e : Env) (s : Str) (p : Parts)
    (h_parse : splitUrl e.o s = .ok p)
    (h_canon : CanonStringB e p.scheme p.netloc p.path p.query p.fragment)
    (h_clean : cleanUrl s = s)
    (h_lower : (splitScheme s).1 = [] ∨ lower (s.takeWhile (· ≠ 58)) = s.takeWhile (· ≠ 58))
    (h_recomp : Recomposable s) :
    C04_roundTrip e s = .ok s := by
  have hs := C07_unsplit_split_id e.o s p h_parse h_recomp h_clean h_lower
  have := C04_roundTrip_generalB e p.scheme p.netloc p.path p.query p.fragment h_canon
  rwa [canonText, hs] at this

/-- an authority `[user[:password]@][t][:port]` with the component conditions of C04.lean satisfies `CanonStringB`,
    with or without a scheme -/
theorem C04_bracket_canonStringB (e : Env) (scheme : Str) (user pw : Option Str) (t : Str) (port : Option Nat)
    (path query fragment : Str) (hs : SchemeOK' scheme) (hu : UserInfoOK e.b user pw) (hh : HostFixB e.o t)
    (hp : PortOK scheme port) (hc : CompOK e.b path query fragment) :
    CanonStringB e scheme (authTextB user pw t port) path query fragment := by
  have hne : authTextB user pw t port ≠ [] := authW_ne_nil user pw (by simp) port
  exact ⟨hs, .brk user pw t port rfl hu hh hp, hc.pathC, hc.queryC, hc.fragmentC,
    fun _ => rootedOrEmpty_of_rooted hc.rooted, fun _ => noDotSegments_of_compOK hc, fun _ => hc.nonempty,
    fun _ h2 => absurd h2 hne, fun _ _ h3 => absurd h3 hne⟩

/-- ITEM 2 (C04): `str(URL(s)) = s` for canonical strings with a bracketed non-IPv6 host, written out as text —
    `scheme://[user[:password]@][t][:port]path[?query][#fragment]` and the network-path reference `//[…` — for ANY
    user / password satisfying `UserInfoOK`, ANY non-default port ≤ 65535, ANY canonical path / query / fragment
    (`CompOK`); the parsed URL has exactly these components.  (The counterpart of
    `C04_headline_canonical_authority_unchanged` for `HostFixB` hosts.) -/
theorem C04_bracket_identity (e : Env) (scheme : Str) (user pw : Option Str) (t : Str)
    (port : Option Nat) (path query fragment : Str)
    (hu : UserInfoOK e.b user pw)                  -- canonical userinfo; no literal ':' in the password: F-C04-colon-password
    (hh : HostFixB e.o t)                          -- bracketed non-IPv6 text, lower case: `BracketText t` suffices
                                                   -- (upper case is lowered: C04_bracket_fails_for_upper_case)
    (hc : CompOK e.b path query fragment) :        -- as in C04_headline_canonical_authority_unchanged
    (SchemeOK scheme →                             -- "lower-case scheme" (non-empty)
      PortOK scheme port →                         -- "no default port" (and ≤ 65535); default: C04_bracket_fails_for_default_port
      ∃ u, encodeUrl e (composeUrl scheme (authTextB user pw t port) path query fragment) = .ok u ∧
        str e u = .ok (composeUrl scheme (authTextB user pw t port) path query fragment) ∧
        u.scheme = scheme ∧ u.netloc = authTextB user pw t port ∧ u.path = path ∧ u.query = query ∧
        u.fragment = fragment) ∧
    ((∀ p, port = some p → p ≤ 65535) →            -- no scheme, so no default port
      ∃ u, encodeUrl e ([47, 47] ++ authTextB user pw t port ++ path ++ qPart query ++ fPart fragment) = .ok u ∧
        str e u = .ok ([47, 47] ++ authTextB user pw t port ++ path ++ qPart query ++ fPart fragment) ∧
        u.scheme = [] ∧ u.netloc = authTextB user pw t port ∧ u.path = path ∧ u.query = query ∧
        u.fragment = fragment) := by
  constructor
  · intro hs hp
    have h' := C04_identity_generalB e scheme _ path query fragment
      (C04_bracket_canonStringB e scheme user pw t port path query fragment (Or.inr hs) hu hh hp hc)
    rw [(C03_bracket_text scheme user pw t port path query fragment hc.rooted).1 hs.1] at h'
    exact h'
  · intro hp
    have h' := C04_identity_generalB e [] _ path query fragment
      (C04_bracket_canonStringB e [] user pw t port path query fragment (Or.inl rfl) hu hh
        ⟨hp, fun p _ => by rw [show defaultPort [] = none from rfl]; exact fun h => nomatch h⟩ hc)
    rw [(C03_bracket_text [] user pw t port path query fragment hc.rooted).2] at h'
    exact h'

/-! ### the two clauses that are needed -/

/-- "lower-case … host": an upper-case bracketed host is lowered — "http://[V1.A:B]/" ↦ "http://[v1.a:b]/" -/
theorem C04_bracket_fails_for_upper_case (b : Backend) :
    C04_roundTrip ⟨b, Oracles.empty⟩ "http://[V1.A:B]/".toStr = .ok "http://[v1.a:b]/".toStr ∧
    C04_roundTrip ⟨b, Oracles.empty⟩ "http://[v1.a:b]/".toStr = .ok "http://[v1.a:b]/".toStr := by
  cases b <;> decide +kernel

/-- "no default port": "https://[v1.a:b]:443/" ↦ "https://[v1.a:b]/", and WITHOUT a ':' in the host even the
    brackets go: "https://[v1.a]:443/" ↦ "https://v1.a/" (C03_bracket_default_port) -/
theorem C04_bracket_fails_for_default_port (b : Backend) :
    C04_roundTrip ⟨b, Oracles.empty⟩ "https://[v1.a:b]:443/".toStr = .ok "https://[v1.a:b]/".toStr ∧
    C04_roundTrip ⟨b, Oracles.empty⟩ "https://[v1.a]:443/".toStr = .ok "https://v1.a/".toStr := by
  str_lits; cases b <;> decide +kernel

/-! ## non-vacuity -/

example (b : Backend) : C04_roundTrip ⟨b, Oracles.empty⟩ "http://u:p%40w@[v1.a:b]:8080/a/b?q#f".toStr =
    .ok "http://u:p%40w@[v1.a:b]:8080/a/b?q#f".toStr :=
  IdGen.roundTrip_at (by str_lits; decide +kernel)
    ((C04_bracket_identity ⟨b, Oracles.empty⟩ "http".toStr (some "u".toStr) (some "p%40w".toStr)
      "v1.a:b".toStr (some 8080) "/a/b".toStr "q".toStr "f".toStr
      (userInfoOK_some (by decide) (by cases b <;> decide +kernel) (by cases b <;> decide +kernel))
      (C03_bracket_hostFixB _ (bracketTextB_sound (by decide +kernel)))
      (compOKB_sound (by cases b <;> decide +kernel))).1 (by decide)
      (portOK_some (by decide) (by decide)))

example (b : Backend) : C04_roundTrip ⟨b, Oracles.empty⟩ "//[g::1]/p".toStr = .ok "//[g::1]/p".toStr :=
  IdGen.roundTrip_at (by decide +kernel)
    ((C04_bracket_identity ⟨b, Oracles.empty⟩ [] none none "g::1".toStr none "/p".toStr [] []
      (userInfoOK_none _) (C03_bracket_hostFixB _ (bracketTextB_sound (by decide +kernel)))
      (compOKB_sound (by cases b <;> decide +kernel))).2 (fun p hp => by cases hp))

-- an IPvFuture host WITHOUT ':' and an IPv4 literal with a ':' in the zone id
example (b : Backend) : C04_roundTrip ⟨b, Oracles.empty⟩ "http://[v1.a]/".toStr = .ok "http://[v1.a]/".toStr ∧
    C04_roundTrip ⟨b, Oracles.empty⟩ "http://[1.2.3.4%a:b]/".toStr = .ok "http://[1.2.3.4%a:b]/".toStr := by
  str_lits; cases b <;> decide +kernel

end Yarl
