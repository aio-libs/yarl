import YarlProofs.C18Headline
import YarlProofs.C18More2
/-!
  C18HeadlineMore3.lean — AUDIT LAYER for property C18, continuation of C18Headline.lean (the theorems here need
  C18More2.lean, written after C18Headline.lean; this file is a leaf, nobody imports it).

  C18 | human_repr() is readable and round-trips |
  "For every absolute URL built from decoded components - any Unicode text in user, password, path, query
  keys/values and fragment; IDN, IPv4 or IPv6 host - URL(u.human_repr()) == u, and human_repr() shows
  printable non-ASCII text and the IDN host decoded rather than escaped. Only characters that would change
  the parse in their position, '%' and non-printable characters are escaped."

  What is here (all theorems CITE C18More2.lean):
  * GAPS 2(d) / 8 of C18Headline.lean — the CONSTRUCTOR with hypotheses on the INPUT STRING only: `URL(s)` for `s` whose
    pieces are ANY spelling of decoded components (general form), for `s` in human form (then `URL(s).human_repr() == s`),
    for `s` typed in plain readable form, for the canonical fully-encoded `s`; `StoresOK` is ESTABLISHED, so the hypothesis
    `Stores` of `C18_headline_roundtrip_stored` is discharged for these inputs; a spelling that fails the query condition
    (`k=v%20w`) does NOT round-trip;
  * GAPS 2(e) — chains of modifiers that START AT THE CONSTRUCTOR (`HumanReachC`); `human_repr()` is stable under the
    round trip (the URL read back stores the same decoded components and shows the same text);
  * GAPS 6 — every class of escape classified as needed / not needed for the parse: the 26 generated pairs (an `iff`),
    '%' (witness texts), the non-printable characters (a sample, by computation; universally for the non-ASCII ones).
  STILL OPEN after this file: `join`; `build(authority=<arbitrary raw text>)`; the NFKC proviso (F-C18-nfkc-userinfo) is a
  hypothesis everywhere (GAPS 1).

  Vocabulary (C18More2.lean; `Stores`, `StoresOK`, `HumanReach`, `HOp`, `HostKind`, `authText`, `qtext`, `fragText`,
  `rawQuery`, `tripCtor`, `changesParse`, `unsafePairs`, `notNeeded`, `demo`, `demoIdn`: reading guide of C18Headline.lean).
  `composeUrl sc A path query f` — the text `sc ++ "://" ++ A ++ path ++ ("?" ++ query)? ++ ("#" ++ f)?`
                       (Lemmas/FixLemmas.lean); in every theorem below the path is written ROOTED ("/" ++ rp).
  `HumanPieces e user pw path kvs f usr pw' rp qparts rf` — the pieces are what `human_quote` makes of the decoded
                       components in their positions (five equations `humanQuote… = .ok …`; Lemmas/HumanFull.lean).
  `R5.Readable o uns x` — every character of `x` is printable (`str.isprintable()`, an oracle above U+007F), is not '%'
                       and is not in the list `uns`: `human_quote(x, unsafe=uns) == x`.
  `R5.SpellOpt e x y` — the optional text `y` SPELLS the optional decoded text `x` in userinfo position: present iff `x`
                       is, none of TAB LF CR `# / : ? @ [ ]` literally in it (`HumanPart`), and
                       `(REQUOTER(y) if y else y) == QUOTER(x)` (`requoteOpt e y = x.map (q e Gen.QUOTER)`).
  `Clean s`          — no TAB, LF, CR in `s` (`split_url` strips them).
  `FixLemmas.encQuery e rq` / `FixLemmas.encFragment e rf` — what the constructor stores for the written query / fragment
                       (`QUERY_REQUOTER(rq)` / `FRAGMENT_REQUOTER(rf)`, "" for "").
  `HumanReachC e u`  — `HumanReach` (build + any finite chain of `HOp` steps) with two more ways to START: the
                       constructor on a string in human form (`ctorHuman`: the hypotheses of
                       `C18_headline_constructor_human_text`) and on the canonical string of the encodings
                       (`ctorCanonical`).  The general any-spelling input is NOT a start of `HumanReachC`.
  `R5.humanReprLit comp lit e u` — an INSTRUMENTED COPY of the model's `human_repr()` in which the characters selected by
                       `lit` are left literal in position `comp` whatever they are; `R5.witnessT comp t` — the witness
                       `URL.build(scheme="http", host="example.com", path="/p", <comp>=t)` (user "u" next to a
                       password; key "k" / value "v" next to `t`); `R5.changesParseLit b comp t c` — `some true` iff
                       the text shown for the witness with `c` left literal is rejected by `URL(…)` or read as a URL
                       that is not `==` (oracle `HumanMore.demo`); `R5.positions` — the six positions;
                       `R5.hidden` — the sample `[0,1,7,8,9,10,11,12,13,14,27,31,127,0x200B]` of non-printable characters.
-/
namespace Yarl
open HumanLemmas HumanFull HumanMore HumanRelax QueryUrl QsLemmas NetlocLemmas PathAlg PathLemmas PathMore HumanReach
open R5

/-! ## Sentence 1, first half — "URL(u.human_repr()) == u" for URLs made by the CONSTRUCTOR, hypotheses on the input
    string only (GAPS 2(d), GAPS 8 of C18Headline.lean) -/

/-- GAPS 2(d), GENERAL FORM: `URL(s)` for `s = scheme://[usr[:pw']@]D[:port]/rp[?rq][#rf]` whose pieces are ANY SPELLING
    (literal, `%XX`-escaped, mixed) of decoded components: `URL(s)` succeeds, STORES the encodings of the decoded
    components with all side conditions of the round trip (`StoresOK` — the hypothesis `Stores` of
    `C18_headline_roundtrip_stored` / the accessor conditions of `C18_headline_roundtrip_constructor` are DISCHARGED),
    and `URL(URL(s).human_repr()) == URL(s)` under the NFKC proviso on the shown authority.  The spelling conditions
    are needed: `C18_headline_roundtrip_fails_for_constructor` (`/a%2Fb`, a literal ';', `%FF`) and
    `C18_headline_constructor_any_spelling_example` (`k=v%20w`).  Cites C18_constructor_any_spelling. -/
theorem C18_headline_constructor_any_spelling (e : Env) (sc : Str) (user pw : Option Str) (h H D : Str)
    (port : Option Nat) (p : Str) (kvs : List (Str × Str)) (f : Str) (usr pw' : Option Str) (rp rq rf : Str)
    (vs : ValidScheme sc)                           -- "absolute": the written scheme is RFC-valid and LOWER case
    (hk : HostKind e h H D)                         -- `D` is the host text written in `s` (as `human_repr()` shows it)
    (hport : ∀ x, port = some x → x ≤ 65535)        -- guard: a port in range
    (hu : UText user) (hw : UText pw)               -- decoded user / password: no lone surrogates
    (hune : ∀ s, user = some s → s ≠ [])            -- a decoded user is not ""
    (hp : PyStr (47 :: p)) (hn : NoSurrogate (47 :: p))   -- decoded path: a Python string without lone surrogates
    (hnorm : normalizePath (47 :: p) = 47 :: p)     -- … without dot segments
    (hg : GoodPairs kvs) (hf : PyStr f) (hfn : NoSurrogate f)   -- decoded pairs / fragment: no lone surrogates
    (s1 : SpellOpt e user usr) (s2 : SpellOpt e pw pw')   -- `usr` / `pw'` spell the decoded user / password
    (hne1 : ∀ r, usr = some r → r ≠ [])             -- a written user is not ""
    (hpath : q e Gen.PATH_REQUOTER (47 :: rp) = q e Gen.PATH_QUOTER (47 :: p))   -- `rp` spells the path …
    (hrp : ∀ c ∈ rp, c ≠ 63 ∧ c ≠ 35) (hc1 : Clean rp)   -- … with no literal '?', '#', TAB, LF, CR
    (hquery : FixLemmas.encQuery e rq = qtext e.b kvs)    -- `rq` spells the query: re-quoting gives the `k=v&…` text
    (hq35 : ∀ c ∈ rq, c ≠ 35) (hcq : Clean rq)      -- … with no literal '#', TAB, LF, CR
    (hfrag : FixLemmas.encFragment e rf = fragText e f) (hc2 : Clean rf)   -- `rf` spells the fragment, no TAB, LF, CR
    -- NFKC proviso on the INPUT (F-C18-nfkc-userinfo): a non-ASCII written authority must pass `_check_netloc`
    (hnf : isAscii (authText usr pw' D port) = false → checkNetloc e.o (authText usr pw' D port) = .ok ()) :
    ∃ u, encodeUrl e (composeUrl sc (authText usr pw' D port) (47 :: rp) rq rf) = .ok u ∧ u.scheme = sc ∧
      StoresOK e u user pw H port p kvs f ∧
      ∀ hr, humanRepr e u = .ok hr →
        (isAscii (Rfc.appendixB Gen.schemeChars hr).authority = false →          -- NFKC proviso on the OUTPUT
          checkNetloc e.o (Rfc.appendixB Gen.schemeChars hr).authority = .ok ()) →
        ∃ v, encodeUrl e hr = .ok v ∧ Url.beq v u = true :=
  C18_constructor_any_spelling e sc user pw h H D port p kvs f usr pw' rp rq rf vs hk hport hu hw hune hp hn hnorm
    hg hf hfn s1 s2 hne1 hpath hrp hc1 hquery hq35 hcq hfrag hc2 hnf

/-- GAPS 2(d) / 8, the input WRITTEN IN HUMAN FORM (its pieces are what `human_quote` makes of decoded components,
    `HumanPieces`): `URL(s)` succeeds, satisfies `StoresOK`, `URL(s).human_repr() == s` — the human form is a FIXED
    POINT of parse-then-show — and `URL(URL(s).human_repr())` IS `URL(s)` (the same object), with NO proviso on the
    output (the NFKC proviso is on the input's own authority).  Cites C18_constructor_human_text. -/
theorem C18_headline_constructor_human_text (e : Env) (sc : Str) (user pw : Option Str) (h H D : Str)
    (port : Option Nat) (p : Str) (kvs : List (Str × Str)) (f : Str) (usr pw' : Option Str) (rp : Str)
    (qparts : List Str) (rf : Str)
    (vs : ValidScheme sc)                           -- "absolute": the written scheme is RFC-valid and LOWER case
    (hk : HostKind e h H D)                         -- `D` is the host text written in `s`
    (hport : ∀ x, port = some x → x ≤ 65535)        -- guard: a port in range
    (hu : UText user) (hw : UText pw)               -- no lone surrogates
    (hune : ∀ s, user = some s → s ≠ [])            -- a user, if written, is not ""
    (hp : PyStr (47 :: p)) (hn : NoSurrogate (47 :: p))   -- decoded path: no lone surrogates
    (hnorm : normalizePath (47 :: p) = 47 :: p)     -- no dot segments in the written path (the constructor removes them)
    (hg : GoodPairs kvs) (hf : PyStr f) (hfn : NoSurrogate f)   -- no lone surrogates
    (hq : HumanPieces e user pw (47 :: p) kvs f usr pw' (47 :: rp) qparts rf)   -- the pieces of `s` are in human form
    -- NFKC proviso on the INPUT (F-C18-nfkc-userinfo)
    (hnf : isAscii (authText usr pw' D port) = false → checkNetloc e.o (authText usr pw' D port) = .ok ()) :
    let s := composeUrl sc (authText usr pw' D port) (47 :: rp) (joinC 38 qparts) rf
    ∃ u, encodeUrl e s = .ok u ∧ u.scheme = sc ∧
      StoresOK e u user pw H port p kvs f ∧
      humanRepr e u = .ok s ∧
      (∀ hr, humanRepr e u = .ok hr → hr = s ∧ ∃ v, encodeUrl e hr = .ok v ∧ v = u ∧ Url.beq v u = true) :=
  C18_constructor_human_text e sc user pw h H D port p kvs f usr pw' rp qparts rf vs hk hport hu hw hune hp hn hnorm
    hg hf hfn hq hnf

/-- … the special case of a URL typed in PLAIN READABLE form: `s = scheme://[user[:password]@]host[:port]/path
    [?k1=v1&k2=v2…][#fragment]` with the DECODED texts written literally, every character of them printable, not '%' and
    not reserved in its position (`Readable`; userinfo `#/:?@[]`, path `#?`, key/value `#&+;=`, fragment none) — a
    condition on the input text alone (+ the `isprintable` oracle): `URL(s)` stores the encodings (`StoresOK`),
    `URL(s).human_repr() == s`, and `URL(URL(s).human_repr())` is `URL(s)`.  Cites C18_constructor_readable_text. -/
theorem C18_headline_constructor_readable_text (e : Env) (sc : Str) (user pw : Option Str) (h H D : Str)
    (port : Option Nat) (p : Str) (kvs : List (Str × Str)) (f : Str)
    (vs : ValidScheme sc) (hk : HostKind e h H D)   -- "absolute" (lower-case scheme); `D` is the host text written in `s`
    (hport : ∀ x, port = some x → x ≤ 65535)        -- guard: a port in range
    (hu : UText user) (hw : UText pw)               -- no lone surrogates
    (hune : ∀ s, user = some s → s ≠ [])            -- a user, if written, is not ""
    (hp : PyStr (47 :: p)) (hn : NoSurrogate (47 :: p))   -- written path: no lone surrogates
    (hnorm : normalizePath (47 :: p) = 47 :: p)     -- no dot segments in the written path
    (hg : GoodPairs kvs) (hf : PyStr f) (hfn : NoSurrogate f)   -- no lone surrogates
    (ru : ∀ s, user = some s → Readable e.o (humanUnsafeOf "user") s)          -- the user is readable text
    (rw' : ∀ s, pw = some s → Readable e.o (humanUnsafeOf "password") s)       -- the password is readable text
    (rp : Readable e.o (humanUnsafeOf "path") p)                               -- the path is readable text
    (rq : ∀ kv ∈ kvs, Readable e.o (humanUnsafeOf "k") kv.1 ∧ Readable e.o (humanUnsafeOf "v") kv.2)  -- keys, values
    (rf : Readable e.o (humanUnsafeOf "fragment") f)                           -- the fragment is readable text
    -- NFKC proviso on the INPUT (F-C18-nfkc-userinfo)
    (hnf : isAscii (authText user pw D port) = false → checkNetloc e.o (authText user pw D port) = .ok ()) :
    let s := composeUrl sc (authText user pw D port) (47 :: p) (rawQuery kvs) f
    ∃ u, encodeUrl e s = .ok u ∧ u.scheme = sc ∧
      StoresOK e u user pw H port p kvs f ∧
      humanRepr e u = .ok s ∧
      (∀ hr, humanRepr e u = .ok hr → hr = s ∧ ∃ v, encodeUrl e hr = .ok v ∧ v = u ∧ Url.beq v u = true) :=
  C18_constructor_readable_text e sc user pw h H D port p kvs f vs hk hport hu hw hune hp hn hnorm hg hf hfn ru rw' rp
    rq rf hnf

/-- … and the CANONICAL input, the string made of the ENCODINGS of decoded components (the family of
    `C18_roundtrip_constructor_canonical`, C18More.lean): `URL(s)` satisfies `StoresOK` too, so the round trip
    (`C18_headline_roundtrip_stores_ok`) holds and chains of modifiers may start there.
    Cites C18_constructor_canonical_stores_ok. -/
theorem C18_headline_constructor_canonical_stores_ok (e : Env) (sc : Str) (user pw : Option Str) (h H D : Str)
    (port : Option Nat) (p : Str) (kvs : List (Str × Str)) (f : Str)
    (vs : ValidScheme sc) (hk : HostKind e h H D)   -- "absolute" (lower-case scheme); host kind, `H` is written
    (hport : ∀ x, port = some x → x ≤ 65535)        -- guard: a port in range
    (hu : UText user) (hw : UText pw)               -- no lone surrogates
    (hune : ∀ s, user = some s → s ≠ [])            -- a user is not ""
    (hp : PyStr (47 :: p)) (hn : NoSurrogate (47 :: p))   -- decoded path: no lone surrogates
    (hnorm : normalizePath (47 :: p) = 47 :: p)     -- … no dot segments
    (hg : GoodPairs kvs) (hf : PyStr f) (hfn : NoSurrogate f) :   -- no lone surrogates
    ∃ u, encodeUrl e (composeUrl sc (authText (user.map (q e Gen.QUOTER)) (pw.map (q e Gen.QUOTER)) H port)
        (q e Gen.PATH_QUOTER (47 :: p)) (qtext e.b kvs) (fragText e f)) = .ok u ∧ u.scheme = sc ∧
      StoresOK e u user pw H port p kvs f :=
  C18_constructor_canonical_stores_ok e sc user pw h H D port p kvs f vs hk hport hu hune hw hp hn hnorm hg hf hfn

/-- NON-VACUITY of `C18_headline_constructor_any_spelling` on a MIXED spelling (neither human form nor canonical), and a
    COUNTEREXAMPLE showing its query hypothesis is needed; both backends, oracle `HumanMore.demo`.
    `URL("http://us%20er@example.com/é%20x?k=v w#é%20f")` spells user "us er", path "/é x", query k = "v w", fragment
    "é f": it satisfies `StoresOK` for them, stores `us%20er@example.com`, `/%C3%A9%20x`, `k=v+w`, `%C3%A9%20f`, and
    shows `http://us er@example.com/é x?k=v w#é f`.  The spelling `k=v%20w` does NOT satisfy `hquery` (the
    QUERY_REQUOTER keeps `%20`, `build` writes `+`) and `URL("http://example.com/?k=v%20w")` does NOT round-trip:
    `human_repr()` is `http://example.com/?k=v w`, which reads back as `k=v+w`, `==` is False — such a URL does not
    "store the encodings of decoded components".  Cites C18_constructor_any_spelling_example. -/
theorem C18_headline_constructor_any_spelling_example : ∀ b : Backend,
    let e : Env := ⟨b, demo⟩
    (∃ u, encodeUrl e "http://us%20er@example.com/é%20x?k=v w#é%20f".toStr = .ok u ∧
      StoresOK e u (some "us er".toStr) none "example.com".toStr none "é x".toStr [("k".toStr, "v w".toStr)] "é f".toStr ∧
      u.parts = ⟨"http".toStr, "us%20er@example.com".toStr, "/%C3%A9%20x".toStr, "k=v+w".toStr, "%C3%A9%20f".toStr⟩ ∧
      humanRepr e u = .ok "http://us er@example.com/é x?k=v w#é f".toStr) ∧
    (FixLemmas.encQuery e "k=v%20w".toStr ≠ qtext b [("k".toStr, "v w".toStr)] ∧
      tripCtor e "http://example.com/?k=v%20w".toStr =
        .ok (⟨"http".toStr, "example.com".toStr, "/".toStr, "k=v%20w".toStr, []⟩, "http://example.com/?k=v w".toStr,
          .ok (⟨"http".toStr, "example.com".toStr, "/".toStr, "k=v+w".toStr, []⟩, false))) :=
  C18_constructor_any_spelling_example

/-! ## Sentence 1, first half — chains of modifiers that START AT THE CONSTRUCTOR (GAPS 2(e), "WHAT REMAINS") -/

/-- "URL(u.human_repr()) == u" for every URL obtained from `URL.build` OR from the constructor `URL(s)` (on an input in
    human form or on the canonical string of the encodings) by ANY finite chain of the modifiers of `HOp` with decoded
    arguments (`HumanReachC`) — under the NFKC proviso when the shown authority is not ASCII.
    Cites C18_roundtrip_reachable_from_constructor. -/
theorem C18_headline_roundtrip_reachable_from_constructor (e : Env) (u : Url)
    (hr : HumanReachC e u) :                        -- build or constructor (human / canonical input) + a chain of modifiers
    ∀ t, humanRepr e u = .ok t →
      -- NFKC proviso (known finding F-C18-nfkc-userinfo: `C18_headline_roundtrip_fails_for`)
      (isAscii (Rfc.appendixB Gen.schemeChars t).authority = false →
        checkNetloc e.o (Rfc.appendixB Gen.schemeChars t).authority = .ok ()) →
      ∃ v, encodeUrl e t = .ok v ∧ Url.beq v u = true :=
  C18_roundtrip_reachable_from_constructor e u hr

/-- … because every URL of such a chain stores the encodings of decoded components with the side conditions of the round
    trip (`StoresOK`; spelled out in `C18_headline_reachable_stores`).  Cites C18_reachC_stores. -/
theorem C18_headline_reachable_from_constructor_stores (e : Env) (u : Url) (hr : HumanReachC e u) :
    ∃ user pw H port p kvs f, StoresOK e u user pw H port p kvs f :=
  C18_reachC_stores e u hr

/-- `human_repr()` is STABLE under the round trip: for every URL `u` with `StoresOK` (every URL of `HumanReachC`), the URL
    `v = URL(u.human_repr())` is not only `== u` — it stores the SAME decoded components (`StoresOK` again: the round trip
    can be iterated, modifiers applied to `v`), and `v.human_repr() == u.human_repr()`.  NFKC proviso as everywhere.
    Cites C18_human_repr_stable. -/
theorem C18_headline_human_repr_stable (e : Env) (u : Url) (user pw : Option Str) (H : Str) (port : Option Nat)
    (p : Str) (kvs : List (Str × Str)) (f : Str)
    (ok : StoresOK e u user pw H port p kvs f) :    -- `u` stores the encodings of the decoded components (+ side conditions)
    ∀ hr, humanRepr e u = .ok hr →
      (isAscii (Rfc.appendixB Gen.schemeChars hr).authority = false →            -- NFKC proviso (F-C18-nfkc-userinfo)
        checkNetloc e.o (Rfc.appendixB Gen.schemeChars hr).authority = .ok ()) →
      ∃ v, encodeUrl e hr = .ok v ∧ Url.beq v u = true ∧
        StoresOK e v user pw H port p kvs f ∧ humanRepr e v = .ok hr :=
  C18_human_repr_stable e u user pw H port p kvs f ok

/-- NON-VACUITY of `C18_headline_constructor_human_text` / `HumanReachC`, both backends (oracle `HumanReach.demoIdn`):
    `s = "http://ü s:p%3Aw@bücher.example:8080/a b?k=v w#frag ment"` is in human form; `w = URL(s)` stores
    `%C3%BC%20s:p%3Aw@xn--bcher-kva.example:8080`, `/a%20b`, `k=v+w`, `frag%20ment`; `w.human_repr() == s`; `w` is in
    `HumanReachC`, and so is `w.with_fragment(None) / "x y"`, shown as `http://ü s:p%3Aw@bücher.example:8080/a b/x y`.
    Cites C18_reachC_example. -/
theorem C18_headline_reachable_from_constructor_example : ∀ b : Backend,
    let e : Env := ⟨b, demoIdn⟩
    let s := "http://ü s:p%3Aw@bücher.example:8080/a b?k=v w#frag ment".toStr
    ∃ w, encodeUrl e s = .ok w ∧
      w.parts = ⟨"http".toStr, "%C3%BC%20s:p%3Aw@xn--bcher-kva.example:8080".toStr, "/a%20b".toStr, "k=v+w".toStr,
        "frag%20ment".toStr⟩ ∧
      humanRepr e w = .ok s ∧ HumanReachC e w ∧
      ∃ v, runChain e w [.withFragment none, .joinpath ["x y".toStr]] = .ok v ∧ HumanReachC e v ∧
        humanRepr e v = .ok "http://ü s:p%3Aw@bücher.example:8080/a b/x y".toStr :=
  C18_reachC_example

/-! ## Sentence 2 — "Only characters that would change the parse in their position, '%' and non-printable characters are
    escaped": every class of escape classified (GAPS 6) -/

/-- the 26 generated (position, character) pairs, EXACTLY: leaving the character literal does NOT change the parse of the
    minimality witness (`changesParse … = some false`) IFF the pair is one of the three of F-C18-overescape-userinfo
    ('@' in the user, ':' and '@' in the password: `notNeeded`), and it DOES (`some true`) iff it is not.  Both backends,
    by computation over the generated lists (oracle `HumanMore.demo`).  Sharpens
    `C18_headline_unsafe_chars_needed` / `C18_headline_minimal_escaping_fails_for_userinfo` to an `iff`.
    Cites C18_overescape_exact. -/
theorem C18_headline_overescape_exact : ∀ b : Backend, ∀ p ∈ unsafePairs,
    (changesParse b p.1 p.2 = some false ↔ p ∈ notNeeded) ∧
    (changesParse b p.1 p.2 = some true ↔ p ∉ notNeeded) :=
  C18_overescape_exact

/-- "'%' … [is] escaped" — WHEN the escape is needed for the parse, on three witness texts: in EVERY one of the six
    positions, for the decoded text "a%41" leaving the '%' literal makes `URL(…)` read "aA" (a different URL:
    `some true`), while for "a%zz" and "a%4" the literal text reads back to an EQUAL URL (`some false`: the requoter
    escapes a '%' that starts no escape).  `human_quote` has no look-ahead and escapes every '%', as the property says.
    A statement about these three texts (instrumented `humanReprLit`, oracle `HumanMore.demo`), both backends; NOT a
    universal "iff followed by two hex digits".  Cites C18_percent_escape_needed. -/
theorem C18_headline_percent_escape_needed : ∀ b : Backend, ∀ comp ∈ positions,
    changesParseLit b comp "a%41".toStr 37 = some true ∧
    changesParseLit b comp "a%zz".toStr 37 = some false ∧
    changesParseLit b comp "a%4".toStr 37 = some false :=
  C18_percent_escape_needed

/-- "non-printable characters are escaped" — which of these escapes the PARSE needs, on the sample `R5.hidden` (NUL, SOH,
    BEL, BS, TAB, LF, VT, FF, CR, SO, ESC, US, DEL, U+200B): in EVERY position, leaving `c` literal in the text "a" c "b"
    changes the parse IFF `c` is TAB, LF or CR (`split_url` strips them); for every other character of the sample the
    literal text reads back to an EQUAL URL.  So those escapes serve readability, as the property's wording has it.
    Second conjunct: the sanity check tying the instrumented `humanReprLit` to `humanRepr` — with nothing left literal
    the two agree on the witness with user "a@%" + U+200B + "b" (ONE computed instance, not a general theorem).
    Both backends, oracle `HumanMore.demo`.  Cites C18_nonprintable_escape_classified, C18_humanReprLit_std. -/
theorem C18_headline_nonprintable_escape_classified : ∀ b : Backend,
    (∀ comp ∈ positions, ∀ c ∈ hidden,
      changesParseLit b comp [97, c, 98] c = some (c == 9 || c == 10 || c == 13)) ∧
    (do let u ← build ⟨b, demo⟩ (witnessT "user" [97, 64, 37, 0x200B, 98]); humanReprLit "user" (fun _ => false) ⟨b, demo⟩ u) =
    (do let u ← build ⟨b, demo⟩ (witnessT "user" [97, 64, 37, 0x200B, 98]); humanRepr ⟨b, demo⟩ u) :=
  fun b => ⟨C18_nonprintable_escape_classified b, C18_humanReprLit_std b⟩

/-- … UNIVERSALLY for the non-ASCII characters: the parser never consults `str.isprintable()`.  For EVERY answer table
    `pr` used for SHOWING (`e'`: the same library with `isPrintableU := pr`; e.g. `fun _ => some true`, which escapes no
    non-ASCII character at all), `URL(…)` and `build` are unchanged, and for every URL of the family of
    `C18_headline_roundtrip` the text shown with `pr` is read back by the unchanged `URL(…)` to an equal URL (same NFKC
    proviso).  Hence no escape of a non-printable NON-ASCII character is needed for the parse.
    Cites C18_nonprintable_nonascii_escapes_not_needed. -/
theorem C18_headline_nonprintable_nonascii_escapes_not_needed (e : Env) (pr : Nat → Option Bool) (sc : Str)
    (user pw : Option Str) (h H D : Str) (port : Option Nat) (p : Str) (kvs : List (Str × Str)) (f : Str)
    (vs : ValidScheme sc) (hk : HostKind e h H D)   -- "absolute"; host kind
    (hport : ∀ x, port = some x → x ≤ 65535)        -- guard: `build` rejects other ports
    (hu : UText user) (hw : UText pw)               -- no lone surrogates
    (hune : ∀ s, user = some s → s ≠ [])            -- user absent or non-empty
    (hp : PyStr (47 :: p)) (hn : NoSurrogate (47 :: p)) (hg : GoodPairs kvs) (hf : PyStr f) (hfn : NoSurrogate f) :
    let e' : Env := ⟨e.b, { e.o with isPrintableU := pr }⟩    -- the same library, showing with the table `pr`
    (∀ s, encodeUrl e' s = encodeUrl e s) ∧ (∀ a, build e' a = build e a) ∧
    ∃ u, build e (fullArgs sc user pw h port p kvs f) = .ok u ∧
      ∀ hr, humanRepr e' u = .ok hr →
        (isAscii (Rfc.appendixB Gen.schemeChars hr).authority = false →          -- NFKC proviso (F-C18-nfkc-userinfo)
          checkNetloc e.o (Rfc.appendixB Gen.schemeChars hr).authority = .ok ()) →
        ∃ v, encodeUrl e hr = .ok v ∧ Url.beq v u = true :=
  C18_nonprintable_nonascii_escapes_not_needed e pr sc user pw h H D port p kvs f vs hk hport hu hw hune hp hn hg hf hfn

/-! ## non-vacuity -/

-- readable texts (the hypotheses `ru` … `rf` of C18_headline_constructor_readable_text), and a text that is not
example : Readable demo (humanUnsafeOf "user") "us é".toStr ∧ Readable demo (humanUnsafeOf "path") "a b/ç".toStr ∧
    ¬ Readable demo (humanUnsafeOf "path") "a%20b".toStr ∧ ¬ Readable demo (humanUnsafeOf "k") "a=b".toStr := by
  unfold Readable; decide +kernel

-- the mixed spelling of C18_headline_constructor_any_spelling_example satisfies the spelling hypotheses
example : ∀ b : Backend, SpellOpt ⟨b, demo⟩ (some "us er".toStr) (some "us%20er".toStr) ∧
    q ⟨b, demo⟩ Gen.PATH_REQUOTER (47 :: "é%20x".toStr) = q ⟨b, demo⟩ Gen.PATH_QUOTER (47 :: "é x".toStr) ∧
    FixLemmas.encQuery ⟨b, demo⟩ "k=v w".toStr = qtext b [("k".toStr, "v w".toStr)] ∧ Clean "é%20x".toStr := by
  intro b
  refine ⟨⟨by intro r hr; cases hr; decide, by simp, by cases b <;> decide +kernel⟩, by cases b <;> decide +kernel,
    by cases b <;> decide +kernel, by unfold Clean; decide⟩

-- the start of the chain example is in `HumanReachC` through the headline theorems, and its round trip follows
example (b : Backend) : ∃ w, encodeUrl ⟨b, demoIdn⟩ "http://ü s:p%3Aw@bücher.example:8080/a b?k=v w#frag ment".toStr = .ok w ∧
    ∃ v, encodeUrl ⟨b, demoIdn⟩ "http://ü s:p%3Aw@bücher.example:8080/a b?k=v w#frag ment".toStr = .ok v ∧
      Url.beq v w = true := by
  obtain ⟨w, hw, _, hhr, hrc, _⟩ := C18_headline_reachable_from_constructor_example b
  refine ⟨w, hw, C18_headline_roundtrip_reachable_from_constructor _ w hrc _ hhr fun _ => ?_⟩
  simp only [demoIdn]
  str_lits
  cases b <;> decide +kernel

end Yarl
