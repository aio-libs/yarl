/-
C02 — `URL.build(..., query=<str>)`: the token statements that C02Headline.lean GAPS item 6/7 lists as STILL OPEN.

`build` (YarlModel/Url.lean) with a TRUTHY `query=` argument computes `query_string = get_str_query(query) or ""`
BEFORE it looks at `encoded`; for a string that is `QUERY_QUOTER(query)` — the very text `with_query(<str>)` stores.
So every statement of C02QueryStr.lean about `with_query(<str>)` transports to `build(query=<str>)`:
  (a) C02_build_query_str_stored            the stored text, = the stored text of `with_query(<str>)`, BOTH `encoded=` modes
  (b) C02_build_query_str_decoded_values    form-decoded keys / values = UTF-8 bytes of the supplied text
      C02_build_query_str_literal_delims    literal '&' '=' ';' '+' stay literal at the same positions, '%' is data
  (c) C02_build_query_vs_query_string       `query="a=%41"` stores "a=%2541", and so does `query_string="a=%41"`
  (d) C02_build_query_str_encoded_true_still_quoted   `encoded=True` does NOT store a `query=` string verbatim: it is
      quoted exactly as with `encoded=False`;
      C02_build_query_string_encoded_true_verbatim    only `query_string=` is stored verbatim under `encoded=True`.
On (c): the contrast one might expect ("`query_string=` stores a=A") is FALSE in the model — `build(query_string="a=%41")` stores "a=%2541" too
(`build` applies QUERY_QUOTER, not QUERY_REQUOTER, to `query_string=`); "a=A" is what the CONSTRUCTOR `URL("http://h/?a=%41")`
stores.  Proved as computed instances on both backends (`C02_build_query_vs_query_string`).
-/
import YarlModel
import YarlProofs.C02QueryStr
import YarlProofs.C02HeadlineMore5
import YarlProofs.C06More
import YarlProofs.Lemmas.Basics

namespace Yarl
open QsLemmas MdLemmas QueryUrl WfLemmas TokLemmas QsMore MeanMore QsSpec OutLangLemmas PathAlg PathLemmas R15

namespace BuildQuery

/-- a truthy string `query=`: the stored query is the quoter output, whatever `encoded` is -/
theorem stored_ne (e : Env) (a : BuildArgs) (v : Url) (h : build e a = .ok v) (s : Str)
    (hq : a.query = .str s) (hne : s ≠ []) : v.query = q e Gen.QUERY_QUOTER s := by
  have ht : qargTruthy a.query = true := by rw [hq]; simp [qargTruthy, isEmpty_false hne]
  obtain ⟨qs, hqs, hv⟩ := (build_query_shape h).1 ht
  rw [hq, R15.getStr] at hqs
  cases hqs
  exact hv

/-- the falsy string `query=""` -/
theorem stored_nil (e : Env) (a : BuildArgs) (v : Url) (h : build e a = .ok v)
    (hq : a.query = .str []) :
    v.query = (if a.encoded = false ∧ a.queryString ≠ [] then q e Gen.QUERY_QUOTER a.queryString
               else a.queryString) := by
  have ht : qargTruthy a.query = false := by rw [hq]; rfl
  exact (build_query_shape h).2 ht

end BuildQuery
open BuildQuery

/-! ## (a) the stored text -/

/-- `URL.build(..., query=t)` with a string `t`, EVERY string (no `PyStr`), BOTH `encoded=` modes: the stored query is
    `QUERY_QUOTER(t)`, i.e. exactly the query that `u.with_query(t)` stores on any URL `u`.  The side condition
    `t ≠ "" ∨ query_string == ""` only excludes the call `build(query="", query_string=<non-empty>)`, where the falsy
    `query=""` is ignored and `query_string=` is used (next theorem). -/
theorem C02_build_query_str_stored (e : Env) (a : BuildArgs) (v : Url) (h : build e a = .ok v)
    (t : Str) (hq : a.query = .str t) (h0 : t ≠ [] ∨ a.queryString = []) :
    v.query = q e Gen.QUERY_QUOTER t ∧
    (∀ u : Url, withQuery e u (.str t) = .ok (fromParts u.scheme u.netloc u.path v.query u.fragment)) ∧
    (∀ u w, withQuery e u (.str t) = .ok w → v.query = w.query) := by
  have hv : v.query = q e Gen.QUERY_QUOTER t := by
    by_cases hne : t = []
    · subst hne
      have hqs : a.queryString = [] := h0.resolve_left (fun h => h rfl)
      rw [stored_nil e a v h hq, hqs]
      simp only [ne_eq, not_true_eq_false, and_false, if_false]
      exact (Gen.QUERY_QUOTER.run_nil e.b).symm
    · exact stored_ne e a v h t hq hne
  refine ⟨hv, fun u => ?_, fun u w hw => ?_⟩
  · rw [hv]; exact C02_qstr_with_query_stored e u t
  · rw [C02_qstr_with_query_stored] at hw
    cases hw
    exact hv

/-- the excluded corner: `build(query="", ...)` — the empty string is falsy, the query comes from `query_string=`
    (re-quoted by QUERY_QUOTER when `encoded=False`, verbatim when `encoded=True`) -/
theorem C02_build_query_str_empty (e : Env) (a : BuildArgs) (v : Url) (h : build e a = .ok v)
    (hq : a.query = .str []) :
    v.query = (if a.encoded = false ∧ a.queryString ≠ [] then q e Gen.QUERY_QUOTER a.queryString
               else a.queryString) :=
  stored_nil e a v h hq

/-! ## (b) decoded values and literal delimiters, transported along (a) -/

/-- `build(query=t)`, every Python string `t`: same statement as `C02_headline_qstr_with_query_decoded_values` — the stored
    query has as many '&'-pieces as the supplied TEXT and, piece by piece (split at the first '='), (form-decoded key,
    has '=', form-decoded value) = (UTF-8 bytes of the key text, has '=', UTF-8 bytes of the value text), a supplied '+'
    read as a space; '%' is data (right-hand sides are `utf8s`, not a percent-decoding). -/
theorem C02_build_query_str_decoded_values (e : Env) (a : BuildArgs) (v : Url) (h : build e a = .ok v)
    (t : Str) (hq : a.query = .str t) (h0 : t ≠ [] ∨ a.queryString = [])
    (hs : PyStr t) :                     -- model artefact: code points of a Python string
    v.query = q e Gen.QUERY_QUOTER t ∧
    (splitOn 38 v.query).length = (splitOn 38 t).length ∧
    (splitOn 38 v.query).map (fun P =>
        (pctDecodeQs (partition 61 P).1, (partition 61 P).2.1, pctDecodeQs (partition 61 P).2.2)) =
      (splitOn 38 t).map (fun T =>
        (utf8s (plusToSpace (partition 61 T).1), (partition 61 T).2.1, utf8s (plusToSpace (partition 61 T).2.2))) ∧
    pctDecodeQs v.query = utf8s (plusToSpace t) := by
  have hv := (C02_build_query_str_stored e a v h t hq h0).1
  obtain ⟨f1, f2, f3⟩ := qq_facts e.b t hs
  rw [hv]
  refine ⟨rfl, ?_, f2, f3⟩
  show (splitOn 38 (Gen.QUERY_QUOTER.run e.b t)).length = _
  rw [f1]; simp

/-- `build(query=t)`, every Python string `t`: "literal ones stay literal", same statement as
    `C02_headline_qstr_text_forms_literal_delims` on the stored query of the built URL: cutting at '&' '=' ';' commutes
    with the quoter; token by token a literal '&' '=' ';' sits exactly where the UTF-8 bytes of `t` have that byte, a
    literal '+' where they have '+' or ' '; no escape %26 %3D %3B %2B is ever written; one token per supplied byte (so a
    supplied '%' is the data byte '%', stored "%25": see the computed instances below). -/
theorem C02_build_query_str_literal_delims (e : Env) (a : BuildArgs) (v : Url) (h : build e a = .ok v)
    (t : Str) (hq : a.query = .str t) (h0 : t ≠ [] ∨ a.queryString = []) (hs : PyStr t) :
    (∀ d, d = 38 ∨ d = 61 ∨ d = 59 →
      splitOn d v.query = (splitOn d t).map (q e Gen.QUERY_QUOTER)) ∧
    (∀ d, d = 38 ∨ d = 61 ∨ d = 59 →
      (btoks v.query).map (fun k => decide (k = .lit d)) = (utf8s t).map (fun x => decide (x = d))) ∧
    (btoks v.query).map (fun k => decide (k = .lit 43)) =
      (utf8s t).map (fun x => decide (x = 43 ∨ x = 32)) ∧
    (∀ d, d = 38 ∨ d = 61 ∨ d = 59 ∨ d = 43 → BTok.esc d ∉ btoks v.query) ∧
    (btoks v.query).length = (utf8s t).length := by
  have hv : v.query = Gen.QUERY_QUOTER.run e.b t := (C02_build_query_str_stored e a v h t hq h0).1
  rw [hv]
  exact C02_headline_qstr_text_forms_literal_delims e.b t hs

/-- a supplied '%' is DATA: the stored query form-decodes to the UTF-8 bytes of the supplied text itself (no
    percent-decoding of `t` on the right-hand side) and has exactly one token per supplied byte — so the supplied byte
    '%' is one stored token of value 37, which (not being a literal of the output alphabet) is the escape "%25"; computed:
    `build(query="a=%41")` stores "a=%2541" (C02_build_query_vs_query_string) -/
theorem C02_build_query_str_percent_is_data (e : Env) (a : BuildArgs) (v : Url) (h : build e a = .ok v)
    (t : Str) (hq : a.query = .str t) (h0 : t ≠ [] ∨ a.queryString = []) (hs : PyStr t) :
    pctDecodeQs v.query = utf8s (plusToSpace t) ∧ (btoks v.query).length = (utf8s t).length :=
  ⟨(C02_build_query_str_decoded_values e a v h t hq h0 hs).2.2.2,
   (C02_build_query_str_literal_delims e a v h t hq h0 hs).2.2.2.2⟩

/-! ## (d) `encoded=True` -/

/-- DEVIATION from "encoded = true: the string is stored verbatim": that is FALSE for `query=<str>`.  `build` quotes a
    truthy `query=` argument (`get_str_query`) BEFORE it branches on `encoded`, so `build(query=t, encoded=True)` stores
    `QUERY_QUOTER(t)`, exactly as with `encoded=False` -/
theorem C02_build_query_str_encoded_true_still_quoted (e : Env) (a : BuildArgs) (v : Url) (h : build e a = .ok v)
    (t : Str) (hq : a.query = .str t) (hne : t ≠ []) (_henc : a.encoded = true) :
    v.query = q e Gen.QUERY_QUOTER t :=
  stored_ne e a v h t hq hne

/-- … what IS stored verbatim under `encoded=True` is the other spelling, `query_string=t` (no truthy `query=`) -/
theorem C02_build_query_string_encoded_true_verbatim (e : Env) (a : BuildArgs) (v : Url) (h : build e a = .ok v)
    (hq : qargTruthy a.query = false) (henc : a.encoded = true) :
    v.query = a.queryString := by
  rw [(build_query_shape h).2 hq]
  simp [henc]

/-- … and under `encoded=False` `query_string=t` goes through the SAME quoter `QUERY_QUOTER` (requote = False: '%' is
    data), NOT through a requoter: in this model (and in `URL.build` of the library: `_QUERY_QUOTER(query_string)`) the
    two spellings `query=<str>` and `query_string=<str>` store the same text when `encoded=False` -/
theorem C02_build_query_string_encoded_false_stored (e : Env) (a : BuildArgs) (v : Url) (h : build e a = .ok v)
    (hq : qargTruthy a.query = false) (henc : a.encoded = false) :
    v.query = (if a.queryString ≠ [] then q e Gen.QUERY_QUOTER a.queryString else a.queryString) := by
  rw [(build_query_shape h).2 hq]
  simp [henc]

/-- for `encoded=False` the two spellings agree on every string (query="" and query_string="" both store "") -/
theorem C02_build_query_str_eq_query_string (e : Env) (a a' : BuildArgs) (v v' : Url) (t : Str)
    (h : build e a = .ok v) (h' : build e a' = .ok v')
    (hq : a.query = .str t) (hqs : a.queryString = [])
    (hq' : qargTruthy a'.query = false) (hqs' : a'.queryString = t) (henc' : a'.encoded = false) :
    v.query = v'.query := by
  rw [(C02_build_query_str_stored e a v h t hq (Or.inr hqs)).1,
    C02_build_query_string_encoded_false_stored e a' v' h' hq' henc', hqs']
  by_cases ht : t = []
  · subst ht; simp only [ne_eq, not_true_eq_false, if_false]; exact Gen.QUERY_QUOTER.run_nil e.b
  · rw [if_pos ht]

/-! ## (c) computed contrast, both backends, every environment -/

namespace BuildQuery
/-- `URL.build(scheme="http", host="h", path="/p", query="k=1+2 3&x=%26;y&&é=€")` -/
def exArgs : BuildArgs :=
  { scheme := "http".toStr, host := "h".toStr, path := "/p".toStr, query := .str "k=1+2 3&x=%26;y&&é=€".toStr }
theorem qq_inst (b : Backend) : Gen.QUERY_QUOTER.run b "a=%41".toStr = "a=%2541".toStr := by
  cases b <;> decide +kernel
end BuildQuery

/-- `build(query="a=%41")` stores "a=%2541" ('%' is data) — and so does `build(query_string="a=%41")`: the expected
    contrast "query_string= stores a=A" is FALSE (no requoter on that branch); "a=A" is what the constructor stores for
    "?a=%41".  `build(query="a=%41", encoded=True)` STILL stores "a=%2541"; `build(query_string="a=%41", encoded=True)`
    stores "a=%41" verbatim.  Every environment, both backends. -/
theorem C02_build_query_vs_query_string (e : Env) :
    (∀ v, build e { query := .str "a=%41".toStr } = .ok v → v.query = "a=%2541".toStr) ∧
    (∀ v, build e { queryString := "a=%41".toStr } = .ok v → v.query = "a=%2541".toStr ∧ v.query ≠ "a=A".toStr) ∧
    (∀ v, build e { query := .str "a=%41".toStr, encoded := true } = .ok v → v.query = "a=%2541".toStr) ∧
    (∀ v, build e { queryString := "a=%41".toStr, encoded := true } = .ok v → v.query = "a=%41".toStr) := by
  refine ⟨fun v h => ?_, fun v h => ?_, fun v h => ?_, fun v h => ?_⟩
  · rw [(C02_build_query_str_stored e _ v h _ rfl (Or.inl (by decide))).1]; exact qq_inst e.b
  · have : v.query = "a=%2541".toStr := by
      rw [C02_build_query_string_encoded_false_stored e _ v h rfl rfl, if_pos (by decide)]; exact qq_inst e.b
    rw [this]; exact ⟨rfl, by decide⟩
  · rw [C02_build_query_str_encoded_true_still_quoted e _ v h _ rfl (by decide) rfl]; exact qq_inst e.b
  · exact C02_build_query_string_encoded_true_verbatim e _ v h rfl rfl

/-- non-vacuity of the four hypotheses above and the constructor contrast: the calls succeed on both backends -/
theorem C02_build_query_vs_query_string_computed (b : Backend) :
    (build ⟨b, Oracles.empty⟩ { query := .str "a=%41".toStr }).map (·.query) = .ok "a=%2541".toStr ∧
    (build ⟨b, Oracles.empty⟩ { queryString := "a=%41".toStr }).map (·.query) = .ok "a=%2541".toStr ∧
    (build ⟨b, Oracles.empty⟩ { query := .str "a=%41".toStr, encoded := true }).map (·.query) = .ok "a=%2541".toStr ∧
    (build ⟨b, Oracles.empty⟩ { queryString := "a=%41".toStr, encoded := true }).map (·.query) = .ok "a=%41".toStr ∧
    (encodeUrl ⟨b, Oracles.empty⟩ "http://h/?a=%41".toStr).map (·.query) = .ok "a=A".toStr := by
  cases b <;> decide +kernel

/-! ## non-vacuity (computed, both backends) -/

/-- a full call: scheme, host, path and a text with every kind of character; the hypotheses of (a)/(b) hold -/
example (b : Backend) :
    (build ⟨b, Oracles.empty⟩ BuildQuery.exArgs).map (·.query)
      = .ok "k=1+2+3&x=%2526;y&&%C3%A9=%E2%82%AC".toStr := by
  unfold BuildQuery.exArgs; str_lits; cases b <;> decide +kernel

example : PyStr "k=1+2 3&x=%26;y&&é=€".toStr := by str_lits; decide +kernel

/-- (b) on that call: 4 '&'-pieces on both sides, the decoded bytes are the UTF-8 bytes of the text with '+' → ' ' -/
example (b : Backend) (v : Url)
    (h : build ⟨b, Oracles.empty⟩ BuildQuery.exArgs = .ok v) :
    (splitOn 38 v.query).length = 4 ∧ pctDecodeQs v.query = utf8s "k=1 2 3&x=%26;y&&é=€".toStr := by
  obtain ⟨_, h2, _, h4⟩ := C02_build_query_str_decoded_values _ _ v h _ rfl (Or.inl (by str_lits; decide +kernel))
    (by str_lits; decide +kernel)
  rw [h2, h4]
  str_lits
  decide +kernel

/-- the excluded corner of (a) is real: `build(query="", query_string="x y")` stores the `query_string=` text -/
example (b : Backend) :
    (build ⟨b, Oracles.empty⟩ { query := .str [], queryString := "x y".toStr }).map (·.query) = .ok "x+y".toStr := by
  cases b <;> decide +kernel

/-- lone surrogate in `query=`: no `NoSurrogate` hypothesis is needed in (a)/(b) (it contributes no byte) -/
example (b : Backend) :
    (build ⟨b, Oracles.empty⟩ { query := .str ("a=".toStr ++ [0xD800] ++ "b".toStr) }).map (·.query)
      = .ok (Gen.QUERY_QUOTER.run b ("a=".toStr ++ [0xD800] ++ "b".toStr)) := by
  cases b <;> decide +kernel

end Yarl
