import YarlProofs.C02More3
import YarlProofs.C02Headline
/-!
  C02Surr.lean — property C02, C02Headline.lean GAPS item 5, last paragraph: the WHOLE-URL statement
  `URL(s) == URL(stripSurr s)` (`stripSurr s` = `s` without its lone surrogates).  Restated in C02HeadlineMore6.lean.
  Helper lemmas: namespace `Yarl.SurrUrl`.

  (a) `C02_surr_whole_url`: `encodeUrl e (stripSurr s) = encodeUrl e s` (same error or the SAME `Url` value) for every
      Python string whose lone surrogates are placed as `C02_SurrPlaced e.o s` says (six conditions: lead, scheme,
      slashes, host, bracket, screen); `C02_surr_splitUrl` is the `split_url` half; corollaries
      `…_parts`, `…_no_authority`, `…_clean_authority`, `C02_surr_screen_of_nfkc_id`.
  (b) one computed counterexample per condition, both backends: `C02_surr_whole_url_fails_in_host`, `…_fails_leading`,
      `…_fails_in_scheme`, `…_fails_between_slashes`, `…_fails_in_bracket`, `…_fails_without_screen`; and
      `C02_surr_whole_url_holds_after_percent`: a lone surrogate inside an escape is NO counterexample to the whole-URL
      statement (it is one to the comparison with the ORIGINAL text, C02_surr_url_counterexample).
  (c) `C02_surr_whole_url_instance`, `C02_surr_whole_url_no_authority_instance`.
-/
namespace Yarl
open OutLangLemmas QsLemmas WfLemmas TokLemmas NetlocLemmas FixLemmas R11.C02

namespace SurrUrl

/-! ### `stripSurr` against the string primitives -/

theorem sfalse (d : Nat) (hd : d < 0xD800) : isSurrogate d = false :=
  not_surrogate (.inl hd)

theorem mem_strip (d : Nat) (hd : isSurrogate d = false) (s : Str) : mem d (stripSurr s) = mem d s := by
  rw [mem_eq, mem_eq]
  unfold stripSurr
  simp [List.mem_filter, hd]

theorem strip_reverse (s : Str) : stripSurr s.reverse = (stripSurr s).reverse := by
  unfold stripSurr; exact List.filter_reverse ..

theorem rpartition_strip (d : Nat) (hd : isSurrogate d = false) (s : Str) :
    rpartition d (stripSurr s) =
      (stripSurr (rpartition d s).1, (rpartition d s).2.1, stripSurr (rpartition d s).2.2) := by
  unfold rpartition
  rw [← strip_reverse, partition_stripSurr hd]
  cases h : (partition d s.reverse).2.1 <;> simp [h, strip_reverse] <;> rfl

theorem authEnd_take (b : Str) :
    (stripSurr b).take (authorityEnd (stripSurr b)) = stripSurr (b.take (authorityEnd b)) ∧
    (stripSurr b).drop (authorityEnd (stripSurr b)) = stripSurr (b.drop (authorityEnd b)) := by
  induction b with
  | nil => exact ⟨rfl, rfl⟩
  | cons c r ih =>
    by_cases hc : isSurrogate c = true
    · rw [stripSurr_cons_of hc]
      have : ¬ (c = 47 ∨ c = 63 ∨ c = 35) := by
        unfold isSurrogate at hc; simp at hc; omega
      simp only [authorityEnd, this, if_false, List.take_succ_cons, List.drop_succ_cons, stripSurr_cons_of hc]
      exact ih
    · have hc' : isSurrogate c = false := by simpa using hc
      rw [stripSurr_cons_of_not hc']
      by_cases hd : c = 47 ∨ c = 63 ∨ c = 35
      · simp only [authorityEnd, hd, if_true, List.take_zero, List.drop_zero, stripSurr_cons_of_not hc']
        exact ⟨rfl, trivial⟩
      · simp only [authorityEnd, hd, if_false, List.take_succ_cons, List.drop_succ_cons, stripSurr_cons_of_not hc',
          ih.1, ih.2]
        exact ⟨trivial, trivial⟩

/-! ### `split_url` in stages -/

/-- the authority split of `split_url`: `(netloc, rest)` -/
def authPart (r : Str) : Str × Str :=
  if r.take 2 = [47, 47] then
    ((r.drop 2).take (authorityEnd (r.drop 2)), (r.drop 2).drop (authorityEnd (r.drop 2)))
  else ([], r)

/-- the `_check_netloc` call with its guard -/
def screen (o : Oracles) (n : Str) : R Unit :=
  if !n.isEmpty && !isAscii n then checkNetloc o n else pure ()

def splitRest (o : Oracles) (scheme r : Str) : R Parts :=
  checkBrackets (authPart r).1 >>= fun _ => screen o (authPart r).1 >>= fun _ =>
    pure { scheme := scheme, netloc := (authPart r).1, path := (ParseLemmas.tailOf (authPart r).2).1,
           query := (ParseLemmas.tailOf (authPart r).2).2.1, fragment := (ParseLemmas.tailOf (authPart r).2).2.2 }

/-- the authority split of the code is the Appendix B one -/
theorem authPart_eq (r : Str) : authPart r = ParseLemmas.authOf r := by
  rw [ParseLemmas.authOf_eq]
  unfold authPart
  split
  · rw [ParseLemmas.take_authorityEnd, ParseLemmas.drop_authorityEnd]
  · rfl

/-- `split_url` read off its normal form `ParseLemmas.splitUrlNF` (C07.lean) -/
theorem splitUrl_stages (o : Oracles) (s : Str) :
    splitUrl o s = splitRest o (splitScheme (cleanUrl s)).1 (splitScheme (cleanUrl s)).2 := by
  rw [ParseLemmas.splitUrl_eq]
  unfold ParseLemmas.splitUrlNF splitRest screen
  rw [ParseLemmas.appendixB_eq, ← ParseLemmas.splitScheme_eq, authPart_eq]
  simp only
  cases checkBrackets (ParseLemmas.authOf (splitScheme (cleanUrl s)).2).1 with
  | error e => rfl
  | ok u =>
    cases (if (!(ParseLemmas.authOf (splitScheme (cleanUrl s)).2).1.isEmpty &&
          !isAscii (ParseLemmas.authOf (splitScheme (cleanUrl s)).2).1) = true
        then checkNetloc o (ParseLemmas.authOf (splitScheme (cleanUrl s)).2).1 else pure ()) with
    | error e => rfl
    | ok u => rfl


/-! ### commutation of the stages with `stripSurr` -/

theorem stripSet_noSurr : ∀ c, mem c Gen.stripSet = true → isSurrogate c = false := by
  intro c h
  rw [ParseLemmas.mem_stripSet] at h
  exact sfalse c (by simp at h; omega)

theorem schemeChars_noSurr : ∀ c, mem c Gen.schemeChars = true → isSurrogate c = false := by
  have h : ∀ x ∈ Gen.schemeChars, x < 128 := by decide
  intro c hc
  exact sfalse c (by have := h c (mem_iff.mp hc); omega)

theorem lstrip_strip (s : Str) :
    lstripSet Gen.stripSet (stripSurr s) = lstripSet Gen.stripSet (stripSurr (lstripSet Gen.stripSet s)) := by
  induction s with
  | nil => rfl
  | cons x xs ih =>
    by_cases hx : mem x Gen.stripSet = true
    · rw [stripSurr_cons_of_not (stripSet_noSurr x hx)]
      simp only [lstripSet, hx, if_true]
      exact ih
    · simp only [lstripSet, hx]
      rfl

theorem strip_filter (f : Nat → Bool) (s : Str) : stripSurr (s.filter f) = (stripSurr s).filter f := by
  unfold stripSurr
  rw [List.filter_filter, List.filter_filter]
  congr 1
  funext c
  exact Bool.and_comm ..

theorem cleanUrl_strip (s : Str)
    (h : lstripSet Gen.stripSet (stripSurr (lstripSet Gen.stripSet s)) = stripSurr (lstripSet Gen.stripSet s)) :
    cleanUrl (stripSurr s) = stripSurr (cleanUrl s) := by
  unfold cleanUrl
  rw [lstrip_strip, h, strip_filter]

theorem splitScheme_part (url : Str) :
    splitScheme url =
      if (partition 58 url).2.1 = true ∧ (partition 58 url).1 ≠ [] ∧
          (partition 58 url).1.all (fun c => mem c Gen.schemeChars) = true
      then (lower (partition 58 url).1, (partition 58 url).2.2) else ([], url) := by
  unfold splitScheme
  rw [ParseLemmas.find_eq, ParseLemmas.partition_eq]
  by_cases hm : 58 ∈ url
  · simp only [hm, if_true, decide_true, true_and, ParseLemmas.take_takeWhile_length]
    have hd : url.drop ((url.takeWhile (· ≠ 58)).length + 1) = (url.dropWhile (· ≠ 58)).drop 1 := by
      rw [← ParseLemmas.drop_takeWhile_length, List.drop_drop]
    rw [hd]
    have hl : 0 < (url.takeWhile (· ≠ 58)).length ↔ url.takeWhile (· ≠ 58) ≠ [] := List.length_pos_iff
    simp only [hl]
  · simp [hm]

/-- no lone surrogate in a scheme: if the text before the first ':' becomes a scheme once its lone surrogates are
    dropped, it had none -/
def SchemeClean (url : Str) : Prop :=
  (partition 58 url).2.1 = true → stripSurr (partition 58 url).1 ≠ [] →
    (stripSurr (partition 58 url).1).all (fun c => mem c Gen.schemeChars) = true → NoSurrogate (partition 58 url).1

theorem splitScheme_strip (url : Str) (h : SchemeClean url) :
    splitScheme (stripSurr url) = ((splitScheme url).1, stripSurr (splitScheme url).2) := by
  rw [splitScheme_part, splitScheme_part, partition_stripSurr (sfalse 58 (by decide))]
  simp only
  unfold SchemeClean at h
  by_cases hc : (partition 58 url).2.1 = true ∧ stripSurr (partition 58 url).1 ≠ [] ∧
      (stripSurr (partition 58 url).1).all (fun c => mem c Gen.schemeChars) = true
  · have hn := h hc.1 hc.2.1 hc.2.2
    have hid := stripSurr_id _ hn
    rw [hid] at hc ⊢
    simp only [hc, ne_eq, not_false_eq_true, and_self, if_true]
  · have hc2 : ¬ ((partition 58 url).2.1 = true ∧ (partition 58 url).1 ≠ [] ∧
        (partition 58 url).1.all (fun c => mem c Gen.schemeChars) = true) := by
      intro hh
      have hn : NoSurrogate (partition 58 url).1 := by
        intro c hcm
        exact schemeChars_noSurr c (List.all_eq_true.mp hh.2.2 c hcm)
      rw [stripSurr_id _ hn] at hc
      exact hc hh
    rw [if_neg hc, if_neg hc2]

theorem take2_cases (r : Str) (h : r.take 2 = [47, 47]) : ∃ r', r = 47 :: 47 :: r' := by
  match r, h with
  | a :: b :: r', h =>
    simp at h
    exact ⟨r', by rw [h.1, h.2]⟩

theorem authPart_strip (r : Str) (h : (stripSurr r).take 2 = [47, 47] → r.take 2 = [47, 47]) :
    authPart (stripSurr r) = (stripSurr (authPart r).1, stripSurr (authPart r).2) := by
  by_cases h2 : r.take 2 = [47, 47]
  · obtain ⟨r', rfl⟩ := take2_cases r h2
    rw [TokLemmas.stripSurr_cons_of_not (x := 47) rfl, TokLemmas.stripSurr_cons_of_not (x := 47) rfl]
    unfold authPart
    simp only [List.take_succ_cons, List.take_zero, if_true, List.drop_succ_cons, List.drop_zero]
    rw [(authEnd_take r').1, (authEnd_take r').2]
  · have h3 : ¬ (stripSurr r).take 2 = [47, 47] := fun hh => h2 (h hh)
    unfold authPart
    rw [if_neg h2, if_neg h3]
    rfl

/-- path, query and fragment of Appendix B are cut at '#' and '?', which are no surrogates -/
theorem tailOf_strip (r : Str) :
    ParseLemmas.tailOf (stripSurr r) =
      (stripSurr (ParseLemmas.tailOf r).1, stripSurr (ParseLemmas.tailOf r).2.1, stripSurr (ParseLemmas.tailOf r).2.2) := by
  rw [← ParseLemmas.codeTail_eq (stripSurr r) (stripSurr r) Iff.rfl Iff.rfl, ← ParseLemmas.codeTail_eq r r Iff.rfl Iff.rfl,
    mem_strip 35 (sfalse 35 (by decide)), mem_strip 63 (sfalse 63 (by decide))]
  cases mem 35 r <;> cases mem 63 r <;>
    simp [partition_stripSurr (sfalse 35 (by decide)), partition_stripSurr (sfalse 63 (by decide))] <;> rfl

theorem checkBrackets_strip (n : Str) (hb : NoSurrogate (partition 93 (partition 91 n).2.2).1) :
    checkBrackets (stripSurr n) = checkBrackets n := by
  unfold checkBrackets
  rw [mem_strip 91 (sfalse 91 (by decide)), mem_strip 93 (sfalse 93 (by decide)),
    partition_stripSurr (sfalse 91 (by decide))]
  simp only
  rw [partition_stripSurr (sfalse 93 (by decide))]
  simp only
  rw [stripSurr_id _ hb]

def stripParts (p : Parts) : Parts :=
  { scheme := p.scheme, netloc := stripSurr p.netloc, path := stripSurr p.path, query := stripSurr p.query,
    fragment := stripSurr p.fragment }

theorem splitRest_strip (o : Oracles) (scheme r : Str)
    (h2 : (stripSurr r).take 2 = [47, 47] → r.take 2 = [47, 47])
    (hb : NoSurrogate (partition 93 (partition 91 (authPart r).1).2.2).1)
    (hsc : screen o (stripSurr (authPart r).1) = screen o (authPart r).1) :
    splitRest o scheme (stripSurr r) = (splitRest o scheme r).map stripParts := by
  unfold splitRest
  rw [authPart_strip r h2]
  simp only
  rw [checkBrackets_strip _ hb, hsc, tailOf_strip]
  cases checkBrackets (authPart r).1 with
  | error e => rfl
  | ok u =>
    cases screen o (authPart r).1 with
    | error e => rfl
    | ok u => rfl


/-! ### the authority block and the three requoted components -/

/-- `s and Q(s)` for a requoter commutes with dropping lone surrogates -/
theorem reqIf_strip (e : Env) (a : QArgs) (ha : a ∈ Gen.allQuoters) (x : Str) (hx : PyStr x) :
    (if (stripSurr x).isEmpty then stripSurr x else q e a (stripSurr x)) = (if x.isEmpty then x else q e a x) := by
  by_cases h0 : x = []
  · subst h0; rfl
  · have hx0 : x.isEmpty = false := by cases x with | nil => exact absurd rfl h0 | cons _ _ => rfl
    rw [hx0, ← q_strip e a ha x hx]
    by_cases h1 : stripSurr x = []
    · rw [q_strip e a ha x hx, h1, CtorShape.q_nil e a]; rfl
    · have : (stripSurr x).isEmpty = false := by
        cases hh : stripSurr x with | nil => exact absurd hh h1 | cons _ _ => rfl
      rw [this]; rfl

theorem encPath_strip (e : Env) (nl x : Str) (hx : PyStr x) : encPath e nl (stripSurr x) = encPath e nl x := by
  unfold encPath
  by_cases h0 : x = []
  · subst h0; rfl
  · have hx0 : x.isEmpty = false := by cases x with | nil => exact absurd rfl h0 | cons _ _ => rfl
    rw [hx0]
    by_cases h1 : stripSurr x = []
    · have hq : q e Gen.PATH_REQUOTER x = [] := by
        rw [q_strip e _ (by decide) x hx, h1, CtorShape.q_nil e _]
      rw [h1, hq]
      simp [mem]
    · have : (stripSurr x).isEmpty = false := by
        cases hh : stripSurr x with | nil => exact absurd hh h1 | cons _ _ => rfl
      rw [this, ← q_strip e _ (by decide) x hx]
      simp only [Bool.false_eq_true, if_false]

theorem finishUrl_strip (e : Env) (p : Parts) (nl : Str) (pre : Option NetPre)
    (h1 : PyStr p.path) (h2 : PyStr p.query) (h3 : PyStr p.fragment) :
    finishUrl e (stripParts p) nl pre = finishUrl e p nl pre := by
  unfold finishUrl stripParts encQuery encFragment
  simp only
  rw [encPath_strip e nl _ h1, reqIf_strip e _ (by decide) _ h2, reqIf_strip e _ (by decide) _ h3]

def adj (np : NetlocParts) : NetlocParts :=
  { user := (np.user.map stripSurr).bind orNone, password := np.password.map stripSurr, host := np.host,
    port := np.port }

theorem userBind_strip (u : Option Str) :
    (u.map stripSurr).bind orNone = ((u.bind orNone).map stripSurr).bind orNone := by
  cases u with
  | none => rfl
  | some x =>
    cases x with
    | nil => rfl
    | cons a b => rfl

theorem finish_strip (o : Oracles) (u pw : Option Str) (hi : Str) :
    NetlocLemmas.finish o (u.map stripSurr) (pw.map stripSurr) hi = (NetlocLemmas.finish o u pw hi).map adj := by
  rw [NetlocLemmas.finish_eq, NetlocLemmas.finish_eq, userBind_strip]
  cases C07_portOf o (hostPort hi).2 with
  | error e => rfl
  | ok pt => rfl

theorem userSplit_strip (n : Str) :
    userSplit (stripSurr n) =
      ((userSplit n).1.map stripSurr, (userSplit n).2.1.map stripSurr, stripSurr (userSplit n).2.2) := by
  unfold userSplit
  rw [mem_strip 64 (sfalse 64 (by decide)), rpartition_strip 64 (sfalse 64 (by decide))]
  simp only
  rw [partition_stripSurr (sfalse 58 (by decide))]
  cases mem 64 n
  · rfl
  · cases (partition 58 (rpartition 64 n).1).2.1 <;> rfl

theorem userSplit_hostinfo (n : Str) : (userSplit n).2.2 = (rpartition 64 n).2.2 := by
  unfold userSplit
  cases h : mem 64 n
  · exact (ParseLemmas.rpartition_snd_snd_of_mem_false h).symm
  · rfl

theorem splitNetloc_strip (o : Oracles) (n : Str) (hh : NoSurrogate (rpartition 64 n).2.2) :
    splitNetloc o (stripSurr n) = (splitNetloc o n).map adj := by
  rw [NetlocLemmas.splitNetloc_eq, NetlocLemmas.splitNetloc_eq, userSplit_strip, userSplit_hostinfo, stripSurr_id _ hh]
  exact finish_strip ..

theorem cachedUser_strip (e : Env) (U : Option Str) (hU : ∀ x, U = some x → PyStr x) :
    cachedUser e ((U.map stripSurr).bind orNone) = cachedUser e U := by
  cases U with
  | none => rfl
  | some x =>
    have hx := hU x rfl
    have key := reqIf_strip e Gen.REQUOTER (by decide) x hx
    unfold cachedUser requoteOpt
    simp only [Option.map_some, Option.bind_some]
    by_cases h1 : stripSurr x = []
    · rw [h1] at key
      have key' : (if x.isEmpty then x else q e Gen.REQUOTER x) = [] := key.symm
      rw [h1, key']
      rfl
    · rw [orNone_of_ne_nil h1]
      simp only [Option.map_some, Option.bind_some]
      rw [key]

theorem rpOf_strip (e : Env) (P : Option Str) (hP : ∀ x, P = some x → PyStr x) :
    requoteOpt e (P.map stripSurr) = requoteOpt e P := by
  cases P with
  | none => rfl
  | some x =>
    unfold requoteOpt
    simp only [Option.map_some]
    rw [reqIf_strip e Gen.REQUOTER (by decide) x (hP x rfl)]

theorem netBlock_strip (e : Env) (scheme n : Str) (hn : PyStr n) (hh : NoSurrogate (rpartition 64 n).2.2) :
    netBlock e scheme (stripSurr n) = netBlock e scheme n := by
  by_cases hne : n = []
  · rw [hne]
    rfl
  have hne' : stripSurr n ≠ [] := by
    by_cases h64 : mem 64 n = true
    · intro hs
      have h2 : mem 64 (stripSurr n) = true := by rw [mem_strip 64 (sfalse 64 (by decide))]; exact h64
      rw [hs] at h2
      cases h2
    · have h64' : mem 64 n = false := by simpa using h64
      rw [ParseLemmas.rpartition_snd_snd_of_mem_false h64'] at hh
      rwa [stripSurr_id _ hh]
  have hhost : (rpartition 64 (stripSurr n)).2.2 = (rpartition 64 n).2.2 := by
    rw [rpartition_strip 64 (sfalse 64 (by decide))]
    exact stripSurr_id _ hh
  rw [netBlock_closed e scheme _ hne', netBlock_closed e scheme n hne, hhost, splitNetloc_strip e.o n hh]
  cases hnp : splitNetloc e.o n with
  | error er => rfl
  | ok np =>
    obtain ⟨hu, hp⟩ := splitNetloc_pyStr e.o n hn np hnp
    -- `adj np` has the host and the port of `np`, and what is stored of its userinfo is what is stored of `np`'s
    show (EagerLemmas.hostOr scheme np.host >>= fun host0 => encodeHost e.o host0 false >>= fun host1 =>
      EagerLemmas.eagerOut e (adj np) (StrTotal.rebracket (mem 91 (rpartition 64 n).2.2) host1)) = _
    simp only [EagerLemmas.eagerOut_eq]
    have e1 : cachedUser e (adj np).user = cachedUser e np.user := cachedUser_strip e np.user hu
    have e2 : requoteOpt e (adj np).password = requoteOpt e np.password := rpOf_strip e np.password hp
    rw [e1, e2]
    rfl

end SurrUrl

open SurrUrl

/-! ## (a) the whole-URL statement -/

/-- the authority text `split_url` reads from `s` ("" when there is no "//") -/
def C02_netlocText (s : Str) : Str := (SurrUrl.authPart (splitScheme (cleanUrl s)).2).1

/-- WHERE the lone surrogates of `s` may sit for `URL(s)` and `URL(stripSurr s)` to be the same computation: anywhere in
    path, query, fragment, user, password — but
    * `lead`: not so that the leading C0-control / space run of `s` continues behind them (`lstrip` stops at a surrogate);
    * `scheme`: not inside a scheme (the text before the first ':' must not BECOME a scheme by dropping them);
    * `slashes`: not between / before the two slashes that introduce the authority ("/\ud800/h" must not become "//h");
    * `host`: not in the host / port text (everything after the last '@' of the authority);
    * `bracket`: not between the first '[' and the next ']' of the authority (the IP-literal check reads that text even when
      it sits in the userinfo);
    * `screen`: the `_check_netloc` NFKC screen (an ORACLE in the model, only consulted for a non-ASCII authority) answers
      the same for the authority with and without its lone surrogates; automatic when the authority has none, or when
      the oracle says "every string is NFKC-normal" (`C02_surr_screen_of_nfkc_id`). -/
structure C02_SurrPlaced (o : Oracles) (s : Str) : Prop where
  lead : lstripSet Gen.stripSet (stripSurr (lstripSet Gen.stripSet s)) = stripSurr (lstripSet Gen.stripSet s)
  scheme : SurrUrl.SchemeClean (cleanUrl s)
  slashes : (stripSurr (splitScheme (cleanUrl s)).2).take 2 = [47, 47] → (splitScheme (cleanUrl s)).2.take 2 = [47, 47]
  host : NoSurrogate (rpartition 64 (C02_netlocText s)).2.2
  bracket : NoSurrogate (partition 93 (partition 91 (C02_netlocText s)).2.2).1
  screen : SurrUrl.screen o (stripSurr (C02_netlocText s)) = SurrUrl.screen o (C02_netlocText s)

/-- `split_url` commutes with dropping the lone surrogates: same error, or the same scheme and the other four parts
    with their lone surrogates dropped -/
theorem C02_surr_splitUrl (o : Oracles) (s : Str) (h : C02_SurrPlaced o s) :
    splitUrl o (stripSurr s) = (splitUrl o s).map SurrUrl.stripParts := by
  rw [splitUrl_stages, splitUrl_stages, cleanUrl_strip s h.lead, splitScheme_strip _ h.scheme]
  exact splitRest_strip o _ _ h.slashes h.bracket h.screen

/-- (a) WHOLE URL: for a Python string whose lone surrogates are placed as `C02_SurrPlaced` says, the auto-encoding
    constructor computes THE SAME RESULT for `s` and for `s` without its lone surrogates — the same error, or the same
    `Url` value (all five stored parts AND the pre-filled netloc cache).  No `C02_EscSurrFree` guard is needed for this
    (the guard is what relates the result to the decoded values of the ORIGINAL text: C02_surr_encodeUrl_verbatim). -/
theorem C02_surr_whole_url (e : Env) (s : Str) (hs : PyStr s) (h : C02_SurrPlaced e.o s) :
    encodeUrl e (stripSurr s) = encodeUrl e s := by
  rw [FixLemmas.encodeUrl_eq, FixLemmas.encodeUrl_eq, C02_surr_splitUrl e.o s h]
  cases hp : splitUrl e.o s with
  | error er => rfl
  | ok p =>
    obtain ⟨p1, p2, p3, p4⟩ := splitUrl_pyStr e.o s hs p hp
    have hnl : p.netloc = C02_netlocText s := by
      have := congrArg Rfc.Parts5.authority (C07_split e.o s p hp)
      rw [ParseLemmas.appendixB_eq, ← ParseLemmas.splitScheme_eq, ← authPart_eq] at this
      exact this
    have hh := h.host
    rw [← hnl] at hh
    show (netBlock e (stripParts p).scheme (stripParts p).netloc >>= fun r =>
        pure (finishUrl e (stripParts p) r.1 r.2)) = _
    have e1 : (stripParts p).scheme = p.scheme := rfl
    have e2 : (stripParts p).netloc = stripSurr p.netloc := rfl
    rw [e1, e2, netBlock_strip e p.scheme p.netloc p1 hh]
    simp only [finishUrl_strip e p _ _ p2 p3 p4]
    rfl

/-- (a) spelled out: same error class, or URLs with the same five stored parts (and equal under `==`) -/
theorem C02_surr_whole_url_parts (e : Env) (s : Str) (hs : PyStr s) (h : C02_SurrPlaced e.o s) :
    (∀ er, encodeUrl e s = .error er → encodeUrl e (stripSurr s) = .error er) ∧
    (∀ u, encodeUrl e s = .ok u → ∃ u', encodeUrl e (stripSurr s) = .ok u' ∧ u'.scheme = u.scheme ∧
      u'.netloc = u.netloc ∧ u'.path = u.path ∧ u'.query = u.query ∧ u'.fragment = u.fragment ∧ u' = u) := by
  rw [C02_surr_whole_url e s hs h]
  exact ⟨fun er h => h, fun u h => ⟨u, h, rfl, rfl, rfl, rfl, rfl, rfl⟩⟩

/-- the `screen` hypothesis is automatic for an oracle table that reports every string as NFKC-normal -/
theorem C02_surr_screen_of_nfkc_id (o : Oracles) (h : ∀ x, o.nfkc x = some x) (n m : Str) :
    SurrUrl.screen o n = SurrUrl.screen o m := by
  have : ∀ n, SurrUrl.screen o n = .ok () := by
    intro n
    unfold SurrUrl.screen checkNetloc
    split
    · simp only [h, ask, bind, Except.bind, if_true]
    · rfl
  rw [this, this]

/-- (a) for a URL WITHOUT authority: only the three placement conditions on the text before the path remain -/
theorem C02_surr_whole_url_no_authority (e : Env) (s : Str) (hs : PyStr s)
    (hlead : lstripSet Gen.stripSet (stripSurr (lstripSet Gen.stripSet s)) = stripSurr (lstripSet Gen.stripSet s))
    (hscheme : SurrUrl.SchemeClean (cleanUrl s))
    (hsl : (stripSurr (splitScheme (cleanUrl s)).2).take 2 ≠ [47, 47]) :
    encodeUrl e (stripSurr s) = encodeUrl e s := by
  have hn : C02_netlocText s = [] := by
    unfold C02_netlocText authPart
    have : ¬ (splitScheme (cleanUrl s)).2.take 2 = [47, 47] := by
      intro h2
      obtain ⟨r', hr⟩ := take2_cases _ h2
      apply hsl
      rw [hr, TokLemmas.stripSurr_cons_of_not (x := 47) rfl, TokLemmas.stripSurr_cons_of_not (x := 47) rfl]
      rfl
    rw [if_neg this]
  refine C02_surr_whole_url e s hs ⟨hlead, hscheme, fun h => absurd h hsl, ?_, ?_, ?_⟩
  · rw [hn]; intro c hc; cases hc
  · rw [hn]; intro c hc; cases hc
  · rw [hn]; rfl

/-- (a) with an authority that has NO lone surrogate at all (e.g. an ASCII one) -/
theorem C02_surr_whole_url_clean_authority (e : Env) (s : Str) (hs : PyStr s)
    (hlead : lstripSet Gen.stripSet (stripSurr (lstripSet Gen.stripSet s)) = stripSurr (lstripSet Gen.stripSet s))
    (hscheme : SurrUrl.SchemeClean (cleanUrl s))
    (hsl : (stripSurr (splitScheme (cleanUrl s)).2).take 2 = [47, 47] → (splitScheme (cleanUrl s)).2.take 2 = [47, 47])
    (hn : NoSurrogate (C02_netlocText s)) :
    encodeUrl e (stripSurr s) = encodeUrl e s := by
  refine C02_surr_whole_url e s hs ⟨hlead, hscheme, hsl, ?_, ?_, ?_⟩
  · intro c hc; exact hn c (ParseLemmas.mem_of_mem_rpartition_snd_snd hc)
  · intro c hc
    exact hn c (partition_snd_sub 91 _ c (partition_fst_sub 93 _ c hc))
  · rw [stripSurr_id _ hn]

/-! ## (b) every placement condition is needed — computed counterexamples, both backends -/

namespace SurrUrl
/-- the five stored parts -/
def five (r : R Url) : R (Str × Str × Str × Str × Str) := r.map (fun u => (u.scheme, u.netloc, u.path, u.query, u.fragment))
def eE (b : Backend) : Env := ⟨b, Oracles.empty⟩
/-- `URL("http://h\ud800/")` -/
def sHost : Str := "http://h".toStr ++ [0xD800] ++ "/".toStr
/-- `URL(" \ud800 http://h")` -/
def sLead : Str := " ".toStr ++ [0xD800] ++ " http://h".toStr
/-- `URL("ht\ud800tp://h")` -/
def sScheme : Str := "ht".toStr ++ [0xD800] ++ "tp://h".toStr
/-- `URL("/\ud800/h")` -/
def sSlash : Str := "/".toStr ++ [0xD800] ++ "/h".toStr
/-- `URL("http://a[\ud800v1.x]b@h/")` -/
def sBracket : Str := "http://a[".toStr ++ [0xD800] ++ "v1.x]b@h/".toStr
/-- `URL("http://\ud800@h/")` -/
def sScreen : Str := "http://".toStr ++ [0xD800] ++ "@h/".toStr
/-- `URL("http://u%\ud80041@h/%\ud80041?%\ud80041#%\ud80041")` -/
def sPct : Str := "http://u%".toStr ++ [0xD800] ++ "41@h/%".toStr ++ [0xD800] ++ "41?%".toStr ++ [0xD800] ++ "41#%".toStr ++
  [0xD800] ++ "41".toStr
/-- `URL("http://u\ud800:p\udfff@h:80/a\ud800/b?k\ud800=v#f\ud800")` -/
def sGood : Str := "http://u".toStr ++ [0xD800] ++ ":p".toStr ++ [0xDFFF] ++ "@h:80/a".toStr ++ [0xD800] ++ "/b?k".toStr ++
  [0xD800] ++ "=v#f".toStr ++ [0xD800]
/-- `URL(" \t mailto:a\ud800b?s\ud800=1#\ud800")`: no authority -/
def sGoodNoAuth : Str := " \t mailto:a".toStr ++ [0xD800] ++ "b?s".toStr ++ [0xD800] ++ "=1#".toStr ++ [0xD800]
end SurrUrl

/-- HOST: a lone surrogate in the host text.  `URL("http://h\ud800/")` is not accepted by the model (the non-ASCII host goes
    to the Unicode oracles, here with the table that knows NFKC only), `URL("http://h/")` is; `host` fails. -/
theorem C02_surr_whole_url_fails_in_host (b : Backend) :
    (∀ u, encodeUrl (eS b) sHost ≠ .ok u) ∧
    five (encodeUrl (eS b) (stripSurr sHost)) = .ok ("http".toStr, "h".toStr, "/".toStr, [], []) ∧
    ¬ NoSurrogate (rpartition 64 (C02_netlocText sHost)).2.2 := by
  refine ⟨?_, by cases b <;> decide +kernel, by decide +kernel⟩
  have h : (encodeUrl (eS b) sHost).toBool = false := by cases b <;> decide +kernel
  intro u hu
  rw [hu] at h
  cases h

/-- LEADING characters: `lstrip` stops at a lone surrogate.  `URL(" \ud800 http://h")` is the relative URL with path
    "%20http://h"; `URL("  http://h")` is `http://h`; `lead` fails. -/
theorem C02_surr_whole_url_fails_leading (b : Backend) :
    five (encodeUrl (eE b) sLead) = .ok ([], [], "%20http://h".toStr, [], []) ∧
    five (encodeUrl (eE b) (stripSurr sLead)) = .ok ("http".toStr, "h".toStr, [], [], []) ∧
    lstripSet Gen.stripSet (stripSurr (lstripSet Gen.stripSet sLead)) ≠ stripSurr (lstripSet Gen.stripSet sLead) := by
  refine ⟨by cases b <;> decide +kernel, by cases b <;> decide +kernel, by decide +kernel⟩

/-- SCHEME: `URL("ht\ud800tp://h")` has no scheme (path "http://h"), `URL("http://h")` has; `scheme` fails. -/
theorem C02_surr_whole_url_fails_in_scheme (b : Backend) :
    five (encodeUrl (eE b) sScheme) = .ok ([], [], "http://h".toStr, [], []) ∧
    five (encodeUrl (eE b) (stripSurr sScheme)) = .ok ("http".toStr, "h".toStr, [], [], []) ∧
    ¬ SurrUrl.SchemeClean (cleanUrl sScheme) := by
  refine ⟨by cases b <;> decide +kernel, by cases b <;> decide +kernel, ?_⟩
  unfold SurrUrl.SchemeClean
  decide +kernel

/-- SLASHES: `URL("/\ud800/h")` is the PATH "//h" (no authority), `URL("//h")` is the authority "h"; `slashes` fails.
    (The two print alike: `str()` of both is "//h".) -/
theorem C02_surr_whole_url_fails_between_slashes (b : Backend) :
    five (encodeUrl (eE b) sSlash) = .ok ([], [], "//h".toStr, [], []) ∧
    five (encodeUrl (eE b) (stripSurr sSlash)) = .ok ([], "h".toStr, [], [], []) ∧
    ¬ ((stripSurr (splitScheme (cleanUrl sSlash)).2).take 2 = [47, 47] →
        (splitScheme (cleanUrl sSlash)).2.take 2 = [47, 47]) := by
  refine ⟨by cases b <;> decide +kernel, by cases b <;> decide +kernel, by decide +kernel⟩

/-- BRACKET: a lone surrogate in the USERINFO is not always harmless: `URL("http://a[\ud800v1.x]b@h/")` raises ValueError
    (the IP-literal check reads the text after the first '[' of the whole authority: "\ud800v1.x" is no IPvFuture),
    `URL("http://a[v1.x]b@h/")` is accepted (user "a%5Bv1.x%5Db"); `host` holds, `bracket` fails. -/
theorem C02_surr_whole_url_fails_in_bracket (b : Backend) :
    encodeUrl (eE b) sBracket = .error .valueError ∧
    five (encodeUrl (eE b) (stripSurr sBracket)) = .ok ("http".toStr, "a%5Bv1.x%5Db@h".toStr, "/".toStr, [], []) ∧
    NoSurrogate (rpartition 64 (C02_netlocText sBracket)).2.2 ∧
    ¬ NoSurrogate (partition 93 (partition 91 (C02_netlocText sBracket)).2.2).1 := by
  cases b <;> decide +kernel

/-- SCREEN (a fact about the MODEL's oracle parameter, not about Python): with the empty oracle table the lone surrogate
    in the user makes the authority non-ASCII, `_check_netloc` asks for NFKC and the table has no answer; without the
    surrogate the authority is ASCII and NFKC is never asked.  With a table that answers (`eS`) both are `http://h/`. -/
theorem C02_surr_whole_url_fails_without_screen (b : Backend) :
    encodeUrl (eE b) sScreen = .error (.oracleMiss "nfkc" ([0xD800] ++ "h".toStr)) ∧
    five (encodeUrl (eE b) (stripSurr sScreen)) = .ok ("http".toStr, "h".toStr, "/".toStr, [], []) ∧
    five (encodeUrl (eS b) sScreen) = .ok ("http".toStr, "h".toStr, "/".toStr, [], []) := by
  refine ⟨by cases b <;> decide +kernel, by cases b <;> decide +kernel, by cases b <;> decide +kernel⟩

/-- AFTER '%': NOT a counterexample to the whole-URL statement — a lone surrogate inside an escape satisfies
    `C02_SurrPlaced`, and `URL(s)` = `URL(stripSurr s)` = `http://uA@h/A?A#A`.  What fails there (and is why the
    component theorems carry `C02_EscSurrFree`) is the comparison with the ORIGINAL text: its user / path / query /
    fragment percent-decode to "u%41" / "/%41" / "%41" / "%41", the stored ones to "uA" / "/A" / "A" / "A". -/
theorem C02_surr_whole_url_holds_after_percent (b : Backend) :
    C02_SurrPlaced (eS b).o sPct ∧
    encodeUrl (eS b) (stripSurr sPct) = encodeUrl (eS b) sPct ∧
    five (encodeUrl (eS b) sPct) = .ok ("http".toStr, "uA@h".toStr, "/A".toStr, "A".toStr, "A".toStr) ∧
    ¬ C02_EscSurrFree sPct ∧
    pctDecode ("/%".toStr ++ [0xD800] ++ "41".toStr) = "/%41".toStr ∧ pctDecode "/A".toStr = "/A".toStr := by
  have hp : C02_SurrPlaced (eS b).o sPct :=
    ⟨by decide +kernel, by unfold SurrUrl.SchemeClean; decide +kernel, by decide +kernel, by decide +kernel,
      by decide +kernel, C02_surr_screen_of_nfkc_id _ (fun _ => rfl) _ _⟩
  refine ⟨hp, C02_surr_whole_url _ _ (by decide +kernel) hp, by cases b <;> decide +kernel, by decide +kernel,
    by decide +kernel, by decide +kernel⟩

/-! ## (c) non-vacuity -/

/-- lone surrogates in user, password, path, query and fragment of ONE URL with authority and port: all hypotheses of
    (a) hold, and both computations give `http://u:p@h:80/a/b?k=v#f` -/
theorem C02_surr_whole_url_instance (b : Backend) :
    PyStr sGood ∧ C02_SurrPlaced (eS b).o sGood ∧ ¬ NoSurrogate sGood ∧
    encodeUrl (eS b) (stripSurr sGood) = encodeUrl (eS b) sGood ∧
    five (encodeUrl (eS b) sGood) = .ok ("http".toStr, "u:p@h:80".toStr, "/a/b".toStr, "k=v".toStr, "f".toStr) := by
  have hp : C02_SurrPlaced (eS b).o sGood :=
    ⟨by decide +kernel, by unfold SurrUrl.SchemeClean; decide +kernel, by decide +kernel, by decide +kernel,
      by decide +kernel, C02_surr_screen_of_nfkc_id _ (fun _ => rfl) _ _⟩
  exact ⟨by decide +kernel, hp, by decide +kernel, C02_surr_whole_url _ _ (by decide +kernel) hp,
    by cases b <;> decide +kernel⟩

/-- no authority, EMPTY oracle table, leading C0 / space characters: the hypotheses of `…_no_authority` hold -/
theorem C02_surr_whole_url_no_authority_instance (b : Backend) :
    encodeUrl (eE b) (stripSurr sGoodNoAuth) = encodeUrl (eE b) sGoodNoAuth ∧
    five (encodeUrl (eE b) sGoodNoAuth) = .ok ("mailto".toStr, [], "ab".toStr, "s=1".toStr, []) :=
  ⟨C02_surr_whole_url_no_authority _ _ (by decide +kernel) (by decide +kernel)
      (by unfold SurrUrl.SchemeClean; decide +kernel) (by decide +kernel),
   by cases b <;> decide +kernel⟩

end Yarl
