/-
  C08Bridge.lean — the multi-cache machine instantiated with the real model (`yarlMSem`, C08Multi.lean) against the
  MONOLITHIC model values, and what a raising call leaves behind.

  * `PreOK e u`: the pre-filled entries of the model value `u` are what the lazy path computes (C09); `PreBlind e f` /
    `PreStable e f`: `f` cannot tell a value from its five parts / keeps `PreOK`; `ymodel`: the model value of a
    constructor key.  Every named modifier reads its receiver and its URL arguments through the five parts
    (`yapply_recv_twin`, `yapply_args_twin`, `yapply_result`), so a derivation on handles that denote monolithic values
    outputs what the model's modifier computes from those values: `C08_bridge_mod_output`, `…_mod_then_read`,
    `…_ctor_mod_read`, `…_join_then_read`; both side conditions are shown necessary.
  * `NoEntry w k`: no table of any cache or generation has an entry for `k`.  A raising call returns the world as it
    was (`call_out_error`, `modCall_out_error`), hence no table ever holds a raising key and the same call raises the
    same error again: `C08_bridge_failed_ctor_*`, `C08_bridge_raising_op_no_effect`.
  The namespace `R3` holds the helper lemmas of both parts, `R3.Checks` concrete values on which the hypotheses hold.
-/
import YarlModel
import YarlModel.CacheMulti
import YarlProofs.C09
import YarlProofs.Lemmas.ModShape
import YarlProofs.C08Multi
import YarlProofs.C20Multi

namespace Yarl
open Yarl.MultiCache Yarl.MultiInst Yarl.CacheInst
open Yarl.Cache (Val acc GoodKey Policy Obj)

/-! ## vocabulary -/

/-- the pre-filled cache entries of the monolithic value `u` (field `pre`) are what the lazy path computes from the
    five parts — property C09; holds for every `URL(s)` inside the C09 guard and for every value without pre-fill -/
def PreOK (e : Env) (u : Url) : Prop := net e (pickleTwin u) = net e u

/-- the five modifiers that read the netloc-derived (possibly pre-filled) cache entries -/
def MultiInst.YMod.readsNet : YMod → Bool
  | .withUser _ | .withPassword _ | .withHost _ | .withPort _ _ | .origin => true
  | _ => false

/-- `f` cannot tell a monolithic value from its five parts (as long as the pre-filled entries are the C09 ones) -/
def PreBlind (e : Env) (f : Url → R Url) : Prop :=
  ∀ u, PreOK e u → (f (pickleTwin u)).map Url.parts = (f u).map Url.parts

/-- results of `f` carry correct pre-filled entries (or none) -/
def PreStable (e : Env) (f : Url → R Url) : Prop := ∀ u r, PreOK e u → f u = .ok r → PreOK e r

/-- side condition on a derivation: nothing for the named modifiers, `PreBlind` for an arbitrary function -/
def MultiInst.YMod.PreBlind (e : Env) : YMod → Prop
  | .fn f => Yarl.PreBlind e f
  | _ => True

/-- the monolithic model value of a constructor key -/
def ymodel (e : Env) : YKey e → R Url
  | .url k => encodeUrl e k.1
  | .encoded s => preEncodedUrl e s
  | .build a => build e a
  | .parts p => .ok (Url.ofParts p)
  | .partsUncached p => .ok (Url.ofParts p)

namespace R3

theorem ofParts_parts (u : Url) : Url.ofParts u.parts = pickleTwin u := rfl
theorem parts_ofParts (p : Parts) : (Url.ofParts p).parts = p := rfl
theorem parts_twin (u : Url) : (pickleTwin u).parts = u.parts := rfl

theorem twin_eq_of_parts {u v : Url} (h : u.parts = v.parts) : pickleTwin u = pickleTwin v := by
  rw [← ofParts_parts, ← ofParts_parts, h]

theorem parts_eq_iff_twin (u v : Url) : u.parts = v.parts ↔ pickleTwin u = pickleTwin v :=
  ⟨twin_eq_of_parts, fun h => by rw [← parts_twin u, ← parts_twin v, h]⟩

theorem map_parts_of_map_twin {x y : R Url} (h : x.map pickleTwin = y.map pickleTwin) :
    x.map Url.parts = y.map Url.parts := by
  cases x <;> cases y <;> simp only [Except.map, Except.ok.injEq, Except.error.injEq, reduceCtorEq] at h ⊢
  · exact h
  · exact (parts_eq_iff_twin _ _).mpr h

theorem map_twin_of_map_parts {x y : R Url} (h : x.map Url.parts = y.map Url.parts) :
    x.map pickleTwin = y.map pickleTwin := by
  cases x <;> cases y <;> simp only [Except.map, Except.ok.injEq, Except.error.injEq, reduceCtorEq] at h ⊢
  · exact h
  · exact (parts_eq_iff_twin _ _).mp h

theorem list_twin_of_parts : ∀ {us vs : List Url}, us.map Url.parts = vs.map Url.parts →
    us.map pickleTwin = vs.map pickleTwin
  | [], [], _ => rfl
  | [], _ :: _, h => by cases h
  | _ :: _, [], h => by cases h
  | u :: us, v :: vs, h => by
    simp only [List.map_cons, List.cons.injEq] at h ⊢
    exact ⟨twin_eq_of_parts h.1, list_twin_of_parts h.2⟩

theorem map_parts_map_ofParts (ps : List Parts) : (ps.map Url.ofParts).map Url.parts = ps := by
  rw [List.map_map]
  have : (Url.parts ∘ Url.ofParts) = id := rfl
  rw [this, List.map_id]

theorem map_ofParts_parts (us : List Url) : (us.map Url.parts).map Url.ofParts = us.map pickleTwin := by
  rw [List.map_map]; rfl

/-! ### `PreOK` -/

theorem preOK_of_pre_none (e : Env) {u : Url} (h : u.pre = none) : PreOK e u := by
  unfold PreOK; rw [C09_twin_of_pre_none u h]

theorem preOK_twin (e : Env) (u : Url) : PreOK e (pickleTwin u) := preOK_of_pre_none e rfl
theorem preOK_ofParts (e : Env) (p : Parts) : PreOK e (Url.ofParts p) := preOK_of_pre_none e rfl
theorem preOK_fromParts (e : Env) (a b c d f : Str) : PreOK e (fromParts a b c d f) := preOK_of_pre_none e rfl

theorem preOK_of_twin_fixed (e : Env) {u : Url} (h : pickleTwin u = u) : PreOK e u := by
  unfold PreOK; rw [h]

theorem preOK_ymodel (e : Env) (key : YKey e) (u : Url) (h : ymodel e key = .ok u) : PreOK e u := by
  cases key with
  | url k => exact (C09_pickle_lossless e k.1 u h k.2).1
  | encoded s => exact preOK_of_pre_none e ((C09_no_prefill e).1 s u h)
  | build a => exact preOK_of_pre_none e ((C09_no_prefill e).2.1 a u h)
  | parts p => cases h; exact preOK_ofParts e p
  | partsUncached p => cases h; exact preOK_ofParts e p

theorem construct_eq_ymodel (e : Env) (hf : Parts → Int) (key : YKey e) :
    (yarlMSem e hf).construct key = (ymodel e key).map Url.parts := by
  cases key <;> rfl

/-! ### the `pre` field is irrelevant to every named modifier -/

/-- URL arguments are read through their five parts only (`join` may return its argument: up to the parts) -/
theorem yapply_args_twin (e : Env) (m : YMod) (u : Url) (args : List Url) :
    (yapply e m u (args.map pickleTwin)).map pickleTwin = (yapply e m u args).map pickleTwin := by
  cases m with
  | join =>
    match args with
    | [] => rfl
    | [r] =>
      show Except.ok (pickleTwin (join e u (pickleTwin r))) = Except.ok (pickleTwin (join e u r))
      have h1 := (C09_join_twin e u (pickleTwin r) none).1
      have h2 := (C09_join_twin e u r none).1
      have : pickleTwin (pickleTwin r) = pickleTwin r := rfl
      rw [this] at h1
      rw [← h1, ← h2]
    | _ :: _ :: _ => rfl
  | _ => rfl

/-- `parent` commutes with dropping the pre-filled entries (last conjunct of `C09_twin_pure_accessors`) -/
theorem parent_twin (e : Env) (u : Url) : parent (pickleTwin u) = pickleTwin (parent u) :=
  (C09_twin_pure_accessors e u).2.2.2.2.2.2.2.2.2

theorem withFragment_twin_aux (u : Url) (raw : Str) :
    pickleTwin (if (pickleTwin u).fragment = raw then pickleTwin u
      else fromParts (pickleTwin u).scheme (pickleTwin u).netloc (pickleTwin u).path (pickleTwin u).query raw) =
    pickleTwin (if u.fragment = raw then u else fromParts u.scheme u.netloc u.path u.query raw) := by
  by_cases hc : u.fragment = raw
  · rw [if_pos hc, if_pos (show (pickleTwin u).fragment = raw from hc)]; rfl
  · rw [if_neg hc, if_neg (show ¬ (pickleTwin u).fragment = raw from hc)]; rfl

/-- the receiver is read through its five parts and — by the five `readsNet` modifiers only — through `net`: only for
    those is `net` required to agree with the twin's -/
theorem yapply_recv_twin (e : Env) (u : Url) (m : YMod) (hm : ∀ f, m ≠ .fn f)
    (hnet : m.readsNet = true → PreOK e u) (args : List Url) :
    (yapply e m (pickleTwin u) args).map pickleTwin = (yapply e m u args).map pickleTwin := by
  cases m with
  | withScheme s => rfl
  | withUser x => simp only [yapply, (C09_modifiers_of_net e u (hnet rfl)).1]
  | withPassword x => simp only [yapply, (C09_modifiers_of_net e u (hnet rfl)).2.1]
  | withHost h => simp only [yapply, (C09_modifiers_of_net e u (hnet rfl)).2.2.1]
  | withPort p k => simp only [yapply, (C09_modifiers_of_net e u (hnet rfl)).2.2.2.1]
  | withPath p en kq kf => rfl
  | withQuery a => rfl
  | extendQuery a =>
    simp only [yapply, extendQuery]
    cases getStrQuery e.b a with
    | error x => rfl
    | ok o =>
      cases o with
      | none => rfl
      | some nq =>
        simp only [bind, Except.bind]
        split <;> rfl
  | updateQuery a => rfl
  | withoutQueryParams ns =>
    simp only [yapply, withoutQueryParams]
    show (if (ns.filter (fun n => (queryPairs u).any (·.1 = n))).isEmpty = true then _ else _ : R Url).map pickleTwin = _
    split <;> rfl
  | withFragment f =>
    cases f <;> simp only [yapply, withFragment] <;>
      exact congrArg Except.ok (withFragment_twin_aux u _)
  | withName n kq kf => rfl
  | withSuffix s kq kf => rfl
  | makeChild ps en => rfl
  | parent =>
    simp only [yapply, parent_twin e u]
    rfl
  | origin => exact (C09_modifiers_of_net e u (hnet rfl)).2.2.2.2
  | relative => rfl
  | join => rfl
  | fn f => exact absurd rfl (hm f)

/-- a named modifier is a function of the five parts of its receiver and of its URL arguments — and, for the five
    `readsNet` modifiers, of the receiver's `net`, which is a function of the parts when `PreOK` -/
theorem yapply_parts_only (e : Env) (m : YMod) (hm : ∀ f, m ≠ .fn f) (u u' : Url) (args args' : List Url)
    (hp : u.parts = u'.parts) (ha : args.map Url.parts = args'.map Url.parts)
    (hu : m.readsNet = true → PreOK e u) (hu' : m.readsNet = true → PreOK e u') :
    (yapply e m u args).map Url.parts = (yapply e m u' args').map Url.parts := by
  apply map_parts_of_map_twin
  rw [← yapply_recv_twin e u m hm hu args, ← yapply_recv_twin e u' m hm hu' args',
    ← yapply_args_twin e m (pickleTwin u) args, ← yapply_args_twin e m (pickleTwin u') args',
    twin_eq_of_parts hp, list_twin_of_parts ha]

/-- … and so is every derivation that satisfies its side condition (`PreBlind` for `.fn f`) -/
theorem yapply_parts_only_all (e : Env) (m : YMod) (hb : m.PreBlind e) (u u' : Url) (args args' : List Url)
    (hp : u.parts = u'.parts) (ha : args.map Url.parts = args'.map Url.parts) (hu : PreOK e u) (hu' : PreOK e u') :
    (yapply e m u args).map Url.parts = (yapply e m u' args').map Url.parts := by
  by_cases hm : ∀ f, m ≠ .fn f
  · exact yapply_parts_only e m hm u u' args args' hp ha (fun _ => hu) (fun _ => hu')
  · have : ∃ f, m = .fn f := by
      cases m <;> first | exact ⟨_, rfl⟩ | exact absurd (fun f h => by cases h) hm
    obtain ⟨f, rfl⟩ := this
    show (f u).map Url.parts = (f u').map Url.parts
    rw [← hb u hu, ← hb u' hu', twin_eq_of_parts hp]

/-- what the machine feeds a derivation — the five parts of each argument, re-wrapped — gives the parts the model
    computes from the monolithic values -/
theorem yapply_on_parts (e : Env) (m : YMod) (hb : m.PreBlind e) (u : Url) (us : List Url) (hu : PreOK e u) :
    (yapply e m (Url.ofParts u.parts) ((us.map Url.parts).map Url.ofParts)).map Url.parts =
      (yapply e m u us).map Url.parts :=
  yapply_parts_only_all e m hb (Url.ofParts u.parts) u ((us.map Url.parts).map Url.ofParts) us rfl
    (map_parts_map_ofParts _) (preOK_ofParts e _) hu

theorem yapply_on_parts_ok (e : Env) (m : YMod) (hb : m.PreBlind e) (u : Url) (us : List Url) (hu : PreOK e u)
    (r : Url) (hr : yapply e m u us = .ok r) :
    ∃ r', yapply e m (Url.ofParts u.parts) ((us.map Url.parts).map Url.ofParts) = .ok r' ∧
      pickleTwin r' = pickleTwin r := by
  have h := yapply_on_parts e m hb u us hu
  rw [hr] at h
  obtain ⟨r', hr', hp⟩ := map_ok h
  exact ⟨r', hr', twin_eq_of_parts hp⟩

/-- results of the named modifiers carry no pre-filled entries, or are the receiver / the URL argument -/
theorem yapply_result (e : Env) (m : YMod) (hm : ∀ f, m ≠ .fn f) (u : Url) (args : List Url) (r : Url)
    (hr : yapply e m u args = .ok r) : r.pre = none ∨ r = u ∨ r ∈ args := by
  -- every named modifier but `join` is a `Step`, and a `Step` returns the receiver or fills no cache
  have pre : ∀ {g : OpGroup}, Step e u g r → g ≠ .join → r.pre = none ∨ r = u ∨ r ∈ args :=
    fun h hg => (h.pre hg).imp id Or.inl
  cases m with
  | fn f => exact absurd rfl (hm f)
  | withScheme s => exact pre (.of_withScheme hr) nofun
  | withUser x => exact pre (.of_withUser hr) nofun
  | withPassword x => exact pre (.of_withPassword hr) nofun
  | withHost h => exact pre (.of_withHost hr) nofun
  | withPort p k => exact pre (.of_withPort hr) nofun
  | withPath p en kq kf =>
    cases hr
    exact pre (.of_withPath p en kq kf) nofun
  | withQuery a => exact pre (.of_withQuery hr) nofun
  | extendQuery a => exact pre (.of_extendQuery hr) nofun
  | updateQuery a => exact pre (.of_updateQuery hr) nofun
  | withoutQueryParams ns => exact pre (.of_withoutQueryParams hr) nofun
  | withFragment f =>
    cases hr
    exact pre (.of_withFragment f) nofun
  | withName n kq kf => exact pre (.of_withName hr) nofun
  | withSuffix s kq kf => exact pre (.of_withSuffix hr) nofun
  | makeChild ps en => exact pre (.of_makeChild hr) nofun
  | parent =>
    cases hr
    exact pre .of_parent nofun
  | origin => exact pre (.of_origin hr) nofun
  | relative => exact pre (.of_relative hr) nofun
  | join =>
    match args, hr with
    | [x], hr =>
      cases hr
      rcases join_cases e u x with h | ⟨_, _, h⟩ | ⟨_, h⟩
      · exact Or.inr (Or.inr (by rw [h]; exact List.mem_singleton.mpr rfl))
      · exact Or.inl (by rw [h]; rfl)
      · exact Or.inl (by rw [h]; rfl)
    | [], hr => cases hr
    | _ :: _ :: _, hr => cases hr

theorem yapply_preOK (e : Env) (m : YMod) (hm : ∀ f, m ≠ .fn f) (u : Url) (args : List Url)
    (hu : PreOK e u) (ha : ∀ x ∈ args, PreOK e x) (r : Url) (hr : yapply e m u args = .ok r) : PreOK e r := by
  rcases yapply_result e m hm u args r hr with h | rfl | h
  · exact preOK_of_pre_none e h
  · exact hu
  · exact ha r h

/-! ### closure properties of `PreBlind` / `PreStable` -/

theorem preBlind_bind (e : Env) (f g : Url → R Url) (hf : PreBlind e f) (hfs : PreStable e f) (hg : PreBlind e g) :
    PreBlind e (fun u => f u >>= g) := by
  intro u hu
  have h1 := hf u hu
  show (f (pickleTwin u) >>= g).map Url.parts = (f u >>= g).map Url.parts
  cases hr' : f (pickleTwin u) with
  | error x =>
    cases hr : f u with
    | error y => rw [hr', hr] at h1; exact h1
    | ok r => rw [hr', hr] at h1; cases h1
  | ok r' =>
    cases hr : f u with
    | error y => rw [hr', hr] at h1; cases h1
    | ok r =>
      rw [hr', hr] at h1
      simp only [Except.map, Except.ok.injEq] at h1
      show (g r').map Url.parts = (g r).map Url.parts
      rw [← hg r' (hfs _ r' (preOK_twin e u) hr'), ← hg r (hfs u r hu hr), twin_eq_of_parts h1]

theorem preStable_bind (e : Env) (f g : Url → R Url) (hfs : PreStable e f) (hgs : PreStable e g) :
    PreStable e (fun u => f u >>= g) := by
  intro u r hu hr
  cases hv : f u with
  | error x => simp only [hv, bind, Except.bind] at hr; cases hr
  | ok v =>
    simp only [hv, bind, Except.bind] at hr
    exact hgs v r (hfs u v hu hv) hr

end R3

open R3

/-! ## the `pre` field is irrelevant to every modifier's result -/

/-- The `pre` field (the cache entries `encode_url` pre-computes) of the monolithic value is irrelevant to the result of
    EVERY named modifier, up to the five parts, whenever it holds what the lazy path would compute (`PreOK`, i.e.
    property C09: true for every `URL(s)` inside the C09 guard, `C08_bridge_preOK`): replacing it by ANY other such
    value `p` — in particular by `none` — changes nothing.  For `.fn f` the side condition is `PreBlind e f`. -/
theorem C08_bridge_pre_irrelevant (e : Env) (m : YMod) (hb : m.PreBlind e) (u : Url) (p : Option NetPre)
    (args : List Url) (hu : PreOK e u) (hp : PreOK e { u with pre := p }) :
    (yapply e m { u with pre := p } args).map Url.parts = (yapply e m u args).map Url.parts :=
  yapply_parts_only_all e m hb _ _ args args rfl rfl hp hu

/-- … and for the modifiers that do not read the netloc-derived entries (all but with_user, with_password, with_host,
    with_port, origin) it is irrelevant UNCONDITIONALLY: for every `p` whatsoever -/
theorem C08_bridge_pre_irrelevant_unconditional (e : Env) (m : YMod) (hm : ∀ f, m ≠ .fn f) (hn : m.readsNet = false)
    (u : Url) (p : Option NetPre) (args : List Url) :
    (yapply e m { u with pre := p } args).map Url.parts = (yapply e m u args).map Url.parts :=
  yapply_parts_only e m hm _ _ args args rfl rfl (fun h => by rw [hn] at h; cases h) (fun h => by rw [hn] at h; cases h)

/-- the `pre` fields of URL-valued ARGUMENTS (the reference of `join`) are irrelevant unconditionally, for every
    derivation -/
theorem C08_bridge_args_pre_irrelevant (e : Env) (m : YMod) (u : Url) (args args' : List Url)
    (ha : args.map Url.parts = args'.map Url.parts) :
    (yapply e m u args).map Url.parts = (yapply e m u args').map Url.parts := by
  apply map_parts_of_map_twin
  rw [← yapply_args_twin e m u args, ← yapply_args_twin e m u args', list_twin_of_parts ha]

/-- the general form: a derivation is a function of the five parts of its receiver and of its URL arguments -/
theorem C08_bridge_modifier_reads_only_parts (e : Env) (m : YMod) (hb : m.PreBlind e) (u u' : Url)
    (args args' : List Url) (hp : u.parts = u'.parts) (ha : args.map Url.parts = args'.map Url.parts)
    (hu : PreOK e u) (hu' : PreOK e u') :
    (yapply e m u args).map Url.parts = (yapply e m u' args').map Url.parts :=
  yapply_parts_only_all e m hb u u' args args' hp ha hu hu'

/-- where `PreOK` comes from: every monolithic constructor result has it — `URL(s)` for keys inside the C09 guard
    (`C09_pickle_lossless`), `URL(s, encoded=True)`, `URL.build`, `from_parts` (no pre-fill) — and so has every result
    of a named modifier applied to such values -/
theorem C08_bridge_preOK (e : Env) :
    (∀ (key : YKey e) (u : Url), ymodel e key = .ok u → PreOK e u) ∧
    (∀ u : Url, u.pre = none → PreOK e u) ∧
    (∀ (m : YMod), (∀ f, m ≠ .fn f) → ∀ (u : Url) (args : List Url), PreOK e u → (∀ x ∈ args, PreOK e x) →
      ∀ r, yapply e m u args = .ok r → PreOK e r) :=
  ⟨preOK_ymodel e, fun _ h => preOK_of_pre_none e h, fun m hm u args hu ha r hr => yapply_preOK e m hm u args hu ha r hr⟩

/-- which `.fn f` satisfy the side condition: every named modifier (with any fixed URL arguments), every function of
    the five parts and `net`, and — closure under sequencing — every CHAIN of such functions -/
theorem C08_bridge_preBlind_instances (e : Env) :
    (∀ (m : YMod), (∀ f, m ≠ .fn f) → ∀ args : List Url,
      PreBlind e (fun u => yapply e m u args) ∧ ((∀ x ∈ args, PreOK e x) → PreStable e (fun u => yapply e m u args))) ∧
    (∀ g : Parts → R NetPre → R Url, PreBlind e (fun u => g u.parts (net e u))) ∧
    (∀ f g : Url → R Url, PreBlind e f → PreStable e f → PreBlind e g → PreBlind e (fun u => f u >>= g)) ∧
    (∀ f g : Url → R Url, PreStable e f → PreStable e g → PreStable e (fun u => f u >>= g)) := by
  refine ⟨fun m hm args => ⟨fun u hu => ?_, fun ha u r hu hr => yapply_preOK e m hm u args hu ha r hr⟩,
    fun g u hu => ?_, preBlind_bind e, preStable_bind e⟩
  · exact yapply_parts_only e m hm _ _ args args rfl rfl (fun _ => preOK_twin e u) (fun _ => hu)
  · show (g (pickleTwin u).parts (net e (pickleTwin u))).map Url.parts = _
    rw [hu]; rfl

/-- a chain of named modifiers `u.m₁(…).m₂(…)…` as ONE derivation `.fn` -/
def ychain (e : Env) : List YMod → Url → R Url
  | [], u => .ok u
  | m :: ms, u => yapply e m u [] >>= ychain e ms

theorem C08_bridge_preBlind_chain (e : Env) (ms : List YMod) (hms : ∀ m ∈ ms, ∀ f, m ≠ .fn f) :
    PreBlind e (ychain e ms) ∧ PreStable e (ychain e ms) := by
  induction ms with
  | nil => exact ⟨fun u hu => rfl, fun u r hu hr => by cases hr; exact hu⟩
  | cons m ms ih =>
    obtain ⟨h1, h2⟩ := ih (fun m' hm' => hms m' (List.mem_cons_of_mem _ hm'))
    obtain ⟨a1, a2⟩ := (C08_bridge_preBlind_instances e).1 m (hms m List.mem_cons_self) []
    exact ⟨preBlind_bind e _ _ a1 (a2 (fun x hx => by cases hx)) h1,
      preStable_bind e _ _ (a2 (fun x hx => by cases hx)) h2⟩

/-! ## the end-to-end bridge for every derivation, `join` and `.fn f` included -/

/-- the handle a constructor call creates denotes (the five parts of) the monolithic model's value, for ever -/
theorem C08_bridge_valOf_new (e : Env) (hf : Parts → Int) (ops1 ops2 : List (Op YCache (YKey e) YMod))
    (key : YKey e) (u : Url) (hk : ymodel e key = .ok u) :
    valOf (specHandles (yarlMSem e hf) [] (ops1 ++ .new key :: ops2)) (specHandles (yarlMSem e hf) [] ops1).length
      = some u.parts := by
  rw [specHandles_append]
  exact valOf_appended _ _ _ _ ops2 (by simp only [specStep, construct_eq_ymodel, hk, Except.map, Except.toOption])

/-- "a function of its arguments only", against the MONOLITHIC values: a derivation (ANY modifier: named, `join` with
    its URL argument handle, `.fn f`) after ANY history outputs what the model's modifier computes from monolithic
    values `u`, `us` of its handles — pre-filled entries and all —: the five parts of the result or the exception. -/
theorem C08_bridge_mod_output (e : Env) (hf : Parts → Int) (pol : YCache → Policy (YKey e))
    (caps : YCache → Nat → Option Nat) (gen : YCache → Nat) (ops : List (Op YCache (YKey e) YMod))
    (h : Nat) (m : YMod) (args : List Nat)
    (hb : m.PreBlind e)                                  -- `True` unless `m = .fn f`; needed: C08_bridge_fn_needs_preBlind
    (u : Url) (us : List Url)
    (hp : valOf (specHandles (yarlMSem e hf) [] ops) h = some u.parts)               -- handle `h` denotes `u`
    (hps : valsOf (specHandles (yarlMSem e hf) [] ops) args = some (us.map Url.parts)) -- handles `args` denote `us`
    (hu : PreOK e u) :                                   -- C09; needed: C08_bridge_pre_relevant_without_preOK
    (run (yarlMSem e hf) pol { caps := caps, gen := gen } [] (ops ++ [.mod h m args])).getLast? =
      some (.handle ((yapply e m u us).map Url.parts)) := by
  rw [C08_multi_mod_reads_only_parts (yarl_prefillOK e hf) (yarl_memoNamesOK e hf), hp, hps]
  simp only [C08_multi_yarl_modVal]
  rw [yapply_on_parts e m hb u us hu]

/-- END TO END for EVERY derivation (any modifier, any URL argument handles): handles
    `h`, `args` denote the monolithic values `u`, `us`; ANY history; `d = u.<m>(*us)`; ANY history; accessor `name` on
    `d`: the answer is the accessor on what the MODEL's modifier computes from the monolithic values themselves. -/
theorem C08_bridge_mod_then_read (e : Env) (hf : Parts → Int) (pol : YCache → Policy (YKey e))
    (caps : YCache → Nat → Option Nat) (gen : YCache → Nat) (ops ops' : List (Op YCache (YKey e) YMod))
    (h : Nat) (m : YMod) (args : List Nat) (hb : m.PreBlind e) (u : Url) (us : List Url)
    (hp : valOf (specHandles (yarlMSem e hf) [] ops) h = some u.parts)
    (hps : valsOf (specHandles (yarlMSem e hf) [] ops) args = some (us.map Url.parts))
    (hu : PreOK e u)
    (r : Url) (hr : yapply e m u us = .ok r)             -- the model's modifier succeeds on the monolithic values
    (name : String) (hname : name ≠ sortKeyName) :
    (run (yarlMSem e hf) pol { caps := caps, gen := gen } []
        (ops ++ .mod h m args :: ops' ++ [.read (specHandles (yarlMSem e hf) [] ops).length name])).getLast? =
      some (.value (.acc (acc e (pickleTwin r) name))) ∧
    -- … which is the accessor on the monolithic result `r` itself when its pre-filled entries are the C09 ones
    -- (always for a named modifier on `PreOK` arguments: `C08_bridge_preOK`)
    (PreOK e r → acc e (pickleTwin r) name = acc e r name) := by
  refine ⟨?_, fun hrk => CacheInst.acc_twin_of_net e r hrk name⟩
  obtain ⟨r', hr', htw⟩ := yapply_on_parts_ok e m hb u us hu r hr
  rw [C08_multi_yarl_mod_read e hf pol caps gen ops ops' h m args name u.parts (us.map Url.parts) r' hp hps hr',
    if_neg hname, htw]

/-- the same for the memoised `_sort_key` property of the derived URL (the one read excluded above): it is the key
    tuple `eqKey r` of the monolithic result -/
theorem C08_bridge_mod_then_sort_key (e : Env) (hf : Parts → Int) (pol : YCache → Policy (YKey e))
    (caps : YCache → Nat → Option Nat) (gen : YCache → Nat) (ops ops' : List (Op YCache (YKey e) YMod))
    (h : Nat) (m : YMod) (args : List Nat) (hb : m.PreBlind e) (u : Url) (us : List Url)
    (hp : valOf (specHandles (yarlMSem e hf) [] ops) h = some u.parts)
    (hps : valsOf (specHandles (yarlMSem e hf) [] ops) args = some (us.map Url.parts))
    (hu : PreOK e u) (r : Url) (hr : yapply e m u us = .ok r) :
    (run (yarlMSem e hf) pol { caps := caps, gen := gen } []
        (ops ++ .mod h m args :: ops' ++ [.read (specHandles (yarlMSem e hf) [] ops).length sortKeyName])).getLast? =
      some (.value (.key (eqKey r))) := by
  obtain ⟨r', hr', htw⟩ := yapply_on_parts_ok e m hb u us hu r hr
  rw [C08_multi_yarl_mod_read e hf pol caps gen ops ops' h m args sortKeyName u.parts (us.map Url.parts) r' hp hps hr',
    if_pos rfl]
  -- `eqKey` reads the five parts only
  have : eqKey r' = eqKey r := by
    show eqKey (pickleTwin r') = eqKey (pickleTwin r)
    rw [htw]
  rw [this]

/-- the instance for a freshly constructed receiver: it comes from ANY constructor
    (`URL(s)` inside the C09 guard, `URL(s, encoded=True)`, `URL.build`, `from_parts`), `m` is ANY derivation incl.
    `.fn f` (side condition `PreBlind e f`; for a chain of named modifiers: `C08_bridge_preBlind_chain`) -/
theorem C08_bridge_ctor_mod_read (e : Env) (hf : Parts → Int) (pol : YCache → Policy (YKey e))
    (caps : YCache → Nat → Option Nat) (gen : YCache → Nat)
    (key : YKey e) (u : Url) (hk : ymodel e key = .ok u)
    (ops ops' : List (Op YCache (YKey e) YMod)) (m : YMod) (hb : m.PreBlind e)
    (r : Url) (hr : yapply e m u [] = .ok r) (name : String) (hname : name ≠ sortKeyName) :
    (run (yarlMSem e hf) pol { caps := caps, gen := gen } []
        ((.new key :: ops) ++ .mod 0 m [] :: ops' ++
          [.read (specHandles (yarlMSem e hf) [] (.new key :: ops)).length name])).getLast? =
      some (.value (.acc (acc e (pickleTwin r) name))) :=
  (C08_bridge_mod_then_read e hf pol caps gen (.new key :: ops) ops' 0 m [] hb u []
    (C08_bridge_valOf_new e hf [] ops key u hk) rfl (preOK_ymodel e key u hk) r hr name hname).1

/-- its case `URL(s)`, named modifier, no URL argument.
    END TO END against the monolithic model: `u = URL(s)` (whose model value carries the pre-filled cache), ANY
    history, `d = u.<modifier>(…)` for any modifier of the model, ANY history, accessor `name` on `d`: the answer
    is the accessor on (the five parts of) what the model's modifier computes from `u` itself -/
theorem C08_multi_yarl_mod_read_model (e : Env) (hf : Parts → Int) (pol : YCache → Policy (YKey e))
    (caps : YCache → Nat → Option Nat) (gen : YCache → Nat) (k : GoodKey e) (u : Url) (hu : encodeUrl e k.1 = .ok u)
    (ops ops' : List (Op YCache (YKey e) YMod)) (m : YMod) (hm : ∀ f, m ≠ .fn f) (r : Url)
    (hr : yapply e m u [] = .ok r) (name : String) (hname : name ≠ sortKeyName) :
    (run (yarlMSem e hf) pol { caps := caps, gen := gen } []
        ((.new (.url k) :: ops) ++ .mod 0 m [] :: ops' ++
          [.read (specHandles (yarlMSem e hf) [] (.new (.url k) :: ops)).length name])).getLast? =
      some (.value (.acc (acc e (pickleTwin r) name))) := by
  exact C08_bridge_ctor_mod_read e hf pol caps gen (.url k) u hu ops ops' m
    (by cases m <;> first | trivial | exact absurd rfl (hm _)) r hr name hname

/-- `join`, end to end: `a = <ctor 1>`, `b = <ctor 2>` (any two constructors, e.g. two `URL(s)` inside the C09 guard, whose
    monolithic values both carry pre-filled entries), ANY history, `d = a.join(b)`, ANY history, accessor `name` on
    `d`: the answer is the model's accessor on the model's `join e ua ub` of the two monolithic values — whether `d`
    is the object `b` itself, came out of the `from_parts` cache or was freshly built. -/
theorem C08_bridge_join_then_read (e : Env) (hf : Parts → Int) (pol : YCache → Policy (YKey e))
    (caps : YCache → Nat → Option Nat) (gen : YCache → Nat)
    (ka kb : YKey e) (ua ub : Url) (ha : ymodel e ka = .ok ua) (hb : ymodel e kb = .ok ub)
    (ops ops' : List (Op YCache (YKey e) YMod)) (name : String) (hname : name ≠ sortKeyName) :
    (run (yarlMSem e hf) pol { caps := caps, gen := gen } []
        ((.new ka :: .new kb :: ops) ++ .mod 0 .join [1] :: ops' ++
          [.read (specHandles (yarlMSem e hf) [] (.new ka :: .new kb :: ops)).length name])).getLast? =
      some (.value (.acc (acc e (join e ua ub) name))) := by
  have h0 := C08_bridge_valOf_new e hf [] (.new kb :: ops) ka ua ha
  have h1 := C08_bridge_valOf_new e hf [.new ka] ops kb ub hb
  have hl : (specHandles (yarlMSem e hf) [] [.new ka]).length = 1 := rfl
  rw [hl] at h1
  have hl0 : (specHandles (yarlMSem e hf) [] ([] : List (Op YCache (YKey e) YMod))).length = 0 := rfl
  rw [hl0] at h0
  have hps : valsOf (specHandles (yarlMSem e hf) [] (.new ka :: .new kb :: ops)) [1] = some ([ub].map Url.parts) := by
    show valsOf (specHandles (yarlMSem e hf) [] ([.new ka] ++ .new kb :: ops)) [1] = _
    simp only [valsOf, h1, List.map_cons, List.map_nil]
  obtain ⟨h2, h3⟩ := C08_bridge_mod_then_read e hf pol caps gen (.new ka :: .new kb :: ops) ops' 0 .join [1] trivial
    ua [ub] h0 hps (preOK_ymodel e ka ua ha) (join e ua ub) rfl name hname
  rw [h2, h3 (yapply_preOK e .join (fun f hh => by cases hh) ua [ub] (preOK_ymodel e ka ua ha)
    (fun x hx => by rw [List.mem_singleton.mp hx]; exact preOK_ymodel e kb ub hb) _ rfl)]

/-! ### the side conditions are needed -/

/-- a function that looks at the pre-filled entries directly (no method of `URL` does) -/
def preSpy : Url → R Url := fun u => if u.pre.isSome then .error .valueError else .ok u

/-- WITHOUT `PreOK` the `pre` field IS relevant (so "`yapply m (u with pre := p) = yapply m u` for all `p`" is false
    for the five `readsNet` modifiers): a value whose `pre` claims a password the netloc "h" does not have gives
    "a:x@h" under `with_user("a")`, its parts alone give "a@h".  No constructor of the model produces such a value. -/
theorem C08_bridge_pre_relevant_without_preOK :
    let u : Url := fromParts "http".toStr "h".toStr [] [] []
    let p : Option NetPre := some ⟨some "h".toStr, none, none, some "x".toStr⟩
    ¬ PreOK envPy { u with pre := p } ∧
    (yapply envPy (.withUser (some "a".toStr)) { u with pre := p } []).map Url.parts
      = .ok ⟨"http".toStr, "a:x@h".toStr, [], [], []⟩ ∧
    (yapply envPy (.withUser (some "a".toStr)) u []).map Url.parts = .ok ⟨"http".toStr, "a@h".toStr, [], [], []⟩ := by
  refine ⟨?_, by str_lits; decide +kernel, by str_lits; decide +kernel⟩
  unfold PreOK
  decide +kernel

/-- for an ARBITRARY `.fn f` the bridge is false (hence the side condition `PreBlind`): `preSpy` raises on the
    monolithic value of `URL("http://user@example.com:8080/p")` (which carries pre-filled entries, correct ones), while
    in the cache machine — as in Python, where a method sees the object, not the model's `pre` field — it returns the URL -/
theorem C08_bridge_fn_needs_preBlind :
    ¬ PreBlind envC preSpy ∧
    ∃ u, encodeUrl envC YarlRun.k1.1 = .ok u ∧ PreOK envC u ∧ yapply envC (.fn preSpy) u [] = .error .valueError ∧
      ∀ (hf : Parts → Int) (pol : YCache → Policy (YKey envC)) (caps : YCache → Nat → Option Nat) (gen : YCache → Nat)
        (ops : List (Op YCache (YKey envC) YMod)),
        (run (yarlMSem envC hf) pol { caps := caps, gen := gen } []
          ((.new (.url YarlRun.k1) :: ops) ++ [.mod 0 (.fn preSpy) []])).getLast? = some (.handle (.ok u.parts)) := by
  have hu : encodeUrl envC YarlRun.k1.1 = .ok { YarlRun.u1 with pre := some YarlRun.pre1 } := YarlRun.encode_k1
  have hok : PreOK envC { YarlRun.u1 with pre := some YarlRun.pre1 } :=
    preOK_ymodel envC (.url YarlRun.k1) _ hu
  refine ⟨fun hb => ?_, _, hu, hok, rfl, ?_⟩
  · have := hb _ hok
    cases this
  · intro hf pol caps gen ops
    rw [C08_multi_mod_reads_only_parts (yarl_prefillOK envC hf) (yarl_memoNamesOK envC hf),
      show valOf (specHandles (yarlMSem envC hf) [] (.new (.url YarlRun.k1) :: ops)) 0 = some _ from
        C08_bridge_valOf_new envC hf [] ops (.url YarlRun.k1) _ hu]
    simp only [valsOf, C08_multi_yarl_modVal]
    rfl

/-! ## "exceptions are not cached" as theorems about the multi-cache machine -/

section Failed
variable {I K M E P V : Type} [DecidableEq I] [DecidableEq K]
open Yarl.Cache (lookup insertTable)
open Yarl.CacheLemmas

/-- no table — of any cache, of any generation (discarded ones included) — has an entry for key `k` -/
def NoEntry (w : World I K P V) (k : K) : Prop := ∀ i g id, (k, id) ∉ w.tables i g

namespace R3

omit [DecidableEq I] in
theorem lookup_none_of_noEntry {w : World I K P V} {k : K} (h : NoEntry w k) (i : I) (g : Nat) :
    lookup (w.tables i g) k = none := by
  cases hl : lookup (w.tables i g) k with
  | none => rfl
  | some id => exact absurd (lookup_mem hl) (h i g id)

omit [DecidableEq I] [DecidableEq K] in
theorem noEntry_init (caps : I → Nat → Option Nat) (gen : I → Nat) (k : K) :
    NoEntry ({ caps := caps, gen := gen } : World I K P V) k := by
  intro i g id h; cases h

omit [DecidableEq K] in
theorem noEntry_updTable_nil {w : World I K P V} {k : K} (h : NoEntry w k) (i : I) (g : Nat) :
    ∀ j g' id, (k, id) ∉ updTable w.tables i g [] j g' := by
  intro j g' id hm
  unfold updTable at hm
  split at hm
  · cases hm
  · exact h j g' id hm

/-- a call that raises: the world is returned as it was, no handle -/
theorem call_out_error (sem : Sem I K M E P V) (pol : I → Policy K) (w : World I K P V) (k : K) (x : E)
    (h : (call sem pol w k).2.2 = .handle (.error x)) :
    (call sem pol w k).1 = w ∧ (call sem pol w k).2.1 = none := by
  unfold call at h ⊢
  simp only at h ⊢
  cases hl : lookup (w.tables (sem.cacheOf k) (w.gen (sem.cacheOf k))) k with
  | some id =>
    simp only [hl] at h ⊢
    cases ho : w.heap[id]? with
    | some o => simp only [ho] at h; cases h
    | none => exact ⟨rfl, rfl⟩
  | none =>
    simp only [hl] at h ⊢
    cases hk : sem.construct k with
    | error y => exact ⟨rfl, rfl⟩
    | ok p => simp only [hk] at h; cases h

/-- a derivation that raises: the world changes only after the derivation has its result object -/
theorem modCall_out_error (sem : Sem I K M E P V) (pol : I → Policy K) (w : World I K P V) (hs : List (Option Nat))
    (hh : Nat) (m : M) (args : List Nat) (x : E) (h : (modCall sem pol w hs hh m args).2.2 = .handle (.error x)) :
    (modCall sem pol w hs hh m args).1 = w := by
  revert h
  unfold modCall
  cases objOf w hs hh with
  | none => exact fun _ => rfl
  | some y =>
    obtain ⟨id, o⟩ := y
    cases objsOf w hs args with
    | none => exact fun _ => rfl
    | some xs =>
      dsimp only
      cases (slotOf sem m args id).bind (lookup w.dmemo) with
      | some rid =>
        dsimp only
        cases w.heap[rid]? with
        | some r => exact fun h => nomatch h
        | none => exact fun _ => rfl
      | none =>
        dsimp only
        cases sem.modify m o.parts (xs.map fun y => y.2.parts) with
        | raise e => exact fun _ => rfl
        | same j => exact fun h => nomatch h
        | via k =>
          intro h
          obtain ⟨h1, h2⟩ := call_out_error sem pol w k x h
          simp only [h2, h1]

theorem call_failed (sem : Sem I K M E P V) (pol : I → Policy K) (w : World I K P V) (k : K) (x : E)
    (hk : sem.construct k = .error x) : (call sem pol w k).1 = w := by
  unfold call
  simp only
  split
  · split <;> rfl
  · simp only [hk]

theorem noEntry_call (sem : Sem I K M E P V) (pol : I → Policy K) (w : World I K P V) (k k' : K) (x : E)
    (hk : sem.construct k = .error x) (h : NoEntry w k) : NoEntry (call sem pol w k').1 k := by
  unfold call
  simp only
  split
  · split <;> exact h
  · cases hk' : sem.construct k' with
    | error y => exact h
    | ok p =>
      intro i g id hm
      simp only [alloc] at hm
      unfold updTable at hm
      split at hm
      · rcases mem_insertTable _ _ _ _ _ _ hm with he | he
        · have : k = k' := congrArg Prod.fst he
          rw [this, hk'] at hk; cases hk
        · exact h _ _ id he
      · exact h i g id hm

omit [DecidableEq I] [DecidableEq K] in
theorem noEntry_of_tables {w w' : World I K P V} {k : K} (ht : w'.tables = w.tables) (h : NoEntry w k) :
    NoEntry w' k := by
  intro i g id; rw [ht]; exact h i g id

theorem noEntry_modCall (sem : Sem I K M E P V) (pol : I → Policy K) (w : World I K P V) (hs : List (Option Nat))
    (hh : Nat) (m : M) (args : List Nat) (k : K) (x : E) (hk : sem.construct k = .error x) (h : NoEntry w k) :
    NoEntry (modCall sem pol w hs hh m args).1 k := by
  unfold modCall
  split
  · simp only
    split
    · split <;> exact h
    · split
      · exact h
      · exact noEntry_of_tables (dstore_tables _ _ _) h
      · rename_i k' _
        have hc := noEntry_call sem pol w k k' x hk h
        split
        · exact noEntry_of_tables (dstore_tables _ _ _) hc
        · exact hc
  · exact h

theorem noEntry_step (sem : Sem I K M E P V) (pol : I → Policy K) (w : World I K P V) (hs : List (Option Nat))
    (op : Op I K M) (k : K) (x : E) (hk : sem.construct k = .error x) (h : NoEntry w k) :
    NoEntry (step sem pol w hs op).1 k := by
  cases op with
  | new k' => exact noEntry_call sem pol w k k' x hk h
  | read hh name =>
    simp only [step]
    split
    · split
      · exact h
      · split
        · exact h
        · exact noEntry_of_tables rfl h
    · exact h
  | hash hh =>
    simp only [step]
    split
    · split
      · exact h
      · exact noEntry_of_tables rfl h
    · exact h
  | cmp c h1 h2 =>
    simp only [step]
    split <;> exact h
  | twin hh =>
    simp only [step]
    split
    · exact noEntry_of_tables rfl h
    · exact h
  | mod hh m args => exact noEntry_modCall sem pol w hs hh m args k x hk h
  | clear i => exact noEntry_updTable_nil h i (w.gen i)
  | configure i c => exact noEntry_updTable_nil h i (w.gen i + 1)

theorem noEntry_runWorld (sem : Sem I K M E P V) (pol : I → Policy K) (k : K) (x : E)
    (hk : sem.construct k = .error x) (ops : List (Op I K M)) :
    ∀ (w : World I K P V) (hs : List (Option Nat)), NoEntry w k → NoEntry (runWorld sem pol w hs ops).1 k := by
  induction ops with
  | nil => intro w hs h; exact h
  | cons op ops ih => intro w hs h; exact ih _ _ (noEntry_step sem pol w hs op k x hk h)

theorem step_new_failed (sem : Sem I K M E P V) (pol : I → Policy K) (w : World I K P V) (hs : List (Option Nat))
    (k : K) (x : E) (hk : sem.construct k = .error x) (h : NoEntry w k) :
    step sem pol w hs (.new k) = (w, hs ++ [none], .handle (.error x)) := by
  simp only [step, call, lookup_none_of_noEntry h, hk]

theorem run_new_failed (sem : Sem I K M E P V) (pol : I → Policy K) (k : K) (x : E)
    (hk : sem.construct k = .error x) (ops : List (Op I K M)) :
    ∀ (w : World I K P V) (hs : List (Option Nat)) (n : Nat), NoEntry w k → ops[n]? = some (.new k) →
      (run sem pol w hs ops)[n]? = some (.handle (.error x)) := by
  induction ops with
  | nil => intro w hs n _ hn; cases hn
  | cons op ops ih =>
    intro w hs n h hn
    cases n with
    | zero =>
      simp only [List.getElem?_cons_zero, Option.some.injEq] at hn
      subst hn
      simp only [run, List.getElem?_cons_zero, step_new_failed sem pol w hs k x hk h]
    | succ n =>
      simp only [List.getElem?_cons_succ] at hn
      simp only [run, List.getElem?_cons_succ]
      exact ih _ _ n (noEntry_step sem pol w hs op k x hk h) hn

omit [DecidableEq I] [DecidableEq K] in
/-- a coherent world has no entry for a raising key -/
theorem noEntry_of_wok {sem : Sem I K M E P V} {w : World I K P V} (hw : WOK sem w) (k : K) (x : E)
    (hk : sem.construct k = .error x) : NoEntry w k := by
  intro i g id hm
  obtain ⟨o, _, hc⟩ := hw.tables i g (k, id) hm
  simp only [Sem.flat, hk, Except.toOption] at hc
  cases hc

end R3

open R3

/-- "exceptions are not cached", one step, ANY world (coherent or not), any capacities and policies: a constructor call
    `k` whose `construct k` raises returns the world AS IT WAS — the heap, EVERY table of every cache and generation,
    the derivation memo, the capacities and the bindings of the globals are unchanged (nothing is allocated, nothing
    is stored) — and the handle list gets a dead entry. -/
theorem C08_bridge_failed_ctor_world_unchanged (sem : Sem I K M E P V) (pol : I → Policy K) (w : World I K P V)
    (hs : List (Option Nat)) (k : K) (x : E) (hk : sem.construct k = .error x) :
    (step sem pol w hs (.new k)).1 = w ∧
    (NoEntry w k → step sem pol w hs (.new k) = (w, hs ++ [none], .handle (.error x))) :=
  ⟨call_failed sem pol w k x hk, step_new_failed sem pol w hs k x hk⟩

/-- more generally: WHATEVER operation outputs an exception — a constructor call or a derivation (a modifier that
    raises, or whose `from_parts` call raises) — returns the world as it was -/
theorem C08_bridge_raising_op_no_effect (sem : Sem I K M E P V) (pol : I → Policy K) (w : World I K P V)
    (hs : List (Option Nat)) (op : Op I K M) (x : E) (h : (step sem pol w hs op).2.2 = .handle (.error x)) :
    (step sem pol w hs op).1 = w := by
  cases op with
  | new k => exact (call_out_error sem pol w k x h).1
  | read hh name =>
    simp only [step] at h
    split at h
    · split at h
      · cases h
      · split at h <;> cases h
    · cases h
  | hash hh =>
    simp only [step] at h
    split at h
    · split at h <;> cases h
    · cases h
  | cmp c h1 h2 =>
    simp only [step] at h
    split at h <;> cases h
  | twin hh =>
    simp only [step] at h
    split at h <;> cases h
  | mod hh m args => exact modCall_out_error sem pol w hs hh m args x h
  | clear i => cases h
  | configure i c => cases h

/-- … hence NO table ever holds an entry for a raising key: after ANY program from the empty world (any capacities,
    policies, initial bindings; NO side condition on the semantics) every table of every cache and every generation
    has no entry for `k`, so every look-up of `k` misses -/
theorem C08_bridge_failed_ctor_never_cached (sem : Sem I K M E P V) (pol : I → Policy K)
    (caps : I → Nat → Option Nat) (gen : I → Nat) (k : K) (x : E) (hk : sem.construct k = .error x)
    (ops : List (Op I K M)) :
    NoEntry (runWorld sem pol { caps := caps, gen := gen } [] ops).1 k ∧
    ∀ i g, lookup ((runWorld sem pol { caps := caps, gen := gen } [] ops).1.tables i g) k = none :=
  ⟨noEntry_runWorld sem pol k x hk ops _ _ (noEntry_init caps gen k),
   fun i g => lookup_none_of_noEntry (noEntry_runWorld sem pol k x hk ops _ _ (noEntry_init caps gen k)) i g⟩

/-- … and calling it again after ANY history raises the SAME error: EVERY occurrence of `.new k` in ANY program
    outputs `.handle (.error x)` — the first call, a repeated call, a call after clears / rebindings / other calls.
    No side condition on the semantics (`PrefillOK` / `MemoNamesOK` are not needed). -/
theorem C08_bridge_failed_ctor_same_error (sem : Sem I K M E P V) (pol : I → Policy K)
    (caps : I → Nat → Option Nat) (gen : I → Nat) (k : K) (x : E) (hk : sem.construct k = .error x)
    (ops : List (Op I K M)) :
    (∀ n : Nat, ops[n]? = some (Op.new k) →
      (run sem pol ({ caps := caps, gen := gen } : World I K P V) [] ops)[n]? = some (Out.handle (.error x))) ∧
    (run sem pol ({ caps := caps, gen := gen } : World I K P V) [] (ops ++ [.new k])).getLast? = some (.handle (.error x)) ∧
    (run sem pol ({ caps := caps, gen := gen } : World I K P V) [] (.new k :: ops ++ [.new k])).head? = some (.handle (.error x)) ∧
    (run sem pol ({ caps := caps, gen := gen } : World I K P V) [] (.new k :: ops ++ [.new k])).getLast? = some (.handle (.error x)) := by
  have key : ∀ ops : List (Op I K M), ∀ n, ops[n]? = some (Op.new k) →
      (run sem pol ({ caps := caps, gen := gen } : World I K P V) [] ops)[n]? = some (Out.handle (.error x)) :=
    fun ops n hn => run_new_failed sem pol k x hk ops _ _ n (noEntry_init caps gen k) hn
  have last : ∀ ops : List (Op I K M),
      (run sem pol ({ caps := caps, gen := gen } : World I K P V) [] (ops ++ [Op.new k])).getLast? =
        some (Out.handle (.error x)) := by
    intro ops
    rw [List.getLast?_eq_getElem?, run_length, List.length_append, List.length_singleton, Nat.add_sub_cancel]
    exact key _ _ (by simp)
  refine ⟨key ops, last ops, ?_, last (.new k :: ops)⟩
  rw [List.head?_eq_getElem?]
  exact key _ 0 rfl

/-- the same with THREADS (C20): after ANY schedule of any threads started on a coherent pool, no table has an entry
    for a raising key (here through the coherence invariant `TCoherent` of the threaded machine, hence with its two side conditions) -/
theorem C08_bridge_failed_ctor_never_cached_threads {sem : Sem I K M E P V} (hp : PrefillOK sem) (hn : MemoNamesOK sem)
    (pol : I → Policy K) (w0 : World I K P V) (pool : List (Option Nat)) (spool : List (Option P))
    (hc : Coherent sem w0 pool spool) (progs : List (List (Op I K M))) (sched : List Nat)
    (k : K) (x : E) (hk : sem.construct k = .error x) :
    NoEntry (runSched sem pol w0 (progs.map (fun p => ({ prog := p, hs := pool } : Thread I K M E P V))) sched).1 k :=
  noEntry_of_wok (runSched_coherent hp hn pol w0 _ spool progs sched (C20_multi_init_coherent sem w0 pool spool hc progs)).1
    k x hk

end Failed

end Yarl

/-! ## non-vacuity: the hypotheses of the theorems above are satisfiable by non-trivial inputs -/
namespace Yarl.R3.Checks
open Yarl Yarl.MultiCache Yarl.MultiInst Yarl.CacheInst Yarl.YarlRun Yarl.MultiRun
open Yarl.Cache (Val acc GoodKey Policy Obj)

/-- `a = URL("http://user@example.com:8080/p")`: its monolithic value carries (correct) pre-filled entries -/
def ua : Url := { u1 with pre := some pre1 }
theorem ha : ymodel envC (.url k1) = .ok ua := encode_k1
example : ua.pre ≠ none ∧ PreOK envC ua := ⟨by decide +kernel, preOK_ymodel envC _ _ ha⟩

/-- `b = URL("../q?x=1", encoded=True)`, `c = URL("HTTP://user@EXAMPLE.com:8080/p")` (pre-filled as well) -/
def ub : Url := { scheme := [], netloc := [], path := "../q".toStr, query := "x=1".toStr, fragment := [] }
theorem hb : ymodel envC (.encoded "../q?x=1".toStr) = .ok ub := by decide +kernel
theorem hc : ymodel envC (.url k2) = .ok ua := by decide +kernel

-- `C08_bridge_pre_irrelevant` at a `readsNet` modifier, with `pre` really present on one side and absent on the other
example : (yapply envC (.withUser (some "bob".toStr)) ua []).map Url.parts =
    (yapply envC (.withUser (some "bob".toStr)) (pickleTwin ua) []).map Url.parts :=
  C08_bridge_pre_irrelevant envC (.withUser (some "bob".toStr)) trivial (pickleTwin ua) (some pre1) []
    (preOK_twin envC ua) (preOK_ymodel envC _ _ ha)
example : (yapply envC (.withUser (some "bob".toStr)) ua []).map Url.parts =
    .ok ⟨"http".toStr, "bob@example.com:8080".toStr, "/p".toStr, [], []⟩ := by
  unfold ua u1 pre1; str_lits; decide +kernel

-- `join`: the model's value for `a.join(b)`, and the end-to-end theorem instantiated (receiver AND argument objects
-- of the machine vs. monolithic values; `c` is a second pre-filled value used as the argument)
example : join envC ua ub = fromParts "http".toStr "user@example.com:8080".toStr "/q".toStr "x=1".toStr [] := by
  unfold ua ub u1 pre1; str_lits; decide +kernel
example (pol : YCache → Policy (YKey envC)) (caps : YCache → Nat → Option Nat) (gen : YCache → Nat)
    (ops ops' : List (Op YCache (YKey envC) YMod)) :
    (run (yarlMSem envC hf0) pol { caps := caps, gen := gen } []
        ((.new (.url k1) :: .new (.encoded "../q?x=1".toStr) :: ops) ++ .mod 0 .join [1] :: ops' ++
          [.read (specHandles (yarlMSem envC hf0) [] (.new (.url k1) :: .new (.encoded "../q?x=1".toStr) :: ops)).length
            "str"])).getLast? =
      some (.value (.acc (acc envC (join envC ua ub) "str"))) :=
  C08_bridge_join_then_read envC hf0 pol caps gen _ _ ua ub ha hb ops ops' "str" (by str_lits; decide +kernel)
example : acc envC (join envC ua ub) "str" = .str (.ok "http://user@example.com:8080/q?x=1".toStr) := by
  unfold ua ub u1 pre1; str_lits; decide +kernel
-- a reference with another scheme is returned ITSELF — pre-filled entries and all — by the model's `join`
example : join envC ub ua = ua ∧ (join envC ub ua).pre ≠ none := by unfold ua ub u1 pre1; str_lits; decide +kernel
example (pol : YCache → Policy (YKey envC)) (caps : YCache → Nat → Option Nat) (gen : YCache → Nat)
    (ops ops' : List (Op YCache (YKey envC) YMod)) :
    (run (yarlMSem envC hf0) pol { caps := caps, gen := gen } []
        ((.new (.encoded "../q?x=1".toStr) :: .new (.url k2) :: ops) ++ .mod 0 .join [1] :: ops' ++
          [.read (specHandles (yarlMSem envC hf0) [] (.new (.encoded "../q?x=1".toStr) :: .new (.url k2) :: ops)).length
            "raw_host"])).getLast? =
      some (.value (.acc (acc envC (join envC ub ua) "raw_host"))) :=
  C08_bridge_join_then_read envC hf0 pol caps gen _ _ ub ua hb hc ops ops' "raw_host" (by str_lits; decide +kernel)

-- `.fn f` with `f` a chain of named modifiers: `a.with_user("bob").parent`
def chain1 : List YMod := [.withUser (some "bob".toStr), .parent]
example : ychain envC chain1 ua = .ok (fromParts "http".toStr "bob@example.com:8080".toStr [] [] []) := by
  unfold chain1 ua u1 pre1; str_lits; decide +kernel
example (pol : YCache → Policy (YKey envC)) (caps : YCache → Nat → Option Nat) (gen : YCache → Nat)
    (ops ops' : List (Op YCache (YKey envC) YMod)) :
    (run (yarlMSem envC hf0) pol { caps := caps, gen := gen } []
        ((.new (.url k1) :: ops) ++ .mod 0 (.fn (ychain envC chain1)) [] :: ops' ++
          [.read (specHandles (yarlMSem envC hf0) [] (.new (.url k1) :: ops)).length "str"])).getLast? =
      some (.value (.acc (acc envC (pickleTwin (fromParts "http".toStr "bob@example.com:8080".toStr [] [] [])) "str"))) :=
  C08_bridge_ctor_mod_read envC hf0 pol caps gen (.url k1) ua ha ops ops' (.fn (ychain envC chain1))
    (C08_bridge_preBlind_chain envC chain1 (by
      intro m hm f hf
      simp only [chain1, List.mem_cons, List.not_mem_nil, or_false] at hm
      rcases hm with rfl | rfl <;> cases hf)).1
    _ (by str_lits; decide +kernel) "str" (by str_lits; decide +kernel)

-- raising constructors: `URL.build(port=True)` (TypeError) in the URL machine, `_encode_host("a b", True)` (ValueError)
-- in the string-cache machine
def badBuild : YKey envC := .build { portKind := 1 }
theorem badBuild_raises : (yarlMSem envC hf0).construct badBuild = .error .typeError := by decide +kernel
theorem badHost_raises : (strSem envC.o).construct (.host "a b".toStr true) = .error .valueError := by decide +kernel

example (pol : YCache → Policy (YKey envC)) (caps : YCache → Nat → Option Nat) (gen : YCache → Nat)
    (ops : List (Op YCache (YKey envC) YMod)) :
    (run (yarlMSem envC hf0) pol { caps := caps, gen := gen } [] (.new badBuild :: ops ++ [.new badBuild])).getLast? =
      some (.handle (.error .typeError)) :=
  (C08_bridge_failed_ctor_same_error (yarlMSem envC hf0) pol caps gen badBuild .typeError badBuild_raises ops).2.2.2
example (pol : SCache → Policy SKey) (caps : SCache → Nat → Option Nat) (gen : SCache → Nat)
    (ops : List (Op SCache SKey Empty)) (i : SCache) (g : Nat) :
    Yarl.Cache.lookup ((runWorld (strSem envC.o) pol { caps := caps, gen := gen } [] ops).1.tables i g)
      (.host "a b".toStr true) = none :=
  (C08_bridge_failed_ctor_never_cached (strSem envC.o) pol caps gen _ .valueError badHost_raises ops).2 i g
-- by evaluation: the raising call between successful ones, before and after a clear and a rebinding; the tables hold the
-- successful key only
example : run (strSem envC.o) (fun _ => lruPol) { caps := fun _ _ => some 2 } []
    [.new (.host "a b".toStr true), .new (.host "EXAMPLE.com".toStr false), .new (.host "a b".toStr true),
     .clear .encodeHost, .configure .encodeHost none, .new (.host "a b".toStr true)] =
    [.handle (.error .valueError), .handle (.ok "example.com".toStr), .handle (.error .valueError), .unit, .unit,
     .handle (.error .valueError)] := by str_lits; decide +kernel
example : ((runWorld (strSem envC.o) (fun _ => lruPol) { caps := fun _ _ => some 2 } []
    [.new (.host "a b".toStr true), .new (.host "EXAMPLE.com".toStr false), .new (.host "a b".toStr true)]).1.tables
      .encodeHost 0).map (·.2) = [0] := by str_lits; decide +kernel

end Yarl.R3.Checks
