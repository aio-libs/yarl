import YarlProofs.C11HeadlineMore
import YarlProofs.C11Encoded
import YarlProofs.C12Headline
import YarlProofs.C06Headline
import YarlProofs.C16More2
import YarlProofs.C16Idn
import YarlProofs.C03Bracket
import YarlProofs.C03Idn
import YarlProofs.C09Bracket
import YarlProofs.C09Idn
import YarlModel.Dyn
/-!
# C11 — every modifier changes only its own component: the general theorem over `net`, and what it needs

Vocabulary introduced here (all `Prop`-valued abbreviations, spelled out below):
`C11_AuthorityModifiersOK e u user pw h port` — sentence 1 of C11 for with_user (non-empty quoted form / quoted form "" /
`None`), with_password, with_host, with_port on `u`, for the raw components `(user, pw, h, port)`; each result is `Written`.
`C11_HostSet e u user pw port hs eh rh` — `with_host(hs)` succeeded, stored host text `eh`, `raw_host` reads `rh`, rest kept.
`C11_SameAuthority e v u` — the 12 authority-derived accessors agree.  `C11_KeepsAuthority e u v` — scheme and stored
authority text equal, `v` is `u` or has no cache, accessors of `v` = those of `pickleTwin u` (= those of `u` when the cache
of `u` agrees with its text).  `C11_QueryFrame`, `C11_PathFrame` — the frames of the query / path operations.

Contents, in order:
 * `C11_modifiers_of_components`: the authority modifiers read only the cached-or-parsed components `net e u`; if these
   are `(user, pw, h, port)` with `HostOK h`, sentence 1 holds whatever the stored text.  Its instances by how the
   components are known: `_of_written`, `_of_cached_written`, `_of_invariant`, and further down constructor results from
   the cache alone, bracketed non-IPv6 hosts, IDN hosts, the empty host (through `C11_cached_arbitrary_authority`,
   C11Encoded.lean, with its exceptions (E1)/(E2)).
 * `with_user(x)` for an `x` that quotes to "" drops the user and keeps the password (`C11_with_user_empty`); without an
   authority every authority modifier and `origin()` raise (`C11_authority_modifiers_need_authority`, `C11_dyn_…`).
 * `with_host` in terms of the argument TEXT, by kind of argument (`C11_with_host_name` … `_rejects_char`), over
   `R9c11.with_host_core` / `hostSet_or_rejected`; the guard `eh ≠ ""` (`C11_with_host_answer_nonempty`) and the
   hypothetical case without it (`C11_with_host_empty_answer`).
 * the path modifiers keep scheme and authority accessor by accessor (`C11_path_modifiers_keep_authority`); frame and
   read-back of the query / fragment / path operations in one statement each (`C11_*_reads_back`, composing C12 / C06).
 * Python-level instances and non-vacuity.
Namespace `R9c11` holds the helpers of this file.
-/
namespace Yarl
open NetlocLemmas HeadB EagerLemmas HostLemmas EncTrue CtorMods AuthMod

/-! ## vocabulary -/

/-- "the authority modifiers of `u` behave as sentence 1 of C11 says, for the raw components `(user, pw, h, port)`":
    each conjunct names the result `v`, what the four raw accessors read on it, the unchanged other parts, and that
    `v` is again `Written` (no cache; stored authority = the `make_netloc` text, host in brackets iff it has a ':').
    Conjunct 2 is `with_user(x)` for an `x` whose quoted form is "" (`x = ""`, or lone surrogates only): the user
    is DROPPED and the password KEPT. -/
def C11_AuthorityModifiersOK (e : Env) (u : Url) (user pw : Option Str) (h : Str) (port : Option Nat) : Prop :=
  (∀ x, PyStr x → q e Gen.QUOTER x ≠ [] →
    ∃ v, withUser e u (some x) = .ok v ∧ rawUser e v = .ok (some (q e Gen.QUOTER x)) ∧
      rawPassword e v = .ok pw ∧ rawHost e v = .ok (some h) ∧ explicitPort e v = .ok port ∧
      v.scheme = u.scheme ∧ v.path = u.path ∧ v.query = u.query ∧ v.fragment = u.fragment ∧
      Written (q e Gen.QUOTER) v (some (q e Gen.QUOTER x)) pw h port) ∧
  (∀ x, q e Gen.QUOTER x = [] →
    ∃ v, withUser e u (some x) = .ok v ∧ rawUser e v = .ok none ∧
      rawPassword e v = .ok pw ∧ rawHost e v = .ok (some h) ∧ explicitPort e v = .ok port ∧
      v.scheme = u.scheme ∧ v.path = u.path ∧ v.query = u.query ∧ v.fragment = u.fragment ∧
      Written (q e Gen.QUOTER) v none pw h port) ∧
  (∃ v, withUser e u none = .ok v ∧ rawUser e v = .ok none ∧ rawPassword e v = .ok none ∧
      rawHost e v = .ok (some h) ∧ explicitPort e v = .ok port ∧
      v.scheme = u.scheme ∧ v.path = u.path ∧ v.query = u.query ∧ v.fragment = u.fragment ∧
      Written (q e Gen.QUOTER) v none none h port) ∧
  (∀ np, ∃ v, withPassword e u np = .ok v ∧ rawPassword e v = .ok (np.map (q e Gen.QUOTER)) ∧
      rawUser e v = .ok user ∧ rawHost e v = .ok (some h) ∧ explicitPort e v = .ok port ∧
      v.scheme = u.scheme ∧ v.path = u.path ∧ v.query = u.query ∧ v.fragment = u.fragment ∧
      Written (q e Gen.QUOTER) v user (np.map (q e Gen.QUOTER)) h port) ∧
  (∀ hs eh, hs ≠ [] → encodeHost e.o hs true = .ok eh → eh ≠ [] →
    ∃ v, withHost e u hs = .ok v ∧ rawHost e v = .ok (some (unbracket eh)) ∧
      rawUser e v = .ok user ∧ rawPassword e v = .ok pw ∧ explicitPort e v = .ok port ∧
      v.scheme = u.scheme ∧ v.path = u.path ∧ v.query = u.query ∧ v.fragment = u.fragment ∧
      Written (q e Gen.QUOTER) v user pw (unbracket eh) port) ∧
  (∀ np : Option Int, (∀ p, np = some p → 0 ≤ p ∧ p ≤ 65535) →
    ∃ v, withPort e u np 0 = .ok v ∧ explicitPort e v = .ok (np.map Int.toNat) ∧
      rawUser e v = .ok user ∧ rawPassword e v = .ok pw ∧ rawHost e v = .ok (some h) ∧
      v.scheme = u.scheme ∧ v.path = u.path ∧ v.query = u.query ∧ v.fragment = u.fragment ∧
      Written (q e Gen.QUOTER) v user pw h (np.map Int.toNat))

/-- "`with_host(hs)` succeeded: the stored host text is `eh`, `raw_host` reads `rh`, every other raw component and
    the other four parts are unchanged, and the result is again `Written`" -/
def C11_HostSet (e : Env) (u : Url) (user pw : Option Str) (port : Option Nat) (hs eh rh : Str) : Prop :=
  ∃ v, withHost e u hs = .ok v ∧
    v.netloc = makeNetloc (q e Gen.QUOTER) user pw (some eh) port false ∧
    rawHost e v = .ok (some rh) ∧ hostSubcomponent e v = .ok (some eh) ∧
    rawUser e v = .ok user ∧ rawPassword e v = .ok pw ∧ explicitPort e v = .ok port ∧
    v.scheme = u.scheme ∧ v.path = u.path ∧ v.query = u.query ∧ v.fragment = u.fragment ∧
    Written (q e Gen.QUOTER) v user pw rh port

/-- every authority-derived accessor of `v` returns what it returns on `u` (as `R` values) -/
def C11_SameAuthority (e : Env) (v u : Url) : Prop :=
  rawUser e v = rawUser e u ∧ rawPassword e v = rawPassword e u ∧ rawHost e v = rawHost e u ∧
  explicitPort e v = explicitPort e u ∧ user e v = user e u ∧ password e v = password e u ∧
  host e v = host e u ∧ port e v = port e u ∧ hostSubcomponent e v = hostSubcomponent e u ∧
  hostPortSubcomponent e v = hostPortSubcomponent e u ∧ isDefaultPort e v = isDefaultPort e u ∧
  authority e v = authority e u

/-- "`v` keeps scheme and authority of `u`" -/
def C11_KeepsAuthority (e : Env) (u v : Url) : Prop :=
  v.scheme = u.scheme ∧ v.netloc = u.netloc ∧ (v = u ∨ v.pre = none) ∧
  (v.pre = none → C11_SameAuthority e v (pickleTwin u)) ∧
  (net e (pickleTwin u) = net e u → C11_SameAuthority e v u)


/-- the frame of a query operation: path and fragment are the stored texts of `u`, scheme and authority are kept -/
def C11_QueryFrame (e : Env) (u v : Url) : Prop :=
  v.path = u.path ∧ v.fragment = u.fragment ∧ C11_KeepsAuthority e u v

/-- "keeps scheme and authority, clears query and fragment unless keep_query / keep_fragment" -/
def C11_PathFrame (e : Env) (u v : Url) (keepQuery keepFragment : Bool) : Prop :=
  C11_KeepsAuthority e u v ∧
  v.query = (if keepQuery then u.query else []) ∧ v.fragment = (if keepFragment then u.fragment else [])

/-! ## helper lemmas -/
namespace R9c11

theorem quoter_mem : Gen.QUOTER ∈ Gen.allQuoters := by decide

theorem makeNetloc_user_nil (qf : Str → Str) (pw host : Option Str) (port : Option Nat) :
    makeNetloc qf (some []) pw host port false = makeNetloc qf none pw host port false := by
  cases host <;> cases pw <;> cases port <;> simp [makeNetloc]


/-- `_encode_host(hs, validate_host=True)` for an ASCII text that is no IP literal: lower-cased, or rejected -/
theorem encodeHost_ascii_name (o : Oracles) (hs : Str) (ha : isAscii hs = true)
    (hip : parseIP (partition 37 hs).1 = none) :
    encodeHost o hs true =
      if notRegName (lower hs) = true then .error .valueError else .ok (lower hs) := by
  rw [encodeHost_noIp true (noIp_of_ascii o ha hip), regPath_of_ascii o true ha]
  rfl

theorem no91_of_regName {z : Str} (h : notRegName (lower z) = false) : 91 ∉ z := by
  intro hm
  have hm' : 91 ∈ lower z := (HostLemmas.mem_lower 91 (by omega) z).2 hm
  rcases HostLemmas.notRegName_spec _ h 91 hm' with h1 | h1
  · omega
  · have : mem 91 Gen.regNameChars = false := by decide
    rw [this] at h1; cases h1

theorem no91_of_ipv4 {s : Str} {o4 : List Nat} (h : parseIPv4 s = some o4) : 91 ∉ s := by
  intro hm
  rcases parseIPv4_chars h 91 hm with h1 | h1
  · omega
  · simp [isDigitC] at h1

theorem ipv4_ne_nil {s : Str} {o4 : List Nat} (h : parseIPv4 s = some o4) : s ≠ [] := by
  rintro rfl; simp [parseIPv4, mem] at h


theorem ipRes_ne_nil {hs eh : Str} (h : ipRes hs = some eh) : eh ≠ [] := by
  cases hp : parseIP (partition 37 hs).1 with
  | none =>
    rw [ipRes_eq_none.2 hp] at h
    cases h
  | some ip =>
    cases ip with
    | v6 h8 =>
      obtain rfl := Option.some.inj ((ipRes_of_v6 hp).symm.trans h)
      simp
    | v4 o4 =>
      obtain rfl := Option.some.inj ((ipRes_of_v4 hp).symm.trans h)
      rintro rfl
      exact ipv4_ne_nil (parseIP_some_v4.1 hp) rfl

theorem written_mk (qf : Str → Str) (s p q f : Str) (U P : Option Str) (h : Str) (port : Option Nat)
    (hU : UserOK U) (hH : HostOK h) (hP : ∀ k, port = some k → k ≤ 65535) :
    Written qf (fromParts s (makeNetloc qf U P (some (bracket h)) port false) p q f) U P h port :=
  ⟨rfl, rfl, hU, hH, hP⟩

theorem written_reads (e : Env) {qf : Str → Str} {v : Url} {U P : Option Str} {h : Str} {port : Option Nat}
    (w : Written qf v U P h port) :
    rawUser e v = .ok U ∧ rawPassword e v = .ok P ∧ rawHost e v = .ok (some h) ∧ explicitPort e v = .ok port ∧
    hostSubcomponent e v = .ok (some (bracket h)) := by
  exact acc_of_net e v _ w.net

/-- a `Written` URL has an authority, and its components are the four it was written from -/
theorem written_net (e : Env) {qf : Str → Str} {u : Url} {U P : Option Str} {h : Str} {port : Option Nat}
    (w : Written qf u U P h port) :
    u.netloc ≠ [] ∧ net e u = .ok { rawHost := some h, explicitPort := port, rawUser := U, rawPassword := P } := by
  refine ⟨?_, w.net⟩
  rw [w.netloc]
  exact makeNetloc_ne_nil qf U P w.host.1 port

theorem sameAuthority_of_net (e : Env) (u v : Url) (hs : v.scheme = u.scheme) (hn : v.netloc = u.netloc)
    (hnet : net e v = net e u) : C11_SameAuthority e v u := by
  have h1 : rawUser e v = rawUser e u := by unfold rawUser; rw [hnet]
  have h2 : rawPassword e v = rawPassword e u := by unfold rawPassword; rw [hnet]
  have h3 : rawHost e v = rawHost e u := by unfold rawHost; rw [hnet]
  have h4 : explicitPort e v = explicitPort e u := by unfold explicitPort; rw [hnet]
  have h5 : hostSubcomponent e v = hostSubcomponent e u := by unfold hostSubcomponent; rw [h3]
  have h6 : host e v = host e u := by unfold host; rw [h3]
  have h7 : user e v = user e u := by unfold user; rw [h1]
  have h8 : password e v = password e u := by unfold password; rw [h2]
  have h9 : port e v = port e u := by unfold port; rw [h4, hs]
  refine ⟨h1, h2, h3, h4, h7, h8, h6, h9, h5, ?_, ?_, ?_⟩
  · unfold hostPortSubcomponent; rw [h3, h4, hs]
  · unfold isDefaultPort; rw [h4, hs, hn]
  · unfold authority; rw [h7, h8, h6, h9]

theorem keepsAuthority_of (e : Env) (u v : Url) (hs : v.scheme = u.scheme) (hn : v.netloc = u.netloc)
    (hpre : v = u ∨ v.pre = none) : C11_KeepsAuthority e u v := by
  have key : v.pre = none → net e v = net e (pickleTwin u) := by
    intro h
    rw [net_of_pre_none e v h, net_of_pre_none e (pickleTwin u) rfl]
    exact lazyNet_congr e (pickleTwin u) v hn
  refine ⟨hs, hn, hpre, fun h => sameAuthority_of_net e (pickleTwin u) v hs hn (key h), fun hnet => ?_⟩
  rcases hpre with rfl | h
  · exact sameAuthority_of_net e v v rfl rfl rfl
  · exact sameAuthority_of_net e u v hs hn ((key h).trans hnet)

end R9c11
open R9c11

/-! ## the authority modifiers read nothing but the cached-or-parsed components -/

/-- The general theorem (no `Written` side condition, for every URL whose raw
    host is a non-empty text without '@' '[' ']'): whatever the STORED authority text is (brackets around a host
    without ':' as in "[v1.x]:80", a pre-filled cache or none), if the four raw components of `u` are
    `(user, pw, h, port)` — `net e u` is the cache when filled, the lazy parse otherwise — then sentence 1 of C11 holds
    for all five authority modifiers, with_user("") included, and every result stores the `make_netloc` text.
    No `GoodAuthority`, no cache-agreement hypothesis: the modifiers never look at the stored text. -/
theorem C11_modifiers_of_components (e : Env) (u : Url) (user pw : Option Str) (h : Str) (port : Option Nat)
    (hN : net e u = .ok { rawHost := some h, explicitPort := port, rawUser := user, rawPassword := pw })
    (hne : u.netloc ≠ [])                       -- there is an authority (else ValueError: `C11_authority_modifiers_need_authority`)
    (hU : UserOK user)                          -- a present user is non-empty, without ':' (true of every parse: `EncTrue.split_facts`)
    (hH : HostOK h)                             -- host non-empty, without '@' '[' ']' (empty host: `C11_cached_arbitrary_authority`)
    (hP : ∀ p, port = some p → p ≤ 65535) :
    C11_AuthorityModifiersOK e u user pw h port := by
  -- a re-made authority is `Written`, and reads back
  have W : ∀ (U P : Option Str) (h' : Str) (port' : Option Nat), UserOK U → HostOK h' →
      (∀ p, port' = some p → p ≤ 65535) →
      rawUser e (remake e u U P (bracket h') port') = .ok U ∧ rawPassword e (remake e u U P (bracket h') port') = .ok P ∧
      rawHost e (remake e u U P (bracket h') port') = .ok (some h') ∧
      explicitPort e (remake e u U P (bracket h') port') = .ok port' ∧
      Written (q e Gen.QUOTER) (remake e u U P (bracket h') port') U P h' port' := by
    intro U P h' port' hU' hH' hP'
    have Wv := written_mk (q e Gen.QUOTER) u.scheme u.path u.query u.fragment U P h' port' hU' hH' hP'
    obtain ⟨r1, r2, r3, r4, _⟩ := written_reads e Wv
    exact ⟨r1, r2, r3, r4, Wv⟩
  refine ⟨fun x hx hq => ?_, fun x hq => ?_, ?_, fun np => ?_, fun hs eh hsne henc heh => ?_, fun np hnp => ?_⟩
  · obtain ⟨r1, r2, r3, r4, Wv⟩ := W (some (q e Gen.QUOTER x)) pw h port
      (fun t ht => by cases ht; exact ⟨hq, DecLemmas.quoter_no_colon e.b x hx⟩) hH hP
    exact ⟨_, withUser_some_of_net hne hN x, r1, r2, r3, r4, rfl, rfl, rfl, rfl, Wv⟩
  · obtain ⟨r1, r2, r3, r4, Wv⟩ := W none pw h port nofun hH hP
    have hv := withUser_some_of_net hne hN x
    rw [hq] at hv
    exact ⟨_, hv.trans (congrArg (fun n => Except.ok (fromParts u.scheme n u.path u.query u.fragment))
      (makeNetloc_user_nil _ pw _ port)), r1, r2, r3, r4, rfl, rfl, rfl, rfl, Wv⟩
  · obtain ⟨r1, r2, r3, r4, Wv⟩ := W none none h port nofun hH hP
    exact ⟨_, withUser_none_of_net hne hN, r1, r2, r3, r4, rfl, rfl, rfl, rfl, Wv⟩
  · obtain ⟨r1, r2, r3, r4, Wv⟩ := W user (np.map (q e Gen.QUOTER)) h port hU hH hP
    exact ⟨_, withPassword_of_net hne hN np, r2, r1, r3, r4, rfl, rfl, rfl, rfl, Wv⟩
  · obtain ⟨hwf, hh2⟩ := C11_encoded_host_wellformed e.o hs eh heh henc
    obtain ⟨hv, r1, r2, r3, r4, _⟩ := withHost_reads hne hN hU hP hsne henc hwf hh2
    exact ⟨_, hv, r3, r1, r2, r4, rfl, rfl, rfl, rfl, ⟨rfl, by rw [hwf]; rfl, hU, hh2, hP⟩⟩
  · obtain ⟨r1, r2, r3, r4, Wv⟩ := W user pw h (np.map Int.toNat) hU hH (fun k hk => by
      cases np with
      | none => cases hk
      | some i =>
        have := hnp i rfl
        simp only [Option.map_some, Option.some.injEq] at hk
        omega)
    exact ⟨_, withPort_of_net hne hN hnp, r4, r1, r2, r3, rfl, rfl, rfl, rfl, Wv⟩

/-- instance: a `Written` URL (the hypothesis of the C11Headline theorems) -/
theorem C11_modifiers_of_written (e : Env) (qf : Str → Str) (u : Url) (user pw : Option Str) (h : Str)
    (port : Option Nat) (w : Written qf u user pw h port) : C11_AuthorityModifiersOK e u user pw h port := by
  obtain ⟨hne, hN⟩ := written_net e w
  exact C11_modifiers_of_components e u user pw h port hN hne w.user w.host w.port

/-- instance: a URL WITH a pre-filled cache whose cache-less twin is `Written` (the hypotheses of
    `C11_headline_cached_modifiers`) -/
theorem C11_modifiers_of_cached_written (e : Env) (qf : Str → Str) (u : Url) (user pw : Option Str) (h : Str)
    (port : Option Nat) (hnet : net e (pickleTwin u) = net e u) (w : Written qf (pickleTwin u) user pw h port) :
    C11_AuthorityModifiersOK e u user pw h port := by
  have hN : net e (pickleTwin u) = .ok { rawHost := some h, explicitPort := port, rawUser := user, rawPassword := pw } := by
    rw [w.eq]; exact net_std e qf user pw h port _ _ _ _ w.user w.host w.port
  rw [hnet] at hN
  exact C11_modifiers_of_components e u user pw h port hN
    (by have := w.netloc; show u.netloc ≠ []; rw [show u.netloc = (pickleTwin u).netloc from rfl, this]
        exact makeNetloc_ne_nil qf user pw w.host.1 port) w.user w.host w.port

/-- instance: every URL satisfying the invariant `NetlocCanon` (constructor / build results on supported input and
    everything derived from them), with its own raw components -/
theorem C11_modifiers_of_invariant (e : Env) (u : Url) (hc : NetlocCanon e u) (hne : u.netloc ≠ []) :
    ∃ user pw h port,
      rawUser e u = .ok user ∧ rawPassword e u = .ok pw ∧ rawHost e u = .ok (some h) ∧ explicitPort e u = .ok port ∧
      C11_AuthorityModifiersOK e u user pw h port := by
  obtain ⟨user, pw, h, port, w, a1, a2, a3, a4, hnet⟩ := C11_headline_written_of_invariant e u hc hne
  exact ⟨user, pw, h, port, a1, a2, a3, a4, C11_modifiers_of_cached_written e id u user pw h port hnet w⟩

/-! ## with_user("") and the authority modifiers on a URL without authority -/

/-- when does the userinfo quoter return ""?  For a Python string: exactly when every character is a lone
    surrogate (the quoter drops them: C09_requote_lone_surrogate) — in particular for "". -/
theorem C11_quoter_empty_iff (e : Env) (x : Str) (hx : PyStr x) :
    q e Gen.QUOTER x = [] ↔ ∀ c ∈ x, isSurrogate c = true :=
  quoter_eq_nil_iff quoter_mem e x hx

/-- `with_user(x)` for an `x` that quotes to "" (`x = ""`, or lone surrogates only) on a
    `Written` URL: the user is DROPPED (reads back `None`), the password is KEPT, host (brackets) and port and the
    other four parts are unchanged; the result is `Written` with user `None` — its stored authority is
    `make_netloc(None, pw, host, port)`, i.e. ":pw@host" when there is a password, which `split_netloc` reads back as
    (None, pw): every further modifier behaves per C11 (`C11_modifiers_of_written`).  It is NOT `with_user(None)`,
    which also drops the password: the two results differ as soon as there is a password. -/
theorem C11_with_user_empty (e : Env) (qf : Str → Str) (u : Url) (user pw : Option Str) (h : Str)
    (port : Option Nat) (x : Str) (w : Written qf u user pw h port)
    (hq : q e Gen.QUOTER x = []) :      -- `x = ""` or made of lone surrogates only: `C11_quoter_empty_iff`
    (∃ v, withUser e u (some x) = .ok v ∧
      v.netloc = makeNetloc (q e Gen.QUOTER) none pw (some (bracket h)) port false ∧
      rawUser e v = .ok none ∧ rawPassword e v = .ok pw ∧ rawHost e v = .ok (some h) ∧
      explicitPort e v = .ok port ∧
      v.scheme = u.scheme ∧ v.path = u.path ∧ v.query = u.query ∧ v.fragment = u.fragment ∧
      Written (q e Gen.QUOTER) v none pw h port ∧
      C11_AuthorityModifiersOK e v none pw h port) ∧
    (pw ≠ none → withUser e u (some x) ≠ withUser e u none) := by
  obtain ⟨_, h2, h3, _⟩ := C11_modifiers_of_written e qf u user pw h port w
  obtain ⟨v, hv, r1, r2, r3, r4, f1, f2, f3, f4, W⟩ := h2 x hq
  refine ⟨⟨v, hv, W.netloc, r1, r2, r3, r4, f1, f2, f3, f4, W, C11_modifiers_of_written e _ v none pw h port W⟩, ?_⟩
  intro hpw heq
  obtain ⟨v', hv', _, r2', _⟩ := h3
  rw [hv, hv'] at heq
  cases heq
  rw [r2] at r2'
  cases r2'
  exact hpw rfl

/-- the same on a URL WITH a (consistent) pre-filled cache / with the invariant: see conjunct 2 of
    `C11_AuthorityModifiersOK` in `C11_modifiers_of_cached_written`, `C11_modifiers_of_invariant`.  The invariant is
    kept: the result of `with_user("")` on a `NetlocCanon` URL is `NetlocCanon` again. -/
theorem C11_with_user_empty_invariant (e : Env) (u v : Url) (x : Str) (hc : NetlocCanon e u) (hx : PyStr x)
    (hv : withUser e u (some x) = .ok v) : NetlocCanon e v :=
  C03_applyOp_netlocCanon e u hc (.withUser (some x)) (fun y hy => by cases hy; exact hx) trivial v hv

/-- On a URL WITHOUT authority (relative URL, "mailto:x") every authority modifier and `origin()` raise
    ValueError — unconditionally (cache or not; `with_user(str)` reads `raw_password` BEFORE the check, which cannot
    fail: the empty authority always parses); `with_port` raises TypeError first for a bool / non-int argument. -/
theorem C11_authority_modifiers_need_authority (e : Env) (u : Url) (hn : u.netloc = []) :
    (∀ x, withUser e u x = .error .valueError) ∧
    (∀ x, withPassword e u x = .error .valueError) ∧
    (∀ hs, withHost e u hs = .error .valueError) ∧
    (∀ p k, withPort e u p k = if k ≠ 0 then .error .typeError else .error .valueError) ∧
    origin e u = .error .valueError := by
  refine ⟨fun x => ?_, fun x => ?_, fun hs => ?_, fun p k => ?_, ?_⟩
  · cases x with
    | none => rw [withUser_none_eq, if_pos hn]
    | some s => rw [withUser_some_eq, if_pos hn]
  · rw [withPassword_eq, if_pos hn]
  · rw [withHost_eq, if_pos hn]
  · rw [withPort_eq, if_pos hn, ite_self]
  · rw [origin_eq, if_pos hn]

open Dyn in
/-- … at the Python level (arguments of any type, YarlModel/Dyn.lean): the `isinstance` gate comes first (TypeError
    for a wrong-typed argument), then "not allowed for relative URLs" (ValueError) -/
theorem C11_dyn_authority_modifiers_need_authority (e : Env) (u : Url) (hn : u.netloc = []) (o : PyObj) :
    (dynWithUser e u o = if (match o with | .none => true | _ => (strLike o).isSome) then .error .valueError
                         else .error .typeError) ∧
    (dynWithPassword e u o = if (match o with | .none => true | _ => (strLike o).isSome) then .error .valueError
                             else .error .typeError) ∧
    (dynWithHost e u o = if (strLike o).isSome then .error .valueError else .error .typeError) ∧
    (dynWithPort e u o = match o with
      | .none => .error .valueError | .int _ => .error .valueError | _ => .error .typeError) := by
  obtain ⟨h1, h2, h3, h4, _⟩ := C11_authority_modifiers_need_authority e u hn
  refine ⟨?_, ?_, ?_, ?_⟩
  · cases o <;> simp [dynWithUser, strLike, h1]
  · cases o <;> simp [dynWithPassword, strLike, h2]
  · cases o <;> simp [dynWithHost, strLike, h3]
  · cases o <;> simp [dynWithPort, h4]

/-! ## with_host: what the argument TEXT becomes (composition with C16), rejected arguments, the case "IDNA answers ''" -/

namespace R9c11
/-- the common core: `C11_headline_with_host` plus the stored text of the result -/
theorem with_host_core (e : Env) (qf : Str → Str) (u : Url) (user pw : Option Str) (h : Str)
    (port : Option Nat) (hs eh : Str) (w : Written qf u user pw h port) (hs_ne : hs ≠ [])
    (henc : encodeHost e.o hs true = .ok eh) (heh : eh ≠ []) :
    ∃ v, withHost e u hs = .ok v ∧
      v.netloc = makeNetloc (q e Gen.QUOTER) user pw (some eh) port false ∧
      rawHost e v = .ok (some (unbracket eh)) ∧ hostSubcomponent e v = .ok (some eh) ∧
      rawUser e v = .ok user ∧ rawPassword e v = .ok pw ∧ explicitPort e v = .ok port ∧
      v.scheme = u.scheme ∧ v.path = u.path ∧ v.query = u.query ∧ v.fragment = u.fragment ∧
      Written (q e Gen.QUOTER) v user pw (unbracket eh) port := by
  obtain ⟨hwf, hh2⟩ := C11_encoded_host_wellformed e.o hs eh heh henc
  obtain ⟨hne, hN⟩ := written_net e w
  obtain ⟨hv, r1, r2, r3, r4, r5⟩ := withHost_reads hne hN w.user w.port hs_ne henc hwf hh2
  exact ⟨_, hv, rfl, r3, r5, r1, r2, r4, rfl, rfl, rfl, rfl, ⟨rfl, by rw [hwf]; rfl, w.user, hh2, w.port⟩⟩

end R9c11

/-- `C11_headline_with_host` with the stored text: for ANY accepted argument (ASCII or not) with a non-empty
    encoding `eh = _encode_host(hs, validate_host=True)`: the stored host text is `eh`, `raw_host` reads
    `unbracket eh`, nothing else changes -/
theorem C11_hostSet_of_enc (e : Env) (qf : Str → Str) (u : Url) (user pw : Option Str) (h : Str)
    (port : Option Nat) (hs eh : Str) (w : Written qf u user pw h port) (hs_ne : hs ≠ [])
    (henc : encodeHost e.o hs true = .ok eh) (heh : eh ≠ []) :
    C11_HostSet e u user pw port hs eh (unbracket eh) :=
  with_host_core e qf u user pw h port hs eh w hs_ne henc heh

namespace R9c11
/-- `with_host(hs)` when `_encode_host` screens the argument with the test `c` and otherwise answers `X`:
    the host is set, or the call is rejected -/
theorem hostSet_or_rejected (e : Env) (qf : Str → Str) (u : Url) (user pw : Option Str) (h : Str)
    (port : Option Nat) (hs X : Str) (c : Bool) (w : Written qf u user pw h port) (hne : hs ≠ []) (hX : X ≠ [])
    (henc : encodeHost e.o hs true = if c = true then .error .valueError else .ok X) :
    (c = false → C11_HostSet e u user pw port hs X (unbracket X)) ∧
    (c = true → withHost e u hs = .error .valueError) := by
  constructor
  · intro hc
    rw [if_neg (by simp [hc])] at henc
    exact with_host_core e qf u user pw h port hs X w hne henc hX
  · intro hc
    rw [if_pos hc] at henc
    rw [withHost_eq, if_neg (written_net e w).1, if_neg hne, henc]
    rfl
end R9c11

/-- ASCII reg-name argument -/
theorem C11_with_host_name (e : Env) (qf : Str → Str) (u : Url) (user pw : Option Str) (h : Str)
    (port : Option Nat) (hs : Str) (w : Written qf u user pw h port)
    (hne : hs ≠ []) (ha : isAscii hs = true) (hip : parseIP (partition 37 hs).1 = none) :
    (notRegName (lower hs) = false → C11_HostSet e u user pw port hs (lower hs) (lower hs)) ∧
    (notRegName (lower hs) = true → withHost e u hs = .error .valueError) := by
  obtain ⟨h1, h2⟩ := hostSet_or_rejected e qf u user pw h port hs (lower hs) _ w hne (lower_ne_nil hne)
    (encodeHost_ascii_name e.o hs ha hip)
  refine ⟨fun hv => ?_, h2⟩
  have := h1 hv
  rwa [unbracket_of_no91 (no91_of_regName (by rwa [HostLemmas.lower_idem]))] at this

/-- IPv4 literal -/
theorem C11_with_host_ipv4 (e : Env) (qf : Str → Str) (u : Url) (user pw : Option Str) (h : Str)
    (port : Option Nat) (hs : Str) (o4 : List Nat) (w : Written qf u user pw h port)
    (h4 : parseIPv4 hs = some o4) : C11_HostSet e u user pw port hs hs hs := by
  have henc := C16_ipv4_kept e.o hs true o4 h4 (R5.v4_no37 h4)
  have := C11_hostSet_of_enc e qf u user pw h port hs _ w (ipv4_ne_nil h4) henc (ipv4_ne_nil h4)
  rwa [unbracket_of_no91 (no91_of_ipv4 h4)] at this

/-- IPv6 literal (written WITHOUT brackets in the argument), no zone id -/
theorem C11_with_host_ipv6 (e : Env) (qf : Str → Str) (u : Url) (user pw : Option Str) (h : Str)
    (port : Option Nat) (hs : Str) (h8 : List Nat) (w : Written qf u user pw h port)
    (h6 : parseIPv6 hs = some h8) (h37 : 37 ∉ hs) :
    C11_HostSet e u user pw port hs ([91] ++ ipv6ToStr h8 ++ [93]) (ipv6ToStr h8) := by
  have henc := HostLemmas.encodeHost_of_v6_plain e.o true h6 h37
  have hne : hs ≠ [] := by rintro rfl; simp [parseIPv6, mem] at h6
  have := C11_hostSet_of_enc e qf u user pw h port hs _ w hne henc (by simp)
  rwa [unbracket_wrapped] at this

/-- IPv6 literal with a zone id -/
theorem C11_with_host_ipv6_zone (e : Env) (qf : Str → Str) (u : Url) (user pw : Option Str) (h : Str)
    (port : Option Nat) (addr z : Str) (h8 : List Nat) (w : Written qf u user pw h port)
    (h6 : parseIPv6 addr = some h8) (h37 : 37 ∉ addr) :
    (notRegName (lower z) = false →
      C11_HostSet e u user pw port (addr ++ [37] ++ z) ([91] ++ ipv6ToStr h8 ++ [37] ++ z ++ [93])
        (ipv6ToStr h8 ++ [37] ++ z)) ∧
    (notRegName (lower z) = true → withHost e u (addr ++ [37] ++ z) = .error .valueError) := by
  have hp : partition 37 (addr ++ [37] ++ z) = (addr, true, z) := by
    simpa using partition_found 37 addr z h37
  have henc := C16_zone_kept_verbatim e.o (addr ++ [37] ++ z) true h8 (by rw [hp]; exact h6) (by rw [hp])
  rw [hp] at henc
  simp only [true_and] at henc
  have hne : addr ++ [37] ++ z ≠ [] := by simp
  obtain ⟨h1, h2⟩ := hostSet_or_rejected e qf u user pw h port _ _ _ w hne (by simp) henc
  refine ⟨fun hv => ?_, h2⟩
  have := h1 hv
  have hu : unbracket ([91] ++ ipv6ToStr h8 ++ [37] ++ z ++ [93]) = ipv6ToStr h8 ++ [37] ++ z := by
    have := unbracket_wrapped (ipv6ToStr h8 ++ [37] ++ z)
    simpa using this
  rwa [hu] at this

/-- IPv4 literal with a zone id (only when the text "looks like an IP": contains ':' or ends in a digit) -/
theorem C11_with_host_ipv4_zone (e : Env) (qf : Str → Str) (u : Url) (user pw : Option Str) (h : Str)
    (port : Option Nat) (addr z : Str) (o4 : List Nat) (w : Written qf u user pw h port)
    (h4 : parseIPv4 addr = some o4)
    (hl : 58 ∈ addr ++ [37] ++ z ∨ ∃ l, (addr ++ [37] ++ z).getLast? = some l ∧ isDigitC l = true) :
    (notRegName (lower z) = false →
      C11_HostSet e u user pw port (addr ++ [37] ++ z) (addr ++ [37] ++ z) (addr ++ [37] ++ z)) ∧
    (notRegName (lower z) = true → withHost e u (addr ++ [37] ++ z) = .error .valueError) := by
  have hp : partition 37 (addr ++ [37] ++ z) = (addr, true, z) := by
    simpa using partition_found 37 addr z (R5.v4_no37 h4)
  have henc := C16_zone_kept_verbatim_ipv4 e.o (addr ++ [37] ++ z) true o4 (by rw [hp]; exact h4) (by rw [hp]) hl
  rw [hp] at henc
  simp only [true_and] at henc
  have hne : addr ++ [37] ++ z ≠ [] := by simp
  obtain ⟨h1, h2⟩ := hostSet_or_rejected e qf u user pw h port _ _ _ w hne hne henc
  refine ⟨fun hv => ?_, h2⟩
  have := h1 hv
  have h91 : 91 ∉ addr ++ [37] ++ z := by
    simp only [List.mem_append, List.mem_singleton, not_or]
    exact ⟨⟨no91_of_ipv4 h4, by omega⟩, no91_of_regName hv⟩
  rwa [unbracket_of_no91 h91] at this

/-- ASCII arguments that are REJECTED (ValueError): any ASCII non-IP text with a character `c` outside the reg-name
    alphabet (after lower-casing; '%' is judged with the two characters that follow it) — in particular each of
    `: / ? # [ ] @` and the space.  So "a:b", a bracketed literal "[::1]", "a b", "a/b", "u@h" are all rejected. -/
theorem C11_with_host_rejects_char (e : Env) (qf : Str → Str) (u : Url) (user pw : Option Str) (h : Str)
    (port : Option Nat) (hs : Str) (c : Nat) (w : Written qf u user pw h port)
    (ha : isAscii hs = true) (hip : parseIP (partition 37 hs).1 = none)
    (hc : c ∈ hs) (h37 : c ≠ 37) (hbad : mem (lowerC c) Gen.regNameChars = false) :
    withHost e u hs = .error .valueError ∧
    (∀ d, d = 58 ∨ d = 47 ∨ d = 63 ∨ d = 35 ∨ d = 91 ∨ d = 93 ∨ d = 64 ∨ d = 32 →
      d ≠ 37 ∧ mem (lowerC d) Gen.regNameChars = false) := by
  have hne : hs ≠ [] := by rintro rfl; cases hc
  constructor
  · refine (C11_with_host_name e qf u user pw h port hs w hne ha hip).2 ?_
    cases hn : notRegName (lower hs) with
    | true => rfl
    | false =>
      exfalso
      have hm : lowerC c ∈ lower hs := by simp only [lower, List.mem_map]; exact ⟨c, hc, rfl⟩
      rcases HostLemmas.notRegName_spec _ hn _ hm with h1 | h1
      · have : c = 37 := by revert h1; unfold lowerC; split <;> omega
        exact h37 this
      · rw [hbad] at h1; cases h1
  · intro d hd
    rcases hd with rfl | rfl | rfl | rfl | rfl | rfl | rfl | rfl <;> exact ⟨by decide, by decide⟩

/-- the guard `eh ≠ []` of `C11_headline_with_host` holds for every ASCII argument, and for a non-ASCII one
    under the assumption `IdnaSaneAt` on the answers of the `idna` package -/
theorem C11_with_host_answer_nonempty (o : Oracles) (hs eh : Str) (hne : hs ≠ [])
    (hsane : isAscii hs = false → IdnaSaneAt o hs)
    (henc : encodeHost o hs true = .ok eh) : eh ≠ [] := by
  rcases encodeHost_casesV henc with ⟨hr, _⟩ | ⟨_, hreg⟩
  · exact ipRes_ne_nil hr
  · cases ha : isAscii hs with
    | true =>
      obtain ⟨rfl, _⟩ := (regPath_ok_of_ascii ha).1 hreg
      exact lower_ne_nil hne
    | false =>
      -- a sane answer holds no ':' (`notRegName_false_no_colon`): the re-entry on an answer with ':' is not taken
      obtain ⟨a, hi, ⟨_, rfl, _⟩ | ⟨h58, _⟩⟩ := regPath_idn_cases ha hreg
      · exact (Idn.idnaEncode_sane (hsane ha) hi).nonempty
      · have hno := notRegName_false_no_colon (Idn.idnaEncode_sane (hsane ha) hi).regName
        rw [hno] at h58; cases h58

/-- the excluded case analysed: `_encode_host` answers "" (possible only for a non-ASCII argument and an
    `idna` answer "": `C11_with_host_answer_nonempty`).  `with_host` then SUCCEEDS and writes an authority with an
    EMPTY host: user, password and port are kept; `raw_host` reads "" — or `None`, with an EMPTY stored authority
    (the URL has become relative), when there is no user, password or port. -/
theorem C11_with_host_empty_answer (e : Env) (qf : Str → Str) (u : Url) (user pw : Option Str) (h : Str)
    (port : Option Nat) (hs : Str) (w : Written qf u user pw h port) (hs_ne : hs ≠ [])
    (henc : encodeHost e.o hs true = .ok []) :
    ∃ v, withHost e u hs = .ok v ∧
      v.netloc = makeNetloc (q e Gen.QUOTER) user pw (some []) port false ∧
      (v.netloc = [] ↔ user = none ∧ pw = none ∧ port = none) ∧
      rawHost e v = .ok (if user = none ∧ pw = none ∧ port = none then none else some []) ∧
      rawUser e v = .ok user ∧ rawPassword e v = .ok pw ∧ explicitPort e v = .ok port ∧
      v.scheme = u.scheme ∧ v.path = u.path ∧ v.query = u.query ∧ v.fragment = u.fragment := by
  obtain ⟨hne, hN⟩ := written_net e w
  have hw := withHost_of_net hne hN hs_ne henc
  have hb : bracket ([] : Str) = [] := rfl
  have hnet := net_rebuilt e (q e Gen.QUOTER) user pw [] port u.scheme u.path u.query u.fragment w.user
    (by simp) (Or.inr ⟨by simp, by simp⟩) w.port
  have hnil := makeNetloc_eq_nil (q e Gen.QUOTER) user pw [] port w.user
  rw [hb] at hnet hnil
  obtain ⟨b1, b2, b3, b4, _⟩ := acc_of_net e _ _ hnet
  refine ⟨_, hw, rfl, ?_, ?_, b1, b2, b4, rfl, rfl, rfl, rfl⟩
  · show makeNetloc (q e Gen.QUOTER) user pw (some []) port false = [] ↔ _
    rw [hnil]; simp
  · refine b3.trans ?_
    simp

/-! ## the path modifiers keep scheme and authority, accessor by accessor -/

/-- with_path (BOTH values of `encoded`), with_name, with_suffix, `/` and joinpath (`makeChild`, both values of
    `encoded`) and parent: the result has the scheme and the stored authority text of `u`; it is `u` itself (parent of
    a URL with path "" or "/" and no query / fragment) or has NO pre-filled cache, so every authority-derived
    accessor reads the stored text lazily — the same values as on the cache-less twin of `u`, hence as on `u`
    whenever `u`'s cache agrees with its text (`C11_headline_cache_agrees`: constructor results under
    `GoodAuthority`, every URL with `NetlocCanon`; trivially when `u.pre = none`); query and fragment are cleared
    unless keep_query / keep_fragment.  (with_name / with_suffix have no `encoded` flag in the library either:
    `def with_name(self, name, *, keep_query=False, keep_fragment=False)`.) -/
theorem C11_path_modifiers_keep_authority (e : Env) (u : Url) :
    (∀ p encoded kq kf, C11_PathFrame e u (withPath e u p encoded kq kf) kq kf) ∧
    (∀ x kq kf v, withName e u x kq kf = .ok v → C11_PathFrame e u v kq kf) ∧
    (∀ x kq kf v, withSuffix e u x kq kf = .ok v → C11_PathFrame e u v kq kf) ∧
    (∀ paths encoded v, makeChild e u paths encoded = .ok v → C11_PathFrame e u v false false) ∧
    C11_PathFrame e u (parent u) false false := by
  refine ⟨?_, ?_, ?_, ?_, ?_⟩
  · intro p enc kq kf
    exact ⟨keepsAuthority_of e u _ rfl rfl (Or.inr rfl), rfl, rfl⟩
  · intro x kq kf v hv
    obtain ⟨p, rfl⟩ := ModShape.withRawName_frame (ModShape.withName_ok hv).2.2.2
    exact ⟨keepsAuthority_of e u _ rfl rfl (Or.inr rfl), rfl, rfl⟩
  · intro x kq kf v hv
    obtain ⟨_, _, _, _, _, _, _, hv⟩ := ModShape.withSuffix_ok hv
    obtain ⟨p, rfl⟩ := ModShape.withRawName_frame hv
    exact ⟨keepsAuthority_of e u _ rfl rfl (Or.inr rfl), rfl, rfl⟩
  · intro ps enc v hv
    obtain ⟨p, rfl⟩ := ModShape.makeChild_frame hv
    exact ⟨keepsAuthority_of e u _ rfl rfl (Or.inr rfl), rfl, rfl⟩
  · obtain ⟨a, b, c, d⟩ := C11_parent_frame u
    refine ⟨keepsAuthority_of e u _ a b ?_, c, d⟩
    rcases ModShape.parent_frame u with h | ⟨p, h⟩
    · exact Or.inl h
    · exact Or.inr (by rw [h]; rfl)


/-! ## frame + read-back in one theorem each (composition with C12 / C06) -/

namespace R9c11
/-- a result that is `u` itself, or `u` with a new query text and no cache -/
theorem qframe_of (e : Env) (u v : Url) (h : v = u ∨ ∃ qs, v = fromParts u.scheme u.netloc u.path qs u.fragment) :
    C11_QueryFrame e u v := by
  rcases h with rfl | ⟨qs, rfl⟩
  · exact ⟨rfl, rfl, keepsAuthority_of e v v rfl rfl (Or.inl rfl)⟩
  · exact ⟨rfl, rfl, keepsAuthority_of e u _ rfl rfl (Or.inr rfl)⟩
theorem qframe_withQuery (e : Env) (u v : Url) (a : QArg) (hv : withQuery e u a = .ok v) : C11_QueryFrame e u v :=
  qframe_of e u v (Step.of_withQuery hv).query_cases
theorem qframe_extendQuery (e : Env) (u v : Url) (a : QArg) (hv : extendQuery e u a = .ok v) :
    C11_QueryFrame e u v :=
  qframe_of e u v (Step.of_extendQuery hv).query_cases
theorem qframe_updateQuery (e : Env) (u v : Url) (a : QArg) (hv : updateQuery e u a = .ok v) :
    C11_QueryFrame e u v :=
  qframe_of e u v (Or.inr (ModShape.updateQuery_frame hv))
theorem qframe_without (e : Env) (u v : Url) (names : List Str) (hv : withoutQueryParams e u names = .ok v) :
    C11_QueryFrame e u v :=
  qframe_of e u v (Step.of_withoutQueryParams hv).query_cases
end R9c11

theorem C11_with_query_reads_back (e : Env) (u : Url) (items : List (Str × QItem)) (ps : List (Str × Str))
    (s : Str) :
    (expandItems items = some ps → GoodPairs ps →
      ∃ v, withQuery e u (.mapping items) = .ok v ∧ queryPairs v = ps ∧ C11_QueryFrame e u v) ∧
    (SingleValued items → expandItems items = some ps → GoodPairs ps →
      ∃ v, withQuery e u (.pairs items) = .ok v ∧ queryPairs v = ps ∧ C11_QueryFrame e u v) ∧
    (GoodText s →
      ∃ v, withQuery e u (.str s) = .ok v ∧ queryPairs v = parseQslLit s ∧
        (37 ∉ s → queryPairs v = parseQsl s) ∧ C11_QueryFrame e u v) ∧
    (∃ v, withQuery e u .none = .ok v ∧ queryPairs v = [] ∧ C11_QueryFrame e u v) := by
  refine ⟨fun hden hg => ?_, fun hsv hden hg => ?_, fun hs => ?_, ?_⟩
  · obtain ⟨v, hv, hq, _⟩ := C12_headline_with_query_mapping e u items ps hden hg
    exact ⟨v, hv, hq, qframe_withQuery e u v _ hv⟩
  · obtain ⟨v, hv, hq, _⟩ := C12_headline_with_query_pairs e u items ps hsv hden hg
    exact ⟨v, hv, hq, qframe_withQuery e u v _ hv⟩
  · obtain ⟨v, hv, hq, hq2, _⟩ := C12_headline_with_query_str e u s hs
    exact ⟨v, hv, hq, hq2, qframe_withQuery e u v _ hv⟩
  · obtain ⟨v, hv, hq⟩ := (C12_url_none_and_empty e u).1
    exact ⟨v, hv, hq, qframe_withQuery e u v _ hv⟩

theorem C11_extend_query_reads_back (e : Env) (u : Url) (items : List (Str × QItem)) (ps : List (Str × Str))
    (s : Str) :
    (expandItems items = some ps → GoodPairs ps →
      ∃ v, extendQuery e u (.mapping items) = .ok v ∧ queryPairs v = queryPairs u ++ ps ∧ C11_QueryFrame e u v) ∧
    (SingleValued items → expandItems items = some ps → GoodPairs ps →
      ∃ v, extendQuery e u (.pairs items) = .ok v ∧ queryPairs v = queryPairs u ++ ps ∧ C11_QueryFrame e u v) ∧
    (GoodText s →
      ∃ v, extendQuery e u (.str s) = .ok v ∧ queryPairs v = queryPairs u ++ parseQslLit s ∧
        (37 ∉ s → queryPairs v = queryPairs u ++ parseQsl s) ∧ C11_QueryFrame e u v) ∧
    (extendQuery e u .none = .ok u ∧ C11_QueryFrame e u u) := by
  refine ⟨fun hden hg => ?_, fun hsv hden hg => ?_, fun hs => ?_, ?_⟩
  · obtain ⟨v, hv, hq⟩ := (C12_headline_extend_query e u items ps hden hg).1
    exact ⟨v, hv, hq, qframe_extendQuery e u v _ hv⟩
  · obtain ⟨v, hv, hq⟩ := (C12_headline_extend_query e u items ps hden hg).2 hsv
    exact ⟨v, hv, hq, qframe_extendQuery e u v _ hv⟩
  · obtain ⟨v, hv, hq, hq2⟩ := C12_headline_extend_query_str e u s hs
    exact ⟨v, hv, hq, hq2, qframe_extendQuery e u v _ hv⟩
  · exact ⟨rfl, qframe_extendQuery e u u .none rfl⟩

theorem C11_update_query_reads_back (e : Env) (u : Url) (items : List (Str × QItem)) (ps : List (Str × Str))
    (s : Str) (hold : GoodPairs (queryPairs u)) :
    (SingleValued items → expandItems items = some ps → GoodPairs ps → ps ≠ [] →
      (∃ v, updateQuery e u (.pairs items) = .ok v ∧ queryPairs v = mdUpdate (queryPairs u) ps ∧
        C11_QueryFrame e u v) ∧
      (∃ v, updateQuery e u (.mapping items) = .ok v ∧ queryPairs v = mdUpdate (queryPairs u) ps ∧
        C11_QueryFrame e u v)) ∧
    (expandItems items = some ps → GoodPairs ps → items ≠ [] →
      ∃ v ps', updateQuery e u (.mapping items) = .ok v ∧ queryPairs v = ps' ∧
        expandItems (mdUpdate (strItems (queryPairs u)) items) = some ps' ∧ C11_QueryFrame e u v) ∧
    (GoodText s → s ≠ [] →
      ∃ v, updateQuery e u (.str s) = .ok v ∧ queryPairs v = mdUpdate (queryPairs u) (parseQsl s) ∧
        C11_QueryFrame e u v) ∧
    (∃ v, updateQuery e u .none = .ok v ∧ queryPairs v = [] ∧ C11_QueryFrame e u v) := by
  refine ⟨fun hsv hden hg hne => ?_, fun hden hg hne => ?_, fun hs hne => ?_, ?_⟩
  · obtain ⟨⟨v, hv, hq⟩, ⟨v', hv', hq'⟩⟩ :=
      (C12_headline_update_is_multidict_update e u items ps s hold).1 hsv hden hg hne
    exact ⟨⟨v, hv, hq, qframe_updateQuery e u v _ hv⟩, ⟨v', hv', hq', qframe_updateQuery e u v' _ hv'⟩⟩
  · obtain ⟨v, ps', hv, hq, hx⟩ := C12_headline_update_mapping_lists e u items ps hden hg hold hne
    exact ⟨v, ps', hv, hq, hx, qframe_updateQuery e u v _ hv⟩
  · obtain ⟨v, hv, hq⟩ := (C12_headline_update_is_multidict_update e u items ps s hold).2 hs hne
    exact ⟨v, hv, hq, qframe_updateQuery e u v _ hv⟩
  · obtain ⟨v, hv, hq⟩ := (C12_url_none_and_empty e u).2.1
    exact ⟨v, hv, hq, qframe_updateQuery e u v _ hv⟩

theorem C11_without_query_params_reads_back (e : Env) (u : Url) (names : List Str)
    (hold : GoodPairs (queryPairs u)) :
    ∃ v, withoutQueryParams e u names = .ok v ∧
      queryPairs v = (queryPairs u).filter (fun p => !names.contains p.1) ∧ C11_QueryFrame e u v := by
  obtain ⟨v, hv, hq⟩ := C12_headline_without_query_params e u names hold
  exact ⟨v, hv, hq, qframe_without e u v names hv⟩

theorem C11_with_fragment_reads_back (e : Env) (u : Url) :
    (∀ t, PyStr t → NoSurrogate t →
      fragmentDecoded e (withFragment e u (some t)) = t ∧
      (withFragment e u (some t)).fragment = q e Gen.FRAGMENT_QUOTER t) ∧
    (fragmentDecoded e (withFragment e u none) = [] ∧ (withFragment e u none).fragment = []) ∧
    (∀ f, (withFragment e u f).path = u.path ∧ (withFragment e u f).query = u.query ∧
      C11_KeepsAuthority e u (withFragment e u f)) := by
  refine ⟨fun t ht hn => ⟨C06_with_fragment_readback e u t ht hn, (C11_with_fragment e u (some t)).2.2.2.2⟩,
    ⟨C06_with_fragment_none e u, (C11_with_fragment e u none).2.2.2.2⟩, fun f => ?_⟩
  obtain ⟨a1, a2, a3, a4, _⟩ := C11_with_fragment e u f
  refine ⟨a3, a4, keepsAuthority_of e u _ a1 a2 ?_⟩
  rcases ModShape.withFragment_frame e u f with h | ⟨r, h⟩
  · exact Or.inl h
  · exact Or.inr (by rw [h]; rfl)

theorem C11_with_path_reads_back (e : Env) (u : Url) (t : Str) (kq kf : Bool)
    (ht : PyStr t) (hn : NoSurrogate t) (hnd : u.netloc = [] ∨ PathLemmas.NoDots (splitOn 47 t)) :
    pathDecoded e (withPath e u t false kq kf) =
      (if t = [] then (if u.netloc = [] then [] else [47]) else if t.head? = some 47 then t else 47 :: t) ∧
    C11_PathFrame e u (withPath e u t false kq kf) kq kf :=
  ⟨(C06_headline_with_path_readback_general e u t kq kf ht hn hnd).1,
   (C11_path_modifiers_keep_authority e u).1 t false kq kf⟩

/-! ## IPvFuture / bracketed hosts, the empty host, IDN hosts -/

/-- constructor results, from the CACHE alone: `u = URL(s)` for a Python string `s` with a non-empty
    authority (split: `np`).  If the cached raw host `rh` is a non-empty text without '@' '[' ']' then sentence 1 of
    C11 holds for `u` with the raw components the constructor cached — the requoted user (`None` when it requotes to
    ""), the requoted password, `rh`, the port `split_netloc` read.  No `GoodAuthority`, no `AuthInput`, no
    `Written`: covers IPvFuture literals, bracketed IPv4-with-zone, IDN hosts under `IdnaSaneAt`, … -/
theorem C11_ctor_modifiers_of_cached_host (e : Env) (s : Str) (u : Url) (pt : Parts) (np : NetlocParts)
    (hs : PyStr s) (hu : encodeUrl e s = .ok u) (hpt : splitUrl e.o s = .ok pt) (hne : pt.netloc ≠ [])
    (hsp : splitNetloc e.o pt.netloc = .ok np)
    (rh : Str) (hrh : rawHost e u = .ok (some rh)) (hH : HostOK rh) :
    u.netloc ≠ [] ∧ rawUser e u = .ok (cachedUser e np.user) ∧ rawPassword e u = .ok (requoteOpt e np.password) ∧
    explicitPort e u = .ok np.port ∧
    C11_AuthorityModifiersOK e u (cachedUser e np.user) (requoteOpt e np.password) rh np.port := by
  rcases encodeUrl_authority hu hpt with ⟨hem, _⟩ | ⟨_, np', host0, host1, hsp', _, _, hnl, hpre⟩
  · exact absurd hem hne
  rw [hsp] at hsp'
  cases hsp'
  generalize StrTotal.rebracket _ host1 = host at hnl hpre
  have hN : net e u = .ok (preOf (cachedUser e np.user) (requoteOpt e np.password) (unbracket host) np.port) := by
    unfold net; rw [hpre]; rfl
  have hrh' : unbracket host = rh := by
    unfold rawHost at hrh; rw [hN] at hrh
    exact Option.some.inj (Except.ok.inj hrh)
  rw [hrh'] at hN
  have hhost : host ≠ [] := by
    rintro rfl
    exact hH.1 (by rw [← hrh']; rfl)
  have hnn : u.netloc ≠ [] := by rw [hnl]; exact makeNetloc_ne_nil_written _ _ _ hhost _
  have hpy := (WfLemmas.splitNetloc_pyStr e.o pt.netloc (WfLemmas.splitUrl_pyStr e.o s hs pt hpt).1 np hsp).1
  refine ⟨hnn, by unfold rawUser; rw [hN]; rfl, by unfold rawPassword; rw [hN]; rfl,
    by unfold explicitPort; rw [hN]; rfl, ?_⟩
  exact C11_modifiers_of_components e u _ _ rh np.port hN hnn (userOK_cached e np.user hpy) hH
    (fun p hp => splitNetloc_port_range e.o pt.netloc np p hsp hp)

open BrHost FixLemmas in
/-- bracketed non-IPv6 hosts (IPvFuture "[v1.x]", "[a:b]", "[1.2.3.4%a:b]"; stored WITH brackets, so `Written` fails when the text has no ':').  For a URL whose stored authority is
    `[user[:pw]@][t][:port]` (`authTextB`: host ALWAYS in brackets) with a consistent cache: the raw components are
    `(user, pw, t, port)` and sentence 1 of C11 holds — every other RAW component is unchanged.  What changes is
    the stored TEXT: each result is `Written`, i.e. its authority is re-made with `host_subcomponent`, which
    brackets `t` only when it contains ':' — "[v1.x]:80" becomes "v1.x:81" (`C11_bracket_instances`). -/
theorem C11_bracket_modifiers (e : Env) (u : Url) (user pw : Option Str) (t : Str) (port : Option Nat)
    (hnl : u.netloc = authTextB user pw t port) (hu : UserInfoOK e.b user pw) (hh : HostOK t)
    (hp : ∀ p, port = some p → p ≤ 65535) (hpre : u.pre = none ∨ u.pre = some (preOf user pw t port)) :
    rawUser e u = .ok user ∧ rawPassword e u = .ok pw ∧ rawHost e u = .ok (some t) ∧ explicitPort e u = .ok port ∧
    hostSubcomponent e u = .ok (some (bracket t)) ∧
    C11_AuthorityModifiersOK e u user pw t port := by
  have hN := net_of_reads (e := e) u hnl (userOK_of hu) (EagerLemmas.reads_bracketed t hh.2.1 hh.2.2.2) hh.1 hp hpre
  obtain ⟨a1, a2, a3, a4, a5, _⟩ := accessors_authB e u user pw t port hN
  exact ⟨a3, a4, a1, a2, a5, C11_modifiers_of_components e u user pw t port hN
    (by rw [hnl]; exact authW_ne_nil user pw (by simp) port) (userOK_of hu) hh hp⟩

open BrHost FixLemmas in
/-- … from the INPUT: `u = URL(s)`, `s` a Python string whose host part is written in brackets around a non-IPv6
    text `T` (`BracketTextIn`: visible ASCII without `/ ? # @ [ ]`, IPvFuture or containing ':'; any letter case) -/
theorem C11_bracket_ctor_modifiers (e : Env) (s : Str) (u : Url) (pt : Parts) (np : NetlocParts) (T : Str)
    (hs : PyStr s) (hu : encodeUrl e s = .ok u) (hpt : splitUrl e.o s = .ok pt)
    (hsp : splitNetloc e.o pt.netloc = .ok np) (hhost : np.host = some T)
    (hwrap : 91 ∈ (rpartition 64 pt.netloc).2.2) (hk : BracketTextIn T) (hlow : bracketCheck (lower T) = true) :
    ∃ user pw t, (t = lower T ∨ t = T) ∧ u.netloc = authTextB user pw t np.port ∧
      rawUser e u = .ok user ∧ rawPassword e u = .ok pw ∧ rawHost e u = .ok (some t) ∧
      explicitPort e u = .ok np.port ∧ hostSubcomponent e u = .ok (some (bracket t)) ∧
      C11_AuthorityModifiersOK e u user pw t np.port := by
  obtain ⟨user, pw, t, h1, h2, h3, h4, h5, h6⟩ :=
    C03_bracket_encodeUrl_shape e s u pt np T hs hu hpt hsp hhost hwrap hk hlow
  obtain ⟨a1, a2, a3, a4, a5, a6⟩ := C11_bracket_modifiers e u user pw t np.port h1 h2 h3.ok h6 (Or.inr h5)
  exact ⟨user, pw, t, h4, h1, a1, a2, a3, a4, a5, a6⟩

open Idn in
/-- IDN hosts, ANY URL shape (userinfo, port, path, query, fragment): `u = URL(s)`, the host `h0` that
    `split_netloc` cuts out of the input authority is non-ASCII and no IP literal, and the answers of the `idna`
    package for it are sane (`IdnaSaneAt`, the assumption stated once in C16Idn.lean).  Then the cached raw host is
    the IDNA answer `a`, and sentence 1 of C11 holds for `u`. -/
theorem C11_idn_ctor_modifiers (e : Env) (s : Str) (u : Url) (pt : Parts) (np : NetlocParts) (h0 : Str)
    (hs : PyStr s) (hu : encodeUrl e s = .ok u) (hpt : splitUrl e.o s = .ok pt)
    (hsp : splitNetloc e.o pt.netloc = .ok np) (hh : np.host = some h0)
    (hna : isAscii h0 = false) (hip : parseIP (partition 37 h0).1 = none) (hsane : IdnaSaneAt e.o h0) :
    ∃ a, idnaEncode e.o h0 = .ok a ∧ IdnaAnswerSane a ∧
      rawHost e u = .ok (some a) ∧ rawUser e u = .ok (cachedUser e np.user) ∧
      rawPassword e u = .ok (requoteOpt e np.password) ∧ explicitPort e u = .ok np.port ∧
      C11_AuthorityModifiersOK e u (cachedUser e np.user) (requoteOpt e np.password) a np.port := by
  have hne : pt.netloc ≠ [] := by
    intro h0'
    rw [h0'] at hsp
    have : splitNetloc e.o [] = .ok { user := none, password := none, host := none, port := none } := rfl
    rw [this] at hsp
    cases hsp
    cases hh
  rcases encodeUrl_authority hu hpt with ⟨hem, _⟩ | ⟨_, np', host0, host1, hsp', ho, henc, _, hpre⟩
  · exact absurd hem hne
  rw [hsp] at hsp'
  cases hsp'
  rw [hh] at ho
  have : host0 = h0 := by simp only [hostOr, pure, Except.pure, Except.ok.injEq] at ho; exact ho.symm
  subst this
  have hi := encodeHost_idn_inv e.o hna hip
    (fun a hi => HostLemmas.notRegName_false_no_colon (idnaEncode_sane hsane hi).regName) henc
  have hsa := idnaEncode_sane hsane hi
  have h91 : 91 ∉ host1 := sane_no hsa (by decide)
  have hub : unbracket (StrTotal.rebracket (mem 91 (rpartition 64 pt.netloc).2.2) host1) = host1 := by
    unfold StrTotal.rebracket
    split
    · exact unbracket_wrapped host1
    · exact unbracket_of_no91 h91
  have hrh : rawHost e u = .ok (some host1) := by
    unfold rawHost net; rw [hpre, hub]; rfl
  have hH : HostOK host1 := ⟨hsa.nonempty, sane_no hsa (by decide), h91, sane_no hsa (by decide)⟩
  obtain ⟨_, b1, b2, b3, b4⟩ := C11_ctor_modifiers_of_cached_host e s u pt np hs hu hpt hne hsp host1 hrh hH
  exact ⟨host1, hi, hsa, hrh, b1, b2, b3, b4⟩

/-- the EMPTY host ("foo://user@:80/", "foo://:80/", "foo://:pw@/"): such a constructor result is in the
    scope of `C11_cached_arbitrary_authority` — the cache agrees with the stored text, the stored authority is
    non-empty and `split_netloc` accepts it with an empty host, `raw_host` reads "" — so the frame holds with the
    exception (E2) spelled out there (`C11_empty_host_instances`: with_user(None) on "foo://user@/" gives "foo:/",
    `raw_host` "" becomes `None`).  Hypotheses as in `C09_eager_eq_lazy_empty_host`. -/
theorem C11_empty_host_ctor_in_scope (e : Env) (s : Str) (u : Url) (p : NetPre) (pt : Parts) (np : NetlocParts)
    (hu : encodeUrl e s = .ok u) (hpre : u.pre = some p) (hpt : splitUrl e.o s = .ok pt)
    (hsp : splitNetloc e.o pt.netloc = .ok np) (hh : np.host = none)
    (hor : (∃ x, np.user = some x ∧ ∃ c ∈ x, isSurrogate c = false) ∨ np.password ≠ none ∨ np.port ≠ none)
    (hpy : ∀ x, np.user = some x → PyStr x) :
    net e (pickleTwin u) = net e u ∧ u.netloc ≠ [] ∧ rawHost e u = .ok (some []) ∧
    ∃ np', splitNetloc e.o u.netloc = .ok np' ∧ np'.host.getD [] = [] ∧
      ¬ (91 ∈ np'.host.getD [] ∧ 58 ∉ np'.host.getD []) := by
  obtain ⟨hl, hrh⟩ := C09_eager_eq_lazy_empty_host e s u p pt np hu hpre hpt hsp hh hor hpy
  have hN : net e u = .ok p := by unfold net; rw [hpre]; rfl
  have hnet : net e (pickleTwin u) = net e u := by rw [hN]; exact hl
  have hraw : rawHost e u = .ok (some []) := by unfold rawHost; rw [hN]; exact congrArg Except.ok hrh
  unfold lazyNet at hl
  cases hs' : splitNetloc e.o (pickleTwin u).netloc with
  | error err => rw [hs'] at hl; cases hl
  | ok np' =>
    rw [hs'] at hl
    simp only [bind, Except.bind, pure, Except.pure, Except.ok.injEq] at hl
    have hh' : (match np'.host with
        | none => if (pickleTwin u).netloc.isEmpty then none else some []
        | some h => some h) = some [] := by
      have h1 := congrArg NetPre.rawHost hl
      rw [hrh] at h1
      exact h1
    have hne : u.netloc ≠ [] := by
      intro h0
      have e1 : (pickleTwin u).netloc = [] := h0
      rw [e1] at hs'
      have : splitNetloc e.o [] = .ok { user := none, password := none, host := none, port := none } := rfl
      rw [this] at hs'
      cases hs'
      rw [e1] at hh'
      cases hh'
    have hg : np'.host.getD [] = [] := by
      cases hx : np'.host with
      | none => rfl
      | some h => rw [hx] at hh'; cases hh'; rfl
    exact ⟨hnet, hne, hraw, np', hs', hg, by rw [hg]; simp⟩

/-! ## instances with Python-level input, counterexamples, non-vacuity -/

/-- pure-Python backend, no oracle needed (ASCII input) -/
def C11_ePy : Env := { b := .py, o := Oracles.empty }
/-- compiled backend, an `idna` package answering "" for every host (hypothetical: `C16_idn_needs_nonempty`) -/
def C11_eHostile : Env := { b := .c, o := C16_idn_hostile [] }

/-- Python level: `URL("http://me:pw@h").with_user("")` is "http://:pw@h" (user `None`, password "pw"),
    the same for a user of lone surrogates only, whereas `with_user(None)` is "http://h"; and on the result
    `with_password(None)` gives "http://h", `with_user("x")` gives "http://x:pw@h" -/
theorem C11_with_user_empty_instance :
    ((encodeUrl C11_ePy "http://me:pw@h".toStr >>= fun u => withUser C11_ePy u (some [])) >>= str C11_ePy)
      = .ok "http://:pw@h".toStr ∧
    ((encodeUrl C11_ePy "http://me:pw@h".toStr >>= fun u => withUser C11_ePy u (some [])) >>= rawUser C11_ePy)
      = .ok none ∧
    ((encodeUrl C11_ePy "http://me:pw@h".toStr >>= fun u => withUser C11_ePy u (some [])) >>= rawPassword C11_ePy)
      = .ok (some "pw".toStr) ∧
    ((encodeUrl C11_ePy "http://me:pw@h".toStr >>= fun u => withUser C11_ePy u (some [0xDC80])) >>= str C11_ePy)
      = .ok "http://:pw@h".toStr ∧
    ((encodeUrl C11_ePy "http://me:pw@h".toStr >>= fun u => withUser C11_ePy u none) >>= str C11_ePy)
      = .ok "http://h".toStr ∧
    (((encodeUrl C11_ePy "http://me:pw@h".toStr >>= fun u => withUser C11_ePy u (some [])) >>=
        fun v => withPassword C11_ePy v none) >>= str C11_ePy) = .ok "http://h".toStr ∧
    (((encodeUrl C11_ePy "http://me:pw@h".toStr >>= fun u => withUser C11_ePy u (some [])) >>=
        fun v => withUser C11_ePy v (some "x".toStr)) >>= str C11_ePy) = .ok "http://x:pw@h".toStr := by
  str_lits; decide +kernel

/-- Python level: "mailto:x" and a relative URL -/
theorem C11_relative_instances :
    (encodeUrl C11_ePy "mailto:x".toStr >>= fun u => withUser C11_ePy u (some "a".toStr)) = .error .valueError ∧
    (encodeUrl C11_ePy "mailto:x".toStr >>= fun u => withUser C11_ePy u none) = .error .valueError ∧
    (encodeUrl C11_ePy "/p?q".toStr >>= fun u => withPassword C11_ePy u (some "a".toStr)) = .error .valueError ∧
    (encodeUrl C11_ePy "/p?q".toStr >>= fun u => withHost C11_ePy u "h".toStr) = .error .valueError ∧
    (encodeUrl C11_ePy "/p?q".toStr >>= fun u => withPort C11_ePy u (some 80) 0) = .error .valueError ∧
    (encodeUrl C11_ePy "/p?q".toStr >>= fun u => withPort C11_ePy u none 1) = .error .typeError := by
  str_lits; decide +kernel

/-- Python level, on `URL("http://h/")`: accepted kinds and what is stored; rejected arguments (a name with
    ':', a BRACKETED literal, an IPv4 text with a zone id that does not look like an IP) -/
theorem C11_with_host_instances :
    ((encodeUrl C11_ePy "http://h/".toStr >>= fun u => withHost C11_ePy u "EXAMPLE.com".toStr) >>= str C11_ePy)
      = .ok "http://example.com/".toStr ∧
    ((encodeUrl C11_ePy "http://h/".toStr >>= fun u => withHost C11_ePy u "1.2.3.4".toStr) >>= str C11_ePy)
      = .ok "http://1.2.3.4/".toStr ∧
    ((encodeUrl C11_ePy "http://h/".toStr >>= fun u => withHost C11_ePy u "::1".toStr) >>= str C11_ePy)
      = .ok "http://[::1]/".toStr ∧
    ((encodeUrl C11_ePy "http://h/".toStr >>= fun u => withHost C11_ePy u "FE80:0::1%Eth0".toStr) >>= str C11_ePy)
      = .ok "http://[fe80::1%Eth0]/".toStr ∧
    ((encodeUrl C11_ePy "http://h/".toStr >>= fun u => withHost C11_ePy u "FE80:0::1%Eth0".toStr) >>= rawHost C11_ePy)
      = .ok (some "fe80::1%Eth0".toStr) ∧
    (encodeUrl C11_ePy "http://h/".toStr >>= fun u => withHost C11_ePy u "a:b".toStr) = .error .valueError ∧
    (encodeUrl C11_ePy "http://h/".toStr >>= fun u => withHost C11_ePy u "[::1]".toStr) = .error .valueError ∧
    (encodeUrl C11_ePy "http://h/".toStr >>= fun u => withHost C11_ePy u "a b".toStr) = .error .valueError ∧
    (encodeUrl C11_ePy "http://h/".toStr >>= fun u => withHost C11_ePy u "1.2.3.4%ETH".toStr) = .error .valueError := by
  str_lits; decide +kernel

/-- the case "IDNA answers ''" with a hostile oracle (HYPOTHETICAL: the real codecs raise "label empty"):
    `URL("http://u@h:80/").with_host("é")` stores "u@:80", `raw_host == ""`; `URL("http://h/p").with_host("é")` is the
    relative-looking "http:///p" with an EMPTY authority, `raw_host is None`.  Under `IdnaSaneAt` this cannot happen
    (`C11_with_host_answer_nonempty`). -/
theorem C11_with_host_empty_answer_instance :
    encodeHost C11_eHostile.o [233] true = .ok [] ∧ ¬ IdnaSaneAt C11_eHostile.o [233] ∧
    ((encodeUrl C11_eHostile "http://u@h:80/".toStr >>= fun u => withHost C11_eHostile u [233]).map (·.netloc))
      = .ok "u@:80".toStr ∧
    ((encodeUrl C11_eHostile "http://u@h:80/".toStr >>= fun u => withHost C11_eHostile u [233]) >>= rawHost C11_eHostile)
      = .ok (some []) ∧
    ((encodeUrl C11_eHostile "http://h/p".toStr >>= fun u => withHost C11_eHostile u [233]) >>= str C11_eHostile)
      = .ok "http:///p".toStr ∧
    ((encodeUrl C11_eHostile "http://h/p".toStr >>= fun u => withHost C11_eHostile u [233]) >>= rawHost C11_eHostile)
      = .ok none := by
  refine ⟨by str_lits; decide +kernel, fun hs => absurd (hs.enc [] rfl).nonempty (by decide), ?_⟩
  str_lits; decide +kernel


/-- IPvFuture, Python level.  `u = URL("http://[v1.x]:8080/")` stores "[v1.x]:8080" and caches
    `raw_host = "v1.x"`.  After with_port(81) / with_user("a") / with_password("a") the brackets are GONE from the stored
    text and from `str()` — "http://v1.x:81/": the IPvFuture literal has silently become a reg-name — while
    `raw_host` still reads "v1.x": C11's sentence (about RAW components) holds, the stored text changes.  With a ':'
    in the literal ("[v1.a:b]") the brackets survive.  `with_host` cannot set such a host: "[v1.x]" is rejected,
    "v1.x" is a reg-name. -/
theorem C11_bracket_instances :
    (encodeUrl C11_ePy "http://[v1.x]:8080/".toStr).map (·.netloc) = .ok "[v1.x]:8080".toStr ∧
    (encodeUrl C11_ePy "http://[v1.x]:8080/".toStr >>= rawHost C11_ePy) = .ok (some "v1.x".toStr) ∧
    ((encodeUrl C11_ePy "http://[v1.x]:8080/".toStr >>= fun u => withPort C11_ePy u (some 81) 0) >>= str C11_ePy)
      = .ok "http://v1.x:81/".toStr ∧
    ((encodeUrl C11_ePy "http://[v1.x]:8080/".toStr >>= fun u => withPort C11_ePy u (some 81) 0) >>= rawHost C11_ePy)
      = .ok (some "v1.x".toStr) ∧
    ((encodeUrl C11_ePy "http://[v1.x]:8080/".toStr >>= fun u => withUser C11_ePy u (some "a".toStr)) >>= str C11_ePy)
      = .ok "http://a@v1.x:8080/".toStr ∧
    ((encodeUrl C11_ePy "http://[v1.x]:8080/".toStr >>= fun u => withPassword C11_ePy u (some "a".toStr)) >>= str C11_ePy)
      = .ok "http://:a@v1.x:8080/".toStr ∧
    ((encodeUrl C11_ePy "http://[v1.a:b]:8080/".toStr >>= fun u => withPort C11_ePy u (some 81) 0) >>= str C11_ePy)
      = .ok "http://[v1.a:b]:81/".toStr ∧
    ((encodeUrl C11_ePy "http://[1.2.3.4%a:b]:8080/".toStr >>= fun u => withPort C11_ePy u (some 81) 0) >>= str C11_ePy)
      = .ok "http://[1.2.3.4%a:b]:81/".toStr ∧
    (encodeUrl C11_ePy "http://h/".toStr >>= fun u => withHost C11_ePy u "[v1.x]".toStr) = .error .valueError ∧
    ((encodeUrl C11_ePy "http://[v1.x]:8080/".toStr >>= fun u => withHost C11_ePy u "v1.x".toStr) >>= str C11_ePy)
      = .ok "http://v1.x:8080/".toStr ∧
    (encodeUrl C11_ePy "http://[1.2.3.4]/".toStr) = .error .valueError := by
  str_lits; decide +kernel

/-- the empty host, Python level.  `URL("foo://user@:80/")` (cache: `raw_host = ""`): with_port(81),
    with_password("p"), with_host("h"), with_user(None) keep every other raw component.  DEVIATION (E2), by the letter
    of C11 ("every other raw component … is unchanged"): when NOTHING is left to write the authority disappears —
    `URL("foo://user@/").with_user(None)` is `URL("foo:/")`, `raw_host` "" has become `None`, and further authority
    modifiers raise ValueError; likewise `URL("foo://user@:80/").with_user(None).with_port(None)`. -/
theorem C11_empty_host_instances :
    (encodeUrl C11_ePy "foo://user@:80/".toStr >>= rawHost C11_ePy) = .ok (some []) ∧
    ((encodeUrl C11_ePy "foo://user@:80/".toStr >>= fun u => withPort C11_ePy u (some 81) 0) >>= str C11_ePy)
      = .ok "foo://user@:81/".toStr ∧
    ((encodeUrl C11_ePy "foo://user@:80/".toStr >>= fun u => withPort C11_ePy u (some 81) 0) >>= rawHost C11_ePy)
      = .ok (some []) ∧
    ((encodeUrl C11_ePy "foo://user@:80/".toStr >>= fun u => withPassword C11_ePy u (some "p".toStr)) >>= str C11_ePy)
      = .ok "foo://user:p@:80/".toStr ∧
    ((encodeUrl C11_ePy "foo://user@:80/".toStr >>= fun u => withHost C11_ePy u "h".toStr) >>= str C11_ePy)
      = .ok "foo://user@h:80/".toStr ∧
    ((encodeUrl C11_ePy "foo://user@:80/".toStr >>= fun u => withUser C11_ePy u none) >>= str C11_ePy)
      = .ok "foo://:80/".toStr ∧
    (encodeUrl C11_ePy "foo://user@/".toStr >>= rawHost C11_ePy) = .ok (some []) ∧
    ((encodeUrl C11_ePy "foo://user@/".toStr >>= fun u => withUser C11_ePy u none) >>= str C11_ePy)
      = .ok "foo:/".toStr ∧
    ((encodeUrl C11_ePy "foo://user@/".toStr >>= fun u => withUser C11_ePy u none) >>= rawHost C11_ePy)
      = .ok none ∧
    (((encodeUrl C11_ePy "foo://user@/".toStr >>= fun u => withUser C11_ePy u none) >>=
        fun v => withPort C11_ePy v (some 1) 0)) = .error .valueError ∧
    (((encodeUrl C11_ePy "foo://user@:80/".toStr >>= fun u => withUser C11_ePy u none) >>=
        fun v => withPort C11_ePy v none 0) >>= str C11_ePy) = .ok "foo:/".toStr := by
  str_lits; decide +kernel


/-! ### non-vacuity of the hypotheses -/

/-- `URL("http://[v1.x]:8080/")` as the constructor returns it (stored text WITH brackets, cache filled) -/
def C11_uV : Url :=
  { scheme := "http".toStr, netloc := "[v1.x]:8080".toStr, path := "/".toStr, query := [], fragment := [],
    pre := some { rawHost := some "v1.x".toStr, explicitPort := some 8080, rawUser := none, rawPassword := none } }
/-- `URL("foo://user@:80/")` as the constructor returns it (empty host) -/
def C11_uE : Url :=
  { scheme := "foo".toStr, netloc := "user@:80".toStr, path := "/".toStr, query := [], fragment := [],
    pre := some { rawHost := some [], explicitPort := some 80, rawUser := some "user".toStr, rawPassword := none } }
/-- a `Written` URL: user, password, IPv6 host, port -/
def C11_uW : Url :=
  fromParts "http".toStr (makeNetloc id (some "me".toStr) (some "pw".toStr) (some (bracket "::1".toStr)) (some 8080) false)
    "/p".toStr "k=v".toStr "f".toStr

example : encodeUrl C11_ePy "http://[v1.x]:8080/".toStr = .ok C11_uV ∧
    encodeUrl C11_ePy "foo://user@:80/".toStr = .ok C11_uE := by str_lits; decide +kernel
-- C11_quoter_empty_iff / C11_with_user_empty: "" and a lone surrogate quote to ""
example : PyStr [0xDC80] ∧ q C11_ePy Gen.QUOTER [0xDC80] = [] ∧ q C11_ePy Gen.QUOTER [] = [] ∧
    Written id C11_uW (some "me".toStr) (some "pw".toStr) "::1".toStr (some 8080) :=
  ⟨by str_lits; decide +kernel, by str_lits; decide +kernel, by str_lits; decide +kernel, ⟨rfl, rfl, by str_lits; decide +kernel, by str_lits; decide +kernel, by str_lits; decide +kernel⟩⟩
-- C11_modifiers_of_components: a URL whose stored text is NOT the `make_netloc` text of its components
-- (brackets around a host without ':'), with a pre-filled cache
example : net C11_ePy C11_uV = .ok (preOf none none "v1.x".toStr (some 8080)) ∧ C11_uV.netloc ≠ [] ∧ UserOK none ∧ HostOK "v1.x".toStr ∧
    C11_uV.netloc ≠ makeNetloc id none none (some (bracket "v1.x".toStr)) (some 8080) false :=
  ⟨rfl, by str_lits; decide +kernel, by str_lits; decide +kernel, by str_lits; decide +kernel, by str_lits; decide +kernel⟩
-- C11_with_host_name / _ipv4 / _ipv6 / _ipv6_zone / _ipv4_zone / _rejects_char
example : isAscii "EXAMPLE.com".toStr = true ∧ parseIP (partition 37 "EXAMPLE.com".toStr).1 = none ∧
    notRegName (lower "EXAMPLE.com".toStr) = false ∧ lower "EXAMPLE.com".toStr = "example.com".toStr := by str_lits; decide +kernel
example : parseIPv4 "1.2.3.4".toStr = some [1, 2, 3, 4] ∧
    parseIPv6 "::1".toStr = some [0, 0, 0, 0, 0, 0, 0, 1] ∧ 37 ∉ "::1".toStr ∧
    ipv6ToStr [0, 0, 0, 0, 0, 0, 0, 1] = "::1".toStr := by str_lits; decide +kernel
example : parseIPv6 "FE80:0::1".toStr = some [0xfe80, 0, 0, 0, 0, 0, 0, 1] ∧ 37 ∉ "FE80:0::1".toStr ∧
    notRegName (lower "Eth0".toStr) = false ∧ notRegName (lower "eth/0".toStr) = true ∧
    ipv6ToStr [0xfe80, 0, 0, 0, 0, 0, 0, 1] = "fe80::1".toStr := by str_lits; decide +kernel
example : parseIPv4 "1.2.3.4".toStr = some [1, 2, 3, 4] ∧
    (∃ l, ("1.2.3.4".toStr ++ [37] ++ "eth0".toStr).getLast? = some l ∧ isDigitC l = true) ∧
    notRegName (lower "eth0".toStr) = false := ⟨by str_lits; decide +kernel, ⟨48, by str_lits; decide +kernel⟩, by str_lits; decide +kernel⟩
example : isAscii "a:b".toStr = true ∧ parseIP (partition 37 "a:b".toStr).1 = none ∧ 58 ∈ "a:b".toStr ∧
    isAscii "[::1]".toStr = true ∧ parseIP (partition 37 "[::1]".toStr).1 = none ∧ 91 ∈ "[::1]".toStr := by
  str_lits; decide +kernel
-- C11_cached_arbitrary_authority / C11_empty_host_ctor_in_scope: the empty-host constructor result
example : net C11_ePy (pickleTwin C11_uE) = net C11_ePy C11_uE ∧ C11_uE.netloc ≠ [] ∧
    splitNetloc C11_ePy.o C11_uE.netloc =
      .ok { user := some "user".toStr, password := none, host := none, port := some 80 } ∧
    splitUrl C11_ePy.o "foo://user@:80/".toStr =
      .ok { scheme := "foo".toStr, netloc := "user@:80".toStr, path := "/".toStr, query := [], fragment := [] } ∧
    PyStr "foo://user@:80/".toStr :=
  by str_lits; decide +kernel
-- C11_ctor_modifiers_of_cached_host / C11_bracket_ctor_modifiers: "http://[v1.x]:8080/"
example : PyStr "http://[v1.x]:8080/".toStr ∧
    splitUrl C11_ePy.o "http://[v1.x]:8080/".toStr =
      .ok { scheme := "http".toStr, netloc := "[v1.x]:8080".toStr, path := "/".toStr, query := [], fragment := [] } ∧
    splitNetloc C11_ePy.o "[v1.x]:8080".toStr =
      .ok { user := none, password := none, host := some "v1.x".toStr, port := some 8080 } ∧
    91 ∈ (rpartition 64 "[v1.x]:8080".toStr).2.2 ∧ bracketCheck (lower "v1.x".toStr) = true ∧
    rawHost C11_ePy C11_uV = .ok (some "v1.x".toStr) :=
  ⟨by str_lits; decide +kernel, by str_lits; decide +kernel, by str_lits; decide +kernel, by str_lits; decide +kernel, by str_lits; decide +kernel, rfl⟩
example : BracketTextIn "v1.x".toStr := BrHost.bracketTextInB_sound (by str_lits; decide +kernel)
-- C11_bracket_modifiers: the stored text of C11_uV is `authTextB none none "v1.x" (some 8080)`
example : C11_uV.netloc = authTextB none none "v1.x".toStr (some 8080) ∧ HostOK "v1.x".toStr ∧
    C11_uV.pre = some (preOf none none "v1.x".toStr (some 8080)) := ⟨by str_lits; decide +kernel, by str_lits; decide +kernel, rfl⟩
-- C11_idn_ctor_modifiers: "http://u@bücher:8080/p" with the sample IDNA table of C16Idn.lean
example :
    let e : Env := { b := .c, o := C16_idn_sampleOracle }
    let s : Str := "http://u@".toStr ++ C16_idn_buecher ++ ":8080/p".toStr
    (encodeUrl e s).map (·.netloc) = .ok "u@xn--bcher-kva:8080".toStr ∧
    splitUrl e.o s = .ok { scheme := "http".toStr, netloc := "u@".toStr ++ C16_idn_buecher ++ ":8080".toStr,
                           path := "/p".toStr, query := [], fragment := [] } ∧
    splitNetloc e.o ("u@".toStr ++ C16_idn_buecher ++ ":8080".toStr) =
      .ok { user := some "u".toStr, password := none, host := some C16_idn_buecher, port := some 8080 } ∧
    isAscii C16_idn_buecher = false ∧ parseIP (partition 37 C16_idn_buecher).1 = none ∧
    IdnaSaneAt e.o C16_idn_buecher :=
  ⟨by str_lits; decide +kernel, by str_lits; decide +kernel, by str_lits; decide +kernel, by str_lits; decide +kernel, by str_lits; decide +kernel,
   C16_idn_sane_satisfiable.1 _ (by str_lits; decide +kernel)⟩
-- arguments satisfying the guards of the read-back theorems
example : PyStr "/a.b/c d".toStr ∧ NoSurrogate "/a.b/c d".toStr ∧ PathLemmas.NoDots (splitOn 47 "/a.b/c d".toStr) ∧
    GoodText "a=1&b=x y".toStr := by
  refine ⟨by str_lits; decide +kernel, by str_lits; decide +kernel, by unfold PathLemmas.NoDots; decide +kernel, by str_lits; decide +kernel⟩

-- the general theorems applied to the two constructor results
example : C11_AuthorityModifiersOK C11_ePy C11_uV none none "v1.x".toStr (some 8080) :=
  C11_modifiers_of_components C11_ePy C11_uV none none "v1.x".toStr (some 8080) rfl (by str_lits; decide +kernel) (by str_lits; decide +kernel) (by str_lits; decide +kernel)
    (by intro p hp; cases hp; decide +kernel)
example : ∃ v, withUser C11_ePy C11_uE none = .ok v ∧ rawHost C11_ePy v = rawHost C11_ePy C11_uE ∧
    explicitPort C11_ePy v = explicitPort C11_ePy C11_uE := by
  obtain ⟨_, _, ⟨v, h0, _, _, _, h3, h4, _⟩, _⟩ := C11_cached_arbitrary_authority C11_ePy C11_uE
    { user := some "user".toStr, password := none, host := none, port := some 80 }
    (by str_lits; decide +kernel) (by str_lits; decide +kernel) (by str_lits; decide +kernel) (by str_lits; decide +kernel)
  exact ⟨v, h0, by simpa using h4, h3⟩

end Yarl
