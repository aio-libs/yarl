import YarlProofs.C12Headline
import YarlProofs.C12HeadlineMore3
import YarlProofs.C12HeadlineMore4
import YarlProofs.C02QueryStr
/-!
  C12HeadlineMore5.lean — AUDIT LAYER for property C12, continuation of C12Headline.lean / …More3 / …More4: headline
  theorems for the C12 half of the proof module added after the last refresh, C02QueryStr.lean (the STRING-argument forms
  of the query modifiers; its C02 half is in C02HeadlineMore5.lean).  This file is a leaf, nobody imports it.  The GAPS
  block of C12Headline.lean (items 2, 5, 7, 10 (c), 12) cites the theorems of this file.

  C12 | Query operations implement multi-dict algebra exactly |
  "with_query(q) yields exactly the pairs of q in order (a list/tuple value in a mapping expands to repeated keys; ints
  and floats are rendered by str()); extend_query appends q's pairs after the existing ones; update_query replaces all
  pairs whose key occurs in q and keeps every other pair in order; without_query_params removes exactly the named keys.
  None clears the query (with_query, update_query) or is a no-op (extend_query); bool, None values, NaN/inf and bytes
  are rejected with TypeError/ValueError; the argument is never mutated."

  What is here — "the pairs of q" when `q` is a `str`.  The property text does not say how a string denotes pairs; the
  library has TWO readings (GAPS 2: an OBSERVATION, not a violated clause):
   * with_query / extend_query take the string as TEXT: its pairs are the LITERAL pairs `parseQslLit s` ('%' is data);
   * update_query — and the `%` operator, which is the same call — PARSES it: its pairs are `parse_qsl(s)`.
  `C12_headline_qstr_three_forms` puts the three side by side (the readings agree when the string has no '%');
  `C12_headline_qstr_with_extend_pairs` needs nothing of the URL; `C12_headline_qstr_parse_pieces` says what
  `parse_qsl` makes of a string piece by piece; `C12_headline_qstr_update_query_exact` gives the stored text of
  `update_query(<str>)` with NO hypothesis; `C12_headline_qstr_update_query_algebra` is the update_query clause of the
  property for the string form (keeps every other pair in order; replaces — exactly when `StaleFree`, KNOWN FINDING
  F-C12-multidict-tail otherwise), `…_algebra_reachable` discharges the hypothesis on the old query for `Reach` and for
  `ReachE` URLs; `C12_headline_qstr_mod_is_update_query` is the `%` operator (MODEL-LEVEL remark).

  Vocabulary (C02QueryStr.lean, namespace `R15`): `pieces s` = the non-empty '&'-pieces of `s`; `keyText p` / `valText p` =
  the text of the piece before / after its first '=' (spelled out in C02_headline_qstr_vocabulary_def,
  C02HeadlineMore5.lean).  `formDecode x` = form-decoding with errors='replace' ('+' → space, %XY → byte, undecodable
  parts → U+FFFD).  `parseQslLit`, `parseQsl`, `mdUpdate`, `mdUpdateSpec`, `StaleFree`, `keysOf`, `queryPairs`,
  `GoodText`, `GoodPairs`, `Reach`, `ReachE`, `NoSurrogate`, `dynUpdateQuery` — as in C12Headline.lean / …More3 / …More4.
-/
namespace Yarl
open QsLemmas MdLemmas QueryUrl QsMore QsSpec R7 R15

/-! ## "the pairs of q" for a string argument: two readings -/

/-- the three string forms SIDE BY SIDE: `with_query(s)` REPLACES the pairs by the LITERAL pairs of the text,
    `extend_query(s)` APPENDS them after the existing ones, `update_query(s)` UPDATES (`MultiDict.update`) with the PARSED
    pairs `parse_qsl(s)`; the two readings of the text agree when it contains no '%'.
    Cites C12_qstr_three_forms (over C12_with_query_str_pairs, C12_extend_query_str_pairs, C12_url_update_query_str,
    C12_parseQslLit_no_pct). -/
theorem C12_headline_qstr_three_forms (e : Env) (u : Url) (s : Str)
    (hs : GoodText s)                       -- Python string without lone surrogates
    (hold : GoodPairs (queryPairs u))       -- needed by update_query only; discharged for Reach / ReachE: last theorem
    (hne : s ≠ []) :                        -- update_query("") changes nothing (…_update_query_exact, third clause)
    (∃ v, withQuery e u (.str s) = .ok v ∧ queryPairs v = parseQslLit s) ∧
    (∃ v, extendQuery e u (.str s) = .ok v ∧ queryPairs v = queryPairs u ++ parseQslLit s) ∧
    (∃ v, updateQuery e u (.str s) = .ok v ∧ queryPairs v = mdUpdate (queryPairs u) (parseQsl s)) ∧
    (37 ∉ s → parseQslLit s = parseQsl s) :=
  C12_qstr_three_forms e u s hs hold hne

/-- "with_query(q) yields exactly the pairs of q in order" / "extend_query appends q's pairs after the existing ones" for a
    STRING `q`, read through the library's own reader: NOTHING is needed of the URL (GAPS 10 (c)).
    Cites C12_qstr_with_extend_pairs. -/
theorem C12_headline_qstr_with_extend_pairs (e : Env) (u : Url) (s : Str) (hs : GoodText s) :
    (∃ v, withQuery e u (.str s) = .ok v ∧ queryPairs v = parseQslLit s) ∧
    (∃ v, extendQuery e u (.str s) = .ok v ∧ queryPairs v = queryPairs u ++ parseQslLit s) :=
  C12_qstr_with_extend_pairs e u s hs

/-- what `parse_qsl` — the reading of `update_query(<str>)` — makes of a string without lone surrogates: ONE pair per
    NON-EMPTY '&'-piece (';' is not a separator), split at the FIRST '=', key and value form-decoded ('+' → space, %XY →
    byte, then UTF-8 with U+FFFD for every undecodable part).  Cites C12_qstr_parse_pieces. -/
theorem C12_headline_qstr_parse_pieces (s : Str) (hs : GoodText s) :
    parseQsl s = (pieces s).map (fun p => (formDecode (keyText p), formDecode (valText p))) :=
  C12_qstr_parse_pieces s hs

/-! ## `update_query(<str>)`: the update_query clauses of the property -/

/-- the EXACT result of `update_query(<non-empty str>)` — NO hypothesis for the stored text: the stored query is one
    "&"-joined piece `QUERY_PART_QUOTER(key) = QUERY_PART_QUOTER(value)` per pair of
    `MultiDict(old pairs).update(parse_qsl(s))`; it reads back as exactly those pairs when the old pairs and the string
    have no lone surrogates; nothing else of the URL moves.  And `update_query("")` changes nothing.
    Cites C12_qstr_update_query_exact, C12_qstr_update_query_empty. -/
theorem C12_headline_qstr_update_query_exact (e : Env) (u : Url) (s : Str) :
    (s ≠ [] →
      ∃ v, updateQuery e u (.str s) = .ok v ∧
        v.query = joinC 38 ((mdUpdate (queryPairs u) (parseQsl s)).map
          (fun p => q e Gen.QUERY_PART_QUOTER p.1 ++ [61] ++ q e Gen.QUERY_PART_QUOTER p.2)) ∧
        (GoodText s → GoodPairs (queryPairs u) → queryPairs v = mdUpdate (queryPairs u) (parseQsl s)) ∧
        v.scheme = u.scheme ∧ v.netloc = u.netloc ∧ v.path = u.path ∧ v.fragment = u.fragment) ∧
    updateQuery e u (.str []) = .ok (fromParts u.scheme u.netloc u.path u.query u.fragment) :=
  ⟨fun hne => C12_qstr_update_query_exact e u s hne, C12_qstr_update_query_empty e u⟩

/-- "update_query replaces all pairs whose key occurs in q and keeps every other pair in order" for a STRING `q`: the
    argument's pairs are `parse_qsl(s)`; the result's pairs are `MultiDict(old).update(parse_qsl(s))`; EVERY pair whose key
    does not occur in `parse_qsl(s)` is kept, in order (no guard); the result is the SPECIFIED replacement
    (`mdUpdateSpec`, C12Spec.lean: GAPS 11) EXACTLY when the stale-duplicate condition `StaleFree` holds — KNOWN FINDING
    F-C12-multidict-tail otherwise — and then every updated key has exactly the argument's pairs.
    Cites C12_qstr_update_query_algebra (over C12_url_update_query_str, C12_url_update_keeps_others_str,
    C12_url_update_query_spec_str). -/
theorem C12_headline_qstr_update_query_algebra (e : Env) (u : Url) (s : Str)
    (hs : GoodText s) (hold : GoodPairs (queryPairs u)) (hne : s ≠ []) :
    ∃ v, updateQuery e u (.str s) = .ok v ∧
      queryPairs v = mdUpdate (queryPairs u) (parseQsl s) ∧
      (queryPairs v).filter (fun p => !(keysOf (parseQsl s)).contains p.1) =
        (queryPairs u).filter (fun p => !(keysOf (parseQsl s)).contains p.1) ∧
      (queryPairs v = mdUpdateSpec (queryPairs u) (parseQsl s) ↔ StaleFree (queryPairs u) (parseQsl s)) ∧
      (StaleFree (queryPairs u) (parseQsl s) →
        ∀ k ∈ keysOf (parseQsl s),
          (queryPairs v).filter (fun p => p.1 = k) = (parseQsl s).filter (fun p => p.1 = k)) :=
  C12_qstr_update_query_algebra e u s hs hold hne

/-- … with the hypothesis on the OLD query DISCHARGED (GAPS 7, 9, 10 (c)): the same statement for every URL reachable
    through the auto-encoding API (`Reach`), and for every URL reachable through ANY entry point (`ReachE`, `encoded=True`
    included) whose stored query has no lone surrogate (needed: C12_headline_reachE_fails_for_surrogate).
    A composition of C12_qstr_update_query_algebra with C12_constructor_goodpairs (C12More.lean) and
    C12_reachE_good_pairs (C12ReachE.lean). -/
theorem C12_headline_qstr_update_query_algebra_reachable (e : Env) (u : Url) (s : Str)
    (hr : Reach e u ∨ (ReachE e u ∧ NoSurrogate u.query))
    (hs : GoodText s) (hne : s ≠ []) :
    ∃ v, updateQuery e u (.str s) = .ok v ∧
      queryPairs v = mdUpdate (queryPairs u) (parseQsl s) ∧
      (queryPairs v).filter (fun p => !(keysOf (parseQsl s)).contains p.1) =
        (queryPairs u).filter (fun p => !(keysOf (parseQsl s)).contains p.1) ∧
      (queryPairs v = mdUpdateSpec (queryPairs u) (parseQsl s) ↔ StaleFree (queryPairs u) (parseQsl s)) ∧
      (StaleFree (queryPairs u) (parseQsl s) →
        ∀ k ∈ keysOf (parseQsl s),
          (queryPairs v).filter (fun p => p.1 = k) = (parseQsl s).filter (fun p => p.1 = k)) := by
  have hold : GoodPairs (queryPairs u) := by
    rcases hr with hr | ⟨hr, hq⟩
    · exact C12_constructor_goodpairs e u hr
    · exact (C12_reachE_good_pairs e u hr hq).2
  exact C12_qstr_update_query_algebra e u s hs hold hne

/-! ## the `%` operator -/

/-- MODEL-LEVEL remark.  The model has NO separate operation for `URL.__mod__`: in the library it is the single line
    `return self.update_query(query)` (a READING of the source, not a theorem), so `url % "a=1"` is
    `url.update_query("a=1")`.  What IS proved: the untyped positional entry point of the model (`dynUpdateQuery`,
    YarlModel/Dyn.lean — a hand transcription, GAPS 10 (a)) on a `str` or a plain `str` subclass is the typed
    `updateQuery` on that string.  Cites C12_qstr_mod_is_update_query. -/
theorem C12_headline_qstr_mod_is_update_query (e : Env) (u : Url) (s : Str) :
    dynUpdateQuery e u (.str s) = updateQuery e u (.str s) ∧
    dynUpdateQuery e u (.strSub s) = updateQuery e u (.str s) :=
  C12_qstr_mod_is_update_query e u s

/-! ## non-vacuity -/

example : GoodText sampleStr ∧ sampleStr ≠ [] ∧ GoodPairs (queryPairs (ex "a=1&b=2")) := by
  simp only [sampleStr, ex]; str_lits; decide +kernel

example : parseQsl sampleStr =
    [([107, 233], [0x20AC, 32, 120]), ("a".toStr, "1+2;z".toStr), ("n".toStr, [])] ∧
    parseQslLit sampleStr =
    [("k%C3%A9".toStr, "%E2%82%AC x".toStr), ("a".toStr, "1%2B2;z".toStr), ("n".toStr, [])] := by
  simp only [sampleStr]; str_lits; decide +kernel

/-- the algebra theorem on http://h/?a=1&b=2 with `StaleFree` discharged: the result is the specified one -/
example (e : Env) : ∃ v, updateQuery e (ex "a=1&b=2") (.str sampleStr) = .ok v ∧
    queryPairs v = mdUpdateSpec (queryPairs (ex "a=1&b=2")) (parseQsl sampleStr) := by
  obtain ⟨v, h1, _, _, h4, _⟩ := C12_headline_qstr_update_query_algebra e (ex "a=1&b=2") sampleStr
    (by simp only [sampleStr]; str_lits; decide +kernel) (by simp only [ex]; str_lits; decide +kernel)
    (by simp only [sampleStr]; str_lits; decide +kernel)
  exact ⟨v, h1, h4.mpr (C12_staleFree_of_nodup _ _ (by simp only [ex]; str_lits; decide +kernel))⟩

end Yarl
