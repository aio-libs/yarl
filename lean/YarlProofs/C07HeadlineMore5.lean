import YarlProofs.C07Headline
import YarlProofs.C07HeadlineMore
import YarlProofs.C07HeadlineMore3
import YarlProofs.C07HeadlineMore4
import YarlProofs.C03Encoded
import YarlProofs.C15ReachE
/-!
  C07HeadlineMore5.lean — AUDIT LAYER for property C07, fifth continuation of C07Headline.lean: headline theorems for the
  two proof modules added after the last refresh that bear on C07 — C03Encoded.lean (`encoded=True` on canonical text;
  GAPS 2) and C15ReachE.lean (the invariant "under an authority the stored path is empty or rooted" over ALL entry
  points; GAPS 8, hypothesis `hrooted`).  This file is a leaf, nobody imports it.  The GAPS block of C07Headline.lean cites
  the theorems of this file.

  C07 | Parsing follows RFC 3986 and raw accessors expose the parse |
  "For any input string the five components the parser extracts equal the RFC 3986 Appendix B decomposition of the
  input after stripping leading C0 controls/space and removing every TAB, CR and LF, and user, password, host and port
  are the split of the authority at its last '@', the first ':' of the userinfo, and the ':' after the host or closing
  bracket. With encoded=True those raw components are returned verbatim; in every mode raw_authority, raw_path,
  raw_query_string and raw_fragment are the literal substrings that re-compose to str(url)."

  What is here.
   * GAPS 2 ("With encoded=True those raw components are returned verbatim"), the case where "verbatim" and "as the
     auto-encoding constructor returns them" COINCIDE: `C07_headline_encoded_true_on_canonical_text` — for every text the
     checker `canonicalB` (C04Decide.lean) accepts, `URL(s, encoded=True)` stores the Appendix-B components of `s` itself
     (no cleaning needed), they are the parts `URL(s)` stores, the derived authority cache is the pre-filled one, every
     accessor agrees, and `str` is `s` ("the literal substrings that re-compose to str(url)": the string they were cut from).
   * GAPS 8 (`hrooted` of C07_headline_recompose_by_the_letter: "under an authority the stored path is empty or rooted"):
     `C07_headline_hrooted_all_entry_points` discharges it for every URL of the closure `C15_ReachE` (all entry points,
     `encoded=True` included, with the three C15 side conditions; for `build(…, encoded=True)` the side condition CONTAINS
     "empty or rooted"), `C07_headline_recompose_by_the_letter_all_entry_points` is the composition, and
     `C07_headline_hrooted_build_encoded_true_iff` says exactly when a `build(…, encoded=True)` result has it.

  Vocabulary: `canonicalB`, `toParts5`, `Acc9`, `AccVal.Same`, `pickleTwin` — see C03HeadlineMore5.lean;
  `C15_ReachE A Z Sc e u`, `C15_BuildEncOK a` — see C15HeadlineMore5.lean (C15ReachE.lean); `rawPath u` = `raw_path`;
  `C07_encBuildNetloc a` — the authority `build(…, encoded=True)` stores (C07Encoded.lean).
-/
namespace Yarl
open R8 ReachFix FixLemmas NetShape NetlocLemmas HostLemmas BrHost ParseLemmas

/-! ## Sentence 2a — "With encoded=True those raw components are returned verbatim": on canonical text (GAPS 2) -/

/-- For EVERY string the checker `canonicalB` accepts (both backends, every oracle assignment; hypothesis on the INPUT
    TEXT only): `v = URL(s, encoded=True)` and `u = URL(s)` exist; the five parts `v` stores are the RFC 3986 Appendix-B
    components of `s` ITSELF (canonical text needs no cleaning) and are the parts `u` stores; the authority components
    `v` derives lazily (raw_user / raw_password / raw_host / explicit_port) are the ones `encode_url` pre-filled in `u`;
    EVERY accessor of the model returns the same value on both; and both print `s`.  So on canonical text the
    "verbatim" components of `encoded=True` and the canonicalised components of the auto-encoding mode are the same
    values.  Outside canonical text they differ (C07_headline_text_around_brackets_ignored_url,
    C03_headline_encoded_true_fails_for_noncanonical).  Cites C03_encoded_true_on_canonical (C03Encoded.lean). -/
theorem C07_headline_encoded_true_on_canonical_text (e : Env) (s : Str)
    (h : canonicalB s = true) :          -- decidable on the raw text; a hand-written reading of "already canonical"
    ∃ v u, preEncodedUrl e s = .ok v ∧ encodeUrl e s = .ok u ∧
      toParts5 v.parts = Rfc.appendixB Gen.schemeChars s ∧
      v.scheme = u.scheme ∧ v.netloc = u.netloc ∧ v.path = u.path ∧ v.query = u.query ∧ v.fragment = u.fragment ∧
      v = pickleTwin u ∧ net e v = net e u ∧
      (∀ a : Acc9, AccVal.Same e (a.read e v) (a.read e u)) ∧
      str e v = .ok s ∧ str e u = .ok s := by
  obtain ⟨v, u, a1, a2, a3, _, a5, a6, a7, a8, a9, a10, _, _, _, _, a15, a16, _, _, _, _, _, _, _, _, _, _, _, _, a29,
    a30⟩ := C03_encoded_true_on_canonical e s h
  exact ⟨v, u, a1, a2, a3, a5, a6, a7, a8, a9, a10, a29, a30, a15, a16⟩

/-! ## Sentence 2b — "re-compose to str(url)": the hypothesis `hrooted` (GAPS 8) -/

/-- `hrooted` DISCHARGED over all entry points: every URL of the closure `C15_ReachE` (C15ReachE.lean: both constructor
    modes, both `build` modes, the 18 operations with Python-string arguments, `with_path(…, encoded=True)`,
    `joinpath(…, encoded=True)`, `join`; with `C15_CtorEncOK` / `C15_BuildEncOK` / `C15_WithPathEncOK` on the three
    `encoded=True` entry points that store text verbatim) has, under an authority, a stored path that is empty or starts
    with '/'.  Of the three side conditions only `C15_BuildEncOK` speaks about rootedness (the constructor gets it from
    Appendix B, `with_path` roots its argument); the other two, and the "no dot segment" half of `C15_BuildEncOK`, are
    carried along because this theorem is the C15 closure theorem read for its second conjunct: it is NOT claimed to be
    the weakest hypothesis for rootedness alone (no theorem states whether "empty or rooted" by itself is preserved by
    every operation when dot segments are present).  Cites C15_reachE_no_dot_segments. -/
theorem C07_headline_hrooted_all_entry_points {A Z Sc : Str → Prop} {e : Env} {u : Url}
    (h : C15_ReachE A Z Sc e u) :
    u.netloc ≠ [] → u.path = [] ∨ u.path.head? = some 47 :=
  fun hn => (C15_reachE_no_dot_segments h hn).2

/-- … the composition GAPS 8 said "is not made in this layer": for every `C15_ReachE` URL, under the three guards that
    are KNOWN FINDINGS (default port, empty path, rootless / no authority under an authority-taking scheme) and NO
    `hrooted`, `str(url)` is the plain RFC 3986 §5.3 concatenation of scheme, raw_authority, raw_path, raw_query_string,
    raw_fragment.  Cites C07_headline_recompose_by_the_letter, C15_reachE_no_dot_segments. -/
theorem C07_headline_recompose_by_the_letter_all_entry_points {A Z Sc : Str → Prop} (e : Env) (u : Url)
    (hr : C15_ReachE A Z Sc e u)         -- produced through any entry points (side conditions on three of them)
    (ep : Option Nat) (hep : explicitPort e u = .ok ep)
    (hport : ∀ p, ep = some p → some p ≠ defaultPort u.scheme)                         -- F-C07-default-port
    (hpath : ¬ (u.path = [] ∧ u.netloc ≠ [] ∧ u.query = [] ∧ u.fragment = []))          -- F-C07-empty-path
    (hnoauth : u.netloc = [] →                                                          -- F-C07-rootless
      ¬ (u.scheme ≠ [] ∧ Gen.usesAuthority.contains u.scheme = true) ∧ u.path.take 2 ≠ [47, 47]) :
    str e u = .ok ((if u.scheme = [] then [] else u.scheme ++ [58]) ++
                   (if u.netloc = [] then [] else [47, 47] ++ u.netloc) ++
                   rawPath u ++
                   (if u.query = [] then [] else 63 :: u.query) ++
                   (if u.fragment = [] then [] else 35 :: u.fragment)) :=
  C07_headline_recompose_by_the_letter e u ep hep hport hpath hnoauth (C07_headline_hrooted_all_entry_points hr)

/-- EXACTLY when a `URL.build(…, encoded=True)` result has `hrooted`: iff, whenever `authority=` or `host=` is non-empty,
    `path=` is empty or starts with '/' (`build` does not check this with `encoded=True`; the witness where it fails is
    C07_headline_recompose_by_the_letter_fails_for_rootless_build_encoded_true).  A composition of
    C15_encoded_build_iff (C15More2.lean: the stored path is `path=`, the stored authority `C07_encBuildNetloc a`) with
    R14.encBuildNetloc_ne_nil (C15ReachE.lean: that authority is non-empty iff `authority=` or `host=` is). -/
theorem C07_headline_hrooted_build_encoded_true_iff (e : Env) (a : BuildArgs) (u : Url)
    (ha : a.encoded = true) (h : build e a = .ok u) :
    (u.netloc ≠ [] → u.path = [] ∨ u.path.head? = some 47) ↔
      ((a.authority ≠ [] ∨ a.host ≠ []) → a.path = [] ∨ a.path.head? = some 47) := by
  obtain ⟨h1, h2, _⟩ := C15_encoded_build_iff e a u ha h
  rw [h1, h2, R14.encBuildNetloc_ne_nil]

/-! ## non-vacuity -/

/-- the closure member of C15_headline_reachE_example (three `encoded=True` steps in its history), both backends: the
    recomposition theorem applies without `hrooted` -/
example (b : Backend) :
    str ⟨b, Oracles.empty⟩ (fromParts "http".toStr "h".toStr "/x../y".toStr [] []) = .ok "http://h/x../y".toStr := by
  have hr := (C15_reachE_example b).1
  have := C07_headline_recompose_by_the_letter_all_entry_points ⟨b, Oracles.empty⟩ _ hr none
    (by cases b <;> decide +kernel) (by intro p hp; cases hp) (by decide) (by decide)
  rw [this]
  decide

/-- `build(scheme='http', host='h', path='x', encoded=True)`: the right-hand side of the iff fails -/
example : ¬ ((("h".toStr : Str) ≠ [] ∨ ("h".toStr : Str) ≠ []) → ("x".toStr : Str) = [] ∨ ("x".toStr : Str).head? = some 47) := by
  decide

end Yarl
