import YarlProofs.C09Headline
import YarlProofs.C09HeadlineMore
import YarlProofs.C09More
/-!
  C09HeadlineMore4.lean — AUDIT LAYER for property C09, continuation of C09Headline.lean / C09HeadlineMore.lean (the
  theorems here need C09More.lean, which imports both; this file is a leaf, nobody imports it).

  C09 | Eager and lazy component computation agree; pickling is lossless |
  "Every accessor returns the same value whether it was pre-computed while the URL was being built or derived later from
  the stored string parts. In particular a URL restored by pickle, copy or deepcopy compares equal to the original, has
  the same hash and string form, and returns identical values for every accessor."

  What is here (C09More.lean).
   * GAPS 3 "every accessor": ONE theorem over `Acc9`, THE list of accessor functions of the model (one name per accessor
     function of YarlModel/Url.lean; that the list is complete w.r.t. that FILE is checked at build time by a `run_cmd`
     assertion of C09More.lean — not a theorem; w.r.t. the PUBLIC API of the Python library it is still by inspection).
   * GAPS 1 "guard coverage": the guard `GoodAuthority` from the AUTHORITY TEXT of the input, for every host kind at once
     (decidable `AuthorityOK`), as an IFF on input that `split_url` / `split_netloc` accept; for a NON-ASCII host under
     the one trusted-base assumption `IdnaSaneAt`.  NEGATIVE: `GoodAuthority` is FALSE for an input without authority
     ("/a?b#c"); `InputOK` includes those inputs and sentence 1 + 2 are stated for it.
   * GAPS 2 / 7 "the exact boundary": for an input whose host text is ASCII, eager = lazy IFF `AgreeB` (decidable, on the
     authority text); the disagreeing authorities are exactly class (A) "normalises to empty" (F-C09-empty-authority) and
     class (B) "malformed brackets" (F-C09-bracket).  NEGATIVE: the guard `GoodAuthority` is sufficient, NOT necessary
     ("foo://[:[]/" is outside it and agrees).

  Vocabulary added by C09More.lean.
  `Acc9`, `Acc9.read a e u` — the names of the accessor functions of YarlModel/Url.lean and the value (`AccVal`: a tagged
                         result) the accessor named `a` returns on `u` (spelled out in C09_headline_accessor_list).
  `Indist e v w`       — `v` and `w` have the same five stored strings and the same netloc data `net e` (cached or derived).
  `AccVal.Same e x y`  — "the same value": equality; for a URL-valued accessor (`parent`, `origin()`, `relative()`): the
                         same error, or two URLs that are `Indist`.
  `ctorAuthorityText s`— the authority text of the input `s` as `split_url` cuts it: RFC 3986 Appendix B on the cleaned
                         input (`Rfc.appendixB`, `cleanUrl`).
  `hostText n`         — the host text `split_netloc` cuts out of the authority `n` (outer brackets removed).
  `userWritten n`      — there is a user in front of the last '@' with one character that is no lone surrogate.
  `CtorMods.portText n`— (C17Ctor.lean) the text after the ':' that follows the host; `[]` when there is none.
  `isV6 t`             — `ipaddress` accepts `t` as an IPv6 address (`parseIP t = some (.v6 _)`).
  `AuthorityOK n`      — the decidable guard: a non-empty host text without '[' inside, or an IPv6 literal before an
                         optional `%zone`; an empty host needs a written user, a password or a port text.
  `InputOK s`          — no authority at all, or `AuthorityOK` of the authority text.
  `OddHost w`          — `w` is "[" or every character of `w` after the first (at least one) is '['.
  `AgreeB n`           — the EXACT decidable predicate (spelled out in C09_headline_boundary_predicates_def).
  `NormalisesToEmpty n`, `MalformedBrackets n` — the two classes of disagreement (same theorem).
-/
namespace Yarl
open EagerLemmas NetlocLemmas

/-! ## Sentence 1 / 2 — "every accessor" (GAPS 3) -/

/-- the accessor list of the model, spelled out (each line by `rfl`): every accessor function of YarlModel/Url.lean —
    the five stored fields, the netloc-derived accessors, the path / query / fragment accessors, `parent` / `origin()` /
    `relative()`, the hash key, `__bool__`, and `==` `<` `<=` `>` `>=` against any other URL `v` on either side — IS
    `Acc9.read` of one name.  Cites C09_accessor_list_complete. -/
theorem C09_headline_accessor_list (e : Env) (u v : Url) :
    Acc9.scheme.read e u = .str (.ok u.scheme) ∧ Acc9.rawAuthority.read e u = .str (.ok u.netloc) ∧
    Acc9.storedPath.read e u = .str (.ok u.path) ∧ Acc9.rawQueryString.read e u = .str (.ok u.query) ∧
    Acc9.rawFragment.read e u = .str (.ok u.fragment) ∧ Acc9.parts.read e u = .parts (Url.parts u) ∧
    Acc9.lazyNet.read e u = .net (lazyNet e (pickleTwin u)) ∧ Acc9.net.read e u = .net (net e u) ∧
    Acc9.rawUser.read e u = .ostr (rawUser e u) ∧ Acc9.rawPassword.read e u = .ostr (rawPassword e u) ∧
    Acc9.rawHost.read e u = .ostr (rawHost e u) ∧ Acc9.explicitPort.read e u = .onat (explicitPort e u) ∧
    Acc9.user.read e u = .ostr (user e u) ∧ Acc9.password.read e u = .ostr (password e u) ∧
    Acc9.host.read e u = .ostr (host e u) ∧ Acc9.hostSubcomponent.read e u = .ostr (hostSubcomponent e u) ∧
    Acc9.hostPortSubcomponent.read e u = .ostr (hostPortSubcomponent e u) ∧ Acc9.port.read e u = .onat (port e u) ∧
    Acc9.isDefaultPort.read e u = .bool (isDefaultPort e u) ∧ Acc9.authority.read e u = .str (authority e u) ∧
    Acc9.str.read e u = .str (str e u) ∧ Acc9.humanRepr.read e u = .str (humanRepr e u) ∧
    Acc9.rawPath.read e u = .str (.ok (rawPath u)) ∧ Acc9.path.read e u = .str (.ok (pathDecoded e u)) ∧
    Acc9.pathSafe.read e u = .str (.ok (pathSafe e u)) ∧ Acc9.query.read e u = .pairs (queryPairs u) ∧
    Acc9.queryString.read e u = .str (.ok (queryString e u)) ∧ Acc9.pathQs.read e u = .str (.ok (pathQs e u)) ∧
    Acc9.rawPathQs.read e u = .str (.ok (rawPathQs u)) ∧ Acc9.fragment.read e u = .str (.ok (fragmentDecoded e u)) ∧
    Acc9.rawParts.read e u = .strs (.ok (rawParts u)) ∧ Acc9.partsDecoded.read e u = .strs (.ok (partsDecoded e u)) ∧
    Acc9.rawName.read e u = .str (rawName u) ∧ Acc9.name.read e u = .str (name e u) ∧
    Acc9.rawSuffix.read e u = .str (rawSuffix u) ∧ Acc9.suffix.read e u = .str (suffix e u) ∧
    Acc9.rawSuffixes.read e u = .strs (rawSuffixes u) ∧ Acc9.suffixes.read e u = .strs (suffixes e u) ∧
    Acc9.parent.read e u = .url (.ok (parent u)) ∧ Acc9.origin.read e u = .url (origin e u) ∧
    Acc9.relative.read e u = .url (relative u) ∧ Acc9.eqKey.read e u = .parts (eqKey u) ∧
    Acc9.truthy.read e u = .bool (.ok u.truthy) ∧
    (Acc9.beqL v).read e u = .bool (.ok (u.beq v)) ∧ (Acc9.beqR v).read e u = .bool (.ok (v.beq u)) ∧
    (Acc9.ltL v).read e u = .bool (.ok (u.lt v)) ∧ (Acc9.ltR v).read e u = .bool (.ok (v.lt u)) ∧
    (Acc9.leL v).read e u = .bool (.ok (u.le v)) ∧ (Acc9.leR v).read e u = .bool (.ok (v.le u)) ∧
    (Acc9.gtL v).read e u = .bool (.ok (u.gt v)) ∧ (Acc9.gtR v).read e u = .bool (.ok (v.gt u)) ∧
    (Acc9.geL v).read e u = .bool (.ok (u.ge v)) ∧ (Acc9.geR v).read e u = .bool (.ok (v.ge u)) :=
  C09_accessor_list_complete e u v

/-- what "the same value" (`AccVal.Same`) and "indistinguishable" (`Indist`) are, by unfolding: equality for every
    non-URL value; for a URL-valued accessor the same error or indistinguishable results; two URLs are indistinguishable
    when the restored twins are equal (the five stored strings) and the netloc data agree -/
theorem C09_headline_same_value_def (e : Env) :
    (∀ r r' : R Str, AccVal.Same e (.str r) (.str r') ↔ r = r') ∧
    (∀ r r' : R (Option Str), AccVal.Same e (.ostr r) (.ostr r') ↔ r = r') ∧
    (∀ r r' : R (Option Nat), AccVal.Same e (.onat r) (.onat r') ↔ r = r') ∧
    (∀ r r' : R Bool, AccVal.Same e (.bool r) (.bool r') ↔ r = r') ∧
    (∀ r r' : R (List Str), AccVal.Same e (.strs r) (.strs r') ↔ r = r') ∧
    (∀ l l' : List (Str × Str), AccVal.Same e (.pairs l) (.pairs l') ↔ l = l') ∧
    (∀ r r' : R NetPre, AccVal.Same e (.net r) (.net r') ↔ r = r') ∧
    (∀ p p' : Parts, AccVal.Same e (.parts p) (.parts p') ↔ p = p') ∧
    (∀ v w : Url, AccVal.Same e (.url (.ok v)) (.url (.ok w)) ↔ Indist e v w) ∧
    (∀ x y : PyErr, AccVal.Same e (.url (.error x)) (.url (.error y)) ↔ x = y) ∧
    (∀ (v : Url) (x : PyErr), ¬ AccVal.Same e (.url (.ok v)) (.url (.error x)) ∧
      ¬ AccVal.Same e (.url (.error x)) (.url (.ok v))) ∧
    (∀ v w : Url, Indist e v w ↔ (pickleTwin v = pickleTwin w ∧ net e v = net e w)) := by
  refine ⟨fun r r' => ?_, fun r r' => ?_, fun r r' => ?_, fun r r' => ?_, fun r r' => ?_, fun r r' => ?_, fun r r' => ?_,
    fun r r' => ?_, fun v w => Iff.rfl, fun x y => Iff.rfl, fun v x => ⟨fun h => h, fun h => h⟩, fun v w => Iff.rfl⟩ <;>
  · simp only [AccVal.Same]
    constructor
    · intro h; injection h
    · intro h; rw [h]

/-- "Every accessor returns the same value whether it was pre-computed while the URL was being built or derived later from
    the stored string parts … a URL restored by pickle, copy or deepcopy … returns identical values for every accessor" —
    ONE theorem over the whole accessor list (closes the enumeration part of GAPS 3): under the C09 guard, for EVERY
    name `a` the value read from the restored URL (`pickleTwin u`: the eager cache is gone) is the value read from the
    constructor result `u` (served from the eager cache).  Cites C09_every_accessor. -/
theorem C09_headline_every_accessor (e : Env) (s : Str) (u : Url)
    (hu : encodeUrl e s = .ok u)                         -- `u = URL(s)`
    -- excludes F-C09-bracket / F-C09-empty-authority (C09Headline.lean); from the input TEXT: C09_headline_guard_iff_input_text
    (hg : GoodAuthority e s)
    (a : Acc9) :
    AccVal.Same e (a.read e (pickleTwin u)) (a.read e u) :=
  C09_every_accessor e s u hu hg a

/-- … closed under iteration: indistinguishable URLs agree on EVERY accessor, and URL-valued results (`parent`,
    `origin()`, `relative()`) are indistinguishable again — so `restored.parent.origin().host` etc. agree too.
    Cites C09_indist_every_accessor. -/
theorem C09_headline_indistinguishable_every_accessor (e : Env) (v w : Url)
    (h : Indist e v w)                                   -- same five stored strings, same netloc data
    (a : Acc9) :
    AccVal.Same e (a.read e v) (a.read e w) :=
  C09_indist_every_accessor e v w h a

/-- sentence 1 in the vocabulary of the accessor list: either nothing was pre-computed, or what the lazy route derives
    from the stored netloc (`Acc9.lazyNet`) IS the eager cache (`Acc9.net`).  Cites C09_eager_entries_are_lazy. -/
theorem C09_headline_eager_entries_are_lazy (e : Env) (s : Str) (u : Url)
    (hu : encodeUrl e s = .ok u) (hg : GoodAuthority e s) :   -- as above
    u.pre = none ∨ Acc9.lazyNet.read e u = Acc9.net.read e u :=
  C09_eager_entries_are_lazy e s u hu hg

/-! ## the guard from the input text (GAPS 1) -/

/-- the decidable guard, spelled out (definitions of C09More.lean, by `rfl`) -/
theorem C09_headline_input_guard_def (s n : Str) :
    ctorAuthorityText s = (Rfc.appendixB Gen.schemeChars (cleanUrl s)).authority ∧
    hostText n = (hostPort (userSplit n).2.2).1 ∧
    userWritten n = (match (userSplit n).1 with
      | some u => u.any (fun c => !isSurrogate c)
      | none => false) ∧
    AuthorityOK n =
      (if (hostText n).isEmpty then userWritten n || (userSplit n).2.1.isSome || !(CtorMods.portText n).isEmpty
       else !mem 91 (hostText n) || isV6 (partition 37 (hostText n)).1) ∧
    InputOK s = ((ctorAuthorityText s).isEmpty || AuthorityOK (ctorAuthorityText s)) :=
  ⟨rfl, rfl, rfl, rfl, rfl⟩

/-- GAPS 1 — guard coverage, every host kind at once: a Python-string input whose authority text satisfies the decidable
    `AuthorityOK` is inside `GoodAuthority`; the only non-syntactic hypothesis is the trusted-base ASSUMPTION
    `IdnaSaneAt` for a NON-ASCII host text (nothing is asked for an ASCII host).  Cites C09_good_authority_of_input. -/
theorem C09_headline_guard_from_input_text (e : Env) (s : Str)
    (hs : PyStr s)                                            -- the input is a Python string
    (hok : AuthorityOK (ctorAuthorityText s) = true)          -- decidable, on the authority text
    (hidn : isAscii (hostText (ctorAuthorityText s)) = false →    -- ASSUMPTION about the idna package (IDN hosts only);
      IdnaSaneAt e.o (hostText (ctorAuthorityText s))) :          -- needed: C09_headline_idn_fails_for_insane_answer
    GoodAuthority e s :=
  C09_good_authority_of_input e s hs hok hidn

/-- … and nothing is missing: on an input that `split_url` and `split_netloc` accept, `AuthorityOK` of the authority text
    IS the guard (iff).  Cites C09_good_authority_iff_input. -/
theorem C09_headline_guard_iff_input_text (e : Env) (s : Str) (pt : Parts) (np : NetlocParts)
    (hs : PyStr s)                                            -- the input is a Python string
    (hpt : splitUrl e.o s = .ok pt) (hnp : splitNetloc e.o pt.netloc = .ok np)   -- the input is accepted so far
    (hidn : isAscii (hostText (ctorAuthorityText s)) = false →    -- ASSUMPTION (IDN hosts only), used for "←" only
      IdnaSaneAt e.o (hostText (ctorAuthorityText s))) :
    GoodAuthority e s ↔ AuthorityOK (ctorAuthorityText s) = true :=
  C09_good_authority_iff_input e s hs pt np hpt hnp hidn

/-- the families GAPS 1 names, all through the ONE predicate (computed): upper-case reg-name, trailing dot, IPv4 with
    userinfo and port, IPv6 with zone / with '[' in the zone, IPvFuture, bracketed IPv4 with ':' in the zone, the empty
    host with port / user / password, a liberal `int()` port text, and inputs WITHOUT authority -/
theorem C09_headline_input_guard_covers_host_kinds :
    ∀ s ∈ ["HTTP://ExAmple.COM/p".toStr, "http://example.com./".toStr, "http://u:p@1.2.3.4:8080/".toStr,
           "http://Us:p%40w@[::1%eth0]:8080/".toStr, "http://[::1%[x]:81/".toStr, "http://u@[v1.A:b]:80/".toStr,
           "http://[1.2.3.4%a:b]/".toStr, "foo://:80/".toStr, "//u@".toStr, "foo://:pw@/x".toStr,
           "http://h: 80 /".toStr, "/a/b?x=1".toStr, "mailto:x@y".toStr],
    InputOK s = true := R9.input_guard_covers_host_kinds

/-- NEGATIVE (not a defect of the library; a limit of the OLD guard): `GoodAuthority` is FALSE for an input WITHOUT
    authority — its empty-host clause asks for a user, a password or a port — so every theorem of C09Headline.lean with the
    hypothesis `GoodAuthority e s` says NOTHING about "/path", "mailto:x", "?q".  For such input nothing is
    pre-computed and the restored URL IS the URL.  Cites C09_guard_false_without_authority, C09_no_authority_twin. -/
theorem C09_headline_guard_false_without_authority :
    ¬ GoodAuthority envPy "/a?b#c".toStr ∧
    (∀ (e : Env) (s : Str) (u : Url), encodeUrl e s = .ok u → ctorAuthorityText s = [] →
      u.pre = none ∧ pickleTwin u = u) :=
  ⟨C09_guard_false_without_authority, fun e s u hu hn => C09_no_authority_twin e s u hu hn⟩

/-- sentences 1 and 2 FROM THE INPUT TEXT ALONE, with or without authority: for every accepted Python-string input with
    `InputOK` the eager entries are the lazy values, EVERY accessor of the restored URL returns the same value, the
    restored URL is `==` and has the same hash key.  Cites C09_pickle_lossless_of_input. -/
theorem C09_headline_pickle_lossless_of_input (e : Env) (s : Str) (u : Url)
    (hs : PyStr s)                                            -- the input is a Python string
    (hu : encodeUrl e s = .ok u)                              -- `u = URL(s)`
    -- no authority, or `AuthorityOK`: excludes class (A) / (B) of C09_headline_eager_ne_lazy_iff (and the harmless odd
    -- bracket texts of C09_headline_guard_sufficient_not_necessary)
    (hok : InputOK s = true)
    (hidn : isAscii (hostText (ctorAuthorityText s)) = false →    -- ASSUMPTION about the idna package (IDN hosts only)
      IdnaSaneAt e.o (hostText (ctorAuthorityText s))) :
    (∀ p, u.pre = some p → lazyNet e (pickleTwin u) = .ok p) ∧
    (∀ a : Acc9, AccVal.Same e (a.read e (pickleTwin u)) (a.read e u)) ∧
    (pickleTwin u).beq u = true ∧ eqKey (pickleTwin u) = eqKey u :=
  C09_pickle_lossless_of_input e s u hs hu hok hidn

/-! ## the exact boundary between eager = lazy and eager ≠ lazy (GAPS 2 / 7) -/

/-- the boundary predicates, spelled out (definitions of C09More.lean, by `rfl` / unfolding), and the fact that the
    complement of `AgreeB` is exactly the union of the two classes.  Cites C09_agreeB_false_iff. -/
theorem C09_headline_boundary_predicates_def (n : Str) :
    AgreeB n =
      (if (hostText n).isEmpty then
        mem 91 (userSplit n).2.2 || userWritten n || (userSplit n).2.1.isSome || !(CtorMods.portText n).isEmpty
       else !mem 91 (hostText n) || isV6 (partition 37 (hostText n)).1 ||
        ((CtorMods.portText n).isEmpty && OddHost (hostText n))) ∧
    (∀ w, OddHost w = (match w with
      | [] => false
      | c :: t => if c = 91 then t.isEmpty else !t.isEmpty && t.all (· == 91))) ∧
    -- class (A), F-C09-empty-authority: empty host, no '[', no written user, no password, no port text
    (NormalisesToEmpty n ↔ (hostText n = [] ∧ mem 91 (userSplit n).2.2 = false ∧ userWritten n = false ∧
      (userSplit n).2.1 = none ∧ CtorMods.portText n = [])) ∧
    -- class (B), F-C09-bracket: a '[' inside the host text, which is no IPv6 literal — except the odd texts without port
    (MalformedBrackets n ↔ (91 ∈ hostText n ∧ isV6 (partition 37 (hostText n)).1 = false ∧
      ¬ (CtorMods.portText n = [] ∧ OddHost (hostText n) = true))) ∧
    (AgreeB n = false ↔ NormalisesToEmpty n ∨ MalformedBrackets n) :=
  ⟨rfl, fun w => by cases w <;> rfl, Iff.rfl, Iff.rfl, C09_agreeB_false_iff n⟩

/-- GAPS 2 / 7 — THE EXACT BOUNDARY of sentence 1.  For a Python-string input the constructor accepts and whose host
    text is ASCII: the four eager cache entries are what the lazy route derives from the stored netloc IF AND ONLY IF
    `AgreeB` holds of the authority text.  Any backend, any oracle.  Cites C09_eager_lazy_iff. -/
theorem C09_headline_eager_lazy_iff (e : Env) (s : Str) (u : Url) (p : NetPre)
    (hs : PyStr s)                                            -- the input is a Python string
    (hu : encodeUrl e s = .ok u) (hpre : u.pre = some p)      -- `u = URL(s)` and its four cached entries `p`
    -- the host text is ASCII (non-ASCII hosts go through the IDNA oracle: C09_headline_idn_guard,
    -- C09_headline_idn_fails_for_insane_answer; no exact boundary is proved for them)
    (hascii : isAscii (hostText (ctorAuthorityText s)) = true) :
    lazyNet e (pickleTwin u) = .ok p ↔ AgreeB (ctorAuthorityText s) = true :=
  C09_eager_lazy_iff e s u p hs hu hpre hascii

/-- KNOWN FINDINGS F-C09-empty-authority and F-C09-bracket, as CLASSES: eager ≠ lazy exactly for "normalises to empty"
    ∪ "malformed brackets" (same hypotheses).  Cites C09_eager_ne_lazy_iff. -/
theorem C09_headline_eager_ne_lazy_iff (e : Env) (s : Str) (u : Url) (p : NetPre)
    (hs : PyStr s) (hu : encodeUrl e s = .ok u) (hpre : u.pre = some p)
    (hascii : isAscii (hostText (ctorAuthorityText s)) = true) :   -- as above
    lazyNet e (pickleTwin u) ≠ .ok p ↔
      NormalisesToEmpty (ctorAuthorityText s) ∨ MalformedBrackets (ctorAuthorityText s) :=
  C09_eager_ne_lazy_iff e s u p hs hu hpre hascii

/-- class (A) in closed form: among the non-empty authority texts WITHOUT lone surrogates (all ASCII ones) it is exactly
    "@", ":" and "@:" — the spellings of F-C09-empty-authority.  (With surrogates the further members are a user made of
    lone surrogates only in front of "@" / "@:", GAPS 7.)  Cites C09_normalises_to_empty_ascii. -/
theorem C09_headline_normalises_to_empty_ascii (n : Str)
    (hns : NoSurrogate n) (hne : n ≠ []) :
    NormalisesToEmpty n ↔ (n = "@".toStr ∨ n = ":".toStr ∨ n = "@:".toStr) :=
  C09_normalises_to_empty_ascii n hns hne

/-- the boundary on the inputs GAPS 2 and 7 discuss (computed): "[[::1]" is class (B); "//@:?#" and a lone-surrogate
    user in front of an EMPTY host are class (A); a lone-surrogate user in front of a non-empty host agrees (fix
    2fdb38c); the other two spellings KNOWN_FINDINGS lists under F-C09-bracket, "x[::1]" and "[::1]x", AGREE; "[x:[]:80"
    and "[A:[]" are further members of class (B) -/
theorem C09_headline_boundary_examples :
    MalformedBrackets (ctorAuthorityText "http://[[::1]/".toStr) ∧
    NormalisesToEmpty (ctorAuthorityText "//@:?#".toStr) ∧
    NormalisesToEmpty (ctorAuthorityText ("foo://".toStr ++ [0xDC80] ++ "@/x".toStr)) ∧
    AgreeB (ctorAuthorityText ("http://".toStr ++ [0xDC80] ++ "@host/".toStr)) = true ∧
    AgreeB (ctorAuthorityText "http://x[::1]/".toStr) = true ∧ AgreeB (ctorAuthorityText "http://[::1]x/".toStr) = true ∧
    AgreeB (ctorAuthorityText "foo://[x:[]:80/".toStr) = false ∧ AgreeB (ctorAuthorityText "foo://[A:[]/".toStr) = false := by
  obtain ⟨_, hB, _, hA1, _, hA2, rest⟩ := R9.boundary_examples
  exact ⟨hB, hA1, hA2, rest⟩

/-- GAPS 7, second half — the lone-surrogate user in front of an EMPTY host ("foo://\udc80@/x") on EVERY backend and
    with every oracle table (C09_headline_fails_for_surrogate_user_empty_host evaluates the compiled backend only):
    whenever the constructor accepts the input and pre-computes entries `p`, the restored URL does NOT derive `p`.
    Cites C09_eager_ne_lazy_iff. -/
theorem C09_headline_surrogate_user_empty_host_disagrees_any_backend (e : Env) (u : Url) (p : NetPre)
    (hu : encodeUrl e ("foo://".toStr ++ [0xDC80] ++ "@/x".toStr) = .ok u) (hpre : u.pre = some p) :
    lazyNet e (pickleTwin u) ≠ .ok p :=
  (C09_eager_ne_lazy_iff e _ u p (by decide) hu hpre (by str_lits; decide +kernel)).mpr (Or.inl (by str_lits; decide +kernel))

/-- NEGATIVE (about the GUARD, not about the library): `GoodAuthority` / `AuthorityOK` is SUFFICIENT for agreement but NOT
    necessary — "foo://[:[]/", "foo://[:[[]/" and "foo://[a:b]@[[]/" (host texts ":[", ":[[", "[") lie outside
    `GoodAuthority`, yet the eager entries are exactly what the restored URL derives.  Malformed input that the bracket
    check of `split_url` lets through; no observable defect.  Cites C09_authorityOK_agreeB, C09_guard_not_exact. -/
theorem C09_headline_guard_sufficient_not_necessary :
    (∀ n, AuthorityOK n = true → AgreeB n = true) ∧
    ∀ s ∈ ["foo://[:[]/".toStr, "foo://[:[[]/".toStr, "foo://[a:b]@[[]/".toStr],
      ¬ GoodAuthority envPy s ∧ AuthorityOK (ctorAuthorityText s) = false ∧ AgreeB (ctorAuthorityText s) = true ∧
      ∃ u p, encodeUrl envPy s = .ok u ∧ u.pre = some p ∧ lazyNet envPy (pickleTwin u) = .ok p :=
  ⟨C09_authorityOK_agreeB, C09_guard_not_exact⟩

end Yarl
