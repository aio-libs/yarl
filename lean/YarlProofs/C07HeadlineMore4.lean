import YarlProofs.C07Headline
import YarlProofs.C07HeadlineMore
import YarlProofs.C07Regex
/-!
  C07HeadlineMore4.lean — AUDIT LAYER for property C07, fourth file (after C07Headline.lean, C07HeadlineMore.lean and
  C07HeadlineMore3.lean): headline theorems for the proof module added after the last refresh, C07Regex.lean (over the
  generic regular-expression engine Lemmas/Regex.lean).  This file is a leaf, nobody imports it.  The GAPS block of
  C07Headline.lean cites the theorems of this file.

  C07 | Parsing is the RFC 3986 decomposition of the input |
  "For every input string, the scheme, authority, path, query and fragment the library extracts equal the RFC 3986
  Appendix B decomposition of the string after stripping leading C0-control/space characters and removing tab, CR and
  LF, and user, password, host and port are the split of the authority at its last '@', the first ':' of the userinfo,
  and the ':' after the host or closing ']'. With encoded=True those raw components are returned verbatim, and for every
  URL the raw accessors re-compose to str(url)."

  What is here.  Until now "the RFC 3986 Appendix B decomposition" was `Rfc.appendixB` (YarlModel/Rfc.lean) and "the
  split of the authority" was `Rfc.authoritySplit` (C07More.lean): two hand-written functions, related to nothing
  (GAPS 6 and 7).  C07Regex.lean relates both to REGULAR EXPRESSIONS QUOTED AS TEXT and run by a generic backtracking
  matcher: the expression printed in RFC 3986 Appendix B for the five components, and three expressions written for
  the property's sentence about the authority.  What becomes trusted instead is the matcher (GAPS 10) and, for the
  authority, the three expressions themselves (GAPS 11); the one comparison with a text of the RFC that is NOT of our
  making is C07_headline_authority_split_on_rfc_grammar (RFC 3986 §3.2 ABNF).

  Vocabulary added by Lemmas/Regex.lean and C07Regex.lean.
  `Regex.Re`, `Regex.matchK` — regular expressions with numbered capture groups, and the continuation-passing
      backtracking matcher (greedy `?` `*` `+` try "one more" first, `a|b` tries `a` first, a group under a quantifier
      keeps its last value; `.` is ANY code point, i.e. Python's `re.S`).  A hand-written semantics of Python `re`.
  `Regex.regexGroups r s` — `re.match(r, s).groups()`: anchored at the start only; `none` = no match; otherwise the list
      of the groups 1..n, each `none` (did not take part: Python `None`, "undefined" in the RFC) or `some text`.
  `Regex.parseRe text` — parser for the concrete syntax (`[…]`, `[^…]`, `.`, `\c`, `( )`, `|`, `?`, `*`, `+`, a leading
      `^` is dropped), groups numbered by their opening parenthesis.
  `appendixBText` — the text `^(([^:/?#]+):)?(//([^/?#]*))?([^?#]*)(\?([^#]*))?(#(.*))?` of RFC 3986 Appendix B;
      `appendixBRe` its syntax tree; `appendixBTailRe` the same without the first group `(([^:/?#]+):)?` (groups keep the
      numbers 3..9).
  `grp g i` — group `i` (1-based) of a `regexGroups` result (`none`: undefined, or no match).
  `regexParts5 g` — "scheme = $2, authority = $4, path = $5, query = $7, fragment = $9", undefined read as "", the
      scheme lower-cased.
  `schemeAccepted chars g2` — urllib's scheme test: `$2` is undefined or consists of `scheme_chars` only.
  `recomposeGroups g` — RFC 3986 §5.3 recomposition from the groups: a delimiter is written iff its group is DEFINED.
  `atText` = `((.*)@)?(.*)`, `colonText` = `([^:]*)(:(.*))?`, `hostPortText` =
      `[^\[]*\[([^\]]*)(\][^:]*(:(.*))?)?|([^:]*)(:(.*))?` — OUR expressions for "the last '@'", "the first ':' of the
      userinfo", "the ':' after the host or closing ']'"; `authorityByRegex a` applies them (atText to the authority,
      colonText to its `$2`, hostPortText to its `$3`).
  `authorityText ui bracketed h p` — the text `[ ui "@" ] host [ ":" p ]` with host `h` or `"[" h "]"` (RFC 3986 §3.2);
      `isRegNameText` (unreserved / sub-delims / '%'), `isIpLiteralBody` (unreserved / sub-delims / ':'), `isPortText`
      (digits) — the character classes of §3.2.2 / §3.2.3 (supersets of the grammar: the classes, not the structure).
-/
namespace Yarl
open Yarl.Regex

/-! ## Sentence 1 — "… equal the RFC 3986 Appendix B decomposition of the string after stripping … and removing …" -/

/-- the specification function `Rfc.appendixB` IS the regular expression printed in RFC 3986 Appendix B — the TEXT of
    the expression, parsed, and run by the generic backtracking matcher — for EVERY text `s`: its five components are
    `$2` (lower-cased), `$4`, `$5`, `$7`, `$9`, undefined read as empty, provided `$2` is undefined or made of
    `urllib.parse.scheme_chars`; when `$2` contains another character (this is urllib's / yarl's deviation from the
    expression, now exact) the text has NO scheme and the components are those of the expression without its first
    group applied to the whole text.
    Cites C07_appendixBRe_is_text, C07_appendixBTailRe_is_text, C07_appendixB_is_regex (C07Regex.lean). -/
theorem C07_headline_appendixB_is_the_rfc_regular_expression (s : Str) :
    parseRe appendixBText = some appendixBRe ∧                       -- the tree is the RFC's text
    parseReFrom 3 "(//([^/?#]*))?([^?#]*)(\\?([^#]*))?(#(.*))?" = some appendixBTailRe ∧
    Rfc.appendixB Gen.schemeChars s =
      if schemeAccepted Gen.schemeChars (grp (regexGroups appendixBRe s) 2) then
        regexParts5 (regexGroups appendixBRe s)
      else regexParts5 (regexGroups appendixBTailRe s) :=
  ⟨C07_appendixBRe_is_text, C07_appendixBTailRe_is_text, C07_appendixB_is_regex s⟩

/-- Sentence 1 end to end: whenever `split_url(s)` succeeds, the scheme, authority, path, query and fragment it
    extracts are the groups `$2` (lower-cased), `$4`, `$5`, `$7`, `$9` of the Appendix B expression on the cleaned
    input (leading C0-control / space stripped, tab / CR / LF removed) — of the expression without its scheme group
    when `$2` has a character outside `scheme_chars`.  (When it fails: ValueError or an oracle miss,
    C07_headline_parse_total.)  Cites C07_split_url_is_regex (C07Regex.lean). -/
theorem C07_headline_five_components_are_regex_groups (o : Oracles) (s : Str) (p : Parts)
    (h : splitUrl o s = .ok p) :                                     -- `split_url(s)` succeeds with `p`
    toParts5 p =
      if schemeAccepted Gen.schemeChars (grp (regexGroups appendixBRe (cleanUrl s)) 2) then
        regexParts5 (regexGroups appendixBRe (cleanUrl s))
      else regexParts5 (regexGroups appendixBTailRe (cleanUrl s)) :=
  C07_split_url_is_regex o s p h

/-- what the scheme group is: `$2 = w` iff the text is `w ++ ":" ++ rest` with `w` non-empty and free of `: / ? #`.
    Cites C07_regex_scheme_group (C07Regex.lean). -/
theorem C07_headline_regex_scheme_group (s w : Str) :
    grp (regexGroups appendixBRe s) 2 = some w ↔
      ∃ rest, s = w ++ 58 :: rest ∧ w ≠ [] ∧ ∀ x ∈ w, x ≠ 58 ∧ x ≠ 47 ∧ x ≠ 63 ∧ x ≠ 35 :=
  C07_regex_scheme_group s w

/-- the deviation from Appendix B, both directions: with `$2` undefined the two expressions agree (so the case
    distinction only matters for a defined `$2` with a non-scheme character), and with such a `$2` the model (and
    urllib) report NO scheme where the RFC's expression reports `$2`.
    Cites C07_regex_no_scheme_same, C07_appendixB_is_regex_rejected (C07Regex.lean). -/
theorem C07_headline_scheme_test_is_the_only_deviation (s : Str) :
    (grp (regexGroups appendixBRe s) 2 = none →
      regexParts5 (regexGroups appendixBRe s) = regexParts5 (regexGroups appendixBTailRe s)) ∧
    (schemeAccepted Gen.schemeChars (grp (regexGroups appendixBRe s) 2) = false →
      Rfc.appendixB Gen.schemeChars s = regexParts5 (regexGroups appendixBTailRe s) ∧
      (Rfc.appendixB Gen.schemeChars s).scheme = []) :=
  ⟨C07_regex_no_scheme_same s, C07_appendixB_is_regex_rejected s⟩

/-- KNOWN DEVIATION, witness: for "a_b:c/d?e" ('_' is not in `scheme_chars`) the expression of Appendix B says scheme
    "a_b", path "c/d"; `Rfc.appendixB` — and `split_url`, by C07_headline_five_components — say no scheme, path
    "a_b:c/d".  So "equal the RFC 3986 Appendix B decomposition" is FALSE by the letter for such inputs; it is urllib's
    reading (a scheme must consist of scheme characters, RFC 3986 §3.1, else the text is a relative reference).
    By computation, as in the examples of C07Regex.lean. -/
theorem C07_headline_appendixB_deviation_instance :
    schemeAccepted Gen.schemeChars (grp (regexGroups appendixBRe "a_b:c/d?e".toStr) 2) = false ∧
    regexParts5 (regexGroups appendixBRe "a_b:c/d?e".toStr) =
      { scheme := "a_b".toStr, authority := [], path := "c/d".toStr, query := "e".toStr, fragment := [] } ∧
    Rfc.appendixB Gen.schemeChars "a_b:c/d?e".toStr =
      { scheme := [], authority := [], path := "a_b:c/d".toStr, query := "e".toStr, fragment := [] } := by decide +kernel

/-- "undefined" versus "empty": for EVERY text the RFC 3986 §5.3 recomposition of the Appendix B groups (a delimiter
    written iff its group is defined) is the text itself — for both expressions.  In particular the match always covers
    the whole text, and a component is undefined iff its delimiter is absent; that is the information `Rfc.Parts5` (and
    yarl) drop (F-C04-empty-delims).  Cites C07_appendixB_regex_recompose, C07_appendixB_regex_tail_recompose. -/
theorem C07_headline_regex_groups_recompose (s : Str) :
    recomposeGroups (regexGroups appendixBRe s) = s ∧
    recomposeGroups (regexGroups appendixBTailRe s) = s :=
  ⟨C07_appendixB_regex_recompose s, C07_appendixB_regex_tail_recompose s⟩

/-! ## Sentence 1b — "user, password, host and port are the split of the authority at its last '@', the first ':' of
    the userinfo, and the ':' after the host or closing ']'" -/

/-- the specification function `Rfc.authoritySplit` IS the split by three regular expressions, each quoted as text and
    run by the generic matcher, for EVERY text (malformed authorities included): `((.*)@)?(.*)` (greedy: the LAST
    '@'), `([^:]*)(:(.*))?` on the userinfo (the FIRST ':'), `hostPortText` on the rest (a bracketed literal if there
    is a '[', otherwise the FIRST ':').  The three expressions are OURS, not the RFC's (GAPS 11).
    Cites C07_atRe_is_text, C07_colonRe_is_text, C07_hostPortRe_is_text, C07_authoritySplit_is_regex (C07Regex.lean). -/
theorem C07_headline_authority_split_is_regex (a : Str) :
    parseRe atText = some atRe ∧ parseRe colonText = some colonRe ∧ parseRe hostPortText = some hostPortRe ∧
    Rfc.authoritySplit a = authorityByRegex a :=
  ⟨C07_atRe_is_text, C07_colonRe_is_text, C07_hostPortRe_is_text, C07_authoritySplit_is_regex a⟩

/-- the library's `split_netloc(n)`, for EVERY text: the regular-expression split of the authority, user and host
    through `or None`, the port text through `int()` and the range check (which is where it can fail).
    Cites C07_split_netloc_is_regex (C07Regex.lean). -/
theorem C07_headline_split_netloc_is_regex (o : Oracles) (n : Str) :
    splitNetloc o n =
      (C07_portOf o (authorityByRegex n).port).map (fun pt =>
        { user := (authorityByRegex n).user.bind orNone, password := (authorityByRegex n).password,
          host := orNone (authorityByRegex n).host, port := pt }) :=
  C07_split_netloc_is_regex o n

/-- the comparison with the RFC itself: on EVERY authority text generated by the RFC 3986 §3.2 grammar
    `authority = [ userinfo "@" ] host [ ":" port ]` — any userinfo, a host that is a bracketed literal (body of
    unreserved / sub-delims / ':') or a reg-name / IPv4 address (unreserved / sub-delims / '%'), a port of digits —
    `Rfc.authoritySplit` returns exactly these parts, the userinfo cut at its first ':'.
    Cites C07_authoritySplit_rfc_grammar (C07Regex.lean). -/
theorem C07_headline_authority_split_on_rfc_grammar (ui : Option Str) (bracketed : Bool) (h : Str) (p : Option Str)
    (hh : if bracketed then isIpLiteralBody h = true else isRegNameText h = true)   -- host: IP-literal / reg-name
    (hp : ∀ t, p = some t → isPortText t = true) :                                  -- port: *DIGIT
    Rfc.authoritySplit (authorityText ui bracketed h p) =
      { user := ui.map (fun u => u.takeWhile (· ≠ 58)),
        password := ui.bind (fun u => if 58 ∈ u then some ((u.dropWhile (· ≠ 58)).drop 1) else none),
        host := h, port := p.getD [] } :=
  C07_authoritySplit_rfc_grammar ui bracketed h p hh hp

/-- … and the hypotheses of the grammar theorem matter: a "reg-name" with a ':' in it is not returned as the host.
    By computation. -/
theorem C07_headline_authority_split_outside_grammar_instance :
    isRegNameText "a:b".toStr = false ∧
    (Rfc.authoritySplit (authorityText none false "a:b".toStr none)).host ≠ "a:b".toStr := by decide +kernel

end Yarl
