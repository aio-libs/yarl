/-
  C15Entry.lean — property C15 at every entry point: whenever a URL has an authority, its
  path — however produced (constructor, build, with_path, /, joinpath, join) and whether the
  dots were literal or written %2E — contains no "." or ".." segment; URLs without an
  authority keep their dot segments verbatim.
-/
import YarlModel
import YarlProofs.C15
import YarlProofs.C01
import YarlProofs.Lemmas.EntryLemmas
import YarlProofs.Lemmas.JoinLemmas
import YarlProofs.Lemmas.Basics
import YarlProofs.Lemmas.BuildShape
namespace Yarl
open PathLemmas PathAlg WfLemmas EntryLemmas

attribute [local instance] ParseLemmas.decEqResult

/-- `NoDotSegments` of a path is `NoDots` of its '/'-segments -/
theorem noDotSegments_iff_noDots (p : Str) : NoDotSegments p ↔ NoDots (splitOn 47 p) := Iff.rfl

/-- (general fact) `normalize_path` output has no dot segment — for ANY input, rooted or not -/
theorem C15_normalizePath_no_dot_segments (p : Str) : NoDotSegments (normalizePath p) :=
  noDotSegments_normalizePath p

/-- the constructor: with an authority the stored path has no dot segment -/
theorem C15_entry_encodeUrl (e : Env) (s : Str) (u : Url) :
    encodeUrl e s = .ok u → u.netloc ≠ [] → NoDotSegments u.path := by
  intro h hn
  obtain ⟨p, _, hpath, _⟩ := encodeUrl_path e s u h
  rw [hpath]
  split
  · rename_i hemp; rw [isEmpty_eq_nil hemp]; exact noDotSegments_nil
  · rw [not_isEmpty_of_ne_nil hn, Bool.true_and]
    exact noDotSegments_guard _

/-- with an authority the constructor's path is what RFC 3986 §5.2.4 `remove_dot_segments` makes
    of the requoted Appendix-B path; that path is empty or starts with '/' ('/' is literal in the
    PATH table, so requoting keeps a leading '/'), which is where the stack algorithm and the RFC
    algorithm agree (`C15_rfc`) -/
theorem C15_entry_encodeUrl_rfc (e : Env) (s : Str) (u : Url) :
    encodeUrl e s = .ok u → u.netloc ≠ [] →
    ∃ p, splitUrl e.o s = .ok p ∧ (p.path = [] ∨ ∃ r, p.path = 47 :: r) ∧
      u.path = (if p.path.isEmpty then [] else Rfc.removeDotSegments (q e Gen.PATH_REQUOTER p.path)) ∧
      (u.path = [] ∨ ∃ r, u.path = 47 :: r) := by
  intro h hn
  obtain ⟨p, hp, hpath, hpn⟩ := encodeUrl_path e s u h
  have hroot := splitUrl_path_rooted e.o s p hp (fun hh => hn (hpn hh))
  refine ⟨p, hp, hroot, ?_⟩
  rcases hroot with h0 | ⟨r, hr⟩
  · rw [hpath, h0]
    exact ⟨rfl, Or.inl rfl⟩
  · obtain ⟨r', hr'⟩ := q_path_requoter_rooted e r
    rw [hpath, hr, not_isEmpty_of_ne_nil hn, Bool.true_and, hr', JoinLemmas.guard_rds, ← C15_rfc]
    exact ⟨rfl, .inr (C15_rooted r')⟩

/-- `URL.build(..., encoded=False)` -/
theorem C15_entry_build (e : Env) (a : BuildArgs) (u : Url) :
    a.encoded = false → build e a = .ok u → u.netloc ≠ [] → NoDotSegments u.path := by
  intro henc h hn
  obtain ⟨_, _, _, _, _, hpath, _⟩ := build_false_ok henc h
  rcases buildPath_ok hpath with ⟨h0 | h0, hp⟩ | ⟨_, _, hp⟩
  · exact absurd h0 hn
  · rw [hp, h0]; exact noDotSegments_nil
  · rw [hp]; exact noDotSegments_guard _

/-- `with_path(path)`: since fix 7cae68c the argument is rooted first (`"/" + path` for a rootless one) and
    `normalize_path` then runs on the rooted path, so the stored path has no dot segment -/
theorem C15_entry_withPath (e : Env) (u : Url) (path : Str) (kq kf : Bool) :
    u.netloc ≠ [] → NoDotSegments (withPath e u path false kq kf).path := by
  intro hn
  rw [withPath_eq]
  simp only [fromParts, not_isEmpty_of_ne_nil hn, Bool.true_and]
  exact noDotSegments_ensure_slash (noDotSegments_guard_rooted _)

/-- `ensureSlash` (the closing `if path and path[0] != "/": path = "/" + path`) on a non-empty path is `rooted` -/
theorem ensureSlash_of_ne_nil {p : Str} (h : p ≠ []) : ensureSlash p = rooted p := by
  unfold ensureSlash rooted
  split
  · exact absurd rfl h
  · rfl
  · split
    · rename_i hx   -- `p` starts with '/' after all
      exact absurd rfl (hx _)
    · rfl

/-- `with_path(path)` under an authority IS §5.2.4 (since fix 7cae68c): with `p` the quoted argument, an empty `p`
    is stored as it is (no '.', nothing rooted; the URL then shows "/" through `raw_path`), and a non-empty `p`
    is stored as `remove_dot_segments (rooted p)` — `rooted p` is `p` if it starts with '/', `"/" ++ p` otherwise -/
theorem C15_entry_withPath_rfc (e : Env) (u : Url) (path : Str) (kq kf : Bool) (hn : u.netloc ≠ []) :
    (withPath e u path false kq kf).path =
      if q e Gen.PATH_QUOTER path = [] then [] else Rfc.removeDotSegments (rooted (q e Gen.PATH_QUOTER path)) := by
  rw [withPath_eq]
  simp only [fromParts, not_isEmpty_of_ne_nil hn, Bool.true_and]
  generalize q e Gen.PATH_QUOTER path = p
  by_cases hp : p = []
  · subst hp; rfl
  · rw [if_neg hp]
    obtain ⟨r, hr, hpr⟩ := rooted_eq_cons p
    cases hm : mem 46 p with
    | true =>
      rw [if_pos rfl, hr]
      exact C15_rfc r
    | false =>
      rw [if_neg nofun, ensureSlash_of_ne_nil hp, hr]
      refine (rds_no_dot_any (47 :: r) fun hc => ?_).symm
      have h46 : 46 ∉ p := by
        rw [mem_eq] at hm
        simpa using hm
      rcases hpr with h | h
      · exact h46 (h ▸ hc)
      · exact h46 (h ▸ (List.mem_cons.1 hc).resolve_left (by decide))

/-- `/`, `joinpath` in either mode, result next to an authority: a '.' in some argument text makes `_make_child`
    normalise the whole merged path; without one no new segment contains a '.', so a dot segment could only come from
    the old path -/
theorem noDotSegments_makeChild {e : Env} {u v : Url} {paths : List Str} {enc : Bool}
    (h : makeChild e u paths enc = .ok v) (hn : v.netloc ≠ [])
    (hd : PathMore.argDots e enc paths = true ∨ NoDotSegments u.path) : NoDotSegments v.path := by
  obtain ⟨-, rfl⟩ := PathMore.makeChild_ok.1 h
  have hMs : Segs (root u.netloc (base u ++ PathMore.argSegs e enc paths)) :=
    segs_root _ (segs_append (segs_base u) (PathMore.segs_argSegs e enc paths))
  cases hnn : PathMore.argDots e enc paths with
  | false =>
    have hu : NoDotSegments u.path := hd.resolve_left (by rw [hnn]; exact Bool.false_ne_true)
    rw [childOf_false]
    exact noDotSegments_joinC _ hMs
      (noDots_root _ (noDots_append (noDots_base u hu) fun s hs =>
        noDots_of_no46 (PathMore.argDots_false_mem e enc paths hnn s hs)))
  | true =>
    -- the result has `u`'s authority, so the flag makes `_make_child` normalise the whole path
    have hnl : u.netloc ≠ [] := by
      unfold childOf at hn
      split at hn <;> exact hn
    rw [childOf_true u _ (by simpa using hnl)]
    exact noDotSegments_fixRoot
      (noDotSegments_joinC _ (normalizePathSegments_no_sep _ hMs) (noDots_normalizePathSegments _))

/-- `/`, `joinpath`: dots can only come from the new segments -/
theorem C15_entry_makeChild (e : Env) (u : Url) (paths : List Str) (v : Url) :
    makeChild e u paths false = .ok v → v.netloc ≠ [] → NoDotSegments u.path → NoDotSegments v.path :=
  fun h hn hu => noDotSegments_makeChild h hn (.inr hu)

/-- the merged path of `join` is the guarded normalisation of the raw merge, or the base path -/
theorem noDotSegments_joinRelPath {base ref : Url} (hb : NoDotSegments base.path) :
    NoDotSegments (joinRelPath base ref) := by
  unfold joinRelPath
  split
  · exact noDotSegments_guard _
  · exact hb

/-- `join`: (1) in the merge branch with a non-empty reference path the result is
    `normalize_path` of the merged path whenever that contains '.', with or without authority -/
theorem C15_entry_join_merge (e : Env) (base ref : Url)
    (hsch : ref.scheme = [] ∨ ref.scheme = base.scheme)
    (hrel : Gen.usesRelative.contains base.scheme = true)
    (hauth : ref.netloc = [] ∨ Gen.usesAuthority.contains base.scheme = false)
    (hp : ref.path ≠ []) :
    NoDotSegments (join e base ref).path := by
  rw [JoinLemmas.join_merge e base ref hsch hrel hauth]
  rw [joinRelPath, if_pos (not_isEmpty_of_ne_nil hp)]
  exact noDotSegments_guard _

/-- `join`: (2) whatever branch is taken, if neither operand has a dot segment the result has none
    (when the result is `ref` itself or `ref`'s parts it inherits `NoDotSegments ref.path`; with an
    empty reference path it inherits the base path) -/
theorem C15_entry_join_any (e : Env) (base ref : Url) :
    NoDotSegments base.path → NoDotSegments ref.path → NoDotSegments (join e base ref).path := by
  intro hb hr
  rcases join_cases e base ref with h | ⟨_, _, h⟩ | ⟨_, h⟩ <;> rw [h]
  · exact hr
  · exact hr
  · exact noDotSegments_joinRelPath hb

theorem C15_entry_join (e : Env) (base ref : Url) :
    (join e base ref).netloc ≠ [] → NoDotSegments base.path → NoDotSegments ref.path →
      NoDotSegments (join e base ref).path :=
  fun _ => C15_entry_join_any e base ref

/-- the hypothesis on `ref` is needed: a reference with its own authority is taken as it is
    (a reference made with `encoded=True` may carry dot segments) -/
theorem C15_entry_join_ref_counterexample (e : Env) :
    let base := fromParts "http".toStr "h".toStr "/x".toStr [] []
    let ref := fromParts "http".toStr "g".toStr "/a/../b".toStr [] []
    NoDotSegments base.path ∧ (join e base ref).netloc ≠ [] ∧ ¬ NoDotSegments (join e base ref).path := by
  simp only [join]; decide +kernel

/-- without an authority the constructor only requotes: dot segments are kept verbatim -/
theorem C15_no_authority_verbatim (e : Env) (s : Str) (u : Url) :
    encodeUrl e s = .ok u → u.netloc = [] →
    ∃ p, splitUrl e.o s = .ok p ∧
      u.path = (if p.path.isEmpty then p.path else q e Gen.PATH_REQUOTER p.path) := by
  intro h hn
  obtain ⟨p, hp, hpath, _⟩ := encodeUrl_path e s u h
  refine ⟨p, hp, ?_⟩
  rw [hpath, hn]
  simp

/-- escaped dots are decoded by the requoter and then normalised like literal ones -/
theorem C15_escaped_dots_normalised (b : Backend) :
    (encodeUrl ⟨b, Oracles.empty⟩ "http://h/a/%2E%2E/b".toStr).map (·.path) = .ok "/b".toStr ∧
    (encodeUrl ⟨b, Oracles.empty⟩ "http://h/%2e/x".toStr).map (·.path) = .ok "/x".toStr := by
  str_lits
  cases b <;> decide +kernel

/-! ### non-vacuity -/

/-- dot segments survive without an authority (both backends) … -/
example (b : Backend) :
    (encodeUrl ⟨b, Oracles.empty⟩ "a/%2E%2E/./b".toStr).map (fun u => (u.netloc, u.path))
      = .ok ([], "a/.././b".toStr) := by
  str_lits
  cases b <;> decide +kernel

/-- … and `NoDotSegments` is a real restriction -/
example : ¬ NoDotSegments "a/.././b".toStr := by str_lits; decide +kernel
example : NoDotSegments "/a/.b/c../...".toStr := by str_lits; decide +kernel

/-- constructor with authority, literal and escaped dots, rootless remainder impossible -/
example (b : Backend) :
    (encodeUrl ⟨b, Oracles.empty⟩ "http://h/a/./b/%2e%2E/c/..".toStr).map (fun u => (u.netloc, u.path))
      = .ok ("h".toStr, "/a/".toStr) := by
  str_lits
  cases b <;> decide +kernel

/-- build -/
example (b : Backend) :
    (build ⟨b, Oracles.empty⟩ { scheme := "http".toStr, host := "h".toStr, path := "/a/../../b/.".toStr }).map
      (fun u => (u.netloc, u.path)) = .ok ("h".toStr, "/b/".toStr) := by
  str_lits
  cases b <;> decide +kernel

/-- with_path: the rootless "../a" becomes "/a" -/
example (b : Backend) :
    (withPath ⟨b, Oracles.empty⟩ (fromParts "http".toStr "h".toStr "/x".toStr [] []) "../a".toStr
      false false false).path = "/a".toStr := by
  str_lits
  cases b <;> decide +kernel

/-- joinpath with dots in the new segments, and without -/
example (b : Backend) :
    (makeChild ⟨b, Oracles.empty⟩ (fromParts "http".toStr "h".toStr "/x/y".toStr [] [])
      ["..".toStr, "z/./w".toStr] false).map (fun u => (u.netloc, u.path))
      = .ok ("h".toStr, "/x/z/w".toStr) := by
  str_lits
  cases b <;> decide +kernel

example (b : Backend) :
    (makeChild ⟨b, Oracles.empty⟩ (fromParts "http".toStr "h".toStr "/x/y".toStr [] [])
      ["z".toStr] false).map (fun u => (u.netloc, u.path))
      = .ok ("h".toStr, "/x/y/z".toStr) := by
  str_lits
  cases b <;> decide +kernel

/-- join, merge branch -/
example (e : Env) :
    (join e (fromParts "http".toStr "h".toStr "/x/y".toStr [] []) (fromParts [] [] "../../../z/.".toStr [] [])).path
      = "/z/".toStr := by
  simp only [join]; decide +kernel

/-- the hypotheses of `C15_entry_join_merge` hold for an ordinary relative reference -/
example (e : Env) :
    NoDotSegments (join e (fromParts "http".toStr "h".toStr "/x/y".toStr [] [])
      (fromParts [] [] "../../../z/.".toStr [] [])).path :=
  C15_entry_join_merge e _ _ (by decide +kernel) (by decide +kernel) (by decide +kernel) (by decide +kernel)

/-- … and of `C15_entry_makeChild` / `C15_entry_encodeUrl` for the constructor's own results -/
example (b : Backend) (u v : Url) (hu : encodeUrl ⟨b, Oracles.empty⟩ "http://h/a/%2E%2E/b".toStr = .ok u)
    (hn : u.netloc ≠ []) (hv : makeChild ⟨b, Oracles.empty⟩ u ["..".toStr, "c d".toStr] false = .ok v)
    (hvn : v.netloc ≠ []) : NoDotSegments v.path :=
  C15_entry_makeChild _ u _ v hv hvn (C15_entry_encodeUrl _ _ u hu hn)

/-- THE C15 INVARIANT: under an authority the stored path has no dot segment, and is empty or rooted -/
def C15_Inv (u : Url) : Prop :=
  u.netloc ≠ [] → NoDotSegments u.path ∧ (u.path = [] ∨ u.path.head? = some 47)

end Yarl
