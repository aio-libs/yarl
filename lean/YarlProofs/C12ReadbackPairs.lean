/-
  C12ReadbackPairs.lean — part of properties C06 and C12: query keys and values supplied as decoded text (through a
  mapping or a sequence of pairs) read back unchanged from `url.query`, for every text without lone surrogates.
  One key or value: stdlib `unquote` after '+' → ' ' is form-decoding followed by UTF-8 decoding
  (`QsMore.stdUnquote_pts`), and form-decoding the quoter's output gives the UTF-8 bytes of the input (C02).
-/
import YarlModel
import YarlProofs.Lemmas.QsMore
namespace Yarl

open QsLemmas

theorem C12_part_readback (b : Backend) (t : Str) (ht : PyStr t) (hn : NoSurrogate t) :
    stdUnquote (plusToSpace (Gen.QUERY_PART_QUOTER.run b t)) = t := by
  have hwf := gen_tab_wf _ mem_QUERY_PART_QUOTER b
  -- the quoter's output is ASCII
  have hr : PyStr (Gen.QUERY_PART_QUOTER.run b t) ∧ NoSurrogate (Gen.QUERY_PART_QUOTER.run b t) := by
    rw [run_eq_cOut _ mem_QUERY_PART_QUOTER b t ht]
    exact pyStr_of_ascii _ (outLang_ascii _ hwf (cOut_outLang _ hwf _))
  rw [QsMore.stdUnquote_pts _ hr.1 hr.2, C02_gen_decode_QUERY_PART_QUOTER b t ht, decodeReplace_utf8s t ht hn]

namespace QsLemmas


theorem qslPiece_pairText (b : Backend) (p : Str × Str)
    (h : PyStr p.1 ∧ NoSurrogate p.1 ∧ PyStr p.2 ∧ NoSurrogate p.2) :
    qslPiece (pairText b p) = some p := by
  obtain ⟨h1, n1, h2, n2⟩ := h
  have hk := (C12_part_no_delims b p.1 h1).2
  have hne : (pairText b p).isEmpty = false := by simp [pairText]
  have hpart : splitFirstEq (pairText b p)
      = (Gen.QUERY_PART_QUOTER.run b p.1, some (Gen.QUERY_PART_QUOTER.run b p.2)) := by
    -- the first `=` is the one written between key and value
    have hp : ∀ x ∈ Gen.QUERY_PART_QUOTER.run b p.1, decide (x ≠ 61) = true := by
      intro x hx
      have : x ≠ 61 := fun e => hk (e ▸ hx)
      simpa using this
    unfold splitFirstEq
    rw [ParseLemmas.partition_eq]
    simp only [pairText, List.append_assoc, List.singleton_append]
    rw [List.takeWhile_append_of_pos hp, List.dropWhile_append_of_pos hp]
    simp
  unfold qslPiece
  simp only [hne, Bool.false_eq_true, if_false, hpart, Option.getD_some]
  rw [C12_part_readback b p.1 h1 n1, C12_part_readback b p.2 h2 n2]

/-- core of the read-back theorems: rendered pairs joined with '&' parse back -/
theorem parseQsl_joinC_pairText (b : Backend) (ps : List (Str × Str))
    (h : ∀ p ∈ ps, PyStr p.1 ∧ NoSurrogate p.1 ∧ PyStr p.2 ∧ NoSurrogate p.2) :
    parseQsl (joinC 38 (ps.map (pairText b))) = ps := by
  cases ps with
  | nil => rfl
  | cons p rest =>
    rw [parseQsl_eq]
    have hne : (joinC 38 ((p :: rest).map (pairText b))).isEmpty = false := by
      cases hj : joinC 38 ((p :: rest).map (pairText b)) with
      | nil =>
        rw [List.map_cons] at hj
        have := joinC_cons_eq_nil 38 _ _ hj
        simp [pairText] at this
      | cons _ _ => rfl
    simp only [hne, Bool.false_eq_true, if_false]
    rw [PathLemmas.splitOn_joinC (c := 38) _ (by simp)]
    · exact filterMap_map_id qslPiece (pairText b) _ (fun x hx => qslPiece_pairText b x (h x hx))
    · intro s hs
      obtain ⟨x, hx, rfl⟩ := List.mem_map.mp hs
      exact pairText_no_amp b x (h x hx).1 (h x hx).2.2.1

end QsLemmas

/-- pairs of strings read back exactly (including `ps = []`, rendered as "",
    and `ps = [([], [])]`, rendered as "=") -/
theorem C12_query_readback (b : Backend) (ps : List (Str × Str))
    (h : ∀ p ∈ ps, PyStr p.1 ∧ NoSurrogate p.1 ∧ PyStr p.2 ∧ NoSurrogate p.2) (q : Str) :
    strQueryFromIterable b (strItems ps) = .ok q → parseQsl q = ps := by
  rw [strQuery_strItems]
  intro hq
  cases hq
  exact parseQsl_joinC_pairText b ps h

/-- numbers are rendered by str() and read back as that text -/
theorem C12_int_readback (b : Backend) (k : Str) (n : Int) (hk : PyStr k ∧ NoSurrogate k) (q : Str) :
    strQueryFromIterable b [(k, .one (.int n))] = .ok q → parseQsl q = [(k, intToStr n)] := by
  have hr : strQueryFromIterable b [(k, .one (.int n))]
      = .ok (joinC 38 ([(k, intToStr n)].map (pairText b))) := rfl
  rw [hr]
  intro hq
  cases hq
  apply parseQsl_joinC_pairText
  intro p hp
  simp only [List.mem_singleton] at hp
  subst hp
  have := pyStr_of_ascii _ (intToStr_ascii n)
  exact ⟨hk.1, hk.2, this.1, this.2⟩

/-- with_query(sequence of string pairs) yields exactly those pairs, in order
    (the statement carries `hne`; it holds without it: the empty sequence gives the empty query) -/
theorem C12_with_query_pairs (e : Env) (u : Url) (ps : List (Str × Str))
    (h : ∀ p ∈ ps, PyStr p.1 ∧ NoSurrogate p.1 ∧ PyStr p.2 ∧ NoSurrogate p.2) (hne : ps ≠ []) :
    ∃ v, withQuery e u (.pairs (strItems ps)) = .ok v ∧ queryPairs v = ps ∧
      v.scheme = u.scheme ∧ v.netloc = u.netloc ∧ v.path = u.path ∧ v.fragment = u.fragment := by
  have hemp : (strItems ps).isEmpty = false := by
    cases ps with
    | nil => exact absurd rfl hne
    | cons p rest => rfl
  have hw : withQuery e u (.pairs (strItems ps))
      = .ok (fromParts u.scheme u.netloc u.path (joinC 38 (ps.map (pairText e.b))) u.fragment) := by
    unfold withQuery getStrQuery
    simp only [hemp, Bool.false_eq_true, if_false]
    rw [strQuery_strItems]
    rfl
  refine ⟨_, hw, ?_, rfl, rfl, rfl, rfl⟩
  show parseQsl (joinC 38 (ps.map (pairText e.b))) = ps
  exact parseQsl_joinC_pairText e.b ps h

/-! ### non-vacuity: the sample inputs of C12Readback.lean (every delimiter, '%', '#', space, non-ASCII and non-BMP
    characters) go through -/

example (b : Backend) : stdUnquote (plusToSpace (Gen.QUERY_PART_QUOTER.run b sampleKey)) = sampleKey :=
  C12_part_readback b sampleKey (by decide +kernel) (by decide +kernel)

example (b : Backend) (q : Str) (hq : strQueryFromIterable b (strItems samplePairs) = .ok q) :
    parseQsl q = samplePairs :=
  C12_query_readback b samplePairs (by decide +kernel) q hq

/-- the corner cases of the main theorem: no pair at all, and one pair of two empty strings -/
example (b : Backend) : strQueryFromIterable b (strItems []) = .ok [] ∧ parseQsl [] = [] :=
  ⟨rfl, rfl⟩
example (b : Backend) (q : Str) (hq : strQueryFromIterable b (strItems [([], [])]) = .ok q) :
    parseQsl q = [([], [])] :=
  C12_query_readback b [([], [])] (by decide +kernel) q hq

example (e : Env) (u : Url) :
    ∃ v, withQuery e u (.pairs (strItems samplePairs)) = .ok v ∧ queryPairs v = samplePairs ∧
      v.scheme = u.scheme ∧ v.netloc = u.netloc ∧ v.path = u.path ∧ v.fragment = u.fragment :=
  C12_with_query_pairs e u samplePairs (by decide +kernel) (by decide +kernel)

example (b : Backend) (q : Str) (hq : strQueryFromIterable b [(sampleKey, .one (.int (-120)))] = .ok q) :
    parseQsl q = [(sampleKey, [45, 49, 50, 48])] :=
  C12_int_readback b sampleKey (-120) (by decide +kernel) q hq

end Yarl
