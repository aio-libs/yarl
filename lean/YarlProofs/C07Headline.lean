import YarlProofs.C07
import YarlProofs.C07Recompose
import YarlProofs.Lemmas.FixLemmas
/-!
  C07Headline.lean — AUDIT LAYER for property C07.
  Continued in C07HeadlineMore.lean (theorems that need modules which import this file).
  Continued further in C07HeadlineMore3.lean (C07Encoded.lean, added after both files: `URL.build(…, encoded=True)` stores
  its arguments verbatim, its raw authority accessors, which calls raise; `str()` of `encoded=True` URLs).
  Continued further in C07HeadlineMore4.lean (C07Regex.lean over Lemmas/Regex.lean: `Rfc.appendixB` is the regular
  expression printed in RFC 3986 Appendix B, `Rfc.authoritySplit` is a split by three regular expressions and agrees
  with the RFC 3986 §3.2 grammar; GAPS 6, 7, 10, 11).
  Continued in C07HeadlineMore5.lean (C03Encoded.lean, C15ReachE.lean, added later: `encoded=True` on canonical text,
  GAPS 2; the hypothesis `hrooted` over all entry points, GAPS 8).

  C07 | Parsing is the RFC 3986 decomposition of the input |
  "For every input string, the scheme, authority, path, query and fragment the library extracts equal the RFC 3986
  Appendix B decomposition of the string after stripping leading C0-control/space characters and removing tab, CR and
  LF, and user, password, host and port are the split of the authority at its last '@', the first ':' of the userinfo,
  and the ':' after the host or closing ']'. With encoded=True those raw components are returned verbatim, and for every
  URL the raw accessors re-compose to str(url)."

  Vocabulary.  `splitUrl o s` = `split_url(s)` (both constructor modes start with it); `Rfc.appendixB chars t`
  (YarlModel/Rfc.lean) is an independent transcription of the Appendix B regular expression, read left to right, the
  scheme group restricted to `chars+` and folded to lower case, absent = empty.  `toParts5` only renames the fields.
  `splitNetloc o n` = `split_netloc(n)`.  `orNone x` = `x or None`.  `pyInt` = Python `int(text)`.
-/
namespace Yarl
open ParseLemmas

/-! ## Sentence 1a — "For every input string, the scheme, authority, path, query and fragment the library extracts equal
    the RFC 3986 Appendix B decomposition of the string after stripping leading C0-control/space characters and removing
    tab, CR and LF" -/

/-- the sentence: whenever parsing succeeds the five parts are Appendix B of the cleaned string, and cleaning is exactly
    "strip leading characters ≤ 0x20, then delete every TAB (9), LF (10), CR (13)". -/
theorem C07_headline_five_components (o : Oracles) (s : Str) (p : Parts) :
    splitUrl o s = .ok p →
    toParts5 p = Rfc.appendixB Gen.schemeChars (cleanUrl s) ∧
    cleanUrl s = (s.dropWhile (fun c => decide (c ≤ 32))).filter (fun c => c ≠ 9 ∧ c ≠ 10 ∧ c ≠ 13) :=
  fun h => ⟨C07_split o s p h, C07_clean_spec s⟩
-- Appendix E: C07_split ↦ C07_split (same name; `p = Rfc.appendixB (clean s)` up to the field renaming `toParts5` and the
--             explicit `Gen.schemeChars`).

/-- "For every input string": parsing either succeeds or raises ValueError — for an ASCII authority exactly when the
    bracket check fails; the third disjunct is a harness artefact (a non-ASCII authority whose NFKC form the oracle
    table does not contain). -/
theorem C07_headline_parse_total (o : Oracles) (s : Str) :
    ((∃ p, splitUrl o s = .ok p) ∨ splitUrl o s = .error .valueError ∨
      (∃ f a, splitUrl o s = .error (.oracleMiss f a))) ∧
    (isAscii (Rfc.appendixB Gen.schemeChars (cleanUrl s)).authority = true →
      (splitUrl o s = .error .valueError ↔
        checkBrackets (Rfc.appendixB Gen.schemeChars (cleanUrl s)).authority = .error .valueError)) :=
  ⟨C07_split_total o s, C07_split_error_ascii o s⟩
-- Appendix E: C07_split_total ↦ C07_split_total (same name; the `oracleMiss` disjunct is new).

/-! ## Sentence 1b — "and user, password, host and port are the split of the authority at its last '@', the first ':' of
    the userinfo, and the ':' after the host or closing ']'." -/

/-- "user, password … are the split of the authority at its last '@', the first ':' of the userinfo": with an '@',
    `n = ui ++ "@" ++ hi` with no '@' in `hi` (so this is the LAST '@'), user = text before the first ':' of `ui`
    (`None` if empty), password = text after it (`None` iff `ui` has no ':'); without '@' both are `None`. -/
theorem C07_headline_userinfo_split (o : Oracles) (n : Str) (r : NetlocParts) (h : splitNetloc o n = .ok r) :
    (64 ∈ n → ∃ ui hi : Str, n = ui ++ [64] ++ hi ∧ 64 ∉ hi ∧
      r.user = orNone (ui.takeWhile (· ≠ 58)) ∧
      r.password = (if 58 ∈ ui then some ((ui.dropWhile (· ≠ 58)).drop 1) else none)) ∧
    (64 ∉ n → r.user = none ∧ r.password = none) :=
  ⟨fun h64 => C07_netloc_userinfo o n r h64 h, fun h64 => C07_netloc_no_userinfo o n r h64 h⟩

/-- NEW (the project had this only as the unnamed normal form `splitNetloc_eq` + `hostPort`): "host and port are the
    split … at the ':' after the host or closing ']'".  `hi` is the text after the last '@' (the whole authority without
    one).  Without '[' : host = text before the first ':' of `hi`, port text = what follows it.  With '[' : host = text
    between the first '[' and the next ']', port text = what follows the first ':' after that ']'.  host = `hostT or
    None`; an empty port text is `None`, otherwise it is `int(portT)` and lies in 0..65535. -/
theorem C07_headline_host_port (o : Oracles) (n : Str) (r : NetlocParts) (h : splitNetloc o n = .ok r) :
    ∃ hi hostT portT : Str,
      (64 ∈ n → ∃ ui, n = ui ++ [64] ++ hi ∧ 64 ∉ hi) ∧ (64 ∉ n → hi = n) ∧
      (91 ∉ hi → hostT = hi.takeWhile (· ≠ 58) ∧ portT = (hi.dropWhile (· ≠ 58)).drop 1) ∧
      (91 ∈ hi → hostT = ((hi.dropWhile (· ≠ 91)).drop 1).takeWhile (· ≠ 93) ∧
        portT = ((((hi.dropWhile (· ≠ 91)).drop 1).dropWhile (· ≠ 93)).drop 1 |>.dropWhile (· ≠ 58)).drop 1) ∧
      r.host = orNone hostT ∧ (portT = [] → r.port = none) ∧
      (portT ≠ [] → ∃ p : Int, pyInt o portT = .ok (some p) ∧ 0 ≤ p ∧ p ≤ 65535 ∧ r.port = some p.toNat) := by
  obtain ⟨pt, hpt, rfl⟩ := NetlocLemmas.splitNetloc_ok_iff.1 h
  refine ⟨(NetlocLemmas.userSplit n).2.2, (NetlocLemmas.hostPort (NetlocLemmas.userSplit n).2.2).1,
    (NetlocLemmas.hostPort (NetlocLemmas.userSplit n).2.2).2, fun h64 => ?_, fun h64 => ?_, fun h91 => ?_, fun h91 => ?_,
    rfl, fun h0 => ?_, fun hne => ?_⟩
  · obtain ⟨e, hni⟩ := rpartition_mem h64
    have := NetlocLemmas.userSplit_at (rpartition 64 n).1 _ hni
    rw [show (rpartition 64 n).1 ++ 64 :: (rpartition 64 n).2.2 = n by simpa using e.symm] at this
    rw [this]
    exact ⟨_, e, hni⟩
  · rw [NetlocLemmas.userSplit_noAt n h64]
  · rw [NetlocLemmas.hostPort_noBracket h91, partition_eq]
    exact ⟨rfl, rfl⟩
  · simp [NetlocLemmas.hostPort, mem_eq, h91, partition_eq]
  · rcases NetlocLemmas.portOf_ok_iff.1 hpt with ⟨_, e⟩ | ⟨hne, _⟩
    · exact e
    · exact absurd h0 hne
  · rcases NetlocLemmas.portOf_ok_iff.1 hpt with ⟨e, _⟩ | ⟨_, hp⟩
    · exact absurd e hne
    · exact hp
-- Appendix E: C07_netloc ↦ C07_headline_userinfo_split + C07_headline_host_port, which state the split directly with
--             takeWhile/dropWhile.  The planned independent specification `Rfc.authoritySplit` has since been written
--             (C07More.lean) and `C07_netloc` (C07More.lean) proves `splitNetloc` EQUAL to it, failure case included:
--             see C07_headline_authority_split (C07HeadlineMore.lean).

/-! ## Sentence 2a — "With encoded=True those raw components are returned verbatim" -/

/-- "With encoded=True those raw components are returned verbatim": the stored parts ARE the Appendix B parts (nothing is
    requoted, lower-cased — except the scheme, which Appendix-B-as-implemented folds — or normalised), no cache is
    pre-filled, so user / password / host / port are read lazily from the stored authority by `split_netloc`. -/
theorem C07_headline_encoded_true_verbatim (e : Env) (s : Str) (u : Url) :
    preEncodedUrl e s = .ok u →
    toParts5 u.parts = Rfc.appendixB Gen.schemeChars (cleanUrl s) ∧ u.pre = none ∧ net e u = lazyNet e u := by
  intro h
  obtain ⟨h1, h2⟩ := C07_preencoded_verbatim e s u h
  refine ⟨h1, h2, ?_⟩
  unfold net; rw [h2]

/-! ## Sentence 2b — "and for every URL the raw accessors re-compose to str(url)." -/

/-- "for every URL the raw accessors re-compose to str(url)": str(url) is `unsplit_result` of raw scheme, raw authority,
    raw_path-as-written ("/" for an empty path before '?'/'#' under an authority), raw query, raw fragment —
    Two of the three known deviations from a by-the-letter re-composition are inside the right-hand side, not in a
    hypothesis: `C07_strPath u` is NOT `raw_path` for an empty path under an authority without query and fragment
    (F-C07-empty-path, C07_headline_recompose_fails_for_empty_path), and `unsplit_result` is NOT plain concatenation
    when there is no authority under a scheme of urllib's uses_netloc (F-C07-rootless,
    C07_headline_recompose_fails_for_rootless).  The statement in terms of `rawPath` and plain concatenation, with all
    three guards as hypotheses, is C07_headline_recompose_by_the_letter (C07HeadlineMore.lean). -/
theorem C07_headline_raw_accessors_recompose (e : Env) (u : Url) (ep : Option Nat)
    (hep : explicitPort e u = .ok ep)
    -- known finding F-C07-default-port: an explicit port equal to the scheme default is dropped by str():
    -- C07_headline_recompose_fails_for_default_port
    (hport : ∀ p, ep = some p → some p ≠ defaultPort u.scheme) :
    str e u = .ok (unsplitResult u.scheme u.netloc (C07_strPath u) u.query u.fragment) :=
  C07_str_recompose e u ep hep hport

attribute [local instance] ParseLemmas.decExistsOk

/-- — except that an explicit default port is in the raw authority but not in str(url): URL('http://a:80/') has netloc
    "a:80" and string "http://a/".  KNOWN FINDING F-C07-default-port (str() omits the default port as property C17
    requires; what str() shows instead of `raw_authority` is C07_headline_recompose_with_accessors,
    C07HeadlineMore.lean). -/
theorem C07_headline_recompose_fails_for_default_port :
    let e : Env := ⟨.py, Oracles.empty⟩
    ∃ u, encodeUrl e "http://a:80/".toStr = .ok u ∧ u.netloc = "a:80".toStr ∧ explicitPort e u = .ok (some 80) ∧
      str e u = .ok "http://a/".toStr ∧
      unsplitResult u.scheme u.netloc (C07_strPath u) u.query u.fragment = "http://a:80/".toStr := by
  str_lits; decide +kernel

/-- — and except that `raw_path` is "/" for an empty path under an authority while str(url) writes no path there:
    URL('http://h') has raw_authority "h", raw_path "/", no query, no fragment, and string "http://h"; re-composing
    the raw accessors gives "http://h/".  KNOWN FINDING F-C07-empty-path (the two URLs are equal by C10; the exact
    condition is C07_headline_raw_path_vs_str_path, C07HeadlineMore.lean). -/
theorem C07_headline_recompose_fails_for_empty_path :
    let e : Env := ⟨.py, Oracles.empty⟩
    ∃ u, encodeUrl e "http://h".toStr = .ok u ∧ u.scheme = "http".toStr ∧ u.netloc = "h".toStr ∧
      rawPath u = "/".toStr ∧ u.query = [] ∧ u.fragment = [] ∧
      str e u = .ok "http://h".toStr ∧
      unsplitResult u.scheme u.netloc (rawPath u) u.query u.fragment = "http://h/".toStr := by
  decide +kernel

/-- — and except that a rootless path under a scheme of urllib's `uses_netloc` and NO authority is written after
    "///": URL('ws:a?x') has scheme "ws", raw_authority "", raw_path "a", raw_query_string "x", and string
    "ws:///a?x", whereas the RFC 3986 §5.3 re-composition of these components (scheme ":" path "?" query — no "//"
    without an authority) is the input "ws:a?x"; the string written re-parses with raw_path "/a".
    KNOWN FINDING F-C07-rootless (same root as F-C03-rootless / F-C04-single-slash: `unsplit_result` writes an
    absent authority as an empty one for these schemes). -/
theorem C07_headline_recompose_fails_for_rootless :
    let e : Env := ⟨.py, Oracles.empty⟩
    ∃ u, encodeUrl e "ws:a?x".toStr = .ok u ∧ u.scheme = "ws".toStr ∧ u.netloc = [] ∧ rawPath u = "a".toStr ∧
      u.query = "x".toStr ∧ u.fragment = [] ∧
      str e u = .ok "ws:///a?x".toStr ∧
      u.scheme ++ [58] ++ rawPath u ++ [63] ++ u.query = "ws:a?x".toStr ∧
      ∃ v, encodeUrl e "ws:///a?x".toStr = .ok v ∧ v.netloc = [] ∧ rawPath v = "/a".toStr := by
  decide +kernel

/-- the two inverse directions at the level of parts (for planning: these are what C03 / C04 build on):
    writing well-formed parts and parsing gives the parts back; parsing a `Recomposable` input and writing gives the cleaned
    input back with its scheme lower-cased. -/
theorem C07_headline_split_unsplit_inverse (o : Oracles) :
    (∀ p, PartsOK p → splitUrl o (unsplitResult p.scheme p.netloc p.path p.query p.fragment) = .ok p) ∧
    (∀ s p, splitUrl o s = .ok p → Recomposable s →
      unsplitResult p.scheme p.netloc p.path p.query p.fragment = C07_lowerScheme (cleanUrl s)) :=
  ⟨fun p h => C07_split_unsplit o p h, fun s p h hr => C07_unsplit_split o s p h hr⟩

/-! ## non-vacuity -/

example : ∃ r, splitNetloc Oracles.empty "u:p:w@x@[::1]:8080".toStr = .ok r ∧ r.user = some "u".toStr ∧
    r.password = some "p:w@x".toStr ∧ r.host = some "::1".toStr ∧ r.port = some 8080 := by
  str_lits; decide +kernel

/-
GAPS:
 1. CLOSED by C07_encodeUrl_components (C07More.lean), see C07_headline_auto_encoding_components
    (C07HeadlineMore.lean).  For `encodeUrl e s = .ok u` (auto-encoding constructor), in one statement: scheme / path /
    query / fragment are the Appendix B components of the cleaned input, requoted (PATH_/QUERY_/FRAGMENT_REQUOTER), the
    path normalised iff the stored authority is non-empty and the requoted path contains '.'; without an authority
    nothing is stored or cached; with one, `split_netloc` of the Appendix B authority succeeded with exactly the
    `Rfc.authoritySplit` components, and the cached raw_user / raw_password / raw_host / explicit_port and the stored
    authority (`make_netloc` of them) are given explicitly in terms of REQUOTER and `_encode_host(host)`.  What
    `_encode_host` and the REQUOTERs do to the text is C16 / C02, not C07.
 2. CLOSED by C07_preencoded_accessors (C07More.lean), see C07_headline_encoded_true_accessors (C07HeadlineMore.lean).
    For `URL(s, encoded=True)`: raw_user / raw_password / raw_host / explicit_port are the `Rfc.authoritySplit`
    components of the Appendix B authority verbatim, up to: the port text through `int()` + range check (all four
    accessors raise when it fails), an empty user reads `None`, raw_host is "" (not `None`) for a missing host under a
    non-empty authority, raw_path is "/" for an empty path under an authority.  The DECODED `host` (IDNA) is C16.
    EXTENDED to the other `encoded=True` entry point, `URL.build(…, encoded=True)` (not "parsing an input string", so
    outside the letter of the property), by C07_build_encoded, C07_build_encoded_verbatim, C07_encBuildNetloc_shape,
    C07_build_encoded_accessors, C07_build_encoded_raises, C07_build_encoded_instance / _instances / _conflicts
    (C07Encoded.lean), see C07_headline_build_encoded_true_equation, …_verbatim, …_authority, …_accessors, …_raises,
    …_instance, …_conflicts (C07HeadlineMore3.lean).  Proved: a successful call stores scheme (NOT lower-cased), path,
    fragment and `query_string=` verbatim, a truthy `query=` rendered by `get_str_query` (as in both modes), the
    authority `C07_encBuildNetloc` (`authority=` verbatim, else user / password / host verbatim WITHOUT brackets or
    encoding, the port dropped iff it is the default of the scheme AS GIVEN), no cache; the four raw authority accessors
    are the `Rfc.authoritySplit` components of that stored TEXT (same adjustments as above); exactly the mode-independent
    argument conflicts raise, `encoded=True` adds no check (since library fix 7970b83 the two port-related conflict checks
    test `port is not None`, so `port=0` counts as a given port in both modes; C07_headline_build_encoded_true_conflicts
    already states it that way).  See GAPS 9.
    EXTENDED (the case where "verbatim" and "canonicalised" coincide) by C03_encoded_true_on_canonical (C03Encoded.lean),
    see C07_headline_encoded_true_on_canonical_text (C07HeadlineMore5.lean).  Proved: for EVERY text `s` that the
    checker `canonicalB` (C04Decide.lean; a hand-written reading of "already canonical", C04Headline.lean GAPS 7)
    accepts — both backends, every oracle assignment, no other hypothesis — `URL(s, encoded=True)` stores the Appendix-B
    components of `s` ITSELF (no cleaning needed), these are the five parts `URL(s)` stores, the lazily derived
    raw_user / raw_password / raw_host / explicit_port are the ones `encode_url` pre-filled for `URL(s)`, all 53
    accessors of the model agree on the two objects, and both print `s`.  Outside canonical text the two modes differ
    (by design); the exact line is C03Headline.lean GAPS 6 (inside `C04_Domain`: `canonicalB s` iff same parts and the
    `encoded=True` object prints `s`).  Nothing new for `build(…, encoded=True)`.
 3. PARTLY CLOSED by C07_text_after_bracket_ignored (C07More.lean), see C07_headline_text_around_brackets_ignored,
    …_instances, …_url (C07HeadlineMore.lean): text between the closing ']' and the ':' AND text between the '@' and the
    '[' is silently dropped by `split_netloc` ("[::1]x:80" ≡ "[::1]:80", "x[::1]" ≡ "[::1]"; F-C03-bracket family).
    Remains open, as before: `pyInt` accepts what Python's `int()` accepts (sign, underscores, surrounding blanks,
    non-ASCII digits via oracle); the property says "the ':' after the host" and C17 covers the numeric side.
 4. CLOSED by C07_raw_path_vs_str and C07_recompose_accessors (C07More.lean), see C07_headline_raw_path_vs_str_path,
    C07_headline_recompose_with_accessors and C07_headline_recompose_by_the_letter (C07HeadlineMore.lean).
    "re-compose to str(url)" is false by the letter in three ways, each now a KNOWN FINDING with a witness theorem
    here: F-C07-default-port (C07_headline_recompose_fails_for_default_port), F-C07-empty-path
    (C07_headline_recompose_fails_for_empty_path: raw_path is "/" but str writes nothing; exactly when the stored path
    is empty under an authority without query and fragment, and then NO function of the accessors can re-compose:
    C07_headline_recompose_fails_for_empty_path_indistinguishable), F-C07-rootless
    (C07_headline_recompose_fails_for_rootless: no authority under a uses_netloc scheme is written "//").  What IS
    proved: for every URL, str = unsplit_result(scheme, authority-as-shown, C07_strPath, query, fragment), default
    port included, errors included (…_recompose_with_accessors); and under one guard per finding str is the plain
    RFC 3986 §5.3 concatenation of scheme, raw_authority, raw_path, raw_query_string, raw_fragment
    (…_recompose_by_the_letter).  `raw_query_string` = `u.query`, `raw_fragment` = `u.fragment`, `raw_authority` =
    `u.netloc` remain definitional.
 5. Non-ASCII authority: the NFKC screen (`checkNetloc`) is only characterised as "ok / ValueError / oracle miss"
    (C07_split_total); what it rejects is property C16.  STILL OPEN, unchanged in this layer.  Model note: since library
    fix 27f84d3 the screen also drops '[' and ']' before normalising and also rejects an NFKC result containing '[' or
    ']' (YarlModel/Parse.lean `checkNetloc`); every C07 theorem is stated over the current `checkNetloc` and none of
    them depends on which characters it looks for.
 6. Appendix B faithfulness.  WAS: `Rfc.appendixB` is itself a hand transcription of the regular expression; nothing
    relates it to the regex (no regex semantics in the model).  Its scheme group is restricted to `Gen.schemeChars` and
    lower-cased, which is urllib's behaviour rather than Appendix B's.
    CLOSED — relative to the generic matcher of GAPS 10 — by C07_appendixBRe_is_text, C07_appendixBTailRe_is_text,
    C07_appendixB_is_regex, C07_split_url_is_regex (C07Regex.lean), see
    C07_headline_appendixB_is_the_rfc_regular_expression and C07_headline_five_components_are_regex_groups
    (C07HeadlineMore4.lean).  Proved, for EVERY text: the TEXT `^(([^:/?#]+):)?(//([^/?#]*))?([^?#]*)(\?([^#]*))?(#(.*))?`
    of RFC 3986 Appendix B, parsed by `Regex.parseRe` and run by the backtracking matcher `Regex.matchK`, yields groups
    whose `$2` (lower-cased), `$4`, `$5`, `$7`, `$9` (undefined read as empty) are the five components of
    `Rfc.appendixB Gen.schemeChars` — PROVIDED `$2` is undefined or consists of `scheme_chars` only; otherwise
    `Rfc.appendixB` equals the same expression WITHOUT its first group applied to the whole text (no scheme).  So the
    deviation noted in the WAS text is now exact, not removed: "equal the RFC 3986 Appendix B decomposition" is
    FALSE by the letter for a text like "a_b:c/d?e" (the expression says scheme "a_b", the library and the model say no
    scheme, path "a_b:c/d"): C07_headline_appendixB_deviation_instance, C07_headline_scheme_test_is_the_only_deviation
    (`$2 = w` iff the text is `w:rest`, `w` non-empty without `: / ? #`: C07_headline_regex_scheme_group).  The
    lower-casing of the scheme and the reading "undefined = empty" are built into `regexParts5` (a definition of
    C07Regex.lean, five lines, to be read); what the reading "undefined = empty" loses is stated by
    C07_headline_regex_groups_recompose: the RFC 3986 §5.3 recomposition of the groups, delimiters written for the
    DEFINED groups only, gives back every text (F-C04-empty-delims is the library dropping that distinction).
 7. NEW.  `Rfc.authoritySplit` (C07More.lean) is, like `Rfc.appendixB`, a hand-written reading of the property's
    sentence ("last '@', first ':' of the userinfo, ':' after the host or closing ']'"); RFC 3986 has no such
    algorithm for malformed authorities, so there is nothing further to compare it with.
    PARTLY CLOSED by C07_authoritySplit_is_regex, C07_split_netloc_is_regex, C07_authoritySplit_rfc_grammar
    (C07Regex.lean), see C07_headline_authority_split_is_regex, C07_headline_split_netloc_is_regex,
    C07_headline_authority_split_on_rfc_grammar (C07HeadlineMore4.lean).  Proved: (a) for EVERY text
    `Rfc.authoritySplit a` equals the split by three regular expressions quoted as text — `((.*)@)?(.*)` (greedy: the
    LAST '@'), `([^:]*)(:(.*))?` on the userinfo (the FIRST ':'), `hostPortText` on the rest — run by the generic matcher
    (real backtracking for the last '@'); (b) on every authority text the RFC 3986 §3.2 grammar
    `[ userinfo "@" ] host [ ":" port ]` generates, with the host a bracketed literal whose body is of
    unreserved / sub-delims / ':' (`isIpLiteralBody`) or an unbracketed text of unreserved / sub-delims / '%'
    (`isRegNameText`) and the port of digits (`isPortText`) — these are hypotheses `hh`, `hp` of the theorem — the result
    is exactly the grammatical parts, the userinfo cut at its first ':'.  Outside the grammar (b) fails
    (C07_headline_authority_split_outside_grammar_instance: a "reg-name" "a:b").  STILL OPEN: see GAPS 11 — the three
    expressions of (a) are ours; for malformed authorities there is still nothing independent to compare with.
 8. NEW.  C07_headline_recompose_by_the_letter carries the hypothesis `hrooted` (under an authority the stored path is
    empty or rooted) for arbitrary `Url` records.  It holds for every parser result by Appendix B and for every URL
    reachable through the auto-encoding API by C15_headline_reachable (C15Headline.lean), but that composition WAS not
    made in this layer.
    CLOSED (the composition; the restriction for `build(…, encoded=True)` stands and is now exact) by
    C15_reachE_no_dot_segments, C15_reachE_inv, C15_buildEnc_inv_iff, C15_reachE_rootless_build_needed (C15ReachE.lean)
    and C15_encoded_build_iff (C15More2.lean), see C07_headline_hrooted_all_entry_points,
    C07_headline_recompose_by_the_letter_all_entry_points, C07_headline_hrooted_build_encoded_true_iff
    (C07HeadlineMore5.lean).  Proved: `hrooted` holds for every URL of the closure `C15_ReachE` — ALL entry points of the
    model (both constructor modes, both `build` modes, the 18 operations with Python-string arguments,
    with_path / joinpath with `encoded=True`, `join`), with the three decidable C15 side conditions on the `encoded=True`
    entry points that store text verbatim (`C15_CtorEncOK s`, `C15_BuildEncOK a`, `C15_WithPathEncOK u p`:
    C15Headline.lean GAPS 4) — so for these URLs C07_headline_recompose_by_the_letter holds under its three
    KNOWN-FINDING guards alone (`hport`, `hpath`, `hnoauth`).  The closure is the C15 one: its side conditions also ask
    for "no dot segment", which `hrooted` by itself may not need (no theorem says whether "empty or rooted" alone is
    preserved by every operation).  For a `build(…, encoded=True)` result `hrooted` holds IF AND ONLY IF, whenever
    `authority=` or `host=` is non-empty, `path=` is empty or starts with '/'.  It remains a GENUINE restriction for `build(…, encoded=True)` results, which store `path=` without
    the "must start with '/'" check: `build(scheme='http', host='h', path='x', query_string='a b', encoded=True)` has
    the rootless path "x" under the authority "h" and `str()` "http://h/x?a b", not the concatenation "http://hx?a b"
    (C07_headline_recompose_by_the_letter_fails_for_rootless_build_encoded_true, C07HeadlineMore3.lean).  "There is a component" is read as "the accessor is non-empty" (the raw accessors cannot tell
    an absent query / fragment / authority from an empty one; the dropped empty delimiters are F-C04-empty-delims).
 9. NEW.  `URL.build(…, encoded=True)` (C07Encoded.lean; C07_headline_build_encoded_true_*): the raw authority
    accessors return the split of the ASSEMBLED authority text, not the `user=` / `password=` / `host=` / `port=`
    arguments: a host with ':' is not bracketed, so `build(scheme='HTTP', host='h::1', port=80, …, encoded=True)` stores
    "…h::1:80" and `explicit_port` (hence raw_user / raw_password / raw_host, and `str()`) raises ValueError
    (C07_headline_build_encoded_true_instance; the F-C19-encoded-str family: with `encoded=True` nothing is validated);
    a '@' or ':' inside `user=` / `host=` likewise moves the split.  No theorem states when the accessors DO return the
    arguments (it would need `UserOK` / `HostOK`-style conditions on them, as `netloc_roundtrip` has for the
    auto-encoding route).  `str()` of `encoded=True` URLs: C07_headline_encoded_true_str (cites C06_encoded_str,
    C06Encoded.lean) = C07_headline_recompose_with_accessors plus "no cache" and "authority verbatim unless the explicit
    port is the scheme default"; with_path / joinpath(…, encoded=True) are not treated in this layer.
10. NEW (trusted definition introduced by the closure of GAPS 6 / 7).  The regular-expression engine Lemmas/Regex.lean
    (`Re`, `matchK` with `starK`, `regexMatch`, `regexGroups`, `groupsOf`, `parseRe` / `parseAlt` / `parseSet` /
    `parsePost`; about 160 lines, imports only `Str`) is itself a HAND-WRITTEN semantics of backtracking regular
    expressions (Perl / Python `re`): nothing in Lean relates it to CPython's `re` module or to the POSIX reading RFC 3986
    has in mind; the Lean matcher was compared with `re.match(…, re.S).groups()` only on the examples listed in
    C07Regex.lean (by `decide` on the Lean side; no probe in the evidence run executes the Lean matcher against
    CPython).  Independently of Lean, the dynamic layer compares the LIBRARY with CPython's `re` on the same expression
    text (`RE_APPB`, `re.S`, harness/props_a.py) on every run.  The matcher's choices, all stated in the file: `.` matches ANY code point (Python's `re.S`; Python's default `.` excludes a newline, which `cleanUrl` has
    removed from the inputs of C07_headline_five_components_are_regex_groups but not from an arbitrary `s` of
    C07_headline_appendixB_is_the_rfc_regular_expression); matching is anchored at the START only (`re.match`) — that
    the Appendix B match nevertheless covers the whole text follows from C07_headline_regex_groups_recompose; a group
    under a quantifier keeps its LAST value; an iteration of `*` / `+` must consume at least one code point (differs
    from Python only for a starred expression that can match the empty text; none occurs in the four expressions
    used); `parseRe` drops a leading `^`, knows no `$`, `{m,n}`, lazy quantifiers, classes like `\d`, ranges `a-z`
    (none occurs).  The syntax trees are tied to the quoted TEXTS by computation (`C07_…Re_is_text : parseRe … = some …`
    by `decide`), so a reader need not trust the trees, only the parser and the matcher.  For a POSIX
    (leftmost-longest) reading of Appendix B the result is the same only because every quantified class of the
    expression is delimited by a character outside the class; that remark is not a theorem.
11. NEW (trusted definitions).  `atText`, `colonText`, `hostPortText` (C07Regex.lean) are OUR regular expressions for
    the property's sentence, not the RFC's; `hostPortText` =
    `[^\[]*\[([^\]]*)(\][^:]*(:(.*))?)?|([^:]*)(:(.*))?` in particular encodes the library's tolerance (text before
    '[' and between ']' and ':' ignored, a missing ']' accepted; GAPS 3) — it was written to match the library, so
    C07_headline_authority_split_is_regex is a change of notation for the specification, not an independent check.
    The independent part is C07_headline_authority_split_on_rfc_grammar, whose classes `isRegNameText` /
    `isIpLiteralBody` / `isPortText` are again hand transcriptions (of RFC 3986 §3.2.2 / §3.2.3 character classes:
    supersets of the grammar — "%" not required to start a pct-encoded triple, no IPv6 structure) and whose
    `authorityText` is the hand-written concatenation `[ ui "@" ] host [ ":" port ]`.  `regexParts5`, `schemeAccepted`,
    `recomposeGroups`, `grp`, `authorityByRegex` (C07Regex.lean) are short definitions that must be read as well.
    C07Regex.lean treats the parser (`splitUrl`, `splitNetloc`) only; it adds nothing for the accessors of a
    constructed URL beyond what GAPS 1 / 2 already compose with `Rfc.appendixB` / `Rfc.authoritySplit`.
-/

end Yarl
