/-
  C12More.lean — the query properties beyond pair arguments, in this order: the library's own query parser
  (`parse_qsl`) against requoting / quoting of whole query strings (`parseQsl_run`, string arguments of `with_query`,
  `extend_query`, `build`); a specification of the `query` accessor for arbitrary raw queries (`QsSpec`); reachable
  URLs have good pairs; rejected values make the calls fail, with which error; `update_query` with a mapping whose
  values may be lists.  Namespace `QsMore` holds the helpers of this file (it starts in Lemmas/QsMore.lean).
-/
import YarlModel
import YarlProofs.Lemmas.QsMore
import YarlProofs.C02Tokens
import YarlProofs.C12Url
import YarlProofs.C01Reach
import YarlProofs.C06
namespace Yarl
open QsLemmas MdLemmas QueryUrl WfLemmas TokLemmas

namespace QsMore

/-- `parse_qsl` with the per-key / per-value decoder abstracted out -/
def qslWith (dec : Str → Str) (qs : Str) : List (Str × Str) :=
  (splitOn 38 qs).filterMap (fun nv =>
    if nv.isEmpty then none
    else some (dec (splitFirstEq nv).1, dec ((splitFirstEq nv).2.getD [])))

theorem parseQsl_eq_qslWith (qs : Str) : parseQsl qs = qslWith (fun x => stdUnquote (plusToSpace x)) qs := by
  unfold parseQsl qslWith
  cases qs with
  | nil => rfl
  | cons _ _ => rfl

theorem filterMap_congr' {α β : Type} {f g : α → Option β} {l : List α} (h : ∀ x ∈ l, f x = g x) :
    l.filterMap f = l.filterMap g := by
  induction l with
  | nil => rfl
  | cons a l ih =>
    rw [List.filterMap_cons, List.filterMap_cons, h a (by simp), ih (fun x hx => h x (by simp [hx]))]

theorem goodText_of_subset {s t : Str} (h : ∀ c ∈ t, c ∈ s) (hs : GoodText s) : GoodText t :=
  ⟨fun c hc => hs.1 c (h c hc), fun c hc => hs.2 c (h c hc)⟩

theorem splitFirstEq_fst_sub (p : Str) : ∀ x ∈ (splitFirstEq p).1, x ∈ p := by
  unfold splitFirstEq
  exact partition_fst_sub 61 p

theorem splitFirstEq_snd_sub (p : Str) : ∀ x ∈ (splitFirstEq p).2.getD [], x ∈ p := by
  unfold splitFirstEq
  simp only
  split
  · simpa using partition_snd_sub 61 p
  · simp

theorem qslWith_congr (d1 d2 : Str → Str) (s : Str) (hs : GoodText s) (h : ∀ x, GoodText x → d1 x = d2 x) :
    qslWith d1 s = qslWith d2 s := by
  unfold qslWith
  apply filterMap_congr'
  intro p hp
  have hgp : GoodText p := goodText_of_subset (PathLemmas.splitOn_sub 38 s p hp) hs
  simp only [h _ (goodText_of_subset (splitFirstEq_fst_sub p) hgp), h _ (goodText_of_subset (splitFirstEq_snd_sub p) hgp)]

theorem goodText_nil : GoodText [] := ⟨nofun, nofun⟩

/-- a generated form quoter that protects '&' and '=' transforms the parsed pairs piecewise -/
theorem parseQsl_run (a : QArgs) (ha : a ∈ Gen.allQuoters) (b : Backend)
    (h38 : (a.tab b).prot 38 = true) (h61 : (a.tab b).prot 61 = true)
    (dec : Str → Str)
    (hdec : ∀ x, GoodText x → stdUnquote (plusToSpace (a.run b x)) = dec x)
    (hemp : ∀ x, GoodText x → x ≠ [] → a.run b x ≠ [])
    (s : Str) (hs : GoodText s) : parseQsl (a.run b s) = qslWith dec s := by
  have hnil : a.run b [] = [] := by
    rw [run_eq_cOut a ha b [] nofun]
    simp [stripSurr, cOut]
  rw [parseQsl_eq_qslWith]
  unfold qslWith
  rw [gen_split a ha b ⟨h38, by decide, fun _ => by decide⟩ s hs.1, List.filterMap_map]
  apply filterMap_congr'
  intro p hp
  have hgp : GoodText p := goodText_of_subset (PathLemmas.splitOn_sub 38 s p hp) hs
  simp only [Function.comp]
  by_cases hpe : p = []
  · subst hpe; rw [hnil]; rfl
  · simp only [List.isEmpty_iff, hpe, hemp p hgp hpe, if_false, Option.some.injEq, Prod.mk.injEq]
    unfold splitFirstEq
    rw [gen_partition a ha b ⟨h61, by decide, fun _ => by decide⟩ p hgp.1]
    refine ⟨hdec _ (goodText_of_subset (partition_fst_sub 61 p) hgp), ?_⟩
    cases hf : (partition 61 p).2.1
    · simpa [hf, hnil] using hdec [] goodText_nil
    · simpa [hf] using hdec _ (goodText_of_subset (partition_snd_sub 61 p) hgp)

theorem pctDecodeQs_ne_nil (p : Str) (hg : GoodText p) (hne : p ≠ []) : pctDecodeQs p ≠ [] := by
  cases p with
  | nil => exact absurd rfl hne
  | cons c r =>
    by_cases h37 : c = 37
    · subst h37
      cases hm : takeEscape restoreCh r with
      | none => rw [pctDecodeQs_noesc hm]; simp
      | some x =>
        obtain ⟨v, d1, d2, r'⟩ := x
        rw [pctDecodeQs_esc hm]; simp
    · by_cases h43 : c = 43
      · subst h43; rw [pctDecodeQs_plus]; simp
      · rw [pctDecodeQs_cons_ne h37 h43]
        simp [List.ne_nil_of_length_pos (utf8_length_pos c (hg.1 c (by simp)) (hg.2 c (by simp)))]

theorem run_goodText (a : QArgs) (ha : a ∈ Gen.allQuoters) (b : Backend) (x : Str) (hx : PyStr x) :
    GoodText (a.run b x) := by
  rw [run_eq_cOut a ha b x hx]
  exact pyStr_of_ascii _ (outLang_ascii _ (gen_tab_wf a ha b)
    (cOut_outLang _ (gen_tab_wf a ha b) _))

end QsMore
open QsMore

/-! ## the library's own query parser and requoting / quoting of a whole query string -/

/-- requoting a query does not change what the library's own parser reads from it.
    Lower-case escapes are upper-cased, literal spaces become '+', non-ASCII characters and invalid '%' are
    escaped, escapes of unreserved characters are decoded — none of this is visible through `parse_qsl`; escapes
    that are not valid UTF-8 give U+FFFD on both sides. -/
theorem C12_parseQsl_requote (b : Backend) (s : Str) (hp : PyStr s) (hn : NoSurrogate s) :
    parseQsl (Gen.QUERY_REQUOTER.run b s) = parseQsl s := by
  have hmem : Gen.QUERY_REQUOTER ∈ Gen.allQuoters := by decide
  rw [parseQsl_run _ hmem b (by cases b <;> decide) (by cases b <;> decide)
    (fun x => stdUnquote (plusToSpace x)) ?_ ?_ s ⟨hp, hn⟩, ← parseQsl_eq_qslWith]
  · intro x hx
    have hr := run_goodText _ hmem b x hx.1
    rw [stdUnquote_pts _ hr.1 hr.2, C02_gen_decode_QUERY_REQUOTER b x hx.1 hx.2, stdUnquote_pts x hx.1 hx.2]
  · intro x hx hne h
    have := C02_gen_decode_QUERY_REQUOTER b x hx.1 hx.2
    rw [h, pctDecodeQs_nil] at this
    exact pctDecodeQs_ne_nil x hx hne this.symm

/-- the same through the configuration-reading wrapper `q` -/
theorem C12_parseQsl_requote_q (e : Env) (s : Str) (hp : PyStr s) (hn : NoSurrogate s) :
    parseQsl (q e Gen.QUERY_REQUOTER s) = parseQsl s := C12_parseQsl_requote e.b s hp hn

/-- the pairs a whole query STRING denotes when given to `with_query` / `extend_query` / `build(query_string=)`:
    split on '&', drop empty pieces, split at the first '=', '+' → ' ' — and NO percent-decoding ('%' is data) -/
def parseQslLit (s : Str) : List (Str × Str) := qslWith plusToSpace s

/-- QUERY_QUOTER (string arguments of with_query / extend_query / build(query_string=…)) -/
theorem C12_parseQsl_quote (b : Backend) (s : Str) (hp : PyStr s) (hn : NoSurrogate s) :
    parseQsl (Gen.QUERY_QUOTER.run b s) = parseQslLit s := by
  have hmem : Gen.QUERY_QUOTER ∈ Gen.allQuoters := by decide
  refine parseQsl_run _ hmem b (by cases b <;> decide) (by cases b <;> decide) plusToSpace ?_ ?_ s ⟨hp, hn⟩
  · intro x hx
    have hr := run_goodText _ hmem b x hx.1
    rw [stdUnquote_pts _ hr.1 hr.2, C02_gen_decode_QUERY_QUOTER b x hx.1,
      decodeReplace_utf8s _ (pts_pyStr hx.1) (pts_noSurr hx.2)]
  · exact fun x hx hne => DecLemmas.quoter_ne_nil _ hmem rfl b x hx.1 hx.2 hne

/-- without a '%' in the text the literal pairs are the `parse_qsl` pairs -/
theorem C12_parseQslLit_no_pct (s : Str) (h : 37 ∉ s) : parseQslLit s = parseQsl s := by
  rw [parseQsl_eq_qslWith]
  unfold parseQslLit qslWith
  apply filterMap_congr'
  intro p hp
  have hsub := PathLemmas.splitOn_sub 38 s p hp
  have hno : ∀ x : Str, (∀ c ∈ x, c ∈ p) → stdUnquote (plusToSpace x) = plusToSpace x := by
    intro x hx
    unfold stdUnquote
    have : mem 37 (plusToSpace x) = false := Bool.eq_false_iff.mpr fun hm => by
      obtain ⟨c, hc, hc2⟩ := List.mem_map.mp (mem_iff.mp hm)
      split at hc2
      · cases hc2
      · exact h (hsub _ (hx _ (hc2 ▸ hc)))
    simp [this]
  simp only [hno _ (splitFirstEq_fst_sub p), hno _ (splitFirstEq_snd_sub p)]

/-! ### URL level: constructor, with_query(str), extend_query(str), build(query_string=…) -/

/-- at URL level: the auto-encoding constructor keeps every query key and value as the library's own
    parser reads them from the supplied text -/
theorem C12_ctor_query_pairs (e : Env) (s : Str) (hs : PyStr s) (hn : NoSurrogate s) (u : Url) :
    encodeUrl e s = .ok u → ∃ p : Parts, splitUrl e.o s = .ok p ∧ queryPairs u = parseQsl p.query := by
  intro h
  obtain ⟨p, netloc, hp, _, hquery, _, _⟩ := encodeUrl_shape e s u h
  obtain ⟨_, _, h3, _⟩ := splitUrl_pyStr e.o s hs p hp
  obtain ⟨_, _, s3, _⟩ := splitUrl_sublist e.o s p hp
  refine ⟨p, hp, ?_⟩
  unfold queryPairs
  rw [hquery]
  split
  · rfl
  · exact C12_parseQsl_requote e.b _ h3 (noSurr_of_sublist s3 hn)

theorem QsMore.getStrQuery_str (b : Backend) (s : Str) :
    getStrQuery b (.str s) = .ok (some (if s.isEmpty then [] else Gen.QUERY_QUOTER.run b s)) := by
  simp only [getStrQuery]
  split <;> rfl

theorem QsMore.parse_str_text (b : Backend) (s : Str) (hs : GoodText s) :
    parseQsl (if s.isEmpty then [] else Gen.QUERY_QUOTER.run b s) = parseQslLit s := by
  split
  · next h => rw [List.isEmpty_iff.mp h]; rfl
  · exact C12_parseQsl_quote b s hs.1 hs.2

/-- `with_query("a=1&b=2")` — the result has exactly the literal pairs of the string ('+' is a space, '%'
    is NOT an escape: the text is quoted, not requoted) -/
theorem C12_with_query_str_pairs (e : Env) (u : Url) (s : Str) (hs : GoodText s) :
    ∃ v, withQuery e u (.str s) = .ok v ∧ queryPairs v = parseQslLit s ∧
      v.scheme = u.scheme ∧ v.netloc = u.netloc ∧ v.path = u.path ∧ v.fragment = u.fragment :=
  ⟨_, withQuery_of e u _ _ (getStrQuery_str e.b s), parse_str_text e.b s hs, rfl, rfl, rfl, rfl⟩

/-- … which are the `parse_qsl` pairs of the string when it contains no '%' -/
theorem C12_with_query_str_pairs_no_pct (e : Env) (u : Url) (s : Str) (hs : GoodText s) (h : 37 ∉ s) :
    ∃ v, withQuery e u (.str s) = .ok v ∧ queryPairs v = parseQsl s := by
  obtain ⟨v, h1, h2, _⟩ := C12_with_query_str_pairs e u s hs
  exact ⟨v, h1, by rw [h2, C12_parseQslLit_no_pct s h]⟩

/-- `extend_query("…")` appends the literal pairs of the string — whatever the old query text is -/
theorem C12_extend_query_str_pairs (e : Env) (u : Url) (s : Str) (hs : GoodText s) :
    ∃ v, extendQuery e u (.str s) = .ok v ∧ queryPairs v = queryPairs u ++ parseQslLit s := by
  have hg := getStrQuery_str e.b s
  have hp := parse_str_text e.b s hs
  generalize (if s.isEmpty then [] else Gen.QUERY_QUOTER.run e.b s) = nq at hg hp
  by_cases hne : nq = []
  · subst hne
    refine ⟨u, ?_, ?_⟩
    · unfold extendQuery; rw [hg]; rfl
    · rw [← hp]; simp [parseQsl]
  · refine ⟨_, extendQuery_of e u _ nq hg hne, ?_⟩
    rw [queryPairs_fromParts, parseQsl_extend, hp]
    rfl

theorem C12_extend_query_str_pairs_no_pct (e : Env) (u : Url) (s : Str) (hs : GoodText s) (h : 37 ∉ s) :
    ∃ v, extendQuery e u (.str s) = .ok v ∧ queryPairs v = queryPairs u ++ parseQsl s := by
  obtain ⟨v, h1, h2⟩ := C12_extend_query_str_pairs e u s hs
  exact ⟨v, h1, by rw [h2, C12_parseQslLit_no_pct s h]⟩

/-- FINDING (inconsistency between the three methods, not a crash): a '%XY' in a STRING argument is data for
    `with_query` / `extend_query` (the string is quoted: `a=%41` stores `a=%2541`, read back as `("a", "%41")`) but an
    escape for `update_query` (the string goes through `parse_qsl` first: `("a", "A")`).  So
    `URL("http://h/").with_query("a=%41").query["a"] == "%41"` and
    `URL("http://h/").update_query("a=%41").query["a"] == "A"`. -/
theorem C12_str_argument_pct_differs (e : Env) :
    let u := fromParts [104, 116, 116, 112] [104] [47] [] []
    let s : Str := [97, 61, 37, 52, 49]
    GoodText s ∧
    (∃ v, withQuery e u (.str s) = .ok v ∧ queryPairs v = [([97], [37, 52, 49])]) ∧
    (∃ v, extendQuery e u (.str s) = .ok v ∧ queryPairs v = [([97], [37, 52, 49])]) ∧
    (∃ v, updateQuery e u (.str s) = .ok v ∧ queryPairs v = [([97], [65])]) ∧
    parseQslLit s ≠ parseQsl s := by
  intro u s
  have hs : GoodText s := by decide +kernel
  have hlit : parseQslLit s = [([97], [37, 52, 49])] := by decide +kernel
  refine ⟨hs, ?_, ?_, ?_, by decide +kernel⟩
  · obtain ⟨v, h1, h2, _⟩ := C12_with_query_str_pairs e u s hs
    exact ⟨v, h1, h2.trans hlit⟩
  · obtain ⟨v, h1, h2⟩ := C12_extend_query_str_pairs e u s hs
    exact ⟨v, h1, by rw [h2, hlit]; rfl⟩
  · obtain ⟨v, h1, h2⟩ := C12_url_update_query_str e u s hs (by decide +kernel) (by decide +kernel)
    exact ⟨v, h1, h2.trans (by decide +kernel)⟩

/-- build(query_string="…") stores the literal pairs of the string (same reading as with_query(str)) -/
theorem C12_build_query_string_pairs (e : Env) (a : BuildArgs) (v : Url) (h : build e a = .ok v)
    (henc : a.encoded = false) (hq : qargTruthy a.query = false) (hs : GoodText a.queryString) :
    queryPairs v = parseQslLit a.queryString := by
  unfold queryPairs
  rw [(build_query_shape h).2 hq, ← parse_str_text e.b _ hs]
  cases a.queryString <;> simp [henc] <;> rfl

-- `henc` is not needed: the query argument is rendered the same way in both modes
set_option linter.unusedVariables false in
/-- build(query="…") with a non-empty string, build(query={…}) with a non-empty mapping,
    build(query=[(k, v), …]) with a non-empty sequence (an EMPTY `query` is falsy: `query_string` is used instead) -/
theorem C12_build_query_pairs (e : Env) (a : BuildArgs) (v : Url) (h : build e a = .ok v) (henc : a.encoded = false) :
    (∀ s, a.query = .str s → s ≠ [] → GoodText s → queryPairs v = parseQslLit s) ∧
    (∀ items ps, a.query = .mapping items → items ≠ [] → expandItems items = some ps → GoodPairs ps →
      queryPairs v = ps) ∧
    (∀ items ps, a.query = .pairs items → items ≠ [] → SingleValued items → expandItems items = some ps →
      GoodPairs ps → queryPairs v = ps) := by
  have hsh := (build_query_shape h).1
  refine ⟨?_, ?_, ?_⟩
  · intro s hs hne hg
    rw [hs] at hsh
    obtain ⟨o, ho, hv⟩ := hsh (by cases s <;> simp_all [qargTruthy])
    rw [getStrQuery_str] at ho
    cases ho
    unfold queryPairs
    rw [hv]
    exact parse_str_text e.b s hg
  · intro items ps hs hne hden hg
    rw [hs] at hsh
    obtain ⟨o, ho, hv⟩ := hsh (by cases items <;> simp_all [qargTruthy])
    rw [getStrQuery_mapping e.b items ps hden] at ho
    cases ho
    unfold queryPairs
    rw [hv]
    exact parse_qtext e.b ps hg
  · intro items ps hs hne hsv hden hg
    rw [hs] at hsh
    obtain ⟨o, ho, hv⟩ := hsh (by cases items <;> simp_all [qargTruthy])
    rw [getStrQuery_pairs e.b items ps hsv hden] at ho
    cases ho
    unfold queryPairs
    rw [hv]
    exact parse_qtext e.b ps hg

/-! ## what the `query` accessor is for an ARBITRARY raw query

An independent specification of `parse_qsl(raw, keep_blank_values=True)` (written without the model's `splitOn`,
`partition`, `stdUnquote`): cut at every '&' (accumulator style), drop the empty pieces, key = the text before the
first '=', value = the text after it ("" when there is no '=': keep_blank_values), and each of the two is
form-decoded: '+' → space and '%XY' → byte (`pctDecodeQs`, YarlProofs/Defs.lean), then the bytes are decoded as UTF-8
with U+FFFD for every maximal undecodable part (`decodeReplace`, the model of `bytes.decode("utf-8", "replace")`). -/

namespace QsSpec

/-- cut `s` at every `sep`; `acc` holds the current piece reversed -/
def cut (sep : Nat) : Str → Str → List Str
  | acc, [] => [acc.reverse]
  | acc, c :: r => if c = sep then acc.reverse :: cut sep [] r else cut sep (c :: acc) r

/-- '+' → space, '%XY' → byte, UTF-8 with replacement -/
def formDecode (x : Str) : Str := decodeReplace (pctDecodeQs x)

def keyOf (p : Str) : Str := p.takeWhile (· ≠ 61)
def valueOf (p : Str) : Str := (p.dropWhile (· ≠ 61)).drop 1

/-- `parse_qsl(q, keep_blank_values=True)`: the (key, value) pairs of a raw query -/
def queryPairsSpec (q : Str) : List (Str × Str) :=
  ((cut 38 [] q).filter (fun p => p ≠ [])).map (fun p => (formDecode (keyOf p), formDecode (valueOf p)))

end QsSpec
open QsSpec

theorem QsMore.cut_eq (sep : Nat) (s acc : Str) :
    cut sep acc s = (acc.reverse ++ (splitOn sep s).headD []) :: (splitOn sep s).tail := by
  induction s generalizing acc with
  | nil => simp [cut, splitOn]
  | cons c r ih =>
    obtain ⟨p, ps, hs⟩ := List.exists_cons_of_ne_nil (PathLemmas.splitOn_ne_nil sep r)
    by_cases hc : c = sep <;> simp [cut, splitOn, hc, ih, hs]

theorem QsMore.cut_splitOn (sep : Nat) (s : Str) : cut sep [] s = splitOn sep s := by
  obtain ⟨p, ps, hs⟩ := List.exists_cons_of_ne_nil (PathLemmas.splitOn_ne_nil sep s)
  simp [cut_eq, hs]

theorem QsMore.filterMap_nonempty {β : Type} (f : Str → β) (l : List Str) :
    l.filterMap (fun p => if p.isEmpty then none else some (f p)) = (l.filter (fun p => p ≠ [])).map f :=
  R7.filterMap_eq_filter_map _ _ f (fun p => by cases p <;> rfl) l

/-- the `query` accessor (stdlib `parse_qsl`, keep_blank_values=True) of an arbitrary raw query WITHOUT
    lone surrogates is: cut at '&', drop empty pieces, split at the first '=', form-decode key and value as UTF-8 with
    U+FFFD replacement.  (Every stored query of a reachable URL is ASCII: `C06_query_accessor_spec_reach`.) -/
theorem C06_query_accessor_spec (q : Str) (hq : GoodText q) : parseQsl q = queryPairsSpec q := by
  rw [parseQsl_eq_qslWith, qslWith_congr _ formDecode q hq (fun x hx => stdUnquote_pts x hx.1 hx.2)]
  unfold qslWith queryPairsSpec
  rw [cut_splitOn, filterMap_nonempty (fun p => (formDecode (splitFirstEq p).1, formDecode ((splitFirstEq p).2.getD [])))]
  apply List.map_congr_left
  intro p _
  unfold splitFirstEq keyOf valueOf
  rw [ParseLemmas.partition_eq]
  simp only
  by_cases h61 : 61 ∈ p
  · simp [h61]
  · have := QsLemmas.dropWhile_all (fun x => !decide (x = 61)) p fun x hx => by
      simpa using fun e : x = 61 => h61 (e ▸ hx)
    simp [h61, this]

theorem C06_query_accessor_spec_url (u : Url) (hq : GoodText u.query) : queryPairs u = queryPairsSpec u.query :=
  C06_query_accessor_spec u.query hq

/-- the side condition is needed: a lone surrogate in a raw query (possible with `encoded=True` only) is kept by
    `parse_qsl` (it never reaches the UTF-8 decoder) but has no UTF-8 bytes: `?\ud800=1` -/
theorem C06_query_accessor_spec_needs_no_surrogate :
    parseQsl [0xD800, 61, 49] = [([0xD800], [49])] ∧ queryPairsSpec [0xD800, 61, 49] = [([], [49])] := by
  decide +kernel

/-! ## every reachable URL has good pairs -/

theorem QsMore.wf_goodText (b : Backend) (u : Url) (h : WFUrl b u) : GoodText u.query :=
  pyStr_of_ascii _ (outLang_ascii _ (gen_tab_wf _ (by decide) b) h.query)

/-- the stored query of a URL obtained through the auto-encoding API is ASCII text, so the pairs read from it are
    Python strings without lone surrogates -/
theorem C12_constructor_goodpairs (e : Env) (u : Url) (hr : Reach e u) : GoodPairs (queryPairs u) :=
  C12_url_query_pairs_good u (wf_goodText e.b u (C01_reachable_wf e u hr))

/-- in particular for the auto-encoding constructor -/
theorem C12_ctor_goodpairs (e : Env) (s : Str) (hs : PyStr s) (u : Url) (h : encodeUrl e s = .ok u) :
    GoodPairs (queryPairs u) :=
  C12_constructor_goodpairs e u (Reach.ctor s u hs h)

/-- … and the `query` accessor of a reachable URL meets its specification -/
theorem C06_query_accessor_spec_reach (e : Env) (u : Url) (hr : Reach e u) : queryPairs u = queryPairsSpec u.query :=
  C06_query_accessor_spec u.query (wf_goodText e.b u (C01_reachable_wf e u hr))

/-- `C12_headline_without_query_params` for reachable URLs: no `GoodPairs` hypothesis -/
theorem C12_reach_without_query_params (e : Env) (u : Url) (hr : Reach e u) (names : List Str) :
    ∃ v, withoutQueryParams e u names = .ok v ∧
      queryPairs v = (queryPairs u).filter (fun p => !names.contains p.1) :=
  C12_url_without_query_params e u names (C12_constructor_goodpairs e u hr)

/-- `C12_headline_update_is_multidict_update` for reachable URLs -/
theorem C12_reach_update_is_multidict_update (e : Env) (u : Url) (hr : Reach e u) (items : List (Str × QItem))
    (ps : List (Str × Str)) (s : Str) :
    (SingleValued items → expandItems items = some ps → GoodPairs ps → ps ≠ [] →
      (∃ v, updateQuery e u (.pairs items) = .ok v ∧ queryPairs v = mdUpdate (queryPairs u) ps) ∧
      (∃ v, updateQuery e u (.mapping items) = .ok v ∧ queryPairs v = mdUpdate (queryPairs u) ps)) ∧
    (GoodText s → s ≠ [] →
      ∃ v, updateQuery e u (.str s) = .ok v ∧ queryPairs v = mdUpdate (queryPairs u) (parseQsl s)) :=
  have hold := C12_constructor_goodpairs e u hr
  ⟨fun hs hden hg hne => ⟨C12_url_update_query e u items ps hs hden hg hold hne,
      C12_url_update_query_mapping e u items ps hs hden hg hold hne⟩,
   fun hs hne => C12_url_update_query_str e u s hs hold hne⟩

/-- `C12_headline_update_keeps_others` for reachable URLs -/
theorem C12_reach_update_keeps_others (e : Env) (u : Url) (hr : Reach e u) (items : List (Str × QItem))
    (ps : List (Str × Str)) (hs : SingleValued items) (hden : expandItems items = some ps) (hg : GoodPairs ps)
    (hne : ps ≠ []) :
    ∃ v, updateQuery e u (.pairs items) = .ok v ∧
      (queryPairs v).filter (fun p => !(keysOf ps).contains p.1) =
        (queryPairs u).filter (fun p => !(keysOf ps).contains p.1) :=
  C12_url_update_keeps_others e u items ps hs hden hg (C12_constructor_goodpairs e u hr) hne

/-- `C12_headline_update_replaces` (guarded) and its unguarded form for reachable URLs -/
theorem C12_reach_update_replaces (e : Env) (u : Url) (hr : Reach e u) (items : List (Str × QItem))
    (ps : List (Str × Str)) (k : Str) (hs : SingleValued items) (hden : expandItems items = some ps)
    (hg : GoodPairs ps) (hk : k ∈ keysOf ps) :
    ((∀ k' ∈ keysOf ps, k' ≠ k →
        ((queryPairs u).filter (fun p => p.1 = k')).length ≤ (ps.filter (fun p => p.1 = k')).length) →
      ∃ v, updateQuery e u (.pairs items) = .ok v ∧
        ((queryPairs v).filter (fun p => p.1 = k)).map (·.2) = (ps.filter (fun p => p.1 = k)).map (·.2)) ∧
    (∃ v, updateQuery e u (.pairs items) = .ok v ∧
      ∃ S, ((queryPairs v).filter (fun p => p.1 = k)).map (·.2) = (ps.filter (fun p => p.1 = k)).map (·.2) ++ S ∧
        S.Sublist ((((queryPairs u).filter (fun p => p.1 = k)).map (·.2)).drop (ps.filter (fun p => p.1 = k)).length)) :=
  have hold := C12_constructor_goodpairs e u hr
  ⟨fun ht => C12_url_update_sets_keys e u items ps k hs hden hg hold hk ht,
   C12_url_update_sets_keys_split e u items ps k hs hden hg hold hk⟩

/-! ## rejected values — the call FAILS -/

namespace QsMore

theorem pairsFirstErr_some_iff (items : List (Str × QItem)) :
    (∃ e, pairsFirstErr items = some e) ↔ ∃ p ∈ items, ∃ e, slotErr p.2 = some e := by
  rw [pairsFirstErr_eq]
  simp only [← Option.isSome_iff_exists, List.findSome?_isSome_iff]

/-- `MultiDict.update` keeps every new entry -/
theorem mem_mdUpdate_of_new {V : Type} (old new : List (Str × V)) (x : Str × V) (hx : x ∈ new) :
    x ∈ mdUpdate old new := by
  obtain ⟨k, v⟩ := x
  have hpre := C12_update_sets_keys_prefix old new k (List.mem_map.mpr ⟨(k, v), hx, rfl⟩)
  have : (k, v) ∈ (mdUpdate old new).filter (fun p => p.1 = k) := by
    rw [filter_key_eq]
    exact List.mem_map_of_mem (hpre.subset (List.mem_map_of_mem (List.mem_filter.mpr ⟨hx, by simp⟩)))
  exact (List.mem_filter.mp this).1

theorem slotErr_strItems (old : List (Str × Str)) (p : Str × QItem) (hp : p ∈ strItems old) : slotErr p.2 = none := by
  obtain ⟨x, _, rfl⟩ := List.mem_map.mp hp
  rfl

end QsMore

/-- the error kind per value kind in a pair sequence: bool / None / any other type → TypeError, NaN / ±inf → ValueError,
    a nested list/tuple → TypeError; str, int and finite float are accepted -/
theorem C12_slotErr_kinds :
    slotErr (.one .bool) = some .typeError ∧ slotErr (.one .none) = some .typeError ∧
    slotErr (.one .other) = some .typeError ∧
    (∀ t k, k ≠ 0 → slotErr (.one (.float t k)) = some .valueError) ∧
    (∀ vs, slotErr (.many vs) = some .typeError) ∧
    (∀ s, slotErr (.one (.str s)) = none) ∧ (∀ n, slotErr (.one (.int n)) = none) ∧
    (∀ t, slotErr (.one (.float t 0)) = none) := by
  refine ⟨rfl, rfl, rfl, fun t k hk => ?_, fun _ => rfl, fun _ => rfl, fun _ => rfl, fun _ => rfl⟩
  simp [slotErr, queryVar, hk]

/-- a pair SEQUENCE with a bad value (bool, None, NaN/inf, other type, nested list) is REJECTED by all
    three methods.  `with_query` and `extend_query` raise the error of the first offending pair.  `update_query`
    renders the UPDATED multidict, so it raises the error of the first offending pair in *that* order — always the
    error of one of the offending pairs of the argument (see `C12_update_query_error_order` for the difference). -/
theorem C12_pairs_bad_value_rejected (e : Env) (u : Url) (items : List (Str × QItem)) (err : PyErr)
    (h : pairsFirstErr items = some err) :
    withQuery e u (.pairs items) = .error err ∧ extendQuery e u (.pairs items) = .error err ∧
    ∃ err', updateQuery e u (.pairs items) = .error err' ∧
      pairsFirstErr (mdUpdate (strItems (queryPairs u)) items) = some err' ∧
      ∃ p ∈ items, slotErr p.2 = some err' := by
  have hne : items ≠ [] := by rintro rfl; cases h
  have hg := (errOf_getStrQuery_pairs e.b items).trans h
  refine ⟨eq_error ((errOf_withQuery e u _).trans hg), eq_error ((errOf_extendQuery e u _).trans hg), ?_⟩
  obtain ⟨p, hp, hpe⟩ := pairsFirstErr_mem items err h
  obtain ⟨err', herr'⟩ := (pairsFirstErr_some_iff (mdUpdate (strItems (queryPairs u)) items)).mpr
    ⟨p, mem_mdUpdate_of_new _ _ p hp, err, hpe⟩
  refine ⟨err', ?_, herr', ?_⟩
  · rw [C12_update_query_pairs e u items hne, eq_error ((errOf_iter e.b _).trans herr')]
    rfl
  · obtain ⟨x, hx, hxe⟩ := pairsFirstErr_mem _ err' herr'
    rcases mem_mdUpdate_cases _ _ x hx with ho | hn
    · rw [slotErr_strItems _ x ho] at hxe; cases hxe
    · exact ⟨x, hn, hxe⟩

/-- the usual way to meet the hypothesis: the pairs before the offending one are fine -/
theorem QsMore.pairsFirstErr_at (pre post : List (Str × QItem)) (k : Str) (it : QItem) (err : PyErr)
    (hpre : ∀ p ∈ pre, slotErr p.2 = none) (hit : slotErr it = some err) :
    pairsFirstErr (pre ++ (k, it) :: post) = some err := by
  rw [pairsFirstErr_eq, List.findSome?_append, List.findSome?_eq_none_iff.mpr hpre, List.findSome?_cons, hit]
  rfl

/-- `with_query([... , (k, bad), ...])` / `extend_query(…)`: the first bad value decides, with its own error kind
    (`C12_slotErr_kinds`: bool / None / other type / nested list → TypeError, NaN / inf → ValueError) -/
theorem C12_pairs_bad_value_at (e : Env) (u : Url) (pre post : List (Str × QItem)) (k : Str) (it : QItem)
    (err : PyErr) (hpre : ∀ p ∈ pre, slotErr p.2 = none) (hit : slotErr it = some err) :
    withQuery e u (.pairs (pre ++ (k, it) :: post)) = .error err ∧
    extendQuery e u (.pairs (pre ++ (k, it) :: post)) = .error err ∧
    ∃ err', updateQuery e u (.pairs (pre ++ (k, it) :: post)) = .error err' :=
  have h := C12_pairs_bad_value_rejected e u _ err (pairsFirstErr_at pre post k it err hpre hit)
  ⟨h.1, h.2.1, h.2.2.elim fun err' h' => ⟨err', h'.1⟩⟩

/-- … so when all offending pairs are of the same kind, `update_query` raises exactly that kind -/
theorem C12_update_query_pairs_bad_kind (e : Env) (u : Url) (items : List (Str × QItem)) (err : PyErr)
    (hbad : ∃ p ∈ items, slotErr p.2 = some err)
    (hall : ∀ p ∈ items, slotErr p.2 = none ∨ slotErr p.2 = some err) :
    updateQuery e u (.pairs items) = .error err := by
  obtain ⟨p, hp, hpe⟩ := hbad
  obtain ⟨e0, he0⟩ := (pairsFirstErr_some_iff items).mpr ⟨p, hp, err, hpe⟩
  obtain ⟨_, _, err', h1, _, x, hx, hxe⟩ := C12_pairs_bad_value_rejected e u items e0 he0
  rcases hall x hx with h0 | h0
  · rw [h0] at hxe; cases hxe
  · rw [h0] at hxe; cases hxe; exact h1

/-- the order effect: on `?b=1&a=2`, `[("a", True), ("b", float("nan"))]` is rejected with TypeError by with_query
    (first offending pair: the bool) but with ValueError by update_query (the updated multidict is `b=nan, a=True`) -/
theorem C12_update_query_error_order (e : Env) :
    let u := fromParts [] [] [] [98, 61, 49, 38, 97, 61, 50] []
    let items : List (Str × QItem) := [([97], .one .bool), ([98], .one (.float [110, 97, 110] 2))]
    withQuery e u (.pairs items) = .error .typeError ∧ updateQuery e u (.pairs items) = .error .valueError := by
  intro u items
  have h1 := C12_pairs_bad_value_rejected e u items .typeError (by decide +kernel)
  refine ⟨h1.1, ?_⟩
  obtain ⟨err', h2, h3, _⟩ := h1.2.2
  have : pairsFirstErr (mdUpdate (strItems (queryPairs u)) items) = some .valueError := by decide +kernel
  rw [this] at h3
  cases h3
  exact h2

namespace QsMore

theorem firstErr_some_of_mem (vs : List QVal) (v : QVal) (hv : v ∈ vs) (e : PyErr) (hq : queryVar v = .error e) :
    ∃ e', firstErr vs = some e' := by
  cases hf : firstErr vs with
  | some e' => exact ⟨e', rfl⟩
  | none =>
    obtain ⟨s, hs⟩ := (firstErr_none_iff vs).mp hf v hv
    rw [hq] at hs; cases hs

end QsMore

/-- mapping argument of `update_query` (list/tuple values allowed): a rejected value anywhere in the
    mapping makes the call FAIL, with the error of one of the offending values (the first one in the order of the
    updated multidict) -/
theorem C12_update_query_mapping_bad_value_rejected (e : Env) (u : Url) (items : List (Str × QItem)) (err : PyErr)
    (h : firstErr (flatVals items) = some err) :
    ∃ err', updateQuery e u (.mapping items) = .error err' ∧
      firstErr (flatVals (mdUpdate (strItems (queryPairs u)) items)) = some err' ∧
      ∃ v ∈ flatVals items, queryVar v = .error err' := by
  have hne : items ≠ [] := by rintro rfl; cases h
  obtain ⟨v, hv, hq⟩ := firstErr_mem _ err h
  obtain ⟨p, hp, hvp⟩ := List.mem_flatMap.mp hv
  obtain ⟨err', herr'⟩ := firstErr_some_of_mem (flatVals (mdUpdate (strItems (queryPairs u)) items)) v
    (List.mem_flatMap.mpr ⟨p, mem_mdUpdate_of_new _ _ p hp, hvp⟩) err hq
  refine ⟨err', ?_, herr', ?_⟩
  · rw [C12_update_query_mapping e u items hne, eq_error ((errOf_seq e.b _).trans herr')]
    rfl
  · obtain ⟨w, hw, hwq⟩ := firstErr_mem _ err' herr'
    obtain ⟨x, hx, hwx⟩ := List.mem_flatMap.mp hw
    rcases mem_mdUpdate_cases _ _ x hx with ho | hn
    · obtain ⟨s, hs⟩ := flatVals_strItems_ok _ x ho w hwx
      rw [hwq] at hs; cases hs
    · exact ⟨w, List.mem_flatMap.mpr ⟨x, hn, hwx⟩, hwq⟩

/-- … exactly `err` when all rejected values of the mapping are of that kind -/
theorem C12_update_query_mapping_bad_kind (e : Env) (u : Url) (items : List (Str × QItem)) (err : PyErr)
    (hbad : ∃ v ∈ flatVals items, queryVar v = .error err)
    (hall : ∀ v ∈ flatVals items, ∀ e', queryVar v = .error e' → e' = err) :
    updateQuery e u (.mapping items) = .error err := by
  obtain ⟨v, hv, hq⟩ := hbad
  obtain ⟨e0, he0⟩ := firstErr_some_of_mem _ v hv err hq
  obtain ⟨err', h1, _, w, hw, hwq⟩ := C12_update_query_mapping_bad_value_rejected e u items e0 he0
  rw [hall w hw err' hwq] at h1
  exact h1

/-! ## `update_query` with a MAPPING whose values may be lists / tuples -/

namespace QsMore

theorem slotPairs_key (p : Str × QItem) (x : Str × Str) (hx : x ∈ slotPairs p) : x.1 = p.1 := by
  obtain ⟨k, it⟩ := p
  cases it with
  | one v =>
    simp only [slotPairs] at hx
    split at hx
    · cases List.mem_singleton.mp hx; rfl
    · cases hx
  | many vs =>
    simp only [slotPairs, List.mem_filterMap] at hx
    obtain ⟨v, _, hv⟩ := hx
    split at hv
    · cases hv; rfl
    · cases hv

/-- filtering the denoted pairs by a predicate on KEYS is filtering the slots -/
theorem flatMap_filter_key (g : Str → Bool) (l : List (Str × QItem)) :
    (l.flatMap slotPairs).filter (fun x => g x.1) = (l.filter (fun p => g p.1)).flatMap slotPairs := by
  induction l with
  | nil => rfl
  | cons p rest ih =>
    rw [List.flatMap_cons, List.filter_append, ih, List.filter_cons,
      List.filter_congr (q := fun _ => g p.1) fun x hx => by rw [slotPairs_key p x hx]]
    cases g p.1 <;> simp

theorem flatMap_strItems (old : List (Str × Str)) : (strItems old).flatMap slotPairs = old := by
  induction old with
  | nil => rfl
  -- the slot of an old pair denotes just that pair, by computation
  | cons p rest ih => exact congrArg (p :: ·) ih

/-- `update_query(mapping)` succeeds whenever the mapping denotes pairs, and the result is the expansion of the
    slot-level update -/
theorem update_lists_core (e : Env) (u : Url) (items : List (Str × QItem)) (ps : List (Str × Str))
    (hden : expandItems items = some ps) (hg : GoodPairs ps) (hold : GoodPairs (queryPairs u)) (hne : items ≠ []) :
    ∃ v, updateQuery e u (.mapping items) = .ok v ∧
      expandItems (mdUpdate (strItems (queryPairs u)) items) = some (queryPairs v) ∧
      queryPairs v = (mdUpdate (strItems (queryPairs u)) items).flatMap slotPairs ∧ ps = items.flatMap slotPairs := by
  obtain ⟨hps, hok⟩ := expandItems_eq items ps hden
  obtain ⟨ps', hps'⟩ := expandItems_of_ok (mdUpdate (strItems (queryPairs u)) items) fun p hp =>
    (mem_mdUpdate_cases _ _ p hp).elim (flatVals_strItems_ok _ p) (hok p)
  obtain ⟨h1, _⟩ := expandItems_eq _ ps' hps'
  -- every pair of the result comes from a slot of the old query or of the mapping
  have hg' : GoodPairs ps' := by
    intro x hx
    rw [h1, List.mem_flatMap] at hx
    obtain ⟨p, hp, hxp⟩ := hx
    rcases mem_mdUpdate_cases _ _ p hp with ho | hn
    · exact hold x (by rw [← flatMap_strItems (queryPairs u)]; exact List.mem_flatMap.mpr ⟨p, ho, hxp⟩)
    · exact hg x (by rw [hps]; exact List.mem_flatMap.mpr ⟨p, hn, hxp⟩)
  obtain ⟨v, hv, hq⟩ := C12_url_update_query_mapping_lists e u items ps' hps' hg' hne
  exact ⟨v, hv, hq ▸ hps', hq ▸ h1, hps⟩

end QsMore

/-- `update_query(mapping)` with list/tuple values SUCCEEDS whenever the mapping denotes pairs (no hypothesis on the
    result, unlike `C12_url_update_query_mapping_lists`), and the result is the expansion of the slot-level update -/
theorem C12_url_update_query_lists (e : Env) (u : Url) (items : List (Str × QItem)) (ps : List (Str × Str))
    (hden : expandItems items = some ps) (hg : GoodPairs ps) (hold : GoodPairs (queryPairs u)) (hne : items ≠ []) :
    ∃ v ps', updateQuery e u (.mapping items) = .ok v ∧ queryPairs v = ps' ∧
      expandItems (mdUpdate (strItems (queryPairs u)) items) = some ps' := by
  obtain ⟨v, hv, h1, _⟩ := update_lists_core e u items ps hden hg hold hne
  exact ⟨v, _, hv, rfl, h1⟩

/-- "update_query … keeps every other pair in order", mapping with list/tuple values: the pairs whose key is not a
    key OF THE MAPPING are unchanged.  (A key mapped to the empty list is a key of the mapping: its pairs are
    removed — `C12_update_query_empty_list_removes`.) -/
theorem C12_url_update_lists_keeps_others (e : Env) (u : Url) (items : List (Str × QItem)) (ps : List (Str × Str))
    (hden : expandItems items = some ps) (hg : GoodPairs ps) (hold : GoodPairs (queryPairs u)) (hne : items ≠ []) :
    ∃ v, updateQuery e u (.mapping items) = .ok v ∧
      (queryPairs v).filter (fun p => !(keysOf items).contains p.1) =
        (queryPairs u).filter (fun p => !(keysOf items).contains p.1) := by
  obtain ⟨v, hv, _, h2, _⟩ := update_lists_core e u items ps hden hg hold hne
  refine ⟨v, hv, ?_⟩
  rw [h2, flatMap_filter_key (fun k => !(keysOf items).contains k),
    C12_update_keeps_others (strItems (queryPairs u)) items,
    ← flatMap_filter_key (fun k => !(keysOf items).contains k), flatMap_strItems]

/-- "update_query replaces all pairs whose key occurs in q", mapping with list/tuple values — GUARDED as in
    `C12_headline_update_replaces` (every OTHER key of the mapping has at most as many old pairs as it has slots in
    the mapping; for a `dict` that is: occurs at most once in the old query): the pairs of `k` in the result are
    exactly the pairs the mapping denotes for `k`, in order -/
theorem C12_url_update_lists_sets_keys (e : Env) (u : Url) (items : List (Str × QItem)) (ps : List (Str × Str))
    (k : Str) (hden : expandItems items = some ps) (hg : GoodPairs ps) (hold : GoodPairs (queryPairs u))
    (hk : k ∈ keysOf items)
    (htail : ∀ k' ∈ keysOf items, k' ≠ k →
      ((queryPairs u).filter (fun p => p.1 = k')).length ≤ (items.filter (fun p => p.1 = k')).length) :
    ∃ v, updateQuery e u (.mapping items) = .ok v ∧
      (queryPairs v).filter (fun p => p.1 = k) = ps.filter (fun p => p.1 = k) := by
  obtain ⟨v, hv, _, h2, h3⟩ := update_lists_core e u items ps hden hg hold (keysOf_ne_nil hk)
  refine ⟨v, hv, ?_⟩
  have hslot := C12_update_sets_keys (strItems (queryPairs u)) items k hk (by
    intro k' hk' hne'
    simpa [strItems, List.filter_map, Function.comp_def] using htail k' hk' hne')
  rw [h2, h3, flatMap_filter_key (fun x => decide (x = k)), flatMap_filter_key (fun x => decide (x = k)),
    filter_key_eq k (mdUpdate _ _), hslot, ← filter_key_eq]

/-- … and WITHOUT the guard the denoted pairs of `k` come first (stale old pairs of `k` may follow) -/
theorem C12_url_update_lists_sets_keys_prefix (e : Env) (u : Url) (items : List (Str × QItem)) (ps : List (Str × Str))
    (k : Str) (hden : expandItems items = some ps) (hg : GoodPairs ps) (hold : GoodPairs (queryPairs u))
    (hk : k ∈ keysOf items) :
    ∃ v, updateQuery e u (.mapping items) = .ok v ∧
      ps.filter (fun p => p.1 = k) <+: (queryPairs v).filter (fun p => p.1 = k) := by
  obtain ⟨v, hv, _, h2, h3⟩ := update_lists_core e u items ps hden hg hold (keysOf_ne_nil hk)
  refine ⟨v, hv, ?_⟩
  obtain ⟨S, hS, _⟩ := C12_update_sets_keys_split (strItems (queryPairs u)) items k hk
  -- the slots of `k` in the result are the new slots of `k` followed by some old ones
  rw [h2, h3, flatMap_filter_key (fun x => decide (x = k)), flatMap_filter_key (fun x => decide (x = k)),
    filter_key_eq k (mdUpdate _ _), hS, List.map_append, ← filter_key_eq, List.flatMap_append]
  exact List.prefix_append _ _

/-- `update_query({"c": []})` removes every pair of key "c" (the empty list is a slot that denotes no pair) -/
theorem C12_update_query_empty_list_removes (e : Env) :
    let u := fromParts [] [] [] [97, 61, 49, 38, 99, 61, 50, 38, 99, 61, 51] []
    ∃ v, updateQuery e u (.mapping [([99], .many [])]) = .ok v ∧ queryPairs v = [([97], [49])] := by
  intro u
  exact C12_url_update_query_mapping_lists e u _ _ (by decide +kernel) (by decide +kernel) (by simp)

/-! ### compositions of `C12_headline_update_is_multidict_update` with the list-level clauses, for `.mapping`
    (single values) and `.str` arguments -/

/-- keeps every other pair — mapping with single values -/
theorem C12_url_update_keeps_others_mapping (e : Env) (u : Url) (items : List (Str × QItem)) (ps : List (Str × Str))
    (hs : SingleValued items) (hden : expandItems items = some ps) (hg : GoodPairs ps)
    (hold : GoodPairs (queryPairs u)) (hne : ps ≠ []) :
    ∃ v, updateQuery e u (.mapping items) = .ok v ∧
      (queryPairs v).filter (fun p => !(keysOf ps).contains p.1) =
        (queryPairs u).filter (fun p => !(keysOf ps).contains p.1) := by
  obtain ⟨v, h1, h2⟩ := C12_url_update_query_mapping e u items ps hs hden hg hold hne
  exact ⟨v, h1, by rw [h2]; exact C12_update_keeps_others _ _⟩

/-- replaces (guarded) and the unguarded prefix/sublist form — mapping with single values -/
theorem C12_url_update_sets_keys_mapping (e : Env) (u : Url) (items : List (Str × QItem)) (ps : List (Str × Str))
    (k : Str) (hs : SingleValued items) (hden : expandItems items = some ps) (hg : GoodPairs ps)
    (hold : GoodPairs (queryPairs u)) (hk : k ∈ keysOf ps) :
    ∃ v, updateQuery e u (.mapping items) = .ok v ∧
      ((∀ k' ∈ keysOf ps, k' ≠ k →
          ((queryPairs u).filter (fun p => p.1 = k')).length ≤ (ps.filter (fun p => p.1 = k')).length) →
        ((queryPairs v).filter (fun p => p.1 = k)).map (·.2) = (ps.filter (fun p => p.1 = k)).map (·.2)) ∧
      ∃ S, ((queryPairs v).filter (fun p => p.1 = k)).map (·.2) = (ps.filter (fun p => p.1 = k)).map (·.2) ++ S ∧
        S.Sublist ((((queryPairs u).filter (fun p => p.1 = k)).map (·.2)).drop (ps.filter (fun p => p.1 = k)).length) := by
  obtain ⟨v, h1, h2⟩ := C12_url_update_query_mapping e u items ps hs hden hg hold (keysOf_ne_nil hk)
  refine ⟨v, h1, ?_⟩
  rw [h2]
  exact ⟨C12_update_sets_keys _ _ k hk, C12_update_sets_keys_split _ _ k hk⟩

/-- keeps every other pair — string argument (read by `parse_qsl`) -/
theorem C12_url_update_keeps_others_str (e : Env) (u : Url) (s : Str) (hs : GoodText s)
    (hold : GoodPairs (queryPairs u)) (hne : s ≠ []) :
    ∃ v, updateQuery e u (.str s) = .ok v ∧
      (queryPairs v).filter (fun p => !(keysOf (parseQsl s)).contains p.1) =
        (queryPairs u).filter (fun p => !(keysOf (parseQsl s)).contains p.1) := by
  obtain ⟨v, h1, h2⟩ := C12_url_update_query_str e u s hs hold hne
  exact ⟨v, h1, by rw [h2]; exact C12_update_keeps_others _ _⟩

/-- replaces (guarded) and the unguarded form — string argument -/
theorem C12_url_update_sets_keys_str (e : Env) (u : Url) (s : Str) (k : Str) (hs : GoodText s)
    (hold : GoodPairs (queryPairs u)) (hk : k ∈ keysOf (parseQsl s)) :
    ∃ v, updateQuery e u (.str s) = .ok v ∧
      ((∀ k' ∈ keysOf (parseQsl s), k' ≠ k →
          ((queryPairs u).filter (fun p => p.1 = k')).length ≤ ((parseQsl s).filter (fun p => p.1 = k')).length) →
        ((queryPairs v).filter (fun p => p.1 = k)).map (·.2) = ((parseQsl s).filter (fun p => p.1 = k)).map (·.2)) ∧
      ∃ S, ((queryPairs v).filter (fun p => p.1 = k)).map (·.2) =
          ((parseQsl s).filter (fun p => p.1 = k)).map (·.2) ++ S ∧
        S.Sublist ((((queryPairs u).filter (fun p => p.1 = k)).map (·.2)).drop
          ((parseQsl s).filter (fun p => p.1 = k)).length) := by
  have hne : s ≠ [] := by
    intro h0; subst h0; simp [keysOf, parseQsl] at hk
  obtain ⟨v, h1, h2⟩ := C12_url_update_query_str e u s hs hold hne
  refine ⟨v, h1, ?_⟩
  rw [h2]
  exact ⟨C12_update_sets_keys _ _ k hk, C12_update_sets_keys_split _ _ k hk⟩

/-- the list-value clauses for reachable URLs (no hypothesis on the old query) -/
theorem C12_reach_update_lists (e : Env) (u : Url) (hr : Reach e u) (items : List (Str × QItem))
    (ps : List (Str × Str)) (hden : expandItems items = some ps) (hg : GoodPairs ps) (hne : items ≠ []) :
    (∃ v, updateQuery e u (.mapping items) = .ok v ∧
      (queryPairs v).filter (fun p => !(keysOf items).contains p.1) =
        (queryPairs u).filter (fun p => !(keysOf items).contains p.1)) ∧
    (∀ k ∈ keysOf items,
      (∀ k' ∈ keysOf items, k' ≠ k →
        ((queryPairs u).filter (fun p => p.1 = k')).length ≤ (items.filter (fun p => p.1 = k')).length) →
      ∃ v, updateQuery e u (.mapping items) = .ok v ∧
        (queryPairs v).filter (fun p => p.1 = k) = ps.filter (fun p => p.1 = k)) ∧
    (∀ k ∈ keysOf items, ∃ v, updateQuery e u (.mapping items) = .ok v ∧
      ps.filter (fun p => p.1 = k) <+: (queryPairs v).filter (fun p => p.1 = k)) :=
  have hold := C12_constructor_goodpairs e u hr
  ⟨C12_url_update_lists_keeps_others e u items ps hden hg hold hne,
   fun k hk ht => C12_url_update_lists_sets_keys e u items ps k hden hg hold hk ht,
   fun k hk => C12_url_update_lists_sets_keys_prefix e u items ps k hden hg hold hk⟩

/-- the guard of `C12_url_update_lists_sets_keys` is needed (multidict's stale duplicate, as for single values):
    `?a=1&a=2&b=3&b=4` updated with `{"a": [9], "b": [8]}` reads `a=9&b=8&b=4` -/
theorem C12_url_update_lists_sets_keys_needs_guard (e : Env) :
    let u := fromParts [] [] [] [97, 61, 49, 38, 97, 61, 50, 38, 98, 61, 51, 38, 98, 61, 52] []
    ∃ v, updateQuery e u (.mapping [([97], .many [.int 9]), ([98], .many [.int 8])]) = .ok v ∧
      queryPairs v = [([97], [57]), ([98], [56]), ([98], [52])] := by
  intro u
  exact C12_url_update_query_mapping_lists e u _ _ (by decide +kernel) (by decide +kernel) (by simp)

/-- `NoSurrogate` is needed in `C12_parseQsl_requote`: the requoter drops a lone surrogate (known finding, C06), the
    parser keeps it -/
theorem C12_parseQsl_requote_needs_no_surrogate (b : Backend) :
    parseQsl (Gen.QUERY_REQUOTER.run b [0xD800, 61, 49]) = [([], [49])] ∧
    parseQsl [0xD800, 61, 49] = [([0xD800], [49])] := by
  cases b <;> decide +kernel

/-! ## non-vacuity -/

namespace QsMore
/-- `a=%c3%a9&&b=x+y%2B%zz&c&=d&%E2%82=é +&e=%ff` : lower-case escapes, an empty piece, '+', an escaped '+', an invalid
    escape, a key without '=', an empty key, a truncated UTF-8 sequence followed by a non-ASCII character and a space,
    an undecodable byte -/
def sampleRaw : Str :=
  [97, 61, 37, 99, 51, 37, 97, 57, 38, 38, 98, 61, 120, 43, 121, 37, 50, 66, 37, 122, 122, 38, 99, 38, 61, 100, 38,
   37, 69, 50, 37, 56, 50, 61, 233, 32, 43, 38, 101, 61, 37, 102, 102]
/-- `{"a": ["x", 2], "b": 1.5, "c": []}` -/
def listItems : List (Str × QItem) :=
  [([97], .many [.str [120], .int 2]), ([98], .one (.float [49, 46, 53] 0)), ([99], .many [])]
def listPs : List (Str × Str) := [([97], [120]), ([97], [50]), ([98], [49, 46, 53])]
/-- `http://h/?a=1&z=9&a=3&c=4` -/
def listUrl : Url := fromParts [104, 116, 116, 112] [104] [47] [97, 61, 49, 38, 122, 61, 57, 38, 97, 61, 51, 38, 99, 61, 52] []
end QsMore

example : GoodText sampleRaw := by decide +kernel
example : parseQsl sampleRaw =
    [([97], [233]), ([98], [120, 32, 121, 43, 37, 122, 122]), ([99], []), ([], [100]), ([0xFFFD], [233, 32, 32]),
     ([101], [0xFFFD])] := by decide +kernel
example (b : Backend) : parseQsl (Gen.QUERY_REQUOTER.run b sampleRaw) = parseQsl sampleRaw :=
  C12_parseQsl_requote b sampleRaw (by decide +kernel) (by decide +kernel)
example : queryPairsSpec sampleRaw = parseQsl sampleRaw := (C06_query_accessor_spec sampleRaw (by decide +kernel)).symm
example : parseQslLit sampleRaw ≠ parseQsl sampleRaw := by decide +kernel
example (e : Env) (u : Url) : ∃ v, withQuery e u (.str sampleRaw) = .ok v ∧ queryPairs v = parseQslLit sampleRaw := by
  obtain ⟨v, h1, h2, _⟩ := C12_with_query_str_pairs e u sampleRaw (by decide +kernel)
  exact ⟨v, h1, h2⟩
example : expandItems listItems = some listPs ∧ GoodPairs listPs ∧ GoodPairs (queryPairs listUrl) ∧
    [97] ∈ keysOf listItems ∧ ¬ SingleValued listItems ∧
    (∀ k' ∈ keysOf listItems, k' ≠ [97] →
      ((queryPairs listUrl).filter (fun p => p.1 = k')).length ≤ (listItems.filter (fun p => p.1 = k')).length) := by
  decide +kernel
/-- `?a=1&z=9&a=3&c=4` updated with `{"a": ["x", 2], "b": 1.5, "c": []}` is `a=x&a=2&z=9&b=1.5` -/
example (e : Env) : ∃ v, updateQuery e listUrl (.mapping listItems) = .ok v ∧
    queryPairs v = [([97], [120]), ([97], [50]), ([122], [57]), ([98], [49, 46, 53])] :=
  C12_url_update_query_mapping_lists e listUrl listItems _ (by decide +kernel) (by decide +kernel) (by decide)
example : pairsFirstErr [([97], .one (.int 1)), ([98], .many [.str [120]]), ([99], .one .bool)] = some .typeError ∧
    pairsFirstErr [([97], .one (.float [105, 110, 102] 1)), ([99], .one .none)] = some .valueError := by decide +kernel
example : firstErr (flatVals [([97], .many [.int 1, .float [110, 97, 110] 2])]) = some .valueError := by decide +kernel

end Yarl
