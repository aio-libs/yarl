/-
  C16Mapped.lean — fix 3fbf5b4 "canonicalize an IP-literal that only appears after IDNA mapping".

  `_encode_host`, after `host = _idna_encode(host)` for a non-ASCII host, now does
  `if ":" in host: return _encode_host(host, validate_host)`.  In the model the re-entry is `encodeHostA`
  (a copy of `encodeHost` whose non-ASCII branch is ValueError: `_idna_encode` answers ASCII text, so IDNA is
  not reached a second time).

  * `C16_mapped_reentry_ascii`        (a) on ASCII text the re-entry IS `_encode_host`;
  * `C16_mapped_reentry_nonascii`         … and on non-ASCII text holding a ':' that is no IP literal it is ValueError
                                          (a hostile IDNA package cannot smuggle non-ASCII text through the new branch);
  * `C16_mapped_ipv6`                 (b) an IDNA answer that is the text of an IPv6 address (no zone) is stored in
                                          the compressed, bracketed canonical form;
  * `C16_mapped_ipv6_fixed_point`         … which is a fixed point of `_encode_host` (on the stored raw host);
  * `C16_mapped_ipv6_zone`                the same with a zone id (validated when validation is on);
  * `C16_mapped_example`, `C16_mapped_example_url`, `C16_mapped_example_with_host`
                                      (c) the fullwidth-digit host "１:0:0:0:0:0:0:2" ↦ "[1::2]";
  * `C16_mapped_regname_unchanged`        an answer without ':' (every reg-name answer) is not re-entered;
  * `C16_mapped_validated_invariant`  (d) ANY host, ANY oracle, validation on: the result is reg-name text, or a plain
                                          IPv4 literal, or a bracketed compressed IPv6 literal (zone screened), made from
                                          the host itself or from the IDNA answer of a non-ASCII host;
  * `C16_mapped_validated_fixed_point`    … and it is a fixed point, whatever the oracle.
-/
import YarlModel
import YarlProofs.C16More2
import YarlProofs.Lemmas.StrAscii
namespace Yarl
open HostLemmas NetlocLemmas MiscLemmas

namespace Mapped

theorem mem58_of_v6 {a : Str} {g : List Nat} (h6 : parseIPv6 (partition 37 a).1 = some g) : mem 58 a = true :=
  mem_iff.mpr (partition_fst_sub 37 a 58 (parseIPv6_colon h6))

/-- the reg-name branch hands an answer with ':' to the re-entry -/
theorem encodeHost_reenters (o : Oracles) {host a : Str} (v : Bool) {b : Bool} (hna : isAscii host = false)
    (hlook : looksIP o host = .ok b) (hip : parseIP (partition 37 host).1 = none)
    (hi : idnaEncode o host = .ok a) (h58 : mem 58 a = true) : encodeHost o host v = encodeHostA o a v := by
  rw [encodeHost_noIp v (noIp_of_parse hlook hip), regPath_idn o v hna, hi]
  show (if mem 58 a = true then _ else _) = _
  rw [if_pos h58]

end Mapped
open Mapped

/-! ## (a) the re-entry is `_encode_host` on ASCII text -/

/-- (a) `_idna_encode` answers ASCII text (`….decode("ascii")`): on such text the re-entry `encodeHostA` of the model
    is `_encode_host` itself — the modelled recursion `return _encode_host(host, validate_host)` -/
theorem C16_mapped_reentry_ascii (o : Oracles) (h : Str) (v : Bool) (ha : isAscii h = true) :
    encodeHostA o h v = encodeHost o h v :=
  encodeHostA_ascii o v ha

/-- … and a (hostile) non-ASCII answer holding a ':' is accepted by the re-entry only as an IP literal: if the text
    before '%' is no IP literal, the re-entry is ValueError (the model does not ask IDNA twice) -/
theorem C16_mapped_reentry_nonascii (o : Oracles) (a : Str) (v : Bool) (hna : isAscii a = false)
    (h58 : mem 58 a = true) (hip : parseIP (partition 37 a).1 = none) :
    encodeHostA o a v = .error .valueError := by
  rw [encodeHostA_noIp v (noIp_of_parse (looksIP_of_colon o (mem_iff.mp h58)) hip)]
  unfold regPathA
  rw [if_neg (by simp [hna])]

/-! ## (b) an IDNA answer that spells an IPv6 address -/

/-- (b) a non-ASCII host (no IP literal itself, last character known to the `str.isdigit` oracle) whose IDNA answer `a`
    is the text of a valid IPv6 address without zone: `_encode_host` returns the COMPRESSED, BRACKETED canonical form,
    with and without validation -/
theorem C16_mapped_ipv6 (o : Oracles) (host a : Str) (g : List Nat) (v b : Bool) (hna : isAscii host = false)
    (hlook : looksIP o host = .ok b) (hip : parseIP (partition 37 host).1 = none)
    (hi : idnaEncode o host = .ok a)
    (hp : parseIP (partition 37 a).1 = some (.v6 g)) (hsep : (partition 37 a).2.1 = false) :
    encodeHost o host v = .ok ([91] ++ ipv6ToStr g ++ [93]) := by
  have h6 := parseIP_some_v6.1 hp
  rw [encodeHost_reenters o v hna hlook hip hi (mem58_of_v6 h6), encodeHostA_of_v6 o v h6, zoneBad_of_no_sep v hsep]
  simp [zonePart_of_noSep hsep]

/-- … and that form is a fixed point: encoding the stored raw host (the compressed text, without the brackets) again
    gives the same result, with and without validation (`C16_ipv6_idem`, `C16_ipv6_roundtrip`) -/
theorem C16_mapped_ipv6_fixed_point (o : Oracles) (a : Str) (g : List Nat) (v' : Bool)
    (hp : parseIP (partition 37 a).1 = some (.v6 g)) :
    encodeHost o (ipv6ToStr g) v' = .ok ([91] ++ ipv6ToStr g ++ [93]) ∧
    unbracket ([91] ++ ipv6ToStr g ++ [93]) = ipv6ToStr g := by
  obtain ⟨hl, hx⟩ := parseIPv6_shape (parseIP_some_v6.1 hp)
  have hpart := partition_notFound 37 (ipv6ToStr g) (C16_ipv6_text_no_pct_dot g).1
  refine ⟨?_, ?_⟩
  · rw [encodeHost_of_v6 o v' (by rw [hpart]; exact C16_ipv6_roundtrip g hl hx)]
    simp [zoneBad, zonePart_of_noSep (h := ipv6ToStr g) (by rw [hpart]), hpart]
  have : mem 91 ([91] ++ ipv6ToStr g ++ [93]) = true := mem_iff.mpr (by simp)
  unfold unbracket
  rw [if_pos this]
  simp

/-- the two together, as one statement about the host -/
theorem C16_mapped_ipv6_canonical (o : Oracles) (host a : Str) (g : List Nat) (v v' b : Bool)
    (hna : isAscii host = false) (hlook : looksIP o host = .ok b) (hip : parseIP (partition 37 host).1 = none)
    (hi : idnaEncode o host = .ok a)
    (hp : parseIP (partition 37 a).1 = some (.v6 g)) (hsep : (partition 37 a).2.1 = false) :
    ∃ r, encodeHost o host v = .ok r ∧ r = [91] ++ ipv6ToStr g ++ [93] ∧
      encodeHost o (unbracket r) v' = .ok r ∧ parseIPv6 (unbracket r) = some g := by
  obtain ⟨h1, h2⟩ := C16_mapped_ipv6_fixed_point o a g v' hp
  have h6 := parseIP_some_v6.1 hp
  refine ⟨_, C16_mapped_ipv6 o host a g v b hna hlook hip hi hp hsep, rfl, ?_, ?_⟩
  · rw [h2]; exact h1
  · rw [h2]; exact C16_ipv6_reparse _ g h6

/-- the same with a zone id in the answer: the zone is copied verbatim, and screened when validation is on -/
theorem C16_mapped_ipv6_zone (o : Oracles) (host a : Str) (g : List Nat) (v b : Bool) (hna : isAscii host = false)
    (hlook : looksIP o host = .ok b) (hip : parseIP (partition 37 host).1 = none)
    (hi : idnaEncode o host = .ok a)
    (hp : parseIP (partition 37 a).1 = some (.v6 g)) (hsep : (partition 37 a).2.1 = true) :
    encodeHost o host v =
      (if v && notRegName (lower (partition 37 a).2.2) then .error .valueError
       else .ok ([91] ++ ipv6ToStr g ++ [37] ++ (partition 37 a).2.2 ++ [93])) := by
  have h6 := parseIP_some_v6.1 hp
  rw [encodeHost_reenters o v hna hlook hip hi (mem58_of_v6 h6), encodeHostA_of_v6 o v h6]
  simp [zoneBad, zonePart_of_sep hsep, hsep]

/-! ## (c) the example of the fix: fullwidth digits -/

/-- "１:0:0:0:0:0:0:2" — U+FF11 FULLWIDTH DIGIT ONE, then ASCII -/
def C16_mapped_host : Str := 0xFF11 :: ":0:0:0:0:0:0:2".toStr

/-- a sample oracle with the answers of the real code for that host: `idna.encode(…, uts46=True)` maps the fullwidth
    digit to '1' (UTS 46 mapping) and answers "1:0:0:0:0:0:0:2"; NFKC of the host text without ":[]" maps it as well -/
def C16_mapped_oracle : Oracles :=
  { Oracles.empty with
    idnaEnc := fun h => if h = C16_mapped_host then some (some "1:0:0:0:0:0:0:2".toStr) else none
    nfkc := fun s => some (s.map fun c => if c = 0xFF11 then 49 else c)
    isDigitU := fun c => some (decide (c = 0xFF11)) }

/-- (c) the host of the fix: not an IP literal as it stands, IDNA maps it to one, and `_encode_host` now stores the
    canonical form "[1::2]" (before the fix: the uncompressed, unbracketed "1:0:0:0:0:0:0:2", or — validating —
    ValueError); the stored raw host "1::2" re-encodes to the same -/
theorem C16_mapped_example :
    isAscii C16_mapped_host = false ∧ parseIP (partition 37 C16_mapped_host).1 = none ∧
    idnaEncode C16_mapped_oracle C16_mapped_host = .ok "1:0:0:0:0:0:0:2".toStr ∧
    encodeHost C16_mapped_oracle C16_mapped_host false = .ok "[1::2]".toStr ∧
    encodeHost C16_mapped_oracle C16_mapped_host true = .ok "[1::2]".toStr ∧
    encodeHost C16_mapped_oracle "1::2".toStr false = .ok "[1::2]".toStr ∧
    encodeHost C16_mapped_oracle "1::2".toStr true = .ok "[1::2]".toStr := by
  str_lits; decide +kernel

/-- … through the general theorem (the hypotheses of `C16_mapped_ipv6` hold for the example: non-vacuity) -/
example : encodeHost C16_mapped_oracle C16_mapped_host true = .ok ([91] ++ ipv6ToStr [1, 0, 0, 0, 0, 0, 0, 2] ++ [93]) :=
  C16_mapped_ipv6 C16_mapped_oracle C16_mapped_host "1:0:0:0:0:0:0:2".toStr [1, 0, 0, 0, 0, 0, 0, 2] true true
    (by decide) (by rfl) (by decide +kernel) (by rfl) (by decide +kernel) (by decide +kernel)

/-- … at URL level: the constructor on "http://[１:0:0:0:0:0:0:2]/p" stores the authority "[1::2]" and the raw host
    "1::2", and prints "http://[1::2]/p" (both backends) -/
theorem C16_mapped_example_url : ∀ b : Backend,
    let e : Env := { b := b, o := C16_mapped_oracle }
    let s : Str := "http://[".toStr ++ C16_mapped_host ++ "]/p".toStr
    (encodeUrl e s).map (·.netloc) = .ok "[1::2]".toStr ∧
    (encodeUrl e s).bind (rawHost e) = .ok (some "1::2".toStr) ∧
    (encodeUrl e s).bind (str e) = .ok "http://[1::2]/p".toStr := by
  str_lits; intro b; cases b <;> decide +kernel

/-- … and `with_host("１:0:0:0:0:0:0:2")` (validation on) stores the same -/
theorem C16_mapped_example_with_host :
    let e : Env := { b := .py, o := C16_mapped_oracle }
    let u := fromParts "http".toStr (makeNetloc id none none (some (bracket "a.com".toStr)) none false)
              "/p".toStr [] []
    (withHost e u C16_mapped_host).map (·.netloc) = .ok "[1::2]".toStr := by
  str_lits; decide +kernel

/-! ## an answer without ':' is not re-entered -/

/-- every reg-name answer (`notRegName a = false` — the standing assumption `IdnaAnswerSane` on the package) holds no
    ':' (`notRegName_false_no_colon`), so the re-entry is not taken: the result is the IDNA answer -/
theorem C16_mapped_regname_unchanged (o : Oracles) (host a : Str) (v b : Bool) (hna : isAscii host = false)
    (hlook : looksIP o host = .ok b) (hip : parseIP (partition 37 host).1 = none)
    (hi : idnaEncode o host = .ok a) (hreg : notRegName a = false) :
    mem 58 a = false ∧ encodeHost o host v = .ok a :=
  ⟨notRegName_false_no_colon hreg,
   Idn.encodeHost_idn o v hna ⟨b, hlook⟩ hip hi (notRegName_false_no_colon hreg) (fun _ => hreg)⟩

/-- without validation an answer without ':' is returned as it is, whatever else it holds (unchanged by the fix) -/
theorem C16_mapped_no_colon_unchanged (o : Oracles) (host a : Str) (b : Bool) (hna : isAscii host = false)
    (hlook : looksIP o host = .ok b) (hip : parseIP (partition 37 host).1 = none)
    (hi : idnaEncode o host = .ok a) (h58 : mem 58 a = false) :
    encodeHost o host false = .ok a :=
  Idn.encodeHost_idn o false hna ⟨b, hlook⟩ hip hi h58 (fun h => by cases h)

/-! ## (d) the invariant of a validated host, for ANY host and ANY oracle -/

/-- the zone part of an IP-literal result: nothing, or '%' and a zone id that passed the reg-name screen -/
def C16_mapped_ZoneOK (z : Str) : Prop := z = [] ∨ ∃ zone, z = 37 :: zone ∧ notRegName (lower zone) = false

/-- the canonical text of an IP literal `t` with a screened zone -/
theorem C16_mapped_ipRes_shape {t r : Str} (hres : ipRes t = some r) (hz : zoneBad t true = false) :
    (∃ o4 z, r = ipv4ToStr o4 ++ z ∧ o4.length = 4 ∧ (∀ x ∈ o4, x ≤ 255) ∧ parseIPv4 (ipv4ToStr o4) = some o4 ∧
      C16_mapped_ZoneOK z) ∨
    (∃ g z, r = [91] ++ ipv6ToStr g ++ z ++ [93] ∧ g.length = 8 ∧ (∀ x ∈ g, x < 65536) ∧
      parseIPv6 (ipv6ToStr g) = some g ∧ C16_mapped_ZoneOK z) := by
  have hzone : ∀ (hsep : (partition 37 t).2.1 = true),
      C16_mapped_ZoneOK ([37] ++ (partition 37 t).2.2) :=
    fun hsep => Or.inr ⟨_, rfl, zoneBad_true_false hz hsep⟩
  cases hp : parseIP (partition 37 t).1 with
  | none =>
    rw [ipRes_eq_none.2 hp] at hres
    cases hres
  | some ip =>
    have hzp : C16_mapped_ZoneOK (StrTotal.zonePart t) := by
      cases hs : (partition 37 t).2.1 with
      | true => exact zonePart_of_sep hs ▸ hzone hs
      | false => exact Or.inl (zonePart_of_noSep hs)
    cases ip with
    | v4 o4 =>
      left
      have h4 := parseIP_some_v4.1 hp
      obtain ⟨hs, hl, hx⟩ := C16_ipv4_canonical _ o4 h4
      obtain rfl : t = r := Option.some.inj ((ipRes_of_v4 hp).symm.trans hres)
      refine ⟨o4, StrTotal.zonePart t, ?_, hl, hx, by rw [hs]; exact h4, hzp⟩
      rw [hs]
      exact partition_join 37 t
    | v6 g =>
      right
      obtain ⟨hl, hx⟩ := parseIPv6_shape (parseIP_some_v6.1 hp)
      obtain rfl := Option.some.inj ((ipRes_of_v6 hp).symm.trans hres)
      exact ⟨g, StrTotal.zonePart t, rfl, hl, hx, C16_ipv6_roundtrip g hl hx, hzp⟩

/-- (d) THE INVARIANT, for ANY host `h` (ASCII or not, any characters) and ANY oracle (no assumption on the IDNA package,
    not even that its answers are ASCII): whenever `_encode_host(h, validate_host=True)` returns `r`, then `r` is
    * reg-name text (`NOT_REG_NAME` finds nothing: lower-case RFC 3986 reg-name characters and `%hh`), or
    * a plain IPv4 literal `d.d.d.d` in canonical spelling, optionally followed by `%zone`, or
    * a BRACKETED, COMPRESSED IPv6 literal `[…]`, optionally with `%zone` inside the brackets,
    every zone id having passed the reg-name screen; the literal is the canonical form of `t`, which is the host itself or
    the IDNA answer (holding a ':') of a non-ASCII host.  Without the re-entry the answer "1:0:0:0:0:0:0:2" is rejected
    by the screen (validation on) or stored uncompressed and unbracketed (validation off): `C16_mapped_example`. -/
theorem C16_mapped_validated_invariant (o : Oracles) (h r : Str) (he : encodeHost o h true = .ok r) :
    notRegName r = false ∨
    (∃ t, (t = h ∨ (isAscii h = false ∧ idnaEncode o h = .ok t ∧ mem 58 t = true)) ∧
      ipRes t = some r ∧ zoneBad t true = false ∧
      ((∃ o4 z, r = ipv4ToStr o4 ++ z ∧ o4.length = 4 ∧ (∀ x ∈ o4, x ≤ 255) ∧ parseIPv4 (ipv4ToStr o4) = some o4 ∧
          C16_mapped_ZoneOK z) ∨
       (∃ g z, r = [91] ++ ipv6ToStr g ++ z ++ [93] ∧ g.length = 8 ∧ (∀ x ∈ g, x < 65536) ∧
          parseIPv6 (ipv6ToStr g) = some g ∧ C16_mapped_ZoneOK z))) := by
  rcases validated_cases he with ⟨hres, hz⟩ | ⟨hn, _⟩ | ⟨hna, a, hi, h58, hres, hz⟩
  · exact Or.inr ⟨h, Or.inl rfl, hres, hz, C16_mapped_ipRes_shape hres hz⟩
  · exact Or.inl hn
  · exact Or.inr ⟨a, Or.inr ⟨hna, hi, h58⟩, hres, hz, C16_mapped_ipRes_shape hres hz⟩

/-- … consequences that need no case analysis: the result is ASCII, holds none of '@' '/' '?' '#' ' ', and is a fixed
    point of `_encode_host` (on the stored raw host `unbracket r`), validating or not — whatever the oracle -/
theorem C16_mapped_validated_fixed_point (o : Oracles) (h r : Str) (v' : Bool) (he : encodeHost o h true = .ok r) :
    (∀ c ∈ r, c < 128) ∧ 64 ∉ r ∧ 47 ∉ r ∧ 63 ∉ r ∧ 35 ∉ r ∧ 32 ∉ r ∧
    encodeHost o (unbracket r) v' = .ok r ∧ encodeHost o h false = .ok r := by
  obtain ⟨a1, a2, a3, a4⟩ := C16_validated_never_injects o h r he
  obtain ⟨b1, b2⟩ := C16_encode_idempotent_every_host o h r v' he
  exact ⟨C16_validated_ascii o h r he, a1, a2, a3, a4, (C16_validated_chars o h r he).1, b1, b2⟩

/-- without validation and with ASCII IDNA answers (what `_idna_encode` returns by construction: `.decode("ascii")`):
    the result for a host WITHOUT zone separator is ASCII — the IP branch writes ASCII, the reg-name branch lower-cases
    ASCII or returns the answer, and the re-entry on the answer does the same -/
theorem C16_mapped_result_ascii (o : Oracles) (h r : Str) (v : Bool) (h37 : 37 ∉ h)
    (hidna : ∀ a, idnaEncode o h = .ok a → isAscii a = true) (he : encodeHost o h v = .ok r) :
    ∀ c ∈ r, c < 128 := by
  have hall : ∀ {s : Str}, isAscii s = true → ∀ c ∈ s, c < 128 := by
    intro s hs c hc
    rw [isAscii_iff] at hs
    exact hs c hc
  have hz : ∀ c ∈ StrAscii.zoneOf h, c < 128 := by
    intro c hc
    unfold StrAscii.zoneOf at hc
    rw [partition_notFound 37 h h37] at hc
    simp at hc
  refine StrAscii.encodeHost_chars' (C := fun c => c < 128) (fun _ hc _ => hc)
    (fun _ a ha => hall (hidna a ha)) (Or.inr ⟨hz, fun c _ hc => (lowerC_lt hc).1⟩) he

end Yarl
