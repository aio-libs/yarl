/-
  C08.lean — "URL values are immutable and results do not depend on history".

  The memoisation state machine of YarlModel/Cache.lean (constructor tables with arbitrary capacity
  and arbitrary eviction policy, per-object memo dicts, shared objects on cache hits, clear /
  configure, pickling twins) REFINES the cache-free specification `specRun`, for every pure
  semantics `sem`, provided only that what a constructor pre-computes is what the accessor would
  compute (`PrefillOK`, i.e. property C09).  Consequences: outputs are functions of the spec values
  of the handles mentioned, cache configuration is unobservable, and an object's parts never change.

  This is the machine with ONE cache and accessor reads only.  The machine with several caches, derivations, hashing,
  comparisons and rebinding `cache_configure` (YarlModel/CacheMulti.lean, Lemmas/MultiCacheLemmas.lean, C08Multi.lean)
  has the same theorems under the same short names in `Yarl.MultiCache`; it is the one to build on, and no theorem
  relates the two.
-/
import YarlModel
import YarlProofs.Lemmas.CacheLemmas
namespace Yarl.Cache
open Yarl.CacheLemmas

variable {Key Parts Val : Type} [DecidableEq Key]

/-- the one assumption: what a constructor pre-computes is what the accessor would compute
    (this is property C09, proved separately for the URL model) -/
def PrefillOK (sem : Sem Key Parts Val) : Prop :=
  ∀ k p, sem.construct k = some p → ∀ nv ∈ sem.prefill k p, nv.2 = sem.derive p nv.1

/-- coherence invariant of a world together with the two handle lists:
    memo entries are correct, table entries point to live objects with the constructor's parts,
    and handle `i` denotes, in the implementation, an object whose parts are the spec's value for
    handle `i` (`HRel`: `some id ~ some p` iff object `id` exists with parts `p`; `none ~ none`). -/
def Coherent (sem : Sem Key Parts Val) (w : World Key Parts Val) (hs : List (Option Nat))
    (shs : List (Option Parts)) : Prop :=
  (∀ o ∈ w.heap, ∀ nv ∈ o.memo, nv.2 = sem.derive o.parts nv.1) ∧
  (∀ kid ∈ w.table, ∃ o, w.heap[kid.2]? = some o ∧ sem.construct kid.1 = some o.parts) ∧
  hs.length = shs.length ∧
  (∀ (i : Nat) (a : Option Nat) (b : Option Parts), hs[i]? = some a → shs[i]? = some b → HRel w.heap a b)

omit [DecidableEq Key] in
theorem coherent_iff (sem : Sem Key Parts Val) (w : World Key Parts Val) (hs : List (Option Nat))
    (shs : List (Option Parts)) :
    Coherent sem w hs shs ↔ MemoOK sem w.heap ∧ TableOK sem w.heap w.table ∧ HandlesOK w.heap hs shs :=
  Iff.rfl

set_option linter.unusedSectionVars false in
/-- the handle conjunct of `Coherent`, spelt as one `match` on the two look-ups -/
theorem C08_coherent_handles_iff (w : World Key Parts Val) (hs : List (Option Nat)) (shs : List (Option Parts)) :
    HandlesOK w.heap hs shs ↔
      (hs.length = shs.length ∧
        ∀ i : Nat, match hs[i]?, shs[i]? with
          | some (some id), some (some p) => ∃ o, w.heap[id]? = some o ∧ o.parts = p
          | some none, some none => True
          | none, none => True
          | _, _ => False) := by
  constructor
  · intro hh
    refine ⟨hh.1, fun i => ?_⟩
    rcases handlesOK_get hh i with ⟨id, o, h1, h2, h3⟩ | ⟨h1, h2⟩ | ⟨h1, h2⟩
    · rw [h1, h3]; exact ⟨o, h2, rfl⟩
    · rw [h1, h2]; trivial
    · rw [h1, h2]; trivial
  · intro ⟨hl, hm⟩
    refine ⟨hl, fun i a b ha hb => ?_⟩
    have := hm i
    rw [ha, hb] at this
    cases a <;> cases b <;> simp only [HRel] <;> simp at this ⊢
    exact this

set_option linter.unusedSectionVars false in
theorem C08_init_coherent (sem : Sem Key Parts Val) (cap : Option Nat) :
    Coherent sem { heap := [], table := [], cap := cap } [] [] :=
  ⟨memoOK_nil sem, tableOK_nil sem [], handlesOK_nil []⟩

/-- every step only extends the heap (no coherence needed) -/
theorem step_heapExt (sem : Sem Key Parts Val) (pol : Policy Key) (w : World Key Parts Val)
    (hs : List (Option Nat)) (op : Op Key Parts) : HeapExt w.heap (step sem pol w hs op).1.heap := by
  cases op with
  | new k =>
    simp only [step]
    split
    · split <;> exact HeapExt.refl _
    · split
      · exact HeapExt.refl _
      · exact heapExt_append _ _
  | read h name =>
    simp only [step]
    split
    · split
      · split
        · exact HeapExt.refl _
        · exact heapExt_setMemo _ _ _ _
      · exact HeapExt.refl _
    · exact HeapExt.refl _
  | twin h =>
    simp only [step]
    split
    · split
      · exact heapExt_append _ _
      · exact HeapExt.refl _
    · exact HeapExt.refl _
  | clear => exact HeapExt.refl _
  | configure c => exact HeapExt.refl _

theorem C08_step_coherent (sem : Sem Key Parts Val) (pol : Policy Key) (hp : PrefillOK sem)
    (w : World Key Parts Val) (hs : List (Option Nat)) (shs : List (Option Parts)) (op : Op Key Parts) :
    Coherent sem w hs shs →
      let r := step sem pol w hs op
      let s := specStep sem shs op
      Coherent sem r.1 r.2.1 s.1 ∧ r.2.2 = s.2 := by
  intro hc
  obtain ⟨hm, ht, hh⟩ := (coherent_iff _ _ _ _).mp hc
  simp only [coherent_iff]
  cases op with
  | new k =>
    simp only [step, specStep]
    split
    · rename_i id hl
      obtain ⟨o, ho, hk⟩ := ht _ (lookup_mem hl)
      simp only at ho hk
      rw [ho]
      simp only [hk]
      exact ⟨⟨hm, ht, handlesOK_snoc hh ⟨o, ho, rfl⟩⟩, trivial⟩
    · cases hk : sem.construct k with
      | none => exact ⟨⟨hm, ht, handlesOK_snoc hh trivial⟩, rfl⟩
      | some p =>
        simp only
        have he : HeapExt w.heap (w.heap ++ [{ parts := p, memo := sem.prefill k p }]) := heapExt_append _ _
        refine ⟨⟨memoOK_snoc hm (hp k p hk), ?_, handlesOK_snoc (handlesOK_ext he hh) ⟨_, List.getElem?_concat_length, rfl⟩⟩, trivial⟩
        exact tableOK_insert pol w.cap (tableOK_ext he ht) ⟨_, List.getElem?_concat_length, hk⟩
  | read h name =>
    simp only [step, specStep]
    rcases handlesOK_get hh h with ⟨id, o, h1, h2, h3⟩ | ⟨h1, h2⟩ | ⟨h1, h2⟩
    · rw [h1, h3]
      simp only [h2]
      cases hg : memoGet o.memo name with
      | some v =>
        simp only
        refine ⟨⟨hm, ht, hh⟩, ?_⟩
        have := hm o (List.mem_iff_getElem?.mpr ⟨id, h2⟩) _ (memoGet_mem hg)
        simp only at this
        rw [this]
      | none =>
        simp only
        have he := heapExt_setMemo w.heap id name (sem.derive o.parts name)
        refine ⟨⟨memoOK_setMemo hm ?_, tableOK_ext he ht, handlesOK_ext he hh⟩, trivial⟩
        intro o' ho'
        rw [h2] at ho'
        cases ho'; rfl
    · rw [h1, h2]
      exact ⟨⟨hm, ht, hh⟩, rfl⟩
    · rw [h1, h2]
      exact ⟨⟨hm, ht, hh⟩, rfl⟩
  | twin h =>
    simp only [step, specStep]
    rcases handlesOK_get hh h with ⟨id, o, h1, h2, h3⟩ | ⟨h1, h2⟩ | ⟨h1, h2⟩
    · rw [h1, h3]
      simp only [h2]
      have he : HeapExt w.heap (w.heap ++ [{ parts := o.parts, memo := [] }]) := heapExt_append _ _
      refine ⟨⟨memoOK_snoc hm ?_, tableOK_ext he ht, handlesOK_snoc (handlesOK_ext he hh) ⟨_, List.getElem?_concat_length, rfl⟩⟩, trivial⟩
      intro nv hnv; cases hnv
    · rw [h1, h2]
      exact ⟨⟨hm, ht, handlesOK_snoc hh trivial⟩, rfl⟩
    · rw [h1, h2]
      exact ⟨⟨hm, ht, handlesOK_snoc hh trivial⟩, rfl⟩
  | clear => exact ⟨⟨hm, tableOK_nil _ _, hh⟩, rfl⟩
  | configure c => exact ⟨⟨hm, tableOK_nil _ _, hh⟩, rfl⟩

/-- refinement from any coherent state -/
theorem C08_run_eq_specRun (sem : Sem Key Parts Val) (pol : Policy Key) (hp : PrefillOK sem)
    (w : World Key Parts Val) (hs : List (Option Nat)) (shs : List (Option Parts))
    (hc : Coherent sem w hs shs) (ops : List (Op Key Parts)) :
    run sem pol w hs ops = specRun sem shs ops := by
  induction ops generalizing w hs shs with
  | nil => rfl
  | cons op ops ih =>
    have h := C08_step_coherent sem pol hp w hs shs op hc
    simp only at h
    simp only [run, specRun]
    rw [h.2, ih _ _ _ h.1]

/-- refinement to the cache-free specification: for every operation sequence, every
    capacity (incl. 0 and unbounded), every eviction policy, the outputs are those of the
    specification -/
theorem C08_history_independent (sem : Sem Key Parts Val) (pol : Policy Key) (hp : PrefillOK sem)
    (cap : Option Nat) (ops : List (Op Key Parts)) :
    run sem pol { heap := [], table := [], cap := cap } [] ops = specRun sem [] ops :=
  C08_run_eq_specRun sem pol hp _ _ _ (C08_init_coherent sem cap) ops

/-- frame: an existing object's parts never change, whatever is done afterwards -/
theorem C08_frame (sem : Sem Key Parts Val) (pol : Policy Key) (w : World Key Parts Val)
    (hs : List (Option Nat)) (op : Op Key Parts) (id : Nat) (o : Obj Parts Val) :
    w.heap[id]? = some o → ∃ o', (step sem pol w hs op).1.heap[id]? = some o' ∧ o'.parts = o.parts :=
  step_heapExt sem pol w hs op id o

/-- the final world and handle list of a run -/
def runWorld (sem : Sem Key Parts Val) (pol : Policy Key) :
    World Key Parts Val → List (Option Nat) → List (Op Key Parts) → World Key Parts Val × List (Option Nat)
  | w, hs, [] => (w, hs)
  | w, hs, op :: ops =>
    let r := step sem pol w hs op
    runWorld sem pol r.1 r.2.1 ops

theorem runWorld_heapExt (sem : Sem Key Parts Val) (pol : Policy Key) (w : World Key Parts Val)
    (hs : List (Option Nat)) (ops : List (Op Key Parts)) :
    HeapExt w.heap (runWorld sem pol w hs ops).1.heap := by
  induction ops generalizing w hs with
  | nil => exact HeapExt.refl _
  | cons op ops ih => exact (step_heapExt sem pol w hs op).trans (ih _ _)

/-- frame over operation sequences: the parts of object `id` after any `ops` (reads, twins,
    constructions, clear/configure, …) equal its parts before -/
theorem C08_frame_run (sem : Sem Key Parts Val) (pol : Policy Key) (w : World Key Parts Val)
    (hs : List (Option Nat)) (ops : List (Op Key Parts)) (id : Nat) (o : Obj Parts Val) :
    w.heap[id]? = some o →
      ∃ o', (runWorld sem pol w hs ops).1.heap[id]? = some o' ∧ o'.parts = o.parts :=
  runWorld_heapExt sem pol w hs ops id o

/-- … in particular from creation: the object allocated by a (cache-missing) `new k` keeps the
    parts `sem.construct k` for ever -/
theorem C08_frame_from_creation (sem : Sem Key Parts Val) (pol : Policy Key) (w : World Key Parts Val)
    (hs : List (Option Nat)) (k : Key) (p : Parts) (ops : List (Op Key Parts))
    (hmiss : lookup w.table k = none) (hk : sem.construct k = some p) :
    let r := step sem pol w hs (.new k)
    ∃ o', (runWorld sem pol r.1 r.2.1 ops).1.heap[w.heap.length]? = some o' ∧ o'.parts = p := by
  have h0 : (step sem pol w hs (.new k)).1.heap[w.heap.length]?
      = some { parts := p, memo := sem.prefill k p } := by
    simp [step, hmiss, hk]
  exact runWorld_heapExt sem pol _ _ ops _ _ h0

theorem runWorld_coherent (sem : Sem Key Parts Val) (pol : Policy Key) (hp : PrefillOK sem)
    (w : World Key Parts Val) (hs : List (Option Nat)) (shs : List (Option Parts))
    (hc : Coherent sem w hs shs) (ops : List (Op Key Parts)) :
    Coherent sem (runWorld sem pol w hs ops).1 (runWorld sem pol w hs ops).2 (specHandles sem shs ops) := by
  induction ops generalizing w hs shs with
  | nil => exact hc
  | cons op ops ih =>
    have h := C08_step_coherent sem pol hp w hs shs op hc
    simp only at h
    exact ih _ _ _ h.1

theorem run_append (sem : Sem Key Parts Val) (pol : Policy Key) (w : World Key Parts Val)
    (hs : List (Option Nat)) (a b : List (Op Key Parts)) :
    run sem pol w hs (a ++ b) =
      run sem pol w hs a ++ run sem pol (runWorld sem pol w hs a).1 (runWorld sem pol w hs a).2 b := by
  induction a generalizing w hs with
  | nil => rfl
  | cons op a ih => simp only [List.cons_append, run, runWorld, ih]

/-- the value an accessor returns according to the specification -/
def specRead (sem : Sem Key Parts Val) (shs : List (Option Parts)) (h : Nat) (name : String) : Out Parts Val :=
  match shs[h]? with
  | some (some p) => .value (some (sem.derive p name))
  | _ => .value none

omit [DecidableEq Key] in
/-- `specRead` is the specification's output of a read -/
theorem specRead_eq (sem : Sem Key Parts Val) (shs : List (Option Parts)) (h : Nat) (name : String) :
    specRead sem shs h name = (specStep sem shs (.read h name)).2 := by
  simp only [specRead, specStep]
  cases hq : shs[h]? with
  | none => rfl
  | some a => cases a <;> rfl

/-- a read after ANY history `ops` returns `derive p name`, where `p` is the spec value of the
    handle (or `none` for a dead handle) — whatever caching, sharing, eviction, clearing or memo
    filling happened in `ops` -/
theorem C08_read_is_function_of_parts (sem : Sem Key Parts Val) (pol : Policy Key) (hp : PrefillOK sem)
    (cap : Option Nat) (ops : List (Op Key Parts)) (h : Nat) (name : String) :
    run sem pol { heap := [], table := [], cap := cap } [] (ops ++ [.read h name]) =
      specRun sem [] ops ++ [specRead sem (specHandles sem [] ops) h name] := by
  rw [C08_history_independent sem pol hp, specRun_append, specRead_eq]
  rfl

theorem C08_read_is_function_of_parts_last (sem : Sem Key Parts Val) (pol : Policy Key) (hp : PrefillOK sem)
    (cap : Option Nat) (ops : List (Op Key Parts)) (h : Nat) (name : String) :
    (run sem pol { heap := [], table := [], cap := cap } [] (ops ++ [.read h name])).getLast? =
      some (match (specHandles sem [] ops)[h]? with
            | some (some p) => .value (some (sem.derive p name))
            | _ => .value none) := by
  rw [C08_read_is_function_of_parts sem pol hp]
  simp [specRead]

omit [DecidableEq Key] in
/-- the specification only ever appends handles: this is why reading twice, with anything in between, gives the
    same answer -/
theorem specHandles_prefix (sem : Sem Key Parts Val) (shs : List (Option Parts)) (ops : List (Op Key Parts)) :
    shs <+: specHandles sem shs ops := by
  induction ops generalizing shs with
  | nil => exact List.prefix_refl _
  | cons op ops ih =>
    refine List.IsPrefix.trans ?_ (ih _)
    cases op <;> simp only [specStep]
    · exact List.prefix_append _ _
    · split <;> exact List.prefix_refl _
    · split <;> exact List.prefix_append _ _
    · exact List.prefix_refl _
    · exact List.prefix_refl _

omit [DecidableEq Key] in
/-- the handle an operation has just appended keeps its value -/
theorem specHandles_appended (sem : Sem Key Parts Val) (shs : List (Option Parts)) (x : Option Parts)
    (op : Op Key Parts) (ops : List (Op Key Parts)) (h : (specStep sem shs op).1 = shs ++ [x]) :
    (specHandles sem shs (op :: ops))[shs.length]? = some x := by
  obtain ⟨t, ht⟩ := specHandles_prefix sem (specStep sem shs op).1 ops
  show (specHandles sem (specStep sem shs op).1 ops)[shs.length]? = some x
  rw [← ht, h]
  simp

set_option linter.unusedSectionVars false in
/-- a live handle's accessor value never changes, whatever happens in between -/
theorem C08_read_stable (sem : Sem Key Parts Val) (shs : List (Option Parts)) (ops : List (Op Key Parts))
    (h : Nat) (name : String) (hl : h < shs.length) :
    specRead sem (specHandles sem shs ops) h name = specRead sem shs h name := by
  obtain ⟨t, ht⟩ := specHandles_prefix sem shs ops
  simp only [specRead, ← ht, List.getElem?_append_left hl]

/-! ### cache configuration is unobservable -/

def isCacheOp : Op Key Parts → Bool
  | .clear => true
  | .configure _ => true
  | _ => false

/-- the outputs of the non-cache operations of a run -/
def nonCacheOuts (ops : List (Op Key Parts)) (outs : List (Out Parts Val)) : List (Out Parts Val) :=
  ((ops.zip outs).filter (fun x => !isCacheOp x.1)).map (·.2)

omit [DecidableEq Key] in
theorem specRun_nonCache (sem : Sem Key Parts Val) (shs : List (Option Parts)) (ops : List (Op Key Parts)) :
    nonCacheOuts ops (specRun sem shs ops) = specRun sem shs (ops.filter (fun o => !isCacheOp o)) := by
  induction ops generalizing shs with
  | nil => rfl
  | cons op ops ih =>
    have ih' := ih (specStep sem shs op).1
    unfold nonCacheOuts at ih' ⊢
    simp only [specRun, List.zip_cons_cons, List.filter_cons]
    cases hc : isCacheOp op with
    | true =>
      have hs' : (specStep sem shs op).1 = shs := by
        cases op <;> simp only [isCacheOp, Bool.false_eq_true] at hc <;> rfl
      simp only [Bool.not_true, Bool.false_eq_true, if_false]
      rw [ih', hs']
    | false =>
      simp only [Bool.not_false, if_true, List.map_cons, specRun]
      rw [ih']

/-- the outputs of all non-cache operations agree between two runs that differ only in initial
    capacity, eviction policy and interleaved `clear`/`configure` operations -/
theorem C08_cache_config_irrelevant (sem : Sem Key Parts Val) (pol pol' : Policy Key) (hp : PrefillOK sem)
    (cap cap' : Option Nat) (ops ops' : List (Op Key Parts))
    (hsame : ops.filter (fun o => !isCacheOp o) = ops'.filter (fun o => !isCacheOp o)) :
    nonCacheOuts ops (run sem pol { heap := [], table := [], cap := cap } [] ops) =
      nonCacheOuts ops' (run sem pol' { heap := [], table := [], cap := cap' } [] ops') := by
  rw [C08_history_independent sem pol hp, C08_history_independent sem pol' hp,
    specRun_nonCache, specRun_nonCache, hsame]

/-- special case: same program, different capacity and policy: identical outputs -/
theorem C08_cap_policy_irrelevant (sem : Sem Key Parts Val) (pol pol' : Policy Key) (hp : PrefillOK sem)
    (cap cap' : Option Nat) (ops : List (Op Key Parts)) :
    run sem pol { heap := [], table := [], cap := cap } [] ops =
      run sem pol' { heap := [], table := [], cap := cap' } [] ops := by
  rw [C08_history_independent sem pol hp, C08_history_independent sem pol' hp]

/-- special case: dropping every clear/configure from a program does not change the other outputs -/
theorem C08_drop_cache_ops (sem : Sem Key Parts Val) (pol pol' : Policy Key) (hp : PrefillOK sem)
    (cap cap' : Option Nat) (ops : List (Op Key Parts)) :
    nonCacheOuts ops (run sem pol { heap := [], table := [], cap := cap } [] ops) =
      run sem pol' { heap := [], table := [], cap := cap' } [] (ops.filter (fun o => !isCacheOp o)) := by
  rw [C08_history_independent sem pol hp, C08_history_independent sem pol' hp, specRun_nonCache]

/-! ### a tiny instance: sharing on a cache hit; the hypothesis `PrefillOK` is not vacuous -/

namespace Tiny

deriving instance DecidableEq for Out

def sem : Sem Nat Nat Nat :=
  { construct := fun k => some (k % 3), derive := fun p n => p + n.length, prefill := fun _ p => [("x", p + 1)] }

/-- a constructor that pre-computes a WRONG value -/
def badSem : Sem Nat Nat Nat :=
  { sem with prefill := fun _ _ => [("x", 99)] }

def lru : Policy Nat := { evict := fun t => t.dropLast, sub := fun t _ h => List.dropLast_subset t h }
def flush : Policy Nat := { evict := fun _ => [], sub := fun _ _ h => by cases h }

def w0 (cap : Option Nat) : World Nat Nat Nat := { heap := [], table := [], cap := cap }

theorem sem_prefillOK : PrefillOK sem := by
  intro k p _ nv hnv
  simp only [sem, List.mem_singleton] at hnv
  subst hnv
  show p + 1 = p + "x".length
  rfl

theorem badSem_not_prefillOK : ¬ PrefillOK badSem := by
  intro h
  have := h 0 0 rfl ("x", 99) (by simp [badSem])
  revert this; decide

/-- a cache hit returns the SHARED object: both handles are object 0, and only one object exists -/
example : (runWorld sem lru (w0 (some 2)) [] [.new 1, .new 1]).2 = [some 0, some 0] := by decide +kernel
example : (runWorld sem lru (w0 (some 2)) [] [.new 1, .new 1]).1.heap.length = 1 := by decide +kernel
/-- with the cache disabled the two handles are distinct objects … -/
example : (runWorld sem lru (w0 (some 0)) [] [.new 1, .new 1]).2 = [some 0, some 1] := by decide +kernel
/-- … as they are after a `clear`, or for a different but equal-valued key (1 % 3 = 4 % 3) … -/
example : (runWorld sem lru (w0 none) [] [.new 1, .clear, .new 1]).2 = [some 0, some 1] := by decide +kernel
example : (runWorld sem lru (w0 none) [] [.new 1, .new 4]).2 = [some 0, some 1] := by decide +kernel
/-- … and yet the outputs are identical in all these runs -/
example : run sem lru (w0 (some 2)) [] [.new 1, .new 1, .read 0 "ab", .read 1 "ab", .read 1 "x", .twin 0, .read 2 "x", .read 7 "x"]
    = [.handle (some 1), .handle (some 1), .value (some 3), .value (some 3), .value (some 2), .handle (some 1),
       .value (some 2), .value none] := by decide +kernel
example : run sem flush (w0 (some 0)) [] [.new 1, .new 1, .read 0 "ab", .read 1 "ab", .read 1 "x", .twin 0, .read 2 "x", .read 7 "x"]
    = run sem lru (w0 (some 2)) [] [.new 1, .new 1, .read 0 "ab", .read 1 "ab", .read 1 "x", .twin 0, .read 2 "x", .read 7 "x"] := by
  decide +kernel
/-- a read through one handle fills the memo seen through the other (shared) handle -/
example : ((runWorld sem lru (w0 none) [] [.new 1, .new 1, .read 0 "ab"]).1.heap.map (·.memo))
    = [[("ab", 3), ("x", 2)]] := by decide +kernel
/-- eviction really happens (capacity 1, two keys), and is unobservable -/
example : (runWorld sem lru (w0 (some 1)) [] [.new 1, .new 2, .new 1]).2 = [some 0, some 1, some 2] := by decide +kernel
example : (runWorld sem lru (w0 (some 1)) [] [.new 1, .new 2, .new 1]).1.table = [(1, 2)] := by decide +kernel

/-- with a WRONG prefill the refinement genuinely fails: `PrefillOK` is a real hypothesis -/
theorem C08_prefill_needed :
    run badSem lru (w0 (some 2)) [] [.new 1, .read 0 "x"] ≠ specRun badSem [] [.new 1, .read 0 "x"] := by
  decide +kernel

example : run badSem lru (w0 (some 2)) [] [.new 1, .read 0 "x"] = [.handle (some 1), .value (some 99)] := by decide +kernel
example : specRun badSem [] [.new 1, .read 0 "x"] = [.handle (some 1), .value (some 2)] := by decide +kernel

/-- … and with a wrong prefill the result DOES depend on history/sharing: a twin (unpickled copy)
    answers differently from the original -/
example : run badSem lru (w0 (some 2)) [] [.new 1, .twin 0, .read 0 "x", .read 1 "x"]
    = [.handle (some 1), .handle (some 1), .value (some 99), .value (some 2)] := by decide +kernel

/-- the main theorem instantiated -/
example (cap : Option Nat) (ops : List (Op Nat Nat)) : run sem lru (w0 cap) [] ops = specRun sem [] ops :=
  C08_history_independent sem lru sem_prefillOK cap ops

end Tiny

end Yarl.Cache
