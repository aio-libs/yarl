/-
  C15More.lean — property C15 per entry point, beyond "no dot segment":
   * escaped dots (no stored segment percent-decodes to "." / ".." under an authority); what the non-requoting
     PATH_QUOTER does with a supplied "%2E";
   * the stored path against RFC 3986 §5.2.4 `remove_dot_segments` of the rooted path that was supplied / merged
     (build, with_path, `/` + joinpath): with_path is RFC-exact (`C15_with_path_rfc`), `/` deviates only when the RFC
     result is "/" or starts with "//" (`C15_make_child_rfc`);
   * without an authority build and `/` + joinpath keep every dot segment.
-/
import YarlModel
import YarlProofs.Lemmas.DotMore
namespace Yarl
open PathLemmas PathAlg WfLemmas EntryLemmas DotMore

/-! ## escaped dots -/

/-- the auto-encoding constructor: under an authority NO segment of the stored path percent-decodes to
    "." or ".." (`dot = "."`, `dotdot = ".."`; `pctDecode` is `urllib.parse.unquote_to_bytes`).
    `PyStr s` (all code points ≤ 0x10FFFF) holds for every Python `str`. -/
theorem C15_no_encoded_dot_segments (e : Env) (s : Str) (hs : PyStr s) (u : Url) :
    encodeUrl e s = .ok u → u.netloc ≠ [] →
    ∀ seg ∈ splitOn 47 u.path, pctDecode seg ≠ dot ∧ pctDecode seg ≠ dotdot :=
  fun h hn => canonUrl_no_encoded_dots (ReachFix.encodeUrl_canon e s hs u h) hn

/-- … for every URL reachable through the auto-encoding API (constructor, build, all modifiers with
    Python-string arguments, `/`, joinpath, join: `ReachC`, C03Reach.lean) -/
theorem C15_no_encoded_dot_segments_reachable (e : Env) (u : Url) (h : ReachC e u) (hn : u.netloc ≠ []) :
    ∀ seg ∈ splitOn 47 u.path, pctDecode seg ≠ dot ∧ pctDecode seg ≠ dotdot :=
  canonUrl_no_encoded_dots (C03_reachable_canon e u h) hn

/-- … per entry point: build -/
theorem C15_no_encoded_dot_segments_build (e : Env) (a : BuildArgs) (u : Url) (henc : a.encoded = false)
    (hpy : BuildArgsPy a) : build e a = .ok u → u.netloc ≠ [] →
    ∀ seg ∈ splitOn 47 u.path, pctDecode seg ≠ dot ∧ pctDecode seg ≠ dotdot :=
  fun h hn => canonUrl_no_encoded_dots (ReachFix.build_canon e a u henc hpy h) hn

/-- … with_path (receiver in canonical form, which every reachable URL is) -/
theorem C15_no_encoded_dot_segments_with_path (e : Env) (u : Url) (hu : CanonUrl e.b u) (path : Str)
    (hp : PyStr path) (kq kf : Bool) : u.netloc ≠ [] →
    ∀ seg ∈ splitOn 47 (withPath e u path false kq kf).path, pctDecode seg ≠ dot ∧ pctDecode seg ≠ dotdot :=
  fun hn => canonUrl_no_encoded_dots (C03_applyOp_canon e u hu (.withPath path kq kf) hp _ rfl) hn

/-- … `/` and joinpath -/
theorem C15_no_encoded_dot_segments_make_child (e : Env) (u : Url) (hu : CanonUrl e.b u) (paths : List Str)
    (hp : ∀ p ∈ paths, PyStr p) (v : Url) : makeChild e u paths false = .ok v → v.netloc ≠ [] →
    ∀ seg ∈ splitOn 47 v.path, pctDecode seg ≠ dot ∧ pctDecode seg ≠ dotdot :=
  fun h hn => canonUrl_no_encoded_dots (C03_applyOp_canon e u hu (.child paths) hp v h) hn

/-- all spellings of a dot segment with '.', "%2E", "%2e" -/
def C15_dotSpellings : List Str :=
  [".", "%2E", "%2e", "..", ".%2E", ".%2e", "%2E.", "%2e.", "%2E%2E", "%2E%2e", "%2e%2E", "%2e%2e"].map String.toStr

theorem C15_dotSpellings_decode : ∀ x ∈ C15_dotSpellings, pctDecode x = dot ∨ pctDecode x = dotdot := by
  str_lits
  decide +kernel

/-- the explicit form: no stored segment is "%2E", "%2e", ".%2E", … -/
theorem C15_no_encoded_dot_spellings (e : Env) (s : Str) (hs : PyStr s) (u : Url) :
    encodeUrl e s = .ok u → u.netloc ≠ [] → ∀ seg ∈ splitOn 47 u.path, seg ∉ C15_dotSpellings := by
  intro h hn seg hseg hm
  obtain ⟨h1, h2⟩ := C15_no_encoded_dot_segments e s hs u h hn seg hseg
  exact (C15_dotSpellings_decode seg hm).elim h1 h2

/-- the reason, as a statement about canonical text: a segment that is canonical for PATH_REQUOTER (every
    stored path segment of an auto-encoded URL) decodes to a dot segment only if it IS one — the
    requoter has decoded every escape of an unreserved character, "%2E" included -/
theorem C15_canon_segment_decodes_to_dot (b : Backend) (seg : Str) (h : Canon (Gen.PATH_REQUOTER.tab b) seg) :
    (pctDecode seg = dot → seg = dot) ∧ (pctDecode seg = dotdot → seg = dotdot) :=
  path_canon_decode_dot b h

/-- the non-requoting PATH_QUOTER (build, with_path, `/`, joinpath) works character by character … -/
theorem C15_quoter_append (e : Env) (a b : Str) (ha : PyStr a) (hb : PyStr b) :
    q e Gen.PATH_QUOTER (a ++ b) = q e Gen.PATH_QUOTER a ++ q e Gen.PATH_QUOTER b :=
  q_path_append e a b ha hb

/-- … and a '%' ALWAYS becomes "%25", whatever follows: a supplied "%2E" is stored as "%252E" -/
theorem C15_quoter_escapes_percent (e : Env) (a b : Str) (ha : PyStr a) (hb : PyStr b) :
    q e Gen.PATH_QUOTER (a ++ 37 :: b) = q e Gen.PATH_QUOTER a ++ "%25".toStr ++ q e Gen.PATH_QUOTER b := by
  have h37 : PyStr [37] := by decide +kernel
  rw [show a ++ 37 :: b = a ++ ([37] ++ b) from rfl, q_path_append e a _ ha (pyStr_append h37 hb), q_path_append e [37] b h37 hb,
    q_path_quoter_pct, List.append_assoc]
  rfl

/-- what PATH_QUOTER wrote decodes to the UTF-8 bytes of the argument itself -/
theorem C15_quoter_decodes_to_argument (e : Env) (s : Str) (hs : PyStr s) :
    pctDecode (q e Gen.PATH_QUOTER s) = utf8s s :=
  q_path_quoter_decode e s hs

/-- corollary: the supplied segments "%2E", "%2e%2E" are stored as "%252E", "%252e%252E", which decode to
    the literal texts "%2E", "%2e%2E" — not to dot segments (both backends, any oracles) -/
theorem C15_quoter_dot_escape_is_literal (e : Env) :
    q e Gen.PATH_QUOTER "%2E".toStr = "%252E".toStr ∧
    pctDecode (q e Gen.PATH_QUOTER "%2E".toStr) = "%2E".toStr ∧
    q e Gen.PATH_QUOTER "%2e%2E".toStr = "%252e%252E".toStr ∧
    pctDecode (q e Gen.PATH_QUOTER "%2e%2E".toStr) = "%2e%2E".toStr := by
  rw [q_path_quoter_decode e _ (by decide +kernel), q_path_quoter_decode e _ (by decide +kernel)]
  show Gen.PATH_QUOTER.run e.b _ = _ ∧ _ ∧ Gen.PATH_QUOTER.run e.b _ = _ ∧ _
  cases e.b <;> decide +kernel

/-- PATH_QUOTER works segment by segment: the '/'-split of the quoted text is the quoted '/'-split -/
theorem C15_quoter_segments (e : Env) (s : Str) (hs : PyStr s) :
    splitOn 47 (q e Gen.PATH_QUOTER s) = (splitOn 47 s).map (q e Gen.PATH_QUOTER) :=
  splitOn_q e s hs

/-- hence every segment PATH_QUOTER stores comes from one supplied segment and decodes to that segment's
    own text; it decodes to "." / ".." ONLY if the supplied segment (lone surrogates aside, which every quoter
    drops) was literally "." / ".." — "%2E" is not such a segment, and under an authority the literal ones
    are then removed (`C15_entry_build`, `C15_entry_withPath`, `C15_entry_makeChild`) -/
theorem C15_quoter_segment_decodes_to_dot (e : Env) (s : Str) (hs : PyStr s) :
    ∀ seg' ∈ splitOn 47 (q e Gen.PATH_QUOTER s), ∃ seg ∈ splitOn 47 s,
      seg' = q e Gen.PATH_QUOTER seg ∧ pctDecode seg' = utf8s seg ∧
      (pctDecode seg' = dot → stripSurr seg = dot) ∧ (pctDecode seg' = dotdot → stripSurr seg = dotdot) := by
  intro seg' hseg'
  rw [splitOn_q e s hs] at hseg'
  obtain ⟨seg, hseg, rfl⟩ := List.mem_map.1 hseg'
  have hpy : PyStr seg := fun c hc => hs c (splitOn_sub 47 s seg hseg c hc)
  have hd := q_path_quoter_decode e seg hpy
  refine ⟨seg, hseg, rfl, hd, ?_, ?_⟩
  · rw [hd]
    exact utf8s_ascii seg hpy dot (by simp [dot])
  · rw [hd]
    exact utf8s_ascii seg hpy dotdot (by simp [dotdot])

/-- text made of '.' and '/' only passes PATH_QUOTER verbatim, wherever it stands -/
theorem C15_quoter_keeps_dots_and_slashes (e : Env) (a d b : Str) (ha : PyStr a) (hb : PyStr b)
    (hd : ∀ c ∈ d, c = 46 ∨ c = 47) :
    q e Gen.PATH_QUOTER (a ++ d ++ b) = q e Gen.PATH_QUOTER a ++ d ++ q e Gen.PATH_QUOTER b := by
  have hdpy : PyStr d := by
    intro c hc
    rcases hd c hc with rfl | rfl <;> decide +kernel
  rw [q_path_append e _ _ (pyStr_append ha hdpy) hb, q_path_append e _ _ ha hdpy,
    q_path_fixed e d hd]

/-! ## per entry point: RFC 3986 §5.2.4 on the rooted path that was supplied or merged -/

theorem C15_quoter_nil (e : Env) : q e Gen.PATH_QUOTER [] = [] :=
  Gen.PATH_QUOTER.run_nil e.b

/-- the success path of `build(encoded=False)`, path component: with `P` the quoted `path` argument -/
theorem C15_build_path (e : Env) (a : BuildArgs) (u : Url) (henc : a.encoded = false)
    (h : build e a = .ok u) :
    (if !(q e Gen.PATH_QUOTER a.path).isEmpty && !u.netloc.isEmpty then
        match q e Gen.PATH_QUOTER a.path with
        | 47 :: _ => (pure (if mem 46 (q e Gen.PATH_QUOTER a.path) then normalizePath (q e Gen.PATH_QUOTER a.path)
                             else q e Gen.PATH_QUOTER a.path) : R Str)
        | _ => .error .valueError
      else pure (q e Gen.PATH_QUOTER a.path)) = .ok u.path := by
  obtain ⟨_, _, _, _, _, h, _⟩ := build_false_ok henc h
  exact buildPath0_eq e a.path ▸ h

/-- build: under an authority the quoted `path` argument is empty or rooted (anything else is rejected),
    and the stored path IS `remove_dot_segments` of it -/
theorem C15_build_rfc (e : Env) (a : BuildArgs) (u : Url) :
    a.encoded = false → build e a = .ok u → u.netloc ≠ [] →
    (q e Gen.PATH_QUOTER a.path = [] ∨ ∃ r, q e Gen.PATH_QUOTER a.path = 47 :: r) ∧
    u.path = Rfc.removeDotSegments (q e Gen.PATH_QUOTER a.path) := by
  intro henc h hn
  have hp := C15_build_path e a u henc h
  rw [not_isEmpty_of_ne_nil hn, Bool.and_true] at hp
  generalize q e Gen.PATH_QUOTER a.path = P at hp
  split at hp
  · split at hp
    · rename_i r _
      rw [← (Except.ok.inj hp : _ = u.path)]
      exact ⟨Or.inr ⟨r, rfl⟩, JoinLemmas.guard_rds r⟩
    · cases hp
  · rename_i hemp
    rw [← (Except.ok.inj hp : P = u.path)]
    cases P with
    | nil => exact ⟨Or.inl rfl, rfl⟩
    | cons c t => exact absurd rfl hemp

/-- with_path under an authority IS §5.2.4 (defect fixed by commit 7cae68c: the argument is rooted BEFORE
    `normalize_path` runs).  With `p` the quoted argument:
    empty — stored empty: an empty `p` has no '.', so it is neither rooted nor normalised, and the closing
      `if path and path[0] != "/"` leaves "" alone (`raw_path` then shows "/");
    non-empty — the stored path IS `remove_dot_segments (rooted p)`, where `rooted p` is `p` itself when `p` starts
      with '/' and `"/" ++ p` when it is rootless (last two clauses).  No deviation is left. -/
theorem C15_with_path_rfc (e : Env) (u : Url) (path : Str) (kq kf : Bool) (hn : u.netloc ≠ []) :
    let p := q e Gen.PATH_QUOTER path
    let stored := (withPath e u path false kq kf).path
    (p = [] → stored = []) ∧
    (p ≠ [] → stored = Rfc.removeDotSegments (rooted p)) ∧
    (∀ r, p = 47 :: r → rooted p = p) ∧
    (p ≠ [] → p.head? ≠ some 47 → rooted p = 47 :: p) := by
  intro p stored
  have hst := C15_entry_withPath_rfc e u path kq kf hn
  refine ⟨fun hp => hst.trans (if_pos hp), fun hp => hst.trans (if_neg hp), fun r hp => by rw [hp]; rfl, ?_⟩
  · intro hp0 hp47
    cases hpc : p with
    | nil => exact absurd hpc hp0
    | cons c t => exact rooted_of_ne47 t fun hc => hp47 (by rw [hpc, hc]; rfl)

/-- with_path, rooted argument: the stored path is `remove_dot_segments p` -/
theorem C15_with_path_rfc_rooted (e : Env) (u : Url) (path : Str) (kq kf : Bool) (hn : u.netloc ≠ [])
    (r : Str) (hp : q e Gen.PATH_QUOTER path = 47 :: r) :
    (withPath e u path false kq kf).path = Rfc.removeDotSegments (q e Gen.PATH_QUOTER path) := by
  rw [C15_entry_withPath_rfc e u path kq kf hn, hp]
  rfl

/-- §5.2.4 on a rooted relative path: for a non-empty rootless `p`, `remove_dot_segments ("/" ++ p)` is
    "/" ++ `normalize_path(p)` (a fact about the two algorithms: rooting must come BEFORE normalising, as `with_path`
    does; `fixRoot (normalize_path p)` differs exactly when `normalize_path p` is empty or starts with '/') -/
theorem C15_rds_rooted_relative (p : Str) (hp0 : p ≠ []) (hp47 : p.head? ≠ some 47) :
    Rfc.removeDotSegments (47 :: p) = 47 :: normalizePath p := by
  rw [← C15_rfc]
  cases p with
  | nil => exact absurd rfl hp0
  | cons c t =>
    simp only [normalizePath]
    split
    · rename_i rest heq
      exact absurd (by rw [(List.cons.inj heq).1]; rfl) hp47
    · rfl

/-- with_path, rootless argument: the stored path is §5.2.4 of "/" ++ p, with no condition on the RFC result, and
    is "/" ++ `normalize_path(p)` -/
theorem C15_with_path_rfc_generic (e : Env) (u : Url) (path : Str) (kq kf : Bool) (hn : u.netloc ≠ [])
    (hp0 : q e Gen.PATH_QUOTER path ≠ []) (hp47 : (q e Gen.PATH_QUOTER path).head? ≠ some 47) :
    (withPath e u path false kq kf).path = Rfc.removeDotSegments (47 :: q e Gen.PATH_QUOTER path) ∧
    (withPath e u path false kq kf).path = 47 :: normalizePath (q e Gen.PATH_QUOTER path) := by
  obtain ⟨_, h, _, hr⟩ := C15_with_path_rfc e u path kq kf hn
  rw [← C15_rds_rooted_relative _ hp0 hp47, ← hr hp0 hp47]
  exact ⟨h hp0, h hp0⟩

/-- "with_path(p) stores remove_dot_segments('/' + p)" at the inputs where rooting after normalising would differ
    (both backends): `URL("http://h/x").with_path(".//a")` stores "//a"; `.with_path("a/..//b")` stores "//b", like
    the constructor on "http://h/a/..//b"; `.with_path("..")` stores "/". -/
theorem C15_with_path_rfc_now_exact (b : Backend) :
    let e : Env := ⟨b, Oracles.empty⟩
    let u := fromParts "http".toStr "h".toStr "/x".toStr [] []
    (withPath e u ".//a".toStr false false false).path = "//a".toStr ∧
      Rfc.removeDotSegments "/.//a".toStr = "//a".toStr ∧
    (withPath e u "a/..//b".toStr false false false).path = "//b".toStr ∧
      Rfc.removeDotSegments "/a/..//b".toStr = "//b".toStr ∧
      (encodeUrl e "http://h/a/..//b".toStr).map (·.path) = .ok "//b".toStr ∧
    (withPath e u "..".toStr false false false).path = "/".toStr ∧
      Rfc.removeDotSegments "/..".toStr = "/".toStr := by
  str_lits
  cases b <;> decide +kernel

/-- `/` and joinpath under an authority.  `M` is the segment list of the merged path: the receiver's segments
    without a trailing empty one (`base u`), then the new segments (`childSegs`: the quoted arguments split at
    '/', all but the last argument without a trailing empty segment), with the root's empty first segment
    (`root`); `J = "/".join(M)` is the merged path, empty or rooted; `R` is §5.2.4 applied to it.
    The stored path IS `R` — except, and only when a ".." climbs above the root (`climbs 0 M.tail`), that
    `R = "/"` is stored as the empty path and `R = "//" ++ t` as `"/" ++ t` (the stack algorithm pops the
    root's empty segment like any other). -/
theorem C15_make_child_rfc (e : Env) (u : Url) (paths : List Str) (v : Url) :
    makeChild e u paths false = .ok v → u.netloc ≠ [] → NoDotSegments u.path →
    let M := root u.netloc (base u ++ childSegs e paths)
    let R := Rfc.removeDotSegments (joinC 47 M)
    (joinC 47 M = [] ∨ ∃ r, joinC 47 M = 47 :: r) ∧
    (v.path = R ∨
      (climbs 0 M.tail = true ∧ anyDot e paths = true ∧
        ((R = [47] ∧ v.path = []) ∨ ∃ t, R = 47 :: 47 :: t ∧ v.path = 47 :: t))) := by
  intro h hn hu
  obtain ⟨-, rfl⟩ := PathMore.makeChild_ok.1 h
  rw [← childSegs_eq, ← anyDot_eq]
  have hXs : Segs (childSegs e paths) := childSegs_eq e paths ▸ PathMore.segs_argSegs e false paths
  have hMs := segs_root u.netloc (segs_append (segs_base u) hXs)
  dsimp only
  rw [childOf_path, (by simpa using hn : u.netloc.isEmpty = false), Bool.false_or]
  rcases root_shape u.netloc hn (base u ++ childSegs e paths) with hM | ⟨L', hM⟩
  · rw [hM]
    exact ⟨Or.inl rfl, Or.inl (by split <;> rfl)⟩
  · rw [hM] at hMs ⊢
    by_cases hL' : L' = []
    · subst hL'
      exact ⟨Or.inl rfl, Or.inl (by split <;> rfl)⟩
    · have hJ := joinC_root_cons L' hL'
      rw [hJ]
      refine ⟨Or.inr ⟨_, rfl⟩, ?_⟩
      cases hnn : anyDot e paths with
      | false =>
        have hnd := noDots_root u.netloc (noDots_append (noDots_base u hu) fun s hs =>
          noDots_of_no46 ((childSegs_eq e paths ▸ PathMore.argDots_false_mem e false paths) hnn s hs))
        rw [hM] at hnd
        have hnds := noDotSegments_joinC _ hMs hnd
        rw [hJ] at hnds
        exact Or.inl (rds_fixed_of_noDotSegments _ hnds).symm
      | true =>
        obtain ⟨h1, h2⟩ := root_norm_rfc L' hL' fun p hp => hMs p (List.mem_cons_of_mem _ hp)
        rw [hJ] at h1
        simp only [Bool.not_true, Bool.false_eq_true, if_false, h1, List.tail_cons]
        rcases h2 with h2 | ⟨hc, h2⟩
        · exact Or.inl h2
        · rw [h2]
          rcases fixRoot_cases (joinC 47 (normalizePathSegments L')) with ⟨k1, k2⟩ | ⟨t, k1, k2⟩ | ⟨k1, k2, k3⟩
          · exact Or.inr ⟨hc, trivial, Or.inl ⟨by rw [k1], k2⟩⟩
          · exact Or.inr ⟨hc, trivial, Or.inr ⟨t, by rw [k1], k2⟩⟩
          · exact Or.inl k3

/-- `/` and joinpath: exact agreement with §5.2.4 when no ".." climbs above the root … -/
theorem C15_make_child_rfc_noclimb (e : Env) (u : Url) (paths : List Str) (v : Url)
    (h : makeChild e u paths false = .ok v) (hn : u.netloc ≠ []) (hu : NoDotSegments u.path)
    (hc : climbs 0 (root u.netloc (base u ++ childSegs e paths)).tail = false) :
    v.path = Rfc.removeDotSegments (joinC 47 (root u.netloc (base u ++ childSegs e paths))) := by
  rcases (C15_make_child_rfc e u paths v h hn hu).2 with h1 | ⟨h1, _⟩
  · exact h1
  · rw [hc] at h1; cases h1

/-- … and whenever the RFC result is neither "/" nor starts with "//" -/
theorem C15_make_child_rfc_generic (e : Env) (u : Url) (paths : List Str) (v : Url)
    (h : makeChild e u paths false = .ok v) (hn : u.netloc ≠ []) (hu : NoDotSegments u.path)
    (h1 : Rfc.removeDotSegments (joinC 47 (root u.netloc (base u ++ childSegs e paths))) ≠ [47])
    (h2 : ∀ t, Rfc.removeDotSegments (joinC 47 (root u.netloc (base u ++ childSegs e paths))) ≠ 47 :: 47 :: t) :
    v.path = Rfc.removeDotSegments (joinC 47 (root u.netloc (base u ++ childSegs e paths))) := by
  rcases (C15_make_child_rfc e u paths v h hn hu).2 with h0 | ⟨_, _, ⟨h0, _⟩ | ⟨t, h0, _⟩⟩
  · exact h0
  · exact absurd h0 h1
  · exact absurd h0 (h2 t)

/-- COUNTEREXAMPLES to "`/` stores remove_dot_segments of the merged path" (both backends):
    `URL("http://h/x") / "../..//a"` stores "/a" where §5.2.4 — and the constructor on
    "http://h/x/../..//a" — give "//a"; `URL("http://h") / ".."` stores "" (RFC "/": harmless). -/
theorem C15_make_child_rfc_counterexamples (b : Backend) :
    let e : Env := ⟨b, Oracles.empty⟩
    let u := fromParts "http".toStr "h".toStr "/x".toStr [] []
    let u0 := fromParts "http".toStr "h".toStr [] [] []
    (makeChild e u ["../..//a".toStr] false).map (·.path) = .ok "/a".toStr ∧
      joinC 47 (root u.netloc (base u ++ childSegs e ["../..//a".toStr])) = "/x/../..//a".toStr ∧
      Rfc.removeDotSegments "/x/../..//a".toStr = "//a".toStr ∧
      (encodeUrl e "http://h/x/../..//a".toStr).map (·.path) = .ok "//a".toStr ∧
    (makeChild e u0 ["..".toStr] false).map (·.path) = .ok [] ∧
      Rfc.removeDotSegments "/..".toStr = "/".toStr := by
  str_lits
  cases b <;> decide +kernel

/-- join (for completeness; C14): a relative reference with a non-empty path against a base with an authority and an
    empty-or-rooted path — the §5.2.3 target path is rooted and the result's path is §5.2.4 of it -/
theorem C15_join_rfc (e : Env) (base ref : Url)
    (hrel : Gen.usesRelative.contains base.scheme = true)
    (hsch : ref.scheme = [] ∨ ref.scheme = base.scheme)
    (hn : base.netloc ≠ []) (hb : base.path = [] ∨ base.path.head? = some 47)
    (hrn : ref.netloc = []) (hp : ref.path ≠ []) :
    (join e base ref).netloc = base.netloc ∧
    (∃ r, JoinLemmas.target base ref = 47 :: r) ∧
    (join e base ref).path = Rfc.removeDotSegments (JoinLemmas.target base ref) := by
  have hroot := JoinLemmas.target_rooted base ref (hb.elim (fun h => .inl ⟨h, hn⟩) fun h => .inr (.inl h))
  rw [JoinLemmas.join_rel e base ref hrel hsch]
  simp only [hrn, List.isEmpty_nil, Bool.not_true, Bool.false_eq_true, if_false, fromParts]
  exact ⟨trivial, hroot, JoinLemmas.joinPath_rfc base ref (Or.inr hb) hp (Or.inl hroot)⟩

/-! ## without an authority dot segments are kept verbatim -/

/-- build: without an authority the stored path is the quoted argument, nothing removed (PATH_QUOTER keeps
    '.' and '/' as they are: `C15_quoter_keeps_dots_and_slashes`, `C15_quoter_segments`) -/
theorem C15_build_no_authority_verbatim (e : Env) (a : BuildArgs) (u : Url) :
    a.encoded = false → build e a = .ok u → u.netloc = [] → u.path = q e Gen.PATH_QUOTER a.path := by
  intro henc h hn
  have hp := C15_build_path e a u henc h
  rw [hn] at hp
  simp only [List.isEmpty_nil, Bool.not_true, Bool.and_false, Bool.false_eq_true, if_false] at hp
  exact (Except.ok.inj hp).symm

/-- … and so the segments of the stored path are the quoted segments of the argument, one for one -/
theorem C15_build_no_authority_segments (e : Env) (a : BuildArgs) (u : Url) (hpy : PyStr a.path) :
    a.encoded = false → build e a = .ok u → u.netloc = [] →
    splitOn 47 u.path = (splitOn 47 a.path).map (q e Gen.PATH_QUOTER) := by
  intro henc h hn
  rw [C15_build_no_authority_verbatim e a u henc h hn, splitOn_q e _ hpy]

/-- `/` and joinpath on a URL without authority: the new path is the plain '/'-join of the receiver's segments
    (minus a trailing empty one) and the new segments; every "." and ".." of either is still there -/
theorem C15_make_child_no_authority_verbatim (e : Env) (u : Url) (paths : List Str) (v : Url) :
    makeChild e u paths false = .ok v → u.netloc = [] →
    v.netloc = [] ∧ v.path = joinC 47 (base u ++ childSegs e paths) ∧
    (base u ++ childSegs e paths ≠ [] → splitOn 47 v.path = base u ++ childSegs e paths) ∧
    (∀ seg, seg ∈ base u ∨ seg ∈ childSegs e paths → seg ∈ splitOn 47 v.path) := by
  intro h hn
  obtain ⟨-, rfl⟩ := PathMore.makeChild_ok.1 h
  rw [← childSegs_eq, ← anyDot_eq]
  have hp : (childOf u (childSegs e paths) (anyDot e paths)).path = joinC 47 (base u ++ childSegs e paths) := by
    rw [childOf_path, hn, root_nil_netloc]
    rfl
  have hs := segs_append (segs_base u) (childSegs_eq e paths ▸ PathMore.segs_argSegs e false paths)
  refine ⟨by rw [childOf_netloc, hn], hp, ?_, ?_⟩
  · intro hne
    rw [hp, PathLemmas.splitOn_joinC _ hne hs]
  · intro seg hseg
    have hmem := List.mem_append.2 hseg
    rw [hp, PathLemmas.splitOn_joinC _ (List.ne_nil_of_mem hmem) hs]
    exact hmem

/-- one argument: `(u / s).path` is `"/".join(base segments ++ quoted segments of s)` -/
theorem C15_make_child_no_authority_single (e : Env) (u : Url) (s : Str) (hs : PyStr s) (v : Url) :
    makeChild e u [s] false = .ok v → u.netloc = [] →
    v.path = joinC 47 (base u ++ (splitOn 47 s).map (q e Gen.PATH_QUOTER)) := by
  intro h hn
  rw [(C15_make_child_no_authority_verbatim e u [s] v h hn).2.1]
  simp [childSegs, splitOn_q e s hs]

/-! ## non-vacuity -/

/-- `pctDecode` sees through every spelling -/
example : pctDecode "%2e".toStr = dot ∧ pctDecode ".%2E".toStr = dotdot ∧ pctDecode "%252E".toStr = "%2E".toStr := by
  str_lits
  decide +kernel

/-- the constructor theorem applies to a URL full of escaped dots (both backends) -/
example (b : Backend) : ∃ u, encodeUrl ⟨b, Oracles.empty⟩ "http://h/a/%2E%2E/%2e/.%2E/b%2E/%2E%2Ec".toStr = .ok u ∧
    u.netloc ≠ [] ∧ u.path = "/b./..c".toStr ∧
    ∀ seg ∈ splitOn 47 u.path, pctDecode seg ≠ dot ∧ pctDecode seg ≠ dotdot := by
  have hmap : (encodeUrl ⟨b, Oracles.empty⟩ "http://h/a/%2E%2E/%2e/.%2E/b%2E/%2E%2Ec".toStr).map
      (fun u => (u.netloc, u.path)) = .ok ("h".toStr, "/b./..c".toStr) := by
    str_lits
    cases b <;> decide +kernel
  obtain ⟨u, h, huv⟩ := map_ok hmap
  obtain ⟨h1, h2⟩ := Prod.mk.inj huv
  have hn : u.netloc ≠ [] := by rw [h1]; decide +kernel
  exact ⟨u, h, hn, h2, C15_no_encoded_dot_segments _ _ (by str_lits; decide +kernel) u h hn⟩

/-- QUOTER entries: with_path("%2E%2E/a") stores the escaped percent sign; nothing is removed -/
example (b : Backend) :
    (withPath ⟨b, Oracles.empty⟩ (fromParts "http".toStr "h".toStr "/x".toStr [] []) "%2E%2E/a/../%2e".toStr
      false false false).path = "/%252E%252E/%252e".toStr := by
  str_lits
  cases b <;> decide +kernel

/-- build: hypotheses hold, stored path is the RFC result -/
example (b : Backend) :
    (build ⟨b, Oracles.empty⟩ { scheme := "http".toStr, host := "h".toStr, path := "/a/../../b/./c d/..".toStr }).map
      (fun u => (u.netloc, u.path)) = .ok ("h".toStr, "/b/".toStr) ∧
    Rfc.removeDotSegments (q ⟨b, Oracles.empty⟩ Gen.PATH_QUOTER "/a/../../b/./c d/..".toStr) = "/b/".toStr := by
  str_lits
  cases b <;> decide +kernel

/-- with_path: a rootless argument satisfying the hypotheses of `C15_with_path_rfc_generic` -/
example (b : Backend) :
    let e : Env := ⟨b, Oracles.empty⟩
    q e Gen.PATH_QUOTER "../a/./b c".toStr ≠ [] ∧ (q e Gen.PATH_QUOTER "../a/./b c".toStr).head? ≠ some 47 ∧
    Rfc.removeDotSegments (47 :: q e Gen.PATH_QUOTER "../a/./b c".toStr) = "/a/b%20c".toStr ∧
    (withPath e (fromParts "http".toStr "h".toStr "/x".toStr [] []) "../a/./b c".toStr false false false).path
      = "/a/b%20c".toStr := by
  str_lits
  cases b <;> decide +kernel

/-- with_path: the three shapes of `C15_with_path_rfc` on concrete arguments (empty; rooted with dots and
    a space; rootless whose RFC result starts with "//") -/
example (b : Backend) :
    let e : Env := ⟨b, Oracles.empty⟩
    let u := fromParts "http".toStr "h".toStr "/x".toStr [] []
    u.netloc ≠ [] ∧
    q e Gen.PATH_QUOTER [] = [] ∧ (withPath e u [] false false false).path = [] ∧
    rooted (q e Gen.PATH_QUOTER "/a/../b c/.".toStr) = "/a/../b%20c/.".toStr ∧
      (withPath e u "/a/../b c/.".toStr false false false).path = "/b%20c/".toStr ∧
      Rfc.removeDotSegments "/a/../b%20c/.".toStr = "/b%20c/".toStr ∧
    rooted (q e Gen.PATH_QUOTER "x/../..//y".toStr) = "/x/../..//y".toStr ∧
      (withPath e u "x/../..//y".toStr false false false).path = "//y".toStr ∧
      Rfc.removeDotSegments "/x/../..//y".toStr = "//y".toStr := by
  str_lits
  cases b <;> decide +kernel

/-- `/` + joinpath: hypotheses of `C15_make_child_rfc_noclimb` hold on an input with dots -/
example (b : Backend) :
    let e : Env := ⟨b, Oracles.empty⟩
    let u := fromParts "http".toStr "h".toStr "/x/y/".toStr [] []
    NoDotSegments u.path ∧
    climbs 0 (root u.netloc (base u ++ childSegs e ["../".toStr, "z/./w".toStr, "..".toStr])).tail = false ∧
    joinC 47 (root u.netloc (base u ++ childSegs e ["../".toStr, "z/./w".toStr, "..".toStr])) = "/x/y/../z/./w/..".toStr ∧
    (makeChild e u ["../".toStr, "z/./w".toStr, "..".toStr] false).map (·.path) = .ok "/x/z/".toStr ∧
    Rfc.removeDotSegments "/x/y/../z/./w/..".toStr = "/x/z/".toStr := by
  str_lits
  cases b <;> decide +kernel

/-- … and `climbs` is a real condition -/
example : climbs 0 ["x".toStr, "..".toStr, "..".toStr, [], "a".toStr] = true ∧
    climbs 0 ["x".toStr, "..".toStr, ".".toStr, "a".toStr, "..".toStr] = false := by str_lits; decide +kernel

/-- join: the hypotheses of `C15_join_rfc` hold for an ordinary relative reference -/
example (e : Env) :
    (join e (fromParts "http".toStr "h".toStr "/x/y".toStr [] []) (fromParts [] [] "../../../z/.".toStr [] [])).path
      = Rfc.removeDotSegments (JoinLemmas.target (fromParts "http".toStr "h".toStr "/x/y".toStr [] [])
          (fromParts [] [] "../../../z/.".toStr [] [])) := by
  refine (C15_join_rfc e _ _ ?_ ?_ ?_ ?_ ?_ ?_).2.2
  all_goals decide +kernel

/-- build and `/` without an authority keep every dot segment (both backends) -/
example (b : Backend) :
    (build ⟨b, Oracles.empty⟩ { path := "a/./../b/%2E/..".toStr }).map (fun u => (u.netloc, u.path))
      = .ok ([], "a/./../b/%252E/..".toStr) ∧
    (build ⟨b, Oracles.empty⟩ { scheme := "file".toStr, path := "/a/./../b".toStr }).map (fun u => (u.netloc, u.path))
      = .ok ([], "/a/./../b".toStr) := by
  str_lits
  cases b <;> decide +kernel

example (b : Backend) :
    (makeChild ⟨b, Oracles.empty⟩ (fromParts [] [] "a/../b/".toStr [] []) ["./..".toStr, "c/".toStr, "d/.".toStr] false).map
      (fun u => (u.netloc, u.path)) = .ok ([], "a/../b/./../c/d/.".toStr) := by
  str_lits
  cases b <;> decide +kernel

end Yarl
