/-
  C06Spec.lean — C06, first clause: a NON-incremental specification of percent-decoding and the
  theorem that the unquoters' state machine (`uqLoop`) computes it for every input.

  The specification has three layers, none of which threads decoder state:

  1. `tokenize`: the raw string as a list of tokens — a valid escape `%XY` (either hex case; value
     and the three characters as written) or a plain character (a `%` not followed by two hex
     digits is a plain character).
  2. `segments`: maximal runs of consecutive escape tokens are grouped.
  3. `decodeRun`: a run is cut, left to right, into pieces.  At a position let `n` be the number of
     leading escapes that stay an *incomplete* UTF-8 sequence (`firstDecided`: the least `n` such
     that the first `n + 1` bytes are not `.incomplete`).
       * no such `n` (the run ends inside a sequence): the rest of the run is copied verbatim;
       * the first `n + 1` bytes are a complete character `c`: `uqEmit c` (the character, or its
         re-quoted form when it must stay encoded), continue after them;
       * byte `n + 1` cannot continue the `n` pending ones: when `n = 0` that escape is copied
         verbatim and decoding continues after it, otherwise the `n` pending escapes are copied
         verbatim *as a whole* and decoding restarts AT escape `n + 1`.
     Plain characters go through `uqPlain` ('+' is a space for query unquoters, unsafe characters
     are re-escaped).
-/
import YarlProofs.Lemmas.DecLemmas
import YarlProofs.Lemmas.Utf8Round
import YarlProofs.Lemmas.StrLit
namespace Yarl

/-! ### the specification -/

/-- tokens of a raw string: a valid escape `%XY` (either hex case) with its byte value and its
    text as written, or a plain character -/
inductive Tok where
  | esc (b : Nat) (txt : Str)
  | chr (c : Nat)
  deriving Repr, DecidableEq

set_option linter.unusedVariables false in
/-- a `%` followed by two hex digits is an escape token; every other character (including a `%`
    that starts no escape) is a plain character -/
def tokenize : Str → List Tok
  | [] => []
  | c :: rest =>
    if c = 37 then
      match h : takeEscape restoreCh rest with
      | some (v, d1, d2, rest') => .esc v [37, d1, d2] :: tokenize rest'
      | none => .chr 37 :: tokenize rest
    else .chr c :: tokenize rest
termination_by l => l.length
decreasing_by
  all_goals simp_wf
  all_goals (try have := takeEscape_length h)
  all_goals omega

/-- a maximal run of consecutive escapes (byte value, text), or a plain character -/
inductive Seg where
  | run (es : List (Nat × Str))
  | chr (c : Nat)
  deriving Repr, DecidableEq

/-- put escapes in front of a segment list, merging with a run that starts it -/
def consRun (ps : List (Nat × Str)) : List Seg → List Seg
  | .run es :: segs => .run (ps ++ es) :: segs
  | segs => .run ps :: segs

/-- group maximal runs of escape tokens -/
def segments : List Tok → List Seg
  | [] => []
  | .chr c :: r => .chr c :: segments r
  | .esc b t :: r => consRun [(b, t)] (segments r)

/-- the bytes of a run -/
abbrev runBytes (es : List (Nat × Str)) : List Nat := es.map (·.1)
/-- the text of a run, as written -/
abbrev runText (es : List (Nat × Str)) : Str := (es.map (·.2)).flatten

/-- the least `n` such that the first `n + 1` bytes are NOT an incomplete UTF-8 sequence (so the
    first `n` bytes stay pending and byte `n + 1` decides); `none` when every non-empty prefix is
    incomplete -/
def firstDecided (bs : List Nat) : Option Nat :=
  (List.range bs.length).find? (fun n => decodeBuf (bs.take (n + 1)) != .incomplete)

/-- decoding of one maximal run of escapes -/
def decodeRun (b : Backend) (u : UTab) (es : List (Nat × Str)) : Str :=
  if es = [] then []
  else
    match firstDecided (runBytes es) with
    | none => runText es
    | some n =>
      match decodeBuf ((runBytes es).take (n + 1)) with
      | .char c => uqEmit b u c ++ decodeRun b u (es.drop (n + 1))
      | _ =>
        if n = 0 then runText (es.take 1) ++ decodeRun b u (es.drop 1)
        else runText (es.take n) ++ decodeRun b u (es.drop n)
termination_by es.length
decreasing_by
  all_goals simp_wf
  all_goals (have : 0 < es.length := List.length_pos_iff.mpr ‹_›)
  all_goals omega

def renderSeg (b : Backend) (u : UTab) : Seg → Str
  | .run es => decodeRun b u es
  | .chr c => uqPlain u c

/-- the specification of a decoded accessor -/
def DecodeSpec (b : Backend) (u : UTab) (s : Str) : Str :=
  (segments (tokenize s)).flatMap (renderSeg b u)


namespace SpecLemmas
open DecLemmas Readback

/-- the pending escapes: every non-empty prefix is an incomplete UTF-8 sequence -/
def Pending (ps : List (Nat × Str)) : Prop :=
  ∀ n, n < ps.length → decodeBuf ((runBytes ps).take (n + 1)) = .incomplete

theorem pending_nil : Pending [] := fun n h => by simp at h

theorem pending_snoc {ps : List (Nat × Str)} {e : Nat × Str} (hp : Pending ps)
    (h : decodeBuf (runBytes ps ++ [e.1]) = .incomplete) : Pending (ps ++ [e]) := by
  intro n hn
  simp only [List.length_append, List.length_singleton] at hn
  by_cases hlt : n < ps.length
  · have := hp n hlt
    simp only [runBytes, List.map_append, List.map_cons, List.map_nil] at this ⊢
    rw [List.take_append_of_le_length (by simp; omega)]
    exact this
  · have : n = ps.length := by omega
    subst this
    simp only [runBytes, List.map_append, List.map_cons, List.map_nil] at h ⊢
    rw [List.take_of_length_le (by simp)]
    exact h

theorem firstDecided_pending {ps : List (Nat × Str)} (hp : Pending ps) :
    firstDecided (runBytes ps) = none := by
  unfold firstDecided
  rw [List.find?_range_eq_none]
  intro i hi
  simp only [List.length_map] at hi
  simp [hp i hi]

theorem firstDecided_snoc {ps : List (Nat × Str)} (hp : Pending ps) (e : Nat × Str)
    (tl : List (Nat × Str)) (h : decodeBuf (runBytes ps ++ [e.1]) ≠ .incomplete) :
    firstDecided (runBytes (ps ++ e :: tl)) = some ps.length ∧
    (runBytes (ps ++ e :: tl)).take (ps.length + 1) = runBytes ps ++ [e.1] := by
  have htake : (runBytes (ps ++ e :: tl)).take (ps.length + 1) = runBytes ps ++ [e.1] := by
    simp only [runBytes, List.map_append, List.map_cons]
    rw [List.take_append]
    simp only [List.length_map, Nat.add_sub_cancel_left, List.take_succ_cons, List.take_zero]
    rw [List.take_of_length_le (by simp)]
  refine ⟨?_, htake⟩
  unfold firstDecided
  rw [List.find?_range_eq_some]
  refine ⟨?_, ?_, ?_⟩
  · rw [htake]; simpa using h
  · simp
  · intro j hj
    have := hp j hj
    have h2 : (runBytes (ps ++ e :: tl)).take (j + 1) = (runBytes ps).take (j + 1) := by
      simp only [runBytes, List.map_append]
      rw [List.take_append_of_le_length (by simp; omega)]
    rw [h2, this]
    rfl


/-! #### `decodeRun`, one piece -/

theorem decodeRun_nil (b : Backend) (u : UTab) : decodeRun b u [] = [] := by
  rw [decodeRun]; simp

theorem decodeRun_pending (b : Backend) (u : UTab) {ps : List (Nat × Str)} (hp : Pending ps) :
    decodeRun b u ps = runText ps := by
  rw [decodeRun]
  split
  · rename_i h; subst h; rfl
  · rw [firstDecided_pending hp]

theorem decodeRun_char (b : Backend) (u : UTab) {ps : List (Nat × Str)} (hp : Pending ps)
    (e : Nat × Str) (tl : List (Nat × Str)) (c : Nat)
    (h : decodeBuf (runBytes ps ++ [e.1]) = .char c) :
    decodeRun b u (ps ++ e :: tl) = uqEmit b u c ++ decodeRun b u tl := by
  obtain ⟨hf, ht⟩ := firstDecided_snoc hp e tl (by rw [h]; simp)
  rw [decodeRun, if_neg (by simp), hf]
  simp only
  rw [ht, h]
  simp only
  congr 2
  simp

theorem decodeRun_invalid_nil (b : Backend) (u : UTab) (e : Nat × Str) (tl : List (Nat × Str))
    (h : decodeBuf [e.1] = .invalid) :
    decodeRun b u (e :: tl) = e.2 ++ decodeRun b u tl := by
  obtain ⟨hf, ht⟩ := firstDecided_snoc pending_nil e tl (by simp [h])
  simp only [List.nil_append, List.length_nil, Nat.zero_add, List.map_nil] at hf ht
  rw [decodeRun, if_neg (by simp), hf]
  simp only
  rw [ht, h]
  simp [runText]

theorem decodeRun_invalid (b : Backend) (u : UTab) {ps : List (Nat × Str)} (hp : Pending ps)
    (hne : ps ≠ []) (e : Nat × Str) (tl : List (Nat × Str))
    (h : decodeBuf (runBytes ps ++ [e.1]) = .invalid) :
    decodeRun b u (ps ++ e :: tl) = runText ps ++ decodeRun b u (e :: tl) := by
  obtain ⟨hf, ht⟩ := firstDecided_snoc hp e tl (by rw [h]; simp)
  have hlen : ps.length ≠ 0 := by
    intro h0; exact hne (List.eq_nil_of_length_eq_zero h0)
  rw [decodeRun, if_neg (by simp), hf]
  simp only
  rw [ht, h]
  simp only [hlen, if_false]
  congr 2
  · simp
  · simp

/-! #### rendering a segment list with pending escapes in front -/

def render (b : Backend) (u : UTab) (segs : List Seg) : Str := segs.flatMap (renderSeg b u)

def headRun : List Seg → List (Nat × Str)
  | .run es :: _ => es
  | _ => []

def tailSegs : List Seg → List Seg
  | .run _ :: segs => segs
  | segs => segs

theorem consRun_eq (ps : List (Nat × Str)) (segs : List Seg) :
    consRun ps segs = .run (ps ++ headRun segs) :: tailSegs segs := by
  unfold consRun headRun tailSegs
  split <;> simp

theorem render_eq (b : Backend) (u : UTab) (segs : List Seg) :
    render b u segs = decodeRun b u (headRun segs) ++ render b u (tailSegs segs) := by
  unfold headRun tailSegs
  split
  · simp [render, renderSeg]
  · simp [decodeRun_nil]

theorem render_consRun (b : Backend) (u : UTab) (ps : List (Nat × Str)) (segs : List Seg) :
    render b u (consRun ps segs) =
      decodeRun b u (ps ++ headRun segs) ++ render b u (tailSegs segs) := by
  rw [consRun_eq]; simp [render, renderSeg]

theorem consRun_append (ps qs : List (Nat × Str)) (segs : List Seg) :
    consRun ps (consRun qs segs) = consRun (ps ++ qs) segs := by
  rw [consRun_eq qs, consRun_eq (ps ++ qs)]
  simp [consRun]

theorem render_consRun_nil (b : Backend) (u : UTab) (segs : List Seg) :
    render b u (consRun [] segs) = render b u segs := by
  rw [render_consRun, List.nil_append, ← render_eq]

theorem render_char (b : Backend) (u : UTab) {ps : List (Nat × Str)} (hp : Pending ps)
    (e : Nat × Str) (c : Nat) (h : decodeBuf (runBytes ps ++ [e.1]) = .char c) (segs : List Seg) :
    render b u (consRun (ps ++ [e]) segs) = uqEmit b u c ++ render b u segs := by
  rw [render_consRun, List.append_assoc, List.singleton_append, decodeRun_char b u hp e _ c h,
    List.append_assoc, ← render_eq]

theorem render_invalid_nil (b : Backend) (u : UTab) (e : Nat × Str)
    (h : decodeBuf [e.1] = .invalid) (segs : List Seg) :
    render b u (consRun [e] segs) = e.2 ++ render b u segs := by
  rw [render_consRun, List.singleton_append, decodeRun_invalid_nil b u e _ h,
    List.append_assoc, ← render_eq]

theorem render_invalid (b : Backend) (u : UTab) {ps : List (Nat × Str)} (hp : Pending ps)
    (hne : ps ≠ []) (e : Nat × Str) (h : decodeBuf (runBytes ps ++ [e.1]) = .invalid)
    (segs : List Seg) :
    render b u (consRun (ps ++ [e]) segs) = runText ps ++ render b u (consRun [e] segs) := by
  rw [render_consRun, List.append_assoc, List.singleton_append, decodeRun_invalid b u hp hne e _ h,
    render_consRun, List.singleton_append, List.append_assoc]

/-! #### `tokenize`, one step -/

theorem tokenize_plain (c : Nat) (rest : Str) (hc : c ≠ 37) :
    tokenize (c :: rest) = .chr c :: tokenize rest := by
  rw [tokenize]; simp [hc]

theorem tokenize_noesc (rest : Str) (h : takeEscape restoreCh rest = none) :
    tokenize (37 :: rest) = .chr 37 :: tokenize rest := by
  rw [tokenize]
  simp only [if_true]
  split
  · rename_i h'; rw [h] at h'; cases h'
  · rfl

theorem tokenize_esc (rest rest' : Str) (v d1 d2 : Nat)
    (h : takeEscape restoreCh rest = some (v, d1, d2, rest')) :
    tokenize (37 :: rest) = .esc v [37, d1, d2] :: tokenize rest' := by
  rw [tokenize]
  simp only [if_true]
  split
  · rename_i h'; rw [h] at h'; cases h'; rfl
  · rename_i h'; rw [h] at h'; cases h'


theorem render_plain (b : Backend) (u : UTab) {ps : List (Nat × Str)} (hp : Pending ps) (c : Nat)
    (toks : List Tok) :
    render b u (consRun ps (segments (.chr c :: toks))) =
      runText ps ++ uqPlain u c ++ render b u (segments toks) := by
  show render b u (.run ps :: .chr c :: segments toks) = _
  simp [render, renderSeg, decodeRun_pending b u hp]

/-- the machine with pending escapes `ps` computes the specification of
    "`ps` in front of the segments of the remaining input" -/
theorem uqLoop_spec_aux (b : Backend) (u : UTab) :
    ∀ n (s : Str), s.length ≤ n → ∀ ps : List (Nat × Str), Pending ps →
      uqLoop b u (runBytes ps) (runText ps) s = render b u (consRun ps (segments (tokenize s))) := by
  -- at the end of the input the pending escapes are written out as they are
  have atEnd : ∀ ps : List (Nat × Str), Pending ps →
      uqLoop b u (runBytes ps) (runText ps) [] = render b u (consRun ps (segments (tokenize []))) := by
    intro ps hp
    rw [uqLoop_nil, tokenize]
    show _ = render b u [.run ps]
    simp [render, renderSeg, decodeRun_pending b u hp]
  intro n
  induction n with
  | zero =>
    intro s hl
    rw [List.eq_nil_of_length_eq_zero (Nat.le_zero.mp hl)]
    exact atEnd
  | succ n ih =>
    intro s hl ps hp
    have ih0 : ∀ r : Str, r.length ≤ n → uqLoop b u [] [] r = render b u (segments (tokenize r)) := by
      intro r hr
      have := ih r hr [] pending_nil
      rw [render_consRun_nil] at this
      exact this
    match s, hl with
    | [], _ => exact atEnd ps hp
    | c :: rest, hl =>
      have hr : rest.length ≤ n := by simp only [List.length_cons] at hl; omega
      by_cases hc : c = 37
      · subst hc
        cases hte : takeEscape restoreCh rest with
        | none =>
          rw [uqLoop_lit b u _ _ (Or.inr hte), tokenize_noesc rest hte, render_plain b u hp, ih0 rest hr]
        | some q =>
          obtain ⟨v, d1, d2, rest'⟩ := q
          have hl' := takeEscape_length hte
          have hr' : rest'.length ≤ n := by omega
          rw [tokenize_esc rest rest' v d1 d2 hte]
          show _ = render b u (consRun ps (consRun [(v, [37, d1, d2])] (segments (tokenize rest'))))
          rw [consRun_append]
          generalize hS : segments (tokenize rest') = S'
          have ihS : ∀ qs : List (Nat × Str), Pending qs →
              uqLoop b u (runBytes qs) (runText qs) rest' = render b u (consRun qs S') := by
            intro qs hq; rw [← hS]; exact ih rest' hr' qs hq
          have ihS0 : uqLoop b u [] [] rest' = render b u S' := by
            rw [← hS]; exact ih0 rest' hr'
          have hbytes : runBytes (ps ++ [(v, [37, d1, d2])]) = runBytes ps ++ [v] := by simp
          have htext : runText (ps ++ [(v, [37, d1, d2])]) = runText ps ++ [37, d1, d2] := by
            simp [runText]
          -- the machine restarted at this escape
          have H0 : uqLoop b u [] [] (37 :: rest) = render b u (consRun [(v, [37, d1, d2])] S') := by
            cases hv : decodeBuf [v] with
            | incomplete =>
              rw [uqLoop_pending b u [] [] hte (by simpa using hv)]
              have := ihS [(v, [37, d1, d2])]
                (pending_snoc (ps := []) pending_nil (by simpa using hv))
              simpa [runText] using this
            | char ch =>
              rw [uqLoop_char b u [] [] hte (by simpa using hv), ihS0]
              exact (render_char b u pending_nil (v, [37, d1, d2]) ch (by simpa using hv) S').symm
            | invalid =>
              rw [uqLoop_reject b u [] hte hv, List.nil_append, ihS0]
              exact (render_invalid_nil b u (v, [37, d1, d2]) hv S').symm
          cases hd : decodeBuf (runBytes ps ++ [v]) with
          | incomplete =>
            rw [uqLoop_pending b u _ _ hte hd, ← hbytes, ← htext]
            exact ihS _ (pending_snoc hp hd)
          | char ch =>
            rw [uqLoop_char b u _ _ hte hd, ihS0]
            exact (render_char b u hp (v, [37, d1, d2]) ch hd S').symm
          | invalid =>
            rw [uqLoop_restart b u _ _ hte hd, H0]
            by_cases hne : ps = []
            · subst hne; rfl
            · exact (render_invalid b u hp hne (v, [37, d1, d2]) hd S').symm
      · rw [uqLoop_lit b u _ _ (Or.inl hc), tokenize_plain c rest hc, render_plain b u hp, ih0 rest hr]

end SpecLemmas

open SpecLemmas DecLemmas

/-! ### the state machine computes the specification -/

/-- for every backend, every unquoter table and EVERY input, the incremental
    machine computes the non-incremental specification -/
theorem C06_unquote_spec (b : Backend) (u : UTab) (s : Str) :
    uqLoop b u [] [] s = DecodeSpec b u s := by
  have := uqLoop_spec_aux b u s.length s (Nat.le_refl _) [] pending_nil
  rw [render_consRun_nil] at this
  exact this

theorem C06_unquotePy_spec (u : UTab) (s : Str) : unquotePy u s = DecodeSpec .py u s :=
  C06_unquote_spec .py u s

/-- no well-formedness hypothesis is needed: when the C `changed` flag stays unset the input is a
    fixed point of the loop (`Readback.uqLoop_of_not_changed`) -/
theorem C06_unquoteC_spec (u : UTab) (s : Str) : unquoteC u s = DecodeSpec .c u s := by
  have := Readback.unquote_eq_uqLoop .c u s
  rw [C06_unquote_spec] at this
  exact this

theorem C06_unquote_backend_spec (b : Backend) (u : UTab) (s : Str) :
    unquote b u s = DecodeSpec b u s := by
  rw [Readback.unquote_eq_uqLoop, C06_unquote_spec]

theorem C06_run_spec (a : UArgs) (b : Backend) (s : Str) : a.run b s = DecodeSpec b (a.tab b) s :=
  C06_unquote_backend_spec b (a.tab b) s

/-- every decoded accessor is `DecodeSpec` of the corresponding raw component -/
theorem C06_accessor_spec (e : Env) (u : Url) :
    fragmentDecoded e u =
      (if u.fragment.isEmpty then [] else DecodeSpec e.b (Gen.UNQUOTER.tab e.b) u.fragment) ∧
    queryString e u =
      (if u.query.isEmpty then [] else DecodeSpec e.b (Gen.QS_UNQUOTER.tab e.b) u.query) ∧
    pathDecoded e u = (if u.path.isEmpty then (if u.netloc.isEmpty then [] else [47])
                       else DecodeSpec e.b (Gen.PATH_UNQUOTER.tab e.b) u.path) ∧
    pathSafe e u = (if u.path.isEmpty then (if u.netloc.isEmpty then [] else [47])
                    else DecodeSpec e.b (Gen.PATH_SAFE_UNQUOTER.tab e.b) u.path) ∧
    partsDecoded e u = (rawParts u).map (DecodeSpec e.b (Gen.UNQUOTER.tab e.b)) ∧
    name e u = (rawName u).map (DecodeSpec e.b (Gen.UNQUOTER.tab e.b)) ∧
    user e u = (rawUser e u).map (Option.map (DecodeSpec e.b (Gen.UNQUOTER.tab e.b))) ∧
    password e u = (rawPassword e u).map (Option.map (DecodeSpec e.b (Gen.UNQUOTER.tab e.b))) := by
  have hrun : ∀ a : UArgs, a.run e.b = DecodeSpec e.b (a.tab e.b) :=
    fun a => funext (C06_run_spec a e.b)
  have hq : ∀ a : UArgs, uq e a = DecodeSpec e.b (a.tab e.b) := hrun
  refine ⟨?_, ?_, ?_, ?_, ?_, ?_, ?_, ?_⟩
  · unfold fragmentDecoded; rw [hq]; cases u.fragment.isEmpty <;> rfl
  · unfold queryString; rw [hq]; cases u.query.isEmpty <;> rfl
  · unfold pathDecoded; rw [hq]; cases u.path.isEmpty <;> cases u.netloc.isEmpty <;> rfl
  · unfold pathSafe; rw [hq]; cases u.path.isEmpty <;> cases u.netloc.isEmpty <;> rfl
  · unfold partsDecoded; rw [hq]
  · unfold name; rw [hq]; cases rawName u <;> rfl
  · unfold user; rw [hq]; cases rawUser e u <;> rfl
  · unfold password; rw [hq]; cases rawPassword e u <;> rfl

/-! ### reading the specification -/

/-- a string starts with an escape: `%` and two hex digits -/
def StartsEscape (r : Str) : Prop :=
  ∃ d1 d2 r' v, r = 37 :: d1 :: d2 :: r' ∧ restoreCh d1 d2 = some v

/-- a well-formed escape: its text is `%XY` as written and its byte the value of `XY` -/
def EscOK (e : Nat × Str) : Prop := ∃ d1 d2, e.2 = [37, d1, d2] ∧ restoreCh d1 d2 = some e.1

namespace SpecLemmas

theorem takeEscape_ok {d1 d2 v : Nat} (r : Str) (h : restoreCh d1 d2 = some v) :
    takeEscape restoreCh (d1 :: d2 :: r) = some (v, d1, d2, r) := by
  simp [takeEscape, h]

theorem headRun_noesc {r : Str} (h : ¬ StartsEscape r) : headRun (segments (tokenize r)) = [] ∧
    tailSegs (segments (tokenize r)) = segments (tokenize r) := by
  match r with
  | [] => rw [tokenize]; exact ⟨rfl, rfl⟩
  | c :: rest =>
    by_cases hc : c = 37
    · subst hc
      cases hte : takeEscape restoreCh rest with
      | none => rw [tokenize_noesc rest hte]; exact ⟨rfl, rfl⟩
      | some q =>
        obtain ⟨v, d1, d2, rest'⟩ := q
        obtain ⟨h1, h2⟩ := takeEscape_eq hte
        exact absurd ⟨d1, d2, rest', v, by rw [h1], h2⟩ h
    · rw [tokenize_plain c rest hc]; exact ⟨rfl, rfl⟩

theorem segments_run (r : Str) (tl : List (Nat × Str)) : ∀ e : Nat × Str,
    (∀ x ∈ e :: tl, EscOK x) →
    segments (tokenize (runText (e :: tl) ++ r)) = consRun (e :: tl) (segments (tokenize r)) := by
  induction tl with
  | nil =>
    intro e hes
    obtain ⟨d1, d2, ht, hv⟩ := hes e (by simp)
    have : runText [e] ++ r = 37 :: d1 :: d2 :: r := by simp [runText, ht]
    rw [this, tokenize_esc _ _ e.1 d1 d2 (takeEscape_ok _ hv), ← ht]
    rfl
  | cons e' tl' ih =>
    intro e hes
    obtain ⟨d1, d2, ht, hv⟩ := hes e (by simp)
    have : runText (e :: e' :: tl') ++ r = 37 :: d1 :: d2 :: (runText (e' :: tl') ++ r) := by
      simp [runText, ht]
    rw [this, tokenize_esc _ _ e.1 d1 d2 (takeEscape_ok _ hv), ← ht]
    show consRun [e] _ = _
    rw [ih e' (fun x hx => hes x (List.mem_cons_of_mem _ hx)), consRun_append]
    rfl

end SpecLemmas

theorem C06_spec_nil (b : Backend) (u : UTab) : DecodeSpec b u [] = [] := by
  unfold DecodeSpec; rw [tokenize]; rfl

/-- a plain character (anything but a `%` that starts an escape) is rendered by `uqPlain`,
    independently of its context -/
theorem C06_spec_plain (b : Backend) (u : UTab) (c : Nat) (r : Str)
    (h : c ≠ 37 ∨ ¬ StartsEscape (c :: r)) :
    DecodeSpec b u (c :: r) = uqPlain u c ++ DecodeSpec b u r := by
  have key : tokenize (c :: r) = .chr c :: tokenize r := by
    by_cases hc : c = 37
    · subst hc
      cases hte : takeEscape restoreCh r with
      | none => exact tokenize_noesc r hte
      | some q =>
        obtain ⟨v, d1, d2, rest'⟩ := q
        obtain ⟨h1, h2⟩ := takeEscape_eq hte
        rcases h with h | h
        · exact absurd rfl h
        · exact absurd ⟨d1, d2, rest', v, by rw [h1], h2⟩ h
    · exact tokenize_plain c r hc
  unfold DecodeSpec
  rw [key]
  rfl

/-- a maximal run of escapes (what follows does not start with an escape) is rendered by
    `decodeRun`, independently of its context.  Together with `C06_spec_nil` and `C06_spec_plain`
    this characterises `DecodeSpec` completely. -/
theorem C06_spec_run (b : Backend) (u : UTab) (es : List (Nat × Str)) (hes : ∀ e ∈ es, EscOK e)
    (r : Str) (hr : ¬ StartsEscape r) :
    DecodeSpec b u (runText es ++ r) = decodeRun b u es ++ DecodeSpec b u r := by
  obtain ⟨h1, h2⟩ := headRun_noesc hr
  match es, hes with
  | [], _ => rw [decodeRun_nil]; rfl
  | e :: tl, hes =>
    show render b u (segments (tokenize (runText (e :: tl) ++ r))) = _ ++ render b u _
    rw [segments_run r tl e hes, render_consRun, h1, h2, List.append_nil]

/-- inside a run: escapes whose bytes are the UTF-8 encoding of a (non-surrogate) character `c`
    decode to `uqEmit b u c` — `c` itself unless it has to stay encoded -/
theorem C06_spec_valid_utf8 (b : Backend) (u : UTab) (c : Nat) (hc : c ≤ 0x10FFFF)
    (hs : isSurrogate c = false) (es : List (Nat × Str)) (hes : runBytes es = utf8 c)
    (tl : List (Nat × Str)) :
    decodeRun b u (es ++ tl) = uqEmit b u c ++ decodeRun b u tl := by
  have hpos := utf8_length_pos c hc hs
  rcases List.eq_nil_or_concat es with rfl | ⟨ps, e, rfl⟩
  · rw [← hes] at hpos; simp at hpos
  · rw [List.concat_eq_append] at hes ⊢
    have hb : runBytes ps ++ [e.1] = utf8 c := by rw [← hes]; simp
    have hlen : ps.length + 1 = (utf8 c).length := by rw [← hb]; simp
    have hp : Pending ps := by
      intro n hn
      have : (runBytes ps).take (n + 1) = (utf8 c).take (n + 1) := by
        rw [← hb, List.take_append_of_le_length (by simp; omega)]
      rw [this]
      exact decodeBuf_utf8_prefix c hc hs (n + 1) (by omega) (by omega)
    rw [List.append_assoc, List.singleton_append]
    exact decodeRun_char b u hp e tl c (by rw [hb]; exact decodeBuf_utf8 c hc hs)

theorem C06_spec_valid_utf8_run (b : Backend) (u : UTab) (c : Nat) (hc : c ≤ 0x10FFFF)
    (hs : isSurrogate c = false) (es : List (Nat × Str)) (hes : runBytes es = utf8 c) :
    decodeRun b u es = uqEmit b u c := by
  have := C06_spec_valid_utf8 b u c hc hs es hes []
  rw [List.append_nil, decodeRun_nil, List.append_nil] at this
  exact this

/-- the upper-case escapes of the UTF-8 encoding of `c` at the start of any input -/
theorem C06_spec_writeUtf8 (b : Backend) (u : UTab) (c : Nat) (hc : c ≤ 0x10FFFF)
    (hs : isSurrogate c = false) (r : Str) :
    DecodeSpec b u (writeUtf8 c ++ r) = uqEmit b u c ++ DecodeSpec b u r := by
  rw [← C06_unquote_spec, ← C06_unquote_spec]
  exact Readback.uqLoop_writeUtf8 b u c hc hs r

/-- undecodable escapes are kept verbatim: an escape whose byte can start no sequence … -/
theorem C06_spec_invalid_verbatim (b : Backend) (u : UTab) (e : Nat × Str)
    (tl : List (Nat × Str)) (h : decodeBuf [e.1] = .invalid) :
    decodeRun b u (e :: tl) = e.2 ++ decodeRun b u tl :=
  decodeRun_invalid_nil b u e tl h

theorem C06_spec_invalid_verbatim_run (b : Backend) (u : UTab) (e : Nat × Str)
    (h : decodeBuf [e.1] = .invalid) : decodeRun b u [e] = e.2 := by
  rw [decodeRun_invalid_nil b u e [] h, decodeRun_nil, List.append_nil]

/-- … a run that is a proper prefix of a UTF-8 sequence … -/
theorem C06_spec_truncated_verbatim (b : Backend) (u : UTab) (c : Nat) (hc : c ≤ 0x10FFFF)
    (hs : isSurrogate c = false) (k : Nat) (hk : k < (utf8 c).length) (es : List (Nat × Str))
    (hes : runBytes es = (utf8 c).take k) : decodeRun b u es = runText es := by
  apply decodeRun_pending
  intro n hn
  have hl : es.length = k := by
    have := congrArg List.length hes
    simp only [List.length_map, List.length_take] at this
    omega
  rw [hes, List.take_take, Nat.min_eq_left (by omega)]
  exact decodeBuf_utf8_prefix c hc hs (n + 1) (by omega) (by omega)

/-- … and pending escapes that the next escape cannot continue are abandoned as a whole, decoding
    restarting AT that escape -/
theorem C06_spec_abandon (b : Backend) (u : UTab) (ps : List (Nat × Str)) (hne : ps ≠ [])
    (hp : ∀ n, n < ps.length → decodeBuf ((runBytes ps).take (n + 1)) = .incomplete)
    (e : Nat × Str) (tl : List (Nat × Str)) (h : decodeBuf (runBytes ps ++ [e.1]) = .invalid) :
    decodeRun b u (ps ++ e :: tl) = runText ps ++ decodeRun b u (e :: tl) :=
  decodeRun_invalid b u hp hne e tl h

/-- '+' means space only in queries -/
theorem C06_spec_plus (u : UTab) :
    (uqPlain u 43 = [32] ↔ (u.qs = true ∧ mem 43 u.unsafeS = false)) ∧
    (uqPlain u 43 = [43] ↔ ¬ (u.qs = true ∧ mem 43 u.unsafeS = false)) := by
  unfold uqPlain
  cases u.qs <;> cases mem 43 u.unsafeS <;> simp

theorem C06_spec_plus_gen (b : Backend) :
    uqPlain (Gen.QS_UNQUOTER.tab b) 43 = [32] ∧ uqPlain (Gen.UNQUOTER.tab b) 43 = [43] ∧
    uqPlain (Gen.PATH_UNQUOTER.tab b) 43 = [43] ∧ uqPlain (Gen.PATH_SAFE_UNQUOTER.tab b) 43 = [43] := by
  cases b <;> decide +kernel

theorem C06_spec_plus_accessors (b : Backend) (r : Str) :
    DecodeSpec b (Gen.QS_UNQUOTER.tab b) (43 :: r) = 32 :: DecodeSpec b (Gen.QS_UNQUOTER.tab b) r ∧
    DecodeSpec b (Gen.UNQUOTER.tab b) (43 :: r) = 43 :: DecodeSpec b (Gen.UNQUOTER.tab b) r ∧
    DecodeSpec b (Gen.PATH_UNQUOTER.tab b) (43 :: r) = 43 :: DecodeSpec b (Gen.PATH_UNQUOTER.tab b) r ∧
    DecodeSpec b (Gen.PATH_SAFE_UNQUOTER.tab b) (43 :: r) =
      43 :: DecodeSpec b (Gen.PATH_SAFE_UNQUOTER.tab b) r := by
  obtain ⟨h1, h2, h3, h4⟩ := C06_spec_plus_gen b
  refine ⟨?_, ?_, ?_, ?_⟩ <;> rw [C06_spec_plain b _ 43 r (Or.inl (by decide +kernel))]
  · rw [h1]; rfl
  · rw [h2]; rfl
  · rw [h3]; rfl
  · rw [h4]; rfl

/-- `path_safe` keeps `%2F` and `%25` (whatever the hex case as written: the output is upper case) -/
theorem C06_spec_path_safe_keeps (b : Backend) (v : Nat) (hv : v = 0x2F ∨ v = 0x25) (txt : Str)
    (tl : List (Nat × Str)) :
    decodeRun b (Gen.PATH_SAFE_UNQUOTER.tab b) ((v, txt) :: tl) =
      pct v ++ decodeRun b (Gen.PATH_SAFE_UNQUOTER.tab b) tl := by
  have := decodeRun_char b (Gen.PATH_SAFE_UNQUOTER.tab b) pending_nil (v, txt) tl v (dec_1 v (by omega))
  rw [List.nil_append] at this
  rw [this, uqEmit_PATH_SAFE_UNQUOTER, if_pos hv]

theorem C06_spec_path_safe_keeps_run (b : Backend) :
    decodeRun b (Gen.PATH_SAFE_UNQUOTER.tab b) [(0x2F, "%2F".toStr)] = "%2F".toStr ∧
    decodeRun b (Gen.PATH_SAFE_UNQUOTER.tab b) [(0x2F, "%2f".toStr)] = "%2F".toStr ∧
    decodeRun b (Gen.PATH_SAFE_UNQUOTER.tab b) [(0x25, "%25".toStr)] = "%25".toStr := by
  refine ⟨?_, ?_, ?_⟩ <;>
    rw [C06_spec_path_safe_keeps b _ (by decide +kernel), decodeRun_nil] <;> rfl

/-! ### examples and non-vacuity -/

/-- tokens and maximal runs: `%zz` is three plain characters, the written case of the digits is kept -/
example : segments (tokenize "a%C3%a9%zz+%e2".toStr) =
    [.chr 97, .run [(0xC3, "%C3".toStr), (0xA9, "%a9".toStr)], .chr 37, .chr 122, .chr 122, .chr 43,
     .run [(0xE2, "%e2".toStr)]] := by str_lits; decide +kernel

/-- where the decoder decides: after 0 / 1 / 2 pending bytes, or never -/
example : firstDecided [0x41] = some 0 ∧ firstDecided [0xFF, 0xFF] = some 0 ∧
    firstDecided [0xC3, 0xA9] = some 1 ∧ firstDecided [0xE2, 0xC3, 0xA9] = some 1 ∧
    firstDecided [0xE2, 0x82, 0x41] = some 2 ∧ firstDecided [0xED, 0xA0, 0x80] = some 2 ∧
    firstDecided [0xF0, 0x9F, 0x98, 0x80] = some 3 ∧
    firstDecided [0xC3] = none ∧ firstDecided [0xF0, 0x9F, 0x98] = none := by decide +kernel

/-- `%C3%A9` → é; mixed hex case; `%E2%82%41` → `%E2%82` verbatim then 'A'; `%E2%C3%A9` → `%E2`
    verbatim then é; a surrogate's encoding, `%FF%FF` and a trailing `%C3` verbatim (as written) -/
example : ∀ b : Backend,
    DecodeSpec b (Gen.UNQUOTER.tab b) "%C3%A9".toStr = [233] ∧
    DecodeSpec b (Gen.UNQUOTER.tab b) "%c3%A9".toStr = [233] ∧
    DecodeSpec b (Gen.UNQUOTER.tab b) "%E2%82%41".toStr = "%E2%82A".toStr ∧
    DecodeSpec b (Gen.UNQUOTER.tab b) "%E2%C3%A9".toStr = "%E2".toStr ++ [233] ∧
    DecodeSpec b (Gen.UNQUOTER.tab b) "%ED%A0%80".toStr = "%ED%A0%80".toStr ∧
    DecodeSpec b (Gen.UNQUOTER.tab b) "%ed%a0%80x".toStr = "%ed%a0%80x".toStr ∧
    DecodeSpec b (Gen.UNQUOTER.tab b) "%FF%FF".toStr = "%FF%FF".toStr ∧
    DecodeSpec b (Gen.UNQUOTER.tab b) "a%C3".toStr = "a%C3".toStr ∧
    DecodeSpec b (Gen.UNQUOTER.tab b) "%f0%9F%98%80%F0%9f%98".toStr = 0x1F600 :: "%F0%9f%98".toStr ∧
    DecodeSpec b (Gen.UNQUOTER.tab b) "%zz%4%".toStr = "%zz%4%".toStr := by
  str_lits; intro b; cases b <;> decide +kernel

/-- re-quoting of decoded characters that must stay encoded (`uqEmit`), and '+' -/
example : ∀ b : Backend,
    DecodeSpec b (Gen.QS_UNQUOTER.tab b) "a+b%2B%26%3d%3B%20".toStr = "a b%2B%26%3D%3B ".toStr ∧
    DecodeSpec b (Gen.UNQUOTER.tab b) "a+b%2B%26".toStr = "a+b+&".toStr ∧
    DecodeSpec b (Gen.PATH_SAFE_UNQUOTER.tab b) "/a%2Fb%2fc%25%41+%2B".toStr = "/a%2Fb%2Fc%25A++".toStr ∧
    DecodeSpec b (Gen.PATH_UNQUOTER.tab b) "/a%2Fb%2fc%25%41+%2B".toStr = "/a/b/c%A++".toStr := by
  str_lits; intro b; cases b <;> decide +kernel

/-- the main theorem on the same inputs (both sides computed) -/
example : ∀ b : Backend,
    uqLoop b (Gen.UNQUOTER.tab b) [] [] "%E2%C3%A9%E2%82%41%FF".toStr = "%E2".toStr ++ [233] ++ "%E2%82A%FF".toStr ∧
    Gen.PATH_SAFE_UNQUOTER.run b "%2f%E2%82".toStr = "%2F%E2%82".toStr := by
  str_lits; intro b; cases b <;> decide +kernel

/-- hypotheses of the reading lemmas are satisfiable -/
example : EscOK (0xC3, "%c3".toStr) ∧ EscOK (0x2F, "%2f".toStr) ∧ EscOK (0x2F, "%2F".toStr) :=
  ⟨⟨_, _, rfl, by decide +kernel⟩, ⟨_, _, rfl, by decide +kernel⟩, ⟨_, _, rfl, by decide +kernel⟩⟩
example : ¬ StartsEscape [37, 122, 122] ∧ ¬ StartsEscape [37, 52] ∧ ¬ StartsEscape [] ∧
    StartsEscape [37, 97, 70] := by
  refine ⟨?_, ?_, ?_, ⟨97, 70, [], 0xAF, rfl, by decide +kernel⟩⟩
  · rintro ⟨d1, d2, r, v, h, hv⟩
    injection h with _ h; injection h with h1 h; injection h with h2 _
    subst h1; subst h2
    have : restoreCh 122 122 = none := by decide +kernel
    rw [this] at hv; cases hv
  · rintro ⟨d1, d2, r, v, h, hv⟩
    injection h with _ h; injection h with h1 h; cases h
  · rintro ⟨d1, d2, r, v, h, hv⟩; cases h
example : runBytes [(0xE2, "%E2".toStr), (0x82, "%82".toStr), (0xAC, "%ac".toStr)] = utf8 0x20AC ∧
    runBytes [(0xE2, "%E2".toStr), (0x82, "%82".toStr)] = (utf8 0x20AC).take 2 ∧
    isSurrogate 0x20AC = false := by decide +kernel
example : SpecLemmas.Pending [(0xE2, "%E2".toStr), (0x82, "%82".toStr)] ∧
    decodeBuf (runBytes [(0xE2, "%E2".toStr), (0x82, "%82".toStr)] ++ [0x41]) = .invalid := by
  refine ⟨?_, by decide +kernel⟩
  intro n hn
  have : n = 0 ∨ n = 1 := by simp at hn; omega
  rcases this with rfl | rfl <;> decide +kernel

end Yarl
