import YarlProofs.C18More3
/-!
# C18More3b — the '%' escape at URL level, BOTH directions (path, query keys / values, fragment)

Continuation of C18More3.lean (GAPS 6 (i) of C18Headline.lean).  `C18_percent_literal_url_iff`: for a URL that stores
the encodings of decoded components and a position among "path", "k", "v", "fragment", the text shown with a set `lit`
of characters left literal (none of them TAB / LF / CR or unsafe in the position) is read back by `URL(…)` to an EQUAL
URL **if and only if** no '%' that was left literal stands in front of two hex digits in the decoded text.
Helper lemma: dot-segment removal never lengthens a path (`R12.normalizePath_length_le`); the whole query string is
`R12.query_lit_iff` (C18More3.lean).
-/
set_option linter.unusedVariables false
set_option linter.unusedSimpArgs false
namespace Yarl
open HumanLemmas HumanFull HumanMore HumanRelax QueryUrl QsLemmas NetlocLemmas PathAlg PathLemmas PathMore HumanReach
open OutLangLemmas R5

namespace R12

/-! ## dot-segment removal never lengthens a path -/

/-- total length of the segments, one more for each -/
def wsum (L : List Str) : Nat := (L.map (fun s => s.length + 1)).sum

theorem wsum_nil : wsum [] = 0 := rfl
theorem wsum_cons (s : Str) (L : List Str) : wsum (s :: L) = s.length + 1 + wsum L := by simp [wsum]
theorem wsum_append (A B : List Str) : wsum (A ++ B) = wsum A + wsum B := by simp [wsum]
theorem wsum_reverse (A : List Str) : wsum A.reverse = wsum A := by
  induction A with
  | nil => rfl
  | cons a A ih => rw [List.reverse_cons, wsum_append, ih, wsum_cons, wsum_cons, wsum_nil]; omega
theorem wsum_tail (A : List Str) : wsum A.tail ≤ wsum A := by
  cases A with
  | nil => exact Nat.le_refl _
  | cons a A => rw [List.tail_cons, wsum_cons]; omega

theorem flatC_length (c : Nat) (L : List Str) : (HostLemmas.flatC c L).length = wsum L := by
  induction L with
  | nil => rfl
  | cons s L ih => rw [HostLemmas.flatC_cons, wsum_cons, List.length_cons, List.length_append, ih]; omega

theorem joinC_length (c : Nat) (L : List Str) (h : L ≠ []) : (joinC c L).length + 1 = wsum L := by
  obtain ⟨s, r, rfl⟩ := List.exists_cons_of_ne_nil h
  rw [PathLemmas.joinC_cons, List.length_append, flatC_length, wsum_cons]; omega

theorem joinC_length_le (c : Nat) (L : List Str) : (joinC c L).length ≤ wsum L - 1 := by
  cases L with
  | nil => simp [joinC, joinSep, wsum]
  | cons s r => have := joinC_length c (s :: r) (by simp); omega

theorem normLoop_wsum : ∀ (L acc : List Str), wsum (normLoop acc L) ≤ wsum acc + wsum L := by
  intro L
  induction L with
  | nil => intro acc; simp only [normLoop, wsum_reverse, wsum_nil]; omega
  | cons seg rest ih =>
    intro acc
    simp only [normLoop]
    rw [wsum_cons]
    split
    · have := ih acc.tail; have := wsum_tail acc; omega
    · split
      · have := ih acc; omega
      · have := ih (seg :: acc); rw [wsum_cons] at this; omega

theorem normLoop_wsum_last : ∀ (L acc : List Str) (l : Str), L.getLast? = some l → (l = dot ∨ l = dotdot) →
    wsum (normLoop acc L) + 2 ≤ wsum acc + wsum L := by
  intro L
  induction L with
  | nil => intro acc l h; cases h
  | cons seg rest ih =>
    intro acc l hl hd
    cases rest with
    | nil =>
      simp only [List.getLast?_singleton, Option.some.injEq] at hl
      subst hl
      rcases hd with rfl | rfl
      · simp [normLoop, dot, dotdot, wsum_reverse, wsum_cons, wsum_nil]
      · have := wsum_tail acc
        simp [normLoop, dotdot, wsum_reverse, wsum_cons, wsum_nil]; omega
    | cons r2 rest' =>
      have hl' : (r2 :: rest').getLast? = some l := by rwa [List.getLast?_cons_cons] at hl
      have e : normLoop acc (seg :: r2 :: rest') = if seg = dotdot then normLoop acc.tail (r2 :: rest')
          else if seg = dot then normLoop acc (r2 :: rest') else normLoop (seg :: acc) (r2 :: rest') := rfl
      rw [e, wsum_cons seg]
      split
      · have := ih acc.tail l hl' hd; have := wsum_tail acc; omega
      · split
        · have := ih acc l hl' hd; omega
        · have := ih (seg :: acc) l hl' hd; rw [wsum_cons] at this; omega

theorem nps_wsum (L : List Str) : wsum (normalizePathSegments L) ≤ wsum L := by
  unfold normalizePathSegments
  cases hl : L.getLast? with
  | none => simpa [wsum_nil] using normLoop_wsum L []
  | some l =>
    simp only
    split
    · rename_i hd
      have h := normLoop_wsum_last L [] l hl hd
      rw [wsum_nil] at h
      rw [wsum_append, wsum_cons, wsum_nil]
      simp only [List.length_nil]
      omega
    · simpa [wsum_nil] using normLoop_wsum L []

/-- dot-segment removal never lengthens a rooted path -/
theorem normalizePath_length_le (r : Str) : (normalizePath (47 :: r)).length ≤ (47 :: r).length := by
  show (47 :: joinC 47 (normalizePathSegments (splitOn 47 r))).length ≤ _
  have h1 := joinC_length 47 (splitOn 47 r) (PathLemmas.splitOn_ne_nil 47 r)
  rw [joinC_splitOn] at h1
  have h2 := nps_wsum (splitOn 47 r)
  have h3 := joinC_length_le 47 (normalizePathSegments (splitOn 47 r))
  simp only [List.length_cons]
  omega

/-! ## URL level, both directions -/

/-- run level: when some literal '%' stands in front of two hex digits the requoted text is SHORTER than the encoding -/
theorem run_lit_lt (a a' : QArgs) (ha : a ∈ Gen.allQuoters) (ha' : a' ∈ Gen.allQuoters)
    (hreq : a.requote = true) (hnr : a'.requote = false) (uns : Str)
    (k : ∀ b, LitCompat (a.tab b) (a'.tab b) uns)
    (e : Env) (lit : Nat → Bool) (x X : Str) (hs : PyStr x) (hn : NoSurrogate x)
    (h : humanQuoteLit e.o x uns lit = .ok X) (hl : LitChars uns lit x) (hb : ¬ PctOK lit x) :
    (a.run e.b X).length < (a'.run e.b x).length := by
  obtain ⟨hr1, hr2⟩ := lit_pyStr (k e.b).hc.ascii hs hn h
  rw [run_eq_cOut a ha e.b X hr1, run_eq_cOut a' ha' e.b x hs, stripSurr_id X hr2, stripSurr_id x hn]
  exact cOut_lit_lt e.o (a.tab e.b) (a'.tab e.b) (gen_tab_wf a ha e.b) (gen_tab_wf a' ha' e.b)
    (by rw [tab_requote]; exact hreq) (by rw [tab_requote]; exact hnr) uns (k e.b) lit x X hs hn h hl hb

end R12

open R12

/-- "'%' … [is] escaped" at URL level, BOTH directions, for the positions path, query key, query value, fragment.
    `u` is any URL object that stores the encodings of decoded components (`StoresOK`); `hr` its `human_repr()` with the
    characters selected by `lit` left literal in position `comp` (`lit` = `(· == 37)`: every '%' of the position; any
    `lit` whose characters are not TAB / LF / CR and not unsafe in the position is allowed — `hch`).  Then
    `URL(hr) == u` **if and only if** no '%' that was left literal is followed by two hex digits in its decoded text
    (`R12.PctOK lit`).  NFKC proviso on the shown authority (F-C18-nfkc-userinfo).  For user / password the direction
    "⇐" is `C18_literal_roundtrip`, the direction "⇒" is proved at component level (`C18_percent_literal_all_iff`). -/
theorem C18_percent_literal_url_iff (e : Env) (u : Url) (user pw : Option Str) (H : Str) (port : Option Nat)
    (p : Str) (kvs : List (Str × Str)) (f : Str) (ok : StoresOK e u user pw H port p kvs f) (comp : String)
    (hcomp : comp = "path" ∨ comp = "k" ∨ comp = "v" ∨ comp = "fragment") (lit : Nat → Bool)
    (hch : ∀ x ∈ textsAt comp user pw p kvs f, LitChars (humanUnsafeOf comp) lit x)
    (hr : Str) (hh : humanReprLit comp lit e u = .ok hr)
    (hnf : isAscii (Rfc.appendixB Gen.schemeChars hr).authority = false →
      checkNetloc e.o (Rfc.appendixB Gen.schemeChars hr).authority = .ok ()) :
    (∃ v, encodeUrl e hr = .ok v ∧ Url.beq v u = true) ↔ ∀ x ∈ textsAt comp user pw p kvs f, PctOK lit x := by
  refine ⟨?_, fun hp => (C18_literal_roundtrip e u user pw H port p kvs f ok comp lit
    (fun x hx => ⟨hch x hx, hp x hx⟩) hr hh hnf).imp fun v hv => ⟨hv.1, hv.2.1⟩⟩
  rintro ⟨v, hv, hbeq⟩
  obtain ⟨h, D, hk⟩ := ok.hk
  have hrt := hk.rt
  obtain ⟨usr, pw', rp, qparts, rf, hq1, hq2, hrp, h4, h2, rfl⟩ :=
    lit_shape e u user pw H port p kvs f ok comp lit h D hk hr hh
  obtain ⟨tpa, tfa, t35, t63, t47⟩ := unsafe_ascii
  have nu : "user" ≠ comp := by rcases hcomp with rfl | rfl | rfl | rfl <;> decide
  have nw : "password" ≠ comp := by rcases hcomp with rfl | rfl | rfl | rfl <;> decide
  -- user, password: nothing is literal there
  have cu : ∀ s, user = some s → LitOK (humanUnsafeOf "user") (Lk comp lit "user") s := fun s _ =>
    Lk_key litOK_false comp lit "user" s (fun hk => absurd hk nu)
  have cw : ∀ s, pw = some s → LitOK (humanUnsafeOf "user") (Lk comp lit "password") s := fun s _ => by
    have := Lk_key litOK_false comp lit "password" s (fun hk => absurd hk nw)
    rwa [gen_same_lists.1] at this
  obtain ⟨s1, hne1⟩ := spellOpt_lit ok.hu hq1 cu
  obtain ⟨s2, _⟩ := spellOpt_lit ok.hw hq2 cw
  obtain ⟨_, _, cp, (cq : PairsCh (Lk comp lit "k") (Lk comp lit "v") kvs), cf⟩ := Lk_texts (P := LitChars) litChars_false hch
  have hp' : PyStr p := fun y hy => ok.hp y (by simp [hy])
  obtain ⟨hrp', hc1⟩ := lit_path_clean hp' hrp cp
  obtain ⟨hq35, hcq⟩ := lit_query_clean e.o _ _ ok.hg cq h4
  have hc2 := lit_clean tfa ok.hf h2 cf
  -- what `URL(hr)` is
  rw [R5.authority_spelled u.scheme port rp _ rf ok.vs hrt.disp s1.auth s2.auth hrp' hq35] at hnf
  rw [R5.encodeUrl_spelled e u.scheme user pw usr pw' H D port rp _ rf ok.vs hrt ok.hport ok.hu ok.hune s1.spells
    s2.spells (s1.userOK (hne1 ok.hune)) s1.auth s2.auth hrp' hc1 hq35 hcq hc2 hnf] at hv
  have hv' := ok_inj hv
  subst hv'
  have hnl : (authText (user.map (q e Gen.QUOTER)) (pw.map (q e Gen.QUOTER)) H port).isEmpty = false :=
    isEmpty_false (authText_ne_nil _ _ hrt.okH.1 _)
  simp only [Url.beq, eqKey, FixLemmas.finishUrl, decide_eq_true_eq, Parts.mk.injEq] at hbeq
  obtain ⟨_, _, hpathEq, hqueryEq, hfragEq⟩ := hbeq
  -- the query `URL(hr)` stores, when there are pairs at all
  have hquery : kvs ≠ [] → q e Gen.QUERY_REQUOTER (joinC 38 qparts) = qtext e.b kvs := by
    intro hk0
    have hne : joinC 38 qparts ≠ [] := fun h0 => hk0 ((litQuery_nil_iff e.o _ _ kvs qparts h4).mp h0)
    rw [ok.st.query] at hqueryEq
    unfold FixLemmas.encQuery at hqueryEq
    rwa [isEmpty_false hne] at hqueryEq
  intro x hx
  rcases hcomp with rfl | rfl | rfl | rfl
  · -- path
    have hx' : x = p := by simpa [textsAt] using hx
    subst hx'
    refine Classical.byContradiction (fun hb => ?_)
    rw [Lk_self] at hrp cp
    have h1' : humanQuoteLit e.o (47 :: x) (humanUnsafeOf "path") lit = .ok ([47] ++ rp) := by
      rw [humanQuoteLit_cons]
      exact ⟨[47], rp, litChar_slash e.o lit, hrp, rfl⟩
    have cp47 : LitChars (humanUnsafeOf "path") lit (47 :: x) := by
      intro c hc hl
      rcases List.mem_cons.mp hc with rfl | hc
      · exact ⟨by decide, by decide, by decide, t47⟩
      · exact cp c hc hl
    have hb47 : ¬ PctOK lit (47 :: x) := fun hh => hb hh.2
    have hlt := run_lit_lt Gen.PATH_REQUOTER Gen.PATH_QUOTER (by decide) (by decide) rfl rfl _
      (fun b => (gen_litCompat b).2.1) e lit (47 :: x) ([47] ++ rp) ok.hp ok.hn h1' cp47 hb47
    -- the stored path of `u`, as `==` sees it
    have hupath : (if u.path.isEmpty && !u.netloc.isEmpty then [47] else u.path) = q e Gen.PATH_QUOTER (47 :: x) := by
      rcases ok.st.path with hh1 | ⟨hh1, hh2⟩
      · rw [hh1, q_path_cons_slash e x ok.hp]; simp
      · subst hh2
        rw [hh1, ok.st.netloc, q_path_cons_slash e [] ok.hp, HumanLemmas.q_nil]; simp [hnl]
    rw [hupath] at hpathEq
    -- the requoted path is rooted, so is what `URL(…)` stores
    have g1 : PyStr (47 :: rp) := (lit_pyStr tpa ok.hp ok.hn h1').1
    obtain ⟨r', hr'⟩ : ∃ r', q e Gen.PATH_REQUOTER (47 :: rp) = 47 :: r' := FixLemmas.run_path_rooted e.b rp
    -- what `URL(…)` stores is not empty, and dot-segment removal has not made it longer
    have henc : (FixLemmas.encPath e (authText (user.map (q e Gen.QUOTER)) (pw.map (q e Gen.QUOTER)) H port)
          (47 :: rp)).isEmpty = false ∧
        (FixLemmas.encPath e (authText (user.map (q e Gen.QUOTER)) (pw.map (q e Gen.QUOTER)) H port)
          (47 :: rp)).length ≤ (q e Gen.PATH_REQUOTER (47 :: rp)).length := by
      unfold FixLemmas.encPath
      simp only [List.isEmpty_cons, Bool.false_eq_true, if_false]
      rw [hr']
      split
      · exact ⟨rfl, normalizePath_length_le r'⟩
      · exact ⟨rfl, Nat.le_refl _⟩
    obtain ⟨hne0, hlen⟩ := henc
    simp only [hne0, Bool.false_and, Bool.false_eq_true, if_false] at hpathEq
    rw [hpathEq] at hlen
    have : (q e Gen.PATH_REQUOTER ([47] ++ rp)).length < (q e Gen.PATH_QUOTER (47 :: x)).length := hlt
    simp only [List.singleton_append] at this
    omega
  · -- query keys
    obtain ⟨kv, hkv, rfl⟩ : ∃ kv ∈ kvs, kv.1 = x := by simpa [textsAt] using hx
    have := ((query_lit_iff e _ _ kvs qparts ok.hg cq h4).mp (hquery (List.ne_nil_of_mem hkv)) kv hkv).1
    rwa [Lk_self] at this
  · -- query values
    obtain ⟨kv, hkv, rfl⟩ : ∃ kv ∈ kvs, kv.2 = x := by simpa [textsAt] using hx
    have := ((query_lit_iff e _ _ kvs qparts ok.hg cq h4).mp (hquery (List.ne_nil_of_mem hkv)) kv hkv).2
    rwa [Lk_self] at this
  · -- fragment
    have hx' : x = f := by simpa [textsAt] using hx
    subst hx'
    rw [Lk_self] at h2 cf
    by_cases hf0 : x = []
    · subst hf0; trivial
    · have hne := lit_ne_nil ok.hf hf0 h2
      rw [ok.st.fragment] at hfragEq
      unfold FixLemmas.encFragment at hfragEq
      rw [isEmpty_false hne, isEmpty_false hf0] at hfragEq
      exact (run_lit_iff Gen.FRAGMENT_REQUOTER Gen.FRAGMENT_QUOTER (by decide) (by decide) rfl rfl _
        (fun b => (gen_litCompat b).2.2.1) e lit x rf ok.hf ok.hfn h2 cf).mp hfragEq

/-! ## non-vacuity -/

section checks

private def witB (b : Backend) (path : Str) : Url :=
  ctorUrl ⟨b, demo⟩ "http".toStr none none "example.com".toStr none path [] []

private theorem witB_ok (b : Backend) (path : Str) (h1 : PyStr (47 :: path)) (h2 : NoSurrogate (47 :: path))
    (h3 : normalizePath (47 :: path) = 47 :: path) :
    StoresOK ⟨b, demo⟩ (witB b path) none none "example.com".toStr none path [] [] :=
  ctorUrl_storesOK ⟨b, demo⟩ "http".toStr none none "example.com".toStr "example.com".toStr
    "example.com".toStr none _ _ _ (by decide)
    (R5.hostKind_demo b) (by intro x hx; cases hx)
    utext_none (by intro t ht; cases ht) utext_none h1 h2 h3 (by decide) (by decide) (by decide)

/-- `C18_percent_literal_url_iff`, direction "⇒", used: `URL.build(scheme="http", host="example.com", path="/a%41")`
    shown with the '%' literal is `http://example.com/a%41`, and NO `URL(…)` of that text is `==` (the theorem; the
    computation `C18_percent_escape_needed` says the same) -/
example (b : Backend) : ¬ ∃ v, encodeUrl ⟨b, demo⟩ "http://example.com/a%41".toStr = .ok v ∧
    Url.beq v (witB b "a%41".toStr) = true := by
  have hh : humanReprLit "path" (· == 37) ⟨b, demo⟩ (witB b "a%41".toStr) = .ok "http://example.com/a%41".toStr := by
    simp only [witB]
    str_lits
    cases b <;> decide +kernel
  have key := (C18_percent_literal_url_iff ⟨b, demo⟩ _ _ _ _ _ _ _ _
    (witB_ok b "a%41".toStr (by decide) (by decide) (by decide +kernel)) "path" (Or.inl rfl) (· == 37)
    (by decide) _ hh (fun hna => absurd hna (by str_lits; decide +kernel))).mp
  intro hex
  have := key hex "a%41".toStr (by decide)
  revert this; decide

/-- … and direction "⇐" on "/a%zz%4" -/
example (b : Backend) : ∃ v, encodeUrl ⟨b, demo⟩ "http://example.com/a%zz%4".toStr = .ok v ∧
    Url.beq v (witB b "a%zz%4".toStr) = true := by
  have hh : humanReprLit "path" (· == 37) ⟨b, demo⟩ (witB b "a%zz%4".toStr) = .ok "http://example.com/a%zz%4".toStr := by
    simp only [witB]
    str_lits
    cases b <;> decide +kernel
  exact (C18_percent_literal_url_iff ⟨b, demo⟩ _ _ _ _ _ _ _ _
    (witB_ok b "a%zz%4".toStr (by decide) (by decide) (by decide +kernel)) "path" (Or.inl rfl) (· == 37)
    (by decide) _ hh (fun hna => absurd hna (by str_lits; decide +kernel))).mpr (by decide)

end checks

end Yarl
