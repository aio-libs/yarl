/-
  C19DynBuild.lean — over the dynamic layer YarlModel/DynBuild.lean: wrong-typed
  keyword arguments of `URL.build(...)`, its argument CONFLICT checks, `without_query_params(*names)` with non-str
  names, and the bool flags (`encoded=`, `keep_query=`, `keep_fragment=`) given as arbitrary objects.

  (a) `C19_dynBuild_typed` / `C19_dynBuild_ofArgs`: on keyword objects of the documented types `URL.build` IS the typed
      `build` on the coerced arguments (so every typed C19 theorem transfers: `C19_dynBuild_typed_errors`).
  (b) "for ALL kwargs the outcome is a URL, ValueError or TypeError" is FALSE in the code (`C19_dynBuild_errors_FAILS`;
      real library, both quoter backends — NOT a violation of C19, whose text starts "given arguments of the documented
      types").  The strongest true statements are proved instead:
       * `C19_dynBuild_error_kinds`: an exception is ValueError / TypeError / AttributeError (or an oracle request of the
         typed `build`), a returned non-model object is garbage 0 / garbage 1;
       * `C19_dynBuild_attributeError_iff`: EXACTLY when AttributeError is raised (+ `C19_dynBuild_objErr_table`);
       * the leaking calls as theorems for every environment: `C19_dynBuild_attributeError_leaks` (scheme / authority /
         host), `C19_dynBuild_garbage_leaks` (bytes scheme; falsy non-str path / query_string / fragment),
         `C19_dynBuild_encoded_leaks` (`encoded=True` stores anything hashable), `C19_dynBuild_leak_instances`.
  (c) `C19_dynBuild_checks`: which of the argument checks (statements 1–5 of `build`, in order) stops the call, as iffs;
      `C19_dynBuild_conflict_iff`: the three conflict checks as one iff, a conflict is always a ValueError;
      `C19_dynBuild_valueError_sources`: every ValueError is a conflict, the port range, or value-level;
      `C19_dynBuild_none_order`: the None TypeError comes after the conflicts and the port check.
      `build` has NO "scheme requires a host" check (probe rows `URL.build(scheme="http")` = URL("http://")).
  (d) `C19_dynWithoutQueryParams`: typed bridge, the only failure is TypeError ⇔ some name is unhashable, hashable
      non-str names are ignored.
  (e) `C19_dyn_flags`, `C19_dyn_truthy_table`: flags act through `bool(o)`.
  `namespace R13` holds the helpers of this file: how the `PyObj` predicates relate, the bridge from `preStop` /
  `queryStage` to the argument checks of the typed `build`, the case principles `dynBuildObjs_cases` /
  `buildEncoded_cases` / `buildPlain_cases` with the outcome predicate `FromBuild`, and `t1 … t14`, the values of the
  predicates on the defaults of argument binding.
  The PROBE TABLE at the end (generated by harness/sub/dynbuild_probe.py; outcomes of the real library, identical on
  both quoter backends) ties the model to the code: one `example … := by decide +kernel` per row.
-/
import YarlModel.DynBuild
import YarlProofs.C19Dyn
import YarlProofs.C12Readback
import YarlProofs.Lemmas.BuildShape
namespace Yarl
open Yarl.Dyn Yarl.DynB Yarl.ErrLemmas

/-- every keyword holds an object of its documented type: `str` (or a subclass) for scheme / authority / host / path /
    query_string / fragment, `str` or `None` for user / password, `int` (not `bool`) or `None` for port; `query` and
    `encoded` are unconstrained (`get_str_query` dispatches on any object, `encoded` is only tested) -/
structure BuildObjs.Typed (o : BuildObjs) : Prop where
  scheme : isStr o.scheme = true
  authority : isStr o.authority = true
  user : isNoneObj o.user = true ∨ isStr o.user = true
  password : isNoneObj o.password = true ∨ isStr o.password = true
  host : isStr o.host = true
  port : isNoneObj o.port = true ∨ (portInt o.port).isSome = true
  path : isStr o.path = true
  queryString : isStr o.queryString = true
  fragment : isStr o.fragment = true

namespace R13

theorem truthy_of_strLike {o : PyObj} {s : Str} (h : strLike o = some s) : truthy o = !s.isEmpty := by
  cases o <;> simp [strLike] at h <;> subst h <;> rfl

theorem hashable_of_isStr {o : PyObj} (h : isStr o = true) : hashable o = true := by
  cases o <;> simp [isStr, strLike] at h <;> simp [hashable]

theorem hashable_of_isNone {o : PyObj} (h : isNoneObj o = true) : hashable o = true := by
  cases o <;> simp [isNoneObj] at h <;> simp [hashable]

theorem hashable_of_portInt {o : PyObj} (h : (portInt o).isSome = true) : hashable o = true := by
  cases o <;> simp [portInt] at h <;> simp [hashable]

theorem truthy_isStr {o : PyObj} (h : isStr o = true) : truthy o = !(strOr o).isEmpty := by
  cases o <;> simp [isStr, strLike] at h <;> simp [truthy, strOr, strLike]

theorem truthy_opt {o : PyObj} (h : isNoneObj o = true ∨ isStr o = true) :
    truthy o = (strLike o).any (fun s => !s.isEmpty) := by
  cases o <;> simp [isStr, strLike, isNoneObj] at h <;> simp [truthy, strLike]

theorem port_typed {x : PyObj} (h : isNoneObj x = true ∨ (portInt x).isSome = true) : x = .none ∨ ∃ i, x = .int i := by
  cases x <;> simp [isNoneObj, portInt] at h ⊢

theorem not_none_of_isStr {o : PyObj} (h : isStr o = true) : isNoneObj o = false := by
  cases o <;> simp [isStr, strLike] at h <;> rfl

theorem qargTruthy_dynQuery (o : PyObj) : qargTruthy (dynQuery o) = truthy o := by
  cases o with
  | none => rfl
  | _ =>
    simp only [dynQuery]
    split
    · -- a falsy object is read as the empty string
      rename_i h
      simp only [Bool.not_eq_true'] at h
      rw [h]; rfl
    · -- a truthy one is a non-empty container, or of a kind whose typed argument is truthy
      rename_i h
      simp only [Bool.not_eq_true', Bool.not_eq_false] at h
      simp_all [qargTruthy, truthy]

/-- on documented types the argument checks are those of the typed `build` -/
theorem pre_typed (o : BuildObjs) (h : o.Typed) : (preStop o).map Stop.err = C07_buildArgCheck (args o) := by
  have hn : noneArg o = false := by
    simp [noneArg, not_none_of_isStr, h.scheme, h.authority, h.host, h.path, h.queryString, h.fragment]
  simp only [preStop, C07_buildArgCheck, mixAuthority, portNoHost, twoQueries, hn, args, truthy_isStr h.authority,
    truthy_opt h.user, truthy_opt h.password, truthy_isStr h.host, truthy_isStr h.queryString, qargTruthy_dynQuery]
  -- the two chains now test the same conditions; what is left is the port, `None` or an int
  rcases port_typed h.port with hp | ⟨i, hp⟩ <;> rw [hp]
  · simp [portGiven, portStop, portInt, apply_ite (Option.map Stop.err), Stop.err]
  · by_cases hr : 0 ≤ i ∧ i ≤ 65535 <;>
      simp [portGiven, portStop, portInt, hr, apply_ite (Option.map Stop.err), Stop.err]

theorem truthy_none_of_isNone {o : PyObj} (h : isNoneObj o = true) : truthy o = false := by
  cases o <;> simp [isNoneObj] at h <;> rfl

theorem isStr_false_of_isNone {o : PyObj} (h : isNoneObj o = true) : isStr o = false := by
  cases o <;> simp [isNoneObj] at h <;> rfl

theorem preNetKind_typed (o : BuildObjs) (h : o.Typed) : preNetKind o = .str := by
  unfold preNetKind
  rcases h.user with hu | hu <;> rcases h.password with hw | hw <;>
    simp [h.authority, h.host, hu, hw, truthy_none_of_isNone, not_none_of_isStr, isStr_false_of_isNone]

theorem userPwBad_typed (o : BuildObjs) (h : o.Typed) : userPwBad o.user o.password = false := by
  unfold userPwBad
  rcases h.user with hu | hu <;> rcases h.password with hw | hw <;>
    simp [hu, hw, truthy_none_of_isNone, not_none_of_isStr, isStr_false_of_isNone, hashable_of_isStr,
      hashable_of_isNone]

theorem queryStage_error (e : Env) (o : BuildObjs) (err : PyErr) (h : queryStage e o = .error err) :
    truthy o.query = true ∧ getStrQuery e.b (dynQuery o.query) = .error err := by
  unfold queryStage at h
  split at h
  · rename_i ht
    refine ⟨ht, ?_⟩
    cases hg : getStrQuery e.b (dynQuery o.query) with
    | error er => rw [hg] at h; simpa [Except.map] using h
    | ok r => rw [hg] at h; simp [Except.map] at h
  · cases h

theorem queryString_error (e : Env) (o : BuildObjs) (err : PyErr) (h : queryStage e o = .error err) :
    C07_buildQueryString e (args o) = .error err := by
  obtain ⟨ht, hg⟩ := queryStage_error e o err h
  simp [C07_buildQueryString, args, qargTruthy_dynQuery, ht, hg, Except.map]

theorem queryStage_isStr (e : Env) (o : BuildObjs) (qs : PyObj) (hq : isStr o.queryString = true)
    (h : queryStage e o = .ok qs) : isStr qs = true := by
  unfold queryStage at h
  split at h
  · cases hg : getStrQuery e.b (dynQuery o.query) with
    | error er => rw [hg] at h; simp [Except.map] at h
    | ok r => rw [hg] at h; simp only [Except.map, Except.ok.injEq] at h; subst h; rfl
  · cases h; exact hq

theorem build_scheme_only (e : Env) (s : Str) :
    build e { scheme := s } = (lowerAny e s).map (fun l => fromParts l [] [] [] []) := by
  rw [build_eq]
  show buildBody e { scheme := s } = _
  unfold buildBody
  cases lowerAny e s with
  | error err => rfl
  | ok l => rfl

theorem not_allowed_attr : ¬ Allowed .attributeError := by simp [Allowed]

theorem firstErr_ne_ok {prior : R Url} {err : PyErr} {u : Url} : firstErr prior err ≠ .ok u := by
  unfold firstErr; split <;> simp

/-- `firstErr prior err` is the error of `prior`, or `err` once `prior` has returned -/
theorem firstErr_cases {P : PathOut → Prop} {prior : R Url} {err : PyErr}
    (hprior : ∀ er, prior = .error er → P (.error er)) (herr : ∀ u, prior = .ok u → P (.error err)) :
    P (firstErr prior err) := by
  cases prior with
  | error er => exact hprior er rfl
  | ok u => exact herr u rfl

theorem firstErr_attr_iff {prior : R Url} {err : PyErr} (hp : Errs Allowed prior) :
    firstErr prior err = .error .attributeError ↔ (∃ u, prior = .ok u) ∧ err = .attributeError := by
  refine firstErr_cases (P := fun out => out = .error .attributeError ↔ _) (fun er h => ?_) (fun u h => ?_)
  · have : er ≠ .attributeError := fun he => not_allowed_attr (he ▸ hp.elim h)
    simp [h, this]
  · simp [h]

theorem ofR_error {x : R Url} {er : PyErr} (h : ofR x = .error er) : x = .error er := by
  cases x <;> simp [ofR] at h; rw [h]

theorem authorityObjErr_kinds (o : PyObj) : authorityObjErr o = .typeError ∨ authorityObjErr o = .attributeError := by
  cases o <;> simp [authorityObjErr]

theorem hostObjErr_kinds (o : PyObj) : hostObjErr o = .typeError ∨ hostObjErr o = .attributeError := by
  unfold hostObjErr
  split
  · exact .inl rfl
  · split <;> simp

theorem scheme_prefix_ok (e : Env) (s : Str) :
    (∃ u, build e { scheme := s } = .ok u) ↔ ∃ l, lowerAny e s = .ok l := by
  rw [build_scheme_only]
  cases lowerAny e s <;> simp [Except.map]

/-! ### the shapes of `dynBuildObjs`, `buildEncoded`, `buildPlain`: each form the outcome can take, with the conditions
    that select it.  The theorems below go through these and never unfold the three definitions. -/

/-- What holds of both branches holds of the conditional.  Applied to a goal about a definition that is a chain of
    `if`s, it finds the conditional by unification, where `split` would rewrite the whole term. -/
theorem ite_closed {α : Sort _} {P : α → Prop} {c : Prop} [Decidable c] {a b : α} (ht : c → P a) (hf : ¬c → P b) :
    P (if c then a else b) := by
  split
  · exact ht ‹_›
  · exact hf ‹_›

theorem dynBuildObjs_cases {P : PathOut → Prop} (e : Env) (o : BuildObjs)
    (hstop : ∀ s, preStop o = some s → P (.error s.err))
    (hquery : ∀ err, preStop o = none → queryStage e o = .error err → P (.error err))
    (henc : ∀ qs, preStop o = none → queryStage e o = .ok qs → truthy o.encoded = true → P (buildEncoded e o qs))
    (hplain : ∀ qs, preStop o = none → queryStage e o = .ok qs → truthy o.encoded = false →
      P (buildPlain e o qs)) :
    P (dynBuildObjs e o) := by
  unfold dynBuildObjs
  cases hs : preStop o with
  | some s => exact hstop s hs
  | none =>
    cases hq : queryStage e o with
    | error err => exact hquery err hs hq
    | ok qs =>
      cases he : truthy o.encoded
      · exact hplain qs hs hq he
      · exact henc qs hs hq he

theorem buildEncoded_cases {P : PathOut → Prop} (e : Env) (o : BuildObjs) (qs : PyObj)
    (hhash : P (.error .typeError)) (hgarbage : ∀ k, k = 0 ∨ k = 1 → P (.garbage k))
    (htyped : P (ofR (build e (args o)))) : P (buildEncoded e o qs) := by
  refine ite_closed (fun _ => hhash) fun _ => ite_closed (fun _ => hgarbage 0 (.inl rfl)) fun _ => ?_
  cases preNetKind o
  · exact htyped
  · exact hgarbage 0 (.inl rfl)
  · exact hgarbage 1 (.inr rfl)

theorem buildPlain_cases {P : PathOut → Prop} (e : Env) (o : BuildObjs) (qs : PyObj)
    (hscheme : isStr o.scheme = false → isBytes o.scheme = false → P (.error .attributeError))
    (hauth : ¬(isStr o.scheme = false ∧ isBytes o.scheme = false) → truthy o.authority = true →
      isStr o.authority = false →
      P (firstErr (build e { scheme := strOr o.scheme }) (authorityObjErr o.authority)))
    (hhost : ¬(isStr o.scheme = false ∧ isBytes o.scheme = false) → truthy o.authority = false →
      truthy o.host = true → isStr o.host = false →
      P (firstErr (build e { scheme := strOr o.scheme }) (hostObjErr o.host)))
    (hquote : ¬(isStr o.scheme = false ∧ isBytes o.scheme = false) →
      ¬(truthy o.authority = true ∧ isStr o.authority = false) →
      ¬(truthy o.authority = false ∧ truthy o.host = true ∧ isStr o.host = false) →
      ∀ a, P (firstErr (build e a) .typeError))
    (htyped : ¬(isStr o.scheme = false ∧ isBytes o.scheme = false) →
      ¬(truthy o.authority = true ∧ isStr o.authority = false) →
      ¬(truthy o.authority = false ∧ truthy o.host = true ∧ isStr o.host = false) →
      P (match build e (args o) with
        | .error er => .error er
        | .ok u => if isStr o.scheme && isStr o.path && isStr qs && isStr o.fragment then .ok u else .garbage 0)) :
    P (buildPlain e o qs) := by
  refine ite_closed (fun hs => ?_) fun hs => ite_closed (fun ha => ?_) fun ha => ite_closed (fun hh => ?_) fun hh => ?_
  · simp only [Bool.and_eq_true, Bool.not_eq_eq_eq_not, Bool.not_true] at hs
    exact hscheme hs.1 hs.2
  · simp only [Bool.and_eq_true, Bool.not_eq_eq_eq_not, Bool.not_true] at hs ha
    exact hauth hs ha.1 ha.2
  · simp only [Bool.and_eq_true, Bool.not_eq_eq_eq_not, Bool.not_true] at hs hh
    exact hhost hs hh.1.1 hh.1.2 hh.2
  · simp only [Bool.and_eq_true, Bool.not_eq_eq_eq_not, Bool.not_true, and_assoc] at hs ha hh
    exact ite_closed (fun _ => hquote hs ha hh _) fun _ => ite_closed (fun _ => hquote hs ha hh _) fun _ =>
      ite_closed (fun _ => hquote hs ha hh _) fun _ => ite_closed (fun _ => hquote hs ha hh _) fun _ => htyped hs ha hh

theorem typedOut_error {e : Env} {a : BuildArgs} {c : Bool} {err : PyErr}
    (h : (match build e a with
      | .error er => .error er
      | .ok u => if c then .ok u else .garbage 0 : PathOut) = .error err) : build e a = .error err := by
  cases hb : build e a with
  | error er => rw [hb] at h; cases h; rfl
  | ok u => rw [hb] at h; cases c <;> cases h

/-- what statements 7–8 can end in: an exception is the TypeError / AttributeError of a wrong-typed object or an
    exception of the typed `build` (on the coerced arguments or a prefix of them); a returned non-model object is
    garbage 0 / 1 -/
def FromBuild (e : Env) (out : PathOut) : Prop :=
  (∀ err, out = .error err → err = .typeError ∨ err = .attributeError ∨ ∃ a, build e a = .error err) ∧
  (∀ k, out = .garbage k → k = 0 ∨ k = 1)

namespace FromBuild

theorem error {e : Env} {err : PyErr} (h : err = .typeError ∨ err = .attributeError ∨ ∃ a, build e a = .error err) :
    FromBuild e (.error err) :=
  ⟨fun _ he => by cases he; exact h, nofun⟩

theorem garbage {e : Env} {k : Nat} (h : k = 0 ∨ k = 1) : FromBuild e (.garbage k) :=
  ⟨nofun, fun _ hk => by cases hk; exact h⟩

theorem ok {e : Env} (u : Url) : FromBuild e (.ok u) := ⟨nofun, nofun⟩

theorem firstErr {e : Env} (a : BuildArgs) {err : PyErr} (h : err = .typeError ∨ err = .attributeError) :
    FromBuild e (firstErr (build e a) err) :=
  firstErr_cases (fun _ he => error (.inr (.inr ⟨a, he⟩))) fun _ _ => error (h.imp_right .inl)

theorem typed {e : Env} (a : BuildArgs) (c : Bool) :
    FromBuild e (match build e a with
      | .error er => .error er
      | .ok u => if c then .ok u else .garbage 0) := by
  cases h : build e a with
  | error er => exact error (.inr (.inr ⟨a, h⟩))
  | ok u =>
    cases c
    · exact garbage (.inl rfl)
    · exact ok u

theorem kinds {e : Env} {out : PathOut} (h : FromBuild e out) {err : PyErr} (he : out = .error err) :
    Allowed err ∨ err = .attributeError := by
  rcases h.1 err he with h | h | ⟨a, h⟩
  · exact .inl (h ▸ .inr (.inl rfl))
  · exact .inr h
  · exact .inl ((build_errs e a).elim h)

theorem value {e : Env} {out : PathOut} (h : FromBuild e out) (he : out = .error .valueError) :
    ∃ a, build e a = .error .valueError := by
  rcases h.1 _ he with h | h | h
  · cases h
  · cases h
  · exact h

end FromBuild

theorem buildEncoded_from (e : Env) (o : BuildObjs) (qs : PyObj) : FromBuild e (buildEncoded e o qs) :=
  buildEncoded_cases e o qs (.error (.inl rfl)) (fun _ => .garbage) (by
    cases h : build e (args o) with
    | error er => exact .error (.inr (.inr ⟨_, h⟩))
    | ok u => exact .ok u)

theorem buildPlain_from (e : Env) (o : BuildObjs) (qs : PyObj) : FromBuild e (buildPlain e o qs) :=
  buildPlain_cases e o qs (fun _ _ => .error (.inr (.inl rfl))) (fun _ _ _ => .firstErr _ (authorityObjErr_kinds _))
    (fun _ _ _ _ => .firstErr _ (hostObjErr_kinds _)) (fun _ _ _ a => .firstErr a (.inl rfl)) (fun _ _ _ => .typed _ _)

/-- the pre-encoded branch never raises AttributeError -/
theorem buildEncoded_not_attr (e : Env) (o : BuildObjs) (qs : PyObj) : buildEncoded e o qs ≠ .error .attributeError := by
  refine buildEncoded_cases (P := (· ≠ .error .attributeError)) e o qs nofun (fun _ _ => nofun) fun h => ?_
  exact not_allowed_attr ((build_errs e _).elim (ofR_error h))

/-- exactly when the encoding branch raises AttributeError -/
theorem buildPlain_attr_iff (e : Env) (o : BuildObjs) (qs : PyObj) :
    buildPlain e o qs = .error .attributeError ↔
      (isStr o.scheme = false ∧ isBytes o.scheme = false) ∨
      ((∃ l, lowerAny e (strOr o.scheme) = .ok l) ∧
        ((truthy o.authority = true ∧ isStr o.authority = false ∧ authorityObjErr o.authority = .attributeError) ∨
         (truthy o.authority = false ∧ truthy o.host = true ∧ isStr o.host = false ∧
            hostObjErr o.host = .attributeError))) := by
  have hb := fun a => build_errs (Q := Allowed) e a
  refine buildPlain_cases (P := fun out => out = .error .attributeError ↔ _) e o qs (fun h1 h2 => ?_)
    (fun hs h1 h2 => ?_) (fun hs h1 h2 h3 => ?_) (fun hs ha hh a => ?_) (fun hs ha hh => ?_)
  · simp [h1, h2]
  · rw [firstErr_attr_iff (hb _), scheme_prefix_ok]
    simp [hs, h1, h2]
  · rw [firstErr_attr_iff (hb _), scheme_prefix_ok]
    simp [hs, h1, h2, h3]
  -- the last two forms: the conditions that select them refute the right-hand side
  · refine iff_of_false (fun h => nomatch ((firstErr_attr_iff (hb a)).1 h).2) ?_
    rintro (h | ⟨_, ⟨h1, h2, _⟩ | ⟨h1, h2, h3, _⟩⟩)
    · exact hs h
    · exact ha ⟨h1, h2⟩
    · exact hh ⟨h1, h2, h3⟩
  · refine iff_of_false (fun h => not_allowed_attr ((hb _).elim (typedOut_error h))) ?_
    rintro (h | ⟨_, ⟨h1, h2, _⟩ | ⟨h1, h2, h3, _⟩⟩)
    · exact hs h
    · exact ha ⟨h1, h2⟩
    · exact hh ⟨h1, h2, h3⟩

/-! constants of argument binding, as rewrite rules (so that `truthy` … need not be unfolded on variables) -/
theorem t1 : truthy (.str []) = false := rfl
theorem t2 : truthy .none = false := rfl
theorem t3 : truthy (.bool false) = false := rfl
theorem t4 : isNoneObj (.str []) = false := rfl
theorem t5 : isStr (.str []) = true := rfl
theorem t6 : strOr (.str []) = [] := rfl
theorem t7 : isNoneObj .none = true := rfl
theorem t8 : portStop .none = none := rfl
theorem t9 : strLike .none = none := rfl
theorem t10 : portInt .none = none := rfl
theorem t11 : truthy (.bool true) = true := rfl
theorem t12 : hashable (.str []) = true := by simp [hashable]
theorem t13 : hashable .none = true := by simp [hashable]
theorem t14 : portGiven .none = false := rfl

/-- `portGiven` is `port is not None` -/
theorem portGiven_eq (x : PyObj) : portGiven x = !isNoneObj x := by cases x <;> rfl

theorem strOr_of_not_isStr {x : PyObj} (h : isStr x = false) : strOr x = [] := by
  simp [isStr] at h; simp [strOr, h]

theorem strLike_of_not_isStr {x : PyObj} (h : isStr x = false) : strLike x = none := by
  simpa [isStr] using h

theorem not_none_of_truthy {x : PyObj} (h : truthy x = true) : isNoneObj x = false := by
  cases x <;> simp_all [truthy, isNoneObj]

theorem portStop_kinds {x : PyObj} {s : Stop} (h : portStop x = some s) : s = .portType ∨ s = .portRange := by
  cases x <;> simp [portStop] at h <;> try exact .inl h.symm
  exact .inr h.2.symm

/-- the tagged form of statements 1–5 -/
theorem preStop_iff (o : BuildObjs) :
    (preStop o = some .mixAuthority ↔ mixAuthority o = true) ∧
    (preStop o = some .portType ↔ mixAuthority o = false ∧ portStop o.port = some .portType) ∧
    (preStop o = some .portRange ↔ mixAuthority o = false ∧ portStop o.port = some .portRange) ∧
    (preStop o = some .portNoHost ↔ mixAuthority o = false ∧ portStop o.port = none ∧ portNoHost o = true) ∧
    (preStop o = some .twoQueries ↔
      mixAuthority o = false ∧ portStop o.port = none ∧ portNoHost o = false ∧ twoQueries o = true) ∧
    (preStop o = some .noneArg ↔
      mixAuthority o = false ∧ portStop o.port = none ∧ portNoHost o = false ∧ twoQueries o = false ∧
        noneArg o = true) ∧
    (preStop o = none ↔
      mixAuthority o = false ∧ portStop o.port = none ∧ portNoHost o = false ∧ twoQueries o = false ∧
        noneArg o = false) := by
  cases hm : mixAuthority o
  · cases hp : portStop o.port with
    | some s =>
      rcases portStop_kinds hp with h | h <;> subst h <;> simp [preStop, hm, hp]
    | none =>
      cases hn : portNoHost o <;> cases hq : twoQueries o <;> cases hz : noneArg o <;>
        simp [preStop, hm, hp, hn, hq, hz]
  · simp [preStop, hm]

theorem withoutQueryParams_total (e : Env) (u : Url) (l : List Str) : ∃ v, withoutQueryParams e u l = .ok v := by
  have hq : ∀ ps : List (Str × Str), ∃ r, getStrQuery e.b (.pairs (strItems ps)) = .ok r := by
    intro ps
    simp only [getStrQuery]
    split
    · exact ⟨_, rfl⟩
    · rw [QsLemmas.strQuery_strItems]; exact ⟨_, rfl⟩
  unfold withoutQueryParams
  simp only [pure, Except.pure]
  split
  · exact ⟨_, rfl⟩
  · obtain ⟨r, hr⟩ := hq ((queryPairs u).filter (fun p =>
      !(l.filter (fun n => (queryPairs u).any (·.1 = n))).contains p.1))
    unfold withQuery
    simp only [bind, Except.bind, pure, Except.pure, hr]
    exact ⟨_, rfl⟩

theorem typed_names {names : List PyObj} {strs : List Str} (h : names.map strLike = strs.map some) :
    names.all hashable = true ∧ names.filterMap strLike = strs := by
  induction names generalizing strs with
  | nil => cases strs <;> simp_all
  | cons n ns ih =>
    cases strs with
    | nil => simp at h
    | cons t ts =>
      simp only [List.map_cons, List.cons.injEq] at h
      obtain ⟨h1, h2⟩ := ih h.2
      refine ⟨?_, ?_⟩
      · simp only [List.all_cons, Bool.and_eq_true]
        exact ⟨hashable_of_isStr (by simp [isStr, h.1]), h1⟩
      · simp [h.1, h2]

theorem portStop_none_truthy (x : PyObj) :
    (portStop x = none ∧ portGiven x = true) ↔ ∃ i, x = .int i ∧ 0 ≤ i ∧ i ≤ 65535 := by
  cases x with
  | int i =>
    simp only [portStop, portGiven, PyObj.int.injEq, exists_eq_left']
    constructor
    · rintro ⟨h1, h2⟩
      split at h1
      · assumption
      · cases h1
    · intro h
      exact ⟨by rw [if_pos h], trivial⟩
  | none => simp [portGiven]
  | _ => simp [portStop]

theorem portStop_type_iff (x : PyObj) :
    portStop x = some .portType ↔ isNoneObj x = false ∧ (portInt x).isNone = true := by
  cases x with
  | int i => simp only [portStop, isNoneObj, portInt]; split <;> simp
  | _ => simp [portStop, isNoneObj, portInt]

theorem portStop_range_iff (x : PyObj) :
    portStop x = some .portRange ↔ ∃ i, x = .int i ∧ ¬(0 ≤ i ∧ i ≤ 65535) := by
  cases x with
  | int i => simp only [portStop, PyObj.int.injEq, exists_eq_left']; split <;> simp_all
  | _ => simp [portStop]

theorem filter_isStr_filterMap (names : List PyObj) :
    (names.filter isStr).filterMap strLike = names.filterMap strLike ∧ (names.filter isStr).all hashable = true := by
  induction names with
  | nil => simp
  | cons n ns ih =>
    cases hn : isStr n
    · have : strLike n = none := strLike_of_not_isStr hn
      simp [hn, this, ih.1, ih.2]
    · have hh := hashable_of_isStr hn
      simp only [isStr, Option.isSome_iff_exists] at hn
      obtain ⟨t, ht⟩ := hn
      have hn' : isStr n = true := by simp [isStr, ht]
      simp [hn', ht, ih.1, ih.2, hh]

end R13
open R13

/-- (a) documented types: `URL.build` on objects IS the typed `build` on the coerced arguments -/
theorem C19_dynBuild_typed (e : Env) (o : BuildObjs) (h : o.Typed) : dynBuildObjs e o = ofR (build e (args o)) := by
  have hpre := pre_typed o h
  have hport : hashable o.port = true := h.port.elim hashable_of_isNone hashable_of_portInt
  have hu : hashable o.user = true := h.user.elim hashable_of_isNone hashable_of_isStr
  have hw : hashable o.password = true := h.password.elim hashable_of_isNone hashable_of_isStr
  refine dynBuildObjs_cases (P := fun out => out = ofR (build e (args o))) e o (fun s hs => ?_) (fun err hs hq => ?_)
    (fun qs _ hq _ => ?_) (fun qs _ hq _ => ?_)
  · rw [hs] at hpre
    rw [build_of_check hpre.symm]; rfl
  · rw [hs] at hpre
    rw [build_of_query_error hpre.symm (queryString_error e o err hq)]; rfl
  · have hqs := queryStage_isStr e o qs h.queryString hq
    simp only [buildEncoded, hashable_of_isStr h.scheme, hashable_of_isStr h.authority, hu, hw,
      hashable_of_isStr h.host, hport, hashable_of_isStr h.path, hashable_of_isStr hqs,
      hashable_of_isStr h.fragment, h.scheme, h.path, hqs, h.fragment, preNetKind_typed o h, Bool.and_self,
      Bool.not_true, Bool.false_eq_true, ↓reduceIte]
  · have hqs := queryStage_isStr e o qs h.queryString hq
    simp only [buildPlain, h.scheme, h.authority, h.host, h.path, hqs, h.fragment, userPwBad_typed o h,
      Bool.not_true, Bool.and_false, Bool.false_and, Bool.and_self, Bool.false_eq_true, ↓reduceIte]
    cases build e (args o) <;> rfl

/-- (a) keyword form: a typed argument record passed keyword by keyword (with any `query` object) -/
theorem C19_dynBuild_ofArgs (e : Env) (a : BuildArgs) (h0 : a.portKind = 0) (query : PyObj) :
    dynBuild e (BuildKw.ofArgs a query) = ofR (build e { a with query := dynQuery query }) := by
  have ht : ((BuildKw.ofArgs a query).resolve).Typed := by
    constructor <;> (try rfl)
    · cases h : a.user <;> simp [BuildKw.ofArgs, BuildKw.resolve, h, isNoneObj, isStr, strLike]
    · cases h : a.password <;> simp [BuildKw.ofArgs, BuildKw.resolve, h, isNoneObj, isStr, strLike]
    · cases h : a.port <;> simp [BuildKw.ofArgs, BuildKw.resolve, h, isNoneObj, portInt]
  have ha : args (BuildKw.ofArgs a query).resolve = { a with query := dynQuery query } := by
    obtain ⟨sc, au, us, pw, ho, po, pk, pa, qu, qs, fr, en⟩ := a
    simp only at h0
    subst h0
    cases us <;> cases pw <;> cases po <;> cases en <;> rfl
  unfold dynBuild
  rw [C19_dynBuild_typed e _ ht, ha]

/-- (a) consequence: on documented types the outcome is a URL, ValueError, TypeError (or an oracle request) —
    never another exception, never garbage -/
theorem C19_dynBuild_typed_errors (e : Env) (o : BuildObjs) (h : o.Typed) :
    (∀ err, dynBuildObjs e o = .error err → Allowed err) ∧ (∀ k, dynBuildObjs e o ≠ .garbage k) := by
  rw [C19_dynBuild_typed e o h]
  refine ⟨fun err he => (build_errs (Q := Allowed) e _).elim (ofR_error he), fun k => ?_⟩
  cases build e (args o) <;> simp [ofR]

/-! ## (b) "only ValueError / TypeError" on ARBITRARY keyword objects: FALSE — the exact extent -/

/-- the kind bound that IS true: a failure is a ValueError, a TypeError, an oracle request of the typed `build` — or an
    AttributeError; a returned non-model object is garbage 0 / 1 -/
theorem C19_dynBuild_error_kinds (e : Env) (o : BuildObjs) :
    (∀ err, dynBuildObjs e o = .error err → Allowed err ∨ err = .attributeError) ∧
    (∀ k, dynBuildObjs e o = .garbage k → k = 0 ∨ k = 1) := by
  refine dynBuildObjs_cases e o
    (P := fun out => (∀ err, out = .error err → Allowed err ∨ err = .attributeError) ∧
      (∀ k, out = .garbage k → k = 0 ∨ k = 1))
    (fun s _ => ⟨fun err h => ?_, nofun⟩) (fun er _ hq => ⟨fun err h => ?_, nofun⟩)
    (fun qs _ _ _ => ⟨fun err => (buildEncoded_from e o qs).kinds, (buildEncoded_from e o qs).2⟩)
    (fun qs _ _ _ => ⟨fun err => (buildPlain_from e o qs).kinds, (buildPlain_from e o qs).2⟩)
  · cases h; cases s <;> simp [Stop.err, Allowed]
  · cases h
    exact .inl ((getStrQuery_errs (Q := Allowed) e.b _).elim (queryStage_error e o _ hq).2)

/-- EXACTLY when `URL.build` raises AttributeError: no argument check fires, `get_str_query` succeeds, `encoded` is
    falsy, and either `scheme` has no `.lower` (neither str nor bytes), or — `scheme.lower()` having succeeded —
    a truthy `authority` has no `.isascii` (neither str nor bytes), or (no authority) a truthy hashable `host` is a
    bytes / tuple / SplitResult -/
theorem C19_dynBuild_attributeError_iff (e : Env) (o : BuildObjs) :
    dynBuildObjs e o = .error .attributeError ↔
      preStop o = none ∧ (∃ qs, queryStage e o = .ok qs) ∧ truthy o.encoded = false ∧
      ((isStr o.scheme = false ∧ isBytes o.scheme = false) ∨
       ((∃ l, lowerAny e (strOr o.scheme) = .ok l) ∧
        ((truthy o.authority = true ∧ isStr o.authority = false ∧ authorityObjErr o.authority = .attributeError) ∨
         (truthy o.authority = false ∧ truthy o.host = true ∧ isStr o.host = false ∧
            hostObjErr o.host = .attributeError)))) := by
  refine dynBuildObjs_cases (P := fun out => out = .error .attributeError ↔ _) e o (fun s hs => ?_)
    (fun er hs hq => ?_) (fun qs hs hq he => ?_) (fun qs hs hq he => ?_)
  · cases s <;> simp [Stop.err, hs]
  · have := (getStrQuery_errs (Q := Allowed) e.b _).elim (queryStage_error e o _ hq).2
    simp only [hq, reduceCtorEq, exists_false, false_and, and_false, iff_false, PathOut.error.injEq]
    intro h; subst h; exact not_allowed_attr this
  · simp [he, buildEncoded_not_attr]
  · simp only [hs, hq, he, Except.ok.injEq, exists_eq', true_and]
    exact buildPlain_attr_iff e o qs

/-- the two object-level error tables used above -/
theorem C19_dynBuild_objErr_table :
    (∀ o, authorityObjErr o = .attributeError ↔ isBytes o = false) ∧
    (∀ o, authorityObjErr o = .typeError ↔ isBytes o = true) ∧
    (∀ o, hostObjErr o = .attributeError ↔
      hashable o = true ∧ (isBytes o = true ∨ (∃ xs, o = .tuple xs) ∨ (∃ ps, o = .splitResult ps))) := by
  refine ⟨fun o => by cases o <;> simp [authorityObjErr, isBytes], fun o => by cases o <;> simp [authorityObjErr, isBytes],
    fun o => ?_⟩
  cases o with
  | tuple xs => cases hh : hashable (.tuple xs) <;> simp [hostObjErr, hh, isBytes]
  | list xs => simp [hostObjErr, hashable, isBytes]
  | dict xs => simp [hostObjErr, hashable, isBytes]
  | _ => simp [hostObjErr, hashable, isBytes]

/-- leaking calls, one keyword, for EVERY environment (real library, both quoter backends):
    `URL.build(scheme=x)` for x not a str / bytes / None — e.g. `URL.build(scheme=1)` — raises AttributeError
    ("'int' object has no attribute 'lower'");
    `URL.build(authority=x)` for a truthy x not a str / bytes — e.g. `URL.build(authority=1)` — raises AttributeError
    ("… has no attribute 'isascii'");
    `URL.build(host=x)` for a truthy hashable bytes / tuple / SplitResult — e.g. `URL.build(host=b"x")`,
    `URL.build(host=("a",))` — raises AttributeError ("'int' object has no attribute 'isdigit'", "'tuple' object has
    no attribute 'isascii'") -/
theorem C19_dynBuild_attributeError_leaks (e : Env) (x : PyObj) :
    (isStr x = false → isBytes x = false → isNoneObj x = false →
      dynBuild e { scheme := some x } = .error .attributeError) ∧
    (truthy x = true → isStr x = false → isBytes x = false →
      dynBuild e { authority := some x } = .error .attributeError) ∧
    (truthy x = true → isStr x = false → hostObjErr x = .attributeError →
      dynBuild e { host := some x } = .error .attributeError) := by
  have h5 : build e { scheme := [] } = .ok (fromParts [] [] [] [] []) := rfl
  refine ⟨fun h1 h2 h3 => ?scheme, fun ht h1 h2 => ?authority, fun ht h1 h4 => ?host⟩
  case scheme =>
    simp [dynBuild, BuildKw.resolve, dynBuildObjs, preStop, mixAuthority, portNoHost, twoQueries, noneArg,
      queryStage, t1, t2, t3, t4, t8, t14, h3, buildPlain, h1, h2]
  case authority =>
    have h3 := not_none_of_truthy ht
    have h4 : authorityObjErr x = .attributeError := by cases x <;> simp_all [authorityObjErr, isBytes]
    simp [dynBuild, BuildKw.resolve, dynBuildObjs, preStop, mixAuthority, portNoHost, twoQueries, noneArg,
      queryStage, t1, t2, t3, t4, t5, t6, t8, t14, h3, buildPlain, h1, ht, args, h4, h5, firstErr]
  case host =>
    have h3 := not_none_of_truthy ht
    simp [dynBuild, BuildKw.resolve, dynBuildObjs, preStop, mixAuthority, portNoHost, twoQueries, noneArg,
      queryStage, t1, t2, t3, t4, t5, t6, t8, t14, h3, buildPlain, h1, ht, args, h4, h5, firstErr]

/-- returned garbage, one keyword, for EVERY environment:
    `URL.build(scheme=b"x")._scheme == b"x"` (bytes have `.lower()`);
    `URL.build(path=x)._path is x` for a falsy x that is not a str / None — 0, False, 0.0, b"", (), [], {}, URL("") —
    likewise `query_string=x` (`_query`) and `fragment=x` (`_fragment`): `QUOTER(x) if x else x` -/
theorem C19_dynBuild_garbage_leaks (e : Env) (x : PyObj) :
    (∀ b, dynBuild e { scheme := some (.bytes b) } = .garbage 0) ∧
    (truthy x = false → isStr x = false → isNoneObj x = false →
      dynBuild e { path := some x } = .garbage 0 ∧ dynBuild e { queryString := some x } = .garbage 0 ∧
      dynBuild e { fragment := some x } = .garbage 0) := by
  have h5 : build e { query := dynQuery .none } = .ok (fromParts [] [] [] [] []) := rfl
  refine ⟨fun b => rfl, fun ht h1 h3 => ?_⟩
  have h6 := strOr_of_not_isStr h1
  refine ⟨?_, ?_, ?_⟩ <;>
    simp [dynBuild, BuildKw.resolve, dynBuildObjs, preStop, mixAuthority, portNoHost, twoQueries, noneArg,
      queryStage, t1, t2, t3, t4, t5, t6, t7, t8, t14, t9, t10, h3, buildPlain, h1, ht, args, h5, h6, userPwBad, isBytes]

/-- `encoded=True` (`build_pre_encoded_url`): NO type check — every hashable non-str, non-None `scheme`, `path`,
    `query_string`, `fragment` is stored as it is (`URL.build(path=1, encoded=True)._path == 1`); an unhashable one is the
    `lru_cache`'s TypeError -/
theorem C19_dynBuild_encoded_leaks (e : Env) (x : PyObj) (h1 : isStr x = false) (h3 : isNoneObj x = false) :
    let out : PathOut := if hashable x then .garbage 0 else .error .typeError
    dynBuild e { scheme := some x, encoded := some (.bool true) } = out ∧
    dynBuild e { path := some x, encoded := some (.bool true) } = out ∧
    dynBuild e { queryString := some x, encoded := some (.bool true) } = out ∧
    dynBuild e { fragment := some x, encoded := some (.bool true) } = out := by
  cases hh : hashable x <;> refine ⟨?_, ?_, ?_, ?_⟩ <;>
    simp [dynBuild, BuildKw.resolve, dynBuildObjs, preStop, mixAuthority, portNoHost, twoQueries, noneArg,
      queryStage, t1, t2, t4, t5, t8, t14, t11, t12, t13, h3, buildEncoded, h1, hh]

/-- concrete leaking calls (all in the probe table below, outcomes of the real library), for every environment -/
theorem C19_dynBuild_leak_instances (e : Env) :
    -- URL.build(scheme=1) / (authority=1) / (host=b"x") / (host=("a",)): AttributeError
    dynBuild e { scheme := some (.int 1) } = .error .attributeError ∧
    dynBuild e { authority := some (.int 1) } = .error .attributeError ∧
    dynBuild e { host := some (.bytes [120]) } = .error .attributeError ∧
    dynBuild e { host := some (.tuple [.str [97]]) } = .error .attributeError ∧
    -- URL.build(scheme=b"x") / (path=0) / (query_string=[]) / (fragment=()): a URL with a non-str part
    dynBuild e { scheme := some (.bytes [120]) } = .garbage 0 ∧
    dynBuild e { path := some (.int 0) } = .garbage 0 ∧
    dynBuild e { queryString := some (.list []) } = .garbage 0 ∧
    dynBuild e { fragment := some (.tuple []) } = .garbage 0 ∧
    -- URL.build(scheme=1, encoded=True) / (authority=1, …) / (host=1, …) / (path=object(), …): a non-str part
    dynBuild e { scheme := some (.int 1), encoded := some (.bool true) } = .garbage 0 ∧
    dynBuild e { authority := some (.int 1), encoded := some (.bool true) } = .garbage 0 ∧
    dynBuild e { host := some (.int 1), encoded := some (.bool true) } = .garbage 0 ∧
    dynBuild e { path := some (.other 0), encoded := some (.bool true) } = .garbage 0 ∧
    -- URL.build(host="h", user=1, encoded=True) == URL("//1@h"); (host="h", password=0, …) == URL("//:0@h");
    -- (host=1, port=81, …) == URL("//1:81")
    dynBuild e { host := some (.str [104]), user := some (.int 1), encoded := some (.bool true) } = .garbage 1 ∧
    dynBuild e { host := some (.str [104]), password := some (.int 0), encoded := some (.bool true) } = .garbage 1 ∧
    dynBuild e { host := some (.int 1), port := some (.int 81), encoded := some (.bool true) } = .garbage 1 ∧
    -- wrong types that are SILENTLY ignored: URL.build(user=1) == URL(""), URL.build(host=0) == URL(""),
    -- URL.build(host="h", user=0) == URL("//h")
    dynBuild e { user := some (.int 1) } = .ok (fromParts [] [] [] [] []) ∧
    dynBuild e { host := some (.int 0) } = .ok (fromParts [] [] [] [] []) ∧
    dynBuild e { host := some (.str [104]), user := some (.int 0) } = .ok (fromParts [] [104] [] [] []) :=
  ⟨rfl, rfl, rfl, rfl, rfl, rfl, rfl, rfl, rfl, rfl, rfl, rfl, rfl, rfl, rfl, rfl, rfl, rfl⟩

/-- the statement "for ALL kwargs the outcome is a URL, ValueError or TypeError" is FALSE -/
theorem C19_dynBuild_errors_FAILS :
    ¬ ∀ (e : Env) (k : BuildKw), (∃ u, dynBuild e k = .ok u) ∨ dynBuild e k = .error .valueError ∨
        dynBuild e k = .error .typeError := by
  intro h
  rcases h pe { scheme := some (.int 1) } with ⟨u, hu⟩ | hu | hu <;> cases hu

/-! ## (c) the argument checks, and the CONFLICT checks among them -/

/-- a stopped call raises the exception of the check that stopped it, whatever the other arguments are -/
theorem C19_dynBuild_stop (e : Env) (o : BuildObjs) (s : Stop) (h : preStop o = some s) :
    dynBuildObjs e o = .error s.err := by
  simp [dynBuildObjs, h]

/-- which check stops the call — statements 1–5 of `build`, each with the negation of the earlier ones:
    1. `authority and (user or password or host or port is not None)`                      ValueError
    2. `port` neither None nor an int (a bool is not) → TypeError; an int outside 0..65535 → ValueError
    3. `port is not None and not host` — by then port is an int in 0..65535 (0 INCLUDED: the test is on
       `None`, not on truthiness), and the authority is falsy                                ValueError
    4. `query and query_string`                                                            ValueError
    5. a None among scheme / authority / host / path / query_string / fragment            TypeError -/
theorem C19_dynBuild_checks (o : BuildObjs) :
    (preStop o = some .mixAuthority ↔
      truthy o.authority = true ∧
        (truthy o.user = true ∨ truthy o.password = true ∨ truthy o.host = true ∨ isNoneObj o.port = false)) ∧
    (preStop o = some .portType ↔
      mixAuthority o = false ∧ isNoneObj o.port = false ∧ (portInt o.port).isNone = true) ∧
    (preStop o = some .portRange ↔ mixAuthority o = false ∧ ∃ i, o.port = .int i ∧ ¬(0 ≤ i ∧ i ≤ 65535)) ∧
    (preStop o = some .portNoHost ↔
      (∃ i, o.port = .int i ∧ 0 ≤ i ∧ i ≤ 65535) ∧ truthy o.host = false ∧ truthy o.authority = false) ∧
    (preStop o = some .twoQueries ↔
      truthy o.query = true ∧ truthy o.queryString = true ∧
        mixAuthority o = false ∧ portStop o.port = none ∧ portNoHost o = false) ∧
    (preStop o = some .noneArg ↔
      noneArg o = true ∧ mixAuthority o = false ∧ portStop o.port = none ∧ portNoHost o = false ∧
        twoQueries o = false) ∧
    (preStop o = none ↔
      mixAuthority o = false ∧ portStop o.port = none ∧ portNoHost o = false ∧ twoQueries o = false ∧
        noneArg o = false) := by
  obtain ⟨h1, h2, h3, h4, h5, h6, h7⟩ := preStop_iff o
  refine ⟨?mixAuthority, ?portType, ?portRange, ?portNoHost, ?twoQueries, ?noneArg, h7⟩
  case mixAuthority =>
    rw [h1]
    simp [mixAuthority, or_assoc, portGiven_eq]
  case portType => rw [h2, portStop_type_iff]
  case portRange => rw [h3, portStop_range_iff]
  case portNoHost =>
    rw [h4]
    constructor
    · rintro ⟨hm, hp, hn⟩
      simp only [portNoHost, Bool.and_eq_true, Bool.not_eq_eq_eq_not, Bool.not_true] at hn
      refine ⟨(portStop_none_truthy _).1 ⟨hp, hn.1⟩, hn.2, ?_⟩
      cases ha : truthy o.authority
      · rfl
      · simp [mixAuthority, ha, hn.1] at hm
    · rintro ⟨hi, hh, ha⟩
      obtain ⟨hp, ht⟩ := (portStop_none_truthy _).2 hi
      exact ⟨by simp [mixAuthority, ha], hp, by simp [portNoHost, ht, hh]⟩
  case twoQueries =>
    rw [h5]
    simp only [twoQueries, Bool.and_eq_true]
    constructor
    · rintro ⟨a, b, c, d, f⟩; exact ⟨d, f, a, b, c⟩
    · rintro ⟨d, f, a, b, c⟩; exact ⟨a, b, c, d, f⟩
  case noneArg =>
    rw [h6]
    constructor
    · rintro ⟨a, b, c, d, f⟩; exact ⟨f, a, b, c, d⟩
    · rintro ⟨f, a, b, c, d⟩; exact ⟨a, b, c, d, f⟩

/-- `URL.build` raised ValueError BECAUSE OF A CONFLICT between its arguments -/
def BuildObjs.conflict (o : BuildObjs) : Prop :=
  preStop o = some .mixAuthority ∨ preStop o = some .portNoHost ∨ preStop o = some .twoQueries

/-- the conflict checks as an iff, on arbitrary objects (only truthiness matters, plus `port` having passed its own
    type / range check when the second and third conflict are reached):
      authority ∧ (user ∨ password ∨ host ∨ port is not None)
    ∨ port ∈ 0..65535 ∧ ¬host ∧ ¬authority
    ∨ query ∧ query_string ∧ ¬(first conflict) ∧ (port is None or an int in 0..65535) ∧ ¬(port is not None ∧ ¬host);
    a conflict is always a ValueError.  (`build` has NO "scheme requires a host" check: see the examples.) -/
theorem C19_dynBuild_conflict_iff (e : Env) (o : BuildObjs) :
    (o.conflict ↔
      (truthy o.authority = true ∧
        (truthy o.user = true ∨ truthy o.password = true ∨ truthy o.host = true ∨ isNoneObj o.port = false)) ∨
      ((∃ i, o.port = .int i ∧ 0 ≤ i ∧ i ≤ 65535) ∧ truthy o.host = false ∧ truthy o.authority = false) ∨
      (truthy o.query = true ∧ truthy o.queryString = true ∧
        mixAuthority o = false ∧ portStop o.port = none ∧ portNoHost o = false)) ∧
    (o.conflict → dynBuildObjs e o = .error .valueError) := by
  obtain ⟨h1, _, _, h4, h5, _, _⟩ := C19_dynBuild_checks o
  refine ⟨by unfold BuildObjs.conflict; rw [h1, h4, h5], fun h => ?_⟩
  rcases h with h | h | h <;> exact C19_dynBuild_stop e o _ h

/-- conversely, every ValueError of `URL.build` is a conflict, the port range check, or a value-level ValueError of
    `get_str_query` / of the typed `build` on (a prefix of) the coerced arguments -/
theorem C19_dynBuild_valueError_sources (e : Env) (o : BuildObjs) (h : dynBuildObjs e o = .error .valueError) :
    o.conflict ∨ preStop o = some .portRange ∨
      (preStop o = none ∧
        (getStrQuery e.b (dynQuery o.query) = .error .valueError ∨ ∃ a, build e a = .error .valueError)) := by
  revert h
  refine dynBuildObjs_cases (P := fun out => out = .error .valueError → _) e o (fun s hs h => ?_)
    (fun er hs hq h => ?_) (fun qs hs _ _ h => ?_) (fun qs hs _ _ h => ?_)
  · cases s <;> simp [Stop.err] at h
    · exact .inl (.inl hs)
    · exact .inr (.inl hs)
    · exact .inl (.inr (.inl hs))
    · exact .inl (.inr (.inr hs))
  · cases h
    exact .inr (.inr ⟨hs, .inl (queryStage_error e o _ hq).2⟩)
  · exact .inr (.inr ⟨hs, .inr ((buildEncoded_from e o qs).value h)⟩)
  · exact .inr (.inr ⟨hs, .inr ((buildPlain_from e o qs).value h)⟩)

/-- the TypeError of a None argument comes AFTER the conflict checks and the port check:
    `URL.build(scheme=None, authority="a", host="h")` is the ValueError of the first conflict,
    `URL.build(fragment=None, port=-5)` the ValueError of the port range, `URL.build(query="a", query_string="b",
    scheme=None)` the ValueError of the two queries; alone, `scheme=None` or `query_string=None` is the TypeError -/
theorem C19_dynBuild_none_order (e : Env) :
    dynBuild e { scheme := some .none } = .error .typeError ∧
    dynBuild e { scheme := some .none, authority := some (.str [97]), host := some (.str [104]) } = .error .valueError ∧
    dynBuild e { fragment := some .none, port := some (.int (-5)) } = .error .valueError ∧
    dynBuild e { query := some (.str [97]), queryString := some .none } = .error .typeError ∧
    dynBuild e { query := some (.str [97]), queryString := some (.str [98]), scheme := some .none } =
      .error .valueError :=
  ⟨rfl, rfl, rfl, rfl, rfl⟩

/-! ## (d) `without_query_params(*names)` on arbitrary names -/

/-- `set(names) & self.query.keys()`: str (subclass) names only → the typed function; the ONLY failure is the
    TypeError of an unhashable name (whatever the URL and the other names are); hashable non-str names (None, ints,
    bytes, tuples, URLs, objects) are silently ignored -/
theorem C19_dynWithoutQueryParams (e : Env) (u : Url) (names : List PyObj) :
    (∀ strs, names.map strLike = strs.map some →
      dynWithoutQueryParams e u names = withoutQueryParams e u strs) ∧
    (∀ err, dynWithoutQueryParams e u names = .error err ↔ err = .typeError ∧ ∃ n ∈ names, hashable n = false) ∧
    (names.all hashable = true →
      dynWithoutQueryParams e u names = withoutQueryParams e u (names.filterMap strLike) ∧
      dynWithoutQueryParams e u names = dynWithoutQueryParams e u (names.filter isStr)) := by
  refine ⟨fun strs h => ?_, fun err => ?_, fun h => ?_⟩
  · obtain ⟨h1, h2⟩ := typed_names h
    simp [dynWithoutQueryParams, h1, h2]
  · unfold dynWithoutQueryParams
    split
    · rename_i h
      obtain ⟨v, hv⟩ := withoutQueryParams_total e u (names.filterMap strLike)
      rw [hv]
      simp only [reduceCtorEq, false_iff, not_and, not_exists]
      intro _ n hn
      simp only [List.all_eq_true] at h
      simp [h n hn]
    · rename_i h
      simp only [Bool.not_eq_true, List.all_eq_false] at h
      obtain ⟨n, hn, hh⟩ := h
      constructor
      · intro he; cases he; exact ⟨rfl, n, hn, hh⟩
      · rintro ⟨rfl, _⟩; rfl
  · obtain ⟨h1, h2⟩ := filter_isStr_filterMap names
    simp [dynWithoutQueryParams, h, h1, h2]

/-- instances: `URL("http://h/?a=1").without_query_params(1)`, `…(None)`, `…(b"a")`, `…(("a",))`, `…(object())` return
    the URL unchanged; `…([])`, `…({})`, `…(("a", []))`, `…("a", [])` raise TypeError("unhashable type") -/
theorem C19_dynWithoutQueryParams_instances (e : Env) (u : Url) :
    (∀ i, dynWithoutQueryParams e u [.int i] = .ok u) ∧ dynWithoutQueryParams e u [.none] = .ok u ∧
    (∀ b, dynWithoutQueryParams e u [.bytes b] = .ok u) ∧ (∀ t, dynWithoutQueryParams e u [.other t] = .ok u) ∧
    (∀ xs, dynWithoutQueryParams e u [.list xs] = .error .typeError) ∧
    (∀ xs, dynWithoutQueryParams e u [.dict xs] = .error .typeError) ∧
    (∀ s xs, dynWithoutQueryParams e u [.str s, .list xs] = .error .typeError) ∧
    (∀ s xs, dynWithoutQueryParams e u [.tuple [.str s, .list xs]] = .error .typeError) := by
  have h0 : withoutQueryParams e u [] = .ok u := by simp [withoutQueryParams, pure, Except.pure]
  refine ⟨fun _ => ?_, ?_, fun _ => ?_, fun _ => ?_, fun _ => ?_, fun _ => ?_, fun _ _ => ?_, fun _ _ => ?_⟩ <;>
    simp [dynWithoutQueryParams, hashable, hashableAll, strLike, h0, List.filterMap_cons]

/-! ## (e) the bool flags given as arbitrary objects -/

/-- `encoded=`, `keep_query=`, `keep_fragment=` are only TESTED by the code (`if not encoded`, `… if keep_query else ""`):
    an arbitrary object acts as `bool(o)`, no exception can come from a flag, and with real bools the entry points are the
    ones of Dyn.lean — so their error theorems (`C19_dyn_errors_allowed`, `C19_dyn_type_errors`, the `with_path` /
    `joinpath` tables) transfer unchanged -/
theorem C19_dyn_flags (e : Env) (u : Url) :
    (∀ p enc kq kf, dynWithPathFlags e u p enc kq kf = dynWithPath e u p (truthy enc) (truthy kq) (truthy kf)) ∧
    (∀ n kq kf, dynWithNameFlags e u n kq kf = dynWithName e u n (truthy kq) (truthy kf)) ∧
    (∀ n kq kf, dynWithSuffixFlags e u n kq kf = dynWithSuffix e u n (truthy kq) (truthy kf)) ∧
    (∀ xs enc, dynJoinpathFlag e u xs enc = dynJoinpath e u xs (truthy enc)) ∧
    (∀ p a b c, dynWithPathFlags e u p (.bool a) (.bool b) (.bool c) = dynWithPath e u p a b c) ∧
    (∀ n a b, dynWithNameFlags e u n (.bool a) (.bool b) = dynWithName e u n a b) ∧
    (∀ n a b, dynWithSuffixFlags e u n (.bool a) (.bool b) = dynWithSuffix e u n a b) ∧
    (∀ xs a, dynJoinpathFlag e u xs (.bool a) = dynJoinpath e u xs a) ∧
    (∀ n kq kf err, dynWithNameFlags e u n kq kf = .error err → Allowed err) ∧
    (∀ n kq kf err, dynWithSuffixFlags e u n kq kf = .error err → Allowed err) ∧
    (∀ n kq kf, dynWithNameFlags e u n kq kf = .error .typeError ↔ strLike n = none) ∧
    (∀ n kq kf, dynWithSuffixFlags e u n kq kf = .error .typeError ↔ strLike n = none) :=
  ⟨fun _ _ _ _ => rfl, fun _ _ _ => rfl, fun _ _ _ => rfl, fun _ _ => rfl, fun _ _ _ _ => rfl, fun _ _ _ => rfl,
   fun _ _ _ => rfl, fun _ _ => rfl,
   fun n kq kf err h => (C19_dyn_errors_allowed e u n err).2.2.2.2.2.2.2.1 (truthy kq) (truthy kf) h,
   fun n kq kf err h => (C19_dyn_errors_allowed e u n err).2.2.2.2.2.2.2.2.1 (truthy kq) (truthy kf) h,
   fun n kq kf => (C19_dyn_type_errors e u n).2.2.2.2.2.2.1 (truthy kq) (truthy kf),
   fun n kq kf => (C19_dyn_type_errors e u n).2.2.2.2.2.2.2.1 (truthy kq) (truthy kf)⟩

/-- `bool(o)` of the probe values: None, 0, False, 0.0, "", b"", (), [], {}, URL("") are falsy; everything else —
    `object()` included — is truthy -/
theorem C19_dyn_truthy_table :
    truthy .none = false ∧ (∀ b, truthy (.bool b) = b) ∧ (∀ i, truthy (.int i) = decide (i ≠ 0)) ∧
    truthy (.float [48, 46, 48] 0) = false ∧ truthy (.float [49, 46, 53] 0) = true ∧
    truthy (.str []) = false ∧ (∀ c s, truthy (.str (c :: s)) = true) ∧
    truthy (.strSub []) = false ∧ (∀ c s, truthy (.strSub (c :: s)) = true) ∧
    truthy (.bytes []) = false ∧ (∀ c s, truthy (.bytes (c :: s)) = true) ∧
    truthy (.tuple []) = false ∧ (∀ x xs, truthy (.tuple (x :: xs)) = true) ∧
    truthy (.list []) = false ∧ (∀ x xs, truthy (.list (x :: xs)) = true) ∧
    truthy (.dict []) = false ∧ (∀ x xs, truthy (.dict (x :: xs)) = true) ∧
    (∀ v, truthy (.url v) = v.truthy) ∧ (∀ t, truthy (.other t) = true) := by
  refine ⟨rfl, fun _ => rfl, fun _ => ?_, by decide, by decide, rfl, fun _ _ => rfl, rfl, fun _ _ => rfl, rfl,
    fun _ _ => rfl, rfl, fun _ _ => rfl, rfl, fun _ _ => rfl, rfl, fun _ _ => rfl, fun _ => rfl, fun _ => rfl⟩
  simp [truthy]

/-! ## non-vacuity -/

example : (BuildKw.resolve
    { scheme := some (.strSub [104]), user := some .none, port := some (.int 81),
      query := some (.dict [(.int 1, .int 2)]), encoded := some (.other 0) }).Typed := by
  constructor <;> first | rfl | exact .inl rfl | exact .inr rfl
example : ¬ (BuildKw.resolve { port := some (.bool true) }).Typed := fun h => by
  rcases h.port with h | h <;> cases h
example : (BuildKw.resolve { authority := some (.int 1), user := some (.list [.int 0]) }).conflict := .inl rfl
example : (BuildKw.resolve { port := some (.int 81), host := some (.list []) }).conflict := .inr (.inl rfl)
example : (BuildKw.resolve { query := some (.other 0), queryString := some (.int 1) }).conflict := .inr (.inr rfl)
example : ¬ (BuildKw.resolve { port := some (.bool true), host := some (.list []) }).conflict := by
  rintro (h | h | h) <;> cases h
example : [PyObj.strSub [97], .str [98]].map strLike = [[97], [98]].map some := by decide
example : truthy (.tuple [.str [97]]) = true ∧ isStr (.tuple [.str [97]]) = false ∧
    hostObjErr (.tuple [.str [97]]) = .attributeError := by decide

/-- `URL("http://h/p")`, the URL among the probe objects: as a keyword object it is looked at for its truth value -/
theorem pU_hp : pU [104, 116, 116, 112, 58, 47, 47, 104, 47, 112] =
    { scheme := [104, 116, 116, 112], netloc := [104], path := [47, 112], query := [], fragment := [],
      pre := some { rawHost := some [104], explicitPort := none, rawUser := none, rawPassword := none } } := by
  decide +kernel

/-- `URL("http://h/p?a=1&b=2&a=3#f")`, the receiver of the `without_query_params` rows -/
theorem pU_three :
    pU [104, 116, 116, 112, 58, 47, 47, 104, 47, 112, 63, 97, 61, 49, 38, 98, 61, 50, 38, 97, 61, 51, 35, 102] =
    { scheme := [104, 116, 116, 112], netloc := [104], path := [47, 112],
      query := [97, 61, 49, 38, 98, 61, 50, 38, 97, 61, 51], fragment := [102],
      pre := some { rawHost := some [104], explicitPort := none, rawUser := none, rawPassword := none } } := by
  decide +kernel

/-! ## the probe table: every keyword × {None, 0, 1, True, b"x", "", "x", [], object()} and more shapes (alone, next to a
    host, with `encoded=True`), the conflict combinations and the order of the checks, `without_query_params`, the flags.
    Outcomes of the real library (`cd /repo && /venv/bin/python /verif/harness/sub/dynbuild_probe.py real`, same with
    YARL_NO_EXTENSIONS=1); the Python call is quoted above each row. -/
-- URL.build(scheme=None)
example : showP pe (dynBuild pe { scheme := some .none }) = .err .typeError := by decide +kernel
-- URL.build(scheme=0)
example : showP pe (dynBuild pe { scheme := some (.int (0)) }) = .err .attributeError := by decide +kernel
-- URL.build(scheme=1)
example : showP pe (dynBuild pe { scheme := some (.int (1)) }) = .err .attributeError := by decide +kernel
-- URL.build(scheme=True)
example : showP pe (dynBuild pe { scheme := some (.bool true) }) = .err .attributeError := by decide +kernel
-- URL.build(scheme=b'x')
example : showP pe (dynBuild pe { scheme := some (.bytes [120]) }) = .garbage 0 := by decide +kernel
-- URL.build(scheme='')
example : showP pe (dynBuild pe { scheme := some (.str []) }) = .ok [] := by decide +kernel
-- URL.build(scheme='x')
example : showP pe (dynBuild pe { scheme := some (.str [120]) }) = .ok [120, 58] := by decide +kernel
-- URL.build(scheme=[])
example : showP pe (dynBuild pe { scheme := some (.list []) }) = .err .attributeError := by decide +kernel
-- URL.build(scheme=object())
example : showP pe (dynBuild pe { scheme := some (.other 0) }) = .err .attributeError := by decide +kernel
-- URL.build(scheme=False)
example : showP pe (dynBuild pe { scheme := some (.bool false) }) = .err .attributeError := by decide +kernel
-- URL.build(scheme=b'')
example : showP pe (dynBuild pe { scheme := some (.bytes []) }) = .garbage 0 := by decide +kernel
-- URL.build(scheme=())
example : showP pe (dynBuild pe { scheme := some (.tuple []) }) = .err .attributeError := by decide +kernel
-- URL.build(scheme=('a',))
example : showP pe (dynBuild pe { scheme := some (.tuple [(.str [97])]) }) = .err .attributeError := by decide +kernel
-- URL.build(scheme={})
example : showP pe (dynBuild pe { scheme := some (.dict []) }) = .err .attributeError := by decide +kernel
-- URL.build(scheme={'a': 1})
example : showP pe (dynBuild pe { scheme := some (.dict [((.str [97]), (.int (1)))]) }) = .err .attributeError := by decide +kernel
-- URL.build(scheme=S('x'))
example : showP pe (dynBuild pe { scheme := some (.strSub [120]) }) = .ok [120, 58] := by decide +kernel
-- URL.build(scheme=1.5)
example : showP pe (dynBuild pe { scheme := some (.float [49, 46, 53] 0) }) = .err .attributeError := by decide +kernel
-- URL.build(scheme=0.0)
example : showP pe (dynBuild pe { scheme := some (.float [48, 46, 48] 0) }) = .err .attributeError := by decide +kernel
-- URL.build(scheme=URL('http://h/p'))
example : showP pe (dynBuild pe { scheme := some (.url (pU [104, 116, 116, 112, 58, 47, 47, 104, 47, 112])) }) = .err .attributeError := by decide +kernel
-- URL.build(scheme=URL(''))
example : showP pe (dynBuild pe { scheme := some (.url (pU [])) }) = .err .attributeError := by decide +kernel
-- URL.build(scheme=SplitResult('http', 'h', '', '', ''))
example : showP pe (dynBuild pe { scheme := some (.splitResult [[104, 116, 116, 112], [104], [], [], []]) }) = .err .attributeError := by decide +kernel
-- URL.build(scheme=['a'])
example : showP pe (dynBuild pe { scheme := some (.list [(.str [97])]) }) = .err .attributeError := by decide +kernel
-- URL.build(scheme=('a', []))
example : showP pe (dynBuild pe { scheme := some (.tuple [(.str [97]), (.list [])]) }) = .err .attributeError := by decide +kernel
-- URL.build(authority=None)
example : showP pe (dynBuild pe { authority := some .none }) = .err .typeError := by decide +kernel
-- URL.build(authority=0)
example : showP pe (dynBuild pe { authority := some (.int (0)) }) = .ok [] := by decide +kernel
-- URL.build(authority=1)
example : showP pe (dynBuild pe { authority := some (.int (1)) }) = .err .attributeError := by decide +kernel
-- URL.build(authority=True)
example : showP pe (dynBuild pe { authority := some (.bool true) }) = .err .attributeError := by decide +kernel
-- URL.build(authority=b'x')
example : showP pe (dynBuild pe { authority := some (.bytes [120]) }) = .err .typeError := by decide +kernel
-- URL.build(authority='')
example : showP pe (dynBuild pe { authority := some (.str []) }) = .ok [] := by decide +kernel
-- URL.build(authority='x')
example : showP pe (dynBuild pe { authority := some (.str [120]) }) = .ok [47, 47, 120] := by decide +kernel
-- URL.build(authority=[])
example : showP pe (dynBuild pe { authority := some (.list []) }) = .ok [] := by decide +kernel
-- URL.build(authority=object())
example : showP pe (dynBuild pe { authority := some (.other 0) }) = .err .attributeError := by decide +kernel
-- URL.build(authority=False)
example : showP pe (dynBuild pe { authority := some (.bool false) }) = .ok [] := by decide +kernel
-- URL.build(authority=b'')
example : showP pe (dynBuild pe { authority := some (.bytes []) }) = .ok [] := by decide +kernel
-- URL.build(authority=())
example : showP pe (dynBuild pe { authority := some (.tuple []) }) = .ok [] := by decide +kernel
-- URL.build(authority=('a',))
example : showP pe (dynBuild pe { authority := some (.tuple [(.str [97])]) }) = .err .attributeError := by decide +kernel
-- URL.build(authority={})
example : showP pe (dynBuild pe { authority := some (.dict []) }) = .ok [] := by decide +kernel
-- URL.build(authority={'a': 1})
example : showP pe (dynBuild pe { authority := some (.dict [((.str [97]), (.int (1)))]) }) = .err .attributeError := by decide +kernel
-- URL.build(authority=S('x'))
example : showP pe (dynBuild pe { authority := some (.strSub [120]) }) = .ok [47, 47, 120] := by decide +kernel
-- URL.build(authority=1.5)
example : showP pe (dynBuild pe { authority := some (.float [49, 46, 53] 0) }) = .err .attributeError := by decide +kernel
-- URL.build(authority=0.0)
example : showP pe (dynBuild pe { authority := some (.float [48, 46, 48] 0) }) = .ok [] := by decide +kernel
-- URL.build(authority=URL('http://h/p'))
example : showP pe (dynBuild pe { authority := some (.url (pU [104, 116, 116, 112, 58, 47, 47, 104, 47, 112])) }) = .err .attributeError := by rw [pU_hp]; decide +kernel
-- URL.build(authority=URL(''))
example : showP pe (dynBuild pe { authority := some (.url (pU [])) }) = .ok [] := by decide +kernel
-- URL.build(authority=SplitResult('http', 'h', '', '', ''))
example : showP pe (dynBuild pe { authority := some (.splitResult [[104, 116, 116, 112], [104], [], [], []]) }) = .err .attributeError := by decide +kernel
-- URL.build(authority=['a'])
example : showP pe (dynBuild pe { authority := some (.list [(.str [97])]) }) = .err .attributeError := by decide +kernel
-- URL.build(authority=('a', []))
example : showP pe (dynBuild pe { authority := some (.tuple [(.str [97]), (.list [])]) }) = .err .attributeError := by decide +kernel
-- URL.build(user=None)
example : showP pe (dynBuild pe { user := some .none }) = .ok [] := by decide +kernel
-- URL.build(user=0)
example : showP pe (dynBuild pe { user := some (.int (0)) }) = .ok [] := by decide +kernel
-- URL.build(user=1)
example : showP pe (dynBuild pe { user := some (.int (1)) }) = .ok [] := by decide +kernel
-- URL.build(user=True)
example : showP pe (dynBuild pe { user := some (.bool true) }) = .ok [] := by decide +kernel
-- URL.build(user=b'x')
example : showP pe (dynBuild pe { user := some (.bytes [120]) }) = .ok [] := by decide +kernel
-- URL.build(user='')
example : showP pe (dynBuild pe { user := some (.str []) }) = .ok [] := by decide +kernel
-- URL.build(user='x')
example : showP pe (dynBuild pe { user := some (.str [120]) }) = .ok [] := by decide +kernel
-- URL.build(user=[])
example : showP pe (dynBuild pe { user := some (.list []) }) = .ok [] := by decide +kernel
-- URL.build(user=object())
example : showP pe (dynBuild pe { user := some (.other 0) }) = .ok [] := by decide +kernel
-- URL.build(user=False)
example : showP pe (dynBuild pe { user := some (.bool false) }) = .ok [] := by decide +kernel
-- URL.build(user=b'')
example : showP pe (dynBuild pe { user := some (.bytes []) }) = .ok [] := by decide +kernel
-- URL.build(user=())
example : showP pe (dynBuild pe { user := some (.tuple []) }) = .ok [] := by decide +kernel
-- URL.build(user=('a',))
example : showP pe (dynBuild pe { user := some (.tuple [(.str [97])]) }) = .ok [] := by decide +kernel
-- URL.build(user={})
example : showP pe (dynBuild pe { user := some (.dict []) }) = .ok [] := by decide +kernel
-- URL.build(user={'a': 1})
example : showP pe (dynBuild pe { user := some (.dict [((.str [97]), (.int (1)))]) }) = .ok [] := by decide +kernel
-- URL.build(user=S('x'))
example : showP pe (dynBuild pe { user := some (.strSub [120]) }) = .ok [] := by decide +kernel
-- URL.build(user=1.5)
example : showP pe (dynBuild pe { user := some (.float [49, 46, 53] 0) }) = .ok [] := by decide +kernel
-- URL.build(user=0.0)
example : showP pe (dynBuild pe { user := some (.float [48, 46, 48] 0) }) = .ok [] := by decide +kernel
-- URL.build(user=URL('http://h/p'))
example : showP pe (dynBuild pe { user := some (.url (pU [104, 116, 116, 112, 58, 47, 47, 104, 47, 112])) }) = .ok [] := by decide +kernel
-- URL.build(user=URL(''))
example : showP pe (dynBuild pe { user := some (.url (pU [])) }) = .ok [] := by decide +kernel
-- URL.build(user=SplitResult('http', 'h', '', '', ''))
example : showP pe (dynBuild pe { user := some (.splitResult [[104, 116, 116, 112], [104], [], [], []]) }) = .ok [] := by decide +kernel
-- URL.build(user=['a'])
example : showP pe (dynBuild pe { user := some (.list [(.str [97])]) }) = .ok [] := by decide +kernel
-- URL.build(user=('a', []))
example : showP pe (dynBuild pe { user := some (.tuple [(.str [97]), (.list [])]) }) = .ok [] := by decide +kernel
-- URL.build(password=None)
example : showP pe (dynBuild pe { password := some .none }) = .ok [] := by decide +kernel
-- URL.build(password=0)
example : showP pe (dynBuild pe { password := some (.int (0)) }) = .ok [] := by decide +kernel
-- URL.build(password=1)
example : showP pe (dynBuild pe { password := some (.int (1)) }) = .ok [] := by decide +kernel
-- URL.build(password=True)
example : showP pe (dynBuild pe { password := some (.bool true) }) = .ok [] := by decide +kernel
-- URL.build(password=b'x')
example : showP pe (dynBuild pe { password := some (.bytes [120]) }) = .ok [] := by decide +kernel
-- URL.build(password='')
example : showP pe (dynBuild pe { password := some (.str []) }) = .ok [] := by decide +kernel
-- URL.build(password='x')
example : showP pe (dynBuild pe { password := some (.str [120]) }) = .ok [] := by decide +kernel
-- URL.build(password=[])
example : showP pe (dynBuild pe { password := some (.list []) }) = .ok [] := by decide +kernel
-- URL.build(password=object())
example : showP pe (dynBuild pe { password := some (.other 0) }) = .ok [] := by decide +kernel
-- URL.build(password=False)
example : showP pe (dynBuild pe { password := some (.bool false) }) = .ok [] := by decide +kernel
-- URL.build(password=b'')
example : showP pe (dynBuild pe { password := some (.bytes []) }) = .ok [] := by decide +kernel
-- URL.build(password=())
example : showP pe (dynBuild pe { password := some (.tuple []) }) = .ok [] := by decide +kernel
-- URL.build(password=('a',))
example : showP pe (dynBuild pe { password := some (.tuple [(.str [97])]) }) = .ok [] := by decide +kernel
-- URL.build(password={})
example : showP pe (dynBuild pe { password := some (.dict []) }) = .ok [] := by decide +kernel
-- URL.build(password={'a': 1})
example : showP pe (dynBuild pe { password := some (.dict [((.str [97]), (.int (1)))]) }) = .ok [] := by decide +kernel
-- URL.build(password=S('x'))
example : showP pe (dynBuild pe { password := some (.strSub [120]) }) = .ok [] := by decide +kernel
-- URL.build(password=1.5)
example : showP pe (dynBuild pe { password := some (.float [49, 46, 53] 0) }) = .ok [] := by decide +kernel
-- URL.build(password=0.0)
example : showP pe (dynBuild pe { password := some (.float [48, 46, 48] 0) }) = .ok [] := by decide +kernel
-- URL.build(password=URL('http://h/p'))
example : showP pe (dynBuild pe { password := some (.url (pU [104, 116, 116, 112, 58, 47, 47, 104, 47, 112])) }) = .ok [] := by decide +kernel
-- URL.build(password=URL(''))
example : showP pe (dynBuild pe { password := some (.url (pU [])) }) = .ok [] := by decide +kernel
-- URL.build(password=SplitResult('http', 'h', '', '', ''))
example : showP pe (dynBuild pe { password := some (.splitResult [[104, 116, 116, 112], [104], [], [], []]) }) = .ok [] := by decide +kernel
-- URL.build(password=['a'])
example : showP pe (dynBuild pe { password := some (.list [(.str [97])]) }) = .ok [] := by decide +kernel
-- URL.build(password=('a', []))
example : showP pe (dynBuild pe { password := some (.tuple [(.str [97]), (.list [])]) }) = .ok [] := by decide +kernel
-- URL.build(host=None)
example : showP pe (dynBuild pe { host := some .none }) = .err .typeError := by decide +kernel
-- URL.build(host=0)
example : showP pe (dynBuild pe { host := some (.int (0)) }) = .ok [] := by decide +kernel
-- URL.build(host=1)
example : showP pe (dynBuild pe { host := some (.int (1)) }) = .err .typeError := by decide +kernel
-- URL.build(host=True)
example : showP pe (dynBuild pe { host := some (.bool true) }) = .err .typeError := by decide +kernel
-- URL.build(host=b'x')
example : showP pe (dynBuild pe { host := some (.bytes [120]) }) = .err .attributeError := by decide +kernel
-- URL.build(host='')
example : showP pe (dynBuild pe { host := some (.str []) }) = .ok [] := by decide +kernel
-- URL.build(host='x')
example : showP pe (dynBuild pe { host := some (.str [120]) }) = .ok [47, 47, 120] := by decide +kernel
-- URL.build(host=[])
example : showP pe (dynBuild pe { host := some (.list []) }) = .ok [] := by decide +kernel
-- URL.build(host=object())
example : showP pe (dynBuild pe { host := some (.other 0) }) = .err .typeError := by decide +kernel
-- URL.build(host=False)
example : showP pe (dynBuild pe { host := some (.bool false) }) = .ok [] := by decide +kernel
-- URL.build(host=b'')
example : showP pe (dynBuild pe { host := some (.bytes []) }) = .ok [] := by decide +kernel
-- URL.build(host=())
example : showP pe (dynBuild pe { host := some (.tuple []) }) = .ok [] := by decide +kernel
-- URL.build(host=('a',))
example : showP pe (dynBuild pe { host := some (.tuple [(.str [97])]) }) = .err .attributeError := by decide +kernel
-- URL.build(host={})
example : showP pe (dynBuild pe { host := some (.dict []) }) = .ok [] := by decide +kernel
-- URL.build(host={'a': 1})
example : showP pe (dynBuild pe { host := some (.dict [((.str [97]), (.int (1)))]) }) = .err .typeError := by decide +kernel
-- URL.build(host=S('x'))
example : showP pe (dynBuild pe { host := some (.strSub [120]) }) = .ok [47, 47, 120] := by decide +kernel
-- URL.build(host=1.5)
example : showP pe (dynBuild pe { host := some (.float [49, 46, 53] 0) }) = .err .typeError := by decide +kernel
-- URL.build(host=0.0)
example : showP pe (dynBuild pe { host := some (.float [48, 46, 48] 0) }) = .ok [] := by decide +kernel
-- URL.build(host=URL('http://h/p'))
example : showP pe (dynBuild pe { host := some (.url (pU [104, 116, 116, 112, 58, 47, 47, 104, 47, 112])) }) = .err .typeError := by rw [pU_hp]; decide +kernel
-- URL.build(host=URL(''))
example : showP pe (dynBuild pe { host := some (.url (pU [])) }) = .ok [] := by decide +kernel
-- URL.build(host=SplitResult('http', 'h', '', '', ''))
example : showP pe (dynBuild pe { host := some (.splitResult [[104, 116, 116, 112], [104], [], [], []]) }) = .err .attributeError := by decide +kernel
-- URL.build(host=['a'])
example : showP pe (dynBuild pe { host := some (.list [(.str [97])]) }) = .err .typeError := by decide +kernel
-- URL.build(host=('a', []))
example : showP pe (dynBuild pe { host := some (.tuple [(.str [97]), (.list [])]) }) = .err .typeError := by decide +kernel
-- URL.build(port=None)
example : showP pe (dynBuild pe { port := some .none }) = .ok [] := by decide +kernel
-- URL.build(port=0)
example : showP pe (dynBuild pe { port := some (.int (0)) }) = .err .valueError := by decide +kernel
-- URL.build(port=1)
example : showP pe (dynBuild pe { port := some (.int (1)) }) = .err .valueError := by decide +kernel
-- URL.build(port=True)
example : showP pe (dynBuild pe { port := some (.bool true) }) = .err .typeError := by decide +kernel
-- URL.build(port=b'x')
example : showP pe (dynBuild pe { port := some (.bytes [120]) }) = .err .typeError := by decide +kernel
-- URL.build(port='')
example : showP pe (dynBuild pe { port := some (.str []) }) = .err .typeError := by decide +kernel
-- URL.build(port='x')
example : showP pe (dynBuild pe { port := some (.str [120]) }) = .err .typeError := by decide +kernel
-- URL.build(port=[])
example : showP pe (dynBuild pe { port := some (.list []) }) = .err .typeError := by decide +kernel
-- URL.build(port=object())
example : showP pe (dynBuild pe { port := some (.other 0) }) = .err .typeError := by decide +kernel
-- URL.build(port=False)
example : showP pe (dynBuild pe { port := some (.bool false) }) = .err .typeError := by decide +kernel
-- URL.build(port=b'')
example : showP pe (dynBuild pe { port := some (.bytes []) }) = .err .typeError := by decide +kernel
-- URL.build(port=())
example : showP pe (dynBuild pe { port := some (.tuple []) }) = .err .typeError := by decide +kernel
-- URL.build(port=('a',))
example : showP pe (dynBuild pe { port := some (.tuple [(.str [97])]) }) = .err .typeError := by decide +kernel
-- URL.build(port={})
example : showP pe (dynBuild pe { port := some (.dict []) }) = .err .typeError := by decide +kernel
-- URL.build(port={'a': 1})
example : showP pe (dynBuild pe { port := some (.dict [((.str [97]), (.int (1)))]) }) = .err .typeError := by decide +kernel
-- URL.build(port=S('x'))
example : showP pe (dynBuild pe { port := some (.strSub [120]) }) = .err .typeError := by decide +kernel
-- URL.build(port=1.5)
example : showP pe (dynBuild pe { port := some (.float [49, 46, 53] 0) }) = .err .typeError := by decide +kernel
-- URL.build(port=0.0)
example : showP pe (dynBuild pe { port := some (.float [48, 46, 48] 0) }) = .err .typeError := by decide +kernel
-- URL.build(port=URL('http://h/p'))
example : showP pe (dynBuild pe { port := some (.url (pU [104, 116, 116, 112, 58, 47, 47, 104, 47, 112])) }) = .err .typeError := by decide +kernel
-- URL.build(port=URL(''))
example : showP pe (dynBuild pe { port := some (.url (pU [])) }) = .err .typeError := by decide +kernel
-- URL.build(port=SplitResult('http', 'h', '', '', ''))
example : showP pe (dynBuild pe { port := some (.splitResult [[104, 116, 116, 112], [104], [], [], []]) }) = .err .typeError := by decide +kernel
-- URL.build(port=['a'])
example : showP pe (dynBuild pe { port := some (.list [(.str [97])]) }) = .err .typeError := by decide +kernel
-- URL.build(port=('a', []))
example : showP pe (dynBuild pe { port := some (.tuple [(.str [97]), (.list [])]) }) = .err .typeError := by decide +kernel
-- URL.build(path=None)
example : showP pe (dynBuild pe { path := some .none }) = .err .typeError := by decide +kernel
-- URL.build(path=0)
example : showP pe (dynBuild pe { path := some (.int (0)) }) = .garbage 0 := by decide +kernel
-- URL.build(path=1)
example : showP pe (dynBuild pe { path := some (.int (1)) }) = .err .typeError := by decide +kernel
-- URL.build(path=True)
example : showP pe (dynBuild pe { path := some (.bool true) }) = .err .typeError := by decide +kernel
-- URL.build(path=b'x')
example : showP pe (dynBuild pe { path := some (.bytes [120]) }) = .err .typeError := by decide +kernel
-- URL.build(path='')
example : showP pe (dynBuild pe { path := some (.str []) }) = .ok [] := by decide +kernel
-- URL.build(path='x')
example : showP pe (dynBuild pe { path := some (.str [120]) }) = .ok [120] := by decide +kernel
-- URL.build(path=[])
example : showP pe (dynBuild pe { path := some (.list []) }) = .garbage 0 := by decide +kernel
-- URL.build(path=object())
example : showP pe (dynBuild pe { path := some (.other 0) }) = .err .typeError := by decide +kernel
-- URL.build(path=False)
example : showP pe (dynBuild pe { path := some (.bool false) }) = .garbage 0 := by decide +kernel
-- URL.build(path=b'')
example : showP pe (dynBuild pe { path := some (.bytes []) }) = .garbage 0 := by decide +kernel
-- URL.build(path=())
example : showP pe (dynBuild pe { path := some (.tuple []) }) = .garbage 0 := by decide +kernel
-- URL.build(path=('a',))
example : showP pe (dynBuild pe { path := some (.tuple [(.str [97])]) }) = .err .typeError := by decide +kernel
-- URL.build(path={})
example : showP pe (dynBuild pe { path := some (.dict []) }) = .garbage 0 := by decide +kernel
-- URL.build(path={'a': 1})
example : showP pe (dynBuild pe { path := some (.dict [((.str [97]), (.int (1)))]) }) = .err .typeError := by decide +kernel
-- URL.build(path=S('x'))
example : showP pe (dynBuild pe { path := some (.strSub [120]) }) = .ok [120] := by decide +kernel
-- URL.build(path=1.5)
example : showP pe (dynBuild pe { path := some (.float [49, 46, 53] 0) }) = .err .typeError := by decide +kernel
-- URL.build(path=0.0)
example : showP pe (dynBuild pe { path := some (.float [48, 46, 48] 0) }) = .garbage 0 := by decide +kernel
-- URL.build(path=URL('http://h/p'))
example : showP pe (dynBuild pe { path := some (.url (pU [104, 116, 116, 112, 58, 47, 47, 104, 47, 112])) }) = .err .typeError := by rw [pU_hp]; decide +kernel
-- URL.build(path=URL(''))
example : showP pe (dynBuild pe { path := some (.url (pU [])) }) = .garbage 0 := by decide +kernel
-- URL.build(path=SplitResult('http', 'h', '', '', ''))
example : showP pe (dynBuild pe { path := some (.splitResult [[104, 116, 116, 112], [104], [], [], []]) }) = .err .typeError := by decide +kernel
-- URL.build(path=['a'])
example : showP pe (dynBuild pe { path := some (.list [(.str [97])]) }) = .err .typeError := by decide +kernel
-- URL.build(path=('a', []))
example : showP pe (dynBuild pe { path := some (.tuple [(.str [97]), (.list [])]) }) = .err .typeError := by decide +kernel
-- URL.build(query=None)
example : showP pe (dynBuild pe { query := some .none }) = .ok [] := by decide +kernel
-- URL.build(query=0)
example : showP pe (dynBuild pe { query := some (.int (0)) }) = .ok [] := by decide +kernel
-- URL.build(query=1)
example : showP pe (dynBuild pe { query := some (.int (1)) }) = .err .typeError := by decide +kernel
-- URL.build(query=True)
example : showP pe (dynBuild pe { query := some (.bool true) }) = .err .typeError := by decide +kernel
-- URL.build(query=b'x')
example : showP pe (dynBuild pe { query := some (.bytes [120]) }) = .err .typeError := by decide +kernel
-- URL.build(query='')
example : showP pe (dynBuild pe { query := some (.str []) }) = .ok [] := by decide +kernel
-- URL.build(query='x')
example : showP pe (dynBuild pe { query := some (.str [120]) }) = .ok [63, 120] := by decide +kernel
-- URL.build(query=[])
example : showP pe (dynBuild pe { query := some (.list []) }) = .ok [] := by decide +kernel
-- URL.build(query=object())
example : showP pe (dynBuild pe { query := some (.other 0) }) = .err .typeError := by decide +kernel
-- URL.build(query=False)
example : showP pe (dynBuild pe { query := some (.bool false) }) = .ok [] := by decide +kernel
-- URL.build(query=b'')
example : showP pe (dynBuild pe { query := some (.bytes []) }) = .ok [] := by decide +kernel
-- URL.build(query=())
example : showP pe (dynBuild pe { query := some (.tuple []) }) = .ok [] := by decide +kernel
-- URL.build(query=('a',))
example : showP pe (dynBuild pe { query := some (.tuple [(.str [97])]) }) = .err .valueError := by decide +kernel
-- URL.build(query={})
example : showP pe (dynBuild pe { query := some (.dict []) }) = .ok [] := by decide +kernel
-- URL.build(query={'a': 1})
example : showP pe (dynBuild pe { query := some (.dict [((.str [97]), (.int (1)))]) }) = .ok [63, 97, 61, 49] := by decide +kernel
-- URL.build(query=S('x'))
example : showP pe (dynBuild pe { query := some (.strSub [120]) }) = .ok [63, 120] := by decide +kernel
-- URL.build(query=1.5)
example : showP pe (dynBuild pe { query := some (.float [49, 46, 53] 0) }) = .err .typeError := by decide +kernel
-- URL.build(query=0.0)
example : showP pe (dynBuild pe { query := some (.float [48, 46, 48] 0) }) = .ok [] := by decide +kernel
-- URL.build(query=URL('http://h/p'))
example : showP pe (dynBuild pe { query := some (.url (pU [104, 116, 116, 112, 58, 47, 47, 104, 47, 112])) }) = .err .typeError := by rw [pU_hp]; decide +kernel
-- URL.build(query=URL(''))
example : showP pe (dynBuild pe { query := some (.url (pU [])) }) = .ok [] := by decide +kernel
-- URL.build(query=SplitResult('http', 'h', '', '', ''))
example : showP pe (dynBuild pe { query := some (.splitResult [[104, 116, 116, 112], [104], [], [], []]) }) = .err .valueError := by decide +kernel
-- URL.build(query=['a'])
example : showP pe (dynBuild pe { query := some (.list [(.str [97])]) }) = .err .valueError := by decide +kernel
-- URL.build(query=('a', []))
example : showP pe (dynBuild pe { query := some (.tuple [(.str [97]), (.list [])]) }) = .err .valueError := by decide +kernel
-- URL.build(query_string=None)
example : showP pe (dynBuild pe { queryString := some .none }) = .err .typeError := by decide +kernel
-- URL.build(query_string=0)
example : showP pe (dynBuild pe { queryString := some (.int (0)) }) = .garbage 0 := by decide +kernel
-- URL.build(query_string=1)
example : showP pe (dynBuild pe { queryString := some (.int (1)) }) = .err .typeError := by decide +kernel
-- URL.build(query_string=True)
example : showP pe (dynBuild pe { queryString := some (.bool true) }) = .err .typeError := by decide +kernel
-- URL.build(query_string=b'x')
example : showP pe (dynBuild pe { queryString := some (.bytes [120]) }) = .err .typeError := by decide +kernel
-- URL.build(query_string='')
example : showP pe (dynBuild pe { queryString := some (.str []) }) = .ok [] := by decide +kernel
-- URL.build(query_string='x')
example : showP pe (dynBuild pe { queryString := some (.str [120]) }) = .ok [63, 120] := by decide +kernel
-- URL.build(query_string=[])
example : showP pe (dynBuild pe { queryString := some (.list []) }) = .garbage 0 := by decide +kernel
-- URL.build(query_string=object())
example : showP pe (dynBuild pe { queryString := some (.other 0) }) = .err .typeError := by decide +kernel
-- URL.build(query_string=False)
example : showP pe (dynBuild pe { queryString := some (.bool false) }) = .garbage 0 := by decide +kernel
-- URL.build(query_string=b'')
example : showP pe (dynBuild pe { queryString := some (.bytes []) }) = .garbage 0 := by decide +kernel
-- URL.build(query_string=())
example : showP pe (dynBuild pe { queryString := some (.tuple []) }) = .garbage 0 := by decide +kernel
-- URL.build(query_string=('a',))
example : showP pe (dynBuild pe { queryString := some (.tuple [(.str [97])]) }) = .err .typeError := by decide +kernel
-- URL.build(query_string={})
example : showP pe (dynBuild pe { queryString := some (.dict []) }) = .garbage 0 := by decide +kernel
-- URL.build(query_string={'a': 1})
example : showP pe (dynBuild pe { queryString := some (.dict [((.str [97]), (.int (1)))]) }) = .err .typeError := by decide +kernel
-- URL.build(query_string=S('x'))
example : showP pe (dynBuild pe { queryString := some (.strSub [120]) }) = .ok [63, 120] := by decide +kernel
-- URL.build(query_string=1.5)
example : showP pe (dynBuild pe { queryString := some (.float [49, 46, 53] 0) }) = .err .typeError := by decide +kernel
-- URL.build(query_string=0.0)
example : showP pe (dynBuild pe { queryString := some (.float [48, 46, 48] 0) }) = .garbage 0 := by decide +kernel
-- URL.build(query_string=URL('http://h/p'))
example : showP pe (dynBuild pe { queryString := some (.url (pU [104, 116, 116, 112, 58, 47, 47, 104, 47, 112])) }) = .err .typeError := by rw [pU_hp]; decide +kernel
-- URL.build(query_string=URL(''))
example : showP pe (dynBuild pe { queryString := some (.url (pU [])) }) = .garbage 0 := by decide +kernel
-- URL.build(query_string=SplitResult('http', 'h', '', '', ''))
example : showP pe (dynBuild pe { queryString := some (.splitResult [[104, 116, 116, 112], [104], [], [], []]) }) = .err .typeError := by decide +kernel
-- URL.build(query_string=['a'])
example : showP pe (dynBuild pe { queryString := some (.list [(.str [97])]) }) = .err .typeError := by decide +kernel
-- URL.build(query_string=('a', []))
example : showP pe (dynBuild pe { queryString := some (.tuple [(.str [97]), (.list [])]) }) = .err .typeError := by decide +kernel
-- URL.build(fragment=None)
example : showP pe (dynBuild pe { fragment := some .none }) = .err .typeError := by decide +kernel
-- URL.build(fragment=0)
example : showP pe (dynBuild pe { fragment := some (.int (0)) }) = .garbage 0 := by decide +kernel
-- URL.build(fragment=1)
example : showP pe (dynBuild pe { fragment := some (.int (1)) }) = .err .typeError := by decide +kernel
-- URL.build(fragment=True)
example : showP pe (dynBuild pe { fragment := some (.bool true) }) = .err .typeError := by decide +kernel
-- URL.build(fragment=b'x')
example : showP pe (dynBuild pe { fragment := some (.bytes [120]) }) = .err .typeError := by decide +kernel
-- URL.build(fragment='')
example : showP pe (dynBuild pe { fragment := some (.str []) }) = .ok [] := by decide +kernel
-- URL.build(fragment='x')
example : showP pe (dynBuild pe { fragment := some (.str [120]) }) = .ok [35, 120] := by decide +kernel
-- URL.build(fragment=[])
example : showP pe (dynBuild pe { fragment := some (.list []) }) = .garbage 0 := by decide +kernel
-- URL.build(fragment=object())
example : showP pe (dynBuild pe { fragment := some (.other 0) }) = .err .typeError := by decide +kernel
-- URL.build(fragment=False)
example : showP pe (dynBuild pe { fragment := some (.bool false) }) = .garbage 0 := by decide +kernel
-- URL.build(fragment=b'')
example : showP pe (dynBuild pe { fragment := some (.bytes []) }) = .garbage 0 := by decide +kernel
-- URL.build(fragment=())
example : showP pe (dynBuild pe { fragment := some (.tuple []) }) = .garbage 0 := by decide +kernel
-- URL.build(fragment=('a',))
example : showP pe (dynBuild pe { fragment := some (.tuple [(.str [97])]) }) = .err .typeError := by decide +kernel
-- URL.build(fragment={})
example : showP pe (dynBuild pe { fragment := some (.dict []) }) = .garbage 0 := by decide +kernel
-- URL.build(fragment={'a': 1})
example : showP pe (dynBuild pe { fragment := some (.dict [((.str [97]), (.int (1)))]) }) = .err .typeError := by decide +kernel
-- URL.build(fragment=S('x'))
example : showP pe (dynBuild pe { fragment := some (.strSub [120]) }) = .ok [35, 120] := by decide +kernel
-- URL.build(fragment=1.5)
example : showP pe (dynBuild pe { fragment := some (.float [49, 46, 53] 0) }) = .err .typeError := by decide +kernel
-- URL.build(fragment=0.0)
example : showP pe (dynBuild pe { fragment := some (.float [48, 46, 48] 0) }) = .garbage 0 := by decide +kernel
-- URL.build(fragment=URL('http://h/p'))
example : showP pe (dynBuild pe { fragment := some (.url (pU [104, 116, 116, 112, 58, 47, 47, 104, 47, 112])) }) = .err .typeError := by rw [pU_hp]; decide +kernel
-- URL.build(fragment=URL(''))
example : showP pe (dynBuild pe { fragment := some (.url (pU [])) }) = .garbage 0 := by decide +kernel
-- URL.build(fragment=SplitResult('http', 'h', '', '', ''))
example : showP pe (dynBuild pe { fragment := some (.splitResult [[104, 116, 116, 112], [104], [], [], []]) }) = .err .typeError := by decide +kernel
-- URL.build(fragment=['a'])
example : showP pe (dynBuild pe { fragment := some (.list [(.str [97])]) }) = .err .typeError := by decide +kernel
-- URL.build(fragment=('a', []))
example : showP pe (dynBuild pe { fragment := some (.tuple [(.str [97]), (.list [])]) }) = .err .typeError := by decide +kernel
-- URL.build(encoded=None)
example : showP pe (dynBuild pe { encoded := some .none }) = .ok [] := by decide +kernel
-- URL.build(encoded=0)
example : showP pe (dynBuild pe { encoded := some (.int (0)) }) = .ok [] := by decide +kernel
-- URL.build(encoded=1)
example : showP pe (dynBuild pe { encoded := some (.int (1)) }) = .ok [] := by decide +kernel
-- URL.build(encoded=True)
example : showP pe (dynBuild pe { encoded := some (.bool true) }) = .ok [] := by decide +kernel
-- URL.build(encoded=b'x')
example : showP pe (dynBuild pe { encoded := some (.bytes [120]) }) = .ok [] := by decide +kernel
-- URL.build(encoded='')
example : showP pe (dynBuild pe { encoded := some (.str []) }) = .ok [] := by decide +kernel
-- URL.build(encoded='x')
example : showP pe (dynBuild pe { encoded := some (.str [120]) }) = .ok [] := by decide +kernel
-- URL.build(encoded=[])
example : showP pe (dynBuild pe { encoded := some (.list []) }) = .ok [] := by decide +kernel
-- URL.build(encoded=object())
example : showP pe (dynBuild pe { encoded := some (.other 0) }) = .ok [] := by decide +kernel
-- URL.build(encoded=False)
example : showP pe (dynBuild pe { encoded := some (.bool false) }) = .ok [] := by decide +kernel
-- URL.build(encoded=b'')
example : showP pe (dynBuild pe { encoded := some (.bytes []) }) = .ok [] := by decide +kernel
-- URL.build(encoded=())
example : showP pe (dynBuild pe { encoded := some (.tuple []) }) = .ok [] := by decide +kernel
-- URL.build(encoded=('a',))
example : showP pe (dynBuild pe { encoded := some (.tuple [(.str [97])]) }) = .ok [] := by decide +kernel
-- URL.build(encoded={})
example : showP pe (dynBuild pe { encoded := some (.dict []) }) = .ok [] := by decide +kernel
-- URL.build(encoded={'a': 1})
example : showP pe (dynBuild pe { encoded := some (.dict [((.str [97]), (.int (1)))]) }) = .ok [] := by decide +kernel
-- URL.build(encoded=S('x'))
example : showP pe (dynBuild pe { encoded := some (.strSub [120]) }) = .ok [] := by decide +kernel
-- URL.build(encoded=1.5)
example : showP pe (dynBuild pe { encoded := some (.float [49, 46, 53] 0) }) = .ok [] := by decide +kernel
-- URL.build(encoded=0.0)
example : showP pe (dynBuild pe { encoded := some (.float [48, 46, 48] 0) }) = .ok [] := by decide +kernel
-- URL.build(encoded=URL('http://h/p'))
example : showP pe (dynBuild pe { encoded := some (.url (pU [104, 116, 116, 112, 58, 47, 47, 104, 47, 112])) }) = .ok [] := by rw [pU_hp]; decide +kernel
-- URL.build(encoded=URL(''))
example : showP pe (dynBuild pe { encoded := some (.url (pU [])) }) = .ok [] := by decide +kernel
-- URL.build(encoded=SplitResult('http', 'h', '', '', ''))
example : showP pe (dynBuild pe { encoded := some (.splitResult [[104, 116, 116, 112], [104], [], [], []]) }) = .ok [] := by decide +kernel
-- URL.build(encoded=['a'])
example : showP pe (dynBuild pe { encoded := some (.list [(.str [97])]) }) = .ok [] := by decide +kernel
-- URL.build(encoded=('a', []))
example : showP pe (dynBuild pe { encoded := some (.tuple [(.str [97]), (.list [])]) }) = .ok [] := by decide +kernel
-- URL.build(host='h', scheme=None)
example : showP pe (dynBuild pe { host := some (.str [104]), scheme := some .none }) = .err .typeError := by decide +kernel
-- URL.build(host='h', scheme=0)
example : showP pe (dynBuild pe { host := some (.str [104]), scheme := some (.int (0)) }) = .err .attributeError := by decide +kernel
-- URL.build(host='h', scheme=1)
example : showP pe (dynBuild pe { host := some (.str [104]), scheme := some (.int (1)) }) = .err .attributeError := by decide +kernel
-- URL.build(host='h', scheme=True)
example : showP pe (dynBuild pe { host := some (.str [104]), scheme := some (.bool true) }) = .err .attributeError := by decide +kernel
-- URL.build(host='h', scheme=b'x')
example : showP pe (dynBuild pe { host := some (.str [104]), scheme := some (.bytes [120]) }) = .garbage 0 := by decide +kernel
-- URL.build(host='h', scheme='')
example : showP pe (dynBuild pe { host := some (.str [104]), scheme := some (.str []) }) = .ok [47, 47, 104] := by decide +kernel
-- URL.build(host='h', scheme='x')
example : showP pe (dynBuild pe { host := some (.str [104]), scheme := some (.str [120]) }) = .ok [120, 58, 47, 47, 104] := by decide +kernel
-- URL.build(host='h', scheme=[])
example : showP pe (dynBuild pe { host := some (.str [104]), scheme := some (.list []) }) = .err .attributeError := by decide +kernel
-- URL.build(host='h', scheme=object())
example : showP pe (dynBuild pe { host := some (.str [104]), scheme := some (.other 0) }) = .err .attributeError := by decide +kernel
-- URL.build(host='h', authority=None)
example : showP pe (dynBuild pe { host := some (.str [104]), authority := some .none }) = .err .typeError := by decide +kernel
-- URL.build(host='h', authority=0)
example : showP pe (dynBuild pe { host := some (.str [104]), authority := some (.int (0)) }) = .ok [47, 47, 104] := by decide +kernel
-- URL.build(host='h', authority=1)
example : showP pe (dynBuild pe { host := some (.str [104]), authority := some (.int (1)) }) = .err .valueError := by decide +kernel
-- URL.build(host='h', authority=True)
example : showP pe (dynBuild pe { host := some (.str [104]), authority := some (.bool true) }) = .err .valueError := by decide +kernel
-- URL.build(host='h', authority=b'x')
example : showP pe (dynBuild pe { host := some (.str [104]), authority := some (.bytes [120]) }) = .err .valueError := by decide +kernel
-- URL.build(host='h', authority='')
example : showP pe (dynBuild pe { host := some (.str [104]), authority := some (.str []) }) = .ok [47, 47, 104] := by decide +kernel
-- URL.build(host='h', authority='x')
example : showP pe (dynBuild pe { host := some (.str [104]), authority := some (.str [120]) }) = .err .valueError := by decide +kernel
-- URL.build(host='h', authority=[])
example : showP pe (dynBuild pe { host := some (.str [104]), authority := some (.list []) }) = .ok [47, 47, 104] := by decide +kernel
-- URL.build(host='h', authority=object())
example : showP pe (dynBuild pe { host := some (.str [104]), authority := some (.other 0) }) = .err .valueError := by decide +kernel
-- URL.build(host='h', user=None)
example : showP pe (dynBuild pe { host := some (.str [104]), user := some .none }) = .ok [47, 47, 104] := by decide +kernel
-- URL.build(host='h', user=0)
example : showP pe (dynBuild pe { host := some (.str [104]), user := some (.int (0)) }) = .ok [47, 47, 104] := by decide +kernel
-- URL.build(host='h', user=1)
example : showP pe (dynBuild pe { host := some (.str [104]), user := some (.int (1)) }) = .err .typeError := by decide +kernel
-- URL.build(host='h', user=True)
example : showP pe (dynBuild pe { host := some (.str [104]), user := some (.bool true) }) = .err .typeError := by decide +kernel
-- URL.build(host='h', user=b'x')
example : showP pe (dynBuild pe { host := some (.str [104]), user := some (.bytes [120]) }) = .err .typeError := by decide +kernel
-- URL.build(host='h', user='')
example : showP pe (dynBuild pe { host := some (.str [104]), user := some (.str []) }) = .ok [47, 47, 104] := by decide +kernel
-- URL.build(host='h', user='x')
example : showP pe (dynBuild pe { host := some (.str [104]), user := some (.str [120]) }) = .ok [47, 47, 120, 64, 104] := by decide +kernel
-- URL.build(host='h', user=[])
example : showP pe (dynBuild pe { host := some (.str [104]), user := some (.list []) }) = .err .typeError := by decide +kernel
-- URL.build(host='h', user=object())
example : showP pe (dynBuild pe { host := some (.str [104]), user := some (.other 0) }) = .err .typeError := by decide +kernel
-- URL.build(host='h', password=None)
example : showP pe (dynBuild pe { host := some (.str [104]), password := some .none }) = .ok [47, 47, 104] := by decide +kernel
-- URL.build(host='h', password=0)
example : showP pe (dynBuild pe { host := some (.str [104]), password := some (.int (0)) }) = .err .typeError := by decide +kernel
-- URL.build(host='h', password=1)
example : showP pe (dynBuild pe { host := some (.str [104]), password := some (.int (1)) }) = .err .typeError := by decide +kernel
-- URL.build(host='h', password=True)
example : showP pe (dynBuild pe { host := some (.str [104]), password := some (.bool true) }) = .err .typeError := by decide +kernel
-- URL.build(host='h', password=b'x')
example : showP pe (dynBuild pe { host := some (.str [104]), password := some (.bytes [120]) }) = .err .typeError := by decide +kernel
-- URL.build(host='h', password='')
example : showP pe (dynBuild pe { host := some (.str [104]), password := some (.str []) }) = .ok [47, 47, 58, 64, 104] := by decide +kernel
-- URL.build(host='h', password='x')
example : showP pe (dynBuild pe { host := some (.str [104]), password := some (.str [120]) }) = .ok [47, 47, 58, 120, 64, 104] := by decide +kernel
-- URL.build(host='h', password=[])
example : showP pe (dynBuild pe { host := some (.str [104]), password := some (.list []) }) = .err .typeError := by decide +kernel
-- URL.build(host='h', password=object())
example : showP pe (dynBuild pe { host := some (.str [104]), password := some (.other 0) }) = .err .typeError := by decide +kernel
-- URL.build(host='h', port=None)
example : showP pe (dynBuild pe { host := some (.str [104]), port := some .none }) = .ok [47, 47, 104] := by decide +kernel
-- URL.build(host='h', port=0)
example : showP pe (dynBuild pe { host := some (.str [104]), port := some (.int (0)) }) = .ok [47, 47, 104, 58, 48] := by decide +kernel
-- URL.build(host='h', port=1)
example : showP pe (dynBuild pe { host := some (.str [104]), port := some (.int (1)) }) = .ok [47, 47, 104, 58, 49] := by decide +kernel
-- URL.build(host='h', port=True)
example : showP pe (dynBuild pe { host := some (.str [104]), port := some (.bool true) }) = .err .typeError := by decide +kernel
-- URL.build(host='h', port=b'x')
example : showP pe (dynBuild pe { host := some (.str [104]), port := some (.bytes [120]) }) = .err .typeError := by decide +kernel
-- URL.build(host='h', port='')
example : showP pe (dynBuild pe { host := some (.str [104]), port := some (.str []) }) = .err .typeError := by decide +kernel
-- URL.build(host='h', port='x')
example : showP pe (dynBuild pe { host := some (.str [104]), port := some (.str [120]) }) = .err .typeError := by decide +kernel
-- URL.build(host='h', port=[])
example : showP pe (dynBuild pe { host := some (.str [104]), port := some (.list []) }) = .err .typeError := by decide +kernel
-- URL.build(host='h', port=object())
example : showP pe (dynBuild pe { host := some (.str [104]), port := some (.other 0) }) = .err .typeError := by decide +kernel
-- URL.build(host='h', path=None)
example : showP pe (dynBuild pe { host := some (.str [104]), path := some .none }) = .err .typeError := by decide +kernel
-- URL.build(host='h', path=0)
example : showP pe (dynBuild pe { host := some (.str [104]), path := some (.int (0)) }) = .garbage 0 := by decide +kernel
-- URL.build(host='h', path=1)
example : showP pe (dynBuild pe { host := some (.str [104]), path := some (.int (1)) }) = .err .typeError := by decide +kernel
-- URL.build(host='h', path=True)
example : showP pe (dynBuild pe { host := some (.str [104]), path := some (.bool true) }) = .err .typeError := by decide +kernel
-- URL.build(host='h', path=b'x')
example : showP pe (dynBuild pe { host := some (.str [104]), path := some (.bytes [120]) }) = .err .typeError := by decide +kernel
-- URL.build(host='h', path='')
example : showP pe (dynBuild pe { host := some (.str [104]), path := some (.str []) }) = .ok [47, 47, 104] := by decide +kernel
-- URL.build(host='h', path='x')
example : showP pe (dynBuild pe { host := some (.str [104]), path := some (.str [120]) }) = .err .valueError := by decide +kernel
-- URL.build(host='h', path=[])
example : showP pe (dynBuild pe { host := some (.str [104]), path := some (.list []) }) = .garbage 0 := by decide +kernel
-- URL.build(host='h', path=object())
example : showP pe (dynBuild pe { host := some (.str [104]), path := some (.other 0) }) = .err .typeError := by decide +kernel
-- URL.build(host='h', query=None)
example : showP pe (dynBuild pe { host := some (.str [104]), query := some .none }) = .ok [47, 47, 104] := by decide +kernel
-- URL.build(host='h', query=0)
example : showP pe (dynBuild pe { host := some (.str [104]), query := some (.int (0)) }) = .ok [47, 47, 104] := by decide +kernel
-- URL.build(host='h', query=1)
example : showP pe (dynBuild pe { host := some (.str [104]), query := some (.int (1)) }) = .err .typeError := by decide +kernel
-- URL.build(host='h', query=True)
example : showP pe (dynBuild pe { host := some (.str [104]), query := some (.bool true) }) = .err .typeError := by decide +kernel
-- URL.build(host='h', query=b'x')
example : showP pe (dynBuild pe { host := some (.str [104]), query := some (.bytes [120]) }) = .err .typeError := by decide +kernel
-- URL.build(host='h', query='')
example : showP pe (dynBuild pe { host := some (.str [104]), query := some (.str []) }) = .ok [47, 47, 104] := by decide +kernel
-- URL.build(host='h', query='x')
example : showP pe (dynBuild pe { host := some (.str [104]), query := some (.str [120]) }) = .ok [47, 47, 104, 47, 63, 120] := by decide +kernel
-- URL.build(host='h', query=[])
example : showP pe (dynBuild pe { host := some (.str [104]), query := some (.list []) }) = .ok [47, 47, 104] := by decide +kernel
-- URL.build(host='h', query=object())
example : showP pe (dynBuild pe { host := some (.str [104]), query := some (.other 0) }) = .err .typeError := by decide +kernel
-- URL.build(host='h', query_string=None)
example : showP pe (dynBuild pe { host := some (.str [104]), queryString := some .none }) = .err .typeError := by decide +kernel
-- URL.build(host='h', query_string=0)
example : showP pe (dynBuild pe { host := some (.str [104]), queryString := some (.int (0)) }) = .garbage 0 := by decide +kernel
-- URL.build(host='h', query_string=1)
example : showP pe (dynBuild pe { host := some (.str [104]), queryString := some (.int (1)) }) = .err .typeError := by decide +kernel
-- URL.build(host='h', query_string=True)
example : showP pe (dynBuild pe { host := some (.str [104]), queryString := some (.bool true) }) = .err .typeError := by decide +kernel
-- URL.build(host='h', query_string=b'x')
example : showP pe (dynBuild pe { host := some (.str [104]), queryString := some (.bytes [120]) }) = .err .typeError := by decide +kernel
-- URL.build(host='h', query_string='')
example : showP pe (dynBuild pe { host := some (.str [104]), queryString := some (.str []) }) = .ok [47, 47, 104] := by decide +kernel
-- URL.build(host='h', query_string='x')
example : showP pe (dynBuild pe { host := some (.str [104]), queryString := some (.str [120]) }) = .ok [47, 47, 104, 47, 63, 120] := by decide +kernel
-- URL.build(host='h', query_string=[])
example : showP pe (dynBuild pe { host := some (.str [104]), queryString := some (.list []) }) = .garbage 0 := by decide +kernel
-- URL.build(host='h', query_string=object())
example : showP pe (dynBuild pe { host := some (.str [104]), queryString := some (.other 0) }) = .err .typeError := by decide +kernel
-- URL.build(host='h', fragment=None)
example : showP pe (dynBuild pe { host := some (.str [104]), fragment := some .none }) = .err .typeError := by decide +kernel
-- URL.build(host='h', fragment=0)
example : showP pe (dynBuild pe { host := some (.str [104]), fragment := some (.int (0)) }) = .garbage 0 := by decide +kernel
-- URL.build(host='h', fragment=1)
example : showP pe (dynBuild pe { host := some (.str [104]), fragment := some (.int (1)) }) = .err .typeError := by decide +kernel
-- URL.build(host='h', fragment=True)
example : showP pe (dynBuild pe { host := some (.str [104]), fragment := some (.bool true) }) = .err .typeError := by decide +kernel
-- URL.build(host='h', fragment=b'x')
example : showP pe (dynBuild pe { host := some (.str [104]), fragment := some (.bytes [120]) }) = .err .typeError := by decide +kernel
-- URL.build(host='h', fragment='')
example : showP pe (dynBuild pe { host := some (.str [104]), fragment := some (.str []) }) = .ok [47, 47, 104] := by decide +kernel
-- URL.build(host='h', fragment='x')
example : showP pe (dynBuild pe { host := some (.str [104]), fragment := some (.str [120]) }) = .ok [47, 47, 104, 47, 35, 120] := by decide +kernel
-- URL.build(host='h', fragment=[])
example : showP pe (dynBuild pe { host := some (.str [104]), fragment := some (.list []) }) = .garbage 0 := by decide +kernel
-- URL.build(host='h', fragment=object())
example : showP pe (dynBuild pe { host := some (.str [104]), fragment := some (.other 0) }) = .err .typeError := by decide +kernel
-- URL.build(host='h', user=False)
example : showP pe (dynBuild pe { host := some (.str [104]), user := some (.bool false) }) = .ok [47, 47, 104] := by decide +kernel
-- URL.build(host='h', user=b'')
example : showP pe (dynBuild pe { host := some (.str [104]), user := some (.bytes []) }) = .ok [47, 47, 104] := by decide +kernel
-- URL.build(host='h', user=())
example : showP pe (dynBuild pe { host := some (.str [104]), user := some (.tuple []) }) = .ok [47, 47, 104] := by decide +kernel
-- URL.build(host='h', user=('a',))
example : showP pe (dynBuild pe { host := some (.str [104]), user := some (.tuple [(.str [97])]) }) = .err .typeError := by decide +kernel
-- URL.build(host='h', user={})
example : showP pe (dynBuild pe { host := some (.str [104]), user := some (.dict []) }) = .err .typeError := by decide +kernel
-- URL.build(host='h', user={'a': 1})
example : showP pe (dynBuild pe { host := some (.str [104]), user := some (.dict [((.str [97]), (.int (1)))]) }) = .err .typeError := by decide +kernel
-- URL.build(host='h', user=S('x'))
example : showP pe (dynBuild pe { host := some (.str [104]), user := some (.strSub [120]) }) = .ok [47, 47, 120, 64, 104] := by decide +kernel
-- URL.build(host='h', user=1.5)
example : showP pe (dynBuild pe { host := some (.str [104]), user := some (.float [49, 46, 53] 0) }) = .err .typeError := by decide +kernel
-- URL.build(host='h', user=0.0)
example : showP pe (dynBuild pe { host := some (.str [104]), user := some (.float [48, 46, 48] 0) }) = .ok [47, 47, 104] := by decide +kernel
-- URL.build(host='h', user=URL('http://h/p'))
example : showP pe (dynBuild pe { host := some (.str [104]), user := some (.url (pU [104, 116, 116, 112, 58, 47, 47, 104, 47, 112])) }) = .err .typeError := by rw [pU_hp]; decide +kernel
-- URL.build(host='h', user=URL(''))
example : showP pe (dynBuild pe { host := some (.str [104]), user := some (.url (pU [])) }) = .ok [47, 47, 104] := by decide +kernel
-- URL.build(host='h', user=SplitResult('http', 'h', '', '', ''))
example : showP pe (dynBuild pe { host := some (.str [104]), user := some (.splitResult [[104, 116, 116, 112], [104], [], [], []]) }) = .err .typeError := by decide +kernel
-- URL.build(host='h', user=['a'])
example : showP pe (dynBuild pe { host := some (.str [104]), user := some (.list [(.str [97])]) }) = .err .typeError := by decide +kernel
-- URL.build(host='h', user=('a', []))
example : showP pe (dynBuild pe { host := some (.str [104]), user := some (.tuple [(.str [97]), (.list [])]) }) = .err .typeError := by decide +kernel
-- URL.build(host='h', password=False)
example : showP pe (dynBuild pe { host := some (.str [104]), password := some (.bool false) }) = .err .typeError := by decide +kernel
-- URL.build(host='h', password=b'')
example : showP pe (dynBuild pe { host := some (.str [104]), password := some (.bytes []) }) = .err .typeError := by decide +kernel
-- URL.build(host='h', password=())
example : showP pe (dynBuild pe { host := some (.str [104]), password := some (.tuple []) }) = .err .typeError := by decide +kernel
-- URL.build(host='h', password=('a',))
example : showP pe (dynBuild pe { host := some (.str [104]), password := some (.tuple [(.str [97])]) }) = .err .typeError := by decide +kernel
-- URL.build(host='h', password={})
example : showP pe (dynBuild pe { host := some (.str [104]), password := some (.dict []) }) = .err .typeError := by decide +kernel
-- URL.build(host='h', password={'a': 1})
example : showP pe (dynBuild pe { host := some (.str [104]), password := some (.dict [((.str [97]), (.int (1)))]) }) = .err .typeError := by decide +kernel
-- URL.build(host='h', password=S('x'))
example : showP pe (dynBuild pe { host := some (.str [104]), password := some (.strSub [120]) }) = .ok [47, 47, 58, 120, 64, 104] := by decide +kernel
-- URL.build(host='h', password=1.5)
example : showP pe (dynBuild pe { host := some (.str [104]), password := some (.float [49, 46, 53] 0) }) = .err .typeError := by decide +kernel
-- URL.build(host='h', password=0.0)
example : showP pe (dynBuild pe { host := some (.str [104]), password := some (.float [48, 46, 48] 0) }) = .err .typeError := by decide +kernel
-- URL.build(host='h', password=URL('http://h/p'))
example : showP pe (dynBuild pe { host := some (.str [104]), password := some (.url (pU [104, 116, 116, 112, 58, 47, 47, 104, 47, 112])) }) = .err .typeError := by decide +kernel
-- URL.build(host='h', password=URL(''))
example : showP pe (dynBuild pe { host := some (.str [104]), password := some (.url (pU [])) }) = .err .typeError := by decide +kernel
-- URL.build(host='h', password=SplitResult('http', 'h', '', '', ''))
example : showP pe (dynBuild pe { host := some (.str [104]), password := some (.splitResult [[104, 116, 116, 112], [104], [], [], []]) }) = .err .typeError := by decide +kernel
-- URL.build(host='h', password=['a'])
example : showP pe (dynBuild pe { host := some (.str [104]), password := some (.list [(.str [97])]) }) = .err .typeError := by decide +kernel
-- URL.build(host='h', password=('a', []))
example : showP pe (dynBuild pe { host := some (.str [104]), password := some (.tuple [(.str [97]), (.list [])]) }) = .err .typeError := by decide +kernel
-- URL.build(host='h', scheme=False)
example : showP pe (dynBuild pe { host := some (.str [104]), scheme := some (.bool false) }) = .err .attributeError := by decide +kernel
-- URL.build(host='h', scheme=b'')
example : showP pe (dynBuild pe { host := some (.str [104]), scheme := some (.bytes []) }) = .garbage 0 := by decide +kernel
-- URL.build(host='h', scheme=())
example : showP pe (dynBuild pe { host := some (.str [104]), scheme := some (.tuple []) }) = .err .attributeError := by decide +kernel
-- URL.build(host='h', scheme=('a',))
example : showP pe (dynBuild pe { host := some (.str [104]), scheme := some (.tuple [(.str [97])]) }) = .err .attributeError := by decide +kernel
-- URL.build(host='h', scheme={})
example : showP pe (dynBuild pe { host := some (.str [104]), scheme := some (.dict []) }) = .err .attributeError := by decide +kernel
-- URL.build(host='h', scheme={'a': 1})
example : showP pe (dynBuild pe { host := some (.str [104]), scheme := some (.dict [((.str [97]), (.int (1)))]) }) = .err .attributeError := by decide +kernel
-- URL.build(host='h', scheme=S('x'))
example : showP pe (dynBuild pe { host := some (.str [104]), scheme := some (.strSub [120]) }) = .ok [120, 58, 47, 47, 104] := by decide +kernel
-- URL.build(host='h', scheme=1.5)
example : showP pe (dynBuild pe { host := some (.str [104]), scheme := some (.float [49, 46, 53] 0) }) = .err .attributeError := by decide +kernel
-- URL.build(host='h', scheme=0.0)
example : showP pe (dynBuild pe { host := some (.str [104]), scheme := some (.float [48, 46, 48] 0) }) = .err .attributeError := by decide +kernel
-- URL.build(host='h', scheme=URL('http://h/p'))
example : showP pe (dynBuild pe { host := some (.str [104]), scheme := some (.url (pU [104, 116, 116, 112, 58, 47, 47, 104, 47, 112])) }) = .err .attributeError := by decide +kernel
-- URL.build(host='h', scheme=URL(''))
example : showP pe (dynBuild pe { host := some (.str [104]), scheme := some (.url (pU [])) }) = .err .attributeError := by decide +kernel
-- URL.build(host='h', scheme=SplitResult('http', 'h', '', '', ''))
example : showP pe (dynBuild pe { host := some (.str [104]), scheme := some (.splitResult [[104, 116, 116, 112], [104], [], [], []]) }) = .err .attributeError := by decide +kernel
-- URL.build(host='h', scheme=['a'])
example : showP pe (dynBuild pe { host := some (.str [104]), scheme := some (.list [(.str [97])]) }) = .err .attributeError := by decide +kernel
-- URL.build(host='h', scheme=('a', []))
example : showP pe (dynBuild pe { host := some (.str [104]), scheme := some (.tuple [(.str [97]), (.list [])]) }) = .err .attributeError := by decide +kernel
-- URL.build(encoded=True, scheme=None)
example : showP pe (dynBuild pe { encoded := some (.bool true), scheme := some .none }) = .err .typeError := by decide +kernel
-- URL.build(encoded=True, scheme=0)
example : showP pe (dynBuild pe { encoded := some (.bool true), scheme := some (.int (0)) }) = .garbage 0 := by decide +kernel
-- URL.build(encoded=True, scheme=1)
example : showP pe (dynBuild pe { encoded := some (.bool true), scheme := some (.int (1)) }) = .garbage 0 := by decide +kernel
-- URL.build(encoded=True, scheme=True)
example : showP pe (dynBuild pe { encoded := some (.bool true), scheme := some (.bool true) }) = .garbage 0 := by decide +kernel
-- URL.build(encoded=True, scheme=b'x')
example : showP pe (dynBuild pe { encoded := some (.bool true), scheme := some (.bytes [120]) }) = .garbage 0 := by decide +kernel
-- URL.build(encoded=True, scheme='')
example : showP pe (dynBuild pe { encoded := some (.bool true), scheme := some (.str []) }) = .ok [] := by decide +kernel
-- URL.build(encoded=True, scheme='x')
example : showP pe (dynBuild pe { encoded := some (.bool true), scheme := some (.str [120]) }) = .ok [120, 58] := by decide +kernel
-- URL.build(encoded=True, scheme=[])
example : showP pe (dynBuild pe { encoded := some (.bool true), scheme := some (.list []) }) = .err .typeError := by decide +kernel
-- URL.build(encoded=True, scheme=object())
example : showP pe (dynBuild pe { encoded := some (.bool true), scheme := some (.other 0) }) = .garbage 0 := by decide +kernel
-- URL.build(encoded=True, authority=None)
example : showP pe (dynBuild pe { encoded := some (.bool true), authority := some .none }) = .err .typeError := by decide +kernel
-- URL.build(encoded=True, authority=0)
example : showP pe (dynBuild pe { encoded := some (.bool true), authority := some (.int (0)) }) = .ok [] := by decide +kernel
-- URL.build(encoded=True, authority=1)
example : showP pe (dynBuild pe { encoded := some (.bool true), authority := some (.int (1)) }) = .garbage 0 := by decide +kernel
-- URL.build(encoded=True, authority=True)
example : showP pe (dynBuild pe { encoded := some (.bool true), authority := some (.bool true) }) = .garbage 0 := by decide +kernel
-- URL.build(encoded=True, authority=b'x')
example : showP pe (dynBuild pe { encoded := some (.bool true), authority := some (.bytes [120]) }) = .garbage 0 := by decide +kernel
-- URL.build(encoded=True, authority='')
example : showP pe (dynBuild pe { encoded := some (.bool true), authority := some (.str []) }) = .ok [] := by decide +kernel
-- URL.build(encoded=True, authority='x')
example : showP pe (dynBuild pe { encoded := some (.bool true), authority := some (.str [120]) }) = .ok [47, 47, 120] := by decide +kernel
-- URL.build(encoded=True, authority=[])
example : showP pe (dynBuild pe { encoded := some (.bool true), authority := some (.list []) }) = .err .typeError := by decide +kernel
-- URL.build(encoded=True, authority=object())
example : showP pe (dynBuild pe { encoded := some (.bool true), authority := some (.other 0) }) = .garbage 0 := by decide +kernel
-- URL.build(encoded=True, user=None)
example : showP pe (dynBuild pe { encoded := some (.bool true), user := some .none }) = .ok [] := by decide +kernel
-- URL.build(encoded=True, user=0)
example : showP pe (dynBuild pe { encoded := some (.bool true), user := some (.int (0)) }) = .ok [] := by decide +kernel
-- URL.build(encoded=True, user=1)
example : showP pe (dynBuild pe { encoded := some (.bool true), user := some (.int (1)) }) = .ok [] := by decide +kernel
-- URL.build(encoded=True, user=True)
example : showP pe (dynBuild pe { encoded := some (.bool true), user := some (.bool true) }) = .ok [] := by decide +kernel
-- URL.build(encoded=True, user=b'x')
example : showP pe (dynBuild pe { encoded := some (.bool true), user := some (.bytes [120]) }) = .ok [] := by decide +kernel
-- URL.build(encoded=True, user='')
example : showP pe (dynBuild pe { encoded := some (.bool true), user := some (.str []) }) = .ok [] := by decide +kernel
-- URL.build(encoded=True, user='x')
example : showP pe (dynBuild pe { encoded := some (.bool true), user := some (.str [120]) }) = .ok [] := by decide +kernel
-- URL.build(encoded=True, user=[])
example : showP pe (dynBuild pe { encoded := some (.bool true), user := some (.list []) }) = .err .typeError := by decide +kernel
-- URL.build(encoded=True, user=object())
example : showP pe (dynBuild pe { encoded := some (.bool true), user := some (.other 0) }) = .ok [] := by decide +kernel
-- URL.build(encoded=True, password=None)
example : showP pe (dynBuild pe { encoded := some (.bool true), password := some .none }) = .ok [] := by decide +kernel
-- URL.build(encoded=True, password=0)
example : showP pe (dynBuild pe { encoded := some (.bool true), password := some (.int (0)) }) = .ok [] := by decide +kernel
-- URL.build(encoded=True, password=1)
example : showP pe (dynBuild pe { encoded := some (.bool true), password := some (.int (1)) }) = .ok [] := by decide +kernel
-- URL.build(encoded=True, password=True)
example : showP pe (dynBuild pe { encoded := some (.bool true), password := some (.bool true) }) = .ok [] := by decide +kernel
-- URL.build(encoded=True, password=b'x')
example : showP pe (dynBuild pe { encoded := some (.bool true), password := some (.bytes [120]) }) = .ok [] := by decide +kernel
-- URL.build(encoded=True, password='')
example : showP pe (dynBuild pe { encoded := some (.bool true), password := some (.str []) }) = .ok [] := by decide +kernel
-- URL.build(encoded=True, password='x')
example : showP pe (dynBuild pe { encoded := some (.bool true), password := some (.str [120]) }) = .ok [] := by decide +kernel
-- URL.build(encoded=True, password=[])
example : showP pe (dynBuild pe { encoded := some (.bool true), password := some (.list []) }) = .err .typeError := by decide +kernel
-- URL.build(encoded=True, password=object())
example : showP pe (dynBuild pe { encoded := some (.bool true), password := some (.other 0) }) = .ok [] := by decide +kernel
-- URL.build(encoded=True, host=None)
example : showP pe (dynBuild pe { encoded := some (.bool true), host := some .none }) = .err .typeError := by decide +kernel
-- URL.build(encoded=True, host=0)
example : showP pe (dynBuild pe { encoded := some (.bool true), host := some (.int (0)) }) = .ok [] := by decide +kernel
-- URL.build(encoded=True, host=1)
example : showP pe (dynBuild pe { encoded := some (.bool true), host := some (.int (1)) }) = .garbage 0 := by decide +kernel
-- URL.build(encoded=True, host=True)
example : showP pe (dynBuild pe { encoded := some (.bool true), host := some (.bool true) }) = .garbage 0 := by decide +kernel
-- URL.build(encoded=True, host=b'x')
example : showP pe (dynBuild pe { encoded := some (.bool true), host := some (.bytes [120]) }) = .garbage 0 := by decide +kernel
-- URL.build(encoded=True, host='')
example : showP pe (dynBuild pe { encoded := some (.bool true), host := some (.str []) }) = .ok [] := by decide +kernel
-- URL.build(encoded=True, host='x')
example : showP pe (dynBuild pe { encoded := some (.bool true), host := some (.str [120]) }) = .ok [47, 47, 120] := by decide +kernel
-- URL.build(encoded=True, host=[])
example : showP pe (dynBuild pe { encoded := some (.bool true), host := some (.list []) }) = .err .typeError := by decide +kernel
-- URL.build(encoded=True, host=object())
example : showP pe (dynBuild pe { encoded := some (.bool true), host := some (.other 0) }) = .garbage 0 := by decide +kernel
-- URL.build(encoded=True, port=None)
example : showP pe (dynBuild pe { encoded := some (.bool true), port := some .none }) = .ok [] := by decide +kernel
-- URL.build(encoded=True, port=0)
example : showP pe (dynBuild pe { encoded := some (.bool true), port := some (.int (0)) }) = .err .valueError := by decide +kernel
-- URL.build(encoded=True, port=1)
example : showP pe (dynBuild pe { encoded := some (.bool true), port := some (.int (1)) }) = .err .valueError := by decide +kernel
-- URL.build(encoded=True, port=True)
example : showP pe (dynBuild pe { encoded := some (.bool true), port := some (.bool true) }) = .err .typeError := by decide +kernel
-- URL.build(encoded=True, port=b'x')
example : showP pe (dynBuild pe { encoded := some (.bool true), port := some (.bytes [120]) }) = .err .typeError := by decide +kernel
-- URL.build(encoded=True, port='')
example : showP pe (dynBuild pe { encoded := some (.bool true), port := some (.str []) }) = .err .typeError := by decide +kernel
-- URL.build(encoded=True, port='x')
example : showP pe (dynBuild pe { encoded := some (.bool true), port := some (.str [120]) }) = .err .typeError := by decide +kernel
-- URL.build(encoded=True, port=[])
example : showP pe (dynBuild pe { encoded := some (.bool true), port := some (.list []) }) = .err .typeError := by decide +kernel
-- URL.build(encoded=True, port=object())
example : showP pe (dynBuild pe { encoded := some (.bool true), port := some (.other 0) }) = .err .typeError := by decide +kernel
-- URL.build(encoded=True, path=None)
example : showP pe (dynBuild pe { encoded := some (.bool true), path := some .none }) = .err .typeError := by decide +kernel
-- URL.build(encoded=True, path=0)
example : showP pe (dynBuild pe { encoded := some (.bool true), path := some (.int (0)) }) = .garbage 0 := by decide +kernel
-- URL.build(encoded=True, path=1)
example : showP pe (dynBuild pe { encoded := some (.bool true), path := some (.int (1)) }) = .garbage 0 := by decide +kernel
-- URL.build(encoded=True, path=True)
example : showP pe (dynBuild pe { encoded := some (.bool true), path := some (.bool true) }) = .garbage 0 := by decide +kernel
-- URL.build(encoded=True, path=b'x')
example : showP pe (dynBuild pe { encoded := some (.bool true), path := some (.bytes [120]) }) = .garbage 0 := by decide +kernel
-- URL.build(encoded=True, path='')
example : showP pe (dynBuild pe { encoded := some (.bool true), path := some (.str []) }) = .ok [] := by decide +kernel
-- URL.build(encoded=True, path='x')
example : showP pe (dynBuild pe { encoded := some (.bool true), path := some (.str [120]) }) = .ok [120] := by decide +kernel
-- URL.build(encoded=True, path=[])
example : showP pe (dynBuild pe { encoded := some (.bool true), path := some (.list []) }) = .err .typeError := by decide +kernel
-- URL.build(encoded=True, path=object())
example : showP pe (dynBuild pe { encoded := some (.bool true), path := some (.other 0) }) = .garbage 0 := by decide +kernel
-- URL.build(encoded=True, query=None)
example : showP pe (dynBuild pe { encoded := some (.bool true), query := some .none }) = .ok [] := by decide +kernel
-- URL.build(encoded=True, query=0)
example : showP pe (dynBuild pe { encoded := some (.bool true), query := some (.int (0)) }) = .ok [] := by decide +kernel
-- URL.build(encoded=True, query=1)
example : showP pe (dynBuild pe { encoded := some (.bool true), query := some (.int (1)) }) = .err .typeError := by decide +kernel
-- URL.build(encoded=True, query=True)
example : showP pe (dynBuild pe { encoded := some (.bool true), query := some (.bool true) }) = .err .typeError := by decide +kernel
-- URL.build(encoded=True, query=b'x')
example : showP pe (dynBuild pe { encoded := some (.bool true), query := some (.bytes [120]) }) = .err .typeError := by decide +kernel
-- URL.build(encoded=True, query='')
example : showP pe (dynBuild pe { encoded := some (.bool true), query := some (.str []) }) = .ok [] := by decide +kernel
-- URL.build(encoded=True, query='x')
example : showP pe (dynBuild pe { encoded := some (.bool true), query := some (.str [120]) }) = .ok [63, 120] := by decide +kernel
-- URL.build(encoded=True, query=[])
example : showP pe (dynBuild pe { encoded := some (.bool true), query := some (.list []) }) = .ok [] := by decide +kernel
-- URL.build(encoded=True, query=object())
example : showP pe (dynBuild pe { encoded := some (.bool true), query := some (.other 0) }) = .err .typeError := by decide +kernel
-- URL.build(encoded=True, query_string=None)
example : showP pe (dynBuild pe { encoded := some (.bool true), queryString := some .none }) = .err .typeError := by decide +kernel
-- URL.build(encoded=True, query_string=0)
example : showP pe (dynBuild pe { encoded := some (.bool true), queryString := some (.int (0)) }) = .garbage 0 := by decide +kernel
-- URL.build(encoded=True, query_string=1)
example : showP pe (dynBuild pe { encoded := some (.bool true), queryString := some (.int (1)) }) = .garbage 0 := by decide +kernel
-- URL.build(encoded=True, query_string=True)
example : showP pe (dynBuild pe { encoded := some (.bool true), queryString := some (.bool true) }) = .garbage 0 := by decide +kernel
-- URL.build(encoded=True, query_string=b'x')
example : showP pe (dynBuild pe { encoded := some (.bool true), queryString := some (.bytes [120]) }) = .garbage 0 := by decide +kernel
-- URL.build(encoded=True, query_string='')
example : showP pe (dynBuild pe { encoded := some (.bool true), queryString := some (.str []) }) = .ok [] := by decide +kernel
-- URL.build(encoded=True, query_string='x')
example : showP pe (dynBuild pe { encoded := some (.bool true), queryString := some (.str [120]) }) = .ok [63, 120] := by decide +kernel
-- URL.build(encoded=True, query_string=[])
example : showP pe (dynBuild pe { encoded := some (.bool true), queryString := some (.list []) }) = .err .typeError := by decide +kernel
-- URL.build(encoded=True, query_string=object())
example : showP pe (dynBuild pe { encoded := some (.bool true), queryString := some (.other 0) }) = .garbage 0 := by decide +kernel
-- URL.build(encoded=True, fragment=None)
example : showP pe (dynBuild pe { encoded := some (.bool true), fragment := some .none }) = .err .typeError := by decide +kernel
-- URL.build(encoded=True, fragment=0)
example : showP pe (dynBuild pe { encoded := some (.bool true), fragment := some (.int (0)) }) = .garbage 0 := by decide +kernel
-- URL.build(encoded=True, fragment=1)
example : showP pe (dynBuild pe { encoded := some (.bool true), fragment := some (.int (1)) }) = .garbage 0 := by decide +kernel
-- URL.build(encoded=True, fragment=True)
example : showP pe (dynBuild pe { encoded := some (.bool true), fragment := some (.bool true) }) = .garbage 0 := by decide +kernel
-- URL.build(encoded=True, fragment=b'x')
example : showP pe (dynBuild pe { encoded := some (.bool true), fragment := some (.bytes [120]) }) = .garbage 0 := by decide +kernel
-- URL.build(encoded=True, fragment='')
example : showP pe (dynBuild pe { encoded := some (.bool true), fragment := some (.str []) }) = .ok [] := by decide +kernel
-- URL.build(encoded=True, fragment='x')
example : showP pe (dynBuild pe { encoded := some (.bool true), fragment := some (.str [120]) }) = .ok [35, 120] := by decide +kernel
-- URL.build(encoded=True, fragment=[])
example : showP pe (dynBuild pe { encoded := some (.bool true), fragment := some (.list []) }) = .err .typeError := by decide +kernel
-- URL.build(encoded=True, fragment=object())
example : showP pe (dynBuild pe { encoded := some (.bool true), fragment := some (.other 0) }) = .garbage 0 := by decide +kernel
-- URL.build(host='h', encoded=True, scheme=None)
example : showP pe (dynBuild pe { host := some (.str [104]), encoded := some (.bool true), scheme := some .none }) = .err .typeError := by decide +kernel
-- URL.build(host='h', encoded=True, scheme=0)
example : showP pe (dynBuild pe { host := some (.str [104]), encoded := some (.bool true), scheme := some (.int (0)) }) = .garbage 0 := by decide +kernel
-- URL.build(host='h', encoded=True, scheme=1)
example : showP pe (dynBuild pe { host := some (.str [104]), encoded := some (.bool true), scheme := some (.int (1)) }) = .garbage 0 := by decide +kernel
-- URL.build(host='h', encoded=True, scheme=True)
example : showP pe (dynBuild pe { host := some (.str [104]), encoded := some (.bool true), scheme := some (.bool true) }) = .garbage 0 := by decide +kernel
-- URL.build(host='h', encoded=True, scheme=b'x')
example : showP pe (dynBuild pe { host := some (.str [104]), encoded := some (.bool true), scheme := some (.bytes [120]) }) = .garbage 0 := by decide +kernel
-- URL.build(host='h', encoded=True, scheme='')
example : showP pe (dynBuild pe { host := some (.str [104]), encoded := some (.bool true), scheme := some (.str []) }) = .ok [47, 47, 104] := by decide +kernel
-- URL.build(host='h', encoded=True, scheme='x')
example : showP pe (dynBuild pe { host := some (.str [104]), encoded := some (.bool true), scheme := some (.str [120]) }) = .ok [120, 58, 47, 47, 104] := by decide +kernel
-- URL.build(host='h', encoded=True, scheme=[])
example : showP pe (dynBuild pe { host := some (.str [104]), encoded := some (.bool true), scheme := some (.list []) }) = .err .typeError := by decide +kernel
-- URL.build(host='h', encoded=True, scheme=object())
example : showP pe (dynBuild pe { host := some (.str [104]), encoded := some (.bool true), scheme := some (.other 0) }) = .garbage 0 := by decide +kernel
-- URL.build(host='h', encoded=True, user=None)
example : showP pe (dynBuild pe { host := some (.str [104]), encoded := some (.bool true), user := some .none }) = .ok [47, 47, 104] := by decide +kernel
-- URL.build(host='h', encoded=True, user=0)
example : showP pe (dynBuild pe { host := some (.str [104]), encoded := some (.bool true), user := some (.int (0)) }) = .ok [47, 47, 104] := by decide +kernel
-- URL.build(host='h', encoded=True, user=1)
example : showP pe (dynBuild pe { host := some (.str [104]), encoded := some (.bool true), user := some (.int (1)) }) = .garbage 1 := by decide +kernel
-- URL.build(host='h', encoded=True, user=True)
example : showP pe (dynBuild pe { host := some (.str [104]), encoded := some (.bool true), user := some (.bool true) }) = .garbage 1 := by decide +kernel
-- URL.build(host='h', encoded=True, user=b'x')
example : showP pe (dynBuild pe { host := some (.str [104]), encoded := some (.bool true), user := some (.bytes [120]) }) = .garbage 1 := by decide +kernel
-- URL.build(host='h', encoded=True, user='')
example : showP pe (dynBuild pe { host := some (.str [104]), encoded := some (.bool true), user := some (.str []) }) = .ok [47, 47, 104] := by decide +kernel
-- URL.build(host='h', encoded=True, user='x')
example : showP pe (dynBuild pe { host := some (.str [104]), encoded := some (.bool true), user := some (.str [120]) }) = .ok [47, 47, 120, 64, 104] := by decide +kernel
-- URL.build(host='h', encoded=True, user=[])
example : showP pe (dynBuild pe { host := some (.str [104]), encoded := some (.bool true), user := some (.list []) }) = .err .typeError := by decide +kernel
-- URL.build(host='h', encoded=True, user=object())
example : showP pe (dynBuild pe { host := some (.str [104]), encoded := some (.bool true), user := some (.other 0) }) = .garbage 1 := by decide +kernel
-- URL.build(host='h', encoded=True, password=None)
example : showP pe (dynBuild pe { host := some (.str [104]), encoded := some (.bool true), password := some .none }) = .ok [47, 47, 104] := by decide +kernel
-- URL.build(host='h', encoded=True, password=0)
example : showP pe (dynBuild pe { host := some (.str [104]), encoded := some (.bool true), password := some (.int (0)) }) = .garbage 1 := by decide +kernel
-- URL.build(host='h', encoded=True, password=1)
example : showP pe (dynBuild pe { host := some (.str [104]), encoded := some (.bool true), password := some (.int (1)) }) = .garbage 1 := by decide +kernel
-- URL.build(host='h', encoded=True, password=True)
example : showP pe (dynBuild pe { host := some (.str [104]), encoded := some (.bool true), password := some (.bool true) }) = .garbage 1 := by decide +kernel
-- URL.build(host='h', encoded=True, password=b'x')
example : showP pe (dynBuild pe { host := some (.str [104]), encoded := some (.bool true), password := some (.bytes [120]) }) = .garbage 1 := by decide +kernel
-- URL.build(host='h', encoded=True, password='')
example : showP pe (dynBuild pe { host := some (.str [104]), encoded := some (.bool true), password := some (.str []) }) = .ok [47, 47, 58, 64, 104] := by decide +kernel
-- URL.build(host='h', encoded=True, password='x')
example : showP pe (dynBuild pe { host := some (.str [104]), encoded := some (.bool true), password := some (.str [120]) }) = .ok [47, 47, 58, 120, 64, 104] := by decide +kernel
-- URL.build(host='h', encoded=True, password=[])
example : showP pe (dynBuild pe { host := some (.str [104]), encoded := some (.bool true), password := some (.list []) }) = .err .typeError := by decide +kernel
-- URL.build(host='h', encoded=True, password=object())
example : showP pe (dynBuild pe { host := some (.str [104]), encoded := some (.bool true), password := some (.other 0) }) = .garbage 1 := by decide +kernel
-- URL.build(host='h', encoded=True, port=None)
example : showP pe (dynBuild pe { host := some (.str [104]), encoded := some (.bool true), port := some .none }) = .ok [47, 47, 104] := by decide +kernel
-- URL.build(host='h', encoded=True, port=0)
example : showP pe (dynBuild pe { host := some (.str [104]), encoded := some (.bool true), port := some (.int (0)) }) = .ok [47, 47, 104, 58, 48] := by decide +kernel
-- URL.build(host='h', encoded=True, port=1)
example : showP pe (dynBuild pe { host := some (.str [104]), encoded := some (.bool true), port := some (.int (1)) }) = .ok [47, 47, 104, 58, 49] := by decide +kernel
-- URL.build(host='h', encoded=True, port=True)
example : showP pe (dynBuild pe { host := some (.str [104]), encoded := some (.bool true), port := some (.bool true) }) = .err .typeError := by decide +kernel
-- URL.build(host='h', encoded=True, port=b'x')
example : showP pe (dynBuild pe { host := some (.str [104]), encoded := some (.bool true), port := some (.bytes [120]) }) = .err .typeError := by decide +kernel
-- URL.build(host='h', encoded=True, port='')
example : showP pe (dynBuild pe { host := some (.str [104]), encoded := some (.bool true), port := some (.str []) }) = .err .typeError := by decide +kernel
-- URL.build(host='h', encoded=True, port='x')
example : showP pe (dynBuild pe { host := some (.str [104]), encoded := some (.bool true), port := some (.str [120]) }) = .err .typeError := by decide +kernel
-- URL.build(host='h', encoded=True, port=[])
example : showP pe (dynBuild pe { host := some (.str [104]), encoded := some (.bool true), port := some (.list []) }) = .err .typeError := by decide +kernel
-- URL.build(host='h', encoded=True, port=object())
example : showP pe (dynBuild pe { host := some (.str [104]), encoded := some (.bool true), port := some (.other 0) }) = .err .typeError := by decide +kernel
-- URL.build(host='h', encoded=True, path=None)
example : showP pe (dynBuild pe { host := some (.str [104]), encoded := some (.bool true), path := some .none }) = .err .typeError := by decide +kernel
-- URL.build(host='h', encoded=True, path=0)
example : showP pe (dynBuild pe { host := some (.str [104]), encoded := some (.bool true), path := some (.int (0)) }) = .garbage 0 := by decide +kernel
-- URL.build(host='h', encoded=True, path=1)
example : showP pe (dynBuild pe { host := some (.str [104]), encoded := some (.bool true), path := some (.int (1)) }) = .garbage 0 := by decide +kernel
-- URL.build(host='h', encoded=True, path=True)
example : showP pe (dynBuild pe { host := some (.str [104]), encoded := some (.bool true), path := some (.bool true) }) = .garbage 0 := by decide +kernel
-- URL.build(host='h', encoded=True, path=b'x')
example : showP pe (dynBuild pe { host := some (.str [104]), encoded := some (.bool true), path := some (.bytes [120]) }) = .garbage 0 := by decide +kernel
-- URL.build(host='h', encoded=True, path='')
example : showP pe (dynBuild pe { host := some (.str [104]), encoded := some (.bool true), path := some (.str []) }) = .ok [47, 47, 104] := by decide +kernel
-- URL.build(host='h', encoded=True, path='x')
example : showP pe (dynBuild pe { host := some (.str [104]), encoded := some (.bool true), path := some (.str [120]) }) = .ok [58, 120] := by decide +kernel
-- URL.build(host='h', encoded=True, path=[])
example : showP pe (dynBuild pe { host := some (.str [104]), encoded := some (.bool true), path := some (.list []) }) = .err .typeError := by decide +kernel
-- URL.build(host='h', encoded=True, path=object())
example : showP pe (dynBuild pe { host := some (.str [104]), encoded := some (.bool true), path := some (.other 0) }) = .garbage 0 := by decide +kernel
-- URL.build(encoded=True, port=81, host='h', user=())
example : showP pe (dynBuild pe { encoded := some (.bool true), port := some (.int (81)), host := some (.str [104]), user := some (.tuple []) }) = .ok [47, 47, 104, 58, 56, 49] := by decide +kernel
-- URL.build(encoded=True, port=81, host='h', user=('a',))
example : showP pe (dynBuild pe { encoded := some (.bool true), port := some (.int (81)), host := some (.str [104]), user := some (.tuple [(.str [97])]) }) = .garbage 1 := by decide +kernel
-- URL.build(encoded=True, port=81, host='h', user=('a', []))
example : showP pe (dynBuild pe { encoded := some (.bool true), port := some (.int (81)), host := some (.str [104]), user := some (.tuple [(.str [97]), (.list [])]) }) = .err .typeError := by decide +kernel
-- URL.build(encoded=True, port=81, host='h', user=S('x'))
example : showP pe (dynBuild pe { encoded := some (.bool true), port := some (.int (81)), host := some (.str [104]), user := some (.strSub [120]) }) = .ok [47, 47, 120, 64, 104, 58, 56, 49] := by decide +kernel
-- URL.build(encoded=True, port=81, host='h', user=1.5)
example : showP pe (dynBuild pe { encoded := some (.bool true), port := some (.int (81)), host := some (.str [104]), user := some (.float [49, 46, 53] 0) }) = .garbage 1 := by decide +kernel
-- URL.build(encoded=True, port=81, host='h', user=URL('http://h/p'))
example : showP pe (dynBuild pe { encoded := some (.bool true), port := some (.int (81)), host := some (.str [104]), user := some (.url (pU [104, 116, 116, 112, 58, 47, 47, 104, 47, 112])) }) = .garbage 1 := by rw [pU_hp]; decide +kernel
-- URL.build(encoded=True, port=81, host='h', user=URL(''))
example : showP pe (dynBuild pe { encoded := some (.bool true), port := some (.int (81)), host := some (.str [104]), user := some (.url (pU [])) }) = .ok [47, 47, 104, 58, 56, 49] := by decide +kernel
-- URL.build(encoded=True, port=81, host='h', user=b'')
example : showP pe (dynBuild pe { encoded := some (.bool true), port := some (.int (81)), host := some (.str [104]), user := some (.bytes []) }) = .ok [47, 47, 104, 58, 56, 49] := by decide +kernel
-- URL.build(encoded=True, port=81, host='h', user=False)
example : showP pe (dynBuild pe { encoded := some (.bool true), port := some (.int (81)), host := some (.str [104]), user := some (.bool false) }) = .ok [47, 47, 104, 58, 56, 49] := by decide +kernel
-- URL.build(encoded=True, port=81, host='h', password=())
example : showP pe (dynBuild pe { encoded := some (.bool true), port := some (.int (81)), host := some (.str [104]), password := some (.tuple []) }) = .garbage 1 := by decide +kernel
-- URL.build(encoded=True, port=81, host='h', password=('a',))
example : showP pe (dynBuild pe { encoded := some (.bool true), port := some (.int (81)), host := some (.str [104]), password := some (.tuple [(.str [97])]) }) = .garbage 1 := by decide +kernel
-- URL.build(encoded=True, port=81, host='h', password=('a', []))
example : showP pe (dynBuild pe { encoded := some (.bool true), port := some (.int (81)), host := some (.str [104]), password := some (.tuple [(.str [97]), (.list [])]) }) = .err .typeError := by decide +kernel
-- URL.build(encoded=True, port=81, host='h', password=S('x'))
example : showP pe (dynBuild pe { encoded := some (.bool true), port := some (.int (81)), host := some (.str [104]), password := some (.strSub [120]) }) = .ok [47, 47, 58, 120, 64, 104, 58, 56, 49] := by decide +kernel
-- URL.build(encoded=True, port=81, host='h', password=1.5)
example : showP pe (dynBuild pe { encoded := some (.bool true), port := some (.int (81)), host := some (.str [104]), password := some (.float [49, 46, 53] 0) }) = .garbage 1 := by decide +kernel
-- URL.build(encoded=True, port=81, host='h', password=URL('http://h/p'))
example : showP pe (dynBuild pe { encoded := some (.bool true), port := some (.int (81)), host := some (.str [104]), password := some (.url (pU [104, 116, 116, 112, 58, 47, 47, 104, 47, 112])) }) = .garbage 1 := by decide +kernel
-- URL.build(encoded=True, port=81, host='h', password=b'')
example : showP pe (dynBuild pe { encoded := some (.bool true), port := some (.int (81)), host := some (.str [104]), password := some (.bytes []) }) = .garbage 1 := by decide +kernel
-- URL.build(encoded=True, port=81, host='h', password=False)
example : showP pe (dynBuild pe { encoded := some (.bool true), port := some (.int (81)), host := some (.str [104]), password := some (.bool false) }) = .garbage 1 := by decide +kernel
-- URL.build(encoded=True, port=81, host=())
example : showP pe (dynBuild pe { encoded := some (.bool true), port := some (.int (81)), host := some (.tuple []) }) = .err .valueError := by decide +kernel
-- URL.build(encoded=True, port=81, host=('a',))
example : showP pe (dynBuild pe { encoded := some (.bool true), port := some (.int (81)), host := some (.tuple [(.str [97])]) }) = .garbage 1 := by decide +kernel
-- URL.build(encoded=True, port=81, host=('a', []))
example : showP pe (dynBuild pe { encoded := some (.bool true), port := some (.int (81)), host := some (.tuple [(.str [97]), (.list [])]) }) = .err .typeError := by decide +kernel
-- URL.build(encoded=True, port=81, host=S('x'))
example : showP pe (dynBuild pe { encoded := some (.bool true), port := some (.int (81)), host := some (.strSub [120]) }) = .ok [47, 47, 120, 58, 56, 49] := by decide +kernel
-- URL.build(encoded=True, port=81, host=1.5)
example : showP pe (dynBuild pe { encoded := some (.bool true), port := some (.int (81)), host := some (.float [49, 46, 53] 0) }) = .garbage 1 := by decide +kernel
-- URL.build(encoded=True, port=81, host=URL('http://h/p'))
example : showP pe (dynBuild pe { encoded := some (.bool true), port := some (.int (81)), host := some (.url (pU [104, 116, 116, 112, 58, 47, 47, 104, 47, 112])) }) = .garbage 1 := by rw [pU_hp]; decide +kernel
-- URL.build(encoded=True, port=81, host=URL(''))
example : showP pe (dynBuild pe { encoded := some (.bool true), port := some (.int (81)), host := some (.url (pU [])) }) = .err .valueError := by decide +kernel
-- URL.build(encoded=True, port=81, host=b'')
example : showP pe (dynBuild pe { encoded := some (.bool true), port := some (.int (81)), host := some (.bytes []) }) = .err .valueError := by decide +kernel
-- URL.build(encoded=True, port=81, host=False)
example : showP pe (dynBuild pe { encoded := some (.bool true), port := some (.int (81)), host := some (.bool false) }) = .err .valueError := by decide +kernel
-- URL.build(encoded=True, port=81, host='h', scheme=())
example : showP pe (dynBuild pe { encoded := some (.bool true), port := some (.int (81)), host := some (.str [104]), scheme := some (.tuple []) }) = .garbage 0 := by decide +kernel
-- URL.build(encoded=True, port=81, host='h', scheme=('a',))
example : showP pe (dynBuild pe { encoded := some (.bool true), port := some (.int (81)), host := some (.str [104]), scheme := some (.tuple [(.str [97])]) }) = .garbage 0 := by decide +kernel
-- URL.build(encoded=True, port=81, host='h', scheme=('a', []))
example : showP pe (dynBuild pe { encoded := some (.bool true), port := some (.int (81)), host := some (.str [104]), scheme := some (.tuple [(.str [97]), (.list [])]) }) = .err .typeError := by decide +kernel
-- URL.build(encoded=True, port=81, host='h', scheme=S('x'))
example : showP pe (dynBuild pe { encoded := some (.bool true), port := some (.int (81)), host := some (.str [104]), scheme := some (.strSub [120]) }) = .ok [120, 58, 47, 47, 104, 58, 56, 49] := by decide +kernel
-- URL.build(encoded=True, port=81, host='h', scheme=1.5)
example : showP pe (dynBuild pe { encoded := some (.bool true), port := some (.int (81)), host := some (.str [104]), scheme := some (.float [49, 46, 53] 0) }) = .garbage 0 := by decide +kernel
-- URL.build(encoded=True, port=81, host='h', scheme=URL('http://h/p'))
example : showP pe (dynBuild pe { encoded := some (.bool true), port := some (.int (81)), host := some (.str [104]), scheme := some (.url (pU [104, 116, 116, 112, 58, 47, 47, 104, 47, 112])) }) = .garbage 0 := by decide +kernel
-- URL.build(encoded=True, port=81, host='h', scheme=URL(''))
example : showP pe (dynBuild pe { encoded := some (.bool true), port := some (.int (81)), host := some (.str [104]), scheme := some (.url (pU [])) }) = .garbage 0 := by decide +kernel
-- URL.build(encoded=True, port=81, host='h', scheme=b'')
example : showP pe (dynBuild pe { encoded := some (.bool true), port := some (.int (81)), host := some (.str [104]), scheme := some (.bytes []) }) = .garbage 0 := by decide +kernel
-- URL.build(encoded=True, port=81, host='h', scheme=False)
example : showP pe (dynBuild pe { encoded := some (.bool true), port := some (.int (81)), host := some (.str [104]), scheme := some (.bool false) }) = .garbage 0 := by decide +kernel
-- URL.build(authority='a', user='u')
example : showP pe (dynBuild pe { authority := some (.str [97]), user := some (.str [117]) }) = .err .valueError := by decide +kernel
-- URL.build(authority='a', password='p')
example : showP pe (dynBuild pe { authority := some (.str [97]), password := some (.str [112]) }) = .err .valueError := by decide +kernel
-- URL.build(authority='a', host='h')
example : showP pe (dynBuild pe { authority := some (.str [97]), host := some (.str [104]) }) = .err .valueError := by decide +kernel
-- URL.build(authority='a', port=81)
example : showP pe (dynBuild pe { authority := some (.str [97]), port := some (.int (81)) }) = .err .valueError := by decide +kernel
-- URL.build(authority='a', port=0)
example : showP pe (dynBuild pe { authority := some (.str [97]), port := some (.int (0)) }) = .err .valueError := by decide +kernel
-- URL.build(authority='a', user='')
example : showP pe (dynBuild pe { authority := some (.str [97]), user := some (.str []) }) = .ok [47, 47, 97] := by decide +kernel
-- URL.build(authority='a', user=1)
example : showP pe (dynBuild pe { authority := some (.str [97]), user := some (.int (1)) }) = .err .valueError := by decide +kernel
-- URL.build(authority='a', port=True)
example : showP pe (dynBuild pe { authority := some (.str [97]), port := some (.bool true) }) = .err .valueError := by decide +kernel
-- URL.build(authority='a', port=False)
example : showP pe (dynBuild pe { authority := some (.str [97]), port := some (.bool false) }) = .err .valueError := by decide +kernel
-- URL.build(authority='a', port='x')
example : showP pe (dynBuild pe { authority := some (.str [97]), port := some (.str [120]) }) = .err .valueError := by decide +kernel
-- URL.build(authority='a', port=70000)
example : showP pe (dynBuild pe { authority := some (.str [97]), port := some (.int (70000)) }) = .err .valueError := by decide +kernel
-- URL.build(authority='a', host=None)
example : showP pe (dynBuild pe { authority := some (.str [97]), host := some .none }) = .err .typeError := by decide +kernel
-- URL.build(authority=1, host='h')
example : showP pe (dynBuild pe { authority := some (.int (1)), host := some (.str [104]) }) = .err .valueError := by decide +kernel
-- URL.build(authority=object(), user=[1])
example : showP pe (dynBuild pe { authority := some (.other 0), user := some (.list [(.int (1))]) }) = .err .valueError := by decide +kernel
-- URL.build(authority=[], host='h', port=81)
example : showP pe (dynBuild pe { authority := some (.list []), host := some (.str [104]), port := some (.int (81)) }) = .ok [47, 47, 104, 58, 56, 49] := by decide +kernel
-- URL.build(authority=0, user='u', host='h')
example : showP pe (dynBuild pe { authority := some (.int (0)), user := some (.str [117]), host := some (.str [104]) }) = .ok [47, 47, 117, 64, 104] := by decide +kernel
-- URL.build(authority='a', password=0)
example : showP pe (dynBuild pe { authority := some (.str [97]), password := some (.int (0)) }) = .ok [47, 47, 97] := by decide +kernel
-- URL.build(authority='a', password=b'x')
example : showP pe (dynBuild pe { authority := some (.str [97]), password := some (.bytes [120]) }) = .err .valueError := by decide +kernel
-- URL.build(authority='a', host=[])
example : showP pe (dynBuild pe { authority := some (.str [97]), host := some (.list []) }) = .ok [47, 47, 97] := by decide +kernel
-- URL.build(authority='a', host=[1])
example : showP pe (dynBuild pe { authority := some (.str [97]), host := some (.list [(.int (1))]) }) = .err .valueError := by decide +kernel
-- URL.build(authority=None, host='h')
example : showP pe (dynBuild pe { authority := some .none, host := some (.str [104]) }) = .err .typeError := by decide +kernel
-- URL.build(authority=None, port=81)
example : showP pe (dynBuild pe { authority := some .none, port := some (.int (81)) }) = .err .valueError := by decide +kernel
-- URL.build(port=81)
example : showP pe (dynBuild pe { port := some (.int (81)) }) = .err .valueError := by decide +kernel
-- URL.build(port=0)
example : showP pe (dynBuild pe { port := some (.int (0)) }) = .err .valueError := by decide +kernel
-- URL.build(port=-1)
example : showP pe (dynBuild pe { port := some (.int (-1)) }) = .err .valueError := by decide +kernel
-- URL.build(port=65535, host='h')
example : showP pe (dynBuild pe { port := some (.int (65535)), host := some (.str [104]) }) = .ok [47, 47, 104, 58, 54, 53, 53, 51, 53] := by decide +kernel
-- URL.build(port=65536, host='h')
example : showP pe (dynBuild pe { port := some (.int (65536)), host := some (.str [104]) }) = .err .valueError := by decide +kernel
-- URL.build(port=81, host='')
example : showP pe (dynBuild pe { port := some (.int (81)), host := some (.str []) }) = .err .valueError := by decide +kernel
-- URL.build(port=81, host=0)
example : showP pe (dynBuild pe { port := some (.int (81)), host := some (.int (0)) }) = .err .valueError := by decide +kernel
-- URL.build(port=81, host=None)
example : showP pe (dynBuild pe { port := some (.int (81)), host := some .none }) = .err .valueError := by decide +kernel
-- URL.build(port=81, host=[])
example : showP pe (dynBuild pe { port := some (.int (81)), host := some (.list []) }) = .err .valueError := by decide +kernel
-- URL.build(port=81, host=1)
example : showP pe (dynBuild pe { port := some (.int (81)), host := some (.int (1)) }) = .err .typeError := by decide +kernel
-- URL.build(port=81, host=b'h')
example : showP pe (dynBuild pe { port := some (.int (81)), host := some (.bytes [104]) }) = .err .attributeError := by decide +kernel
-- URL.build(port=81, host=('h',))
example : showP pe (dynBuild pe { port := some (.int (81)), host := some (.tuple [(.str [104])]) }) = .err .attributeError := by decide +kernel
-- URL.build(port=81, host=object())
example : showP pe (dynBuild pe { port := some (.int (81)), host := some (.other 0) }) = .err .typeError := by decide +kernel
-- URL.build(port=True, host='h')
example : showP pe (dynBuild pe { port := some (.bool true), host := some (.str [104]) }) = .err .typeError := by decide +kernel
-- URL.build(port='81', host='h')
example : showP pe (dynBuild pe { port := some (.str [56, 49]), host := some (.str [104]) }) = .err .typeError := by decide +kernel
-- URL.build(port=81.0, host='h')
example : showP pe (dynBuild pe { port := some (.float [56, 49, 46, 48] 0), host := some (.str [104]) }) = .err .typeError := by decide +kernel
-- URL.build(port=-1, host=None)
example : showP pe (dynBuild pe { port := some (.int (-1)), host := some .none }) = .err .valueError := by decide +kernel
-- URL.build(port=-1, query='a', query_string='b')
example : showP pe (dynBuild pe { port := some (.int (-1)), query := some (.str [97]), queryString := some (.str [98]) }) = .err .valueError := by decide +kernel
-- URL.build(port=81, query='a', query_string='b')
example : showP pe (dynBuild pe { port := some (.int (81)), query := some (.str [97]), queryString := some (.str [98]) }) = .err .valueError := by decide +kernel
-- URL.build(query='a', query_string='b')
example : showP pe (dynBuild pe { query := some (.str [97]), queryString := some (.str [98]) }) = .err .valueError := by decide +kernel
-- URL.build(query={'a': 1}, query_string='b')
example : showP pe (dynBuild pe { query := some (.dict [((.str [97]), (.int (1)))]), queryString := some (.str [98]) }) = .err .valueError := by decide +kernel
-- URL.build(query=[('a', 1)], query_string=1)
example : showP pe (dynBuild pe { query := some (.list [(.tuple [(.str [97]), (.int (1))])]), queryString := some (.int (1)) }) = .err .valueError := by decide +kernel
-- URL.build(query=1, query_string='b')
example : showP pe (dynBuild pe { query := some (.int (1)), queryString := some (.str [98]) }) = .err .valueError := by decide +kernel
-- URL.build(query=1, query_string=1)
example : showP pe (dynBuild pe { query := some (.int (1)), queryString := some (.int (1)) }) = .err .valueError := by decide +kernel
-- URL.build(query='a', query_string=None)
example : showP pe (dynBuild pe { query := some (.str [97]), queryString := some .none }) = .err .typeError := by decide +kernel
-- URL.build(query='', query_string='b')
example : showP pe (dynBuild pe { query := some (.str []), queryString := some (.str [98]) }) = .ok [63, 98] := by decide +kernel
-- URL.build(query=None, query_string='b')
example : showP pe (dynBuild pe { query := some .none, queryString := some (.str [98]) }) = .ok [63, 98] := by decide +kernel
-- URL.build(query=0, query_string='b')
example : showP pe (dynBuild pe { query := some (.int (0)), queryString := some (.str [98]) }) = .ok [63, 98] := by decide +kernel
-- URL.build(query='a', query_string=0)
example : showP pe (dynBuild pe { query := some (.str [97]), queryString := some (.int (0)) }) = .ok [63, 97] := by decide +kernel
-- URL.build(query='a', query_string=[])
example : showP pe (dynBuild pe { query := some (.str [97]), queryString := some (.list []) }) = .ok [63, 97] := by decide +kernel
-- URL.build(query='a', query_string=[], encoded=True)
example : showP pe (dynBuild pe { query := some (.str [97]), queryString := some (.list []), encoded := some (.bool true) }) = .ok [63, 97] := by decide +kernel
-- URL.build(query='a', query_string=b'')
example : showP pe (dynBuild pe { query := some (.str [97]), queryString := some (.bytes []) }) = .ok [63, 97] := by decide +kernel
-- URL.build(query=object(), query_string=object())
example : showP pe (dynBuild pe { query := some (.other 0), queryString := some (.other 0) }) = .err .valueError := by decide +kernel
-- URL.build(query=b'a', query_string='')
example : showP pe (dynBuild pe { query := some (.bytes [97]), queryString := some (.str []) }) = .err .typeError := by decide +kernel
-- URL.build(query='a', scheme=None)
example : showP pe (dynBuild pe { query := some (.str [97]), scheme := some .none }) = .err .typeError := by decide +kernel
-- URL.build(query=1, scheme=None)
example : showP pe (dynBuild pe { query := some (.int (1)), scheme := some .none }) = .err .typeError := by decide +kernel
-- URL.build(query={'a': nan}, scheme=1)
example : showP pe (dynBuild pe { query := some (.dict [((.str [97]), (.float [110, 97, 110] 2))]), scheme := some (.int (1)) }) = .err .valueError := by decide +kernel
-- URL.build(query={'a': None}, path=1)
example : showP pe (dynBuild pe { query := some (.dict [((.str [97]), .none)]), path := some (.int (1)) }) = .err .typeError := by decide +kernel
-- URL.build(query={1: 2})
example : showP pe (dynBuild pe { query := some (.dict [((.int (1)), (.int (2)))]) }) = .err .typeError := by decide +kernel
-- URL.build(query=['ab'], fragment=1)
example : showP pe (dynBuild pe { query := some (.list [(.str [97, 98])]), fragment := some (.int (1)) }) = .err .typeError := by decide +kernel
-- URL.build(scheme=None, authority=None)
example : showP pe (dynBuild pe { scheme := some .none, authority := some .none }) = .err .typeError := by decide +kernel
-- URL.build(scheme=None, path=1)
example : showP pe (dynBuild pe { scheme := some .none, path := some (.int (1)) }) = .err .typeError := by decide +kernel
-- URL.build(path=None, port='x')
example : showP pe (dynBuild pe { path := some .none, port := some (.str [120]) }) = .err .typeError := by decide +kernel
-- URL.build(fragment=None, port=-5)
example : showP pe (dynBuild pe { fragment := some .none, port := some (.int (-5)) }) = .err .valueError := by decide +kernel
-- URL.build(scheme='http')
example : showP pe (dynBuild pe { scheme := some (.str [104, 116, 116, 112]) }) = .ok [104, 116, 116, 112, 58, 47, 47] := by decide +kernel
-- URL.build(scheme='HTTP')
example : showP pe (dynBuild pe { scheme := some (.str [72, 84, 84, 80]) }) = .ok [104, 116, 116, 112, 58, 47, 47] := by decide +kernel
-- URL.build(scheme='http', path='/p')
example : showP pe (dynBuild pe { scheme := some (.str [104, 116, 116, 112]), path := some (.str [47, 112]) }) = .ok [104, 116, 116, 112, 58, 47, 47, 47, 112] := by decide +kernel
-- URL.build(scheme='https', host='')
example : showP pe (dynBuild pe { scheme := some (.str [104, 116, 116, 112, 115]), host := some (.str []) }) = .ok [104, 116, 116, 112, 115, 58, 47, 47] := by decide +kernel
-- URL.build(scheme='http', host='h', port=80)
example : showP pe (dynBuild pe { scheme := some (.str [104, 116, 116, 112]), host := some (.str [104]), port := some (.int (80)) }) = .ok [104, 116, 116, 112, 58, 47, 47, 104] := by decide +kernel
-- URL.build(scheme='HTTP', host='h', port=80)
example : showP pe (dynBuild pe { scheme := some (.str [72, 84, 84, 80]), host := some (.str [104]), port := some (.int (80)) }) = .ok [104, 116, 116, 112, 58, 47, 47, 104] := by decide +kernel
-- URL.build(scheme='http', host='h', port=80, encoded=True)
example : showP pe (dynBuild pe { scheme := some (.str [104, 116, 116, 112]), host := some (.str [104]), port := some (.int (80)), encoded := some (.bool true) }) = .ok [104, 116, 116, 112, 58, 47, 47, 104] := by decide +kernel
-- URL.build(scheme='HTTP', host='h', port=80, encoded=True)
example : showP pe (dynBuild pe { scheme := some (.str [72, 84, 84, 80]), host := some (.str [104]), port := some (.int (80)), encoded := some (.bool true) }) = .ok [72, 84, 84, 80, 58, 47, 47, 104, 58, 56, 48] := by decide +kernel
-- URL.build(scheme=S('http'), host='h', port=80, encoded=True)
example : showP pe (dynBuild pe { scheme := some (.strSub [104, 116, 116, 112]), host := some (.str [104]), port := some (.int (80)), encoded := some (.bool true) }) = .ok [104, 116, 116, 112, 58, 47, 47, 104] := by decide +kernel
-- URL.build(scheme=b'http', host='h', port=80)
example : showP pe (dynBuild pe { scheme := some (.bytes [104, 116, 116, 112]), host := some (.str [104]), port := some (.int (80)) }) = .garbage 0 := by decide +kernel
-- URL.build(scheme=b'http', host='h', port=80, encoded=True)
example : showP pe (dynBuild pe { scheme := some (.bytes [104, 116, 116, 112]), host := some (.str [104]), port := some (.int (80)), encoded := some (.bool true) }) = .garbage 0 := by decide +kernel
-- URL.build(scheme=1, host=1, port=80, encoded=True)
example : showP pe (dynBuild pe { scheme := some (.int (1)), host := some (.int (1)), port := some (.int (80)), encoded := some (.bool true) }) = .garbage 0 := by decide +kernel
-- URL.build(scheme='http', host=1, port=80, encoded=True)
example : showP pe (dynBuild pe { scheme := some (.str [104, 116, 116, 112]), host := some (.int (1)), port := some (.int (80)), encoded := some (.bool true) }) = .garbage 0 := by decide +kernel
-- URL.build(scheme='http', host=1, port=81, encoded=True)
example : showP pe (dynBuild pe { scheme := some (.str [104, 116, 116, 112]), host := some (.int (1)), port := some (.int (81)), encoded := some (.bool true) }) = .garbage 1 := by decide +kernel
-- URL.build(scheme=1, authority=1)
example : showP pe (dynBuild pe { scheme := some (.int (1)), authority := some (.int (1)) }) = .err .attributeError := by decide +kernel
-- URL.build(scheme=b'x', authority=1)
example : showP pe (dynBuild pe { scheme := some (.bytes [120]), authority := some (.int (1)) }) = .err .attributeError := by decide +kernel
-- URL.build(scheme=b'x', authority=b'a')
example : showP pe (dynBuild pe { scheme := some (.bytes [120]), authority := some (.bytes [97]) }) = .err .typeError := by decide +kernel
-- URL.build(authority=b'\xff')
example : showP pe (dynBuild pe { authority := some (.bytes [255]) }) = .err .typeError := by decide +kernel
-- URL.build(authority=b'a@b')
example : showP pe (dynBuild pe { authority := some (.bytes [97, 64, 98]) }) = .err .typeError := by decide +kernel
-- URL.build(authority=1, path=1)
example : showP pe (dynBuild pe { authority := some (.int (1)), path := some (.int (1)) }) = .err .attributeError := by decide +kernel
-- URL.build(authority=S('u@h:81'))
example : showP pe (dynBuild pe { authority := some (.strSub [117, 64, 104, 58, 56, 49]) }) = .ok [47, 47, 117, 64, 104, 58, 56, 49] := by decide +kernel
-- URL.build(authority='u@h:81', user=0, password=b'')
example : showP pe (dynBuild pe { authority := some (.str [117, 64, 104, 58, 56, 49]), user := some (.int (0)), password := some (.bytes []) }) = .ok [47, 47, 117, 64, 104, 58, 56, 49] := by decide +kernel
-- URL.build(authority='h:x')
example : showP pe (dynBuild pe { authority := some (.str [104, 58, 120]) }) = .err .valueError := by decide +kernel
-- URL.build(authority='h:x', path=1)
example : showP pe (dynBuild pe { authority := some (.str [104, 58, 120]), path := some (.int (1)) }) = .err .valueError := by decide +kernel
-- URL.build(authority='h:x', scheme=1)
example : showP pe (dynBuild pe { authority := some (.str [104, 58, 120]), scheme := some (.int (1)) }) = .err .attributeError := by decide +kernel
-- URL.build(host='h_@', user=1)
example : showP pe (dynBuild pe { host := some (.str [104, 95, 64]), user := some (.int (1)) }) = .err .valueError := by decide +kernel
-- URL.build(host='h_@', path=1)
example : showP pe (dynBuild pe { host := some (.str [104, 95, 64]), path := some (.int (1)) }) = .err .valueError := by decide +kernel
-- URL.build(host='h_@', scheme=1)
example : showP pe (dynBuild pe { host := some (.str [104, 95, 64]), scheme := some (.int (1)) }) = .err .attributeError := by decide +kernel
-- URL.build(host='h', user=1, path=1)
example : showP pe (dynBuild pe { host := some (.str [104]), user := some (.int (1)), path := some (.int (1)) }) = .err .typeError := by decide +kernel
-- URL.build(host='h', user=[], path='x')
example : showP pe (dynBuild pe { host := some (.str [104]), user := some (.list []), path := some (.str [120]) }) = .err .typeError := by decide +kernel
-- URL.build(host='h', path='x', query_string=1)
example : showP pe (dynBuild pe { host := some (.str [104]), path := some (.str [120]), queryString := some (.int (1)) }) = .err .valueError := by decide +kernel
-- URL.build(host='h', path='/x', query_string=1, fragment=2)
example : showP pe (dynBuild pe { host := some (.str [104]), path := some (.str [47, 120]), queryString := some (.int (1)), fragment := some (.int (2)) }) = .err .typeError := by decide +kernel
-- URL.build(host='h', path='x', fragment=2)
example : showP pe (dynBuild pe { host := some (.str [104]), path := some (.str [120]), fragment := some (.int (2)) }) = .err .valueError := by decide +kernel
-- URL.build(host='h', path='/x', fragment=2)
example : showP pe (dynBuild pe { host := some (.str [104]), path := some (.str [47, 120]), fragment := some (.int (2)) }) = .err .typeError := by decide +kernel
-- URL.build(host=1, path=1)
example : showP pe (dynBuild pe { host := some (.int (1)), path := some (.int (1)) }) = .err .typeError := by decide +kernel
-- URL.build(host=b'h', user=1)
example : showP pe (dynBuild pe { host := some (.bytes [104]), user := some (.int (1)) }) = .err .attributeError := by decide +kernel
-- URL.build(host=('1',))
example : showP pe (dynBuild pe { host := some (.tuple [(.str [49])]) }) = .err .attributeError := by decide +kernel
-- URL.build(host=(':',))
example : showP pe (dynBuild pe { host := some (.tuple [(.str [58])]) }) = .err .attributeError := by decide +kernel
-- URL.build(host=(1,))
example : showP pe (dynBuild pe { host := some (.tuple [(.int (1))]) }) = .err .attributeError := by decide +kernel
-- URL.build(host=(None,))
example : showP pe (dynBuild pe { host := some (.tuple [.none]) }) = .err .attributeError := by decide +kernel
-- URL.build(host=SplitResult('http', 'h', '', '', ''))
example : showP pe (dynBuild pe { host := some (.splitResult [[104, 116, 116, 112], [104], [], [], []]) }) = .err .attributeError := by decide +kernel
-- URL.build(host=URL('x'))
example : showP pe (dynBuild pe { host := some (.url (pU [120])) }) = .err .typeError := by decide +kernel
-- URL.build(host=URL(''))
example : showP pe (dynBuild pe { host := some (.url (pU [])) }) = .ok [] := by decide +kernel
-- URL.build(host='h', user=URL('x'))
example : showP pe (dynBuild pe { host := some (.str [104]), user := some (.url (pU [120])) }) = .err .typeError := by decide +kernel
-- URL.build(host='h', user=URL(''))
example : showP pe (dynBuild pe { host := some (.str [104]), user := some (.url (pU [])) }) = .ok [47, 47, 104] := by decide +kernel
-- URL.build(host='h', user='u', password=0)
example : showP pe (dynBuild pe { host := some (.str [104]), user := some (.str [117]), password := some (.int (0)) }) = .err .typeError := by decide +kernel
-- URL.build(host='h', user=0, password='p')
example : showP pe (dynBuild pe { host := some (.str [104]), user := some (.int (0)), password := some (.str [112]) }) = .ok [47, 47, 58, 112, 64, 104] := by decide +kernel
-- URL.build(host='h', user=1, password='p')
example : showP pe (dynBuild pe { host := some (.str [104]), user := some (.int (1)), password := some (.str [112]) }) = .err .typeError := by decide +kernel
-- URL.build(host='h', user=(), password='p')
example : showP pe (dynBuild pe { host := some (.str [104]), user := some (.tuple []), password := some (.str [112]) }) = .ok [47, 47, 58, 112, 64, 104] := by decide +kernel
-- URL.build(host='h', user='u', password=())
example : showP pe (dynBuild pe { host := some (.str [104]), user := some (.str [117]), password := some (.tuple []) }) = .err .typeError := by decide +kernel
-- URL.build(host='h', user=S('u'), password=S('p'))
example : showP pe (dynBuild pe { host := some (.str [104]), user := some (.strSub [117]), password := some (.strSub [112]) }) = .ok [47, 47, 117, 58, 112, 64, 104] := by decide +kernel
-- URL.build(host=S('H'), port=81)
example : showP pe (dynBuild pe { host := some (.strSub [72]), port := some (.int (81)) }) = .ok [47, 47, 104, 58, 56, 49] := by decide +kernel
-- URL.build(host='h', user=0)
example : showP pe (dynBuild pe { host := some (.str [104]), user := some (.int (0)) }) = .ok [47, 47, 104] := by decide +kernel
-- URL.build(host='h', user=0, port=81)
example : showP pe (dynBuild pe { host := some (.str [104]), user := some (.int (0)), port := some (.int (81)) }) = .ok [47, 47, 104, 58, 56, 49] := by decide +kernel
-- URL.build(host='', user=1, password=[])
example : showP pe (dynBuild pe { host := some (.str []), user := some (.int (1)), password := some (.list []) }) = .ok [] := by decide +kernel
-- URL.build(host=0, user=1)
example : showP pe (dynBuild pe { host := some (.int (0)), user := some (.int (1)) }) = .ok [] := by decide +kernel
-- URL.build(path=0, fragment=1)
example : showP pe (dynBuild pe { path := some (.int (0)), fragment := some (.int (1)) }) = .err .typeError := by decide +kernel
-- URL.build(path=0, query_string=0, fragment=0)
example : showP pe (dynBuild pe { path := some (.int (0)), queryString := some (.int (0)), fragment := some (.int (0)) }) = .garbage 0 := by decide +kernel
-- URL.build(path='x', fragment=0)
example : showP pe (dynBuild pe { path := some (.str [120]), fragment := some (.int (0)) }) = .garbage 0 := by decide +kernel
-- URL.build(path=[], encoded=True)
example : showP pe (dynBuild pe { path := some (.list []), encoded := some (.bool true) }) = .err .typeError := by decide +kernel
-- URL.build(path=0, encoded=1)
example : showP pe (dynBuild pe { path := some (.int (0)), encoded := some (.int (1)) }) = .garbage 0 := by decide +kernel
-- URL.build(path=1, encoded='x')
example : showP pe (dynBuild pe { path := some (.int (1)), encoded := some (.str [120]) }) = .garbage 0 := by decide +kernel
-- URL.build(path=1, encoded='')
example : showP pe (dynBuild pe { path := some (.int (1)), encoded := some (.str []) }) = .err .typeError := by decide +kernel
-- URL.build(path=1, encoded=[])
example : showP pe (dynBuild pe { path := some (.int (1)), encoded := some (.list []) }) = .err .typeError := by decide +kernel
-- URL.build(path=1, encoded=[0])
example : showP pe (dynBuild pe { path := some (.int (1)), encoded := some (.list [(.int (0))]) }) = .garbage 0 := by decide +kernel
-- URL.build(path=1, encoded=object())
example : showP pe (dynBuild pe { path := some (.int (1)), encoded := some (.other 0) }) = .garbage 0 := by decide +kernel
-- URL.build(path=1, encoded=None)
example : showP pe (dynBuild pe { path := some (.int (1)), encoded := some .none }) = .err .typeError := by decide +kernel
-- URL.build(path=1, encoded=0.0)
example : showP pe (dynBuild pe { path := some (.int (1)), encoded := some (.float [48, 46, 48] 0) }) = .err .typeError := by decide +kernel
-- URL.build(path=1, encoded=URL(''))
example : showP pe (dynBuild pe { path := some (.int (1)), encoded := some (.url (pU [])) }) = .err .typeError := by decide +kernel
-- URL.build(path=1, encoded=URL('x'))
example : showP pe (dynBuild pe { path := some (.int (1)), encoded := some (.url (pU [120])) }) = .garbage 0 := by decide +kernel
-- URL.build(host='h', user=1, encoded=True)
example : showP pe (dynBuild pe { host := some (.str [104]), user := some (.int (1)), encoded := some (.bool true) }) = .garbage 1 := by decide +kernel
-- URL.build(host='h', password=0, encoded=True)
example : showP pe (dynBuild pe { host := some (.str [104]), password := some (.int (0)), encoded := some (.bool true) }) = .garbage 1 := by decide +kernel
-- URL.build(host='h', user=0, encoded=True)
example : showP pe (dynBuild pe { host := some (.str [104]), user := some (.int (0)), encoded := some (.bool true) }) = .ok [47, 47, 104] := by decide +kernel
-- URL.build(host='h', user=0, port=81, encoded=True)
example : showP pe (dynBuild pe { host := some (.str [104]), user := some (.int (0)), port := some (.int (81)), encoded := some (.bool true) }) = .ok [47, 47, 104, 58, 56, 49] := by decide +kernel
-- URL.build(host=1, user=0, encoded=True)
example : showP pe (dynBuild pe { host := some (.int (1)), user := some (.int (0)), encoded := some (.bool true) }) = .garbage 0 := by decide +kernel
-- URL.build(host=1, user=0, port=81, encoded=True)
example : showP pe (dynBuild pe { host := some (.int (1)), user := some (.int (0)), port := some (.int (81)), encoded := some (.bool true) }) = .garbage 1 := by decide +kernel
-- URL.build(host=1, user='u', encoded=True)
example : showP pe (dynBuild pe { host := some (.int (1)), user := some (.str [117]), encoded := some (.bool true) }) = .garbage 1 := by decide +kernel
-- URL.build(host=1, password='p', encoded=True)
example : showP pe (dynBuild pe { host := some (.int (1)), password := some (.str [112]), encoded := some (.bool true) }) = .garbage 1 := by decide +kernel
-- URL.build(host='h', user=S('u'), password=S('p'), port=81, encoded=True)
example : showP pe (dynBuild pe { host := some (.str [104]), user := some (.strSub [117]), password := some (.strSub [112]), port := some (.int (81)), encoded := some (.bool true) }) = .ok [47, 47, 117, 58, 112, 64, 104, 58, 56, 49] := by decide +kernel
-- URL.build(host='h', user='', encoded=True)
example : showP pe (dynBuild pe { host := some (.str [104]), user := some (.str []), encoded := some (.bool true) }) = .ok [47, 47, 104] := by decide +kernel
-- URL.build(host='h', user='', password='', encoded=True)
example : showP pe (dynBuild pe { host := some (.str [104]), user := some (.str []), password := some (.str []), encoded := some (.bool true) }) = .ok [47, 47, 58, 64, 104] := by decide +kernel
-- URL.build(host='h', user=b'', password='p', encoded=True)
example : showP pe (dynBuild pe { host := some (.str [104]), user := some (.bytes []), password := some (.str [112]), encoded := some (.bool true) }) = .ok [47, 47, 58, 112, 64, 104] := by decide +kernel
-- URL.build(host='h', user=b'u', password='p', encoded=True)
example : showP pe (dynBuild pe { host := some (.str [104]), user := some (.bytes [117]), password := some (.str [112]), encoded := some (.bool true) }) = .garbage 1 := by decide +kernel
-- URL.build(authority='a b', path='x y', encoded=True)
example : showP pe (dynBuild pe { authority := some (.str [97, 32, 98]), path := some (.str [120, 32, 121]), encoded := some (.bool true) }) = .ok [58, 120, 32, 121] := by decide +kernel
-- URL.build(authority='a', user=0, host=(), encoded=True)
example : showP pe (dynBuild pe { authority := some (.str [97]), user := some (.int (0)), host := some (.tuple []), encoded := some (.bool true) }) = .ok [47, 47, 97] := by decide +kernel
-- URL.build(authority=S('a'), path=S('/p'), encoded=True)
example : showP pe (dynBuild pe { authority := some (.strSub [97]), path := some (.strSub [47, 112]), encoded := some (.bool true) }) = .ok [47, 47, 97, 47, 112] := by decide +kernel
-- URL.build(authority=1, path=[], encoded=True)
example : showP pe (dynBuild pe { authority := some (.int (1)), path := some (.list []), encoded := some (.bool true) }) = .err .typeError := by decide +kernel
-- URL.build(scheme=1, query={1: 2}, encoded=True)
example : showP pe (dynBuild pe { scheme := some (.int (1)), query := some (.dict [((.int (1)), (.int (2)))]), encoded := some (.bool true) }) = .err .typeError := by decide +kernel
-- URL.build(scheme=1, query={'a': 1}, encoded=True)
example : showP pe (dynBuild pe { scheme := some (.int (1)), query := some (.dict [((.str [97]), (.int (1)))]), encoded := some (.bool true) }) = .garbage 0 := by decide +kernel
-- URL.build(query={'a': 1}, encoded=True)
example : showP pe (dynBuild pe { query := some (.dict [((.str [97]), (.int (1)))]), encoded := some (.bool true) }) = .ok [63, 97, 61, 49] := by decide +kernel
-- URL.build(query=['ab'], path=[], encoded=True)
example : showP pe (dynBuild pe { query := some (.list [(.str [97, 98])]), path := some (.list []), encoded := some (.bool true) }) = .err .typeError := by decide +kernel
-- URL.build(fragment=[], query_string=0, encoded=True)
example : showP pe (dynBuild pe { fragment := some (.list []), queryString := some (.int (0)), encoded := some (.bool true) }) = .err .typeError := by decide +kernel
-- URL('http://h/p?a=1&b=2&a=3#f').without_query_params()
example : showU pe (dynWithoutQueryParams pe (pU [104, 116, 116, 112, 58, 47, 47, 104, 47, 112, 63, 97, 61, 49, 38, 98, 61, 50, 38, 97, 61, 51, 35, 102]) []) = .ok [104, 116, 116, 112, 58, 47, 47, 104, 47, 112, 63, 97, 61, 49, 38, 98, 61, 50, 38, 97, 61, 51, 35, 102] := by rw [pU_three]; decide +kernel
-- URL('http://h/p?a=1&b=2&a=3#f').without_query_params('a')
example : showU pe (dynWithoutQueryParams pe (pU [104, 116, 116, 112, 58, 47, 47, 104, 47, 112, 63, 97, 61, 49, 38, 98, 61, 50, 38, 97, 61, 51, 35, 102]) [(.str [97])]) = .ok [104, 116, 116, 112, 58, 47, 47, 104, 47, 112, 63, 98, 61, 50, 35, 102] := by rw [pU_three]; decide +kernel
-- URL('http://h/p?a=1&b=2&a=3#f').without_query_params(S('a'))
example : showU pe (dynWithoutQueryParams pe (pU [104, 116, 116, 112, 58, 47, 47, 104, 47, 112, 63, 97, 61, 49, 38, 98, 61, 50, 38, 97, 61, 51, 35, 102]) [(.strSub [97])]) = .ok [104, 116, 116, 112, 58, 47, 47, 104, 47, 112, 63, 98, 61, 50, 35, 102] := by rw [pU_three]; decide +kernel
-- URL('http://h/p?a=1&b=2&a=3#f').without_query_params(1)
example : showU pe (dynWithoutQueryParams pe (pU [104, 116, 116, 112, 58, 47, 47, 104, 47, 112, 63, 97, 61, 49, 38, 98, 61, 50, 38, 97, 61, 51, 35, 102]) [(.int (1))]) = .ok [104, 116, 116, 112, 58, 47, 47, 104, 47, 112, 63, 97, 61, 49, 38, 98, 61, 50, 38, 97, 61, 51, 35, 102] := by rw [pU_three]; decide +kernel
-- URL('http://h/p?a=1&b=2&a=3#f').without_query_params(None)
example : showU pe (dynWithoutQueryParams pe (pU [104, 116, 116, 112, 58, 47, 47, 104, 47, 112, 63, 97, 61, 49, 38, 98, 61, 50, 38, 97, 61, 51, 35, 102]) [.none]) = .ok [104, 116, 116, 112, 58, 47, 47, 104, 47, 112, 63, 97, 61, 49, 38, 98, 61, 50, 38, 97, 61, 51, 35, 102] := by rw [pU_three]; decide +kernel
-- URL('http://h/p?a=1&b=2&a=3#f').without_query_params(b'a')
example : showU pe (dynWithoutQueryParams pe (pU [104, 116, 116, 112, 58, 47, 47, 104, 47, 112, 63, 97, 61, 49, 38, 98, 61, 50, 38, 97, 61, 51, 35, 102]) [(.bytes [97])]) = .ok [104, 116, 116, 112, 58, 47, 47, 104, 47, 112, 63, 97, 61, 49, 38, 98, 61, 50, 38, 97, 61, 51, 35, 102] := by rw [pU_three]; decide +kernel
-- URL('http://h/p?a=1&b=2&a=3#f').without_query_params([])
example : showU pe (dynWithoutQueryParams pe (pU [104, 116, 116, 112, 58, 47, 47, 104, 47, 112, 63, 97, 61, 49, 38, 98, 61, 50, 38, 97, 61, 51, 35, 102]) [(.list [])]) = .err .typeError := by decide +kernel
-- URL('http://h/p?a=1&b=2&a=3#f').without_query_params({})
example : showU pe (dynWithoutQueryParams pe (pU [104, 116, 116, 112, 58, 47, 47, 104, 47, 112, 63, 97, 61, 49, 38, 98, 61, 50, 38, 97, 61, 51, 35, 102]) [(.dict [])]) = .err .typeError := by decide +kernel
-- URL('http://h/p?a=1&b=2&a=3#f').without_query_params(('a',))
example : showU pe (dynWithoutQueryParams pe (pU [104, 116, 116, 112, 58, 47, 47, 104, 47, 112, 63, 97, 61, 49, 38, 98, 61, 50, 38, 97, 61, 51, 35, 102]) [(.tuple [(.str [97])])]) = .ok [104, 116, 116, 112, 58, 47, 47, 104, 47, 112, 63, 97, 61, 49, 38, 98, 61, 50, 38, 97, 61, 51, 35, 102] := by rw [pU_three]; decide +kernel
-- URL('http://h/p?a=1&b=2&a=3#f').without_query_params(('a', []))
example : showU pe (dynWithoutQueryParams pe (pU [104, 116, 116, 112, 58, 47, 47, 104, 47, 112, 63, 97, 61, 49, 38, 98, 61, 50, 38, 97, 61, 51, 35, 102]) [(.tuple [(.str [97]), (.list [])])]) = .err .typeError := by decide +kernel
-- URL('http://h/p?a=1&b=2&a=3#f').without_query_params(object())
example : showU pe (dynWithoutQueryParams pe (pU [104, 116, 116, 112, 58, 47, 47, 104, 47, 112, 63, 97, 61, 49, 38, 98, 61, 50, 38, 97, 61, 51, 35, 102]) [(.other 0)]) = .ok [104, 116, 116, 112, 58, 47, 47, 104, 47, 112, 63, 97, 61, 49, 38, 98, 61, 50, 38, 97, 61, 51, 35, 102] := by rw [pU_three]; decide +kernel
-- URL('http://h/p?a=1&b=2&a=3#f').without_query_params(1, 'a')
example : showU pe (dynWithoutQueryParams pe (pU [104, 116, 116, 112, 58, 47, 47, 104, 47, 112, 63, 97, 61, 49, 38, 98, 61, 50, 38, 97, 61, 51, 35, 102]) [(.int (1)), (.str [97])]) = .ok [104, 116, 116, 112, 58, 47, 47, 104, 47, 112, 63, 98, 61, 50, 35, 102] := by rw [pU_three]; decide +kernel
-- URL('http://h/p?a=1&b=2&a=3#f').without_query_params('a', 1)
example : showU pe (dynWithoutQueryParams pe (pU [104, 116, 116, 112, 58, 47, 47, 104, 47, 112, 63, 97, 61, 49, 38, 98, 61, 50, 38, 97, 61, 51, 35, 102]) [(.str [97]), (.int (1))]) = .ok [104, 116, 116, 112, 58, 47, 47, 104, 47, 112, 63, 98, 61, 50, 35, 102] := by rw [pU_three]; decide +kernel
-- URL('http://h/p?a=1&b=2&a=3#f').without_query_params('a', [])
example : showU pe (dynWithoutQueryParams pe (pU [104, 116, 116, 112, 58, 47, 47, 104, 47, 112, 63, 97, 61, 49, 38, 98, 61, 50, 38, 97, 61, 51, 35, 102]) [(.str [97]), (.list [])]) = .err .typeError := by decide +kernel
-- URL('http://h/p?a=1&b=2&a=3#f').without_query_params([], 'a')
example : showU pe (dynWithoutQueryParams pe (pU [104, 116, 116, 112, 58, 47, 47, 104, 47, 112, 63, 97, 61, 49, 38, 98, 61, 50, 38, 97, 61, 51, 35, 102]) [(.list []), (.str [97])]) = .err .typeError := by decide +kernel
-- URL('http://h/p?a=1&b=2&a=3#f').without_query_params(1.5)
example : showU pe (dynWithoutQueryParams pe (pU [104, 116, 116, 112, 58, 47, 47, 104, 47, 112, 63, 97, 61, 49, 38, 98, 61, 50, 38, 97, 61, 51, 35, 102]) [(.float [49, 46, 53] 0)]) = .ok [104, 116, 116, 112, 58, 47, 47, 104, 47, 112, 63, 97, 61, 49, 38, 98, 61, 50, 38, 97, 61, 51, 35, 102] := by rw [pU_three]; decide +kernel
-- URL('http://h/p?a=1&b=2&a=3#f').without_query_params(True)
example : showU pe (dynWithoutQueryParams pe (pU [104, 116, 116, 112, 58, 47, 47, 104, 47, 112, 63, 97, 61, 49, 38, 98, 61, 50, 38, 97, 61, 51, 35, 102]) [(.bool true)]) = .ok [104, 116, 116, 112, 58, 47, 47, 104, 47, 112, 63, 97, 61, 49, 38, 98, 61, 50, 38, 97, 61, 51, 35, 102] := by rw [pU_three]; decide +kernel
-- URL('http://h/p?a=1&b=2&a=3#f').without_query_params(URL('a'))
example : showU pe (dynWithoutQueryParams pe (pU [104, 116, 116, 112, 58, 47, 47, 104, 47, 112, 63, 97, 61, 49, 38, 98, 61, 50, 38, 97, 61, 51, 35, 102]) [(.url (pU [97]))]) = .ok [104, 116, 116, 112, 58, 47, 47, 104, 47, 112, 63, 97, 61, 49, 38, 98, 61, 50, 38, 97, 61, 51, 35, 102] := by rw [pU_three]; decide +kernel
-- URL('http://h/p?a=1&b=2&a=3#f').without_query_params('zz', 1)
example : showU pe (dynWithoutQueryParams pe (pU [104, 116, 116, 112, 58, 47, 47, 104, 47, 112, 63, 97, 61, 49, 38, 98, 61, 50, 38, 97, 61, 51, 35, 102]) [(.str [122, 122]), (.int (1))]) = .ok [104, 116, 116, 112, 58, 47, 47, 104, 47, 112, 63, 97, 61, 49, 38, 98, 61, 50, 38, 97, 61, 51, 35, 102] := by rw [pU_three]; decide +kernel
-- URL('http://h/p?a=1&b=2&a=3#f').without_query_params(0)
example : showU pe (dynWithoutQueryParams pe (pU [104, 116, 116, 112, 58, 47, 47, 104, 47, 112, 63, 97, 61, 49, 38, 98, 61, 50, 38, 97, 61, 51, 35, 102]) [(.int (0))]) = .ok [104, 116, 116, 112, 58, 47, 47, 104, 47, 112, 63, 97, 61, 49, 38, 98, 61, 50, 38, 97, 61, 51, 35, 102] := by rw [pU_three]; decide +kernel
-- URL('http://h/p?a=1&b=2&a=3#f').without_query_params('c')
example : showU pe (dynWithoutQueryParams pe (pU [104, 116, 116, 112, 58, 47, 47, 104, 47, 112, 63, 97, 61, 49, 38, 98, 61, 50, 38, 97, 61, 51, 35, 102]) [(.str [99])]) = .ok [104, 116, 116, 112, 58, 47, 47, 104, 47, 112, 63, 97, 61, 49, 38, 98, 61, 50, 38, 97, 61, 51, 35, 102] := by rw [pU_three]; decide +kernel
-- URL('http://h/p?a=1&b=2&a=3#f').without_query_params('c', [])
example : showU pe (dynWithoutQueryParams pe (pU [104, 116, 116, 112, 58, 47, 47, 104, 47, 112, 63, 97, 61, 49, 38, 98, 61, 50, 38, 97, 61, 51, 35, 102]) [(.str [99]), (.list [])]) = .err .typeError := by decide +kernel
-- URL('http://h/p?a=1&b=2&a=3#f').without_query_params('a', 'b')
example : showU pe (dynWithoutQueryParams pe (pU [104, 116, 116, 112, 58, 47, 47, 104, 47, 112, 63, 97, 61, 49, 38, 98, 61, 50, 38, 97, 61, 51, 35, 102]) [(.str [97]), (.str [98])]) = .ok [104, 116, 116, 112, 58, 47, 47, 104, 47, 112, 35, 102] := by rw [pU_three]; decide +kernel
-- URL('http://h/p?a=1&b=2&a=3#f').without_query_params('b', None, S('a'))
example : showU pe (dynWithoutQueryParams pe (pU [104, 116, 116, 112, 58, 47, 47, 104, 47, 112, 63, 97, 61, 49, 38, 98, 61, 50, 38, 97, 61, 51, 35, 102]) [(.str [98]), .none, (.strSub [97])]) = .ok [104, 116, 116, 112, 58, 47, 47, 104, 47, 112, 35, 102] := by rw [pU_three]; decide +kernel
-- URL('http://h/p?a=1&b=2&a=3#f').without_query_params(SplitResult('http', 'h', '', '', ''))
example : showU pe (dynWithoutQueryParams pe (pU [104, 116, 116, 112, 58, 47, 47, 104, 47, 112, 63, 97, 61, 49, 38, 98, 61, 50, 38, 97, 61, 51, 35, 102]) [(.splitResult [[104, 116, 116, 112], [104], [], [], []])]) = .ok [104, 116, 116, 112, 58, 47, 47, 104, 47, 112, 63, 97, 61, 49, 38, 98, 61, 50, 38, 97, 61, 51, 35, 102] := by rw [pU_three]; decide +kernel
-- URL('http://h/p?a=1&b=2&a=3#f').without_query_params({'a': 1})
example : showU pe (dynWithoutQueryParams pe (pU [104, 116, 116, 112, 58, 47, 47, 104, 47, 112, 63, 97, 61, 49, 38, 98, 61, 50, 38, 97, 61, 51, 35, 102]) [(.dict [((.str [97]), (.int (1)))])]) = .err .typeError := by decide +kernel
-- URL('/a').without_query_params()
example : showU pe (dynWithoutQueryParams pe (pU [47, 97]) []) = .ok [47, 97] := by decide +kernel
-- URL('/a').without_query_params('a')
example : showU pe (dynWithoutQueryParams pe (pU [47, 97]) [(.str [97])]) = .ok [47, 97] := by decide +kernel
-- URL('/a').without_query_params(1)
example : showU pe (dynWithoutQueryParams pe (pU [47, 97]) [(.int (1))]) = .ok [47, 97] := by decide +kernel
-- URL('/a').without_query_params([])
example : showU pe (dynWithoutQueryParams pe (pU [47, 97]) [(.list [])]) = .err .typeError := by decide +kernel
-- URL('http://h/p?a=1&b=2&a=3#f').with_path('/x y', encoded=None)
example : showP pe (dynWithPathFlags pe (pU [104, 116, 116, 112, 58, 47, 47, 104, 47, 112, 63, 97, 61, 49, 38, 98, 61, 50, 38, 97, 61, 51, 35, 102]) (.str [47, 120, 32, 121]) .none (.bool false) (.bool false)) = .ok [104, 116, 116, 112, 58, 47, 47, 104, 47, 120, 37, 50, 48, 121] := by rw [pU_three]; decide +kernel
-- URL('http://h/p?a=1&b=2&a=3#f').with_path('/x', keep_query=None)
example : showP pe (dynWithPathFlags pe (pU [104, 116, 116, 112, 58, 47, 47, 104, 47, 112, 63, 97, 61, 49, 38, 98, 61, 50, 38, 97, 61, 51, 35, 102]) (.str [47, 120]) (.bool false) .none (.bool false)) = .ok [104, 116, 116, 112, 58, 47, 47, 104, 47, 120] := by rw [pU_three]; decide +kernel
-- URL('http://h/p?a=1&b=2&a=3#f').with_path('/x', keep_fragment=None)
example : showP pe (dynWithPathFlags pe (pU [104, 116, 116, 112, 58, 47, 47, 104, 47, 112, 63, 97, 61, 49, 38, 98, 61, 50, 38, 97, 61, 51, 35, 102]) (.str [47, 120]) (.bool false) (.bool false) .none) = .ok [104, 116, 116, 112, 58, 47, 47, 104, 47, 120] := by rw [pU_three]; decide +kernel
-- URL('http://h/p?a=1&b=2&a=3#f').with_name('n', keep_query=None, keep_fragment=None)
example : showU pe (dynWithNameFlags pe (pU [104, 116, 116, 112, 58, 47, 47, 104, 47, 112, 63, 97, 61, 49, 38, 98, 61, 50, 38, 97, 61, 51, 35, 102]) (.str [110]) .none .none) = .ok [104, 116, 116, 112, 58, 47, 47, 104, 47, 110] := by rw [pU_three]; decide +kernel
-- URL('http://h/p?a=1&b=2&a=3#f').with_suffix('.s', keep_query=None)
example : showU pe (dynWithSuffixFlags pe (pU [104, 116, 116, 112, 58, 47, 47, 104, 47, 112, 63, 97, 61, 49, 38, 98, 61, 50, 38, 97, 61, 51, 35, 102]) (.str [46, 115]) .none (.bool false)) = .ok [104, 116, 116, 112, 58, 47, 47, 104, 47, 112, 46, 115] := by rw [pU_three]; decide +kernel
-- URL('http://h/p?a=1&b=2&a=3#f').joinpath('x y', encoded=None)
example : showU pe (dynJoinpathFlag pe (pU [104, 116, 116, 112, 58, 47, 47, 104, 47, 112, 63, 97, 61, 49, 38, 98, 61, 50, 38, 97, 61, 51, 35, 102]) [(.str [120, 32, 121])] .none) = .ok [104, 116, 116, 112, 58, 47, 47, 104, 47, 112, 47, 120, 37, 50, 48, 121] := by rw [pU_three]; decide +kernel
-- URL('http://h/p?a=1&b=2&a=3#f').with_path('/x y', encoded=0)
example : showP pe (dynWithPathFlags pe (pU [104, 116, 116, 112, 58, 47, 47, 104, 47, 112, 63, 97, 61, 49, 38, 98, 61, 50, 38, 97, 61, 51, 35, 102]) (.str [47, 120, 32, 121]) (.int (0)) (.bool false) (.bool false)) = .ok [104, 116, 116, 112, 58, 47, 47, 104, 47, 120, 37, 50, 48, 121] := by rw [pU_three]; decide +kernel
-- URL('http://h/p?a=1&b=2&a=3#f').with_path('/x', keep_query=0)
example : showP pe (dynWithPathFlags pe (pU [104, 116, 116, 112, 58, 47, 47, 104, 47, 112, 63, 97, 61, 49, 38, 98, 61, 50, 38, 97, 61, 51, 35, 102]) (.str [47, 120]) (.bool false) (.int (0)) (.bool false)) = .ok [104, 116, 116, 112, 58, 47, 47, 104, 47, 120] := by rw [pU_three]; decide +kernel
-- URL('http://h/p?a=1&b=2&a=3#f').with_path('/x', keep_fragment=0)
example : showP pe (dynWithPathFlags pe (pU [104, 116, 116, 112, 58, 47, 47, 104, 47, 112, 63, 97, 61, 49, 38, 98, 61, 50, 38, 97, 61, 51, 35, 102]) (.str [47, 120]) (.bool false) (.bool false) (.int (0))) = .ok [104, 116, 116, 112, 58, 47, 47, 104, 47, 120] := by rw [pU_three]; decide +kernel
-- URL('http://h/p?a=1&b=2&a=3#f').with_name('n', keep_query=0, keep_fragment=0)
example : showU pe (dynWithNameFlags pe (pU [104, 116, 116, 112, 58, 47, 47, 104, 47, 112, 63, 97, 61, 49, 38, 98, 61, 50, 38, 97, 61, 51, 35, 102]) (.str [110]) (.int (0)) (.int (0))) = .ok [104, 116, 116, 112, 58, 47, 47, 104, 47, 110] := by rw [pU_three]; decide +kernel
-- URL('http://h/p?a=1&b=2&a=3#f').with_suffix('.s', keep_query=0)
example : showU pe (dynWithSuffixFlags pe (pU [104, 116, 116, 112, 58, 47, 47, 104, 47, 112, 63, 97, 61, 49, 38, 98, 61, 50, 38, 97, 61, 51, 35, 102]) (.str [46, 115]) (.int (0)) (.bool false)) = .ok [104, 116, 116, 112, 58, 47, 47, 104, 47, 112, 46, 115] := by rw [pU_three]; decide +kernel
-- URL('http://h/p?a=1&b=2&a=3#f').joinpath('x y', encoded=0)
example : showU pe (dynJoinpathFlag pe (pU [104, 116, 116, 112, 58, 47, 47, 104, 47, 112, 63, 97, 61, 49, 38, 98, 61, 50, 38, 97, 61, 51, 35, 102]) [(.str [120, 32, 121])] (.int (0))) = .ok [104, 116, 116, 112, 58, 47, 47, 104, 47, 112, 47, 120, 37, 50, 48, 121] := by rw [pU_three]; decide +kernel
-- URL('http://h/p?a=1&b=2&a=3#f').with_path('/x y', encoded=1)
example : showP pe (dynWithPathFlags pe (pU [104, 116, 116, 112, 58, 47, 47, 104, 47, 112, 63, 97, 61, 49, 38, 98, 61, 50, 38, 97, 61, 51, 35, 102]) (.str [47, 120, 32, 121]) (.int (1)) (.bool false) (.bool false)) = .ok [104, 116, 116, 112, 58, 47, 47, 104, 47, 120, 32, 121] := by rw [pU_three]; decide +kernel
-- URL('http://h/p?a=1&b=2&a=3#f').with_path('/x', keep_query=1)
example : showP pe (dynWithPathFlags pe (pU [104, 116, 116, 112, 58, 47, 47, 104, 47, 112, 63, 97, 61, 49, 38, 98, 61, 50, 38, 97, 61, 51, 35, 102]) (.str [47, 120]) (.bool false) (.int (1)) (.bool false)) = .ok [104, 116, 116, 112, 58, 47, 47, 104, 47, 120, 63, 97, 61, 49, 38, 98, 61, 50, 38, 97, 61, 51] := by rw [pU_three]; decide +kernel
-- URL('http://h/p?a=1&b=2&a=3#f').with_path('/x', keep_fragment=1)
example : showP pe (dynWithPathFlags pe (pU [104, 116, 116, 112, 58, 47, 47, 104, 47, 112, 63, 97, 61, 49, 38, 98, 61, 50, 38, 97, 61, 51, 35, 102]) (.str [47, 120]) (.bool false) (.bool false) (.int (1))) = .ok [104, 116, 116, 112, 58, 47, 47, 104, 47, 120, 35, 102] := by rw [pU_three]; decide +kernel
-- URL('http://h/p?a=1&b=2&a=3#f').with_name('n', keep_query=1, keep_fragment=1)
example : showU pe (dynWithNameFlags pe (pU [104, 116, 116, 112, 58, 47, 47, 104, 47, 112, 63, 97, 61, 49, 38, 98, 61, 50, 38, 97, 61, 51, 35, 102]) (.str [110]) (.int (1)) (.int (1))) = .ok [104, 116, 116, 112, 58, 47, 47, 104, 47, 110, 63, 97, 61, 49, 38, 98, 61, 50, 38, 97, 61, 51, 35, 102] := by rw [pU_three]; decide +kernel
-- URL('http://h/p?a=1&b=2&a=3#f').with_suffix('.s', keep_query=1)
example : showU pe (dynWithSuffixFlags pe (pU [104, 116, 116, 112, 58, 47, 47, 104, 47, 112, 63, 97, 61, 49, 38, 98, 61, 50, 38, 97, 61, 51, 35, 102]) (.str [46, 115]) (.int (1)) (.bool false)) = .ok [104, 116, 116, 112, 58, 47, 47, 104, 47, 112, 46, 115, 63, 97, 61, 49, 38, 98, 61, 50, 38, 97, 61, 51] := by rw [pU_three]; decide +kernel
-- URL('http://h/p?a=1&b=2&a=3#f').joinpath('x y', encoded=1)
example : showU pe (dynJoinpathFlag pe (pU [104, 116, 116, 112, 58, 47, 47, 104, 47, 112, 63, 97, 61, 49, 38, 98, 61, 50, 38, 97, 61, 51, 35, 102]) [(.str [120, 32, 121])] (.int (1))) = .ok [104, 116, 116, 112, 58, 47, 47, 104, 47, 112, 47, 120, 32, 121] := by rw [pU_three]; decide +kernel
-- URL('http://h/p?a=1&b=2&a=3#f').with_path('/x y', encoded=True)
example : showP pe (dynWithPathFlags pe (pU [104, 116, 116, 112, 58, 47, 47, 104, 47, 112, 63, 97, 61, 49, 38, 98, 61, 50, 38, 97, 61, 51, 35, 102]) (.str [47, 120, 32, 121]) (.bool true) (.bool false) (.bool false)) = .ok [104, 116, 116, 112, 58, 47, 47, 104, 47, 120, 32, 121] := by rw [pU_three]; decide +kernel
-- URL('http://h/p?a=1&b=2&a=3#f').with_path('/x', keep_query=True)
example : showP pe (dynWithPathFlags pe (pU [104, 116, 116, 112, 58, 47, 47, 104, 47, 112, 63, 97, 61, 49, 38, 98, 61, 50, 38, 97, 61, 51, 35, 102]) (.str [47, 120]) (.bool false) (.bool true) (.bool false)) = .ok [104, 116, 116, 112, 58, 47, 47, 104, 47, 120, 63, 97, 61, 49, 38, 98, 61, 50, 38, 97, 61, 51] := by rw [pU_three]; decide +kernel
-- URL('http://h/p?a=1&b=2&a=3#f').with_path('/x', keep_fragment=True)
example : showP pe (dynWithPathFlags pe (pU [104, 116, 116, 112, 58, 47, 47, 104, 47, 112, 63, 97, 61, 49, 38, 98, 61, 50, 38, 97, 61, 51, 35, 102]) (.str [47, 120]) (.bool false) (.bool false) (.bool true)) = .ok [104, 116, 116, 112, 58, 47, 47, 104, 47, 120, 35, 102] := by rw [pU_three]; decide +kernel
-- URL('http://h/p?a=1&b=2&a=3#f').with_name('n', keep_query=True, keep_fragment=True)
example : showU pe (dynWithNameFlags pe (pU [104, 116, 116, 112, 58, 47, 47, 104, 47, 112, 63, 97, 61, 49, 38, 98, 61, 50, 38, 97, 61, 51, 35, 102]) (.str [110]) (.bool true) (.bool true)) = .ok [104, 116, 116, 112, 58, 47, 47, 104, 47, 110, 63, 97, 61, 49, 38, 98, 61, 50, 38, 97, 61, 51, 35, 102] := by rw [pU_three]; decide +kernel
-- URL('http://h/p?a=1&b=2&a=3#f').with_suffix('.s', keep_query=True)
example : showU pe (dynWithSuffixFlags pe (pU [104, 116, 116, 112, 58, 47, 47, 104, 47, 112, 63, 97, 61, 49, 38, 98, 61, 50, 38, 97, 61, 51, 35, 102]) (.str [46, 115]) (.bool true) (.bool false)) = .ok [104, 116, 116, 112, 58, 47, 47, 104, 47, 112, 46, 115, 63, 97, 61, 49, 38, 98, 61, 50, 38, 97, 61, 51] := by rw [pU_three]; decide +kernel
-- URL('http://h/p?a=1&b=2&a=3#f').joinpath('x y', encoded=True)
example : showU pe (dynJoinpathFlag pe (pU [104, 116, 116, 112, 58, 47, 47, 104, 47, 112, 63, 97, 61, 49, 38, 98, 61, 50, 38, 97, 61, 51, 35, 102]) [(.str [120, 32, 121])] (.bool true)) = .ok [104, 116, 116, 112, 58, 47, 47, 104, 47, 112, 47, 120, 32, 121] := by rw [pU_three]; decide +kernel
-- URL('http://h/p?a=1&b=2&a=3#f').with_path('/x y', encoded=False)
example : showP pe (dynWithPathFlags pe (pU [104, 116, 116, 112, 58, 47, 47, 104, 47, 112, 63, 97, 61, 49, 38, 98, 61, 50, 38, 97, 61, 51, 35, 102]) (.str [47, 120, 32, 121]) (.bool false) (.bool false) (.bool false)) = .ok [104, 116, 116, 112, 58, 47, 47, 104, 47, 120, 37, 50, 48, 121] := by rw [pU_three]; decide +kernel
-- URL('http://h/p?a=1&b=2&a=3#f').with_path('/x', keep_query=False)
example : showP pe (dynWithPathFlags pe (pU [104, 116, 116, 112, 58, 47, 47, 104, 47, 112, 63, 97, 61, 49, 38, 98, 61, 50, 38, 97, 61, 51, 35, 102]) (.str [47, 120]) (.bool false) (.bool false) (.bool false)) = .ok [104, 116, 116, 112, 58, 47, 47, 104, 47, 120] := by rw [pU_three]; decide +kernel
-- URL('http://h/p?a=1&b=2&a=3#f').with_path('/x', keep_fragment=False)
example : showP pe (dynWithPathFlags pe (pU [104, 116, 116, 112, 58, 47, 47, 104, 47, 112, 63, 97, 61, 49, 38, 98, 61, 50, 38, 97, 61, 51, 35, 102]) (.str [47, 120]) (.bool false) (.bool false) (.bool false)) = .ok [104, 116, 116, 112, 58, 47, 47, 104, 47, 120] := by rw [pU_three]; decide +kernel
-- URL('http://h/p?a=1&b=2&a=3#f').with_name('n', keep_query=False, keep_fragment=False)
example : showU pe (dynWithNameFlags pe (pU [104, 116, 116, 112, 58, 47, 47, 104, 47, 112, 63, 97, 61, 49, 38, 98, 61, 50, 38, 97, 61, 51, 35, 102]) (.str [110]) (.bool false) (.bool false)) = .ok [104, 116, 116, 112, 58, 47, 47, 104, 47, 110] := by rw [pU_three]; decide +kernel
-- URL('http://h/p?a=1&b=2&a=3#f').with_suffix('.s', keep_query=False)
example : showU pe (dynWithSuffixFlags pe (pU [104, 116, 116, 112, 58, 47, 47, 104, 47, 112, 63, 97, 61, 49, 38, 98, 61, 50, 38, 97, 61, 51, 35, 102]) (.str [46, 115]) (.bool false) (.bool false)) = .ok [104, 116, 116, 112, 58, 47, 47, 104, 47, 112, 46, 115] := by rw [pU_three]; decide +kernel
-- URL('http://h/p?a=1&b=2&a=3#f').joinpath('x y', encoded=False)
example : showU pe (dynJoinpathFlag pe (pU [104, 116, 116, 112, 58, 47, 47, 104, 47, 112, 63, 97, 61, 49, 38, 98, 61, 50, 38, 97, 61, 51, 35, 102]) [(.str [120, 32, 121])] (.bool false)) = .ok [104, 116, 116, 112, 58, 47, 47, 104, 47, 112, 47, 120, 37, 50, 48, 121] := by rw [pU_three]; decide +kernel
-- URL('http://h/p?a=1&b=2&a=3#f').with_path('/x y', encoded=b'x')
example : showP pe (dynWithPathFlags pe (pU [104, 116, 116, 112, 58, 47, 47, 104, 47, 112, 63, 97, 61, 49, 38, 98, 61, 50, 38, 97, 61, 51, 35, 102]) (.str [47, 120, 32, 121]) (.bytes [120]) (.bool false) (.bool false)) = .ok [104, 116, 116, 112, 58, 47, 47, 104, 47, 120, 32, 121] := by rw [pU_three]; decide +kernel
-- URL('http://h/p?a=1&b=2&a=3#f').with_path('/x', keep_query=b'x')
example : showP pe (dynWithPathFlags pe (pU [104, 116, 116, 112, 58, 47, 47, 104, 47, 112, 63, 97, 61, 49, 38, 98, 61, 50, 38, 97, 61, 51, 35, 102]) (.str [47, 120]) (.bool false) (.bytes [120]) (.bool false)) = .ok [104, 116, 116, 112, 58, 47, 47, 104, 47, 120, 63, 97, 61, 49, 38, 98, 61, 50, 38, 97, 61, 51] := by rw [pU_three]; decide +kernel
-- URL('http://h/p?a=1&b=2&a=3#f').with_path('/x', keep_fragment=b'x')
example : showP pe (dynWithPathFlags pe (pU [104, 116, 116, 112, 58, 47, 47, 104, 47, 112, 63, 97, 61, 49, 38, 98, 61, 50, 38, 97, 61, 51, 35, 102]) (.str [47, 120]) (.bool false) (.bool false) (.bytes [120])) = .ok [104, 116, 116, 112, 58, 47, 47, 104, 47, 120, 35, 102] := by rw [pU_three]; decide +kernel
-- URL('http://h/p?a=1&b=2&a=3#f').with_name('n', keep_query=b'x', keep_fragment=b'x')
example : showU pe (dynWithNameFlags pe (pU [104, 116, 116, 112, 58, 47, 47, 104, 47, 112, 63, 97, 61, 49, 38, 98, 61, 50, 38, 97, 61, 51, 35, 102]) (.str [110]) (.bytes [120]) (.bytes [120])) = .ok [104, 116, 116, 112, 58, 47, 47, 104, 47, 110, 63, 97, 61, 49, 38, 98, 61, 50, 38, 97, 61, 51, 35, 102] := by rw [pU_three]; decide +kernel
-- URL('http://h/p?a=1&b=2&a=3#f').with_suffix('.s', keep_query=b'x')
example : showU pe (dynWithSuffixFlags pe (pU [104, 116, 116, 112, 58, 47, 47, 104, 47, 112, 63, 97, 61, 49, 38, 98, 61, 50, 38, 97, 61, 51, 35, 102]) (.str [46, 115]) (.bytes [120]) (.bool false)) = .ok [104, 116, 116, 112, 58, 47, 47, 104, 47, 112, 46, 115, 63, 97, 61, 49, 38, 98, 61, 50, 38, 97, 61, 51] := by rw [pU_three]; decide +kernel
-- URL('http://h/p?a=1&b=2&a=3#f').joinpath('x y', encoded=b'x')
example : showU pe (dynJoinpathFlag pe (pU [104, 116, 116, 112, 58, 47, 47, 104, 47, 112, 63, 97, 61, 49, 38, 98, 61, 50, 38, 97, 61, 51, 35, 102]) [(.str [120, 32, 121])] (.bytes [120])) = .ok [104, 116, 116, 112, 58, 47, 47, 104, 47, 112, 47, 120, 32, 121] := by rw [pU_three]; decide +kernel
-- URL('http://h/p?a=1&b=2&a=3#f').with_path('/x y', encoded=b'')
example : showP pe (dynWithPathFlags pe (pU [104, 116, 116, 112, 58, 47, 47, 104, 47, 112, 63, 97, 61, 49, 38, 98, 61, 50, 38, 97, 61, 51, 35, 102]) (.str [47, 120, 32, 121]) (.bytes []) (.bool false) (.bool false)) = .ok [104, 116, 116, 112, 58, 47, 47, 104, 47, 120, 37, 50, 48, 121] := by rw [pU_three]; decide +kernel
-- URL('http://h/p?a=1&b=2&a=3#f').with_path('/x', keep_query=b'')
example : showP pe (dynWithPathFlags pe (pU [104, 116, 116, 112, 58, 47, 47, 104, 47, 112, 63, 97, 61, 49, 38, 98, 61, 50, 38, 97, 61, 51, 35, 102]) (.str [47, 120]) (.bool false) (.bytes []) (.bool false)) = .ok [104, 116, 116, 112, 58, 47, 47, 104, 47, 120] := by rw [pU_three]; decide +kernel
-- URL('http://h/p?a=1&b=2&a=3#f').with_path('/x', keep_fragment=b'')
example : showP pe (dynWithPathFlags pe (pU [104, 116, 116, 112, 58, 47, 47, 104, 47, 112, 63, 97, 61, 49, 38, 98, 61, 50, 38, 97, 61, 51, 35, 102]) (.str [47, 120]) (.bool false) (.bool false) (.bytes [])) = .ok [104, 116, 116, 112, 58, 47, 47, 104, 47, 120] := by rw [pU_three]; decide +kernel
-- URL('http://h/p?a=1&b=2&a=3#f').with_name('n', keep_query=b'', keep_fragment=b'')
example : showU pe (dynWithNameFlags pe (pU [104, 116, 116, 112, 58, 47, 47, 104, 47, 112, 63, 97, 61, 49, 38, 98, 61, 50, 38, 97, 61, 51, 35, 102]) (.str [110]) (.bytes []) (.bytes [])) = .ok [104, 116, 116, 112, 58, 47, 47, 104, 47, 110] := by rw [pU_three]; decide +kernel
-- URL('http://h/p?a=1&b=2&a=3#f').with_suffix('.s', keep_query=b'')
example : showU pe (dynWithSuffixFlags pe (pU [104, 116, 116, 112, 58, 47, 47, 104, 47, 112, 63, 97, 61, 49, 38, 98, 61, 50, 38, 97, 61, 51, 35, 102]) (.str [46, 115]) (.bytes []) (.bool false)) = .ok [104, 116, 116, 112, 58, 47, 47, 104, 47, 112, 46, 115] := by rw [pU_three]; decide +kernel
-- URL('http://h/p?a=1&b=2&a=3#f').joinpath('x y', encoded=b'')
example : showU pe (dynJoinpathFlag pe (pU [104, 116, 116, 112, 58, 47, 47, 104, 47, 112, 63, 97, 61, 49, 38, 98, 61, 50, 38, 97, 61, 51, 35, 102]) [(.str [120, 32, 121])] (.bytes [])) = .ok [104, 116, 116, 112, 58, 47, 47, 104, 47, 112, 47, 120, 37, 50, 48, 121] := by rw [pU_three]; decide +kernel
-- URL('http://h/p?a=1&b=2&a=3#f').with_path('/x y', encoded='')
example : showP pe (dynWithPathFlags pe (pU [104, 116, 116, 112, 58, 47, 47, 104, 47, 112, 63, 97, 61, 49, 38, 98, 61, 50, 38, 97, 61, 51, 35, 102]) (.str [47, 120, 32, 121]) (.str []) (.bool false) (.bool false)) = .ok [104, 116, 116, 112, 58, 47, 47, 104, 47, 120, 37, 50, 48, 121] := by rw [pU_three]; decide +kernel
-- URL('http://h/p?a=1&b=2&a=3#f').with_path('/x', keep_query='')
example : showP pe (dynWithPathFlags pe (pU [104, 116, 116, 112, 58, 47, 47, 104, 47, 112, 63, 97, 61, 49, 38, 98, 61, 50, 38, 97, 61, 51, 35, 102]) (.str [47, 120]) (.bool false) (.str []) (.bool false)) = .ok [104, 116, 116, 112, 58, 47, 47, 104, 47, 120] := by rw [pU_three]; decide +kernel
-- URL('http://h/p?a=1&b=2&a=3#f').with_path('/x', keep_fragment='')
example : showP pe (dynWithPathFlags pe (pU [104, 116, 116, 112, 58, 47, 47, 104, 47, 112, 63, 97, 61, 49, 38, 98, 61, 50, 38, 97, 61, 51, 35, 102]) (.str [47, 120]) (.bool false) (.bool false) (.str [])) = .ok [104, 116, 116, 112, 58, 47, 47, 104, 47, 120] := by rw [pU_three]; decide +kernel
-- URL('http://h/p?a=1&b=2&a=3#f').with_name('n', keep_query='', keep_fragment='')
example : showU pe (dynWithNameFlags pe (pU [104, 116, 116, 112, 58, 47, 47, 104, 47, 112, 63, 97, 61, 49, 38, 98, 61, 50, 38, 97, 61, 51, 35, 102]) (.str [110]) (.str []) (.str [])) = .ok [104, 116, 116, 112, 58, 47, 47, 104, 47, 110] := by rw [pU_three]; decide +kernel
-- URL('http://h/p?a=1&b=2&a=3#f').with_suffix('.s', keep_query='')
example : showU pe (dynWithSuffixFlags pe (pU [104, 116, 116, 112, 58, 47, 47, 104, 47, 112, 63, 97, 61, 49, 38, 98, 61, 50, 38, 97, 61, 51, 35, 102]) (.str [46, 115]) (.str []) (.bool false)) = .ok [104, 116, 116, 112, 58, 47, 47, 104, 47, 112, 46, 115] := by rw [pU_three]; decide +kernel
-- URL('http://h/p?a=1&b=2&a=3#f').joinpath('x y', encoded='')
example : showU pe (dynJoinpathFlag pe (pU [104, 116, 116, 112, 58, 47, 47, 104, 47, 112, 63, 97, 61, 49, 38, 98, 61, 50, 38, 97, 61, 51, 35, 102]) [(.str [120, 32, 121])] (.str [])) = .ok [104, 116, 116, 112, 58, 47, 47, 104, 47, 112, 47, 120, 37, 50, 48, 121] := by rw [pU_three]; decide +kernel
-- URL('http://h/p?a=1&b=2&a=3#f').with_path('/x y', encoded='x')
example : showP pe (dynWithPathFlags pe (pU [104, 116, 116, 112, 58, 47, 47, 104, 47, 112, 63, 97, 61, 49, 38, 98, 61, 50, 38, 97, 61, 51, 35, 102]) (.str [47, 120, 32, 121]) (.str [120]) (.bool false) (.bool false)) = .ok [104, 116, 116, 112, 58, 47, 47, 104, 47, 120, 32, 121] := by rw [pU_three]; decide +kernel
-- URL('http://h/p?a=1&b=2&a=3#f').with_path('/x', keep_query='x')
example : showP pe (dynWithPathFlags pe (pU [104, 116, 116, 112, 58, 47, 47, 104, 47, 112, 63, 97, 61, 49, 38, 98, 61, 50, 38, 97, 61, 51, 35, 102]) (.str [47, 120]) (.bool false) (.str [120]) (.bool false)) = .ok [104, 116, 116, 112, 58, 47, 47, 104, 47, 120, 63, 97, 61, 49, 38, 98, 61, 50, 38, 97, 61, 51] := by rw [pU_three]; decide +kernel
-- URL('http://h/p?a=1&b=2&a=3#f').with_path('/x', keep_fragment='x')
example : showP pe (dynWithPathFlags pe (pU [104, 116, 116, 112, 58, 47, 47, 104, 47, 112, 63, 97, 61, 49, 38, 98, 61, 50, 38, 97, 61, 51, 35, 102]) (.str [47, 120]) (.bool false) (.bool false) (.str [120])) = .ok [104, 116, 116, 112, 58, 47, 47, 104, 47, 120, 35, 102] := by rw [pU_three]; decide +kernel
-- URL('http://h/p?a=1&b=2&a=3#f').with_name('n', keep_query='x', keep_fragment='x')
example : showU pe (dynWithNameFlags pe (pU [104, 116, 116, 112, 58, 47, 47, 104, 47, 112, 63, 97, 61, 49, 38, 98, 61, 50, 38, 97, 61, 51, 35, 102]) (.str [110]) (.str [120]) (.str [120])) = .ok [104, 116, 116, 112, 58, 47, 47, 104, 47, 110, 63, 97, 61, 49, 38, 98, 61, 50, 38, 97, 61, 51, 35, 102] := by rw [pU_three]; decide +kernel
-- URL('http://h/p?a=1&b=2&a=3#f').with_suffix('.s', keep_query='x')
example : showU pe (dynWithSuffixFlags pe (pU [104, 116, 116, 112, 58, 47, 47, 104, 47, 112, 63, 97, 61, 49, 38, 98, 61, 50, 38, 97, 61, 51, 35, 102]) (.str [46, 115]) (.str [120]) (.bool false)) = .ok [104, 116, 116, 112, 58, 47, 47, 104, 47, 112, 46, 115, 63, 97, 61, 49, 38, 98, 61, 50, 38, 97, 61, 51] := by rw [pU_three]; decide +kernel
-- URL('http://h/p?a=1&b=2&a=3#f').joinpath('x y', encoded='x')
example : showU pe (dynJoinpathFlag pe (pU [104, 116, 116, 112, 58, 47, 47, 104, 47, 112, 63, 97, 61, 49, 38, 98, 61, 50, 38, 97, 61, 51, 35, 102]) [(.str [120, 32, 121])] (.str [120])) = .ok [104, 116, 116, 112, 58, 47, 47, 104, 47, 112, 47, 120, 32, 121] := by rw [pU_three]; decide +kernel
-- URL('http://h/p?a=1&b=2&a=3#f').with_path('/x y', encoded=[])
example : showP pe (dynWithPathFlags pe (pU [104, 116, 116, 112, 58, 47, 47, 104, 47, 112, 63, 97, 61, 49, 38, 98, 61, 50, 38, 97, 61, 51, 35, 102]) (.str [47, 120, 32, 121]) (.list []) (.bool false) (.bool false)) = .ok [104, 116, 116, 112, 58, 47, 47, 104, 47, 120, 37, 50, 48, 121] := by rw [pU_three]; decide +kernel
-- URL('http://h/p?a=1&b=2&a=3#f').with_path('/x', keep_query=[])
example : showP pe (dynWithPathFlags pe (pU [104, 116, 116, 112, 58, 47, 47, 104, 47, 112, 63, 97, 61, 49, 38, 98, 61, 50, 38, 97, 61, 51, 35, 102]) (.str [47, 120]) (.bool false) (.list []) (.bool false)) = .ok [104, 116, 116, 112, 58, 47, 47, 104, 47, 120] := by rw [pU_three]; decide +kernel
-- URL('http://h/p?a=1&b=2&a=3#f').with_path('/x', keep_fragment=[])
example : showP pe (dynWithPathFlags pe (pU [104, 116, 116, 112, 58, 47, 47, 104, 47, 112, 63, 97, 61, 49, 38, 98, 61, 50, 38, 97, 61, 51, 35, 102]) (.str [47, 120]) (.bool false) (.bool false) (.list [])) = .ok [104, 116, 116, 112, 58, 47, 47, 104, 47, 120] := by rw [pU_three]; decide +kernel
-- URL('http://h/p?a=1&b=2&a=3#f').with_name('n', keep_query=[], keep_fragment=[])
example : showU pe (dynWithNameFlags pe (pU [104, 116, 116, 112, 58, 47, 47, 104, 47, 112, 63, 97, 61, 49, 38, 98, 61, 50, 38, 97, 61, 51, 35, 102]) (.str [110]) (.list []) (.list [])) = .ok [104, 116, 116, 112, 58, 47, 47, 104, 47, 110] := by rw [pU_three]; decide +kernel
-- URL('http://h/p?a=1&b=2&a=3#f').with_suffix('.s', keep_query=[])
example : showU pe (dynWithSuffixFlags pe (pU [104, 116, 116, 112, 58, 47, 47, 104, 47, 112, 63, 97, 61, 49, 38, 98, 61, 50, 38, 97, 61, 51, 35, 102]) (.str [46, 115]) (.list []) (.bool false)) = .ok [104, 116, 116, 112, 58, 47, 47, 104, 47, 112, 46, 115] := by rw [pU_three]; decide +kernel
-- URL('http://h/p?a=1&b=2&a=3#f').joinpath('x y', encoded=[])
example : showU pe (dynJoinpathFlag pe (pU [104, 116, 116, 112, 58, 47, 47, 104, 47, 112, 63, 97, 61, 49, 38, 98, 61, 50, 38, 97, 61, 51, 35, 102]) [(.str [120, 32, 121])] (.list [])) = .ok [104, 116, 116, 112, 58, 47, 47, 104, 47, 112, 47, 120, 37, 50, 48, 121] := by rw [pU_three]; decide +kernel
-- URL('http://h/p?a=1&b=2&a=3#f').with_path('/x y', encoded=[0])
example : showP pe (dynWithPathFlags pe (pU [104, 116, 116, 112, 58, 47, 47, 104, 47, 112, 63, 97, 61, 49, 38, 98, 61, 50, 38, 97, 61, 51, 35, 102]) (.str [47, 120, 32, 121]) (.list [(.int (0))]) (.bool false) (.bool false)) = .ok [104, 116, 116, 112, 58, 47, 47, 104, 47, 120, 32, 121] := by rw [pU_three]; decide +kernel
-- URL('http://h/p?a=1&b=2&a=3#f').with_path('/x', keep_query=[0])
example : showP pe (dynWithPathFlags pe (pU [104, 116, 116, 112, 58, 47, 47, 104, 47, 112, 63, 97, 61, 49, 38, 98, 61, 50, 38, 97, 61, 51, 35, 102]) (.str [47, 120]) (.bool false) (.list [(.int (0))]) (.bool false)) = .ok [104, 116, 116, 112, 58, 47, 47, 104, 47, 120, 63, 97, 61, 49, 38, 98, 61, 50, 38, 97, 61, 51] := by rw [pU_three]; decide +kernel
-- URL('http://h/p?a=1&b=2&a=3#f').with_path('/x', keep_fragment=[0])
example : showP pe (dynWithPathFlags pe (pU [104, 116, 116, 112, 58, 47, 47, 104, 47, 112, 63, 97, 61, 49, 38, 98, 61, 50, 38, 97, 61, 51, 35, 102]) (.str [47, 120]) (.bool false) (.bool false) (.list [(.int (0))])) = .ok [104, 116, 116, 112, 58, 47, 47, 104, 47, 120, 35, 102] := by rw [pU_three]; decide +kernel
-- URL('http://h/p?a=1&b=2&a=3#f').with_name('n', keep_query=[0], keep_fragment=[0])
example : showU pe (dynWithNameFlags pe (pU [104, 116, 116, 112, 58, 47, 47, 104, 47, 112, 63, 97, 61, 49, 38, 98, 61, 50, 38, 97, 61, 51, 35, 102]) (.str [110]) (.list [(.int (0))]) (.list [(.int (0))])) = .ok [104, 116, 116, 112, 58, 47, 47, 104, 47, 110, 63, 97, 61, 49, 38, 98, 61, 50, 38, 97, 61, 51, 35, 102] := by rw [pU_three]; decide +kernel
-- URL('http://h/p?a=1&b=2&a=3#f').with_suffix('.s', keep_query=[0])
example : showU pe (dynWithSuffixFlags pe (pU [104, 116, 116, 112, 58, 47, 47, 104, 47, 112, 63, 97, 61, 49, 38, 98, 61, 50, 38, 97, 61, 51, 35, 102]) (.str [46, 115]) (.list [(.int (0))]) (.bool false)) = .ok [104, 116, 116, 112, 58, 47, 47, 104, 47, 112, 46, 115, 63, 97, 61, 49, 38, 98, 61, 50, 38, 97, 61, 51] := by rw [pU_three]; decide +kernel
-- URL('http://h/p?a=1&b=2&a=3#f').joinpath('x y', encoded=[0])
example : showU pe (dynJoinpathFlag pe (pU [104, 116, 116, 112, 58, 47, 47, 104, 47, 112, 63, 97, 61, 49, 38, 98, 61, 50, 38, 97, 61, 51, 35, 102]) [(.str [120, 32, 121])] (.list [(.int (0))])) = .ok [104, 116, 116, 112, 58, 47, 47, 104, 47, 112, 47, 120, 32, 121] := by rw [pU_three]; decide +kernel
-- URL('http://h/p?a=1&b=2&a=3#f').with_path('/x y', encoded=())
example : showP pe (dynWithPathFlags pe (pU [104, 116, 116, 112, 58, 47, 47, 104, 47, 112, 63, 97, 61, 49, 38, 98, 61, 50, 38, 97, 61, 51, 35, 102]) (.str [47, 120, 32, 121]) (.tuple []) (.bool false) (.bool false)) = .ok [104, 116, 116, 112, 58, 47, 47, 104, 47, 120, 37, 50, 48, 121] := by rw [pU_three]; decide +kernel
-- URL('http://h/p?a=1&b=2&a=3#f').with_path('/x', keep_query=())
example : showP pe (dynWithPathFlags pe (pU [104, 116, 116, 112, 58, 47, 47, 104, 47, 112, 63, 97, 61, 49, 38, 98, 61, 50, 38, 97, 61, 51, 35, 102]) (.str [47, 120]) (.bool false) (.tuple []) (.bool false)) = .ok [104, 116, 116, 112, 58, 47, 47, 104, 47, 120] := by rw [pU_three]; decide +kernel
-- URL('http://h/p?a=1&b=2&a=3#f').with_path('/x', keep_fragment=())
example : showP pe (dynWithPathFlags pe (pU [104, 116, 116, 112, 58, 47, 47, 104, 47, 112, 63, 97, 61, 49, 38, 98, 61, 50, 38, 97, 61, 51, 35, 102]) (.str [47, 120]) (.bool false) (.bool false) (.tuple [])) = .ok [104, 116, 116, 112, 58, 47, 47, 104, 47, 120] := by rw [pU_three]; decide +kernel
-- URL('http://h/p?a=1&b=2&a=3#f').with_name('n', keep_query=(), keep_fragment=())
example : showU pe (dynWithNameFlags pe (pU [104, 116, 116, 112, 58, 47, 47, 104, 47, 112, 63, 97, 61, 49, 38, 98, 61, 50, 38, 97, 61, 51, 35, 102]) (.str [110]) (.tuple []) (.tuple [])) = .ok [104, 116, 116, 112, 58, 47, 47, 104, 47, 110] := by rw [pU_three]; decide +kernel
-- URL('http://h/p?a=1&b=2&a=3#f').with_suffix('.s', keep_query=())
example : showU pe (dynWithSuffixFlags pe (pU [104, 116, 116, 112, 58, 47, 47, 104, 47, 112, 63, 97, 61, 49, 38, 98, 61, 50, 38, 97, 61, 51, 35, 102]) (.str [46, 115]) (.tuple []) (.bool false)) = .ok [104, 116, 116, 112, 58, 47, 47, 104, 47, 112, 46, 115] := by rw [pU_three]; decide +kernel
-- URL('http://h/p?a=1&b=2&a=3#f').joinpath('x y', encoded=())
example : showU pe (dynJoinpathFlag pe (pU [104, 116, 116, 112, 58, 47, 47, 104, 47, 112, 63, 97, 61, 49, 38, 98, 61, 50, 38, 97, 61, 51, 35, 102]) [(.str [120, 32, 121])] (.tuple [])) = .ok [104, 116, 116, 112, 58, 47, 47, 104, 47, 112, 47, 120, 37, 50, 48, 121] := by rw [pU_three]; decide +kernel
-- URL('http://h/p?a=1&b=2&a=3#f').with_path('/x y', encoded={})
example : showP pe (dynWithPathFlags pe (pU [104, 116, 116, 112, 58, 47, 47, 104, 47, 112, 63, 97, 61, 49, 38, 98, 61, 50, 38, 97, 61, 51, 35, 102]) (.str [47, 120, 32, 121]) (.dict []) (.bool false) (.bool false)) = .ok [104, 116, 116, 112, 58, 47, 47, 104, 47, 120, 37, 50, 48, 121] := by rw [pU_three]; decide +kernel
-- URL('http://h/p?a=1&b=2&a=3#f').with_path('/x', keep_query={})
example : showP pe (dynWithPathFlags pe (pU [104, 116, 116, 112, 58, 47, 47, 104, 47, 112, 63, 97, 61, 49, 38, 98, 61, 50, 38, 97, 61, 51, 35, 102]) (.str [47, 120]) (.bool false) (.dict []) (.bool false)) = .ok [104, 116, 116, 112, 58, 47, 47, 104, 47, 120] := by rw [pU_three]; decide +kernel
-- URL('http://h/p?a=1&b=2&a=3#f').with_path('/x', keep_fragment={})
example : showP pe (dynWithPathFlags pe (pU [104, 116, 116, 112, 58, 47, 47, 104, 47, 112, 63, 97, 61, 49, 38, 98, 61, 50, 38, 97, 61, 51, 35, 102]) (.str [47, 120]) (.bool false) (.bool false) (.dict [])) = .ok [104, 116, 116, 112, 58, 47, 47, 104, 47, 120] := by rw [pU_three]; decide +kernel
-- URL('http://h/p?a=1&b=2&a=3#f').with_name('n', keep_query={}, keep_fragment={})
example : showU pe (dynWithNameFlags pe (pU [104, 116, 116, 112, 58, 47, 47, 104, 47, 112, 63, 97, 61, 49, 38, 98, 61, 50, 38, 97, 61, 51, 35, 102]) (.str [110]) (.dict []) (.dict [])) = .ok [104, 116, 116, 112, 58, 47, 47, 104, 47, 110] := by rw [pU_three]; decide +kernel
-- URL('http://h/p?a=1&b=2&a=3#f').with_suffix('.s', keep_query={})
example : showU pe (dynWithSuffixFlags pe (pU [104, 116, 116, 112, 58, 47, 47, 104, 47, 112, 63, 97, 61, 49, 38, 98, 61, 50, 38, 97, 61, 51, 35, 102]) (.str [46, 115]) (.dict []) (.bool false)) = .ok [104, 116, 116, 112, 58, 47, 47, 104, 47, 112, 46, 115] := by rw [pU_three]; decide +kernel
-- URL('http://h/p?a=1&b=2&a=3#f').joinpath('x y', encoded={})
example : showU pe (dynJoinpathFlag pe (pU [104, 116, 116, 112, 58, 47, 47, 104, 47, 112, 63, 97, 61, 49, 38, 98, 61, 50, 38, 97, 61, 51, 35, 102]) [(.str [120, 32, 121])] (.dict [])) = .ok [104, 116, 116, 112, 58, 47, 47, 104, 47, 112, 47, 120, 37, 50, 48, 121] := by rw [pU_three]; decide +kernel
-- URL('http://h/p?a=1&b=2&a=3#f').with_path('/x y', encoded=object())
example : showP pe (dynWithPathFlags pe (pU [104, 116, 116, 112, 58, 47, 47, 104, 47, 112, 63, 97, 61, 49, 38, 98, 61, 50, 38, 97, 61, 51, 35, 102]) (.str [47, 120, 32, 121]) (.other 0) (.bool false) (.bool false)) = .ok [104, 116, 116, 112, 58, 47, 47, 104, 47, 120, 32, 121] := by rw [pU_three]; decide +kernel
-- URL('http://h/p?a=1&b=2&a=3#f').with_path('/x', keep_query=object())
example : showP pe (dynWithPathFlags pe (pU [104, 116, 116, 112, 58, 47, 47, 104, 47, 112, 63, 97, 61, 49, 38, 98, 61, 50, 38, 97, 61, 51, 35, 102]) (.str [47, 120]) (.bool false) (.other 0) (.bool false)) = .ok [104, 116, 116, 112, 58, 47, 47, 104, 47, 120, 63, 97, 61, 49, 38, 98, 61, 50, 38, 97, 61, 51] := by rw [pU_three]; decide +kernel
-- URL('http://h/p?a=1&b=2&a=3#f').with_path('/x', keep_fragment=object())
example : showP pe (dynWithPathFlags pe (pU [104, 116, 116, 112, 58, 47, 47, 104, 47, 112, 63, 97, 61, 49, 38, 98, 61, 50, 38, 97, 61, 51, 35, 102]) (.str [47, 120]) (.bool false) (.bool false) (.other 0)) = .ok [104, 116, 116, 112, 58, 47, 47, 104, 47, 120, 35, 102] := by rw [pU_three]; decide +kernel
-- URL('http://h/p?a=1&b=2&a=3#f').with_name('n', keep_query=object(), keep_fragment=object())
example : showU pe (dynWithNameFlags pe (pU [104, 116, 116, 112, 58, 47, 47, 104, 47, 112, 63, 97, 61, 49, 38, 98, 61, 50, 38, 97, 61, 51, 35, 102]) (.str [110]) (.other 0) (.other 0)) = .ok [104, 116, 116, 112, 58, 47, 47, 104, 47, 110, 63, 97, 61, 49, 38, 98, 61, 50, 38, 97, 61, 51, 35, 102] := by rw [pU_three]; decide +kernel
-- URL('http://h/p?a=1&b=2&a=3#f').with_suffix('.s', keep_query=object())
example : showU pe (dynWithSuffixFlags pe (pU [104, 116, 116, 112, 58, 47, 47, 104, 47, 112, 63, 97, 61, 49, 38, 98, 61, 50, 38, 97, 61, 51, 35, 102]) (.str [46, 115]) (.other 0) (.bool false)) = .ok [104, 116, 116, 112, 58, 47, 47, 104, 47, 112, 46, 115, 63, 97, 61, 49, 38, 98, 61, 50, 38, 97, 61, 51] := by rw [pU_three]; decide +kernel
-- URL('http://h/p?a=1&b=2&a=3#f').joinpath('x y', encoded=object())
example : showU pe (dynJoinpathFlag pe (pU [104, 116, 116, 112, 58, 47, 47, 104, 47, 112, 63, 97, 61, 49, 38, 98, 61, 50, 38, 97, 61, 51, 35, 102]) [(.str [120, 32, 121])] (.other 0)) = .ok [104, 116, 116, 112, 58, 47, 47, 104, 47, 112, 47, 120, 32, 121] := by rw [pU_three]; decide +kernel
-- URL('http://h/p?a=1&b=2&a=3#f').with_path('/x y', encoded=0.0)
example : showP pe (dynWithPathFlags pe (pU [104, 116, 116, 112, 58, 47, 47, 104, 47, 112, 63, 97, 61, 49, 38, 98, 61, 50, 38, 97, 61, 51, 35, 102]) (.str [47, 120, 32, 121]) (.float [48, 46, 48] 0) (.bool false) (.bool false)) = .ok [104, 116, 116, 112, 58, 47, 47, 104, 47, 120, 37, 50, 48, 121] := by rw [pU_three]; decide +kernel
-- URL('http://h/p?a=1&b=2&a=3#f').with_path('/x', keep_query=0.0)
example : showP pe (dynWithPathFlags pe (pU [104, 116, 116, 112, 58, 47, 47, 104, 47, 112, 63, 97, 61, 49, 38, 98, 61, 50, 38, 97, 61, 51, 35, 102]) (.str [47, 120]) (.bool false) (.float [48, 46, 48] 0) (.bool false)) = .ok [104, 116, 116, 112, 58, 47, 47, 104, 47, 120] := by rw [pU_three]; decide +kernel
-- URL('http://h/p?a=1&b=2&a=3#f').with_path('/x', keep_fragment=0.0)
example : showP pe (dynWithPathFlags pe (pU [104, 116, 116, 112, 58, 47, 47, 104, 47, 112, 63, 97, 61, 49, 38, 98, 61, 50, 38, 97, 61, 51, 35, 102]) (.str [47, 120]) (.bool false) (.bool false) (.float [48, 46, 48] 0)) = .ok [104, 116, 116, 112, 58, 47, 47, 104, 47, 120] := by rw [pU_three]; decide +kernel
-- URL('http://h/p?a=1&b=2&a=3#f').with_name('n', keep_query=0.0, keep_fragment=0.0)
example : showU pe (dynWithNameFlags pe (pU [104, 116, 116, 112, 58, 47, 47, 104, 47, 112, 63, 97, 61, 49, 38, 98, 61, 50, 38, 97, 61, 51, 35, 102]) (.str [110]) (.float [48, 46, 48] 0) (.float [48, 46, 48] 0)) = .ok [104, 116, 116, 112, 58, 47, 47, 104, 47, 110] := by rw [pU_three]; decide +kernel
-- URL('http://h/p?a=1&b=2&a=3#f').with_suffix('.s', keep_query=0.0)
example : showU pe (dynWithSuffixFlags pe (pU [104, 116, 116, 112, 58, 47, 47, 104, 47, 112, 63, 97, 61, 49, 38, 98, 61, 50, 38, 97, 61, 51, 35, 102]) (.str [46, 115]) (.float [48, 46, 48] 0) (.bool false)) = .ok [104, 116, 116, 112, 58, 47, 47, 104, 47, 112, 46, 115] := by rw [pU_three]; decide +kernel
-- URL('http://h/p?a=1&b=2&a=3#f').joinpath('x y', encoded=0.0)
example : showU pe (dynJoinpathFlag pe (pU [104, 116, 116, 112, 58, 47, 47, 104, 47, 112, 63, 97, 61, 49, 38, 98, 61, 50, 38, 97, 61, 51, 35, 102]) [(.str [120, 32, 121])] (.float [48, 46, 48] 0)) = .ok [104, 116, 116, 112, 58, 47, 47, 104, 47, 112, 47, 120, 37, 50, 48, 121] := by rw [pU_three]; decide +kernel
-- URL('http://h/p?a=1&b=2&a=3#f').with_path('/x y', encoded=1.5)
example : showP pe (dynWithPathFlags pe (pU [104, 116, 116, 112, 58, 47, 47, 104, 47, 112, 63, 97, 61, 49, 38, 98, 61, 50, 38, 97, 61, 51, 35, 102]) (.str [47, 120, 32, 121]) (.float [49, 46, 53] 0) (.bool false) (.bool false)) = .ok [104, 116, 116, 112, 58, 47, 47, 104, 47, 120, 32, 121] := by rw [pU_three]; decide +kernel
-- URL('http://h/p?a=1&b=2&a=3#f').with_path('/x', keep_query=1.5)
example : showP pe (dynWithPathFlags pe (pU [104, 116, 116, 112, 58, 47, 47, 104, 47, 112, 63, 97, 61, 49, 38, 98, 61, 50, 38, 97, 61, 51, 35, 102]) (.str [47, 120]) (.bool false) (.float [49, 46, 53] 0) (.bool false)) = .ok [104, 116, 116, 112, 58, 47, 47, 104, 47, 120, 63, 97, 61, 49, 38, 98, 61, 50, 38, 97, 61, 51] := by rw [pU_three]; decide +kernel
-- URL('http://h/p?a=1&b=2&a=3#f').with_path('/x', keep_fragment=1.5)
example : showP pe (dynWithPathFlags pe (pU [104, 116, 116, 112, 58, 47, 47, 104, 47, 112, 63, 97, 61, 49, 38, 98, 61, 50, 38, 97, 61, 51, 35, 102]) (.str [47, 120]) (.bool false) (.bool false) (.float [49, 46, 53] 0)) = .ok [104, 116, 116, 112, 58, 47, 47, 104, 47, 120, 35, 102] := by rw [pU_three]; decide +kernel
-- URL('http://h/p?a=1&b=2&a=3#f').with_name('n', keep_query=1.5, keep_fragment=1.5)
example : showU pe (dynWithNameFlags pe (pU [104, 116, 116, 112, 58, 47, 47, 104, 47, 112, 63, 97, 61, 49, 38, 98, 61, 50, 38, 97, 61, 51, 35, 102]) (.str [110]) (.float [49, 46, 53] 0) (.float [49, 46, 53] 0)) = .ok [104, 116, 116, 112, 58, 47, 47, 104, 47, 110, 63, 97, 61, 49, 38, 98, 61, 50, 38, 97, 61, 51, 35, 102] := by rw [pU_three]; decide +kernel
-- URL('http://h/p?a=1&b=2&a=3#f').with_suffix('.s', keep_query=1.5)
example : showU pe (dynWithSuffixFlags pe (pU [104, 116, 116, 112, 58, 47, 47, 104, 47, 112, 63, 97, 61, 49, 38, 98, 61, 50, 38, 97, 61, 51, 35, 102]) (.str [46, 115]) (.float [49, 46, 53] 0) (.bool false)) = .ok [104, 116, 116, 112, 58, 47, 47, 104, 47, 112, 46, 115, 63, 97, 61, 49, 38, 98, 61, 50, 38, 97, 61, 51] := by rw [pU_three]; decide +kernel
-- URL('http://h/p?a=1&b=2&a=3#f').joinpath('x y', encoded=1.5)
example : showU pe (dynJoinpathFlag pe (pU [104, 116, 116, 112, 58, 47, 47, 104, 47, 112, 63, 97, 61, 49, 38, 98, 61, 50, 38, 97, 61, 51, 35, 102]) [(.str [120, 32, 121])] (.float [49, 46, 53] 0)) = .ok [104, 116, 116, 112, 58, 47, 47, 104, 47, 112, 47, 120, 32, 121] := by rw [pU_three]; decide +kernel
-- URL('http://h/p?a=1&b=2&a=3#f').with_path('/x y', encoded=URL(''))
example : showP pe (dynWithPathFlags pe (pU [104, 116, 116, 112, 58, 47, 47, 104, 47, 112, 63, 97, 61, 49, 38, 98, 61, 50, 38, 97, 61, 51, 35, 102]) (.str [47, 120, 32, 121]) (.url (pU [])) (.bool false) (.bool false)) = .ok [104, 116, 116, 112, 58, 47, 47, 104, 47, 120, 37, 50, 48, 121] := by rw [pU_three]; decide +kernel
-- URL('http://h/p?a=1&b=2&a=3#f').with_path('/x', keep_query=URL(''))
example : showP pe (dynWithPathFlags pe (pU [104, 116, 116, 112, 58, 47, 47, 104, 47, 112, 63, 97, 61, 49, 38, 98, 61, 50, 38, 97, 61, 51, 35, 102]) (.str [47, 120]) (.bool false) (.url (pU [])) (.bool false)) = .ok [104, 116, 116, 112, 58, 47, 47, 104, 47, 120] := by rw [pU_three]; decide +kernel
-- URL('http://h/p?a=1&b=2&a=3#f').with_path('/x', keep_fragment=URL(''))
example : showP pe (dynWithPathFlags pe (pU [104, 116, 116, 112, 58, 47, 47, 104, 47, 112, 63, 97, 61, 49, 38, 98, 61, 50, 38, 97, 61, 51, 35, 102]) (.str [47, 120]) (.bool false) (.bool false) (.url (pU []))) = .ok [104, 116, 116, 112, 58, 47, 47, 104, 47, 120] := by rw [pU_three]; decide +kernel
-- URL('http://h/p?a=1&b=2&a=3#f').with_name('n', keep_query=URL(''), keep_fragment=URL(''))
example : showU pe (dynWithNameFlags pe (pU [104, 116, 116, 112, 58, 47, 47, 104, 47, 112, 63, 97, 61, 49, 38, 98, 61, 50, 38, 97, 61, 51, 35, 102]) (.str [110]) (.url (pU [])) (.url (pU []))) = .ok [104, 116, 116, 112, 58, 47, 47, 104, 47, 110] := by rw [pU_three]; decide +kernel
-- URL('http://h/p?a=1&b=2&a=3#f').with_suffix('.s', keep_query=URL(''))
example : showU pe (dynWithSuffixFlags pe (pU [104, 116, 116, 112, 58, 47, 47, 104, 47, 112, 63, 97, 61, 49, 38, 98, 61, 50, 38, 97, 61, 51, 35, 102]) (.str [46, 115]) (.url (pU [])) (.bool false)) = .ok [104, 116, 116, 112, 58, 47, 47, 104, 47, 112, 46, 115] := by rw [pU_three]; decide +kernel
-- URL('http://h/p?a=1&b=2&a=3#f').joinpath('x y', encoded=URL(''))
example : showU pe (dynJoinpathFlag pe (pU [104, 116, 116, 112, 58, 47, 47, 104, 47, 112, 63, 97, 61, 49, 38, 98, 61, 50, 38, 97, 61, 51, 35, 102]) [(.str [120, 32, 121])] (.url (pU []))) = .ok [104, 116, 116, 112, 58, 47, 47, 104, 47, 112, 47, 120, 37, 50, 48, 121] := by rw [pU_three]; decide +kernel
-- URL('http://h/p?a=1&b=2&a=3#f').with_path('/x y', encoded=URL('x'))
example : showP pe (dynWithPathFlags pe (pU [104, 116, 116, 112, 58, 47, 47, 104, 47, 112, 63, 97, 61, 49, 38, 98, 61, 50, 38, 97, 61, 51, 35, 102]) (.str [47, 120, 32, 121]) (.url (pU [120])) (.bool false) (.bool false)) = .ok [104, 116, 116, 112, 58, 47, 47, 104, 47, 120, 32, 121] := by rw [pU_three]; decide +kernel
-- URL('http://h/p?a=1&b=2&a=3#f').with_path('/x', keep_query=URL('x'))
example : showP pe (dynWithPathFlags pe (pU [104, 116, 116, 112, 58, 47, 47, 104, 47, 112, 63, 97, 61, 49, 38, 98, 61, 50, 38, 97, 61, 51, 35, 102]) (.str [47, 120]) (.bool false) (.url (pU [120])) (.bool false)) = .ok [104, 116, 116, 112, 58, 47, 47, 104, 47, 120, 63, 97, 61, 49, 38, 98, 61, 50, 38, 97, 61, 51] := by rw [pU_three]; decide +kernel
-- URL('http://h/p?a=1&b=2&a=3#f').with_path('/x', keep_fragment=URL('x'))
example : showP pe (dynWithPathFlags pe (pU [104, 116, 116, 112, 58, 47, 47, 104, 47, 112, 63, 97, 61, 49, 38, 98, 61, 50, 38, 97, 61, 51, 35, 102]) (.str [47, 120]) (.bool false) (.bool false) (.url (pU [120]))) = .ok [104, 116, 116, 112, 58, 47, 47, 104, 47, 120, 35, 102] := by rw [pU_three]; decide +kernel
-- URL('http://h/p?a=1&b=2&a=3#f').with_name('n', keep_query=URL('x'), keep_fragment=URL('x'))
example : showU pe (dynWithNameFlags pe (pU [104, 116, 116, 112, 58, 47, 47, 104, 47, 112, 63, 97, 61, 49, 38, 98, 61, 50, 38, 97, 61, 51, 35, 102]) (.str [110]) (.url (pU [120])) (.url (pU [120]))) = .ok [104, 116, 116, 112, 58, 47, 47, 104, 47, 110, 63, 97, 61, 49, 38, 98, 61, 50, 38, 97, 61, 51, 35, 102] := by rw [pU_three]; decide +kernel
-- URL('http://h/p?a=1&b=2&a=3#f').with_suffix('.s', keep_query=URL('x'))
example : showU pe (dynWithSuffixFlags pe (pU [104, 116, 116, 112, 58, 47, 47, 104, 47, 112, 63, 97, 61, 49, 38, 98, 61, 50, 38, 97, 61, 51, 35, 102]) (.str [46, 115]) (.url (pU [120])) (.bool false)) = .ok [104, 116, 116, 112, 58, 47, 47, 104, 47, 112, 46, 115, 63, 97, 61, 49, 38, 98, 61, 50, 38, 97, 61, 51] := by rw [pU_three]; decide +kernel
-- URL('http://h/p?a=1&b=2&a=3#f').joinpath('x y', encoded=URL('x'))
example : showU pe (dynJoinpathFlag pe (pU [104, 116, 116, 112, 58, 47, 47, 104, 47, 112, 63, 97, 61, 49, 38, 98, 61, 50, 38, 97, 61, 51, 35, 102]) [(.str [120, 32, 121])] (.url (pU [120]))) = .ok [104, 116, 116, 112, 58, 47, 47, 104, 47, 112, 47, 120, 32, 121] := by rw [pU_three]; decide +kernel
-- URL('http://h/p?a=1&b=2&a=3#f').with_path('/x y', encoded=S(''))
example : showP pe (dynWithPathFlags pe (pU [104, 116, 116, 112, 58, 47, 47, 104, 47, 112, 63, 97, 61, 49, 38, 98, 61, 50, 38, 97, 61, 51, 35, 102]) (.str [47, 120, 32, 121]) (.strSub []) (.bool false) (.bool false)) = .ok [104, 116, 116, 112, 58, 47, 47, 104, 47, 120, 37, 50, 48, 121] := by rw [pU_three]; decide +kernel
-- URL('http://h/p?a=1&b=2&a=3#f').with_path('/x', keep_query=S(''))
example : showP pe (dynWithPathFlags pe (pU [104, 116, 116, 112, 58, 47, 47, 104, 47, 112, 63, 97, 61, 49, 38, 98, 61, 50, 38, 97, 61, 51, 35, 102]) (.str [47, 120]) (.bool false) (.strSub []) (.bool false)) = .ok [104, 116, 116, 112, 58, 47, 47, 104, 47, 120] := by rw [pU_three]; decide +kernel
-- URL('http://h/p?a=1&b=2&a=3#f').with_path('/x', keep_fragment=S(''))
example : showP pe (dynWithPathFlags pe (pU [104, 116, 116, 112, 58, 47, 47, 104, 47, 112, 63, 97, 61, 49, 38, 98, 61, 50, 38, 97, 61, 51, 35, 102]) (.str [47, 120]) (.bool false) (.bool false) (.strSub [])) = .ok [104, 116, 116, 112, 58, 47, 47, 104, 47, 120] := by rw [pU_three]; decide +kernel
-- URL('http://h/p?a=1&b=2&a=3#f').with_name('n', keep_query=S(''), keep_fragment=S(''))
example : showU pe (dynWithNameFlags pe (pU [104, 116, 116, 112, 58, 47, 47, 104, 47, 112, 63, 97, 61, 49, 38, 98, 61, 50, 38, 97, 61, 51, 35, 102]) (.str [110]) (.strSub []) (.strSub [])) = .ok [104, 116, 116, 112, 58, 47, 47, 104, 47, 110] := by rw [pU_three]; decide +kernel
-- URL('http://h/p?a=1&b=2&a=3#f').with_suffix('.s', keep_query=S(''))
example : showU pe (dynWithSuffixFlags pe (pU [104, 116, 116, 112, 58, 47, 47, 104, 47, 112, 63, 97, 61, 49, 38, 98, 61, 50, 38, 97, 61, 51, 35, 102]) (.str [46, 115]) (.strSub []) (.bool false)) = .ok [104, 116, 116, 112, 58, 47, 47, 104, 47, 112, 46, 115] := by rw [pU_three]; decide +kernel
-- URL('http://h/p?a=1&b=2&a=3#f').joinpath('x y', encoded=S(''))
example : showU pe (dynJoinpathFlag pe (pU [104, 116, 116, 112, 58, 47, 47, 104, 47, 112, 63, 97, 61, 49, 38, 98, 61, 50, 38, 97, 61, 51, 35, 102]) [(.str [120, 32, 121])] (.strSub [])) = .ok [104, 116, 116, 112, 58, 47, 47, 104, 47, 112, 47, 120, 37, 50, 48, 121] := by rw [pU_three]; decide +kernel
-- URL('http://h/p?a=1&b=2&a=3#f').with_path('/x y', encoded=S('x'))
example : showP pe (dynWithPathFlags pe (pU [104, 116, 116, 112, 58, 47, 47, 104, 47, 112, 63, 97, 61, 49, 38, 98, 61, 50, 38, 97, 61, 51, 35, 102]) (.str [47, 120, 32, 121]) (.strSub [120]) (.bool false) (.bool false)) = .ok [104, 116, 116, 112, 58, 47, 47, 104, 47, 120, 32, 121] := by rw [pU_three]; decide +kernel
-- URL('http://h/p?a=1&b=2&a=3#f').with_path('/x', keep_query=S('x'))
example : showP pe (dynWithPathFlags pe (pU [104, 116, 116, 112, 58, 47, 47, 104, 47, 112, 63, 97, 61, 49, 38, 98, 61, 50, 38, 97, 61, 51, 35, 102]) (.str [47, 120]) (.bool false) (.strSub [120]) (.bool false)) = .ok [104, 116, 116, 112, 58, 47, 47, 104, 47, 120, 63, 97, 61, 49, 38, 98, 61, 50, 38, 97, 61, 51] := by rw [pU_three]; decide +kernel
-- URL('http://h/p?a=1&b=2&a=3#f').with_path('/x', keep_fragment=S('x'))
example : showP pe (dynWithPathFlags pe (pU [104, 116, 116, 112, 58, 47, 47, 104, 47, 112, 63, 97, 61, 49, 38, 98, 61, 50, 38, 97, 61, 51, 35, 102]) (.str [47, 120]) (.bool false) (.bool false) (.strSub [120])) = .ok [104, 116, 116, 112, 58, 47, 47, 104, 47, 120, 35, 102] := by rw [pU_three]; decide +kernel
-- URL('http://h/p?a=1&b=2&a=3#f').with_name('n', keep_query=S('x'), keep_fragment=S('x'))
example : showU pe (dynWithNameFlags pe (pU [104, 116, 116, 112, 58, 47, 47, 104, 47, 112, 63, 97, 61, 49, 38, 98, 61, 50, 38, 97, 61, 51, 35, 102]) (.str [110]) (.strSub [120]) (.strSub [120])) = .ok [104, 116, 116, 112, 58, 47, 47, 104, 47, 110, 63, 97, 61, 49, 38, 98, 61, 50, 38, 97, 61, 51, 35, 102] := by rw [pU_three]; decide +kernel
-- URL('http://h/p?a=1&b=2&a=3#f').with_suffix('.s', keep_query=S('x'))
example : showU pe (dynWithSuffixFlags pe (pU [104, 116, 116, 112, 58, 47, 47, 104, 47, 112, 63, 97, 61, 49, 38, 98, 61, 50, 38, 97, 61, 51, 35, 102]) (.str [46, 115]) (.strSub [120]) (.bool false)) = .ok [104, 116, 116, 112, 58, 47, 47, 104, 47, 112, 46, 115, 63, 97, 61, 49, 38, 98, 61, 50, 38, 97, 61, 51] := by rw [pU_three]; decide +kernel
-- URL('http://h/p?a=1&b=2&a=3#f').joinpath('x y', encoded=S('x'))
example : showU pe (dynJoinpathFlag pe (pU [104, 116, 116, 112, 58, 47, 47, 104, 47, 112, 63, 97, 61, 49, 38, 98, 61, 50, 38, 97, 61, 51, 35, 102]) [(.str [120, 32, 121])] (.strSub [120])) = .ok [104, 116, 116, 112, 58, 47, 47, 104, 47, 112, 47, 120, 32, 121] := by rw [pU_three]; decide +kernel
-- URL('http://h/p?a=1&b=2&a=3#f').with_path(1, encoded=0)
example : showP pe (dynWithPathFlags pe (pU [104, 116, 116, 112, 58, 47, 47, 104, 47, 112, 63, 97, 61, 49, 38, 98, 61, 50, 38, 97, 61, 51, 35, 102]) (.int (1)) (.int (0)) (.bool false) (.bool false)) = .err .typeError := by decide +kernel
-- URL('/a').with_path(None, encoded=0, keep_query=object())
example : showP pe (dynWithPathFlags pe (pU [47, 97]) .none (.int (0)) (.other 0) (.bool false)) = .garbage 0 := by decide +kernel
-- URL('http://h/p?a=1&b=2&a=3#f').with_name(1, keep_query=0)
example : showU pe (dynWithNameFlags pe (pU [104, 116, 116, 112, 58, 47, 47, 104, 47, 112, 63, 97, 61, 49, 38, 98, 61, 50, 38, 97, 61, 51, 35, 102]) (.int (1)) (.int (0)) (.bool false)) = .err .typeError := by decide +kernel
-- URL('http://h/p?a=1&b=2&a=3#f').with_suffix(None, keep_fragment=0)
example : showU pe (dynWithSuffixFlags pe (pU [104, 116, 116, 112, 58, 47, 47, 104, 47, 112, 63, 97, 61, 49, 38, 98, 61, 50, 38, 97, 61, 51, 35, 102]) .none (.bool false) (.int (0))) = .err .typeError := by decide +kernel
-- URL('http://h/p?a=1&b=2&a=3#f').joinpath((), encoded=0)
example : showU pe (dynJoinpathFlag pe (pU [104, 116, 116, 112, 58, 47, 47, 104, 47, 112, 63, 97, 61, 49, 38, 98, 61, 50, 38, 97, 61, 51, 35, 102]) [(.tuple [])] (.int (0))) = .err .typeError := by decide +kernel
-- URL('http://h/p?a=1&b=2&a=3#f').joinpath(encoded=0)
example : showU pe (dynJoinpathFlag pe (pU [104, 116, 116, 112, 58, 47, 47, 104, 47, 112, 63, 97, 61, 49, 38, 98, 61, 50, 38, 97, 61, 51, 35, 102]) [] (.int (0))) = .ok [104, 116, 116, 112, 58, 47, 47, 104, 47, 112] := by rw [pU_three]; decide +kernel
-- URL('http://h/p?a=1&b=2&a=3#f').with_path(1, encoded=1)
example : showP pe (dynWithPathFlags pe (pU [104, 116, 116, 112, 58, 47, 47, 104, 47, 112, 63, 97, 61, 49, 38, 98, 61, 50, 38, 97, 61, 51, 35, 102]) (.int (1)) (.int (1)) (.bool false) (.bool false)) = .err .typeError := by decide +kernel
-- URL('/a').with_path(None, encoded=1, keep_query=object())
example : showP pe (dynWithPathFlags pe (pU [47, 97]) .none (.int (1)) (.other 0) (.bool false)) = .garbage 0 := by decide +kernel
-- URL('http://h/p?a=1&b=2&a=3#f').with_name(1, keep_query=1)
example : showU pe (dynWithNameFlags pe (pU [104, 116, 116, 112, 58, 47, 47, 104, 47, 112, 63, 97, 61, 49, 38, 98, 61, 50, 38, 97, 61, 51, 35, 102]) (.int (1)) (.int (1)) (.bool false)) = .err .typeError := by decide +kernel
-- URL('http://h/p?a=1&b=2&a=3#f').with_suffix(None, keep_fragment=1)
example : showU pe (dynWithSuffixFlags pe (pU [104, 116, 116, 112, 58, 47, 47, 104, 47, 112, 63, 97, 61, 49, 38, 98, 61, 50, 38, 97, 61, 51, 35, 102]) .none (.bool false) (.int (1))) = .err .typeError := by decide +kernel
-- URL('http://h/p?a=1&b=2&a=3#f').joinpath((), encoded=1)
example : showU pe (dynJoinpathFlag pe (pU [104, 116, 116, 112, 58, 47, 47, 104, 47, 112, 63, 97, 61, 49, 38, 98, 61, 50, 38, 97, 61, 51, 35, 102]) [(.tuple [])] (.int (1))) = .err .attributeError := by decide +kernel
-- URL('http://h/p?a=1&b=2&a=3#f').joinpath(encoded=1)
example : showU pe (dynJoinpathFlag pe (pU [104, 116, 116, 112, 58, 47, 47, 104, 47, 112, 63, 97, 61, 49, 38, 98, 61, 50, 38, 97, 61, 51, 35, 102]) [] (.int (1))) = .ok [104, 116, 116, 112, 58, 47, 47, 104, 47, 112] := by rw [pU_three]; decide +kernel
-- URL('http://h/p?a=1&b=2&a=3#f').with_path(1, encoded=[])
example : showP pe (dynWithPathFlags pe (pU [104, 116, 116, 112, 58, 47, 47, 104, 47, 112, 63, 97, 61, 49, 38, 98, 61, 50, 38, 97, 61, 51, 35, 102]) (.int (1)) (.list []) (.bool false) (.bool false)) = .err .typeError := by decide +kernel
-- URL('/a').with_path(None, encoded=[], keep_query=object())
example : showP pe (dynWithPathFlags pe (pU [47, 97]) .none (.list []) (.other 0) (.bool false)) = .garbage 0 := by decide +kernel
-- URL('http://h/p?a=1&b=2&a=3#f').with_name(1, keep_query=[])
example : showU pe (dynWithNameFlags pe (pU [104, 116, 116, 112, 58, 47, 47, 104, 47, 112, 63, 97, 61, 49, 38, 98, 61, 50, 38, 97, 61, 51, 35, 102]) (.int (1)) (.list []) (.bool false)) = .err .typeError := by decide +kernel
-- URL('http://h/p?a=1&b=2&a=3#f').with_suffix(None, keep_fragment=[])
example : showU pe (dynWithSuffixFlags pe (pU [104, 116, 116, 112, 58, 47, 47, 104, 47, 112, 63, 97, 61, 49, 38, 98, 61, 50, 38, 97, 61, 51, 35, 102]) .none (.bool false) (.list [])) = .err .typeError := by decide +kernel
-- URL('http://h/p?a=1&b=2&a=3#f').joinpath((), encoded=[])
example : showU pe (dynJoinpathFlag pe (pU [104, 116, 116, 112, 58, 47, 47, 104, 47, 112, 63, 97, 61, 49, 38, 98, 61, 50, 38, 97, 61, 51, 35, 102]) [(.tuple [])] (.list [])) = .err .typeError := by decide +kernel
-- URL('http://h/p?a=1&b=2&a=3#f').joinpath(encoded=[])
example : showU pe (dynJoinpathFlag pe (pU [104, 116, 116, 112, 58, 47, 47, 104, 47, 112, 63, 97, 61, 49, 38, 98, 61, 50, 38, 97, 61, 51, 35, 102]) [] (.list [])) = .ok [104, 116, 116, 112, 58, 47, 47, 104, 47, 112] := by rw [pU_three]; decide +kernel
-- URL('http://h/p?a=1&b=2&a=3#f').with_path(1, encoded=object())
example : showP pe (dynWithPathFlags pe (pU [104, 116, 116, 112, 58, 47, 47, 104, 47, 112, 63, 97, 61, 49, 38, 98, 61, 50, 38, 97, 61, 51, 35, 102]) (.int (1)) (.other 0) (.bool false) (.bool false)) = .err .typeError := by decide +kernel
-- URL('/a').with_path(None, encoded=object(), keep_query=object())
example : showP pe (dynWithPathFlags pe (pU [47, 97]) .none (.other 0) (.other 0) (.bool false)) = .garbage 0 := by decide +kernel
-- URL('http://h/p?a=1&b=2&a=3#f').with_name(1, keep_query=object())
example : showU pe (dynWithNameFlags pe (pU [104, 116, 116, 112, 58, 47, 47, 104, 47, 112, 63, 97, 61, 49, 38, 98, 61, 50, 38, 97, 61, 51, 35, 102]) (.int (1)) (.other 0) (.bool false)) = .err .typeError := by decide +kernel
-- URL('http://h/p?a=1&b=2&a=3#f').with_suffix(None, keep_fragment=object())
example : showU pe (dynWithSuffixFlags pe (pU [104, 116, 116, 112, 58, 47, 47, 104, 47, 112, 63, 97, 61, 49, 38, 98, 61, 50, 38, 97, 61, 51, 35, 102]) .none (.bool false) (.other 0)) = .err .typeError := by decide +kernel
-- URL('http://h/p?a=1&b=2&a=3#f').joinpath((), encoded=object())
example : showU pe (dynJoinpathFlag pe (pU [104, 116, 116, 112, 58, 47, 47, 104, 47, 112, 63, 97, 61, 49, 38, 98, 61, 50, 38, 97, 61, 51, 35, 102]) [(.tuple [])] (.other 0)) = .err .attributeError := by decide +kernel
-- URL('http://h/p?a=1&b=2&a=3#f').joinpath(encoded=object())
example : showU pe (dynJoinpathFlag pe (pU [104, 116, 116, 112, 58, 47, 47, 104, 47, 112, 63, 97, 61, 49, 38, 98, 61, 50, 38, 97, 61, 51, 35, 102]) [] (.other 0)) = .ok [104, 116, 116, 112, 58, 47, 47, 104, 47, 112] := by rw [pU_three]; decide +kernel

end Yarl
