import YarlProofs.C14Headline
import YarlProofs.C14More
import YarlProofs.C15More2
/-!
# C14 — join() is RFC 3986 section 5.2 reference resolution   (audit layer, continued)

Continuation of `C14Headline.lean`: the theorems that need `C14More.lean` (which imports `C14Headline.lean`, so that
file cannot import it) and `C15More2.lean`.

Property statement (verbatim):

> For a base URL whose scheme supports relative resolution and any reference, base.join(ref) has exactly
> the components computed by the RFC 3986 5.2.2 algorithm (non-strict: a reference carrying the base's
> own scheme is treated as relative) applied to the encoded components, including dot-segment removal,
> inheriting the query only when the reference path is empty, and always taking the fragment from the
> reference. A reference with a different scheme, or a base whose scheme does not support relative
> resolution, yields the reference unchanged.

What is here (numbers: GAPS items of `C14Headline.lean`).
 * GAPS 1 / 2 ("no closed-form condition on base/ref for when the two results coincide"): for a base WITHOUT authority
   and a reference WITHOUT authority, `join` IS §5.2.2 if and only if `C14_deviates base.path ref.path = false`; when it
   is true the RFC's path is '/' followed by `join`'s path and every other component agrees — never anything else
   (known finding F-C14-rootless-base, now with its exact extent).  The condition in loop-free form
   (`C14_headline_deviates_closed_form`), its two simple sufficient conditions, and the underlying fact about §5.2.4
   on ANY path against the stack algorithm of `yarl._path`.  The general iff over all bases (authority or not).
 * NEW item 7 of the GAPS block: the one base shape all of this excludes — a ROOTLESS non-empty path NEXT TO an authority
   (`URL.build(host=…, path="x/y", encoded=True)` only) — has its `join` path characterised (C15More2.lean); it is not
   the RFC's in general (witness instances).

Vocabulary (definitions of C14More.lean; `p5`, `Rfc.resolve`, `Rfc.merge`, `Rfc.removeDotSegments`, `target`,
`Gen.usesRelative`: reading guide of `C14Headline.lean` and C14.lean; 46 = '.', 47 = '/'; `dot`, `dotdot` = "." / "..").
 * `C14_merged bp rp`    — §5.2.3 `merge` for a base without authority: `bp` up to and including its last '/', then `rp`;
                           its '/'-segments are `(bp.split("/"))[:-1] + rp.split("/")` (`C14_merged_segments`);
 * `C14_escapes segs`    — skip the leading "." / ".." segments and the ONE segment after them; in the rest keep a depth
                           counter (".." decrements, "." stays, anything else increments, start 0): true iff some ".."
                           meets depth 0, i.e. the first segment that reached the output is popped;
                           `C14_pathEscapes m` = `C14_escapes (m.split("/"))`;
 * `C14_deviates bp rp`  — `rp` non-empty and rootless, `bp` empty or rootless, and `C14_pathEscapes (C14_merged bp rp)`;
 * `C14_ordinarySeg s`   — `s` is neither "." nor "..";
 * `normalizePath`, `normalizePathSegments` — `yarl._path.normalize_path` / `normalize_path_segments` (YarlModel/Path.lean).
 The Python transcription `deviates(bp, rp)` in the header of C14More.lean is a comment, not a proved object.
-/
namespace Yarl
open Yarl.PathLemmas Yarl.JoinLemmas Yarl.DotMore Yarl.PathAlg

/-! ## Sentence 1 — "has exactly the components computed by the RFC 3986 5.2.2 algorithm …": base WITHOUT authority,
    reference WITHOUT authority (GAPS 1, 2) -/

/-- GAPS 1 / 2, THE IFF: for a base without authority (path empty, rootless or rooted — anything) and a reference
    without authority, `base.join(ref)` has exactly the components of RFC 3986 §5.2.2 if and only if
    `C14_deviates base.path ref.path = false`.  Cites `C14_join_rfc_iff`. -/
theorem C14_headline_join_rfc_iff (e : Env) (base ref : Url)
    (hrel : Gen.usesRelative.contains base.scheme = true)   -- the base scheme supports relative resolution
    (hsch : ref.scheme = [] ∨ ref.scheme = base.scheme)     -- relative reference (non-strict: same scheme counts)
    (hnet : base.netloc = [])                               -- base WITHOUT authority
    (hrn : ref.netloc = []) :                               -- reference WITHOUT authority
    p5 (join e base ref) = Rfc.resolve (p5 base) (p5 ref) ↔ C14_deviates base.path ref.path = false :=
  C14_join_rfc_iff e base ref hrel hsch hnet hrn

/-- GAPS 1 / 2, the exact relation: in that domain all components agree except, possibly, the path, and the RFC's path
    is `join`'s path with ONE '/' in front exactly when `C14_deviates base.path ref.path` — never anything else.
    Cites `C14_join_vs_rfc`. -/
theorem C14_headline_join_vs_rfc (e : Env) (base ref : Url)
    (hrel : Gen.usesRelative.contains base.scheme = true)   -- as above
    (hsch : ref.scheme = [] ∨ ref.scheme = base.scheme)
    (hnet : base.netloc = []) (hrn : ref.netloc = []) :     -- neither has an authority
    Rfc.resolve (p5 base) (p5 ref) =
      { p5 (join e base ref) with
        path := (if C14_deviates base.path ref.path then [47] else []) ++ (join e base ref).path } :=
  C14_join_vs_rfc e base ref hrel hsch hnet hrn

/-- the finding F-C14-rootless-base with its exact extent: when `C14_deviates base.path ref.path` the property's
    sentence 1 is FALSE — there is ALWAYS a difference, and it is exactly one leading '/' of the path (scheme,
    authority, query, fragment agree).  Cites `C14_join_rfc_deviation`. -/
theorem C14_headline_join_rfc_fails_when_deviates (e : Env) (base ref : Url)
    (hrel : Gen.usesRelative.contains base.scheme = true)   -- as above
    (hsch : ref.scheme = [] ∨ ref.scheme = base.scheme)
    (hnet : base.netloc = []) (hrn : ref.netloc = [])       -- neither has an authority
    (hd : C14_deviates base.path ref.path = true) :         -- a ".." of the rootless merged path pops its first segment
    (Rfc.resolve (p5 base) (p5 ref)).path = 47 :: (join e base ref).path ∧
    (Rfc.resolve (p5 base) (p5 ref)).scheme = (join e base ref).scheme ∧
    (Rfc.resolve (p5 base) (p5 ref)).authority = (join e base ref).netloc ∧
    (Rfc.resolve (p5 base) (p5 ref)).query = (join e base ref).query ∧
    (Rfc.resolve (p5 base) (p5 ref)).fragment = (join e base ref).fragment ∧
    p5 (join e base ref) ≠ Rfc.resolve (p5 base) (p5 ref) :=
  C14_join_rfc_deviation e base ref hrel hsch hnet hrn hd

/-- `C14_headline_join_rfc_rootless_base` with the EXACT condition in place of "no '.' in either path", ANY reference
    (one with its own authority is taken as it is, hence `href` as in `C14_headline_join_rfc`).
    Cites `C14_headline_join_rfc_rootless_base_exact` (C14More.lean). -/
theorem C14_headline_join_rfc_base_without_authority (e : Env) (base ref : Url)
    (hrel : Gen.usesRelative.contains base.scheme = true)   -- as above
    (hsch : ref.scheme = [] ∨ ref.scheme = base.scheme)
    (hnet : base.netloc = [])                               -- base WITHOUT authority
    -- a reference with its own authority: its path is already free of dot segments (C15 for library-made URLs)
    (href : ref.netloc ≠ [] → Rfc.removeDotSegments ref.path = ref.path)
    -- exactly the finding is excluded
    (hex : ref.netloc = [] → C14_deviates base.path ref.path = false) :
    p5 (join e base ref) = Rfc.resolve (p5 base) (p5 ref) :=
  C14_headline_join_rfc_rootless_base_exact e base ref hrel hsch hnet href hex

/-- ALL bases at once, reference without authority: `join` is §5.2.2 iff the base has an authority or `C14_deviates` is
    false.  Cites `C14_join_rfc_iff_general`. -/
theorem C14_headline_join_rfc_iff_general (e : Env) (base ref : Url)
    (hrel : Gen.usesRelative.contains base.scheme = true)   -- as above
    (hsch : ref.scheme = [] ∨ ref.scheme = base.scheme)
    -- excludes only a rootless non-empty base path NEXT TO an authority (`encoded=True` only; GAPS 7:
    -- `C14_headline_join_rootless_authority_base`)
    (hb : base.netloc = [] ∨ base.path = [] ∨ base.path.head? = some 47)
    (hrn : ref.netloc = []) :                               -- reference WITHOUT authority
    p5 (join e base ref) = Rfc.resolve (p5 base) (p5 ref) ↔
      (base.netloc = [] → C14_deviates base.path ref.path = false) :=
  C14_join_rfc_iff_general e base ref hrel hsch hb hrn

/-! ## the condition `C14_deviates`, spelled out -/

/-- the condition WITHOUT the definitions of C14More.lean (closed, loop-free form): with `segs` = the base path's
    '/'-segments without the last one followed by the reference path's '/'-segments, and `R` = `segs` after its leading
    "." / ".." segments and the ONE segment that follows them — `join` deviates iff the reference path is non-empty and
    rootless, the base path is empty or rootless, and some prefix of `R` has more ".." segments than ordinary
    (non-dot) ones.  Cites `C14_pathEscapes_iff`, `C14_merged_segments`. -/
theorem C14_headline_deviates_closed_form (bp rp : Str) :
    C14_deviates bp rp = true ↔
      rp ≠ [] ∧ rp.head? ≠ some 47 ∧ bp.head? ≠ some 47 ∧
      ∃ k, ((((((splitOn 47 bp).dropLast ++ splitOn 47 rp).dropWhile
                (fun s => decide (s = dot ∨ s = dotdot))).drop 1).take k).filter C14_ordinarySeg).length
          < (((((splitOn 47 bp).dropLast ++ splitOn 47 rp).dropWhile
                (fun s => decide (s = dot ∨ s = dotdot))).drop 1).take k).count dotdot := by
  rw [← C14_merged_segments bp rp, ← C14_pathEscapes_iff]
  simp [C14_deviates, and_assoc]

/-- two simple sufficient conditions: no '.' in either path (the old hypothesis of `C14_headline_join_rfc_rootless_base`),
    or no ".." segment among the segments of the merged path.
    Cites `C14_deviates_false_of_no_dot`, `C14_pathEscapes_false_of_no_dotdot`, `C14_merged_segments`. -/
theorem C14_headline_deviates_false_of_no_dotdot (bp rp : Str)
    (h : (46 ∉ bp ∧ 46 ∉ rp) ∨ dotdot ∉ (splitOn 47 bp).dropLast ++ splitOn 47 rp) :
    C14_deviates bp rp = false := by
  rcases h with h | h
  · exact C14_deviates_false_of_no_dot bp rp h
  · have := C14_pathEscapes_false_of_no_dotdot (C14_merged bp rp) (by rw [C14_merged_segments]; exact h)
    simp [C14_deviates, this]

/-! ## Sentence 1 — "including dot-segment removal": §5.2.4 against the stack algorithm, on ANY path -/

/-- the fact behind the iff: RFC 3986 §5.2.4 `remove_dot_segments` on ANY path `m`, rooted or not, is
    `"/".join(normalize_path_segments(m.split("/")))` with ONE '/' in front exactly when `C14_pathEscapes m`; hence on a
    path that does not start with '/' (the empty path included) `normalize_path(m)` — what `join` applies — IS §5.2.4
    iff not `C14_pathEscapes m`, and so is `remove_dot_segments("/" + m)[1:]`, the form of
    `C14_headline_join_rootless_characterised`.
    Cites `C14_rds_any`, `C14_normalize_eq_rds_iff`, `C14_rooted_drop_eq_rds_iff`. -/
theorem C14_headline_rds_vs_stack (m : Str) :
    Rfc.removeDotSegments m
      = (if C14_pathEscapes m then [47] else []) ++ joinC 47 (normalizePathSegments (splitOn 47 m)) ∧
    (m.head? ≠ some 47 →                                  -- `m` does not start with '/'
      (normalizePath m = Rfc.removeDotSegments m ↔ C14_pathEscapes m = false) ∧
      (m ≠ [] → ((Rfc.removeDotSegments (47 :: m)).drop 1 = Rfc.removeDotSegments m ↔ C14_pathEscapes m = false))) :=
  ⟨C14_rds_any m, fun h => ⟨C14_normalize_eq_rds_iff m h, fun h0 => C14_rooted_drop_eq_rds_iff m h0 h⟩⟩

/-! ## Sentence 1 — the base shape every theorem above excludes: ROOTLESS path NEXT TO an authority (NEW GAPS 7) -/

/-- NEW GAPS 7: a base WITH an authority and a ROOTLESS non-empty path `c :: rest` (only
    `URL.build(host=…, path="x/y", encoded=True)` / hand-made parts), relative-path reference.  `raw_parts` treats the
    first character of the base path as if it were the root slash.  If the base path ends with '/', the merged path is
    `base.path ++ ref.path` — which IS §5.2.3 `merge` — normalised as a RELATIVE path; otherwise the path of the result is
    §5.2.4 of "//" ++ (`rest` up to and including its last '/') ++ `ref.path`, where the RFC merges (`c :: rest` up to
    its last '/') ++ `ref.path` (`target`).  PATH of `join` only; no comparison with `Rfc.resolve` is derived.
    Cites `C15_rfc_join_authority_rootless_base` (C15More2.lean), `join_rel` (C14.lean). -/
theorem C14_headline_join_rootless_authority_base (e : Env) (base ref : Url) (c : Nat) (rest : Str)
    (hrel : Gen.usesRelative.contains base.scheme = true)   -- as above
    (hsch : ref.scheme = [] ∨ ref.scheme = base.scheme)
    (hn : base.netloc ≠ [])                                 -- base WITH an authority …
    (hbp : base.path = c :: rest) (hc : c ≠ 47)             -- … and a rootless non-empty path
    (hrn : ref.netloc = [])                                 -- relative-path reference: no authority,
    (hp : ref.path ≠ []) (hr : ref.path.head? ≠ some 47) :  -- a non-empty rootless path
    (join e base ref).path =
      (if base.path.getLast? = some 47 then normalizePath (base.path ++ ref.path)
       else Rfc.removeDotSegments (47 :: 47 :: (rest.reverse.dropWhile (· ≠ 47)).reverse ++ ref.path)) ∧
    (base.path.getLast? = some 47 → target base ref = base.path ++ ref.path) ∧
    target base ref = ((c :: rest).reverse.dropWhile (· ≠ 47)).reverse ++ ref.path := by
  rw [join_path e base ref hrel hsch hrn]
  exact C15_rfc_join_authority_rootless_base base ref c rest hn hbp hc hp hr

/-- witnesses for that shape (Python: `b = URL.build(scheme="http", host="h", path="x/y", encoded=True)`;
    `b.join(URL("c"))` has path "///c" where §5.2.4 of the RFC's target gives "x/c"; `b2 = …path="x/y/"…`;
    `b2.join(URL("../c"))` has path "x/c" as the RFC says, `b2.join(URL("../../c"))` has "c" where the RFC gives "/c").
    Cites `C15_rfc_join_authority_rootless_base_instances` (C15More2.lean). -/
theorem C14_headline_join_rfc_fails_for_rootless_authority_base (e : Env) :
    let b := fromParts "http".toStr "h".toStr "x/y".toStr [] []
    let b2 := fromParts "http".toStr "h".toStr "x/y/".toStr [] []
    let r (p : String) := fromParts [] [] p.toStr [] []
    (join e b (r "c")).path = "///c".toStr ∧ Rfc.removeDotSegments (target b (r "c")) = "x/c".toStr ∧
    (join e b2 (r "../c")).path = "x/c".toStr ∧ Rfc.removeDotSegments (target b2 (r "../c")) = "x/c".toStr ∧
    (join e b2 (r "../../c")).path = "c".toStr ∧ Rfc.removeDotSegments (target b2 (r "../../c")) = "/c".toStr :=
  C15_rfc_join_authority_rootless_base_instances e

/-! ## non-vacuity (Python calls in the comments) -/
section checks
private def rb3 (p : String) : Url := fromParts [] [] p.toStr [] []

/-- `URL("a/b/c").join(URL("../d"))` is `a/d`, exactly RFC 3986 — dot segments and a rootless base, through the
    headline iff; `URL("a/b/c").join(URL("../../d"))` is `d` where RFC 3986 gives `/d`, through the deviation theorem -/
example (e : Env) :
    p5 (join e (rb3 "a/b/c") (rb3 "../d")) = Rfc.resolve (p5 (rb3 "a/b/c")) (p5 (rb3 "../d")) ∧
    (join e (rb3 "a/b/c") (rb3 "../d")).path = "a/d".toStr ∧
    (Rfc.resolve (p5 (rb3 "a/b/c")) (p5 (rb3 "../../d"))).path = 47 :: (join e (rb3 "a/b/c") (rb3 "../../d")).path ∧
    (join e (rb3 "a/b/c") (rb3 "../../d")).path = "d".toStr :=
  ⟨(C14_headline_join_rfc_iff e _ _ (by decide +kernel) (by decide +kernel) rfl rfl).2 (by decide +kernel), by simp only [join]; decide +kernel,
   (C14_headline_join_rfc_fails_when_deviates e _ _ (by decide +kernel) (by decide +kernel) rfl rfl (by decide +kernel)).1,
   by simp only [join]; decide +kernel⟩

/-- the closed form at a witness: base "a/b", reference "../../c": R = ["..", "..", "c"], the prefix of length 1 has
    one ".." and no ordinary segment -/
example : C14_deviates "a/b".toStr "../../c".toStr = true :=
  (C14_headline_deviates_closed_form _ _).2 ⟨by decide +kernel, by decide +kernel, by decide +kernel, 1, by decide +kernel⟩

/-- `C14_headline_join_rootless_authority_base`: hypotheses hold for `http://h` + path "x/y" and the reference "c" -/
example : (fromParts "http".toStr "h".toStr "x/y".toStr [] []).path = 120 :: "/y".toStr ∧ (120 : Nat) ≠ 47 ∧
    Gen.usesRelative.contains "http".toStr = true := by str_lits; decide +kernel
end checks

end Yarl
