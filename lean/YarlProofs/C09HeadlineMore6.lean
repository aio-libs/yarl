import YarlProofs.C09Surr
/-!
# C09 — Eager and lazy component computation agree; pickling is lossless   (audit layer, sixth part)

Continuation of `C09Headline.lean` / `C09HeadlineMore.lean` / `C09HeadlineMore4.lean`: headline theorems for the proof
module added after the last refresh, `C09Surr.lean` (over `C09More.lean`, `C09HeadlineMore4.lean`).  This file is a leaf,
nobody imports it.  It closes GAPS item 7 of `C09Headline.lean` ("that users of lone surrogates only in front of "@" /
"@:" are the ONLY further members is said in C09More.lean's doc comment but not proved"; "STILL OPEN: an evaluated
`eagerLazy` theorem for the pure-Python backend (acceptance of that input there is not evaluated)").

Property statement (verbatim):

> Every accessor returns the same value whether it was pre-computed while the URL was being built or derived later from
> the stored string parts. In particular a URL restored by pickle, copy or deepcopy compares equal to the original, has
> the same hash and string form, and returns identical values for every accessor.

What is here.  The clause "returns the same value whether it was pre-computed … or derived later" FAILS exactly on the
known finding F-C09-empty-authority, class (A) "the authority normalises to empty" (`C09_headline_eager_ne_lazy_iff`,
C09HeadlineMore4.lean).  This file gives that class in closed form for EVERY authority text, and the evaluated
disagreement on the backend that was missing:
 * (a) the class, every text — `C09_headline_normalises_to_empty_iff`: NO hypothesis (not even `PyStr`): "", ":", `σ@`,
   `σ@:` with σ a possibly empty string of lone surrogates only; `…_iff_nonempty`: the non-empty texts (the only ones that
   cache anything); `…_nosurr`: without lone surrogates σ is empty (agrees with `C09_headline_normalises_to_empty_ascii`);
   `…_non_members`: a password of ANY kind (empty, or lone surrogates only) takes the text out of the class.
 * (b) computed members and non-members — `…_members`, `…_computed_non_members` (the class is a predicate on TEXT: no
   backend appears).
 * (c) the quoter fact that ties the class to `encode_url` — `C09_headline_requote_surrogates_nil`, `…_nil_backends`,
   `…_nil'`, `C09_headline_surrOnly_pyStr`: a user of lone surrogates only requotes to "" in EVERY environment, no side
   condition.
 * (d) evaluated `eagerLazy` — `C09_headline_surrogate_user_empty_host_py`: "foo://\udc80@/x" on the PURE-PYTHON backend
   (the "STILL OPEN" of GAPS 7); `…_both_backends`: the two computed members on both backends;
   `C09_headline_surrogate_non_members_agree_both_backends`: the computed non-members AGREE on both backends.
 The clause stays FALSE on class (A) (known finding, not fixed): these theorems say exactly which texts are in it.

Vocabulary (as in `C09Headline.lean` / `C09HeadlineMore4.lean`).
`NormalisesToEmpty n`     — class (A) on the authority text `n`: empty host, no '[' after the last '@', no written user
                            (absent, "" or lone surrogates only), no password, no port text (C09More.lean).
`SurrOnly σ`              — every code point of `σ` is a lone surrogate (U+D800..U+DFFF); σ may be empty (C09Surr.lean).
`NoSurrogate n`           — no code point of `n` is a lone surrogate.   `PyStr s` — every element is a code point.
`q e Gen.REQUOTER σ`      — the generated quoter REQUOTER (safe "", protected "", requote = true) of environment `e` on `σ`.
`Env` = backend `b` (`.py` pure-Python quoter / `.c` compiled quoter) + oracle table `o`;  `envC` — compiled backend
                            (C09.lean), `envPyN` — pure-Python backend (C09Surr.lean), both with the NFKC oracle = identity.
`eagerLazy e s`           — `(stored netloc, the four cached entries of URL(s), what the restored URL derives)`.
`GoodAuthority e s`       — the guard of `C09_headline_eager_eq_lazy`.
`NetPre`                  — raw_host, explicit_port, raw_user, raw_password.
64 = '@', 58 = ':', 91 = '[', 0xDC80 / 0xDC81 / 0xD800 = lone surrogates.
-/
namespace Yarl
open EagerLemmas NetlocLemmas

/-! ## (a) the class in closed form, every text -/

/-- "whether it was pre-computed while the URL was being built or derived later from the stored string parts" fails on
    class (A) "the authority normalises to empty"; that class for EVERY authority text `n`, NO hypothesis (every Python
    string, lone surrogates allowed): the empty text, ":", and `σ@`, `σ@:` with σ a (possibly empty) string of lone
    surrogates only.  IF AND ONLY IF.  Known finding F-C09-empty-authority (not a new deviation).
    Cites C09_normalises_to_empty_iff. -/
theorem C09_headline_normalises_to_empty_iff (n : Str) :
    NormalisesToEmpty n ↔
      (n = [] ∨ n = ":".toStr ∨ ∃ σ, SurrOnly σ ∧ (n = σ ++ "@".toStr ∨ n = σ ++ "@:".toStr)) :=
  C09_normalises_to_empty_iff n

/-- … the same for the NON-EMPTY texts ("pre-computed while the URL was being built": an input with an empty authority
    text caches nothing, so only these matter for the disagreement `C09_headline_eager_ne_lazy_iff`).
    Cites C09_normalises_to_empty_iff_nonempty. -/
theorem C09_headline_normalises_to_empty_iff_nonempty (n : Str) (hne : n ≠ []) :
    NormalisesToEmpty n ↔ (n = ":".toStr ∨ ∃ σ, SurrOnly σ ∧ (n = σ ++ "@".toStr ∨ n = σ ++ "@:".toStr)) :=
  C09_normalises_to_empty_iff_nonempty n hne

/-- … consistency with `C09_headline_normalises_to_empty_ascii`: WITHOUT lone surrogates σ is empty, the class is "",
    ":", "@", "@:".  Cites C09_normalises_to_empty_nosurr. -/
theorem C09_headline_normalises_to_empty_nosurr (n : Str) (hns : NoSurrogate n) :
    NormalisesToEmpty n ↔ (n = [] ∨ n = ":".toStr ∨ n = "@".toStr ∨ n = "@:".toStr) :=
  C09_normalises_to_empty_nosurr n hns

/-- "returns the same value": a password of ANY kind takes the text OUT of the failing class — also the empty one (":@",
    "σ:@") and one made of lone surrogates only ("σ:τ@"): arbitrary σ, τ and any text `hi` (without '@') after the last
    '@'.  Cites C09_normalises_to_empty_non_members. -/
theorem C09_headline_normalises_to_empty_non_members (σ τ hi : Str) (h64 : 64 ∉ hi) :
    ¬ NormalisesToEmpty (σ ++ 58 :: τ ++ 64 :: hi) :=
  C09_normalises_to_empty_non_members σ τ hi h64

/-! ## (b) computed members and non-members -/

/-- computed MEMBERS of the failing class ("\udc80@", "\udc80\ud800@:", ":", "@", "@:", ""): a predicate on text, no
    backend appears.  Cites C09_normalises_to_empty_members. -/
theorem C09_headline_normalises_to_empty_members :
    NormalisesToEmpty ([0xDC80] ++ "@".toStr) ∧ NormalisesToEmpty ([0xDC80, 0xD800] ++ "@:".toStr) ∧
    NormalisesToEmpty ":".toStr ∧ NormalisesToEmpty "@".toStr ∧ NormalisesToEmpty "@:".toStr ∧
    NormalisesToEmpty [] :=
  C09_normalises_to_empty_members

/-- computed NON-members: an empty password behind a surrogate user, a non-empty host, a written user, a port text, a
    '[' before / after the last '@', a surrogate password, ":@", two '@'.
    Cites C09_normalises_to_empty_computed_non_members. -/
theorem C09_headline_normalises_to_empty_computed_non_members :
    ¬ NormalisesToEmpty ([0xDC80] ++ ":@".toStr) ∧ ¬ NormalisesToEmpty ([0xDC80] ++ "@h".toStr) ∧
    ¬ NormalisesToEmpty "a@".toStr ∧ ¬ NormalisesToEmpty "@:0".toStr ∧ ¬ NormalisesToEmpty "[@".toStr ∧
    ¬ NormalisesToEmpty ([0xDC80] ++ ":".toStr ++ [0xDC81] ++ "@".toStr) ∧ ¬ NormalisesToEmpty ":@".toStr ∧
    ¬ NormalisesToEmpty "@[".toStr ∧ ¬ NormalisesToEmpty ([0xDC80] ++ "@@".toStr) :=
  C09_normalises_to_empty_computed_non_members

/-! ## (c) the quoter on a user of lone surrogates only, both backends -/

/-- "pre-computed while the URL was being built": a user made of lone surrogates only requotes to "" — EVERY environment,
    in particular both quoter backends (the quoter fact that ties the class, stated on text, to `encode_url`).
    Cites C09_requote_surrogates_nil. -/
theorem C09_headline_requote_surrogates_nil (e : Env) (σ : Str) (hpy : PyStr σ) (hσ : SurrOnly σ) :
    q e Gen.REQUOTER σ = [] :=
  C09_requote_surrogates_nil e σ hpy hσ

/-- … spelled out per backend (pure-Python / compiled), any oracle table.  Cites C09_requote_surrogates_nil_backends. -/
theorem C09_headline_requote_surrogates_nil_backends (o : Oracles) (σ : Str) (hpy : PyStr σ) (hσ : SurrOnly σ) :
    q { b := .py, o := o } Gen.REQUOTER σ = [] ∧ q { b := .c, o := o } Gen.REQUOTER σ = [] :=
  C09_requote_surrogates_nil_backends o σ hpy hσ

/-- … so: NO side condition at all (`PyStr` is automatic).  Cites C09_requote_surrogates_nil'. -/
theorem C09_headline_requote_surrogates_nil' (e : Env) (σ : Str) (hσ : SurrOnly σ) : q e Gen.REQUOTER σ = [] :=
  C09_requote_surrogates_nil' e σ hσ

/-- `PyStr` is automatic: a lone surrogate is a code point.  Cites C09_surrOnly_pyStr. -/
theorem C09_headline_surrOnly_pyStr (σ : Str) (hσ : SurrOnly σ) : PyStr σ :=
  C09_surrOnly_pyStr σ hσ

/-! ## (d) evaluated disagreement, pure-Python backend; both backends -/

/-- "Every accessor returns the same value whether it was pre-computed … or derived later" FAILS for "foo://\udc80@/x" on
    the PURE-PYTHON backend (GAPS 7 "STILL OPEN"), same form as `C09_headline_fails_for_surrogate_user_empty_host`
    (compiled backend): the constructor ACCEPTS the input, the stored netloc is empty, eager `raw_host = ""`, the restored
    URL reads `None`; the input is outside the guard.  Known finding F-C09-empty-authority.
    Cites C09_surrogate_user_empty_host_py. -/
theorem C09_headline_surrogate_user_empty_host_py :
    eagerLazy envPyN ("foo://".toStr ++ [0xDC80] ++ "@/x".toStr) = .ok ([],
      some { rawHost := some [], explicitPort := none, rawUser := none, rawPassword := none },
      .ok { rawHost := none, explicitPort := none, rawUser := none, rawPassword := none }) ∧
    ¬ GoodAuthority envPyN ("foo://".toStr ++ [0xDC80] ++ "@/x".toStr) :=
  C09_surrogate_user_empty_host_py

/-- … the computed members of (b) on BOTH backends: "σ@" and "σ@:" (two surrogates) disagree the same way.
    Cites C09_surrogate_user_empty_host_both_backends. -/
theorem C09_headline_surrogate_user_empty_host_both_backends :
    ∀ e ∈ [envPyN, envC], ∀ s ∈ ["foo://".toStr ++ [0xDC80] ++ "@/x".toStr,
                                  "foo://".toStr ++ [0xDC80, 0xD800] ++ "@:/x".toStr],
      eagerLazy e s = .ok ([],
        some { rawHost := some [], explicitPort := none, rawUser := none, rawPassword := none },
        .ok { rawHost := none, explicitPort := none, rawUser := none, rawPassword := none }) :=
  C09_surrogate_user_empty_host_both_backends

/-- "returns the same value" HOLDS for the computed NON-members on both backends: an (empty) password behind a surrogate
    user, a non-empty host behind a surrogate user — eager and restored entries are identical.
    Cites C09_surrogate_non_members_agree_both_backends. -/
theorem C09_headline_surrogate_non_members_agree_both_backends :
    ∀ e ∈ [envPyN, envC],
      eagerLazy e ("foo://".toStr ++ [0xDC80] ++ ":@/x".toStr) = .ok (":@".toStr,
        some { rawHost := some [], explicitPort := none, rawUser := none, rawPassword := some [] },
        .ok { rawHost := some [], explicitPort := none, rawUser := none, rawPassword := some [] }) ∧
      eagerLazy e ("foo://".toStr ++ [0xDC80] ++ "@h/x".toStr) = .ok ("h".toStr,
        some { rawHost := some "h".toStr, explicitPort := none, rawUser := none, rawPassword := none },
        .ok { rawHost := some "h".toStr, explicitPort := none, rawUser := none, rawPassword := none }) :=
  C09_surrogate_non_members_agree_both_backends

/-- non-vacuity of the hypotheses (`SurrOnly`, `n ≠ []`, `NoSurrogate`, `64 ∉ hi`) on concrete inputs -/
example : SurrOnly [0xDC80, 0xD800] ∧ ([0xDC80] ++ "@".toStr : Str) ≠ [] ∧ NoSurrogate "@:".toStr ∧
    (64 : Nat) ∉ ([58] : Str) := by decide

end Yarl
