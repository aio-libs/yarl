import YarlProofs.C13Headline
import YarlProofs.C13HeadlineMore
import YarlProofs.C13More2
/-!
# C13 — Path operations compose like a path algebra   (audit layer, third part)

Continuation of `C13Headline.lean` / `C13HeadlineMore.lean`: the theorems that need `C13More2.lean` (which imports
`C13HeadlineMore.lean`, so neither of those files can import it).  This file is a leaf, nobody imports it.

Property statement (verbatim):

> raw_parts re-compose to raw_path, name is the last part and suffix/suffixes are the tail of name.
> u / s equals u.joinpath(s), has name s (for s not a dot segment) and parent parts equal to u's parts
> without a trailing empty segment; joinpath(a, b), joinpath(a).joinpath(b) and u / 'a/b' are equal;
> with_name(n) has name n and the same parent; with_suffix(x) replaces only the suffix and leaves the
> rest of the (decoded) name and all other segments exactly as they were, never re-encoding them.

What is here (numbers: GAPS items of `C13Headline.lean`).
 * GAPS 2 — name and parent parts of `u / s` (ONE plain segment `s`) for ANY old path, also when `_make_child`
   normalises an old path WITH dot segments (authority and a '.' in `quote(s)`): the name is always `quote(s)`; the
   parent parts are then those of the NORMALISED old path — so the property's "parent parts equal to u's parts" is
   FALSE there (witness instances).
 * GAPS 5 — `joinpath(a, b)` against `u / text`: the general law `joinpath(a, b) = u / pjoin(a, b)` as VALUES (errors
   included) with its three branches, the `//` counterexample explained, the surrogate guard shown necessary;
   `joinpath(a, b)` against `joinpath(a).joinpath(b)`: a directly checkable sufficient guard ("no climb"), the two
   unconditional cases, the two failing families in general, and THE IFF — for a fixed URL and first argument the two
   forms agree for every second argument exactly when `hroot` (the guard of `C13_joinpath_assoc`) holds.
 * GAPS 6 — `u / o` against `u.joinpath(o)` for an ARBITRARY Python object `o`, at the level of the Lean model of
   Python dispatch (`YarlModel/Dyn.lean`; tied to CPython by a run-time probe table only, not by proof): equal for a
   `str`; for a non-`str` both raise, the SAME exception iff the `_make_child` loop raises TypeError on `o`;
   `u / ["/"]` (TypeError) against `u.joinpath(["/"])` (ValueError) is the counterexample.
 Everything of (GAPS 5) is for `encoded=False` and TWO arguments.

Vocabulary (in addition to the reading guides of `C13Headline.lean` and `C13HeadlineMore.lean`).
 * `C13_pjoin a b`        — `b` if `a == ""`, `a + b` if `a` ends with '/', else `a + "/" + b` (C13More2.lean);
 * `childSegments e u a`  — the segment list `_make_child((a,))` builds: the old segments without a trailing empty one,
                            then the '/'-segments of `quote(a)`, with the root's empty segment in front under an
                            authority (C13.lean); it is what `normalize_path_segments` receives when `quote(a)` has a '.';
 * `hroot`                — `∃ K', K' ≠ [] ∧ normalizePathSegments (childSegments e u a) = [] :: K'`: normalising the
                            first step leaves the root's empty segment at the bottom, followed by something;
 * `DotMore.climbs d L`   — depth counter over a segment list: ".." decrements, "." stays, anything else increments,
                            start `d`; true iff some ".." meets depth 0 (Lemmas/DotMore.lean);
 * `C13_climbArg d`       — the text `"../" * d + "/x"`;  `C13_sepArg n` — the text `"./" + "../" * n + "/x"`;
 * `C13_dropRootSeg l`    — `l` without a leading empty segment;  `normLoop [] X` — the final stack of
                            `normalize_path_segments` on `X`, bottom first (YarlModel/Path.lean); `root n L`, `base u`
                            (Lemmas/PathAlg.lean): `base u` = the old segments without a trailing empty one, `root`
                            puts the root's empty segment in front under an authority;
 * `dynTruediv e u o`, `dynJoinpath e u [o] false`, `Dyn.strLike o`, `childArgErr false o` — YarlModel/Dyn.lean:
                            `u / o`, `u.joinpath(o)`, "`o` is a `str` (or an instance of a `str` subclass), with its
                            text", and the exception the loop body of `_make_child` raises on a non-`str` element.
-/
set_option linter.unusedVariables false
namespace Yarl
open Yarl.PathLemmas Yarl.PathAlg PathMore

/-! ## Sentence 2 — "u / s equals u.joinpath(s)" for an arbitrary Python object (GAPS 6; MODEL-LEVEL: Dyn.lean) -/

/-- GAPS 6: "u / s equals u.joinpath(s)" with `s` an ARBITRARY Python object `o`.  For a `str` (or an instance of a
    `str` subclass) both are `_make_child((s,))` — equal as values and as errors.  For anything else `/` raises
    TypeError (`__truediv__` returns NotImplemented) and `joinpath` — no type check — raises what the loop body of
    `_make_child` raises on `o`.  Model-level (YarlModel/Dyn.lean).  Cites `C13_truediv_eq_joinpath_dyn`. -/
theorem C13_headline_truediv_eq_joinpath_dyn (e : Env) (u : Url) (o : PyObj) :
    (∀ s, Dyn.strLike o = some s →                       -- `o` is a str with text `s`
      dynTruediv e u o = dynJoinpath e u [o] false ∧ dynTruediv e u o = makeChild e u [s] false) ∧
    (Dyn.strLike o = none →                              -- `o` is not a str
      dynTruediv e u o = .error .typeError ∧ dynJoinpath e u [o] false = .error (childArgErr false o)) :=
  C13_truediv_eq_joinpath_dyn e u o

/-- GAPS 6, as an equivalence: `u / o` and `u.joinpath(o)` are the same value-or-exception iff `o` is a `str` or the
    `_make_child` loop raises TypeError on `o`.  Model-level.  Cites `C13_truediv_joinpath_dyn_agree_iff`. -/
theorem C13_headline_truediv_joinpath_dyn_agree_iff (e : Env) (u : Url) (o : PyObj) :
    dynTruediv e u o = dynJoinpath e u [o] false ↔
      (Dyn.strLike o ≠ none ∨ childArgErr false o = .typeError) :=
  C13_truediv_joinpath_dyn_agree_iff e u o

/-- "u / s equals u.joinpath(s)" is FALSE for the non-`str` argument `["/"]`, for every URL: `u / ["/"]` raises
    TypeError, `u.joinpath(["/"])` raises ValueError (`["/"][0] == "/"`: "Appending path … starting from slash is
    forbidden").  Model-level.  Cites `C13_truediv_joinpath_dyn_differ`. -/
theorem C13_headline_truediv_eq_joinpath_fails_for_list (e : Env) (u : Url) :
    let o := PyObj.list [.str [47]]
    Dyn.strLike o = none ∧ dynTruediv e u o = .error .typeError ∧
    dynJoinpath e u [o] false = .error .valueError ∧ childArgErr false o = .valueError :=
  C13_truediv_joinpath_dyn_differ e u

/-- … and the non-`str` arguments on which both raise the same TypeError: `None`, an int, bytes, a URL, an `object()`
    (`.other`), an empty list.  Model-level.  Cites `C13_truediv_joinpath_dyn_same_typeError`. -/
theorem C13_headline_truediv_joinpath_dyn_same_typeError (e : Env) (u : Url) (o : PyObj)
    (ho : o = .none ∨ (∃ i, o = .int i) ∨ (∃ b, o = .bytes b) ∨ (∃ w, o = .url w) ∨ (∃ t, o = .other t) ∨
      o = .list []) :                                    -- one of the six listed kinds of object
    dynTruediv e u o = .error .typeError ∧ dynJoinpath e u [o] false = .error .typeError :=
  C13_truediv_joinpath_dyn_same_typeError e u o ho

/-! ## Sentence 2 — "has name s … and parent parts equal to u's parts without a trailing empty segment", ANY old path
    (GAPS 2) -/

/-- GAPS 2 ("when `_make_child` normalises, … no C13 statement about name/parent then"), for ONE plain segment `s`:
    NO hypothesis on the old path.  The raw name of `u / s` is `quote(s)`, always.  The parent parts are the old
    parts without a trailing empty segment when nothing is normalised (no authority, or no '.' in `quote(s)`; then,
    and only then, a rootless path next to an authority is excluded); when `_make_child` normalises (authority and
    a '.' in `quote(s)`, e.g. "c.txt") they are the parts of the NORMALISED old path: "/" followed by the final stack
    of `normalize_path_segments` on the old segments, without the root's empty segment.
    Cites `C13_child_name_any_old_path`. -/
theorem C13_headline_child_name_any_old_path (e : Env) (u : Url) (s : Str) (v : Url)
    (hs : PyStr s)                         -- a Python string
    (hsur : NoSurrogate s)                 -- no lone surrogate (dropped by the quoter:
                                           -- `C13_headline_child_name_fails_for_surrogate`)
    (h47 : 47 ∉ s) (hne : s ≠ [])          -- ONE non-empty segment
    (hdot : q e Gen.PATH_QUOTER s ≠ dot ∧ q e Gen.PATH_QUOTER s ≠ dotdot) :   -- "s not a dot segment"
    makeChild e u [s] false = .ok v →
    rawName v = .ok (q e Gen.PATH_QUOTER s) ∧
    ((u.netloc = [] ∨ 46 ∉ q e Gen.PATH_QUOTER s) →                          -- nothing is normalised
      (u.netloc ≠ [] → (u.path = [] ∨ u.path.head? = some 47)) →             -- no rootless path next to an authority
      (rawParts v).dropLast = (let ps := rawParts u; if ps.getLast? = some [] then ps.dropLast else ps)) ∧
    (u.netloc ≠ [] → 46 ∈ q e Gen.PATH_QUOTER s →                            -- `_make_child` normalises
      (rawParts v).dropLast = [47] :: C13_dropRootSeg (normLoop [] (root u.netloc (base u)))) :=
  C13_child_name_any_old_path e u s v hs hsur h47 hne hdot

/-- the two descriptions of the parent parts agree when the old path has no dot segments (so
    `C13_headline_child_name` is the special case of the theorem above): the final stack of a dot-free rooted segment
    list is the list.  Cites `C13_child_parent_parts_agree`. -/
theorem C13_headline_child_parent_parts_agree (u : Url)
    (hn : u.netloc ≠ [])                                                 -- under an authority
    (hold : NoDots (splitOn 47 u.path))                                  -- the old path has no dot segments
    (hpath : u.path = [] ∨ u.path.head? = some 47) :                     -- empty or rooted
    [47] :: C13_dropRootSeg (normLoop [] (root u.netloc (base u)))
      = (let ps := rawParts u; if ps.getLast? = some [] then ps.dropLast else ps) :=
  C13_child_parent_parts_agree u hn hold hpath

/-- "parent parts equal to u's parts without a trailing empty segment" is FALSE when the old path has dot segments
    (only `encoded=True` makes such a path under an authority) and `quote(s)` has a '.': computed on both backends,
    `URL("http://h/a/../b", encoded=True) / "c.txt"` has parts ("/", "b", "c.txt") and name "c.txt" (the old parts are
    ("/", "a", "..", "b")), whereas `/ "c"` (nothing normalised) has parts ("/", "a", "..", "b", "c"); a climbing old
    path `http://h/a/../..` gives ("/", "c.txt"), and `http://h/..//z` gives ("/", "z", "c.txt").
    Cites `C13_child_name_dotted_old_path_instances`. -/
theorem C13_headline_child_parent_parts_fails_for_dotted_old_path : ∀ b : Backend,
    let e : Env := ⟨b, Oracles.empty⟩
    let u := fromParts "http".toStr "h".toStr "/a/../b".toStr [] []
    let parts := fun (r : R Url) => (r.map rawParts).toOption
    parts (makeChild e u ["c.txt".toStr] false) = some ["/".toStr, "b".toStr, "c.txt".toStr] ∧
    ((makeChild e u ["c.txt".toStr] false).bind rawName).toOption = some "c.txt".toStr ∧
    [47] :: C13_dropRootSeg (normLoop [] (root u.netloc (base u))) = ["/".toStr, "b".toStr] ∧
    parts (makeChild e u ["c".toStr] false)
      = some ["/".toStr, "a".toStr, "..".toStr, "b".toStr, "c".toStr] ∧
    parts (makeChild e (fromParts "http".toStr "h".toStr "/a/../..".toStr [] []) ["c.txt".toStr] false)
      = some ["/".toStr, "c.txt".toStr] ∧
    parts (makeChild e (fromParts "http".toStr "h".toStr "/..//z".toStr [] []) ["c.txt".toStr] false)
      = some ["/".toStr, "z".toStr, "c.txt".toStr] ∧
    (q e Gen.PATH_QUOTER "c.txt".toStr ≠ dot ∧ q e Gen.PATH_QUOTER "c.txt".toStr ≠ dotdot ∧
      46 ∈ q e Gen.PATH_QUOTER "c.txt".toStr) :=
  C13_child_name_dotted_old_path_instances

/-! ## Sentence 3 — "joinpath(a, b) … and u / 'a/b' are equal" (GAPS 5) -/

/-- GAPS 5, the GENERAL LAW: `u.joinpath(a, b)` IS `u / pjoin(a, b)` — as VALUES, errors included (an `a` starting with
    '/' raises ValueError on both sides) — where `pjoin(a, b)` is `b` for `a == ""`, `a + b` for `a` ending in '/',
    `a + "/" + b` otherwise.  Cites `C13_joinpath_two_eq_truediv_gen`. -/
theorem C13_headline_joinpath_two_eq_truediv (e : Env) (u : Url) (a b : Str)
    (ha : PyStr a) (hb : PyStr b)                        -- Python strings
    -- the LAST character of `a` is not a lone surrogate (the quoter drops those:
    -- `C13_headline_joinpath_two_eq_truediv_fails_for_surrogate`)
    (hlast : ∀ c, a.getLast? = some c → isSurrogate c = false)
    -- `b` does not start with '/': joinpath raises ValueError for such an argument, `/` on the joined text would not
    (hb0 : b.head? ≠ some 47) :
    makeChild e u [a, b] false = makeChild e u [C13_pjoin a b] false :=
  C13_joinpath_two_eq_truediv_gen e u a b ha hb hlast hb0

/-- "joinpath(a, b) … and u / 'a/b' are equal", the clause itself, as VALUES (errors included; strengthens
    `C13_headline_truediv_slash`, which compares successful results): for `a` non-empty, not ending in '/'.
    Cites `C13_joinpath_plain`. -/
theorem C13_headline_joinpath_eq_truediv_slash (e : Env) (u : Url) (a b : Str)
    (ha : PyStr a) (hb : PyStr b)                        -- Python strings
    (hane : a ≠ [])                                      -- `joinpath("", b)` is `u / b`: next theorem
    (hsl : a.getLast? ≠ some 47)                         -- `a` ending in '/': `joinpath(a, b)` is `u / (a + b)`, below
    (hlast : ∀ c, a.getLast? = some c → isSurrogate c = false)   -- last character of `a` no lone surrogate
    (hb0 : b.head? ≠ some 47) :                          -- `b` does not start with '/' (ValueError on one side only)
    makeChild e u [a, b] false = makeChild e u [a ++ 47 :: b] false :=
  C13_joinpath_plain e u a b ha hb hane hsl hlast hb0

/-- the other two branches of the law: an EMPTY first argument contributes nothing (`u.joinpath("", b)` is `u / b`), and
    for `a` ending in '/' `u.joinpath(a, b)` is `u / (a + b)` — the ONE trailing empty segment of a non-last argument
    is dropped, which is what concatenation does.  Cites `C13_joinpath_empty_first`, `C13_joinpath_slash_terminated`. -/
theorem C13_headline_joinpath_empty_or_slash_terminated (e : Env) (u : Url) (a b : Str)
    (ha : PyStr a) (hb : PyStr b)                        -- Python strings
    (hb0 : b.head? ≠ some 47) :                          -- `b` does not start with '/'
    makeChild e u [[], b] false = makeChild e u [b] false ∧
    (a.getLast? = some 47 → makeChild e u [a, b] false = makeChild e u [a ++ b] false) :=
  ⟨C13_joinpath_empty_first e u b hb hb0, fun hsl => C13_joinpath_slash_terminated e u a b ha hb hsl hb0⟩

/-- the known counterexample `u / "x//b"` ≠ `joinpath("x/", "b")` (`C13_headline_truediv_slash_fails_for_double_slash`)
    EXPLAINED: `u / (a + "//" + b)` is `u.joinpath(a + "//", b)` — not `u.joinpath(a + "/", b)`, which is
    `u / (a + "/" + b)`: exactly ONE trailing empty segment of a non-last argument is dropped.
    Cites `C13_truediv_double_slash_explained`. -/
theorem C13_headline_truediv_double_slash_explained (e : Env) (u : Url) (a b : Str)
    (ha : PyStr a) (hb : PyStr b)                        -- Python strings
    (hb0 : b.head? ≠ some 47) :                          -- `b` does not start with '/'
    makeChild e u [a ++ 47 :: 47 :: b] false = makeChild e u [a ++ [47, 47], b] false ∧
    makeChild e u [a ++ 47 :: b] false = makeChild e u [a ++ [47], b] false :=
  C13_truediv_double_slash_explained e u a b ha hb hb0

/-- the surrogate guard `hlast` is NEEDED: a lone surrogate at the END of `a` is dropped by the quoter, so
    `URL("http://h/k").joinpath("\ud800", "x")` is `http://h/k/x`, while `URL("http://h/k") / "\ud800/x"` is
    `http://h/k//x`.  Cites `C13_joinpath_two_eq_truediv_fails_for_surrogate`. -/
theorem C13_headline_joinpath_two_eq_truediv_fails_for_surrogate (e : Env) :
    let u := fromParts "http".toStr "h".toStr "/k".toStr [] []
    let a : Str := [0xD800]
    let b : Str := "x".toStr
    PyStr a ∧ PyStr b ∧ b.head? ≠ some 47 ∧ C13_pjoin a b = [0xD800, 47, 120] ∧
    makeChild e u [a, b] false = .ok (fromParts "http".toStr "h".toStr "/k/x".toStr [] []) ∧
    makeChild e u [C13_pjoin a b] false = .ok (fromParts "http".toStr "h".toStr "/k//x".toStr [] []) :=
  C13_joinpath_two_eq_truediv_fails_for_surrogate e

/-! ## Sentence 3 — "joinpath(a, b) [and] joinpath(a).joinpath(b) … are equal" (GAPS 5) -/

/-- GAPS 5: a directly checkable guard, WEAKER than "no '..' segment" (`C13_headline_joinpath_assoc`; next theorem) and
    sufficient: after the root's empty segment no ".." of the first step's segment list meets an empty stack.
    Cites `C13_joinpath_assoc_noclimb`. -/
theorem C13_headline_joinpath_assoc_noclimb (e : Env) (u : Url) (a b : Str) (v1 v2 w : Url)
    -- under an authority, when `quote(a)` has a '.' (otherwise nothing is normalised): "no climb"
    (hc : u.netloc ≠ [] → 46 ∈ q e Gen.PATH_QUOTER a → DotMore.climbs 0 (childSegments e u a).tail = false) :
    makeChild e u [a, b] false = .ok w → makeChild e u [a] false = .ok v1 →
    makeChild e v1 [b] false = .ok v2 → w = v2 :=
  C13_joinpath_assoc_noclimb e u a b v1 v2 w hc

/-- "no '..' segment in the old path or in `quote(a)`" (the guard of `C13_headline_joinpath_assoc`) implies "no climb",
    and "no climb" is strictly weaker: `URL("http://h/k") / "x/../y"` has a ".." segment but does not climb.
    Cites `C13_noclimb_of_no_dotdot`, `C13_noclimb_weaker_than_no_dotdot`. -/
theorem C13_headline_noclimb_vs_no_dotdot (e : Env) :
    (∀ (u : Url) (a : Str),
      (u.netloc ≠ [] → dotdot ∉ splitOn 47 u.path ∧ dotdot ∉ splitOn 47 (q e Gen.PATH_QUOTER a)) →
      u.netloc ≠ [] → 46 ∈ q e Gen.PATH_QUOTER a → DotMore.climbs 0 (childSegments e u a).tail = false) ∧
    (let u := fromParts "http".toStr "h".toStr "/k".toStr [] []
     let a := "x/../y".toStr
     u.netloc ≠ [] ∧ 46 ∈ q e Gen.PATH_QUOTER a ∧ dotdot ∈ splitOn 47 (q e Gen.PATH_QUOTER a) ∧
     childSegments e u a = [[], "k".toStr, "x".toStr, "..".toStr, "y".toStr] ∧
     DotMore.climbs 0 (childSegments e u a).tail = false) :=
  ⟨fun u a hdd => C13_noclimb_of_no_dotdot e u a hdd, C13_noclimb_weaker_than_no_dotdot e⟩

/-- the two UNCONDITIONAL cases: without an authority the two forms always agree (nothing is normalised), and with an
    authority they agree whenever `quote(a)` has no '.' — whatever `b` is.
    Cites `C13_joinpath_assoc_no_authority`, `C13_joinpath_assoc_first_without_dot`. -/
theorem C13_headline_joinpath_assoc_unconditional (e : Env) (u : Url) (a b : Str) (v1 v2 w : Url)
    (h : u.netloc = [] ∨ 46 ∉ q e Gen.PATH_QUOTER a) :   -- no authority, or no '.' in the quoted FIRST argument
    makeChild e u [a, b] false = .ok w → makeChild e u [a] false = .ok v1 →
    makeChild e v1 [b] false = .ok v2 → w = v2 :=
  h.elim (fun hn => C13_joinpath_assoc_no_authority e u a b v1 v2 w hn)
    (fun hd => C13_joinpath_assoc_first_without_dot e u a b v1 v2 w hd)

/-- GAPS 5, THE IFF ("the guard is needed … exact two-argument guard `hroot`"): for a URL with an authority and a first
    argument whose quoted text has a '.' (in every other case the two forms always agree, previous theorem), with
    `v1 = u / a`: `u.joinpath(a, b)` and `(u / a) / b` are the same VALUE (the ValueError for a `b` starting with '/'
    included) FOR EVERY `b` if and only if `hroot` — normalising the first step leaves the root's empty segment at
    the bottom, followed by at least one more segment.  Cites `C13_joinpath_assoc_iff`. -/
theorem C13_headline_joinpath_assoc_iff (e : Env) (u : Url) (a : Str) (v1 : Url)
    (hn : u.netloc ≠ [])                                 -- under an authority
    (hdot : 46 ∈ q e Gen.PATH_QUOTER a)                  -- the first step normalises
    (h1 : makeChild e u [a] false = .ok v1) :            -- the first step succeeds, `v1 = u / a`
    (∀ b, makeChild e u [a, b] false = makeChild e v1 [b] false) ↔
      ∃ K', K' ≠ [] ∧ normalizePathSegments (childSegments e u a) = [] :: K' :=
  C13_joinpath_assoc_iff e u a v1 hn hdot h1

/-- the same exactness in the shape of `C13_headline_joinpath_assoc` (successful results; second arguments restricted to
    Python strings without lone surrogates — the separating arguments are such).  Cites `C13_joinpath_assoc_iff_hroot`. -/
theorem C13_headline_joinpath_assoc_iff_hroot (e : Env) (u : Url) (a : Str)
    (hn : u.netloc ≠ [])                                 -- under an authority
    (hdot : 46 ∈ q e Gen.PATH_QUOTER a)                  -- the first step normalises
    (ha0 : a.head? ≠ some 47) :                          -- `a` does not start with '/' (else every call raises)
    (∀ b v1 v2 w, PyStr b → NoSurrogate b → makeChild e u [a, b] false = .ok w →
        makeChild e u [a] false = .ok v1 → makeChild e v1 [b] false = .ok v2 → w = v2) ↔
    ∃ K', K' ≠ [] ∧ normalizePathSegments (childSegments e u a) = [] :: K' :=
  C13_joinpath_assoc_iff_hroot e u a hn hdot ha0

/-- NECESSITY of `hroot`, with the separating argument: when `hroot` fails, `b = "./" + "../" * n + "/x"` (`n` = number
    of segments the first step leaves, a trailing empty one not counted) separates the two forms — the one-call form
    has path "/x", the two-step form "//x".  Cites `C13_joinpath_assoc_hroot_necessary`. -/
theorem C13_headline_joinpath_assoc_fails_without_hroot (e : Env) (u : Url) (a : Str) (v1 : Url)
    (hn : u.netloc ≠ [])                                 -- under an authority
    (ha0 : a.head? ≠ some 47)                            -- `a` does not start with '/'
    (hdot : 46 ∈ q e Gen.PATH_QUOTER a)                  -- the first step normalises
    (hnot : ¬ ∃ K', K' ≠ [] ∧ normalizePathSegments (childSegments e u a) = [] :: K')   -- `hroot` FAILS
    (h1 : makeChild e u [a] false = .ok v1) :            -- `v1 = u / a`
    let n := (stripTrail (normalizePathSegments (childSegments e u a))).length
    (makeChild e u [a, C13_sepArg n] false).map (·.path) = .ok "/x".toStr ∧
    (makeChild e v1 [C13_sepArg n] false).map (·.path) = .ok "//x".toStr :=
  C13_joinpath_assoc_hroot_necessary e u a v1 hn ha0 hdot hnot h1

/-- the FIRST failing family in general (class F-C15-root-consumed; generalises
    `C13_headline_joinpath_assoc_fails_for`): whenever the first step consumes the root and lands on the bare authority
    (`normalize_path_segments` of its segment list is `[""]`: a = "..", "../", "x/../.." on `http://h`, "../.." on
    `http://h/k`, …), `b = ".//x"` separates the two forms — results given in full, no hypothesis on the old path.
    Cites `C13_joinpath_assoc_fails_when_root_consumed_strong`. -/
theorem C13_headline_joinpath_assoc_fails_when_root_consumed (e : Env) (u : Url) (a : Str)
    (hn : u.netloc ≠ [])                                 -- under an authority
    (hdot : 46 ∈ q e Gen.PATH_QUOTER a)                  -- the first step normalises
    (hN : normalizePathSegments (childSegments e u a) = [[]])   -- … and lands on the bare authority
    (ha0 : a.head? ≠ some 47) :                          -- `a` does not start with '/'
    let v1 := fromParts u.scheme u.netloc [] [] []
    makeChild e u [a] false = .ok v1 ∧
    makeChild e u [a, ".//x".toStr] false = .ok (fromParts u.scheme u.netloc "/x".toStr [] []) ∧
    makeChild e v1 [".//x".toStr] false = .ok (fromParts u.scheme u.netloc "//x".toStr [] []) :=
  C13_joinpath_assoc_fails_when_root_consumed_strong e u a hn hdot hN ha0

/-- the SECOND failing family in general: the first step climbs above the root and then adds segments, so that the
    normalised segment list starts with a NON-empty segment (a = "../../y" on `http://h/k` gives `["y"]`).  With `d`
    the number of segments left (a trailing empty one not counted) and `b = "../" * d + "/x"` the one-call form is
    `…/x`, the two-step form `…//x`.  Cites `C13_joinpath_assoc_fails_when_root_lost`. -/
theorem C13_headline_joinpath_assoc_fails_when_root_lost (e : Env) (u : Url) (a : Str) (k : Str) (K : List Str)
    (hn : u.netloc ≠ [])                                 -- under an authority
    (hdot : 46 ∈ q e Gen.PATH_QUOTER a)                  -- the first step normalises
    (hN : normalizePathSegments (childSegments e u a) = k :: K) (hk : k ≠ [])   -- … and loses the root's empty segment
    (ha0 : a.head? ≠ some 47) :                          -- `a` does not start with '/'
    let v1 := fromParts u.scheme u.netloc (47 :: joinC 47 (k :: K)) [] []
    let b := C13_climbArg (stripTrail (k :: K)).length
    makeChild e u [a] false = .ok v1 ∧
    makeChild e u [a, b] false = .ok (fromParts u.scheme u.netloc "/x".toStr [] []) ∧
    makeChild e v1 [b] false = .ok (fromParts u.scheme u.netloc "//x".toStr [] []) :=
  C13_joinpath_assoc_fails_when_root_lost e u a k K hn hdot hN hk ha0

/-- the computed witness of the second family: `URL("http://h/k").joinpath("../../y", "..//x")` is `http://h/x`,
    `(URL("http://h/k") / "../../y") / "..//x"` is `http://h//x`; there `hroot` fails (the normalised segment list is
    `["y"]`) and the first step climbs.  Cites `C13_joinpath_assoc_root_lost_counterexample`. -/
theorem C13_headline_joinpath_assoc_fails_for_root_lost (e : Env) :
    let u := fromParts "http".toStr "h".toStr "/k".toStr [] []
    let v1 := fromParts "http".toStr "h".toStr "/y".toStr [] []
    makeChild e u ["../../y".toStr, "..//x".toStr] false = .ok (fromParts "http".toStr "h".toStr "/x".toStr [] []) ∧
    makeChild e u ["../../y".toStr] false = .ok v1 ∧
    makeChild e v1 ["..//x".toStr] false = .ok (fromParts "http".toStr "h".toStr "//x".toStr [] []) ∧
    normalizePathSegments (childSegments e u "../../y".toStr) = ["y".toStr] ∧
    (¬ ∃ K', K' ≠ [] ∧ normalizePathSegments (childSegments e u "../../y".toStr) = [] :: K') ∧
    DotMore.climbs 0 (childSegments e u "../../y".toStr).tail = true ∧
    C13_climbArg 1 = "..//x".toStr :=
  C13_joinpath_assoc_root_lost_counterexample e

/-! ## non-vacuity -/
section checks
private def e3 : Env := { b := .py, o := Oracles.empty }
private def uH3 : Url := fromParts "http".toStr "h".toStr [] [] []
private def uK3 : Url := fromParts "http".toStr "h".toStr "/k".toStr [] []
private def uD3 : Url := fromParts "http".toStr "h".toStr "/a/../b".toStr [] []

/-- `C13_headline_joinpath_two_eq_truediv` / `…_eq_truediv_slash`: the hypotheses hold for a = "x y", b = "b.c", and
    both sides are the same successful value, through the headline theorem -/
example : makeChild e3 uK3 ["x y".toStr, "b.c".toStr] false = makeChild e3 uK3 ["x y/b.c".toStr] false ∧
    makeChild e3 uK3 ["x y/b.c".toStr] false = .ok (fromParts "http".toStr "h".toStr "/k/x%20y/b.c".toStr [] []) :=
  ⟨C13_headline_joinpath_eq_truediv_slash e3 uK3 "x y".toStr "b.c".toStr (by decide) (by decide) (by decide)
      (by decide) (by decide) (by decide), by simp only [uK3]; str_lits; decide +kernel⟩

/-- the hypothesis `hb0` of `C13_headline_joinpath_two_eq_truediv` is needed (computed, no cited theorem): for a `b`
    starting with '/', `URL("http://h/k").joinpath("x", "/b")` raises ValueError while `URL("http://h/k") / "x//b"`
    (= `u / pjoin("x", "/b")`) is `http://h/k/x//b` -/
example : C13_pjoin "x".toStr "/b".toStr = "x//b".toStr ∧
    makeChild e3 uK3 ["x".toStr, "/b".toStr] false = .error .valueError ∧
    makeChild e3 uK3 ["x//b".toStr] false = .ok (fromParts "http".toStr "h".toStr "/k/x//b".toStr [] []) := by
  simp only [uK3]; str_lits; decide +kernel

/-- `C13_headline_child_name_any_old_path` on an old path WITH dot segments: hypotheses hold, the call succeeds, and the
    old parts differ from the new parent parts -/
example : PyStr "c.txt".toStr ∧ NoSurrogate "c.txt".toStr ∧ 47 ∉ "c.txt".toStr ∧
    rawParts uD3 = ["/".toStr, "a".toStr, "..".toStr, "b".toStr] ∧
    ((makeChild e3 uD3 ["c.txt".toStr] false).map rawParts).toOption = some ["/".toStr, "b".toStr, "c.txt".toStr] := by
  simp only [uD3]; str_lits; decide +kernel

/-- `C13_headline_joinpath_assoc_iff`: the guard HOLDS for `http://h/k`, a = "x/../y" (a ".." that stays below the
    root), and FAILS for `http://h`, a = ".." (n = 0, b = ".//x") -/
example : (∃ K', K' ≠ [] ∧ normalizePathSegments (childSegments e3 uK3 "x/../y".toStr) = [] :: K') ∧
    46 ∈ q e3 Gen.PATH_QUOTER "x/../y".toStr ∧
    normalizePathSegments (childSegments e3 uH3 "..".toStr) = [[]] ∧ C13_sepArg 0 = ".//x".toStr :=
  ⟨⟨["k".toStr, "y".toStr], by decide, by decide +kernel⟩, by decide +kernel, by decide +kernel, by decide⟩
end checks

end Yarl
