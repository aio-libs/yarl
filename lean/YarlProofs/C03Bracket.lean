/-
  C03Bracket.lean — property C03 for bracketed hosts that are no IPv6 literal ("IPvFuture / bracketed non-IPv6 text":
  C03Headline.lean GAPS 2 refers to this file; the C04 and C09 counterparts are C04Bracket.lean, C09Bracket.lean).
  In the order of the file: `NetlocCanonB` and the fixed point under it; strings around such a host, with and
  without a default port; the constructor, `build(authority=…)` and the 19 operations on such input (`AuthInputB`);
  which conditions of `BracketText` are needed; examples.

  The constructor (and `build(authority=)`) keeps the brackets of a bracketed host that is NOT an
  IPv6 address (fix c17f18a): "[v1.a:b]" (IPvFuture), "[g::1]", "[a:b]", "[1.2.3.4%a:b]".  `HostFix` / `HostTextOK` / `AuthInput`
  do not cover such hosts.  Vocabulary (Lemmas/HostW.lean, Lemmas/BrHost.lean):

  `bracketCheck t`    — the bracket check of `split_url` on the text between '[' and ']': a text starting with a
                        lower-case 'v' must match `v<hex>+.<char>+`, any other text must contain ':'.
  `BracketTextIn t`   — INPUT side (any letter case): visible ASCII, none of `/ ? # @ [ ]` (`textChar`; ':' and '%'
                        allowed), `bracketCheck t`, and the text before an optional `%zone` is no IPv6 literal.
  `BracketText t`     — STORED side: `BracketTextIn t` and no upper-case letter.
  `HostFixB o t`      — abstract form: `HostOK t`, authority characters, `bracketCheck t`, and
                        `_encode_host(t) = t` (no brackets added: `encode_url` puts them back).
  `authTextB user pw t port` — the text `[user[:password]@][t][:port]`, host ALWAYS bracketed.
  `strAuthB scheme user pw t port` — the authority `str` writes for it (see C03_bracket_default_port).
  `NetlocCanonB e u`  — `NetlocCanon e u`, or the stored authority is an `authTextB` with `UserInfoOK`, `HostFixB`,
                        port ≤ 65535 and a consistent cache.
-/
import YarlModel
import YarlProofs.Lemmas.BrHost
import YarlProofs.C04General
import YarlProofs.C09
namespace Yarl
open ReachFix FixLemmas NetShape NetlocLemmas HostLemmas MiscLemmas BrHost

/-! ## the wrapper `NetlocCanonB` and the general fixed-point theorem -/

/-- "syntactically valid host", STORED side, extended: the stored authority is one of `NetlocCanon` (empty, or
    `authText` around a `HostFix` host), or `[user[:password]@][t][:port]` around a bracketed non-IPv6 text `t`
    (`HostFixB`; `BracketText t` suffices: `C03_bracket_hostFixB`) -/
inductive NetlocCanonB (e : Env) (u : Url) : Prop
  | plain : NetlocCanon e u → NetlocCanonB e u
  | brk (user pw : Option Str) (t : Str) (port : Option Nat) :
      u.netloc = authTextB user pw t port → UserInfoOK e.b user pw → HostFixB e.o t →
      (∀ p, port = some p → p ≤ 65535) →
      (u.pre = none ∨ u.pre = some (preOf user pw t port)) → NetlocCanonB e u

/-- the syntactic family is an instance of `HostFixB`, for every oracle (the oracles are never consulted: the
    text is ASCII) -/
theorem C03_bracket_hostFixB (o : Oracles) {t : Str} (h : BracketText t) : HostFixB o t := hostFixB_of_text o h

section
variable {e : Env} {u : Url} {user pw : Option Str} {W h t : Str} {port : Option Nat}

/-- the `brk` data are a stored authority -/
theorem stored_brk (hn : u.netloc = authTextB user pw t port) (hu : UserInfoOK e.b user pw) (hh : HostFixB e.o t)
    (hp : ∀ p, port = some p → p ≤ 65535) (hpre : u.pre = none ∨ u.pre = some (preOf user pw t port)) :
    Stored e u user pw ([91] ++ t ++ [93]) t port :=
  ⟨hn, hu, .brk hh, hp, hpre⟩

theorem Stored.canonB (s : Stored e u user pw W h port) : NetlocCanonB e u := by
  obtain ⟨h1, h2, h3, h4, h5⟩ := s
  cases h3 with
  | fix hh => exact .plain (.auth user pw h port h1 h2 hh h4 h5)
  | brk hh => exact .brk user pw h port h1 h2 hh h4 h5

/-- `NetlocCanonB`, read: no authority, or a stored authority -/
theorem netlocCanonB_iff : NetlocCanonB e u ↔ (u.netloc = [] ∧ u.pre = none) ∨
    ∃ user pw W h port, Stored e u user pw W h port := by
  constructor
  · intro hn
    cases hn with
    | plain hn =>
      rcases netlocCanon_iff.1 hn with h | ⟨user, pw, h, port, _, s⟩
      · exact .inl h
      · exact .inr ⟨user, pw, _, h, port, s⟩
    | brk user pw t port h1 h2 h3 h4 h5 => exact .inr ⟨user, pw, _, t, port, stored_brk h1 h2 h3 h4 h5⟩
  · intro hn
    rcases hn with ⟨h1, h2⟩ | ⟨user, pw, W, h, port, s⟩
    · exact .plain (.empty h1 h2)
    · exact s.canonB

end

/-- the core of the `brk` case, with the re-parsed URL written out: it has the authority `str` wrote
    (`strAuthB`) and the cache `raw_host = t`, `explicit_port` = the port `str` wrote -/
theorem C03_bracket_fixed_point_of_canon (e : Env) (u : Url) (hc : CanonUrl e.b u) (hs : SchemeOK' u.scheme)
    (user pw : Option Str) (t : Str) (port : Option Nat)
    (hn : u.netloc = authTextB user pw t port)    -- the stored authority is [user[:pw]@][t][:port]
    (hu : UserInfoOK e.b user pw)                 -- user non-empty, user / password REQUOTER-canonical
    (hh : HostFixB e.o t)                         -- bracketed non-IPv6 text (`BracketText t` suffices)
    (hp : ∀ p, port = some p → p ≤ 65535)         -- port in range
    (hpre : u.pre = none ∨ u.pre = some (preOf user pw t port)) : -- cache empty or consistent
    let s := unsplitResult u.scheme (strAuthB u.scheme user pw t port) (C07_strPath u) u.query u.fragment
    let u' := Url.mk u.scheme (strAuthB u.scheme user pw t port) (C07_strPath u) u.query u.fragment
      (some (preOf user pw t (strPort u.scheme port)))
    str e u = .ok s ∧ encodeUrl e s = .ok u' ∧ str e u' = .ok s ∧ CanonUrl e.b u' ∧ NetlocCanonB e u' ∧
    rawHost e u = .ok (some t) ∧ rawHost e u' = .ok (some t) ∧
    explicitPort e u = .ok port ∧ explicitPort e u' = .ok (strPort u.scheme port) ∧ Yarl.port e u' = Yarl.port e u ∧
    rawUser e u' = rawUser e u ∧ rawPassword e u' = rawPassword e u ∧
    hostSubcomponent e u' = hostSubcomponent e u ∧ hostPortSubcomponent e u' = hostPortSubcomponent e u := by
  intro s u'
  have st := stored_brk hn hu hh hp hpre
  obtain ⟨f1, f2, f3, f4, ⟨W', _, st'⟩, _, _, f8⟩ := st.fixed hc hs
  obtain ⟨a1, a2, a3, a4, a5, a6, _⟩ := accessors_authB e u user pw t port st.net
  obtain ⟨c1, c2, c3, c4, c5, c6, _⟩ := accessors_authB e u' user pw t (strPort u.scheme port) rfl
  refine ⟨f1, f2, f3, f4, st'.canonB, a1, c1, a2, c2, f8, c3.trans a3.symm, c4.trans a4.symm, c5.trans a5.symm, ?_⟩
  rw [c6, a6]
  show Except.ok (some (hostPortSubB u.scheme t (strPort u.scheme port))) = _
  unfold hostPortSubB
  rw [strPort_idem]

/-- `C03_fixed_point_of_canon` / `C03_fixed_point_eq` with `NetlocCanonB` in place of `NetlocCanon`
    — every statement of C03Headline.lean that takes `NetlocCanon e u` as its "syntactically valid host" clause
    holds verbatim for the bracketed non-IPv6 hosts as well.  `URL(str(u)) == u` again holds exactly when no
    explicit default port is stored. -/
theorem C03_fixed_point_of_canonB (e : Env) (u : Url) (hc : CanonUrl e.b u) (hnet : NetlocCanonB e u)
    (hs : SchemeOK' u.scheme) (hguards : C03Guards u) :
    ∃ s u', str e u = .ok s ∧ encodeUrl e s = .ok u' ∧ str e u' = .ok s ∧ u'.scheme = u.scheme ∧
      u'.path = C07_strPath u ∧ u'.query = u.query ∧ u'.fragment = u.fragment ∧
      (u'.netloc = u.netloc ↔ NoDefaultPort e u) ∧ (eqKey u' = eqKey u ↔ NoDefaultPort e u) ∧
      (Url.beq u' u = true ↔ NoDefaultPort e u) ∧
      port e u' = port e u ∧ rawHost e u' = rawHost e u ∧ rawUser e u' = rawUser e u ∧
      rawPassword e u' = rawPassword e u ∧ CanonUrl e.b u' ∧ NetlocCanonB e u' :=
  fixed_point_gen (NetlocCanonB e) hc hs hguards hnet <| (netlocCanonB_iff.1 hnet).imp_right
    fun ⟨user, pw, W, h, port, st⟩ => ⟨user, pw, W, h, port, st, fun _ _ _ st' => st'.canonB⟩

/-! ## strings `scheme://[user[:password]@][t][:port]path?query#fragment` -/

namespace BrHost

/-- the constructor on the text with these five components: the authority is stored WITH the brackets, the
    cache is `raw_host = t`, port, user, password (any port ≤ 65535, default or not) -/
theorem encode_canonTextB (e : Env) (scheme : Str) (user pw : Option Str) (t : Str) (port : Option Nat)
    (path query fragment : Str) (hs : SchemeOK' scheme) (hu : UserInfoOK e.b user pw) (hh : HostFixB e.o t)
    (hp : ∀ p, port = some p → p ≤ 65535) (hc : CompOK e.b path query fragment) :
    encodeUrl e (canonText scheme (authTextB user pw t port) path query fragment) =
      .ok (Url.mk scheme (authTextB user pw t port) path query fragment (some (preOf user pw t port))) := by
  have hne := authTextB_ne_nil user pw t port
  have hr := rootedOrEmpty_of_rooted hc.rooted
  have hok := partsOK_build e.b scheme (authTextB user pw t port) path query fragment hs
    (authTextB_chars hu hh) (checkBrackets_authTextB _ hu hh) hc.pathC hc.queryC hc.fragmentC
    (fun _ => hr) (fun _ _ => hr) (fun _ h2 => absurd h2 hne)
  exact encode_unsplit e scheme _ path query fragment _ hok (netBlock_authTextB e scheme hu hh hp)
    hc.pathC hc.queryC hc.fragmentC (fun _ => noDotSegments_of_compOK hc)

theorem canonUrl_compOK {b : Backend} {path query fragment : Str} (hc : CompOK b path query fragment)
    (scheme netloc : Str) (pre : Option NetPre) : CanonUrl b (Url.mk scheme netloc path query fragment pre) :=
  ⟨hc.pathC, hc.queryC, hc.fragmentC, fun _ => noDotSegments_of_compOK hc,
    fun _ => rootedOrEmpty_of_rooted hc.rooted⟩

end BrHost

/-- the text: `canonText` with a non-empty scheme is `scheme://authority path ?query #fragment`, without a scheme
    the network-path reference `//authority path…` -/
theorem C03_bracket_text (scheme : Str) (user pw : Option Str) (t : Str) (port : Option Nat)
    (path query fragment : Str) (hr : Rooted path) :
    (scheme ≠ [] → canonText scheme (authTextB user pw t port) path query fragment =
      composeUrl scheme (authTextB user pw t port) path query fragment) ∧
    (canonText [] (authTextB user pw t port) path query fragment =
      [47, 47] ++ authTextB user pw t port ++ path ++ qPart query ++ fPart fragment) :=
  ⟨fun hs => canonText_compose scheme _ path query fragment hs (authTextB_ne_nil _ _ _ _) (rootedOrEmpty_of_rooted hr),
   canonText_network_path _ path query fragment (authTextB_ne_nil _ _ _ _) (rootedOrEmpty_of_rooted hr)⟩

/-- No default port written.  For the string `s = scheme://[user[:password]@][t][:port]path[?query][#fragment]`
    (or `//[…` without a scheme) around a bracketed non-IPv6 text `t`:
    the constructor stores the authority WITH the brackets and exactly the five components; `raw_host = t`,
    `explicit_port`, `raw_user`, `raw_password` are as written; `host_subcomponent` is `[t]` when ':' ∈ t but the
    BARE `t` when not (`bracket t`; see C03_bracket_host_subcomponent_bare); `host_port_subcomponent` is
    `hostPortSubB` (trailing dots stripped, brackets only around a text with ':'); `str` prints `s`; parsing `s`
    again gives the SAME URL (record equality, cache included). -/
theorem C03_bracket_fixed_point (e : Env) (scheme : Str) (user pw : Option Str) (t : Str) (port : Option Nat)
    (path query fragment : Str)
    (hs : SchemeOK' scheme)                       -- empty, or non-empty lower-case scheme characters
    (hu : UserInfoOK e.b user pw)                 -- ANY canonical userinfo
    (hh : HostFixB e.o t)                         -- `BracketText t` suffices (C03_bracket_hostFixB)
    (hp : PortOK scheme port)                     -- ANY port ≤ 65535 that is not the scheme default
                                                  -- (default port: C03_bracket_default_port)
    (hc : CompOK e.b path query fragment) :       -- ANY canonical path / query / fragment
    ∃ u, encodeUrl e (canonText scheme (authTextB user pw t port) path query fragment) = .ok u ∧
      u.scheme = scheme ∧ u.netloc = authTextB user pw t port ∧ u.path = path ∧ u.query = query ∧
      u.fragment = fragment ∧
      rawHost e u = .ok (some t) ∧ explicitPort e u = .ok port ∧ rawUser e u = .ok user ∧
      rawPassword e u = .ok pw ∧ hostSubcomponent e u = .ok (some (bracket t)) ∧
      hostPortSubcomponent e u = .ok (some (hostPortSubB scheme t port)) ∧
      str e u = .ok (canonText scheme (authTextB user pw t port) path query fragment) ∧
      (str e u >>= encodeUrl e) = .ok u := by
  have henc := encode_canonTextB e scheme user pw t port path query fragment hs hu hh hp.range hc
  refine ⟨_, henc, rfl, rfl, rfl, rfl, rfl, ?_⟩
  obtain ⟨a1, a2, a3, a4, a5, a6, _⟩ := accessors_authB e
    (Url.mk scheme (authTextB user pw t port) path query fragment (some (preOf user pw t port))) user pw t port rfl
  have hstr := str_authB e (Url.mk scheme (authTextB user pw t port) path query fragment (some (preOf user pw t port)))
    user pw t port rfl rfl
  rw [strPath_eq (fun _ => hc.nonempty)] at hstr
  simp only [strAuthB_other user pw t hp.notDefault] at hstr
  refine ⟨a1, a2, a3, a4, a5, a6, hstr, ?_⟩
  rw [hstr]
  exact henc

/-- "they re-add brackets only when ':' ∈ t": for `[v1.a]` (no colon) `host_subcomponent` and
    `host_port_subcomponent` come back BARE — "v1.a", "v1.a:8080" —, for `[v1.a:b]` bracketed -/
theorem C03_bracket_host_subcomponent_bare (scheme t : Str) (port : Option Nat) :
    (58 ∉ t → bracket t = t ∧ (t.getLast? ≠ some 46 → hostPortSubB scheme t port = hostPortStr t (strPort scheme port))) ∧
    (58 ∈ t → bracket t = [91] ++ t ++ [93] ∧
      (t.getLast? ≠ some 46 → hostPortSubB scheme t port = hostPortStr ([91] ++ t ++ [93]) (strPort scheme port))) := by
  constructor
  · intro h
    refine ⟨bracket_of_no_colon h, fun hl => ?_⟩
    unfold hostPortSubB
    rw [if_neg hl, bracket_of_no_colon h]
  · intro h
    refine ⟨bracket_of_colon h, fun hl => ?_⟩
    unfold hostPortSubB
    rw [if_neg hl, bracket_of_colon h]

/-- The default-port case.  `URL('https://[v1.a]:443/')`: the constructor still stores "[v1.a]:443", but
    `str` rebuilds the authority from `host_subcomponent` and prints `[user[:password]@]` + `bracket t` — WITHOUT
    brackets when `t` has no ':' ("https://v1.a/"), with them otherwise ("https://[v1.a:b]/").  The result IS a
    fixed point of parsing; `raw_host`, user, password and the effective `port` are preserved; the re-parsed URL
    has no explicit port, a different netloc, and is not `==` (as for every explicit default port:
    C03_headline_identical_netloc_fails_for_default_port).  Without ':' the re-parsed URL has an ordinary
    reg-name host (`NetlocCanon`, no bracket in the netloc): the IPvFuture literal silently became a reg-name. -/
theorem C03_bracket_default_port (e : Env) (scheme : Str) (user pw : Option Str) (t : Str) (p : Nat)
    (path query fragment : Str)
    (hs : SchemeOK' scheme) (hu : UserInfoOK e.b user pw) (hh : HostFixB e.o t)
    (hd : some p = defaultPort scheme)            -- the explicit port IS the scheme default
    (hc : CompOK e.b path query fragment) :
    ∃ u u', encodeUrl e (canonText scheme (authTextB user pw t (some p)) path query fragment) = .ok u ∧
      u.netloc = authTextB user pw t (some p) ∧
      str e u = .ok (canonText scheme (authText user pw t none) path query fragment) ∧
      encodeUrl e (canonText scheme (authText user pw t none) path query fragment) = .ok u' ∧
      str e u' = .ok (canonText scheme (authText user pw t none) path query fragment) ∧
      u'.scheme = scheme ∧ u'.netloc = authText user pw t none ∧ u'.path = path ∧ u'.query = query ∧
      u'.fragment = fragment ∧
      (58 ∈ t → u'.netloc = authTextB user pw t none) ∧
      (58 ∉ t → 91 ∉ u'.netloc ∧ NetlocCanon e u') ∧ NetlocCanonB e u' ∧
      rawHost e u = .ok (some t) ∧ rawHost e u' = .ok (some t) ∧
      explicitPort e u = .ok (some p) ∧ explicitPort e u' = .ok none ∧
      port e u = .ok (some p) ∧ port e u' = .ok (some p) ∧
      rawUser e u' = rawUser e u ∧ rawPassword e u' = rawPassword e u ∧
      u'.netloc ≠ u.netloc ∧ Url.beq u' u = false := by
  have hr : ∀ q, some p = some q → q ≤ 65535 := fun q hq => by cases hq; exact defaultPort_range hd
  have henc := encode_canonTextB e scheme user pw t (some p) path query fragment hs hu hh hr hc
  obtain ⟨h1, h2, h3, h4, h5, h6, h7, h8, h9, h10, h11, h12, _⟩ :=
    C03_bracket_fixed_point_of_canon e (Url.mk scheme (authTextB user pw t (some p)) path query fragment
      (some (preOf user pw t (some p)))) (canonUrl_compOK hc _ _ _) hs user pw t (some p) rfl hu hh hr (Or.inr rfl)
  simp only [strPath_eq (u := Url.mk scheme (authTextB user pw t (some p)) path query fragment
    (some (preOf user pw t (some p)))) (fun _ => hc.nonempty), strAuthB_default user pw t hd, strPort_default hd]
    at h1 h2 h3 h4 h5 h7 h9 h10 h11 h12
  have hnl : authText user pw t none ≠ authTextB user pw t (some p) := by
    intro h
    have := (strNet_eq_iff scheme user pw (some p) (HostW.brk hh)).1
      (show strAuthB scheme user pw t (some p) = authTextB user pw t (some p) from
        (strAuthB_default user pw t hd).trans h) p rfl
    exact this hd
  refine ⟨_, _, henc, rfl, h1, h2, h3, rfl, rfl, rfl, rfl, rfl, ?_, ?_, h5, h6, h7, h8, h9, rfl, ?_, h11, h12,
    hnl, ?_⟩
  · intro h58; exact (authTextB_colon user pw none h58).symm
  · intro h58
    have hf := hh.hostFix_of_no_colon h58
    exact ⟨authText_no91 none hu hf h58,
      NetlocCanon.auth user pw t none rfl hu hf (fun q hq => by cases hq) (Or.inr rfl)⟩
  · rw [h10]; rfl
  · unfold Url.beq
    rw [decide_eq_false_iff_not]
    intro h
    exact hnl (congrArg Parts.netloc h)

/-! ## the input side — the constructor on any string whose authority names a bracketed non-IPv6 host -/

/-- "syntactically valid host", INPUT side, extended: `AuthInput o n` (Lemmas/NetShape.lean), or `split_netloc`
    accepts the authority, the host part was written in brackets, and the text `T` between them is a bracketed
    non-IPv6 text IN ANY LETTER CASE whose lower-cased form still passes the bracket check (automatic unless `T`
    starts with an upper-case 'V': `C03_bracket_check_lower`; needed: `C03_bracket_upper_v_counterexample`) -/
def AuthInputB (o : Oracles) (n : Str) : Prop :=
  AuthInput o n ∨ ∃ np T, splitNetloc o n = .ok np ∧ np.host = some T ∧ 91 ∈ (rpartition 64 n).2.2 ∧
    BracketTextIn T ∧ bracketCheck (lower T) = true

theorem C03_bracket_check_lower {T : Str} (hV : T.head? ≠ some 86) (h : bracketCheck T = true) :
    bracketCheck (lower T) = true := bracketCheck_lower hV h

/-- an IPvFuture text is never an IP literal, so for it the clause `notV6` of `BracketTextIn` is automatic; the two
    families of stored texts: IPvFuture `v<hex>+.<char>+`, and text with ':' that does not start with 'v' and is no
    IPv6 literal -/
theorem C03_bracket_families :
    (∀ r : Str, parseIP (partition 37 (118 :: r)).1 = none) ∧
    (∀ t : Str, (∀ c ∈ t, textChar c = true) → (∀ c ∈ t, ¬ (65 ≤ c ∧ c ≤ 90)) → ipvFutureOk t = true →
      BracketText t) ∧
    (∀ t : Str, (∀ c ∈ t, textChar c = true) → (∀ c ∈ t, ¬ (65 ≤ c ∧ c ≤ 90)) → 58 ∈ t → t.head? ≠ some 118 →
      (∀ h8, parseIP (partition 37 t).1 ≠ some (.v6 h8)) → BracketText t) :=
  ⟨notIP_of_v, fun _ h1 h2 h3 => bracketText_ipvFuture h1 h2 h3,
   fun _ h1 h2 h3 h4 h5 => bracketText_colon h1 h2 h3 h4 h5⟩

/-- the constructor on such input: the stored authority is `[user[:pw]@][t][:port]` with `t` the lower-cased `T`
    (or `T` itself for an IPv4 literal with a zone id containing ':', which `_encode_host` copies verbatim) -/
theorem C03_bracket_encodeUrl_shape (e : Env) (s : Str) (u : Url) (pt : Parts) (np : NetlocParts) (T : Str)
    (hs : PyStr s) (hu : encodeUrl e s = .ok u) (hpt : splitUrl e.o s = .ok pt)
    (hsp : splitNetloc e.o pt.netloc = .ok np) (hhost : np.host = some T)
    (hwrap : 91 ∈ (rpartition 64 pt.netloc).2.2) (hk : BracketTextIn T) (hlow : bracketCheck (lower T) = true) :
    ∃ user pw t, u.netloc = authTextB user pw t np.port ∧ UserInfoOK e.b user pw ∧ HostFixB e.o t ∧
      (t = lower T ∨ t = T) ∧ u.pre = some (preOf user pw t np.port) ∧ (∀ p, np.port = some p → p ≤ 65535) := by
  obtain ⟨p, netloc, pre, hp, hn0, rfl⟩ := encodeUrl_inv e s u hu
  rw [hpt] at hp
  cases hp
  have hne : pt.netloc ≠ [] := by
    intro h
    rw [h] at hwrap
    exact absurd (ParseLemmas.mem_of_mem_rpartition_snd_snd hwrap) (by simp)
  obtain ⟨user, pw, _, t, h1, h2, ⟨rfl, h3, h4⟩, h5⟩ := netBlock_shapeW e pt.scheme pt.netloc np T netloc pre hne
    (WfLemmas.splitUrl_pyStr e.o s hs pt hpt).1 hsp hhost (hostStep_brk hk hlow hwrap) hn0
  exact ⟨user, pw, t, h1, h2, h3, h4, h5, fun q hq => splitNetloc_port_range e.o pt.netloc np q hsp hq⟩

/-- the constructor on a Python string whose authority satisfies `AuthInputB` produces a URL
    with `NetlocCanonB` (extends `C03_encodeUrl_netlocCanon`) -/
theorem C03_bracket_encodeUrl_netlocCanonB (e : Env) (s : Str) (u : Url) (pt : Parts) (hs : PyStr s)
    (hu : encodeUrl e s = .ok u) (hpt : splitUrl e.o s = .ok pt) (ha : AuthInputB e.o pt.netloc) :
    NetlocCanonB e u := by
  rcases ha with ha | ⟨np, T, hsp, hhost, hwrap, hk, hlow⟩
  · exact NetlocCanonB.plain (C03_encodeUrl_netlocCanon e s u pt hs hu hpt ha)
  · obtain ⟨user, pw, t, h1, h2, h3, _, h5, h6⟩ :=
      C03_bracket_encodeUrl_shape e s u pt np T hs hu hpt hsp hhost hwrap hk hlow
    exact NetlocCanonB.brk user pw t np.port h1 h2 h3 h6 (Or.inr h5)

/-- the fixed point: `C03_constructor_fixed_point` with `AuthInputB` — hypotheses on the INPUT
    TEXT only (plus the two recorded exclusions `C03Guards`, which are vacuous under an authority) -/
theorem C03_bracket_constructor_fixed_point (e : Env) (s : Str) (u : Url) (pt : Parts) (hs : PyStr s)
    (hu : encodeUrl e s = .ok u) (hpt : splitUrl e.o s = .ok pt) (ha : AuthInputB e.o pt.netloc)
    (hg : C03Guards u) :
    ∃ t u', str e u = .ok t ∧ encodeUrl e t = .ok u' ∧ str e u' = .ok t ∧ u'.scheme = u.scheme ∧
      u'.path = C07_strPath u ∧ u'.query = u.query ∧ u'.fragment = u.fragment ∧
      (u'.netloc = u.netloc ↔ NoDefaultPort e u) ∧ (eqKey u' = eqKey u ↔ NoDefaultPort e u) ∧
      (Url.beq u' u = true ↔ NoDefaultPort e u) ∧
      port e u' = port e u ∧ rawHost e u' = rawHost e u ∧ rawUser e u' = rawUser e u ∧
      rawPassword e u' = rawPassword e u ∧ CanonUrl e.b u' ∧ NetlocCanonB e u' :=
  C03_fixed_point_of_canonB e u (C03_encodeUrl_canon e s hs u hu)
    (C03_bracket_encodeUrl_netlocCanonB e s u pt hs hu hpt ha) (C03_encodeUrl_scheme e s u hs hu) hg

/-! ## `build(authority=…)` and the 19 operations -/

/-- `build(encoded=False, authority=…)` on an authority naming a bracketed non-IPv6 host: `NetlocCanonB`, the
    lowered scheme, and no default port stored (as for every `build`) -/
theorem C03_bracket_build_netlocCanonB (e : Env) (a : BuildArgs) (u : Url) (np : NetlocParts) (T : Str)
    (henc : a.encoded = false) (hpy : PyStr a.authority)
    (hsp : splitNetloc e.o a.authority = .ok np) (hhost : np.host = some T)
    (hwrap : 91 ∈ (rpartition 64 a.authority).2.2) (hk : BracketTextIn T) (hlow : bracketCheck (lower T) = true)
    (hb : build e a = .ok u) :
    NetlocCanonB e u ∧ NoDefaultPort e u ∧ lowerAny e a.scheme = .ok u.scheme := by
  have hane : a.authority ≠ [] := by
    intro h0
    rw [h0] at hwrap
    exact absurd (ParseLemmas.mem_of_mem_rpartition_snd_snd hwrap) (by simp)
  obtain ⟨_, _, _, hsc, hnl, _, _, _, hpre⟩ := build_false_ok henc hb
  obtain ⟨user, pw, _, t, h1, h2, ⟨rfl, hh, _⟩, h4⟩ := buildNetloc_shapeW e u.scheme a np T u.netloc hane hpy hsp hhost
    (hostStep_brk hk hlow hwrap) hnl
  refine ⟨NetlocCanonB.brk user pw t _ h1 h2 hh h4 (Or.inl hpre), ?_, hsc⟩
  have hN := net_authB e u user pw t _ h1 h2 hh.ok h4 (Or.inl hpre)
  exact (noDefaultPort_iff (accessors_authB e u user pw t _ hN).2.1).2 (strPort_notDefault u.scheme np.port)

/-- … and its fixed point; here `URL(str(u)) == u` holds unconditionally (`build` never stores a default port) -/
theorem C03_bracket_build_fixed_point (e : Env) (a : BuildArgs) (u : Url) (np : NetlocParts) (T : Str)
    (henc : a.encoded = false) (hpy : BuildArgsPy a) (hapy : PyStr a.authority)
    (hsp : splitNetloc e.o a.authority = .ok np) (hhost : np.host = some T)
    (hwrap : 91 ∈ (rpartition 64 a.authority).2.2) (hk : BracketTextIn T) (hlow : bracketCheck (lower T) = true)
    (hsch : SchemeChars a.scheme) (hb : build e a = .ok u) (hg : C03Guards u) :
    ∃ t u', str e u = .ok t ∧ encodeUrl e t = .ok u' ∧ str e u' = .ok t ∧ u'.scheme = u.scheme ∧
      u'.path = C07_strPath u ∧ u'.query = u.query ∧ u'.fragment = u.fragment ∧
      u'.netloc = u.netloc ∧ eqKey u' = eqKey u ∧ Url.beq u' u = true ∧
      port e u' = port e u ∧ rawHost e u' = rawHost e u ∧ rawUser e u' = rawUser e u ∧
      rawPassword e u' = rawPassword e u ∧ CanonUrl e.b u' ∧ NetlocCanonB e u' ∧ u.scheme = lower a.scheme := by
  obtain ⟨hn, hnd, hl⟩ := C03_bracket_build_netlocCanonB e a u np T henc hapy hsp hhost hwrap hk hlow hb
  obtain ⟨hl', hok'⟩ := lowerAny_schemeChars e hsch
  have hsc' : u.scheme = lower a.scheme := by
    rw [hl'] at hl; exact (Except.ok.inj hl).symm
  obtain ⟨t, u', k1, k2, k3, k4, k5, k6, k7, k8, k9, k10, k11, k12, k13, k14, k15, k16⟩ :=
    C03_fixed_point_of_canonB e u (C03_build_canon e a u henc hpy hb) hn (by rw [hsc']; exact hok') hg
  exact ⟨t, u', k1, k2, k3, k4, k5, k6, k7, k8.2 hnd, k9.2 hnd, k10.2 hnd, k11, k12, k13, k14, k15, k16, hsc'⟩

/-- the side condition on authority-writing arguments, extended: a `join` reference may carry a bracketed
    non-IPv6 host (`with_host` is as in `UOp.NetArgs`: its argument is validated, so it is never such a host) -/
def UOp.NetArgsB (e : Env) : UOp → Prop
  | .withHost s => ∀ eh, encodeHost e.o s true = .ok eh → ∃ host, eh = bracket host ∧ HostFix e.o host
  | .joinRef ref => NetlocCanonB e ref
  | _ => True

theorem UOp.NetArgs.toB {e : Env} {op : UOp} (h : op.NetArgs e) : op.NetArgsB e := by
  cases op <;> first | exact h | exact NetlocCanonB.plain h | trivial

namespace BrHost

theorem netlocCanonB_of_keeps {e : Env} {u v : Url} (h : NetlocCanonB e u) (hk : Keeps u v) : NetlocCanonB e v := by
  cases h with
  | plain h => exact NetlocCanonB.plain (netlocCanon_of_keeps h hk)
  | brk user pw t port h1 h2 h3 h4 h5 =>
    exact NetlocCanonB.brk user pw t port (hk.1.trans h1) h2 h3 h4 (keeps_pre hk h5)

/-- the authority the modifiers write around `host_subcomponent` = `bracket t`: with a ':' in `t` it is again a
    bracketed authority; without, the brackets are gone and `t` is an ordinary reg-name host -/
theorem netlocCanonB_authText (e : Env) (s p q f : Str) (user pw : Option Str) (host : Str) (port : Option Nat)
    (hu : ∀ x, user = some x → Canon (Gen.REQUOTER.tab e.b) x) (hw : ∀ x, pw = some x → Canon (Gen.REQUOTER.tab e.b) x)
    (hh : HostFix e.o host ∨ HostFixB e.o host) (hp : ∀ x, port = some x → x ≤ 65535) :
    NetlocCanonB e (fromParts s (makeNetloc (Yarl.q e Gen.QUOTER) user pw (some (bracket host)) port false) p q f) := by
  rcases hh with hh | hh
  · exact NetlocCanonB.plain (netlocCanon_authText e s p q f user pw host port hu hw hh hp)
  · by_cases h58 : 58 ∈ host
    · rw [bracket_of_colon h58]
      obtain ⟨user', heq, hui⟩ := makeNetloc_written e user pw ([91] ++ host ++ [93]) port hu hw
      exact NetlocCanonB.brk user' pw host port heq hui hh hp (Or.inl rfl)
    · exact NetlocCanonB.plain
        (netlocCanon_authText e s p q f user pw host port hu hw (hh.hostFix_of_no_colon h58) hp)

end BrHost

/-- every operation keeps `NetlocCanonB` (extends `C03_applyOp_netlocCanon`).  Note what the authority-writing
    modifiers do to a bracketed host WITHOUT ':' ("[v1.a]"): `with_user`, `with_password`, `with_port`, `origin`
    rebuild the authority from `host_subcomponent`, so the brackets are dropped and the result has the reg-name
    host "v1.a" (still a valid stored authority, `NetlocCanon`); with a ':' inside the brackets are kept. -/
theorem C03_applyOp_netlocCanonB (e : Env) (u : Url) (hn : NetlocCanonB e u) (op : UOp) (ha : op.ArgsPy e.b)
    (hx : op.NetArgsB e) (v : Url) : applyOp e u op = .ok v → NetlocCanonB e v := by
  refine applyOp_net_inv (H := fun host => HostFix e.o host ∨ HostFixB e.o host) netlocCanonB_of_keeps
    (fun v h1 h2 => NetlocCanonB.plain (NetlocCanon.empty h1 h2)) (netlocCanonB_authText e) ?_ u hn op ha ?_ v
  · intro u hn hne
    rcases netlocCanonB_iff.1 hn with ⟨h1, _⟩ | ⟨user, pw, W, h, port, st⟩
    · exact absurd h1 hne
    · refine ⟨user, pw, h, port, st.userinfo, ?_, st.range, st.net⟩
      cases st.host with
      | fix hh => exact .inl hh
      | brk hh => exact .inr hh
  · cases op with
    | withHost s => exact fun eh heh => (hx eh heh).imp fun host hh => ⟨hh.1, Or.inl hh.2⟩
    | joinRef ref => exact hx
    | _ => trivial

/-- a sequence of operations keeps `NetlocCanonB` -/
theorem C03_applyOps_netlocCanonB (e : Env) (ops : List UOp) : ∀ (u v : Url), NetlocCanonB e u →
    (∀ op ∈ ops, op.ArgsPy e.b ∧ op.NetArgsB e) → applyOps e u ops = .ok v → NetlocCanonB e v :=
  applyOps_closed (fun u op w hu ha hw => C03_applyOp_netlocCanonB e u hu op ha.1 ha.2 w hw) ops

/-- the fixed point with input-side hypotheses only (extends `C03_headline_op_sequence_from_valid_input`): the constructor on a
    Python string whose authority satisfies `AuthInputB`, followed by ANY finite sequence of the 19 operations -/
theorem C03_bracket_op_sequence_fixed_point (e : Env) (s : Str) (pt : Parts) (ops : List UOp) (u v : Url)
    (hs : PyStr s) (hu : encodeUrl e s = .ok u) (hpt : splitUrl e.o s = .ok pt)
    (ha : AuthInputB e.o pt.netloc)
    (hops : ∀ op ∈ ops, op.ArgsCanon e.b ∧ op.NetArgsB e)
    (hv : applyOps e u ops = .ok v) (hsch : SchemeOK' v.scheme) (hg : C03Guards v) :
    ∃ t v', str e v = .ok t ∧ encodeUrl e t = .ok v' ∧ str e v' = .ok t ∧ v'.scheme = v.scheme ∧
      v'.path = C07_strPath v ∧ v'.query = v.query ∧ v'.fragment = v.fragment ∧
      (v'.netloc = v.netloc ↔ NoDefaultPort e v) ∧ (eqKey v' = eqKey v ↔ NoDefaultPort e v) ∧
      (Url.beq v' v = true ↔ NoDefaultPort e v) ∧
      port e v' = port e v ∧ rawHost e v' = rawHost e v ∧ rawUser e v' = rawUser e v ∧
      rawPassword e v' = rawPassword e v ∧ CanonUrl e.b v' ∧ NetlocCanonB e v' := by
  have hc := C03_op_sequence_canon e s ops u v hs (fun op hop => (hops op hop).1) hu hv
  have hn := C03_applyOps_netlocCanonB e ops u v (C03_bracket_encodeUrl_netlocCanonB e s u pt hs hu hpt ha)
    (fun op hop => ⟨(hops op hop).1.toPy, (hops op hop).2⟩) hv
  exact C03_fixed_point_of_canonB e v hc hn hsch hg

/-! ## which conditions of `BracketText` are needed -/

private def ePy : Env := ⟨.py, Oracles.empty⟩

/-- LOWER CASE is needed for the identity `str(URL(s)) = s`, NOT for the fixed point: URL('http://[V1.A:B]/')
    stores "[v1.a:b]" and prints "http://[v1.a:b]/", which is a fixed point (covered by `AuthInputB`:
    `C03_bracket_constructor_fixed_point`) -/
theorem C03_bracket_upper_case_lowered :
    ∃ u, encodeUrl ePy "http://[V1.A:B]/".toStr = .ok u ∧ u.netloc = "[v1.a:b]".toStr ∧
      str ePy u = .ok "http://[v1.a:b]/".toStr ∧ encodeUrl ePy "http://[v1.a:b]/".toStr = .ok u ∧
      BracketTextIn "V1.A:B".toStr ∧ ¬ BracketText "V1.A:B".toStr ∧ BracketText "v1.a:b".toStr :=
  ⟨urlOf "http".toStr "[v1.a:b]".toStr [47] [] [] (preHost "v1.a:b".toStr),
   by str_lits; decide +kernel, rfl, by str_lits; decide +kernel, by str_lits; decide +kernel,
   bracketTextInB_sound (by decide +kernel), fun h => absurd (h.lower 86 (by decide +kernel)) (by decide +kernel),
   bracketTextB_sound (by decide +kernel)⟩

/-- A further member of F-C03-bracket: the IPvFuture test of `split_url` looks for a LOWER-CASE 'v'
    only, but the host is lower-cased afterwards.  URL('http://[V:b]/') is accepted (the text has a ':'), stores
    "[v:b]", prints "http://[v:b]/" — and that string is REJECTED when read again ("IPvFuture address is
    invalid").  So `bracketCheck (lower T)` in `AuthInputB` is needed.  Python: `URL(str(URL('http://[V:b]/')))`
    raises ValueError; also '[V1:a]', '[Vx.a:b]'. -/
theorem C03_bracket_upper_v_counterexample :
    ∃ u, encodeUrl ePy "http://[V:b]/".toStr = .ok u ∧ u.netloc = "[v:b]".toStr ∧
      str ePy u = .ok "http://[v:b]/".toStr ∧ encodeUrl ePy "http://[v:b]/".toStr = .error .valueError ∧
      BracketTextIn "V:b".toStr ∧ bracketCheck (lower "V:b".toStr) = false :=
  ⟨urlOf "http".toStr "[v:b]".toStr [47] [] [] (preHost "v:b".toStr),
   by str_lits; decide +kernel, rfl, by str_lits; decide +kernel, by str_lits; decide +kernel,
   bracketTextInB_sound (by decide +kernel), by decide +kernel⟩

/-- "NOT an IPv6 literal" is what separates this family from the IPv6 one: "[0:0:0:0:0:0:0:1]" satisfies every
    other clause of `BracketText` but is stored compressed, "[::1]" (a `HostFix` host) -/
theorem C03_bracket_not_v6_needed :
    (∀ c ∈ "0:0:0:0:0:0:0:1".toStr, textChar c = true) ∧ bracketCheck "0:0:0:0:0:0:0:1".toStr = true ∧
    ¬ BracketText "0:0:0:0:0:0:0:1".toStr ∧
    (encodeUrl ePy "http://[0:0:0:0:0:0:0:1]/".toStr).map (·.netloc) = .ok "[::1]".toStr :=
  ⟨by decide +kernel, by decide +kernel,
   fun h => h.notV6 [0, 0, 0, 0, 0, 0, 0, 1] (by decide +kernel), by str_lits; decide +kernel⟩

/-- the excluded characters: '/' (likewise '?', '#') ends the authority, so the bracket never closes and the
    constructor raises; a second ']' ends the host early and the rest is dropped ("[a:]b]" is stored "[a:]");
    TAB (likewise CR, LF) is removed by `split_url` ("[a:<TAB>b]" is stored "[a:b]"); '@' and '[' inside the
    brackets are the recorded members of F-C03-bracket (`C03_headline_valid_host_fails_for_bracket_in_host`,
    `C03_headline_fails_for_malformed_brackets`).  '%' is NOT excluded: "[a:b%::1]", "[v1.a%b]" are fixed points
    (non-vacuity examples below) — the only '%'-related clause is "the text before '%' is no IPv6 literal". -/
theorem C03_bracket_chars_needed :
    encodeUrl ePy "http://[a:/b]/".toStr = .error .valueError ∧
    encodeUrl ePy "http://[a:?b]/".toStr = .error .valueError ∧
    encodeUrl ePy "http://[a:#b]/".toStr = .error .valueError ∧
    (encodeUrl ePy "http://[a:]b]/".toStr).bind (str ePy) = .ok "http://[a:]/".toStr ∧
    (encodeUrl ePy ("http://[a:".toStr ++ [9] ++ "b]/".toStr)).bind (str ePy) = .ok "http://[a:b]/".toStr := by
  str_lits; decide +kernel

/-- the bound "visible" (33 ≤ c) of `textChar` is NOT sharp: a SPACE inside the brackets is outside `BracketText`
    (the composition lemma `C07_split_unsplit` asks for visible text), yet "http://[a: b]/" is
    a fixed point in the model and in the library.  Only TAB / CR / LF (removed by `split_url`,
    `C03_bracket_chars_needed`) are needed exclusions below 33.  Non-ASCII text goes through IDNA (an oracle) and is
    outside this family altogether. -/
theorem C03_bracket_space_not_covered :
    ¬ BracketText "a: b".toStr ∧
    (encodeUrl ePy "http://[a: b]/".toStr).bind (str ePy) = .ok "http://[a: b]/".toStr :=
  ⟨fun h => absurd (h.chars 32 (by decide +kernel)) (by decide +kernel), by str_lits; decide +kernel⟩

/-- "identical scheme, user, password, host, port, path, query and fragment" (the wording of
    `C03_headline_identical_components`) for `NetlocCanonB`: raw and decoded user, password and host, the effective
    port, query and fragment are identical; the path is the path `str` wrote -/
theorem C03_bracket_identical_components (e : Env) (u : Url) (hc : CanonUrl e.b u) (hnet : NetlocCanonB e u)
    (hscheme : SchemeOK' u.scheme) (hguards : C03Guards u) :
    ∃ s u', str e u = .ok s ∧ encodeUrl e s = .ok u' ∧ str e u' = .ok s ∧ u'.scheme = u.scheme ∧
      rawUser e u' = rawUser e u ∧ user e u' = user e u ∧
      rawPassword e u' = rawPassword e u ∧ password e u' = password e u ∧
      rawHost e u' = rawHost e u ∧ host e u' = host e u ∧ port e u' = port e u ∧
      u'.path = C07_strPath u ∧ u'.query = u.query ∧ u'.fragment = u.fragment := by
  obtain ⟨s, u', h1, h2, h3, h4, h5, h6, h7, _, _, _, h11, h12, h13, h14, _⟩ :=
    C03_fixed_point_of_canonB e u hc hnet hscheme hguards
  refine ⟨s, u', h1, h2, h3, h4, h13, ?_, h14, ?_, h12, ?_, h11, h5, h6, h7⟩
  · unfold user; rw [h13]
  · unfold password; rw [h14]
  · unfold host; rw [h12]

/-- what the authority-writing modifiers do to a bracketed host: `with_port`, `with_user` (likewise
    `with_password`, and `origin()` when a userinfo is present) rebuild the authority from `host_subcomponent`.
    WITHOUT a ':' the brackets are dropped — URL('http://[v1.a]/p').with_port(81) is 'http://v1.a:81/p' — with a
    ':' they are kept.  Both results are valid stored authorities (`C03_applyOp_netlocCanonB`), `raw_host` is kept. -/
theorem C03_bracket_modifiers_drop_brackets :
    (encodeUrl ePy "http://[v1.a]/p".toStr >>= fun u => applyOp ePy u (.withPort (some 81) 0)).map (·.netloc)
      = .ok "v1.a:81".toStr ∧
    (encodeUrl ePy "http://[v1.a]/p".toStr >>= fun u => applyOp ePy u (.withUser (some "x".toStr))).map (·.netloc)
      = .ok "x@v1.a".toStr ∧
    (encodeUrl ePy "http://[v1.a:b]/p".toStr >>= fun u => applyOp ePy u (.withPort (some 81) 0)).map (·.netloc)
      = .ok "[v1.a:b]:81".toStr ∧
    (encodeUrl ePy "http://[v1.a:b]/p".toStr >>= fun u => applyOp ePy u (.withUser (some "x".toStr))).map (·.netloc)
      = .ok "x@[v1.a:b]".toStr := by
  str_lits; decide +kernel

/-! ## non-vacuity -/

example : BracketText "v1.a:b".toStr := bracketTextB_sound (by decide +kernel)      -- IPvFuture with ':'
example : BracketText "v1.a".toStr := bracketTextB_sound (by decide +kernel)        -- IPvFuture without ':'
example : BracketText "vf7.a%25b".toStr := bracketTextB_sound (by decide +kernel)   -- '%' is allowed
example : BracketText "g::1".toStr := bracketTextB_sound (by decide +kernel)        -- ':' text, not IPv6
example : BracketText "a:b".toStr := bracketTextB_sound (by decide +kernel)
example : BracketText "a:b%::1".toStr := bracketTextB_sound (by decide +kernel)     -- an IPv6 text AFTER '%' is harmless
example : BracketText "1.2.3.4%a:b".toStr := bracketTextB_sound (by decide +kernel) -- IPv4 with a ':' in the zone
example : ¬ BracketText "::1".toStr := fun h => h.notV6 [0, 0, 0, 0, 0, 0, 0, 1] (by decide +kernel)
example : ¬ BracketText "1.2.3.4".toStr := fun h => absurd h.check (by decide +kernel) -- "An IPv4 address cannot be in brackets"
example : ¬ BracketText "v1".toStr := fun h => absurd h.check (by decide +kernel)   -- malformed IPvFuture

private def uiUP : UserInfoOK ePy.b (some "u".toStr) (some "p%40w".toStr) :=
  ⟨fun s h => (by cases h; exact ⟨by decide, isCanon_sound _ _ (by decide +kernel)⟩),
   fun s h => (by cases h; exact isCanon_sound _ _ (by decide +kernel))⟩

-- C03_bracket_fixed_point: userinfo, IPvFuture host with ':', non-default port, path, query, fragment
example : ∃ u, encodeUrl ePy "http://u:p%40w@[v1.a:b]:8080/a/b?q#f".toStr = .ok u ∧
    u.netloc = "u:p%40w@[v1.a:b]:8080".toStr ∧ rawHost ePy u = .ok (some "v1.a:b".toStr) ∧
    hostSubcomponent ePy u = .ok (some "[v1.a:b]".toStr) ∧
    hostPortSubcomponent ePy u = .ok (some "[v1.a:b]:8080".toStr) ∧
    str ePy u = .ok "http://u:p%40w@[v1.a:b]:8080/a/b?q#f".toStr ∧ (str ePy u >>= encodeUrl ePy) = .ok u := by
  obtain ⟨u, h1, _, h3, _, _, _, h7, _, _, _, h11, h12, h13, h14⟩ :=
    C03_bracket_fixed_point ePy "http".toStr (some "u".toStr) (some "p%40w".toStr) "v1.a:b".toStr (some 8080)
      "/a/b".toStr "q".toStr "f".toStr (Or.inr (by decide +kernel)) uiUP
      (C03_bracket_hostFixB _ (bracketTextB_sound (by decide +kernel)))
      ⟨fun p hp => (by cases hp; decide +kernel), fun p hp => (by cases hp; decide +kernel)⟩
      (compOKB_sound (by decide +kernel))
  have hc : canonText "http".toStr (authTextB (some "u".toStr) (some "p%40w".toStr) "v1.a:b".toStr (some 8080))
      "/a/b".toStr "q".toStr "f".toStr = "http://u:p%40w@[v1.a:b]:8080/a/b?q#f".toStr := by str_lits; decide +kernel
  rw [hc] at h1 h13
  exact ⟨u, h1, by rw [h3]; decide +kernel, h7, by rw [h11]; decide +kernel, by rw [h12]; decide +kernel, h13, h14⟩

-- … an IPvFuture host WITHOUT ':' : stored with brackets, host_subcomponent / host_port_subcomponent are BARE
example : ∃ u, encodeUrl ePy "http://[v1.a]:8080/".toStr = .ok u ∧ u.netloc = "[v1.a]:8080".toStr ∧
    rawHost ePy u = .ok (some "v1.a".toStr) ∧ hostSubcomponent ePy u = .ok (some "v1.a".toStr) ∧
    hostPortSubcomponent ePy u = .ok (some "v1.a:8080".toStr) ∧ str ePy u = .ok "http://[v1.a]:8080/".toStr := by
  obtain ⟨u, h1, _, h3, _, _, _, h7, _, _, _, h11, h12, h13, _⟩ :=
    C03_bracket_fixed_point ePy "http".toStr none none "v1.a".toStr (some 8080) [47] [] [] (Or.inr (by decide +kernel))
      (userInfoOK_none _) (C03_bracket_hostFixB _ (bracketTextB_sound (by decide +kernel)))
      ⟨fun p hp => (by cases hp; decide +kernel), fun p hp => (by cases hp; decide +kernel)⟩
      (compOKB_sound (by decide +kernel))
  have hc : canonText "http".toStr (authTextB none none "v1.a".toStr (some 8080)) [47] [] [] =
      "http://[v1.a]:8080/".toStr := by decide +kernel
  rw [hc] at h1 h13
  exact ⟨u, h1, by rw [h3]; decide +kernel, h7, by rw [h11]; decide +kernel, by rw [h12]; decide +kernel, h13⟩

-- … a network-path reference (no scheme) around "[g::1]"
example : ∃ u, encodeUrl ePy "//[g::1]/p".toStr = .ok u ∧ str ePy u = .ok "//[g::1]/p".toStr := by
  obtain ⟨u, h1, _, _, _, _, _, _, _, _, _, _, _, h13, _⟩ :=
    C03_bracket_fixed_point ePy [] none none "g::1".toStr none "/p".toStr [] [] (Or.inl rfl)
      (userInfoOK_none _) (C03_bracket_hostFixB _ (bracketTextB_sound (by decide +kernel)))
      (IdGen.portOK_none _) (compOKB_sound (by decide +kernel))
  have hc : canonText [] (authTextB none none "g::1".toStr none) "/p".toStr [] [] = "//[g::1]/p".toStr := by
    decide +kernel
  rw [hc] at h1 h13
  exact ⟨u, h1, h13⟩

-- C03_bracket_default_port: URL('https://[v1.a]:443/') prints "https://v1.a/" — brackets lost, raw_host kept
example : ∃ u u', encodeUrl ePy "https://[v1.a]:443/".toStr = .ok u ∧ u.netloc = "[v1.a]:443".toStr ∧
    str ePy u = .ok "https://v1.a/".toStr ∧ encodeUrl ePy "https://v1.a/".toStr = .ok u' ∧
    str ePy u' = .ok "https://v1.a/".toStr ∧ u'.netloc = "v1.a".toStr ∧ NetlocCanon ePy u' ∧
    rawHost ePy u = .ok (some "v1.a".toStr) ∧ rawHost ePy u' = .ok (some "v1.a".toStr) ∧ Url.beq u' u = false := by
  obtain ⟨u, u', h1, h2, h3, h4, h5, _, h7, _, _, _, _, h12, _, h14, h15, _, _, _, _, _, _, _, h23⟩ :=
    C03_bracket_default_port ePy "https".toStr none none "v1.a".toStr 443 [47] [] [] (Or.inr (by decide +kernel))
      (userInfoOK_none _) (C03_bracket_hostFixB _ (bracketTextB_sound (by decide +kernel))) (by decide +kernel)
      (compOKB_sound (by decide +kernel))
  have hc1 : canonText "https".toStr (authTextB none none "v1.a".toStr (some 443)) [47] [] [] =
      "https://[v1.a]:443/".toStr := by decide +kernel
  have hc2 : canonText "https".toStr (authText none none "v1.a".toStr none) [47] [] [] = "https://v1.a/".toStr := by
    decide +kernel
  rw [hc1] at h1
  rw [hc2] at h3 h4 h5
  exact ⟨u, u', h1, by rw [h2]; decide +kernel, h3, h4, h5, by rw [h7]; decide +kernel,
    (h12 (by decide +kernel)).2, h14, h15, h23⟩

-- … and URL('https://[v1.a:b]:443/') prints "https://[v1.a:b]/" — ':' inside: brackets kept
example : ∃ u u', encodeUrl ePy "https://[v1.a:b]:443/".toStr = .ok u ∧ str ePy u = .ok "https://[v1.a:b]/".toStr ∧
    encodeUrl ePy "https://[v1.a:b]/".toStr = .ok u' ∧ u'.netloc = "[v1.a:b]".toStr ∧ Url.beq u' u = false := by
  obtain ⟨u, u', h1, _, h3, h4, _, _, h7, _, _, _, _, _, _, _, _, _, _, _, _, _, _, _, h23⟩ :=
    C03_bracket_default_port ePy "https".toStr none none "v1.a:b".toStr 443 [47] [] [] (Or.inr (by decide +kernel))
      (userInfoOK_none _) (C03_bracket_hostFixB _ (bracketTextB_sound (by decide +kernel))) (by decide +kernel)
      (compOKB_sound (by decide +kernel))
  have hc1 : canonText "https".toStr (authTextB none none "v1.a:b".toStr (some 443)) [47] [] [] =
      "https://[v1.a:b]:443/".toStr := by decide +kernel
  have hc2 : canonText "https".toStr (authText none none "v1.a:b".toStr none) [47] [] [] =
      "https://[v1.a:b]/".toStr := by decide +kernel
  rw [hc1] at h1
  rw [hc2] at h3 h4
  exact ⟨u, u', h1, h3, h4, by rw [h7]; decide +kernel, h23⟩

-- C03_bracket_constructor_fixed_point on a far-from-canonical input: upper-case scheme and host, a superfluous
-- escape in the user, a dot segment, spaces
private def sIn : Str := "HTTP://Us%65r@[V1.A:B]:8080/a/../b?x y#f g".toStr
private def ptIn : Parts := ⟨"http".toStr, "Us%65r@[V1.A:B]:8080".toStr, "/a/../b".toStr, "x y".toStr, "f g".toStr⟩
example : AuthInputB ePy.o ptIn.netloc :=
  Or.inr ⟨⟨some "Us%65r".toStr, none, some "V1.A:B".toStr, some 8080⟩, "V1.A:B".toStr, by decide +kernel, rfl,
    by decide +kernel, bracketTextInB_sound (by decide +kernel), by decide +kernel⟩
example : splitUrl ePy.o sIn = .ok ptIn := by unfold sIn ptIn; str_lits; decide +kernel
example : (encodeUrl ePy sIn).bind (str ePy) = .ok "http://User@[v1.a:b]:8080/b?x+y#f%20g".toStr := by
  unfold sIn; str_lits; decide +kernel

-- build(scheme='HTTP', authority='u@[V1.A:B]:80', path='/p') is 'http://u@[v1.a:b]/p' (scheme and host lowered, the
-- default port dropped), and the hypotheses of C03_bracket_build_fixed_point hold for it
example : (build ePy { scheme := "HTTP".toStr, authority := "u@[V1.A:B]:80".toStr, path := "/p".toStr }).bind (str ePy)
    = .ok "http://u@[v1.a:b]/p".toStr := by str_lits; decide +kernel
example : splitNetloc ePy.o "u@[V1.A:B]:80".toStr = .ok ⟨some "u".toStr, none, some "V1.A:B".toStr, some 80⟩ ∧
    91 ∈ (rpartition 64 "u@[V1.A:B]:80".toStr).2.2 ∧ BracketTextIn "V1.A:B".toStr ∧
    bracketCheck (lower "V1.A:B".toStr) = true ∧ SchemeChars "HTTP".toStr :=
  ⟨by str_lits; decide +kernel, by decide +kernel, bracketTextInB_sound (by decide +kernel), by decide +kernel,
   by decide +kernel⟩

-- C03_bracket_op_sequence_fixed_point: with_port(81), with_path("/x y"), with_user("x") after URL('http://[V1.A]/p')
example : (encodeUrl ePy "http://[v1.a]/p".toStr >>= fun u => applyOps ePy u
    [.withPort (some 81) 0, .withPath "/x y".toStr false false, .withUser (some "x".toStr)]).bind (str ePy)
    = .ok "http://x@v1.a:81/x%20y".toStr := by str_lits; decide +kernel

end Yarl
