import YarlProofs.C07Headline
import YarlProofs.C07More
/-!
  C07HeadlineMore.lean — AUDIT LAYER for property C07, continued (theorems that need C07More.lean, which imports
  C07Headline.lean).  Read C07Headline.lean first; the GAPS block there cites the theorems of this file.

  C07 | Parsing is the RFC 3986 decomposition of the input |
  "For every input string, the scheme, authority, path, query and fragment the library extracts equal the RFC 3986
  Appendix B decomposition of the string after stripping leading C0-control/space characters and removing tab, CR and
  LF, and user, password, host and port are the split of the authority at its last '@', the first ':' of the userinfo,
  and the ':' after the host or closing ']'. With encoded=True those raw components are returned verbatim, and for every
  URL the raw accessors re-compose to str(url)."

  Vocabulary added by C07More.lean (all definitions are a few lines of `takeWhile` / `dropWhile` / `reverse`):
  `Rfc.authoritySplit a : Rfc.Authority` — the INDEPENDENT reading of the second half of sentence 1:
      `hi` = the text after the last '@' of `a` (all of `a` without one), `ui` = the text before that '@';
      user     = `some (ui up to its first ':')` when `a` has an '@', else `none`;
      password = `some (ui after its first ':')` when `a` has an '@' and `ui` a ':', else `none`;
      host     = without '[' in `hi`: `hi` up to its first ':';  with one: the text between the first '[' and the next ']';
      port     = the TEXT after that ':' (without '['), resp. after the first ':' that follows the ']' (empty if none).
  `C07_portOf o t` — the port text read as a port: "" ↦ `none`; otherwise Python `int(t)` (`pyInt`), which must lie in
      0..65535, else ValueError (an oracle miss of `pyInt` is passed on).
  `orNone x` = `x or None`.
  `C07_storedHost n host1` — the host as `encode_url` writes it into the authority: `host1` (= `_encode_host(host)`),
      re-bracketed when the input host was bracketed but `host1` has no '[';  `C07_cachedRawHost h` — `h` without its
      brackets (what is cached for `raw_host`).
  `C07_strPath u` (C07Recompose.lean) — the path `str` writes: "/" for an empty stored path under an authority in front
      of a query or fragment, the stored path otherwise;  `rawPath u` = `raw_path`: "/" for EVERY empty stored path under
      an authority.
  `C07_shownNetloc e u ep ru rp hs` — the authority `str` writes: `u.netloc` (= `raw_authority`) unless `ep` is the
      default port of the scheme, then `make_netloc(ru, rp, hs, None)` (user, password, host_subcomponent, no port).
-/
namespace Yarl
open ParseLemmas

/-! ## Sentence 1b — "and user, password, host and port are the split of the authority at its last '@', the first ':' of
    the userinfo, and the ':' after the host or closing ']'." -/

/-- "user, password, host and port are the split of the authority …": `split_netloc(n)` IS the independent RFC reading
    `Rfc.authoritySplit n` (see the header) — user and host through `or None`, the password as is, the port text through
    `int()` and the range check — and it fails exactly when `C07_portOf` fails (non-empty port text that is not an integer
    in 0..65535).  One equation, no hypothesis.  This is the `C07_netloc` against `Rfc.authoritySplit` that Appendix E
    planned (C07Headline.lean stated the same split inline: C07_headline_userinfo_split, C07_headline_host_port). -/
theorem C07_headline_authority_split (o : Oracles) (n : Str) :
    splitNetloc o n =
      (C07_portOf o (Rfc.authoritySplit n).port).map (fun pt =>
        { user := (Rfc.authoritySplit n).user.bind orNone, password := (Rfc.authoritySplit n).password,
          host := orNone (Rfc.authoritySplit n).host, port := pt }) :=
  C07_netloc o n

/-- closes C07Headline GAPS 3: "the ':' after the host or closing ']'" — in an authority
    `pre ++ j1 ++ "[" ++ h ++ "]" ++ j2 ++ rest` the host is `h` and the port text is that of `rest`; the text `j2`
    BETWEEN the closing ']' and the ':' and the text `j1` between the '@' and the '[' are silently dropped (`j1` may even
    contain ':'): `split_netloc` cannot tell the authority from `pre ++ "[" ++ h ++ "]" ++ rest`.  This is the
    F-C03-bracket family ("[::1]x:80", "x[::1]" are accepted). -/
theorem C07_headline_text_around_brackets_ignored (o : Oracles) (pre j1 h j2 rest : Str)
    (hpre : pre = [] ∨ ∃ ui, pre = ui ++ [64])           -- shape: `pre` is empty or the userinfo with its '@'
    (hat : 64 ∉ j1 ++ h ++ j2 ++ rest)                    -- shape: that '@' is the LAST one
    (hj1 : 91 ∉ j1)                                       -- shape: the '[' shown is the FIRST one after the '@'
    (hh : 93 ∉ h)                                         -- shape: the ']' shown is the first one after that '['
    (hj2 : 58 ∉ j2)                                       -- shape: the ':' of `rest` is the first one after the ']'
    (hrest : rest = [] ∨ ∃ t, rest = 58 :: t) :           -- shape: `rest` is empty or ":port"
    (Rfc.authoritySplit (pre ++ j1 ++ [91] ++ h ++ [93] ++ j2 ++ rest)).host = h ∧
    (Rfc.authoritySplit (pre ++ j1 ++ [91] ++ h ++ [93] ++ j2 ++ rest)).port = rest.drop 1 ∧
    Rfc.authoritySplit (pre ++ j1 ++ [91] ++ h ++ [93] ++ j2 ++ rest) =
      Rfc.authoritySplit (pre ++ [91] ++ h ++ [93] ++ rest) ∧
    splitNetloc o (pre ++ j1 ++ [91] ++ h ++ [93] ++ j2 ++ rest) = splitNetloc o (pre ++ [91] ++ h ++ [93] ++ rest) :=
  C07_text_after_bracket_ignored o pre j1 h j2 rest hpre hat hj1 hh hj2 hrest

/-- … concretely: "[::1]x:80", "x[::1]" and "u@a:b[::1]x]y:80" parse like "[::1]:80", "[::1]" and "u@[::1]:80" -/
theorem C07_headline_text_around_brackets_ignored_instances (o : Oracles) :
    splitNetloc o "[::1]x:80".toStr = .ok { user := none, password := none, host := some "::1".toStr, port := some 80 } ∧
    splitNetloc o "x[::1]".toStr = .ok { user := none, password := none, host := some "::1".toStr, port := none } ∧
    splitNetloc o "u@a:b[::1]x]y:80".toStr =
      .ok { user := some "u".toStr, password := none, host := some "::1".toStr, port := some 80 } :=
  C07_text_after_bracket_ignored_instance o

/-! ## Sentence 1, auto-encoding constructor — "the scheme, authority, path, query and fragment the library extracts …
    and user, password, host and port are the split of the authority" for `URL(s)` (encoded=False) -/

/-- closes C07Headline GAPS 1.  The components of `URL(s)` (auto-encoding constructor) in ONE statement.  With `p` = the
    Appendix B decomposition of the cleaned input and `A` = the RFC split of its authority:
     * scheme = Appendix B scheme (lower-cased there);
     * path = PATH_REQUOTER(path), dot segments removed iff the STORED authority is non-empty and the requoted path
       contains a '.';  query = QUERY_REQUOTER(query);  fragment = FRAGMENT_REQUOTER(fragment);
     * no authority in the input: none stored, nothing cached;
     * otherwise `split_netloc` succeeded (port text empty or an integer in 0..65535 = `pt`) with exactly the
       `Rfc.authoritySplit` components, a missing host is only allowed for schemes that do not require one,
       `_encode_host(host)` succeeded with `host1`, and the cache holds raw_host = `host1` without brackets,
       explicit_port = `pt`, raw_user = REQUOTER(user) (`None` if empty before or after requoting),
       raw_password = REQUOTER(password); the stored authority is `make_netloc` of exactly these.
    (What `_encode_host` does — lower-casing, IDNA, IP literals — is property C16; what the REQUOTERs do is C02.) -/
theorem C07_headline_auto_encoding_components (e : Env) (s : Str) (u : Url) (h : encodeUrl e s = .ok u) :
    ∃ p : Parts, splitUrl e.o s = .ok p ∧ toParts5 p = Rfc.appendixB Gen.schemeChars (cleanUrl s) ∧
      u.scheme = p.scheme ∧
      u.path = (if !u.netloc.isEmpty && mem 46 (q e Gen.PATH_REQUOTER p.path)
                then normalizePath (q e Gen.PATH_REQUOTER p.path) else q e Gen.PATH_REQUOTER p.path) ∧
      u.query = q e Gen.QUERY_REQUOTER p.query ∧
      u.fragment = q e Gen.FRAGMENT_REQUOTER p.fragment ∧
      (p.netloc = [] → u.netloc = [] ∧ u.pre = none) ∧
      (p.netloc ≠ [] →
        let A := Rfc.authoritySplit p.netloc
        ∃ (pt : Option Nat) (host1 : Str), C07_portOf e.o A.port = .ok pt ∧
          splitNetloc e.o p.netloc =
            .ok { user := A.user.bind orNone, password := A.password, host := orNone A.host, port := pt } ∧
          (A.host = [] → Gen.schemeRequiresHost.contains p.scheme = false) ∧
          encodeHost e.o A.host false = .ok host1 ∧
          let ru := ((A.user.bind orNone).map (q e Gen.REQUOTER)).bind orNone
          let rp := A.password.map (q e Gen.REQUOTER)
          u.pre = some { rawHost := some (C07_cachedRawHost (C07_storedHost p.netloc host1)), explicitPort := pt,
                         rawUser := ru, rawPassword := rp } ∧
          u.netloc = makeNetloc (q e Gen.QUOTER) ru rp (some (C07_storedHost p.netloc host1)) pt false) :=
  C07_encodeUrl_components e s u h

/-! ## Sentence 2a — "With encoded=True those raw components are returned verbatim" -/

/-- closes C07Headline GAPS 2.  For `URL(s, encoded=True)`: the five stored parts are the Appendix B parts `B`, and
    `raw_user` / `raw_password` / `raw_host` / `explicit_port` are the `Rfc.authoritySplit` components `A` of the
    Appendix B authority VERBATIM, with exactly these adjustments:
     * the port text goes through `int()` and the 0..65535 check (`C07_portOf`); ALL FOUR accessors raise when that fails
       (they share `_cache_netloc`), so each accessor is `C07_portOf … |>.map (fun _ => component)`;
     * an empty user text reads as `None` (`username or None`): "http://@h" and "http://:pw@h" have `raw_user is None`;
     * `raw_host` is the host text itself — "" (not `None`) for a missing host under a non-empty authority ("http://:80",
       "http://u@"), `None` only when there is no authority; no IDNA, no lower-casing (that is the DECODED `host`, C16);
     * `raw_path` is "/" for an empty path under an authority (otherwise the path verbatim). -/
theorem C07_headline_encoded_true_accessors (e : Env) (s : Str) (u : Url) (h : preEncodedUrl e s = .ok u) :
    let B := Rfc.appendixB Gen.schemeChars (cleanUrl s)
    let A := Rfc.authoritySplit B.authority
    u.scheme = B.scheme ∧ u.netloc = B.authority ∧ u.path = B.path ∧ u.query = B.query ∧ u.fragment = B.fragment ∧
    rawPath u = (if B.path = [] ∧ B.authority ≠ [] then [47] else B.path) ∧
    explicitPort e u = C07_portOf e.o A.port ∧
    rawUser e u = (C07_portOf e.o A.port).map (fun _ => A.user.bind orNone) ∧
    rawPassword e u = (C07_portOf e.o A.port).map (fun _ => A.password) ∧
    rawHost e u = (C07_portOf e.o A.port).map (fun _ => if B.authority = [] then none else some A.host) :=
  C07_preencoded_accessors e s u h

/-- … and at URL level the junk around brackets (previous section): both constructors accept 'http://[::1]x:8080/' (the
    bracket check only looks between the brackets); the auto-encoding constructor rebuilds the authority WITHOUT the
    junk, `encoded=True` keeps it in `raw_authority` / `str` while `raw_host` ignores it.  Likewise 'http://x[::1]/'. -/
theorem C07_headline_text_around_brackets_ignored_url :
    let e : Env := ⟨.py, Oracles.empty⟩
    (∃ u, encodeUrl e "http://[::1]x:8080/".toStr = .ok u ∧ u.netloc = "[::1]:8080".toStr ∧
      rawHost e u = .ok (some "::1".toStr) ∧ explicitPort e u = .ok (some 8080) ∧
      str e u = .ok "http://[::1]:8080/".toStr) ∧
    (∃ u, preEncodedUrl e "http://[::1]x:8080/".toStr = .ok u ∧ u.netloc = "[::1]x:8080".toStr ∧
      rawHost e u = .ok (some "::1".toStr) ∧ explicitPort e u = .ok (some 8080) ∧
      str e u = .ok "http://[::1]x:8080/".toStr) ∧
    (∃ u, encodeUrl e "http://x[::1]/".toStr = .ok u ∧ u.netloc = "[::1]".toStr ∧
      rawHost e u = .ok (some "::1".toStr) ∧ str e u = .ok "http://[::1]/".toStr) :=
  C07_text_after_bracket_ignored_url

/-! ## Sentence 2b — "and for every URL the raw accessors re-compose to str(url)." -/

/-- closes C07Headline GAPS 4, first half: `raw_path` equals the path `str(url)` writes (`C07_strPath`) EXCEPT for an
    empty stored path under an authority with neither query nor fragment — there `raw_path` is "/" while `str` writes no
    path at all (KNOWN FINDING F-C07-empty-path; witness: C07_headline_recompose_fails_for_empty_path). -/
theorem C07_headline_raw_path_vs_str_path (u : Url) :
    (¬ (u.path = [] ∧ u.netloc ≠ [] ∧ u.query = [] ∧ u.fragment = []) → rawPath u = C07_strPath u) ∧
    ((u.path = [] ∧ u.netloc ≠ [] ∧ u.query = [] ∧ u.fragment = []) → rawPath u = [47] ∧ C07_strPath u = []) ∧
    (rawPath u = C07_strPath u ↔ ¬ (u.path = [] ∧ u.netloc ≠ [] ∧ u.query = [] ∧ u.fragment = [])) :=
  C07_raw_path_vs_str u

/-- … and the exceptional case is NOT visible through the accessors: URL("http://a") and URL("http://a/") agree on
    `raw_path` ("/"), on every other raw accessor (`net` = the four authority accessors), and compare equal, but their
    strings differ.  So NO function of the raw accessors alone re-composes to `str(url)` for every URL
    (F-C07-empty-path); the re-composition theorems use `C07_strPath`, which reads the stored path. -/
theorem C07_headline_recompose_fails_for_empty_path_indistinguishable :
    let e : Env := ⟨.py, Oracles.empty⟩
    ∃ u v, encodeUrl e "http://a".toStr = .ok u ∧ encodeUrl e "http://a/".toStr = .ok v ∧
      rawPath u = [47] ∧ rawPath v = [47] ∧ u.scheme = v.scheme ∧ u.netloc = v.netloc ∧ u.query = v.query ∧
      u.fragment = v.fragment ∧ net e u = net e v ∧ u.beq v = true ∧
      C07_strPath u = [] ∧ C07_strPath v = [47] ∧
      str e u = .ok "http://a".toStr ∧ str e v = .ok "http://a/".toStr :=
  C07_raw_path_vs_str_instance

/-- closes C07Headline GAPS 4, second half — "the raw accessors re-compose to str(url)", default-port case INCLUDED and
    no hypothesis on the URL.  Whenever `explicit_port` can be read, so can `raw_user`, `raw_password`,
    `host_subcomponent`, and
    `str(url) = unsplit_result(scheme, authority-as-shown, path-as-written, raw_query_string, raw_fragment)` where the
    authority shown (`C07_shownNetloc`) is `raw_authority` unless the explicit port is the scheme default — then it is
    `make_netloc(raw_user, raw_password, host_subcomponent, None)` (F-C07-default-port) — and the path written is
    `C07_strPath` (F-C07-empty-path); when `explicit_port` cannot be read (invalid port text in a lazily parsed
    authority) `str(url)` raises the same error. -/
theorem C07_headline_recompose_with_accessors (e : Env) (u : Url) :
    (∀ ep, explicitPort e u = .ok ep →
      ∃ ru rp hs, rawUser e u = .ok ru ∧ rawPassword e u = .ok rp ∧ hostSubcomponent e u = .ok hs ∧
        str e u = .ok (unsplitResult u.scheme (C07_shownNetloc e u ep ru rp hs) (C07_strPath u) u.query u.fragment)) ∧
    (∀ err, explicitPort e u = .error err → str e u = .error err) :=
  C07_recompose_accessors e u

/-- what `make_netloc` without port writes (the right-hand side of `C07_shownNetloc` at the default port):
    user, ":" password when there is a password, "@" when that text is non-empty, then the host -/
theorem C07_headline_shown_authority_at_default_port (qf : Str → Str) (ru rp : Option Str) (h : Str) :
    makeNetloc qf ru rp (some h) none false =
      (match ru, rp with
       | none, none => h
       | _, some pw => (ru.getD []) ++ [58] ++ pw ++ [64] ++ h
       | some us, none => if us.isEmpty then h else us ++ [64] ++ h) :=
  C07_makeNetloc_noport qf ru rp h

/-- … F-C07-default-port with a userinfo: URL('http://u@a:80/') has raw_authority "u@a:80", shows "u@a" -/
theorem C07_headline_recompose_fails_for_default_port_with_user :
    let e : Env := ⟨.py, Oracles.empty⟩
    ∃ u, encodeUrl e "http://u@a:80/".toStr = .ok u ∧ u.netloc = "u@a:80".toStr ∧ explicitPort e u = .ok (some 80) ∧
      rawUser e u = .ok (some "u".toStr) ∧ rawPassword e u = .ok none ∧ hostSubcomponent e u = .ok (some "a".toStr) ∧
      C07_shownNetloc e u (some 80) (some "u".toStr) none (some "a".toStr) = "u@a".toStr ∧
      str e u = .ok "http://u@a/".toStr :=
  C07_recompose_accessors_instance

/-- NEW — "the raw accessors re-compose to str(url)" BY THE LETTER: the RFC 3986 §5.3 re-composition of the raw
    accessors (scheme ":" when there is a scheme, "//" authority when there is an authority, raw_path, "?" query when
    there is a query, "#" fragment when there is a fragment; "there is" = non-empty, the accessors cannot tell an absent
    component from an empty one) IS str(url), under one guard per known finding.  The right-hand side mentions only
    `u.scheme`, `u.netloc` (= raw_authority), `rawPath u`, `u.query` (= raw_query_string), `u.fragment`. -/
theorem C07_headline_recompose_by_the_letter (e : Env) (u : Url) (ep : Option Nat)
    (hep : explicitPort e u = .ok ep)
    -- known finding F-C07-default-port (C07_headline_recompose_fails_for_default_port): str() drops a default port
    (hport : ∀ p, ep = some p → some p ≠ defaultPort u.scheme)
    -- known finding F-C07-empty-path (C07_headline_recompose_fails_for_empty_path): raw_path "/" but nothing written
    (hpath : ¬ (u.path = [] ∧ u.netloc ≠ [] ∧ u.query = [] ∧ u.fragment = []))
    -- known finding F-C07-rootless (C07_headline_recompose_fails_for_rootless; with a rooted path this is
    -- F-C04-single-slash, 'ws:/a' ↦ 'ws:///a'): no authority under a scheme of urllib's uses_netloc is written "//";
    -- second conjunct: a stored path starting "//" without authority gets "//" in front (not reachable by parsing)
    (hnoauth : u.netloc = [] → ¬ (u.scheme ≠ [] ∧ Gen.usesAuthority.contains u.scheme = true) ∧ u.path.take 2 ≠ [47, 47])
    -- model artefact (arbitrary records): under an authority the stored path is empty or rooted — every parser result
    -- is (Appendix B); `unsplit_result` inserts a '/' otherwise
    (hrooted : u.netloc ≠ [] → u.path = [] ∨ u.path.head? = some 47) :
    str e u = .ok ((if u.scheme = [] then [] else u.scheme ++ [58]) ++
                   (if u.netloc = [] then [] else [47, 47] ++ u.netloc) ++
                   rawPath u ++
                   (if u.query = [] then [] else 63 :: u.query) ++
                   (if u.fragment = [] then [] else 35 :: u.fragment)) := by
  rw [C07_headline_raw_accessors_recompose e u ep hep hport, ← (C07_raw_path_vs_str u).1 hpath]
  congr 1
  -- the "//" marker is written exactly when there is an authority, and then the path written is empty or rooted
  have hm : UnsplitLemmas.marker u.scheme u.netloc (rawPath u) = true ↔ u.netloc ≠ [] := by
    rw [UnsplitLemmas.marker_true_iff]
    refine ⟨fun h => ?_, Or.inl⟩
    intro hn
    have hp : rawPath u = u.path := by simp [rawPath, hn]
    rw [hp] at h
    rcases h with h | h | h
    · exact h hn
    · exact (hnoauth hn).1 h
    · exact (hnoauth hn).2 h
  have hr : UnsplitLemmas.marker u.scheme u.netloc (rawPath u) = true → UnsplitLemmas.RootedOrEmpty (rawPath u) := by
    intro h
    rcases hrooted (hm.1 h) with hp | hp
    · right; simp [rawPath, hp, hm.1 h]
    · right
      have : u.path ≠ [] := by intro h0; rw [h0] at hp; cases hp
      simpa [rawPath, this] using hp
  rw [UnsplitLemmas.unsplit_shape, UnsplitLemmas.unsplitHead_eq _ _ _ hr, UnsplitLemmas.schemeStr_eq, UnsplitLemmas.tailStr_eq, ← List.append_assoc]
  by_cases hn : u.netloc = []
  · rw [if_neg (fun h => hm.1 h hn), if_pos hn]
  · rw [if_pos (hm.2 hn), if_neg hn]; rfl

/-! ## non-vacuity -/

attribute [local instance] ParseLemmas.decExistsOk

-- C07_headline_recompose_by_the_letter: explicit non-default port, userinfo, query and fragment
example : ∃ u, encodeUrl ⟨.py, Oracles.empty⟩ "http://u:p@h:8080/a?b#c".toStr = .ok u ∧
    explicitPort ⟨.py, Oracles.empty⟩ u = .ok (some 8080) ∧ (∀ p, some 8080 = some p → some p ≠ defaultPort u.scheme) ∧
    ¬ (u.path = [] ∧ u.netloc ≠ [] ∧ u.query = [] ∧ u.fragment = []) ∧
    (u.netloc = [] → ¬ (u.scheme ≠ [] ∧ Gen.usesAuthority.contains u.scheme = true) ∧ u.path.take 2 ≠ [47, 47]) ∧
    (u.netloc ≠ [] → u.path = [] ∨ u.path.head? = some 47) := by
  str_lits; decide +kernel
-- … and without authority, scheme outside uses_netloc, rootless path: "mailto:a@b"
example : (fromParts "mailto".toStr [] "a@b".toStr [] []).netloc = [] ∧
    ¬ ("mailto".toStr ≠ [] ∧ Gen.usesAuthority.contains "mailto".toStr = true) ∧
    ("a@b".toStr).take 2 ≠ [47, 47] := by decide +kernel

end Yarl
