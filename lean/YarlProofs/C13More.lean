/-
  C13More.lean — C13 beyond the headline file: the closed form of a name (leading dots, a dot-free piece, dotted
  pieces) with `suffix` / `suffixes` on it; the decoded accessors of children and of `with_name` / `with_suffix`;
  children made from texts with '/', from several arguments and with `encoded=True`; n-ary `joinpath` as iterated
  `joinpath`; `parent` of a child and of `with_name`; computed instances on both backends.
  `PathMore` continues the namespace of Lemmas/PathAlg.lean with the lemmas that need C06 or the headline file.
-/
import YarlProofs.C13Headline
import YarlProofs.C06
import YarlProofs.C06Spec
namespace Yarl
open Yarl.PathLemmas Yarl.PathAlg

namespace PathMore

/-! ### the closed form of a name: leading dots, a dot-free piece, dotted pieces (`sfx`, `sfxs`, `sfx_last`:
    Lemmas/PathAlg.lean) -/

theorem flatten_map_snoc (ps : List Str) (l : Str) :
    ((ps ++ [l]).map (fun s => 46 :: s)).flatten = (ps.map (fun s => 46 :: s)).flatten ++ 46 :: l := by
  simp

theorem lstrip_replicate (d : Nat) (p : Str) (hp : p.head? ≠ some 46) :
    lstripSet [46] (List.replicate d 46 ++ p) = p := by
  induction d with
  | zero =>
    cases p with
    | nil => rfl
    | cons c r =>
      have hc : c ≠ 46 := by simpa using hp
      simp [lstripSet, Yarl.mem_eq, hc]
  | succ d ih =>
    rw [List.replicate_succ, List.cons_append]
    simp only [lstripSet, Yarl.mem_eq, List.mem_singleton, decide_true, if_true]
    exact ih

theorem takeWhile_dots (n : Str) :
    n.takeWhile (fun c => mem c [46]) = List.replicate (n.takeWhile (fun c => mem c [46])).length 46 := by
  induction n with
  | nil => rfl
  | cons c r ih =>
    by_cases hc : c = 46
    · subst hc
      have : mem 46 [46] = true := by decide
      simp only [List.takeWhile_cons, this, if_true, List.length_cons, List.replicate_succ]
      rw [← ih]
    · have : mem c [46] = false := by rw [Yarl.mem_eq]; simpa using hc
      simp [this]

/-- EVERY name, in closed form: `d` leading dots, a dot-free piece `p`, dotted pieces `ps` (`p` is empty only when
    nothing follows: the name is all dots, or empty) -/
theorem name_decomp (n : Str) : ∃ (d : Nat) (p : Str) (ps : List Str),
    n = List.replicate d 46 ++ p ++ (ps.map (fun s => 46 :: s)).flatten ∧
    46 ∉ p ∧ (∀ x ∈ ps, 46 ∉ x) ∧ (p = [] → ps = []) ∧
    splitOn 46 (lstripSet [46] n) = p :: ps := by
  obtain ⟨p, ps, e⟩ := List.exists_cons_of_ne_nil (splitOn_ne_nil 46 (lstripSet [46] n))
  have hseg := splitOn_no_sep 46 (lstripSet [46] n)
  have hj := joinC_splitOn (c := 46) (lstripSet [46] n)
  rw [e] at hseg
  rw [e, joinC_cons, HostLemmas.flatC_eq_flatten] at hj
  refine ⟨(n.takeWhile (fun c => mem c [46])).length, p, ps, ?_, hseg p (by simp),
    fun x hx => hseg x (List.mem_cons_of_mem _ hx), ?_, e⟩
  · rw [← takeWhile_dots, List.append_assoc, hj, Yarl.ParseLemmas.lstripSet_eq]
    exact (List.takeWhile_append_dropWhile).symm
  · intro hp0
    subst hp0
    cases ps with
    | nil => rfl
    | cons x ps' =>
      exfalso
      have hd : (lstripSet [46] n).head? = some 46 := by rw [← hj]; simp
      rw [Yarl.ParseLemmas.lstripSet_eq] at hd
      have := List.head?_dropWhile_not (fun c => mem c [46]) n
      rw [hd] at this
      simp [mem] at this

theorem getLast_form (d : Nat) (p : Str) (hp0 : p ≠ []) (hp : 46 ∉ p) :
    (List.replicate d 46 ++ p).getLast? ≠ some 46 := by
  intro h
  rw [List.getLast?_append] at h
  cases hl : p.getLast? with
  | none => exact hp0 (List.getLast?_eq_none_iff.1 hl)
  | some c =>
    rw [hl] at h
    simp only [Option.some_or, Option.some.injEq] at h
    subst h
    exact hp (List.mem_of_getLast? hl)

theorem head_not_dot (p : Str) (hp : 46 ∉ p) : p.head? ≠ some 46 := fun h => hp (List.mem_of_head? h)

/-- names of the form "..", more dots, a non-empty dot-free piece ("..a", "...tar"): no `suffixes`, but a `suffix` -/
theorem sfxs_form (k : Nat) (p : Str) (hp0 : p ≠ []) (hp : 46 ∉ p) :
    sfxs (List.replicate (k + 2) 46 ++ p) = [] ∧ sfx (List.replicate (k + 2) 46 ++ p) = 46 :: p := by
  constructor
  · unfold sfxs
    rw [if_neg (getLast_form _ p hp0 hp), lstrip_replicate _ p (head_not_dot p hp), PathLemmas.splitOn_of_not_mem 46 p hp]
    rfl
  · have : List.replicate (k + 2) 46 ++ p = List.replicate (k + 1) 46 ++ 46 :: p := by
      rw [List.replicate_succ' (n := k + 1)]; simp
    rw [this, sfx_last _ p hp, if_pos ⟨by simp [List.replicate_succ], hp0⟩]

theorem sfx_ends_dot (n : Str) (h : n.getLast? = some 46) : sfx n = [] := by
  obtain ⟨a, rfl⟩ : ∃ a, n = a ++ [46] := by
    rcases List.eq_nil_or_concat n with h' | ⟨a, b, h'⟩
    · subst h'; simp at h
    · subst h'
      simp at h
      exact ⟨a, by simp [h]⟩
  rw [sfx_last a [] (by simp)]
  simp

/-- `suffix` from the closed form -/
theorem sfx_decomp (n : Str) (d : Nat) (p : Str) (ps : List Str)
    (hn : n = List.replicate d 46 ++ p ++ (ps.map (fun s => 46 :: s)).flatten)
    (hp : 46 ∉ p) (hps : ∀ x ∈ ps, 46 ∉ x) (hp0 : p = [] → ps = []) :
    (ps = [] → sfx n = if 2 ≤ d ∧ p ≠ [] then 46 :: p else []) ∧
    (∀ ps' l, ps = ps' ++ [l] → sfx n = if l = [] then [] else 46 :: l) := by
  constructor
  · intro h0
    subst h0
    simp only [List.map_nil, List.flatten_nil, List.append_nil] at hn
    cases d with
    | zero =>
      have : 46 ∉ n := by rw [hn]; simpa using hp
      rw [sfx_no_dot n this, if_neg (by omega)]
    | succ d' =>
      have : n = List.replicate d' 46 ++ 46 :: p := by
        rw [hn, List.replicate_succ' (n := d')]; simp
      rw [this, sfx_last _ p hp]
      by_cases hc : d' = 0
      · subst hc
        rw [if_neg (by simp), if_neg (by omega)]
      · by_cases hpe : p = []
        · rw [if_neg (fun h => h.2 hpe), if_neg (fun h => h.2 hpe)]
        · rw [if_pos ⟨by cases d' with | zero => exact absurd rfl hc | succ _ => simp [List.replicate_succ], hpe⟩,
            if_pos ⟨by omega, hpe⟩]
  · intro ps' l h
    subst h
    have hpne : p ≠ [] := by intro h0; have := hp0 h0; simp at this
    rw [flatten_map_snoc, ← List.append_assoc] at hn
    rw [hn, sfx_last _ l (hps l (by simp))]
    by_cases hl : l = []
    · rw [if_neg (fun h => h.2 hl), if_pos hl]
    · rw [if_pos ⟨by simp [hpne], hl⟩, if_neg hl]


/-- `suffix` is the last of `suffixes` ("" when there are none) exactly when the name is not "two or more dots, then a
    non-empty dot-free piece": read off the closed form of the name -/
theorem sfx_last_iff (n : Str) :
    sfx n = (sfxs n).getLast?.getD [] ↔
      ¬ ∃ (k : Nat) (p : Str), n = List.replicate (k + 2) 46 ++ p ∧ p ≠ [] ∧ 46 ∉ p := by
  constructor
  · -- for such a name `suffixes` is empty and `suffix` is not
    rintro h ⟨k, p, rfl, hp0, hp⟩
    obtain ⟨f1, f2⟩ := sfxs_form k p hp0 hp
    rw [f1, f2] at h
    cases h
  · intro hnf
    obtain ⟨d, p, ps, hdec, hp, hps, hp0, e⟩ := name_decomp n
    obtain ⟨s1, s2⟩ := sfx_decomp n d p ps hdec hp hps hp0
    have hsf : sfxs n = (if n.getLast? = some 46 then [] else ps.map (fun s => 46 :: s)) := by
      unfold sfxs
      rw [e]
      rfl
    by_cases hend : n.getLast? = some 46
    · rw [hsf, if_pos hend, sfx_ends_dot n hend]
      rfl
    · rw [hsf, if_neg hend]
      rcases List.eq_nil_or_concat ps with rfl | ⟨ps', l, rfl⟩
      · -- no dotted piece
        rw [s1 rfl, if_neg]
        · rfl
        · rintro ⟨hd, hpe⟩
          exact hnf ⟨d - 2, p, by rw [hdec, show d - 2 + 2 = d by omega]; simp, hpe, hp⟩
      · -- a last dotted piece `l`, non-empty since the name does not end in '.'
        have hl0 : l ≠ [] := by
          rintro rfl
          apply hend
          rw [hdec]
          simp
        rw [s2 ps' l (by simp), if_neg hl0]
        simp

/-- when there are suffixes, `suffix` is the last of them -/
theorem sfx_last_of_sfxs (n : Str) (h : sfxs n ≠ []) : (sfxs n).getLast? = some (sfx n) := by
  have := (sfx_last_iff n).2 (by rintro ⟨k, p, rfl, hp0, hp⟩; exact h (sfxs_form k p hp0 hp).1)
  rw [this, List.getLast?_eq_some_getLast h]
  rfl

/-- when there are no suffixes, `suffix` is empty — unless the name starts with ".." -/
theorem sfx_of_sfxs_nil (n : Str) (h : sfxs n = []) (h2 : ∀ r, n ≠ 46 :: 46 :: r) : sfx n = [] := by
  rw [(sfx_last_iff n).2 (by rintro ⟨k, p, rfl, _, _⟩; exact h2 _ rfl), h]
  rfl


/-! ### the unquoters split in front of '.' and '/' (neither '%' nor a hex digit: `DecLemmas.uq_split_of_gen`) -/

/-- every generated unquoter, both backends: decoding splits in front of a '.' -/
theorem uq_split_dot (e : Env) (a : UArgs) (ha : a ∈ Gen.allUnquoters) (x r : Str) :
    uq e a (x ++ 46 :: r) = uq e a x ++ uq e a (46 :: r) :=
  DecLemmas.uq_split_of_gen e a ha 46 (by decide) (by decide) x r

theorem uq_split_slash (e : Env) (a : UArgs) (ha : a ∈ Gen.allUnquoters) (x r : Str) :
    uq e a (x ++ 47 :: r) = uq e a x ++ uq e a (47 :: r) :=
  DecLemmas.uq_split_of_gen e a ha 47 (by decide) (by decide) x r

theorem uq_nil (e : Env) (a : UArgs) : uq e a [] = [] := C06_unquoter_nil e.b a

/-! ### the PATH_QUOTER on Python strings -/

theorem q_path_nil (e : Env) : q e Gen.PATH_QUOTER [] = [] := Gen.PATH_QUOTER.run_nil e.b

theorem pyStr_cons {c : Nat} {s : Str} (h : PyStr (c :: s)) : PyStr s := pyStr_tail h

theorem noSurr_cons {c : Nat} {s : Str} (h : NoSurrogate (c :: s)) : NoSurrogate s := noSurr_tail h

/-- read-back of a quoted segment through the plain UNQUOTER -/
theorem uq_q (e : Env) (s : Str) (hs : PyStr s) (hn : NoSurrogate s) :
    uq e Gen.UNQUOTER (q e Gen.PATH_QUOTER s) = s := C06_readback_name e.b s hs hn

/-- the quoter leaves '.' alone and writes no new one: the quoted text is a dot segment iff the text is -/
theorem q_path_eq_dot_iff (e : Env) (s : Str) (hs : PyStr s) (hn : NoSurrogate s) :
    (q e Gen.PATH_QUOTER s = dot ↔ s = dot) ∧ (q e Gen.PATH_QUOTER s = dotdot ↔ s = dotdot) := by
  have h1 : uq e Gen.UNQUOTER dot = dot := by
    have : ∀ b : Backend, Gen.UNQUOTER.run b dot = dot := fun b => by cases b <;> decide +kernel
    exact this e.b
  have h2 : uq e Gen.UNQUOTER dotdot = dotdot := by
    have : ∀ b : Backend, Gen.UNQUOTER.run b dotdot = dotdot := fun b => by cases b <;> decide +kernel
    exact this e.b
  refine ⟨⟨fun h => ?_, fun h => ?_⟩, ⟨fun h => ?_, fun h => ?_⟩⟩
  · have := uq_q e s hs hn; rw [h, h1] at this; exact this.symm
  · subst h; exact q_path_fixed e dot (by decide)
  · have := uq_q e s hs hn; rw [h, h2] at this; exact this.symm
  · subst h; exact q_path_fixed e dotdot (by decide)

theorem pyStr_seg {s p : Str} (hs : PyStr s) (hp : p ∈ splitOn 47 s) : PyStr p :=
  fun c hc => hs c (splitOn_sub 47 s p hp c hc)

theorem noSurr_seg {s p : Str} (hs : NoSurrogate s) (hp : p ∈ splitOn 47 s) : NoSurrogate p :=
  fun c hc => hs c (splitOn_sub 47 s p hp c hc)

theorem stem_ne_nil (n : Str) (hn : n ≠ []) : n.take (n.length - (sfx n).length) ≠ [] := by
  by_cases hm : 46 ∈ n
  · obtain ⟨a, t, e, ht⟩ := exists_last 46 n hm
    have h := stem_append_sfx n
    intro h0
    rw [h0, List.nil_append] at h
    rw [e, sfx_last a t ht] at h
    split at h
    · rename_i hc
      have h0 : a.length = 0 := by
        have := congrArg List.length h
        simp only [List.length_cons, List.length_append] at this
        omega
      exact hc.1 (List.length_eq_zero_iff.1 h0)
    · simp at h
  · rw [sfx_no_dot n hm]
    simpa using hn

/-- a name `stem ++ t` with `t` starting with '.', `stem ≠ []`: the suffix is the last dotted piece of `t` -/
theorem sfx_append (stem a t : Str) (hs : stem ≠ []) (ht : 46 ∉ t) :
    sfx (stem ++ (a ++ 46 :: t)) = if t = [] then [] else 46 :: t := by
  rw [← List.append_assoc, sfx_last _ _ ht]
  by_cases h : t = []
  · simp [h]
  · simp [h, hs]

theorem uq_dot_cons (e : Env) (p : Str) : uq e Gen.UNQUOTER (46 :: p) = 46 :: uq e Gen.UNQUOTER p := by
  show unquote e.b (Gen.UNQUOTER.tab e.b) _ = 46 :: unquote e.b (Gen.UNQUOTER.tab e.b) _
  rw [Readback.unquote_eq_uqLoop, Readback.unquote_eq_uqLoop,
    Readback.uqLoop_lit e.b _ [] [] (Or.inl (by decide)), DecLemmas.uqPlain_UNQUOTER]
  rfl


/-! ### `_make_child` with any number of arguments, either `encoded` mode (closed form: Lemmas/PathAlg.lean) -/

/-- the last segment comes from the last argument -/
theorem argSegs_getLast (e : Env) (enc : Bool) (init : List Str) (l : Str) :
    (argSegs e enc (init ++ [l])).getLast? = (splitOn 47 (argText e enc l)).getLast? := by
  rw [argSegs_snoc, List.getLast?_append]
  cases hl : (splitOn 47 (argText e enc l)).getLast? with
  | none => exact absurd (List.getLast?_eq_none_iff.1 hl) (splitOn_ne_nil _ _)
  | some x => simp

theorem splitOn_head (t : Str) (h : t.head? ≠ some 47) :
    (splitOn 47 t).head? ≠ some [] ∨ splitOn 47 t = [[]] := by
  cases t with
  | nil => right; rfl
  | cons c r =>
    left
    have hc : c ≠ 47 := by simpa using h
    obtain ⟨p, ps, e⟩ := splitOn_head_nil 47 c r hc
    rw [e]; simp

theorem stripTrail_head (S : List Str) (h : S.head? ≠ some [] ∨ S = [[]]) :
    stripTrail S = [] ∨ ((stripTrail S).head? ≠ some [] ∧ stripTrail S ≠ []) := by
  rcases h with h | h
  · cases S with
    | nil => left; rfl
    | cons a r =>
      right
      have ha : a ≠ [] := by simpa using h
      cases r with
      | nil => simp [stripTrail, ha]
      | cons b r' => rw [stripTrail_cons _ _ (by simp)]; simp [ha]
  · left; rw [h]; rfl

theorem argSegs_head (e : Env) (enc : Bool) : ∀ ps : List Str, ps ≠ [] →
    (∀ p ∈ ps, (argText e enc p).head? ≠ some 47) →
    (argSegs e enc ps).head? ≠ some [] ∨ argSegs e enc ps = [[]] := by
  intro ps
  induction ps with
  | nil => intro h; exact absurd rfl h
  | cons a ps ih =>
    intro _ hh
    cases ps with
    | nil => simpa [argSegs] using splitOn_head _ (hh a (by simp))
    | cons b r =>
      rw [argSegs]
      rcases stripTrail_head _ (splitOn_head _ (hh a (by simp))) with h | ⟨h, h0⟩
      · rw [h, List.nil_append]
        exact ih (by simp) (fun p hp => hh p (List.mem_cons_of_mem _ hp))
      · left
        obtain ⟨x, xs, hx⟩ := List.exists_cons_of_ne_nil h0
        rw [hx] at h ⊢
        simpa using h

theorem stripTrail_rawParts_ne_nil (u : Url) (hn : u.netloc ≠ []) : stripTrail (rawParts u) ≠ [] := by
  rcases rawParts_shape u with ⟨T, hT, _, _⟩ | ⟨hn0, _⟩
  · rw [hT]
    cases T with
    | nil => simp [stripTrail]
    | cons a b => rw [stripTrail_cons _ _ (by simp)]; simp
  · exact absurd hn0 hn


theorem argSegs_nonempty_mem (e : Env) (enc : Bool) : ∀ ps : List Str,
    (∃ p ∈ ps, (argText e enc p).head? ≠ some 47 ∧ argText e enc p ≠ []) → ∃ x ∈ argSegs e enc ps, x ≠ [] := by
  intro ps
  induction ps with
  | nil => intro h; obtain ⟨p, hp, _⟩ := h; simp at hp
  | cons a ps ih =>
    intro h
    obtain ⟨p, hp, h47, hne⟩ := h
    have key : ∀ t : Str, t.head? ≠ some 47 → t ≠ [] → ∃ x, x ≠ [] ∧ x ∈ splitOn 47 t ∧ x ∈ stripTrail (splitOn 47 t) := by
      intro t ht ht0
      obtain ⟨c, r, rfl⟩ := List.exists_cons_of_ne_nil ht0
      have hc : c ≠ 47 := by simpa using ht
      obtain ⟨s0, sr, hS⟩ := splitOn_head_nil 47 c r hc
      refine ⟨c :: s0, by simp, by rw [hS]; simp, ?_⟩
      rw [hS]
      cases sr with
      | nil => simp [stripTrail]
      | cons a b => rw [stripTrail_cons _ _ (by simp)]; simp
    cases ps with
    | nil =>
      have : p = a := by simpa using hp
      subst this
      obtain ⟨x, hx0, hx, _⟩ := key _ h47 hne
      exact ⟨x, by simpa [argSegs] using hx, hx0⟩
    | cons b r =>
      rw [argSegs]
      rcases List.mem_cons.1 hp with rfl | hp'
      · obtain ⟨x, hx0, _, hx⟩ := key _ h47 hne
        exact ⟨x, List.mem_append_left _ hx, hx0⟩
      · obtain ⟨x, hx, hx0⟩ := ih ⟨p, hp', h47, hne⟩
        exact ⟨x, List.mem_append_right _ hx, hx0⟩

/-- a Python string not starting with '/' is quoted to a text not starting with '/' -/
theorem q_path_head (e : Env) (s : Str) (hs : PyStr s) (hsur : NoSurrogate s) (h : s.head? ≠ some 47) :
    (q e Gen.PATH_QUOTER s).head? ≠ some 47 :=
  fun h' => h ((q_path_head_iff e s hs hsur (.inr rfl)).1 h')

theorem noDots_map_q (e : Env) (L : List Str) (hp : ∀ p ∈ L, PyStr p) (hs : ∀ p ∈ L, NoSurrogate p)
    (h : NoDots L) : NoDots (L.map (q e Gen.PATH_QUOTER)) := by
  intro x hx
  obtain ⟨y, hy, rfl⟩ := List.mem_map.1 hx
  obtain ⟨h1, h2⟩ := q_path_eq_dot_iff e y (hp y hy) (hs y hy)
  exact ⟨fun hc => (h y hy).1 (h1.1 hc), fun hc => (h y hy).2 (h2.1 hc)⟩

/-- the intermediate URL satisfies the guard again -/
theorem child_guard (u : Url) (Q : Str) (hn : u.netloc ≠ [])
    (h1 : dotdot ∉ splitOn 47 u.path) (h2 : dotdot ∉ splitOn 47 Q) :
    dotdot ∉ splitOn 47 (childOf u (splitOn 47 Q) (mem 46 Q)).path := by
  have hn' : u.netloc.isEmpty = false := by simpa using hn
  have hL : base u ++ splitOn 47 Q ≠ [] := by simp [splitOn_ne_nil]
  have hM : Segs (root u.netloc (base u ++ splitOn 47 Q)) :=
    segs_root _ (segs_append (segs_base u) (segs_splitOn _))
  cases hm : mem 46 Q with
  | false =>
    rw [childOf_false]
    show dotdot ∉ splitOn 47 (joinC 47 _)
    rw [splitOn_joinC _ (root_ne_nil _ hL) hM]
    intro h
    rcases mem_root h with h | h
    · simp [dotdot] at h
    · rcases List.mem_append.1 h with h | h
      · exact h1 (mem_base h)
      · exact h2 h
  | true =>
    have hm' : 46 ∈ Q := mem_iff.1 hm
    obtain ⟨K', hK', hK⟩ := childRoot_norm_keeps_root u Q hn hm' h1 h2
    rw [childOf_true u _ hn', hK, fixRoot_rooted K' hK']
    show dotdot ∉ splitOn 47 (joinC 47 _)
    have hKs : Segs ([] :: K') := hK ▸ normalizePathSegments_no_sep _ hM
    rw [splitOn_joinC _ (by simp) hKs, ← hK]
    intro h
    exact (noDots_normalizePathSegments _ _ h).2 rfl

theorem bind_pure_R {α : Type} (x : R α) : (x >>= pure) = x := by
  cases x <;> rfl

/-- n-ary `joinpath` against the iterated form, for any preorder `Rel` on outcomes: it is enough that peeling the first
    argument off is a `Rel` step under the guard `G` (arguments not starting with '/'), and that `G` passes to the
    intermediate URL.  An argument starting with '/' makes both sides the same error. -/
theorem nary_of_step (e : Env) (enc : Bool) (Rel : R Url → R Url → Prop) (hrefl : ∀ x, Rel x x)
    (htrans : ∀ {x y z}, Rel x y → Rel y z → Rel x z) (G : List Str → Url → Prop)
    (hstep : ∀ u a b r, G (a :: b :: r) u → (∀ p ∈ a :: b :: r, p.head? ≠ some 47) →
      Rel (makeChild e u (a :: b :: r) enc)
        (makeChild e (childOf u (splitOn 47 (argText e enc a)) (mem 46 (argText e enc a))) (b :: r) enc))
    (hnext : ∀ u a b r, G (a :: b :: r) u →
      G (b :: r) (childOf u (splitOn 47 (argText e enc a)) (mem 46 (argText e enc a)))) :
    ∀ (ps : List Str) (u : Url), ps ≠ [] → G ps u →
      Rel (makeChild e u ps enc) (ps.foldlM (fun v a => makeChild e v [a] enc) u) := by
  intro ps
  induction ps with
  | nil => intro u h; exact absurd rfl h
  | cons a ps ih =>
    intro u _ hG
    cases ps with
    | nil =>
      simp only [List.foldlM_cons, List.foldlM_nil]
      rw [bind_pure_R]
      exact hrefl _
    | cons b r =>
      rw [List.foldlM_cons]
      by_cases ha : a.head? = some 47
      · rw [makeChild_err e u _ enc ⟨a, by simp, ha⟩, makeChild_err e u [a] enc ⟨a, by simp, ha⟩]
        exact hrefl _
      · rw [makeChild_single e u a enc ha]
        refine htrans ?_ (ih _ (by simp) (hnext u a b r hG))
        by_cases hbad : ∃ p ∈ b :: r, p.head? = some 47
        · obtain ⟨p, hp, hp47⟩ := hbad
          rw [makeChild_err e u _ enc ⟨p, List.mem_cons_of_mem _ hp, hp47⟩,
            makeChild_err e _ (b :: r) enc ⟨p, hp, hp47⟩]
          exact hrefl _
        · refine hstep u a b r hG ?_
          intro p hp
          rcases List.mem_cons.1 hp with rfl | hp
          · exact ha
          · exact fun h47 => hbad ⟨p, hp, h47⟩

/-- n-ary `joinpath` is the iterated form, as values of `R Url`, under any guard `G` that gives `hroot` for the first
    argument and passes to the intermediate URL: peel the first argument off (`makeChild_assoc_of_root_kept`), recurse -/
theorem nary_of_guard (e : Env) (enc : Bool) (G : List Str → Url → Prop)
    (hroot : ∀ u a b r, G (a :: b :: r) u → u.netloc ≠ [] → 46 ∈ argText e enc a →
      ∃ K', K' ≠ [] ∧ normalizePathSegments (root u.netloc (base u ++ splitOn 47 (argText e enc a))) = [] :: K')
    (hnext : ∀ u a b r, G (a :: b :: r) u →
      G (b :: r) (childOf u (splitOn 47 (argText e enc a)) (mem 46 (argText e enc a)))) :
    ∀ (ps : List Str) (u : Url), ps ≠ [] → G ps u →
      makeChild e u ps enc = ps.foldlM (fun v a => makeChild e v [a] enc) u :=
  nary_of_step e enc Eq (fun _ => rfl) Eq.trans G
    (fun u a b r hG hh => makeChild_assoc_of_root_kept e u a b r enc hh (hroot u a b r hG)) hnext

end PathMore

open PathMore

/-! ## the decoded accessors, stated once -/

/-- `parts`, `name`, `suffix`, `suffixes` ARE the raw accessors decoded element-wise with the plain `UNQUOTER`
    (which is `DecodeSpec` of C06Spec on both backends) -/
theorem C13_decoded_accessors (e : Env) (u : Url) :
    partsDecoded e u = (rawParts u).map (uq e Gen.UNQUOTER) ∧
    name e u = (rawName u).map (uq e Gen.UNQUOTER) ∧
    suffix e u = (rawSuffix u).map (uq e Gen.UNQUOTER) ∧
    suffixes e u = (rawSuffixes u).map (List.map (uq e Gen.UNQUOTER)) ∧
    uq e Gen.UNQUOTER = DecodeSpec e.b (Gen.UNQUOTER.tab e.b) := by
  refine ⟨rfl, ?_, ?_, ?_, funext (C06_run_spec Gen.UNQUOTER e.b)⟩
  · unfold name; cases rawName u <;> rfl
  · unfold suffix; cases rawSuffix u <;> rfl
  · unfold suffixes; cases rawSuffixes u <;> rfl

/-! ## `suffix` and `suffixes` -/

/-- each of `raw_suffixes` is '.' followed by a dot-free piece; when there are any, `raw_suffix` is the last;
    when there are none, `raw_suffix` is empty unless the name starts with ".." (counterexample below);
    their concatenation is a tail of the name -/
theorem C13_suffixes_spec (u : Url) (n s : Str) (ss : List Str)
    (hn : rawName u = .ok n) (hs : rawSuffix u = .ok s) (hss : rawSuffixes u = .ok ss) :
    (∀ x ∈ ss, x.head? = some 46 ∧ 46 ∉ x.drop 1) ∧
    (ss ≠ [] → ss.getLast? = some s) ∧
    (ss = [] → (∀ r, n ≠ 46 :: 46 :: r) → s = []) ∧
    (∃ stem, n = stem ++ ss.flatten) := by
  rw [rawSuffix_eq, hn] at hs
  rw [rawSuffixes_eq, hn] at hss
  cases hs; cases hss
  exact ⟨sfxs_head n, sfx_last_of_sfxs n, sfx_of_sfxs_nil n, sfxs_concat n⟩

/-- "suffix is the last of suffixes, or '' when there are none" is FALSE for a name that starts with "..":
    `URL("http://h/..a").suffix == ".a"` but `.suffixes == ()` -/
theorem C13_suffix_not_last_of_suffixes_counterexample :
    let u := fromParts "http".toStr "h".toStr "/..a".toStr [] []
    rawName u = .ok "..a".toStr ∧ rawSuffix u = .ok ".a".toStr ∧ rawSuffixes u = .ok [] := by
  str_lits; decide +kernel

/-- the same on the decoded accessors: every decoded suffix begins with '.', `suffix` is the last of
    `suffixes` (or "" when there are none) — for a name not starting with ".." -/
theorem C13_suffix_last_decoded (e : Env) (u : Url) (n : Str) (hn : rawName u = .ok n)
    (h2 : ∀ r, n ≠ 46 :: 46 :: r) :
    ∃ s ss, suffix e u = .ok s ∧ suffixes e u = .ok ss ∧ s = ss.getLast?.getD [] ∧
      ∀ x ∈ ss, x.head? = some 46 := by
  obtain ⟨_, _, h3, h4, _⟩ := C13_decoded_accessors e u
  rw [h3, h4, rawSuffix_eq, rawSuffixes_eq, hn]
  refine ⟨_, _, rfl, rfl, ?_, ?_⟩
  · by_cases h0 : sfxs n = []
    · rw [h0, sfx_of_sfxs_nil n h0 h2]; exact uq_nil e _
    · rw [List.getLast?_map, sfx_last_of_sfxs n h0]; rfl
  · intro x hx
    obtain ⟨y, hy, rfl⟩ := List.mem_map.1 hx
    obtain ⟨hh, _⟩ := sfxs_head n y hy
    cases y with
    | nil => simp at hh
    | cons c p =>
      simp at hh; subst hh
      rw [uq_dot_cons]; rfl

/-! ## `with_suffix` -/

/-- `with_suffix(x)`, general form: the name of the result is `stem ++ quote(x)` (C13_with_suffix_raw_py) and its
    `raw_suffix` is the LAST dotted piece of `quote(x)` (empty when `quote(x)` ends with '.'); for `x = ""` it is
    the suffix of the stem (`"a.tar.gz"` → `"a.tar"`, suffix ".tar") -/
theorem C13_with_suffix_suffix_general (e : Env) (u : Url) (x : Str) (kq kf : Bool) (v : Url) (n old : Str)
    (hx : PyStr x) (hn : rawName u = .ok n) (ho : rawSuffix u = .ok old) :
    withSuffix e u x kq kf = .ok v →
    (x = [] → rawSuffix v = .ok (sfx (n.take (n.length - old.length)))) ∧
    (x ≠ [] → ∃ a t, q e Gen.PATH_QUOTER x = a ++ 46 :: t ∧ 46 ∉ t ∧
       rawSuffix v = .ok (if t = [] then [] else 46 :: t)) := by
  intro h
  obtain ⟨_, hname, _, _⟩ := C13_with_suffix_raw_py e u x kq kf v n old hx hn ho h
  obtain ⟨hhead, _, hn0, _⟩ := withSuffix_checks e u x kq kf v n hn h
  have hold : old = sfx n := by rw [rawSuffix_eq, hn] at ho; cases ho; rfl
  rw [rawSuffix_eq, hname]
  constructor
  · intro hx0
    subst hx0
    rw [q_path_nil, List.append_nil]; rfl
  · intro hx0
    obtain ⟨y, rfl⟩ : ∃ y, x = 46 :: y := by
      cases x with
      | nil => exact absurd rfl hx0
      | cons c y => have := hhead hx0; simp at this; exact ⟨y, by rw [this]⟩
    have hq := q_path_cons_fix e y (pyStr_cons hx) (.inl rfl)
    obtain ⟨a, t, hat, ht⟩ := exists_last 46 (q e Gen.PATH_QUOTER (46 :: y)) (by rw [hq]; simp)
    refine ⟨a, t, hat, ht, ?_⟩
    rw [hat]
    show Except.ok (sfx _) = _
    rw [sfx_append _ a t (hold ▸ stem_ne_nil n hn0) ht]

/-- `with_suffix(x)` for `x = "." ++ y`, `y` non-empty without '.' (and without lone surrogates): the
    `raw_suffix` of the result IS `quote(x)` and the decoded `suffix` IS `x`.
    (For `x = ".tar.gz"` the suffix is ".gz": `C13_with_suffix_multi_dot_example`; the general form is above.) -/
theorem C13_with_suffix_suffix (e : Env) (u : Url) (x : Str) (kq kf : Bool) (v : Url)
    (hx : PyStr x) (hsur : NoSurrogate x) (hne : x ≠ []) (hdot : 46 ∉ x.drop 1) :
    withSuffix e u x kq kf = .ok v →
    rawSuffix v = .ok (q e Gen.PATH_QUOTER x) ∧ suffix e v = .ok x := by
  intro h
  obtain ⟨n, hn⟩ := C13_raw_name_total u
  have ho : rawSuffix u = .ok (sfx n) := by rw [rawSuffix_eq, hn]; rfl
  obtain ⟨hhead, h46, _, _⟩ := withSuffix_checks e u x kq kf v n hn h
  obtain ⟨_, h2⟩ := C13_with_suffix_suffix_general e u x kq kf v n _ hx hn ho h
  obtain ⟨a, t, hat, ht, hs⟩ := h2 hne
  obtain ⟨y, rfl⟩ : ∃ y, x = 46 :: y := by
    cases x with
    | nil => exact absurd rfl hne
    | cons c y => have := hhead hne; simp at this; exact ⟨y, by rw [this]⟩
  have hy0 : y ≠ [] := by rintro rfl; exact h46 rfl
  have hq := q_path_cons_fix e y (pyStr_cons hx) (.inl rfl)
  have hqy : 46 ∉ q e Gen.PATH_QUOTER y := C13_path_quoter_no_dot e y (pyStr_cons hx) (by simpa using hdot)
  have hqy0 : q e Gen.PATH_QUOTER y ≠ [] := C13_path_quoter_nonempty e y (pyStr_cons hx) (noSurr_cons hsur) hy0
  -- the only '.' of the quoted suffix is its first character
  have hat' : a = [] ∧ t = q e Gen.PATH_QUOTER y := by
    rw [hq] at hat
    cases a with
    | nil => simp at hat; exact ⟨rfl, hat.symm⟩
    | cons c a' =>
      exfalso
      simp at hat
      apply hqy
      rw [hat.2]; simp
  have hraw : rawSuffix v = .ok (q e Gen.PATH_QUOTER (46 :: y)) := by
    rw [hs, hat'.2, if_neg hqy0, hq]
  refine ⟨hraw, ?_⟩
  unfold suffix
  rw [hraw]
  show Except.ok (uq e Gen.UNQUOTER (q e Gen.PATH_QUOTER (46 :: y))) = _
  rw [uq_q e _ hx hsur]

/-- the decoded level of "replaces only the suffix and leaves the rest of the (decoded) name … exactly as
    [it was]": with `dstem` the decoding of the raw stem, the old name is `dstem ++ suffix`, the new name is
    `dstem ++ x`, and all other decoded parts are the same -/
theorem C13_with_suffix_decoded (e : Env) (u : Url) (x : Str) (kq kf : Bool) (v : Url) (n old : Str)
    (hx : PyStr x) (hsur : NoSurrogate x) (hn : rawName u = .ok n) (ho : rawSuffix u = .ok old) :
    withSuffix e u x kq kf = .ok v →
    let dstem := uq e Gen.UNQUOTER (n.take (n.length - old.length))
    name e u = .ok (dstem ++ uq e Gen.UNQUOTER old) ∧ suffix e u = .ok (uq e Gen.UNQUOTER old) ∧
    name e v = .ok (dstem ++ x) ∧ (partsDecoded e v).dropLast = (partsDecoded e u).dropLast := by
  intro h dstem
  obtain ⟨hparts, hname, _, _⟩ := C13_with_suffix_raw_py e u x kq kf v n old hx hn ho h
  obtain ⟨hhead, _, _, _⟩ := withSuffix_checks e u x kq kf v n hn h
  have hold : old = sfx n := by rw [rawSuffix_eq, hn] at ho; cases ho; rfl
  refine ⟨?_, ?_, ?_, ?_⟩
  · unfold name
    rw [hn]
    show Except.ok (uq e Gen.UNQUOTER n) = _
    congr 1
    have hsplit : n = n.take (n.length - old.length) ++ old := by rw [hold]; exact (stem_append_sfx n).symm
    by_cases h0 : old = []
    · rw [h0, uq_nil, List.append_nil]
      show _ = uq e Gen.UNQUOTER (n.take (n.length - old.length))
      rw [h0]; simp
    · obtain ⟨t, ht⟩ := sfx_head n (hold ▸ h0)
      rw [← hold] at ht
      show uq e Gen.UNQUOTER n = uq e Gen.UNQUOTER (n.take (n.length - old.length)) ++ _
      rw [ht, ← uq_split_dot e _ (by decide), ← ht, ← hsplit]
  · unfold suffix; rw [ho]; rfl
  · unfold name
    rw [hname]
    show Except.ok (uq e Gen.UNQUOTER _) = _
    congr 1
    cases x with
    | nil => rw [q_path_nil, List.append_nil, List.append_nil]
    | cons c y =>
      have := hhead (by simp); simp at this; subst this
      rw [q_path_cons_fix e y (pyStr_cons hx) (.inl rfl), uq_split_dot e _ (by decide), ← q_path_cons_fix e y (pyStr_cons hx) (.inl rfl),
        uq_q e _ hx hsur]
  · show ((rawParts v).map _).dropLast = ((rawParts u).map _).dropLast
    rw [← List.map_dropLast, ← List.map_dropLast, hparts]

/-! ## children from texts with '/', several arguments, both `encoded` modes -/

/-- `u.joinpath(*ps, encoded=enc)` when nothing is normalised (no authority, or no dot segments): the parts
    are the old parts without a trailing empty one followed by the argument segments (`argSegs`: every
    argument — quoted unless `encoded=True` — split at '/', the trailing empty segment of a non-last argument
    dropped); the name is the last of them, the parent parts all the others. -/
theorem C13_joinpath_parts (e : Env) (u : Url) (ps : List Str) (enc : Bool) (v : Url) (hne : ps ≠ [])
    -- always true for `encoded=True`, and for Python strings without lone surrogates (`q_path_head`)
    (hT : ∀ p ∈ ps, (argText e enc p).head? ≠ some 47)
    (hnd : u.netloc ≠ [] → NoDots (splitOn 47 u.path) ∧ ∀ p ∈ ps, NoDots (splitOn 47 (argText e enc p)))
    (hq : u.netloc ≠ [] → u.path = [] → argSegs e enc ps ≠ [[]])
    (hpath : u.netloc ≠ [] → (u.path = [] ∨ u.path.head? = some 47)) :
    makeChild e u ps enc = .ok v →
      v = childOf u (argSegs e enc ps) false ∧
      rawParts v = stripTrail (rawParts u) ++ argSegs e enc ps ∧
      rawName v = .ok ((argSegs e enc ps).getLast?.getD []) ∧
      (rawParts v).dropLast = stripTrail (rawParts u) ++ (argSegs e enc ps).dropLast := by
  intro h
  have hh := heads_of_ok e u ps enc v h
  rw [makeChild_n e u ps enc hh] at h
  have hX0 := argSegs_ne_nil e enc ps hne
  have hXs := segs_argSegs e enc ps
  have hv : v = childOf u (argSegs e enc ps) false := by
    cases h
    refine HeadB.childOf_nodots u _ hX0 (fun hn => ⟨(hnd hn).1, fun x hx => ?_⟩) _
    obtain ⟨p, hp, hxp⟩ := mem_argSegs e enc ps x hx
    exact (hnd hn).2 p hp x hxp
  have hp := childOf_parts u _ hXs hX0 (argSegs_head e enc ps hne hT) hq hpath
  rw [← hv] at hp
  have hsplit : argSegs e enc ps = (argSegs e enc ps).dropLast ++ [(argSegs e enc ps).getLast hX0] :=
    (List.dropLast_concat_getLast hX0).symm
  have hgl : (argSegs e enc ps).getLast?.getD [] = (argSegs e enc ps).getLast hX0 := by
    rw [List.getLast?_eq_some_getLast hX0]; rfl
  refine ⟨hv, hp, ?_, ?_⟩
  · rw [hgl]
    refine rawName_append v (stripTrail (rawParts u) ++ (argSegs e enc ps).dropLast) _ ?_ ?_
    · rw [hp, List.append_assoc, ← hsplit]
    · intro hn
      have hn' : u.netloc ≠ [] := by rw [hv] at hn; simpa [childOf, fromParts] using hn
      have := stripTrail_rawParts_ne_nil u hn'
      simp [this]
  · rw [hp, List.dropLast_append_of_ne_nil hX0]

/-- `u / s` (`u.joinpath(s)`) for a Python string `s` that may CONTAIN '/': quoting commutes with splitting,
    so the new parts are the quoted segments of `s`, the name is the (quoted) last segment of `s`, the parent
    parts are the old parts (without a trailing empty one) and the other segments; decoded, the segments of
    `s` read back unchanged. -/
theorem C13_child_slash (e : Env) (u : Url) (s : Str) (v : Url) (hs : PyStr s) (hsur : NoSurrogate s)
    -- "s has no dot segment" and the old path has none (under an authority)
    (hnd : u.netloc ≠ [] → NoDots (splitOn 47 u.path) ∧ NoDots (splitOn 47 s))
    -- `URL("http://h") / ""` is `URL("http://h")`: parts ("/",) — not ("/", "")
    (hq : u.netloc ≠ [] → u.path = [] → s ≠ [])
    (hpath : u.netloc ≠ [] → (u.path = [] ∨ u.path.head? = some 47)) :
    makeChild e u [s] false = .ok v →
      v = childOf u ((splitOn 47 s).map (q e Gen.PATH_QUOTER)) false ∧
      rawParts v = stripTrail (rawParts u) ++ (splitOn 47 s).map (q e Gen.PATH_QUOTER) ∧
      rawName v = .ok (q e Gen.PATH_QUOTER ((splitOn 47 s).getLast?.getD [])) ∧
      (rawParts v).dropLast = stripTrail (rawParts u) ++ ((splitOn 47 s).dropLast).map (q e Gen.PATH_QUOTER) ∧
      partsDecoded e v = (stripTrail (rawParts u)).map (uq e Gen.UNQUOTER) ++ splitOn 47 s ∧
      name e v = .ok ((splitOn 47 s).getLast?.getD []) := by
  intro h
  have hh := heads_of_ok e u [s] false v h s (by simp)
  have hX : argSegs e false [s] = (splitOn 47 s).map (q e Gen.PATH_QUOTER) := by
    simp [argSegs, argText, splitOn_q e s hs]
  have hrb : ((splitOn 47 s).map (q e Gen.PATH_QUOTER)).map (uq e Gen.UNQUOTER) = splitOn 47 s := by
    rw [List.map_map]
    conv => rhs; rw [← List.map_id (splitOn 47 s)]
    apply List.map_congr_left
    intro x hx
    exact uq_q e x (pyStr_seg hs hx) (noSurr_seg hsur hx)
  obtain ⟨h0, h1, h2, h3⟩ := C13_joinpath_parts e u [s] false v (by simp)
    (by intro p hp; simp at hp; subst hp; exact q_path_head e p hs hsur hh)
    (by
      intro hn
      refine ⟨(hnd hn).1, ?_⟩
      intro p hp; simp at hp; subst hp
      show NoDots (splitOn 47 (q e Gen.PATH_QUOTER p))
      rw [splitOn_q e p hs]
      exact noDots_map_q e _ (fun x hx => pyStr_seg hs hx) (fun x hx => noSurr_seg hsur hx) (hnd hn).2)
    (by
      intro hn hp hc
      rw [hX] at hc
      have h0 : q e Gen.PATH_QUOTER s = [] := by
        have := joinC_splitOn (c := 47) (q e Gen.PATH_QUOTER s)
        rw [splitOn_q e s hs, hc] at this
        exact this.symm
      exact C13_path_quoter_nonempty e s hs hsur (hq hn hp) h0)
    hpath h
  rw [hX] at h0 h1 h2 h3
  have hlast : ((splitOn 47 s).map (q e Gen.PATH_QUOTER)).getLast?.getD [] =
      q e Gen.PATH_QUOTER ((splitOn 47 s).getLast?.getD []) := by
    rw [List.getLast?_map]
    cases hl : (splitOn 47 s).getLast? with
    | none => exact absurd (List.getLast?_eq_none_iff.1 hl) (splitOn_ne_nil _ _)
    | some l => rfl
  have hlm : (splitOn 47 s).getLast?.getD [] ∈ splitOn 47 s := by
    cases hl : (splitOn 47 s).getLast? with
    | none => exact absurd (List.getLast?_eq_none_iff.1 hl) (splitOn_ne_nil _ _)
    | some l => exact List.mem_of_getLast? hl
  rw [hlast] at h2
  refine ⟨h0, h1, h2, by rw [h3, List.map_dropLast], ?_, ?_⟩
  · show (rawParts v).map _ = _
    rw [h1, List.map_append, hrb]
  · unfold name
    rw [h2]
    show Except.ok (uq e Gen.UNQUOTER _) = _
    rw [uq_q e _ (pyStr_seg hs hlm) (noSurr_seg hsur hlm)]

/-- `u / s` has DECODED name `s` — `s` one segment (no '/'), a Python string without lone surrogates, not
    "." or ".." (stated on `s` itself: the quoter neither makes nor destroys a dot segment) — and the decoded
    parent parts are `u.parts` without a trailing empty segment -/
theorem C13_child_name_decoded (e : Env) (u : Url) (s : Str) (v : Url)
    (hs : PyStr s) (hsur : NoSurrogate s) (h47 : 47 ∉ s) (hne : s ≠ [])
    (hdot : s ≠ dot ∧ s ≠ dotdot)
    (hold : u.netloc ≠ [] → NoDots (splitOn 47 u.path))
    (hpath : u.netloc ≠ [] → (u.path = [] ∨ u.path.head? = some 47)) :
    makeChild e u [s] false = .ok v → name e v = .ok s ∧
      (partsDecoded e v).dropLast =
        (if (rawParts u).getLast? = some [] then (partsDecoded e u).dropLast else partsDecoded e u) := by
  intro h
  obtain ⟨h1, h2⟩ := q_path_eq_dot_iff e s hs hsur
  obtain ⟨hname, hparts⟩ := C13_headline_child_name e u s v hs hsur h47 hne
    ⟨fun hc => hdot.1 (h1.1 hc), fun hc => hdot.2 (h2.1 hc)⟩ hold hpath h
  constructor
  · unfold name
    rw [hname]
    show Except.ok (uq e Gen.UNQUOTER _) = _
    rw [uq_q e s hs hsur]
  · show ((rawParts v).map _).dropLast = _
    rw [← List.map_dropLast, hparts]
    simp only
    split
    · show _ = ((rawParts u).map _).dropLast
      rw [← List.map_dropLast]
    · rfl

/-- `with_name(n)` has DECODED name `n` (any `keep_query` / `keep_fragment`) and the same decoded parent parts -/
theorem C13_with_name_decoded (e : Env) (u : Url) (nm : Str) (kq kf : Bool) (v : Url)
    (hnm : PyStr nm) (hsur : NoSurrogate nm) :
    withName e u nm kq kf = .ok v → name e v = .ok nm ∧
      (partsDecoded e v).dropLast = (if u.netloc ≠ [] ∧ (rawParts u).length = 1 then partsDecoded e u
                                     else (partsDecoded e u).dropLast) ∧
      v.query = (if kq then u.query else []) ∧ v.fragment = (if kf then u.fragment else []) := by
  intro h
  obtain ⟨hname, hparts, _, _, hq, hf⟩ := C13_with_name_spec_py e u nm kq kf v hnm h
  refine ⟨?_, ?_, hq, hf⟩
  · unfold name
    rw [hname]
    show Except.ok (uq e Gen.UNQUOTER _) = _
    rw [uq_q e nm hnm hsur]
  · show ((rawParts v).map _).dropLast = _
    rw [← List.map_dropLast, hparts]
    split
    · rfl
    · show _ = ((rawParts u).map _).dropLast
      rw [← List.map_dropLast]

/-- the `encoded=True` variant of `joinpath`: nothing is quoted; the name is the last segment of the LAST
    argument, verbatim -/
theorem C13_joinpath_encoded_name (e : Env) (u : Url) (init : List Str) (l : Str) (v : Url)
    (hnd : u.netloc ≠ [] → NoDots (splitOn 47 u.path) ∧ ∀ p ∈ init ++ [l], NoDots (splitOn 47 p))
    -- `URL("http://h").joinpath("", "", encoded=True)` stays `URL("http://h")`
    (hq : u.netloc ≠ [] → u.path = [] → ∃ p ∈ init ++ [l], p ≠ [])
    (hpath : u.netloc ≠ [] → (u.path = [] ∨ u.path.head? = some 47)) :
    makeChild e u (init ++ [l]) true = .ok v →
      rawName v = .ok ((splitOn 47 l).getLast?.getD []) ∧
      rawParts v = stripTrail (rawParts u) ++ argSegs e true (init ++ [l]) ∧
      (rawParts v).dropLast = stripTrail (rawParts u) ++ (argSegs e true (init ++ [l])).dropLast := by
  intro h
  have hh := heads_of_ok e u _ true v h
  obtain ⟨_, h1, h2, h3⟩ := C13_joinpath_parts e u (init ++ [l]) true v (by simp)
    (fun p hp => hh p hp) hnd
    (by
      intro hn hp hc
      obtain ⟨p, hpm, hp0⟩ := hq hn hp
      obtain ⟨x, hx, hx0⟩ := argSegs_nonempty_mem e true (init ++ [l]) ⟨p, hpm, hh p hpm, hp0⟩
      rw [hc] at hx
      simp at hx
      exact hx0 hx)
    hpath h
  rw [argSegs_getLast] at h2
  exact ⟨h2, h1, h3⟩

/-! ## n-ary `joinpath`, and the `u / "x//b"` corner -/

/-- `u.joinpath(a₁, …, aₙ)` (n ≥ 1, either `encoded` mode) is `u.joinpath(a₁).joinpath(a₂)…joinpath(aₙ)` — as
    VALUES of `R Url`, errors included — when, under an authority, neither the old path nor any argument but
    the last has a ".." segment (the guard of `C13_joinpath_assoc_no_dotdot`; without it:
    `C13_headline_joinpath_assoc_fails_for`). -/
theorem C13_joinpath_nary (e : Env) (enc : Bool) : ∀ (ps : List Str) (u : Url), ps ≠ [] →
    (u.netloc ≠ [] → dotdot ∉ splitOn 47 u.path ∧ ∀ a ∈ ps.dropLast, dotdot ∉ splitOn 47 (argText e enc a)) →
    makeChild e u ps enc = ps.foldlM (fun v a => makeChild e v [a] enc) u := by
  refine PathMore.nary_of_guard e enc
    (fun ps u => u.netloc ≠ [] → dotdot ∉ splitOn 47 u.path ∧ ∀ a ∈ ps.dropLast, dotdot ∉ splitOn 47 (argText e enc a))
    ?_ ?_
  · intro u a b r hdd hn hm
    exact childRoot_norm_keeps_root u _ hn hm (hdd hn).1 ((hdd hn).2 a (by simp))
  · intro u a b r hdd hn1
    have hn : u.netloc ≠ [] := by
      unfold childOf at hn1
      split at hn1 <;> simpa [fromParts] using hn1
    obtain ⟨h1, h2⟩ := hdd hn
    rw [show (a :: b :: r).dropLast = a :: (b :: r).dropLast by simp] at h2
    exact ⟨child_guard u _ hn h1 (h2 a (by simp)), fun x hx => h2 x (List.mem_cons_of_mem _ hx)⟩

/-- the guard `hlast` of `C13_truediv_slash` is needed: `URL("http://h") / "x//b"` is `http://h/x//b`, but
    `URL("http://h").joinpath("x/", "b")` is `http://h/x/b` (the trailing empty segment of a non-last ARGUMENT
    is dropped, an empty segment INSIDE one argument is kept) -/
theorem C13_truediv_double_slash_counterexample (e : Env) :
    let u := fromParts "http".toStr "h".toStr [] [] []
    makeChild e u ["x//b".toStr] false = .ok (fromParts "http".toStr "h".toStr "/x//b".toStr [] []) ∧
    makeChild e u ["x/".toStr, "b".toStr] false = .ok (fromParts "http".toStr "h".toStr "/x/b".toStr [] []) ∧
    (splitOn 47 (q e Gen.PATH_QUOTER "x/".toStr)).getLast? = some [] := by
  intro u
  have q1 : q e Gen.PATH_QUOTER "x//b".toStr = "x//b".toStr :=
    q_path_of_run e (fun b => by cases b <;> decide +kernel)
  have q2 : q e Gen.PATH_QUOTER "x/".toStr = "x/".toStr :=
    q_path_of_run e (fun b => by cases b <;> decide +kernel)
  have q3 : q e Gen.PATH_QUOTER "b".toStr = "b".toStr :=
    q_path_of_run e (fun b => by cases b <;> decide +kernel)
  refine ⟨?_, ?_, ?_⟩
  · rw [makeChild_one e u _ (by decide), q1]
    exact congrArg Except.ok (by decide)
  · rw [makeChild_two e u _ _ (by decide) (by decide), q2, q3]
    exact congrArg Except.ok (by decide)
  · rw [q2]; decide

/-! ## `parent` -/

namespace PathMore

/-- `p[:-1] if p.endswith("/") else p` -/
def dropSlash (p : Str) : Str := if p.getLast? = some 47 then p.dropLast else p

/-- the path of `parent` -/
def parentPath (p : Str) : Str := if p = [] ∨ p = [47] then p else joinC 47 (splitOn 47 p).dropLast

/-- the root rule of `parent` (fix 264b96e: an absolute path must not become relative): where the raw parent path `pp` of the path `p` came out empty although `p` is rooted
    and there is no authority (`p` = "/name"), the parent is the root "/" -/
def rootFix (n p pp : Str) : Str := if pp.isEmpty && p.head? = some 47 && n.isEmpty then [47] else pp

theorem rootFix_eq (n p pp : Str) :
    rootFix n p pp = if pp = [] ∧ p.head? = some 47 ∧ n = [] then [47] else pp := by
  unfold rootFix
  by_cases h1 : pp = [] <;> by_cases h2 : p.head? = some 47 <;> by_cases h3 : n = [] <;> simp [h1, h2, h3]

theorem rootFix_auth {n : Str} (p pp : Str) (hn : n ≠ []) : rootFix n p pp = pp := by
  rw [rootFix_eq, if_neg (fun h => hn h.2.2)]

theorem rootFix_ne (n p : Str) {pp : Str} (h : pp ≠ []) : rootFix n p pp = pp := by
  rw [rootFix_eq, if_neg (fun h' => h h'.1)]

theorem rootFix_head (n : Str) {p : Str} (pp : Str) (h : p.head? ≠ some 47) : rootFix n p pp = pp := by
  rw [rootFix_eq, if_neg (fun h' => h h'.2.1)]

theorem rootFix_fire (p : Str) (h : p.head? = some 47) : rootFix [] p [] = [47] := by
  rw [rootFix_eq, if_pos ⟨rfl, h, rfl⟩]

/-- the path of `parent` under the netloc `n` (the netloc matters: "/name" → "/" without one) -/
def parentPathN (n p : Str) : Str := rootFix n p (parentPath p)

/-- `parent` off the paths "" and "/": same scheme and authority, `parentPathN`, no query, no fragment -/
theorem parent_of_ne (u : Url) (h : ¬ (u.path = [] ∨ u.path = [47])) :
    parent u = fromParts u.scheme u.netloc (parentPathN u.netloc u.path) [] [] := by
  unfold parent parentPathN parentPath
  have hc : (u.path.isEmpty || decide (u.path = [47])) = false := by
    simp only [not_or] at h
    simp [h.1, h.2]
  simp only [hc, if_neg h]
  rfl

/-- `parent`, up to the pre-filled cache: same scheme and authority, `parentPathN`, no query, no fragment -/
theorem parent_eq (u : Url) :
    pickleTwin (parent u) = fromParts u.scheme u.netloc (parentPathN u.netloc u.path) [] [] := by
  by_cases h : u.path = [] ∨ u.path = [47]
  · unfold parent parentPathN parentPath pickleTwin fromParts
    have hc : (u.path.isEmpty || decide (u.path = [47])) = true := by
      rcases h with h | h <;> simp [h]
    have hfix : rootFix u.netloc u.path u.path = u.path := by
      rcases h with h | h
      · exact rootFix_head _ _ (by simp [h])
      · exact rootFix_ne _ _ (by simp [h])
    simp only [hc, if_true, if_pos h, hfix]
    split
    · rfl
    · rename_i hq
      simp only [Bool.or_eq_true, Bool.not_eq_eq_eq_not, Bool.not_true, not_or, Bool.not_eq_false,
        List.isEmpty_iff] at hq
      cases u
      simp_all
  · rw [parent_of_ne u h]
    rfl

theorem eqKey_pickleTwin (u : Url) : eqKey (pickleTwin u) = eqKey u := rfl

/-- a path given by its segments is neither "" nor "/" unless the segments say so -/
theorem joinC_snoc_ne (M : List Str) (l : Str) (hM : Segs (M ++ [l])) (hl : l = [] → M ≠ [] ∧ M ≠ [[]]) :
    ¬ (joinC 47 (M ++ [l]) = [] ∨ joinC 47 (M ++ [l]) = [47]) := by
  have hsp := splitOn_joinC (M ++ [l]) (by simp) hM
  have hM0 := congrArg List.dropLast hsp
  have hl0 := congrArg List.getLast? hsp
  rw [List.dropLast_concat] at hM0
  rw [List.getLast?_concat] at hl0
  rintro (h | h) <;> rw [h] at hM0 hl0
  · exact (hl (Option.some.inj hl0).symm).1 hM0.symm
  · exact (hl (Option.some.inj hl0).symm).2 hM0.symm

/-- `parentPath` of a path given by its segments (not the paths "" and "/") -/
theorem parentPath_joinC (M : List Str) (l : Str) (hM : Segs (M ++ [l])) (hl : l = [] → M ≠ [] ∧ M ≠ [[]]) :
    parentPath (joinC 47 (M ++ [l])) = joinC 47 M := by
  unfold parentPath
  rw [if_neg (joinC_snoc_ne M l hM hl), splitOn_joinC _ (by simp) hM, List.dropLast_concat]

theorem root_getLast (n : Str) (L : List Str) (l : Str) : (root n (L ++ [l])).getLast? = some l := by
  unfold root; split
  · rw [← List.cons_append, List.getLast?_concat]
  · rw [List.getLast?_concat]

theorem root_dropLast_snoc (n : Str) (L : List Str) (l : Str) :
    joinC 47 (root n (L ++ [l])).dropLast = if L = [] then [] else joinC 47 (root n L) := by
  by_cases hL : L = []
  · subst hL
    show joinC 47 (root n [l]).dropLast = []
    unfold root
    split <;> rfl
  · rw [if_neg hL]
    rw [root_append n L [l] hL, List.dropLast_concat]

/-- `rootFix` on an already computed parent path: "/" instead of "" without an authority -/
def slashIfEmpty (n pp : Str) : Str := if pp = [] ∧ n = [] then [47] else pp

/-- `parent` of a child whose last new segment is non-empty (no normalisation).  The parent of "/l" without an
    authority is "/" (`slashIfEmpty`, fix 264b96e). -/
theorem parent_childOf (u : Url) (X' : List Str) (l : Str) (hX : Segs (X' ++ [l])) (hl : l ≠ []) :
    parent (childOf u (X' ++ [l]) false) =
      fromParts u.scheme u.netloc (if base u ++ X' = [] then []
        else slashIfEmpty u.netloc (joinC 47 (root u.netloc (base u ++ X')))) [] [] := by
  have hM : Segs (root u.netloc (base u ++ (X' ++ [l]))) := segs_root _ (segs_append (segs_base u) hX)
  have hgl := root_getLast u.netloc (base u ++ X') l
  rw [List.append_assoc] at hgl
  obtain ⟨M', hM'⟩ : ∃ M', root u.netloc (base u ++ (X' ++ [l])) = M' ++ [l] :=
    ⟨_, (dropLast_snoc_getLast _ l hgl).symm⟩
  rw [hM'] at hM
  rw [childOf_false, hM', parent_of_ne _ (joinC_snoc_ne M' l hM (fun h' => absurd h' hl))]
  show fromParts u.scheme u.netloc (rootFix u.netloc (joinC 47 (M' ++ [l])) (parentPath (joinC 47 (M' ++ [l])))) [] [] = _
  rw [parentPath_joinC M' l hM (fun h' => absurd h' hl)]
  have hd : M' = (root u.netloc ((base u ++ X') ++ [l])).dropLast := by
    rw [List.append_assoc, hM', List.dropLast_concat]
  have hl47 : 47 ∉ l := hX l (by simp)
  have hlh : l.head? ≠ some 47 := fun h => hl47 (List.mem_of_head? h)
  congr 1
  by_cases hL : base u ++ X' = []
  · rw [if_pos hL]
    have hM0 : joinC 47 M' = [] := by rw [hd, root_dropLast_snoc, if_pos hL]
    rw [hM0]
    by_cases hn : u.netloc = []
    · -- the child path is the bare segment `l`: not rooted
      have hM'0 : M' = [] := by
        have : root u.netloc ((base u ++ X') ++ [l]) = [l] := by rw [hL, hn]; simp [root]
        rw [hd, this]; rfl
      rw [hM'0]
      apply rootFix_head
      simpa [joinC, joinSep] using hlh
    · exact rootFix_auth _ _ hn
  · rw [if_neg hL]
    have hM1 : M' = root u.netloc (base u ++ X') := by
      rw [hd, root_append _ _ _ hL, List.dropLast_concat]
    rw [hM1]
    unfold slashIfEmpty
    by_cases hn : u.netloc = []
    · by_cases hp0 : joinC 47 (root u.netloc (base u ++ X')) = []
      · rw [if_pos ⟨hp0, hn⟩, PathLemmas.joinC_snoc 47 _ _ (root_ne_nil _ hL), hp0, hn]
        exact rootFix_fire _ rfl
      · rw [if_neg (fun h => hp0 h.1)]
        exact rootFix_ne _ _ hp0
    · rw [if_neg (fun h => hn h.2)]
      exact rootFix_auth _ _ hn

theorem stripTrail_snoc (S : List Str) (l : Str) : stripTrail (S ++ [l]) = if l = [] then S else S ++ [l] := by
  by_cases h : l = []
  · rw [if_pos h, h, stripTrail_concat_nil]
  · rw [if_neg h, stripTrail_concat_ne S l h]

theorem joinC_base (u : Url) : joinC 47 (base u) = dropSlash u.path := by
  unfold base dropSlash
  by_cases hp : u.path = []
  · simp [hp, joinC, joinSep]
  · have hp' : u.path.isEmpty = false := by simpa using hp
    simp only [hp', Bool.false_eq_true, if_false]
    have hj := joinC_splitOn (c := 47) u.path
    obtain ⟨S, l, hS⟩ : ∃ S l, splitOn 47 u.path = S ++ [l] := by
      rcases List.eq_nil_or_concat (splitOn 47 u.path) with h' | ⟨a, b, h'⟩
      · exact absurd h' (splitOn_ne_nil _ _)
      · exact ⟨a, b, by simpa using h'⟩
    have hl47 : 47 ∉ l := segs_splitOn u.path l (by rw [hS]; simp)
    rw [hS, stripTrail_snoc]
    rw [hS] at hj
    by_cases hS0 : S = []
    · subst hS0
      simp only [List.nil_append, joinC, joinSep] at hj
      have hl0 : l ≠ [] := by rw [hj]; exact hp
      rw [if_neg hl0]
      simp only [List.nil_append, joinC, joinSep]
      rw [hj]
      have : u.path.getLast? ≠ some 47 := by
        intro h
        exact hl47 (hj ▸ List.mem_of_getLast? h)
      rw [if_neg this]
    · rw [PathLemmas.joinC_snoc 47 S l hS0] at hj
      by_cases hl0 : l = []
      · subst hl0
        rw [if_pos rfl]
        have : u.path.getLast? = some 47 := by rw [← hj]; simp
        rw [if_pos this, ← hj]
        simp
      · rw [if_neg hl0, PathLemmas.joinC_snoc 47 S l hS0, hj]
        have : u.path.getLast? ≠ some 47 := by
          intro h
          rw [← hj] at h
          obtain ⟨l', c, rfl⟩ : ∃ l' c, l = l' ++ [c] := by
            rcases List.eq_nil_or_concat l with h' | ⟨a, b, h'⟩
            · exact absurd h' hl0
            · exact ⟨a, b, by simpa using h'⟩
          have h' : (joinC 47 S ++ 47 :: (l' ++ [c])).getLast? = some c := by
            rw [show joinC 47 S ++ 47 :: (l' ++ [c]) = (joinC 47 S ++ 47 :: l') ++ [c] by simp,
              List.getLast?_concat]
          rw [h'] at h
          have hc : c = 47 := Option.some.inj h
          exact hl47 (by simp [hc])
        rw [if_neg this]

theorem root_base (u : Url) (hpath : u.netloc ≠ [] → (u.path = [] ∨ u.path.head? = some 47)) :
    root u.netloc (base u) = base u := by
  unfold root
  by_cases hn : u.netloc = []
  · simp [hn]
  · rcases hpath hn with h | h
    · simp [base, h]
    · obtain ⟨r, hr⟩ := List.head?_eq_some_iff.1 h
      have : base u = [] :: stripTrail (splitOn 47 r) := by
        simp only [base, hr, List.isEmpty_cons, Bool.false_eq_true, ↓reduceIte, splitOn]
        exact stripTrail_cons _ _ (splitOn_ne_nil _ _)
      rw [this]; simp

/-- the path written by `_with_raw_name`, case by case -/
theorem withRawName_path (u : Url) (nm : Str) (kq kf : Bool) (v : Url) (hnm : 47 ∉ nm)
    (h : withRawName u nm kq kf = .ok v) :
    v.scheme = u.scheme ∧ v.netloc = u.netloc ∧
    (u.path = [] → v.path = (if u.netloc = [] then nm else 47 :: nm)) ∧
    (∀ rest, u.path = 47 :: rest → v.path = 47 :: joinC 47 ((splitOn 47 rest).dropLast ++ [nm])) ∧
    (∀ c rest, u.path = c :: rest → c ≠ 47 → u.netloc = [] →
      v.path = joinC 47 ((splitOn 47 (c :: rest)).dropLast ++ [nm])) := by
  rw [withRawName_closed u nm kq kf hnm] at h
  cases h
  refine ⟨rfl, rfl, fun hp => ?_, fun rest hp => ?_, fun c rest hp hc hn => ?_⟩
  · show joinC 47 (keptSegs u ++ [nm]) = _
    unfold keptSegs
    by_cases hn : u.netloc = []
    · simp [hn, hp, splitOn, joinC, joinSep]
    · simp [hn, hp, splitOn, joinC, joinSep]
  · show joinC 47 (keptSegs u ++ [nm]) = _
    have hk : keptSegs u = [] :: (splitOn 47 rest).dropLast := by
      unfold keptSegs
      rw [hp]
      simp only [splitOn, if_true, List.drop_succ_cons, List.drop_zero]
      split
      · rfl
      · exact List.dropLast_cons_of_ne_nil (splitOn_ne_nil 47 rest)
    rw [hk, List.cons_append, joinC_cons, flatC_eq_joinC 47 _ (by simp)]
    rfl
  · show joinC 47 (keptSegs u ++ [nm]) = _
    unfold keptSegs
    rw [if_neg (fun h => h hn), hp]

theorem joinC_eq_nil {L : List Str} (hne : L ≠ []) (hs : Segs L) (h : joinC 47 L = []) : L = [[]] := by
  have := splitOn_joinC L hne hs
  rw [h] at this
  rw [← this]; rfl

theorem splitOn_eq_single_nil {t : Str} (h : splitOn 47 t = [[]]) : t = [] := by
  have := joinC_splitOn (c := 47) t
  rw [h] at this
  rw [← this]; rfl

theorem stripTrail_eq_nil {S : List Str} (hS : S ≠ []) (h : stripTrail S = []) : S = [[]] := by
  unfold stripTrail at h
  split at h
  · rename_i hl
    cases S with
    | nil => exact absurd rfl hS
    | cons a S' =>
      cases S' with
      | nil => simp at hl; rw [hl]
      | cons b S'' => simp at h
  · exact absurd h hS

theorem base_eq_nil_iff (u : Url) : base u = [] ↔ u.path = [] := by
  constructor
  · intro h
    apply Classical.byContradiction
    intro hp
    have hp' : u.path.isEmpty = false := by simpa using hp
    unfold base at h
    simp only [hp', Bool.false_eq_true, if_false] at h
    exact hp (splitOn_eq_single_nil (stripTrail_eq_nil (splitOn_ne_nil _ _) h))
  · intro h; simp [base, h]

theorem dropSlash_eq_nil {p : Str} (h : dropSlash p = []) : p = [] ∨ p = [47] := by
  unfold dropSlash at h
  split at h
  · rename_i hl
    right
    rcases List.eq_nil_or_concat p with h' | ⟨a, b, h'⟩
    · rw [h'] at hl; cases hl
    · have h'' : p = a ++ [b] := by simpa using h'
      rw [h''] at h hl
      rw [List.dropLast_concat] at h
      rw [List.getLast?_concat] at hl
      subst h
      cases hl
      rw [h'']; rfl
  · exact Or.inl h

/-- `parentPathN` reads the segments before the last, and nothing else unless they are `[""]` (the paths "/name"
    and "/"): then the parent is "/", or "" for "/name" under an authority -/
theorem parentPathN_eq (n p : Str) :
    parentPathN n p = if (splitOn 47 p).dropLast = [[]] ∧ (n = [] ∨ p = [47]) then [47]
      else joinC 47 (splitOn 47 p).dropLast := by
  unfold parentPathN parentPath
  by_cases h47 : p = [47]
  · subst h47
    rw [if_pos (Or.inr rfl), if_pos ⟨rfl, Or.inr rfl⟩]
    exact rootFix_ne _ _ (by simp)
  · by_cases h0 : p = []
    · subst h0
      rw [if_pos (Or.inl rfl), if_neg (fun h => absurd h.1 (by decide))]
      exact rootFix_head _ _ (by simp)
    · have hp := joinC_splitOn (c := 47) p
      have hs := segs_splitOn p
      rw [← List.dropLast_concat_getLast (splitOn_ne_nil 47 p)] at hp hs
      generalize (splitOn 47 p).dropLast = D at hp hs ⊢
      generalize (splitOn 47 p).getLast _ = l at hp hs
      rw [if_neg (not_or.2 ⟨h0, h47⟩), rootFix_eq]
      refine ite_congr (propext ⟨fun ⟨hj, hh, hn⟩ => ⟨?_, Or.inl hn⟩, fun ⟨hD, hn⟩ => ⟨?_, ?_, hn.resolve_right h47⟩⟩)
        (fun _ => rfl) (fun _ => rfl)
      · by_cases hD : D = []
        · subst hD
          have : l = p := by simpa [joinC, joinSep] using hp
          exact absurd (List.mem_of_head? hh) (this ▸ hs l (by simp))
        · exact joinC_eq_nil hD (fun x hx => hs x (by simp [hx])) hj
      · rw [hD]; rfl
      · rw [← hp, hD]; rfl

/-- `_with_raw_name` keeps the segments before the last; on the empty path under an authority it adds the root -/
theorem withRawName_split (u : Url) (nm : Str) (kq kf : Bool) (v : Url) (hnm : 47 ∉ nm)
    (hpath : u.netloc ≠ [] → (u.path = [] ∨ u.path.head? = some 47))
    (h : withRawName u nm kq kf = .ok v) :
    splitOn 47 v.path =
      (if u.path = [] ∧ u.netloc ≠ [] then [[]] else (splitOn 47 u.path).dropLast) ++ [nm] := by
  rw [withRawName_segs u nm kq kf v hnm h, keptSegs_of_rooted u hpath]

/-- nothing normalised, ANY URL (authority or not): the parent of the child by `X' ++ [l]` is the child by
    `X'` — except in the corner "no authority and `base u ++ X' = [""]`" (the parent of "/l" is "/", fix 264b96e) -/
theorem left_plain (u : Url) (X' : List Str) (l : Str) (hX : Segs (X' ++ [l])) (hl : l ≠ [])
    (hc : u.netloc = [] → base u ++ X' ≠ [[]]) :
    parent (childOf u (X' ++ [l]) false) = childOf u X' false := by
  rw [parent_childOf u X' l hX hl, childOf_false]
  congr 1
  by_cases h0 : base u ++ X' = []
  · rw [if_pos h0, h0]; simp [root, joinC, joinSep]
  · rw [if_neg h0]
    unfold slashIfEmpty
    by_cases hn : u.netloc = []
    · have hr : root u.netloc (base u ++ X') = base u ++ X' := by simp [root, hn]
      rw [hr]
      have hne : joinC 47 (base u ++ X') ≠ [] := fun hj => hc hn (joinC_eq_nil h0
        (segs_append (segs_base u) (fun p hp => hX p (List.mem_append_left _ hp))) hj)
      rw [if_neg (fun h => hne h.1)]
    · rw [if_neg (fun h => hn h.2)]

end PathMore

/-- `(u / s).parent` is `u` without query and fragment and without ONE trailing slash of its path — exactly
    (`s` one plain segment as in `C13_child_name_decoded`).  The root without an authority keeps its slash
    (fix 264b96e: the absolute path must not become relative): for `u = URL("/")`, `(u / "t").parent` is `URL("/")`
    itself. -/
theorem C13_child_parent (e : Env) (u : Url) (s : Str) (v : Url)
    (hs : PyStr s) (hsur : NoSurrogate s) (h47 : 47 ∉ s) (hne : s ≠ [])
    (hdot : s ≠ dot ∧ s ≠ dotdot)
    (hold : u.netloc ≠ [] → NoDots (splitOn 47 u.path))
    (hpath : u.netloc ≠ [] → (u.path = [] ∨ u.path.head? = some 47)) :
    makeChild e u [s] false = .ok v →
      parent v = fromParts u.scheme u.netloc
        (if u.netloc = [] ∧ u.path = [47] then [47] else dropSlash u.path) [] [] := by
  intro h
  have hq47 := C13_path_quoter_no_slash e s hs h47
  have hqne := C13_path_quoter_nonempty e s hs hsur hne
  obtain ⟨h1, h2⟩ := q_path_eq_dot_iff e s hs hsur
  have hs0 : s.head? ≠ some 47 := fun hc => h47 (List.mem_of_head? hc)
  have hX : argSegs e false [s] = [q e Gen.PATH_QUOTER s] := by
    simp [argSegs, argText, PathLemmas.splitOn_of_not_mem 47 _ hq47]
  obtain ⟨hv, _⟩ := C13_joinpath_parts e u [s] false v (by simp)
    (by intro p hp; simp at hp; subst hp; exact q_path_head e p hs hsur hs0)
    (by
      intro hn
      refine ⟨hold hn, ?_⟩
      intro p hp; simp at hp; subst hp
      show NoDots (splitOn 47 (q e Gen.PATH_QUOTER p))
      rw [PathLemmas.splitOn_of_not_mem 47 _ hq47]
      intro x hx
      simp at hx; subst hx
      exact ⟨fun hc => hdot.1 (h1.1 hc), fun hc => hdot.2 (h2.1 hc)⟩)
    (by intro _ _ hc; rw [hX] at hc; simp at hc; exact hqne hc)
    hpath h
  rw [hv, hX]
  have := parent_childOf u [] (q e Gen.PATH_QUOTER s) (by simpa using segs_single hq47) hqne
  rw [List.nil_append] at this
  rw [this, List.append_nil, root_base u hpath]
  congr 1
  rw [joinC_base]
  by_cases hp : u.path = []
  · rw [if_pos ((base_eq_nil_iff u).2 hp), if_neg (by simp [hp])]
    simp [hp, dropSlash]
  · rw [if_neg (mt (base_eq_nil_iff u).1 hp)]
    unfold slashIfEmpty
    by_cases hc : u.netloc = [] ∧ u.path = [47]
    · rw [if_pos hc, if_pos ⟨by rw [hc.2]; rfl, hc.1⟩]
    · rw [if_neg hc, if_neg]
      rintro ⟨hd, hn⟩
      rcases dropSlash_eq_nil hd with h' | h'
      · exact hp h'
      · exact hc ⟨hn, h'⟩

/-- the `URL("/")` instance of `C13_child_parent`, as the fix 264b96e intends: `(URL("/") / "t").parent` is
    `URL("/")` itself -/
theorem C13_child_parent_root (e : Env) (s : Str) (v : Url)
    (hs : PyStr s) (hsur : NoSurrogate s) (h47 : 47 ∉ s) (hne : s ≠ []) (hdot : s ≠ dot ∧ s ≠ dotdot) :
    makeChild e (fromParts [] [] [47] [] []) [s] false = .ok v → parent v = fromParts [] [] [47] [] [] := by
  intro h
  have := C13_child_parent e (fromParts [] [] [47] [] []) s v hs hsur h47 hne hdot
    (fun hn => absurd rfl hn) (fun hn => absurd rfl hn) h
  rw [this]; rfl

/-- `(u / "a/b").parent` is `u / "a"` (`b` one plain non-empty segment; nothing normalised).
    `hcorner`: on the EMPTY URL reference (no authority, empty path) the quoted `a` must not be empty — `a` itself is
    non-empty (a leading '/' is refused), so this only excludes an `a` made of lone surrogates, which the quoter
    drops: then `u / "a/b"` is "/b", whose parent is "/" (fix 264b96e) while `u / "a"` is ""
    (`C13_child_slash_parent_surrogate_corner`).  `NoSurrogate a` implies it. -/
theorem C13_child_slash_parent (e : Env) (u : Url) (a b : Str) (w v : Url)
    (ha : PyStr a) (hb : PyStr b) (hbs : NoSurrogate b) (hb47 : 47 ∉ b) (hb0 : b ≠ [])
    (hnd : u.netloc ≠ [] → NoDots (splitOn 47 u.path) ∧ NoDots (splitOn 47 (q e Gen.PATH_QUOTER a)) ∧
      b ≠ dot ∧ b ≠ dotdot)
    (hcorner : u.netloc = [] → u.path = [] → q e Gen.PATH_QUOTER a ≠ []) :
    makeChild e u [a ++ 47 :: b] false = .ok w → makeChild e u [a] false = .ok v → parent w = v := by
  intro h1 h2
  rw [makeChild_one e u _ (makeChild_head e u _ [] w h1)] at h1
  rw [makeChild_one e u a (makeChild_head e u a [] v h2)] at h2
  cases h1
  cases h2
  have hqb47 := C13_path_quoter_no_slash e b hb hb47
  obtain ⟨d1, d2⟩ := q_path_eq_dot_iff e b hb hbs
  rw [q_slash e a b ha hb, splitOn_append 47, PathLemmas.splitOn_of_not_mem 47 _ hqb47]
  have hSA0 := splitOn_ne_nil 47 (q e Gen.PATH_QUOTER a)
  -- neither call normalises anything
  have hqbd : u.netloc ≠ [] → NoDots [q e Gen.PATH_QUOTER b] := fun hn x hx => by
    rw [List.mem_singleton.1 hx]
    exact ⟨fun hc => (hnd hn).2.2.1 (d1.1 hc), fun hc => (hnd hn).2.2.2 (d2.1 hc)⟩
  rw [HeadB.childOf_nodots u _ (by simp) (fun hn => ⟨(hnd hn).1, noDots_append (hnd hn).2.1 (hqbd hn)⟩),
    HeadB.childOf_nodots u _ hSA0 (fun hn => ⟨(hnd hn).1, (hnd hn).2.1⟩)]
  refine left_plain u _ _ (segs_append (segs_splitOn _) (segs_single hqb47))
    (C13_path_quoter_nonempty e b hb hbs hb0) (fun hn hc => ?_)
  rcases List.append_eq_singleton_iff.1 hc with ⟨hb', hS⟩ | ⟨_, hS⟩
  · exact hcorner hn ((base_eq_nil_iff u).1 hb') (splitOn_eq_single_nil hS)
  · exact hSA0 hS

/-- `with_name(n)` has the same `parent`, as Python `==` (`eqKey`): for a path that is empty or rooted under an
    authority, and for EVERY path without one (`URL("/name").parent` is `URL("/")`, fix 264b96e, so the one-segment
    rooted paths "/" and "/t" are no exception); the "exact" clause needs its "more than one segment" premise only
    under an authority. -/
theorem C13_with_name_parent (e : Env) (u : Url) (nm : Str) (kq kf : Bool) (v : Url) (hnm : PyStr nm)
    (hpath : u.netloc ≠ [] → (u.path = [] ∨ u.path.head? = some 47)) :
    withName e u nm kq kf = .ok v →
      eqKey (parent v) = eqKey (parent u) ∧
      -- exact (all five stored parts) unless, under an authority, the rooted path has a single segment or is empty
      ((u.path ≠ [] ∨ u.netloc = []) → (u.netloc ≠ [] → ∀ t, u.path = 47 :: t → 47 ∈ t) →
        pickleTwin (parent v) = pickleTwin (parent u)) := by
  intro h
  obtain ⟨h47, _, _, hraw⟩ := ModShape.withName_ok h
  have hq47 := C13_path_quoter_no_slash e nm hnm h47
  obtain ⟨hsch, hnet, _⟩ := withRawName_path u _ kq kf v hq47 hraw
  have hsp := congrArg List.dropLast (withRawName_split u _ kq kf v hq47 hpath hraw)
  rw [List.dropLast_concat] at hsp
  rw [← eqKey_pickleTwin (parent v), ← eqKey_pickleTwin (parent u), parent_eq, parent_eq, hsch, hnet,
    parentPathN_eq, parentPathN_eq]
  by_cases hn : u.netloc = []
  · -- without an authority the parent is a function of the segments before the last
    rw [if_neg (fun h => h.2 hn)] at hsp
    rw [hsp]
    simp [hn]
  · have hn' : u.netloc.isEmpty = false := by simpa using hn
    simp only [hn, false_or]
    by_cases hp : u.path = []
    · -- "" and "/" are the same path under an authority
      rw [if_pos ⟨hp, hn⟩] at hsp
      rw [hsp, hp]
      refine ⟨?_, fun h1 => absurd rfl (h1.resolve_right id)⟩
      split <;> simp [eqKey, fromParts, hn', splitOn, joinC, joinSep]
    · rw [if_neg (fun h => hp h.1)] at hsp
      rw [hsp]
      by_cases hD : (splitOn 47 u.path).dropLast = [[]]
      · -- one segment after the root: both parents are "" or "/"
        rw [hD]
        refine ⟨by split <;> split <;> simp [eqKey, fromParts, hn', joinC, joinSep], fun _ h2 => ?_⟩
        have hj := joinC_splitOn (c := 47) u.path
        rw [← List.dropLast_concat_getLast (splitOn_ne_nil 47 u.path), hD] at hj
        exact absurd (h2 hn _ hj.symm) (segs_splitOn u.path _ (List.getLast_mem _))
      · rw [if_neg (fun h => hD h.1), if_neg (fun h => hD h.1)]
        exact ⟨rfl, fun _ _ => rfl⟩

/-- the one-segment rooted paths without an authority, where "the same parent" is decided by what `parent` makes of
    "/name": `URL("/name").parent == URL("/")` (fix 264b96e), so the parents of `URL("/")`, `URL("/").with_name("a")`,
    `URL("/t")` and `URL("/t").with_name("")` are all the root `URL("/")`. -/
theorem C13_with_name_parent_now_agrees (e : Env) :
    let r := fromParts [] [] "/".toStr [] []
    let t := fromParts [] [] "/t".toStr [] []
    let a := fromParts [] [] "/a".toStr [] []
    withName e r "a".toStr false false = .ok a ∧ parent a = r ∧ parent r = r ∧
    withName e t [] false false = .ok r ∧ parent t = r ∧
    eqKey (parent a) = eqKey (parent r) ∧ eqKey (parent r) = eqKey (parent t) := by
  intro r t a
  have qa : q e Gen.PATH_QUOTER "a".toStr = "a".toStr := C13_path_quoter_a e
  have q0 : q e Gen.PATH_QUOTER [] = [] := q_path_nil e
  refine ⟨?_, by decide +kernel, by decide +kernel, ?_, by decide +kernel⟩
  · unfold withName
    rw [qa]
    decide +kernel
  · unfold withName
    rw [q0]
    decide +kernel

/-- the corner that `C13_child_slash_parent` excludes: on the empty URL reference an `a` made of a lone surrogate is
    dropped by the quoter, `u / "a/b"` is "/b" — whose parent is "/" (fix 264b96e) — while `u / "a"` is "" -/
theorem C13_child_slash_parent_surrogate_corner : ∀ b : Backend,
    let u := fromParts [] [] [] [] []
    makeChild ⟨b, Oracles.empty⟩ u [[0xD800] ++ "/b".toStr] false = .ok (fromParts [] [] "/b".toStr [] []) ∧
    makeChild ⟨b, Oracles.empty⟩ u [[0xD800]] false = .ok u ∧
    parent (fromParts [] [] "/b".toStr [] []) = fromParts [] [] "/".toStr [] [] ∧
    fromParts [] [] "/".toStr [] [] ≠ u ∧ q ⟨b, Oracles.empty⟩ Gen.PATH_QUOTER [0xD800] = [] := by
  str_lits; intro b; cases b <;> decide +kernel

private def o0 : Oracles := Oracles.empty

/-- `URL("http://h/a.b").with_suffix(".tar.gz")` is `http://h/a.tar.gz`, whose suffix is ".gz", not ".tar.gz" -/
theorem C13_with_suffix_multi_dot_example : ∀ b : Backend,
    let u := fromParts "http".toStr "h".toStr "/a.b".toStr [] []
    let v := fromParts "http".toStr "h".toStr "/a.tar.gz".toStr [] []
    withSuffix ⟨b, o0⟩ u ".tar.gz".toStr false false = .ok v ∧ rawSuffix v = .ok ".gz".toStr ∧
      rawSuffixes v = .ok [".tar".toStr, ".gz".toStr] := by
  str_lits; intro b; cases b <;> decide +kernel


/-! ## non-vacuity -/

private def uA : Url := fromParts "http".toStr "h".toStr "/a/".toStr "k=v".toStr "f".toStr
private def uB : Url := fromParts "http".toStr "h".toStr "/a/b.tar.gz".toStr "k=v".toStr []
private def sA : Str := [98, 32, 233, 47, 100, 46, 101, 47, 0x1F600]   -- "b é/d.e/😀"

/-- `C13_child_slash` / `C13_child_slash_parent`: hypotheses hold and the call succeeds on a text with '/', ' ',
    non-ASCII and a '.' that is not a dot segment -/
example : PyStr sA ∧ NoSurrogate sA ∧ NoDots (splitOn 47 uA.path) ∧ NoDots (splitOn 47 sA) ∧
    (uA.netloc ≠ [] → (uA.path = [] ∨ uA.path.head? = some 47)) := by
  simp only [uA, NoDots]; str_lits; decide +kernel
example : ∀ b : Backend, makeChild ⟨b, o0⟩ uA [sA] false =
    .ok (fromParts "http".toStr "h".toStr "/a/b%20%C3%A9/d.e/%F0%9F%98%80".toStr [] []) := by
  simp only [uA]; str_lits; intro b; cases b <;> decide +kernel
/-- `C13_child_name_decoded` / `C13_child_parent`: one segment with '.', not a dot segment -/
example : PyStr "c.txt".toStr ∧ NoSurrogate "c.txt".toStr ∧ 47 ∉ "c.txt".toStr ∧ "c.txt".toStr ≠ dot ∧
    "c.txt".toStr ≠ dotdot ∧ dropSlash uA.path = "/a".toStr := by
  simp only [uA]; str_lits; decide +kernel
/-- `C13_joinpath_encoded_name` -/
example : ∀ b : Backend, makeChild ⟨b, o0⟩ uA ["x/".toStr, "y%20z/w.q".toStr] true =
    .ok (fromParts "http".toStr "h".toStr "/a/x/y%20z/w.q".toStr [] []) := by
  simp only [uA]; str_lits; intro b; cases b <;> decide +kernel
example : NoDots (splitOn 47 "x/".toStr) ∧ NoDots (splitOn 47 "y%20z/w.q".toStr) := by
  unfold NoDots; str_lits; decide +kernel
/-- `C13_joinpath_nary`: three arguments with "." segments (normalised at every step), no ".." -/
example : ∀ b : Backend,
    let ps := ["a/.".toStr, "./b".toStr, "c/d".toStr]
    (dotdot ∉ splitOn 47 uA.path ∧ ∀ a ∈ ps.dropLast, dotdot ∉ splitOn 47 (argText ⟨b, o0⟩ false a)) ∧
    makeChild ⟨b, o0⟩ uA ps false = .ok (fromParts "http".toStr "h".toStr "/a/a/b/c/d".toStr [] []) := by
  simp only [uA]; str_lits; intro b; cases b <;> decide +kernel
/-- `C13_with_suffix_suffix` / `C13_with_suffix_decoded` -/
example : PyStr ".t x".toStr ∧ NoSurrogate ".t x".toStr ∧ ".t x".toStr ≠ [] ∧ 46 ∉ (".t x".toStr).drop 1 := by
  str_lits; decide +kernel
example : ∀ b : Backend, withSuffix ⟨b, o0⟩ uB ".t x".toStr true false =
    .ok (fromParts "http".toStr "h".toStr "/a/b.tar.t%20x".toStr "k=v".toStr []) := by
  simp only [uB]; str_lits; intro b; cases b <;> decide +kernel
/-- `C13_with_name_parent` / `C13_with_name_decoded` -/
example : ∀ b : Backend, withName ⟨b, o0⟩ uB "n m".toStr true true =
    .ok (fromParts "http".toStr "h".toStr "/a/n%20m".toStr "k=v".toStr []) := by
  simp only [uB]; str_lits; intro b; cases b <;> decide +kernel
example : parent uB = fromParts "http".toStr "h".toStr "/a".toStr [] [] ∧
    parent (fromParts "http".toStr "h".toStr "/a/n%20m".toStr "k=v".toStr []) = parent uB := by
  simp only [uB]; str_lits; decide +kernel
/-- `C13_suffixes_spec` -/
example : rawName uB = .ok "b.tar.gz".toStr ∧ rawSuffix uB = .ok ".gz".toStr ∧
    rawSuffixes uB = .ok [".tar".toStr, ".gz".toStr] := by
  simp only [uB]; str_lits; decide +kernel

end Yarl

