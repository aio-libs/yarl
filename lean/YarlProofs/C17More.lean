import YarlProofs.C17HeadlineMore
import YarlProofs.C11Encoded
import YarlProofs.C09Bracket
import YarlProofs.C03Idn
/-!
# C17 — port semantics: the `int()` grammar of the port text, the default-port fall-back, `is_default_port()`,
`with_port` on arbitrary stored authorities, and every constructor result

Property statement (verbatim):

> explicit_port is the integer value of the port written in the URL, which must lie in 0-65535
> (non-numeric or out-of-range ports are rejected with ValueError); port falls back to the scheme default
> (http/ws 80, https/wss 443, ftp 21) only when none is written, and port 0 is distinct from absent.
> str(), host_port_subcomponent and is_default_port() omit or report the port as default exactly when it is
> absent or equals the scheme default; with_port(p) sets any valid p, clears on None, and rejects bools,
> non-integers and out-of-range values.

## 1 — `pyIntAscii` against Python's `int()` (base 10)
(The grammar `PyIntBody` / `PyIntForm` and its scanner proof stand here because the `C17_pyInt_*` theorems do;
they need only the model, `ParseLemmas.lstripSet_eq` and Lemmas/Decimal.lean.  `namespace PyInt` holds their
helpers, `namespace PortAux` the host-text helper `hostPort_swallow` of section 4.)
Vocabulary (namespace `Yarl`): `PyWs s` (a run of the ASCII whitespace `int()` strips: 9–13, 28–31, 32),
`PyIntBody b v` (`digit (_? digit)*` with its decimal value), `PyIntForm s v` (`ws* [+-]? body ws*` with the signed
value), `pyStrip` / `pyIntCore` (the two stages of the model's `pyIntAscii`), `EdgeFree` (no whitespace at the ends).
 * `C17_pyInt_spec`            — SPEC, sound and complete, every `s`: `pyIntAscii s = some v ↔ PyIntForm s v`.
 * `C17_digitsUnderscore_spec`, `C17_pyIntBody_props` — the digit scanner accepts exactly `digit (_? digit)*`; a body
   starts and ends with a digit, has digits and '_' only, its value is the decimal value of its digits.
 * `C17_pyInt_core`, `C17_pyInt_strip_exists`, `C17_pyInt_strip_unique` — `int()` depends on the stripped text only;
   the decomposition `ws ++ core ++ ws'` exists and is unique.
 * `C17_pyInt_rejects`         — rejections (on the stripped text): empty / only a sign; leading, trailing, double
   underscore; any non-digit non-'_' character behind the sign or another character (interior whitespace, second
   sign, letters as in "0x50", non-ASCII).  `C17_pyInt_alphabet` — necessary conditions on the WHOLE text.
 * `C17_pyInt_digits`          — plain digit strings: value, leading zeros ("080" = 80), `natToStr` is the canonical
   inverse (`natToStr (value ds)` = `ds` without superfluous leading zeros).
 * `C17_splitNetloc_ascii_port`, `C17_splitNetloc_port_iff`, `C17_portText_after_host`, `C17_portText_plain`,
   `C17_host_port_accepts` — `split_netloc` accepts an ASCII port text `ps` with port `p` iff `int(ps) = p`,
   0 ≤ p ≤ 65535, ValueError otherwise; `C17_port_text_instances` ("+80", " 80 ", "8_0", "080", "-0" accepted;
   "-1", "65536", "8__0", "_80", "80_", "8 0", "0x50", "+-80", "+", " " rejected; "" no port; "８０" via the `intU`
   oracle: `C17_pyInt_non_ascii`).
 * `C17_ctor_netloc_no_tab`    — TAB / LF / CR never reach the port parser through the constructor (`split_url`
   removes them); `C17_ctor_port_whitespace` — space, VT, FF, FS–US do, and are accepted around the digits; a
   TAB / LF / CR inside the digits is removed (`URL("http://h:8\t0/")` has port 80).

## 2 — "only when none is written"
 * `C17_default_port_table` (complete `DEFAULT_PORTS` table for ALL schemes, computed from the generated table),
   `C17_default_port_none` — both in C17.lean.
 * `C17_port_default_iff`      — `port = p` iff `p` is written, or nothing is written and `p` is the scheme default.
 * `C17_default_port_build_vs_ctor` (+ `_instances`) — `build(port=default)` drops the port, the constructor keeps it.

## 3 — `is_default_port()`
 * `C17_is_default_port_iff` (full truth table), `C17_is_default_port_cases` (scheme without default: written port
   → False; ABSENT port with an authority → True — the oddity `URL("foo://h").is_default_port()`; no authority →
   False; relation with `port`), `C17_is_default_port_no_authority`, `C17_is_default_port_instances`.

## 4 — `with_port` on arbitrary stored authorities
(For URLs without cache most of this is already in `C11Encoded.lean`: `C11_arbitrary_authority_modifiers`,
`C11_arbitrary_authority_frame_with_port`, `C11_arbitrary_authority_split_fails`; here: ANY URL, in terms of `net`,
and the sharpness of the read-back.)
 * `C17_with_port_exact` (C17.lean), `C17_with_port_result` — the exact result / the error passed on, with the order
   of checks.
 * `C17_with_port_readback` (hypotheses on the raw components only), `C17_lazy_components_ok` (they hold for every
   URL without cache except "host without ':' containing '['"), `C17_with_port_readback_fails` (in that case
   explicit_port reads None: the read-back theorem is sharp — `C17_with_port_readback_lazy_iff`),
   `C17_with_port_encoded_instances`,
   `C17_with_port_readback_counterexample`.

## 5 — sentence 2 on constructor results outside `AuthInput`
 * `C17_port_views_of_net` (C17.lean) — every port view of ANY URL as a function of its authority components.
 * `C17_ctor_port_views_any`   — EVERY accepted constructor input with an authority (no side condition).
 * `C17_bracket_ctor_port_views` (IPvFuture / bracketed non-IPv6, brackets dropped on re-make when the host has no
   ':'), `C17_empty_host_ctor_port_views`, `C17_idn_ctor_port_views`; `C17_bracket_ctor_instances`,
   `C17_empty_host_ctor_instances`.
-/
namespace Yarl
open NetlocLemmas CtorMods EagerLemmas HeadB

/-! ## 1 — `int()` -/

/-- Python's ASCII whitespace run (what `int()` strips at both ends) -/
def PyWs (s : Str) : Prop := ∀ c ∈ s, isPySpaceC c = true

instance (s : Str) : Decidable (PyWs s) := by unfold PyWs; infer_instance

/-- `digit (_? digit)*` with its decimal value (underscores ignored) -/
inductive PyIntBody : Str → Nat → Prop
  | digit (c : Nat) : isDigitC c = true → PyIntBody [c] (c - 48)
  | snoc (b : Str) (v c : Nat) : PyIntBody b v → isDigitC c = true → PyIntBody (b ++ [c]) (v * 10 + (c - 48))
  | usnoc (b : Str) (v c : Nat) : PyIntBody b v → isDigitC c = true → PyIntBody (b ++ [95, c]) (v * 10 + (c - 48))

/-- the base-10 grammar of Python's `int(str)`: `ws* [+-]? digit (_? digit)* ws*`, with the value -/
def PyIntForm (s : Str) (v : Int) : Prop :=
  ∃ ws1 sign body ws2 n, s = ws1 ++ sign ++ body ++ ws2 ∧ PyWs ws1 ∧ PyWs ws2 ∧
    (sign = [] ∨ sign = [43] ∨ sign = [45]) ∧ PyIntBody body n ∧
    v = if sign = [45] then - Int.ofNat n else Int.ofNat n

/-- `s.strip()` as `int()` applies it (the model's own expression) -/
def pyStrip (s : Str) : Str :=
  (lstripSet ((List.range 128).filter isPySpaceC)
    (lstripSet ((List.range 128).filter isPySpaceC) s).reverse).reverse

/-- `int()` on a stripped text: optional sign, then digits with single interior underscores -/
def pyIntCore (r : Str) : Option Int :=
  match r with
  | [] => none
  | 43 :: r => (digitsUnderscore r none false).map Int.ofNat
  | 45 :: r => (digitsUnderscore r none false).map (fun n => - Int.ofNat n)
  | r => (digitsUnderscore r none false).map Int.ofNat

/-- no whitespace at either end -/
def EdgeFree (r : Str) : Prop :=
  (∀ c, r.head? = some c → isPySpaceC c = false) ∧ (∀ c, r.getLast? = some c → isPySpaceC c = false)

instance (r : Str) : Decidable (EdgeFree r) :=
  decidable_of_iff (r.head?.all (fun c => !isPySpaceC c) = true ∧ r.getLast?.all (fun c => !isPySpaceC c) = true)
    (by unfold EdgeFree; cases r.head? <;> cases r.getLast? <;> simp)

namespace PyInt

theorem mem_W (c : Nat) : mem c ((List.range 128).filter isPySpaceC) = isPySpaceC c := by
  rw [mem_eq]
  by_cases h : isPySpaceC c = true
  · have : c < 128 := by unfold isPySpaceC at h; simp at h; omega
    simp [h, this]
  · simp [h]

/-- `lstrip` of Python's whitespace is core's `dropWhile` … -/
theorem lstripWs_eq (s : Str) : lstripSet ((List.range 128).filter isPySpaceC) s = s.dropWhile isPySpaceC := by
  rw [ParseLemmas.lstripSet_eq]
  congr 1
  exact funext mem_W

/-- … so `strip` is `dropWhile` at both ends, and its two characterisations are facts about `takeWhile` /
    `dropWhile` -/
theorem pyStrip_eq (s : Str) : pyStrip s = ((s.dropWhile isPySpaceC).reverse.dropWhile isPySpaceC).reverse := by
  unfold pyStrip
  rw [lstripWs_eq, lstripWs_eq]

theorem head_dropWhile (s : Str) (c : Nat) (h : (s.dropWhile isPySpaceC).head? = some c) : isPySpaceC c = false := by
  have := List.head?_dropWhile_not isPySpaceC s
  rw [h] at this
  exact this

theorem pyStrip_spec (s : Str) :
    ∃ ws1 ws2, s = ws1 ++ pyStrip s ++ ws2 ∧ PyWs ws1 ∧ PyWs ws2 ∧ EdgeFree (pyStrip s) := by
  rw [pyStrip_eq]
  generalize hm : s.dropWhile isPySpaceC = m
  refine ⟨s.takeWhile isPySpaceC, (m.reverse.takeWhile isPySpaceC).reverse, ?_,
    fun c hc => List.all_eq_true.1 List.all_takeWhile c hc,
    fun c hc => List.all_eq_true.1 List.all_takeWhile c (List.mem_reverse.1 hc), ?_, ?_⟩
  · rw [List.append_assoc, ← List.reverse_append, List.takeWhile_append_dropWhile, List.reverse_reverse, ← hm,
      List.takeWhile_append_dropWhile]
  · intro c hc
    -- the stripped text is a prefix of `m`, whose head is no whitespace
    cases hr : (m.reverse.dropWhile isPySpaceC).reverse with
    | nil =>
      rw [hr] at hc
      cases hc
    | cons a t =>
      rw [hr] at hc
      apply head_dropWhile s c
      have e : m = (a :: t) ++ (m.reverse.takeWhile isPySpaceC).reverse := by
        rw [← hr, ← List.reverse_append, List.takeWhile_append_dropWhile, List.reverse_reverse]
      rw [hm, e]
      exact hc
  · intro c hc
    rw [List.getLast?_reverse] at hc
    exact head_dropWhile _ c hc

theorem pyStrip_sandwich (ws1 core ws2 : Str) (h1 : PyWs ws1) (h2 : PyWs ws2) (hc : EdgeFree core) :
    pyStrip (ws1 ++ core ++ ws2) = core := by
  have keep : ∀ r : Str, (∀ c, r.head? = some c → isPySpaceC c = false) → r.dropWhile isPySpaceC = r := by
    intro r hr
    cases r with
    | nil => rfl
    | cons x xs => exact List.dropWhile_cons_of_neg (by simp [hr x rfl])
  rw [pyStrip_eq, List.append_assoc, List.dropWhile_append_of_pos h1]
  by_cases hnil : core = []
  · subst hnil
    rw [List.nil_append, ← List.append_nil ws2, List.dropWhile_append_of_pos h2]
    rfl
  · have hh : ∀ c, (core ++ ws2).head? = some c → isPySpaceC c = false := by
      cases core with
      | nil => exact absurd rfl hnil
      | cons x xs => exact hc.1
    rw [keep _ hh, List.reverse_append, List.dropWhile_append_of_pos (fun c hcc => h2 c (List.mem_reverse.1 hcc)),
      keep _ (fun c hcc => hc.2 c (by rwa [List.head?_reverse] at hcc)), List.reverse_reverse]

/-! ### `digitsUnderscore` -/

theorem du_body (b : Str) (v : Nat) (hb : PyIntBody b v) (rest : Str) :
    digitsUnderscore (b ++ rest) none false = digitsUnderscore rest (some v) false := by
  induction hb generalizing rest with
  | digit c hc => simp [digitsUnderscore, hc]
  | snoc b v c _ hc ih =>
    rw [List.append_assoc, ih]
    simp [digitsUnderscore, hc]
  | usnoc b v c _ hc ih =>
    rw [List.append_assoc, ih]
    have h95 : isDigitC 95 = false := by decide +kernel
    simp [digitsUnderscore, hc, h95]

theorem du_body_value (b : Str) (v : Nat) (hb : PyIntBody b v) : digitsUnderscore b none false = some v := by
  have := du_body b v hb []
  simpa [digitsUnderscore] using this

/-- the parser state after a prefix `p` -/
def St (p : Str) (acc : Option Nat) (lastU : Bool) : Prop :=
  match acc, lastU with
  | none, false => p = []
  | none, true => False
  | some a, false => PyIntBody p a
  | some a, true => ∃ p', p = p' ++ [95] ∧ PyIntBody p' a

theorem du_complete (rest : Str) : ∀ (p : Str) (acc : Option Nat) (lastU : Bool) (v : Nat),
    St p acc lastU → digitsUnderscore rest acc lastU = some v → PyIntBody (p ++ rest) v := by
  induction rest with
  | nil =>
    intro p acc lastU v hst h
    cases lastU with
    | true => simp [digitsUnderscore] at h
    | false =>
      simp only [digitsUnderscore, Bool.false_eq_true, if_false] at h
      subst h
      simpa [St] using hst
  | cons c cs ih =>
    intro p acc lastU v hst h
    unfold digitsUnderscore at h
    by_cases hc : isDigitC c = true
    · rw [if_pos hc] at h
      have hst' : St (p ++ [c]) (some (acc.getD 0 * 10 + (c - 48))) false := by
        cases acc with
        | none =>
          cases lastU with
          | true => exact hst.elim
          | false =>
            have : p = [] := hst
            subst this
            simpa [St] using PyIntBody.digit c hc
        | some a =>
          cases lastU with
          | false => exact PyIntBody.snoc p a c hst hc
          | true =>
            obtain ⟨p', e, hb⟩ := hst
            subst e
            have := PyIntBody.usnoc p' a c hb hc
            simpa [St] using this
      have := ih (p ++ [c]) _ false v hst' h
      simpa using this
    · rw [if_neg hc] at h
      by_cases h95 : c = 95
      · rw [if_pos h95] at h
        subst h95
        cases acc with
        | none => cases h
        | some a =>
          cases lastU with
          | true => simp at h
          | false =>
            simp only [Bool.false_eq_true, if_false] at h
            have hst' : St (p ++ [95]) (some a) true := ⟨p, rfl, hst⟩
            have := ih (p ++ [95]) _ true v hst' h
            simpa using this
      · rw [if_neg h95] at h; cases h

theorem du_iff (b : Str) (v : Nat) : digitsUnderscore b none false = some v ↔ PyIntBody b v :=
  ⟨fun h => by simpa using du_complete b [] none false v rfl h, du_body_value b v⟩

/-! ### properties of a body -/

theorem body_ends (b : Str) (v : Nat) (hb : PyIntBody b v) :
    (∃ c t, b = c :: t ∧ isDigitC c = true) ∧ (∃ c, b.getLast? = some c ∧ isDigitC c = true) := by
  induction hb with
  | digit c hc => exact ⟨⟨c, [], rfl, hc⟩, ⟨c, rfl, hc⟩⟩
  | snoc b v c _ hc ih =>
    obtain ⟨⟨d, t, e, hd⟩, _⟩ := ih
    exact ⟨⟨d, t ++ [c], by rw [e]; rfl, hd⟩, ⟨c, by simp, hc⟩⟩
  | usnoc b v c _ hc ih =>
    obtain ⟨⟨d, t, e, hd⟩, _⟩ := ih
    refine ⟨⟨d, t ++ [95, c], by rw [e]; rfl, hd⟩, ⟨c, ?_, hc⟩⟩
    rw [show b ++ [95, c] = (b ++ [95]) ++ [c] by simp]
    exact List.getLast?_concat ..

theorem body_chars (b : Str) (v : Nat) (hb : PyIntBody b v) : ∀ c ∈ b, isDigitC c = true ∨ c = 95 := by
  induction hb with
  | digit c hc => intro x hx; simp at hx; subst hx; exact Or.inl hc
  | snoc b v c _ hc ih =>
    intro x hx
    rcases List.mem_append.1 hx with h | h
    · exact ih x h
    · simp at h; subst h; exact Or.inl hc
  | usnoc b v c _ hc ih =>
    intro x hx
    rcases List.mem_append.1 hx with h | h
    · exact ih x h
    · simp at h
      rcases h with rfl | rfl
      · exact Or.inr rfl
      · exact Or.inl hc

/-- the value is the decimal value of the digits, underscores dropped -/
theorem body_value (b : Str) (v : Nat) (hb : PyIntBody b v) : v = dv 0 (b.filter isDigitC) := by
  induction hb with
  | digit c hc => simp [hc, dv]
  | snoc b v c _ hc ih =>
    simp only [List.filter_append, List.filter_cons, hc, if_true, List.filter_nil]
    unfold dv at ih ⊢
    rw [List.foldl_append, ← ih]; rfl
  | usnoc b v c _ hc ih =>
    have h95 : isDigitC 95 = false := by decide +kernel
    simp only [List.filter_append, List.filter_cons, hc, h95, if_true, List.filter_nil]
    unfold dv at ih ⊢
    rw [List.foldl_append, ← ih]; rfl

theorem digit_not_ws {c : Nat} (h : isDigitC c = true) : isPySpaceC c = false := by
  unfold isDigitC at h; unfold isPySpaceC; simp at h ⊢; omega

/-- an unsigned stripped text (first character not a sign) -/
theorem pyIntCore_unsigned (r : Str) (h43 : r.head? ≠ some 43) (h45 : r.head? ≠ some 45) :
    pyIntCore r = (digitsUnderscore r none false).map Int.ofNat := by
  unfold pyIntCore
  split
  · rfl
  · simp at h43
  · simp at h45
  · rfl

/-- the signed reading of a stripped text: behind an optional sign, the digit scanner -/
theorem pyIntCore_signed (sign t : Str) (hs : sign = [] ∨ sign = [43] ∨ sign = [45])
    (ht : sign = [] → t.head? ≠ some 43 ∧ t.head? ≠ some 45) :
    pyIntCore (sign ++ t) =
      (digitsUnderscore t none false).map (fun n => if sign = [45] then - Int.ofNat n else Int.ofNat n) := by
  rcases hs with rfl | rfl | rfl
  · exact pyIntCore_unsigned t (ht rfl).1 (ht rfl).2
  · rfl
  · rfl

/-- every text splits into an optional sign and a rest that does not start with a sign when none was taken -/
theorem sign_split (r : Str) : ∃ sign t, r = sign ++ t ∧ (sign = [] ∨ sign = [43] ∨ sign = [45]) ∧
    (sign = [] → t.head? ≠ some 43 ∧ t.head? ≠ some 45) := by
  cases r with
  | nil => exact ⟨[], [], rfl, .inl rfl, fun _ => ⟨nofun, nofun⟩⟩
  | cons c t =>
    by_cases h43 : c = 43
    · exact ⟨[43], t, congrArg (· :: t) h43, .inr (.inl rfl), nofun⟩
    · by_cases h45 : c = 45
      · exact ⟨[45], t, congrArg (· :: t) h45, .inr (.inr rfl), nofun⟩
      · exact ⟨[], c :: t, rfl, .inl rfl, fun _ => ⟨by simp [h43], by simp [h45]⟩⟩

/-- the grammar of a stripped text: `[+-]? digit (_? digit)*` -/
theorem pyIntCore_spec (r : Str) (v : Int) : pyIntCore r = some v ↔
    ∃ sign body n, r = sign ++ body ∧ (sign = [] ∨ sign = [43] ∨ sign = [45]) ∧ PyIntBody body n ∧
      v = if sign = [45] then - Int.ofNat n else Int.ofNat n := by
  constructor
  · intro h
    obtain ⟨sign, t, rfl, hs, ht⟩ := sign_split r
    rw [pyIntCore_signed sign t hs ht] at h
    obtain ⟨n, hd, hv⟩ := Option.map_eq_some_iff.1 h
    exact ⟨sign, t, n, rfl, hs, (du_iff t n).1 hd, hv.symm⟩
  · rintro ⟨sign, body, n, rfl, hs, hb, rfl⟩
    obtain ⟨c, t, rfl, hc⟩ := (body_ends body n hb).1
    have hc' : 48 ≤ c ∧ c ≤ 57 := by simpa [isDigitC] using hc
    have h43 : (c :: t).head? ≠ some 43 := by
      simp only [List.head?_cons, ne_eq, Option.some.injEq]
      omega
    have h45 : (c :: t).head? ≠ some 45 := by
      simp only [List.head?_cons, ne_eq, Option.some.injEq]
      omega
    rw [pyIntCore_signed sign _ hs (fun _ => ⟨h43, h45⟩), du_body_value _ n hb]
    rfl

end PyInt
open PyInt

/-- `int()` looks at the stripped text only -/
theorem C17_pyInt_core (s : Str) : pyIntAscii s = pyIntCore (pyStrip s) := rfl

/-- every text is `ws ++ core ++ ws'` with `core = pyStrip s` free of whitespace at both ends … -/
theorem C17_pyInt_strip_exists (s : Str) :
    ∃ ws1 ws2, s = ws1 ++ pyStrip s ++ ws2 ∧ PyWs ws1 ∧ PyWs ws2 ∧ EdgeFree (pyStrip s) :=
  pyStrip_spec s

/-- … and that decomposition is the only one -/
theorem C17_pyInt_strip_unique (ws1 core ws2 : Str) (h1 : PyWs ws1) (h2 : PyWs ws2) (hc : EdgeFree core) :
    pyStrip (ws1 ++ core ++ ws2) = core ∧ pyIntAscii (ws1 ++ core ++ ws2) = pyIntCore core := by
  have := pyStrip_sandwich ws1 core ws2 h1 h2 hc
  exact ⟨this, by rw [C17_pyInt_core, this]⟩

/-- the digit scanner accepts exactly `digit (_? digit)*` -/
theorem C17_digitsUnderscore_spec (b : Str) (v : Nat) :
    digitsUnderscore b none false = some v ↔ PyIntBody b v := du_iff b v

/-- a body starts and ends with a digit, consists of digits and '_' only, and its value is the decimal value of
    its digits -/
theorem C17_pyIntBody_props (b : Str) (v : Nat) (hb : PyIntBody b v) :
    (∃ c t, b = c :: t ∧ isDigitC c = true) ∧ (∃ c, b.getLast? = some c ∧ isDigitC c = true) ∧
    (∀ c ∈ b, isDigitC c = true ∨ c = 95) ∧ v = dv 0 (b.filter isDigitC) :=
  ⟨(body_ends b v hb).1, (body_ends b v hb).2, body_chars b v hb, body_value b v hb⟩

/-- the SPEC of `pyIntAscii` (soundness and completeness, every `s`, ASCII or not):
    `int(s)` succeeds with value `v` iff `s` is `ws* [+-]? digit (_? digit)* ws*` with that value -/
theorem C17_pyInt_spec (s : Str) (v : Int) : pyIntAscii s = some v ↔ PyIntForm s v := by
  rw [C17_pyInt_core, pyIntCore_spec]
  constructor
  · rintro ⟨sign, body, n, e, hs, hb, hv⟩
    obtain ⟨ws1, ws2, e', hw1, hw2, _⟩ := pyStrip_spec s
    refine ⟨ws1, sign, body, ws2, n, ?_, hw1, hw2, hs, hb, hv⟩
    rw [List.append_assoc ws1 sign body, ← e]
    exact e'
  · rintro ⟨ws1, sign, body, ws2, n, e, hw1, hw2, hs, hb, hv⟩
    refine ⟨sign, body, n, ?_, hs, hb, hv⟩
    obtain ⟨⟨c, t, eb, hc⟩, ⟨l, hl, hld⟩⟩ := body_ends body n hb
    rw [e, List.append_assoc ws1]
    -- the core starts with the sign or a digit and ends with a digit: no whitespace at its ends
    refine pyStrip_sandwich ws1 _ ws2 hw1 hw2 ⟨fun x hx => ?_, fun x hx => ?_⟩
    · rcases hs with rfl | rfl | rfl
      · rw [eb] at hx
        cases hx
        exact digit_not_ws hc
      · cases hx
        decide
      · cases hx
        decide
    · rw [List.getLast?_append, hl] at hx
      cases hx
      exact digit_not_ws hld

namespace PyInt

/-! ### rejection at the scanner level -/

theorem du_append_none (t : Str) (ht : ∀ acc lu, digitsUnderscore t acc lu = none) (a : Str) :
    ∀ acc lu, digitsUnderscore (a ++ t) acc lu = none := by
  induction a with
  | nil => exact ht
  | cons c cs ih =>
    intro acc lu
    simp only [List.cons_append]
    unfold digitsUnderscore
    split
    · exact ih _ _
    · split
      · cases acc with
        | none => rfl
        | some x =>
          simp only
          split
          · rfl
          · exact ih _ _
      · rfl

theorem du_bad_char (c : Nat) (r : Str) (hc : isDigitC c = false) (h95 : c ≠ 95) :
    ∀ acc lu, digitsUnderscore (c :: r) acc lu = none := by
  intro acc lu; unfold digitsUnderscore; simp [hc, h95]

theorem du_trailing_us : ∀ acc lu, digitsUnderscore [95] acc lu = none := by
  intro acc lu
  cases acc <;> cases lu <;> simp [digitsUnderscore, show isDigitC 95 = false by decide]

theorem du_double_us (r : Str) : ∀ acc lu, digitsUnderscore (95 :: 95 :: r) acc lu = none := by
  intro acc lu
  cases acc <;> cases lu <;> simp [digitsUnderscore, show isDigitC 95 = false by decide]

theorem pyIntCore_sign (sign t : Str) (hs : sign = [43] ∨ sign = [45]) :
    pyIntCore (sign ++ t) = none ↔ digitsUnderscore t none false = none := by
  have hne : sign = [] → t.head? ≠ some 43 ∧ t.head? ≠ some 45 := by
    intro h
    subst h
    simp at hs
  rw [pyIntCore_signed sign t (.inr hs) hne]
  simp

theorem pyIntCore_none_of_tail (X : Str) (h : ∀ acc lu, digitsUnderscore X acc lu = none)
    (ht : (X.head? = some 43 ∨ X.head? = some 45) → ∀ acc lu, digitsUnderscore X.tail acc lu = none) :
    pyIntCore X = none := by
  unfold pyIntCore
  split
  · rfl
  · simp only [List.tail_cons] at ht; rw [ht (Or.inl rfl)]; rfl
  · simp only [List.tail_cons] at ht; rw [ht (Or.inr rfl)]; rfl
  · rw [h]; rfl

end PyInt

/-- rejections (on the stripped text `core`; `pyIntAscii s = pyIntCore (pyStrip s)`, and
    `pyIntAscii (ws ++ core ++ ws') = pyIntCore core` for a `core` without whitespace at its ends):
    `sign` is "", "+" or "-".  Rejected: nothing / only a sign; a leading, a trailing, a double underscore; any
    character that is neither a digit nor '_' behind the sign or behind another character (interior whitespace, a
    second sign, a letter as in "0x50", any non-ASCII character). -/
theorem C17_pyInt_rejects (sign : Str) (hs : sign = [] ∨ sign = [43] ∨ sign = [45]) :
    pyIntCore sign = none ∧
    (∀ r, pyIntCore (sign ++ 95 :: r) = none) ∧
    (∀ a, pyIntCore (sign ++ a ++ [95]) = none) ∧
    (∀ a r, pyIntCore (sign ++ a ++ 95 :: 95 :: r) = none) ∧
    (∀ a c r, isDigitC c = false → c ≠ 95 → (sign ≠ [] ∨ a ≠ [] ∨ (c ≠ 43 ∧ c ≠ 45)) →
      pyIntCore (sign ++ a ++ c :: r) = none) := by
  have key : ∀ t, (∀ acc lu, digitsUnderscore t acc lu = none) →
      (sign = [] → (t.head? = some 43 ∨ t.head? = some 45) → ∀ acc lu, digitsUnderscore t.tail acc lu = none) →
      pyIntCore (sign ++ t) = none := by
    intro t ht htl
    rcases hs with rfl | h
    · exact pyIntCore_none_of_tail t ht (htl rfl)
    · exact (pyIntCore_sign sign t h).2 (ht _ _)
  refine ⟨?_, ?_, ?_, ?_, ?_⟩
  · rcases hs with rfl | rfl | rfl <;> rfl
  · intro r
    have h0 : digitsUnderscore (95 :: r) none false = none := by
      simp [digitsUnderscore, show isDigitC 95 = false by decide]
    rcases hs with rfl | h
    · exact congrArg (Option.map Int.ofNat) h0
    · exact (pyIntCore_sign sign _ h).2 h0
  · intro a
    rw [List.append_assoc]
    refine key _ (du_append_none _ du_trailing_us a) (fun _ hh => ?_)
    cases a with
    | nil => simp at hh
    | cons x xs => exact du_append_none _ du_trailing_us xs
  · intro a r
    rw [List.append_assoc]
    refine key _ (du_append_none _ (du_double_us r) a) (fun _ hh => ?_)
    cases a with
    | nil => simp at hh
    | cons x xs => exact du_append_none _ (du_double_us r) xs
  · intro a c r hc h95 hcond
    rw [List.append_assoc]
    rcases hs with rfl | h
    · simp only [List.nil_append]
      cases a with
      | nil =>
        have hc' : c ≠ 43 ∧ c ≠ 45 := by
          rcases hcond with h | h | h
          · exact absurd rfl h
          · exact absurd rfl h
          · exact h
        simp only [List.nil_append]
        rw [pyIntCore_unsigned _ (by simp [hc'.1]) (by simp [hc'.2]), du_bad_char c r hc h95]; rfl
      | cons x xs =>
        exact pyIntCore_none_of_tail _ (du_append_none _ (du_bad_char c r hc h95) (x :: xs))
          (fun _ => du_append_none _ (du_bad_char c r hc h95) xs)
    · exact (pyIntCore_sign sign _ h).2 (du_append_none _ (du_bad_char c r hc h95) a _ _)

/-- necessary conditions on the WHOLE text: an accepted text has a digit and consists of digits, '_', '+', '-' and
    ASCII whitespace only (so a letter or a non-ASCII character anywhere is fatal) -/
theorem C17_pyInt_alphabet (s : Str) (v : Int) (h : pyIntAscii s = some v) :
    (∃ c ∈ s, isDigitC c = true) ∧
    (∀ c ∈ s, isDigitC c = true ∨ c = 95 ∨ c = 43 ∨ c = 45 ∨ isPySpaceC c = true) ∧ isAscii s = true := by
  obtain ⟨ws1, sign, body, ws2, n, e, hw1, hw2, hs, hb, _⟩ := (C17_pyInt_spec s v).1 h
  obtain ⟨⟨c, t, eb, hc⟩, _, hch, _⟩ := C17_pyIntBody_props body n hb
  have hall : ∀ c ∈ s, isDigitC c = true ∨ c = 95 ∨ c = 43 ∨ c = 45 ∨ isPySpaceC c = true := by
    intro x hx
    rw [e] at hx
    simp only [List.mem_append] at hx
    rcases hx with ((hx | hx) | hx) | hx
    · exact Or.inr (Or.inr (Or.inr (Or.inr (hw1 x hx))))
    · rcases hs with rfl | rfl | rfl
      · cases hx
      · simp at hx; exact Or.inr (Or.inr (Or.inl hx))
      · simp at hx; exact Or.inr (Or.inr (Or.inr (Or.inl hx)))
    · rcases hch x hx with h | h
      · exact Or.inl h
      · exact Or.inr (Or.inl h)
    · exact Or.inr (Or.inr (Or.inr (Or.inr (hw2 x hx))))
  refine ⟨⟨c, by rw [e, eb]; simp, hc⟩, hall, ?_⟩
  unfold isAscii
  rw [List.all_eq_true]
  intro x hx
  have := hall x hx
  unfold isDigitC isPySpaceC at this
  simp at this ⊢
  omega

/-! ### (b) plain digit strings -/

/-- a plain, non-empty digit string reads as its decimal value — leading zeros allowed
    (`int("080") = 80`: zeros in front do not change the value) — and `natToStr` (`str(int)`) is the canonical
    inverse: it parses back to the number, and for EVERY digit string it returns the text without its superfluous
    leading zeros (the text itself iff it has none). -/
theorem C17_pyInt_digits (ds : Str) (hne : ds ≠ []) (hd : ∀ c ∈ ds, isDigitC c = true) :
    pyIntAscii ds = some (Int.ofNat (dv 0 ds)) ∧
    PyIntBody ds (dv 0 ds) ∧
    (∀ k, dv 0 (List.replicate k 48 ++ ds) = dv 0 ds) ∧
    (∀ p, pyIntAscii (natToStr p) = some (Int.ofNat p)) ∧
    natToStr (dv 0 ds) = (if ds.dropWhile (· = 48) = [] then [48] else ds.dropWhile (· = 48)) ∧
    ((ds = [48] ∨ ds.head? ≠ some 48) → natToStr (dv 0 ds) = ds) := by
  have h1 := Decimal.pyIntAscii_digits ds hne hd
  refine ⟨h1, ?_, ?_, natToStr_roundtrip, ?_, Decimal.natToStr_dv ds hd hne⟩
  · apply (C17_digitsUnderscore_spec ds _).1
    exact Decimal.digitsUnderscore_none ds hne hd
  · intro k
    induction k with
    | zero => rfl
    | succ k ih => rw [List.replicate_succ, List.cons_append, Decimal.dv_zero, ih]
  · rw [Decimal.dv_dropZeros]
    split
    · rename_i h0; rw [h0]; rfl
    · rename_i h0
      apply Decimal.natToStr_dv _ _ h0
      · right
        intro hh
        cases hdw : ds.dropWhile (· = 48) with
        | nil => exact h0 hdw
        | cons y ys =>
          rw [hdw] at hh
          simp at hh
          have := List.head_dropWhile_not (p := (· = 48)) (l := ds) (by rw [hdw]; simp)
          simp [hdw, hh] at this
      · intro c hc
        exact hd c (List.IsSuffix.mem hc (List.dropWhile_suffix _) |> fun h => h)

/-! ### (c) which port texts `split_netloc` accepts -/

/-- `split_netloc` on an authority with a non-empty ASCII port text, as an equation: the port text goes through
    `int()`; a value in 0–65535 is the port, everything else is ValueError -/
theorem C17_splitNetloc_ascii_port (o : Oracles) (n : Str) (hne : portText n ≠ [])
    (hasc : isAscii (portText n) = true) :
    splitNetloc o n =
      match pyIntAscii (portText n) with
      | some v =>
        if 0 ≤ v ∧ v ≤ 65535 then
          .ok { user := (ParseLemmas.userTriple n).1.bind orNone, password := (ParseLemmas.userTriple n).2.1,
                host := orNone (ParseLemmas.hostPort (ParseLemmas.userTriple n).2.2).1, port := some v.toNat }
        else .error .valueError
      | none => .error .valueError := by
  rw [NetlocLemmas.splitNetloc_eq, NetlocLemmas.finish_eq]
  change (C07_portOf o (portText n)).map _ = _
  rw [portOf_of_ne_nil o hne]
  unfold pyInt
  rw [if_pos hasc]
  cases pyIntAscii (portText n) with
  | none => rfl
  | some v =>
    simp only
    split <;> rfl

/-- acceptance of a non-empty ASCII port text, as an equivalence -/
theorem C17_splitNetloc_port_iff (o : Oracles) (n : Str) (hne : portText n ≠ [])
    (hasc : isAscii (portText n) = true) (p : Nat) :
    ((∃ np, splitNetloc o n = .ok np ∧ np.port = some p) ↔
      ∃ v : Int, pyIntAscii (portText n) = some v ∧ 0 ≤ v ∧ v ≤ 65535 ∧ v.toNat = p) ∧
    ((∀ np, splitNetloc o n ≠ .ok np) ↔
      (pyIntAscii (portText n) = none ∨ ∃ v, pyIntAscii (portText n) = some v ∧ ¬ (0 ≤ v ∧ v ≤ 65535))) ∧
    ((∀ np, splitNetloc o n ≠ .ok np) → splitNetloc o n = .error .valueError) := by
  rw [C17_splitNetloc_ascii_port o n hne hasc]
  cases pyIntAscii (portText n) with
  | none => simp
  | some v =>
    by_cases hr : 0 ≤ v ∧ v ≤ 65535
    · simp only [hr, and_self, if_true]
      refine ⟨⟨?_, ?_⟩, ?_, ?_⟩
      · rintro ⟨np, h1, h2⟩
        cases h1
        simp at h2
        exact ⟨v, rfl, hr.1, hr.2, h2⟩
      · rintro ⟨w, h1, _, _, h4⟩
        cases h1
        exact ⟨_, rfl, by simp [h4]⟩
      · simp [hr]
      · intro h; exact absurd rfl (h _)
    · simp only [hr, if_false]
      refine ⟨⟨?_, ?_⟩, ?_, ?_⟩
      · rintro ⟨np, h1, _⟩; cases h1
      · rintro ⟨w, h1, h2, h3, _⟩; cases h1; exact absurd ⟨h2, h3⟩ hr
      · simp only [ne_eq, reduceCtorEq, not_false_eq_true, implies_true, Option.some.injEq, exists_eq_left',
          true_iff]
        exact Or.inr hr
      · intro _; trivial

/-- a non-ASCII port text (e.g. full-width digits "８０") is not computed in the model: it is the `intU` oracle's
    answer (Python's `int()` accepts every Unicode decimal digit), asked with the port text itself -/
theorem C17_pyInt_non_ascii (o : Oracles) (ps : Str) (h : isAscii ps = false) :
    pyInt o ps = ask "intU" ps (o.intU ps) := by
  unfold pyInt; simp [h]

/-- where the port text is: behind the ':' that follows a host text `w` that reads back (`Reads w h`: a plain
    host without ':' '@' '[' — `reads_plain` — or a bracketed one `[…]` without '@' ']' inside —
    `reads_bracketed`), with or without a userinfo part in front -/
theorem C17_portText_after_host (pre w h ps : Str) (hr : Reads w h)
    (hpre : pre = [] ∨ ∃ ui, pre = ui ++ [64]) (p64 : 64 ∉ ps) (p91 : 91 ∉ ps) :
    portText (pre ++ w ++ [58] ++ ps) = ps := by
  have h64 : 64 ∉ w ++ [58] ++ ps := by simp [hr.h64, p64]
  unfold portText
  rcases hpre with rfl | ⟨ui, rfl⟩
  · rw [List.nil_append, ParseLemmas.userTriple_eq, ParseLemmas.hostPort_eq, userSplit_noAt _ h64, hr.port ps p91]
  · have e : ui ++ [64] ++ w ++ [58] ++ ps = ui ++ 64 :: (w ++ [58] ++ ps) := by simp
    rw [e, ParseLemmas.userTriple_eq, ParseLemmas.hostPort_eq, userSplit_at _ _ h64, hr.port ps p91]

/-- the plain-host case spelled out -/
theorem C17_portText_plain (h ps : Str) (h58 : 58 ∉ h) (h64 : 64 ∉ h) (h91 : 91 ∉ h) (p64 : 64 ∉ ps) (p91 : 91 ∉ ps) :
    portText (h ++ [58] ++ ps) = ps := by
  simpa using C17_portText_after_host [] h h ps (reads_plain h h58 h64 h91) (Or.inl rfl) p64 p91

/-- for `host:port`: with a plain host `h` (no ':' '@' '[') and a non-empty ASCII text `ps` without
    '@' '[' behind the ':', `split_netloc` succeeds with port `p` iff `int(ps) = p` with 0 ≤ p ≤ 65535 -/
theorem C17_host_port_accepts (o : Oracles) (h ps : Str) (h58 : 58 ∉ h) (h64 : 64 ∉ h) (h91 : 91 ∉ h)
    (p64 : 64 ∉ ps) (p91 : 91 ∉ ps) (hne : ps ≠ []) (hasc : isAscii ps = true) (p : Nat) :
    (∃ np, splitNetloc o (h ++ [58] ++ ps) = .ok np ∧ np.port = some p) ↔
      ∃ v : Int, pyIntAscii ps = some v ∧ 0 ≤ v ∧ v ≤ 65535 ∧ v.toNat = p := by
  have e := C17_portText_plain h ps h58 h64 h91 p64 p91
  have := (C17_splitNetloc_port_iff o (h ++ [58] ++ ps) (by rw [e]; exact hne) (by rw [e]; exact hasc) p).1
  rw [e] at this
  exact this

/-- sample port texts: "+80", " 80 ", "8_0", "080" are port 80 and "-0" is port 0; "-1", "65536",
    "8__0", "_80", "80_", "8 0", "0x50" are ValueError; "" is no port; a non-ASCII text is the oracle's business
    ("８０": full-width digits, `int()` = 80 in Python). -/
theorem C17_port_text_instances :
    let o := Oracles.empty
    let port := fun (n : String) => (splitNetloc o n.toStr).map (·.port)
    port "h:+80" = .ok (some 80) ∧ port "h: 80 " = .ok (some 80) ∧ port "h:8_0" = .ok (some 80) ∧
    port "h:080" = .ok (some 80) ∧ port "h:-0" = .ok (some 0) ∧ port "h:65535" = .ok (some 65535) ∧
    port "h:" = .ok none ∧
    port "h:-1" = .error .valueError ∧ port "h:65536" = .error .valueError ∧
    port "h:8__0" = .error .valueError ∧ port "h:_80" = .error .valueError ∧ port "h:80_" = .error .valueError ∧
    port "h:8 0" = .error .valueError ∧ port "h:0x50" = .error .valueError ∧ port "h:+-80" = .error .valueError ∧
    port "h:+" = .error .valueError ∧ port "h: " = .error .valueError ∧
    (splitNetloc o ("h:".toStr ++ [65304, 65296])).map (·.port) = .error (.oracleMiss "intU" [65304, 65296]) ∧
    (splitNetloc { o with intU := fun _ => some (some 80) } ("h:".toStr ++ [65304, 65296])).map (·.port)
      = .ok (some 80) := by
  decide +kernel

/-! ### which whitespace can reach the port parser -/

/-- `split_url` removes TAB / LF / CR everywhere (and strips leading C0/space of the whole URL): no character of
    `Gen.removeSet` is left in the authority it cuts out, hence none in the port text -/
theorem C17_ctor_netloc_no_tab (o : Oracles) (s : Str) (pt : Parts) (h : splitUrl o s = .ok pt) :
    (∀ c ∈ Gen.removeSet, c ∉ pt.netloc) ∧ (∀ c ∈ pt.netloc, c ≠ 9 ∧ c ≠ 10 ∧ c ≠ 13) ∧
    (∀ c ∈ portText pt.netloc, c ∈ pt.netloc) := by
  have hB := C07_split o s pt h
  rw [ParseLemmas.appendixB_eq] at hB
  simp only [toParts5, Rfc.Parts5.mk.injEq] at hB
  obtain ⟨_, h2, _⟩ := hB
  have h1 := WfLemmas.schemeOf_snd_sublist Gen.schemeChars (cleanUrl s)
  have ha := (WfLemmas.authOf_sublist (Rfc.schemeOf Gen.schemeChars (cleanUrl s)).2).1
  have hsub : pt.netloc.Sublist (cleanUrl s) := by rw [h2]; exact ha.trans h1
  have hno : ∀ c ∈ pt.netloc, c ≠ 9 ∧ c ≠ 10 ∧ c ≠ 13 :=
    fun c hc => UnsplitLemmas.cleanUrl_no_tab s c (hsub.subset hc)
  refine ⟨?_, hno, ?_⟩
  · intro c hc hm
    have := hno c hm
    have hrs : c = 9 ∨ c = 10 ∨ c = 13 := by
      have : mem c Gen.removeSet = true := mem_iff.mpr hc
      have h' := ParseLemmas.mem_removeSet c
      rw [this] at h'
      simp at h'
      omega
    omega
  · intro c hc
    apply userTriple_sub pt.netloc
    unfold portText ParseLemmas.hostPort at hc
    split at hc
    · exact partition_snd_sub 91 _ c (partition_snd_sub 93 _ c (partition_snd_sub 58 _ c hc))
    · exact partition_snd_sub 58 _ c hc

/-- … while the other characters `int()` strips — space, VT, FF, FS, GS, RS, US — do reach it through the
    constructor and are accepted around the digits (both backends); a TAB / LF / CR INSIDE the digits is simply
    removed: `URL("http://h:8\t0/")` has port 80. -/
theorem C17_ctor_port_whitespace (b : Backend) :
    (∀ c ∈ [32, 11, 12, 28, 29, 30, 31],
      (encodeUrl ⟨b, Oracles.empty⟩ ("http://h:".toStr ++ [c] ++ "80".toStr ++ [c] ++ "/".toStr)).bind
        (explicitPort ⟨b, Oracles.empty⟩) = .ok (some 80)) ∧
    (∀ c ∈ [9, 10, 13],
      (encodeUrl ⟨b, Oracles.empty⟩ ("http://h:8".toStr ++ [c] ++ "0/".toStr)).bind
        (explicitPort ⟨b, Oracles.empty⟩) = .ok (some 80)) := by
  str_lits; cases b <;> decide +kernel

/-! ## 2 — the default-port fall-back -/
namespace PyInt

theorem pyInt_natToStr (o : Oracles) (p : Nat) : pyInt o (natToStr p) = .ok (some (Int.ofNat p)) := by
  unfold pyInt
  rw [Decimal.isAscii_natToStr, natToStr_roundtrip]
  rfl

end PyInt

/-- "port falls back to the scheme default … only when none is written", as equivalences: with no port
    written, `port` is `p` iff `p` is the scheme default; in general `port` is `p` iff `p` is written, or nothing is
    written and `p` is the scheme default; and `port` fails exactly as `explicit_port` does. -/
theorem C17_port_default_iff (e : Env) (u : Url) (p : Nat) :
    (explicitPort e u = .ok none → (port e u = .ok (some p) ↔ defaultPort u.scheme = some p)) ∧
    (port e u = .ok (some p) ↔
      explicitPort e u = .ok (some p) ∨ (explicitPort e u = .ok none ∧ defaultPort u.scheme = some p)) ∧
    (port e u = .ok none ↔ explicitPort e u = .ok none ∧ defaultPort u.scheme = none) ∧
    (∀ err, port e u = .error err ↔ explicitPort e u = .error err) := by
  unfold port
  cases h : explicitPort e u with
  | error err => simp [bind, Except.bind]
  | ok ep =>
    cases ep with
    | none => simp [bind, Except.bind, pure, Except.pure]
    | some x => simp [bind, Except.bind, pure, Except.pure]

/-- the contrast in one statement.  `build(host=…, port=p)` DROPS a port equal to the default of the
    (lower-cased) scheme — explicit_port is None, `port` still answers `p`; the constructor KEEPS a written port
    whatever the scheme — explicit_port is `p` also when `p` is the scheme default (str() omits it then:
    `C17_headline_ctor_port_views`).  Instances (`C17_default_port_build_vs_ctor_instances`):
    `URL.build(scheme="http", host="h", port=80)` vs `URL("http://h:80")` — same `str()`, same `port`, different
    explicit_port, and the two are NOT `==` (the stored authorities "h" / "h:80" differ). -/
theorem C17_default_port_build_vs_ctor (e : Env) :
    (∀ (a : BuildArgs) (u : Url) (sc : Str) (p : Int), a.encoded = false → a.authority = [] → a.host ≠ [] →
      lowerAny e a.scheme = .ok sc → build e a = .ok u → a.port = some p → some p.toNat = defaultPort sc →
      explicitPort e u = .ok none ∧ port e u = .ok (some p.toNat) ∧ u.scheme = sc) ∧
    (∀ (s : Str) (u : Url) (pt : Parts) (p : Nat), encodeUrl e s = .ok u → splitUrl e.o s = .ok pt →
      portText pt.netloc = natToStr p →
      explicitPort e u = .ok (some p) ∧ port e u = .ok (some p) ∧ p ≤ 65535) := by
  constructor
  · intro a u sc p henc hauth hhost hsc hb hp hd
    have := C17_headline_build_port e a u henc hauth hhost sc hsc hb
    rw [hp] at this
    simp only [hd, if_true] at this
    exact ⟨this.2.1, by rw [hd]; exact this.2.2, this.1⟩
  · intro s u pt p hu hpt htxt
    obtain ⟨pt', hpt', _, h2⟩ := C17_headline_ctor_explicit_port e s u hu
    rw [hpt] at hpt'; cases hpt'
    have hne : portText pt.netloc ≠ [] := by rw [htxt]; exact (Decimal.natToStr_digits p).1
    have hn : pt.netloc ≠ [] := by
      intro h0; have := portText_colon pt.netloc hne; rw [h0] at this; cases this
    obtain ⟨np, _, hep, _, h4⟩ := h2 hn
    obtain ⟨v, hv, _, hv2, hnp⟩ := h4 hne
    rw [htxt, pyInt_natToStr] at hv
    cases hv
    have hp : np.port = some p := by simpa using hnp
    have hle : p ≤ 65535 := by
      have : (p : Int) ≤ 65535 := hv2
      omega
    rw [hp] at hep
    exact ⟨hep, by rw [C17_port_fallback e u _ hep]; rfl, hle⟩

theorem C17_default_port_build_vs_ctor_instances (b : Backend) :
    let e : Env := ⟨b, Oracles.empty⟩
    let ub := build e { scheme := "http".toStr, host := "h".toStr, port := some 80 }
    let uc := encodeUrl e "http://h:80".toStr
    ub.bind (explicitPort e) = .ok none ∧ uc.bind (explicitPort e) = .ok (some 80) ∧
    ub.bind (port e) = .ok (some 80) ∧ uc.bind (port e) = .ok (some 80) ∧
    ub.bind (str e) = .ok "http://h".toStr ∧ uc.bind (str e) = .ok "http://h".toStr ∧
    ub.map (·.netloc) = .ok "h".toStr ∧ uc.map (·.netloc) = .ok "h:80".toStr ∧
    -- the two are NOT equal as URLs (`==` compares the stored authority)
    (do let x ← ub; let y ← uc; pure (x.beq y) : R Bool) = .ok false := by
  str_lits; cases b <;> decide +kernel

/-! ## 3 — `is_default_port()` -/

/-- the full truth table of `is_default_port()` (any URL on which `explicit_port` answers `ep`):
    True iff  (no port written AND there is an authority)  or  (the written port is the scheme default). -/
theorem C17_is_default_port_iff (e : Env) (u : Url) (ep : Option Nat) (h : explicitPort e u = .ok ep) :
    (isDefaultPort e u = .ok true ↔
      (ep = none ∧ u.netloc ≠ []) ∨ (∃ p, ep = some p ∧ defaultPort u.scheme = some p)) ∧
    (isDefaultPort e u = .ok false ↔
      (ep = none ∧ u.netloc = []) ∨ (∃ p, ep = some p ∧ defaultPort u.scheme ≠ some p)) := by
  rw [C17_is_default_port e u ep h]
  cases ep with
  | none =>
    cases hn : u.netloc <;> simp
  | some p =>
    simp only [Except.ok.injEq, decide_eq_true_eq, reduceCtorEq, false_and, Option.some.injEq, exists_eq_left',
      false_or, decide_eq_false_iff_not, ne_eq]
    exact ⟨⟨fun h => h.symm, fun h => h.symm⟩, ⟨fun h h' => h h'.symm, fun h h' => h h'.symm⟩⟩

/-- corollaries.  For a scheme WITHOUT default port: a written port is never "default"; an ABSENT port
    with an authority IS reported as default (the oddity: `URL("foo://h").is_default_port()` is True although
    `port` is None); without authority it is False.  And `is_default_port()` and `port` agree: when it is True,
    `port` is the scheme default (possibly None), and a written port then equals it; with an authority the
    converse holds too. -/
theorem C17_is_default_port_cases (e : Env) (u : Url) (ep : Option Nat) (h : explicitPort e u = .ok ep) :
    (defaultPort u.scheme = none → ∀ p, ep = some p → isDefaultPort e u = .ok false) ∧
    (defaultPort u.scheme = none → ep = none → u.netloc ≠ [] → isDefaultPort e u = .ok true ∧ port e u = .ok none) ∧
    (u.netloc = [] → ep = none → isDefaultPort e u = .ok false) ∧
    (isDefaultPort e u = .ok true → port e u = .ok (defaultPort u.scheme) ∧
      ∀ p, ep = some p → port e u = .ok (some p) ∧ defaultPort u.scheme = some p) ∧
    (u.netloc ≠ [] → (isDefaultPort e u = .ok true ↔ port e u = .ok (defaultPort u.scheme))) := by
  have ht := (C17_is_default_port_iff e u ep h).1
  have hf := (C17_is_default_port_iff e u ep h).2
  have hp := C17_port_fallback e u ep h
  refine ⟨?_, ?_, ?_, ?_, ?_⟩
  · intro hd p hep
    exact hf.2 (Or.inr ⟨p, hep, by rw [hd]; simp⟩)
  · intro hd hep hn
    exact ⟨ht.2 (Or.inl ⟨hep, hn⟩), by rw [hp, hep, hd]; rfl⟩
  · intro hn hep
    exact hf.2 (Or.inl ⟨hep, hn⟩)
  · intro hT
    rcases ht.1 hT with ⟨hep, _⟩ | ⟨p, hep, hd⟩
    · subst hep
      exact ⟨by rw [hp]; rfl, fun p hp' => by cases hp'⟩
    · subst hep
      refine ⟨by rw [hp, hd]; rfl, fun p' hp' => ?_⟩
      cases hp'
      exact ⟨by rw [hp]; rfl, hd⟩
  · intro hn
    constructor
    · intro hT
      rcases ht.1 hT with ⟨hep, _⟩ | ⟨p, hep, hd⟩
      · subst hep; rw [hp]; rfl
      · subst hep; rw [hp, hd]; rfl
    · intro hP
      rw [hp] at hP
      cases ep with
      | none => exact ht.2 (Or.inl ⟨rfl, hn⟩)
      | some p =>
        have : some p = defaultPort u.scheme := by simpa using hP
        exact ht.2 (Or.inr ⟨p, rfl, this.symm⟩)

/-- a URL without authority and without pre-filled cache: `explicit_port` is None and `is_default_port()` False -/
theorem C17_is_default_port_no_authority (e : Env) (u : Url) (hpre : u.pre = none) (hn : u.netloc = []) :
    explicitPort e u = .ok none ∧ isDefaultPort e u = .ok false := by
  have h : explicitPort e u = .ok none := by
    unfold explicitPort
    rw [net_of_no_cache hpre, lazyNet_eq, hn]
    rfl
  exact ⟨h, (C17_is_default_port_cases e u none h).2.2.1 hn rfl⟩

/-- the oddity as Python-level instances (both backends): `URL("foo://h").is_default_port()` is True with
    `port` None; `URL("foo://h:80")` False; `URL("foo:p")` (no authority) False; `URL("http://h")` True,
    `URL("http://h:80")` True, `URL("http://h:81")` False, `URL("http://h:0")` False. -/
theorem C17_is_default_port_instances (b : Backend) :
    let e : Env := ⟨b, Oracles.empty⟩
    let idp := fun (s : String) => (encodeUrl e s.toStr).bind (isDefaultPort e)
    idp "foo://h" = .ok true ∧ (encodeUrl e "foo://h".toStr).bind (port e) = .ok none ∧
    idp "foo://h:80" = .ok false ∧ idp "foo:p" = .ok false ∧ idp "/p" = .ok false ∧
    idp "http://h" = .ok true ∧ idp "http://h:80" = .ok true ∧ idp "http://h:81" = .ok false ∧
    idp "http://h:0" = .ok false := by
  cases b <;> decide +kernel

/-! ## 4 and 5, on the general layer of C17.lean (`C17_port_views_of_net`, `C17_with_port_exact`) -/

/-- `C17_with_port_exact` in the shape asked for: valid argument, URL with authority -/
theorem C17_with_port_result (e : Env) (u : Url) (np : Option Int) (hne : u.netloc ≠ [])
    (hnp : ∀ p, np = some p → 0 ≤ p ∧ p ≤ 65535) :
    (∀ n, net e u = .ok n → withPort e u np 0 = .ok (fromParts u.scheme
        (makeNetloc (q e Gen.QUOTER) n.rawUser n.rawPassword (some (bracket (n.rawHost.getD [])))
          (np.map Int.toNat) false) u.path u.query u.fragment)) ∧
    (∀ err, net e u = .error err → withPort e u np 0 = .error err) ∧
    (u.pre = none → ∀ err, net e u = .error err → err = .valueError ∨ ∃ f a, err = .oracleMiss f a) := by
  have hb : EncTrue.portBad np = false := by
    cases np with
    | none => rfl
    | some p => simp [EncTrue.portBad, hnp p rfl]
  have h := C17_with_port_exact e u np 0
  rw [if_neg (by simp), hb, if_neg hne] at h
  simp only [Bool.false_eq_true, if_false] at h
  refine ⟨fun n hn => by rw [h, hn]; rfl, fun err hn => by rw [h, hn]; rfl, ?_⟩
  intro hpre err hn
  rw [net_of_no_cache hpre, lazyNet_eq] at hn
  rcases C07_netloc_total e.o u.netloc with ⟨r, hr⟩ | hr | ⟨f, a, hr⟩
  · rw [hr] at hn
    cases hn
  · rw [hr] at hn
    cases hn
    exact Or.inl rfl
  · rw [hr] at hn
    cases hn
    exact Or.inr ⟨f, a, rfl⟩

/-- READ-BACK, hypotheses on the raw components only: for ANY URL with authority whose components are
    available, if the user is `UserOK` (absent, or non-empty without ':') and the raw host `h` has no '@' and is
    `GoodHost` (with a ':' it has no ']'; without a ':' it has no '['), then `with_port(p)` succeeds and on the result
    explicit_port reads `p` (None for `with_port(None)`), raw_user / raw_password read as before, and raw_host reads
    `h` — unless nothing at all is left to write (no user, no password, empty host, port cleared: then the
    authority is empty and raw_host is None). -/
theorem C17_with_port_readback (e : Env) (u : Url) (n : NetPre) (np : Option Int)
    (hnet : net e u = .ok n) (hne : u.netloc ≠ []) (hnp : ∀ p, np = some p → 0 ≤ p ∧ p ≤ 65535)
    (hu : UserOK n.rawUser) (h64 : 64 ∉ n.rawHost.getD []) (hg : EncTrue.GoodHost (n.rawHost.getD [])) :
    ∃ v, withPort e u np 0 = .ok v ∧ v.pre = none ∧
      explicitPort e v = .ok (np.map Int.toNat) ∧
      rawUser e v = .ok n.rawUser ∧ rawPassword e v = .ok n.rawPassword ∧
      rawHost e v = .ok (if n.rawUser = none ∧ n.rawPassword = none ∧ n.rawHost.getD [] = [] ∧ np = none
        then none else some (n.rawHost.getD [])) ∧
      v.scheme = u.scheme ∧ v.path = u.path ∧ v.query = u.query ∧ v.fragment = u.fragment := by
  have hp : ∀ k, np.map Int.toNat = some k → k ≤ 65535 := by
    intro k hk
    cases np with
    | none => cases hk
    | some i =>
      have := hnp i rfl
      simp only [Option.map_some, Option.some.injEq] at hk
      omega
  have hN := EncTrue.net_rebuilt e (q e Gen.QUOTER) n.rawUser n.rawPassword (n.rawHost.getD []) (np.map Int.toNat)
    u.scheme u.path u.query u.fragment hu h64 hg hp
  obtain ⟨b1, b2, b3, b4, _⟩ := AuthMod.acc_of_net e _ _ hN
  refine ⟨_, (C17_with_port_result e u np hne hnp).1 n hnet, rfl, b4, b1, b2, ?_, rfl, rfl, rfl, rfl⟩
  rw [b3]
  congr 1
  cases np <;> simp

/-- for a URL WITHOUT pre-filled cache the components `split_netloc` reads always meet the hypotheses of
    `C17_with_port_readback` except possibly "a host without ':' has no '['" (the malformed-bracket family:
    authority "[a[b]" — known findings F-C03-bracket / F-C11-bracket) -/
theorem C17_lazy_components_ok (e : Env) (u : Url) (n : NetPre) (hpre : u.pre = none) (hnet : net e u = .ok n) :
    UserOK n.rawUser ∧ 64 ∉ n.rawHost.getD [] ∧
    (93 ∉ n.rawHost.getD [] ∨ (58 ∉ n.rawHost.getD [] ∧ 91 ∉ n.rawHost.getD [])) ∧
    (∀ p, n.explicitPort = some p → p ≤ 65535) ∧
    (¬ (91 ∈ n.rawHost.getD [] ∧ 58 ∉ n.rawHost.getD []) → EncTrue.GoodHost (n.rawHost.getD [])) := by
  rw [net_of_no_cache hpre, lazyNet_eq] at hnet
  obtain ⟨r, hs, rfl⟩ := map_ok hnet
  obtain ⟨f1, f2, f3, f4, _⟩ := EncTrue.split_facts e.o u.netloc r hs
  cases hrh : r.host with
  | some h =>
    rw [hrh] at f2 f3
    exact ⟨f1, f2, f3, f4, fun hgood => EncTrue.good_of_facts f3 hgood⟩
  | none =>
    rw [hrh] at f2 f3
    have hh : (if u.netloc.isEmpty = true then (none : Option Str) else some []).getD [] = [] := by
      split <;> rfl
    simp only [hh]
    exact ⟨f1, by simp, by simp, f4, fun _ => Or.inr ⟨by simp, by simp⟩⟩

namespace PortAux

/-- a bare host text with a '[' but neither ':' nor ']' swallows the port written behind it -/
theorem hostPort_swallow (h ds : Str) (h91 : 91 ∈ h) (h93 : 93 ∉ h) (d93 : 93 ∉ ds) :
    (NetlocLemmas.hostPort (h ++ [58] ++ ds)).2 = [] := by
  obtain ⟨a, b, rfl, ha⟩ := List.eq_append_cons_of_mem h91
  have hb93 : 93 ∉ b ++ ([58] ++ ds) := by
    intro hm
    rcases List.mem_append.1 hm with hm | hm
    · exact h93 (by simp [hm])
    · simp at hm
      exact d93 hm
  have := StrTotal.hostPort_snd_unclosed a b ([58] ++ ds) ha hb93
  simpa using this

end PortAux
open PortAux

/-- the read-back FAILS exactly in the remaining case (so `C17_with_port_readback` is sharp on URLs without
    cache): if the raw host has a '[' but no ':' (and, as always for a lazily read host, no ']' and no '@'), the host
    is re-written WITHOUT brackets, the stray '[' then swallows the new port, and explicit_port of
    `with_port(p)` reads None. -/
theorem C17_with_port_readback_fails (e : Env) (u : Url) (n : NetPre) (p : Int)
    (hnet : net e u = .ok n) (hne : u.netloc ≠ []) (hp : 0 ≤ p ∧ p ≤ 65535)
    (hu : UserOK n.rawUser) (h64 : 64 ∉ n.rawHost.getD [])
    (h91 : 91 ∈ n.rawHost.getD []) (h58 : 58 ∉ n.rawHost.getD []) (h93 : 93 ∉ n.rawHost.getD []) :
    ∃ v, withPort e u (some p) 0 = .ok v ∧ explicitPort e v = .ok none := by
  refine ⟨_, (C17_with_port_result e u (some p) hne (by intro q hq; cases hq; exact hp)).1 n hnet, ?_⟩
  generalize n.rawHost.getD [] = h at *
  have hb : bracket h = h := by unfold bracket; simp [mem_false_iff.mpr h58]
  rw [hb]
  have hd := Decimal.natToStr_digits p.toNat
  obtain ⟨X, hX, hs⟩ := splitNetloc_written e.o (q e Gen.QUOTER) n.rawUser n.rawPassword h (some p.toNat) hu h64
  have hsw := hostPort_swallow h (natToStr p.toNat) h91 h93 (Decimal.notMem_digits hd.2 93 (by omega))
  unfold explicitPort
  rw [net_of_no_cache rfl, lazyNet_eq]
  unfold fromParts
  simp only [Option.map_some]
  rw [hs, finish_eq]
  simp only [hostPortStr]
  rw [hsw]
  rfl

/-- the read-back of `with_port(p)` on a URL WITHOUT cache (every `build` / modifier / `encoded=True`
    result), as an equivalence — hypotheses on the stored authority only through its raw host `h`: explicit_port reads
    `p` on the result iff `h` is not of the shape "contains '[' but no ':'". -/
theorem C17_with_port_readback_lazy_iff (e : Env) (u : Url) (n : NetPre) (p : Int)
    (hpre : u.pre = none) (hnet : net e u = .ok n) (hne : u.netloc ≠ []) (hp : 0 ≤ p ∧ p ≤ 65535) :
    (∃ v, withPort e u (some p) 0 = .ok v ∧ explicitPort e v = .ok (some p.toNat)) ↔
      ¬ (91 ∈ n.rawHost.getD [] ∧ 58 ∉ n.rawHost.getD []) := by
  obtain ⟨f1, f2, f3, _, f5⟩ := C17_lazy_components_ok e u n hpre hnet
  constructor
  · rintro ⟨v, hv, hep⟩ ⟨h91, h58⟩
    have h93 : 93 ∉ n.rawHost.getD [] := by
      rcases f3 with h | h
      · exact h
      · exact absurd h91 h.2
    obtain ⟨v', hv', hep'⟩ := C17_with_port_readback_fails e u n p hnet hne hp f1 f2 h91 h58 h93
    rw [hv] at hv'
    cases hv'
    rw [hep] at hep'
    cases hep'
  · intro hgood
    obtain ⟨v, hv, _, hep, _⟩ := C17_with_port_readback e u n (some p) hnet hne
      (by intro q hq; cases hq; exact hp) f1 f2 (f5 hgood)
    exact ⟨v, hv, hep⟩

/-- EVERY accepted constructor input with an authority — no `AuthInput`, no `GoodAuthority`, no `Written`:
    IPvFuture, bracketed non-IPv6 text, empty host, IDN host with or without port, malformed brackets … .
    `np` is what `split_netloc` reads from the INPUT authority, `host` the host text the constructor stores, `h` the
    raw host it caches (`host` without its brackets), `U` / `P` the requoted user / password.  Sentence 2 of C17:
    explicit_port is the input port; `port`, is_default_port() follow; host_port_subcomponent and str() omit the
    port exactly when it is absent or the scheme default — str() then RE-MAKES the authority from the cached
    components with the host in brackets iff it contains ':' (so "[v1.x]:80" prints as "v1.x"), and prints the
    stored authority otherwise; with_port(p) re-makes it the same way with the new port. -/
theorem C17_ctor_port_views_any (e : Env) (s : Str) (u : Url) (pt : Parts)
    (hu : encodeUrl e s = .ok u) (hpt : splitUrl e.o s = .ok pt) (hne : pt.netloc ≠ []) :
    ∃ np host, splitNetloc e.o pt.netloc = .ok np ∧
      u.netloc = makeNetloc (q e Gen.QUOTER) (cachedUser e np.user) (requoteOpt e np.password) (some host) np.port
        false ∧
      rawHost e u = .ok (some (unbracket host)) ∧
      rawUser e u = .ok (cachedUser e np.user) ∧ rawPassword e u = .ok (requoteOpt e np.password) ∧
      explicitPort e u = .ok np.port ∧ (∀ p, np.port = some p → p ≤ 65535) ∧
      port e u = .ok (np.port <|> defaultPort u.scheme) ∧
      isDefaultPort e u = .ok (match np.port with
        | none => !u.netloc.isEmpty
        | some p => decide (some p = defaultPort u.scheme)) ∧
      hostPortSubcomponent e u = .ok (some (match np.port with
        | none => bracket (rstripC 46 (unbracket host))
        | some p => if some p = defaultPort u.scheme then bracket (rstripC 46 (unbracket host))
                    else bracket (rstripC 46 (unbracket host)) ++ [58] ++ natToStr p)) ∧
      str e u = .ok (unsplitResult u.scheme
        (match np.port with
          | some p => if some p = defaultPort u.scheme
                      then makeNetloc id (cachedUser e np.user) (requoteOpt e np.password)
                        (some (bracket (unbracket host))) none false
                      else u.netloc
          | none => u.netloc)
        (if u.path.isEmpty && !u.netloc.isEmpty && (!u.query.isEmpty || !u.fragment.isEmpty) then [47] else u.path)
        u.query u.fragment) ∧
      (u.netloc ≠ [] → ∀ np' : Option Int, (∀ p, np' = some p → 0 ≤ p ∧ p ≤ 65535) →
        withPort e u np' 0 = .ok (fromParts u.scheme
          (makeNetloc (q e Gen.QUOTER) (cachedUser e np.user) (requoteOpt e np.password)
            (some (bracket (unbracket host))) (np'.map Int.toNat) false) u.path u.query u.fragment)) ∧
      -- read-back of with_port: the user is fine as soon as the input is a Python string; the cached raw host
      -- must be re-writable (no '@'; with ':' no ']', without ':' no '[')
      (u.netloc ≠ [] → PyStr s → 64 ∉ unbracket host → EncTrue.GoodHost (unbracket host) →
        ∀ np' : Option Int, (∀ p, np' = some p → 0 ≤ p ∧ p ≤ 65535) →
        ∃ v, withPort e u np' 0 = .ok v ∧ explicitPort e v = .ok (np'.map Int.toNat) ∧
          rawUser e v = rawUser e u ∧ rawPassword e v = rawPassword e u) := by
  rcases encodeUrl_authority hu hpt with ⟨h0, _⟩ | ⟨_, np, host0, host1, hnp, _, _, hnl, hpre⟩
  · exact absurd h0 hne
  refine ⟨np, _, hnp, hnl, ?_⟩
  have hnet : net e u = .ok
      { rawHost := some (unbracket (StrTotal.rebracket (mem 91 (rpartition 64 pt.netloc).2.2) host1)),
        explicitPort := np.port, rawUser := cachedUser e np.user, rawPassword := requoteOpt e np.password } :=
    net_of_cache hpre
  obtain ⟨v1, v2, v3, _, v5, v6⟩ := C17_port_views_of_net e u _ hnet
  obtain ⟨a1, a2, a3, _, _⟩ := AuthMod.acc_of_net e u _ hnet
  refine ⟨a3, a1, a2, v1, fun p hp => splitNetloc_port_range e.o pt.netloc np p hnp hp, v2, v3, v5, v6, ?_, ?_⟩
  · intro hun np' hnp'
    exact (C17_with_port_result e u np' hun hnp').1 _ hnet
  · intro hun hpy h64 hg np' hnp'
    have hU : UserOK (cachedUser e np.user) :=
      userOK_cached e np.user
        (WfLemmas.splitNetloc_pyStr e.o pt.netloc (WfLemmas.splitUrl_pyStr e.o s hpy pt hpt).1 np hnp).1
    obtain ⟨v, w1, _, w3, w4, w5, _⟩ := C17_with_port_readback e u _ np' hnet hun hnp' hU h64 hg
    exact ⟨v, w1, w3, by rw [w4, a1], by rw [w5, a2]⟩

/-- bracketed hosts that are not IPv6 addresses (IPvFuture "[v1.x]", "[v1.a:b]", "[g::1]", "[a:b]"; any
    letter case on input; any userinfo / port): the constructor stores `[user[:pw]@][t][:port]` with the brackets
    kept, `t` the lower-cased text.  All of sentence 2 holds, with ONE twist when `t` has no ':' (IPvFuture such as
    "v1.x"): whenever the authority is re-made — str() with a default port, with_port — the brackets are DROPPED
    (`bracket t = t`), because host_subcomponent brackets a host only if it contains ':'
    (known finding F-C07-default-port; `C03_bracket_modifiers_drop_brackets`).  explicit_port still reads back. -/
theorem C17_bracket_ctor_port_views (e : Env) (s : Str) (u : Url) (pt : Parts) (np : NetlocParts) (T : Str)
    (hs : PyStr s) (hu : encodeUrl e s = .ok u) (hpt : splitUrl e.o s = .ok pt)
    (hsp : splitNetloc e.o pt.netloc = .ok np) (hhost : np.host = some T)
    (hwrap : 91 ∈ (rpartition 64 pt.netloc).2.2) (hk : BracketTextIn T) (hlow : bracketCheck (lower T) = true) :
    ∃ user pw t, u.netloc = authTextB user pw t np.port ∧ (t = lower T ∨ t = T) ∧ HostOK t ∧ UserOK user ∧
      rawHost e u = .ok (some t) ∧ explicitPort e u = .ok np.port ∧ (∀ p, np.port = some p → p ≤ 65535) ∧
      port e u = .ok (np.port <|> defaultPort u.scheme) ∧
      isDefaultPort e u = .ok (match np.port with
        | none => true
        | some p => decide (some p = defaultPort u.scheme)) ∧
      hostPortSubcomponent e u = .ok (some (match np.port with
        | none => bracket (rstripC 46 t)
        | some p => if some p = defaultPort u.scheme then bracket (rstripC 46 t)
                    else bracket (rstripC 46 t) ++ [58] ++ natToStr p)) ∧
      str e u = .ok (unsplitResult u.scheme
        (match np.port with
          | some p => if some p = defaultPort u.scheme then makeNetloc id user pw (some (bracket t)) none false
                      else u.netloc
          | none => u.netloc)
        (if u.path.isEmpty && (!u.query.isEmpty || !u.fragment.isEmpty) then [47] else u.path) u.query u.fragment) ∧
      (∀ np' : Option Int, (∀ p, np' = some p → 0 ≤ p ∧ p ≤ 65535) →
        ∃ v, withPort e u np' 0 = .ok v ∧
          v.netloc = makeNetloc (q e Gen.QUOTER) user pw (some (bracket t)) (np'.map Int.toNat) false ∧
          explicitPort e v = .ok (np'.map Int.toNat) ∧ rawHost e v = .ok (some t) ∧
          rawUser e v = .ok user ∧ rawPassword e v = .ok pw) ∧
      -- with a ':' in `t` the stored text IS the `make_netloc` text: the `Written` theorems apply
      (58 ∈ t → Written id (pickleTwin u) user pw t np.port ∧ net e (pickleTwin u) = net e u) := by
  obtain ⟨user, pw, t, h1, h2, h3, h4, h5, h6⟩ :=
    C03_bracket_encodeUrl_shape e s u pt np T hs hu hpt hsp hhost hwrap hk hlow
  have hU : UserOK user := FixLemmas.userOK_of h2
  have hnet : net e u = .ok (preOf user pw t np.port) := net_of_cache h5
  have hune : u.netloc ≠ [] := by rw [h1]; exact BrHost.authTextB_ne_nil user pw t np.port
  have hemp : u.netloc.isEmpty = false := isEmpty_false hune
  obtain ⟨v1, v2, v3, _, v5, v6⟩ := C17_port_views_of_net e u _ hnet
  obtain ⟨a1, a2, a3, _, _⟩ := AuthMod.acc_of_net e u _ hnet
  refine ⟨user, pw, t, h1, h4, h3.ok, hU, a3, v1, h6, v2, ?_, v5, ?_, ?_, ?_⟩
  · rw [v3]; cases np.port <;> simp [hemp]
  · simp only [hemp, Bool.not_false, Bool.and_true] at v6
    exact v6
  · intro np' hnp'
    have hg : EncTrue.GoodHost t := by
      by_cases h58 : 58 ∈ t
      · exact Or.inl ⟨h58, h3.ok.2.2.2⟩
      · exact Or.inr ⟨h58, h3.ok.2.2.1⟩
    obtain ⟨v, w1, _, w3, w4, w5, w6, _⟩ :=
      C17_with_port_readback e u _ np' hnet hune hnp' hU h3.ok.2.1 hg
    have hv := (C17_with_port_result e u np' hune hnp').1 _ hnet
    rw [hv] at w1
    cases w1
    refine ⟨_, hv, rfl, w3, ?_, w4, w5⟩
    rw [w6]
    simp [h3.ok.1]
  · intro h58
    have hw : Written id (pickleTwin u) user pw t np.port :=
      ⟨rfl, by show u.netloc = _; rw [h1, BrHost.authTextB_colon user pw np.port h58]; rfl, hU, h3.ok, h6⟩
    refine ⟨hw, ?_⟩
    rw [hnet, hw.eq]
    exact net_std e id user pw t np.port _ _ _ _ hU h3.ok h6

/-- EMPTY host ("foo://user@:80/", "foo://:80/"; only for schemes that do not require a host, and those
    have no default port): raw_host is "", explicit_port the input port; is_default_port() is True iff no port is
    written and the stored authority is non-empty; host_port_subcomponent is "" or ":port"; str() prints the stored
    authority; with_port sets / clears and reads back. -/
theorem C17_empty_host_ctor_port_views (e : Env) (s : Str) (u : Url) (pt : Parts) (np : NetlocParts)
    (hs : PyStr s) (hu : encodeUrl e s = .ok u) (hpt : splitUrl e.o s = .ok pt) (hne : pt.netloc ≠ [])
    (hsp : splitNetloc e.o pt.netloc = .ok np) (hhost : np.host = none) :
    Gen.schemeRequiresHost.contains u.scheme = false ∧ defaultPort u.scheme = none ∧
    rawHost e u = .ok (some []) ∧ explicitPort e u = .ok np.port ∧ port e u = .ok np.port ∧
    isDefaultPort e u = .ok (np.port.isNone && !u.netloc.isEmpty) ∧
    hostPortSubcomponent e u = .ok (some (match np.port with
      | none => []
      | some p => [58] ++ natToStr p)) ∧
    str e u = .ok (unsplitResult u.scheme u.netloc
      (if u.path.isEmpty && !u.netloc.isEmpty && (!u.query.isEmpty || !u.fragment.isEmpty) then [47] else u.path)
      u.query u.fragment) ∧
    (u.netloc ≠ [] → ∀ np' : Option Int, (∀ p, np' = some p → 0 ≤ p ∧ p ≤ 65535) →
      ∃ v, withPort e u np' 0 = .ok v ∧
        v.netloc = makeNetloc (q e Gen.QUOTER) (cachedUser e np.user) (requoteOpt e np.password) (some [])
          (np'.map Int.toNat) false ∧
        explicitPort e v = .ok (np'.map Int.toNat) ∧ rawUser e v = rawUser e u ∧
        rawPassword e v = rawPassword e u) := by
  have hsc : u.scheme = pt.scheme := by
    obtain ⟨pt', _, _, hpt', _, rfl⟩ := encodeUrl_ok hu
    rw [hpt] at hpt'
    cases hpt'
    rfl
  rcases encodeUrl_authority hu hpt with ⟨h0, _⟩ | ⟨_, np', host0, host1, hnp, hh0, hh1, hnl, hpre⟩
  · exact absurd h0 hne
  rw [hsp] at hnp; cases hnp
  -- the host is empty and the scheme does not require one
  have hreq : Gen.schemeRequiresHost.contains pt.scheme = false ∧ host0 = [] := by
    unfold hostOr at hh0
    rw [hhost] at hh0
    simp only at hh0
    split at hh0
    · cases hh0
    · rename_i hc; cases hh0; exact ⟨by simpa using hc, rfl⟩
  obtain ⟨hreq, rfl⟩ := hreq
  rw [encodeHost_nil] at hh1; cases hh1
  rw [unbracket_rebracket_nil] at hpre
  have hdef : defaultPort u.scheme = none := by rw [hsc]; exact defaultPort_none_of_not_requires hreq
  have hnet : net e u = .ok
      { rawHost := some [], explicitPort := np.port, rawUser := cachedUser e np.user,
        rawPassword := requoteOpt e np.password } :=
    net_of_cache hpre
  obtain ⟨v1, v2, v3, _, v5, v6⟩ := C17_port_views_of_net e u _ hnet
  obtain ⟨a1, a2, a3, _, _⟩ := AuthMod.acc_of_net e u _ hnet
  refine ⟨by rw [hsc]; exact hreq, hdef, a3, v1, ?_, ?_, ?_, ?_, ?_⟩
  · rw [v2, hdef]; cases np.port <;> rfl
  · rw [v3, hdef]; cases np.port <;> simp
  · rw [v5, hdef]
    cases np.port with
    | none => rfl
    | some p => simp [bracket, rstripC, lstripSet, mem]
  · rw [v6, hdef]; cases np.port <;> simp
  · intro hun npn hnpn
    have hU : UserOK (cachedUser e np.user) :=
      userOK_cached e np.user
        (WfLemmas.splitNetloc_pyStr e.o pt.netloc (WfLemmas.splitUrl_pyStr e.o s hs pt hpt).1 np hsp).1
    obtain ⟨v, w1, _, w3, w4, w5, _⟩ := C17_with_port_readback e u _ npn hnet hun hnpn hU (by simp)
      (Or.inr ⟨by simp, by simp⟩)
    have hv := (C17_with_port_result e u npn hun hnpn).1 _ hnet
    rw [hv] at w1
    cases w1
    exact ⟨_, hv, by simp [fromParts, bracket, mem], w3, by rw [w4, a1], by rw [w5, a2]⟩

/-- IDN host (`URL("scheme://hôte/path#frag")`, the host alone in the authority): under the run-time
    checked assumption `IdnaSaneAt` on the `idna` answer the result has `NetlocCanon`
    (`C03_idn_netlocCanon_ctor`), so ALL of sentence 2 holds in the `C17_headline_invariant_port_views` form.  (An IDN
    host followed by a port, userinfo, … is covered by `C17_ctor_port_views_any`.) -/
theorem C17_idn_ctor_port_views (e : Env) (sc h rp rf : Str) (vs : HumanLemmas.ValidScheme sc)
    (hi : IdnHostInput e.o h) (hs : IdnaSaneAt e.o h) (h35 : 35 ∉ rp) (h63 : 63 ∉ rp)
    (hc1 : HumanLemmas.Clean rp) (hc2 : HumanLemmas.Clean rf) (u : Url)
    (hu : encodeUrl e (sc ++ 58 :: 47 :: 47 :: (h ++ (47 :: rp ++ HumanLemmas.fragTail rf))) = .ok u)
    (hne : u.netloc ≠ []) :
    ∃ user pw a port, u.netloc = makeNetloc id user pw (some (bracket a)) port false ∧
      rawHost e u = .ok (some a) ∧ explicitPort e u = .ok port ∧ (∀ p, port = some p → p ≤ 65535) ∧
      str e u = .ok (unsplitResult u.scheme
        (match (generalizing := false) port with
          | some p => if some p = defaultPort u.scheme then makeNetloc id user pw (some (bracket a)) none false
                      else u.netloc
          | none => u.netloc)
        (if u.path.isEmpty && (!u.query.isEmpty || !u.fragment.isEmpty) then [47] else u.path) u.query u.fragment) ∧
      hostPortSubcomponent e u =
        .ok (some (match (generalizing := false) port with
          | none => bracket (rstripC 46 a)
          | some p =>
            if some p = defaultPort u.scheme then bracket (rstripC 46 a)
            else bracket (rstripC 46 a) ++ [58] ++ natToStr p)) ∧
      isDefaultPort e u = .ok (match (generalizing := false) port with
        | none => true
        | some p => decide (some p = defaultPort u.scheme)) ∧
      (∀ np : Option Int, (∀ p, np = some p → 0 ≤ p ∧ p ≤ 65535) →
        ∃ v, withPort e u np 0 = .ok v ∧ explicitPort e v = .ok (np.map Int.toNat)) :=
  C17_headline_invariant_port_views e u
    (C03_idn_netlocCanon_ctor e sc h rp rf vs hi hs h35 h63 hc1 hc2 u hu) hne

/-! ## 4 and 5: Python-level instances, counterexamples, non-vacuity -/

/-- `with_port` on `encoded=True` oddities (`URL(s, encoded=True)` is `preEncodedUrl`), computed:
    * "user@:80" (empty host) → "user@:81", explicit_port 81;
    * ":pw@h" (empty user in front of a password) → ":pw@h:81", user None, password "pw", explicit_port 81;
    * "US:P@H:080" (upper case, port text "080") → "US:P@H:81": case kept, port text re-written;
    * "[v1.x]:80" → "v1.x:81": brackets of a host without ':' DROPPED, explicit_port 81, raw_host unchanged;
    * "a:b:c" (port text "b:c") → ValueError from reading the stored authority — after the argument checks:
      `with_port(True)` is still TypeError, `with_port(70000)` ValueError;
    * no authority → ValueError. -/
theorem C17_with_port_encoded_instances :
    let e : Env := ⟨.py, Oracles.empty⟩
    let wp := fun (s : String) (p : Option Int) (k : Nat) => (preEncodedUrl e s.toStr).bind (fun u => withPort e u p k)
    (wp "http://user@:80" (some 81) 0).map (·.netloc) = .ok "user@:81".toStr ∧
    (wp "http://user@:80" (some 81) 0).bind (explicitPort e) = .ok (some 81) ∧
    (wp "http://:pw@h" (some 81) 0).map (·.netloc) = .ok ":pw@h:81".toStr ∧
    (wp "http://:pw@h" (some 81) 0).bind (explicitPort e) = .ok (some 81) ∧
    (wp "http://:pw@h" (some 81) 0).bind (rawUser e) = .ok none ∧
    (wp "http://:pw@h" (some 81) 0).bind (rawPassword e) = .ok (some "pw".toStr) ∧
    (wp "http://US:P@H:080" (some 81) 0).map (·.netloc) = .ok "US:P@H:81".toStr ∧
    (wp "http://[v1.x]:80/" (some 81) 0).map (·.netloc) = .ok "v1.x:81".toStr ∧
    (wp "http://[v1.x]:80/" (some 81) 0).bind (explicitPort e) = .ok (some 81) ∧
    (wp "http://[v1.x]:80/" (some 81) 0).bind (rawHost e) = .ok (some "v1.x".toStr) ∧
    wp "http://a:b:c" (some 81) 0 = .error .valueError ∧
    wp "http://a:b:c" (some 1) 1 = .error .typeError ∧
    wp "http://a:b:c" (some 70000) 0 = .error .valueError ∧
    wp "/p" (some 81) 0 = .error .valueError := by
  str_lits; decide +kernel

/-- the COUNTEREXAMPLE to the read-back (malformed brackets that `split_url` accepts — same root as the
    known findings F-C03-bracket / F-C11-bracket): `URL("http://[v1.[x]:80", encoded=True)` has raw_host "v1.[x" and
    explicit_port 80; `.with_port(81)` stores "v1.[x:81", on which explicit_port is None and raw_host "x:81".
    Likewise `URL.build(scheme="http", authority="[[x]", encoded=True).with_port(81)`; and through the auto-encoding
    constructor `URL("http://[v1.[x]:80")` is ACCEPTED, stores "v1.[x:80" and caches raw_host "1.[" (the brackets are
    "stripped" from a text that never had them) — `.with_port(81)` stores "1.[:81" with explicit_port None.
    (`C17_with_port_readback_fails` is the general statement.) -/
theorem C17_with_port_readback_counterexample :
    let e : Env := ⟨.py, Oracles.empty⟩
    let u1 := preEncodedUrl e "http://[v1.[x]:80".toStr
    let u2 := build e { scheme := "http".toStr, authority := "[[x]".toStr, encoded := true }
    u1.bind (rawHost e) = .ok (some "v1.[x".toStr) ∧ u1.bind (explicitPort e) = .ok (some 80) ∧
    (u1.bind (fun u => withPort e u (some 81) 0)).map (·.netloc) = .ok "v1.[x:81".toStr ∧
    (u1.bind (fun u => withPort e u (some 81) 0)).bind (explicitPort e) = .ok none ∧
    (u1.bind (fun u => withPort e u (some 81) 0)).bind (rawHost e) = .ok (some "x:81".toStr) ∧
    u2.bind (rawHost e) = .ok (some "[x".toStr) ∧
    (u2.bind (fun u => withPort e u (some 81) 0)).map (·.netloc) = .ok "[x:81".toStr ∧
    (u2.bind (fun u => withPort e u (some 81) 0)).bind (explicitPort e) = .ok none ∧
    (encodeUrl e "http://[v1.[x]:80".toStr).map (·.netloc) = .ok "v1.[x:80".toStr ∧
    (encodeUrl e "http://[v1.[x]:80".toStr).bind (rawHost e) = .ok (some "1.[".toStr) ∧
    (encodeUrl e "http://[v1.[x]:80".toStr).bind (explicitPort e) = .ok (some 80) ∧
    ((encodeUrl e "http://[v1.[x]:80".toStr).bind (fun u => withPort e u (some 81) 0)).map (·.netloc)
      = .ok "1.[:81".toStr ∧
    ((encodeUrl e "http://[v1.[x]:80".toStr).bind (fun u => withPort e u (some 81) 0)).bind (explicitPort e)
      = .ok none := by
  str_lits; decide +kernel

/-- IPvFuture / bracketed non-IPv6 hosts through the constructor (both backends):
    `URL("http://[v1.x]:80/")` stores "[v1.x]:80", explicit_port 80, is_default_port() True,
    host_port_subcomponent "v1.x", and `str()` is "http://v1.x/" — port omitted AND brackets dropped (the authority
    is re-made from host_subcomponent; part of known finding F-C07-default-port); with port 81 nothing is re-made:
    "http://[v1.x]:81/", host_port_subcomponent "v1.x:81"; `.with_port(81)` / `.with_port(None)` store "v1.x:81" /
    "v1.x" (brackets dropped, explicit_port reads back).  With a ':' inside ("[v1.a:b]") the brackets stay. -/
theorem C17_bracket_ctor_instances (b : Backend) :
    let e : Env := ⟨b, Oracles.empty⟩
    let U := fun (s : String) => encodeUrl e s.toStr
    (U "http://[v1.x]:80/").map (·.netloc) = .ok "[v1.x]:80".toStr ∧
    (U "http://[v1.x]:80/").bind (explicitPort e) = .ok (some 80) ∧
    (U "http://[v1.x]:80/").bind (isDefaultPort e) = .ok true ∧
    (U "http://[v1.x]:80/").bind (hostPortSubcomponent e) = .ok (some "v1.x".toStr) ∧
    (U "http://[v1.x]:80/").bind (str e) = .ok "http://v1.x/".toStr ∧
    (U "http://[v1.x]:81/").bind (str e) = .ok "http://[v1.x]:81/".toStr ∧
    (U "http://[v1.x]:81/").bind (hostPortSubcomponent e) = .ok (some "v1.x:81".toStr) ∧
    (U "http://[v1.x]:81/").bind (isDefaultPort e) = .ok false ∧
    ((U "http://[v1.x]:80/").bind (fun u => withPort e u (some 81) 0)).map (·.netloc) = .ok "v1.x:81".toStr ∧
    ((U "http://[v1.x]:80/").bind (fun u => withPort e u (some 81) 0)).bind (explicitPort e) = .ok (some 81) ∧
    ((U "http://[v1.x]:80/").bind (fun u => withPort e u none 0)).map (·.netloc) = .ok "v1.x".toStr ∧
    (U "http://[v1.a:b]:80/").bind (str e) = .ok "http://[v1.a:b]/".toStr ∧
    (U "http://[v1.a:b]:80/").bind (hostPortSubcomponent e) = .ok (some "[v1.a:b]".toStr) ∧
    ((U "http://[v1.a:b]:80/").bind (fun u => withPort e u (some 81) 0)).map (·.netloc) = .ok "[v1.a:b]:81".toStr := by
  str_lits; cases b <;> decide +kernel

/-- empty host through the constructor (both backends): `URL("foo://user@:80/")` — explicit_port 80,
    `port` 80, is_default_port() False, host_port_subcomponent ":80", str() unchanged; `.with_port(None)` stores
    "user@" and is_default_port() becomes True; `URL("foo://:80/").with_port(None)` stores the EMPTY authority
    (raw_host None, is_default_port() False); `URL("http://user@:80/")` is ValueError (http requires a host). -/
theorem C17_empty_host_ctor_instances (b : Backend) :
    let e : Env := ⟨b, Oracles.empty⟩
    let U := fun (s : String) => encodeUrl e s.toStr
    (U "foo://user@:80/").bind (explicitPort e) = .ok (some 80) ∧
    (U "foo://user@:80/").bind (port e) = .ok (some 80) ∧
    (U "foo://user@:80/").bind (rawHost e) = .ok (some []) ∧
    (U "foo://user@:80/").bind (isDefaultPort e) = .ok false ∧
    (U "foo://user@:80/").bind (hostPortSubcomponent e) = .ok (some ":80".toStr) ∧
    (U "foo://user@:80/").bind (str e) = .ok "foo://user@:80/".toStr ∧
    ((U "foo://user@:80/").bind (fun u => withPort e u (some 81) 0)).bind (str e) = .ok "foo://user@:81/".toStr ∧
    ((U "foo://user@:80/").bind (fun u => withPort e u none 0)).map (·.netloc) = .ok "user@".toStr ∧
    ((U "foo://user@:80/").bind (fun u => withPort e u none 0)).bind (isDefaultPort e) = .ok true ∧
    ((U "foo://:80/").bind (fun u => withPort e u none 0)).map (·.netloc) = .ok [] ∧
    ((U "foo://:80/").bind (fun u => withPort e u none 0)).bind (rawHost e) = .ok none ∧
    ((U "foo://:80/").bind (fun u => withPort e u none 0)).bind (isDefaultPort e) = .ok false ∧
    U "http://user@:80/" = .error .valueError := by
  str_lits; cases b <;> decide +kernel

/-! ### non-vacuity of the general theorems -/
section checks
private def e0 : Env := ⟨.py, Oracles.empty⟩

-- `PyIntForm`: " +8_0 " is ws ++ "+" ++ "8_0" ++ ws with value 80
example : PyIntForm " +8_0 ".toStr 80 :=
  ⟨[32], [43], "8_0".toStr, [32], 80, by decide +kernel, by decide +kernel, by decide +kernel, Or.inr (Or.inl rfl),
    PyIntBody.usnoc [56] 8 48 (PyIntBody.digit 56 (by decide +kernel)) (by decide +kernel), by decide +kernel⟩
example : pyIntAscii " +8_0 ".toStr = some 80 := (C17_pyInt_spec _ _).2
  ⟨[32], [43], "8_0".toStr, [32], 80, by decide +kernel, by decide +kernel, by decide +kernel, Or.inr (Or.inl rfl),
    PyIntBody.usnoc [56] 8 48 (PyIntBody.digit 56 (by decide +kernel)) (by decide +kernel), by decide +kernel⟩
example : EdgeFree "+8 0".toStr ∧ ¬ EdgeFree "8 ".toStr ∧ PyWs [32, 9, 11, 12, 13, 10, 28, 29, 30, 31] ∧
    ¬ PyWs [160] := by decide +kernel
-- `C17_pyInt_digits` on "080" / canonical "80"
example : (∀ c ∈ "080".toStr, isDigitC c = true) ∧ dv 0 "080".toStr = 80 ∧ natToStr 80 = "80".toStr ∧
    natToStr 80 ≠ "080".toStr := by decide +kernel
-- `C17_host_port_accepts`: h = "example.com", ps = " 80 "
example : (∃ np, splitNetloc e0.o ("example.com".toStr ++ [58] ++ " 80 ".toStr) = .ok np ∧ np.port = some 80) :=
  (C17_host_port_accepts e0.o "example.com".toStr " 80 ".toStr (by str_lits; decide +kernel) (by str_lits; decide +kernel) (by str_lits; decide +kernel) (by str_lits; decide +kernel)
    (by str_lits; decide +kernel) (by str_lits; decide +kernel) (by str_lits; decide +kernel) 80).2 ⟨80, by str_lits; decide +kernel, by str_lits; decide +kernel, by str_lits; decide +kernel, by str_lits; decide +kernel⟩
-- `C17_portText_after_host` with userinfo and a bracketed host
example : portText ("u:p@".toStr ++ "[::1]".toStr ++ [58] ++ "8080".toStr) = "8080".toStr :=
  C17_portText_after_host "u:p@".toStr "[::1]".toStr "::1".toStr "8080".toStr
    (reads_bracketed "::1".toStr (by str_lits; decide +kernel) (by str_lits; decide +kernel)) (Or.inr ⟨"u:p".toStr, rfl⟩) (by str_lits; decide +kernel) (by str_lits; decide +kernel)
-- `C17_default_port_none`
example : defaultPort "foo".toStr = none := C17_default_port_none _ (by decide +kernel)
-- `C17_with_port_readback` / `_fails`: hypotheses on concrete URLs without cache
private def uOK : Url := fromParts "http".toStr "US:P@H:080".toStr "/p".toStr [] []
private def uBad : Url := fromParts "http".toStr "[v1.[x]:80".toStr [] [] []
private def nOK : NetPre :=
  { rawHost := some "H".toStr, explicitPort := some 80, rawUser := some "US".toStr, rawPassword := some "P".toStr }
private def nBad : NetPre :=
  { rawHost := some "v1.[x".toStr, explicitPort := some 80, rawUser := none, rawPassword := none }
example : net e0 uOK = .ok nOK ∧ uOK.netloc ≠ [] ∧ UserOK (some "US".toStr) ∧ 64 ∉ "H".toStr ∧
    EncTrue.GoodHost "H".toStr := by decide +kernel
example : net e0 uBad = .ok nBad ∧ uBad.netloc ≠ [] ∧ UserOK none ∧ 64 ∉ "v1.[x".toStr ∧ 91 ∈ "v1.[x".toStr ∧
    58 ∉ "v1.[x".toStr ∧ 93 ∉ "v1.[x".toStr := by str_lits; decide +kernel
-- `C17_bracket_ctor_port_views`: the hypotheses for `URL("http://U@[V1.X]:80/")`
private def sB : Str := "http://U@[v1.X]:80/".toStr
private def ptB : Parts := { scheme := "http".toStr, netloc := "U@[v1.X]:80".toStr, path := "/".toStr, query := [], fragment := [] }
private def npB : NetlocParts := { user := some "U".toStr, password := none, host := some "v1.X".toStr, port := some 80 }
example : PyStr sB ∧ splitUrl e0.o sB = .ok ptB ∧ splitNetloc e0.o ptB.netloc = .ok npB ∧
    npB.host = some "v1.X".toStr ∧ 91 ∈ (rpartition 64 ptB.netloc).2.2 ∧ bracketCheck (lower "v1.X".toStr) = true ∧
    (encodeUrl e0 sB).map (·.netloc) = .ok "U@[v1.x]:80".toStr := by
  unfold sB ptB npB; str_lits; decide +kernel
example : BracketTextIn "v1.X".toStr := BrHost.bracketTextInB_sound (by decide +kernel)
-- `C17_empty_host_ctor_port_views`: the hypotheses for `URL("foo://user@:80/")`
private def sE : Str := "foo://user@:80/".toStr
private def ptE : Parts := { scheme := "foo".toStr, netloc := "user@:80".toStr, path := "/".toStr, query := [], fragment := [] }
private def npE : NetlocParts := { user := some "user".toStr, password := none, host := none, port := some 80 }
example : PyStr sE ∧ splitUrl e0.o sE = .ok ptE ∧ ptE.netloc ≠ [] ∧ splitNetloc e0.o ptE.netloc = .ok npE ∧
    npE.host = none ∧ (encodeUrl e0 sE).map (·.netloc) = .ok "user@:80".toStr := by
  unfold sE ptE npE; str_lits; decide +kernel
-- `C17_idn_ctor_port_views`: the hypotheses for `URL("http://bücher/a/b#f")` on the sample oracle table …
private def eS : Env := { b := .c, o := C16_idn_sampleOracle }
example : HumanLemmas.ValidScheme "http".toStr ∧ IdnHostInput eS.o C16_idn_buecher ∧
    IdnaSaneAt eS.o C16_idn_buecher ∧ 35 ∉ "a/b".toStr ∧ 63 ∉ "a/b".toStr ∧ HumanLemmas.Clean "a/b".toStr ∧
    HumanLemmas.Clean "f".toStr :=
  ⟨by str_lits; decide +kernel, ⟨by str_lits; decide +kernel, by str_lits; decide +kernel, rfl, ⟨false, rfl⟩, by str_lits; decide +kernel⟩, C16_idn_sane_satisfiable.1.at (by str_lits; decide +kernel),
    by str_lits; decide +kernel, by str_lits; decide +kernel, by unfold HumanLemmas.Clean; decide, by unfold HumanLemmas.Clean; decide⟩
-- … and an IDN host WITH a port (outside `IdnHostInput`; covered by `C17_ctor_port_views_any`):
-- `URL("http://bücher:80/a")`: explicit_port 80, str() omits it, with_port(81) shows it
example :
    (encodeUrl eS ("http://".toStr ++ C16_idn_buecher ++ ":80/a".toStr)).bind (explicitPort eS) = .ok (some 80) ∧
    (encodeUrl eS ("http://".toStr ++ C16_idn_buecher ++ ":80/a".toStr)).bind (str eS)
      = .ok "http://xn--bcher-kva/a".toStr ∧
    ((encodeUrl eS ("http://".toStr ++ C16_idn_buecher ++ ":80/a".toStr)).bind
      (fun u => withPort eS u (some 81) 0)).bind (str eS) = .ok "http://xn--bcher-kva:81/a".toStr := by
  str_lits; decide +kernel
end checks

end Yarl
