import YarlProofs.C16Headline
import YarlProofs.C17Build
import YarlProofs.Lemmas.V6More
import YarlProofs.Lemmas.FixLemmas
import YarlProofs.C07Recompose
import YarlProofs.Lemmas.BuildFix
/-!
# C16 — the printed IPv6 text, the zone id, `build(authority=…)`, brackets in `str()`

The namespace `V6More` holds here the helpers of §D (the written authority `[userinfo@]hosttext[:port]`, `str()` of a URL
that has one, the four routes that write it) beside the fixed definitions the statements of §D use (`portStr`,
`schemePart`, `tailPart`, `shownPort`).

* §A  `ipv6ToStr` (the hand model of CPython's `IPv6Address.compressed`) IS the RFC 5952 §4 form:
      `C16_ipv6_is_rfc5952` (equality with the independent specification `Rfc5952.format`) and the clauses
      (a)…(g) one by one.  NOTE: CPython's `.compressed` does NOT apply RFC 5952 §5 (mixed notation for
      IPv4-mapped addresses): `C16_ipv6_no_mixed_notation`.
* §B  the zone id: `C16_zone_kept_verbatim` (an exact equation for `_encode_host` on `addr%zone`),
      the IPv4-with-zone variant and its corner, and the characters the validation rejects.
* §C  `build(authority=…)`: what IS guaranteed (`C16_build_authority_host`), the NFKC screen it applies
      (fix c2c2803: `C16_build_authority_nfkc_screen`, `C16_build_authority_now_rejected`), and a host that
      `build(authority=)` accepts and `build(host=)` rejects.
* §D  brackets in `str()`: `C16_str_brackets_ipv6` (constructor), `…_build_host`, `…_build_authority`,
      `…_with_host`; and the corner where the constructor statement FAILS (`C16_str_brackets_fails_for`).
-/


namespace Yarl
open HostLemmas NetlocLemmas MiscLemmas
open StrTotal (zonePart rebracket Delim)
open Rfc5952
open EagerLemmas (HostTxt hostText_rebracket)

/-! ## §A  RFC 5952 §4 -/

/-- `IPv6Address.compressed` as modelled is exactly the RFC 5952 §4 recommended form (independent
    specification `Rfc5952.format` in `Lemmas/V6More.lean`).  Holds for lists of any length. -/
theorem C16_ipv6_is_rfc5952 (h8 : List Nat) (hx : ∀ x ∈ h8, x < 65536) : ipv6ToStr h8 = Rfc5952.format h8 :=
  V6More.ipv6ToStr_eq_format h8 hx

/-- the scanning loop of `_compress_hextets` finds the first longest run of zero fields -/
theorem C16_bestZeroRun_spec (l : List Nat) : bestZeroRun l = (firstAt (longest l) l, longest l) :=
  HostLemmas.bestZeroRun_eq l

/-- (a) every group is written in lower-case hex, one to four digits, without leading zeros (a zero group is
    "0"), and denotes the group's value -/
theorem C16_ipv6_groups (x : Nat) (hx : x < 65536) :
    hexLower x = Rfc5952.field x ∧
    (∀ c ∈ hexLower x, isDigitC c = true ∨ (97 ≤ c ∧ c ≤ 102)) ∧
    1 ≤ (hexLower x).length ∧ (hexLower x).length ≤ 4 ∧
    ((hexLower x).head? = some 48 → hexLower x = [48] ∧ x = 0) ∧
    parseHextet (hexLower x) = some x := by
  have he := V6More.field_eq_hexLower hx
  obtain ⟨s1, s2, s3, s4⟩ := V6More.field_spec x
  rw [← he] at s1 s2 s3 s4
  refine ⟨he, s1, s2, s3, ?_, parseHextet_hexLower hx⟩
  intro hh
  have h0 : parseHextet [48] = some x := s4 hh ▸ parseHextet_hexLower hx
  exact ⟨s4 hh, (Option.some.inj h0).symm⟩

/-- (b) (c) (d) (e) (f) the shape of the text.  With `n` the length of the longest run of zero groups and `i`
    the first position where a run of that length starts:
    * `n < 2`: the eight groups are joined by single colons, "::" does not occur;
    * `2 ≤ n`: groups `i … i+n-1` are zero (c), they are replaced by "::", which occurs EXACTLY once (b),
      overlapping occurrences (":::") counted;
    * (d) no run of zero groups anywhere is longer than `n`; (e) no run of length `n` starts before `i`;
    * (f) hence if any two adjacent groups are zero, "::" is used;
    * the replaced run cannot be extended (RFC 5952 §4.2.1: "::" shortens as much as possible). -/
theorem C16_ipv6_double_colon (h8 : List Nat) (hx : ∀ x ∈ h8, x < 65536) :
    let n := longest h8
    let i := firstAt n h8
    (n < 2 → ipv6ToStr h8 = fields h8 ∧ countDC (ipv6ToStr h8) = 0) ∧
    (2 ≤ n → h8 = h8.take i ++ List.replicate n 0 ++ h8.drop (i + n) ∧
      ipv6ToStr h8 = fields (h8.take i) ++ [58, 58] ++ fields (h8.drop (i + n)) ∧
      countDC (ipv6ToStr h8) = 1 ∧
      (h8.drop (i + n)).head? ≠ some 0 ∧ (h8.take i).getLast? ≠ some 0) ∧
    (∀ a b m, h8 = a ++ List.replicate m 0 ++ b → m ≤ n ∧ (m = n → i ≤ a.length)) ∧
    (∀ a b, h8 = a ++ [0, 0] ++ b → countDC (ipv6ToStr h8) = 1) ∧
    countDC (ipv6ToStr h8) ≤ 1 := by
  intro n i
  have heq := V6More.ipv6ToStr_eq_format h8 hx
  have hcnt := V6More.countDC_format h8
  rw [← heq] at hcnt
  have hmax : ∀ a b m, h8 = a ++ List.replicate m 0 ++ b → m ≤ n ∧ (m = n → i ≤ a.length) := by
    intro a b m h
    refine ⟨V6More.longest_max h, fun hm => ?_⟩
    exact V6More.firstAt_min h (by omega)
  refine ⟨?_, ?_, hmax, ?_, ?_⟩
  · intro hn
    refine ⟨?_, by rw [hcnt, if_pos hn]⟩
    rw [heq]; unfold format; rw [if_pos hn]
  · intro hn
    have hn' : ¬ longest h8 < 2 := by show ¬ n < 2; omega
    obtain ⟨_, hdec⟩ := HostLemmas.chosen_run h8
    obtain ⟨m1, m2⟩ := V6More.chosen_run_maximal h8
    refine ⟨hdec, ?_, by rw [hcnt, if_neg hn'], m1, m2⟩
    rw [heq]; unfold format; rw [if_neg hn']
  · intro a b h
    have : 2 ≤ n := (hmax a b 2 (by simpa using h)).1
    rw [hcnt, if_neg (by show ¬ n < 2; omega)]
  · rw [hcnt]; split <;> omega

/-- (g) the text re-parses to the same eight groups -/
theorem C16_ipv6_text_reparses (h8 : List Nat) (hl : h8.length = 8) (hx : ∀ x ∈ h8, x < 65536) :
    parseIPv6 (ipv6ToStr h8) = some h8 := C16_ipv6_roundtrip h8 hl hx

/-- CPython's `compressed` does NOT use the mixed notation RFC 5952 §5 recommends for IPv4-mapped
    addresses: `::ffff:192.0.2.1` is printed as `::ffff:c000:201` (and the mixed form is accepted on input) -/
theorem C16_ipv6_no_mixed_notation :
    parseIPv6 "::ffff:192.0.2.1".toStr = some [0, 0, 0, 0, 0, 0xffff, 0xc000, 0x0201] ∧
    ipv6ToStr [0, 0, 0, 0, 0, 0xffff, 0xc000, 0x0201] = "::ffff:c000:201".toStr := by
  str_lits; decide +kernel

/-! ## §B  the zone id -/

/-- the `NOT_REG_NAME` screen, exactly: every '%' starts a `%hh` escape with lower-case hex digits and every
    other character is in the reg-name table -/
theorem C16_notRegName_iff (s : Str) : notRegName s = false ↔
    ((∀ a b, s = a ++ 37 :: b → ∃ x y t, b = x :: y :: t ∧ isLowerHexDigit x = true ∧ isLowerHexDigit y = true) ∧
     ∀ c ∈ s, c = 37 ∨ mem c Gen.regNameChars = true) := by
  constructor
  · intro h
    exact ⟨fun a b e => C16_notRegName_pct a b (e ▸ h), C16_notRegName_spec s h⟩
  · rintro ⟨h1, h2⟩
    induction s with
    | nil => rfl
    | cons c r ih =>
      have ihr := ih (fun a b e => h1 (c :: a) b (by rw [e]; rfl)) (fun x hx => h2 x (List.mem_cons_of_mem _ hx))
      by_cases hc : c = 37
      · subst hc
        obtain ⟨x, y, t, e, hx, hy⟩ := h1 [] r rfl
        subst e
        simp [notRegName, hx, hy, ihr]
      · have hm : mem c Gen.regNameChars = true := by
          rcases h2 c List.mem_cons_self with h | h
          · exact absurd h hc
          · exact h
        unfold notRegName
        split
        · rfl
        · rename_i heq; cases heq; exact absurd rfl hc
        · rename_i c' rest _ heq
          cases heq
          simp [hm, ihr]
        

/-- which single characters of a zone id the validation lets through (the zone is lower-cased before the
    screen): '%' (as the start of `%hh`, hex digits of either case) and the ASCII `unreserved / sub-delims`
    characters of RFC 3986, letters of either case.  Everything else — the gen-delims `: / ? # [ ] @`, space,
    controls, `" < > \ ^ \` { | }`, DEL and every non-ASCII character — is rejected. -/
theorem C16_zone_char_accepted (c : Nat) : (c = 37 ∨ mem (lowerC c) Gen.regNameChars = true) ↔
    (c = 37 ∨ (c < 128 ∧ (Rfc.unreserved c = true ∨ Rfc.subDelims c = true))) := by
  by_cases hc : c < 128
  · have : ∀ c, c < 128 → ((c = 37 ∨ mem (lowerC c) Gen.regNameChars = true) ↔
        (c = 37 ∨ (c < 128 ∧ (Rfc.unreserved c = true ∨ Rfc.subDelims c = true)))) := by decide +kernel
    exact this c hc
  · have hl : lowerC c = c := by unfold lowerC; split <;> omega
    rw [hl]
    constructor
    · rintro (h | h)
      · exact Or.inl h
      · exact absurd ((C16_regNameChars_rfc c).1 h).1 hc
    · rintro (h | h)
      · exact Or.inl h
      · exact absurd h.1 hc

/-- THE ZONE OF AN IPv6 LITERAL: `_encode_host` on `addr%zone` — an exact equation, validation off or on.
    The zone is copied byte for byte (any case, any character: with validation OFF nothing at all is checked,
    not even ']' '/' '@'); with validation ON the call fails iff the lower-cased zone fails the reg-name screen. -/
theorem C16_zone_kept_verbatim (o : Oracles) (host : Str) (v : Bool) (h8 : List Nat)
    (h6 : parseIPv6 (partition 37 host).1 = some h8) (hsep : (partition 37 host).2.1 = true) :
    encodeHost o host v =
      if v = true ∧ notRegName (lower (partition 37 host).2.2) = true then .error .valueError
      else .ok ([91] ++ ipv6ToStr h8 ++ [37] ++ (partition 37 host).2.2 ++ [93]) := by
  rw [encodeHost_of_v6 o v h6]
  simp [zoneBad, zonePart_of_sep hsep, hsep]

/-- the same, for a host written as `addr ++ "%" ++ zone` -/
theorem C16_zone_kept_verbatim' (o : Oracles) (addr z : Str) (v : Bool) (h8 : List Nat) (r : Str)
    (h6 : parseIPv6 addr = some h8) (h37 : 37 ∉ addr) :
    encodeHost o (addr ++ [37] ++ z) v = .ok r → r = [91] ++ ipv6ToStr h8 ++ [37] ++ z ++ [93] ∧
      (v = true → notRegName (lower z) = false ∧
        ∀ c ∈ z, c = 37 ∨ (c < 128 ∧ (Rfc.unreserved c = true ∨ Rfc.subDelims c = true))) := by
  have hp : partition 37 (addr ++ [37] ++ z) = (addr, true, z) := by
    simpa using partition_found 37 addr z h37
  rw [C16_zone_kept_verbatim o _ v h8 (by rw [hp]; exact h6) (by rw [hp]), hp]
  simp only
  split
  · intro h; cases h
  · rename_i hbad
    intro h
    refine ⟨(Except.ok.inj h).symm, fun hv => ?_⟩
    have hz : notRegName (lower z) = false := by
      cases hn : notRegName (lower z) with
      | false => rfl
      | true => exact absurd ⟨hv, hn⟩ hbad
    refine ⟨hz, fun c hc => ?_⟩
    have hm : lowerC c ∈ lower z := by simp only [lower, List.mem_map]; exact ⟨c, hc, rfl⟩
    have := C16_notRegName_spec _ hz _ hm
    refine (C16_zone_char_accepted c).1 ?_
    rcases this with h | h
    · left; revert h; unfold lowerC; split <;> omega
    · exact Or.inr h

/-- THE ZONE OF AN IPv4 LITERAL: the model (like yarl) treats `a.b.c.d%zone` as an IP literal only when the host
    "looks like an IP": it contains ':' or ends in a digit.  Then the host is returned unchanged, zone verbatim,
    and with validation the zone is screened as above. -/
theorem C16_zone_kept_verbatim_ipv4 (o : Oracles) (host : Str) (v : Bool) (o4 : List Nat)
    (h4 : parseIPv4 (partition 37 host).1 = some o4) (hsep : (partition 37 host).2.1 = true)
    (hl : 58 ∈ host ∨ ∃ l, host.getLast? = some l ∧ isDigitC l = true) :
    encodeHost o host v =
      if v = true ∧ notRegName (lower (partition 37 host).2.2) = true then .error .valueError else .ok host := by
  have hlook : looksIP o host = .ok true := by
    rcases hl with h | ⟨l, h1, h2⟩
    · exact looksIP_of_colon o h
    · exact looksIP_of_digit o h1 h2
  rw [encodeHost_ip_eq v hlook (ipRes_of_v4 (parseIP_some_v4.2 h4))]
  simp [zoneBad, hsep]

/-- … and the corner: an IPv4 text with a zone that neither contains ':' nor ends in a digit is NOT an IP
    literal for yarl: it is lower-cased like a registered name (zone included) by the constructor and
    rejected by `build(host=)` / `with_host` ("%et" is no `%hh` escape).
    Python: `URL("http://1.2.3.4%ETH/").raw_host == "1.2.3.4%eth"`. -/
theorem C16_zone_ipv4_not_literal (o : Oracles) :
    encodeHost o "1.2.3.4%ETH".toStr false = .ok "1.2.3.4%eth".toStr ∧
    encodeHost o "1.2.3.4%ETH".toStr true = .error .valueError ∧
    encodeHost o "1.2.3.4%ETH0".toStr false = .ok "1.2.3.4%ETH0".toStr ∧
    encodeHost o "1.2.3.4%ETH0".toStr true = .ok "1.2.3.4%ETH0".toStr := by
  refine ⟨rfl, rfl, rfl, rfl⟩

/-! ## §D  brackets in `str()` — helper layer -/

namespace V6More

/-- `":" port` as written into a netloc -/
def portStr (port : Option Nat) : Str := match port with | some p => 58 :: natToStr p | none => []

theorem hostPortStr_eq (hb : Str) (port : Option Nat) : hostPortStr hb port = hb ++ portStr port := by
  cases port <;> simp [hostPortStr, portStr]

theorem hostText_bracket {r : Str} (h64 : 64 ∉ r) (h91 : 91 ∉ r) (h93 : 93 ∉ r) : HostTxt (bracket r) r := by
  unfold bracket
  by_cases h58 : 58 ∈ r
  · rw [if_pos (mem_iff.mpr h58)]; exact Or.inl ⟨rfl, h93, h64⟩
  · rw [if_neg (by rw [mem_iff]; exact h58)]; exact Or.inr ⟨rfl, h58, h91, h64⟩

theorem hostText_colon {w body : Str} (h : HostTxt w body) (h58 : 58 ∈ body) : w = [91] ++ body ++ [93] := by
  rcases h with h | h
  · exact h.1
  · exact absurd h58 h.2.1

theorem notMem_portStr (port : Option Nat) (d : Nat) (hd : d < 48 ∨ 57 < d) (h58 : d ≠ 58) : d ∉ portStr port := by
  cases port with
  | none => simp [portStr]
  | some p =>
    have := Decimal.notMem_digits (Decimal.natToStr_digits p).2 d hd
    simp [portStr, this, h58]

/-- What `split_netloc` returns for `[userinfo@]w[:port]` around a host text that reads as `body` — for ANY userinfo
    text and ANY port: if it succeeds at all, the host and the port read back are the ones written (and the port was in
    range).  `roundtrip_reads` is the converse direction, for a userinfo and a port known to be readable. -/
theorem splitNetloc_reads_of_ok (o : Oracles) {w body : Str} (hr : EagerLemmas.Reads w body) (port : Option Nat)
    (X : Str) (hX : X = [] ∨ ∃ ui, X = ui ++ [64]) (np : NetlocParts)
    (hs : splitNetloc o (X ++ w ++ portStr port) = .ok np) : np.host = orNone body ∧ np.port = port := by
  have hhp : hostPort (w ++ portStr port) = (body, (portStr port).drop 1) := by
    cases port with
    | none => simpa [portStr] using hr.plain
    | some p =>
      simpa [portStr] using hr.port (natToStr p) (Decimal.notMem_digits (Decimal.natToStr_digits p).2 91 (by omega))
  have h64 : 64 ∉ w ++ portStr port := by
    simp only [List.mem_append, not_or]
    exact ⟨hr.h64, notMem_portStr port 64 (by omega) (by omega)⟩
  obtain ⟨U, P, hfin⟩ : ∃ U P, finish o U P (w ++ portStr port) = .ok np := by
    rw [splitNetloc_eq] at hs
    rcases hX with rfl | ⟨ui, rfl⟩
    · rw [List.nil_append, userSplit_noAt _ h64] at hs
      exact ⟨_, _, hs⟩
    · have : ui ++ [64] ++ w ++ portStr port = ui ++ 64 :: (w ++ portStr port) := by simp
      rw [this, userSplit_at ui _ h64] at hs
      exact ⟨_, _, hs⟩
  rw [finish_eq, hhp] at hfin
  obtain ⟨pt, hpt, rfl⟩ := map_ok hfin
  refine ⟨rfl, ?_⟩
  cases port with
  | none =>
    rcases portOf_ok_iff.1 hpt with ⟨_, rfl⟩ | ⟨hne, _⟩
    · rfl
    · exact absurd rfl hne
  | some p =>
    rcases portOf_ok_iff.1 hpt with ⟨ht, _⟩ | ⟨_, p', hp', _, _, rfl⟩
    · exact absurd ht (Decimal.natToStr_digits p).1
    · have hi : pyInt o (natToStr p) = .ok (some (Int.ofNat p)) := by
        unfold pyInt
        rw [Decimal.isAscii_natToStr, natToStr_roundtrip]
        rfl
      change pyInt o (natToStr p) = _ at hp'
      rw [hi] at hp'
      cases hp'
      rfl

/-- … and the accessors of a URL without pre-filled cache whose netloc is that text: if `raw_host` answers, the explicit
    port is the written one and the answer is `body` (`none` only for the empty netloc) -/
theorem rawHost_reads_of_ok (e : Env) (u : Url) {w body : Str} (hr : EagerLemmas.Reads w body) (port : Option Nat)
    (X : Str) (hX : X = [] ∨ ∃ ui, X = ui ++ [64]) (hpre : u.pre = none) (hnl : u.netloc = X ++ w ++ portStr port)
    {x : Option Str} (hraw : rawHost e u = .ok x) :
    explicitPort e u = .ok port ∧ (u.netloc ≠ [] → x = some body) ∧ (x = none ∨ x = some body) := by
  obtain ⟨N, hN, rfl⟩ := map_ok hraw
  unfold explicitPort
  rw [hN]
  unfold net at hN
  rw [hpre] at hN
  obtain ⟨np, hs, hN⟩ := bind_ok hN
  cases hN
  obtain ⟨hh, hp⟩ := splitNetloc_reads_of_ok e.o hr port X hX np (hnl ▸ hs)
  refine ⟨by rw [← hp]; rfl, ?_⟩
  show (u.netloc ≠ [] → (match np.host with | none => _ | some h => some h) = some body) ∧ _
  rw [hh]
  cases body with
  | nil =>
    refine ⟨fun hne => ?_, ?_⟩
    · show (if u.netloc.isEmpty then none else some []) = _
      rw [isEmpty_false hne]
      rfl
    · show (if u.netloc.isEmpty then none else some []) = none ∨ _
      cases u.netloc.isEmpty
      · exact Or.inr rfl
      · exact Or.inl rfl
  | cons c t => exact ⟨fun _ => rfl, Or.inr rfl⟩

/-! ### `unsplit_result` with an authority -/

def schemePart (scheme : Str) : Str := if scheme.isEmpty then [] else scheme ++ [58]

/-- everything `str()` writes after the authority -/
def tailPart (path query fragment : Str) : Str :=
  (if !path.isEmpty && path.take 1 ≠ [47] then [47] ++ path else path) ++
  (if !query.isEmpty then [63] ++ query else []) ++ (if !fragment.isEmpty then [35] ++ fragment else [])

theorem unsplit_netloc (scheme netloc path query fragment : Str) (hn : netloc ≠ [])
    (hp : scheme ≠ [] ∨ path = [] ∨ path.head? = some 47) :
    unsplitResult scheme netloc path query fragment =
      schemePart scheme ++ [47, 47] ++ netloc ++ tailPart path query fragment := by
  have hne : netloc.isEmpty = false := isEmpty_false hn
  -- `unsplit_result` in its closed form; under an authority the separators are "://" (or "//" without a scheme), and a
  -- "/" in front of a rootless path — which `hp` allows only under a scheme
  rw [WfLemmas.unsplit_eq]
  unfold WfLemmas.unsplitSep schemePart tailPart UnsplitLemmas.tailStr
  rw [hne]
  simp only [Bool.not_false, Bool.true_or, if_true]
  by_cases hr : (!path.isEmpty && decide (path.take 1 ≠ [47])) = true
  · have hs : scheme.isEmpty = false := by
      rcases hp with h | h | h
      · exact isEmpty_false h
      · subst h; simp at hr
      · cases path with
        | nil => simp at hr
        | cons c t => simp at h; subst h; simp at hr
    rw [if_pos hr, if_pos hr, hs]
    simp
  · rw [if_neg hr, if_neg hr]
    cases hs : scheme.isEmpty
    · simp
    · rw [List.isEmpty_iff.mp hs]
      simp

theorem makeNetloc_userPrefix (qf : Str → Str) (user pw : Option Str) (hb : Str) (port : Option Nat) :
    makeNetloc qf user pw (some hb) port false = FixLemmas.userPrefix user pw ++ hb ++ portStr port := by
  rw [makeNetloc_prefix, hostPortStr_eq, List.append_assoc]

/-- the port `str()` shows: an explicit port equal to the scheme default is dropped -/
def shownPort (scheme : Str) (ep : Option Nat) : Str :=
  match ep with
  | some p => if some p = defaultPort scheme then [] else 58 :: natToStr p
  | none => []

/-- THE CORE: `str()` of any URL whose raw host `h` contains ':' and whose stored netloc is
    `X [ h ] [:port]` -/
theorem str_core (e : Env) (u : Url) (h : Str) (ep : Option Nat) (X r : Str)
    (hraw : rawHost e u = .ok (some h)) (h58 : 58 ∈ h) (hep : explicitPort e u = .ok ep)
    (hnl : u.netloc = X ++ [91] ++ h ++ [93] ++ portStr ep)
    (hpath : u.scheme ≠ [] ∨ u.path = [] ∨ u.path.head? = some 47)
    (hs : str e u = .ok r) :
    ∃ ru rp, rawUser e u = .ok ru ∧ rawPassword e u = .ok rp ∧
      r = schemePart u.scheme ++ [47, 47] ++
          (if (∃ p, ep = some p ∧ some p = defaultPort u.scheme) then FixLemmas.userPrefix ru rp else X) ++
          [91] ++ h ++ [93] ++ shownPort u.scheme ep ++ tailPart (C07_strPath u) u.query u.fragment := by
  obtain ⟨n, hn⟩ : ∃ n, net e u = .ok n := by
    unfold rawHost at hraw
    cases hn : net e u with
    | error err => rw [hn] at hraw; cases hraw
    | ok n => exact ⟨n, rfl⟩
  have hru : rawUser e u = .ok n.rawUser := by unfold rawUser; rw [hn]; rfl
  have hrp : rawPassword e u = .ok n.rawPassword := by unfold rawPassword; rw [hn]; rfl
  refine ⟨n.rawUser, n.rawPassword, hru, hrp, ?_⟩
  have hnne : u.netloc ≠ [] := by rw [hnl]; simp
  have hpath' : u.scheme ≠ [] ∨ C07_strPath u = [] ∨ (C07_strPath u).head? = some 47 := by
    unfold C07_strPath
    split
    · exact Or.inr (Or.inr rfl)
    · exact hpath
  have hP : (if (u.path.isEmpty && !u.netloc.isEmpty && (!u.query.isEmpty || !u.fragment.isEmpty)) = true then [47]
      else u.path) = C07_strPath u := rfl
  by_cases hd : ∃ p, ep = some p ∧ some p = defaultPort u.scheme
  · obtain ⟨p, rfl, hpd⟩ := hd
    rw [if_pos ⟨p, rfl, hpd⟩]
    unfold str at hs
    rw [hep] at hs
    simp only [bind, Except.bind, hpd, if_true] at hs
    have hhs : hostSubcomponent e u = .ok (some ([91] ++ h ++ [93])) := by
      unfold hostSubcomponent
      rw [hraw]
      simp [bind, Except.bind, pure, Except.pure, mem_iff.mpr h58]
    rw [hhs, hru, hrp] at hs
    simp only [pure, Except.pure, Except.ok.injEq] at hs
    rw [← hs, makeNetloc_userPrefix]
    have hne : FixLemmas.userPrefix n.rawUser n.rawPassword ++ ([91] ++ h ++ [93]) ++ portStr none ≠ [] := by simp
    rw [hP, unsplit_netloc _ _ _ _ _ hne hpath']
    simp [shownPort, hpd, portStr]
  · rw [if_neg hd]
    have hnd : ∀ p, ep = some p → some p ≠ defaultPort u.scheme := fun p hp hpd => hd ⟨p, hp, hpd⟩
    have := C07_str_recompose e u ep hep hnd
    rw [this] at hs
    have hs' := Except.ok.inj hs
    rw [← hs']
    rw [hP, unsplit_netloc _ _ _ _ _ hnne hpath', hnl]
    have hsp : shownPort u.scheme ep = portStr ep := by
      unfold shownPort portStr
      cases ep with
      | none => rfl
      | some p => simp [hnd p rfl]
    rw [hsp]
    simp

/-- the host that `split_netloc` cuts out lies between the first '[' of the host part and the next ']' -/
theorem splitNetloc_host_no91 (o : Oracles) (n : Str) (np : NetlocParts) (h0 : Str)
    (hn : splitNetloc o n = .ok np) (hh : np.host = some h0)
    (hone : 91 ∉ (partition 91 (rpartition 64 n).2.2).2.2) : 91 ∉ h0 := by
  rw [splitNetloc_eq] at hn
  have := StrTotal.finish_host o _ _ _ np hn
  rw [hh, StrTotal.userSplit_hostinfo_eq] at this
  have he : (hostPort (rpartition 64 n).2.2).1 = h0 := by
    unfold orNone at this
    split at this
    · cases this
    · exact (Option.some.inj this).symm
  rw [← he]
  unfold hostPort
  split
  · intro hm
    exact hone (partition_fst_sub 93 _ 91 hm)
  · rename_i hm
    intro hm'
    have := partition_fst_sub 58 _ 91 hm'
    exact hm (mem_iff.mpr this)

theorem encodeHost_nil (o : Oracles) (v : Bool) : encodeHost o [] v = .ok [] := by
  cases v <;> rfl

theorem hostText_rebracket_nil (b : Bool) : ∃ body, HostTxt (rebracket b []) body ∧ 58 ∉ body := by
  cases b with
  | true => exact ⟨[], Or.inl ⟨by simp [rebracket, mem], by simp, by simp⟩, by simp⟩
  | false => exact ⟨[], Or.inr ⟨by simp [rebracket], by simp, by simp, by simp⟩, by simp⟩
end V6More

open V6More

/-- what "bracketed in `str()`" means: `r` is `[scheme ":"] "//" X "[" h "]" [":" port] tail` where `X` is empty
    or a userinfo ending in '@', the port is shown unless it is the scheme default, and `tail` is the
    path/query/fragment text -/
def C16_StrShows (e : Env) (u : Url) (h r : Str) : Prop :=
  ∃ X ep, (X = [] ∨ ∃ ui, X = ui ++ [64]) ∧ explicitPort e u = .ok ep ∧
    r = schemePart u.scheme ++ [47, 47] ++ X ++ [91] ++ h ++ [93] ++ shownPort u.scheme ep ++
        tailPart (C07_strPath u) u.query u.fragment

namespace V6More
theorem strShows_of (e : Env) (u : Url) (h : Str) (ep : Option Nat) (X r : Str)
    (hraw : rawHost e u = .ok (some h)) (h58 : 58 ∈ h) (hep : explicitPort e u = .ok ep)
    (hnl : u.netloc = X ++ [91] ++ h ++ [93] ++ portStr ep) (hX : X = [] ∨ ∃ ui, X = ui ++ [64])
    (hpath : u.scheme ≠ [] ∨ u.path = [] ∨ u.path.head? = some 47)
    (hs : str e u = .ok r) : C16_StrShows e u h r := by
  obtain ⟨ru, rp, _, _, hr⟩ := str_core e u h ep X r hraw h58 hep hnl hpath hs
  refine ⟨_, ep, ?_, hep, hr⟩
  split
  · exact FixLemmas.userPrefix_nil_or_at ru rp
  · exact hX

/-- a URL without pre-filled cache whose netloc is `X hosttext [:port]` -/
theorem strShows_lazy (e : Env) (u : Url) {w body : Str} (hw : HostTxt w body) (port : Option Nat) (X : Str)
    (hX : X = [] ∨ ∃ ui, X = ui ++ [64]) (hpre : u.pre = none) (hnl : u.netloc = X ++ w ++ portStr port)
    {h r : Str} (hraw : rawHost e u = .ok (some h)) (h58 : 58 ∈ h)
    (hpath : u.scheme ≠ [] ∨ u.path = [] ∨ u.path.head? = some 47)
    (hs : str e u = .ok r) : w = [91] ++ h ++ [93] ∧ explicitPort e u = .ok port ∧ C16_StrShows e u h r := by
  obtain ⟨hep, -, hb⟩ := rawHost_reads_of_ok e u hw.reads port X hX hpre hnl hraw
  obtain rfl : body = h := Option.some.inj (hb.resolve_left nofun).symm
  have hwe := hostText_colon hw h58
  refine ⟨hwe, hep, strShows_of e u body port X r hraw h58 hep ?_ hX hpath hs⟩
  rw [hnl, hwe]; simp

/-- `with_host(h0)`: the host passed validation, and the new netloc is `[userinfo@]` + the encoded host + `[:port]` -/
theorem withHost_written {e : Env} {u u' : Url} {h0 : Str} (hw : withHost e u h0 = .ok u') :
    ∃ eh port X, encodeHost e.o h0 true = .ok eh ∧ (X = [] ∨ ∃ ui, X = ui ++ [64]) ∧ u'.pre = none ∧
      u'.netloc = X ++ eh ++ portStr port ∧ u'.scheme = u.scheme ∧ u'.path = u.path := by
  obtain ⟨_, _, eh, N, heh, _, rfl⟩ := AuthMod.withHost_ok hw
  exact ⟨eh, N.explicitPort, _, heh, FixLemmas.userPrefix_nil_or_at N.rawUser N.rawPassword, rfl,
    makeNetloc_userPrefix _ N.rawUser N.rawPassword eh N.explicitPort, rfl, rfl⟩

/-- a validated host is a host text: in brackets iff it holds a ':' -/
theorem hostTxt_validated {o : Oracles} {h0 eh : Str} (h : encodeHost o h0 true = .ok eh) :
    ∃ b, eh = bracket b ∧ 91 ∉ b ∧ HostTxt eh b := by
  obtain ⟨b, hb, h64, h91, h93⟩ := encoded_host_plain o h0 eh h
  exact ⟨b, hb, h91, hb ▸ hostText_bracket h64 h91 h93⟩
end V6More

/-- `with_host`: the new host, when its raw form contains ':', is an IPv6 literal that passed validation, and
    `str()` of the result shows it in brackets right after "//" and the userinfo -/
theorem C16_str_brackets_with_host (e : Env) (u u' : Url) (h0 h r : Str) (hw : withHost e u h0 = .ok u')
    (hraw : rawHost e u' = .ok (some h)) (h58 : 58 ∈ h)
    (hpath : u.scheme ≠ [] ∨ u.path = [] ∨ u.path.head? = some 47)
    (hs : str e u' = .ok r) :
    encodeHost e.o h0 true = .ok ([91] ++ h ++ [93]) ∧ C16_StrShows e u' h r := by
  obtain ⟨eh, port, X, heh, hX, hpre, hnl, hsc, hp⟩ := withHost_written hw
  obtain ⟨b, _, _, hb⟩ := hostTxt_validated heh
  obtain ⟨hwe, _, hsh⟩ := strShows_lazy e u' hb port X hX hpre hnl hraw h58 (by rw [hsc, hp]; exact hpath) hs
  exact ⟨hwe ▸ heh, hsh⟩

namespace V6More

theorem rawHost_nil (e : Env) (u : Url) (hpre : u.pre = none) (hn : u.netloc = []) : rawHost e u = .ok none := by
  unfold rawHost net
  rw [hpre]
  unfold lazyNet
  rw [hn]
  rfl

/-- the path `build` stores under an authority is empty or rooted -/
theorem build_path (e : Env) (a : BuildArgs) (u : Url) (henc : a.encoded = false) (h : build e a = .ok u)
    (hn : u.netloc ≠ []) : u.path = [] ∨ u.path.head? = some 47 := by
  obtain ⟨_, _, _, _, _, hpath, _⟩ := build_false_ok henc h
  rcases buildPath_ok hpath with ⟨h0 | h0, hp⟩ | ⟨_, ⟨r, hr⟩, hp⟩
  · exact absurd h0 hn
  · exact .inl (hp.trans h0)
  · right
    rw [hp, hr]
    split
    · obtain ⟨q', hq'⟩ := C15_rooted r
      rw [hq']; rfl
    · rfl

/-- `make_netloc` writes `[userinfo "@"]` in front of the host text and the port text behind it -/
theorem makeNetloc_userinfo_shape (qf : Str → Str) (U P : Option Str) (w : Str) (port : Option Nat) (enc : Bool) :
    ∃ X, (X = [] ∨ ∃ ui, X = ui ++ [64]) ∧ makeNetloc qf U P (some w) port enc = X ++ w ++ portStr port := by
  rcases NetlocLemmas.makeNetloc_shape qf U P w port enc with h | ⟨X, h⟩
  · exact ⟨[], Or.inl rfl, by rw [h, hostPortStr_eq]; simp⟩
  · exact ⟨X ++ [64], Or.inr ⟨X, rfl⟩, by rw [h, hostPortStr_eq]; simp⟩

/-- `build(host=…)` without `authority=`: no host, no netloc; otherwise the host passed validation and the netloc is
    `[userinfo@]` + the encoded host + `[:port]` -/
theorem build_host_written {e : Env} {a : BuildArgs} {u : Url} (henc : a.encoded = false) (hauth : a.authority = [])
    (hb : build e a = .ok u) :
    u.pre = none ∧ ((a.host = [] ∧ u.netloc = []) ∨ ∃ eh port X, encodeHost e.o a.host true = .ok eh ∧
      (X = [] ∨ ∃ ui, X = ui ++ [64]) ∧ u.netloc = X ++ eh ++ portStr port) := by
  obtain ⟨_, _, _, _, hnl, _, _, _, hpre⟩ := build_false_ok henc hb
  refine ⟨hpre, ?_⟩
  by_cases hhost : a.host = []
  · rw [buildNetloc_none hauth hhost] at hnl
    exact Or.inl ⟨hhost, (Except.ok.inj hnl).symm⟩
  · rw [buildNetloc_host hauth hhost] at hnl
    obtain ⟨eh, heh, hnl⟩ := bind_ok hnl
    obtain ⟨X, hX, hnl'⟩ := makeNetloc_userinfo_shape (q e Gen.QUOTER) a.user a.password eh
      (strPort u.scheme (a.port.map Int.toNat)) true
    exact Or.inr ⟨eh, _, X, heh, hX, (Except.ok.inj hnl).symm.trans hnl'⟩
end V6More

/-- `build(host=…)`: a raw host containing ':' is an IPv6 literal that passed validation, and `str()` shows it in
    brackets right after "//" and the userinfo -/
theorem C16_str_brackets_build_host (e : Env) (a : BuildArgs) (u : Url) (h r : Str)
    (hb : build e a = .ok u) (henc : a.encoded = false) (hauth : a.authority = [])
    (hraw : rawHost e u = .ok (some h)) (h58 : 58 ∈ h) (hs : str e u = .ok r) :
    encodeHost e.o a.host true = .ok ([91] ++ h ++ [93]) ∧ C16_StrShows e u h r := by
  obtain ⟨hpre, ⟨_, h0⟩ | ⟨eh, port, X, heh, hX, hnl⟩⟩ := build_host_written henc hauth hb
  · rw [rawHost_nil e u hpre h0] at hraw; cases hraw
  · obtain ⟨b, _, _, hw⟩ := hostTxt_validated heh
    have hne : u.netloc ≠ [] := by
      intro h0
      rw [rawHost_nil e u hpre h0] at hraw; cases hraw
    obtain ⟨hwe, _, hsh⟩ := strShows_lazy e u hw port X hX hpre hnl hraw h58
      (Or.inr (build_path e a u henc hb hne)) hs
    exact ⟨hwe ▸ heh, hsh⟩

/-! ## §C  `build(authority=…)` -/

/-- the port `build` writes: a port equal to the scheme default is dropped -/
def C16_keptPort (scheme : Str) (port : Option Nat) : Option Nat :=
  match port with
  | some p => if some p = defaultPort scheme then none else some p
  | none => none

/-- What is guaranteed for `build(authority=A)`.  The scheme is lowered first (`sc`, fix e21485a); a
    non-ASCII `A` passed the NFKC screen `_check_netloc`, as in the parser (fix c2c2803); then the authority is
    split by `split_netloc`; its host `h0` goes through `_encode_host(h0, validate_host=False)`: the result `h1` is
    (1) `[` compressed IPv6 text `%zone` `]` when `h0` (before '%') is an IPv6 literal,
    (2) `h0` itself when it is an IPv4 literal (zone kept),
    (3) the ASCII-lower-cased `h0` when `h0` is ASCII, WHATEVER its characters (no reg-name screen),
    (4) the answer of the IDNA encoder otherwise (no reg-name screen) — unless
    (5) that answer `x` holds a ':' (re-entry, fix 3fbf5b4): then `x` goes through `_encode_host` again, i.e. (1)–(3) for `x`;
    the stored netloc is `[userinfo@]` + `h1` (re-bracketed if the input host was bracketed) + `[:port]`, the port
    being dropped when it is the default of the lowered scheme. -/
theorem C16_build_authority_host (e : Env) (a : BuildArgs) (u : Url) (hb : build e a = .ok u)
    (henc : a.encoded = false) (hauth : a.authority ≠ []) :
    ∃ sc np h1 X, lowerAny e a.scheme = .ok sc ∧ u.scheme = sc ∧
      (isAscii a.authority = false → checkNetloc e.o a.authority = .ok ()) ∧
      splitNetloc e.o a.authority = .ok np ∧
      (match np.host with | some h0 => encodeHost e.o h0 false | none => .ok []) = .ok h1 ∧
      (X = [] ∨ ∃ ui, X = ui ++ [64]) ∧
      u.netloc = X ++ rebracket (mem 91 (rpartition 64 a.authority).2.2) h1 ++
        V6More.portStr (C16_keptPort sc np.port) ∧
      (∀ h0, np.host = some h0 →
        (∃ h8, parseIP (partition 37 h0).1 = some (.v6 h8) ∧ h1 = [91] ++ (ipv6ToStr h8 ++ zonePart h0) ++ [93]) ∨
        h1 = h0 ∨ (isAscii h0 = true ∧ h1 = lower h0) ∨ (isAscii h0 = false ∧ idnaEncode e.o h0 = .ok h1) ∨
        (isAscii h0 = false ∧ ∃ x, idnaEncode e.o h0 = .ok x ∧ mem 58 x = true ∧
          ((∃ h8, parseIP (partition 37 x).1 = some (.v6 h8) ∧ h1 = [91] ++ (ipv6ToStr h8 ++ zonePart x) ++ [93]) ∨
            h1 = x ∨ (isAscii x = true ∧ h1 = lower x)))) := by
  obtain ⟨_, _, _, hsc, hnl, _⟩ := build_false_ok henc hb
  obtain ⟨hscreen, np, h1, hnp, hh1, hnl⟩ := buildNetloc_authority hauth hnl
  obtain ⟨X, hX, hnl'⟩ := makeNetloc_userinfo_shape (q e Gen.QUOTER) np.user np.password
    (rebracket (mem 91 (rpartition 64 a.authority).2.2) h1) (strPort u.scheme np.port) true
  refine ⟨_, np, h1, X, hsc, rfl, hscreen, hnp, ?_, hX, hnl.trans hnl', ?_⟩
  · cases hh : np.host with
    | none => rw [hh] at hh1; exact hh1
    | some h0 => rw [hh] at hh1; exact hh1
  · intro h0 hh
    rw [hh] at hh1
    rcases StrTotal.encodeHost_false_cases e.o h0 h1 hh1 with h | h | h | h | h
    · exact Or.inl h
    · exact Or.inr (Or.inr (Or.inr (Or.inr h)))
    · exact Or.inr (Or.inl h)
    · exact Or.inr (Or.inr (Or.inl h))
    · exact Or.inr (Or.inr (Or.inr (Or.inl h)))

/-- `build(authority=A)` runs the NFKC screen (fix c2c2803): `build(authority=A)` with a non-ASCII `A` whose NFKC form (`nn`, the oracle's
    answer for `A` without "@:#?[]") contains one of "/?#@:[]" is REJECTED — exactly the statement
    `C16_headline_nfkc_rejects` makes for the constructor.  The error is `ValueError` as soon as the steps in front
    of the screen pass (a `port` of the wrong type is a `TypeError`, a `query` argument may raise its own error, and
    lowering a non-ASCII scheme is an oracle call). -/
theorem C16_build_authority_nfkc_screen (e : Env) (a : BuildArgs) (nn : Str) (henc : a.encoded = false) :
    isAscii a.authority = false →
    e.o.nfkc (a.authority.filter (fun c => c ≠ 64 ∧ c ≠ 58 ∧ c ≠ 35 ∧ c ≠ 63 ∧ c ≠ 91 ∧ c ≠ 93)) = some nn →
    nn ≠ a.authority.filter (fun c => c ≠ 64 ∧ c ≠ 58 ∧ c ≠ 35 ∧ c ≠ 63 ∧ c ≠ 91 ∧ c ≠ 93) →
    (∃ c ∈ nn, c = 47 ∨ c = 63 ∨ c = 35 ∨ c = 64 ∨ c = 58 ∨ c = 91 ∨ c = 93) →
    (∀ u, build e a ≠ .ok u) ∧
    (a.portKind = 0 → (qargTruthy a.query = true → ∃ o, getStrQuery e.b a.query = .ok o) →
      (∃ sc, lowerAny e a.scheme = .ok sc) → build e a = .error .valueError) := by
  intro ha hn hne hc
  have hrej := C16_nfkc_rejects e.o a.authority nn hn hne hc
  have hauth : a.authority ≠ [] := by intro h0; rw [h0] at ha; exact absurd ha (by decide)
  constructor
  · intro u hb
    obtain ⟨_, _, _, _, _, _, hscreen, _⟩ := C16_build_authority_host e a u hb henc hauth
    rw [hscreen ha] at hrej
    cases hrej
  · intro hk hq ⟨sc, hsc⟩
    refine build_valueError_of_netloc henc hk hq hsc ?_
    rw [buildNetloc_authority_eq hauth, ha, hrej]
    rfl

/-- a concrete `nfkc` oracle: U+2100 (℀) ↦ "a/c", U+FF20 (＠) ↦ "@", every other character unchanged -/
def V6More.nfkcDemo : Oracles :=
  { Oracles.empty with
    nfkc := fun s => some (s.flatMap fun c => if c = 0x2100 then [97, 47, 99] else if c = 0xFF20 then [64] else [c]) }

/-- `URL.build(scheme="http", authority="ex℀mple.com")` and `URL.build(scheme="http", authority="a＠evil.com")`
    raise ValueError (fix c2c2803; without the screen the first stores a netloc with '/', the second one with a
    userinfo "a@") — on both backends, with the concrete `nfkc` oracle above -/
theorem C16_build_authority_now_rejected : ∀ b : Backend,
    build ⟨b, V6More.nfkcDemo⟩ { scheme := "http".toStr, authority := "ex".toStr ++ [0x2100] ++ "mple.com".toStr } =
      .error .valueError ∧
    build ⟨b, V6More.nfkcDemo⟩ { scheme := "http".toStr, authority := [97, 0xFF20] ++ "evil.com".toStr } =
      .error .valueError ∧
    -- … exactly as the constructor does for the same authority
    encodeUrl ⟨b, V6More.nfkcDemo⟩ ("http://ex".toStr ++ [0x2100] ++ "mple.com".toStr) = .error .valueError ∧
    encodeUrl ⟨b, V6More.nfkcDemo⟩ ("http://a".toStr ++ [0xFF20] ++ "evil.com".toStr) = .error .valueError := by
  str_lits; intro b; cases b <;> decide +kernel

/-- for an ASCII authority `build` does not look at the `nfkc` oracle (the screen is only run on a non-ASCII one) -/
theorem C16_build_ascii_ignores_nfkc (e : Env) (a : BuildArgs) (f : Str → Option Str)
    (ha : isAscii a.authority = true) :
    build { e with o := { e.o with nfkc := f } } a = build e a := by
  -- only the authority step sees the oracles' `nfkc`, and only through the screen of a non-ASCII authority
  have hnl : ∀ sc, buildNetloc { e with o := { e.o with nfkc := f } } sc a = buildNetloc e sc a := by
    intro sc
    unfold buildNetloc
    simp only [ha, Bool.not_true, Bool.false_eq_true, if_false]
    rfl
  rw [build_eq, build_eq]
  cases C07_buildArgCheck a with
  | some err => rfl
  | none =>
    show buildBody _ a = buildBody e a
    unfold buildBody
    simp only [hnl]
    rfl

/-- A HOST THAT `build(authority=)` ACCEPTS AND `build(host=)` REJECTS (evaluated): `EX^ample{}.com` is not in
    the reg-name grammar ('^', '{', '}'); as `authority` it is lower-cased and stored, as `host` it raises. -/
theorem C16_build_authority_accepts_more (e : Env) :
    (build e { scheme := "http".toStr, authority := "EX^ample{}.com".toStr }).map (·.netloc) = .ok "ex^ample{}.com".toStr ∧
    ((build e { scheme := "http".toStr, authority := "EX^ample{}.com".toStr }).bind (str e)) =
      .ok "http://ex^ample{}.com".toStr ∧
    build e { scheme := "http".toStr, host := "EX^ample{}.com".toStr } = .error .valueError ∧
    (∀ u, withHost e u "EX^ample{}.com".toStr ≠ .ok u) := by
  refine ⟨rfl, rfl, rfl, ?_⟩
  intro u hu
  obtain ⟨eh, heh⟩ := (C16_headline_validation e).2.1 u u _ hu
  have : encodeHost e.o "EX^ample{}.com".toStr true = .error .valueError := rfl
  rw [this] at heh; cases heh

/-- `build(authority=A)`: if the host part of `A` (the text after the last '@') contains at most one '[' — and the
    IDNA encoder introduces none of `: @ [ ]` — a raw host containing ':' is shown in brackets by `str()`.
    Without the first hypothesis the statement is false in the same way as for the constructor
    (`C16_str_brackets_fails_for`). -/
theorem C16_str_brackets_build_authority (e : Env) (a : BuildArgs) (u : Url) (h r : Str)
    (hb : build e a = .ok u) (henc : a.encoded = false) (hauth : a.authority ≠ [])
    (hone : 91 ∉ (partition 91 (rpartition 64 a.authority).2.2).2.2)
    (hidna : ∀ h0 x, isAscii h0 = false → idnaEncode e.o h0 = .ok x →
      ∀ c, (c = 58 ∨ c = 64 ∨ c = 91 ∨ c = 93) → c ∈ x → c ∈ h0)
    (hraw : rawHost e u = .ok (some h)) (h58 : 58 ∈ h) (hs : str e u = .ok r) :
    C16_StrShows e u h r := by
  obtain ⟨_, _, _, _, _, _, _, _, hpre⟩ := build_false_ok henc hb
  obtain ⟨sc, np, h1, X, _, _, _, hnp, hh1, hX, hnl, _⟩ := C16_build_authority_host e a u hb henc hauth
  have hne : u.netloc ≠ [] := by
    intro h0
    have := rawHost_nil e u hpre h0
    rw [this] at hraw; cases hraw
  have hpath := build_path e a u henc hb hne
  cases hh : np.host with
  | none =>
    rw [hh] at hh1
    cases hh1
    obtain ⟨body, hw, hb58⟩ := hostText_rebracket_nil (mem 91 (rpartition 64 a.authority).2.2)
    have hbody : body = h := Option.some.inj ((rawHost_reads_of_ok e u hw.reads _ X hX hpre hnl hraw).2.2.resolve_left nofun).symm
    rw [hbody] at hb58
    exact absurd h58 hb58
  | some h0 =>
    rw [hh] at hh1
    obtain ⟨body, hw, _⟩ := hostText_rebracket e.o a.authority np h0 h1 hnp hh
      (Or.inl ⟨splitNetloc_host_no91 e.o a.authority np h0 hnp hh hone,
        fun ha x hx => ⟨False.elim, hidna h0 x ha hx⟩⟩) hh1
    exact (strShows_lazy e u hw _ X hX hpre hnl hraw h58 (Or.inr hpath) hs).2.2

namespace V6More
open FixLemmas in
/-- the constructor on a URL with an authority, read backwards: the authority was split and its host (or "" when
    there is none) encoded without validation; once the written host text is known to denote `body`, the cache
    holds `body` with the split port and userinfo, and the netloc is `[userinfo@]hosttext[:port]` -/
theorem ctor_authority {e : Env} {s : Str} {u : Url} {p : Parts} (hu : encodeUrl e s = .ok u)
    (hp : splitUrl e.o s = .ok p) (hn0 : p.netloc ≠ []) :
    ∃ np host1 netloc pre, splitNetloc e.o p.netloc = .ok np ∧ u = finishUrl e p netloc pre ∧
      (∀ h0, np.host = some h0 → encodeHost e.o h0 false = .ok host1) ∧ (np.host = none → host1 = []) ∧
      ∀ body, HostTxt (rebracket (mem 91 (rpartition 64 p.netloc).2.2) host1) body →
        ∃ ru rp, pre = some { rawHost := some body, explicitPort := np.port, rawUser := ru, rawPassword := rp } ∧
          netloc = userPrefix ru rp ++ rebracket (mem 91 (rpartition 64 p.netloc).2.2) host1 ++ portStr np.port := by
  obtain ⟨p', netloc, pre, hp', hnb, hu'⟩ := encodeUrl_inv e s u hu
  rw [hp] at hp'
  cases hp'
  obtain ⟨np, host0, host1, hsp, hho, henc, rfl, rfl⟩ := netBlock_ok hn0 hnb
  refine ⟨np, host1, _, _, hsp, hu', ?_, ?_, ?_⟩
  · intro h0 hh
    rw [hh] at hho
    cases hho
    exact henc
  · intro hh
    rw [hh] at hho
    cases EagerLemmas.hostOr_none hho
    rw [encodeHost_nil] at henc
    exact (Except.ok.inj henc).symm
  · intro body hw
    refine ⟨_, _, ?_, makeNetloc_userPrefix _ _ _ _ _⟩
    rw [show unbracket (rebracket (mem 91 (rpartition 64 p.netloc).2.2) host1) = body from hw.reads.unbr]

open FixLemmas in
/-- … and without an authority nothing is stored -/
theorem ctor_no_authority {e : Env} {s : Str} {u : Url} {p : Parts} (hu : encodeUrl e s = .ok u)
    (hp : splitUrl e.o s = .ok p) (hn0 : p.netloc = []) : u.pre = none ∧ u.netloc = [] := by
  obtain ⟨p', netloc, pre, hp', hnb, rfl⟩ := encodeUrl_inv e s u hu
  rw [hp] at hp'
  cases hp'
  rw [hn0, netBlock_nil] at hnb
  cases hnb
  exact ⟨rfl, rfl⟩
end V6More

open FixLemmas in
/-- The constructor.  `URL(s)` succeeded, `p` is the parse of `s`; if the host part of the authority (the
    text after the last '@') contains at most one '[' — and the IDNA encoder introduces none of `: @ [ ]` — then a
    raw host `h` containing ':' stands in `str()` as `[h]`, right after "//" and the stored userinfo, followed by
    the port unless that is the scheme default, both when the port is kept and when it is dropped.
    The first hypothesis cannot be dropped: `C16_str_brackets_fails_for`. -/
theorem C16_str_brackets_ipv6 (e : Env) (s : Str) (hs : PyStr s) (u : Url) (p : Parts) (h r : Str)
    (hu : encodeUrl e s = .ok u) (hp : splitUrl e.o s = .ok p)
    (hone : 91 ∉ (partition 91 (rpartition 64 p.netloc).2.2).2.2)
    (hidna : ∀ h0 x, isAscii h0 = false → idnaEncode e.o h0 = .ok x →
      ∀ c, (c = 58 ∨ c = 64 ∨ c = 91 ∨ c = 93) → c ∈ x → c ∈ h0)
    (hraw : rawHost e u = .ok (some h)) (h58 : 58 ∈ h) (hr : str e u = .ok r) :
    (∃ ru rp ep, rawUser e u = .ok ru ∧ rawPassword e u = .ok rp ∧ explicitPort e u = .ok ep ∧
      u.netloc = userPrefix ru rp ++ [91] ++ h ++ [93] ++ V6More.portStr ep ∧
      r = V6More.schemePart u.scheme ++ [47, 47] ++ userPrefix ru rp ++ [91] ++ h ++ [93] ++
          V6More.shownPort u.scheme ep ++ V6More.tailPart (C07_strPath u) u.query u.fragment) ∧
    C16_StrShows e u h r := by
  by_cases hn0 : p.netloc = []
  · obtain ⟨hpre, hnl⟩ := ctor_no_authority hu hp hn0
    rw [rawHost_nil e u hpre hnl] at hraw; cases hraw
  · obtain ⟨np, host1, netloc, pre, hsplit, hu', hsome, hnone, hfill⟩ := ctor_authority hu hp hn0
    -- the written host text
    obtain ⟨body, hw⟩ : ∃ body, HostTxt (rebracket (mem 91 (rpartition 64 p.netloc).2.2) host1) body := by
      cases hh : np.host with
      | none =>
        rw [hnone hh]
        obtain ⟨body, hb, _⟩ := hostText_rebracket_nil (mem 91 (rpartition 64 p.netloc).2.2)
        exact ⟨body, hb⟩
      | some h0 =>
        obtain ⟨body, hb, _⟩ := hostText_rebracket e.o p.netloc np h0 host1 hsplit hh
          (Or.inl ⟨splitNetloc_host_no91 e.o p.netloc np h0 hsplit hh hone,
            fun ha x hx => ⟨False.elim, hidna h0 x ha hx⟩⟩)
          (hsome h0 hh)
        exact ⟨body, hb⟩
    obtain ⟨ru, rp, hpre, hnl⟩ := hfill body hw
    subst hu'
    have hnet : net e (finishUrl e p netloc pre) =
        .ok { rawHost := some body, explicitPort := np.port, rawUser := ru, rawPassword := rp } := by
      unfold net finishUrl; rw [hpre]; rfl
    have hbody : body = h := by
      unfold rawHost at hraw
      rw [hnet] at hraw
      simpa [Except.map] using hraw
    subst hbody
    have hep : explicitPort e (finishUrl e p netloc pre) = .ok np.port := by unfold explicitPort; rw [hnet]; rfl
    have hru : rawUser e (finishUrl e p netloc pre) = .ok ru := by unfold rawUser; rw [hnet]; rfl
    have hrp : rawPassword e (finishUrl e p netloc pre) = .ok rp := by unfold rawPassword; rw [hnet]; rfl
    have hwe := hostText_colon hw h58
    have hnl' : (finishUrl e p netloc pre).netloc = userPrefix ru rp ++ [91] ++ body ++ [93] ++ V6More.portStr np.port := by
      show netloc = _
      rw [hnl, hwe]; simp
    have hnne : netloc ≠ [] := by
      have : (finishUrl e p netloc pre).netloc = netloc := rfl
      rw [← this, hnl']; simp
    obtain ⟨_, hroot, hpy, _, _⟩ := splitUrl_facts e.o s p hs hp
    have hpath : (finishUrl e p netloc pre).path = [] ∨ (finishUrl e p netloc pre).path.head? = some 47 :=
      FixLemmas.rootedOrEmpty_of_rooted (encPath_rooted e netloc p.path (hroot hn0))
    obtain ⟨ru', rp', hru', hrp', hrr⟩ := str_core e _ body np.port _ r hraw h58 hep hnl' (Or.inr hpath) hr
    rw [hru] at hru'; cases hru'
    rw [hrp] at hrp'; cases hrp'
    -- whether or not the port is the default, the text in front of the host is the userinfo read back
    rw [ite_self] at hrr
    exact ⟨⟨ru, rp, np.port, hru, hrp, hep, hnl', hrr⟩, userPrefix ru rp, np.port, FixLemmas.userPrefix_nil_or_at ru rp, hep, hrr⟩

/-! ### the corners where brackets are NOT shown (real behaviour of the library, reproduced on /repo) -/

/-- THE CONSTRUCTOR STATEMENT IS FALSE WITHOUT "at most one '[' in the host part".
    Python: `u = URL("http://[x::1%z[]/")` is accepted (the bracket check only looks for a ':' between the first
    '[' and the next ']'); `u.raw_host == "::1%z"` (a valid IPv6 literal with zone: `host[1:-1]` of the stored host
    text `x::1%z[`), `u.host_subcomponent == "[::1%z]"`, but `str(u) == "http://x::1%z[/"`: no "[::1%z]", not even a
    ']'.  Both backends. -/
theorem C16_str_brackets_fails_for (b : Backend) :
    let e : Env := { b := b, o := Oracles.empty }
    ∃ u, encodeUrl e "http://[x::1%z[]/".toStr = .ok u ∧
      rawHost e u = .ok (some "::1%z".toStr) ∧ 58 ∈ "::1%z".toStr ∧
      parseIPv6 (partition 37 "::1%z".toStr).1 = some [0, 0, 0, 0, 0, 0, 0, 1] ∧
      hostSubcomponent e u = .ok (some "[::1%z]".toStr) ∧
      str e u = .ok "http://x::1%z[/".toStr ∧ 93 ∉ "http://x::1%z[/".toStr ∧
      -- the hypothesis of `C16_str_brackets_ipv6` that fails:
      91 ∈ (partition 91 (rpartition 64 "[x::1%z[]".toStr).2.2).2.2 := by
  str_lits; cases b <;> exact ParseLemmas.OkAnd.exists (by decide +kernel)

/-- the same corner for `build(authority=…)`: `URL.build(scheme="http", authority="[[b:c]")` has
    `raw_host == "b:c"` and `str() == "http://[b:c"` (no closing bracket) -/
theorem C16_str_brackets_build_authority_fails_for (b : Backend) :
    let e : Env := { b := b, o := Oracles.empty }
    ∃ u, build e { scheme := "http".toStr, authority := "[[b:c]".toStr } = .ok u ∧
      rawHost e u = .ok (some "b:c".toStr) ∧ str e u = .ok "http://[b:c".toStr ∧ 93 ∉ "http://[b:c".toStr ∧
      91 ∈ (partition 91 (rpartition 64 "[[b:c]".toStr).2.2).2.2 := by
  str_lits; cases b <;> exact ParseLemmas.OkAnd.exists (by decide +kernel)

/-- `with_host` on a URL without scheme whose path is rootless (only `build(encoded=True)` makes one): `str()`
    drops the whole authority (`unsplit_result` writes `f"{scheme}:{url}"`), so the path hypothesis of
    `C16_str_brackets_with_host` is needed.  Python: `str(URL.build(host="h", path="a", encoded=True).with_host("::1")) == ":a"` -/
theorem C16_str_brackets_with_host_needs_path (b : Backend) :
    let e : Env := { b := b, o := Oracles.empty }
    let u' := (build e { host := "h".toStr, path := "a".toStr, encoded := true }).bind (fun u => withHost e u "::1".toStr)
    u'.bind (rawHost e) = .ok (some "::1".toStr) ∧ u'.bind (str e) = .ok ":a".toStr := by
  str_lits; cases b <;> decide +kernel

/-- `str()` shows the bracketed host as a contiguous piece -/
theorem C16_strShows_infix {e : Env} {u : Url} {h r : Str} (hs : C16_StrShows e u h r) : [91] ++ h ++ [93] <:+: r := by
  obtain ⟨X, ep, _, _, hr⟩ := hs
  refine ⟨schemePart u.scheme ++ [47, 47] ++ X, shownPort u.scheme ep ++ tailPart (C07_strPath u) u.query u.fragment, ?_⟩
  rw [hr]; simp

/-- `host_subcomponent` / `host_port_subcomponent` (`C16_headline_bracketed_subcomponents`, specialised to a raw
    host with ':'; in a raw host with ':' a trailing '.' can only come from a zone id) -/
theorem C16_subcomponents_bracket_ipv6 (e : Env) (u : Url) (h : Str) (hraw : rawHost e u = .ok (some h)) (h58 : 58 ∈ h) :
    hostSubcomponent e u = .ok (some ([91] ++ h ++ [93])) ∧
    (h.getLast? ≠ some 46 → ∀ r, hostPortSubcomponent e u = .ok (some r) → ∃ suffix, r = [91] ++ h ++ [93] ++ suffix) := by
  obtain ⟨h1, h2⟩ := C16_headline_bracketed_subcomponents e u h hraw
  refine ⟨by rw [h1, if_pos (mem_iff.mpr h58)], fun hl r hr => ?_⟩
  obtain ⟨sfx, hs⟩ := h2 r hr
  rw [if_neg hl, if_pos (mem_iff.mpr h58)] at hs
  exact ⟨sfx, hs⟩

/-- a hypothetical IDNA encoder that answers "a:b" -/
def V6More.colonOracle : Oracles :=
  { Oracles.empty with
    idnaEnc := fun _ => some (some "a:b".toStr)
    isDigitU := fun _ => some false
    nfkc := fun s => some s }

/-- the IDNA hypothesis of `C16_str_brackets_ipv6` is needed: an encoder answering a text with ':' for a host
    without ':' (a hypothetical oracle; for the constructor the NFKC screen excludes the real cases) gives a raw
    host with ':' that `str()` does not bracket -/
theorem C16_str_brackets_needs_idna :
    let e : Env := { b := .py, o := V6More.colonOracle }
    let u := encodeUrl e ("http://".toStr ++ [233] ++ "/".toStr)
    u.bind (rawHost e) = .ok (some "a:b".toStr) ∧ u.bind (str e) = .ok "http://a:b/".toStr := by
  str_lits; decide +kernel

/-! ## non-vacuity -/

section nonvacuity
private def e0 : Env := { b := .py, o := Oracles.empty }
private def s0 : Str := "http://u:p@[2001:DB8:0:0:1:0:0:1%Eth0]:80/p?q#f".toStr
private def s1 : Str := "http://u:p@[2001:DB8:0:0:1:0:0:1%Eth0]:8080".toStr

-- the IDNA hypothesis holds for an oracle that never answers (and for any encoder that only emits LDH labels)
example : ∀ h0 x, isAscii h0 = false → idnaEncode Oracles.empty h0 = .ok x →
    ∀ c, (c = 58 ∨ c = 64 ∨ c = 91 ∨ c = 93) → c ∈ x → c ∈ h0 := by
  intro h0 x _ hx
  simp [idnaEncode, ask, Oracles.empty, bind, Except.bind] at hx

-- constructor, default port dropped / other port kept: all hypotheses of `C16_str_brackets_ipv6` hold
example : PyStr s0 ∧ (∃ u p, encodeUrl e0 s0 = .ok u ∧ splitUrl e0.o s0 = .ok p ∧
    91 ∉ (partition 91 (rpartition 64 p.netloc).2.2).2.2 ∧
    rawHost e0 u = .ok (some "2001:db8::1:0:0:1%Eth0".toStr) ∧
    str e0 u = .ok "http://u:p@[2001:db8::1:0:0:1%Eth0]/p?q#f".toStr) := by
  simp only [s0]; str_lits
  exact ⟨by decide +kernel, ParseLemmas.OkAnd.exists₂ (by decide +kernel)⟩
example : PyStr s1 ∧ (∃ u p, encodeUrl e0 s1 = .ok u ∧ splitUrl e0.o s1 = .ok p ∧
    91 ∉ (partition 91 (rpartition 64 p.netloc).2.2).2.2 ∧
    rawHost e0 u = .ok (some "2001:db8::1:0:0:1%Eth0".toStr) ∧
    str e0 u = .ok "http://u:p@[2001:db8::1:0:0:1%Eth0]:8080".toStr) := by
  simp only [s1]; str_lits
  exact ⟨by decide +kernel, ParseLemmas.OkAnd.exists₂ (by decide +kernel)⟩
-- build(host=…), build(authority=…), with_host
example : ∃ u, build e0 { scheme := "http".toStr, host := "::1".toStr, user := some "u".toStr, port := some 80 } = .ok u ∧
    rawHost e0 u = .ok (some "::1".toStr) ∧ str e0 u = .ok "http://u@[::1]".toStr := by
  str_lits; exact ParseLemmas.OkAnd.exists (by decide +kernel)
example : ∃ u, build e0 { scheme := "http".toStr, authority := "u@[0:0::1%Z]:8080".toStr } = .ok u ∧
    91 ∉ (partition 91 (rpartition 64 "u@[0:0::1%Z]:8080".toStr).2.2).2.2 ∧
    rawHost e0 u = .ok (some "::1%Z".toStr) ∧ str e0 u = .ok "http://u@[::1%Z]:8080".toStr := by
  str_lits; exact ParseLemmas.OkAnd.exists (by decide +kernel)
example :
    let u' := (encodeUrl e0 "http://u@example.com:80/p".toStr).bind (fun u => withHost e0 u "FE80::1%eth0".toStr)
    u'.bind (rawHost e0) = .ok (some "fe80::1%eth0".toStr) ∧ u'.bind (str e0) = .ok "http://u@[fe80::1%eth0]/p".toStr := by
  str_lits; decide +kernel
-- zone: verbatim, upper case kept; rejected characters with validation
example : encodeHost Oracles.empty "FE80::1%Eth0/x".toStr false = .ok "[fe80::1%Eth0/x]".toStr ∧
    encodeHost Oracles.empty "FE80::1%Eth0/x".toStr true = .error .valueError ∧
    encodeHost Oracles.empty "FE80::1%Eth0".toStr true = .ok "[fe80::1%Eth0]".toStr := by str_lits; decide +kernel
example : parseIPv6 (partition 37 "FE80::1%Eth0".toStr).1 = some [0xfe80, 0, 0, 0, 0, 0, 0, 1] ∧
    (partition 37 "FE80::1%Eth0".toStr).2.1 = true := by str_lits; decide +kernel
-- RFC 5952: the standard examples
example : ipv6ToStr [0x2001, 0xdb8, 0, 0, 1, 0, 0, 1] = "2001:db8::1:0:0:1".toStr ∧
    longest [0x2001, 0xdb8, 0, 0, 1, 0, 0, 1] = 2 ∧ firstAt 2 [0x2001, 0xdb8, 0, 0, 1, 0, 0, 1] = 2 ∧
    ipv6ToStr [0x2001, 0xdb8, 0, 1, 1, 1, 1, 1] = "2001:db8:0:1:1:1:1:1".toStr ∧
    ipv6ToStr [0x2001, 0, 0, 1, 0, 0, 0, 1] = "2001:0:0:1::1".toStr ∧
    countDC "2001:0:0:1::1".toStr = 1 := by str_lits; decide +kernel
end nonvacuity

end Yarl
