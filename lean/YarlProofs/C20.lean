/-
  C20.lean — "URLs and caches are safe to share between threads".

  Thread interleaving semantics of YarlModel/Cache.lean: every cached call is split into atomic
  look-up / compute / store steps; threads share the heap, the constructor table and the per-object
  memos, and may clear / reconfigure the caches at any point.  For EVERY schedule each thread's
  outputs are a prefix of (and, once finished, equal to) the outputs of running its program alone
  against the cache-free specification.

  Second part: the toy model of the compiled quoter's shared static buffer shows that a quoter call
  must be ONE atomic step (which is what the GIL facts extracted from the .pyx guarantee).
-/
import YarlModel
import YarlProofs.Lemmas.CacheLemmas
import YarlProofs.C08
namespace Yarl.Cache
open Yarl.CacheLemmas

variable {Key Parts Val : Type} [DecidableEq Key]

/-- what a thread in the middle of a call must satisfy:
    * `.newComputed k p`: the thread is executing `.new k` and `p = sem.construct k`;
    * `.readComputed id name v`: the thread is executing `.read h name` with `h ↦ id`, object `id`
      exists and `v = sem.derive (parts of id) name`. -/
def PendOK (sem : Sem Key Parts Val) (heap : List (Obj Parts Val)) (t : Thread Key Parts Val) : Prop :=
  match t.pend with
  | .idle => True
  | .newComputed k p => p = sem.construct k ∧ ∃ rest, t.prog = .new k :: rest
  | .readComputed id name v =>
    (∃ o, heap[id]? = some o ∧ v = sem.derive o.parts name) ∧
    ∃ h rest, t.prog = .read h name :: rest ∧ t.hs[h]? = some (some id)

/-- per-thread invariant, relative to the thread's ORIGINAL program `p` and the spec values `spool`
    of the shared pool: the thread has completed a prefix `done` of `p`; its handles denote objects
    whose parts are the spec's handle values after `done`; its outputs are exactly the spec outputs
    of `done`; its pending computation (if any) is correct. -/
def ThreadOK (sem : Sem Key Parts Val) (heap : List (Obj Parts Val)) (spool : List (Option Parts))
    (p : List (Op Key Parts)) (t : Thread Key Parts Val) : Prop :=
  ∃ done, p = done ++ t.prog ∧ HandlesOK heap t.hs (specHandles sem spool done) ∧
    t.outs = specRun sem spool done ∧ PendOK sem heap t

/-- the invariant of the threaded world -/
def TCoherent (sem : Sem Key Parts Val) (w : World Key Parts Val) (ts : List (Thread Key Parts Val))
    (spool : List (Option Parts)) (progs : List (List (Op Key Parts))) : Prop :=
  (∀ o ∈ w.heap, ∀ nv ∈ o.memo, nv.2 = sem.derive o.parts nv.1) ∧
  (∀ kid ∈ w.table, ∃ o, w.heap[kid.2]? = some o ∧ sem.construct kid.1 = some o.parts) ∧
  ts.length = progs.length ∧
  ∀ (i : Nat) (t : Thread Key Parts Val) (p : List (Op Key Parts)),
    ts[i]? = some t → progs[i]? = some p → ThreadOK sem w.heap spool p t

section
-- no key is looked up from here to `end`
omit [DecidableEq Key]

theorem pendOK_ext {sem : Sem Key Parts Val} {h h' : List (Obj Parts Val)} (he : HeapExt h h')
    {t : Thread Key Parts Val} (hp : PendOK sem h t) : PendOK sem h' t := by
  obtain ⟨prog, hs, pend, outs⟩ := t
  cases pend with
  | readComputed id name v =>
    obtain ⟨⟨o, ho, hv⟩, hrest⟩ := hp
    obtain ⟨o', ho', hpp⟩ := he _ _ ho
    exact ⟨⟨o', ho', by rw [hpp]; exact hv⟩, hrest⟩
  | _ => exact hp

theorem threadOK_ext {sem : Sem Key Parts Val} {h h' : List (Obj Parts Val)} (he : HeapExt h h')
    {spool : List (Option Parts)} {p : List (Op Key Parts)} {t : Thread Key Parts Val}
    (ht : ThreadOK sem h spool p t) : ThreadOK sem h' spool p t := by
  obtain ⟨done, h1, h2, h3, h4⟩ := ht
  exact ⟨done, h1, handlesOK_ext he h2, h3, pendOK_ext he h4⟩

theorem specHandles_snoc (sem : Sem Key Parts Val) (hs : List (Option Parts)) (done : List (Op Key Parts))
    (op : Op Key Parts) :
    specHandles sem hs (done ++ [op]) = (specStep sem (specHandles sem hs done) op).1 := by
  rw [specHandles_append]; rfl

theorem specRun_snoc (sem : Sem Key Parts Val) (hs : List (Option Parts)) (done : List (Op Key Parts))
    (op : Op Key Parts) :
    specRun sem hs (done ++ [op]) = specRun sem hs done ++ [(specStep sem (specHandles sem hs done) op).2] := by
  rw [specRun_append]; rfl

/-- completing one operation -/
theorem threadOK_advance {sem : Sem Key Parts Val} {heap : List (Obj Parts Val)} {spool : List (Option Parts)}
    {p done rest : List (Op Key Parts)} {op : Op Key Parts} {hs' : List (Option Nat)}
    {outs : List (Out Parts Val)} {out : Out Parts Val}
    (hpd : p = done ++ op :: rest) (ho : outs = specRun sem spool done)
    (hh : HandlesOK heap hs' (specStep sem (specHandles sem spool done) op).1)
    (hout : out = (specStep sem (specHandles sem spool done) op).2) :
    ThreadOK sem heap spool p { prog := rest, hs := hs', pend := .idle, outs := outs ++ [out] } := by
  refine ⟨done ++ [op], ?_, ?_, ?_, trivial⟩
  · simp [hpd]
  · rw [specHandles_snoc]; exact hh
  · rw [specRun_snoc, ho, hout]

end

/-- an idle thread either performs its next operation exactly as the sequential `step` does, or (cache miss) leaves
    the world alone and only notes what it has computed -/
theorem tstep_idle (sem : Sem Key Parts Val) (pol : Policy Key) (w : World Key Parts Val) (op : Op Key Parts)
    (rest : List (Op Key Parts)) (hs : List (Option Nat)) (outs : List (Out Parts Val)) :
    tstep sem pol w { prog := op :: rest, hs := hs, outs := outs } =
      ((step sem pol w hs op).1,
       { prog := rest, hs := (step sem pol w hs op).2.1, outs := outs ++ [(step sem pol w hs op).2.2] }) ∨
    ∃ pd, tstep sem pol w { prog := op :: rest, hs := hs, outs := outs } =
        (w, { prog := op :: rest, hs := hs, pend := pd, outs := outs }) ∧
      PendOK sem w.heap { prog := op :: rest, hs := hs, pend := pd, outs := outs } := by
  cases op with
  | new k =>
    simp only [tstep, step]
    split
    · left; split <;> rfl
    · exact .inr ⟨_, rfl, rfl, rest, rfl⟩
  | read h name =>
    simp only [tstep, step]
    split
    · split
      · split
        · exact .inl rfl
        · next _ id hid _ o ho _ _ => exact .inr ⟨_, rfl, ⟨o, ho, rfl⟩, h, rest, rfl, hid⟩
      · exact .inl rfl
    · exact .inl rfl
  | twin h =>
    simp only [tstep, step]
    left
    split
    · split <;> rfl
    · rfl
  | clear => exact .inl rfl
  | configure c => exact .inl rfl

/-- one atomic step of a thread satisfying its invariant, in a world with correct memos
    and table, re-establishes everything and only extends the heap -/
theorem tstep_threadOK (sem : Sem Key Parts Val) (pol : Policy Key) (hp : PrefillOK sem)
    (w : World Key Parts Val) (spool : List (Option Parts)) (p : List (Op Key Parts))
    (t : Thread Key Parts Val)
    (hm : MemoOK sem w.heap) (ht : TableOK sem w.heap w.table) (hto : ThreadOK sem w.heap spool p t) :
    MemoOK sem (tstep sem pol w t).1.heap ∧
    TableOK sem (tstep sem pol w t).1.heap (tstep sem pol w t).1.table ∧
    HeapExt w.heap (tstep sem pol w t).1.heap ∧
    ThreadOK sem (tstep sem pol w t).1.heap spool p (tstep sem pol w t).2 := by
  obtain ⟨prog, hs, pend, outs⟩ := t
  obtain ⟨done, hpd, hh, ho, hpe⟩ := hto
  simp only at hpd hh ho
  cases pend with
  | newComputed k p' =>
    obtain ⟨hk, rest, hprog⟩ := hpe
    subst hprog
    cases p' with
    | none =>
      simp only [tstep, List.tail_cons]
      refine ⟨hm, ht, HeapExt.refl _, threadOK_advance hpd ho ?_ ?_⟩
      · simp only [specStep, ← hk]; exact handlesOK_snoc hh trivial
      · simp only [specStep, ← hk]
    | some q =>
      simp only [tstep, List.tail_cons]
      have he : HeapExt w.heap (w.heap ++ [{ parts := q, memo := sem.prefill k q }]) := heapExt_append _ _
      refine ⟨memoOK_snoc hm (hp k q hk.symm), tableOK_insert pol w.cap (tableOK_ext he ht) ⟨_, List.getElem?_concat_length, hk.symm⟩, he,
        threadOK_advance hpd ho ?_ ?_⟩
      · simp only [specStep, ← hk]; exact handlesOK_snoc (handlesOK_ext he hh) ⟨_, List.getElem?_concat_length, rfl⟩
      · simp only [specStep, ← hk]
  | readComputed id name v =>
    obtain ⟨⟨o, hoo, hv⟩, h, rest, hprog, hhs⟩ := hpe
    subst hprog
    simp only [tstep, List.tail_cons]
    have he := heapExt_setMemo w.heap id name v
    have hmem : MemoOK sem (setMemo w.heap id name v) := by
      refine memoOK_setMemo hm ?_
      intro o' ho'; rw [hoo] at ho'; cases ho'; exact hv
    refine ⟨hmem, tableOK_ext he ht, he, threadOK_advance hpd ho ?_ ?_⟩
    · have : (specStep sem (specHandles sem spool done) (.read h name)).1 = specHandles sem spool done := by
        simp only [specStep]; split <;> rfl
      rw [this]; exact handlesOK_ext he hh
    · rcases handlesOK_get hh h with ⟨id', o', h1, h2, h3⟩ | ⟨h1, h2⟩ | ⟨h1, h2⟩
      · rw [hhs] at h1
        cases h1
        rw [hoo] at h2
        cases h2
        simp only [specStep, h3, hv]
      · rw [hhs] at h1; cases h1
      · rw [hhs] at h1; cases h1
  | idle =>
    cases prog with
    | nil => exact ⟨hm, ht, HeapExt.refl _, done, hpd, hh, ho, hpe⟩
    | cons op rest =>
      rcases tstep_idle sem pol w op rest hs outs with h | ⟨pd, h, hpd'⟩
      · rw [h]
        obtain ⟨⟨hm', ht', hh'⟩, hout⟩ := C08_step_coherent sem pol hp w hs _ op ⟨hm, ht, hh⟩
        exact ⟨hm', ht', step_heapExt sem pol w hs op, threadOK_advance hpd ho hh' hout⟩
      · rw [h]
        exact ⟨hm, ht, HeapExt.refl _, done, hpd, hh, ho, hpd'⟩

/-- one atomic step of any thread preserves the invariant; the other threads' records are
    untouched, the heap only grows (`HeapExt`: existing objects keep their ids and parts) and memos
    only ever hold correct entries (first conjunct of `TCoherent`) -/
theorem C20_tstep_coherent (sem : Sem Key Parts Val) (pol : Policy Key) (hp : PrefillOK sem)
    (w : World Key Parts Val) (ts : List (Thread Key Parts Val)) (spool : List (Option Parts))
    (progs : List (List (Op Key Parts))) (i : Nat) (t : Thread Key Parts Val)
    (hc : TCoherent sem w ts spool progs) (hi : ts[i]? = some t) :
    let r := tstep sem pol w t
    TCoherent sem r.1 (ts.set i r.2) spool progs ∧ HeapExt w.heap r.1.heap ∧
      (∀ j, j ≠ i → (ts.set i r.2)[j]? = ts[j]?) := by
  obtain ⟨hm, ht, hl, hth⟩ := hc
  have hil : i < ts.length := getElem?_lt hi
  obtain ⟨p, hpi⟩ : ∃ p, progs[i]? = some p := ⟨progs[i]'(hl ▸ hil), List.getElem?_eq_getElem _⟩
  obtain ⟨hm', ht', he, hto⟩ := tstep_threadOK sem pol hp w spool p t hm ht (hth i t p hi hpi)
  refine ⟨⟨hm', ht', by rw [List.length_set]; exact hl, ?_⟩, he, fun j hj => List.getElem?_set_ne (Ne.symm hj)⟩
  intro j t' p' hj hpj
  by_cases hji : j = i
  · subst hji
    rw [List.getElem?_set_self hil] at hj
    cases hj
    rw [hpi] at hpj; cases hpj
    exact hto
  · rw [List.getElem?_set_ne (Ne.symm hji)] at hj
    exact threadOK_ext he (hth j t' p' hj hpj)

/-- every schedule preserves the invariant -/
theorem runSched_coherent (sem : Sem Key Parts Val) (pol : Policy Key) (hp : PrefillOK sem)
    (w : World Key Parts Val) (ts : List (Thread Key Parts Val)) (spool : List (Option Parts))
    (progs : List (List (Op Key Parts))) (sched : List Nat) (hc : TCoherent sem w ts spool progs) :
    TCoherent sem (runSched sem pol w ts sched).1 (runSched sem pol w ts sched).2 spool progs := by
  induction sched generalizing w ts with
  | nil => exact hc
  | cons i sched ih =>
    simp only [runSched]
    cases hi : ts[i]? with
    | none => exact ih w ts hc
    | some t => exact ih _ _ (C20_tstep_coherent sem pol hp w ts spool progs i t hc hi).1

set_option linter.unusedSectionVars false in
/-- the initial threaded world: all threads share a coherent pool -/
theorem C20_init_coherent (sem : Sem Key Parts Val) (w0 : World Key Parts Val) (pool : List (Option Nat))
    (spool : List (Option Parts)) (hc : Coherent sem w0 pool spool) (progs : List (List (Op Key Parts))) :
    TCoherent sem w0 (progs.map (fun p => ({ prog := p, hs := pool } : Thread Key Parts Val))) spool progs := by
  obtain ⟨hm, ht, hh⟩ := hc
  refine ⟨hm, ht, by simp, ?_⟩
  intro i t p hi hpi
  rw [List.getElem?_map, hpi] at hi
  simp only [Option.map_some, Option.some.injEq] at hi
  subst hi
  exact ⟨[], rfl, hh, rfl, trivial⟩

/-- under every schedule each thread has completed a prefix `done` of its program, and its outputs are the
    specification's outputs of `done`: the schedule theorems below read this off -/
theorem runSched_done (sem : Sem Key Parts Val) (pol : Policy Key) (hp : PrefillOK sem)
    (w0 : World Key Parts Val) (pool : List (Option Nat)) (spool : List (Option Parts))
    (hc : Coherent sem w0 pool spool) (progs : List (List (Op Key Parts))) (sched : List Nat)
    (i : Nat) (t : Thread Key Parts Val)
    (hi : (runSched sem pol w0 (progs.map (fun p => ({ prog := p, hs := pool } : Thread Key Parts Val))) sched).2[i]?
      = some t) :
    ∃ p done, progs[i]? = some p ∧ p = done ++ t.prog ∧ t.outs = specRun sem spool done := by
  obtain ⟨_, _, hl, hth⟩ :=
    runSched_coherent sem pol hp w0 _ spool progs sched (C20_init_coherent sem w0 pool spool hc progs)
  obtain ⟨p, hpi⟩ : ∃ p, progs[i]? = some p := ⟨progs[i]'(hl ▸ getElem?_lt hi), List.getElem?_eq_getElem _⟩
  obtain ⟨done, hpd, _, ho, _⟩ := hth i t p hi hpi
  exact ⟨p, done, hpi, hpd, ho⟩

/-- for every schedule (any length, any order, threads may starve), every thread's outputs
    are a prefix of its sequential outputs, and equal to them once its program is finished (the premise
    `t.pend = .idle` is superfluous: `C20_any_schedule_finished`) -/
theorem C20_any_schedule (sem : Sem Key Parts Val) (pol : Policy Key) (hp : PrefillOK sem)
    (w0 : World Key Parts Val) (pool : List (Option Nat)) (spool : List (Option Parts))
    (hc : Coherent sem w0 pool spool) (progs : List (List (Op Key Parts))) (sched : List Nat) :
    let ts0 := progs.map (fun p => ({ prog := p, hs := pool } : Thread Key Parts Val))
    let r := runSched sem pol w0 ts0 sched
    ∀ (i : Nat) (t : Thread Key Parts Val), r.2[i]? = some t → ∃ p, progs[i]? = some p ∧ t.outs <+: specRun sem spool p ∧
      (t.prog = [] ∧ t.pend = .idle → t.outs = specRun sem spool p) := by
  intro ts0 r i t hi
  obtain ⟨p, done, hpi, hpd, ho⟩ := runSched_done sem pol hp w0 pool spool hc progs sched i t hi
  refine ⟨p, hpi, ?_, fun ⟨hnil, _⟩ => ?_⟩
  · rw [hpd, specRun_append, ho]
    exact List.prefix_append _ _
  · rw [ho, hpd, hnil, List.append_nil]

/-- a finished program needs no side condition on `pend`: a thread with an empty program is idle -/
theorem C20_any_schedule_finished (sem : Sem Key Parts Val) (pol : Policy Key) (hp : PrefillOK sem)
    (w0 : World Key Parts Val) (pool : List (Option Nat)) (spool : List (Option Parts))
    (hc : Coherent sem w0 pool spool) (progs : List (List (Op Key Parts))) (sched : List Nat)
    (i : Nat) (t : Thread Key Parts Val)
    (hi : (runSched sem pol w0 (progs.map (fun p => ({ prog := p, hs := pool } : Thread Key Parts Val))) sched).2[i]?
      = some t) (hfin : t.prog = []) :
    ∃ p, progs[i]? = some p ∧ t.outs = specRun sem spool p := by
  obtain ⟨p, done, hpi, hpd, ho⟩ := runSched_done sem pol hp w0 pool spool hc progs sched i t hi
  exact ⟨p, hpi, by rw [ho, hpd, hfin, List.append_nil]⟩

/-- threads starting from an empty world and an empty pool -/
theorem C20_any_schedule_fresh (sem : Sem Key Parts Val) (pol : Policy Key) (hp : PrefillOK sem)
    (cap : Option Nat) (progs : List (List (Op Key Parts))) (sched : List Nat) :
    let ts0 := progs.map (fun p => ({ prog := p, hs := [] } : Thread Key Parts Val))
    let r := runSched sem pol { heap := [], table := [], cap := cap } ts0 sched
    ∀ (i : Nat) (t : Thread Key Parts Val), r.2[i]? = some t → ∃ p, progs[i]? = some p ∧ t.outs <+: specRun sem [] p ∧
      (t.prog = [] ∧ t.pend = .idle → t.outs = specRun sem [] p) :=
  C20_any_schedule sem pol hp _ [] [] (C08_init_coherent sem cap) progs sched


/-! ### the shared static buffer -/

deriving instance DecidableEq for BufThread

/-- the shared static buffer: if a quoter call were NOT atomic there is a schedule with a corrupted
    result — which is why the GIL facts extracted from the .pyx (`Gen.noNogil`, `Gen.noWithGil`,
    `Gen.noAllowThreads`) are obligations.  Schedule: A starts, B starts (overwrites position 0),
    A writes its second character, A decodes the buffer: "ba" instead of "aa". -/
theorem C20_buffer_needs_atomicity :
    ∃ sched, ∃ t ∈ (bufRun [] [{ text := [97, 97] }, { text := [98, 98] }] sched).2,
      ∃ r, t.result = some r ∧ r ≠ t.text :=
  ⟨[0, 1, 0, 0], { text := [97, 97], pos := 2, result := some [98, 97] }, by decide +kernel, [98, 97], by decide +kernel, by decide +kernel⟩

/-- `n` consecutive steps of one thread -/
def bufIter (buf : List Nat) (t : BufThread) : Nat → List Nat × BufThread
  | 0 => (buf, t)
  | n + 1 => bufIter (bufStep buf t).1 (bufStep buf t).2 n

/-- a block of `n` consecutive schedule entries for thread `i` is `bufIter … n` on that thread -/
theorem bufRun_block (buf : List Nat) (ts : List BufThread) (i : Nat) (t : BufThread) (n : Nat)
    (rest : List Nat) (h : ts[i]? = some t) :
    bufRun buf ts (List.replicate n i ++ rest) =
      bufRun (bufIter buf t n).1 (ts.set i (bufIter buf t n).2) rest := by
  induction n generalizing buf ts t with
  | zero =>
    have : ts.set i t = ts := by
      obtain ⟨h', e⟩ := List.getElem?_eq_some_iff.mp h
      rw [← e]; exact List.set_getElem_self h'
    simp only [List.replicate_zero, List.nil_append, bufIter, this]
  | succ n ih =>
    have hl := getElem?_lt h
    simp only [List.replicate_succ, List.cons_append, bufRun, h]
    rw [ih _ _ _ (List.getElem?_set_self hl), List.set_set]
    rfl

/-- copying phase: from position `k ≥ 1` with a correct buffer prefix, `d + 1` more uninterrupted
    steps (`d` characters left, then the decode) produce the thread's own text -/
theorem bufIter_copy (a : List Nat) (d : Nat) : ∀ (k : Nat) (buf : List Nat), 1 ≤ k → k + d = a.length →
    buf.take k = a.take k →
    (bufIter buf { text := a, pos := k, result := none } (d + 1)).2 =
      { text := a, pos := a.length, result := some a } := by
  induction d with
  | zero =>
    intro k buf hk hkd htake
    have hka : k = a.length := by omega
    subst hka
    have h0 : ¬ a.length = 0 := by omega
    simp [bufIter, bufStep, h0, htake]
  | succ d ih =>
    intro k buf hk hkd htake
    have hlt : k < a.length := by omega
    have h0 : ¬ k = 0 := by omega
    have hstep : bufStep buf { text := a, pos := k, result := none } =
        (buf.take k ++ [a.getD k 0], { text := a, pos := k + 1, result := none }) := by
      simp [bufStep, h0, hlt]
    rw [bufIter, hstep]
    apply ih (k + 1) _ (by omega) (by omega)
    have hg : a.getD k 0 = a[k] := by
      rw [List.getD_eq_getElem?_getD, List.getElem?_eq_getElem hlt]; rfl
    rw [htake, hg, List.take_append_getElem hlt, List.take_take, Nat.min_self]

/-- a fresh thread that runs `text.length + 1` steps WITHOUT interruption reads back its own text,
    whatever the buffer contained before -/
theorem bufIter_fresh (a buf : List Nat) :
    (bufIter buf { text := a } (a.length + 1)).2 = { text := a, pos := a.length, result := some a } := by
  cases a with
  | nil => simp [bufIter, bufStep]
  | cons x xs =>
    have hstep : bufStep buf { text := x :: xs } = ([x], { text := x :: xs, pos := 1, result := none }) := by
      simp [bufStep]
    rw [List.length_cons, bufIter, hstep]
    exact bufIter_copy (x :: xs) xs.length 1 [x] (Nat.le_refl _) (by simp; omega) (by simp)

/-- an atomic block for a fresh thread `i`: afterwards thread `i` holds its own text -/
theorem bufRun_atomic_block (buf : List Nat) (ts : List BufThread) (i : Nat) (a : List Nat) (rest : List Nat)
    (h : ts[i]? = some { text := a }) :
    ∃ buf', bufRun buf ts (List.replicate (a.length + 1) i ++ rest) =
      bufRun buf' (ts.set i { text := a, pos := a.length, result := some a }) rest := by
  refine ⟨(bufIter buf { text := a } (a.length + 1)).1, ?_⟩
  rw [bufRun_block buf ts i _ _ rest h, bufIter_fresh]

/-- schedule in which thread `i`, `i+1`, … each run their whole call atomically, one after another -/
def seqSched : Nat → List (List Nat) → List Nat
  | _, [] => []
  | i, a :: as => List.replicate (a.length + 1) i ++ seqSched (i + 1) as

theorem bufRun_seq (done : List BufThread) (hd : ∀ t ∈ done, t.result = some t.text)
    (texts : List (List Nat)) (buf : List Nat) :
    ∀ t ∈ (bufRun buf (done ++ texts.map (fun a => ({ text := a } : BufThread))) (seqSched done.length texts)).2,
      t.result = some t.text := by
  induction texts generalizing done buf with
  | nil => simpa [seqSched, bufRun] using hd
  | cons a as ih =>
    have hget : (done ++ (a :: as).map (fun a => ({ text := a } : BufThread)))[done.length]? = some { text := a } := by
      simp
    obtain ⟨buf', h'⟩ := bufRun_atomic_block buf _ done.length a (seqSched (done.length + 1) as) hget
    rw [seqSched, h']
    have hset : (done ++ (a :: as).map (fun a => ({ text := a } : BufThread))).set done.length
          { text := a, pos := a.length, result := some a } =
        (done ++ [{ text := a, pos := a.length, result := some a }]) ++ as.map (fun a => ({ text := a } : BufThread)) := by
      simp
    rw [hset]
    have := ih (done ++ [{ text := a, pos := a.length, result := some a }]) (by
      intro t ht
      rcases List.mem_append.mp ht with h | h
      · exact hd t h
      · simp at h; subst h; rfl) buf'
    simpa using this

/-- if each call is atomic (all steps of thread 0, then all steps of thread 1), every result is the
    thread's own text — for ARBITRARY texts and arbitrary initial buffer contents -/
theorem C20_buffer_atomic_ok (a b buf : List Nat) :
    ∀ t ∈ (bufRun buf [{ text := a }, { text := b }]
            (List.replicate (a.length + 1) 0 ++ List.replicate (b.length + 1) 1)).2,
      t.result = some t.text := by
  simpa [seqSched] using bufRun_seq [] (by intro t h; cases h) [a, b] buf

/-- the same in the other order -/
theorem C20_buffer_atomic_ok' (a b buf : List Nat) :
    ∀ t ∈ (bufRun buf [{ text := a }, { text := b }]
            (List.replicate (b.length + 1) 1 ++ List.replicate (a.length + 1) 0)).2,
      t.result = some t.text := by
  obtain ⟨buf1, h1⟩ := bufRun_atomic_block buf [{ text := a }, { text := b }] 1 b
    (List.replicate (a.length + 1) 0) rfl
  rw [h1]
  obtain ⟨buf2, h2⟩ := bufRun_atomic_block buf1
    [{ text := a }, { text := b, pos := b.length, result := some b }] 0 a [] rfl
  rw [List.append_nil] at h2
  simp only [List.set_cons_succ, List.set_cons_zero]
  rw [h2]
  intro t ht
  simp [bufRun] at ht
  rcases ht with rfl | rfl <;> rfl

/-- any number of threads, arbitrary texts: atomic calls never corrupt each other -/
theorem C20_buffer_atomic_ok_general (texts : List (List Nat)) (buf : List Nat) :
    ∀ t ∈ (bufRun buf (texts.map (fun a => ({ text := a } : BufThread))) (seqSched 0 texts)).2,
      t.result = some t.text := by
  simpa using bufRun_seq [] (by intro t h; cases h) texts buf

/-- … and results really are the inputs, in order -/
example : ((bufRun [1, 2, 3] [{ text := [97, 97] }, { text := [] }, { text := [98, 98, 98] }]
    (seqSched 0 [[97, 97], [], [98, 98, 98]])).2.map (·.result)) = [some [97, 97], some [], some [98, 98, 98]] := by
  decide +kernel

/-- the facts extracted from the Cython source: the quoter never releases the GIL, so a quoter call
    IS one atomic step with respect to other Python threads -/
theorem C20_gil_facts : Gen.noNogil = true ∧ Gen.noWithGil = true ∧ Gen.noAllowThreads = true := by decide +kernel

/-! ### non-vacuity: a real race on the tiny instance -/

namespace Tiny

def prog : List (Op Nat Nat) := [.new 1, .read 0 "ab", .read 0 "x"]

/-- both threads miss the table, both allocate (two distinct objects for the same key), both miss
    the memo of … their own object; results are nevertheless the sequential ones -/
example : ((runSched sem lru (w0 (some 2)) [{ prog := prog, hs := [] }, { prog := prog, hs := [] }]
    [0, 1, 0, 1, 0, 1, 1, 0, 0, 1]).2.map (·.outs)) = [specRun sem [] prog, specRun sem [] prog] := by decide +kernel
example : (runSched sem lru (w0 (some 2)) [{ prog := prog, hs := [] }, { prog := prog, hs := [] }]
    [0, 1, 0, 1, 0, 1, 1, 0, 0, 1]).1.heap.length = 2 := by decide +kernel
example : ((runSched sem lru (w0 (some 2)) [{ prog := prog, hs := [] }, { prog := prog, hs := [] }]
    [0, 1, 0, 1, 0, 1, 1, 0, 0, 1]).2.map (·.hs)) = [[some 0], [some 1]] := by decide +kernel

/-- sequentially scheduled, the second thread gets the first one's object (shared) -/
example : ((runSched sem lru (w0 (some 2)) [{ prog := prog, hs := [] }, { prog := prog, hs := [] }]
    [0, 0, 0, 0, 0, 1, 1, 1, 1, 1]).2.map (·.hs)) = [[some 0], [some 0]] := by decide +kernel

/-- threads sharing a pool object and racing on its memo, with a `clear` in between: an unfinished
    thread has produced a strict prefix -/
def pool : World Nat Nat Nat × List (Option Nat) := runWorld sem lru (w0 none) [] [.new 1, .new 5]

example : Coherent sem pool.1 pool.2 (specHandles sem [] [.new 1, .new 5]) :=
  runWorld_coherent sem lru sem_prefillOK _ _ _ (C08_init_coherent sem none) _

example : ((runSched sem flush pool.1
      [{ prog := [.read 0 "abc", .clear, .new 5], hs := pool.2 }, { prog := [.read 0 "abc", .twin 1, .read 2 "abc"], hs := pool.2 }]
      [0, 1, 1, 0, 0, 1, 0, 9]).2.map (·.outs))
    = [[.value (some 4), .unit], [.value (some 4), .handle (some 2)]] := by decide +kernel
example : specRun sem (specHandles sem [] [.new 1, .new 5]) [.read 0 "abc", .clear, .new 5]
    = [.value (some 4), .unit, .handle (some 2)] := by decide +kernel

/-- with a wrong prefill, threads DO see schedule-dependent results: here thread 1 reads "x" from
    its unpickled twin and gets a different answer from thread 0 reading the same URL -/
example : ((runSched badSem lru (w0 none) [{ prog := [.new 1, .read 0 "x"], hs := [] }, { prog := [.new 1, .twin 0, .read 1 "x"], hs := [] }]
    [0, 0, 0, 1, 1, 1, 1]).2.map (·.outs))
    = [[.handle (some 1), .value (some 99)], [.handle (some 1), .handle (some 1), .value (some 2)]] := by decide +kernel

end Tiny

end Yarl.Cache
