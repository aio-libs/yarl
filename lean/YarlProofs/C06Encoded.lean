import YarlProofs.C06Decode
import YarlProofs.C07Encoded
/-!
# C06 — decoded accessors and `str()` of `encoded=True` URLs   (the "encoded=True calls" item of C02 / C06 GAPS)

`C06_accessors_are_pctUtf8_decodings` (C06Decode.lean) has NO hypothesis on the URL record: every decoded accessor is
the textbook UTF-8 percent-decoding `Rfc.pctUtf8Decode` of the corresponding RAW accessor, whatever the stored text
is.  For `URL(s, encoded=True)` the raw texts are the Appendix B components verbatim (`C07_preencoded_accessors`),
for `URL.build(…, encoded=True)` the arguments verbatim (`C07_build_encoded_verbatim`).  The theorems below are the
one-line compositions:

 * `C06_encoded_accessors` — `URL(s, encoded=True)`: path / path_safe / query_string / fragment / parts / name /
   suffix / suffixes / user / password are `pctUtf8Decode` of the verbatim Appendix B texts (nothing was requoted: an
   unquoted space, a non-ASCII character, a lower-case or malformed escape are decoded from exactly what was typed);
 * `C06_build_encoded_accessors` — the same for `build(encoded=True)`;
 * `C06_encoded_str` — `str()` of either prints the stored parts verbatim, except that an explicit port equal to the
   scheme default is dropped by re-making the authority from the raw accessors (`C07_recompose_accessors`), and that
   "/" is written for an empty path in front of a query / fragment under an authority.
-/
namespace Yarl
open Rfc DecMore

/-- decoded accessors of `URL(s, encoded=True)`: the independent decoding specification applied to the Appendix B
    components of the cleaned input, verbatim.  (One-line corollary of `C06_accessors_are_pctUtf8_decodings`, which
    needs no hypothesis on the URL, and `C07_preencoded_accessors`.) -/
theorem C06_encoded_accessors (e : Env) (s : Str) (u : Url) (h : preEncodedUrl e s = .ok u) :
    let B := Rfc.appendixB Gen.schemeChars (cleanUrl s)
    let A := Rfc.authoritySplit B.authority
    pathDecoded e u = (if B.path.isEmpty then (if B.authority.isEmpty then [] else [47])
                       else pctUtf8Decode keepNone false B.path) ∧
    pathSafe e u = (if B.path.isEmpty then (if B.authority.isEmpty then [] else [47])
                    else pctUtf8Decode keepSlashPercent false B.path) ∧
    queryString e u = pctUtf8Decode keepQsDelims true B.query ∧
    fragmentDecoded e u = pctUtf8Decode keepNone false B.fragment ∧
    user e u = (C07_portOf e.o A.port).map (fun _ => (A.user.bind orNone).map (pctUtf8Decode keepNone false)) ∧
    password e u = (C07_portOf e.o A.port).map (fun _ => A.password.map (pctUtf8Decode keepNone false)) ∧
    partsDecoded e u = (rawParts u).map (pctUtf8Decode keepNone false) ∧
    name e u = (rawName u).map (pctUtf8Decode keepNone false) ∧
    suffix e u = (rawSuffix u).map (pctUtf8Decode keepNone false) ∧
    suffixes e u = (rawSuffixes u).map (List.map (pctUtf8Decode keepNone false)) := by
  intro B A
  obtain ⟨_, e2, e3, e4, e5, _, _, r1, r2, _⟩ := C07_preencoded_accessors e s u h
  obtain ⟨d1, d2, d3, d4, d5, d6, d7, d8, d9, d10⟩ := C06_accessors_are_pctUtf8_decodings e u
  refine ⟨?_, ?_, ?_, ?_, ?_, ?_, d5, d6, d7, d8⟩
  · rw [d3, e2, e3]
  · rw [d4, e2, e3]
  · rw [d9, e4]
  · rw [d10, e5]
  · rw [d1, r1]; cases C07_portOf e.o A.port <;> rfl
  · rw [d2, r2]; cases C07_portOf e.o A.port <;> rfl

/-- decoded accessors of `URL.build(…, encoded=True)`: the decoding specification applied to the ARGUMENTS verbatim
    (`query=` alone having been quoted by `get_str_query`: `C07_buildQueryString`) -/
theorem C06_build_encoded_accessors (e : Env) (a : BuildArgs) (u : Url) (ha : a.encoded = true)
    (h : build e a = .ok u) :
    let N := C07_encBuildNetloc a
    let A := Rfc.authoritySplit N
    pathDecoded e u = (if a.path.isEmpty then (if N.isEmpty then [] else [47])
                       else pctUtf8Decode keepNone false a.path) ∧
    pathSafe e u = (if a.path.isEmpty then (if N.isEmpty then [] else [47])
                    else pctUtf8Decode keepSlashPercent false a.path) ∧
    fragmentDecoded e u = pctUtf8Decode keepNone false a.fragment ∧
    (∃ qs, C07_buildQueryString e a = .ok qs ∧ queryString e u = pctUtf8Decode keepQsDelims true qs) ∧
    (qargTruthy a.query = false → queryString e u = pctUtf8Decode keepQsDelims true a.queryString) ∧
    user e u = (C07_portOf e.o A.port).map (fun _ => (A.user.bind orNone).map (pctUtf8Decode keepNone false)) ∧
    password e u = (C07_portOf e.o A.port).map (fun _ => A.password.map (pctUtf8Decode keepNone false)) := by
  intro N A
  obtain ⟨_, _, e2, e3, e5, _, e4, e4', _⟩ := C07_build_encoded_verbatim e a u ha h
  obtain ⟨_, _, r1, r2, _⟩ := C07_build_encoded_accessors e a u ha h
  obtain ⟨d1, d2, d3, d4, _, _, _, _, d9, d10⟩ := C06_accessors_are_pctUtf8_decodings e u
  refine ⟨?_, ?_, ?_, ⟨u.query, e4, d9⟩, ?_, ?_, ?_⟩
  · rw [d3, e2, e3]
  · rw [d4, e2, e3]
  · rw [d10, e5]
  · intro hq; rw [d9, e4' hq]
  · rw [d1, r1]; cases C07_portOf e.o A.port <;> rfl
  · rw [d2, r2]; cases C07_portOf e.o A.port <;> rfl

/-- `str()` of an `encoded=True` URL (constructor or `build`; in fact of ANY URL: `C07_recompose_accessors` has no
    hypothesis either): the stored scheme / path / query / fragment VERBATIM through `unsplit_result`, the stored
    authority verbatim UNLESS an explicit port equal to the scheme default is written, in which case the authority is
    re-made from raw_user, raw_password and host_subcomponent without the port (so "U:P@H:080" under "http" prints
    "U:P@H"); if the port text cannot be parsed, `str()` raises that error. -/
theorem C06_encoded_str (e : Env) (u : Url)
    (hu : (∃ s, preEncodedUrl e s = .ok u) ∨ (∃ a, a.encoded = true ∧ build e a = .ok u)) :
    u.pre = none ∧
    (∀ ep, explicitPort e u = .ok ep →
      ∃ ru rp hs, rawUser e u = .ok ru ∧ rawPassword e u = .ok rp ∧ hostSubcomponent e u = .ok hs ∧
        str e u = .ok (unsplitResult u.scheme (C07_shownNetloc e u ep ru rp hs) (C07_strPath u) u.query u.fragment) ∧
        ((∀ p, ep = some p → some p ≠ defaultPort u.scheme) → C07_shownNetloc e u ep ru rp hs = u.netloc)) ∧
    (∀ err, explicitPort e u = .error err → str e u = .error err) := by
  have hpre : u.pre = none := by
    rcases hu with ⟨s, h⟩ | ⟨a, ha, h⟩
    · exact (C07_preencoded_verbatim e s u h).2
    · exact (C07_build_encoded_verbatim e a u ha h).2.2.2.2.2.1
  obtain ⟨h1, h2⟩ := C07_recompose_accessors e u
  refine ⟨hpre, ?_, h2⟩
  intro ep hep
  obtain ⟨ru, rp, hs, a1, a2, a3, a4⟩ := h1 ep hep
  refine ⟨ru, rp, hs, a1, a2, a3, a4, ?_⟩
  intro hnd
  unfold C07_shownNetloc
  cases ep with
  | none => rfl
  | some p => simp [hnd p rfl]

/-! ### witnesses -/

section witnesses
private def e0 : Env := { b := .py, o := Oracles.empty }

/-- `u = URL('http://U%41:P@H:080/a%2Fb/%zz/../c%20d?x y+%2B&k=%C3%A9#é%', encoded=True)` (Python):
    `u.user == 'UA'`, `u.path == '/a/b/%zz/../c d'`, `u.path_safe == '/a%2Fb/%zz/../c d'`,
    `u.query_string == 'x y %2B&k=é'`, `u.fragment == 'é%'`, `str(u)` drops ":080" and changes nothing else. -/
theorem C06_encoded_accessors_instance :
    let s := "http://U%41:P@H:080/a%2Fb/%zz/../c%20d?x y+%2B&k=%C3%A9#".toStr ++ [233, 37]
    ∃ u, preEncodedUrl e0 s = .ok u ∧
      u.netloc = "U%41:P@H:080".toStr ∧ u.path = "/a%2Fb/%zz/../c%20d".toStr ∧
      user e0 u = .ok (some "UA".toStr) ∧ password e0 u = .ok (some "P".toStr) ∧
      pathDecoded e0 u = "/a/b/%zz/../c d".toStr ∧ pathSafe e0 u = "/a%2Fb/%zz/../c d".toStr ∧
      queryString e0 u = "x y %2B&k=".toStr ++ [233] ∧ fragmentDecoded e0 u = [233, 37] ∧
      str e0 u = .ok ("http://U%41:P@H/a%2Fb/%zz/../c%20d?x y+%2B&k=%C3%A9#".toStr ++ [233, 37]) := by
  refine ⟨fromParts "http".toStr "U%41:P@H:080".toStr "/a%2Fb/%zz/../c%20d".toStr "x y+%2B&k=%C3%A9".toStr [233, 37], ?_⟩
  str_lits; decide +kernel

end witnesses

end Yarl
