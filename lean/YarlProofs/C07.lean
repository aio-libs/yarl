/-
  C07.lean — parsing is the RFC 3986 Appendix B decomposition of the input: `split_url` in normal form
  (`splitUrlNF`, `splitUrl_eq`: Appendix B of the cleaned text, then the two checks on the authority), `C07_split` and
  what raises; `splitUrl_ok_of_empty` / `splitNetloc_ok_of_empty` (a result computed under the empty oracle holds
  under every oracle); the second fixed decomposition of `split_netloc` (`ParseLemmas.userTriple`, `hostPort`,
  `rfl`-equal to `NetlocLemmas.userSplit`, `hostPort`) with the `C07_netloc_*` theorems; cleaning (`C07_clean_spec`).
-/
import YarlModel
import YarlProofs.Lemmas.ParseLemmas
import YarlProofs.Lemmas.NetlocLemmas
namespace Yarl
open Yarl.ParseLemmas

def toParts5 (p : Parts) : Rfc.Parts5 :=
  { scheme := p.scheme, authority := p.netloc, path := p.path, query := p.query, fragment := p.fragment }

namespace ParseLemmas

theorem checkBrackets_nil : checkBrackets [] = .ok () := rfl

/-- the code's "partition at '#', then at '?'" with its two `in` guards -/
theorem codeTail_eq (r1 r2 : Str) (h35 : 35 ∈ r1 ↔ 35 ∈ r2) (h63 : 63 ∈ r1 ↔ 63 ∈ r2) :
    (let uf : Str × Str := if mem 35 r1 then ((partition 35 r2).1, (partition 35 r2).2.2) else (r2, [])
     let uq : Str × Str := if mem 63 r1 then ((partition 63 uf.1).1, (partition 63 uf.1).2.2) else (uf.1, [])
     (uq.1, uq.2, uf.2)) = tailOf r2 := by
  rw [tailOf_eq]
  simp only [mem_eq, partition_eq, h35, h63, decide_eq_true_eq]
  by_cases a : 35 ∈ r2
  · simp only [a, ↓reduceIte]
    by_cases b : 63 ∈ r2
    · simp only [b, ↓reduceIte]
    · have b' := not_mem_takeWhile_of_not_mem (fun x => decide (x ≠ 35)) b
      simp only [b, ↓reduceIte, takeWhile_ne_of_not_mem b', dropWhile_ne_of_not_mem b', List.drop_nil]
  · simp only [a, ↓reduceIte, takeWhile_ne_of_not_mem a, dropWhile_ne_of_not_mem a, List.drop_nil]
    by_cases b : 63 ∈ r2
    · simp only [b, ↓reduceIte]
    · simp only [b, ↓reduceIte, takeWhile_ne_of_not_mem b, dropWhile_ne_of_not_mem b, List.drop_nil]


/-- `split_url` in normal form: compute the Appendix B decomposition, then run the two checks on the authority -/
def splitUrlNF (o : Oracles) (s : Str) : R Parts :=
  let B := Rfc.appendixB Gen.schemeChars (cleanUrl s)
  match checkBrackets B.authority with
  | .error e => .error e
  | .ok () =>
    match (if !B.authority.isEmpty && !isAscii B.authority then checkNetloc o B.authority else pure ()) with
    | .error e => .error e
    | .ok () => .ok { scheme := B.scheme, netloc := B.authority, path := B.path, query := B.query, fragment := B.fragment }

theorem splitUrl_eq (o : Oracles) (s : Str) : splitUrl o s = splitUrlNF o s := by
  unfold splitUrl splitUrlNF
  simp only [splitScheme_eq, appendixB_eq]
  generalize Rfc.schemeOf Gen.schemeChars (cleanUrl s) = sr
  obtain ⟨scheme, r1⟩ := sr
  simp only
  have h35 := mem_authOf_rest (c := 35) (by decide) (by decide) r1
  have h63 := mem_authOf_rest (c := 63) (by decide) (by decide) r1
  have key := codeTail_eq r1 (authOf r1).2 h35 h63
  have k1 := congrArg Prod.fst key
  have k2 := congrArg (fun t => t.2.1) key
  have k3 := congrArg (fun t => t.2.2) key
  simp only at k1 k2 k3
  clear key
  rw [authOf_eq] at k1 k2 k3 ⊢
  by_cases h : r1.take 2 = [47, 47]
  · simp only [h, ↓reduceIte] at k1 k2 k3 ⊢
    rw [take_authorityEnd, drop_authorityEnd]
    cases checkBrackets (List.takeWhile (fun c => !Rfc.isDelim3 c) (List.drop 2 r1)) with
    | error e => rfl
    | ok u =>
      simp only [bind, Except.bind, pure, Except.pure]
      rw [k1, k2, k3]
      split
      · cases checkNetloc o (List.takeWhile (fun c => !Rfc.isDelim3 c) (List.drop 2 r1)) <;> rfl
      · rfl
  · simp only [h, ↓reduceIte] at k1 k2 k3 ⊢
    simp only [bind, Except.bind, pure, Except.pure, checkBrackets_nil]
    rw [k1, k2, k3]
    rfl

theorem checkNetloc_empty (n : Str) : ∃ f a, checkNetloc Oracles.empty n = .error (.oracleMiss f a) := ⟨_, _, rfl⟩

/-- Under the empty oracle every consultation is a miss; so a parse that succeeds there consulted nothing, and
    succeeds with the same parts under every oracle. -/
theorem splitUrl_ok_of_empty {s : Str} {p : Parts} (h : splitUrl Oracles.empty s = .ok p) (o : Oracles) :
    splitUrl o s = .ok p := by
  rw [splitUrl_eq] at h ⊢
  unfold splitUrlNF at h ⊢
  simp only at h ⊢
  generalize Rfc.appendixB Gen.schemeChars (cleanUrl s) = B at h ⊢
  cases hb : checkBrackets B.authority with
  | error e => rw [hb] at h; cases h
  | ok u =>
    rw [hb] at h
    by_cases hc : (!B.authority.isEmpty && !isAscii B.authority) = true
    · obtain ⟨f, a, hm⟩ := checkNetloc_empty B.authority
      simp only [hc, if_true, hm] at h
      cases h
    · simp only [hc] at h ⊢
      exact h

end ParseLemmas

/-- whenever parsing succeeds the five parts are the Appendix B decomposition of the cleaned string -/
theorem C07_split (o : Oracles) (s : Str) (p : Parts) :
    splitUrl o s = .ok p → toParts5 p = Rfc.appendixB Gen.schemeChars (cleanUrl s) := by
  rw [splitUrl_eq]; unfold splitUrlNF
  intro h
  simp only at h
  split at h
  · cases h
  · split at h
    · cases h
    · cases h; rfl

theorem checkBrackets_cases (n : Str) : checkBrackets n = .ok () ∨ checkBrackets n = .error .valueError := by
  unfold checkBrackets
  simp only
  repeat' split
  all_goals simp

theorem checkNetloc_cases (o : Oracles) (n : Str) :
    checkNetloc o n = .ok () ∨ checkNetloc o n = .error .valueError ∨ (∃ f a, checkNetloc o n = .error (.oracleMiss f a)) := by
  unfold checkNetloc
  simp only
  cases o.nfkc (n.filter (fun c => c ≠ 64 ∧ c ≠ 58 ∧ c ≠ 35 ∧ c ≠ 63 ∧ c ≠ 91 ∧ c ≠ 93)) with
  | none => right; right; exact ⟨_, _, rfl⟩
  | some nn =>
    simp only [ask, bind, Except.bind]
    repeat' split
    all_goals simp

/-- parsing fails only with ValueError (or asks the harness for an NFKC table entry) -/
theorem C07_split_total (o : Oracles) (s : Str) :
    (∃ p, splitUrl o s = .ok p) ∨ splitUrl o s = .error .valueError ∨
      (∃ f a, splitUrl o s = .error (.oracleMiss f a)) := by
  rw [splitUrl_eq]; unfold splitUrlNF
  simp only
  rcases checkBrackets_cases (Rfc.appendixB Gen.schemeChars (cleanUrl s)).authority with hb | hb
  · rw [hb]; simp only
    by_cases hc : (!List.isEmpty (Rfc.appendixB Gen.schemeChars (cleanUrl s)).authority &&
        !isAscii (Rfc.appendixB Gen.schemeChars (cleanUrl s)).authority) = true
    · simp only [hc, ↓reduceIte]
      rcases checkNetloc_cases o (Rfc.appendixB Gen.schemeChars (cleanUrl s)).authority with hn | hn | ⟨f, a, hn⟩
      · rw [hn]; exact Or.inl ⟨_, rfl⟩
      · rw [hn]; exact Or.inr (Or.inl rfl)
      · rw [hn]; exact Or.inr (Or.inr ⟨f, a, rfl⟩)
    · simp only [hc]
      exact Or.inl ⟨_, rfl⟩
  · rw [hb]; exact Or.inr (Or.inl rfl)

/-- an ASCII authority is rejected exactly for a bracket fault -/
theorem C07_split_error_ascii (o : Oracles) (s : Str) :
    isAscii (Rfc.appendixB Gen.schemeChars (cleanUrl s)).authority = true →
    (splitUrl o s = .error .valueError ↔
      checkBrackets (Rfc.appendixB Gen.schemeChars (cleanUrl s)).authority = .error .valueError) := by
  intro ha
  rw [splitUrl_eq]; unfold splitUrlNF
  simp only [ha, Bool.not_true, Bool.and_false, Bool.false_eq_true, ↓reduceIte]
  rcases checkBrackets_cases (Rfc.appendixB Gen.schemeChars (cleanUrl s)).authority with hb | hb
  · rw [hb]; simp [pure, Except.pure]
  · rw [hb]; simp

theorem C07_preencoded_verbatim (e : Env) (s : Str) (u : Url) : preEncodedUrl e s = .ok u →
    toParts5 u.parts = Rfc.appendixB Gen.schemeChars (cleanUrl s) ∧ u.pre = none := by
  unfold preEncodedUrl
  intro h
  cases hp : splitUrl e.o s with
  | error err => rw [hp] at h; cases h
  | ok p =>
    rw [hp] at h
    cases h
    exact ⟨C07_split e.o s p hp, rfl⟩

namespace ParseLemmas

/-- the `(username, password, hostinfo)` triple of `split_netloc` -/
def userTriple (n : Str) : Option Str × Option Str × Str :=
  if !mem 64 n then ((none : Option Str), (none : Option Str), n)
  else
    ((some (partition 58 (rpartition 64 n).1).1),
     (if (partition 58 (rpartition 64 n).1).2.1 then some (partition 58 (rpartition 64 n).1).2.2 else none),
     (rpartition 64 n).2.2)

/-- the `(hostname, port_str)` pair of `split_netloc` -/
def hostPort (hostinfo : Str) : Str × Str :=
  if mem 91 hostinfo then
    let bracketed := (partition 91 hostinfo).2.2
    let (hostname, _, afterB) := partition 93 bracketed
    (hostname, (partition 58 afterB).2.2)
  else
    let (hostname, _, p) := partition 58 hostinfo
    (hostname, p)

theorem hostPort_eq : hostPort = NetlocLemmas.hostPort := rfl

theorem userTriple_eq : userTriple = NetlocLemmas.userSplit := rfl

theorem pyInt_ok_of_empty {s : Str} {v : Option Int} (h : pyInt Oracles.empty s = .ok v) (o : Oracles) :
    pyInt o s = .ok v := by
  unfold pyInt at h ⊢
  split at h
  · rename_i ha; rw [if_pos ha]; exact h
  · cases h

/-- as for `split_url`: a split of the authority that succeeds under the empty oracle consulted nothing -/
theorem splitNetloc_ok_of_empty {n : Str} {r : NetlocParts} (h : splitNetloc Oracles.empty n = .ok r) (o : Oracles) :
    splitNetloc o n = .ok r := by
  obtain ⟨pt, hpt, rfl⟩ := NetlocLemmas.splitNetloc_ok_iff.1 h
  refine NetlocLemmas.splitNetloc_ok_iff.2 ⟨pt, ?_, rfl⟩
  rcases NetlocLemmas.portOf_ok_iff.1 hpt with ⟨ht, rfl⟩ | ⟨hne, p, hp, h0, h1, rfl⟩
  · exact NetlocLemmas.portOf_ok_iff.2 (Or.inl ⟨ht, rfl⟩)
  · exact NetlocLemmas.portOf_ok_iff.2 (Or.inr ⟨hne, p, pyInt_ok_of_empty hp o, h0, h1, rfl⟩)

end ParseLemmas

/-- authority split: no '@', no userinfo -/
theorem C07_netloc_no_userinfo (o : Oracles) (n : Str) (r : NetlocParts) :
    64 ∉ n → splitNetloc o n = .ok r → r.user = none ∧ r.password = none := by
  intro hn h
  obtain ⟨pt, _, rfl⟩ := NetlocLemmas.splitNetloc_ok_iff.1 h
  rw [NetlocLemmas.userSplit_noAt n hn]
  exact ⟨rfl, rfl⟩

/-- authority split: userinfo is what precedes the last '@', cut at its first ':' -/
theorem C07_netloc_userinfo (o : Oracles) (n : Str) (r : NetlocParts) :
    64 ∈ n → splitNetloc o n = .ok r →
    ∃ ui hi : Str, n = ui ++ [64] ++ hi ∧ 64 ∉ hi ∧
      r.user = orNone (ui.takeWhile (· ≠ 58)) ∧
      r.password = (if 58 ∈ ui then some ((ui.dropWhile (· ≠ 58)).drop 1) else none) := by
  intro hn h
  obtain ⟨pt, _, rfl⟩ := NetlocLemmas.splitNetloc_ok_iff.1 h
  obtain ⟨e, hni⟩ := rpartition_mem hn
  refine ⟨_, _, e, hni, ?_⟩
  have := NetlocLemmas.userSplit_at (rpartition 64 n).1 _ hni
  rw [show (rpartition 64 n).1 ++ 64 :: (rpartition 64 n).2.2 = n by simpa using e.symm] at this
  simp only [this, partition_eq, Option.bind_some, decide_eq_true_eq, true_and]

theorem C07_netloc_port_range (o : Oracles) (n : Str) (r : NetlocParts) (p : Nat) :
    splitNetloc o n = .ok r → r.port = some p → p ≤ 65535 :=
  NetlocLemmas.splitNetloc_port_range o n r p

theorem C07_netloc_total (o : Oracles) (n : Str) :
    (∃ r, splitNetloc o n = .ok r) ∨ splitNetloc o n = .error .valueError ∨
      (∃ f a, splitNetloc o n = .error (.oracleMiss f a)) := by
  rw [NetlocLemmas.splitNetloc_eq, NetlocLemmas.finish_eq]
  rcases NetlocLemmas.portOf_total o (NetlocLemmas.hostPort (NetlocLemmas.userSplit n).2.2).2 with
    ⟨pt, h⟩ | h | ⟨f, a, h⟩
  · rw [h]
    exact Or.inl ⟨_, rfl⟩
  · rw [h]
    exact Or.inr (Or.inl rfl)
  · rw [h]
    exact Or.inr (Or.inr ⟨f, a, rfl⟩)

/-- cleaning: exactly the leading C0/space characters are stripped and every tab/CR/LF removed -/
theorem C07_clean_spec (s : Str) :
    cleanUrl s = (s.dropWhile (fun c => decide (c ≤ 32))).filter (fun c => c ≠ 9 ∧ c ≠ 10 ∧ c ≠ 13) := by
  unfold cleanUrl
  rw [lstripSet_eq]
  have e1 : (fun c => mem c Gen.stripSet) = (fun c => decide (c ≤ 32)) := funext mem_stripSet
  have e2 : (fun c => !mem c Gen.removeSet) = (fun c => decide (c ≠ 9 ∧ c ≠ 10 ∧ c ≠ 13)) := funext mem_removeSet
  rw [e1, e2]

/-- scheme characters are none of `: / ? #` (computed from the generated table) -/
theorem C07_schemeChars_no_delims : ∀ c ∈ Gen.schemeChars, c ≠ 58 ∧ c ≠ 47 ∧ c ≠ 63 ∧ c ≠ 35 := by decide +kernel

/-! ### non-vacuity: concrete inputs satisfying the hypotheses -/

-- closed instances are evaluated once, by the kernel
attribute [local instance] ParseLemmas.decEqResult

-- C07_split / C07_preencoded_verbatim: leading blank + tab, mixed-case scheme, userinfo, IPv6 literal, '?' inside the fragment
example : splitUrl Oracles.empty " \tHtTp://u:p@[::1]:80/a?b#c?d".toStr =
    .ok { scheme := "http".toStr, netloc := "u:p@[::1]:80".toStr, path := "/a".toStr,
          query := "b".toStr, fragment := "c?d".toStr } := by str_lits; decide +kernel
example : Rfc.appendixB Gen.schemeChars (cleanUrl " \tHtTp://u:p@[::1]:80/a?b#c?d".toStr) =
    { scheme := "http".toStr, authority := "u:p@[::1]:80".toStr, path := "/a".toStr,
      query := "b".toStr, fragment := "c?d".toStr } := by str_lits; decide +kernel
-- no scheme because of a non-scheme character before ':'; no authority
example : splitUrl Oracles.empty "a_b:c/d?e".toStr =
    .ok { scheme := [], netloc := [], path := "a_b:c/d".toStr, query := "e".toStr, fragment := [] } := by
  decide +kernel
-- C07_split_error_ascii: both sides hold (unbalanced bracket), hypothesis holds
example : splitUrl Oracles.empty "http://[::1/a".toStr = .error .valueError := by str_lits; decide +kernel
example : isAscii (Rfc.appendixB Gen.schemeChars (cleanUrl "http://[::1/a".toStr)).authority = true := by
  str_lits; decide +kernel
-- C07_split_total: the third alternative occurs (non-ASCII authority, empty oracle table)
example : ∃ f a, splitUrl Oracles.empty ("http://".toStr ++ [233] ++ "/".toStr) = .error (.oracleMiss f a) :=
  ⟨_, _, rfl⟩
-- C07_clean_spec
example : cleanUrl [32, 9, 0, 104, 10, 116, 32, 13] = [104, 116, 32] := by decide +kernel
-- C07_netloc_userinfo: two '@' (the split is at the last), password containing '@'
example : (64 : Nat) ∈ "u:p@q@[::1]:80".toStr := by str_lits; decide +kernel
example : splitNetloc Oracles.empty "u:p@q@[::1]:80".toStr =
    .ok { user := some "u".toStr, password := some "p@q".toStr, host := some "::1".toStr, port := some 80 } := by
  str_lits; decide +kernel
-- C07_netloc_no_userinfo / C07_netloc_port_range
example : (64 : Nat) ∉ "[::1]:65535".toStr := by decide +kernel
example : splitNetloc Oracles.empty "[::1]:65535".toStr =
    .ok { user := none, password := none, host := some "::1".toStr, port := some 65535 } := by decide +kernel
-- C07_netloc_total: the ValueError alternative occurs (port out of range)
example : splitNetloc Oracles.empty "h:65536".toStr = .error .valueError := by decide +kernel

end Yarl
