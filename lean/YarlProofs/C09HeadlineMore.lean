import YarlProofs.C09Headline
import YarlProofs.C09Bracket
/-!
  C09HeadlineMore.lean — AUDIT LAYER for property C09, continuation of C09Headline.lean (the theorems here need
  C09Bracket.lean, which imports C09Headline.lean; this file is a leaf, nobody imports it).

  C09 | Eager and lazy component computation agree; pickling is lossless |
  "Every accessor returns the same value whether it was pre-computed while the URL was being built or derived later from
  the stored string parts. In particular a URL restored by pickle, copy or deepcopy compares equal to the original, has
  the same hash and string form, and returns identical values for every accessor."

  What is here: the part of GAPS 1 of C09Headline.lean (guard coverage) that concerns BRACKETED hosts which are not IPv6
  addresses — IPvFuture "[v1.a:b]", "[g::1]", "[a:b]", "[1.2.3.4%a:b]".  C09Headline.lean covered them only implicitly
  ("ASCII host text without '['": C09_headline_eager_eq_lazy_ascii_host); since fix c17f18a the constructor keeps the
  brackets of such a host in the stored netloc, and C09Bracket.lean states the C09 facts for exactly this family.
  ANSWER of C09Bracket.lean to "are these hosts inside `GoodAuthority`?": YES — `GoodHost` asks of an ASCII host text
  only that it contains no '[', and `BracketTextIn T` gives both.  Nothing else of `BracketTextIn` is used: not the
  bracket check, not "no IPv6 literal", not the letter case.

  Vocabulary (Lemmas/BrHost.lean, C03Bracket.lean; `pickleTwin`, `net`, `lazyNet`, `GoodAuthority`: C09Headline.lean).
  `BracketTextIn T`  — the text between '[' and ']' in the input, any letter case: visible ASCII with none of
                       `/ ? # @ [ ]` (':' and '%' allowed), accepted by the bracket check of `split_url`
                       (`bracketCheck`), the text before an optional `%zone` no IPv6 literal
                       (spelled out in C03_headline_bracketed_host_text_spec, C03Headline.lean).
  `HostFixB o t`     — the stored form: such a text that `_encode_host` returns unchanged (`BracketText t` — the same in
                       lower case — suffices).
  `authTextB user pw t port` — the text `[user[:password]@][t][:port]`, host ALWAYS in brackets; `preOf user pw t port`
                       — the four cache entries `raw_host = t`, `explicit_port = port`, `raw_user`, `raw_password`.
-/
namespace Yarl
open ReachFix FixLemmas NetShape NetlocLemmas HostLemmas BrHost EagerLemmas

/-! ## Sentence 1 — "Every accessor returns the same value whether it was pre-computed … or derived later from the
    stored string parts." — bracketed non-IPv6 hosts -/

/-- the guard of C09_headline_eager_eq_lazy holds for ANY Python-string input whose host text (as `split_netloc` cuts it
    out) is a bracketed non-IPv6 text in any letter case — whatever userinfo, port, path, query, fragment.
    Cites C09_bracket_good_authority. -/
theorem C09_headline_bracketed_host_in_guard (e : Env) (s : Str) (pt : Parts) (np : NetlocParts) (T : Str)
    (hs : PyStr s)                                       -- the input is a Python string
    (h1 : splitUrl e.o s = .ok pt) (h2 : splitNetloc e.o pt.netloc = .ok np) -- names the split of the input
    (hhost : np.host = some T)                           -- the host text
    (hk : BracketTextIn T) :                             -- a bracketed non-IPv6 text, any letter case
    GoodAuthority e s :=
  C09_bracket_good_authority e s pt np T hs h1 h2 hhost hk

/-- sentence 1 for the canonical strings `s = scheme://[user[:password]@][t][:port]path…` around such a host, with the
    values written out (ANY port ≤ 65535, default or not): the constructor caches `raw_host = t`, the port, user and
    password, and the restored URL derives exactly these from the stored netloc `[user[:password]@][t][:port]`.
    Cites C09_bracket_eager_eq_lazy. -/
theorem C09_headline_eager_eq_lazy_bracketed_host (e : Env) (scheme : Str) (user pw : Option Str) (t : Str)
    (port : Option Nat) (path query fragment : Str)
    (hs : SchemeOK' scheme)                              -- empty, or non-empty lower-case scheme characters
    (hu : UserInfoOK e.b user pw)                        -- user non-empty, user / password REQUOTER-canonical
    (hh : HostFixB e.o t)                                -- bracketed non-IPv6 text, lower case (`BracketText t` suffices)
    (hp : ∀ p, port = some p → p ≤ 65535)                -- port in range (the default port is allowed)
    (hc : CompOK e.b path query fragment) :              -- canonical path / query / fragment (C04Headline.lean)
    ∃ u, encodeUrl e (canonText scheme (authTextB user pw t port) path query fragment) = .ok u ∧
      u.netloc = authTextB user pw t port ∧ u.pre = some (preOf user pw t port) ∧
      lazyNet e (pickleTwin u) = .ok (preOf user pw t port) ∧ net e (pickleTwin u) = net e u ∧
      rawHost e (pickleTwin u) = .ok (some t) ∧ rawHost e u = .ok (some t) ∧
      str e (pickleTwin u) = str e u ∧ hostSubcomponent e (pickleTwin u) = hostSubcomponent e u ∧
      hostPortSubcomponent e (pickleTwin u) = hostPortSubcomponent e u :=
  C09_bracket_eager_eq_lazy e scheme user pw t port path query fragment hs hu hh hp hc

/-! ## Sentence 2 — "In particular a URL restored by pickle, copy or deepcopy compares equal to the original, has the same
    hash and string form, and returns identical values for every accessor." — bracketed non-IPv6 hosts -/

/-- eager = lazy and lossless pickling for the constructor on ANY Python-string input naming such a host: the four
    cached entries are what the lazy route derives from the stored netloc, EVERY netloc-dependent accessor of the
    restored URL agrees, the string form is the same, and the restored URL is `==` with the same hash key.
    (Even the inputs of C03_headline_bracketed_fails_for_upper_case_v, whose string form cannot be parsed again, pickle
    losslessly: the letter case and the bracket check of the lowered text are not used.)
    Cites C09_bracket_pickle_lossless. -/
theorem C09_headline_restored_bracketed_host (e : Env) (s : Str) (u : Url) (pt : Parts) (np : NetlocParts) (T : Str)
    (hs : PyStr s) (hu : encodeUrl e s = .ok u)
    (h1 : splitUrl e.o s = .ok pt) (h2 : splitNetloc e.o pt.netloc = .ok np) -- names the split of the input
    (hhost : np.host = some T) (hk : BracketTextIn T) :  -- as above
    (∀ p, u.pre = some p → lazyNet e (pickleTwin u) = .ok p) ∧
    net e (pickleTwin u) = net e u ∧ str e (pickleTwin u) = str e u ∧ host e (pickleTwin u) = host e u ∧
    hostSubcomponent e (pickleTwin u) = hostSubcomponent e u ∧
    hostPortSubcomponent e (pickleTwin u) = hostPortSubcomponent e u ∧ port e (pickleTwin u) = port e u ∧
    isDefaultPort e (pickleTwin u) = isDefaultPort e u ∧ authority e (pickleTwin u) = authority e u ∧
    user e (pickleTwin u) = user e u ∧ password e (pickleTwin u) = password e u ∧
    humanRepr e (pickleTwin u) = humanRepr e u ∧
    rawUser e (pickleTwin u) = rawUser e u ∧ rawPassword e (pickleTwin u) = rawPassword e u ∧
    rawHost e (pickleTwin u) = rawHost e u ∧ explicitPort e (pickleTwin u) = explicitPort e u ∧
    (pickleTwin u).beq u = true ∧ eqKey (pickleTwin u) = eqKey u :=
  C09_bracket_pickle_lossless e s u pt np T hs hu h1 h2 hhost hk

/-! ## non-vacuity -/

-- a far-from-canonical input with userinfo and port, through the headline theorem
example : ∃ u, encodeUrl ⟨.py, Oracles.empty⟩ "HTTP://Us%65r@[V1.A:B]:8080/a/../b?x y#f g".toStr = .ok u ∧
    net ⟨.py, Oracles.empty⟩ (pickleTwin u) = net ⟨.py, Oracles.empty⟩ u ∧
    str ⟨.py, Oracles.empty⟩ (pickleTwin u) = str ⟨.py, Oracles.empty⟩ u := by
  obtain ⟨hu, h1, h2, hs, hk⟩ := bracket_sample_facts
  obtain ⟨_, h2, h3, _⟩ := C09_headline_restored_bracketed_host ⟨.py, Oracles.empty⟩ _ _ _ _ _ hs hu h1 h2 rfl hk
  exact ⟨_, hu, h2, h3⟩

-- the input whose STRING FORM cannot be parsed again is inside the guard
example : GoodAuthority ⟨.py, Oracles.empty⟩ "http://[V:b]/".toStr :=
  C09_headline_bracketed_host_in_guard ⟨.py, Oracles.empty⟩ _ ⟨"http".toStr, "[V:b]".toStr, [47], [], []⟩
    ⟨none, none, some "V:b".toStr, none⟩ "V:b".toStr (by decide) (by str_lits; decide +kernel) (by str_lits; decide +kernel) rfl
    (bracketTextInB_sound (by str_lits; decide +kernel))

end Yarl
