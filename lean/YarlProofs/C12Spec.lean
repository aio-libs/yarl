/-
  C12Spec.lean — `update_query` on a URL against the specification of `MultiDict.update` (`mdUpdateSpec`, `StaleFree`:
  C12Update.lean): the call succeeds and the resulting URL has exactly the specified pairs iff the input is `StaleFree`
  (`C12_url_update_query_spec*`); which pairs can differ otherwise (`C12_mdUpdate_extra_pairs`); worked examples.
  The finding F-C12-multidict-tail is thereby characterised exactly, not by one witness.  Namespace `R7` is the helper
  layer of C12Update.lean; the sample URLs of the examples sit in it.
-/
import YarlProofs.C12
import YarlProofs.C12Url
import YarlProofs.C12More
namespace Yarl
open Yarl.MdLemmas R7

universe u
variable {V : Type u}

/-! ### `update_query` on a URL -/

/-- on `StaleFree` inputs the result of `mdUpdate` is the specified one, so the clauses of the property hold of it -/
theorem R7.update_clauses (old ps : List (Str × V)) :
    (mdUpdate old ps = mdUpdateSpec old ps ↔ StaleFree old ps) ∧
    (StaleFree old ps →
      mdUpdate old ps = mdUpdateSpec old ps ∧
      (mdUpdate old ps).filter (fun p => !(keysOf ps).contains p.1) = old.filter (fun p => !(keysOf ps).contains p.1) ∧
      ∀ k ∈ keysOf ps, (mdUpdate old ps).filter (fun p => p.1 = k) = ps.filter (fun p => p.1 = k)) := by
  refine ⟨C12_mdUpdate_eq_spec_iff _ _, fun hsf => ?_⟩
  rw [C12_mdUpdate_eq_spec _ _ hsf]
  exact ⟨rfl, C12_spec_keeps_others _ _, C12_spec_pairs_of_key _ _⟩

/-- update_query(sequence of pairs): the call succeeds and the resulting URL has exactly the specified pairs iff the
    input is `StaleFree`; in that case the three clauses of the property hold literally -/
theorem C12_url_update_query_spec (e : Env) (u : Url) (items : List (Str × QItem)) (ps : List (Str × Str))
    (hs : SingleValued items) (hden : expandItems items = some ps) (hg : GoodPairs ps)
    (hold : GoodPairs (queryPairs u)) (hne : ps ≠ []) :
    ∃ v, updateQuery e u (.pairs items) = .ok v ∧
      (queryPairs v = mdUpdateSpec (queryPairs u) ps ↔ StaleFree (queryPairs u) ps) ∧
      (StaleFree (queryPairs u) ps →
        queryPairs v = mdUpdateSpec (queryPairs u) ps ∧
        (queryPairs v).filter (fun p => !(keysOf ps).contains p.1) =
          (queryPairs u).filter (fun p => !(keysOf ps).contains p.1) ∧
        ∀ k ∈ keysOf ps, (queryPairs v).filter (fun p => p.1 = k) = ps.filter (fun p => p.1 = k)) := by
  obtain ⟨v, h1, h2⟩ := C12_url_update_query e u items ps hs hden hg hold hne
  refine ⟨v, h1, ?_⟩
  rw [h2]
  exact update_clauses _ _

/-- the same for a mapping with single values -/
theorem C12_url_update_query_spec_mapping (e : Env) (u : Url) (items : List (Str × QItem)) (ps : List (Str × Str))
    (hs : SingleValued items) (hden : expandItems items = some ps) (hg : GoodPairs ps)
    (hold : GoodPairs (queryPairs u)) (hne : ps ≠ []) :
    ∃ v, updateQuery e u (.mapping items) = .ok v ∧
      (queryPairs v = mdUpdateSpec (queryPairs u) ps ↔ StaleFree (queryPairs u) ps) ∧
      (StaleFree (queryPairs u) ps →
        queryPairs v = mdUpdateSpec (queryPairs u) ps ∧
        (queryPairs v).filter (fun p => !(keysOf ps).contains p.1) =
          (queryPairs u).filter (fun p => !(keysOf ps).contains p.1) ∧
        ∀ k ∈ keysOf ps, (queryPairs v).filter (fun p => p.1 = k) = ps.filter (fun p => p.1 = k)) := by
  obtain ⟨v, h1, h2⟩ := C12_url_update_query_mapping e u items ps hs hden hg hold hne
  refine ⟨v, h1, ?_⟩
  rw [h2]
  exact update_clauses _ _

/-- the same for a string argument (read by `parse_qsl`, like the old query) -/
theorem C12_url_update_query_spec_str (e : Env) (u : Url) (s : Str) (hs : GoodText s)
    (hold : GoodPairs (queryPairs u)) (hne : s ≠ []) :
    ∃ v, updateQuery e u (.str s) = .ok v ∧
      (queryPairs v = mdUpdateSpec (queryPairs u) (parseQsl s) ↔ StaleFree (queryPairs u) (parseQsl s)) ∧
      (StaleFree (queryPairs u) (parseQsl s) →
        queryPairs v = mdUpdateSpec (queryPairs u) (parseQsl s) ∧
        (queryPairs v).filter (fun p => !(keysOf (parseQsl s)).contains p.1) =
          (queryPairs u).filter (fun p => !(keysOf (parseQsl s)).contains p.1) ∧
        ∀ k ∈ keysOf (parseQsl s),
          (queryPairs v).filter (fun p => p.1 = k) = (parseQsl s).filter (fun p => p.1 = k)) := by
  obtain ⟨v, h1, h2⟩ := C12_url_update_query_str e u s hs hold hne
  refine ⟨v, h1, ?_⟩
  rw [h2]
  exact update_clauses _ _

/-- mapping with list/tuple values: multidict acts on the SLOTS (a list value is one slot), so the specification and
    the condition are those of the slot lists; the resulting pairs are the expansion of the specified slot list -/
theorem C12_url_update_query_spec_lists (e : Env) (u : Url) (items : List (Str × QItem)) (ps : List (Str × Str))
    (hden : expandItems items = some ps) (hg : GoodPairs ps) (hold : GoodPairs (queryPairs u)) (hne : items ≠ [])
    (hsf : StaleFree (strItems (queryPairs u)) items) :
    ∃ v ps', updateQuery e u (.mapping items) = .ok v ∧ queryPairs v = ps' ∧
      expandItems (mdUpdateSpec (strItems (queryPairs u)) items) = some ps' := by
  obtain ⟨v, ps', h1, h2, h3⟩ := C12_url_update_query_lists e u items ps hden hg hold hne
  rw [C12_mdUpdate_eq_spec _ _ hsf] at h3
  exact ⟨v, ps', h1, h2, h3⟩

/-- for URLs obtained through the auto-encoding API (`Reach`) the hypothesis on the old query is discharged -/
theorem C12_reach_update_query_spec (e : Env) (u : Url) (hr : Reach e u) (items : List (Str × QItem))
    (ps : List (Str × Str)) (hs : SingleValued items) (hden : expandItems items = some ps) (hg : GoodPairs ps)
    (hne : ps ≠ []) (hsf : StaleFree (queryPairs u) ps) :
    (∃ v, updateQuery e u (.pairs items) = .ok v ∧ queryPairs v = mdUpdateSpec (queryPairs u) ps) ∧
    (∃ v, updateQuery e u (.mapping items) = .ok v ∧ queryPairs v = mdUpdateSpec (queryPairs u) ps) := by
  have hold := C12_constructor_goodpairs e u hr
  obtain ⟨v1, h1, _, h3⟩ := C12_url_update_query_spec e u items ps hs hden hg hold hne
  obtain ⟨v2, g1, _, g3⟩ := C12_url_update_query_spec_mapping e u items ps hs hden hg hold hne
  exact ⟨⟨v1, h1, (h3 hsf).1⟩, ⟨v2, g1, (g3 hsf).1⟩⟩

/-- **which pairs can differ**: for every key the values in the actual result are the specified values followed by
    stale old values `S` of that key — a subsequence of the old values of that key beyond the number of new values
    for it; for a key that is not updated there is no difference -/
theorem C12_mdUpdate_extra_pairs (old arg : List (Str × V)) (k : Str) :
    ∃ S, ((mdUpdate old arg).filter (fun p => p.1 = k)).map (·.2) =
        ((mdUpdateSpec old arg).filter (fun p => p.1 = k)).map (·.2) ++ S ∧
      S.Sublist (((old.filter (fun p => p.1 = k)).map (·.2)).drop (arg.filter (fun p => p.1 = k)).length) ∧
      (k ∉ keysOf arg → S = []) := by
  by_cases hk : k ∈ keysOf arg
  · obtain ⟨S, h1, h2⟩ := C12_update_sets_keys_split old arg k hk
    exact ⟨S, by rw [h1, C12_spec_sets_keys old arg k hk], h2, fun h => absurd hk h⟩
  · refine ⟨[], ?_, List.nil_sublist _, fun _ => rfl⟩
    have hf : ∀ l : List (Str × V), l.filter (fun p => p.1 = k) =
        (l.filter (fun p => !(keysOf arg).contains p.1)).filter (fun p => p.1 = k) := by
      intro l
      rw [List.filter_filter]
      apply List.filter_congr
      intro x _
      by_cases hx : x.1 = k
      · simp [hx, hk]
      · simp [hx]
    rw [List.append_nil, hf (mdUpdate old arg), hf (mdUpdateSpec old arg), C12_update_keeps_others,
      C12_spec_keeps_others]

/-! ### non-vacuity and worked examples (a = [97], b = [98], c = [99]) -/

-- the positional rule of the specification
example : mdUpdateSpec [([97], 1), ([98], 2), ([97], 3)] [([97], 7), ([97], 8)] = [([97], 7), ([98], 2), ([97], 8)] := by
  decide +kernel
example : mdUpdateSpec [([97], 1), ([98], 2), ([97], 3), ([97], 4)] [([97], 7)] = [([97], 7), ([98], 2)] := by decide +kernel
example : mdUpdateSpec [([97], 1), ([98], 2)] [([99], 5), ([97], 7), ([97], 8), ([99], 6)] =
    [([97], 7), ([98], 2), ([99], 5), ([97], 8), ([99], 6)] := by decide +kernel
example : ranked [(([97] : Str), 1), ([98], 2), ([97], 3)] = [(0, [97], 1), (0, [98], 2), (1, [97], 3)] := by decide +kernel

-- the known witness F-C12-multidict-tail: `a=1&a=2&b=3&b=4` updated with `a=9&b=8` is NOT StaleFree; the
-- specification says `a=9&b=8`, multidict returns `a=9&b=8&b=4`
example : ¬ StaleFree [([97], 1), ([97], 2), ([98], 3), ([98], 4)] [([97], 9), ([98], 8)] := by decide +kernel
example : mdUpdateSpec [([97], 1), ([97], 2), ([98], 3), ([98], 4)] [([97], 9), ([98], 8)] = [([97], 9), ([98], 8)] := by
  decide +kernel
example : mdUpdate [([97], 1), ([97], 2), ([98], 3), ([98], 4)] [([97], 9), ([98], 8)] ≠
    mdUpdateSpec [([97], 1), ([97], 2), ([98], 3), ([98], 4)] [([97], 9), ([98], 8)] :=
  C12_mdUpdate_ne_spec_of_stale _ _ (by decide +kernel)
-- … the first failing pair is `b=4` (position 3; `a=2` at position 1 is surplus too but passes the check): it survives
-- after the `3 - 1 = 2` specified pairs
example : ∃ tail, mdUpdate [([97], 1), ([97], 2), ([98], 3), ([98], 4)] [([97], 9), ([98], 8)] =
    (mdUpdateSpec [([97], 1), ([97], 2), ([98], 3), ([98], 4)] [([97], 9), ([98], 8)]).take 2 ++ ([98], 4) :: tail :=
  (C12_mdUpdate_first_stale _ [([97], 9), ([98], 8)] [([97], 1), ([97], 2), ([98], 3)] ([98], 4) [] rfl
    (by decide +kernel) (by decide +kernel)).2

-- repeated keys, both updated keys have a surplus pair, and yet StaleFree: the surplus pairs come late …
example : StaleFree [([97], 1), ([98], 3), ([97], 2), ([98], 4)] [([97], 9), ([98], 8)] := by decide +kernel
example : mdUpdate [([97], 1), ([98], 3), ([97], 2), ([98], 4)] [([97], 9), ([98], 8)] = [([97], 9), ([98], 8)] := by
  decide +kernel
-- … or there is a kept pair (`c=5`) between the overwritten `b=3` and the surplus `b=4`
example : StaleFree [([97], 1), ([97], 2), ([98], 3), ([99], 5), ([98], 4)] [([97], 9), ([98], 8)] := by decide +kernel
example : ¬ StaleFree [([97], 1), ([97], 2), ([97], 0), ([98], 3), ([99], 5), ([98], 4)] [([97], 9), ([98], 8)] := by
  decide +kernel
-- the hypotheses of the sufficient conditions are satisfiable by inputs with repeated keys
example : StaleFree [([97], 1), ([98], 3), ([97], 2), ([97], 4)] [([97], 9), ([99], 8)] :=
  C12_staleFree_of_one_surplus_key _ _ [97] (by decide +kernel)
example : StaleFree [([97], 1), ([98], 3), ([97], 2), ([97], 4)] [([97], 9), ([97], 8)] :=
  C12_staleFree_single_key _ _ [97] (by decide +kernel)
example : StaleFree [([97], 1), ([98], 3), ([97], 2)] [([97], 9), ([98], 8), ([97], 7), ([97], 6)] :=
  C12_staleFree_of_no_surplus _ _ (by decide +kernel)
example : StaleFree [([97], 1), ([98], 3), ([97], 2)] [([98], 8), ([99], 7)] :=
  C12_staleFree_of_old_unrepeated _ _ (by decide +kernel)
example : StaleFree [([97], 1), ([98], 3), ([99], 2)] [([98], 8), ([99], 7), ([98], 6)] :=
  C12_staleFree_of_nodup _ _ (by decide +kernel)
example : StaleFree [([97], 1), ([98], 3), ([97], 2), ([98], 4)] [([97], 9), ([98], 8)] :=
  C12_staleFree_of_surplus_late _ _ (by decide +kernel)

namespace R7
/-- `?a=1&b=3&a=2&b=4` -/
def okUrl : Url := fromParts [] [] [] [97, 61, 49, 38, 98, 61, 51, 38, 97, 61, 50, 38, 98, 61, 52] []
/-- `?a=1&a=2&b=3&b=4` -/
def staleUrl : Url := fromParts [] [] [] [97, 61, 49, 38, 97, 61, 50, 38, 98, 61, 51, 38, 98, 61, 52] []
/-- `[("a", 9), ("b", 8)]` -/
def newItems : List (Str × QItem) := [([97], .one (.int 9)), ([98], .one (.int 8))]
def newPs : List (Str × Str) := [([97], [57]), ([98], [56])]
end R7

example : SingleValued newItems ∧ expandItems newItems = some newPs ∧ GoodPairs newPs ∧ newPs ≠ [] ∧
    GoodPairs (queryPairs okUrl) ∧ GoodPairs (queryPairs staleUrl) := by decide +kernel
example : StaleFree (queryPairs okUrl) newPs ∧ ¬ StaleFree (queryPairs staleUrl) newPs := by decide +kernel
/-- `?a=1&b=3&a=2&b=4` updated with `[("a", 9), ("b", 8)]` is `?a=9&b=8`, as specified -/
example (e : Env) : ∃ v, updateQuery e okUrl (.pairs newItems) = .ok v ∧ queryPairs v = [([97], [57]), ([98], [56])] := by
  obtain ⟨v, h1, _, h3⟩ := C12_url_update_query_spec e okUrl newItems newPs (by decide +kernel) (by decide +kernel) (by decide +kernel)
    (by decide +kernel) (by decide +kernel)
  refine ⟨v, h1, ?_⟩
  rw [(h3 (by decide +kernel)).1]
  decide +kernel
/-- `?a=1&a=2&b=3&b=4` updated with `[("a", 9), ("b", 8)]` is NOT the specified `?a=9&b=8` -/
example (e : Env) : ∃ v, updateQuery e staleUrl (.pairs newItems) = .ok v ∧
    queryPairs v ≠ mdUpdateSpec (queryPairs staleUrl) newPs ∧
    mdUpdateSpec (queryPairs staleUrl) newPs = [([97], [57]), ([98], [56])] := by
  obtain ⟨v, h1, h2, _⟩ := C12_url_update_query_spec e staleUrl newItems newPs (by decide +kernel) (by decide +kernel) (by decide +kernel)
    (by decide +kernel) (by decide +kernel)
  exact ⟨v, h1, fun h => absurd (h2.1 h) (by decide +kernel), by decide +kernel⟩

end Yarl
