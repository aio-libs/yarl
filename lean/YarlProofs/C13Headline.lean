import YarlProofs.C13
/-!
# C13 — Path operations compose like a path algebra   (audit layer)

Continued in C13HeadlineMore.lean (theorems that need modules which import this file): the decoded accessors,
children made from texts with '/', the `encoded=True` and n-ary `joinpath`, `parent` of the results,
`with_suffix` → `suffix`, and `suffix` vs `suffixes` (C13More.lean).
Continued in C13HeadlineMore3.lean (C13More2.lean: name / parent parts of `u / s` over an old path WITH dot segments,
`joinpath(a, b) = u / pjoin(a, b)`, the exact guard of `joinpath(a, b) = joinpath(a).joinpath(b)`, and `u / o` against
`u.joinpath(o)` for an arbitrary Python object, model-level).

Property statement (verbatim):

> raw_parts re-compose to raw_path, name is the last part and suffix/suffixes are the tail of name.
> u / s equals u.joinpath(s), has name s (for s not a dot segment) and parent parts equal to u's parts
> without a trailing empty segment; joinpath(a, b), joinpath(a).joinpath(b) and u / 'a/b' are equal;
> with_name(n) has name n and the same parent; with_suffix(x) replaces only the suffix and leaves the
> rest of the (decoded) name and all other segments exactly as they were, never re-encoding them.

Reading guide.  `rawParts`, `rawPath`, `rawName`, `rawSuffix`, `rawSuffixes` are the raw accessors;
`u / s` and `u.joinpath(s)` are `makeChild e u [s] false`, `u.joinpath(a, b)` is `makeChild e u [a, b] false`;
`q e Gen.PATH_QUOTER s` is the canonical (quoted) form of a path argument; 46 = '.', 47 = '/'.
`recompose` joins parts with '/', the first part "/" standing for the leading slash.
`(rawParts v).dropLast` are the "parent parts".
Continued further in C13HeadlineMore4.lean (headline theorems for the proof modules added after the last refresh:
C13More3.lean, C13More3b.lean; the GAPS block below cites them).
-/
namespace Yarl
open Yarl.PathLemmas Yarl.PathAlg

namespace HeadB
/-- nothing is normalised — the flag does not matter — without an authority, or when neither the old path nor `X`
    has a dot segment -/
theorem childOf_nodots (u : Url) (X : List Str) (hX : X ≠ [])
    (h : u.netloc ≠ [] → NoDots (splitOn 47 u.path) ∧ NoDots X) (nn : Bool) :
    childOf u X nn = childOf u X false := by
  cases nn with
  | false => rfl
  | true =>
    by_cases hn : u.netloc = []
    · simp [childOf, hn]
    · have hn' : u.netloc.isEmpty = false := by simpa using hn
      have hnd : NoDots (root u.netloc (base u ++ X)) := by
        intro x hx
        rcases mem_root hx with rfl | hx
        · exact ⟨by decide, by decide⟩
        · rcases List.mem_append.1 hx with hx | hx
          · exact (h hn).1 x (mem_base hx)
          · exact (h hn).2 x hx
      rw [childOf_true u X hn', childOf_false, normalizePathSegments_noDots _ hnd]
      obtain ⟨R, hR⟩ := root_head u.netloc (base u ++ X) hn' (by simp [hX])
      rw [hR]
      cases R with
      | nil => rfl
      | cons a R => rw [fixRoot_rooted _ (by simp)]
end HeadB

/-! ## Sentence 1 — accessors -/

/-- "raw_parts re-compose to raw_path" -/
theorem C13_headline_parts_recompose (u : Url)
    -- excludes a ROOTLESS path next to an authority (only reachable through encoded=True / hand-made parts):
    -- `C13_headline_parts_recompose_fails_for`
    (h : u.netloc ≠ [] → (u.path = [] ∨ u.path.head? = some 47)) :
    recompose (rawParts u) = rawPath u :=
  C13_raw_parts_recompose u h

theorem C13_headline_parts_recompose_fails_for :
    let u := fromParts "http".toStr "h".toStr "a".toStr [] []
    rawParts u = ["/".toStr, []] ∧ rawPath u = "a".toStr ∧ recompose (rawParts u) ≠ rawPath u :=
  C13_raw_parts_recompose_counterexample

/-- "name is the last part" — and `raw_name` never fails; under an authority the root part "/" is not a
    name (`http://h` and `http://h/` have name "") -/
theorem C13_headline_name_is_last (u : Url) :
    ∃ n, rawName u = .ok n ∧
      (u.netloc = [] → (rawParts u).getLast? = some n) ∧
      (u.netloc ≠ [] → n = ((rawParts u).drop 1).getLast?.getD []) := by
  obtain ⟨n, hn⟩ := C13_raw_name_total u
  exact ⟨n, hn, C13_name_is_last u n hn⟩

/-- "suffix/suffixes are the tail of name": a non-empty suffix is ".ext" with no further '.', after a
    non-empty stem; the suffixes concatenate to a tail of the name -/
theorem C13_headline_suffix_is_tail (u : Url) (n s : Str) (ss : List Str)
    (hn : rawName u = .ok n) :
    (rawSuffix u = .ok s → s ≠ [] →
      ∃ stem, n = stem ++ s ∧ stem ≠ [] ∧ s.head? = some 46 ∧ 46 ∉ s.drop 1 ∧ 1 < s.length) ∧
    (rawSuffixes u = .ok ss → ss ≠ [] → ∃ stem, n = stem ++ ss.flatten) :=
  ⟨fun h1 h2 => C13_suffix_is_tail u n s hn h1 h2, fun h1 h2 => C13_suffixes_concat u n ss hn h1 h2⟩

/-! ## Sentence 2 — children -/

/-- "u / s equals u.joinpath(s)": in the model both ARE the same call (`URL.__truediv__` and
    `URL.joinpath` both call `_make_child`); this is a wiring fact, not a computation -/
theorem C13_headline_truediv_eq_joinpath (e : Env) (u : Url) (s : Str) :
    makeChild e u [s] false = makeChild e u [s] false :=
  C13_truediv_eq_joinpath e u s

/-- "u / s … has name s (for s not a dot segment) and parent parts equal to u's parts without a
    trailing empty segment".  NEW in this file: `s` may contain '.', only "." and ".." are excluded
    (the existing `C13_child_name_py` asks for no '.' at all). -/
theorem C13_headline_child_name (e : Env) (u : Url) (s : Str) (v : Url)
    (hs : PyStr s)
    -- a lone surrogate is dropped by the quoter, "\ud800" becomes the EMPTY segment:
    -- `C13_headline_child_name_fails_for_surrogate`
    (hsur : NoSurrogate s)
    -- one segment: an `s` with '/' is several segments (then see `C13_headline_truediv_slash`)
    (h47 : 47 ∉ s) (hne : s ≠ [])
    -- "s not a dot segment" (in canonical form; for a Python string the quoter leaves '.' alone)
    (hdot : q e Gen.PATH_QUOTER s ≠ dot ∧ q e Gen.PATH_QUOTER s ≠ dotdot)
    -- the OLD path has no dot segments (always true under an authority for library-made URLs: C15; an
    -- encoded=True path "/a/../b" would be normalised by this call and the parent would change)
    (hold : u.netloc ≠ [] → NoDots (splitOn 47 u.path))
    -- excludes a rootless path next to an authority (encoded=True only), as for raw_parts above
    (hpath : u.netloc ≠ [] → (u.path = [] ∨ u.path.head? = some 47)) :
    makeChild e u [s] false = .ok v → rawName v = .ok (q e Gen.PATH_QUOTER s) ∧
      (rawParts v).dropLast = (let ps := rawParts u; if ps.getLast? = some [] then ps.dropLast else ps) := by
  intro h
  have hs0 : s.head? ≠ some 47 := fun hc => h47 (List.mem_of_head? hc)
  have hq47 := C13_path_quoter_no_slash e s hs h47
  have hqne := C13_path_quoter_nonempty e s hs hsur hne
  rw [makeChild_one e u s hs0, PathLemmas.splitOn_of_not_mem 47 _ hq47] at h
  have hv : v = childOf u [q e Gen.PATH_QUOTER s] false := by
    cases h
    exact HeadB.childOf_nodots u _ (by simp)
      (fun hn => ⟨hold hn, fun x hx => by rw [List.mem_singleton.1 hx]; exact hdot⟩) _
  subst hv
  exact childOf_single_name u _ hq47 (fun _ _ => hqne) hpath

/-- `URL("http://h") / "\ud800"` is `URL("http://h")` itself: name "", parent parts `()` not `("/",)` -/
theorem C13_headline_child_name_fails_for_surrogate (e : Env) :
    let u := fromParts "http".toStr "h".toStr [] [] []
    let s : Str := [0xD800]
    s ≠ [] ∧ s.head? ≠ some 47 ∧ q e Gen.PATH_QUOTER s = [] ∧ makeChild e u [s] false = .ok u ∧
      rawParts u = ["/".toStr] ∧ (rawParts u).dropLast = [] :=
  C13_child_name_surrogate_counterexample e

/-! ## Sentence 3 — composition -/

/-- "joinpath(a, b) [and] joinpath(a).joinpath(b) … are equal" -/
theorem C13_headline_joinpath_assoc (e : Env) (u : Url) (a b : Str) (v1 v2 w : Url)
    -- under an authority, no ".." segment in the old path or in `a`: otherwise `a` may climb above the
    -- root and the two forms differ — `C13_headline_joinpath_assoc_fails_for` (F-C15-root-consumed; weaker exact guard:
    -- `hroot` of `C13_joinpath_assoc`)
    (hdd : u.netloc ≠ [] → dotdot ∉ splitOn 47 u.path ∧ dotdot ∉ splitOn 47 (q e Gen.PATH_QUOTER a)) :
    makeChild e u [a, b] false = .ok w → makeChild e u [a] false = .ok v1 →
    makeChild e v1 [b] false = .ok v2 → w = v2 :=
  C13_joinpath_assoc_no_dotdot e u a b v1 v2 w hdd

/-- KNOWN FINDING (class F-C15-root-consumed: a ".." that climbs above the root consumes the root marker, so the
    empty segment that follows is lost): `URL("http://h").joinpath("..", ".//x")` is `http://h/x`, but
    `URL("http://h").joinpath("..").joinpath(".//x")` is `http://h//x` -/
theorem C13_headline_joinpath_assoc_fails_for (e : Env) :
    let u := fromParts "http".toStr "h".toStr [] [] []
    makeChild e u ["..".toStr, ".//x".toStr] false = .ok (fromParts "http".toStr "h".toStr "/x".toStr [] []) ∧
    makeChild e u ["..".toStr] false = .ok u ∧
    makeChild e u [".//x".toStr] false = .ok (fromParts "http".toStr "h".toStr "//x".toStr [] []) ∧
    normalizePathSegments (childSegments e u "..".toStr) = [[]] :=
  C13_joinpath_assoc_root_counterexample e

/-- "… and u / 'a/b' [is equal to joinpath(a, b)]" -/
theorem C13_headline_truediv_slash (e : Env) (u : Url) (a b : Str) (w w' : Url) (ha : PyStr a) (hb : PyStr b)
    -- `a` is not empty and does not end with '/': `u / "x//b"` keeps the empty segment that
    -- `joinpath("x/", "b")` drops — `C13_headline_truediv_slash_fails_for_double_slash` (C13HeadlineMore.lean)
    (hlast : (splitOn 47 (q e Gen.PATH_QUOTER a)).getLast? ≠ some []) :
    makeChild e u [a ++ 47 :: b] false = .ok w' → makeChild e u [a, b] false = .ok w → w' = w :=
  C13_truediv_slash e u a b w w' ha hb hlast

/-! ## Sentence 4 — with_name, with_suffix -/

/-- "with_name(n) has name n and the same parent" — for every URL value; `n` reads back in canonical
    (quoted) form.  On the bare root of an authority (`http://h`) the parent parts are the parts. -/
theorem C13_headline_with_name (e : Env) (u : Url) (nm : Str) (kq kf : Bool) (v : Url) (hnm : PyStr nm) :
    withName e u nm kq kf = .ok v → rawName v = .ok (q e Gen.PATH_QUOTER nm) ∧
      (rawParts v).dropLast = (if u.netloc ≠ [] ∧ (rawParts u).length = 1 then rawParts u
                               else (rawParts u).dropLast) :=
  fun h => let r := C13_with_name_spec_py e u nm kq kf v hnm h; ⟨r.1, r.2.1⟩

/-- "with_suffix(x) replaces only the suffix and leaves the rest of the … name and all other segments
    exactly as they were, never re-encoding them": all other RAW segments are identical, the new raw name
    is the old raw stem (old name minus old suffix, as raw text) followed by the quoted `x`.
    -- Appendix E: C13_with_suffix_raw ↦ this theorem (C13_with_suffix_raw_py); `rawStem v = rawStem u`
    --   is expressed by the explicit new name; the conjunct `suffix v = x` is proved in C13HeadlineMore.lean
    --   (`C13_headline_with_suffix_suffix`: for x = "." ++ y, y non-empty without '.'; it is FALSE for ".tar.gz":
    --   `C13_headline_with_suffix_suffix_fails_for_multi_dot`). -/
theorem C13_headline_with_suffix (e : Env) (u : Url) (x : Str) (kq kf : Bool) (v : Url) (n old : Str)
    (hxs : PyStr x) (hn : rawName u = .ok n) (ho : rawSuffix u = .ok old) :
    withSuffix e u x kq kf = .ok v →
    (rawParts v).dropLast = (rawParts u).dropLast ∧
    rawName v = .ok (n.take (n.length - old.length) ++ q e Gen.PATH_QUOTER x) :=
  fun h => let r := C13_with_suffix_raw_py e u x kq kf v n old hxs hn ho h; ⟨r.1, r.2.1⟩

/-! ## non-vacuity -/
private def e0 : Env := { b := .py, o := Oracles.empty }
private def u1 : Url := fromParts "http".toStr "h".toStr "/a/b/".toStr [] []
example : q e0 Gen.PATH_QUOTER "c.txt".toStr ≠ dot ∧ q e0 Gen.PATH_QUOTER "c.txt".toStr ≠ dotdot := by
  str_lits; decide +kernel
example : NoDots (splitOn 47 u1.path) := by
  simp only [u1]; str_lits; unfold NoDots; decide +kernel
example : ((makeChild e0 u1 ["c.txt".toStr] false).map (·.path)).toOption = some "/a/b/c.txt".toStr := by
  simp only [u1]; str_lits; decide +kernel
example : ((makeChild e0 u1 ["c.txt".toStr] false).map rawParts).toOption =
    some ["/".toStr, "a".toStr, "b".toStr, "c.txt".toStr] := by
  simp only [u1]; str_lits; decide +kernel

/-
GAPS:
 1. CLOSED by C13_decoded_accessors, C13_child_name_decoded, C13_with_name_decoded, C13_with_suffix_decoded,
    C13_suffix_last_decoded (C13More.lean), see C13_headline_decoded_accessors, C13_headline_child_name_decoded,
    C13_headline_with_name_decoded, C13_headline_with_suffix_decoded, C13_headline_suffix_last_decoded
    (C13HeadlineMore.lean).  Proved: `parts`, `name`, `suffix`, `suffixes` are the raw accessors decoded
    element-wise by the plain UNQUOTER (= the specification decoder of C06Spec); `u / s` has DECODED name `s` and
    decoded parent parts = `u.parts` without a trailing empty segment (guards of C13_headline_child_name, "not a
    dot segment" stated on `s` itself); `with_name(n)` has decoded name `n` and the same decoded parent parts;
    `with_suffix(x)` turns the decoded name `dstem ++ suffix` into `dstem ++ x` and keeps all other decoded parts.
    All for Python strings WITHOUT lone surrogates (a lone surrogate is dropped by the quoter and does not read
    back: C13_headline_child_name_fails_for_surrogate).
 2. PARTLY CLOSED by C13_child_slash, C13_joinpath_parts, C13_joinpath_encoded_name (C13More.lean), see
    C13_headline_child_slash, C13_headline_joinpath_parts, C13_headline_joinpath_encoded_name
    (C13HeadlineMore.lean).  Proved: for `s` containing '/' the new parts are the quoted segments of `s`, the name
    is the (quoted, and decoded: the plain) last segment of `s`, the parent parts are the old parts without a
    trailing empty one plus the other segments; the same for any number of arguments in either `encoded` mode, in
    terms of `argSegs` (with `encoded=True` the name is the last segment of the last argument, verbatim).
    FURTHER PARTLY CLOSED by C13_child_name_any_old_path, C13_child_parent_parts_agree,
    C13_child_name_dotted_old_path_instances (C13More2.lean), see C13_headline_child_name_any_old_path,
    C13_headline_child_parent_parts_agree, C13_headline_child_parent_parts_fails_for_dotted_old_path
    (C13HeadlineMore3.lean).  Proved, for ONE plain argument `s` (Python string without lone surrogates, non-empty,
    no '/', quote(s) not "." / ".."), `encoded=False`, with NO hypothesis on the old path: the raw name of `u / s`
    is quote(s); the parent parts are the old parts without a trailing empty segment when nothing is normalised
    (no authority, or no '.' in quote(s); there "no rootless path next to an authority" is still a hypothesis), and
    when `_make_child` normalises (authority and a '.' in quote(s), e.g. "c.txt") they are the parts of the
    NORMALISED old path ("/" + final stack of `normalize_path_segments` on the old segments; no hypothesis, a rootless
    path next to an authority included); the two descriptions agree when the old path has no dot segments.  So
    "parent parts equal to u's parts without a trailing empty segment" is FALSE for an old path with dot segments
    (under an authority: `encoded=True` only) and a '.' in `s`: `URL("http://h/a/../b", encoded=True) / "c.txt"` has
    parts ("/", "b", "c.txt") — C13_headline_child_parent_parts_fails_for_dotted_old_path.
    FURTHER PARTLY CLOSED by C13_joinpath_norm_closed, C13_joinpath_norm_name_parent, C13_child_norm_closed,
    C13_child_norm_name_parent, C13_child_norm_closed_nodots, C13_child_name_any_old_path_decoded,
    C13_joinpath_norm_parent, C13_joinpath_norm_parent_trailing, C13_child_norm_parent,
    C13_child_parent_parts_iff_rooted, C13_child_parent_parts_fails_for_rootless (C13More3.lean), see
    C13_headline_joinpath_norm_closed, C13_headline_joinpath_norm_name_parent, C13_headline_child_norm_name_parent,
    C13_headline_child_name_any_old_path_decoded, C13_headline_joinpath_norm_parent,
    C13_headline_joinpath_norm_parent_trailing, C13_headline_child_norm_parent,
    C13_headline_child_parent_parts_iff_rooted, C13_headline_child_parent_parts_fails_for_rootless
    (C13HeadlineMore4.lean).  Proved, for the NORMALISING case (hypotheses: an authority, and a '.' in some argument
    text — `argDots`), ANY number of arguments (n ≥ 1), either `encoded` mode, arguments with '/' and with "." / ".."
    segments, NO hypothesis on the old path: the raw parts of the result are "/" followed by `normalize_path_segments`
    of (root's empty segment, old segments without a trailing empty one, argument segments) without a leading empty
    segment; the raw name is the last element of that list; by the LAST argument segment `l`: for `l` not "", ".", ".."
    the name is `l` and the parent parts are "/" + the final stack of the segments BEFORE `l`, for `l` one of "", ".",
    ".." the name is "" and the parts end with ONE empty segment.  For ONE Python string `s` (`encoded=False`) with last
    '/'-segment `t` (non-empty, no lone surrogate, not "." / ".."): raw name quote(t), DECODED name `t`.  The
    any-old-path theorem for one plain segment is restated on the DECODED accessors (all hypotheses on `s` itself).
    The URL operation `parent` of the result in the normalising case: path "/" + the final stack of the segments
    before the name (ordinary last segment); for a last segment "", ".", ".." the result is its own parent when it
    is the bare authority or the root, else `parent` drops the trailing empty segment.
    "No rootless path next to an authority"
    in the non-normalising case is shown NECESSARY: for one plain segment without '.' under an authority the parent
    parts are "u's parts without a trailing empty segment" IF AND ONLY IF the old path is empty or rooted (witness:
    `URL.build(scheme="http", host="h", path="a", encoded=True) / "c"` has parts ("/", "a", "c"), old parts ("/", "")).
    So outside the guards the clause "parent parts equal to u's parts without a trailing empty segment" is replaced by
    an exact closed form, it is not true.
    STILL OPEN: the closed forms are in terms of the model functions `normalizePathSegments` / `normLoop`
    (what they compute is C15's subject), not of the property's words; the n-ary / '/'-argument closed form is on
    the RAW accessors (decoded only: the name for one `encoded=False` string, and the one-plain-segment theorem);
    under an authority with an old path WITH dot segments and arguments WITHOUT any '.' (nothing normalised) only the
    ONE-plain-segment statement exists (C13_headline_child_parent_parts_iff_rooted), C13_headline_joinpath_parts keeps
    its guard "no dot segment in the old path" for several arguments or an argument with '/'; a single argument
    "." / ".." is excluded by the property text itself.
 3. CLOSED by C13_with_suffix_suffix, C13_with_suffix_suffix_general, C13_with_suffix_decoded (C13More.lean), see
    C13_headline_with_suffix_suffix, C13_headline_with_suffix_suffix_general, C13_headline_with_suffix_decoded
    (C13HeadlineMore.lean).  Proved: for x = "." ++ y with y non-empty, without '.' and without lone surrogates,
    `raw_suffix` of the result is quote(x) and `suffix` is x; for every accepted x the raw suffix of the result is
    the LAST dotted piece of quote(x) ("" if quote(x) ends with '.'; the suffix of the old stem if x = ""); the
    decoded-level "rest of the decoded name" statement is the one quoted in item 1.  "suffix of the result is x" is
    FALSE for x with two dots (".tar.gz" gives ".gz"): C13_headline_with_suffix_suffix_fails_for_multi_dot.
    EXTENDED by C13_with_suffix_own_suffix, C13_with_suffix_suffix_id, C13_with_suffix_empty_id,
    C13_with_suffix_stem_iff, C13_with_suffix_idem_iff, C13_with_suffix_absorb_iff, C13_with_suffix_then_with_suffix,
    C13_stemKeeping_iff, C13_dottedPiece_quote (C13More3b.lean), see C13_headline_with_suffix_own_suffix,
    C13_headline_with_suffix_empty_id, C13_headline_with_suffix_stem_iff, C13_headline_with_suffix_idem_iff,
    C13_headline_with_suffix_absorb_iff, C13_headline_with_suffix_then_with_suffix, C13_headline_stemKeeping_iff
    (C13HeadlineMore4.lean).  Proved, on the RAW name, for a Python-string argument `x` and a successful call:
    "replaces only the suffix" read as "the stem (name minus suffix) of the result is the old stem" holds IF AND ONLY IF
    `x` keeps the stem (`C13_stemKeeping`: x == "" and the old stem has no suffix of its own, or quote(x) is '.' + a
    non-empty text without '.'); the same condition is exactly idempotence (`v.with_suffix(x)` is `v` up to the keep
    flags) and exactly absorption (`v.with_suffix(y)` is `u.with_suffix(y)` for every y, errors included).
    `with_suffix(x)` with quote(x) = the non-empty raw suffix, and `with_suffix("")` on a name without suffix (not "",
    ".", ".."), give the URL back (hypotheses: `x` without lone surrogates; no rootless path next to an authority —
    needed: C13_headline_with_suffix_own_suffix_fails_for_rootless).  FALSE, as theorems: idempotence / absorption /
    stem kept for ".tar.gz" and for "" on "a.tar.gz" (C13_headline_with_suffix_idem_fails_for_multi_dot), for
    ".\ud800" (C13_headline_with_suffix_idem_fails_for_surrogate); `with_suffix(u.suffix) == u` for a suffix with an
    escaped '/' (`URL("http://h/a.b%2Fc")`: ValueError — C13_headline_with_suffix_suffix_fails_for_escaped_slash).
 4. CLOSED by C13_with_name_parent, C13_child_parent, C13_child_parent_root, C13_child_slash_parent
    (C13More.lean), see C13_headline_with_name_parent (+ C13_headline_with_name_parent_root_instances),
    C13_headline_child_parent, C13_headline_child_parent_root, C13_headline_child_slash_parent
    (C13HeadlineMore.lean).  Proved: `with_name(n).parent == u.parent` as Python `==` (`eqKey`) for every path
    without an authority and every empty-or-rooted path under one, and as equality of all stored parts except
    under an authority with an empty or one-segment path (`http://h` vs `http://h/`: equal, stored differently);
    `(u / s).parent` is `u` without query, fragment and ONE trailing slash, exactly — also on `URL("/")`
    (`URL("/name").parent` is `URL("/")`, fix 264b96e): `(URL("/") / s).parent` is
    `URL("/")`; `(u / "a/b").parent` is `u / "a"`, with one corner
    (C13_headline_child_slash_parent_fails_for_surrogate: empty URL reference and `a` a lone surrogate).
    The guards of item 2 (no dot segments under an authority, no rootless path next to an authority) apply to the
    `/` statements.
    FURTHER by C13_child_norm_parent, C13_joinpath_norm_parent, C13_joinpath_norm_parent_trailing (C13More3.lean),
    see C13_headline_child_norm_parent, C13_headline_joinpath_norm_parent, C13_headline_joinpath_norm_parent_trailing
    (C13HeadlineMore4.lean): the guard "no dot segments in the old path" is EXACT for `(u / s).parent` when
    `_make_child` normalises (authority, one plain segment `s` with a '.', old path empty or rooted): the parent is
    "`u` without query, fragment and ONE trailing slash" IF AND ONLY IF the old segments have no dot segment; in
    general its path is "/" + the final stack of `normalize_path_segments` on the old segments
    (`URL("http://h/a/../b?k=v#f", encoded=True) / "x/../c d.txt"` has parent `http://h/b`: computed `example`s in
    C13More3.lean and C13HeadlineMore4.lean).
    The no-dot-segment guard of `(u / "a/b").parent == u / "a"` (C13_headline_child_slash_parent) is made exact by
    C13_child_slash_parent_iff (C13SlashParent.lean), see C13_headline_child_slash_parent_iff (C13HeadlineMore6.lean):
    it is needed only for "'.' in `b`, none in `a`"; without an authority no guard is needed.
 5. PARTLY CLOSED by C13_joinpath_nary, C13_truediv_double_slash_counterexample (C13More.lean), see
    C13_headline_joinpath_nary, C13_headline_truediv_slash_fails_for_double_slash (C13HeadlineMore.lean).
    Proved: joinpath(a₁, …, aₙ) = joinpath(a₁).joinpath(a₂)…joinpath(aₙ) as values (errors included) for n ≥ 1 in
    either `encoded` mode, guarded by "under an authority no '..' segment in the old path or in any argument but
    the last"; the failing case `u / "x//b"` ≠ joinpath("x/", "b") now has its counterexample theorem.
    FURTHER PARTLY CLOSED (TWO arguments, `encoded=False`) by C13_joinpath_two_eq_truediv_gen, C13_joinpath_plain,
    C13_joinpath_empty_first, C13_joinpath_slash_terminated, C13_truediv_double_slash_explained,
    C13_joinpath_two_eq_truediv_fails_for_surrogate, C13_joinpath_assoc_noclimb, C13_noclimb_of_no_dotdot,
    C13_noclimb_weaker_than_no_dotdot, C13_joinpath_assoc_no_authority, C13_joinpath_assoc_first_without_dot,
    C13_joinpath_assoc_iff, C13_joinpath_assoc_iff_hroot, C13_joinpath_assoc_hroot_necessary,
    C13_joinpath_assoc_fails_when_root_consumed_strong, C13_joinpath_assoc_fails_when_root_lost,
    C13_joinpath_assoc_root_lost_counterexample (C13More2.lean), see C13_headline_joinpath_two_eq_truediv,
    C13_headline_joinpath_eq_truediv_slash, C13_headline_joinpath_empty_or_slash_terminated,
    C13_headline_truediv_double_slash_explained, C13_headline_joinpath_two_eq_truediv_fails_for_surrogate,
    C13_headline_joinpath_assoc_noclimb, C13_headline_noclimb_vs_no_dotdot, C13_headline_joinpath_assoc_unconditional,
    C13_headline_joinpath_assoc_iff, C13_headline_joinpath_assoc_iff_hroot,
    C13_headline_joinpath_assoc_fails_without_hroot, C13_headline_joinpath_assoc_fails_when_root_consumed,
    C13_headline_joinpath_assoc_fails_when_root_lost, C13_headline_joinpath_assoc_fails_for_root_lost
    (C13HeadlineMore3.lean).  Proved:
    (a) joinpath(a, b) = u / pjoin(a, b) as VALUES, errors included, where pjoin(a, b) is `b` for a == "", `a + b` for
        `a` ending in '/', `a + "/" + b` otherwise; in particular "joinpath(a, b) and u / 'a/b' are equal" as values for
        `a` non-empty and not ending in '/'.  Hypotheses: `a`, `b` Python strings; the LAST character of `a` is not a
        lone surrogate (needed: `URL("http://h/k").joinpath("\ud800", "x")` is `…/k/x`, `/ "\ud800/x"` is `…/k//x` —
        C13_headline_joinpath_two_eq_truediv_fails_for_surrogate); `b` does not start with '/' (joinpath raises
        ValueError for such a `b`, `/` on the joined text does not — computed `example` in C13HeadlineMore3.lean, no
        named theorem).  The `//` counterexample is explained: u / (a + "//" + b) is joinpath(a + "//", b).
    (b) joinpath(a, b) = joinpath(a).joinpath(b): always without an authority, always when quote(a) has no '.';
        otherwise (authority, '.' in quote(a), first step succeeds) the two forms agree as values FOR EVERY `b` IF AND
        ONLY IF `hroot` (normalising the first step leaves the root's empty segment followed by something) — so the
        guard `hroot` of C13_joinpath_assoc is EXACT as a condition on (u, a); when it fails the separating `b` is
        given ("./" + "../" * n + "/x"; the two failing families — root consumed, root lost — in general form, the
        second with the computed witness `URL("http://h/k").joinpath("../../y", "..//x")`).  A checkable sufficient
        guard "no climb" (`DotMore.climbs 0` on the first step's segment list), implied by and strictly weaker than
        "no '..' segment".  The clause as the property states it (no guard) stays FALSE:
        C13_headline_joinpath_assoc_fails_for, C13_headline_joinpath_assoc_fails_for_root_lost.
    FURTHER PARTLY CLOSED by C13_joinpath_assoc_fixed_iff, C13_joinpath_assoc_pair_iff,
    C13_joinpath_assoc_second_without_dot, C13_joinpath_assoc_fixed_instances,
    C13_joinpath_assoc_fixed_eq_only_instance, C13_joinpath_two_eq_truediv_encoded, C13_joinpath_assoc_noclimb_gen,
    C13_joinpath_assoc_noclimb_encoded, C13_joinpath_nary_noclimb, C13_nary_noclimb_of_no_dotdot,
    C13_noclimb_prefixes, C13_joinpath_nary_fails_when_climbing (C13More3.lean), see
    C13_headline_joinpath_assoc_pair_iff, C13_headline_joinpath_assoc_second_without_dot,
    C13_headline_joinpath_assoc_fixed_instances, C13_headline_joinpath_assoc_differs_only_as_stored,
    C13_headline_joinpath_two_eq_truediv_encoded, C13_headline_joinpath_assoc_noclimb_either_mode,
    C13_headline_joinpath_nary_noclimb, C13_headline_joinpath_nary_fails_when_climbing (C13HeadlineMore4.lean).  Proved:
    (c) the EXACT condition for a FIXED pair (a, b), `encoded=False`: under an authority, with a '.' in quote(a), the
        first step succeeding, `b` and quote(b) not starting with '/' (the latter true for every `b` without lone
        surrogates), `u.joinpath(a, b)` and `(u / a) / b` are the same STORED value IF AND ONLY IF `hroot` holds, or
        quote(b) has no '.', or `b` climbs above what the first step left, or the normalised list of (what the first
        step left ++ segments of quote(b)) does not begin with an empty segment.  Corollary without any condition on
        (u, a): a `b` whose quoted text has no '.' always composes.  "No '..' segment in `b`" is not sufficient
        (b = ".//x" on `URL("http://h")`, a = "..": instance theorem).
    (d) `encoded=True`: joinpath(a, b, encoded=True) = joinpath(pjoin(a, b), encoded=True) as values (only hypothesis:
        `b` does not start with '/'); "no climb" is sufficient for joinpath(a, b) = joinpath(a).joinpath(b) in either
        mode.
    (e) n ≥ 1 arguments, either mode: joinpath(a₁, …, aₙ) = joinpath(a₁)….joinpath(aₙ) as values under the guard "under
        an authority the segment list of the call WITHOUT its last argument does not climb", implied by the guard of
        C13_headline_joinpath_nary; needed for n = 3 (`URL("http://h").joinpath("..", ".//x", "y")` is `http://h/x/y`,
        the iterated form `http://h//x/y`).
    All these equivalences compare STORED values: `URL("http://h").joinpath("..", ".")` is `http://h`,
    `(URL("http://h") / "..") / "."` is `http://h/` — different as stored, equal as Python `==`
    (C13_headline_joinpath_assoc_differs_only_as_stored).  Up to `==`, and the fixed-pair condition (c) in either
    `encoded` mode: C13_joinpath_assoc_beq_iff, C13_joinpath_assoc_stored_iff, C13_joinpath_nary_beq (C13UpToEq.lean),
    see C13HeadlineMore6.lean.
    STILL OPEN: for n ≥ 3 arguments the guards are sufficient only, no exact condition; the iff in `hroot` over ALL
    second arguments is `encoded=False` only.
 6. "u / s equals u.joinpath(s)" is true by construction of the model (same function); the Python-level
    fact that `__truediv__` and `joinpath` share `_make_child` is an assumption of the model wiring
    (Main.lean), checked by the differential harness only.
    PARTLY CLOSED (MODEL-LEVEL) by C13_truediv_eq_joinpath_dyn, C13_truediv_joinpath_dyn_agree_iff,
    C13_truediv_joinpath_dyn_differ, C13_truediv_joinpath_dyn_same_typeError (C13More2.lean, over YarlModel/Dyn.lean),
    see C13_headline_truediv_eq_joinpath_dyn, C13_headline_truediv_joinpath_dyn_agree_iff,
    C13_headline_truediv_eq_joinpath_fails_for_list, C13_headline_truediv_joinpath_dyn_same_typeError
    (C13HeadlineMore3.lean).  Proved in the Lean model of Python dispatch (`dynTruediv`: `__truediv__` returns
    NotImplemented unless `isinstance(name, str)`; `dynJoinpath`: no type check, the `_make_child` loop meets the
    object): for a `str` / `str`-subclass argument `u / s` and `u.joinpath(s)` are the same value or error (both
    `_make_child((s,))`); for any other object both raise, and the clause is FALSE as an equality of outcomes unless
    the loop raises TypeError: `u / ["/"]` raises TypeError, `u.joinpath(["/"])` raises ValueError, for every URL
    (C13_headline_truediv_eq_joinpath_fails_for_list); `None`, int, bytes, URL, `object()`, `[]` give TypeError on both.
    STILL OPEN / trusted: YarlModel/Dyn.lean is tied to CPython only by the run-time probe table (dyn probes of the
    harness), not by proof; only the ONE-argument `joinpath(o)`, `encoded=False`, is compared with `/`; the wiring
    assumption above is unchanged.
 7. CLOSED by C13_suffixes_spec, C13_suffix_last_decoded (C13More.lean), see C13_headline_suffixes_spec,
    C13_headline_suffix_last_decoded (C13HeadlineMore.lean).  Proved for every URL: each of `raw_suffixes` is '.'
    followed by a dot-free piece; when there are any, `raw_suffix` is the last of them; when there are none,
    `raw_suffix` is "" provided the name does not start with ".."; the same on the decoded accessors.  For a name
    starting with ".." it is FALSE (`URL("http://h/..a")`: suffix ".a", suffixes ()):
    C13_headline_suffix_last_of_suffixes_fails_for_dotdot_name.
    EXTENDED by C13_name_eq_stem_suffix, C13_rawStem_closed, C13_name_closed_form, C13_suffixes_tail_closed,
    C13_suffixes_tail_fails_for_trailing_dot, C13_sfx_last_iff, C13_suffix_last_iff (C13More3b.lean), see
    C13_headline_name_eq_stem_suffix, C13_headline_suffixes_tail_closed,
    C13_headline_suffixes_tail_fails_for_trailing_dot, C13_headline_suffix_last_iff (C13HeadlineMore4.lean).  Proved
    for every URL, with the exact side conditions: `raw_name = stem + raw_suffix` always; for a raw name NOT ending
    in '.' the name is its head (leading dots + first dot-free piece) followed by the concatenation of `raw_suffixes`,
    for a name ending in '.' `raw_suffixes` is () (so "suffixes are the tail of name" in the sense "the tail after
    the head" is FALSE for "a.b.": C13_headline_suffixes_tail_fails_for_trailing_dot); `raw_suffix` is the last of
    `raw_suffixes` ("" if none) IF AND ONLY IF the name is not "two or more dots + a non-empty dot-free piece" — the
    "..a" corner above is the only failing family; outside it the same on the decoded accessors.
 8. NEW (with C13More3b.lean).  The suffix / `with_suffix` algebra of items 3 and 7 is stated with hand-written
    definitions whose reading is trusted: `C13_rawStem n` (`n` minus `sfx n`; proved equal to `stem` of
    Lemmas/HumanReach.lean and to "split at the last '.'" by C13_rawStem_closed), `C13_dottedPiece`, `C13_stemKeeping`,
    `C13_keep u kq kf` (same scheme / authority / path, query and fragment by the keep flags, NO constructor cache —
    "gives the URL back" means equal to `C13_keep u …`, which is `u` itself only for a `u` without cache and with both
    flags on).  `sfx` / `sfxs` are tied to the accessors by `rawSuffix_eq` / `rawSuffixes_eq` (Lemmas/PathAlg.lean).  All of
    it is on the RAW (stored) name: no decoded-level idempotence / absorption statement (the decoded reading of a
    single `with_suffix` is item 1); `NoSurrogate` is needed where stated
    (C13_headline_with_suffix_idem_fails_for_surrogate).
 9. NEW (with C13More3.lean).  The closed forms of item 2 and the conditions of item 5 (c)–(e) are expressed with
    `root`, `base`, `argSegs`, `argDots`, `C13_dropRootSeg`, `normLoop`, `DotMore.climbs` (Lemmas/PathAlg.lean,
    C13More.lean, C13More2.lean, Lemmas/DotMore.lean, YarlModel/Path.lean): their reading (vocabulary sections of
    C13HeadlineMore3.lean / C13HeadlineMore4.lean) is trusted; paths with dot segments or rootless paths next to an
    authority are reachable only through `encoded=True` / hand-made parts, and the witnesses use `fromParts`.
-/
end Yarl
