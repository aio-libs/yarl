/-
  C10.lean — "Equality, hashing and ordering are coherent".

  `Url.beq` is equality of the 5-tuple `eqKey`; `Url.lt` is Python's tuple `<` on that key
  (`ltParts`, built from `ltStr`).  We show: beq is characterised component-wise, is an
  equivalence, hashes agree on equal URLs, and `<`/`<=`/`>`/`>=` form a strict total order /
  total preorder on keys, consistent with `==` (exactly one of a < b, a == b, a > b).  The laws are those of core's
  lexicographic order on the key lists, read through `CmpLemmas.beq_key`, `lt_key`, `le_key`.
-/
import YarlModel
import YarlProofs.Lemmas.CmpLemmas
namespace Yarl
open Yarl.CmpLemmas

theorem C10_eq_components (a b : Url) : a.beq b = true ↔
    a.scheme = b.scheme ∧ a.netloc = b.netloc ∧
    (if a.path.isEmpty && !a.netloc.isEmpty then [47] else a.path) =
      (if b.path.isEmpty && !b.netloc.isEmpty then [47] else b.path) ∧
    a.query = b.query ∧ a.fragment = b.fragment := by
  rw [beq_iff]
  simp only [eqKey, Parts.mk.injEq]

theorem C10_equivalence : (∀ a : Url, a.beq a = true) ∧
    (∀ a b : Url, a.beq b = true → b.beq a = true) ∧
    (∀ a b c : Url, a.beq b = true → b.beq c = true → a.beq c = true) := by
  simp only [beq_iff]
  exact ⟨fun _ => trivial, fun _ _ => Eq.symm, fun _ _ _ => Eq.trans⟩

theorem C10_hash_coherent (hash : Parts → Nat) (a b : Url) :
    a.beq b = true → hash (eqKey a) = hash (eqKey b) := by
  intro h
  rw [beq_iff] at h
  rw [h]

theorem C10_le_iff (a b : Url) : a.le b = true ↔ (a.lt b = true ∨ a.beq b = true) := by
  simp [Url.le, Url.beq]

theorem C10_ge_gt (a b : Url) : a.ge b = b.le a ∧ a.gt b = b.lt a := ⟨rfl, rfl⟩

theorem C10_lt_trans (a b c : Url) : a.lt b = true → b.lt c = true → a.lt c = true := by
  simp only [lt_key]
  exact List.lt_trans

theorem C10_lt_irrefl (a : Url) : a.lt a = false :=
  Bool.eq_false_iff.2 fun h => List.lt_irrefl _ ((lt_key a a).1 h)

theorem C10_lt_asymm (a b : Url) : a.lt b = true → b.lt a = false :=
  fun h => Bool.eq_false_iff.2 fun h' => List.lt_asymm ((lt_key a b).1 h) ((lt_key b a).1 h')

/-- `a <= b` iff not `b < a` (Python: `not (b < a)`) -/
theorem C10_le_iff_not_gt (a b : Url) : a.le b = true ↔ b.lt a = false := by
  rw [le_key, Bool.eq_false_iff, ne_eq, lt_key, List.not_lt]

theorem C10_le_total (a b : Url) : a.le b = true ∨ b.le a = true := by
  simp only [le_key]
  exact List.le_total _ _

theorem C10_le_trans (a b c : Url) : a.le b = true → b.le c = true → a.le c = true := by
  simp only [le_key]
  exact List.le_trans

theorem C10_le_antisymm (a b : Url) : a.le b = true → b.le a = true → a.beq b = true := by
  simp only [le_key, beq_key]
  exact List.le_antisymm

theorem C10_trichotomy (a b : Url) :
    (a.lt b = true ∧ a.beq b = false ∧ b.lt a = false) ∨
    (a.lt b = false ∧ a.beq b = true ∧ b.lt a = false) ∨
    (a.lt b = false ∧ a.beq b = false ∧ b.lt a = true) := by
  simp only [← Bool.not_eq_true, lt_key, beq_key]
  exact lex_trichotomy _ _

theorem C10_lt_respects_eq (a a' b : Url) :
    a.beq a' = true → a.lt b = a'.lt b ∧ b.lt a = b.lt a' := by
  intro h
  rw [beq_iff] at h
  simp only [Url.lt, h, and_self]

theorem C10_route_independent (a : Url) :
    (pickleTwin a).beq a = true ∧ eqKey (pickleTwin a) = eqKey a := by
  have : eqKey (pickleTwin a) = eqKey a := rfl
  exact ⟨(beq_iff _ _).2 this, this⟩

/-- `a < b` iff `a <= b` and not `a == b` -/
theorem C10_lt_iff_le_not_eq (a b : Url) : a.lt b = true ↔ (a.le b = true ∧ a.beq b = false) := by
  rw [C10_le_iff]
  rcases C10_trichotomy a b with h | h | h <;> simp [h.1, h.2.1]

/-! ### concrete checks -/

/-- the '' vs '/' near-collision from the property text -/
example : (fromParts "http".toStr "h".toStr [] [] []).beq (fromParts "http".toStr "h".toStr [47] [] []) = true := by decide +kernel
example : (fromParts "http".toStr "h".toStr [] [] []).lt (fromParts "http".toStr "h".toStr [47] [] []) = false := by decide +kernel

-- without an authority '' and '/' are different, and '' < '/'
example : (fromParts [] [] [] [] []).beq (fromParts [] [] [47] [] []) = false := by decide +kernel
example : (fromParts [] [] [] [] []).lt (fromParts [] [] [47] [] []) = true := by decide +kernel
-- non-vacuity of the hypotheses of lt_trans / le_trans / le_antisymm / lt_respects_eq
example : (fromParts "http".toStr "a".toStr [] [] []).lt (fromParts "http".toStr "b".toStr [] [] []) = true ∧
    (fromParts "http".toStr "b".toStr [] [] []).lt (fromParts "https".toStr "a".toStr [] [] []) = true := by str_lits; decide +kernel
example : (fromParts "http".toStr "h".toStr [] "a=1".toStr []).le (fromParts "http".toStr "h".toStr [47] "a=1".toStr []) = true ∧
    (fromParts "http".toStr "h".toStr [47] "a=1".toStr []).le (fromParts "http".toStr "h".toStr [] "a=1".toStr []) = true := by str_lits; decide +kernel
-- a URL with cache pre-fill equals its pickled twin although the structures differ
example : let u : Url := { scheme := "http".toStr, netloc := "h".toStr, path := [], query := [], fragment := [],
                           pre := some ⟨some "h".toStr, none, none, none⟩ }
    pickleTwin u ≠ u ∧ (pickleTwin u).beq u = true := by decide +kernel
-- prefix ordering and code-point ordering as in Python
example : ltStr "ab".toStr "abc".toStr = true ∧ ltStr "abc".toStr "ab".toStr = false ∧
    ltStr "Z".toStr "a".toStr = true ∧ ltStr [] [] = false := by str_lits; decide +kernel

end Yarl
