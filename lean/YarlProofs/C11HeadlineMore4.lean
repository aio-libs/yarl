import YarlProofs.C11Headline
import YarlProofs.C11HeadlineMore
import YarlProofs.C11HeadlineMore3
import YarlProofs.C11More
import YarlProofs.C09More
/-!
  C11HeadlineMore4.lean — AUDIT LAYER for property C11, continuation of C11Headline.lean / C11HeadlineMore.lean /
  C11HeadlineMore3.lean (the theorems here need C11More.lean — which imports C11HeadlineMore.lean, C12Headline.lean and
  C06Headline.lean — and, for the boundary of F-C11-bracket, C09More.lean; this file is a leaf, nobody imports it).

  C11 | Every modifier changes only its own component |
  "with_scheme, with_user, with_password, with_host, with_port, with_fragment and the query operations return a URL in
  which the targeted component reads back as the canonicalised argument and every other raw component - including IPv6
  brackets, an explicit port and an empty-vs-absent password - is unchanged (with_user(None) also drops the password, as
  documented). with_path, with_name, with_suffix, /, joinpath and parent keep scheme and authority and clear query and
  fragment unless keep_query/keep_fragment is given; origin() keeps only scheme, host and port and relative() only path,
  query and fragment."

  What is here (C11More.lean) — GAPS 3, 4, 6, 7, 8 of C11Headline.lean.
   * GAPS 3: `with_user(x)` for an `x` whose quoted form is "" (`x = ""` or lone surrogates only) DROPS the user and KEEPS
     the password — in full, with the stored text; the authority modifiers and `origin()` on a URL WITHOUT authority raise
     ValueError (TypeError first for a wrong-typed argument: model-level, YarlModel/Dyn.lean).
   * GAPS 4: `with_host` in terms of the argument TEXT (ASCII name, IPv4, IPv6 without / with zone, IPv4 with zone), the
     rejected arguments, the guard `eh ≠ ""` discharged (ASCII: always; non-ASCII: under `IdnaSaneAt`) and the excluded
     case analysed (HYPOTHETICAL `idna` answer "").
   * GAPS 6: frame AND read-back in one statement for with_query / extend_query / update_query / without_query_params /
     with_fragment / with_path (composition with C12 / C06).
   * GAPS 7: with_path (both `encoded`), with_name, with_suffix, `/`, joinpath (both `encoded`), parent keep scheme and
     authority ACCESSOR BY ACCESSOR (12 authority-derived accessors), query / fragment cleared unless kept.
   * GAPS 8: the authority modifiers read NOTHING but the cached-or-parsed components (general theorem, no `Written`, no
     `GoodAuthority`); constructor results from the cache alone; IPvFuture / bracketed non-IPv6 hosts; IDN hosts of any URL
     shape under `IdnaSaneAt`; the empty host with the DEVIATION (E2).  NEGATIVE (computed): after an authority modifier
     the BRACKETS of an IPvFuture literal without ':' are gone from the stored text ("http://[v1.x]:8080/" ↦
     "http://v1.x:81/") while `raw_host` is unchanged.
   * KNOWN FINDING F-C11-bracket (KNOWN_FINDINGS; was not listed in the GAPS block): on a constructor result whose
     authority has malformed brackets the pre-computed `raw_host` differs from what the stored text splits into, so a
     query / path / fragment modifier "changes the host"; evaluated in the model and delimited exactly (ASCII host text)
     through `AgreeB` of C09More.lean.

  Vocabulary added by C11More.lean (all `Prop`-valued abbreviations; spelled out by C11_headline_frames_def and
  C11_headline_authority_modifiers_ok_def).
  `C11_AuthorityModifiersOK e u user pw h port` — sentence 1 of C11 for `u` with raw components `(user, pw, h, port)`:
        six conjuncts — `with_user(x)` with non-empty quoted form; `with_user(x)` with quoted form "" (user dropped,
        password kept); `with_user(None)`; `with_password(np)` (any `np`, `None` included); `with_host(hs)` (non-empty
        argument, accepted by `_encode_host(…, validate_host=True)` with non-empty answer); `with_port(np)` (`None` or
        0..65535).  Each names the result `v`, what the four raw accessors read on it, the four other parts unchanged,
        and that `v` is `Written` again.
  `C11_HostSet e u user pw port hs eh rh` — `with_host(hs)` succeeded: stored host text `eh`, `raw_host` reads `rh`,
        `host_subcomponent` reads `eh`, the other raw components and parts unchanged, result `Written`.
  `C11_SameAuthority e v u` — raw_user, raw_password, raw_host, explicit_port, user, password, host, port,
        host_subcomponent, host_port_subcomponent, is_default_port, authority return on `v` what they return on `u`.
  `C11_KeepsAuthority e u v` — `v` has the scheme and the stored authority text of `u`; `v` is `u` or has no cache; the 12
        accessors of `v` are those of the cache-less twin of `u`, and those of `u` IF `u`'s cache agrees with its text.
  `C11_QueryFrame e u v` — path and fragment are the stored texts of `u`, and `C11_KeepsAuthority`.
  `C11_PathFrame e u v kq kf` — `C11_KeepsAuthority`, query / fragment are `u`'s if `kq` / `kf`, else empty.
  `C11_ePy`, `C11_eHostile` — pure-Python backend without oracle; compiled backend with an `idna` answering ""
        (hypothetical).
  `authTextB`, `preOf`, `BracketTextIn`, `UserInfoOK` (BrHost.lean, C03Bracket.lean), `cachedUser`, `requoteOpt`
  (EagerLemmas.lean: `REQUOTER(user) or None`, `REQUOTER(password)`), `AgreeB`, `ctorAuthorityText`, `hostText`
  (C09More.lean) — as in C09HeadlineMore.lean / C09HeadlineMore4.lean.
-/
namespace Yarl
open NetlocLemmas HeadB EagerLemmas HostLemmas EncTrue CtorMods

/-! ## the vocabulary, spelled out -/

/-- the frames of C11More.lean, by unfolding -/
theorem C11_headline_frames_def (e : Env) (u v : Url) (kq kf : Bool) :
    (C11_SameAuthority e v u ↔
      (rawUser e v = rawUser e u ∧ rawPassword e v = rawPassword e u ∧ rawHost e v = rawHost e u ∧
       explicitPort e v = explicitPort e u ∧ user e v = user e u ∧ password e v = password e u ∧
       host e v = host e u ∧ port e v = port e u ∧ hostSubcomponent e v = hostSubcomponent e u ∧
       hostPortSubcomponent e v = hostPortSubcomponent e u ∧ isDefaultPort e v = isDefaultPort e u ∧
       authority e v = authority e u)) ∧
    (C11_KeepsAuthority e u v ↔
      (v.scheme = u.scheme ∧ v.netloc = u.netloc ∧ (v = u ∨ v.pre = none) ∧
       (v.pre = none → C11_SameAuthority e v (pickleTwin u)) ∧
       (net e (pickleTwin u) = net e u → C11_SameAuthority e v u))) ∧
    (C11_QueryFrame e u v ↔ (v.path = u.path ∧ v.fragment = u.fragment ∧ C11_KeepsAuthority e u v)) ∧
    (C11_PathFrame e u v kq kf ↔
      (C11_KeepsAuthority e u v ∧
       v.query = (if kq then u.query else []) ∧ v.fragment = (if kf then u.fragment else []))) :=
  ⟨Iff.rfl, Iff.rfl, Iff.rfl, Iff.rfl⟩

/-- `C11_AuthorityModifiersOK` and `C11_HostSet`, by unfolding -/
theorem C11_headline_authority_modifiers_ok_def (e : Env) (u : Url) (user pw : Option Str) (h : Str)
    (port : Option Nat) (hs eh rh : Str) :
    (C11_AuthorityModifiersOK e u user pw h port ↔
      ((∀ x, PyStr x → q e Gen.QUOTER x ≠ [] →                 -- with_user(x), quoted form non-empty
        ∃ v, withUser e u (some x) = .ok v ∧ rawUser e v = .ok (some (q e Gen.QUOTER x)) ∧
          rawPassword e v = .ok pw ∧ rawHost e v = .ok (some h) ∧ explicitPort e v = .ok port ∧
          v.scheme = u.scheme ∧ v.path = u.path ∧ v.query = u.query ∧ v.fragment = u.fragment ∧
          Written (q e Gen.QUOTER) v (some (q e Gen.QUOTER x)) pw h port) ∧
      (∀ x, q e Gen.QUOTER x = [] →                -- with_user(x), quoted form "": user DROPPED, password KEPT
        ∃ v, withUser e u (some x) = .ok v ∧ rawUser e v = .ok none ∧
          rawPassword e v = .ok pw ∧ rawHost e v = .ok (some h) ∧ explicitPort e v = .ok port ∧
          v.scheme = u.scheme ∧ v.path = u.path ∧ v.query = u.query ∧ v.fragment = u.fragment ∧
          Written (q e Gen.QUOTER) v none pw h port) ∧
      (∃ v, withUser e u none = .ok v ∧ rawUser e v = .ok none ∧ rawPassword e v = .ok none ∧   -- with_user(None)
          rawHost e v = .ok (some h) ∧ explicitPort e v = .ok port ∧
          v.scheme = u.scheme ∧ v.path = u.path ∧ v.query = u.query ∧ v.fragment = u.fragment ∧
          Written (q e Gen.QUOTER) v none none h port) ∧
      (∀ np, ∃ v, withPassword e u np = .ok v ∧                                       -- with_password
          rawPassword e v = .ok (np.map (q e Gen.QUOTER)) ∧
          rawUser e v = .ok user ∧ rawHost e v = .ok (some h) ∧ explicitPort e v = .ok port ∧
          v.scheme = u.scheme ∧ v.path = u.path ∧ v.query = u.query ∧ v.fragment = u.fragment ∧
          Written (q e Gen.QUOTER) v user (np.map (q e Gen.QUOTER)) h port) ∧
      (∀ hs eh, hs ≠ [] → encodeHost e.o hs true = .ok eh → eh ≠ [] →                 -- with_host
        ∃ v, withHost e u hs = .ok v ∧ rawHost e v = .ok (some (unbracket eh)) ∧
          rawUser e v = .ok user ∧ rawPassword e v = .ok pw ∧ explicitPort e v = .ok port ∧
          v.scheme = u.scheme ∧ v.path = u.path ∧ v.query = u.query ∧ v.fragment = u.fragment ∧
          Written (q e Gen.QUOTER) v user pw (unbracket eh) port) ∧
      (∀ np : Option Int, (∀ p, np = some p → 0 ≤ p ∧ p ≤ 65535) →                    -- with_port
        ∃ v, withPort e u np 0 = .ok v ∧ explicitPort e v = .ok (np.map Int.toNat) ∧
          rawUser e v = .ok user ∧ rawPassword e v = .ok pw ∧ rawHost e v = .ok (some h) ∧
          v.scheme = u.scheme ∧ v.path = u.path ∧ v.query = u.query ∧ v.fragment = u.fragment ∧
          Written (q e Gen.QUOTER) v user pw h (np.map Int.toNat)))) ∧
    (C11_HostSet e u user pw port hs eh rh ↔
      ∃ v, withHost e u hs = .ok v ∧
        v.netloc = makeNetloc (q e Gen.QUOTER) user pw (some eh) port false ∧
        rawHost e v = .ok (some rh) ∧ hostSubcomponent e v = .ok (some eh) ∧
        rawUser e v = .ok user ∧ rawPassword e v = .ok pw ∧ explicitPort e v = .ok port ∧
        v.scheme = u.scheme ∧ v.path = u.path ∧ v.query = u.query ∧ v.fragment = u.fragment ∧
        Written (q e Gen.QUOTER) v user pw rh port) :=
  ⟨Iff.rfl, Iff.rfl⟩

/-! ## GAPS 3 — with_user("") and the authority modifiers on a URL without authority -/

/-- GAPS 3 (a): "with_user … the targeted component reads back as the canonicalised argument" when the canonicalised
    argument is "" — for a Python string exactly when `x` is "" or made of lone surrogates only.  On a `Written` URL the
    user is DROPPED (reads `None`), the password is KEPT, host (brackets), port and the other four parts are unchanged;
    the stored authority is `make_netloc(None, pw, host, port)` (":pw@host…" when there is a password), the result is
    `Written` and satisfies sentence 1 again; it is NOT `with_user(None)` as soon as there is a password.  The property
    text does not say this.  Cites C11_quoter_empty_iff, C11_with_user_empty. -/
theorem C11_headline_with_user_empty (e : Env) (qf : Str → Str) (u : Url) (user pw : Option Str) (h : Str)
    (port : Option Nat) (x : Str)
    (w : Written qf u user pw h port) :   -- no cache, stored authority = the `make_netloc` text (C11Headline.lean)
    (PyStr x → (q e Gen.QUOTER x = [] ↔ ∀ c ∈ x, isSurrogate c = true)) ∧
    (q e Gen.QUOTER x = [] →              -- `x = ""` or lone surrogates only
      (∃ v, withUser e u (some x) = .ok v ∧
        v.netloc = makeNetloc (q e Gen.QUOTER) none pw (some (bracket h)) port false ∧
        rawUser e v = .ok none ∧ rawPassword e v = .ok pw ∧ rawHost e v = .ok (some h) ∧
        explicitPort e v = .ok port ∧
        v.scheme = u.scheme ∧ v.path = u.path ∧ v.query = u.query ∧ v.fragment = u.fragment ∧
        Written (q e Gen.QUOTER) v none pw h port ∧
        C11_AuthorityModifiersOK e v none pw h port) ∧
      (pw ≠ none → withUser e u (some x) ≠ withUser e u none)) :=
  ⟨fun hx => C11_quoter_empty_iff e x hx, fun hq => C11_with_user_empty e qf u user pw h port x w hq⟩

/-- … Python level (computed, pure-Python backend): `URL("http://me:pw@h").with_user("")` is "http://:pw@h" with user
    `None` and password "pw" — the same for a user of lone surrogates only — whereas `with_user(None)` is "http://h".
    Cites C11_with_user_empty_instance. -/
theorem C11_headline_with_user_empty_instance :
    ((encodeUrl C11_ePy "http://me:pw@h".toStr >>= fun u => withUser C11_ePy u (some [])) >>= str C11_ePy)
      = .ok "http://:pw@h".toStr ∧
    ((encodeUrl C11_ePy "http://me:pw@h".toStr >>= fun u => withUser C11_ePy u (some [])) >>= rawUser C11_ePy)
      = .ok none ∧
    ((encodeUrl C11_ePy "http://me:pw@h".toStr >>= fun u => withUser C11_ePy u (some [])) >>= rawPassword C11_ePy)
      = .ok (some "pw".toStr) ∧
    ((encodeUrl C11_ePy "http://me:pw@h".toStr >>= fun u => withUser C11_ePy u (some [0xDC80])) >>= str C11_ePy)
      = .ok "http://:pw@h".toStr ∧
    ((encodeUrl C11_ePy "http://me:pw@h".toStr >>= fun u => withUser C11_ePy u none) >>= str C11_ePy)
      = .ok "http://h".toStr :=
  ⟨C11_with_user_empty_instance.1, C11_with_user_empty_instance.2.1, C11_with_user_empty_instance.2.2.1,
   C11_with_user_empty_instance.2.2.2.1, C11_with_user_empty_instance.2.2.2.2.1⟩

/-- GAPS 3 (b): on a URL WITHOUT authority (relative URL, "mailto:x") with_user / with_password / with_host / with_port
    and origin() raise ValueError — unconditionally, cache or not (`with_port`: TypeError first when the argument is a
    bool / not an int, `k ≠ 0`).  Cites C11_authority_modifiers_need_authority. -/
theorem C11_headline_authority_modifiers_need_authority (e : Env) (u : Url)
    (hn : u.netloc = []) :                -- no authority
    (∀ x, withUser e u x = .error .valueError) ∧
    (∀ x, withPassword e u x = .error .valueError) ∧
    (∀ hs, withHost e u hs = .error .valueError) ∧
    (∀ p k, withPort e u p k = if k ≠ 0 then .error .typeError else .error .valueError) ∧
    origin e u = .error .valueError :=
  C11_authority_modifiers_need_authority e u hn

open Dyn in
/-- … MODEL-LEVEL (YarlModel/Dyn.lean, a hand transcription of the `isinstance` dispatch; arguments of any type): the
    type gate comes first (TypeError for a wrong-typed argument), then "not allowed for relative URLs" (ValueError).
    Cites C11_dyn_authority_modifiers_need_authority. -/
theorem C11_headline_dyn_authority_modifiers_need_authority (e : Env) (u : Url) (hn : u.netloc = []) (o : PyObj) :
    (dynWithUser e u o = if (match o with | .none => true | _ => (strLike o).isSome) then .error .valueError
                         else .error .typeError) ∧
    (dynWithPassword e u o = if (match o with | .none => true | _ => (strLike o).isSome) then .error .valueError
                             else .error .typeError) ∧
    (dynWithHost e u o = if (strLike o).isSome then .error .valueError else .error .typeError) ∧
    (dynWithPort e u o = match o with
      | .none => .error .valueError | .int _ => .error .valueError | _ => .error .typeError) :=
  C11_dyn_authority_modifiers_need_authority e u hn o

/-! ## GAPS 4 — with_host in terms of the argument TEXT -/

/-- GAPS 4: "with_host … reads back as the canonicalised argument", the canonicalised argument WRITTEN OUT per kind of
    argument, on a `Written` URL (`C11_HostSet … hs eh rh`: stored host text `eh`, `raw_host` reads `rh`, rest kept):
    an ASCII name that is no IP literal is lower-cased — or rejected (ValueError) iff the reg-name screen fires; an IPv4
    literal is kept; an IPv6 literal (written WITHOUT brackets) is stored compressed in brackets and read back without;
    with a zone id the zone is copied verbatim — or rejected iff the zone fails the screen.
    Cites C11_with_host_name, C11_with_host_ipv4, C11_with_host_ipv6, C11_with_host_ipv6_zone, C11_with_host_ipv4_zone. -/
theorem C11_headline_with_host_argument_kinds (e : Env) (qf : Str → Str) (u : Url) (user pw : Option Str) (h : Str)
    (port : Option Nat) (w : Written qf u user pw h port) :
    (∀ hs, hs ≠ [] → isAscii hs = true → parseIP (partition 37 hs).1 = none →           -- ASCII, no IP literal
      (notRegName (lower hs) = false → C11_HostSet e u user pw port hs (lower hs) (lower hs)) ∧
      (notRegName (lower hs) = true → withHost e u hs = .error .valueError)) ∧
    (∀ hs o4, parseIPv4 hs = some o4 → C11_HostSet e u user pw port hs hs hs) ∧          -- IPv4
    (∀ hs h8, parseIPv6 hs = some h8 → 37 ∉ hs →                                         -- IPv6, no zone
      C11_HostSet e u user pw port hs ([91] ++ ipv6ToStr h8 ++ [93]) (ipv6ToStr h8)) ∧
    (∀ addr z h8, parseIPv6 addr = some h8 → 37 ∉ addr →                                 -- IPv6 "addr%zone"
      (notRegName (lower z) = false →
        C11_HostSet e u user pw port (addr ++ [37] ++ z) ([91] ++ ipv6ToStr h8 ++ [37] ++ z ++ [93])
          (ipv6ToStr h8 ++ [37] ++ z)) ∧
      (notRegName (lower z) = true → withHost e u (addr ++ [37] ++ z) = .error .valueError)) ∧
    (∀ addr z o4, parseIPv4 addr = some o4 →                                             -- IPv4 "addr%zone" that
      -- the text "looks like an IP": contains ':' or ends in a digit
      (58 ∈ addr ++ [37] ++ z ∨ ∃ l, (addr ++ [37] ++ z).getLast? = some l ∧ isDigitC l = true) →
      (notRegName (lower z) = false →
        C11_HostSet e u user pw port (addr ++ [37] ++ z) (addr ++ [37] ++ z) (addr ++ [37] ++ z)) ∧
      (notRegName (lower z) = true → withHost e u (addr ++ [37] ++ z) = .error .valueError)) :=
  ⟨fun hs hne ha hip => C11_with_host_name e qf u user pw h port hs w hne ha hip,
   fun hs o4 h4 => C11_with_host_ipv4 e qf u user pw h port hs o4 w h4,
   fun hs h8 h6 h37 => C11_with_host_ipv6 e qf u user pw h port hs h8 w h6 h37,
   fun addr z h8 h6 h37 => C11_with_host_ipv6_zone e qf u user pw h port addr z h8 w h6 h37,
   fun addr z o4 h4 hl => C11_with_host_ipv4_zone e qf u user pw h port addr z o4 w h4 hl⟩

/-- GAPS 4, any accepted argument (ASCII or not) with a non-empty encoding `eh = _encode_host(hs, validate_host=True)`:
    the stored host text is `eh`, `raw_host` reads `unbracket eh`, nothing else changes.  Cites C11_hostSet_of_enc. -/
theorem C11_headline_with_host_stored_text (e : Env) (qf : Str → Str) (u : Url) (user pw : Option Str) (h : Str)
    (port : Option Nat) (hs eh : Str) (w : Written qf u user pw h port)
    (hs_ne : hs ≠ [])                                    -- "" is a ValueError
    (henc : encodeHost e.o hs true = .ok eh)             -- what C16 says `_encode_host` returns
    (heh : eh ≠ []) :                                    -- discharged by C11_headline_with_host_answer_nonempty
    C11_HostSet e u user pw port hs eh (unbracket eh) :=
  C11_hostSet_of_enc e qf u user pw h port hs eh w hs_ne henc heh

/-- GAPS 4, REJECTED arguments (ValueError): any ASCII non-IP text with a character outside the reg-name alphabet (after
    lower-casing; '%' is judged with the two characters after it) — in particular each of `: / ? # [ ] @` and the space:
    "a:b", a BRACKETED literal "[::1]", "a b", "a/b", "u@h".  Cites C11_with_host_rejects_char. -/
theorem C11_headline_with_host_rejects_char (e : Env) (qf : Str → Str) (u : Url) (user pw : Option Str) (h : Str)
    (port : Option Nat) (hs : Str) (c : Nat) (w : Written qf u user pw h port)
    (ha : isAscii hs = true) (hip : parseIP (partition 37 hs).1 = none)   -- ASCII, not an IP literal
    (hc : c ∈ hs) (h37 : c ≠ 37) (hbad : mem (lowerC c) Gen.regNameChars = false) :   -- an offending character
    withHost e u hs = .error .valueError ∧
    (∀ d, d = 58 ∨ d = 47 ∨ d = 63 ∨ d = 35 ∨ d = 91 ∨ d = 93 ∨ d = 64 ∨ d = 32 →
      d ≠ 37 ∧ mem (lowerC d) Gen.regNameChars = false) :=
  C11_with_host_rejects_char e qf u user pw h port hs c w ha hip hc h37 hbad

/-- GAPS 4: the guard `eh ≠ ""` of C11_headline_with_host holds for every ASCII argument, and for a non-ASCII one under
    the ASSUMPTION `IdnaSaneAt` about the `idna` package.  Cites C11_with_host_answer_nonempty. -/
theorem C11_headline_with_host_answer_nonempty (o : Oracles) (hs eh : Str)
    (hne : hs ≠ [])
    (hsane : isAscii hs = false → IdnaSaneAt o hs)       -- ASSUMPTION, non-ASCII arguments only
    (henc : encodeHost o hs true = .ok eh) :
    eh ≠ [] :=
  C11_with_host_answer_nonempty o hs eh hne hsane henc

/-- GAPS 4, the formerly excluded case, analysed — HYPOTHETICAL (needs an `idna` answer "", which the real codecs do not
    give: they raise "label empty"; not observed, not a finding): if `_encode_host` answers "", `with_host` SUCCEEDS and
    writes an authority with an EMPTY host; user, password, port are kept; `raw_host` reads "" — or `None`, with an
    EMPTY stored authority (the URL has become relative), when there is no user, password or port.  Second part:
    computed with a hostile oracle on `URL("http://u@h:80/")` and `URL("http://h/p")`.
    Cites C11_with_host_empty_answer, C11_with_host_empty_answer_instance. -/
theorem C11_headline_with_host_empty_answer (e : Env) (qf : Str → Str) (u : Url) (user pw : Option Str) (h : Str)
    (port : Option Nat) (hs : Str) (w : Written qf u user pw h port) (hs_ne : hs ≠ [])
    (henc : encodeHost e.o hs true = .ok []) :           -- the hypothetical answer
    (∃ v, withHost e u hs = .ok v ∧
      v.netloc = makeNetloc (q e Gen.QUOTER) user pw (some []) port false ∧
      (v.netloc = [] ↔ user = none ∧ pw = none ∧ port = none) ∧
      rawHost e v = .ok (if user = none ∧ pw = none ∧ port = none then none else some []) ∧
      rawUser e v = .ok user ∧ rawPassword e v = .ok pw ∧ explicitPort e v = .ok port ∧
      v.scheme = u.scheme ∧ v.path = u.path ∧ v.query = u.query ∧ v.fragment = u.fragment) ∧
    (encodeHost C11_eHostile.o [233] true = .ok [] ∧ ¬ IdnaSaneAt C11_eHostile.o [233] ∧
      ((encodeUrl C11_eHostile "http://u@h:80/".toStr >>= fun u => withHost C11_eHostile u [233]).map (·.netloc))
        = .ok "u@:80".toStr ∧
      ((encodeUrl C11_eHostile "http://h/p".toStr >>= fun u => withHost C11_eHostile u [233]) >>= str C11_eHostile)
        = .ok "http:///p".toStr ∧
      ((encodeUrl C11_eHostile "http://h/p".toStr >>= fun u => withHost C11_eHostile u [233]) >>= rawHost C11_eHostile)
        = .ok none) :=
  ⟨C11_with_host_empty_answer e qf u user pw h port hs w hs_ne henc,
   C11_with_host_empty_answer_instance.1, C11_with_host_empty_answer_instance.2.1,
   C11_with_host_empty_answer_instance.2.2.1, C11_with_host_empty_answer_instance.2.2.2.2.1,
   C11_with_host_empty_answer_instance.2.2.2.2.2⟩

/-! ## GAPS 6 — "the query operations / with_fragment … the targeted component reads back as the canonicalised argument
    and every other raw component … is unchanged", frame and read-back in ONE statement -/

/-- with_query: the pairs of the argument read back AND path / fragment / scheme / authority are kept (`C11_QueryFrame`),
    for a mapping, a pair sequence, a string and `None`.  No hypothesis on `u`.  Cites C11_with_query_reads_back. -/
theorem C11_headline_with_query_reads_back (e : Env) (u : Url) (items : List (Str × QItem)) (ps : List (Str × Str))
    (s : Str) :
    (expandItems items = some ps → GoodPairs ps →        -- the argument denotes `ps`; no lone surrogate (C06)
      ∃ v, withQuery e u (.mapping items) = .ok v ∧ queryPairs v = ps ∧ C11_QueryFrame e u v) ∧
    (SingleValued items → expandItems items = some ps → GoodPairs ps →
      ∃ v, withQuery e u (.pairs items) = .ok v ∧ queryPairs v = ps ∧ C11_QueryFrame e u v) ∧
    (GoodText s →
      ∃ v, withQuery e u (.str s) = .ok v ∧ queryPairs v = parseQslLit s ∧
        (37 ∉ s → queryPairs v = parseQsl s) ∧ C11_QueryFrame e u v) ∧
    (∃ v, withQuery e u .none = .ok v ∧ queryPairs v = [] ∧ C11_QueryFrame e u v) :=
  C11_with_query_reads_back e u items ps s

/-- extend_query: the old pairs followed by the argument's pairs read back AND the frame.
    Cites C11_extend_query_reads_back. -/
theorem C11_headline_extend_query_reads_back (e : Env) (u : Url) (items : List (Str × QItem)) (ps : List (Str × Str))
    (s : Str) :
    (expandItems items = some ps → GoodPairs ps →
      ∃ v, extendQuery e u (.mapping items) = .ok v ∧ queryPairs v = queryPairs u ++ ps ∧ C11_QueryFrame e u v) ∧
    (SingleValued items → expandItems items = some ps → GoodPairs ps →
      ∃ v, extendQuery e u (.pairs items) = .ok v ∧ queryPairs v = queryPairs u ++ ps ∧ C11_QueryFrame e u v) ∧
    (GoodText s →
      ∃ v, extendQuery e u (.str s) = .ok v ∧ queryPairs v = queryPairs u ++ parseQslLit s ∧
        (37 ∉ s → queryPairs v = queryPairs u ++ parseQsl s) ∧ C11_QueryFrame e u v) ∧
    (extendQuery e u .none = .ok u ∧ C11_QueryFrame e u u) :=
  C11_extend_query_reads_back e u items ps s

/-- update_query and without_query_params: the result reads back as `MultiDict(url.query).update(q)` (C12; the
    F-C12-multidict-tail caveat is in `mdUpdate`) resp. the old pairs without the named keys AND the frame.
    Cites C11_update_query_reads_back, C11_without_query_params_reads_back. -/
theorem C11_headline_update_and_without_read_back (e : Env) (u : Url) (items : List (Str × QItem))
    (ps : List (Str × Str)) (s : Str) (names : List Str)
    (hold : GoodPairs (queryPairs u)) :                  -- the OLD pairs are re-rendered (C12); true for reachable URLs
    ((SingleValued items → expandItems items = some ps → GoodPairs ps → ps ≠ [] →
      (∃ v, updateQuery e u (.pairs items) = .ok v ∧ queryPairs v = mdUpdate (queryPairs u) ps ∧
        C11_QueryFrame e u v) ∧
      (∃ v, updateQuery e u (.mapping items) = .ok v ∧ queryPairs v = mdUpdate (queryPairs u) ps ∧
        C11_QueryFrame e u v)) ∧
    (expandItems items = some ps → GoodPairs ps → items ≠ [] →
      ∃ v ps', updateQuery e u (.mapping items) = .ok v ∧ queryPairs v = ps' ∧
        expandItems (mdUpdate (strItems (queryPairs u)) items) = some ps' ∧ C11_QueryFrame e u v) ∧
    (GoodText s → s ≠ [] →
      ∃ v, updateQuery e u (.str s) = .ok v ∧ queryPairs v = mdUpdate (queryPairs u) (parseQsl s) ∧
        C11_QueryFrame e u v) ∧
    (∃ v, updateQuery e u .none = .ok v ∧ queryPairs v = [] ∧ C11_QueryFrame e u v)) ∧
    (∃ v, withoutQueryParams e u names = .ok v ∧
      queryPairs v = (queryPairs u).filter (fun p => !names.contains p.1) ∧ C11_QueryFrame e u v) :=
  ⟨C11_update_query_reads_back e u items ps s hold, C11_without_query_params_reads_back e u names hold⟩

/-- with_fragment: the fragment reads back DECODED as the argument (stored: the FRAGMENT_QUOTER output), `None` clears it,
    path, query, scheme and authority are kept; with_path (auto-encoding): the decoded path reads back as the argument
    (made absolute when there is an authority) and `C11_PathFrame`.
    Cites C11_with_fragment_reads_back, C11_with_path_reads_back. -/
theorem C11_headline_with_fragment_and_path_read_back (e : Env) (u : Url) :
    (∀ t, PyStr t → NoSurrogate t →                      -- lone surrogates are dropped by the quoter (C06)
      fragmentDecoded e (withFragment e u (some t)) = t ∧
      (withFragment e u (some t)).fragment = q e Gen.FRAGMENT_QUOTER t) ∧
    (fragmentDecoded e (withFragment e u none) = [] ∧ (withFragment e u none).fragment = []) ∧
    (∀ f, (withFragment e u f).path = u.path ∧ (withFragment e u f).query = u.query ∧
      C11_KeepsAuthority e u (withFragment e u f)) ∧
    (∀ t kq kf, PyStr t → NoSurrogate t →
      (u.netloc = [] ∨ PathLemmas.NoDots (splitOn 47 t)) →   -- with an authority: no "." / ".." segment (C15)
      pathDecoded e (withPath e u t false kq kf) =
        (if t = [] then (if u.netloc = [] then [] else [47]) else if t.head? = some 47 then t else 47 :: t) ∧
      C11_PathFrame e u (withPath e u t false kq kf) kq kf) :=
  ⟨(C11_with_fragment_reads_back e u).1, (C11_with_fragment_reads_back e u).2.1, (C11_with_fragment_reads_back e u).2.2,
   fun t kq kf ht hn hnd => C11_with_path_reads_back e u t kq kf ht hn hnd⟩

/-! ## GAPS 7 — "with_path, with_name, with_suffix, /, joinpath and parent keep scheme and authority and clear query and
    fragment unless keep_query/keep_fragment is given" -/

/-- GAPS 7, accessor by accessor (`C11_PathFrame`): with_path (BOTH values of `encoded`), with_name, with_suffix, `/` and
    joinpath (`makeChild`, both values of `encoded`), parent.  The result has the scheme and stored authority text of
    `u`; it is `u` itself or has no cache, so the 12 authority-derived accessors read the same as on the cache-less twin
    of `u` — hence as on `u` WHENEVER `u`'s cache agrees with its text (see C11_headline_ctor_cache_agrees_iff for when
    it does not: F-C11-bracket).  No hypothesis.  Cites C11_path_modifiers_keep_authority. -/
theorem C11_headline_path_modifiers_keep_authority (e : Env) (u : Url) :
    (∀ p encoded kq kf, C11_PathFrame e u (withPath e u p encoded kq kf) kq kf) ∧
    (∀ x kq kf v, withName e u x kq kf = .ok v → C11_PathFrame e u v kq kf) ∧
    (∀ x kq kf v, withSuffix e u x kq kf = .ok v → C11_PathFrame e u v kq kf) ∧
    (∀ paths encoded v, makeChild e u paths encoded = .ok v → C11_PathFrame e u v false false) ∧
    C11_PathFrame e u (parent u) false false :=
  C11_path_modifiers_keep_authority e u

/-! ## GAPS 8 — hosts outside `AuthInput` / `Written` -/

/-- GAPS 8, THE GENERAL THEOREM: the authority modifiers read nothing but the cached-or-parsed components.  Whatever the
    STORED authority text is (brackets around a host without ':' as in "[v1.x]:80", a pre-filled cache or none), if the
    four raw components of `u` are `(user, pw, h, port)` then sentence 1 of C11 holds for all five authority modifiers,
    with_user("") included, and every result stores the `make_netloc` text.  No `GoodAuthority`, no cache-agreement
    hypothesis, no `Written`.  Cites C11_modifiers_of_components. -/
theorem C11_headline_modifiers_of_components (e : Env) (u : Url) (user pw : Option Str) (h : Str) (port : Option Nat)
    (hN : net e u = .ok { rawHost := some h, explicitPort := port, rawUser := user, rawPassword := pw })
                                                         -- the raw components: the cache when filled, else the lazy parse
    (hne : u.netloc ≠ [])                                -- there is an authority (else ValueError, GAPS 3 (b))
    (hU : UserOK user)                                   -- a present user is non-empty, without ':' (true of every parse)
    (hH : HostOK h)                                      -- host non-empty, without '@' '[' ']' (empty host: below)
    (hP : ∀ p, port = some p → p ≤ 65535) :
    C11_AuthorityModifiersOK e u user pw h port :=
  C11_modifiers_of_components e u user pw h port hN hne hU hH hP

/-- GAPS 8, constructor results from the CACHE alone: `u = URL(s)`, `s` a Python string with a non-empty authority.  If
    the cached raw host `rh` is a non-empty text without '@' '[' ']', sentence 1 holds for `u` with the components the
    constructor cached — `REQUOTER(user) or None`, `REQUOTER(password)`, `rh`, the port `split_netloc` read.  No
    `GoodAuthority`, no `AuthInput`: covers IPvFuture literals, bracketed IPv4-with-zone, IDN hosts.
    Cites C11_ctor_modifiers_of_cached_host. -/
theorem C11_headline_ctor_modifiers_of_cached_host (e : Env) (s : Str) (u : Url) (pt : Parts) (np : NetlocParts)
    (hs : PyStr s) (hu : encodeUrl e s = .ok u)          -- `u = URL(s)`
    (hpt : splitUrl e.o s = .ok pt) (hne : pt.netloc ≠ []) (hsp : splitNetloc e.o pt.netloc = .ok np) -- names the split
    (rh : Str) (hrh : rawHost e u = .ok (some rh))       -- the cached raw host
    (hH : HostOK rh) :                                   -- non-empty, without '@' '[' ']' (not: F-C11-bracket, empty host)
    u.netloc ≠ [] ∧ rawUser e u = .ok (cachedUser e np.user) ∧ rawPassword e u = .ok (requoteOpt e np.password) ∧
    explicitPort e u = .ok np.port ∧
    C11_AuthorityModifiersOK e u (cachedUser e np.user) (requoteOpt e np.password) rh np.port :=
  C11_ctor_modifiers_of_cached_host e s u pt np hs hu hpt hne hsp rh hrh hH

open BrHost FixLemmas in
/-- GAPS 8, bracketed non-IPv6 hosts (IPvFuture "[v1.x]", "[a:b]", "[1.2.3.4%a:b]"; stored WITH brackets since fix
    c17f18a).  From the input: `u = URL(s)`, host part written in brackets around a non-IPv6 text `T` (any letter case).
    The raw components are `(user, pw, t, port)` with `t` = `T` or its lower case, and sentence 1 holds — every other
    RAW component is unchanged; each result is `Written`, i.e. re-made with `host_subcomponent`, which brackets `t` ONLY
    when it contains ':' (the stored TEXT changes: C11_headline_bracket_instances).
    Cites C11_bracket_ctor_modifiers (general stored-text form: C11_bracket_modifiers). -/
theorem C11_headline_bracket_ctor_modifiers (e : Env) (s : Str) (u : Url) (pt : Parts) (np : NetlocParts) (T : Str)
    (hs : PyStr s) (hu : encodeUrl e s = .ok u)          -- `u = URL(s)`
    (hpt : splitUrl e.o s = .ok pt) (hsp : splitNetloc e.o pt.netloc = .ok np) (hhost : np.host = some T)
    (hwrap : 91 ∈ (rpartition 64 pt.netloc).2.2)         -- the host part is written in brackets
    (hk : BracketTextIn T)                               -- bracketed non-IPv6 text, any letter case
    (hlow : bracketCheck (lower T) = true) :             -- the lower-cased text passes the bracket check too (not "[V:b]")
    ∃ user pw t, (t = lower T ∨ t = T) ∧ u.netloc = authTextB user pw t np.port ∧
      rawUser e u = .ok user ∧ rawPassword e u = .ok pw ∧ rawHost e u = .ok (some t) ∧
      explicitPort e u = .ok np.port ∧ hostSubcomponent e u = .ok (some (bracket t)) ∧
      C11_AuthorityModifiersOK e u user pw t np.port :=
  C11_bracket_ctor_modifiers e s u pt np T hs hu hpt hsp hhost hwrap hk hlow

/-- NEGATIVE about the stored TEXT (C11's sentence is about RAW components and holds): `URL("http://[v1.x]:8080/")` stores
    "[v1.x]:8080" and caches `raw_host = "v1.x"`; after with_port(81) / with_user("a") the brackets are GONE from the
    stored text and from `str()` — "http://v1.x:81/": the IPvFuture literal has silently become a reg-name — while
    `raw_host` still reads "v1.x".  With a ':' in the literal ("[v1.a:b]") the brackets survive.  `with_host` cannot set
    such a host: "[v1.x]" is rejected.  (Computed, pure-Python backend.)  Cites C11_bracket_instances. -/
theorem C11_headline_bracket_instances :
    (encodeUrl C11_ePy "http://[v1.x]:8080/".toStr).map (·.netloc) = .ok "[v1.x]:8080".toStr ∧
    (encodeUrl C11_ePy "http://[v1.x]:8080/".toStr >>= rawHost C11_ePy) = .ok (some "v1.x".toStr) ∧
    ((encodeUrl C11_ePy "http://[v1.x]:8080/".toStr >>= fun u => withPort C11_ePy u (some 81) 0) >>= str C11_ePy)
      = .ok "http://v1.x:81/".toStr ∧
    ((encodeUrl C11_ePy "http://[v1.x]:8080/".toStr >>= fun u => withPort C11_ePy u (some 81) 0) >>= rawHost C11_ePy)
      = .ok (some "v1.x".toStr) ∧
    ((encodeUrl C11_ePy "http://[v1.x]:8080/".toStr >>= fun u => withUser C11_ePy u (some "a".toStr)) >>= str C11_ePy)
      = .ok "http://a@v1.x:8080/".toStr ∧
    ((encodeUrl C11_ePy "http://[v1.a:b]:8080/".toStr >>= fun u => withPort C11_ePy u (some 81) 0) >>= str C11_ePy)
      = .ok "http://[v1.a:b]:81/".toStr ∧
    (encodeUrl C11_ePy "http://h/".toStr >>= fun u => withHost C11_ePy u "[v1.x]".toStr) = .error .valueError :=
  ⟨C11_bracket_instances.1, C11_bracket_instances.2.1, C11_bracket_instances.2.2.1, C11_bracket_instances.2.2.2.1,
   C11_bracket_instances.2.2.2.2.1, C11_bracket_instances.2.2.2.2.2.2.1, C11_bracket_instances.2.2.2.2.2.2.2.2.1⟩

open Idn in
/-- GAPS 8, IDN hosts, ANY URL shape (userinfo, port, path, query, fragment): `u = URL(s)`, the host `h0` cut out of the
    input authority is non-ASCII and no IP literal, under the ASSUMPTION `IdnaSaneAt`.  Then the cached raw host is the
    IDNA answer `a`, and sentence 1 of C11 holds for `u`.  Cites C11_idn_ctor_modifiers. -/
theorem C11_headline_idn_ctor_modifiers (e : Env) (s : Str) (u : Url) (pt : Parts) (np : NetlocParts) (h0 : Str)
    (hs : PyStr s) (hu : encodeUrl e s = .ok u)          -- `u = URL(s)`
    (hpt : splitUrl e.o s = .ok pt) (hsp : splitNetloc e.o pt.netloc = .ok np) (hh : np.host = some h0)
    (hna : isAscii h0 = false) (hip : parseIP (partition 37 h0).1 = none)   -- non-ASCII, no IP literal before a '%'
    (hsane : IdnaSaneAt e.o h0) :                        -- ASSUMPTION about the idna package (trusted base, C16Idn.lean)
    ∃ a, idnaEncode e.o h0 = .ok a ∧ IdnaAnswerSane a ∧
      rawHost e u = .ok (some a) ∧ rawUser e u = .ok (cachedUser e np.user) ∧
      rawPassword e u = .ok (requoteOpt e np.password) ∧ explicitPort e u = .ok np.port ∧
      C11_AuthorityModifiersOK e u (cachedUser e np.user) (requoteOpt e np.password) a np.port :=
  C11_idn_ctor_modifiers e s u pt np h0 hs hu hpt hsp hh hna hip hsane

/-- GAPS 8, the EMPTY host ("foo://user@:80/", "foo://:80/", "foo://:pw@/"): such a constructor result is in the scope of
    C11_cached_arbitrary_authority (C11Encoded.lean: the `C11_arbitrary_authority_*` frames of C11HeadlineMore3.lean
    for a URL whose cache, if any, agrees with its text) — the cache agrees, the stored
    authority is non-empty and accepted with an empty host, `raw_host` reads "", not (E1).
    Cites C11_empty_host_ctor_in_scope. -/
theorem C11_headline_empty_host_ctor_in_scope (e : Env) (s : Str) (u : Url) (p : NetPre) (pt : Parts)
    (np : NetlocParts)
    (hu : encodeUrl e s = .ok u) (hpre : u.pre = some p)  -- `u = URL(s)` with its cache
    (hpt : splitUrl e.o s = .ok pt) (hsp : splitNetloc e.o pt.netloc = .ok np)
    (hh : np.host = none)                                -- the EMPTY host
    -- a user that is actually written, a password or a port (else F-C09-empty-authority: the authority normalises to "")
    (hor : (∃ x, np.user = some x ∧ ∃ c ∈ x, isSurrogate c = false) ∨ np.password ≠ none ∨ np.port ≠ none)
    (hpy : ∀ x, np.user = some x → PyStr x) :
    net e (pickleTwin u) = net e u ∧ u.netloc ≠ [] ∧ rawHost e u = .ok (some []) ∧
    ∃ np', splitNetloc e.o u.netloc = .ok np' ∧ np'.host.getD [] = [] ∧
      ¬ (91 ∈ np'.host.getD [] ∧ 58 ∉ np'.host.getD []) :=
  C11_empty_host_ctor_in_scope e s u p pt np hu hpre hpt hsp hh hor hpy

/-- … on a URL WITH a cache that agrees with its text and ANY accepted stored authority: with_user(None) as the sample
    conjunct of C11_cached_arbitrary_authority — user and password read `None`, the port reads as on `u`, `raw_host` and
    `host_subcomponent` read as on `u` EXCEPT in case (E2) (empty host and no port: the new authority is EMPTY and they
    read `None`).  (The other conjuncts — accessors, with_user(x), with_password, with_port, with_host — are in
    C11_cached_arbitrary_authority, C11Encoded.lean, in the same form.) -/
theorem C11_headline_cached_arbitrary_authority_with_user_none (e : Env) (u : Url) (np : NetlocParts)
    (hnet : net e (pickleTwin u) = net e u)              -- the cache (if any) agrees with the stored text
    (hn : u.netloc ≠ [])
    (hs : splitNetloc e.o u.netloc = .ok np)             -- `split_netloc` accepts the stored authority
    (hgood : ¬ (91 ∈ np.host.getD [] ∧ 58 ∉ np.host.getD [])) :   -- not (E1)
    ∃ v, withUser e u none = .ok v ∧
      v.netloc = makeNetloc (q e Gen.QUOTER) none none (some (bracket (np.host.getD []))) np.port false ∧
      rawUser e v = .ok none ∧ rawPassword e v = .ok none ∧
      explicitPort e v = explicitPort e u ∧
      (rawHost e v = if np.host.getD [] = [] ∧ np.port = none then .ok none else rawHost e u) ∧
      (hostSubcomponent e v = if np.host.getD [] = [] ∧ np.port = none then .ok none else hostSubcomponent e u) ∧
      (v.netloc = [] ↔ np.host.getD [] = [] ∧ np.port = none) ∧
      v.scheme = u.scheme ∧ v.path = u.path ∧ v.query = u.query ∧ v.fragment = u.fragment ∧ v.pre = none :=
  (C11_cached_arbitrary_authority e u np hnet hn hs hgood).2.2.1

/-- DEVIATION (E2), Python level, by the letter of C11 ("every other raw component … is unchanged"): when NOTHING is left
    to write the authority disappears — `URL("foo://user@/").with_user(None)` is `URL("foo:/")`, `raw_host` "" has become
    `None`, and a further authority modifier raises ValueError; whereas on `URL("foo://user@:80/")` with_port(81) and
    with_user(None) keep `raw_host` "".  (Computed, pure-Python backend.)  Cites C11_empty_host_instances. -/
theorem C11_headline_empty_host_instances :
    (encodeUrl C11_ePy "foo://user@:80/".toStr >>= rawHost C11_ePy) = .ok (some []) ∧
    ((encodeUrl C11_ePy "foo://user@:80/".toStr >>= fun u => withPort C11_ePy u (some 81) 0) >>= str C11_ePy)
      = .ok "foo://user@:81/".toStr ∧
    ((encodeUrl C11_ePy "foo://user@:80/".toStr >>= fun u => withPort C11_ePy u (some 81) 0) >>= rawHost C11_ePy)
      = .ok (some []) ∧
    ((encodeUrl C11_ePy "foo://user@:80/".toStr >>= fun u => withUser C11_ePy u none) >>= str C11_ePy)
      = .ok "foo://:80/".toStr ∧
    (encodeUrl C11_ePy "foo://user@/".toStr >>= rawHost C11_ePy) = .ok (some []) ∧
    ((encodeUrl C11_ePy "foo://user@/".toStr >>= fun u => withUser C11_ePy u none) >>= str C11_ePy)
      = .ok "foo:/".toStr ∧
    ((encodeUrl C11_ePy "foo://user@/".toStr >>= fun u => withUser C11_ePy u none) >>= rawHost C11_ePy)
      = .ok none ∧
    (((encodeUrl C11_ePy "foo://user@/".toStr >>= fun u => withUser C11_ePy u none) >>=
        fun v => withPort C11_ePy v (some 1) 0)) = .error .valueError :=
  ⟨C11_empty_host_instances.1, C11_empty_host_instances.2.1, C11_empty_host_instances.2.2.1,
   C11_empty_host_instances.2.2.2.2.2.1, C11_empty_host_instances.2.2.2.2.2.2.1,
   C11_empty_host_instances.2.2.2.2.2.2.2.1, C11_empty_host_instances.2.2.2.2.2.2.2.2.1,
   C11_empty_host_instances.2.2.2.2.2.2.2.2.2.1⟩

/-! ## KNOWN FINDING F-C11-bracket — a query / path / fragment modifier "changes the host" -/

/-- KNOWN FINDING F-C11-bracket (KNOWN_FINDINGS; same root as F-C03-bracket / F-C09-bracket, seen through a modifier),
    evaluated in the model on the recorded witness (pure-Python backend): `URL('http://[0:0:0:0:0:0[:0:0]/a')` stores the
    authority "0:0:0:0:0:0[:0:0"; the pre-computed `raw_host` is ':0:0:0:0:0[:0:' while `.with_query('k=v').raw_host` —
    read lazily from the stored text — is ':0:0'.  So "every other raw component … is unchanged" is FALSE for the query
    operations on this constructor result; the authority text of the input is in class (B) `MalformedBrackets` of
    C09More.lean, i.e. outside `AgreeB`. -/
theorem C11_headline_query_frame_fails_for_malformed_brackets :
    let s := "http://[0:0:0:0:0:0[:0:0]/a".toStr
    (encodeUrl C11_ePy s).map (·.netloc) = .ok "0:0:0:0:0:0[:0:0".toStr ∧
    (encodeUrl C11_ePy s >>= rawHost C11_ePy) = .ok (some ":0:0:0:0:0[:0:".toStr) ∧
    ((encodeUrl C11_ePy s >>= fun u => withQuery C11_ePy u (.str "k=v".toStr)) >>= rawHost C11_ePy)
      = .ok (some ":0:0".toStr) ∧
    AgreeB (ctorAuthorityText s) = false ∧ MalformedBrackets (ctorAuthorityText s) := by
  str_lits; decide +kernel

/-- … delimited EXACTLY for constructor results with an ASCII host text: the cache of `u = URL(s)` agrees with the stored
    text — the hypothesis under which `C11_KeepsAuthority` / `C11_QueryFrame` / `C11_PathFrame` give "the 12 authority
    accessors read as on `u`" — IF AND ONLY IF `AgreeB` holds of the authority text of the input (C09More.lean: fails
    exactly for "authority normalises to empty" and "malformed brackets").  Cites C09_eager_lazy_iff. -/
theorem C11_headline_ctor_cache_agrees_iff (e : Env) (s : Str) (u : Url) (p : NetPre)
    (hs : PyStr s) (hu : encodeUrl e s = .ok u) (hpre : u.pre = some p)   -- `u = URL(s)` with its cache `p`
    (hascii : isAscii (hostText (ctorAuthorityText s)) = true) :           -- ASCII host text (IDN: no exact boundary)
    net e (pickleTwin u) = net e u ↔ AgreeB (ctorAuthorityText s) = true := by
  have h1 : net e u = .ok p := by unfold net; rw [hpre]; rfl
  have h2 : net e (pickleTwin u) = lazyNet e (pickleTwin u) := rfl
  rw [h1, h2]
  exact C09_eager_lazy_iff e s u p hs hu hpre hascii

/-- … hence: for `u = URL(s)` with `AgreeB` (ASCII host text), EVERY query operation, with_fragment, with_path (both
    `encoded`), with_name, with_suffix, `/`, joinpath and parent return a URL on which all 12 authority-derived accessors
    read what they read on `u`.  Cites C11_path_modifiers_keep_authority, C11_with_fragment_reads_back and the frames
    inside C11_with_query_reads_back (via `C11_QueryFrame`). -/
theorem C11_headline_ctor_modifiers_keep_authority_accessors (e : Env) (s : Str) (u : Url) (p : NetPre)
    (hs : PyStr s) (hu : encodeUrl e s = .ok u) (hpre : u.pre = some p)
    (hascii : isAscii (hostText (ctorAuthorityText s)) = true)
    (hag : AgreeB (ctorAuthorityText s) = true) :        -- excludes F-C11-bracket and F-C09-empty-authority
    (∀ v, C11_KeepsAuthority e u v → C11_SameAuthority e v u) ∧
    (∀ f, C11_SameAuthority e (withFragment e u f) u) ∧
    (∀ t encoded kq kf, C11_SameAuthority e (withPath e u t encoded kq kf) u) ∧
    C11_SameAuthority e (parent u) u := by
  have hnet := (C11_headline_ctor_cache_agrees_iff e s u p hs hu hpre hascii).2 hag
  refine ⟨fun v hk => hk.2.2.2.2 hnet, fun f => ((C11_with_fragment_reads_back e u).2.2 f).2.2.2.2.2.2 hnet,
    fun t enc kq kf => ((C11_path_modifiers_keep_authority e u).1 t enc kq kf).1.2.2.2.2 hnet,
    (C11_path_modifiers_keep_authority e u).2.2.2.2.1.2.2.2.2 hnet⟩

end Yarl
