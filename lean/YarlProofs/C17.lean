/-
  C17.lean — port semantics: explicit vs default port, 0 vs absent, `with_port`,
  `str()` / `host_port_subcomponent` omitting a default port.

  The general layer is `C17_port_views_of_net` (every port view of ANY URL written out from `net e u = .ok n`) and
  `C17_with_port_exact` (`AuthMod.withPort_eq` spelled out); the theorems about `make_netloc`-written URLs below it,
  and those about URLs with cache and constructor results in C17Ctor.lean / C17More.lean, supply the `net`.
  The `namespace NetlocLemmas` blocks of this file hold the general lemmas it adds beside Lemmas/NetlocLemmas.lean: the
  equations of `net` (`net_of_cache`, `net_of_no_cache`, `lazyNet_eq`), `portOf_of_ne_nil`, the two corollaries of the
  default-port table, `find_map_iff`, `rstrip_guard`.
-/
import YarlModel
import YarlProofs.Lemmas.NetlocLemmas
import YarlProofs.Lemmas.AuthMod
import YarlProofs.Lemmas.StrLit
namespace Yarl
open NetlocLemmas

/-- pins the generated default-port table -/
theorem C17_default_ports :
    defaultPort "http".toStr = some 80 ∧ defaultPort "https".toStr = some 443 ∧
    defaultPort "ws".toStr = some 80 ∧ defaultPort "wss".toStr = some 443 ∧
    defaultPort "ftp".toStr = some 21 := by str_lits; decide +kernel

namespace NetlocLemmas

theorem find_map_iff (T : List (Str × Nat)) (hnd : (T.map (·.1)).Nodup) (s : Str) (p : Nat) :
    (T.find? (·.1 = s)).map (·.2) = some p ↔ (s, p) ∈ T := by
  induction T with
  | nil => simp
  | cons x xs ih =>
    obtain ⟨k, v⟩ := x
    simp only [List.map_cons, List.nodup_cons] at hnd
    by_cases hk : k = s
    · subst hk
      simp only [List.find?_cons, decide_true, Option.map_some, Option.some.injEq, List.mem_cons, Prod.mk.injEq,
        true_and]
      constructor
      · intro h; exact Or.inl h.symm
      · rintro (h | h)
        · exact h.symm
        · exact absurd (List.mem_map.2 ⟨(k, p), h, rfl⟩) hnd.1
    · have hk' : ¬ s = k := fun e => hk e.symm
      simp only [List.find?_cons, hk, decide_false, List.mem_cons, Prod.mk.injEq, hk', false_and, false_or]
      exact ih hnd.2

end NetlocLemmas

/-- the complete `DEFAULT_PORTS` table, computed from the generated table: a scheme has the default port
    `p` iff the pair is one of the five listed — EVERY other scheme (any string) has none -/
theorem C17_default_port_table (s : Str) (p : Nat) :
    defaultPort s = some p ↔
      (s, p) ∈ [("http".toStr, 80), ("https".toStr, 443), ("ws".toStr, 80), ("wss".toStr, 443), ("ftp".toStr, 21)] := by
  unfold defaultPort
  rw [find_map_iff Gen.defaultPorts (by str_lits; decide +kernel) s p]
  have h1 : ∀ x ∈ Gen.defaultPorts,
      x ∈ [("http".toStr, 80), ("https".toStr, 443), ("ws".toStr, 80), ("wss".toStr, 443), ("ftp".toStr, 21)] := by
    str_lits; decide +kernel
  have h2 : ∀ x ∈ [("http".toStr, 80), ("https".toStr, 443), ("ws".toStr, 80), ("wss".toStr, 443),
      ("ftp".toStr, 21)], x ∈ Gen.defaultPorts := by str_lits; decide +kernel
  exact ⟨h1 _, h2 _⟩

/-- … in particular a scheme outside the five has no default -/
theorem C17_default_port_none (s : Str)
    (h : s ∉ ["http".toStr, "https".toStr, "ws".toStr, "wss".toStr, "ftp".toStr]) : defaultPort s = none := by
  cases hd : defaultPort s with
  | none => rfl
  | some p =>
    have := (C17_default_port_table s p).1 hd
    simp only [List.mem_cons, Prod.mk.injEq, List.not_mem_nil, or_false] at this h
    rcases this with h' | h' | h' | h' | h' <;> simp [h'.1] at h

namespace NetlocLemmas

/-- a scheme that does not require a host has no default port (all five table entries require one) -/
theorem defaultPort_none_of_not_requires {scheme : Str} (h : Gen.schemeRequiresHost.contains scheme = false) :
    defaultPort scheme = none := by
  cases hd : defaultPort scheme with
  | none => rfl
  | some p =>
    have := (C17_default_port_table scheme p).1 hd
    simp only [List.mem_cons, Prod.mk.injEq, List.not_mem_nil, or_false] at this
    rcases this with h' | h' | h' | h' | h' <;> (rw [h'.1] at h; exact absurd h (by decide +kernel))

theorem defaultPort_range {scheme : Str} {p : Nat} (h : some p = defaultPort scheme) : p ≤ 65535 := by
  have := (C17_default_port_table scheme p).1 h.symm
  simp only [List.mem_cons, Prod.mk.injEq, List.not_mem_nil, or_false] at this
  omega

end NetlocLemmas

/-- `URL.port` is the explicit port, else the scheme default -/
theorem C17_port_fallback (e : Env) (u : Url) (ep : Option Nat) :
    explicitPort e u = .ok ep → port e u = .ok (ep <|> defaultPort u.scheme) := by
  intro h
  unfold port
  rw [h]
  cases ep <;> rfl

namespace NetlocLemmas

/-! ### where `net` gets the authority components from

the pre-filled cache when there is one, the lazy parse of the stored text otherwise -/

theorem net_of_cache {e : Env} {u : Url} {p : NetPre} (h : u.pre = some p) : net e u = .ok p := by
  unfold net
  rw [h]
  rfl

theorem net_of_no_cache {e : Env} {u : Url} (h : u.pre = none) : net e u = lazyNet e u := by
  unfold net
  rw [h]

/-- the lazy parse is `split_netloc` of the stored text; a missing host reads "" under an authority -/
theorem lazyNet_eq (e : Env) (u : Url) : lazyNet e u = (splitNetloc e.o u.netloc).map fun np =>
    { rawHost := match np.host with
        | none => if u.netloc.isEmpty then none else some []
        | some h => some h,
      explicitPort := np.port, rawUser := np.user, rawPassword := np.password } := by
  unfold lazyNet
  cases splitNetloc e.o u.netloc with
  | error err => rfl
  | ok np => rfl

/-- a non-empty port text goes through `int()` and the range check -/
theorem portOf_of_ne_nil (o : Oracles) {t : Str} (h : t ≠ []) : C07_portOf o t =
    match pyInt o t with
    | .ok (some p) => if 0 ≤ p ∧ p ≤ 65535 then .ok (some p.toNat) else .error .valueError
    | .ok none => .error .valueError
    | .error err => .error err := by
  unfold C07_portOf
  rw [if_neg (by simpa using h)]
  cases pyInt o t with
  | error err => rfl
  | ok v =>
    cases v with
    | none => rfl
    | some p => rfl

end NetlocLemmas

/-- an explicit port read lazily from the netloc is always in range -/
theorem C17_explicit_port_range (e : Env) (u : Url) (p : Nat) :
    u.pre = none → explicitPort e u = .ok (some p) → p ≤ 65535 := by
  intro hpre h
  obtain ⟨n, hn, hp⟩ := map_ok h
  rw [net_of_no_cache hpre, lazyNet_eq] at hn
  obtain ⟨np, hs, rfl⟩ := map_ok hn
  exact splitNetloc_port_range e.o u.netloc np p hs hp

/-- the explicit port of a URL whose netloc was written by `make_netloc` is exactly the
    port written (`some p`, including `some 0`, or `none`) -/
theorem C17_explicit_port_value (e : Env) (qf : Str → Str) (user pw : Option Str) (h : Str) (port : Option Nat)
    (scheme path query fragment : Str)
    (hu : UserOK user) (hh : HostOK h) (hp : ∀ p, port = some p → p ≤ 65535) :
    explicitPort e (fromParts scheme (makeNetloc qf user pw (some (bracket h)) port false) path query fragment)
      = .ok port :=
  explicitPort_std e qf user pw h port scheme path query fragment hu hh hp

/-- port 0 is distinct from an absent port -/
theorem C17_zero_distinct (e : Env) (qf : Str → Str) (user pw : Option Str) (h : Str)
    (scheme path query fragment : Str) (hu : UserOK user) (hh : HostOK h) :
    explicitPort e (fromParts scheme (makeNetloc qf user pw (some (bracket h)) (some 0) false) path query fragment)
      = .ok (some 0) ∧
    explicitPort e (fromParts scheme (makeNetloc qf user pw (some (bracket h)) none false) path query fragment)
      = .ok none ∧
    explicitPort e (fromParts scheme (makeNetloc qf user pw (some (bracket h)) (some 0) false) path query fragment)
      ≠ explicitPort e (fromParts scheme (makeNetloc qf user pw (some (bracket h)) none false) path query fragment) := by
  have h0 := C17_explicit_port_value e qf user pw h (some 0) scheme path query fragment hu hh
    (by intro p hp; cases hp; omega)
  have hn := C17_explicit_port_value e qf user pw h none scheme path query fragment hu hh
    (by intro p hp; cases hp)
  refine ⟨h0, hn, ?_⟩
  rw [h0, hn]
  intro hc; cases hc

theorem C17_is_default_port (e : Env) (u : Url) (ep : Option Nat) :
    explicitPort e u = .ok ep →
    isDefaultPort e u = .ok (match ep with
      | none => !u.netloc.isEmpty
      | some p => decide (some p = defaultPort u.scheme)) := by
  intro h
  unfold isDefaultPort
  rw [h]
  cases ep <;> rfl

theorem C17_with_port_rejects (e : Env) (u : Url) (p : Option Int) (k : Nat) :
    (k ≠ 0 → withPort e u p k = .error .typeError) ∧
    (k = 0 → (∃ v, p = some v ∧ (v < 0 ∨ 65535 < v)) → withPort e u p k = .error .valueError) := by
  constructor
  · intro hk
    rw [AuthMod.withPort_eq, if_pos hk]
  · rintro rfl ⟨v, rfl, hv⟩
    have hb : EncTrue.portBad (some v) = true := by
      simp only [EncTrue.portBad, Bool.not_eq_eq_eq_not, Bool.not_true, decide_eq_false_iff_not]
      omega
    rw [AuthMod.withPort_eq, if_neg (by simp), if_pos hb]

theorem C17_with_port_sets (e : Env) (qf : Str → Str) (user pw : Option Str) (h : Str) (port0 : Option Nat)
    (scheme path query fragment : Str) (p : Int)
    (hu : UserOK user) (hh : HostOK h) (hp0 : ∀ p, port0 = some p → p ≤ 65535)
    (hp : 0 ≤ p ∧ p ≤ 65535) :
    let u := fromParts scheme (makeNetloc qf user pw (some (bracket h)) port0 false) path query fragment
    ∃ v, withPort e u (some p) 0 = .ok v ∧ explicitPort e v = .ok (some p.toNat) ∧
         rawUser e v = .ok user ∧ rawPassword e v = .ok pw ∧ rawHost e v = .ok (some h) ∧
         v.scheme = u.scheme ∧ v.path = u.path ∧ v.query = u.query ∧ v.fragment = u.fragment := by
  intro u
  obtain ⟨a1, a2, a3, a4, _⟩ := AuthMod.acc_of_net e _ _
    (net_std e (q e Gen.QUOTER) user pw h (some p.toNat) scheme path query fragment hu hh
      (by intro k hk; cases hk; omega))
  exact ⟨_, AuthMod.withPort_of_net (makeNetloc_ne_nil qf user pw hh.1 port0)
    (net_std e qf user pw h port0 scheme path query fragment hu hh hp0) (by intro i hi; cases hi; exact hp),
    a4, a1, a2, a3, rfl, rfl, rfl, rfl⟩

/-- `with_port(None)` clears the explicit port and nothing else -/
theorem C17_with_port_clears (e : Env) (qf : Str → Str) (user pw : Option Str) (h : Str) (port0 : Option Nat)
    (scheme path query fragment : Str)
    (hu : UserOK user) (hh : HostOK h) (hp0 : ∀ p, port0 = some p → p ≤ 65535) :
    let u := fromParts scheme (makeNetloc qf user pw (some (bracket h)) port0 false) path query fragment
    ∃ v, withPort e u none 0 = .ok v ∧ explicitPort e v = .ok none ∧
         rawUser e v = .ok user ∧ rawPassword e v = .ok pw ∧ rawHost e v = .ok (some h) ∧
         v.scheme = u.scheme ∧ v.path = u.path ∧ v.query = u.query ∧ v.fragment = u.fragment := by
  intro u
  obtain ⟨a1, a2, a3, a4, _⟩ := AuthMod.acc_of_net e _ _
    (net_std e (q e Gen.QUOTER) user pw h none scheme path query fragment hu hh nofun)
  exact ⟨_, AuthMod.withPort_of_net (makeNetloc_ne_nil qf user pw hh.1 port0)
    (net_std e qf user pw h port0 scheme path query fragment hu hh hp0) nofun,
    a4, a1, a2, a3, rfl, rfl, rfl, rfl⟩

namespace NetlocLemmas

/-- the guarded `rstrip(".")` of `host_port_subcomponent` is just `rstrip(".")` -/
theorem rstrip_guard (h : Str) : (if h.getLast? = some 46 then rstripC 46 h else h) = rstripC 46 h := by
  split
  · rfl
  · rename_i hl
    unfold rstripC
    rw [← List.head?_reverse] at hl
    cases hr : h.reverse with
    | nil => simp [lstripSet]; simpa using hr
    | cons x xs =>
      rw [hr] at hl
      have hx : x ≠ 46 := by simpa using hl
      have : lstripSet [46] (x :: xs) = x :: xs := by simp [lstripSet, mem, hx]
      rw [this, ← hr, List.reverse_reverse]

end NetlocLemmas

/-! ## Every port view, and `with_port`, as a function of `net`

What a class of URLs has to supply is its `net e u = .ok n`; the views follow. -/

/-- the port-related views of ANY URL on which the authority components are available (`net e u = .ok n`: the
    pre-filled cache of a constructor result, or what `split_netloc` reads from the stored text), written out.
    No `Written`, no guard. -/
theorem C17_port_views_of_net (e : Env) (u : Url) (n : NetPre) (hn : net e u = .ok n) :
    explicitPort e u = .ok n.explicitPort ∧
    port e u = .ok (n.explicitPort <|> defaultPort u.scheme) ∧
    isDefaultPort e u = .ok (match n.explicitPort with
      | none => !u.netloc.isEmpty
      | some p => decide (some p = defaultPort u.scheme)) ∧
    hostSubcomponent e u = .ok (n.rawHost.map bracket) ∧
    hostPortSubcomponent e u = .ok (n.rawHost.map (fun raw =>
      match n.explicitPort with
      | none => bracket (rstripC 46 raw)
      | some p => if some p = defaultPort u.scheme then bracket (rstripC 46 raw)
                  else bracket (rstripC 46 raw) ++ [58] ++ natToStr p)) ∧
    str e u = .ok (unsplitResult u.scheme
      (match n.explicitPort with
        | some p => if some p = defaultPort u.scheme
                    then makeNetloc id n.rawUser n.rawPassword (n.rawHost.map bracket) none false
                    else u.netloc
        | none => u.netloc)
      (if u.path.isEmpty && !u.netloc.isEmpty && (!u.query.isEmpty || !u.fragment.isEmpty) then [47] else u.path)
      u.query u.fragment) := by
  obtain ⟨hru, hrp, hrh, hep, hhs⟩ := AuthMod.acc_of_net e u n hn
  refine ⟨hep, C17_port_fallback e u _ hep, C17_is_default_port e u _ hep, hhs, ?_, ?_⟩
  · unfold hostPortSubcomponent
    rw [hrh]
    cases hh : n.rawHost with
    | none => rfl
    | some raw =>
      simp only [bind, Except.bind, hep, rstrip_guard, Option.map_some]
      cases n.explicitPort with
      | none => rfl
      | some p =>
        by_cases hd : some p = defaultPort u.scheme
        · simp [hd, bracket, pure, Except.pure]
        · simp [hd, bracket, pure, Except.pure]
  · unfold str
    rw [hep]
    cases n.explicitPort with
    | none => rfl
    | some p =>
      by_cases hd : some p = defaultPort u.scheme
      · simp only [bind, Except.bind, hd, if_true, hhs, hru, hrp, pure, Except.pure]
        rw [makeNetloc_qf (q e Gen.QUOTER) id]
      · simp only [bind, Except.bind, hd, if_false, pure, Except.pure]

/-- the EXACT result of `with_port` on ANY URL (cache or not, any stored authority text), with the order of
    the checks: TypeError for a bool / non-int, then ValueError for an int outside 0–65535, then ValueError for a URL
    without authority, and only then the authority is read — an error of `net` (ValueError for an unparsable port
    text in the stored authority, or an oracle miss) is passed on unchanged; otherwise the authority is re-made from
    raw_user, raw_password, the host in brackets iff it contains ':', and the new port. -/
theorem C17_with_port_exact (e : Env) (u : Url) (np : Option Int) (k : Nat) :
    withPort e u np k =
      if k ≠ 0 then .error .typeError
      else if EncTrue.portBad np then .error .valueError
      else if u.netloc = [] then .error .valueError
      else (net e u).map (fun n => fromParts u.scheme
        (makeNetloc (q e Gen.QUOTER) n.rawUser n.rawPassword (some (bracket (n.rawHost.getD [])))
          (np.map Int.toNat) false) u.path u.query u.fragment) := by
  rw [AuthMod.withPort_eq]
  simp only [AuthMod.remake, AuthMod.hostB_eq]

/-! ## the `make_netloc`-written URL: `net_std` supplies `net` -/

/-- `host_port_subcomponent` omits an absent or default port; the host has its trailing dots stripped -/
theorem C17_host_port_omits_default (e : Env) (qf : Str → Str) (user pw : Option Str) (h : Str) (port : Option Nat)
    (scheme path query fragment : Str)
    (hu : UserOK user) (hh : HostOK h) (hp : ∀ p, port = some p → p ≤ 65535) :
    hostPortSubcomponent e
        (fromParts scheme (makeNetloc qf user pw (some (bracket h)) port false) path query fragment) =
      .ok (some (match port with
        | none => bracket (rstripC 46 h)
        | some p =>
          if some p = defaultPort scheme then bracket (rstripC 46 h)
          else bracket (rstripC 46 h) ++ [58] ++ natToStr p)) := by
  rw [(C17_port_views_of_net e _ _ (net_std e qf user pw h port scheme path query fragment hu hh hp)).2.2.2.2.1]
  cases port with
  | none => rfl
  | some p => rfl

/-- `str()` renders the stored netloc, except that an explicit port equal to the scheme's
    default is dropped (the authority is re-written by `make_netloc` without a port) -/
theorem C17_str_omits_default_port (e : Env) (qf : Str → Str) (user pw : Option Str) (h : Str) (port0 : Option Nat)
    (scheme path query fragment : Str)
    (hu : UserOK user) (hh : HostOK h) (hp0 : ∀ p, port0 = some p → p ≤ 65535) :
    let stored := makeNetloc qf user pw (some (bracket h)) port0 false
    let u := fromParts scheme stored path query fragment
    let shown := match port0 with
      | some p => if some p = defaultPort scheme then makeNetloc qf user pw (some (bracket h)) none false else stored
      | none => stored
    let path' := if path.isEmpty && (!query.isEmpty || !fragment.isEmpty) then [47] else path
    str e u = .ok (unsplitResult scheme shown path' query fragment) := by
  intro stored u shown path'
  have hne : stored.isEmpty = false := isEmpty_false (makeNetloc_ne_nil qf user pw hh.1 port0)
  rw [(C17_port_views_of_net e u _ (net_std e qf user pw h port0 scheme path query fragment hu hh hp0)).2.2.2.2.2]
  simp only [u, fromParts, hne, Bool.not_false, Bool.and_true, Option.map_some, makeNetloc_qf id qf, shown, path']
  cases port0 with
  | none => rfl
  | some p => rfl

/-! ### non-vacuity checks -/

section checks
private def e0 : Env := { b := .py, o := Oracles.empty }
private def u0 : Url :=
  fromParts "http".toStr (makeNetloc id (some "us@er".toStr) (some "p:w".toStr) (some (bracket "::1".toStr)) (some 80) false)
    "/p".toStr "k=v".toStr "f".toStr

attribute [local instance] ParseLemmas.decEqResult

example : UserOK (some "us@er".toStr) ∧ HostOK "::1".toStr ∧ (∀ p, some 80 = some p → p ≤ 65535) :=
  ⟨by decide +kernel, by decide +kernel, by intro p hp; cases hp; decide⟩
example : u0.netloc = "us@er:p:w@[::1]:80".toStr := by str_lits; decide +kernel
example : explicitPort e0 u0 = .ok (some 80) ∧ port e0 u0 = .ok (some 80) ∧ isDefaultPort e0 u0 = .ok true := by decide +kernel
example : str e0 u0 = .ok "http://us@er:p:w@[::1]/p?k=v#f".toStr := by str_lits; decide +kernel
example : hostPortSubcomponent e0 u0 = .ok (some "[::1]".toStr) := by decide +kernel
example : (withPort e0 u0 (some 0) 0).map (·.netloc) = .ok "us@er:p:w@[::1]:0".toStr := by str_lits; decide +kernel
example : (withPort e0 u0 none 0).map (·.netloc) = .ok "us@er:p:w@[::1]".toStr := by str_lits; decide +kernel
example : (withPort e0 u0 (some 8080) 0).bind (str e0) = .ok "http://us@er:p:w@[::1]:8080/p?k=v#f".toStr := by str_lits; decide +kernel
example : withPort e0 u0 (some 65536) 0 = .error .valueError ∧ withPort e0 u0 (some (-1)) 0 = .error .valueError ∧
    withPort e0 u0 (some 1) 1 = .error .typeError := by decide +kernel
example : hostPortSubcomponent e0 (fromParts "http".toStr "example.com.:8080".toStr [] [] []) =
    .ok (some "example.com:8080".toStr) := by str_lits; decide +kernel
end checks

end Yarl
