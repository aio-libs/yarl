/-
  C06More3.lean — C06 for `with_suffix` at the DECODED level, and `build(authority=A)` under Bool-checkable hypotheses.

  `with_suffix(x)`, for ANY old URL on which the call succeeds and EVERY accepted `x` (Python string without lone
  surrogates):
    C06_with_suffix_name_readback       — `v.name == dstem + x`, `dstem` = `u.name` without `u.suffix` (accessors of `u`
                                          only); other decoded parts, scheme, authority unchanged; query / fragment kept
                                          or dropped;
    C06_with_suffix_suffix_closed_form  — `v.suffix` in closed form; C06_with_suffix_suffix_readback_iff — exactly when
                                          `v.suffix == x`;
    C06_with_suffix_suffixes_readback   — `v.suffixes` = the suffixes function of `dstem + x`, under `NoEscapedDot`
                                          (needed: counterexample);
    C06_with_suffix_idempotent          — the second `with_suffix(x)` changes nothing for `x = "." + dot-free`;
    C06_with_suffix_total               — success ⇔ not (`x = ""` and raw stem "." / ".."), the four name shapes;
    computed examples / counterexamples: C06_with_suffix_escaped_dot_example, C06_with_suffix_empty_escaped_dot_example,
    C06_with_suffix_suffixes_escaped_dot_counterexample, C06_with_suffix_suffix_readback_counterexamples,
    C06_with_suffix_not_idempotent_examples, C06_with_suffix_total_examples.
  `HostTextOK` and the bracket condition `hwrap` as Bool checks on the authority text alone (oracle-free):
  `R12a.hostTextOkB`, `R12a.authWrapB`, `R12a.authOkB` — C06_hostTextOK_decidable; the `build(authority=A)` read-back
  theorems with these checks as only hypotheses: C06_build_authority_readback_checked,
  C06_build_authority_host_readback_checked; concrete instances closed by `decide`.

  Namespace `R12a` here: the raw-to-decoded helpers of `with_suffix` (`WS`: everything a successful call says at the raw
  level; `dec_old` / `dec_new`: the decoded accessors of the old and the new URL; the `DotHom` lemmas beyond those in
  HumanReach.lean) and the Bool checks of the authority text.

  Vocabulary.  `PathMore.sfx n` / `PathMore.sfxs n` (Lemmas/PathAlg.lean) = the library's `suffix` / `suffixes` as
  functions of a name; `HumanReach.stem n` = `n` without `sfx n`; `uq e Gen.UNQUOTER` = the decoder of `name` /
  `suffix` / `parts`; `q e Gen.PATH_QUOTER` = the quoter `with_suffix` applies to `x`.  `R12a.NoEscapedDot e s` =
  decoding the dot-free pieces of the raw text `s` creates no '.' (i.e. no "%2E" in `s`): decidable; implied by "the
  decoding of `s` has no '.'" and by "`s` is the stem of a canonically quoted name".  `R12a.dotted x` = the dotted
  pieces of `x` ("" when it ends in '.').
-/
import YarlProofs.C13More
import YarlProofs.C13More3b
import YarlProofs.Lemmas.HumanReach
import YarlProofs.C06More2
import YarlProofs.Lemmas.Basics
namespace Yarl
namespace R12a
open PathLemmas PathAlg PathMore HumanFull HumanReach

theorem uq_ne_nil (e : Env) (s : Str) (hs : s ≠ []) : uq e Gen.UNQUOTER s ≠ [] := by
  show unquote e.b (Gen.UNQUOTER.tab e.b) s ≠ []
  rw [Readback.unquote_eq_uqLoop]
  apply Readback.uqLoop_ne_nil _ _ _ _ _ _ _ (Or.inr hs)
  · intro c
    rw [DecLemmas.uqEmit_UNQUOTER]
    simp
  · intro c
    rw [DecLemmas.uqPlain_UNQUOTER]
    simp


theorem getLast_mid (A t : Str) (ht : 46 ∉ t) : (A ++ 46 :: t).getLast? = some 46 ↔ t = [] := by
  rw [List.getLast?_append, List.getLast?_cons]
  cases h : t.getLast? with
  | none => simp [List.getLast?_eq_none_iff.1 h]
  | some l =>
    have hl : l ∈ t := List.mem_of_getLast? h
    have : l ≠ 46 := fun e => ht (e ▸ hl)
    have : t ≠ [] := List.ne_nil_of_mem hl
    simp [*]
theorem getLast_nodot (t : Str) (ht : 46 ∉ t) : t.getLast? ≠ some 46 := fun h => ht (List.mem_of_getLast? h)

section DotHomSec
variable {g : Str → Str} (hg : DotHom g)
include hg

omit hg in
theorem clean_app {x y : Str} (hx : Clean g x) (hy : Clean g y) : Clean g (x ++ 46 :: y) := by
  unfold Clean at *
  rw [PathLemmas.splitOn_append]
  intro p hp
  rcases List.mem_append.1 hp with h | h
  · exact hx p h
  · exact hy p h

theorem getLast_hom (n : Str) (hc : Clean g n) : (g n).getLast? = some 46 ↔ n.getLast? = some 46 := by
  by_cases hm : 46 ∈ n
  · obtain ⟨a, t, rfl, ht⟩ := exists_last 46 n hm
    have ht' : 46 ∉ g t := clean_nodot ht (clean_of_app hc).2
    rw [hg.mid, getLast_mid _ _ ht', getLast_mid _ _ ht, hg.eq_nil_iff]
  · exact ⟨fun h => absurd h (getLast_nodot _ (clean_nodot hm hc)), fun h => absurd h (getLast_nodot _ hm)⟩

theorem lstrip_hom (n : Str) (hc : Clean g n) : lstripSet [46] (g n) = g (lstripSet [46] n) := by
  induction n with
  | nil => simp [lstripSet, hg.nil]
  | cons c r ih =>
    by_cases h46 : c = 46
    · subst h46
      have hc' : Clean g r := (clean_of_app (x := []) (by simpa using hc)).2
      rw [hg.dot_cons]
      simp only [lstripSet, mem, List.contains_cons, List.contains_nil, beq_self_eq_true, Bool.or_false, if_true]
      exact ih hc'
    · have e1 : lstripSet [46] (c :: r) = c :: r := by simp [lstripSet, mem, h46]
      rw [e1]
      -- the image starts with the image of the non-empty dot-free first piece, hence with a non-dot
      obtain ⟨a, rest, hane, h1, hga⟩ : ∃ a rest, a ≠ [] ∧ 46 ∉ g a ∧ g (c :: r) = g a ++ rest := by
        by_cases hm : 46 ∈ c :: r
        · obtain ⟨a, t, ha, ha46⟩ := TokLemmas.exists_first hm
          rw [ha] at hc ⊢
          exact ⟨a, 46 :: g t, by rintro rfl; simp at ha; exact h46 ha.1,
            clean_nodot ha46 (clean_of_app hc).1, hg.mid a t⟩
        · exact ⟨c :: r, [], by simp, clean_nodot hm hc, by simp⟩
      obtain ⟨y, ys, hy⟩ := List.exists_cons_of_ne_nil (hg.ne a hane)
      have hy46 : y ≠ 46 := fun e => h1 (by rw [hy, e]; simp)
      rw [hga, hy]
      simp [lstripSet, mem, hy46]


omit hg in
theorem clean_lstrip (n : Str) (hc : Clean g n) : Clean g (lstripSet [46] n) := by
  induction n with
  | nil => exact hc
  | cons c r ih =>
    by_cases h46 : c = 46
    · subst h46
      have hc' : Clean g r := (clean_of_app (x := []) (by simpa using hc)).2
      simp only [lstripSet, mem, List.contains_cons, List.contains_nil, beq_self_eq_true, Bool.or_false, if_true]
      exact ih hc'
    · have e1 : lstripSet [46] (c :: r) = c :: r := by simp [lstripSet, mem, h46]
      rw [e1]; exact hc

theorem splitOn_hom_aux : ∀ (k : Nat) (n : Str), n.length ≤ k → Clean g n →
    splitOn 46 (g n) = (splitOn 46 n).map g := by
  intro k
  induction k with
  | zero =>
    intro n hl hc
    have : n = [] := List.length_eq_zero_iff.1 (by omega)
    subst this
    simp [splitOn, hg.nil]
  | succ k ih =>
    intro n hl hc
    by_cases hm : 46 ∈ n
    · obtain ⟨a, t, rfl, ha⟩ := TokLemmas.exists_first hm
      obtain ⟨c1, c2⟩ := clean_of_app hc
      rw [hg.mid, PathLemmas.splitOn_append, PathLemmas.splitOn_append, PathLemmas.splitOn_of_not_mem 46 a ha, PathLemmas.splitOn_of_not_mem 46 _ (clean_nodot ha c1),
        ih t (by simp at hl; omega) c2]
      simp
    · rw [PathLemmas.splitOn_of_not_mem 46 n hm, PathLemmas.splitOn_of_not_mem 46 _ (clean_nodot hm hc)]; rfl

theorem splitOn_hom (n : Str) (hc : Clean g n) : splitOn 46 (g n) = (splitOn 46 n).map g :=
  splitOn_hom_aux hg n.length n (Nat.le_refl _) hc

/-- `suffixes` of the image are the images of the `suffixes` -/
theorem sfxs_hom (n : Str) (hc : Clean g n) : sfxs (g n) = (sfxs n).map g := by
  unfold sfxs
  by_cases hlast : n.getLast? = some 46
  · rw [if_pos hlast, if_pos ((getLast_hom hg n hc).2 hlast)]; rfl
  · rw [if_neg hlast, if_neg (fun h => hlast ((getLast_hom hg n hc).1 h)), lstrip_hom hg n hc,
      splitOn_hom hg _ (clean_lstrip n hc), ← List.map_drop, List.map_map, List.map_map]
    apply List.map_congr_left
    intro p _
    exact (hg.dot_cons p).symm


end DotHomSec

theorem dotHom_uq (e : Env) : DotHom (uq e Gen.UNQUOTER) where
  nil := uq_nil e _
  mid := fun x r => by rw [uq_split_dot e _ (by decide), uq_dot_cons]
  ne := uq_ne_nil e

theorem withRawName_total' (u : Url) (nm : Str) (kq kf : Bool) : ∃ v, withRawName u nm kq kf = .ok v := by
  obtain ⟨p, hp⟩ := R12b.wrnParts_total u nm
  rw [R12b.withRawName_def, hp]
  exact ⟨_, rfl⟩

/-- what `with_suffix(x)` computes for an accepted `x` on a URL with a non-empty raw name `n` -/
theorem withSuffix_eq (e : Env) (u : Url) (x : Str) (kq kf : Bool) (n : Str) (hn : rawName u = .ok n)
    (hne : n ≠ []) (hacc : x = [] ∨ ∃ y, x = 46 :: y ∧ y ≠ []) (h47 : 47 ∉ x) :
    withSuffix e u x kq kf =
      if stem n ++ q e Gen.PATH_QUOTER x = dot ∨ stem n ++ q e Gen.PATH_QUOTER x = dotdot then .error .valueError
      else withRawName u (stem n ++ q e Gen.PATH_QUOTER x) kq kf := by
  rw [withSuffix_closed e u x kq kf n hn]
  refine ite_congr (propext ⟨fun h => ?_, fun h => .inr (.inr (.inr h))⟩) (fun _ => rfl) (fun _ => rfl)
  rcases h with (⟨hx0, hx46⟩ | h) | h | h | h
  · rcases hacc with rfl | ⟨y, rfl, _⟩
    · exact absurd rfl hx0
    · exact absurd rfl hx46
  · rcases hacc with rfl | ⟨y, rfl, hy⟩
    · cases h
    · exact absurd (List.cons.inj h).2 hy
  · exact absurd h hne
  · exact absurd h h47
  · exact h


/-- everything `with_suffix(x) = v` says at the raw level -/
structure WS (e : Env) (u : Url) (x : Str) (kq kf : Bool) (v : Url) (n : Str) : Prop where
  hn : rawName u = .ok n
  ne : n ≠ []
  acc : x = [] ∨ ∃ y, x = 46 :: y ∧ y ≠ []
  h47 : 47 ∉ x
  nd : stem n ++ q e Gen.PATH_QUOTER x ≠ dot ∧ stem n ++ q e Gen.PATH_QUOTER x ≠ dotdot
  parts : rawParts v = (rawParts u).dropLast ++ [stem n ++ q e Gen.PATH_QUOTER x]
  name : rawName v = .ok (stem n ++ q e Gen.PATH_QUOTER x)
  scheme : v.scheme = u.scheme
  netloc : v.netloc = u.netloc
  query : v.query = (if kq then u.query else [])
  fragment : v.fragment = (if kf then u.fragment else [])
  raw : withRawName u (stem n ++ q e Gen.PATH_QUOTER x) kq kf = .ok v

theorem ws_core (e : Env) (u : Url) (x : Str) (kq kf : Bool) (v : Url) (hx : PyStr x)
    (h : withSuffix e u x kq kf = .ok v) : ∃ n, WS e u x kq kf v n := by
  obtain ⟨n, hn⟩ := C13_raw_name_total u
  obtain ⟨hname, hraw, hne, _, h47, hacc, _, hd1, hd2, hnm⟩ := C13_with_suffix_name e u x kq kf v n hx hn h
  obtain ⟨h1, h2, h3, h4, h5⟩ := withRawName_rawParts u _ kq kf v hnm hraw
  have hnot : ¬ (u.netloc ≠ [] ∧ (rawParts u).length = 1) := fun hc => hne (rawName_root u n hn hc.1 hc.2)
  rw [if_neg hnot] at h1
  exact ⟨n, hn, hne, hacc, h47, ⟨hd1, hd2⟩, h1, hname, h2, h3, h4, h5, hraw⟩

/-! ### decoded level -/

/-- "no escaped dot": decoding the dot-free pieces of the raw text `s` creates no '.' (no `%2E` in `s`) -/
def NoEscapedDot (e : Env) (s : Str) : Prop := Clean (uq e Gen.UNQUOTER) s

instance (e : Env) (s : Str) : Decidable (NoEscapedDot e s) := by
  unfold NoEscapedDot Clean; infer_instance

theorem take_stem (a b : Str) : (a ++ b).take ((a ++ b).length - b.length) = a := by
  have : (a ++ b).length - b.length = a.length := by simp
  rw [this, List.take_left']
  rfl

theorem dec_old (e : Env) (u : Url) (n : Str) (hn : rawName u = .ok n) :
    name e u = .ok (uq e Gen.UNQUOTER (stem n) ++ uq e Gen.UNQUOTER (sfx n)) ∧
    suffix e u = .ok (uq e Gen.UNQUOTER (sfx n)) ∧
    suffixes e u = .ok ((sfxs n).map (uq e Gen.UNQUOTER)) := by
  refine ⟨?_, ?_, ?_⟩
  · unfold name; rw [hn, ← hom_stem_sfx (dotHom_uq e)]; rfl
  · unfold suffix; rw [rawSuffix_eq, hn]; rfl
  · unfold suffixes; rw [rawSuffixes_eq, hn]; rfl

theorem q_acc (e : Env) {x : Str} (hx : PyStr x) (hsur : NoSurrogate x)
    (hacc : x = [] ∨ ∃ y, x = 46 :: y ∧ y ≠ []) (S : Str) :
    uq e Gen.UNQUOTER (S ++ q e Gen.PATH_QUOTER x) = uq e Gen.UNQUOTER S ++ x := by
  rcases hacc with rfl | ⟨y, rfl, hy⟩
  · rw [q_path_nil, List.append_nil, List.append_nil]
  · rw [q_path_cons_fix e y (pyStr_cons hx) (.inl rfl), (dotHom_uq e).mid, uq_q e y (pyStr_cons hx) (noSurr_cons hsur)]

theorem dec_new {e : Env} {u : Url} {x : Str} {kq kf : Bool} {v : Url} {n : Str} (W : WS e u x kq kf v n)
    (hx : PyStr x) (hsur : NoSurrogate x) :
    name e v = .ok (uq e Gen.UNQUOTER (stem n) ++ x) ∧
    partsDecoded e v = (partsDecoded e u).dropLast ++ [uq e Gen.UNQUOTER (stem n) ++ x] := by
  constructor
  · unfold name; rw [W.name]
    show Except.ok (uq e Gen.UNQUOTER _) = _
    rw [q_acc e hx hsur W.acc]
  · unfold partsDecoded
    rw [W.parts, List.map_append, List.map_dropLast, List.map_cons, List.map_nil, q_acc e hx hsur W.acc]


/-! ### the suffix of `stem ++ x` -/

theorem sfx_app_dot (S y : Str) (hS : S ≠ []) :
    ∃ a t, 46 :: y = a ++ 46 :: t ∧ 46 ∉ t ∧ sfx (S ++ 46 :: y) = if t = [] then [] else 46 :: t := by
  obtain ⟨a, t, hat, ht⟩ := exists_last 46 (46 :: y) (by simp)
  exact ⟨a, t, hat, ht, by rw [hat, sfx_append S a t hS ht]⟩

/-- `stem ++ "." ++ y` has suffix `"." ++ y` exactly when `y` is non-empty and dot-free -/
theorem sfx_app_eq_iff (S y : Str) (hS : S ≠ []) : sfx (S ++ 46 :: y) = 46 :: y ↔ (y ≠ [] ∧ 46 ∉ y) := by
  constructor
  · intro h
    obtain ⟨a, t, hat, ht, hs⟩ := sfx_app_dot S y hS
    rw [hs] at h
    split at h
    · cases h
    · have : t = y := by simpa using h
      subst this
      rename_i h0
      exact ⟨h0, ht⟩
  · rintro ⟨h0, hd⟩
    have := sfx_append S [] y hS hd
    rw [if_neg h0] at this
    exact this

/-- the suffix of `S ++ x` does not depend on the (non-empty) `S` when `x` starts with '.' -/
theorem sfx_prefix (S S' y : Str) (hS : S ≠ []) (hS' : S' ≠ []) : sfx (S ++ 46 :: y) = sfx (S' ++ 46 :: y) := by
  obtain ⟨a, t, hat, ht⟩ := exists_last 46 (46 :: y) (by simp)
  rw [hat, sfx_append S a t hS ht, sfx_append S' a t hS' ht]

/-- raw → decoded for the suffix of the new name, `x = "." ++ y` -/
theorem uq_sfx_new (e : Env) (S y : Str) (hS : S ≠ []) (hx : PyStr (46 :: y)) (hsur : NoSurrogate (46 :: y)) :
    uq e Gen.UNQUOTER (sfx (S ++ q e Gen.PATH_QUOTER (46 :: y))) = sfx (uq e Gen.UNQUOTER S ++ 46 :: y) := by
  obtain ⟨a, t, hat, ht⟩ := exists_last 46 (46 :: y) (by simp)
  have hta : PyStr t ∧ NoSurrogate t :=
    ⟨fun c hc => hx c (by rw [hat]; simp [hc]), fun c hc => hsur c (by rw [hat]; simp [hc])⟩
  have hpa : PyStr a := fun c hc => hx c (by rw [hat]; simp [hc])
  have hq : q e Gen.PATH_QUOTER (46 :: y) = q e Gen.PATH_QUOTER a ++ 46 :: q e Gen.PATH_QUOTER t := by
    rw [hat, q_path_append e a (46 :: t) hpa (pyStr_append (by decide +kernel) hta.1 : PyStr ([46] ++ t)),
      q_path_cons_fix e t hta.1 (.inl rfl)]
  have hqt : 46 ∉ q e Gen.PATH_QUOTER t := C13_path_quoter_no_dot e t hta.1 ht
  rw [hq, sfx_append S _ _ hS hqt, hat, sfx_append _ a t ((dotHom_uq e).ne S hS) ht]
  by_cases h0 : t = []
  · rw [if_pos h0, if_pos ((q_nil_iff e t hta.1 hta.2).2 h0), uq_nil]
  · rw [if_neg h0, if_neg (fun h => h0 ((q_nil_iff e t hta.1 hta.2).1 h)), uq_dot_cons, uq_q e t hta.1 hta.2]

theorem suffix_new {e : Env} {u : Url} {x : Str} {kq kf : Bool} {v : Url} {n : Str} (W : WS e u x kq kf v n)
    (hx : PyStr x) (hsur : NoSurrogate x) :
    suffix e v = .ok (if x = [] then uq e Gen.UNQUOTER (sfx (stem n)) else sfx (uq e Gen.UNQUOTER (stem n) ++ x)) := by
  unfold suffix
  rw [rawSuffix_eq, W.name]
  show Except.ok (uq e Gen.UNQUOTER (sfx _)) = _
  rcases W.acc with rfl | ⟨y, rfl, hy⟩
  · rw [q_path_nil, List.append_nil, if_pos rfl]
  · rw [if_neg (by simp), uq_sfx_new e (stem n) y (stem_ne_nil n W.ne) hx hsur]

/-! ### `NoEscapedDot` -/

theorem mem_hom_piece {g : Str → Str} (hg : DotHom g) : ∀ (k : Nat) (s : Str), s.length ≤ k →
    ∀ p ∈ splitOn 46 s, ∀ c ∈ g p, c ∈ g s := by
  intro k
  induction k with
  | zero =>
    intro s hl p hp c hc
    have : s = [] := List.length_eq_zero_iff.1 (by omega)
    subst this
    simp [splitOn] at hp
    subst hp; exact hc
  | succ k ih =>
    intro s hl p hp c hc
    by_cases hm : 46 ∈ s
    · obtain ⟨a, t, rfl, ha⟩ := TokLemmas.exists_first hm
      rw [PathLemmas.splitOn_append, PathLemmas.splitOn_of_not_mem 46 a ha] at hp
      rw [hg.mid]
      rcases List.mem_append.1 hp with hp | hp
      · simp at hp; subst hp; exact List.mem_append_left _ hc
      · exact List.mem_append_right _ (List.mem_cons_of_mem _ (ih t (by simp at hl; omega) p hp c hc))
    · rw [PathLemmas.splitOn_of_not_mem 46 s hm] at hp
      simp at hp; subst hp; exact hc

/-- a decoded text without '.' comes from a raw text without escaped '.' -/
theorem noEsc_of_no_dot (e : Env) (s : Str) (h : 46 ∉ uq e Gen.UNQUOTER s) : NoEscapedDot e s :=
  fun p hp hc => h (mem_hom_piece (dotHom_uq e) s.length s (Nat.le_refl _) p hp 46 hc)

/-- the canonical quoting of a good text has no escaped '.' -/
theorem noEsc_q (e : Env) (d : Str) (hd : PyStr d) (hdn : NoSurrogate d) : NoEscapedDot e (q e Gen.PATH_QUOTER d) := by
  have hf := sepMap_wq e.b
  intro p hp
  rw [q_path_flatMap e d hd hdn, splitOn_hom (dotHom_flatMap hf) d (clean_flatMap hf d)] at hp
  obtain ⟨p0, hp0, rfl⟩ := List.mem_map.1 hp
  have g1 : PyStr p0 := fun c hc => hd c (splitOn_sub 46 d p0 hp0 c hc)
  have g2 : NoSurrogate p0 := fun c hc => hdn c (splitOn_sub 46 d p0 hp0 c hc)
  show 46 ∉ uq e Gen.UNQUOTER (p0.flatMap _)
  rw [← q_path_flatMap e p0 g1 g2, uq_q e p0 g1 g2]
  exact splitOn_no_sep 46 d p0 hp0

/-- a raw name that is the canonical quoting of a good text (every name written by the auto-encoding API) has a stem
    without escaped '.' -/
theorem noEsc_stem_canon (e : Env) (n d : Str) (hd : PyStr d) (hdn : NoSurrogate d)
    (hq : n = q e Gen.PATH_QUOTER d) : NoEscapedDot e (stem n) := by
  have hf := sepMap_wq e.b
  have g1 : PyStr (stem d) := fun c hc => hd c (stem_sub d c hc)
  have g2 : NoSurrogate (stem d) := fun c hc => hdn c (stem_sub d c hc)
  have : stem n = q e Gen.PATH_QUOTER (stem d) := by
    rw [hq, q_path_flatMap e d hd hdn, q_path_flatMap e _ g1 g2]
    exact stem_flatMap hf d
  rw [this]
  exact noEsc_q e _ g1 g2

theorem noEsc_new (e : Env) {x : Str} (hx : PyStr x) (hsur : NoSurrogate x)
    (hacc : x = [] ∨ ∃ y, x = 46 :: y ∧ y ≠ []) (S : Str) (hS : NoEscapedDot e S) :
    NoEscapedDot e (S ++ q e Gen.PATH_QUOTER x) := by
  rcases hacc with rfl | ⟨y, rfl, hy⟩
  · rw [q_path_nil, List.append_nil]; exact hS
  · rw [q_path_cons_fix e y (pyStr_cons hx) (.inl rfl)]
    exact clean_app hS (noEsc_q e y (pyStr_cons hx) (noSurr_cons hsur))

theorem suffixes_new {e : Env} {u : Url} {x : Str} {kq kf : Bool} {v : Url} {n : Str} (W : WS e u x kq kf v n)
    (hx : PyStr x) (hsur : NoSurrogate x) (hS : NoEscapedDot e (stem n)) :
    suffixes e v = .ok (sfxs (uq e Gen.UNQUOTER (stem n) ++ x)) ∧
    suffix e v = .ok (sfx (uq e Gen.UNQUOTER (stem n) ++ x)) := by
  have hc := noEsc_new e hx hsur W.acc (stem n) hS
  constructor
  · unfold suffixes
    rw [rawSuffixes_eq, W.name]
    show Except.ok ((sfxs _).map (uq e Gen.UNQUOTER)) = _
    rw [← sfxs_hom (dotHom_uq e) _ hc, q_acc e hx hsur W.acc]
  · unfold suffix
    rw [rawSuffix_eq, W.name]
    show Except.ok (uq e Gen.UNQUOTER (sfx _)) = _
    rw [← sfx_hom (dotHom_uq e) _ hc, q_acc e hx hsur W.acc]

/-- the dotted pieces of `x`: what `suffixes` of `stem ++ x` is for a dot-free non-empty stem -/
def dotted (x : Str) : List Str :=
  if x.getLast? = some 46 then [] else ((splitOn 46 x).drop 1).map (fun s => 46 :: s)

theorem sfxs_plain_stem (S y : Str) (hS : S ≠ []) (h46 : 46 ∉ S) : sfxs (S ++ 46 :: y) = dotted (46 :: y) := by
  unfold sfxs dotted
  have e1 : (S ++ 46 :: y).getLast? = (46 :: y).getLast? := by
    rw [List.getLast?_append, List.getLast?_cons]; rfl
  obtain ⟨c, r, rfl⟩ := List.exists_cons_of_ne_nil hS
  have hc : c ≠ 46 := fun h => h46 (h ▸ List.mem_cons_self)
  have e2 : lstripSet [46] (c :: r ++ 46 :: y) = c :: r ++ 46 :: y := by simp [lstripSet, mem, hc]
  have e3 : splitOn 46 (46 :: y) = [] :: splitOn 46 y := by simp [splitOn]
  rw [e1, e2, PathLemmas.splitOn_append, PathLemmas.splitOn_of_not_mem 46 _ h46, e3]
  rfl


/-! ### which names have a given stem -/

/-- the names whose stem is the suffix-free text `d` ("." and ".." below) -/
theorem stem_eq_plain_iff (n d : Str) (hd : sfx d = []) (hd0 : d ≠ []) :
    stem n = d ↔ n = d ∨ ∃ t, t ≠ [] ∧ 46 ∉ t ∧ n = d ++ 46 :: t := by
  constructor
  · intro h
    have hn : d ++ sfx n = n := h ▸ stem_append_sfx n
    have hq : sfx n = [] ∨ (sfx n).head? = some 46 := by
      by_cases h0 : sfx n = []
      · exact .inl h0
      · obtain ⟨t, ht⟩ := sfx_head n h0
        exact .inr (by rw [ht]; rfl)
    rcases (R12b.stemStable_iff d (sfx n) hd0 hq).1 (by rw [hn]; exact h) with ⟨h0, _⟩ | ⟨t, ht, ht0, ht46⟩
    · rw [h0, List.append_nil] at hn
      exact .inl hn.symm
    · rw [ht] at hn
      exact .inr ⟨t, ht0, ht46, hn.symm⟩
  · rintro (rfl | ⟨t, h1, h2, rfl⟩)
    · exact (R12b.rawStem_self_iff n).2 hd
    · exact (R12b.stemStable_iff d (46 :: t) hd0 (.inr rfl)).2 (.inr ⟨t, rfl, h1, h2⟩)

end R12a

open R12a PathMore HumanReach PathAlg PathLemmas

/-! ## `with_suffix(x)`: the decoded `name` is "the rest of the name unchanged" followed by `x` -/

/-- `v = u.with_suffix(x, keep_query=kq, keep_fragment=kf)` for EVERY accepted `x` (a Python string without lone
    surrogates; that `x` is "" or starts with '.', is not "." and has no '/', and that the old name is not empty, follows
    from the success of the call) and EVERY old URL: with `dn = u.name`, `ds = u.suffix` and
    `dstem = dn[:len(dn) - len(ds)]`: `dn == dstem + ds`, `v.name == dstem + x`, all other decoded parts are unchanged,
    scheme / authority are kept, query / fragment are kept or dropped.  Stated with the ACCESSORS of `u`: for an old raw
    name with an escaped dot (`a%2Eb`) `u.suffix` is the decoding of the RAW suffix (""), NOT the suffix of the decoded
    name (".b"), and it is that `ds` which is replaced. -/
theorem C06_with_suffix_name_readback (e : Env) (u : Url) (x : Str) (kq kf : Bool) (v : Url)
    (hx : PyStr x) (hsur : NoSurrogate x) (h : withSuffix e u x kq kf = .ok v) :
    ∃ dn ds, name e u = .ok dn ∧ suffix e u = .ok ds ∧
      dn = dn.take (dn.length - ds.length) ++ ds ∧
      name e v = .ok (dn.take (dn.length - ds.length) ++ x) ∧
      (partsDecoded e v).dropLast = (partsDecoded e u).dropLast ∧
      partsDecoded e v = (partsDecoded e u).dropLast ++ [dn.take (dn.length - ds.length) ++ x] ∧
      v.scheme = u.scheme ∧ v.netloc = u.netloc ∧
      v.query = (if kq then u.query else []) ∧ v.fragment = (if kf then u.fragment else []) ∧
      queryString e v = (if kq then queryString e u else []) ∧
      fragmentDecoded e v = (if kf then fragmentDecoded e u else []) := by
  obtain ⟨n, W⟩ := ws_core e u x kq kf v hx h
  obtain ⟨h1, h2, _⟩ := dec_old e u n W.hn
  obtain ⟨h3, h4⟩ := dec_new W hx hsur
  refine ⟨_, _, h1, h2, ?_, ?_, ?_, ?_, W.scheme, W.netloc, W.query, W.fragment, ?_, ?_⟩
  · rw [take_stem]
  · rw [take_stem]; exact h3
  · rw [h4]; simp
  · rw [take_stem]; exact h4
  · unfold queryString; rw [W.query]; cases kq <;> simp
  · unfold fragmentDecoded; rw [W.fragment]; cases kf <;> simp


/-! ## the exact read-back of `suffix` -/

/-- CLOSED FORM of `v.suffix` for `v = u.with_suffix(x)`.  With `n = u.raw_name`, `stem n` = `n` without its raw suffix
    (`HumanReach.stem`: `n.take (n.length - (sfx n).length)`), `dstem` = its decoding = `u.name` without `u.suffix`
    (non-empty), and `sfx` the library's suffix function on a name (`PathMore.sfx`: the text from the LAST '.', unless
    that '.' is the first or the last character — then ""):
    * `x ≠ ""`: `v.suffix == sfx(dstem + x) == sfx(v.name)`, for EVERY old name; explicitly, with `x = a + "." + t`,
      `t` dot-free: the last dotted piece `"." + t`, and "" when `x` ends in '.'; independent of the stem;
    * `x = ""`: `v.suffix` is the decoding of the RAW suffix of the RAW stem;
    * when the raw stem has no escaped '.' (`NoEscapedDot`) — in particular when `dstem` has no '.' at all, or the raw
      name is the canonical quoting of a good text — `v.suffix == sfx(dstem + x) == sfx(v.name)` for `x = ""` too.
      (Without: C06_with_suffix_empty_escaped_dot_example.) -/
theorem C06_with_suffix_suffix_closed_form (e : Env) (u : Url) (x : Str) (kq kf : Bool) (v : Url)
    (hx : PyStr x) (hsur : NoSurrogate x) (h : withSuffix e u x kq kf = .ok v) :
    ∃ n dn ds, rawName u = .ok n ∧ name e u = .ok dn ∧ suffix e u = .ok ds ∧
      dn.take (dn.length - ds.length) = uq e Gen.UNQUOTER (stem n) ∧ dn.take (dn.length - ds.length) ≠ [] ∧
      name e v = .ok (dn.take (dn.length - ds.length) ++ x) ∧
      (x ≠ [] → suffix e v = .ok (sfx (dn.take (dn.length - ds.length) ++ x))) ∧
      (∀ a t, x = a ++ 46 :: t → 46 ∉ t → suffix e v = .ok (if t = [] then [] else 46 :: t)) ∧
      (x = [] → suffix e v = .ok (uq e Gen.UNQUOTER (sfx (stem n)))) ∧
      (NoEscapedDot e (stem n) → suffix e v = .ok (sfx (dn.take (dn.length - ds.length) ++ x))) ∧
      (46 ∉ dn.take (dn.length - ds.length) → NoEscapedDot e (stem n)) ∧
      ((∃ d, PyStr d ∧ NoSurrogate d ∧ n = q e Gen.PATH_QUOTER d) → NoEscapedDot e (stem n)) := by
  obtain ⟨n, W⟩ := ws_core e u x kq kf v hx h
  obtain ⟨h1, h2, _⟩ := dec_old e u n W.hn
  obtain ⟨h3, _⟩ := dec_new W hx hsur
  have h4 := suffix_new W hx hsur
  have hne : uq e Gen.UNQUOTER (stem n) ≠ [] := (dotHom_uq e).ne _ (stem_ne_nil n W.ne)
  refine ⟨n, _, _, W.hn, h1, h2, take_stem _ _, by rw [take_stem]; exact hne, by rw [take_stem]; exact h3,
    ?_, ?_, ?_, ?_, ?_, ?_⟩
  · intro h0; rw [take_stem, h4, if_neg h0]
  · intro a t hat ht
    have h0 : x ≠ [] := by rw [hat]; simp
    rw [h4, if_neg h0, hat, sfx_append _ a t hne ht]
  · intro h0; rw [h4, if_pos h0]
  · intro hS; rw [take_stem]; exact (suffixes_new W hx hsur hS).2
  · rw [take_stem]; exact noEsc_of_no_dot e _
  · rintro ⟨d, hd, hdn, hq⟩; exact noEsc_stem_canon e n d hd hdn hq

/-- `u.with_suffix(x).suffix == x` exactly when `x` is "." followed by a NON-EMPTY DOT-FREE text, or `x` is ""
    and the old stem has no suffix of its own.  (So it fails for ".tar.gz" → ".gz", for ".a." → "", and for "" on
    "a.tar.gz" → ".tar": C06_with_suffix_suffix_readback_counterexamples.) -/
theorem C06_with_suffix_suffix_readback_iff (e : Env) (u : Url) (x : Str) (kq kf : Bool) (v : Url)
    (hx : PyStr x) (hsur : NoSurrogate x) (h : withSuffix e u x kq kf = .ok v) :
    ∃ n dn ds, rawName u = .ok n ∧ name e u = .ok dn ∧ suffix e u = .ok ds ∧
      (suffix e v = .ok x ↔ ((∃ y, x = 46 :: y ∧ y ≠ [] ∧ 46 ∉ y) ∨ (x = [] ∧ sfx (stem n) = []))) ∧
      -- the second alternative at the decoded level, when the raw stem has no escaped '.':
      (NoEscapedDot e (stem n) → (sfx (stem n) = [] ↔ sfx (dn.take (dn.length - ds.length)) = [])) := by
  obtain ⟨n, W⟩ := ws_core e u x kq kf v hx h
  obtain ⟨h1, h2, _⟩ := dec_old e u n W.hn
  have h4 := suffix_new W hx hsur
  have hne : uq e Gen.UNQUOTER (stem n) ≠ [] := (dotHom_uq e).ne _ (stem_ne_nil n W.ne)
  refine ⟨n, _, _, W.hn, h1, h2, ?_, ?_⟩
  · rw [h4]
    rcases W.acc with rfl | ⟨y, rfl, hy⟩
    · rw [if_pos rfl]
      constructor
      · intro h0
        right
        exact ⟨rfl, ((dotHom_uq e).eq_nil_iff _).1 (Except.ok.inj h0)⟩
      · rintro (⟨y, hy, _⟩ | ⟨_, h0⟩)
        · cases hy
        · rw [h0, uq_nil]
    · rw [if_neg (by simp)]
      constructor
      · intro h0
        left
        have := (sfx_app_eq_iff _ y hne).1 (Except.ok.inj h0)
        exact ⟨y, rfl, this.1, this.2⟩
      · rintro (⟨y', hy', h0, hd⟩ | ⟨h0, _⟩)
        · cases hy'
          rw [(sfx_app_eq_iff _ y hne).2 ⟨h0, hd⟩]
        · cases h0
  · intro hS
    rw [take_stem, sfx_hom (dotHom_uq e) _ hS, (dotHom_uq e).eq_nil_iff]

/-! ## `suffixes` -/

/-- CLOSED FORM of `v.suffixes` for `v = u.with_suffix(x)`: when the raw stem has no escaped '.' (`NoEscapedDot`: decoding
    its dot-free pieces creates no '.'), `v.suffixes` is the library's suffixes function `sfxs` applied to the new decoded
    name `dstem + x`, for every accepted `x` ("" included).  The side condition holds when `dstem` has no '.' at all — then,
    for `x ≠ ""`, `v.suffixes` is simply the dotted pieces of `x` (`R12a.dotted x`; none when `x` ends in '.') — and when
    the raw name is the canonical quoting of a good text (names written by the auto-encoding API).  It CANNOT be
    dropped: C06_with_suffix_suffixes_escaped_dot_counterexample. -/
theorem C06_with_suffix_suffixes_readback (e : Env) (u : Url) (x : Str) (kq kf : Bool) (v : Url)
    (hx : PyStr x) (hsur : NoSurrogate x) (h : withSuffix e u x kq kf = .ok v) :
    ∃ n dn ds, rawName u = .ok n ∧ name e u = .ok dn ∧ suffix e u = .ok ds ∧
      dn.take (dn.length - ds.length) = uq e Gen.UNQUOTER (stem n) ∧
      (NoEscapedDot e (stem n) → suffixes e v = .ok (sfxs (dn.take (dn.length - ds.length) ++ x))) ∧
      (46 ∉ dn.take (dn.length - ds.length) → x ≠ [] → suffixes e v = .ok (dotted x)) ∧
      (46 ∉ dn.take (dn.length - ds.length) → NoEscapedDot e (stem n)) ∧
      ((∃ d, PyStr d ∧ NoSurrogate d ∧ n = q e Gen.PATH_QUOTER d) → NoEscapedDot e (stem n)) := by
  obtain ⟨n, W⟩ := ws_core e u x kq kf v hx h
  obtain ⟨h1, h2, _⟩ := dec_old e u n W.hn
  have hne : uq e Gen.UNQUOTER (stem n) ≠ [] := (dotHom_uq e).ne _ (stem_ne_nil n W.ne)
  refine ⟨n, _, _, W.hn, h1, h2, take_stem _ _, ?_, ?_, ?_, ?_⟩
  · intro hS; rw [take_stem]; exact (suffixes_new W hx hsur hS).1
  · rw [take_stem]
    intro h46 h0
    rw [(suffixes_new W hx hsur (noEsc_of_no_dot e _ h46)).1]
    rcases W.acc with rfl | ⟨y, rfl, hy⟩
    · exact absurd rfl h0
    · rw [sfxs_plain_stem _ y hne h46]
  · rw [take_stem]; exact noEsc_of_no_dot e _
  · rintro ⟨d, hd, hdn, hq⟩; exact noEsc_stem_canon e n d hd hdn hq


/-! ## idempotence at the decoded level -/

/-- `u.with_suffix(x).with_suffix(x)` for `x = "." + y`, `y` NON-EMPTY and DOT-FREE: the second call succeeds and changes
    NOTHING but — according to its own `keep_query` / `keep_fragment` — dropping query and fragment: same scheme,
    authority, raw path, hence the same decoded `name`, `parts`, `suffix` (which is `x`); with `keep_query=True,
    keep_fragment=True` the result IS the same URL.  (Otherwise: C06_with_suffix_not_idempotent_examples — ".tar.gz"
    twice gives "a.tar.tar.gz", "" twice strips two suffixes, ".b." twice gives "a.b..b.".) -/
theorem C06_with_suffix_idempotent (e : Env) (u : Url) (x : Str) (kq kf : Bool) (v : Url)
    (hx : PyStr x) (hsur : NoSurrogate x) (h : withSuffix e u x kq kf = .ok v)
    (y : Str) (hxy : x = 46 :: y) (hy0 : y ≠ []) (hdot : 46 ∉ y)      -- `x` is "." + a non-empty dot-free text
    (kq2 kf2 : Bool) :
    ∃ w, withSuffix e v x kq2 kf2 = .ok w ∧
      w.scheme = v.scheme ∧ w.netloc = v.netloc ∧ w.path = v.path ∧
      w.query = (if kq2 then v.query else []) ∧ w.fragment = (if kf2 then v.fragment else []) ∧
      name e w = name e v ∧ partsDecoded e w = partsDecoded e v ∧
      suffix e v = .ok x ∧ suffix e w = .ok x ∧ suffixes e w = suffixes e v ∧
      (kq2 = true → kf2 = true → w = v) := by
  -- `quote(x)` is one dotted piece, so `x` keeps the stem: the exact idempotence criterion of C13More3b applies
  obtain ⟨n, hn⟩ := C13_raw_name_total u
  subst hxy
  have hkeep : C13_stemKeeping e n (46 :: y) :=
    .inr (((C13_dottedPiece_quote e y (pyStr_cons hx)).2 (noSurr_cons hsur)).2 ⟨hdot, hy0⟩)
  have hws := (C13_with_suffix_idem_iff e u _ kq kf kq2 kf2 v n hx hn h).2 hkeep
  have hsv : suffix e v = .ok (46 :: y) :=
    (C13_with_suffix_suffix e u _ kq kf v hx hsur (by simp) (by simpa using hdot) h).2
  refine ⟨C13_keep v kq2 kf2, hws, rfl, rfl, rfl, rfl, rfl, rfl, rfl, hsv, ?_, rfl, ?_⟩
  · exact (C13_with_suffix_suffix e v _ kq2 kf2 _ hx hsur (by simp) (by simpa using hdot) hws).2
  · rintro rfl rfl
    obtain ⟨hv, _⟩ := R12b.withRawName_flags u _ kq kf kq kf v (C13_with_suffix_name e u _ kq kf v n hx hn h).2.1
    unfold C13_keep
    rw [hv]
    rfl


/-! ## totality -/

/-- `u.with_suffix(x)` for an ACCEPTED `x` (a Python string without lone surrogates, "" or "." + a non-empty text, no
    '/') on ANY URL whose raw name `n` is not empty SUCCEEDS, except that it raises ValueError when the new name would be
    "." or ".." — and that happens exactly for `x = ""` on a name whose stem is "." or "..", i.e. for the raw names ".",
    "..", "..t" and "...t" (`t` non-empty, dot-free: stem "." / "..", suffix ".t").  (For `x ≠ ""` the new name has at
    least three characters.  On an empty name, and for a rejected `x`, the call raises ValueError: `withSuffix_checks`.)
    The condition is on the RAW stem: the DECODED stem can be "." without an error,
    C06_with_suffix_empty_escaped_dot_example.  (The special case of URLs that store canonical encodings:
    `HumanReach.withSuffix_total`.) -/
theorem C06_with_suffix_total (e : Env) (u : Url) (x : Str) (kq kf : Bool) (n : Str)
    (hn : rawName u = .ok n) (hne : n ≠ [])                     -- the old raw name (always defined) is not empty
    (hx : PyStr x) (hsur : NoSurrogate x)                       -- a Python string without lone surrogates
    (hacc : x = [] ∨ ∃ y, x = 46 :: y ∧ y ≠ [])                 -- "" or starts with '.', not "." itself
    (h47 : 47 ∉ x) :                                            -- no '/'
    ((∃ v, withSuffix e u x kq kf = .ok v) ↔ ¬ (x = [] ∧ (stem n = dot ∨ stem n = dotdot))) ∧
    ((x = [] ∧ (stem n = dot ∨ stem n = dotdot)) → withSuffix e u x kq kf = .error .valueError) ∧
    (stem n = dot ↔ n = dot ∨ ∃ t, t ≠ [] ∧ 46 ∉ t ∧ n = 46 :: 46 :: t) ∧
    (stem n = dotdot ↔ n = dotdot ∨ ∃ t, t ≠ [] ∧ 46 ∉ t ∧ n = 46 :: 46 :: 46 :: t) := by
  have heq := withSuffix_eq e u x kq kf n hn hne hacc h47
  have hS : stem n ≠ [] := stem_ne_nil n hne
  have key : (stem n ++ q e Gen.PATH_QUOTER x = dot ∨ stem n ++ q e Gen.PATH_QUOTER x = dotdot) ↔
      (x = [] ∧ (stem n = dot ∨ stem n = dotdot)) := by
    rcases hacc with rfl | ⟨y, rfl, hy⟩
    · rw [q_path_nil, List.append_nil]; simp
    · have hq0 : q e Gen.PATH_QUOTER y ≠ [] := C13_path_quoter_nonempty e y (pyStr_cons hx) (noSurr_cons hsur) hy
      have hlen : 3 ≤ (stem n ++ q e Gen.PATH_QUOTER (46 :: y)).length := by
        rw [q_path_cons_fix e y (pyStr_cons hx) (.inl rfl)]
        have := List.length_pos_iff.2 hS
        have := List.length_pos_iff.2 hq0
        simp only [List.length_append, List.length_cons]
        omega
      constructor
      · rintro (h | h) <;> (rw [h] at hlen; simp [dot, dotdot] at hlen)
      · rintro ⟨h, _⟩; cases h
  refine ⟨?_, ?_, stem_eq_plain_iff n dot (by decide +kernel) (by decide +kernel),
    stem_eq_plain_iff n dotdot (by decide +kernel) (by decide +kernel)⟩
  · rw [heq, ← key]
    constructor
    · rintro ⟨v, hv⟩ hc
      rw [if_pos hc] at hv; cases hv
    · intro hc
      rw [if_neg hc]
      exact withRawName_total' u _ kq kf
  · intro hc
    rw [heq, if_pos (key.2 hc)]


/-! ## `with_suffix`: computed examples, counterexamples, non-vacuity (Python-level inputs; both backends) -/

section ExamplesA

/-- `URL("http://h" + p, encoded=True)` as a record -/
def R12a.urlH (p : String) : Url := fromParts "http".toStr "h".toStr p.toStr [] []

/-- the subtlety of (1): `URL("http://h/a%2Eb", encoded=True).with_suffix(".c")`.  The raw name "a%2Eb" has NO raw
    suffix, so `u.name == "a.b"` but `u.suffix == ""` (not ".b"): `dstem` is the whole "a.b", nothing is replaced, the
    result is "http://h/a%2Eb.c" with `name == "a.b.c"`, `suffix == ".c"`, and `suffixes == (".c",)` although the
    suffixes function on the decoded name "a.b.c" gives (".b", ".c").  C06_with_suffix_name_readback holds as stated. -/
theorem C06_with_suffix_escaped_dot_example : ∀ b : Backend,
    let e : Env := ⟨b, Oracles.empty⟩
    let u := urlH "/a%2Eb"
    let v := urlH "/a%2Eb.c"
    name e u = .ok "a.b".toStr ∧ suffix e u = .ok [] ∧ sfx "a.b".toStr = ".b".toStr ∧
    withSuffix e u ".c".toStr false false = .ok v ∧
    name e v = .ok "a.b.c".toStr ∧ suffix e v = .ok ".c".toStr ∧ suffixes e v = .ok [".c".toStr] ∧
    sfxs "a.b.c".toStr = [".b".toStr, ".c".toStr] ∧ ¬ NoEscapedDot e (stem "a%2Eb".toStr) := by
  intro b; simp only [urlH]; str_lits
  cases b <;>
    exact ⟨by decide +kernel, by decide +kernel, by decide +kernel, by decide +kernel,
      by decide +kernel, by decide +kernel, by decide +kernel, by decide +kernel,
      by decide +kernel⟩

/-- the side condition `NoEscapedDot` of (2) for `x = ""` and of (3) CANNOT be dropped:
    `URL("http://h/a%2Eb.c", encoded=True)` has `name == "a.b.c"`, `suffix == ".c"`, so `dstem == "a.b"`; then
    `.with_suffix("")` is "http://h/a%2Eb" with `suffix == ""` while the suffix of `dstem` is ".b";
    `.with_suffix(".d")` is "http://h/a%2Eb.d" with `suffixes == (".d",)` while `sfxs(dstem + ".d")` is (".b", ".d").
    And the DECODED stem can be "." without an error: `URL("http://h/%2E.a", encoded=True).with_suffix("")` is
    "http://h/%2E", whose decoded `name` is ".". -/
theorem C06_with_suffix_empty_escaped_dot_example : ∀ b : Backend,
    let e : Env := ⟨b, Oracles.empty⟩
    let u := urlH "/a%2Eb.c"
    (name e u = .ok "a.b.c".toStr ∧ suffix e u = .ok ".c".toStr ∧
      withSuffix e u [] false false = .ok (urlH "/a%2Eb") ∧ suffix e (urlH "/a%2Eb") = .ok [] ∧
      sfx ("a.b".toStr ++ []) = ".b".toStr) ∧
    (withSuffix e u ".d".toStr false false = .ok (urlH "/a%2Eb.d") ∧ suffixes e (urlH "/a%2Eb.d") = .ok [".d".toStr] ∧
      sfxs ("a.b".toStr ++ ".d".toStr) = [".b".toStr, ".d".toStr]) ∧
    (withSuffix e (urlH "/%2E.a") [] false false = .ok (urlH "/%2E") ∧ name e (urlH "/%2E") = .ok dot) := by
  intro b; simp only [urlH]; str_lits
  cases b <;>
    exact ⟨⟨by decide +kernel, by decide +kernel, by decide +kernel,
      by decide +kernel, by decide +kernel⟩,
      ⟨by decide +kernel, by decide +kernel, by decide +kernel⟩,
      ⟨by decide +kernel, by decide +kernel⟩⟩

theorem C06_with_suffix_suffixes_escaped_dot_counterexample : ∀ b : Backend,
    let e : Env := ⟨b, Oracles.empty⟩
    withSuffix e (urlH "/a%2Eb.c") ".d".toStr false false = .ok (urlH "/a%2Eb.d") ∧
    suffixes e (urlH "/a%2Eb.d") = .ok [".d".toStr] ∧
    sfxs ("a.b".toStr ++ ".d".toStr) = [".b".toStr, ".d".toStr] ∧ ¬ NoEscapedDot e (stem "a%2Eb.c".toStr) :=
  fun b => ⟨(C06_with_suffix_empty_escaped_dot_example b).2.1.1, (C06_with_suffix_empty_escaped_dot_example b).2.1.2.1,
    by decide +kernel, by cases b <;> decide +kernel⟩

/-- every way "`suffix` reads back `x`" fails (C06_with_suffix_suffix_readback_iff):
    `URL("http://h/a.b").with_suffix(".tar.gz").suffix == ".gz"`; `.with_suffix(".a.").suffix == ""`;
    `URL("http://h/a.tar.gz").with_suffix("").suffix == ".tar"`. -/
theorem C06_with_suffix_suffix_readback_counterexamples : ∀ b : Backend,
    let e : Env := ⟨b, Oracles.empty⟩
    (withSuffix e (urlH "/a.b") ".tar.gz".toStr false false = .ok (urlH "/a.tar.gz") ∧
      suffix e (urlH "/a.tar.gz") = .ok ".gz".toStr) ∧
    (withSuffix e (urlH "/a.b") ".a.".toStr false false = .ok (urlH "/a.a.") ∧ suffix e (urlH "/a.a.") = .ok []) ∧
    (withSuffix e (urlH "/a.tar.gz") [] false false = .ok (urlH "/a.tar") ∧ suffix e (urlH "/a.tar") = .ok ".tar".toStr) := by
  intro b; simp only [urlH]; str_lits
  cases b <;>
    exact ⟨⟨by decide +kernel, by decide +kernel⟩,
      ⟨by decide +kernel, by decide +kernel⟩,
      ⟨by decide +kernel, by decide +kernel⟩⟩

/-- (4) fails outside `x = "." + non-empty dot-free`: `URL("http://h/a").with_suffix(".tar.gz")` twice is
    "http://h/a.tar.tar.gz"; `URL("http://h/a.tar.gz").with_suffix("")` twice is "http://h/a"; `.with_suffix(".b.")`
    twice on "http://h/a" is "http://h/a.b..b.". -/
theorem C06_with_suffix_not_idempotent_examples : ∀ b : Backend,
    let e : Env := ⟨b, Oracles.empty⟩
    (withSuffix e (urlH "/a") ".tar.gz".toStr false false = .ok (urlH "/a.tar.gz") ∧
      withSuffix e (urlH "/a.tar.gz") ".tar.gz".toStr false false = .ok (urlH "/a.tar.tar.gz")) ∧
    (withSuffix e (urlH "/a.tar.gz") [] false false = .ok (urlH "/a.tar") ∧
      withSuffix e (urlH "/a.tar") [] false false = .ok (urlH "/a")) ∧
    (withSuffix e (urlH "/a") ".b.".toStr false false = .ok (urlH "/a.b.") ∧
      withSuffix e (urlH "/a.b.") ".b.".toStr false false = .ok (urlH "/a.b..b.")) := by
  intro b; simp only [urlH]; str_lits
  cases b <;>
    exact ⟨⟨by decide +kernel, by decide +kernel⟩,
      ⟨by decide +kernel, by decide +kernel⟩,
      ⟨by decide +kernel, by decide +kernel⟩⟩

/-- (5): the four shapes of names on which `with_suffix("")` raises, and that a non-empty suffix is accepted there:
    `URL("http://h/..a", encoded=True).with_suffix("")` (new name "."), `…/...a` (new name ".."), `…/.` and `…/..`
    raise ValueError; `URL("http://h/..", encoded=True).with_suffix(".x")` is "http://h/...x". -/
theorem C06_with_suffix_total_examples : ∀ b : Backend,
    let e : Env := ⟨b, Oracles.empty⟩
    withSuffix e (urlH "/..a") [] false false = .error .valueError ∧
    withSuffix e (urlH "/...a") [] false false = .error .valueError ∧
    withSuffix e (urlH "/.") [] false false = .error .valueError ∧
    withSuffix e (urlH "/..") [] false false = .error .valueError ∧
    withSuffix e (urlH "/..") ".x".toStr false false = .ok (urlH "/...x") ∧
    stem "..a".toStr = dot ∧ stem "...a".toStr = dotdot := by
  intro b; cases b <;> exact ⟨by decide +kernel, by decide +kernel, by decide +kernel, by decide +kernel,
    by decide +kernel, by decide +kernel, by decide +kernel⟩

/-! non-vacuity: a URL with query and fragment, a directory, a multi-suffix name; a suffix with a space and a non-ASCII
    character; both backends -/

private def uT : Url := fromParts "http".toStr "h".toStr "/d/b%20c.tar.gz".toStr "k=v".toStr "f".toStr
private def xT : Str := [46, 116, 32, 233]      -- ".t é"
private def vT : Url := fromParts "http".toStr "h".toStr "/d/b%20c.tar.t%20%C3%A9".toStr "k=v".toStr []

example : PyStr xT ∧ NoSurrogate xT ∧ xT = 46 :: [116, 32, 233] ∧ 46 ∉ [116, 32, 233] := by decide +kernel
private theorem uT_suffix (b : Backend) : withSuffix ⟨b, Oracles.empty⟩ uT xT true false = .ok vT := by
  unfold uT vT; str_lits
  cases b <;> decide +kernel
example : ∀ b : Backend, withSuffix ⟨b, Oracles.empty⟩ uT xT true false = .ok vT := uT_suffix
/-- what the theorems say on it: `name` "b c.tar" + ".t é", `suffix` and `suffixes` read back, second call = same URL -/
example : ∀ b : Backend, name ⟨b, Oracles.empty⟩ vT = .ok ("b c.tar".toStr ++ xT) ∧ suffix ⟨b, Oracles.empty⟩ vT = .ok xT ∧
    suffixes ⟨b, Oracles.empty⟩ vT = .ok [".tar".toStr, xT] ∧ withSuffix ⟨b, Oracles.empty⟩ vT xT true true = .ok vT := by
  intro b
  have hv := uT_suffix b
  have hu : name ⟨b, Oracles.empty⟩ uT = .ok "b c.tar.gz".toStr ∧ suffix ⟨b, Oracles.empty⟩ uT = .ok ".gz".toStr ∧
      rawName uT = .ok "b%20c.tar.gz".toStr := by
    unfold uT; str_lits
    cases b <;> exact ⟨by decide +kernel, by decide +kernel, by decide +kernel⟩
  obtain ⟨dn, ds, h1, h2, _, h4, _⟩ := C06_with_suffix_name_readback _ uT xT true false vT (by decide +kernel) (by decide +kernel) hv
  obtain ⟨n, dn', ds', g0, g1, g2, _, g4, _, g6, _⟩ :=
    C06_with_suffix_suffixes_readback _ uT xT true false vT (by decide +kernel) (by decide +kernel) hv
  rw [hu.1] at h1 g1; rw [hu.2.1] at h2 g2; rw [hu.2.2] at g0
  cases h1; cases h2; cases g1; cases g2; cases g0
  obtain ⟨w, k1, _, _, _, _, _, _, _, k9, _, _, k12⟩ :=
    C06_with_suffix_idempotent _ uT xT true false vT (by decide +kernel) (by decide +kernel) hv [116, 32, 233] rfl (by decide +kernel)
      (by decide +kernel) true true
  refine ⟨h4, k9, ?_, ?_⟩
  · rw [g4 (by cases b <;> decide +kernel)]; decide +kernel
  · rw [k1, k12 rfl rfl]
/-- (5) on it: accepted `x`, non-empty name, stem "b%20c.tar" is neither "." nor ".." -/
example : ∀ b : Backend, ∃ v, withSuffix ⟨b, Oracles.empty⟩ uT xT false true = .ok v := by
  intro b
  exact ((C06_with_suffix_total ⟨b, Oracles.empty⟩ uT xT false true "b%20c.tar.gz".toStr (by decide +kernel) (by decide +kernel)
    (by decide +kernel) (by decide +kernel) (Or.inr ⟨_, rfl, by decide +kernel⟩) (by decide +kernel)).1).2 (by decide +kernel)
example : ∀ b : Backend, NoEscapedDot ⟨b, Oracles.empty⟩ (stem "b%20c.tar.gz".toStr) := by
  intro b; cases b <;> decide +kernel

end ExamplesA


/-! ## `build(authority=A)` with Bool-checkable hypotheses on `A` only -/

namespace R12a
open NetShape NetlocLemmas MiscLemmas StrTotal

/-- `HostTextOK` as a computable check: non-empty, and — without ':' — only name characters (visible ASCII, none of
    `/ ? # @ [ ] :`), or — with ':' — an IPv6 literal before an optional "%zone" of text characters -/
def hostTextOkB (h : Str) : Bool :=
  !h.isEmpty &&
    (if mem 58 h then (parseIPv6 (partition 37 h).1).isSome && (partition 37 h).2.2.all textChar
     else h.all nameChar)

theorem hostTextOkB_iff (h : Str) : hostTextOkB h = true ↔ HostTextOK h := by
  unfold hostTextOkB
  constructor
  · intro hb
    simp only [Bool.and_eq_true, Bool.not_eq_true', List.isEmpty_eq_false_iff] at hb
    obtain ⟨hne, hb⟩ := hb
    by_cases h58 : 58 ∈ h
    · rw [if_pos (mem_iff.mpr h58)] at hb
      simp only [Bool.and_eq_true, List.all_eq_true] at hb
      obtain ⟨h8, h6⟩ := Option.isSome_iff_exists.1 hb.1
      exact ⟨hne, fun hn => absurd h58 hn, fun _ => ⟨h8, h6, hb.2⟩⟩
    · rw [if_neg (by rw [mem_false_iff.mpr h58]; simp)] at hb
      simp only [List.all_eq_true] at hb
      exact ⟨hne, fun _ => hb, fun hm => absurd hm h58⟩
  · intro hk
    simp only [Bool.and_eq_true, Bool.not_eq_true', List.isEmpty_eq_false_iff]
    refine ⟨hk.ne, ?_⟩
    by_cases h58 : 58 ∈ h
    · rw [if_pos (mem_iff.mpr h58)]
      obtain ⟨h8, h6, hz⟩ := hk.ipv6 h58
      simp only [Bool.and_eq_true, List.all_eq_true]
      exact ⟨by rw [h6]; rfl, hz⟩
    · rw [if_neg (by rw [mem_false_iff.mpr h58]; simp)]
      simp only [List.all_eq_true]
      exact hk.name h58

instance (h : Str) : Decidable (HostTextOK h) := decidable_of_iff _ (hostTextOkB_iff h)

/-- the host text of an authority `A` (oracle-free): what `split_netloc(A)` returns as host, before `or None` -/
def authHost (A : Str) : Str := (hostPort (userSplit A).2.2).1
/-- the user / password texts of `A` as `split_netloc(A)` returns them (oracle-free) -/
def authUser (A : Str) : Option Str := (userSplit A).1.bind orNone
def authPassword (A : Str) : Option Str := (userSplit A).2.1

/-- the bracket condition: a host text without ':' (not an IPv6 literal) is not written in brackets -/
def authWrapB (A : Str) : Bool := mem 58 (authHost A) || !mem 91 (rpartition 64 A).2.2

/-- THE CHECK on the text `A` alone: a supported host text, and brackets only around an IPv6 literal -/
def authOkB (A : Str) : Bool := hostTextOkB (authHost A) && authWrapB A

theorem authWrapB_iff (A : Str) :
    authWrapB A = true ↔ (58 ∉ authHost A → 91 ∉ (rpartition 64 A).2.2) := by
  unfold authWrapB
  by_cases h58 : 58 ∈ authHost A
  · rw [mem_iff.mpr h58]; simp [h58]
  · rw [mem_false_iff.mpr h58]
    by_cases h91 : 91 ∈ (rpartition 64 A).2.2
    · rw [mem_iff.mpr h91]; simp [h58, h91]
    · rw [mem_false_iff.mpr h91]; simp [h91]

/-- the parts of a successful `split_netloc(A)` that do not depend on the oracle -/
theorem splitNetloc_parts (o : Oracles) (A : Str) (np : NetlocParts) (h : splitNetloc o A = .ok np) :
    np.host = orNone (authHost A) ∧ np.user = authUser A ∧ np.password = authPassword A := by
  obtain ⟨pt, _, rfl⟩ := NetlocLemmas.splitNetloc_ok_iff.1 h
  exact ⟨rfl, rfl, rfl⟩

/-- the port text of `A`, and the port it denotes when it is ASCII (oracle-free; non-ASCII digits go through the
    `int()` oracle) -/
def authPortText (A : Str) : Str := (hostPort (userSplit A).2.2).2
def authPort (A : Str) : Option Nat :=
  if (authPortText A).isEmpty then none
  else match pyIntAscii (authPortText A) with
    | some p => if 0 ≤ p ∧ p ≤ 65535 then some p.toNat else none
    | none => none

theorem splitNetloc_port (o : Oracles) (A : Str) (np : NetlocParts) (h : splitNetloc o A = .ok np)
    (hasc : isAscii (authPortText A) = true) : np.port = authPort A := by
  obtain ⟨pt, hpt, rfl⟩ := NetlocLemmas.splitNetloc_ok_iff.1 h
  unfold authPort
  rcases NetlocLemmas.portOf_ok_iff.1 hpt with ⟨ht, rfl⟩ | ⟨hne, p, hp, h0, h1, rfl⟩
  · rw [if_pos (by rw [authPortText, ht]; rfl)]
  · -- an ASCII port text is read without the `int()` oracle
    have hpa : pyInt o (authPortText A) = .ok (pyIntAscii (authPortText A)) := by
      unfold pyInt
      rw [if_pos hasc]
    rw [authPortText] at hpa
    rw [hpa] at hp
    rw [if_neg (by simpa [authPortText] using hne), authPortText, Except.ok.inj hp]
    exact (if_pos ⟨h0, h1⟩).symm

/-- the check is EXACTLY the two hypotheses of the `build(authority=)` theorems, for every `A` that `split_netloc`
    accepts (so `NetShape.AuthInput o A` for `A ≠ ""` is: `split_netloc(A)` succeeds and `authOkB A`) -/
theorem authOkB_ok (A : Str) :
    authOkB A = true ↔ HostTextOK (authHost A) ∧ (58 ∉ authHost A → 91 ∉ (rpartition 64 A).2.2) := by
  unfold authOkB; rw [Bool.and_eq_true, hostTextOkB_iff, authWrapB_iff]

theorem authOkB_iff (o : Oracles) (A : Str) (np : NetlocParts) (h : splitNetloc o A = .ok np) :
    authOkB A = true ↔ ∃ h0, np.host = some h0 ∧ HostTextOK h0 ∧ (58 ∉ h0 → 91 ∉ (rpartition 64 A).2.2) := by
  obtain ⟨hh, _, _⟩ := splitNetloc_parts o A np h
  rw [authOkB_ok]
  constructor
  · rintro ⟨hk, hw⟩
    exact ⟨authHost A, by rw [hh, orNone_of_ne_nil hk.ne], hk, hw⟩
  · rintro ⟨h0, hhost, hk, hw⟩
    have : authHost A = h0 := by
      rw [hh] at hhost
      unfold orNone at hhost
      split at hhost
      · cases hhost
      · exact Option.some.inj hhost
    rw [this]; exact ⟨hk, hw⟩

/-- a successful `build(authority=A, encoded=False)` has split `A` -/
theorem build_authority_split (e : Env) (a : BuildArgs) (v : Url) (h : build e a = .ok v)
    (henc : a.encoded = false) (hne : a.authority ≠ []) : ∃ np, splitNetloc e.o a.authority = .ok np := by
  obtain ⟨_, _, _, _, hnl, _⟩ := build_false_ok henc h
  obtain ⟨_, np, _, hnp, _⟩ := buildNetloc_authority hne hnl
  exact ⟨np, hnp⟩

theorem authHost_nil : authHost [] = [] := by decide +kernel

end R12a

open R12a NetShape NetlocLemmas

/-- `HostTextOK` is a Bool check: it IS `R12a.hostTextOkB` (non-empty; without ':' only visible ASCII
    other than `/ ? # @ [ ] :`; with ':' an IPv6 literal — `parseIPv6`, computable — before an optional "%zone" of
    visible ASCII other than `/ ? # @ [ ]`), and the bracket condition `hwrap` IS `R12a.authWrapB`. -/
theorem C06_hostTextOK_decidable (h0 A : Str) :
    (hostTextOkB h0 = true ↔ HostTextOK h0) ∧
    (authWrapB A = true ↔ (58 ∉ authHost A → 91 ∉ (rpartition 64 A).2.2)) ∧
    (∀ o np, splitNetloc o A = .ok np →
      (authOkB A = true ↔ ∃ h0, np.host = some h0 ∧ HostTextOK h0 ∧ (58 ∉ h0 → 91 ∉ (rpartition 64 A).2.2))) :=
  ⟨hostTextOkB_iff h0, authWrapB_iff A, fun o np h => authOkB_iff o A np h⟩

/-- the main `build(authority=A)` read-back theorem (C06_build_authority_readback /
    C06_headline_build_authority_readback) with ONLY Bool-checkable hypotheses on `A`: `A` is a Python string and
    `R12a.authOkB A` (computed from the text: its host text `R12a.authHost A` is a supported ASCII host text, and it is in
    brackets only if it is an IPv6 literal).  `split_netloc(A)` then HAS succeeded (no hypothesis), its host / user /
    password are the oracle-free `authHost A` / `authUser A` / `authPassword A` (and its port `authPort A` when the port
    text is ASCII), and all conclusions of the original theorem hold. -/
theorem C06_build_authority_readback_checked (e : Env) (a : BuildArgs) (v : Url) (h : build e a = .ok v)
    (henc : a.encoded = false)                       -- auto-encoding mode
    (hpy : PyStr a.authority)                        -- model artefact (decidable)
    (hok : authOkB a.authority = true) :             -- THE CHECK, `by decide` for a concrete `A`
    ∃ np sc r, splitNetloc e.o a.authority = .ok np ∧
      np.host = some (authHost a.authority) ∧ np.user = authUser a.authority ∧
      np.password = authPassword a.authority ∧
      (isAscii (authPortText a.authority) = true → np.port = authPort a.authority) ∧
      lowerAny e a.scheme = .ok sc ∧ v.scheme = sc ∧ encodeHost e.o (authHost a.authority) false = .ok r ∧ r ≠ [] ∧
      rawUser e v = .ok ((np.user.map (q e Gen.QUOTER)).bind orNone) ∧
      rawPassword e v = .ok (np.password.map (q e Gen.QUOTER)) ∧
      user e v = .ok ((np.user.map stripSurr).bind orNone) ∧
      password e v = .ok (np.password.map stripSurr) ∧
      ((∀ s, np.user = some s → NoSurrogate s) → user e v = .ok np.user) ∧
      ((∀ s, np.password = some s → NoSurrogate s) → password e v = .ok np.password) ∧
      rawHost e v = .ok (some (unbracket r)) ∧
      explicitPort e v = .ok (strPort sc np.port) ∧
      port e v = .ok (np.port.orElse fun _ => defaultPort sc) := by
  obtain ⟨hk, hw⟩ := (authOkB_ok _).1 hok
  have hne : a.authority ≠ [] := by
    intro h0; apply hk.ne; rw [h0]; exact authHost_nil
  obtain ⟨np, hsp⟩ := build_authority_split e a v h henc hne
  obtain ⟨hh, hu, hp⟩ := splitNetloc_parts e.o _ np hsp
  have hhost : np.host = some (authHost a.authority) := by rw [hh, orNone_of_ne_nil hk.ne]
  obtain ⟨sc, r, c⟩ := C06_build_authority_readback e a v h henc hpy np _ hsp hhost hk hw
  exact ⟨np, sc, r, hsp, hhost, hu, hp, splitNetloc_port e.o _ np hsp, c⟩

/-- the host of `build(authority=A)` (C06_build_authority_host_name / _ipv4 / _ipv6) under the same check, with
    `h0 = R12a.authHost A` computed from the text: (i) a name → `raw_host` is `h0` lower-cased (and `host`, under the IDNA
    oracle hypothesis of C06_host_oracle_use); (ii) an IPv4 literal → unchanged; (iii) an IPv6 literal [+ zone] → canonical text
    without brackets.  Every hypothesis on `A` is a computable equation / Bool. -/
theorem C06_build_authority_host_readback_checked (e : Env) (a : BuildArgs) (v : Url) (h : build e a = .ok v)
    (henc : a.encoded = false) (hpy : PyStr a.authority) (hok : authOkB a.authority = true) :
    let h0 := authHost a.authority
    ((parseIP (partition 37 h0).1 = none ∨ (58 ∉ h0 ∧ ∀ l, h0.getLast? = some l → isDigitC l = false)) →
      rawHost e v = .ok (some (lower h0)) ∧
      ((((∀ l, (lower h0).getLast? = some l → isDigitC l = false) ∨ hasSub [120, 110, 45, 45] (lower h0) = true) →
          e.o.idnaDec (lower h0) = some (some (lower h0))) →
        host e v = .ok (some (lower h0)))) ∧
    (∀ o4, parseIPv4 h0 = some o4 → rawHost e v = .ok (some h0) ∧ host e v = .ok (some h0)) ∧
    (∀ h8, parseIPv6 (partition 37 h0).1 = some h8 →
      rawHost e v = .ok (some (ipv6ToStr h8 ++ (if (partition 37 h0).2.1 then [37] ++ (partition 37 h0).2.2 else []))) ∧
      host e v = .ok (some (ipv6ToStr h8 ++ (if (partition 37 h0).2.1 then [37] ++ (partition 37 h0).2.2 else [])))) := by
  intro h0
  obtain ⟨np, sc, r, hsp, hhost, _⟩ := C06_build_authority_readback_checked e a v h henc hpy hok
  obtain ⟨hk, hw⟩ := (authOkB_ok _).1 hok
  refine ⟨fun hnip => C06_build_authority_host_name e a v h henc hpy np h0 hsp hhost hk hw hnip,
    fun o4 h4 => C06_build_authority_host_ipv4 e a v h henc hpy np h0 hsp hhost (hw (parseIPv4_no_colon h4)) o4 h4,
    fun h8 h6 => C06_build_authority_host_ipv6 e a v h henc hpy np h0 hsp hhost hk h8 h6⟩


/-! ## concrete instances: every hypothesis on the text is closed by `decide` -/

section ExamplesB

private def oB : Oracles := Oracles.empty

/-- `URL.build(scheme="http", authority=…)` for: a name, an IPv4 literal with user and port, an IPv6 literal with the
    default port, an IPv6 literal with zone id, `user:password@host:port` with ' ' and '%' in the userinfo -/
private def aName : BuildArgs := { scheme := "http".toStr, authority := "Example.COM".toStr }
private def aV4 : BuildArgs := { scheme := "http".toStr, authority := "u@127.0.0.1:8080".toStr }
private def aV6 : BuildArgs := { scheme := "https".toStr, authority := "[2001:DB8::1]:443".toStr }
private def aV6z : BuildArgs := { scheme := "https".toStr, authority := "[FE80::1%Eth0]:8443".toStr }
private def aFull : BuildArgs := { scheme := "HTTP".toStr, authority := "us er:p%40w@Host-1.Example:8042".toStr }

/-- the hypotheses of C06_build_authority_readback_checked on the five texts: `by decide` -/
example : (PyStr aName.authority ∧ authOkB aName.authority = true) ∧
    (PyStr aV4.authority ∧ authOkB aV4.authority = true) ∧
    (PyStr aV6.authority ∧ authOkB aV6.authority = true) ∧
    (PyStr aV6z.authority ∧ authOkB aV6z.authority = true) ∧
    (PyStr aFull.authority ∧ authOkB aFull.authority = true) := by
  unfold aName aV4 aV6 aV6z aFull; str_lits; decide +kernel

/-- … and `HostTextOK` itself is closed by `decide`: a name, an IPv4 text, IPv6 with and without zone; not: "", a text
    with '/', IPvFuture "v1.x:y", a non-IPv6 text with ':', a non-ASCII (IDN) name "exämple.com" -/
example : HostTextOK "Example.COM".toStr ∧ HostTextOK "127.0.0.1".toStr ∧ HostTextOK "2001:DB8::1".toStr ∧
    HostTextOK "FE80::1%Eth0".toStr ∧ ¬ HostTextOK [] ∧ ¬ HostTextOK "a/b".toStr ∧ ¬ HostTextOK "v1.x:y".toStr ∧
    ¬ HostTextOK "host:80".toStr ∧ ¬ HostTextOK [101, 120, 228, 109, 112, 108, 101, 46, 99, 111, 109] := by
  str_lits; decide +kernel

/-- REJECTED texts (outside the theorems above; what `build` does with them is not claimed here): an IPvFuture literal
    "[v1.x]", a NAME in brackets "[example.com]", an IDN name "exämple.com", an authority without host "user@:80" -/
example : authOkB "[v1.x]".toStr = false ∧ authOkB "[example.com]".toStr = false ∧
    authOkB [101, 120, 228, 109, 112, 108, 101, 46, 99, 111, 109] = false ∧ authOkB "user@:80".toStr = false := by
  str_lits; decide +kernel

/-- the read-back DERIVED FROM THE THEOREM for `URL.build(scheme="HTTP", authority="us er:p%40w@Host-1.Example:8042")`,
    both backends, whatever `v` is: user "us er", password "p%40w" VERBATIM, raw_host lower-cased,
    explicit_port 8042 -/
example (b : Backend) (v : Url) (h : build ⟨b, oB⟩ aFull = .ok v) :
    v.scheme = "http".toStr ∧ user ⟨b, oB⟩ v = .ok (some "us er".toStr) ∧
    password ⟨b, oB⟩ v = .ok (some "p%40w".toStr) ∧ rawHost ⟨b, oB⟩ v = .ok (some "host-1.example".toStr) ∧
    explicitPort ⟨b, oB⟩ v = .ok (some 8042) ∧ port ⟨b, oB⟩ v = .ok (some 8042) := by
  unfold aFull at h
  repeat rw [String.toStr_ofList] at h
  obtain ⟨np, sc, r, hsp, _, hu, hp, hpt, hsc, hvs, hr, _, _, _, _, _, h13, h14, h15, h16, h17⟩ :=
    C06_build_authority_readback_checked _ _ v h rfl (by decide +kernel) (by decide +kernel)
  have hu' : np.user = some "us er".toStr := by rw [hu]; decide +kernel
  have hp' : np.password = some "p%40w".toStr := by rw [hp]; decide +kernel
  have hpt' : np.port = some 8042 := by rw [hpt (by decide +kernel)]; decide +kernel
  have e2 := hsc.symm.trans (c := .ok "http".toStr) (by cases b <;> decide +kernel); cases e2
  have e3 := hr.symm.trans (c := .ok "host-1.example".toStr) (show encodeHost oB _ false = _ by decide +kernel); cases e3
  rw [hpt'] at h16 h17
  refine ⟨hvs, ?_, ?_, h15, h16, h17⟩
  · rw [h13 (by intro s hs; rw [hu'] at hs; cases hs; decide +kernel), hu']
  · rw [h14 (by intro s hs; rw [hp'] at hs; cases hs; decide +kernel), hp']

/-- the same for the IPv6 literal with zone id `URL.build(scheme="https", authority="[FE80::1%Eth0]:8443")`: no user,
    raw_host / host canonical lower-case with the zone verbatim, without brackets -/
example (b : Backend) (v : Url) (h : build ⟨b, oB⟩ aV6z = .ok v) :
    user ⟨b, oB⟩ v = .ok none ∧ rawHost ⟨b, oB⟩ v = .ok (some "fe80::1%Eth0".toStr) ∧
    host ⟨b, oB⟩ v = .ok (some "fe80::1%Eth0".toStr) := by
  unfold aV6z at h
  repeat rw [String.toStr_ofList] at h
  obtain ⟨np, sc, r, hsp, _, hu, _, _, _, _, _, _, _, _, _, _, h13, _⟩ :=
    C06_build_authority_readback_checked _ _ v h rfl (by decide +kernel) (by decide +kernel)
  have hh := (C06_build_authority_host_readback_checked _ _ v h rfl (by decide +kernel) (by decide +kernel)).2.2
    [0xFE80, 0, 0, 0, 0, 0, 0, 1] (by decide +kernel)
  have hu' : np.user = none := by rw [hu]; decide +kernel
  refine ⟨?_, ?_, ?_⟩
  · rw [h13 (by intro s hs; rw [hu'] at hs; cases hs), hu']
  · rw [hh.1]; decide +kernel
  · rw [hh.2]; decide +kernel

/-- cross-check by computation: the five calls succeed and store what the theorems predict -/
example : ∀ b : Backend,
    build ⟨b, oB⟩ aName = .ok (fromParts "http".toStr "example.com".toStr [] [] []) ∧
    build ⟨b, oB⟩ aV4 = .ok (fromParts "http".toStr "u@127.0.0.1:8080".toStr [] [] []) ∧
    build ⟨b, oB⟩ aV6 = .ok (fromParts "https".toStr "[2001:db8::1]".toStr [] [] []) ∧
    build ⟨b, oB⟩ aV6z = .ok (fromParts "https".toStr "[fe80::1%Eth0]:8443".toStr [] [] []) ∧
    build ⟨b, oB⟩ aFull = .ok (fromParts "http".toStr "us%20er:p%2540w@host-1.example:8042".toStr [] [] []) := by
  intro b; unfold aName aV4 aV6 aV6z aFull; str_lits
  cases b <;> exact ⟨by decide +kernel, by decide +kernel,
    by decide +kernel, by decide +kernel, by decide +kernel⟩

end ExamplesB

end Yarl
