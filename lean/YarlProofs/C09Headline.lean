import YarlProofs.C09
import YarlProofs.Lemmas.WfLemmas
import YarlProofs.C09Idn
/-!
  C09Headline.lean — AUDIT LAYER for property C09.

  C09 | Eager and lazy component computation agree; pickling is lossless |
  "Every accessor returns the same value whether it was pre-computed while the URL was being built or derived later from
  the stored string parts. In particular a URL restored by pickle, copy or deepcopy compares equal to the original, has
  the same hash and string form, and returns identical values for every accessor."

  Vocabulary.  `u.pre : Option NetPre` = the four `_cache` entries `encode_url` pre-computes (raw_host, explicit_port,
  raw_user, raw_password) — the ONLY eager values in the library; `net e u` returns them when present and otherwise
  `lazyNet e u` = what `split_netloc` derives from the stored netloc.  `pickleTwin u` = `{ u with pre := none }` = the
  object `__reduce__`/`__setstate__`, `copy` or `deepcopy` rebuilds from the five stored strings.  `eqKey` is the tuple
  `__eq__` compares and `__hash__` hashes.  `GoodAuthority e s`: for the split `pt`/`np` of the input, the user (if any)
  is a Python string, and the host text `h0` cut out of the input satisfies `GoodHost` (no '[' inside it, and for a
  non-ASCII host a sane IDNA answer — or it is a valid IPv6 literal with any zone); with an EMPTY host there must be a
  user that is actually written, a password or a port.  (Since fix 2fdb38c a user made of lone surrogates only, which
  requotes to "", is cached as None — not "" —, so in front of a non-empty host the guard asks nothing more of the
  user: C09_headline_surrogate_user_agrees.)
  IDN hosts: `IdnaAnswerSane` / `IdnaSaneAt` / `IdnaSane` (C16Idn.lean) are the stated ASSUMPTION about the `idna` package
  under which the IDNA clause of the guard holds, see the section "IDN (non-ASCII) hosts".

  Continued in C09HeadlineMore.lean (theorems that need a module which imports this file): C09Bracket.lean imports this
  file, so the statements for BRACKETED hosts that are not IPv6 addresses (IPvFuture "[v1.a:b]", "[g::1]", "[a:b]";
  GAPS 1, guard coverage) are there as `C09_headline_…_bracketed_host…`.
  Continued further in C09HeadlineMore4.lean (headline theorems for the proof modules added after the last refresh:
  C09More.lean; the GAPS block below cites them).
-/
namespace Yarl
open EagerLemmas Idn HumanLemmas

/-! ## Sentence 1 — "Every accessor returns the same value whether it was pre-computed while the URL was being built or
    derived later from the stored string parts." -/

/-- the sentence for the only constructor that pre-computes anything: the four cached entries are exactly what the lazy
    route derives from the stored parts. -/
theorem C09_headline_eager_eq_lazy (e : Env) (s : Str) (u : Url) (p : NetPre)
    (hu : encodeUrl e s = .ok u) (hpre : u.pre = some p)
    -- excludes the two KNOWN FINDINGS F-C09-bracket ("[[::1]", C09_headline_fails_for_malformed_brackets) and
    -- F-C09-empty-authority ("//@", C09_headline_fails_for_empty_authority, …_fails_for_surrogate_user_empty_host);
    -- C09_guard_excludes: ANY disagreeing input is outside the guard
    (hg : GoodAuthority e s) :
    lazyNet e (pickleTwin u) = .ok p :=
  C09_eager_eq_lazy e s u p hu hpre hg
-- Appendix E: C09_eager_eq_lazy ↦ C09_eager_eq_lazy (same name).  `∀ kv ∈ u.prefill, kv.2 = lazyAccessor kv.1 u.parts`
--             became `lazyNet e (pickleTwin u) = .ok p` (the four entries at once); the guard `GoodAuthority` is new and
--             is justified by the two counterexample theorems.

/-- NEW composition — the guard checked on the input for the common case: any input whose host text (as `split_netloc`
    cuts it out) is ASCII and contains no '[' : reg-names in any case, IPv4, IPvFuture, "[a:b]", stray ']' … -/
theorem C09_headline_eager_eq_lazy_ascii_host (e : Env) (s : Str) (hs : PyStr s) (u : Url) (p : NetPre)
    (pt : Parts) (np : NetlocParts) (h0 : Str)
    (hu : encodeUrl e s = .ok u) (hpre : u.pre = some p)
    (h1 : splitUrl e.o s = .ok pt) (h2 : splitNetloc e.o pt.netloc = .ok np)
    (hhost : np.host = some h0) (hascii : isAscii h0 = true) (h91 : 91 ∉ h0) :
    lazyNet e (pickleTwin u) = .ok p := by
  have hnp : GoodNp e np := by
    refine ⟨(WfLemmas.splitNetloc_pyStr e.o pt.netloc (WfLemmas.splitUrl_pyStr e.o s hs pt h1).1 np h2).1, ?_⟩
    rw [hhost]; exact C09_good_host_ascii e.o h0 hascii h91
  exact C09_eager_eq_lazy e s u p hu hpre (C09_good_authority_of e s pt np h1 h2 hnp)

/-- … and then EVERY netloc-dependent accessor agrees (the others read only the five parts, next theorem). -/
theorem C09_headline_all_accessors_agree (e : Env) (u : Url) (p : NetPre)
    (hpre : u.pre = some p) (hlazy : lazyNet e (pickleTwin u) = .ok p) :
    net e (pickleTwin u) = net e u ∧ str e (pickleTwin u) = str e u ∧ host e (pickleTwin u) = host e u ∧
    hostSubcomponent e (pickleTwin u) = hostSubcomponent e u ∧
    hostPortSubcomponent e (pickleTwin u) = hostPortSubcomponent e u ∧ port e (pickleTwin u) = port e u ∧
    isDefaultPort e (pickleTwin u) = isDefaultPort e u ∧ authority e (pickleTwin u) = authority e u ∧
    user e (pickleTwin u) = user e u ∧ password e (pickleTwin u) = password e u ∧
    humanRepr e (pickleTwin u) = humanRepr e u ∧
    rawUser e (pickleTwin u) = rawUser e u ∧ rawPassword e (pickleTwin u) = rawPassword e u ∧
    rawHost e (pickleTwin u) = rawHost e u ∧ explicitPort e (pickleTwin u) = explicitPort e u :=
  C09_all_accessors_of_net e u p hpre hlazy

/-- every OTHER producer pre-computes nothing (so for it "eager" and "lazy" are the same computation): `URL(s, encoded=True)`,
    build(), from_parts, and every modifier result `v` satisfy `pickleTwin v = v` (with_fragment, extend_query,
    without_query_params, join may hand back an argument unchanged). -/
theorem C09_headline_only_constructor_prefills (e : Env) (u : Url) :
    (∀ s v, preEncodedUrl e s = .ok v → v.pre = none) ∧ (∀ a v, build e a = .ok v → v.pre = none) ∧
    (∀ sc n p q f, (fromParts sc n p q f).pre = none) ∧
    (∀ x v, withUser e u x = .ok v → pickleTwin v = v) ∧ (∀ x v, withPassword e u x = .ok v → pickleTwin v = v) ∧
    (∀ x v, withHost e u x = .ok v → pickleTwin v = v) ∧ (∀ x k v, withPort e u x k = .ok v → pickleTwin v = v) ∧
    (∀ x v, withScheme e u x = .ok v → pickleTwin v = v) ∧
    (∀ p enc kq kf, pickleTwin (withPath e u p enc kq kf) = withPath e u p enc kq kf) ∧
    (∀ a v, withQuery e u a = .ok v → pickleTwin v = v) ∧ (∀ a v, updateQuery e u a = .ok v → pickleTwin v = v) ∧
    (∀ a v, extendQuery e u a = .ok v → pickleTwin v = v ∨ v = u) ∧
    (∀ f, pickleTwin (withFragment e u f) = withFragment e u f ∨ withFragment e u f = u) ∧
    (∀ n kq kf v, withName e u n kq kf = .ok v → pickleTwin v = v) ∧
    (∀ x kq kf v, withSuffix e u x kq kf = .ok v → pickleTwin v = v) ∧
    (∀ ps enc v, makeChild e u ps enc = .ok v → pickleTwin v = v) ∧
    (∀ v, relative u = .ok v → pickleTwin v = v) ∧
    (∀ r, pickleTwin (join e u r) = join e u r ∨ join e u r = r) := by
  obtain ⟨a1, a2, a3⟩ := C09_no_prefill e
  exact ⟨a1, a2, a3, C09_modifiers_no_prefill e u⟩

/-! ## Sentence 2 — "In particular a URL restored by pickle, copy or deepcopy compares equal to the original, has the same
    hash and string form, and returns identical values for every accessor." -/

/-- "compares equal to the original, has the same hash": unconditional (equality and hash read the five parts only);
    restoring twice changes nothing. -/
theorem C09_headline_restored_equal_same_hash (u : Url) :
    (pickleTwin u).beq u = true ∧ eqKey (pickleTwin u) = eqKey u ∧ (pickleTwin u).parts = u.parts ∧
    pickleTwin (pickleTwin u) = pickleTwin u := by
  obtain ⟨h1, h2, h3, h4⟩ := C09_twin_parts u
  exact ⟨h3, h2, h1, h4⟩

/-- "… the same … string form, and returns identical values for every accessor": the accessors that read only the five
    parts — unconditional. -/
theorem C09_headline_restored_pure_accessors (e : Env) (u v : Url) :
    rawPath (pickleTwin u) = rawPath u ∧ pathDecoded e (pickleTwin u) = pathDecoded e u ∧
    pathSafe e (pickleTwin u) = pathSafe e u ∧ queryPairs (pickleTwin u) = queryPairs u ∧
    queryString e (pickleTwin u) = queryString e u ∧ fragmentDecoded e (pickleTwin u) = fragmentDecoded e u ∧
    rawParts (pickleTwin u) = rawParts u ∧ rawName (pickleTwin u) = rawName u ∧
    rawSuffix (pickleTwin u) = rawSuffix u ∧ parent (pickleTwin u) = pickleTwin (parent u) ∧
    pathQs e (pickleTwin u) = pathQs e u ∧ rawPathQs (pickleTwin u) = rawPathQs u ∧
    partsDecoded e (pickleTwin u) = partsDecoded e u ∧ name e (pickleTwin u) = name e u ∧
    suffix e (pickleTwin u) = suffix e u ∧ rawSuffixes (pickleTwin u) = rawSuffixes u ∧
    suffixes e (pickleTwin u) = suffixes e u ∧ relative (pickleTwin u) = relative u ∧
    (pickleTwin u).truthy = u.truthy ∧
    (pickleTwin u).lt v = u.lt v ∧ v.lt (pickleTwin u) = v.lt u ∧ (pickleTwin u).le v = u.le v ∧
    v.le (pickleTwin u) = v.le u ∧ (pickleTwin u).beq v = u.beq v ∧ v.beq (pickleTwin u) = v.beq u := by
  obtain ⟨a1, a2, a3, a4, a5, a6, a7, a8, a9, a10⟩ := C09_twin_pure_accessors e u
  obtain ⟨b1, b2, b3, b4, b5, b6, b7, b8, b9, b10, b11, b12, b13, b14, b15⟩ := C09_twin_pure_accessors_more e u v
  exact ⟨a1, a2, a3, a4, a5, a6, a7, a8, a9, a10, b1, b2, b3, b4, b5, b6, b7, b8, b9, b10, b11, b12, b13, b14, b15⟩

/-- "… the same … string form, and … identical values for every accessor": the netloc-dependent ones, for constructor
    results inside the guard (for every other producer the restored URL IS the URL: previous section). -/
theorem C09_headline_restored_string_form_and_accessors (e : Env) (s : Str) (u : Url)
    (hu : encodeUrl e s = .ok u) (hg : GoodAuthority e s) :  -- same guard, same two findings
    str e (pickleTwin u) = str e u ∧ net e (pickleTwin u) = net e u ∧ host e (pickleTwin u) = host e u ∧
    port e (pickleTwin u) = port e u ∧ authority e (pickleTwin u) = authority e u ∧
    user e (pickleTwin u) = user e u ∧ password e (pickleTwin u) = password e u ∧
    humanRepr e (pickleTwin u) = humanRepr e u := by
  obtain ⟨h1, h2, h3, h4, h5, h6, h7, h8, _⟩ := C09_pickle_lossless e s u hu hg
  exact ⟨h2, h1, h3, h4, h5, h6, h7, h8⟩

/-- the restored URL is also indistinguishable as an ARGUMENT of the netloc-reading modifiers -/
theorem C09_headline_restored_as_modifier_argument (e : Env) (u : Url) (hnet : net e (pickleTwin u) = net e u) :
    (∀ x, withUser e (pickleTwin u) x = withUser e u x) ∧ (∀ x, withPassword e (pickleTwin u) x = withPassword e u x) ∧
    (∀ x, withHost e (pickleTwin u) x = withHost e u x) ∧ (∀ x k, withPort e (pickleTwin u) x k = withPort e u x k) ∧
    (origin e (pickleTwin u)).map pickleTwin = (origin e u).map pickleTwin :=
  C09_modifiers_of_net e u hnet

/-! ### IDN (non-ASCII) hosts — the IDNA clause of the guard under ONE stated assumption (GAPS 1)

  IDNA is an oracle of the model.  `IdnaAnswerSane a` (C16Idn.lean): `a` is non-empty and the library's own
  `NOT_REG_NAME` screen finds nothing in it (lower-case RFC 3986 reg-name text).  `IdnaSaneAt o h`: every answer of the
  oracle for the host `h` — the `idna` package's, or the stdlib-codec fallback's after the `.lower()` the library
  applies — is sane.  `IdnaSane o`: … for every non-ASCII host.  These are ASSUMPTIONS about a third-party package
  (trusted base), not proved. -/

/-- the IDNA clause of `GoodHost` ("the answer is non-empty and introduces none of ':' '@' '[' ']'") follows from the
    assumption for the host at hand; and under the universal assumption the whole guard on the host is purely
    syntactic: "no '[' inside the host text, or a valid IPv6 literal (before an optional %zone)" — ASCII or not. -/
theorem C09_headline_idn_guard (o : Oracles) (h0 : Str) :
    (91 ∉ h0 →                       -- no '[' inside the host text (F-C09-bracket)
      IdnaSaneAt o h0 →              -- ASSUMPTION about the idna package, for this host
      GoodHost o h0) ∧
    (IdnaSane o →                    -- ASSUMPTION about the idna package, for every non-ASCII host
      (GoodHost o h0 ↔ (91 ∉ h0 ∨ ∃ h8, parseIP (partition 37 h0).1 = some (.v6 h8)))) :=
  ⟨fun h91 hs => C09_idn_good_host o h0 h91 hs, fun hs => C09_idn_good_host_iff o hs h0⟩

/-- sentence 1 for an input whose authority has the (IDN) host `h0`, with userinfo / port or not: the four cached
    entries are what the lazy route derives.  (C09_idn_eager_eq_lazy, C09Idn.lean.) -/
theorem C09_headline_eager_eq_lazy_idn_host (e : Env) (s : Str) (u : Url) (p : NetPre) (pt : Parts)
    (np : NetlocParts) (h0 : Str)
    (hu : encodeUrl e s = .ok u) (hpre : u.pre = some p)
    (h1 : splitUrl e.o s = .ok pt) (h2 : splitNetloc e.o pt.netloc = .ok np) -- names the split of the input
    (hhost : np.host = some h0)
    (h91 : 91 ∉ h0)                              -- F-C09-bracket (C09_headline_fails_for_malformed_brackets)
    (hs : IdnaSaneAt e.o h0)                     -- ASSUMPTION about the idna package; needed:
                                                 -- C09_headline_idn_fails_for_insane_answer
    (huser : ∀ x, np.user = some x → PyStr x) :  -- the user is a Python string (automatic when `s` is one)
    lazyNet e (pickleTwin u) = .ok p :=
  C09_idn_eager_eq_lazy e s u p pt np h0 hu hpre h1 h2 hhost h91 hs huser

/-- sentence 2 for such an input: the restored URL has the same string form, netloc data, host, port, authority,
    user, password, human_repr, and is equal with the same hash key.  Second part: under the universal assumption
    `IdnaSane` EVERY Python-string input whose host text has no '[' inside (or is a valid IPv6 literal) is covered.
    (C09_idn_pickle_lossless, C09_idn_pickle_lossless_any_host.) -/
theorem C09_headline_restored_idn_host (e : Env) (s : Str) (u : Url) (pt : Parts) (np : NetlocParts) (h0 : Str)
    (hpy : PyStr s) (hu : encodeUrl e s = .ok u)
    (h1 : splitUrl e.o s = .ok pt) (h2 : splitNetloc e.o pt.netloc = .ok np) (hhost : np.host = some h0) :
    ((91 ∉ h0 ∧ IdnaSaneAt e.o h0) ∨             -- F-C09-bracket; ASSUMPTION for this host — or
      (IdnaSane e.o ∧ (91 ∉ h0 ∨ ∃ h8, parseIP (partition 37 h0).1 = some (.v6 h8)))) → -- the universal ASSUMPTION
    net e (pickleTwin u) = net e u ∧ str e (pickleTwin u) = str e u ∧ host e (pickleTwin u) = host e u ∧
    port e (pickleTwin u) = port e u ∧ authority e (pickleTwin u) = authority e u ∧
    user e (pickleTwin u) = user e u ∧ password e (pickleTwin u) = password e u ∧
    humanRepr e (pickleTwin u) = humanRepr e u ∧ (pickleTwin u).beq u = true ∧ eqKey (pickleTwin u) = eqKey u := by
  rintro (⟨h91, hs⟩ | ⟨hs, hsyn⟩)
  · exact C09_idn_pickle_lossless e s u pt np h0 hpy hu h1 h2 hhost h91 hs
  · exact C09_idn_pickle_lossless_any_host e hs s u pt np h0 hpy hu h1 h2 hhost hsyn

/-- END TO END, hypotheses on the input text only: `URL("scheme://h/path#fragment")` with a non-ASCII host `h`
    (`IdnHostInput`: non-ASCII, none of `/ ? # TAB LF CR [ ] : @`, passes the NFKC check, the isdigit oracle knows
    it, no IP literal before a '%').  Whatever the constructor returns is inside the guard and pickling it is
    lossless.  (C09_idn_pickle_lossless_ctor.) -/
theorem C09_headline_restored_idn_constructor (e : Env) (sc h rp rf : Str)
    (vs : ValidScheme sc)                        -- non-empty scheme characters, written lower-case
    (hi : IdnHostInput e.o h)                    -- the shape of the input host, see above
    (hs : IdnaSaneAt e.o h)                      -- ASSUMPTION about the idna package
    (h35 : 35 ∉ rp) (h63 : 63 ∉ rp)              -- `rp` = path text after the first '/': no '#', no '?'
    (hc1 : Clean rp) (hc2 : Clean rf)            -- no TAB / LF / CR (split_url would strip them)
    (u : Url) :
    encodeUrl e (sc ++ 58 :: 47 :: 47 :: (h ++ (47 :: rp ++ fragTail rf))) = .ok u →
    GoodAuthority e (sc ++ 58 :: 47 :: 47 :: (h ++ (47 :: rp ++ fragTail rf))) ∧
    net e (pickleTwin u) = net e u ∧ str e (pickleTwin u) = str e u ∧ host e (pickleTwin u) = host e u ∧
    port e (pickleTwin u) = port e u ∧ authority e (pickleTwin u) = authority e u ∧
    user e (pickleTwin u) = user e u ∧ password e (pickleTwin u) = password e u ∧
    humanRepr e (pickleTwin u) = humanRepr e u ∧ (pickleTwin u).beq u = true ∧ eqKey (pickleTwin u) = eqKey u :=
  C09_idn_pickle_lossless_ctor e sc h rp rf vs hi hs h35 h63 hc1 hc2 u

/-- the assumption is needed: with an `idna` package that answered "a:81", "u@x" or "" for the host of
    `C16_idn_input` ("http://é/p") eager and lazy values DIFFER — raw_host "a:81" vs "a" (and port 80 vs 81),
    raw_host "u@x" / no user vs "x" / user "u", raw_host "" vs None — and the input is outside the guard.
    (Hypothetical packages: not observed, not a finding.  C16_idn_needs_no_colon / _no_at / _nonempty, C16Idn.lean.) -/
theorem C09_headline_idn_fails_for_insane_answer :
    (let e : Env := { b := .c, o := C16_idn_hostile "a:81".toStr }
     ¬ IdnaSaneAt e.o [233] ∧
     (encodeUrl e C16_idn_input).bind (rawHost e) = .ok (some "a:81".toStr) ∧
     (encodeUrl e C16_idn_input).bind (fun u => rawHost e (pickleTwin u)) = .ok (some "a".toStr) ∧
     (encodeUrl e C16_idn_input).bind (port e) = .ok (some 80) ∧
     (encodeUrl e C16_idn_input).bind (fun u => port e (pickleTwin u)) = .ok (some 81) ∧
     ¬ GoodAuthority e C16_idn_input) ∧
    (let e : Env := { b := .c, o := C16_idn_hostile "u@x".toStr }
     ¬ IdnaSaneAt e.o [233] ∧
     (encodeUrl e C16_idn_input).bind (rawHost e) = .ok (some "u@x".toStr) ∧
     (encodeUrl e C16_idn_input).bind (fun u => rawHost e (pickleTwin u)) = .ok (some "x".toStr) ∧
     (encodeUrl e C16_idn_input).bind (rawUser e) = .ok none ∧
     (encodeUrl e C16_idn_input).bind (fun u => rawUser e (pickleTwin u)) = .ok (some "u".toStr) ∧
     ¬ GoodAuthority e C16_idn_input) ∧
    (let e : Env := { b := .c, o := C16_idn_hostile [] }
     ¬ IdnaSaneAt e.o [233] ∧
     (encodeUrl e C16_idn_input).bind (rawHost e) = .ok (some []) ∧
     (encodeUrl e C16_idn_input).bind (fun u => rawHost e (pickleTwin u)) = .ok none ∧
     ¬ GoodAuthority e C16_idn_input) := by
  obtain ⟨a1, _, a3, a4, a5, a6, _, _, a9⟩ := C16_idn_needs_no_colon
  obtain ⟨b1, b2, b3, b4, b5, b6⟩ := C16_idn_needs_no_at
  obtain ⟨c1, _, c3, c4, _, c6⟩ := C16_idn_needs_nonempty
  exact ⟨⟨a1, a3, a5, a4, a6, a9⟩, ⟨b1, b2, b4, b3, b5, b6⟩, ⟨c1, c3, c4, c6⟩⟩

/-! ### the two KNOWN FINDINGS: inputs outside the guard on which eager and lazy values differ -/

/-- F-C09-empty-authority: "//@:?#", "//@", "//:" — stored netloc "", eager raw_host "", the restored URL reads None -/
theorem C09_headline_fails_for_empty_authority :
    ∀ s ∈ ["//@:?#".toStr, "//@".toStr, "//:".toStr],
      eagerLazy envPy s = .ok ([],
        some { rawHost := some [], explicitPort := none, rawUser := none, rawPassword := none },
        .ok { rawHost := none, explicitPort := none, rawUser := none, rawPassword := none }) ∧
      ¬ GoodAuthority envPy s :=
  C09_normalises_to_empty_counterexample

/-- F-C09-bracket: "http://[[::1]/" — stored netloc "[::1", eager raw_host "::", the restored URL reads "::1" -/
theorem C09_headline_fails_for_malformed_brackets :
    eagerLazy envPy "http://[[::1]/".toStr = .ok ("[::1".toStr,
      some { rawHost := some "::".toStr, explicitPort := none, rawUser := none, rawPassword := none },
      .ok { rawHost := some "::1".toStr, explicitPort := none, rawUser := none, rawPassword := none }) ∧
    ¬ GoodAuthority envPy "http://[[::1]/".toStr :=
  C09_malformed_brackets_counterexample

/-- NEW (evaluation): the other two spellings KNOWN_FINDINGS lists under F-C09-bracket, "x[::1]" and "[::1]x", do NOT
    disagree in the model: the stray "x" is dropped, the stored netloc is "[::1]", eager and lazy raw_host are both "::1". -/
theorem C09_headline_bracket_variants_agree :
    ∀ s ∈ ["http://x[::1]/".toStr, "http://[::1]x/".toStr],
      eagerLazy envPy s = .ok ("[::1]".toStr,
        some { rawHost := some "::1".toStr, explicitPort := none, rawUser := none, rawPassword := none },
        .ok { rawHost := some "::1".toStr, explicitPort := none, rawUser := none, rawPassword := none }) := by
  str_lits; decide +kernel

/-! ### a user made of lone surrogates only (fix 2fdb38c) -/

/-- FIXED by commit 2fdb38c (was a C09 defect: eager raw_user "" vs None on the restored URL).  A user made of lone
    surrogates only requotes to ""; `encode_url` now caches `REQUOTER(username) or None`, i.e. None — what the
    restored URL reads from the stored netloc "host" — and the input is INSIDE the guard (which asks of a user in
    front of a non-empty host only that it is a Python string).  Evaluated on the compiled backend with the NFKC
    oracle = identity (`envC`); the pure-Python quoter drops the surrogate as well (C09_requote_lone_surrogate). -/
theorem C09_headline_surrogate_user_agrees :
    eagerLazy envC ("http://".toStr ++ [0xDC80] ++ "@host/".toStr) = .ok ("host".toStr,
      some { rawHost := some "host".toStr, explicitPort := none, rawUser := none, rawPassword := none },
      .ok { rawHost := some "host".toStr, explicitPort := none, rawUser := none, rawPassword := none }) ∧
    GoodAuthority envC ("http://".toStr ++ [0xDC80] ++ "@host/".toStr) ∧
    (∀ e : Env, q e Gen.REQUOTER [0xDC80] = []) :=
  ⟨C09_surrogate_user_now_agrees, C09_surrogate_user_in_guard.1, C09_requote_lone_surrogate⟩

/-- what is LEFT of that family — a further member of the class of F-C09-empty-authority ("authority normalises to
    empty"; KNOWN_FINDINGS names only the spellings made of '@' and ':'): in front of an EMPTY host the dropped user
    leaves the stored netloc empty, "foo://\udc80@/x": eager raw_host "", the restored URL reads None.  This is why
    the empty-host clause of the guard asks for a user THAT IS WRITTEN (does not requote to ""), a password or a port. -/
theorem C09_headline_fails_for_surrogate_user_empty_host :
    eagerLazy envC ("foo://".toStr ++ [0xDC80] ++ "@/x".toStr) = .ok ([],
      some { rawHost := some [], explicitPort := none, rawUser := none, rawPassword := none },
      .ok { rawHost := none, explicitPort := none, rawUser := none, rawPassword := none }) ∧
    ¬ GoodAuthority envC ("foo://".toStr ++ [0xDC80] ++ "@/x".toStr) :=
  C09_surrogate_user_empty_host_counterexample

/-
GAPS:
 1. PARTLY CLOSED by C09_idn_good_host, C09_idn_good_host_iff, C09_idn_eager_eq_lazy, C09_idn_pickle_lossless,
    C09_idn_pickle_lossless_any_host, C09_idn_pickle_lossless_ctor (C09Idn.lean), see C09_headline_idn_guard,
    C09_headline_eager_eq_lazy_idn_host, C09_headline_restored_idn_host, C09_headline_restored_idn_constructor.
    GUARD COVERAGE as before for ASCII hosts: `GoodHost` is established from the input for ASCII host text without '['
    (C09_good_host_ascii — covers reg-names, IPv4, IPvFuture, bracketed junk with ':'), valid IPv6 with any zone
    (C09_good_host_ipv6_any_zone), the empty host with a written user / password / port
    (C09_eager_eq_lazy_empty_host).  BRACKETED NON-IPv6 HOSTS (IPvFuture "[v1.a:b]", "[g::1]", "[a:b]",
    "[1.2.3.4%a:b]"; since fix c17f18a their brackets are kept in the stored netloc) — were covered only implicitly by the
    "ASCII, no '['" clause; now CLOSED explicitly by C09_bracket_good_authority, C09_bracket_pickle_lossless,
    C09_bracket_eager_eq_lazy (C09Bracket.lean — that file IMPORTS this one, so the headline theorems are in the
    companion file C09HeadlineMore.lean), see C09_headline_bracketed_host_in_guard, C09_headline_restored_bracketed_host,
    C09_headline_eager_eq_lazy_bracketed_host: every Python-string input whose host text is a bracketed non-IPv6 text IN
    ANY LETTER CASE (`BracketTextIn`) is inside `GoodAuthority`, all netloc-dependent accessors, the string form, `==` and
    the hash key of the restored URL agree, and for the canonical strings `scheme://[user[:pw]@][t][:port]…` (any port,
    the default one included) the cached `raw_host = t`, port, user, password are exactly what the restored URL derives.
    Only "ASCII" and "no '[' inside" of `BracketTextIn` are used — so even the inputs whose string form cannot be parsed
    again ("[V:b]", a further member of F-C03-bracket, C03Headline.lean GAPS 2) pickle losslessly; nothing remains open
    for this family in C09.  NEW for NON-ASCII (IDN) hosts: the clause "the IDNA answer is non-empty and
    introduces none of ':' '@' '[' ']'" is now DERIVED from the single assumption `IdnaSaneAt e.o h0` ("every answer
    of the `idna` package / of the lower-cased stdlib fallback for this host is non-empty lower-case reg-name text",
    stated once in C16Idn.lean), for any authority shape (userinfo, port), and end to end from the input text for
    `scheme://h/path#fragment`; under the universal form `IdnaSane` the guard on the host is purely syntactic.
    WHAT REMAINS OPEN: `IdnaSaneAt` / `IdnaSane` is itself an ASSUMPTION about `idna.encode` (trusted base): no
    theorem can discharge it.  (The former remark "the differential harness does not check it" is STALE: since commit
    d1e0e7e `harness/core.py` (`check_oracle_assumption`) tests every answer the real `idna` package / stdlib codec
    gives during a run against `IdnaSaneAt` and records counts and the answers OUTSIDE the assumption in the evidence,
    `coverage.oracle_assumptions_checked` — and such answers DO occur, e.g. the stdlib fallback answers "xa/cy.com" for
    "x\u2100y.com" and "2001:db8::" for a fullwidth-digit IPv6 text: those hosts are outside the per-host IDN theorems;
    a run-time check on the inputs of a run, not a proof.)  So for IDN inputs C09 is still conditional — on that one
    assumption.  It is needed: C09_headline_idn_fails_for_insane_answer (hypothetical answers "a:81", "u@x", "").
    (Model change, fix 3fbf5b4: an IDNA answer that contains ':' is now re-entered into `_encode_host` — `encodeHostA`
    — instead of being stored as is.  Nothing above changes: under `IdnaSaneAt` an answer contains no ':', so the
    re-entry is never taken; the hostile answer "a:81" is no IP literal, the re-entry returns it unchanged and
    C09_headline_idn_fails_for_insane_answer still holds as stated.)
    FURTHER (guard coverage) CLOSED by C09_good_authority_of_input, C09_good_authority_iff_input,
    C09_pickle_lossless_of_input, C09_guard_false_without_authority, C09_no_authority_twin (C09More.lean), see
    C09_headline_guard_from_input_text, C09_headline_guard_iff_input_text, C09_headline_input_guard_def,
    C09_headline_input_guard_covers_host_kinds, C09_headline_pickle_lossless_of_input,
    C09_headline_guard_false_without_authority (C09HeadlineMore4.lean).  Proved: ONE decidable predicate `AuthorityOK`
    on the authority TEXT of the input (RFC 3986 Appendix B on the cleaned input) covers every host kind at once —
    reg-names in any letter case, trailing dots, IPv4, IPv6 with any zone, IPvFuture and other bracketed texts, IDN
    hosts, the empty host with a written user / password / port, with or without userinfo and port; a Python-string
    input with `AuthorityOK` is inside `GoodAuthority`, and on input that `split_url` and `split_netloc` accept
    `GoodAuthority e s ↔ AuthorityOK (ctorAuthorityText s)` — no family is missing.  Hypotheses: `PyStr s`; for a
    NON-ASCII host text the assumption `IdnaSaneAt` (direction "AuthorityOK ⟹ guard" only).  NEGATIVE, new:
    `GoodAuthority` is FALSE for an input WITHOUT authority ("/a?b#c"), so the theorems of this file with that
    hypothesis say nothing about "/path", "mailto:x"; `InputOK` (no authority, or `AuthorityOK`) includes them and
    C09_headline_pickle_lossless_of_input states sentence 1 and 2 for it.  See item 8 for what is trusted.
 2. F-C09-bracket in KNOWN_FINDINGS names three spellings ("[[::1]", "x[::1]", "[::1]x").  In the model only "[[::1]"
    disagrees (C09_headline_fails_for_malformed_brackets); the other two agree (C09_headline_bracket_variants_agree, new)
    and lie inside the guard (host text "::1").  Replayed against /repo (pickle round trip, 2026-09): the library agrees with the
    model — raw_host "::1" on both sides for "x[::1]" / "[::1]x", "::" vs "::1" for "[[::1]".  So the text of the
    finding is broader than the C09 defect (the other two spellings are C03 matters: the stray "x" is dropped by str).
    SHARPENED by C09_eager_lazy_iff, C09_eager_ne_lazy_iff, C09_agreeB_false_iff, C09_authorityOK_agreeB,
    C09_guard_not_exact (C09More.lean), see C09_headline_eager_lazy_iff, C09_headline_eager_ne_lazy_iff,
    C09_headline_boundary_predicates_def, C09_headline_boundary_examples, C09_headline_guard_sufficient_not_necessary
    (C09HeadlineMore4.lean).  The defect is now a CLASS with an exact boundary instead of one witness: for a
    Python-string input that the constructor accepts (with cached entries) and whose HOST TEXT IS ASCII, eager = lazy
    IFF the decidable `AgreeB` holds of the authority text, and eager ≠ lazy IFF the authority is in class (A)
    `NormalisesToEmpty` (item 7) or class (B) `MalformedBrackets` = a '[' inside the host text, which is no IPv6
    literal, except the odd texts without port whose eager and lazy raw_host coincide (`OddHost`: "[" or everything
    after the first character is '[').  By computation "[[::1]", "[x:[]:80", "[A:[]" are in class (B) and "x[::1]" /
    "[::1]x" satisfy `AgreeB`.  KNOWN FINDING F-C09-bracket stays a finding (class (B) is non-empty).  NEGATIVE about
    the guard: `GoodAuthority` is sufficient but NOT necessary — "foo://[:[]/", "foo://[:[[]/", "foo://[a:b]@[[]/" are
    outside it and agree.  Not covered: non-ASCII host texts (no exact boundary; only the sufficient guard under
    `IdnaSaneAt`, item 1).
 3. "every accessor": the accessor lists of C09_all_accessors_of_net (15) and C09_twin_pure_accessors(_more) (25) are
    enumerations; completeness w.r.t. the public API is by inspection (C08Yarl's `Acc` has 34 names and
    C08_yarl_read_eq_model_all proves the same fact for every NAME of that table).  `query` is `queryPairs`; `raw_query`,
    `scheme`, `raw_fragment`, `raw_authority` are fields and agree by `C09_twin_parts`.
    PARTLY CLOSED by C09_accessor_list_complete, C09_every_accessor, C09_indist_every_accessor,
    C09_eager_entries_are_lazy (C09More.lean), see C09_headline_accessor_list, C09_headline_every_accessor,
    C09_headline_indistinguishable_every_accessor, C09_headline_same_value_def, C09_headline_eager_entries_are_lazy
    (C09HeadlineMore4.lean).  Proved: ONE theorem quantified over `Acc9`, a list with one name per accessor function of
    YarlModel/Url.lean (53 names, the comparisons against an arbitrary other URL on either side included): under
    `GoodAuthority e s`, for every name the value read from the restored URL is "the same" (`AccVal.Same`) as the value
    read from the constructor result; `parent` / `origin()` / `relative()` return indistinguishable URLs (`Indist`), and
    indistinguishable URLs agree on every name again.  Completeness of `Acc9` w.r.t. the FILE Url.lean is a BUILD-TIME
    assertion (`run_cmd` in C09More.lean), not a theorem (item 8).  STILL OPEN: completeness w.r.t. the PUBLIC API of
    the Python library is by inspection, as before (C08Yarl's `Acc` table).
 4. "same hash": the model has no hash function; "same `eqKey`" is the tuple that is hashed.  That the cached
    `_cache["hash"]` entry is not carried over by pickling (and need not be) is not modelled.
 5. pickle format: `__reduce__`/`__setstate__` are not modelled beyond "the five strings survive"; unpickling data NOT
    produced by pickling a URL (hand-made state) is outside C09.
 6. Eager values other than the four netloc entries do not exist in `encode_url`; if the library starts pre-computing
    more (e.g. `raw_path`), `NetPre` and this property must grow — the generated tables do not check this
    (no `Gen.` fact lists the keys `encode_url` writes into `_cache`).
 7. (new) F-C09-empty-authority has a member that KNOWN_FINDINGS does not spell out: a user made of lone surrogates only
    in front of an EMPTY host ("foo://\udc80@/x", C09_headline_fails_for_surrogate_user_empty_host) — the same class
    ("authority normalises to empty"), reached through the quoter dropping the user instead of through '@' / ':' only.
    (The non-empty-host case was the defect fixed by 2fdb38c and agrees now: C09_headline_surrogate_user_agrees.)
    Both are evaluated on the compiled backend only (`envC`); for the pure-Python backend there is the quoter fact
    C09_requote_lone_surrogate but no evaluated `eagerLazy` theorem.
    PARTLY CLOSED by C09_eager_ne_lazy_iff, C09_normalises_to_empty_ascii (C09More.lean), see
    C09_headline_eager_ne_lazy_iff, C09_headline_normalises_to_empty_ascii, C09_headline_boundary_examples,
    C09_headline_surrogate_user_empty_host_disagrees_any_backend (C09HeadlineMore4.lean).  Proved: class (A)
    `NormalisesToEmpty` — empty host, no '[', no written user (absent, "" or lone surrogates only), no password, no port
    text — is exactly the empty-host half of the disagreement (ASCII host text; the empty host text is ASCII); among the
    non-empty authority texts WITHOUT lone surrogates it is exactly "@", ":" and "@:"; the member named here (a
    lone-surrogate user in front of "@") is in the class by computation, and that users of lone surrogates only in front
    of "@" / "@:" are the ONLY further members is said in C09More.lean's doc comment but not proved; a lone-surrogate
    user in front of a non-empty host satisfies `AgreeB` (computed).  For "foo://\udc80@/x" the disagreement is now
    stated for EVERY backend and oracle table, CONDITIONALLY: whenever the constructor accepts the input and caches
    entries `p`, the restored URL does not derive `p`.  STILL OPEN: an evaluated `eagerLazy` theorem for the pure-Python
    backend (acceptance of that input there is not evaluated).
 8.  NEW.  Trusted definitions and side conditions introduced by the theorems that close / sharpen 1, 2, 3, 7
    (C09More.lean).  (a) `Acc9`, `Acc9.read`, `AccVal`, `AccVal.Same`, `Indist` are hand-written: "every accessor"
    means "every name of `Acc9`" and "the same value" means `AccVal.Same` (equality, except for URL-valued accessors:
    same error or `Indist` results — NOT equality of the `Url` records: the eager cache `pre` of the two may differ);
    both are spelled out by C09_headline_accessor_list / C09_headline_same_value_def and must be READ.  (b) That no
    accessor function of YarlModel/Url.lean is missing from `Acc9.read` is checked by a build-time `run_cmd`: every
    definition of module YarlModel.Url with an argument of type `Url` must be in one of two hand-written name lists
    (`R9.accessorFns`, `R9.modifierFns`) and every name of the first must occur in the body of `Acc9.read`.  This is an
    assertion on the environment, not a theorem; it looks at arguments of type exactly `Url` (not `Option Url` /
    `List Url`), at module YarlModel.Url only, and the split accessor / modifier is by hand.  (c) `ctorAuthorityText`,
    `hostText`, `userWritten`, `AuthorityOK`, `InputOK`, `AgreeB`, `OddHost`, `NormalisesToEmpty`, `MalformedBrackets`
    are new decidable predicates on TEXT whose reading must be trusted (spelled out by `rfl`:
    C09_headline_input_guard_def, C09_headline_boundary_predicates_def); `ctorAuthorityText` uses the independent
    Appendix-B splitter `Rfc.appendixB`, tied to `split_url` by proof only on accepted input.  (d) Hypotheses: `PyStr s`
    everywhere; the iff of item 1 needs the input accepted by `split_url` and `split_netloc`; the exact boundary (items
    2, 7) needs `encodeUrl e s = .ok u`, `u.pre = some p` and an ASCII host text — for NON-ASCII hosts there is no exact
    boundary, and `IdnaSaneAt` is sufficient, not necessary (e.g. a fullwidth-digit IPv6 text, fix 3fbf5b4, has an
    IDNA answer with ':' — outside `IdnaSaneAt` — for which no theorem from the input text is stated).  (e) From
    C09More.lean's own list, not closable in the model: items 4, 5, 6 (unchanged).
-/

end Yarl
