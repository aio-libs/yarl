import YarlProofs.C07More
import YarlProofs.C09
import YarlProofs.Lemmas.NetlocLemmas
import YarlProofs.Lemmas.BuildShape
/-!
# C07 — `URL.build(…, encoded=True)` stores every argument verbatim   (the `encoded=True` family, part 1)

The constructor half (`URL(s, encoded=True)`: `C07_preencoded_verbatim`, `C07_preencoded_accessors`) exists.  This
file is the same for `URL.build(…, encoded=True)` (`build_pre_encoded_url`):

 * `C07_build_encoded`: `build(encoded=True)` as ONE equation: the argument checks (which do not depend on
   `encoded`), then `get_str_query(query)` when a truthy `query=` is given, then the five parts
   `scheme, C07_encBuildNetloc, path, query_string, fragment`;
 * `C07_build_encoded_verbatim`: read off a successful result: scheme verbatim (NOT lower-cased — the lowering of
   `build` comes after the `encoded` branch), path / fragment verbatim, `query_string=` verbatim, `query=` QUOTED by
   `get_str_query` as always, no cache pre-filled;
 * `C07_encBuildNetloc_shape`: the authority: `authority=` verbatim; else for a non-empty `host=`:
   `userinfo ++ host ++ port` with the host text VERBATIM (NO brackets around a host with ':', no IDNA, no
   lower-casing), user / password verbatim (`make_netloc(…, encode=False)`: an empty user is dropped, `user:password@`
   as soon as a password — even "" — is given), the port dropped iff it equals `DEFAULT_PORTS.get(scheme)` for the
   scheme AS GIVEN ("HTTP" has no default port: ":80" stays); without `authority=` and `host=` the authority is
   empty and user / password are silently dropped (a port — 0 included — without a host raises);
 * `C07_build_encoded_accessors`: the raw authority accessors of the result are the `Rfc.authoritySplit`
   components of that text (as for the constructor);
 * which argument conflicts still raise: ALL of them (they are tested before `encoded` is looked at) — and nothing
   else is tested: no "path must start with '/'" check, no host validation, no port-text check.
-/
namespace Yarl
open NetlocLemmas

/-- the port `build_pre_encoded_url` writes: the argument, dropped when it is the default of the scheme AS GIVEN -/
def C07_encBuildPort (a : BuildArgs) : Option Nat :=
  (a.port.map Int.toNat).bind (fun p => if some p = defaultPort a.scheme then none else some p)

/-- the authority `build(encoded=True)` stores -/
def C07_encBuildNetloc (a : BuildArgs) : Str :=
  if a.authority ≠ [] then a.authority
  else if a.host ≠ [] then makeNetloc id a.user a.password (some a.host) (C07_encBuildPort a) false
  else []

namespace EncTrue

theorem isEmpty_eq_decide (s : Str) : s.isEmpty = decide (s = []) := by cases s <;> simp

theorem buildPreEncoded_eq (e : Env) (a : BuildArgs) (qs : Str) :
    buildPreEncoded e a (a.port.map Int.toNat) qs = fromParts a.scheme (C07_encBuildNetloc a) a.path qs a.fragment := by
  unfold buildPreEncoded C07_encBuildNetloc C07_encBuildPort
  congr 1
  by_cases hA : a.authority = []
  · by_cases hH : a.host = []
    · simp [hA, hH]
    · have hH' : a.host.isEmpty = false := by simp [isEmpty_eq_decide, hH]
      simp only [hA, List.isEmpty_nil, Bool.not_true, Bool.false_eq_true, if_false, hH', Bool.not_false, if_true,
        ne_eq, not_true_eq_false, hH, not_false_eq_true]
      rw [makeNetloc_qf (q e Gen.QUOTER) id]
      cases hport : a.port.map Int.toNat with
      | none => cases hu : a.user <;> cases hpw : a.password <;> simp [makeNetloc]
      | some p =>
        by_cases hd : defaultPort a.scheme = some p
        · cases hu : a.user <;> cases hpw : a.password <;> simp [makeNetloc, hd]
        · have hd' : ¬ some p = defaultPort a.scheme := fun h => hd h.symm
          cases hu : a.user <;> cases hpw : a.password <;> simp [makeNetloc, hd']
  · have hA' : a.authority.isEmpty = false := by simp [isEmpty_eq_decide, hA]
    simp [hA, hA']

end EncTrue
open EncTrue

/-- `URL.build(…, encoded=True)` in one equation -/
theorem C07_build_encoded (e : Env) (a : BuildArgs) (ha : a.encoded = true) :
    build e a =
      match C07_buildArgCheck a with
      | some err => .error err
      | none => (C07_buildQueryString e a).map
          (fun qs => fromParts a.scheme (C07_encBuildNetloc a) a.path qs a.fragment) := by
  rw [build_eq]
  cases C07_buildArgCheck a with
  | some err => rfl
  | none =>
    show buildBody e a = _
    unfold buildBody
    rw [ha]
    cases C07_buildQueryString e a with
    | error err => rfl
    | ok qs => exact congrArg Except.ok (buildPreEncoded_eq e a qs)

/-- what a successful `build(encoded=True)` stores: every argument verbatim, except that `query=` goes through
    `get_str_query` (quoted) -/
theorem C07_build_encoded_verbatim (e : Env) (a : BuildArgs) (u : Url) (ha : a.encoded = true)
    (h : build e a = .ok u) :
    C07_buildArgCheck a = none ∧
    u.scheme = a.scheme ∧                       -- NOT lower-cased
    u.netloc = C07_encBuildNetloc a ∧
    u.path = a.path ∧                           -- no quoting, no dot-segment removal, no "must start with '/'" check
    u.fragment = a.fragment ∧
    u.pre = none ∧
    C07_buildQueryString e a = .ok u.query ∧
    (qargTruthy a.query = false → u.query = a.queryString) ∧
    (qargTruthy a.query = true → a.queryString = [] ∧ ∃ r, getStrQuery e.b a.query = .ok r ∧ u.query = r.getD []) := by
  rw [C07_build_encoded e a ha] at h
  cases hc : C07_buildArgCheck a with
  | some err => rw [hc] at h; cases h
  | none =>
    rw [hc] at h
    simp only at h
    obtain ⟨qs, hqs, rfl⟩ := map_ok h
    refine ⟨rfl, rfl, rfl, rfl, rfl, rfl, hqs, ?_, ?_⟩
    · intro hq
      unfold C07_buildQueryString at hqs
      simp only [hq, Bool.false_eq_true, if_false, Except.ok.injEq] at hqs
      exact hqs.symm
    · intro hq
      constructor
      · have := argCheck_query a hc
        rw [hq] at this
        cases hqs' : a.queryString with
        | nil => rfl
        | cons c r => simp [hqs'] at this
      · unfold C07_buildQueryString at hqs
        simp only [hq, if_true] at hqs
        obtain ⟨r, hr, rfl⟩ := map_ok hqs
        exact ⟨r, hr, rfl⟩

/-- the authority text `build(encoded=True)` stores, spelled out: `userinfo ++ host ++ port`, the host VERBATIM
    (no brackets, whatever it contains) -/
theorem C07_encBuildNetloc_shape (a : BuildArgs) :
    (a.authority ≠ [] → C07_encBuildNetloc a = a.authority) ∧
    (a.authority = [] → a.host = [] → C07_encBuildNetloc a = []) ∧
    (a.authority = [] → a.host ≠ [] →
      C07_encBuildNetloc a =
        (match a.user, a.password with
          | none, none => []
          | _, some pw => a.user.getD [] ++ [58] ++ pw ++ [64]
          | some us, none => if us = [] then [] else us ++ [64]) ++
        a.host ++
        (match C07_encBuildPort a with
          | none => []
          | some p => [58] ++ natToStr p)) ∧
    (C07_encBuildPort a =
      match a.port with
      | none => none
      | some p => if some p.toNat = defaultPort a.scheme then none else some p.toNat) := by
  refine ⟨fun h => by simp [C07_encBuildNetloc, h], fun h1 h2 => by simp [C07_encBuildNetloc, h1, h2], ?_, ?_⟩
  · intro h1 h2
    simp only [C07_encBuildNetloc, h1, ne_eq, not_true_eq_false, if_false, h2, not_false_eq_true, if_true]
    rw [makeNetloc_eq]
    cases a.user with
    | none => cases a.password <;> cases C07_encBuildPort a <;> simp [hostPortStr]
    | some us =>
      cases a.password with
      | none => cases us <;> cases C07_encBuildPort a <;> simp [hostPortStr]
      | some pw => cases C07_encBuildPort a <;> simp [hostPortStr]
  · unfold C07_encBuildPort
    cases a.port <;> rfl

/-- the raw authority accessors of a `build(encoded=True)` result: the `Rfc.authoritySplit` components of the stored
    text, the port text through `int()` + range check (`C07_portOf`; all four raise when it fails), as for
    `URL(s, encoded=True)` (`C07_preencoded_accessors`) -/
theorem C07_build_encoded_accessors (e : Env) (a : BuildArgs) (u : Url) (ha : a.encoded = true)
    (h : build e a = .ok u) :
    let N := C07_encBuildNetloc a
    let A := Rfc.authoritySplit N
    rawPath u = (if a.path = [] ∧ N ≠ [] then [47] else a.path) ∧
    explicitPort e u = C07_portOf e.o A.port ∧
    rawUser e u = (C07_portOf e.o A.port).map (fun _ => A.user.bind orNone) ∧
    rawPassword e u = (C07_portOf e.o A.port).map (fun _ => A.password) ∧
    rawHost e u = (C07_portOf e.o A.port).map (fun _ => if N = [] then none else some A.host) := by
  obtain ⟨_, _, e2, e3, _, hpre, _⟩ := C07_build_encoded_verbatim e a u ha h
  intro N A
  have hacc := CtorShape.accessors_of_lazy e u hpre
  rw [e2] at hacc
  refine ⟨?_, hacc⟩
  unfold rawPath
  rw [e2, e3]
  cases a.path <;> cases hN : C07_encBuildNetloc a <;> simp [N, hN]

/-- which calls raise, and with what (same in both modes; `encoded=True` adds NO check of its own) -/
theorem C07_build_encoded_raises (e : Env) (a : BuildArgs) (ha : a.encoded = true) :
    (∀ err, C07_buildArgCheck a = some err → build e a = .error err) ∧
    (C07_buildArgCheck a = none → qargTruthy a.query = false → ∃ u, build e a = .ok u) ∧
    (C07_buildArgCheck a = none → qargTruthy a.query = true →
      build e a = (getStrQuery e.b a.query).map (fun r =>
        fromParts a.scheme (C07_encBuildNetloc a) a.path (r.getD []) a.fragment)) := by
  rw [C07_build_encoded e a ha]
  refine ⟨fun err h => by rw [h], fun h hq => ?_, fun h hq => ?_⟩
  · rw [h]; simp [C07_buildQueryString, hq, Except.map]
  · rw [h]; simp only [C07_buildQueryString, hq, if_true]
    cases getStrQuery e.b a.query <;> rfl

/-! ### witnesses (each compared with the real library, see the Python calls in the comments) -/

section witnesses
private def e0 : Env := { b := .py, o := Oracles.empty }
-- closed instances are evaluated once, by the kernel
attribute [local instance] ParseLemmas.decEqResult

/-- `URL.build(scheme='HTTP', host='h::1', port=80, user='a b', password='', path='x/../y', query={'k': 'v w'},
    fragment='f g', encoded=True)` stores `('HTTP', 'a b:@h::1:80', 'x/../y', 'k=v+w', 'f g')`: scheme upper-case, so
    80 is not its default port and stays; host with ':' NOT bracketed (and `explicit_port` then raises: the port text
    is ":1:80"); rootless path with dot segments under an authority; only `query=` is quoted. -/
theorem C07_build_encoded_instance :
    let a : BuildArgs := {
      scheme := "HTTP".toStr, host := "h::1".toStr, port := some 80, user := some "a b".toStr,
      password := some [], path := "x/../y".toStr,
      query := .mapping [("k".toStr, .one (.str "v w".toStr))], fragment := "f g".toStr, encoded := true }
    build e0 a = .ok (fromParts "HTTP".toStr "a b:@h::1:80".toStr "x/../y".toStr "k=v+w".toStr "f g".toStr) ∧
    (build e0 a).bind (explicitPort e0) = .error .valueError ∧
    -- the same call with encoded=False is REJECTED (host 'h::1' is invalid, and the path is rootless) …
    build e0 { a with encoded := false } = .error .valueError ∧
    build e0 { a with encoded := false, path := "/x/../y".toStr } = .error .valueError ∧
    -- … and with the valid IPv6 host '::1': encoded=True stores "a b:@::1:80" (NO brackets), encoded=False lower-cases
    -- the scheme, quotes the userinfo, brackets the host, drops the now-default port and removes the dot segments
    build e0 { a with host := "::1".toStr } =
      .ok (fromParts "HTTP".toStr "a b:@::1:80".toStr "x/../y".toStr "k=v+w".toStr "f g".toStr) ∧
    build e0 { a with host := "::1".toStr, encoded := false, path := "/x/../y".toStr } =
      .ok (fromParts "http".toStr "a%20b:@[::1]".toStr "/y".toStr "k=v+w".toStr "f%20g".toStr) := by
  str_lits; decide +kernel

/-- `build(scheme='http', host='h', port=80, path='x', query_string='a b', encoded=True)` → `('http','h','x','a b','')`
    (default port dropped, `query_string=` verbatim); `build(scheme='http', authority='U@H:080', path='x',
    query='a b=c', encoded=True)` → `('http','U@H:080','x','a+b=c','')` (a str `query=` is quoted);
    `build(scheme='http', host='h', port=81, user='', encoded=True)` → authority "h:81" (empty user dropped);
    `build(user='u', password='p', path='p', encoded=True)` → no authority at all; the same call with `port=0`
    raises ValueError ('Can't build URL with "port" but without "host".': `port is not None`). -/
theorem C07_build_encoded_instances :
    build e0 {
               scheme := "http".toStr, host := "h".toStr, port := some 80, path := "x".toStr,
               queryString := "a b".toStr, encoded := true } =
      .ok (fromParts "http".toStr "h".toStr "x".toStr "a b".toStr []) ∧
    build e0 {
               scheme := "http".toStr, authority := "U@H:080".toStr, path := "x".toStr,
               query := .str "a b=c".toStr, encoded := true } =
      .ok (fromParts "http".toStr "U@H:080".toStr "x".toStr "a+b=c".toStr []) ∧
    build e0 { scheme := "http".toStr, host := "h".toStr, port := some 81, user := some [], encoded := true } =
      .ok (fromParts "http".toStr "h:81".toStr [] [] []) ∧
    build e0 {
               user := some "u".toStr, password := some "p".toStr, path := "p".toStr,
               encoded := true } = .ok (fromParts [] [] "p".toStr [] []) ∧
    build e0 {
               user := some "u".toStr, password := some "p".toStr, port := some 0, path := "p".toStr,
               encoded := true } = .error .valueError := by
  decide +kernel

/-- the argument conflicts still raise with `encoded=True` (Python: `URL.build(encoded=True, authority='a', host='h')`,
    `…(authority='a', user='u')`, `…(port=80)`, `…(host='h', port=70000)`, `…(host='h', port=True)`,
    `…(query='a', query_string='b')`, and — `port is not None` — `authority='a', port=0`), while
    `authority='a', user='', password=''` passes -/
theorem C07_build_encoded_conflicts :
    build e0 { authority := "a".toStr, host := "h".toStr, encoded := true } = .error .valueError ∧
    build e0 { authority := "a".toStr, user := some "u".toStr, encoded := true } = .error .valueError ∧
    build e0 { port := some 80, encoded := true } = .error .valueError ∧
    build e0 { host := "h".toStr, port := some 70000, encoded := true } = .error .valueError ∧
    build e0 { host := "h".toStr, portKind := 1, encoded := true } = .error .typeError ∧
    build e0 { query := .str "a".toStr, queryString := "b".toStr, encoded := true } = .error .valueError ∧
    build e0 { authority := "a".toStr, port := some 0, encoded := true } = .error .valueError ∧
    build e0 { authority := "a".toStr, user := some [], password := some [], encoded := true } =
      .ok (fromParts [] "a".toStr [] [] []) := by
  decide +kernel

end witnesses

end Yarl
