/-
  C12ReachE.lean — property C12 (query algebra) over `ReachE`, the closure of ALL entry points, `encoded=True` included
  (ReachE.lean).  Closes C12Headline GAPS 9.

  What the existing proofs use of the URL being updated (C12Url.lean, C12More.lean):
    * `with_query`, `extend_query`              NOTHING — they hold for every `Url` (`C12_url_with_query_mapping'`,
                                                `C12_url_with_query_pairs'`, `C12_url_extend_query`, `…_pairs`, `…_no_pairs`);
                                                collected over `ReachE` in `C12_reachE_with_and_extend_query`;
    * `update_query`, `without_query_params`    ONLY `GoodPairs (queryPairs u)` (the OLD pairs are re-rendered by the query
                                                quoter, which drops lone surrogates), and that follows from
                                                `GoodText u.query` = Python string without lone surrogates.
  Over `ReachE` the stored query IS a Python string (`C01_reachE_components_python`), so exactly one thing is needed of
  `u.query`: NO LONE SURROGATE.
    * `C12_reachE_good_pairs`                   `ReachE e u` and `NoSurrogate u.query` give `GoodPairs (queryPairs u)`;
    * `C12_reachE_query_no_surrogate`           … and `NoSurrogate u.query` holds whenever no text handed over with
                                                `encoded=True` contained a lone surrogate (`ReachEX NoSurrogate Z Sc`);
    * `C12_reachE_without_query_params`, `C12_reachE_update_is_multidict_update`, `C12_reachE_update_keeps_others`,
      `C12_reachE_update_replaces`, `C12_reachE_update_lists`, `C12_reachE_query_accessor_spec`
                                                the `C12_reach_*` theorems of C12More.lean, restated over `ReachE`;
    * `C12_reachE_fails_for_surrogate`          the hypothesis is needed: `URL('?\ud800=1&b=2', encoded=True)` is in
                                                `ReachE`, and `update_query` / `without_query_params` on it do NOT obey
                                                the multidict algebra (the old key loses its surrogate).
-/
import YarlProofs.ReachE
import YarlProofs.C01ReachE
import YarlProofs.Lemmas.StrLit
namespace Yarl
open StrAscii OutLangLemmas QsLemmas WfLemmas EntryLemmas R6 QueryUrl QsSpec

/-! ## what is needed of the stored query -/

/-- over `ReachE` the stored query is a Python string; without lone surrogates its pairs are good -/
theorem C12_reachE_good_pairs (e : Env) (u : Url) (hr : ReachE e u) (hq : NoSurrogate u.query) :
    GoodText u.query ∧ GoodPairs (queryPairs u) :=
  have hg : GoodText u.query := ⟨(C01_reachE_components_python e u hr).2.1, hq⟩
  ⟨hg, C12_url_query_pairs_good u hg⟩

/-- INPUT-SIDE: if no text handed over with `encoded=True` contained a lone surrogate, the stored path, query and
    fragment contain none (the auto-encoding entry points store ASCII) -/
theorem C12_reachE_query_no_surrogate (e : Env) (Z Sc : Str → Prop) (u : Url) (h : ReachEX NoSurrogate Z Sc e u) :
    NoSurrogate u.path ∧ NoSurrogate u.query ∧ NoSurrogate u.fragment := by
  have := reachEX_tail cclass_good (A := NoSurrogate)
    (fun x hp hn => (goodText_iff x).mp ⟨hp, hn⟩) h
  exact ⟨((goodText_iff _).mpr this.path).2, ((goodText_iff _).mpr this.query).2, ((goodText_iff _).mpr this.fragment).2⟩

/-- … hence the hypothesis `hold` of every C12 theorem is discharged from the inputs -/
theorem C12_reachE_good_pairs_of_inputs (e : Env) (Z Sc : Str → Prop) (u : Url) (h : ReachEX NoSurrogate Z Sc e u) :
    GoodPairs (queryPairs u) :=
  (C12_reachE_good_pairs e u h.toReachE (C12_reachE_query_no_surrogate e Z Sc u h).2.1).2

/-! ## the operations that need nothing -/

-- `hr` is not needed, as the docstring says
set_option linter.unusedVariables false in
/-- `with_query` REPLACES and `extend_query` APPENDS the pairs the argument denotes — for every URL of `ReachE`, whatever
    its stored query (indeed for every `Url`: cites `C12_url_with_query_mapping'`, `C12_url_with_query_pairs'`,
    `C12_url_extend_query`, `C12_url_extend_query_pairs`, `C12_url_extend_query_no_pairs`, which have no hypothesis on `u`) -/
theorem C12_reachE_with_and_extend_query (e : Env) (u : Url) (hr : ReachE e u) (items : List (Str × QItem))
    (ps : List (Str × Str)) (hden : expandItems items = some ps) (hg : GoodPairs ps) :
    (∃ v, withQuery e u (.mapping items) = .ok v ∧ queryPairs v = ps) ∧
    (SingleValued items → ∃ v, withQuery e u (.pairs items) = .ok v ∧ queryPairs v = ps) ∧
    (ps ≠ [] → ∃ v, extendQuery e u (.mapping items) = .ok v ∧ queryPairs v = queryPairs u ++ ps) ∧
    (ps ≠ [] → SingleValued items → ∃ v, extendQuery e u (.pairs items) = .ok v ∧ queryPairs v = queryPairs u ++ ps) ∧
    (ps = [] → extendQuery e u (.mapping items) = .ok u) := by
  refine ⟨?_, ?_, ?_, ?_, ?_⟩
  · obtain ⟨v, h1, h2, _⟩ := C12_url_with_query_mapping' e u items ps hden hg
    exact ⟨v, h1, h2⟩
  · intro hs
    obtain ⟨v, h1, h2, _⟩ := C12_url_with_query_pairs' e u items ps hs hden hg
    exact ⟨v, h1, h2⟩
  · exact fun hne => C12_url_extend_query e u items ps hden hg hne
  · exact fun hne hs => C12_url_extend_query_pairs e u items ps hs hden hg hne
  · intro hnil; subst hnil; exact C12_url_extend_query_no_pairs e u items hden

/-! ## `update_query` / `without_query_params`: the `C12_reach_*` theorems over `ReachE` -/

/-- `C12_reach_without_query_params` over `ReachE` -/
theorem C12_reachE_without_query_params (e : Env) (u : Url) (hr : ReachE e u) (hq : NoSurrogate u.query)
    (names : List Str) :
    ∃ v, withoutQueryParams e u names = .ok v ∧
      queryPairs v = (queryPairs u).filter (fun p => !names.contains p.1) :=
  C12_url_without_query_params e u names (C12_reachE_good_pairs e u hr hq).2

/-- `C12_reach_update_is_multidict_update` over `ReachE` -/
theorem C12_reachE_update_is_multidict_update (e : Env) (u : Url) (hr : ReachE e u) (hq : NoSurrogate u.query)
    (items : List (Str × QItem)) (ps : List (Str × Str)) (s : Str) :
    (SingleValued items → expandItems items = some ps → GoodPairs ps → ps ≠ [] →
      (∃ v, updateQuery e u (.pairs items) = .ok v ∧ queryPairs v = mdUpdate (queryPairs u) ps) ∧
      (∃ v, updateQuery e u (.mapping items) = .ok v ∧ queryPairs v = mdUpdate (queryPairs u) ps)) ∧
    (GoodText s → s ≠ [] →
      ∃ v, updateQuery e u (.str s) = .ok v ∧ queryPairs v = mdUpdate (queryPairs u) (parseQsl s)) :=
  have hold := (C12_reachE_good_pairs e u hr hq).2
  ⟨fun hs hden hg hne => ⟨C12_url_update_query e u items ps hs hden hg hold hne,
      C12_url_update_query_mapping e u items ps hs hden hg hold hne⟩,
   fun hs hne => C12_url_update_query_str e u s hs hold hne⟩

/-- `C12_reach_update_keeps_others` over `ReachE` -/
theorem C12_reachE_update_keeps_others (e : Env) (u : Url) (hr : ReachE e u) (hq : NoSurrogate u.query)
    (items : List (Str × QItem)) (ps : List (Str × Str)) (hs : SingleValued items)
    (hden : expandItems items = some ps) (hg : GoodPairs ps) (hne : ps ≠ []) :
    ∃ v, updateQuery e u (.pairs items) = .ok v ∧
      (queryPairs v).filter (fun p => !(keysOf ps).contains p.1) =
        (queryPairs u).filter (fun p => !(keysOf ps).contains p.1) :=
  C12_url_update_keeps_others e u items ps hs hden hg (C12_reachE_good_pairs e u hr hq).2 hne

/-- `C12_reach_update_replaces` over `ReachE` -/
theorem C12_reachE_update_replaces (e : Env) (u : Url) (hr : ReachE e u) (hq : NoSurrogate u.query)
    (items : List (Str × QItem)) (ps : List (Str × Str)) (k : Str) (hs : SingleValued items)
    (hden : expandItems items = some ps) (hg : GoodPairs ps) (hk : k ∈ keysOf ps) :
    ((∀ k' ∈ keysOf ps, k' ≠ k →
        ((queryPairs u).filter (fun p => p.1 = k')).length ≤ (ps.filter (fun p => p.1 = k')).length) →
      ∃ v, updateQuery e u (.pairs items) = .ok v ∧
        ((queryPairs v).filter (fun p => p.1 = k)).map (·.2) = (ps.filter (fun p => p.1 = k)).map (·.2)) ∧
    (∃ v, updateQuery e u (.pairs items) = .ok v ∧
      ∃ S, ((queryPairs v).filter (fun p => p.1 = k)).map (·.2) = (ps.filter (fun p => p.1 = k)).map (·.2) ++ S ∧
        S.Sublist ((((queryPairs u).filter (fun p => p.1 = k)).map (·.2)).drop (ps.filter (fun p => p.1 = k)).length)) :=
  have hold := (C12_reachE_good_pairs e u hr hq).2
  ⟨fun ht => C12_url_update_sets_keys e u items ps k hs hden hg hold hk ht,
   C12_url_update_sets_keys_split e u items ps k hs hden hg hold hk⟩

/-- `C12_reach_update_lists` over `ReachE` -/
theorem C12_reachE_update_lists (e : Env) (u : Url) (hr : ReachE e u) (hq : NoSurrogate u.query)
    (items : List (Str × QItem)) (ps : List (Str × Str)) (hden : expandItems items = some ps) (hg : GoodPairs ps)
    (hne : items ≠ []) :
    (∃ v, updateQuery e u (.mapping items) = .ok v ∧
      (queryPairs v).filter (fun p => !(keysOf items).contains p.1) =
        (queryPairs u).filter (fun p => !(keysOf items).contains p.1)) ∧
    (∀ k ∈ keysOf items,
      (∀ k' ∈ keysOf items, k' ≠ k →
        ((queryPairs u).filter (fun p => p.1 = k')).length ≤ (items.filter (fun p => p.1 = k')).length) →
      ∃ v, updateQuery e u (.mapping items) = .ok v ∧
        (queryPairs v).filter (fun p => p.1 = k) = ps.filter (fun p => p.1 = k)) ∧
    (∀ k ∈ keysOf items, ∃ v, updateQuery e u (.mapping items) = .ok v ∧
      ps.filter (fun p => p.1 = k) <+: (queryPairs v).filter (fun p => p.1 = k)) :=
  have hold := (C12_reachE_good_pairs e u hr hq).2
  ⟨C12_url_update_lists_keeps_others e u items ps hden hg hold hne,
   fun k hk ht => C12_url_update_lists_sets_keys e u items ps k hden hg hold hk ht,
   fun k hk => C12_url_update_lists_sets_keys_prefix e u items ps k hden hg hold hk⟩

/-- `C06_query_accessor_spec_reach` over `ReachE`: the `query` accessor meets its specification -/
theorem C12_reachE_query_accessor_spec (e : Env) (u : Url) (hr : ReachE e u) (hq : NoSurrogate u.query) :
    queryPairs u = queryPairsSpec u.query :=
  C06_query_accessor_spec u.query (C12_reachE_good_pairs e u hr hq).1

/-! ## the hypothesis is needed -/

/-- `URL('?\ud800=1&b=2', encoded=True)` (= `surrUrl`, C12Url.lean) IS in `ReachE`; its stored query has a lone surrogate;
    `update_query([("c","3")])` reads back `[("", "1"), ("b","2"), ("c","3")]` instead of
    `mdUpdate (queryPairs u) [("c","3")] = [("\ud800","1"), ("b","2"), ("c","3")]`, and `without_query_params("b")` reads
    back `[("", "1")]` instead of `[("\ud800","1")]`.  (Cites `C12_url_update_query_needs_good_old`,
    `C12_url_without_query_params_needs_good_old`.)  `with_query` / `extend_query` are unaffected. -/
theorem C12_reachE_fails_for_surrogate (e : Env) :
    preEncodedUrl e [63, 0xD800, 61, 49, 38, 98, 61, 50] = .ok surrUrl ∧ ReachE e surrUrl ∧
    ¬ NoSurrogate surrUrl.query ∧ ¬ GoodPairs (queryPairs surrUrl) ∧
    (∃ v, updateQuery e surrUrl (.pairs [([99], .one (.str [51]))]) = .ok v ∧
      queryPairs v = [([], [49]), ([98], [50]), ([99], [51])] ∧
      mdUpdate (queryPairs surrUrl) [([99], [51])] = [([0xD800], [49]), ([98], [50]), ([99], [51])]) ∧
    (∃ v, withoutQueryParams e surrUrl [[98]] = .ok v ∧ queryPairs v = [([], [49])] ∧
      (queryPairs surrUrl).filter (fun p => ![[98]].contains p.1) = [([0xD800], [49])]) := by
  have h0 : preEncodedUrl e [63, 0xD800, 61, 49, 38, 98, 61, 50] = .ok surrUrl := by
    have : ∀ o : Oracles, splitUrl o [63, 0xD800, 61, 49, 38, 98, 61, 50] =
        .ok { scheme := [], netloc := [], path := [], query := [0xD800, 61, 49, 38, 98, 61, 50], fragment := [] } := by
      intro o; rfl
    unfold preEncodedUrl
    rw [this]; rfl
  obtain ⟨h1, h2⟩ := C12_url_update_query_needs_good_old e
  exact ⟨h0, ReachE.ctorEnc _ _ (by decide +kernel) h0, by decide +kernel, h1, h2,
    C12_url_without_query_params_needs_good_old e⟩

/-! ## non-vacuity -/

section witnesses
private def e0 : Env := ⟨.py, Oracles.empty⟩

/-- a `ReachE` URL that really comes from `encoded=True`, with a NON-canonical stored query (raw space, lower-case
    escape, non-ASCII text) but no lone surrogate: the hypotheses of the theorems above hold, and
    `update_query({"b": "2"})` is the multidict update of the pairs read from the stored text -/
theorem C12_reachE_instance :
    let u := fromParts [] [] "/p".toStr ("a=x y&k=%c3%a9&z=".toStr ++ [233]) []
    preEncodedUrl e0 ("/p?a=x y&k=%c3%a9&z=".toStr ++ [233]) = .ok u ∧
    ReachEX NoSurrogate (fun _ => True) (fun _ => True) e0 u ∧ ReachE e0 u ∧ NoSurrogate u.query ∧
    queryPairs u = [("a".toStr, "x y".toStr), ("k".toStr, [233]), ("z".toStr, [233])] ∧
    ∃ v, updateQuery e0 u (.pairs [("a".toStr, .one (.str "2".toStr))]) = .ok v ∧
      queryPairs v = [("a".toStr, "2".toStr), ("k".toStr, [233]), ("z".toStr, [233])] := by
  intro u
  have h0 : preEncodedUrl e0 ("/p?a=x y&k=%c3%a9&z=".toStr ++ [233]) = .ok u := by
    simp only [u]; str_lits; decide +kernel
  have hx : ReachEX NoSurrogate (fun _ => True) (fun _ => True) e0 u :=
    ReachEX.ctorEnc _ _ (by str_lits; decide +kernel) (by decide) h0
  have hq : NoSurrogate u.query := by simp only [u]; str_lits; decide +kernel
  have hp : queryPairs u = [("a".toStr, "x y".toStr), ("k".toStr, [233]), ("z".toStr, [233])] := by
    simp only [u]; str_lits; decide +kernel
  refine ⟨h0, hx, hx.toReachE, hq, hp, ?_⟩
  obtain ⟨v, hv, hv2⟩ := ((C12_reachE_update_is_multidict_update e0 u hx.toReachE hq
    [("a".toStr, .one (.str "2".toStr))] [("a".toStr, "2".toStr)] []).1 (by decide +kernel) (by decide +kernel)
    (by decide +kernel) (by decide +kernel)).1
  refine ⟨v, hv, ?_⟩
  rw [hv2, hp]
  str_lits; decide +kernel

end witnesses

end Yarl
