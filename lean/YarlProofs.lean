import YarlProofs.Defs
import YarlProofs.Lemmas.Basics
import YarlProofs.Lemmas.StrLit
import YarlProofs.Lemmas.JoinShape
import YarlProofs.Lemmas.Hex
import YarlProofs.Lemmas.QuoteEquiv
import YarlProofs.Lemmas.OutLang
import YarlProofs.Lemmas.Canon
import YarlProofs.Lemmas.Utf8Round
import YarlProofs.Lemmas.Readback
import YarlProofs.Lemmas.UnquoteEquiv
import YarlProofs.Lemmas.GenTabs
import YarlProofs.Lemmas.WriterLemmas
import YarlProofs.Lemmas.PathLemmas
import YarlProofs.C15
import YarlProofs.Lemmas.CmpLemmas
import YarlProofs.C10
import YarlProofs.Lemmas.JoinLemmas
import YarlProofs.C14
import YarlProofs.Lemmas.ParseLemmas
import YarlProofs.C07
import YarlProofs.Lemmas.NetlocLemmas
import YarlProofs.C17
import YarlProofs.C11
import YarlProofs.Lemmas.QsLemmas
import YarlProofs.C12Readback
import YarlProofs.Lemmas.BuildFix
import YarlProofs.Lemmas.ErrLemmas
import YarlProofs.C19
import YarlProofs.Lemmas.MdLemmas
import YarlProofs.C12
import YarlProofs.Lemmas.HostLemmas
import YarlProofs.C16
import YarlProofs.Lemmas.PathAlg
import YarlProofs.C13
import YarlProofs.Lemmas.CacheLemmas
import YarlProofs.C08
import YarlProofs.C20
import YarlProofs.Lemmas.DecLemmas
import YarlProofs.C05
import YarlProofs.C06
import YarlProofs.Lemmas.WfLemmas
import YarlProofs.C01
import YarlProofs.C02
import YarlProofs.Lemmas.FixLemmas
import YarlProofs.C04
import YarlProofs.C03
import YarlProofs.Lemmas.HumanLemmas
import YarlProofs.C18
import YarlProofs.C19Writer
import YarlProofs.C08Audit
import YarlProofs.Lemmas.QueryUrl
import YarlProofs.C12Url
import YarlProofs.Lemmas.EntryLemmas
import YarlProofs.C15Entry
import YarlProofs.C01Reach
import YarlProofs.Lemmas.StrTotal
import YarlProofs.Lemmas.EagerLemmas
import YarlProofs.C09
import YarlProofs.C19Str
import YarlProofs.C06Spec
import YarlProofs.Lemmas.TokLemmas
import YarlProofs.C02Tokens
import YarlProofs.Lemmas.UnsplitLemmas
import YarlProofs.C07Recompose
import YarlProofs.C08Yarl
import YarlProofs.C20Yarl
import YarlProofs.C16Host
import YarlProofs.C17Build
import YarlProofs.C19Ctor
import YarlProofs.Lemmas.ReachFix
import YarlProofs.C03Reach
import YarlProofs.Lemmas.HumanFull
import YarlProofs.C18Full
import YarlProofs.Lemmas.SubLemmas
import YarlProofs.C04General
import YarlProofs.Lemmas.HeadlineAux
import YarlProofs.C01Headline
import YarlProofs.C02Headline
import YarlProofs.C03Headline
import YarlProofs.C04Headline
import YarlProofs.C05Headline
import YarlProofs.C06Headline
import YarlProofs.C07Headline
import YarlProofs.C08Headline
import YarlProofs.C09Headline
import YarlProofs.C10Headline
import YarlProofs.C11Headline
import YarlProofs.C12Headline
import YarlProofs.C13Headline
import YarlProofs.C14Headline
import YarlProofs.C15Headline
import YarlProofs.C16Headline
import YarlProofs.C17Headline
import YarlProofs.C18Headline
import YarlProofs.C19Headline
import YarlProofs.C20Headline
import YarlProofs.C19Quoter
import YarlProofs.C11Ctor
import YarlProofs.C17Ctor
import YarlProofs.Lemmas.DotMore
import YarlProofs.C15More
import YarlProofs.C07More
import YarlProofs.Lemmas.NetShape
import YarlProofs.C03Netloc
import YarlProofs.C16Idn
import YarlProofs.C03Idn
import YarlProofs.C04Idn
import YarlProofs.C09Idn
import YarlProofs.Lemmas.StrAscii
import YarlProofs.C01Str
import YarlProofs.Lemmas.QsMore
import YarlProofs.C12More
import YarlProofs.C13More
import YarlProofs.C06More
import YarlProofs.Lemmas.V6More
import YarlProofs.C16More
import YarlProofs.Lemmas.HumanMore
import YarlProofs.C18More
import YarlProofs.C18MoreChecks
import YarlProofs.C08Multi
import YarlProofs.C20Multi
import YarlProofs.C07HeadlineMore
import YarlProofs.C11HeadlineMore
import YarlProofs.C13HeadlineMore
import YarlProofs.C16HeadlineMore
import YarlProofs.C17HeadlineMore
import YarlProofs.C01HeadlineMore
import YarlProofs.C02HeadlineMore
import YarlProofs.C06HeadlineMore
import YarlProofs.Lemmas.BrHost
import YarlProofs.C03Bracket
import YarlProofs.C04Bracket
import YarlProofs.C09Bracket
import YarlProofs.Lemmas.MeanMore
import YarlProofs.C02More
import YarlProofs.Lemmas.HumanReach
import YarlProofs.C18Reach
import YarlProofs.Lemmas.DecMore
import YarlProofs.C06Decode
import YarlProofs.C02HeadlineMore2
import YarlProofs.C04HeadlineMore
import YarlProofs.C09HeadlineMore
import YarlProofs.C07Encoded
import YarlProofs.C11Encoded
import YarlProofs.C15Encoded
import YarlProofs.C06Encoded
import YarlProofs.C10Dyn
import YarlProofs.C19Dyn
import YarlProofs.C12Dyn
import YarlProofs.C03Mech
import YarlProofs.C03MechChecks
import YarlProofs.Lemmas.Readback2
import YarlProofs.C06More2
import YarlProofs.C08Bridge
import YarlProofs.C10Order
import YarlProofs.ReachE
import YarlProofs.C01ReachE
import YarlProofs.C10ReachE
import YarlProofs.C11ReachE
import YarlProofs.C12ReachE
import YarlProofs.C19ReachE
import YarlProofs.C16More2
import YarlProofs.C18More2
import YarlProofs.C14More
import YarlProofs.C15More2
import YarlProofs.C13More2
import YarlProofs.C01HeadlineMore3
import YarlProofs.C02HeadlineMore3
import YarlProofs.C03HeadlineMore3
import YarlProofs.C05HeadlineMore3
import YarlProofs.C06HeadlineMore3
import YarlProofs.C07HeadlineMore3
import YarlProofs.C08HeadlineMore3
import YarlProofs.C10HeadlineMore3
import YarlProofs.C11HeadlineMore3
import YarlProofs.C12HeadlineMore3
import YarlProofs.C13HeadlineMore3
import YarlProofs.C14HeadlineMore3
import YarlProofs.C15HeadlineMore3
import YarlProofs.C16HeadlineMore3
import YarlProofs.C17HeadlineMore3
import YarlProofs.C18HeadlineMore3
import YarlProofs.C19HeadlineMore3
import YarlProofs.C20HeadlineMore3
import YarlProofs.C12Spec
import YarlProofs.Lemmas.Regex
import YarlProofs.C07Regex
import YarlProofs.C16Mapped
import YarlProofs.Lemmas.CanonDecide
import YarlProofs.Lemmas.CanonComplete
import YarlProofs.Lemmas.CanonConverse
import YarlProofs.C04Decide
import YarlProofs.C04DecideConverse
import YarlProofs.C04DecideDomain
import YarlProofs.C04DecideEmpty
import YarlProofs.C09More
import YarlProofs.C17More
import YarlProofs.C11More
import YarlProofs.C01More
import YarlProofs.C02More3
import YarlProofs.C18More3
import YarlProofs.C18More3b
import YarlProofs.C18More3Join
import YarlProofs.C18More3JoinB
import YarlProofs.C18More3Spell
import YarlProofs.C06More3
import YarlProofs.C13More3
import YarlProofs.C13More3b
import YarlProofs.C19DynBuild
import YarlProofs.C01HeadlineMore4
import YarlProofs.C02HeadlineMore4
import YarlProofs.C04HeadlineMore4
import YarlProofs.C06HeadlineMore4
import YarlProofs.C07HeadlineMore4
import YarlProofs.C09HeadlineMore4
import YarlProofs.C11HeadlineMore4
import YarlProofs.C12HeadlineMore4
import YarlProofs.C13HeadlineMore4
import YarlProofs.C16HeadlineMore4
import YarlProofs.C17HeadlineMore4
import YarlProofs.C18HeadlineMore4
import YarlProofs.C19HeadlineMore4
import YarlProofs.C03Encoded
import YarlProofs.C15ReachE
import YarlProofs.C02QueryStr
import YarlProofs.C02HeadlineMore5
import YarlProofs.C03HeadlineMore5
import YarlProofs.C07HeadlineMore5
import YarlProofs.C12HeadlineMore5
import YarlProofs.C15HeadlineMore5
import YarlProofs.C02Surr
import YarlProofs.C13SlashParent
import YarlProofs.C14Rootless
import YarlProofs.C13UpToEq
import YarlProofs.C09Surr
import YarlProofs.C02HeadlineMore6
import YarlProofs.C13HeadlineMore6
import YarlProofs.C14HeadlineMore6
import YarlProofs.C09HeadlineMore6
import YarlProofs.C02BuildQuery
